/-
  Hand-written instances mirroring what the generator emits; regression tests for Model/Explore/Sound.
  Every `theorem` below is about ALL reachable states of ALL executions (any length); the finite exploration
  happens inside the kernel (`by decide +kernel`).
-/
import RaftGen.Chan.Sound

namespace Raft.Chan.Examples
open Raft.Chan

/-! ## 1. `leaderUpdateCh` (channel 0, `buffered 1`): the notify-with-replace idiom and its lost-wake-up mutant -/

/-- Go: `for { select { case ch <- u: case <-ch: ch <- u } }` -/
def senderOK : Proc :=
  Proc.mk "senderOK" [Node.comm [⟨true, 0, 0⟩, ⟨false, 0, 1⟩] none, Node.comm [⟨true, 0, 0⟩] none] 0

/-- Go: `for { select { case ch <- u: default: <-ch; ch <- u } }` -/
def senderMut : Proc :=
  Proc.mk "senderMut" [Node.comm [⟨true, 0, 0⟩] (some 1), Node.comm [⟨false, 0, 2⟩] none, Node.comm [⟨true, 0, 0⟩] none] 0

/-- the most general receiver: at any time takes an item, idles, or stops for good -/
def receiver : Proc :=
  Proc.mk "receiver" [Node.choice [0, 1, 2], Node.comm [⟨false, 0, 0⟩] none, Node.halt] 0

def sysOK : Sys := Sys.mk [senderOK, receiver] [Kind.buffered 1]
def sysMut : Sys := Sys.mk [senderMut, receiver] [Kind.buffered 1]

/-- the sender of `sysOK` never blocks: in every reachable state it can move without help from the receiver -/
theorem senderOK_never_blocks : ∀ s, Reachable sysOK s → enabledStrict sysOK s 0 = true :=
  checkAll_sound (fuel := 100) (by decide +kernel)

theorem senderOK_never_returns : ∀ s, Reachable sysOK s → (!halted sysOK s 0) = true :=
  checkAll_sound (fuel := 100) (by decide +kernel)

/-- … hence it always has a real step of its own (it never returns) -/
theorem senderOK_progress : ∀ s, Reachable sysOK s → ∃ t, (0, t) ∈ sysOK.next s := by
  intro s hs
  rcases enabledStrict_progress (senderOK_never_blocks s hs) with h | h
  · have := senderOK_never_returns s hs
    rw [h] at this
    exact nomatch this
  · exact h

/-- no panic either (nothing is ever closed) -/
theorem sysOK_noPanic : ∀ s, Reachable sysOK s → noPanic s = true :=
  checkAll_sound (fuel := 100) (by decide +kernel)

/-- the explored state space of `sysOK`: exactly 9 states -/
example : (explore sysOK 100).map List.length = some 9 := by decide +kernel

/-- same theorem through the certificate checker (the certificate is the explored list itself) -/
example : ∀ s, Reachable sysOK s → enabledStrict sysOK s 0 = true :=
  checkInv_sound (vs := (explore sysOK 100).getD []) (by decide +kernel)

/-- the mutant loses a wake-up: the search finds the shortest schedule to a state where the sender is stuck -/
example : findBad sysMut 100 (enabledStrict sysMut · 0) =
    some [(0, ⟨[0, 0], [1], [false], false⟩),   -- sender: ch <- u
          (0, ⟨[1, 0], [1], [false], false⟩),   -- sender: buffer full, takes `default`
          (1, ⟨[1, 1], [1], [false], false⟩),   -- receiver decides to receive
          (1, ⟨[1, 0], [0], [false], false⟩)]   -- receiver drains the item: sender now blocks in `<-ch` for ever
    := by decide +kernel

/-- the mutant's property is FALSE, as a theorem about reachable states -/
theorem senderMut_can_block : ∃ s, Reachable sysMut s ∧ enabledStrict sysMut s 0 = false :=
  findBad_reachable (fuel := 100) (P := (enabledStrict sysMut · 0))
    (tr := [(0, ⟨[0, 0], [1], [false], false⟩), (0, ⟨[1, 0], [1], [false], false⟩),
            (1, ⟨[1, 1], [1], [false], false⟩), (1, ⟨[1, 0], [0], [false], false⟩)]) (by decide +kernel)

example : checkAll sysMut 100 (enabledStrict sysMut · 0) = false := by decide +kernel

#eval IO.println (showResult sysMut (findBad sysMut 100 (enabledStrict sysMut · 0)))
#guard (findBad sysMut 100 (enabledStrict sysMut · 0)).isSome
#guard (findBad sysOK 100 (enabledStrict sysOK · 0)).isNone

/-- Go: `ch <- v; return` -/
def syncSender : Proc := Proc.mk "syncSender" [Node.comm [⟨true, 0, 1⟩] none, Node.halt] 0
/-- Go: `<-ch; return` -/
def syncReceiver : Proc := Proc.mk "syncReceiver" [Node.comm [⟨false, 0, 1⟩] none, Node.halt] 0
/-- Go: `select { case ch <- v: (delivered, pc 3)  default: }` in a loop, may give up (pc 2): a poller never parks -/
def syncPoller : Proc :=
  Proc.mk "syncPoller" [Node.comm [⟨true, 0, 3⟩] (some 1), Node.choice [0, 2], Node.halt, Node.halt] 0
/-- Go: `select { case <-ch: (pc 3)  default: }` in a loop, may give up (pc 2) -/
def syncPollRecv : Proc :=
  Proc.mk "syncPollRecv" [Node.comm [⟨false, 0, 3⟩] (some 1), Node.choice [0, 2], Node.halt, Node.halt] 0

def sysSync : Sys := Sys.mk [syncSender, syncReceiver] [Kind.sync]

/-- the two sides move together: exactly two reachable states -/
example : explore sysSync 10 = some [⟨[1, 1], [0], [false], false⟩, ⟨[0, 0], [0], [false], false⟩] := by decide +kernel

/-- both are at their communication, or both have returned -/
theorem sync_lockstep : ∀ s, Reachable sysSync s → (halted sysSync s 0 = halted sysSync s 1) := by
  intro s hs
  have := checkAll_sound (y := sysSync) (fuel := 10) (P := fun s => halted sysSync s 0 == halted sysSync s 1) (by decide +kernel) s hs
  simpa using this

/-- a rendezvous is NOT a strict move: the sender relies on the receiver -/
example : enabledStrict sysSync sysSync.init 0 = false := by decide +kernel
/-- … but the step exists in the system, labelled with the sender -/
example : sysSync.next sysSync.init = [(0, ⟨[1, 1], [0], [false], false⟩)] := by decide +kernel

/-- a sender without receiver blocks for ever (deadlock found) -/
def sysSyncAlone : Sys := Sys.mk [syncSender] [Kind.sync]
example : explore sysSyncAlone 10 = some [sysSyncAlone.init] := by decide +kernel
example : findBad sysSyncAlone 10 (enabledStrict sysSyncAlone · 0) = some [] := by decide +kernel

/-- a poller against a parked receiver: the rendezvous may happen, or the poll may come too early (default) -/
def sysPoll : Sys := Sys.mk [syncPoller, syncReceiver] [Kind.sync]
example : sysPoll.next sysPoll.init =
    [(0, ⟨[3, 1], [0], [false], false⟩), (0, ⟨[1, 0], [0], [false], false⟩)] := by decide +kernel
/-- the poller is always strictly enabled (it has a `default`) -/
theorem poller_never_blocks : ∀ s, Reachable sysPoll s → enabledStrict sysPoll s 0 = true :=
  checkAll_sound (fuel := 20) (by decide +kernel)

/-- two pollers never meet: neither ever parks, so no rendezvous is possible and nothing is ever delivered -/
def sysPollPoll : Sys := Sys.mk [syncPoller, syncPollRecv] [Kind.sync]
theorem pollers_never_meet : ∀ s, Reachable sysPollPoll s → (s.pc 0 != 3 && s.pc 1 != 3) = true :=
  checkAll_sound (fuel := 50) (by decide +kernel)
example : (sysPollPoll.next sysPollPoll.init).map (·.2.pcs) = [[1, 0], [0, 1]] := by decide +kernel
/-- whereas against the parked receiver the delivery is reachable -/
example : findBad sysPoll 20 (fun s => s.pc 0 != 3) = some [(0, ⟨[3, 1], [0], [false], false⟩)] := by decide +kernel

/-- Go: `close(ch); close(ch)` -/
def closeTwice : Proc := Proc.mk "closeTwice" [Node.close 0 1, Node.close 0 2, Node.halt] 0
def sysCloseTwice : Sys := Sys.mk [closeTwice] [Kind.buffered 1]

example : findBad sysCloseTwice 10 noPanic =
    some [(0, ⟨[1], [0], [true], false⟩), (0, ⟨[2], [0], [true], true⟩)] := by decide +kernel

theorem closeTwice_panics : ∃ s, Reachable sysCloseTwice s ∧ noPanic s = false :=
  findBad_reachable (fuel := 10) (tr := [(0, ⟨[1], [0], [true], false⟩), (0, ⟨[2], [0], [true], true⟩)]) (by decide +kernel)

/-- a panicked state has no successor -/
example : sysCloseTwice.next ⟨[2], [0], [true], true⟩ = [] := by decide +kernel

/-- Go: `close(stopCh)` at some point -/
def stopper : Proc := Proc.mk "stopper" [Node.choice [0, 1], Node.close 0 2, Node.halt] 0
/-- Go: `<-stopCh; return` -/
def waiter : Proc := Proc.mk "waiter" [Node.comm [⟨false, 0, 1⟩] none, Node.halt] 0
def sysCloseOnce : Sys := Sys.mk [stopper, waiter] [Kind.buffered 1]

/-- closing once, then receiving from the closed channel: fine -/
theorem closeOnce_noPanic : ∀ s, Reachable sysCloseOnce s → noPanic s = true :=
  checkAll_sound (fuel := 20) (by decide +kernel)

/-- the waiter blocks until the close (not strictly enabled initially) … -/
example : enabledStrict sysCloseOnce sysCloseOnce.init 1 = false := by decide +kernel
/-- … and once the channel is closed it can always run to completion on its own -/
theorem waiter_finishes_after_close :
    ∀ s, Reachable sysCloseOnce s → s.isClosed 0 = true →
      ∃ t, SoloReach sysCloseOnce 1 s t ∧ halted sysCloseOnce t 1 = true ∧ Reachable sysCloseOnce t :=
  canFinish_all (fuel := 20) (fuel' := 10) (G := fun s => s.isClosed 0) (by decide +kernel)

/-- a send on a closed channel panics -/
def lateSender : Proc := Proc.mk "lateSender" [Node.comm [⟨true, 0, 1⟩] none, Node.halt] 0
def sysSendClosed : Sys := Sys.mk [stopper, lateSender] [Kind.buffered 1]
example : (findBad sysSendClosed 20 noPanic).map (·.map (·.1)) = some [0, 0, 1] := by decide +kernel
#eval IO.println (showResult sysSendClosed (findBad sysSendClosed 20 noPanic))

/-! ## 4. An `external` timer: `for { select { case <-timer.C: work() ; case <-stopCh: return } }` -/

/-- channel 0 = `stopCh` (buffered, only ever closed), channel 1 = `timer.C` (external) -/
def ticker : Proc :=
  Proc.mk "ticker" [Node.comm [⟨false, 1, 1⟩, ⟨false, 0, 2⟩] none, Node.choice [0], Node.halt] 0
def sysTimer : Sys := Sys.mk [stopper, ticker] [Kind.buffered 1, Kind.external]

theorem timer_noPanic : ∀ s, Reachable sysTimer s → noPanic s = true :=
  checkAll_sound (fuel := 50) (by decide +kernel)

/-- the timer MAY fire (a step exists) but the ticker does not count as strictly enabled while it only waits
for the environment -/
example : sysTimer.next sysTimer.init =
    [(0, ⟨[0, 0], [0, 0], [false, false], false⟩), (0, ⟨[1, 0], [0, 0], [false, false], false⟩),
     (1, ⟨[0, 1], [0, 0], [false, false], false⟩)] := by decide +kernel
example : enabledStrict sysTimer sysTimer.init 1 = false := by decide +kernel

/-- once `stopCh` is closed the ticker can always finish without the timer ever firing -/
theorem ticker_finishes_after_stop :
    ∀ s, Reachable sysTimer s → s.isClosed 0 = true →
      ∃ t, SoloReach sysTimer 1 s t ∧ halted sysTimer t 1 = true ∧ Reachable sysTimer t :=
  canFinish_all (fuel := 50) (fuel' := 10) (G := fun s => s.isClosed 0) (by decide +kernel)

/-- and once it is closed the ticker is strictly enabled for ever -/
theorem ticker_enabled_after_stop : ∀ s, Reachable sysTimer s → s.isClosed 0 = true → enabledStrict sysTimer s 1 = true := by
  intro s hs hc
  have := checkAll_sound (y := sysTimer) (fuel := 50) (P := fun s => !s.isClosed 0 || enabledStrict sysTimer s 1) (by decide +kernel) s hs
  simpa [hc] using this

/-- with a `default` branch a select on an external channel never blocks, and both branches are possible -/
def pollTimer : Proc := Proc.mk "pollTimer" [Node.comm [⟨false, 0, 1⟩] (some 2), Node.halt, Node.halt] 0
def sysPollTimer : Sys := Sys.mk [pollTimer] [Kind.external]
example : sysPollTimer.next sysPollTimer.init = [(0, ⟨[1], [0], [false], false⟩), (0, ⟨[2], [0], [false], false⟩)] := by decide +kernel

/-! ## 5. A medium-size system: ring of 2 workers, 144 states -/

def worker (n i : Nat) : Proc :=
  Proc.mk s!"w{i}" [Node.choice [1, 2, 3], Node.comm [⟨true, i, 0⟩] (some 0),
    Node.comm [⟨false, (i + n - 1) % n, 0⟩] (some 0), Node.choice [4], Node.choice [5], Node.choice [0]] 0
def ring (n : Nat) : Sys := Sys.mk ((List.range n).map (worker n)) ((List.range n).map fun _ => Kind.buffered 1)

/-- one exploration for the theorem and the size below -/
theorem ring2_explored : checkExplored (ring 2) 200 (fun vs => Nat.beq vs.length 144 &&
    vs.all fun s => enabledStrict (ring 2) s 0 && enabledStrict (ring 2) s 1 && noPanic s) = true := by decide +kernel

theorem ring2_all_enabled : ∀ s, Reachable (ring 2) s → (enabledStrict (ring 2) s 0 && enabledStrict (ring 2) s 1 && noPanic s) = true := by
  obtain ⟨vs, _, hvs, _, hc⟩ := checkExplored_sound ring2_explored
  exact fun s hs => List.all_eq_true.1 (Bool.and_eq_true_iff.1 hc).2 s (hvs s hs)

example : (explore (ring 2) 200).map List.length = some 144 := by
  obtain ⟨vs, he, _, _, hc⟩ := checkExplored_sound ring2_explored
  rw [he]
  exact congrArg some (Nat.eq_of_beq_eq_true (Bool.and_eq_true_iff.1 hc).1)

end Raft.Chan.Examples

#print axioms Raft.Chan.Examples.senderOK_never_blocks
#print axioms Raft.Chan.Examples.senderOK_progress
#print axioms Raft.Chan.Examples.senderMut_can_block
#print axioms Raft.Chan.Examples.sync_lockstep
#print axioms Raft.Chan.Examples.poller_never_blocks
#print axioms Raft.Chan.Examples.pollers_never_meet
#print axioms Raft.Chan.Examples.closeTwice_panics
#print axioms Raft.Chan.Examples.closeOnce_noPanic
#print axioms Raft.Chan.Examples.waiter_finishes_after_close
#print axioms Raft.Chan.Examples.timer_noPanic
#print axioms Raft.Chan.Examples.ticker_finishes_after_stop
#print axioms Raft.Chan.Examples.ticker_enabled_after_stop
#print axioms Raft.Chan.Examples.ring2_all_enabled
