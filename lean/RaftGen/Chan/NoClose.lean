import RaftGen.Chan.Sound

/-! What a step can do to `closed` and `bad`, and what follows for systems that never close a channel. -/
namespace Raft.Chan

/-- a move of process `i` leaves `closed` and `bad` alone, unless `i` stands at a `close` or some channel is closed already -/
def Quiet (y : Sys) (s : State) (i : Nat) (t : State) : Prop :=
  (t.closed = s.closed ∧ t.bad = s.bad) ∨ (∃ c n, y.nodeAt s i = .close c n) ∨ ∃ c, s.isClosed c = true

theorem Move.quiet {y : Sys} {s t : State} {i : Nat} (h : Move y s i t) : Quiet y s i t := by
  cases h with
  | sendClosed _ _ _ hc => exact Or.inr (Or.inr ⟨_, hc⟩)
  | close hn => exact Or.inr (Or.inl ⟨_, _, hn⟩)
  | _ => exact Or.inl ⟨rfl, rfl⟩

def Node.isClose : Node → Bool
  | .close _ _ => true
  | _ => false

/-- no goroutine of `y` ever executes `close` -/
def Sys.neverCloses (y : Sys) : Bool := y.procs.all fun p => p.code.all fun nd => !nd.isClose

theorem node_mem {y : Sys} {i pc : Nat} : y.node i pc = .halt ∨ ∃ p ∈ y.procs, y.node i pc ∈ p.code := by
  unfold Sys.node
  cases hp : y.procs[i]? with
  | none => exact Or.inl rfl
  | some p =>
    by_cases h : pc < p.code.length
    · exact Or.inr ⟨p, List.mem_of_getElem? hp, by simp [List.getD, List.getElem?_eq_getElem h]⟩
    · exact Or.inl (by simp [List.getD, List.getElem?_eq_none (Nat.le_of_not_lt h)])

theorem node_not_close {y : Sys} (hy : y.neverCloses = true) (i pc c n : Nat) : y.node i pc ≠ .close c n := by
  intro h
  rcases node_mem (y := y) (i := i) (pc := pc) with hh | ⟨p, hp, hm⟩
  · rw [h] at hh; cases hh
  · have := List.all_eq_true.1 (List.all_eq_true.1 hy p hp) _ hm
    rw [h] at this
    cases this

/-- **a system without `close` never panics and never has a closed channel** -/
theorem neverCloses_inv {y : Sys} (hy : y.neverCloses = true) {s : State} (hs : Reachable y s) :
    s.bad = false ∧ ∀ c, s.isClosed c = false := by
  induction hs with
  | init =>
    refine ⟨rfl, fun c => ?_⟩
    simp only [State.isClosed, Sys.init, List.getD, List.getElem?_map]
    cases y.kinds[c]? <;> rfl
  | step _ hn ih =>
    obtain ⟨_, i, _, hp⟩ := mem_next.1 hn
    rcases (procNext_move hp).2.quiet with ⟨hc, hb⟩ | ⟨c, n, hcl⟩ | ⟨c, hc⟩
    · exact ⟨hb.trans ih.1, fun c => by simp only [State.isClosed] at ih ⊢; rw [hc]; exact ih.2 c⟩
    · exact absurd hcl (node_not_close hy _ _ _ _)
    · rw [ih.2 c] at hc; cases hc

/-- at such a node a goroutine can always move on its own (or has returned) -/
def Node.neverBlocks : Node → Bool
  | .halt => true
  | .comm _ d => d.isSome
  | .close _ _ => true
  | .choice ns => !ns.isEmpty
  | .recvOrClosed _ _ _ => false

theorem enabledStrict_of_neverBlocks {y : Sys} {s : State} {i : Nat} (hb : s.bad = false)
    (h : (y.nodeAt s i).neverBlocks = true) : enabledStrict y s i = true := by
  unfold enabledStrict
  revert h
  cases y.nodeAt s i <;> simp [Node.neverBlocks, hb] <;> intro h <;> simp [h]

/-- every node of process `i` is one at which it never blocks -/
def Sys.neverBlocks (y : Sys) (i : Nat) : Bool :=
  match y.procs[i]? with
  | some p => p.code.all Node.neverBlocks
  | none => true

theorem nodeAt_neverBlocks {y : Sys} {i : Nat} (hy : y.neverBlocks i = true) (s : State) :
    (y.nodeAt s i).neverBlocks = true := by
  unfold Sys.neverBlocks at hy
  unfold Sys.nodeAt Sys.node
  cases hp : y.procs[i]? with
  | none => rfl
  | some p =>
    rw [hp] at hy
    by_cases h : s.pc i < p.code.length
    · simp only [List.getD, List.getElem?_eq_getElem h, Option.getD_some]
      exact List.all_eq_true.1 hy _ (List.getElem_mem h)
    · simp [List.getD, List.getElem?_eq_none (Nat.le_of_not_lt h), Node.neverBlocks]

end Raft.Chan
