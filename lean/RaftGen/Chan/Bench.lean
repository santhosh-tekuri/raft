/-
  Benchmark (NOT imported by `RaftGen.lean`; run with `lake env lean RaftGen/Chan/Bench.lean`):
  a leader goroutine with `n` replication goroutines, shaped like the skeleton the generator emits (RaftGen/Gen/Skel.lean).

  channel 0        : `stopCh`   (buffered, only ever closed by the leader)
  channel i (1..n) : `leaderUpdateCh` of replication goroutine i (buffered 1, notify-with-replace idiom)
  channel n+1      : `fromReplsCh` (sync: repl → leader)
  channel n+2      : a timer (external)
-/
import RaftGen.Chan.NoClose

namespace Raft.Chan.Bench
open Raft.Chan

/-- `for { select { case <-stopCh: return; case <-updateCh: ; case <-timer.C: }; if news { select { case fromRepls <- m: ; case <-stopCh: return } } }` -/
def repl (n i : Nat) : Proc :=
  Proc.mk s!"repl{i}"
    [ Node.comm [⟨false, 0, 3⟩, ⟨false, i, 1⟩, ⟨false, n + 2, 1⟩] none,
      Node.choice [2, 0],
      Node.comm [⟨true, n + 1, 0⟩, ⟨false, 0, 3⟩] none,
      Node.halt ] 0

/-- nodes of the leader for follower `i` start at `4 + 2 * (i - 1)`:
`select { case ch_i <- u: ; case <-ch_i: ch_i <- u }` -/
def leaderNotify (i : Nat) : List Node :=
  [ Node.comm [⟨true, i, 0⟩, ⟨false, i, 4 + 2 * (i - 1) + 1⟩] none,
    Node.comm [⟨true, i, 0⟩] none ]

/-- `for { switch { notify follower i | poll fromRepls | shutdown: close(stopCh); return } }` -/
def leader (n : Nat) : Proc :=
  Proc.mk "leader"
    ([ Node.choice (1 :: 2 :: (List.range n).map fun j => 4 + 2 * j),
       Node.comm [⟨false, n + 1, 0⟩] (some 0),
       Node.close 0 3,
       Node.halt ] ++ (List.range n).flatMap fun j => leaderNotify (j + 1)) 0

def sys (n : Nat) : Sys :=
  Sys.mk (leader n :: (List.range n).map fun j => repl n (j + 1))
    (Kind.buffered 1 :: ((List.range n).map fun _ => Kind.buffered 1) ++ [Kind.sync, Kind.external])

/-- the property: no panic, the leader never blocks, and once `stopCh` is closed repl 1 can finish alone -/
def prop (n : Nat) (s : State) : Bool :=
  noPanic s && enabledStrict (sys n) s 0 && (!s.isClosed 0 || canFinish (sys n) 10 1 s)

/-- ring of `n` workers with 5 nodes each; worker `i` sends on channel `i` and receives from channel `i-1`
(both with `default`), `ring5 3` has exactly 5^3 * 2^3 = 1000 reachable states -/
def worker5 (n i : Nat) : Proc :=
  Proc.mk s!"w{i}" [Node.choice [1, 2, 3], Node.comm [⟨true, i, 0⟩] (some 0),
    Node.comm [⟨false, (i + n - 1) % n, 0⟩] (some 0), Node.choice [4], Node.choice [0]] 0
def ring5 (n : Nat) : Sys := Sys.mk ((List.range n).map (worker5 n)) ((List.range n).map fun _ => Kind.buffered 1)

/-! ## What `decide +kernel` reaches: `leader2` (3 processes, 280 states, with `canFinish` in every state) and `leader3`
(4 processes, 2132 states) are checked by the kernel; `sys 4` (15760 states) is checked by `#eval checkAll …` but is out of
reach for the kernel, whose memory grows with every reachable state (it keeps every intermediate term in its caches). -/

/-- no exploration is needed for a ring of any size: nobody closes a channel, and every node of a worker is a non-empty
`choice` or a `select` with `default` -/
theorem ring5_all (n i : Nat) : ∀ s, Reachable (ring5 n) s → (noPanic s && enabledStrict (ring5 n) s i) = true := by
  intro s hs
  have hy : (ring5 n).neverCloses = true := by
    simp [Sys.neverCloses, ring5, worker5, Node.isClose]
  have hi : (ring5 n).neverBlocks i = true := by
    simp only [Sys.neverBlocks, ring5, List.getElem?_map]
    cases (List.range n)[i]? <;> simp [worker5, Node.neverBlocks]
  have hb := (neverCloses_inv hy hs).1
  rw [enabledStrict_of_neverBlocks hb (nodeAt_neverBlocks hi s), noPanic, hb]
  rfl

theorem ring5_3 : ∀ s, Reachable (ring5 3) s → (noPanic s && enabledStrict (ring5 3) s 0) = true :=
  ring5_all 3 0

theorem leader2 : ∀ s, Reachable (sys 2) s → prop 2 s = true :=
  checkAll_sound (fuel := 300) (by decide +kernel)

theorem leader3 : ∀ s, Reachable (sys 3) s → (noPanic s && enabledStrict (sys 3) s 0) = true :=
  checkAll_sound (fuel := 2200) (by decide +kernel)

#guard checkAll (sys 4) 20000 (prop 4)

end Raft.Chan.Bench

#print axioms Raft.Chan.Bench.ring5_3
#print axioms Raft.Chan.Bench.leader3
