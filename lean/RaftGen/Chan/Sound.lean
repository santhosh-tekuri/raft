/-
  Soundness of the exploration of `RaftGen/Chan/Explore.lean`, generic in the system `y` and for any fuel: the list `explore`
  returns is exactly the set of reachable states (`explore_sound`, `explore_complete`), so a Bool check of that list that
  evaluates to `true` is a proof about every reachable state (`checkExplored_sound`; `checkAll_sound`, `checkAllAny_sound`
  are instances); `checkInv_sound` needs no exploration: ANY given list that contains `init`, is closed under `next` and on
  which `P` holds is a certificate (by induction over the run); a schedule `findBad` returns is a genuine run to a state violating `P`; `canFinish`,
  `canReach` and `unreached` exhibit runs of one process, or of a group, by strict moves to a goal.
-/
import RaftGen.Chan.Explore
import RaftGen.Chan.Move

namespace Raft.Chan

theorem natsBeq_eq : ∀ {a b : List Nat}, natsBeq a b = true → a = b
  | [], [], _ => rfl
  | x :: xs, y :: ys, h => by
    simp only [natsBeq, Bool.and_eq_true] at h
    rw [Nat.eq_of_beq_eq_true h.1, natsBeq_eq h.2]
  | [], _ :: _, h => by simp [natsBeq] at h
  | _ :: _, [], h => by simp [natsBeq] at h

theorem boolsBeq_eq : ∀ {a b : List Bool}, boolsBeq a b = true → a = b
  | [], [], _ => rfl
  | x :: xs, y :: ys, h => by
    simp only [boolsBeq, Bool.and_eq_true, beq_iff_eq] at h
    rw [h.1, boolsBeq_eq h.2]
  | [], _ :: _, h => by simp [boolsBeq] at h
  | _ :: _, [], h => by simp [boolsBeq] at h

theorem State.beqF_eq {a b : State} (h : a.beqF b = true) : a = b := by
  cases a; cases b
  simp only [State.beqF, Bool.and_eq_true, beq_iff_eq] at h
  obtain ⟨⟨⟨h1, h2⟩, h3⟩, h4⟩ := h
  simp only [State.mk.injEq]
  exact ⟨natsBeq_eq h1, natsBeq_eq h2, boolsBeq_eq h3, h4⟩

theorem natsBeq_refl : ∀ a : List Nat, natsBeq a a = true
  | [] => rfl
  | x :: xs => by simp [natsBeq, natsBeq_refl xs]

theorem boolsBeq_refl : ∀ a : List Bool, boolsBeq a a = true
  | [] => rfl
  | x :: xs => by simp [boolsBeq, boolsBeq_refl xs]

theorem State.beqF_refl (a : State) : a.beqF a = true := by
  simp [State.beqF, natsBeq_refl, boolsBeq_refl]

theorem canonNats_eq : ∀ xs : List Nat, canonNats xs = xs
  | [] => rfl
  | x :: xs => by
    have ih := canonNats_eq xs
    unfold canonNats
    rw [ih]
    cases x <;> cases xs <;> rfl

theorem canonBools_eq : ∀ xs : List Bool, canonBools xs = xs
  | [] => rfl
  | x :: xs => by
    have ih := canonBools_eq xs
    unfold canonBools
    rw [ih]
    cases x <;> cases xs <;> rfl

theorem withNats_eq {β : Type} (xs : List Nat) (k : List Nat → β) : withNats xs k = k xs := by
  unfold withNats
  rw [canonNats_eq]
  cases xs <;> rfl

theorem withBools_eq {β : Type} (xs : List Bool) (k : List Bool → β) : withBools xs k = k xs := by
  unfold withBools
  rw [canonBools_eq]
  cases xs <;> rfl

theorem withBool_eq {β : Type} (b : Bool) (k : Bool → β) : withBool b k = k b := by
  cases b <;> rfl

/-- forcing is the identity (it only changes the shape of the term the kernel sees) -/
theorem forceState_eq {β : Type} (s : State) (k : State → β) : forceState s k = k s := by
  simp only [forceState, withNats_eq, withBools_eq, withBool_eq]

/-! ## The trie is only ever asked "was this state inserted": what it answers `true` to was inserted -/

theorem Trie.contains_full : ∀ (d k0 k : Nat) (s : State), (Trie.full d).contains k0 k s = false
  | 0, _, _, _ => rfl
  | d + 1, k0, k, s => by
    simp only [Trie.full, Trie.contains]
    cases Nat.beq (Nat.mod k 2) 0 <;> simp only [cond] <;> exact Trie.contains_full d _ _ _

theorem Trie.contains_insert : ∀ (t : Trie) (k0 k k0' k' : Nat) (s s' : State),
    (t.insert k0 k s).contains k0' k' s' = true → s' = s ∨ t.contains k0' k' s' = true
  | .leaf xs, k0, k, k0', k', s, s', h => by
    simp only [Trie.insert, Trie.contains, List.any_cons, Bool.or_eq_true, Bool.and_eq_true] at h ⊢
    rcases h with h | h
    · exact Or.inl (State.beqF_eq h.2)
    · exact Or.inr h
  | .node l r, k0, k, k0', k', s, s', h => by
    simp only [Trie.insert] at h
    cases hk : Nat.beq (Nat.mod k 2) 0 <;> simp only [hk, cond] at h <;>
      simp only [Trie.contains] at h ⊢ <;>
      cases hk' : Nat.beq (Nat.mod k' 2) 0 <;> simp only [hk', cond] at h ⊢
    · exact Trie.contains_insert r _ _ _ _ _ _ h
    · exact Or.inr h
    · exact Or.inr h
    · exact Trie.contains_insert l _ _ _ _ _ _ h

inductive ReachG (succ : State → List State) (inits : List State) : State → Prop
  | init {s : State} : s ∈ inits → ReachG succ inits s
  | step {s t : State} : ReachG succ inits s → t ∈ succ s → ReachG succ inits t

/-- what the trie says is seen is in `vs`; what is still to expand is in `vs` -/
structure AccOK (a : Acc) : Prop where
  trie : ∀ k0 k s, a.tr.contains k0 k s = true → s ∈ a.vs
  work : ∀ s, s ∈ a.work → s ∈ a.vs

theorem addNew_spec : ∀ (ts : List State) (a : Acc), AccOK a →
    AccOK (addNew ts a) ∧
    (∀ s, s ∈ a.vs → s ∈ (addNew ts a).vs) ∧
    (∀ s, s ∈ a.work → s ∈ (addNew ts a).work) ∧
    (∀ s, s ∈ ts → s ∈ (addNew ts a).vs) ∧
    (∀ s, s ∈ (addNew ts a).vs → s ∈ a.vs ∨ (s ∈ ts ∧ s ∈ (addNew ts a).work))
  | [], a, h => ⟨h, fun _ h => h, fun _ h => h, fun _ h => absurd h List.not_mem_nil, fun _ h => Or.inl h⟩
  | t :: ts, a, h => by
    have hdef : addNew (t :: ts) a =
        bif a.tr.has t then addNew ts a
        else addNew ts { tr := a.tr.add t, vs := t :: a.vs, work := t :: a.work } := by
      simp only [addNew, forceState_eq]
    rw [hdef]
    cases hh : a.tr.has t
    · -- new state
      simp only [cond]
      have h' : AccOK { tr := a.tr.add t, vs := t :: a.vs, work := t :: a.work } := by
        refine ⟨?_, ?_⟩
        · intro k0 k s hs
          rcases Trie.contains_insert a.tr _ _ _ _ _ _ hs with rfl | hs'
          · exact List.mem_cons_self
          · exact List.mem_cons_of_mem _ (h.trie _ _ _ hs')
        · intro s hs
          rcases List.mem_cons.1 hs with rfl | hs'
          · exact List.mem_cons_self
          · exact List.mem_cons_of_mem _ (h.work _ hs')
      obtain ⟨i1, i2, i3, i4, i5⟩ := addNew_spec ts _ h'
      refine ⟨i1, fun s hs => i2 s (List.mem_cons_of_mem _ hs), fun s hs => i3 s (List.mem_cons_of_mem _ hs), ?_, ?_⟩
      · intro s hs
        rcases List.mem_cons.1 hs with rfl | hs'
        · exact i2 _ List.mem_cons_self
        · exact i4 s hs'
      · intro s hs
        rcases i5 s hs with h5 | ⟨h5, h6⟩
        · rcases List.mem_cons.1 h5 with rfl | h5'
          · exact Or.inr ⟨List.mem_cons_self, i3 _ List.mem_cons_self⟩
          · exact Or.inl h5'
        · exact Or.inr ⟨List.mem_cons_of_mem _ h5, h6⟩
    · -- already seen
      simp only [cond]
      obtain ⟨i1, i2, i3, i4, i5⟩ := addNew_spec ts a h
      refine ⟨i1, i2, i3, ?_, ?_⟩
      · intro s hs
        rcases List.mem_cons.1 hs with rfl | hs'
        · exact i2 _ (h.trie _ _ _ hh)
        · exact i4 s hs'
      · intro s hs
        rcases i5 s hs with h5 | ⟨h5, h6⟩
        · exact Or.inl h5
        · exact Or.inr ⟨List.mem_cons_of_mem _ h5, h6⟩

structure Inv (succ : State → List State) (inits : List State) (a : Acc) : Prop where
  ok : AccOK a
  hinit : ∀ s, s ∈ inits → s ∈ a.vs
  closed : ∀ s, s ∈ a.vs → s ∈ a.work ∨ ∀ t, t ∈ succ s → t ∈ a.vs
  reach : ∀ s, s ∈ a.vs → ReachG succ inits s

theorem Inv.start (succ : State → List State) (inits : List State) :
    Inv succ inits (addNew inits { tr := Trie.full trieDepth, vs := [], work := [] }) := by
  have h0 : AccOK { tr := Trie.full trieDepth, vs := [], work := [] } :=
    ⟨fun k0 k s h => by simp [Trie.contains_full] at h, fun s h => absurd h List.not_mem_nil⟩
  obtain ⟨i1, _, _, i4, i5⟩ := addNew_spec inits _ h0
  refine ⟨i1, i4, ?_, ?_⟩
  · intro s hs
    rcases i5 s hs with h | ⟨_, h⟩
    · exact absurd h List.not_mem_nil
    · exact Or.inl h
  · intro s hs
    rcases i5 s hs with h | ⟨h, _⟩
    · exact absurd h List.not_mem_nil
    · exact ReachG.init h

theorem Inv.expand {succ : State → List State} {inits : List State} {a : Acc} {s : State} {rest : List State}
    (h : Inv succ inits a) (hw : a.work = s :: rest) :
    Inv succ inits (addNew (succ s) { tr := a.tr, vs := a.vs, work := rest }) := by
  have hs : s ∈ a.vs := h.ok.work s (by rw [hw]; exact List.mem_cons_self)
  have h1 : AccOK { tr := a.tr, vs := a.vs, work := rest } :=
    ⟨h.ok.trie, fun x hx => h.ok.work x (by rw [hw]; exact List.mem_cons_of_mem _ hx)⟩
  obtain ⟨i1, i2, i3, i4, i5⟩ := addNew_spec (succ s) _ h1
  refine ⟨i1, fun x hx => i2 x (h.hinit x hx), ?_, ?_⟩
  · intro x hx
    rcases i5 x hx with h5 | ⟨_, h6⟩
    · rcases h.closed x h5 with hxw | hxc
      · rw [hw] at hxw
        rcases List.mem_cons.1 hxw with rfl | hxr
        · exact Or.inr fun t ht => i4 t ht
        · exact Or.inl (i3 x hxr)
      · exact Or.inr fun t ht => i2 t (hxc t ht)
    · exact Or.inl h6
  · intro x hx
    rcases i5 x hx with h5 | ⟨h5, _⟩
    · exact h.reach x h5
    · exact ReachG.step (h.reach s hs) h5

theorem Inv.done {succ : State → List State} {inits : List State} {a : Acc} (h : Inv succ inits a) (hw : a.work = []) :
    (∀ s, s ∈ inits → s ∈ a.vs) ∧ (∀ s, s ∈ a.vs → ∀ t, t ∈ succ s → t ∈ a.vs) ∧ (∀ s, s ∈ a.vs → ReachG succ inits s) := by
  refine ⟨h.hinit, fun s hs => (h.closed s hs).resolve_left fun hx => ?_, h.reach⟩
  rw [hw] at hx
  exact absurd hx List.not_mem_nil

theorem exploreLoop_spec {succ : State → List State} {inits : List State} :
    ∀ (fuel : Nat) (a : Acc) (vs : List State), Inv succ inits a → exploreLoop succ fuel a = some vs →
      (∀ s, s ∈ inits → s ∈ vs) ∧ (∀ s, s ∈ vs → ∀ t, t ∈ succ s → t ∈ vs) ∧ (∀ s, s ∈ vs → ReachG succ inits s)
  | 0, a, vs, h, he => by
    simp only [exploreLoop] at he
    split at he
    · next hw => cases he; exact h.done hw
    · exact nomatch he
  | fuel + 1, a, vs, h, he => by
    simp only [exploreLoop] at he
    split at he
    · next hw => cases he; exact h.done hw
    · next s rest hw => exact exploreLoop_spec fuel _ vs (h.expand hw) he

theorem exploreG_spec {succ : State → List State} {inits : List State} {fuel : Nat} {vs : List State}
    (h : exploreG succ inits fuel = some vs) :
    (∀ s, s ∈ inits → s ∈ vs) ∧ (∀ s, s ∈ vs → ∀ t, t ∈ succ s → t ∈ vs) ∧ (∀ s, s ∈ vs → ReachG succ inits s) :=
  exploreLoop_spec fuel _ vs (Inv.start succ inits) h

theorem exploreG_sound {succ : State → List State} {inits : List State} {fuel : Nat} {vs : List State}
    (h : exploreG succ inits fuel = some vs) : ∀ s, ReachG succ inits s → s ∈ vs := by
  obtain ⟨h1, h2, _⟩ := exploreG_spec h
  intro s hs
  induction hs with
  | init hi => exact h1 _ hi
  | step _ ht ih => exact h2 _ ih _ ht

theorem exploreG_complete {succ : State → List State} {inits : List State} {fuel : Nat} {vs : List State}
    (h : exploreG succ inits fuel = some vs) : ∀ s, s ∈ vs → ReachG succ inits s :=
  (exploreG_spec h).2.2

theorem mem_succ {y : Sys} {s t : State} : t ∈ y.succ s ↔ ∃ i, (i, t) ∈ y.next s := by
  simp only [Sys.succ, List.mem_map]
  constructor
  · rintro ⟨⟨i, t'⟩, h, rfl⟩; exact ⟨i, h⟩
  · rintro ⟨i, h⟩; exact ⟨(i, t), h, rfl⟩

theorem reachable_iff_reachG {y : Sys} {s : State} : Reachable y s ↔ ReachG y.succ [y.init] s := by
  constructor
  · intro h
    induction h with
    | init => exact ReachG.init List.mem_cons_self
    | step _ ht ih => exact ReachG.step ih (mem_succ.2 ⟨_, ht⟩)
  · intro h
    induction h with
    | init hi => cases List.mem_singleton.1 hi; exact Reachable.init
    | step _ ht ih => obtain ⟨i, hi⟩ := mem_succ.1 ht; exact Reachable.step ih hi

/-- **Soundness of `explore`.**  If the exploration terminates within the fuel, every state reachable by an
execution of ANY length is in the returned list. -/
theorem explore_sound {y : Sys} {fuel : Nat} {vs : List State} (h : explore y fuel = some vs) :
    ∀ s, Reachable y s → s ∈ vs :=
  fun s hs => exploreG_sound h s (reachable_iff_reachG.1 hs)

theorem explore_complete {y : Sys} {fuel : Nat} {vs : List State} (h : explore y fuel = some vs) :
    ∀ s, s ∈ vs → Reachable y s :=
  fun s hs => reachable_iff_reachG.2 (exploreG_complete h s hs)

/-- a Bool check of the whole list of reachable states (false when the fuel runs out); `checkAll` and `checkAllAny` are
the instances `vs.all P` and `vs.all P && vs.any Q` -/
def checkExplored (y : Sys) (fuel : Nat) (chk : List State → Bool) : Bool :=
  match explore y fuel with
  | some vs => chk vs
  | none => false

theorem checkExplored_sound {y : Sys} {fuel : Nat} {chk : List State → Bool} (h : checkExplored y fuel chk = true) :
    ∃ vs, explore y fuel = some vs ∧ (∀ s, Reachable y s → s ∈ vs) ∧ (∀ s, s ∈ vs → Reachable y s) ∧ chk vs = true := by
  unfold checkExplored at h
  split at h
  · next vs hv => exact ⟨vs, hv, explore_sound hv, explore_complete hv, h⟩
  · exact nomatch h

/-- **Soundness of `checkAll`.**  If `checkAll y fuel P` evaluates to `true` (e.g. `by decide`), then `P` holds in
every reachable state of `y`. -/
theorem checkAll_sound {y : Sys} {fuel : Nat} {P : State → Bool} (h : checkAll y fuel P = true) :
    ∀ s, Reachable y s → P s = true := by
  obtain ⟨vs, _, hvs, _, hc⟩ := checkExplored_sound (chk := (·.all P)) h
  exact fun s hs => List.all_eq_true.1 hc s (hvs s hs)

theorem checkAllAny_sound {y : Sys} {fuel : Nat} {P Q : State → Bool} (h : checkAllAny y fuel P Q = true) :
    (∀ s, Reachable y s → P s = true) ∧ (∃ s, Reachable y s ∧ Q s = true) := by
  obtain ⟨vs, _, hvs, hvs', hc⟩ := checkExplored_sound (chk := fun vs => vs.all P && vs.any Q) h
  obtain ⟨hp, hq⟩ := Bool.and_eq_true _ _ ▸ hc
  obtain ⟨t, ht, hq⟩ := List.any_eq_true.1 hq
  exact ⟨fun s hs => List.all_eq_true.1 hp s (hvs s hs), t, hvs' t ht, hq⟩

theorem trieOf_has : ∀ (vs : List State) (s : State), (trieOf vs).has s = true → s ∈ vs
  | [], s, h => by simp [trieOf, Trie.has, Trie.contains_full] at h
  | v :: vs, s, h => by
    rcases Trie.contains_insert (trieOf vs) _ _ _ _ _ _ h with rfl | h'
    · exact List.mem_cons_self
    · exact List.mem_cons_of_mem _ (trieOf_has vs s h')

/-- **Soundness of a certificate**: any list `vs` containing `init`, closed under `next`, on which `P` holds
(checked by the Bool function `checkInv`) proves `P` for every reachable state. -/
theorem checkInv_sound {y : Sys} {vs : List State} {P : State → Bool} (h : checkInv y vs P = true) :
    ∀ s, Reachable y s → P s = true := by
  simp only [checkInv, Bool.and_eq_true, List.all_eq_true, forceState_eq] at h
  obtain ⟨h0, hall⟩ := h
  have hmem : ∀ s, Reachable y s → s ∈ vs := by
    intro s hs
    induction hs with
    | init => exact trieOf_has vs _ h0
    | step _ ht ih => exact trieOf_has vs _ ((hall _ ih).2 _ (mem_succ.2 ⟨_, ht⟩))
  exact fun s hs => (hall s (hmem s hs)).1

/-- the reachable set IS a certificate: `checkAll` succeeding implies `checkInv` on the explored list would too
(stated as: the explored list is closed) -/
theorem explore_closed {y : Sys} {fuel : Nat} {vs : List State} (h : explore y fuel = some vs) :
    y.init ∈ vs ∧ ∀ s, s ∈ vs → ∀ i t, (i, t) ∈ y.next s → t ∈ vs := by
  obtain ⟨h1, h2, _⟩ := exploreG_spec h
  exact ⟨h1 _ List.mem_cons_self, fun s hs i t ht => h2 s hs t (mem_succ.2 ⟨i, ht⟩)⟩

/-- `tr` is a run of `y` starting in `s`: every entry `(i, t)` is a step of process `i` from the previous state -/
def IsRun (y : Sys) : State → List (Nat × State) → Prop
  | _, [] => True
  | s, (i, t) :: rest => (i, t) ∈ y.next s ∧ IsRun y t rest

def lastState : State → List (Nat × State) → State
  | s, [] => s
  | _, (_, t) :: rest => lastState t rest

theorem lastState_snoc : ∀ (s : State) (tr : List (Nat × State)) (i : Nat) (t : State),
    lastState s (tr ++ [(i, t)]) = t
  | _, [], _, _ => rfl
  | _, (_, u) :: rest, i, t => lastState_snoc u rest i t

theorem isRun_snoc {y : Sys} : ∀ (s : State) (tr : List (Nat × State)) (i : Nat) (t : State),
    IsRun y s tr → (i, t) ∈ y.next (lastState s tr) → IsRun y s (tr ++ [(i, t)])
  | _, [], _, _, _, h => ⟨h, trivial⟩
  | _, (_, u) :: rest, i, t, h, h' => ⟨h.1, isRun_snoc u rest i t h.2 h'⟩

theorem reachable_of_isRun {y : Sys} : ∀ (s : State) (tr : List (Nat × State)),
    Reachable y s → IsRun y s tr → Reachable y (lastState s tr)
  | _, [], h, _ => h
  | _, (_, u) :: rest, h, hr => reachable_of_isRun u rest (Reachable.step h hr.1) hr.2

/-- a BFS item carries a genuine run from `init` to its state -/
def ItemOK (y : Sys) (it : Item) : Prop :=
  IsRun y y.init it.rtr.reverse ∧ lastState y.init it.rtr.reverse = it.st

theorem bfsAdd_spec {y : Sys} {P : State → Bool} {st : State} {rtr : List (Nat × State)}
    (hrun : IsRun y y.init rtr.reverse) (hlast : lastState y.init rtr.reverse = st) :
    ∀ (ts : List (Nat × State)) (tr : Trie) (nxt : List Item),
      (∀ p, p ∈ ts → p ∈ y.next st) → (∀ it, it ∈ nxt → ItemOK y it) →
      match bfsAdd P ts rtr tr nxt with
      | .bad t => IsRun y y.init t ∧ P (lastState y.init t) = false
      | .cont _ nxt' => ∀ it, it ∈ nxt' → ItemOK y it
  | [], tr, nxt, _, hn => by simpa only [bfsAdd] using hn
  | (i, t) :: ts, tr, nxt, hts, hn => by
    have hdef : bfsAdd P ((i, t) :: ts) rtr tr nxt =
        bif tr.has t then bfsAdd P ts rtr tr nxt
        else bif P t then bfsAdd P ts rtr (tr.add t) (⟨t, (i, t) :: rtr⟩ :: nxt)
        else .bad ((i, t) :: rtr).reverse := by
      simp only [bfsAdd, forceState_eq]
    have hts' : ∀ p, p ∈ ts → p ∈ y.next st := fun p hp => hts p (List.mem_cons_of_mem _ hp)
    have hstep : (i, t) ∈ y.next (lastState y.init rtr.reverse) := by
      rw [hlast]; exact hts _ List.mem_cons_self
    have hrun' : IsRun y y.init ((i, t) :: rtr).reverse := by
      rw [List.reverse_cons]; exact isRun_snoc _ _ _ _ hrun hstep
    have hlast' : lastState y.init ((i, t) :: rtr).reverse = t := by
      rw [List.reverse_cons]; exact lastState_snoc _ _ _ _
    rw [hdef]
    cases tr.has t
    · simp only [cond]
      cases hP : P t
      · simp only []
        exact ⟨hrun', by rw [hlast']; exact hP⟩
      · simp only []
        refine bfsAdd_spec hrun hlast ts _ _ hts' ?_
        intro it hit
        rcases List.mem_cons.1 hit with rfl | hit'
        · exact ⟨hrun', hlast'⟩
        · exact hn it hit'
    · simp only [cond]
      exact bfsAdd_spec hrun hlast ts _ _ hts' hn

theorem bfsLoop_spec {y : Sys} {P : State → Bool} :
    ∀ (fuel : Nat) (tr : Trie) (cur nxt : List Item) (res : List (Nat × State)),
      (∀ it, it ∈ cur → ItemOK y it) → (∀ it, it ∈ nxt → ItemOK y it) →
      bfsLoop y P fuel tr cur nxt = some res →
      IsRun y y.init res ∧ P (lastState y.init res) = false
  | 0, _, _, _, _, _, _, h => by simp [bfsLoop] at h
  | fuel + 1, tr, [], nxt, res, _, hn, h => by
    simp only [bfsLoop] at h
    split at h
    · exact nomatch h
    · next hd tl =>
      exact bfsLoop_spec fuel tr _ [] res (fun it hit => hn it (List.mem_reverse.1 hit))
        (fun it hit => absurd hit List.not_mem_nil) h
  | fuel + 1, tr, it :: cur, nxt, res, hc, hn, h => by
    simp only [bfsLoop] at h
    have hit := hc it List.mem_cons_self
    have hspec := bfsAdd_spec (P := P) hit.1 hit.2 (y.next it.st) tr nxt (fun p hp => hp) hn
    split at h
    · next t ht =>
      rw [ht] at hspec
      cases h
      exact hspec
    · next tr' nxt' ht =>
      rw [ht] at hspec
      exact bfsLoop_spec fuel tr' cur nxt' res (fun it' hit' => hc it' (List.mem_cons_of_mem _ hit')) hspec h

/-- **Soundness of `findBad`.**  A returned schedule is a genuine run of the system from `init`, and `P` is false
in its last state; in particular that state is reachable (`findBad_reachable`). -/
theorem findBad_sound {y : Sys} {fuel : Nat} {P : State → Bool} {tr : List (Nat × State)}
    (h : findBad y fuel P = some tr) : IsRun y y.init tr ∧ P (lastState y.init tr) = false := by
  unfold findBad at h
  cases hP : P y.init
  · rw [hP] at h
    cases h
    exact ⟨trivial, hP⟩
  · rw [hP] at h
    refine bfsLoop_spec fuel _ _ _ tr ?_ (fun it hit => absurd hit List.not_mem_nil) h
    intro it hit
    cases List.mem_singleton.1 hit
    exact ⟨trivial, rfl⟩

theorem findBad_reachable {y : Sys} {fuel : Nat} {P : State → Bool} {tr : List (Nat × State)}
    (h : findBad y fuel P = some tr) : ∃ s, Reachable y s ∧ P s = false :=
  ⟨_, reachable_of_isRun _ _ Reachable.init (findBad_sound h).1, (findBad_sound h).2⟩

/-- the form used by theorems that exhibit a counterexample: evaluate `(findBad y fuel P).isSome` (e.g. `by decide +kernel`) -/
theorem findBad_exists {y : Sys} {fuel : Nat} {P : State → Bool} (h : (findBad y fuel P).isSome = true) :
    ∃ s, Reachable y s ∧ P s = false := by
  cases hf : findBad y fuel P with
  | some tr => exact findBad_reachable hf
  | none => rw [hf] at h; exact nomatch h

theorem next_of_bad {y : Sys} {s : State} (h : s.bad = true) : y.next s = [] := by
  simp only [Sys.next, h, cond]

theorem mem_next {y : Sys} {s : State} {p : Nat × State} :
    p ∈ y.next s ↔ s.bad = false ∧ ∃ i, i < y.procs.length ∧ p ∈ procNext y s i := by
  unfold Sys.next
  cases hb : s.bad
  · simp only [cond, List.mem_flatMap, List.mem_range, true_and]
  · simp only [cond, List.not_mem_nil, Bool.true_eq_false, false_and]

theorem node_of_ge {y : Sys} {i pc : Nat} (h : y.procs.length ≤ i) : y.node i pc = .halt := by
  unfold Sys.node
  rw [List.getElem?_eq_none h]

theorem procStrict_sub {y : Sys} {s : State} {i : Nat} {p : Nat × State} (h : p ∈ procStrict y s i) :
    p ∈ procNext y s i := by
  unfold procStrict at h
  unfold procNext
  split at h
  · next cs d =>
    simp only [List.mem_append, List.mem_flatMap] at h ⊢
    rcases h with ⟨k, hk, hp⟩ | h
    · cases hr : caseReady y s k
      · simp [hr] at hp
      · simp only [hr, cond] at hp
        exact Or.inl ⟨k, hk, hp⟩
    · exact Or.inr h
  · exact h
  · exact h
  · exact h
  · revert h
    cases recvReady s _ <;> simp

theorem procNext_label {y : Sys} {s : State} {i : Nat} {p : Nat × State} (h : p ∈ procNext y s i) : p.1 = i :=
  (procNext_move h).1

theorem procNext_of_ge {y : Sys} {s : State} {i : Nat} (h : y.procs.length ≤ i) : procNext y s i = [] := by
  unfold procNext Sys.nodeAt
  rw [node_of_ge h]

theorem strictNext_sub_next {y : Sys} {s t : State} {i : Nat} (h : t ∈ strictNext y s i) : (i, t) ∈ y.next s := by
  unfold strictNext at h
  cases hb : s.bad
  · simp only [hb, cond, List.mem_map] at h
    obtain ⟨⟨j, t'⟩, hp, rfl⟩ := h
    have hp' := procStrict_sub hp
    have hlt : i < y.procs.length := by
      rcases Nat.lt_or_ge i y.procs.length with h | h
      · exact h
      · rw [procNext_of_ge h] at hp'
        exact absurd hp' List.not_mem_nil
    have hj : j = i := procNext_label hp'
    subst hj
    exact mem_next.2 ⟨hb, j, hlt, hp'⟩
  · simp [hb] at h

theorem caseSucc_ne_nil {y : Sys} {s : State} {i : Nat} {hasD : Bool} {k : Comm}
    (h : caseReady y s k = true) : caseSucc y s i hasD k ≠ [] := by
  unfold caseReady at h
  unfold caseSucc
  cases hs : k.send
  · simp only [hs, cond] at h ⊢
    unfold recvReady at h
    unfold recvSucc
    cases h1 : Nat.blt 0 (s.buf k.chan)
    · simp only [h1, Bool.false_or] at h
      simp only [h, cond]
      exact List.cons_ne_nil _ _
    · simp only [cond]
      exact List.cons_ne_nil _ _
  · simp only [hs, cond] at h ⊢
    unfold sendReady at h
    unfold sendSucc
    cases h1 : s.isClosed k.chan
    · simp only [h1, Bool.false_or] at h
      simp only [cond]
      split at h
      · next cap hk =>
        simp only [hk, h]
        exact List.cons_ne_nil _ _
      · exact nomatch h
    · simp only [cond]
      exact List.cons_ne_nil _ _

theorem rangeSucc_ne_nil {y : Sys} {s : State} {i c nI nC : Nat}
    (h : recvReady s c = true) : rangeSucc y s i c nI nC ≠ [] := by
  unfold recvReady at h
  unfold rangeSucc
  cases h1 : Nat.blt 0 (s.buf c)
  · simp only [h1, Bool.false_or] at h
    simp only [h, cond]
    exact List.cons_ne_nil _ _
  · simp only [cond]
    exact List.cons_ne_nil _ _

theorem enabledStrict_iff {y : Sys} {s : State} {i : Nat} :
    enabledStrict y s i = true ↔ (halted y s i = true ∨ strictNext y s i ≠ []) := by
  unfold enabledStrict halted strictNext procStrict
  generalize y.nodeAt s i = nd
  cases nd with
  | halt => simp
  | close c n => cases hb : s.bad <;> simp
  | choice ns => cases hb : s.bad <;> simp
  | recvOrClosed c nI nC =>
    cases hb : s.bad
    · cases hr : recvReady s c
      · simp [hr]
      · simpa [hr] using rangeSucc_ne_nil (y := y) (i := i) (nI := nI) (nC := nC) hr
    · simp
  | comm cs d =>
    cases hb : s.bad
    · cases hany : cs.any (caseReady y s)
      · -- no case is definitely ready: only `default` is left
        have hnone : ∀ k ∈ cs, caseReady y s k = false := fun k hk => by simpa using List.any_eq_false.1 hany k hk
        cases d <;> simp +contextual [dfltSucc, hany, hnone]
      · -- a case that is definitely ready has a successor
        obtain ⟨k, hk, hr⟩ := List.any_eq_true.1 hany
        have hne : ¬∀ x, x ∈ cs → (bif caseReady y s x then caseSucc y s i d.isSome x else []) = [] :=
          fun h => caseSucc_ne_nil hr (by simpa only [hr, cond] using h k hk)
        simp only [Bool.not_false, Bool.true_and, Bool.or_eq_true, List.any_eq_true, Bool.false_eq_true, cond_false,
          ne_eq, List.map_eq_nil_iff, List.append_eq_nil_iff, List.flatMap_eq_nil_iff, not_and, false_or]
        exact ⟨fun _ h => absurd h hne, fun _ => Or.inr ⟨k, hk, hr⟩⟩
    · simp

theorem enabledStrict_progress {y : Sys} {s : State} {i : Nat} (h : enabledStrict y s i = true) :
    halted y s i = true ∨ ∃ t, (i, t) ∈ y.next s := by
  rcases enabledStrict_iff.1 h with h | h
  · exact Or.inl h
  · cases hl : strictNext y s i with
    | nil => exact absurd hl h
    | cons t ts => exact Or.inr ⟨t, strictNext_sub_next (by rw [hl]; exact List.mem_cons_self)⟩

theorem soloNext_sub_next {y : Sys} {i : Nat} {s t : State} (h : t ∈ soloNext y i s) : (i, t) ∈ y.next s :=
  strictNext_sub_next (List.mem_filter.1 h).1

theorem groupNext_sub_next {y : Sys} {g : List Nat} {s t : State} (h : t ∈ groupNext y g s) :
    ∃ i, i ∈ g ∧ (i, t) ∈ y.next s := by
  simp only [groupNext, List.mem_flatMap] at h
  obtain ⟨i, hi, ht⟩ := h
  exact ⟨i, hi, soloNext_sub_next ht⟩

/-- `t` is reachable from `s` by non-panicking strict moves of process `i` alone -/
def SoloReach (y : Sys) (i : Nat) (s t : State) : Prop := ReachG (soloNext y i) [s] t

/-- `t` is reachable from `s` by non-panicking strict moves of the processes of `g` alone -/
def GroupReach (y : Sys) (g : List Nat) (s t : State) : Prop := ReachG (groupNext y g) [s] t

theorem GroupReach.reachable {y : Sys} {g : List Nat} {s t : State} (hs : Reachable y s) (h : GroupReach y g s t) :
    Reachable y t := by
  induction h with
  | init hi => cases List.mem_singleton.1 hi; exact hs
  | step _ ht ih =>
    obtain ⟨i, _, hi⟩ := groupNext_sub_next ht
    exact Reachable.step ih hi

theorem GroupReach.noPanic {y : Sys} {g : List Nat} {s t : State} (hs : noPanic s = true) (h : GroupReach y g s t) :
    noPanic t = true := by
  induction h with
  | init hi => cases List.mem_singleton.1 hi; exact hs
  | step _ ht _ =>
    simp only [groupNext, List.mem_flatMap] at ht
    obtain ⟨i, _, ht⟩ := ht
    exact (List.mem_filter.1 ht).2

theorem SoloReach.group {y : Sys} {i : Nat} {s t : State} (h : SoloReach y i s t) : GroupReach y [i] s t := by
  induction h with
  | init hi => exact ReachG.init hi
  | step _ ht ih => exact ReachG.step ih (by simpa [groupNext] using ht)

theorem SoloReach.reachable {y : Sys} {i : Nat} {s t : State} (hs : Reachable y s) (h : SoloReach y i s t) :
    Reachable y t :=
  h.group.reachable hs

theorem SoloReach.noPanic {y : Sys} {i : Nat} {s t : State} (hs : noPanic s = true) (h : SoloReach y i s t) :
    noPanic t = true :=
  h.group.noPanic hs

theorem canFinish_sound {y : Sys} {fuel i : Nat} {s : State} (h : canFinish y fuel i s = true) :
    ∃ t, SoloReach y i s t ∧ halted y t i = true := by
  unfold canFinish at h
  split at h
  · next vs hv =>
    obtain ⟨t, ht, hh⟩ := List.any_eq_true.1 h
    exact ⟨t, exploreG_complete hv t ht, hh⟩
  · exact nomatch h

/-- **Leads-to under a guard**: if the Bool check `G s → canFinish y fuel' i s` evaluates to `true` over the explored
state space, then from EVERY reachable state satisfying `G` process `i` can run to completion on its own
(strict moves only, nobody else moves, no panic), and the state it ends in is reachable. -/
theorem canFinish_all {y : Sys} {fuel fuel' i : Nat} {G : State → Bool}
    (h : checkAll y fuel (fun s => !G s || canFinish y fuel' i s) = true) :
    ∀ s, Reachable y s → G s = true → ∃ t, SoloReach y i s t ∧ halted y t i = true ∧ Reachable y t := by
  intro s hs hg
  have := checkAll_sound h s hs
  simp only [hg, Bool.not_true, Bool.false_or] at this
  obtain ⟨t, ht, hh⟩ := canFinish_sound this
  exact ⟨t, ht, hh, ht.reachable hs⟩

theorem searchLoop_spec {succ : State → List State} {inits : List State} {goal : State → Bool} :
    ∀ (fuel : Nat) (a : Acc), Inv succ inits a → searchLoop succ goal fuel a = true →
      ∃ t, ReachG succ inits t ∧ goal t = true
  | 0, _, _, he => by simp [searchLoop] at he
  | fuel + 1, a, h, he => by
    simp only [searchLoop] at he
    split at he
    · exact nomatch he
    · next s rest hw =>
      cases hg : goal s
      · simp only [hg, cond] at he
        exact searchLoop_spec fuel _ (h.expand hw) he
      · exact ⟨s, h.reach s (h.ok.work s (by rw [hw]; exact List.mem_cons_self)), hg⟩

theorem canReach_sound {y : Sys} {fuel : Nat} {g : List Nat} {goal : State → Bool} {s : State}
    (h : canReach y fuel g goal s = true) : ∃ t, GroupReach y g s t ∧ goal t = true :=
  searchLoop_spec fuel _ (Inv.start _ _) h

/-- **Leads-to under a guard, for a group**: if the Bool check `G s → canReach y fuel' g goal s` evaluates to `true` over the
explored state space, then from EVERY reachable state satisfying `G` the processes of `g` can bring the system to a goal
state on their own (strict moves only, nobody else moves, no panic), and that state is reachable. -/
theorem canReach_all {y : Sys} {fuel fuel' : Nat} {g : List Nat} {G goal : State → Bool}
    (h : checkAll y fuel (fun s => !G s || canReach y fuel' g goal s) = true) :
    ∀ s, Reachable y s → G s = true → ∃ t, GroupReach y g s t ∧ goal t = true ∧ Reachable y t := by
  intro s hs hg
  have := checkAll_sound h s hs
  simp only [hg, Bool.not_true, Bool.false_or] at this
  obtain ⟨t, ht, hh⟩ := canReach_sound this
  exact ⟨t, ht, hh, ht.reachable hs⟩

/-! ## From which states of a list can a goal be reached

`canReach` searches from one state. When the claim is about many states whose searches overlap (every explored state that
satisfies a guard), it is cheaper to compute the set of states that can reach the goal once: a state can reach the goal
if it is a goal state or has a successor that can. -/

/-- one pass over `todo`: a state that satisfies `goal` or has a successor in `good` joins `good`; the others are returned
(in reverse order, so that the next pass runs in the opposite direction) -/
def sweep (succ : State → List State) (goal : State → Bool) : List State → Trie → List State → Trie × List State
  | [], good, rest => (good, rest)
  | s :: todo, good, rest =>
    bif goal s || (succ s).any (fun t => forceState t good.has)
    then sweep succ goal todo (good.add s) rest else sweep succ goal todo good (s :: rest)

/-- the states of `todo` that `n` passes did not move to `good` -/
def unreached (succ : State → List State) (goal : State → Bool) : Nat → List State → Trie → List State
  | 0, todo, _ => todo
  | n + 1, todo, good =>
    match sweep succ goal todo good [] with
    | (good', rest) => unreached succ goal n rest good'

def CanReach (succ : State → List State) (goal : State → Bool) (s : State) : Prop :=
  ∃ t, ReachG succ [s] t ∧ goal t = true

theorem ReachG.head {succ : State → List State} {s t u : State} (ht : t ∈ succ s) (h : ReachG succ [t] u) :
    ReachG succ [s] u := by
  induction h with
  | init hi => cases List.mem_singleton.1 hi; exact ReachG.step (ReachG.init List.mem_cons_self) ht
  | step _ hv ih => exact ReachG.step ih hv

theorem CanReach.step {succ : State → List State} {goal : State → Bool} {s t : State} (ht : t ∈ succ s) :
    CanReach succ goal t → CanReach succ goal s :=
  fun ⟨u, hu, hg⟩ => ⟨u, hu.head ht, hg⟩

def GoodOK (succ : State → List State) (goal : State → Bool) (good : Trie) : Prop :=
  ∀ k0 k s, good.contains k0 k s = true → CanReach succ goal s

theorem sweep_spec {succ : State → List State} {goal : State → Bool} :
    ∀ (todo : List State) (good : Trie) (rest : List State), GoodOK succ goal good →
      GoodOK succ goal (sweep succ goal todo good rest).1 ∧
      (∀ s, s ∈ rest → s ∈ (sweep succ goal todo good rest).2) ∧
      (∀ s, s ∈ todo → s ∈ (sweep succ goal todo good rest).2 ∨ CanReach succ goal s)
  | [], _, _, h => ⟨h, fun _ hs => hs, fun _ hs => nomatch hs⟩
  | v :: todo, good, rest, h => by
    unfold sweep
    cases hv : goal v || (succ v).any (fun t => forceState t good.has)
    · obtain ⟨i1, i2, i3⟩ := sweep_spec todo good (v :: rest) h
      refine ⟨i1, fun s hs => i2 s (List.mem_cons_of_mem _ hs), fun s hs => ?_⟩
      rcases List.mem_cons.1 hs with rfl | hs'
      · exact Or.inl (i2 _ List.mem_cons_self)
      · exact i3 s hs'
    · have hv' : CanReach succ goal v := by
        rcases Bool.or_eq_true _ _ ▸ hv with hg | hs
        · exact ⟨v, ReachG.init List.mem_cons_self, hg⟩
        · obtain ⟨t, ht, hgood⟩ := List.any_eq_true.1 hs
          rw [forceState_eq] at hgood
          exact (h _ _ _ hgood).step ht
      have h' : GoodOK succ goal (good.add v) := by
        intro k0 k s hs
        rcases Trie.contains_insert good _ _ _ _ _ _ hs with rfl | hs'
        · exact hv'
        · exact h _ _ _ hs'
      obtain ⟨i1, i2, i3⟩ := sweep_spec todo (good.add v) rest h'
      refine ⟨i1, i2, fun s hs => ?_⟩
      rcases List.mem_cons.1 hs with rfl | hs'
      · exact Or.inr hv'
      · exact i3 s hs'

theorem unreached_spec {succ : State → List State} {goal : State → Bool} :
    ∀ (n : Nat) (todo : List State) (good : Trie), GoodOK succ goal good →
      ∀ s, s ∈ todo → s ∈ unreached succ goal n todo good ∨ CanReach succ goal s
  | 0, _, _, _, _, hs => Or.inl hs
  | n + 1, todo, good, h, s, hs => by
    obtain ⟨i1, _, i3⟩ := sweep_spec todo good [] h
    rcases i3 s hs with hr | hr
    · exact unreached_spec n _ _ i1 s hr
    · exact Or.inr hr

theorem unreached_sound {succ : State → List State} {goal : State → Bool} {n : Nat} {todo : List State} {s : State}
    (hs : s ∈ todo) (hn : s ∉ unreached succ goal n todo (Trie.full trieDepth)) : CanReach succ goal s :=
  (unreached_spec n todo _ (fun k0 k s h => by simp [Trie.contains_full] at h) s hs).resolve_left hn

#print axioms explore_sound
#print axioms explore_complete
#print axioms checkAll_sound
#print axioms checkAllAny_sound
#print axioms checkInv_sound
#print axioms findBad_sound
#print axioms findBad_reachable
#print axioms findBad_exists
#print axioms strictNext_sub_next
#print axioms enabledStrict_iff
#print axioms enabledStrict_progress
#print axioms canFinish_sound
#print axioms canFinish_all
#print axioms canReach_sound
#print axioms canReach_all

end Raft.Chan
