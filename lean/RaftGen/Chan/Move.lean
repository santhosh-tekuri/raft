import RaftGen.Chan.Model

/-!
What one step of a process can be: `Move y s i t` lists the moves `procNext y s i` generates, each with the guard under which it
is generated and the state it leads to. Facts about every step (who moved, what happened to `closed` and `bad`, …) are proved by
`cases` on it instead of walking `procNext`, `caseSucc`, `sendSucc`, `partnerSucc`, `recvSucc`, `rangeSucc`, `dfltSucc`.
ONE direction only: `procNext_move` says that every element of `procNext` is a `Move`; the converse is not proved, so `Move`
serves to derive facts about every step, not to exhibit one (for that: `strictNext`, `canFinish` of Sound.lean).
-/
namespace Raft.Chan

inductive Move (y : Sys) (s : State) (i : Nat) : State → Prop
  /-- a receive case of a `select` takes an item -/
  | recvItem {cs d k} (hn : y.nodeAt s i = .comm cs d) (hk : k ∈ cs) (hr : k.send = false)
      (hb : Nat.blt 0 (s.buf k.chan) = true) :
      Move y s i ((s.setPc i k.next).setBuf k.chan (Nat.sub (s.buf k.chan) 1))
  /-- … finds the channel empty and closed -/
  | recvClosed {cs d k} (hn : y.nodeAt s i = .comm cs d) (hk : k ∈ cs) (hr : k.send = false)
      (hb : Nat.blt 0 (s.buf k.chan) = false) (hc : s.isClosed k.chan = true) : Move y s i (s.setPc i k.next)
  /-- … is served by the environment -/
  | recvExt {cs d k} (hn : y.nodeAt s i = .comm cs d) (hk : k ∈ cs) (hr : k.send = false)
      (hb : Nat.blt 0 (s.buf k.chan) = false) (hc : s.isClosed k.chan = false)
      (hx : y.kinds[k.chan]? = some .external) : Move y s i (s.setPc i k.next)
  /-- a send case on a closed channel: panic -/
  | sendClosed {cs d k} (hn : y.nodeAt s i = .comm cs d) (hk : k ∈ cs) (hs : k.send = true)
      (hc : s.isClosed k.chan = true) : Move y s i ((s.setPc i k.next).setBad true)
  | sendBuf {cs d k cap} (hn : y.nodeAt s i = .comm cs d) (hk : k ∈ cs) (hs : k.send = true)
      (hc : s.isClosed k.chan = false) (hx : y.kinds[k.chan]? = some (.buffered cap))
      (hb : Nat.blt (s.buf k.chan) cap = true) :
      Move y s i ((s.setPc i k.next).setBuf k.chan (Nat.succ (s.buf k.chan)))
  | sendExt {cs d k} (hn : y.nodeAt s i = .comm cs d) (hk : k ∈ cs) (hs : k.send = true)
      (hc : s.isClosed k.chan = false) (hx : y.kinds[k.chan]? = some .external) : Move y s i (s.setPc i k.next)
  /-- rendezvous with the receive case `k'` of the `select` process `j` stands at (not both with `default`) -/
  | meetSelect {cs d k j cs' d' k'} (hn : y.nodeAt s i = .comm cs d) (hk : k ∈ cs) (hs : k.send = true)
      (hc : s.isClosed k.chan = false) (hx : y.kinds[k.chan]? = some .sync)
      (hj : j < y.procs.length) (hji : Nat.beq j i = false) (hn' : y.nodeAt s j = .comm cs' d')
      (hd : (d.isSome && d'.isSome) = false) (hk' : k' ∈ cs') (hr' : k'.send = false)
      (hch : Nat.beq k'.chan k.chan = true) : Move y s i ((s.setPc i k.next).setPc j k'.next)
  /-- rendezvous with the `recvOrClosed` process `j` stands at -/
  | meetRange {cs d k j c nI nC} (hn : y.nodeAt s i = .comm cs d) (hk : k ∈ cs) (hs : k.send = true)
      (hc : s.isClosed k.chan = false) (hx : y.kinds[k.chan]? = some .sync)
      (hj : j < y.procs.length) (hji : Nat.beq j i = false) (hn' : y.nodeAt s j = .recvOrClosed c nI nC)
      (hch : Nat.beq c k.chan = true) : Move y s i ((s.setPc i k.next).setPc j nI)
  | dflt {cs dn} (hn : y.nodeAt s i = .comm cs (some dn)) (hr : cs.any (caseReady y s) = false) :
      Move y s i (s.setPc i dn)
  | close {c n} (hn : y.nodeAt s i = .close c n) : Move y s i (closeSucc y s i c n)
  | choice {ns n} (hn : y.nodeAt s i = .choice ns) (h : n ∈ ns) : Move y s i (s.setPc i n)
  | rangeItem {c nI nC} (hn : y.nodeAt s i = .recvOrClosed c nI nC) (hb : Nat.blt 0 (s.buf c) = true) :
      Move y s i ((s.setPc i nI).setBuf c (Nat.sub (s.buf c) 1))
  | rangeClosed {c nI nC} (hn : y.nodeAt s i = .recvOrClosed c nI nC) (hb : Nat.blt 0 (s.buf c) = false)
      (hc : s.isClosed c = true) : Move y s i (s.setPc i nC)
  /-- the environment delivers an item, or closes -/
  | rangeExtItem {c nI nC} (hn : y.nodeAt s i = .recvOrClosed c nI nC) (hb : Nat.blt 0 (s.buf c) = false)
      (hc : s.isClosed c = false) (hx : y.kinds[c]? = some .external) : Move y s i (s.setPc i nI)
  | rangeExtClosed {c nI nC} (hn : y.nodeAt s i = .recvOrClosed c nI nC) (hb : Nat.blt 0 (s.buf c) = false)
      (hc : s.isClosed c = false) (hx : y.kinds[c]? = some .external) : Move y s i (s.setPc i nC)

variable {y : Sys} {s : State} {i : Nat}

theorem recvSucc_move {cs d k} (hn : y.nodeAt s i = .comm cs d) (hk : k ∈ cs) (hr : k.send = false) :
    ∀ p ∈ recvSucc y s i k, p.1 = i ∧ Move y s i p.2 := by
  intro p hp
  unfold recvSucc at hp
  cases hb : Nat.blt 0 (s.buf k.chan)
  · cases hc : s.isClosed k.chan
    · simp only [hb, hc, cond] at hp
      split at hp
      · next hx => cases List.mem_singleton.1 hp; exact ⟨rfl, .recvExt hn hk hr hb hc hx⟩
      · exact absurd hp List.not_mem_nil
    · simp only [hb, hc, cond] at hp
      cases List.mem_singleton.1 hp; exact ⟨rfl, .recvClosed hn hk hr hb hc⟩
  · simp only [hb, cond] at hp
    cases List.mem_singleton.1 hp; exact ⟨rfl, .recvItem hn hk hr hb⟩

theorem rangeSucc_move {c nI nC} (hn : y.nodeAt s i = .recvOrClosed c nI nC) :
    ∀ p ∈ rangeSucc y s i c nI nC, p.1 = i ∧ Move y s i p.2 := by
  intro p hp
  unfold rangeSucc at hp
  cases hb : Nat.blt 0 (s.buf c)
  · cases hc : s.isClosed c
    · simp only [hb, hc, cond] at hp
      split at hp
      · next hx =>
        rcases List.mem_cons.1 hp with rfl | hp
        · exact ⟨rfl, .rangeExtItem hn hb hc hx⟩
        · cases List.mem_singleton.1 hp; exact ⟨rfl, .rangeExtClosed hn hb hc hx⟩
      · exact absurd hp List.not_mem_nil
    · simp only [hb, hc, cond] at hp
      cases List.mem_singleton.1 hp; exact ⟨rfl, .rangeClosed hn hb hc⟩
  · simp only [hb, cond] at hp
    cases List.mem_singleton.1 hp; exact ⟨rfl, .rangeItem hn hb⟩

theorem sendSucc_move {cs d k} (hn : y.nodeAt s i = .comm cs d) (hk : k ∈ cs) (hs : k.send = true) :
    ∀ p ∈ sendSucc y s i d.isSome k, p.1 = i ∧ Move y s i p.2 := by
  intro p hp
  unfold sendSucc at hp
  cases hc : s.isClosed k.chan
  · simp only [hc, cond] at hp
    split at hp
    · next cap hx =>
      cases hb : Nat.blt (s.buf k.chan) cap
      · simp only [hb] at hp; exact absurd hp List.not_mem_nil
      · simp only [hb] at hp
        cases List.mem_singleton.1 hp; exact ⟨rfl, .sendBuf hn hk hs hc hx hb⟩
    · next hx =>
      obtain ⟨j, hj, hp⟩ := List.mem_flatMap.1 hp
      cases hji : Nat.beq j i
      · simp only [hji] at hp
        unfold partnerSucc at hp
        split at hp
        · next cs' d' hn' =>
          cases hd : d.isSome && d'.isSome
          · simp only [hd, cond] at hp
            obtain ⟨k', hk', hp⟩ := List.mem_filterMap.1 hp
            cases hr' : k'.send
            · cases hch : Nat.beq k'.chan k.chan
              · simp [hr', hch] at hp
              · simp only [hr', hch, Bool.not_false, Bool.and_self, Option.some.injEq] at hp
                cases hp
                exact ⟨rfl, .meetSelect hn hk hs hc hx (List.mem_range.1 hj) hji hn' hd hk' hr' hch⟩
            · simp [hr'] at hp
          · simp only [hd, cond] at hp; exact absurd hp List.not_mem_nil
        · next c nI nC hn' =>
          cases hch : Nat.beq c k.chan
          · simp only [hch, cond] at hp; exact absurd hp List.not_mem_nil
          · simp only [hch, cond] at hp
            cases List.mem_singleton.1 hp
            exact ⟨rfl, .meetRange hn hk hs hc hx (List.mem_range.1 hj) hji hn' hch⟩
        · exact absurd hp List.not_mem_nil
      · simp only [hji] at hp; exact absurd hp List.not_mem_nil
    · next hx => cases List.mem_singleton.1 hp; exact ⟨rfl, .sendExt hn hk hs hc hx⟩
    · exact absurd hp List.not_mem_nil
  · simp only [hc, cond] at hp
    cases List.mem_singleton.1 hp; exact ⟨rfl, .sendClosed hn hk hs hc⟩

theorem procNext_move {p : Nat × State} (h : p ∈ procNext y s i) : p.1 = i ∧ Move y s i p.2 := by
  unfold procNext at h
  split at h
  · next cs d hn =>
    rcases List.mem_append.1 h with h | h
    · obtain ⟨k, hk, hp⟩ := List.mem_flatMap.1 h
      unfold caseSucc at hp
      cases hs : k.send
      · simp only [hs, cond] at hp; exact recvSucc_move hn hk hs p hp
      · simp only [hs, cond] at hp; exact sendSucc_move hn hk hs p hp
    · unfold dfltSucc at h
      split at h
      · next dn =>
        cases hr : cs.any (caseReady y s)
        · simp only [hr, cond] at h
          cases List.mem_singleton.1 h; exact ⟨rfl, .dflt hn hr⟩
        · simp only [hr, cond] at h; exact absurd h List.not_mem_nil
      · exact absurd h List.not_mem_nil
  · next c n hn => cases List.mem_singleton.1 h; exact ⟨rfl, .close hn⟩
  · next ns hn =>
    obtain ⟨n, hm, rfl⟩ := List.mem_map.1 h
    exact ⟨rfl, .choice hn hm⟩
  · exact absurd h List.not_mem_nil
  · next c nI nC hn => exact rangeSucc_move hn p h

end Raft.Chan
