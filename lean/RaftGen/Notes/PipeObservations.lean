import RaftGen.Chan.Sound
import RaftGen.Props.C15PipeSys

/-!
# Observations on the pipelining skeleton that are NOT obligations

Existence statements ("the skeleton has a state in which …"). They document a defect; they are not
part of any check (`lake build RaftGen` does not build this file: it is not imported by `RaftGen.lean`), because a statement
that a defect EXISTS must not turn into an alarm when the defect is repaired. Build by hand: `lake build RaftGen.Notes.PipeObservations`.
-/

namespace Raft.C15Pipe
open Raft.Chan

/-- OBSERVATION (e): with a panicking `writeAppendEntriesReq` the writer's deferred function sends on the channel it has just
    closed: a reachable panicked state with the writer just after that send -/
theorem recover_path_sends_on_closed :
    ∃ s, Reachable pipeSysP s ∧ (!noPanic s && memNat (s.pc writer) Gen.pipeWriterP_at_recoverSend) = true := by
  obtain ⟨s, hs, hp⟩ := findBad_exists (y := pipeSysP) (fuel := 3500)
    (P := fun s => !(!noPanic s && memNat (s.pc writer) Gen.pipeWriterP_at_recoverSend)) (by decide +kernel)
  exact ⟨s, hs, by simpa only [Bool.not_eq_false'] using hp⟩

end Raft.C15Pipe
