import RaftGen.Chan.Sound
import RaftGen.Props.C15PipeSys

/-! Kernel evaluation for `RaftGen/Props/C15Pipe.lean`, variant P (a panicking `writeAppendEntriesReq`): one exploration of `pipeSysP`. -/

namespace Raft.C15Pipe
open Raft.Chan

/-- one exploration of `pipeSysP` (2503 states): every panicked state has the writer just after the send of its deferred function -/
theorem pipeSysP_explored :
    ∀ s, Reachable pipeSysP s → (noPanic s || memNat (s.pc writer) Gen.pipeWriterP_at_recoverSend) = true :=
  checkAll_sound (fuel := 3500) (by decide +kernel)

end Raft.C15Pipe
