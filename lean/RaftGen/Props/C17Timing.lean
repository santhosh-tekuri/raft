import RaftVerif.Model.Timing
import RaftGen.Gen.Timing

/-!
# C17 — the leader is heard often enough (timing facts regenerated from the Go source)

`Raft.Gen.*` (file `RaftGen/Gen/Timing.lean`) is written by the translator `go/astfacts` from the Go source on every run:
the bound `replication.runLoop` hands to `backOff` for its retry timer, the idle heartbeat period of
`replication.checkLeaderUpdate`, the argument of every election-timer site in follower.go / candidate.go, the body of
`randTime.duration`, and the constants of util.go. `Raft.Timing.backOff` is the hand-written model of util.go `backOff`, tied
to the code by the repldiff correspondence. All durations are nanoseconds (`time.Duration`).

What C17 needs from these numbers: "while followers keep hearing from a live leader" must be *achievable* — a leader that is
alive and connected reaches every follower more often than the shortest election timeout a follower can draw, when idle
(heartbeats) and after connection failures (retries); otherwise followers start needless elections and the bound "within a
bounded number of election timeouts" is lost. Network latency and scheduling delay are outside the model: the theorems
compare *requested* timer durations.
-/

namespace Raft.C17Timing
open Raft.Timing

/-- `backOff` never exceeds the bound it is given -/
theorem backOff_le_max (round max : Nat) : backOff round max ≤ max := by
  unfold backOff; dsimp only; split <;> omega

/-- … and never exceeds `failureWait · 2^(maxFailureScale-2)` (10.24 s), whatever the number of failures -/
theorem backOff_le_cap (round max : Nat) : backOff round max ≤ failureWait * 2 ^ (maxFailureScale - 2) := by
  unfold backOff; dsimp only
  have h : min round maxFailureScale - 2 ≤ maxFailureScale - 2 := by
    have := Nat.min_le_right round maxFailureScale; omega
  have h2 : failureWait * 2 ^ (min round maxFailureScale - 2) ≤ failureWait * 2 ^ (maxFailureScale - 2) :=
    Nat.mul_le_mul_left _ (Nat.pow_le_pow_right (by decide) h)
  split <;> omega

/-- more failures never shorten the delay -/
theorem backOff_mono (r₁ r₂ max : Nat) (h : r₁ ≤ r₂) : backOff r₁ max ≤ backOff r₂ max := by
  unfold backOff; dsimp only
  have hm : min r₁ maxFailureScale - 2 ≤ min r₂ maxFailureScale - 2 := by
    have : min r₁ maxFailureScale ≤ min r₂ maxFailureScale := by
      simp only [Nat.le_min]; constructor
      · exact Nat.le_trans (Nat.min_le_left _ _) h
      · exact Nat.min_le_right _ _
    omega
  have h2 : failureWait * 2 ^ (min r₁ maxFailureScale - 2) ≤ failureWait * 2 ^ (min r₂ maxFailureScale - 2) :=
    Nat.mul_le_mul_left _ (Nat.pow_le_pow_right (by decide) hm)
  split <;> split <;> omega

/-- the first two attempts wait `failureWait` (or the bound, if smaller) -/
theorem backOff_first (round max : Nat) (h : round ≤ 2) : backOff round max = min failureWait max := by
  unfold backOff; dsimp only
  have : min round maxFailureScale - 2 = 0 := by
    have := Nat.min_le_left round maxFailureScale; omega
  rw [this]; simp only [Nat.pow_zero, Nat.mul_one]
  split <;> omega

/-- the constants of the hand-written model are those of util.go -/
theorem constants_agree : Gen.failureWait = failureWait ∧ Gen.maxFailureScale = maxFailureScale := by decide

/-- every election-timer site arms its timer with `randTime.duration(hbTimeout)` -/
theorem election_sites (hb : Nat) : ∀ f ∈ Gen.electionArgs, f hb = hb := by
  simp [Gen.electionArgs]

/-- **the election timeout is drawn from `[hb, 2·hb)`**, whatever the random draw `x` -/
theorem election_timeout_range (hb x : Nat) (h : 0 < hb) :
    hb ≤ Gen.randDuration hb x ∧ Gen.randDuration hb x < 2 * hb := by
  unfold Gen.randDuration
  have := Nat.mod_lt x h
  omega

/-- two draws differ by less than `hb`, and every value of `[hb, 2·hb)` is drawn by some `x`: the randomisation that
    breaks split votes has the full range -/
theorem election_timeout_onto (hb t : Nat) (h1 : hb ≤ t) (h2 : t < 2 * hb) : ∃ x, Gen.randDuration hb x = t := by
  refine ⟨t - hb, ?_⟩
  unfold Gen.randDuration
  have : (t - hb) % hb = t - hb := Nat.mod_eq_of_lt (by omega)
  omega

/-- **C17 — retries.** However often the connection to a follower failed before, the leader's replication goroutine waits less
    than the shortest election timeout any follower can draw before it tries again. -/
theorem retry_before_election_timeout (hb round x : Nat) (h : 0 < hb) :
    ∀ f ∈ Gen.electionArgs, backOff round (Gen.retryMax hb) < Gen.randDuration (f hb) x := by
  intro f hf
  rw [election_sites hb f hf]
  have h1 := backOff_le_max round (Gen.retryMax hb)
  have h2 := (election_timeout_range hb x h).1
  have h3 : Gen.retryMax hb < hb := by unfold Gen.retryMax; omega
  omega

/-- **C17 — idle heartbeats.** An idle leader sends a heartbeat to every voter at least twice per shortest election timeout:
    one lost heartbeat does not make a follower time out. -/
theorem heartbeat_before_election_timeout (hb x : Nat) (h : 0 < hb) :
    ∀ f ∈ Gen.electionArgs, Gen.heartbeatPeriod hb < Gen.randDuration (f hb) x ∧
      2 * Gen.heartbeatPeriod hb ≤ Gen.randDuration (f hb) x := by
  intro f hf
  rw [election_sites hb f hf]
  have h2 := (election_timeout_range hb x h).1
  unfold Gen.heartbeatPeriod
  omega

/-- `replication.deadlineSize(size)` with the call-site facts of the source: the time `durationFor` computes for the declared
    bandwidth and the payload size, but at least the floor -/
def writeTimeout (bw size hb : Nat) : Nat :=
  let t := durationFor (Gen.deadlineArgs bw size).1 (Gen.deadlineArgs bw size).2
  if t < Gen.deadlineFloor hb then Gen.deadlineFloor hb else t

/-- **C17 — write deadlines.** A batch of entries or a snapshot of `size` bytes gets a write deadline that a link delivering
    the bandwidth DECLARED in `Options.Bandwidth` can meet: the deadline is at least `size / bandwidth` seconds (and at least
    two heartbeat timeouts). Otherwise a payload larger than bandwidth × floor could never be delivered: every attempt times
    out, the same batch is resent with the same deadline, and a lagging follower never catches up. -/
theorem write_deadline_covers_declared_bandwidth (bw size hb : Nat) :
    size * 1000000000 / bw ≤ writeTimeout bw size hb ∧ 2 * hb ≤ writeTimeout bw size hb := by
  unfold writeTimeout Gen.deadlineArgs Gen.deadlineFloor durationFor
  dsimp only
  split <;> omega

def expectedDurationFor : String :=
  "func(bandwidth int64, n int64) time.Duration { seconds := float64(n) / float64(bandwidth) return time.Duration(1e9 * seconds) }"

/-- **tie**: util.go `durationFor` takes (bandwidth, n) in this order and is the formula the model was written from -/
theorem durationFor_source : Gen.durationForSrc = expectedDurationFor := rfl

/-- EXAMPLE: 256 KiB over a link declared at 16 KiB/s with a 1 s heartbeat timeout: 16 s, not the 2 s floor -/
example : writeTimeout 16384 262144 1000000000 = 16000000000 := by decide

/-- EXAMPLE (hypotheses satisfiable, numbers of the default options: hbTimeout = 1 s): after the 9th failure the retry delay is
    the bound 500 ms, below the election timeout 1 s + (x mod 1 s). -/
example : backOff 9 (Gen.retryMax 1000000000) = 500000000 ∧ Gen.randDuration 1000000000 123456789012 = 1456789012 ∧
    backOff 3 (Gen.retryMax 1000000000) = 20000000 := by decide

end Raft.C17Timing

#print axioms Raft.C17Timing.backOff_le_max
#print axioms Raft.C17Timing.backOff_le_cap
#print axioms Raft.C17Timing.backOff_mono
#print axioms Raft.C17Timing.backOff_first
#print axioms Raft.C17Timing.constants_agree
#print axioms Raft.C17Timing.election_sites
#print axioms Raft.C17Timing.election_timeout_range
#print axioms Raft.C17Timing.election_timeout_onto
#print axioms Raft.C17Timing.retry_before_election_timeout
#print axioms Raft.C17Timing.heartbeat_before_election_timeout
#print axioms Raft.C17Timing.write_deadline_covers_declared_bandwidth
#print axioms Raft.C17Timing.durationFor_source
