/-
C05 — the candidate's own vote: `candidate.startElection` must make its self vote for term T+1 durable BEFORE any
vote request for T+1 can leave the node.  Otherwise a crash between the two lets the restarted node (durable term T,
no vote) grant its vote to another candidate of T+1 although it has already asked — and possibly obtained — votes for
itself in that term: two votes of one node in one term, and a term reported lower than one it reported before.

`Gen.startElectionEvents` is regenerated from candidate.go on every run (go/astfacts -what order): the persist calls,
the construction of the request and the `go` statements that send it, in source order, terms relative to `c.term` at
entry.  The little machine below runs them; `requests_carry_durable_term` is the proof obligation that breaks when the
order (or the term the request carries) changes.  The node model's `startElection` (Model/Handlers.lean) is atomic —
persist, then answer — which is faithful only under this obligation.
-/
import RaftGen.Gen.Order

namespace Raft.C05Order
open Raft.Gen

/-- `cur` = c.term, `durable` = the term on disk (both relative to c.term at entry), `req` = the term the request
carries, `bad` = a request left the node with a term that is not on disk -/
structure St where
  cur : Nat := 0
  durable : Nat := 0
  req : Option Nat := none
  sent : Nat := 0
  bad : Bool := false
  deriving DecidableEq, Repr

def step (s : St) : ElectEv → St
  | .persist k => { s with cur := s.cur + k, durable := s.cur + k }
  | .mkreq k => { s with req := some (s.cur + k) }
  | .spawn => match s.req with
    | some t => { s with sent := s.sent + 1, bad := s.bad || decide (s.durable < t) }
    | none => { s with bad := true }

def run (evs : List ElectEv) : St := evs.foldl step {}

/-- `bad` is sticky, so the final flag speaks for every prefix: no request ever left with a term above the durable one -/
theorem bad_sticky (evs : List ElectEv) (s : St) (h : s.bad = true) : (evs.foldl step s).bad = true := by
  refine List.foldlRecOn (motive := fun s => s.bad = true) evs step h fun s h e _ => ?_
  cases e <;> simp only [step]
  · exact h
  · exact h
  · split <;> simp [h]

/-- every vote request that startElection sends carries a term that is already on disk, with the node's own vote -/
theorem requests_carry_durable_term : (run startElectionEvents).bad = false := by decide

/-- and it is the new term that is requested: one persist of T+1, requests for T+1, at least one `go` -/
theorem election_is_for_next_term :
    (run startElectionEvents).durable = 1 ∧ (run startElectionEvents).req = some 1 ∧ 0 < (run startElectionEvents).sent := by
  decide

/-- the machine is not trivially happy: sending first is flagged -/
example : (run [.mkreq 1, .spawn, .persist 1]).bad = true := by decide

end Raft.C05Order

#print axioms Raft.C05Order.bad_sticky
#print axioms Raft.C05Order.requests_carry_durable_term
#print axioms Raft.C05Order.election_is_for_next_term
