import RaftGen.Chan.Sound
import RaftGen.Gen.Skel
import RaftGen.Props.C15Chan
import RaftGen.Props.C15PipeSys
import RaftGen.Props.C15PipeSafe
import RaftGen.Props.C15PipeLive

/-!
# C15 — the pipelining protocol of `replication.replicate`: goroutines terminate, no deadlock, no send on a closed channel

`Raft.Gen.pipeReader / pipeWriter / pipeDrainerStop / pipeDrainerStale` (file `RaftGen/Gen/Skel.lean`) are written by the
translator `go/astfacts` from the Go source on every run: ONE pipelining episode of `replicate()` — the statements from
`var ( resultCh = make(chan result, 128); stopCh = make(chan struct{}) )` to the end of the body of the outer loop — as one
process per goroutine:

* process 0 `pipeReader`: the goroutine that called `replicate` (the `select { <-r.stopCh | result = <-resultCh }` loop, the
  three `close(stopCh)` sites, the inlined closures `drainResps` / `drainRespsTimeout`); `halt` 0 = `return`, `halt` 1 = end
  of the loop body (`break` out of the pipeline loop: next iteration = probe again, possibly a NEW episode);
* process 1 `pipeWriter`: `go func() { defer func(){ close(resultCh); … }(); for { writeAppendEntriesReq; select {…} … } }()`;
* processes 2, 3 `pipeDrainerStop`, `pipeDrainerStale`: the `go func(){ drained <- drainResps() }()` of the two inlined calls of
  `drainRespsTimeout` (after the leader's stop signal / after a stale-term response), each with its own `drained` channel;
* process 4: the leader (hand-written: `leader` in `C15PipeSys.lean`).

Channels (`Gen.pipeChanNames`): 0 `r.leaderUpdateCh`, 1 `r.stopCh` (the FIELD), 2 `r.replUpdateCh`, 3 timers (4–6 do not occur in an episode), then the LOCAL
ones: `replicate.resultCh` split in two halves by the translator (`pipeCh_resultCh`: results with `err == nil`,
`pipeCh_resultCh_err`: results with `err != nil` — so that the branch the reader takes on `result.err != nil` is the one the
writer took on `err != nil`; the order between the halves is lost: an over-approximation), `replicate.stopCh` (`pipeCh_stopCh`,
which SHADOWS the field), the two `drained`, each split in the same way (`pipeCh_drained_k`: `drainResps()` returned nil, i.e. its
`for range resultCh` ended because `resultCh` was closed; `pipeCh_drained_err_k`: it returned the error of a failed `readResp` — so
that the reader's `if err != nil` after `err := <-drained` takes the branch that matches), and one `start:…` channel per go
statement (closed by the spawner).

## Modelling assumptions

* **Leader = the most general environment.** `r.leaderUpdateCh` and `r.replUpdateCh` are given the kind `external`: a send or a
  receive on them MAY complete at any time, or never (the leader may or may not send updates, may or may not drain reports;
  their buffers may be full or not). Such an operation is never counted as "can move on its own". `r.stopCh` is closed by the
  leader at any time, at most once, and never sent on (`C15Chan.report_census`): process `leader`.
* **Timers are external** (`time.After`, `r.timer.C`). **Socket reads/writes carry deadlines** (`r.deadline()`), so they are
  terminating local steps of their goroutine (not channel operations; invisible in the skeleton). `safeTimer.reset` is opaque
  (`Gen.pipe_opaque`; its protocol is `C15Timer`).
* **Capacities are clamped**: `resultCh` 128 → 2 (half `err == nil`) and 1 (half `err != nil`: one such result is ever sent).
  For the never-stuck / can-finish theorems this is the HARDER case (a smaller buffer only makes the writer block earlier; receives
  are unaffected). For `pipeline_no_panic` it is a bounded check (the regimes empty / neither / full all occur);
  `Search/Pipe.lean` repeats it with larger capacities outside the kernel.
* **Data is erased** except four tracked conditions (`err != nil` in the writer, `result.err != nil` in the reader, the error
  result of `drainResps()`, the error delivered on `drained`): every other branch is a free choice, so every real execution is a
  path of the skeleton.
* **One episode.** Every channel of an episode other than 0–3 is a fresh local that does not escape (checked by the
  translator), so a later episode cannot touch it; `reader_returns_only_after_writer_done` shows that when the reader leaves the
  episode — returns from `replicate()` or goes on to the next iteration — the writer is past its last communication and its
  last use of the connection.
* **Explicit `panic(…)` statements** of inlined callees (`onAppendEntriesResp`: `[BUG]` default case) are no-ops; variant P
  models a panic of `writeAppendEntriesReq` (it reaches `panic(opError(…))` in `getEntryTerm` / `writeEntriesTo`).
-/

namespace Raft.C15Pipe
open Raft.Chan

theorem inv_holds (s : State) (hs : Reachable pipeSys s) : inv s = true := pipeSys_explored.1 s hs

/-- **no panic in the panic-free episode**, in any interleaving, whatever the leader does: no send on the closed `resultCh`,
    no double `close(stopCh)` — of the reader's three `close(stopCh)` sites (`three_close_sites`) at most one executes per
    episode —, no go statement executed twice (a second start would be a double close of its `start:` channel) -/
theorem pipeline_no_panic : ∀ s, Reachable pipeSys s → noPanic s = true := by
  intro s hs
  have h := inv_holds s hs
  simp only [inv, Bool.and_eq_true] at h
  exact h.1.1.1.1.1

/-- **the writer closes `resultCh` on every exit path** (the deferred `close(resultCh)`): once it has returned, both halves are closed -/
theorem writer_closes_resultCh_on_every_exit :
    ∀ s, Reachable pipeSys s → halted pipeSys s writer = true → s.isClosed resultCh = true ∧ s.isClosed resultChErr = true := by
  intro s hs hw
  have h := inv_holds s hs
  simp only [inv, Bool.and_eq_true, hw, Bool.not_true, Bool.false_or] at h
  exact h.1.1.1.1.2

/-- **`for range resultCh` ends / the reader is never stuck on `resultCh` or `drained`**: once the writer has returned, the reader
    has left, or can move on its own (a receive from the closed `resultCh`, a `drained` that was delivered), or a drainer it waits
    for can move on its own — or it stands in `notifyLdr`, where it waits for the leader, not for the episode -/
theorem reader_never_stuck_after_writer_exit :
    ∀ s, Reachable pipeSys s → halted pipeSys s writer = true →
      (halted pipeSys s reader || inNotifyLdr pipeSys s reader || enabledStrict pipeSys s reader ||
        live pipeSys s drainerStop || live pipeSys s drainerStale) = true := by
  intro s hs hw
  have h := inv_holds s hs
  simp only [inv, Bool.and_eq_true, hw, Bool.not_true, Bool.false_or] at h
  exact h.1.1.1.2

/-- a process that stands at a `for range` over a closed and drained channel can leave the loop on its own -/
theorem range_terminates (y : Sys) (s : State) (i c nI nC : Nat) (h : y.nodeAt s i = .recvOrClosed c nI nC)
    (hb : s.bad = false) (hc : s.isClosed c = true) : enabledStrict y s i = true := by
  simp [enabledStrict, h, hb, recvReady, hc]

/-- **the reader leaves the episode only after the writer is done** (what finding F20 was about): in every reachable state in
    which the reader has returned from `replicate()` or has reached the end of the loop body (next iteration), the writer has
    returned or has only its deferred `close(resultCh)` left. It is past its last communication and past its last use of the
    connection, of `req`, `r.nextIndex`, `r.timer`, `leaderUpdateCh`: `runLoop` gets them back with nobody else using them, and a
    later episode starts with the old writer gone. -/
theorem reader_returns_only_after_writer_done :
    ∀ s, Reachable pipeSys s → readerLeft s = true → onExitPath pipeSys s writer = true := by
  intro s hs hl
  have h := inv_holds s hs
  simp only [inv, Bool.and_eq_true, hl, Bool.not_true, Bool.false_or] at h
  exact h.1.1.2

/-- … in particular no reachable state has the reader returned while the writer is about to execute / executing
    `writeAppendEntriesReq` (on the code as found there was one: F20) -/
theorem writer_never_outlives_reader :
    ∀ s, Reachable pipeSys s → readerLeft s = true → memNat (s.pc writer) Gen.pipeWriter_at_write = false := by
  intro s hs hl
  have h := inv_holds s hs
  simp only [inv, Bool.and_eq_true, hl, Bool.not_true, Bool.false_or, Bool.not_eq_true'] at h
  exact h.2

/-- the next iteration, separately (the statement that justifies modelling ONE episode) -/
theorem next_iteration_only_after_writer_exit :
    ∀ s, Reachable pipeSys s → s.pc reader = Gen.pipeReader_next → onExitPath pipeSys s writer = true := by
  intro s hs hp
  apply reader_returns_only_after_writer_done s hs
  simp only [readerLeft, halted, Sys.nodeAt, hp]
  decide

/-- successors of a node of a control-flow graph through an edge that is NOT a send on channel `c` -/
def succAvoiding (c : Nat) : Node → List Nat
  | .comm cs d => (cs.filter fun k => !(k.send && Nat.beq k.chan c)).map (·.next) ++ d.toList
  | .close _ n => [n]
  | .choice ns => ns
  | .halt => []
  | .recvOrClosed _ a b => [a, b]

/-- the program counters of `p` that can be reached from `work` without sending on `c` (`none`: out of fuel) -/
def reachAvoiding (p : Proc) (c : Nat) : Nat → List Nat → List Nat → Option (List Nat)
  | _, [], seen => some seen
  | 0, _ :: _, _ => none
  | fuel + 1, x :: work, seen =>
    bif memNat x seen then reachAvoiding p c fuel work seen
    else reachAvoiding p c fuel (succAvoiding c (p.code.getD x .halt) ++ work) (x :: seen)

/-- the node is on the way out of the goroutine: `close` (the deferred `close(resultCh)`) or the return -/
def isExitNode : Node → Bool
  | .halt => true
  | .close _ _ => true
  | _ => false

def offersRecvAndSend (a b : Nat) : Node → Bool
  | .comm cs _ => (cs.any fun k => !k.send && Nat.beq k.chan a) && (cs.any fun k => k.send && Nat.beq k.chan b)
  | _ => false

/-- **every written request is reported**: in the control-flow graph of the writer, from the point just after
    `writeAppendEntriesReq` returned nil (`Gen.pipeWriter_at_written`: the request is on the wire and WILL be answered) there is no
    way to the writer's exit — its deferred `close(resultCh)`, its return — that does not pass through a send on `resultCh`; and no
    `select` of the writer offers `<-stopCh` next to that send (the code as found did: the report of a written request could be
    dropped when the pipeline was being stopped, its answer stayed unread). And when the writer stands at that point the
    reader is still in the episode to take the report, and `resultCh` is still open. -/
theorem every_written_request_is_reported :
    Gen.pipeWriter_at_written ≠ [] ∧
    (match reachAvoiding Gen.pipeWriter resultCh 100 Gen.pipeWriter_at_written [] with
      | some pcs => pcs.all fun pc => !isExitNode (Gen.pipeWriter.code.getD pc .halt)
      | none => false) = true ∧
    (Gen.pipeWriter.code.all fun n => !offersRecvAndSend stopCh resultCh n) = true ∧
    (∀ s, Reachable pipeSys s → writerHasWritten s = true → readerLeft s = false ∧ s.isClosed resultCh = false) := by
  refine ⟨by decide +kernel, by decide +kernel, by decide +kernel, ?_⟩
  intro s hs hw
  have h := inv_holds s hs
  simp only [inv, Bool.and_eq_true, hw, Bool.not_true, Bool.false_or, Bool.not_eq_true'] at h
  exact h.1.2

/-- **the writer terminates once stopped**: from EVERY reachable state in which the reader's `close(stopCh)` (the LOCAL one) has
    happened, the goroutines of the episode can bring the writer to its return on their own — strict steps only, no timer fires,
    the leader does nothing, no panic — unless the writer is blocked in `notifyLdr` with `r.stopCh` still open, where only the
    leader releases it (`C15Chan.notifyLdr_returns_once_stopped`). (The writer alone is not enough since the repair of F21: a request
    that is on the wire is always reported on `resultCh`, and the reader, which drains `resultCh` until it is closed on every exit,
    may have to take that report.) -/
theorem writer_terminates_once_stopped :
    ∀ s, Reachable pipeSys s → s.isClosed stopCh = true → writerWaitsForLeader s = false →
      ∃ t, GroupReach pipeSys goroutines s t ∧ halted pipeSys t writer = true :=
  pipeSys_explored.2.2

/-- **once `r.stopCh` is closed by the leader, the whole replication goroutine can finish**: in the probe loop
    `checkLeaderUpdate` returns (`C15Chan.checkLeaderUpdate_returns_once_stopped`), and from EVERY reachable state of a pipelining
    episode the goroutines of the episode can, on their own (strict steps: no timer fires, the leader does nothing more),
    reach the state where reader and writer have returned and every started drainer has returned. Since `r.stopCh` stays
    closed this holds again in every state they pass through: under a fair scheduler the episode ends. -/
theorem replication_can_finish_once_stopped :
    (∀ s, Reachable C15Chan.waitSys s → (!s.isClosed 1 || enabledStrict C15Chan.waitSys s 0) = true) ∧
    (∀ s, Reachable pipeSys s → s.isClosed rStopCh = true →
      ∃ t, GroupReach pipeSys goroutines s t ∧ allDone t = true ∧ Reachable pipeSys t) := by
  refine ⟨C15Chan.checkLeaderUpdate_returns_once_stopped, ?_⟩
  intro s hs h1
  obtain ⟨t, ht, hg⟩ := pipeSys_explored.2.1 s hs h1
  exact ⟨t, ht, hg, ht.reachable hs⟩

/-! OBSERVATION (e) (not an obligation; proved as `recover_path_sends_on_closed` in `RaftGen/Notes/PipeObservations.lean`): if
`writeAppendEntriesReq` panics, the writer's deferred function first does `close(resultCh)` and then
`select { case <-stopCh: return; case resultCh <- result{0, recoverErr(v)}: }` — a send on the channel it has just closed: Go panics
inside the deferred function and the process dies instead of reporting the `OpError`. The obligation below says that this is the
ONLY way an episode can panic, also when `writeAppendEntriesReq` may panic; it stays true if the deferred function is repaired. -/

/-- with a panicking `writeAppendEntriesReq` (variant P) the ONLY way the episode can panic is that send: every reachable panicked
    state has the writer just after it -/
theorem recover_path_is_the_only_panic :
    ∀ s, Reachable pipeSysP s → (noPanic s || memNat (s.pc writer) Gen.pipeWriterP_at_recoverSend) = true :=
  pipeSysP_explored

def sendsOn (p : Proc) (c : Nat) : Bool :=
  p.code.any fun n => match n with
    | .comm cs _ => cs.any fun k => k.send && Nat.beq k.chan c
    | _ => false

def recvsOn (p : Proc) (c : Nat) : Bool :=
  p.code.any fun n => match n with
    | .comm cs _ => cs.any fun k => !k.send && Nat.beq k.chan c
    | .recvOrClosed c' _ _ => Nat.beq c' c
    | _ => false

def closeSites (p : Proc) (c : Nat) : Nat :=
  (p.code.filter fun n => match n with
    | .close c' _ => Nat.beq c' c
    | _ => false).length

/-- **tie**: only the writer sends on / closes `resultCh` (either half); only the reader closes the local `stopCh`, at three
    sites, and nobody sends on it; every `start:` channel is closed at one site of the reader and nowhere else; each `drained`
    is written by its drainer and read by the reader only; nobody in the episode closes or sends on `r.stopCh` -/
theorem episode_census :
    ([Gen.pipeReader, Gen.pipeDrainerStop, Gen.pipeDrainerStale].all fun p =>
      !sendsOn p resultCh && !sendsOn p resultChErr && closeSites p resultCh == 0 && closeSites p resultChErr == 0) = true ∧
    closeSites Gen.pipeReader stopCh = 3 ∧
    ([Gen.pipeWriter, Gen.pipeDrainerStop, Gen.pipeDrainerStale].all fun p => closeSites p stopCh == 0) = true ∧
    ([Gen.pipeReader, Gen.pipeWriter, Gen.pipeDrainerStop, Gen.pipeDrainerStale].all fun p =>
      !sendsOn p stopCh && !sendsOn p rStopCh && closeSites p rStopCh == 0) = true ∧
    ([Gen.pipeCh_start_pipeWriter, Gen.pipeCh_start_pipeDrainerStop, Gen.pipeCh_start_pipeDrainerStale].all fun c =>
      closeSites Gen.pipeReader c == 1 &&
      [Gen.pipeWriter, Gen.pipeDrainerStop, Gen.pipeDrainerStale].all fun p => closeSites p c == 0) = true ∧
    ([Gen.pipeCh_drained_1, Gen.pipeCh_drained_err_1].all fun c =>
      sendsOn Gen.pipeDrainerStop c && !sendsOn Gen.pipeDrainerStale c && !sendsOn Gen.pipeWriter c && !sendsOn Gen.pipeReader c) = true ∧
    ([Gen.pipeCh_drained_2, Gen.pipeCh_drained_err_2].all fun c =>
      sendsOn Gen.pipeDrainerStale c && !sendsOn Gen.pipeDrainerStop c && !sendsOn Gen.pipeWriter c && !sendsOn Gen.pipeReader c) = true ∧
    ([Gen.pipeCh_drained_1, Gen.pipeCh_drained_err_1, Gen.pipeCh_drained_2, Gen.pipeCh_drained_err_2].all fun c =>
      [Gen.pipeWriter, Gen.pipeDrainerStop, Gen.pipeDrainerStale].all fun p => !recvsOn p c) = true := by decide +kernel

theorem three_close_sites : closeSites Gen.pipeReader stopCh = 3 := by decide +kernel

/-- **tie**: variant P differs from the panic-free skeleton in the writer only -/
theorem variantP_differs_in_writer_only :
    Gen.pipeReaderP.code = Gen.pipeReader.code ∧ Gen.pipeReaderP.entry = Gen.pipeReader.entry ∧
    Gen.pipeDrainerStopP.code = Gen.pipeDrainerStop.code ∧ Gen.pipeDrainerStaleP.code = Gen.pipeDrainerStale.code := by decide +kernel

/-- **tie**: the only callee inside the episode with channel operations that is not part of the skeleton is `safeTimer.reset`;
    before the episode (probe loop) `replicate` reaches channel operations only through these three calls (none of which can see
    the local channels of an episode); the panic site of variant P; `resultCh` / `drained` are names used in `replicate` only;
    kinds of the source -/
theorem episode_closed :
    Gen.pipe_opaque = ["reset"] ∧
    Gen.pipe_prefix_calls = ["checkLeaderUpdate", "onAppendEntriesResp", "sendInstallSnapReq"] ∧
    Gen.pipe_panic_sites = ["writeAppendEntriesReq"] ∧
    ((Gen.census.filter fun r => r.1 == "resultCh" || r.1 == "drained").all fun r => r.2.1 == "replication.replicate") = true ∧
    Gen.pipeKinds[resultCh]? = some (Kind.buffered 128) ∧ Gen.pipeKinds[stopCh]? = some Kind.sync ∧
    ([Gen.pipeCh_drained_1, Gen.pipeCh_drained_err_1, Gen.pipeCh_drained_2, Gen.pipeCh_drained_err_2].all fun c =>
      Gen.pipeKinds[c]? == some (Kind.buffered 1)) = true ∧
    Gen.pipeKinds[rStopCh]? = some Kind.sync := by decide +kernel

end Raft.C15Pipe

#print axioms Raft.C15Pipe.pipeline_no_panic
#print axioms Raft.C15Pipe.writer_closes_resultCh_on_every_exit
#print axioms Raft.C15Pipe.reader_never_stuck_after_writer_exit
#print axioms Raft.C15Pipe.range_terminates
#print axioms Raft.C15Pipe.reader_returns_only_after_writer_done
#print axioms Raft.C15Pipe.writer_never_outlives_reader
#print axioms Raft.C15Pipe.next_iteration_only_after_writer_exit
#print axioms Raft.C15Pipe.every_written_request_is_reported
#print axioms Raft.C15Pipe.writer_terminates_once_stopped
#print axioms Raft.C15Pipe.replication_can_finish_once_stopped
#print axioms Raft.C15Pipe.recover_path_is_the_only_panic
#print axioms Raft.C15Pipe.episode_census
#print axioms Raft.C15Pipe.variantP_differs_in_writer_only
#print axioms Raft.C15Pipe.episode_closed
