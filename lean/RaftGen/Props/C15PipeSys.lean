import RaftGen.Chan.Explore
import RaftGen.Gen.Skel

/-!
Systems and state predicates of `RaftGen/Props/C15Pipe.lean` (the pipelining episode of `replication.replicate`); see that file
for the description, the modelling assumptions and the theorems. The kernel evaluations are in `C15PipeSafe.lean` and
`C15PipeLive.lean` (two modules, so that they are checked in parallel). Definitions only (imported by `Search/Pipe.lean` too).
-/

namespace Raft.C15Pipe
open Raft.Chan

/-! ## the systems -/

/-- process numbers -/
abbrev reader : Nat := 0
abbrev writer : Nat := 1
abbrev drainerStop : Nat := 2
abbrev drainerStale : Nat := 3
/-- the replication goroutine's side of the episode -/
abbrev goroutines : List Nat := [0, 1, 2, 3]

/-- channel numbers -/
abbrev rStopCh : Nat := 1
abbrev replUpdateCh : Nat := 2
abbrev stopCh : Nat := Gen.pipeCh_stopCh
abbrev resultCh : Nat := Gen.pipeCh_resultCh
abbrev resultChErr : Nat := Gen.pipeCh_resultCh_err

/-- the kinds of the source with the leader's channels made `external` and `resultCh` clamped to `cap` (+ 1 for the error half);
the two halves of each `drained` keep the capacity 1 of the source -/
def kinds (cap : Nat) : List Kind :=
  (((Gen.pipeKinds.set 0 Kind.external).set replUpdateCh Kind.external).set resultCh (Kind.buffered cap)).set resultChErr
    (Kind.buffered 1)

/-- the leader seen from the episode: at any time it may close `r.stopCh`, once (everything else it does is covered by the
`external` kind of `leaderUpdateCh` / `replUpdateCh`) -/
def leader : Proc := Proc.mk "leader" [Node.close rStopCh 1, Node.halt] 0

/-- one pipelining episode, panic-free -/
def pipeSys : Sys :=
  Sys.mk [Gen.pipeReader, Gen.pipeWriter, Gen.pipeDrainerStop, Gen.pipeDrainerStale, leader] (kinds 2)

/-- one pipelining episode in which `writeAppendEntriesReq` may panic (`getEntryTerm` / `writeEntriesTo` panic on a storage error) -/
def pipeSysP : Sys :=
  Sys.mk [Gen.pipeReaderP, Gen.pipeWriterP, Gen.pipeDrainerStopP, Gen.pipeDrainerStaleP, leader] (kinds 1)

/-! ## state predicates -/

def memNat (x : Nat) : List Nat → Bool
  | [] => false
  | y :: ys => Nat.beq x y || memNat x ys

/-- process `i` stands at the `select` of `notifyLdr` (`case <-r.stopCh: case r.replUpdateCh <- u:`): it waits for the LEADER -/
def inNotifyLdr (y : Sys) (s : State) (i : Nat) : Bool :=
  match y.nodeAt s i with
  | .comm cs _ => cs.any fun k => k.send && Nat.beq k.chan replUpdateCh
  | _ => false

/-- process `i` has work left and can do a step of it without anybody's help -/
def live (y : Sys) (s : State) (i : Nat) : Bool := !halted y s i && enabledStrict y s i

/-- process `i` is past its last communication: only `close`s (the deferred `close(resultCh)`) and the return are left -/
def onExitPath (y : Sys) (s : State) (i : Nat) : Bool :=
  match y.nodeAt s i with
  | .halt => true
  | .close _ _ => true
  | _ => false

/-- the go statement of a drainer has been executed (its `start:` channel is closed) -/
def spawnedStop (s : State) : Bool := s.isClosed Gen.pipeCh_start_pipeDrainerStop
def spawnedStale (s : State) : Bool := s.isClosed Gen.pipeCh_start_pipeDrainerStale

/-- the reader has left the episode (returned from `replicate`, or gone on to the next iteration) -/
def readerLeft (s : State) : Bool := halted pipeSys s reader

/-- every goroutine of the episode is done: reader and writer returned, each drainer returned or was never started -/
def allDone (s : State) : Bool :=
  halted pipeSys s reader && halted pipeSys s writer &&
  (halted pipeSys s drainerStop || !spawnedStop s) &&
  (halted pipeSys s drainerStale || !spawnedStale s)

/-- the writer is blocked in `notifyLdr` and the leader has not closed `r.stopCh`: only the leader can release it
(`C15Chan.notifyLdr_returns_once_stopped`: it does, by draining `replUpdateCh` or by `close(r.stopCh)`) -/
def writerWaitsForLeader (s : State) : Bool := inNotifyLdr pipeSys s writer && !s.isClosed rStopCh

/-! ## predicates on the 2815 reachable states of `pipeSys`

`inv` is evaluated in every reachable state by `episodeChecks_hold` (`C15PipeLive.lean`). The can-finish claims are established there
too, for every reachable state, through the set of states that can reach the goal (`Chan.unreached`); the `canReach` forms below
(`writerCanFinish`, `episodeCanFinish`: one search per state) are what `Search/Pipe.lean` evaluates when it looks for a schedule
to a state from which the goroutines cannot finish. -/

/-- the writer stands just after `writeAppendEntriesReq` returned nil: its request is on the wire and will be answered -/
def writerHasWritten (s : State) : Bool := memNat (s.pc writer) Gen.pipeWriter_at_written

def inv (s : State) : Bool :=
  noPanic s &&
  (!halted pipeSys s writer || (s.isClosed resultCh && s.isClosed resultChErr)) &&
  (!halted pipeSys s writer || halted pipeSys s reader || inNotifyLdr pipeSys s reader || enabledStrict pipeSys s reader ||
    live pipeSys s drainerStop || live pipeSys s drainerStale) &&
  (!readerLeft s || onExitPath pipeSys s writer) &&
  (!writerHasWritten s || (!readerLeft s && !s.isClosed resultCh)) &&
  (!readerLeft s || !memNat (s.pc writer) Gen.pipeWriter_at_write)

/-- the goroutines of the episode can, on their own, bring the writer to its return. (Since the repair of finding F21 a
request that was written is ALWAYS reported on `resultCh`, also when the pipeline is being stopped — so the writer may have to wait
for the reader, which drains `resultCh` until it is closed on every exit: the writer does not finish alone any more.) -/
def writerCanFinish (s : State) : Bool := canReach pipeSys 300 goroutines (halted pipeSys · writer) s

/-- the goroutines of the episode can bring it to its end on their own -/
def episodeCanFinish (s : State) : Bool := canReach pipeSys 300 goroutines allDone s

/-- both can-finish claims as one predicate of a state: the whole episode once the leader closed `r.stopCh` (then in particular the
writer: one search serves both claims), otherwise the writer once the pipeline is stopped (unless only the leader can release it).
`writer_terminates_once_stopped` and `replication_can_finish_once_stopped` state the same of every reachable state. -/
def alwaysLive (s : State) : Bool :=
  bif s.isClosed rStopCh then episodeCanFinish s
  else (!(s.isClosed stopCh && !writerWaitsForLeader s) || writerCanFinish s)

end Raft.C15Pipe
