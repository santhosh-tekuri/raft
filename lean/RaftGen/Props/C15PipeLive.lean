import RaftGen.Chan.Sound
import RaftGen.Props.C15PipeSys

/-! Kernel evaluation for `RaftGen/Props/C15Pipe.lean`, the panic-free episode: one exploration of `pipeSys`; on the list of its
reachable states `inv` is evaluated, and the sets of states from which the goroutines of the episode can reach its end /
the writer's return on their own are computed (`unreached`). -/

namespace Raft.C15Pipe
open Raft.Chan

/-- what is evaluated on the list `vs` of the reachable states of `pipeSys`: `inv` everywhere; once the leader closed `r.stopCh`
the goroutines can always bring the episode to its end (then in particular the writer to its return: one computation serves
both claims); otherwise, once the pipeline is stopped, they can bring the writer to its return unless only the leader can
release it. -/
def episodeChecks (vs : List State) : Bool :=
  vs.all inv &&
  (unreached (groupNext pipeSys goroutines) allDone 50 (vs.filter (·.isClosed rStopCh)) (Trie.full trieDepth)).isEmpty &&
  (unreached (groupNext pipeSys goroutines) (halted pipeSys · writer) 50
    (vs.filter fun s => s.isClosed stopCh && !writerWaitsForLeader s && !s.isClosed rStopCh) (Trie.full trieDepth)).isEmpty

/-- one exploration of `pipeSys` (2815 states) -/
theorem episodeChecks_hold : checkExplored pipeSys 3500 episodeChecks = true := by decide +kernel

theorem pipeSys_explored :
    (∀ s, Reachable pipeSys s → inv s = true) ∧
    (∀ s, Reachable pipeSys s → s.isClosed rStopCh = true → ∃ t, GroupReach pipeSys goroutines s t ∧ allDone t = true) ∧
    (∀ s, Reachable pipeSys s → s.isClosed stopCh = true → writerWaitsForLeader s = false →
      ∃ t, GroupReach pipeSys goroutines s t ∧ halted pipeSys t writer = true) := by
  obtain ⟨vs, _, hvs, _, hc⟩ := checkExplored_sound episodeChecks_hold
  simp only [episodeChecks, Bool.and_eq_true, List.all_eq_true, List.isEmpty_iff] at hc
  obtain ⟨⟨hinv, h1⟩, h2⟩ := hc
  have hdone : ∀ s, Reachable pipeSys s → s.isClosed rStopCh = true →
      ∃ t, GroupReach pipeSys goroutines s t ∧ allDone t = true := by
    intro s hs hc
    have hm : s ∈ vs.filter (·.isClosed rStopCh) := List.mem_filter.2 ⟨hvs s hs, hc⟩
    exact unreached_sound hm (by rw [h1]; exact List.not_mem_nil)
  refine ⟨fun s hs => hinv s (hvs s hs), hdone, fun s hs hc hw => ?_⟩
  cases hr : s.isClosed rStopCh
  · have hm : s ∈ vs.filter fun s => s.isClosed stopCh && !writerWaitsForLeader s && !s.isClosed rStopCh :=
      List.mem_filter.2 ⟨hvs s hs, by rw [hc, hw, hr]; rfl⟩
    exact unreached_sound hm (by rw [h2]; exact List.not_mem_nil)
  · obtain ⟨t, ht, hg⟩ := hdone s hs hr
    simp only [allDone, Bool.and_eq_true] at hg
    exact ⟨t, ht, hg.1.1.2⟩

end Raft.C15Pipe
