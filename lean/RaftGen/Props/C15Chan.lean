import RaftGen.Chan.Sound
import RaftGen.Gen.Skel

/-!
# C15 — the leader ⇄ replication channel protocols cannot deadlock (skeletons regenerated from the Go source)

`Raft.Gen.*` (file `RaftGen/Gen/Skel.lean`) is written by the translator `go/astfacts` from the Go source on every run: the
channel skeleton of `leader.notifyFlr`, `replication.notifyLdr`, `replication.checkLeaderUpdate` as control-flow graphs
(data erased: every data-dependent branch is a free choice, so every real execution is a path of the skeleton), the channel
kinds from the `make(chan …)` sites, and a census of every channel operation of the package.

Every theorem below is about ALL reachable states of ALL interleavings of the processes of a small system, for any number of
calls (the functions are wrapped in `loopOf`: called again and again) — by the verified exploration of `RaftGen/Chan/Sound.lean`
evaluated in the kernel. Channels: 0 = `leaderUpdateCh` (one per follower; the system is the projection onto ONE follower, the
other iterations of the loop over `l.repls` are the `choice` at the loop head), 1 = `stopCh`, 2 = `replUpdateCh`, 3 = timers.
-/

namespace Raft.C15Chan
open Raft.Chan

/-- a function that is called again and again: `halt` (return) goes back to the entry -/
def loopOf (p : Proc) : Proc :=
  { p with code := p.code.map (fun n => match n with | .halt => Node.choice [p.entry] | n => n) }

/-- the most general receiver on channel `c`: at any time it takes an item, does something else, or stops for good.
    (Justified by the census: nobody but `leader.notifyFlr` sends on `leaderUpdateCh` — `mailbox_single_sender`.) -/
def receiver (c : Nat) : Proc :=
  Proc.mk "any receiver" [Node.choice [0, 1, 2], Node.comm [⟨false, c, 0⟩] none, Node.halt] 0

/-- the state loop seen from a replication goroutine: at any time it drains a report from `replUpdateCh`, does something
    else, or stops the replication (`close(stopCh)`, once) and then stops listening -/
def leaderEnv : Proc :=
  Proc.mk "state loop" [Node.choice [0, 1, 2], Node.comm [⟨false, 2, 0⟩] none, Node.close 1 3, Node.halt] 0

/-- … which in addition may put a new update into the mailbox at any time before it stops -/
def leaderEnv2 : Proc :=
  Proc.mk "state loop" [Node.choice [0, 1, 2, 4], Node.comm [⟨false, 2, 0⟩] none, Node.close 1 3, Node.halt,
    Node.comm [⟨true, 0, 0⟩] (some 0)] 0

/-- the kinds of the source, with the capacity of `replUpdateCh` (1024 in the source) clamped to 2: a smaller buffer only
    makes its senders block earlier, and keeps the state space small -/
def kinds2 : List Kind := Gen.kinds.set 2 (Kind.buffered 2)

def mailboxSys : Sys := Sys.mk [loopOf Gen.notifyFlr, receiver 0] Gen.kinds

/-- one exploration of `mailboxSys` (33 states) for the three theorems below -/
theorem mailboxSys_explored :
    ∀ s, Reachable mailboxSys s → (enabledStrict mailboxSys s 0 && noPanic s && Nat.ble (s.buf 0) 1) = true :=
  checkAll_sound (fuel := 400) (by decide +kernel)

/-- **the leader never blocks in `notifyFlr`**: in every reachable state — whatever the replication goroutine does, including
    never receiving again — the state loop can complete its current channel operation on its own. (The lost wake-up of a
    check-then-act variant — non-blocking send, then a blocking receive — is excluded here.) -/
theorem leader_never_blocks_in_notifyFlr : ∀ s, Reachable mailboxSys s → enabledStrict mailboxSys s 0 = true :=
  fun s hs => (Bool.and_eq_true_iff.1 (Bool.and_eq_true_iff.1 (mailboxSys_explored s hs)).1).1

/-- nothing in this protocol can make Go panic (no close, hence no send on a closed channel) -/
theorem mailbox_no_panic : ∀ s, Reachable mailboxSys s → noPanic s = true :=
  fun s hs => (Bool.and_eq_true_iff.1 (Bool.and_eq_true_iff.1 (mailboxSys_explored s hs)).1).2

/-- the mailbox never holds more than one update (the newest replaces the stale one) -/
theorem mailbox_at_most_one : ∀ s, Reachable mailboxSys s → (s.buf 0 ≤ 1) :=
  fun s hs => Nat.le_of_ble_eq_true (Bool.and_eq_true_iff.1 (mailboxSys_explored s hs)).2

/-- **tie**: in the whole package, the only function that sends on `leaderUpdateCh` is `leader.notifyFlr`, the channel is
    never closed, and it is made (once) with capacity 1 -/
theorem mailbox_single_sender :
    (Gen.ops_leaderUpdateCh.filter (·.2 == "send")).map (·.1) = ["leader.notifyFlr"] ∧
    Gen.ops_leaderUpdateCh.filter (·.2 == "close") = [] ∧
    (Gen.ops_leaderUpdateCh.filter (fun r => r.2 != "send" && r.2 != "recv")).map (·.2) = ["make 1"] ∧
    Gen.kinds[0]? = some (Kind.buffered 1) := by decide +kernel

/-- **tie**: `notifyFlr` calls nothing that can reach another channel operation -/
theorem notifyFlr_closed : Gen.notifyFlr_opaque = [] := by decide +kernel

def reportSys : Sys := Sys.mk [loopOf Gen.notifyLdr, leaderEnv] kinds2

/-- one exploration of `reportSys` (24 states) for the two theorems below -/
theorem reportSys_explored :
    ∀ s, Reachable reportSys s → ((!s.isClosed 1 || enabledStrict reportSys s 0) && noPanic s) = true :=
  checkAll_sound (fuel := 400) (by decide +kernel)

/-- **a replication goroutine reporting to its leader never hangs once the leader stopped it**: after `close(stopCh)` — even if
    the leader never drains `replUpdateCh` again and its buffer is full — `notifyLdr` can always complete on its own -/
theorem notifyLdr_returns_once_stopped :
    ∀ s, Reachable reportSys s → (!s.isClosed 1 || enabledStrict reportSys s 0) = true :=
  fun s hs => (Bool.and_eq_true_iff.1 (reportSys_explored s hs)).1

/-- `stopCh` is closed once, nobody sends on it: no panic -/
theorem report_no_panic : ∀ s, Reachable reportSys s → noPanic s = true :=
  fun s hs => (Bool.and_eq_true_iff.1 (reportSys_explored s hs)).2

/-- **tie**: `replUpdateCh` is written by `replication.notifyLdr` only and never closed; nobody sends on a `stopCh` -/
theorem report_census :
    (Gen.ops_replUpdateCh.filter (·.2 == "send")).map (·.1) = ["replication.notifyLdr"] ∧
    Gen.ops_replUpdateCh.filter (·.2 == "close") = [] ∧
    Gen.ops_stopCh.filter (·.2 == "send") = [] := by decide +kernel

def waitSys : Sys := Sys.mk [loopOf Gen.checkLeaderUpdate, leaderEnv2] kinds2

/-- one exploration of `waitSys` for the two theorems below -/
theorem waitSys_explored :
    ∀ s, Reachable waitSys s → ((!s.isClosed 1 || enabledStrict waitSys s 0) && noPanic s) = true :=
  checkAll_sound (fuel := 2000) (by decide +kernel)

/-- **once stopped, a replication goroutine never hangs in `checkLeaderUpdate`** (the idle wait for a heartbeat timer, a leader
    update or the stop signal; the report it sends from `onLeaderUpdate`): after `close(stopCh)` it can always move on its own,
    whether or not timers fire and whether or not the leader still listens -/
theorem checkLeaderUpdate_returns_once_stopped :
    ∀ s, Reachable waitSys s → (!s.isClosed 1 || enabledStrict waitSys s 0) = true :=
  fun s hs => (Bool.and_eq_true_iff.1 (waitSys_explored s hs)).1

theorem wait_no_panic : ∀ s, Reachable waitSys s → noPanic s = true :=
  fun s hs => (Bool.and_eq_true_iff.1 (waitSys_explored s hs)).2

/-- **tie**: the only callee of `checkLeaderUpdate` with channel operations that is not part of the skeleton is
    `safeTimer.reset` (its protocol is `RaftGen/Props/C15Timer.lean`) -/
theorem checkLeaderUpdate_closed : Gen.checkLeaderUpdate_opaque = ["reset"] ∧ Gen.notifyLdr_opaque = [] := by decide +kernel

/-- a goroutine that delivers `n` results on channel `c`, one after the other, and returns -/
def deliver (name : String) (c n : Nat) : Proc :=
  Proc.mk name ((List.range n).map (fun i => Node.comm [⟨true, c, i + 1⟩] none) ++ [Node.halt]) 0

/-- the state loop as the receiver of results: it may take one at any time, be busy with something else — e.g. waiting for
    the fsm goroutine in `lastApplied()` — or have returned for good (shutdown) -/
def resultSys (c n : Nat) : Sys := Sys.mk [deliver "deliver" c n, receiver c] Gen.kinds

/-- **the fsm goroutine never blocks handing back a restore result**, for up to `cap(fsmRestoredCh)` = 5 results nobody has
    received yet: whatever the state loop does meanwhile — busy, waiting for the fsm goroutine itself (`lastApplied`, the
    GetInfo task), or gone (shutdown) — each `t.err <- err` completes on its own. So a snapshot installation whose restore is
    still running can deadlock neither GetInfo nor shutdown. PARTIAL: with MORE than 5 restores queued while the state loop
    receives none of the results the buffer is full and this guarantee ends (six snapshot installations accepted during one
    `FSM.Restore`, then a GetInfo: see DESIGN.md, observations). -/
theorem restore_result_never_blocks_partial :
    ∀ s, Reachable (resultSys 4 5) s → enabledStrict (resultSys 4 5) s 0 = true :=
  checkAll_sound (fuel := 400) (by decide +kernel)

/-- **tie**: the channel inside every restore request is `fsmRestoredCh`, made once with capacity 5, never closed -/
theorem restore_census :
    (Gen.restoreReqChans.all (· == "fsmRestoredCh")) = true ∧ Gen.restoreReqChans ≠ [] ∧
    (Gen.ops_fsmRestoredCh.filter (fun r => r.2 != "send" && r.2 != "recv")).map (·.2) = ["make 5"] ∧
    Gen.kinds[4]? = some (Kind.buffered 5) := by decide +kernel

/-- **the snapshot goroutine never blocks handing back its result**: `snapTakenCh` is made per snapshot with capacity 1 and
    receives exactly one result -/
theorem snapshot_result_never_blocks :
    ∀ s, Reachable (resultSys 5 1) s → enabledStrict (resultSys 5 1) s 0 = true :=
  checkAll_sound (fuel := 100) (by decide +kernel)

/-- **tie**: `snapTakenCh` is made in `onTakeSnapshot` with capacity 1, written there only, never closed -/
theorem snapshot_census :
    (Gen.ops_snapTakenCh.filter (·.2 == "send")).map (·.1) = ["Raft.onTakeSnapshot"] ∧
    (Gen.ops_snapTakenCh.filter (fun r => r.2 != "send" && r.2 != "recv" && r.2 != "nil")).map (·.2) = ["make 1"] ∧
    Gen.kinds[5]? = some (Kind.buffered 1) := by decide +kernel

/-- the state loop around a snapshot in flight: it takes the result when it comes (`case t := <-r.snapTakenCh`), or the node
    is closed first (`close(r.close)`) and `Raft.release` then WAITS for the result (`r.onSnapshotTaken(<-r.snapTakenCh)`) -/
def closingLoop : Proc :=
  Proc.mk "state loop" [Node.choice [1, 2], Node.comm [⟨false, 5, 4⟩] none, Node.close 6 3, Node.comm [⟨false, 5, 4⟩] none,
    Node.halt] 0

/-- the goroutine `onTakeSnapshot` starts (skeleton regenerated from the source) against that state loop -/
def snapSys : Sys := Sys.mk [Gen.snapGoroutine, closingLoop] Gen.kinds

/-- one exploration of `snapSys` for the two theorems below -/
theorem snapSys_explored :
    ∀ s, Reachable snapSys s →
      ((!halted snapSys s 0 || halted snapSys s 1 || enabledStrict snapSys s 1) && (enabledStrict snapSys s 0 && noPanic s)) = true :=
  checkAll_sound (fuel := 200) (by decide +kernel)

/-- **shutdown with a snapshot in flight always finishes**: once the snapshot goroutine has returned, the state loop — whether
    it is still running or already in `Raft.release` waiting for the result — is never blocked: the result is in `snapTakenCh`
    or was received. (A hand-over that may be skipped when the node is closing would leave `release` waiting for ever.) -/
theorem snapshot_result_always_delivered :
    ∀ s, Reachable snapSys s → (!halted snapSys s 0 || halted snapSys s 1 || enabledStrict snapSys s 1) = true :=
  fun s hs => (Bool.and_eq_true_iff.1 (snapSys_explored s hs)).1

/-- … and the goroutine itself never blocks on the hand-over, nor does anything panic -/
theorem snapshot_goroutine_never_blocks :
    ∀ s, Reachable snapSys s → (enabledStrict snapSys s 0 && noPanic s) = true :=
  fun s hs => (Bool.and_eq_true_iff.1 (snapSys_explored s hs)).2

/-- **tie**: the only callee with channel operations inside that goroutine is `doTakeSnapshot` (it asks the fsm goroutine for
    its state and waits for the answer; it returns — C03/C09 model it as the `snapRun` step) -/
theorem snapGoroutine_closed : Gen.snapGoroutine_opaque = ["doTakeSnapshot"] := by decide +kernel

/-- NECESSITY (what the capacity is for): with an unbuffered channel the very first result can block for ever -/
example : checkAll (Sys.mk [deliver "deliver" 0 1, receiver 0] [Kind.sync]) 100
    (enabledStrict (Sys.mk [deliver "deliver" 0 1, receiver 0] [Kind.sync]) · 0) = false := by decide +kernel

/-- EXAMPLES (sizes of the explored state spaces; the statements above are about every one of these states) -/
example : (explore mailboxSys 400).map List.length = some 33 := by decide +kernel
example : (explore reportSys 400).map List.length = some 24 := by decide +kernel

end Raft.C15Chan

#print axioms Raft.C15Chan.leader_never_blocks_in_notifyFlr
#print axioms Raft.C15Chan.mailbox_no_panic
#print axioms Raft.C15Chan.mailbox_at_most_one
#print axioms Raft.C15Chan.mailbox_single_sender
#print axioms Raft.C15Chan.notifyFlr_closed
#print axioms Raft.C15Chan.notifyLdr_returns_once_stopped
#print axioms Raft.C15Chan.report_no_panic
#print axioms Raft.C15Chan.report_census
#print axioms Raft.C15Chan.checkLeaderUpdate_returns_once_stopped
#print axioms Raft.C15Chan.wait_no_panic
#print axioms Raft.C15Chan.checkLeaderUpdate_closed
#print axioms Raft.C15Chan.restore_result_never_blocks_partial
#print axioms Raft.C15Chan.restore_census
#print axioms Raft.C15Chan.snapshot_result_never_blocks
#print axioms Raft.C15Chan.snapshot_census
#print axioms Raft.C15Chan.snapshot_result_always_delivered
#print axioms Raft.C15Chan.snapshot_goroutine_never_blocks
#print axioms Raft.C15Chan.snapGoroutine_closed
