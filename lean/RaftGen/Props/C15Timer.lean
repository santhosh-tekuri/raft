import RaftGen.Gen.Timer

/-!
# C15 — the safeTimer protocol never blocks its goroutine (facts regenerated from the Go source)

util.go `safeTimer` wraps a `time.Timer` so that `reset` can be called at any time: `stop()` drains the channel when the
timer already fired — `if !t.timer.Stop() { if t.active { <-t.C } }` — and that receive is a *blocking* one. It returns only
if a value really is in the channel, which the flag `active` ("started, but not yet received from channel") is meant to
guarantee. The comment in util.go says: "NOTE: must be set to false, after receiving from channel". If one receive site
forgets to clear the flag, the next `reset`/`stop` on that timer blocks its goroutine forever — for the timers of
raft.go's `stateLoop` that is a deadlock of the node (C15).

`Raft.Gen.timerRecvSites`, `safeTimerStopSrc`, `safeTimerResetSrc`, `newSafeTimerSrc` are written by the translator
`go/astfacts` from the Go source on every run. This file has (1) a model of the protocol, parametrised by whether the
receive sites clear the flag, (2) the proof that with clearing sites `stop` never blocks in any reachable state, for any
number of operations in any order, and that without it a blocked state is reachable, (3) the tie: every receive site in the
source clears the flag, and the three function bodies are the ones the model was written from.
-/

namespace Raft.C15Timer

/-- the Go runtime timer + its channel (capacity 1) + the wrapper's flag -/
structure T where
  armed  : Bool   -- the runtime timer is running
  buf    : Bool   -- a value sits in the channel `C`
  active : Bool   -- safeTimer.active
  stuck  : Bool   -- the goroutine is blocked forever in `<-t.C` inside stop()
deriving DecidableEq, Repr

/-- what a goroutine (or the runtime) can do with the timer -/
inductive Op where
  | reset          -- safeTimer.reset(d)
  | stop           -- safeTimer.stop()
  | fire           -- the runtime timer expires: sends on `C` (non-blocking, capacity 1)
  | recv           -- a `case <-t.C:` of some select is taken (possible only when a value is there)
deriving DecidableEq, Repr

/-- `newSafeTimer`: a stopped timer with an empty channel -/
def init : T := ⟨false, false, false, false⟩

/-- `safeTimer.stop` -/
def stop (t : T) : T :=
  -- `t.timer.Stop()` reports whether the timer was running, and stops it
  let wasRunning := t.armed
  let t := { t with armed := false }
  if !wasRunning then
    if t.active then
      if t.buf then { t with buf := false, active := false }      -- `<-t.C` takes the value
      else { t with stuck := true }                                -- `<-t.C` on an empty channel nobody will fill
    else { t with active := false }
  else { t with active := false }

/-- one operation; `clears`: do the receive sites set `active = false`? -/
def step (clears : Bool) (t : T) : Op → T
  | .stop  => if t.stuck then t else stop t
  | .reset => if t.stuck then t else
      let t := stop t
      if t.stuck then t else { t with armed := true, active := true }
  | .fire  => if t.armed then { t with armed := false, buf := true } else t
  | .recv  => if t.stuck then t else if t.buf then { t with buf := false, active := if clears then false else t.active } else t

def run (clears : Bool) (t : T) (ops : List Op) : T := ops.foldl (step clears) t

/-- the protocol invariant: the flag says exactly "running, or fired and not yet received" -/
def Inv (t : T) : Bool := !t.stuck && (t.active == (t.armed || t.buf)) && !(t.armed && t.buf)

theorem inv_init : Inv init = true := by decide

theorem inv_step (t : T) (op : Op) (h : Inv t = true) : Inv (step true t op) = true := by
  rcases t with ⟨a, b, c, d⟩
  cases a <;> cases b <;> cases c <;> cases d <;> cases op <;> first | exact absurd h (by decide) | decide

/-- **with receive sites that clear the flag, `stop`/`reset` never block**: after ANY sequence of resets, stops, expiries and
    receives, in any order and number, the goroutine is not stuck -/
theorem stop_never_blocks (ops : List Op) : (run true init ops).stuck = false := by
  have : Inv (run true init ops) = true :=
    List.foldlRecOn (motive := fun t => Inv t = true) ops (step true) inv_init fun t h o _ => inv_step t o h
  revert this
  generalize run true init ops = t
  rcases t with ⟨a, b, c, d⟩
  cases d <;> simp [Inv]

/-- **necessity**: with a receive site that does NOT clear the flag, four operations block the goroutine forever -/
theorem unclear_receive_blocks : (run false init [.reset, .fire, .recv, .reset]).stuck = true := by decide

/-- **the tie, 1**: every receive from a safeTimer's channel in the library is followed at once by `timer.active = false` -/
theorem all_sites_clear : ∀ s ∈ Gen.timerRecvSites, s.2.2 = true := by decide

/-- there are such sites (the statement above is not vacuous), among them the state loop's election/heartbeat timer -/
theorem sites_nonempty : ("Raft.stateLoop", "r.timer", true) ∈ Gen.timerRecvSites ∧ 4 ≤ Gen.timerRecvSites.length := by decide

def expectedStop : String := "{ if !t.timer.Stop() { if t.active { <-t.C } } t.active = false }"
def expectedReset : String := "{ t.stop() t.timer.Reset(d) t.active = true }"
def expectedNew : String := "{ t := time.NewTimer(0) if !t.Stop() { <-t.C } return &safeTimer{t, t.C, false} }"

/-- **the tie, 2**: `stop`, `reset` and `newSafeTimer` are the functions the model above was written from -/
theorem wrapper_source :
    Gen.safeTimerStopSrc = expectedStop ∧ Gen.safeTimerResetSrc = expectedReset ∧ Gen.newSafeTimerSrc = expectedNew :=
  ⟨rfl, rfl, rfl⟩

end Raft.C15Timer

#print axioms Raft.C15Timer.stop_never_blocks
#print axioms Raft.C15Timer.unclear_receive_blocks
#print axioms Raft.C15Timer.all_sites_clear
#print axioms Raft.C15Timer.sites_nonempty
#print axioms Raft.C15Timer.wrapper_source
