-- Root of the RaftVerif library: models, lemmas and property theorems.
import RaftVerif.Model.Config
import RaftVerif.Model.Log
import RaftVerif.Model.Node
import RaftVerif.Model.Handlers
import RaftVerif.Model.Step
import RaftVerif.Lemmas.ShapeLog
import RaftVerif.Lemmas.Shape
import RaftVerif.Lemmas.FollowerSpec
import RaftVerif.Lemmas.LeaderCommit
import RaftVerif.Lemmas.ShapeAppend
import RaftVerif.Lemmas.ShapeApply
import RaftVerif.Lemmas.ShapeBootstrap
import RaftVerif.Lemmas.ShapeSnap
import RaftVerif.Lemmas.RestartShape
import RaftVerif.Lemmas.ShapeLeader
import RaftVerif.Lemmas.ShapeTrace
import RaftVerif.Lemmas.Frame
import RaftVerif.Lemmas.Quiet
import RaftVerif.Lemmas.StepWalk
import RaftVerif.Lemmas.HandleKind
import RaftVerif.Lemmas.Inv
import RaftVerif.Lemmas.StepInv
import RaftVerif.Lemmas.Traced
import RaftVerif.Lemmas.Majority
import RaftVerif.Lemmas.LocalA
import RaftVerif.Lemmas.LocalB
import RaftVerif.Model.Repl
import RaftVerif.Model.ReplProbe
import RaftVerif.Model.Timing
import RaftVerif.Lemmas.ReplSteps
import RaftVerif.Lemmas.ReplProbe
import RaftVerif.Lemmas.LeaderCache
import RaftVerif.Lemmas.LeaderSide
import RaftVerif.Lemmas.RoleRel
import RaftVerif.Lemmas.Order
import RaftVerif.Lemmas.ConfigTrack
import RaftVerif.Lemmas.LogBase
import RaftVerif.Lemmas.LogRel
import RaftVerif.Lemmas.NoPanic
import RaftVerif.Lemmas.TaskLedger
import RaftVerif.Lemmas.CommitRel
import RaftVerif.Lemmas.CommitCore
import RaftVerif.Lemmas.ConfigRel
import RaftVerif.Sys.Commit
import RaftVerif.Lemmas.DurableRel
import RaftVerif.Lemmas.SysInv
import RaftVerif.Lemmas.EnabledAt
import RaftVerif.Lemmas.Script
import RaftVerif.Lemmas.EnabledAtM
import RaftVerif.Lemmas.QuorumRel
import RaftVerif.Lemmas.MemberRel
import RaftVerif.Lemmas.MemberCore
import RaftVerif.Sys.Member
import RaftVerif.Lemmas.ClientRel
import RaftVerif.Lemmas.SysMore
import RaftVerif.Lemmas.SnapAttr
import RaftVerif.Lemmas.SnapRel
import RaftVerif.Lemmas.SnapRelA
import RaftVerif.Lemmas.SnapSim
import RaftVerif.Lemmas.SnapBump
import RaftVerif.Lemmas.SnapInv
import RaftVerif.Lemmas.SnapRelP
import RaftVerif.Lemmas.SnapRelU
import RaftVerif.Lemmas.SnapRelU2
import RaftVerif.Lemmas.SnapRelU3
import RaftVerif.Lemmas.SnapRelU4
import RaftVerif.Lemmas.StepInvNC
import RaftVerif.Lemmas.SnapFrame
import RaftVerif.Lemmas.SnapInv2
import RaftVerif.Sys.Snap
import RaftVerif.Sys.Snap2
import RaftVerif.Lemmas.MemberCommit
import RaftVerif.Lemmas.MemberFollow
import RaftVerif.Lemmas.MemberInv
import RaftVerif.Lemmas.MemberStep
import RaftVerif.Lemmas.MemberCrash
import RaftVerif.Lemmas.MemberGood
import RaftVerif.Lemmas.MemberSeg
import RaftVerif.Lemmas.MemberSide
import RaftVerif.Lemmas.LatestRel
import RaftVerif.Sys.Replication
import RaftVerif.Sys.Election
import RaftVerif.Lemmas.NodeSys
import RaftVerif.Lemmas.Grows
import RaftVerif.Props.C01
import RaftVerif.Props.C01Sys
import RaftVerif.Props.C01Member
import RaftVerif.Props.C02
import RaftVerif.Props.C02Sys
import RaftVerif.Props.C02Member
import RaftVerif.Props.C03
import RaftVerif.Props.C03Sys
import RaftVerif.Props.C03Member
import RaftVerif.Props.C03MemberRun
import RaftVerif.Props.C04
import RaftVerif.Props.C04Sys
import RaftVerif.Props.C04Member
import RaftVerif.Props.C05
import RaftVerif.Props.C06
import RaftVerif.Props.C06Cache
import RaftVerif.Props.C06Sys
import RaftVerif.Props.C06Member
import RaftVerif.Props.C06Snap
import RaftVerif.Props.C07
import RaftVerif.Props.C07Sys
import RaftVerif.Props.C07Sys2
import RaftVerif.Props.C08
import RaftVerif.Props.C08Step
import RaftVerif.Props.C08Sys
import RaftVerif.Props.C08Member
import RaftVerif.Props.C08One
import RaftVerif.Props.C08OneSys
import RaftVerif.Props.C08Edit
import RaftVerif.Props.C09
import RaftVerif.Props.C09Sys
import RaftVerif.Props.C09Sys2
import RaftVerif.Props.C09Sys3
import RaftVerif.Props.C09Sys4
import RaftVerif.Props.C09Sys5
import RaftVerif.Props.C10
import RaftVerif.Props.C10Sys
import RaftVerif.Props.C10Sys2
import RaftVerif.Props.C11
import RaftVerif.Props.C12
import RaftVerif.Props.C12Track
import RaftVerif.Props.C12Crash
import RaftVerif.Props.C13
import RaftVerif.Props.C14
import RaftVerif.Props.C15
import RaftVerif.Props.C15NoPanic
import RaftVerif.Props.C15Tasks
import RaftVerif.Props.C16
import RaftVerif.Props.C16Sys
import RaftVerif.Props.C16Member
import RaftVerif.Props.C17
import RaftVerif.Props.C17Probe
import RaftVerif.Props.C17Sys
import RaftVerif.Props.C18
import RaftVerif.Props.C19
import RaftVerif.Props.C19Order
import RaftVerif.Props.C19Sys
import RaftVerif.Props.C19Latest
import RaftVerif.Props.C19FsmConfig
import RaftVerif.Props.C19FsmConfigSys
import RaftVerif.Props.C19FsmConfigRun
import RaftVerif.Props.C20
import RaftVerif.Props.AuditSys
import RaftVerif.Props.AuditSnap
import RaftVerif.Props.AuditSnap2
import RaftVerif.Props.AuditMember
