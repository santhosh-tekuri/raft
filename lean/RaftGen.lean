import RaftGen.Chan.Model
import RaftGen.Chan.Explore
import RaftGen.Chan.Sound
import RaftGen.Chan.NoClose
import RaftGen.Chan.Examples
import RaftGen.Gen.Skel
import RaftGen.Gen.Timing
import RaftGen.Gen.Timer
import RaftGen.Gen.Order
import RaftGen.Props.C15Chan
import RaftGen.Props.C15Timer
import RaftGen.Props.C05Order
import RaftGen.Props.C17Timing
import RaftGen.Props.C15Pipe
