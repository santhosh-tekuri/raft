/-
C10 on the cluster-level systems WITH SNAPSHOTS — **a node process that dies at any instant, between any two storage
operations of any handler (those of the snapshot goroutine, of `onSnapshotTaken` / compaction and of the install handler
included), and is restarted on the same storage directory starts successfully, with a term and vote no older than any it
had acknowledged, with every log entry it had acknowledged as stored and that its snapshot does not cover, with a snapshot
that is a committed prefix consistent with its log, and with configurations derived from snapshot label + log; the cluster
it rejoins is a reachable state again, so every safety theorem keeps holding; and (fixed-membership system without
snapshots) the restarted node CAN be brought up to date within an explicit bound.**

Part 1 — `Raft.Snap4` (Sys/Snap4.lean = Sys/Snap3.lean without the premise `TermTracked`: local snapshots, compaction,
installation of snapshots, crashes at every storage point of every handler). Restrictions (`_partial`): those of the
system (fixed voter set `V`, fixed stable configuration, no forged requests, no `shutdown`, replication updates report no
compaction, side conditions `Side4` on every state), and
* existence of the restarted node (`restart_succeeds_snap_partial`, `restart_succeeds_install_partial`) needs NEITHER
  `NoCut` NOR "the log on disk is not stale": it holds at EVERY crash point of EVERY enabled step that would not panic —
  explicit assumptions: the node has a cluster id (`cid ≠ 0`, else `Raft.New` refuses to start; never changes), and
  `TrackCrash.SnapFbOp` (for `.snapRun` only: if the state machine holds NO configuration when the snapshot goroutine
  stores a snapshot, the configuration captured at request time is covered by it — see `C12Crash.snapFb_needed`; the
  per-node invariants do not exclude a state machine without configuration above a compacted prefix);
* "rejoins" (`rejoin_snap_partial`) and the statements that use the cluster invariant in the state after the restart
  (`restart_keeps_acknowledged_entries_snap_partial`, `restart_snapshot_consistent_snap_partial`) are about the crash
  transitions of the system (`RestartSys.CrashOf`): a crash in an operation of stage 2 with `Snap3.NoCut` and a log on
  disk that is not stale (`staleLog = false`), or a crash at any point of the install handler; the state after the restart
  satisfies the side conditions `Side4`. What is NOT covered: a crash in an append handler inside the `NoCut` window, and a
  crash after which `openStorage` resets a log that ends below a snapshot the node TOOK itself (possible: a follower may
  commit, apply and snapshot entries it created as an earlier leader and never flushed — finding (a) of C02Sys/C06Sys) —
  there the restart SUCCEEDS and yields a tracking, ordered node (part of the first theorem) but the state is outside
  the system's crash transition.
  `restart_keeps_acknowledged_vote_snap_partial` needs none of these (C05 holds for arbitrary requests).
Part 2 — `Raft.Member` (Sys/Member.lean, runs of `C08Member.ReachableR`: arbitrary chains of membership changes; no
snapshots): `restart_succeeds_member_partial` (at every crash point of every step the system admits; THE CONFIGURATIONS OF
THE RESTARTED NODE ARE DERIVED FROM THE LOG ON DISK AT THAT CRASH POINT; the state after the restart is reachable, NO side
condition), `restart_keeps_acknowledged_vote_member_partial`, `restart_keeps_acknowledged_entries_member_partial`,
`restart_keeps_committed_acknowledged_member_partial`, `rejoin_member_partial`. One explicit hypothesis: every node of the
state tracks (`C12Track.Tracks`) — inductive along the runs (`tracks_in_member_partial`), true of initial states.
Part 3 — `rejoin_converges_possible_partial` on `Raft.Commit` (`SysInv.ReachableG`, the system of Props/C10Sys.lean): after
the restart, every live majority that contains the restarted node can bring it up to date within `6·|M| + 1` transitions
(`C17Sys.progress_possible_partial`).
-/
import RaftVerif.Lemmas.RestartSys
import RaftVerif.Props.C09Sys3
import RaftVerif.Props.C10Sys
import RaftVerif.Props.C17Sys
import RaftVerif.Props.AuditMember

namespace Raft
namespace C10Sys2
open Node Election LogRel Replication CommitRel Commit C02Sys C03Sys SnapRel SnapRelU SnapSim Snap Snap2 SnapInv SnapInv2
open SnapInst Snap3 SnapInst3 Snap4 SnapInst4 TrackCrash RestartSys

section
variable {V : List Nat}

/-! ## Part 1: the system with snapshots, compaction and installation -/

/-! ### 1. the restart succeeds -/

/-- **C10 (1) with snapshots — a restart after a crash at any point succeeds (partial: see the file header).** Let `x`
be a state reachable in `Raft.Snap4`, `i` a node with a cluster id, `op` ANY operation of stage 2 that may be delivered to
`i` in `x` (`Snap.Enabled`: votes, append requests of the ledger, timeouts, client batches, `takeSnapshot`, `snapRun` —
the snapshot goroutine —, `snapTaken` — which compacts the log —, replication updates …) handled with ANY oracle, which
run to completion would not panic, with `SnapFbOp` (a condition on `.snapRun` only), and `k` ANY crash point of that step.
Restart the node on what is then on disk with any options (`r ≥ 1`). Then there is `n` with `Node.restart … = some n` (no
manual repair), `n.nid = i`, and `n` is `RestartSys.Restarted`:
* `n` tracks (`C12Track.Tracks`: state machine restored from the newest snapshot, label = newest configuration at or
  below the snapshot index, `snapTerm` = term of the log entry at the snapshot index), is ordered (`Order.Ordered`:
  `log.prev ≤ snapIndex ≤ applied ≤ commitIndex ≤ lastLogIndex = log.last`) and satisfies `C12Crash.CrashInv` again;
* its configurations are derived from the snapshot label and the log on disk at that point: `configs.latest` /
  `configs.committed` are the newest / second newest configuration entry above the snapshot, else the label;
  `configs.latest` is the newest configuration entry of its log (`C19Latest.LatestIsNewest`);
* it is a follower with the ids it had; `(term, votedFor)` is the durable pair, memory = disk, a legal successor of the
  pair the step started from (`C05.VoteStep`);
* its log is completely flushed, contiguous with the snapshot and agrees with it at the snapshot index. -/
theorem restart_succeeds_snap_partial (hV : V.Nodup) (x : Snap3.Sys) (h : Reachable4 V x) (i : Nat) (op : Op)
    (ra : List Nat) (ord : List (List Nat)) (src : Nat) (en : Snap.Enabled x.s2.cs i op src)
    (hp : ((x.node i).step op ra ord).panicked = none) (hfb : SnapFbOp (x.node i) op) (hcid : (x.node i).cid ≠ 0)
    (k r : Nat) (hr : 1 ≤ r) (sor : Bool) :
    ∃ n, Node.restart (C05.crashDisk (x.node i) op ra ord k) r sor = some n ∧
      Restarted (x.node i) (C05.crashDisk (x.node i) op ra ord k) n ∧ n.nid = i :=
  restarted_in_6T hV (SnapCut.reach4_reach6T hV h) ra ord en hp hfb hcid k r hr sor

/-- **… and at every storage point of the install handler** (`value.set`, `snap.publish`, `snap.retain`, `clearLog`), for
every install request that is stale or one of the ledger — no further assumption. If the disk already holds the received
file the restarted node is in the installed state (`C09Sys3.install_crash_restarts_installed`). -/
theorem restart_succeeds_install_partial (hV : V.Nodup) (x : Snap3.Sys) (h : Reachable4 V x) (i : Nat) (m : SnapMsg)
    (ra : List Nat) (ord : List (List Nat)) (hi : i ≠ 0) (hm : m.q.term < (x.node i).term ∨ m ∈ x.sentSnaps)
    (hp : ((x.node i).step (.install m.q) ra ord).panicked = none) (hcid : (x.node i).cid ≠ 0)
    (k r : Nat) (hr : 1 ≤ r) (sor : Bool) :
    ∃ n, Node.restart (C05.crashDisk (x.node i) (.install m.q) ra ord k) r sor = some n ∧
      Restarted (x.node i) (C05.crashDisk (x.node i) (.install m.q) ra ord k) n ∧ n.nid = i := by
  obtain ⟨r3, i4, _⟩ := reach4 hV h
  have hI := (inv3_reachable hV r3).1
  have hrq : Order.ReqOk (x.node i) (.install m.q) := by
    show m.q.term < (x.node i).term ∨ m.q.lastIndex ≤ (x.node i).commitIndex ∨ Order.InstallOk m.q
    rcases hm with h' | h'
    · exact Or.inl h'
    · exact Or.inr (Or.inr (i4.mlab m h'))
  obtain ⟨n, hn, hR⟩ := restarted_of_crash (x.node i) (.install m.q) ra ord k r sor (crashInv_node4 hV h i hi hcid)
    (voteWF3 hV r3 i) hrq trivial trivial hp hr
  exact ⟨n, hn, hR, by rw [hR.ident.2.1]; exact (hI.sinv.cinv.rp.el.ids i).1⟩

/-! ### 2. acknowledged votes -/

/-- **C10 (2) with snapshots — the restarted node reports a term and vote no older than any it had acknowledged
(partial: the restrictions of `Raft.Snap4`; no condition on the crashing step).** Let `x` be reachable, `g = (voter, term,
cand)` any entry of the ledger `grants` of `x` (the voter answered `success` to a vote request of `cand` for `term`, or
voted for itself), `y` any later state of the run. If the voter dies in `y` at ANY crash point `k` of ANY step — any
operation, install requests and snapshot operations included, any oracle — and restarts as `n`, then `n` still honours
the grant: its term is above `term`, or it is `term` and `n.votedFor = cand`. -/
theorem restart_keeps_acknowledged_vote_snap_partial (hV : V.Nodup) (x y : Snap3.Sys) (hx : Reachable4 V x)
    (hrun : Run4 V x y) (g : C01.Grant) (hg : g ∈ x.s2.cs.rp.el.grants)
    (op : Op) (ra : List Nat) (ord : List (List Nat)) (k retain : Nat) (sor : Bool) (n : Node)
    (hn : Node.restart (C05.crashDisk (y.node g.voter) op ra ord k) retain sor = some n) :
    g.term < n.term ∨ (g.term = n.term ∧ n.votedFor = g.cand) := by
  obtain ⟨r3, _, _⟩ := reach4 hV (run4_reachable hx hrun)
  have hh := grant_honoured3 hV r3 g ((run4_mono hrun).grants g hg)
  obtain ⟨r1, r2, _⟩ := C05.restart_reads_durable _ _ _ _ hn
  have hd := Election.crashDisk_durStep (y.node g.voter) op ra ord k (voteWF3 hV r3 g.voter)
  have hvs : C05.VoteStep (y.node g.voter) n := by
    unfold C05.VoteStep; rw [r1, r2]; exact hd
  exact (C01Sys.honouredBy_step hh hvs).2

/-! ### 3. the cluster after the restart -/

/-- **the safety properties in a state `z` of the cluster with snapshots**, as proved for reachable states
(Props/C09Sys3.lean):
* `election` (C01): two leaders of one term are the same node; the ledger `won` names at most one node per term;
* `matching` (C04): two logs that hold entries with the same term at an index hold the same entry at every index up to
  it that both still hold;
* `completeness` (C02): a leader whose term is at least the term of node `j` holds (virtually: compacted-away and
  installed prefixes included) at every index within `j`'s commit index the very entry `j` holds;
* `stateMachine` (C03): every state machine holds exactly the update payloads of the entries `1 … fsm.index` of the
  node's virtual log, never beyond the commit index; any two command sequences are prefix-comparable;
* `snapshot` (C09): `log.prev ≤ snapIndex ≤ commitIndex`; the log entry at the snapshot index, if held, has term
  `snapTerm`; every snapshot file on disk is the replay of the node's virtual log up to its index — a committed prefix,
  the same on every node whose commit index covers it;
* `tracked` (C12/C19): every node tracks and is ordered. -/
structure SafeS (V : List Nat) (z : Snap3.Sys) : Prop where
  election : (∀ i j, (z.node i).role = .leader → (z.node j).role = .leader → (z.node i).term = (z.node j).term → i = j) ∧
    (∀ l l' t, (l, t) ∈ z.s2.cs.rp.el.won → (l', t) ∈ z.s2.cs.rp.el.won → l = l')
  matching : ∀ i j k a b, (z.node i).log.get? k = some a → (z.node j).log.get? k = some b → a.term = b.term →
    ∀ k', k' ≤ k → ∀ a' b', (z.node i).log.get? k' = some a' → (z.node j).log.get? k' = some b' → a' = b'
  completeness : ∀ i j k, (z.node i).role = .leader → (z.node j).term ≤ (z.node i).term → 1 ≤ k →
    k ≤ (z.node j).commitIndex →
    (z.vnode i).log.get? k = (z.vnode j).log.get? k ∧ ((z.vnode j).log.get? k).isSome = true
  stateMachine : (∀ i, (z.node i).fsm.index ≤ (z.node i).commitIndex ∧
      (z.node i).fsm.applied = ups ((z.vlog i).take (z.node i).fsm.index)) ∧
    (∀ i j, (z.node i).fsm.applied <+: (z.node j).fsm.applied ∨ (z.node j).fsm.applied <+: (z.node i).fsm.applied)
  snapshot : ∀ i, ((z.node i).log.prev ≤ (z.node i).snapIndex ∧ (z.node i).snapIndex ≤ (z.node i).commitIndex) ∧
    (∀ e, (z.node i).log.get? (z.node i).snapIndex = some e → e.term = (z.node i).snapTerm) ∧
    ∀ f ∈ (z.node i).snapsDisk, 1 ≤ f.index ∧ f.index ≤ (z.node i).snapIndex ∧
      f.data = ups ((z.vlog i).take f.index) ∧
      ∀ j, f.index ≤ (z.node j).commitIndex → f.data = ups ((z.vlog j).take f.index)
  tracked : ∀ i, C12Track.Tracks (z.node i) ∧ Order.Ordered (z.node i)

/-- every state reachable in `Raft.Snap4` is safe -/
theorem safeS_of_reachable (hV : V.Nodup) (z : Snap3.Sys) (h : Reachable4 V z) : SafeS V z := by
  obtain ⟨r3, i4, _⟩ := reach4 hV h
  have hE := (inv3_reachable hV r3).1.sinv.cinv.rp.el
  -- the view without snapshot data as a variable `e`: its `won` is that of `z`, role and term of its nodes the real ones
  -- (compared as wholes the two states are dear)
  obtain ⟨_, _, _, eN⟩ := SnapInst3.cview z
  have eW : (eview (view3 z).cs).rp.el.won = z.s2.cs.rp.el.won :=
    (withNodes_won (view3 z).cs fun i => E σ0 ((view3 z).cs.node i)).trans (withNodes_won z.s2.cs z.s2.vnode)
  generalize eview (view3 z).cs = e at hE eN eW
  have hrec : ∀ i, (z.node i).role = .leader → (i, (z.node i).term) ∈ e.rp.el.won := fun i hl => by
    have := hE.recorded i ((eN i).2.2.2.2.trans hl)
    rwa [show (e.rp.el.node i).term = (z.node i).term from (eN i).2.2.2.1] at this
  have hwon : ∀ l l' t, (l, t) ∈ e.rp.el.won → (l', t) ∈ e.rp.el.won → l = l' := fun l l' t h1 h2 =>
    C01.election_safety_partial _ V hV hE.unique l l' t (hE.backed l t h1) (hE.backed l' t h2)
  obtain ⟨s1, _, _, s4⟩ := C09Sys3.state_machine_safety_sys_snap3_partial hV z r3
  refine ⟨⟨fun i j hi hj ht => ?_, eW ▸ hwon⟩,
    fun i j k a b ha hb ht => (C09Sys3.log_matching_sys_snap3_partial hV z r3 i j k a b ha hb ht).1,
    (C09Sys3.leader_completeness_sys_snap3_partial hV z r3).2.1,
    ⟨fun i => ⟨(s1 i).1, (s1 i).2.2⟩, s4⟩, fun i => ?_, fun i => ⟨i4.tracks i, i4.ord i⟩⟩
  · exact hwon i j (z.node i).term (hrec i hi) (by rw [ht]; exact hrec j hj)
  · obtain ⟨a1, _, a3⟩ := C09Sys3.snapshot_agrees_with_log_partial hV z r3 i
    refine ⟨a1, a3.1, fun f hf => ?_⟩
    obtain ⟨b1, b2, _, _, b5, b6⟩ := C09Sys3.snapshot_is_committed_prefix_partial hV z r3 i f (Or.inr hf)
    exact ⟨b1, b2, b5, b6⟩

/-- **C10 (4) with snapshots — the restarted node rejoins the cluster without violating any safety property (partial:
see the file header).** Let `x` be reachable in `Raft.Snap4` and `y` the state after node `i` died — at ANY crash point
of an enabled operation of stage 2 (with `NoCut`, the log on disk not stale) or at ANY crash point of the install handler
(`RestartSys.CrashOf`) — and restarted as `n`; let `y` satisfy the side conditions `Side4` (configurations: the restarted
node's latest configuration is the stable configuration with voters `V`, …). Then
* `y` is a reachable state of `Raft.Snap4` again, node `i` of `y` is `n`, the other nodes are untouched;
* every state `z` of every continuation of the run is reachable (also in `Raft.Snap3`: ALL theorems of
  Props/C09Sys3.lean hold in `z`) and `SafeS V z`: election safety, log matching, leader completeness, state-machine
  safety, snapshots are committed prefixes consistent with the logs, every node tracking and ordered — whatever the
  restarted node and the others do next (more crashes, snapshots, installations included);
* nothing acknowledged before the crash is forgotten by the ledgers (`RestartSys.Keeps`: leaders ever elected, votes
  granted, acknowledgements, committed and created entries, snapshot files, install requests). -/
theorem rejoin_snap_partial (hV : V.Nodup) (x y : Snap3.Sys) (hx : Reachable4 V x) (i : Nat) (n : Node)
    (hc : CrashOf x i n y) (hs : Side4 V y) :
    (Reachable4 V y ∧ y.node i = n ∧ ∀ j, j ≠ i → y.node j = x.node j) ∧
    ∀ z, Run4 V y z → Reachable4 V z ∧ Reachable3 V z ∧ SafeS V z ∧ Keeps x z := by
  have hy : Reachable4 V y := .next x y hx hc.trans hs
  refine ⟨⟨hy, hc.node_i, fun j hj => hc.node_j hj⟩, fun z hrun => ?_⟩
  have hz := run4_reachable hy hrun
  exact ⟨hz, (reach4 hV hz).1, safeS_of_reachable hV z hz, (trans4_mono hc.trans).trans (run4_mono hrun)⟩

/-! ### 4. acknowledged entries -/

/-- **C10 (3) with snapshots — the restarted node holds every entry it had acknowledged as stored and that its snapshot
does not cover (partial: see the file header).** Let `x` be reachable in `Raft.Snap4`, `a = (voter, term, index, eterm)` an
acknowledgement recorded in `x` (indexes are indexes of the voter's VIRTUAL log), `b` an entry OF THE ACKNOWLEDGEMENT'S
TERM on the path to the acknowledged entry, `y` any later state of the run, and let the voter die in `y` (a crash
transition of the system, `CrashOf y a.voter n y'`: any crash point of an enabled operation of stage 2, or of the install
handler) and restart as `n`, the state `y'` after the restart satisfying `Side4`. Then EITHER
* `b.1` is within the flushed part of `n`'s log, and: if `b.1` is above `n.log.prev`, `n`'s log holds an entry of term
  `b.2` at `b.1`; if `b.1 ≤ n.log.prev`, then `b.1 ≤ n.snapIndex`: the entry is covered by `n`'s snapshot (which is the
  replay of a log holding it: `restart_snapshot_consistent_snap_partial`); OR
* the tree of created entries holds an entry of a later term, not above `n`'s term, that does not extend `b`: a later
  leader overwrote it (never the case for a committed `b`: `restart_keeps_committed_acknowledged_snap_partial`). -/
theorem restart_keeps_acknowledged_entries_snap_partial (hV : V.Nodup) (x y y' : Snap3.Sys) (hx : Reachable4 V x)
    (hrun : Run4 V x y) (a : Ack) (ha : a ∈ x.s2.cs.acks) (b : Nat × Nat) (hb : b.2 = a.term)
    (hanc : Anc x.s2.cs.T b a.key) (n : Node) (hc : CrashOf y a.voter n y') (hs : Side4 V y') :
    (b.1 ≤ n.log.flushed ∧ (n.log.prev < b.1 → ∃ e, n.log.get? b.1 = some e ∧ e.term = b.2) ∧
      (b.1 ≤ n.log.prev → b.1 ≤ n.snapIndex)) ∨
    ∃ c ∈ y'.s2.cs.T, b.2 < c.e.term ∧ c.e.term ≤ n.term ∧ ¬ Anc y'.s2.cs.T b (c.e.index, c.e.term) := by
  have hy := run4_reachable hx hrun
  have hy' : Reachable4 V y' := .next y y' hy hc.trans hs
  have kp := (run4_mono hrun).trans (trans4_mono hc.trans)
  have key := ack_held3 hV (reach4 hV hy').1 a (kp.acks a ha) b hb (hanc.mono kp.tree)
  rw [hc.node_i] at key
  rcases key with ⟨k1, _, k3, k4⟩ | ⟨c, hcT, h1, h2, h3⟩
  · exact Or.inl ⟨k1, k3, k4⟩
  · exact Or.inr ⟨c, hcT, h1, h2, h3⟩

/-- **… and a committed entry it acknowledged in the entry's term, without exception** (same assumptions): if `m` is in
the ledger `committed` of `x` and `a` is an acknowledgement of `x` in `m`'s term at or beyond `m` on `m`'s path, then after
the crash and restart `m.1` is within the flushed part of the restarted node's log, which holds an entry of `m`'s term
there — or `m.1 ≤ n.log.prev ≤ n.snapIndex`: the snapshot covers it. -/
theorem restart_keeps_committed_acknowledged_snap_partial (hV : V.Nodup) (x y y' : Snap3.Sys) (hx : Reachable4 V x)
    (hrun : Run4 V x y) (m : Nat × Nat) (hm : m ∈ x.s2.cs.committed) (a : Ack) (ha : a ∈ x.s2.cs.acks)
    (hat : a.term = m.2) (hanc : Anc x.s2.cs.T m a.key) (n : Node) (hc : CrashOf y a.voter n y') (hs : Side4 V y') :
    m.1 ≤ n.log.flushed ∧ (n.log.prev < m.1 → ∃ e, n.log.get? m.1 = some e ∧ e.term = m.2) ∧
      (m.1 ≤ n.log.prev → m.1 ≤ n.snapIndex) := by
  have hy := run4_reachable hx hrun
  have hy' : Reachable4 V y' := .next y y' hy hc.trans hs
  have kp := (run4_mono hrun).trans (trans4_mono hc.trans)
  rcases restart_keeps_acknowledged_entries_snap_partial hV x y y' hx hrun a ha m hat.symm hanc n hc hs with
    h | ⟨c, hcT, h1, _, h3⟩
  · exact h
  · have hI := (inv3_reachable hV (reach4 hV hy').1).1.sinv.cinv
    have hm' := kp.committed m hm
    -- the erased view as a variable with the ledgers of `y'` (compared as wholes the two states are dear)
    obtain ⟨eC, _, eT, _⟩ := SnapInst3.cview y'
    generalize eview (view3 y').cs = z at hI eC eT
    rw [← eC] at hm'; rw [← eT] at hcT h3
    exact absurd (hI.cmt.lc m hm' c hcT h1) h3

/-! ### 5. the snapshot of the restarted node -/

/-- **C10 with snapshots — the restarted node's snapshot is a committed prefix consistent with its log (partial: see the
file header).** Under the hypotheses of `rejoin_snap_partial` (`y`: the state after node `i` of the reachable state `x`
died at any crash point covered by `CrashOf` and restarted as `n`; `Side4 V y`):
1. `n.log.prev ≤ n.snapIndex ≤ n.commitIndex`, and the log entry at the snapshot index, if `n`'s log holds it, has term
   `n.snapTerm` — whether the snapshot was taken by the node or installed from a leader, and whether the process died
   before, between or after `snap.publish` / `snap.retain` / `compactLog` / `clearLog`;
2. every snapshot file `f` on `n`'s disk has `1 ≤ f.index ≤ n.snapIndex`; `f.data` is the replay (update payloads, in
   order) of the first `f.index` entries of `n`'s virtual log in `y`, every one of them committed; and it is the replay
   of the virtual log of EVERY node `j` whose commit index covers `f.index`;
3. `n`'s state machine holds exactly the update payloads of the first `n.fsm.index` entries of its virtual log. -/
theorem restart_snapshot_consistent_snap_partial (hV : V.Nodup) (x y : Snap3.Sys) (hx : Reachable4 V x) (i : Nat)
    (n : Node) (hc : CrashOf x i n y) (hs : Side4 V y) :
    ((n.log.prev ≤ n.snapIndex ∧ n.snapIndex ≤ n.commitIndex) ∧
      ∀ e, n.log.get? n.snapIndex = some e → e.term = n.snapTerm) ∧
    (∀ f ∈ n.snapsDisk, 1 ≤ f.index ∧ f.index ≤ n.snapIndex ∧
      (∀ k, 1 ≤ k → k ≤ f.index → Committed (view3 y).cs (k, termAt (y.vlog i) k)) ∧
      f.data = ups ((y.vlog i).take f.index) ∧
      ∀ j, f.index ≤ (y.node j).commitIndex → f.data = ups ((y.vlog j).take f.index)) ∧
    (n.fsm.index ≤ n.commitIndex ∧ n.fsm.applied = ups ((y.vlog i).take n.fsm.index)) := by
  have hy : Reachable4 V y := .next x y hx hc.trans hs
  have r3 := (reach4 hV hy).1
  obtain ⟨a1, _, a3⟩ := C09Sys3.snapshot_agrees_with_log_partial hV y r3 i
  have hp := C09Sys3.snapshot_is_committed_prefix_partial hV y r3 i
  obtain ⟨s1, _, _, _⟩ := C09Sys3.state_machine_safety_sys_snap3_partial hV y r3
  have hs1 := s1 i
  rw [hc.node_i] at a1 a3 hp hs1
  refine ⟨⟨a1, a3.1⟩, fun f hf => ?_, hs1.1, hs1.2.2⟩
  obtain ⟨b1, b2, _, b4, b5, b6⟩ := hp f (Or.inr hf)
  exact ⟨b1, b2, b4, b5, b6⟩

end

/-! ## Part 3: after the restart the node can be brought up to date (fixed-membership system, `Raft.Commit`) -/

section
open NoPanic SysInv SysMore Progress
open Election (setNode)

/-- a restarted node is open: its state loop runs -/
theorem restart_closed (d : Durable) (r : Nat) (sor : Bool) (n : Node) (hn : Node.restart d r sor = some n) :
    n.closed = "" := by
  obtain ⟨_, _, _, hne⟩ := C10.restart_some d r sor n hn
  rw [hne]
  split
  · show (restartNode d r sor).fsmRestore.closed = ""
    rw [fsmRestore_eq]; rfl
  · rfl

/-- **C10, last clause, as POSSIBILITY — the restarted node rejoins and CAN converge with the cluster (partial: the
restrictions of Props/C10Sys.lean and Props/C17Sys.lean: fixed voter set `V`, fixed stable configuration, no snapshots;
a model has no clocks: a run EXISTS).** Under the hypotheses of `C10Sys.rejoin_preserves_safety_partial` — `x` reachable
(`SysInv.ReachableG`), node `i` dies at ANY crash point `k` of ANY enabled step and restarts as `n`, `x' = crashC x i op n`
the state after the restart with its side condition `SideV` — let `M` be a live majority that CONTAINS the restarted
node: a duplicate-free list of non-zero voter ids, `2·|M| > |V|`, every OTHER node of `M` open (the restarted node is:
`restart_closed`), the member ids of the latest configurations of the nodes of `M` (in `x'`) distinct. Then there is a
run from `x'` of at most `6·|M| + 1` transitions, every one an operation of a node of `M`, at most two election timeouts
per node, no crash, to a state `y` in which a node `w ∈ M` is leader of a term above the restarted node's term `n.term`
and has committed and applied an entry of its own term at index `N`, and **the restarted node `i` is up to date**: it has
the leader's term, its log agrees with the leader's up to `N` entry by entry, `N` is within its commit index and its
state machine has applied everything up to its commit index (if `i = w` it is that leader). `y` is reachable, hence safe
(`C10Sys.Safe`: C01–C04, C19). -/
theorem rejoin_converges_possible_partial (V : List Nat) (hV : V.Nodup) (x : Commit.Sys) (h : ReachableG V x)
    (i : Nat) (op : Op) (ra : List Nat) (ord : List (List Nat)) (src : Nat) (he : Commit.Enabled x i op src)
    (heG : EnabledG x i op) (k : Nat) (hopen : (x.node i).closed = "" ∨ k = 0)
    (retain : Nat) (hret : 1 ≤ retain) (sor : Bool) (n : Node)
    (hn : Node.restart (C05.crashDisk (x.node i) op ra ord k) retain sor = some n)
    (hs : SideV V (crashC x i op n))
    (M : List Nat) (hM : M.Nodup) (hMV : ∀ j ∈ M, j ∈ V) (hmaj : 2 * M.length > V.length) (h0 : ∀ j ∈ M, j ≠ 0)
    (hiM : i ∈ M) (hopenM : ∀ j ∈ M, j ≠ i → (x.node j).closed = "")
    (hids : ∀ j ∈ M, ((crashC x i op n).node j).configs.latest.ids.Nodup) :
    ∃ (ls : List Lbl) (y : Commit.Sys) (w N : Nat),
      Exec V (crashC x i op n) ls y ∧ RunG V (crashC x i op n) y ∧ ReachableG V y ∧ C10Sys.Safe V y ∧
      ls.length ≤ 6 * M.length + 1 ∧ (∀ l ∈ ls, l.actor ∈ M) ∧ (∀ j, (ls.filter (Lbl.isTimeoutOf j)).length ≤ 2) ∧
      w ∈ M ∧ (y.node w).role = .leader ∧ n.term < (y.node w).term ∧
      N ≤ (y.node w).log.entries.length ∧ termAt (y.node w).log.entries N = (y.node w).term ∧
      N ≤ (y.node w).commitIndex ∧
      ((y.node i).term = (y.node w).term ∧ (y.node i).log.entries.take N = (y.node w).log.entries.take N ∧
        N ≤ (y.node i).commitIndex ∧ (y.node i).fsm.index = (y.node i).commitIndex ∧ (y.node i).closed = "") := by
  have hx' := (C10Sys.rejoin_preserves_safety_partial V hV x h i op ra ord src he heG k hopen retain hret sor n hn hs).1
  have hni : (crashC x i op n).node i = n := crashC_node_i x i op n
  have hnj : ∀ j, j ≠ i → (crashC x i op n).node j = x.node j := fun j hj => crashC_node_j x i op n hj
  have hop : ∀ j ∈ M, ((crashC x i op n).node j).closed = "" := by
    intro j hj
    by_cases hji : j = i
    · rw [hji, hni]; exact restart_closed _ _ _ _ hn
    · rw [hnj j hji]; exact hopenM j hj hji
  obtain ⟨ls, y, w, N, ex, run, len, act, tmo, hw, hl, hterm, _, _, hN, hNt, hNc, hap, hfol, _, hopy, _⟩ :=
    C17Sys.progress_possible_partial V hV (crashC x i op n) hx' M hM hMV hmaj h0 hop hids
  have hy := run_reachableG hx' run
  have hti := hterm i hiM
  rw [hni] at hti
  refine ⟨ls, y, w, N, ex, run, hy, C10Sys.safe_of_reachable V hV y hy, len, act, tmo, hw, hl, hti, hN, hNt, hNc, ?_⟩
  by_cases hiw : i = w
  · rw [hiw]; exact ⟨rfl, rfl, hNc, hap, hopy w hw⟩
  · obtain ⟨_, t, l, c, f⟩ := hfol i hiM hiw
    exact ⟨t, l, by rw [c]; exact Nat.le_refl _, by rw [f, c], hopy i hiM⟩

end

/-! ## Part 2: the system with membership changes (`Raft.Member`, runs of `C08Member.ReachableR`) -/

section member
open Member MemberCore QuorumRel MemberInv MemberCommit MemberStep MemberSide C08Member MemberDurable MemberGood NoPanic

/-- **the hypothesis "every node tracks" of the theorems below is inductive (partial: the restrictions of
Props/C08Member.lean).** If every node of a reachable state `x` of the system with membership changes satisfies the
tracking invariant `C12Track.Tracks` (e.g. the initial states: nothing applied, no snapshot — `C19Sys.ex0_tracks`), so
does every node of every later state `y` of the run — through completed steps of every operation (configuration entries
appended by a leader, adopted, truncated and reverted by a follower included), crashes at every storage point and
restarts. Likewise the cluster id of a node never changes (`RestartSys.cid_runR`). -/
theorem tracks_in_member_partial (root : K) (x y : Member.Sys) (hx : ReachableR root x)
    (hT : ∀ j, C12Track.Tracks (x.node j)) (hrun : RunR x y) : ∀ j, C12Track.Tracks (y.node j) :=
  tracks_runR hx hT hrun

/-- **C10 (1) with membership changes — a restart after a crash at any point succeeds, and the configuration of the
restarted node is derived from its log (partial: the restrictions of Props/C08Member.lean — no snapshots / compaction,
every node bootstrapped from the start, submitted configurations keep two action-free voters, `ReqG`, closed nodes
frozen).** Let `x` be reachable (`C08Member.ReachableR root`: arbitrary chains of membership changes, crashes, restarts)
with every node tracking (inductive: `tracks_in_member_partial`), `i` a node with a cluster id, `op` ANY operation the
system delivers to `i` in `x` (`Member.Enabled`, `ReqG`: append requests CARRYING CONFIGURATION ENTRIES, `changeConfig`
requests handled by a leader, replication updates that promote / commit a configuration, …) handled with ANY oracle, and
`k` ANY crash point of that step (an open node; `k = 0` for a closed one). Restart it on what is then on disk with
`retain ≥ 1`. Then there is `n` with `Node.restart … = some n`, `n.nid = i`, and
* `n` is `RestartSys.Restarted`: tracking, ordered, `CrashInv` again; a follower with its ids; `(term, votedFor)` the
  durable pair, a legal successor of the pair the step started from; log completely flushed;
* **its configurations are derived from the log on disk AT THAT CRASH POINT**: `n.configs.latest` is the newest
  configuration entry of that log, `n.configs.committed` the second newest (else the zero label: there is no snapshot) —
  after a truncation that removed the latest configuration entry the previous one; when only a prefix of the step's
  appends was flushed, the configurations of that prefix (`Restarted.cfgLatest`, `cfgCommitted`, `latestNewest`);
* `n` is `NoPanic.Good true`, and in the state `y = crashM x i op n` after the restart — a REACHABLE state again, every
  node tracking — `n.configs.latest` is the last configuration entry of `n`'s log and a `CfgAll` configuration
  (`C08Member.cfg_latest_member_partial` for `y`). -/
theorem restart_succeeds_member_partial (root : K) (x : Member.Sys) (hx : ReachableR root x)
    (hT : ∀ j, C12Track.Tracks (x.node j)) (i : Nat) (op : Op) (ra : List Nat) (ord : List (List Nat)) (src : Nat)
    (he : Member.Enabled x i op src) (hg : ReqG x i op) (k : Nat) (hopen : (x.node i).closed = "" ∨ k = 0)
    (hcid : (x.node i).cid ≠ 0) (retain : Nat) (hret : 1 ≤ retain) (sor : Bool) :
    ∃ n, Node.restart (C05.crashDisk (x.node i) op ra ord k) retain sor = some n ∧
      Restarted (x.node i) (C05.crashDisk (x.node i) op ra ord k) n ∧ n.nid = i ∧ Good true n ∧
      ReachableR root (crashM x i op n) ∧ (∀ j, C12Track.Tracks ((crashM x i op n).node j)) ∧
      (crashM x i op n).node i = n ∧ CfgLatest (crashM x i op n) ∧ CfgAll n.configs.latest := by
  obtain ⟨G, hs, _⟩ := rs_of hx
  obtain ⟨n, hn, hR⟩ := restarted_member hs he hg ra ord k hopen (hT i) hcid retain hret sor
  have ht : TransR x (crashM x i op n) := .crash i op ra ord src k retain sor n he hg hopen hret hn
  have hy : ReachableR root (crashM x i op n) := .next x _ hx ht
  have hni : (crashM x i op n).node i = n := Member.crashM_node_i x i op n
  obtain ⟨_, hX⟩ := C08Member.inv_reachable root _ hy
  have hgood := hX.good i
  rw [hni] at hgood
  obtain ⟨c1, c2, _, _⟩ := cfg_latest_member_partial root _ hy
  have hc2 := c2 i
  rw [hni] at hc2
  exact ⟨n, hn, hR, by rw [hR.ident.2.1]; exact (hs.inv.rp.el.ids i).1, hgood, hy, tracks_transR hs hT ht, hni, c1, hc2⟩

/-- **C10 (2) with membership changes — the restarted node reports a term and vote no older than any it had
acknowledged (partial: the restrictions of Props/C08Member.lean; no condition on the crashing step).** For every grant
`g` of the ledger of a reachable state `x`, every later state `y`, ANY operation, oracle and crash point: the node
restarted from the voter's disk still honours the grant. -/
theorem restart_keeps_acknowledged_vote_member_partial (root : K) (x y : Member.Sys) (hx : ReachableR root x)
    (hrun : RunR x y) (g : C01.Grant) (hg : g ∈ x.el.grants)
    (op : Op) (ra : List Nat) (ord : List (List Nat)) (k retain : Nat) (sor : Bool) (n : Node)
    (hn : Node.restart (C05.crashDisk (y.node g.voter) op ra ord k) retain sor = some n) :
    g.term < n.term ∨ (g.term = n.term ∧ n.votedFor = g.cand) := by
  obtain ⟨G, hs, _⟩ := rs_of (run_reachable hx hrun)
  have hh := hs.inv.rp.el.honoured g (grants_runR hrun g hg)
  obtain ⟨r1, r2, _⟩ := C05.restart_reads_durable _ _ _ _ hn
  have hd := Election.crashDisk_durStep (y.node g.voter) op ra ord k (hs.inv.rp.el.ids g.voter).2
  have hvs : C05.VoteStep (y.node g.voter) n := by
    unfold C05.VoteStep; rw [r1, r2]; exact hd
  exact (C01Sys.honouredBy_step hh hvs).2

/-- **C10 (3) with membership changes — the restarted node holds every entry it had acknowledged as stored (partial:
the restrictions of Props/C08Member.lean).** Let `a` be an acknowledgement recorded in the reachable state `x`, `b` an
entry OF THE ACKNOWLEDGEMENT'S TERM on the path to the acknowledged entry (a configuration entry or not), `y` any later
state, and let the voter die in `y` at ANY crash point of ANY step the system admits and restart as `n`. Then `n`'s log,
completely flushed, holds an entry of `b`'s term at `b`'s index — unless the tree of created entries (of the state after
the restart) holds an entry of a later term, not above `n`'s term, that does not extend `b` (never the case for a
committed `b`: `restart_keeps_committed_acknowledged_member_partial`). (The majority statement — a committed entry is
kept by a majority of the voters of the configuration in force, through every crash — is
`C06Member.committed_entry_stays_flushed_on_Q_partial`.) -/
theorem restart_keeps_acknowledged_entries_member_partial (root : K) (x y : Member.Sys) (hx : ReachableR root x)
    (hrun : RunR x y) (a : Ack) (ha : a ∈ x.cm.acks) (b : Nat × Nat) (hb : b.2 = a.term)
    (hanc : Anc x.cm.T b a.key)
    (op : Op) (ra : List Nat) (ord : List (List Nat)) (src : Nat) (he : Member.Enabled y a.voter op src)
    (hg : ReqG y a.voter op) (k : Nat) (hopen : (y.node a.voter).closed = "" ∨ k = 0)
    (retain : Nat) (hret : 1 ≤ retain) (sor : Bool) (n : Node)
    (hn : Node.restart (C05.crashDisk (y.node a.voter) op ra ord k) retain sor = some n) :
    (b.1 ≤ n.log.flushed ∧ ∃ e, n.log.get? b.1 = some e ∧ e.term = b.2) ∨
    ∃ c ∈ (crashM y a.voter op n).cm.T, b.2 < c.e.term ∧ c.e.term ≤ n.term ∧
      ¬ Anc (crashM y a.voter op n).cm.T b (c.e.index, c.e.term) := by
  have hy := run_reachable hx hrun
  have ht : TransR y (crashM y a.voter op n) := .crash a.voter op ra ord src k retain sor n he hg hopen hret hn
  obtain ⟨G', hs', _⟩ := rs_of (ReachableR.next y _ hy ht)
  obtain ⟨g1, g2, _⟩ := run_grow hrun
  obtain ⟨t1, t2, _⟩ := trans_grow (transR_trans ht)
  have hni : (crashM y a.voter op n).node a.voter = n := Member.crashM_node_i y a.voter op n
  have key := hs'.inv.ack.stable a (List.mem_append_left _ (t2 a (g2 a ha))) b hb
    (hanc.mono (fun c hc => t1 c (g1 c hc)))
  rw [hni] at key
  rcases key with ⟨d1, d2⟩ | ⟨c, hcT, h1, h2, h3⟩
  · left
    have wn : NWF n := by have := nwfM hs'.inv a.voter; rwa [hni] at this
    obtain ⟨e, hee, het⟩ := holds_get d2
    exact ⟨d1, e, by rw [wn.get?, if_pos (show 0 < b.1 from d2.1)]; exact hee, het⟩
  · exact Or.inr ⟨c, hcT, h1, h2, h3⟩

/-- **… and a committed entry it acknowledged in the entry's term, without exception** (same assumptions). -/
theorem restart_keeps_committed_acknowledged_member_partial (root : K) (x y : Member.Sys) (hx : ReachableR root x)
    (hrun : RunR x y) (m : Nat × Nat) (hm : m ∈ x.cm.committed) (a : Ack) (ha : a ∈ x.cm.acks)
    (hat : a.term = m.2) (hanc : Anc x.cm.T m a.key)
    (op : Op) (ra : List Nat) (ord : List (List Nat)) (src : Nat) (he : Member.Enabled y a.voter op src)
    (hg : ReqG y a.voter op) (k : Nat) (hopen : (y.node a.voter).closed = "" ∨ k = 0)
    (retain : Nat) (hret : 1 ≤ retain) (sor : Bool) (n : Node)
    (hn : Node.restart (C05.crashDisk (y.node a.voter) op ra ord k) retain sor = some n) :
    m.1 ≤ n.log.flushed ∧ ∃ e, n.log.get? m.1 = some e ∧ e.term = m.2 := by
  have hy := run_reachable hx hrun
  have ht : TransR y (crashM y a.voter op n) := .crash a.voter op ra ord src k retain sor n he hg hopen hret hn
  obtain ⟨G', hs', _⟩ := rs_of (ReachableR.next y _ hy ht)
  obtain ⟨_, _, g3⟩ := run_grow hrun
  obtain ⟨_, _, t3⟩ := trans_grow (transR_trans ht)
  rcases restart_keeps_acknowledged_entries_member_partial root x y hx hrun a ha m hat.symm hanc op ra ord src he hg k
      hopen retain hret sor n hn with h | ⟨c, hcT, h1, _, h3⟩
  · exact h
  · exact absurd (C02Member.lc_ledger hs'.inv hs'.sideT m (t3 m (g3 m hm)) c hcT h1) h3

/-- **the safety properties in a state `z` of the cluster with membership changes** (Props/C08Member.lean): election
safety (two leaders of one term are the same node; `won` names one node per term), leader completeness (entries of later
terms extend every committed entry; a leader holds every committed entry of a term not above its own), commit-index
safety (two nodes whose commit indexes cover an index hold the same entry there), every node uses the last configuration
entry of its log, a `CfgAll` configuration, and every node is `NoPanic.Good true`. -/
structure SafeM (z : Member.Sys) : Prop where
  election : (∀ i j, (z.node i).role = .leader → (z.node j).role = .leader → (z.node i).term = (z.node j).term → i = j) ∧
    (∀ l l' t, (l, t) ∈ z.el.won → (l', t) ∈ z.el.won → l = l')
  completeness : (∀ m ∈ z.cm.committed, ∀ c ∈ z.cm.T, m.2 < c.e.term → Anc z.cm.T m (key c)) ∧
    (∀ i, (z.node i).role = .leader → ∀ m ∈ z.cm.committed, m.2 ≤ (z.node i).term →
      ∃ e, (z.node i).log.get? m.1 = some e ∧ e.term = m.2)
  commitIndex : ∀ i j k, 1 ≤ k → k ≤ (z.node i).commitIndex → k ≤ (z.node j).commitIndex →
    (z.node i).log.get? k = (z.node j).log.get? k ∧ ((z.node i).log.get? k).isSome = true
  config : CfgLatest z ∧ ∀ i, CfgAll (z.node i).configs.latest
  good : ∀ i, Good true (z.node i)

theorem safeM_of_reachable (root : K) (z : Member.Sys) (h : ReachableR root z) : SafeM z := by
  obtain ⟨e1, e2, _⟩ := election_safety_member_partial root z h
  obtain ⟨_, c2, _, _⟩ := commit_index_safety_member_partial root z h
  obtain ⟨l1, l2, _, _⟩ := cfg_latest_member_partial root z h
  exact ⟨⟨e1, e2⟩, leader_completeness_member_partial root z h, c2, ⟨l1, l2⟩, (C08Member.inv_reachable root z h).2.good⟩

/-- **C10 (4) with membership changes — the restarted node rejoins the cluster without violating any safety property
(partial: the restrictions of Props/C08Member.lean).** Under the hypotheses of `restart_succeeds_member_partial`, with `n`
the restarted node: the state `crashM x i op n` is reachable again (NO side condition: the system with membership changes
has none), and every state `z` of every continuation of the run is reachable and `SafeM` — whatever membership changes,
crashes and restarts follow; every node of `z` tracks; the ledgers forget nothing. -/
theorem rejoin_member_partial (root : K) (x : Member.Sys) (hx : ReachableR root x)
    (hT : ∀ j, C12Track.Tracks (x.node j)) (i : Nat) (op : Op) (ra : List Nat) (ord : List (List Nat)) (src : Nat)
    (he : Member.Enabled x i op src) (hg : ReqG x i op) (k : Nat) (hopen : (x.node i).closed = "" ∨ k = 0)
    (retain : Nat) (hret : 1 ≤ retain) (sor : Bool) (n : Node)
    (hn : Node.restart (C05.crashDisk (x.node i) op ra ord k) retain sor = some n) :
    ReachableR root (crashM x i op n) ∧
    ∀ z, RunR (crashM x i op n) z → ReachableR root z ∧ SafeM z ∧ (∀ j, C12Track.Tracks (z.node j)) ∧
      (∀ g ∈ x.el.grants, g ∈ z.el.grants) ∧ (∀ a ∈ x.cm.acks, a ∈ z.cm.acks) ∧
      (∀ m ∈ x.cm.committed, m ∈ z.cm.committed) ∧ (∀ c ∈ x.cm.T, c ∈ z.cm.T) := by
  obtain ⟨G, hs, _⟩ := rs_of hx
  have ht : TransR x (crashM x i op n) := .crash i op ra ord src k retain sor n he hg hopen hret hn
  have hy : ReachableR root (crashM x i op n) := .next x _ hx ht
  refine ⟨hy, fun z hrun => ?_⟩
  have hz := run_reachable hy hrun
  obtain ⟨t1, t2, t3⟩ := trans_grow (transR_trans ht)
  obtain ⟨g1, g2, g3⟩ := run_grow hrun
  exact ⟨hz, safeM_of_reachable root z hz, tracks_runR hy (tracks_transR hs hT ht) hrun,
    fun g hg' => grants_runR hrun g (grants_transR ht g hg'), fun a ha => g2 a (t2 a ha),
    fun m hm => g3 m (t3 m hm), fun c hc => g1 c (t1 c hc)⟩

end member

/-! ## Examples (non-vacuity)

Part 1: three voters bootstrapped with the configuration entry (1,1) (`C09Sys3.exW0`); node 2 is asked for a snapshot, the
snapshot goroutine runs, the result is handed over (`C09Sys3.exW3`: reachable in `Raft.Snap4`). Node 2 then dies while
handling its election timeout, after the first storage point (`value.set`: term 2 and its own vote are on disk).
(A leader cannot be elected inside a kernel-checked example — the mutually recursive leader block does not reduce there;
states with real snapshots, compaction and an installation are EVALUATED below.) -/

section
open C09Sys3

/-- the run `exW0 → exW1 → exW2 → exW3` of `Raft.Snap4` (node 2 is asked for a snapshot, the snapshot goroutine runs, the
result is handed over): its transitions and the side conditions of its states -/
theorem exW3_run : Side4 [1, 2, 3] exW0 ∧ Snap4.Trans exW0 exW1 ∧ Side4 [1, 2, 3] exW1 ∧ Snap4.Trans exW1 exW2 ∧
    Side4 [1, 2, 3] exW2 ∧ Snap4.Trans exW2 exW3 ∧ Side4 [1, 2, 3] exW3 := by
  have en : ∀ (x : Commit.Sys) (op : Op), OpOKS op → (∀ q, op ≠ .vote q) → (∀ q, op ≠ .append q) →
      (∀ b, op ≠ .newEntries b) → (∀ t c, op ≠ .changeConfig t c) → (∀ a b c, op ≠ .voteResult a b c) →
      (∀ us, op ≠ .replUpdates us) → Snap.Enabled x 2 op 0 := C09Sys.exEnabled
  have s0 : Side4 [1, 2, 3] exW0 := exSide4 _ (C04Sys.exNode 2) rfl rfl (by
    show C04Sys.exNode = _
    funext j; unfold setNode; split
    · rename_i h; rw [h]
    · rfl) (by decide) rfl (by decide)
  have t1 : Snap4.Trans exW0 exW1 :=
    .step 2 (.takeSnapshot 7 0) [] [] 0
      (en _ _ trivial (fun _ h => by cases h) (fun _ h => by cases h) (fun _ h => by cases h)
        (fun _ _ h => by cases h) (fun _ _ _ h => by cases h) (fun _ h => by cases h)) (by decide)
  have s1 : Side4 [1, 2, 3] exW1 :=
    exSide4 _ ((C04Sys.exNode 2).step (.takeSnapshot 7 0) [] []) (by decide) (by decide) rfl (by decide) (by decide)
      (by decide)
  have t2 : Snap4.Trans exW1 exW2 :=
    .step 2 .snapRun [] [] 0
      (en _ _ trivial (fun _ h => by cases h) (fun _ h => by cases h) (fun _ h => by cases h)
        (fun _ _ h => by cases h) (fun _ _ _ h => by cases h) (fun _ h => by cases h)) (by decide)
  have s2 : Side4 [1, 2, 3] exW2 :=
    exSide4 _ (((C04Sys.exNode 2).step (.takeSnapshot 7 0) [] []).step .snapRun [] []) (by decide) (by decide)
      (by
        show setNode (setNode C04Sys.exNode 2 _) 2 _ = _
        exact setNode_setNode _ _ _ _) (by decide) (by decide) (by decide)
  have t3 : Snap4.Trans exW2 exW3 :=
    .step 2 .snapTaken [] [] 0
      (en _ _ trivial (fun _ h => by cases h) (fun _ h => by cases h) (fun _ h => by cases h)
        (fun _ _ h => by cases h) (fun _ _ _ h => by cases h) (fun _ h => by cases h)) (by decide)
  have s3 : Side4 [1, 2, 3] exW3 :=
    exSide4 _ ((((C04Sys.exNode 2).step (.takeSnapshot 7 0) [] []).step .snapRun [] []).step .snapTaken [] [])
      (by decide) (by decide) (by
        show setNode (setNode (setNode C04Sys.exNode 2 _) 2 _) 2 _ = _
        rw [setNode_setNode]
        exact setNode_setNode _ _ _ _) (by decide) (by decide) (by decide)
  exact ⟨s0, t1, s1, t2, s2, t3, s3⟩

/-- `exW3` is reachable in `Raft.Snap4` (as in Props/C09Sys3.lean) -/
theorem exW3_reach4 : Reachable4 [1, 2, 3] exW3 := by
  have i0 : Snap4.Init4 exW0 :=
    ⟨⟨C09Sys2.exY0_init, fun _ => rfl, rfl⟩, C19Sys.ex0_tracks, fun i => (C19Sys.exNode_good i).ordered⟩
  obtain ⟨s0, t1, s1, t2, s2, t3, s3⟩ := exW3_run
  exact .next _ _ (.next _ _ (.next _ _ (.init _ i0 s0) t1 s1) t2 s2) t3 s3

theorem exTimeout_enabled (x : Commit.Sys) : Snap.Enabled x 2 .timeout 0 :=
  C09Sys.exEnabled x .timeout trivial (fun _ h => by cases h) (fun _ h => by cases h) (fun _ h => by cases h)
    (fun _ _ h => by cases h) (fun _ _ _ h => by cases h) (fun _ h => by cases h)

/-- the disk of node 2 of `exW3` after the first storage point of its election timeout -/
def exD : Durable := C05.crashDisk (exW3.node 2) .timeout [] [] 1
/-- the node restarted from it -/
def exRn : Node := (Node.restart exD 1 true).getD {}

theorem exRn_restart : Node.restart exD 1 true = some exRn := by
  have h : (Node.restart exD 1 true).isSome = true := by decide
  unfold exRn
  cases hr : Node.restart exD 1 true with
  | none => rw [hr] at h; cases h
  | some n => rfl

/-- the side conditions `Side4` of a state in which node 2 was replaced by a node with the bootstrap log, a stable latest
configuration with the three voters and no snapshot (as `C09Sys3.exSide4`, for a RESTARTED node: its committed
configuration is the zero label) -/
theorem exSide4r (x : Snap3.Sys) (n : Node)
    (hb : n.configs.isBootstrapped = true ∧ n.configs.latest.voters = [1, 2, 3])
    (hst : n.configs.latest.isStable = true) (hl : n.log = (C04Sys.exNode 2).log)
    (hx : x.s2.cs.rp.el.node = setNode C04Sys.exNode 2 n)
    (hord : n.configs.committed.index ≤ n.configs.latest.index ∧ n.configs.latest.index ≤ n.lastLogIndex)
    (hsd : n.snapsDisk = []) (hT : ∀ c ∈ x.s2.cs.T, c = ⟨C04Sys.exE, 0, 0⟩) : Side4 [1, 2, 3] x := by
  have hnode : ∀ i, x.node i = setNode C04Sys.exNode 2 n i := fun i => by
    show x.s2.cs.rp.el.node i = _; rw [hx]
  have hlog : ∀ i, (x.node i).log = (C04Sys.exNode 2).log := fun i => by
    rw [hnode i]
    unfold setNode
    split
    · exact hl
    · rfl
  refine ⟨⟨⟨fun i => ?_, fun i => ?_⟩, fun i e he ht => ?_, fun i => ?_⟩, fun i => ?_,
    fun i => Or.inr (fun c hc d hd _ _ => ?_), fun i => ?_⟩
  · show (x.node i).configs.isBootstrapped = true ∧ (x.node i).configs.latest.voters = _
    rw [hnode i]; unfold setNode
    split
    · exact hb
    · exact ⟨rfl, rfl⟩
  · show (x.node i).configs.latest.isStable = true
    rw [hnode i]; unfold setNode
    split
    · exact hst
    · rfl
  · have he' : e ∈ (uncLog (x.s2.base i) (x.node i).log).entries := he
    rw [uncLog_entries0 _ (by rw [hlog i]; rfl), hlog i] at he'
    have : e = C04Sys.exE := List.mem_singleton.mp he'
    subst this; rfl
  · rw [hlog i]
    exact ⟨by decide, rfl, by decide⟩
  · rw [hnode i]; unfold setNode
    split
    · exact hord
    · exact ⟨Nat.le_refl _, Nat.le_refl _⟩
  · rw [hT c hc, hT d hd]
  · rw [hnode i]; unfold setNode
    split
    · unfold Track.label; rw [hsd]; exact Nat.zero_le _
    · exact Nat.zero_le _
/-- the cluster after the crash and the restart -/
def exW3c : Snap3.Sys := { exW3 with s2 := crashS exW3.s2 2 .timeout exRn }

set_option maxRecDepth 100000 in
/-- EXAMPLE (`restart_succeeds_snap_partial`): its hypotheses hold for node 2 of `exW3`, its election timeout and the
crash point `k = 1`; the node the theorem promises is `exRn`: term 2, voted for itself -/
example : [1, 2, 3].Nodup ∧ Reachable4 [1, 2, 3] exW3 ∧ Snap.Enabled exW3.s2.cs 2 .timeout 0 ∧
    ((exW3.node 2).step .timeout [] []).panicked = none ∧ SnapFbOp (exW3.node 2) .timeout ∧ (exW3.node 2).cid ≠ 0 ∧
    Node.restart exD 1 true = some exRn ∧ exRn.term = 2 ∧ exRn.votedFor = 2 :=
  ⟨by decide, exW3_reach4, exTimeout_enabled _, by decide, trivial, by decide, exRn_restart, by decide, by decide⟩

/-- EXAMPLE (`rejoin_snap_partial`, `restart_snapshot_consistent_snap_partial`, `restart_keeps_acknowledged_…`): that crash
is a crash transition of the system (`CrashOf`) and the state after it satisfies the side conditions — so `exW3c` is
reachable and safe -/
theorem exW3c_crashOf : CrashOf exW3 2 exRn exW3c ∧ Side4 [1, 2, 3] exW3c := by
  refine ⟨.op .timeout [] [] 0 1 1 true (exTimeout_enabled _) (Nat.le_refl _) (by decide) trivial (by decide) exRn_restart,
    exSide4r _ exRn (by decide) (by decide) (by decide) ?_ (by decide) (by decide) (by decide)⟩
  show setNode (setNode (setNode (setNode C04Sys.exNode 2 _) 2 _) 2 _) 2 _ = _
  rw [setNode_setNode, setNode_setNode]
  exact setNode_setNode _ _ _ _

example : Reachable4 [1, 2, 3] exW3c ∧ SafeS [1, 2, 3] exW3c := by
  have h := rejoin_snap_partial (by decide) exW3 exW3c exW3_reach4 2 exRn exW3c_crashOf.1 exW3c_crashOf.2
  exact ⟨h.1.1, (h.2 _ .refl).2.2.1⟩

set_option maxRecDepth 100000 in
/-- EXAMPLE (`restart_keeps_acknowledged_vote_snap_partial`): node 2 of `exW3` completes its election timeout (`exV`):
the ledger holds the grant (voter 2, term 2, candidate 2),
`exV` is reachable, and a restart of node 2 from its disk between two steps succeeds — by the theorem the restarted node
still honours the grant -/
example :
    let exV : Snap3.Sys := { exW3 with s2 := stepS exW3.s2 2 .timeout [] [] 0 }
    Reachable4 [1, 2, 3] exV ∧ Run4 [1, 2, 3] exV exV ∧
    ({ voter := 2, term := 2, cand := 2 } : C01.Grant) ∈ exV.s2.cs.rp.el.grants ∧
    (Node.restart (C05.crashDisk (exV.node 2) .timeout [] [] 0) 1 true).isSome = true := by
  intro exV
  have t : Snap4.Trans exW3 exV := .step 2 .timeout [] [] 0 (exTimeout_enabled _) (by decide)
  have s : Side4 [1, 2, 3] exV :=
    exSide4 _ (((((C04Sys.exNode 2).step (.takeSnapshot 7 0) [] []).step .snapRun [] []).step .snapTaken [] []).step
        .timeout [] [])
      (by decide) (by decide) (by
        show setNode (setNode (setNode (setNode C04Sys.exNode 2 _) 2 _) 2 _) 2 _ = _
        rw [setNode_setNode, setNode_setNode]
        exact setNode_setNode _ _ _ _) (by decide) (by decide) (by decide)
  exact ⟨.next _ _ exW3_reach4 t s, .refl, by decide, by decide⟩

-- evaluation (tests, not proofs): the scenario of Props/C09Sys3.lean with REAL snapshots — node 1 leads term 2, has
-- committed and applied "a" (index 3). (1) it dies at each storage point of the snapshot goroutine (`snap.publish`,
-- `snap.retain`): the restart succeeds; from `snap.publish` on the restarted node has the snapshot at 3, commit index 3,
-- the state machine ["a"], and tracks. (2) node 3 (log [(1,1)], term 1) dies at each storage point of the install
-- handler (`value.set`, `snap.publish`, `snap.retain`, `clearLog`): the restart succeeds and tracks; from `snap.publish`
-- on the log is reset to the snapshot (F18 repaired). (3) node 3 after the installation dies in its election timeout.
#guard (List.range 4).map (fun k => (Node.restart (C05.crashDisk (exX12.node 1) .snapRun [] [] k) 1 true).map
    (fun n => (n.term, n.snapIndex, n.log.prev, n.log.entries.length, n.commitIndex, n.fsm.applied,
      decide (C12Track.Tracks n)))) ==
  [some (2, 0, 0, 3, 0, [], true), some (2, 3, 0, 3, 3, ["a"], true), some (2, 3, 0, 3, 3, ["a"], true),
   some (2, 3, 0, 3, 3, ["a"], true)]
#guard (List.range 6).map (fun k => (Node.restart (C05.crashDisk (exX15.node 3) (.install exQ) [] [] k) 1 true).map
    (fun n => (n.term, n.snapIndex, n.log.prev, n.log.entries.length, n.commitIndex, decide (C12Track.Tracks n)))) ==
  [some (1, 0, 0, 1, 0, true), some (2, 0, 0, 1, 0, true), some (2, 3, 3, 0, 3, true), some (2, 3, 3, 0, 3, true),
   some (2, 3, 3, 0, 3, true), some (2, 3, 3, 0, 3, true)]
#guard (List.range 3).map (fun k => (Node.restart (C05.crashDisk (exX16.node 3) .timeout [] [] k) 1 true).map
    (fun n => (n.term, n.votedFor, n.snapIndex, n.log.prev, n.commitIndex, n.fsm.applied, decide (C12Track.Tracks n)))) ==
  [some (2, 0, 3, 3, 3, ["a"], true), some (3, 3, 3, 3, 3, ["a"], true), some (3, 3, 3, 3, 3, ["a"], true)]

end

/-! ### the delimitation "the log on disk is not stale" (premise of `Snap4.Trans.crash`, `RestartSys.CrashOf.op`) -/

/-- the follower `C12Track.exT` (snapshot at 1; entries 2, 3, 4) with only entry 2 FLUSHED but commit index 4, everything
applied, and a snapshot request pending — a node may commit and apply entries it created itself as an earlier leader and
never flushed (finding (a) of C02Sys / C06Sys: a follower that appends nothing acknowledges and commits without
flushing) -/
def exStale : Node :=
  { C12Track.exT with log := { C12Track.exT.log with flushed := 2 }, commitIndex := 4,
                      fsm := { index := 4, term := 1, config := C12Track.c3, applied := ["a"] },
                      snapPending := some { task := 1, minIndex := 0, config := C12Track.c3 } }

/-- **NECESSITY of the premise `staleLog = false` for a crash in an operation of stage 2 — and what happens without it
(node level).** `exStale` satisfies the per-node invariant `CrashInv`; its snapshot goroutine stores a snapshot at index 4
(`snap.publish`, `snap.retain`). If the process dies after `snap.publish` the disk holds the NEW snapshot (index 4) and a
log that ends at index 2: the log is stale, `openStorage` resets it to the snapshot. The restart SUCCEEDS
(`restart_succeeds_snap_partial` covers this crash point) and the restarted node tracks: log empty, starting at 4,
snapshot / commit index 4, state machine restored, `latest` = the snapshot's label — the unflushed entries 3 and 4 are
replaced by the snapshot that covers them. But the state is outside the crash transition of `Raft.Snap3` / `Raft.Snap4`
(whose crash analysis un-compacts the log on disk), so `rejoin_snap_partial` does not speak about it. -/
theorem stale_log_after_own_snapshot :
    C12Crash.CrashInv exStale ∧ (exStale.step .snapRun [] []).panicked = none ∧
    (exStale.step .snapRun [] []).trace.map (·.1) = ["snap.publish", "snap.retain"] ∧
    Node.staleLog (C05.crashDisk exStale .snapRun [] [] 1) = true ∧
    (Node.restart (C05.crashDisk exStale .snapRun [] [] 1) 1 true).map
      (fun n => (n.log.prev, n.log.entries.length, n.snapIndex, n.commitIndex, n.fsm.index, n.configs.latest.index)) =
        some (4, 0, 4, 4, 4, 3) ∧
    (Node.restart (C05.crashDisk exStale .snapRun [] [] 1) 1 true).map (fun n => decide (C12Track.Tracks n)) =
      some true := by
  refine ⟨⟨by decide, ⟨⟨by decide, by decide, by decide, by decide, by decide, by decide,
    ⟨by decide, by decide, by decide⟩, by decide, fun rs h => by cases h⟩, by decide⟩, by decide, by decide, by decide⟩,
    by decide, by decide, by decide, by decide, by decide⟩

/-! Part 3: the crash of Props/C10Sys.lean (node 1 of `C02Sys.ex0` dies during its election timeout after the first
storage point; `C19Sys.exCrash` is the state after the restart) -/

/-- EXAMPLE (`rejoin_converges_possible_partial`): its hypotheses hold for that crash and the live majority `M = [1, 2]`,
which contains the restarted node 1 -/
example : SysInv.ReachableG [1, 2, 3] C02Sys.ex0 ∧ Commit.Enabled C02Sys.ex0 1 .timeout 0 ∧
    SysInv.EnabledG C02Sys.ex0 1 .timeout ∧
    Node.restart (C05.crashDisk (C02Sys.ex0.node 1) .timeout [] [] 1) 1 true = some C19Sys.exN ∧
    SideV [1, 2, 3] (crashC C02Sys.ex0 1 .timeout C19Sys.exN) ∧
    [1, 2].Nodup ∧ (∀ j ∈ [1, 2], j ∈ [1, 2, 3]) ∧ 2 * [1, 2].length > [1, 2, 3].length ∧ (∀ j ∈ [1, 2], j ≠ 0) ∧
    1 ∈ [1, 2] ∧ (∀ j ∈ [1, 2], j ≠ 1 → (C02Sys.ex0.node j).closed = "") ∧
    (∀ j ∈ [1, 2], ((crashC C02Sys.ex0 1 .timeout C19Sys.exN).node j).configs.latest.ids.Nodup) :=
  ⟨C19Sys.ex0_reachable, C19Sys.ex1_enabled.1, C19Sys.ex1_enabled.2, C19Sys.exN_restart, C19Sys.exCrash_sideV,
    by decide, by decide, by decide, by decide, by decide, by decide, by decide⟩

/-! Part 2: the initial state `C08Member.ex0` (three voters bootstrapped with the configuration entry (1,1)); node 1 dies
during its election timeout after the first storage point -/

/-- EXAMPLE (`restart_succeeds_member_partial`, `rejoin_member_partial`): their hypotheses hold for node 1 of `ex0`, its
election timeout and the crash point `k = 1`; the restarted node is `C19Sys.exN` -/
example : C08Member.ReachableR (1, 1) C08Member.ex0 ∧ (∀ j, C12Track.Tracks (C08Member.ex0.node j)) ∧
    Member.Enabled C08Member.ex0 1 .timeout 0 ∧ MemberSide.ReqG C08Member.ex0 1 .timeout ∧
    ((C08Member.ex0.node 1).closed = "" ∨ 1 = 0) ∧ (C08Member.ex0.node 1).cid ≠ 0 ∧
    Node.restart (C05.crashDisk (C08Member.ex0.node 1) .timeout [] [] 1) 1 true = some C19Sys.exN :=
  ⟨.init _ C08Member.ex0_initR, C19Sys.ex0_tracks, C08Member.ex1_enabled.1, C08Member.ex1_enabled.2, Or.inl rfl,
    by decide, C19Sys.exN_restart⟩

-- evaluation (tests, not proofs): the run of Props/AuditMember.lean — node 1 leads term 2 and has introduced the
-- configuration entry (3,2) that adds node 4 (`m8`); the append request `mReq3` carrying it is on the wire (`m9`).
-- (1) follower 2 dies while handling that request (one storage point, `commitLog`): restarted from the disk BEFORE it the
-- node uses the bootstrap configuration (entry 1, three members; `committed` is the zero label), from the `commitLog`
-- point on configuration (3,2) with four members and `committed` = entry 1 — in each case it tracks and `latest` is the
-- newest configuration entry of its log. (2) the LEADER appends the configuration entry without a storage point of its
-- own (it is flushed by a later `commitLog`): a leader that dies right after `changeConfig` restarts with the OLD
-- configuration — the entry was never acknowledged.
#guard (List.range 3).map (fun k =>
    (Node.restart (C05.crashDisk (AuditMember.m9.node 2) (.append AuditMember.mReq3) [] [] k) 1 true).map
      (fun n => (n.term, n.log.entries.length, n.configs.latest.index, n.configs.committed.index,
        n.configs.latest.nodes.length, decide (C12Track.Tracks n), decide (C19Latest.LatestIsNewest n)))) ==
  [some (2, 2, 1, 0, 3, true, true), some (2, 3, 3, 1, 4, true, true), some (2, 3, 3, 1, 4, true, true)]
#guard (List.range 2).map (fun k =>
    (Node.restart (C05.crashDisk (AuditMember.m7.node 1) (.changeConfig 5 AuditMember.mAdd) [] [] k) 1 true).map
      (fun n => (n.log.entries.length, n.configs.latest.index, decide (C12Track.Tracks n)))) ==
  [some (2, 1, true), some (2, 1, true)]

end C10Sys2
end Raft

#print axioms Raft.C10Sys2.restart_succeeds_snap_partial
#print axioms Raft.C10Sys2.restart_succeeds_install_partial
#print axioms Raft.C10Sys2.restart_keeps_acknowledged_vote_snap_partial
#print axioms Raft.C10Sys2.safeS_of_reachable
#print axioms Raft.C10Sys2.rejoin_snap_partial
#print axioms Raft.C10Sys2.restart_keeps_acknowledged_entries_snap_partial
#print axioms Raft.C10Sys2.restart_keeps_committed_acknowledged_snap_partial
#print axioms Raft.C10Sys2.restart_snapshot_consistent_snap_partial
#print axioms Raft.C10Sys2.rejoin_converges_possible_partial
#print axioms Raft.C10Sys2.tracks_in_member_partial
#print axioms Raft.C10Sys2.restart_succeeds_member_partial
#print axioms Raft.C10Sys2.restart_keeps_acknowledged_vote_member_partial
#print axioms Raft.C10Sys2.restart_keeps_acknowledged_entries_member_partial
#print axioms Raft.C10Sys2.restart_keeps_committed_acknowledged_member_partial
#print axioms Raft.C10Sys2.safeM_of_reachable
#print axioms Raft.C10Sys2.rejoin_member_partial
#print axioms Raft.C10Sys2.stale_log_after_own_snapshot
