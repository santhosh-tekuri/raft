/-
C01 on the cluster-level transition system WITH membership changes (`Raft.Member`, Sys/Member.lean) — the
bookkeeping half of election safety, for every reachable state and NO fixed voter set.

`EInv e E` (for the election part `e : Election.Sys` and the ledger `E` of election configurations) generalises
`C01Sys.Inv V e`: the voter set `V` of each clause becomes the configuration of THAT election —
* a candidate still holds the configuration it started its election with (`MemberRel.cand_configs`), that
  configuration is recorded in `E`, the node is a voter of it, the voters it has counted are distinct other voters of
  it that granted their vote, and `votesNeeded` is what is missing for ITS quorum;
* every (leader, term) ever recorded in `won` has a recorded election configuration `k ∈ E` of which the leader is a
  voter and is `C01.Backed` by a majority of the VOTERS OF `k.cfg` that each granted it their single vote of that term;
* grants are unique per (voter, term); `E` holds one configuration per (candidate, term).
`einv_reachable`: `EInv` holds in every state reachable in `Member` in which every node is bootstrapped (`Member.Boot`).
The clauses that speak of no voter set and the candidate's bookkeeping are kept as in C01Sys (`C01Sys.VoteInv`,
`C01Sys.CandCore`); what is proved here is the ledger of election configurations and the backing of leaders.

What is NOT here (it is the other half, Lemmas/MemberCore.lean): that the configurations of two elections of one
term are equal or adjacent, so that their majorities intersect.
-/
import RaftVerif.Sys.Member
import RaftVerif.Lemmas.QuorumRel

namespace Raft
namespace C01Member
open Node Election C01 C01Sys Member
open NodeSys (forall_setNode)

/-- bookkeeping of candidate `i`: its election configuration is recorded and is still its latest configuration; it is
a voter of it; its self vote is in the ledger; the voters it counted in its term are distinct other voters of that
configuration that granted it their vote; `votesNeeded` is what is still missing for the quorum of that
configuration. -/
structure CandOK (e : Election.Sys) (E : List ECfg) (i : Nat) : Prop where
  term_pos : (e.node i).term ≠ 0
  recd : ({ cand := i, term := (e.node i).term, cfg := (e.node i).configs.latest } : ECfg) ∈ E
  voter : (e.node i).configs.latest.isVoter i = true
  self : ({ voter := i, term := (e.node i).term, cand := i } : Grant) ∈ e.grants
  nodup : (votersCounted e.counted i (e.node i).term).Nodup
  real : ∀ v ∈ votersCounted e.counted i (e.node i).term,
    (e.node i).configs.latest.isVoter v = true ∧ v ≠ i ∧
    ({ voter := v, term := (e.node i).term, cand := i } : Grant) ∈ e.grants
  count : (e.node i).votesNeeded + ((votersCounted e.counted i (e.node i).term).length : Int) + 1
    = (((e.node i).configs.latest.voters.length / 2 + 1 : Nat) : Int)

/-- **the election invariant without a fixed voter set** -/
structure EInv (e : Election.Sys) (E : List ECfg) : Prop where
  ids : ∀ i, (e.node i).nid = i ∧ C05.VoteWF (e.node i)
  honoured : ∀ g ∈ e.grants, HonouredBy (e.node g.voter) g
  unique : GrantsUnique e.grants
  cand : ∀ i, (e.node i).role = .candidate → CandOK e E i
  recorded : ∀ i, (e.node i).role = .leader → (i, (e.node i).term) ∈ e.won
  backed : ∀ l t, (l, t) ∈ e.won → ∃ k ∈ E, k.cand = l ∧ k.term = t ∧ k.cfg.isVoter l = true ∧
    Backed e.grants k.cfg.voters l t
  countedTerm : ∀ c ∈ e.counted, c.2.1 ≤ (e.node c.1).term
  ecfgTerm : ∀ k ∈ E, k.term ≤ (e.node k.cand).term
  ecfgUniq : ∀ k ∈ E, ∀ k' ∈ E, k.cand = k'.cand → k.term = k'.term → k = k'

/-- `CandOK` is the record of the election configuration and the bookkeeping `C01Sys.CandCore` for its voters and
its quorum -/
theorem CandOK.core {e : Election.Sys} {E : List ECfg} {i : Nat} (h : CandOK e E i) :
    CandCore (fun v => (e.node i).configs.latest.isVoter v = true)
      ((e.node i).configs.latest.voters.length / 2 + 1) e i :=
  ⟨h.term_pos, h.voter, h.self, h.nodup, h.real, h.count⟩

theorem candOK_of_core {e : Election.Sys} {E : List ECfg} {i : Nat} (cf : Config)
    (hcf : (e.node i).configs.latest = cf) (r : ({ cand := i, term := (e.node i).term, cfg := cf } : ECfg) ∈ E)
    (h : CandCore (fun v => cf.isVoter v = true) (cf.voters.length / 2 + 1) e i) : CandOK e E i := by
  subst hcf
  exact ⟨h.term_pos, r, h.voter, h.self, h.nodup, h.real, h.count⟩

theorem CandOK.transfer {e e' : Election.Sys} {E E' : List ECfg} {j : Nat} (h : CandOK e E j)
    (ht : (e'.node j).term = (e.node j).term) (hv : (e'.node j).votesNeeded = (e.node j).votesNeeded)
    (hcf : (e'.node j).configs.latest = (e.node j).configs.latest)
    (hg : ∀ g ∈ e.grants, g ∈ e'.grants) (hE : ∀ k ∈ E, k ∈ E')
    (hc : votersCounted e'.counted j (e.node j).term = votersCounted e.counted j (e.node j).term) :
    CandOK e' E' j :=
  candOK_of_core _ hcf (by rw [ht]; exact hE _ h.recd) (h.core.transfer ht hv hg hc)

theorem EInv.voteInv {e : Election.Sys} {E : List ECfg} (hI : EInv e E) : VoteInv e :=
  ⟨hI.ids, hI.honoured, hI.unique, hI.recorded, hI.countedTerm⟩

theorem einv_init (e : Election.Sys) (h : Election.Init e) : EInv e [] := by
  obtain ⟨hn, hg, hc, hw⟩ := h
  refine ⟨fun i => ⟨(hn i).1, (hn i).2.1⟩, ?_, ?_, ?_, ?_, ?_, ?_, ?_, ?_⟩
  · rw [hg]; intro g hg'; cases hg'
  · rw [hg]; intro a ha; cases ha
  · intro i hi; rw [(hn i).2.2] at hi; cases hi
  · intro i hi; rw [(hn i).2.2] at hi; cases hi
  · rw [hw]; intro l t h'; cases h'
  · rw [hc]; intro c hc'; cases hc'
  · intro k hk; cases hk
  · intro k hk; cases hk

theorem mem_ecfgOf {i : Nat} {pre post : Node} {k : ECfg} (h : k ∈ ecfgOf i pre post) :
    post.term > pre.term ∧ post.votedFor = i ∧ k = { cand := i, term := post.term, cfg := pre.configs.latest } := by
  unfold ecfgOf at h
  split at h
  · rename_i hc
    exact ⟨hc.1, hc.2, by simpa using h⟩
  · cases h

/-- a candidate that counts the reply of `src` as its last missing vote is backed by a majority of the voters of its
election configuration (`C01Sys.CandCore.backed_last`) -/
theorem CandOK.backed_last {e : Election.Sys} {E : List ECfg} {l src : Nat} (ok : CandOK e E l)
    (hr : RealReply e l src) (h0 : (e.node l).votesNeeded - 1 = 0) :
    Backed e.grants (e.node l).configs.latest.voters l (e.node l).term :=
  ok.core.backed_last (fun _ h => isVoter_mem_voters _ _ h) rfl hr.2.1 hr.1 hr.2.2.1 hr.2.2.2 h0

/-- the clauses of `EInv` about the ledger of election configurations, after node `i` moved to `n`: a record added in
this step carries the new term of `i`, which is above the term of every older record of `i` -/
theorem ecfg_step {e : Election.Sys} {E : List ECfg} (hI : EInv e E) (i : Nat) (n : Node)
    (hstep : ∀ j, C05.VoteStep (e.node j) (setNode e.node i n j)) :
    (∀ k ∈ ecfgOf i (e.node i) n ++ E, k.term ≤ (setNode e.node i n k.cand).term) ∧
    ∀ k ∈ ecfgOf i (e.node i) n ++ E, ∀ k' ∈ ecfgOf i (e.node i) n ++ E,
      k.cand = k'.cand → k.term = k'.term → k = k' := by
  have hno : ∀ a ∈ ecfgOf i (e.node i) n, ∀ b ∈ E, a.cand = b.cand → a.term ≠ b.term := by
    intro a ha b hb h1 h2
    obtain ⟨g1, _, rfl⟩ := mem_ecfgOf ha
    have := hI.ecfgTerm b hb
    have h1' : i = b.cand := h1
    have h2' : n.term = b.term := h2
    rw [← h1'] at this
    omega
  refine ⟨fun k hk => ?_, fun a ha b hb h1 h2 => ?_⟩
  · rcases List.mem_append.mp hk with h | h
    · obtain ⟨_, _, rfl⟩ := mem_ecfgOf h
      show n.term ≤ (setNode e.node i n i).term
      rw [setNode_same]; exact Nat.le_refl _
    · exact Nat.le_trans (hI.ecfgTerm k h) (hstep k.cand).1
  · rcases List.mem_append.mp ha with ha | ha <;> rcases List.mem_append.mp hb with hb | hb
    · obtain ⟨_, _, rfl⟩ := mem_ecfgOf ha
      obtain ⟨_, _, rfl⟩ := mem_ecfgOf hb
      rfl
    · exact absurd h2 (hno a ha b hb h1)
    · exact absurd h2.symm (hno b hb a ha h1.symm)
    · exact hI.ecfgUniq a ha b hb h1 h2

theorem einv_crash (e : Election.Sys) (E : List ECfg) (hI : EInv e E) (i : Nat) (op : Op) (ra : List Nat)
    (ord : List (List Nat)) (k retain : Nat) (sor : Bool) (n : Node)
    (hn : Node.restart (C05.crashDisk (e.node i) op ra ord k) retain sor = some n) :
    EInv { e with node := setNode e.node i n } (ecfgOf i (e.node i) n ++ E) := by
  obtain ⟨c, hvs, hfol⟩ := voteInv_crash hI.voteInv i op ra ord k retain sor n hn
  have hstep := voteStep_setNode (f := e.node) hvs
  have hsubE : ∀ k ∈ E, k ∈ ecfgOf i (e.node i) n ++ E := fun k hk => List.mem_append_right _ hk
  refine ⟨c.ids, c.honoured, c.unique, ?_, c.recorded, fun l t hl => ?_, c.countedTerm,
    (ecfg_step hI i n hstep).1, (ecfg_step hI i n hstep).2⟩
  · refine forall_setNode (P := fun j s => s.role = .candidate →
      CandOK { e with node := setNode e.node i n } (ecfgOf i (e.node i) n ++ E) j)
      (fun h => by rw [hfol] at h; cases h) fun j hj hc => ?_
    have h := setNode_other e.node i j n hj
    exact (hI.cand j hc).transfer (congrArg (·.term) h) (congrArg (·.votesNeeded) h)
      (congrArg (·.configs.latest) h) (fun g hg => hg) hsubE rfl
  · obtain ⟨k0, hk0, a1, a2, a3, a4⟩ := hI.backed l t hl
    exact ⟨k0, hsubE _ hk0, a1, a2, a3, a4⟩

theorem einv_step_core (e : Election.Sys) (E : List ECfg) (hI : EInv e E) (i : Nat) (op : Op)
    (src : Nat) (post : Node) (hi : i ≠ 0) (hboot : (e.node i).configs.isBootstrapped = true)
    (hr : Counts (e.node i) op → RealReply e i src)
    (hvs : C05.VoteStep (e.node i) post) (hwf' : C05.VoteWF post) (rs : RoleStep (e.node i) op post)
    (hcfg : post.role = .candidate → post.configs = (e.node i).configs)
    (hvote : ∀ g ∈ voteGrant i op post, VoteGrantOK i (e.node i) post g) :
    EInv { node := setNode e.node i post
           grants := voteGrant i op post ++ (selfGrant i (e.node i) post ++ e.grants)
           counted := countedBy i (e.node i) op src ++ e.counted
           won := (if post.role = .leader then [(i, post.term)] else []) ++ e.won }
         (ecfgOf i (e.node i) post ++ E) := by
  have hnid := (hI.ids i).1
  have hstep := voteStep_setNode (f := e.node) hvs
  have c := voteInv_step hI.voteInv i op src post hi hvs hwf' rs.nid hvote
  have hsubG : ∀ g ∈ e.grants, g ∈ voteGrant i op post ++ (selfGrant i (e.node i) post ++ e.grants) :=
    fun g hg => List.mem_append_right _ (List.mem_append_right _ hg)
  have hsubE : ∀ k ∈ E, k ∈ ecfgOf i (e.node i) post ++ E := fun k hk => List.mem_append_right _ hk
  -- an election started in this step: its record and the self vote enter the ledgers, `i` is a voter of its latest
  -- configuration, whose quorum is what `votesNeeded` counts down from
  have hne : NewElection (e.node i) post → post.term > (e.node i).term ∧
      ({ cand := i, term := post.term, cfg := (e.node i).configs.latest } : ECfg) ∈ ecfgOf i (e.node i) post ++ E ∧
      ({ voter := i, term := post.term, cand := i } : Grant) ∈
        voteGrant i op post ++ (selfGrant i (e.node i) post ++ e.grants) ∧
      (e.node i).configs.latest.isVoter i = true ∧
      (post.role = .candidate →
        post.votesNeeded = (((e.node i).configs.latest.voters.length / 2 + 1 : Nat) : Int) - 1) ∧
      (post.role = .leader → (e.node i).configs.latest.voters.length / 2 + 1 = 1) := by
    rintro ⟨n1, n2, ec, n3, n4, n5, n6⟩
    have hnew : post.term > (e.node i).term ∧ post.votedFor = i := ⟨n1, by rw [n2, hnid]⟩
    obtain rfl := n3 hboot
    rw [quorum_eq] at n5 n6
    refine ⟨n1, List.mem_append_left _ ?_, List.mem_append_right _ (List.mem_append_left _ ?_), ?_, n5, n6⟩
    · unfold ecfgOf
      rw [if_pos hnew]
      exact List.mem_singleton.mpr rfl
    · unfold selfGrant
      rw [if_pos hnew]
      exact List.mem_singleton.mpr rfl
    · rcases n4 with n4 | n4
      · exact (hI.cand i n4).voter
      · rw [hnid] at n4; exact n4
  obtain ⟨hc, hw⟩ := cands_step hI.voteInv i op src post hr rs
    (Q := fun j v => (e.node j).configs.latest.isVoter v = true)
    (q := fun j => (e.node j).configs.latest.voters.length / 2 + 1)
    (B := fun l t => ∃ k ∈ ecfgOf i (e.node i) post ++ E, k.cand = l ∧ k.term = t ∧ k.cfg.isVoter l = true ∧
      Backed (voteGrant i op post ++ (selfGrant i (e.node i) post ++ e.grants)) k.cfg.voters l t)
    (fun j hj => (hI.cand j hj).core) (fun _ hv => hv) (fun ne => ⟨(hne ne).2.2.2.1, (hne ne).2.2.2.2.1⟩)
    hI.recorded
    (fun l t h => let ⟨k0, hk0, a1, a2, a3, a4⟩ := hI.backed l t h
      ⟨k0, hsubE _ hk0, a1, a2, a3, backed_mono hsubG a4⟩)
    (fun l1 hcn l2 => ⟨_, hsubE _ (hI.cand i l1).recd, rfl, rfl, (hI.cand i l1).voter,
      backed_mono hsubG ((hI.cand i l1).backed_last (hr hcn) l2)⟩)
    (fun ne hlead => let ⟨_, nE, nG, nV, _, n6⟩ := hne ne
      ⟨_, nE, rfl, rfl, nV, backed_one (isVoter_mem_voters _ _ nV) (n6 hlead) nG⟩)
  -- a candidate's latest configuration is the one it started its election with, whose record is in the ledger
  have key : ∀ j, (setNode e.node i post j).role = .candidate →
      (setNode e.node i post j).configs.latest = (e.node j).configs.latest ∧
      (⟨j, (setNode e.node i post j).term, (e.node j).configs.latest⟩ : ECfg) ∈ ecfgOf i (e.node i) post ++ E :=
    forall_setNode (P := fun j s => s.role = .candidate → s.configs.latest = (e.node j).configs.latest ∧
        (⟨j, s.term, (e.node j).configs.latest⟩ : ECfg) ∈ ecfgOf i (e.node i) post ++ E)
      (fun hc' => ⟨by rw [hcfg hc'], (rs.candidate hc').elim
        (fun ⟨c1, c2, _⟩ => by rw [c2]; exact hsubE _ (hI.cand i c1).recd) fun ne => (hne ne).2.1⟩)
      (fun j _ hc' => ⟨rfl, hsubE _ (hI.cand j hc').recd⟩)
  exact ⟨c.ids, c.honoured, c.unique, fun j hj => candOK_of_core _ (key j hj).1 (key j hj).2 (hc j hj), c.recorded,
    hw, c.countedTerm, (ecfg_step hI i post hstep).1, (ecfg_step hI i post hstep).2⟩

theorem einv_step (e : Election.Sys) (E : List ECfg) (hI : EInv e E) (i : Nat) (op : Op) (ra : List Nat)
    (ord : List (List Nat)) (src : Nat) (hi : i ≠ 0) (hboot : (e.node i).configs.isBootstrapped = true)
    (hok : LogRel.OpOK op) (hq : ∀ q, op = .vote q → q.src ≠ 0)
    (hr : Counts (e.node i) op → RealReply e i src) :
    EInv (stepSys e i op ra ord src) (ecfgOf i (e.node i) ((e.node i).step op ra ord) ++ E) := by
  have hwf := (hI.ids i).2
  obtain ⟨hvs, hwf', _⟩ := C05.step_vote_stable (e.node i) op ra ord hwf
  have rs := role_step (e.node i) op ra ord (fun h => (hI.cand i h).term_pos)
  exact einv_step_core e E hI i op src _ hi hboot hr hvs hwf' rs
    (fun hc => MemberRel.cand_configs (e.node i) op ra ord hboot hok hc)
    (fun g hg => voteGrant_ok i (e.node i) op ra ord hwf hq g hg)

/-- **the election invariant holds in every reachable state of the system with membership changes** (runs in which
every node is bootstrapped in every state, as in `Election.FixedV`; nothing is assumed of the voter sets) -/
theorem einv_reachable (x : Member.Sys) (h : ReachableP Boot x) : EInv x.el x.ecfg := by
  induction h with
  | init x hi _ =>
    rw [hi.ecfg]
    exact einv_init x.el hi.cm.rp.el
  | next x y hx ht _ ih =>
    cases ht with
    | step i op ra ord src he =>
      exact einv_step x.el x.ecfg ih i op ra ord src he.rp.id (hx.side i) he.rp.ok he.rp.voteSrc he.rp.real
    | crash i op ra ord src k retain sor n he hn =>
      exact einv_crash x.el x.ecfg ih i op ra ord k retain sor n hn
    | send i q _ _ _ _ => exact ih

end C01Member
end Raft

#print axioms Raft.C01Member.einv_reachable
