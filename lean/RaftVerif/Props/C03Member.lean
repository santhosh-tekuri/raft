/-
C03 (state-machine agreement) on the cluster-level transition system WITH membership changes (`Raft.Member`,
Sys/Member.lean; runs `C08Member.ReachableR root`: a good initial state, well-formed requests, closed nodes frozen — NO
condition on the states passed), on top of `C08Member` (commit-index safety across arbitrary chains of membership
changes) and the per-node state-machine invariant of `C03Sys` (Lemmas/MemberApply.lean: carried through `.changeConfig`
requests and configuration entries).

"partial" (inherited): no snapshots / compaction; every node of every run is bootstrapped from the start; every
configuration has two voters without pending action (`MemberGood.CfgAll`); the assumptions of `C08Member.ReachableR` on
what is delivered (`Member.Enabled`, `MemberSide.ReqG`).
-/
import RaftVerif.Lemmas.MemberApply
import RaftVerif.Lemmas.MemberApplyCfg
import RaftVerif.Props.AuditMember

namespace Raft
namespace C03Member
open LogRel Commit Member MemberInv MemberSide C03Sys MemberApply C08Member
open MemberCommit (CfgLast)
open MemberApplyCfg (ReachableT)

/-- **C03, state-machine safety, cluster level, across arbitrary chains of membership changes (partial: no snapshots,
every node bootstrapped from the start, two action-free voters in every configuration, the delivery assumptions of
`C08Member.ReachableR`).** In every state `x` reachable in the cluster with membership changes (any schedule, any message
delay / loss / duplication / reordering, `.changeConfig` requests at any time, crashes at any storage point + restart):
1. on every node the state machine has been fed exactly the update commands of its log entries `1 … fsm.index`, in
   log-index order, without gaps, each once: `fsm.applied` is the list of the payloads of the UPDATE entries among them —
   configuration entries and no-ops are passed over (they move `fsm.index`, and `fsm.config`:
   `fsm_config_is_committed_member_partial`, but contribute nothing to `applied`) — and the state machine never ran
   ahead of the commit index;
2. every entry it has been fed is committed (an ancestor-or-equal, in the tree of created entries, of an entry a leader
   committed by the majority rule of the configuration that was latest in its log at that moment);
3. a node that applied no more than another holds the same entries up to its applied index, and its command sequence is
   a prefix of the other's;
4. hence the command sequences applied on any two nodes are prefixes of one common sequence. -/
theorem state_machine_safety_member_partial (root : MemberCore.K) (x : Member.Sys) (h : ReachableR root x) :
    (∀ i, (x.node i).fsm.index ≤ (x.node i).commitIndex ∧
      (x.node i).fsm.index ≤ (x.node i).log.entries.length ∧
      (x.node i).fsm.applied =
        (((x.node i).log.entries.take (x.node i).fsm.index).filter (·.typ == etUpdate)).map (·.data)) ∧
    (∀ i k, 1 ≤ k → k ≤ (x.node i).fsm.index → Committed x.cm (k, termAt (x.node i).log.entries k)) ∧
    (∀ i j, (x.node i).fsm.index ≤ (x.node j).fsm.index →
      (x.node i).log.entries.take (x.node i).fsm.index = (x.node j).log.entries.take (x.node i).fsm.index ∧
      (x.node i).fsm.applied <+: (x.node j).fsm.applied) ∧
    (∀ i j, (x.node i).fsm.applied <+: (x.node j).fsm.applied ∨
      (x.node j).fsm.applied <+: (x.node i).fsm.applied) := by
  obtain ⟨⟨G, hI, _⟩, hX⟩ := inv_reachable root x h
  exact state_machine_safety_of (core_of_minv hI) (C02Member.ledger_chain hI hX.sideT) (fsmInvM_reachable root x h)

/-- **the leader's queue** (same assumptions): every log-type item waiting in a leader's queue — the items
`leader.applyCommitted` hands to the state machine instead of reading the log; configuration items included — is the log
entry at its index. -/
theorem leader_queue_is_log_member_partial (root : MemberCore.K) (x : Member.Sys) (h : ReachableR root x) :
    ∀ i, (x.node i).role = .leader → ∀ q ∈ (x.node i).ldr.queue, isLogEntryTyp q.typ = true →
      (x.node i).log.get? q.index = some q.toEntry := by
  obtain ⟨⟨G, hI, _⟩, _⟩ := inv_reachable root x h
  exact fun i => (fsmInvM_reachable root x h i).queue_get? (nwfM hI i)

/-- **the state machine only moves forward, by appending — completed steps** (same assumptions): when an open node handles
a delivered operation (`Member.Enabled`, `ReqG`; append requests with configuration entries and `.changeConfig` requests
included) to completion, its applied index does not decrease and the new command sequence is the old one followed by the
update payloads of the entries between the old and the new applied index — no command is fed twice, none is skipped,
nothing already fed is taken back; and the log below the old applied index is untouched. -/
theorem applied_only_grows_member_partial (root : MemberCore.K) (x : Member.Sys) (h : ReachableR root x)
    (i : Nat) (op : Op) (ra : List Nat) (ord : List (List Nat)) (src : Nat) (he : Member.Enabled x i op src)
    (hg : ReqG x i op) (ho : (x.node i).closed = "") :
    (x.node i).fsm.index ≤ ((x.node i).step op ra ord).fsm.index ∧
    ((x.node i).step op ra ord).fsm.applied = (x.node i).fsm.applied ++
      ups ((((x.node i).step op ra ord).log.entries.drop (x.node i).fsm.index).take
        (((x.node i).step op ra ord).fsm.index - (x.node i).fsm.index)) ∧
    ((x.node i).step op ra ord).log.entries.take (x.node i).fsm.index =
      (x.node i).log.entries.take (x.node i).fsm.index := by
  obtain ⟨⟨G, hI, _⟩, hX⟩ := inv_reachable root x h
  have hF := fsmInvM_reachable root x h
  have hLC := C08Sys.leaderCache_reachable x (reachableP_of h)
  obtain ⟨sm, hp⟩ := sm_of_step hI hX hLC he hg ho ra ord
  obtain ⟨f, _, _⟩ := fbp_step hI hX hF he ra ord hp
  have keep := (commit_index_safety_member_partial root x h).2.2.2 i op ra ord src he hg ho
  obtain ⟨htake, happ⟩ := (hF i).fsm.extends f (nwfM hI i) sm.nwf_post fun k h1 h2 => (keep k h1 h2).1
  exact ⟨f.mono, happ, htake⟩

/-- **the state machine only moves forward — along every transition, crashes included** (same assumptions). In a
transition `x → y` of the cluster, for EVERY node `j`: either its command sequence in `y` extends the one in `x`
(`applied` only grows: the node completed a step — `applied_only_grows_member_partial` says by what — or did nothing), or
the node died and restarted in this transition: then a NEW state-machine lifetime begins, EMPTY (`fsm = {}`: nothing
applied, applied index 0 — there are no snapshots to restore from) and the commit index is 0. "Grows" across a restart
means: the restarted state machine re-applies from index 1, and since `y` and all later states are reachable, what it
re-applies is again a prefix of the one common sequence (`state_machine_safety_member_partial` 3/4) — in particular of
what every surviving node has applied, and of what the node itself had applied before the crash if some node still
witnesses it. -/
theorem applied_grows_or_restarts_member_partial (root : MemberCore.K) (x y : Member.Sys) (h : ReachableR root x)
    (ht : TransR x y) (j : Nat) :
    ((x.node j).fsm.applied <+: (y.node j).fsm.applied ∧ (x.node j).fsm.index ≤ (y.node j).fsm.index) ∨
    ((y.node j).fsm = {} ∧ (y.node j).commitIndex = 0 ∧ (y.node j).role = .follower) := by
  obtain ⟨⟨G, hI, _⟩, hX⟩ := inv_reachable root x h
  have hLC := C08Sys.leaderCache_reachable x (reachableP_of h)
  cases ht with
  | step i op ra ord src he hg ho =>
    obtain ⟨sm, hp⟩ := sm_of_step hI hX hLC he hg ho ra ord
    left
    by_cases hj : j = i
    · subst hj
      show _ <+: (sm.y.node j).fsm.applied ∧ _ ≤ (sm.y.node j).fsm.index
      rw [sm.node_i]
      obtain ⟨a, b, _⟩ := applied_only_grows_member_partial root x h j op ra ord src he hg ho
      exact ⟨by rw [b]; exact List.prefix_append _ _, a⟩
    · show _ <+: (sm.y.node j).fsm.applied ∧ _ ≤ (sm.y.node j).fsm.index
      rw [sm.node_j hj]; exact ⟨List.prefix_refl _, Nat.le_refl _⟩
  | crash i op ra ord src k retain sor n he hg hopen hret hn =>
    obtain ⟨op', cm, heq, _⟩ := cm_of_crash hI hX hLC he hg hopen hn
    rw [heq]
    by_cases hj : j = i
    · subst hj
      right
      show (cm.y.node j).fsm = {} ∧ (cm.y.node j).commitIndex = 0 ∧ (cm.y.node j).role = .follower
      rw [cm.node_i]
      obtain ⟨_, _, _, hr, hc, hf, _⟩ := cm.facts
      exact ⟨hf, hc, hr⟩
    · left
      show _ <+: (cm.y.node j).fsm.applied ∧ _ ≤ (cm.y.node j).fsm.index
      rw [cm.node_j hj]; exact ⟨List.prefix_refl _, Nat.le_refl _⟩
  | send i q hi hl hr hc => exact Or.inl ⟨List.prefix_refl _, Nat.le_refl _⟩

/-! ### the configuration of the state machine -/

/-- the term the log holds at the index of one of its entries is that entry's term -/
theorem termAt_of_mem {es : List Entry} (hc : ∀ k (h : k < es.length), es[k].index = k + 1) {e : Entry} (he : e ∈ es) :
    termAt es e.index = e.term := by
  obtain ⟨k, hk, rfl⟩ := List.getElem_of_mem he
  unfold termAt
  rw [hc k hk, if_neg (by omega), Nat.add_sub_cancel, List.getElem?_eq_getElem hk]
  rfl

/-- **C03 / C12 (also C11 flavour): the configuration the state machine holds is the newest configuration entry at or
below its applied index — hence a COMMITTED configuration (partial: the restrictions of the file header, and initially
`snapTerm = 0` on every node: `MemberApplyCfg.ReachableT`).** In every reachable state, on every node `i`: either the
state machine holds no configuration (`fsm.config.index = 0`) and no entry among `1 … fsm.index` is a configuration
entry (in particular when nothing has been applied) — or
1. `fsm.config` is the LAST CONFIGURATION ENTRY of the applied prefix `1 … fsm.index` of the node's log
   (`MemberCommit.CfgLast`: it decodes from an entry of the prefix, and every configuration entry of the prefix has an
   index `≤ fsm.config.index`): configuration entries are "applied" in log order like updates;
2. `fsm.config.index ≤ fsm.index ≤ commitIndex`;
3. the entry `(fsm.config.index, fsm.config.term)` is COMMITTED in the cluster (`Commit.Committed`: an ancestor-or-equal of
   an entry a leader committed by the majority rule) — by `C08Member.leader_completeness_member_partial` /
   `committed_never_replaced_member_partial` every later leader holds it and it is never replaced;
4. it is a `CfgAll` configuration (ids strictly increasing, two voters without pending action).
(`configs.latest`, which the node uses for quorums and candidacy, may be newer and uncommitted: `C08Member`.) -/
theorem fsm_config_is_committed_member_partial (root : MemberCore.K) (x : Member.Sys) (h : ReachableT root x) (i : Nat) :
    ((x.node i).fsm.config.index = 0 ∧
      ∀ e ∈ (x.node i).log.entries.take (x.node i).fsm.index, e.typ ≠ etConfig) ∨
    (0 < (x.node i).fsm.config.index ∧
      CfgLast ((x.node i).log.entries.take (x.node i).fsm.index) (x.node i).fsm.config ∧
      (x.node i).fsm.config.index ≤ (x.node i).fsm.index ∧ (x.node i).fsm.index ≤ (x.node i).commitIndex ∧
      Committed x.cm ((x.node i).fsm.config.index, (x.node i).fsm.config.term) ∧
      MemberGood.CfgAll (x.node i).fsm.config) := by
  have hr := h.toR
  obtain ⟨⟨G, hI, _⟩, hX⟩ := inv_reachable root x hr
  have hT := MemberApplyCfg.tinv_reachableT root x h i
  have hent := log_entOK hI hX.tree i
  have hsafe := state_machine_safety_member_partial root x hr
  rcases MemberApplyCfg.cfgLast_of_tracks _ hT (nwfM hI i)
    (fun e he ht => by obtain ⟨c, hc, _⟩ := MemberGood.entOK_dec (hent e he) ht; exact ⟨c, hc⟩) with h0 | ⟨hpos, hcl⟩
  · exact Or.inl h0
  · right
    obtain ⟨⟨e, he, hec⟩, _⟩ := (show CfgLast _ _ from hcl)
    obtain ⟨_, hci, hct, _⟩ := Entry.config?_facts hec
    have hmem : e ∈ (x.node i).log.entries := List.mem_of_mem_take he
    have hle : e.index ≤ (x.node i).fsm.index := by
      have hidx : ∀ k (hk : k < ((x.node i).log.entries.take (x.node i).fsm.index).length),
          ((x.node i).log.entries.take (x.node i).fsm.index)[k].index = k + 1 := by
        intro k hk
        rw [List.getElem_take]
        exact (nwfM hI i).contig k (by rw [List.length_take] at hk; omega)
      have := (MemberCommit.contig_index_le hidx e he).2
      rw [List.length_take] at this
      omega
    have h1 : 1 ≤ e.index := (MemberCommit.contig_index_le (nwfM hI i).contig e hmem).1
    refine ⟨hpos, hcl, by rw [hci]; exact hle, (hsafe.1 i).1, ?_, MemberGood.entOK_config (hent e hmem) hec⟩
    have := hsafe.2.1 i e.index h1 hle
    rw [termAt_of_mem (nwfM hI i).contig hmem] at this
    rw [hci, hct]; exact this

/-! ### C11 on the system: a leader whose own demotion / removal is committed does not lead -/

/-- **C11, cluster level, across membership changes — a leader that demotes or removes itself stops leading once that
change commits (partial: the restrictions of the file header; STATE form).** In every reachable state, a node that is
open and LEADER and whose latest configuration is committed (`configs.isCommitted`: `configs.committed` is
`configs.latest` — `Raft.setCommitIndex` runs `commitConfig` in the very call in which the commit index reaches the entry
of an uncommitted latest configuration, `C11.leader_steps_down_when_self_demotion_commits`) is a VOTER of it. So a node
whose demotion or removal is committed is not an open leader: it is follower (`stepDownIfNotVoter`), or it closed itself
(`ShutdownOnRemove`). Until then it keeps leading (but `leader.storeEntry` refuses new entries as soon as its own entry
of the latest configuration is not a voter: "inProgress:demoteLeader" / "removeLeader"). -/
theorem leader_is_voter_of_committed_member_partial (root : MemberCore.K) (x : Member.Sys) (h : ReachableR root x)
    (i : Nat) (ho : (x.node i).closed = "") (hl : (x.node i).role = .leader)
    (hc : (x.node i).configs.isCommitted = true) : (x.node i).configs.latest.isVoter i = true := by
  obtain ⟨⟨G, hI, _⟩, hX⟩ := inv_reachable root x h
  have := ((hX.good i).leader ho hl).1.lv hl hc
  rw [(hI.rp.el.ids i).1] at this
  exact this

/-- **C11 on the system, STEP form (partial).** When an open node handles a delivered operation (`Member.Enabled`, `ReqG`)
to completion — in particular a LEADER handling the match-index reports that move its commit index past a configuration
entry in which it is no longer a voter, or a report / request after which that configuration counts as committed — and
afterwards its latest configuration is committed and the node is not a voter of it (demoted or removed), then the node
is NOT LEADER afterwards, or it has closed itself; and if it is removed from that configuration altogether and still
open, it is not leader either way.
NOT proved here: that `configs.isCommitted` holds as soon as `configs.latest.index ≤ commitIndex`, as a
state invariant of the system (it is what `Raft.setCommitIndex` establishes at every call — node level:
`C11.leader_steps_down_when_self_demotion_commits`, `C11.removed_node_closes_only_after_commit`), and the cluster-level
form of "closed with `nodeRemoved` only after the removal is committed". -/
theorem self_demoted_leader_stops_partial (root : MemberCore.K) (x : Member.Sys) (h : ReachableR root x)
    (i : Nat) (op : Op) (ra : List Nat) (ord : List (List Nat)) (src : Nat) (he : Member.Enabled x i op src)
    (hg : ReqG x i op) (ho : (x.node i).closed = "")
    (hc : ((x.node i).step op ra ord).configs.isCommitted = true)
    (hnv : ((x.node i).step op ra ord).configs.latest.isVoter i = false) :
    ((x.node i).step op ra ord).role ≠ .leader ∨ ((x.node i).step op ra ord).closed ≠ "" := by
  have hy : ReachableR root (stepM x i op ra ord src) := .next x _ h (.step i op ra ord src he hg ho)
  have hnode := stepM_node_i x i op ra ord src
  by_cases hcl : ((x.node i).step op ra ord).closed = ""
  · left
    intro hl
    have := leader_is_voter_of_committed_member_partial root _ hy i (by rw [hnode]; exact hcl) (by rw [hnode]; exact hl)
      (by rw [hnode]; exact hc)
    rw [hnode, hnv] at this
    cases this
  · exact Or.inr hcl

/-! ### Examples (non-vacuity) -/

open AuditMember in
/-- EXAMPLE: the hypothesis of the theorems holds of the state `m21` of the proved run of Props/AuditMember.lean
(election, no-op, configuration (3,2) adding node 4, its promotion (4,2), crash + restart of node 4, commit with four
voters). Props/C03MemberRun.lean re-proves that run for `ReachableT`, CONTINUES it (a client update is committed and
applied; the leader demotes itself and steps down when that configuration commits) and instantiates every theorem of
this file on it. -/
example : ReachableR (1, 1) m21 := q21.1

/-- EXAMPLE: the initial state `ex0` (every node bootstrapped with the entry (1,1), `snapTerm = 0`) starts a run of
`ReachableT` -/
example : ReachableT (1, 1) C08Member.ex0 := .init _ ex0_initR (fun _ => rfl)

end C03Member
end Raft

#print axioms Raft.MemberApply.fsmInvM_reachable
#print axioms Raft.C03Member.state_machine_safety_member_partial
#print axioms Raft.C03Member.leader_queue_is_log_member_partial
#print axioms Raft.C03Member.applied_only_grows_member_partial
#print axioms Raft.C03Member.applied_grows_or_restarts_member_partial
#print axioms Raft.MemberApplyCfg.tinv_reachableT -- also C12
#print axioms Raft.C03Member.fsm_config_is_committed_member_partial -- also C11 C12
#print axioms Raft.C03Member.leader_is_voter_of_committed_member_partial -- also C11
#print axioms Raft.C03Member.self_demoted_leader_stops_partial -- also C11
