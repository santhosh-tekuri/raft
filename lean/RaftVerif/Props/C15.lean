/-
C15 — No self-inflicted failure; every task completes; shutdown terminates (the decision logic).

A Go panic (assert, nil dereference, bug{}) is the model field `panicked`; task completions are `replies`.

PROVED here for ALL states and inputs of the node model:
* `*_never_panics`: the vote handler, timeout-now handler, follower timeout, vote-result handler,
  take-snapshot, wait-for-stable, the non-leader entry path, and — given that every other voter of the latest
  configuration (for `tryTransfer`: the named target) has a replication / that self is a voter — `checkQuorum`,
  `tryTransfer`, `startElection` leave `panicked` exactly as it was: no assertion, nil dereference or bug{} can
  fire there.
* `task_replied_exactly_once_*` / `task_pending_*`: on the simple task paths the task is answered exactly
  once (the reply list grows by exactly that one completion) or is recorded as pending (transfer, wait list,
  snapshot request) with nothing answered — never both, never twice.
* `shutdown_*`: `Shutdown` always closes the node (`closed ≠ ""`), and completes every pending task: each
  queued entry and each waitForStableConfig task with ErrServerClosed, the transfer in progress with its
  release result, a requested or finished snapshot with its result. `closed_is_sticky`: once closed a node
  stays closed through every step.
* `panicked_is_sticky*`: `Node.panic` records the FIRST failure site and never clears one; nothing in the
  leader block clears it either.

NOT proved here: absence of panics on the whole leader path (Props/C15NoPanic.lean, for every operation, from a
state invariant that says that every configuration member has a replication and that log views can be built — the
F6 class), data races and deadlocks (race detector, live engine), and termination of the goroutines `Serve`
waits for.
-/
import RaftVerif.Props.C07
import RaftVerif.Lemmas.ReplSteps
import RaftVerif.Lemmas.ShapeLeader
import RaftVerif.Lemmas.ShapeSnap
import RaftVerif.Lemmas.Quiet

namespace Raft
namespace C15
open Node

/-! ### 4. `panicked` is sticky -/

/-- **panicked_is_sticky**: `Node.panic` always leaves a failure recorded and keeps the first site. -/
theorem panicked_is_sticky (s : Node) (site : String) :
    (s.panic site).panicked ≠ none ∧ (s.panicked ≠ none → (s.panic site).panicked = s.panicked) ∧
    (s.panicked = none → (s.panic site).panicked = some site) := by
  refine ⟨panic_panicked_ne s site, ?_, ?_⟩
  · intro h; unfold Node.panic; rw [if_neg (by simpa [Option.isNone_iff_eq_none] using h)]
  · intro h; unfold Node.panic; rw [if_pos (by simp [h])]

theorem assert_sticky (s : Node) (b : Bool) (site : String) (h : s.panicked ≠ none) :
    (s.assert b site).panicked ≠ none := by
  unfold Node.assert; split
  · exact h
  · exact panic_panicked_ne s site

theorem assert_true (s : Node) (site : String) : s.assert true site = s := rfl

theorem setCommitIndexR_panicked (s : Node) (i : Nat) : (s.setCommitIndexR i).1.panicked = s.panicked :=
  Node.setCommitIndexR_panicked s i

/-- no primitive of the leader handlers clears a recorded failure -/
theorem panicked_closed : Closed (fun x => x.panicked ≠ none) :=
  Closed.ofPanicked (· ≠ none) (fun _ h => absurd rfl h)

/-- **panicked is sticky through the leader block**: accepting entries, membership changes, commit
advancement never clear a recorded failure (results after a panic are never compared, but the flag stays). -/
theorem panicked_is_sticky_leader (fuel : Nat) (s : Node) (batch : List QItem) (h : s.panicked ≠ none) :
    (storeEntry fuel s batch).panicked ≠ none ∧ (onMajorityCommit fuel s).panicked ≠ none ∧
    (∀ t c, (checkConfigActions fuel s t c).panicked ≠ none) :=
  ⟨panicked_closed.storeEntry_inv fuel s batch h, panicked_closed.onMajorityCommit_inv fuel s h,
   fun t c => panicked_closed.checkConfigActions_inv fuel s t c h⟩

/-! ### 1. handlers that cannot fail -/

theorem storeTermVote_panicked (s : Node) (t c : Nat) : (s.storeTermVote t c).panicked = s.panicked := by
  rw [storeTermVote_shape]

/-- `storage.setVotedFor` asserts `term ≥ current term` -/
theorem setVotedFor_panicked (s : Node) (t c : Nat) (h : t ≥ s.term) : (s.setVotedFor t c).panicked = s.panicked := by
  unfold Node.setVotedFor
  split
  · first | exact storeTermVote_panicked _ _ _ | rw [if_pos h, storeTermVote_panicked]
  · rfl

/-- `storage.setTerm` asserts `term ≥ current term` -/
theorem setTerm_panicked (s : Node) (t : Nat) (h : t ≥ s.term) : (s.setTerm t).panicked = s.panicked := by
  unfold Node.setTerm
  split
  · rename_i hne
    first | exact storeTermVote_panicked _ _ _ | rw [if_pos (by omega), storeTermVote_panicked]
  · rfl

theorem vote_handler_never_panics (s : Node) (q : VoteReq) : (s.onVoteRequest q).panicked = s.panicked :=
  onVoteRequest_of (Inv := fun x => x.panicked = s.panicked) q (fun _ _ h => h) (fun _ h => h)
    (fun x t h hlt _ => (setVotedFor_panicked x t 0 (Nat.le_of_lt hlt)).trans h)
    (fun x t h _ hw _ => (setVotedFor_panicked x t q.src
      (hw.elim (fun a => Nat.le_of_lt a.1) fun a => Nat.le_of_eq a.1.symm)).trans h) s rfl

theorem timeoutNow_never_panics (s : Node) : s.onTimeoutNow.panicked = s.panicked := by
  unfold Node.onTimeoutNow; rw [apply_ite Node.panicked]; exact ite_self _

theorem followerTimeout_never_panics (s : Node) : s.followerTimeout.panicked = s.panicked := by
  unfold Node.followerTimeout; dsimp only; split <;> rfl

theorem voteResult_never_panics (s : Node) (err : Bool) (term result : Nat) :
    (s.onVoteResult err term result).panicked = s.panicked := by
  unfold Node.onVoteResult
  split
  · rfl
  · split
    · rename_i hgt
      exact setTerm_panicked (s.setRole .follower) term (Nat.le_of_lt hgt)
    · split
      · dsimp only; split <;> rfl
      · rfl

theorem takeSnapshot_never_panics (s : Node) (task threshold : Nat) :
    (s.onTakeSnapshot task threshold).panicked = s.panicked := by
  unfold Node.onTakeSnapshot; split
  · exact (reply_fields _ _ _).2.2.2.2.2.1
  · rfl

theorem waitForStable_never_panics (s : Node) (task : Nat) : (s.onWaitForStable task).panicked = s.panicked := by
  unfold Node.onWaitForStable; split
  · exact (reply_fields _ _ _).2.2.2.2.2.1
  · rfl

theorem rejectEntries_never_panics (s : Node) (batch : List QItem) : (s.rejectEntries batch).panicked = s.panicked :=
  (C07.definite_rejection_never_appended s batch).2.2.2.2.2

/-- `leader.checkQuorum` dereferences `l.repls[id]` for every voter other than self: it cannot fail when
each of them has a replication (which `leader.init` / `changeConfig` establish). -/
theorem checkQuorum_never_panics (s : Node)
    (h : ∀ n ∈ s.configs.latest.nodes, n.voter = true → n.id ≠ s.nid → s.findRepl? n.id ≠ none) :
    s.checkQuorum.panicked = s.panicked := by
  unfold Node.checkQuorum
  extract_lets vs reachable s1
  have e1 : s1 = s := by
    unfold s1
    rw [if_neg]
    intro hany
    obtain ⟨n, hn, hb⟩ := List.any_eq_true.mp hany
    unfold vs at hn
    simp only [List.mem_filter] at hn
    simp only [Bool.and_eq_true, bne_iff_ne, ne_eq, Option.isNone_iff_eq_none] at hb
    exact h n hn.1 hn.2 hb.1 hb.2
  rw [e1]
  split <;> rfl

theorem winIfQuorum_panicked (x : Node) :
    (if x.votesNeeded = 0 then (x.setRole .leader).setLeader x.nid else x).panicked = x.panicked := by
  rw [leaderIfNoVotesNeeded_shape]

/-- `candidate.startElection` asserts that self is a voter (C11: only voters become candidates). -/
theorem startElection_never_panics (s : Node) (h : s.configs.latest.isVoter s.nid = true) :
    s.startElection.panicked = s.panicked := by
  unfold Node.startElection
  refine (winIfQuorum_panicked _).trans ?_
  show (Node.setVotedFor _ _ _).panicked = _
  rw [setVotedFor_panicked _ _ _ (Nat.le_succ _), h]; rfl

/-- `leader.tryTransfer` dereferences `l.repls[target]` for a chosen target that is a voter -/
theorem tryTransfer_never_panics (s : Node)
    (h : s.ldr.transfer.target ≠ 0 → s.configs.latest.isVoter s.ldr.transfer.target = true →
      s.findRepl? s.ldr.transfer.target ≠ none) :
    s.tryTransfer.panicked = s.panicked := by
  have h2 : s.tryTransferTarget.2 = false := by
    unfold Node.tryTransferTarget
    dsimp only
    split
    · rename_i h0
      split
      · rename_i hv
        split
        · rfl
        · rename_i hn; exact absurd hn (h h0 hv)
      · rfl
    · rfl
  unfold Node.tryTransfer
  dsimp only
  rw [h2]
  simp only [Bool.false_eq_true, if_false]
  repeat' split
  all_goals rfl

/-! ### 2. a task is answered exactly once, or recorded as pending -/

/-- an invalid TransferLeadership request is answered at once, exactly once, and changes nothing else -/
theorem task_replied_exactly_once_transfer_invalid (s : Node) (task target : Nat) (h : s.validateTransfer target ≠ "")
    (h0 : task ≠ 0) :
    s.onTransfer task target = s.addReplies [{ task := task, result := s.validateTransfer target }] := by
  rw [C16.onTransfer_invalid_no_effect s task target h, reply_eq_addReplies]
  unfold mkReply?; rw [if_neg h0]

theorem tryTransfer_keeps (x : Node) :
    x.tryTransfer.replies = x.replies ∧ x.tryTransfer.ldr.transfer.task = x.ldr.transfer.task ∧
    x.tryTransfer.ldr.transfer.active = x.ldr.transfer.active := by
  unfold Node.tryTransfer
  extract_lets r s1 s2
  have e1 : s1.replies = x.replies ∧ s1.ldr = x.ldr := by unfold s1; split <;> exact ⟨rfl, rfl⟩
  have e2 : s2.replies = s1.replies ∧ s2.ldr = s1.ldr := by
    unfold s2; split
    · rw [panic_shape]; exact ⟨rfl, rfl⟩
    · exact ⟨rfl, rfl⟩
  clear_value s2 s1
  have e : s2.replies = x.replies ∧ s2.ldr = x.ldr := ⟨e2.1.trans e1.1, e2.2.trans e1.2⟩
  split
  · exact ⟨e.1, by show s2.ldr.transfer.task = _; rw [e.2], by show s2.ldr.transfer.active = _; rw [e.2]⟩
  · exact ⟨e.1, by rw [e.2], by rw [e.2]⟩

/-- a valid one is recorded as the transfer in progress and NOT answered yet (it is answered by
`transferReply`: on success, timeout, or release — see `shutdown_completes_pending_leader`) -/
theorem task_pending_transfer (s : Node) (task target : Nat) (h : s.validateTransfer target = "") :
    (s.onTransfer task target).replies = s.replies ∧
    (s.onTransfer task target).ldr.transfer.task = task ∧ (s.onTransfer task target).ldr.transfer.active = true := by
  unfold Node.onTransfer
  dsimp only
  rw [if_neg (by simp [h])]
  exact tryTransfer_keeps _

/-- WaitForStableConfig on a stable configuration: answered at once, exactly once -/
theorem task_replied_exactly_once_waitStable (s : Node) (task : Nat) (h : s.configs.isStable = true) (h0 : task ≠ 0) :
    s.onWaitForStable task = s.addReplies [{ task := task, result := s!"config:{s.configs.latest.index}" }] := by
  unfold Node.onWaitForStable
  rw [if_pos h, reply_eq_addReplies]
  unfold mkReply?; rw [if_neg h0]

/-- …on an unstable one: queued, not answered (answered by `setCommitIndexL` when the configuration becomes
stable, or by `leader.release`) -/
theorem task_pending_waitStable (s : Node) (task : Nat) (h : s.configs.isStable = false) :
    (s.onWaitForStable task).replies = s.replies ∧ (s.onWaitForStable task).ldr.waitStable = s.ldr.waitStable ++ [task] := by
  unfold Node.onWaitForStable
  rw [if_neg (by simp [h])]
  exact ⟨rfl, rfl⟩

/-- entries submitted to a non-leader: one completion per task, in order, nothing else -/
theorem task_replied_exactly_once_reject (s : Node) (batch : List QItem) :
    (s.rejectEntries batch).replies.map (·.task) = s.replies.map (·.task) ++ (batch.map (·.task)).filter (· ≠ 0) := by
  rw [C07.definite_rejection_not_leader]
  show (s.replies ++ _).map _ = _
  rw [List.map_append, flatMap_mkReply?_tasks (fun q : QItem => q.task)]

/-- TakeSnapshot while one is in progress: answered at once, exactly once -/
theorem task_replied_exactly_once_snapshot_busy (s : Node) (task threshold : Nat)
    (h : s.snapPending.isSome = true ∨ s.snapResult.isSome = true) (h0 : task ≠ 0) :
    s.onTakeSnapshot task threshold = s.addReplies [{ task := task, result := "inProgress:takeSnapshot" }] := by
  unfold Node.onTakeSnapshot
  rw [if_pos h, reply_eq_addReplies]
  unfold mkReply?; rw [if_neg h0]

/-- …otherwise recorded as the pending snapshot request and not answered yet (answered by
`onSnapshotTaken`, also at shutdown: `shutdown_completes_snapshot`) -/
theorem task_pending_snapshot (s : Node) (task threshold : Nat)
    (h : ¬ (s.snapPending.isSome = true ∨ s.snapResult.isSome = true)) :
    (s.onTakeSnapshot task threshold).replies = s.replies ∧
    ∃ rq, (s.onTakeSnapshot task threshold).snapPending = some rq ∧ rq.task = task := by
  unfold Node.onTakeSnapshot
  rw [if_neg h]
  exact ⟨rfl, _, rfl, rfl⟩

/-! ### 3. shutdown -/

def IsClosed (s : Node) : Prop := s.closed ≠ ""

theorem cl_congr {s s' : Node} (h : IsClosed s) (e : s'.closed = s.closed) : IsClosed s' := by
  unfold IsClosed at *; rw [e]; exact h

theorem doClose_closed (s : Node) (r : String) (hr : r ≠ "") : IsClosed (s.doClose r) := by
  unfold Node.doClose IsClosed
  split
  · rename_i h; simpa [Node.isClosed] using h
  · exact hr

theorem doClose_keeps (s : Node) (r : String) (h : IsClosed s) : (s.doClose r).closed = s.closed := by
  rw [doClose_of_closed s r h]

/-- every primitive update of the handlers keeps a closed node closed (`closeOnce`) -/
theorem closed_stepClosed : StepClosed IsClosed where
  panic := fun s site h => cl_congr h (by rw [panic_shape])
  reply := fun s t r h => cl_congr h (by rw [reply_shape])
  point := fun s n h => cl_congr h rfl
  ldr := fun s l h => cl_congr h rfl
  append := fun s e r h => cl_congr h rfl
  commitN := fun s n h => cl_congr h rfl
  fsm := fun s f h => cl_congr h rfl
  changeConfigR := fun s c h => cl_congr h (by rw [changeConfigR_shape])
  setCommitIndexR := fun s i h _ => cl_congr h (setCommitIndexR_of_closed s i h)
  popOrder := fun s h => cl_congr h rfl
  begin := fun s ra ord h => cl_congr h rfl
  rpcReply := fun s r h => cl_congr h rfl
  ret := fun s r h => cl_congr h rfl
  setRole := fun s r h => cl_congr h rfl
  setLeader := fun s l h => cl_congr h rfl
  doClose := fun s r h => cl_congr h (doClose_keeps s r h)
  setTerm := fun s t h => cl_congr h (by rw [setTerm_shape])
  voteNewTerm := fun s t c h _ => cl_congr h (by rw [setVotedFor_shape])
  voteGrant := fun s c h _ => cl_congr h (by rw [setVotedFor_shape])
  votesNeeded := fun s v h => cl_congr h rfl
  candTransfer := fun s v h => cl_congr h rfl
  removeGTE := fun s i pt h => cl_congr h rfl
  removeLTE := fun s i h => cl_congr h rfl
  clearLog := fun s h => cl_congr h rfl
  revertConfig := fun s h => cl_congr h rfl
  commitConfig := fun s h => cl_congr h (by rw [commitConfig_shape])
  publishSnapshot := fun s f h => cl_congr h rfl
  installCommit := fun s h _ => cl_congr h rfl
  snapPending := fun s v h => cl_congr h rfl
  snapResult := fun s v h => cl_congr h rfl
  bootstrapLast := fun s i t h => cl_congr h rfl

/-- **closed_is_sticky**: a closed node stays closed through every step (any operation, any input). -/
theorem closed_is_sticky (s : Node) (op : Op) (rollAt : List Nat) (orders : List (List Nat)) (h : s.closed ≠ "") :
    (s.step op rollAt orders).closed ≠ "" :=
  closed_stepClosed.step_inv s op rollAt orders h

theorem shutdown_closes (s : Node) : s.shutdown.closed ≠ "" := by
  have h2 := closed_stepClosed.releaseRole_inv (s.doClose "serverClosed") (s.doClose "serverClosed").role
    (doClose_closed s _ (by decide))
  exact shutdown_of (Inv := IsClosed) s h2 (closed_stepClosed.snapRun_inv _ h2) closed_stepClosed.onSnapshotTaken_inv

/-- the end of `Shutdown` (`Raft.release`): let a running snapshot finish and deliver its result -/
def finish (x : Node) : Node :=
  let x' := if x.snapPending.isSome then x.snapRun else x
  if x'.snapResult.isSome then x'.onSnapshotTaken else x'

theorem shutdown_eq (s : Node) :
    s.shutdown = finish ((s.doClose "serverClosed").releaseRole (s.doClose "serverClosed").role) := rfl

theorem doClose_fields (s : Node) (r : String) :
    (s.doClose r).ldr = s.ldr ∧ (s.doClose r).replies = s.replies ∧ (s.doClose r).role = s.role ∧
    (s.doClose r).snapPending = s.snapPending ∧ (s.doClose r).snapResult = s.snapResult ∧
    (s.doClose r).term = s.term := by
  rw [doClose_shape]; exact ⟨rfl, rfl, rfl, rfl, rfl, rfl⟩

theorem snapRun_fields (x : Node) : x.snapRun.replies = x.replies ∧ x.snapRun.ldr = x.ldr ∧
    (∀ rq, x.snapPending = some rq → x.snapRun.snapPending = none ∧
      ∃ rs, x.snapRun.snapResult = some rs ∧ rs.task = rq.task) := by
  refine ⟨by rw [snapRun_shape], by rw [snapRun_shape], fun rq hrq => ?_⟩
  unfold Node.snapRun
  rw [hrq]
  dsimp only
  split
  · exact ⟨rfl, _, rfl, rfl⟩
  · split <;> exact ⟨rfl, _, rfl, rfl⟩

theorem notifyFlr_fields (x : Node) : x.notifyFlr.replies = x.replies ∧ x.notifyFlr.ldr = x.ldr ∧
    x.notifyFlr.snapPending = x.snapPending ∧ x.notifyFlr.snapResult = x.snapResult := by
  rw [notifyFlr_shape]; exact ⟨rfl, rfl, rfl, rfl⟩

/-- the fields `Shutdown` cares about -/
def SameBut (x y : Node) : Prop :=
  y.replies = x.replies ∧ y.snapResult = x.snapResult ∧ y.snapPending = x.snapPending ∧
  y.ldr.queue = x.ldr.queue ∧ y.ldr.waitStable = x.ldr.waitStable ∧ y.ldr.transfer = x.ldr.transfer

theorem SameBut.rfl' (x : Node) : SameBut x x := ⟨rfl, rfl, rfl, rfl, rfl, rfl⟩

theorem SameBut.notifyFlr {x y : Node} (h : SameBut x y) : SameBut x y.notifyFlr := by
  obtain ⟨a, b, c, d⟩ := notifyFlr_fields y
  obtain ⟨h1, h2, h3, h4, h5, h6⟩ := h
  exact ⟨by rw [a, h1], by rw [d, h2], by rw [c, h3], by rw [b, h4], by rw [b, h5], by rw [b, h6]⟩

theorem SameBut.reply {x z : Node} (h : SameBut x z) (t : Nat) (r : String) :
    (z.reply t r).replies = x.replies ++ mkReply? t r ∧ (z.reply t r).snapResult = x.snapResult ∧
    (z.reply t r).snapPending = x.snapPending ∧ (z.reply t r).ldr.queue = x.ldr.queue ∧
    (z.reply t r).ldr.waitStable = x.ldr.waitStable ∧ (z.reply t r).ldr.transfer = x.ldr.transfer := by
  obtain ⟨a1, a2, a3, a4, a5, a6⟩ := h
  rw [reply_eq_addReplies]
  exact ⟨by show z.replies ++ _ = _; rw [a1], a2, a3, a4, a5, a6⟩

/-- `onSnapshotTaken` delivers the result to the task that asked for the snapshot, exactly once -/
theorem onSnapshotTaken_fields (x : Node) (rs : SnapRes) (h : x.snapResult = some rs) :
    x.onSnapshotTaken.replies = x.replies ++ mkReply? rs.task (if rs.err ≠ "" then rs.err else s!"u64:{rs.index}") ∧
    x.onSnapshotTaken.snapResult = none ∧ x.onSnapshotTaken.snapPending = x.snapPending ∧
    x.onSnapshotTaken.ldr.queue = x.ldr.queue ∧ x.onSnapshotTaken.ldr.waitStable = x.ldr.waitStable ∧
    x.onSnapshotTaken.ldr.transfer = x.ldr.transfer := by
  have hrs : ∀ rs', x.snapResult = some rs' → rs' = rs := fun rs' h' => by rw [h] at h'; injection h' with h'; exact h'.symm
  refine onSnapshotTaken_cases (motive := fun z => z.replies = _ ∧ z.snapResult = none ∧ z.snapPending = _ ∧
    z.ldr.queue = _ ∧ z.ldr.waitStable = _ ∧ z.ldr.transfer = _) x (fun hn => by rw [h] at hn; cases hn)
    (fun rs' h' => ?_) fun rs' a b y h' he _ _ _ hy => ?_
  · rw [hrs rs' h']
    exact (SameBut.rfl' (x.withSnapResult none)).reply _ _
  · rw [hrs rs' h'] at he ⊢
    rw [if_neg (show ¬ rs.err ≠ "" from fun hne => hne he)]
    have h2 : SameBut (x.withSnapResult none) y := by
      rcases hy with rfl | ⟨_, rfl⟩ <;> exact ⟨rfl, rfl, rfl, rfl, rfl, rfl⟩
    refine SameBut.reply (x := x.withSnapResult none) ?_ _ _
    exact ite_ind (fun _ => SameBut.notifyFlr (y := y.withLdr _) h2) fun _ =>
      ite_ind (fun _ => SameBut.notifyFlr (y := y.withLdr _) h2) fun _ => h2

theorem finish_fields (x : Node) :
    x.replies <+: (finish x).replies ∧ (finish x).snapPending = none ∧ (finish x).snapResult = none ∧
    (finish x).ldr.queue = x.ldr.queue ∧ (finish x).ldr.waitStable = x.ldr.waitStable ∧
    (finish x).ldr.transfer = x.ldr.transfer ∧
    (∀ rq, x.snapPending = some rq → ∃ r, (finish x).replies = x.replies ++ mkReply? rq.task r) ∧
    (∀ rs, x.snapPending = none → x.snapResult = some rs → ∃ r, (finish x).replies = x.replies ++ mkReply? rs.task r) ∧
    (x.snapPending = none → x.snapResult = none → finish x = x) := by
  unfold finish
  cases hp : x.snapPending with
  | some rq =>
    obtain ⟨r1, r2, r3⟩ := snapRun_fields x
    obtain ⟨r4, rs, r5, r6⟩ := r3 rq hp
    simp only [Option.isSome_some, if_true, r5]
    obtain ⟨t1, t2, t3, t4, t5, t6⟩ := onSnapshotTaken_fields x.snapRun rs r5
    rw [r1, r6] at t1
    refine ⟨by rw [t1]; exact List.prefix_append _ _, by rw [t3, r4], t2, by rw [t4, r2], by rw [t5, r2],
      by rw [t6, r2], ?_, ?_, ?_⟩
    · intro rq' hrq'
      injection hrq' with hrq'
      subst hrq'
      exact ⟨_, t1⟩
    · intro rs' hn; cases hn
    · intro hn; cases hn
  | none =>
    simp only [Option.isSome_none, Bool.false_eq_true, if_false]
    cases hr : x.snapResult with
    | some rs =>
      simp only [Option.isSome_some, if_true]
      obtain ⟨t1, t2, t3, t4, t5, t6⟩ := onSnapshotTaken_fields x rs hr
      refine ⟨by rw [t1]; exact List.prefix_append _ _, by rw [t3, hp], t2, t4, t5, t6, ?_, ?_, ?_⟩
      · intro rq hn; cases hn
      · intro rs' _ hrs'
        injection hrs' with hrs'
        subst hrs'
        exact ⟨_, t1⟩
      · intro _ hn; cases hn
    | none =>
      simp only [Option.isSome_none, Bool.false_eq_true, if_false]
      refine ⟨List.prefix_refl _, hp, hr, ?_, ?_, ?_, ?_, ?_, ?_⟩
      all_goals first
        | trivial
        | rfl
        | (intro rs _ hn; cases hn)
        | (intro rq hn; cases hn)
        | (intro _ _; rfl)

theorem transferReply_eq (x : Node) (r : String) :
    x.transferReply r = (x.addReplies (mkReply? x.ldr.transfer.task r)).withLdr { x.ldr with transfer := {} } := by
  unfold Node.transferReply; rw [reply_eq_addReplies]; rfl

theorem releaseErr_addReplies (x : Node) (rs : List Reply) : C07.releaseErr (x.addReplies rs) = C07.releaseErr x := by
  unfold C07.releaseErr Node.addReplies
  dsimp only [Node.isClosed]
  by_cases hc : (x.closed != "") = true
  · simp only [hc, ↓reduceIte]
  · simp only [hc]
    by_cases hl : x.leader = x.nid
    · simp only [hl, ↓reduceIte]; rfl
    · simp only [hl, ↓reduceIte]; rfl

theorem releaseErr_withLdr (x : Node) (l : Leader) : C07.releaseErr (x.withLdr l) = C07.releaseErr x := by
  unfold C07.releaseErr Node.withLdr
  dsimp only [Node.isClosed]
  by_cases hc : (x.closed != "") = true
  · simp only [hc, ↓reduceIte]
  · simp only [hc]
    by_cases hl : x.leader = x.nid
    · simp only [hl, ↓reduceIte]; rfl
    · simp only [hl, ↓reduceIte]; rfl

theorem leaderReleaseRest_snap (x : Node) :
    x.leaderReleaseRest.snapPending = x.snapPending ∧ x.leaderReleaseRest.snapResult = x.snapResult := by
  rw [leaderReleaseRest_shape]; exact ⟨rfl, rfl⟩

/-- everything `leader.release` answers, in order: the transfer in progress, every queued entry, every
waitForStableConfig task — each exactly once — and what it leaves behind -/
theorem leaderRelease_replies (x : Node) :
    x.leaderRelease.replies = x.replies ++
      (if x.ldr.transfer.active then mkReply? x.ldr.transfer.task x.releaseResult else []) ++
      x.ldr.queue.flatMap (fun q => mkReply? q.task (C07.releaseErr x)) ++
      x.ldr.waitStable.flatMap (fun t => mkReply? t (C07.releaseErr x)) ∧
    x.leaderRelease.ldr.queue = [] ∧ x.leaderRelease.ldr.waitStable = [] ∧ x.leaderRelease.ldr.transfer = {} ∧
    x.leaderRelease.snapPending = x.snapPending ∧ x.leaderRelease.snapResult = x.snapResult := by
  unfold Node.leaderRelease
  split
  · rename_i ha
    obtain ⟨l1, l2, l3, l4, _⟩ := C07.lost_leadership_replies (x.transferReply x.releaseResult)
    obtain ⟨p1, p2⟩ := leaderReleaseRest_snap (x.transferReply x.releaseResult)
    refine ⟨?_, l2, l3, l4, ?_, ?_⟩
    · rw [l1, transferReply_eq, releaseErr_withLdr, releaseErr_addReplies]; rfl
    · rw [p1, transferReply_eq]; rfl
    · rw [p2, transferReply_eq]; rfl
  · obtain ⟨l1, l2, l3, l4, _⟩ := C07.lost_leadership_replies x
    obtain ⟨p1, p2⟩ := leaderReleaseRest_snap x
    refine ⟨?_, l2, l3, l4, p1, p2⟩
    rw [l1]; simp

/-- after `doClose` everything pending is failed with ErrServerClosed -/
theorem releaseErr_closed (x : Node) (h : IsClosed x) : C07.releaseErr x = "plain:serverClosed" := by
  unfold C07.releaseErr
  rw [if_pos (by unfold IsClosed at h; simp [Node.isClosed, h])]

theorem releaseResult_closed (x : Node) (h : IsClosed x) :
    x.releaseResult = (if x.term > x.ldr.transfer.term then "ok" else "plain:serverClosed") := by
  unfold Node.releaseResult
  split
  · rfl
  · rw [if_pos (by unfold IsClosed at h; simp [Node.isClosed, h])]

/-- **shutdown_completes_pending (leader)**: after `Shutdown` of a leader every queued entry and every
waitForStableConfig task has been completed with ErrServerClosed, the transfer in progress with success iff
the term moved on (else ErrServerClosed), and nothing is left in the queue, the wait list or the transfer. -/
theorem shutdown_completes_pending_leader (s : Node) (hrole : s.role = .leader) :
    (∀ q ∈ s.ldr.queue, q.task ≠ 0 → ({ task := q.task, result := "plain:serverClosed" } : Reply) ∈ s.shutdown.replies) ∧
    (∀ t ∈ s.ldr.waitStable, t ≠ 0 → ({ task := t, result := "plain:serverClosed" } : Reply) ∈ s.shutdown.replies) ∧
    (s.ldr.transfer.active = true → s.ldr.transfer.task ≠ 0 →
      ({ task := s.ldr.transfer.task,
         result := if s.term > s.ldr.transfer.term then "ok" else "plain:serverClosed" } : Reply) ∈ s.shutdown.replies) ∧
    s.shutdown.ldr.queue = [] ∧ s.shutdown.ldr.waitStable = [] ∧ s.shutdown.ldr.transfer.active = false := by
  obtain ⟨d1, d2, d3, d4, d5, d6⟩ := doClose_fields s "serverClosed"
  have hcl : IsClosed (s.doClose "serverClosed") := doClose_closed s _ (by decide)
  have hx : (s.doClose "serverClosed").releaseRole (s.doClose "serverClosed").role = (s.doClose "serverClosed").leaderRelease := by
    rw [d3, hrole]; rfl
  obtain ⟨r1, r2, r3, r4, _, _⟩ := leaderRelease_replies (s.doClose "serverClosed")
  obtain ⟨f1, _, _, f4, f5, f6, _⟩ := finish_fields (s.doClose "serverClosed").leaderRelease
  rw [shutdown_eq, hx]
  rw [releaseErr_closed _ hcl, releaseResult_closed _ hcl, d1, d2, d6] at r1
  have hsub : ∀ r : Reply, r ∈ (s.doClose "serverClosed").leaderRelease.replies →
      r ∈ (finish (s.doClose "serverClosed").leaderRelease).replies := fun r hr => f1.subset hr
  refine ⟨?_, ?_, ?_, by rw [f4, r2], by rw [f5, r3], by rw [f6, r4]⟩
  · intro q hq h0
    apply hsub; rw [r1]
    apply List.mem_append_left; apply List.mem_append_right
    exact mem_flatMap_mkReply? (fun q : QItem => q.task) (fun _ => "plain:serverClosed") _ q hq h0
  · intro t ht h0
    apply hsub; rw [r1]
    apply List.mem_append_right
    exact mem_flatMap_mkReply? (fun t : Nat => t) (fun _ => "plain:serverClosed") _ t ht h0
  · intro ha h0
    apply hsub; rw [r1]
    apply List.mem_append_left; apply List.mem_append_left; apply List.mem_append_right
    rw [if_pos ha]; unfold mkReply?; rw [if_neg h0]
    exact List.mem_singleton.mpr rfl

/-- **exactly once** (leader, no snapshot in flight): the completions `Shutdown` records are exactly: the
transfer in progress, each queued entry, each waiting task — one each, in this order, nothing else. -/
theorem shutdown_replies_leader_exact (s : Node) (hrole : s.role = .leader)
    (hp : s.snapPending = none) (hr : s.snapResult = none) :
    s.shutdown.replies.map (·.task) = s.replies.map (·.task) ++
      (if s.ldr.transfer.active then [s.ldr.transfer.task].filter (· ≠ 0) else []) ++
      (s.ldr.queue.map (·.task)).filter (· ≠ 0) ++ s.ldr.waitStable.filter (· ≠ 0) := by
  obtain ⟨d1, d2, d3, d4, d5, d6⟩ := doClose_fields s "serverClosed"
  have hx : (s.doClose "serverClosed").releaseRole (s.doClose "serverClosed").role = (s.doClose "serverClosed").leaderRelease := by
    rw [d3, hrole]; rfl
  obtain ⟨r1, _, _, _, r5, r6⟩ := leaderRelease_replies (s.doClose "serverClosed")
  have hfin := (finish_fields (s.doClose "serverClosed").leaderRelease).2.2.2.2.2.2.2.2
    (by rw [r5, d4]; exact hp) (by rw [r6, d5]; exact hr)
  rw [shutdown_eq, hx, hfin, r1, d1, d2]
  simp only [List.map_append]
  rw [flatMap_mkReply?_tasks (fun q : QItem => q.task), flatMap_mkReply?_tasks (fun t : Nat => t)]
  have hT : ∀ (b : Bool) (t : Nat) (r : String),
      (if b then mkReply? t r else []).map (·.task) = if b then [t].filter (· ≠ 0) else [] := by
    intro b t r
    split
    · unfold mkReply?; split <;> simp_all
    · rfl
  rw [hT, List.map_id']

/-- **shutdown_completes_pending (snapshot, any role)**: a snapshot that was requested, or whose result was
not yet delivered, is completed during `Shutdown` (`Raft.release` waits for it); afterwards no snapshot
request or result is pending. For a follower or candidate nothing else can be pending, and a node with
nothing in flight only closes. -/
theorem shutdown_completes_snapshot (s : Node) :
    (∀ rq, s.snapPending = some rq → rq.task ≠ 0 → ∃ r, ({ task := rq.task, result := r } : Reply) ∈ s.shutdown.replies) ∧
    (∀ rs, s.snapPending = none → s.snapResult = some rs → rs.task ≠ 0 →
      ∃ r, ({ task := rs.task, result := r } : Reply) ∈ s.shutdown.replies) ∧
    s.shutdown.snapPending = none ∧ s.shutdown.snapResult = none ∧
    (s.role ≠ .leader → s.snapPending = none → s.snapResult = none → s.shutdown.replies = s.replies) := by
  obtain ⟨d1, d2, d3, d4, d5, d6⟩ := doClose_fields s "serverClosed"
  -- the role release touches neither the snapshot bookkeeping nor (for non-leaders) the replies
  have hx : ∃ x, (s.doClose "serverClosed").releaseRole (s.doClose "serverClosed").role = x ∧
      x.snapPending = s.snapPending ∧ x.snapResult = s.snapResult ∧ (s.role ≠ .leader → x.replies = s.replies) := by
    refine ⟨_, rfl, ?_, ?_, ?_⟩
    all_goals
      rw [d3]
      cases hrole : s.role
    · exact d4
    · exact d4
    · show (s.doClose "serverClosed").leaderRelease.snapPending = _
      rw [(leaderRelease_replies _).2.2.2.2.1]; exact d4
    · exact d5
    · exact d5
    · show (s.doClose "serverClosed").leaderRelease.snapResult = _
      rw [(leaderRelease_replies _).2.2.2.2.2]; exact d5
    · intro _; exact d2
    · intro _; exact d2
    · intro h; exact absurd rfl h
  obtain ⟨x, hx, x1, x2, x3⟩ := hx
  rw [shutdown_eq, hx]
  obtain ⟨_, f2, f3, _, _, _, f7, f8, f9⟩ := finish_fields x
  refine ⟨?_, ?_, f2, f3, ?_⟩
  · intro rq hrq h0
    obtain ⟨r, hr⟩ := f7 rq (by rw [x1]; exact hrq)
    refine ⟨r, ?_⟩
    rw [hr]; apply List.mem_append_right; unfold mkReply?; rw [if_neg h0]; exact List.mem_singleton.mpr rfl
  · intro rs hn hrs h0
    obtain ⟨r, hr⟩ := f8 rs (by rw [x1]; exact hn) (by rw [x2]; exact hrs)
    refine ⟨r, ?_⟩
    rw [hr]; apply List.mem_append_right; unfold mkReply?; rw [if_neg h0]; exact List.mem_singleton.mpr rfl
  · intro hl hn hr
    rw [f9 (by rw [x1]; exact hn) (by rw [x2]; exact hr)]
    exact x3 hl

/-- non-vacuity: a leader with one queued entry (task 7), one waiting task (9) and a transfer in progress
(task 5) is shut down: all three are completed, in this order. -/
example :
    let s : Node := { role := .leader, nid := 1, leader := 1,
                      ldr := { queue := [{ task := 7, index := 3 }], waitStable := [9], transfer := { active := true, task := 5 } } }
    s.shutdown.replies.map (·.task) = [5, 7, 9] ∧ s.shutdown.closed = "serverClosed" := by
  decide

end C15
end Raft

#print axioms Raft.C15.panicked_is_sticky
#print axioms Raft.C15.assert_sticky
#print axioms Raft.C15.assert_true
#print axioms Raft.C15.setCommitIndexR_panicked
#print axioms Raft.C15.panicked_closed
#print axioms Raft.C15.panicked_is_sticky_leader
#print axioms Raft.C15.storeTermVote_panicked
#print axioms Raft.C15.setVotedFor_panicked
#print axioms Raft.C15.setTerm_panicked
#print axioms Raft.C15.vote_handler_never_panics
#print axioms Raft.C15.timeoutNow_never_panics
#print axioms Raft.C15.followerTimeout_never_panics
#print axioms Raft.C15.voteResult_never_panics
#print axioms Raft.C15.takeSnapshot_never_panics
#print axioms Raft.C15.waitForStable_never_panics
#print axioms Raft.C15.rejectEntries_never_panics
#print axioms Raft.C15.checkQuorum_never_panics
#print axioms Raft.C15.startElection_never_panics
#print axioms Raft.C15.tryTransfer_never_panics
#print axioms Raft.C15.task_replied_exactly_once_transfer_invalid
#print axioms Raft.C15.task_pending_transfer
#print axioms Raft.C15.task_replied_exactly_once_waitStable
#print axioms Raft.C15.task_pending_waitStable
#print axioms Raft.C15.task_replied_exactly_once_reject
#print axioms Raft.C15.task_replied_exactly_once_snapshot_busy
#print axioms Raft.C15.task_pending_snapshot
#print axioms Raft.C15.cl_congr
#print axioms Raft.C15.doClose_closed
#print axioms Raft.C15.doClose_keeps
#print axioms Raft.C15.closed_stepClosed
#print axioms Raft.C15.closed_is_sticky
#print axioms Raft.C15.shutdown_closes
#print axioms Raft.C15.shutdown_eq
#print axioms Raft.C15.doClose_fields
#print axioms Raft.C15.snapRun_fields
#print axioms Raft.C15.notifyFlr_fields
#print axioms Raft.C15.SameBut.rfl'
#print axioms Raft.C15.SameBut.notifyFlr
#print axioms Raft.C15.onSnapshotTaken_fields
#print axioms Raft.C15.finish_fields
#print axioms Raft.C15.transferReply_eq
#print axioms Raft.C15.releaseErr_addReplies
#print axioms Raft.C15.releaseErr_withLdr
#print axioms Raft.C15.leaderReleaseRest_snap
#print axioms Raft.C15.leaderRelease_replies
#print axioms Raft.C15.releaseErr_closed
#print axioms Raft.C15.releaseResult_closed
#print axioms Raft.C15.shutdown_completes_pending_leader
#print axioms Raft.C15.shutdown_replies_leader_exact
#print axioms Raft.C15.shutdown_completes_snapshot
#print axioms Raft.Repl.leader_update_fields
