/-
C08 — Membership changes preserve safety: the public editing helpers of `Config` (config.go `AddVoter`,
`AddNonvoter`, `SetAction`, `SetAddr`, `SetData`), with which a user derives the configuration handed to
`ChangeConfig` from the latest one.

Proved for EVERY bootstrapped configuration and EVERY sequence of edits with any arguments, failed calls included
(a failed call leaves the configuration as it was — compared on the real code by engine `nodediff`, part `cfgEdit`):
* the voting rights are those of the starting configuration (`edits_keep_voters`): the editing interface cannot hand
  out or take away a vote, so the only way to a new voter is the leader's promotion round, and `AddVoter` is refused
  on a bootstrapped configuration (`addVoter_bootstrapped`);
* no node disappears and `Index`/`Term` are untouched (`edits_keep_nodes`, `edits_keep_index`), so `ChangeConfig`
  recognises the result as derived from the latest configuration;
* every node still passes `Node.validate` (`edits_keep_valid`);
* hence `leader.onChangeConfig`'s test "a node of the latest configuration is missing or has another voting right"
  never rejects what the editing interface produced, and neither does the test "a voter the latest configuration does
  not know" (`edits_pass_voter_check`, `edits_pass_new_voter_check`; ids stay sorted keys: `edits_keep_sorted`).
What the interface does NOT guarantee, and the model says so: addresses may collide after `AddNonvoter`
(`addNode_ignores_addresses`) — `Config.validate` inside `ChangeConfig` is what refuses that.
-/
import RaftVerif.Model.ConfigEdit
import RaftVerif.Lemmas.ConfigRel

namespace Raft
namespace C08Edit
open Node CfgRel Config

/-- every node, as the library looks it up, passes `Node.validate` -/
def NodesValid (c : Config) : Prop := ∀ id n, c.find? id = some n → nodeValid n = true

theorem addNode_ok {c c' : Config} {n : CNode} (h : c.addNode n = .ok c') :
    c' = c.set n ∧ c.find? n.id = none ∧ nodeValid n = true := by
  unfold addNode at h
  by_cases hv : nodeValid n = true
  · by_cases hh : c.has n.id = true
    · simp [hv, hh] at h
    · simp [hv, hh] at h
      refine ⟨h.symm, ?_, hv⟩
      unfold Config.has at hh
      simpa using hh
  · simp [hv] at h

/-- `addNode` looks at the id only: a valid node of a new id is added whatever addresses are in use — two nodes at one
address are possible until `Config.validate` (inside `ChangeConfig`) refuses them. -/
theorem addNode_ignores_addresses (c : Config) (n : CNode) (hv : nodeValid n = true) (hh : c.has n.id = false) :
    c.addNode n = .ok (c.set n) := by
  simp [addNode, hv, hh]

/-- A successful edit writes exactly one node `m`: either a new one, which is a non-voter unless the configuration is
not bootstrapped, or a replacement of the node of that id with the same voting right; validity is that of the
call's own `validate`. -/
theorem applyEdit_ok {c c' : Config} {e : Edit} (h : c.applyEdit e = .ok c') :
    ∃ m, c' = c.set m ∧
      ((c.find? m.id = none ∧ (m.voter = false ∨ c.isBootstrapped = false) ∧ nodeValid m = true) ∨
       (∃ n, c.find? m.id = some n ∧ m.voter = n.voter ∧ (nodeValid n = true → nodeValid m = true))) := by
  cases e with
  | addVoter id addr =>
    simp only [applyEdit, addVoter] at h
    by_cases hb : c.isBootstrapped = true
    · simp [hb] at h
    · simp only [hb] at h
      obtain ⟨h1, h2, h3⟩ := addNode_ok h
      exact ⟨_, h1, Or.inl ⟨h2, Or.inr (by simpa using hb), h3⟩⟩
  | addNonvoter id addr p =>
    simp only [applyEdit, addNonvoter] at h
    obtain ⟨h1, h2, h3⟩ := addNode_ok h
    exact ⟨_, h1, Or.inl ⟨h2, Or.inl rfl, h3⟩⟩
  | setAction id a =>
    simp only [applyEdit, setAction] at h
    split at h
    · cases h
    · rename_i n hn
      split at h
      · cases h
      · rename_i hv
        injection h with h
        have hid := find?_id hn
        refine ⟨_, h.symm, Or.inr ⟨n, ?_, rfl, fun _ => by simpa using hv⟩⟩
        show c.find? n.id = some n
        rw [hid]; exact hn
  | setAddr id addr =>
    simp only [applyEdit, setAddr] at h
    split at h
    · cases h
    · rename_i n hn
      split at h
      · cases h
      · rename_i hv
        split at h
        · cases h
        · injection h with h
          have hid := find?_id hn
          refine ⟨_, h.symm, Or.inr ⟨n, ?_, rfl, fun _ => by simpa using hv⟩⟩
          show c.find? n.id = some n
          rw [hid]; exact hn
  | setData id d =>
    simp only [applyEdit, setData] at h
    split at h
    · cases h
    · rename_i n hn
      injection h with h
      have hid := find?_id hn
      refine ⟨_, h.symm, Or.inr ⟨n, ?_, rfl, fun hv => hv⟩⟩
      show c.find? n.id = some n
      rw [hid]; exact hn

theorem afterEdit_cases (c : Config) (e : Edit) :
    c.afterEdit e = c ∨ ∃ m, c.afterEdit e = c.set m := by
  unfold afterEdit
  split
  · rename_i c' h
    obtain ⟨m, hm, _⟩ := applyEdit_ok h
    exact Or.inr ⟨m, hm⟩
  · exact Or.inl rfl

/-- What a call does to the lookup of `x`: nothing, or the answer becomes a node that is new (a non-voter, valid) or
stands in for the old one with the same voting right. -/
theorem afterEdit_find? (c : Config) (e : Edit) (x : Nat) :
    (c.afterEdit e).find? x = c.find? x ∨
    ∃ m, (c.afterEdit e).find? x = some m ∧
      ((c.find? x = none ∧ (m.voter = false ∨ c.isBootstrapped = false) ∧ nodeValid m = true) ∨
       (∃ n, c.find? x = some n ∧ m.voter = n.voter ∧ (nodeValid n = true → nodeValid m = true))) := by
  unfold afterEdit
  split
  · rename_i c' h
    obtain ⟨m, hm, hc⟩ := applyEdit_ok h
    subst hm
    by_cases hx : x = m.id
    · subst hx; exact Or.inr ⟨m, find?_set_self c m, hc⟩
    · exact Or.inl (find?_set_ne c m x hx)
  · exact Or.inl rfl

theorem afterEdits_ind {P : Config → Prop} (step : ∀ c e, P c → P (c.afterEdit e)) (c : Config) (es : List Edit)
    (h : P c) : P (c.afterEdits es) :=
  List.foldlRecOn (motive := P) es _ h fun c h e _ => step c e h

theorem afterEdit_index (c : Config) (e : Edit) : (c.afterEdit e).index = c.index ∧ (c.afterEdit e).term = c.term := by
  rcases afterEdit_cases c e with h | ⟨m, h⟩ <;> rw [h]
  · exact ⟨rfl, rfl⟩
  · exact ⟨rfl, rfl⟩

theorem afterEdit_voters (c : Config) (e : Edit) (hb : c.isBootstrapped = true) : SameVoters (c.afterEdit e) c := by
  intro x
  unfold Config.isVoter
  rcases afterEdit_find? c e x with h | ⟨m, h, ⟨hn, hv, _⟩ | ⟨n, hn, hv, _⟩⟩ <;> rw [h]
  · rw [hn]; exact hv.resolve_right (by rw [hb]; decide)
  · rw [hn]; exact hv

theorem afterEdit_nodes (c : Config) (e : Edit) (x : Nat) (h : (c.find? x).isSome = true) :
    ((c.afterEdit e).find? x).isSome = true := by
  rcases afterEdit_find? c e x with h' | ⟨m, h', _⟩ <;> rw [h']
  · exact h
  · rfl

theorem afterEdit_valid (c : Config) (e : Edit) (h : NodesValid c) : NodesValid (c.afterEdit e) := by
  intro x n hn
  rcases afterEdit_find? c e x with h' | ⟨m, h', hc⟩ <;> rw [h'] at hn
  · exact h x n hn
  · cases hn
    rcases hc with ⟨_, _, hv⟩ | ⟨n', hn', _, hv⟩
    · exact hv
    · exact hv (h _ _ hn')

/-- `AddVoter` is refused once the cluster is bootstrapped. -/
theorem addVoter_bootstrapped (c : Config) (id : Nat) (addr : String) (hb : c.isBootstrapped = true) :
    c.applyEdit (.addVoter id addr) = .error .bootstrapped := by
  simp [applyEdit, addVoter, hb]

theorem edits_keep_index (c : Config) (es : List Edit) :
    (c.afterEdits es).index = c.index ∧ (c.afterEdits es).term = c.term :=
  afterEdits_ind (P := fun d => d.index = c.index ∧ d.term = c.term)
    (fun d e h => ⟨(afterEdit_index d e).1.trans h.1, (afterEdit_index d e).2.trans h.2⟩) c es ⟨rfl, rfl⟩

/-- The editing interface cannot hand out or take away a vote: after any sequence of calls on a bootstrapped
configuration, failed ones included, exactly the same ids are voters. -/
theorem edits_keep_voters (c : Config) (es : List Edit) (hb : c.isBootstrapped = true) :
    SameVoters (c.afterEdits es) c :=
  (afterEdits_ind (P := fun d => d.isBootstrapped = true ∧ SameVoters d c)
    (fun d e h => ⟨by unfold Config.isBootstrapped at *; rw [(afterEdit_index d e).1]; exact h.1,
      (afterEdit_voters d e h.1).trans h.2⟩) c es ⟨hb, SameVoters.refl c⟩).2

/-- No node disappears. -/
theorem edits_keep_nodes (c : Config) (es : List Edit) (x : Nat) (h : (c.find? x).isSome = true) :
    ((c.afterEdits es).find? x).isSome = true :=
  afterEdits_ind (fun d e => afterEdit_nodes d e x) c es h

/-- Every node still passes `Node.validate`. -/
theorem edits_keep_valid (c : Config) (es : List Edit) (h : NodesValid c) : NodesValid (c.afterEdits es) :=
  afterEdits_ind afterEdit_valid c es h

/-- ids are keys: looking a listed node up by its id returns that node (true of every configuration that came out of
a Go map: `Config.decode`, `clone`) -/
def Keyed (c : Config) : Prop := ∀ n ∈ c.nodes, c.find? n.id = some n

/-- `leader.onChangeConfig` rejects a configuration in which a node of the latest one is missing or votes
differently.  That test never fires on what the editing interface made of the latest configuration. -/
theorem edits_pass_voter_check (latest : Config) (es : List Edit) (hb : latest.isBootstrapped = true)
    (hk : Keyed latest) :
    latest.nodes.any (fun n => match (latest.afterEdits es).find? n.id with
      | none => true
      | some nn => n.voter != nn.voter) = false := by
  rw [List.any_eq_false]
  intro n hn
  have hf := hk n hn
  have hs := edits_keep_nodes latest es n.id (by rw [hf]; rfl)
  have hv := edits_keep_voters latest es hb n.id
  unfold Config.isVoter at hv
  rw [hf] at hv
  cases hq : (latest.afterEdits es).find? n.id with
  | none => rw [hq] at hs; cases hs
  | some nn =>
    rw [hq] at hv
    simp only at hv ⊢
    rw [hv]; simp

/-- nodes in strictly ascending id order: how the harness, the codec model and `Config.set` keep a Go map -/
def Sorted (c : Config) : Prop := c.nodes.Pairwise (fun a b => a.id < b.id)

theorem keyed_of_sorted {c : Config} (h : Sorted c) : Keyed c := by
  unfold Sorted at h
  unfold Keyed Config.find?
  generalize c.nodes = l at h
  induction l with
  | nil => intro n hn; cases hn
  | cons a as ih =>
    have ha := List.pairwise_cons.mp h
    intro n hn
    rcases List.mem_cons.mp hn with hn | hn
    · subst hn; simp [List.find?]
    · have hlt := ha.1 n hn
      have : (a.id == n.id) = false := by simp; omega
      simp only [List.find?, this]
      exact ih ha.2 n hn

theorem afterEdit_sorted (c : Config) (e : Edit) (h : Sorted c) : Sorted (c.afterEdit e) := by
  rcases afterEdit_cases c e with h' | ⟨m, h'⟩ <;> rw [h']
  · exact h
  · exact Config.sorted_insertSorted m c.nodes h

theorem edits_keep_sorted (c : Config) (es : List Edit) (h : Sorted c) : Sorted (c.afterEdits es) :=
  afterEdits_ind afterEdit_sorted c es h

/-- `leader.onChangeConfig` also rejects a configuration with a voter that the latest one does not know.  That test
never fires either: every voter of an edited configuration is a node — a voter — of the latest one. -/
theorem edits_pass_new_voter_check (latest : Config) (es : List Edit) (hb : latest.isBootstrapped = true)
    (hs : Sorted latest) :
    (latest.afterEdits es).nodes.any (fun n => !latest.has n.id && n.voter) = false := by
  rw [List.any_eq_false]
  intro n hn
  have hk := keyed_of_sorted (edits_keep_sorted latest es hs) n hn
  have hv := edits_keep_voters latest es hb n.id
  unfold Config.isVoter at hv
  rw [hk] at hv
  simp only [Bool.and_eq_true, Bool.not_eq_true', not_and, Bool.not_eq_true]
  intro hh
  unfold Config.has at hh
  cases hq : latest.find? n.id with
  | none => rw [hq] at hv; exact hv
  | some x => rw [hq] at hh; cases hh

def ex : Config :=
  { nodes := [{ id := 1, addr := "a:1", voter := true }, { id := 2, addr := "b:2", voter := true },
              { id := 3, addr := "c:3" }], index := 5, term := 2 }

/-- the hypotheses of the theorems above are met by a configuration with voters and a non-voter, and a session in
which calls succeed and fail -/
example : ex.isBootstrapped = true ∧ Sorted ex ∧ Keyed ex ∧
    (ex.afterEdits [.setData 1 "x", .setAction 7 0, .addVoter 9 "z:9", .setData 3 "y"]).nodes.length = 3 ∧
    ((ex.afterEdits [.setData 1 "x", .setAction 7 0, .addVoter 9 "z:9", .setData 3 "y"]).get 3).data = "y" := by
  refine ⟨rfl, by unfold Sorted; decide, ?_, by decide, by decide⟩
  intro n hn
  simp only [ex, List.mem_cons, List.mem_nil_iff, or_false] at hn
  rcases hn with rfl | rfl | rfl <;> rfl

end C08Edit
end Raft

#print axioms Raft.C08Edit.applyEdit_ok
#print axioms Raft.C08Edit.addVoter_bootstrapped
#print axioms Raft.C08Edit.edits_keep_index
#print axioms Raft.C08Edit.edits_keep_voters
#print axioms Raft.C08Edit.edits_keep_nodes
#print axioms Raft.C08Edit.edits_keep_valid
#print axioms Raft.C08Edit.edits_pass_voter_check
#print axioms Raft.C08Edit.edits_keep_sorted
#print axioms Raft.C08Edit.keyed_of_sorted
#print axioms Raft.C08Edit.edits_pass_new_voter_check
#print axioms Raft.C08Edit.addNode_ignores_addresses
