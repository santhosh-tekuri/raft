/-
C10 — A node restarts consistently after a crash at any point (node-local part).

About `restartNode`/`restart` (= `openStorage` + `New` + the restore step of `Serve`) and the crash-point traces of the
handlers, for every disk content / state / input: the restarted log is contiguous with the newest snapshot (a log ending
below it is reset: the F7 repair), term and vote are the durable ones (C05), the FSM is the newest snapshot's content,
`scanConfigs` finds the newest two configuration entries above the snapshot, flushed entries survive; the storage scripts
(the names, and for the discard branch of an installation the exact disk contents, of the crash points of `onInstallSnap`,
`snapRun`, `bootstrap`, the vote handler, and the first point of `leader.setCommitIndex`); and from every crash point of an
installation request the node restarts, contiguous with its snapshot.

NOT proved here (run by the engines): that the real `openStorage` agrees with `restart` on every directory
copy taken at every `verifPoint` (nodediff), crash points inside the log package (logdiff, C14), and
"can rejoin and converge" (cluster level, C17). Vote/term across crashes is C05.
-/
import RaftVerif.Props.C09
import RaftVerif.Props.C05
import RaftVerif.Lemmas.ShapeBootstrap
import RaftVerif.Lemmas.LeaderCommit
import RaftVerif.Lemmas.RestartShape

namespace Raft
namespace C10
open Node

/-- the newest snapshot on disk (`snaps.index/term`, zero value when there is none) -/
def snapOf (d : Durable) : SnapFile := (d.snaps.head?).getD {}

/-- the log `openStorage` works with: a log that ends below the snapshot is reset (F7 repair) -/
def logOf (d : Durable) : NLog := if staleLog d then NLog.reset (snapOf d).index else d.log

theorem staleLog_of_short (d : Durable) (h : d.log.last < (snapOf d).index) : staleLog d = true := by
  unfold staleLog
  simp only [Bool.or_eq_true, decide_eq_true_eq]
  exact Or.inl h

theorem not_stale_reaches (d : Durable) (h : staleLog d = false) : (snapOf d).index ≤ d.log.last := by
  unfold staleLog at h
  simp only [Bool.or_eq_false_iff, decide_eq_false_iff_not] at h
  exact Nat.le_of_not_lt h.1

/-- a log that is not stale and starts below the snapshot index holds, at the snapshot index, the entry the
snapshot covers (same term): the F18 repair -/
theorem not_stale_term (d : Durable) (h : staleLog d = false) (hp : d.log.prev < (snapOf d).index) :
    (d.log.get? (snapOf d).index).map (·.term) = some (snapOf d).term := by
  unfold staleLog at h
  simp only [Bool.or_eq_false_iff, Bool.and_eq_false_imp, decide_eq_true_eq] at h
  have := h.2 hp
  unfold snapOf
  simpa using this

/-- Disk well-formedness needed for "the log starts at or below the snapshot": `log.prev ≤ snaps.index`. -/
def DurWF (d : Durable) : Prop := d.log.prev ≤ (snapOf d).index

theorem restartNode_fields (d : Durable) (r : Nat) (sor : Bool) :
    (restartNode d r sor).snapIndex = (snapOf d).index ∧ (restartNode d r sor).snapTerm = (snapOf d).term ∧
    (restartNode d r sor).log = { logOf d with flushed := (logOf d).last } ∧
    (restartNode d r sor).lastLogIndex = (if (logOf d).count > 0 then (logOf d).last else (snapOf d).index) ∧
    (restartNode d r sor).snapsDisk = d.snaps ∧ (restartNode d r sor).term = d.term ∧
    (restartNode d r sor).votedFor = d.vote ∧ (restartNode d r sor).commitIndex = 0 ∧
    (restartNode d r sor).fsm = {} ∧ (restartNode d r sor).panicked = none ∧
    (restartNode d r sor).cid = d.cid ∧ (restartNode d r sor).nid = d.nid :=
  ⟨rfl, rfl, rfl, rfl, rfl, rfl, rfl, rfl, rfl, rfl, rfl, rfl⟩

theorem logOf_cases (d : Durable) :
    (staleLog d = true ∧ logOf d = NLog.reset (snapOf d).index) ∨
    ((snapOf d).index ≤ d.log.last ∧ logOf d = d.log) := by
  unfold logOf
  split
  · rename_i h; exact Or.inl ⟨h, rfl⟩
  · rename_i h
    have h' : staleLog d = false := by simpa using h
    exact Or.inr ⟨not_stale_reaches d h', rfl⟩

/-- `openStorage` looks at the log and at the newest snapshot file only -/
theorem snapOf_congr {d d' : Durable} (e : d.snaps.head? = d'.snaps.head?) : snapOf d = snapOf d' := by
  unfold snapOf; rw [e]

theorem snapOf_index (d : Durable) : (snapOf d).index = ((d.snaps.head?).map (·.index)).getD 0 := by
  unfold snapOf; cases d.snaps.head? <;> rfl

theorem snapOf_term (d : Durable) : (snapOf d).term = ((d.snaps.head?).map (·.term)).getD 0 := by
  unfold snapOf; cases d.snaps.head? <;> rfl

theorem staleLog_congr {d d' : Durable} (e1 : d.log = d'.log) (e2 : d.snaps.head? = d'.snaps.head?) :
    staleLog d = staleLog d' := by
  unfold staleLog; rw [e1, e2]

theorem logOf_congr {d d' : Durable} (e1 : d.log = d'.log) (e2 : d.snaps.head? = d'.snaps.head?) :
    logOf d = logOf d' := by
  unfold logOf; rw [staleLog_congr e1 e2, snapOf_congr e2, e1]

theorem logOf_stale (d : Durable) (h : staleLog d = true) : logOf d = NLog.reset (snapOf d).index := by
  unfold logOf
  rw [if_pos h]

theorem logOf_ind {P : NLog → Prop} (d : Durable) (reset : staleLog d = true → P (NLog.reset (snapOf d).index))
    (keep : (snapOf d).index ≤ d.log.last → P d.log) : P (logOf d) := by
  rcases logOf_cases d with ⟨h, e⟩ | ⟨h, e⟩ <;> rw [e]
  · exact reset h
  · exact keep h

theorem logOf_not_stale (d : Durable) (h : staleLog d = false) : logOf d = d.log := by
  unfold logOf
  rw [h]; rfl

theorem logOf_short (d : Durable) (h : d.log.last < (snapOf d).index) : logOf d = NLog.reset (snapOf d).index := by
  unfold logOf; rw [if_pos (staleLog_of_short d h)]

/-- **the restarted log is contiguous with the snapshot** — for EVERY disk content `d`: the last log index is
at or above the snapshot index and the log's own last index is too; a log that ended below the snapshot
was reset to it. -/
theorem restart_log_contiguous_with_snapshot (d : Durable) (r : Nat) (sor : Bool) :
    (restartNode d r sor).lastLogIndex ≥ (restartNode d r sor).snapIndex ∧
    (restartNode d r sor).log.last ≥ (restartNode d r sor).snapIndex ∧
    (d.log.last < (snapOf d).index → (restartNode d r sor).log = NLog.reset (snapOf d).index) := by
  obtain ⟨e1, _, e3, e4, _⟩ := restartNode_fields d r sor
  rw [e1, e3, e4]
  rcases logOf_cases d with ⟨h, e⟩ | ⟨h, e⟩
  · rw [e]
    refine ⟨?_, ?_, fun _ => ?_⟩
    · split <;> simp [NLog.reset, NLog.last]
    · simp [NLog.reset, NLog.last]
    · simp [NLog.reset, NLog.last]
  · rw [e]
    refine ⟨?_, h, fun h' => by omega⟩
    split
    · exact h
    · exact Nat.le_refl _

/-- with `log.prev ≤ snaps.index` on disk: the restarted log starts at or below the snapshot, and
`lastLogIndex` is the log's last index — every index is in the log or covered by the snapshot. -/
theorem restart_log_prev_le_snapshot (d : Durable) (r : Nat) (sor : Bool) (hwf : DurWF d) :
    (restartNode d r sor).log.prev ≤ (restartNode d r sor).snapIndex ∧
    (restartNode d r sor).lastLogIndex = (restartNode d r sor).log.last := by
  obtain ⟨e1, _, e3, e4, _⟩ := restartNode_fields d r sor
  rw [e1, e3, e4]
  unfold DurWF at hwf
  rcases logOf_cases d with ⟨h, e⟩ | ⟨h, e⟩
  · rw [e]; simp [NLog.reset, NLog.last, NLog.count]
  · rw [e]
    refine ⟨hwf, ?_⟩
    show (if d.log.entries.length > 0 then d.log.prev + d.log.entries.length else (snapOf d).index) =
      d.log.prev + d.log.entries.length
    have h' : (snapOf d).index ≤ d.log.prev + d.log.entries.length := h
    split <;> omega

/-- the durable `(term, vote)` is what the restarted node holds (C05) -/
theorem restart_term_vote (d : Durable) (r : Nat) (sor : Bool) (n : Node) (h : restart d r sor = some n) :
    n.term = d.term ∧ n.votedFor = d.vote ∧ n.durTerm = n.term ∧ n.durVote = n.votedFor :=
  let ⟨a, b, c⟩ := C05.restart_reads_durable d r sor n h
  ⟨a, b, c.1, c.2⟩

theorem restart_some (d : Durable) (r : Nat) (sor : Bool) (n : Node) (h : restart d r sor = some n) :
    d.cid ≠ 0 ∧ d.nid ≠ 0 ∧ restartFails d = false ∧
    n = (if (restartNode d r sor).snapIndex > 0
         then (restartNode d r sor).fsmRestore.withCommitIndex (restartNode d r sor).snapIndex
         else restartNode d r sor) :=
  Node.restart_serve h

/-- **the restarted FSM is the newest snapshot's content** (and the commit index its index); without a
snapshot the FSM is empty and the commit index 0. The log, last-log and snapshot coordinates are those of
`restartNode`. -/
theorem restart_fsm (d : Durable) (r : Nat) (sor : Bool) (n : Node) (h : restart d r sor = some n) :
    (if (snapOf d).index > 0 then
      n.fsm = { index := (snapOf d).index, term := (snapOf d).term, applied := (snapOf d).data,
                config := (snapOf d).config } ∧ n.commitIndex = (snapOf d).index
     else n.fsm = {} ∧ n.commitIndex = 0) ∧
    n.panicked = none ∧ n.snapIndex = (snapOf d).index ∧ n.log = (restartNode d r sor).log ∧
    n.lastLogIndex = (restartNode d r sor).lastLogIndex ∧ n.configs = (restartNode d r sor).configs ∧
    n.snapsDisk = d.snaps := by
  obtain ⟨_, _, _, hn⟩ := restart_some d r sor n h
  obtain ⟨e1, _, _, _, e5, _, _, e8, e9, e10, _⟩ := restartNode_fields d r sor
  rw [e1] at hn
  by_cases hpos : (snapOf d).index > 0
  · rw [if_pos hpos] at hn
    rw [if_pos hpos]
    -- the newest file is the head of the listing: `snaps.open()` finds it
    have hhead : d.snaps.find? (·.index == (snapOf d).index) = some (snapOf d) := by
      unfold snapOf at hpos ⊢
      cases hs : d.snaps with
      | nil => rw [hs] at hpos; simp at hpos
      | cons f fs => simp
    obtain ⟨a, b⟩ := fsmRestore_fsm (restartNode d r sor) (snapOf d) (by rw [e1]; omega) (by rw [e1, e5]; exact hhead)
    obtain ⟨o1, o2, _, o4, _, o6, o7, _⟩ := fsmRestore_other (restartNode d r sor)
    -- the restored node as a variable: `withCommitIndex` changes the commit index only
    generalize (restartNode d r sor).fsmRestore = y at *
    subst hn
    exact ⟨⟨a, rfl⟩, b.trans e10, o4.trans e1, o1, o2, o7, o6.trans e5⟩
  · rw [if_neg hpos] at hn
    rw [if_neg hpos]
    subst hn
    exact ⟨⟨e9, e8⟩, e10, e1, rfl, rfl, rfl, e5⟩

/-- what a crash leaves of the log is the entries up to `flushed` -/
theorem durable_log (s : Node) :
    s.durable.log.entries = s.log.entries.take (s.log.flushed - s.log.prev) ∧
    s.durable.log.prev = s.log.prev ∧ s.durable.log.segs = s.log.segs ∧ s.durable.snaps = s.snapsDisk ∧
    s.durable.term = s.durTerm ∧ s.durable.vote = s.durVote := ⟨rfl, rfl, rfl, rfl, rfl, rfl⟩

/-- **flushed entries survive crash + restart**: unless the log on disk is stale with respect to the newest
snapshot (it ends below it, or holds another entry at the snapshot index: then it is reset — what it held is
covered or superseded by the snapshot), the restarted log has the same first
index and exactly the entries up to `flushed`; every index in `(prev, flushed]` reads the same entry. -/
theorem flushed_entries_survive (s : Node) (r : Nat) (sor : Bool)
    (h : staleLog s.durable = false) :
    (restartNode s.durable r sor).log.prev = s.log.prev ∧
    (restartNode s.durable r sor).log.entries = s.log.entries.take (s.log.flushed - s.log.prev) ∧
    ∀ j, j ≤ s.log.flushed → (restartNode s.durable r sor).log.get? j = s.log.get? j := by
  obtain ⟨_, _, e3, _⟩ := restartNode_fields s.durable r sor
  rw [e3, logOf_not_stale s.durable h]
  refine ⟨rfl, rfl, fun j hj => ?_⟩
  unfold NLog.get?
  show (if s.log.prev < j then (s.log.entries.take (s.log.flushed - s.log.prev))[j - s.log.prev - 1]? else none) = _
  split
  · rw [List.getElem?_take_of_lt (by omega)]
  · rfl

/-- `scanConfigs` on the list of entries it visits (newest first). -/
def scanList : List Entry → Option Config → Option Config × Option Config × Bool
  | [], latest => (latest, none, false)
  | e :: es, latest =>
    match e.config? with
    | some c =>
      (match latest with
       | none => scanList es (some c)
       | some l => (some l, some c, false))
    | none => if e.typ = etConfig then (latest, none, true) else scanList es latest

/-- the entries with index in `(sn, i]`, newest first -/
def window (log : NLog) (sn i : Nat) : List Entry :=
  ((log.entries.take (i - log.prev)).drop (sn - log.prev)).reverse

theorem window_empty (log : NLog) (sn i : Nat) (h : i ≤ sn) : window log sn i = [] := by
  unfold window
  rw [List.reverse_eq_nil_iff, List.drop_eq_nil_iff, List.length_take]
  omega

theorem window_succ (log : NLog) (sn i : Nat) (e : Entry) (h1 : log.prev ≤ sn) (h2 : sn < i)
    (he : log.get? i = some e) : window log sn i = e :: window log sn (i - 1) := by
  unfold NLog.get? at he
  rw [if_pos (by omega)] at he
  unfold window
  have hk : i - log.prev = (i - 1 - log.prev) + 1 := by omega
  have hidx : i - log.prev - 1 = i - 1 - log.prev := by omega
  rw [hidx] at he
  have hlen : i - 1 - log.prev < log.entries.length := by
    have := List.getElem?_eq_some_iff.mp he
    exact this.1
  rw [hk, List.take_add_one, he]
  simp only [Option.toList_some]
  rw [List.drop_append_of_le_length (by rw [List.length_take]; omega), List.reverse_append]
  rfl

/-- **`scanConfigs` is `scanList` on the entries above the snapshot, newest first** — whenever the log
starts at or below the snapshot index, `i` is within the log and the fuel suffices (`openStorage` passes
`lastIndex + 1`). -/
theorem scanConfigs_eq_scanList (log : NLog) (sn : Nat) (h1 : log.prev ≤ sn) :
    ∀ (fuel i : Nat) (latest : Option Config), i ≤ log.last → i - sn < fuel →
      scanConfigs log sn fuel i latest = scanList (window log sn i) latest := by
  intro fuel
  induction fuel with
  | zero => intro i latest _ hf; omega
  | succ f ih =>
    intro i latest hi hf
    unfold scanConfigs
    by_cases hle : i ≤ sn
    · rw [if_pos hle, window_empty log sn i hle]; rfl
    · rw [if_neg hle]
      have hsome : ∃ e, log.get? i = some e := by
        unfold NLog.get? NLog.last at *
        rw [if_pos (by omega)]
        exact ⟨_, List.getElem?_eq_getElem (by omega)⟩
      obtain ⟨e, he⟩ := hsome
      rw [he, window_succ log sn i e h1 (by omega) he]
      dsimp only
      have ih' := fun l => ih (i - 1) l (by omega) (by omega)
      unfold scanList
      cases hc : e.config? with
      | some c =>
        dsimp only
        cases latest with
        | none => dsimp only; exact ih' _
        | some l => rfl
      | none =>
        dsimp only
        split
        · rfl
        · exact ih' _

def NoDecodeErr (es : List Entry) : Prop := ∀ e ∈ es, e.typ = etConfig → e.config?.isSome

/-- **`scanList` returns the newest two configuration entries (newest first)**: with `cs` the
configurations among the visited entries, newest first, the scan yields `(cs[0]?, cs[1]?)` — and, when a
latest one was already found, `(latest, cs[0]?)`. It never fails without a decode error. -/
theorem scanList_spec (es : List Entry) (hok : NoDecodeErr es) (latest : Option Config) :
    scanList es latest =
      match latest with
      | none => ((es.filterMap Entry.config?)[0]?, (es.filterMap Entry.config?)[1]?, false)
      | some l => (some l, (es.filterMap Entry.config?)[0]?, false) := by
  induction es generalizing latest with
  | nil => cases latest <;> rfl
  | cons e es ih =>
    have hok' : NoDecodeErr es := fun x hx => hok x (List.mem_cons_of_mem _ hx)
    unfold scanList
    cases hc : e.config? with
    | some c =>
      dsimp only
      rw [List.filterMap_cons_some hc]
      cases latest with
      | none => dsimp only; rw [ih hok']; rfl
      | some l => rfl
    | none =>
      dsimp only
      rw [List.filterMap_cons_none hc]
      have : e.typ ≠ etConfig := by
        intro ht
        have := hok e (List.mem_cons_self ..) ht
        rw [hc] at this; cases this
      rw [if_neg this]
      exact ih hok' latest

example : scanList [{ index := 5, typ := etNop }, { index := 4, typ := etConfig, cfg := some { nodes := [{ id := 1 }] } },
      { index := 3, typ := etConfig, cfg := some {} }, { index := 2, typ := etConfig, cfg := some {} }] none
    = (some { nodes := [{ id := 1 }], index := 4 }, some { index := 3 }, false) := by decide

/-- the index `openStorage` starts scanning from -/
def lastIdxOf (d : Durable) : Nat := if (logOf d).count > 0 then (logOf d).last else (snapOf d).index

theorem restartFails_eq (d : Durable) :
    restartFails d = (scanConfigs (logOf d) (snapOf d).index (lastIdxOf d + 1) (lastIdxOf d) none).2.2 := rfl

theorem restartNode_configs (d : Durable) (r : Nat) (sor : Bool) :
    (restartNode d r sor).configs =
      { committed := (match (scanConfigs (logOf d) (snapOf d).index (lastIdxOf d + 1) (lastIdxOf d) none).1 with
          | none => (snapOf d).config
          | some _ => ((scanConfigs (logOf d) (snapOf d).index (lastIdxOf d + 1) (lastIdxOf d) none).2.1).getD (snapOf d).config),
        latest := ((scanConfigs (logOf d) (snapOf d).index (lastIdxOf d + 1) (lastIdxOf d) none).1).getD (snapOf d).config } := rfl

/-- scanning stops earlier with a newer snapshot: it cannot fail where the scan down to an older one did not -/
theorem scanConfigs_mono (log : NLog) (sn sn' : Nat) (hle : sn ≤ sn') :
    ∀ (fuel i : Nat) (latest : Option Config), (scanConfigs log sn fuel i latest).2.2 = false →
      (scanConfigs log sn' fuel i latest).2.2 = false := by
  intro fuel
  induction fuel with
  | zero => intro i latest _; rfl
  | succ f ih =>
    intro i latest h
    unfold scanConfigs at h ⊢
    by_cases c1 : i ≤ sn'
    · rw [if_pos c1]
    · rw [if_neg c1]
      rw [if_neg (by omega)] at h
      cases hg : log.get? i with
      | none => rw [hg] at h; cases h
      | some e =>
        rw [hg] at h
        dsimp only at h ⊢
        cases hc : e.config? with
        | some c =>
          rw [hc] at h
          dsimp only at h ⊢
          cases latest with
          | none => exact ih _ _ h
          | some l => rfl
        | none =>
          rw [hc] at h
          dsimp only at h ⊢
          split
          · rename_i ht; rw [if_pos ht] at h; cases h
          · rename_i ht; rw [if_neg ht] at h; exact ih _ _ h

/-- a scan that starts at the snapshot index has nothing to look at -/
theorem restartFails_of_lastIdx (d : Durable) (h : lastIdxOf d = (snapOf d).index) : restartFails d = false := by
  rw [restartFails_eq, h]
  unfold scanConfigs
  rw [if_pos (Nat.le_refl _)]

/-- a restart cannot fail on an empty log -/
theorem restartFails_empty_log (d : Durable) (h : d.log.entries = []) : restartFails d = false := by
  have hc : (logOf d).count = 0 := by
    rcases logOf_cases d with ⟨_, e⟩ | ⟨_, e⟩ <;> rw [e]
    · rfl
    · unfold NLog.count; rw [h]; rfl
  exact restartFails_of_lastIdx d (by unfold lastIdxOf; rw [hc]; rfl)

/-- `openStorage` only looks at the log and the snapshot directory -/
theorem restartFails_congr (d d' : Durable) (h1 : d'.log = d.log) (h2 : d'.snaps = d.snaps) :
    restartFails d' = restartFails d := by
  have e1 : snapOf d' = snapOf d := snapOf_congr (by rw [h2])
  have e2 : logOf d' = logOf d := logOf_congr h1 (by rw [h2])
  have e3 : lastIdxOf d' = lastIdxOf d := by unfold lastIdxOf; rw [e1, e2]
  rw [restartFails_eq, restartFails_eq, e1, e2, e3]

/-- **publishing a newer snapshot cannot make a restart fail** (same log, not stale with respect to the old
snapshot, newest snapshot at or above the old one). -/
theorem restartFails_newer_snapshot (d d' : Durable) (hlog : d'.log = d.log) (hst : staleLog d = false)
    (hidx : (snapOf d).index ≤ (snapOf d').index) (h : restartFails d = false) : restartFails d' = false := by
  rcases logOf_cases d' with ⟨hlt, e'⟩ | ⟨hge, e'⟩
  · -- the log ends below the new snapshot: reset, nothing to scan
    exact restartFails_of_lastIdx d' (by unfold lastIdxOf; rw [e']; rfl)
  · rw [hlog] at hge e'
    have e : logOf d = d.log := logOf_not_stale d hst
    by_cases hc : d.log.count > 0
    · have hl : lastIdxOf d = d.log.last := by unfold lastIdxOf; rw [e, if_pos hc]
      have hl' : lastIdxOf d' = d.log.last := by unfold lastIdxOf; rw [e', if_pos hc]
      rw [restartFails_eq] at h ⊢
      rw [hl, e] at h
      rw [hl', e']
      exact scanConfigs_mono d.log _ _ hidx _ _ _ h
    · exact restartFails_of_lastIdx d' (by unfold lastIdxOf; rw [e', if_neg hc])

/-- a restart that does not fail yields a node whose log is contiguous with its snapshot -/
theorem restart_ok_contiguous (d : Durable) (r : Nat) (sor : Bool) (hc : d.cid ≠ 0) (hn : d.nid ≠ 0)
    (hf : restartFails d = false) :
    ∃ n, restart d r sor = some n ∧ n.lastLogIndex ≥ n.snapIndex ∧ n.log.last ≥ n.snapIndex := by
  unfold Node.restart
  rw [if_neg (by intro h; rcases h with h | h <;> contradiction), hf, if_neg (by decide)]
  obtain ⟨k1, k2, _⟩ := restart_log_contiguous_with_snapshot d r sor
  refine ⟨_, rfl, ?_⟩
  split
  · obtain ⟨o1, o2, _, o4, _⟩ := fsmRestore_other (restartNode d r sor)
    -- the restored node as a variable: `withCommitIndex` changes the commit index only
    generalize (restartNode d r sor).fsmRestore = y at *
    show y.lastLogIndex ≥ y.snapIndex ∧ y.log.last ≥ y.snapIndex
    rw [o1, o2, o4]; exact ⟨k1, k2⟩
  · exact ⟨k1, k2⟩


/-- the configuration entries above the snapshot in the log a restart works with, newest first -/
def configsAbove (d : Durable) : List Config :=
  (window (logOf d) (snapOf d).index (logOf d).last).filterMap Entry.config?

/-- **the configurations after a restart**: `latest` is the newest configuration entry above the snapshot,
`committed` the one before it; each falls back to the snapshot's label when there is no such entry; and
`openStorage` does not fail. (`DurWF`: the log starts at or below the snapshot; no undecodable
configuration entry above the snapshot.) -/
theorem restart_configs (d : Durable) (r : Nat) (sor : Bool) (hwf : DurWF d)
    (hok : NoDecodeErr (window (logOf d) (snapOf d).index (logOf d).last)) :
    restartFails d = false ∧
    (restartNode d r sor).configs.latest = ((configsAbove d)[0]?).getD (snapOf d).config ∧
    (restartNode d r sor).configs.committed = ((configsAbove d)[1]?).getD (snapOf d).config := by
  have hprev : (logOf d).prev ≤ (snapOf d).index ∧ (snapOf d).index ≤ (logOf d).last := by
    rcases logOf_cases d with ⟨_, e⟩ | ⟨h, e⟩ <;> rw [e]
    · exact ⟨Nat.le_refl _, by simp [NLog.reset, NLog.last]⟩
    · exact ⟨hwf, h⟩
  have hlast : lastIdxOf d ≤ (logOf d).last := by
    unfold lastIdxOf; split
    · exact Nat.le_refl _
    · exact hprev.2
  have hwin : window (logOf d) (snapOf d).index (lastIdxOf d) = window (logOf d) (snapOf d).index (logOf d).last := by
    unfold lastIdxOf; split
    · rfl
    · rename_i hc
      have : (logOf d).last ≤ (snapOf d).index := by
        unfold NLog.count at hc; unfold NLog.last; omega
      rw [window_empty _ _ _ (Nat.le_refl _), window_empty _ _ _ this]
  have hscan := scanConfigs_eq_scanList (logOf d) (snapOf d).index hprev.1 (lastIdxOf d + 1) (lastIdxOf d) none
    hlast (by omega)
  rw [hwin, scanList_spec _ hok] at hscan
  rw [restartFails_eq, restartNode_configs, hscan]
  unfold configsAbove
  -- from here on only the list of the configurations above the snapshot is read
  generalize List.filterMap Entry.config? (window (logOf d) (snapOf d).index (logOf d).last) = cs
  refine ⟨rfl, rfl, ?_⟩
  cases cs <;> rfl

/-- no configuration entry above the snapshot: both configurations are the label's -/
theorem restart_configs_none (d : Durable) (r : Nat) (sor : Bool) (hwf : DurWF d)
    (hnone : ∀ e ∈ window (logOf d) (snapOf d).index (logOf d).last, e.typ ≠ etConfig) :
    restartFails d = false ∧ (restartNode d r sor).configs.latest = (snapOf d).config ∧
    (restartNode d r sor).configs.committed = (snapOf d).config := by
  have hok : NoDecodeErr (window (logOf d) (snapOf d).index (logOf d).last) :=
    fun e he ht => absurd ht (hnone e he)
  have hcs : configsAbove d = [] := by
    unfold configsAbove
    rw [List.filterMap_eq_nil_iff]
    exact fun e he => Entry.config?_none_of_typ (hnone e he)
  obtain ⟨a, b, c⟩ := restart_configs d r sor hwf hok
  rw [hcs] at b c
  exact ⟨a, b, c⟩

/-- exactly one: it is `latest`, and `committed` is the label's -/
theorem restart_configs_one (d : Durable) (r : Nat) (sor : Bool) (hwf : DurWF d)
    (hok : NoDecodeErr (window (logOf d) (snapOf d).index (logOf d).last)) (c : Config)
    (hone : configsAbove d = [c]) :
    (restartNode d r sor).configs.latest = c ∧ (restartNode d r sor).configs.committed = (snapOf d).config := by
  obtain ⟨_, b, e⟩ := restart_configs d r sor hwf hok
  rw [hone] at b e
  exact ⟨b, e⟩

/-- Non-vacuity: snapshot at 2 labelled with node 9; entries 3 (nop) and 4 (config with node 1) above it. -/
def exDisk : Durable :=
  { cid := 1, nid := 1,
    log := { prev := 2,
             entries := [{ index := 3, typ := etNop },
                         { index := 4, typ := etConfig, cfg := some { nodes := [{ id := 1 }] } }],
             flushed := 4, segs := [2] },
    snaps := [{ index := 2, term := 1, config := { nodes := [{ id := 9 }], index := 1 } }] }

example :
    configsAbove exDisk = [{ nodes := [{ id := 1 }], index := 4 }] ∧
    (restartNode exDisk 1 true).configs.latest = { nodes := [{ id := 1 }], index := 4 } ∧
    (restartNode exDisk 1 true).configs.committed = { nodes := [{ id := 9 }], index := 1 } ∧
    ((restart exDisk 1 true).map (·.lastLogIndex)) = some 4 := by decide

/-- Non-vacuity of the F7 window: snapshot 7 published, log still ending at 2 — the restart resets the log. -/
def exDiskF7 : Durable :=
  { cid := 1, nid := 1, log := { prev := 0, entries := [{ index := 1 }, { index := 2 }], flushed := 2 },
    snaps := [{ index := 7, term := 3 }] }

example : ((restart exDiskF7 1 true).map (fun n => (n.lastLogIndex, n.snapIndex, n.log.prev, n.commitIndex)))
    = some (7, 7, 7, 7) := by decide

/-- the crash point of the common prefix of `onInstallSnap`: `value.set` iff the request's term is newer
(and not already what is on disk) -/
def preTrace (s : Node) (q : InstallReq) : List (String × Durable) :=
  if q.term > s.term ∧ ¬ (q.term = s.durTerm ∧ 0 = s.durVote)
  then [("value.set", { s.durable with term := q.term, vote := 0 })] else []

theorem installPre_trace (s : Node) (q : InstallReq) : (installPre s q).trace = s.trace ++ preTrace s q := by
  unfold installPre preTrace
  -- neither `setRole` nor `setLeader` writes to the disk
  have hr : ∀ (x : Node) ro, (x.setRole ro).trace = x.trace := fun _ _ => rfl
  have hl : ∀ (x : Node) i, (x.setLeader i).trace = x.trace := fun _ _ => rfl
  rw [hl, hr]
  by_cases h : q.term > s.term
  · rw [if_pos h, hr]; exact setTerm_trace s q.term
  · rw [if_neg h, if_neg (fun x => h x.1), List.append_nil]

theorem preTrace_forall {D : String × Durable → Prop} (s : Node) (q : InstallReq)
    (h : s.term < q.term → D ("value.set", { s.durable with term := q.term, vote := 0 })) : ∀ p ∈ preTrace s q, D p := by
  intro p hp
  unfold preTrace at hp
  split at hp
  · rename_i hc
    exact List.mem_singleton.mp hp ▸ h hc.1
  · cases hp

/-- with memory = disk (C05 `VoteWF`) the point is there exactly when the term changes -/
theorem preTrace_names (s : Node) (q : InstallReq) (hwf : C05.VoteWF s) :
    (preTrace s q).map (·.1) = if q.term > s.term then ["value.set"] else [] := by
  unfold preTrace
  by_cases h : q.term > s.term
  · rw [if_pos h, if_pos ⟨h, by intro x; have := hwf.1; omega⟩]; rfl
  · rw [if_neg h, if_neg (by intro x; exact h x.1)]; rfl

theorem publishSnapshot_trace (p : Node) (f : SnapFile) :
    (p.publishSnapshot f).trace = p.trace ++
      [("snap.publish", { p.durable with snaps := insertSnap f p.snapsDisk }),
       ("snap.retain", { p.durable with snaps := (insertSnap f p.snapsDisk).take p.retain })] :=
  Node.publishSnapshot_trace p f

/-- **install, discard branch**: the crash points are `value.set`? , `snap.publish`, `snap.retain`, `clearLog`,
with exactly these disk contents (`p` = the state after the term was adopted). -/
theorem install_discard_script (s : Node) (q : InstallReq) (hterm : ¬ q.term < s.term)
    (hahead : s.commitIndex < q.lastIndex) (hk : C09.keepsLog s q = false) :
    (s.onInstallSnap q).trace = s.trace ++ preTrace s q ++
      [("snap.publish", { (installPre s q).durable with snaps := insertSnap (C09.fileOf q) s.snapsDisk }),
       ("snap.retain", { (installPre s q).durable with snaps := (insertSnap (C09.fileOf q) s.snapsDisk).take s.retain }),
       ("clearLog", { (installPre s q).durable with
                        snaps := (insertSnap (C09.fileOf q) s.snapsDisk).take s.retain,
                        log := NLog.reset q.lastIndex })] := by
  rw [C09.install_discard_shape s q hterm hahead hk, (C09.discardTail_fields _ _).2.2.2.2.2.2.2.2.2.2.2,
    publishSnapshot_trace, installPre_trace]
  have sd := sameData_installPre s q
  rw [clearLog_durable, publishSnapshot_durable, sd.snapsDisk, sd.retain, List.append_assoc (s.trace ++ preTrace s q)]
  rfl

theorem install_discard_names (s : Node) (q : InstallReq) (hterm : ¬ q.term < s.term)
    (hahead : s.commitIndex < q.lastIndex) (hk : C09.keepsLog s q = false) :
    (s.onInstallSnap q).trace.map (·.1) =
      s.trace.map (·.1) ++ (preTrace s q).map (·.1) ++ ["snap.publish", "snap.retain", "clearLog"] := by
  rw [install_discard_script s q hterm hahead hk]
  simp

/-- **install, everything but the discard branch**: a stale-term request, a request not ahead of the commit
index, and a request whose last entry the log already holds (keep branch) touch the disk at most by
`value.set` (adopting a newer term); with a term not above the node's there is no storage point at all. -/
theorem install_ignored_script (s : Node) (q : InstallReq)
    (h : q.term < s.term ∨ q.lastIndex ≤ s.commitIndex ∨ C09.keepsLog s q = true) :
    (s.onInstallSnap q).trace = s.trace ++ (if q.term < s.term then [] else preTrace s q) ∧
    (q.term ≤ s.term → (s.onInstallSnap q).trace = s.trace) := by
  by_cases h1 : q.term < s.term
  · rw [onInstallSnap_eq, if_pos h1, if_pos h1]
    exact ⟨by simp [Node.ret], fun _ => rfl⟩
  · have h2 : q.lastIndex ≤ s.commitIndex ∨ C09.keepsLog s q = true := by
      rcases h with h | h
      · contradiction
      · exact h
    rw [C09.install_nothing_shape s q h1 h2, if_neg h1]
    exact ⟨installPre_trace s q, fun hle => C09.installPre_trace_same_term s q hle⟩

/-- **install, keep branch**: `value.set`? only — no snapshot is stored, the log is not touched. -/
theorem install_keep_script (s : Node) (q : InstallReq) (hterm : ¬ q.term < s.term)
    (hk : C09.keepsLog s q = true) :
    (s.onInstallSnap q).trace = s.trace ++ preTrace s q := by
  have h := (install_ignored_script s q (Or.inr (Or.inr hk))).1
  rw [if_neg hterm] at h
  exact h

/-- **snapRun**: no storage operation when idle or refusing, else `snap.publish`, `snap.retain`. -/
theorem snapRun_script (s : Node) :
    s.snapRun.trace.map (·.1) = s.trace.map (·.1) ++
      (match s.snapPending with
       | none => []
       | some rq => if s.fsm.index = s.snapIndex ∨ s.fsm.index < rq.minIndex then []
                    else ["snap.publish", "snap.retain"]) := by
  cases hp : s.snapPending with
  | none => rw [C09.snapRun_idle s hp]; simp
  | some rq =>
    dsimp only
    by_cases hr : s.fsm.index = s.snapIndex ∨ s.fsm.index < rq.minIndex
    · rw [if_pos hr, ((C09.snapRun_refusal s rq hp).2 hr).2.2]; simp
    · rw [if_neg hr, C09.snapRun_taken s rq hp (fun x => hr (Or.inl x)) (Nat.le_of_not_lt fun x => hr (Or.inr x))]
      unfold Node.withSnapResult
      rw [publishSnapshot_trace, List.map_append]
      rfl

theorem reply_trace (s : Node) (t : Nat) (r : String) : (s.reply t r).trace = s.trace := Node.reply_trace s t r

/-- `storage.bootstrap` and what follows it in `Raft.bootstrap`: the entry is appended and flushed (`commitLog`), then
term 1 is stored (`value.set`) unless the node is already there; the rest is in memory. -/
theorem bootstrap_storage_names (s : Node) (e : Entry) (i t task : Nat) (c : Config) :
    (((((((s.appendEntry e).commitLog 1).setTerm 1).withLast i t).changeConfigR c).reply task "ok").setRole
        Role.candidate).trace.map (·.1) =
      s.trace.map (·.1) ++ ["commitLog"] ++
        (if s.term < 1 ∧ ¬ (1 = s.durTerm ∧ 0 = s.durVote) then ["value.set"] else []) := by
  -- `setRole` and `withLast` do not write to the disk; `commitLog` leaves the term and what is stored of it
  have hr : ∀ (x : Node) ro, (x.setRole ro).trace = x.trace := fun _ _ => rfl
  have hw : ∀ (x : Node) i t, (x.withLast i t).trace = x.trace := fun _ _ _ => rfl
  have hc : ∀ (x : Node) n, (x.commitLog n).term = x.term ∧ (x.commitLog n).durTerm = x.durTerm ∧
      (x.commitLog n).durVote = x.durVote := fun _ _ => ⟨rfl, rfl, rfl⟩
  rw [hr, reply_trace, changeConfigR_trace, hw, setTerm_trace, commitLog_trace, appendEntry_trace, List.map_append,
    List.map_append]
  have e1 : ((s.appendEntry e).commitLog 1).term = s.term := by rw [(hc _ _).1, appendEntry_shape]
  have e2 : ((s.appendEntry e).commitLog 1).durTerm = s.durTerm := by rw [(hc _ _).2.1, appendEntry_shape]
  have e3 : ((s.appendEntry e).commitLog 1).durVote = s.durVote := by rw [(hc _ _).2.2, appendEntry_shape]
  rw [e1, e2, e3, apply_ite (List.map _)]
  rfl

/-- **bootstrap**: a rejected request touches nothing; an accepted one goes `commitLog` (the configuration
entry is flushed) then `value.set` (term 1, when it is new). -/
theorem bootstrap_script (s : Node) (t : Nat) (c : Config) :
    (¬ BootstrapAccepts s c → (s.bootstrap t c).trace = s.trace) ∧
    (BootstrapAccepts s c → (s.bootstrap t c).trace.map (·.1) = s.trace.map (·.1) ++ ["commitLog"] ++
      (if s.term < 1 ∧ ¬ (1 = s.durTerm ∧ 0 = s.durVote) then ["value.set"] else [])) :=
  Node.bootstrap_cases s t c
    (P := fun x => (¬ BootstrapAccepts s c → x.trace = s.trace) ∧
      (BootstrapAccepts s c → x.trace.map (·.1) = s.trace.map (·.1) ++ ["commitLog"] ++
        (if s.term < 1 ∧ ¬ (1 = s.durTerm ∧ 0 = s.durVote) then ["value.set"] else [])))
    (fun hn r => ⟨fun _ => Node.reply_trace s t r, fun h => absurd h hn⟩)
    (fun ha => ⟨fun hn => absurd ha hn, fun _ => bootstrap_storage_names s _ _ _ t _⟩)

/-- the crash-point trace only grows by appending -/
def Extends (t : List (String × Durable)) (s : Node) : Prop := ∃ rest, s.trace = t ++ rest

theorem extends_congr {t : List (String × Durable)} {s s' : Node} (h : Extends t s) (e : s'.trace = s.trace) :
    Extends t s' := by
  obtain ⟨r, hr⟩ := h; exact ⟨r, by rw [e, hr]⟩

theorem extends_closed (t : List (String × Durable)) : Closed (Extends t) where
  panic := fun s site h => extends_congr h (panic_trace s site)
  reply := fun s a b h => extends_congr h (reply_trace s a b)
  point := fun s n h => by
    obtain ⟨r, hr⟩ := h
    exact ⟨r ++ [(n, s.durable)], by rw [point_trace, hr, List.append_assoc]⟩
  ldr := fun s l h => extends_congr h rfl
  append := fun s e r h => extends_congr h rfl
  commitN := fun s n h => extends_congr h rfl
  fsm := fun s f h => extends_congr h rfl
  changeConfigR := fun s c h => extends_congr h (changeConfigR_trace s c)
  setCommitIndexR := fun s i h _ => extends_congr h (setCommitIndexR_trace s i)
  popOrder := fun s h => extends_congr h rfl

/-- **leader.setCommitIndex**: the first storage operation is `commitLog` (the flush that makes the newly
committed entries durable) — whatever follows (configuration actions) comes after it. -/
theorem setCommitIndexL_first_point (fuel : Nat) (s : Node) (i : Nat) (hi : i > s.commitIndex) :
    ∃ rest, (setCommitIndexL (fuel + 1) s i).trace =
      s.trace ++ ("commitLog", (s.commitLog i).durable) :: rest := by
  have hc := extends_closed (s.trace ++ [("commitLog", (s.commitLog i).durable)])
  obtain ⟨rest, hr⟩ := hc.setCommitIndexL_tail fuel s i
    (hc.setCommitIndexR _ i ⟨[], by rw [List.append_nil]; rfl⟩ hi)
  exact ⟨rest, by rw [hr]; simp⟩

/-- the `value.set` point of the common prefix of `onInstallSnap`: log and snapshots on disk are untouched,
so the node restarts exactly when it could before -/
theorem preTrace_restart_ok (s : Node) (q : InstallReq) (sor : Bool)
    (hcid : s.cid ≠ 0) (hnid : s.nid ≠ 0) (h0 : restartFails s.durable = false) :
    ∀ pt ∈ preTrace s q,
      ∃ n, restart pt.2 s.retain sor = some n ∧ n.lastLogIndex ≥ n.snapIndex ∧ n.log.last ≥ n.snapIndex :=
  preTrace_forall s q fun _ =>
    restart_ok_contiguous _ _ _ hcid hnid ((restartFails_congr s.durable _ rfl rfl).trans h0)

/-- **a crash at any storage point of a discard-branch installation leaves a disk the node restarts from**,
with a log contiguous with the snapshot. Hypotheses: the node could restart before the request
(`restartFails s.durable = false`), identity set, `retain ≥ 1`, and no file on disk newer than the one
installed (see `install_discard_restart_ok` for the well-formed state). (`snap.publish`/`snap.retain`:
snapshot ahead of the log — the F7 window — the log is reset on open; `clearLog`: empty log at the snapshot.) -/
theorem install_discard_restart_ok' (s : Node) (q : InstallReq) (hterm : ¬ q.term < s.term)
    (hahead : s.commitIndex < q.lastIndex) (hk : C09.keepsLog s q = false) (sor : Bool)
    (hcid : s.cid ≠ 0) (hnid : s.nid ≠ 0) (hr : s.retain ≥ 1)
    (hh : ∀ g, s.snapsDisk.head? = some g → g.index ≤ q.lastIndex) (h0 : restartFails s.durable = false)
    (hst : staleLog s.durable = false) :
    ∀ pt ∈ (s.onInstallSnap q).trace, pt ∈ s.trace ∨
      ∃ n, restart pt.2 s.retain sor = some n ∧ n.lastLogIndex ≥ n.snapIndex ∧ n.log.last ≥ n.snapIndex := by
  refine Traced.append (Traced.append (fun _ => Or.inl) (installPre_trace s q) fun pt hpt =>
    Or.inr (preTrace_restart_ok s q sor hcid hnid h0 pt hpt))
    ((install_discard_script s q hterm hahead hk).trans (by rw [installPre_trace])) fun pt hpt => ?_
  have sd := sameData_installPre s q
  obtain ⟨tl, htl⟩ := insertSnap_head (C09.fileOf q) s.snapsDisk hh
  obtain ⟨k, hk'⟩ : ∃ k, s.retain = k + 1 := ⟨s.retain - 1, by omega⟩
  have hold : (snapOf s.durable).index ≤ q.lastIndex := by
    unfold snapOf
    show ((s.snapsDisk.head?).getD {}).index ≤ q.lastIndex
    cases hd : s.snapsDisk.head? with
    | none => exact Nat.zero_le _
    | some g => exact hh g hd
  have hplog : (installPre s q).durable.log = s.durable.log := by
    show (installPre s q).log.durable = s.log.durable
    rw [sd.log]
  have hpc : (installPre s q).durable.cid = s.cid := sd.cid
  have hpn : (installPre s q).durable.nid = s.nid := sd.nid
  simp only [List.mem_cons, List.not_mem_nil, or_false] at hpt
  rcases hpt with hpt | hpt | hpt
  · right; subst hpt
    refine restart_ok_contiguous _ _ _ (by rw [← hpc] at hcid; exact hcid) (by rw [← hpn] at hnid; exact hnid) ?_
    refine restartFails_newer_snapshot s.durable _ hplog hst ?_ h0
    show _ ≤ (((insertSnap (C09.fileOf q) s.snapsDisk).head?).getD {}).index
    rw [htl]; exact hold
  · right; subst hpt
    refine restart_ok_contiguous _ _ _ (by rw [← hpc] at hcid; exact hcid) (by rw [← hpn] at hnid; exact hnid) ?_
    refine restartFails_newer_snapshot s.durable _ hplog hst ?_ h0
    show _ ≤ ((((insertSnap (C09.fileOf q) s.snapsDisk).take s.retain).head?).getD {}).index
    rw [htl, hk']; exact hold
  · right; subst hpt
    refine restart_ok_contiguous _ _ _ (by rw [← hpc] at hcid; exact hcid) (by rw [← hpn] at hnid; exact hnid) ?_
    exact restartFails_empty_log _ rfl

/-- … in a well-formed state (`C09.SnapsWF`: directory sorted, `snaps.index` = newest file ≤ commit index)
the installed snapshot is always the newest, so no extra hypothesis on the directory is needed. -/
theorem install_discard_restart_ok (s : Node) (q : InstallReq) (hterm : ¬ q.term < s.term)
    (hahead : s.commitIndex < q.lastIndex) (hk : C09.keepsLog s q = false) (sor : Bool)
    (hcid : s.cid ≠ 0) (hnid : s.nid ≠ 0) (hr : s.retain ≥ 1)
    (hwf : C09.SnapsWF s) (h0 : restartFails s.durable = false) (hst : staleLog s.durable = false) :
    ∀ pt ∈ (s.onInstallSnap q).trace, pt ∈ s.trace ∨
      ∃ n, restart pt.2 s.retain sor = some n ∧ n.lastLogIndex ≥ n.snapIndex ∧ n.log.last ≥ n.snapIndex :=
  install_discard_restart_ok' s q hterm hahead hk sor hcid hnid hr (C09.snapsWF_head_le s q hwf hahead) h0 hst

/-- **… and of every other installation request** (stale term, not ahead of the commit index, keep branch):
the only possible crash point is `value.set`; the node restarts there as it could before. -/
theorem install_ignored_restart_ok (s : Node) (q : InstallReq)
    (h : q.term < s.term ∨ q.lastIndex ≤ s.commitIndex ∨ C09.keepsLog s q = true) (sor : Bool)
    (hcid : s.cid ≠ 0) (hnid : s.nid ≠ 0) (h0 : restartFails s.durable = false) :
    ∀ pt ∈ (s.onInstallSnap q).trace, pt ∈ s.trace ∨
      ∃ n, restart pt.2 s.retain sor = some n ∧ n.lastLogIndex ≥ n.snapIndex ∧ n.log.last ≥ n.snapIndex := by
  refine Traced.append (fun _ => Or.inl) (install_ignored_script s q h).1 fun pt hpt => Or.inr ?_
  split at hpt
  · cases hpt
  · exact preTrace_restart_ok s q sor hcid hnid h0 pt hpt

/-- the keep-branch instance -/
theorem install_keep_restart_ok (s : Node) (q : InstallReq) (hk : C09.keepsLog s q = true) (sor : Bool)
    (hcid : s.cid ≠ 0) (hnid : s.nid ≠ 0) (h0 : restartFails s.durable = false) :
    ∀ pt ∈ (s.onInstallSnap q).trace, pt ∈ s.trace ∨
      ∃ n, restart pt.2 s.retain sor = some n ∧ n.lastLogIndex ≥ n.snapIndex ∧ n.log.last ≥ n.snapIndex :=
  install_ignored_restart_ok s q (Or.inr (Or.inr hk)) sor hcid hnid h0

/-- The vote handler returns at once, or ends in `setVotedFor` on `s` (as a follower, if the term is new). -/
theorem onVoteRequest_cases (s : Node) (q : VoteReq) {P : Node → Prop} (h1 : ∀ r, P (s.ret r))
    (h2 : ∀ t c r, P (((if q.term > s.term then s.setRole .follower else s).setVotedFor t c).ret r)) :
    P (s.onVoteRequest q) := by
  unfold Node.onVoteRequest
  exact ite_ind (fun _ => h1 _) fun _ => ite_ind (fun _ => h1 _) fun _ =>
    ite_ind (fun _ => h2 _ _ _) fun _ => ite_ind (fun _ => h2 _ _ _) fun _ => h2 _ _ _

/-- **vote handler**: no storage operation, or exactly one `value.set` (C05 shows what it stores). -/
theorem vote_script (s : Node) (q : VoteReq) :
    (s.onVoteRequest q).trace = s.trace ∨ ∃ d, (s.onVoteRequest q).trace = s.trace ++ [("value.set", d)] := by
  refine onVoteRequest_cases s q (P := fun x => x.trace = s.trace ∨ ∃ d, x.trace = s.trace ++ [("value.set", d)])
    (fun _ => Or.inl rfl) fun t c r => ?_
  have hx : (if q.term > s.term then s.setRole Role.follower else s).trace = s.trace := by split <;> rfl
  show (Node.setVotedFor _ t c).trace = _ ∨ ∃ d, (Node.setVotedFor _ t c).trace = _
  rw [← hx]
  exact (setVotedFor_trace _ t c).imp_right fun h => ⟨_, h⟩

end C10
end Raft

#print axioms Raft.C10.restartNode_fields
#print axioms Raft.C10.logOf_cases
#print axioms Raft.C10.restart_log_contiguous_with_snapshot
#print axioms Raft.C10.restart_log_prev_le_snapshot
#print axioms Raft.C10.restart_term_vote
#print axioms Raft.C10.restart_some
#print axioms Raft.C10.restart_fsm
#print axioms Raft.C10.durable_log
#print axioms Raft.C10.flushed_entries_survive
#print axioms Raft.C10.window_empty
#print axioms Raft.C10.window_succ
#print axioms Raft.C10.scanConfigs_eq_scanList
#print axioms Raft.C10.scanList_spec
#print axioms Raft.C10.restartFails_eq
#print axioms Raft.C10.restartNode_configs
#print axioms Raft.C10.scanConfigs_mono
#print axioms Raft.C10.restartFails_empty_log
#print axioms Raft.C10.restartFails_congr
#print axioms Raft.C10.restartFails_newer_snapshot
#print axioms Raft.C10.restart_ok_contiguous
#print axioms Raft.C10.restart_configs
#print axioms Raft.C10.restart_configs_none
#print axioms Raft.C10.restart_configs_one
#print axioms Raft.C10.reply_trace
#print axioms Raft.C10.installPre_trace
#print axioms Raft.C10.preTrace_names
#print axioms Raft.C10.publishSnapshot_trace
#print axioms Raft.C10.install_discard_script
#print axioms Raft.C10.install_discard_names
#print axioms Raft.C10.install_ignored_script
#print axioms Raft.C10.install_keep_script
#print axioms Raft.C10.snapRun_script
#print axioms Raft.C10.bootstrap_script
#print axioms Raft.C10.extends_congr
#print axioms Raft.C10.extends_closed
#print axioms Raft.C10.setCommitIndexL_first_point
#print axioms Raft.C10.preTrace_restart_ok
#print axioms Raft.C10.install_discard_restart_ok'
#print axioms Raft.C10.install_discard_restart_ok
#print axioms Raft.C10.install_ignored_restart_ok
#print axioms Raft.C10.install_keep_restart_ok
#print axioms Raft.C10.vote_script
