import RaftVerif.Lemmas.SegView
/-!
C13 — the segmented log behaves as an abstract sequence.

Model: `RaftVerif/Model/SegLog.lean` (`SegLog`, `AbsLog`, `abs`).  Invariant `Inv` and the helper
lemmas are in `RaftVerif/Lemmas/SegLog.lean` / `SegDisk.lean`.
-/
namespace Raft.SL

/-- One abstract step.  Two steps are relations rather than functions because the implementation
decides: `append` may refuse with `ErrExceedsSegmentSize` (then nothing changes) and `removeLTE`
removes whole segments only, so it drops SOME number `k` of leading entries, never beyond `i`. -/
def AbsStep (a : AbsLog) : Op → AbsLog → Prop
  | .append b, a' => a' = a.snoc b ∨ a' = a
  | .commitN _, a' => a' = a
  | .commit, a' => a' = a
  | .removeLTE i, a' => ∃ k, k ≤ a.entries.length ∧ a' = a.dropFront k ∧ (k = 0 ∨ a'.prev ≤ i)
  | .removeGTE i, a' => a' = a.removeGTE i
  | .reset j, a' => a' = AbsLog.reset j
  | .closeOpen _, a' => a' = a

def AbsRun : AbsLog → List Op → AbsLog → Prop
  | a, [], a' => a' = a
  | a, op :: ops, a' => ∃ m, AbsStep a op m ∧ AbsRun m ops a'

/-- Full-strength statement of C13 on the model: for every segment size and every program
(append with any payload incl. empty and larger than a segment, commitN, commit, removeLTE,
removeGTE, reset, close+reopen), started on an empty directory:
the invariant holds, the state is an abstract run of the program, every read (`Get`, `GetN`
concatenated, bounds, `Count`, `Contains`, including `ErrNotFound` and the documented panics)
equals the abstract one, `RemoveLTE` removes whole segments only / never beyond `i` / exactly what
`CanLTE` announces, a view keeps returning the same bytes while the writer appends and commits,
and close+open gives back the same sequence. -/
def C13_statement : Prop :=
  ∀ (ss : Nat) (ops : List Op), 1024 ≤ ss → (∀ o ∈ ops, o.valid) →
    let s := (SegLog.empty ss).run ops
    Inv s ∧ AbsRun (abs (SegLog.empty ss)) ops (abs s) ∧
    (∀ i, s.get i = (abs s).get i) ∧
    (∀ i n, flatChunks (s.getN i n) = (abs s).getN i n) ∧
    s.prevIndex = (abs s).prev ∧ s.lastIndex = (abs s).lastIndex ∧ s.count = (abs s).count ∧
    (∀ i, s.contains i = (abs s).contains i) ∧
    (∀ i, (s.removeLTE i).prevIndex = s.canLTE i ∧
          (s.removeLTE i).prevIndex ∈ s.segs.map (·.prev) ∧
          ((s.removeLTE i).prevIndex = s.prevIndex ∨ (s.removeLTE i).prevIndex ≤ i)) ∧
    (∀ p l v, s.viewAt p l = .ok (some v) → ∀ more, (∀ o ∈ more, o.appendish = true) →
        (∀ j, p < j → j ≤ l → v.get (s.run more) j = (abs s).get j) ∧
        (∀ i n, p < i → 0 < n → i + (n - 1) ≤ l →
          flatChunks (v.getN (s.run more) i n) = (abs s).getN i n)) ∧
    (∀ d, Rep s d → ∀ ss',
        reopen (killImg (runSteps d (script s (.closeOpen ss')))) ss' =
          .ok (s.closeOpen ss', killImg (runSteps d (script s (.closeOpen ss')))) ∧
        abs (s.closeOpen ss') = abs s)

/-- `seglog_refines`: every operation preserves `Inv` and commutes with `abs`. -/
theorem seglog_refines {l : SegLog} (h : Inv l) (op : Op) (hv : op.valid) :
    Inv (l.run [op]) ∧ AbsStep (abs l) op (abs (l.run [op])) := by
  refine ⟨op_inv h hv, ?_⟩
  cases op with
  | append b =>
    simp only [SegLog.run, SegLog.apply, AbsStep]
    rcases append_refines h b with ⟨l', e, _, ea⟩ | ⟨e, _, _⟩
    · rw [e]; exact Or.inl ea
    · rw [e]; exact Or.inr rfl
  | commitN n => exact commitN_abs h n
  | commit => exact commit_abs h
  | removeLTE i =>
    obtain ⟨_, k, hk, ea, _, hle, _⟩ := removeLTE_refines h i
    refine ⟨k, hk, ea, ?_⟩
    rcases hle with r | r
    · exact Or.inl r
    · exact Or.inr (by simpa [SegLog.run, SegLog.apply, abs_prev] using r)
  | removeGTE i => exact (removeGTE_refines h i).2
  | reset j => exact (reset_refines h j).2
  | closeOpen ss => exact (closeOpen_refines h hv).2

/-- `append` in detail: success = snoc; the only error is `ErrExceedsSegmentSize`, returned exactly
when the last segment is empty and the entry does not fit in it. -/
theorem append_outcome {l : SegLog} (h : Inv l) (b : Bytes) :
    (∃ l', l.append b = .ok l' ∧ Inv l' ∧ abs l' = (abs l).snoc b) ∨
    (l.append b = .error .exceedsSegmentSize ∧ l.last.n = 0 ∧ l.last.available < (b.length : Int)) :=
  append_refines h b

/-- Outputs equal the abstract ones. -/
theorem outputs_refine {l : SegLog} (h : Inv l) :
    (∀ i, l.get i = (abs l).get i) ∧
    (∀ i n, flatChunks (l.getN i n) = (abs l).getN i n) ∧
    l.prevIndex = (abs l).prev ∧ l.lastIndex = (abs l).lastIndex ∧ l.count = (abs l).count ∧
    (∀ i, l.contains i = (abs l).contains i) :=
  ⟨get_refines h, getN_refines h, rfl, (abs_lastIndex h).symm, (abs_count h).symm,
    fun i => (abs_contains h i).symm⟩

/-- `ops_refine`: lift to all operation sequences. -/
theorem ops_refine {l : SegLog} (h : Inv l) (ops : List Op) (hv : ∀ o ∈ ops, o.valid) :
    Inv (l.run ops) ∧ AbsRun (abs l) ops (abs (l.run ops)) := by
  induction ops generalizing l with
  | nil => exact ⟨h, rfl⟩
  | cons op ops ih =>
    obtain ⟨h1, h2⟩ := seglog_refines h op (hv op (by simp))
    obtain ⟨r1, r2⟩ := ih h1 (fun o ho => hv o (List.mem_cons_of_mem _ ho))
    rw [run_cons]
    exact ⟨r1, _, h2, r2⟩

/-- `removeLTE_whole_segments`: the new prevIndex is what `CanLTE(i)` announced, it is the
prevIndex of one of the old segments (whole segments only), and it is `≤ i` unless nothing was
removed; abstractly a number of leading entries is dropped. -/
theorem removeLTE_whole_segments {l : SegLog} (h : Inv l) (i : Nat) :
    (l.removeLTE i).prevIndex = l.canLTE i ∧
    (l.removeLTE i).prevIndex ∈ l.segs.map (·.prev) ∧
    ((l.removeLTE i).prevIndex = l.prevIndex ∨ (l.removeLTE i).prevIndex ≤ i) ∧
    ∃ k, abs (l.removeLTE i) = (abs l).dropFront k := by
  obtain ⟨_, k, _, ea, e1, e2, e3⟩ := removeLTE_refines h i
  refine ⟨e1, e3, ?_, k, ea⟩
  rcases e2 with r | r
  · left
    have := congrArg AbsLog.prev ea
    simpa [abs_prev, AbsLog.dropFront, r] using this
  · exact Or.inr r

/-- `view_stable`: a view `(p,l)` taken at state `s` returns, after any number of appends and
commits by the writer, the bytes the log had at `j` when the view was taken (`p < j ≤ l`). -/
theorem view_stable {s : SegLog} (h : Inv s) {p l : Nat} {v : View}
    (hv : s.viewAt p l = .ok (some v)) (more : List Op) (hm : ∀ o ∈ more, o.appendish = true)
    {j : Nat} (h1 : p < j) (h2 : j ≤ l) :
    v.get (s.run more) j = (abs s).get j ∧ v.contains j = true ∧ v.count = l - p := by
  obtain ⟨hok, ep, el⟩ := viewAt_ok h hv
  obtain ⟨hi', hg, extra, ea⟩ := run_appendish h more hm
  refine ⟨?_, by simp [View.contains, ep, el, h1, h2], by simp [View.count, ep, el]⟩
  rw [view_get_eq hi' (viewOK_mono hok hg) (by omega) (by omega), ea]
  obtain ⟨⟨x, hx, ex⟩, hfp, hl, _⟩ := hok
  have := prevIndex_le_mem h hx
  exact ((window_extend _ extra).get (by rw [abs_prev]; omega) (by rw [abs_lastIndex h]; omega)).symm

/-- `view_stable` for `GetN`: the chunks a view returns for a range inside `(p, l]` concatenate to
the bytes the log had there when the view was taken, whatever was appended/committed since. -/
theorem view_getN_stable {s : SegLog} (h : Inv s) {p l : Nat} {v : View}
    (hv : s.viewAt p l = .ok (some v)) (more : List Op) (hm : ∀ o ∈ more, o.appendish = true)
    {i n : Nat} (h1 : p < i) (hn : 0 < n) (h2 : i + (n - 1) ≤ l) :
    flatChunks (v.getN (s.run more) i n) = (abs s).getN i n := by
  obtain ⟨hok, ep, el⟩ := viewAt_ok h hv
  obtain ⟨hi', hg, extra, ea⟩ := run_appendish h more hm
  rw [view_getN_eq hi' (viewOK_mono hok hg) (by omega) hn (by omega), ea]
  obtain ⟨⟨x, hx, ex⟩, hfp, hl, _⟩ := hok
  have := prevIndex_le_mem h hx
  exact ((window_extend _ extra).getN (by rw [abs_prev]; omega) hn (by rw [abs_lastIndex h]; omega)).symm

/-- `reopen_clean`: `Close` then `Open` (any directory `d` representing `s`) yields the same
abstract sequence, leaves the files alone, and the reopened in-memory state is the model's. -/
theorem reopen_clean {s : SegLog} {d : Disk} (h : Inv s) (hr : Rep s d) {ss' : Nat} (hs : 1024 ≤ ss') :
    reopen (killImg (runSteps d (script s (.closeOpen ss')))) ss' =
      .ok (s.closeOpen ss', killImg (runSteps d (script s (.closeOpen ss')))) ∧
    Inv (s.closeOpen ss') ∧ abs (s.closeOpen ss') = abs s :=
  ⟨closeOpen_reopen h hr ss', (closeOpen_refines h hs).1, (closeOpen_refines h hs).2⟩

/-- `segment_layout`: if `append(b)` is called on a segment with `len b ≤ available()`, the data
store `[size, size+len b)` lies below EVERY slot of the offset table and the header (slots
`0..n+2`, the last one being the slot `append` is about to write), and all those slots lie inside
the file.  (`available` is exactly the distance between `size` and slot `n+2`.) -/
theorem segment_layout (t : Seg) (b : Bytes) (h : (b.length : Int) ≤ t.available) :
    ∀ k, k ≤ t.n + 2 → ((t.size + b.length : Nat) : Int) ≤ t.slotAt k ∧ t.slotAt k + 8 ≤ (t.cap : Int) := by
  intro k hk
  simp only [Seg.available, Seg.slotAt] at h ⊢
  omega

/-- Both call sites of `segment.append` in `Log.Append` satisfy the premise of `segment_layout`. -/
theorem append_sites_fit {l l' : SegLog} (h : Inv l) {b : Bytes} (ha : l.append b = .ok l') :
    ∃ t, l'.last = t.append b ∧ (b.length : Int) ≤ t.available ∧ SegOK t := by
  unfold SegLog.append at ha
  by_cases hav : l.last.available < (b.length : Int)
  · by_cases hn : l.last.n = 0
    · simp [hav, hn] at ha
    · simp only [hav, hn, if_true, if_false, Except.ok.injEq] at ha
      subst ha
      have := h.2.2
      refine ⟨_, rfl, ?_, fresh_ok (by split <;> omega)⟩
      simp [Seg.available, Seg.slotAt, Seg.fresh, Seg.size, Seg.n, dataSize]
      split <;> omega
  · simp only [hav, if_false, Except.ok.injEq] at ha
    subst ha
    exact ⟨l.last, rfl, by omega, h.1⟩

/-- C13, full statement. -/
theorem C13 : C13_statement := by
  intro ss ops hss hv
  have h0 := inv_empty hss
  obtain ⟨hi, hrun⟩ := ops_refine h0 ops hv
  obtain ⟨o1, o2, o3, o4, o5, o6⟩ := outputs_refine hi
  refine ⟨hi, hrun, o1, o2, o3, o4, o5, o6, ?_, ?_, ?_⟩
  · intro i
    obtain ⟨e1, e2, e3, _⟩ := removeLTE_whole_segments hi i
    exact ⟨e1, e2, e3⟩
  · intro p l v hview more hm
    exact ⟨fun j h1 h2 => (view_stable hi hview more hm h1 h2).1,
      fun i n h1 hn h2 => view_getN_stable hi hview more hm h1 hn h2⟩
  · intro d hr ss'
    exact ⟨closeOpen_reopen hi hr ss', by
      have := commit_abs hi
      simpa [abs_eq, SegLog.closeOpen] using this⟩

set_option maxRecDepth 100000 in
/-- A program that rolls over twice (1024-byte segments, 600-byte entries), commits, removes at a
boundary from both ends and reopens: hypotheses of `C13` are met and the state is non-trivial. -/
example :
    let ops : List Op := [.append (List.replicate 600 1), .append (List.replicate 600 2),
      .append (List.replicate 600 3), .commit, .removeLTE 1, .removeGTE 3, .closeOpen 2048]
    (∀ o ∈ ops, o.valid) ∧ ((SegLog.empty 1024).run ops).prevIndex = 1 ∧
      ((SegLog.empty 1024).run ops).count = 1 ∧ ((SegLog.empty 1024).run ops).older.length = 0 := by
  refine ⟨?_, by rfl, by rfl, by rfl⟩
  intro o ho
  simp only [List.mem_cons, List.not_mem_nil, or_false] at ho
  rcases ho with rfl | rfl | rfl | rfl | rfl | rfl | rfl <;> simp [Op.valid]

set_option maxRecDepth 100000 in
/-- The error branch of `append` is reachable: an entry larger than an empty 1024-byte segment. -/
example : (SegLog.empty 1024).append (List.replicate 1001 0) = .error .exceedsSegmentSize := by rfl

set_option maxRecDepth 100000 in
/-- A view over two segments exists (premise of `view_stable`). -/
example :
    ∃ v, (((SegLog.empty 1024).run [.append (List.replicate 600 1), .append (List.replicate 600 2)]).viewAt 0 2)
      = .ok (some v) ∧ v.firstPrev = 0 ∧ v.lastPrev = some 1 :=
  ⟨{ p := 0, l := 2, firstPrev := 0, lastPrev := some 1 }, by rfl, rfl, rfl⟩

/-- The panic branch of `Get` is reachable and is the abstract one too. -/
example : (SegLog.empty 1024).get 1 = .error (.panic .gtLastIndex) := by rfl

end Raft.SL

#print axioms Raft.SL.C13
#print axioms Raft.SL.seglog_refines
#print axioms Raft.SL.append_outcome
#print axioms Raft.SL.outputs_refine
#print axioms Raft.SL.ops_refine
#print axioms Raft.SL.removeLTE_whole_segments
#print axioms Raft.SL.view_stable
#print axioms Raft.SL.view_getN_stable
#print axioms Raft.SL.reopen_clean
#print axioms Raft.SL.segment_layout
#print axioms Raft.SL.append_sites_fit
