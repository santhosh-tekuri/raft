/-
C17 (progress of replication) — the probe loop of `replication.replicate` as a whole: it terminates, and
when it ends with "matched" the follower really holds the leader's entry at `matchIndex`.

The model (`Repl.probe`, Model/ReplProbe.lean) is compared run by run with the REAL `replicate()` loop by the
engine probelive (real leader node, real follower node, scripted connection); the step functions it is built
from are tied to replication.go by repldiff. `Repl.probe_decreases` (Lemmas/ReplSteps.lean) is the per-step
ranking argument; here it is lifted to the loop.
-/
import RaftVerif.Lemmas.ReplProbe

namespace Raft
namespace C17Probe
open Repl

/-- statement of the property slice proved here (kept as a `Prop` for reference) -/
def C17Probe_statement : Prop :=
  ∀ (env : Env) (s : Loop) (fuel : Nat),
    s.st.matchIndex < s.st.nextIndex → AgreeIfKnown env s.flr s.st.matchIndex → s.Honest →
    s.st.nextIndex - s.st.matchIndex ≤ fuel →
    (probe env fuel s).ending = "matched" ∨ (probe env fuel s).ending = "needInstall" ∨
    (probe env fuel s).ending = "failed"

/-- **probe_terminates** (a): with a follower that answers by the consistency check, a replication whose
`matchIndex` is sound (the follower holds what was acknowledged) needs at most `nextIndex - matchIndex`
rounds: with that fuel the probe ends with `matched`, `needInstall` (ErrNotFound: fall back to the
snapshot) or `failed` (stop / faulty follower / error) — never by running out of fuel. -/
theorem probe_terminates : C17Probe_statement := by
  intro env s fuel hm ha hh hf
  rcases (probe_spec env fuel s hm ha hh).ending with h | h | h | ⟨_, h⟩
  · exact Or.inl h
  · exact Or.inr (Or.inl h)
  · exact Or.inr (Or.inr h)
  · omega

/-- **probe_finds_match** (b): when the probe ends with `matched`, then `matchIndex + 1 = nextIndex`, and the
follower holds the leader's entry at `matchIndex` (same index, same term — or its snapshot covers it);
`matchIndex` did not go down. -/
theorem probe_finds_match (env : Env) (s : Loop) (fuel : Nat)
    (hm : s.st.matchIndex < s.st.nextIndex) (ha : AgreeAt env s.flr s.st.matchIndex) (hh : s.Honest)
    (hend : (probe env fuel s).ending = "matched") :
    let r := (probe env fuel s).loop
    r.st.matchIndex + 1 = r.st.nextIndex ∧ AgreeAt env r.flr r.st.matchIndex ∧
    s.st.matchIndex ≤ r.st.matchIndex := by
  have h := probe_spec env fuel s hm ha.ifKnown hh
  exact ⟨h.matched hend, h.agree ha, h.mono⟩

/-- **probe_exchange_bound** (c): the probe adds at most `nextIndex - matchIndex` exchanges to the trace,
whatever the fuel; every one of them is a request without entries (a probe never ships entries). -/
theorem probe_exchange_bound (env : Env) (s : Loop) (fuel : Nat)
    (hm : s.st.matchIndex < s.st.nextIndex) (ha : AgreeIfKnown env s.flr s.st.matchIndex) (hh : s.Honest) :
    let r := (probe env fuel s).loop
    r.trace.length ≤ s.trace.length + (s.st.nextIndex - s.st.matchIndex) ∧
    (∀ x ∈ r.trace.drop s.trace.length, x.kind = "append" ∧ x.pipelined = false ∧
        ∃ q, x.append = some q ∧ q.entries = []) := by
  obtain ⟨xs, h1, h2, _, h4⟩ := (probe_spec env fuel s hm ha hh).trace
  intro r
  have hr : r.trace = s.trace ++ xs := h1
  rw [hr]
  refine ⟨by rw [List.length_append]; omega, ?_⟩
  rw [List.drop_left]
  exact h4

/-- the probe never makes more exchanges than it has fuel, and (with an honest follower) it leaves the
follower's log alone: same snapshot index, same entries -/
theorem probe_keeps_follower_log (env : Env) (s : Loop) (fuel : Nat)
    (hm : s.st.matchIndex < s.st.nextIndex) (ha : AgreeIfKnown env s.flr s.st.matchIndex) (hh : s.Honest) :
    let r := (probe env fuel s).loop
    r.flr.snapIndex = s.flr.snapIndex ∧ r.flr.terms = s.flr.terms ∧ r.trace.length ≤ s.trace.length + fuel := by
  have h := probe_spec env fuel s hm ha hh
  obtain ⟨xs, h1, _, h3, _⟩ := h.trace
  intro r
  have hr : r.trace = s.trace ++ xs := h1
  exact ⟨h.snap, h.terms, by rw [hr, List.length_append]; omega⟩

/-- `matchIndex` never goes down along the probe — no hypothesis at all (faulty follower, any fuel) -/
theorem probe_match_monotone (env : Env) (s : Loop) (fuel : Nat) :
    s.st.matchIndex ≤ (probe env fuel s).loop.st.matchIndex :=
  probe_match_mono env fuel s

/-- a round ending with `needInstall` sent nothing: the loop state (trace included) is untouched and
`writeAppendEntriesReq` had returned ErrNotFound — no hypothesis at all -/
theorem needInstall_round_sends_nothing (env : Env) (s : Loop) (h : (probeRound env s).ending = "needInstall") :
    (probeRound env s).loop = s ∧ (writeAppend s.st env false).err = "notFound" :=
  probeRound_needInstall env s h

/-! ### non-vacuity -/

/-- leader: five entries in three terms (1 1 2 3 3), nothing compacted -/
def envA : Env :=
  { log := { prev := 0, entries := [⟨1, 1, 2, "a", none⟩, ⟨2, 1, 2, "b", none⟩, ⟨3, 2, 2, "c", none⟩,
                                    ⟨4, 3, 2, "d", none⟩, ⟨5, 3, 2, "e", none⟩], flushed := 5, segs := [0] } }

/-- follower: agrees up to index 3, then a divergent suffix of term 2 (1 1 2 2 2); the first exchange also
delivers a leader update -/
def loopA : Loop :=
  { st := { matchIndex := 0, nextIndex := 6, ldrLastIndex := 5, viewLast := 5, term := 3, src := 1 },
    flr := { term := 3, terms := [1, 1, 2, 2, 2] },
    ticks := [{ upd := some { prev := 0, last := 5, commit := 3 } }, {}] }

/-- (1) all hypotheses of (a) and (b) hold, two mismatch rounds (prev = 5, prev = 4) and a success at
prev = 3: the probe ends `matched` with `matchIndex = 3`, `nextIndex = 4` after three exchanges -/
example :
    loopA.st.matchIndex < loopA.st.nextIndex ∧ AgreeAt envA loopA.flr loopA.st.matchIndex ∧
    AgreeIfKnown envA loopA.flr loopA.st.matchIndex ∧ loopA.Honest ∧
    loopA.st.nextIndex - loopA.st.matchIndex ≤ 6 ∧
    (probe envA 6 loopA).ending = "matched" ∧ (probe envA 6 loopA).loop.st.matchIndex = 3 ∧
    (probe envA 6 loopA).loop.st.nextIndex = 4 ∧
    (probe envA 6 loopA).loop.trace.map (·.resp.result) = [rPrevTermMismatch, rPrevTermMismatch, rSuccess] := by
  have hag : AgreeAt envA loopA.flr loopA.st.matchIndex := ⟨0, by decide, Or.inl (by decide)⟩
  have hh : loopA.Honest := by unfold Loop.Honest; decide
  exact ⟨by decide, hag, hag.ifKnown, hh, by decide, by decide, by decide, by decide, by decide⟩

/-- leader whose log was compacted up to index 3 (snapshot at 3, term 2); entries 4 and 5 of term 3 remain -/
def envB : Env :=
  { log := { prev := 3, entries := [⟨4, 3, 2, "d", none⟩, ⟨5, 3, 2, "e", none⟩], flushed := 5, segs := [3] },
    snapIndex := 3, snapTerm := 2 }

/-- an empty follower, probed at `prev = 2`: below the leader's first index and not the snapshot index -/
def loopB : Loop :=
  { st := { matchIndex := 0, nextIndex := 3, ldrLastIndex := 5, viewPrev := 3, viewLast := 5, term := 3, src := 1 },
    flr := {} }

/-- (2) `needInstall`: the leader cannot read its term at `prev = 2` any more (`leaderTerm = none`), the
hypotheses of (a) hold, nothing is sent -/
example :
    envB.log.prev > 0 ∧ leaderTerm envB (loopB.st.nextIndex - 1) = none ∧
    loopB.st.matchIndex < loopB.st.nextIndex ∧ AgreeIfKnown envB loopB.flr loopB.st.matchIndex ∧ loopB.Honest ∧
    loopB.st.nextIndex - loopB.st.matchIndex ≤ 3 ∧
    (probe envB 3 loopB).ending = "needInstall" ∧ (probe envB 3 loopB).loop.trace = [] := by
  have hag : AgreeAt envB loopB.flr loopB.st.matchIndex := ⟨0, by decide, Or.inl (by decide)⟩
  have hh : loopB.Honest := by unfold Loop.Honest; decide
  exact ⟨by decide, by decide, by decide, hag.ifKnown, hh, by decide, by decide, by decide⟩

/-- the same leader, a follower that holds two entries only and is probed from the leader's last index -/
def loopB' : Loop :=
  { st := { matchIndex := 0, nextIndex := 6, ldrLastIndex := 5, viewPrev := 3, viewLast := 5, term := 3, src := 1 },
    flr := { term := 2, terms := [1, 1] } }

/-- (2') `needInstall` in the second round: "entry not found" at `prev = 5` brings `nextIndex` down to
the follower's `lastLogIndex + 1 = 3`, whose `prev = 2` is compacted away; one exchange was made -/
example :
    loopB'.st.matchIndex < loopB'.st.nextIndex ∧ AgreeIfKnown envB loopB'.flr loopB'.st.matchIndex ∧ loopB'.Honest ∧
    (probe envB 6 loopB').ending = "needInstall" ∧ (probe envB 6 loopB').loop.st.nextIndex = 3 ∧
    (probe envB 6 loopB').loop.trace.map (·.resp.result) = [rPrevEntryNotFound] := by
  have hag : AgreeAt envB loopB'.flr loopB'.st.matchIndex := ⟨0, by decide, Or.inl (by decide)⟩
  have hh : loopB'.Honest := by unfold Loop.Honest; decide
  exact ⟨by decide, hag.ifKnown, hh, by decide, by decide, by decide⟩

/-- a follower whose five entries all diverge from the leader `envA` -/
def loopC : Loop :=
  { st := { matchIndex := 0, nextIndex := 6, ldrLastIndex := 5, viewLast := 5, term := 3, src := 1 },
    flr := { term := 3, terms := [9, 9, 9, 9, 9] } }

/-- (3) fuel: the divergent follower needs five rounds (five mismatches, the last one brings `nextIndex`
to `matchIndex + 1 = 1`); four rounds of fuel are not enough. The bound `nextIndex - matchIndex = 6` of (a)
is therefore within one of what is needed here. -/
example :
    loopC.st.matchIndex < loopC.st.nextIndex ∧ AgreeIfKnown envA loopC.flr loopC.st.matchIndex ∧ loopC.Honest ∧
    (probe envA 4 loopC).ending = "fuel" ∧
    (probe envA 5 loopC).ending = "matched" ∧ (probe envA 5 loopC).loop.st.matchIndex = 0 ∧
    (probe envA 5 loopC).loop.st.nextIndex = 1 ∧ (probe envA 5 loopC).loop.trace.length = 5 := by
  have hag : AgreeAt envA loopC.flr loopC.st.matchIndex := ⟨0, by decide, Or.inl (by decide)⟩
  have hh : loopC.Honest := by unfold Loop.Honest; decide
  exact ⟨by decide, hag.ifKnown, hh, by decide, by decide, by decide, by decide, by decide⟩

/-- a replication that already knows the match (`matchIndex = 3`, `nextIndex = 4`) -/
def loopD : Loop :=
  { st := { matchIndex := 3, nextIndex := 4, ldrLastIndex := 5, viewLast := 5, term := 3, src := 1 },
    flr := { term := 3, terms := [1, 1, 2, 2, 2] } }

/-- (3') the bound of (a) is tight when `nextIndex - matchIndex = 1`: one round is needed (it confirms
`prev = matchIndex`), with fuel 0 the probe ends with `fuel` -/
example :
    loopD.st.matchIndex < loopD.st.nextIndex ∧ AgreeAt envA loopD.flr loopD.st.matchIndex ∧ loopD.Honest ∧
    loopD.st.nextIndex - loopD.st.matchIndex = 1 ∧
    (probe envA 0 loopD).ending = "fuel" ∧ (probe envA 1 loopD).ending = "matched" ∧
    (probe envA 1 loopD).loop.trace.length = 1 := by
  have hag : AgreeAt envA loopD.flr loopD.st.matchIndex := ⟨2, by decide, Or.inr (by decide)⟩
  have hh : loopD.Honest := by unfold Loop.Honest; decide
  exact ⟨by decide, hag, hh, by decide, by decide, by decide, by decide⟩

/-- the third ending: a follower in a later term answers "stale term", the replication stops: `failed` -/
example : (probe envA 6 { loopA with flr := { term := 4, terms := [1, 1, 2, 2, 2] } }).ending = "failed" ∧
    (probe envA 6 { loopA with flr := { term := 4, terms := [1, 1, 2, 2, 2] } }).err = "stop" := by decide

/-- the hypothesis `Honest` of (a) is needed: a follower whose storage was replaced by an empty one
(fault 1) answers "entry not found" with `lastLogIndex = 0 < matchIndex`; here that is detected (`failed`,
faultyFollower), but the follower's log is no longer the one `AgreeAt` spoke about -/
example : (probe envA 1 { loopD with ticks := [{ fault := 1 }] }).err = "faultyFollower" := by decide

/-- the hypothesis `AgreeIfKnown` of (a) is needed: with an unsound `matchIndex = 4` (the follower holds
term 2 at index 4, the leader term 3) the mismatch at `prev = matchIndex` leaves `nextIndex = matchIndex`,
and the loop never ends: every fuel is used up -/
example : (probe envA 50 { loopA with st := { loopA.st with matchIndex := 4, nextIndex := 5 } }).ending = "fuel" := by
  decide

#print axioms probe_terminates
#print axioms probe_finds_match -- also C04 C06
#print axioms probe_exchange_bound

#print axioms probe_keeps_follower_log
#print axioms probe_match_monotone
#print axioms needInstall_round_sends_nothing

end C17Probe
end Raft
