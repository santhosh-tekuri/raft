/-
C12 (crash points) — **the snapshot label / configuration tracking invariant at EVERY crash point inside a step.**

`Props/C12Track.lean` proves `Tracks` for completed steps and for a restart from the disk BETWEEN two steps;
`Lemmas/SnapInstCrash.lean` for the crash points of the install handler. Here: for EVERY operation, oracle, input and
EVERY storage point `k` of the step (`C05.crashDisk s op ra ord k`: after `value.set`, after `commitLog` (entries
appended since the last one are not on disk before it), after `removeGTE` before the replacement entries are appended,
after `snap.publish` before `snap.retain` / `compactLog`, after `clearLog`) the disk content satisfies `TrackCrash.Pd`
(`C12Track.DiskTracks`, `C19Order.DiskOK`, every configuration entry of the log on disk decodes), hence the restart from it
succeeds and yields a node that satisfies the hypotheses again (`tracks_after_crash_at_any_point_partial`, `CrashInv`).

How: the step invariant `Track.TI` of `Lemmas/ConfigTrack.lean` is carried together with `TR` ("every crash point
recorded so far in `trace` satisfies `Pd`", `Lemmas/TrackCrashA.lean`, `TrackCrashB.lean`): at a crash point the state in
memory satisfies `Track.Core` / `Order.CoreW` / `Mem`, and the disk is a prefix of its log plus its snapshot files.

`_partial`: the statement assumes that the step, run to completion, does not panic (as `C12Track.tracks_step`,
`C19Order.ordered_step`; guaranteed by `C15NoPanic.good_step_two` for good states and acceptable operations:
`tracks_after_crash_good_partial`), that the configuration entries of an append request decode (`ReqDec`; else the
follower stores an entry `openStorage` cannot decode: `undecodable_entry_blocks_restart`), and `SnapFbOp` (operations
`snapRun` / `shutdown` only): when the snapshot goroutine stores a snapshot while the FSM holds NO configuration, the
configuration captured at request time has an index the snapshot covers (`snapFb_needed`; implied by
`Latest.NoFallback`; not reachable in a cluster: entry 1 of every log is a configuration).
-/
import RaftVerif.Lemmas.TrackCrashB
import RaftVerif.Lemmas.SysMore
import RaftVerif.Props.C19Latest

namespace Raft
namespace C12Crash
open Node Track TrackCrash

/-- **the per-node invariant that survives a crash at any point**: the tracking invariant (`C12Track.Tracks`), the
orderings (`Order.Ordered`), `TrackCrash.Mem` (log well formed w.r.t. flushing, the newest snapshot's label has an index
the snapshot covers, every configuration entry of the log decodes), cluster and node id set. -/
structure CrashInv (s : Node) : Prop where
  tracks : C12Track.Tracks s
  ordered : Order.Ordered s
  mem : Mem s
  cid : s.cid ≠ 0
  nid : s.nid ≠ 0

instance (l : NLog) : Decidable (C06.LogWF l) := by unfold C06.LogWF; infer_instance

instance (s : Node) : Decidable (Mem s) :=
  decidable_of_iff (C06.LogWF s.log ∧ (label s).index ≤ s.snapIndex ∧ NoPanic.LogDec s.log.entries)
    ⟨fun ⟨a, b, c⟩ => ⟨a, b, c⟩, fun h => ⟨h.lwf, h.lab, h.dec⟩⟩

theorem noDecodeErr_of_logDec (d : Durable) (h : NoPanic.LogDec d.log.entries) :
    C10.NoDecodeErr (C10.window (C10.logOf d) (C10.snapOf d).index (C10.logOf d).last) := by
  intro e he ht
  have hm := C15NoPanic.logOf_entries d e (C15NoPanic.window_sub _ _ _ e he)
  exact Entry.config?_isSome ht (h e hm ht)

/-- **a restart from a disk satisfying `Pd`**: it succeeds; the node tracks, is ordered; its configurations are the
newest two configuration entries above the snapshot in the log on disk, else the label; `Mem` and the ids hold again. -/
theorem pd_restart (d : Durable) (r : Nat) (sor : Bool) (hd : Pd d) (hc : d.cid ≠ 0) (hn : d.nid ≠ 0) (hr : 1 ≤ r) :
    ∃ n, Node.restart d r sor = some n ∧ C12Track.Tracks n ∧ Order.Ordered n ∧
      n.configs.latest = ((C10.configsAbove d)[0]?).getD (C10.snapOf d).config ∧
      n.configs.committed = ((C10.configsAbove d)[1]?).getD (C10.snapOf d).config ∧
      C19Latest.LatestIsNewest n ∧ Mem n ∧ n.cid = d.cid ∧ n.nid = d.nid := by
  have hok := noDecodeErr_of_logDec d hd.dec
  obtain ⟨hf, c1, c2⟩ := C10.restart_configs d r sor hd.ok.durWF hok
  obtain ⟨n, hn', _, _⟩ := C10.restart_ok_contiguous d r sor hc hn hf
  obtain ⟨_, _, hsnap, hlog, _, hcfg, _⟩ := C10.restart_fsm d r sor n hn'
  obtain ⟨_, _, e3, _⟩ := C10.restartNode_fields d r sor
  have ht := C12Track.restart_tracks d r sor n hr hd.tracks hn'
  have ho := C19Order.restart_ordered d r sor n hd.ok hn'
  have hfl : n.log.flushed = n.log.last := by rw [hlog, e3]; rfl
  refine ⟨n, hn', ht, ho, by rw [hcfg, c1], by rw [hcfg, c2],
    C19Latest.restart_latest_is_newest d r sor n hd.ok hd.tracks hok hn', ⟨⟨?_, ?_⟩, ?_, ?_⟩,
    SysMore.restart_cid d r sor n hn', (Election.restart_role_nid d r sor n hn').2⟩
  · rw [hfl]; exact ho.segs.le_last _ (SysInv.lastSegPrev_mem _ ho.segs)
  · rw [hfl]; exact Nat.le_refl _
  · rw [restart_label hn', hsnap]; exact hd.ok.label
  · rw [hlog, e3]
    exact fun e he => hd.dec e (C15NoPanic.logOf_entries d e he)

/-- **`Pd` at every crash point of a step that is not an install request** -/
theorem crashDisk_pd_other (s : Node) (op : Op) (ra : List Nat) (ord : List (List Nat)) (k : Nat)
    (ht : C12Track.Tracks s) (ho : Order.Ordered s) (hm : Mem s) (hr : Order.ReqOk s op) (hd : ReqDec s op)
    (hfb : SnapFbOp s op) (hni : ∀ q, op ≠ .install q) (hp : (s.step op ra ord).panicked = none) :
    Pd (C05.crashDisk s op ra ord k) := by
  have hJ := tj_stepAll op ra ord ho ht.toCore ht.queue hm hr hd hfb hni
  obtain ⟨m, htr⟩ := hJ.2 hp
  exact C05.crashDisk_of (D := Pd) s op ra ord k (pd_durable ht.toCore ho.toCoreW hm)
    (pd_durable (hJ.core hp) (hJ.coreW hp) m) htr

/-- **… and of an install request** (`Lemmas/SnapInstCrash.lean`) -/
theorem crashDisk_pd_install (s : Node) (q : InstallReq) (ra : List Nat) (ord : List (List Nat)) (k : Nat)
    (ht : C12Track.Tracks s) (ho : Order.Ordered s) (hm : Mem s) (hr : Order.ReqOk s (.install q)) :
    Pd (C05.crashDisk s (.install q) ra ord k) := by
  refine ⟨SnapInst.install_disk_tracks s q ra ord k ht ho,
    SnapInst.install_disk_ok s q ra ord k ht ho hm.lwf hm.lab (fun hI => hr.installOk hI.1 hI.2.1), ?_⟩
  have hdk := SnapInst.install_crashDisk s q ra ord k
  have hdur : NoPanic.LogDec s.durable.log.entries := NoPanic.logDec_take hm.dec _
  rcases hdk.data with ⟨e1, _⟩ | ⟨_, e1 | e1, _, _⟩
  · rw [e1]; exact hdur
  · rw [e1]; exact hdur
  · rw [e1]; intro e he; cases he

/-- **`Pd` at every crash point of every step**, from `Tracks`, `Ordered` and `Mem` (without the identity clauses of
`CrashInv`) -/
theorem crashDisk_pd_nc (s : Node) (op : Op) (ra : List Nat) (ord : List (List Nat)) (k : Nat)
    (ht : C12Track.Tracks s) (ho : Order.Ordered s) (hm : Mem s) (hr : Order.ReqOk s op) (hd : ReqDec s op)
    (hfb : SnapFbOp s op) (hp : (s.step op ra ord).panicked = none) : Pd (C05.crashDisk s op ra ord k) := by
  by_cases hi : ∃ q, op = .install q
  · obtain ⟨q, rfl⟩ := hi
    exact crashDisk_pd_install s q ra ord k ht ho hm hr
  · exact crashDisk_pd_other s op ra ord k ht ho hm hr hd hfb (fun q h => hi ⟨q, h⟩) hp

/-- **`Pd` at every crash point of every step.** -/
theorem crashDisk_pd (s : Node) (op : Op) (ra : List Nat) (ord : List (List Nat)) (k : Nat)
    (hi : CrashInv s) (hr : Order.ReqOk s op) (hd : ReqDec s op) (hfb : SnapFbOp s op)
    (hp : (s.step op ra ord).panicked = none) : Pd (C05.crashDisk s op ra ord k) :=
  crashDisk_pd_nc s op ra ord k hi.tracks hi.ordered hi.mem hr hd hfb hp

/-- **C12 at every crash point (partial: see the file header).** Let `s` satisfy `CrashInv` (tracking, ordered, `Mem`,
ids set), `op` be ANY operation acceptable in the sense of `Order.ReqOk` whose configuration entries decode (`ReqDec`),
with `SnapFbOp s op`, handled with ANY oracle `ra`, `ord` without a Go panic. Let the process die after ANY number `k` of
storage points of that step (`k = 0`: before the first; beyond the last: after everything, before replying) and be
restarted on what is then on disk, `d = C05.crashDisk s op ra ord k`, with `retain = r ≥ 1`. Then
* the restart succeeds: `Node.restart d r sor = some n`;
* `n` satisfies the tracking invariant `C12Track.Tracks` (its FSM, restored from the newest snapshot, holds the label;
  the label is the newest configuration at or below the snapshot index; the snapshot's term is the term of the log entry
  at its index) and is `Order.Ordered`;
* `n.configs.latest` is the newest configuration entry above the snapshot index in the log ON DISK AT THAT POINT
  (`C10.configsAbove d`, newest first), `n.configs.committed` the second newest — each the newest snapshot's label when
  there is no such entry. So after a truncation that removed the latest configuration entry the restarted node falls
  back to the previous one (as `revertConfig` does on the live node), and when only a prefix of the step's appends was
  flushed it uses the configurations of that prefix;
* `n` satisfies `CrashInv` again. -/
theorem tracks_after_crash_at_any_point_partial (s : Node) (op : Op) (ra : List Nat) (ord : List (List Nat)) (k : Nat)
    (r : Nat) (sor : Bool) (hi : CrashInv s) (hr : Order.ReqOk s op) (hd : ReqDec s op) (hfb : SnapFbOp s op)
    (hp : (s.step op ra ord).panicked = none) (hret : 1 ≤ r) :
    ∃ n, Node.restart (C05.crashDisk s op ra ord k) r sor = some n ∧
      C12Track.Tracks n ∧ Order.Ordered n ∧
      n.configs.latest = ((C10.configsAbove (C05.crashDisk s op ra ord k))[0]?).getD
        (C10.snapOf (C05.crashDisk s op ra ord k)).config ∧
      n.configs.committed = ((C10.configsAbove (C05.crashDisk s op ra ord k))[1]?).getD
        (C10.snapOf (C05.crashDisk s op ra ord k)).config ∧
      C19Latest.LatestIsNewest n ∧ CrashInv n := by
  have hpd := crashDisk_pd s op ra ord k hi hr hd hfb hp
  have hc : (C05.crashDisk s op ra ord k).cid ≠ 0 := by rw [SysMore.crashDisk_cid]; exact hi.cid
  have hn : (C05.crashDisk s op ra ord k).nid ≠ 0 := by rw [Election.crashDisk_nid]; exact hi.nid
  obtain ⟨n, h1, h2, h3, h4, h5, hL, h6, h7, h8⟩ := pd_restart _ r sor hpd hc hn hret
  exact ⟨n, h1, h2, h3, h4, h5, hL, ⟨h2, h3, h6, by rw [h7]; exact hc, by rw [h8]; exact hn⟩⟩

/-- `Mem` after a completed install request -/
theorem mem_install (s : Node) (q : InstallReq) (ra : List Nat) (ord : List (List Nat)) (hi : CrashInv s)
    (hr : Order.ReqOk s (.install q)) : Mem (s.step (.install q) ra ord) := by
  have hio := SnapInst.install_step_iobs s q ra ord
  have h1 : (s.step (.install q) ra ord).log = ((s.begin ra ord).onInstallSnap q).log :=
    congrArg (fun p => p.1.1) hio
  have h2 : (s.step (.install q) ra ord).snapIndex = ((s.begin ra ord).onInstallSnap q).snapIndex :=
    congrArg (fun p => p.1.2.2.2.1) hio
  have h3 : (s.step (.install q) ra ord).snapsDisk = ((s.begin ra ord).onInstallSnap q).snapsDisk :=
    congrArg (fun p => p.1.2.2.2.2.2) hio
  refine Mem.congr ?_ h1 h3 h2
  have hb : Mem (s.begin ra ord) := hi.mem.congr rfl rfl rfl
  rcases C09.onInstallSnap_cases (s.begin ra ord) q with ⟨_, e⟩ | ⟨_, _, e⟩ | ⟨hterm, hahead, hk, _⟩
  · rw [e]; exact hb.congr rfl rfl rfl
  · rw [e]
    have sd := sameData_installPre (s.begin ra ord) q
    exact hb.congr sd.log sd.snapsDisk sd.snapIndex
  · obtain ⟨e1, _, _, e4, _, _, _, _, e9, _⟩ := C09.install_snapshot_discard (s.begin ra ord) q hterm hahead hk
    have hq : Order.InstallOk q := hr.installOk hterm hahead
    have hhead := SnapInst.inst_head (s.begin ra ord) q hi.tracks.retain
      (hi.tracks.toCore.headLe_of_commit hi.ordered.toCoreW hahead) (Or.inr e9)
    refine ⟨?_, ?_, ?_⟩
    · rw [e1]; unfold C06.LogWF NLog.reset NLog.lastSegPrev NLog.last; simp
    · unfold label; rw [hhead, e4]; exact hq
    · rw [e1]; intro e he; cases he

/-- **`CrashInv` is inductive**: a completed step of ANY operation keeps it (crash + restart at any point:
`tracks_after_crash_at_any_point_partial`) -/
theorem crashInv_step (s : Node) (op : Op) (ra : List Nat) (ord : List (List Nat)) (hi : CrashInv s)
    (hr : Order.ReqOk s op) (hd : ReqDec s op) (hfb : SnapFbOp s op)
    (hp : (s.step op ra ord).panicked = none) : CrashInv (s.step op ra ord) := by
  refine ⟨C12Track.tracks_step s op ra ord hi.tracks hi.ordered hr hp,
    C19Order.ordered_step s op ra ord hi.ordered hr hp, ?_, by rw [SysMore.step_cid]; exact hi.cid,
    by rw [(Election.step_ids s op ra ord).1]; exact hi.nid⟩
  by_cases hq : ∃ q, op = .install q
  · obtain ⟨q, rfl⟩ := hq
    exact mem_install s q ra ord hi hr
  · exact ((tj_stepAll op ra ord hi.ordered hi.tracks.toCore hi.tracks.queue hi.mem hr hd hfb
      (fun q h => hq ⟨q, h⟩)).2 hp).1

/-- the hypothesis `C19Latest` makes on the snapshot goroutine (the fallback is not taken) implies `SnapFbOp` -/
theorem snapFbOp_of_noFallback (s : Node) (op : Op) (h : Latest.NoFallback s op) : SnapFbOp s op := by
  cases op <;> try trivial
  case snapRun => exact fun rq h1 h2 h3 => Or.inl (h rq h1 h2 h3)
  case shutdown => exact fun rq h1 h2 h3 => Or.inl (h rq h1 h2 h3)

/-- **with the hypotheses of C15/C19** (`NoPanic.Good true`, `NoPanic.ReqOk' true`: two anchor voters per
configuration, so that the model's recursion budget suffices and NO step fails): no panic hypothesis is needed. -/
theorem tracks_after_crash_good_partial (s : Node) (op : Op) (ra : List Nat) (ord : List (List Nat)) (k : Nat)
    (r : Nat) (sor : Bool) (hG : NoPanic.Good true s) (hopen : s.closed = "") (ht : C12Track.Tracks s)
    (hw : C06.LogWF s.log) (hlab : (label s).index ≤ s.snapIndex) (hcid : s.cid ≠ 0) (hnid : s.nid ≠ 0)
    (hr : NoPanic.ReqOk' true s op) (hfb : SnapFbOp s op) (hret : 1 ≤ r) :
    ∃ n, Node.restart (C05.crashDisk s op ra ord k) r sor = some n ∧ C12Track.Tracks n ∧ Order.Ordered n ∧
      n.configs.latest = ((C10.configsAbove (C05.crashDisk s op ra ord k))[0]?).getD
        (C10.snapOf (C05.crashDisk s op ra ord k)).config ∧
      n.configs.committed = ((C10.configsAbove (C05.crashDisk s op ra ord k))[1]?).getD
        (C10.snapOf (C05.crashDisk s op ra ord k)).config ∧
      C19Latest.LatestIsNewest n ∧ CrashInv n := by
  have hp := (C15NoPanic.good_step_two s op ra ord hG hopen hr).1
  have hd : ReqDec s op := by
    cases op <;> try trivial
    case append q =>
      rcases hr with h | h
      · exact Or.inl h
      · right
        intro ne hne htc
        obtain ⟨c, hc, _⟩ := (h.2 ne hne htc).get
        rw [hc]; rfl
  exact tracks_after_crash_at_any_point_partial s op ra ord k r sor
    ⟨ht, hG.ordered, ⟨hw, hlab, hG.glob.logDec⟩, hcid, hnid⟩ hr.toReqOk hd hfb hp hret

/-! ### "a node restarted from a snapshot resumes with exactly that configuration until a later log entry replaces it" -/

/-- **the configurations after a restart come from the label unless a later log entry overrides it (partial: the disk
is well formed — `C10.DurWF`, no undecodable configuration entry above the snapshot; both hold at every crash point of
every step: `crashDisk_pd`).** Let `n` be the node restarted from the disk `d`, `L` the label of the newest snapshot
on `d` (the zero configuration when there is none) and `cs = C10.configsAbove d` the configuration entries above the
snapshot index in the log `openStorage` works with, newest first. Then
* if there is none, `n.configs.latest = n.configs.committed = L`;
* if there is one, `n.configs.latest` is the newest, `n.configs.committed` the second newest — `L` if there is only one;
* the state machine, restored from the snapshot, holds `L` (`fsm.config`), at the snapshot's index and term. -/
theorem restart_config_from_label_partial (d : Durable) (r : Nat) (sor : Bool) (n : Node) (hwf : C10.DurWF d)
    (hok : C10.NoDecodeErr (C10.window (C10.logOf d) (C10.snapOf d).index (C10.logOf d).last))
    (h : Node.restart d r sor = some n) :
    (C10.configsAbove d = [] → n.configs.latest = (C10.snapOf d).config ∧ n.configs.committed = (C10.snapOf d).config) ∧
    (∀ c cs, C10.configsAbove d = c :: cs →
      n.configs.latest = c ∧ n.configs.committed = (cs.head?).getD (C10.snapOf d).config) ∧
    (0 < (C10.snapOf d).index → n.fsm.config = (C10.snapOf d).config ∧ n.fsm.index = (C10.snapOf d).index ∧
      n.fsm.term = (C10.snapOf d).term) := by
  obtain ⟨hfsm, _, _, _, _, hcfg, _⟩ := C10.restart_fsm d r sor n h
  obtain ⟨_, c1, c2⟩ := C10.restart_configs d r sor hwf hok
  rw [hcfg, c1, c2]
  refine ⟨fun he => by rw [he]; exact ⟨rfl, rfl⟩, fun c cs he => by rw [he]; cases cs <;> exact ⟨rfl, rfl⟩,
    fun hpos => ?_⟩
  rw [if_pos hpos] at hfsm
  rw [hfsm.1]; exact ⟨rfl, rfl, rfl⟩

/-- … at every crash point of every step (the hypotheses of `restart_config_from_label_partial` hold there) -/
theorem crashDisk_restart_hyps (s : Node) (op : Op) (ra : List Nat) (ord : List (List Nat)) (k : Nat)
    (hi : CrashInv s) (hr : Order.ReqOk s op) (hd : ReqDec s op) (hfb : SnapFbOp s op)
    (hp : (s.step op ra ord).panicked = none) :
    C10.DurWF (C05.crashDisk s op ra ord k) ∧
    C10.NoDecodeErr (C10.window (C10.logOf (C05.crashDisk s op ra ord k))
      (C10.snapOf (C05.crashDisk s op ra ord k)).index (C10.logOf (C05.crashDisk s op ra ord k)).last) := by
  have hpd := crashDisk_pd s op ra ord k hi hr hd hfb hp
  exact ⟨hpd.ok.durWF, noDecodeErr_of_logDec _ hpd.dec⟩

/-- the disk of a node whose log is completely flushed is not stale, and holds the whole log -/
theorem durable_of_flushed (s : Node) (ht : C12Track.Tracks s) (ho : Order.Ordered s) (hfl : s.log.flushed = s.log.last) :
    s.durable.log.entries = s.log.entries ∧ C10.logOf s.durable = s.durable.log := by
  have hent : s.durable.log.entries = s.log.entries := by
    show s.log.entries.take (s.log.flushed - s.log.prev) = _
    rw [hfl]; unfold NLog.last
    rw [Nat.add_sub_cancel_left, List.take_length]
  refine ⟨hent, ?_⟩
  obtain ⟨_, _, hidx⟩ := C12Track.durable_snap s ht ho
  have hterm := C12Track.durable_snapTerm s ht
  have hlast : s.durable.log.last = s.log.last := by
    unfold NLog.last; rw [hent]; rfl
  have hget : ∀ i, s.durable.log.get? i = s.log.get? i := by
    intro i; unfold NLog.get?; rw [hent]; rfl
  rcases C10.logOf_cases s.durable with ⟨hst, _⟩ | ⟨_, e⟩
  · exfalso
    have hst' : (decide (s.durable.log.last < (C10.snapOf s.durable).index) ||
        (decide (s.durable.log.prev < (C10.snapOf s.durable).index) &&
          ((s.durable.log.get? (C10.snapOf s.durable).index).map (·.term) != some (C10.snapOf s.durable).term))) = true :=
      hst
    rw [hidx, hterm, hlast, hget] at hst'
    have h1 : ¬ s.log.last < s.snapIndex := by
      have := ho.snap_le_applied; have := ho.applied_le_commit
      have := ho.commit_le_last; have := ho.last_eq
      omega
    rw [decide_eq_false h1, Bool.false_or, Bool.and_eq_true] at hst'
    obtain ⟨h2, h3⟩ := hst'
    have h2' : s.log.prev < s.snapIndex := of_decide_eq_true h2
    rw [ht.snapOk.termLog h2'] at h3
    simp at h3
  · exact e

/-- the restarted node and the live node use the same latest configuration when the log is completely flushed: for any
tracking, ordered node whose label the snapshot covers and whose configuration entries decode (`Mem`), whatever its ids and
the number of snapshots kept — that the restart succeeds is the hypothesis `h` -/
theorem restart_latest_eq_live (s : Node) (r : Nat) (sor : Bool) (n : Node) (ht : C12Track.Tracks s) (ho : Order.Ordered s)
    (hm : Mem s) (hL : C19Latest.LatestIsNewest s) (hfl : s.log.flushed = s.log.last)
    (h : Node.restart s.durable r sor = some n) : n.configs.latest = s.configs.latest := by
  have hpd := pd_durable ht.toCore ho.toCoreW hm
  have hLn := C19Latest.restart_latest_is_newest s.durable r sor n hpd.ok hpd.tracks (noDecodeErr_of_logDec _ hpd.dec) h
  obtain ⟨_, _, _, hlog, _⟩ := C10.restart_fsm s.durable r sor n h
  obtain ⟨_, _, e3, _⟩ := C10.restartNode_fields s.durable r sor
  obtain ⟨hent, hlo⟩ := durable_of_flushed s ht ho hfl
  obtain ⟨_, hcfg, _⟩ := C12Track.durable_snap s ht ho
  have hlab : label n = label s := by rw [restart_label h, hcfg]
  have hprev : n.log.prev = s.log.prev := by rw [hlog, e3, hlo]; rfl
  have hentn : n.log.entries = s.log.entries := by rw [hlog, e3, hlo]; exact hent
  have hnew : ∀ L i, newest n.log L i = newest s.log L i := by
    intro L i; unfold newest pre; rw [hprev, hentn]
  have hlast : n.log.last = s.log.last := by unfold NLog.last; rw [hprev, hentn]
  rw [hLn.latest, hL.latest, hlab, hnew, hlast]

/-- **the live node and the restarted node use the same latest configuration when the log is completely flushed**
(`flushed = last`: e.g. a follower after any append request that stored something — `commitLog(lastLogIndex)` —, any
node after a restart, a leader once its last entry is committed). Let `s` satisfy `CrashInv` and
`C19Latest.LatestIsNewest` (its `configs.latest` is the newest configuration entry of its log, else the label). Then the
node restarted from `s`'s disk has `configs.latest = s.configs.latest`. (With unflushed entries the restarted node uses
the configurations of the flushed prefix: `tracks_after_crash_at_any_point_partial`.) -/
theorem restart_latest_eq_live_of_flushed (s : Node) (r : Nat) (sor : Bool) (n : Node) (hi : CrashInv s)
    (hL : C19Latest.LatestIsNewest s) (hfl : s.log.flushed = s.log.last) (hret : 1 ≤ r)
    (h : Node.restart s.durable r sor = some n) : n.configs.latest = s.configs.latest :=
  restart_latest_eq_live s r sor n hi.tracks hi.ordered hi.mem hL hfl h

/-- the follower `C12Track.exT` (snapshot at 1 labelled `c1`; entries 2 no-op, 3 configuration `c3`, 4 update; applied
and committed 2; `latest = c3`, `committed = c1`) receives from the leader of term 2 (node 2) entries 3' (no-op) and 4'
(a configuration with nodes 1, 2, 3) after entry 2: entries 3 (the latest configuration) and 4 are deleted. -/
def exReq : AppendReq :=
  { term := 2, src := 2, prevLogIndex := 2, prevLogTerm := 1, ldrCommitIndex := 2,
    entries := [{ index := 3, term := 2, typ := etNop },
                { index := 4, term := 2, typ := etConfig,
                  cfg := some { nodes := [C12Track.n1, C12Track.n2, { id := 3, addr := "c:1" }] } }] }

/-- the configuration of entry 4' -/
def c4 : Config := { nodes := [C12Track.n1, C12Track.n2, { id := 3, addr := "c:1" }], index := 4, term := 2 }

theorem exT_crashInv : CrashInv C12Track.exT :=
  ⟨C12Track.exT_tracks, C12Track.exT_ordered, by decide, by decide, by decide⟩

/-- EXAMPLE (`tracks_after_crash_at_any_point_partial`): its hypotheses hold for `exT` and the request; the step has
three storage points: `value.set` (term 2), `removeGTE` (entries 3, 4 deleted), `commitLog` (3', 4' flushed). -/
example :
    CrashInv C12Track.exT ∧ Order.ReqOk C12Track.exT (.append exReq) ∧ ReqDec C12Track.exT (.append exReq) ∧
    SnapFb C12Track.exT ∧ (C12Track.exT.step (.append exReq) [] []).panicked = none ∧
    (C12Track.exT.step (.append exReq) [] []).trace.map (·.1) = ["value.set", "removeGTE", "commitLog"] :=
  ⟨exT_crashInv, by decide, by decide, by decide, by decide, by decide⟩

/-- EXAMPLE, the crash points one by one (restart with `retain = 1`): what the restarted node uses as
`(latest, committed)` and what it holds as log.
* `k = 0, 1` (before the step / after `value.set`): the old log 2, 3, 4 — `latest = c3` (entry 3), `committed = c1` (label);
* `k = 2` (after `removeGTE`, before the replacement entries are flushed): the log is cut back to entry 2, the latest
  configuration entry is gone — `latest = committed = c1`, the label: exactly what `revertConfig` leaves on the live node;
* `k = 3` (after `commitLog`): entries 2, 3', 4' — `latest = c4` (entry 4'), `committed = c1`.
In every case the restarted node tracks (and is ordered). -/
example :
    let d := fun k => C05.crashDisk C12Track.exT (.append exReq) [] [] k
    let cfgs := fun k => (Node.restart (d k) 1 true).map (fun n => (n.configs.latest, n.configs.committed))
    let logs := fun k => (Node.restart (d k) 1 true).map
      (fun n => (n.log.entries.map (fun e => (e.index, e.term)), decide (C12Track.Tracks n)))
    cfgs 0 = some (C12Track.c3, C12Track.c1) ∧ logs 0 = some ([(2, 1), (3, 1), (4, 1)], true) ∧
    cfgs 1 = some (C12Track.c3, C12Track.c1) ∧ logs 1 = some ([(2, 1), (3, 1), (4, 1)], true) ∧
    cfgs 2 = some (C12Track.c1, C12Track.c1) ∧ logs 2 = some ([(2, 1)], true) ∧
    cfgs 3 = some (c4, C12Track.c1) ∧ logs 3 = some ([(2, 1), (3, 2), (4, 2)], true) := by
  refine ⟨by decide, by decide, by decide, by decide, by decide, by decide, by decide, by decide⟩

/-- … and the live node at the moment of the `removeGTE` crash point has reverted to the same configuration: the
completed step (which then appends 3', 4') ends with `latest = c4`, `committed = c1`. -/
example :
    (C12Track.exT.resolveConflict { index := 3, term := 2, typ := etNop } 1).configs =
      { committed := C12Track.c1, latest := C12Track.c1 } ∧
    (C12Track.exT.step (.append exReq) [] []).configs = { committed := C12Track.c1, latest := c4 } := by
  refine ⟨by decide, by decide⟩

/-- EXAMPLE (`restart_latest_eq_live_of_flushed`): `exT` is completely flushed and its latest configuration is the
newest configuration entry of its log; the node restarted from its disk uses the same (`c3`, entry 3). -/
example :
    C19Latest.LatestIsNewest C12Track.exT ∧ C12Track.exT.log.flushed = C12Track.exT.log.last ∧
    (Node.restart C12Track.exT.durable 1 true).map (·.configs.latest) = some C12Track.exT.configs.latest :=
  ⟨by decide, by decide, by decide⟩

/-- EXAMPLE (`restart_config_from_label_partial`): the disk `C10.exDisk` (snapshot at 2 labelled with node 9; entries 3
no-op, 4 a configuration with node 1) satisfies the hypotheses; one configuration entry above the snapshot:
`latest` is entry 4's, `committed` and the FSM's configuration are the label. -/
example :
    C10.DurWF C10.exDisk ∧
    C10.NoDecodeErr (C10.window (C10.logOf C10.exDisk) (C10.snapOf C10.exDisk).index (C10.logOf C10.exDisk).last) ∧
    (Node.restart C10.exDisk 1 true).map (fun n => (n.configs.latest.index, n.configs.committed, n.fsm.config)) =
      some (4, (C10.snapOf C10.exDisk).config, (C10.snapOf C10.exDisk).config) := by
  refine ⟨by unfold C10.DurWF; decide, ?_, by decide⟩
  unfold C10.NoDecodeErr
  decide

/-- EXAMPLE (`tracks_after_crash_good_partial`): its hypotheses hold for the follower `C15NoPanic.exF` (entries 2..4
above a snapshot at 1) and the append request `C19Order.exAppend` (entries 4..6). -/
example :
    NoPanic.Good true C15NoPanic.exF ∧ C15NoPanic.exF.closed = "" ∧ C12Track.Tracks C15NoPanic.exF ∧
    Mem C15NoPanic.exF ∧ C15NoPanic.exF.cid ≠ 0 ∧ C15NoPanic.exF.nid ≠ 0 ∧
    NoPanic.ReqOk' true C15NoPanic.exF (.append C19Order.exAppend) ∧
    SnapFbOp C15NoPanic.exF (.append C19Order.exAppend) :=
  ⟨C15NoPanic.exF_good, rfl, by decide, by decide, by decide, by decide, by decide, by decide⟩

-- evaluation (a test, not a proof: the step commits, and the kernel gets stuck on `List.mergeSort` in
-- `majorityMatchIndex`): the leader `C15NoPanic.exL` (entries 1..3, commit index 2; node 3 a non-voter to be
-- promoted) learns that node 3 has caught up: it APPENDS the configuration
-- entry 4 that promotes node 3 and (counting node 3 at once) commits entry 3 — one storage point, `commitLog`, which
-- flushes entry 4 as well. Restarted from the disk before the step the node uses the bootstrap configuration (entry 1;
-- `committed` is the zero label: there is no snapshot), from the `commitLog` point on entry 4 — in each case the node
-- tracks and its latest configuration is the newest configuration entry of its log.
#guard (List.range 3).map (fun k =>
    (Node.restart (C05.crashDisk C15NoPanic.exL (.replUpdates [{ id := 3, upd := .matchIndex 3 }]) [] [] k) 1 true).map
      (fun n => (n.configs.latest.index, n.configs.committed.index, n.log.entries.length, decide (C12Track.Tracks n),
                 decide (C19Latest.LatestIsNewest n)))) ==
  [some (1, 0, 3, true, true), some (4, 1, 4, true, true), some (4, 1, 4, true, true)]

/-- NECESSITY of `ReqDec` — and a behaviour of the Go code worth knowing: a follower APPENDS an entry before decoding
it (`onAppendEntriesRequest`: `storage.appendEntry(ne)`, then `if ne.typ == entryConfig { config.decode(ne) }`), and the
deferred `commitLog` flushes it although the handler fails with `unexpectedErr`. If the process dies after that
`commitLog` point (crash point name `commitLog`, `k = 1` here) `openStorage` meets the undecodable configuration entry
and fails: the node cannot be restarted on this directory. (`ReqDec` is violated; the completed step panics in
`replyRPC`. NOT reachable with a correct leader: leaders store only configurations they encoded themselves.) -/
theorem undecodable_entry_blocks_restart :
    let q : AppendReq := { term := 1, src := 2, prevLogIndex := 4, prevLogTerm := 1,
                           entries := [{ index := 5, term := 1, typ := etConfig, cfg := none }] }
    CrashInv C12Track.exT ∧ Order.ReqOk C12Track.exT (.append q) ∧ ¬ ReqDec C12Track.exT (.append q) ∧
    (C12Track.exT.step (.append q) [] []).trace.map (·.1) = ["commitLog"] ∧
    (C12Track.exT.step (.append q) [] []).panicked = some "error.unexpectedErr" ∧
    Node.restart (C05.crashDisk C12Track.exT (.append q) [] [] 1) 1 true = none := by
  refine ⟨exT_crashInv, by decide, by decide, by decide, by decide, by decide⟩

/-- NECESSITY of `SnapFb`: a tracking, ordered state whose FSM holds NO configuration (entries 1..4 are no-ops) with a
snapshot request that captured a configuration of index 7. `snapRun` stores the file at 4 labelled with it; a node
restarted from the `snap.publish` point uses it as `latest` with index 7 > last log index 4: not `Ordered`
(`Tracks` holds). NOT reachable in a cluster: entry 1 of every log is the bootstrap configuration. -/
theorem snapFb_needed :
    let rqc : Config := { nodes := [C12Track.n1], index := 7, term := 1 }
    let s : Node := { C19Order.nec1 with cid := 1, nid := 1, commitIndex := 4, fsm := { index := 4, term := 1 },
                                         snapPending := some { task := 1, minIndex := 0, config := rqc } }
    C12Track.Tracks s ∧ Mem s ∧ ¬ SnapFb s ∧ (s.step .snapRun [] []).panicked = none ∧
    ((Node.restart (C05.crashDisk s .snapRun [] [] 1) 1 true).map
      (fun n => (decide (C12Track.Tracks n), n.configs.latest.index, n.lastLogIndex))) = some (true, 7, 4) := by
  refine ⟨by decide, by decide, by decide, by decide, by decide⟩

end C12Crash
end Raft

#print axioms Raft.TrackCrash.pd_durable
#print axioms Raft.TrackCrash.tj_stepAll
#print axioms Raft.C12Crash.pd_restart
#print axioms Raft.C12Crash.crashDisk_pd_other
#print axioms Raft.C12Crash.crashDisk_pd_install
#print axioms Raft.C12Crash.crashDisk_pd
#print axioms Raft.C12Crash.tracks_after_crash_at_any_point_partial
#print axioms Raft.C12Crash.mem_install
#print axioms Raft.C12Crash.crashInv_step
#print axioms Raft.C12Crash.snapFbOp_of_noFallback
#print axioms Raft.C12Crash.tracks_after_crash_good_partial
#print axioms Raft.C12Crash.restart_config_from_label_partial
#print axioms Raft.C12Crash.crashDisk_restart_hyps
#print axioms Raft.C12Crash.durable_of_flushed
#print axioms Raft.C12Crash.restart_latest_eq_live_of_flushed
#print axioms Raft.C12Crash.exT_crashInv
#print axioms Raft.C12Crash.undecodable_entry_blocks_restart
#print axioms Raft.C12Crash.snapFb_needed
#print axioms Raft.TrackCrash.block
