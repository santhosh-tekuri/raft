/-
C19 / C12 / C10 — **the state machine holds a configuration once it has applied anything**: discharging the recurring
assumption "the fallback of `doTakeSnapshot` is not taken / is harmless" (`C19Latest.NoFallback`, `TrackCrash.SnapFbOp`)
from per-node invariants.

Background. `snapRun` labels a snapshot with the FSM's cached configuration `fsm.config`; if the FSM holds NONE
(`fsm.config.index = 0`) it falls back to the configuration captured at request time. `C12Track.Tracks` says: a cached
configuration is the newest one at or below `fsm.index`, and if none is cached the LOG holds no configuration entry at or
below `fsm.index` — it does not exclude "no cached configuration above a compacted prefix" (`exNoCfg` below).

The invariant `CfgInv s` (three clauses):
* `first`  (`FirstIsConfig`) : the log entry with index 1, if the log holds it, is a (decodable) configuration entry;
* `labels` (`FsmCfg.LabelsPos`) : every snapshot file on disk is labelled with a real configuration (`index ≥ 1`);
* `above`  (`FsmCfg.Above`) : if the node has a snapshot (`snapIndex ≥ 1`), the state machine is at or beyond it and
                              HOLDS a configuration.
With `Tracks`, `Ordered` and a covered label, `CfgInv` gives `FsmHasConfig` (`fsm_has_config`), hence `no_fallback` and
`snapFbOp` (the hypotheses of C19Latest / C12Crash / C10Sys2; section 4 restates their theorems without them). Clauses
`labels` and `above` are INDUCTIVE for every operation, oracle and input, provided an install request that is not stale
carries a real configuration (`above_step`, `ReqLab`; the framework is Lemmas/FsmConfigA.lean — a variant of `StepClosed`
whose FSM primitives are what the FSM goroutine does — with its instance Lemmas/FsmConfigB.lean); a restart establishes all
three clauses (`restart_cfgInv`, `durable_cfg`).
NOT proved in this file: that clause `first` is preserved by every step (it is for the log operations themselves —
truncation, compaction, reset keep it; an append keeps it unless it stores a non-configuration entry at index 1, which a
leader with an empty log would do: excluding that needs "a node with an empty log has an empty configuration", which
`CfgInv` does not give: `first_needs_latest`); therefore `cfgInv_step_partial` takes `FirstIsConfig` of the post-state as
a hypothesis, and the system-level statement is relative to `CfgInv` of the node. Props/C19FsmConfigSys.lean proves it
with `C19Latest.LatestIsNewest` added to the invariant (`first_is_config_step`, `nodeInv_step`), Props/C19FsmConfigRun.lean
carries that invariant along the runs.
-/
import RaftVerif.Lemmas.FsmConfigB
import RaftVerif.Props.C12Crash
import RaftVerif.Props.C10Sys2

namespace Raft
namespace C19FsmConfig
open Node Track Order FsmCfg

/-- the entry with index 1, if the log holds it, is a (decodable) configuration entry — the bootstrap configuration -/
def FirstIsConfig (s : Node) : Prop := ∀ e ∈ s.log.entries, e.index = 1 → e.config?.isSome = true

instance (s : Node) : Decidable (FirstIsConfig s) := by unfold FirstIsConfig; infer_instance

/-- **entry 1 is a configuration, every snapshot label is a real configuration, and above a snapshot the state machine
holds a configuration** (see the file header) -/
structure CfgInv (s : Node) : Prop where
  first : FirstIsConfig s
  labels : LabelsPos s.snapsDisk
  above : Above s

instance (s : Node) : Decidable (CfgInv s) :=
  decidable_of_iff (FirstIsConfig s ∧ LabelsPos s.snapsDisk ∧ Above s)
    ⟨fun ⟨a, b, c⟩ => ⟨a, b, c⟩, fun h => ⟨h.first, h.labels, h.above⟩⟩

/-- **the state machine holds a configuration once it has applied anything**: a real one, of an index the applied
prefix covers, and it is the newest configuration entry at or below `fsm.index` of snapshot label + log -/
def FsmHasConfig (s : Node) : Prop :=
  1 ≤ s.fsm.index → 1 ≤ s.fsm.config.index ∧ s.fsm.config.index ≤ s.fsm.index ∧
    s.fsm.config = newest s.log (label s) s.fsm.index

instance (s : Node) : Decidable (FsmHasConfig s) := by unfold FsmHasConfig; infer_instance

/-- what is asked of an install request: stale, or labelled with a real configuration (true of every request a leader
builds from a snapshot file of a `CfgInv` node) -/
def ReqLab (s : Node) : Op → Prop
  | .install q => q.term < s.term ∨ 0 < q.lastConfig.index
  | _ => True

instance (s : Node) (op : Op) : Decidable (ReqLab s op) := by cases op <;> unfold ReqLab <;> infer_instance

/-- **`FsmHasConfig` from the invariants.** In a tracking, ordered state whose newest snapshot label is covered by the
snapshot and which satisfies `CfgInv`, a state machine that has applied anything holds a real configuration, of an index
it has applied, and that configuration is the newest one at or below `fsm.index` (label + log). Without a snapshot the
log starts at 0 and holds entry 1 — a configuration (`first`) —, so `Tracks.fsmOk.cfgZero` excludes an empty cache; with
a snapshot this is clause `above`. -/
theorem fsm_has_config (s : Node) (ht : C12Track.Tracks s) (ho : Ordered s) (hl : (label s).index ≤ s.snapIndex)
    (hi : CfgInv s) : FsmHasConfig s := by
  intro h1
  have hpos : 0 < s.fsm.config.index := by
    by_cases hs : 1 ≤ s.snapIndex
    · exact (hi.above hs).2
    · refine Nat.pos_of_ne_zero fun hz => ?_
      exact first_in_pre ht.contig (by have := ho.prev_le_snap; omega) hi.first h1 (Nat.le_trans h1 ht.fsmLe)
        (ht.fsmOk.cfgZero hz)
  have he := ht.fsmOk.cfgPos hpos
  refine ⟨hpos, ?_, he⟩
  rw [he]
  exact TrackCrash.newest_index_le ht.contig _ _ (by have := ho.snap_le_applied; omega)

/-- … in particular the hypothesis of `C19Latest` holds for every operation -/
theorem no_fallback (s : Node) (op : Op) (ho : Ordered s) (hf : FsmHasConfig s) : Latest.NoFallback s op := by
  cases op <;> first
    | trivial
    | (intro rq _ hne _
       have := ho.snap_le_applied
       exact (hf (by omega)).1)

/-- … and that of `C12Crash` / `C10Sys2` -/
theorem snapFbOp (s : Node) (op : Op) (ho : Ordered s) (hf : FsmHasConfig s) : TrackCrash.SnapFbOp s op :=
  C12Crash.snapFbOp_of_noFallback s op (no_fallback s op ho hf)

theorem posIdx_of_contig {l : NLog} (hc : C03.LogContig l) : PosIdx l := by
  intro e he
  obtain ⟨k, hk, rfl⟩ := List.getElem_of_mem he
  rw [hc k hk]; omega

/-- **"above a snapshot the state machine holds a configuration" is inductive** (and so is "every snapshot file is
labelled with a real configuration"): from a tracking, ordered state with `CfgInv`, EVERY operation — any oracle, any
input; an install request that is not stale must carry a real configuration (`ReqLab`) — handled to completion without a
Go panic leads to a state with clauses `labels` and `above`. The FSM goroutine replaces its configuration only by one
decoded from a log entry or by the label of a file on disk; the snapshot goroutine takes the FSM's configuration, which
it holds (`fsm_has_config`) — the fallback is not taken. -/
theorem above_step (s : Node) (op : Op) (ra : List Nat) (ord : List (List Nat)) (ht : C12Track.Tracks s)
    (ho : Ordered s) (hl : (label s).index ≤ s.snapIndex) (hi : CfgInv s) (hq : ReqLab s op)
    (hp : (s.step op ra ord).panicked = none) :
    LabelsPos (s.step op ra ord).snapsDisk ∧ Above (s.step op ra ord) := by
  have hf := fsm_has_config s ht ho hl hi
  have hps : PS s := fun _ h1 => (hf h1).1
  have hop : FOpOk PF PS (s.begin ra ord) op := by
    cases op <;> first | exact hq | exact hps | trivial | skip
    case shutdown =>
      exact Track.keepS_congr (Q := fun _ f i => i = 0 → 1 ≤ f.index → 0 < f.config.index)
        (Track.keepS_shutdownPre (s.begin ra ord) "serverClosed" ((s.begin ra ord).doClose "serverClosed").role) hps
  have := k_step s op ra ord ⟨posIdx_of_contig ht.contig, hi.labels, hi.above⟩ hop hp
  exact ⟨this.2.1, this.2.2⟩

/-- **one step (partial: `FirstIsConfig` of the post-state is a hypothesis).** From a state satisfying
`C12Crash.CrashInv` (tracking, ordered, label covered, ids set) and `CfgInv`, an acceptable operation (`Order.ReqOk`,
`ReqDec`, `ReqLab`) handled to completion leads to a state satisfying both again, and in which the state machine holds
a configuration — with NO hypothesis on the snapshot goroutine. That clause `first` survives the step is assumed of the
post-state here (see the file header; `C19FsmConfigSys.nodeInv_step` is the statement without it). -/
theorem cfgInv_step_partial (s : Node) (op : Op) (ra : List Nat) (ord : List (List Nat)) (hc : C12Crash.CrashInv s)
    (hi : CfgInv s) (hr : ReqOk s op) (hd : TrackCrash.ReqDec s op) (hq : ReqLab s op)
    (hp : (s.step op ra ord).panicked = none) (hfirst : FirstIsConfig (s.step op ra ord)) :
    C12Crash.CrashInv (s.step op ra ord) ∧ CfgInv (s.step op ra ord) ∧ FsmHasConfig (s.step op ra ord) := by
  have hf := fsm_has_config s hc.tracks hc.ordered hc.mem.lab hi
  have hc' := C12Crash.crashInv_step s op ra ord hc hr hd (snapFbOp s op hc.ordered hf) hp
  obtain ⟨a, b⟩ := above_step s op ra ord hc.tracks hc.ordered hc.mem.lab hi hq hp
  have hi' : CfgInv (s.step op ra ord) := ⟨hfirst, a, b⟩
  exact ⟨hc', hi', fsm_has_config _ hc'.tracks hc'.ordered hc'.mem.lab hi'⟩

/-- what a restart needs of the disk: entry 1 of the log, if held, is a configuration; every snapshot file carries a
real configuration -/
structure DiskCfg (d : Durable) : Prop where
  first : ∀ e ∈ d.log.entries, e.index = 1 → e.config?.isSome = true
  labels : LabelsPos d.snaps

instance (d : Durable) : Decidable (DiskCfg d) :=
  decidable_of_iff ((∀ e ∈ d.log.entries, e.index = 1 → e.config?.isSome = true) ∧ LabelsPos d.snaps)
    ⟨fun ⟨a, b⟩ => ⟨a, b⟩, fun h => ⟨h.first, h.labels⟩⟩

/-- **a restart establishes `CfgInv`** (`openStorage` + `New` + the restore step of `Serve`): the state machine is
restored from the newest snapshot file and holds its label. -/
theorem restart_cfgInv (d : Durable) (r : Nat) (sor : Bool) (n : Node) (hd : DiskCfg d)
    (h : restart d r sor = some n) : CfgInv n := by
  obtain ⟨hfsm, _, hsnap, hlog, _, _, hdisk⟩ := C10.restart_fsm d r sor n h
  obtain ⟨_, _, e3, _⟩ := C10.restartNode_fields d r sor
  refine ⟨?_, by rw [hdisk]; exact hd.labels, ?_⟩
  · intro e he
    have he' : e ∈ (C10.logOf d).entries := by rw [hlog, e3] at he; exact he
    exact hd.first e (C15NoPanic.logOf_entries d e he')
  · intro hs
    rw [hsnap] at hs
    rw [if_pos (by omega)] at hfsm
    rw [hfsm.1, hsnap]
    refine ⟨Nat.le_refl _, ?_⟩
    show 0 < (C10.snapOf d).config.index
    unfold C10.snapOf at hs ⊢
    cases hh : d.snaps.head? with
    | none => rw [hh] at hs; exact absurd hs (by decide)
    | some f => exact hd.labels f (List.mem_of_mem_head? hh)

/-- the disk of a `CfgInv` node (between two steps) is such a disk: crash + restart keeps `CfgInv` -/
theorem durable_cfg (s : Node) (hi : CfgInv s) : DiskCfg s.durable :=
  ⟨fun e he => hi.first e (List.mem_of_mem_take (show e ∈ s.log.entries.take _ from he)), hi.labels⟩

/-! ### 4. the theorems that assume "the fallback is not taken", without that hypothesis -/

/-- **C19Latest without `NoFallback`**: the latest configuration stays the newest configuration entry of log ∪
snapshot through EVERY acceptable operation handled to completion, from a tracking, ordered, `CfgInv` state whose label
is covered by its snapshot. -/
theorem latest_is_newest_step_nofb (s : Node) (op : Op) (ra : List Nat) (ord : List (List Nat))
    (hln : C19Latest.LatestIsNewest s) (ht : C12Track.Tracks s) (ho : Ordered s)
    (hl : (label s).index ≤ s.snapIndex) (hi : CfgInv s) (hr : ReqOk s op)
    (hp : (s.step op ra ord).panicked = none) : C19Latest.LatestIsNewest (s.step op ra ord) :=
  C19Latest.latest_is_newest_step s op ra ord hln ht ho hr (no_fallback s op ho (fsm_has_config s ht ho hl hi)) hp

/-- **`C12Crash.CrashInv` is inductive without `SnapFbOp`** for `CfgInv` states -/
theorem crashInv_step_nofb (s : Node) (op : Op) (ra : List Nat) (ord : List (List Nat)) (hc : C12Crash.CrashInv s)
    (hi : CfgInv s) (hr : ReqOk s op) (hd : TrackCrash.ReqDec s op) (hp : (s.step op ra ord).panicked = none) :
    C12Crash.CrashInv (s.step op ra ord) :=
  C12Crash.crashInv_step s op ra ord hc hr hd
    (snapFbOp s op hc.ordered (fsm_has_config s hc.tracks hc.ordered hc.mem.lab hi)) hp

/-- **C12 at every crash point, without `SnapFbOp` (partial: as `C12Crash.tracks_after_crash_at_any_point_partial`;
`CfgInv s` instead of the condition on the snapshot goroutine).** Let `s` satisfy `CrashInv` and `CfgInv`, `op` be ANY
operation acceptable in the sense of `Order.ReqOk` whose configuration entries decode, handled with ANY oracle without a
Go panic; let the process die after ANY number `k` of storage points of that step — those of the snapshot goroutine
(`snap.publish`, `snap.retain`) and of `shutdown` included — and restart with `retain = r ≥ 1`. Then the restart
succeeds, the restarted node tracks, is ordered, derives its configurations from label + log on disk at that point,
satisfies `LatestIsNewest` and `CrashInv`. -/
theorem tracks_after_crash_at_any_point_nofb_partial (s : Node) (op : Op) (ra : List Nat) (ord : List (List Nat))
    (k r : Nat) (sor : Bool) (hc : C12Crash.CrashInv s) (hi : CfgInv s) (hr : ReqOk s op)
    (hd : TrackCrash.ReqDec s op) (hp : (s.step op ra ord).panicked = none) (hret : 1 ≤ r) :
    ∃ n, Node.restart (C05.crashDisk s op ra ord k) r sor = some n ∧
      C12Track.Tracks n ∧ Order.Ordered n ∧
      n.configs.latest = ((C10.configsAbove (C05.crashDisk s op ra ord k))[0]?).getD
        (C10.snapOf (C05.crashDisk s op ra ord k)).config ∧
      n.configs.committed = ((C10.configsAbove (C05.crashDisk s op ra ord k))[1]?).getD
        (C10.snapOf (C05.crashDisk s op ra ord k)).config ∧
      C19Latest.LatestIsNewest n ∧ C12Crash.CrashInv n :=
  C12Crash.tracks_after_crash_at_any_point_partial s op ra ord k r sor hc hr hd
    (snapFbOp s op hc.ordered (fsm_has_config s hc.tracks hc.ordered hc.mem.lab hi)) hp hret

section
open Snap4 RestartSys
variable {V : List Nat}

/-- **C10 (1) on `Raft.Snap4` without `SnapFbOp` (partial: the restrictions of `C10Sys2.restart_succeeds_snap_partial`;
the node is assumed to satisfy `CfgInv`; `C19FsmConfigRun.restart_succeeds_snap_run_partial` is the statement along the
runs).** A node `i` of a
reachable state that has a cluster id and satisfies `CfgInv`, dying at ANY crash point `k` of ANY enabled operation
(the snapshot goroutine included) that would complete, restarts successfully as a `RestartSys.Restarted` node. -/
theorem restart_succeeds_snap_nofb_partial (hV : V.Nodup) (x : Snap3.Sys) (h : Reachable4 V x) (i : Nat) (op : Op)
    (ra : List Nat) (ord : List (List Nat)) (src : Nat) (en : Snap.Enabled x.s2.cs i op src)
    (hp : ((x.node i).step op ra ord).panicked = none) (hcid : (x.node i).cid ≠ 0) (hi : CfgInv (x.node i))
    (k r : Nat) (hr : 1 ≤ r) (sor : Bool) :
    ∃ n, Node.restart (C05.crashDisk (x.node i) op ra ord k) r sor = some n ∧
      Restarted (x.node i) (C05.crashDisk (x.node i) op ra ord k) n ∧ n.nid = i := by
  have hc := crashInv_node4 hV h i en.id hcid
  exact C10Sys2.restart_succeeds_snap_partial hV x h i op ra ord src en hp
    (snapFbOp _ op hc.ordered (fsm_has_config _ hc.tracks hc.ordered hc.mem.lab hi)) hcid k r hr sor

end

/-- EXAMPLE (`fsm_has_config`, `above_step`): the follower `C12Track.exT` (snapshot at 1 labelled with the bootstrap
configuration `c1`, entries 2..4, entry 3 a configuration; applied 2) satisfies all hypotheses; its state machine holds
`c1`. After the heartbeat that commits up to 4 it holds `c3`, and the invariant holds again. -/
example :
    C12Track.Tracks C12Track.exT ∧ Ordered C12Track.exT ∧ (label C12Track.exT).index ≤ C12Track.exT.snapIndex ∧
    CfgInv C12Track.exT ∧ FsmHasConfig C12Track.exT ∧ C12Track.exT.fsm.config = C12Track.c1 ∧
    ReqLab C12Track.exT (.append C12Track.exBeat) ∧
    CfgInv (C12Track.exT.step (.append C12Track.exBeat) [] []) ∧
    (C12Track.exT.step (.append C12Track.exBeat) [] []).fsm.config = C12Track.c3 :=
  ⟨C12Track.exT_tracks, C12Track.exT_ordered, by decide, by decide, by decide, by decide, trivial, by decide, by decide⟩

/-- a bootstrapped single node without snapshot: entry 1 is the configuration, entries 2, 3 no-ops; applied 3 -/
def exBoot : Node :=
  { nid := 1, cid := 7, term := 1, durTerm := 1,
    log := { entries := [C12Track.c1.toEntry, { index := 2, term := 1, typ := etNop }, { index := 3, term := 1, typ := etNop }],
             flushed := 3, segs := [0] },
    lastLogIndex := 3, lastLogTerm := 1, configs := { committed := C12Track.c1, latest := C12Track.c1 },
    commitIndex := 3, fsm := { index := 3, term := 1, config := C12Track.c1 },
    snapPending := some { task := 1, minIndex := 0, config := C12Track.c1 } }

/-- EXAMPLE (no snapshot: clause `first` is what counts): `exBoot` tracks and satisfies `CfgInv`; the snapshot
goroutine does not take the fallback; afterwards the snapshot at 3 is labelled `c1` and `CfgInv` holds. -/
example :
    C12Track.Tracks exBoot ∧ CfgInv exBoot ∧ FsmHasConfig exBoot ∧ Latest.NoFallback exBoot .snapRun ∧
    (exBoot.step .snapRun [] []).snapsDisk.map (fun f => (f.index, f.config)) = [(3, C12Track.c1)] ∧
    CfgInv (exBoot.step .snapRun [] []) := by
  refine ⟨by decide, by decide, by decide, ?_, by decide, by decide⟩
  intro rq _ _ _
  decide

/-- NECESSITY of clause `above` (what `Tracks` does not exclude): a follower whose log was compacted up to its snapshot
at 4 (label `c1`), entries 5, 6 no-ops, applied 6 — and a state machine holding NO configuration. It tracks and is
ordered, the label is fine, entry 1 is not held; only clause `above` fails, and the snapshot goroutine WOULD take the
fallback. (Not reachable: the state machine restored from / running past the snapshot at 4 holds `c1`.) -/
def exNoCfg : Node :=
  { nid := 1, cid := 7, term := 1, durTerm := 1,
    log := { prev := 4, entries := [{ index := 5, term := 1, typ := etNop }, { index := 6, term := 1, typ := etNop }],
             flushed := 6, segs := [4] },
    lastLogIndex := 6, lastLogTerm := 1, snapIndex := 4, snapTerm := 1,
    snapsDisk := [{ index := 4, term := 1, config := C12Track.c1 }],
    configs := { committed := C12Track.c1, latest := C12Track.c1 },
    commitIndex := 6, fsm := { index := 6, term := 1 },
    snapPending := some { task := 1, minIndex := 0, config := C12Track.c1 } }

example :
    C12Track.Tracks exNoCfg ∧ FirstIsConfig exNoCfg ∧ LabelsPos exNoCfg.snapsDisk ∧ ¬ Above exNoCfg ∧
    ¬ FsmHasConfig exNoCfg ∧ ¬ Latest.NoFallback exNoCfg .snapRun := by
  refine ⟨by decide, by decide, by decide, by decide, by decide, ?_⟩
  intro h
  exact absurd (h _ rfl (by decide) (by decide)) (by decide)

/-- NECESSITY of `ReqLab`: an install request labelled with the zero configuration leaves a state machine without
configuration above the installed snapshot. -/
example :
    let q : InstallReq := { term := 1, src := 2, lastIndex := 9, lastTerm := 1 }
    CfgInv C12Track.exT ∧ ¬ ReqLab C12Track.exT (.install q) ∧ (C12Track.exT.step (.install q) [] []).panicked = none ∧
    ¬ Above (C12Track.exT.step (.install q) [] []) := by
  refine ⟨by decide, by decide, by decide, by decide⟩

/-- a node with an EMPTY log that believes in a configuration of index 0 in which it is the only voter -/
def exEmpty : Node :=
  { nid := 1, cid := 7, configs := { committed := {}, latest := { nodes := [C12Track.n1] } } }

theorem exEmpty_ordered : Ordered exEmpty :=
  ⟨⟨by decide, by decide, by decide, by decide, by decide, by decide, ⟨by decide, by decide, by decide⟩, by decide,
    fun rs h => by cases h⟩, by decide⟩

/-- WHY CLAUSE `first` IS NOT INDUCTIVE FROM `Tracks`, `Ordered`, `CfgInv` ALONE (counterexample to the step theorem
without the hypothesis on the post-state): `exEmpty` satisfies the three of them (its log is empty). A `TimeoutNow`
request makes it a candidate, the single voter elects itself, `leader.init` stores its no-op AT INDEX 1, commits and
applies it: entry 1 is not a configuration, and the state machine has applied an entry without holding a configuration —
the next snapshot WOULD take the fallback. What excludes `exEmpty` is `C19Latest.LatestIsNewest` (the latest
configuration of a node with an empty log and no snapshot is the zero configuration, which has no voter): the invariant
that is inductive, `C19FsmConfigSys.NodeInv`, contains `LatestIsNewest` and "a node that is not a follower has a non-empty
log". NOT reachable. -/
theorem first_needs_latest :
    C12Track.Tracks exEmpty ∧ Ordered exEmpty ∧ CfgInv exEmpty ∧ ¬ C19Latest.LatestIsNewest exEmpty :=
  ⟨by decide, exEmpty_ordered, by decide, by decide⟩

-- the step itself, checked by evaluation (plain `decide` gets stuck on the leader block; `decide +kernel` evaluates it)
#guard (exEmpty.step .timeoutNow [] []).panicked = none
#guard (exEmpty.step .timeoutNow [] []).role = .leader
#guard (exEmpty.step .timeoutNow [] []).log.entries.map (fun e => (e.index, e.typ)) = [(1, etNop)]
#guard ((exEmpty.step .timeoutNow [] []).fsm.index, (exEmpty.step .timeoutNow [] []).fsm.config.index) = (1, 0)
#guard !decide (FirstIsConfig (exEmpty.step .timeoutNow [] []))
#guard !decide (FsmHasConfig (exEmpty.step .timeoutNow [] []))
#guard decide (C12Track.Tracks (exEmpty.step .timeoutNow [] []))

/-- EXAMPLE (`restart_cfgInv`): the disk of `exBoot` after its snapshot satisfies `DiskCfg`; the restarted node satisfies
`CfgInv` and its state machine holds the label. -/
example :
    DiskCfg (exBoot.step .snapRun [] []).durable ∧
    ((restart (exBoot.step .snapRun [] []).durable 1 true).map (fun n => (decide (CfgInv n), n.fsm.config)))
      = some (true, C12Track.c1) := by
  refine ⟨by decide, by decide⟩

end C19FsmConfig
end Raft

#print axioms Raft.C19FsmConfig.fsm_has_config
#print axioms Raft.C19FsmConfig.no_fallback
#print axioms Raft.C19FsmConfig.snapFbOp -- also C12
#print axioms Raft.C19FsmConfig.above_step
#print axioms Raft.C19FsmConfig.cfgInv_step_partial
#print axioms Raft.C19FsmConfig.restart_cfgInv
#print axioms Raft.C19FsmConfig.durable_cfg
#print axioms Raft.C19FsmConfig.latest_is_newest_step_nofb
#print axioms Raft.C19FsmConfig.crashInv_step_nofb -- also C12
#print axioms Raft.C19FsmConfig.tracks_after_crash_at_any_point_nofb_partial -- also C12
#print axioms Raft.C19FsmConfig.restart_succeeds_snap_nofb_partial -- also C10
#print axioms Raft.C19FsmConfig.first_needs_latest
#print axioms Raft.C19FsmConfig.exEmpty_ordered
#print axioms Raft.FsmCfg.k_closed
#print axioms Raft.FsmCfg.k_step
#print axioms Raft.Node.FStepClosed.step_inv
