/-
C19 (orderings) — The state a node reports is internally ordered, as an inductive invariant of `Node.step`.

`Order.Ordered s` (Lemmas/Order.lean):
  `log.prev ≤ snapIndex ≤ fsm.index (last applied) ≤ commitIndex ≤ lastLogIndex = log.last`,
  `configs.committed.index ≤ configs.latest.index ≤ lastLogIndex`
  (+ strengthening: segment list well formed, `leader.removeLTE ≤ snapIndex`, finished-snapshot index `≤ snapIndex`).

PROVED here, for EVERY operation, oracle and input:
* `ordered_step`: `Ordered s → ReqOk s op → (the step does not panic) → Ordered (s.step op rollAt orders)`;
* `applied_monotone`, `snapshot_index_monotone`: under the same hypotheses last-applied and snapshot index do
  not decrease (`commitIndex` and `term`: `Props/C19.lean`, no hypotheses at all);
* `ordered_run`: the same over any sequence of operations;
* `restart_ordered`: a restart from a well-formed disk (`DiskOK`) yields an ordered state.

"The step does not panic": a Go panic (failed `assert`, `ViewAt` beyond the log, `snaps.open` failing, …) kills
the process; the model records it in `panicked` and continues on a totalised path whose result is never
compared with the implementation. The orderings are claimed for steps that complete.

`ReqOk` is `True` for 18 of the 20 operations. It asks
* of an append request, unless its term is stale (`AppendOk`): (1) consecutive entries after `prevLogIndex`;
  (2) no entry conflicting with the log at or below the commit index; (3) … nor at or below
  `configs.committed.index`;
* of an install request, unless its term is stale or it is not ahead of the commit index (the handler ignores
  both by itself — F8/F9) (`InstallOk`): `lastConfig.index ≤ lastIndex`.
Each is NECESSARY: section "necessity" gives, for each, an ordered state and a request violating only that
clause after which the step completes without panic in an un-ordered state. None of the four is reachable in a
correct cluster (see the comments there); nothing is required of vote requests, replication updates (a match
index beyond the log makes `ViewAt` panic), tasks, timeouts, snapshot events.
-/
import RaftVerif.Lemmas.Order
import RaftVerif.Props.C19

namespace Raft
namespace C19Order
open Node Order

/-- **The orderings are inductive.** From an ordered state, an operation acceptable in the sense of `ReqOk`
(any operation but a malformed append/install request), handled to completion without a Go panic, leads to an
ordered state — for every oracle (`rollAt`, `orders`) and every input. -/
theorem ordered_step (s : Node) (op : Op) (rollAt : List Nat) (orders : List (List Nat))
    (ho : Ordered s) (hr : ReqOk s op) (hp : (s.step op rollAt orders).panicked = none) :
    Ordered (s.step op rollAt orders) := by
  obtain ⟨c, hcl, _, _⟩ := inv_step op rollAt orders ho hr hp
  exact ⟨c, hcl rfl⟩

/-- **last applied never decreases** over a completed step (same hypotheses). -/
theorem applied_monotone (s : Node) (op : Op) (rollAt : List Nat) (orders : List (List Nat))
    (ho : Ordered s) (hr : ReqOk s op) (hp : (s.step op rollAt orders).panicked = none) :
    s.fsm.index ≤ (s.step op rollAt orders).fsm.index :=
  (inv_step op rollAt orders ho hr hp).2.2.1

/-- **the snapshot index never decreases** over a completed step (same hypotheses). -/
theorem snapshot_index_monotone (s : Node) (op : Op) (rollAt : List Nat) (orders : List (List Nat))
    (ho : Ordered s) (hr : ReqOk s op) (hp : (s.step op rollAt orders).panicked = none) :
    s.snapIndex ≤ (s.step op rollAt orders).snapIndex :=
  (inv_step op rollAt orders ho hr hp).2.2.2

/-- the consequences of `Ordered` in the form the property is worded -/
theorem ordered_chain (s : Node) (ho : Ordered s) :
    s.fsm.index ≤ s.commitIndex ∧ s.commitIndex ≤ s.lastLogIndex ∧ s.lastLogIndex = s.log.last ∧
    s.log.prev ≤ s.snapIndex ∧ s.snapIndex ≤ s.commitIndex ∧ s.snapIndex ≤ s.lastLogIndex ∧
    s.configs.committed.index ≤ s.configs.latest.index ∧ s.configs.latest.index ≤ s.lastLogIndex := by
  have a := ho.snap_le_applied
  have b := ho.applied_le_commit
  have c := ho.commit_le_last
  exact ⟨b, c, ho.last_eq, ho.prev_le_snap, by omega, by omega, ho.committed_le_latest, ho.latest_le_last⟩

/-- every operation of the run is acceptable in the state it is handled in, and is handled to completion -/
def RunOk : Node → List (Op × List Nat × List (List Nat)) → Prop
  | _, [] => True
  | s, o :: os =>
    ReqOk s o.1 ∧ (s.step o.1 o.2.1 o.2.2).panicked = none ∧ RunOk (s.step o.1 o.2.1 o.2.2) os

def run (s : Node) (ops : List (Op × List Nat × List (List Nat))) : Node :=
  ops.foldl (fun s o => s.step o.1 o.2.1 o.2.2) s

/-- **over any sequence of events** the state stays ordered and last-applied / snapshot index never decrease. -/
theorem ordered_run (s : Node) (ops : List (Op × List Nat × List (List Nat))) (ho : Ordered s) (hr : RunOk s ops) :
    Ordered (run s ops) ∧ s.fsm.index ≤ (run s ops).fsm.index ∧ s.snapIndex ≤ (run s ops).snapIndex := by
  induction ops generalizing s with
  | nil => exact ⟨ho, Nat.le_refl _, Nat.le_refl _⟩
  | cons o os ih =>
    obtain ⟨h1, h2, h3⟩ := hr
    obtain ⟨a, b, c⟩ := ih _ (ordered_step s o.1 o.2.1 o.2.2 ho h1 h2) h3
    have m1 := applied_monotone s o.1 o.2.1 o.2.2 ho h1 h2
    have m2 := snapshot_index_monotone s o.1 o.2.1 o.2.2 ho h1 h2
    exact ⟨a, Nat.le_trans m1 b, Nat.le_trans m2 c⟩

/-- Disk well-formedness from which a restart yields an ordered state: the log starts at or below the newest
snapshot (`C10.DurWF`), its segment list is well formed, every entry is stored under its own index, and the
newest snapshot's label is a configuration the snapshot covers. -/
structure DiskOK (d : Durable) : Prop where
  durWF : C10.DurWF d
  segs : C09.SegsOK d.log
  indexed : ∀ i e, d.log.get? i = some e → e.index = i
  label : (C10.snapOf d).config.index ≤ (C10.snapOf d).index

/-- what `scanConfigs` returns, index-wise: the second configuration found lies in `(sn, i]`; when the scan
started without a `latest`, the first one found lies in `(sn, i]` and strictly above the second. -/
theorem scanConfigs_index (log : NLog) (hidx : ∀ i e, log.get? i = some e → e.index = i) (sn : Nat) :
    ∀ (fuel i : Nat) (latest : Option Config),
      (∀ c, (scanConfigs log sn fuel i latest).2.1 = some c → sn < c.index ∧ c.index ≤ i) ∧
      (latest = none → ∀ l, (scanConfigs log sn fuel i latest).1 = some l →
        sn < l.index ∧ l.index ≤ i ∧ ∀ c, (scanConfigs log sn fuel i latest).2.1 = some c → c.index < l.index) ∧
      (∀ l0, latest = some l0 → (scanConfigs log sn fuel i latest).1 = some l0) := by
  intro fuel
  induction fuel with
  | zero =>
    intro i latest
    unfold scanConfigs
    exact ⟨fun c h => (by cases h), fun hl l h => (by rw [hl] at h; cases h), fun l0 h => h⟩
  | succ f ih =>
    intro i latest
    unfold scanConfigs
    split
    · exact ⟨fun c h => (by cases h), fun hl l h => (by rw [hl] at h; cases h), fun l0 h => h⟩
    · rename_i hgt
      split
      · exact ⟨fun c h => (by cases h), fun hl l h => (by rw [hl] at h; cases h), fun l0 h => h⟩
      · rename_i e he
        have hei : e.index = i := hidx i e he
        split
        · rename_i c hc
          have hci : c.index = i := by rw [(Entry.config?_facts hc).2.1]; exact hei
          split
          · -- latest = none: continue with `some c`
            obtain ⟨i1, _, i3⟩ := ih (i - 1) (some c)
            have h1 := i3 c rfl
            refine ⟨fun c' h => ?_, fun _ l h => ?_, fun l0 h => (by cases h)⟩
            · have := i1 c' h; omega
            · rw [h1] at h
              injection h with h
              subst h
              refine ⟨by omega, by omega, fun c' h' => ?_⟩
              have := i1 c' h'; omega
          · rename_i l
            refine ⟨fun c' h => ?_, fun hl => (by cases hl), fun l0 h => h⟩
            injection h with h
            subst h
            omega
        · split
          · exact ⟨fun c h => (by cases h), fun hl l h => (by rw [hl] at h; cases h), fun l0 h => h⟩
          · obtain ⟨i1, i2, i3⟩ := ih (i - 1) latest
            refine ⟨fun c h => ?_, fun hl l h => ?_, i3⟩
            · have := i1 c h; omega
            · obtain ⟨a, b, c⟩ := i2 hl l h
              exact ⟨a, by omega, c⟩

theorem logOf_indexed (d : Durable) (h : ∀ i e, d.log.get? i = some e → e.index = i) :
    ∀ i e, (C10.logOf d).get? i = some e → e.index = i :=
  C10.logOf_ind (P := fun l => ∀ i e, l.get? i = some e → e.index = i) d (fun _ i x hx => by
    unfold NLog.get? NLog.reset at hx
    dsimp only at hx
    split at hx
    · simp at hx
    · cases hx) fun _ => h

/-- **a restart re-establishes the orderings** from any disk content satisfying `DiskOK`: the restarted node
(`openStorage` + `New` + the restore step of `Serve`) is `Ordered` — with `fsm.index = commitIndex = snapIndex`. -/
theorem restart_ordered (d : Durable) (r : Nat) (sor : Bool) (n : Node) (hd : DiskOK d)
    (h : restart d r sor = some n) : Ordered n := by
  obtain ⟨hfsm, _, hsnap, hlog, hlast, hcfg, _⟩ := C10.restart_fsm d r sor n h
  obtain ⟨_, _, _, hn⟩ := C10.restart_some d r sor n h
  obtain ⟨p1, p2⟩ := C10.restart_log_prev_le_snapshot d r sor hd.durWF
  obtain ⟨q1, _, _⟩ := C10.restart_log_contiguous_with_snapshot d r sor
  obtain ⟨e1, _, e3, e4, _⟩ := C10.restartNode_fields d r sor
  -- ldr and snapResult are the initial ones
  have hldr : n.ldr.removeLTE = 0 ∧ n.snapResult = none := by
    rw [hn]
    split
    · rw [fsmRestore_eq]; exact ⟨rfl, rfl⟩
    · exact ⟨rfl, rfl⟩
  -- fsm.index = commitIndex = snapIndex
  have hfc : n.fsm.index = n.snapIndex ∧ n.commitIndex = n.snapIndex := by
    rw [hsnap]
    split at hfsm
    · rw [hfsm.1, hfsm.2]; exact ⟨rfl, rfl⟩
    · rename_i h0
      rw [hfsm.1, hfsm.2]
      have : (C10.snapOf d).index = 0 := by omega
      rw [this]; exact ⟨rfl, rfl⟩
  have hsn : n.snapIndex = (restartNode d r sor).snapIndex := by rw [hsnap, e1]
  -- the segment list
  have hsegs : C09.SegsOK (restartNode d r sor).log := by
    rw [e3]
    have hl : C09.SegsOK (C10.logOf d) := C10.logOf_ind d (fun _ => segsOK_reset _) fun _ => hd.segs
    exact segsOK_of_same hl rfl rfl rfl
  -- the configurations
  have hscan := scanConfigs_index (C10.logOf d) (logOf_indexed d hd.indexed) (C10.snapOf d).index
    (C10.lastIdxOf d + 1) (C10.lastIdxOf d) none
  have hli : (restartNode d r sor).lastLogIndex = C10.lastIdxOf d := rfl
  have hsl : (C10.snapOf d).index ≤ C10.lastIdxOf d := by rw [← hli, ← e1]; exact q1
  have hcfgs : (restartNode d r sor).configs.committed.index ≤ (restartNode d r sor).configs.latest.index ∧
      (restartNode d r sor).configs.latest.index ≤ C10.lastIdxOf d := by
    rw [C10.restartNode_configs]
    dsimp only
    obtain ⟨s1, s2, _⟩ := hscan
    have hlab := hd.label
    cases hl : (scanConfigs (C10.logOf d) (C10.snapOf d).index (C10.lastIdxOf d + 1) (C10.lastIdxOf d) none).1 with
    | none =>
      dsimp only [Option.getD]
      exact ⟨Nat.le_refl _, by omega⟩
    | some l =>
      obtain ⟨a, b, c⟩ := s2 rfl l hl
      dsimp only [Option.getD]
      refine ⟨?_, b⟩
      cases hc : (scanConfigs (C10.logOf d) (C10.snapOf d).index (C10.lastIdxOf d + 1) (C10.lastIdxOf d) none).2.1 with
      | none => dsimp only; omega
      | some c' => dsimp only; have := c c' hc; omega
  refine ⟨⟨?_, ?_, ?_, ?_, ?_, ?_, ?_, ?_, ?_⟩, ?_⟩
  · rw [hlast, hlog]; exact p2
  · rw [hlog, hsn]; exact p1
  · rw [hfc.1]; exact Nat.le_refl _
  · rw [hfc.1, hfc.2]; exact Nat.le_refl _
  · rw [hcfg]; exact hcfgs.1
  · rw [hcfg, hlast, hli]; exact hcfgs.2
  · rw [hlog]; exact hsegs
  · rw [hldr.1]; exact Nat.zero_le _
  · intro rs hrs; rw [hldr.2] at hrs; cases hrs
  · rw [hfc.2, hlast, hsn]; exact q1

/-- a follower holding entries 1..4 (1 is the bootstrap configuration), snapshot at 1, applied 2, committed 3 -/
def exNode : Node :=
  { nid := 1, cid := 7, term := 1, durTerm := 1,
    log := { prev := 1, entries := [{ index := 2, term := 1, typ := etNop }, { index := 3, term := 1, typ := etUpdate, data := "a" },
                                     { index := 4, term := 1, typ := etUpdate, data := "b" }],
             flushed := 4, segs := [1] },
    lastLogIndex := 4, lastLogTerm := 1, snapIndex := 1, snapTerm := 1,
    snapsDisk := [{ index := 1, term := 1 }],
    configs := { committed := { nodes := [{ id := 1, addr := "a:1", voter := true }, { id := 2, addr := "b:1", voter := true }], index := 1, term := 1 },
                 latest := { nodes := [{ id := 1, addr := "a:1", voter := true }, { id := 2, addr := "b:1", voter := true }], index := 1, term := 1 } },
    commitIndex := 3, fsm := { index := 2, term := 1 } }

theorem exNode_ordered : Ordered exNode :=
  ⟨⟨by decide, by decide, by decide, by decide, by decide, by decide, ⟨by decide, by decide, by decide⟩, by decide,
    fun rs h => by cases h⟩, by decide⟩

/-- an append request from the leader (node 2): entry 4 again (already there), a conflicting entry 5 is not
involved — 5 and 6 are new; the leader has committed up to 5 -/
def exAppend : AppendReq :=
  { term := 1, src := 2, prevLogIndex := 3, prevLogTerm := 1, ldrCommitIndex := 6,
    entries := [{ index := 4, term := 1, typ := etUpdate, data := "b" }, { index := 5, term := 1, typ := etUpdate, data := "c" },
                { index := 6, term := 1, typ := etNop }] }

/-- EXAMPLE (non-vacuity of `ordered_step` and the monotonicity theorems): the hypotheses hold for `exNode` and
the append request above, and the step moves every index: applied 2 → 6, committed 3 → 6, last 4 → 6. -/
example :
    Ordered exNode ∧ ReqOk exNode (.append exAppend) ∧ (exNode.step (.append exAppend) [] []).panicked = none ∧
    (exNode.step (.append exAppend) [] []).fsm.index = 6 ∧ (exNode.step (.append exAppend) [] []).commitIndex = 6 ∧
    (exNode.step (.append exAppend) [] []).lastLogIndex = 6 :=
  ⟨exNode_ordered, by decide, by decide, by decide, by decide, by decide⟩

/-- EXAMPLE: a request that truncates an uncommitted suffix (entry 4 conflicts, above the commit index 3) is
acceptable too; the log is cut back and extended. -/
example :
    let q : AppendReq := { term := 2, src := 2, prevLogIndex := 3, prevLogTerm := 1,
                           entries := [{ index := 4, term := 2, typ := etNop }] }
    ReqOk exNode (.append q) ∧ (exNode.step (.append q) [] []).panicked = none ∧
    (exNode.step (.append q) [] []).lastLogIndex = 4 ∧ (exNode.step (.append q) [] []).lastLogTerm = 2 := by
  refine ⟨by decide, by decide, by decide, by decide⟩

/-- EXAMPLE (`ordered_run`): the append request, then a user snapshot (request, the snapshot goroutine, its
completion): the run is acceptable, and the snapshot index moves 1 → 6 (= last applied). -/
example :
    let ops : List (Op × List Nat × List (List Nat)) :=
      [(.append exAppend, [], []), (.takeSnapshot 1 0, [], []), (.snapRun, [], []), (.snapTaken, [], [])]
    RunOk exNode ops ∧ (run exNode ops).snapIndex = 6 ∧ (run exNode ops).fsm.index = 6 ∧
    (run exNode ops).log.prev = 1 := by
  refine ⟨⟨by decide, by decide, ⟨trivial, by decide, ⟨trivial, by decide, ⟨trivial, by decide, trivial⟩⟩⟩⟩,
    by decide, by decide, by decide⟩

/-- EXAMPLE (`restart_ordered`): a disk with a snapshot at 2 and entries 3, 4 (4 a configuration) satisfies
`DiskOK`, and the restart succeeds. -/
example : DiskOK C10.exDisk ∧ (restart C10.exDisk 1 true).isSome = true := by
  refine ⟨⟨by unfold C10.DurWF; decide, ⟨by decide, by decide, by decide⟩, ?_, by decide⟩, by decide⟩
  intro i e h
  have hi : i = 3 ∨ i = 4 := by
    unfold NLog.get? at h
    split at h
    · rename_i hlt
      have hlen := (List.getElem?_eq_some_iff.mp h).1
      have h2 : C10.exDisk.log.prev = 2 := rfl
      have h3 : C10.exDisk.log.entries.length = 2 := rfl
      omega
    · cases h
  rcases hi with rfl | rfl
  · have : C10.exDisk.log.get? 3 = some { index := 3, typ := etNop } := by decide
    rw [this] at h; injection h with h; rw [← h]
  · have : (C10.exDisk.log.get? 4).map (·.index) = some 4 := by decide
    rw [h] at this; simpa using this

/-! ### necessity of every clause of `ReqOk`

Each example: an ordered state, a request violating exactly one clause, the step completes (no panic) and the
result is not ordered. -/

/-- a follower with entries 1..4 of term 1, commit index 1 -/
def nec1 : Node :=
  { nid := 1, term := 1, durTerm := 1,
    log := { prev := 0, entries := (List.range 4).map (fun k => { index := k + 1, term := 1, typ := etNop }) },
    lastLogIndex := 4, lastLogTerm := 1, commitIndex := 1, fsm := { index := 1, term := 1 } }

theorem nec1_ordered : Ordered nec1 :=
  ⟨⟨by decide, by decide, by decide, by decide, by decide, by decide, ⟨by decide, by decide, by decide⟩, by decide,
    fun rs h => by cases h⟩, by decide⟩

/-- NECESSITY of clause (1) "consecutive entries": entries 5, 6 (two configurations) followed by a
conflicting entry 4. No entry conflicts at or below the commit index / committed configuration, no `assert`
fires (each append is at `lastLogIndex + 1` at its time) — but the truncation at 4 reverts `latest` to the
configuration of entry 5, which is no longer in the log: `configs.latest.index = 5 > lastLogIndex = 4`.
NOT reachable in a correct cluster: a replication sends a contiguous log view (`ViewAt`). -/
example :
    let q : AppendReq :=
      { term := 1, src := 2, prevLogIndex := 4, prevLogTerm := 1,
        entries := [{ index := 5, term := 1, typ := etConfig, cfg := some {} },
                    { index := 6, term := 1, typ := etConfig, cfg := some {} }, { index := 4, term := 2, typ := etNop }] }
    let s' := nec1.step (.append q) [] []
    Ordered nec1 ∧ chainB q.prevLogIndex q.entries = false ∧
    (∀ ne ∈ q.entries, ne.index ≤ nec1.lastLogIndex → nec1.snapIndex < ne.index →
      nec1.entryTerm? ne.index ≠ some ne.term → nec1.commitIndex < ne.index ∧ nec1.configs.committed.index < ne.index) ∧
    s'.panicked = none ∧ s'.configs.latest.index = 5 ∧ s'.lastLogIndex = 4 ∧ ¬ Ordered s' := by
  refine ⟨nec1_ordered, by decide, by decide, by decide, by decide, by decide, fun h => absurd h.latest_le_last (by decide)⟩

/-- NECESSITY of clause (2) "no conflict at or below the commit index": commit index 3, a (consecutive)
request whose entry 2 has another term. The follower truncates its committed entries 2, 3:
`commitIndex = 3 > lastLogIndex = 2`. NOT reachable in a correct cluster: a committed entry is in the log of
every later leader (leader completeness, C02/C03) — the code relies on the protocol here, it does not check. -/
example :
    let s : Node := { nec1 with commitIndex := 3, fsm := { index := 3, term := 1 } }
    let q : AppendReq := { term := 1, src := 2, prevLogIndex := 1, prevLogTerm := 1,
                           entries := [{ index := 2, term := 2, typ := etNop }] }
    let s' := s.step (.append q) [] []
    chainB q.prevLogIndex q.entries = true ∧ ¬ ReqOk s (.append q) ∧
    s'.panicked = none ∧ s'.commitIndex = 3 ∧ s'.lastLogIndex = 2 ∧ ¬ Ordered s' := by
  refine ⟨by decide, by decide, by decide, by decide, by decide, fun h => absurd h.commit_le_last (by decide)⟩

/-- the state of the previous example is ordered -/
example : Ordered { nec1 with commitIndex := 3, fsm := { index := 3, term := 1 } } :=
  ⟨⟨by decide, by decide, by decide, by decide, by decide, by decide, ⟨by decide, by decide, by decide⟩, by decide,
    fun rs h => by cases h⟩, by decide⟩

/-- a follower whose entries 5 and 6 are configurations: `committed` = entry 5, `latest` = entry 6, commit index 3
(what a follower holds after receiving both in one request with `ldrCommitIndex = 5`) -/
def nec3 : Node :=
  { nid := 1, term := 1, durTerm := 1,
    log := { prev := 0, entries := (List.range 4).map (fun k => { index := k + 1, term := 1, typ := etNop }) ++
               [{ index := 5, term := 1, typ := etConfig, cfg := some {} }, { index := 6, term := 1, typ := etConfig, cfg := some {} }] },
    lastLogIndex := 6, lastLogTerm := 1, commitIndex := 3, fsm := { index := 3, term := 1 },
    configs := { committed := { index := 5, term := 1 }, latest := { index := 6, term := 1 } } }

theorem nec3_ordered : Ordered nec3 :=
  ⟨⟨by decide, by decide, by decide, by decide, by decide, by decide, ⟨by decide, by decide, by decide⟩, by decide,
    fun rs h => by cases h⟩, by decide⟩

/-- NECESSITY of clause (3) "no conflict at or below `configs.committed.index`": entry 4 (above the commit index
3) conflicts; the truncation reverts `latest` to `committed` = entry 5, which has just been deleted:
`configs.latest.index = 5 > lastLogIndex = 4`. NOT reachable in a correct cluster: a leader appends a
configuration only when the previous one is committed (`canChangeConfig`), so `configs.committed` of a follower
is committed cluster-wide even when the follower's own commit index is behind it. -/
example :
    let q : AppendReq := { term := 2, src := 2, prevLogIndex := 3, prevLogTerm := 1,
                           entries := [{ index := 4, term := 2, typ := etNop }] }
    let s' := nec3.step (.append q) [] []
    Ordered nec3 ∧ chainB q.prevLogIndex q.entries = true ∧ nec3.commitIndex < 4 ∧ ¬ ReqOk nec3 (.append q) ∧
    s'.panicked = none ∧ s'.configs.latest.index = 5 ∧ s'.lastLogIndex = 4 ∧ ¬ Ordered s' := by
  refine ⟨nec3_ordered, by decide, by decide, by decide, by decide, by decide, by decide,
    fun h => absurd h.latest_le_last (by decide)⟩

/-- NECESSITY of `InstallOk`: a snapshot at index 5 labelled with a configuration of index 9. The installation
completes; `configs.latest.index = 9 > lastLogIndex = 5`, and the next configuration entry the leader sends
(index 6) makes `configs.committed.index = 9 > configs.latest.index = 6`. NOT reachable in a correct cluster:
`snapRun` labels a snapshot with the last configuration the FSM applied (index `≤ fsm.index`). -/
example :
    let q : InstallReq := { term := 1, src := 2, lastIndex := 5, lastTerm := 1, lastConfig := { index := 9, term := 1 }, data := ["x"] }
    let s' := nec1.step (.install q) [] []
    let a : AppendReq := { term := 1, src := 2, prevLogIndex := 5, prevLogTerm := 1,
                           entries := [{ index := 6, term := 1, typ := etConfig, cfg := some {} }] }
    let s'' := s'.step (.append a) [] []
    ¬ ReqOk nec1 (.install q) ∧ s'.panicked = none ∧ s'.configs.latest.index = 9 ∧ s'.lastLogIndex = 5 ∧ ¬ Ordered s' ∧
    ReqOk s' (.append a) ∧ s''.panicked = none ∧ s''.configs.committed.index = 9 ∧ s''.configs.latest.index = 6 := by
  refine ⟨by decide, by decide, by decide, by decide, fun h => absurd h.latest_le_last (by decide),
    by decide, by decide, by decide, by decide⟩

/-- NO hypothesis is needed on replication updates: match indexes beyond the leader's log from a quorum make
`leader.onMajorityCommit` raise the commit index beyond the log (`setCommitIndexL`), and the `ViewAt` of the
`applyCommittedL` it always calls next panics (the Go process dies) — such a step does not complete, so
`ordered_step` has nothing to say about it (this is the reason for the flag `b` of `Order.Inv`). -/
theorem commit_beyond_log_panics (s : Node) (items : List QItem) (h : s.commitIndex > s.log.last)
    (hp : s.panicked = none) : (s.fsmApply items).panicked = some "logpanic.ViewAt" := by
  rw [fsmApply_unfold, if_pos h]
  unfold Node.panic
  rw [if_pos (by rw [hp]; rfl)]

/-- EXAMPLE: a leader whose log ends at 1, told to commit 9 -/
example :
    let s : Node := { nid := 1, term := 1, role := .leader, leader := 1,
                      log := { prev := 0, entries := [{ index := 1, term := 1, typ := etNop }] }, lastLogIndex := 1 }
    ((s.setCommitIndexR 9).1.applyCommittedL).commitIndex = 9 ∧
    ((s.setCommitIndexR 9).1.applyCommittedL).panicked = some "logpanic.ViewAt" := by
  refine ⟨by decide, by decide⟩

end C19Order
end Raft

#print axioms Raft.C19Order.ordered_step
#print axioms Raft.C19Order.applied_monotone
#print axioms Raft.C19Order.snapshot_index_monotone
#print axioms Raft.C19Order.ordered_chain
#print axioms Raft.C19Order.ordered_run
#print axioms Raft.C19Order.scanConfigs_index
#print axioms Raft.C19Order.restart_ordered
#print axioms Raft.C19Order.commit_beyond_log_panics
#print axioms Raft.C19Order.exNode_ordered
#print axioms Raft.C19Order.nec1_ordered
#print axioms Raft.C19Order.nec3_ordered
#print axioms Raft.Order.block
#print axioms Raft.Order.inv_step
