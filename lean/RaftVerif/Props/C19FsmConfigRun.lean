/-
C19 / C12 / C10 — **`NodeInv` is carried along the RUNS of the cluster-level system `Raft.Snap4`** (what
`Props/C19FsmConfigSys.lean` leaves open): no fallback hypothesis, no per-node hypothesis.

`C19FsmConfigSys.NodeInv s` (entry 1 of the log, if held, is a configuration; every snapshot file is labelled with a real
configuration; above a snapshot the state machine holds a configuration; `configs.latest` is the newest configuration entry
of log ∪ snapshot; a node that is not a follower has a non-empty log) is inductive per node and per transition
(Props/C19FsmConfigSys.lean). The induction over the runs (Lemmas/FirstConfigSysA.lean, FirstConfigSysB.lean):
* `Init4F` — an initial state of `Raft.Snap4` in which every node satisfies `NodeInv` (no snapshot; entry 1 of every
  non-empty log is the bootstrap configuration); `Reachable4F V` — the states reachable from those;
* carried along the runs (`FirstCfgSys.InvF`): `NodeInv` of EVERY node (whatever its cluster id: the identity clauses of
  `CrashInv` are only needed for a restart to succeed, which is a premise of the crash transitions), and the two ledger
  invariants "every append request on the wire carries a configuration at index 1 if it carries index 1" (the request was
  read from the part of the virtual log its leader still holds, whose entry 1 is a configuration) and "every install request
  on the wire is labelled with a real configuration" (it was built from a snapshot file of its leader);
* through ALL six transitions: completed steps, crashes at any storage point + restart, `send`, `sendSnap`, completed
  installations, crashes at any storage point of the install handler + restart.

Hence, for EVERY state of `Reachable4F V` (`V.Nodup`): `Latest.NoFallback` and `TrackCrash.SnapFbOp` hold for every
operation, every operation that may be delivered is acceptable in the sense of all per-node theorems
(`enabled_ok_reachable4F`), and C19Latest, C12 at every crash point and C10 (1) are restated without the fallback hypothesis
and without a per-node hypothesis besides a cluster id; `Reachable4F` is closed under the transitions, so the restarted
cluster is again a state to which all of this applies.
`_partial`: the restrictions of `Raft.Snap4` (Sys/Snap3.lean, Sys/Snap4.lean: fixed voter set and configuration, no forged
requests, `.shutdown` never occurs, `NoCut` for crashes, side conditions `Side4`) remain.

The same on `SysInv.ReachableG` (`Raft.Commit` with `GInv`; Lemmas/FirstConfigSysC.lean): `GInv` does not contain
`LatestIsNewest`; `Tracks`, `NodeInv` and the ledger invariant are carried (`FirstCfgSys.InvG`) from initial states in which
every node tracks and satisfies `NodeInv` (`ReachableGF`) — or along any run from a reachable state in which they hold
(`nodeInv_runG_partial`, the form of `C19Sys.tracks_in_sys_partial`): `nodeInv_reachableGF`, `latest_is_newest_sysG_partial`,
`tracks_after_crash_at_any_point_sysG_partial`.
-/
import RaftVerif.Lemmas.FirstConfigSysC

namespace Raft
namespace C19FsmConfigRun
open Node Track Order FsmCfg C19FsmConfig C19FsmConfigSys TrackCrash FirstCfgSys
open Snap Snap2 Snap3 Snap4 SnapInst SnapInst3 SnapInst4 RestartSys SnapInv2

section
variable {V : List Nat}

/-- **every node of every state reachable in `Raft.Snap4` from `Init4F` satisfies `NodeInv`** — entry 1 of its log (if
held) is a configuration, its snapshot files carry real configurations, above a snapshot its state machine holds a
configuration, its latest configuration is the newest configuration entry of log ∪ snapshot, and it has a non-empty log
unless it is a follower. Hence its state machine holds a configuration once it has applied anything (`FsmHasConfig`), and
the snapshot goroutine never takes its fallback: `Latest.NoFallback` and `TrackCrash.SnapFbOp` hold for EVERY operation.
No hypothesis on the node (not even a cluster id). -/
theorem nodeInv_reachable4F (hV : V.Nodup) (x : Snap3.Sys) (h : Reachable4F V x) (i : Nat) :
    NodeInv (x.node i) ∧ FsmHasConfig (x.node i) ∧ (∀ op, Latest.NoFallback (x.node i) op) ∧
      (∀ op, SnapFbOp (x.node i) op) := by
  have hF := reach4F hV h
  obtain ⟨_, i4, s4⟩ := reach4 hV (reachable4F_reachable4 h)
  have hf := fsm_has_config _ (i4.tracks i) (i4.ord i) (s4.lab i) (hF.ninv i).cfg
  exact ⟨hF.ninv i, hf, fun op => no_fallback _ op (i4.ord i) hf, fun op => snapFbOp _ op (i4.ord i) hf⟩

/-- **the ledger invariants**: every append request on the wire carries a configuration at index 1 if it carries index
1; every install request on the wire is labelled with a real configuration -/
theorem ledgers_reachable4F (hV : V.Nodup) (x : Snap3.Sys) (h : Reachable4F V x) :
    (∀ q ∈ x.s2.cs.rp.sent, ∀ e ∈ q.entries, e.index = 1 → e.config?.isSome = true) ∧
      (∀ m ∈ x.sentSnaps, 0 < m.q.lastConfig.index) :=
  ⟨(reach4F hV h).sentFirst, (reach4F hV h).snapLab⟩

/-- **every operation that may be delivered to a node is acceptable** in the sense of ALL per-node theorems: `Order.ReqOk`,
`TrackCrash.ReqDec`, `ReqLab`, `ReqFirst` — for the operations of stage 2 (`Snap.Enabled`) and for install requests that
are stale or of the ledger -/
theorem enabled_ok_reachable4F (hV : V.Nodup) (x : Snap3.Sys) (h : Reachable4F V x) (i : Nat) :
    (∀ op src, Snap.Enabled x.s2.cs i op src →
      ReqOk (x.node i) op ∧ ReqDec (x.node i) op ∧ ReqLab (x.node i) op ∧ ReqFirst (x.node i) op) ∧
    (∀ m : SnapMsg, (m.q.term < (x.node i).term ∨ m ∈ x.sentSnaps) →
      ReqOk (x.node i) (.install m.q) ∧ ReqDec (x.node i) (.install m.q) ∧ ReqLab (x.node i) (.install m.q) ∧
        ReqFirst (x.node i) (.install m.q)) := by
  have hF := reach4F hV h
  obtain ⟨r3, i4, s4⟩ := reach4 hV (reachable4F_reachable4 h)
  have hI := (inv3_reachable hV r3).1
  refine ⟨fun op src en => ?_, fun m hm => ?_⟩
  · obtain ⟨a, b⟩ := reqFirst_enabled hF en
    exact ⟨reqOk_old hI en (s4.cfg i), reqDec_enabled (sentDec_reach3 hV r3) en, b, a⟩
  · obtain ⟨a, b⟩ := reqLab_install i4 hF hm
    exact ⟨a, trivial, b, trivial⟩

/-- **C19 on the runs of `Raft.Snap4` (partial: the restrictions of `Raft.Snap4`; initial states `Init4F`): the latest
configuration of every node is the newest configuration entry of its log, else the label of its newest snapshot** — in
EVERY reachable state, with NO fallback hypothesis and no hypothesis on the node. -/
theorem latest_is_newest_sys_partial (hV : V.Nodup) (x : Snap3.Sys) (h : Reachable4F V x) (i : Nat) :
    C19Latest.LatestIsNewest (x.node i) :=
  (reach4F hV h).ninv i |>.latest

theorem reachable4F_next {x y : Snap3.Sys} (h : Reachable4F V x) (ht : Snap4.Trans x y) (hs : Side4 V y) :
    Reachable4F V y := .next x y h ht hs

theorem reachable4F_of_run {x y : Snap3.Sys} (h : Reachable4F V x) (hr : Run4 V x y) : Reachable4F V y := by
  induction hr with
  | refl => exact h
  | next y z _ ht hs ih => exact .next y z ih ht hs

/-- **C12 at every crash point, on the runs of `Raft.Snap4` (partial: the restrictions of `Raft.Snap4`; NO fallback
hypothesis, NO per-node hypothesis besides a cluster id).** Let `x` be reachable from `Init4F`, `i` a node with a cluster
id, `op` ANY operation of stage 2 that may be delivered to `i` in `x` (`Snap.Enabled`: the snapshot goroutine and the
compacting `snapTaken` included), handled with ANY oracle, which run to completion would not panic; let the process die
after ANY number `k` of storage points of that step and restart with `retain = r ≥ 1`. Then the restart succeeds; the
restarted node tracks, is ordered, derives its configurations from label + log on disk at that point, satisfies
`LatestIsNewest`, `CrashInv` and `NodeInv` again, and its state machine holds a configuration once it has applied anything. -/
theorem tracks_after_crash_at_any_point_sys_partial (hV : V.Nodup) (x : Snap3.Sys) (h : Reachable4F V x) (i : Nat)
    (op : Op) (ra : List Nat) (ord : List (List Nat)) (src : Nat) (en : Snap.Enabled x.s2.cs i op src)
    (hp : ((x.node i).step op ra ord).panicked = none) (hcid : (x.node i).cid ≠ 0) (k r : Nat) (hr : 1 ≤ r)
    (sor : Bool) :
    ∃ n, Node.restart (C05.crashDisk (x.node i) op ra ord k) r sor = some n ∧
      C12Track.Tracks n ∧ Order.Ordered n ∧
      n.configs.latest = ((C10.configsAbove (C05.crashDisk (x.node i) op ra ord k))[0]?).getD
        (C10.snapOf (C05.crashDisk (x.node i) op ra ord k)).config ∧
      n.configs.committed = ((C10.configsAbove (C05.crashDisk (x.node i) op ra ord k))[1]?).getD
        (C10.snapOf (C05.crashDisk (x.node i) op ra ord k)).config ∧
      C19Latest.LatestIsNewest n ∧ C12Crash.CrashInv n ∧ NodeInv n ∧ FsmHasConfig n := by
  have h4 := reachable4F_reachable4 h
  have hc := crashInv_node4 hV h4 i en.id hcid
  have hi := (reach4F hV h).ninv i
  obtain ⟨a, b, c, d⟩ := (enabled_ok_reachable4F hV x h i).1 op src en
  obtain ⟨n, hn, t1, t2, t3, t4, t5, t6⟩ :=
    tracks_after_crash_at_any_point_nofb_partial (x.node i) op ra ord k r sor hc hi.cfg a b hp hr
  have hni := nodeInv_crash_nc (x.node i) op ra ord k r sor n hc.tracks hc.ordered hc.mem hi a b c d hp hn
  exact ⟨n, hn, t1, t2, t3, t4, t5, t6, hni, fsm_has_config n t1 t2 t6.mem.lab hni.cfg⟩

/-- **… and at every storage point of the install handler** (`value.set`, `snap.publish`, `snap.retain`, `clearLog`), for
every install request that is stale or one of the ledger. -/
theorem tracks_after_crash_in_install_sys_partial (hV : V.Nodup) (x : Snap3.Sys) (h : Reachable4F V x) (i : Nat)
    (m : SnapMsg) (ra : List Nat) (ord : List (List Nat)) (hi0 : i ≠ 0)
    (hm : m.q.term < (x.node i).term ∨ m ∈ x.sentSnaps)
    (hp : ((x.node i).step (.install m.q) ra ord).panicked = none) (hcid : (x.node i).cid ≠ 0) (k r : Nat)
    (hr : 1 ≤ r) (sor : Bool) :
    ∃ n, Node.restart (C05.crashDisk (x.node i) (.install m.q) ra ord k) r sor = some n ∧
      C12Track.Tracks n ∧ Order.Ordered n ∧ C19Latest.LatestIsNewest n ∧ C12Crash.CrashInv n ∧ NodeInv n ∧
      FsmHasConfig n := by
  have h4 := reachable4F_reachable4 h
  have hc := crashInv_node4 hV h4 i hi0 hcid
  have hi := (reach4F hV h).ninv i
  obtain ⟨a, b, c, d⟩ := (enabled_ok_reachable4F hV x h i).2 m hm
  obtain ⟨n, hn, t1, t2, _, _, t5, t6⟩ :=
    tracks_after_crash_at_any_point_nofb_partial (x.node i) (.install m.q) ra ord k r sor hc hi.cfg a b hp hr
  have hni := nodeInv_crash_nc (x.node i) (.install m.q) ra ord k r sor n hc.tracks hc.ordered hc.mem hi a b c d hp hn
  exact ⟨n, hn, t1, t2, t5, t6, hni, fsm_has_config n t1 t2 t6.mem.lab hni.cfg⟩

/-- **C10 (1) on the runs of `Raft.Snap4`, with NO fallback hypothesis and NO per-node hypothesis besides a cluster id
(partial: the restrictions of `C10Sys2.restart_succeeds_snap_partial` other than `SnapFbOp`; initial states `Init4F`).** A
node `i` with a cluster id of a state reachable from `Init4F`, dying at ANY crash point `k` of ANY operation of stage 2
that may be delivered to it (the snapshot goroutine included) and would complete, restarts successfully (any options,
`r ≥ 1`) as a `RestartSys.Restarted` node with `nid = i` that satisfies `NodeInv` again. -/
theorem restart_succeeds_snap_run_partial (hV : V.Nodup) (x : Snap3.Sys) (h : Reachable4F V x) (i : Nat) (op : Op)
    (ra : List Nat) (ord : List (List Nat)) (src : Nat) (en : Snap.Enabled x.s2.cs i op src)
    (hp : ((x.node i).step op ra ord).panicked = none) (hcid : (x.node i).cid ≠ 0) (k r : Nat) (hr : 1 ≤ r)
    (sor : Bool) :
    ∃ n, Node.restart (C05.crashDisk (x.node i) op ra ord k) r sor = some n ∧
      Restarted (x.node i) (C05.crashDisk (x.node i) op ra ord k) n ∧ n.nid = i ∧ NodeInv n := by
  obtain ⟨_, _, c, d⟩ := (enabled_ok_reachable4F hV x h i).1 op src en
  exact restart_succeeds_snap_sys_partial hV x (reachable4F_reachable4 h) i op ra ord src en hp hcid
    ((reach4F hV h).ninv i) c d k r hr sor

/-- **… and at every storage point of the install handler**, `NodeInv` included -/
theorem restart_succeeds_install_run_partial (hV : V.Nodup) (x : Snap3.Sys) (h : Reachable4F V x) (i : Nat)
    (m : SnapMsg) (ra : List Nat) (ord : List (List Nat)) (hi0 : i ≠ 0)
    (hm : m.q.term < (x.node i).term ∨ m ∈ x.sentSnaps)
    (hp : ((x.node i).step (.install m.q) ra ord).panicked = none) (hcid : (x.node i).cid ≠ 0) (k r : Nat)
    (hr : 1 ≤ r) (sor : Bool) :
    ∃ n, Node.restart (C05.crashDisk (x.node i) (.install m.q) ra ord k) r sor = some n ∧
      Restarted (x.node i) (C05.crashDisk (x.node i) (.install m.q) ra ord k) n ∧ n.nid = i ∧ NodeInv n := by
  have h4 := reachable4F_reachable4 h
  obtain ⟨n, hn, hR, hid⟩ := C10Sys2.restart_succeeds_install_partial hV x h4 i m ra ord hi0 hm hp hcid k r hr sor
  have hc := crashInv_node4 hV h4 i hi0 hcid
  obtain ⟨a, b, c, d⟩ := (enabled_ok_reachable4F hV x h i).2 m hm
  exact ⟨n, hn, hR, hid, nodeInv_crash_nc (x.node i) (.install m.q) ra ord k r sor n hc.tracks hc.ordered hc.mem
    ((reach4F hV h).ninv i) a b c d hp hn⟩

end

/-! ### 5. the same on `SysInv.ReachableG` -/

section
open LogRel CommitRel Commit C02Sys NoPanic SysInv
variable {V : List Nat}

/-- **every node of every state reachable in `SysInv.ReachableG` from an initial state in which every node tracks and
satisfies `NodeInv` satisfies `NodeInv`** (in particular `LatestIsNewest`, which `GInv` does not contain), hence
`FsmHasConfig`, `Latest.NoFallback` and `TrackCrash.SnapFbOp` for every operation; and it tracks. -/
theorem nodeInv_reachableGF (hV : V.Nodup) (x : Commit.Sys) (h : ReachableGF V x) (i : Nat) :
    NodeInv (x.node i) ∧ C12Track.Tracks (x.node i) ∧ FsmHasConfig (x.node i) ∧
      (∀ op, Latest.NoFallback (x.node i) op) ∧ (∀ op, SnapFbOp (x.node i) op) := by
  have hF := reachGF hV h
  have hx := reachableGF_reachableG h
  have ho := ((ginv_reachable hV hx).good i).ordered
  have hI := (inv_reachable hV (reachableG_V hx)).1
  have hf := fsm_has_config _ (hF.tracks i) ho (label_le_of_nwf (nwf hI i)) (hF.ninv i).cfg
  exact ⟨hF.ninv i, hF.tracks i, hf, fun op => no_fallback _ op ho hf, fun op => snapFbOp _ op ho hf⟩

/-- **… and along every run** (partial: the restrictions of `SysInv.ReachableG`): if in a reachable state `x` every node
tracks and satisfies `NodeInv` and every append request on the wire satisfies `FirstCfg.First` (e.g. an initial state),
then so it is in every later state `y` of the run — through crashes and restarts. -/
theorem nodeInv_runG_partial (hV : V.Nodup) (x y : Commit.Sys) (hx : ReachableG V x) (hrun : RunG V x y)
    (hT : ∀ i, C12Track.Tracks (x.node i)) (hN : ∀ i, NodeInv (x.node i))
    (hS : ∀ q ∈ x.rp.sent, FirstCfg.First q.entries) :
    (∀ i, C12Track.Tracks (y.node i)) ∧ (∀ i, NodeInv (y.node i)) ∧ ∀ q ∈ y.rp.sent, FirstCfg.First q.entries :=
  let r := invG_run hV hx hrun ⟨hT, hN, hS⟩; ⟨r.tracks, r.ninv, r.sentFirst⟩

/-- **C19 on the runs of `SysInv.ReachableG` (partial: its restrictions): the latest configuration of every node is the
newest configuration entry of its log** -/
theorem latest_is_newest_sysG_partial (hV : V.Nodup) (x : Commit.Sys) (h : ReachableGF V x) (i : Nat) :
    C19Latest.LatestIsNewest (x.node i) :=
  (reachGF hV h).ninv i |>.latest

/-- **C12 / C10 (1) at every crash point on the runs of `SysInv.ReachableG` (partial: its restrictions; NO fallback
hypothesis, NO per-node hypothesis besides a cluster id).** A node `i` with a cluster id of a state of `ReachableGF`, dying
at ANY crash point `k` of ANY operation that may be delivered to it (`Commit.Enabled`, `EnabledG`; an open node, or `k = 0`:
the process of a closed node is restarted), restarts successfully (`r ≥ 1`) as a node satisfying `CrashInv` (tracking,
ordered, …) and `NodeInv`, whose state machine holds a configuration once it has applied anything. -/
theorem tracks_after_crash_at_any_point_sysG_partial (hV : V.Nodup) (x : Commit.Sys) (h : ReachableGF V x) (i : Nat)
    (op : Op) (src : Nat) (he : Commit.Enabled x i op src) (heG : EnabledG x i op) (ra : List Nat)
    (ord : List (List Nat)) (k : Nat) (hopen : (x.node i).closed = "" ∨ k = 0) (hcid : (x.node i).cid ≠ 0)
    (r : Nat) (hr : 1 ≤ r) (sor : Bool) :
    ∃ n, Node.restart (C05.crashDisk (x.node i) op ra ord k) r sor = some n ∧ C12Crash.CrashInv n ∧ NodeInv n ∧
      FsmHasConfig n := by
  have hF := reachGF hV h
  have hx := reachableGF_reachableG h
  have hG := ginv_reachable hV hx
  have hI := (inv_reachable hV (reachableG_V hx)).1
  have hc : C12Crash.CrashInv (x.node i) :=
    ⟨hF.tracks i, (hG.good i).ordered, ⟨hI.node.lwf i, label_le_of_nwf (nwf hI i), (hG.good i).glob.logDec⟩, hcid,
      by rw [(hI.rp.el.ids i).1]; exact he.rp.id⟩
  have key : ∀ n, C12Crash.CrashInv n → NodeInv n → FsmHasConfig n := fun n a b =>
    fsm_has_config n a.tracks a.ordered a.mem.lab b.cfg
  rcases hopen with ho | hk
  · obtain ⟨hr', hro, hp, _⟩ := C19Sys.reqok_in_sys_partial V hV x hx i op src he heG ho ra ord
    obtain ⟨hq, hlb⟩ := reqFirst_enabledG hF he
    obtain ⟨n, hn, a, b⟩ := nodeInv_after_crash_partial (x.node i) op ra ord k r sor hc (hF.ninv i) hro
      (RestartSys.reqDec_member hr') hlb hq hp hr
    exact ⟨n, hn, a, b, key n a b⟩
  · subst hk
    have hp' : ((x.node i).step (.disconnected 0) ra ord).panicked = none := by
      rw [Node.step_disconnected0]; rfl
    have e : C05.crashDisk (x.node i) op ra ord 0 = C05.crashDisk (x.node i) (.disconnected 0) ra ord 0 := rfl
    rw [e]
    obtain ⟨n, hn, a, b⟩ := nodeInv_after_crash_partial (x.node i) (.disconnected 0) ra ord 0 r sor hc (hF.ninv i)
      trivial trivial trivial trivial hp' hr
    exact ⟨n, hn, a, b, key n a b⟩

end

/-- the bootstrapped follower `C04Sys.exNode i` (log = [(1,1) configuration], no snapshot) satisfies `NodeInv` -/
theorem exNode_nodeInv (i : Nat) : NodeInv (C04Sys.exNode i) := by
  have h0 : NodeInv (C04Sys.exNode 0) := by decide
  exact ⟨⟨h0.cfg.first, h0.cfg.labels, h0.cfg.above⟩, h0.latest, fun hne => absurd rfl hne⟩

/-- EXAMPLE (`Init4F`): the initial state `C09Sys3.exW0` (three voters bootstrapped with the configuration entry (1,1)) -/
theorem exW0_init4F : Init4F C09Sys3.exW0 :=
  ⟨⟨⟨C09Sys2.exY0_init, fun _ => rfl, rfl⟩, C19Sys.ex0_tracks, fun i => (C19Sys.exNode_good i).ordered⟩, exNode_nodeInv⟩

section
open C09Sys3 C10Sys2 Election

/-- EXAMPLE (`Reachable4F`): `C09Sys3.exW3` — node 2 is asked for a snapshot, the snapshot goroutine runs, the result is
handed over — is reachable from the `Init4F` state `exW0` (the run `C10Sys2.exW3_run`) -/
theorem exW3_reach4F : Reachable4F [1, 2, 3] exW3 := by
  obtain ⟨s0, t1, s1, t2, s2, t3, s3⟩ := exW3_run
  exact .next _ _ (.next _ _ (.next _ _ (.init _ exW0_init4F s0) t1 s1) t2 s2) t3 s3

set_option maxRecDepth 100000 in
/-- EXAMPLE (`nodeInv_reachable4F`, `latest_is_newest_sys_partial`, `tracks_after_crash_at_any_point_sys_partial`,
`restart_succeeds_snap_run_partial`): their hypotheses hold for node 2 of `exW3`, its election timeout and the crash point
`k = 1` (term 2 and its own vote are on disk); the node the theorems promise is `C10Sys2.exRn` — NO `SnapFbOp` / `NodeInv` /
`ReqLab` / `ReqFirst` hypothesis is left -/
example : [1, 2, 3].Nodup ∧ Reachable4F [1, 2, 3] exW3 ∧ Snap.Enabled exW3.s2.cs 2 .timeout 0 ∧
    ((exW3.node 2).step .timeout [] []).panicked = none ∧ (exW3.node 2).cid ≠ 0 ∧
    Node.restart (C05.crashDisk (exW3.node 2) .timeout [] [] 1) 1 true = some exRn ∧ exRn.term = 2 :=
  ⟨by decide, exW3_reach4F, exTimeout_enabled _, by decide, by decide, exRn_restart, by decide⟩

/-- EXAMPLE (`reachable4F_next`, and the install clause of `tracks_after_crash_in_install_sys_partial` /
`restart_succeeds_install_run_partial`): the cluster after that crash and restart (`C10Sys2.exW3c`) is reachable from
`Init4F` again, so every node of it — the restarted one included — satisfies `NodeInv`; and a STALE install request (term 0
< term 1 of node 2) may be delivered to node 2 of `exW3` and completes -/
example : Reachable4F [1, 2, 3] exW3c ∧ NodeInv (exW3c.node 2) ∧
    (exMs.q.term < (exW3.node 2).term ∨ exMs ∈ exW3.sentSnaps) ∧
    ((exW3.node 2).step (.install exMs.q) [] []).panicked = none := by
  have h : Reachable4F [1, 2, 3] exW3c := reachable4F_next exW3_reach4F exW3c_crashOf.1.trans exW3c_crashOf.2
  exact ⟨h, (nodeInv_reachable4F (by decide) _ h 2).1, Or.inl (by decide), by decide⟩

end

section
open SysInv

/-- EXAMPLE (`ReachableGF`): the initial state `C02Sys.ex0` and the state `C02Sys.ex1` after the election timeout of node 1
(the run of `C19Sys.ex1_reachable`) -/
theorem ex0_reachGF : ReachableGF [1, 2, 3] C02Sys.ex0 :=
  .init _ C02Sys.ex0_init.1 C02Sys.ex0_init.2 C19Sys.ex0_sideG C19Sys.ex0_ginv C19Sys.ex0_tracks exNode_nodeInv

theorem ex1_reachGF : ReachableGF [1, 2, 3] C02Sys.ex1 :=
  .next C02Sys.ex0 C02Sys.ex1 ex0_reachGF (.step 1 .timeout [] [] 0 C19Sys.ex1_enabled.1 C19Sys.ex1_enabled.2 rfl)
    C02Sys.ex1_side C19Sys.ex1_sideG

/-- EXAMPLE (`tracks_after_crash_at_any_point_sysG_partial`): its hypotheses hold for node 1 of `ex0`, its election timeout
and the crash point `k = 1`; the restarted node is `C19Sys.exN` -/
example : [1, 2, 3].Nodup ∧ ReachableGF [1, 2, 3] C02Sys.ex0 ∧ Commit.Enabled C02Sys.ex0 1 .timeout 0 ∧
    EnabledG C02Sys.ex0 1 .timeout ∧ (C02Sys.ex0.node 1).closed = "" ∧ (C02Sys.ex0.node 1).cid ≠ 0 ∧
    Node.restart (C05.crashDisk (C02Sys.ex0.node 1) .timeout [] [] 1) 1 true = some C19Sys.exN :=
  ⟨by decide, ex0_reachGF, C19Sys.ex1_enabled.1, C19Sys.ex1_enabled.2, rfl, by decide, C19Sys.exN_restart⟩

end

end C19FsmConfigRun
end Raft

#print axioms Raft.FirstCfgSys.nodeInv_step_nc
#print axioms Raft.FirstCfgSys.crashDisk_pd_nc -- also C12
#print axioms Raft.FirstCfgSys.nodeInv_crash_nc -- also C12
#print axioms Raft.FirstCfgSys.first_of_readFrom2
#print axioms Raft.FirstCfgSys.lab_of_snapRead
#print axioms Raft.FirstCfgSys.invF_trans
#print axioms Raft.FirstCfgSys.reach4F
#print axioms Raft.C19FsmConfigRun.nodeInv_reachable4F -- also C12
#print axioms Raft.C19FsmConfigRun.ledgers_reachable4F
#print axioms Raft.C19FsmConfigRun.enabled_ok_reachable4F
#print axioms Raft.C19FsmConfigRun.latest_is_newest_sys_partial
#print axioms Raft.C19FsmConfigRun.reachable4F_of_run
#print axioms Raft.C19FsmConfigRun.tracks_after_crash_at_any_point_sys_partial -- also C12
#print axioms Raft.C19FsmConfigRun.tracks_after_crash_in_install_sys_partial -- also C12
#print axioms Raft.C19FsmConfigRun.restart_succeeds_snap_run_partial -- also C10
#print axioms Raft.C19FsmConfigRun.restart_succeeds_install_run_partial -- also C10
#print axioms Raft.C19FsmConfigRun.exW3_reach4F
#print axioms Raft.FirstCfgSys.invG_trans
#print axioms Raft.FirstCfgSys.reachGF
#print axioms Raft.C19FsmConfigRun.nodeInv_reachableGF -- also C12
#print axioms Raft.C19FsmConfigRun.nodeInv_runG_partial -- also C12
#print axioms Raft.C19FsmConfigRun.latest_is_newest_sysG_partial
#print axioms Raft.C19FsmConfigRun.tracks_after_crash_at_any_point_sysG_partial -- also C12 C10
#print axioms Raft.C19FsmConfigRun.ex1_reachGF
