/-
C16 (leadership transfer) on the cluster-level transition system WITH membership changes (`Raft.Member`,
Sys/Member.lean; runs `C08Member.ReachableR root`: the assumptions of Props/C08Member.lean on the initial state and on
what is delivered, NO side condition on the states passed).

**The operations of a transfer are ordinary operations of this system** (`transfer_ops_admitted_member`): the
`TransferLeadership` task (`.transfer`), the `timeoutNow` request delivered to any node at any time (`.timeoutNow`), vote
requests with the transfer flag, the result of the `timeoutNow` request (`.timeoutNowResult`; `ReqG.timeoutNow`: a
transport error names a replicated node), the transfer timer and the new-term timer — together with `.changeConfig`
requests, configuration entries, and the reports of the replications that drive promotions and removals.

Proved (`_partial`: the assumptions of `ReachableR` — no snapshots / compaction, every node bootstrapped from the start,
submitted configurations keep two stable voters; see the doc comments):
`transfer_target_is_voter_with_leaders_log_member_partial`, `no_config_change_during_transfer_member_partial` and
`transfer_freezes_leader_member_partial` (node level, EVERY state and operation: `TransferMember.step_frozen`),
`transfer_keeps_election_safety_member_partial` (a corollary of Props/C08Member.lean),
`transfer_success_means_higher_term_member_partial`.
NOT covered: "fails with an error and leaves the cluster able to keep or elect a leader" (liveness; C17 has it for the
fixed configuration only); that the TARGET, when the `timeoutNow` request reaches it, still holds the leader's log as
its whole log (it may meanwhile have accepted entries of a later leader — the transfer is then moot).
-/
import RaftVerif.Lemmas.TransferMemberB
import RaftVerif.Props.C16Sys
import RaftVerif.Props.C08Member
import RaftVerif.Props.AuditMember

namespace Raft
namespace C16Member
open Node Election LogRel Replication CommitRel Commit Member MemberCore MemberInv
open MemberSide TransferMember C08Member

/-! ### the system admits the operations of a transfer -/

/-- **the operations of a leadership transfer are operations of the system with membership changes**: they satisfy
`LogRel.OpOK` and `CfgRel.OpOk` (the other enabling conditions of `Member.Enabled` concern vote requests — a vote request
that is not stale is a recorded campaign, with or without the transfer flag —, append requests and match-index
reports), and `ReqG` asks of them only that a transport error of the `timeoutNow` request names a replicated node. -/
theorem transfer_ops_admitted_member (t g src r : Nat) (err : Bool) (q : VoteReq) :
    (OpOK (.transfer t g) ∧ CfgRel.OpOk (.transfer t g)) ∧ (OpOK .timeoutNow ∧ CfgRel.OpOk .timeoutNow) ∧
    (OpOK (.vote { q with transfer := true }) ∧ CfgRel.OpOk (.vote { q with transfer := true })) ∧
    (OpOK .transferTimeout ∧ CfgRel.OpOk .transferTimeout) ∧
    (OpOK (.timeoutNowResult src err r) ∧ CfgRel.OpOk (.timeoutNowResult src err r)) ∧
    (OpOK .newTermTimeout ∧ CfgRel.OpOk .newTermTimeout) :=
  ⟨⟨trivial, trivial⟩, ⟨trivial, trivial⟩, ⟨trivial, trivial⟩, ⟨trivial, trivial⟩, ⟨trivial, trivial⟩,
    ⟨trivial, trivial⟩⟩

/-! ### the designated target -/

/-- **C16 (1), the designated successor is a voter of the leader's latest configuration that holds the leader's log —
with membership changes (partial: the assumptions of the file header).** Let `x` be a state reachable in
`ReachableR root`, `i` an open node that is leader and has no `timeoutNow` request in flight
(`transfer.respPending = false`), `op` any operation that may be delivered to `i` (`Member.Enabled`, `ReqG` — a
`TransferLeadership` task, a report of a replication, the result of an earlier `timeoutNow` request, a timer, …),
handled with any oracle, such that afterwards `i` is still leader and HAS a `timeoutNow` request in flight: the step
designated a transfer target. Let `y = stepM x i op ra ord src` and `p` the node `i` in it. Then the step ended with a
call `c.tryTransfer` whose choice `t = c.tryTransferTarget.1 ≠ 0` — the node the `timeoutNow` request is sent to —
satisfies:
* `t ≠ i`, and `t` is a VOTER of `p.configs.latest`, the leader's latest configuration at that moment (whatever chain
  of membership changes led to it; committed or not);
* the leader's replication record of `t` has contact and `matchIndex = p.lastLogIndex`;
* the ledger `acks` of `y` holds an acknowledgement `a` of `t` for the leader's term whose index is the leader's LAST
  log index and whose entry term is the leader's term (`t` answered `success` to an append request of this leader ending
  at the leader's last entry);
* and now: `t`'s log, flushed up to that index, holds at EVERY index `1 ≤ k' ≤ p.lastLogIndex` the very entry the leader
  holds — unless the tree of created entries contains an entry of a later term, not above `t`'s current term, that does
  not extend the leader's last entry (a later leader has overwritten it on `t`; the old leader is deposed). -/
theorem transfer_target_is_voter_with_leaders_log_member_partial (root : K) (x : Member.Sys) (h : ReachableR root x)
    (i : Nat) (op : Op) (src : Nat) (he : Member.Enabled x i op src) (hg : ReqG x i op)
    (ho : (x.node i).closed = "") (ra : List Nat) (ord : List (List Nat))
    (hl : (x.node i).role = .leader) (h0 : (x.node i).ldr.transfer.respPending = false)
    (hl1 : ((x.node i).step op ra ord).role = .leader)
    (h1 : ((x.node i).step op ra ord).ldr.transfer.respPending = true) :
    ∃ (c : Node) (t : Nat), (x.node i).step op ra ord = c.tryTransfer ∧ c.tryTransferTarget.1 = t ∧ t ≠ 0 ∧
      (t ≠ i ∧ ((x.node i).step op ra ord).configs.latest.isVoter t = true) ∧
      (∃ r ∈ ((x.node i).step op ra ord).ldr.repls, r.id = t ∧ r.noContact = false ∧
        r.matchIndex = ((x.node i).step op ra ord).lastLogIndex) ∧
      ∃ a ∈ (stepM x i op ra ord src).cm.acks, a.voter = t ∧ a.term = ((x.node i).step op ra ord).term ∧
        a.index = ((x.node i).step op ra ord).lastLogIndex ∧ a.eterm = ((x.node i).step op ra ord).term ∧
        ((((x.node i).step op ra ord).lastLogIndex ≤ ((stepM x i op ra ord src).node t).log.flushed ∧
          ∀ k', 1 ≤ k' → k' ≤ ((x.node i).step op ra ord).lastLogIndex →
            ((stepM x i op ra ord src).node t).log.get? k' = ((x.node i).step op ra ord).log.get? k') ∨
         ∃ c' ∈ (stepM x i op ra ord src).cm.T, ((x.node i).step op ra ord).term < c'.e.term ∧
           c'.e.term ≤ ((stepM x i op ra ord src).node t).term ∧
           ¬ Anc (stepM x i op ra ord src).cm.T
             (((x.node i).step op ra ord).lastLogIndex, ((x.node i).step op ra ord).term) (c'.e.index, c'.e.term)) := by
  have hy : ReachableR root (stepM x i op ra ord src) := .next x _ h (.step i op ra ord src he hg ho)
  obtain ⟨⟨G, hIy, _⟩, hXy⟩ := inv_reachable root _ hy
  have hSy := hXy.sideT
  have hni := stepM_node_i x i op ra ord src
  obtain ⟨c, hc, ht0⟩ := C16Sys.designated_by_tryTransfer (x.node i) op ra ord he.rp.ok hl h0 h1
  have hly : ((stepM x i op ra ord src).node i).role = .leader := by rw [hni]; exact hl1
  have hcache : C06Cache.CacheOK ((x.node i).step op ra ord) := by
    have := C08Sys.leaderCache_reachable _ (reachableP_of hy) i
    rw [hni] at this
    exact this hl1
  have hnid : ((x.node i).step op ra ord).nid = i := by rw [← hni]; exact (hIy.rp.el.ids i).1
  obtain ⟨hti, hvt, r, hrm, hrid, hct, hmi⟩ := C16Sys.tryTransfer_target hc ht0 hcache
  -- the target has caught up
  have hni' : (stepM x i op ra ord src).cm.node i = (x.node i).step op ra ord := hni
  obtain ⟨a, ha, a1, a2, hidx, het, hst⟩ := (core_of_minv hIy).caught_up (ldrCreatesM hIy hSy)
    (fun _ ha => List.mem_append_left _ ha) hly (by rw [hni']; exact hrm) (by rw [hni']; exact hmi)
  rw [hrid] at a1 hst
  rw [hni'] at a2 hidx het hst
  exact ⟨c, _, hc, rfl, ht0, ⟨by rw [← hnid]; exact hti, hvt⟩, ⟨r, hrm, hrid, hct, hmi⟩, a, ha, a1, a2, hidx, het, hst⟩

/-! ### nothing is stored while a transfer is in progress -/

/-- **C16 (2), while a transfer is in progress no client entry and no configuration entry is appended — one step, with
membership changes (partial: no snapshots / compaction).** Let `x` be ANY state of `Member` (reachable or not), `i` a
node that is leader, `op` any operation that may be delivered to it (`Member.Enabled`: a client batch, a membership
change request, a report of a replication that completes a promotion round or a removal, a commit, …), handled with any
oracle, such that AFTER the step a transfer is in progress on `i` (`ldr.transfer.active` — the transfer was in progress
before, or the step started it). Then, `p` being node `i` after the step:
* `p` is still leader, and its log (entries and first index), last index / term and LATEST configuration are those
  before the step: nothing was appended, no configuration adopted;
* the ledger of created entries (`T`) and the ledger `changes` of introduced configurations are those of `x`.
(By contraposition: a step of a leader that appends an entry or moves its latest configuration ends with no transfer
in progress — every membership action held back by `canChangeConfig` is taken, if at all, after the transfer was
answered: `replyTransfer` → `checkConfigActions`.) -/
theorem no_config_change_during_transfer_member_partial (x : Member.Sys) (i : Nat) (op : Op) (src : Nat)
    (he : Member.Enabled x i op src) (ra : List Nat) (ord : List (List Nat))
    (hl : (x.node i).role = .leader)
    (ha : ((x.node i).step op ra ord).ldr.transfer.active = true) :
    (((x.node i).step op ra ord).role = .leader ∧
      ((x.node i).step op ra ord).log.entries = (x.node i).log.entries ∧
      ((x.node i).step op ra ord).log.prev = (x.node i).log.prev ∧
      ((x.node i).step op ra ord).lastLogIndex = (x.node i).lastLogIndex ∧
      ((x.node i).step op ra ord).lastLogTerm = (x.node i).lastLogTerm ∧
      ((x.node i).step op ra ord).configs.latest = (x.node i).configs.latest) ∧
    (stepM x i op ra ord src).cm.T = x.cm.T ∧ (stepM x i op ra ord src).changes = x.changes := by
  obtain ⟨hr, hp, hq⟩ := step_frozen (x.node i) op ra ord he.rp.ok hl ha
  obtain ⟨q1, q2, q3, q4, q5⟩ := lq_eq hq
  refine ⟨⟨by rw [hp]; exact hr, q1, q2, q3, q4, q5⟩, ?_, ?_⟩
  · show newCreated i (x.node i).log.entries ((x.node i).step op ra ord).log.entries op ++ x.cm.rp.created = _
    rw [q1]
    unfold newCreated
    split
    · rfl
    · rw [List.drop_length]; rfl
  · show changeOf i (x.node i) op ((x.node i).step op ra ord) ++ x.changes = _
    unfold changeOf
    rw [q5, if_neg (fun h => Nat.lt_irrefl _ h.2)]
    rfl

/-- runs of `MemberSide.TransR` in whose every state after the first node `i` is leader with a transfer in progress -/
inductive RunT (i : Nat) : Member.Sys → Member.Sys → Prop
  | refl (x : Member.Sys) : RunT i x x
  | next (x y z : Member.Sys) : RunT i x y → TransR y z → (z.node i).role = .leader →
      (z.node i).ldr.transfer.active = true → RunT i x z

/-- **C16 (2), the leader's log and configuration are frozen for the whole duration of a transfer (partial).** Let
`x ⟶ … ⟶ y` be any stretch of a run (`RunT i`: completed steps of any nodes with any enabled operations — membership
change requests, promotions coming due, commits of pending configuration entries included —, crashes, sends) such that
in EVERY state after `x` node `i` is leader with a transfer in progress, `i` being leader in `x` (the transfer may
start in the first step). Then in `y` the log (entries, first index), the last index / term and the LATEST
configuration of `i` are those of `x`: the configuration the target was validated against (`tryTransfer` in a state of
the stretch) is still the leader's latest configuration when the `timeoutNow` request is answered, resent or times out,
and the target's acknowledged index is still the leader's last index. -/
theorem transfer_freezes_leader_member_partial (i : Nat) (x y : Member.Sys) (hrun : RunT i x y)
    (hl : (x.node i).role = .leader) :
    (y.node i).role = .leader ∧ (y.node i).log.entries = (x.node i).log.entries ∧
    (y.node i).log.prev = (x.node i).log.prev ∧ (y.node i).lastLogIndex = (x.node i).lastLogIndex ∧
    (y.node i).lastLogTerm = (x.node i).lastLogTerm ∧ (y.node i).configs.latest = (x.node i).configs.latest := by
  induction hrun with
  | refl => exact ⟨hl, rfl, rfl, rfl, rfl, rfl⟩
  | next y z _ ht hlz haz ih =>
    obtain ⟨i1, i2, i3, i4, i5, i6⟩ := ih
    cases ht with
    | step j op ra ord src he _ _ =>
      by_cases hj : i = j
      · subst hj
        rw [stepM_node_i] at hlz haz ⊢
        obtain ⟨⟨_, q1, q2, q3, q4, q5⟩, _⟩ :=
          no_config_change_during_transfer_member_partial y i op src he ra ord i1 haz
        exact ⟨hlz, q1.trans i2, q2.trans i3, q3.trans i4, q4.trans i5, q5.trans i6⟩
      · rw [stepM_node_j _ _ _ _ _ _ hj] at hlz ⊢
        exact ⟨hlz, i2, i3, i4, i5, i6⟩
    | crash j op ra ord src k retain sor n _ _ _ _ hn =>
      by_cases hj : i = j
      · subst hj
        exfalso
        rw [crashM_node_i, (Election.restart_role_nid _ _ _ _ hn).1] at hlz
        cases hlz
      · rw [crashM_node_j _ _ _ _ hj] at hlz ⊢
        exact ⟨hlz, i2, i3, i4, i5, i6⟩
    | send j q _ _ _ _ => exact ⟨hlz, i2, i3, i4, i5, i6⟩

/-! ### election safety and leader completeness with transfers -/

/-- **C16 (3), a transfer never produces two leaders in one term, and never loses a committed entry — across membership
changes (partial: the assumptions of the file header). A COROLLARY of Props/C08Member.lean**: the operations of a
transfer are ordinary operations of the system (`transfer_ops_admitted_member`: nothing had to be added to
`Member.Enabled` / `ReqG`), so `C08Member.election_safety_member_partial` and `leader_completeness_member_partial` cover
every run with transfers — `timeoutNow` requests delivered to any node at any time (stale, duplicated, to a node that is
no longer — or not yet — a voter of the sender's configuration), vote requests with the transfer flag, which voters
grant although they know a leader. In every state reachable in `ReachableR root`:
1. two nodes that are leader in the same term are the same node; the ledger `won` names at most one node per term;
2. every leader holds every entry of the ledger `committed` whose term is not above its own (in particular a transfer
   target that wins its election holds everything committed under the old leader).
(The statement is about ONE state; that a leader recorded in an earlier state of the run is still the only leader of its
term needs in addition that `won` only grows, which is not stated here.) -/
theorem transfer_keeps_election_safety_member_partial (root : K) (x : Member.Sys) (h : ReachableR root x) :
    (∀ i j, (x.node i).role = .leader → (x.node j).role = .leader → (x.node i).term = (x.node j).term → i = j) ∧
    (∀ l l' t, (l, t) ∈ x.el.won → (l', t) ∈ x.el.won → l = l') ∧
    (∀ i, (x.node i).role = .leader → ∀ m ∈ x.cm.committed, m.2 ≤ (x.node i).term →
      ∃ e, (x.node i).log.get? m.1 = some e ∧ e.term = m.2) :=
  ⟨(election_safety_member_partial root x h).1, (election_safety_member_partial root x h).2.1,
    (leader_completeness_member_partial root x h).2⟩

/-! ### success means: stepped down, higher term -/

/-- **C16 (4), a transfer returns success only after the old leader has stepped down in favour of a higher term — with
membership changes (partial: the assumptions of the file header).** Let `x` be a state reachable in `ReachableR root`,
`i` an open node that is leader with a transfer in progress for the task `tk ≠ 0`, whose task ledger is consistent
(`C15Tasks.TasksOK`), and `op` any operation that may be delivered to `i` (`Member.Enabled`, `ReqG`) bringing in fresh
task ids (`C15Tasks.Fresh`), handled with any oracle. If the step answers the transfer task with `ok` (the
`TransferLeadership` call returns success), then in this very step the handler left the leader role — the node stepped
down; the answer is the one `leader.release` gives — and the node's term after the step is above the term in which the
transfer was started. (Otherwise the task stays pending, or is answered with an error.) -/
theorem transfer_success_means_higher_term_member_partial (root : K) (x : Member.Sys) (h : ReachableR root x)
    (i : Nat) (op : Op) (src : Nat) (he : Member.Enabled x i op src) (hg : ReqG x i op)
    (ho : (x.node i).closed = "") (ra : List Nat) (ord : List (List Nat))
    (hT : C15Tasks.TasksOK (x.node i)) (hF : C15Tasks.Fresh (x.node i) op)
    (hl : (x.node i).role = .leader) (hact : (x.node i).ldr.transfer.active = true)
    (h0 : (x.node i).ldr.transfer.task ≠ 0)
    (hrep : ({ task := (x.node i).ldr.transfer.task, result := "ok" } : Reply) ∈ ((x.node i).step op ra ord).replies) :
    (((x.node i).begin ra ord).handle op).role ≠ .leader ∧
    (x.node i).ldr.transfer.term < ((x.node i).step op ra ord).term := by
  obtain ⟨⟨G, hI, _⟩, hX⟩ := inv_reachable root x h
  have hq := reqok hI hX he hg
  obtain ⟨_, _, hnd, hdis, _, _⟩ := C15Tasks.task_step_two (x.node i) op ra ord (hX.good i) ho hq hT hF
  exact C16Sys.transfer_ok_means_left _ op ra ord he.rp.ok hl hact h0 (hI.rp.el.ids i).2 hnd hdis hrep

/-! ### Examples (non-vacuity): promote node 4, then transfer leadership to it

The run `AuditMember.m1 … m21` (PROVED reachable in `ReachableR (1,1)`: node 1 is elected in term 2 by the voters
{1,2,3}, adds node 4 as a non-voter to be promoted — configuration (3,2) —, promotes it when it has caught up —
configuration (4,2), voters {1,2,3,4} —, replicates and commits it; the leader's record of node 4 still has match index 3)
continued:
* `t1`: the leader 1 handles `TransferLeadership(target = 4)`, task 7: valid — 4 is a voter of the latest configuration,
  promoted two entries ago —, but 4 is not ready (match index 3 < last index 4): no request goes out;
* `t2`: the report "match index 4" of the replication to node 4 (backed by node 4's acknowledgement of index 4) arrives:
  `checkReplUpdates` ends with `tryTransfer`, which designates node 4 (`respPending`);
* `t3`: node 4 handles the `timeoutNow` request: it is a voter of ITS latest configuration (4,2) and starts the election
  of term 3 with the transfer flag (election configuration: voters {1,2,3,4});
* `t4`: the replication of node 1 to node 4 reports term 3: node 1 steps down, `leader.release` answers task 7 with `ok`.
The states `t1 … t4` are PROVED reachable (`r1 … r4`); the post-state of the step `t1 → t2` is computed with
`C07Sys.altPost` (the majority match index given: the kernel does not evaluate `List.mergeSort`). -/

section run
open AuditMember
open C07Sys (altPost)

/-- the report of the replication to node 4 -/
def u4 : List ReplUpdate := [{ id := 4, upd := .matchIndex 4 }]
/-- the replication to node 4 has seen term 3 -/
def uNew : List ReplUpdate := [{ id := 4, upd := .newTerm 3 }]

def t1 : Member.Sys := stepM m21 1 (.transfer 7 4) [] [] 0
def t2 : Member.Sys := stepMP t1 1 (.replUpdates u4) 0 (altPost (t1.node 1) u4 4)
def t3 : Member.Sys := stepM t2 4 .timeoutNow [] [] 0
def t4 : Member.Sys := stepM t3 1 (.replUpdates uNew) [] [] 0

theorem enM_ne (x : Member.Sys) (i : Nat) (b : List QItem) (hi : i ≠ 0) (hb : ∀ q ∈ b, q.typ ≠ etConfig) :
    Member.Enabled x i (.newEntries b) 0 ∧ ReqG x i (.newEntries b) :=
  enabledM_iff.mpr ⟨hi, hb⟩

theorem checkedT : CheckedM NodeTwoV m21 [.step 1 (.transfer 7 4) 0, .commit 1 u4 4, .step 4 .timeoutNow 0,
    .step 1 (.replUpdates uNew) 0] := by decide +kernel

theorem r4 : RM t4 := rm_run _ q21 checkedT

theorem r1 : RM t1 := rm_run _ q21 (Script.Checked.take _ _ 1 checkedT)
theorem r2 : RM t2 := rm_run _ q21 (Script.Checked.take _ _ 2 checkedT)
theorem r3 : RM t3 := rm_run _ q21 (Script.Checked.take _ _ 3 checkedT)

/-- the second action (the report of the replication to node 4) and the last (the `newTerm` report), as checked -/
theorem okT1 : (ActM.commit 1 u4 4).OK NodeTwoV t1 := Script.Checked.get _ _ 1 (by decide) checkedT
theorem okT3 : (ActM.step 1 (.replUpdates uNew) 0).OK NodeTwoV t3 := Script.Checked.get _ _ 3 (by decide) checkedT

theorem u4_enabled : Member.Enabled t1 1 (.replUpdates u4) 0 ∧ ReqG t1 1 (.replUpdates u4) :=
  enabledM_iff.mpr ⟨okT1.1, okT1.2.1⟩

theorem stT1 : (t1.node 1).step (.replUpdates u4) [] [] = altPost (t1.node 1) u4 4 := ActM.commit_step okT1

theorem t2_eq : stepM t1 1 (.replUpdates u4) [] [] 0 = t2 := by rw [stepM_eq, stT1]; rfl

set_option maxRecDepth 100000 in
/-- EXAMPLE (`transfer_target_is_voter_with_leaders_log_member_partial`): all hypotheses hold for the reachable state
`t1`, the leader 1 and the match-index report of the replication to node 4 — before the step no request is in flight,
afterwards one is. The target (field `transfer.target`, fixed by the request) is node 4: NOT a voter of the
configuration (3,2) the leader had in `m14`, a voter of its latest configuration (4,2) now; the ledger holds node 4's
acknowledgement (term 2, index 4 = the leader's last index), as the theorem says it must. -/
example : ReachableR (1, 1) t1 ∧ (Member.Enabled t1 1 (.replUpdates u4) 0 ∧ ReqG t1 1 (.replUpdates u4)) ∧
    (t1.node 1).closed = "" ∧ (t1.node 1).role = .leader ∧ (t1.node 1).ldr.transfer.respPending = false ∧
    ((t1.node 1).step (.replUpdates u4) [] []).role = .leader ∧
    ((t1.node 1).step (.replUpdates u4) [] []).ldr.transfer.respPending = true ∧
    ((t1.node 1).step (.replUpdates u4) [] []).ldr.transfer.target = 4 ∧
    (m14.node 1).configs.latest.isVoter 4 = false ∧
    ((t1.node 1).step (.replUpdates u4) [] []).configs.latest.isVoter 4 = true ∧
    ((t1.node 1).step (.replUpdates u4) [] []).lastLogIndex = 4 ∧
    (⟨4, 2, 4, 2⟩ : Ack) ∈ (stepM t1 1 (.replUpdates u4) [] [] 0).cm.acks := by
  rw [t2_eq, stT1]
  exact ⟨r1.1, u4_enabled, by decide +kernel⟩

/-- a client update submitted while the transfer is in progress -/
def exUpd : List QItem := [{ typ := etUpdate, data := "y", task := 8 }]

set_option maxRecDepth 100000 in
/-- EXAMPLE (`no_config_change_during_transfer_member_partial`): its hypotheses hold for the reachable state `t2` (the
transfer to node 4 is in progress), the leader 1 and a client update: the operation is enabled, node 1 is leader, and a
transfer is in progress after the step (by `C16Sys.no_new_work_during_transfer_step`; the update is answered
`inProgress:transferLeadership`) — hence (by the theorem) nothing was stored. -/
example : ReachableR (1, 1) t2 ∧ Member.Enabled t2 1 (.newEntries exUpd) 0 ∧ (t2.node 1).role = .leader ∧
    ((t2.node 1).step (.newEntries exUpd) [] []).ldr.transfer.active = true ∧
    ((t2.node 1).step (.newEntries exUpd) [] []).log.entries = (t2.node 1).log.entries := by
  have hl : (t2.node 1).role = .leader := by decide +kernel
  have hen := (enM_ne t2 1 exUpd (by decide) (by decide)).1
  have hact : ((t2.node 1).step (.newEntries exUpd) [] []).ldr.transfer.active = true := by
    have := ((C16Sys.no_new_work_during_transfer_step (t2.node 1) [] [] hl (by decide +kernel)).1 exUpd).1
    rw [(SysMore.core_eq this).2.2.2.2.2.2.2]
    decide +kernel
  exact ⟨r2.1, hen, hl, hact,
    (no_config_change_during_transfer_member_partial t2 1 (.newEntries exUpd) 0 hen [] [] hl hact).1.2.1⟩

set_option maxRecDepth 100000 in
/-- EXAMPLE (`transfer_freezes_leader_member_partial`): `m21 ⟶ t1 ⟶ t2 ⟶ t3` is a stretch of a run in which node 1 is
leader with the transfer in progress in every state after the first -/
example : RunT 1 m21 t3 ∧ (m21.node 1).role = .leader := by
  have h0 : (m21.node 1).closed = "" ∧ (m21.node 1).role = .leader := by decide +kernel
  have h1 : (t1.node 1).closed = "" ∧ (t1.node 1).role = .leader ∧ (t1.node 1).ldr.transfer.active = true := by
    decide +kernel
  have h2 : (t2.node 4).closed = "" ∧ (t2.node 1).role = .leader ∧ (t2.node 1).ldr.transfer.active = true := by
    decide +kernel
  have h3 : (t3.node 1).role = .leader ∧ (t3.node 1).ldr.transfer.active = true := by decide +kernel
  have s1 : RunT 1 m21 t1 :=
    .next _ _ _ (.refl _) (.step 1 (.transfer 7 4) [] [] 0 (enM_plain m21 1 _ (by decide) rfl).1
      (enM_plain m21 1 _ (by decide) rfl).2 h0.1) h1.2.1 h1.2.2
  have s2 : RunT 1 m21 t2 := by
    have := RunT.next _ _ _ s1 (.step 1 (.replUpdates u4) [] [] 0 u4_enabled.1 u4_enabled.2 h1.1)
    rw [t2_eq] at this
    exact this h2.2.1 h2.2.2
  exact ⟨.next _ _ _ s2 (.step 4 .timeoutNow [] [] 0 (enM_plain t2 4 _ (by decide) rfl).1
      (enM_plain t2 4 _ (by decide) rfl).2 h2.1) h3.1 h3.2, h0.2⟩

set_option maxRecDepth 100000 in
/-- EXAMPLE (`transfer_keeps_election_safety_member_partial`, instantiated on the run with a transfer to the freshly
promoted voter): `t4` is reachable — node 4, promoted by configuration (4,2), campaigns in term 3 with the transfer
flag and the election configuration {1,2,3,4}; node 1 has stepped down — so (by the theorem) it has at most one leader
per term and its leaders hold every committed entry. -/
example : ReachableR (1, 1) t4 ∧ (t4.node 4).role = .candidate ∧ (t4.node 4).term = 3 ∧
    (t4.node 4).candTransfer = true ∧ (t4.node 1).role = .follower ∧
    t4.ecfg.map (fun k => (k.cand, k.term, k.cfg.voters)) = [(4, 3, [1, 2, 3, 4]), (1, 2, [1, 2, 3])] ∧
    (∀ i j, (t4.node i).role = .leader → (t4.node j).role = .leader → (t4.node i).term = (t4.node j).term → i = j) :=
  have h : (t4.node 4).role = .candidate ∧ (t4.node 4).term = 3 ∧ (t4.node 4).candTransfer = true ∧
      (t4.node 1).role = .follower ∧
      t4.ecfg.map (fun k => (k.cand, k.term, k.cfg.voters)) = [(4, 3, [1, 2, 3, 4]), (1, 2, [1, 2, 3])] := by
    decide +kernel
  ⟨r4.1, h.1, h.2.1, h.2.2.1, h.2.2.2.1, h.2.2.2.2, (transfer_keeps_election_safety_member_partial (1, 1) t4 r4.1).1⟩

set_option maxRecDepth 100000 in
/-- EXAMPLE (`transfer_success_means_higher_term_member_partial`): all hypotheses hold for the reachable state `t3`, the
leader 1 (transfer task 7 in progress, started in term 2) and the report "term 3" of its replication to node 4: the
step answers task 7 with `ok` — and (by the theorem) the handler left the leader role and the term is above 2. -/
example : ReachableR (1, 1) t3 ∧ (Member.Enabled t3 1 (.replUpdates uNew) 0 ∧ ReqG t3 1 (.replUpdates uNew)) ∧
    (t3.node 1).closed = "" ∧ C15Tasks.TasksOK (t3.node 1) ∧ C15Tasks.Fresh (t3.node 1) (.replUpdates uNew) ∧
    (t3.node 1).role = .leader ∧ (t3.node 1).ldr.transfer.active = true ∧ (t3.node 1).ldr.transfer.task = 7 ∧
    (t3.node 1).ldr.transfer.term = 2 ∧
    ({ task := 7, result := "ok" } : Reply) ∈ ((t3.node 1).step (.replUpdates uNew) [] []).replies ∧
    ((t3.node 1).step (.replUpdates uNew) [] []).term = 3 :=
  ⟨r3.1, enabledM_iff.mpr ⟨okT3.1, okT3.2.1⟩, by decide +kernel, by decide +kernel,
    ⟨List.nodup_nil, fun t h => by cases h⟩, by decide +kernel⟩

-- evaluation (tests, not proofs): the election of node 4 completes — the nodes 2 and 3 grant their votes to the vote
-- request WITH the transfer flag although they know the leader 1; node 4 leads term 3 (quorum 3 of 4) and holds the
-- committed entries; without the flag the request is refused (`leaderKnown`)
def tVote : VoteReq := { term := 3, src := 4, lastLogIndex := 4, lastLogTerm := 2, transfer := true }
def t5 : Member.Sys := stepM (stepM t4 2 (.vote tVote) [] [] 0) 3 (.vote tVote) [] [] 0
def t6 : Member.Sys := stepM (stepM t5 4 (.voteResult false 3 rSuccess) [] [] 2) 4 (.voteResult false 3 rSuccess) [] [] 3
#guard (t3.node 2).leader == 1 && ((t3.node 2).step (.vote { tVote with transfer := false }) [] []).result == rLeaderKnown
#guard t5.el.grants.any (fun g => g.voter == 2 && g.term == 3 && g.cand == 4) &&
  t5.el.grants.any (fun g => g.voter == 3 && g.term == 3 && g.cand == 4)
#guard (t6.node 4).role == .leader && (t6.node 4).term == 3 && (t6.node 4).panicked.isNone &&
  t6.el.won.eraseDups == [(4, 3), (1, 2)]
#guard [2, 3, 4].all (fun k => ((t6.node 4).log.get? k).map (·.term) == ((m21.node 1).log.get? k).map (·.term))

end run

end C16Member
end Raft

#print axioms Raft.C16Member.transfer_ops_admitted_member
#print axioms Raft.C16Member.transfer_target_is_voter_with_leaders_log_member_partial
#print axioms Raft.C16Member.no_config_change_during_transfer_member_partial
#print axioms Raft.C16Member.transfer_freezes_leader_member_partial
#print axioms Raft.C16Member.transfer_keeps_election_safety_member_partial
#print axioms Raft.C16Member.transfer_success_means_higher_term_member_partial
#print axioms Raft.C16Member.r4
#print axioms Raft.TransferMember.step_frozen
#print axioms Raft.TransferMember.handle_frozen
#print axioms Raft.TransferMember.handle_endM
