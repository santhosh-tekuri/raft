/-
C01 on the cluster-level transition system `Raft.Election` (Sys/Election.lean) — fixed voter set.

`election_safety_sys_partial`: in every state reachable by ANY schedule of operations, crashes and restarts
of any number of model nodes — the only constraint being that a vote response a candidate counts is a real
reply of its current election (`Election.RealReply`) — in which the voters of every node's latest
configuration are one duplicate-free list `V` throughout (this is the `_partial` restriction: no membership
change), two nodes that are leader in the same term are the same node; moreover every node that is leader
is recorded in the ledger `won`, and every entry of `won` is backed by a majority of `V` that each durably
granted that node their single vote for that term.

The hypothesis of `C01.election_safety_partial` ("a model node that is leader in term t is backed by a majority of
grants for (t, itself)") is proved here from `Node.role_step` (Lemmas/RoleRel.lean), which covers every
operation of `Node.step`.

The invariant `Inv V` and the one of the system with membership changes (`C01Member.EInv`) share the clauses that speak
of no voter set (`VoteInv`: ids, honoured and unique grants, recorded leaders, counted terms) and the form of the
candidate's bookkeeping (`CandCore`, for a voter predicate and a quorum); their preservation is proved here once
(`voteInv_crash`, `voteInv_step`, `candCore_step`), and each system adds what backs its leaders.
-/
import RaftVerif.Sys.Election
import RaftVerif.Lemmas.NodeSys

namespace Raft
namespace C01Sys
open Node Election C01
open NodeSys (forall_setNode)

theorem isVoter_mem_voters (c : Config) (id : Nat) (h : c.isVoter id = true) : id ∈ c.voters := by
  unfold Config.isVoter at h
  split at h
  · rename_i n hn
    unfold Config.find? at hn
    have hm := List.mem_of_find?_eq_some hn
    have hid : n.id = id := by simpa using List.find?_some hn
    unfold Config.voters
    exact List.mem_map.mpr ⟨n, List.mem_filter.mpr ⟨hm, h⟩, hid⟩
  · cases h

theorem quorum_eq (c : Config) : c.quorum = c.voters.length / 2 + 1 := by
  unfold Config.quorum Config.numVoters Config.voters
  rw [List.length_map]

theorem mem_votersCounted (c : List (Nat × Nat × Nat)) (i t v : Nat) :
    v ∈ votersCounted c i t ↔ (i, t, v) ∈ c := by
  unfold votersCounted
  simp only [List.mem_map, List.mem_filter, Bool.and_eq_true, beq_iff_eq]
  constructor
  · rintro ⟨⟨a, b, c'⟩, ⟨hm, h1, h2⟩, h3⟩
    simp only at h1 h2 h3
    subst h1; subst h2; subst h3
    exact hm
  · intro h
    exact ⟨(i, t, v), ⟨h, rfl, rfl⟩, rfl⟩

theorem votersCounted_cons_hit (c : List (Nat × Nat × Nat)) (i t v : Nat) :
    votersCounted ((i, t, v) :: c) i t = v :: votersCounted c i t := by
  unfold votersCounted
  simp

theorem votersCounted_cons_miss (c : List (Nat × Nat × Nat)) (e : Nat × Nat × Nat) (i t : Nat)
    (h : ¬ (e.1 = i ∧ e.2.1 = t)) : votersCounted (e :: c) i t = votersCounted c i t := by
  unfold votersCounted
  rw [List.filter_cons_of_neg]
  simpa using h

theorem votersCounted_append_miss (a c : List (Nat × Nat × Nat)) (i t : Nat)
    (h : ∀ e ∈ a, ¬ (e.1 = i ∧ e.2.1 = t)) : votersCounted (a ++ c) i t = votersCounted c i t := by
  induction a with
  | nil => rfl
  | cons e a ih =>
    rw [List.cons_append, votersCounted_cons_miss _ _ _ _ (h e (List.mem_cons_self ..))]
    exact ih (fun e' he' => h e' (List.mem_cons_of_mem _ he'))

theorem votersCounted_nil_of_terms (c : List (Nat × Nat × Nat)) (i t : Nat)
    (h : ∀ e ∈ c, e.1 = i → e.2.1 < t) : votersCounted c i t = [] := by
  have : ∀ v, v ∉ votersCounted c i t := by
    intro v hv
    have := h _ ((mem_votersCounted c i t v).mp hv) rfl
    simp at this
  exact List.eq_nil_iff_forall_not_mem.mpr this

theorem backed_mono {G G' : List Grant} {V : List Nat} {l t : Nat} (hsub : ∀ g ∈ G, g ∈ G')
    (h : Backed G V l t) : Backed G' V l t := by
  obtain ⟨Q, a, b, c, d⟩ := h
  exact ⟨Q, a, b, c, fun v hv => hsub _ (d v hv)⟩

/-- the voter still honours the grant: its term moved on, or its vote in that term is the granted one -/
def HonouredBy (s : Node) (g : Grant) : Prop :=
  g.cand ≠ 0 ∧ (g.term < s.term ∨ (g.term = s.term ∧ s.votedFor = g.cand))

theorem honouredBy_step {s s' : Node} {g : Grant} (h : HonouredBy s g) (hs : C05.VoteStep s s') :
    HonouredBy s' g := by
  obtain ⟨h1, h2⟩ := h
  refine ⟨h1, ?_⟩
  obtain ⟨ht, hv⟩ := hs
  rcases h2 with h2 | ⟨h2, h3⟩
  · left; omega
  · by_cases he : s'.term = s.term
    · right; refine ⟨by omega, ?_⟩
      rw [hv he (by rw [h3]; exact h1), h3]
    · left; omega

def GrantsUnique (G : List Grant) : Prop :=
  ∀ a ∈ G, ∀ b ∈ G, a.voter = b.voter → a.term = b.term → a.cand = b.cand

/-- bookkeeping of candidate `i`: it is a voter, its self vote is in the ledger, the voters it counted in
its term are distinct other voters that granted it their vote, and `votesNeeded` is what is still missing
for a majority of `V`. -/
structure CandOK (V : List Nat) (x : Sys) (i : Nat) : Prop where
  term_pos : (x.node i).term ≠ 0
  voter : i ∈ V
  self : ({ voter := i, term := (x.node i).term, cand := i } : Grant) ∈ x.grants
  nodup : (votersCounted x.counted i (x.node i).term).Nodup
  real : ∀ v ∈ votersCounted x.counted i (x.node i).term,
    v ∈ V ∧ v ≠ i ∧ ({ voter := v, term := (x.node i).term, cand := i } : Grant) ∈ x.grants
  count : (x.node i).votesNeeded + ((votersCounted x.counted i (x.node i).term).length : Int) + 1
    = ((V.length / 2 + 1 : Nat) : Int)

structure Inv (V : List Nat) (x : Sys) : Prop where
  ids : ∀ i, (x.node i).nid = i ∧ C05.VoteWF (x.node i)
  honoured : ∀ g ∈ x.grants, HonouredBy (x.node g.voter) g
  unique : GrantsUnique x.grants
  cand : ∀ i, (x.node i).role = .candidate → CandOK V x i
  recorded : ∀ i, (x.node i).role = .leader → (i, (x.node i).term) ∈ x.won
  backed : ∀ l t, (l, t) ∈ x.won → Backed x.grants V l t
  countedTerm : ∀ e ∈ x.counted, e.2.1 ≤ (x.node e.1).term

/-- the bookkeeping of candidate `i` for a voter predicate `Q` and a quorum `q`: `CandOK V` is the case `(· ∈ V)`,
`V.length / 2 + 1`; with membership changes (`C01Member.CandOK`) `Q` and `q` are those of the configuration the
election started with -/
structure CandCore (Q : Nat → Prop) (q : Nat) (x : Sys) (i : Nat) : Prop where
  term_pos : (x.node i).term ≠ 0
  voter : Q i
  self : ({ voter := i, term := (x.node i).term, cand := i } : Grant) ∈ x.grants
  nodup : (votersCounted x.counted i (x.node i).term).Nodup
  real : ∀ v ∈ votersCounted x.counted i (x.node i).term,
    Q v ∧ v ≠ i ∧ ({ voter := v, term := (x.node i).term, cand := i } : Grant) ∈ x.grants
  count : (x.node i).votesNeeded + ((votersCounted x.counted i (x.node i).term).length : Int) + 1 = (q : Int)

theorem CandOK.core {V : List Nat} {x : Sys} {i : Nat} (h : CandOK V x i) :
    CandCore (· ∈ V) (V.length / 2 + 1) x i :=
  ⟨h.term_pos, h.voter, h.self, h.nodup, h.real, h.count⟩

theorem CandCore.candOK {V : List Nat} {x : Sys} {i : Nat} (h : CandCore (· ∈ V) (V.length / 2 + 1) x i) :
    CandOK V x i :=
  ⟨h.term_pos, h.voter, h.self, h.nodup, h.real, h.count⟩

/-- `CandOK.transfer` (here and in Props/C01Member.lean) for any voter predicate and quorum -/
theorem CandCore.transfer {Q : Nat → Prop} {q : Nat} {x y : Sys} {j : Nat} (h : CandCore Q q x j)
    (ht : (y.node j).term = (x.node j).term) (hv : (y.node j).votesNeeded = (x.node j).votesNeeded)
    (hg : ∀ g ∈ x.grants, g ∈ y.grants)
    (hc : votersCounted y.counted j (x.node j).term = votersCounted x.counted j (x.node j).term) :
    CandCore Q q y j := by
  obtain ⟨a, b, c, d, e, f⟩ := h
  refine ⟨?_, b, ?_, ?_, ?_, ?_⟩
  · rw [ht]; exact a
  · rw [ht]; exact hg _ c
  · rw [ht, hc]; exact d
  · rw [ht, hc]; intro v hv'; obtain ⟨e1, e2, e3⟩ := e v hv'; exact ⟨e1, e2, hg _ e3⟩
  · rw [ht, hc, hv]; exact f

/-- the bookkeeping of candidate `j` carries over to a state in which its term and `votesNeeded` are the
same, no grant was lost and the voters it counted in its term are the same -/
theorem CandOK.transfer {V : List Nat} {x y : Sys} {j : Nat} (h : CandOK V x j)
    (ht : (y.node j).term = (x.node j).term) (hv : (y.node j).votesNeeded = (x.node j).votesNeeded)
    (hg : ∀ g ∈ x.grants, g ∈ y.grants)
    (hc : votersCounted y.counted j (x.node j).term = votersCounted x.counted j (x.node j).term) :
    CandOK V y j := (h.core.transfer ht hv hg hc).candOK

theorem candCore_intro {Q : Nat → Prop} {q : Nat} {y : Sys} {j : Nat} (t : Nat) (vn : Int) (C : List Nat)
    (ht : (y.node j).term = t) (hvn : (y.node j).votesNeeded = vn) (hC : votersCounted y.counted j t = C)
    (a : t ≠ 0) (b : Q j) (c : ({ voter := j, term := t, cand := j } : Grant) ∈ y.grants) (d : C.Nodup)
    (e : ∀ v ∈ C, Q v ∧ v ≠ j ∧ ({ voter := v, term := t, cand := j } : Grant) ∈ y.grants)
    (f : vn + (C.length : Int) + 1 = (q : Int)) : CandCore Q q y j := by
  subst ht; subst hvn; subst hC
  exact ⟨a, b, c, d, e, f⟩

/-- a candidate that counts the vote of `src` (a voter other than itself whose grant is recorded and was not counted
before) as its last missing one is backed by a majority of the voter list `W`: itself, `src` and the voters counted
before -/
theorem CandCore.backed_last {Q : Nat → Prop} {q : Nat} {x : Sys} {l src : Nat} {W : List Nat}
    (ok : CandCore Q q x l) (hQ : ∀ v, Q v → v ∈ W) (hq : q = W.length / 2 + 1) (hsrc : Q src) (hne : src ≠ l)
    (hg : ({ voter := src, term := (x.node l).term, cand := l } : Grant) ∈ x.grants)
    (hnc : (l, (x.node l).term, src) ∉ x.counted) (h0 : (x.node l).votesNeeded - 1 = 0) :
    Backed x.grants W l (x.node l).term := by
  have hnotin : src ∉ votersCounted x.counted l (x.node l).term :=
    fun hm => hnc ((mem_votersCounted _ _ _ _).mp hm)
  have hall : ∀ v ∈ l :: src :: votersCounted x.counted l (x.node l).term,
      Q v ∧ ({ voter := v, term := (x.node l).term, cand := l } : Grant) ∈ x.grants := by
    intro v hv
    rcases List.mem_cons.mp hv with hv | hv
    · subst hv; exact ⟨ok.voter, ok.self⟩
    · rcases List.mem_cons.mp hv with hv | hv
      · subst hv; exact ⟨hsrc, hg⟩
      · exact ⟨(ok.real v hv).1, (ok.real v hv).2.2⟩
  refine ⟨_, List.nodup_cons.mpr ⟨fun hm => ?_, List.nodup_cons.mpr ⟨hnotin, ok.nodup⟩⟩,
    fun v hv => hQ v (hall v hv).1, ?_, fun v hv => (hall v hv).2⟩
  · rcases List.mem_cons.mp hm with hm | hm
    · exact hne hm.symm
    · exact (ok.real l hm).2.1 rfl
  · have := ok.count
    simp only [List.length_cons]
    omega

theorem CandOK.backed_last {V : List Nat} {x : Sys} {l src : Nat} (ok : CandOK V x l)
    (hV : (x.node l).configs.latest.voters = V) (hr : RealReply x l src) (h0 : (x.node l).votesNeeded - 1 = 0) :
    Backed x.grants V l (x.node l).term :=
  ok.core.backed_last (fun _ h => h) rfl (hV ▸ isVoter_mem_voters _ _ hr.2.1) hr.1 hr.2.2.1 hr.2.2.2 h0

/-- the clauses of the election invariant that speak of no voter set: they are the same with a fixed voter set (`Inv`)
and with membership changes (`C01Member.EInv`), and so is their preservation (`voteInv_crash`, `voteInv_step`) -/
structure VoteInv (x : Sys) : Prop where
  ids : ∀ i, (x.node i).nid = i ∧ C05.VoteWF (x.node i)
  honoured : ∀ g ∈ x.grants, HonouredBy (x.node g.voter) g
  unique : GrantsUnique x.grants
  recorded : ∀ i, (x.node i).role = .leader → (i, (x.node i).term) ∈ x.won
  countedTerm : ∀ e ∈ x.counted, e.2.1 ≤ (x.node e.1).term

theorem voteInv {V : List Nat} {x : Sys} (hI : Inv V x) : VoteInv x :=
  ⟨hI.ids, hI.honoured, hI.unique, hI.recorded, hI.countedTerm⟩

/-- node `i` is replaced by a state whose term is not lower and whose vote of an unchanged term is kept: the same holds
at every node -/
theorem voteStep_setNode {f : Nat → Node} {i : Nat} {n : Node} (h : C05.VoteStep (f i) n) :
    ∀ j, C05.VoteStep (f j) (setNode f i n j) :=
  forall_setNode (P := fun j s => C05.VoteStep (f j) s) h fun _ _ => ⟨Nat.le_refl _, fun _ _ => rfl⟩

theorem inv_init (V : List Nat) (x : Sys) (h : Init x) : Inv V x := by
  obtain ⟨hn, hg, hc, hw⟩ := h
  refine ⟨fun i => ⟨(hn i).1, (hn i).2.1⟩, ?_, ?_, ?_, ?_, ?_, ?_⟩
  · rw [hg]; intro g hg'; cases hg'
  · rw [hg]; intro a ha; cases ha
  · intro i hi; rw [(hn i).2.2] at hi; cases hi
  · intro i hi; rw [(hn i).2.2] at hi; cases hi
  · rw [hw]; intro l t h'; cases h'
  · rw [hc]; intro e he; cases he

/-- the restarted node is a follower whose (term, vote) is a legal successor of what the step started from -/
theorem voteInv_crash {x : Sys} (hI : VoteInv x) (i : Nat) (op : Op) (ra : List Nat) (ord : List (List Nat))
    (k retain : Nat) (sor : Bool) (n : Node)
    (hn : Node.restart (C05.crashDisk (x.node i) op ra ord k) retain sor = some n) :
    VoteInv { x with node := setNode x.node i n } ∧ C05.VoteStep (x.node i) n ∧ n.role = .follower := by
  obtain ⟨r1, r2, r3⟩ := C05.restart_reads_durable _ _ _ _ hn
  obtain ⟨r4, r5⟩ := restart_role_nid _ _ _ _ hn
  have hvs : C05.VoteStep (x.node i) n := by
    unfold C05.VoteStep; rw [r1, r2]; exact crashDisk_durStep (x.node i) op ra ord k (hI.ids i).2
  have hstep := voteStep_setNode (f := x.node) hvs
  refine ⟨⟨?_, fun g hg => honouredBy_step (hI.honoured g hg) (hstep g.voter), hI.unique, ?_,
    fun e he => Nat.le_trans (hI.countedTerm e he) (hstep e.1).1⟩, hvs, r4⟩
  · exact forall_setNode (P := fun j s => s.nid = j ∧ C05.VoteWF s)
      ⟨by rw [r5, crashDisk_nid]; exact (hI.ids i).1, r3⟩ fun j _ => hI.ids j
  · exact forall_setNode (P := fun j s => s.role = .leader → (j, s.term) ∈ x.won)
      (fun h => by rw [r4] at h; cases h) fun j _ => hI.recorded j

theorem inv_crash (V : List Nat) (x : Sys) (hI : Inv V x) (i : Nat) (op : Op) (ra : List Nat)
    (ord : List (List Nat)) (k retain : Nat) (sor : Bool) (n : Node)
    (hn : Node.restart (C05.crashDisk (x.node i) op ra ord k) retain sor = some n) :
    Inv V { x with node := setNode x.node i n } := by
  obtain ⟨c, _, hfol⟩ := voteInv_crash (voteInv hI) i op ra ord k retain sor n hn
  refine ⟨c.ids, c.honoured, c.unique, ?_, c.recorded, hI.backed, c.countedTerm⟩
  refine forall_setNode (P := fun j s => s.role = .candidate → CandOK V { x with node := setNode x.node i n } j)
    (fun h => by rw [hfol] at h; cases h) fun j hj hc => ?_
  exact (hI.cand j hc).transfer (congrArg (·.term) (setNode_other _ _ _ _ hj))
    (congrArg (·.votesNeeded) (setNode_other _ _ _ _ hj)) (fun g hg => hg) rfl

theorem mem_countedBy {i : Nat} {pre : Node} {op : Op} {src : Nat} {e : Nat × Nat × Nat}
    (h : e ∈ countedBy i pre op src) : e = (i, pre.term, src) := by
  unfold countedBy at h
  split at h
  · split at h
    · simpa using h
    · cases h
  · cases h

theorem stepSys_grant_cases {e : Sys} {i : Nat} {op : Op} {ra : List Nat} {ord : List (List Nat)} {src : Nat}
    {g : Grant} (hg : g ∈ (stepSys e i op ra ord src).grants) :
    (g ∈ voteGrant i op ((e.node i).step op ra ord) ∨ g ∈ selfGrant i (e.node i) ((e.node i).step op ra ord)) ∨
      g ∈ e.grants := by
  rcases List.mem_append.mp hg with a | a
  · exact Or.inl (Or.inl a)
  · exact (List.mem_append.mp a).imp Or.inr id

theorem stepSys_counted_cases {e : Sys} {i : Nat} {op : Op} {ra : List Nat} {ord : List (List Nat)} {src : Nat}
    {c : Nat × Nat × Nat} (hc : c ∈ (stepSys e i op ra ord src).counted) :
    (Counts (e.node i) op ∧ c = (i, (e.node i).term, src)) ∨ c ∈ e.counted := by
  rcases List.mem_append.mp hc with a | a
  · by_cases hC : Counts (e.node i) op
    · exact Or.inl ⟨hC, mem_countedBy a⟩
    · rw [countedBy_not _ _ _ _ hC] at a; cases a
  · exact Or.inr a

theorem mem_selfGrant {i : Nat} {pre post : Node} {g : Grant} (h : g ∈ selfGrant i pre post) :
    post.term > pre.term ∧ post.votedFor = i ∧ g = { voter := i, term := post.term, cand := i } := by
  unfold selfGrant at h
  split at h
  · rename_i hc
    exact ⟨hc.1, hc.2, by simpa using h⟩
  · cases h

theorem voteGrant_one {i : Nat} {op : Op} {post : Node} {a b : Grant}
    (ha : a ∈ voteGrant i op post) (hb : b ∈ voteGrant i op post) : a = b := by
  unfold voteGrant at ha hb
  generalize C05.grantOf op post = o at ha hb
  cases o with
  | none => cases ha
  | some x =>
    simp only [List.mem_singleton] at ha hb
    rw [ha, hb]

/-- what a vote grant recorded for a step of node `i` (state `pre`) satisfies (C05) -/
structure VoteGrantOK (i : Nat) (pre post : Node) (g : Grant) : Prop where
  voter : g.voter = i
  honoured : HonouredBy post g
  term_ge : g.term ≥ pre.term
  agrees : g.term = pre.term → pre.votedFor ≠ 0 → g.cand = pre.votedFor

theorem voteGrant_ok (i : Nat) (pre : Node) (op : Op) (ra : List Nat) (ord : List (List Nat))
    (hwf : C05.VoteWF pre) (hq : ∀ q, op = .vote q → q.src ≠ 0) (g : Grant)
    (h : g ∈ voteGrant i op (pre.step op ra ord)) : VoteGrantOK i pre (pre.step op ra ord) g := by
  unfold voteGrant at h
  split at h
  · rename_i x hx
    simp only [List.mem_singleton] at h
    subst h
    cases op with
    | vote q =>
      simp only [C05.grantOf] at hx
      split at hx
      · rename_i hs
        injection hx with hx
        subst hx
        obtain ⟨a1, a2⟩ := vote_grant_agrees pre q ra ord hwf hs
        exact ⟨rfl, ⟨hq q rfl, C05.vote_step_honours pre q ra ord hwf (hq q rfl) hs⟩, a1, a2⟩
      · cases hx
    | _ => simp [C05.grantOf] at hx
  · cases h

/-- **a completed step keeps the clauses that speak of no voter set**: every new grant is by voter `i`, honoured by
its new state, and agrees with its older grants -/
theorem voteInv_step {x : Sys} (hI : VoteInv x) (i : Nat) (op : Op) (src : Nat) (post : Node) (hi : i ≠ 0)
    (hvs : C05.VoteStep (x.node i) post) (hwf' : C05.VoteWF post) (hnid : post.nid = (x.node i).nid)
    (hvote : ∀ g ∈ voteGrant i op post, VoteGrantOK i (x.node i) post g) :
    VoteInv { node := setNode x.node i post
              grants := voteGrant i op post ++ (selfGrant i (x.node i) post ++ x.grants)
              counted := countedBy i (x.node i) op src ++ x.counted
              won := (if post.role = .leader then [(i, post.term)] else []) ++ x.won } := by
  have hstep := voteStep_setNode (f := x.node) hvs
  have hnew : ∀ g, g ∈ voteGrant i op post ∨ g ∈ selfGrant i (x.node i) post →
      g.voter = i ∧ HonouredBy post g ∧
      (∀ o ∈ x.grants, o.voter = i → o.term = g.term → o.cand = g.cand) ∧
      (g.term = post.term ∨ g ∈ voteGrant i op post) := by
    intro g hg
    rcases hg with hg | hg
    · obtain ⟨v1, v2, v3, v4⟩ := hvote g hg
      refine ⟨v1, v2, fun o ho hov hot => ?_, Or.inr hg⟩
      obtain ⟨o1, o2⟩ := hI.honoured o ho
      rw [hov] at o2
      rcases o2 with o2 | ⟨o2, o3⟩
      · omega
      · rw [v4 (by omega) (by rw [o3]; exact o1), o3]
    · obtain ⟨s1, s2, s3⟩ := mem_selfGrant hg
      subst s3
      refine ⟨rfl, ⟨hi, Or.inr ⟨rfl, s2⟩⟩, fun o ho hov hot => ?_, Or.inl rfl⟩
      obtain ⟨_, o2⟩ := hI.honoured o ho
      rw [hov] at o2
      have hot' : o.term = post.term := hot
      rcases o2 with o2 | ⟨o2, _⟩ <;> omega
  refine ⟨?_, fun g hg => ?_, fun a ha b hb hv ht => ?_, ?_, fun e he => ?_⟩
  · exact forall_setNode (P := fun j s => s.nid = j ∧ C05.VoteWF s) ⟨hnid.trans (hI.ids i).1, hwf'⟩
      fun j _ => hI.ids j
  · -- honoured
    show HonouredBy (setNode x.node i post g.voter) g
    rcases List.mem_append.mp hg with hg | hg
    · obtain ⟨n1, n2, _⟩ := hnew g (Or.inl hg)
      rw [n1, setNode_same]; exact n2
    · rcases List.mem_append.mp hg with hg | hg
      · obtain ⟨n1, n2, _⟩ := hnew g (Or.inr hg)
        rw [n1, setNode_same]; exact n2
      · exact honouredBy_step (hI.honoured g hg) (hstep g.voter)
  · -- unique
    have cls : ∀ g, g ∈ voteGrant i op post ++ (selfGrant i (x.node i) post ++ x.grants) →
        (g ∈ voteGrant i op post ∨ g ∈ selfGrant i (x.node i) post) ∨ g ∈ x.grants := by
      intro g hg
      rcases List.mem_append.mp hg with hg | hg
      · exact Or.inl (Or.inl hg)
      · rcases List.mem_append.mp hg with hg | hg
        · exact Or.inl (Or.inr hg)
        · exact Or.inr hg
    rcases cls a ha with ha | ha <;> rcases cls b hb with hb | hb
    · obtain ⟨_, ⟨_, a2⟩, _, a4⟩ := hnew a ha
      obtain ⟨_, ⟨_, b2⟩, _, b4⟩ := hnew b hb
      by_cases hT : a.term = post.term
      · rcases a2 with a2 | ⟨_, a2⟩
        · omega
        · rcases b2 with b2 | ⟨_, b2⟩
          · omega
          · rw [← a2, ← b2]
      · rcases a4 with a4 | a4
        · exact absurd a4 hT
        · rcases b4 with b4 | b4
          · exact absurd (ht.trans b4) hT
          · rw [voteGrant_one a4 b4]
    · obtain ⟨a1, _, a3, _⟩ := hnew a ha
      exact (a3 b hb (hv.symm.trans a1) ht.symm).symm
    · obtain ⟨b1, _, b3, _⟩ := hnew b hb
      exact b3 a ha (hv.trans b1) ht
    · exact hI.unique a ha b hb hv ht
  · -- leaders recorded
    refine forall_setNode (P := fun j s => s.role = .leader →
      (j, s.term) ∈ (if post.role = .leader then [(i, post.term)] else []) ++ x.won) (fun hl => ?_)
      fun j _ hl => List.mem_append_right _ (hI.recorded j hl)
    rw [if_pos hl]
    exact List.mem_append_left _ (List.mem_singleton.mpr rfl)
  · -- counted terms
    have he' : e ∈ countedBy i (x.node i) op src ++ x.counted := he
    show e.2.1 ≤ (setNode x.node i post e.1).term
    rcases List.mem_append.mp he' with he' | he'
    · rw [mem_countedBy he']
      show (x.node i).term ≤ (setNode x.node i post i).term
      rw [setNode_same]; exact hvs.1
    · exact Nat.le_trans (hI.countedTerm e he') (hstep e.1).1

/-- **the books of node `i` when it is candidate after its step**: it was candidate of the same term and counted the
reply of `src` (a voter by `hQ`, not counted before) or nothing; or it started an election in this step (`hne`) — then
nothing is counted yet in the new term and the self vote has just been recorded -/
theorem candCore_step {Q : Nat → Prop} {q : Nat} {x : Sys} (hI : VoteInv x) (i : Nat) (op : Op) (src : Nat)
    (post : Node) (hr : Counts (x.node i) op → RealReply x i src) (rs : RoleStep (x.node i) op post)
    (old : (x.node i).role = .candidate → CandCore Q q x i)
    (hQ : ∀ v, (x.node i).configs.latest.isVoter v = true → Q v)
    (hne : NewElection (x.node i) post → Q i ∧ (post.role = .candidate → post.votesNeeded = (q : Int) - 1))
    (hc : post.role = .candidate) :
    CandCore Q q { node := setNode x.node i post
                   grants := voteGrant i op post ++ (selfGrant i (x.node i) post ++ x.grants)
                   counted := countedBy i (x.node i) op src ++ x.counted
                   won := (if post.role = .leader then [(i, post.term)] else []) ++ x.won } i := by
  have hsubG : ∀ g ∈ x.grants, g ∈ voteGrant i op post ++ (selfGrant i (x.node i) post ++ x.grants) :=
    fun g hg => List.mem_append_right _ (List.mem_append_right _ hg)
  have hterm : (setNode x.node i post i).term = post.term := by rw [setNode_same]
  have hvn : (setNode x.node i post i).votesNeeded = post.votesNeeded := by rw [setNode_same]
  rcases rs.candidate hc with ⟨c1, c2, c3, c4⟩ | ne
  · -- candidate of the same term before
    have ok := old c1
    by_cases hcnt : Counts (x.node i) op
    · obtain ⟨r1, r2, r3, r4⟩ := hr hcnt
      have hnotin : src ∉ votersCounted x.counted i (x.node i).term :=
        fun hm => r4 ((mem_votersCounted _ _ _ _).mp hm)
      refine candCore_intro (x.node i).term ((x.node i).votesNeeded - 1)
        (src :: votersCounted x.counted i (x.node i).term) (hterm.trans c2) (hvn.trans (c3 hcnt)) ?_ ok.term_pos
        ok.voter (hsubG _ ok.self) (List.nodup_cons.mpr ⟨hnotin, ok.nodup⟩) ?_ ?_
      · show votersCounted (countedBy i (x.node i) op src ++ x.counted) i (x.node i).term = _
        rw [countedBy_counts _ _ _ _ hcnt]
        exact votersCounted_cons_hit _ _ _ _
      · intro v hv'
        rcases List.mem_cons.mp hv' with hv' | hv'
        · subst hv'; exact ⟨hQ _ r2, r1, hsubG _ r3⟩
        · obtain ⟨e1, e2, e3⟩ := ok.real v hv'
          exact ⟨e1, e2, hsubG _ e3⟩
      · have := ok.count
        rw [List.length_cons]
        omega
    · refine candCore_intro (x.node i).term (x.node i).votesNeeded (votersCounted x.counted i (x.node i).term)
        (hterm.trans c2) (hvn.trans (c4 hcnt)) ?_ ok.term_pos ok.voter (hsubG _ ok.self) ok.nodup
        (fun v hv' => ⟨(ok.real v hv').1, (ok.real v hv').2.1, hsubG _ (ok.real v hv').2.2⟩) ok.count
      show votersCounted (countedBy i (x.node i) op src ++ x.counted) i (x.node i).term = _
      rw [countedBy_not _ _ _ _ hcnt]; rfl
  · -- a new election in this step
    obtain ⟨hQi, hv⟩ := hne ne
    refine candCore_intro post.term ((q : Int) - 1) [] hterm (hvn.trans (hv hc)) ?_
      (by have := ne.term_gt; omega) hQi ?_ List.nodup_nil (fun v hv' => by cases hv') ?_
    · apply votersCounted_nil_of_terms
      intro e he he1
      rcases List.mem_append.mp he with he | he
      · rw [mem_countedBy he]; exact ne.term_gt
      · have := hI.countedTerm e he
        rw [he1] at this
        have := ne.term_gt
        omega
    · apply List.mem_append_right
      apply List.mem_append_left
      unfold selfGrant
      rw [if_pos ⟨ne.term_gt, by rw [ne.vote_self, (hI.ids i).1]⟩]
      exact List.mem_singleton.mpr rfl
    · simp only [List.length_nil]
      omega

/-- a voter of `W` whose own grant is recorded is backed when the quorum of `W` is one -/
theorem backed_one {G : List Grant} {W : List Nat} {l t : Nat} (hl : l ∈ W) (hq : W.length / 2 + 1 = 1)
    (hg : ({ voter := l, term := t, cand := l } : Grant) ∈ G) : Backed G W l t :=
  ⟨[l], List.nodup_cons.mpr ⟨fun h => (by cases h), List.nodup_nil⟩,
    fun v hv => by rw [List.mem_singleton.mp hv]; exact hl, by simp only [List.length_singleton]; omega,
    fun v hv => by rw [List.mem_singleton.mp hv]; exact hg⟩

/-- **one step of node `i`, on the books of every candidate and on the ledger of elections**, for a voter predicate
`Q j` and a quorum `q j` per candidate `j` (the voter set `V`; or the voters of the configuration `j` started its
election with) and a notion `B l t` of "the election of `l` for `t` is backed" in the ledgers after the step (`old`: it holds of
the elections recorded before). The books of the other candidates carry over (`CandCore.transfer`), those of `i` are
`candCore_step`; a node that is leader after its step was leader before, or has just counted the last missing vote
(`last`: `CandCore.backed_last`), or started an election with a quorum of one in this step (`one`: `backed_one`).
`inv_step_core` and `C01Member.einv_step_core` are its two uses. -/
theorem cands_step {x : Sys} (hI : VoteInv x) (i : Nat) (op : Op) (src : Nat) (post : Node)
    (hr : Counts (x.node i) op → RealReply x i src) (rs : RoleStep (x.node i) op post)
    {Q : Nat → Nat → Prop} {q : Nat → Nat} {B : Nat → Nat → Prop}
    (cand : ∀ j, (x.node j).role = .candidate → CandCore (Q j) (q j) x j)
    (hQ : ∀ v, (x.node i).configs.latest.isVoter v = true → Q i v)
    (hne : NewElection (x.node i) post → Q i i ∧ (post.role = .candidate → post.votesNeeded = (q i : Int) - 1))
    (recorded : ∀ j, (x.node j).role = .leader → (j, (x.node j).term) ∈ x.won)
    (old : ∀ l t, (l, t) ∈ x.won → B l t)
    (last : (x.node i).role = .candidate → Counts (x.node i) op → (x.node i).votesNeeded - 1 = 0 →
      B i (x.node i).term)
    (one : NewElection (x.node i) post → post.role = .leader → B i post.term) :
    (∀ j, (setNode x.node i post j).role = .candidate →
      CandCore (Q j) (q j) { node := setNode x.node i post
                             grants := voteGrant i op post ++ (selfGrant i (x.node i) post ++ x.grants)
                             counted := countedBy i (x.node i) op src ++ x.counted
                             won := (if post.role = .leader then [(i, post.term)] else []) ++ x.won } j) ∧
    ∀ l t, (l, t) ∈ (if post.role = .leader then [(i, post.term)] else []) ++ x.won → B l t := by
  refine ⟨fun j hj => ?_, fun l t hl => ?_⟩
  · refine forall_setNode (P := fun j s => s.role = .candidate → CandCore (Q j) (q j) _ j)
      (fun hc => candCore_step hI i op src post hr rs (cand i) hQ hne hc) (fun j hji hc => ?_) j hj
    have h := setNode_other x.node i j post hji
    refine (cand j hc).transfer (congrArg (·.term) h) (congrArg (·.votesNeeded) h)
      (fun g hg => List.mem_append_right _ (List.mem_append_right _ hg)) ?_
    show votersCounted (countedBy i (x.node i) op src ++ x.counted) j (x.node j).term = _
    apply votersCounted_append_miss
    intro e he
    rw [mem_countedBy he]
    intro hc; exact hji hc.1.symm
  · rcases List.mem_append.mp hl with hl | hl
    · split at hl
      · rename_i hlead
        have e := List.mem_singleton.mp hl
        injection e with e1 e2
        subst e1; subst e2
        rcases rs.leader hlead with ⟨l1, l2⟩ | ⟨l1, l2, l3⟩ | ne
        · rw [l2]; exact old _ _ (recorded l l1)
        · rw [l3]; exact last l1.1 l1 l2
        · exact one ne hlead
      · cases hl
    · exact old l t hl

theorem inv_step_core (V : List Nat) (x : Sys) (hI : Inv V x) (hF : FixedV V x) (i : Nat) (op : Op)
    (src : Nat) (post : Node) (hi : i ≠ 0) (hr : Counts (x.node i) op → RealReply x i src)
    (hvs : C05.VoteStep (x.node i) post) (hwf' : C05.VoteWF post) (rs : RoleStep (x.node i) op post)
    (hvote : ∀ g ∈ voteGrant i op post, VoteGrantOK i (x.node i) post g) :
    Inv V { node := setNode x.node i post
            grants := voteGrant i op post ++ (selfGrant i (x.node i) post ++ x.grants)
            counted := countedBy i (x.node i) op src ++ x.counted
            won := (if post.role = .leader then [(i, post.term)] else []) ++ x.won } := by
  have hnid := (hI.ids i).1
  have c := voteInv_step (voteInv hI) i op src post hi hvs hwf' rs.nid hvote
  have hsubG : ∀ g ∈ x.grants, g ∈ voteGrant i op post ++ (selfGrant i (x.node i) post ++ x.grants) :=
    fun g hg => List.mem_append_right _ (List.mem_append_right _ hg)
  -- a new election in this step: the node is a voter of its latest configuration, whose quorum is that of `V`
  have hne : NewElection (x.node i) post → i ∈ V ∧
      (post.role = .candidate → post.votesNeeded = ((V.length / 2 + 1 : Nat) : Int) - 1) ∧
      (post.role = .leader → V.length / 2 + 1 = 1) := by
    rintro ⟨_, _, ec, n3, n4, n5, n6⟩
    obtain rfl := n3 (hF i).1
    rw [quorum_eq, (hF i).2] at n5 n6
    refine ⟨?_, n5, n6⟩
    rcases n4 with n4 | n4
    · exact (hI.cand i n4).voter
    · rw [← (hF i).2]
      have := isVoter_mem_voters _ _ n4
      rw [hnid] at this; exact this
  obtain ⟨hc, hw⟩ := cands_step (voteInv hI) i op src post hr rs (Q := fun _ => (· ∈ V))
    (q := fun _ => V.length / 2 + 1)
    (B := fun l t => Backed (voteGrant i op post ++ (selfGrant i (x.node i) post ++ x.grants)) V l t)
    (fun j hj => (hI.cand j hj).core) (fun v hv => by rw [← (hF i).2]; exact isVoter_mem_voters _ _ hv)
    (fun ne => ⟨(hne ne).1, (hne ne).2.1⟩) hI.recorded (fun l t h => backed_mono hsubG (hI.backed l t h))
    (fun l1 hc l2 => backed_mono hsubG ((hI.cand i l1).backed_last (hF i).2 (hr hc) l2))
    (fun ne hlead => backed_one (hne ne).1 ((hne ne).2.2 hlead) (List.mem_append_right _ (List.mem_append_left _ (by
      unfold selfGrant
      rw [if_pos ⟨ne.term_gt, by rw [ne.vote_self, hnid]⟩]
      exact List.mem_singleton.mpr rfl))))
  exact ⟨c.ids, c.honoured, c.unique, fun j hj => (hc j hj).candOK, c.recorded, hw, c.countedTerm⟩

theorem inv_step (V : List Nat) (x : Sys) (hI : Inv V x) (hF : FixedV V x) (i : Nat) (op : Op) (ra : List Nat)
    (ord : List (List Nat)) (src : Nat) (hi : i ≠ 0) (hq : ∀ q, op = .vote q → q.src ≠ 0)
    (hr : Counts (x.node i) op → RealReply x i src) : Inv V (stepSys x i op ra ord src) := by
  have hwf := (hI.ids i).2
  obtain ⟨hvs, hwf', _⟩ := C05.step_vote_stable (x.node i) op ra ord hwf
  have rs := role_step (x.node i) op ra ord (fun h => (hI.cand i h).term_pos)
  exact inv_step_core V x hI hF i op src _ hi hr hvs hwf' rs
    (fun g hg => voteGrant_ok i (x.node i) op ra ord hwf hq g hg)

theorem inv_reachable (V : List Nat) (x : Sys) (h : ReachableV V x) : Inv V x ∧ FixedV V x := by
  induction h with
  | init x hi hf => exact ⟨inv_init V x hi, hf⟩
  | next x y _ ht hf ih =>
    refine ⟨?_, hf⟩
    cases ht with
    | step i op ra ord src hi hq hr => exact inv_step V x ih.1 ih.2 i op ra ord src hi hq hr
    | crash i op ra ord k retain sor n hi hn => exact inv_crash V x ih.1 i op ra ord k retain sor n hn

/-- **C01, cluster level, fixed voter set (partial).** Let `V` be a duplicate-free list of node ids and `x`
any state of the cluster reachable from an initial state (every node a follower whose memory matches its
disk; arbitrary terms, votes, logs) by ANY sequence of transitions of `Election.Trans` — any node handling
any operation with any content and oracle (`Node.step`), any node dying at any storage point of any step and
restarting — such that in every state of the run every node is bootstrapped and the voters of its latest
configuration are `V` (**this is the `_partial` restriction: membership does not change**; the general case
needs the overlap of majorities across configuration changes, C08). The only constraint on the environment is
`Election.RealReply` for the vote responses a candidate counts (see Sys/Election.lean; it models the
per-election response channel of `candidate.startElection`) and a non-zero candidate id in vote requests.
Then
1. two nodes that are leader in the same term are the same node;
2. the ledger `won` (every (node, term) that was leader at the end of a step, never forgotten) names at most
   one node per term — so at most one node EVER is leader in a term (`election_safety_ever_partial`);
3. every node that is leader now is in `won`;
4. every entry `(l, t)` of `won` is `C01.Backed`: a duplicate-free majority of `V`, each of whose members has
   a grant `(voter, t, l)` in the ledger `grants` — and a grant is only recorded for a vote that is durable
   on the voter's disk (`C05.grant_is_durable`; the self vote: `votedFor = l` in term `t` with memory = disk);
5. grants are unique per (voter, term): a voter's single vote. -/
theorem election_safety_sys_partial (V : List Nat) (hV : V.Nodup) (x : Sys) (h : ReachableV V x) :
    (∀ i j, (x.node i).role = .leader → (x.node j).role = .leader → (x.node i).term = (x.node j).term → i = j) ∧
    (∀ l l' t, (l, t) ∈ x.won → (l', t) ∈ x.won → l = l') ∧
    (∀ i, (x.node i).role = .leader → (i, (x.node i).term) ∈ x.won) ∧
    (∀ l t, (l, t) ∈ x.won → Backed x.grants V l t) ∧
    (∀ a ∈ x.grants, ∀ b ∈ x.grants, a.voter = b.voter → a.term = b.term → a.cand = b.cand) := by
  obtain ⟨hI, _⟩ := inv_reachable V x h
  have hwon : ∀ l l' t, (l, t) ∈ x.won → (l', t) ∈ x.won → l = l' := fun l l' t h1 h2 =>
    election_safety_partial x.grants V hV hI.unique l l' t (hI.backed l t h1) (hI.backed l' t h2)
  refine ⟨fun i j hi hj ht => ?_, hwon, hI.recorded, hI.backed, hI.unique⟩
  exact hwon i j (x.node i).term (hI.recorded i hi) (by rw [ht]; exact hI.recorded j hj)

/-- **the hypothesis `Backed` of `C01.election_safety_partial`** (same assumptions): a model node that is leader in term `t` is
backed by a duplicate-free majority of `V` whose members each have a grant for (`t`, that node) in the
ledger. -/
theorem leader_backed_partial (V : List Nat) (hV : V.Nodup) (x : Sys) (h : ReachableV V x) (i : Nat)
    (hl : (x.node i).role = .leader) : Backed x.grants V i (x.node i).term := by
  obtain ⟨_, _, r, b, _⟩ := election_safety_sys_partial V hV x h
  exact b _ _ (r i hl)

/-- a run from `x` to `y` with membership `V` in every state passed -/
inductive RunV (V : List Nat) (x : Sys) : Sys → Prop
  | refl : RunV V x x
  | next (y z : Sys) : RunV V x y → Trans y z → FixedV V z → RunV V x z

theorem won_mono {x y : Sys} (h : Trans x y) : ∀ e ∈ x.won, e ∈ y.won := by
  cases h with
  | step i op ra ord src _ _ _ => exact fun e he => List.mem_append_right _ he
  | crash i op ra ord k retain sor n _ _ => exact fun e he => he

theorem run_reachable {V : List Nat} {x y : Sys} (hx : ReachableV V x) (h : RunV V x y) :
    ReachableV V y ∧ ∀ e ∈ x.won, e ∈ y.won := by
  induction h with
  | refl => exact ⟨hx, fun e he => he⟩
  | next y z _ ht hf ih => exact ⟨.next y z ih.1 ht hf, fun e he => won_mono ht e (ih.2 e he)⟩

/-- a leader of `x` and a leader of `y` of the same term are the same node, when leaders are recorded in the ledger of
elections (`VoteInv.recorded`), the ledger of `y` extends that of `x` and holds one winner per term -/
theorem one_leader_ever {x y : Sys} (rx : ∀ i, (x.node i).role = .leader → (i, (x.node i).term) ∈ x.won)
    (ry : ∀ j, (y.node j).role = .leader → (j, (y.node j).term) ∈ y.won) (hm : ∀ e ∈ x.won, e ∈ y.won)
    (hu : ∀ l l' t, (l, t) ∈ y.won → (l', t) ∈ y.won → l = l') {i j : Nat} (hi : (x.node i).role = .leader)
    (hj : (y.node j).role = .leader) (ht : (x.node i).term = (y.node j).term) : i = j :=
  hu i j _ (hm _ (rx i hi)) (by rw [ht]; exact ry j hj)

/-- **at most one node EVER is leader in a term** (same assumptions as `election_safety_sys_partial`):
a node that is leader in term `t` in some reachable state and a node that is leader in term `t` in any later
state of the run are the same node — also if the first one crashed, restarted or stepped down in between. -/
theorem election_safety_ever_partial (V : List Nat) (hV : V.Nodup) (x y : Sys) (hx : ReachableV V x)
    (hrun : RunV V x y) (i j : Nat) (hi : (x.node i).role = .leader) (hj : (y.node j).role = .leader)
    (ht : (x.node i).term = (y.node j).term) : i = j := by
  obtain ⟨hy, hmono⟩ := run_reachable hx hrun
  obtain ⟨_, _, rx, _, _⟩ := election_safety_sys_partial V hV x hx
  obtain ⟨_, wy, ry, _, _⟩ := election_safety_sys_partial V hV y hy
  exact one_leader_ever rx ry hmono wy hi hj ht

/-! ### Examples (non-vacuity): a three-voter cluster; node 1 times out and starts an election, node 2
grants its vote; the transition in which node 1 counts that vote is enabled.
(The state after that transition, in which node 1 has run `leader.init`, is evaluated with `#guard` below, which is a
test, not a proof: plain `decide` gets stuck on the leader block, defined by well-founded recursion; `decide +kernel`
evaluates it.) -/

def exCfg : Config :=
  { nodes := [{ id := 1, addr := "a:1", voter := true }, { id := 2, addr := "a:2", voter := true },
              { id := 3, addr := "a:3", voter := true }], index := 1, term := 1 }

/-- example node `i`: bootstrapped with `exCfg`, term 0, no vote -/
def exNode (i : Nat) : Node := { cid := 7, nid := i, configs := { committed := exCfg, latest := exCfg } }

def ex0 : Sys := { node := exNode, grants := [], counted := [], won := [] }
/-- node 1: election timeout -/
def ex1 : Sys := stepSys ex0 1 .timeout [] [] 0
/-- node 2: vote request of node 1 for term 1 -/
def ex2 : Sys := stepSys ex1 2 (.vote { term := 1, src := 1 }) [] [] 0
/-- node 1: the success response of node 2 -/
def ex3 : Sys := stepSys ex2 1 (.voteResult false 1 rSuccess) [] [] 2

/-- example: the hypothesis of `role_step` holds for the example node and the step is a new election -/
example : (exNode 1).role = .candidate → (exNode 1).term ≠ 0 := by decide
example : ((exNode 1).step .timeout [] []).role = .candidate ∧ ((exNode 1).step .timeout [] []).term = 1 ∧
    ((exNode 1).step .timeout [] []).votedFor = 1 ∧ ((exNode 1).step .timeout [] []).votesNeeded = 1 := by decide

set_option maxRecDepth 100000 in
/-- example: `ex2` is reachable with membership `[1, 2, 3]` — the hypotheses of
`election_safety_sys_partial` hold for a state with a candidate and a non-empty ledger -/
example : [1, 2, 3].Nodup ∧ ReachableV [1, 2, 3] ex2 := by
  have f0 : FixedV [1, 2, 3] ex0 := fun i => ⟨rfl, rfl⟩
  have i0 : Init ex0 := ⟨fun i => ⟨rfl, ⟨rfl, rfl⟩, rfl⟩, rfl, rfl, rfl⟩
  have f1 : FixedV [1, 2, 3] ex1 := by
    intro i
    by_cases h : i = 1
    · subst h; decide
    · show (setNode exNode 1 _ i).configs.isBootstrapped = true ∧ (setNode exNode 1 _ i).configs.latest.voters = _
      rw [setNode_other _ _ _ _ h]; exact ⟨rfl, rfl⟩
  have f2 : FixedV [1, 2, 3] ex2 := by
    intro i
    by_cases h : i = 2
    · subst h; decide
    · show (setNode ex1.node 2 _ i).configs.isBootstrapped = true ∧ (setNode ex1.node 2 _ i).configs.latest.voters = _
      rw [setNode_other _ _ _ _ h]; exact f1 i
  refine ⟨by decide, .next ex1 ex2 (.next ex0 ex1 (.init ex0 i0 f0) ?_ f1) ?_ f2⟩
  · exact .step 1 .timeout [] [] 0 (by decide) (fun q h => by cases h) (fun ⟨_, _, _, h⟩ => by cases h)
  · exact .step 2 (.vote { term := 1, src := 1 }) [] [] 0 (by decide)
      (fun q h => by injection h with h; subst h; decide) (fun ⟨_, _, _, h⟩ => by cases h)

set_option maxRecDepth 100000 in
/-- example: in `ex2` node 1 is candidate of term 1, needs one more vote, and the ledger holds its self vote
and the grant of node 2 -/
example : (ex2.node 1).role = .candidate ∧ (ex2.node 1).term = 1 ∧ (ex2.node 1).votesNeeded = 1 ∧
    ex2.grants = [{ voter := 2, term := 1, cand := 1 }, { voter := 1, term := 1, cand := 1 }] := by decide

set_option maxRecDepth 100000 in
/-- example: the response of node 2 is a real reply, so the transition in which node 1 counts it (and
becomes leader) is enabled -/
example : Trans ex2 ex3 := by
  refine .step 1 (.voteResult false 1 rSuccess) [] [] 2 (by decide) (fun q h => by cases h) (fun _ => ?_)
  unfold RealReply
  decide

-- evaluation (test, not proof) of the state after that transition: node 1 is leader of term 1 without a
-- panic, membership unchanged, and the ledgers are as expected
#guard (ex3.node 1).role == .leader && (ex3.node 1).term == 1 && (ex3.node 1).panicked.isNone
#guard (ex3.node 1).configs.latest.voters == [1, 2, 3] && (ex3.node 1).configs.isBootstrapped
#guard ex3.won == [(1, 1)] && ex3.counted == [(1, 1, 2)]

end C01Sys
end Raft

#print axioms Raft.Node.role_step
#print axioms Raft.C01Sys.inv_reachable
#print axioms Raft.C01Sys.election_safety_sys_partial
#print axioms Raft.C01Sys.election_safety_ever_partial -- also C16
#print axioms Raft.C01Sys.leader_backed_partial
