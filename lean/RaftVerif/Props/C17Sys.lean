/-
C17 (first sentence) on the cluster-level transition system — **liveness as POSSIBILITY**: from EVERY reachable
state a live majority CAN elect a leader of a new term, commit an entry of that term and bring every node of the
majority up to date, with an explicit bound: at most two election timeouts per node and at most `6·|M| + 1`
transitions in all. (A model has no clocks and no fairness: what is proved is the absence of protocol-level
deadlock — a run EXISTS — not that every fair run gets there.)

The system: `Raft.Commit` (Sys/Commit.lean) with the assumptions of Props/C19Sys.lean (`SysInv.ReachableG`):
any node handles any enabled operation of the executable node model `Node.step`, dies at any storage point and
restarts, a leader puts on the wire requests read from its log. INHERITED RESTRICTIONS (`_partial`): fixed voter
list `V`, fixed stable configuration (`SideV`: no membership change), no snapshots / log compaction (`OpOK2`),
every node retains ≥ 1 snapshot (`SideG`), a good initial state (`GInv`: every node `NoPanic.Good true`, all nodes
bootstrapped with one configuration entry of at least two voters, one root). ADDED HYPOTHESES on the live
majority `M` (a duplicate-free list of node ids): `M ⊆ V`, `2·|M| > |V|`, no id is 0, every node of `M` is OPEN
(`closed = ""`: its state loop runs — it was not shut down or removed), and the member ids of the latest
configuration of every node of `M` are distinct (in Go the members are a map keyed by id; the model's association
list is not forced to have distinct ids by `Commit.Init`). Nothing is assumed about roles, terms, logs, commit
indexes of the nodes, nor about the nodes outside `M` (they may be closed, ahead, leaders of other terms …).

The constructed run (`Progress.Exec`: labelled transitions of `SysInv.TransG`, no crash; every label is an
operation of a node of `M`; the vote requests, counted vote responses and append requests it delivers were produced
by nodes of `M` in this run — recorded campaign, recorded grants, `sent` ledger; the term-carrying inputs of phases
A and B are inputs the system leaves unconstrained) — phases:
  A  every node of `M` is made a follower — a (stale) leader by the `newTerm` report of one of its replications
     carrying its own term (allowed by `EnabledG`), a candidate by a vote response carrying its term + 1 — and then
     its election timer fires ONCE: it is candidate of a higher term and knows no leader (`leader = 0`, so that it
     will not refuse a vote request with `leaderKnown`);
  B  the node `w` of `M` with the most up-to-date log ((lastLogTerm, lastLogIndex) maximal) receives, if its term
     is below the highest term `T0` in `M`, a vote response carrying `T0`; its election timer fires (for the SECOND
     time): candidate of `T = T0 + 1`;
  C  every other node of `M` receives `w`'s vote request (the recorded campaign) and grants;
  D  `w` counts `|V|/2` of these votes: leader of term `T`; **`leader.init` itself appends the no-op entry of term
     `T`** (`Model/Handlers.lean`, `leaderInit`: `storeEntry [{typ := etNop}]` — no client update is needed);
  E  `w` sends ONE append request with `prevLogIndex = 1` (the bootstrap entry, which every log holds) carrying its
     whole log above index 1; every other node of `M` accepts it (conflicting suffixes are removed) and answers
     `success`;
  F  `w` is told the match indexes (`replUpdates`): `majorityMatchIndex` reaches its last index `N`, it commits
     and applies;
  G  `w` sends a heartbeat (`prevLogIndex = N`, commit index `N`); every other node of `M` commits `N` and applies.
-/
import RaftVerif.Lemmas.ProgressFinal

namespace Raft
namespace C17Sys
open LogRel C02Sys SysInv Progress

/-- **C17, election is always possible (partial: the restrictions and hypotheses of the file header).**
Let `V` be a duplicate-free voter list, `x` ANY reachable state of the cluster system (`SysInv.ReachableG V x`) and
`M` a live majority: a duplicate-free list of non-zero ids of voters, `2·|M| > |V|`, every node of `M` open, the
member ids of their latest configurations distinct. Then there is a run `ls` (`Progress.Exec`, hence a run of the
system, `SysInv.RunG V x y`) from `x` to a state `y` such that
* the run has at most `4·|M|` transitions, every one an operation of a node of `M`, and uses at most TWO election
  timeouts per node;
* a node `w ∈ M` is leader in `y`, open, of a term higher than the term every node of `M` had in `x`;
* every other node of `M` is a follower of that term;
* nothing changed outside `M`. -/
theorem election_possible_partial (V : List Nat) (hV : V.Nodup) (x : Commit.Sys) (hx : ReachableG V x)
    (M : List Nat) (hM : M.Nodup) (hMV : ∀ i ∈ M, i ∈ V) (hmaj : 2 * M.length > V.length)
    (h0 : ∀ i ∈ M, i ≠ 0) (hopen : ∀ i ∈ M, (x.node i).closed = "")
    (hids : ∀ i ∈ M, (x.node i).configs.latest.ids.Nodup) :
    ∃ (ls : List Lbl) (y : Commit.Sys) (w : Nat),
      Exec V x ls y ∧ RunG V x y ∧
      ls.length ≤ 4 * M.length ∧ (∀ l ∈ ls, l.actor ∈ M) ∧ (∀ i, (ls.filter (Lbl.isTimeoutOf i)).length ≤ 2) ∧
      w ∈ M ∧ (y.node w).role = .leader ∧ (y.node w).closed = "" ∧
      (∀ i ∈ M, (x.node i).term < (y.node w).term) ∧
      (∀ i ∈ M, i ≠ w → (y.node i).role = .follower ∧ (y.node i).term = (y.node w).term) ∧
      (∀ i, i ∉ M → y.node i = x.node i) := by
  obtain ⟨ls, y, w, T, ex, ok, el⟩ := election_run hV hx M hM hMV hmaj h0 hopen hids
  refine ⟨ls, y, w, ex, ex.runG hV hx, ok.len, ok.actors, fun i => ?_, el.wM, el.role, el.closed, ?_, ?_, el.outside⟩
  · refine Nat.le_trans (ok.timeouts i) ?_
    split <;> omega
  · intro i hi; rw [el.term]; exact el.termGt i hi
  · intro i hi hiw
    obtain ⟨_, r, t⟩ := el.others i hi hiw
    exact ⟨r, by rw [t, el.term]⟩

/-- **C17, progress is always possible (partial: the restrictions and hypotheses of the file header).**
Same hypotheses as `election_possible_partial`: `x` any reachable state, `M` a live majority. Then there is a run
`ls` from `x` to a state `y`, a node `w ∈ M`, and an index `N` such that
* the run has at most `6·|M| + 1` transitions, every one an operation of a node of `M` (or `w` putting a request
  on the wire), and uses at most TWO election timeouts per node;
* `w` is leader in `y` of a term `T` higher than the term every node of `M` had in `x`;
* `w`'s log extends the log it had in `x`, and holds at the index `N` beyond that old log an entry of its own
  term `T` (the no-op of `leader.init`); `w` has COMMITTED `N` (hence, by leader completeness — C02Sys — everything
  committed before) and its state machine has applied everything up to its commit index;
* every other node of `M` is a follower of term `T`, its log AGREES with the leader's up to `N` (entry by entry),
  its commit index is `N` and its state machine has applied everything up to `N`;
* nothing changed outside `M`; every node of `M` is still open with the same latest configuration (so the
  hypotheses hold again in `y`). -/
theorem progress_possible_partial (V : List Nat) (hV : V.Nodup) (x : Commit.Sys) (hx : ReachableG V x)
    (M : List Nat) (hM : M.Nodup) (hMV : ∀ i ∈ M, i ∈ V) (hmaj : 2 * M.length > V.length)
    (h0 : ∀ i ∈ M, i ≠ 0) (hopen : ∀ i ∈ M, (x.node i).closed = "")
    (hids : ∀ i ∈ M, (x.node i).configs.latest.ids.Nodup) :
    ∃ (ls : List Lbl) (y : Commit.Sys) (w N : Nat),
      Exec V x ls y ∧ RunG V x y ∧
      ls.length ≤ 6 * M.length + 1 ∧ (∀ l ∈ ls, l.actor ∈ M) ∧
      (∀ i, (ls.filter (Lbl.isTimeoutOf i)).length ≤ 2) ∧
      w ∈ M ∧ (y.node w).role = .leader ∧ (∀ i ∈ M, (x.node i).term < (y.node w).term) ∧
      (x.node w).log.entries <+: (y.node w).log.entries ∧ (x.node w).log.entries.length < N ∧
      N ≤ (y.node w).log.entries.length ∧ termAt (y.node w).log.entries N = (y.node w).term ∧
      N ≤ (y.node w).commitIndex ∧ (y.node w).fsm.index = (y.node w).commitIndex ∧
      (∀ i ∈ M, i ≠ w → (y.node i).role = .follower ∧ (y.node i).term = (y.node w).term ∧
        (y.node i).log.entries.take N = (y.node w).log.entries.take N ∧ (y.node i).commitIndex = N ∧
        (y.node i).fsm.index = N) ∧
      (∀ i, i ∉ M → y.node i = x.node i) ∧ (∀ i ∈ M, (y.node i).closed = "") ∧
      (∀ i ∈ M, (y.node i).configs.latest = (x.node i).configs.latest) := by
  obtain ⟨ls, y, w, T, N, ex, ok, pr⟩ := progress_run hV hx M hM hMV hmaj h0 hopen hids
  refine ⟨ls, y, w, N, ex, ex.runG hV hx, ok.len, ok.actors, fun i => ?_, pr.wM, pr.role, ?_, pr.oldLog.1,
    pr.oldLog.2, pr.ownEntry.2.1, by rw [pr.term]; exact pr.ownEntry.2.2, pr.commit, pr.applied, ?_, pr.outside,
    pr.openM, pr.cfgM⟩
  · refine Nat.le_trans (ok.timeouts i) ?_
    split <;> omega
  · intro i hi; rw [pr.term]; exact pr.termGt i hi
  · intro i hi hiw
    obtain ⟨r, t, l, c, f⟩ := pr.followers i hi hiw
    exact ⟨r, by rw [t, pr.term], l, c, f⟩

/-! ### Examples (non-vacuity) -/

/-- example: the hypotheses of both theorems hold in the reachable three-node state `C02Sys.ex1` (node 1 is a
candidate of term 2 that nobody has answered, nodes 2 and 3 are followers of term 1) for the live majority
`M = [2, 3]` — the candidate is NOT part of it — and for `M = [1, 2]`, which contains the stale candidate. -/
example : [1, 2, 3].Nodup ∧ ReachableG [1, 2, 3] C02Sys.ex1 ∧
    (∀ M ∈ [[2, 3], [1, 2]], M.Nodup ∧ (∀ i ∈ M, i ∈ [1, 2, 3]) ∧ 2 * M.length > [1, 2, 3].length ∧
      (∀ i ∈ M, i ≠ 0) ∧ (∀ i ∈ M, (C02Sys.ex1.node i).closed = "") ∧
      (∀ i ∈ M, (C02Sys.ex1.node i).configs.latest.ids.Nodup)) ∧
    (C02Sys.ex1.node 1).role = .candidate ∧ (C02Sys.ex1.node 1).term = 2 ∧ (C02Sys.ex1.node 2).term = 1 := by
  refine ⟨by decide, C19Sys.ex1_reachable, ?_, by decide, by decide, by decide⟩
  decide

/-- example (a reachable state with a STALE LEADER whose log is ahead of a live node's): by
`progress_possible_partial` itself, from the initial state `C02Sys.ex0` the majority `[1, 2]` reaches a state `y`
in which `w ∈ {1, 2}` is leader and has committed its no-op, while node 3 — which took no part — still has the
one-entry log and term 1. In `y` the hypotheses of the theorems hold for the live majority `M = [w, 3]`, which
consists of that (from now on stale) leader and the lagging node 3: the run from `y` deposes `w` (phase A, `newTerm`
report) and elects the node of `M` with the most up-to-date log. -/
example : ∃ (y : Commit.Sys) (w : Nat), ReachableG [1, 2, 3] y ∧ (y.node w).role = .leader ∧ (w = 1 ∨ w = 2) ∧
    (y.node 3).log.entries.length < (y.node w).log.entries.length ∧ (y.node 3).term < (y.node w).term ∧
    [w, 3].Nodup ∧ (∀ i ∈ [w, 3], i ∈ [1, 2, 3]) ∧ 2 * [w, 3].length > [1, 2, 3].length ∧
    (∀ i ∈ [w, 3], i ≠ 0) ∧ (∀ i ∈ [w, 3], (y.node i).closed = "") ∧
    (∀ i ∈ [w, 3], (y.node i).configs.latest.ids.Nodup) := by
  have hV : [1, 2, 3].Nodup := by decide
  obtain ⟨ls, y, w, N, ex, run, _, _, _, hw, hl, _, _, hlt, hN, _, _, _, _, hout, hop, hcfg⟩ :=
    progress_possible_partial [1, 2, 3] hV C02Sys.ex0 C19Sys.ex0_reachable [1, 2] (by decide) (by decide) (by decide)
      (by decide) (by decide) (by decide)
  have hy := run_reachableG C19Sys.ex0_reachable run
  have h3 : y.node 3 = C02Sys.ex0.node 3 := hout 3 (by decide)
  have hw12 : w = 1 ∨ w = 2 := by
    rcases List.mem_cons.mp hw with e | e
    · exact Or.inl e
    · exact Or.inr (List.mem_singleton.mp e)
  have hw3 : w ≠ 3 := by rcases hw12 with e | e <;> (rw [e]; decide)
  have hlen3 : (y.node 3).log.entries.length = 1 := by rw [h3]; rfl
  have hlenw : 1 ≤ (C02Sys.ex0.node w).log.entries.length := by rcases hw12 with e | e <;> (rw [e]; decide)
  obtain ⟨hI, _⟩ := inv_reachable hV (reachableG_V hy)
  have hterm : (y.node 3).term < (y.node w).term := by
    have h1 : (y.node 3).term = 1 := by rw [h3]; rfl
    have h2 : (C02Sys.ex0.node w).term = 1 := by rcases hw12 with e | e <;> (rw [e]; rfl)
    have := ‹∀ i ∈ [1, 2], (C02Sys.ex0.node i).term < (y.node w).term› w hw
    omega
  refine ⟨y, w, hy, hl, hw12, by omega, hterm, ?_, ?_, (by show 2 * 2 > 3; omega), ?_, ?_, ?_⟩
  · exact List.nodup_cons.mpr ⟨by simpa using hw3, by simp⟩
  · intro i hi
    rcases List.mem_cons.mp hi with e | e
    · rcases hw12 with e' | e' <;> (rw [e, e']; decide)
    · rw [List.mem_singleton.mp e]; decide
  · intro i hi
    rcases List.mem_cons.mp hi with e | e
    · rcases hw12 with e' | e' <;> (rw [e, e']; decide)
    · rw [List.mem_singleton.mp e]; decide
  · intro i hi
    rcases List.mem_cons.mp hi with e | e
    · rw [e]; exact hop w hw
    · rw [List.mem_singleton.mp e, h3]; rfl
  · intro i hi
    rcases List.mem_cons.mp hi with e | e
    · rw [e, hcfg w hw]
      rcases hw12 with e' | e' <;> (rw [e']; decide)
    · rw [List.mem_singleton.mp e, h3]; decide

/-- example (`timeout_makes_candidate`): the hypotheses hold for node 2 of `ex0` — a follower, voter of its
bootstrapped configuration of three voters (quorum 2) -/
example : (C02Sys.ex0.node 2).role = .follower ∧ (C02Sys.ex0.node 2).configs.isBootstrapped = true ∧
    (C02Sys.ex0.node 2).configs.latest.isVoter (C02Sys.ex0.node 2).nid = true ∧
    (C02Sys.ex0.node 2).configs.latest.quorum ≠ 1 := by decide

/-- example (`vote_granted_when_uptodate`): the hypotheses hold for node 2 of `ex1` and the vote request of the
candidate 1 (term 2, last entry (1,1)): no leader known, lower term, log not more up to date -/
example : (C02Sys.ex1.node 2).leader = 0 ∧ 2 > (C02Sys.ex1.node 2).term ∧
    ¬ ((C02Sys.ex1.node 2).lastLogTerm > 1 ∨
      ((C02Sys.ex1.node 2).lastLogTerm = 1 ∧ (C02Sys.ex1.node 2).lastLogIndex > 1)) := by decide

/-- example (`majority_of_grants_makes_leader`): the hypotheses hold for the candidate 1 of `ex1` (it needs one
more vote): every one follows from reachability (`Progress.facts`) or by evaluation -/
example : (C02Sys.ex1.node 1).role = .candidate ∧ 2 ≤ (C02Sys.ex1.node 1).term ∧
    (C02Sys.ex1.node 1).votesNeeded - 1 = 0 ∧ NWF (C02Sys.ex1.node 1) ∧ C06.LogWF (C02Sys.ex1.node 1).log ∧
    C05.VoteWF (C02Sys.ex1.node 1) ∧ (C02Sys.ex1.node 1).configs.latest.isStable = true ∧
    (C02Sys.ex1.node 1).configs.latest.isVoter (C02Sys.ex1.node 1).nid = true ∧
    (C02Sys.ex1.node 1).configs.latest.voters.Nodup ∧ 2 ≤ (C02Sys.ex1.node 1).configs.latest.numVoters ∧
    (C02Sys.ex1.node 1).closed = "" := by
  have f := facts (by decide : [1, 2, 3].Nodup) C19Sys.ex1_reachable 1
  exact ⟨by decide, by decide, by decide, f.nwf, f.lwf, f.wf, f.stable, by decide, by decide, by decide, by decide⟩

/-- example (`append_all_entries_accepted`): the hypotheses hold for node 3 of `ex1` and an append request of term 2
from node 1 with previous entry `(1, 1)` and no entries: not stale, the previous entry is held, the step does not
fail (evaluated; in the system this is `C19Sys.reqok_in_sys_partial`) -/
example : ¬ (2 < (C02Sys.ex1.node 3).term) ∧ 1 ≤ (C02Sys.ex1.node 3).log.entries.length ∧
    termAt (C02Sys.ex1.node 3).log.entries 1 = 1 ∧
    ((C02Sys.ex1.node 3).step (.append { term := 2, src := 1, prevLogIndex := 1, prevLogTerm := 1 }) [] []).panicked
      = none := by decide

end C17Sys
end Raft

#print axioms Raft.C17Sys.election_possible_partial -- also C16
#print axioms Raft.C17Sys.progress_possible_partial -- also C16
#print axioms Raft.Progress.election_run
#print axioms Raft.Progress.progress_run
#print axioms Raft.Progress.timeout_makes_candidate
#print axioms Raft.Progress.timeout_candidate_again
#print axioms Raft.Progress.voteResult_newer_term_steps_down
#print axioms Raft.Progress.newTerm_report_steps_down
#print axioms Raft.Progress.vote_granted_when_uptodate
#print axioms Raft.Progress.voteResult_counts
#print axioms Raft.Progress.majority_of_grants_makes_leader
#print axioms Raft.Progress.append_all_entries_accepted
#print axioms Raft.Progress.append_step_frame
#print axioms Raft.Progress.heartbeat_commits_follower
#print axioms Raft.Progress.ack_majority_commits
