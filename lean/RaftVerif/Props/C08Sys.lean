/-
C08 / C01 / C02 / C11 on the cluster-level transition system WITH membership changes (`Raft.Member`, Sys/Member.lean:
`.changeConfig` requests allowed, configuration entries replicated like any entry, every node uses the latest
configuration of its log, no fixed voter set, no snapshots).

Proved for every reachable state (`Member.ReachableP`, any schedule, crashes and restarts included; see the doc comments):
`election_safety_sys_member_partial` (PARTIAL: that the election configurations of one term are equal or adjacent is a
hypothesis — the conclusion `es_overlap` of the ledger-level argument of Lemmas/MemberCore.lean, whose rules are proved
for the runs of `C08Member.ReachableR`, not over `ReachableP`), `election_safety_one_change_partial` (no hypothesis on
elections, one change of the voter set), `nonvoter_never_leads_partial` (C11), `config_chain_partial` (C08; side
condition `NodesOK` on the states of the run), `leaderCache_reachable`.

Proved from explicit hypotheses on one state: `leader_completeness_sys_member_partial` (C02 + C01) instantiates
`MemberCore.member_safety` on the ledgers of a state; the local rules as an invariant of runs are `MemberInv.localM` /
`forestM` (Props/C02Member.lean, Props/C08Member.lean). `Commit.UpTo` has the escape `Other` ("an entry of the campaign's
term was created by somebody else"); with configurations that change it cannot be resolved after the fact by election
safety (which itself needs the candidates' logs to extend the committed keys), so the rule is stated in the strict form
`MemberCore.UpToC` (for a WINNER the escape is refuted by election safety of the state in which it counts its last
vote). `MemberCore.bug_unsafe`: the own-term requirement of the chain rule (`canChangeConfig`: `commitIndex ≥
startIndex`) cannot be dropped.
-/
import RaftVerif.Props.C01Member
import RaftVerif.Props.C08Step
import RaftVerif.Props.C02Sys
import RaftVerif.Lemmas.MemberCore
import RaftVerif.Lemmas.NodeSys

namespace Raft
namespace C08Sys
open Node Election C01 Member C01Member QuorumRel CfgRel LogRel CommitRel Replication

/-! ### election safety (C01) -/

/-- **C01, cluster level, WITH membership changes (partial).** Let `x` be any state of `Member` reachable by runs in
which every node is bootstrapped in every state (`Boot`; nothing is assumed of the voter sets: configurations change).
Then
1. every node that is leader is recorded in `won` with its term;
2. every `(l, t) ∈ won` has an election record `k ∈ ecfg` (`k.cfg`: the latest configuration of `l` when it started
   the election of term `t`) such that `l` is a voter of `k.cfg` and `l` is `C01.Backed` by a duplicate-free majority
   of `k.cfg.voters` each of whom has a grant `(voter, t, l)` in the ledger (only recorded for durable votes, C05);
3. grants are unique per (voter, term); there is one election record per (candidate, term);
4. hence `(l, t), (l', t) ∈ won` implies `l = l'` PROVIDED the voter lists of the two election configurations are
   duplicate-free and equal or adjacent (`AdjLists`: at most one id differs) — **this proviso is the `_partial`
   restriction**; `MemberCore.es_overlap` derives it from the local rules of the single-server-change protocol. -/
theorem election_safety_sys_member_partial (x : Member.Sys) (h : ReachableP Boot x) :
    (∀ i, (x.node i).role = .leader → (i, (x.node i).term) ∈ x.el.won) ∧
    (∀ l t, (l, t) ∈ x.el.won → ∃ k ∈ x.ecfg, k.cand = l ∧ k.term = t ∧ k.cfg.isVoter l = true ∧
      Backed x.el.grants k.cfg.voters l t) ∧
    (∀ a ∈ x.el.grants, ∀ b ∈ x.el.grants, a.voter = b.voter → a.term = b.term → a.cand = b.cand) ∧
    (∀ k ∈ x.ecfg, ∀ k' ∈ x.ecfg, k.cand = k'.cand → k.term = k'.term → k = k') ∧
    (∀ l l' t, (l, t) ∈ x.el.won → (l', t) ∈ x.el.won →
      (∀ k ∈ x.ecfg, ∀ k' ∈ x.ecfg, k.cand = l → k'.cand = l' → k.term = t → k'.term = t →
        k.cfg.voters.Nodup ∧ k'.cfg.voters.Nodup ∧ AdjLists k.cfg.voters k'.cfg.voters) → l = l') := by
  have hI := einv_reachable x h
  refine ⟨hI.recorded, hI.backed, hI.unique, hI.ecfgUniq, fun l l' t hl hl' hov => ?_⟩
  obtain ⟨k, hk, k1, k2, _, k4⟩ := hI.backed l t hl
  obtain ⟨k', hk', j1, j2, _, j4⟩ := hI.backed l' t hl'
  obtain ⟨n1, n2, n3⟩ := hov k hk k' hk' k1 j1 k2 j2
  exact election_safety_adjacent x.el.grants k.cfg.voters k'.cfg.voters n1 n2 n3 hI.unique l l' t k4 j4

/-- … for two nodes that are leader now -/
theorem two_leaders_member_partial (x : Member.Sys) (h : ReachableP Boot x) (i j : Nat)
    (hi : (x.node i).role = .leader) (hj : (x.node j).role = .leader) (ht : (x.node i).term = (x.node j).term)
    (hov : ∀ k ∈ x.ecfg, ∀ k' ∈ x.ecfg, k.cand = i → k'.cand = j → k.term = (x.node i).term →
      k'.term = (x.node i).term → k.cfg.voters.Nodup ∧ k'.cfg.voters.Nodup ∧ AdjLists k.cfg.voters k'.cfg.voters) :
    i = j := by
  obtain ⟨r, _, _, _, s⟩ := election_safety_sys_member_partial x h
  exact s i j (x.node i).term (r i hi) (by rw [ht]; exact r j hj) hov

/-! ### election safety across ONE change of the voter set, unconditionally -/

/-- side condition: every node is bootstrapped and the voters of its latest configuration are `V` or `V'` -/
def TwoV (V V' : List Nat) (x : Member.Sys) : Prop :=
  Boot x ∧ ∀ i, (x.node i).configs.latest.voters = V ∨ (x.node i).configs.latest.voters = V'

theorem ecfg_twoV {V V' : List Nat} (x : Member.Sys) (h : ReachableP (TwoV V V') x) :
    ∀ k ∈ x.ecfg, k.cfg.voters = V ∨ k.cfg.voters = V' := by
  induction h with
  | init x hi _ => rw [hi.ecfg]; intro k hk; cases hk
  | next x y hx ht _ ih =>
    cases ht with
    | step i op ra ord src he =>
      intro k hk
      rcases List.mem_append.mp hk with hk | hk
      · obtain ⟨_, _, rfl⟩ := mem_ecfgOf hk
        exact hx.side.2 i
      · exact ih k hk
    | crash i op ra ord src k' retain sor n he hn =>
      intro k hk
      rcases List.mem_append.mp hk with hk | hk
      · obtain ⟨_, _, rfl⟩ := mem_ecfgOf hk
        exact hx.side.2 i
      · exact ih k hk
    | send i q _ _ _ _ => exact ih

/-- **C01 across one membership change (no hypothesis on elections).** Let `V`, `V'` be duplicate-free voter lists
that differ by at most one id (`AdjLists`: `V' = V`, `V` plus one voter, `V` minus one voter). In every state of
`Member` reachable by runs in which every node is bootstrapped and the voters of every node's latest configuration
are `V` or `V'` in every state — the cluster changes its voter set from `V` to `V'` (or back) at any time, node by
node, any number of times, with any number of non-voter changes, crashes and restarts (for `V' = V` this is
`C01Sys.election_safety_sys_partial`) — two nodes that are leader in the same term are the same node, and the
ledger `won` names at most one node per term. (**`_partial`: one pair of adjacent voter sets per run**; for longer
chains of configurations the overlap of the election configurations is the conclusion of `MemberCore.es_overlap`.) -/
theorem election_safety_one_change_partial (V V' : List Nat) (hV : V.Nodup) (hV' : V'.Nodup) (hadj : AdjLists V V')
    (x : Member.Sys) (h : ReachableP (TwoV V V') x) :
    (∀ i j, (x.node i).role = .leader → (x.node j).role = .leader → (x.node i).term = (x.node j).term → i = j) ∧
    (∀ l l' t, (l, t) ∈ x.el.won → (l', t) ∈ x.el.won → l = l') := by
  have hb : ReachableP Boot x := h.mono (fun _ hp => hp.1)
  obtain ⟨r, _, _, _, s⟩ := election_safety_sys_member_partial x hb
  have hcf := ecfg_twoV x h
  have hwon : ∀ l l' t, (l, t) ∈ x.el.won → (l', t) ∈ x.el.won → l = l' := by
    intro l l' t hl hl'
    refine s l l' t hl hl' (fun k hk k' hk' _ _ _ _ => ?_)
    rcases hcf k hk with e | e <;> rcases hcf k' hk' with e' | e' <;> rw [e, e']
    · exact ⟨hV, hV, AdjLists.refl V⟩
    · exact ⟨hV, hV', hadj⟩
    · exact ⟨hV', hV, hadj.symm⟩
    · exact ⟨hV', hV', AdjLists.refl V'⟩
  exact ⟨fun i j hi hj ht => hwon i j _ (r i hi) (by rw [ht]; exact r j hj), hwon⟩

/-! ### non-voters never lead (C11) -/

/-- **C11, cluster level, with membership changes.** In every state reachable in `Member` (every node bootstrapped):
1. a CANDIDATE is a voter of its latest configuration (which is the configuration it started its election with:
   `MemberRel.cand_configs`);
2. a LEADER was elected as a voter: its election record `k ∈ ecfg` for its current term has `k.cfg.isVoter` of it
   (a leader may afterwards demote or remove itself: it stays leader until that configuration is committed —
   `Raft.setCommitIndex` — but it was a voter of the configuration it campaigned with);
3. a FOLLOWER that is candidate or leader after a step — any operation of the model, any content, any oracle — is a
   voter of the latest configuration it had before the step: a node that is not a voter of its latest configuration
   never starts an election (`follower.onTimeout` → `canStartElection`; `onTimeoutNowRequest` → `nonVoter`). -/
theorem nonvoter_never_leads_partial (x : Member.Sys) (h : ReachableP Boot x) :
    (∀ i, (x.node i).role = .candidate → (x.node i).configs.latest.isVoter i = true) ∧
    (∀ i, (x.node i).role = .leader → ∃ k ∈ x.ecfg, k.cand = i ∧ k.term = (x.node i).term ∧ k.cfg.isVoter i = true) ∧
    (∀ i op ra ord, (x.node i).role = .follower → ((x.node i).step op ra ord).role ≠ .follower →
      (x.node i).configs.latest.isVoter i = true) := by
  have hI := einv_reachable x h
  refine ⟨fun i hi => (hI.cand i hi).voter, fun i hi => ?_, fun i op ra ord hf hnf => ?_⟩
  · obtain ⟨k, hk, k1, k2, k3, _⟩ := hI.backed i _ (hI.recorded i hi)
    exact ⟨k, hk, k1, k2, k3⟩
  · have rs := role_step (x.node i) op ra ord (fun hc => by rw [hf] at hc; cases hc)
    have hnid := (hI.ids i).1
    have fin : NewElection (x.node i) ((x.node i).step op ra ord) → (x.node i).configs.latest.isVoter i = true := by
      rintro ⟨_, _, ec, n3, n4, _, _⟩
      rw [← n3 (h.side i), ← hnid]
      rcases n4 with n4 | n4
      · rw [hf] at n4; cases n4
      · exact n4
    cases hr : ((x.node i).step op ra ord).role with
    | follower => exact absurd hr hnf
    | candidate =>
      rcases rs.candidate hr with ⟨c1, _⟩ | ne
      · rw [hf] at c1; cases c1
      · exact fin ne
    | leader =>
      rcases rs.leader hr with ⟨l1, _⟩ | ⟨l1, _⟩ | ne
      · rw [hf] at l1; cases l1
      · have l2 := l1.1; rw [hf] at l2; cases l2
      · exact fin ne

/-! ### the configuration chain (C08) -/

/-- **the leader's caches are current in every reachable state** (`C06Cache.LeaderCache`: a leader's cached own entry,
voter count and replication table are those of its latest configuration) — for any side condition `P`: the initial
nodes and a restarted node are followers, and `C06Cache.step_leaderCache` covers every operation of the model other
than `shutdown` (excluded with the snapshot operations, `LogRel.OpOK`). In particular `CfgRel.SelfCache` holds. -/
theorem leaderCache_reachable {P : Member.Sys → Prop} (x : Member.Sys) (h : ReachableP P x) :
    ∀ i, C06Cache.LeaderCache (x.node i) := by
  induction h with
  | init x hi _ =>
    intro i hl
    rw [(hi.cm.rp.el.1 i).2.2] at hl; cases hl
  | next x y _ ht _ ih =>
    cases ht with
    | step i op ra ord src he =>
      exact NodeSys.forall_setNode (P := fun _ m => C06Cache.LeaderCache m)
        (C06Cache.step_leaderCache _ op ra ord
          (fun e => by subst e; exact absurd he.rp.ok (by simp [LogRel.OpOK])) (ih i)) (fun j _ => ih j)
    | crash i op ra ord src k retain sor n he hn =>
      refine NodeSys.forall_setNode (P := fun _ m => C06Cache.LeaderCache m) (fun hl => ?_) (fun j _ => ih j)
      rw [(restart_role_nid _ _ _ _ hn).1] at hl; cases hl
    | send i q _ _ _ _ => exact ih

/-- the node-level facts `C08Step.config_step` needs beyond `SelfCache`: the latest configuration is an entry of the
log (`latest.index ≤ lastLogIndex`, part of `Order.Ordered`) and has an anchor — a voter without pending action — or is
empty (`CfgRel.AnchC`, `NoPanic.Glob.cfgL`) -/
def NodeOK (s : Node) : Prop :=
  s.configs.latest.index ≤ s.lastLogIndex ∧ AnchC s.configs.latest

/-- side condition on the states of a run: every node is bootstrapped and satisfies `NodeOK` -/
def NodesOK (x : Member.Sys) : Prop := Boot x ∧ ∀ i, NodeOK (x.node i)

/-- `NodeOK` is preserved by every step that does not handle an append (or install) request — for every oracle and
input, whether or not anything fails: it can only be broken by what a follower is SENT (an append request that
truncates at or below `configs.committed`, or carries a configuration without voter: `C19Order.ReqOk`,
`C08Step.ReqAnch`) or by what a restart finds on disk. -/
theorem nodeOK_step_nonappend (s : Node) (op : Op) (ra : List Nat) (ord : List (List Nat)) (hsc : SelfCache s)
    (hn : NodeOK s) (hok : CfgRel.OpOk op) (ha : ∀ q, op ≠ .append q) (hi : ∀ q, op ≠ .install q) :
    NodeOK (s.step op ra ord) := by
  obtain ⟨ph, hm⟩ := handle_fin s op ra ord hsc hn.1 hn.2 hok ha hi
  have key : ∃ ph', Main s op ph' (s.step op ra ord) := by
    unfold Node.step
    dsimp only
    split
    · exact ⟨ph, hm⟩
    · exact settle_fin 6 _ _ ph hm
  obtain ⟨ph', hm'⟩ := key
  exact ⟨hm'.li, hm'.anch⟩

/-- what is known of a recorded introduction of a configuration -/
structure ChangeOK (r : Change) : Prop where
  /-- the record is a step of the model that did not handle an append request -/
  step : ∃ ra ord, r.post = r.pre.step r.op ra ord
  noAppend : ∀ q, r.op ≠ .append q
  grew : r.pre.configs.latest.index < r.post.configs.latest.index
  /-- exactly one configuration, adjacent to the previous latest one, under the guards of `OneChange`; or more than
  one (`nested`) -/
  cases : (∃ x c, C08Step.OneChange r.pre r.op ⟨r.pre.configs.latest, c⟩ x c ∧ Adjacent r.pre.configs.latest c ∧
      r.post.configs.latest = c) ∨ Chain r.pre r.op .nested r.post.configs

/-- a `ChangeConfig` request handled by a bootstrapped node that is not leader changes no configuration -/
theorem changeConfig_nonleader (s : Node) (t : Nat) (c : Config) (ra : List Nat) (ord : List (List Nat))
    (hr : s.role ≠ .leader) (hb : s.configs.isBootstrapped = true) :
    (s.step (.changeConfig t c) ra ord).configs = s.configs := by
  have hh : (s.begin ra ord).handle (.changeConfig t c) = (s.begin ra ord).reply t ((s.begin ra ord).notLeader false) := by
    show (if (s.begin ra ord).role = .leader then _ else (s.begin ra ord).bootstrap t c) = _
    rw [if_neg (show ¬ (s.begin ra ord).role = .leader from hr)]
    unfold Node.bootstrap
    rw [if_pos (show (s.begin ra ord).configs.isBootstrapped = true from hb)]
  have k := SameKey.reply (s.begin ra ord) t ((s.begin ra ord).notLeader false)
  rw [step_settle s _ ra ord (by intro h; cases h), hh, ← k.role, settle_same, k.configs]
  rfl

theorem isAppend_false {op : Op} (h : Commit.isAppend op = false) : ∀ q, op ≠ .append q := by
  intro q e; subst e; cases h

theorem mem_changeOf {i : Nat} {pre post : Node} {op : Op} {r : Change} (h : r ∈ changeOf i pre op post) :
    Commit.isAppend op = false ∧ pre.configs.latest.index < post.configs.latest.index ∧
    r = { node := i, pre := pre, op := op, post := post } := by
  unfold changeOf at h
  split at h
  · rename_i hc
    exact ⟨hc.1, hc.2, by simpa using h⟩
  · cases h

/-- a recorded step of a good node is a legal introduction -/
theorem changeOK_step (i : Nat) (s : Node) (op : Op) (ra : List Nat) (ord : List (List Nat)) (hb : s.configs.isBootstrapped = true)
    (hsc : SelfCache s) (hn : NodeOK s) (hok : LogRel.OpOK op) (hcf : CfgRel.OpOk op) (r : Change)
    (hr : r ∈ changeOf i s op (s.step op ra ord)) : ChangeOK r := by
  obtain ⟨h1, h2, rfl⟩ := mem_changeOf hr
  obtain ⟨hli, hanch⟩ := hn
  have hna := isAppend_false h1
  have hl : C08Step.LeaderOp s op := by
    refine ⟨hna, fun q e => by subst e; exact absurd hok (by simp [LogRel.OpOK]), fun t c e => ?_⟩
    subst e
    apply Classical.byContradiction
    intro hnl
    have := changeConfig_nonleader s t c ra ord hnl hb
    rw [this] at h2
    exact Nat.lt_irrefl _ h2
  refine ⟨⟨ra, ord, rfl⟩, hna, h2, ?_⟩
  rcases C08Step.config_step_cases s op ra ord hsc hli hanch hcf hl with e | ⟨_, e⟩ | ⟨x, c, o, adj, e⟩ | e
  · rw [e] at h2; exact absurd h2 (Nat.lt_irrefl _)
  · rw [e] at h2; exact absurd h2 (Nat.lt_irrefl _)
  · refine Or.inl ⟨x, c, o, adj, ?_⟩
    rcases e with e | e <;> rw [e]
  · exact Or.inr e

/-- **C08, cluster level: the configuration chain (partial).** In every state of `Member` reachable by runs whose
states satisfy `NodesOK` (every node bootstrapped; `latest.index ≤ lastLogIndex` and an anchor in the latest
configuration — node-level invariants of C19Order / C08Step that only an append request or a restart can break,
`nodeOK_step_nonappend`; **assuming them of every state is the `_partial` restriction**; `SelfCache` is proved:
`leaderCache_reachable`), every record `r` of the ledger `changes` — every completed step, of any node, other than an
append request, in which the index of the node's latest configuration grew, i.e. EVERY CONFIGURATION EVER INTRODUCED BY
A LEADER — is a step `r.post = r.pre.step r.op …` of the model in which
* either exactly ONE configuration `c` was introduced, `r.post.configs.latest = c`, as `C08Step.OneChange` describes:
  at that moment the node was LEADER and a VOTER of its configuration, that configuration was COMMITTED
  (`configs.isCommitted`), an entry of the leader's OWN TERM was committed (`ldr.startIndex ≤ commitIndex`), no
  leadership transfer was in progress, `c` is the entry just appended (index `lastLogIndex`, the leader's term); and
  `c` is `Adjacent` to the configuration that was latest before the step: the voting rights differ at one node at
  most and a voter remains;
* or more than one configuration was introduced in the step (`nested`: the single-voter fast path commits a
  configuration within the step; each introduction satisfies the guards of `CfgRel.Move.change`, adjacency to the
  immediate predecessor is claimed for the first only). -/
theorem config_chain_partial (x : Member.Sys) (h : ReachableP NodesOK x) : ∀ r ∈ x.changes, ChangeOK r :=
  h.changes_all fun x i op ra ord _ hx he => changeOK_step i (x.node i) op ra ord (hx.side.1 i)
    (C08Step.selfCache_of_leaderCache _ (leaderCache_reachable x hx i)) (hx.side.2 i) he.rp.ok he.cfg

/-- … in particular the voters of the new configuration and of its predecessor differ by at most one id -/
theorem change_adjacent_voters (r : Change) (h : ChangeOK r)
    (hn : ¬ Chain r.pre r.op .nested r.post.configs) :
    C08.AdjacentVoters r.pre.configs.latest r.post.configs.latest ∧ ∃ v, r.post.configs.latest.isVoter v = true := by
  rcases h.cases with ⟨x, c, _, adj, e⟩ | e
  · rw [e]; exact adj
  · exact absurd e hn

/-! ### leader completeness and election safety from the local rules (C02 + C01) -/

open MemberCore in
/-- the creator recorded for a key of the tree (0 if none) -/
def crOf (T : List CEntry) (a : K) : Nat := ((T.find? (fun c => key c == a)).map (·.cr)).getD 0

open MemberCore in
/-- the voters of the configuration entry recorded under a key (empty if none) -/
def votersAt (T : List CEntry) (a : K) : List Nat :=
  (((T.find? (fun c => key c == a)).bind (·.e.config?)).map (·.voters)).getD []

open MemberCore in
/-- the ledgers of a state as `MemberCore.Data`: the tree of created entries under `CommitRel.Anc`; a key is a
configuration entry if its record has type `entryConfig`; acknowledgements and grants are those of the ledgers; `root`,
the commit records `R` and the election records `E` are supplied -/
def dataOf (x : Member.Sys) (root : K) (R : List Rec) (E : List El) : Data where
  A := Anc x.cm.T
  N := fun a => ∃ c ∈ x.cm.T, key c = a
  cr := crOf x.cm.T
  isC := fun a => ∃ c ∈ x.cm.T, key c = a ∧ c.e.typ = etConfig
  V := votersAt x.cm.T
  root := root
  R := R
  E := E
  acked := fun v w a => ∃ k ∈ x.cm.acks, k.voter = v ∧ k.term = w ∧ k.key = a
  granted := fun v t c => ({ voter := v, term := t, cand := c } : Grant) ∈ x.el.grants

/-- in a tree with at most one record per key, the record found under the key of a record is that record -/
theorem find?_key {T : List CEntry} (hU : Uniq T) {c : CEntry} (hc : c ∈ T) :
    T.find? (fun c' => key c' == key c) = some c := by
  cases hf : T.find? (fun c' => key c' == key c) with
  | none =>
    have := List.find?_eq_none.mp hf c hc
    simp at this
  | some c' =>
    have hm : c' ∈ T := List.mem_of_find?_eq_some hf
    have hk : key c' = key c := by simpa using List.find?_some hf
    unfold key at hk
    simp only [Prod.mk.injEq] at hk
    rw [hU c' hm c hc hk.1 hk.2]

theorem crOf_eq {T : List CEntry} (hU : Uniq T) {c : CEntry} (hc : c ∈ T) : crOf T (key c) = c.cr := by
  unfold crOf
  rw [find?_key hU hc]; rfl

theorem votersAt_eq {T : List CEntry} (hU : Uniq T) {c : CEntry} (hc : c ∈ T) :
    votersAt T (key c) = ((c.e.config?).map (·.voters)).getD [] := by
  unfold votersAt
  rw [find?_key hU hc]; rfl

open MemberCore in
/-- a well-formed tree of created entries is a forest in the sense of `MemberCore` -/
theorem forest_of (x : Member.Sys) (root : K) (R : List Rec) (E : List El) (hU : Uniq x.cm.T)
    (hP : PathClosed x.cm.T) (hm : ∀ c ∈ x.cm.T, c.pt ≤ c.e.term) : Forest (dataOf x root R E) where
  refl := fun a ⟨c, hc, hk⟩ => by
    obtain ⟨es, p, hh⟩ := hP c hc
    rw [← hk]
    exact Anc.refl_of_holds p (a := key c) hh
  node := fun a c h => by
    obtain ⟨_, es, p, hc, ha⟩ := h
    obtain ⟨ca, hca, a1, a2, _⟩ := path_record p ha
    obtain ⟨cc, hcc, c1, c2, _⟩ := path_record p hc
    exact ⟨⟨ca, hca, Prod.ext a1 a2⟩, ⟨cc, hcc, Prod.ext c1 c2⟩⟩
  trans := fun _ _ _ h1 h2 => Anc.trans hU h1 h2
  cmp := fun _ _ _ h1 h2 hi => Anc.comparable hU h1 h2 hi
  eqi := fun _ _ h hi => Anc.eq_of_index h hi
  idx := fun _ _ h => h.1
  trm := fun _ _ h => Anc.term_le hm h

open MemberCore in
/-- **C02 + C01 across membership changes, from the local rules (partial).** Let `x` be a state of `Member` reachable
by runs in which every node is bootstrapped. ASSUME (explicit hypotheses, not proved over `ReachableP`; for the runs of
`C08Member.ReachableR` `MemberInv.MInv` gives them in the form `MemberCore.LocalS`: `MemberInv.forestM`, `localM`):
* the tree `x.cm.T` of created entries is well formed: at most one record per (index, term) (`Uniq`), every record on
  a root path (`PathClosed`), terms do not decrease along paths — the facts `C04Sys` / `C02Sys` prove for a fixed
  membership;
* for a bootstrap key `root`, commit records `R` and election records `E`, the LOCAL rules `MemberCore.Local` hold of
  these ledgers (`dataOf`): every commit in `R` was acknowledged, in the leader's term, by a majority of the voters of
  the LATEST CONFIGURATION ENTRY of the leader's log; every node that created entries of a term did so on top of the
  log it campaigned with, after a majority of the voters of the latest configuration entry of THAT log granted their
  vote and passed the strict up-to-date check `UpToC`; every configuration entry other than `root` is adjacent to its
  predecessor and was created by a leader that had committed, in its own term, a key at or above that predecessor
  (`C08Step.OneChange`: `isCommitted`, `startIndex ≤ commitIndex`); the commit index of a leader is monotone;
  the entries a node creates in one term lie on one path; initial entries have terms not above any commit.
THEN (`MemberCore.member_safety`; grant uniqueness comes from `einv_reachable`):
1. LEADER COMPLETENESS: every entry `c` of the tree with a term above that of a commit record `r ∈ R` extends the
   committed key `r.m` — in particular the log of every later leader holds it;
2. ELECTION SAFETY: any two entries of one term that were created by nodes were created by the same node. -/
theorem leader_completeness_sys_member_partial (x : Member.Sys) (h : ReachableP Boot x) (hU : Uniq x.cm.T)
    (hP : PathClosed x.cm.T) (hm : ∀ c ∈ x.cm.T, c.pt ≤ c.e.term) (root : K) (R : List Rec) (E : List El)
    (hloc : Local True (dataOf x root R E)) :
    (∀ r ∈ R, ∀ c ∈ x.cm.T, r.m.2 < c.e.term → Anc x.cm.T r.m (key c)) ∧
    (∀ c ∈ x.cm.T, ∀ c' ∈ x.cm.T, c.e.term = c'.e.term → c.cr ≠ 0 → c'.cr ≠ 0 → c.cr = c'.cr) := by
  have hI := einv_reachable x h
  have hR : Rules (dataOf x root R E) :=
    { toForest := forest_of x root R E hU hP hm
      toLocal := hloc
      grantU := fun v t c c' h1 h2 => hI.unique _ h1 _ h2 rfl rfl }
  obtain ⟨lc, es⟩ := member_safety hR
  refine ⟨fun r hr c hc hlt => lc r hr (key c) ⟨c, hc, rfl⟩ hlt, fun c hc c' hc' ht h0 h0' => ?_⟩
  have := es (key c) (key c') ⟨c, hc, rfl⟩ ⟨c', hc', rfl⟩ ht
    (by show crOf x.cm.T (key c) ≠ 0; rw [crOf_eq hU hc]; exact h0)
    (by show crOf x.cm.T (key c') ≠ 0; rw [crOf_eq hU hc']; exact h0')
  have this' : crOf x.cm.T (key c) = crOf x.cm.T (key c') := this
  rw [crOf_eq hU hc, crOf_eq hU hc'] at this'
  exact this'

/-! ### Examples (non-vacuity) -/

/-- example initial state: the commit example `C02Sys.ex0` (three voters 1, 2, 3, every node bootstrapped with the
configuration entry (1,1)) with empty ledgers -/
def ex0 : Member.Sys := { cm := C02Sys.ex0, ecfg := [], changes := [] }

/-- node 1: election timeout -/
def ex1 : Member.Sys := stepM ex0 1 .timeout [] [] 0

theorem ex0_init : Member.Init ex0 := ⟨C02Sys.ex0_init.1, rfl, rfl⟩

theorem exNode_ok (i : Nat) : NodeOK (C04Sys.exNode i) := by
  refine ⟨Nat.le_refl 1, Or.inr ⟨1, { id := 1, addr := "a:1", voter := true }, ?_, rfl, rfl⟩⟩
  show C04Sys.exCfg.find? 1 = some _
  decide

theorem ex0_ok : NodesOK ex0 := ⟨fun _ => rfl, exNode_ok⟩

theorem ex1_trans : Member.Trans ex0 ex1 :=
  .step 1 .timeout [] [] 0
    ⟨⟨by decide, (fun q h => by cases h), (fun ⟨_, _, _, h⟩ => by cases h), trivial, (fun q h => by cases h)⟩,
     trivial, (fun q h => by cases h), (fun q h => by cases h), (fun us h => by cases h)⟩

theorem ex1_ok : NodesOK ex1 :=
  ⟨NodeSys.forall_setNode (P := fun _ m => m.configs.isBootstrapped = true) (by decide) (fun _ _ => rfl),
    NodeSys.forall_setNode (P := fun _ m => NodeOK m)
      ⟨by decide, Or.inr ⟨1, { id := 1, addr := "a:1", voter := true }, by decide, rfl, rfl⟩⟩
      (fun i _ => exNode_ok i)⟩

set_option maxRecDepth 100000 in
/-- EXAMPLE: `ex1` (node 1 is candidate of term 2; its election configuration — voters 1, 2, 3 — is recorded) is
reachable with `NodesOK` in every state: the hypotheses of `election_safety_sys_member_partial`,
`nonvoter_never_leads_partial` and `config_chain_partial` hold for a non-initial state -/
example : ReachableP NodesOK ex1 ∧ ReachableP Boot ex1 ∧ (ex1.node 1).role = .candidate ∧
    ex1.ecfg = [{ cand := 1, term := 2, cfg := C04Sys.exCfg }] := by
  have r : ReachableP NodesOK ex1 := .next ex0 ex1 (.init ex0 ex0_init ex0_ok) ex1_trans ex1_ok
  exact ⟨r, r.mono (fun _ h => h.1), by decide, by decide⟩

/-- EXAMPLE: the hypotheses of `election_safety_one_change_partial` hold for `ex1` with `V = {1,2,3}` and
`V' = {1,2,3,4}` (the voter sets before and after the promotion of node 4 in the scenario below) -/
theorem ex1_twoV : [1, 2, 3].Nodup ∧ [1, 2, 3, 4].Nodup ∧ AdjLists [1, 2, 3] [1, 2, 3, 4] ∧
    ReachableP (TwoV [1, 2, 3] [1, 2, 3, 4]) ex1 := by
  have t0 : TwoV [1, 2, 3] [1, 2, 3, 4] ex0 := ⟨fun _ => rfl, fun _ => Or.inl rfl⟩
  have t1 : TwoV [1, 2, 3] [1, 2, 3, 4] ex1 := by
    exact ⟨ex1_ok.1, NodeSys.forall_setNode
      (P := fun _ m => m.configs.latest.voters = [1, 2, 3] ∨ m.configs.latest.voters = [1, 2, 3, 4])
      (Or.inl (by decide)) (fun _ _ => Or.inl rfl)⟩
  exact ⟨by decide, by decide, ⟨4, fun x hx => by simp; omega⟩, .next ex0 ex1 (.init ex0 ex0_init t0) ex1_trans t1⟩

/-- the scenario continues: node 2 grants its vote, node 1 becomes leader of term 2 and appends its no-op (2,2); nodes
2 and 3 acknowledge it, node 1 commits index 2; a client asks to add node 4 as a non-voter to be promoted: the leader
introduces configuration (3,2) — recorded in `changes` -/
def ex2 : Member.Sys := stepM ex1 2 (.vote { term := 2, src := 1, lastLogIndex := 1, lastLogTerm := 1 }) [] [] 0
def ex3 : Member.Sys := stepM ex2 1 (.voteResult false 2 rSuccess) [] [] 2
def exReq : AppendReq :=
  { term := 2, src := 1, prevLogIndex := 1, prevLogTerm := 1, entries := (ex3.node 1).log.entries.drop 1 }
def ex4 : Member.Sys := { ex3 with cm := { ex3.cm with rp := { ex3.cm.rp with sent := exReq :: ex3.cm.rp.sent } } }
def ex5 : Member.Sys := stepM ex4 2 (.append exReq) [] [] 0
def ex6 : Member.Sys := stepM ex5 3 (.append exReq) [] [] 0
def ex7 : Member.Sys :=
  stepM ex6 1 (.replUpdates [{ id := 2, upd := .matchIndex 2 }, { id := 3, upd := .matchIndex 2 }]) [] [] 0
/-- the request: the present members plus node 4, a non-voter to be promoted -/
def exAdd : Config :=
  { C04Sys.exCfg with nodes := C04Sys.exCfg.nodes ++ [{ id := 4, addr := "a:4", voter := false, action := actPromote }] }
def ex8 : Member.Sys := stepM ex7 1 (.changeConfig 5 exAdd) [] [] 0

-- evaluation (tests, not proofs: `ex7` comes from a commit step, whose `List.mergeSort` the kernel does not evaluate, and
-- `ex8` from `Config.validate`, whose address check it does not evaluate either): node 1 leads term 2 with the election
-- configuration {1,2,3}; after the request the ledger `changes` holds the step of node 1, the new latest configuration
-- is entry (3,2) with the same voters and the new non-voter, its predecessor is `committed`
#guard (ex3.node 1).role == .leader && ex3.ecfg.map (fun k => (k.cand, k.term, k.cfg.voters)) == [(1, 2, [1, 2, 3])]
#guard ex3.el.won == [(1, 2)]
#guard (ex7.node 1).commitIndex == 2 && ex7.changes.length == 0
#guard (ex8.node 1).panicked.isNone && ex8.changes.map (fun r => (r.node, r.post.configs.latest.index)) == [(1, 3)]
#guard (ex8.node 1).configs.latest.voters == [1, 2, 3] && (ex8.node 1).configs.latest.ids == [1, 2, 3, 4]
#guard (ex8.node 1).configs.committed.index == 1 && (ex8.node 1).configs.latest.term == 2

/-- the leader puts the append request `q` on the wire (the post-state of the transition `Member.Trans.send`) -/
def exSend (x : Member.Sys) (q : AppendReq) : Member.Sys :=
  { x with cm := { x.cm with rp := { x.cm.rp with sent := q :: x.cm.rp.sent } } }

/-- the leader replicates configuration (3,2): the request with entry 3 is handled by the nodes 2 and 3 … -/
def exReq3 : AppendReq :=
  { term := 2, src := 1, prevLogIndex := 2, prevLogTerm := 2, ldrCommitIndex := 2,
    entries := (ex8.node 1).log.entries.drop 2 }
def ex9 : Member.Sys := stepM (stepM (exSend ex8 exReq3) 2 (.append exReq3) [] [] 0) 3 (.append exReq3) [] [] 0
/-- … and the new node 4 (it holds the bootstrap entry only) gets the entries 2 and 3 -/
def exReq4 : AppendReq :=
  { term := 2, src := 1, prevLogIndex := 1, prevLogTerm := 1, ldrCommitIndex := 2,
    entries := (ex8.node 1).log.entries.drop 1 }
def ex10 : Member.Sys := stepM (exSend ex9 exReq4) 4 (.append exReq4) [] [] 0
/-- the match-index reports of the nodes 2 and 3 — backed by their acknowledgements of entry 3 — reach the leader:
configuration (3,2) is committed -/
def ex11 : Member.Sys :=
  stepM ex10 1 (.replUpdates [{ id := 2, upd := .matchIndex 3 }, { id := 3, upd := .matchIndex 3 }]) [] [] 0
/-- node 4 has caught up (its report is backed by its acknowledgement of entry 3): the leader promotes it — configuration
(4,2) with the voters 1, 2, 3, 4, ADJACENT to its predecessor, is the second record of `changes` -/
def ex12 : Member.Sys := stepM ex11 1 (.replUpdates [{ id := 4, upd := .matchIndex 3 }]) [] [] 0

-- evaluation (tests, not proofs). Every step of `ex1 … ex12` is a transition of the system: the scenario is the initial
-- segment `m1 … m15` of the run PROVED reachable in Props/AuditMember.lean (`AuditMember.c08sys_scenario_run`:
-- `ex12 = m15`, `ReachableR (1,1) ex12`), which continues with the replication of (4,2), a crash and restart of node 4 and
-- the commit of (4,2) by three of four voters (`m16 … m21`).
#guard (ex9.node 2).log.entries.length == 3 && (ex9.node 3).log.entries.length == 3 && (ex9.node 2).panicked.isNone
#guard ex9.cm.acks.any (fun a => a.voter == 2 && a.index == 3) && ex9.cm.acks.any (fun a => a.voter == 3 && a.index == 3)
#guard (ex10.node 4).log.entries.length == 3 && (ex10.node 4).configs.latest.index == 3 && (ex10.node 4).panicked.isNone
#guard ex10.cm.acks.any (fun a => a.voter == 4 && a.index == 3 && a.term == 2)
#guard (ex11.node 1).commitIndex == 3 && (ex11.node 1).configs.isCommitted && ex11.changes.length == 1
#guard (ex12.node 1).panicked.isNone && (ex12.node 1).role == .leader
#guard ex12.changes.map (fun r => (r.node, r.pre.configs.latest.voters, r.post.configs.latest.voters)) ==
  [(1, [1, 2, 3], [1, 2, 3, 4]), (1, [1, 2, 3], [1, 2, 3])]
#guard (ex12.node 1).configs.latest.index == 4 && (ex12.node 1).configs.committed.index == 3

end C08Sys
end Raft

#print axioms Raft.C01Member.einv_reachable
#print axioms Raft.C08Sys.election_safety_sys_member_partial -- also C01
#print axioms Raft.C08Sys.two_leaders_member_partial
#print axioms Raft.C08Sys.election_safety_one_change_partial -- also C01
#print axioms Raft.C08Sys.nonvoter_never_leads_partial -- also C11
#print axioms Raft.C08Sys.config_chain_partial
#print axioms Raft.C08Sys.leaderCache_reachable
#print axioms Raft.C08Sys.nodeOK_step_nonappend
#print axioms Raft.C08Sys.leader_completeness_sys_member_partial -- also C02
#print axioms Raft.MemberCore.member_safety -- also C01 C02
#print axioms Raft.QuorumRel.adjacent_quorums_intersect -- also C01
