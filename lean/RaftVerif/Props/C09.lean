/-
C09 — Snapshots, compaction and snapshot installation are transparent (node-local part).

PROVED here, on the handler functions that `nodediff` ties to /repo, for every state and input:
* compaction granularity (`canLTE`, `removeLTE`): whole segments only, never beyond the requested index,
  every entry above the new first index is kept, the last index does not move, the segment list stays
  well formed (`SegsOK`);
* `onSnapshotTaken` compacts at most up to the index of the snapshot just taken (followers' match indexes
  only lower the bound); `checkLogCompact` compacts exactly at `leader.removeLTE`; `onInstallSnap` never
  compacts (a request whose last entry the log already holds installs nothing);
* a snapshot taken by `snapRun` is the FSM's `(index, term, applied)`; the two refusals are exactly the
  model's conditions; it holds nothing above the commit index when `fsm.index ≤ commitIndex`;
* the effect of `onInstallSnap`: a request not ahead of the commit index, or whose last entry the log
  already holds (keep branch), changes no data at all; otherwise (discard branch) the exact post-state,
  including that the file just written survives retention in a well-formed state (`SnapsWF`), and the exact
  condition for an arbitrary one; the snapshot index never goes down and `SnapsWF` is preserved;
* after `compactLog n` with `n ≤ snapIndex` the first log index is `≤ snapIndex` (a follower can be served
  from the log or from the snapshot).

NOT in this file: `fsm.state = replay(global log)` across nodes and anything else that needs the cluster-level
ledgers (Props/C09Sys.lean, C09Sys2.lean and the files that follow them); `views_valid` for the replication
goroutines is not stated (Props/C09Sys4.lean says what is missing).
-/
import RaftVerif.Lemmas.LocalB
import RaftVerif.Lemmas.ReplSteps
import RaftVerif.Lemmas.ShapeLeader

namespace Raft
namespace C09
open Node

/-! ### 1. compaction granularity -/

/-- The segment list of a log is well formed: strictly increasing, starts at `prev`, nothing beyond `last`. -/
structure SegsOK (l : NLog) : Prop where
  sorted : l.segs.Pairwise (· < ·)
  head : l.segs.head? = some l.prev
  le_last : ∀ x ∈ l.segs, x ≤ l.last

example : SegsOK ({} : NLog) := ⟨by decide, rfl, by decide⟩
example : SegsOK (NLog.reset 7) := ⟨by simp [NLog.reset], rfl, by simp [NLog.reset, NLog.last]⟩

/-- `CanLTE(i)`: the answer is a segment boundary, lies between the first and the last index, and is
`≤ i` unless nothing can be removed (then it is `prev`). -/
theorem canLTE_bounds (l : NLog) (i : Nat) (h : SegsOK l) :
    l.canLTE i ∈ l.segs ∧ l.prev ≤ l.canLTE i ∧ l.canLTE i ≤ l.last ∧
    (l.canLTE i = l.prev ∨ l.canLTE i ≤ i) ∧
    ∃ tl, NLog.dropLTE i l.segs = l.canLTE i :: tl ∧ (l.canLTE i :: tl) <:+ l.segs := by
  obtain ⟨hs, hh, hl⟩ := h
  cases hsegs : l.segs with
  | nil => rw [hsegs] at hh; cases hh
  | cons a rest =>
    rw [hsegs] at hh hs hl
    have ha : a = l.prev := by injection hh
    obtain ⟨x, tl, e, suf, hx⟩ := dropLTE_cons_cases i a rest
    have hc : l.canLTE i = x := by unfold NLog.canLTE; rw [hsegs, e]; rfl
    have hmem : x ∈ a :: rest := suf.subset (List.mem_cons_self ..)
    rw [hc]
    refine ⟨hmem, ?_, hl x hmem, ?_, tl, e, suf⟩
    · rcases List.mem_cons.mp hmem with hm | hm
      · omega
      · have := (List.pairwise_cons.mp hs).1 x hm; omega
    · rcases hx with hx | hx
      · left; omega
      · right; exact hx

/-- `canLTE i ≤ i` whenever `i` is not below the first index. -/
theorem canLTE_le (l : NLog) (i : Nat) (h : SegsOK l) (hi : l.prev ≤ i) : l.canLTE i ≤ i := by
  rcases (canLTE_bounds l i h).2.2.2.1 with e | e <;> omega

/-- the segment that follows the new first segment starts above `i`: `CanLTE` is the largest boundary `≤ i` -/
theorem canLTE_maximal (l : NLog) (i : Nat) (h : SegsOK l) :
    ∀ b tl, NLog.dropLTE i l.segs = l.canLTE i :: b :: tl → i < b :=
  fun b tl e => dropLTE_next_gt i l.segs h.sorted _ b tl e

theorem removeLTE_prev (l : NLog) (i : Nat) : (l.removeLTE i).prev = l.canLTE i := rfl

theorem removeLTE_entries (l : NLog) (i : Nat) :
    (l.removeLTE i).entries = l.entries.drop (l.canLTE i - l.prev) := rfl

theorem removeLTE_segs (l : NLog) (i : Nat) : (l.removeLTE i).segs = NLog.dropLTE i l.segs := rfl

/-- `RemoveLTE` commits first: everything that is kept is flushed -/
theorem removeLTE_flushed (l : NLog) (i : Nat) : (l.removeLTE i).flushed = l.last := rfl

/-- **whole segments only**: `RemoveLTE(i)` removes a prefix of the segment list; the last index does not
move; every index above the new first index keeps its entry; the segment list stays well formed. -/
theorem removeLTE_whole_segments (l : NLog) (i : Nat) (h : SegsOK l) :
    (l.removeLTE i).segs <:+ l.segs ∧
    (l.removeLTE i).prev ∈ l.segs ∧
    l.prev ≤ (l.removeLTE i).prev ∧
    ((l.removeLTE i).prev = l.prev ∨ (l.removeLTE i).prev ≤ i) ∧
    (l.removeLTE i).last = l.last ∧
    (∀ j, (l.removeLTE i).prev < j → (l.removeLTE i).get? j = l.get? j) ∧
    SegsOK (l.removeLTE i) := by
  obtain ⟨hmem, hge, hle, hor, tl, hd, suf⟩ := canLTE_bounds l i h
  have hlast : (l.removeLTE i).last = l.last := by
    unfold NLog.last at hle ⊢
    rw [removeLTE_prev, removeLTE_entries, List.length_drop]
    omega
  refine ⟨?_, hmem, hge, hor, hlast, ?_, ?_⟩
  · rw [removeLTE_segs, hd]; exact suf
  · intro j hj
    rw [removeLTE_prev] at hj
    unfold NLog.get?
    rw [removeLTE_prev, removeLTE_entries, if_pos hj, if_pos (by omega), List.getElem?_drop]
    congr 1
    omega
  · refine ⟨?_, ?_, ?_⟩
    · rw [removeLTE_segs, hd]; exact List.Pairwise.sublist suf.sublist h.sorted
    · rw [removeLTE_segs, hd]; rfl
    · intro x hx
      rw [removeLTE_segs, hd] at hx
      rw [hlast]
      exact h.le_last x (suf.subset hx)

/-- no entry is touched when `i` is below the second segment: `RemoveLTE` is then the identity on the
first index and the entries. -/
theorem removeLTE_noop (l : NLog) (i : Nat) (h : l.canLTE i = l.prev) :
    (l.removeLTE i).prev = l.prev ∧ (l.removeLTE i).entries = l.entries := by
  rw [removeLTE_prev, removeLTE_entries, h]; simp

/-- Non-vacuity: a log with segments starting at 0, 4, 8 holding entries 1..10; `RemoveLTE(9)` cuts at 8,
`RemoveLTE(7)` at 4, `RemoveLTE(3)` nothing. -/
example :
    let l : NLog := { prev := 0, entries := (List.range 10).map (fun k => { index := k + 1 }), segs := [0, 4, 8] }
    SegsOK l ∧ l.canLTE 9 = 8 ∧ l.canLTE 7 = 4 ∧ l.canLTE 3 = 0 ∧ (l.removeLTE 7).last = 10 ∧
    ((l.removeLTE 7).get? 5).map (·.index) = some 5 := by
  refine ⟨⟨by decide, rfl, by decide⟩, by decide, by decide, by decide, by decide, by decide⟩

/-! ### 2. compaction never goes beyond the snapshot -/

theorem foldl_le_init (g : Nat → Repl → Nat) (hg : ∀ m r, g m r ≤ m) (rs : List Repl) (init : Nat) :
    rs.foldl g init ≤ init := Raft.foldl_le_init g hg rs init

theorem reply_log (s : Node) (t : Nat) (r : String) : (s.reply t r).log = s.log := by rw [reply_shape]
theorem reply_ldr (s : Node) (t : Nat) (r : String) : (s.reply t r).ldr = s.ldr := by rw [reply_shape]
theorem reply_snapIndex (s : Node) (t : Nat) (r : String) : (s.reply t r).snapIndex = s.snapIndex := by rw [reply_shape]

theorem notifyFlr_log (s : Node) : s.notifyFlr.log = s.log ∧ s.notifyFlr.ldr = s.ldr ∧
    s.notifyFlr.snapIndex = s.snapIndex := by
  rw [notifyFlr_shape]; exact ⟨rfl, rfl, rfl⟩

/-- **what `onSnapshotTaken` does to the log and to the leader's bound**, a result `rs` pending. With `a` the least of
the snapshot index and the match indexes of a leader's replications, and `b` the same over the replications in contact:
the log is untouched or compacted AT ONCE at `CanLTE(a)`, which then lies above the first index; the bound is untouched,
or `CanLTE(b)`, or the new first index. -/
theorem onSnapshotTaken_values (s : Node) (rs : SnapRes) (hr : s.snapResult = some rs) :
    ∃ a b : Nat, a ≤ rs.index ∧ (s.role = .leader → ∀ r ∈ s.ldr.repls, a ≤ r.matchIndex) ∧ b ≤ rs.index ∧
      (s.onSnapshotTaken.log = s.log ∨
        (s.log.prev < s.log.canLTE a ∧ s.onSnapshotTaken.log = s.log.removeLTE (s.log.canLTE a))) ∧
      (s.onSnapshotTaken.ldr.removeLTE = s.ldr.removeLTE ∨ s.onSnapshotTaken.ldr.removeLTE = s.log.canLTE b ∨
        s.onSnapshotTaken.ldr.removeLTE = s.onSnapshotTaken.log.prev) := by
  refine onSnapshotTaken_cases (motive := fun z => ∃ a b : Nat, a ≤ rs.index ∧
      (s.role = .leader → ∀ r ∈ s.ldr.repls, a ≤ r.matchIndex) ∧ b ≤ rs.index ∧
      (z.log = s.log ∨ (s.log.prev < s.log.canLTE a ∧ z.log = s.log.removeLTE (s.log.canLTE a))) ∧
      (z.ldr.removeLTE = s.ldr.removeLTE ∨ z.ldr.removeLTE = s.log.canLTE b ∨ z.ldr.removeLTE = z.log.prev))
    s (fun h => by rw [hr] at h; cases h)
    (fun _ _ => ⟨0, 0, Nat.zero_le _, fun _ _ _ => Nat.zero_le _, Nat.zero_le _, Or.inl (by rw [reply_shape]; rfl),
      Or.inl (by rw [reply_shape]; rfl)⟩)
    fun rs' a b y hr' _ ha hb hm hy => ?_
  have e : rs' = rs := by rw [hr] at hr'; injection hr' with h; exact h.symm
  rw [e] at ha hb
  have hy' : (y.log = s.log ∨ (s.log.prev < s.log.canLTE a ∧ y.log = s.log.removeLTE (s.log.canLTE a))) ∧
      y.ldr = s.ldr := by
    rcases hy with rfl | ⟨hgt, rfl⟩
    · exact ⟨Or.inl rfl, rfl⟩
    · exact ⟨Or.inr ⟨hgt, rfl⟩, rfl⟩
  refine ⟨a, b, ha, hm, hb, ?_⟩
  rw [reply_shape]
  let Q : Node → Prop := fun z =>
    (z.log = s.log ∨ (s.log.prev < s.log.canLTE a ∧ z.log = s.log.removeLTE (s.log.canLTE a))) ∧
    (z.ldr.removeLTE = s.ldr.removeLTE ∨ z.ldr.removeLTE = s.log.canLTE b ∨ z.ldr.removeLTE = z.log.prev)
  refine ite_ind (P := Q) (fun _ => ?_) fun _ => ite_ind (P := Q) (fun _ => ?_) fun _ =>
    ⟨hy'.1, Or.inl (congrArg Leader.removeLTE hy'.2)⟩
  · show Q _; rw [notifyFlr_shape]; exact ⟨hy'.1, Or.inr (Or.inl rfl)⟩
  · show Q _; rw [notifyFlr_shape]; exact ⟨hy'.1, Or.inr (Or.inr rfl)⟩

/-- **`onSnapshotTaken` never compacts beyond the snapshot it was told about.** Either the log is
untouched, or it is `RemoveLTE(n)` for a segment boundary `n` with `prev < n ≤ rs.index`; the followers'
match indexes (the two folds over `repls`) only lower `n`. -/
theorem compaction_never_beyond_snapshot (s : Node) (rs : SnapRes) (hr : s.snapResult = some rs)
    (hok : SegsOK s.log) :
    s.onSnapshotTaken.log = s.log ∨
    ∃ n, n ∈ s.log.segs ∧ s.log.prev < n ∧ n ≤ rs.index ∧ s.onSnapshotTaken.log = s.log.removeLTE n := by
  obtain ⟨a, _, ha, _, _, hlog, _⟩ := onSnapshotTaken_values s rs hr
  rcases hlog with e | ⟨hgt, e⟩
  · exact Or.inl e
  · obtain ⟨hmem, _, _, hor, _⟩ := canLTE_bounds s.log a hok
    exact Or.inr ⟨_, hmem, hgt, by rcases hor with e' | e' <;> omega, e⟩

/-- Consequence: the first log index after `onSnapshotTaken` is at most the snapshot's index (when it was
so before, which the guard `log.contains rs.index` implies whenever anything is removed). -/
theorem onSnapshotTaken_prev_le (s : Node) (rs : SnapRes) (hr : s.snapResult = some rs)
    (hok : SegsOK s.log) :
    s.onSnapshotTaken.log.prev ≤ max s.log.prev rs.index ∧ s.onSnapshotTaken.log.last = s.log.last ∧
    SegsOK s.onSnapshotTaken.log ∧
    ∀ j, s.onSnapshotTaken.log.prev < j → s.onSnapshotTaken.log.get? j = s.log.get? j := by
  rcases compaction_never_beyond_snapshot s rs hr hok with e | ⟨n, _, hn1, hn2, e⟩
  · rw [e]; exact ⟨by omega, rfl, hok, fun _ _ => rfl⟩
  · rw [e]
    obtain ⟨_, _, _, hor, hl, hg, hk⟩ := removeLTE_whole_segments s.log n hok
    exact ⟨by rcases hor with x | x <;> omega, hl, hk, hg⟩

/-- `leader.removeLTE` after `onSnapshotTaken` is bounded by the snapshot index as well. -/
theorem onSnapshotTaken_removeLTE_le (s : Node) (rs : SnapRes) (hr : s.snapResult = some rs)
    (hok : SegsOK s.log) :
    s.onSnapshotTaken.ldr.removeLTE ≤ max s.ldr.removeLTE (max s.log.prev rs.index) := by
  have hprev := (onSnapshotTaken_prev_le s rs hr hok).1
  obtain ⟨_, b, _, _, hb, _, hrm⟩ := onSnapshotTaken_values s rs hr
  rcases hrm with e | e | e
  · rw [e]; exact Nat.le_max_left _ _
  · rw [e]
    rcases (canLTE_bounds s.log b hok).2.2.2.1 with e' | e' <;> omega
  · rw [e]; omega

/-- `leader.checkLogCompact` compacts exactly at `leader.removeLTE`, and only when no replication is
still reading below it. -/
theorem checkLogCompact_effect (s : Node) :
    (s.ldr.repls.any (fun r => r.removeLTE < s.ldr.removeLTE) = true ∧ s.checkLogCompact = s) ∨
    ((∀ r ∈ s.ldr.repls, s.ldr.removeLTE ≤ r.removeLTE) ∧ s.checkLogCompact = s.compactLog s.ldr.removeLTE) := by
  unfold Node.checkLogCompact
  split
  · rename_i h; exact Or.inl ⟨h, rfl⟩
  · rename_i h
    right
    refine ⟨fun r hr => ?_, rfl⟩
    simp only [List.any_eq_true, decide_eq_true_eq, not_exists, not_and] at h
    exact Nat.le_of_not_lt (h r hr)

/-! ### 3. a snapshot is taken at the applied index -/

/-- The file `snapRun` writes for a pending request `rq`. -/
def snapFileOf (s : Node) (rq : SnapReq) : SnapFile :=
  { index := s.fsm.index, term := s.fsm.term,
    config := if s.fsm.config.index > 0 then s.fsm.config else rq.config, data := s.fsm.applied }

/-- `snapRun` when it does not refuse: it publishes `snapFileOf` and reports the FSM's index -/
theorem snapRun_taken (s : Node) (rq : SnapReq) (hp : s.snapPending = some rq)
    (h1 : s.fsm.index ≠ s.snapIndex) (h2 : rq.minIndex ≤ s.fsm.index) :
    s.snapRun = ((s.withSnapPending none).publishSnapshot (snapFileOf s rq)).withSnapResult
      (some { task := rq.task, index := s.fsm.index }) := by
  unfold Node.snapRun
  rw [hp]
  dsimp only
  rw [if_neg (by exact h1), if_neg (by show ¬ s.fsm.index < rq.minIndex; omega)]
  rfl

/-- **`snapRun` publishes the FSM's `(index, term, applied)`**: when it does not refuse, the new file is
exactly the FSM's last applied index, its term and its contents; `snaps.index/term` follow; the result
reports that index; nothing else of the data moves. -/
theorem snapshot_at_applied_index (s : Node) (rq : SnapReq) (hp : s.snapPending = some rq)
    (h1 : s.fsm.index ≠ s.snapIndex) (h2 : rq.minIndex ≤ s.fsm.index) :
    s.snapRun.snapsDisk = (insertSnap (snapFileOf s rq) s.snapsDisk).take s.retain ∧
    s.snapRun.snapIndex = s.fsm.index ∧ s.snapRun.snapTerm = s.fsm.term ∧
    s.snapRun.snapResult = some { task := rq.task, index := s.fsm.index } ∧
    s.snapRun.snapPending = none ∧ s.snapRun.fsm = s.fsm ∧ s.snapRun.log = s.log ∧
    s.snapRun.commitIndex = s.commitIndex ∧ s.snapRun.configs = s.configs := by
  rw [snapRun_taken s rq hp h1 h2]
  obtain ⟨e1, e2, e3, e4, _, _, e7, e8, e9, _, _⟩ := publishSnapshot_fields (s.withSnapPending none) (snapFileOf s rq)
  exact ⟨e1, e2, e3, rfl, rfl, e8, e4, e7, e9⟩

/-- **the refusals are exactly the model's conditions**: `noUpdates` iff nothing was applied since the last
snapshot, else `snapshotThreshold` iff the FSM is below `snaps.index + threshold` (captured at request
time), else success; a refusal leaves the disk alone. -/
theorem snapRun_refusal (s : Node) (rq : SnapReq) (hp : s.snapPending = some rq) :
    s.snapRun.snapResult.map (·.err) =
      some (if s.fsm.index = s.snapIndex then "plain:noUpdates"
            else if s.fsm.index < rq.minIndex then "plain:snapshotThreshold" else "") ∧
    (s.fsm.index = s.snapIndex ∨ s.fsm.index < rq.minIndex →
      s.snapRun.snapsDisk = s.snapsDisk ∧ s.snapRun.snapIndex = s.snapIndex ∧ s.snapRun.trace = s.trace) := by
  unfold Node.snapRun
  rw [hp]
  dsimp only
  by_cases c1 : s.fsm.index = s.snapIndex
  · rw [if_pos (by exact c1), if_pos c1]
    exact ⟨rfl, fun _ => ⟨rfl, rfl, rfl⟩⟩
  · rw [if_neg (by exact c1), if_neg c1]
    by_cases c2 : s.fsm.index < rq.minIndex
    · rw [if_pos (by exact c2), if_pos c2]
      exact ⟨rfl, fun _ => ⟨rfl, rfl, rfl⟩⟩
    · rw [if_neg (by exact c2), if_neg c2]
      exact ⟨rfl, fun h => by rcases h with h | h <;> contradiction⟩

/-- without a pending request `snapRun` does nothing -/
theorem snapRun_idle (s : Node) (hp : s.snapPending = none) : s.snapRun = s := by
  unfold Node.snapRun; rw [hp]

/-- **a snapshot never contains an uncommitted update**: with `fsm.index ≤ commitIndex` (the FSM only
applies committed entries) every file on disk after `snapRun` was there before or covers no index above
the commit index. -/
theorem snapshot_no_uncommitted (s : Node) (hc : s.fsm.index ≤ s.commitIndex) :
    ∀ g ∈ s.snapRun.snapsDisk, g ∈ s.snapsDisk ∨ (g.index ≤ s.commitIndex ∧ g.data = s.fsm.applied) := by
  intro g hg
  cases hp : s.snapPending with
  | none => rw [snapRun_idle s hp] at hg; exact Or.inl hg
  | some rq =>
    by_cases hr : s.fsm.index = s.snapIndex ∨ s.fsm.index < rq.minIndex
    · rw [((snapRun_refusal s rq hp).2 hr).1] at hg; exact Or.inl hg
    · rw [(snapshot_at_applied_index s rq hp (by omega) (by omega)).1] at hg
      rcases mem_of_mem_insertSnap _ _ _ (List.mem_of_mem_take hg) with e | e
      · right; subst e; exact ⟨hc, rfl⟩
      · exact Or.inl e

example :
    let s : Node := { fsm := { index := 5, term := 2, applied := ["a", "b"] }, commitIndex := 6,
                      snapPending := some { task := 1, minIndex := 3 } }
    s.snapRun.snapsDisk = [{ index := 5, term := 2, data := ["a", "b"] }] ∧ s.snapRun.snapIndex = 5 := by decide

/-! ### 4. the effect of installing a snapshot -/

/-- **does the file just published survive retention?** `snapshotSink.done` lists the directory newest
first and keeps `retain` files: the new file (and hence `snaps.open()` of `snaps.index`) is there afterwards
iff fewer than `retain` files on disk are newer than it. -/
theorem publish_keeps_new_file_iff (s : Node) (f : SnapFile) :
    (s.publishSnapshot f).snapsDisk.find? (·.index == (s.publishSnapshot f).snapIndex) =
      if (s.snapsDisk.takeWhile (fun g => decide (g.index > f.index))).length < s.retain then some f else none :=
  find_take_insertSnap f s.snapsDisk s.retain

/-- when the head of a listing (newest first) is not newer than `i`, fewer than `r ≥ 1` of its files are -/
theorem newer_lt_retain {l : List SnapFile} {i r : Nat} (hr : r ≥ 1) (hh : ∀ g, l.head? = some g → g.index ≤ i) :
    (l.takeWhile (fun g => decide (g.index > i))).length < r := by
  cases l with
  | nil => exact hr
  | cons g gs =>
    have := hh g rfl
    rw [List.takeWhile_cons_of_neg (by simp; omega)]
    exact hr

/-- in particular it survives when `retain ≥ 1` and no file on disk is newer (the listing's head is the
newest), and then it is the head of the listing (what a restart reads) -/
theorem publish_keeps_new_file (s : Node) (f : SnapFile) (hr : s.retain ≥ 1)
    (hh : ∀ g, s.snapsDisk.head? = some g → g.index ≤ f.index) :
    (s.publishSnapshot f).snapsDisk.find? (·.index == (s.publishSnapshot f).snapIndex) = some f ∧
    (s.publishSnapshot f).snapsDisk.head? = some f := by
  constructor
  · rw [publish_keeps_new_file_iff, if_pos (newer_lt_retain hr hh)]
  · obtain ⟨tl, e⟩ := insertSnap_head f s.snapsDisk hh
    rw [(publishSnapshot_fields s f).1, e]
    obtain ⟨k, hk⟩ : ∃ k, s.retain = k + 1 := ⟨s.retain - 1, by omega⟩
    rw [hk]; rfl

/-- or when `retain` exceeds the number of files already there -/
theorem publish_keeps_new_file_of_room (s : Node) (f : SnapFile) (hr : s.retain > s.snapsDisk.length) :
    (s.publishSnapshot f).snapsDisk.find? (·.index == (s.publishSnapshot f).snapIndex) = some f := by
  rw [publish_keeps_new_file_iff, if_pos]
  exact Nat.lt_of_le_of_lt (List.takeWhile_prefix _).length_le hr

/-- … and it is deleted at once (`retain` newer files exist, e.g. `retain = 1` and an older snapshot is
installed): the restore that follows cannot open it. In a well-formed state `onInstallSnap` never gets there: its guard
`lastIndex ≤ commitIndex` (with `snaps.index ≤ commitIndex`) makes the installed file the newest one
(`install_discard_restore_ok`). -/
theorem publish_drops_new_file (s : Node) (f : SnapFile)
    (h : s.retain ≤ (s.snapsDisk.takeWhile (fun g => decide (g.index > f.index))).length) :
    (s.publishSnapshot f).snapsDisk.find? (·.index == (s.publishSnapshot f).snapIndex) = none := by
  rw [publish_keeps_new_file_iff, if_neg (by omega)]

/-- the file an install request writes -/
def fileOf (q : InstallReq) : SnapFile :=
  { index := q.lastIndex, term := q.lastTerm, config := q.lastConfig, data := q.data }

/-- the node's log holds the snapshot's last entry: `log.Contains(meta.index) && term matches` -/
def keepsLog (s : Node) (q : InstallReq) : Bool :=
  s.log.contains q.lastIndex && (s.entryTerm? q.lastIndex == some q.lastTerm)

/-- the tail of the discard branch, applied to the state after `sink.done` -/
def discardTail (p : Node) (c : Config) : Node :=
  (((p.clearLog.fsmRestore.withCommitIndex p.clearLog.fsmRestore.snapIndex).changeConfigR c).commitConfig).ret rSuccess

theorem discardTail_shape (p : Node) (c : Config) :
    discardTail p c =
      { p with log := NLog.reset p.snapIndex, lastLogIndex := p.snapIndex, lastLogTerm := p.snapTerm,
               trace := p.trace ++ [("clearLog", p.clearLog.durable)],
               fsm := p.clearLog.fsmRestore.fsm, panicked := p.clearLog.fsmRestore.panicked,
               commitIndex := p.snapIndex, configs := { committed := c, latest := c },
               leader := (discardTail p c).leader, result := rSuccess } := by
  unfold discardTail
  rw [commitConfig_eq, changeConfigR_shape, fsmRestore_shape]
  rfl

theorem discardTail_fields (p : Node) (c : Config) :
    (discardTail p c).log = NLog.reset p.snapIndex ∧ (discardTail p c).lastLogIndex = p.snapIndex ∧
    (discardTail p c).lastLogTerm = p.snapTerm ∧ (discardTail p c).snapIndex = p.snapIndex ∧
    (discardTail p c).snapTerm = p.snapTerm ∧ (discardTail p c).commitIndex = p.snapIndex ∧
    (discardTail p c).configs = { committed := c, latest := c } ∧
    (discardTail p c).snapsDisk = p.snapsDisk ∧ (discardTail p c).result = rSuccess ∧
    (discardTail p c).fsm = p.clearLog.fsmRestore.fsm ∧
    (discardTail p c).panicked = p.clearLog.fsmRestore.panicked ∧
    (discardTail p c).trace = p.trace ++ [("clearLog", p.clearLog.durable)] := by
  rw [discardTail_shape]
  exact ⟨rfl, rfl, rfl, rfl, rfl, rfl, rfl, rfl, rfl, rfl, rfl, rfl⟩

/-- A request ahead of the commit index: if the log already holds the snapshot's last entry nothing is
installed; otherwise the snapshot is stored and the log discarded. -/
theorem install_shape (s : Node) (q : InstallReq) (hterm : ¬ q.term < s.term)
    (hahead : s.commitIndex < q.lastIndex) :
    s.onInstallSnap q =
      if keepsLog s q = true then (installPre s q).ret rSuccess
      else discardTail ((installPre s q).publishSnapshot (fileOf q)) q.lastConfig := by
  have sd := sameData_installPre s q
  rw [onInstallSnap_eq, if_neg hterm, if_neg (by rw [sd.commitIndex]; omega)]
  have hk : ((installPre s q).log.contains q.lastIndex &&
      ((installPre s q).entryTerm? q.lastIndex == some q.lastTerm)) = keepsLog s q := by
    unfold keepsLog Node.entryTerm?
    rw [sd.log]
  rw [hk]
  rfl

theorem install_discard_shape (s : Node) (q : InstallReq) (hterm : ¬ q.term < s.term)
    (hahead : s.commitIndex < q.lastIndex) (hk : keepsLog s q = false) :
    s.onInstallSnap q = discardTail ((installPre s q).publishSnapshot (fileOf q)) q.lastConfig := by
  rw [install_shape s q hterm hahead, hk]; rfl

/-- a request that installs nothing (not ahead of the commit index, or the log holds its last entry): only
the common prefix runs -/
theorem install_nothing_shape (s : Node) (q : InstallReq) (hterm : ¬ q.term < s.term)
    (h : q.lastIndex ≤ s.commitIndex ∨ keepsLog s q = true) :
    s.onInstallSnap q = (installPre s q).ret rSuccess := by
  by_cases hc : q.lastIndex ≤ s.commitIndex
  · rw [onInstallSnap_eq, if_neg hterm, if_pos (by rw [(sameData_installPre s q).commitIndex]; exact hc)]
  · have hk : keepsLog s q = true := by
      rcases h with h | h
      · contradiction
      · exact h
    rw [install_shape s q hterm (by omega), hk]; rfl

/-- **`onInstallSnap` by cases**: a stale request is refused; one that is not ahead of the commit index, or whose last
entry the log holds, runs the common prefix only; any other stores the snapshot and discards the log -/
theorem onInstallSnap_cases (s : Node) (q : InstallReq) :
    (q.term < s.term ∧ s.onInstallSnap q = s.ret rStaleTerm) ∨
    (¬ q.term < s.term ∧ (q.lastIndex ≤ s.commitIndex ∨ keepsLog s q = true) ∧
      s.onInstallSnap q = (installPre s q).ret rSuccess) ∨
    (¬ q.term < s.term ∧ s.commitIndex < q.lastIndex ∧ keepsLog s q = false ∧
      s.onInstallSnap q = discardTail ((installPre s q).publishSnapshot (fileOf q)) q.lastConfig) := by
  by_cases hterm : q.term < s.term
  · exact Or.inl ⟨hterm, by rw [onInstallSnap_eq, if_pos hterm]⟩
  · by_cases hn : q.lastIndex ≤ s.commitIndex ∨ keepsLog s q = true
    · exact Or.inr (Or.inl ⟨hterm, hn, install_nothing_shape s q hterm hn⟩)
    · have hahead : s.commitIndex < q.lastIndex := by omega
      have hk : keepsLog s q = false := by
        cases hkk : keepsLog s q with
        | true => exact absurd (Or.inr hkk) hn
        | false => rfl
      exact Or.inr (Or.inr ⟨hterm, hahead, hk, install_discard_shape s q hterm hahead hk⟩)

theorem discardPre_fields (p : Node) (f : SnapFile) :
    (p.publishSnapshot f).clearLog.panicked = p.panicked ∧ (p.publishSnapshot f).clearLog.fsm = p.fsm ∧
    (p.publishSnapshot f).clearLog.snapIndex = f.index ∧
    (p.publishSnapshot f).clearLog.snapsDisk = (p.publishSnapshot f).snapsDisk := by
  obtain ⟨_, e2, _, _, _, _, _, e8, _, _, e11⟩ := publishSnapshot_fields p f
  exact ⟨e11, e8, e2, rfl⟩

theorem installPre_panicked (s : Node) (q : InstallReq) : (installPre s q).panicked = s.panicked := by
  unfold installPre
  split
  · rename_i h
    unfold Node.setTerm
    rw [if_pos (by omega), if_pos h]
    unfold Node.storeTermVote Node.point
    dsimp only
    split <;> rfl
  · rfl

/-- the common prefix with an equal term touches no storage -/
theorem installPre_trace_same_term (s : Node) (q : InstallReq) (he : q.term ≤ s.term) :
    (installPre s q).trace = s.trace := by
  unfold installPre
  rw [if_neg (by omega)]
  rfl

/-- what a request that installs nothing does: no data changes (`SameData`: log, last-log, snapshot
coordinates and directory, configurations, commit index, FSM, leader state all as before), it answers
success, and with an equal term there is no storage operation. -/
theorem install_nothing (s : Node) (q : InstallReq) (hterm : ¬ q.term < s.term)
    (h : q.lastIndex ≤ s.commitIndex ∨ keepsLog s q = true) :
    SameData s (s.onInstallSnap q) ∧ (s.onInstallSnap q).result = rSuccess ∧
    (s.onInstallSnap q).panicked = s.panicked ∧
    (q.term = s.term → (s.onInstallSnap q).trace = s.trace) := by
  rw [install_nothing_shape s q hterm h]
  exact ⟨SameData.trans (sameData_installPre s q) (sameData_ret _ _), rfl, installPre_panicked s q,
    fun he => installPre_trace_same_term s q (by omega)⟩

/-- **install_stale_ignored**: a stale or duplicated request — everything its snapshot covers is already
committed here — changes no data; only the reply (and the term adoption of the prefix). -/
theorem install_stale_ignored (s : Node) (q : InstallReq) (hterm : ¬ q.term < s.term)
    (hstale : q.lastIndex ≤ s.commitIndex) :
    SameData s (s.onInstallSnap q) ∧ (s.onInstallSnap q).result = rSuccess ∧
    (s.onInstallSnap q).panicked = s.panicked ∧
    (q.term = s.term → (s.onInstallSnap q).trace = s.trace) :=
  install_nothing s q hterm (Or.inl hstale)

/-- **keep branch** (the log holds the snapshot's last entry with the same term, hence everything the snapshot
covers): nothing is installed — no snapshot file is written, `snaps.index` does not move, the log is not
compacted, last-log index, commit index, FSM and configurations are untouched. (The entries up to
`lastIndex` are not yet applied here; storing the snapshot and compacting up to it would remove entries
the FSM still has to apply.) -/
theorem install_snapshot_keep (s : Node) (q : InstallReq) (hterm : ¬ q.term < s.term)
    (hk : keepsLog s q = true) :
    SameData s (s.onInstallSnap q) ∧ (s.onInstallSnap q).result = rSuccess ∧
    (s.onInstallSnap q).panicked = s.panicked ∧
    (q.term = s.term → (s.onInstallSnap q).trace = s.trace) :=
  install_nothing s q hterm (Or.inr hk)

/-- **discard branch** (the node's log does not hold the snapshot's last entry): afterwards the log is empty
at the snapshot index, last-log, snapshot and commit index all equal the snapshot index, both
configurations are the label's, the new file went through retention. -/
theorem install_snapshot_discard (s : Node) (q : InstallReq) (hterm : ¬ q.term < s.term)
    (hahead : s.commitIndex < q.lastIndex) (hk : keepsLog s q = false) :
    (s.onInstallSnap q).log = NLog.reset q.lastIndex ∧
    (s.onInstallSnap q).lastLogIndex = q.lastIndex ∧ (s.onInstallSnap q).lastLogTerm = q.lastTerm ∧
    (s.onInstallSnap q).snapIndex = q.lastIndex ∧ (s.onInstallSnap q).snapTerm = q.lastTerm ∧
    (s.onInstallSnap q).commitIndex = q.lastIndex ∧
    (s.onInstallSnap q).configs.latest = q.lastConfig ∧ (s.onInstallSnap q).configs.committed = q.lastConfig ∧
    (s.onInstallSnap q).snapsDisk = (insertSnap (fileOf q) s.snapsDisk).take s.retain ∧
    (s.onInstallSnap q).result = rSuccess := by
  rw [install_discard_shape s q hterm hahead hk]
  obtain ⟨e1, e2, e3, e4, e5, e6, e7, e8, e9, _⟩ := discardTail_fields ((installPre s q).publishSnapshot (fileOf q)) q.lastConfig
  have sd := sameData_installPre s q
  refine ⟨e1, e2, e3, e4, e5, e6, by rw [e7], by rw [e7], ?_, e9⟩
  rw [e8, (publishSnapshot_fields _ _).1, sd.snapsDisk, sd.retain]

/-- **discard branch, the FSM** — for an arbitrary snapshot directory: it becomes exactly the snapshot
`(lastIndex, lastTerm, data, lastConfig)` iff the file survived retention, i.e. fewer than `retain` files on
disk are newer than the one installed. Otherwise `snaps.open()` fails: the model panics and the FSM keeps
its old content. In a well-formed state (`SnapsWF`, `snapIndex ≤ commitIndex`) the first case always
applies: `install_discard_restore_ok`. -/
theorem install_snapshot_discard_fsm (s : Node) (q : InstallReq) (hterm : ¬ q.term < s.term)
    (hahead : s.commitIndex < q.lastIndex) (hk : keepsLog s q = false) :
    if (s.snapsDisk.takeWhile (fun g => decide (g.index > q.lastIndex))).length < s.retain then
      (s.onInstallSnap q).fsm =
        { index := q.lastIndex, term := q.lastTerm, applied := q.data, config := q.lastConfig } ∧
      (s.onInstallSnap q).panicked = s.panicked
    else
      (s.onInstallSnap q).fsm = s.fsm ∧ (s.panicked = none → (s.onInstallSnap q).panicked ≠ none) := by
  rw [install_discard_shape s q hterm hahead hk]
  obtain ⟨_, _, _, _, _, _, _, _, _, e10, e11, _⟩ :=
    discardTail_fields ((installPre s q).publishSnapshot (fileOf q)) q.lastConfig
  have sd := sameData_installPre s q
  have hfind := publish_keeps_new_file_iff (installPre s q) (fileOf q)
  rw [sd.snapsDisk, sd.retain] at hfind
  change _ = if (s.snapsDisk.takeWhile (fun g => decide (g.index > q.lastIndex))).length < s.retain then _ else _ at hfind
  rw [(publishSnapshot_fields _ _).2.1] at hfind
  obtain ⟨d1, d2, d3, d4⟩ := discardPre_fields (installPre s q) (fileOf q)
  rw [e10, e11]
  split
  · rename_i hlt
    rw [if_pos hlt] at hfind
    obtain ⟨a, b⟩ := fsmRestore_fsm ((installPre s q).publishSnapshot (fileOf q)).clearLog (fileOf q)
      (by rw [d3]; show q.lastIndex ≠ 0; omega) (by rw [d3, d4]; exact hfind)
    exact ⟨a, by rw [b, d1]; exact installPre_panicked s q⟩
  · rename_i hlt
    rw [if_neg hlt] at hfind
    obtain ⟨a, b⟩ := fsmRestore_missing ((installPre s q).publishSnapshot (fileOf q)).clearLog
      (by rw [d3, d4]; exact hfind)
    refine ⟨by rw [a, d2]; exact sd.fsm, fun hp => b ?_⟩
    rw [d1, installPre_panicked]; exact hp

/-- the previous theorem when no file on disk is newer than the one installed -/
theorem install_snapshot_discard_fsm_ok (s : Node) (q : InstallReq) (hterm : ¬ q.term < s.term)
    (hahead : s.commitIndex < q.lastIndex) (hk : keepsLog s q = false)
    (hr : s.retain ≥ 1) (hh : ∀ g, s.snapsDisk.head? = some g → g.index ≤ q.lastIndex) :
    (s.onInstallSnap q).fsm =
      { index := q.lastIndex, term := q.lastTerm, applied := q.data, config := q.lastConfig } ∧
    (s.onInstallSnap q).panicked = s.panicked := by
  have h := install_snapshot_discard_fsm s q hterm hahead hk
  rw [if_pos (newer_lt_retain hr hh)] at h
  exact h

/-- The snapshot state is well formed: the directory is listed newest first without duplicates, `snaps.index`
is the newest file's index (`snapshots.index` is read from the directory on open and updated by
`sink.done`), and the snapshot covers committed entries only (`snaps.index ≤ commitIndex`: a snapshot is
taken at the applied index; a restart and an installation set the commit index to the snapshot index). -/
structure SnapsWF (s : Node) : Prop where
  sorted : s.snapsDisk.Pairwise (fun a b => a.index > b.index)
  head : ∀ g, s.snapsDisk.head? = some g → g.index = s.snapIndex
  le_commit : s.snapIndex ≤ s.commitIndex

/-- with `SnapsWF` a request ahead of the commit index is newer than every file on disk -/
theorem snapsWF_head_le (s : Node) (q : InstallReq) (hwf : SnapsWF s) (hahead : s.commitIndex < q.lastIndex) :
    ∀ g, s.snapsDisk.head? = some g → g.index ≤ q.lastIndex := by
  intro g hg; have := hwf.head g hg; have := hwf.le_commit; omega

/-- **install_discard_restore_ok**: in a well-formed state with `retain ≥ 1`, the file a discard-branch
installation writes always survives the retention pass (the guard `lastIndex > commitIndex ≥ snaps.index`
makes it the newest), so the restore that follows opens it: the FSM is exactly the snapshot, nothing
panics (no `fsm.restoreOpen`), and the file heads the directory listing. -/
theorem install_discard_restore_ok (s : Node) (q : InstallReq) (hterm : ¬ q.term < s.term)
    (hahead : s.commitIndex < q.lastIndex) (hk : keepsLog s q = false)
    (hr : s.retain ≥ 1) (hwf : SnapsWF s) :
    (s.onInstallSnap q).fsm =
      { index := q.lastIndex, term := q.lastTerm, applied := q.data, config := q.lastConfig } ∧
    (s.onInstallSnap q).panicked = s.panicked ∧
    (s.onInstallSnap q).snapsDisk.head? = some (fileOf q) := by
  have hh := snapsWF_head_le s q hwf hahead
  obtain ⟨a, b⟩ := install_snapshot_discard_fsm_ok s q hterm hahead hk hr hh
  refine ⟨a, b, ?_⟩
  rw [(install_snapshot_discard s q hterm hahead hk).2.2.2.2.2.2.2.2.1]
  exact (publish_keeps_new_file s (fileOf q) hr hh).2

/-- **install_never_lowers_snapshot**: whatever the request (any term, any coordinates), the snapshot index
after `onInstallSnap` is at least the one before — in a state whose snapshot covers committed entries only
(`snapIndex ≤ commitIndex`, part of `SnapsWF`; it is what makes the commit-index guard sufficient). -/
theorem install_never_lowers_snapshot (s : Node) (q : InstallReq) (hle : s.snapIndex ≤ s.commitIndex) :
    s.snapIndex ≤ (s.onInstallSnap q).snapIndex := by
  rcases onInstallSnap_cases s q with ⟨_, e⟩ | ⟨hterm, hn, _⟩ | ⟨hterm, hahead, hk, _⟩
  · rw [e]; exact Nat.le_refl _
  · rw [(install_nothing s q hterm hn).1.snapIndex]; exact Nat.le_refl _
  · rw [(install_snapshot_discard s q hterm hahead hk).2.2.2.1]; omega

/-- an installation request of any kind keeps the snapshot state well formed (`retain ≥ 1`) -/
theorem install_preserves_snapsWF (s : Node) (q : InstallReq) (hr : s.retain ≥ 1) (hwf : SnapsWF s) :
    SnapsWF (s.onInstallSnap q) := by
  rcases onInstallSnap_cases s q with ⟨_, e⟩ | ⟨hterm, hn, _⟩ | ⟨hterm, hahead, hk, _⟩
  · rw [e]; exact ⟨hwf.sorted, hwf.head, hwf.le_commit⟩
  · have sd := (install_nothing s q hterm hn).1
    exact ⟨by rw [sd.snapsDisk]; exact hwf.sorted, by rw [sd.snapsDisk, sd.snapIndex]; exact hwf.head,
      by rw [sd.snapIndex, sd.commitIndex]; exact hwf.le_commit⟩
  · have hnew : s.snapIndex < q.lastIndex := by have := hwf.le_commit; omega
    obtain ⟨_, _, _, e4, _, e6, _, _, e9, _⟩ := install_snapshot_discard s q hterm hahead hk
    have hins : insertSnap (fileOf q) s.snapsDisk = fileOf q :: s.snapsDisk := by
      cases hd : s.snapsDisk with
      | nil => rfl
      | cons g gs =>
        have hg := hwf.head g (by rw [hd]; rfl)
        unfold insertSnap
        rw [if_pos (by show q.lastIndex > g.index; omega)]
    obtain ⟨k, hk'⟩ : ∃ k, s.retain = k + 1 := ⟨s.retain - 1, by omega⟩
    rw [hins, hk', List.take_succ_cons] at e9
    refine ⟨?_, ?_, by rw [e4, e6]; exact Nat.le_refl _⟩
    · rw [e9, List.pairwise_cons]
      refine ⟨fun x hx => ?_, List.Pairwise.sublist (List.take_sublist _ _) hwf.sorted⟩
      have hx' : x ∈ s.snapsDisk := List.mem_of_mem_take hx
      show q.lastIndex > x.index
      cases hd : s.snapsDisk with
      | nil => rw [hd] at hx'; cases hx'
      | cons g gs =>
        have hg := hwf.head g (by rw [hd]; rfl)
        have hs := hwf.sorted
        rw [hd] at hx' hs
        rcases List.mem_cons.mp hx' with e | e
        · subst e; omega
        · have := (List.pairwise_cons.mp hs).1 x e; omega
    · intro g hg
      rw [e9] at hg
      injection hg with hg
      subst hg
      rw [e4]; rfl

/-- Non-vacuity of both branches. -/
example :
    let s : Node := { nid := 1, log := { prev := 0, entries := [{ index := 1, term := 1 }, { index := 2, term := 1 }] },
                      lastLogIndex := 2, lastLogTerm := 1 }
    keepsLog s { lastIndex := 2, lastTerm := 1 } = true ∧ keepsLog s { lastIndex := 2, lastTerm := 3 } = false ∧
    SnapsWF s ∧
    (s.onInstallSnap { term := 1, src := 2, lastIndex := 2, lastTerm := 3, data := ["x"] }).fsm.applied = ["x"] := by
  refine ⟨by decide, by decide, ⟨by decide, by decide, by decide⟩, by decide⟩

/-- The hypothesis `snapIndex ≤ commitIndex` of `install_discard_restore_ok` / `install_never_lowers_snapshot`
cannot be dropped: in a state with a snapshot at 9 but commit index 3 (not reachable any more: it was what
the keep branch of `onInstallSnapRequest` left when it still stored the snapshot without moving the commit
index) a request for 5 passes the commit-index guard, lowers `snaps.index` and, with `retain = 1`, deletes
the file it has just written. -/
example :
    let s : Node := { nid := 1, snapIndex := 9, snapsDisk := [{ index := 9, term := 1 }], commitIndex := 3 }
    let s' := s.onInstallSnap { term := 1, src := 2, lastIndex := 5, lastTerm := 1, data := ["x"] }
    ¬ SnapsWF s ∧ s'.snapIndex = 5 ∧ s'.panicked = some "fsm.restoreOpen" := by
  refine ⟨fun h => absurd h.le_commit (by decide), by decide, by decide⟩

/-- The keep branch installs nothing: `fsm.index = commitIndex = 2`, segments start at 0 and 4, request for a
snapshot at 5 whose last entry the log holds — afterwards log, snapshot index and commit index are as before
and the next apply reads entries 3..6. (Before the repair the handler stored the snapshot and compacted at
its index: `log.prev = 4 > fsm.index`, and that apply failed in `Log.Get(3)`.) -/
example :
    let s : Node := { nid := 1, term := 1,
                      log := { prev := 0, entries := (List.range 6).map (fun k => { index := k + 1, term := 1, typ := etNop }),
                               segs := [0, 4] },
                      lastLogIndex := 6, lastLogTerm := 1, commitIndex := 2, fsm := { index := 2, term := 1 } }
    let s' := s.onInstallSnap { term := 1, src := 2, lastIndex := 5, lastTerm := 1 }
    keepsLog s { term := 1, src := 2, lastIndex := 5, lastTerm := 1 } = true ∧
    s'.panicked = none ∧ s'.log.prev = 0 ∧ s'.fsm.index = 2 ∧ s'.commitIndex = 2 ∧ s'.snapIndex = 0 ∧
    s'.snapsDisk = [] ∧ s'.trace = [] ∧
    ((s'.setCommitIndexR 6).1.applyCommitted).panicked = none ∧
    ((s'.setCommitIndexR 6).1.applyCommitted).fsm.index = 6 := by
  refine ⟨by decide, by decide, by decide, by decide, by decide, by decide, by decide, by decide, by decide, by decide⟩


/-! ### 5. a follower can still be served after compaction -/

theorem compactLog_fields (s : Node) (n : Nat) :
    (s.compactLog n).log = s.log.removeLTE n ∧ (s.compactLog n).snapIndex = s.snapIndex ∧
    (s.compactLog n).lastLogIndex = s.lastLogIndex ∧ (s.compactLog n).commitIndex = s.commitIndex ∧
    (s.compactLog n).snapsDisk = s.snapsDisk ∧ (s.compactLog n).fsm = s.fsm ∧
    (s.compactLog n).configs = s.configs := ⟨rfl, rfl, rfl, rfl, rfl, rfl, rfl⟩

/-- After `compactLog n` with `n ≤ snapIndex` (and the log reaching the snapshot before), the first log
index is still `≤ snapIndex`: every index is either in the log (`> log.prev`) or covered by the snapshot,
and the last index and all retained entries are unchanged. -/
theorem follower_servable (s : Node) (n : Nat) (hok : SegsOK s.log) (hn : n ≤ s.snapIndex)
    (hp : s.log.prev ≤ s.snapIndex) :
    (s.compactLog n).log.prev ≤ (s.compactLog n).snapIndex ∧
    (s.compactLog n).log.last = s.log.last ∧
    (∀ j, j ≤ (s.compactLog n).snapIndex ∨ (s.compactLog n).log.get? j = s.log.get? j) ∧
    SegsOK (s.compactLog n).log := by
  obtain ⟨_, _, _, hor, hl, hg, hk⟩ := removeLTE_whole_segments s.log n hok
  have hle : (s.log.removeLTE n).prev ≤ s.snapIndex := by rcases hor with e | e <;> omega
  refine ⟨hle, hl, fun j => ?_, hk⟩
  by_cases hj : j ≤ s.snapIndex
  · exact Or.inl hj
  · exact Or.inr (hg j (by omega))

end C09
end Raft

#print axioms Raft.C09.canLTE_bounds
#print axioms Raft.C09.canLTE_le
#print axioms Raft.C09.canLTE_maximal
#print axioms Raft.C09.removeLTE_prev
#print axioms Raft.C09.removeLTE_entries
#print axioms Raft.C09.removeLTE_segs
#print axioms Raft.C09.removeLTE_flushed
#print axioms Raft.C09.removeLTE_whole_segments
#print axioms Raft.C09.removeLTE_noop
#print axioms Raft.C09.foldl_le_init
#print axioms Raft.C09.reply_log
#print axioms Raft.C09.reply_ldr
#print axioms Raft.C09.reply_snapIndex
#print axioms Raft.C09.notifyFlr_log
#print axioms Raft.C09.compaction_never_beyond_snapshot
#print axioms Raft.C09.onSnapshotTaken_prev_le
#print axioms Raft.C09.onSnapshotTaken_removeLTE_le
#print axioms Raft.C09.checkLogCompact_effect
#print axioms Raft.C09.snapshot_at_applied_index
#print axioms Raft.C09.snapRun_refusal
#print axioms Raft.C09.snapRun_idle
#print axioms Raft.C09.snapshot_no_uncommitted
#print axioms Raft.C09.publish_keeps_new_file_iff
#print axioms Raft.C09.publish_keeps_new_file
#print axioms Raft.C09.publish_keeps_new_file_of_room
#print axioms Raft.C09.publish_drops_new_file
#print axioms Raft.C09.discardTail_fields
#print axioms Raft.C09.install_shape
#print axioms Raft.C09.install_discard_shape
#print axioms Raft.C09.install_nothing_shape
#print axioms Raft.C09.discardPre_fields
#print axioms Raft.C09.installPre_panicked
#print axioms Raft.C09.installPre_trace_same_term
#print axioms Raft.C09.install_nothing
#print axioms Raft.C09.install_stale_ignored
#print axioms Raft.C09.install_snapshot_keep
#print axioms Raft.C09.install_snapshot_discard
#print axioms Raft.C09.install_snapshot_discard_fsm
#print axioms Raft.C09.install_snapshot_discard_fsm_ok
#print axioms Raft.C09.snapsWF_head_le
#print axioms Raft.C09.install_discard_restore_ok
#print axioms Raft.C09.install_never_lowers_snapshot
#print axioms Raft.C09.install_preserves_snapsWF
#print axioms Raft.C09.compactLog_fields
#print axioms Raft.C09.follower_servable
#print axioms Raft.Repl.install_match_index
