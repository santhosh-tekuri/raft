/-
C12 — Snapshots are labelled with the right index, term and membership (node-local part).

PROVED here, for every state and input:
* the label's `(index, term)` is the FSM's, and the FSM's `(index, term)` after applying from the log is
  `(upto, term of entry upto)`;
* `fsm.config` tracks the applied prefix: `fsmApplyLogTo` sets it to the newest configuration entry in the
  applied range (else keeps it), `fsmApplyItems` to the newest configuration item (else keeps it),
  `fsmRestore` to the label's; hence the invariant `ConfigTracks` ("`fsm.config` is the newest configuration
  entry at or below `fsm.index` in log ∪ label") is preserved by `fsmApplyLogTo`, unconditionally;
* `snapRun` labels the snapshot with `fsm.config` when the FSM has one, else with the configuration
  captured at request time; with `ConfigTracks` the label is the configuration in force at the snapshot index;
* after a restart with no configuration entry above the snapshot, and after a discard-branch installation,
  `configs.latest` (and `committed`) is the label's configuration.

NOT proved here (checked by nodediff with the ordering point at the start of the snapshot goroutine, on real
meta files): that the interleavings of the three goroutines are the ones the synchronous model produces, and
the comparison with the cluster-wide ledger of configuration entries.
-/
import RaftVerif.Props.C10
import RaftVerif.Lemmas.ShapeSnap
import RaftVerif.Lemmas.ShapeApply

namespace Raft
namespace C12
open Node

/-! ### 1. index and term of the label -/

/-- `fsmApplyLogTo` when there is something to apply and the log holds it: the FSM moves to `upto`, appends
the updates of the range, takes the term of the last entry and the newest configuration of the range. -/
theorem fsmApplyLogTo_fsm (s : Node) (upto : Nat) (h1 : s.fsm.index < upto) (h2 : s.log.prev ≤ s.fsm.index)
    (h3 : upto ≤ s.log.last) :
    (s.fsmApplyLogTo upto).fsm =
      { index := upto,
        term := ((C03.slice s.log s.fsm.index upto).getLast?.map (·.term)).getD s.fsm.term,
        applied := s.fsm.applied ++ ((C03.slice s.log s.fsm.index upto).filter (·.typ == etUpdate)).map (·.data),
        config := (((C03.slice s.log s.fsm.index upto).filterMap Entry.config?).getLast?).getD s.fsm.config } := by
  rw [fsmApplyLogTo_shape, if_pos (Applies.of_inside h1 h2 h3)]; rfl

/-- the last entry of the applied range is entry `upto` -/
theorem applyRange_getLast (s : Node) (upto : Nat) (h1 : s.fsm.index < upto) (h2 : s.log.prev ≤ s.fsm.index)
    (h3 : upto ≤ s.log.last) : (C03.slice s.log s.fsm.index upto).getLast? = s.log.get? upto := by
  have hlen : (C03.slice s.log s.fsm.index upto).length = upto - s.fsm.index := C03.slice_length s.log _ _ h2 h3
  rw [List.getLast?_eq_getElem?, hlen]
  unfold C03.slice NLog.get?
  rw [List.getElem?_take_of_lt (by omega), List.getElem?_drop, if_pos (by omega)]
  congr 1
  omega

/-- **the FSM's `(index, term)` is the last applied entry's** -/
theorem fsm_index_term_of_last_applied (s : Node) (upto : Nat) (h1 : s.fsm.index < upto)
    (h2 : s.log.prev ≤ s.fsm.index) (h3 : upto ≤ s.log.last) :
    (s.fsmApplyLogTo upto).fsm.index = upto ∧
    ∃ e, s.log.get? upto = some e ∧ (s.fsmApplyLogTo upto).fsm.term = e.term := by
  rw [fsmApplyLogTo_fsm s upto h1 h2 h3, applyRange_getLast s upto h1 h2 h3]
  have : ∃ e, s.log.get? upto = some e := by
    unfold NLog.get? NLog.last at *
    rw [if_pos (by omega)]
    exact ⟨_, List.getElem?_eq_getElem (by omega)⟩
  obtain ⟨e, he⟩ := this
  exact ⟨rfl, e, he, by rw [he]; rfl⟩

/-- **label_index_term**: the snapshot `snapRun` publishes carries the FSM's `(index, term)` — the index and
term of the last entry applied (previous theorem) — and its contents. -/
theorem label_index_term (s : Node) (rq : SnapReq) (hp : s.snapPending = some rq)
    (h1 : s.fsm.index ≠ s.snapIndex) (h2 : rq.minIndex ≤ s.fsm.index) :
    s.snapRun.snapsDisk = (insertSnap (C09.snapFileOf s rq) s.snapsDisk).take s.retain ∧
    (C09.snapFileOf s rq).index = s.fsm.index ∧ (C09.snapFileOf s rq).term = s.fsm.term ∧
    (C09.snapFileOf s rq).data = s.fsm.applied ∧
    s.snapRun.snapIndex = s.fsm.index ∧ s.snapRun.snapTerm = s.fsm.term := by
  obtain ⟨a, b, c, _⟩ := C09.snapshot_at_applied_index s rq hp h1 h2
  exact ⟨a, rfl, rfl, rfl, b, c⟩

/-! ### 2. `fsm.config` tracks the applied prefix -/

/-- `fsmApplyLogTo` never changes the log, and either leaves the FSM alone (nothing to apply, or it
panics because the log does not hold the range) or applies exactly the slice `(fsm.index, upto]`. -/
theorem fsmApplyLogTo_cases (s : Node) (upto : Nat) :
    (s.fsmApplyLogTo upto).log = s.log ∧
    ((s.fsmApplyLogTo upto).fsm = s.fsm ∨
     (s.fsm.index < upto ∧ s.log.prev ≤ s.fsm.index ∧ (C03.slice s.log s.fsm.index upto).length = upto - s.fsm.index ∧
      (s.fsmApplyLogTo upto).fsm.index = upto ∧
      (s.fsmApplyLogTo upto).fsm.config =
        (((C03.slice s.log s.fsm.index upto).filterMap Entry.config?).getLast?).getD s.fsm.config)) := by
  rw [fsmApplyLogTo_shape]
  refine ⟨rfl, ?_⟩
  by_cases h : Applies s upto
  · exact Or.inr ⟨h.1, h.2.1, h.2.2, by rw [if_pos h]; exact ⟨rfl, rfl⟩⟩
  · exact Or.inl (if_neg h)

/-- the newest configuration entry with index `≤ i` in the log, else `label` (the snapshot's) -/
def newestConfigUpTo (log : NLog) (label : Config) (i : Nat) : Config :=
  (((log.entries.take (i - log.prev)).filterMap Entry.config?).getLast?).getD label

/-- `fsm.config` is the configuration in force at `fsm.index`: the newest configuration entry at or below it
in log ∪ label. -/
def ConfigTracks (s : Node) (label : Config) : Prop :=
  s.fsm.config = newestConfigUpTo s.log label s.fsm.index

theorem getLast?_append_getD {α : Type} (l1 l2 : List α) (d : α) :
    ((l1 ++ l2).getLast?).getD d = (l2.getLast?).getD ((l1.getLast?).getD d) := by
  rw [List.getLast?_append]
  cases l2.getLast? <;> rfl

/-- **`fsmApplyLogTo` preserves `ConfigTracks`** — for every state, bound and label (a panicking call
leaves the FSM alone). -/
theorem fsmApplyLogTo_config_tracks (s : Node) (upto : Nat) (label : Config) (h : ConfigTracks s label) :
    ConfigTracks (s.fsmApplyLogTo upto) label := by
  obtain ⟨hl, hc⟩ := fsmApplyLogTo_cases s upto
  unfold ConfigTracks at *
  rw [hl]
  rcases hc with hc | ⟨h1, h2, h3, h4, h5⟩
  · rw [hc]; exact h
  · rw [h5, h4, h]
    unfold newestConfigUpTo C03.slice
    have hsplit : upto - s.log.prev = (s.fsm.index - s.log.prev) + (upto - s.fsm.index) := by omega
    rw [hsplit, List.take_add, List.filterMap_append, getLast?_append_getD]

/-- a configuration item sets `fsm.config`, any other item leaves it -/
theorem itemStep_config (s : Node) (q : QItem) :
    (itemStep s q).fsm.config = (q.toEntry.config?).getD s.fsm.config := by
  rw [itemStep_eq]

/-- `fsmApplyItems`: the configuration becomes the newest configuration item handed over (else stays) -/
theorem fsmApplyItems_config (s : Node) (qs : List QItem) :
    (s.fsmApplyItems qs).fsm.config =
      ((qs.filterMap (fun q => q.toEntry.config?)).getLast?).getD s.fsm.config := by
  induction qs generalizing s with
  | nil => rfl
  | cons q qs ih =>
    rw [fsmApplyItems_cons, ih, itemStep_config]
    cases hq : q.toEntry.config? with
    | some c =>
      rw [List.filterMap_cons_some (f := fun q : QItem => q.toEntry.config?) hq]
      cases hl : List.filterMap (fun q : QItem => q.toEntry.config?) qs with
      | nil => rfl
      | cons a l => rw [List.getLast?_cons_cons]; rfl
    | none =>
      rw [List.filterMap_cons_none (f := fun q : QItem => q.toEntry.config?) hq]
      rfl

/-- `fsmRestore` takes the label's configuration (when the meta file is there) -/
theorem fsmRestore_config (s : Node) (f : SnapFile) (h0 : s.snapIndex ≠ 0)
    (hf : s.snapsDisk.find? (·.index == s.snapIndex) = some f) :
    s.fsmRestore.fsm.config = f.config ∧ s.fsmRestore.fsm.index = f.index := by
  rw [(fsmRestore_fsm s f h0 hf).1]; exact ⟨rfl, rfl⟩

/-- right after a restore onto an emptied log the invariant holds with the label just restored -/
theorem config_tracks_after_restore (s : Node) (f : SnapFile) (hfsm : s.fsm.config = f.config)
    (hlog : s.log.entries = []) : ConfigTracks s f.config := by
  unfold ConfigTracks newestConfigUpTo
  rw [hlog, hfsm]; simp

/-! ### 3. the membership in the label -/

/-- **label_config_current**: `snapRun` labels the snapshot with the FSM's configuration when it has one
(`index > 0`), else with the configuration captured when the request was accepted. -/
theorem label_config (s : Node) (rq : SnapReq) :
    (C09.snapFileOf s rq).config = if s.fsm.config.index > 0 then s.fsm.config else rq.config := rfl

/-- … so with `ConfigTracks` the label is the configuration in force at the snapshot index: the newest
configuration entry at or below the label's index in log ∪ old label — never the (possibly older)
configuration captured at request time. -/
theorem label_config_current (s : Node) (rq : SnapReq) (label : Config) (h : ConfigTracks s label)
    (hpos : s.fsm.config.index > 0) :
    (C09.snapFileOf s rq).config = newestConfigUpTo s.log label (C09.snapFileOf s rq).index := by
  rw [label_config, if_pos hpos]; exact h

/-- what `onTakeSnapshot` captures for the fallback: the committed configuration at request time -/
theorem request_captures_committed (s : Node) (task threshold : Nat)
    (h : s.snapPending = none ∧ s.snapResult = none) :
    (s.onTakeSnapshot task threshold).snapPending =
      some { task := task, minIndex := s.snapIndex + threshold, config := s.configs.committed } := by
  unfold Node.onTakeSnapshot
  rw [if_neg (by rw [h.1, h.2]; simp)]
  rfl

/-- Non-vacuity (the F5 scenario): the request captured configuration `old` (index 1); meanwhile the FSM
applied a configuration entry at index 3; the label is the newer one. -/
example :
    let new : Config := { nodes := [{ id := 1 }, { id := 2 }], index := 3, term := 1 }
    let old : Config := { nodes := [{ id := 1 }], index := 1, term := 1 }
    let s : Node := { fsm := { index := 4, term := 1, config := new },
                      snapPending := some { task := 1, minIndex := 0, config := old } }
    (s.snapRun.snapsDisk.map (·.config)) = [new] := by decide

/-! ### 4. the membership after restart / installation comes from the label -/

/-- **restart_config_from_label**: after a restart with no configuration entry above the snapshot, the node's
`latest` and `committed` configurations are the label's; and the restored FSM carries it too. -/
theorem restart_config_from_label (d : Durable) (r : Nat) (sor : Bool) (hwf : C10.DurWF d)
    (hnone : ∀ e ∈ C10.window (C10.logOf d) (C10.snapOf d).index (C10.logOf d).last, e.typ ≠ etConfig)
    (hcid : d.cid ≠ 0) (hnid : d.nid ≠ 0) :
    ∃ n, restart d r sor = some n ∧ n.configs.latest = (C10.snapOf d).config ∧
      n.configs.committed = (C10.snapOf d).config ∧
      ((C10.snapOf d).index > 0 → n.fsm.config = (C10.snapOf d).config) := by
  obtain ⟨hf, hl, hc⟩ := C10.restart_configs_none d r sor hwf hnone
  obtain ⟨n, hn, _⟩ := C10.restart_ok_contiguous d r sor hcid hnid hf
  obtain ⟨h1, _, _, _, _, h6, _⟩ := C10.restart_fsm d r sor n hn
  refine ⟨n, hn, by rw [h6]; exact hl, by rw [h6]; exact hc, fun hpos => ?_⟩
  rw [if_pos hpos] at h1
  rw [h1.1]

/-- in general `latest` after a restart is the newest configuration entry above the snapshot, else the label's -/
theorem restart_latest_newest (d : Durable) (r : Nat) (sor : Bool) (hwf : C10.DurWF d)
    (hok : C10.NoDecodeErr (C10.window (C10.logOf d) (C10.snapOf d).index (C10.logOf d).last)) :
    (restartNode d r sor).configs.latest = ((C10.configsAbove d)[0]?).getD (C10.snapOf d).config :=
  (C10.restart_configs d r sor hwf hok).2.1

/-- **install_config_from_label**: after a discard-branch installation `latest` and `committed` are the
label's configuration, and (the file having survived retention) so is the FSM's. -/
theorem install_config_from_label (s : Node) (q : InstallReq) (hterm : ¬ q.term < s.term)
    (hahead : s.commitIndex < q.lastIndex) (hk : C09.keepsLog s q = false) :
    (s.onInstallSnap q).configs.latest = (C09.fileOf q).config ∧
    (s.onInstallSnap q).configs.committed = (C09.fileOf q).config ∧
    (s.retain ≥ 1 → (∀ g, s.snapsDisk.head? = some g → g.index ≤ q.lastIndex) →
      (s.onInstallSnap q).fsm.config = (C09.fileOf q).config ∧
      ConfigTracks (s.onInstallSnap q) (C09.fileOf q).config) := by
  obtain ⟨e1, _, _, _, _, _, e7, e8, _⟩ := C09.install_snapshot_discard s q hterm hahead hk
  refine ⟨e7, e8, fun hr hh => ?_⟩
  obtain ⟨f1, _⟩ := C09.install_snapshot_discard_fsm_ok s q hterm hahead hk hr hh
  have hc : (s.onInstallSnap q).fsm.config = (C09.fileOf q).config := by rw [f1]; rfl
  exact ⟨hc, config_tracks_after_restore _ _ hc (by rw [e1]; rfl)⟩

/-- … in a well-formed snapshot state (`C09.SnapsWF`) with `retain ≥ 1` unconditionally: the label's
configuration is what the node and its FSM hold after a discard-branch installation. -/
theorem install_config_from_label_wf (s : Node) (q : InstallReq) (hterm : ¬ q.term < s.term)
    (hahead : s.commitIndex < q.lastIndex) (hk : C09.keepsLog s q = false) (hr : s.retain ≥ 1)
    (hwf : C09.SnapsWF s) :
    (s.onInstallSnap q).configs.latest = (C09.fileOf q).config ∧
    (s.onInstallSnap q).configs.committed = (C09.fileOf q).config ∧
    (s.onInstallSnap q).fsm.config = (C09.fileOf q).config ∧
    ConfigTracks (s.onInstallSnap q) (C09.fileOf q).config := by
  obtain ⟨a, b, c⟩ := install_config_from_label s q hterm hahead hk
  obtain ⟨d, e⟩ := c hr (C09.snapsWF_head_le s q hwf hahead)
  exact ⟨a, b, d, e⟩

/-- a request that installs nothing (stale, or the log already holds its last entry) leaves configurations
and the FSM's configuration alone -/
theorem install_nothing_keeps_config (s : Node) (q : InstallReq) (hterm : ¬ q.term < s.term)
    (h : q.lastIndex ≤ s.commitIndex ∨ C09.keepsLog s q = true) :
    (s.onInstallSnap q).configs = s.configs ∧ (s.onInstallSnap q).fsm = s.fsm := by
  have sd := (C09.install_nothing s q hterm h).1
  exact ⟨sd.configs, sd.fsm⟩

end C12
end Raft

#print axioms Raft.C12.fsmApplyLogTo_fsm
#print axioms Raft.C12.applyRange_getLast
#print axioms Raft.C12.fsm_index_term_of_last_applied
#print axioms Raft.C12.label_index_term
#print axioms Raft.C12.fsmApplyLogTo_cases
#print axioms Raft.C12.getLast?_append_getD
#print axioms Raft.C12.fsmApplyLogTo_config_tracks
#print axioms Raft.C12.fsmApplyItems_cons
#print axioms Raft.C12.itemStep_config
#print axioms Raft.C12.fsmApplyItems_config
#print axioms Raft.C12.fsmRestore_config
#print axioms Raft.C12.config_tracks_after_restore
#print axioms Raft.C12.label_config
#print axioms Raft.C12.label_config_current
#print axioms Raft.C12.request_captures_committed
#print axioms Raft.C12.restart_config_from_label
#print axioms Raft.C12.restart_latest_newest
#print axioms Raft.C12.install_config_from_label
#print axioms Raft.C12.install_config_from_label_wf
#print axioms Raft.C12.install_nothing_keeps_config
