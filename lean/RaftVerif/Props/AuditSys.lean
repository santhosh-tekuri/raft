/-
AUDIT (vacuity / weakness) of the cluster-level theorems over the fixed-membership systems
`Election` ⊂ `Replication` ⊂ `Commit` ⊂ `SysInv.ReachableG` ⊂ `C07Sys.Reachable`
(Props/C01Sys, C04Sys, C02Sys, C03Sys, C06Sys, C07Sys, C10Sys, C16Sys, C19Sys).

This file contains WITNESS RUNS — proved: each is a checked script (`C07Sys.rb_run`), i.e. every transition is a
transition of the most restricted system (`C07Sys.Trans`: `Commit.Enabled`, `EnabledG`, `EnabledC`, open nodes) and
every state satisfies the side predicates (`SideV`, `SideG`), so the runs are runs of ALL the systems above.

The runs continue `C07Sys.zs13` (three voters; node 1 elected in term 2, its no-op and two client updates replicated,
committed, applied and answered):

* run A (crashes): the leader accepts a third update (index 5); follower 2 DIES INSIDE the append step (after the
  storage point `commitLog`) and restarts; follower 3 acknowledges; the LEADER DIES between two steps and restarts —
  its unflushed entry 5 is gone from its disk; node 3 times out, is elected in term 3 with the vote of the restarted
  node 2, appends its no-op (6,3), brings the restarted node 1 up to date and commits index 6 (and with it the entry
  (5,2) of the dead leader's term).
* run T (a complete leadership transfer): `TransferLeadership` at node 1 designates node 2; `timeoutNow` at node 2; node
  3 grants the vote with the transfer flag; node 2 is leader of term 3; node 1 learns the new term, steps down and
  answers the transfer task `ok`.

Then the hypotheses of the theorems of the files above are instantiated on these runs (section "instances").
-/
import RaftVerif.Props.C07Sys
import RaftVerif.Props.C16Sys
import RaftVerif.Props.C06Sys

namespace Raft
namespace AuditSys
open Node CommitRel Commit SysInv C07Sys

/-! ### run A: crashes, loss of an unflushed entry, re-election, commit of an old-term entry -/

/-- a third update, payload "c", task 11 -/
def batchC : List QItem := [{ typ := etUpdate, data := "c", task := 11 }]

/-- the leader 1 accepts "c": entry (5,2) -/
def a1 : C07Sys.Sys := stepS zs13 1 (.newEntries batchC) [] [] 0
/-- the request carrying it -/
def aReq : AppendReq :=
  { term := 2, src := 1, prevLogIndex := 4, prevLogTerm := 2, ldrCommitIndex := 4,
    entries := (a1.node 1).log.entries.drop 4 }
def a1s : C07Sys.Sys := sendS a1 aReq
/-- follower 2 after it died while handling the request, after the FIRST storage point (`commitLog`), and restarted -/
def n2 : Node := (Node.restart (C05.crashDisk (a1s.node 2) (.append aReq) [] [] 1) 1 true).getD {}
def a2 : C07Sys.Sys := crashS a1s 2 (.append aReq) n2
/-- follower 3 handles the request to completion -/
def a3 : C07Sys.Sys := stepS a2 3 (.append aReq) [] [] 0
/-- the leader after it died between two steps and restarted: entry 5 was not flushed -/
def n1 : Node := (Node.restart (C05.crashDisk (a3.node 1) .timeout [] [] 0) 1 true).getD {}
def a4 : C07Sys.Sys := crashS a3 1 .timeout n1
/-- node 3 times out and starts the election of term 3 -/
def a5 : C07Sys.Sys := stepS a4 3 .timeout [] [] 0
def aVote : VoteReq := { term := 3, src := 3, lastLogIndex := 5, lastLogTerm := 2 }
/-- the restarted node 2 grants its vote -/
def a6 : C07Sys.Sys := stepS a5 2 (.vote aVote) [] [] 0
/-- node 3 counts it: leader of term 3, no-op (6,3) -/
def a7 : C07Sys.Sys := stepS a6 3 (.voteResult false 3 rSuccess) [] [] 2
def aReq2 : AppendReq :=
  { term := 3, src := 3, prevLogIndex := 4, prevLogTerm := 2, ldrCommitIndex := 4,
    entries := (a7.node 3).log.entries.drop 4 }
def a7s : C07Sys.Sys := sendS a7 aReq2
/-- the restarted node 1 (4 entries) takes the entries 5 and 6 -/
def a8 : C07Sys.Sys := stepS a7s 1 (.append aReq2) [] [] 0
abbrev aUpd : List ReplUpdate := [{ id := 1, upd := .matchIndex 6 }]
/-- the new leader learns it and commits index 6 -/
def a9 : C07Sys.Sys := stepSW a8 3 (.replUpdates aUpd) (altPost (a8.node 3) aUpd 6) 0

theorem ra0 : RB [1, 2, 3] zs13 zs13 := ⟨(rb13).1, .refl⟩

def scriptA : List Act :=
  [.step 1 (.newEntries batchC) 0, .send 1 aReq 1, .crash 2 (.append aReq) 0 1, .step 3 (.append aReq) 0,
    .crash 1 .timeout 0 0, .step 3 .timeout 0, .step 2 (.vote aVote) 0, .step 3 (.voteResult false 3 rSuccess) 2,
    .send 3 aReq2 2, .step 1 (.append aReq2) 0, .commit 3 aUpd 6]

theorem checkedA : Checked [1, 2, 3] zs13 scriptA := by decide +kernel

theorem ra9 : RB [1, 2, 3] zs13 a9 := rb_run scriptA ra0 checkedA

/-- the states of run A the instances below speak of: prefixes of the script -/
theorem ra1s : RB [1, 2, 3] zs13 a1s := rb_run _ ra0 (Script.Checked.take _ _ 2 checkedA)
theorem ra2 : RB [1, 2, 3] zs13 a2 := rb_run _ ra0 (Script.Checked.take _ _ 3 checkedA)
theorem ra3 : RB [1, 2, 3] zs13 a3 := rb_run _ ra0 (Script.Checked.take _ _ 4 checkedA)
theorem ra4 : RB [1, 2, 3] zs13 a4 := rb_run _ ra0 (Script.Checked.take _ _ 5 checkedA)

/-- what the third action (the crash of node 2 inside the append step) and the fifth (the crash of node 1 between two
steps) were checked for -/
theorem okA2 : (Act.crash 2 (.append aReq) 0 1).OK [1, 2, 3] a1s := Script.Checked.get _ _ 2 (by decide) checkedA
theorem okA4 : (Act.crash 1 .timeout 0 0).OK [1, 2, 3] a3 := Script.Checked.get _ _ 4 (by decide) checkedA

theorem n2_restart : Node.restart (C05.crashDisk (a1s.node 2) (.append aReq) [] [] 1) 1 true = some n2 :=
  restart_getD okA2.2.2.2.2.1

theorem n1_restart : Node.restart (C05.crashDisk (a3.node 1) .timeout [] [] 0) 1 true = some n1 :=
  restart_getD okA4.2.2.2.2.1

/-- WITNESS A: facts about the states of run A (all by kernel evaluation).
* `a2`: the restarted follower 2 holds entry 5 (flushed before it died), is a follower with commit index 0;
* `a4`: the restarted leader 1 has LOST entry 5 (4 entries), is a follower of term 2 that voted for itself;
* `a9`: node 3 is leader of term 3; nodes 1 and 3 hold 6 entries; the ledger `committed` holds (6,3) on top of the
  commits of term 2; the state machine of node 3 has applied "a", "b", "c"; the ledger `won` names node 1 for term 2
  and node 3 for term 3; nobody failed an assertion. -/
theorem runA_facts :
    ((a2.node 2).log.entries.length = 5 ∧ (a2.node 2).role = .follower ∧ (a2.node 2).commitIndex = 0 ∧
      (a1s.node 2).log.entries.length = 4) ∧
    ((a3.node 1).log.entries.length = 5 ∧ (a4.node 1).log.entries.length = 4 ∧ (a4.node 1).role = .follower ∧
      (a4.node 1).term = 2 ∧ (a4.node 1).votedFor = 1) ∧
    ((a9.node 3).role = .leader ∧ (a9.node 3).term = 3 ∧ (a9.node 3).commitIndex = 6 ∧
      (a9.node 1).log.entries.length = 6 ∧ (a9.node 3).fsm.applied = ["a", "b", "c"] ∧
      a9.c.committed = [(6, 3), (4, 2), (3, 2), (2, 2)] ∧ (3, 3) ∈ a9.c.rp.el.won ∧ (1, 2) ∈ a9.c.rp.el.won ∧
      (∀ i ∈ [1, 2, 3], (a9.node i).panicked = none)) := by
  decide +kernel

/-! ### run T: a complete leadership transfer (continues `zs13`) -/

/-- `TransferLeadership(task 12, no target)` at the leader 1: `tryTransfer` designates node 2 -/
def t1 : C07Sys.Sys := stepS zs13 1 (.transfer 12 0) [] [] 0
/-- the `timeoutNow` request at node 2: candidate of term 3 with the transfer flag -/
def t2 : C07Sys.Sys := stepS t1 2 .timeoutNow [] [] 0
def tVote : VoteReq := { term := 3, src := 2, lastLogIndex := 4, lastLogTerm := 2, transfer := true }
/-- node 3 knows the leader 1 and grants all the same (transfer flag) -/
def t3 : C07Sys.Sys := stepS t2 3 (.vote tVote) [] [] 0
/-- node 2 is leader of term 3 -/
def t4 : C07Sys.Sys := stepS t3 2 (.voteResult false 3 rSuccess) [] [] 3
/-- the old leader gets the (successful) result of its `timeoutNow` request … -/
def t5 : C07Sys.Sys := stepS t4 1 (.timeoutNowResult 2 false rSuccess) [] [] 0
abbrev tUpd : List ReplUpdate := [{ id := 2, upd := .newTerm 3 }]
/-- … and learns the new term from its replication of node 2: it steps down and answers the transfer task `ok` -/
def t6 : C07Sys.Sys := stepS t5 1 (.replUpdates tUpd) [] [] 0

def scriptT : List Act :=
  [.step 1 (.transfer 12 0) 0, .step 2 .timeoutNow 0, .step 3 (.vote tVote) 0,
    .step 2 (.voteResult false 3 rSuccess) 3, .step 1 (.timeoutNowResult 2 false rSuccess) 0,
    .step 1 (.replUpdates tUpd) 0]

theorem checkedT : Checked [1, 2, 3] zs13 scriptT := by decide +kernel

theorem rt6 : RB [1, 2, 3] zs13 t6 := rb_run scriptT ra0 checkedT

theorem rt1 : RB [1, 2, 3] zs13 t1 := rb_run _ ra0 (Script.Checked.take _ _ 1 checkedT)
theorem rt5 : RB [1, 2, 3] zs13 t5 := rb_run _ ra0 (Script.Checked.take _ _ 5 checkedT)

/-- what the first action (the transfer request) and the last (the `newTerm` report) were checked for -/
theorem okT0 : (Act.step 1 (.transfer 12 0) 0).OK [1, 2, 3] zs13 := Script.Checked.get _ _ 0 (by decide) checkedT
theorem okT5 : (Act.step 1 (.replUpdates tUpd) 0).OK [1, 2, 3] t5 := Script.Checked.get _ _ 5 (by decide) checkedT

/-- WITNESS T: facts about the states of run T. In `t1` the leader has a `timeoutNow` request in flight for the target
2; in `t4` node 2 is leader of term 3 while node 1 still is leader of term 2; in `t6` node 1 is a follower of term 3 and
its last step answered the transfer task 12 with `ok`. -/
theorem runT_facts :
    ((zs13.node 1).ldr.transfer.respPending = false ∧ (t1.node 1).ldr.transfer.respPending = true ∧
      (t1.node 1).ldr.transfer.active = true ∧ (t1.node 1).ldr.transfer.task = 12 ∧
      (t1.node 1).tryTransferTarget.1 = 2) ∧
    ((t4.node 2).role = .leader ∧ (t4.node 2).term = 3 ∧ (t4.node 1).role = .leader ∧ (t4.node 1).term = 2) ∧
    ((t6.node 1).role = .follower ∧ (t6.node 1).term = 3 ∧
      ({ task := 12, result := "ok" } : Reply) ∈ (t6.node 1).replies ∧ (⟨1, 12, "ok"⟩ : Ans) ∈ t6.answers) := by
  decide +kernel

/-! ### projections: a run of `C07Sys` is a run of every system below it -/

theorem runG_of {V : List Nat} {x y : C07Sys.Sys} (h : C07Sys.Run V x y) : RunG V x.c y.c := by
  induction h with
  | refl => exact .refl
  | next y z _ ht hs hg ih => exact .next _ _ ih (trans_c ht) hs hg

theorem runV4_of {V : List Nat} {x y : Commit.Sys} (h : C02Sys.RunV V x y) : C04Sys.RunV V x.rp y.rp := by
  induction h with
  | refl => exact .refl
  | next y z _ ht hs ih => exact .next _ _ ih (trans_rp ht) hs.1

theorem runV1_of {V : List Nat} {x y : Replication.Sys} (h : C04Sys.RunV V x y) : C01Sys.RunV V x.el y.el := by
  induction h with
  | refl => exact .refl
  | next y z _ ht hs ih =>
    rcases Replication.trans_el ht with h' | h'
    · exact .next _ _ ih h' hs
    · rw [h']; exact ih

/-- every state of run A / run T, in every system -/
theorem reach_all {x : C07Sys.Sys} (h : RB [1, 2, 3] zs13 x) :
    C07Sys.Reachable [1, 2, 3] x ∧ ReachableG [1, 2, 3] x.c ∧ C03Sys.ReachableNP [1, 2, 3] x.c ∧
    Commit.ReachableV [1, 2, 3] x.c ∧ Replication.ReachableV [1, 2, 3] x.c.rp ∧
    Election.ReachableV [1, 2, 3] x.c.rp.el :=
  have g := reachable_c h.1.1
  ⟨h.1.1, g, C19Sys.reachable_np_of_good _ (by decide) _ g, reachableG_V g, reachable_rp (reachableG_V g),
    Replication.reachable_el (reachable_rp (reachableG_V g))⟩

/-- run A from `zs13` to `a9`, in every system -/
theorem runA_all :
    C07Sys.Run [1, 2, 3] zs13 a9 ∧ RunG [1, 2, 3] zs13.c a9.c ∧ C02Sys.RunV [1, 2, 3] zs13.c a9.c ∧
    C04Sys.RunV [1, 2, 3] zs13.c.rp a9.c.rp ∧ C01Sys.RunV [1, 2, 3] zs13.c.rp.el a9.c.rp.el :=
  have g := runG_of ra9.2
  ⟨ra9.2, g, C10Sys.runG_runV g, runV4_of (C10Sys.runG_runV g), runV1_of (runV4_of (C10Sys.runG_runV g))⟩

/-! ### instances: the hypotheses of the theorems hold on the runs (each `example` applies the theorem) -/

set_option maxRecDepth 100000 in
/-- C01Sys `election_safety_sys_partial` / `leader_backed_partial` on `a9`: two leaders ever (node 1 in term 2, node 3 in
term 3), both in `won`, both backed -/
example : C01.Backed a9.c.rp.el.grants [1, 2, 3] 3 3 ∧ C01.Backed a9.c.rp.el.grants [1, 2, 3] 1 2 :=
  have h := C01Sys.election_safety_sys_partial [1, 2, 3] (by decide) _ (reach_all ra9).2.2.2.2.2
  ⟨h.2.2.2.1 3 3 (by decide +kernel), h.2.2.2.1 1 2 (by decide +kernel)⟩

set_option maxRecDepth 100000 in
/-- C01Sys `election_safety_ever_partial`: hypotheses satisfiable with a real later state (`zs13 → a3`: node 1 leads term
2 in both) -/
example : (1 : Nat) = 1 :=
  C01Sys.election_safety_ever_partial [1, 2, 3] (by decide) zs13.c.rp.el a3.c.rp.el (reach_all ra0).2.2.2.2.2
    (runV1_of (runV4_of (C10Sys.runG_runV (runG_of ra3.2)))) 1 1 (by decide +kernel) (by decide +kernel)
    (by decide +kernel)

set_option maxRecDepth 100000 in
/-- C04Sys `log_matching_sys_partial` on `a9`: the restarted node 1 and the new leader 3 hold the same term at index 6,
hence the same entries up to 6 — in particular the entry (5,2) that node 1 had LOST in its crash -/
example : (a9.node 1).log.get? 5 = (a9.node 3).log.get? 5 ∧ ((a9.node 1).log.get? 5).map (·.data) = some "c" := by
  have hm := C04Sys.log_matching_sys_partial [1, 2, 3] (by decide) a9.c.rp (reach_all ra9).2.2.2.2.1 1 3 6
  cases h1 : (a9.node 1).log.get? 6 with
  | none => exact absurd h1 (by decide +kernel)
  | some a =>
    cases h3 : (a9.node 3).log.get? 6 with
    | none => exact absurd h3 (by decide +kernel)
    | some b =>
      have ht : a.term = b.term := by
        have e1 : ((a9.node 1).log.get? 6).map (·.term) = some 3 := by decide +kernel
        have e3 : ((a9.node 3).log.get? 6).map (·.term) = some 3 := by decide +kernel
        rw [h1] at e1; rw [h3] at e3
        simp at e1 e3; rw [e1, e3]
      cases h15 : (a9.node 1).log.get? 5 with
      | none => exact absurd h15 (by decide +kernel)
      | some a' =>
        cases h35 : (a9.node 3).log.get? 5 with
        | none => exact absurd h35 (by decide +kernel)
        | some b' =>
          have := hm a b h1 h3 ht 5 (by decide) a' b' h15 h35
          refine ⟨by rw [this], ?_⟩
          have e : ((a9.node 1).log.get? 5).map (·.data) = some "c" := by decide +kernel
          rw [h15] at e; exact e

set_option maxRecDepth 100000 in
/-- C02Sys `leader_completeness_ever_partial`: `x = zs13` (node 1's commit index 4), `y = a9` (crashes, re-election in
between): the leader 3 of term 3 holds at index 4 the entry node 1 had committed -/
example : (a9.node 3).log.get? 4 = (zs13.node 1).log.get? 4 :=
  (C02Sys.leader_completeness_ever_partial [1, 2, 3] (by decide) zs13.c a9.c (reach_all ra0).2.2.2.1 runA_all.2.2.1
    3 1 4 (by decide) (by decide +kernel) (by decide +kernel) (by decide +kernel)).1

set_option maxRecDepth 100000 in
/-- C06Sys `no_loss_under_minority_crash_partial`: a REAL burst of crashes — the leader 1 dies in `a3` and restarts
(`a4`) — for the index 4 within node 1's commit index -/
example : C06Sys.CrashRun [1, 2, 3] [1] a3.c a4.c ∧ ∃ Q, C06Sys.Majority [1, 2, 3] Q ∧
    ∀ v ∈ Q, DurableRel.Keeps a4.c v (a3.node 1) 4 := by
  have he : Commit.Enabled a3.c 1 .timeout 0 := (enabled_iff.mpr ⟨okA4.1, okA4.2.1⟩).1
  have hc : C06Sys.CrashRun [1, 2, 3] [1] a3.c a4.c :=
    .crash a3.c 1 .timeout [] [] 0 0 1 true n1 .refl (by decide) he n1_restart ra4.1.2.1
  obtain ⟨Q, hQ, hk, _⟩ := C06Sys.no_loss_under_minority_crash_partial [1, 2, 3] (by decide) a3.c a4.c
    (reach_all ra3).2.2.2.1 [1] hc 1 4 (by decide) (by decide +kernel)
  exact ⟨hc, Q, hQ, hk⟩

set_option maxRecDepth 100000 in
/-- C10Sys `restart_succeeds_sys_partial` / `rejoin_preserves_safety_partial`: a crash INSIDE an append step of a
follower of an elected leader (`a1s`, node 2, after the first storage point) -/
example : ReachableG [1, 2, 3] a2.c ∧ C10Sys.Safe [1, 2, 3] a9.c := by
  obtain ⟨he, heG⟩ := enabled_iff.mpr ⟨okA2.1, okA2.2.1⟩
  have h := C10Sys.rejoin_preserves_safety_partial [1, 2, 3] (by decide) a1s.c (reach_all ra1s).2.1 2 (.append aReq)
    [] [] 0 he heG 1 okA2.2.2.2.1 1 (Nat.le_refl _) true n2 n2_restart ra2.1.2.1
  exact ⟨h.1, (C10Sys.safe_of_reachable [1, 2, 3] (by decide) a9.c (reach_all ra9).2.1)⟩

set_option maxRecDepth 100000 in
/-- C10Sys `restart_keeps_committed_acknowledged_partial`: `m = (4,2)` committed in `zs13`, acknowledged by node 2 in
term 2; node 2 dies in the LATER state `a1s` inside the append step — the restarted node holds (4,2) -/
example : 4 ≤ n2.log.flushed ∧ ∃ e, n2.log.get? 4 = some e ∧ e.term = 2 := by
  have he := (enabled_iff.mpr ⟨okA2.1, okA2.2.1⟩).1
  have hanc : Anc zs13.c.T (4, 2) (4, 2) :=
    Anc.refl_of_holds (C02Sys.log_path (C02Sys.inv_reachable (by decide) (reach_all ra0).2.2.2.1).1 1)
      ⟨by decide, by decide +kernel, by decide +kernel⟩
  exact C10Sys.restart_keeps_committed_acknowledged_partial [1, 2, 3] (by decide) zs13.c a1s.c (reach_all ra0).2.1
    (runG_of ra1s.2) (4, 2) (by decide +kernel) ⟨2, 2, 4, 2⟩ (by decide +kernel) rfl hanc (.append aReq) [] [] 0 he
    1 1 true n2 n2_restart

set_option maxRecDepth 100000 in
/-- C16Sys (5) `transfer_target_holds_log_sys_partial`: ALL its hypotheses hold for `x = zs13`, node 1, the operation
`TransferLeadership(12)` (reachable leader, no request in flight before, one in flight after) -/
example : ∃ (c : Node) (t : Nat), (zs13.node 1).step (.transfer 12 0) [] [] = c.tryTransfer ∧
    c.tryTransferTarget.1 = t ∧ t ≠ 0 ∧ t ∈ [1, 2, 3] ∧ t ≠ 1 := by
  obtain ⟨he, heG⟩ := enabled_iff.mpr ⟨okT0.1, okT0.2.1⟩
  obtain ⟨c, t, h1, h2, h3, ⟨h4, h5, _⟩, _⟩ := C16Sys.transfer_target_holds_log_sys_partial [1, 2, 3] (by decide)
    zs13.c (reach_all ra0).2.1 1 (.transfer 12 0) 0 he heG (by decide +kernel) [] [] rt1.1.2.1 (by decide +kernel)
    (by decide +kernel) (by decide +kernel) (by decide +kernel) (by decide +kernel)
  exact ⟨c, t, h1, h2, h3, h4, h5⟩

set_option maxRecDepth 100000 in
/-- C16Sys (7) `transfer_success_means_stepped_down_sys_partial`: ALL its hypotheses hold for `x = t5`, node 1 and the
`newTerm 3` report: the transfer task 12 is answered `ok` in that step -/
example : (((t5.node 1).begin [] []).handle (.replUpdates tUpd)).role ≠ .leader ∧
    (t5.node 1).ldr.transfer.term < ((t5.node 1).step (.replUpdates tUpd) [] []).term := by
  obtain ⟨he, heG⟩ := enabled_iff.mpr ⟨okT5.1, okT5.2.1⟩
  exact C16Sys.transfer_success_means_stepped_down_sys_partial [1, 2, 3] (by decide) t5.c (reach_all rt5).2.1 1
    (.replUpdates tUpd) 0 he heG (by decide +kernel) [] [] (by decide +kernel)
    ⟨by decide +kernel, by decide +kernel⟩ (by decide +kernel) (by decide +kernel) (by decide +kernel)
    (by decide +kernel)

set_option maxRecDepth 100000 in
/-- C07Sys (3) `ambiguous_update_at_most_once_partial`: the update "c" was submitted to the leader 1, which DIED before
answering (no answer for task 11 in the ledger); it is committed by the next leader and applied exactly once -/
example : (⟨1, 11, etUpdate, "c", 4, 2⟩ : Sub) ∈ a9.subs ∧ (∀ a ∈ a9.answers, a.task ≠ 11) ∧
    (a9.node 3).fsm.applied.count "c" ≤ 1 ∧ "c" ∈ (a9.node 3).fsm.applied := by
  have hs : (⟨1, 11, etUpdate, "c", 4, 2⟩ : Sub) ∈ a9.subs := by decide +kernel
  exact ⟨hs, by decide +kernel,
    (ambiguous_update_at_most_once_partial [1, 2, 3] (by decide) a9 ra9.1.1 _ hs rfl).2.2 3, by decide +kernel⟩

set_option maxRecDepth 100000 in
/-- C03Sys / C19Sys `state_machine_safety_sys_partial` and C19Sys `good_in_sys_partial` on `a9`: the state machines of
the restarted node 1 (nothing applied) and of the leader 3 ([a, b, c]) are prefix-comparable; every node is good -/
example : ((a9.node 1).fsm.applied <+: (a9.node 3).fsm.applied ∨ (a9.node 3).fsm.applied <+: (a9.node 1).fsm.applied) ∧
    (a9.node 3).fsm.applied = ["a", "b", "c"] ∧ NoPanic.Good true (a9.node 1) :=
  ⟨(C19Sys.state_machine_safety_sys_partial [1, 2, 3] (by decide) a9.c (reach_all ra9).2.1).2.2.2 1 3,
    by decide +kernel, (C19Sys.good_in_sys_partial [1, 2, 3] (by decide) a9.c (reach_all ra9).2.1 1).1⟩

end AuditSys
end Raft

#print axioms Raft.AuditSys.ra9
#print axioms Raft.AuditSys.rt6
#print axioms Raft.AuditSys.runA_facts
#print axioms Raft.AuditSys.runT_facts
#print axioms Raft.AuditSys.reach_all
#print axioms Raft.AuditSys.runA_all
