/-
C04 — Log matching (node-local part): what one append request does to a log, and that a leader only
appends. The cluster-level statement (same (index, term) ⇒ same entry and same prefix, across nodes and
moments) is Props/C04Sys.lean (`log_matching_sys_partial`).
-/
import RaftVerif.Lemmas.StepInv
import RaftVerif.Lemmas.ShapeAppend
import RaftVerif.Lemmas.ReplSteps

namespace Raft
namespace C04
open Node

/-! ### a leader never removes or rewrites entries of its own log -/

def Extends (s₀ s : Node) : Prop := s.log.prev = s₀.log.prev ∧ s₀.log.entries <+: s.log.entries

theorem ext_congr {s₀ s s' : Node} (h : Extends s₀ s) (e : s'.log = s.log) : Extends s₀ s' := by
  unfold Extends at *; rw [e]; exact h

/-- every primitive used by the leader handlers (storeEntry … onMajorityCommit) keeps `Extends`:
they append or flush, never truncate, compact or reset. -/
theorem leader_closed (s₀ : Node) : Closed (Extends s₀) where
  panic := fun s site h => ext_congr h (by rw [Node.panic_shape])
  reply := fun s t r h => ext_congr h (by rw [Node.reply_shape])
  point := fun s n h => ext_congr h rfl
  ldr := fun s l h => ext_congr h rfl
  append := fun s e roll h => by
    obtain ⟨a1, a2⟩ := NLog.append_parts s.log e roll
    exact ⟨a1.trans h.1, a2 ▸ h.2.trans (List.prefix_append _ _)⟩
  commitN := fun s n h => by
    obtain ⟨c1, c2, _⟩ := NLog.commitN_same s.log n
    exact ⟨c1.trans h.1, c2 ▸ h.2⟩
  fsm := fun s f h => ext_congr h rfl
  changeConfigR := fun s c h => ext_congr h (by rw [Node.changeConfigR_shape])
  setCommitIndexR := fun s i h _ => ext_congr h (by rw [Node.setCommitIndexR_shape])
  popOrder := fun s h => ext_congr h rfl

/-- **a leader only appends**: accepting client entries, membership requests, commit advancement and the
configuration actions they trigger never remove or rewrite an entry of the leader's log. -/
theorem leader_log_append_only (fuel : Nat) (s : Node) (batch : List QItem) :
    Extends s (storeEntry fuel s batch) :=
  ((leader_closed s).block fuel).1 s batch ⟨rfl, List.prefix_refl _⟩

theorem leader_commit_append_only (fuel : Nat) (s : Node) : Extends s (onMajorityCommit fuel s) :=
  ((leader_closed s).block fuel).2.2.2.2.2.2.2 s ⟨rfl, List.prefix_refl _⟩

theorem leader_actions_append_only (fuel : Nat) (s : Node) (t : Nat) (c : Config) :
    Extends s (checkConfigActions fuel s t c) :=
  ((leader_closed s).block fuel).2.2.2.2.1 s t c ⟨rfl, List.prefix_refl _⟩

/-! ### what an append request does, entry by entry -/

/-- an entry the node holds (`Held`: covered by the snapshot, or in the log with the same term) is passed over -/
theorem held_entry_passed_over (st : AppLoop) (ne : Entry) (rest : List Entry) (herr : st.err = false)
    (h : Held st.s ne) :
    appendLoop st (ne :: rest) = appendLoop { st with index := ne.index, term := ne.term } rest := by
  conv => lhs; unfold appendLoop
  simp only [herr, Bool.false_eq_true, if_false]
  by_cases hs : ne.index ≤ st.s.snapIndex
  · rw [if_pos hs]
  · rw [if_neg hs, if_pos (by simpa using h.resolve_left hs)]

/-- an entry at or below the snapshot index is ignored -/
theorem entry_below_snapshot_ignored (st : AppLoop) (ne : Entry) (rest : List Entry)
    (herr : st.err = false) (h : ne.index ≤ st.s.snapIndex) :
    appendLoop st (ne :: rest) = appendLoop { st with index := ne.index, term := ne.term } rest :=
  held_entry_passed_over st ne rest herr (Or.inl h)

/-- an entry the follower already holds with the same term is left alone (nothing is removed or rewritten) -/
theorem matching_entry_untouched (st : AppLoop) (ne : Entry) (rest : List Entry)
    (herr : st.err = false) (hs : ¬ ne.index ≤ st.s.snapIndex)
    (hle : ne.index ≤ st.s.lastLogIndex) (hterm : st.s.entryTerm? ne.index = some ne.term) :
    appendLoop st (ne :: rest) = appendLoop { st with index := ne.index, term := ne.term } rest :=
  held_entry_passed_over st ne rest herr (Or.inr ⟨hle, hterm⟩)

/-- the only truncation an append request performs: at the first entry whose term differs from the one
held, everything from that index on is removed (and the configuration reverted if it was at or above it);
an entry beyond the end of the log removes nothing. -/
theorem conflict_truncates_from_there (s : Node) (ne : Entry) (pt t : Nat)
    (hle : ne.index ≤ s.lastLogIndex) (hterm : s.entryTerm? ne.index = some t) :
    s.resolveConflict ne pt =
      (if ne.index ≤ (s.removeGTE ne.index pt).configs.latest.index
       then (s.removeGTE ne.index pt).revertConfig else s.removeGTE ne.index pt) := by
  unfold Node.resolveConflict
  rw [if_pos hle, hterm]

theorem no_truncation_beyond_log (s : Node) (ne : Entry) (pt : Nat) (h : ¬ ne.index ≤ s.lastLogIndex) :
    s.resolveConflict ne pt = s := by
  unfold Node.resolveConflict; rw [if_neg h]

/-- `removeGTE i` keeps exactly the entries below `i` -/
theorem removeGTE_keeps_prefix (l : NLog) (i : Nat) :
    (l.removeGTE i).entries = l.entries.take (i - 1 - l.prev) ∧ (l.removeGTE i).prev = l.prev := by
  unfold NLog.removeGTE; exact ⟨rfl, rfl⟩

/-- a stale request (lower term) is refused without touching anything -/
theorem stale_append_refused (s : Node) (q : AppendReq) (h : q.term < s.term) :
    s.onAppendEntries q = s.ret rStaleTerm := by
  unfold Node.onAppendEntries; rw [if_pos h]

/-- a request whose previous entry the follower lacks is refused without touching the log -/
theorem missing_prev_refused (s : Node) (q : AppendReq) (h1 : q.prevLogIndex > s.snapIndex)
    (h2 : q.prevLogIndex > s.lastLogIndex) : s.appendCheck q = s.ret rPrevEntryNotFound := by
  unfold Node.appendCheck; rw [if_pos h1, if_pos h2]

end C04
end Raft

#print axioms Raft.C04.leader_log_append_only
#print axioms Raft.C04.leader_commit_append_only
#print axioms Raft.C04.leader_actions_append_only
#print axioms Raft.C04.entry_below_snapshot_ignored
#print axioms Raft.C04.matching_entry_untouched
#print axioms Raft.C04.conflict_truncates_from_there
#print axioms Raft.C04.no_truncation_beyond_log
#print axioms Raft.C04.removeGTE_keeps_prefix
#print axioms Raft.C04.stale_append_refused
#print axioms Raft.C04.missing_prev_refused
#print axioms Raft.Repl.repl_request_from_log
#print axioms Raft.Repl.heartbeat_no_entries
