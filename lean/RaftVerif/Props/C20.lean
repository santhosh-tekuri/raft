/-
C20 — Cluster/node identity isolation and storage exclusivity.

Model: `RaftVerif/Model/Conn.lean` (`Raft.Conn`: connection automaton of conn.go / server.go / rpc.go's identity
branch; `Raft.Lock`: lockDir/unlockDir/SetIdentity/New/Serve over an abstract directory with atomic `link`).
The functions the theorems talk about (`Conn.step`, `Conn.run`, `Lock.step`, `Lock.run`, and the compound
operations built from them) are the ones `go/conndiff` compares with the real code.
-/
import RaftVerif.Model.Conn

namespace Raft
namespace C20
open Conn

/-- the identity request a library dialer writes on connection `c` -/
def idReq (c : Conn) : Msg := Msg.identity c.src.nid c.intended

/-- the fields of a connection that describe the wire, not its state -/
def wire (c : Conn) : Bool × Nat × Identity × Identity × Nat × Identity :=
  (c.lib, c.dialer, c.src, c.intended, c.lpid, c.lident)

def SameWire (c c' : Conn) : Prop := wire c' = wire c

theorem SameWire.refl (c : Conn) : SameWire c c := rfl

theorem SameWire.trans {a b c : Conn} (h1 : SameWire a b) (h2 : SameWire b c) : SameWire a c :=
  Eq.trans h2 h1

/-- what a recorded request must satisfy -/
def ProcOK (p : Processed) : Prop :=
  p.lib = true → p.listener = p.intended ∧ p.src.cid = p.listener.cid

/-- a recorded request belongs to the connection it names -/
def ProcOf (conns : List Conn) (p : Processed) : Prop :=
  ∃ c, conns[p.conn]? = some c ∧ p.lib = c.lib ∧ p.pid = c.lpid ∧ p.listener = c.lident ∧
    p.intended = c.intended ∧ p.src = c.src

/-- a library connection whose listener is not the node the dialer meant -/
def Mismatched (c : Conn) : Prop := c.lib = true ∧ c.lident ≠ c.intended

/-- such a connection never leaves the handshake -/
structure Stuck (c : Conn) : Prop where
  notVerified : ∀ n, c.dstate ≠ .verified n
  dialed : c.dstate = .dialed → c.wrote = []
  wrote : c.wrote = [] ∨ c.wrote = [idReq c]
  inbox : ∀ m ∈ c.inbox, m = idReq c
  outbox : Resp.idOk ∉ c.outbox

/-- Invariant of one connection: whether the listener is the intended node is fixed by the wire, so only a mismatched
connection needs watching, and it never leaves the handshake. -/
structure OK (c : Conn) : Prop where
  pool : c.pooled = true → c.lib = true ∧ ∃ n, c.dstate = .verified n
  cid : c.lib = true → c.intended.cid = c.src.cid
  stuck : Mismatched c → Stuck c

theorem OK.not_pooled {c : Conn} (h : OK c) (hd : ∀ n, c.dstate ≠ .verified n) : c.pooled = false := by
  cases hp : c.pooled with
  | false => rfl
  | true => obtain ⟨_, n, hn⟩ := h.pool hp; exact absurd hn (hd n)

/-- The shape shared by every transition except `sendIdentity`: nothing new is written, the dialer state stays or
becomes `closed`, the inbox only loses messages, and no `idOk` is added. -/
theorem Stuck.mono {c c' : Conn} (hs : Stuck c) (hw : SameWire c c')
    (hd : c'.dstate = c.dstate ∨ c'.dstate = .closed) (hwr : c'.wrote = c.wrote)
    (hi : ∀ m ∈ c'.inbox, m ∈ c.inbox) (ho : Resp.idOk ∈ c'.outbox → Resp.idOk ∈ c.outbox) : Stuck c' := by
  have hid : idReq c' = idReq c := by
    simp only [SameWire, wire, Prod.mk.injEq] at hw
    simp only [idReq, hw.2.2.1, hw.2.2.2.1]
  refine ⟨fun n hn => ?_, fun hdl => ?_, by rw [hwr, hid]; exact hs.wrote,
    fun m hm => hid ▸ hs.inbox m (hi m hm), fun hm => hs.outbox (ho hm)⟩
  · rcases hd with hd | hd <;> rw [hd] at hn
    · exact hs.notVerified n hn
    · cases hn
  · rcases hd with hd | hd <;> rw [hd] at hdl
    · rw [hwr]; exact hs.dialed hdl
    · cases hdl

/-- …and for the whole invariant: a transition that keeps the wire and only takes connections out of the pool
(or leaves pooled ones in the dialer state they had) has to speak about stuck connections only. -/
theorem OK.mono {c c' : Conn} (h : OK c) (hw : SameWire c c')
    (hp : c'.pooled = true → c.pooled = true ∧ c'.dstate = c.dstate)
    (hs : Mismatched c → Stuck c → Stuck c') : OK c' := by
  simp only [SameWire, wire, Prod.mk.injEq] at hw
  obtain ⟨w1, _, w3, w4, _, w6⟩ := hw
  refine ⟨fun hpool => ?_, fun hl => ?_, fun hm => ?_⟩
  · obtain ⟨a, b⟩ := hp hpool
    rw [w1, b]; exact h.pool a
  · rw [w4, w3]; exact h.cid (w1 ▸ hl)
  · have hm' : Mismatched c := ⟨w1 ▸ hm.1, w6 ▸ w4 ▸ hm.2⟩
    exact hs hm' (h.stuck hm')

/-- what every transition does: the wire stays, the invariant stays -/
def Keeps (c c' : Conn) : Prop := SameWire c c' ∧ (OK c → OK c')

theorem Keeps.refl (c : Conn) : Keeps c c := ⟨rfl, id⟩

theorem Keeps.mono {c c' : Conn} (hw : SameWire c c')
    (hp : OK c → c'.pooled = true → c.pooled = true ∧ c'.dstate = c.dstate)
    (hs : Mismatched c → Stuck c → Stuck c') : Keeps c c' :=
  ⟨hw, fun h => h.mono hw (hp h) hs⟩

section transitions
variable (c : Conn)

/-- a transition that does not put the connection into the pool, on a connection that is not in it -/
theorem not_pooled_keeps {c c' : Conn} (hw : SameWire c c') (he : c'.pooled = c.pooled)
    (hnp : OK c → c.pooled = false) (hs : Mismatched c → Stuck c → Stuck c') : Keeps c c' :=
  .mono hw (fun h hp => by rw [he, hnp h] at hp; cases hp) hs

theorem sendIdentity_keeps : Keeps c c.sendIdentity := by
  unfold Conn.sendIdentity
  split
  · rename_i hg
    refine not_pooled_keeps rfl rfl (fun h => h.not_pooled fun n hn => by rw [hg.2] at hn; cases hn) fun _ hs => ?_
    refine ⟨nofun, nofun, Or.inr (by show c.wrote ++ _ = _; rw [hs.dialed hg.2]; rfl), fun m hm => ?_, hs.outbox⟩
    rcases List.mem_append.1 hm with hm | hm
    · exact hs.inbox m hm
    · exact List.mem_singleton.1 hm
  · exact .refl c

theorem recvIdentity_keeps : Keeps c c.recvIdentity := by
  unfold Conn.recvIdentity
  split
  · rename_i hg
    have hnp : OK c → c.pooled = false := fun h => h.not_pooled fun n hn => by rw [hg.2] at hn; cases hn
    split
    · rename_i r rest hout
      split
      · -- `success` is read: the connection is not a mismatched one
        rename_i hr
        refine not_pooled_keeps rfl rfl hnp fun _ hs => absurd ?_ hs.outbox
        rw [hout, hr]; exact List.mem_cons_self
      · exact not_pooled_keeps rfl rfl hnp fun _ hs => hs.mono rfl (Or.inr rfl) rfl (fun _ => id)
          (fun hm => by rw [hout]; exact List.mem_cons_of_mem _ hm)
    · split
      · exact .refl c
      · exact not_pooled_keeps rfl rfl hnp fun _ hs => hs.mono rfl (Or.inr rfl) rfl (fun _ => id) id
  · exact .refl c

theorem pop_keeps : Keeps c c.pop := by
  unfold Conn.pop
  split
  · exact .mono rfl (fun _ => nofun) fun _ hs => hs.mono rfl (Or.inl rfl) rfl (fun _ => id) id
  · exact .refl c

/-- the three transitions of a verified connection do nothing to a stuck one -/
theorem sendReq_keeps (k : Kind) : Keeps c (c.sendReq k) := by
  unfold Conn.sendReq
  split
  · rename_i n hd
    split
    · rename_i hg
      exact not_pooled_keeps rfl rfl (fun _ => hg.2) fun _ hs => absurd hd (hs.notVerified n)
    · exact .refl c
  · exact .refl c

theorem recvResp_keeps : Keeps c c.recvResp := by
  unfold Conn.recvResp
  split
  · rename_i hg
    split
    · rename_i n hd
      have st : ∀ {x : Conn}, Mismatched c → Stuck c → Stuck x := fun _ hs => absurd hd (hs.notVerified _)
      split
      · exact not_pooled_keeps rfl rfl (fun _ => hg.2) st
      · split
        · exact .refl c
        · exact not_pooled_keeps rfl rfl (fun _ => hg.2) st
    · exact .refl c
  · exact .refl c

theorem returnConn_keeps (room : Bool) (now : Nat) : Keeps c (c.returnConn room now) := by
  unfold Conn.returnConn
  split
  · rename_i n hd
    have st : ∀ {x : Conn}, Mismatched c → Stuck c → Stuck x := fun _ hs => absurd hd (hs.notVerified n)
    split
    · rename_i hg
      split
      · -- the only way into the pool
        exact ⟨rfl, fun h => ⟨fun _ => ⟨hg.1, n, hd⟩, h.cid, fun hm => st hm (h.stuck hm)⟩⟩
      · exact not_pooled_keeps rfl rfl (fun _ => hg.2) st
    · exact .refl c
  · exact .refl c

theorem dialerClose_keeps : Keeps c c.dialerClose :=
  .mono rfl (fun _ => nofun) fun _ hs => hs.mono rfl (Or.inr rfl) rfl (fun _ => id) id

/-- a transition of the listener, or of a foreign dialer: pool and dialer state are not touched -/
theorem same_dialer_keeps {c c' : Conn} (hw : SameWire c c') (hp : c'.pooled = c.pooled) (hd : c'.dstate = c.dstate)
    (hs : Mismatched c → Stuck c → Stuck c') : Keeps c c' :=
  .mono hw (fun _ h => ⟨hp ▸ h, hd⟩) hs

theorem afterRead_keeps : Keeps c c.afterRead := by
  unfold Conn.afterRead
  -- every branch: the inbox loses its head, the outbox gains something other than `idOk` — except the branch that
  -- answers `success`, which a stuck connection cannot take
  have tl : ∀ {x : Msg} {rest : List Msg}, c.inbox = x :: rest → ∀ m ∈ rest, m ∈ c.inbox :=
    fun e m hm => by rw [e]; exact List.mem_cons_of_mem _ hm
  have out : ∀ {r : Resp}, r ≠ Resp.idOk → Resp.idOk ∈ c.outbox ++ [r] → Resp.idOk ∈ c.outbox := fun hr hm => by
    rcases List.mem_append.1 hm with hm | hm
    · exact hm
    · exact absurd (List.mem_singleton.1 hm).symm hr
  split
  · split
    · exact .refl c
    · rename_i s want rest hin
      split
      · rename_i hw
        refine same_dialer_keeps rfl rfl rfl fun hm hs => absurd ?_ hm.2
        have := hs.inbox _ (by rw [hin]; exact List.mem_cons_self)
        simp only [idReq, Msg.identity.injEq] at this
        rw [← hw, this.2]
      · exact same_dialer_keeps rfl rfl rfl fun _ hs => hs.mono rfl (Or.inl rfl) rfl (tl hin) (out nofun)
    · rename_i k s rest hin
      exact same_dialer_keeps rfl rfl rfl fun _ hs => hs.mono rfl (Or.inl rfl) rfl (tl hin) (out nofun)
  · exact .refl c

theorem listenerEOF_keeps : Keeps c c.listenerEOF := by
  unfold Conn.listenerEOF
  split
  · exact same_dialer_keeps rfl rfl rfl fun _ hs => hs.mono rfl (Or.inl rfl) rfl (fun _ => id) id
  · exact .refl c

theorem listenerClose_keeps : Keeps c c.listenerClose :=
  same_dialer_keeps rfl rfl rfl fun _ hs => hs.mono rfl (Or.inl rfl) rfl (fun _ => id) id

theorem rawWrite_keeps (m : Msg) : Keeps c (c.rawWrite m) := by
  unfold Conn.rawWrite
  split
  · rename_i hg
    exact same_dialer_keeps rfl rfl rfl fun hm _ => absurd hm.1 (by rw [hg.1]; decide)
  · exact .refl c

theorem rawRead_keeps : Keeps c c.rawRead := by
  unfold Conn.rawRead
  split
  · rename_i hg
    exact same_dialer_keeps rfl rfl rfl fun hm _ => absurd hm.1 (by rw [hg]; decide)
  · exact .refl c

variable {c}

/-- what reaches `onRequest` from a library connection was not read from a stuck one -/
theorem readRecords_ok (i : Nat) (h : OK c) : ∀ p ∈ c.readRecords i, ProcOK p := by
  unfold Conn.readRecords
  intro p hp
  split at hp
  · split at hp
    · rename_i k s rest hin
      rw [List.mem_singleton.1 hp]
      intro hlib
      have hv : c.lident = c.intended := Decidable.byContradiction fun hne => by
        have := (h.stuck ⟨hlib, hne⟩).inbox _ (by rw [hin]; exact List.mem_cons_self)
        simp [idReq] at this
      exact ⟨hv, by show c.src.cid = c.lident.cid; rw [hv, h.cid hlib]⟩
    · cases hp
  · cases hp

variable (c)

theorem readRecords_of (i : Nat) : ∀ p ∈ c.readRecords i,
    p.conn = i ∧ p.lib = c.lib ∧ p.pid = c.lpid ∧ p.listener = c.lident ∧ p.intended = c.intended ∧ p.src = c.src := by
  unfold Conn.readRecords
  intro p hp
  split at hp
  · split at hp
    · simp only [List.mem_singleton] at hp
      subst hp
      exact ⟨rfl, rfl, rfl, rfl, rfl, rfl⟩
    · cases hp
  · cases hp

end transitions

theorem procOf_mono {conns conns' : List Conn} {p : Processed}
    (hw : ∀ (j : Nat) (c : Conn), conns[j]? = some c → ∃ c', conns'[j]? = some c' ∧ SameWire c c')
    (h : ProcOf conns p) : ProcOf conns' p := by
  obtain ⟨c, hc, e1, e2, e3, e4, e5⟩ := h
  obtain ⟨c', hc', hw'⟩ := hw _ _ hc
  simp only [SameWire, wire, Prod.mk.injEq] at hw'
  obtain ⟨w1, _, w3, w4, w5, w6⟩ := hw'
  exact ⟨c', hc', by rw [e1, w1], by rw [e2, w5], by rw [e3, w6], by rw [e4, w4], by rw [e5, w3]⟩

def Inv (w : World) : Prop :=
  (∀ c ∈ w.conns, OK c) ∧ (∀ p ∈ w.processed, ProcOK p) ∧ (∀ p ∈ w.processed, ProcOf w.conns p)

/-- How one event may change the list of connections: every connection stays at its index with its wire,
and all keep the invariant (new ones start with it). -/
def Evolve (cs cs' : List Conn) : Prop :=
  (∀ (j : Nat) (c : Conn), cs[j]? = some c → ∃ c', cs'[j]? = some c' ∧ SameWire c c') ∧
  ((∀ c ∈ cs, OK c) → ∀ c ∈ cs', OK c)

theorem Evolve.refl (cs : List Conn) : Evolve cs cs := ⟨fun _ c h => ⟨c, h, SameWire.refl c⟩, id⟩

theorem Evolve.set {cs : List Conn} {i : Nat} {c0 x : Conn} (h0 : cs[i]? = some c0) (hk : Keeps c0 x) :
    Evolve cs (cs.set i x) := by
  refine ⟨fun j c hj => ?_, fun hc y hy => ?_⟩
  · by_cases hij : i = j
    · subst hij
      rw [h0] at hj
      cases hj
      exact ⟨x, by simp [(List.getElem?_eq_some_iff.1 h0).1], hk.1⟩
    · exact ⟨c, by rw [List.getElem?_set_ne hij]; exact hj, SameWire.refl c⟩
  · rcases List.mem_or_eq_of_mem_set hy with hy | hy
    · exact hc y hy
    · subst hy; exact hk.2 (hc c0 (List.mem_of_getElem? h0))

theorem Evolve.append (cs : List Conn) {x : Conn} (hx : OK x) : Evolve cs (cs ++ [x]) := by
  refine ⟨fun j c hj => ?_, fun hc y hy => ?_⟩
  · exact ⟨c, by rw [List.getElem?_append_left (List.getElem?_eq_some_iff.1 hj).1]; exact hj, SameWire.refl c⟩
  · rcases List.mem_append.1 hy with hy | hy
    · exact hc y hy
    · rw [List.mem_singleton.1 hy]; exact hx

theorem Evolve.map (cs : List Conn) (f : Conn → Conn) (hk : ∀ c, Keeps c (f c)) : Evolve cs (cs.map f) := by
  refine ⟨fun j c hj => ⟨f c, by simp [hj], (hk c).1⟩, fun hc y hy => ?_⟩
  obtain ⟨c, hcm, rfl⟩ := List.mem_map.1 hy
  exact (hk c).2 (hc c hcm)

theorem evolve_onConn (w : World) (i : Nat) (f : Conn → Conn) (hk : ∀ c, Keeps c (f c)) :
    Evolve w.conns (w.onConn i f).conns := by
  unfold World.onConn
  split
  · rename_i c0 h0; exact Evolve.set h0 (hk c0)
  · exact Evolve.refl _

theorem evolve_stopAt (w : World) (a : Addr) : Evolve w.conns (w.stopAt a).conns := by
  unfold World.stopAt
  split
  · refine Evolve.map _ _ fun c => ?_
    split
    · exact listenerClose_keeps c
    · exact .refl c
  · exact Evolve.refl _

theorem evolve_step (w : World) (e : Ev) : Evolve w.conns (step w e).conns := by
  cases e with
  | addrUpdate d nid a => simp only [step, World.onDialer]; split <;> exact Evolve.refl _
  | resolverSet d nid a => simp only [step, World.onDialer]; split <;> exact Evolve.refl _
  | dial d dest =>
    simp only [step, World.dial]
    repeat' split
    all_goals first
      | exact Evolve.refl _
      | exact Evolve.append _ ⟨nofun, fun _ => rfl, fun _ => ⟨nofun, fun _ => rfl, Or.inl rfl, nofun, nofun⟩⟩
  | sendIdentity c => exact evolve_onConn _ _ _ sendIdentity_keeps
  | recvIdentity c => exact evolve_onConn _ _ _ recvIdentity_keeps
  | pop c => exact evolve_onConn _ _ _ pop_keeps
  | sendReq c k => exact evolve_onConn _ _ _ fun x => sendReq_keeps x k
  | recvResp c => exact evolve_onConn _ _ _ recvResp_keeps
  | returnConn c =>
    simp only [step, World.returnConn]
    split
    · rename_i c0 h0; exact Evolve.set h0 (returnConn_keeps c0 _ _)
    · exact Evolve.refl _
  | dialerClose c => exact evolve_onConn _ _ _ dialerClose_keeps
  | listenerRead c =>
    simp only [step, World.listenerRead]
    split
    · rename_i c0 h0; exact Evolve.set h0 (afterRead_keeps c0)
    · exact Evolve.refl _
  | listenerEOF c => exact evolve_onConn _ _ _ listenerEOF_keeps
  | listenerClose c => exact evolve_onConn _ _ _ listenerClose_keeps
  | start a id => exact evolve_stopAt w a
  | stop a => exact evolve_stopAt w a
  | rawDial a =>
    simp only [step, World.rawDial]
    repeat' split
    all_goals first
      | exact Evolve.refl _
      | exact Evolve.append _ ⟨nofun, nofun, fun hm => absurd hm.1 nofun⟩
  | rawWrite c m => exact evolve_onConn _ _ _ fun x => rawWrite_keeps x m
  | rawRead c => exact evolve_onConn _ _ _ rawRead_keeps

/-- Only `listenerRead` records anything, and what it records was read from the connection it names. -/
theorem processed_step (w : World) (e : Ev) :
    (step w e).processed = w.processed ∨
    ∃ (i : Nat) (c : Conn), w.conns[i]? = some c ∧ (step w e).processed = w.processed ++ c.readRecords i := by
  cases e
  case listenerRead i =>
    simp only [step, World.listenerRead]
    split
    · rename_i c h0; exact Or.inr ⟨i, c, h0, rfl⟩
    · exact Or.inl rfl
  all_goals
    left
    simp only [step, World.onConn, World.onDialer, World.dial, World.rawDial, World.returnConn, World.stopAt]
    repeat' split
    all_goals rfl

theorem conn_wire_immutable (w : World) (e : Ev) (i : Nat) (c : Conn) (h : w.conns[i]? = some c) :
    ∃ c', (step w e).conns[i]? = some c' ∧ SameWire c c' :=
  (evolve_step w e).1 i c h

theorem inv_step (w : World) (e : Ev) (h : Inv w) : Inv (step w e) := by
  obtain ⟨hc, hp, ho⟩ := h
  have old : ∀ p, ProcOf w.conns p → ProcOf (step w e).conns p := fun p => procOf_mono (evolve_step w e).1
  refine ⟨(evolve_step w e).2 hc, ?_, ?_⟩ <;> intro p hpm <;>
    rcases processed_step w e with e1 | ⟨i, c, h0, e1⟩ <;> rw [e1] at hpm
  · exact hp p hpm
  · rcases List.mem_append.1 hpm with hpm | hpm
    · exact hp p hpm
    · exact readRecords_ok i (hc c (List.mem_of_getElem? h0)) p hpm
  · exact old p (ho p hpm)
  · rcases List.mem_append.1 hpm with hpm | hpm
    · exact old p (ho p hpm)
    · obtain ⟨e0, er⟩ := readRecords_of c i p hpm
      exact old p ⟨c, e0 ▸ h0, er⟩

theorem inv_run (w : World) (evs : List Ev) (h : Inv w) : Inv (run w evs) :=
  List.foldlRecOn (motive := Inv) evs step h fun w hw e _ => inv_step w e hw

/-- A world in which nothing has been dialled yet: any listeners, any dialers, any address maps. -/
def Fresh (w : World) : Prop := w.conns = [] ∧ w.processed = []

theorem inv_fresh (w : World) (h : Fresh w) : Inv w := by
  obtain ⟨h1, h2⟩ := h
  refine ⟨?_, ?_, ?_⟩ <;> (intro x hx; simp_all)

/-- **handshake_isolation (a)** — in every trace (any address updates by configurations or resolvers, any
restarts of listeners under other identities, any interleaving of dialer and listener steps, any foreign
peers on other connections), a request that reaches `onRequest` and was written by a library dialer was
processed by a listener whose `(cid, nid)` is exactly the `(cid, nid)` the dialer intended. -/
theorem handshake_isolation (w : World) (hw : Fresh w) (evs : List Ev) :
    ∀ p ∈ (run w evs).processed, p.lib = true → p.listener = p.intended := by
  intro p hp hlib
  exact ((inv_run w evs (inv_fresh w hw)).2.1 p hp hlib).1

/-- **handshake_isolation (b)** — on a library connection that reached a listener with another identity the
dialer never writes anything but its identity request; the connection is never considered verified, never
pooled, and no response `success` is ever produced for it. -/
theorem mismatch_writes_nothing_else (w : World) (hw : Fresh w) (evs : List Ev) :
    ∀ c ∈ (run w evs).conns, c.lib = true → c.lident ≠ c.intended →
      (c.wrote = [] ∨ c.wrote = [idReq c]) ∧ c.pooled = false ∧ Resp.idOk ∉ c.outbox ∧
      (c.dstate = .dialed ∨ c.dstate = .awaitId ∨ c.dstate = .closed) := by
  intro c hc hlib hne
  have h := (inv_run w evs (inv_fresh w hw)).1 c hc
  have hs := h.stuck ⟨hlib, hne⟩
  refine ⟨hs.wrote, h.not_pooled hs.notVerified, hs.outbox, ?_⟩
  cases hd : c.dstate with
  | dialed => exact Or.inl rfl
  | awaitId => exact Or.inr (Or.inl rfl)
  | verified n => exact absurd hd (hs.notVerified n)
  | closed => exact Or.inr (Or.inr rfl)

/-- **handshake_isolation (c)** — on such a connection, reading the identity response (or the end of the
stream) closes the connection on the dialer side; and the listener has closed its end when it answered. -/
theorem mismatch_closes (w : World) (hw : Fresh w) (evs : List Ev) (i : Nat) (c : Conn)
    (hc : (run w evs).conns[i]? = some c) (hlib : c.lib = true) (hne : c.lident ≠ c.intended)
    (hd : c.dstate = .awaitId) (hready : c.outbox ≠ [] ∨ c.lopen = false) :
    dstateOf (step (run w evs) (.recvIdentity i)) i = .closed := by
  have hm := (mismatch_writes_nothing_else w hw evs c (List.mem_of_getElem? hc) hlib hne).2.2.1
  have hlt : i < (run w evs).conns.length := (List.getElem?_eq_some_iff.1 hc).1
  simp only [step, World.onConn, hc, dstateOf]
  simp only [List.getElem?_set_self hlt]
  unfold Conn.recvIdentity
  rw [if_pos ⟨hlib, hd⟩]
  split
  · rename_i r rest hout
    have : r ≠ Resp.idOk := fun h => hm (by rw [hout, h]; simp)
    rw [if_neg this]
  · rename_i hout
    rcases hready with h | h
    · exact absurd hout h
    · rw [h]; rfl

/-- the listener side of a mismatch: after answering `identityMismatch` the listener's end is closed and the
rest of the stream is never read (`handleConn` returns) -/
theorem listener_closes_on_mismatch (c : Conn) (s : Nat) (want : Identity) (rest : List Msg)
    (ho : c.lopen = true) (hin : c.inbox = Msg.identity s want :: rest) (hne : want ≠ c.lident) :
    c.afterRead.lopen = false ∧ c.afterRead.afterRead = c.afterRead ∧ c.afterRead.readRecords 0 = [] := by
  have h1 : c.afterRead = { c with inbox := rest, outbox := c.outbox ++ [Resp.idMismatch], lopen := false } := by
    unfold Conn.afterRead; rw [if_pos ho, hin]; simp [hne]
  rw [h1]
  refine ⟨rfl, ?_, ?_⟩
  · unfold Conn.afterRead; simp
  · unfold Conn.readRecords; simp

theorem conn_wire_immutable_run (w : World) (evs : List Ev) (i : Nat) (c : Conn) (h : w.conns[i]? = some c) :
    ∃ c', (run w evs).conns[i]? = some c' ∧ SameWire c c' :=
  List.foldlRecOn (motive := fun w' => ∃ c', w'.conns[i]? = some c' ∧ SameWire c c') evs step ⟨c, h, SameWire.refl c⟩
    fun w' ⟨c1, h1, w1⟩ e _ =>
      have ⟨c2, h2, w2⟩ := conn_wire_immutable w' e i c1 h1
      ⟨c2, h2, SameWire.trans w1 w2⟩

/-- **pooled_conn_identity_stable** — (1) the fields tying a connection to one listener process and one
intended identity never change; (2) a connection sitting in a pool was verified for exactly its pool's
identity; (3) whatever is ever processed from a connection is processed by the process it was dialled to,
under the identity verified at dial time.  A process that later listens on the same address has another pid:
it never sees anything written on the old connection. -/
theorem pooled_conn_identity_stable (w : World) (hw : Fresh w) (evs : List Ev) :
    -- (2) pooled ⇒ library connection, in the verified state, attached to the pool's identity
    (∀ c ∈ (run w evs).conns, c.pooled = true →
        c.lib = true ∧ (∃ n, c.dstate = .verified n) ∧ c.lident = c.intended ∧ c.intended.cid = c.src.cid) ∧
    -- (3) processed ⇒ by the process the connection was dialled to, whose identity is the one recorded
    (∀ p ∈ (run w evs).processed, ∃ c, (run w evs).conns[p.conn]? = some c ∧
        p.pid = c.lpid ∧ p.listener = c.lident ∧ p.intended = c.intended ∧ p.lib = c.lib) ∧
    -- (1) and those fields are the ones fixed at dial time, whatever happens later
    (∀ (more : List Ev) (i : Nat) (c : Conn), (run w evs).conns[i]? = some c →
        ∃ c', (run (run w evs) more).conns[i]? = some c' ∧ SameWire c c') := by
  have hinv := inv_run w evs (inv_fresh w hw)
  refine ⟨?_, ?_, ?_⟩
  · intro c hc hpool
    have h := hinv.1 c hc
    obtain ⟨hlib, n, hn⟩ := h.pool hpool
    exact ⟨hlib, ⟨n, hn⟩, Decidable.byContradiction fun hne => (h.stuck ⟨hlib, hne⟩).notVerified n hn, h.cid hlib⟩
  · intro p hp
    obtain ⟨c, hc, e1, e2, e3, e4, _⟩ := hinv.2.2 p hp
    exact ⟨c, hc, e2, e3, e4, e1⟩
  · intro more i c hc
    exact conn_wire_immutable_run _ more i c hc

/-- the part of a listener's raft state that requests can influence: any fold over what reached `onRequest` -/
def nodeState {σ : Type} (f : σ → Processed → σ) (s₀ : σ) (w : World) (pid : Nat) : σ :=
  (w.processed.filter (fun p => p.pid = pid)).foldl f s₀

/-- a request counts as coming from the listener's own cluster and being meant for this very node -/
def Own (p : Processed) : Prop := p.src.cid = p.listener.cid ∧ p.intended = p.listener

instance (p : Processed) : Decidable (Own p) := by unfold Own; exact inferInstance

/-- **no_cross_cluster_influence** — several clusters share one address map (any identities on any addresses,
any mix-ups).  Every request of a library dialer that influences a node comes from a dialer of the node's own
cluster and was meant for that node; hence the node's state is the same function of the requests whether or
not the library requests of foreign clusters are erased from history. -/
theorem no_cross_cluster_influence (w : World) (hw : Fresh w) (evs : List Ev) :
    (∀ p ∈ (run w evs).processed, p.lib = true → Own p) ∧
    (∀ {σ : Type} (f : σ → Processed → σ) (s₀ : σ) (pid : Nat),
      nodeState f s₀ (run w evs) pid =
        (((run w evs).processed.filter (fun p => p.lib = false ∨ Own p)).filter (fun p => p.pid = pid)).foldl f s₀) := by
  have hinv := inv_run w evs (inv_fresh w hw)
  have h1 : ∀ p ∈ (run w evs).processed, p.lib = true → Own p := by
    intro p hp hlib
    obtain ⟨a, b⟩ := hinv.2.1 p hp hlib
    exact ⟨b, a.symm⟩
  refine ⟨h1, ?_⟩
  intro σ f s₀ pid
  unfold nodeState
  congr 1
  congr 1
  symm
  apply List.filter_eq_self.mpr
  intro p hp
  cases hl : p.lib with
  | false => simp
  | true => simp [h1 p hp hl]

/-- `handleConn` itself does not insist on a handshake: a peer that is NOT this library gets a vote request
processed by whatever listens at the address.  (This is why the property speaks about nodes running the
library; see `handshake_isolation` for those.) -/
theorem listener_does_not_require_handshake :
    ∃ (w : World) (evs : List Ev), Fresh w ∧
      ∃ p ∈ (run w evs).processed, p.lib = false ∧ p.kind = .vote ∧ p.listener = ⟨7, 1⟩ := by
  refine ⟨{ procs := [{ ident := ⟨7, 1⟩, addr := 0, alive := true }] },
    [.rawDial 0, .rawWrite 0 (.req .vote 9), .listenerRead 0], ⟨rfl, rfl⟩, ?_⟩
  exact ⟨_, List.mem_singleton.mpr rfl, rfl, rfl, rfl⟩

/-- The compound operations compared by `conndiff` are traces of the automaton, so the theorems cover them. -/
theorem run_append (w : World) (a b : List Ev) : run (run w a) b = run w (a ++ b) := by
  simp [run, List.foldl_append]

theorem getConn_world (w : World) (d dest : Nat) : (getConn w d dest).world = run w (getConnEvs w d dest) := by
  unfold getConn
  dsimp only
  repeat' split
  all_goals rfl

theorem useConn_is_trace (w : World) (c : Nat) (k : Kind) : ∃ evs, (useConn w c k).world = run w evs := by
  unfold useConn
  split
  · exact ⟨useEvs c k, rfl⟩
  · exact ⟨[], rfl⟩

theorem doRPC_is_trace (w : World) (d dest : Nat) (k : Kind) : ∃ evs, (doRPC w d dest k).world = run w evs := by
  unfold doRPC
  dsimp only
  split
  · exact ⟨getConnEvs w d dest, getConn_world w d dest⟩
  · rename_i c _
    obtain ⟨e2, h2⟩ := useConn_is_trace (getConn w d dest).world c k
    split
    · refine ⟨getConnEvs w d dest ++ e2 ++ putEvs c, ?_⟩
      show putConn _ c = _
      unfold putConn
      rw [h2, getConn_world, run_append, run_append, List.append_assoc]
    · refine ⟨getConnEvs w d dest ++ e2, ?_⟩
      rw [h2, getConn_world, run_append]


/-! ### non-vacuity of Part 1: cluster 7 and cluster 8 both have a node 1; the dialer's address map is wrong first -/

def exWorld : World :=
  { procs := [{ ident := ⟨7, 1⟩, addr := 0, alive := true }, { ident := ⟨8, 1⟩, addr := 1, alive := true }],
    dialers := [{ ident := ⟨7, 2⟩, addrs := [(1, 1)] }] }

example : Fresh exWorld := ⟨rfl, rfl⟩
/-- node (7,2) dials "node 1" at the address of (8,1): `IdentityError`, nothing processed, connection closed on
both ends, nothing but the identity request was written -/
example : (doRPC exWorld 0 1 .vote).err = .identityErr ∧ (doRPC exWorld 0 1 .vote).world.processed = [] ∧
    (doRPC exWorld 0 1 .vote).world.conns.map (fun c => (c.dstate, c.lopen, c.wrote.length, c.lident)) =
      [(.closed, false, 1, ⟨8, 1⟩)] := by decide
/-- after the configuration corrects the address the request is processed by (7,1) … -/
example : (doRPC (step exWorld (.addrUpdate 0 1 0)) 0 1 .vote).err = .ok ∧
    (doRPC (step exWorld (.addrUpdate 0 1 0)) 0 1 .vote).world.processed.map (fun p => (p.lib, p.listener, p.intended)) =
      [(true, ⟨7, 1⟩, ⟨7, 1⟩)] := by decide
/-- … the connection is pooled and reused without a new handshake even when the map is wrong again … -/
example :
    let w1 := (doRPC (step exWorld (.addrUpdate 0 1 0)) 0 1 .vote).world
    let w2 := (doRPC (step w1 (.addrUpdate 0 1 1)) 0 1 .append).world
    w1.conns.map (·.pooled) = [true] ∧ w2.conns.length = 1 ∧
    w2.processed.map (fun p => (p.kind, p.listener)) = [(.vote, ⟨7, 1⟩), (.append, ⟨7, 1⟩)] := by decide
/-- … and when (8,1) takes over address 0 the pooled connection is dead: I/O error, nothing reaches (8,1);
the next call dials again and is refused by the handshake -/
example :
    let w1 := (doRPC (step exWorld (.addrUpdate 0 1 0)) 0 1 .vote).world
    let w2 := step w1 (.start 0 ⟨8, 1⟩)
    let r3 := doRPC w2 0 1 .append
    let r4 := doRPC r3.world 0 1 .append
    r3.err = .ioErr ∧ r4.err = .identityErr ∧ r4.world.processed.length = 1 := by decide

/-- replication.go pipelines: two append requests are written before the first response is read; both reach
(7,1), the connection goes back to the pool with nothing outstanding -/
example :
    let g := getConn (step exWorld (.addrUpdate 0 1 0)) 0 1
    let w := run g.world [.sendReq 0 .append, .sendReq 0 .append, .listenerRead 0, .listenerRead 0,
      .recvResp 0, .recvResp 0, .returnConn 0]
    g.conn = some 0 ∧ w.processed.map (fun p => (p.kind, p.listener)) = [(.append, ⟨7, 1⟩), (.append, ⟨7, 1⟩)] ∧
    w.conns.map (fun c => (c.dstate, c.pooled)) = [(.verified 0, true)] := by decide

open Lock

def inoOf : PC → Option Nat
  | .idle => none
  | .created i => some i
  | .linked i => some i
  | .linkFailed i => some i
  | .checked i _ => some i
  | .holding i => some i

/-- the inode with which a process owns the name `lock` -/
def owns : PC → Option Nat
  | .linked i => some i
  | .checked i r => if r = .ok then some i else none
  | .holding i => some i
  | _ => none

def LInv (s : State) : Prop :=
  (∀ p i, owns (s.procs p).pc = some i → s.lock = some i) ∧
  (∀ p i, inoOf (s.procs p).pc = some i → i < s.next) ∧
  (∀ p q i, inoOf (s.procs p).pc = some i → inoOf (s.procs q).pc = some i → p = q)

theorem owns_ino (pc : PC) (i : Nat) (h : owns pc = some i) : inoOf pc = some i := by
  cases pc <;> simp_all [owns, inoOf]

theorem setProc_pc (s : State) (p : Nat) (pr : Lock.Proc) (q : Nat) :
    ((s.setProc p pr).procs q).pc = if q = p then pr.pc else (s.procs q).pc := by
  show (if q = p then pr else s.procs q).pc = _
  split <;> rfl

/-- A step after which every process has at most the inode it had, and every owner finds its inode under the
name `lock`, keeps the invariant. -/
theorem linv_of_ino_le {s s' : State} (h : LInv s) (hn : s'.next = s.next)
    (ino : ∀ q i, inoOf (s'.procs q).pc = some i → inoOf (s.procs q).pc = some i)
    (own : ∀ q i, owns (s'.procs q).pc = some i → s'.lock = some i) : LInv s' :=
  ⟨own, fun q i hi => hn ▸ h.2.1 q i (ino q i hi), fun q r i hq hr => h.2.2 q r i (ino q i hq) (ino r i hr)⟩

/-- `p` moves on without touching the name `lock`, keeping at most its inode and its ownership. -/
theorem linv_move {s : State} (h : LInv s) (p : Nat) (pr : Lock.Proc)
    (ino : ∀ i, inoOf pr.pc = some i → inoOf (s.procs p).pc = some i)
    (own : ∀ i, owns pr.pc = some i → owns (s.procs p).pc = some i) : LInv (s.setProc p pr) := by
  refine linv_of_ino_le h rfl ?_ ?_ <;> intro q i <;> rw [setProc_pc] <;> split
  · rename_i e; rw [e]; exact ino i
  · exact id
  · exact fun hi => h.1 p i (own i hi)
  · exact h.1 q i

/-- `p` creates its temp file: it gets the inode `s.next`, which nobody has. -/
theorem linv_fresh_ino {s : State} (h : LInv s) (p : Nat) (pr : Lock.Proc) (temps : List Nat)
    (hpc : pr.pc = .created s.next) :
    LInv { s.setProc p pr with temps := temps, next := s.next + 1 } := by
  refine ⟨?_, ?_, ?_⟩ <;> intro q <;> dsimp only <;> rw [setProc_pc, hpc]
  · intro i; split
    · intro hi; cases hi
    · exact h.1 q i
  · intro i; split
    · intro hi; cases hi; exact Nat.lt_succ_self _
    · exact fun hi => Nat.lt_succ_of_lt (h.2.1 q i hi)
  · intro r i; rw [setProc_pc, hpc]
    split <;> split
    · rename_i eq er; intro _ _; rw [eq, er]
    · intro hq hr; cases hq; exact absurd (h.2.1 r _ hr) (Nat.lt_irrefl _)
    · intro hq hr; cases hr; exact absurd (h.2.1 q _ hq) (Nat.lt_irrefl _)
    · exact h.2.2 q r i

/-- what `stat` and `cleanup` leave a process with, it owned before -/
theorem owns_checked {i j : Nat} {r : Res} (h : owns (.checked i r) = some j) : owns (.linked i) = some j := by
  simp only [owns] at h ⊢
  split at h
  · exact h
  · cases h

theorem owns_cleanup {i j : Nat} {r : Res} (h : owns (if r = .ok then .holding i else .idle) = some j) :
    owns (.checked i r) = some j := by
  split at h
  · rename_i e; simp only [owns, e, if_true]; exact h
  · cases h

theorem linv_step (s : State) (e : Lock.Ev) (h : LInv s) : LInv (Lock.step s e) := by
  cases e with
  | create p job =>
    simp only [Lock.step]; split
    · exact linv_fresh_ino h p _ _ rfl
    · exact h
  | link p =>
    simp only [Lock.step]; split
    · rename_i i hpc
      split
      · -- the name was free, so nobody owned anything
        rename_i hl
        refine linv_of_ino_le h rfl ?_ ?_ <;> intro q j <;> dsimp only <;> rw [setProc_pc] <;> split
        · rename_i e; rw [e, hpc]; exact id
        · exact id
        · intro hj; cases hj; rfl
        · intro hj; rw [h.1 q j hj] at hl; cases hl
      · exact linv_move h p _ (by rw [hpc]; exact fun _ => id) (fun _ hj => by cases hj)
    · exact h
  | stat p =>
    simp only [Lock.step]; split
    · rename_i i hpc
      repeat' split
      all_goals exact linv_move h p _ (by rw [hpc]; exact fun _ => id) (by rw [hpc]; exact fun _ => owns_checked)
    · exact h
  | cleanup p =>
    simp only [Lock.step]; split
    · exact linv_move h p _ (fun _ hj => by cases hj) (fun _ hj => by cases hj)
    · rename_i i r hpc
      refine linv_move h p _ (fun j => ?_) (by rw [hpc]; exact fun _ => owns_cleanup)
      rw [hpc]; dsimp only; split
      · exact id
      · intro hj; cases hj
    · exact h
  | unlock p =>
    simp only [Lock.step]; split
    · -- another owner would own the inode under `lock`, which is the holder's: two processes with one inode
      rename_i i hpc
      refine linv_of_ino_le h rfl ?_ ?_ <;> intro q j <;> dsimp only <;> rw [setProc_pc] <;> split
      · intro hj; cases hj
      · exact id
      · intro hj; cases hj
      · rename_i ne
        intro hj
        have e := h.1 q j hj
        rw [h.1 p i (by rw [hpc]; rfl)] at e
        cases e
        exact absurd (h.2.2 q p _ (owns_ino _ _ hj) (by rw [hpc]; rfl)) ne
    · exact h
  | idRead p =>
    simp only [Lock.step]; split
    · exact linv_move h p _ (fun _ => id) (fun _ => id)
    · exact h
  | idWrite p cid nid =>
    simp only [Lock.step]; repeat' split
    all_goals exact h

theorem linv_run (s : State) (evs : List Lock.Ev) (h : LInv s) : LInv (Lock.run s evs) :=
  List.foldlRecOn (motive := LInv) evs Lock.step h fun s hs e _ => linv_step s e hs

/-- nobody is inside `lockDir` or a critical section (a stale `lock` file may or may not be present) -/
def Quiet (s : State) : Prop := ∀ p, (s.procs p).pc = .idle

theorem linv_quiet (s : State) (h : Quiet s) : LInv s := by
  refine ⟨?_, ?_, ?_⟩ <;> intro p <;> simp [h p, owns, inoOf]

/-- **lock_exclusive** — any number of processes run `lockDir`, their critical section and `unlockDir`,
interleaved at the granularity of single file-system calls in any order: at no moment do two of them hold the
lock (have returned nil from `lockDir` and not yet called `unlockDir`); and whoever holds it owns the name
`lock`, so every `os.Link` of anybody else fails meanwhile. -/
theorem lock_exclusive (s : State) (hq : Quiet s) (evs : List Lock.Ev) :
    (∀ p q i j, ((Lock.run s evs).procs p).pc = .holding i → ((Lock.run s evs).procs q).pc = .holding j → p = q) ∧
    (∀ p i, ((Lock.run s evs).procs p).pc = .holding i → (Lock.run s evs).lock = some i) := by
  obtain ⟨h1, _, h3⟩ := linv_run s evs (linv_quiet s hq)
  refine ⟨?_, ?_⟩
  · intro p q i j hp hq'
    have e1 := h1 p i (by rw [hp]; rfl)
    have e2 := h1 q j (by rw [hq']; rfl)
    rw [e1] at e2
    injection e2 with e2
    subst e2
    exact h3 p q i (by rw [hp]; rfl) (by rw [hq']; rfl)
  · intro p i hp
    exact h1 p i (by rw [hp]; rfl)

/-- the holder keeps holding until ITS `unlockDir` -/
theorem holding_until_unlock (s : State) (p i : Nat) (e : Lock.Ev) (h : (s.procs p).pc = .holding i)
    (hne : e ≠ .unlock p) : ((Lock.step s e).procs p).pc = .holding i := by
  -- an event of another process leaves `p` alone
  have other : ∀ q pr, q ≠ p → ((s.setProc q pr).procs p).pc = .holding i := fun q pr hq => by
    rw [setProc_pc, if_neg (Ne.symm hq)]; exact h
  cases e with
  | create q _ | link q | stat q | cleanup q =>
    -- and the steps of `lockDir` need another program counter than `holding`
    by_cases hq : q = p
    · subst hq; simp only [Lock.step, h]
    · simp only [Lock.step]; repeat' split
      all_goals first | exact h | exact other _ _ hq
  | unlock q =>
    simp only [Lock.step]; split
    · exact other _ _ fun e => hne (e ▸ rfl)
    · exact h
  | idRead q =>
    simp only [Lock.step]; split
    · rw [setProc_pc]; split
      · rename_i e; exact e ▸ h
      · exact h
    · exact h
  | idWrite q cid nid =>
    simp only [Lock.step]; repeat' split
    all_goals exact h

theorem holding_until_unlock_run (s : State) (p i : Nat) (evs : List Lock.Ev) (h : (s.procs p).pc = .holding i)
    (hne : Lock.Ev.unlock p ∉ evs) : ((Lock.run s evs).procs p).pc = .holding i :=
  List.foldlRecOn (motive := fun s => (s.procs p).pc = .holding i) evs Lock.step h
    fun s hs e he => holding_until_unlock s p i e hs (fun h => hne (h ▸ he))

/-- while the name `lock` exists every `os.Link` fails and that `lockDir` call ends with `ErrLockExists` -/
theorem link_fails_while_locked (s : State) (q j i : Nat) (hq : (s.procs q).pc = .created j) (hl : s.lock = some i) :
    ((Lock.step s (.link q)).procs q).pc = .linkFailed j ∧
    ((Lock.step (Lock.step s (.link q)) (.cleanup q)).procs q).last = some .lockExists ∧
    ((Lock.step (Lock.step s (.link q)) (.cleanup q)).procs q).pc = .idle := by
  simp [Lock.step, hq, hl, State.setProc]

/-- What breaks without the discipline "only the holder unlocks": `unlockDir` removes the name whoever owns it.
(Not a defect of the library: both call sites run after a successful `lockDir`.) -/
theorem rogue_unlock_breaks_exclusion :
    ∃ s : State, (s.procs 0).pc = .holding 0 ∧ (s.procs 1).pc = .holding 1 :=
  ⟨Lock.run (rogueUnlock (Lock.run {} (lockDirEvs 0 .serve))) (lockDirEvs 1 .serve), by decide, by decide⟩

/-- one event changes the stored identity only if it is the write step of a `SetIdentity(cid, nid)` with non-zero
ids, and only when the stored value has a zero component -/
theorem stored_step (s : State) (e : Lock.Ev) :
    (Lock.step s e).stored = s.stored ∨
    ((s.stored.1 = 0 ∨ s.stored.2 = 0) ∧
      ∃ p cid nid, e = .idWrite p cid nid ∧ cid ≠ 0 ∧ nid ≠ 0 ∧ (Lock.step s e).stored = (cid, nid)) := by
  cases e with
  | idWrite p cid nid =>
    simp only [Lock.step]
    split
    · split
      · rename_i v _
        by_cases hz : cid = 0 ∨ nid = 0
        · rw [if_pos hz]; exact Or.inl rfl
        · rw [if_neg hz]
          by_cases he : cid = v.1 ∧ nid = v.2
          · rw [if_pos he]; exact Or.inl rfl
          · rw [if_neg he]
            by_cases hv : v.1 ≠ 0 ∧ v.2 ≠ 0
            · rw [if_pos hv]; exact Or.inl rfl
            · rw [if_neg hv]
              by_cases hs : s.stored = v
              · rw [if_pos hs]
                right
                simp only [not_or] at hz
                refine ⟨?_, p, cid, nid, rfl, hz.1, hz.2, rfl⟩
                rw [hs]
                by_cases h1 : v.1 = 0
                · exact Or.inl h1
                · by_cases h2 : v.2 = 0
                  · exact Or.inr h2
                  · exact absurd ⟨h1, h2⟩ hv
              · rw [if_neg hs]; exact Or.inl rfl
      · exact Or.inl rfl
    · exact Or.inl rfl
  | _ => left; simp only [Lock.step]; (repeat' split) <;> rfl

/-- **identity_immutable** — once both ids are non-zero nothing changes the stored identity: not `SetIdentity`
with other ids (by anyone, concurrently, interleaved in any way), not lock traffic. -/
theorem identity_immutable (s : State) (evs : List Lock.Ev) (h : s.stored.1 ≠ 0 ∧ s.stored.2 ≠ 0) :
    (Lock.run s evs).stored = s.stored := by
  refine List.foldlRecOn (motive := fun s' => s'.stored = s.stored) evs Lock.step rfl fun s' hs e _ => ?_
  rcases stored_step s' e with h1 | ⟨h1 | h1, _⟩
  · exact h1.trans hs
  · exact absurd (hs ▸ h1) h.1
  · exact absurd (hs ▸ h1) h.2

/-- what the API can produce: no identity, or both ids non-zero -/
def StoredWF (s : State) : Prop := s.stored = (0, 0) ∨ (s.stored.1 ≠ 0 ∧ s.stored.2 ≠ 0)

theorem storedWF_run (s : State) (evs : List Lock.Ev) (h : StoredWF s) : StoredWF (Lock.run s evs) := by
  refine List.foldlRecOn (motive := StoredWF) evs Lock.step h fun s h e _ => ?_
  rcases stored_step s e with h1 | ⟨_, p, cid, nid, _, hc, hn, h1⟩
  · unfold StoredWF; rw [h1]; exact h
  · right; rw [h1]; exact ⟨hc, hn⟩

/-- hence: the stored identity changes at most once, from `(0,0)` -/
theorem identity_set_once (s : State) (evs : List Lock.Ev) (h : StoredWF s) :
    (Lock.run s evs).stored = s.stored ∨ s.stored = (0, 0) := by
  rcases h with h | h
  · exact Or.inr h
  · exact Or.inl (identity_immutable s evs h)

/-- `SetIdentity` as a whole is a trace of the lock automaton -/
theorem setIdentity_is_trace (s : State) (p cid nid : Nat) :
    ∃ evs, (setIdentity s p cid nid).state = Lock.run s evs := by
  unfold setIdentity
  split
  · exact ⟨[], rfl⟩
  · split
    · exact ⟨[], rfl⟩
    · dsimp only
      split
      · exact ⟨lockDirEvs p .setId ++ [.idRead p, .idWrite p cid nid, .unlock p], by simp [Lock.run, List.foldl_append]⟩
      · exact ⟨lockDirEvs p .setId, rfl⟩

/-- **What `SetIdentity` guarantees about the directory**: a stored identity with both ids non-zero survives
every call, whatever the arguments. -/
theorem setIdentity_guarantee (s : State) (p cid nid : Nat) (h : s.stored.1 ≠ 0 ∧ s.stored.2 ≠ 0) :
    (setIdentity s p cid nid).state.stored = s.stored := by
  obtain ⟨evs, he⟩ := setIdentity_is_trace s p cid nid
  rw [he]; exact identity_immutable s evs h

/-- an uninterrupted `lockDir` on an unlocked directory succeeds -/
theorem lockDir_free (s : State) (p : Nat) (job : Job) (hp : (s.procs p).pc = .idle) (hl : s.lock = none) :
    ((Lock.run s (lockDirEvs p job)).procs p).pc = .holding s.next ∧
    (Lock.run s (lockDirEvs p job)).stored = s.stored := by
  simp [lockDirEvs, Lock.run, Lock.step, hp, hl, State.setProc]

theorem unlock_releases (t : State) (p i : Nat) (h : (t.procs p).pc = .holding i) :
    (Lock.step t (.unlock p)).lock = none := by
  simp [Lock.step, h]

/-- the result and the lock after a call of `SetIdentity` by an idle process on an unlocked directory -/
theorem setIdentity_unlocked (s : State) (p cid nid : Nat) (hc : cid ≠ 0) (hn : nid ≠ 0)
    (hp : (s.procs p).pc = .idle) (hl : s.lock = none) :
    (setIdentity s p cid nid).returned = bodyResult s.stored cid nid ∧
    (setIdentity s p cid nid).state.lock = none := by
  obtain ⟨h1, h2⟩ := lockDir_free s p .setId hp hl
  have hh : isHolding ((Lock.run s (lockDirEvs p .setId)).procs p).pc = true := by rw [h1]; rfl
  unfold setIdentity
  rw [if_neg hc, if_neg hn]
  dsimp only
  rw [if_pos hh]
  refine ⟨by rw [h2], ?_⟩
  show (Lock.step (Lock.step (Lock.step _ (.idRead p)) (.idWrite p cid nid)) (.unlock p)).lock = none
  apply unlock_releases _ p s.next
  apply holding_until_unlock _ _ _ _ _ (by intro h; cases h)
  exact holding_until_unlock _ _ _ _ h1 (by intro h; cases h)

/-- **and what it reports** (after the repair of the deferred unlock in storage.go): on a directory that
stores a non-zero identity, `SetIdentity(cid, nid)` with non-zero ids returns nil exactly when the ids are the
stored ones and `ErrIdentityAlreadySet` otherwise; the stored identity is unchanged and the lock released. -/
theorem setIdentity_mismatch_reports_alreadySet (s : State) (p cid nid : Nat) (hc : cid ≠ 0) (hn : nid ≠ 0)
    (hp : (s.procs p).pc = .idle) (hl : s.lock = none) (hs : s.stored.1 ≠ 0 ∧ s.stored.2 ≠ 0) :
    (setIdentity s p cid nid).returned = (if cid = s.stored.1 ∧ nid = s.stored.2 then .ok else .alreadySet) ∧
    (setIdentity s p cid nid).state.stored = s.stored ∧ (setIdentity s p cid nid).state.lock = none := by
  obtain ⟨h1, h2⟩ := setIdentity_unlocked s p cid nid hc hn hp hl
  refine ⟨?_, setIdentity_guarantee s p cid nid hs, h2⟩
  rw [h1]; unfold bodyResult
  by_cases he : cid = s.stored.1 ∧ nid = s.stored.2
  · rw [if_pos he, if_pos he]
  · rw [if_neg he, if_neg he, if_pos hs]

/-- zero ids are refused before anything is touched -/
theorem setIdentity_zero (s : State) (p cid nid : Nat) (h : cid = 0 ∨ nid = 0) :
    (setIdentity s p cid nid).returned ≠ .ok ∧ (setIdentity s p cid nid).state.stored = s.stored ∧
    (setIdentity s p cid nid).state.lock = s.lock := by
  unfold setIdentity
  by_cases hc : cid = 0
  · simp [hc]
  · have hn : nid = 0 := by rcases h with h | h; exact absurd h hc; exact h
    simp [hc, hn]

/-- on a directory without identity the first call stores it -/
theorem setIdentity_fresh (s : State) (p cid nid : Nat) (hc : cid ≠ 0) (hn : nid ≠ 0)
    (hp : (s.procs p).pc = .idle) (hl : s.lock = none) (hs : s.stored = (0, 0)) :
    (setIdentity s p cid nid).returned = .ok ∧ (setIdentity s p cid nid).state.stored = (cid, nid) := by
  refine ⟨?_, ?_⟩
  · rw [(setIdentity_unlocked s p cid nid hc hn hp hl).1]
    unfold bodyResult; simp [hs]
  · obtain ⟨h1, h2⟩ := lockDir_free s p .setId hp hl
    have hh : isHolding ((Lock.run s (lockDirEvs p .setId)).procs p).pc = true := by rw [h1]; rfl
    unfold setIdentity
    rw [if_neg hc, if_neg hn]
    dsimp only
    rw [if_pos hh]
    show (Lock.step (Lock.step (Lock.step _ (.idRead p)) (.idWrite p cid nid)) (.unlock p)).stored = (cid, nid)
    generalize Lock.run s (lockDirEvs p .setId) = t at h1 h2
    simp [Lock.step, h1, State.setProc, h2, hs, hc, hn]

/-- concrete instance (the input on which the unrepaired code returned nil): stored `(1,2)`, `SetIdentity(dir, 3, 4)` -/
example :
    let r := setIdentity { stored := (1, 2) } 0 3 4
    r.returned = .alreadySet ∧ r.state.stored = (1, 2) ∧ r.state.lock = none := by decide
example : (setIdentity { stored := (1, 2) } 0 1 2).returned = .ok := by decide

/-- a held lock makes `SetIdentity` fail with `ErrLockExists` and change nothing -/
theorem setIdentity_locked (s : State) (p cid nid i : Nat) (hc : cid ≠ 0) (hn : nid ≠ 0)
    (hp : (s.procs p).pc = .idle) (hl : s.lock = some i) :
    (setIdentity s p cid nid).returned = .lockExists ∧ (setIdentity s p cid nid).state.stored = s.stored := by
  unfold setIdentity
  simp [hc, hn, lockDirEvs, Lock.run, Lock.step, hp, hl, State.setProc, isHolding]

/-- **new_requires_identity** — `New` succeeds exactly when both ids are non-zero; the node then carries the
stored identity, and by `identity_immutable` the directory keeps saying the same for ever after. -/
theorem new_requires_identity (s : State) :
    ((newNode s).1 = .ok ↔ (s.stored.1 ≠ 0 ∧ s.stored.2 ≠ 0)) ∧
    ((newNode s).1 ≠ .ok → (newNode s).1 = .identityNotSet) ∧
    ((newNode s).1 = .ok → ∀ evs, (⟨(Lock.run s evs).stored.1, (Lock.run s evs).stored.2⟩ : Identity) = (newNode s).2) := by
  unfold newNode
  split
  · rename_i h
    refine ⟨⟨fun h' => by simp at h', fun h' => ?_⟩, fun _ => rfl, fun h' => by simp at h'⟩
    rcases h with h | h
    · exact absurd h h'.1
    · exact absurd h h'.2
  · rename_i h
    simp only [not_or] at h
    refine ⟨⟨fun _ => h, fun _ => rfl⟩, fun h' => absurd rfl h', fun _ evs => ?_⟩
    rw [identity_immutable s evs h]

/-- **serve_holds_lock** — from the moment `Serve`'s `lockDir` returned nil until `Serve` returns (its deferred
`unlockDir`), whatever else happens on the directory: it still holds, the name `lock` is its link, nobody else
holds, and every `SetIdentity` / `Serve` started by anyone else meanwhile gets `ErrLockExists` at its link step. -/
theorem serve_holds_lock (s : State) (hq : Quiet s) (evs₁ evs₂ : List Lock.Ev) (p i : Nat)
    (hserve : ((Lock.run s evs₁).procs p).pc = .holding i) (hno : Lock.Ev.unlock p ∉ evs₂) :
    let s' := Lock.run (Lock.run s evs₁) evs₂
    (s'.procs p).pc = .holding i ∧ s'.lock = some i ∧ ∀ q j, (s'.procs q).pc = .holding j → q = p := by
  intro s'
  have hp : (s'.procs p).pc = .holding i := holding_until_unlock_run _ p i evs₂ hserve hno
  have he : s' = Lock.run s (evs₁ ++ evs₂) := by simp [s', Lock.run, List.foldl_append]
  obtain ⟨x1, x2⟩ := lock_exclusive s hq (evs₁ ++ evs₂)
  rw [← he] at x1 x2
  exact ⟨hp, x2 p i hp, fun q j hq' => x1 q p j i hq' hp⟩

/-- `Serve` start/end as defined in the model are such traces -/
theorem serveStart_is_trace (s : State) (p : Nat) : serveStart s p = Lock.run s (lockDirEvs p .serve) := rfl

/-- three processes race, their file-system calls interleaved; exactly process 1 (first to link) holds -/
example :
    let s := Lock.run {} [.create 0 .serve, .create 1 .setId, .create 2 .serve, .link 1, .link 0, .stat 1, .link 2,
      .cleanup 0, .cleanup 1, .cleanup 2]
    (s.procs 0).pc = .idle ∧ (s.procs 0).last = some .lockExists ∧ (s.procs 1).pc = .holding 1 ∧
    (s.procs 2).last = some .lockExists ∧ s.lock = some 1 ∧ s.temps = [] := by decide
example : Quiet ({} : State) := fun _ => rfl
/-- first `SetIdentity` stores, a different one afterwards changes nothing, zero ids are refused -/
example : (setIdentity {} 0 1 2).state.stored = (1, 2) ∧ (setIdentity {} 0 1 2).returned = .ok ∧
    (setIdentity {} 0 0 2).returned = .cidZero ∧ (setIdentity {} 0 1 0).returned = .nidZero := by decide
example : (newNode {}).1 = .identityNotSet ∧ (newNode (setIdentity {} 0 1 2).state).1 = .ok := by decide
/-- `Serve` holds; a second `Serve` and a `SetIdentity` on the same directory fail; after the first returns they succeed -/
example :
    let s1 := serveStart { stored := (1, 2) } 0
    let s2 := serveStart s1 1
    (s1.procs 0).pc = .holding 0 ∧ (s2.procs 1).last = some .lockExists ∧
    (setIdentity s2 2 1 2).returned = .lockExists ∧
    ((serveStart (serveEnd s2 0) 1).procs 1).pc = .holding 2 := by decide

/-- C20 over the model: for every trace of the connection automaton from a world without connections (any
listeners under any identities on any addresses, any dialers, any address maps and resolver answers, changing
in any way) and every interleaving of lock/identity operations on a directory:

1. a request of a library dialer reaches `onRequest` only at a listener whose `(cid,nid)` equals the dialer's
   intended `(cid,nid)`, and dialer and listener are then of the same cluster;
2. on a connection to anybody else the dialer writes nothing but its identity request, and never pools it;
3. a pooled connection is attached to the identity verified when it was dialled, and what is processed from a
   connection is processed by the process it was dialled to;
4. at most one process holds the directory lock at a time;
5. a stored identity with both ids non-zero never changes;
6. `New` succeeds exactly on a directory with both ids non-zero;
7. `SetIdentity` with non-zero ids on an unlocked directory that stores a non-zero identity returns nil exactly
   for the stored ids and `ErrIdentityAlreadySet` otherwise, and never changes what is stored. -/
def C20_statement : Prop :=
  (∀ (w : World) (evs : List Conn.Ev), Fresh w →
    (∀ p ∈ (Conn.run w evs).processed, p.lib = true → p.listener = p.intended ∧ p.src.cid = p.listener.cid) ∧
    (∀ c ∈ (Conn.run w evs).conns, c.lib = true → c.lident ≠ c.intended →
        (c.wrote = [] ∨ c.wrote = [idReq c]) ∧ c.pooled = false) ∧
    (∀ c ∈ (Conn.run w evs).conns, c.pooled = true → c.lib = true ∧ c.lident = c.intended) ∧
    (∀ p ∈ (Conn.run w evs).processed, ∃ c, (Conn.run w evs).conns[p.conn]? = some c ∧
        p.pid = c.lpid ∧ p.listener = c.lident ∧ p.intended = c.intended)) ∧
  (∀ (s : State) (evs : List Lock.Ev), Quiet s →
    ∀ p q i j, ((Lock.run s evs).procs p).pc = .holding i → ((Lock.run s evs).procs q).pc = .holding j → p = q) ∧
  (∀ (s : State) (evs : List Lock.Ev), s.stored.1 ≠ 0 ∧ s.stored.2 ≠ 0 → (Lock.run s evs).stored = s.stored) ∧
  (∀ s : State, (newNode s).1 = .ok ↔ (s.stored.1 ≠ 0 ∧ s.stored.2 ≠ 0)) ∧
  (∀ (s : State) (p cid nid : Nat), cid ≠ 0 → nid ≠ 0 → (s.procs p).pc = .idle → s.lock = none →
    s.stored.1 ≠ 0 ∧ s.stored.2 ≠ 0 →
    (setIdentity s p cid nid).returned = (if cid = s.stored.1 ∧ nid = s.stored.2 then .ok else .alreadySet) ∧
    (setIdentity s p cid nid).state.stored = s.stored)

theorem C20 : C20_statement := by
  refine ⟨fun w evs hw => ⟨?_, ?_, ?_, ?_⟩, ?_, ?_, ?_, ?_⟩
  · intro p hp hlib
    obtain ⟨a, b⟩ := (no_cross_cluster_influence w hw evs).1 p hp hlib
    exact ⟨b.symm, a⟩
  · intro c hc hlib hne
    obtain ⟨a, b, _⟩ := mismatch_writes_nothing_else w hw evs c hc hlib hne
    exact ⟨a, b⟩
  · intro c hc hpool
    obtain ⟨a, _, b, _⟩ := (pooled_conn_identity_stable w hw evs).1 c hc hpool
    exact ⟨a, b⟩
  · intro p hp
    obtain ⟨c, hc, a, b, d, _⟩ := (pooled_conn_identity_stable w hw evs).2.1 p hp
    exact ⟨c, hc, a, b, d⟩
  · intro s evs hq
    exact (lock_exclusive s hq evs).1
  · exact fun s evs h => identity_immutable s evs h
  · exact fun s => (new_requires_identity s).1
  · intro s p cid nid hc hn hp hl hs
    obtain ⟨a, b, _⟩ := setIdentity_mismatch_reports_alreadySet s p cid nid hc hn hp hl hs
    exact ⟨a, b⟩

end C20
end Raft

#print axioms Raft.C20.C20
#print axioms Raft.C20.handshake_isolation
#print axioms Raft.C20.mismatch_writes_nothing_else
#print axioms Raft.C20.mismatch_closes
#print axioms Raft.C20.listener_closes_on_mismatch
#print axioms Raft.C20.pooled_conn_identity_stable
#print axioms Raft.C20.no_cross_cluster_influence
#print axioms Raft.C20.listener_does_not_require_handshake
#print axioms Raft.C20.doRPC_is_trace
#print axioms Raft.C20.lock_exclusive
#print axioms Raft.C20.holding_until_unlock_run
#print axioms Raft.C20.rogue_unlock_breaks_exclusion
#print axioms Raft.C20.identity_immutable
#print axioms Raft.C20.identity_set_once
#print axioms Raft.C20.setIdentity_guarantee
#print axioms Raft.C20.setIdentity_mismatch_reports_alreadySet
#print axioms Raft.C20.setIdentity_zero
#print axioms Raft.C20.setIdentity_fresh
#print axioms Raft.C20.setIdentity_locked
#print axioms Raft.C20.new_requires_identity
#print axioms Raft.C20.serve_holds_lock
