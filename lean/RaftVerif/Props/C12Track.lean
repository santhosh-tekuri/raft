/-
C12 (tracking) — The FSM's cached configuration and term track the applied prefix, as an inductive invariant of
`Node.step`; hence EVERY snapshot ever stored is labelled with the index and term of the last entry it covers and
with the membership in force at that index.

`Tracks s` (the fields of `Track.Core` + the leader queue), with `label s` = the configuration in the meta file of
the newest snapshot on disk (zero if none) and `newest log L i` = the newest configuration entry of `log` with
index `≤ i`, else `L` (= `C12.newestConfigUpTo`):
* `fsmOk.cfgPos`  : if the FSM holds a configuration (`fsm.config.index > 0`), it is `newest log (label s) fsm.index`;
* `fsmOk.cfgZero` : if it holds none, the log has no configuration entry at or below `fsm.index`
                    (only then does `snapRun` fall back to the configuration captured at request time);
* `fsmOk.termLog` : `fsm.term` is the term of the log entry `fsm.index` (when the log still holds it);
  `fsmOk.termSnap`: … and the snapshot's term when `fsm.index = snaps.index`;
* `lab`           : the label is self-consistent: `newest log (label s) snaps.index = label s` (what lets compaction
                    drop configuration entries at or below the snapshot);
* `snapOk`        : `snaps.term` is the term of the log entry `snaps.index` (when the log still holds it) and the
                    term recorded in the newest file;
* strengthening   : `retain ≥ 1`, `snaps.index` = index of the newest file, the log is index-contiguous,
                    `fsm.index ≤ log.last`, and on a leader the queue items are the log entries at their index
                    (`queue`: a leader's FSM is fed with queue items, not with log entries).

The invariant is inductive for EVERY operation, oracle and input (`tracks_step`, with `Ordered` and `ReqOk` of
`Lemmas/Order.lean`: no new hypothesis on any operation) and survives a crash between two steps and the restart
(`restart_tracks`, `durable_diskTracks`).

NOT proved here: `DiskTracks` for the disk at the storage points INSIDE a step (`C05.crashDisk` with `k > 0`, e.g.
between `snap.publish` and `snap.retain`: `Props/C12Crash.lean`); that the three goroutines interleave as the synchronous
model does (nodediff); the comparison with the cluster-wide ledger of configuration entries.
-/
import RaftVerif.Lemmas.ConfigTrack
import RaftVerif.Props.C19Order

namespace Raft
namespace C12Track
open Node Track Order

/-- **The FSM's cache tracks the applied prefix** (see the file header for the clauses). -/
structure Tracks (s : Node) : Prop extends Track.Core s where
  /-- on a leader, the log-type items waiting in the queue are the log entries at their index -/
  queue : s.role = .leader → QM s

instance (log : NLog) (L : Config) (si st : Nat) (f : Fsm) : Decidable (FsmOk log L si st f) :=
  decidable_of_iff
    ((0 < f.config.index → f.config = newest log L f.index) ∧ (f.config.index = 0 → pre log f.index = []) ∧
     (log.prev < f.index → (log.get? f.index).map (·.term) = some f.term) ∧ (f.index = si → f.term = st))
    ⟨fun ⟨a, b, c, d⟩ => ⟨a, b, c, d⟩, fun h => ⟨h.cfgPos, h.cfgZero, h.termLog, h.termSnap⟩⟩

instance (l : NLog) : Decidable (C03.LogContig l) := by unfold C03.LogContig; infer_instance

instance (log : NLog) (disk : List SnapFile) (si st : Nat) : Decidable (SnapOk log disk si st) :=
  decidable_of_iff
    ((log.prev < si → (log.get? si).map (·.term) = some st) ∧ st = ((disk.head?).map (·.term)).getD 0 ∧
     (si = 0 → st = 0))
    ⟨fun ⟨a, b, c⟩ => ⟨a, b, c⟩, fun h => ⟨h.termLog, h.headTerm, h.zero⟩⟩

instance (s : Node) : Decidable (Track.Core s) :=
  decidable_of_iff
    (1 ≤ s.retain ∧ s.snapIndex = ((s.snapsDisk.head?).map (·.index)).getD 0 ∧ C03.LogContig s.log ∧
     s.fsm.index ≤ s.log.last ∧ newest s.log (label s) s.snapIndex = label s ∧
     FsmOk s.log (label s) s.snapIndex s.snapTerm s.fsm ∧ SnapOk s.log s.snapsDisk s.snapIndex s.snapTerm)
    ⟨fun ⟨a, b, c, d, e, f, g⟩ => ⟨a, b, c, d, e, f, g⟩,
     fun h => ⟨h.retain, h.snapHead, h.contig, h.fsmLe, h.lab, h.fsmOk, h.snapOk⟩⟩

instance (s : Node) : Decidable (QM s) := by unfold QM; infer_instance

instance (s : Node) : Decidable (Tracks s) :=
  decidable_of_iff (Track.Core s ∧ (s.role = .leader → QM s))
    ⟨fun ⟨a, b⟩ => ⟨a, b⟩, fun h => ⟨h.toCore, h.queue⟩⟩

/-- the property in the words of `Props/C12.lean`: `ConfigTracks` w.r.t. the label on disk, whenever the FSM
holds a configuration at all -/
theorem tracks_configTracks (s : Node) (ht : Tracks s) (hpos : 0 < s.fsm.config.index) :
    C12.ConfigTracks s (label s) := ht.fsmOk.cfgPos hpos

/-- … and when it holds none, no configuration entry at or below `fsm.index` is in the log -/
theorem tracks_no_config (s : Node) (ht : Tracks s) (hz : s.fsm.config.index = 0) :
    (s.log.entries.take (s.fsm.index - s.log.prev)).filterMap Entry.config? = [] := ht.fsmOk.cfgZero hz

/-- `fsm.term` is the term of the entry at `fsm.index` -/
theorem tracks_term (s : Node) (ht : Tracks s) (h : s.log.prev < s.fsm.index) :
    s.entryTerm? s.fsm.index = some s.fsm.term := ht.fsmOk.termLog h

/-- **The tracking invariant is inductive.** From an ordered state in which the FSM's cache tracks the applied
prefix, an operation acceptable in the sense of `Order.ReqOk` (any operation but a malformed append/install
request — the follower truncates only above its commit index `≥ fsm.index`), handled to completion without a Go
panic, leads to a state in which it does — for every oracle (`rollAt`, `orders`) and every input. -/
theorem tracks_step (s : Node) (op : Op) (rollAt : List Nat) (orders : List (List Nat))
    (ht : Tracks s) (ho : Ordered s) (hr : ReqOk s op) (hp : (s.step op rollAt orders).panicked = none) :
    Tracks (s.step op rollAt orders) := by
  obtain ⟨h1, h2⟩ := ti_stepAll op rollAt orders ho ht.toCore ht.queue hr
  exact ⟨(h1.2 hp).1, fun hl => ((h2 hl).2 hp).2 rfl⟩

/-- **over any sequence of events** (each acceptable and handled to completion, `C19Order.RunOk`) the state stays
ordered and tracking -/
theorem tracks_run (s : Node) (ops : List (Op × List Nat × List (List Nat))) (ht : Tracks s) (ho : Ordered s)
    (hr : C19Order.RunOk s ops) : Tracks (C19Order.run s ops) ∧ Ordered (C19Order.run s ops) := by
  induction ops generalizing s with
  | nil => exact ⟨ht, ho⟩
  | cons o os ih =>
    obtain ⟨h1, h2, h3⟩ := hr
    exact ih _ (tracks_step s o.1 o.2.1 o.2.2 ht ho h1 h2) (C19Order.ordered_step s o.1 o.2.1 o.2.2 ho h1 h2) h3

/-- What a restart needs of the disk: the log is index-contiguous; the newest snapshot's label is the newest
configuration at or below its index (in the log `openStorage` works with, `C10.logOf`); its term is that of the
log entry at its index, when the log holds it; "no snapshot" means index and term `0`. -/
structure DiskTracks (d : Durable) : Prop where
  contig : C03.LogContig d.log
  lab : newest (C10.logOf d) (C10.snapOf d).config (C10.snapOf d).index = (C10.snapOf d).config
  term : (C10.logOf d).prev < (C10.snapOf d).index →
    ((C10.logOf d).get? (C10.snapOf d).index).map (·.term) = some (C10.snapOf d).term
  zero : (C10.snapOf d).index = 0 → (C10.snapOf d).term = 0

instance (d : Durable) : Decidable (DiskTracks d) :=
  decidable_of_iff
    (C03.LogContig d.log ∧ newest (C10.logOf d) (C10.snapOf d).config (C10.snapOf d).index = (C10.snapOf d).config ∧
     ((C10.logOf d).prev < (C10.snapOf d).index →
        ((C10.logOf d).get? (C10.snapOf d).index).map (·.term) = some (C10.snapOf d).term) ∧
     ((C10.snapOf d).index = 0 → (C10.snapOf d).term = 0))
    ⟨fun ⟨a, b, c, e⟩ => ⟨a, b, c, e⟩, fun h => ⟨h.contig, h.lab, h.term, h.zero⟩⟩

/-- the fields of a restarted node that `C10.restart_fsm` does not list -/
theorem restart_more (d : Durable) (r : Nat) (sor : Bool) (n : Node) (h : restart d r sor = some n) :
    n.retain = r ∧ n.snapTerm = (C10.snapOf d).term ∧ n.ldr.queue = [] ∧ n.role = .follower := by
  obtain ⟨_, _, _, hn⟩ := C10.restart_some d r sor n h
  rw [hn]
  split
  · rw [fsmRestore_eq]; exact ⟨rfl, rfl, rfl, rfl⟩
  · exact ⟨rfl, rfl, rfl, rfl⟩

/-- **a restart establishes the invariant** (`openStorage` + `New` + the restore step of `Serve`): the FSM is
restored from the newest snapshot — index, term and configuration are the label's. -/
theorem restart_tracks (d : Durable) (r : Nat) (sor : Bool) (n : Node) (hr : 1 ≤ r) (hd : DiskTracks d)
    (h : restart d r sor = some n) : Tracks n := by
  obtain ⟨hfsm, _, hsnap, hlog, _, _, hdisk⟩ := C10.restart_fsm d r sor n h
  obtain ⟨m1, m2, m3, m4⟩ := restart_more d r sor n h
  obtain ⟨_, q2, _⟩ := C10.restart_log_contiguous_with_snapshot d r sor
  obtain ⟨e1, _, e3, _⟩ := C10.restartNode_fields d r sor
  have hL : label n = (C10.snapOf d).config := restart_label h
  have hlast : (C10.snapOf d).index ≤ n.log.last := by rw [hlog]; rw [e1] at q2; exact q2
  have hcontig : C03.LogContig n.log := by
    rw [hlog, e3]
    exact C10.logOf_ind d (fun _ => C03.LogContig.reset _) fun _ => hd.contig
  have hnew : ∀ L i, newest n.log L i = newest (C10.logOf d) L i := by
    intro L i; rw [hlog, e3]; rfl
  have hget : ∀ i, n.log.get? i = (C10.logOf d).get? i := by intro i; rw [hlog, e3]; rfl
  have hprev : n.log.prev = (C10.logOf d).prev := by rw [hlog, e3]
  have hpre : ∀ i, pre n.log i = pre (C10.logOf d) i := by intro i; rw [hlog, e3]; rfl
  have hsnapOk : SnapOk n.log n.snapsDisk n.snapIndex n.snapTerm := by
    rw [hsnap, m2, hdisk]
    refine ⟨fun hlt => ?_, ?_, hd.zero⟩
    · rw [hget]; exact hd.term (by rw [← hprev]; exact hlt)
    · exact C10.snapOf_term d
  refine ⟨⟨by rw [m1]; exact hr, ?_, hcontig, ?_, ?_, ?_, hsnapOk⟩, fun hl => by rw [m4] at hl; cases hl⟩
  · rw [hsnap, hdisk]
    exact C10.snapOf_index d
  · split at hfsm
    · rw [hfsm.1]; exact hlast
    · rw [hfsm.1]; exact Nat.zero_le _
  · rw [hL, hsnap, hnew]; exact hd.lab
  · rw [hL, hsnap, m2]
    split at hfsm
    · rename_i hpos
      rw [hfsm.1]
      refine ⟨fun _ => ?_, fun hz => ?_, fun hlt => ?_, fun _ => rfl⟩
      · show (C10.snapOf d).config = newest n.log _ (C10.snapOf d).index
        rw [hnew]; exact hd.lab.symm
      · -- the label has index 0: no configuration entry at or below the snapshot (they have positive index)
        show pre n.log (C10.snapOf d).index = []
        have hz' : (C10.snapOf d).config.index = 0 := hz
        cases hp : pre n.log (C10.snapOf d).index with
        | nil => rfl
        | cons a l =>
          exfalso
          have hne : pre n.log (C10.snapOf d).index ≠ [] := by rw [hp]; exact List.cons_ne_nil _ _
          have := newest_index_pos hcontig (C10.snapOf d).config _ hne
          rw [hnew, hd.lab] at this
          omega
      · show (n.log.get? (C10.snapOf d).index).map (·.term) = some (C10.snapOf d).term
        rw [hget]
        exact hd.term (by rw [← hprev]; exact hlt)
    · rename_i hpos
      have h0 : (C10.snapOf d).index = 0 := by omega
      rw [hfsm.1, h0]
      refine ⟨fun hp => absurd hp (by decide), fun _ => ?_, fun hlt => absurd hlt (Nat.not_lt_zero _),
        fun _ => (hd.zero h0).symm⟩
      show pre n.log 0 = []
      unfold pre; rw [Nat.zero_sub]; rfl

/-- the file `snapRun` stores (when it does not refuse): what is on disk afterwards -/
theorem snapRun_stores (s : Node) (ht : Tracks s) (ho : Ordered s) (rq : SnapReq) (hp : s.snapPending = some rq)
    (h1 : s.fsm.index ≠ s.snapIndex) (h2 : rq.minIndex ≤ s.fsm.index) :
    s.snapRun.snapsDisk.head? = some (C09.snapFileOf s rq) ∧
    s.snapRun.snapResult = some { task := rq.task, index := s.fsm.index } := by
  obtain ⟨a, _, _, d, _⟩ := C09.snapshot_at_applied_index s rq hp h1 h2
  refine ⟨?_, d⟩
  have hh : ∀ g, s.snapsDisk.head? = some g → g.index ≤ (C09.snapFileOf s rq).index := fun g hg => by
    have := ht.toCore.headLe g hg
    have := ho.snap_le_applied
    show g.index ≤ s.fsm.index
    omega
  have := (C09.publish_keeps_new_file s (C09.snapFileOf s rq) ht.retain hh).2
  rw [a]
  exact this

/-- the single-state form of `every_snapshot_labelled_right` -/
theorem snapshot_labelled_right (s : Node) (ht : Tracks s) (ho : Ordered s) (rq : SnapReq)
    (hp : s.snapPending = some rq) (h1 : s.fsm.index ≠ s.snapIndex) (h2 : rq.minIndex ≤ s.fsm.index) :
    s.snapRun.snapsDisk.head? = some (C09.snapFileOf s rq) ∧
    s.snapRun.snapResult = some { task := rq.task, index := (C09.snapFileOf s rq).index } ∧
    (C09.snapFileOf s rq).index = s.fsm.index ∧ s.snapIndex < (C09.snapFileOf s rq).index ∧
    (C09.snapFileOf s rq).index ≤ s.log.last ∧
    s.entryTerm? (C09.snapFileOf s rq).index = some (C09.snapFileOf s rq).term ∧
    (0 < s.fsm.config.index → (C09.snapFileOf s rq).config = newest s.log (label s) (C09.snapFileOf s rq).index) ∧
    (s.fsm.config.index = 0 → (C09.snapFileOf s rq).config = rq.config ∧ pre s.log (C09.snapFileOf s rq).index = []) := by
  obtain ⟨a, b⟩ := snapRun_stores s ht ho rq hp h1 h2
  have hsa := ho.snap_le_applied
  have hps := ho.prev_le_snap
  have hlt : s.snapIndex < s.fsm.index := by omega
  refine ⟨a, b, rfl, hlt, ht.fsmLe, ht.fsmOk.termLog (by omega), fun hpos => ?_, fun hz => ?_⟩
  · show (if s.fsm.config.index > 0 then s.fsm.config else rq.config) = _
    rw [if_pos hpos]; exact ht.fsmOk.cfgPos hpos
  · refine ⟨?_, ht.fsmOk.cfgZero hz⟩
    show (if s.fsm.config.index > 0 then s.fsm.config else rq.config) = _
    rw [if_neg (by omega)]

/-- **every_snapshot_labelled_right.** In any run (acceptable operations handled to completion) from an ordered
tracking state, whenever `snapRun` stores a snapshot (a request is pending, the FSM is past the last snapshot and
past the threshold), the file it stores — the newest on disk afterwards, reported in `snapResult` without error —
carries
* the index of the last entry applied, `fsm.index`, which is above the previous snapshot and within the log;
* the term of THAT log entry;
* the membership in force at that index: the newest configuration entry at or below it, else the previous
  snapshot's label — never the (possibly older or newer) configuration captured at request time, which is used
  only when the FSM has seen no configuration at all (then the log holds no configuration entry at or below that
  index; not reachable in a cluster: entry 1 of every log is the bootstrap configuration and every label a leader
  sends has index `≥ 1`). -/
theorem every_snapshot_labelled_right (s₀ : Node) (ops : List (Op × List Nat × List (List Nat)))
    (ht₀ : Tracks s₀) (ho₀ : Ordered s₀) (hr : C19Order.RunOk s₀ ops) (rq : SnapReq)
    (hp : (C19Order.run s₀ ops).snapPending = some rq)
    (h1 : (C19Order.run s₀ ops).fsm.index ≠ (C19Order.run s₀ ops).snapIndex)
    (h2 : rq.minIndex ≤ (C19Order.run s₀ ops).fsm.index) :
    let s := C19Order.run s₀ ops
    let f := C09.snapFileOf s rq
    s.snapRun.snapsDisk.head? = some f ∧
    s.snapRun.snapResult = some { task := rq.task, index := f.index } ∧
    f.index = s.fsm.index ∧ s.snapIndex < f.index ∧ f.index ≤ s.log.last ∧
    s.entryTerm? f.index = some f.term ∧
    (0 < s.fsm.config.index → f.config = newest s.log (label s) f.index) ∧
    (s.fsm.config.index = 0 → f.config = rq.config ∧ pre s.log f.index = []) := by
  obtain ⟨ht, ho⟩ := tracks_run s₀ ops ht₀ ho₀ hr
  exact snapshot_labelled_right _ ht ho rq hp h1 h2

/-- the disk of a tracking, ordered node: the log starts at or below the newest snapshot, and that snapshot's
label is the node's `label` -/
theorem durable_snap (s : Node) (ht : Tracks s) (ho : Ordered s) :
    C10.DurWF s.durable ∧ (C10.snapOf s.durable).config = label s ∧ (C10.snapOf s.durable).index = s.snapIndex := by
  have hidx : (C10.snapOf s.durable).index = s.snapIndex := (C10.snapOf_index _).trans ht.snapHead.symm
  refine ⟨?_, rfl, hidx⟩
  unfold C10.DurWF
  rw [hidx]
  exact ho.prev_le_snap

/-- … and its term is the node's `snapTerm` -/
theorem durable_snapTerm (s : Node) (ht : Tracks s) : (C10.snapOf s.durable).term = s.snapTerm :=
  (C10.snapOf_term _).trans ht.snapOk.headTerm.symm

theorem contig_durable {l : NLog} (hc : C03.LogContig l) : C03.LogContig l.durable := by
  intro k h
  simp only [NLog.durable] at h ⊢
  rw [List.getElem_take]
  exact hc k (by rw [List.length_take] at h; omega)

/-- **what a tracking node leaves on disk is what a restart needs**: the disk of an ordered tracking node (as it
is BETWEEN two steps: the entries up to `flushed`, the snapshot files) satisfies `DiskTracks` -/
theorem durable_diskTracks (s : Node) (ht : Tracks s) (ho : Ordered s) : DiskTracks s.durable := by
  obtain ⟨_, hcfg, hidx⟩ := durable_snap s ht ho
  have hterm := durable_snapTerm s ht
  have hcontig : C03.LogContig s.durable.log := contig_durable ht.contig
  refine ⟨hcontig, ?_, ?_, fun h0 => ?_⟩
  · rw [hcfg, hidx]
    rcases C10.logOf_cases s.durable with ⟨_, e⟩ | ⟨hle, e⟩ <;> rw [e]
    · exact newest_of_nil _ (pre_reset _ _)
    · -- the entries up to the snapshot index are all flushed
      rw [hidx] at hle
      have hlen : s.snapIndex - s.log.prev ≤ (s.log.entries.take (s.log.flushed - s.log.prev)).length := by
        have : s.snapIndex ≤ s.log.prev + (s.log.entries.take (s.log.flushed - s.log.prev)).length := hle
        omega
      have he : s.durable.log.entries.take (s.snapIndex - s.log.prev) = s.log.entries.take (s.snapIndex - s.log.prev) := by
        show (s.log.entries.take (s.log.flushed - s.log.prev)).take _ = _
        rw [List.length_take] at hlen
        rw [List.take_take]; congr 1; omega
      have hp : pre s.durable.log s.snapIndex = pre s.log s.snapIndex := pre_congr rfl he
      unfold newest; rw [hp]; exact ht.lab
  · rw [hidx, hterm]
    rcases C10.logOf_cases s.durable with ⟨_, e⟩ | ⟨hle, e⟩ <;> rw [e]
    · intro hlt
      rw [hidx] at hlt
      exact absurd hlt (Nat.lt_irrefl _)
    · intro hlt
      rw [hidx] at hle
      have hlen : s.snapIndex - s.log.prev ≤ (s.log.entries.take (s.log.flushed - s.log.prev)).length := by
        have : s.snapIndex ≤ s.log.prev + (s.log.entries.take (s.log.flushed - s.log.prev)).length := hle
        omega
      have he : s.durable.log.entries.take (s.snapIndex - s.log.prev) = s.log.entries.take (s.snapIndex - s.log.prev) := by
        show (s.log.entries.take (s.log.flushed - s.log.prev)).take _ = _
        rw [List.length_take] at hlen
        rw [List.take_take]; congr 1; omega
      rw [get?_congr (log := s.log) (log' := s.durable.log) rfl he]
      exact ht.snapOk.termLog hlt
  · rw [hterm]
    exact ht.snapOk.zero (by rw [← hidx]; exact h0)

/-- **the invariant survives a crash and restart between two steps**: a node restarted from the disk of an
ordered tracking node tracks again (its FSM restored from the newest snapshot holds the label). -/
theorem restart_after_crash_tracks (s : Node) (ht : Tracks s) (ho : Ordered s) (r : Nat) (sor : Bool) (n : Node)
    (hr : 1 ≤ r) (h : restart s.durable r sor = some n) : Tracks n :=
  restart_tracks s.durable r sor n hr (durable_diskTracks s ht ho) h

/-- **after compaction and restart the membership comes from the label unless a later entry overrides it.**
Crash an ordered tracking node between two steps (in particular after `snapRun`, `onSnapshotTaken` and the compaction
it performs; the storage points inside a step: `Props/C12Crash.lean`) and restart it from what is durable: if `openStorage` meets no undecodable configuration entry, the
restarted node's `configs.latest` is the newest configuration entry above the snapshot index in its durable log
(`C10.configsAbove`), else the newest snapshot's label — which (`Tracks.lab`, `every_snapshot_labelled_right`) is
the configuration in force at the snapshot index. -/
theorem restart_latest_after_crash (s : Node) (ht : Tracks s) (ho : Ordered s) (r : Nat) (sor : Bool) (n : Node)
    (hok : C10.NoDecodeErr (C10.window (C10.logOf s.durable) (C10.snapOf s.durable).index (C10.logOf s.durable).last))
    (h : restart s.durable r sor = some n) :
    n.configs.latest = ((C10.configsAbove s.durable)[0]?).getD (label s) ∧
    (C10.configsAbove s.durable = [] → n.configs.latest = label s ∧ n.configs.committed = label s) := by
  obtain ⟨hwf, hl, _⟩ := durable_snap s ht ho
  obtain ⟨_, _, _, _, _, hcfg, _⟩ := C10.restart_fsm s.durable r sor n h
  obtain ⟨_, c1, c2⟩ := C10.restart_configs s.durable r sor hwf hok
  rw [hcfg, c1, c2, hl]
  refine ⟨rfl, fun he => ?_⟩
  rw [he]; exact ⟨rfl, rfl⟩

def n1 : CNode := { id := 1, addr := "a:1", voter := true }
def n2 : CNode := { id := 2, addr := "b:1", voter := true }
/-- the bootstrap configuration (entry 1, compacted away: it is the label of the snapshot at 1) -/
def c1 : Config := { nodes := [n1], index := 1, term := 1 }
/-- the configuration of entry 3 -/
def c3 : Config := { nodes := [n1, n2], index := 3, term := 1 }

/-- a follower with a snapshot at 1 labelled `c1`, entries 2 (no-op), 3 (configuration `c3`), 4 (update);
applied 2, committed 2: its FSM holds `c1` -/
def exT : Node :=
  { nid := 1, cid := 7, term := 1, durTerm := 1,
    log := { prev := 1, entries := [{ index := 2, term := 1, typ := etNop },
                                     { index := 3, term := 1, typ := etConfig, cfg := some { nodes := [n1, n2] } },
                                     { index := 4, term := 1, typ := etUpdate, data := "a" }],
             flushed := 4, segs := [1] },
    lastLogIndex := 4, lastLogTerm := 1, snapIndex := 1, snapTerm := 1,
    snapsDisk := [{ index := 1, term := 1, config := c1 }],
    configs := { committed := c1, latest := c3 },
    commitIndex := 2, fsm := { index := 2, term := 1, config := c1 } }

theorem exT_ordered : Ordered exT :=
  ⟨⟨by decide, by decide, by decide, by decide, by decide, by decide, ⟨by decide, by decide, by decide⟩, by decide,
    fun rs h => by cases h⟩, by decide⟩

theorem exT_tracks : Tracks exT := by decide

/-- a heartbeat from the leader (node 2) that has committed up to 4 -/
def exBeat : AppendReq := { term := 1, src := 2, prevLogIndex := 4, prevLogTerm := 1, ldrCommitIndex := 4 }

/-- EXAMPLE (`tracks_step`): the hypotheses hold for `exT` and the heartbeat; the step applies entries 3 and 4:
the FSM now holds the configuration of entry 3 and the term of entry 4. -/
example :
    Tracks exT ∧ Ordered exT ∧ ReqOk exT (.append exBeat) ∧ (exT.step (.append exBeat) [] []).panicked = none ∧
    (exT.step (.append exBeat) [] []).fsm.index = 4 ∧ (exT.step (.append exBeat) [] []).fsm.config = c3 ∧
    Tracks (exT.step (.append exBeat) [] []) :=
  ⟨exT_tracks, exT_ordered, by decide, by decide, by decide, by decide, by decide⟩

/-- EXAMPLE (`tracks_run`, `every_snapshot_labelled_right`): the heartbeat, then a user snapshot (request, the
snapshot goroutine, its completion). The request captured `configs.committed` — but the file stored carries
`(4, 1, c3)`: index and term of entry 4, the configuration of entry 3. -/
example :
    let ops : List (Op × List Nat × List (List Nat)) :=
      [(.append exBeat, [], []), (.takeSnapshot 7 0, [], []), (.snapRun, [], []), (.snapTaken, [], [])]
    C19Order.RunOk exT ops ∧
    (C19Order.run exT ops).snapsDisk.map (fun f => (f.index, f.term, f.config)) = [(4, 1, c3)] ∧
    Tracks (C19Order.run exT ops) := by
  refine ⟨⟨by decide, by decide, ⟨trivial, by decide, ⟨trivial, by decide, ⟨trivial, by decide, trivial⟩⟩⟩⟩,
    by decide, by decide⟩

/-- EXAMPLE (`restart_tracks`): the disk of `Props/C10.lean` (snapshot at 2, entries 3 and 4, 4 a configuration)
satisfies `DiskTracks`; the restarted node tracks, with the FSM holding the label. -/
example :
    DiskTracks C10.exDisk ∧ ((restart C10.exDisk 1 true).map (fun n => decide (Tracks n))) = some true ∧
    ((restart C10.exDisk 1 true).map (fun n => n.fsm.config)) = some (C10.snapOf C10.exDisk).config := by
  refine ⟨by decide, by decide, by decide⟩

/-- EXAMPLE (`restart_latest_after_crash`): crash `exT` after the run above and restart: entry 3 is at or below
the new snapshot (4), nothing above it holds a configuration: `latest` is the label `c3`. -/
example :
    let ops : List (Op × List Nat × List (List Nat)) :=
      [(.append exBeat, [], []), (.takeSnapshot 7 0, [], []), (.snapRun, [], []), (.snapTaken, [], [])]
    ((restart (C19Order.run exT ops).durable 1 true).map (fun n => (n.configs.latest, n.fsm.config, n.snapIndex)))
      = some (c3, c3, 4) := by decide

/-- NECESSITY of `ReqOk` (clause "no conflict at or below the commit index"): a follower that has applied 1..3
(`C19Order.nec1` with commit index 3) receives a request whose entry 2 has another term. Only that clause is
violated; the step completes; entries 2, 3 — already applied — are gone: `fsm.index = 3 > log.last = 2`.
NOT reachable in a correct cluster (leader completeness: a committed entry is in every later leader's log). -/
example :
    let s : Node := { C19Order.nec1 with commitIndex := 3, fsm := { index := 3, term := 1 } }
    let q : AppendReq := { term := 1, src := 2, prevLogIndex := 1, prevLogTerm := 1,
                           entries := [{ index := 2, term := 2, typ := etNop }] }
    Tracks s ∧ ¬ ReqOk s (.append q) ∧ (s.step (.append q) [] []).panicked = none ∧
    (s.step (.append q) [] []).fsm.index = 3 ∧ (s.step (.append q) [] []).log.last = 2 ∧
    ¬ Tracks (s.step (.append q) [] []) := by
  refine ⟨by decide, by decide, by decide, by decide, by decide, by decide⟩

/-- NECESSITY of `Ordered` (clause `snapIndex ≤ fsm.index`): a tracking state whose FSM is BEHIND the snapshot
index (5 > 3) with a snapshot request pending. `snapRun` stores a file at 3 — older than the newest one, so the
retention pass (`retain = 1`) deletes it at once — and sets `snaps.index = 3`: the newest file on disk (5) is not
the snapshot `snaps.index` any more. NOT reachable: `Ordered` is itself inductive (`C19Order.ordered_step`). -/
example :
    let s : Node :=
      { nid := 1, term := 1, durTerm := 1,
        log := { prev := 0, entries := (List.range 5).map (fun k => { index := k + 1, term := 1, typ := etNop }) },
        lastLogIndex := 5, lastLogTerm := 1, commitIndex := 5, snapIndex := 5, snapTerm := 1,
        snapsDisk := [{ index := 5, term := 1 }], fsm := { index := 3, term := 1 },
        snapPending := some { task := 1, minIndex := 0 } }
    Tracks s ∧ ¬ s.snapIndex ≤ s.fsm.index ∧ (s.step .snapRun [] []).panicked = none ∧
    (s.step .snapRun [] []).snapIndex = 3 ∧ (s.step .snapRun [] []).snapsDisk.map (·.index) = [5] ∧
    ¬ Tracks (s.step .snapRun [] []) := by
  refine ⟨by decide, by decide, by decide, by decide, by decide, by decide⟩

/-! "The step does not panic" is the hypothesis under which `Ordered` is inductive (`C19Order.ordered_step`; a
replication reporting a match index beyond the leader's log makes the commit index leave the log and the `ViewAt`
that follows panic: `C19Order.commit_beyond_log_panics`) — the state after a Go panic is never observed, the
totalised model's continuation is meaningless. No panicking step that breaks a clause of `Tracks` other than through
`Ordered` was found (the FSM is simply left where it was). -/

/-- NECESSITY of `retain ≥ 1` (a clause of `Tracks`): with `retain = 0` the retention pass of `snapshotSink.done`
deletes the file just written — `snaps.index = 4` with no file on disk; a restart would find no snapshot.
NOT reachable: `Options.validate` rejects `SnapshotsRetain < 1`. -/
example :
    let ops : List (Op × List Nat × List (List Nat)) := [(.append exBeat, [], []), (.takeSnapshot 7 0, [], [])]
    let s : Node := { C19Order.run exT ops with retain := 0 }
    (s.step .snapRun [] []).panicked = none ∧ (s.step .snapRun [] []).snapIndex = 4 ∧
    (s.step .snapRun [] []).snapsDisk = [] ∧ ¬ Tracks (s.step .snapRun [] []) := by
  refine ⟨by decide, by decide, by decide, by decide⟩

/-- The fallback of `doTakeSnapshot` ("use the configuration captured at request time when the FSM reports
none") is taken only in states with no configuration at or below `fsm.index` at all — `Tracks.fsmOk.cfgZero`.
EXAMPLE of such a (tracking, ordered, unreachable) state: entries 1..4 are no-ops; the request captured a
configuration of index 7; the file stored at 4 carries it. The invariant survives (the FSM still holds none). -/
example :
    let rqc : Config := { nodes := [n1], index := 7, term := 1 }
    let s : Node := { C19Order.nec1 with commitIndex := 4, fsm := { index := 4, term := 1 },
                                         snapPending := some { task := 1, minIndex := 0, config := rqc } }
    Tracks s ∧ (s.step .snapRun [] []).snapsDisk.map (·.config) = [rqc] ∧ Tracks (s.step .snapRun [] []) := by
  refine ⟨by decide, by decide, by decide⟩

end C12Track
end Raft

#print axioms Raft.C12Track.tracks_configTracks
#print axioms Raft.C12Track.tracks_no_config
#print axioms Raft.C12Track.tracks_term
#print axioms Raft.C12Track.tracks_step
#print axioms Raft.C12Track.tracks_run
#print axioms Raft.C12Track.restart_more
#print axioms Raft.C12Track.restart_tracks
#print axioms Raft.C12Track.snapRun_stores
#print axioms Raft.C12Track.snapshot_labelled_right
#print axioms Raft.C12Track.every_snapshot_labelled_right
#print axioms Raft.C12Track.durable_snap
#print axioms Raft.C12Track.durable_diskTracks
#print axioms Raft.C12Track.restart_after_crash_tracks
#print axioms Raft.C12Track.restart_latest_after_crash
#print axioms Raft.C12Track.exT_ordered
#print axioms Raft.C12Track.exT_tracks
#print axioms Raft.Track.ti_stepAll
#print axioms Raft.Track.block
