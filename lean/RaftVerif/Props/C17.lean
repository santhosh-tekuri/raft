/-
C17 — Availability and leader stability when a majority is healthy (the logic a theorem can carry;
real timers, bandwidth deadlines and "within a bounded number of election timeouts" are runtime
behaviour no model exhibits — see DESIGN.md).
-/
import RaftVerif.Lemmas.Majority
import RaftVerif.Lemmas.LeaderCommit
import RaftVerif.Lemmas.ReplSteps

namespace Raft
namespace C17
open Node

/-- **disruptive vote requests are refused** (second sentence of the property; all inputs): while a
follower knows a leader, a vote request without the transfer permission from any OTHER node is answered
`leaderKnown` and changes nothing — neither the vote nor the term. -/
theorem disruptive_vote_refused (s : Node) (q : VoteReq)
    (hl : s.leader ≠ 0) (ht : q.transfer = false) (hsrc : q.src ≠ s.leader) :
    s.onVoteRequest q = s.ret rLeaderKnown := by
  unfold Node.onVoteRequest
  rw [if_pos (by simp [ht, hl, hsrc])]

theorem disruptive_vote_keeps_term_and_vote (s : Node) (q : VoteReq)
    (hl : s.leader ≠ 0) (ht : q.transfer = false) (hsrc : q.src ≠ s.leader) :
    (s.onVoteRequest q).term = s.term ∧ (s.onVoteRequest q).votedFor = s.votedFor ∧
    (s.onVoteRequest q).durTerm = s.durTerm ∧ (s.onVoteRequest q).role = s.role ∧
    (s.onVoteRequest q).result = rLeaderKnown := by
  rw [disruptive_vote_refused s q hl ht hsrc]
  exact ⟨rfl, rfl, rfl, rfl, rfl⟩

/-- **the election timer is reset exactly** on requests from a leader (append, install-snapshot,
timeout-now always report `resetTimer`) and on GRANTED votes. -/
theorem timer_reset_rule (x : Node) (isVote isAppend : Bool) (r : RpcReply)
    (h : (x.rpcDone isVote isAppend).rpcReply = some r) :
    r.resetTimer = (!isVote || x.result == rSuccess) := by
  rw [Node.rpcDone_reply] at h
  injection h with h
  rw [← h]; rfl

/-- a refused (non-granted) vote request does not reset the election timer -/
theorem refused_vote_no_timer_reset (x : Node) (r : RpcReply) (hne : x.result ≠ rSuccess)
    (h : (x.rpcDone true false).rpcReply = some r) : r.resetTimer = false := by
  rw [timer_reset_rule x true false r h]
  simp [hne]

/-- **commit is not stuck behind the caches** (general path): when more than half of the voters of the
latest configuration have acknowledged `N`, the leader's `majorityMatchIndex` is at least `N`;
hence with `N` above the commit index and `N ≥ startIndex`, `onMajorityCommit` advances. -/
theorem majority_commits (s : Node) (N : Nat)
    (hfast : ¬ (s.ldr.numVoters = 1 ∧ s.ldr.node.voter = true))
    (hmaj : 2 * (s.voterMatches.countP (fun m => decide (m ≥ N))) > s.voterMatches.length) :
    s.majorityMatchIndex.1 ≥ N := by
  unfold Node.majorityMatchIndex
  rw [if_neg hfast]
  show ((s.voterMatches.mergeSort geB)[s.voterMatches.length / 2 + 1 - 1]?).getD 0 ≥ N
  rw [Nat.add_sub_cancel]
  exact selected_ge_of_majority s.voterMatches N hmaj

/-- `onMajorityCommit` moves the commit index whenever the selected index is above it and in the
leader's term (`≥ startIndex`): the first thing it then does is `setCommitIndexL`. -/
theorem onMajorityCommit_advances (fuel : Nat) (s : Node)
    (h1 : s.majorityMatchIndex.2 = true)
    (h2 : s.majorityMatchIndex.1 > s.commitIndex) (h3 : s.majorityMatchIndex.1 ≥ s.ldr.startIndex) :
    onMajorityCommit (fuel + 1) s =
      ((setCommitIndexL fuel s s.majorityMatchIndex.1).applyCommittedL).notifyFlr := by
  rw [onMajorityCommit_succ, if_pos ⟨h2, h3⟩, if_pos h1]

/-- the single-voter case: a leader that is the only voter commits what it appends in the same step -/
theorem single_voter_commits (s : Node) (h : s.ldr.numVoters = 1 ∧ s.ldr.node.voter = true) :
    s.majorityMatchIndex = (s.lastLogIndex, true) := by
  unfold Node.majorityMatchIndex; rw [if_pos h]

/-- a follower that times out forgets the leader it knew and, if it may start an election (`canStartElection`:
a voter of a bootstrapped configuration), becomes candidate -/
theorem follower_timeout_starts_election (s : Node) (h : s.canStartElection = true) :
    s.followerTimeout.role = .candidate ∧ s.followerTimeout.leader = 0 := by
  unfold Node.followerTimeout
  dsimp only
  have : (s.setLeader 0).canStartElection = true := h
  rw [if_pos this]
  exact ⟨rfl, rfl⟩

end C17
end Raft

#print axioms Raft.C17.disruptive_vote_refused
#print axioms Raft.C17.disruptive_vote_keeps_term_and_vote
#print axioms Raft.C17.timer_reset_rule
#print axioms Raft.C17.refused_vote_no_timer_reset
#print axioms Raft.C17.majority_commits
#print axioms Raft.C17.onMajorityCommit_advances
#print axioms Raft.C17.single_voter_commits
#print axioms Raft.C17.follower_timeout_starts_election
#print axioms Raft.selected_ge_of_majority
#print axioms Raft.Repl.probe_decreases
#print axioms Raft.Repl.faulty_follower_detected
#print axioms Raft.Repl.match_index_sound
