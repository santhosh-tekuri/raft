/-
C15 (second half) / C07 — every submitted task completes exactly once: the ledger of client tasks, for EVERY
operation and every run of one node.

A task is a non-zero `Nat` id (0 = internal, no client).  It is *answered* when a `Reply` carrying its id is
recorded (`answered s`: the answers of the last step — `Node.begin` clears them), and it is *pending* while it
waits in the leader queue, the wait list of `WaitForStableConfig`, the transfer in progress, the snapshot request
or the undelivered snapshot result (`pending s`).  `submitted op` are the ids an operation brings in.

`task_step_count` is the unconditional accounting of one step; `task_step` / `task_run` conclude "answered or pending,
never both, never lost" under fresh ids, no failure and `CCOk`; `task_step_two` / `task_run_two` need `NoPanic.Good true`
and `ReqOk' true` only; `task_step_partial` keeps `Once` as an ASSUMPTION for the one case not derived here (a request
with actions in a cluster with a single stable voter: Props/C08One.lean, `C08One.once_of_start`). Each hypothesis has a
necessity example at the end.
-/
import RaftVerif.Lemmas.TaskLedger
import RaftVerif.Props.C15NoPanic

namespace Raft
namespace C15Tasks
open Node TL

/-- the ids waiting in the pending places, 0 included -/
def pendRaw (s : Node) : List Nat :=
  s.ldr.queue.map (·.task) ++ (s.ldr.waitStable ++ (s.ldr.transfer.task ::
    ((s.snapPending.map (·.task)).toList ++ (s.snapResult.map (·.task)).toList)))

/-- **pending tasks**: the non-zero ids waiting in the leader queue, the wait list, the transfer in progress, the
snapshot request and the undelivered snapshot result -/
def pending (s : Node) : List Nat := (pendRaw s).filter (· ≠ 0)

/-- **answered tasks**: the ids of the completions recorded by the last step -/
def answered (s : Node) : List Nat := (s.replies.map (·.task)).filter (· ≠ 0)

/-- **submitted tasks**: the ids an operation brings in -/
def submitted (op : Op) : List Nat := (submittedRaw op).filter (· ≠ 0)

structure TasksOK (s : Node) : Prop where
  /-- an idle transfer carries no task; a snapshot request and an undelivered result never coexist -/
  ok : OK s
  /-- nothing waits in the leader places of a node that is not leader -/
  quiet : s.role ≠ .leader → Quiet s
  /-- no task waits twice -/
  nodup : (pending s).Nodup

instance (s : Node) : Decidable (TasksOK s) :=
  decidable_of_iff (OK s ∧ (s.role ≠ .leader → Quiet s) ∧ (pending s).Nodup)
    ⟨fun h => ⟨h.1, h.2.1, h.2.2⟩, fun h => ⟨h.ok, h.quiet, h.nodup⟩⟩

/-- the ids an operation submits are non-zero-distinct and wait nowhere yet -/
def Fresh (s : Node) (op : Op) : Prop := (submitted op).Nodup ∧ ∀ t ∈ submitted op, t ∉ pending s

/-- the task of a ChangeConfig request handled by a leader occurs at most once after the step (it is answered
once, or attached to one configuration entry).  Trivially true for every other operation. -/
def Once (s : Node) (op : Op) (s' : Node) : Prop :=
  ∀ task c, op = .changeConfig task c → s.role = .leader → task ≠ 0 → (answered s' ++ pending s').count task ≤ 1

theorem count_nz (l : List Nat) (t : Nat) (ht : t ≠ 0) : (l.filter (· ≠ 0)).count t = l.count t :=
  List.count_filter (by simpa using ht)

theorem count_nz_zero (l : List Nat) : (l.filter (· ≠ 0)).count 0 = 0 :=
  List.count_eq_zero.mpr (by simp [List.mem_filter])

theorem count_optList {α : Type} (f : α → Nat) (o : Option α) (t : Nat) :
    ((o.map f).toList).count t = optCount f o t := by
  cases o with
  | none => rfl
  | some x => exact count_singleton' (f x) t

theorem count_pendRaw (s : Node) (t : Nat) : (pendRaw s).count t = pendCount t s := by
  unfold pendRaw pendCount cQ cW cT cP cR
  rw [List.count_append, List.count_append, List.count_cons, List.count_append, count_optList, count_optList]
  unfold ind
  simp only [beq_iff_eq]
  omega

theorem count_pending (s : Node) (t : Nat) (ht : t ≠ 0) : (pending s).count t = pendCount t s := by
  unfold pending; rw [count_nz _ _ ht, count_pendRaw]

theorem count_answered (s : Node) (t : Nat) (ht : t ≠ 0) : (answered s).count t = cA t s := by
  unfold answered; rw [count_nz _ _ ht]; rfl

theorem count_after (s : Node) (t : Nat) (ht : t ≠ 0) : (answered s ++ pending s).count t = led t s := by
  rw [List.count_append, count_answered _ _ ht, count_pending _ _ ht]; rfl

/-- **task_step_count — the unconditional accounting.**  For EVERY operation, oracle and input, from a state
with `TasksOK`'s structural part (`OK`, `Quiet` for non-leaders): the structural part holds again after the step,
and unless the step failed, for every id `t ≠ 0` there is `m` with
`count t (answered s' ++ pending s') = count t (submitted op ++ pending s) + m * ccInd s op t`,
where `ccInd s op t = 1` iff `op` is a ChangeConfig request with task `t` and `s` is leader, else `0`.
Hence: every submitted or pending task is afterwards answered or pending (never lost); an id that is neither
submitted nor pending is neither answered nor pending afterwards (no answer from nowhere); and every id other than
a leader's ChangeConfig task keeps its multiplicity exactly. -/
theorem task_step_count (s : Node) (op : Op) (rollAt : List Nat) (orders : List (List Nat))
    (ho : OK s) (hq : s.role ≠ .leader → Quiet s) :
    OK (s.step op rollAt orders) ∧ ((s.step op rollAt orders).role ≠ .leader → Quiet (s.step op rollAt orders)) ∧
    ((s.step op rollAt orders).panicked = none → ∀ t, t ≠ 0 → ∃ m,
      (answered (s.step op rollAt orders) ++ pending (s.step op rollAt orders)).count t =
        (submitted op ++ pending s).count t + m * ccInd s op t) := by
  refine ⟨(step_rel 1 (by omega) s op rollAt orders ho hq).1, (step_rel 1 (by omega) s op rollAt orders ho hq).2.1,
    fun hp t ht => ?_⟩
  obtain ⟨_, _, m, hm⟩ := step_rel t ht s op rollAt orders ho hq
  refine ⟨m, ?_⟩
  rw [count_after _ _ ht, hm hp, List.count_append, count_pending _ _ ht]
  unfold submitted; rw [count_nz _ _ ht]
  omega

theorem ccInd_le (s : Node) (op : Op) (t : Nat) : ccInd s op t ≤ 1 := by
  unfold ccInd ind
  repeat' split
  all_goals omega

/-- `Once` costs nothing unless a leader handles a ChangeConfig request -/
theorem once_of_not_leaderChange (s : Node) (op : Op) (s' : Node)
    (h : ∀ task c, op = .changeConfig task c → s.role ≠ .leader) : Once s op s' :=
  fun task c e hl _ => absurd hl (h task c e)

/-- **task_step_partial.**  With `s' = s.step op …` (any oracle, any input), from `TasksOK s`, for fresh submitted
ids, if the step did not fail and `Once` holds:
(c) `submitted op ++ pending s` is a permutation of `answered s' ++ pending s'`: every task that was submitted or
    pending is afterwards EITHER answered OR pending — never both, never lost, and nothing else is;
(a) every answer of the step (with a non-zero id) is for a task that was pending or is submitted by `op`;
(b) no id is answered twice within the step; an answered id is not pending afterwards;
(d) `TasksOK s'`.
PARTIAL: `Once` is an assumption about the outcome. It is derived here for every operation other than a
ChangeConfig request handled by a leader (`once_of_not_leaderChange`) and for ChangeConfig requests without
actions (`once_of_stable`) — see `task_step`. For a ChangeConfig request WITH promote/demote/remove actions it is
not derived here (it is false in unreachable states, see the example with `exO`; for `NoPanic.Good` states it is
`C08One.once_of_start`, which carries the configuration invariants through the leader block). Without `Once` the
unconditional `task_step_count` still gives: no task lost, no answer from nowhere, every other task conserved
exactly. -/
theorem task_step_partial (s : Node) (op : Op) (rollAt : List Nat) (orders : List (List Nat))
    (hT : TasksOK s) (hF : Fresh s op) (hp : (s.step op rollAt orders).panicked = none)
    (hO : Once s op (s.step op rollAt orders)) :
    (submitted op ++ pending s).Perm (answered (s.step op rollAt orders) ++ pending (s.step op rollAt orders)) ∧
    (∀ r ∈ (s.step op rollAt orders).replies, r.task ≠ 0 → r.task ∈ submitted op ++ pending s) ∧
    (answered (s.step op rollAt orders)).Nodup ∧
    (∀ t ∈ answered (s.step op rollAt orders), t ∉ pending (s.step op rollAt orders)) ∧
    TasksOK (s.step op rollAt orders) := by
  obtain ⟨h1, h2, h3⟩ := task_step_count s op rollAt orders hT.ok hT.quiet
  have hnd : (submitted op ++ pending s).Nodup :=
    List.nodup_append.mpr ⟨hF.1, hT.nodup, fun a ha b hb e => hF.2 a ha (e ▸ hb)⟩
  have hperm : (submitted op ++ pending s).Perm
      (answered (s.step op rollAt orders) ++ pending (s.step op rollAt orders)) := by
    rw [List.perm_iff_count]
    intro t
    by_cases ht : t = 0
    · subst ht
      unfold submitted pending answered
      simp only [List.count_append, count_nz_zero]
    · obtain ⟨m, hm⟩ := h3 hp t ht
      rw [hm]
      by_cases hc : ccInd s op t = 0
      · rw [hc]; omega
      · -- `t` is the task of a ChangeConfig request handled by a leader
        have hc1 : ccInd s op t = 1 := by have := ccInd_le s op t; omega
        have : m = 0 := by
          cases op <;> try (exact absurd rfl hc)
          case changeConfig task c =>
            have hcc := hc1
            unfold ccInd at hc1
            dsimp only at hc1
            by_cases hl : s.role = .leader
            · rw [if_pos hl] at hc1
              have e : task = t := by
                unfold ind at hc1; split at hc1
                · assumption
                · omega
              subst e
              have h1 := hO task c rfl hl ht
              have hfr : (pending s).count task = 0 :=
                List.count_eq_zero.mpr (hF.2 task (by unfold submitted submittedRaw; simp [ht]))
              have hsub : (submitted (.changeConfig task c)).count task = 1 := by
                unfold submitted submittedRaw; simp [ht]
              rw [hm, List.count_append, hfr, hsub, hcc] at h1
              omega
            · rw [if_neg hl] at hc1; omega
        rw [this]; omega
  have hnd' := hperm.nodup_iff.mp hnd
  obtain ⟨n1, n2, n3⟩ := List.nodup_append.mp hnd'
  refine ⟨hperm, fun r hr h0 => ?_, n1, fun t ht hpd => n3 t ht t hpd rfl, ⟨h1, h2, n2⟩⟩
  apply hperm.mem_iff.mpr
  apply List.mem_append_left
  unfold answered
  exact List.mem_filter.mpr ⟨List.mem_map_of_mem hr, by simpa using h0⟩

/-- `Once`, from the exact ledger equation of the step: the request's task was not pending, so afterwards it counts once -/
theorem once_of_exact (s : Node) (op : Op) (s' : Node)
    (hfr : ∀ task c, op = .changeConfig task c → task ≠ 0 → task ∉ pending s)
    (h : ∀ t, t ≠ 0 → led t s' = pendCount t s + (submittedRaw op).count t) : Once s op s' := by
  intro task c e _ h0
  subst e
  rw [count_after _ _ h0, h task h0, ← count_pending _ _ h0, List.count_eq_zero.mpr (hfr task c rfl h0)]
  show 0 + [task].count task ≤ 1
  rw [count_singleton']
  unfold ind; simp

theorem Fresh.notPending {s : Node} {op : Op} (hF : Fresh s op) (task : Nat) (c : Config) (e : op = .changeConfig task c)
    (h0 : task ≠ 0) : task ∉ pending s :=
  hF.2 task (by subst e; unfold submitted submittedRaw; simp [h0])

/-- **`Once` for a request without actions** (adding non-voters, changing addresses/data: every `ChangeConfig`
whose new configuration carries no promote/demote/remove action): `checkConfigActions` finds nothing to do, the
request is answered at once or attached to exactly one configuration entry. -/
theorem once_of_stable (s : Node) (task : Nat) (c : Config) (rollAt : List Nat) (orders : List (List Nat))
    (hT : TasksOK s) (hfr : task ∉ pending s) (hst : c.isStable = true)
    (hp : (s.step (.changeConfig task c) rollAt orders).panicked = none) :
    Once s (.changeConfig task c) (s.step (.changeConfig task c) rollAt orders) :=
  once_of_exact s _ _ (fun _ _ e _ => by injection e with e1 _; subst e1; exact hfr)
    (fun t ht => step_rel_stable t ht s task c rollAt orders hT.ok hT.quiet hst hp)

/-- the operation is not a ChangeConfig request with promote/demote/remove actions handled by a leader -/
def NoAct (s : Node) (op : Op) : Prop :=
  ∀ task c, op = .changeConfig task c → s.role = .leader → c.isStable = true

instance (s : Node) (op : Op) : Decidable (NoAct s op) := by
  unfold NoAct
  cases op
  case changeConfig task c =>
    exact decidable_of_iff (s.role = .leader → c.isStable = true)
      ⟨fun h task' c' e hl => by injection e with e1 e2; subst e2; exact h hl, fun h => h task c rfl⟩
  all_goals exact isTrue (fun task c e => by cases e)

theorem once_of_noAct (s : Node) (op : Op) (rollAt : List Nat) (orders : List (List Nat))
    (hT : TasksOK s) (hF : Fresh s op) (hp : (s.step op rollAt orders).panicked = none) (h : NoAct s op) :
    Once s op (s.step op rollAt orders) := by
  intro task c e hl h0
  subst e
  exact once_of_stable s task c rollAt orders hT
    (hF.2 task (by unfold submitted submittedRaw; simp [h0])) (h task c rfl hl) hp task c rfl hl h0

/-- the two-anchor conditions for a ChangeConfig request handled by a leader: the leader's cached own entry is a
voter while its configuration is committed, the latest configuration is in the log (both hold in every
`NoPanic.Good` state: `hs_of_good`), and the request is `UserCfg true`: member ids strictly increasing, own
action defined, at least TWO voters without action (so the leader never commits alone) -/
def TwoOK (s : Node) (op : Op) : Prop :=
  ∀ task c, op = .changeConfig task c → s.role = .leader → Hs s ∧ NoPanic.UserCfg true s.nid c

/-- **`Once` with two anchors**: every configuration the request can lead to has two voters, the entry stored for it
is not committed within the call, `canChangeConfig` stays false: no second change starts with the task. -/
theorem once_of_twoOK (s : Node) (op : Op) (rollAt : List Nat) (orders : List (List Nat))
    (hT : TasksOK s) (hF : Fresh s op) (hp : (s.step op rollAt orders).panicked = none) (h : TwoOK s op) :
    Once s op (s.step op rollAt orders) :=
  once_of_exact s op _ hF.notPending (fun t ht => step_rel_two t ht s op rollAt orders hT.ok hT.quiet h hp)

/-- what is asked of the ChangeConfig requests a leader handles: no actions, or the two-anchor conditions.
(Vacuous for every other operation.) -/
def CCOk (s : Node) (op : Op) : Prop := NoAct s op ∨ TwoOK s op

theorem ccOk_of_other (s : Node) (op : Op) (h : ∀ task c, op = .changeConfig task c → s.role ≠ .leader) : CCOk s op :=
  Or.inl (fun task c e hl => absurd hl (h task c e))

theorem once_of_ccOk (s : Node) (op : Op) (rollAt : List Nat) (orders : List (List Nat))
    (hT : TasksOK s) (hF : Fresh s op) (hp : (s.step op rollAt orders).panicked = none) (h : CCOk s op) :
    Once s op (s.step op rollAt orders) :=
  h.elim (once_of_noAct s op rollAt orders hT hF hp) (once_of_twoOK s op rollAt orders hT hF hp)

/-- **task_step.**  With `s' = s.step op …` (any oracle, any input), from `TasksOK s`, for fresh submitted ids, if
the step did not fail, for EVERY operation; a ChangeConfig request handled by a leader must carry no action or
come with the two-anchor conditions (`CCOk`; for the others see `task_step_partial`, `task_step_count`):
(c) `submitted op ++ pending s` is a permutation of `answered s' ++ pending s'`: every task that was submitted or
    pending is afterwards EITHER answered OR pending — never both, never lost, and nothing else is;
(a) every answer of the step (with a non-zero id) is for a task that was pending or is submitted by `op`;
(b) no id is answered twice within the step; an answered id is not pending afterwards;
(d) `TasksOK s'`. -/
theorem task_step (s : Node) (op : Op) (rollAt : List Nat) (orders : List (List Nat))
    (hT : TasksOK s) (hF : Fresh s op) (hp : (s.step op rollAt orders).panicked = none) (hN : CCOk s op) :
    (submitted op ++ pending s).Perm (answered (s.step op rollAt orders) ++ pending (s.step op rollAt orders)) ∧
    (∀ r ∈ (s.step op rollAt orders).replies, r.task ≠ 0 → r.task ∈ submitted op ++ pending s) ∧
    (answered (s.step op rollAt orders)).Nodup ∧
    (∀ t ∈ answered (s.step op rollAt orders), t ∉ pending (s.step op rollAt orders)) ∧
    TasksOK (s.step op rollAt orders) :=
  task_step_partial s op rollAt orders hT hF hp (once_of_ccOk s op rollAt orders hT hF hp hN)

/-- **After `Shutdown` nothing is pending** (from any state with the ledger invariant; any oracle). -/
theorem shutdown_pending_nil (s : Node) (rollAt : List Nat) (orders : List (List Nat)) (hT : TasksOK s) :
    pending (s.step .shutdown rollAt orders) = [] := by
  rw [step_shutdown]
  have hb : OK (s.begin rollAt orders) := hT.ok
  obtain ⟨_, b, c⟩ := shutdown_rel 1 (by omega) (s.begin rollAt orders) hb
  have hq : Quiet (s.begin rollAt orders).shutdown := by
    by_cases hl : (s.begin rollAt orders).role = .leader
    · exact c hl
    · exact (Quiet.congr (hT.quiet hl) (by rfl : ldrKey (s.begin rollAt orders) = ldrKey s)).congr (b hl)
  obtain ⟨_, _, hsp, hsr, _⟩ := C15.shutdown_completes_snapshot (s.begin rollAt orders)
  unfold pending pendRaw
  rw [hq.1, hq.2.1, hq.2.2, hsp, hsr]
  rfl

abbrev Ev := Op × List Nat × List (List Nat)

def submittedRun : List Ev → List Nat
  | [] => []
  | e :: es => submitted e.1 ++ submittedRun es

/-- all answers recorded during a run from `s`, step after step -/
def answeredRun (s : Node) : List Ev → List Nat
  | [] => []
  | e :: es => answered (s.step e.1 e.2.1 e.2.2) ++ answeredRun (s.step e.1 e.2.1 e.2.2) es

/-- no step of the run fails; each is `CCOk`, or `Once` is assumed for it -/
def RunOK : Node → List Ev → Prop
  | _, [] => True
  | s, e :: es =>
    (s.step e.1 e.2.1 e.2.2).panicked = none ∧ (CCOk s e.1 ∨ Once s e.1 (s.step e.1 e.2.1 e.2.2)) ∧
    RunOK (s.step e.1 e.2.1 e.2.2) es

/-- no step of the run fails; the ChangeConfig requests handled by a leader are `CCOk` -/
def RunCC : Node → List Ev → Prop
  | _, [] => True
  | s, e :: es => (s.step e.1 e.2.1 e.2.2).panicked = none ∧ CCOk s e.1 ∧ RunCC (s.step e.1 e.2.1 e.2.2) es

theorem runOK_of_cc (s : Node) (evs : List Ev) (h : RunCC s evs) : RunOK s evs := by
  induction evs generalizing s with
  | nil => trivial
  | cons e es ih => exact ⟨h.1, Or.inl h.2.1, ih _ h.2.2⟩

/-- **task_run_partial.**  Over ANY list of operations (with any oracles) whose submitted ids are pairwise distinct
and not pending at the start, if no step fails (and, PARTIAL: for the ChangeConfig requests with actions handled by a
leader, `Once` is assumed — see `task_step_partial`):
`submittedRun ++ pending s` is a permutation of `answeredRun ++ pending (final state)`.  So every task submitted
during the run (or pending at its start) has been answered AT MOST ONCE over the whole run, and is EITHER answered
OR still pending at the end — never both, never lost; nothing else was answered.  `TasksOK` holds at the end. -/
theorem task_run_partial (s : Node) (evs : List Ev) (hT : TasksOK s) (hnd : (submittedRun evs).Nodup)
    (hfr : ∀ t ∈ submittedRun evs, t ∉ pending s) (hr : RunOK s evs) :
    (submittedRun evs ++ pending s).Perm (answeredRun s evs ++ pending (C19Order.run s evs)) ∧
    TasksOK (C19Order.run s evs) ∧ (answeredRun s evs).Nodup ∧
    (∀ t ∈ answeredRun s evs, t ∉ pending (C19Order.run s evs)) := by
  have main : (submittedRun evs ++ pending s).Perm (answeredRun s evs ++ pending (C19Order.run s evs)) ∧
      TasksOK (C19Order.run s evs) := by
    induction evs generalizing s with
    | nil => exact ⟨List.Perm.refl _, hT⟩
    | cons e es ih =>
      obtain ⟨hp, hO, hr'⟩ := hr
      have hnd' : (submitted e.1 ++ submittedRun es).Nodup := hnd
      obtain ⟨n1, n2, n3⟩ := List.nodup_append.mp hnd'
      have hF : Fresh s e.1 := ⟨n1, fun t ht => hfr t (List.mem_append_left _ ht)⟩
      have hO' : Once s e.1 (s.step e.1 e.2.1 e.2.2) :=
        hO.elim (fun h => once_of_ccOk s e.1 e.2.1 e.2.2 hT hF hp h) id
      obtain ⟨p1, _, _, _, hT1⟩ := task_step_partial s e.1 e.2.1 e.2.2 hT hF hp hO'
      have hfr1 : ∀ t ∈ submittedRun es, t ∉ pending (s.step e.1 e.2.1 e.2.2) := by
        intro t ht hpd
        have : t ∈ submitted e.1 ++ pending s := p1.mem_iff.mpr (List.mem_append_right _ hpd)
        rcases List.mem_append.mp this with h | h
        · exact n3 t h t ht rfl
        · exact hfr t (List.mem_append_right _ ht) h
      obtain ⟨p2, hT2⟩ := ih (s.step e.1 e.2.1 e.2.2) hT1 n2 hfr1 hr'
      refine ⟨?_, hT2⟩
      rw [List.perm_iff_count]
      intro t
      have c1 := p1.count_eq t
      have c2 := p2.count_eq t
      show (submitted e.1 ++ submittedRun es ++ pending s).count t =
        (answered (s.step e.1 e.2.1 e.2.2) ++ answeredRun (s.step e.1 e.2.1 e.2.2) es ++
          pending (C19Order.run (s.step e.1 e.2.1 e.2.2) es)).count t
      simp only [List.count_append] at c1 c2 ⊢
      omega
  obtain ⟨p, hTf⟩ := main
  have hnd0 : (submittedRun evs ++ pending s).Nodup :=
    List.nodup_append.mpr ⟨hnd, hT.nodup, fun a ha b hb e => hfr a ha (e ▸ hb)⟩
  obtain ⟨m1, _, m3⟩ := List.nodup_append.mp (p.nodup_iff.mp hnd0)
  exact ⟨p, hTf, m1, fun t ht hpd => m3 t ht t hpd rfl⟩

/-- **task_run.**  Over ANY list of operations (with any oracles; the ChangeConfig requests handled by a leader
`CCOk`), whose submitted ids are pairwise distinct and not pending at the start, if no step fails: `submittedRun ++ pending s` is a permutation of `answeredRun ++ pending (final state)`: every task submitted
during the run (or pending at its start) has been answered AT MOST ONCE over the whole run, and is EITHER answered
OR still pending at the end — never both, never lost; nothing else was answered.  `TasksOK` holds at the end. -/
theorem task_run (s : Node) (evs : List Ev) (hT : TasksOK s) (hnd : (submittedRun evs).Nodup)
    (hfr : ∀ t ∈ submittedRun evs, t ∉ pending s) (hr : RunCC s evs) :
    (submittedRun evs ++ pending s).Perm (answeredRun s evs ++ pending (C19Order.run s evs)) ∧
    TasksOK (C19Order.run s evs) ∧ (answeredRun s evs).Nodup ∧
    (∀ t ∈ answeredRun s evs, t ∉ pending (C19Order.run s evs)) :=
  task_run_partial s evs hT hnd hfr (runOK_of_cc s evs hr)

/-- **Every task is answered exactly once by the end of `Shutdown`** (PARTIAL in the sense of `task_run_partial`:
`RunOK` may assume `Once`).  A run as in `task_run_partial`, followed by a `shutdown` step that does not fail: the
tasks submitted during the run or pending at its start are — as a multiset — exactly the tasks answered during the
run or by the shutdown step: each exactly once, none lost, none left pending (`shutdown_pending_nil`). -/
theorem task_run_shutdown_partial (s : Node) (evs : List Ev) (rollAt : List Nat) (orders : List (List Nat))
    (hT : TasksOK s) (hnd : (submittedRun evs).Nodup)
    (hfr : ∀ t ∈ submittedRun evs, t ∉ pending s) (hr : RunOK s evs)
    (hp : ((C19Order.run s evs).step .shutdown rollAt orders).panicked = none) :
    (submittedRun evs ++ pending s).Perm
      (answeredRun s evs ++ answered ((C19Order.run s evs).step .shutdown rollAt orders)) ∧
    pending ((C19Order.run s evs).step .shutdown rollAt orders) = [] ∧
    (answeredRun s evs ++ answered ((C19Order.run s evs).step .shutdown rollAt orders)).Nodup := by
  obtain ⟨p, hTf, _, _⟩ := task_run_partial s evs hT hnd hfr hr
  have hF : Fresh (C19Order.run s evs) .shutdown := ⟨List.nodup_nil, fun t ht => by cases ht⟩
  obtain ⟨p2, _, _, _, _⟩ := task_step (C19Order.run s evs) .shutdown rollAt orders hTf hF hp
    (Or.inl (fun _ _ e => by cases e))
  have hnil := shutdown_pending_nil (C19Order.run s evs) rollAt orders hTf
  have hperm : (submittedRun evs ++ pending s).Perm
      (answeredRun s evs ++ answered ((C19Order.run s evs).step .shutdown rollAt orders)) := by
    rw [List.perm_iff_count]
    intro t
    have c1 := p.count_eq t
    have c2 := p2.count_eq t
    rw [hnil] at c2
    have e0 : submitted .shutdown = [] := rfl
    rw [e0] at c2
    simp only [List.count_append, List.count_nil] at c1 c2 ⊢
    omega
  have hnd0 : (submittedRun evs ++ pending s).Nodup :=
    List.nodup_append.mpr ⟨hnd, hT.nodup, fun a ha b hb e => hfr a ha (e ▸ hb)⟩
  exact ⟨hperm, hnil, hperm.nodup_iff.mp hnd0⟩

/-- **task_run_shutdown: every task is answered exactly once by the end of `Shutdown`.**  A run as in `task_run`
(`RunCC`; fresh ids; no step fails), followed by a `shutdown` step
that does not fail: the tasks submitted during the run or pending at its start are — as a multiset — exactly the
tasks answered during the run or by the shutdown step: each EXACTLY ONCE, none lost, none left pending. -/
theorem task_run_shutdown (s : Node) (evs : List Ev) (rollAt : List Nat) (orders : List (List Nat))
    (hT : TasksOK s) (hnd : (submittedRun evs).Nodup)
    (hfr : ∀ t ∈ submittedRun evs, t ∉ pending s) (hr : RunCC s evs)
    (hp : ((C19Order.run s evs).step .shutdown rollAt orders).panicked = none) :
    (submittedRun evs ++ pending s).Perm
      (answeredRun s evs ++ answered ((C19Order.run s evs).step .shutdown rollAt orders)) ∧
    pending ((C19Order.run s evs).step .shutdown rollAt orders) = [] ∧
    (answeredRun s evs ++ answered ((C19Order.run s evs).step .shutdown rollAt orders)).Nodup :=
  task_run_shutdown_partial s evs rollAt orders hT hnd hfr (runOK_of_cc s evs hr) hp

/-! ### with `NoPanic.Good`: the "no failure" hypothesis discharged -/

/-- `task_step` from a good state (`NoPanic.Good`): an open node, an acceptable operation (`ReqOk'`), the
model's recursion budget not exhausted (never the case with two anchors, `T = true`: `good_step_two`). -/
theorem task_step_good {T : Bool} (s : Node) (op : Op) (rollAt : List Nat) (orders : List (List Nat))
    (hG : NoPanic.Good T s) (hopen : s.closed = "") (hr : NoPanic.ReqOk' T s op)
    (hf : (s.step op rollAt orders).panicked ≠ some "fuel")
    (hT : TasksOK s) (hF : Fresh s op) (hN : CCOk s op) :
    (submitted op ++ pending s).Perm (answered (s.step op rollAt orders) ++ pending (s.step op rollAt orders)) ∧
    (answered (s.step op rollAt orders)).Nodup ∧ TasksOK (s.step op rollAt orders) ∧
    NoPanic.Good T (s.step op rollAt orders) := by
  have hp := C15NoPanic.good_step_noPanic s op rollAt orders hG hopen hr hf
  obtain ⟨a, _, b, _, c⟩ := task_step s op rollAt orders hT hF hp hN
  exact ⟨a, b, c, C15NoPanic.good_step s op rollAt orders hG hopen hr hf⟩

/-- the run conditions with `Good` instead of "no step fails" -/
def RunGood (T : Bool) : Node → List Ev → Prop
  | _, [] => True
  | s, e :: es =>
    s.closed = "" ∧ NoPanic.ReqOk' T s e.1 ∧ (s.step e.1 e.2.1 e.2.2).panicked ≠ some "fuel" ∧
    CCOk s e.1 ∧ RunGood T (s.step e.1 e.2.1 e.2.2) es

theorem runCC_of_good {T : Bool} (s : Node) (evs : List Ev) (hG : NoPanic.Good T s) (hr : RunGood T s evs) :
    RunCC s evs := by
  induction evs generalizing s with
  | nil => trivial
  | cons e es ih =>
    obtain ⟨h1, h2, h3, h4, h5⟩ := hr
    exact ⟨C15NoPanic.good_step_noPanic s e.1 e.2.1 e.2.2 hG h1 h2 h3, h4,
      ih _ (C15NoPanic.good_step s e.1 e.2.1 e.2.2 hG h1 h2 h3) h5⟩

/-- `task_run` from a good state -/
theorem task_run_good {T : Bool} (s : Node) (evs : List Ev) (hG : NoPanic.Good T s) (hT : TasksOK s)
    (hnd : (submittedRun evs).Nodup) (hfr : ∀ t ∈ submittedRun evs, t ∉ pending s) (hr : RunGood T s evs) :
    (submittedRun evs ++ pending s).Perm (answeredRun s evs ++ pending (C19Order.run s evs)) ∧
    TasksOK (C19Order.run s evs) ∧ (answeredRun s evs).Nodup :=
  let h := task_run s evs hT hnd hfr (runCC_of_good s evs hG hr)
  ⟨h.1, h.2.1, h.2.2.1⟩

/-! ### two anchors: everything from `Good true`, no further assumption -/

theorem hs_of_good {T : Bool} (s : Node) (hG : NoPanic.Good T s) (hopen : s.closed = "") (hl : s.role = .leader) :
    Hs s := by
  obtain ⟨L, C⟩ := hG.leader hopen hl
  refine ⟨fun hcm => ?_, hG.ordered.latest_le_last⟩
  rw [((LC.cache_iff s).mp C).2.1]
  exact NoPanic.get_of_isVoter (L.lv hl hcm)

theorem twoOK_of_good (s : Node) (op : Op) (hG : NoPanic.Good true s) (hopen : s.closed = "")
    (hr : NoPanic.ReqOk' true s op) : TwoOK s op := by
  intro task c e hl
  subst e
  exact ⟨hs_of_good s hG hopen hl, hr.1⟩

/-- **task_step_two — one step of a node whose configurations keep two stable voters** (`Good true`, `ReqOk' true`:
every cluster that keeps two voters without pending action).  NO assumption about the outcome: the step does not
fail (`C15NoPanic.good_step_two`), and for fresh ids
(c) `submitted op ++ pending s ~ answered s' ++ pending s'` — every submitted or pending task is afterwards EITHER
answered OR pending, never both, never lost; (a) answers only for such tasks; (b) no id answered twice in the
step; (d) `TasksOK s'`; and `Good true s'`. -/
theorem task_step_two (s : Node) (op : Op) (rollAt : List Nat) (orders : List (List Nat))
    (hG : NoPanic.Good true s) (hopen : s.closed = "") (hr : NoPanic.ReqOk' true s op)
    (hT : TasksOK s) (hF : Fresh s op) :
    (submitted op ++ pending s).Perm (answered (s.step op rollAt orders) ++ pending (s.step op rollAt orders)) ∧
    (∀ r ∈ (s.step op rollAt orders).replies, r.task ≠ 0 → r.task ∈ submitted op ++ pending s) ∧
    (answered (s.step op rollAt orders)).Nodup ∧
    (∀ t ∈ answered (s.step op rollAt orders), t ∉ pending (s.step op rollAt orders)) ∧
    TasksOK (s.step op rollAt orders) ∧ NoPanic.Good true (s.step op rollAt orders) := by
  obtain ⟨hp, hG'⟩ := C15NoPanic.good_step_two s op rollAt orders hG hopen hr
  obtain ⟨a, b, c, d, e⟩ := task_step s op rollAt orders hT hF hp (Or.inr (twoOK_of_good s op hG hopen hr))
  exact ⟨a, b, c, d, e, hG'⟩

theorem runCC_of_two (s : Node) (evs : List Ev) (hG : NoPanic.Good true s) (hr : C15NoPanic.RunOkTwo s evs) :
    RunCC s evs := by
  induction evs generalizing s with
  | nil => trivial
  | cons e es ih =>
    obtain ⟨h1, h2, h3⟩ := hr
    obtain ⟨hp, hG'⟩ := C15NoPanic.good_step_two s e.1 e.2.1 e.2.2 hG h1 h2
    exact ⟨hp, Or.inr (twoOK_of_good s e.1 hG h1 h2), ih _ hG' h3⟩

/-- **task_run_two — any run of a node whose configurations keep two stable voters** (`Good true` at the start,
every operation handled by an open node and `ReqOk' true`: `C15NoPanic.RunOkTwo`), fresh ids.  No assumption about
outcomes: `submittedRun ++ pending s ~ answeredRun ++ pending (final)`: every task submitted during the run (or
pending at its start) has been answered AT MOST ONCE and is EITHER answered OR still pending at the end. -/
theorem task_run_two (s : Node) (evs : List Ev) (hG : NoPanic.Good true s) (hT : TasksOK s)
    (hnd : (submittedRun evs).Nodup) (hfr : ∀ t ∈ submittedRun evs, t ∉ pending s)
    (hr : C15NoPanic.RunOkTwo s evs) :
    (submittedRun evs ++ pending s).Perm (answeredRun s evs ++ pending (C19Order.run s evs)) ∧
    TasksOK (C19Order.run s evs) ∧ (answeredRun s evs).Nodup ∧
    (∀ t ∈ answeredRun s evs, t ∉ pending (C19Order.run s evs)) :=
  task_run s evs hT hnd hfr (runCC_of_two s evs hG hr)

/-- **task_run_shutdown_two — … and after `Shutdown` every task has been answered EXACTLY ONCE**: the tasks submitted
during the run or pending at its start are, as a multiset, exactly the tasks answered during the run or by the
shutdown step; nothing is left pending.  (`Shutdown` itself never fails from a good state: `shutdown_good`.) -/
theorem task_run_shutdown_two (s : Node) (evs : List Ev) (rollAt : List Nat) (orders : List (List Nat))
    (hG : NoPanic.Good true s) (hT : TasksOK s)
    (hnd : (submittedRun evs).Nodup) (hfr : ∀ t ∈ submittedRun evs, t ∉ pending s)
    (hr : C15NoPanic.RunOkTwo s evs) :
    (submittedRun evs ++ pending s).Perm
      (answeredRun s evs ++ answered ((C19Order.run s evs).step .shutdown rollAt orders)) ∧
    pending ((C19Order.run s evs).step .shutdown rollAt orders) = [] ∧
    (answeredRun s evs ++ answered ((C19Order.run s evs).step .shutdown rollAt orders)).Nodup :=
  task_run_shutdown s evs rollAt orders hT hnd hfr (runCC_of_two s evs hG hr)
    (C15NoPanic.shutdown_good _ rollAt orders (C15NoPanic.good_run_two s evs hG hr).1).1

/-- a freshly started node (`restart`: empty `Leader` record, no snapshot in flight) satisfies the invariant -/
theorem tasksOK_of_idle (s : Node) (h1 : s.ldr.queue = []) (h2 : s.ldr.waitStable = []) (h3 : s.ldr.transfer.task = 0)
    (h4 : s.snapPending = none) (h5 : s.snapResult = none) : TasksOK s := by
  refine ⟨⟨fun _ => h3, Or.inl h4⟩, fun _ => ⟨h1, h2, h3⟩, ?_⟩
  unfold pending pendRaw
  rw [h1, h2, h3, h4, h5]
  exact List.nodup_nil

/-! ### C07: a definite rejection never takes effect (lifted to `step`) -/

/-- **definite_rejection_step** (C07): entries submitted to a node that is not leader. The WHOLE step (handler and
role transitions) changes nothing but the answers: every item with a task is answered exactly once, in order, with
NotLeaderError{Lost: false} (or the dirty-read value) — log, last index, commit index, FSM and the `Leader` record
are exactly what they were: the update cannot take effect later. -/
theorem definite_rejection_step (s : Node) (b : List QItem) (rollAt : List Nat) (orders : List (List Nat))
    (h : s.role ≠ .leader) :
    s.step (.newEntries b) rollAt orders =
      (s.begin rollAt orders).addReplies (b.flatMap (fun q => mkReply? q.task (C07.rejectReply (s.begin rollAt orders) q))) := by
  rw [step_eq_settle s _ rollAt orders (fun e => by cases e)]
  have e1 : (s.begin rollAt orders).handle (.newEntries b) = (s.begin rollAt orders).rejectEntries b := by
    unfold Node.handle
    dsimp only
    rw [if_neg (show ¬ (s.begin rollAt orders).role = .leader from h)]
  rw [e1, C07.definite_rejection_not_leader]
  exact settle_same 6 ((s.begin rollAt orders).addReplies _)

theorem definite_rejection_step_fields (s : Node) (b : List QItem) (rollAt : List Nat) (orders : List (List Nat))
    (h : s.role ≠ .leader) :
    (s.step (.newEntries b) rollAt orders).log = s.log ∧
    (s.step (.newEntries b) rollAt orders).lastLogIndex = s.lastLogIndex ∧
    (s.step (.newEntries b) rollAt orders).commitIndex = s.commitIndex ∧
    (s.step (.newEntries b) rollAt orders).fsm = s.fsm ∧ (s.step (.newEntries b) rollAt orders).ldr = s.ldr ∧
    answered (s.step (.newEntries b) rollAt orders) = submitted (.newEntries b) ∧
    pending (s.step (.newEntries b) rollAt orders) = pending s := by
  rw [definite_rejection_step s b rollAt orders h]
  refine ⟨rfl, rfl, rfl, rfl, rfl, ?_, rfl⟩
  unfold answered submitted submittedRaw
  show ((([] : List Reply) ++ _).map _).filter _ = _
  rw [List.nil_append, flatMap_mkReply?_tasks (fun q : QItem => q.task), List.filter_filter]
  simp

instance (s : Node) (op : Op) : Decidable (Fresh s op) := by unfold Fresh; infer_instance

/-- the leader of `C06Cache.exLeader`: three members, one queued update with task 9 -/
def exL : Node := C06Cache.exLeader

/-- a single-voter leader with a snapshot request (task 4) in flight -/
def exSolo : Node :=
  let n1 : CNode := { id := 1, addr := "a:1", voter := true }
  let c : Config := { nodes := [n1], index := 1, term := 1 }
  { nid := 1, cid := 7, term := 1, durTerm := 1, role := .leader, leader := 1,
    log := { entries := [c.toEntry, { index := 2, term := 1, typ := etNop },
                         { index := 3, term := 1, typ := etUpdate, data := "x" }], flushed := 3 },
    lastLogIndex := 3, lastLogTerm := 1, commitIndex := 3,
    fsm := { index := 3, term := 1, config := c, applied := ["x"] },
    configs := { committed := c, latest := c },
    ldr := { node := n1, numVoters := 1, startIndex := 2 },
    snapPending := some { task := 4, minIndex := 0, config := c } }

/-- EXAMPLE (the hypotheses of `task_step` are satisfiable, non-trivially): the single-voter leader accepts an
update (task 7) and a read (task 8); both are committed, applied and answered within the step; the snapshot
request stays pending. -/
example :
    let op : Op := .newEntries [{ typ := etUpdate, data := "y", task := 7 }, { typ := etRead, task := 8 }]
    TasksOK exSolo ∧ Fresh exSolo op ∧ (exSolo.step op [] []).panicked = none ∧
    pending exSolo = [4] ∧ submitted op = [7, 8] ∧
    answered (exSolo.step op [] []) = [7, 8] ∧ pending (exSolo.step op [] []) = [4] := by
  decide +kernel

/-- EXAMPLE: …and a task that stays pending: WaitForStableConfig (task 5) on `exL`, whose configuration still has a
promotion to do. `Once` holds for both by `once_of_not_leaderChange`. -/
example : TasksOK exL ∧ Fresh exL (.waitStable 5) ∧ (exL.step (.waitStable 5) [] []).panicked = none ∧
    pending exL = [9] ∧ answered (exL.step (.waitStable 5) [] []) = [] ∧
    pending (exL.step (.waitStable 5) [] []) = [9, 5] := by
  decide

/-- EXAMPLE (`Fresh` is needed): the id 9 is submitted while it still waits in the queue: it waits twice. -/
example : ¬ Fresh exL (.waitStable 9) ∧ pending (exL.step (.waitStable 9) [] []) = [9, 9] := by decide

/-- EXAMPLE (`TasksOK.ok`, transfer part, is needed): an idle transfer record that still carries task 5 — the
next TransferLeadership (task 7) overwrites it: task 5 is lost without an answer. -/
example :
    let s := exL.withLdr { exL.ldr with transfer := { active := false, task := 5 } }
    ¬ TasksOK s ∧ (s.step (.transfer 7 0) [] []).panicked = none ∧ pending s = [9, 5] ∧
    answered (s.step (.transfer 7 0) [] []) = [] ∧ pending (s.step (.transfer 7 0) [] []) = [9, 7] := by
  decide

/-- EXAMPLE (`TasksOK.ok`, snapshot part, is needed): a snapshot request (task 5) next to an undelivered result
(task 6): when the snapshot finishes its result replaces the undelivered one: task 6 is lost. -/
example :
    let s : Node := { exL with snapPending := some { task := 5 }, snapResult := some { task := 6 } }
    ¬ TasksOK s ∧ (s.step .snapRun [] []).panicked = none ∧ pending s = [9, 5, 6] ∧
    answered (s.step .snapRun [] []) = [] ∧ pending (s.step .snapRun [] []) = [9, 5] := by
  decide

/-- EXAMPLE (`TasksOK.quiet` is needed — the class of the seeded defect "leader.release does not reset the
queue"): a candidate whose stale `Leader` record still holds a queued task 5 wins the election; `leader.init`
starts from an empty queue: task 5 is dropped without an answer. -/
example :
    let s : Node := { exL with role := .candidate, votesNeeded := 1, leader := 0, ldr := { queue := [{ task := 5, index := 3 }] } }
    ¬ TasksOK s ∧ (s.step (.voteResult false 1 rSuccess) [] []).panicked = none ∧ pending s = [5] ∧
    (s.step (.voteResult false 1 rSuccess) [] []).role = .leader ∧
    answered (s.step (.voteResult false 1 rSuccess) [] []) = [] ∧
    pending (s.step (.voteResult false 1 rSuccess) [] []) = [] := by
  decide +kernel

/-- EXAMPLE ("the step does not fail" is needed): a commit index beyond the log (excluded by `Good`): the read
(task 7) is taken off the queue to be applied, building the log view panics, the task is neither answered nor
pending. -/
example :
    let s : Node := { exL with commitIndex := 5, ldr := { exL.ldr with queue := [] } }
    let op : Op := .newEntries [{ typ := etRead, task := 7 }]
    TasksOK s ∧ Fresh s op ∧ (s.step op [] []).panicked = some "logpanic.ViewAt" ∧
    answered (s.step op [] []) = [] ∧ pending (s.step op [] []) = [] := by
  decide +kernel

/-- EXAMPLE (the hypotheses of `task_run_shutdown` are satisfiable): on `exSolo` an update (task 7) is submitted and
answered, a second TakeSnapshot (task 9) is refused at once, then `Shutdown` delivers the running snapshot's
result to task 4: `[7, 9] ++ [4] ~ [7, 9] ++ [4]`. -/
example :
    let evs : List Ev := [(.newEntries [{ typ := etUpdate, data := "y", task := 7 }], [], []), (.takeSnapshot 9 0, [], [])]
    TasksOK exSolo ∧ (submittedRun evs).Nodup ∧ (∀ t ∈ submittedRun evs, t ∉ pending exSolo) ∧ RunCC exSolo evs ∧
    ((C19Order.run exSolo evs).step .shutdown [] []).panicked = none ∧
    submittedRun evs = [7, 9] ∧ pending exSolo = [4] ∧ answeredRun exSolo evs = [7, 9] ∧
    answered ((C19Order.run exSolo evs).step .shutdown [] []) = [4] := by
  refine ⟨by decide, by decide, by decide, ⟨by decide +kernel, Or.inl (by decide), by decide +kernel, Or.inl (by decide), trivial⟩,
    by decide +kernel, by decide, by decide, by decide +kernel, by decide +kernel⟩

/-- a request WITH an action: remove the non-voter 3 (nodes 1 and 2 stay voters without action) -/
def exRemove : Config :=
  { exL.configs.latest with
    nodes := exL.configs.latest.nodes.map (fun n => if n.id = 3 then { n with action := actRemove } else n) }

/-- EXAMPLE (the hypotheses of `task_step_two` are satisfiable by a ChangeConfig request with an action) -/
example : NoPanic.Good true exL ∧ exL.closed = "" ∧ NoPanic.ReqOk' true exL (.changeConfig 7 exRemove) ∧
    TasksOK exL ∧ Fresh exL (.changeConfig 7 exRemove) ∧ ¬ NoAct exL (.changeConfig 7 exRemove) :=
  ⟨C15NoPanic.exL_good, rfl, by decide, by decide, by decide, by decide⟩

/-- EXAMPLE (the hypotheses of `task_run_two` / `task_run_shutdown_two` are satisfiable): on the good leader `exL`
(task 9 queued) a WaitForStableConfig (task 5) and an update (task 6) are submitted -/
example :
    let evs : List Ev := [(.waitStable 5, [], []), (.newEntries [{ typ := etUpdate, data := "z", task := 6 }], [], [])]
    NoPanic.Good true exL ∧ TasksOK exL ∧ (submittedRun evs).Nodup ∧ (∀ t ∈ submittedRun evs, t ∉ pending exL) ∧
    C15NoPanic.RunOkTwo exL evs :=
  ⟨C15NoPanic.exL_good, by decide, by decide, by decide, ⟨rfl, trivial, by decide +kernel, by decide +kernel, trivial⟩⟩

/-- a leader whose cached own entry says "not a voter" although the committed configuration has it as voter (not
reachable: excluded by `Good`), two non-voters -/
def exO : Node :=
  let n1 : CNode := { id := 1, addr := "a:1", voter := true }
  let n2 : CNode := { id := 2, addr := "b:1", voter := false }
  let n3 : CNode := { id := 3, addr := "c:1", voter := false }
  let c : Config := { nodes := [n1, n2, n3], index := 1, term := 1 }
  { nid := 1, cid := 7, term := 1, durTerm := 1, role := .leader, leader := 1,
    log := { entries := [c.toEntry, { index := 2, term := 1, typ := etNop }], flushed := 2 },
    lastLogIndex := 2, lastLogTerm := 1, commitIndex := 2, fsm := { index := 2, term := 1, config := c },
    configs := { committed := c, latest := c },
    ldr := { node := { n1 with voter := false }, numVoters := 1, startIndex := 2,
             repls := [{ id := 2, node := n2, matchIndex := 2 }, { id := 3, node := n3, matchIndex := 2 }] } }

/-- the request: force-remove both non-voters -/
def exOc : Config :=
  { nodes := [{ id := 1, addr := "a:1", voter := true }, { id := 2, addr := "b:1", voter := false, action := actForceRemove },
              { id := 3, addr := "c:1", voter := false, action := actForceRemove }], index := 1, term := 1 }

/-- EXAMPLE (`Once` is needed, it does not follow from `TasksOK`): `checkConfigActions` hands the request's task to
`doChangeConfig` once per action it starts, and `onChangeConfig` once more when the log did not grow. In `exO`
every attempt is rejected ("demotion in progress") without changing anything, so the SAME task 7 is answered
twice by `checkConfigActions` alone, and a third time by `onChangeConfig`: `#eval answered (exO.step (.changeConfig
7 exOc) [] [])` gives `[7, 7, 7]` with `panicked = none` (the client sees the last result: `Node.canon`). The
kernel cannot replay the full step by `decide` (the address validation uses string functions defined by
well-founded recursion), hence the statement about `checkConfigActions`. -/
example :
    TasksOK exO ∧ Fresh exO (.changeConfig 7 exOc) ∧
    (checkConfigActions (fuelFor 0) (exO.begin [] []) 7 exOc).panicked = none ∧
    answered (checkConfigActions (fuelFor 0) (exO.begin [] []) 7 exOc) = [7, 7] ∧
    (checkConfigActions (fuelFor 0) (exO.begin [] []) 7 exOc).lastLogIndex = exO.lastLogIndex := by
  decide +kernel

/-- EXAMPLE (`shutdown`): the leader `exL` with task 9 queued, a waiting task and a transfer: `Shutdown` answers all
of them, nothing stays pending. -/
example :
    let s := exL.withLdr { exL.ldr with waitStable := [3], transfer := { active := true, task := 5, term := 1 } }
    TasksOK s ∧ pending s = [9, 3, 5] ∧ answered (s.step .shutdown [] []) = [5, 9, 3] ∧
    pending (s.step .shutdown [] []) = [] := by
  decide

end C15Tasks
end Raft

#print axioms Raft.C15Tasks.task_step_count
#print axioms Raft.C15Tasks.task_step_partial
#print axioms Raft.C15Tasks.task_step -- also C07
#print axioms Raft.C15Tasks.once_of_not_leaderChange
#print axioms Raft.C15Tasks.once_of_stable
#print axioms Raft.C15Tasks.once_of_noAct
#print axioms Raft.C15Tasks.once_of_twoOK
#print axioms Raft.C15Tasks.task_step_two -- also C07
#print axioms Raft.C15Tasks.task_run_two
#print axioms Raft.C15Tasks.task_run_shutdown_two
#print axioms Raft.C15Tasks.shutdown_pending_nil
#print axioms Raft.C15Tasks.task_run_partial
#print axioms Raft.C15Tasks.task_run -- also C07
#print axioms Raft.C15Tasks.task_run_shutdown_partial
#print axioms Raft.C15Tasks.task_run_shutdown -- also C07
#print axioms Raft.C15Tasks.task_step_good
#print axioms Raft.C15Tasks.task_run_good
#print axioms Raft.C15Tasks.tasksOK_of_idle
#print axioms Raft.C15Tasks.definite_rejection_step -- also C07
#print axioms Raft.C15Tasks.definite_rejection_step_fields -- also C07
#print axioms Raft.Node.TL.block
#print axioms Raft.Node.TL.step_rel
