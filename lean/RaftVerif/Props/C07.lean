/-
C07 — Client-visible semantics of updates, reads and barriers (node-local part).

For ALL states and inputs of the node model: a leader (voter, no transfer) stamps a submitted batch in submission order and
appends exactly its log-type items (`store_order*`); a non-leader, a leader with a transfer in progress and a leader that is
no longer a voter change NOTHING but the reply list (`definite_rejection_*`); `leader.applyCommitted`, the only place a queued
task gets a result, releases an item only when the commit index covers it (`reply_only_after_commit*`); `leader.release`
answers every queued item and every waiting task exactly once (`lost_leadership_replies*`); a dirty read on a non-leader is
answered from `fsm.applied` as it is (`dirty_read_sees_applied_only`).

NOT proved here (history-level; checked by the engines on explored executions): exactly-once and real-time
order of completed updates across leader changes, at-most-once fate of ambiguous failures, and that a
leader read reflects every update accepted before it (needs the cluster-level C02/C03).
-/
import RaftVerif.Props.C03
import RaftVerif.Props.C16

namespace Raft
namespace C07
open Node

theorem assign_length (last term : Nat) (batch : List QItem) : (C03.assign last term batch).length = batch.length := by
  induction batch generalizing last with
  | nil => rfl
  | cons q qs ih => simp [C03.assign, ih]

/-- the stamp does not alter what the client submitted: task, type, payload stay, in order -/
theorem assign_preserves (last term : Nat) (batch : List QItem) :
    (C03.assign last term batch).map (fun q => (q.task, q.typ, q.data)) = batch.map (fun q => (q.task, q.typ, q.data)) := by
  induction batch generalizing last with
  | nil => rfl
  | cons q qs ih => simp [C03.assign, ih]

/-- **store_order** (positions): item number k of the batch is stamped with the leader's term and index
lastLogIndex + (number of log-type items before it) + 1. -/
theorem store_order_index (last term : Nat) (batch : List QItem) (k : Nat) (hk : k < batch.length) :
    ((C03.assign last term batch)[k]'(by rw [assign_length]; exact hk)).index =
      last + ((batch.take k).filter (fun q => isLogEntryTyp q.typ)).length + 1 ∧
    ((C03.assign last term batch)[k]'(by rw [assign_length]; exact hk)).term = term := by
  induction batch generalizing last k with
  | nil => simp at hk
  | cons q qs ih =>
    cases k with
    | zero => simp [C03.assign]
    | succ k =>
      have hk' : k < qs.length := by simpa using hk
      simp only [C03.assign, List.getElem_cons_succ, List.take_succ_cons, List.filter_cons]
      obtain ⟨i1, i2⟩ := ih (if isLogEntryTyp q.typ then last + 1 else last) k hk'
      refine ⟨?_, i2⟩
      rw [i1]
      split <;> simp <;> omega

/-- **store_order** (log entries): the log-type items of the stamped batch have the consecutive indexes
lastLogIndex+1, lastLogIndex+2, … in submission order. -/
theorem store_order_log_indexes (last term : Nat) (batch : List QItem) :
    (((C03.assign last term batch).filter (fun q => isLogEntryTyp q.typ)).map (·.index)) =
      List.range' (last + 1) ((batch.filter (fun q => isLogEntryTyp q.typ)).length) := by
  induction batch generalizing last with
  | nil => rfl
  | cons q qs ih =>
    simp only [C03.assign, List.filter_cons]
    by_cases hl : isLogEntryTyp q.typ = true
    · simp only [hl, if_true, List.map_cons, List.length_cons, List.range'_succ]
      rw [ih]
    · have hl' : isLogEntryTyp q.typ = false := by simpa using hl
      simp only [hl', Bool.false_eq_true, if_false]
      rw [ih]

/-- non-vacuity: last index 7: update, read, update → indexes 8, 9 (next index), 9 -/
example : (C03.assign 7 2 [{ typ := etUpdate, task := 1 }, { typ := etRead, task := 2 }, { typ := etUpdate, task := 3 }]).map
    (fun q => (q.index, q.term, q.task)) = [(8, 2, 1), (9, 2, 2), (9, 2, 3)] := by decide

/-- **store_order**: what `storeItems` does with a batch (leader is voter, no transfer, no configuration
entry in the batch): queue and log grow by the stamped batch in submission order; see
`store_order_index` / `store_order_log_indexes` for the stamps. -/
theorem store_order (fuel : Nat) (s : Node) (batch : List QItem) (hf : fuel ≥ batch.length)
    (ht : s.ldr.transfer.active = false) (hv : s.ldr.node.voter = true)
    (hnc : ∀ q ∈ batch, q.typ ≠ etConfig) :
    (storeItems fuel s batch).ldr.queue = s.ldr.queue ++ C03.assign s.lastLogIndex s.term batch ∧
    (storeItems fuel s batch).log.entries = s.log.entries ++
      ((C03.assign s.lastLogIndex s.term batch).filter (fun q => isLogEntryTyp q.typ)).map QItem.toEntry ∧
    (storeItems fuel s batch).lastLogIndex = s.lastLogIndex + (batch.filter (fun q => isLogEntryTyp q.typ)).length ∧
    (storeItems fuel s batch).replies = s.replies := by
  obtain ⟨a, b, _, d, _, f, _⟩ := C03.leader_queue_matches_log fuel s batch hf ht hv hnc
  exact ⟨a, b, d, f⟩

/-- reads, dirty reads and barriers are queued with "next index" and do not touch the log -/
theorem store_reads_leave_log (fuel : Nat) (s : Node) (batch : List QItem) (hf : fuel ≥ batch.length)
    (ht : s.ldr.transfer.active = false) (hv : s.ldr.node.voter = true)
    (hr : ∀ q ∈ batch, isLogEntryTyp q.typ = false) :
    (storeItems fuel s batch).log.entries = s.log.entries ∧ (storeItems fuel s batch).lastLogIndex = s.lastLogIndex ∧
    ∀ q ∈ C03.assign s.lastLogIndex s.term batch, q.index = s.lastLogIndex + 1 := by
  have hnc : ∀ q ∈ batch, q.typ ≠ etConfig := by
    intro q hq he
    have := hr q hq
    rw [he] at this
    simp [isLogEntryTyp, etConfig, etRead, etDirtyRead, etBarrier] at this
  have hfil : batch.filter (fun q => isLogEntryTyp q.typ) = [] := by
    apply List.filter_eq_nil_iff.mpr
    intro q hq; rw [hr q hq]; simp
  obtain ⟨_, b, c, _⟩ := store_order fuel s batch hf ht hv hnc
  have hall : ∀ (last : Nat) (b : List QItem), (∀ q ∈ b, isLogEntryTyp q.typ = false) →
      ∀ q ∈ C03.assign last s.term b, q.index = last + 1 ∧ isLogEntryTyp q.typ = false := by
    intro last b
    induction b with
    | nil => intro _ q hq; simp [C03.assign] at hq
    | cons x xs ih =>
      intro hb q hq
      have hx := hb x (List.mem_cons_self ..)
      simp only [C03.assign, hx, Bool.false_eq_true, if_false, List.mem_cons] at hq
      rcases hq with hq | hq
      · rw [hq]; exact ⟨rfl, hx⟩
      · exact ih (fun y hy => hb y (List.mem_cons_of_mem _ hy)) q hq
  refine ⟨?_, by rw [c, hfil]; rfl, fun q hq => (hall _ _ hr q hq).1⟩
  rw [b]
  have : (C03.assign s.lastLogIndex s.term batch).filter (fun q => isLogEntryTyp q.typ) = [] := by
    apply List.filter_eq_nil_iff.mpr
    intro q hq; rw [(hall _ _ hr q hq).2]; simp
  rw [this]; simp

/-- what a non-leader answers to one submitted item -/
def rejectReply (s : Node) (q : QItem) : String :=
  if q.typ = etDirtyRead then s!"val:{s.fsm.applied.length}" else s.notLeader false

theorem rejectReply_addReplies (s : Node) (rs : List Reply) (q : QItem) :
    rejectReply (s.addReplies rs) q = rejectReply s q := rfl

/-- **definite rejection by a non-leader**: `rejectEntries` changes nothing but the reply list — no log
entry, no queue item, no FSM change — and answers every item that carries a task exactly once, in order:
NotLeaderError with Lost = false, or the value for a dirty read. -/
theorem definite_rejection_not_leader (s : Node) (batch : List QItem) :
    s.rejectEntries batch =
      s.addReplies (batch.flatMap (fun q => mkReply? q.task (rejectReply s q))) := by
  induction batch generalizing s with
  | nil => exact (addReplies_nil s).symm
  | cons q qs ih =>
    unfold Node.rejectEntries
    dsimp only
    have e : (if q.typ = etDirtyRead then s.reply q.task s!"val:{s.fsm.applied.length}"
              else s.reply q.task (s.notLeader false)) = s.reply q.task (rejectReply s q) := by
      unfold rejectReply; split <;> rfl
    rw [e, ih, reply_eq_addReplies, addReplies_addReplies]
    rfl

/-- …in particular log, last log index, leader queue, FSM and commit index are untouched -/
theorem definite_rejection_never_appended (s : Node) (batch : List QItem) :
    (s.rejectEntries batch).log = s.log ∧ (s.rejectEntries batch).lastLogIndex = s.lastLogIndex ∧
    (s.rejectEntries batch).ldr = s.ldr ∧ (s.rejectEntries batch).fsm = s.fsm ∧
    (s.rejectEntries batch).commitIndex = s.commitIndex ∧ (s.rejectEntries batch).panicked = s.panicked := by
  rw [definite_rejection_not_leader]; exact ⟨rfl, rfl, rfl, rfl, rfl, rfl⟩

/-- **definite rejection during a transfer**: the leader changes nothing but the reply list; every task
gets InProgressError("transferLeadership"). -/
theorem definite_rejection_transfer (fuel : Nat) (s : Node) (batch : List QItem)
    (h : s.ldr.transfer.active = true) (hf : fuel ≥ batch.length) :
    storeItems fuel s batch =
      s.addReplies (batch.flatMap (fun q => mkReply? q.task "inProgress:transferLeadership")) :=
  C16.storeItems_refusing fuel s batch _ (by unfold C16.refusal; rw [if_pos h]) hf

/-- what a leader that is no longer a voter answers -/
def nonVoterReply (s : Node) : String :=
  if s.configs.latest.has s.nid then "inProgress:demoteLeader" else "inProgress:removeLeader"

/-- **definite rejection by a demoted / removed leader** (its own demotion or removal is in the log but
not yet committed): nothing but the reply list changes; every task gets InProgressError. -/
theorem definite_rejection_nonvoter (fuel : Nat) (s : Node) (batch : List QItem)
    (ht : s.ldr.transfer.active = false) (hv : s.ldr.node.voter = false) (hf : fuel ≥ batch.length) :
    storeItems fuel s batch =
      s.addReplies (batch.flatMap (fun q => mkReply? q.task (nonVoterReply s))) :=
  C16.storeItems_refusing fuel s batch _
    (by unfold C16.refusal nonVoterReply; rw [if_neg (by simp [ht]), if_pos (by simp [hv])]) hf

/-- in all three cases: log and queue untouched (restating C16.store_rejected_during_transfer for the
transfer case) -/
theorem definite_rejection_leader_never_appended (fuel : Nat) (s : Node) (batch : List QItem)
    (h : s.ldr.transfer.active = true ∨ s.ldr.node.voter = false) (hf : fuel ≥ batch.length) :
    (storeItems fuel s batch).log = s.log ∧ (storeItems fuel s batch).lastLogIndex = s.lastLogIndex ∧
    (storeItems fuel s batch).ldr = s.ldr ∧ (storeItems fuel s batch).configs = s.configs := by
  by_cases ht : s.ldr.transfer.active = true
  · exact C16.store_rejected_during_transfer fuel s batch ht hf
  · rcases h with h | h
    · exact absurd h ht
    · rw [definite_rejection_nonvoter fuel s batch (by simpa using ht) h hf]; exact ⟨rfl, rfl, rfl, rfl⟩

/-- what `leader.applyCommitted` may hand to the FSM goroutine at commit index `ci` -/
def Releasable (ci : Nat) (q : QItem) : Prop := q.index ≤ ci ∨ (q.index = ci + 1 ∧ isLogEntryTyp q.typ = false)

/-- **reply_only_after_commit** (the split): the released part of the queue is a prefix, every released
item is covered by the commit index (or is a read/barrier waiting exactly for it), and the first item kept
is not. -/
theorem reply_only_after_commit_split (ci : Nat) (queue : List QItem) :
    (splitQueue ci queue).1 ++ (splitQueue ci queue).2 = queue ∧
    (∀ q ∈ (splitQueue ci queue).1, Releasable ci q) ∧
    (∀ q, (splitQueue ci queue).2.head? = some q → ¬ Releasable ci q) := by
  induction queue with
  | nil => simp [splitQueue]
  | cons q qs ih =>
    unfold splitQueue
    split
    · rename_i hc
      dsimp only
      obtain ⟨i1, i2, i3⟩ := ih
      refine ⟨by simp [i1], ?_, i3⟩
      intro x hx
      rcases List.mem_cons.mp hx with hx | hx
      · rw [hx]
        rcases hc with hc | hc
        · exact Or.inl hc
        · exact Or.inr ⟨hc.1, by simpa using hc.2⟩
      · exact i2 x hx
    · rename_i hc
      refine ⟨rfl, by simp, ?_⟩
      intro x hx
      simp only [List.head?_cons, Option.some.injEq] at hx
      subst hx
      intro hr
      apply hc
      rcases hr with hr | hr
      · exact Or.inl hr
      · exact Or.inr ⟨hr.1, by simp [hr.2]⟩

/-- tasks answered by the second loop of `onApply`: exactly the tasks of the items, once each, in order —
whether or not an assertion tripped -/
theorem fsmApplyItems_reply_tasks (s : Node) (items : List QItem) :
    (s.fsmApplyItems items).replies.map (·.task) = s.replies.map (·.task) ++ (items.map (·.task)).filter (· ≠ 0) :=
  C12.fsmApplyItems_reply_tasks s items

theorem fsmApplyLogTo_replies (s : Node) (n : Nat) : (s.fsmApplyLogTo n).replies = s.replies := by
  rw [fsmApplyLogTo_shape]

/-- **reply_only_after_commit**: `leader.applyCommitted` keeps the non-releasable rest of the queue, and the
tasks it answers are tasks of released items (each at most once, in queue order) — so an update task gets
its result only when its index is covered by the commit index, and a read/barrier only when everything
before it is. (When the log view cannot be built the call panics and answers nothing.) -/
theorem reply_only_after_commit (s : Node) :
    s.applyCommittedL.ldr.queue = (splitQueue s.commitIndex s.ldr.queue).2 ∧
    (s.applyCommittedL.replies.map (·.task) =
        s.replies.map (·.task) ++ (((splitQueue s.commitIndex s.ldr.queue).1.map (·.task)).filter (· ≠ 0)) ∨
     s.applyCommittedL.replies = s.replies) ∧
    ∀ q ∈ (splitQueue s.commitIndex s.ldr.queue).1, Releasable s.commitIndex q := by
  refine ⟨?_, ?_, (reply_only_after_commit_split _ _).2.1⟩
  · unfold Node.applyCommittedL
    dsimp only
    have := fsmFrame_ldr.fsmApply_eq (s.withLdr { s.ldr with queue := (splitQueue s.commitIndex s.ldr.queue).2 })
      (splitQueue s.commitIndex s.ldr.queue).1
    dsimp only at this
    rw [this]; rfl
  · unfold Node.applyCommittedL Node.fsmApply
    dsimp only
    split
    · exact Or.inr (panic_fields _ _).2.2.2.2.2.1
    · split
      · exact Or.inr (panic_fields _ _).2.2.2.2.2.1
      · left
        rw [(assert_fields _ _ _).2.2.2.2.2.1, fsmApplyItems_reply_tasks, fsmApplyLogTo_replies]
        rfl

/-- the error `leader.release` gives to everything still pending -/
def releaseErr (s : Node) : String :=
  if s.isClosed then "plain:serverClosed"
  else (if s.leader = s.nid then s.setLeader 0 else s).notLeader true

/-- **lost_leadership_replies**: `leader.release` (after the transfer task was answered) completes EVERY
queued entry and EVERY waitForStableConfig task exactly once, in order, with ErrServerClosed when the node
is closing and NotLeaderError{Lost: true} otherwise; the queue and the wait list are emptied. -/
theorem lost_leadership_replies (s : Node) :
    s.leaderReleaseRest.replies = s.replies ++
      s.ldr.queue.flatMap (fun q => mkReply? q.task (releaseErr s)) ++
      s.ldr.waitStable.flatMap (fun t => mkReply? t (releaseErr s)) ∧
    s.leaderReleaseRest.ldr.queue = [] ∧ s.leaderReleaseRest.ldr.waitStable = [] ∧
    s.leaderReleaseRest.ldr.transfer = {} ∧ s.leaderReleaseRest.log = s.log ∧
    s.leaderReleaseRest.commitIndex = s.commitIndex ∧ s.leaderReleaseRest.fsm = s.fsm := by
  unfold Node.leaderReleaseRest
  extract_lets s1 err s2 s3
  have hq : s1.ldr = s.ldr ∧ s1.replies = s.replies ∧ s1.log = s.log ∧ s1.commitIndex = s.commitIndex ∧
      s1.fsm = s.fsm := by
    unfold s1; split <;> exact ⟨rfl, rfl, rfl, rfl, rfl⟩
  have herr : err = releaseErr s := by
    unfold err releaseErr
    have : s1.isClosed = s.isClosed := by unfold s1; split <;> rfl
    rw [this]
  have e2 : s2 = s1.addReplies (s1.ldr.queue.flatMap (fun q => mkReply? q.task err)) :=
    foldl_reply_eq (fun q : QItem => q.task) (fun _ => err) _ _
  have e3 : s3 = s2.addReplies (s2.ldr.waitStable.flatMap (fun t => mkReply? t err)) :=
    foldl_reply_eq (fun t : Nat => t) (fun _ => err) _ _
  -- from here on only these equations are used
  clear_value s3 s2 err s1
  subst e3 e2 herr
  unfold Node.addReplies Node.withLdr
  obtain ⟨q1, q2, q3, q4, q5⟩ := hq
  -- the replies as read off `s1`; `s1` has the queue, the wait list and the replies of `s`
  exact ⟨(rfl : _ = s1.replies ++ s1.ldr.queue.flatMap _ ++ s1.ldr.waitStable.flatMap _).trans (by rw [q1, q2]),
    rfl, rfl, rfl, q3, q4, q5⟩

/-- every queued item with a task has its completion in the reply list -/
theorem lost_leadership_replies_mem (s : Node) (q : QItem) (hq : q ∈ s.ldr.queue) (h0 : q.task ≠ 0) :
    ({ task := q.task, result := releaseErr s } : Reply) ∈ s.leaderReleaseRest.replies := by
  rw [(lost_leadership_replies s).1]
  apply List.mem_append_left
  apply List.mem_append_right
  exact mem_flatMap_mkReply? (fun q : QItem => q.task) (fun _ => releaseErr s) _ q hq h0

/-- exactly once: the tasks completed by the release are the queued tasks followed by the waiting tasks -/
theorem lost_leadership_replies_once (s : Node) :
    s.leaderReleaseRest.replies.map (·.task) = s.replies.map (·.task) ++
      (s.ldr.queue.map (·.task)).filter (· ≠ 0) ++ s.ldr.waitStable.filter (· ≠ 0) := by
  rw [(lost_leadership_replies s).1]
  simp only [List.map_append]
  rw [flatMap_mkReply?_tasks (fun q : QItem => q.task), flatMap_mkReply?_tasks (fun t : Nat => t)]
  simp

/-- **dirty_read_sees_applied_only**: a dirty read submitted to a non-leader is answered with the value
computed from `fsm.applied` as it stands — no log entry beyond it is consulted — and the FSM is not changed.
By `C03.apply_never_beyond_commit`, `fsm.applied` holds nothing beyond the commit index. -/
theorem dirty_read_sees_applied_only (s : Node) (batch : List QItem) (q : QItem) (hq : q ∈ batch)
    (ht : q.typ = etDirtyRead) (h0 : q.task ≠ 0) :
    ({ task := q.task, result := s!"val:{s.fsm.applied.length}" } : Reply) ∈ (s.rejectEntries batch).replies ∧
    (s.rejectEntries batch).fsm = s.fsm := by
  rw [definite_rejection_not_leader]
  refine ⟨?_, rfl⟩
  apply List.mem_append_right
  have := mem_flatMap_mkReply? (fun q : QItem => q.task) (fun q => rejectReply s q) batch q hq h0
  have e : rejectReply s q = s!"val:{s.fsm.applied.length}" := by unfold rejectReply; rw [if_pos ht]
  rw [e] at this
  exact this

end C07
end Raft

#print axioms Raft.C07.assign_length
#print axioms Raft.C07.assign_preserves
#print axioms Raft.C07.store_order_index
#print axioms Raft.C07.store_order_log_indexes
#print axioms Raft.C07.store_order
#print axioms Raft.C07.store_reads_leave_log
#print axioms Raft.C07.rejectReply_addReplies
#print axioms Raft.C07.definite_rejection_not_leader
#print axioms Raft.C07.definite_rejection_never_appended
#print axioms Raft.C07.definite_rejection_transfer
#print axioms Raft.C07.definite_rejection_nonvoter
#print axioms Raft.C07.definite_rejection_leader_never_appended
#print axioms Raft.C07.reply_only_after_commit_split
#print axioms Raft.C07.fsmApplyItems_reply_tasks
#print axioms Raft.C07.fsmApplyLogTo_replies
#print axioms Raft.C07.reply_only_after_commit
#print axioms Raft.C07.lost_leadership_replies
#print axioms Raft.C07.lost_leadership_replies_mem
#print axioms Raft.C07.lost_leadership_replies_once
#print axioms Raft.C07.dirty_read_sees_applied_only
