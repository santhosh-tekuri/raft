/-
C02 (leader completeness, committed entries are never replaced) on the cluster-level transition system
`Raft.Commit` (Sys/Commit.lean) — fixed voter set, fixed stable configuration, no snapshots / compaction (the
`_partial` restrictions, see the header of Sys/Commit.lean).

The heart of the argument is `lc_core` / `NewE.lc_new`: a new entry of an elected leader descends from every committed
entry (quorum intersection of the commit's acknowledgers with the electors, the up-to-date check seen from the tree,
induction on the term). `NewE` is what is known about the entries a node appends to its OWN log in a completed step or
in a crash + restart; `SC` (a completed step) and `CC` (a crash + restart) are both a `Commit.CoreUpd`, and what does not
depend on the voter set is proved in Lemmas/CommitCore.lean and Lemmas/CommitCoreTree.lean for this system and the one
with membership changes together. Everything is proved for every state of `Commit.ReachableV V` (`V` duplicate free); no hypothesis on the
schedule, on crashes or on the network beyond the enabling conditions of `Commit.Trans`.
-/
import RaftVerif.Lemmas.CommitCoreTree
import RaftVerif.Lemmas.Grows
import RaftVerif.Props.C19Order

namespace Raft
namespace C02Sys
open Node LogRel CommitRel Commit C01
open Replication (Uniq ReadFrom newCreated chainOf)
open Election (RealReply votersCounted)
open NodeSys (forall_setNode)

/-- all entries of one term that a node created were created by one node (election safety, in the form
`C04Sys.elV_unique`) -/
theorem rone_creator {V : List Nat} (hV : V.Nodup) {y : Commit.Sys} (hR : Replication.Inv V y.rp) {c d : CEntry}
    (hc : c ∈ y.T) (hd : d ∈ y.T) (hc0 : c.cr ≠ 0) (hd0 : d.cr ≠ 0) (ht : c.e.term = d.e.term) : c.cr = d.cr :=
  C04Sys.elV_unique hV hR.el.unique (by rw [← ht]; exact ((C04Sys.logInv hR).own c hc hc0).1)
    ((C04Sys.logInv hR).own d hd hd0).1

section derived
variable {V : List Nat} {x : Commit.Sys}

theorem nwf (hI : CInv V x) (i : Nat) : NWF (x.node i) := (core_of_cinv hI).nwf i

theorem log_path (hI : CInv V x) (i : Nat) : Path x.T (x.node i).log.entries := (core_of_cinv hI).path i

theorem uniq (hI : CInv V x) : Uniq x.T := hI.rp.uniq

theorem log_record (hI : CInv V x) (i : Nat) {k τ : Nat} (h : Holds (x.node i).log.entries k τ) :
    ∃ c ∈ x.T, key c = (k, τ) := (core_of_cinv hI).record i h

theorem log_holds_anc (hI : CInv V x) (i : Nat) {a c : Nat × Nat} (h : Anc x.T a c)
    (hc : Holds (x.node i).log.entries c.1 c.2) : Holds (x.node i).log.entries a.1 a.2 :=
  (core_of_cinv hI).holds_anc i h hc

theorem key_inj (hI : CInv V x) {c d : CEntry} (hc : c ∈ x.T) (hd : d ∈ x.T) (h : key c = key d) : c = d :=
  (core_of_cinv hI).key_inj hc hd h

theorem one_creator (hV : V.Nodup) (hI : CInv V x) {c d : CEntry} (hc : c ∈ x.T) (hd : d ∈ x.T)
    (hc0 : c.cr ≠ 0) (hd0 : d.cr ≠ 0) (ht : c.e.term = d.e.term) : c.cr = d.cr :=
  rone_creator hV hI.rp hc hd hc0 hd0 ht

/-- an entry of a term in which `l ∈ V` was (recorded as) leader was created by `l` -/
theorem creator_of_won (hV : V.Nodup) (hI : CInv V x) {l t : Nat} (hl : l ∈ V) (hw : (l, t) ∈ x.rp.el.won)
    {c : CEntry} (hc : c ∈ x.T) (hc0 : c.cr ≠ 0) (ht : c.e.term = t) : c.cr = l := by
  exact C04Sys.elV_unique hV hI.rp.el.unique (by rw [← ht]; exact ((C04Sys.logInv hI.rp).own c hc hc0).1)
    ⟨hl, Or.inr (hI.rp.el.backed l t hw)⟩

theorem creator_is_leader (hV : V.Nodup) (hI : CInv V x) {i : Nat} (hl : (x.node i).role = .leader)
    {c : CEntry} (hc : c ∈ x.T) (ht : c.e.term = (x.node i).term) : c.cr = i :=
  creator_of_won hV hI (hI.rp.ldrV i hl) (hI.rp.el.recorded i hl) hc
    ((core_of_cinv hI).cr_ne_zero (by rw [hl]; decide) hc ht) ht

theorem ldrCreates (hV : V.Nodup) (hI : CInv V x) : LdrCreates x :=
  fun _ hl _ hc ht => creator_is_leader hV hI hl hc ht

theorem ack_on_leader (hV : V.Nodup) (hI : CInv V x) {i : Nat} (hl : (x.node i).role = .leader)
    {a : Ack} (ha : a ∈ x.acks) (ht : a.term = (x.node i).term) :
    Holds (x.node i).log.entries a.index a.eterm :=
  (core_of_cinv hI).ack_on_leader (ldrCreates hV hI) hl ha ht

end derived



theorem chainOf_pt {cr pt : Nat} {es : List Entry} {c : CEntry} (h : c ∈ chainOf cr pt es) :
    c.pt = pt ∨ ∃ e' ∈ es, c.pt = e'.term := Commit.chainOf_pt h

theorem chainOf_mem {cr pt : Nat} {es : List Entry} {e : Entry} (h : e ∈ es) :
    ∃ c ∈ chainOf cr pt es, c.e = e ∧ c.cr = cr := Commit.chainOf_mem h

theorem anc_reflect {x y : Commit.Sys} {i : Nat} (hE : Ext x y i) {b : Nat × Nat} {c : CEntry} (hc : c ∈ x.T)
    (h : Anc y.T b (key c)) : Anc x.T b (key c) := Commit.anc_reflect hE hc h

theorem ranc {V : List Nat} {y : Commit.Sys} (hR : Replication.Inv V y.rp) (i : Nat) {a c : Nat × Nat}
    (ha : Holds (y.node i).log.entries a.1 a.2) (hc : Holds (y.node i).log.entries c.1 c.2) (h : a.1 ≤ c.1) :
    Anc y.T a c := node_anc (C04Sys.logInv hR) i ha hc h

theorem rholds {V : List Nat} {y : Commit.Sys} (hR : Replication.Inv V y.rp) (i : Nat) {a c : Nat × Nat}
    (h : Anc y.T a c) (hc : Holds (y.node i).log.entries c.1 c.2) : Holds (y.node i).log.entries a.1 a.2 :=
  node_holds (C04Sys.logInv hR) i h hc

theorem rrecord {V : List Nat} {y : Commit.Sys} (hR : Replication.Inv V y.rp) (i : Nat) {k τ : Nat}
    (h : Holds (y.node i).log.entries k τ) : ∃ c ∈ y.T, key c = (k, τ) := node_record (C04Sys.logInv hR) i h

theorem holds_last {s : Node} (hn : NWF s) (h : 1 ≤ s.log.entries.length) :
    Holds s.log.entries s.log.entries.length s.lastLogTerm := Commit.holds_last hn h

theorem holds_of_mem {es : List Entry} (hc : Contig es) {e : Entry} (h : e ∈ es) : Holds es e.index e.term :=
  Commit.holds_of_mem hc h

/-- Node `i` of `x` is replaced by `(y.node i)`; its log grew by `es` (all of term `te`), which are the new
records of the tree (`Commit.NewC`, the part that does not speak of the voter set), and what the election argument needs
on top. -/
structure NewE (V : List Nat) (x y : Commit.Sys) (i : Nat) (op : Op) (src : Nat) (es : List Entry) (te : Nat) :
    Prop extends NewC x y x.acks i op es te where
  hV : V.Nodup
  inv : CInv V x
  side : SideV V x
  ry : Replication.Inv V y.rp
  real : Counts (x.node i) op → RealReply x.rp.el i src
  acks : ∀ a ∈ y.acks, a ∈ x.acks ∨ (a.voter = i ∧ (x.node i).term ≤ a.term)
  acks3 : es ≠ [] → (x.node i).term < te → ∀ a ∈ y.acks, a ∈ x.acks ∨ (a.voter = i ∧ te ≤ a.term)
  camp3 : es ≠ [] → (x.node i).term < te → ∃ k ∈ y.camps, k.cand = i ∧ k.term = te ∧
    k.lastIndex = (x.node i).log.entries.length ∧ k.lastTerm = (x.node i).lastLogTerm

namespace NewE
variable {V : List Nat} {x y : Commit.Sys} {i : Nat} {op : Op} {src : Nat} {es : List Entry} {te : Nat}

theorem voter (h : NewE V x y i op src es te) (hne : es ≠ []) : i ∈ V :=
  C04Sys.story_voter h.inv.rp h.side.1 i op te (h.story hne).2.1

end NewE

namespace NewE
variable {V : List Nat} {x y : Commit.Sys} {i : Nat} {op : Op} {src : Nat} {es : List Entry} {te : Nat}

/-- `UpTo` for old campaigns whose term the voter has reached carries over -/
theorem upTo_old (h : NewE V x y i op src es te) {k : Camp} {v : Nat} (hkv : k.term ≤ (x.node v).term)
    (hu : UpTo x k v) : UpTo y k v := by
  refine upToW_mono h.ext (w₁_mono h.ext) (fun a ha => (h.inv.ack.wf a ha).2.2.2) (fun a ha => ?_) hu
  rcases h.acks a ha with ho | ⟨a1, a2⟩
  · exact Or.inl ho
  · right
    intro hv
    rw [a1] at hv
    rw [← hv] at hkv
    omega

theorem elect_fin (h : NewE V x y i op src es te) {c : CEntry}
    (hc : c ∈ chainOf i (lastTerm (x.node i).log.entries) es) {k : Camp} (hk : k ∈ y.camps) (hki : k.cand = i)
    (hkt : k.term = te) (hkl : k.lastIndex ≤ (x.node i).log.entries.length)
    (hkh : k.lastIndex = 0 ∨ Holds (x.node i).log.entries k.lastIndex k.lastTerm)
    (Q : List Nat) (q1 : Q.Nodup) (q2 : ∀ v ∈ Q, v ∈ V) (q3 : 2 * Q.length > V.length)
    (q4 : ∀ v ∈ Q, te ≤ (y.node v).term ∧ UpTo y k v) :
    ∃ k ∈ y.camps, k.cand = c.cr ∧ k.term = c.e.term ∧ k.lastIndex < c.e.index ∧
      (k.lastIndex = 0 ∨ Anc y.T k.last (key c)) ∧
      ∃ Q : List Nat, Q.Nodup ∧ (∀ v ∈ Q, v ∈ V) ∧ 2 * Q.length > V.length ∧
        ∀ v ∈ Q, c.e.term ≤ (y.node v).term ∧ UpTo y k v := by
  obtain ⟨c1, _, c3, c4, hne⟩ := h.mem_new hc
  refine ⟨k, hk, by rw [c1]; exact hki, by rw [c3]; exact hkt, by omega, ?_, Q, q1, q2, q3, by rw [c3]; exact q4⟩
  rcases hkh with h0 | hh
  · exact Or.inl h0
  · right
    exact ranc h.ry i (a := k.last) (c := key c) (h.old_holds hne hh) (h.new_holds hc) (by show k.lastIndex ≤ c.e.index; omega)


/-- the election record of a new entry when the node was leader of the term already: that of its last entry -/
theorem elect1 (h : NewE V x y i op src es te) (hl : (x.node i).role = .leader) (hte : te = (x.node i).term)
    {c : CEntry} (hc : c ∈ chainOf i (lastTerm (x.node i).log.entries) es) :
    ∃ k ∈ y.camps, k.cand = c.cr ∧ k.term = c.e.term ∧ k.lastIndex < c.e.index ∧
      (k.lastIndex = 0 ∨ Anc y.T k.last (key c)) ∧
      ∃ Q : List Nat, Q.Nodup ∧ (∀ v ∈ Q, v ∈ V) ∧ 2 * Q.length > V.length ∧
        ∀ v ∈ Q, c.e.term ≤ (y.node v).term ∧ UpTo y k v := by
  have hI := h.inv
  have lo := hI.node.ldr i hl
  have hlen : 1 ≤ (x.node i).log.entries.length := Nat.le_trans lo.start lo.startLe
  have hz : Holds (x.node i).log.entries (x.node i).log.entries.length (x.node i).term :=
    ⟨hlen, Nat.le_refl _, lo.own _ lo.startLe (Nat.le_refl _)⟩
  obtain ⟨z, hzT, hzk⟩ := log_record hI i hz
  have hzk' := hzk
  replace hzk := key_eq.mp hzk
  have hz0 := (core_of_cinv hI).cr_ne_zero (i := i) (by rw [hl]; decide) hzT hzk.2
  have hzi := creator_is_leader h.hV hI hl hzT hzk.2
  obtain ⟨k, hk, k1, k2, k3, k4, Q, q1, q2, q3, q4⟩ := hI.tree.crElect z hzT hz0
  rw [hzk.1] at k3
  rw [hzk.2] at k2 q4
  refine h.elect_fin hc (h.ext.camps k hk) (k1.trans hzi) (k2.trans hte.symm) (Nat.le_of_lt k3) ?_ Q q1 q2 q3
    (fun v hv => ⟨?_, h.upTo_old (by rw [k2]; exact (q4 v hv).1) (q4 v hv).2⟩)
  · rcases k4 with k4 | k4
    · exact Or.inl k4
    · right
      rw [hzk'] at k4
      exact log_holds_anc hI i k4 hz
  · rw [hte]; exact Nat.le_trans (q4 v hv).1 (h.ext.term v)

/-- … when the node counted the last missing vote in this step -/
theorem elect2 (h : NewE V x y i op src es te) (hcn : Counts (x.node i) op)
    (hte : te = (x.node i).term) {c : CEntry} (hc : c ∈ chainOf i (lastTerm (x.node i).log.entries) es)
    (hvn : (x.node i).votesNeeded - 1 = 0) :
    ∃ k ∈ y.camps, k.cand = c.cr ∧ k.term = c.e.term ∧ k.lastIndex < c.e.index ∧
      (k.lastIndex = 0 ∨ Anc y.T k.last (key c)) ∧
      ∃ Q : List Nat, Q.Nodup ∧ (∀ v ∈ Q, v ∈ V) ∧ 2 * Q.length > V.length ∧
        ∀ v ∈ Q, c.e.term ≤ (y.node v).term ∧ UpTo y k v := by
  have hI := h.inv
  have hcand : (x.node i).role = .candidate := hcn.1
  obtain ⟨k, hk, k1, k2, k3, k4, k5⟩ := hI.node.camp i (by rw [hcand]; decide)
  have ok := hI.rp.el.cand i hcand
  obtain ⟨r1, r2, r3, r4⟩ := h.real hcn
  have hsrcV : src ∈ V := by
    rw [← (h.side.1 i).2]; exact C01Sys.isVoter_mem_voters _ _ r2
  have hnotin : src ∉ votersCounted x.rp.el.counted i (x.node i).term :=
    fun hm => r4 ((C01Sys.mem_votersCounted _ _ _ _).mp hm)
  have ht : ∀ v, ({ voter := v, term := (x.node i).term, cand := i } : C01.Grant) ∈ x.rp.el.grants →
      (x.node i).term ≤ (x.node v).term := fun v hg => (core_of_cinv hI).grant_term hg
  refine h.elect_fin hc (h.ext.camps k hk) k1 (k2.trans hte.symm) k3 ?_
    (i :: src :: votersCounted x.rp.el.counted i (x.node i).term) ?_ ?_ ?_ ?_
  · by_cases h0 : k.lastIndex = 0
    · exact Or.inl h0
    · exact Or.inr ⟨by omega, k3, k4 (by omega)⟩
  · refine List.nodup_cons.mpr ⟨?_, List.nodup_cons.mpr ⟨hnotin, ok.nodup⟩⟩
    intro hm
    rcases List.mem_cons.mp hm with hm | hm
    · exact r1 hm.symm
    · exact (ok.real i hm).2.1 rfl
  · intro v hv
    rcases List.mem_cons.mp hv with hv | hv
    · subst hv; exact ok.voter
    · rcases List.mem_cons.mp hv with hv | hv
      · subst hv; exact hsrcV
      · exact (ok.real v hv).1
  · have hcount : (x.node i).votesNeeded +
        ((votersCounted x.rp.el.counted i (x.node i).term).length : Int) + 1 = ((V.length / 2 + 1 : Nat) : Int) :=
      ok.count
    simp only [List.length_cons]
    omega
  · intro v hv
    rcases List.mem_cons.mp hv with hv | hv
    · subst hv
      refine ⟨by rw [hte]; exact h.ext.term v, h.upTo_old (by rw [k2]; exact Nat.le_refl _) ?_⟩
      exact hI.vote.electInv k hk v (Or.inl k1.symm)
    · rcases List.mem_cons.mp hv with hv | hv
      · subst hv
        refine ⟨by rw [hte]; exact Nat.le_trans (ht v r3) (h.ext.term v),
          h.upTo_old (by rw [k2]; exact ht v r3) ((core_of_cinv hI).upToW_of_grant w₁_le hcand hk k1 k2 r3)⟩
      · obtain ⟨_, _, hg⟩ := ok.real v hv
        refine ⟨by rw [hte]; exact Nat.le_trans (ht v hg) (h.ext.term v),
          h.upTo_old (by rw [k2]; exact ht v hg) (hI.vote.electInv k hk v (Or.inr ?_))⟩
        rw [k1, k2]
        exact (C01Sys.mem_votersCounted _ _ _ _).mp hv


/-- … when the node elected itself with a quorum of one in this step -/
theorem elect3 (h : NewE V x y i op src es te) (hgt : te > (x.node i).term)
    (hq : (x.node i).configs.latest.quorum = 1) {c : CEntry}
    (hc : c ∈ chainOf i (lastTerm (x.node i).log.entries) es) :
    ∃ k ∈ y.camps, k.cand = c.cr ∧ k.term = c.e.term ∧ k.lastIndex < c.e.index ∧
      (k.lastIndex = 0 ∨ Anc y.T k.last (key c)) ∧
      ∃ Q : List Nat, Q.Nodup ∧ (∀ v ∈ Q, v ∈ V) ∧ 2 * Q.length > V.length ∧
        ∀ v ∈ Q, c.e.term ≤ (y.node v).term ∧ UpTo y k v := by
  have hI := h.inv
  have hne := (h.mem_new hc).2.2.2.2
  obtain ⟨k, hk, k1, k2, k3, k4⟩ := h.camp3 hne hgt
  have hV1 : V.length / 2 + 1 = 1 := by
    rw [C01Sys.quorum_eq, (h.side.1 i).2] at hq; exact hq
  refine h.elect_fin hc hk k1 k2 (by rw [k3]; exact Nat.le_refl _) ?_ [i]
    (List.nodup_cons.mpr ⟨List.not_mem_nil, List.nodup_nil⟩)
    (fun v hv => by rw [List.mem_singleton.mp hv]; exact h.voter hne)
    (by simp only [List.length_singleton]; omega) ?_
  · by_cases h0 : k.lastIndex = 0
    · exact Or.inl h0
    · right
      rw [k3, k4]
      exact holds_last (nwf hI i) (by omega)
  · intro v hv
    rw [List.mem_singleton.mp hv]
    refine ⟨(h.story hne).1, ?_⟩
    intro a ha hav hlt b hb hanc
    rcases h.acks3 hne hgt a ha with ho | ⟨_, hn⟩
    · have hanc' := Commit.anc_old h.ext ((hI.ack.wf a ho).2.2.2) hanc
      rcases hI.ack.stable a ho b hb hanc' with ⟨_, hd⟩ | ⟨c', hc', u1, u2, u3⟩
      · left
        rw [hav] at hd
        have hlen : 1 ≤ (x.node i).log.entries.length := by have := hd.1; have := hd.2.1; omega
        have : Anc x.T b ((x.node i).log.entries.length, (x.node i).lastLogTerm) :=
          (core_of_cinv hI).anc i hd (holds_last (nwf hI i) hlen) hd.2.1
        have e : k.last = ((x.node i).log.entries.length, (x.node i).lastLogTerm) := by
          unfold Camp.last; rw [k3, k4]
        rw [e]; exact h.ext.anc this
      · right; left
        rw [hav] at u2
        exact ⟨c', h.ext.T c' hc', u1, by rw [k2]; omega, h.ext.not_anc hc' u3⟩
    · rw [k2] at hlt; omega

/-- **every created entry has its election record** -/
theorem crElect (h : NewE V x y i op src es te) : ∀ c ∈ y.T, c.cr ≠ 0 →
    ∃ k ∈ y.camps, k.cand = c.cr ∧ k.term = c.e.term ∧ k.lastIndex < c.e.index ∧
      (k.lastIndex = 0 ∨ Anc y.T k.last (key c)) ∧
      ∃ Q : List Nat, Q.Nodup ∧ (∀ v ∈ Q, v ∈ V) ∧ 2 * Q.length > V.length ∧
        ∀ v ∈ Q, c.e.term ≤ (y.node v).term ∧ UpTo y k v := by
  intro c hc h0
  rcases h.mem_T hc with hn | ho
  · have hne := (h.mem_new hn).2.2.2.2
    rcases h.story_cases hne with ⟨hl, hte⟩ | ⟨_, ⟨a, b, d⟩ | ⟨a, b⟩⟩
    · exact h.elect1 hl hte hn
    · exact h.elect2 a d hn b
    · exact h.elect3 a b hn
  · obtain ⟨k, hk, k1, k2, k3, k4, Q, q1, q2, q3, q4⟩ := h.inv.tree.crElect c ho h0
    refine ⟨k, h.ext.camps k hk, k1, k2, k3, k4.imp id h.ext.anc, Q, q1, q2, q3, fun v hv => ?_⟩
    exact ⟨Nat.le_trans (q4 v hv).1 (h.ext.term v), h.upTo_old (by rw [k2]; exact (q4 v hv).1) (q4 v hv).2⟩

theorem treeI (h : NewE V x y i op src es te) : TreeI V y := ⟨h.treeOK, h.crElect, h.ownLog⟩

end NewE

/-- **the intersection argument** (core of leader completeness): an entry `c` of a later term whose creator was
elected by a majority that passed the up-to-date check extends the entry `m` that a majority acknowledged in
`m`'s term — provided the entries of the terms in between do, and nobody else created entries of `c`'s term. -/
theorem lc_core {V : List Nat} (hV : V.Nodup) {y : Commit.Sys} (hU : Uniq y.T) {m : Nat × Nat} {c : CEntry}
    (hmc : m.2 < c.e.term)
    (hq : ∃ Q : List Nat, Q.Nodup ∧ (∀ v ∈ Q, v ∈ V) ∧ 2 * Q.length > V.length ∧
      ∀ v ∈ Q, ∃ a ∈ y.acks, a.voter = v ∧ a.term = m.2 ∧ Anc y.T m a.key)
    (he : ∃ k : Camp, k.cand = c.cr ∧ k.term = c.e.term ∧ (k.lastIndex = 0 ∨ Anc y.T k.last (key c)) ∧
      ∃ Q : List Nat, Q.Nodup ∧ (∀ v ∈ Q, v ∈ V) ∧ 2 * Q.length > V.length ∧ ∀ v ∈ Q, UpTo y k v)
    (hlow : ∀ c' ∈ y.T, m.2 < c'.e.term → c'.e.term < c.e.term → Anc y.T m (key c'))
    (hone : ∀ c' ∈ y.T, c'.e.term = c.e.term → c'.cr ≠ 0 → c'.cr = c.cr) : Anc y.T m (key c) := by
  obtain ⟨Q, q1, q2, q3, q4⟩ := hq
  obtain ⟨k, k1, k2, k3, Q', p1, p2, p3, p4⟩ := he
  obtain ⟨v, hv, hv'⟩ := quorums_intersect V Q Q' hV q1 p1 q2 p2 (by omega)
  obtain ⟨a, ha, a1, a2, a3⟩ := q4 v hv
  rcases p4 v hv' a ha a1 (by rw [a2, k2]; exact hmc) m a2.symm a3 with r | ⟨c', hc', u1, u2, u3⟩ |
    ⟨c', hc', u1, u2, u3⟩
  · rcases k3 with k0 | k3
    · have := r.index_pos.2
      have e : k.last.1 = k.lastIndex := rfl
      omega
    · exact r.trans hU k3
  · exact absurd (hlow c' hc' u1 (by rw [← k2]; exact u2)) u3
  · exact absurd (hone c' hc' (u1.trans k2) u2) (by rw [← k1]; exact u3)

namespace NewE
variable {V : List Nat} {x y : Commit.Sys} {i : Nat} {op : Op} {src : Nat} {es : List Entry} {te : Nat}

/-- **a new entry extends every entry committed in an earlier term** -/
theorem lc_new (h : NewE V x y i op src es te) {m : Nat × Nat} (hm : m ∈ x.committed) {c : CEntry}
    (hc : c ∈ chainOf i (lastTerm (x.node i).log.entries) es) (hlt : m.2 < c.e.term) :
    Anc y.T m (key c) := by
  have hI := h.inv
  obtain ⟨c1, _, c3, c4, hne⟩ := h.mem_new hc
  rcases h.story_cases hne with ⟨hl, hte⟩ | ⟨hnl, _⟩
  · -- the old last entry has the term of the new one
    have lo := hI.node.ldr i hl
    have hlen : 1 ≤ (x.node i).log.entries.length := Nat.le_trans lo.start lo.startLe
    have hz : Holds (x.node i).log.entries (x.node i).log.entries.length (x.node i).term :=
      ⟨hlen, Nat.le_refl _, lo.own _ lo.startLe (Nat.le_refl _)⟩
    obtain ⟨z, hzT, hzk⟩ := log_record hI i hz
    have hzt : z.e.term = (x.node i).term := (key_eq.mp hzk).2
    have h1 := hI.cmt.lc m hm z hzT (by rw [hzt, ← hte, ← c3]; exact hlt)
    rw [hzk] at h1
    have h2 : Anc y.T ((x.node i).log.entries.length, (x.node i).term) (key c) :=
      ranc h.ry i (h.old_holds hne hz) (h.new_holds hc) (by show _ ≤ c.e.index; omega)
    exact (h.ext.anc h1).trans h.ry.uniq h2
  · have hcy : c ∈ y.T := by rw [h.T]; exact List.mem_append_left _ hc
    obtain ⟨k, _, k1, k2, _, k4, Q, q1, q2, q3, q4⟩ := h.crElect c hcy (by rw [c1]; exact h.i0)
    obtain ⟨_, Qm, m1, m2, m3, m4⟩ := hI.cmt.quorum m hm
    refine lc_core h.hV h.ry.uniq hlt ⟨Qm, m1, m2, m3, fun v hv => ?_⟩
      ⟨k, k1, k2, k4, Q, q1, q2, q3, fun v hv => (q4 v hv).2⟩ (fun c' hc' l1 l2 => ?_) (fun c' hc' e1 e0 => ?_)
    · obtain ⟨a, ha, a1, a2, a3⟩ := m4 v hv
      exact ⟨a, h.ext.acks a ha, a1, a2, h.ext.anc a3⟩
    · rcases h.mem_T hc' with hn' | ho'
      · have := (h.mem_new hn').2.2.1; omega
      · exact h.ext.anc (hI.cmt.lc m hm c' ho' l1)
    · rcases h.mem_T hc' with hn' | ho'
      · rw [(h.mem_new hn').1, c1]
      · exact (h.no_old hne hnl ho' (e1.trans c3)).elim

end NewE

/-- **commitment** after node `i` moved: the quorum of an old ledger entry is kept and the new records extend it
(`NewE.lc_new`); left to the transition are the new ledger entries and the commit index of node `i` -/
theorem cmtI_of {V : List Nat} {x y : Commit.Sys} {i : Nat} {op : Op} {src : Nat} {es : List Entry} {te : Nat}
    (hN : NewE V x y i op src es te)
    (newM : ∀ m ∈ y.committed, m ∈ x.committed ∨
      (((∃ c ∈ y.T, key c = m ∧ c.cr ≠ 0) ∧
        ∃ Q : List Nat, Q.Nodup ∧ (∀ v ∈ Q, v ∈ V) ∧ 2 * Q.length > V.length ∧
          ∀ v ∈ Q, ∃ a ∈ y.acks, a.voter = v ∧ a.term = m.2 ∧ Anc y.T m a.key) ∧
       ∀ c ∈ y.T, m.2 < c.e.term → Anc y.T m (key c)))
    (cc : ∀ k, 1 ≤ k → k ≤ (y.node i).commitIndex → k ≤ (y.node i).log.entries.length ∧
      Cmt y (k, termAt (y.node i).log.entries k) (y.node i).term) : CmtI V y := by
  have hI := hN.inv.cmt
  have hE := hN.ext
  refine ⟨fun m hm => ?_, fun m hm c hc hlt => ?_, cc_of (core_of_cinv hN.inv) hE cc⟩
  · rcases newM m hm with ho | hn
    · obtain ⟨⟨c, hc, hk, h0⟩, Q, q1, q2, q3, q4⟩ := hI.quorum m ho
      refine ⟨⟨c, hE.T c hc, hk, h0⟩, Q, q1, q2, q3, fun v hv => ?_⟩
      obtain ⟨a, ha, r1, r2, r3⟩ := q4 v hv
      exact ⟨a, hE.acks a ha, r1, r2, hE.anc r3⟩
    · exact hn.1
  · rcases newM m hm with ho | hn
    · rcases hN.mem_T hc with hcn | hco
      · exact hN.lc_new ho hcn hlt
      · exact hE.anc (hI.lc m ho c hco hlt)
    · exact hn.2 c hc hlt

theorem sentI_iff {V : List Nat} {y : Commit.Sys} : SentI V y ↔ ∀ q ∈ y.rp.sent, q.src ∈ V ∧ SentAt y q :=
  ⟨fun h q hq => let ⟨a, b, r⟩ := h.won q hq; ⟨b, ⟨a, r⟩, h.term q hq, h.anc q hq, h.cmt q hq⟩,
   fun h => ⟨fun q hq => let ⟨b, s⟩ := h q hq; ⟨s.won.1, b, s.won.2⟩, fun q hq => (h q hq).2.term,
     fun q hq => (h q hq).2.anc, fun q hq => (h q hq).2.cmt⟩⟩

/-- **requests on the wire** when node `i` is replaced (`CoreUpd.sentAt`) -/
theorem sentI_of {V : List Nat} {x y : Commit.Sys} {i : Nat} {op : Op} {src : Nat} {p : Node} (hI : CInv V x)
    (h : CoreUpd x y x.acks y.acks i op src p) : SentI V y :=
  sentI_iff.mpr fun q hq => by
    rw [h.sent] at hq
    exact ⟨(hI.sent.won q hq).2.1, h.sentAt hq⟩

/-- the state after node `i` handled `op` (the target of `Commit.Trans.step`) -/
def stepC (x : Commit.Sys) (i : Nat) (op : Op) (ra : List Nat) (ord : List (List Nat)) (src : Nat) : Commit.Sys :=
  { rp := stepRp x i op ra ord src
    acks := ackOf i op ((x.node i).step op ra ord) ++
      (selfAck i op (x.node i) ((x.node i).step op ra ord) ++ x.acks)
    camps := campOf i (x.node i) ((x.node i).step op ra ord) ++ x.camps
    committed := newCommit op (x.node i) ((x.node i).step op ra ord) ++ x.committed }

theorem stepC_node_i (x : Commit.Sys) (i : Nat) (op : Op) (ra : List Nat) (ord : List (List Nat)) (src : Nat) :
    (stepC x i op ra ord src).node i = (x.node i).step op ra ord := stepRp_node_i x i op ra ord src

theorem stepC_node_j (x : Commit.Sys) (i : Nat) (op : Op) (ra : List Nat) (ord : List (List Nat)) (src : Nat)
    {j : Nat} (hj : j ≠ i) : (stepC x i op ra ord src).node j = x.node j := stepRp_node_j x i op ra ord src hj

structure SC (V : List Nat) (x : Commit.Sys) (i : Nat) (op : Op) (ra : List Nat) (ord : List (List Nat))
    (src : Nat) : Prop where
  hV : V.Nodup
  inv : CInv V x
  side : SideV V x
  en : Enabled x i op src

namespace SC
variable {V : List Nat} {x : Commit.Sys} {i : Nat} {op : Op} {ra : List Nat} {ord : List (List Nat)} {src : Nat}

theorem node_i (_h : SC V x i op ra ord src) : (stepC x i op ra ord src).node i = (x.node i).step op ra ord :=
  stepC_node_i x i op ra ord src

theorem node_j (_h : SC V x i op ra ord src) {j : Nat} (hj : j ≠ i) :
    (stepC x i op ra ord src).node j = x.node j := stepC_node_j x i op ra ord src hj

theorem ry (h : SC V x i op ra ord src) : Replication.Inv V (stepC x i op ra ord src).rp :=
  C04Sys.inv_trans h.hV h.inv.rp h.side.1 (.step i op ra ord src h.en.rp)

theorem vstep (h : SC V x i op ra ord src) :
    C05.VoteStep (x.node i) ((x.node i).step op ra ord) ∧ C05.VoteWF ((x.node i).step op ra ord) := by
  obtain ⟨a, b, _⟩ := C05.step_vote_stable (x.node i) op ra ord (h.inv.rp.el.ids i).2
  exact ⟨a, b⟩

theorem ext (h : SC V x i op ra ord src) : Ext x (stepC x i op ra ord src) i :=
  .of_grows (grows_step x i op ra ord src) (fun _ hj => h.node_j hj)
    (forall_setNode (P := fun j s => (x.node j).term ≤ s.term) h.vstep.1.1 (fun _ _ => Nat.le_refl _))
    h.ry.uniq h.inv.tree.ok.pathc

theorem rstep (h : SC V x i op ra ord src) : RoleStep (x.node i) op ((x.node i).step op ra ord) :=
  role_step (x.node i) op ra ord (fun hc => (h.inv.rp.el.cand i hc).term_pos)

theorem upd (h : SC V x i op ra ord src) : C04Sys.Upd V x.rp i op ((x.node i).step op ra ord) :=
  C04Sys.upd_step h.inv.rp h.side.1 i op ra ord src h.en.rp

theorem nst (h : SC V x i op ra ord src) (happ : ∀ q, op ≠ .append q) :
    NStep (x.node i) (AOp (x.node i) op) (Backed x i) ((x.node i).step op ra ord) := by
  have hI := h.inv
  refine nstep (x.node i) op ra ord (Backed x i) (nwf hI i) (hI.node.lwf i) (hI.rp.el.ids i).2 (h.side.2 i)
    (by rw [(h.side.1 i).2]; exact h.hV) h.en.ok2 happ (fun hc => (hI.rp.el.cand i hc).term_pos)
    (fun hr => ?_) (fun hl => ⟨hI.node.ldr i hl, (core_of_cinv hI).backed_le (ldrCreates h.hV hI) (fun _ ha => ha) hl⟩) h.en.upd
  have := hI.node.roleVoter i hr
  exact this

theorem ackOf_nonappend (i : Nat) (op : Op) (post : Node) (happ : ∀ q, op ≠ .append q) : ackOf i op post = [] :=
  Commit.ackOf_nonappend i op post happ

theorem isAppend_false (op : Op) (happ : ∀ q, op ≠ .append q) : isAppend op = false := by
  cases op <;> first | rfl | exact absurd rfl (happ _)

theorem commit_ev (h : SC V x i op ra ord src) (happ : ∀ q, op ≠ .append q)
    (hlc : LeaderCommit op (x.node i) ((x.node i).step op ra ord)) :
    ∃ T, CEv (x.node i) (Backed x i) ((x.node i).step op ra ord) T ∧
      termAt ((x.node i).step op ra ord).log.entries ((x.node i).step op ra ord).commitIndex = T := by
  rcases (h.nst happ).ci with c | ⟨T, c⟩
  · have := hlc.2; omega
  · exact ⟨T, c, c.holds.2.2⟩

theorem cev_term_ge (h : SC V x i op ra ord src) {T : Nat}
    (c : CEv (x.node i) (Backed x i) ((x.node i).step op ra ord) T) :
    (x.node i).term ≤ T ∧ T ≤ ((x.node i).step op ra ord).term := by
  have := h.vstep.1.1
  rcases c.src with ⟨_, a, b, _⟩ | ⟨_, a⟩ <;> omega

theorem op_cases (op : Op) : (∀ q, op ≠ .append q) ∨ ∃ q, op = .append q := Commit.op_cases op

theorem selfAck_facts (h : SC V x i op ra ord src) {a : Ack}
    (ha : a ∈ selfAck i op (x.node i) ((x.node i).step op ra ord)) :
    (∀ q, op ≠ .append q) ∧ a.voter = i ∧ a.eterm = a.term ∧
    a.index = ((x.node i).step op ra ord).commitIndex ∧
    CEv (x.node i) (Backed x i) ((x.node i).step op ra ord) a.term := by
  unfold selfAck at ha
  split at ha
  · rename_i hlc
    have happ : ∀ q, op ≠ .append q := by
      intro q hq
      rw [hq] at hlc
      have := hlc.1
      simp [isAppend] at this
    obtain ⟨T, c, hT⟩ := h.commit_ev happ hlc
    rw [List.mem_singleton.mp ha]
    exact ⟨happ, rfl, rfl, rfl, by show CEv _ _ _ (termAt _ _); rw [hT]; exact c⟩
  · cases ha

theorem selfAck_term (h : SC V x i op ra ord src) {a : Ack}
    (ha : a ∈ selfAck i op (x.node i) ((x.node i).step op ra ord)) :
    a.voter = i ∧ (x.node i).term ≤ a.term ∧
      (((x.node i).step op ra ord).votedFor ≠ 0 → ((x.node i).step op ra ord).term ≤ a.term) := by
  obtain ⟨_, a1, _, _, c⟩ := h.selfAck_facts ha
  have hmono := h.vstep.1.1
  refine ⟨a1, (h.cev_term_ge c).1, fun hv => ?_⟩
  rcases c.src with ⟨_, s2, _, s4⟩ | ⟨_, s2⟩
  · rcases s4 with s4 | s4
    · omega
    · exact absurd s4 hv
  · omega

theorem toC (h : SC V x i op ra ord src) : StepC x (stepC x i op ra ord src) x.acks i op ra ord src :=
  ⟨⟨core_of_cinv h.inv, h.ext, h.en.rp.id, h.node_i, h.upd.toM, logCore (C04Sys.logInv h.ry), rfl, rfl⟩, rfl, rfl, rfl,
    (h.side.1 i).1, h.en.ok2.1, h.en.rp.voteSrc, h.en.vote, h.en.rp.real, h.en.rp.append, fun happ => (h.nst happ).toC⟩

theorem coreUpd (h : SC V x i op ra ord src) :
    CoreUpd x (stepC x i op ra ord src) x.acks (stepC x i op ra ord src).acks i op src ((x.node i).step op ra ord) :=
  h.toC.coreUpd fun _ ha => h.toC.new_acks (fun _ => h.selfAck_term) ha

/-- the follower step (`StepC.fst`) -/
theorem fst (h : SC V x i (.append q) ra ord src) (hns : ¬ q.term < (x.node i).term) :
    q ∈ x.rp.sent ∧ FStep (x.node i) q ((x.node i).step (.append q) ra ord) := h.toC.fst hns

/-- election safety (`C04Sys.elV_unique`): a record of the term of entries node `i` appends to its own log was created by
node `i` -/
theorem creator (h : SC V x i op ra ord src) (te : Nat) (hs : Story (x.node i) op te) :
    ∀ c ∈ x.T, c.cr ≠ 0 → c.e.term = te → c.cr = i := fun c hc h0 ht =>
  C04Sys.elV_unique h.hV h.inv.rp.el.unique (by rw [← ht]; exact ((C04Sys.logInv h.inv.rp).own c hc h0).1)
    (C04Sys.story_elV h.inv.rp h.side.1 i op src te h.en.rp.real hs)

/-- the new state, as new entries appended by node `i` (none when the step handled an append request) -/
theorem newE' (h : SC V x i op ra ord src) :
    ∃ es te, NewE V x (stepC x i op ra ord src) i op src es te ∧
      ((∀ q, op ≠ .append q) → ((x.node i).step op ra ord).log.entries = (x.node i).log.entries ++ es) := by
  obtain ⟨es, te, c, hl, hnil⟩ := h.toC.newC h.creator
  have hpre := nwf h.inv i
  have hnid : (x.node i).nid = i := (h.inv.rp.el.ids i).1
  -- when entries of a higher term were appended, the node elected itself in this step
  have hnew : es ≠ [] → (x.node i).term < te →
      (∀ q, op ≠ .append q) ∧ ((x.node i).step op ra ord).role = .leader ∧ ((x.node i).step op ra ord).term = te ∧
      ((x.node i).step op ra ord).votedFor = i := by
    intro hne hgt
    have happ : ∀ q, op ≠ .append q := fun q hq => hne (hnil ⟨q, hq⟩)
    have ns := h.nst happ
    have l1 := hl happ
    have hlt : lastTerm ((x.node i).step op ra ord).log.entries = te := by
      rw [l1]; unfold lastTerm
      rw [List.getLast?_append, List.getLast?_eq_some_getLast hne]
      exact (c.ent _ (List.getLast_mem hne)).1
    have hg : (x.node i).log.entries.length < ((x.node i).step op ra ord).log.entries.length := by
      rw [l1, List.length_append]
      have : 0 < es.length := List.length_pos_iff.mpr hne
      omega
    have hl : ((x.node i).step op ra ord).role = .leader := by
      rcases ns.grow hg with ⟨_, a⟩ | a
      · rw [hlt] at a; omega
      · exact a
    have ht : ((x.node i).step op ra ord).term = te := by
      rcases ns.ldr hl with ⟨_, _, lo⟩ | lo
      · rw [← lo.lastT, h.upd.nwf.lastT, hlt]
      · rw [← lo.lastT, h.upd.nwf.lastT, hlt]
    refine ⟨happ, hl, ht, ?_⟩
    rcases h.rstep.leader hl with ⟨_, a⟩ | ⟨_, _, a⟩ | ne
    · omega
    · omega
    · rw [ne.vote_self, hnid]
  refine ⟨es, te, ⟨c, h.hV, h.inv, h.side, h.ry, h.en.rp.real, h.coreUpd.acks_term, fun hne hgt a ha => ?_,
    fun hne hgt => ?_⟩, hl⟩
  · obtain ⟨_, _, ht, hv⟩ := hnew hne hgt
    exact (h.coreUpd.acks a ha).imp id fun ⟨a1, _, a3⟩ => ⟨a1, ht ▸ a3 (by rw [hv]; exact h.en.rp.id)⟩
  · obtain ⟨_, hl, ht, hv⟩ := hnew hne hgt
    refine ⟨Camp.mk i ((x.node i).step op ra ord).term (x.node i).lastLogIndex (x.node i).lastLogTerm,
      ?_, rfl, ht, hpre.last, rfl⟩
    apply List.mem_append_left
    unfold campOf
    rw [if_pos ⟨by omega, hv⟩]
    exact List.mem_singleton.mpr rfl

theorem newE (h : SC V x i op ra ord src) (happ : ∀ q, op ≠ .append q) :
    ∃ es te, NewE V x (stepC x i op ra ord src) i op src es te ∧
      ((x.node i).step op ra ord).log.entries = (x.node i).log.entries ++ es :=
  let ⟨es, te, hN, hl⟩ := h.newE'; ⟨es, te, hN, hl happ⟩

end SC



/-- `NodeI` is `Commit.NodeAt` at every node and the clause about the voters of a candidate's or leader's latest
configuration -/
theorem nodeI_of {y : Commit.Sys} (hn : ∀ j, NodeAt y j)
    (rv : ∀ j, (y.node j).role ≠ .follower → (y.node j).configs.latest.isVoter (y.node j).nid = true) : NodeI y :=
  ⟨fun j => (hn j).lwf, fun j => (hn j).termLe, fun j => (hn j).unfl, rv, fun j => (hn j).camp, fun j => (hn j).ldr⟩

namespace SC
variable {V : List Nat} {x : Commit.Sys} {i : Nat} {op : Op} {ra : List Nat} {ord : List (List Nat)} {src : Nat}

theorem nid_post (h : SC V x i op ra ord src) : ((x.node i).step op ra ord).nid = i := by
  have := (h.ry.el.ids i).1
  have e : (stepC x i op ra ord src).rp.el.node i = (x.node i).step op ra ord := h.node_i
  rw [e] at this; exact this

theorem T_eq (_h : SC V x i op ra ord src) : (stepC x i op ra ord src).T =
    newCreated i (x.node i).log.entries ((x.node i).step op ra ord).log.entries op ++ x.T := rfl

theorem roleVoter_post (h : SC V x i op ra ord src) : ((x.node i).step op ra ord).role ≠ .follower →
    ((x.node i).step op ra ord).configs.latest.isVoter ((x.node i).step op ra ord).nid = true := by
  have hI := h.inv
  have hnid : (x.node i).nid = i := (hI.rp.el.ids i).1
  intro hr
  rw [h.nid_post]
  rcases op_cases op with happ | ⟨q, rfl⟩
  · rw [(h.nst happ).cfg]
    have rs := h.rstep
    have old : (x.node i).role ≠ .follower → (x.node i).configs.latest.isVoter i = true := fun hp => by
      have := hI.node.roleVoter i hp; rw [hnid] at this; exact this
    have fromNE : NewElection (x.node i) ((x.node i).step op ra ord) →
        (x.node i).configs.latest.isVoter i = true := by
      intro ne
      obtain ⟨ec, e1, e2, _⟩ := ne.cfg
      rcases e2 with e2 | e2
      · exact old (by rw [e2]; decide)
      · rw [e1 (h.side.1 i).1, hnid] at e2; exact e2
    cases hrole : ((x.node i).step op ra ord).role with
    | follower => exact absurd hrole hr
    | leader =>
      rcases rs.leader hrole with ⟨a, _⟩ | ⟨a, _⟩ | ne
      · exact old (by rw [a]; decide)
      · exact old (by rw [a.1]; decide)
      · exact fromNE ne
    | candidate =>
      rcases rs.candidate hrole with ⟨a, _⟩ | ne
      · exact old (by rw [a]; decide)
      · exact fromNE ne
  · by_cases hst : q.term < (x.node i).term
    · obtain ⟨_, _, _, _, _, s6, s7, _⟩ := append_stale _ q ra ord hst
      rw [s7]
      have := hI.node.roleVoter i (by rw [← s6]; exact hr)
      rw [hnid] at this; exact this
    · exact absurd (append_step_role _ q ra ord hst) hr


theorem treeI (h : SC V x i op ra ord src) : TreeI V (stepC x i op ra ord src) := by
  obtain ⟨es, te, hN, _⟩ := h.newE'
  exact hN.treeI

end SC



/-- the creator of an entry of a current leader's term, from the replication invariant alone -/
theorem rcreator {V : List Nat} (hV : V.Nodup) {y : Commit.Sys} (hR : Replication.Inv V y.rp) {i : Nat}
    (hl : (y.node i).role = .leader) {c : CEntry} (hc : c ∈ y.T) (ht : c.e.term = (y.node i).term) :
    c.cr = i ∧ c.cr ≠ 0 := by
  have h0 : c.cr ≠ 0 := by
    intro h0
    have h : c.e.term < (y.node i).term := (hR.init0 c hc h0 i).2 (by rw [show (y.rp.el.node i).role = _ from hl]; decide)
    omega
  refine ⟨?_, h0⟩
  exact C04Sys.elV_unique hV hR.el.unique (by rw [← ht]; exact ((C04Sys.logInv hR).own c hc h0).1)
    ⟨hR.ldrV i hl, Or.inr (hR.el.backed i _ (hR.el.recorded i hl))⟩

namespace SC
variable {V : List Nat} {x : Commit.Sys} {i : Nat} {op : Op} {ra : List Nat} {ord : List (List Nat)} {src : Nat}

theorem ppath (h : SC V x i op ra ord src) :
    Path (stepC x i op ra ord src).T ((x.node i).step op ra ord).log.entries := h.toC.path_i

end SC



/-- `VoteI` after node `i` was replaced (`Commit.CoreUpd`): the clauses about campaigns, votes and grants are those of the
core; the votes a candidate counted pass `UpTo` -/
theorem voteI_of {V : List Nat} {x y : Commit.Sys} {i : Nat} {op : Op} {src : Nat} {p : Node} (hI : CInv V x)
    (h : CoreUpd x y x.acks y.acks i op src p) : VoteI V y :=
  have b := h.voteB
  ⟨b.campUniq, b.campWf, b.voteCamp, b.voteInv, b.grantInv,
    h.electW (w₁_mono h.ext) w₁_strict hI.vote.electInv
      fun hc _ ho e1 e2 => h.core.upToW_of_grant w₁_le hc.1 ho e1 e2 (h.real hc).2.2.1,
    b.countedGrant, b.grantCamp⟩

namespace SC
variable {V : List Nat} {x : Commit.Sys} {i : Nat} {op : Op} {ra : List Nat} {ord : List (List Nat)} {src : Nat}

theorem sentI (h : SC V x i op ra ord src) : SentI V (stepC x i op ra ord src) := sentI_of h.inv h.coreUpd

/-- the self acknowledgement of a leader-side commit: flushed, of the leader's term, its record created by the node -/
theorem selfAck_at (h : SC V x i op ra ord src) {a : Ack}
    (ha : a ∈ selfAck i op (x.node i) ((x.node i).step op ra ord)) :
    SelfAck (stepC x i op ra ord src) i ((x.node i).step op ra ord) a := by
  obtain ⟨_, a1, a2, a3, c⟩ := h.selfAck_facts ha
  refine ⟨a1, a2, (h.cev_term_ge c).2, by rw [a3]; exact c.holds, by rw [a3]; exact c.flushed, fun r hr hk => ?_⟩
  have hrt : r.e.term = a.term := congrArg Prod.snd hk
  rcases c.src with ⟨s1, s2, _, _⟩ | ⟨s1, s2⟩
  · -- leader before the step: the record is new, or an old record of the leader's term
    exact (h.toC.mem_T hr).elim id fun ho => creator_is_leader h.hV h.inv s1 ho (hrt.trans s2)
  · exact (rcreator h.hV h.ry (by rw [h.node_i]; exact s1) hr (by rw [h.node_i]; exact hrt.trans s2)).1

/-- **acknowledgements** after a completed step: the old ones are kept (`CoreUpd.ackAt_old`); new are the
acknowledgement of a `success` reply and the self acknowledgement of a leader-side commit -/
theorem ackI (h : SC V x i op ra ord src) : AckI (stepC x i op ra ord src) := by
  have hU := h.coreUpd
  refine ackI_iff.mpr (hU.ack_of fun a ha => ?_)
  rcases h.toC.acks_cases ha with ⟨q, rfl, ha⟩ | ha | ha
  · obtain ⟨hq, hst, a1, a2, a3, a4, a5, a6, a7⟩ := h.toC.ack_facts ha
    obtain ⟨_, w2, w3, _⟩ := h.inv.sent.won q hq
    exact Or.inr (hU.ackAt_reply hq (h.en.appendSrc q rfl)
      (fun c hc h0 ht => creator_of_won h.hV h.inv w2 w3 hc h0 ht) (h.fst hst).2.dirty a1 a2 a3 a4 a5 a6 a7)
  · exact Or.inr (hU.ackAt_self (h.selfAck_at ha))
  · exact Or.inl ha

theorem nodeI (h : SC V x i op ra ord src) : NodeI (stepC x i op ra ord src) :=
  nodeI_of (nodes_of (core_of_cinv h.inv) h.ext h.toC.nodeAt)
    (forall_setNode (P := fun _ s => s.role ≠ .follower → s.configs.latest.isVoter s.nid = true) h.roleVoter_post
      fun j _ => h.inv.node.roleVoter j)

theorem voteI (h : SC V x i op ra ord src) : VoteI V (stepC x i op ra ord src) := voteI_of h.inv h.coreUpd

end SC



theorem reqok {V : List Nat} {x : Commit.Sys} (hI : CInv V x) {i : Nat} {q : AppendReq} (hq : q ∈ x.rp.sent)
    (hns : ¬ q.term < (x.node i).term) : NoConf (x.node i) q (x.node i).commitIndex :=
  (core_of_cinv hI).reqok (fun m hm => ⟨let ⟨⟨c, hc, hk, _⟩, _⟩ := hI.cmt.quorum m hm; ⟨c, hc, hk⟩, hI.cmt.lc m hm⟩)
    hq hns

namespace SC
variable {V : List Nat} {x : Commit.Sys} {i : Nat} {op : Op} {ra : List Nat} {ord : List (List Nat)} {src : Nat}

/-- the record of the entry a leader-side commit reached: created by the node itself -/
theorem commit_record (h : SC V x i op ra ord src) (happ : ∀ q, op ≠ .append q) {T : Nat}
    (c : CEv (x.node i) (Backed x i) ((x.node i).step op ra ord) T) :
    ∃ r ∈ (stepC x i op ra ord src).T, key r = (((x.node i).step op ra ord).commitIndex, T) ∧ r.cr = i := by
  have hI := h.inv
  obtain ⟨r, hr, hk⟩ := h.toC.record_i c.holds
  refine ⟨r, hr, hk, ?_⟩
  have hrt : r.e.term = T := (key_eq.mp hk).2
  rcases c.src with ⟨s1, s2, _, _⟩ | ⟨s1, s2⟩
  · obtain ⟨es, te, hN, _⟩ := h.newE happ
    rcases hN.mem_T hr with hn | ho
    · exact (hN.mem_new hn).1
    · exact creator_is_leader h.hV hI s1 ho (hrt.trans s2)
  · exact (rcreator h.hV h.ry (by rw [h.node_i]; exact s1) hr (by rw [h.node_i]; exact hrt.trans s2)).1

theorem commit_cases (_h : SC V x i op ra ord src) {m : Nat × Nat}
    (hm : m ∈ (stepC x i op ra ord src).committed) :
    (LeaderCommit op (x.node i) ((x.node i).step op ra ord) ∧
      m = (((x.node i).step op ra ord).commitIndex,
        termAt ((x.node i).step op ra ord).log.entries ((x.node i).step op ra ord).commitIndex)) ∨
    m ∈ x.committed := by
  rcases List.mem_append.mp hm with a | a
  · left
    unfold newCommit at a
    split at a
    · rename_i hlc; exact ⟨hlc, List.mem_singleton.mp a⟩
    · cases a
  · exact Or.inr a

theorem lc_happ {op : Op} {pre post : Node} (hlc : LeaderCommit op pre post) : ∀ q, op ≠ .append q := by
  intro q hq
  rw [hq] at hlc
  have := hlc.1
  simp [isAppend] at this

/-- the quorum behind a leader-side commit -/
theorem quorum_new (h : SC V x i op ra ord src) (hlc : LeaderCommit op (x.node i) ((x.node i).step op ra ord))
    {T : Nat} (c : CEv (x.node i) (Backed x i) ((x.node i).step op ra ord) T) :
    ∃ Q : List Nat, Q.Nodup ∧ (∀ v ∈ Q, v ∈ V) ∧ 2 * Q.length > V.length ∧
      ∀ v ∈ Q, ∃ a ∈ (stepC x i op ra ord src).acks, a.voter = v ∧ a.term = T ∧
        Anc (stepC x i op ra ord src).T (((x.node i).step op ra ord).commitIndex, T) a.key := by
  have hI := h.inv
  have happ := lc_happ hlc
  have hT : termAt ((x.node i).step op ra ord).log.entries ((x.node i).step op ra ord).commitIndex = T :=
    c.holds.2.2
  obtain ⟨Q, q1, q2, q3, q4⟩ := c.maj
  rw [(h.side.1 i).2] at q2 q3
  refine ⟨Q, q1, q2, q3, fun v hv => ?_⟩
  rcases q4 v hv with e | ⟨s1, s2, m', hm', a, ha, a1, a2, a3⟩
  · -- the leader itself: its self acknowledgement
    refine ⟨⟨i, T, ((x.node i).step op ra ord).commitIndex, T⟩, ?_, ?_, rfl, ?_⟩
    · apply List.mem_append_right
      apply List.mem_append_left
      unfold selfAck
      rw [if_pos hlc, hT]
      exact List.mem_singleton.mpr rfl
    · rw [e]; exact (hI.rp.el.ids i).1.symm
    · exact h.toC.anc_i c.holds c.holds (Nat.le_refl _)
  · -- another voter: the acknowledgement backing its match index
    refine ⟨a, h.ext.acks a ha, a1, by rw [a2, s2], ?_⟩
    obtain ⟨es, te, _, hl⟩ := h.newE happ
    have hh := ack_on_leader h.hV hI s1 ha a2
    have hh' : Holds ((x.node i).step op ra ord).log.entries a.key.1 a.key.2 := by
      rw [hl]; exact holds_prefix (List.prefix_append _ _) hh
    exact h.toC.anc_i c.holds hh' (by show _ ≤ a.index; omega)

/-- the ledger entry of a leader-side commit: its record and quorum, and every record of a later term extends it -/
theorem commit_new (h : SC V x i op ra ord src) (hlc : LeaderCommit op (x.node i) ((x.node i).step op ra ord))
    {m : Nat × Nat} (hm : m = (((x.node i).step op ra ord).commitIndex,
      termAt ((x.node i).step op ra ord).log.entries ((x.node i).step op ra ord).commitIndex)) :
    ((∃ c ∈ (stepC x i op ra ord src).T, key c = m ∧ c.cr ≠ 0) ∧
      ∃ Q : List Nat, Q.Nodup ∧ (∀ v ∈ Q, v ∈ V) ∧ 2 * Q.length > V.length ∧
        ∀ v ∈ Q, ∃ a ∈ (stepC x i op ra ord src).acks, a.voter = v ∧ a.term = m.2 ∧
          Anc (stepC x i op ra ord src).T m a.key) ∧
    ∀ c ∈ (stepC x i op ra ord src).T, m.2 < c.e.term → Anc (stepC x i op ra ord src).T m (key c) := by
  have hI := h.inv
  have hR := h.ry
  have hni := h.node_i
  have happ := lc_happ hlc
  obtain ⟨T, cev, hT⟩ := h.commit_ev happ hlc
  obtain ⟨es, te, hN, _⟩ := h.newE'
  subst hm
  rw [hT]
  obtain ⟨r, hr, hk, hcr⟩ := h.commit_record happ cev
  have hq := h.quorum_new hlc cev
  refine ⟨⟨⟨r, hr, hk, by rw [hcr]; exact h.en.rp.id⟩, hq⟩, ?_⟩
  -- induction on the term of `c`
  have key : ∀ n, ∀ c ∈ (stepC x i op ra ord src).T, c.e.term = n → T < n →
      Anc (stepC x i op ra ord src).T (((x.node i).step op ra ord).commitIndex, T) (key c) := by
    intro n
    induction n using Nat.strongRecOn with
    | ind n ih =>
      intro c hc hcn hTn
      have h0 : c.cr ≠ 0 := by
        intro h0
        have hco : c ∈ x.T := (hN.mem_T hc).elim
          (fun hn => absurd ((hN.mem_new hn).1.symm.trans h0) h.en.rp.id) id
        rcases cev.src with ⟨s1, s2, _, _⟩ | ⟨s1, s2⟩
        · have : c.e.term < (x.node i).term :=
            (hI.rp.init0 c hco h0 i).2 (by rw [show (x.rp.el.node i).role = _ from s1]; decide)
          omega
        · have : c.e.term < ((stepC x i op ra ord src).node i).term :=
            (hR.init0 c hc h0 i).2 (by
              rw [show ((stepC x i op ra ord src).rp.el.node i) = _ from hni, s1]; decide)
          rw [hni] at this
          omega
      obtain ⟨k, _, k1, k2, _, k4, Q, q1, q2, q3, q4⟩ := hN.treeI.crElect c hc h0
      refine lc_core h.hV hR.uniq (by show T < c.e.term; omega) hq
        ⟨k, k1, k2, k4, Q, q1, q2, q3, fun v hv => (q4 v hv).2⟩ (fun c' hc' l1 l2 => ?_)
        (fun c' hc' e1 e0 => rone_creator h.hV hR hc' hc e0 h0 e1)
      exact ih c'.e.term (by omega) c' hc' rfl l1
  exact fun c hc hlt => key c.e.term c hc rfl hlt

theorem cmtI (h : SC V x i op ra ord src) : CmtI V (stepC x i op ra ord src) := by
  obtain ⟨es, te, hN, _⟩ := h.newE'
  refine cmtI_of hN (fun m hm => (h.commit_cases hm).elim (fun hn => Or.inr (h.commit_new hn.1 hn.2)) Or.inl) ?_
  rw [h.node_i]
  refine h.toC.cc_post (fun q hq hns => reqok h.inv ((h.en.rp.append q hq).resolve_left hns) hns) fun happ hlt => ?_
  -- the leader's rule moved the commit index: its entry is recorded
  rcases (h.nst happ).ci with c | ⟨T, cev⟩
  · rw [show h.toC.post.commitIndex = _ from c] at hlt; exact absurd hlt (Nat.lt_irrefl _)
  · refine ⟨T, (h.cev_term_ge cev).2, cev.holds, List.mem_append_left _ ?_⟩
    unfold newCommit
    rw [if_pos ⟨isAppend_false op happ, cev.adv⟩, cev.holds.2.2]
    exact List.mem_singleton.mpr rfl

theorem cinv (h : SC V x i op ra ord src) : CInv V (stepC x i op ra ord src) :=
  ⟨h.ry, h.treeI, h.nodeI, h.sentI, h.ackI, h.voteI, h.cmtI⟩

end SC



theorem lastTerm_append_ne (b es : List Entry) (hne : es ≠ []) : lastTerm (b ++ es) = (es.getLast hne).term := by
  unfold lastTerm
  rw [List.getLast?_append, List.getLast?_eq_some_getLast hne]
  rfl

/-- what is on disk when node `i` dies while handling `op` -/
structure DImg (x : Commit.Sys) (i : Nat) (op : Op) (post : Node) (d : Durable) : Prop where
  snaps : d.snaps = []
  prev : d.log.prev = 0
  dw : DW d
  pair : PairOK (x.node i) (AOp (x.node i) op) d.term d.vote
  termLe : ∀ e ∈ d.log.entries, e.term ≤ d.term
  dur : ∀ a ∈ x.acks, a.voter = i → ∀ b : Nat × Nat, b.2 = a.term → DurHolds (x.node i) b →
    (b.1 ≤ d.log.entries.length ∧ Holds d.log.entries b.1 b.2) ∨ Unsafe x.T b d.term
  within : (∀ q, op ≠ .append q) → d.log.entries <+: (x.node i).log.entries ∨ d.log.entries <+: post.log.entries
  growp : (∀ q, op ≠ .append q) → (x.node i).log.entries.length < d.log.entries.length →
    (d.term = post.term ∧ d.vote = post.votedFor) ∨
    ((x.node i).role = .leader ∧ lastTerm d.log.entries = (x.node i).term)

namespace SC
variable {V : List Nat} {x : Commit.Sys} {i : Nat} {op : Op} {ra : List Nat} {ord : List (List Nat)} {src : Nat}

theorem nwf_post (h : SC V x i op ra ord src) : NWF ((x.node i).step op ra ord) := by
  have := (h.ry.nodes i).1
  rwa [show (stepC x i op ra ord src).rp.el.node i = _ from h.node_i] at this

/-- what is on disk at any moment the process may die (`Commit.StepC.img`) -/
theorem imgC (h : SC V x i op ra ord src) (k : Nat) :
    DImgC x x.acks i op ((x.node i).step op ra ord) (C05.crashDisk (x.node i) op ra ord k) :=
  h.toC.img k

theorem img (h : SC V x i op ra ord src) (k : Nat) :
    DImg x i op ((x.node i).step op ra ord) (C05.crashDisk (x.node i) op ra ord k) :=
  have c := h.imgC k
  ⟨c.snaps, c.prev, c.dw, c.pair, c.termLe, c.dur, c.within, c.growp⟩

/-- a node whose log grew by entries of a term above its old term elected itself in this step -/
theorem elected (h : SC V x i op ra ord src) (happ : ∀ q, op ≠ .append q)
    (hg : (x.node i).log.entries.length < ((x.node i).step op ra ord).log.entries.length)
    (ht : (x.node i).term < lastTerm ((x.node i).step op ra ord).log.entries) :
    ((x.node i).step op ra ord).role = .leader ∧
    ((x.node i).step op ra ord).term = lastTerm ((x.node i).step op ra ord).log.entries ∧
    ((x.node i).step op ra ord).votedFor = i := by
  have ns := h.nst happ
  have hl : ((x.node i).step op ra ord).role = .leader := by
    rcases ns.grow hg with ⟨_, a⟩ | a
    · omega
    · exact a
  have htm : ((x.node i).step op ra ord).term = lastTerm ((x.node i).step op ra ord).log.entries := by
    rcases ns.ldr hl with ⟨_, _, lo⟩ | lo
    · rw [← lo.lastT, h.nwf_post.lastT]
    · rw [← lo.lastT, h.nwf_post.lastT]
  refine ⟨hl, htm, ?_⟩
  rcases h.rstep.leader hl with ⟨_, a⟩ | ⟨_, _, a⟩ | ne
  · omega
  · omega
  · rw [ne.vote_self, (h.inv.rp.el.ids i).1]

end SC

/-- the state after node `i` died while handling `op` and restarted as `n` (the target of `Commit.Trans.crash`) -/
def crashC (x : Commit.Sys) (i : Nat) (op : Op) (n : Node) : Commit.Sys :=
  { x with rp := crashRp x i op n, camps := campOf i (x.node i) n ++ x.camps }

theorem crashC_node_i (x : Commit.Sys) (i : Nat) (op : Op) (n : Node) : (crashC x i op n).node i = n :=
  crashRp_node_i x i op n

theorem crashC_node_j (x : Commit.Sys) (i : Nat) (op : Op) (n : Node) {j : Nat} (hj : j ≠ i) :
    (crashC x i op n).node j = x.node j := crashRp_node_j x i op n hj

structure CC (V : List Nat) (x : Commit.Sys) (i : Nat) (op : Op) (ra : List Nat) (ord : List (List Nat))
    (src k retain : Nat) (sor : Bool) (n : Node) : Prop where
  sc : SC V x i op ra ord src
  hn : Node.restart (C05.crashDisk (x.node i) op ra ord k) retain sor = some n

namespace CC
variable {V : List Nat} {x : Commit.Sys} {i : Nat} {op : Op} {ra : List Nat} {ord : List (List Nat)}
  {src k retain : Nat} {sor : Bool} {n : Node}

theorem node_i (_h : CC V x i op ra ord src k retain sor n) : (crashC x i op n).node i = n := crashC_node_i x i op n

theorem node_j (_h : CC V x i op ra ord src k retain sor n) {j : Nat} (hj : j ≠ i) :
    (crashC x i op n).node j = x.node j := crashC_node_j x i op n hj

theorem ry (h : CC V x i op ra ord src k retain sor n) : Replication.Inv V (crashC x i op n).rp :=
  C04Sys.inv_trans h.sc.hV h.sc.inv.rp h.sc.side.1 (.crash i op ra ord src k retain sor n h.sc.en.rp h.hn)

theorem facts (h : CC V x i op ra ord src k retain sor n) :
    n.term = (C05.crashDisk (x.node i) op ra ord k).term ∧
    n.votedFor = (C05.crashDisk (x.node i) op ra ord k).vote ∧ C05.VoteWF n ∧ n.role = .follower ∧
    n.commitIndex = 0 ∧ n.fsm = {} ∧ n.log.flushed = n.log.entries.length ∧ C06.LogWF n.log ∧
    n.log.entries = (C05.crashDisk (x.node i) op ra ord k).log.entries :=
  (h.sc.imgC k).restarted h.hn

/-- The log a crashed node restarts with is a prefix of its old log, or — only if it died INSIDE the step — of the log
the completed step would have left. -/
theorem disk_prefix (h : CC V x i op ra ord src k retain sor n) (happ : ∀ q, op ≠ .append q) :
    n.log.entries <+: (x.node i).log.entries ∨
      (k ≠ 0 ∧ n.log.entries <+: ((x.node i).step op ra ord).log.entries) := by
  obtain ⟨_, _, _, _, _, _, _, _, f9⟩ := h.facts
  rw [f9]
  cases k with
  | zero =>
    left
    show (x.node i).log.durable.entries <+: _
    rw [durable_entries (nwf h.sc.inv i)]
    exact List.take_prefix _ _
  | succ k => exact ((h.sc.img (k + 1)).within happ).imp id (fun w => ⟨Nat.succ_ne_zero k, w⟩)

theorem ext (h : CC V x i op ra ord src k retain sor n) : Ext x (crashC x i op n) i :=
  .of_grows (grows_crash x i op n) (fun j hj => h.node_j hj)
    (forall_setNode (P := fun j s => (x.node j).term ≤ s.term) (by rw [h.facts.1]; exact (h.sc.img k).pair.1)
      (fun _ _ => Nat.le_refl _))
    h.ry.uniq h.sc.inv.tree.ok.pathc

theorem repl (h : CC V x i op ra ord src k retain sor n) : ReplC x (crashC x i op n) x.acks i op n :=
  ⟨core_of_cinv h.sc.inv, h.ext, h.sc.en.rp.id, h.node_i,
    (C04Sys.upd_crash h.sc.inv.rp h.sc.side.1 i op ra ord src k retain sor n h.sc.en.rp h.hn).toM,
    logCore (C04Sys.logInv h.ry), rfl, rfl⟩

theorem newE (h : CC V x i op ra ord src k retain sor n) :
    ∃ es te, NewE V x (crashC x i op n) i op src es te := by
  have sc := h.sc
  have hpre := nwf sc.inv i
  obtain ⟨f1, f2, _, f4, _, _, _, _, f9⟩ := h.facts
  obtain ⟨es, te, c, hes⟩ := h.repl.newC_restart f4 sc.creator
  refine ⟨es, te, c, sc.hV, sc.inv, sc.side, h.ry, sc.en.rp.real, fun a ha => Or.inl ha, fun _ _ a ha => Or.inl ha,
    fun e1 hgt => ?_⟩
  -- the election of this step reached the disk: term and self vote are the new ones
  obtain ⟨hna, e2⟩ := hes e1
  have e3 : ∀ e ∈ es, e.term = te := fun e he => (c.ent e he).1
  have im := sc.img k
  have hdl : (x.node i).log.entries.length < (C05.crashDisk (x.node i) op ra ord k).log.entries.length := by
    rw [← f9, e2, List.length_append]
    have : 0 < es.length := List.length_pos_iff.mpr e1
    omega
  have hlt : lastTerm (C05.crashDisk (x.node i) op ra ord k).log.entries = te := by
    rw [← f9, e2, lastTerm_append_ne _ _ e1]
    exact e3 _ (List.getLast_mem e1)
  -- the log after the completed step extends what is on disk
  have hsub : (C05.crashDisk (x.node i) op ra ord k).log.entries <+:
      ((x.node i).step op ra ord).log.entries := by
    rcases im.within hna with w | w
    · have := w.length_le; omega
    · exact w
  obtain ⟨esp, tep, hN, hlp⟩ := sc.newE hna
  have hg : (x.node i).log.entries.length < ((x.node i).step op ra ord).log.entries.length := by
    have := hsub.length_le; omega
  have hltp : lastTerm ((x.node i).step op ra ord).log.entries = te := by
    rw [← f9, e2, hlp] at hsub
    have hsub' : es <+: esp := (List.prefix_append_right_inj _).mp hsub
    have hnep : esp ≠ [] := by
      intro e0; rw [e0] at hsub'; exact e1 (List.prefix_nil.mp hsub')
    rw [hlp, lastTerm_append_ne _ _ hnep]
    rw [(hN.ent _ (List.getLast_mem hnep)).1]
    obtain ⟨z, hz⟩ := List.exists_mem_of_ne_nil es e1
    rw [← (hN.ent z (hsub'.subset hz)).1, e3 z hz]
  obtain ⟨p1, p2, p3⟩ := sc.elected hna hg (by rw [hltp]; exact hgt)
  have hpair : (C05.crashDisk (x.node i) op ra ord k).term = te ∧
      (C05.crashDisk (x.node i) op ra ord k).vote = i := by
    rcases im.growp hna hdl with ⟨g1, g2⟩ | ⟨_, g2⟩
    · rw [g1, g2, p2, hltp]; exact ⟨rfl, p3⟩
    · rw [hlt] at g2; omega
  refine ⟨Camp.mk i n.term (x.node i).lastLogIndex (x.node i).lastLogTerm, ?_, rfl,
    by show n.term = te; rw [f1]; exact hpair.1, hpre.last, rfl⟩
  apply List.mem_append_left
  unfold campOf
  rw [if_pos ⟨by rw [f1, hpair.1]; exact hgt, by rw [f2]; exact hpair.2⟩]
  exact List.mem_singleton.mpr rfl

end CC



namespace CC
variable {V : List Nat} {x : Commit.Sys} {i : Nat} {op : Op} {ra : List Nat} {ord : List (List Nat)}
  {src k retain : Nat} {sor : Bool} {n : Node}

theorem treeI (h : CC V x i op ra ord src k retain sor n) : TreeI V (crashC x i op n) := by
  obtain ⟨es, te, hN⟩ := h.newE
  exact hN.treeI

/-- the (term, vote) pair and what the node held durably are those of the disk it restarts from (`DImgC`) -/
theorem coreUpd (h : CC V x i op ra ord src k retain sor n) :
    CoreUpd x (crashC x i op n) x.acks (crashC x i op n).acks i op src n :=
  ⟨h.repl, (h.sc.imgC k).keepsAcked h.hn, (h.sc.imgC k).pair_n h.hn, h.sc.en.vote, fun _ ha => Or.inl ha,
    fun _ hg => Or.inr hg, fun _ he => Or.inr he, h.sc.en.rp.real, rfl⟩

theorem sentI (h : CC V x i op ra ord src k retain sor n) : SentI V (crashC x i op n) := sentI_of h.sc.inv h.coreUpd

theorem ackI (h : CC V x i op ra ord src k retain sor n) : AckI (crashC x i op n) :=
  ackI_iff.mpr (h.coreUpd.ack_of fun _ ha => Or.inl ha)

theorem nodeI (h : CC V x i op ra ord src k retain sor n) : NodeI (crashC x i op n) := by
  obtain ⟨f1, _, _, f4, _, _, f7, f8, f9⟩ := h.facts
  have hfol : ((crashC x i op n).node i).role = .follower := by rw [h.node_i]; exact f4
  refine nodeI_of (nodes_of (core_of_cinv h.sc.inv) h.ext (.restarted hfol ?_ ?_ ?_))
    (forall_setNode (P := fun _ s => s.role ≠ .follower → s.configs.latest.isVoter s.nid = true)
      (fun hr => absurd f4 hr) fun j _ => h.sc.inv.node.roleVoter j) <;> rw [h.node_i]
  · exact f8
  · exact f7
  · rw [f9, f1]; exact (h.sc.img k).termLe

/-- **campaigns, votes and elections** after a crash and restart: the ledgers of acknowledgements, grants and counted
votes are unchanged -/
theorem voteI (h : CC V x i op ra ord src k retain sor n) : VoteI V (crashC x i op n) :=
  voteI_of h.sc.inv h.coreUpd

theorem cmtI (h : CC V x i op ra ord src k retain sor n) : CmtI V (crashC x i op n) := by
  obtain ⟨es, te, hN⟩ := h.newE
  refine cmtI_of hN (fun _ hm => Or.inl hm) fun k' hk hk2 => ?_
  rw [h.node_i, h.facts.2.2.2.2.1] at hk2
  omega

theorem cinv (h : CC V x i op ra ord src k retain sor n) : CInv V (crashC x i op n) :=
  ⟨h.ry, h.treeI, h.nodeI, h.sentI, h.ackI, h.voteI, h.cmtI⟩

end CC



/-- the state after request `q` was put on the wire (the target of `Commit.Trans.send`) -/
def sendC (x : Commit.Sys) (q : AppendReq) : Commit.Sys := { x with rp := { x.rp with sent := q :: x.rp.sent } }

theorem cinv_send {V : List Nat} (_hV : V.Nodup) {x : Commit.Sys} (hI : CInv V x) {i : Nat} {q : AppendReq}
    (hi : i ≠ 0) (hl : (x.node i).role = .leader) (hr : ReadFrom (x.node i) q)
    (hc : q.ldrCommitIndex ≤ (x.node i).commitIndex) : CInv V (sendC x q) := by
  -- the new request has the clauses of `SentI`; the old requests keep theirs
  have hsent : SentI V (sendC x q) := sentI_iff.mpr (List.forall_mem_cons.mpr
    ⟨⟨by rw [hr.src, (hI.rp.el.ids i).1]; exact hI.rp.ldrV i hl, ((core_of_cinv hI).sentAt_send hi hl hr hc).send q⟩,
      fun q' hq' => let ⟨a, b⟩ := sentI_iff.mp hI.sent q' hq'; ⟨a, b.send q⟩⟩)
  refine ⟨C04Sys.inv_send hI.rp i q hr, ⟨hI.tree.ok, hI.tree.crElect, hI.tree.ownLog⟩,
    ⟨hI.node.lwf, hI.node.termLe, hI.node.unfl, hI.node.roleVoter, hI.node.camp, hI.node.ldr⟩, hsent,
    ⟨hI.ack.wf, fun a ha => ?_, hI.ack.stable⟩,
    ⟨hI.vote.campUniq, hI.vote.campWf, hI.vote.voteCamp, hI.vote.voteInv, hI.vote.grantInv, hI.vote.electInv,
      hI.vote.countedGrant, hI.vote.grantCamp⟩,
    ⟨hI.cmt.quorum, hI.cmt.lc, hI.cmt.cc⟩⟩
  rcases hI.ack.src a ha with ⟨q', hq'', r⟩ | r
  · exact Or.inl ⟨q', List.mem_cons_of_mem _ hq'', r⟩
  · exact Or.inr r



theorem inv_trans {V : List Nat} (hV : V.Nodup) {x y : Commit.Sys} (hI : CInv V x) (hS : SideV V x)
    (ht : Commit.Trans x y) : CInv V y := by
  cases ht with
  | step i op ra ord src he => exact (SC.mk hV hI hS he).cinv
  | crash i op ra ord src k retain sor n he hn => exact (CC.mk (SC.mk hV hI hS he) hn).cinv
  | send i q hi hl hr hc => exact cinv_send hV hI hi hl hr hc

theorem inv_reachable {V : List Nat} (hV : V.Nodup) {x : Commit.Sys} (h : Commit.ReachableV V x) :
    CInv V x ∧ SideV V x := by
  induction h with
  | init x hi hs => exact ⟨inv_init V x hi, hs⟩
  | next x y _ ht hs ih => exact ⟨inv_trans hV ih.1 ih.2 ht, hs⟩

section cons
variable {V : List Nat} {x : Commit.Sys}

/-- leader completeness in the form `Commit.CoreI.reqok_key` / `keeps` ask for: a committed entry is a record of the tree,
and every record of a later term extends it -/
theorem hlc (hI : CInv V x) : ∀ m ∈ x.committed,
    (∃ cm ∈ x.T, key cm = m) ∧ ∀ c ∈ x.T, m.2 < c.e.term → Anc x.T m (key c) :=
  fun m hm => ⟨let ⟨⟨c, hc, hk, _⟩, _⟩ := hI.cmt.quorum m hm; ⟨c, hc, hk⟩, hI.cmt.lc m hm⟩

theorem chained (hI : CInv V x) : Chained x :=
  (core_of_cinv hI).chained_of_lc (fun m hm => (hlc hI m hm).1) hI.cmt.lc

theorem committed_chain (hI : CInv V x) {m m' : Nat × Nat} (hm : m ∈ x.committed) (hm' : m' ∈ x.committed) :
    Anc x.T m m' ∨ Anc x.T m' m := chained hI m hm m' hm'

theorem committed_unique (hI : CInv V x) {a a' : Nat × Nat} (ha : Committed x a) (ha' : Committed x a')
    (hi : a.1 = a'.1) : a = a' := (core_of_cinv hI).committed_unique (chained hI) ha ha' hi

/-- a leader holds every ledger entry of a term not above its own -/
theorem leader_holds_committed (hV : V.Nodup) (hI : CInv V x) {i : Nat} (hl : (x.node i).role = .leader)
    {m : Nat × Nat} (hm : m ∈ x.committed) (hle : m.2 ≤ (x.node i).term) :
    Holds (x.node i).log.entries m.1 m.2 := by
  obtain ⟨⟨c, hc, hck, _⟩, _⟩ := hI.cmt.quorum m hm
  have lo := hI.node.ldr i hl
  exact (core_of_cinv hI).leader_holds_committed (ldrCreates hV hI) hl
    ⟨Nat.le_trans lo.start lo.startLe, Nat.le_refl _, lo.own _ lo.startLe (Nat.le_refl _)⟩ hc hck (hI.cmt.lc m hm) hle

theorem covered_committed (hI : CInv V x) {j k : Nat} (hk : 1 ≤ k) (hkc : k ≤ (x.node j).commitIndex) :
    Holds (x.node j).log.entries k (termAt (x.node j).log.entries k) ∧
    ∃ m ∈ x.committed, m.2 ≤ (x.node j).term ∧ Anc x.T (k, termAt (x.node j).log.entries k) m :=
  (core_of_cinv hI).covered hk hkc

theorem same_entries (hI : CInv V x) {i j k τ : Nat} (hi : Holds (x.node i).log.entries k τ)
    (hj : Holds (x.node j).log.entries k τ) {k' : Nat} (h1 : 1 ≤ k') (hle : k' ≤ k) :
    (x.node i).log.get? k' = (x.node j).log.get? k' := (core_of_cinv hI).same_entries hi hj h1 hle

end cons

/-- `leader_completeness_sys_partial` on the invariant: for any cluster that has `CInv` — the reachable states of
`Raft.Commit`, and the views of the systems with snapshots (Props/C09Sys.lean) -/
theorem leader_completeness_of_cinv {V : List Nat} (hV : V.Nodup) {x : Commit.Sys} (hI : CInv V x) :
    (∀ i, (x.node i).role = .leader → ∀ m ∈ x.committed, m.2 ≤ (x.node i).term →
      ∃ e, (x.node i).log.get? m.1 = some e ∧ e.term = m.2) ∧
    (∀ i j k, (x.node i).role = .leader → (x.node j).term ≤ (x.node i).term → 1 ≤ k →
      k ≤ (x.node j).commitIndex →
      (x.node i).log.get? k = (x.node j).log.get? k ∧ ((x.node j).log.get? k).isSome = true) ∧
    (∀ m ∈ x.committed, ∀ c ∈ x.T, m.2 < c.e.term → Anc x.T m (key c)) := by
  refine ⟨fun i hl m hm hle => ?_, fun i j k hl hij hk hkc => ?_, hI.cmt.lc⟩
  · have hh := leader_holds_committed hV hI hl hm hle
    obtain ⟨e, he, het⟩ := holds_get hh
    exact ⟨e, by rw [(nwf hI i).get?, if_pos (show 0 < m.1 from hh.1)]; exact he, het⟩
  · exact (core_of_cinv hI).leader_covers (core_of_cinv hI) (fun _ h => h) (fun _ h => h)
      (fun m hm hle => leader_holds_committed hV hI hl hm hle) hk hkc hij

/-- **C02, leader completeness, cluster level — fixed voter set, fixed stable configuration, no snapshots
(partial).** Let `V` be a duplicate-free list of node ids and `x` any state of the cluster reachable in the
transition system `Raft.Commit` (Sys/Commit.lean): from an initial state (`Commit.Init`: nothing committed, logs
pairwise matching and completely flushed) by ANY sequence of: a node handling any enabled operation with any
content and oracle (`Node.step`); a node dying at any storage point of such a step and restarting from disk; a
leader putting on the wire an append request read from its log and stamped with a commit index not above its
own — where "enabled" means: append requests that are not refused as stale were really sent (any sent request
may be delivered to any node other than its sender, any number of times, in any order, or never); vote requests
that are not stale are real campaigns; counted vote responses are real replies; a reported match index is
backed by a `success` response for the leader's term; **restrictions (`_partial`)**: in every state every node's
latest configuration is stable (no pending action) with voter list `V`, no operation asks for a configuration
change, and no snapshot is ever installed, taken or published and no log is compacted (`SideV`, `OpOK2`).
Then:
1. every leader holds every entry of the ledger `committed` (the entries a leader's commit index reached by the
   majority rule) whose term is not above the leader's term — at the same index, with the same term;
2. every leader `i` whose term is at least the term of a node `j` holds, at every index `k` within `j`'s commit
   index, the very entry `j` holds there (index, term, type, payload, configuration);
3. every entry of the tree of created entries whose term is above a ledger entry's term extends that ledger
   entry (every root path through it passes through the ledger entry): entries of later terms are only ever
   created on top of what was committed before. -/
theorem leader_completeness_sys_partial (V : List Nat) (hV : V.Nodup) (x : Commit.Sys)
    (h : Commit.ReachableV V x) :
    (∀ i, (x.node i).role = .leader → ∀ m ∈ x.committed, m.2 ≤ (x.node i).term →
      ∃ e, (x.node i).log.get? m.1 = some e ∧ e.term = m.2) ∧
    (∀ i j k, (x.node i).role = .leader → (x.node j).term ≤ (x.node i).term → 1 ≤ k →
      k ≤ (x.node j).commitIndex →
      (x.node i).log.get? k = (x.node j).log.get? k ∧ ((x.node j).log.get? k).isSome = true) ∧
    (∀ m ∈ x.committed, ∀ c ∈ x.T, m.2 < c.e.term → Anc x.T m (key c)) :=
  leader_completeness_of_cinv hV (inv_reachable hV h).1

/-- **C02, committed entries are never replaced (partial; same assumptions).**
1. Two nodes whose commit indexes cover index `k` hold the same entry at `k`.
2. When a node handles an operation to completion, every index `k` within its commit index still holds the
   same entry afterwards, and is still within the commit index. (A crash resets the volatile commit index to 0.)
3. The ledger `committed` and the tree only grow, so an entry once committed stays committed (`Committed`). -/
theorem committed_never_replaced_sys_partial (V : List Nat) (hV : V.Nodup) (x : Commit.Sys)
    (h : Commit.ReachableV V x) :
    (∀ i j k, 1 ≤ k → k ≤ (x.node i).commitIndex → k ≤ (x.node j).commitIndex →
      (x.node i).log.get? k = (x.node j).log.get? k ∧ ((x.node i).log.get? k).isSome = true) ∧
    (∀ i op ra ord src, Commit.Enabled x i op src → ∀ k, 1 ≤ k → k ≤ (x.node i).commitIndex →
      ((x.node i).step op ra ord).log.get? k = (x.node i).log.get? k ∧
      k ≤ ((x.node i).step op ra ord).commitIndex) ∧
    (∀ y, Commit.Trans x y → ∀ a, Committed x a → Committed y a) := by
  obtain ⟨hI, hS⟩ := inv_reachable hV h
  refine ⟨fun i j k hk hi hj => ?_, fun i op ra ord src he k hk hkc => ?_, fun y ht a ha => ?_⟩
  · exact (core_of_cinv hI).covered_agree (chained hI) hk hi hj
  · have sc : SC V x i op ra ord src := ⟨hV, hI, hS, he⟩
    obtain ⟨c1, _⟩ := hI.cmt.cc i k hk hkc
    have hpn := sc.nwf_post
    -- the entries up to `k` are untouched
    have key : ((x.node i).step op ra ord).log.entries.take k = (x.node i).log.entries.take k ∧
        k ≤ ((x.node i).step op ra ord).commitIndex := by
      rcases SC.op_cases op with happ | ⟨q, rfl⟩
      · obtain ⟨es, te, _, hl⟩ := sc.newE happ
        refine ⟨by rw [hl, List.take_append_of_le_length c1], ?_⟩
        rcases (sc.nst happ).ci with c | ⟨T, c⟩
        · rw [c]; exact hkc
        · have := c.adv; omega
      · by_cases hst : q.term < (x.node i).term
        · obtain ⟨s1, _, _, s4, _⟩ := append_stale _ q ra ord hst
          rw [s1, s4]; exact ⟨rfl, hkc⟩
        · obtain ⟨hq, fs⟩ := sc.fst hst
          have hnc := reqok hI (i := i) hq hst
          refine ⟨(fs.keep k c1 (fun e he' hek => hnc e he' (by omega))).1, ?_⟩
          rcases fs.ci with c | ⟨c, _⟩
          · rw [c]; exact hkc
          · omega
    refine ⟨?_, key.2⟩
    rw [hpn.get?, (nwf hI i).get?, if_pos (show 0 < k from hk), if_pos (show 0 < k from hk)]
    exact getElem?_of_take_eq key.1 (by omega)
  · obtain ⟨m, hm, hanc⟩ := ha
    exact ⟨m, ht.grows.committed m hm, hanc.mono ht.grows.T⟩

/-- as `C01Sys.RunV`, for `Commit.Trans` and the side condition `SideV` -/
inductive RunV (V : List Nat) (x : Commit.Sys) : Commit.Sys → Prop
  | refl : RunV V x x
  | next (y z : Commit.Sys) : RunV V x y → Commit.Trans y z → SideV V z → RunV V x z

theorem run_reachable {V : List Nat} {x y : Commit.Sys} (hx : Commit.ReachableV V x) (h : RunV V x y) :
    Commit.ReachableV V y ∧ (∀ c ∈ x.T, c ∈ y.T) ∧ (∀ m ∈ x.committed, m ∈ y.committed) := by
  induction h with
  | refl => exact ⟨hx, fun c hc => hc, fun m hm => hm⟩
  | next y z _ ht hs ih =>
    exact ⟨.next y z ih.1 ht hs, fun c hc => ht.grows.T c (ih.2.1 c hc),
      fun m hm => ht.grows.committed m (ih.2.2 m hm)⟩

/-- **…every node that LATER becomes leader** (same assumptions): let `x` be reachable, `k` an index within the
commit index of node `j` in `x`, and `y` any later state of the run (crashes, restarts, elections in between).
Every node `i` that is leader in `y` with a term at least `j`'s term in `x` holds at index `k` the very entry
`j` held there in `x` — whatever happened to `j` meanwhile. -/
theorem leader_completeness_ever_partial (V : List Nat) (hV : V.Nodup) (x y : Commit.Sys)
    (hx : Commit.ReachableV V x) (hrun : RunV V x y) (i j k : Nat) (hk : 1 ≤ k)
    (hkc : k ≤ (x.node j).commitIndex) (hl : (y.node i).role = .leader)
    (ht : (x.node j).term ≤ (y.node i).term) :
    (y.node i).log.get? k = (x.node j).log.get? k ∧ ((x.node j).log.get? k).isSome = true := by
  obtain ⟨hy, hT, hC⟩ := run_reachable hx hrun
  obtain ⟨hIx, _⟩ := inv_reachable hV hx
  obtain ⟨hIy, _⟩ := inv_reachable hV hy
  exact (core_of_cinv hIx).leader_covers (core_of_cinv hIy) hT hC
    (fun m hm hle => leader_holds_committed hV hIy hl hm hle) hk hkc ht

theorem chainB_of_idx : ∀ (es : List Entry) (p : Nat),
    (∀ k (h : k < es.length), es[k].index = p + k + 1) → Order.chainB p es = true := by
  intro es
  induction es with
  | nil => intro p _; rfl
  | cons e es ih =>
    intro p h
    have h0 : e.index = p + 1 := h 0 (by simp)
    simp only [Order.chainB, Bool.and_eq_true, beq_iff_eq]
    refine ⟨h0, ih e.index (fun k hk => ?_)⟩
    have := h (k + 1) (by simp; omega)
    simp only [List.getElem_cons_succ] at this
    rw [this, h0]; omega

/-- **every request delivered in this system is acceptable at its receiver** (same assumptions as
`leader_completeness_sys_partial`): an append request that is not stale carries contiguous indexes and conflicts
with the receiver's log only ABOVE the receiver's commit index — this is the hypothesis `Order.ReqOk` of
`C19Order.ordered_step`, discharged inside the system. One part of `Order.AppendOk` is about configurations and
is assumed here (`hcfg`; membership is fixed in this model, configurations are not tracked by the invariant): the
index of the receiver's committed configuration is not above its commit index, or the tree never branched at
or below that index (e.g. the bootstrap entry (1,1), which all nodes start with). -/
theorem reqok_in_sys_partial (V : List Nat) (hV : V.Nodup) (x : Commit.Sys) (h : Commit.ReachableV V x)
    (i : Nat) (op : Op) (src : Nat) (he : Commit.Enabled x i op src)
    (hcfg : (x.node i).configs.committed.index ≤ (x.node i).commitIndex ∨
      ∀ c ∈ x.T, ∀ d ∈ x.T, c.e.index = d.e.index → c.e.index ≤ (x.node i).configs.committed.index →
        c.e.term = d.e.term) : Order.ReqOk (x.node i) op := by
  obtain ⟨hI, _⟩ := inv_reachable hV h
  cases op with
  | append q =>
    show q.term < (x.node i).term ∨ Order.AppendOk (x.node i) q
    by_cases hst : q.term < (x.node i).term
    · exact Or.inl hst
    · right
      have hq : q ∈ x.rp.sent := (he.rp.append q rfl).resolve_left hst
      have hnc := reqok hI (i := i) hq hst
      have hn := nwf hI i
      refine ⟨chainB_of_idx _ _ (hI.rp.sent q hq).idx, fun ne hne hle _ hdiff => ?_⟩
      have : (x.node i).commitIndex < ne.index := by
        apply Nat.lt_of_not_le
        intro hle'
        apply hdiff
        have h1 : 1 ≤ ne.index := by
          obtain ⟨j, hj, rfl⟩ := List.getElem_of_mem hne
          rw [(hI.rp.sent q hq).idx j hj]; omega
        rw [hn.entryTerm ne.index h1 (by rw [← hn.last]; exact hle), hnc ne hne hle']
      refine ⟨this, ?_⟩
      rcases hcfg with hcfg | hcfg
      · omega
      · apply Nat.lt_of_not_le
        intro hle'
        apply hdiff
        have h1 : 1 ≤ ne.index := by
          obtain ⟨j, hj, rfl⟩ := List.getElem_of_mem hne
          rw [(hI.rp.sent q hq).idx j hj]; omega
        have hlen : ne.index ≤ (x.node i).log.entries.length := by rw [← hn.last]; exact hle
        rw [hn.entryTerm ne.index h1 hlen]
        obtain ⟨c, hc, ck⟩ := log_record hI i (k := ne.index) (τ := termAt (x.node i).log.entries ne.index)
          ⟨h1, hlen, rfl⟩
        obtain ⟨c', hc', _, c2, _⟩ := hI.sent.anc q hq
        obtain ⟨_, es, hp, _, ha⟩ := c2 ne hne
        obtain ⟨d, hd, d1, d2, _⟩ := path_record hp ha
        replace ck := key_eq.mp ck
        have := hcfg c hc d hd (by rw [ck.1, d1]) (by rw [ck.1]; exact hle')
        rw [← ck.2, this, d2]
  | install q => exact absurd he.rp.ok (by simp [OpOK])
  | _ => trivial

/-! ### Examples (non-vacuity): three voters, every node bootstrapped with the same configuration entry (1,1).
(The states from `ex3` on are evaluated with `#guard` — tests, not proofs: the kernel evaluates them up to `ex6`; the
commit step `ex7` gets stuck on `List.mergeSort` in `majorityMatchIndex`; Lemmas/ScriptNode.lean has the way round.) -/

/-- example initial state: the replication example `C04Sys.ex0` with empty ledgers -/
def ex0 : Commit.Sys := { rp := C04Sys.ex0, acks := [], camps := [], committed := [] }

/-- node 1: election timeout -/
def ex1 : Commit.Sys := stepC ex0 1 .timeout [] [] 0

/-- example: `ex0` is an initial state satisfying the side condition with voters `[1, 2, 3]` -/
theorem ex0_init : Commit.Init ex0 ∧ SideV [1, 2, 3] ex0 := by
  have hp : Path ex0.T [C04Sys.exE] :=
    ⟨⟨⟨⟨C04Sys.exE, 0, 0⟩, List.mem_singleton.mpr rfl, rfl, fun pt h => by cases h⟩, trivial⟩,
      fun k hk => by
        have : k = 0 := by have : k < 1 := hk; omega
        subst this; rfl⟩
  have hh : Holds [C04Sys.exE] 1 1 := ⟨Nat.le_refl _, Nat.le_refl _, rfl⟩
  refine ⟨⟨C04Sys.ex0_init.1, ⟨fun c hc => ?_, fun c hc => ?_, fun c hc d hd _ _ => ?_⟩,
    fun i => ⟨?_, rfl, rfl, rfl, rfl⟩, rfl, rfl, rfl⟩, C04Sys.ex0_init.2, fun i => ?_⟩
  · rw [List.mem_singleton.mp hc]; exact ⟨_, hp, hh⟩
  · rw [List.mem_singleton.mp hc]; decide
  · rw [List.mem_singleton.mp hc, List.mem_singleton.mp hd]
    exact anc_of_path hp hh hh (Nat.le_refl _)
  · show C06.LogWF ({ entries := [C04Sys.exE], flushed := 1 } : NLog)
    exact ⟨by decide, by decide⟩
  · show C04Sys.exCfg.isStable = true
    decide

theorem ex1_side : SideV [1, 2, 3] ex1 :=
  ⟨forall_setNode (P := fun _ s => s.configs.isBootstrapped = true ∧ s.configs.latest.voters = [1, 2, 3])
      (by decide) (fun _ _ => ⟨rfl, rfl⟩),
    forall_setNode (P := fun _ s => s.configs.latest.isStable = true) (by decide) (fun _ _ => rfl)⟩

theorem ex1_trans : Commit.Trans ex0 ex1 :=
  .step 1 .timeout [] [] 0
    ⟨⟨by decide, (fun q h => by cases h), (fun ⟨_, _, _, h⟩ => by cases h), trivial, (fun q h => by cases h)⟩,
     ⟨trivial, (fun b h => by cases h), (fun t c h => by cases h)⟩, (fun q h => by cases h),
     (fun q h => by cases h), (fun us h => by cases h)⟩

set_option maxRecDepth 100000 in
/-- example: `ex1` (node 1 is candidate of term 2, its campaign is recorded) is reachable — the hypotheses of the
theorems hold for a non-initial state -/
example : [1, 2, 3].Nodup ∧ Commit.ReachableV [1, 2, 3] ex1 ∧ (ex1.node 1).role = .candidate ∧
    ex1.camps = [{ cand := 1, term := 2, lastIndex := 1, lastTerm := 1 }] :=
  ⟨by decide, .next ex0 ex1 (.init ex0 ex0_init.1 ex0_init.2) ex1_trans ex1_side, by decide, by decide⟩

/-- example: the hypotheses of `reqok_in_sys_partial` hold in `ex1` for node 2 and the vote request of node 1
(the tree is `[(1,1)]`, it has no branch) -/
example : Commit.Enabled ex1 2 (.vote { term := 2, src := 1, lastLogIndex := 1, lastLogTerm := 1 }) 0 ∧
    (∀ c ∈ ex1.T, ∀ d ∈ ex1.T, c.e.index = d.e.index → c.e.index ≤ (ex1.node 2).configs.committed.index →
      c.e.term = d.e.term) := by
  refine ⟨⟨⟨by decide, (fun q h => by cases h; decide), (fun ⟨_, _, _, h⟩ => by cases h), trivial,
      (fun q h => by cases h)⟩,
    ⟨trivial, (fun b h => by cases h), (fun t c h => by cases h)⟩, (fun q h => by cases h; exact Or.inr (by decide)),
    (fun q h => by cases h), (fun us h => by cases h)⟩, ?_⟩
  intro c hc d hd _ _
  have e : ex1.T = [⟨C04Sys.exE, 0, 0⟩] := by decide
  rw [e] at hc hd
  rw [List.mem_singleton.mp hc, List.mem_singleton.mp hd]

/-- node 2 grants its vote; node 1 counts it, becomes leader of term 2 and appends its no-op (2,2); the request
carrying it reaches nodes 2 and 3; node 1 learns the two acknowledgements and commits index 2 -/
def ex2 : Commit.Sys := stepC ex1 2 (.vote { term := 2, src := 1, lastLogIndex := 1, lastLogTerm := 1 }) [] [] 0
def ex3 : Commit.Sys := stepC ex2 1 (.voteResult false 2 rSuccess) [] [] 2
def exReq : AppendReq :=
  { term := 2, src := 1, prevLogIndex := 1, prevLogTerm := 1, entries := (ex3.node 1).log.entries.drop 1 }
def ex4 : Commit.Sys := sendC ex3 exReq
def ex5 : Commit.Sys := stepC ex4 2 (.append exReq) [] [] 0
def ex6 : Commit.Sys := stepC ex5 3 (.append exReq) [] [] 0
def ex7 : Commit.Sys :=
  stepC ex6 1 (.replUpdates [{ id := 2, upd := .matchIndex 2 }, { id := 3, upd := .matchIndex 2 }]) [] [] 0

-- evaluation (tests, not proofs) of the scenario: the acknowledgements of nodes 2 and 3 are recorded, the
-- leader's commit of index 2 enters the ledger together with its self acknowledgement, nobody panicked
#guard (ex3.node 1).role == .leader && (ex3.node 1).term == 2 && (ex3.node 1).panicked.isNone
#guard ex5.acks.map (fun a => (a.voter, a.term, a.index, a.eterm)) == [(2, 2, 2, 2)]
#guard ex6.acks.map (fun a => (a.voter, a.term, a.index, a.eterm)) == [(3, 2, 2, 2), (2, 2, 2, 2)]
#guard (ex7.node 1).commitIndex == 2 && (ex7.node 1).panicked.isNone && ex7.committed == [(2, 2)]
#guard ex7.acks.map (fun a => (a.voter, a.term, a.index, a.eterm)) == [(1, 2, 2, 2), (3, 2, 2, 2), (2, 2, 2, 2)]

end C02Sys
end Raft

#print axioms Raft.C02Sys.inv_reachable
#print axioms Raft.C02Sys.leader_completeness_sys_partial
#print axioms Raft.C02Sys.leader_completeness_ever_partial
#print axioms Raft.C02Sys.committed_never_replaced_sys_partial
#print axioms Raft.C02Sys.reqok_in_sys_partial
