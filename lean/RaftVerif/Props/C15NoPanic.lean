/-
C15 — No self-inflicted failure on EVERY path: `Node.step` never panics from a good state.

A Go panic (failed `assert`, nil dereference, `bug{}`, a log view that cannot be built, `unreachable()`) is the
model field `panicked`. `Props/C15.lean` shows that the simple handlers cannot fail; `Props/C19Order.lean` shows
that the orderings are inductive for steps that *complete*. Here the hypothesis "completes" is removed.

* `Good T s`, `ReqOk' T s op` (Lemmas/NoPanic.lean): the state invariant (for `T = true`: every configuration has TWO
  anchors — voters without pending action) and the decidable condition on the operation;
* `step_never_fails`, `good_step` (`T` arbitrary): from a good, open state and an acceptable operation, for every
  oracle (`rollAt`, `orders`: no well-formedness is needed — `replOrder` repairs any oracle) and input, the step
  does not fail — except that the MODEL's recursion budget (`fuelFor`) may run out (`panicked = some "fuel"`; the
  Go code has no budget: this is not a failure of the implementation) — and unless that happened the new state
  is good;
* `good_step_two` (`T = true`): with two anchors the budget provably suffices: NO caveat;
* necessity examples for the clauses of `ReqOk'` and `Good`; `checkConfigActions_unreachable` (a genuine defect:
  an undefined `Action` value on the leader's own entry reaches `panic(unreachable())`); `exFuel`: the model's
  budget can run out in a single-voter cluster.
-/
import RaftVerif.Lemmas.NoPanic

namespace Raft
namespace C15NoPanic
open Node NoPanic

variable {T : Bool}

/-- **No operation makes a good node fail.** From a good, open (`closed = ""`: the state loop is running) state,
for an operation acceptable in the sense of `ReqOk'`, for every oracle and input: after the step either the
model's recursion budget has run out (`some "fuel"`, a model artefact), or nothing has failed. No `assert`, nil
dereference, `bug{}`, `unreachable()`, log-view or FSM failure is possible — on the follower paths (append,
install, votes, snapshots, compaction) as on the leader paths (new entries, commit, membership changes,
transfers). (`T = false`: one anchor voter per configuration; `T = true`: two, see `good_step_two`.) -/
theorem step_never_fails (s : Node) (op : Op) (rollAt : List Nat) (orders : List (List Nat)) (hG : Good T s)
    (ho : s.closed = "") (hr : ReqOk' T s op) :
    (s.step op rollAt orders).panicked = none ∨ (s.step op rollAt orders).panicked = some "fuel" :=
  (step_goodF (F := True) (Or.inl trivial) op rollAt orders hG ho hr).pf.imp id (fun h => h.2)

/-- **`Good` is inductive**: … and unless the model's budget ran out, the state after the step is good again. -/
theorem good_step (s : Node) (op : Op) (rollAt : List Nat) (orders : List (List Nat)) (hG : Good T s)
    (ho : s.closed = "") (hr : ReqOk' T s op) (hf : (s.step op rollAt orders).panicked ≠ some "fuel") :
    Good T (s.step op rollAt orders) := by
  have h := step_goodF (F := True) (Or.inl trivial) op rollAt orders hG ho hr
  rcases h.pf with e | e
  · exact h.good e
  · exact absurd e.2 hf

theorem good_step_noPanic (s : Node) (op : Op) (rollAt : List Nat) (orders : List (List Nat)) (hG : Good T s)
    (ho : s.closed = "") (hr : ReqOk' T s op) (hf : (s.step op rollAt orders).panicked ≠ some "fuel") :
    (s.step op rollAt orders).panicked = none :=
  (good_step s op rollAt orders hG ho hr hf).noPanic

/-- **The model's budget suffices when configurations have two anchors** (two voters without pending action,
`Good true` / `ReqOk' true`: every cluster that keeps two stable voters). Then there are always at least two
voters, the leader never commits alone (no single-voter fast path), a membership change is never committed inside
the call that stored it, so changes do not nest: `leader.onMajorityCommit` needs 10 units of the budget,
`storeEntry` `4 + |batch|`, and `fuelFor k = 64 + 4k` are supplied. Hence, with NO caveat: the step does not fail
and the new state is good. -/
theorem good_step_two (s : Node) (op : Op) (rollAt : List Nat) (orders : List (List Nat)) (hG : Good true s)
    (ho : s.closed = "") (hr : ReqOk' true s op) :
    (s.step op rollAt orders).panicked = none ∧ Good true (s.step op rollAt orders) := by
  have h := step_goodF (F := False) (Or.inr rfl) op rollAt orders hG ho hr
  have hp : (s.step op rollAt orders).panicked = none := h.pf.elim id (fun e => e.1.elim)
  exact ⟨hp, h.good hp⟩

/-- `Shutdown` from a good state: no failure (no caveat about the model's budget), the node is closed, and the state
is still ordered with `Glob` (the leader part is given up on purpose: `leader.release` drops the replications). -/
theorem shutdown_good (s : Node) (rollAt : List Nat) (orders : List (List Nat)) (hG : Good T s) :
    (s.step .shutdown rollAt orders).panicked = none ∧
    (s.step .shutdown rollAt orders).closed ≠ "" ∧ Good T (s.step .shutdown rollAt orders) := by
  have hsh : I False T false false (fun r => r = s.role) s ((s.begin rollAt orders).shutdown) :=
    i_shutdown (i_begin rollAt orders hG)
  have e := step_shutdown s rollAt orders
  have hcl := C06Cache.shutdown_closes s rollAt orders
  have hp : (s.step .shutdown rollAt orders).panicked = none := by
    rw [e]; exact hsh.pf.elim id (fun x => x.1.elim)
  refine ⟨hp, hcl, hp, ?_, ?_, fun hc => absurd hc hcl⟩
  · rw [e] at hp ⊢
    obtain ⟨c, hcl'⟩ := hsh.core hp
    exact ⟨c, hcl'⟩
  · rw [e] at hp ⊢
    exact hsh.glob hp

/-- every operation of the run is handled by an open node, is acceptable in the state it is handled in, and does
not exhaust the model's recursion budget -/
def RunOk (T : Bool) : Node → List (Op × List Nat × List (List Nat)) → Prop
  | _, [] => True
  | s, o :: os =>
    s.closed = "" ∧ ReqOk' T s o.1 ∧ (s.step o.1 o.2.1 o.2.2).panicked ≠ some "fuel" ∧ RunOk T (s.step o.1 o.2.1 o.2.2) os

/-- … with two anchors: no budget condition -/
def RunOkTwo : Node → List (Op × List Nat × List (List Nat)) → Prop
  | _, [] => True
  | s, o :: os => s.closed = "" ∧ ReqOk' true s o.1 ∧ RunOkTwo (s.step o.1 o.2.1 o.2.2) os

/-- **over any sequence of events** (messages, tasks, timeouts, snapshots, compactions, transfers, membership
changes, in any order, with any oracles) a good node never fails and stays good. -/
theorem good_run (s : Node) (ops : List (Op × List Nat × List (List Nat))) (hG : Good T s) (hr : RunOk T s ops) :
    Good T (C19Order.run s ops) ∧ (C19Order.run s ops).panicked = none := by
  induction ops generalizing s with
  | nil => exact ⟨hG, hG.noPanic⟩
  | cons o os ih =>
    obtain ⟨h1, h2, h3, h4⟩ := hr
    exact ih _ (good_step s o.1 o.2.1 o.2.2 hG h1 h2 h3) h4

/-- every intermediate state of such a run is free of failures -/
theorem good_run_prefix (s : Node) (ops : List (Op × List Nat × List (List Nat))) (hG : Good T s) (hr : RunOk T s ops)
    (k : Nat) : (C19Order.run s (ops.take k)).panicked = none := by
  induction ops generalizing s k with
  | nil => simp [C19Order.run]; exact hG.noPanic
  | cons o os ih =>
    cases k with
    | zero => exact hG.noPanic
    | succ k =>
      obtain ⟨h1, h2, h3, h4⟩ := hr
      exact ih _ (good_step s o.1 o.2.1 o.2.2 hG h1 h2 h3) h4 k

/-- **… with two anchors, without any condition on the model's budget** -/
theorem good_run_two (s : Node) (ops : List (Op × List Nat × List (List Nat))) (hG : Good true s) (hr : RunOkTwo s ops) :
    Good true (C19Order.run s ops) ∧ (C19Order.run s ops).panicked = none := by
  induction ops generalizing s with
  | nil => exact ⟨hG, hG.noPanic⟩
  | cons o os ih =>
    obtain ⟨h1, h2, h3⟩ := hr
    exact ih _ (good_step_two s o.1 o.2.1 o.2.2 hG h1 h2).2 h3

/-- Disk well-formedness from which a restart yields a good state: `C19Order.DiskOK`; at least one snapshot is
retained; the snapshot listing's head is its newest file; every configuration entry of the log decodes to a
configuration the node can hold, and so is the newest snapshot's label. -/
structure DiskOK' (T : Bool) (d : Durable) (retain : Nat) : Prop where
  ord : C19Order.DiskOK d
  retain : 1 ≤ retain
  snaps : ∀ g ∈ d.snaps, g.index ≤ (C10.snapOf d).index
  entries : EntriesDec T d.nid d.log.entries
  label : CfgOk T d.nid (C10.snapOf d).config

theorem logOf_entries (d : Durable) : ∀ e ∈ (C10.logOf d).entries, e ∈ d.log.entries :=
  C10.logOf_ind (P := fun l => ∀ e ∈ l.entries, e ∈ d.log.entries) d (fun _ _ hx => nomatch hx) fun _ _ hx => hx

theorem window_sub (log : NLog) (sn i : Nat) : ∀ e ∈ C10.window log sn i, e ∈ log.entries := by
  intro e he
  unfold C10.window at he
  exact List.mem_of_mem_take (List.mem_of_mem_drop (List.mem_reverse.mp he))

/-- **a restart yields a good state** from every disk satisfying `DiskOK'` -/
theorem restart_good (d : Durable) (r : Nat) (sor : Bool) (n : Node) (hd : DiskOK' T d r)
    (h : restart d r sor = some n) : Good T n := by
  obtain ⟨_, hpan, hsnap, hlog, hlast, hcfg, hdisk⟩ := C10.restart_fsm d r sor n h
  obtain ⟨_, _, _, hn⟩ := C10.restart_some d r sor n h
  obtain ⟨_, _, e3, _, _, _, _, _, _, _, _, e12⟩ := C10.restartNode_fields d r sor
  have hrest : n.role = .follower ∧ n.retain = r ∧ n.nid = d.nid := by
    rw [hn]
    split
    · rw [fsmRestore_eq]; exact ⟨rfl, rfl, rfl⟩
    · exact ⟨rfl, rfl, rfl⟩
  have hdecE : ∀ e ∈ (C10.logOf d).entries, e.typ = etConfig → ∃ c, e.cfg = some c ∧ CfgOk T d.nid c :=
    fun e he ht => (hd.entries e (logOf_entries d e he) ht).get
  have hok : C10.NoDecodeErr (C10.window (C10.logOf d) (C10.snapOf d).index (C10.logOf d).last) := by
    intro e he ht
    obtain ⟨c, hc, _⟩ := hdecE e (window_sub _ _ _ e he) ht
    rw [Entry.config?_of_cfg ht hc]; rfl
  obtain ⟨_, hl, hc⟩ := C10.restart_configs d r sor hd.ord.durWF hok
  have habove : ∀ c ∈ C10.configsAbove d, CfgOk T d.nid c := by
    intro c hc
    unfold C10.configsAbove at hc
    obtain ⟨e, he, hec⟩ := List.mem_filterMap.mp hc
    have hmem := window_sub _ _ _ e he
    have ht : e.typ = etConfig := (Entry.config?_facts hec).1
    obtain ⟨c0, hc0, hok0⟩ := hdecE e hmem ht
    exact hok0.congr (config?_nodes hc0 hec)
  have hget : ∀ k : Nat, CfgOk T d.nid (((C10.configsAbove d)[k]?).getD (C10.snapOf d).config) := by
    intro k
    cases hk : (C10.configsAbove d)[k]? with
    | none => exact hd.label
    | some c => exact habove c (List.mem_of_getElem? hk)
  refine ⟨hpan, C19Order.restart_ordered d r sor n hd.ord h, ⟨?_, ?_, ?_, ?_, ?_, ?_⟩, ?_⟩
  · rw [hlog, e3]
    intro e he ht
    obtain ⟨c, hc, _⟩ := hdecE e he ht
    rw [hc]; rfl
  · rw [hrest.2.1]; exact hd.retain
  · rw [hdisk, hsnap]; exact hd.snaps
  · intro hc; rw [hrest.1] at hc; cases hc
  · rw [hrest.2.2, hcfg, hl]; exact hget 0
  · rw [hrest.2.2, hcfg, hc]; exact hget 1
  · intro _ hl; rw [hrest.1] at hl; cases hl

/-- `DiskOK'` of a disk without snapshots whose log starts at index 1 — what a crash image is in the systems without
snapshots (Lemmas/SysInv.lean, Lemmas/MemberSide.lean) -/
theorem diskOK'_nosnap {d : Durable} {r : Nat} (hprev : d.log.prev = 0) (hsnaps : d.snaps = []) (hseg : C09.SegsOK d.log)
    (hc : ∀ k (h : k < d.log.entries.length), d.log.entries[k].index = k + 1) (hr : 1 ≤ r)
    (hent : EntriesDec T d.nid d.log.entries) : DiskOK' T d r := by
  have hsnap : C10.snapOf d = {} := by unfold C10.snapOf; rw [hsnaps]; rfl
  refine ⟨⟨?_, hseg, ?_, ?_⟩, hr, ?_, hent, ?_⟩
  · unfold C10.DurWF; rw [hprev]; exact Nat.zero_le _
  · intro j e hj
    unfold NLog.get? at hj
    rw [hprev] at hj
    split at hj
    · rw [Nat.sub_zero] at hj
      obtain ⟨hlt, hge⟩ := List.getElem?_eq_some_iff.mp hj
      rw [← hge, hc _ hlt]; omega
    · cases hj
  · rw [hsnap]; exact Nat.le_refl _
  · rw [hsnaps]; intro g hg; cases hg
  · rw [hsnap]; exact cfgOk_empty _ _

/-! ### examples: the hypotheses are satisfiable -/

/-- EXAMPLE state: the leader of `C06Cache.exLeader` (node 1 leads {1 voter, 2 voter, 3 non-voter being promoted},
entries 1..3, commit index 2, one queued update) -/
def exL : Node := C06Cache.exLeader

/-- EXAMPLE state: the follower of `C19Order.exNode` (entries 2..4 above a snapshot at 1, commit index 3) -/
def exF : Node := C19Order.exNode

theorem exL_good : Good true exL :=
  ⟨rfl,
   ⟨⟨by decide, by decide, by decide, by decide, by decide, by decide, ⟨by decide, by decide, by decide⟩, by decide,
     fun rs h => by cases h⟩, by decide⟩,
   ⟨by decide, by decide, by decide, by decide, by decide, by decide⟩,
   fun _ _ => ⟨⟨by decide, ⟨3, by decide, ⟨rfl, rfl⟩⟩, by decide, by decide, by decide, by decide, by decide, by decide,
     by decide⟩, (C06Cache.cacheOK_iff _).mp C06Cache.exLeader_ok⟩⟩

theorem exF_good : Good true exF :=
  ⟨rfl, C19Order.exNode_ordered, ⟨by decide, by decide, by decide, by decide, by decide, by decide⟩,
   fun _ h => by cases h⟩

/-- EXAMPLE (non-vacuity of `good_step_two`, leader side): the hypotheses hold for `exL` (two anchors: the voters
1 and 2) and a batch of one update; hence the step completes and the new state is good -/
example :
    Good true exL ∧ exL.closed = "" ∧ ReqOk' true exL (.newEntries [{ typ := etUpdate, data := "y", task := 3 }]) ∧
    (exL.step (.newEntries [{ typ := etUpdate, data := "y", task := 3 }]) [] []).panicked = none ∧
    Good true (exL.step (.newEntries [{ typ := etUpdate, data := "y", task := 3 }]) [] []) :=
  ⟨exL_good, rfl, by decide, (good_step_two _ _ _ _ exL_good rfl (by decide)).1,
    (good_step_two _ _ _ _ exL_good rfl (by decide)).2⟩

/-- EXAMPLE (`good_step`, one anchor): the same through the general theorem; here the hypothesis on the model's
budget is discharged by evaluation -/
example : Good false (exL.step (.newEntries [{ typ := etUpdate, data := "y", task := 3 }]) [] []) := by
  have hp : (exL.step (.newEntries [{ typ := etUpdate, data := "y", task := 3 }]) [] []).panicked = none := by
    decide +kernel
  exact good_step _ _ _ _ exL_good.weaken rfl (by decide) (by rw [hp]; exact fun h => by cases h)

/-- EXAMPLE (a membership change): the client asks to demote node 2 (`C06Cache.exDemote`); `ReqOk' false` holds
(`ReqOk' true` does not: the new configuration keeps one voter without pending action only) -/
example : ReqOk' false exL (.changeConfig 1 C06Cache.exDemote) ∧ ¬ ReqOk' true exL (.changeConfig 1 C06Cache.exDemote) := by
  refine ⟨by decide, by decide⟩

-- … the step completes: a configuration entry is stored (index 4), node 2 is a non-voter in it, the caches are
-- refreshed. (`Config.validate` parses addresses: the kernel cannot evaluate the string functions, `#guard` runs
-- the compiled model.)
#guard (exL.step (.changeConfig 1 C06Cache.exDemote) [] []).panicked = none
#guard (exL.step (.changeConfig 1 C06Cache.exDemote) [] []).lastLogIndex = 4
#guard (exL.step (.changeConfig 1 C06Cache.exDemote) [] []).configs.latest.isVoter 2 = false
#guard (exL.step (.changeConfig 1 C06Cache.exDemote) [] []).ldr.numVoters = 1

/-- EXAMPLE (follower side, and `good_run_two`): `C19Order.exAppend`, then a user snapshot (request, the snapshot
goroutine, its completion) -/
example :
    let ops : List (Op × List Nat × List (List Nat)) :=
      [(.append C19Order.exAppend, [], []), (.takeSnapshot 1 0, [], []), (.snapRun, [], []), (.snapTaken, [], [])]
    RunOkTwo exF ops ∧ Good true (C19Order.run exF ops) := by
  have h : RunOkTwo exF [(.append C19Order.exAppend, [], []), (.takeSnapshot 1 0, [], []), (.snapRun, [], []), (.snapTaken, [], [])] :=
    ⟨by decide, by decide, ⟨by decide, trivial, ⟨by decide, trivial, ⟨by decide, trivial, trivial⟩⟩⟩⟩
  exact ⟨h, (good_run_two exF _ exF_good h).1⟩

/-- EXAMPLE disk: snapshot at 2 labelled {1 voter}, entries 3 (no-op) and 4 (the configuration {1 voter, 2 voter}) -/
def exDiskG : Durable :=
  { cid := 1, nid := 1,
    log := { prev := 2,
             entries := [{ index := 3, typ := etNop },
                         { index := 4, typ := etConfig,
                           cfg := some { nodes := [{ id := 1, voter := true }, { id := 2, voter := true }] } }],
             flushed := 4, segs := [2] },
    snaps := [{ index := 2, term := 1, config := { nodes := [{ id := 1, voter := true }], index := 1 } }] }

/-- EXAMPLE (`restart_good`): `exDiskG` satisfies `DiskOK' false`, the restart succeeds, the node is good -/
example : DiskOK' false exDiskG 1 ∧ (restart exDiskG 1 true).isSome = true ∧
    ∀ n, restart exDiskG 1 true = some n → Good false n := by
  have hd : DiskOK' false exDiskG 1 := by
    refine ⟨⟨by unfold C10.DurWF; decide, ⟨by decide, by decide, by decide⟩, ?_, by decide⟩, by decide, by decide,
      by decide, by decide⟩
    intro i e h
    have hi : i = 3 ∨ i = 4 := by
      unfold NLog.get? at h
      split at h
      · rename_i hlt
        have hlen := (List.getElem?_eq_some_iff.mp h).1
        have h2 : exDiskG.log.prev = 2 := rfl
        have h3 : exDiskG.log.entries.length = 2 := rfl
        omega
      · cases h
    rcases hi with rfl | rfl
    · have : exDiskG.log.get? 3 = some { index := 3, typ := etNop } := by decide
      rw [this] at h; injection h with h; rw [← h]
    · have : (exDiskG.log.get? 4).map (·.index) = some 4 := by decide
      rw [h] at this; simpa using this
  exact ⟨hd, by decide, fun n h => restart_good _ _ _ n hd h⟩

/-! ### necessity of the clauses of `ReqOk'`

Each example: a GOOD state (`exL_good` / `exF_good`), an operation violating exactly one clause, and the failure
site the step ends in. -/

/-- NECESSITY (`append`: configuration entries decode): a configuration entry without decodable payload makes
`Config.decode` fail; the handler answers `unexpectedErr`, `replyRPC` panics. NOT reachable in a correct cluster
(a leader stores what `Config.encode` produced). -/
example :
    let q : AppendReq := { term := 1, src := 2, prevLogIndex := 4, prevLogTerm := 1,
                           entries := [{ index := 5, term := 1, typ := etConfig }] }
    Order.AppendOk exF q ∧ ¬ ReqOk' false exF (.append q) ∧
    (exF.step (.append q) [] []).panicked = some "error.unexpectedErr" := by
  refine ⟨by decide, by decide, by decide⟩

/-- the leader's own entry with the undefined action 9 -/
def badConf : Config :=
  { exL.configs.latest with nodes := exL.configs.latest.nodes.map (fun n => if n.id = 1 then { n with action := 9 } else n) }

/-- once a failure site is recorded it stays the recorded one -/
theorem siteClosed (site : String) : Closed (fun x : Node => x.panicked = some site) :=
  Closed.ofPanicked (· = some site) (fun _ e => by cases e)

/-- **`unreachable()` is reachable**: whenever a leader that can change the configuration (`canChangeConfig`:
configuration committed, no transfer, commit-ready) runs `checkConfigActions` on a configuration in which ITS OWN
entry carries an action other than None/Demote/Remove/ForceRemove — `Promote`, or one of the 251 undefined values
of the `uint8` — it executes `panic(unreachable())`. -/
theorem checkConfigActions_unreachable (f : Nat) (s : Node) (t : Nat) (c : Config) (hp : s.panicked = none)
    (hcan : s.canChangeConfig = true)
    (hact : (c.get s.nid).action ≠ actNone ∧ (c.get s.nid).action ≠ actDemote ∧ (c.get s.nid).action ≠ actRemove ∧
      (c.get s.nid).action ≠ actForceRemove) :
    (checkConfigActions (f + 1) s t c).panicked = some "unreachable" := by
  unfold checkConfigActions
  dsimp only
  rw [if_pos ⟨hcan, hact.1⟩, if_neg hact.2.1, if_neg (by intro h; rcases h with h | h; exact hact.2.2.1 h; exact hact.2.2.2 h)]
  dsimp only
  apply Guarded.foldl_inv (Inv := fun x : Node => x.panicked = some "unreachable")
  · intro x id hx
    split
    · exact (siteClosed "unreachable").checkConfigAction_inv f x t c id hx
    · exact hx
  · exact panic_of_none _ hp

/-- NECESSITY (`changeConfig`: own action one of the five defined ones) — **WAS REACHABLE: defect F16, repaired**.
On the original tree `Node.validate` checked `Promote ∧ voter` and `Demote ∧ ¬voter` only, not the range of
`Action` (a `uint8`): a `ChangeConfig` whose entry for the LEADER carries `Action(9)` (settable through
`Config.SetAction`) passed every check of `leader.onChangeConfig` and reached the `default: panic(unreachable())`
of `leader.checkConfigActions` (`checkConfigActions_unreachable`): the leader process died by a client request —
replayed on the real code, repaired in /repo (`fix: Node.validate rejects an action outside the defined range`)
and in the model (`nodeValid` requires `action ≤ actForceRemove`). The request is now answered with an error and
nothing else happens; a configuration of that kind can no longer be stored, which is what `Glob.cfgL`/`cfgC`
(`SelfAct`) assume for the configurations a node holds. -/
example : ¬ ReqOk' false exL (.changeConfig 1 badConf) ∧ exL.canChangeConfig = true ∧ (badConf.get exL.nid).action = 9 := by
  refine ⟨by decide, by decide, by decide⟩

#guard configValid badConf = false
#guard (exL.step (.changeConfig 1 badConf) [] []).panicked = none
#guard ((exL.step (.changeConfig 1 badConf) [] []).replies.map (·.result)) = ["error"]
#guard (exL.step (.changeConfig 1 badConf) [] []).log.entries = exL.log.entries

/-- NECESSITY (`newEntries`: a configuration item carries a configuration): NOT reachable, the client API has no
such task (`leader.doChangeConfig` is the only producer). -/
example :
    ¬ ReqOk' false exL (.newEntries [{ typ := etConfig }]) ∧
    (exL.step (.newEntries [{ typ := etConfig }]) [] []).panicked = some "bug.configDecode" := by
  refine ⟨by decide, by decide +kernel⟩

/-- NECESSITY (`changeConfig` on a node that is not bootstrapped: term at most 1): `storage.bootstrap` asserts
`setTerm(1)`. In Go the deferred `recover` of `storage.bootstrap` hands the value to `recoverErr`, which panics again
for a failed assertion (errors.go) — after the configuration entry has been appended and flushed. LOOKS REACHABLE
by operator error only: a fresh node that a leader of term 5 has contacted (it adopted the term) is told to
bootstrap. -/
example :
    let s : Node := { nid := 1, cid := 7, term := 5, durTerm := 5 }
    let c : Config := { nodes := [{ id := 1, addr := "a:1", voter := true }] }
    ¬ ReqOk' false s (.changeConfig 1 c) := by
  decide

#guard (({ nid := 1, cid := 7, term := 5, durTerm := 5 } : Node).step
  (.changeConfig 1 { nodes := [{ id := 1, addr := "a:1", voter := true }] }) [] []).panicked = some "assert.setTerm"

/-- NECESSITY (… and an empty log): `storage.appendEntry` asserts `index = lastLogIndex + 1`. -/
example :
    let s : Node := { nid := 1, cid := 7, log := { entries := [{ index := 1, term := 1, typ := etNop }] },
                      lastLogIndex := 1, lastLogTerm := 1 }
    let c : Config := { nodes := [{ id := 1, addr := "a:1", voter := true }] }
    ¬ ReqOk' false s (.changeConfig 1 c) := by
  decide

/-- a node that is not bootstrapped but holds a log entry -/
def exUnboot : Node :=
  { nid := 1, cid := 7, log := { entries := [{ index := 1, term := 1, typ := etNop }] }, lastLogIndex := 1, lastLogTerm := 1 }

#guard (exUnboot.step (.changeConfig 1 { nodes := [{ id := 1, addr := "a:1", voter := true }] }) [] []).panicked =
  some "assert.appendEntry"

/-- NECESSITY (`replUpdates`: a newer term is not below the leader's): `storage.setTerm` asserts. NOT reachable:
a replication reports a term only when it is higher than the one it was started with. -/
example :
    ¬ ReqOk' false exL (.replUpdates [{ id := 2, upd := .newTerm 0 }]) ∧
    (exL.step (.replUpdates [{ id := 2, upd := .newTerm 0 }]) [] []).panicked = some "assert.setTerm" := by
  refine ⟨by decide, by decide⟩

/-- NECESSITY (`replUpdates`: match indexes within the leader's log): a quorum beyond the log makes `ViewAt` fail
(`C19Order.commit_beyond_log_panics`). NOT reachable: a follower acknowledges what it was sent. -/
example :
    let us : List ReplUpdate := [{ id := 2, upd := .matchIndex 9 }]
    let s : Node := exL.withLdr { exL.ldr with repls := [{ id := 2, node := { id := 2, addr := "b:1", voter := true }, matchIndex := 2 },
                                                         { id := 3, node := { id := 3, addr := "c:1", voter := false, action := actPromote }, matchIndex := 9 }] }
    ¬ ReqOk' false exL (.replUpdates us) ∧ ¬ (∀ r ∈ s.ldr.repls, r.matchIndex ≤ s.lastLogIndex) := by
  refine ⟨by decide, by decide⟩

/-- NECESSITY (`timeoutNowResult`: an error is reported for a node that has a replication): NOT reachable, the
request went to a replication's node and membership does not change during a transfer. -/
example :
    let s : Node := exL.withLdr { exL.ldr with transfer := { active := true, respPending := true } }
    ¬ ReqOk' false s (.timeoutNowResult 7 true 0) ∧
    (s.step (.timeoutNowResult 7 true 0) [] []).panicked = some "nil.onTimeoutNowResult" := by
  refine ⟨by decide, by decide⟩

/-- NECESSITY (`closed = ""`): after `Shutdown` the state loop has returned; `leader.release` has dropped the
replications while the role variable still says "leader". The model can be stepped further, the Go code
cannot: an election timeout of that closed "leader" dereferences a replication that is gone. -/
example : (exL.step .shutdown [] []).closed ≠ "" := C06Cache.shutdown_closes _ _ _

#guard ((exL.step .shutdown [] []).step .timeout [] []).panicked = some "nil.checkQuorum"

/-! ### necessity of the clauses of `Good` (beyond `Ordered` and the caches) -/

/-- a single-voter cluster whose configuration has NO anchor: the leader and the only other member, a non-voter,
are both marked for removal -/
def exNoAnchor : Node :=
  let n1 : CNode := { id := 1, addr := "a:1", voter := true, action := actRemove }
  let n2 : CNode := { id := 2, addr := "b:1", voter := false, action := actRemove }
  let c : Config := { nodes := [n1, n2], index := 1, term := 1 }
  { nid := 1, cid := 7, term := 1, durTerm := 1, role := .leader, leader := 1,
    log := { entries := [c.toEntry, { index := 2, term := 1, typ := etNop }], flushed := 2 },
    lastLogIndex := 2, lastLogTerm := 1, commitIndex := 2, fsm := { index := 2, term := 1, config := c },
    configs := { committed := c, latest := c },
    ldr := { node := n1, numVoters := 1, startIndex := 2, repls := [{ id := 2, node := n2, matchIndex := 0 }] } }

/-- NECESSITY (`CfgOk`: a configuration has an anchor, i.e. a voter without pending action): the non-voter
catches up; it is removed, the new configuration commits at once (single voter), the leader removes ITSELF, the
configuration is empty, and `majorityMatchIndex` indexes an empty slice. NOT reachable in a correct cluster:
`leader.onChangeConfig` demands a voter without action, and the leader's own machinery never touches one. -/
example :
    ¬ Anchored exNoAnchor.configs.latest ∧ SelfAct exNoAnchor.configs.latest 1 ∧
    ReqOk' false exNoAnchor (.replUpdates [{ id := 2, upd := .matchIndex 2 }]) ∧
    (exNoAnchor.step (.replUpdates [{ id := 2, upd := .matchIndex 2 }]) [] []).panicked = some "nil.majorityMatchIndex" := by
  refine ⟨by decide, by decide, by decide, by decide +kernel⟩

/-- NECESSITY (`Glob.cand`: a candidate is a voter): `candidate.startElection` asserts it. -/
example :
    let s : Node := { exF with role := .candidate, nid := 5 }
    s.configs.latest.isVoter s.nid = false ∧ (s.step .timeout [] []).panicked = some "assert.startElection" := by
  refine ⟨by decide, by decide⟩

/-- NECESSITY (`Glob.retain`): with `retain = 0` the snapshot just installed is deleted at once and the restore
cannot open it. NOT reachable: `Options.validate` demands `SnapshotsRetain ≥ 1`. -/
example :
    let s : Node := { exF with retain := 0 }
    let q : InstallReq := { term := 1, src := 2, lastIndex := 9, lastTerm := 1, lastConfig := exF.configs.latest }
    ReqOk' false s (.install q) ∧ (s.step (.install q) [] []).panicked = some "fsm.restoreOpen" := by
  refine ⟨by decide, by decide⟩

/-- NECESSITY (`LdrR.prevLe`, the F6 class): a leader whose compaction bound lies below the start of the log
cannot build the view `ViewAt(removeLTE, lastLogIndex)` for its replications. `onSnapshotTaken` (after F6's
repair) and `checkLogCompact` keep `log.prev ≤ ldr.removeLTE`. -/
example :
    let s : Node := { exL with log := { exL.log with prev := 1, entries := exL.log.entries.drop 1, segs := [1] },
                               snapIndex := 1, snapsDisk := [{ index := 1 }] }
    ¬ (s.log.prev ≤ s.ldr.removeLTE) ∧
    (s.step (.newEntries [{ typ := etUpdate, data := "y", task := 3 }]) [] []).panicked = some "nilView" := by
  refine ⟨by decide, by decide +kernel⟩

/-- NECESSITY (`LdrR.target`): a transfer to the leader itself dereferences a replication that does not exist.
NOT reachable: `validateTransfer` refuses the leader's own id. -/
example :
    let s : Node := exL.withLdr { exL.ldr with transfer := { active := true, target := 1, newTermTimer := true } }
    (s.step .newTermTimeout [] []).panicked = some "nil.tryTransfer" := by
  decide

/-- NECESSITY (`LdrR.queue`): a queue whose head is not beyond the applied index fails the FSM's
`assert(index == lastApplied + 1)` as soon as it is handed over. -/
example :
    let s : Node := exL.withLdr { exL.ldr with queue := [{ index := 2, term := 1, typ := etUpdate, data := "x", task := 9 }] }
    ReqOk' false s (.replUpdates [{ id := 2, upd := .matchIndex 3 }]) ∧
    ¬ (∃ n, s.fsm.index < n ∧ QChain n s.ldr.queue (s.lastLogIndex + 1)) := by
  refine ⟨by decide, ?_⟩
  rintro ⟨n, h0, h1, _⟩
  have h1' : 2 = n := h1
  have h0' : 2 < n := h0
  omega

#guard ((exL.withLdr { exL.ldr with queue := [{ index := 2, term := 1, typ := etUpdate, data := "x", task := 9 }] }).step
  (.replUpdates [{ id := 2, upd := .matchIndex 3 }]) [] []).panicked = some "fsm.assertNext"

/-- NECESSITY (`Glob.logDec`): an undecodable configuration entry in the log fails in the FSM goroutine
(`Config.decode` in `onApply`) when it is applied. -/
example :
    let s : Node := { exF with log := { exF.log with entries := exF.log.entries.take 2 ++ [{ index := 4, term := 1, typ := etConfig }] } }
    let q : AppendReq := { term := 1, src := 2, prevLogIndex := 4, prevLogTerm := 1, ldrCommitIndex := 4, entries := [] }
    ReqOk' false s (.append q) ∧ (s.step (.append q) [] []).panicked = some "fsm.configDecode" := by
  refine ⟨by decide, by decide⟩

/-! ### the model's recursion budget -/

/-- a single-voter leader with `k` non-voters, all marked `ForceRemove` -/
def exFuel (k : Nat) : Node :=
  let others : List CNode := (List.range k).map (fun i => { id := i + 2, addr := "h:1", voter := false, action := actForceRemove })
  let c : Config := { nodes := { id := 1, addr := "a:1", voter := true } :: others, index := 1, term := 1 }
  { nid := 1, cid := 7, term := 1, durTerm := 1, role := .leader, leader := 1,
    log := { entries := [c.toEntry, { index := 2, term := 1, typ := etNop }], flushed := 2 },
    lastLogIndex := 2, lastLogTerm := 1, commitIndex := 2, fsm := { index := 2, term := 1, config := c },
    configs := { committed := c, latest := c },
    ldr := { node := { id := 1, addr := "a:1", voter := true }, numVoters := 1, startIndex := 2,
             repls := others.map (fun n => { id := n.id, node := n, matchIndex := 2 }) } }

/-- **the model's budget can run out** (`#eval` below: `[none, some "fuel"]` for `k = 10, 11`): a single-voter
leader removes one non-voter, the new configuration commits at once (fast path), which triggers the next removal
INSIDE `setCommitIndex`, … — every nested change costs 6 units of the budget `fuelFor 0 = 64`; ten nest, eleven
do not. The Go code has no budget (the recursion is as deep as there are pending changes): this is a limit of
the model, stated as the hypothesis `panicked ≠ some "fuel"` of `good_step`. It needs more than ten membership
changes that are executed AND committed within one iteration of the state loop, which only a single-voter
cluster can do. -/
example : ((exFuel 3).step (.replUpdates [{ id := 2, upd := .matchIndex 2 }]) [] []).panicked = none ∧
    ((exFuel 3).step (.replUpdates [{ id := 2, upd := .matchIndex 2 }]) [] []).configs.latest.nodes.length = 1 := by
  refine ⟨by decide +kernel, by decide +kernel⟩

#guard ((exFuel 10).step (.replUpdates [{ id := 2, upd := .matchIndex 2 }]) [] []).panicked = none
#guard ((exFuel 11).step (.replUpdates [{ id := 2, upd := .matchIndex 2 }]) [] []).panicked = some "fuel"

end C15NoPanic
end Raft

#print axioms Raft.C15NoPanic.step_never_fails
#print axioms Raft.C15NoPanic.good_step
#print axioms Raft.C15NoPanic.good_step_noPanic
#print axioms Raft.C15NoPanic.good_step_two
#print axioms Raft.C15NoPanic.shutdown_good
#print axioms Raft.C15NoPanic.good_run
#print axioms Raft.C15NoPanic.good_run_prefix
#print axioms Raft.C15NoPanic.good_run_two
#print axioms Raft.C15NoPanic.restart_good
#print axioms Raft.C15NoPanic.checkConfigActions_unreachable
#print axioms Raft.C15NoPanic.exL_good
#print axioms Raft.C15NoPanic.exF_good
#print axioms Raft.NoPanic.block
#print axioms Raft.NoPanic.fsmApply_chain
#print axioms Raft.NoPanic.handle_post
#print axioms Raft.NoPanic.settle_post
#print axioms Raft.NoPanic.step_goodF
