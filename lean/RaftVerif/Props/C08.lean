/-
C08 — Membership changes preserve safety (node-local part).

Proved for ALL inputs (any latest configuration, any submitted configuration, any replication status,
any value of the timing bit):
* every configuration the leader derives differs from its predecessor by at most one voter and keeps a
  voter that is not leaving (`actionConfig_adjacent`, `actionConfig_keeps_voter`, `selfAction_*`);
* nothing is appended unless `canChangeConfig` = previous configuration committed ∧ an entry of the
  leader's own term committed ∧ no transfer in progress (`no_append_unless_canChangeConfig`);
* a rejected ChangeConfig request has no effect (`onChangeConfig_rejections`).
Election safety / commit stability across configurations (the cluster-level clause) are C01/C02.
-/
import RaftVerif.Lemmas.StepInv
import RaftVerif.Lemmas.ShapeLeader
import RaftVerif.Lemmas.ShapeConfig

namespace Raft
namespace C08
open Node

/-- voting rights agree everywhere except possibly at one node id -/
def AdjacentVoters (c c' : Config) : Prop := ∃ id, ∀ x, x ≠ id → c'.isVoter x = c.isVoter x

theorem find_insertSorted_ne (m : CNode) (l : List CNode) (x : Nat) (h : x ≠ m.id) :
    (Config.insertSorted m l).find? (·.id == x) = l.find? (·.id == x) := Config.find_insertSorted_ne m l x h

theorem find_filter_ne (l : List CNode) (id x : Nat) (h : x ≠ id) :
    (l.filter (·.id != id)).find? (·.id == x) = l.find? (·.id == x) := Config.find_filter_ne l id x h

/-- **one voter at a time**: whatever `checkConfigAction` proposes for node `n` differs from the
configuration it was derived from at most in the voting right of `n`. -/
theorem actionConfig_adjacent (latestIndex : Nat) (config : Config) (n : CNode) (action : Nat) (st : Repl)
    (c' : Config) (h : actionConfig latestIndex config n action st = some c') :
    AdjacentVoters config c' := by
  refine ⟨n.id, fun x hx => ?_⟩
  unfold actionConfig at h
  repeat' (split at h)
  all_goals first
    | (injection h with h; subst h; first | exact Config.isVoter_set_ne _ _ _ hx | exact Config.isVoter_erase_ne _ _ _ hx)
    | cases h

/-- the same for the leader acting on itself (`checkConfigActions`, Demote / Remove / ForceRemove of self) -/
theorem selfAction_adjacent (config : Config) (n : CNode) :
    AdjacentVoters config (config.set { n with voter := false, action := actNone }) ∧
    AdjacentVoters config (config.erase n.id) :=
  ⟨⟨n.id, fun _ hx => Config.isVoter_set_ne _ _ _ hx⟩, ⟨n.id, fun _ hx => Config.isVoter_erase_ne _ _ _ hx⟩⟩

/-- **a voter always remains**: a voter that is not the subject of the action keeps its vote. In
particular, if the configuration has a voter without pending action (what `onChangeConfig` demands
of every submitted configuration), the derived configuration still has that voter. -/
theorem actionConfig_keeps_voter (latestIndex : Nat) (config : Config) (n : CNode) (action : Nat) (st : Repl)
    (c' : Config) (h : actionConfig latestIndex config n action st = some c')
    (v : Nat) (hv : config.isVoter v = true) (hne : v ≠ n.id) : c'.isVoter v = true := by
  unfold actionConfig at h
  repeat' (split at h)
  all_goals first
    | (injection h with h; subst h
       first
        | (refine Eq.trans (Config.isVoter_set_ne _ _ _ ?_) hv; exact hne)
        | (refine Eq.trans (Config.isVoter_erase_ne _ _ _ ?_) hv; exact hne))
    | cases h

/-! ### the append guard -/

theorem canChangeConfig_setRepl (s : Node) (r : Repl) : (s.setRepl r).canChangeConfig = s.canChangeConfig := rfl

/-- while the configuration cannot be changed, `checkConfigAction` at most notes a round -/
theorem checkConfigAction_blocked (f : Nat) (s : Node) (t : Nat) (c : Config) (id : Nat) (h : s.canChangeConfig = false) :
    checkConfigAction f s t c id = s ∨ (∃ r, checkConfigAction f s t c id = s.setRepl r) ∨
      checkConfigAction f s t c id = s.panic "fuel" := by
  cases f with
  | zero => exact Or.inr (Or.inr (by unfold checkConfigAction; rfl))
  | succ n =>
    unfold checkConfigAction
    dsimp only
    split
    · exact Or.inl rfl
    · split
      · exact Or.inl rfl
      · split
        · exact Or.inr (Or.inl ⟨_, rfl⟩)
        · rw [if_pos (by rw [canChangeConfig_setRepl, h]; rfl)]
          exact Or.inr (Or.inl ⟨_, rfl⟩)

/-- … and `checkConfigActions` skips the leader's own action -/
theorem checkConfigActions_blocked (n : Nat) (s : Node) (t : Nat) (c : Config) (h : s.canChangeConfig = false) :
    checkConfigActions (n + 1) s t c = s.replOrder.foldl (fun x id =>
      match x.findRepl? id with
      | some _ => checkConfigAction n x t c id
      | none => x) s.popOrder := by
  unfold checkConfigActions
  extract_lets nd cd ce r
  have hr : r = (s, c) := by
    unfold r
    rw [if_neg (by rw [h]; exact fun e => Bool.noConfusion e.1)]
  rw [hr]
  rfl

/-- under a stable configuration `checkConfigAction` does nothing … -/
theorem checkConfigAction_stable (n : Nat) (s : Node) (task : Nat) (c : Config) (id : Nat) (h : c.isStable = true) :
    checkConfigAction (n + 1) s task c id = s := by
  unfold checkConfigAction
  split
  · rfl
  · dsimp only
    rw [if_pos (c.nextAction_of_stable id h)]

/-- … and `checkConfigActions` only pops the order of the round -/
theorem checkConfigActions_stable (n : Nat) (s : Node) (task : Nat) (c : Config) (h : c.isStable = true) :
    checkConfigActions (n + 2) s task c = s.popOrder := by
  unfold checkConfigActions
  dsimp only
  rw [if_neg (by rw [c.get_action_of_stable s.nid h]; exact fun e => e.2 rfl)]
  dsimp only
  generalize s.replOrder = xs
  generalize s.popOrder = x
  induction xs generalizing x with
  | nil => rfl
  | cons a as ih =>
    rw [List.foldl_cons]
    split
    · rw [checkConfigAction_stable n x task c a h]; exact ih x
    · exact ih x

/-- `checkConfigAction` appends nothing unless `canChangeConfig` holds. -/
theorem checkConfigAction_no_append (fuel : Nat) (s : Node) (task : Nat) (config : Config) (id : Nat)
    (h : s.canChangeConfig = false) :
    (checkConfigAction fuel s task config id).log = s.log ∧
    (checkConfigAction fuel s task config id).canChangeConfig = false ∧
    (checkConfigAction fuel s task config id).nid = s.nid := by
  rcases checkConfigAction_blocked fuel s task config id h with e | ⟨r, e⟩ | e <;> rw [e]
  · exact ⟨rfl, h, rfl⟩
  · exact ⟨rfl, h, rfl⟩
  · rw [panic_shape]; exact ⟨rfl, h, rfl⟩

/-- **the guard**: when `canChangeConfig` is false — the previous configuration is not committed, or
the leader has not committed an entry of its own term, or a transfer is in progress — `checkConfigActions`
(called from leader.init, commit, replication updates, transfer timeout) appends nothing. -/
theorem no_append_unless_canChangeConfig (fuel : Nat) (s : Node) (task : Nat) (config : Config)
    (h : s.canChangeConfig = false) :
    (checkConfigActions fuel s task config).log = s.log := by
  cases fuel with
  | zero =>
    unfold checkConfigActions Node.panic; split <;> rfl
  | succ n =>
    unfold checkConfigActions
    dsimp only
    rw [if_neg (by rw [h]; simp)]
    dsimp only
    have key : ∀ (ids : List Nat) (x : Node), x.canChangeConfig = false →
        (ids.foldl (fun s id => match s.findRepl? id with
            | some _ => checkConfigAction n s task config id
            | none => s) x).log = x.log := by
      intro ids
      induction ids with
      | nil => intro x _; rfl
      | cons i is ih =>
        intro x hx
        simp only [List.foldl]
        split
        · obtain ⟨a, b, _⟩ := checkConfigAction_no_append n x task config i hx
          rw [ih _ b, a]
        · exact ih _ hx
    exact key _ s.popOrder h

/-- what `canChangeConfig` means -/
theorem canChangeConfig_iff (s : Node) :
    s.canChangeConfig = true ↔
      (s.configs.latest.index = s.configs.committed.index ∧ s.ldr.transfer.active = false ∧
       s.commitIndex ≥ s.ldr.startIndex) := by
  unfold Node.canChangeConfig Configs.isCommitted
  simp [Bool.and_eq_true]
  constructor
  · intro ⟨⟨a, b⟩, c⟩; exact ⟨a, b, c⟩
  · intro ⟨a, b, c⟩; exact ⟨⟨a, b⟩, c⟩

/-! ### rejected requests have no effect -/

/-- every rejection path of `onChangeConfig` only replies -/
theorem onChangeConfig_rejections (s : Node) (task : Nat) (c : Config)
    (h : ¬ s.configs.isCommitted = true ∨ s.commitIndex < s.ldr.startIndex ∨
         c.index ≠ s.configs.latest.index ∨ configValid c = false) :
    ∃ r, s.onChangeConfig task c = s.reply task r :=
  Node.onChangeConfig_rejected s task c fun ad =>
    h.elim (absurd ad.committed) fun h => h.elim ad.ready fun h => h.elim (absurd ad.index) fun h =>
      Bool.noConfusion (ad.valid.symm.trans h)

end C08
end Raft

#print axioms Raft.C08.actionConfig_adjacent
#print axioms Raft.C08.selfAction_adjacent
#print axioms Raft.C08.actionConfig_keeps_voter
#print axioms Raft.C08.checkConfigAction_no_append
#print axioms Raft.C08.no_append_unless_canChangeConfig
#print axioms Raft.C08.canChangeConfig_iff
#print axioms Raft.C08.onChangeConfig_rejections
