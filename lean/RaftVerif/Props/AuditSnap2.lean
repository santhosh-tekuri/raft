/-
AUDIT of the theorems over `Raft.Snap2` (Sys/Snap2.lean, Props/C09Sys2.lean — snapshots AND compaction, stage 2).

Props/C09Sys2.lean proves reachable only a state in which a snapshot was REFUSED; the scenario with a real compaction is
evaluated there (`#guard`) without checking the enabling conditions and the side conditions `Side2` (segment lists well
formed, no log compacted exactly up to its snapshot index, configuration entries of the virtual logs decode) on its
states.  Here that scenario is PROVED to be a run of `Raft.Snap2`: node 1 is elected (its first entry starts a new log
segment), commits its no-op, takes a snapshot at index 2, `onSnapshotTaken` COMPACTS its log (`log.prev = 1`), the leader
goes on on the compacted log (accepts, replicates — `Trans.send` with `ReadFrom2` — and commits a client update), dies
and restarts from the compacted log and the snapshot file.
-/
import RaftVerif.Props.AuditSnap
import RaftVerif.Props.C09Sys2

namespace Raft
namespace AuditSnap2
open Node LogRel C02Sys Snap Snap2 SnapRelU SnapSim AuditSnap
open Election (setNode setNode_same setNode_other)
open C07Sys (altPost replUpdates_step_alt)

/-- `Snap2.stepS` with the post-state of the acting node as a parameter -/
def stepSP (x : Snap2.Sys) (i : Nat) (op : Op) (src : Nat) (post : Node) : Snap2.Sys :=
  { cs := withNodes (stepL (view x).cs i op src (U (newBase x i post.log.prev) post))
      (setNode x.cs.rp.el.node i post)
    snaps := newSnaps i (x.node i).snapsDisk post.snapsDisk ++ x.snaps
    base := setBase x.base i (newBase x i post.log.prev) }

theorem stepS_eq (x : Snap2.Sys) (i : Nat) (op : Op) (ra : List Nat) (ord : List (List Nat)) (src : Nat) :
    stepS x i op ra ord src = stepSP x i op src ((x.node i).step op ra ord) := rfl

/-- what has to be checked of the node that acted (`β`: what is compacted away from its log) -/
def NodeSide2 (V : List Nat) (β : List Entry) (n : Node) : Prop :=
  n.configs.isBootstrapped = true ∧ n.configs.latest.voters = V ∧ n.configs.latest.isStable = true ∧
  (∀ e ∈ (uncLog β n.log).entries, e.typ = etConfig → e.cfg.isSome = true) ∧
  (n.log.segs.Pairwise (· < ·) ∧ n.log.segs.head? = some n.log.prev ∧ ∀ x ∈ n.log.segs, x ≤ n.log.last) ∧
  (n.log.prev = 0 ∨ n.log.prev ≠ n.snapIndex)

instance (V : List Nat) (β : List Entry) (n : Node) : Decidable (NodeSide2 V β n) := by
  unfold NodeSide2; infer_instance

theorem side2_set {V : List Nat} (x y : Snap2.Sys) (i : Nat) (n : Node) (β : List Entry) (hs : Side2 V x)
    (hy : y.cs.rp.el.node = setNode x.cs.rp.el.node i n) (hb : y.base = setBase x.base i β)
    (hn : NodeSide2 V β n) : Side2 V y := by
  have hnode : ∀ j, y.node j = setNode x.cs.rp.el.node i n j := fun j => by
    show y.cs.rp.el.node j = _; rw [hy]
  have key : ∀ j, NodeSide2 V (y.base j) (y.node j) := by
    intro j
    rw [hnode j, hb]
    by_cases hj : j = i
    · subst hj
      rw [setNode_same]
      unfold setBase; rw [if_pos rfl]; exact hn
    · rw [setNode_other _ _ _ _ hj]
      unfold setBase; rw [if_neg hj]
      exact ⟨(hs.sideV.1 j).1, (hs.sideV.1 j).2, hs.sideV.2 j, hs.dec j,
        ⟨(hs.segs j).sorted, (hs.segs j).head, (hs.segs j).le_last⟩, hs.gap j⟩
  exact ⟨⟨fun j => ⟨(key j).1, (key j).2.1⟩, fun j => (key j).2.2.1⟩, fun j => (key j).2.2.2.1,
    fun j => ⟨(key j).2.2.2.2.1.1, (key j).2.2.2.2.1.2.1, (key j).2.2.2.2.1.2.2⟩, fun j => (key j).2.2.2.2.2⟩

/-- a reachable state with its side conditions -/
def R2 (V : List Nat) (x : Snap2.Sys) : Prop := Reachable2 V x ∧ Side2 V x

def sendS2 (x : Snap2.Sys) (q : AppendReq) : Snap2.Sys := { x with cs := sendC x.cs q }

/-! ### witness runs of `Raft.Snap2` as checked scripts (`Lemmas/Script.lean`) -/

open C07Sys (MajIs majIs_sound rebornOf)

inductive ActS2
  /-- node `i` handles `op` to completion with the oracle `ra` (`src`: the sender of a vote response) -/
  | step (i : Nat) (op : Op) (ra : List Nat) (src : Nat)
  /-- the leader `i` handles the reports `us`; `v` is the majority match index it computes -/
  | commit (i : Nat) (us : List ReplUpdate) (v : Nat)
  /-- node `i` dies while handling `op`, after `k` storage points, and restarts (retain 1, `sor`) -/
  | crash (i : Nat) (op : Op) (src k : Nat)
  /-- the leader `i` puts `q`, read from what is left of its log, on the wire; it carries `n` entries -/
  | send (i : Nat) (q : AppendReq) (n : Nat)

def ActS2.next (x : Snap2.Sys) : ActS2 → Snap2.Sys
  | .step i op ra src => stepS x i op ra [] src
  | .commit i us v => stepSP x i (.replUpdates us) 0 (altPost (x.node i) us v)
  | .crash i op _ k => crashS x i op (rebornOf (x.node i) op k)
  | .send _ q _ => sendS2 x q

/-- what `Snap2.Trans` and `Side2 V` ask of an action, decidably -/
def ActS2.OK (V : List Nat) (x : Snap2.Sys) : ActS2 → Prop
  | .step i op ra src => i ≠ 0 ∧ EnabledAtS x.cs i src op ∧ ((x.node i).step op ra []).panicked = none ∧
      NodeSide2 V (newBase x i ((x.node i).step op ra []).log.prev) ((x.node i).step op ra [])
  | .commit i us v => i ≠ 0 ∧ EnabledAtS x.cs i 0 (.replUpdates us) ∧ (x.node i).role = .leader ∧
      MajIs (replUpdLoop ((x.node i).begin [] []) {} us).1 v ∧ (altPost (x.node i) us v).panicked = none ∧
      NodeSide2 V (newBase x i (altPost (x.node i) us v).log.prev) (altPost (x.node i) us v)
  | .crash i op src k => i ≠ 0 ∧ EnabledAtS x.cs i src op ∧ ((x.node i).step op [] []).panicked = none ∧
      (Node.restart (C05.crashDisk (x.node i) op [] [] k) 1 true).isSome = true ∧
      NodeSide2 V (newBase x i (rebornOf (x.node i) op k).log.prev) (rebornOf (x.node i) op k)
  | .send i q n => i ≠ 0 ∧ (x.node i).role = .leader ∧ q.term = (x.vnode i).term ∧ q.src = (x.vnode i).nid ∧
      q.prevLogIndex ≤ (x.vnode i).log.entries.length ∧
      q.prevLogTerm = termAt (x.vnode i).log.entries q.prevLogIndex ∧
      q.entries = ((x.vnode i).log.entries.drop q.prevLogIndex).take n ∧ (x.node i).log.prev ≤ q.prevLogIndex ∧
      q.ldrCommitIndex ≤ (x.node i).commitIndex

instance (V : List Nat) (x : Snap2.Sys) (a : ActS2) : Decidable (a.OK V x) := by
  cases a <;> unfold ActS2.OK <;> infer_instance

theorem ActS2.commit_step {V : List Nat} {x : Snap2.Sys} {i : Nat} {us : List ReplUpdate} {v : Nat}
    (h : (ActS2.commit i us v).OK V x) : (x.node i).step (.replUpdates us) [] [] = altPost (x.node i) us v :=
  replUpdates_step_alt (x.node i) us v h.2.2.1 (majIs_sound h.2.2.2.1)

theorem r2_act {V : List Nat} {x : Snap2.Sys} (hx : R2 V x) (a : ActS2) (h : a.OK V x) : R2 V (a.next x) := by
  cases a with
  | step i op ra src =>
    have hs : Side2 V (stepS x i op ra [] src) := side2_set x _ i _ _ hx.2 rfl rfl h.2.2.2
    exact ⟨.next x _ hx.1 (.step i op ra [] src (enabledS_at h.1 h.2.1) h.2.2.1) hs, hs⟩
  | commit i us v =>
    have e := ActS2.commit_step h
    have hs : Side2 V (stepS x i (.replUpdates us) [] [] 0) :=
      side2_set x _ i _ _ hx.2 rfl rfl (by rw [e]; exact h.2.2.2.2.2)
    have : R2 V (stepS x i (.replUpdates us) [] [] 0) :=
      ⟨.next x _ hx.1 (.step i (.replUpdates us) [] [] 0 (enabledS_at h.1 h.2.1) (by rw [e]; exact h.2.2.2.2.1)) hs, hs⟩
    rwa [stepS_eq, e] at this
  | crash i op src k =>
    have hs : Side2 V (crashS x i op (rebornOf (x.node i) op k)) := side2_set x _ i _ _ hx.2 rfl rfl h.2.2.2.2
    exact ⟨.next x _ hx.1 (.crash i op [] [] src k 1 true _ (enabledS_at h.1 h.2.1) (Nat.le_refl _) h.2.2.1
      (C07Sys.restart_getD h.2.2.2.1)) hs, hs⟩
  | send i q n =>
    obtain ⟨hi, hl, h1, h2, h3, h4, h5, h6, hc⟩ := h
    have hs : Side2 V (sendS2 x q) := ⟨hx.2.sideV, hx.2.dec, hx.2.segs, hx.2.gap⟩
    exact ⟨.next x _ hx.1 (.send i q hi hl ⟨⟨h1, h2, h3, h4, n, h5⟩, h6⟩ hc) hs, hs⟩

abbrev Checked2 (V : List Nat) (x : Snap2.Sys) (as : List ActS2) : Prop :=
  Script.Checked (fun x a => ActS2.next x a) (fun x a => ActS2.OK V x a) x as

theorem r2_run {V : List Nat} (as : List ActS2) {x : Snap2.Sys} (hx : R2 V x) (h : Checked2 V x as) :
    R2 V (Script.run (fun x a => ActS2.next x a) x as) :=
  Script.sound (Inv := R2 V) (fun _ a hx h => r2_act hx a h) as hx h

/-! ### the run (the states `exY0 … exY6` are those of Props/C09Sys2.lean) -/

open C09Sys2

theorem c0 : R2 [1, 2, 3] exY0 := by
  have s0 : Side2 [1, 2, 3] exY0 := exSide2 _ (C04Sys.exNode 2) rfl rfl (by
    show C04Sys.exNode = _
    funext j; unfold setNode; split
    · rename_i h; rw [h]
    · rfl)
  exact ⟨.init _ exY0_init s0, s0⟩

abbrev yVote : VoteReq := { term := 2, src := 1, lastLogIndex := 1, lastLogTerm := 1 }

abbrev yUpd (v : Nat) : List ReplUpdate := [{ id := 2, upd := .matchIndex v }, { id := 3, upd := .matchIndex v }]

/-- the leader commits its no-op (index 2); the commit step is rewritten (`replUpdates_step_alt`: `List.mergeSort`
does not reduce in the kernel) -/
def y7 : Snap2.Sys := stepSP exY6 1 (.replUpdates (yUpd 2)) 0 (altPost (exY6.node 1) (yUpd 2) 2)

/-- node 1 is asked for a snapshot; the goroutine writes the file (2, 2, []); `onSnapshotTaken` COMPACTS the log up to
the segment boundary 1 -/
def y8 : Snap2.Sys := stepS y7 1 (.takeSnapshot 9 0) [] [] 0
def y9 : Snap2.Sys := stepS y8 1 .snapRun [] [] 0
def y10 : Snap2.Sys := stepS y9 1 .snapTaken [] [] 0

abbrev yBatch : List QItem := [{ typ := etUpdate, data := "a", task := 7 }]

/-- the leader goes on on the compacted log: a client update (index 3) … -/
def y11 : Snap2.Sys := stepS y10 1 (.newEntries yBatch) [] [] 0
/-- … read from the part of the log that is still there (`prevLogIndex = 2 ≥ log.prev = 1`) … -/
def yReq2 : AppendReq :=
  { term := 2, src := 1, prevLogIndex := 2, prevLogTerm := 2, entries := (y11.vnode 1).log.entries.drop 2,
    ldrCommitIndex := 2 }
def y12 : Snap2.Sys := sendS2 y11 yReq2
/-- … replicated to node 2 … -/
def y13 : Snap2.Sys := stepS y12 2 (.append yReq2) [] [] 0
abbrev yUpd1 : List ReplUpdate := [{ id := 2, upd := .matchIndex 3 }]
/-- … and committed -/
def y14 : Snap2.Sys := stepSP y13 1 (.replUpdates yUpd1) 0 (altPost (y13.node 1) yUpd1 3)

/-- node 1 dies between two steps and restarts from its COMPACTED log and its snapshot file -/
def k1 : Node := (Node.restart (C05.crashDisk (y14.node 1) .timeout [] [] 0) 1 true).getD {}
def y15 : Snap2.Sys := crashS y14 1 .timeout k1

/-- the run `exY0 → y15` -/
def scriptY : List ActS2 :=
  [.step 1 .timeout [] 0, .step 2 (.vote yVote) [] 0, .step 1 (.voteResult false 2 rSuccess) [1] 2,
   .send 1 exYReq 1, .step 2 (.append exYReq) [] 0, .step 3 (.append exYReq) [] 0, .commit 1 (yUpd 2) 2,
   .step 1 (.takeSnapshot 9 0) [] 0, .step 1 .snapRun [] 0, .step 1 .snapTaken [] 0,
   .step 1 (.newEntries yBatch) [] 0, .send 1 yReq2 1, .step 2 (.append yReq2) [] 0, .commit 1 yUpd1 3,
   .crash 1 .timeout 0 0]

theorem checkedY : Checked2 [1, 2, 3] exY0 scriptY := by decide +kernel

theorem c15 : R2 [1, 2, 3] y15 := r2_run scriptY c0 checkedY

/-- WITNESS S2 (`Raft.Snap2`): facts about the run. `y10`: the leader's log is compacted (`log.prev = 1`, below
`snapIndex = 2`), the removed entry is in `base`; `y14`: on the compacted log the leader has accepted, replicated and
committed the update "a" (commit index 3, applied ["a"]), node 2 holds 3 entries and node 1's `Log.Get 1` fails;
`y15`: node 1 restarted from the compacted log (first index 1, entries 2 and 3) and the snapshot (commit index =
applied index = 2), nothing failed. -/
theorem runS2_facts :
    ((y10.node 1).log.prev = 1 ∧ (y10.node 1).snapIndex = 2 ∧ (y10.node 1).log.segs = [1] ∧
      (y10.base 1).map (fun e => (e.index, e.term)) = [(1, 1)] ∧ (y10.node 1).role = .leader) ∧
    ((y14.node 1).commitIndex = 3 ∧ (y14.node 1).fsm.applied = ["a"] ∧ (y14.node 2).log.entries.length = 3 ∧
      (y14.node 1).log.get? 1 = none ∧ y14.cs.committed = [(3, 2), (2, 2)]) ∧
    ((y15.node 1).log.prev = 1 ∧ (y15.node 1).log.entries.map (fun e => (e.index, e.term, e.data)) =
        [(2, 2, ""), (3, 2, "a")] ∧ (y15.node 1).snapIndex = 2 ∧ (y15.node 1).commitIndex = 2 ∧
      (y15.node 1).fsm.index = 2 ∧ (y15.node 1).role = .follower ∧ (y15.node 1).panicked = none) := by
  decide +kernel

end AuditSnap2
end Raft

#print axioms Raft.AuditSnap2.c15
#print axioms Raft.AuditSnap2.runS2_facts
