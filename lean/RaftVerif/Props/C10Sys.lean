/-
C10 on the cluster-level transition system — **a node process that dies at any instant, between any two storage
operations, and is restarted on the same storage directory starts successfully, with a term and vote no older than
any it had acknowledged and with every log entry it had acknowledged as stored; its log is contiguous with its
snapshot; and the cluster it rejoins still satisfies C01–C04.**

The system: `SysInv.ReachableG` (Lemmas/SysInv.lean, Props/C19Sys.lean) — `Raft.Commit` of Sys/Commit.lean (any node
handles any enabled operation with any content and oracle, dies at ANY storage point of such a step — `Trans.crash`,
crash point `k` of `C05.crashDisk` — and restarts from what is on disk; a leader puts requests read from its log on
the wire) with the environment assumptions `EnabledG`, closed nodes frozen, `SideG` (`SnapshotsRetain ≥ 1`) and a
good initial state. **Restrictions (`_partial`), as in C19Sys**: fixed voter set `V`, fixed stable configuration
(`SideV`), no snapshots / log compaction, no configuration change (`OpOK2`).

Proved (see the doc comments): `restart_succeeds_sys_partial` (one more explicit assumption: the node has a cluster id,
`cid ≠ 0`, without which `Raft.New` refuses to start — `cid_run`: the id never changes),
`restart_keeps_acknowledged_vote_partial`, `restart_keeps_acknowledged_entries_partial` (with the exception of
`C06Sys.acknowledged_durable_until_overwritten_partial`: a later leader overwrote the entry) and
`restart_keeps_committed_acknowledged_partial` (no exception), `rejoin_preserves_safety_partial` (`Safe`,
`safe_of_reachable`).
NOT covered here: crashes while a snapshot is taken / installed or the log is compacted (node level: Props/C10.lean),
membership changes, liveness ("converges"; C17).
-/
import RaftVerif.Lemmas.SysMore

namespace Raft
namespace C10Sys
open LogRel CommitRel Commit C02Sys NoPanic SysInv SysMore

theorem runG_mono {V : List Nat} {x y : Commit.Sys} (h : RunG V x y) :
    (∀ e ∈ x.rp.el.won, e ∈ y.rp.el.won) ∧ (∀ g ∈ x.rp.el.grants, g ∈ y.rp.el.grants) ∧
    (∀ a ∈ x.acks, a ∈ y.acks) ∧ (∀ m ∈ x.committed, m ∈ y.committed) ∧ (∀ c ∈ x.T, c ∈ y.T) :=
  have g := runG_grows h
  ⟨g.won, g.grants, g.acks, g.committed, g.T⟩

/-- the cluster id of a node never changes along a transition … -/
theorem cid_trans {x y : Commit.Sys} (h : TransG x y) (j : Nat) : (y.node j).cid = (x.node j).cid :=
  (transG_move h j).keeps (P := fun s => s.cid = (x.node j).cid) rfl (fun _ _ _ _ => step_cid _ _ _ _)
    (fun _ _ _ _ _ _ _ hn => by rw [restart_cid _ _ _ _ hn, crashDisk_cid])

/-- … or a run (through crashes and restarts): the assumption `cid ≠ 0` of `restart_succeeds_sys_partial` is one on
the initial state only -/
theorem cid_run {V : List Nat} {x y : Commit.Sys} (h : RunG V x y) (j : Nat) : (y.node j).cid = (x.node j).cid :=
  (runG_run h).rel (r := fun x y => (y.node j).cid = (x.node j).cid) (fun _ => rfl)
    (fun _ _ _ a b => by rw [b, a]) (fun _ _ t => cid_trans t j)

/-! ### the restart succeeds -/

/-- **C10 (1), a restart after a crash at any point succeeds (partial: the restrictions of the file header).** Let
`V` be a duplicate-free list of node ids, `x` a state reachable in the cluster system (`SysInv.ReachableG`), `i` a
node that has a cluster id (`cid ≠ 0`), `op` ANY operation that may be delivered to `i` in `x` (`Commit.Enabled`,
`EnabledG`) handled with ANY oracle `ra`, `ord`, and `k` ANY crash point of that step — the process dies after `k`
storage operations (`k = 0`: before the step; beyond the last one: after it) — `hopen`: an open node, or any node
between two steps. Restart it on what is then on disk (`C05.crashDisk`) with any options (`retain ≥ 1`, `sor`). Then
there is a node `n` with `Node.restart … = some n` (the restart does not fail) and
* `n` is good (`NoPanic.Good true`: nothing failed, ordered, caches current), in particular
  `n.log.prev ≤ n.snapIndex ≤ n.lastLogIndex = n.log.last`: the log is contiguous with the snapshot;
* `n` is a follower with node id `i` and the cluster id it had;
* `n.term`, `n.votedFor` are the durable pair found on disk, memory = disk (`C05.VoteWF`), and that pair is a legal
  successor of the pair the step started from (`C05.VoteStep`: the term did not decrease; a vote cast in that term
  is kept);
* `n`'s log is what was on disk, completely flushed. -/
theorem restart_succeeds_sys_partial (V : List Nat) (hV : V.Nodup) (x : Commit.Sys) (h : ReachableG V x)
    (i : Nat) (op : Op) (ra : List Nat) (ord : List (List Nat)) (src : Nat) (he : Commit.Enabled x i op src)
    (heG : EnabledG x i op) (k : Nat) (hopen : (x.node i).closed = "" ∨ k = 0) (hcid : (x.node i).cid ≠ 0)
    (retain : Nat) (hret : 1 ≤ retain) (sor : Bool) :
    ∃ n, Node.restart (C05.crashDisk (x.node i) op ra ord k) retain sor = some n ∧
      (Good true n ∧ n.panicked = none ∧ Order.Ordered n) ∧
      (n.log.prev ≤ n.snapIndex ∧ n.snapIndex ≤ n.lastLogIndex ∧ n.lastLogIndex = n.log.last) ∧
      (n.role = .follower ∧ n.nid = i ∧ n.cid = (x.node i).cid) ∧
      (n.term = (C05.crashDisk (x.node i) op ra ord k).term ∧
        n.votedFor = (C05.crashDisk (x.node i) op ra ord k).vote ∧ C05.VoteWF n ∧ C05.VoteStep (x.node i) n) ∧
      (n.log.entries = (C05.crashDisk (x.node i) op ra ord k).log.entries ∧
        n.log.flushed = n.log.entries.length) := by
  have hG := ginv_reachable hV h
  have hR := reachableG_V h
  obtain ⟨hI, hS⟩ := inv_reachable hV hR
  have sc : SC V x i op ra ord src := ⟨hV, hI, hS, he⟩
  obtain ⟨n, hn⟩ := crash_restart_some sc hR hG heG k hopen hcid retain sor
  have cc : CC V x i op ra ord src k retain sor n := ⟨sc, hn⟩
  have hgood : Good true n := by
    have := (cc_ginv cc hR hG heG hopen hret).good i
    rwa [cc.node_i] at this
  obtain ⟨f1, f2, f3, f4, _, _, f7, _, f9⟩ := cc.facts
  obtain ⟨_, _, o3, o4, _, o6, _, _⟩ := C19Order.ordered_chain _ hgood.ordered
  have hnid : n.nid = i := by
    rw [(Election.restart_role_nid _ _ _ _ hn).2, Election.crashDisk_nid]; exact (hI.rp.el.ids i).1
  have hvs : C05.VoteStep (x.node i) n := by
    have hd := Election.crashDisk_durStep (x.node i) op ra ord k (hI.rp.el.ids i).2
    unfold C05.VoteStep; rw [f1, f2]; exact hd
  exact ⟨n, hn, ⟨hgood, hgood.noPanic, hgood.ordered⟩, ⟨o4, o6, o3⟩,
    ⟨f4, hnid, by rw [restart_cid _ _ _ _ hn, crashDisk_cid]⟩, ⟨f1, f2, f3, hvs⟩, ⟨f9, f7⟩⟩

/-! ### acknowledged votes -/

/-- **C10 (2), the restarted node reports a term and vote no older than any it had acknowledged (partial; same
restrictions).** Let `x` be reachable and `g = (voter, term, cand)` any entry of the ledger `grants` of `x` — the
voter answered `success` to a vote request of `cand` for `term`, or voted for itself in `term` — and let `y` be any
later state of the run. If the voter dies in `y` at ANY crash point `k` of ANY step (any operation, any oracle) and
restarts as `n`, then `n` still honours the grant: its term is above `term`, or it is `term` and `n.votedFor = cand`.
(No enabling condition on the operation is needed: C05 holds for arbitrary requests.) -/
theorem restart_keeps_acknowledged_vote_partial (V : List Nat) (hV : V.Nodup) (x y : Commit.Sys)
    (hx : ReachableG V x) (hrun : RunG V x y) (g : C01.Grant) (hg : g ∈ x.rp.el.grants)
    (op : Op) (ra : List Nat) (ord : List (List Nat)) (k retain : Nat) (sor : Bool) (n : Node)
    (hn : Node.restart (C05.crashDisk (y.node g.voter) op ra ord k) retain sor = some n) :
    g.term < n.term ∨ (g.term = n.term ∧ n.votedFor = g.cand) := by
  have hy := run_reachableG hx hrun
  obtain ⟨hI, _⟩ := inv_reachable hV (reachableG_V hy)
  have hg' := (runG_mono hrun).2.1 g hg
  have hh : C01Sys.HonouredBy (y.node g.voter) g := hI.rp.el.honoured g hg'
  obtain ⟨r1, r2, _⟩ := C05.restart_reads_durable _ _ _ _ hn
  have hd := Election.crashDisk_durStep (y.node g.voter) op ra ord k (hI.rp.el.ids g.voter).2
  have hvs : C05.VoteStep (y.node g.voter) n := by
    unfold C05.VoteStep; rw [r1, r2]; exact hd
  exact (C01Sys.honouredBy_step hh hvs).2

/-! ### acknowledged entries -/

theorem runG_runV {V : List Nat} {x y : Commit.Sys} (h : RunG V x y) : RunV V x y := by
  induction h with
  | refl => exact .refl
  | next y z _ ht hs _ ih => exact .next y z ih (transG_trans ht) hs

/-- **C10 (3), the restarted node retains every log entry it had acknowledged as stored (partial; same
restrictions).** Let `x` be reachable, `a = (voter, term, index, eterm)` an acknowledgement recorded in `x` — at a
moment when the voter's term was `term` its log held an entry of term `eterm` at `index` and it answered `success` to
an append request of that term ending at `index` (or it is the leader of `term` counting itself) — and `b` an entry OF
THE ACKNOWLEDGEMENT'S TERM on the path to the acknowledged entry (`b.2 = a.term`, `b` an ancestor of or equal to
`(index, eterm)` in the tree of created entries). Let `y` be any later state of the run. If the voter dies in `y` at
ANY crash point `k` of ANY enabled step and restarts as `n`, then
* `n`'s log, completely flushed, holds an entry with `b`'s term at `b`'s index (and hence, its log being a root path
  of the tree in the reachable state after the restart, every entry before it on that path),
* unless the tree of created entries contains an entry of a later term, not above `n`'s term, that does not extend
  `b`: a leader of a later term overwrote it (never the case for a committed `b`:
  `restart_keeps_committed_acknowledged_partial`).
Entries of EARLIER terms below an acknowledgement are not promised (finding (a) of C02Sys / C06Sys: a follower that
appends nothing answers `success` without flushing entries it created itself as an earlier leader). -/
theorem restart_keeps_acknowledged_entries_partial (V : List Nat) (hV : V.Nodup) (x y : Commit.Sys)
    (hx : ReachableG V x) (hrun : RunG V x y) (a : Ack) (ha : a ∈ x.acks) (b : Nat × Nat) (hb : b.2 = a.term)
    (hanc : Anc x.T b (a.index, a.eterm))
    (op : Op) (ra : List Nat) (ord : List (List Nat)) (src : Nat) (he : Commit.Enabled y a.voter op src)
    (k retain : Nat) (sor : Bool) (n : Node)
    (hn : Node.restart (C05.crashDisk (y.node a.voter) op ra ord k) retain sor = some n) :
    (b.1 ≤ n.log.flushed ∧ ∃ e, n.log.get? b.1 = some e ∧ e.term = b.2) ∨
    ∃ c ∈ y.T, b.2 < c.e.term ∧ c.e.term ≤ n.term ∧ ¬ Anc y.T b (c.e.index, c.e.term) := by
  have hy := run_reachableG hx hrun
  obtain ⟨hI, hS⟩ := inv_reachable hV (reachableG_V hy)
  obtain ⟨_, _, hA, _, hT⟩ := runG_mono hrun
  have ha' := hA a ha
  have hanc' : Anc y.T b a.key := hanc.mono hT
  have sc : SC V y a.voter op ra ord src := ⟨hV, hI, hS, he⟩
  have cc : CC V y a.voter op ra ord src k retain sor n := ⟨sc, hn⟩
  have im := sc.img k
  obtain ⟨f1, _, _, _, _, _, f7, _, f9⟩ := cc.facts
  have hterm : (y.node a.voter).term ≤ n.term := by rw [f1]; exact im.pair.1
  have hp := DurableRel.SC.disk_path sc k
  obtain ⟨wn, _, _, _⟩ := restart_nwf _ retain sor n hn im.snaps im.prev hp.2
  have huns : ∀ u, u ≤ n.term → Unsafe y.T b u →
      ∃ c ∈ y.T, b.2 < c.e.term ∧ c.e.term ≤ n.term ∧ ¬ Anc y.T b (c.e.index, c.e.term) := by
    rintro u hu ⟨c, hc, h1, h2, h3⟩
    exact ⟨c, hc, h1, Nat.le_trans h2 hu, h3⟩
  rcases hI.ack.stable a ha' b hb hanc' with hd | hu
  · rcases im.dur a ha' rfl b hb hd with ⟨d1, d2⟩ | hu
    · left
      rw [← f9] at d1 d2
      obtain ⟨e, hee, het⟩ := holds_get d2
      exact ⟨by rw [f7]; exact d1, e, by rw [wn.get?, if_pos (show 0 < b.1 from d2.1)]; exact hee, het⟩
    · exact Or.inr (huns _ (by rw [f1]; exact Nat.le_refl _) hu)
  · exact Or.inr (huns _ hterm hu)

/-- **… and a committed entry it acknowledged in the entry's term, without exception** (same assumptions): if `m`
is in the ledger `committed` of `x` (a leader's commit index reached it), `a` is an acknowledgement of `x` in `m`'s
term at or beyond `m` on `m`'s path, then after ANY crash of the voter at ANY point of ANY enabled step in ANY later
state the restarted node's flushed log holds `m`. -/
theorem restart_keeps_committed_acknowledged_partial (V : List Nat) (hV : V.Nodup) (x y : Commit.Sys)
    (hx : ReachableG V x) (hrun : RunG V x y) (m : Nat × Nat) (hm : m ∈ x.committed) (a : Ack) (ha : a ∈ x.acks)
    (hat : a.term = m.2) (hanc : Anc x.T m (a.index, a.eterm))
    (op : Op) (ra : List Nat) (ord : List (List Nat)) (src : Nat) (he : Commit.Enabled y a.voter op src)
    (k retain : Nat) (sor : Bool) (n : Node)
    (hn : Node.restart (C05.crashDisk (y.node a.voter) op ra ord k) retain sor = some n) :
    m.1 ≤ n.log.flushed ∧ ∃ e, n.log.get? m.1 = some e ∧ e.term = m.2 := by
  have hy := run_reachableG hx hrun
  obtain ⟨hI, _⟩ := inv_reachable hV (reachableG_V hy)
  have hm' := (runG_mono hrun).2.2.2.1 m hm
  rcases restart_keeps_acknowledged_entries_partial V hV x y hx hrun a ha m hat.symm hanc op ra ord src he k retain
      sor n hn with h | ⟨c, hc, h1, _, h3⟩
  · exact h
  · exact absurd (hI.cmt.lc m hm' c hc h1) h3

/-! ### the cluster after the restart -/

/-- **C01–C04 (and C19) in a state `z` of the cluster**, as proved for reachable states:
* `election` (C01): two leaders of one term are the same node, and the ledger `won` of all leaders EVER names at
  most one node per term;
* `completeness` (C02): a leader whose term is at least the term of node `j` holds at every index within `j`'s commit
  index the very entry `j` holds;
* `stateMachine` (C03): every node's FSM was fed exactly the update commands of its log up to `fsm.index`, never
  beyond the commit index, and the command sequences of any two nodes are prefixes of one another;
* `matching` (C04): two logs that hold entries with the same term at an index hold the same entry at every index
  up to it;
* `good` (C19, C15): every node is `NoPanic.Good true`. -/
structure Safe (V : List Nat) (z : Commit.Sys) : Prop where
  election : (∀ i j, (z.node i).role = .leader → (z.node j).role = .leader → (z.node i).term = (z.node j).term → i = j) ∧
    (∀ l l' t, (l, t) ∈ z.rp.el.won → (l', t) ∈ z.rp.el.won → l = l') ∧
    (∀ i, (z.node i).role = .leader → (i, (z.node i).term) ∈ z.rp.el.won)
  completeness : ∀ i j k, (z.node i).role = .leader → (z.node j).term ≤ (z.node i).term → 1 ≤ k →
    k ≤ (z.node j).commitIndex →
    (z.node i).log.get? k = (z.node j).log.get? k ∧ ((z.node j).log.get? k).isSome = true
  stateMachine : (∀ i, (z.node i).fsm.index ≤ (z.node i).commitIndex ∧
      (z.node i).fsm.applied =
        (((z.node i).log.entries.take (z.node i).fsm.index).filter (·.typ == etUpdate)).map (·.data)) ∧
    (∀ i j, (z.node i).fsm.applied <+: (z.node j).fsm.applied ∨ (z.node j).fsm.applied <+: (z.node i).fsm.applied)
  matching : ∀ i j k a b, (z.node i).log.get? k = some a → (z.node j).log.get? k = some b → a.term = b.term →
    ∀ k', k' ≤ k → ∀ a' b', (z.node i).log.get? k' = some a' → (z.node j).log.get? k' = some b' → a' = b'
  good : ∀ i, Good true (z.node i)

/-- every reachable state is safe -/
theorem safe_of_reachable (V : List Nat) (hV : V.Nodup) (z : Commit.Sys) (h : ReachableG V z) : Safe V z := by
  have hR := reachableG_V h
  have hrp := reachable_rp hR
  obtain ⟨e1, e2, e3, _, _⟩ := C01Sys.election_safety_sys_partial V hV z.rp.el (Replication.reachable_el hrp)
  obtain ⟨s1, _, _, s4⟩ := C19Sys.state_machine_safety_sys_partial V hV z h
  exact ⟨⟨e1, e2, e3⟩, (leader_completeness_sys_partial V hV z hR).2.1,
    ⟨fun i => ⟨(s1 i).1, (s1 i).2.2⟩, s4⟩,
    fun i j k a b => C04Sys.log_matching_sys_partial V hV z.rp hrp i j k a b,
    (ginv_reachable hV h).good⟩

/-- **C10 (4), the restarted node rejoins the cluster without violating C01–C04 (partial; same restrictions).** Under
the hypotheses of `restart_succeeds_sys_partial`, let `n` be the restarted node and `y = crashC x i op n` the state
of the cluster after the crash and the restart (the target of `Commit.Trans.crash`), satisfying the side condition of
the run (`SideV`: the restarted node's latest configuration is the stable configuration with voters `V` — it holds
the bootstrap entry). Then
* `y` is a reachable state of the system again (`ReachableG` is closed under transitions; the side condition
  `SideG` follows from `retain ≥ 1`), and so is every state `z` of every continuation of the run;
* hence `Safe V z` for every such `z` — election safety, leader completeness, state-machine safety, log matching,
  every node good — whatever the restarted node and the others do next (more crashes included);
* and nothing the cluster had acknowledged before the crash is forgotten by the ledgers: every leader ever elected
  (`won`), every vote ever granted, every acknowledgement, every committed entry of `x` is still recorded in `z` — so
  e.g. "one leader per term" holds between a leader of `x` and any later one. -/
theorem rejoin_preserves_safety_partial (V : List Nat) (hV : V.Nodup) (x : Commit.Sys) (h : ReachableG V x)
    (i : Nat) (op : Op) (ra : List Nat) (ord : List (List Nat)) (src : Nat) (he : Commit.Enabled x i op src)
    (heG : EnabledG x i op) (k : Nat) (hopen : (x.node i).closed = "" ∨ k = 0)
    (retain : Nat) (hret : 1 ≤ retain) (sor : Bool) (n : Node)
    (hn : Node.restart (C05.crashDisk (x.node i) op ra ord k) retain sor = some n)
    (hs : SideV V (crashC x i op n)) :
    ReachableG V (crashC x i op n) ∧
    ∀ z, RunG V (crashC x i op n) z →
      ReachableG V z ∧ Safe V z ∧
      (∀ e ∈ x.rp.el.won, e ∈ z.rp.el.won) ∧ (∀ g ∈ x.rp.el.grants, g ∈ z.rp.el.grants) ∧
      (∀ a ∈ x.acks, a ∈ z.acks) ∧ (∀ m ∈ x.committed, m ∈ z.committed) := by
  have ht : TransG x (crashC x i op n) := .crash i op ra ord src k retain sor n he heG hopen hn
  have hsg : SideG (crashC x i op n) :=
    NodeSys.forall_setNode (P := fun _ m => 1 ≤ m.retain) (by rw [restart_retain _ _ _ _ hn]; exact hret)
      (fun j _ => reachableG_side h j)
  have hy : ReachableG V (crashC x i op n) := .next x _ h ht hs hsg
  refine ⟨hy, fun z hrun => ?_⟩
  have hz := run_reachableG hy hrun
  have g := (TransG.grows ht).trans (runG_grows hrun)
  exact ⟨hz, safe_of_reachable V hV z hz, g.won, g.grants, g.acks, g.committed⟩

/-! ### Examples (non-vacuity): three voters bootstrapped with the entry (1,1); node 1 dies during its election
timeout after the first storage point (term 2 and its own vote are on disk) -/

/-- EXAMPLE: the hypotheses of `restart_succeeds_sys_partial` hold for node 1 of `ex0`, its election timeout and the
crash point `k = 1`; the node the theorem promises is `C19Sys.exN`: term 2, voted for itself, follower -/
example : [1, 2, 3].Nodup ∧ ReachableG [1, 2, 3] C02Sys.ex0 ∧ Commit.Enabled C02Sys.ex0 1 .timeout 0 ∧
    EnabledG C02Sys.ex0 1 .timeout ∧ ((C02Sys.ex0.node 1).closed = "" ∨ 1 = 0) ∧ (C02Sys.ex0.node 1).cid ≠ 0 ∧
    Node.restart (C05.crashDisk (C02Sys.ex0.node 1) .timeout [] [] 1) 1 true = some C19Sys.exN ∧
    C19Sys.exN.term = 2 ∧ C19Sys.exN.votedFor = 1 :=
  ⟨by decide, C19Sys.ex0_reachable, C19Sys.ex1_enabled.1, C19Sys.ex1_enabled.2, Or.inl rfl, by decide,
    C19Sys.exN_restart, by decide, by decide⟩

/-- EXAMPLE (`rejoin_preserves_safety_partial`): its hypotheses hold for that crash (`C19Sys.exCrash` is the state
after it), so `exCrash` is reachable and safe -/
example : ReachableG [1, 2, 3] C19Sys.exCrash ∧ Safe [1, 2, 3] C19Sys.exCrash := by
  have h := rejoin_preserves_safety_partial [1, 2, 3] (by decide) C02Sys.ex0 C19Sys.ex0_reachable 1 .timeout [] [] 0
    C19Sys.ex1_enabled.1 C19Sys.ex1_enabled.2 1 (Or.inl rfl) 1 (Nat.le_refl _) true C19Sys.exN C19Sys.exN_restart
    C19Sys.exCrash_sideV
  exact ⟨h.1, (h.2 _ .refl).2.1⟩

set_option maxRecDepth 100000 in
/-- EXAMPLE (`restart_keeps_acknowledged_vote_partial`): in `ex1` (node 1 has timed out and voted for itself in term
2) the ledger holds the grant (voter 1, term 2, candidate 1); `ex1` is reachable, and a restart of node 1 from what is
on disk between two steps succeeds — so (by the theorem) the restarted node still honours the grant -/
example : ReachableG [1, 2, 3] C02Sys.ex1 ∧ RunG [1, 2, 3] C02Sys.ex1 C02Sys.ex1 ∧
    ({ voter := 1, term := 2, cand := 1 } : C01.Grant) ∈ C02Sys.ex1.rp.el.grants ∧
    (Node.restart (C05.crashDisk (C02Sys.ex1.node 1) .timeout [] [] 0) 1 true).isSome = true :=
  ⟨C19Sys.ex1_reachable, .refl, by decide, by decide⟩

-- evaluation (tests, not proofs; `ex7` comes from a commit step, whose `List.mergeSort` the kernel does not evaluate):
-- in `ex7` of Props/C02Sys.lean node 2 has acknowledged (2,2) in term 2 and the entry is committed; whenever node 2 dies
-- while handling an election timeout — at any of its storage points — the restart succeeds, the restarted node's term is
-- at least 2 and its log holds (2,2) again
#guard C02Sys.ex7.acks.any (fun a => a.voter == 2 && a.term == 2 && a.index == 2 && a.eterm == 2)
#guard (List.range 4).all (fun k =>
  ((Node.restart (C05.crashDisk (C02Sys.ex7.node 2) .timeout [] [] k) 1 true).map
    (fun w => (decide (2 ≤ w.term), (w.log.get? 2).map (·.term), w.log.flushed))) == some (true, some 2, 2))

end C10Sys
end Raft

#print axioms Raft.C10Sys.restart_succeeds_sys_partial
#print axioms Raft.C10Sys.restart_keeps_acknowledged_vote_partial
#print axioms Raft.C10Sys.restart_keeps_acknowledged_entries_partial
#print axioms Raft.C10Sys.restart_keeps_committed_acknowledged_partial
#print axioms Raft.C10Sys.safe_of_reachable
#print axioms Raft.C10Sys.rejoin_preserves_safety_partial
#print axioms Raft.C10Sys.cid_run
