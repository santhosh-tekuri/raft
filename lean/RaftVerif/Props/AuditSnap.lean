/-
AUDIT of the theorems over `Raft.Snap` (Sys/Snap.lean, Props/C09Sys.lean — local snapshots, stage 1).

1. `snap_of_G`: EVERY run of the restricted fixed-membership system (`SysInv.ReachableG`, Props/C19Sys.lean) is a run of
   `Raft.Snap` (with an empty snapshot ledger). So the proved runs of Props/C07Sys.lean and Props/AuditSys.lean
   (election, replication, commit, answers, crashes inside steps, re-election, leadership transfer) are witnesses
   for `Snap.ReachableS` too, and no side condition of `Snap.SideS` / premise of `Snap.Trans` is unsatisfiable there.
2. a PROVED run with a REAL snapshot (Props/C09Sys.lean only evaluates one): continuing `AuditSys.a9`, the leader 3 and
   the follower 1 take a snapshot at their applied index, hand it over (`.snapTaken`, no compaction: one segment), the
   leader keeps replicating to a node with `snapIndex > 0`, and node 1 dies and restarts FROM ITS SNAPSHOT FILE.
-/
import RaftVerif.Props.AuditSys
import RaftVerif.Props.C09Sys

namespace Raft
namespace AuditSnap
open Node LogRel Commit C02Sys SysInv NoPanic Snap
open Election (setNode)

/-! ### 1. every run of `ReachableG` is a run of `Raft.Snap` -/

theorem opOKS_of {op : Op} (h : OpOK op) : OpOKS op := by
  cases op <;> first | exact h | trivial

theorem enabledS_of {x : Commit.Sys} {i : Nat} {op : Op} {src : Nat} (he : Commit.Enabled x i op src) :
    Snap.Enabled x i op src :=
  ⟨he.rp.id, he.rp.voteSrc, he.rp.real, ⟨opOKS_of he.ok2.1, he.ok2.2.1, he.ok2.2.2⟩, he.rp.append, he.vote,
    he.appendSrc, he.upd⟩

theorem newSnaps_nil (i : Nat) (pre : List SnapFile) : newSnaps i pre [] = [] := rfl

/-- the side conditions of `Raft.Snap` follow from the invariants of the restricted system -/
theorem sideS_of {V : List Nat} {x : Commit.Sys} (hI : CInv V x) (hS : SideV V x) (hG : GInv x) :
    SideS V { cs := x, snaps := [] } := by
  refine ⟨hS, fun i => (nwf hI i).prev, fun i e he ht => ?_⟩
  obtain ⟨_, h2⟩ := log_cfg hI hG i e he ht
  have := h2 0
  cases hc : e.cfg with
  | none => rw [hc] at this; exact absurd this (by simp [cfgOkOpt])
  | some c => rfl

/-- **every run of the restricted fixed-membership system is a run of `Raft.Snap`** (snapshot ledger empty) -/
theorem snap_of_G {V : List Nat} (hV : V.Nodup) {x : Commit.Sys} (h : ReachableG V x) :
    ReachableS V { cs := x, snaps := [] } := by
  induction h with
  | init x hi hs hsg hg =>
    have hI := inv_init V x hi
    exact .init _ ⟨hi, hsg, rfl⟩ (sideS_of hI hs hg)
  | next x y hx ht hs hsg ih =>
    have hy : ReachableG V y := .next x y hx ht hs hsg
    obtain ⟨hIy, _⟩ := inv_reachable hV (reachableG_V hy)
    obtain ⟨hIx, _⟩ := inv_reachable hV (reachableG_V hx)
    have hGy := ginv_reachable hV hy
    have hside := sideS_of hIy hs hGy
    cases ht with
    | step i op ra ord src he heG ho =>
      have hp := (C19Sys.reqok_in_sys_partial V hV x hx i op src he heG ho ra ord).2.2.1
      have hni : (stepC x i op ra ord src).node i = (x.node i).step op ra ord := C02Sys.stepC_node_i x i op ra ord src
      have hsn : ((x.node i).step op ra ord).snapsDisk = [] := by rw [← hni]; exact (nwf hIy i).snaps
      have ht' : Snap.Trans { cs := x, snaps := [] }
          { cs := stepC x i op ra ord src
            snaps := newSnaps i (x.node i).snapsDisk ((x.node i).step op ra ord).snapsDisk ++ [] } :=
        .step i op ra ord src (enabledS_of he) hp
          (fun e => by subst e; exact absurd he.rp.ok (by simp [OpOK]))
      rw [hsn] at ht'
      exact .next _ _ ih ht' hside
    | crash i op ra ord src k retain sor n he heG ho hn =>
      have hni : (crashC x i op n).node i = n := C02Sys.crashC_node_i x i op n
      have hsn : n.snapsDisk = [] := by rw [← hni]; exact (nwf hIy i).snaps
      have hret : 1 ≤ retain := by
        have := hsg i
        rw [hni, restart_retain _ _ _ _ hn] at this
        exact this
      have ht' : Snap.Trans { cs := x, snaps := [] }
          { cs := crashC x i op n, snaps := newSnaps i (x.node i).snapsDisk n.snapsDisk ++ [] } :=
        .crash i op ra ord src k retain sor n (enabledS_of he) hret
          (fun e => by subst e; exact absurd he.rp.ok (by simp [OpOK])) hn
      rw [hsn] at ht'
      exact .next _ _ ih ht' hside
    | send i q hi hl hr hc =>
      exact .next _ _ ih (.send i q hi hl hr hc) hside

/-! ### what `Snap.Enabled` asks, decidably (used for `Raft.Snap` and `Raft.Snap2`) -/

/-- `SysInv.EnabledAt` (which asks at least what `Snap.Enabled` asks), with the two snapshot operations of the node
itself admitted -/
def EnabledAtS (x : Commit.Sys) (i src : Nat) : Op → Prop
  | .snapRun | .snapTaken => True
  | op => EnabledAt x i src op

instance (x : Commit.Sys) (i src : Nat) (op : Op) : Decidable (EnabledAtS x i src op) := by
  cases op <;> unfold EnabledAtS <;> infer_instance

theorem enabledS_at {x : Commit.Sys} {i src : Nat} {op : Op} (hi : i ≠ 0) (h : EnabledAtS x i src op) :
    Snap.Enabled x i op src := by
  have snap : ∀ op', op = op' → OpOKS op' → (∀ q, op' ≠ .vote q) → (∀ q, op' ≠ .append q) →
      (∀ a b c, op' ≠ .voteResult a b c) → (∀ b, op' ≠ .newEntries b) → (∀ t c, op' ≠ .changeConfig t c) →
      (∀ us, op' ≠ .replUpdates us) → Snap.Enabled x i op src := fun _ e hok h1 h2 h3 h4 h5 h6 =>
    e ▸ ⟨hi, fun q e => absurd e (h1 q), fun c => absurd c (not_counts h3), ⟨hok, fun b e => absurd e (h4 b), h5⟩,
      fun q e => absurd e (h2 q), fun q e => absurd e (h1 q), fun q e => absurd e (h2 q), fun us e => absurd e (h6 us)⟩
  by_cases h1 : op = .snapRun
  · exact snap _ h1 trivial nofun nofun nofun nofun nofun nofun
  by_cases h2 : op = .snapTaken
  · exact snap _ h2 trivial nofun nofun nofun nofun nofun nofun
  have e : EnabledAtS x i src op = EnabledAt x i src op := by
    cases op <;> first | rfl | exact absurd rfl h1 | exact absurd rfl h2
  exact enabledS_of (enabled_iff.mpr ⟨hi, e ▸ h⟩).1

/-! ### 2. a proved run of `Raft.Snap` with real snapshots and a restart from a snapshot file -/

/-- a completed step of node `i` (no oracle) -/
def stepSn (x : Snap.Sys) (i : Nat) (op : Op) (src : Nat) : Snap.Sys :=
  { cs := stepC x.cs i op [] [] src
    snaps := newSnaps i (x.node i).snapsDisk ((x.node i).step op [] []).snapsDisk ++ x.snaps }

/-- node `i` died while handling `op` and restarted as `n` -/
def crashSn (x : Snap.Sys) (i : Nat) (op : Op) (n : Node) : Snap.Sys :=
  { cs := crashC x.cs i op n, snaps := newSnaps i (x.node i).snapsDisk n.snapsDisk ++ x.snaps }

def sendSn (x : Snap.Sys) (q : AppendReq) : Snap.Sys := { x with cs := sendC x.cs q }

/-- what has to be checked of the node that acted -/
def NodeSide (V : List Nat) (n : Node) : Prop :=
  n.configs.isBootstrapped = true ∧ n.configs.latest.voters = V ∧ n.configs.latest.isStable = true ∧
  n.log.prev = 0 ∧ ∀ e ∈ n.log.entries, e.typ = etConfig → e.cfg.isSome = true

instance (V : List Nat) (n : Node) : Decidable (NodeSide V n) := by unfold NodeSide; infer_instance

theorem sideS_set {V : List Nat} (x : Snap.Sys) (y : Snap.Sys) (i : Nat) (n : Node) (hs : SideS V x)
    (hy : y.cs.rp.el.node = setNode x.cs.rp.el.node i n) (hn : NodeSide V n) : SideS V y := by
  have key : ∀ j, NodeSide V (y.node j) := fun j => by
    show NodeSide V (y.cs.rp.el.node j)
    rw [hy]
    exact NodeSys.forall_setNode (P := fun _ m => NodeSide V m) hn
      (fun j _ => ⟨(hs.sideV.1 j).1, (hs.sideV.1 j).2, hs.sideV.2 j, hs.prev j, hs.dec j⟩) j
  exact ⟨⟨fun j => ⟨(key j).1, (key j).2.1⟩, fun j => (key j).2.2.1⟩, fun j => (key j).2.2.2.1,
    fun j => (key j).2.2.2.2⟩

/-- a reachable state of `Raft.Snap` (the side conditions are carried next to it: `rsn_act`, `rsn_run`) -/
def RSn (V : List Nat) (x : Snap.Sys) : Prop := ReachableS V x

/-! ### witness runs of `Raft.Snap` as checked scripts (`Lemmas/Script.lean`) -/

open C07Sys (rebornOf SendOK)

inductive ActS
  /-- node `i` handles `op` to completion (`src`: the sender a vote response is attributed to) -/
  | step (i : Nat) (op : Op) (src : Nat)
  /-- node `i` dies while handling `op`, after `k` storage points, and restarts (retain 1, `sor`) -/
  | crash (i : Nat) (op : Op) (src k : Nat)
  /-- the leader `i` puts `q` on the wire; it carries `n` entries -/
  | send (i : Nat) (q : AppendReq) (n : Nat)

/-- `op = .snapTaken`, as a test (`Op` has no decidable equality) -/
def isSnapTaken : Op → Bool
  | .snapTaken => true
  | _ => false

def ActS.next (x : Snap.Sys) : ActS → Snap.Sys
  | .step i op src => stepSn x i op src
  | .crash i op _ k => crashSn x i op (rebornOf (x.node i) op k)
  | .send _ q _ => sendSn x q

/-- what `Snap.Trans` and `SideS V` ask of an action, decidably -/
def ActS.OK (V : List Nat) (x : Snap.Sys) : ActS → Prop
  | .step i op src => i ≠ 0 ∧ EnabledAtS x.cs i src op ∧ ((x.node i).step op [] []).panicked = none ∧
      (isSnapTaken op = true → ((x.node i).step op [] []).log = (x.node i).log) ∧
      NodeSide V ((x.node i).step op [] [])
  | .crash i op src k => i ≠ 0 ∧ EnabledAtS x.cs i src op ∧
      (isSnapTaken op = true → ((x.node i).step op [] []).log = (x.node i).log) ∧
      (Node.restart (C05.crashDisk (x.node i) op [] [] k) 1 true).isSome = true ∧ NodeSide V (rebornOf (x.node i) op k)
  | .send i q n => i ≠ 0 ∧ SendOK (x.node i) q n

instance (V : List Nat) (x : Snap.Sys) (a : ActS) : Decidable (a.OK V x) := by
  cases a <;> unfold ActS.OK <;> infer_instance

theorem rsn_act {V : List Nat} {x : Snap.Sys} (hx : ReachableS V x ∧ SideS V x) (a : ActS) (h : a.OK V x) :
    ReachableS V (a.next x) ∧ SideS V (a.next x) := by
  cases a with
  | step i op src =>
    have hs : SideS V (stepSn x i op src) := sideS_set x _ i _ hx.2 rfl h.2.2.2.2
    exact ⟨.next x _ hx.1 (.step i op [] [] src (enabledS_at h.1 h.2.1) h.2.2.1
      (fun e => h.2.2.2.1 (by rw [e]; rfl))) hs, hs⟩
  | crash i op src k =>
    have hs : SideS V (crashSn x i op (rebornOf (x.node i) op k)) := sideS_set x _ i _ hx.2 rfl h.2.2.2.2
    exact ⟨.next x _ hx.1 (.crash i op [] [] src k 1 true _ (enabledS_at h.1 h.2.1) (Nat.le_refl _)
      (fun e => h.2.2.1 (by rw [e]; rfl)) (C07Sys.restart_getD h.2.2.2.1)) hs, hs⟩
  | send i q n =>
    have hf := C07Sys.send_facts (x.node i) q n h.2
    have hs : SideS V (sendSn x q) := ⟨hx.2.sideV, hx.2.prev, hx.2.dec⟩
    exact ⟨.next x _ hx.1 (.send i q h.1 hf.1 hf.2.1 hf.2.2) hs, hs⟩

abbrev CheckedS (V : List Nat) (x : Snap.Sys) (as : List ActS) : Prop :=
  Script.Checked (fun x a => ActS.next x a) (fun x a => ActS.OK V x a) x as

theorem rsn_run {V : List Nat} (as : List ActS) {x : Snap.Sys} (hx : ReachableS V x ∧ SideS V x)
    (h : CheckedS V x as) :
    ReachableS V (Script.run (fun x a => ActS.next x a) x as) ∧ SideS V (Script.run (fun x a => ActS.next x a) x as) :=
  Script.sound (Inv := fun x => ReachableS V x ∧ SideS V x) (fun _ a hx h => rsn_act hx a h) as hx h

open AuditSys

/-- the state `AuditSys.a9` (after crashes and the election of node 3 in term 3), with an empty snapshot ledger -/
def s0 : Snap.Sys := { cs := a9.c, snaps := [] }

theorem rs0 : ReachableS [1, 2, 3] s0 ∧ SideS [1, 2, 3] s0 := by
  have h := snap_of_G (V := [1, 2, 3]) (by decide) (C07Sys.reachable_c ra9.1.1)
  exact ⟨h, (SnapInv.inv_reachable (by decide) h).2⟩

/-- the leader 3 is asked for a snapshot; the goroutine writes the file (index 6, term 3, [a, b, c]); the result is
handed over (no compaction: one segment) -/
def s1 : Snap.Sys := stepSn s0 3 (.takeSnapshot 20 0) 0
def s2 : Snap.Sys := stepSn s1 3 .snapRun 0
def s3 : Snap.Sys := stepSn s2 3 .snapTaken 0
/-- a heartbeat with the leader's commit index 6 -/
def hb : AppendReq := { term := 3, src := 3, prevLogIndex := 6, prevLogTerm := 3, ldrCommitIndex := 6, entries := [] }
def s4 : Snap.Sys := sendSn s3 hb
/-- node 1 commits and applies index 6 … -/
def s5 : Snap.Sys := stepSn s4 1 (.append hb) 0
/-- … takes a snapshot at index 6 too -/
def s6 : Snap.Sys := stepSn s5 1 (.takeSnapshot 21 0) 0
def s7 : Snap.Sys := stepSn s6 1 .snapRun 0
def s8 : Snap.Sys := stepSn s7 1 .snapTaken 0
def batchD : List QItem := [{ typ := etUpdate, data := "d", task := 22 }]
/-- the leader accepts the update "d": entry (7,3) -/
def s9 : Snap.Sys := stepSn s8 3 (.newEntries batchD) 0
def reqD : AppendReq :=
  { term := 3, src := 3, prevLogIndex := 6, prevLogTerm := 3, ldrCommitIndex := 6,
    entries := (s9.node 3).log.entries.drop 6 }
def s10 : Snap.Sys := sendSn s9 reqD
/-- node 1 (`snapIndex = 6 = prevLogIndex`: the consistency check is skipped) appends it -/
def s11 : Snap.Sys := stepSn s10 1 (.append reqD) 0
/-- node 1 dies between two steps and restarts from its snapshot file and its log -/
def m1 : Node := (Node.restart (C05.crashDisk (s11.node 1) .timeout [] [] 0) 1 true).getD {}
def s12 : Snap.Sys := crashSn s11 1 .timeout m1

def scriptS : List ActS :=
  [.step 3 (.takeSnapshot 20 0) 0, .step 3 .snapRun 0, .step 3 .snapTaken 0, .send 3 hb 0, .step 1 (.append hb) 0,
   .step 1 (.takeSnapshot 21 0) 0, .step 1 .snapRun 0, .step 1 .snapTaken 0, .step 3 (.newEntries batchD) 0,
   .send 3 reqD 1, .step 1 (.append reqD) 0, .crash 1 .timeout 0 0]

theorem checkedS : CheckedS [1, 2, 3] s0 scriptS := by decide +kernel

theorem r12 : ReachableS [1, 2, 3] s12 ∧ SideS [1, 2, 3] s12 := rsn_run scriptS rs0 checkedS

theorem r11 : ReachableS [1, 2, 3] s11 ∧ SideS [1, 2, 3] s11 := rsn_run _ rs0 (Script.Checked.take _ _ 11 checkedS)

/-- the crash of node 1, as it was checked -/
theorem ok11 : (ActS.crash 1 .timeout 0 0).OK [1, 2, 3] s11 := Script.Checked.get _ _ 11 (by decide) checkedS

theorem m1_restart : Node.restart (C05.crashDisk (s11.node 1) .timeout [] [] 0) 1 true = some m1 :=
  C07Sys.restart_getD ok11.2.2.2.1

/-- WITNESS S1 (`Raft.Snap`): facts about the run. `s3`: the leader 3 holds the snapshot file (6, 3, [a, b, c]) and
`snapIndex = 6`, recorded in the ledger; `s11`: node 1 with `snapIndex = 6` appended entry 7 behind a request with
`prevLogIndex = 6 = snapIndex`; `s12`: node 1 restarted from its snapshot: commit index = applied index = snapshot
index = 6, state machine [a, b, c], 7 log entries, nothing failed. -/
theorem runS1_facts :
    ((s3.node 3).snapIndex = 6 ∧ (s3.node 3).snapsDisk.map (fun f => (f.index, f.term, f.data)) = [(6, 3, ["a", "b", "c"])] ∧
      s3.snaps.map (fun p => (p.1, p.2.index)) = [(3, 6)] ∧ (s3.node 3).snapResult = none) ∧
    ((s10.node 1).snapIndex = 6 ∧ (s10.node 1).log.entries.length = 6 ∧ (s11.node 1).log.entries.length = 7 ∧
      (s11.node 1).rpcReply.map (·.result) = some rSuccess) ∧
    ((s12.node 1).snapIndex = 6 ∧ (s12.node 1).commitIndex = 6 ∧ (s12.node 1).fsm.index = 6 ∧
      (s12.node 1).fsm.applied = ["a", "b", "c"] ∧ (s12.node 1).log.entries.length = 7 ∧
      (s12.node 1).role = .follower ∧ (s12.node 1).panicked = none ∧
      s12.snaps.map (fun p => (p.1, p.2.index)) = [(1, 6), (3, 6)]) := by
  decide +kernel

set_option maxRecDepth 100000 in
/-- C09Sys `restart_from_snapshot_partial`: ALL its hypotheses hold for the crash `s11 → s12` (node 1 restarts from the
snapshot file (6, 3, [a, b, c]) and its log) -/
example : m1.fsm.applied = C03Sys.ups (m1.log.entries.take m1.fsm.index) ∧ m1.fsm.index ≤ m1.commitIndex ∧
    m1.snapIndex ≤ m1.fsm.index ∧ m1.snapIndex = 6 :=
  have h := C09Sys.restart_from_snapshot_partial (V := [1, 2, 3]) (by decide) s11 s12 r11.1 1 .timeout [] [] 0 0 1 true m1
    (enabledS_at ok11.1 ok11.2.1) (Nat.le_refl _) (fun h => by cases h) m1_restart rfl r12.2
  ⟨h.1, h.2.1, h.2.2.1, by decide +kernel⟩

set_option maxRecDepth 100000 in
/-- C09Sys `snapshot_is_committed_prefix_partial` on `s12`: the ledger holds the files of the nodes 1 and 3; the file of
node 3 is the replay of the log of node 1 too (whose commit index 6 comes from its own snapshot) -/
example : ∀ p ∈ s12.snaps, p.2.data = C03Sys.ups ((s12.node 1).log.entries.take p.2.index) := by
  intro p hp
  have h := C09Sys.snapshot_is_committed_prefix_partial (V := [1, 2, 3]) (by decide) s12 r12.1 p.1 p.2 (Or.inl hp)
  have hi : p.2.index ≤ (s12.node 1).commitIndex := by
    have : ∀ q ∈ s12.snaps, q.2.index ≤ (s12.node 1).commitIndex := by decide +kernel
    exact this p hp
  exact h.2.2.2.2.2 1 hi

end AuditSnap
end Raft

#print axioms Raft.AuditSnap.snap_of_G
#print axioms Raft.AuditSnap.r12
#print axioms Raft.AuditSnap.runS1_facts
