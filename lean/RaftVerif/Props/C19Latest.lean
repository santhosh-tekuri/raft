/-
C19 / C08 (content) — "The latest configuration is the newest configuration entry the node's log or snapshot
contains", as an inductive invariant of `Node.step`, for EVERY operation.

`Props/C19Order.lean` proves the INDEX orderings (`configs.committed.index ≤ configs.latest.index ≤ lastLogIndex`),
`Props/C08Step.lean` how `(latest, committed)` MOVE in a step, `Props/C12Track.lean` that the FSM's cached configuration
and every snapshot label are the newest configuration entry at or below their index. Here is the CONTENT statement.

`LatestIsNewest s` (= `Latest.LN s`, Lemmas/LatestRel.lean), with `label s` the configuration in the meta file of the
newest snapshot (zero configuration if there is none) and `newest log L i` the newest (decodable) configuration entry of
`log` with index `≤ i`, else `L` (`Track.newest`):
* `latest`    : `s.configs.latest = newest s.log (label s) s.log.last` — by `latest_above_snapshot` (with the label's
                self-consistency `Tracks.lab`) this is: the newest configuration entry ABOVE `s.snapIndex`, with index and
                term of that entry; if there is none, the label of the newest snapshot;
* `committed` : `s.configs.committed` is `s.configs.latest` itself, or it lies strictly below it
                (`committed.index < latest.index`) and — as long as the commit index has not passed `latest.index` — it
                is the newest configuration STRICTLY BELOW `latest` (entry, else label): the previous `latest`. This is
                what the code maintains: `Raft.changeConfig` sets `committed := latest` (on a follower merely the
                previous `latest`, committed cluster-wide or not), `Raft.commitConfig` sets `committed := latest`,
                `Raft.revertConfig` goes back to it. (The proviso on the commit index is always met in states reached
                without a replication reporting a match index beyond the leader's log; under `Order.ReqOk` alone it
                cannot be dropped — `exBeyond`.)

The invariant is inductive for EVERY operation, oracle and input (`latest_is_newest_step`; the append request is where
`AppendOk`'s clause "a conflict lies above `committed.index`" is used), a restart establishes it from every well-formed disk
(`restart_latest_is_newest`), and with it `CfgRel.LogInv` goes through append requests (`log_inv_append`: the case missing in
`C08Step.at_most_one_uncommitted_log_partial`). Necessity examples for the hypotheses; nothing reachable was found.

`NoFallback s op` concerns `snapRun` (and `Shutdown`, which waits for a pending snapshot) only: the snapshot goroutine
does not take the fallback "label the snapshot with the configuration captured at request time because the FSM reports
none". It is taken only when the FSM holds no configuration, and then (`C12Track.Tracks`, clause `cfgZero`) the log
holds NO configuration entry at or below the applied index — not reachable in a cluster (entry 1 of every log is the
bootstrap configuration; every label a leader sends has index ≥ 1); when it is taken the label becomes a configuration
that was `configs.committed` at some EARLIER time, whatever `latest` is now (`exFallback`).
-/
import RaftVerif.Lemmas.LatestRel
import RaftVerif.Props.C12Track
import RaftVerif.Props.C08Step

namespace Raft
namespace C19Latest
open Node Order Track Latest

/-- **The latest configuration is the newest configuration entry in log ∪ snapshot** (see the file header). -/
abbrev LatestIsNewest (s : Node) : Prop := Latest.LN s

instance (log : NLog) (L : Config) (cs : Configs) (ci m : Nat) : Decidable (LNc log L cs ci m) :=
  decidable_of_iff
    (cs.latest = newest log L m ∧
      (cs.committed = cs.latest ∨
        (cs.committed.index < cs.latest.index ∧
          (ci < cs.latest.index → cs.committed = newest log L (cs.latest.index - 1)))))
    ⟨fun ⟨a, b⟩ => ⟨a, b⟩, fun h => ⟨h.latest, h.committed⟩⟩

instance (s : Node) : Decidable (LatestIsNewest s) := by unfold LatestIsNewest Latest.LN; infer_instance

/-- **The invariant is inductive.** From an ordered, tracking state in which the latest configuration is the newest
configuration entry of log ∪ snapshot (and the committed one the latest or the previous latest), an operation acceptable
in the sense of `Order.ReqOk` (any operation but a malformed append/install request) that does not take the snapshot
fallback (`NoFallback`), handled to completion without a Go panic, leads to such a state — for every oracle (`rollAt`,
`orders`) and every input. -/
theorem latest_is_newest_step (s : Node) (op : Op) (rollAt : List Nat) (orders : List (List Nat))
    (hl : LatestIsNewest s) (ht : C12Track.Tracks s) (ho : Ordered s) (hr : ReqOk s op) (hfb : NoFallback s op)
    (hp : (s.step op rollAt orders).panicked = none) : LatestIsNewest (s.step op rollAt orders) :=
  (li_stepAll op rollAt orders ho ht.toCore ht.queue hl hr hfb).2 hp

/-- every operation of the run is acceptable in the state it is handled in, does not take the snapshot fallback, and is
handled to completion -/
def RunOk : Node → List (Op × List Nat × List (List Nat)) → Prop
  | _, [] => True
  | s, o :: os =>
    ReqOk s o.1 ∧ NoFallback s o.1 ∧ (s.step o.1 o.2.1 o.2.2).panicked = none ∧ RunOk (s.step o.1 o.2.1 o.2.2) os

/-- **over any sequence of events** the three invariants (`LatestIsNewest`, `Tracks`, `Ordered`) survive together -/
theorem latest_is_newest_run (s : Node) (ops : List (Op × List Nat × List (List Nat))) (hl : LatestIsNewest s)
    (ht : C12Track.Tracks s) (ho : Ordered s) (hr : RunOk s ops) :
    LatestIsNewest (C19Order.run s ops) ∧ C12Track.Tracks (C19Order.run s ops) ∧ Ordered (C19Order.run s ops) := by
  induction ops generalizing s with
  | nil => exact ⟨hl, ht, ho⟩
  | cons o os ih =>
    obtain ⟨h1, h2, h3, h4⟩ := hr
    exact ih _ (latest_is_newest_step s o.1 o.2.1 o.2.2 hl ht ho h1 h2 h3)
      (C12Track.tracks_step s o.1 o.2.1 o.2.2 ht ho h1 h3) (C19Order.ordered_step s o.1 o.2.1 o.2.2 ho h1 h3) h4

/-- **from a good state no completion hypothesis is needed** (`C15NoPanic.good_step_noPanic`: a good, open node
handling an operation acceptable in the sense of `NoPanic.ReqOk'` does not fail, up to the MODEL's recursion budget). -/
theorem latest_is_newest_step_good {T : Bool} (s : Node) (op : Op) (rollAt : List Nat) (orders : List (List Nat))
    (hl : LatestIsNewest s) (ht : C12Track.Tracks s) (hG : NoPanic.Good T s) (ho : s.closed = "")
    (hr : NoPanic.ReqOk' T s op) (hfb : NoFallback s op) (hf : (s.step op rollAt orders).panicked ≠ some "fuel") :
    LatestIsNewest (s.step op rollAt orders) :=
  latest_is_newest_step s op rollAt orders hl ht hG.ordered hr.toReqOk hfb
    (C15NoPanic.good_step_noPanic s op rollAt orders hG ho hr hf)

/-- **in the words of the property**: `configs.latest` is the newest configuration entry of the log ABOVE the snapshot
index (`Latest.seg s.log s.snapIndex s.log.last`: the configurations decoded from the entries with index in
`(snapIndex, last]`, oldest first, each with index and term of its entry), and the label of the newest snapshot if there
is none (the zero configuration if there is no snapshot). -/
theorem latest_above_snapshot (s : Node) (hl : LatestIsNewest s) (ht : C12Track.Tracks s) (ho : Ordered s) :
    s.configs.latest = ((seg s.log s.snapIndex s.log.last).getLast?).getD (label s) := by
  have h1 := ho.snap_le_applied
  have h2 := ht.fsmLe
  exact hl.above_snapshot ht.lab (by omega)

/-- without a snapshot the label is the zero configuration -/
theorem label_no_snapshot (s : Node) (h : s.snapsDisk = []) : label s = {} := by
  unfold label; rw [h]; rfl

/-- **no configuration entry of the log lies beyond `latest`**: every (decodable) configuration entry of the log has an
index at or below `configs.latest.index` -/
theorem latest_index_max (s : Node) (hl : LatestIsNewest s) (ht : C12Track.Tracks s) (e : Entry) (c : Config)
    (he : e ∈ s.log.entries) (hc : e.config? = some c) : e.index ≤ s.configs.latest.index := by
  have hmem : c ∈ pre s.log s.log.last := by
    rw [pre_last]; exact List.mem_filterMap.mpr ⟨e, he, hc⟩
  rw [hl.latest, ← (Entry.config?_facts hc).2.1]
  exact newest_ge ht.contig _ hmem

/-- **the committed configuration is the latest or the previous latest**: when `committed ≠ latest` it lies strictly
below `latest`, and (commit index still below `latest.index` — always so unless a replication reported a match index
beyond the leader's log, `C19Order.commit_beyond_log_panics`) it is the newest configuration entry strictly below
`latest`, else the label. -/
theorem committed_previous (s : Node) (hl : LatestIsNewest s) (hne : s.configs.committed ≠ s.configs.latest) :
    s.configs.committed.index < s.configs.latest.index ∧
    (s.commitIndex < s.configs.latest.index →
      s.configs.committed = newest s.log (label s) (s.configs.latest.index - 1)) := by
  rcases hl.committed with h | h
  · exact absurd h hne
  · exact h

/-- **at most one configuration entry beyond `committed`** (the decodable part of `CfgRel.LogInv`, derived): while the
commit index has not passed an uncommitted `latest`, every configuration entry of the log is the entry of
`configs.latest` or lies at or below `configs.committed.index`. -/
theorem cfg_entries_below (s : Node) (hl : LatestIsNewest s) (ht : C12Track.Tracks s)
    (hci : s.configs.committed = s.configs.latest ∨ s.commitIndex < s.configs.latest.index)
    (e : Entry) (c : Config) (he : e ∈ s.log.entries) (hc : e.config? = some c) :
    e.index ≤ s.configs.committed.index ∨ e.index = s.configs.latest.index := by
  have hmax := latest_index_max s hl ht e c he hc
  rcases hl.committed with h | ⟨hlt0, h⟩
  · left; rw [h]; exact hmax
  · have hlt : s.commitIndex < s.configs.latest.index := by
      rcases hci with h' | h'
      · rw [h'] at hlt0; exact absurd hlt0 (Nat.lt_irrefl _)
      · exact h'
    by_cases heq : e.index = s.configs.latest.index
    · exact Or.inr heq
    · left
      -- the entry lies at or below `latest.index - 1`, hence at or below the newest configuration there
      obtain ⟨k, hk, rfl⟩ := List.getElem_of_mem he
      have hidx := ht.contig k hk
      have hmem : c ∈ pre s.log (s.configs.latest.index - 1) := by
        unfold pre
        refine List.mem_filterMap.mpr ⟨s.log.entries[k], ?_, hc⟩
        rw [List.mem_take_iff_getElem]
        exact ⟨k, by rw [Nat.lt_min]; exact ⟨by omega, hk⟩, rfl⟩
      rw [h hlt, ← (Entry.config?_facts hc).2.1]
      exact newest_ge ht.contig _ hmem

/-- **a restart establishes the invariant** (`openStorage` + `New` + the restore step of `Serve`) from every disk
that is well formed in the sense of `C19Order.DiskOK` (log at or below the newest snapshot, entries stored under their
index, the label's index at or below the snapshot index) and `C12Track.DiskTracks` (the label is the newest
configuration at or below the snapshot index) without an undecodable configuration entry above the snapshot:
`scanConfigs` finds the newest two configuration entries above the snapshot, each falling back to the label. -/
theorem restart_latest_is_newest (d : Durable) (r : Nat) (sor : Bool) (n : Node) (hd : C19Order.DiskOK d)
    (ht : C12Track.DiskTracks d)
    (hok : C10.NoDecodeErr (C10.window (C10.logOf d) (C10.snapOf d).index (C10.logOf d).last))
    (h : restart d r sor = some n) : LatestIsNewest n := by
  obtain ⟨_, _, _, hlog, _, hcfg, _⟩ := C10.restart_fsm d r sor n h
  obtain ⟨_, hl, hc⟩ := C10.restart_configs d r sor hd.durWF hok
  obtain ⟨_, _, e3, _⟩ := C10.restartNode_fields d r sor
  have hL : label n = (C10.snapOf d).config := restart_label h
  have hcontig : C03.LogContig (C10.logOf d) := C10.logOf_ind d (fun _ => C03.LogContig.reset _) fun _ => ht.contig
  have hsl : (C10.snapOf d).index ≤ (C10.logOf d).last :=
    C10.logOf_ind (P := fun l => (C10.snapOf d).index ≤ l.last) d (fun _ => Nat.le_add_right _ 0) fun hle => hle
  have hscan := LNc.of_scan (ci := n.commitIndex) hcontig hsl ht.lab hd.label
  -- `configsAbove` is the reversed segment above the snapshot
  have hca : C10.configsAbove d = (seg (C10.logOf d) (C10.snapOf d).index (C10.logOf d).last).reverse := by
    unfold C10.configsAbove C10.window seg
    rw [List.filterMap_reverse]
  rw [hca] at hl hc
  have hcs : n.configs = ⟨(((seg (C10.logOf d) (C10.snapOf d).index (C10.logOf d).last).reverse)[1]?).getD (C10.snapOf d).config,
      (((seg (C10.logOf d) (C10.snapOf d).index (C10.logOf d).last).reverse)[0]?).getD (C10.snapOf d).config⟩ := by
    rw [hcfg, ← hl, ← hc]
  -- the restarted log is `logOf d` up to the flushed mark
  have hpre : ∀ j, pre n.log j = pre (C10.logOf d) j := by intro j; rw [hlog, e3]; rfl
  have hlast : n.log.last = (C10.logOf d).last := by rw [hlog, e3]; rfl
  unfold LatestIsNewest Latest.LN
  rw [hL, hcs, hlast]
  exact hscan.transfer (by unfold newest; rw [hpre]) (fun hlt => ⟨hlt, by unfold newest; rw [hpre]⟩)

/-- `replyRPC` completes only for a handler that completed and did not answer `unexpectedErr` -/
theorem rpcDone_ok (x : Node) (a b : Bool) (hp : (x.rpcDone a b).panicked = none) :
    x.panicked = none ∧ x.result ≠ rUnexpectedErr := by
  unfold Node.rpcDone at hp
  split at hp
  · exact absurd hp (panic_panicked_ne _ _)
  · rename_i h; exact ⟨hp, h⟩

/-- **at most one uncommitted configuration entry in the log, through append requests** — the case missing in
`C08Step.at_most_one_uncommitted_log_partial`: `CfgRel.LogInv` (every entry of type `entryConfig` in the log lies at or
below `configs.committed.index` or is the entry of `configs.latest`; `committed.index ≤ latest.index`) is preserved by an
append-entries request that satisfies `Order.AppendOk` (or is stale) and is handled to completion, from an ordered
tracking state (`Ordered`, `Tracks`: they supply the index facts — entries are appended at `lastLogIndex + 1`, a
truncation happens above the snapshot and the commit index, the log is index-contiguous). What survives a truncation
lies below the conflict, hence — when `latest` goes — at or below `committed`, which `revertConfig` makes the latest
again; an adopted entry becomes `latest` and the old `latest` becomes `committed`. (The clause of `AppendOk` "a conflict
lies above `configs.committed.index`" is needed for `committed.index ≤ latest.index ≤ lastLogIndex` and for
`LatestIsNewest` — `nec_conflict_below_committed` —, not for the entries themselves.) An undecodable configuration entry
in the request stops the loop with the entry stored but not adopted — and makes `replyRPC` panic (`unexpectedErr`):
such a step does not complete. -/
theorem log_inv_append (s : Node) (q : AppendReq) (rollAt : List Nat) (orders : List (List Nat))
    (hl : CfgRel.LogInv s) (ht : C12Track.Tracks s) (ho : Ordered s) (hr : ReqOk s (.append q))
    (hp : (s.step (.append q) rollAt orders).panicked = none) :
    CfgRel.LogInv (s.step (.append q) rollAt orders) := by
  have hord := C19Order.ordered_step s (.append q) rollAt orders ho hr hp
  refine ⟨?_, hord.committed_le_latest⟩
  have hst : s.step (.append q) rollAt orders =
      settle 6 ((s.begin rollAt orders).handle (.append q)) (s.begin rollAt orders).role := rfl
  have hh : (s.begin rollAt orders).handle (.append q) =
      ((s.begin rollAt orders).onAppendEntries q).rpcDone false true := rfl
  have hbegin : CI s true false (s.begin rollAt orders) :=
    ⟨ti_begin rollAt orders ho ht.toCore (fun e => Bool.noConfusion e), fun _ => cfgLog_congr hl.1 rfl rfl⟩
  have hr' : q.term < (s.begin rollAt orders).term ∨ AppendOk (s.begin rollAt orders) q := hr
  obtain ⟨_, hcl⟩ := ci_onAppendEntries q hbegin hr'
  have hrd := CfgRel.q_rpcDone ((s.begin rollAt orders).onAppendEntries q) false true
  -- the handler's result, when `replyRPC` completed
  have hH : ((s.begin rollAt orders).handle (.append q)).panicked = none →
      CfgRel.CfgLog ((s.begin rollAt orders).handle (.append q)) := by
    intro hp'
    rw [hh] at hp' ⊢
    obtain ⟨a, b⟩ := rpcDone_ok _ _ _ hp'
    unfold CfgRel.CfgLog
    rw [hrd.configs, hrd.entries]
    exact hcl a b
  rw [hst] at hp ⊢
  rcases CfgRel.onAppendEntries_fi (s := s) (op := .append q) (s.begin rollAt orders) q rfl .start (Nat.le_refl _)
    with h | h
  · -- stale term: the role did not change, no role transition
    have hrole : (s.begin rollAt orders).role = ((s.begin rollAt orders).handle (.append q)).role := by
      rw [hh, hrd.role, h]; rfl
    rw [hrole, Node.settle_same] at hp ⊢
    exact hH hp
  · -- otherwise the node is a follower now: releasing the old role touches neither log nor configurations
    have hfol : ((s.begin rollAt orders).handle (.append q)).role = .follower := by rw [hh, hrd.role]; exact h.role
    have hq := CfgRel.settle_follower_q _ (s.begin rollAt orders).role hfol
    have := hH (hq.pan' hp)
    unfold CfgRel.CfgLog at *
    rw [hq.configs, hq.entries]
    exact this

/-- **… hence for EVERY operation**: `C08Step.at_most_one_uncommitted_log_partial` for the others -/
theorem log_inv_step (s : Node) (op : Op) (rollAt : List Nat) (orders : List (List Nat))
    (hl : CfgRel.LogInv s) (ht : C12Track.Tracks s) (ho : Ordered s) (hr : ReqOk s op) (hsc : CfgRel.SelfCache s)
    (hanch : CfgRel.AnchC s.configs.latest) (hok : CfgRel.OpOk op)
    (hp : (s.step op rollAt orders).panicked = none) : CfgRel.LogInv (s.step op rollAt orders) := by
  by_cases ha : ∃ q, op = .append q
  · obtain ⟨q, rfl⟩ := ha
    exact log_inv_append s q rollAt orders hl ht ho hr hp
  · exact C08Step.at_most_one_uncommitted_log_partial s op rollAt orders hsc ho.latest_le_last hanch hok hl
      (fun q h => ha ⟨q, h⟩) hp

/-- an operation other than `snapRun` / `Shutdown` cannot take the snapshot fallback; nor can these when the FSM
holds a configuration -/
theorem noFallback_of_cfg (s : Node) (op : Op) (h : 0 < s.fsm.config.index) : NoFallback s op := by
  cases op <;> first | trivial | exact fun _ _ _ _ => h

/-- EXAMPLE state `C12Track.exT`: a follower with a snapshot at 1 labelled `c1` (the bootstrap configuration, compacted
away), entries 2 (no-op), 3 (configuration `c3`), 4 (update); `configs = ⟨c1, c3⟩`, commit index 2. Its latest
configuration is entry 3, its committed one the label — the newest configuration strictly below entry 3. -/
example :
    LatestIsNewest C12Track.exT ∧ C12Track.Tracks C12Track.exT ∧ Ordered C12Track.exT ∧
    seg C12Track.exT.log C12Track.exT.snapIndex C12Track.exT.log.last = [C12Track.c3] ∧
    C12Track.exT.configs.committed = label C12Track.exT :=
  ⟨by decide, C12Track.exT_tracks, C12Track.exT_ordered, by decide, by decide⟩

/-- EXAMPLE (`latest_is_newest_step`, commit): the hypotheses hold for `exT` and a heartbeat of the leader that has
committed up to 4; the step commits configuration 3: `committed = latest = c3`. -/
example :
    ReqOk C12Track.exT (.append C12Track.exBeat) ∧ NoFallback C12Track.exT (.append C12Track.exBeat) ∧
    (C12Track.exT.step (.append C12Track.exBeat) [] []).panicked = none ∧
    (C12Track.exT.step (.append C12Track.exBeat) [] []).configs = ⟨C12Track.c3, C12Track.c3⟩ ∧
    LatestIsNewest (C12Track.exT.step (.append C12Track.exBeat) [] []) :=
  ⟨by decide, trivial, by decide, by decide,
   latest_is_newest_step _ _ _ _ (by decide) C12Track.exT_tracks C12Track.exT_ordered (by decide) trivial (by decide)⟩

/-- a request of a new leader (term 2) whose entry 3 conflicts with the follower's configuration entry 3 -/
def exConflict3 : AppendReq :=
  { term := 2, src := 2, prevLogIndex := 2, prevLogTerm := 1, entries := [{ index := 3, term := 2, typ := etNop }] }

/-- … and one whose entry 4 conflicts: the configuration entry 3 is not touched -/
def exConflict4 : AppendReq :=
  { term := 2, src := 2, prevLogIndex := 3, prevLogTerm := 1, entries := [{ index := 4, term := 2, typ := etNop }] }

/-- EXAMPLE (`latest_is_newest_step`, truncation, the boundary of the guard of `revertConfig`): a conflict AT
`latest.index = 3` (above the commit index 2 and `committed.index = 1`: acceptable) removes the configuration entry;
`revertConfig` goes back to `committed = c1` — the label, which has taken over from the compacted entry 1. A conflict at
4 leaves entry 3 in place, and `latest = c3` stays. (`ne.index ≤ configs.latest.index` is exactly the right guard.) -/
example :
    ReqOk C12Track.exT (.append exConflict3) ∧ (C12Track.exT.step (.append exConflict3) [] []).panicked = none ∧
    (C12Track.exT.step (.append exConflict3) [] []).configs = ⟨C12Track.c1, C12Track.c1⟩ ∧
    LatestIsNewest (C12Track.exT.step (.append exConflict3) [] []) ∧
    ReqOk C12Track.exT (.append exConflict4) ∧ (C12Track.exT.step (.append exConflict4) [] []).panicked = none ∧
    (C12Track.exT.step (.append exConflict4) [] []).configs = ⟨C12Track.c1, C12Track.c3⟩ ∧
    LatestIsNewest (C12Track.exT.step (.append exConflict4) [] []) :=
  ⟨by decide, by decide, by decide,
   latest_is_newest_step _ _ _ _ (by decide) C12Track.exT_tracks C12Track.exT_ordered (by decide) trivial (by decide),
   by decide, by decide, by decide,
   latest_is_newest_step _ _ _ _ (by decide) C12Track.exT_tracks C12Track.exT_ordered (by decide) trivial (by decide)⟩

/-- two configuration entries, 5 and 6, sent in one request -/
def exC5 : Config := { nodes := [C12Track.n1, C12Track.n2, { id := 3, addr := "c:1" }], index := 5, term := 1 }
def exC6 : Config := { nodes := [C12Track.n1, C12Track.n2, { id := 3, addr := "c:1", voter := true }], index := 6, term := 1 }
def exTwo : AppendReq :=
  { term := 1, src := 2, prevLogIndex := 4, prevLogTerm := 1, ldrCommitIndex := 5, entries := [exC5.toEntry, exC6.toEntry] }

/-- EXAMPLE (adoption; on a follower `committed` is merely the previous `latest`): `exT` receives entries 5 and 6, both
configurations, in one request. Afterwards `latest` = entry 6 and `committed` = entry 5 — the newest configuration
strictly below `latest` —, although the follower's commit index is 4 only. -/
example :
    ReqOk C12Track.exT (.append exTwo) ∧ (C12Track.exT.step (.append exTwo) [] []).panicked = none ∧
    (C12Track.exT.step (.append exTwo) [] []).configs = ⟨exC5, exC6⟩ ∧
    (C12Track.exT.step (.append exTwo) [] []).commitIndex = 4 ∧
    LatestIsNewest (C12Track.exT.step (.append exTwo) [] []) :=
  ⟨by decide, by decide, by decide, by decide,
   latest_is_newest_step _ _ _ _ (by decide) C12Track.exT_tracks C12Track.exT_ordered (by decide) trivial (by decide)⟩

/-- a new leader (term 2) whose entry 6 conflicts with the follower's configuration entry 6 -/
def exConflict6 : AppendReq :=
  { term := 2, src := 2, prevLogIndex := 5, prevLogTerm := 1, ldrCommitIndex := 4,
    entries := [{ index := 6, term := 2, typ := etNop }] }

/-- … and the same leader sending the configuration entry 5 together with its entry 6 -/
def exFiveSix : AppendReq :=
  { term := 2, src := 2, prevLogIndex := 4, prevLogTerm := 1, ldrCommitIndex := 4,
    entries := [exC5.toEntry, { index := 6, term := 2, typ := etNop }] }

/-- EXAMPLE (why the clause `committed` of `LNc` is a disjunction): **`configs.committed` is not a function of log,
snapshot and commit index.** Two runs from `exT`, every request acceptable, no panic, end with the same log entries,
snapshot files, snapshot index, commit index (4), applied state, term, role and `configs.latest` (entry 5) — and with
different `configs.committed`. Run A adopts entries 5 and 6 (`⟨c5, c6⟩`), then a conflict at 6 makes `revertConfig` go back
to `⟨c5, c5⟩`; run B commits entry 3 with a heartbeat, then receives entry 5 and the same entry 6: `⟨c3, c5⟩`. `revertConfig`
forgets which of the two cases of the clause held; so does a restart (`scanConfigs` returns the previous entry). Both
values are configurations committed cluster-wide. -/
example :
    let a1 := C12Track.exT.step (.append exTwo) [] []
    let a := a1.step (.append exConflict6) [] []
    let b1 := C12Track.exT.step (.append C12Track.exBeat) [] []
    let b := b1.step (.append exFiveSix) [] []
    ReqOk C12Track.exT (.append exTwo) ∧ ReqOk a1 (.append exConflict6) ∧
    ReqOk C12Track.exT (.append C12Track.exBeat) ∧ ReqOk b1 (.append exFiveSix) ∧
    a.panicked = none ∧ b.panicked = none ∧
    a.log.entries = b.log.entries ∧ a.log.prev = b.log.prev ∧ a.snapsDisk = b.snapsDisk ∧ a.snapIndex = b.snapIndex ∧
    a.commitIndex = b.commitIndex ∧ a.fsm = b.fsm ∧ a.term = b.term ∧ a.role = b.role ∧
    a.configs.latest = b.configs.latest ∧ a.configs.committed.index = 5 ∧ b.configs.committed.index = 3 := by
  decide

/-- the heartbeat, then a user snapshot: request, the snapshot goroutine, its completion (with compaction) -/
def exRunOps : List (Op × List Nat × List (List Nat)) :=
  [(.append C12Track.exBeat, [], []), (.takeSnapshot 7 0, [], []), (.snapRun, [], []), (.snapTaken, [], [])]

/-- EXAMPLE (`latest_is_newest_run`, snapshot: entries at or below the snapshot drop out and the label takes over): the
run is acceptable (`snapRun` does not take the fallback: the FSM holds `c3`); afterwards the snapshot index is 4, no
configuration entry lies above it, and `latest` = the label `c3`. -/
example :
    RunOk C12Track.exT exRunOps ∧
    (C19Order.run C12Track.exT exRunOps).snapIndex = 4 ∧
    seg (C19Order.run C12Track.exT exRunOps).log 4 (C19Order.run C12Track.exT exRunOps).log.last = [] ∧
    label (C19Order.run C12Track.exT exRunOps) = C12Track.c3 ∧
    (C19Order.run C12Track.exT exRunOps).configs = ⟨C12Track.c3, C12Track.c3⟩ ∧
    LatestIsNewest (C19Order.run C12Track.exT exRunOps) := by
  have hr : RunOk C12Track.exT exRunOps := by
    refine ⟨by decide, trivial, by decide, trivial, trivial, by decide, trivial, ?_, by decide, trivial, trivial,
      by decide, trivial⟩
    intro rq _ _ _
    decide
  exact ⟨hr, by decide, by decide, by decide, by decide,
    (latest_is_newest_run _ _ (by decide) C12Track.exT_tracks C12Track.exT_ordered hr).1⟩

theorem exL_ordered : Ordered C08Step.exL :=
  ⟨⟨by decide, by decide, by decide, by decide, by decide, by decide, ⟨by decide, by decide, by decide⟩, by decide,
    fun rs h => by cases h⟩, by decide⟩

/-- EXAMPLE (leader side): the leader `C08Step.exL` (entries 1..3, entry 1 the configuration {1, 2 voters, 3 being
promoted}) learns that node 3 has caught up (`C08Step.exPromote`) and introduces configuration 4: `latest` = entry 4,
`committed` = entry 1. (The step's completion is checked by evaluation below: `majorityMatchIndex` sorts.) -/
example (hp : (C08Step.exL.step C08Step.exPromote [] []).panicked = none) :
    LatestIsNewest (C08Step.exL.step C08Step.exPromote [] []) :=
  latest_is_newest_step _ _ _ _ (by decide) (by decide) exL_ordered trivial trivial hp

#guard (C08Step.exL.step C08Step.exPromote [] []).panicked = none
#guard (C08Step.exL.step C08Step.exPromote [] []).log.entries.map (fun e => (e.index, e.config?.isSome)) =
  [(1, true), (2, false), (3, false), (4, true)]
#guard (C08Step.exL.step C08Step.exPromote [] []).configs.latest.index = 4
#guard (C08Step.exL.step C08Step.exPromote [] []).configs.committed = C08Step.exL.configs.latest
#guard decide (LatestIsNewest (C08Step.exL.step C08Step.exPromote [] []))

/-- EXAMPLE (`restart_latest_is_newest`): the disk `C10.exDisk` (snapshot at 2 labelled {9}, entries 3 (no-op) and 4
(configuration {1})) satisfies the hypotheses; the restarted node holds `latest` = entry 4, `committed` = the label. -/
example :
    C19Order.DiskOK C10.exDisk → C12Track.DiskTracks C10.exDisk ∧
    C10.NoDecodeErr (C10.window (C10.logOf C10.exDisk) (C10.snapOf C10.exDisk).index (C10.logOf C10.exDisk).last) ∧
    ((restart C10.exDisk 1 true).map (fun n => (n.configs.latest.index, n.configs.committed == label n,
      decide (LatestIsNewest n)))) = some (4, true, true) := by
  intro _
  refine ⟨by decide, by unfold C10.NoDecodeErr; decide, by decide⟩

/-- EXAMPLE (`log_inv_append`): `CfgRel.LogInv` holds for `exT` and survives the request carrying two configuration
entries (beyond `committed` = entry 5 the log then holds entry 6 only) and the truncating request. -/
example :
    CfgRel.LogInv C12Track.exT ∧ CfgRel.LogInv (C12Track.exT.step (.append exTwo) [] []) ∧
    CfgRel.LogInv (C12Track.exT.step (.append exConflict3) [] []) := by
  have h : CfgRel.LogInv C12Track.exT := by unfold CfgRel.LogInv CfgRel.CfgLog; decide
  exact ⟨h, log_inv_append _ _ _ _ h C12Track.exT_tracks C12Track.exT_ordered (by decide) (by decide),
    log_inv_append _ _ _ _ h C12Track.exT_tracks C12Track.exT_ordered (by decide) (by decide)⟩

/-! ### necessity of the hypotheses of `latest_is_newest_step`

Each example: a state satisfying the other hypotheses, an operation violating (only) the one in question, the step
completes (no panic) and the result does not satisfy `LatestIsNewest`. None is reachable in a correct cluster. -/

/-- NECESSITY of `AppendOk`, clause "a conflicting entry lies above `configs.committed.index`" — the situation of the
seeded defect "revertConfig guard off by one": a configuration whose entry was overwritten stays in force.
`C19Order.nec3`: entries 5 and 6 are configurations, `configs = ⟨entry 5, entry 6⟩`, commit index 3. A request whose
entry 4 conflicts (above the commit index, but NOT above `committed.index = 5`) truncates at 4; `revertConfig` makes
`latest := committed` = the configuration of entry 5 — which has just been deleted. The node now runs under a
configuration no entry of its log (and no snapshot) carries. NOT reachable: a leader appends a configuration only when
the previous one is committed cluster-wide (`canChangeConfig`), so a follower's `configs.committed` is never
truncated by a later leader (leader completeness, C02/C03). -/
theorem nec_conflict_below_committed :
    let q : AppendReq := { term := 2, src := 2, prevLogIndex := 3, prevLogTerm := 1,
                           entries := [{ index := 4, term := 2, typ := etNop }] }
    let s' := C19Order.nec3.step (.append q) [] []
    LatestIsNewest C19Order.nec3 ∧ C12Track.Tracks C19Order.nec3 ∧ Ordered C19Order.nec3 ∧
    ¬ ReqOk C19Order.nec3 (.append q) ∧ C19Order.nec3.commitIndex < 4 ∧
    s'.panicked = none ∧ s'.configs.latest.index = 5 ∧ s'.log.entries.filterMap Entry.config? = [] ∧
    ¬ LatestIsNewest s' :=
  ⟨by decide, by decide, C19Order.nec3_ordered, by decide, by decide, by decide, by decide, by decide, by decide⟩

/-- NECESSITY of `AppendOk`, clause "consecutive entries": entries 5, 6 (two configurations) followed by a conflicting
entry 4 in ONE request (`C19Order`): no single entry conflicts at or below `committed.index` when the request arrives,
but the truncation at 4 reverts to the configuration of entry 5, adopted and deleted within the same request. NOT
reachable: a replication sends a contiguous log view. -/
example :
    let q : AppendReq :=
      { term := 1, src := 2, prevLogIndex := 4, prevLogTerm := 1,
        entries := [{ index := 5, term := 1, typ := etConfig, cfg := some {} },
                    { index := 6, term := 1, typ := etConfig, cfg := some {} }, { index := 4, term := 2, typ := etNop }] }
    let s' := C19Order.nec1.step (.append q) [] []
    LatestIsNewest C19Order.nec1 ∧ C12Track.Tracks C19Order.nec1 ∧ Ordered C19Order.nec1 ∧
    chainB q.prevLogIndex q.entries = false ∧ s'.panicked = none ∧ s'.configs.latest.index = 5 ∧
    s'.lastLogIndex = 4 ∧ ¬ LatestIsNewest s' :=
  ⟨by decide, by decide, C19Order.nec1_ordered, by decide, by decide, by decide, by decide, by decide⟩

/-- a state in which the snapshot goroutine takes the fallback: entries 1..4 are no-ops (no configuration at all), the
pending request captured a configuration of index 7 -/
def exFallback : Node :=
  { C19Order.nec1 with
    commitIndex := 4
    fsm := { index := 4, term := 1 }
    snapPending := some { task := 1, minIndex := 0, config := { nodes := [C12Track.n1], index := 7, term := 1 } } }

theorem exFallback_ordered : Ordered exFallback :=
  ⟨⟨by decide, by decide, by decide, by decide, by decide, by decide, ⟨by decide, by decide, by decide⟩, by decide,
    fun rs h => by cases h⟩, by decide⟩

/-- NECESSITY of `NoFallback`: in `exFallback` the FSM holds no configuration; `snapRun` labels the snapshot at 4 with
the configuration captured at request time. The node's `latest` (the zero configuration: it has never seen one) is not
that label. NOT reachable: entry 1 of every log is the bootstrap configuration, every label a leader sends has index
`≥ 1`, so an FSM that has applied anything holds a configuration. -/
example :
    LatestIsNewest exFallback ∧ C12Track.Tracks exFallback ∧ Ordered exFallback ∧ ¬ NoFallback exFallback .snapRun ∧
    (exFallback.step .snapRun [] []).panicked = none ∧
    label (exFallback.step .snapRun [] []) = { nodes := [C12Track.n1], index := 7, term := 1 } ∧
    (exFallback.step .snapRun [] []).configs.latest = {} ∧ ¬ LatestIsNewest (exFallback.step .snapRun [] []) := by
  refine ⟨by decide, by decide, exFallback_ordered, ?_, by decide, by decide, by decide, by decide⟩
  intro h
  have := h { task := 1, minIndex := 0, config := { nodes := [C12Track.n1], index := 7, term := 1 } } rfl
    (by decide) (by decide)
  revert this
  decide

/-- a follower whose snapshot at 3 carries a WRONG label ({2}, index 1) while the log (entries 1..4, segments [0, 3])
still holds the configuration entry 2 = {1}; `configs` = entry 2; a finished snapshot waits for `onSnapshotTaken` -/
def exLab : Node :=
  { nid := 1, term := 1, durTerm := 1,
    log := { prev := 0, entries := [{ index := 1, term := 1, typ := etNop },
                                     { index := 2, term := 1, typ := etConfig, cfg := some { nodes := [C12Track.n1] } },
                                     { index := 3, term := 1, typ := etNop }, { index := 4, term := 1, typ := etNop }],
             flushed := 4, segs := [0, 3] },
    lastLogIndex := 4, lastLogTerm := 1, snapIndex := 3, snapTerm := 1,
    snapsDisk := [{ index := 3, term := 1, config := { nodes := [C12Track.n2], index := 1, term := 1 } }],
    configs := { committed := { nodes := [C12Track.n1], index := 2, term := 1 },
                 latest := { nodes := [C12Track.n1], index := 2, term := 1 } },
    commitIndex := 3, fsm := { index := 3, term := 1, config := { nodes := [C12Track.n1], index := 2, term := 1 } },
    snapResult := some { task := 1, index := 3 } }

theorem exLab_ordered : Ordered exLab :=
  ⟨⟨by decide, by decide, by decide, by decide, by decide, by decide, ⟨by decide, by decide, by decide⟩, by decide,
    fun rs h => by injection h with h; rw [← h]; decide⟩, by decide⟩

/-- NECESSITY of `Tracks` (clause `lab`: the label is the newest configuration at or below the snapshot index): in
`exLab` the latest configuration IS the newest entry of the log, but the label is not self-consistent. The compaction
of `onSnapshotTaken` drops entries 1..3; what remains of log ∪ snapshot says {2}, the node still runs under {1}.
NOT reachable: `C12Track.tracks_step`, `C12Track.every_snapshot_labelled_right`. -/
example :
    LatestIsNewest exLab ∧ Ordered exLab ∧ newest exLab.log (label exLab) exLab.snapIndex ≠ label exLab ∧
    (exLab.step .snapTaken [] []).panicked = none ∧ (exLab.step .snapTaken [] []).log.prev = 3 ∧
    (exLab.step .snapTaken [] []).configs.latest.nodes = [C12Track.n1] ∧
    (label (exLab.step .snapTaken [] [])).nodes = [C12Track.n2] ∧ ¬ LatestIsNewest (exLab.step .snapTaken [] []) :=
  ⟨by decide, exLab_ordered, by decide, by decide, by decide, by decide, by decide, by decide⟩

/-- a follower whose snapshot at 4 is labelled with a configuration of index 5 — BEYOND the snapshot and the log -/
def exOrd : Node :=
  { nid := 1, term := 1, durTerm := 1,
    log := { prev := 4, entries := [], flushed := 4, segs := [4] },
    lastLogIndex := 4, lastLogTerm := 1, snapIndex := 4, snapTerm := 1,
    snapsDisk := [{ index := 4, term := 1, config := { nodes := [C12Track.n1], index := 5, term := 1 } }],
    configs := { committed := { nodes := [C12Track.n1], index := 5, term := 1 },
                 latest := { nodes := [C12Track.n1], index := 5, term := 1 } },
    commitIndex := 4, fsm := { index := 4, term := 1, config := { nodes := [C12Track.n1], index := 5, term := 1 } } }

/-- NECESSITY of `Ordered` (clause `configs.latest.index ≤ lastLogIndex`; what `Order.InstallOk` protects): `exOrd`
holds `latest` = `committed` = its label, of index 5 > `lastLogIndex` = 4. The next configuration entry (index 5) is
adopted; `committed` (the label, index 5) is then neither `latest` nor strictly below it. NOT reachable:
`C19Order.ordered_step`. -/
example :
    let q : AppendReq := { term := 1, src := 2, prevLogIndex := 4, prevLogTerm := 1,
                           entries := [{ index := 5, term := 1, typ := etConfig,
                                         cfg := some { nodes := [C12Track.n1, C12Track.n2] } }] }
    let s' := exOrd.step (.append q) [] []
    LatestIsNewest exOrd ∧ C12Track.Tracks exOrd ∧ ¬ Ordered exOrd ∧ ReqOk exOrd (.append q) ∧
    s'.panicked = none ∧ s'.configs.committed.index = 5 ∧ s'.configs.latest.index = 5 ∧
    s'.configs.committed ≠ s'.configs.latest ∧ ¬ LatestIsNewest s' :=
  ⟨by decide, by decide, fun h => absurd h.latest_le_last (by decide), by decide, by decide, by decide, by decide,
   by decide, by decide⟩

/-- a new leader (node 1, term 2; configuration 1 = {1, 2, 3 voters, 4 being promoted and caught up}; entries 1..3, its
own no-op at 3 = `startIndex`; commit index 1) -/
def exBeyond : Node :=
  let n1 : CNode := { id := 1, addr := "a:1", voter := true }
  let n2 : CNode := { id := 2, addr := "b:1", voter := true }
  let n3 : CNode := { id := 3, addr := "c:1", voter := true }
  let n4 : CNode := { id := 4, addr := "d:1", voter := false, action := actPromote }
  let c : Config := { nodes := [n1, n2, n3, n4], index := 1, term := 1 }
  { nid := 1, cid := 7, term := 2, durTerm := 2, role := .leader, leader := 1,
    log := { entries := [c.toEntry, { index := 2, term := 1, typ := etNop }, { index := 3, term := 2, typ := etNop }],
             flushed := 3, segs := [0, 3] },
    lastLogIndex := 3, lastLogTerm := 2, commitIndex := 1, fsm := { index := 1, term := 1, config := c },
    configs := { committed := c, latest := c },
    ldr := { node := n1, numVoters := 3, startIndex := 3,
             repls := [{ id := 2, node := n2, matchIndex := 0 }, { id := 3, node := n3, matchIndex := 0 },
                       { id := 4, node := n4, matchIndex := 3, round := some { ordinal := 1, lastIndex := 3 } }] } }

/-- nodes 2 and 3 report the match index 4 — BEYOND the leader's log (last index 3); then a user snapshot -/
def exBeyondRun : List (Op × List Nat × List (List Nat)) :=
  [(.replUpdates [{ id := 2, upd := .matchIndex 4 }, { id := 3, upd := .matchIndex 4 }], [], []),
   (.takeSnapshot 1 0, [], []), (.snapRun, [], []), (.snapTaken, [], [])]

theorem exBeyond_ordered : Ordered exBeyond :=
  ⟨⟨by decide, by decide, by decide, by decide, by decide, by decide, ⟨by decide, by decide, by decide⟩, by decide,
    fun rs h => by cases h⟩, by decide⟩

/-- WHY THE PROVISO on the commit index in the clause `committed` (it cannot be dropped under `Order.ReqOk` alone):
`exBeyond` satisfies all three invariants. The quorum's match index 4 = `lastLogIndex + 1` makes `leader.setCommitIndex`
move the commit index to 4 (beyond the log); being commit-ready now, the leader promotes node 4 INSIDE that call: the
configuration entry lands at index 4 — exactly the commit index, so the `ViewAt` of `applyCommitted` does not panic — and
`configs = ⟨entry 1, entry 4⟩` with commit index 4 = `latest.index`: an uncommitted latest configuration the FSM has
already applied. The snapshot taken next (index 4) is labelled with entry 4 and the compaction drops entries 1..3: then
`committed` (entry 1) is NOT the newest configuration strictly below `latest` in log ∪ snapshot any more, while
`LatestIsNewest` (with the proviso) holds at every step. NOT reachable: a follower acknowledges entries the leader sent
(`NoPanic.ReqOk'` asks match indexes within the leader's log, and then the commit index never passes an uncommitted
`latest`). Checked by evaluation (`majorityMatchIndex` sorts): -/
example : LatestIsNewest exBeyond ∧ C12Track.Tracks exBeyond ∧ Ordered exBeyond :=
  ⟨by decide, by decide, exBeyond_ordered⟩

#guard ((exBeyond.step exBeyondRun[0]!.1 [] []).panicked, (exBeyond.step exBeyondRun[0]!.1 [] []).commitIndex,
  (exBeyond.step exBeyondRun[0]!.1 [] []).lastLogIndex, (exBeyond.step exBeyondRun[0]!.1 [] []).configs.committed.index,
  (exBeyond.step exBeyondRun[0]!.1 [] []).configs.latest.index) = (none, 4, 4, 1, 4)
#guard decide (LatestIsNewest (exBeyond.step exBeyondRun[0]!.1 [] []))
#guard (C19Order.run exBeyond exBeyondRun).panicked = none
#guard ((C19Order.run exBeyond exBeyondRun).snapIndex, (C19Order.run exBeyond exBeyondRun).log.prev,
  (label (C19Order.run exBeyond exBeyondRun)).index) = (4, 3, 4)
#guard decide (LatestIsNewest (C19Order.run exBeyond exBeyondRun))
#guard (C19Order.run exBeyond exBeyondRun).configs.committed.index = 1
#guard newest (C19Order.run exBeyond exBeyondRun).log (label (C19Order.run exBeyond exBeyondRun))
  ((C19Order.run exBeyond exBeyondRun).configs.latest.index - 1) = label (C19Order.run exBeyond exBeyondRun)

/-! NECESSITY of "the step does not panic": a Go panic kills the process; what the totalised model computes afterwards is
meaningless. Example (a limit of the MODEL, `C15NoPanic.exFuel`): when the recursion budget runs out between
`storeEntry` and `leader.changeConfig`, a configuration entry is in the log without being adopted. -/
#guard decide (LatestIsNewest (C15NoPanic.exFuel 11))
#guard ((C15NoPanic.exFuel 11).step (.replUpdates [{ id := 2, upd := .matchIndex 2 }]) [] []).panicked = some "fuel"
#guard !decide (LatestIsNewest ((C15NoPanic.exFuel 11).step (.replUpdates [{ id := 2, upd := .matchIndex 2 }]) [] []))

end C19Latest
end Raft

#print axioms Raft.C19Latest.latest_is_newest_step
#print axioms Raft.C19Latest.latest_is_newest_run
#print axioms Raft.C19Latest.latest_is_newest_step_good
#print axioms Raft.C19Latest.latest_above_snapshot
#print axioms Raft.C19Latest.latest_index_max
#print axioms Raft.C19Latest.committed_previous
#print axioms Raft.C19Latest.cfg_entries_below
#print axioms Raft.C19Latest.restart_latest_is_newest
#print axioms Raft.C19Latest.log_inv_append -- also C08
#print axioms Raft.C19Latest.log_inv_step -- also C08
#print axioms Raft.C19Latest.nec_conflict_below_committed
#print axioms Raft.C19Latest.exL_ordered
#print axioms Raft.C19Latest.exFallback_ordered
#print axioms Raft.C19Latest.exLab_ordered
#print axioms Raft.C19Latest.exBeyond_ordered
#print axioms Raft.Latest.li_stepAll
#print axioms Raft.Latest.ci_onAppendEntries
#print axioms Raft.Latest.LNc.of_scan
#print axioms Raft.Latest.block
