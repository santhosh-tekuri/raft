/-
C18 — wire and on-disk encodings round-trip and stay framed.

For every codec `T` of the Go library (model: `RaftVerif.Model.Codec`, tied to /repo by the
`codecdiff` engine) this file proves

* `roundtrip_T` : `dec_T (enc_T x ++ tail) = ok (canon_T x, tail)` for every `x` meeting the
  explicit, decidable guard `wf_T` and every `tail`;
* `truncated_T` : every proper prefix of `enc_T x` decodes to an end-of-input error
  (`io.EOF` / `io.ErrUnexpectedEOF`) — never to a value;

plus `stream_framed`, `taskresp_recognisable`, `value_file_roundtrip`, and the conjunction
`C18 : C18_statement`.

Notes.
* Value files: `openValue` parses with `strconv.ParseUint` (repo commit 7ef5cca), which is
  what `parseValue` models; every 64-bit value reads back. The pre-fix reader
  (`strconv.ParseInt`) is kept as `parseValueSigned` with `value_file_signed_counterexample`
  as a historical note.
* Task responses: `encodeTaskResp` sends `err.Error()`, and `InProgressError(s).Error()` is
  `"raft: another "+s+" in progress"`, so a client receives
  `InProgressError("raft: another "+s+" in progress")`. The property asks for recognition
  "by kind or equality": the KIND is kept and the original text is recoverable
  (`inProgressText_injective`); that the value is not equal is recorded in
  `inProgress_not_equal_remark`.
-/
import RaftVerif.Lemmas.Codec

namespace RaftVerif.C18
open RaftVerif.Codec

/-- `dec (enc x ++ tail) = ok (canon x, tail)` for all well-formed `x` and all tails. -/
def RoundTrips {α : Type} (enc : α → Bytes) (dec : Decoder α) (canon : α → α)
    (wf : α → Prop) : Prop :=
  ∀ x tail, wf x → dec (enc x ++ tail) = .ok (canon x, tail)

/-- every proper prefix of an encoding decodes to an end-of-input error, never a value. -/
def TruncSafe {α : Type} (enc : α → Bytes) (dec : Decoder α) (wf : α → Prop) : Prop :=
  ∀ x, wf x → ∀ p, p <+: enc x → p ≠ enc x → ∃ e, dec p = .error e ∧ e.isEof = true

theorem TruncSafe.of_roundTrips {α : Type} {enc : α → Bytes} {dec : Decoder α}
    {canon : α → α} {wf : α → Prop} [Framed dec] (h : RoundTrips enc dec canon wf) :
    TruncSafe enc dec wf :=
  fun x hx _ hp hne => truncated_of_roundtrip' (fun t => h x t hx) hp hne

theorem RoundTrips.withTruncSafe {α : Type} {enc : α → Bytes} {dec : Decoder α}
    {canon : α → α} {wf : α → Prop} [Framed dec] (h : RoundTrips enc dec canon wf) :
    RoundTrips enc dec canon wf ∧ TruncSafe enc dec wf :=
  ⟨h, .of_roundTrips h⟩

/-- `len(data)` fits the `uint32` length prefix. -/
def wfEntry (e : Entry) : Prop := e.data.length < 2 ^ 32

def wfNode (n : Node) : Prop := n.addr.length < 2 ^ 32 ∧ n.data.length < 2 ^ 32

/-- node count and every string fit `uint32`, and so does the encoded node list, which
becomes the `data` of the carrying entry. -/
def wfConfig (c : Config) : Prop :=
  c.nodes.length < 2 ^ 32 ∧ (∀ n ∈ c.nodes, wfNode n) ∧ (configData c).length < 2 ^ 32

def wfInstallSnapReq (r : InstallSnapReq) : Prop := wfConfig r.lastConfig

def wfRespErr (e : RespErr) : Prop := e.opStr.length < 2 ^ 32 ∧ e.textStr.length < 2 ^ 32

/-- with `result == unexpectedErr` the error must be non-nil (the Go encoder dereferences
it) and its strings fit; otherwise the error is not sent at all. -/
def wfResp (r : Resp) : Prop :=
  r.result = unexpectedErr → ∃ e, r.err = some e ∧ wfRespErr e

def wfAppendResp (r : AppendResp) : Prop := wfResp r.resp

def wfSnapshotMeta (m : SnapshotMeta) : Prop := wfConfig m.config

def wfReplication (r : Replication) : Prop := r.errMessage.length < 2 ^ 32

def wfInfo (i : Info) : Prop :=
  i.addr.length < 2 ^ 32 ∧ wfConfig i.cfgCommitted ∧ wfConfig i.cfgLatest ∧
  i.followers.length < 2 ^ 32 ∧ ∀ r ∈ i.followers, wfReplication r

def wfTaskErr : TaskErr → Prop
  | .notLeader n _ => wfNode n
  | .plain s => s.length < 2 ^ 32
  | .temporary s => s.length < 2 ^ 32
  | .inProgress s => (inProgressText s).length < 2 ^ 32
  | .other tn text =>
    tn ≠ [] ∧ tn ≠ nmNotLeader ∧ tn ≠ nmPlain ∧ tn ≠ nmTemporary ∧ tn ≠ nmInProgress ∧
    tn.length < 2 ^ 32 ∧ text.length < 2 ^ 32

/-- the result has the type the client expects for the task type, and its parts fit. -/
def wfTaskResult (typ : UInt8) (r : TaskResult) : Prop :=
  taskCompat typ r = true ∧
  match r with
  | .err e => wfTaskErr e
  | .config c => wfConfig c
  | .info i => wfInfo i
  | _ => True

def wfAdminReq : AdminReq → Prop
  | .changeConfig c => wfConfig c
  | _ => True

/-- an append header announces exactly the entries that follow; a snapshot header
announces exactly the bytes that follow. -/
def wfMsg : Msg → Prop
  | .append h es => h.numEntries.toNat = es.length ∧ ∀ e ∈ es, wfEntry e
  | .installSnap h body => wfInstallSnapReq h ∧ body.length = snapBodyLen h.size
  | .admin r => wfAdminReq r
  | _ => True

instance (e : Entry) : Decidable (wfEntry e) := by unfold wfEntry; infer_instance
instance (n : Node) : Decidable (wfNode n) := by unfold wfNode; infer_instance
instance (c : Config) : Decidable (wfConfig c) := by unfold wfConfig; infer_instance
instance (r : InstallSnapReq) : Decidable (wfInstallSnapReq r) := by
  unfold wfInstallSnapReq; infer_instance
instance (e : RespErr) : Decidable (wfRespErr e) := by unfold wfRespErr; infer_instance
instance (r : Resp) : Decidable (wfResp r) := by
  unfold wfResp
  cases h : r.err with
  | none => exact decidable_of_iff (r.result ≠ unexpectedErr) (by simp)
  | some e => exact decidable_of_iff (r.result = unexpectedErr → wfRespErr e) (by simp)
instance (r : AppendResp) : Decidable (wfAppendResp r) := by unfold wfAppendResp; infer_instance
instance (m : SnapshotMeta) : Decidable (wfSnapshotMeta m) := by
  unfold wfSnapshotMeta; infer_instance
instance (r : Replication) : Decidable (wfReplication r) := by
  unfold wfReplication; infer_instance
instance (i : Info) : Decidable (wfInfo i) := by unfold wfInfo; infer_instance
instance (e : TaskErr) : Decidable (wfTaskErr e) := by
  cases e <;> unfold wfTaskErr <;> infer_instance
instance (typ : UInt8) (r : TaskResult) : Decidable (wfTaskResult typ r) := by
  cases r <;> unfold wfTaskResult <;> infer_instance
instance (r : AdminReq) : Decidable (wfAdminReq r) := by
  cases r <;> unfold wfAdminReq <;> infer_instance
instance (m : Msg) : Decidable (wfMsg m) := by
  cases m <;> unfold wfMsg <;> infer_instance

/-- every codec round-trips (up to the explicit `canon`) on every well-formed value with
every tail, and is truncation safe. -/
def codecs_statement : Prop :=
  (RoundTrips encEntry decEntry id wfEntry ∧ TruncSafe encEntry decEntry wfEntry) ∧
  (RoundTrips encReq decReq id (fun _ => True) ∧ TruncSafe encReq decReq (fun _ => True)) ∧
  (RoundTrips encIdentityReq decIdentityReq id (fun _ => True) ∧
    TruncSafe encIdentityReq decIdentityReq (fun _ => True)) ∧
  (RoundTrips encVoteReq decVoteReq id (fun _ => True) ∧
    TruncSafe encVoteReq decVoteReq (fun _ => True)) ∧
  (RoundTrips encAppendReq decAppendReq id (fun _ => True) ∧
    TruncSafe encAppendReq decAppendReq (fun _ => True)) ∧
  (RoundTrips encInstallSnapReq decInstallSnapReq canonInstallSnapReq wfInstallSnapReq ∧
    TruncSafe encInstallSnapReq decInstallSnapReq wfInstallSnapReq) ∧
  (RoundTrips encTimeoutNowReq decTimeoutNowReq id (fun _ => True) ∧
    TruncSafe encTimeoutNowReq decTimeoutNowReq (fun _ => True)) ∧
  (RoundTrips encResp decResp canonResp wfResp ∧ TruncSafe encResp decResp wfResp) ∧
  (RoundTrips encAppendResp decAppendResp canonAppendResp wfAppendResp ∧
    TruncSafe encAppendResp decAppendResp wfAppendResp) ∧
  (RoundTrips encNode decNode id wfNode ∧ TruncSafe encNode decNode wfNode) ∧
  (RoundTrips encConfig decConfig canonConfig wfConfig ∧
    TruncSafe encConfig decConfig wfConfig) ∧
  (RoundTrips encSnapshotMeta decSnapshotMeta canonSnapshotMeta wfSnapshotMeta ∧
    TruncSafe encSnapshotMeta decSnapshotMeta wfSnapshotMeta) ∧
  (RoundTrips encReplication decReplication canonReplication wfReplication ∧
    TruncSafe encReplication decReplication wfReplication) ∧
  (RoundTrips encInfo decInfo canonInfo wfInfo ∧ TruncSafe encInfo decInfo wfInfo) ∧
  (∀ typ, RoundTrips encTaskResp (decTaskResp typ) canonTaskResult (wfTaskResult typ) ∧
    TruncSafe encTaskResp (decTaskResp typ) (wfTaskResult typ)) ∧
  (RoundTrips encAdminReq decAdminReq canonAdminReq wfAdminReq ∧
    TruncSafe encAdminReq decAdminReq wfAdminReq)

/-- A pipelined stream is consumed message by message: after the first `pre.length`
messages the reader is positioned exactly at the encoding of the remaining ones. -/
def stream_framed_statement : Prop :=
  ∀ (pre post : List Msg) (tail : Bytes), (∀ m ∈ pre, wfMsg m) →
    decList decMsg pre.length (encStream (pre ++ post) ++ tail)
      = .ok (pre.map canonMsg, encStream post ++ tail)

/-- What a client can recognise in a task response ("by kind or equality"):
`NotLeaderError` keeps leader node and `Lost` (equal); `plainError` sentinels and
`temporaryError` (`ErrNotCommitReady`) decode to values EQUAL to the originals;
`InProgressError` keeps its KIND and its text `s` is recoverable (it decodes to
`InProgressError (inProgressText s)` and `inProgressText` is injective); every other error
keeps its text. -/
def taskresp_recognisable_statement : Prop :=
  (∀ (typ : UInt8) (tail : Bytes),
    (∀ n lost, wfNode n →
      decTaskResp typ (encTaskResp (.err (.notLeader n lost)) ++ tail)
        = .ok (.err (.notLeader n lost), tail)) ∧
    (∀ s, s.length < 2 ^ 32 →
      decTaskResp typ (encTaskResp (.err (.plain s)) ++ tail) = .ok (.err (.plain s), tail)) ∧
    (∀ s, s.length < 2 ^ 32 →
      decTaskResp typ (encTaskResp (.err (.temporary s)) ++ tail)
        = .ok (.err (.temporary s), tail)) ∧
    (∀ s, (inProgressText s).length < 2 ^ 32 →
      decTaskResp typ (encTaskResp (.err (.inProgress s)) ++ tail)
        = .ok (.err (.inProgress (inProgressText s)), tail)) ∧
    (∀ tn text, wfTaskErr (.other tn text) →
      decTaskResp typ (encTaskResp (.err (.other tn text)) ++ tail)
        = .ok (.err (.other nmErrorString text), tail))) ∧
  (∀ s s' : Bytes, inProgressText s = inProgressText s' → s = s')

/-- persisted (cluster id, node id) / (term, vote) read back exactly, for every value. -/
def value_file_roundtrip_statement : Prop :=
  ∀ a b : UInt64, parseValue (formatValue a b) = .ok (a, b)

def C18_statement : Prop :=
  codecs_statement ∧ stream_framed_statement ∧ taskresp_recognisable_statement ∧
  value_file_roundtrip_statement

/- Decoders are run by `simp`: a `do` block is unfolded bind by bind, and the five task type bytes are compared
as numbers. -/
attribute [local simp] bind_run pure_run taskInfo taskChangeConfig taskWaitForStableConfig taskTakeSnapshot
  taskTransferLdr

theorem roundtrip_entry (e : Entry) (tail : Bytes) (h : wfEntry e) :
    decEntry (encEntry e ++ tail) = .ok (e, tail) := by
  unfold wfEntry at h
  simp [decEntry, encEntry, h]

theorem truncated_entry (e : Entry) (h : wfEntry e) (p : Bytes) (hp : p <+: encEntry e)
    (hne : p ≠ encEntry e) : ∃ err, decEntry p = .error err ∧ err.isEof = true :=
  truncated_of_roundtrip' (fun t => roundtrip_entry e t h) hp hne

example : wfEntry ⟨18446744073709551615, 9223372036854775808, 2, [1, 2, 3]⟩ := by decide

theorem roundtrip_req (r : Req) (tail : Bytes) : decReq (encReq r ++ tail) = .ok (r, tail) := by
  simp [decReq, encReq]

theorem truncated_req (r : Req) (p : Bytes) (hp : p <+: encReq r) (hne : p ≠ encReq r) :
    ∃ err, decReq p = .error err ∧ err.isEof = true :=
  truncated_of_roundtrip' (fun t => roundtrip_req r t) hp hne

theorem roundtrip_identityReq (r : IdentityReq) (tail : Bytes) :
    decIdentityReq (encIdentityReq r ++ tail) = .ok (r, tail) := by
  simp [decIdentityReq, encIdentityReq, roundtrip_req]

theorem truncated_identityReq (r : IdentityReq) (p : Bytes) (hp : p <+: encIdentityReq r)
    (hne : p ≠ encIdentityReq r) : ∃ err, decIdentityReq p = .error err ∧ err.isEof = true :=
  truncated_of_roundtrip' (fun t => roundtrip_identityReq r t) hp hne

theorem roundtrip_voteReq (r : VoteReq) (tail : Bytes) :
    decVoteReq (encVoteReq r ++ tail) = .ok (r, tail) := by
  simp [decVoteReq, encVoteReq, roundtrip_req]

theorem truncated_voteReq (r : VoteReq) (p : Bytes) (hp : p <+: encVoteReq r)
    (hne : p ≠ encVoteReq r) : ∃ err, decVoteReq p = .error err ∧ err.isEof = true :=
  truncated_of_roundtrip' (fun t => roundtrip_voteReq r t) hp hne

theorem roundtrip_appendReq (r : AppendReq) (tail : Bytes) :
    decAppendReq (encAppendReq r ++ tail) = .ok (r, tail) := by
  simp [decAppendReq, encAppendReq, roundtrip_req]

theorem truncated_appendReq (r : AppendReq) (p : Bytes) (hp : p <+: encAppendReq r)
    (hne : p ≠ encAppendReq r) : ∃ err, decAppendReq p = .error err ∧ err.isEof = true :=
  truncated_of_roundtrip' (fun t => roundtrip_appendReq r t) hp hne

theorem roundtrip_timeoutNowReq (r : TimeoutNowReq) (tail : Bytes) :
    decTimeoutNowReq (encTimeoutNowReq r ++ tail) = .ok (r, tail) :=
  roundtrip_req r tail

theorem truncated_timeoutNowReq (r : TimeoutNowReq) (p : Bytes)
    (hp : p <+: encTimeoutNowReq r) (hne : p ≠ encTimeoutNowReq r) :
    ∃ err, decTimeoutNowReq p = .error err ∧ err.isEof = true :=
  truncated_of_roundtrip' (fun t => roundtrip_timeoutNowReq r t) hp hne

theorem roundtrip_node (n : Node) (tail : Bytes) (h : wfNode n) :
    decNode (encNode n ++ tail) = .ok (n, tail) := by
  simp [decNode, encNode, h.1, h.2]

theorem truncated_node (n : Node) (h : wfNode n) (p : Bytes) (hp : p <+: encNode n)
    (hne : p ≠ encNode n) : ∃ err, decNode p = .error err ∧ err.isEof = true :=
  truncated_of_roundtrip' (fun t => roundtrip_node n t h) hp hne

example : wfNode ⟨7, [49, 50], true, [], 4⟩ := by decide

/-- `Config.decode (Config.encode c)` on the entry level. -/
theorem configOfEntry_configEntry (c : Config) (h : wfConfig c) :
    configOfEntry (configEntry c) = .ok (canonConfig c) := by
  obtain ⟨h1, h2, _⟩ := h
  have : decConfigData (configData c) = .ok (c.nodes, []) := by
    unfold decConfigData configData
    rw [bind_ok (decU32_enc _ _ h1)]
    have := decList_enc decNode encNode id c.nodes []
      (fun n hn t => roundtrip_node n t (h2 n hn))
    simpa using this
  simp [configOfEntry, configEntry, this, canonConfig]

/-- Config travels as an entry (`u32` count + nodes in its data); decoding gives the map,
i.e. the id-sorted, last-wins list. -/
theorem roundtrip_config (c : Config) (tail : Bytes) (h : wfConfig c) :
    decConfig (encConfig c ++ tail) = .ok (canonConfig c, tail) := by
  have he : wfEntry (configEntry c) := h.2.2
  unfold decConfig encConfig
  rw [bind_ok (roundtrip_entry _ _ he), configOfEntry_configEntry c h]
  rfl

theorem truncated_config (c : Config) (h : wfConfig c) (p : Bytes) (hp : p <+: encConfig c)
    (hne : p ≠ encConfig c) : ∃ err, decConfig p = .error err ∧ err.isEof = true :=
  truncated_of_roundtrip' (fun t => roundtrip_config c t h) hp hne

example : wfConfig ⟨[⟨2, [97], true, [], 0⟩, ⟨1, [98], false, [120], 1⟩], 5, 3⟩ := by decide

theorem length_encNode (n : Node) : (encNode n).length = 18 + n.addr.length + n.data.length := by
  simp [encNode]; omega

theorem length_encList_mem {α : Type} (enc : α → Bytes) (xs : List α) (x : α) (h : x ∈ xs) :
    (enc x).length ≤ (encList enc xs).length := by
  induction xs with
  | nil => simp at h
  | cons y ys ih =>
    simp only [encList, List.length_append]
    rcases List.mem_cons.mp h with h | h
    · subst h; omega
    · have := ih h; omega

theorem length_encList_ge {α : Type} (enc : α → Bytes) (xs : List α)
    (h : ∀ x, 1 ≤ (enc x).length) : xs.length ≤ (encList enc xs).length := by
  induction xs with
  | nil => simp
  | cons y ys ih =>
    simp only [encList, List.length_append, List.length_cons]
    have := h y; omega

/-- the guard of `roundtrip_config` is exactly: the encoded node list fits the `uint32`
length prefix of the entry that carries it. -/
theorem wfConfig_iff (c : Config) : wfConfig c ↔ (configData c).length < 2 ^ 32 := by
  constructor
  · exact fun h => h.2.2
  · intro h
    have hl : (configData c).length = 4 + (encList encNode c.nodes).length := by
      simp [configData]
    refine ⟨?_, ?_, h⟩
    · have := length_encList_ge encNode c.nodes (fun n => by rw [length_encNode]; omega)
      omega
    · intro n hn
      have := length_encList_mem encNode c.nodes n hn
      rw [length_encNode] at this
      unfold wfNode
      omega
/-- A Go map whose keys are the node ids has a unique id-sorted listing `c.nodes`; whatever
iteration order `order` the encoder happens to use, decoding returns exactly `c`. -/
theorem roundtrip_config_map (c : Config) (order : List Node) (tail : Bytes)
    (hs : SortedBy Node.id c.nodes) (hp : order.Perm c.nodes)
    (h : wfConfig { c with nodes := order }) :
    decConfig (encConfig { c with nodes := order } ++ tail) = .ok (c, tail) := by
  rw [roundtrip_config _ _ h]
  simp [canonConfig, canonNodes, canonKeyed_perm_sorted Node.id c.nodes order hs hp]

/-- `canonConfig` is a canonical form: idempotent, and the identity on id-sorted configs. -/
theorem canonConfig_idem (c : Config) : canonConfig (canonConfig c) = canonConfig c := by
  simp [canonConfig, canonNodes, canonKeyed_idem]

theorem canonConfig_of_sorted (c : Config) (hs : SortedBy Node.id c.nodes) :
    canonConfig c = c := by
  simp [canonConfig, canonNodes, canonKeyed_of_sorted Node.id c.nodes hs]

example : SortedBy Node.id [(⟨1, [98], false, [120], 1⟩ : Node), ⟨2, [97], true, [], 0⟩] := by
  unfold SortedBy; decide

theorem roundtrip_installSnapReq (r : InstallSnapReq) (tail : Bytes)
    (h : wfInstallSnapReq r) :
    decInstallSnapReq (encInstallSnapReq r ++ tail) = .ok (canonInstallSnapReq r, tail) := by
  unfold wfInstallSnapReq at h
  simp [decInstallSnapReq, encInstallSnapReq, roundtrip_req, roundtrip_config, h, canonInstallSnapReq]

theorem truncated_installSnapReq (r : InstallSnapReq) (h : wfInstallSnapReq r) (p : Bytes)
    (hp : p <+: encInstallSnapReq r) (hne : p ≠ encInstallSnapReq r) :
    ∃ err, decInstallSnapReq p = .error err ∧ err.isEof = true :=
  truncated_of_roundtrip' (fun t => roundtrip_installSnapReq r t h) hp hne

example : wfInstallSnapReq ⟨⟨3, 1⟩, 10, 2, ⟨[⟨1, [97], true, [], 0⟩], 5, 2⟩, 9223372036854775808⟩ := by
  decide

theorem roundtrip_resp (r : Resp) (tail : Bytes) (h : wfResp r) :
    decResp (encResp r ++ tail) = .ok (canonResp r, tail) := by
  unfold wfResp at h
  by_cases hr : r.result = unexpectedErr
  · obtain ⟨e, he, h1, h2⟩ := h hr
    simp [decResp, encResp, hr, he, encRespErr, h1, h2, canonResp, canonRespErr]
  · simp [decResp, encResp, hr, canonResp]

theorem truncated_resp (r : Resp) (h : wfResp r) (p : Bytes) (hp : p <+: encResp r)
    (hne : p ≠ encResp r) : ∃ err, decResp p = .error err ∧ err.isEof = true :=
  truncated_of_roundtrip' (fun t => roundtrip_resp r t h) hp hne

example : wfResp ⟨4, 11, some (.op [76, 111, 103] [98, 97, 100])⟩ := by decide
example : wfResp ⟨4, 1, none⟩ := by decide

/-- outside the guard the real encoder panics (nil error with `unexpectedErr`). -/
example : ¬ wfResp ⟨4, 11, none⟩ ∧ respEncPanics ⟨4, 11, none⟩ = true := by decide

theorem roundtrip_appendResp (r : AppendResp) (tail : Bytes) (h : wfAppendResp r) :
    decAppendResp (encAppendResp r ++ tail) = .ok (canonAppendResp r, tail) := by
  unfold wfAppendResp at h
  simp [decAppendResp, encAppendResp, roundtrip_resp, h, canonAppendResp]

theorem truncated_appendResp (r : AppendResp) (h : wfAppendResp r) (p : Bytes)
    (hp : p <+: encAppendResp r) (hne : p ≠ encAppendResp r) :
    ∃ err, decAppendResp p = .error err ∧ err.isEof = true :=
  truncated_of_roundtrip' (fun t => roundtrip_appendResp r t h) hp hne

example : wfAppendResp ⟨⟨4, 11, some (.plain [98, 97, 100])⟩, 77⟩ := by decide

theorem roundtrip_snapshotMeta (m : SnapshotMeta) (tail : Bytes) (h : wfSnapshotMeta m) :
    decSnapshotMeta (encSnapshotMeta m ++ tail) = .ok (canonSnapshotMeta m, tail) := by
  unfold wfSnapshotMeta at h
  simp [decSnapshotMeta, encSnapshotMeta, roundtrip_config, h, canonSnapshotMeta]

theorem truncated_snapshotMeta (m : SnapshotMeta) (h : wfSnapshotMeta m) (p : Bytes)
    (hp : p <+: encSnapshotMeta m) (hne : p ≠ encSnapshotMeta m) :
    ∃ err, decSnapshotMeta p = .error err ∧ err.isEof = true :=
  truncated_of_roundtrip' (fun t => roundtrip_snapshotMeta m t h) hp hne

example : wfSnapshotMeta ⟨10, 2, ⟨[⟨1, [97], true, [], 0⟩], 5, 2⟩, 4096⟩ := by decide

theorem roundtrip_replication (r : Replication) (tail : Bytes) (h : wfReplication r) :
    decReplication (encReplication r ++ tail) = .ok (canonReplication r, tail) := by
  unfold wfReplication at h
  simp [decReplication, encReplication, h, canonReplication]
  cases hu : r.unreachable with
  | none => simp
  | some v => by_cases hv : v = 0 <;> simp [hv]

theorem truncated_replication (r : Replication) (h : wfReplication r) (p : Bytes)
    (hp : p <+: encReplication r) (hne : p ≠ encReplication r) :
    ∃ err, decReplication p = .error err ∧ err.isEof = true :=
  truncated_of_roundtrip' (fun t => roundtrip_replication r t h) hp hne

example : wfReplication ⟨2, 10, some 1700000000000000000, some [120], [120], 3⟩ := by decide

/-- the documented corner: `Unreachable` at exactly the Unix epoch comes back as nil, and
`Err` is carried only through `ErrMessage`. -/
theorem replication_epoch_counterexample :
    ∃ r : Replication, wfReplication r ∧
      decReplication (encReplication r) ≠ .ok (r, []) := by
  refine ⟨⟨1, 1, some 0, none, [], 0⟩, by decide, ?_⟩
  rw [← List.append_nil (encReplication _), roundtrip_replication _ _ (by decide)]
  simp [canonReplication]

theorem roundtrip_info (i : Info) (tail : Bytes) (h : wfInfo i) :
    decInfo (encInfo i ++ tail) = .ok (canonInfo i, tail) := by
  obtain ⟨h1, h2, h3, h4, h5⟩ := h
  have hl := decList_enc decReplication encReplication canonReplication i.followers tail
    (fun r hr t => roundtrip_replication r t (h5 r hr))
  -- each `bind` reads the encoding of its own field and hands the rest of the bytes to the rest of the decoder
  simp only [decInfo, encInfo, List.append_assoc, bind_ok (decU64_enc _ _), bind_ok (decU8_enc _ _),
    bind_ok (decBytes_enc _ _ h1), bind_ok (roundtrip_config _ _ h2), bind_ok (roundtrip_config _ _ h3),
    bind_ok (decU32_enc _ _ h4), bind_ok hl]
  rfl

theorem truncated_info (i : Info) (h : wfInfo i) (p : Bytes) (hp : p <+: encInfo i)
    (hne : p ≠ encInfo i) : ∃ err, decInfo p = .error err ∧ err.isEof = true :=
  truncated_of_roundtrip' (fun t => roundtrip_info i t h) hp hne

example : wfInfo ⟨1, 2, [97], 3, 76, 2, 0, 1, 9, 3, 8, 8,
    ⟨[⟨2, [97], true, [], 0⟩], 1, 1⟩, ⟨[⟨2, [97], true, [], 0⟩, ⟨3, [98], false, [], 1⟩], 5, 3⟩,
    [⟨3, 7, none, none, [], 1⟩]⟩ := by decide

theorem nm_facts :
    nmNotLeader ≠ [] ∧ nmPlain ≠ [] ∧ nmTemporary ≠ [] ∧ nmInProgress ≠ [] ∧
    nmPlain ≠ nmNotLeader ∧ nmTemporary ≠ nmNotLeader ∧ nmInProgress ≠ nmNotLeader ∧
    nmTemporary ≠ nmPlain ∧ nmInProgress ≠ nmPlain ∧ nmInProgress ≠ nmTemporary ∧
    nmNotLeader.length < 2 ^ 32 ∧ nmPlain.length < 2 ^ 32 ∧ nmTemporary.length < 2 ^ 32 ∧
    nmInProgress.length < 2 ^ 32 := by decide

theorem roundtrip_taskErr (typ : UInt8) (e : TaskErr) (tail : Bytes) (h : wfTaskErr e) :
    decTaskResp typ (encTaskResp (.err e) ++ tail) = .ok (.err (canonTaskErr e), tail) := by
  obtain ⟨a1, a2, a3, a4, b1, b2, b3, b4, b5, b6, l1, l2, l3, l4⟩ := nm_facts
  -- the name of the error type is read first: the rest of `decTaskResp` runs with the name known
  cases e with
  | notLeader n lost =>
    simp [wfTaskErr] at h
    rw [decTaskResp, encTaskResp, encTaskErr, List.append_assoc, List.append_assoc, bind_ok (decBytes_enc _ _ l1)]
    simp [a1, roundtrip_node, h, canonTaskErr]
  | plain s =>
    simp [wfTaskErr] at h
    rw [decTaskResp, encTaskResp, encTaskErr, List.append_assoc, bind_ok (decBytes_enc _ _ l2)]
    simp [a2, b1, h, canonTaskErr]
  | temporary s =>
    simp [wfTaskErr] at h
    rw [decTaskResp, encTaskResp, encTaskErr, List.append_assoc, bind_ok (decBytes_enc _ _ l3)]
    simp [a3, b2, b4, h, canonTaskErr]
  | inProgress s =>
    simp only [wfTaskErr] at h
    rw [decTaskResp, encTaskResp, encTaskErr, List.append_assoc, bind_ok (decBytes_enc _ _ l4)]
    simp [a4, b3, b5, b6, h, canonTaskErr]
  | other tn text =>
    obtain ⟨c0, c1, c2, c3, c4, c5, c6⟩ := h
    rw [decTaskResp, encTaskResp, encTaskErr, List.append_assoc, bind_ok (decBytes_enc _ _ c5)]
    simp [c0, c1, c2, c3, c4, c5, c6, canonTaskErr]

theorem roundtrip_taskResp (typ : UInt8) (r : TaskResult) (tail : Bytes)
    (h : wfTaskResult typ r) :
    decTaskResp typ (encTaskResp r ++ tail) = .ok (canonTaskResult r, tail) := by
  obtain ⟨hc, hw⟩ := h
  have e0 : decBytes (encBytes [] ++ tail) = .ok ([], tail) := decBytes_enc [] tail (by decide)
  cases r with
  | err e => exact roundtrip_taskErr typ e tail hw
  | none =>
    simp [taskCompat] at hc
    rcases hc with hc | hc <;> subst hc <;>
    simp [decTaskResp, encTaskResp, canonTaskResult]
  | index v =>
    simp [taskCompat] at hc
    subst hc
    simp [decTaskResp, encTaskResp, canonTaskResult]
  | config c =>
    simp [taskCompat] at hc
    subst hc
    simp at hw
    simp [decTaskResp, encTaskResp, canonTaskResult, roundtrip_config, hw]
  | info i =>
    simp [taskCompat] at hc
    subst hc
    simp at hw
    simp [decTaskResp, encTaskResp, canonTaskResult, roundtrip_info, hw]

theorem truncated_taskResp (typ : UInt8) (r : TaskResult) (h : wfTaskResult typ r) (p : Bytes)
    (hp : p <+: encTaskResp r) (hne : p ≠ encTaskResp r) :
    ∃ err, decTaskResp typ p = .error err ∧ err.isEof = true :=
  truncated_of_roundtrip' (fun t => roundtrip_taskResp typ r t h) hp hne

example : wfTaskResult taskTakeSnapshot (.index 18446744073709551615) := by decide
example : wfTaskResult taskInfo (.err (.notLeader ⟨2, [97], true, [], 0⟩ true)) := by decide
example : wfTaskResult taskTransferLdr
    (.err (.other (ascii ['r','a','f','t','.','T','i','m','e','o','u','t','E','r','r','o','r'])
      [120, 121])) := by decide
example : wfTaskResult taskWaitForStableConfig (.config ⟨[⟨2, [97], true, [], 0⟩], 5, 3⟩) := by
  decide

/-- the wrapping is injective, so the original name is still recoverable by a client. -/
theorem inProgressText_injective (s s' : Bytes) (h : inProgressText s = inProgressText s') :
    s = s' := by
  unfold inProgressText at h
  simp only [List.append_assoc, List.append_cancel_left_eq] at h
  exact List.append_cancel_right h

theorem taskresp_recognisable : taskresp_recognisable_statement :=
  ⟨fun typ tail =>
    ⟨fun n lost h => roundtrip_taskErr typ (.notLeader n lost) tail h,
     fun s h => roundtrip_taskErr typ (.plain s) tail h,
     fun s h => roundtrip_taskErr typ (.temporary s) tail h,
     fun s h => roundtrip_taskErr typ (.inProgress s) tail h,
     fun tn text h => roundtrip_taskErr typ (.other tn text) tail h⟩,
   inProgressText_injective⟩

example : wfTaskErr (.inProgress [116, 97, 107, 101]) := by decide
example : wfTaskErr (.notLeader ⟨2, [97], true, [], 0⟩ true) := by decide

/-- Remark (not a violation of the property, which asks for kind OR equality):
`InProgressError("x")` comes back as `InProgressError("raft: another x in progress")`, a
different value of the same kind. -/
theorem inProgress_not_equal_remark :
    decTaskResp taskTakeSnapshot (encTaskResp (.err (.inProgress [120])))
      = .ok (.err (.inProgress (inProgressText [120])), []) ∧
    inProgressText [120] ≠ [120] := by
  constructor
  · have := roundtrip_taskErr taskTakeSnapshot (.inProgress [120]) [] (by decide)
    simpa [canonTaskErr] using this
  · decide

theorem roundtrip_adminBody (r : AdminReq) (tail : Bytes) (h : wfAdminReq r) :
    decAdminBody r.typ (encAdminBody r ++ tail) = .ok (canonAdminReq r, tail) := by
  cases r with
  | info => simp [decAdminBody, AdminReq.typ, encAdminBody, canonAdminReq]
  | changeConfig c =>
    simp [wfAdminReq] at h
    simp [decAdminBody, AdminReq.typ, encAdminBody, canonAdminReq, roundtrip_config, h]
  | waitForStable =>
    simp [decAdminBody, AdminReq.typ, encAdminBody, canonAdminReq]
  | takeSnapshot th =>
    simp [decAdminBody, AdminReq.typ, encAdminBody, canonAdminReq]
  | transferLdr target timeout =>
    simp [decAdminBody, AdminReq.typ, encAdminBody, canonAdminReq]

theorem roundtrip_adminReq (r : AdminReq) (tail : Bytes) (h : wfAdminReq r) :
    decAdminReq (encAdminReq r ++ tail) = .ok (canonAdminReq r, tail) := by
  unfold decAdminReq encAdminReq
  rw [List.append_assoc, bind_ok (decU8_enc _ _), roundtrip_adminBody r tail h]

theorem truncated_adminReq (r : AdminReq) (h : wfAdminReq r) (p : Bytes)
    (hp : p <+: encAdminReq r) (hne : p ≠ encAdminReq r) :
    ∃ err, decAdminReq p = .error err ∧ err.isEof = true :=
  truncated_of_roundtrip' (fun t => roundtrip_adminReq r t h) hp hne

example : wfAdminReq (.changeConfig ⟨[⟨2, [97], true, [], 0⟩, ⟨3, [98], false, [], 1⟩], 5, 3⟩) := by
  decide
example : wfAdminReq (.transferLdr 2 18446744073709551615) := by decide

theorem isValidTask_typ (r : AdminReq) : isValidTask r.typ = true := by
  cases r <;> simp [AdminReq.typ] <;> decide

theorem roundtrip_msg (m : Msg) (tail : Bytes) (h : wfMsg m) :
    decMsg (encMsg m ++ tail) = .ok (canonMsg m, tail) := by
  -- the type byte is read first: the rest of `decMsg` runs with the byte known
  cases m with
  | identity r =>
    rw [decMsg, encMsg, List.append_assoc, bind_ok (decU8_enc _ _)]
    simp [roundtrip_identityReq, canonMsg, isValidTask]
  | vote r =>
    rw [decMsg, encMsg, List.append_assoc, bind_ok (decU8_enc _ _)]
    simp [roundtrip_voteReq, canonMsg, isValidTask]
  | append hd es =>
    obtain ⟨h1, h2⟩ := h
    have hl := decList_enc decEntry encEntry id es tail (fun e he t => roundtrip_entry e t (h2 e he))
    rw [decMsg, encMsg, List.append_assoc, List.append_assoc, bind_ok (decU8_enc _ _)]
    simp [roundtrip_appendReq, canonMsg, isValidTask, h1, hl]
  | installSnap hd body =>
    obtain ⟨h1, h2⟩ := h
    rw [decMsg, encMsg, List.append_assoc, List.append_assoc, bind_ok (decU8_enc _ _)]
    simp [roundtrip_installSnapReq, h1, canonMsg, isValidTask, copyN_append' body tail h2,
      canonInstallSnapReq]
  | timeoutNow r =>
    rw [decMsg, encMsg, List.append_assoc, bind_ok (decU8_enc _ _)]
    simp [roundtrip_timeoutNowReq, canonMsg, isValidTask]
  | admin r =>
    simp only [wfMsg] at h
    simp [decMsg, encMsg, encAdminReq, isValidTask_typ, roundtrip_adminBody r tail h, canonMsg]

theorem stream_framed : stream_framed_statement := fun pre post tail h =>
  decList_enc_append decMsg encMsg canonMsg pre post tail (fun m hm t => roundtrip_msg m t (h m hm))

example : ∀ m ∈ [Msg.append ⟨⟨3, 1⟩, 10, 2, 9, 2⟩ [⟨11, 3, 2, [1, 2]⟩, ⟨12, 3, 6, []⟩],
                 Msg.installSnap ⟨⟨3, 1⟩, 10, 2, ⟨[⟨1, [97], true, [], 0⟩], 5, 2⟩, 3⟩ [7, 8, 9],
                 Msg.vote ⟨⟨4, 2⟩, 12, 3, true⟩,
                 Msg.admin (.transferLdr 2 1000000000)], wfMsg m := by decide

/-- the special case "whole stream, then the tail". -/
theorem stream_framed_all (ms : List Msg) (tail : Bytes) (h : ∀ m ∈ ms, wfMsg m) :
    decList decMsg ms.length (encStream ms ++ tail) = .ok (ms.map canonMsg, tail) :=
  decList_enc decMsg encMsg canonMsg ms tail (fun m hm t => roundtrip_msg m t (h m hm))

/-- a truncated message in a stream is an error, never a (shorter) message. -/
theorem truncated_msg (m : Msg) (h : wfMsg m) (p : Bytes) (hp : p <+: encMsg m)
    (hne : p ≠ encMsg m) : ∃ err, decMsg p = .error err ∧ err.isEof = true :=
  truncated_of_roundtrip' (fun t => roundtrip_msg m t h) hp hne

/-- pipelined responses (what the replication goroutine reads back) stay framed too. -/
theorem stream_framed_resps (pre post : List AppendResp) (tail : Bytes)
    (h : ∀ r ∈ pre, wfAppendResp r) :
    decList decAppendResp pre.length (encList encAppendResp (pre ++ post) ++ tail)
      = .ok (pre.map canonAppendResp, encList encAppendResp post ++ tail) :=
  decList_enc_append decAppendResp encAppendResp canonAppendResp pre post tail
    (fun r hr t => roundtrip_appendResp r t (h r hr))

/-- `isEntryBuffered` answers exactly "would `entry.decode` succeed on the buffered bytes". -/
theorem isEntryBuffered_spec (buf : Bytes) : isEntryBuffered buf = isOk (decEntry buf) :=
  isEntryBuffered_iff buf

/-- persisted ids / terms / votes read back exactly, for every 64-bit value. -/
theorem value_file_roundtrip : value_file_roundtrip_statement := by
  intro a b
  unfold parseValue formatValue
  rw [String.toList_ofList]
  apply parseValueWith_format
  · rw [parseUint64_toDigits _ a.toNat_lt, UInt64.ofNat_toNat]
  · rw [parseUint64_toDigits _ b.toNat_lt, UInt64.ofNat_toNat]

/-- Historical note, PRE-FIX behaviour only (`parseValueSigned` = the `strconv.ParseInt`
reader that `openValue` used before commit 7ef5cca): values below 2^63 read back … -/
theorem value_file_signed_roundtrip (a b : UInt64) (ha : a.toNat < 2 ^ 63)
    (hb : b.toNat < 2 ^ 63) : parseValueSigned (formatValue a b) = .ok (a, b) := by
  unfold parseValueSigned formatValue
  rw [String.toList_ofList]
  apply parseValueWith_format
  · rw [parseInt64_toDigits _ ha, UInt64.ofNat_toNat]
  · rw [parseInt64_toDigits _ hb, UInt64.ofNat_toNat]

example : (9223372036854775807 : UInt64).toNat < 2 ^ 63 := by decide

/-- … and 2^63 did not (PRE-FIX behaviour; the replay `corpus/valuefile-ge-2^63.json` is the
same witness and must now pass on the repaired code). -/
theorem value_file_signed_counterexample :
    parseValueSigned (formatValue 9223372036854775808 1) = .error .invalid := by
  unfold parseValueSigned formatValue
  rw [String.toList_ofList]
  simp [formatValueChars, toDigits, digitChar, parseValueWith, splitDash, parseInt64, ofDigits,
    ofDigitsAux, digitVal]

theorem C18_codecs : codecs_statement :=
  ⟨RoundTrips.withTruncSafe roundtrip_entry,
    RoundTrips.withTruncSafe fun x t _ => roundtrip_req x t,
    RoundTrips.withTruncSafe fun x t _ => roundtrip_identityReq x t,
    RoundTrips.withTruncSafe fun x t _ => roundtrip_voteReq x t,
    RoundTrips.withTruncSafe fun x t _ => roundtrip_appendReq x t,
    RoundTrips.withTruncSafe roundtrip_installSnapReq,
    RoundTrips.withTruncSafe fun x t _ => roundtrip_timeoutNowReq x t,
    RoundTrips.withTruncSafe roundtrip_resp,
    RoundTrips.withTruncSafe roundtrip_appendResp,
    RoundTrips.withTruncSafe roundtrip_node,
    RoundTrips.withTruncSafe roundtrip_config,
    RoundTrips.withTruncSafe roundtrip_snapshotMeta,
    RoundTrips.withTruncSafe roundtrip_replication,
    RoundTrips.withTruncSafe roundtrip_info,
    fun typ => RoundTrips.withTruncSafe (roundtrip_taskResp typ),
    RoundTrips.withTruncSafe roundtrip_adminReq⟩

/-- C18 — every encoding round-trips and stays framed, task responses are recognisable,
value files read back every 64-bit value. -/
theorem C18 : C18_statement :=
  ⟨C18_codecs, stream_framed, taskresp_recognisable, value_file_roundtrip⟩

end RaftVerif.C18

open RaftVerif.C18

#print axioms roundtrip_entry
#print axioms truncated_entry
#print axioms roundtrip_req
#print axioms truncated_req
#print axioms roundtrip_identityReq
#print axioms truncated_identityReq
#print axioms roundtrip_voteReq
#print axioms truncated_voteReq
#print axioms roundtrip_appendReq
#print axioms truncated_appendReq
#print axioms roundtrip_installSnapReq
#print axioms truncated_installSnapReq
#print axioms roundtrip_timeoutNowReq
#print axioms truncated_timeoutNowReq
#print axioms roundtrip_resp
#print axioms truncated_resp
#print axioms roundtrip_appendResp
#print axioms truncated_appendResp
#print axioms roundtrip_node
#print axioms truncated_node
#print axioms roundtrip_config
#print axioms truncated_config
#print axioms wfConfig_iff
#print axioms roundtrip_config_map
#print axioms canonConfig_idem
#print axioms canonConfig_of_sorted
#print axioms roundtrip_snapshotMeta
#print axioms truncated_snapshotMeta
#print axioms roundtrip_replication
#print axioms truncated_replication
#print axioms replication_epoch_counterexample
#print axioms roundtrip_info
#print axioms truncated_info
#print axioms roundtrip_taskResp
#print axioms truncated_taskResp
#print axioms roundtrip_adminReq
#print axioms truncated_adminReq
#print axioms roundtrip_msg
#print axioms truncated_msg
#print axioms stream_framed
#print axioms stream_framed_all
#print axioms stream_framed_resps
#print axioms isEntryBuffered_spec
#print axioms inProgressText_injective
#print axioms taskresp_recognisable
#print axioms inProgress_not_equal_remark
#print axioms value_file_roundtrip
#print axioms value_file_signed_roundtrip
#print axioms value_file_signed_counterexample
#print axioms C18_codecs
#print axioms C18
