/-
C08 — Membership changes, for EVERY operation: how `configs` (latest / committed configuration) can move in a step.

`Props/C08.lean` has the local theorems about `doChangeConfig` / `checkConfigActions` / `onChangeConfig`. Here is the
two-state statement for `Node.step` itself: `config_step` — `s'.configs` is reached from `s.configs` by a `Chain` of the
`Move`s (a) leader change, (b) commit, (c) follower adoption / revert, (d) install, (e) bootstrap (definitions, with the
guards of each move, in `Lemmas/ConfigRel.lean`, namespace `CfgRel`) — and what can be read off the chain. A RESTART is not
a step: `C10.restart_configs` (the newest two configuration entries above the snapshot, else the label). The comparison
with the immediate predecessor is claimed for the first configuration a step introduces (`Move.change`); a further one
(phase `nested`) is reached only through the single-voter fast path (or match indexes beyond the leader's log, or a
recorded failure).

The examples show that the hypotheses are satisfiable and that each is needed; nothing reachable was found. Observations:
(1) `leader.setCommitIndex` goes on to `checkConfigActions` after the leader stepped down in `Raft.setCommitIndex` —
harmless only because `storeEntry` consults the cached `l.node.Voter` (`exStale`); (2) on a follower `configs.committed`
is merely the previous `latest` (`exNewLeader`).
-/
import RaftVerif.Lemmas.ConfigRel
import RaftVerif.Props.C06Cache
import RaftVerif.Props.C15NoPanic

namespace Raft
namespace C08Step
open Node CfgRel

/-- **How `configs` moves in ANY step.** For every operation `op` (any RPC with any content, any timeout, task,
replication update, snapshot event, shutdown), every oracle and input: the configurations of the state after the
step are reached from those before it by a chain of the moves (a)–(e) of `CfgRel.Move` — leader change under the
guards (leader and voter; predecessor committed; own-term entry committed; no transfer; one action; an anchor stays),
commit, follower adoption / revert, install, bootstrap — and by nothing else. No assumption that nothing fails. -/
theorem config_step (s : Node) (op : Op) (rollAt : List Nat) (orders : List (List Nat)) (hsc : SelfCache s)
    (hli : s.configs.latest.index ≤ s.lastLogIndex) (hanch : AnchC s.configs.latest) (hok : OpOk op) :
    ConfigStep s op (s.step op rollAt orders) := by
  have fin : ∀ x, Fin s op x → ConfigStep s op x := fun x ⟨ph, hm⟩ => ⟨ph, hm.chain⟩
  have m0 := main_begin s op rollAt orders hli hanch
  by_cases ha : ∃ q, op = .append q
  · obtain ⟨q, rfl⟩ := ha
    show ConfigStep s _ (settle 6 ((s.begin rollAt orders).handle (.append q)) (s.begin rollAt orders).role)
    have hh : (s.begin rollAt orders).handle (.append q) = ((s.begin rollAt orders).onAppendEntries q).rpcDone false true := rfl
    rcases onAppendEntries_fi (s.begin rollAt orders) q rfl m0.chain m0.ci with h | h
    · rw [hh, h]
      exact fin _ (settle_fin 6 _ _ _ ((mainQ s _ _).rpcDone_q _ _ _ ((mainQ s _ _).ret _ _ m0)))
    · have h' : FI s (.append q) ((s.begin rollAt orders).handle (.append q)) := by
        rw [hh]; exact h.congr (kf_rpcDone _ _ _)
      exact ⟨.fresh, by rw [settle_follower _ _ h'.role]; exact h'.chain⟩
  by_cases hi : ∃ q, op = .install q
  · obtain ⟨q, rfl⟩ := hi
    show ConfigStep s _ (settle 6 ((s.begin rollAt orders).handle (.install q)) (s.begin rollAt orders).role)
    have hh : (s.begin rollAt orders).handle (.install q) = ((s.begin rollAt orders).onInstallSnap q).rpcDone false := rfl
    rcases onInstallSnap_fi (s.begin rollAt orders) q rfl m0.chain m0.ci with h | h
    · rw [hh, h]
      exact fin _ (settle_fin 6 _ _ _ ((mainQ s _ _).rpcDone_q _ _ _ ((mainQ s _ _).ret _ _ m0)))
    · have h' : FI s (.install q) ((s.begin rollAt orders).handle (.install q)) := by
        rw [hh]; exact h.congr (kf_rpcDone _ _ _)
      exact ⟨.fresh, by rw [settle_follower _ _ h'.role]; exact h'.chain⟩
  exact fin _ (step_fin s op rollAt orders hsc hli hanch hok (fun q h => ha ⟨q, h⟩) (fun q h => hi ⟨q, h⟩))

/-- the hypothesis `SelfCache` of `config_step` is part of `C06Cache.LeaderCache` -/
theorem selfCache_of_leaderCache (s : Node) (h : C06Cache.LeaderCache s) : SelfCache s := by
  intro hr
  rw [(h hr).node]
  exact get_voter_eq_isVoter _ _

/-- an anchor in the sense of `NoPanic.Anchored` (an entry that is the only one of its id) is one in the sense of
`CfgRel.HasAnchor` (the entry found under that id) -/
theorem hasAnchor_of_anchored {c : Config} (h : NoPanic.Anchored c) : HasAnchor c := by
  obtain ⟨a, hm, hv, hact, huniq⟩ := h
  refine ⟨a.id, a, ?_, hv, hact⟩
  unfold Config.find?
  cases hf : c.nodes.find? (·.id == a.id) with
  | none =>
    have := List.find?_eq_none.mp hf a hm
    simp at this
  | some m =>
    have hmem : m ∈ c.nodes := List.mem_of_find?_eq_some hf
    have hid : m.id = a.id := by simpa using List.find?_some hf
    rw [huniq m hmem hid]

theorem selfCache_of_good {T : Bool} {s : Node} (hG : NoPanic.Good T s) (ho : s.closed = "") : SelfCache s := by
  intro hr
  have hc := (hG.leader ho hr).2
  rw [((LC.cache_iff s).mp hc).2.1]
  exact get_voter_eq_isVoter _ _

theorem anchC_of_good {T : Bool} {s : Node} (hG : NoPanic.Good T s) : AnchC s.configs.latest := by
  by_cases hn : s.configs.latest.nodes = []
  · exact Or.inl hn
  · exact Or.inr (hasAnchor_of_anchored (hG.glob.cfgL.2 hn).1)

/-- … and of `NoPanic.Good`: **the statement for every operation from the no-failure invariant** (any `T`) -/
theorem config_step_good {T : Bool} (s : Node) (op : Op) (rollAt : List Nat) (orders : List (List Nat))
    (hG : NoPanic.Good T s) (ho : s.closed = "") (hok : OpOk op) : ConfigStep s op (s.step op rollAt orders) :=
  config_step s op rollAt orders (selfCache_of_good hG ho) hG.ordered.latest_le_last (anchC_of_good hG) hok

variable {s : Node} {op : Op}

/-- in phase `changed` (a configuration was introduced in this step and not committed since) the latest
configuration is not committed -/
theorem changed_uncommitted {ph : Phase} {cs : Configs} (h : Chain s op ph cs) (hp : ph = .changed) :
    cs.isCommitted = false := by
  induction h with
  | start => cases hp
  | @step ph0 ph1 cs0 cs1 hc mv _ =>
    cases mv with
    | change _ x b c _ _ _ _ _ _ _ _ hlt =>
      unfold Configs.isCommitted
      simp only [beq_eq_false_iff_ne, ne_eq]
      omega
    | commit _ _ i => cases ph0 <;> cases hp
    | adopt => cases hp
    | revert => cases hp
    | install => cases hp
    | bootstrap => cases hp

/-- the operation is handled by leader code only: not an append or install request, and a `ChangeConfig` request is
taken by a leader -/
def LeaderOp (s : Node) (op : Op) : Prop :=
  (∀ q, op ≠ .append q) ∧ (∀ q, op ≠ .install q) ∧ (∀ t c, op = .changeConfig t c → s.role = .leader)

/-- while no configuration was introduced (`fresh`), a leader operation has at most committed the latest one -/
theorem fresh_configs {ph : Phase} {cs : Configs} (h : Chain s op ph cs) (hp : ph = .fresh) (hl : LeaderOp s op) :
    cs = s.configs ∨ (s.configs.isCommitted = false ∧ cs = ⟨s.configs.latest, s.configs.latest⟩) := by
  induction h with
  | start => exact Or.inl rfl
  | @step ph0 ph1 cs0 cs1 hc mv ih =>
    cases mv with
    | change => exact absurd hp (Phase.afterChangeP_ne _ _)
    | commit _ _ i hnc =>
      rcases ih (Phase.afterCommit_fresh hp) with h | h
      · subst h; exact Or.inr ⟨hnc, rfl⟩
      · rw [h.2, isCommitted_self] at hnc; cases hnc
    | adopt _ q _ _ hop => exact absurd hop (hl.1 q)
    | revert _ q _ hop => exact absurd hop (hl.1 q)
    | install _ q hop => exact absurd hop (hl.2.1 q)
    | bootstrap t c _ hop hr => exact absurd (hl.2.2 t c hop) hr

/-- what is known of the ONE configuration a step has introduced when it ends in phase `changed` -/
structure OneChange (s : Node) (op : Op) (cs : Configs) (x : Node) (c : Config) : Prop where
  /-- the configurations after the step: the predecessor and the new configuration -/
  configs : cs = ⟨x.configs.latest, c⟩
  /-- `x` (the leader right after it appended the entry) is the same node, not older than `s` -/
  nid : x.nid = s.nid
  term : s.term ≤ x.term
  ci : s.commitIndex ≤ x.commitIndex
  /-- it is leader, and a voter of its configuration -/
  leader : x.role = .leader
  voter : x.configs.latest.isVoter x.nid = true
  /-- the predecessor is committed, no transfer is in progress, an entry of the leader's own term is committed -/
  committed : x.configs.isCommitted = true
  noTransfer : x.ldr.transfer.active = false
  ownTerm : x.ldr.startIndex ≤ x.commitIndex
  /-- the new configuration is the entry just appended -/
  newer : x.configs.latest.index < c.index
  index : c.index = x.lastLogIndex
  cterm : c.term = x.term
  /-- adjacent to the predecessor, and anchored -/
  adjacent : Adjacent x.configs.latest c
  /-- no failure had been recorded -/
  noPanic : x.panicked = none
  anchor : HasAnchor c
  /-- before it only commits (or follower moves) happened -/
  before : Chain s op .fresh x.configs

/-- **every configuration a leader introduces** (a step ending in phase `changed`: exactly one was introduced):
it is adjacent to its predecessor — voting rights differ at one node at most, a voter remains —, the predecessor was
committed, an entry of the leader's own term was committed, no transfer was in progress, and the node was leader and
voter. -/
theorem leader_config_adjacent {ph : Phase} {cs : Configs} (h : Chain s op ph cs) (hp : ph = .changed) :
    ∃ x c, OneChange s op cs x c := by
  cases h with
  | start => cases hp
  | @step ph0 ph1 cs0 cs1 hc mv =>
    cases mv with
    | change _ x b c h1 h2 h3 h4 h5 h6 h7 h8 h9 h10 h11 h12 h13 h14 =>
      cases hx : x.panicked with
      | some v => rw [hx] at hp; cases ph0 <;> cases hp
      | none =>
        rw [hx] at hp
        cases ph0 with
        | fresh =>
          exact ⟨x, c, rfl, h1, h2, h3, h4, h5, h6, h7, h8, h9, h10, h11,
            ⟨h12.adjacent (h13 rfl hx), h14.voter⟩, hx, h14, hc⟩
        | changed => rw [changed_uncommitted hc rfl] at h6; cases h6
        | settled => cases hp
        | nested => cases hp
    | commit _ _ i => cases ph0 <;> cases hp
    | adopt => cases hp
    | revert => cases hp
    | install => cases hp
    | bootstrap => cases hp

/-- … for a leader operation the predecessor is the latest configuration before the step -/
theorem OneChange.pred {cs : Configs} {x : Node} {c : Config} (h : OneChange s op cs x c) (hl : LeaderOp s op) :
    cs.committed = s.configs.latest ∧ x.configs.latest = s.configs.latest := by
  have : x.configs.latest = s.configs.latest := by
    rcases fresh_configs h.before rfl hl with e | e
    · rw [e]
    · rw [e.2]
  rw [h.configs]
  exact ⟨this, this⟩

/-- a step ending in phase `settled`: exactly one configuration `c` was introduced (as `OneChange` describes, from
the configurations `⟨x.configs.latest, c⟩`) and committed at once -/
theorem settled_configs {ph : Phase} {cs : Configs} (h : Chain s op ph cs) (hp : ph = .settled) :
    ∃ x c, OneChange s op ⟨x.configs.latest, c⟩ x c ∧ cs = ⟨c, c⟩ := by
  induction h with
  | start => cases hp
  | @step ph0 ph1 cs0 cs1 hc mv ih =>
    cases mv with
    | change _ x =>
      cases hx : x.panicked <;> rw [hx] at hp <;> cases ph0 <;> cases hp
    | commit _ _ i hnc =>
      cases ph0 with
      | changed =>
        obtain ⟨x, c, h⟩ := leader_config_adjacent hc rfl
        have e := h.configs
        subst e
        exact ⟨x, c, h, rfl⟩
      | fresh => cases hp
      | settled =>
        -- a configuration that is committed cannot be committed again
        obtain ⟨x, c, _, e⟩ := ih rfl
        rw [e, isCommitted_self] at hnc
        cases hnc
      | nested => cases hp
    | adopt => cases hp
    | revert => cases hp
    | install => cases hp
    | bootstrap => cases hp

/-- **the cases of a leader's step** (any operation other than append / install / bootstrap): `configs` is unchanged;
or the latest configuration got committed; or exactly one configuration `c` was introduced, as `OneChange` describes,
adjacent to `s.configs.latest`, and either `committed` is now `s.configs.latest` or `c` was committed at once
(`⟨c, c⟩`: the single-voter fast path); or a further configuration was introduced after that (`nested` — see
`Move.change` for what is known of each). -/
theorem config_step_cases (s : Node) (op : Op) (rollAt : List Nat) (orders : List (List Nat)) (hsc : SelfCache s)
    (hli : s.configs.latest.index ≤ s.lastLogIndex) (hanch : AnchC s.configs.latest) (hok : OpOk op)
    (hl : LeaderOp s op) :
    let s' := s.step op rollAt orders
    s'.configs = s.configs ∨
    (s.configs.isCommitted = false ∧ s'.configs = ⟨s.configs.latest, s.configs.latest⟩) ∨
    (∃ x c, OneChange s op ⟨s.configs.latest, c⟩ x c ∧ Adjacent s.configs.latest c ∧
      (s'.configs = ⟨s.configs.latest, c⟩ ∨ s'.configs = ⟨c, c⟩)) ∨
    Chain s op .nested s'.configs := by
  intro s'
  obtain ⟨ph, hc⟩ := config_step s op rollAt orders hsc hli hanch hok
  cases ph with
  | fresh =>
    rcases fresh_configs hc rfl hl with h | h
    · exact Or.inl h
    · exact Or.inr (Or.inl h)
  | changed =>
    obtain ⟨x, c, h⟩ := leader_config_adjacent hc rfl
    obtain ⟨_, e⟩ := h.pred hl
    have hcfg : s'.configs = ⟨s.configs.latest, c⟩ := by rw [h.configs, e]
    refine Or.inr (Or.inr (Or.inl ⟨x, c, ?_, ?_, Or.inl hcfg⟩))
    · rw [← hcfg]; exact h
    · rw [← e]; exact h.adjacent
  | settled =>
    obtain ⟨x, c, h, hcfg⟩ := settled_configs hc rfl
    obtain ⟨_, e⟩ := h.pred hl
    refine Or.inr (Or.inr (Or.inl ⟨x, c, ?_, ?_, Or.inr hcfg⟩))
    · rw [← e]; exact h
    · rw [← e]; exact h.adjacent
  | nested => exact Or.inr (Or.inr (Or.inr hc))

/-- **a leader holds at most one configuration that is not committed, and introduces the next one only after that
one is committed**: in a leader operation, a move that replaces `latest` starts from committed configurations
(`isCommitted`) and ends in uncommitted ones whose `committed` is the predecessor; the only other move is the commit
of that one configuration. (On a follower `committed` is merely the previous `latest`, see `Move.adopt`.) -/
theorem at_most_one_uncommitted {ph ph' : Phase} {cs cs' : Configs} (mv : Move s op ph cs ph' cs')
    (hl : LeaderOp s op) :
    (cs.isCommitted = true ∧ cs'.isCommitted = false ∧ cs'.committed = cs.latest ∧
      cs.latest.index < cs'.latest.index) ∨
    (cs.isCommitted = false ∧ cs'.latest = cs.latest ∧ cs'.committed = cs.latest) := by
  cases mv with
  | change _ x b c _ _ _ _ _ h6 _ _ hlt =>
    refine Or.inl ⟨h6, ?_, rfl, hlt⟩
    unfold Configs.isCommitted
    simp only [beq_eq_false_iff_ne, ne_eq]
    omega
  | commit _ _ i hnc => exact Or.inr ⟨hnc, rfl, rfl⟩
  | adopt _ q _ _ hop => exact absurd hop (hl.1 q)
  | revert _ q _ hop => exact absurd hop (hl.1 q)
  | install _ q hop => exact absurd hop (hl.2.1 q)
  | bootstrap t c _ hop hr => exact absurd (hl.2.2 t c hop) hr

/-- what `LogInv` says: a configuration entry of the log beyond `configs.committed` is the entry of `configs.latest`;
in particular, when the latest configuration is committed (`isCommitted`) the log holds NO configuration entry
beyond it -/
theorem logInv_reads (x : Node) (h : LogInv x) :
    (∀ e ∈ x.log.entries, e.typ = etConfig → x.configs.committed.index < e.index → e.index = x.configs.latest.index) ∧
    (x.configs.isCommitted = true → ∀ e ∈ x.log.entries, e.typ = etConfig → e.index ≤ x.configs.latest.index) := by
  refine ⟨fun e he ht hlt => ?_, fun hc e he ht => ?_⟩
  · rcases h.1 e he ht with h' | h'
    · omega
    · exact h'
  · have := isCommitted_eq hc
    rcases h.1 e he ht with h' | h'
    · omega
    · omega

/-- **at most one uncommitted configuration entry in the log** (`LogInv`: beyond the index of `configs.committed`
the log holds no configuration entry other than that of `configs.latest`, and `committed.index ≤ latest.index`) is
preserved by every step that completes — for every operation OTHER THAN AN APPEND-ENTRIES REQUEST: the leader
appends a configuration entry only together with adopting it, from committed configurations; commits and client
entries add none; compaction and install only remove entries.

PARTIAL: the append-entries request (follower side) is not covered. There the statement needs the hypothesis of
`Order.AppendOk` that a conflicting entry lies above `configs.committed.index` (on a follower `committed` is merely
the previous `latest`, and a truncation below it would leave `configs` pointing at removed entries), and the
no-failure argument of `Lemmas/Order.lean` for the entry indexes. With respect to the COMMIT INDEX the statement is
false for a new leader: a follower that received two configuration entries in one request without the commit index
covering them holds both above its commit index when it is elected. -/
theorem at_most_one_uncommitted_log_partial (s : Node) (op : Op) (rollAt : List Nat) (orders : List (List Nat))
    (hsc : SelfCache s) (hli : s.configs.latest.index ≤ s.lastLogIndex) (hanch : AnchC s.configs.latest)
    (hok : OpOk op) (hl : LogInv s) (ha : ∀ q, op ≠ .append q)
    (hp : (s.step op rollAt orders).panicked = none) : LogInv (s.step op rollAt orders) := by
  have m0 := main_begin s op rollAt orders hli hanch
  by_cases hi : ∃ q, op = .install q
  · obtain ⟨q, rfl⟩ := hi
    have hst : s.step (.install q) rollAt orders =
        settle 6 ((s.begin rollAt orders).handle (.install q)) (s.begin rollAt orders).role := rfl
    have hh : (s.begin rollAt orders).handle (.install q) = ((s.begin rollAt orders).onInstallSnap q).rpcDone false := rfl
    rw [hst] at hp ⊢
    rcases onInstallSnap_fi (s.begin rollAt orders) q rfl m0.chain m0.ci with h | h
    · rw [hh, h] at hp ⊢
      obtain ⟨ph, hm⟩ := settle_fin 6 _ (s.begin rollAt orders).role _
        ((mainQ s _ _).rpcDone_q _ false false ((mainQ s _ _).ret _ rStaleTerm m0))
      exact hm.cl hl hp
    · have h' : FI s (.install q) ((s.begin rollAt orders).handle (.install q)) := by
        rw [hh]; exact h.congr (kf_rpcDone _ _ _)
      have hq := settle_follower_q _ (s.begin rollAt orders).role h'.role
      refine LogInv.congr ?_ hq.configs (fun e he => by rw [← hq.entries]; exact he)
      rw [hh]
      have hq2 := q_rpcDone ((s.begin rollAt orders).onInstallSnap q) false false
      exact (onInstallSnap_logInv (s.begin rollAt orders) q hl).congr hq2.configs
        (fun e he => by rw [← hq2.entries]; exact he)
  · obtain ⟨ph, hm⟩ := step_fin s op rollAt orders hsc hli hanch hok ha (fun q h => hi ⟨q, h⟩)
    exact hm.cl hl hp

/-- the zero configuration (a node that holds none), or a configuration with an anchor -/
def AnchZ (c : Config) : Prop := (c.nodes = [] ∧ c.index = 0) ∨ HasAnchor c

/-- **the invariant**: both configurations a node holds are zero or anchored -/
def AV (s : Node) : Prop := AnchZ s.configs.latest ∧ AnchZ s.configs.committed

/-- well-formedness of the configurations carried by requests: every configuration entry of an append request,
and the label of an installed snapshot, has an anchor (what a correct leader sends: its own configurations) -/
def ReqAnch : Op → Prop
  | .append q => ∀ e ∈ q.entries, ∀ c, e.config? = some c → HasAnchor c
  | .install q => AnchZ q.lastConfig
  | _ => True

theorem AnchZ.anchC {c : Config} (h : AnchZ c) : AnchC c := h.imp (fun h => h.1) id

theorem chain_av {ph : Phase} {cs : Configs} (h : Chain s op ph cs) (hav : AV s) (hreq : ReqAnch op) :
    AnchZ cs.latest ∧ AnchZ cs.committed := by
  induction h with
  | start => exact hav
  | step hc mv ih =>
    cases mv with
    | change _ x b c _ _ _ _ _ _ _ _ _ _ _ _ _ ha => exact ⟨Or.inr ha, ih.1⟩
    | commit => exact ⟨ih.1, ih.1⟩
    | adopt _ q e c hop he hc' =>
      subst hop
      exact ⟨Or.inr (hreq e he c hc'), ih.1⟩
    | revert => exact ⟨ih.2, ih.2⟩
    | install _ q hop =>
      subst hop
      exact ⟨hreq, hreq⟩
    | bootstrap t c self hop _ _ hself hv hst =>
      refine ⟨Or.inr ⟨s.nid, self, hself, hv, ?_⟩, hav.1⟩
      have hmem : self ∈ c.nodes := List.mem_of_find?_eq_some hself
      unfold Config.isStable at hst
      have := List.all_eq_true.mp hst self hmem
      simpa using this

/-- **a voter always remains**: `AV` is preserved by every step — every configuration a node adopts (as leader: by
one action that never touches an anchor; as follower: from requests whose configurations are anchored; by
bootstrap: stable with itself a voter) has a voter without pending action. -/
theorem always_a_voter (s : Node) (op : Op) (rollAt : List Nat) (orders : List (List Nat)) (hsc : SelfCache s)
    (hli : s.configs.latest.index ≤ s.lastLogIndex) (hav : AV s) (hok : OpOk op) (hreq : ReqAnch op) :
    AV (s.step op rollAt orders) := by
  obtain ⟨ph, hc⟩ := config_step s op rollAt orders hsc hli hav.1.anchC hok
  exact chain_av hc hav hreq

/-- … hence the latest configuration of a bootstrapped node has a voter -/
theorem av_has_voter (s : Node) (h : AV s) (hb : s.configs.isBootstrapped = true) :
    ∃ v, s.configs.latest.isVoter v = true := by
  rcases h.1 with h | h
  · unfold Configs.isBootstrapped Config.isBootstrapped at hb
    rw [h.2] at hb
    simp at hb
  · exact h.voter

/-- every operation of the run is acceptable for `config_step` and carries anchored configurations -/
def RunAnch : List (Op × List Nat × List (List Nat)) → Prop
  | [] => True
  | o :: os => OpOk o.1 ∧ ReqAnch o.1 ∧ RunAnch os

/-- **along any run** of a good node (`NoPanic.Good`: it supplies `SelfCache` and `latest.index ≤ lastLogIndex`
at every step) whose requests are acceptable: a voter always remains. -/
theorem always_a_voter_run {T : Bool} (s : Node) (ops : List (Op × List Nat × List (List Nat)))
    (hG : NoPanic.Good T s) (hr : C15NoPanic.RunOk T s ops) (ha : RunAnch ops) (hav : AV s) :
    AV (C19Order.run s ops) := by
  induction ops generalizing s with
  | nil => exact hav
  | cons o os ih =>
    obtain ⟨h1, h2, h3, h4⟩ := hr
    obtain ⟨a1, a2, a3⟩ := ha
    refine ih _ (C15NoPanic.good_step s o.1 o.2.1 o.2.2 hG h1 h2 h3) h4 a3 ?_
    refine always_a_voter s o.1 o.2.1 o.2.2 ?_ hG.ordered.latest_le_last hav a1 a2
    intro hl
    have hc := (hG.leader h1 hl).2
    rw [((LC.cache_iff s).mp hc).2.1]
    exact get_voter_eq_isVoter _ _

/-- EXAMPLE state: the leader of `C06Cache.exLeader` (node 1 leads {1 voter, 2 voter, 3 non-voter being promoted},
entries 1..3, commit index 2 ≥ startIndex 2, configuration 1 committed) -/
def exL : Node := C06Cache.exLeader

/-- EXAMPLE state: the follower of `C19Order.exNode` (entries 2..4 above a snapshot at 1, configuration 1) -/
def exF : Node := C19Order.exNode

theorem exL_anchor : HasAnchor exL.configs.latest :=
  ⟨1, { id := 1, addr := "a:1", voter := true }, by decide, rfl, rfl⟩

theorem exL_av : AV exL := ⟨Or.inr exL_anchor, Or.inr exL_anchor⟩

theorem exF_av : AV exF :=
  ⟨Or.inr ⟨1, { id := 1, addr := "a:1", voter := true }, by decide, rfl, rfl⟩,
   Or.inr ⟨1, { id := 1, addr := "a:1", voter := true }, by decide, rfl, rfl⟩⟩

/-- EXAMPLE (`config_step`, `config_step_cases`, leader side): the hypotheses hold for `exL` and the client's
request to demote node 2 (`C06Cache.exDemote`); hence the step is one of the four cases. -/
example :
    SelfCache exL ∧ exL.configs.latest.index ≤ exL.lastLogIndex ∧ AnchC exL.configs.latest ∧
    OpOk (.changeConfig 1 C06Cache.exDemote) ∧ LeaderOp exL (.changeConfig 1 C06Cache.exDemote) ∧
    ConfigStep exL (.changeConfig 1 C06Cache.exDemote) (exL.step (.changeConfig 1 C06Cache.exDemote) [] []) := by
  have h1 : SelfCache exL := fun _ => by decide
  have h2 : exL.configs.latest.index ≤ exL.lastLogIndex := by decide
  have h3 : AnchC exL.configs.latest := Or.inr exL_anchor
  have h4 : OpOk (.changeConfig 1 C06Cache.exDemote) := by unfold OpOk; decide
  have h5 : LeaderOp exL (.changeConfig 1 C06Cache.exDemote) := by
    unfold LeaderOp
    exact ⟨fun q h => (by cases h), fun q h => (by cases h), fun _ _ _ => rfl⟩
  exact ⟨h1, h2, h3, h4, h5, config_step _ _ _ _ h1 h2 h3 h4⟩

-- … it is the third case, in its second form: configuration 4 = {1 voter, 2 non-voter, 3 …} is introduced (adjacent to
-- {1, 2 voters}: node 2 loses the vote, the anchor 1 stays) and, node 1 being the only voter left, committed at once
-- (`settled`). (`Config.validate` parses addresses: `#guard` runs the compiled model.)
#guard (exL.step (.changeConfig 1 C06Cache.exDemote) [] []).configs.latest.index = 4
#guard (exL.step (.changeConfig 1 C06Cache.exDemote) [] []).configs.latest.voters = [1]
#guard exL.configs.latest.voters = [1, 2]
#guard (exL.step (.changeConfig 1 C06Cache.exDemote) [] []).configs.committed =
  (exL.step (.changeConfig 1 C06Cache.exDemote) [] []).configs.latest

/-- a configuration entry {1, 2 voters, 3 non-voter} at index 5 -/
def exCfgEntry : Entry :=
  { index := 5, term := 1, typ := etConfig,
    cfg := some { nodes := [{ id := 1, addr := "a:1", voter := true }, { id := 2, addr := "b:1", voter := true },
                            { id := 3, addr := "c:1", voter := false }] } }

/-- EXAMPLE request: the leader 2 sends that entry after entry 4 -/
def exAdopt : AppendReq :=
  { term := 1, src := 2, prevLogIndex := 4, prevLogTerm := 1, ldrCommitIndex := 4, entries := [exCfgEntry] }

/-- EXAMPLE (`config_step`, `always_a_voter`, follower side): `exF` adopts the configuration entry of `exAdopt`
(move `adopt`: `committed :=` the previous `latest`, `latest :=` the entry), and keeps a voter. -/
example :
    ConfigStep exF (.append exAdopt) (exF.step (.append exAdopt) [] []) ∧
    (exF.step (.append exAdopt) [] []).configs.committed = exF.configs.latest ∧
    (exF.step (.append exAdopt) [] []).configs.latest.index = 5 ∧
    AV (exF.step (.append exAdopt) [] []) := by
  have h1 : SelfCache exF := fun h => by cases h
  have h2 : exF.configs.latest.index ≤ exF.lastLogIndex := by decide
  refine ⟨config_step _ _ _ _ h1 h2 exF_av.1.anchC trivial, by decide, by decide,
    always_a_voter _ _ _ _ h1 h2 exF_av trivial ?_⟩
  intro e he c hc
  have he' : e = exCfgEntry := by simpa [exAdopt] using he
  subst he'
  have : c = { nodes := [{ id := 1, addr := "a:1", voter := true }, { id := 2, addr := "b:1", voter := true },
                         { id := 3, addr := "c:1", voter := false }], index := 5, term := 1 } := by
    have h : exCfgEntry.config? = some _ := rfl
    rw [h] at hc
    injection hc with hc
    exact hc.symm
  subst this
  exact ⟨1, { id := 1, addr := "a:1", voter := true }, by decide, rfl, rfl⟩

/-- EXAMPLE (the case "one configuration introduced, not committed" of `config_step_cases`): node 3, being
promoted, has caught up; its acknowledgement makes the leader introduce configuration 4 = {1, 2, 3 voters} (adjacent
to {1, 2}: node 3 gains the vote), `committed` becomes the predecessor, the commit index moves to 3 only. -/
def exPromote : Op := .replUpdates [{ id := 3, upd := .matchIndex 3 }]

#guard (exL.step exPromote [] []).panicked = none
#guard (exL.step exPromote [] []).configs.latest.index = 4
#guard (exL.step exPromote [] []).configs.latest.voters = [1, 2, 3]
#guard (exL.step exPromote [] []).configs.committed = exL.configs.latest
#guard (exL.step exPromote [] []).commitIndex = 3

/-- EXAMPLE (`at_most_one_uncommitted_log_partial`): `LogInv` holds for `exL` (the only configuration entry is
entry 1 = `committed` = `latest`) and for `exF`, and is preserved by a step (here a client update; the hypothesis
"the step completes" is discharged by evaluation) -/
example :
    LogInv exL ∧ LogInv exF ∧
    LogInv (exL.step (.newEntries [{ typ := etUpdate, data := "y", task := 3 }]) [] []) := by
  have h1 : LogInv exL := by unfold LogInv CfgLog; decide
  have h2 : LogInv exF := by unfold LogInv CfgLog; decide
  refine ⟨h1, h2, at_most_one_uncommitted_log_partial _ _ _ _ (fun _ => by decide) (by decide) (Or.inr exL_anchor)
    ?_ h1 (fun q h => by cases h) (by decide +kernel)⟩
  intro q hq
  rw [List.mem_singleton.mp hq]
  decide

/-- two configuration entries: {1, 2 voters, 3 non-voter} at 5, {…, 4 non-voter} at 6, sent in ONE request by the
leader 2 whose commit index is 5 (it committed entry 5 before it created entry 6) -/
def exTwoCfg : AppendReq :=
  { term := 1, src := 2, prevLogIndex := 4, prevLogTerm := 1, ldrCommitIndex := 5, entries := [{ index := 5, term := 1, typ := etConfig, cfg := some { nodes := [{ id := 1, addr := "a:1", voter := true }, { id := 2, addr := "b:1", voter := true }, { id := 3, addr := "c:1", voter := false }] } }, { index := 6, term := 1, typ := etConfig, cfg := some { nodes := [{ id := 1, addr := "a:1", voter := true }, { id := 2, addr := "b:1", voter := true }, { id := 3, addr := "c:1", voter := false }, { id := 4, addr := "d:1", voter := false }] } }] }

/-- EXAMPLE (why "uncommitted" is measured against `configs.committed`, not against the commit index): `exF` receives
`exTwoCfg`; `canCommit` compares the leader's commit index with the LAST new entry, so the follower's commit index
moves to 4 only; its `configs` are ⟨entry 5, entry 6⟩. Elected afterwards (timeout, one vote), it is a leader with
TWO configuration entries above its commit index 4. `LogInv` holds: beyond `committed.index = 5` there is entry 6
only; and it cannot introduce a configuration before entry 6 is committed (`isCommitted` is false). -/
def exNewLeader : Node :=
  C19Order.run exF [(.append exTwoCfg, [], []), (.timeout, [], []), (.timeout, [], []), (.voteResult false 2 rSuccess, [], [])]

#guard exNewLeader.role = .leader ∧ exNewLeader.panicked = none
#guard exNewLeader.commitIndex = 4
#guard (exNewLeader.log.entries.filter (fun e => e.typ == etConfig)).map (·.index) = [5, 6]
#guard exNewLeader.configs.committed.index = 5 ∧ exNewLeader.configs.latest.index = 6
#guard exNewLeader.configs.isCommitted = false

/-- NECESSITY (`OpOk`, client batches hold no configuration entry): a configuration entry smuggled into a batch of
client entries is stored and adopted by `leader.storeEntry` WITHOUT any of the checks of `leader.onChangeConfig` —
here a configuration without any voter. NOT reachable: the client API (`UpdateFSM`, `ReadFSM`, `BarrierFSM`, …) has
no task that produces one; `leader.doChangeConfig` is the only producer. -/
def exBadItem : QItem := { typ := etConfig, cfg := some { nodes := [{ id := 3, addr := "c:1", voter := false }] } }

example : ¬ OpOk (.newEntries [exBadItem]) := by
  intro h
  exact h exBadItem (List.mem_singleton_self _) rfl

#guard (exL.step (.newEntries [exBadItem]) [] []).configs.latest.voters = []
#guard (exL.step (.newEntries [exBadItem]) [] []).configs.latest.index = 4

/-- NECESSITY (`AnchC`: the latest configuration has an anchor): in `C15NoPanic.exNoAnchor` the only voter is the
leader, marked for removal, and the other member, a non-voter, too. Once the non-voter caught up it is removed, the
change commits at once, the leader removes ITSELF: the configuration adopted has no member at all. NOT reachable:
`leader.onChangeConfig` demands a voter without action, and no action touches one (`OneNode.anchor`). -/
example : ¬ AnchC C15NoPanic.exNoAnchor.configs.latest := by
  rintro (h | ⟨a, m, h1, h2, h3⟩)
  · cases h
  · have hm : m ∈ C15NoPanic.exNoAnchor.configs.latest.nodes := List.mem_of_find?_eq_some h1
    have : m = { id := 1, addr := "a:1", voter := true, action := actRemove } ∨
        m = { id := 2, addr := "b:1", voter := false, action := actRemove } := by
      simpa [C15NoPanic.exNoAnchor] using hm
    rcases this with rfl | rfl
    · cases h3
    · cases h2

#guard (C15NoPanic.exNoAnchor.step (.replUpdates [{ id := 2, upd := .matchIndex 2 }]) [] []).configs.latest.nodes = []
#guard (C15NoPanic.exNoAnchor.step (.replUpdates [{ id := 2, upd := .matchIndex 2 }]) [] []).configs.latest.index = 4

/-- a leader (node 1) that has demoted itself: configuration 3 = {1 non-voter with Remove pending, 2, 3 voters} is
not committed yet; `v` is the voter flag of the CACHED own entry `ldr.node` (current: `false`) -/
def exStale (v : Bool) : Node :=
  let n1 : CNode := { id := 1, addr := "a:1", voter := false, action := actRemove }
  let n2 : CNode := { id := 2, addr := "b:1", voter := true }
  let n3 : CNode := { id := 3, addr := "c:1", voter := true }
  let c0 : Config := { nodes := [{ n1 with voter := true }, n2, n3], index := 1, term := 1 }
  let c3 : Config := { nodes := [n1, n2, n3], index := 3, term := 1 }
  { nid := 1, cid := 7, term := 1, durTerm := 1, role := .leader, leader := 1,
    log := { entries := [c0.toEntry, { index := 2, term := 1, typ := etNop }, c3.toEntry], flushed := 3 },
    lastLogIndex := 3, lastLogTerm := 1, commitIndex := 2, fsm := { index := 2, term := 1, config := c0 },
    configs := { committed := c0, latest := c3 },
    ldr := { node := { n1 with voter := v }, numVoters := 2, startIndex := 2,
             queue := [{ index := 3, term := 1, typ := etConfig, cfg := some c3.payload }],
             repls := [{ id := 2, node := n2, matchIndex := 2 }, { id := 3, node := n3, matchIndex := 2 }] } }

/-- NECESSITY (`SelfCache`): both voters acknowledge entry 3; the configuration commits, node 1 — no longer a voter —
steps down, and `leader.setCommitIndex` goes on to `checkConfigActions` (the configuration is not stable: node 1 is
to be removed). With the current cache (`false`) `storeEntry` refuses ("inProgress:demoteLeader"); with a STALE
cache (`true`) the node, now a FOLLOWER, appends entry 4 and adopts the configuration {2, 3}: the clause `role =
leader` of `Move.change` fails. NOT reachable: `C06Cache.step_leaderCache` (the cache is refreshed with every
configuration the leader adopts). -/
example : SelfCache (exStale false) ∧ ¬ SelfCache (exStale true) := by
  refine ⟨fun _ => by decide, fun h => ?_⟩
  have := h rfl
  revert this
  decide

#guard ((exStale true).step (.replUpdates [{ id := 2, upd := .matchIndex 3 }, { id := 3, upd := .matchIndex 3 }]) [] []).role = .follower
#guard ((exStale true).step (.replUpdates [{ id := 2, upd := .matchIndex 3 }, { id := 3, upd := .matchIndex 3 }]) [] []).configs.latest.index = 4
#guard ((exStale true).step (.replUpdates [{ id := 2, upd := .matchIndex 3 }, { id := 3, upd := .matchIndex 3 }]) [] []).configs.latest.ids = [2, 3]
#guard ((exStale false).step (.replUpdates [{ id := 2, upd := .matchIndex 3 }, { id := 3, upd := .matchIndex 3 }]) [] []).role = .follower
#guard ((exStale false).step (.replUpdates [{ id := 2, upd := .matchIndex 3 }, { id := 3, upd := .matchIndex 3 }]) [] []).lastLogIndex = 3

/-- `exL` with a latest (and committed) configuration whose index 4 lies BEYOND the log end 3 -/
def exLI : Node :=
  { exL with configs := { committed := { exL.configs.latest with index := 4 }, latest := { exL.configs.latest with index := 4 } } }

/-- the request: demote node 2 (node 3 is already being promoted) -/
def exLIReq : Config :=
  { exLI.configs.latest with nodes := exLI.configs.latest.nodes.map (fun n => if n.id = 2 then { n with action := actDemote } else n) }

/-- NECESSITY (`latest.index ≤ lastLogIndex`): `IsCommitted` compares INDEXES. When the latest configuration claims
index 4 = `lastLogIndex + 1`, the configuration the leader introduces next (promote 3) gets the same index 4 and
passes for committed at once; the demotion of 2 follows in the same step: entries 4 ({1, 2, 3} vote) and 5 ({1, 3}
vote) are both above the commit index 2 — a configuration was introduced while its predecessor was NOT committed. With
the true index only the promotion is carried out. NOT reachable: `Order.Ordered.latest_le_last` is an invariant
(`C19Order.ordered_step`). -/
example : ¬ (exLI.configs.latest.index ≤ exLI.lastLogIndex) := by decide

#guard (exLI.step (.changeConfig 1 exLIReq) [] [[3, 2]]).lastLogIndex = 5
#guard (exLI.step (.changeConfig 1 exLIReq) [] [[3, 2]]).configs.committed.voters = [1, 2, 3]
#guard (exLI.step (.changeConfig 1 exLIReq) [] [[3, 2]]).configs.latest.voters = [1, 3]
#guard (exLI.step (.changeConfig 1 exLIReq) [] [[3, 2]]).commitIndex = 2
#guard (exL.step (.changeConfig 1 { exLIReq with index := 1 }) [] [[3, 2]]).lastLogIndex = 4
#guard (exL.step (.changeConfig 1 { exLIReq with index := 1 }) [] [[3, 2]]).configs.latest.voters = [1, 2, 3]

/-- NECESSITY (`OpOk`, distinct member ids in a submitted configuration): with two entries of the same id the check
"a voter without action remains" of `onChangeConfig` (a scan of the list) is passed by the SECOND entry, while every
lookup (`Config.find?`, hence `isVoter`) sees the first, a non-voter: the configuration has no anchor. NOT reachable:
`Config.Nodes` is a Go map keyed by id. -/
example :
    let c : Config := { nodes := [{ id := 1, addr := "a:1", voter := false }, { id := 1, addr := "b:1", voter := true }] }
    ¬ OpOk (.changeConfig 1 c) ∧ c.nodes.any (fun n => n.voter && n.action == actNone) = true ∧ ¬ HasAnchor c := by
  refine ⟨by unfold OpOk; decide, by decide, ?_⟩
  rintro ⟨a, m, h1, h2, _⟩
  have hm := List.mem_of_find?_eq_some h1
  have hid := find?_id h1
  have : m = { id := 1, addr := "a:1", voter := false } ∨ m = { id := 1, addr := "b:1", voter := true } := by
    simpa using hm
  rcases this with rfl | rfl
  · cases h2
  · subst hid
    revert h1
    decide

/-- NECESSITY (`ReqAnch`): a follower adopts whatever configuration entry it is sent; one without voter leaves it
without voter. NOT reachable from a correct leader (`always_a_voter` on the leader's side). -/
example :
    let e : Entry := { index := 5, term := 1, typ := etConfig, cfg := some { nodes := [{ id := 3, addr := "c:1" }] } }
    let q : AppendReq := { term := 1, src := 2, prevLogIndex := 4, prevLogTerm := 1, ldrCommitIndex := 4, entries := [e] }
    ¬ ReqAnch (.append q) ∧ (exF.step (.append q) [] []).configs.latest.voters = [] := by
  refine ⟨fun h => ?_, by decide⟩
  obtain ⟨a, m, h1, h2, _⟩ := h _ (List.mem_singleton_self _) _ rfl
  have hm := List.mem_of_find?_eq_some h1
  have : m = { id := 3, addr := "c:1" } := by simpa using hm
  subst this
  cases h2

end C08Step
end Raft

#print axioms Raft.C08Step.config_step
#print axioms Raft.C08Step.config_step_good
#print axioms Raft.C08Step.leader_config_adjacent
#print axioms Raft.C08Step.settled_configs
#print axioms Raft.C08Step.config_step_cases
#print axioms Raft.C08Step.at_most_one_uncommitted
#print axioms Raft.C08Step.at_most_one_uncommitted_log_partial
#print axioms Raft.C08Step.always_a_voter
#print axioms Raft.C08Step.av_has_voter
#print axioms Raft.C08Step.always_a_voter_run
#print axioms Raft.C08Step.logInv_reads
#print axioms Raft.CfgRel.block
#print axioms Raft.CfgRel.handle_fin
#print axioms Raft.CfgRel.settle_fin
#print axioms Raft.CfgRel.onAppendEntries_fi
#print axioms Raft.CfgRel.onInstallSnap_fi
