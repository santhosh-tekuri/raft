/-
C19 — A node's observable state is ordered and never regresses (node-local).

Proved here for EVERY operation and EVERY input (no assumption on the requests): the commit index and the
term never decrease over a step. The remaining clauses hold only for requests a correct cluster can send:
last-applied and snapshot index monotone and the orderings between the reported indexes are proved under
`Order.ReqOk` in Props/C19Order.lean, "latest = newest configuration entry" in Props/C19Latest.lean.
-/
import RaftVerif.Props.C05
import RaftVerif.Lemmas.Shape

namespace Raft
namespace C19
open Node

/-- the commit index did not go below the one the step started with -/
def CommitMono (s₀ s : Node) : Prop := s₀.commitIndex ≤ s.commitIndex

theorem cm_congr {s₀ s s' : Node} (h : CommitMono s₀ s) (e : s'.commitIndex = s.commitIndex) : CommitMono s₀ s' := by
  unfold CommitMono at *; rw [e]; exact h

theorem setCommitIndexR_commitIndex (s : Node) (i : Nat) : (s.setCommitIndexR i).1.commitIndex = i := by
  rw [setCommitIndexR_shape]

theorem closed (s₀ : Node) : StepClosed (CommitMono s₀) where
  panic := fun s site h => cm_congr h (by rw [panic_shape])
  reply := fun s t r h => cm_congr h (by rw [reply_shape])
  point := fun s n h => cm_congr h rfl
  ldr := fun s l h => cm_congr h rfl
  append := fun s e r h => cm_congr h rfl
  commitN := fun s n h => cm_congr h rfl
  fsm := fun s f h => cm_congr h rfl
  changeConfigR := fun s c h => cm_congr h (by rw [changeConfigR_shape])
  setCommitIndexR := fun s i h hi => by
    unfold CommitMono at *; rw [setCommitIndexR_commitIndex]; omega
  popOrder := fun s h => cm_congr h rfl
  begin := fun s ra ord h => cm_congr h rfl
  rpcReply := fun s r h => cm_congr h rfl
  ret := fun s r h => cm_congr h rfl
  setRole := fun s r h => cm_congr h rfl
  setLeader := fun s l h => cm_congr h rfl
  doClose := fun s r h => cm_congr h (by rw [doClose_shape])
  setTerm := fun s t h => cm_congr h (by rw [setTerm_shape])
  voteNewTerm := fun s t c h _ => cm_congr h (by rw [setVotedFor_shape])
  voteGrant := fun s c h _ => cm_congr h (by rw [setVotedFor_shape])
  votesNeeded := fun s v h => cm_congr h rfl
  candTransfer := fun s v h => cm_congr h rfl
  removeGTE := fun s i pt h => cm_congr h rfl
  removeLTE := fun s i h => cm_congr h rfl
  clearLog := fun s h => cm_congr h rfl
  revertConfig := fun s h => cm_congr h rfl
  commitConfig := fun s h => cm_congr h (by rw [commitConfig_shape])
  publishSnapshot := fun s f h => cm_congr h rfl
  installCommit := fun s h hgt => by
    unfold CommitMono at *
    show s₀.commitIndex ≤ s.snapIndex
    omega
  snapPending := fun s v h => cm_congr h rfl
  snapResult := fun s v h => cm_congr h rfl
  bootstrapLast := fun s i t h => cm_congr h rfl

/-- **the commit index never decreases**: for every operation a node can handle — any RPC with any
coordinates (stale, duplicated, conflicting, from any term), any task, timeout, replication update,
snapshot event — in every state. -/
theorem commit_never_decreases (s : Node) (op : Op) (rollAt : List Nat) (orders : List (List Nat)) :
    s.commitIndex ≤ (s.step op rollAt orders).commitIndex :=
  (closed s).step_inv s op rollAt orders (Nat.le_refl _)

/-- **the term never decreases**, for every operation and input. -/
theorem term_never_decreases (s : Node) (op : Op) (rollAt : List Nat) (orders : List (List Nat))
    (h : C05.VoteWF s) : s.term ≤ (s.step op rollAt orders).term :=
  (C05.step_vote_stable s op rollAt orders h).1.1

/-- over any sequence of operations -/
theorem commit_never_decreases_run (s : Node) (ops : List (Op × List Nat × List (List Nat))) :
    s.commitIndex ≤ (ops.foldl (fun s o => s.step o.1 o.2.1 o.2.2) s).commitIndex := by
  induction ops generalizing s with
  | nil => exact Nat.le_refl _
  | cons o os ih => exact Nat.le_trans (commit_never_decreases s o.1 o.2.1 o.2.2) (ih _)

/-- a follower only commits what its log holds: `canCommit` is evaluated for indexes it just matched or stored -/
theorem follower_commit_guard (s : Node) (q : AppendReq) (index term : Nat) (h : s.canCommit q index term = true) :
    q.ldrCommitIndex ≥ index ∧ term = q.term ∧ index > s.commitIndex := by
  unfold Node.canCommit at h
  simp only [Bool.and_eq_true, decide_eq_true_eq, beq_iff_eq] at h
  exact ⟨h.1.1, h.1.2, h.2⟩

/-- a stale or duplicated install-snapshot request (not ahead of the commit index) changes nothing but the reply -/
theorem stale_install_ignored (s : Node) (q : InstallReq) (ht : q.term = s.term) (hf : s.role = .follower)
    (hl : s.leader = q.src) (hstale : q.lastIndex ≤ s.commitIndex) :
    s.onInstallSnap q = s.ret rSuccess := by
  have e : installPre s q = s := by
    unfold installPre; rw [if_neg (by omega)]
    cases s; simp_all [Node.setRole, Node.setLeader]
  rw [onInstallSnap_eq, if_neg (by omega), e, if_pos hstale]

end C19
end Raft

#print axioms Raft.C19.commit_never_decreases
#print axioms Raft.C19.commit_never_decreases_run
#print axioms Raft.C19.term_never_decreases
#print axioms Raft.C19.follower_commit_guard
#print axioms Raft.C19.stale_install_ignored
