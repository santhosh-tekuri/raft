/-
C04 (log matching) on the cluster-level transition system `Raft.Replication` (Sys/Replication.lean) — fixed
voter set, no snapshots / compaction (the `_partial` restrictions, see the header of Sys/Replication.lean).

`log_matching_sys_partial`: in every reachable state, two nodes' logs that hold an entry with the same index
and term hold equal entries (type, payload, configuration) at every index up to it.
`entry_created_once_partial`: the ledger of created entries never holds two different entries for one
(index, term); every log entry and every entry of every request on the wire is in it.
`request_consistent_partial`: every request on the wire is a slice of that tree; a request and a log (or two
requests) that agree on one (index, term) agree on everything before it, including `prevLogTerm`.

The invariant `Replication.Inv V` is the election invariant of C01Sys plus `LogInv (ElV V grants)`: what is said of
logs, tree and requests, for a notion `El l t` of "node `l` was elected for term `t`". `LogInv` is preserved by any
node update `C04Member.UpdM` (`logInv_upd`; a completed step: `updM_step`, a crash and restart: `updM_crash`) for ANY
`El` that names one node per term; the system with membership changes (Props/C04Member.lean) is its second instance.
-/
import RaftVerif.Sys.Replication
import RaftVerif.Lemmas.NodeSys

namespace Raft
namespace C04Sys
open Node LogRel Replication C01
open Election (FixedV RealReply setNode stepSys setNode_same setNode_other)
open NodeSys (forall_setNode)

theorem prefix_append_cases {l a b : List Entry} (h : l <+: a ++ b) :
    l <+: a ∨ ∃ b', b' ≠ [] ∧ b' <+: b ∧ l = a ++ b' := by
  by_cases hl : l.length ≤ a.length
  · left
    exact List.prefix_of_prefix_length_le h (List.prefix_append a b) hl
  · right
    have ha : a <+: l := List.prefix_of_prefix_length_le (List.prefix_append a b) h (by omega)
    obtain ⟨b', hb'⟩ := ha
    subst hb'
    refine ⟨b', ?_, ?_, rfl⟩
    · intro he; subst he; simp at hl
    · exact (List.prefix_append_right_inj a).mp h

theorem mem_chainOf {cr pt : Nat} {es : List Entry} {c : CEntry} (h : c ∈ chainOf cr pt es) :
    c.cr = cr ∧ c.e ∈ es := by
  induction es generalizing pt with
  | nil => cases h
  | cons e es ih =>
    simp only [chainOf, List.mem_cons] at h
    rcases h with h | h
    · subst h; exact ⟨rfl, List.mem_cons_self ..⟩
    · obtain ⟨a, b⟩ := ih h
      exact ⟨a, List.mem_cons_of_mem _ b⟩

theorem chain_chainOf (cr : Nat) (T : List CEntry) : ∀ (pt : Nat) (es : List Entry) (A : List CEntry),
    (∀ c ∈ chainOf cr pt es, c ∈ A) → Chain (A ++ T) (some pt) es := by
  intro pt es
  induction es generalizing pt with
  | nil => intro A _; trivial
  | cons e es ih =>
    intro A hA
    refine ⟨⟨⟨e, pt, cr⟩, List.mem_append_left _ (hA _ (by simp [chainOf])), rfl, fun pt' hp => ?_⟩, ?_⟩
    · injection hp
    · exact ih e.term A (fun c hc => hA c (by simp only [chainOf, List.mem_cons]; exact Or.inr hc))

theorem chainOf_inj (cr : Nat) : ∀ (pt : Nat) (es : List Entry),
    es.Pairwise (fun a b => a.index ≠ b.index) →
    ∀ a ∈ chainOf cr pt es, ∀ b ∈ chainOf cr pt es, a.e.index = b.e.index → a = b := by
  intro pt es
  induction es generalizing pt with
  | nil => intro _ a ha; cases ha
  | cons e es ih =>
    intro hp a ha b hb hab
    obtain ⟨hp1, hp2⟩ := List.pairwise_cons.mp hp
    simp only [chainOf, List.mem_cons] at ha hb
    rcases ha with ha | ha <;> rcases hb with hb | hb
    · rw [ha, hb]
    · subst ha
      exact absurd hab (hp1 _ (mem_chainOf hb).2)
    · subst hb
      exact absurd hab.symm (hp1 _ (mem_chainOf ha).2)
    · exact ih e.term hp2 a ha b hb hab

theorem contig_drop {es : List Entry} (hc : Contig es) (n : Nat) :
    (es.drop n).Pairwise (fun a b => a.index ≠ b.index) ∧ ∀ e ∈ es.drop n, n < e.index ∧ e.index ≤ es.length := by
  constructor
  · rw [List.pairwise_iff_getElem]
    intro i j hi hj hij
    rw [List.getElem_drop, List.getElem_drop]
    rw [List.length_drop] at hi hj
    rw [hc _ (by omega), hc _ (by omega)]
    omega
  · intro e he
    obtain ⟨k, hk, rfl⟩ := List.getElem_of_mem he
    rw [List.getElem_drop]
    rw [List.length_drop] at hk
    rw [hc _ (by omega)]
    omega

theorem mem_of_short {V : List Nat} {a b : Nat} (h : V.length / 2 + 1 = 1) (ha : a ∈ V) (hb : b ∈ V) : a = b := by
  match V, h, ha, hb with
  | [v], _, ha, hb => rw [List.mem_singleton.mp ha, List.mem_singleton.mp hb]
  | _ :: _ :: _, h, _, _ => simp at h; omega

theorem node_voter {V : List Nat} {x : Sys} (hI : Inv V x) (hF : FixedV V x.el) (i : Nat)
    (h : (x.el.node i).configs.latest.isVoter (x.el.node i).nid = true) : i ∈ V := by
  have := C01Sys.isVoter_mem_voters _ _ h
  rw [(hI.el.ids i).1, (hF i).2] at this
  exact this

/-- a node that appends to its own log is a voter … -/
theorem story_voter {V : List Nat} {x : Sys} (hI : Inv V x) (hF : FixedV V x.el) (i : Nat) (op : Op) (te : Nat)
    (hs : Story (x.el.node i) op te) : i ∈ V := by
  rcases hs with ⟨h, _⟩ | ⟨h, _, _⟩ | ⟨_, _, h | h⟩
  · exact hI.ldrV i h
  · exact (hI.el.cand i h.1).voter
  · exact (hI.el.cand i h).voter
  · exact node_voter hI hF i h

/-- … and is backed by a majority of grants (already in the ledger before the step) for the entries' term,
unless the quorum is one -/
theorem story_backed {V : List Nat} {x : Sys} (hI : Inv V x) (hF : FixedV V x.el) (i : Nat) (op : Op)
    (src te : Nat) (hr : Counts (x.el.node i) op → RealReply x.el i src) (hs : Story (x.el.node i) op te) :
    V.length / 2 + 1 = 1 ∨ Backed x.el.grants V i te := by
  rcases hs with ⟨h, ht⟩ | ⟨h, h0, ht⟩ | ⟨_, hq, _⟩
  · right; rw [ht]; exact hI.el.backed _ _ (hI.el.recorded i h)
  · right
    rw [ht]
    exact (hI.el.cand i h.1).backed_last (hF i).2 (hr h) h0
  · left
    rw [C01Sys.quorum_eq, (hF i).2] at hq
    exact hq

/-- node `l` counts as elected for term `t` under the fixed voter set: it is a voter, backed by a majority of grants
unless the quorum is one -/
def ElV (V : List Nat) (G : List Grant) (l t : Nat) : Prop :=
  l ∈ V ∧ (V.length / 2 + 1 = 1 ∨ Backed G V l t)

/-- election safety, in the form the log invariant uses it -/
theorem elV_unique {V : List Nat} (hV : V.Nodup) {G : List Grant} (hu : C01Sys.GrantsUnique G) {l l' t : Nat}
    (h : ElV V G l t) (h' : ElV V G l' t) : l = l' := by
  rcases h.2 with q | b
  · exact mem_of_short q h.1 h'.1
  · rcases h'.2 with q | b'
    · exact mem_of_short q h.1 h'.1
    · exact election_safety_partial G V hV hu _ _ t b b'

theorem story_elV {V : List Nat} {x : Sys} (hI : Inv V x) (hF : FixedV V x.el) (i : Nat) (op : Op)
    (src te : Nat) (hr : Counts (x.el.node i) op → RealReply x.el i src) (hs : Story (x.el.node i) op te) :
    ElV V x.el.grants i te :=
  ⟨story_voter hI hF i op te hs, story_backed hI hF i op src te hr hs⟩

/-! ### the log part of the invariant, for any notion `El l t` of "node `l` was elected for term `t`"

`Replication.Inv V` (fixed voter set: `ElV`) and `C04Member.RInv` (membership changes: an election record backed by
the voters of its own configuration) say the same about the nodes' logs, the tree of created entries and the requests
on the wire; they differ in the election layer below and in what backs the creator of an entry. What the preservation
proof needs of `El` is that it names at most one node per term, that a node which appends to its own log satisfies
it, and that it is not lost when the ledgers grow. -/

structure LogInv (El : Nat → Nat → Prop) (x : Sys) : Prop where
  nodes : ∀ i, NWF (x.el.node i) ∧ Chain x.created none (x.el.node i).log.entries
  uniq : Uniq x.created
  sent : ∀ q ∈ x.sent, ReqOK x.created q
  init0 : ∀ c ∈ x.created, c.cr = 0 → ∀ j, c.e.term ≤ (x.el.node j).term ∧
    ((x.el.node j).role ≠ .follower → c.e.term < (x.el.node j).term)
  own : ∀ c ∈ x.created, c.cr ≠ 0 → El c.cr c.e.term ∧
    c.e.term ≤ (x.el.node c.cr).term ∧
    ((x.el.node c.cr).role = .leader → c.e.term = (x.el.node c.cr).term →
      c.e.index ≤ (x.el.node c.cr).lastLogIndex) ∧
    ((x.el.node c.cr).role = .candidate → c.e.term < (x.el.node c.cr).term)

theorem logInv {V : List Nat} {x : Sys} (hI : Inv V x) : LogInv (ElV V x.el.grants) x :=
  ⟨hI.nodes, hI.uniq, hI.sent, hI.init0, fun c hc h0 => let ⟨a, b, r⟩ := hI.own c hc h0; ⟨⟨a, b⟩, r⟩⟩

theorem inv_of_logInv {V : List Nat} {x : Sys} (hel : C01Sys.Inv V x.el)
    (hl : ∀ i, (x.el.node i).role = .leader → i ∈ V) (h : LogInv (ElV V x.el.grants) x) : Inv V x :=
  ⟨hel, h.nodes, h.uniq, h.sent, hl, h.init0, fun c hc h0 => let ⟨⟨a, b⟩, r⟩ := h.own c hc h0; ⟨a, b, r⟩⟩

/-- Node `i` (state `x.el.node i`) is replaced by `n'` after handling — completely, or until a crash and
restart — the operation `op`. -/
structure Upd (V : List Nat) (x : Sys) (i : Nat) (op : Op) (n' : Node) : Prop where
  nwf : NWF n'
  term : (x.el.node i).term ≤ n'.term
  ldr : n'.role = .leader →
    ((x.el.node i).role = .leader ∧ n'.term = (x.el.node i).term ∧
      (x.el.node i).lastLogIndex ≤ n'.lastLogIndex) ∨
    ((x.el.node i).role = .candidate ∧ n'.term = (x.el.node i).term) ∨ (x.el.node i).term < n'.term
  cand : n'.role = .candidate →
    ((x.el.node i).role = .candidate ∧ n'.term = (x.el.node i).term) ∨ (x.el.node i).term < n'.term
  ldrV : n'.role = .leader → i ∈ V
  log : ((∃ q, op = .append q) ∧ Chain x.created none n'.log.entries) ∨
    ((∀ q, op ≠ .append q) ∧ (n'.log.entries <+: (x.el.node i).log.entries ∨
      ∃ es te, es ≠ [] ∧ n'.log.entries = (x.el.node i).log.entries ++ es ∧ (∀ e ∈ es, e.term = te) ∧
        te ≤ n'.term ∧ Story (x.el.node i) op te ∧ n'.role ≠ .candidate))

/-- `C04Sys.Upd` without `ldrV`, the clause about the fixed voter set -/
structure _root_.Raft.C04Member.UpdM (x : Replication.Sys) (i : Nat) (op : Op) (n' : Node) : Prop where
  nwf : NWF n'
  term : (x.el.node i).term ≤ n'.term
  ldr : n'.role = .leader →
    ((x.el.node i).role = .leader ∧ n'.term = (x.el.node i).term ∧
      (x.el.node i).lastLogIndex ≤ n'.lastLogIndex) ∨
    ((x.el.node i).role = .candidate ∧ n'.term = (x.el.node i).term) ∨ (x.el.node i).term < n'.term
  cand : n'.role = .candidate →
    ((x.el.node i).role = .candidate ∧ n'.term = (x.el.node i).term) ∨ (x.el.node i).term < n'.term
  log : ((∃ q, op = .append q) ∧ Chain x.created none n'.log.entries) ∨
    ((∀ q, op ≠ .append q) ∧ (n'.log.entries <+: (x.el.node i).log.entries ∨
      ∃ es te, es ≠ [] ∧ n'.log.entries = (x.el.node i).log.entries ++ es ∧ (∀ e ∈ es, e.term = te) ∧
        te ≤ n'.term ∧ Story (x.el.node i) op te ∧ n'.role ≠ .candidate))

open C04Member (UpdM)

theorem Upd.toM {V : List Nat} {x : Sys} {i : Nat} {op : Op} {n' : Node} (h : Upd V x i op n') : UpdM x i op n' :=
  ⟨h.nwf, h.term, h.ldr, h.cand, h.log⟩

theorem newCreated_append (i : Nat) (pre post : List Entry) (q : AppendReq) :
    newCreated i pre post (.append q) = [] := rfl

theorem newCreated_other (i : Nat) (pre post : List Entry) (op : Op) (h : ∀ q, op ≠ .append q) :
    newCreated i pre post op = chainOf i (lastTerm pre) (post.drop pre.length) := by
  cases op <;> first | rfl | exact absurd rfl (h _)

theorem reqOK_mono {T T' : List CEntry} (h : ∀ c ∈ T, c ∈ T') {q : AppendReq} (hq : ReqOK T q) : ReqOK T' q :=
  ⟨hq.chain.mono h, hq.idx⟩

section core
variable {El : Nat → Nat → Prop} {x : Sys}

theorem upd_add {i : Nat} {op : Op} {n' : Node} (hI : LogInv El x) (hu : UpdM x i op n') :
    ∃ es te, newCreated i (x.el.node i).log.entries n'.log.entries op =
        chainOf i (lastTerm (x.el.node i).log.entries) es ∧
      Chain (chainOf i (lastTerm (x.el.node i).log.entries) es ++ x.created) none n'.log.entries ∧
      (∀ e ∈ es, e.term = te ∧ (x.el.node i).lastLogIndex < e.index ∧ e.index ≤ n'.lastLogIndex) ∧
      es.Pairwise (fun a b => a.index ≠ b.index) ∧
      (es ≠ [] → te ≤ n'.term ∧ Story (x.el.node i) op te ∧ n'.role ≠ .candidate) := by
  have hpre := hI.nodes i
  rcases hu.log with ⟨⟨q, hq⟩, hc⟩ | ⟨hna, hl⟩
  · subst hq
    exact ⟨[], 0, rfl, hc, (fun e he => by cases he), List.Pairwise.nil, fun h => absurd rfl h⟩
  · rw [newCreated_other _ _ _ _ hna]
    rcases hl with hp | ⟨es, te, hne, he, ht, hle, hs, hnc⟩
    · have : n'.log.entries.drop (x.el.node i).log.entries.length = [] :=
        List.drop_eq_nil_of_le hp.length_le
      rw [this]
      exact ⟨[], 0, rfl, hpre.2.prefix hp, (fun e he => by cases he), List.Pairwise.nil, fun h => absurd rfl h⟩
    · have hd : n'.log.entries.drop (x.el.node i).log.entries.length = es := by
        rw [he, List.drop_left]
      rw [hd]
      obtain ⟨d1, d2⟩ := contig_drop hu.nwf.contig (x.el.node i).log.entries.length
      rw [hd] at d1 d2
      refine ⟨es, te, rfl, ?_, fun e hem => ⟨ht e hem, ?_, ?_⟩, d1, fun _ => ⟨hle, hs, hnc⟩⟩
      · rw [he, chain_append]
        refine ⟨hpre.2.mono (fun c hc => List.mem_append_right _ hc), ?_⟩
        have hch := chain_chainOf i x.created (lastTerm (x.el.node i).log.entries) es _ (fun c hc => hc)
        by_cases hnil : (x.el.node i).log.entries = []
        · rw [hnil] at hch ⊢; exact hch.weaken
        · rw [endO_none_eq _ hnil]; exact hch
      · rw [hpre.1.last]; exact (d2 e hem).1
      · rw [hu.nwf.last]; exact (d2 e hem).2

/-- an entry just created by node `i` cannot collide with one already in the ledger: the creator of the old one is
elected for the same term, hence is `i`, and `i` had not reached that index in that term -/
theorem new_old_absurd (hI : LogInv El x) (hsafe : ∀ l l' t, El l t → El l' t → l = l') (i : Nat) (op : Op)
    (te : Nat) (hel : El i te) (hs : Story (x.el.node i) op te) (a b : CEntry) (hb : b ∈ x.created)
    (hat : a.e.term = te) (hai : (x.el.node i).lastLogIndex < a.e.index)
    (hidx : a.e.index = b.e.index) (hterm : a.e.term = b.e.term) : False := by
  by_cases h0 : b.cr = 0
  · obtain ⟨i1, i2⟩ := hI.init0 b hb h0 i
    rcases hs with ⟨h, ht⟩ | ⟨h, _, ht⟩ | ⟨hgt, _, _⟩
    · have := i2 (by rw [h]; decide); omega
    · have := i2 (by rw [h.1]; decide); omega
    · omega
  · obtain ⟨o1, o3, o4, o5⟩ := hI.own b hb h0
    have hli : b.cr = i := hsafe _ _ te (by rw [← hat, hterm]; exact o1) hel
    rw [hli] at o3 o4 o5
    rcases hs with ⟨h, ht⟩ | ⟨h, _, ht⟩ | ⟨hgt, _, _⟩
    · have := o4 h (by omega); omega
    · have := o5 h.1; omega
    · omega

/-- **a transition of one node preserves the log invariant** when the node update satisfies `UpdM`, a node that
appends to its own log is elected for the entries' term (`hnew`), and nobody elected before is forgotten (`hmono`) -/
theorem logInv_upd {El' : Nat → Nat → Prop} (hI : LogInv El x) (hsafe : ∀ l l' t, El l t → El l' t → l = l')
    (i : Nat) (op : Op) (n' : Node) (hi : i ≠ 0) (hu : UpdM x i op n')
    (hnew : ∀ te, Story (x.el.node i) op te → El i te) (hmono : ∀ l t, El l t → El' l t)
    (el' : Election.Sys) (hnode : el'.node = setNode x.el.node i n') :
    LogInv El' { el := el', sent := x.sent,
                 created := newCreated i (x.el.node i).log.entries n'.log.entries op ++ x.created } := by
  obtain ⟨es, te, hadd, hchain, hes, hpw, hstory⟩ := upd_add hI hu
  rw [hadd]
  have hsub : ∀ c ∈ x.created, c ∈ chainOf i (lastTerm (x.el.node i).log.entries) es ++ x.created :=
    fun c hc => List.mem_append_right _ hc
  have hne : ∀ c ∈ chainOf i (lastTerm (x.el.node i).log.entries) es, es ≠ [] :=
    fun c hc he => by rw [he] at hc; cases hc
  have ht := hu.term
  refine ⟨?_, fun a ha b hb hidx hterm => ?_, fun q hq => reqOK_mono hsub (hI.sent q hq), fun c hc hc0 => ?_,
    fun c hc hc0 => ?_⟩
  · -- nodes
    show ∀ j, NWF (el'.node j) ∧ Chain _ none (el'.node j).log.entries
    rw [hnode]
    exact forall_setNode (P := fun _ s => NWF s ∧ Chain _ none s.log.entries) ⟨hu.nwf, hchain⟩
      fun j _ => ⟨(hI.nodes j).1, (hI.nodes j).2.mono hsub⟩
  · -- uniq
    rcases List.mem_append.mp ha with ha | ha <;> rcases List.mem_append.mp hb with hb | hb
    · exact chainOf_inj i _ es hpw a ha b hb hidx
    · exfalso
      obtain ⟨_, hae⟩ := mem_chainOf ha
      obtain ⟨t1, t2, _⟩ := hes _ hae
      have hs := (hstory (hne a ha)).2.1
      exact new_old_absurd hI hsafe i op te (hnew te hs) hs a b hb t1 t2 hidx hterm
    · exfalso
      obtain ⟨_, hbe⟩ := mem_chainOf hb
      obtain ⟨t1, t2, _⟩ := hes _ hbe
      have hs := (hstory (hne b hb)).2.1
      exact new_old_absurd hI hsafe i op te (hnew te hs) hs b a ha t1 t2 hidx.symm hterm.symm
    · exact hI.uniq a ha b hb hidx hterm
  · -- initial entries
    show ∀ j, c.e.term ≤ (el'.node j).term ∧ ((el'.node j).role ≠ .follower → c.e.term < (el'.node j).term)
    rcases List.mem_append.mp hc with hc | hc
    · exact absurd ((mem_chainOf hc).1.symm.trans hc0) hi
    · rw [hnode]
      refine forall_setNode (P := fun _ s => c.e.term ≤ s.term ∧ (s.role ≠ .follower → c.e.term < s.term)) ?_
        fun j _ => hI.init0 c hc hc0 j
      obtain ⟨i1, i2⟩ := hI.init0 c hc hc0 i
      refine ⟨Nat.le_trans i1 ht, fun hrole => ?_⟩
      cases hr' : n'.role with
      | follower => exact absurd hr' hrole
      | leader =>
        rcases hu.ldr hr' with ⟨a, b, _⟩ | ⟨a, b⟩ | a
        · have := i2 (by rw [a]; decide); omega
        · have := i2 (by rw [a]; decide); omega
        · omega
      | candidate =>
        rcases hu.cand hr' with ⟨a, b⟩ | a
        · have := i2 (by rw [a]; decide); omega
        · omega
  · -- created entries
    show El' c.cr c.e.term ∧ c.e.term ≤ (el'.node c.cr).term ∧
      ((el'.node c.cr).role = .leader → c.e.term = (el'.node c.cr).term → c.e.index ≤ (el'.node c.cr).lastLogIndex) ∧
      ((el'.node c.cr).role = .candidate → c.e.term < (el'.node c.cr).term)
    rw [hnode]
    rcases List.mem_append.mp hc with hc | hc
    · obtain ⟨hcr, hce⟩ := mem_chainOf hc
      obtain ⟨t1, _, t3⟩ := hes _ hce
      obtain ⟨s1, s2, s3⟩ := hstory (hne c hc)
      rw [hcr, setNode_same, t1]
      exact ⟨hmono _ _ (hnew te s2), s1, fun _ _ => t3, fun h => absurd h s3⟩
    · obtain ⟨o1, o3, o4, o5⟩ := hI.own c hc hc0
      refine ⟨hmono _ _ o1, ?_⟩
      refine forall_setNode (P := fun j s => c.cr = j → c.e.term ≤ s.term ∧
        (s.role = .leader → c.e.term = s.term → c.e.index ≤ s.lastLogIndex) ∧
        (s.role = .candidate → c.e.term < s.term)) (fun hji => ?_) (fun j _ hji => by rw [← hji]; exact ⟨o3, o4, o5⟩)
        c.cr rfl
      rw [hji] at o3 o4 o5
      refine ⟨Nat.le_trans o3 ht, fun hl heq => ?_, fun hcd => ?_⟩
      · rcases hu.ldr hl with ⟨a, b, d⟩ | ⟨a, b⟩ | a
        · exact Nat.le_trans (o4 a (by omega)) d
        · have := o5 a; omega
        · omega
      · rcases hu.cand hcd with ⟨a, b⟩ | a
        · have := o5 a; omega
        · omega

theorem LogInv.enabled_req (hI : LogInv El x) {i : Nat} {q : AppendReq} {src : Nat}
    (he : Enabled x i (.append q) src) : q.term < (x.el.node i).term ∨ ReqOK x.created q :=
  (he.append q rfl).imp id (fun h => hI.sent q h)

theorem updM_step (hI : LogInv El x) (i : Nat) (hwf : C05.VoteWF (x.el.node i))
    (hc : (x.el.node i).role = .candidate → (x.el.node i).term ≠ 0)
    (hboot : (x.el.node i).configs.isBootstrapped = true) (op : Op)
    (ra : List Nat) (ord : List (List Nat)) (src : Nat) (he : Enabled x i op src) :
    UpdM x i op ((x.el.node i).step op ra ord) := by
  have rs := role_step (x.el.node i) op ra ord hc
  obtain ⟨hvs, _, _⟩ := C05.step_vote_stable (x.el.node i) op ra ord hwf
  have hlog : NWF ((x.el.node i).step op ra ord) ∧
      (((x.el.node i).step op ra ord).role = .leader →
        (x.el.node i).lastLogIndex ≤ ((x.el.node i).step op ra ord).lastLogIndex) ∧
      (((∃ q, op = .append q) ∧ Chain x.created none ((x.el.node i).step op ra ord).log.entries) ∨
       ((∀ q, op ≠ .append q) ∧ (((x.el.node i).step op ra ord).log.entries <+: (x.el.node i).log.entries ∨
         ∃ es te, es ≠ [] ∧ ((x.el.node i).step op ra ord).log.entries = (x.el.node i).log.entries ++ es ∧
           (∀ e ∈ es, e.term = te) ∧ te ≤ ((x.el.node i).step op ra ord).term ∧
           Story (x.el.node i) op te ∧ ((x.el.node i).step op ra ord).role ≠ .candidate))) := by
    by_cases happ : ∃ q, op = .append q
    · obtain ⟨q, hq⟩ := happ
      subst hq
      have fi := follower_step (T := x.created) (x.el.node i) q ra ord (hI.nodes i).1 (hI.nodes i).2
        (LogInv.enabled_req hI he)
      refine ⟨fi.nwf, fun hl => ?_, Or.inl ⟨⟨q, rfl⟩, fi.chain⟩⟩
      by_cases hst : q.term < (x.el.node i).term
      · have e := (append_step_stale (x.el.node i) q ra ord hst).1
        unfold LCore at e
        simp only [Prod.mk.injEq] at e
        rw [e.2.1]; exact Nat.le_refl _
      · rw [append_step_role (x.el.node i) q ra ord hst] at hl; cases hl
    · have hna : ∀ q, op ≠ .append q := fun q hq => happ ⟨q, hq⟩
      have ls := leader_step (x.el.node i) op ra ord (hI.nodes i).1 hwf hboot he.ok hna hc
      obtain ⟨es, te, h1, h2, h3, h4, _⟩ := ls.ext
      refine ⟨ls.nwf, fun _ => ?_, Or.inr ⟨hna, ?_⟩⟩
      · rw [ls.nwf.last, (hI.nodes i).1.last, h1, List.length_append]; omega
      · by_cases hes : es = []
        · left; rw [h1, hes, List.append_nil]; exact List.prefix_refl _
        · right; exact ⟨es, te, hes, h1, h2, h3, (h4 hes).1, (h4 hes).2⟩
  obtain ⟨l1, l2, l3⟩ := hlog
  refine ⟨l1, hvs.1, fun hl => ?_, fun hcd => ?_, l3⟩
  · rcases rs.leader hl with ⟨a, b⟩ | ⟨a, _, b⟩ | ne
    · exact Or.inl ⟨a, b, l2 hl⟩
    · exact Or.inr (Or.inl ⟨a.1, b⟩)
    · exact Or.inr (Or.inr ne.term_gt)
  · rcases rs.candidate hcd with ⟨a, b, _⟩ | ne
    · exact Or.inl ⟨a, b⟩
    · exact Or.inr ne.term_gt

/-- what is on disk when the process dies: what was there before the step, at one of its crash points, or
after it -/
theorem crashDisk_cases (s : Node) (op : Op) (ra : List Nat) (ord : List (List Nat)) (k : Nat) :
    C05.crashDisk s op ra ord k = s.durable ∨
    (∃ p ∈ (s.step op ra ord).trace, C05.crashDisk s op ra ord k = p.2) ∨
    C05.crashDisk s op ra ord k = (s.step op ra ord).durable :=
  C05.crashDisk_of (D := fun d => d = s.durable ∨ (∃ p ∈ (s.step op ra ord).trace, d = p.2) ∨
      d = (s.step op ra ord).durable) s op ra ord k (Or.inl rfl) (Or.inr (Or.inr rfl))
    fun p hp => Or.inr (Or.inl ⟨p, hp, rfl⟩)

theorem crash_disk_other {pre post : Node} {op : Op} (hn : NWF pre) (hwf' : C05.VoteWF post)
    (ls : LStep pre op post) (d : Durable)
    (hd : d = pre.durable ∨ (∃ p ∈ post.trace, d = p.2) ∨ d = post.durable) :
    d.snaps = [] ∧ d.log.prev = 0 ∧ Contig d.log.entries ∧
    (d.log.entries <+: pre.log.entries ∨
      ∃ es te, es ≠ [] ∧ d.log.entries = pre.log.entries ++ es ∧ (∀ e ∈ es, e.term = te) ∧ te ≤ d.term ∧
        Story pre op te) := by
  obtain ⟨es, te, h1, h2, _, h4, h5⟩ := ls.ext
  have key : d.snaps = [] ∧ d.log.prev = 0 ∧
      (d.log.entries <+: pre.log.entries ∨ (d.log.entries <+: post.log.entries ∧ te ≤ d.term)) := by
    rcases hd with hd | ⟨p, hp, hd⟩ | hd
    · rw [hd]; exact ⟨hn.snaps, hn.prev, Or.inl (List.take_prefix _ _)⟩
    · rw [hd]; exact h5 p hp
    · rw [hd]
      refine ⟨ls.nwf.snaps, ls.nwf.prev, Or.inr ⟨List.take_prefix _ _, ?_⟩⟩
      show te ≤ post.durTerm
      rw [hwf'.1]; omega
  obtain ⟨k1, k2, k3⟩ := key
  rcases k3 with k3 | ⟨k3, k4⟩
  · exact ⟨k1, k2, contig_prefix hn.contig k3, Or.inl k3⟩
  · refine ⟨k1, k2, contig_prefix ls.nwf.contig k3, ?_⟩
    rw [h1] at k3
    rcases prefix_append_cases k3 with k3 | ⟨es', e1, e2, e3⟩
    · exact Or.inl k3
    · have hes : es ≠ [] := by
        intro he; rw [he] at e2
        exact e1 (List.prefix_nil.mp e2)
      exact Or.inr ⟨es', te, e1, e3, fun e he => h2 e (e2.subset he), k4, (h4 hes).1⟩

theorem updM_crash (hI : LogInv El x) (i : Nat) (hwf : C05.VoteWF (x.el.node i))
    (hc : (x.el.node i).role = .candidate → (x.el.node i).term ≠ 0)
    (hboot : (x.el.node i).configs.isBootstrapped = true) (op : Op)
    (ra : List Nat) (ord : List (List Nat)) (src k retain : Nat) (sor : Bool) (n : Node)
    (he : Enabled x i op src)
    (hn : Node.restart (C05.crashDisk (x.el.node i) op ra ord k) retain sor = some n) :
    UpdM x i op n := by
  obtain ⟨_, hwf', _⟩ := C05.step_vote_stable (x.el.node i) op ra ord hwf
  obtain ⟨r1, _, _⟩ := C05.restart_reads_durable _ _ _ _ hn
  have hdur := Election.crashDisk_durStep (x.el.node i) op ra ord k hwf
  have hcases := crashDisk_cases (x.el.node i) op ra ord k
  generalize C05.crashDisk (x.el.node i) op ra ord k = d at hn r1 hdur hcases
  have hdisk : d.snaps = [] ∧ d.log.prev = 0 ∧ Contig d.log.entries ∧
      (((∃ q, op = .append q) ∧ Chain x.created none d.log.entries) ∨
       ((∀ q, op ≠ .append q) ∧ (d.log.entries <+: (x.el.node i).log.entries ∨
         ∃ es te, es ≠ [] ∧ d.log.entries = (x.el.node i).log.entries ++ es ∧ (∀ e ∈ es, e.term = te) ∧
           te ≤ d.term ∧ Story (x.el.node i) op te))) := by
    by_cases happ : ∃ q, op = .append q
    · obtain ⟨q, hq⟩ := happ
      subst hq
      have fi := follower_step (T := x.created) (x.el.node i) q ra ord (hI.nodes i).1 (hI.nodes i).2
        (LogInv.enabled_req hI he)
      have hd : DiskOK x.created d := by
        rcases hcases with hd | ⟨p, hp, hd⟩ | hd
        · rw [hd]; exact diskOK_durable (hI.nodes i).1 (hI.nodes i).2
        · rw [hd]; exact fi.tr p hp
        · rw [hd]; exact diskOK_durable fi.nwf fi.chain
      exact ⟨hd.1, hd.2.1, hd.2.2.2, Or.inl ⟨⟨q, rfl⟩, hd.2.2.1⟩⟩
    · have hna : ∀ q, op ≠ .append q := fun q hq => happ ⟨q, hq⟩
      have ls := leader_step (x.el.node i) op ra ord (hI.nodes i).1 hwf hboot he.ok hna hc
      obtain ⟨a, b, c, e⟩ := crash_disk_other (hI.nodes i).1 hwf' ls d hcases
      exact ⟨a, b, c, Or.inr ⟨hna, e⟩⟩
  obtain ⟨d1, d2, d3, d4⟩ := hdisk
  obtain ⟨n1, n2, n3, _⟩ := restart_nwf d retain sor n hn d1 d2 d3
  have hnl : n.role = .leader → False := fun hl => by rw [n3] at hl; cases hl
  have hnc : n.role = .candidate → False := fun hl => by rw [n3] at hl; cases hl
  refine ⟨n1, (by rw [r1]; exact hdur.1), fun hl => (hnl hl).elim, fun hl => (hnc hl).elim, ?_⟩
  rw [n2]
  rcases d4 with ⟨a, b⟩ | ⟨a, b⟩
  · exact Or.inl ⟨a, b⟩
  · refine Or.inr ⟨a, b.imp id ?_⟩
    rintro ⟨es, te, e1, e2, e3, e4, e5⟩
    exact ⟨es, te, e1, e2, e3, (by rw [r1]; exact e4), e5, (by rw [n3]; decide)⟩

theorem readFrom_reqOK {T : List CEntry} {s : Node} {q : AppendReq} (hn : NWF s)
    (hc : Chain T none s.log.entries) (hr : ReadFrom s q) : ReqOK T q := by
  obtain ⟨n, hn'⟩ := hr.entries
  constructor
  · rw [hn', hr.prevTerm]
    apply Chain.take
    have h1 : Chain T none (s.log.entries.take q.prevLogIndex ++ s.log.entries.drop q.prevLogIndex) := by
      rw [List.take_append_drop]; exact hc
    have h2 := (chain_append.mp h1).2
    by_cases h0 : q.prevLogIndex = 0
    · rw [if_pos h0]
      rw [h0] at h2 ⊢
      exact h2
    · rw [if_neg h0]
      rw [endO_take none _ _ (by omega) hr.prev] at h2
      exact h2
  · intro k hk
    have hk' : k < ((s.log.entries.drop q.prevLogIndex).take n).length := by rw [← hn']; exact hk
    have e : q.entries[k] = ((s.log.entries.drop q.prevLogIndex).take n)[k] := by simp only [hn']
    rw [e, List.getElem_take, List.getElem_drop]
    rw [List.length_take, List.length_drop] at hk'
    rw [hn.contig _ (by omega)]

theorem logInv_send (hI : LogInv El x) (i : Nat) (q : AppendReq) (hr : ReadFrom (x.el.node i) q) :
    LogInv El { x with sent := q :: x.sent } :=
  ⟨hI.nodes, hI.uniq, List.forall_mem_cons.mpr ⟨readFrom_reqOK (hI.nodes i).1 (hI.nodes i).2 hr, hI.sent⟩,
    hI.init0, hI.own⟩

end core

theorem enabled_req {V : List Nat} {x : Sys} (hI : Inv V x) {i : Nat} {q : AppendReq} {src : Nat}
    (he : Enabled x i (.append q) src) : q.term < (x.el.node i).term ∨ ReqOK x.created q :=
  LogInv.enabled_req (logInv hI) he

theorem upd_step {V : List Nat} {x : Sys} (hI : Inv V x) (hF : FixedV V x.el) (i : Nat) (op : Op)
    (ra : List Nat) (ord : List (List Nat)) (src : Nat) (he : Enabled x i op src) :
    Upd V x i op ((x.el.node i).step op ra ord) := by
  have hc : (x.el.node i).role = .candidate → (x.el.node i).term ≠ 0 := fun h => (hI.el.cand i h).term_pos
  have u := updM_step (logInv hI) i (hI.el.ids i).2 hc (hF i).1 op ra ord src he
  refine ⟨u.nwf, u.term, u.ldr, u.cand, fun hl => ?_, u.log⟩
  rcases (role_step (x.el.node i) op ra ord hc).leader hl with ⟨a, _⟩ | ⟨a, _, _⟩ | ne
  · exact hI.ldrV i a
  · exact (hI.el.cand i a.1).voter
  · obtain ⟨_, _, ec, n3, n4, _, _⟩ := ne
    rcases n4 with n4 | n4
    · exact (hI.el.cand i n4).voter
    · rw [n3 (hF i).1] at n4; exact node_voter hI hF i n4

theorem upd_crash {V : List Nat} {x : Sys} (hI : Inv V x) (hF : FixedV V x.el) (i : Nat) (op : Op)
    (ra : List Nat) (ord : List (List Nat)) (src k retain : Nat) (sor : Bool) (n : Node)
    (he : Enabled x i op src)
    (hn : Node.restart (C05.crashDisk (x.el.node i) op ra ord k) retain sor = some n) :
    Upd V x i op n := by
  have u := updM_crash (logInv hI) i (hI.el.ids i).2 (fun h => (hI.el.cand i h).term_pos) (hF i).1 op ra ord src k
    retain sor n he hn
  refine ⟨u.nwf, u.term, u.ldr, u.cand, fun hl => ?_, u.log⟩
  rw [(Election.restart_role_nid _ _ _ _ hn).1] at hl; cases hl

/-- **a transition of one node preserves the invariant** when the node update satisfies `Upd`, the election
part of the new state satisfies the election invariant and no grant was lost -/
theorem inv_upd {V : List Nat} (hV : V.Nodup) {x : Sys} (hI : Inv V x) (hF : FixedV V x.el) (i : Nat) (op : Op)
    (src : Nat) (n' : Node) (hi : i ≠ 0) (hr : Counts (x.el.node i) op → RealReply x.el i src)
    (hu : Upd V x i op n') (el' : Election.Sys) (hnode : el'.node = setNode x.el.node i n')
    (hgr : ∀ g ∈ x.el.grants, g ∈ el'.grants) (hel : C01Sys.Inv V el') :
    Inv V { el := el', sent := x.sent,
            created := newCreated i (x.el.node i).log.entries n'.log.entries op ++ x.created } := by
  refine inv_of_logInv hel ?_ (logInv_upd (logInv hI) (fun _ _ _ => elV_unique hV hI.el.unique) i op n' hi hu.toM
    (fun te => story_elV hI hF i op src te hr) (fun l t h => ⟨h.1, h.2.imp id (C01Sys.backed_mono hgr)⟩) el' hnode)
  show ∀ j, (el'.node j).role = .leader → j ∈ V
  rw [hnode]
  exact forall_setNode (P := fun j s => s.role = .leader → j ∈ V) hu.ldrV fun j _ => hI.ldrV j

theorem inv_send {V : List Nat} {x : Sys} (hI : Inv V x) (i : Nat) (q : AppendReq)
    (hr : ReadFrom (x.el.node i) q) : Inv V { x with sent := q :: x.sent } :=
  inv_of_logInv hI.el hI.ldrV (logInv_send (logInv hI) i q hr)

theorem inv_trans {V : List Nat} (hV : V.Nodup) {x y : Sys} (hI : Inv V x) (hF : FixedV V x.el)
    (ht : Trans x y) : Inv V y := by
  cases ht with
  | step i op ra ord src he =>
    exact inv_upd hV hI hF i op src _ he.id he.real (upd_step hI hF i op ra ord src he)
      (stepSys x.el i op ra ord src) rfl
      (fun g hg => List.mem_append_right _ (List.mem_append_right _ hg))
      (C01Sys.inv_step V x.el hI.el hF i op ra ord src he.id he.voteSrc he.real)
  | crash i op ra ord src k retain sor n he hn =>
    exact inv_upd hV hI hF i op src n he.id he.real (upd_crash hI hF i op ra ord src k retain sor n he hn)
      { x.el with node := setNode x.el.node i n } rfl (fun g hg => hg)
      (C01Sys.inv_crash V x.el hI.el i op ra ord k retain sor n hn)
  | send i q _ _ hr => exact inv_send hI i q hr

theorem inv_reachable {V : List Nat} (hV : V.Nodup) {x : Sys} (h : ReachableV V x) :
    Inv V x ∧ FixedV V x.el := by
  induction h with
  | init x hi hf => exact ⟨inv_init V x hi, hf⟩
  | next x y _ ht hf ih => exact ⟨inv_trans hV ih.1 ih.2 ht, hf⟩


/-- the entry with index `i` of a slice that starts after index `p` -/
def segGet (p : Nat) (es : List Entry) (i : Nat) : Option Entry := if p < i then es[i - p - 1]? else none

/-- a slice of the tree: entries with the indexes `p+1, p+2, …` forming a path in `T` attached at `o` -/
structure Seg (T : List CEntry) (p : Nat) (o : Option Nat) (es : List Entry) : Prop where
  chain : Chain T o es
  idx : ∀ k (h : k < es.length), es[k].index = p + k + 1

theorem chain_get {T : List CEntry} : ∀ {es : List Entry} {o : Option Nat}, Chain T o es →
    ∀ k x, es[k]? = some x → ∃ c ∈ T, c.e = x ∧ (∀ y, 1 ≤ k → es[k - 1]? = some y → c.pt = y.term) ∧
      (k = 0 → ∀ pt, o = some pt → c.pt = pt) := by
  intro es
  induction es with
  | nil => intro o _ k x hx; simp at hx
  | cons e es ih =>
    intro o hc k x hx
    obtain ⟨⟨c, hcT, hce, hcp⟩, hrest⟩ := hc
    cases k with
    | zero =>
      simp only [List.getElem?_cons_zero, Option.some.injEq] at hx
      subst hx
      exact ⟨c, hcT, hce, fun y h1 _ => absurd h1 (by omega), fun _ => hcp⟩
    | succ k =>
      simp only [List.getElem?_cons_succ] at hx
      obtain ⟨c', hc'T, hc'e, hc'1, hc'0⟩ := ih hrest k x hx
      refine ⟨c', hc'T, hc'e, fun y _ hy => ?_, fun h0 => absurd h0 (by omega)⟩
      simp only [Nat.add_sub_cancel] at hy
      cases k with
      | zero =>
        simp only [List.getElem?_cons_zero, Option.some.injEq] at hy
        subst hy
        exact hc'0 rfl _ rfl
      | succ k =>
        simp only [List.getElem?_cons_succ] at hy
        exact hc'1 y (by omega) (by simpa using hy)

theorem segGet_some {p : Nat} {es : List Entry} {i : Nat} {x : Entry} (h : segGet p es i = some x) :
    p < i ∧ es[i - p - 1]? = some x := by
  unfold segGet at h
  split at h
  · exact ⟨‹_›, h⟩
  · cases h

theorem seg_index {T : List CEntry} {p : Nat} {o : Option Nat} {es : List Entry} (s : Seg T p o es) {i : Nat}
    {x : Entry} (h : segGet p es i = some x) : x.index = i := by
  obtain ⟨h1, h2⟩ := segGet_some h
  obtain ⟨hk, he⟩ := List.getElem?_eq_some_iff.mp h2
  rw [← he, s.idx _ hk]; omega

/-- one step of the matching argument: two slices that hold entries with the same term at index `i` hold the
same entry there, and the entries they hold at `i-1` (if any) have the same term; a slice that starts at `i`
(its first entry) is attached with the term the other slice holds at `i-1` -/
theorem seg_step {T : List CEntry} (hU : Uniq T) {pa pb : Nat} {oa ob : Option Nat} {a b : List Entry}
    (sa : Seg T pa oa a) (sb : Seg T pb ob b) (i : Nat) (x y : Entry) (hx : segGet pa a i = some x)
    (hy : segGet pb b i = some y) (ht : x.term = y.term) :
    x = y ∧
    (∀ x1 y1, segGet pa a (i - 1) = some x1 → segGet pb b (i - 1) = some y1 → x1.term = y1.term) ∧
    (i = pa + 1 → ∀ pt, oa = some pt → ∀ y1, segGet pb b (i - 1) = some y1 → y1.term = pt) := by
  obtain ⟨ax, hxe⟩ := segGet_some hx
  obtain ⟨bx, hye⟩ := segGet_some hy
  obtain ⟨ca, hca, ea, ca1, ca0⟩ := chain_get sa.chain _ _ hxe
  obtain ⟨cb, hcb, eb, cb1, cb0⟩ := chain_get sb.chain _ _ hye
  have hcc : ca = cb := hU ca hca cb hcb (by rw [ea, eb, seg_index sa hx, seg_index sb hy]) (by rw [ea, eb]; exact ht)
  refine ⟨by rw [← ea, ← eb, hcc], fun x1 y1 hx1 hy1 => ?_, fun hi pt hpt y1 hy1 => ?_⟩
  · obtain ⟨a1, hx1e⟩ := segGet_some hx1
    obtain ⟨b1, hy1e⟩ := segGet_some hy1
    have e1 : i - 1 - pa - 1 = i - pa - 1 - 1 := by omega
    have e2 : i - 1 - pb - 1 = i - pb - 1 - 1 := by omega
    rw [e1] at hx1e
    rw [e2] at hy1e
    rw [← ca1 x1 (by omega) hx1e, ← cb1 y1 (by omega) hy1e, hcc]
  · obtain ⟨b1, hy1e⟩ := segGet_some hy1
    have e2 : i - 1 - pb - 1 = i - pb - 1 - 1 := by omega
    rw [e2] at hy1e
    rw [← cb1 y1 (by omega) hy1e, ← hcc]
    exact ca0 (by omega) pt hpt

/-- **matching of two slices**: if they hold entries with the same term at index `i`, they hold the same
entry at every index `j ≤ i` that both hold. -/
theorem seg_match {T : List CEntry} (hU : Uniq T) {pa pb : Nat} {oa ob : Option Nat} {a b : List Entry}
    (sa : Seg T pa oa a) (sb : Seg T pb ob b) : ∀ (d i j : Nat), i = j + d → ∀ x y,
    segGet pa a i = some x → segGet pb b i = some y → x.term = y.term →
    ∀ x' y', segGet pa a j = some x' → segGet pb b j = some y' → x' = y' := by
  intro d
  induction d with
  | zero =>
    intro i j hij x y hx hy ht x' y' hx' hy'
    have : i = j := by omega
    subst this
    rw [hx] at hx'; rw [hy] at hy'
    injection hx' with hx'; injection hy' with hy'
    rw [← hx', ← hy']
    exact (seg_step hU sa sb i x y hx hy ht).1
  | succ d ih =>
    intro i j hij x y hx hy ht x' y' hx' hy'
    obtain ⟨ai, hxe⟩ := segGet_some hx
    obtain ⟨bi, hye⟩ := segGet_some hy
    obtain ⟨aj, _⟩ := segGet_some hx'
    obtain ⟨bj, _⟩ := segGet_some hy'
    obtain ⟨hka, _⟩ := List.getElem?_eq_some_iff.mp hxe
    obtain ⟨hkb, _⟩ := List.getElem?_eq_some_iff.mp hye
    have hx1 : segGet pa a (i - 1) = some (a[i - 1 - pa - 1]'(by omega)) := by
      unfold segGet; rw [if_pos (by omega)]; exact List.getElem?_eq_getElem _
    have hy1 : segGet pb b (i - 1) = some (b[i - 1 - pb - 1]'(by omega)) := by
      unfold segGet; rw [if_pos (by omega)]; exact List.getElem?_eq_getElem _
    have ht1 := (seg_step hU sa sb i x y hx hy ht).2.1 _ _ hx1 hy1
    exact ih (i - 1) j (by omega) _ _ hx1 hy1 ht1 x' y' hx' hy'

theorem chain_mem {T : List CEntry} : ∀ {es : List Entry} {o : Option Nat}, Chain T o es →
    ∀ e ∈ es, ∃ c ∈ T, c.e = e := by
  intro es
  induction es with
  | nil => intro o _ e he; cases he
  | cons x xs ih =>
    intro o hc e he
    obtain ⟨⟨c, hcT, hce, _⟩, hrest⟩ := hc
    rcases List.mem_cons.mp he with h | h
    · subst h; exact ⟨c, hcT, hce⟩
    · exact ih hrest e h

theorem seg_of_log {T : List CEntry} {s : Node} (hn : NWF s) (hc : Chain T none s.log.entries) :
    Seg T 0 none s.log.entries :=
  ⟨hc, fun k h => by rw [hn.contig k h]; omega⟩

theorem get?_eq_segGet {s : Node} (hn : NWF s) (k : Nat) : s.log.get? k = segGet 0 s.log.entries k := by
  rw [hn.get?]
  unfold segGet
  rw [Nat.sub_zero]

theorem log_seg {V : List Nat} {x : Sys} (hI : Inv V x) (i : Nat) :
    Seg x.created 0 none (x.el.node i).log.entries :=
  seg_of_log (hI.nodes i).1 (hI.nodes i).2

theorem log_get {V : List Nat} {x : Sys} (hI : Inv V x) (i k : Nat) :
    (x.el.node i).log.get? k = segGet 0 (x.el.node i).log.entries k :=
  get?_eq_segGet (hI.nodes i).1 k

theorem req_seg {V : List Nat} {x : Sys} (hI : Inv V x) (q : AppendReq) (hq : q ∈ x.sent) :
    Seg x.created q.prevLogIndex (if q.prevLogIndex = 0 then none else some q.prevLogTerm) q.entries :=
  ⟨(hI.sent q hq).chain, (hI.sent q hq).idx⟩

/-- log matching for two nodes whose logs are chains of one tree of created entries (what the invariants of
`Raft.Replication`, of the membership system and of the views of the snapshot systems give for every node) -/
theorem log_matching_of_chain {T : List CEntry} (hU : Uniq T) {s t : Node} (hs : NWF s ∧ Chain T none s.log.entries)
    (ht : NWF t ∧ Chain T none t.log.entries) (k : Nat) (a b : Entry) (ha : s.log.get? k = some a)
    (hb : t.log.get? k = some b) (hab : a.term = b.term) :
    ∀ k', k' ≤ k → ∀ a' b', s.log.get? k' = some a' → t.log.get? k' = some b' → a' = b' := by
  intro k' hk a' b' ha' hb'
  rw [get?_eq_segGet hs.1] at ha ha'
  rw [get?_eq_segGet ht.1] at hb hb'
  exact seg_match hU (seg_of_log hs.1 hs.2) (seg_of_log ht.1 ht.2) (k - k') k k' (by omega) a b ha hb hab a' b' ha' hb'

/-- **C04, log matching, cluster level — fixed voter set, no snapshots (partial).**
Let `V` be a duplicate-free list of node ids and `x` any state of the cluster reachable in the transition
system `Raft.Replication` (Sys/Replication.lean): from an initial state in which the nodes' logs pairwise
match (`Replication.Init`), by ANY sequence of: a node handling any enabled operation with any content and
oracle (`Node.step`); a node dying at any storage point of such a step and restarting from disk; a leader
putting on the wire an append request read from its log — where "enabled" means: append requests that are
not refused as stale were really sent (any sent request may be delivered to any node, any number of times, in
any order, or never); counted vote responses are real replies (`Election.RealReply`); **restrictions
(`_partial`)**: the voters of every node's latest configuration are `V` in every state (no membership change),
and no snapshot is ever installed, taken or published and no log is ever compacted (`LogRel.OpOK`; truncation
on conflict, crashes losing unflushed suffixes, restarts ARE covered).
Then: if the logs of nodes `i` and `j` hold entries with the same term at index `k`, then at every index
`k' ≤ k` that both logs hold they hold the SAME entry — index, term, type, payload and configuration. -/
theorem log_matching_sys_partial (V : List Nat) (hV : V.Nodup) (x : Sys) (h : ReachableV V x) (i j k : Nat)
    (a b : Entry) (ha : (x.el.node i).log.get? k = some a) (hb : (x.el.node j).log.get? k = some b)
    (ht : a.term = b.term) :
    ∀ k', k' ≤ k → ∀ a' b', (x.el.node i).log.get? k' = some a' → (x.el.node j).log.get? k' = some b' → a' = b' :=
  have hI := (inv_reachable hV h).1
  log_matching_of_chain hI.uniq (hI.nodes i) (hI.nodes j) k a b ha hb ht

/-- **a log and a request on the wire** (same assumptions): every request in `sent` is a slice of the tree of
created entries (`ReqOK`: contiguous indexes from `prevLogIndex+1`, each entry recorded with the term of its
predecessor, the first one with `prevLogTerm`); if a request and a node's log hold entries with the same term
at index `k`, they hold the same entry at every index `k' ≤ k` that both hold, and if the log also holds the
request's `prevLogIndex` (≥ 1) its entry there has term `prevLogTerm` — the consistency check of
`onAppendEntriesRequest` would succeed. -/
theorem request_consistent_partial (V : List Nat) (hV : V.Nodup) (x : Sys) (h : ReachableV V x)
    (q : AppendReq) (hq : q ∈ x.sent) :
    ReqOK x.created q ∧
    ∀ (j k : Nat) (e b : Entry), segGet q.prevLogIndex q.entries k = some e →
      (x.el.node j).log.get? k = some b → e.term = b.term →
      (∀ k', k' ≤ k → ∀ e' b', segGet q.prevLogIndex q.entries k' = some e' →
        (x.el.node j).log.get? k' = some b' → e' = b') ∧
      (∀ b0, (x.el.node j).log.get? q.prevLogIndex = some b0 → b0.term = q.prevLogTerm) := by
  obtain ⟨hI, _⟩ := inv_reachable hV h
  refine ⟨hI.sent q hq, fun j k e b he hb ht => ?_⟩
  rw [log_get hI] at hb
  have sq := req_seg hI q hq
  have sl := log_seg hI j
  have hm := seg_match hI.uniq sq sl
  refine ⟨fun k' hk e' b' he' hb' => ?_, fun b0 hb0 => ?_⟩
  · rw [log_get hI] at hb'
    exact hm (k - k') k k' (by omega) e b he hb ht e' b' he' hb'
  · rw [log_get hI] at hb0
    obtain ⟨h0, hb0e⟩ := segGet_some hb0
    obtain ⟨hpk, hee⟩ := segGet_some he
    obtain ⟨hkb, hbe⟩ := segGet_some hb
    obtain ⟨hl1, _⟩ := List.getElem?_eq_some_iff.mp hee
    obtain ⟨hl2, _⟩ := List.getElem?_eq_some_iff.mp hbe
    -- both hold index prevLogIndex + 1
    have he1 : segGet q.prevLogIndex q.entries (q.prevLogIndex + 1) = some (q.entries[0]'(by omega)) := by
      unfold segGet
      rw [if_pos (by omega)]
      have : q.prevLogIndex + 1 - q.prevLogIndex - 1 = 0 := by omega
      rw [this]; exact List.getElem?_eq_getElem _
    have hb1 : segGet 0 (x.el.node j).log.entries (q.prevLogIndex + 1) =
        some ((x.el.node j).log.entries[q.prevLogIndex]'(by omega)) := by
      unfold segGet
      rw [if_pos (by omega)]
      have : q.prevLogIndex + 1 - 0 - 1 = q.prevLogIndex := by omega
      rw [this]; exact List.getElem?_eq_getElem _
    have heq := hm (k - (q.prevLogIndex + 1)) k (q.prevLogIndex + 1) (by omega) e b he hb ht _ _ he1 hb1
    have st := (seg_step hI.uniq sq sl (q.prevLogIndex + 1) _ _ he1 hb1 (by rw [heq])).2.2 rfl
      q.prevLogTerm (by rw [if_neg (by omega)]) b0
    exact st (by rw [Nat.add_sub_cancel]; exact hb0)

/-- two requests on the wire (same assumptions): same term at index `k` ⇒ same entries at every index up to
`k` that both carry. -/
theorem requests_match_partial (V : List Nat) (hV : V.Nodup) (x : Sys) (h : ReachableV V x)
    (q q' : AppendReq) (hq : q ∈ x.sent) (hq' : q' ∈ x.sent) (k : Nat) (e e' : Entry)
    (he : segGet q.prevLogIndex q.entries k = some e) (he' : segGet q'.prevLogIndex q'.entries k = some e')
    (ht : e.term = e'.term) :
    ∀ k', k' ≤ k → ∀ a a', segGet q.prevLogIndex q.entries k' = some a →
      segGet q'.prevLogIndex q'.entries k' = some a' → a = a' := by
  obtain ⟨hI, _⟩ := inv_reachable hV h
  intro k' hk a a' ha ha'
  exact seg_match hI.uniq (req_seg hI q hq) (req_seg hI q' hq') (k - k') k k' (by omega) e e' he he' ht a a' ha ha'

/-- **no (index, term) is created twice with different content** (same assumptions): the ledger `created`
(every entry any leader ever appended to its own log, with the term of its predecessor and its creator, plus
the entries of the initial logs; it only grows, see `created_mono`) holds at most one record per
(index, term); every entry of every node's log and of every request on the wire is recorded in it. -/
theorem entry_created_once_partial (V : List Nat) (hV : V.Nodup) (x : Sys) (h : ReachableV V x) :
    (∀ a ∈ x.created, ∀ b ∈ x.created, a.e.index = b.e.index → a.e.term = b.e.term → a = b) ∧
    (∀ i k e, (x.el.node i).log.get? k = some e → ∃ c ∈ x.created, c.e = e) ∧
    (∀ q ∈ x.sent, ∀ e ∈ q.entries, ∃ c ∈ x.created, c.e = e) := by
  obtain ⟨hI, _⟩ := inv_reachable hV h
  refine ⟨hI.uniq, fun i k e he => ?_, fun q hq e he => chain_mem (hI.sent q hq).chain e he⟩
  rw [(hI.nodes i).1.get?] at he
  split at he
  · exact chain_mem (hI.nodes i).2 e (List.mem_of_getElem? he)
  · cases he

theorem created_mono {x y : Sys} (h : Trans x y) : ∀ c ∈ x.created, c ∈ y.created := by
  cases h with
  | step i op ra ord src _ => exact fun c hc => List.mem_append_right _ hc
  | crash i op ra ord src k retain sor n _ _ => exact fun c hc => List.mem_append_right _ hc
  | send i q _ _ _ => exact fun c hc => hc

theorem sent_mono {x y : Sys} (h : Trans x y) : ∀ q ∈ x.sent, q ∈ y.sent := by
  cases h with
  | step i op ra ord src _ => exact fun c hc => hc
  | crash i op ra ord src k retain sor n _ _ => exact fun c hc => hc
  | send i q _ _ _ => exact fun c hc => List.mem_cons_of_mem _ hc

/-- as `C01Sys.RunV`, for `Replication.Trans` -/
inductive RunV (V : List Nat) (x : Sys) : Sys → Prop
  | refl : RunV V x x
  | next (y z : Sys) : RunV V x y → Trans y z → FixedV V z.el → RunV V x z

theorem run_reachable {V : List Nat} {x y : Sys} (hx : ReachableV V x) (h : RunV V x y) :
    ReachableV V y ∧ ∀ c ∈ x.created, c ∈ y.created := by
  induction h with
  | refl => exact ⟨hx, fun c hc => hc⟩
  | next y z _ ht hf ih => exact ⟨.next y z ih.1 ht hf, fun c hc => created_mono ht c (ih.2 c hc)⟩

/-- **…ever**: an entry recorded as created in some reachable state and an entry with the same index and term
recorded in any later state of the run are the same entry (same type, payload, configuration, predecessor
term and creator). -/
theorem entry_created_once_ever_partial (V : List Nat) (hV : V.Nodup) (x y : Sys) (hx : ReachableV V x)
    (hrun : RunV V x y) (a b : CEntry) (ha : a ∈ x.created) (hb : b ∈ y.created)
    (hi : a.e.index = b.e.index) (ht : a.e.term = b.e.term) : a = b := by
  obtain ⟨hy, hmono⟩ := run_reachable hx hrun
  exact (entry_created_once_partial V hV y hy).1 a (hmono a ha) b hb hi ht

/-- who created what (same assumptions): an entry created by node `l ≠ 0` carries a term in which `l` was
backed by a majority of `V` (or `V` has a single member), so by election safety all entries of one term were
created by one node. -/
theorem one_creator_per_term_partial (V : List Nat) (hV : V.Nodup) (x : Sys) (h : ReachableV V x)
    (a b : CEntry) (ha : a ∈ x.created) (hb : b ∈ x.created) (ha0 : a.cr ≠ 0) (hb0 : b.cr ≠ 0)
    (ht : a.e.term = b.e.term) : a.cr = b.cr := by
  obtain ⟨hI, _⟩ := inv_reachable hV h
  obtain ⟨a1, a2, _⟩ := hI.own a ha ha0
  obtain ⟨b1, b2, _⟩ := hI.own b hb hb0
  rcases a2 with q | a2
  · exact mem_of_short q a1 b1
  · rcases b2 with q | b2
    · exact mem_of_short q a1 b1
    · rw [ht] at a2
      exact election_safety_partial x.el.grants V hV hI.el.unique _ _ _ a2 b2

theorem filterMap_range_getElem? (l : List Entry) : ∀ n, (List.range n).filterMap (fun k => l[k]?) = l.take n := by
  intro n
  induction n with
  | zero => simp
  | succ n ih =>
    rw [List.range_succ, List.filterMap_append, ih, List.take_add_one]
    cases h : l[n]? <;> simp [h]

theorem writeAppend_entries (s : Node) (hn : NWF s) (st : Repl.State) (b : Bool) (q : AppendReq)
    (h : (Repl.writeAppend st { log := s.log, snapIndex := s.snapIndex, snapTerm := s.snapTerm } b).append = some q)
    (h1 : 1 ≤ st.nextIndex) : ∃ n, q.entries = (s.log.entries.drop q.prevLogIndex).take n := by
  unfold Repl.writeAppend at h
  extract_lets prev pt n es at h
  generalize hpt : pt = ptv at h
  match ptv, hpt with
  | .error p, _ => simp at h
  | .ok none, _ => simp at h
  | .ok (some prevTerm), _ =>
    dsimp only at h
    split at h
    · simp at h
    · split at h
      · simp at h
      · simp only [Option.some.injEq] at h
        rw [← h]
        refine ⟨n, ?_⟩
        show es = (s.log.entries.drop prev).take n
        have hprev : prev = st.nextIndex - 1 := rfl
        have e : (fun k => s.log.get? (st.nextIndex + k)) = fun k => (s.log.entries.drop prev)[k]? := by
          funext k
          rw [hn.get?, if_pos (by omega), List.getElem?_drop]
          congr 1; omega
        show List.filterMap (fun k => s.log.get? (st.nextIndex + k)) (List.range n) = _
        rw [e, filterMap_range_getElem?]

/-- **`Trans.send` is what the replication step function does**: the request `writeAppendEntriesReq`
(Model/Repl.lean, `Repl.writeAppend`) builds from the log of a well-formed node `s`, with `nextIndex ≥ 1`, the
leader's term and id, is `ReadFrom s`. -/
theorem readFrom_of_writeAppend (s : Node) (hn : NWF s) (st : Repl.State) (b : Bool) (q : AppendReq)
    (h : (Repl.writeAppend st { log := s.log, snapIndex := s.snapIndex, snapTerm := s.snapTerm } b).append = some q)
    (ht : st.term = s.term) (hs : st.src = s.nid) (h1 : 1 ≤ st.nextIndex) : ReadFrom s q := by
  obtain ⟨_, r2, r3, _, r5, _, r7, _, _, _⟩ := Repl.repl_request_from_log st _ b q h
  have hp : q.prevLogIndex ≤ s.log.entries.length ∧ q.prevLogTerm = termAt s.log.entries q.prevLogIndex := by
    by_cases h0 : q.prevLogIndex = 0
    · rw [h0, r5 h0]; exact ⟨Nat.zero_le _, rfl⟩
    · obtain ⟨e, he, het⟩ := r7 h0 (by show q.prevLogIndex ≠ s.snapIndex; rw [hn.snapIndex]; exact h0)
      have he' : s.log.get? q.prevLogIndex = some e := he
      rw [hn.get?, if_pos (by omega)] at he'
      obtain ⟨hk, hee⟩ := List.getElem?_eq_some_iff.mp he'
      refine ⟨by omega, ?_⟩
      unfold termAt
      rw [if_neg h0, he', ← het]; rfl
  exact ⟨r2.trans ht, r3.trans hs, hp.1, hp.2, writeAppend_entries s hn st b q h h1⟩

/-! ### Examples (non-vacuity): three voters, every node bootstrapped with the same configuration entry (1,1).
(The states `ex3`, `ex4`, in which node 1 has run `leader.init`, are evaluated with `#guard` — tests, not proofs: plain
`decide` gets stuck on the leader block, defined by well-founded recursion; `decide +kernel` evaluates them.) -/

def exCfg : Config :=
  { nodes := [{ id := 1, addr := "a:1", voter := true }, { id := 2, addr := "a:2", voter := true },
              { id := 3, addr := "a:3", voter := true }], index := 1, term := 1 }

/-- the configuration entry every log starts with -/
def exE : Entry := exCfg.toEntry

/-- example node `i`: bootstrapped, term 1, log = [(1,1) configuration] -/
def exNode (i : Nat) : Node :=
  { cid := 7, nid := i, term := 1, durTerm := 1, log := { entries := [exE], flushed := 1 },
    lastLogIndex := 1, lastLogTerm := 1, configs := { committed := exCfg, latest := exCfg } }

def ex0 : Sys :=
  { el := { node := exNode, grants := [], counted := [], won := [] }, sent := [], created := [⟨exE, 0, 0⟩] }

/-- node 1: election timeout -/
def ex1 : Sys :=
  { el := stepSys ex0.el 1 .timeout [] [] 0, sent := ex0.sent,
    created := newCreated 1 (ex0.el.node 1).log.entries ((ex0.el.node 1).step .timeout [] []).log.entries .timeout
                 ++ ex0.created }

/-- example: `ex0` is an initial state with membership `[1, 2, 3]` -/
theorem ex0_init : Init ex0 ∧ FixedV [1, 2, 3] ex0.el := by
  refine ⟨⟨⟨fun i => ⟨rfl, ⟨rfl, rfl⟩, rfl⟩, rfl, rfl, rfl⟩, rfl, ?_, ?_, fun i => ⟨⟨rfl, rfl, rfl, ?_, rfl, rfl⟩, ?_⟩, ?_⟩,
    fun i => ⟨rfl, rfl⟩⟩
  · intro c hc
    rw [List.mem_singleton.mp hc]
  · intro a ha b hb _ _
    rw [List.mem_singleton.mp ha, List.mem_singleton.mp hb]
  · intro k hk
    have : k = 0 := by
      have : k < 1 := hk
      omega
    subst this; rfl
  · exact ⟨⟨⟨exE, 0, 0⟩, List.mem_singleton.mpr rfl, rfl, fun pt h => by cases h⟩, trivial⟩
  · intro c hc j
    rw [List.mem_singleton.mp hc]
    exact Nat.le_refl _

set_option maxRecDepth 100000 in
/-- example: `ex1` (node 1 is candidate of term 2) is reachable — the hypotheses of the theorems hold for a
non-initial state -/
example : [1, 2, 3].Nodup ∧ ReachableV [1, 2, 3] ex1 := by
  have f1 : FixedV [1, 2, 3] ex1.el := by
    intro i
    by_cases h : i = 1
    · subst h; decide
    · show (setNode exNode 1 _ i).configs.isBootstrapped = true ∧ (setNode exNode 1 _ i).configs.latest.voters = _
      rw [setNode_other _ _ _ _ h]; exact ⟨rfl, rfl⟩
  refine ⟨by decide, .next ex0 ex1 (.init ex0 ex0_init.1 ex0_init.2) ?_ f1⟩
  exact .step 1 .timeout [] [] 0
    ⟨by decide, (fun q h => by cases h), (fun ⟨_, _, _, h⟩ => by cases h), trivial, (fun q h => by cases h)⟩

set_option maxRecDepth 100000 in
/-- example: in `ex1` the logs of nodes 1 and 2 hold the same term at index 1 (the hypotheses of
`log_matching_sys_partial` are satisfiable), node 1 is candidate of term 2 -/
example : (ex1.el.node 1).log.get? 1 = some exE ∧ (ex1.el.node 2).log.get? 1 = some exE ∧
    (ex1.el.node 1).role = .candidate ∧ (ex1.el.node 1).term = 2 ∧ ex1.created = [⟨exE, 0, 0⟩] := by decide

/-- node 2 grants its vote, node 1 counts it, becomes leader of term 2 and appends its no-op entry (2,2) -/
def ex2 : Sys :=
  { el := stepSys ex1.el 2 (.vote { term := 2, src := 1, lastLogIndex := 1, lastLogTerm := 1 }) [] [] 0,
    sent := [], created := ex1.created }
def ex3 : Sys :=
  { el := stepSys ex2.el 1 (.voteResult false 2 rSuccess) [] [] 2, sent := [],
    created := newCreated 1 (ex2.el.node 1).log.entries
      ((ex2.el.node 1).step (.voteResult false 2 rSuccess) [] []).log.entries (.voteResult false 2 rSuccess)
      ++ ex2.created }
/-- the request node 1 reads from its log for `prevLogIndex = 1` -/
def exReq : AppendReq :=
  { term := 2, src := 1, prevLogIndex := 1, prevLogTerm := 1, entries := (ex3.el.node 1).log.entries.drop 1 }
/-- node 3 handles it -/
def ex4 : Sys :=
  { el := stepSys ex3.el 3 (.append exReq) [] [] 0, sent := [exReq], created := ex3.created }

-- evaluation (tests, not proofs) of the scenario: the leader's no-op is recorded as created by node 1 with
-- predecessor term 1; the follower's log equals the leader's; nobody panicked
#guard (ex3.el.node 1).role == .leader && (ex3.el.node 1).term == 2 && (ex3.el.node 1).panicked.isNone
#guard (ex3.el.node 1).log.entries.map (fun e => (e.index, e.term, e.typ)) == [(1, 1, etConfig), (2, 2, etNop)]
#guard ex3.created.map (fun c => (c.e.index, c.e.term, c.pt, c.cr)) == [(2, 2, 1, 1), (1, 1, 0, 0)]
#guard exReq.entries.map (fun e => (e.index, e.term)) == [(2, 2)]
#guard (ex4.el.node 3).log.entries == (ex3.el.node 1).log.entries && (ex4.el.node 3).panicked.isNone
#guard (ex4.el.node 3).lastLogIndex == 2 && (ex4.el.node 3).lastLogTerm == 2 && (ex4.el.node 3).term == 2

end C04Sys
end Raft

#print axioms Raft.C04Sys.inv_reachable
#print axioms Raft.C04Sys.log_matching_sys_partial
#print axioms Raft.C04Sys.request_consistent_partial
#print axioms Raft.C04Sys.requests_match_partial
#print axioms Raft.C04Sys.entry_created_once_partial
#print axioms Raft.C04Sys.entry_created_once_ever_partial
#print axioms Raft.C04Sys.one_creator_per_term_partial
#print axioms Raft.C04Sys.readFrom_of_writeAppend
