/-
C07 (client-visible semantics) on the cluster-level transition system — what an answer to an update means.

The system (`C07Sys.Sys`): the restricted cluster system of C19Sys (`Raft.Commit` of Sys/Commit.lean with the
assumptions `SysInv.EnabledG`, closed nodes frozen; `_partial` restrictions: fixed voter set `V`, fixed stable
configuration `SideV`, no snapshots / compaction, no configuration change `OpOK2`, `SideG`) extended by three ghost
ledgers:

* `subs`    — every item `(node i, task, type, payload)` of a client batch delivered to node `i` (`.newEntries`), with
              the coordinates `(lastIndex, lastTerm)` of `i`'s last log entry at that moment — recorded when the
              batch is handled to completion and also when the node dies while handling it;
* `tasks`   — every `(node, task id ≠ 0)` any operation has brought in (`C15Tasks.submitted`);
* `answers` — every completion `(node, task ≠ 0, result)` in the reply list of a COMPLETED step.

Additional assumptions on the client side (`EnabledC`), all explicit:
* task ids are fresh: the non-zero ids an operation brings to node `i` are pairwise distinct and were never brought
  to `i` before (the client library creates a new task object per request);
* **update payloads are distinct**: the update payloads of a delivered batch are pairwise distinct, differ from the
  payload of every earlier update submission (to any node) and from every update payload in the initial logs;
* modelling decision: a step that does not complete (the process dies) delivers no answer — its submissions are
  recorded, and whatever it stored and is found on disk counts as created (so such a submission is "ambiguous");
* initially (`Init`) the ledgers are empty and no client task is pending anywhere.

PROVED, for every reachable state / every run (`_partial`: the restrictions above); `cl_reachable`: the ledger
invariant `CL` (every queued task is a submission; every update entry a node created carries the payload of an update
submitted to that node, and is the only update entry with that payload; every value answer is backed by a committed
root path `ValPath`; a definite rejection means no entry; a task is answered once):
* `completed_update_took_effect_once_partial` (1), `rejected_update_never_takes_effect_partial` (2; `definite_iff`
  lists the results that count), `ambiguous_update_at_most_once_partial` (3), `real_time_order_partial` (4),
  `value_answer_is_committed_prefix_partial` (5a), `leader_read_reflects_accepted_partial` (5b),
  `dirty_read_is_committed_prefix_partial` (5c), `answered_at_most_once_partial` — see their doc comments.
NOT covered: `ok` answers (barriers, no-ops) are not tracked by the ledger invariant (node level:
`C07.reply_only_after_commit`). NOT TRUE in the model (`stale_read_by_deposed_leader`, a proved counterexample at the
end of the file): a read answered by a leader need not reflect updates completed by ANOTHER (newer) leader — a deposed
leader answers reads from its own committed log without contacting anybody; the Go code (`leader.storeEntry` /
`leader.applyCommitted`) does the same.
Examples: proved reachable states with a rejected update (`exSA`), a dirty read on a follower (`exSB`), an update
accepted, replicated, committed, applied and answered by an elected leader (`zs10`), and a second update and a read
answered after it (`zs13`, run `zs10 → zs13`); `decide +kernel` evaluates the steps, the commit steps are rewritten
first (`replUpdates_step_alt`) because `List.mergeSort` does not reduce.
-/
import RaftVerif.Lemmas.ClientRel
import RaftVerif.Props.C19Sys
import RaftVerif.Lemmas.Script
import RaftVerif.Lemmas.ScriptNode

namespace Raft
namespace C07Sys
open Node LogRel CommitRel Commit C02Sys C03Sys SysInv ClientRel NoPanic
open Replication (chainOf newCreated)
open Election (setNode)
open NodeSys (forall_setNode)

/-- a submission: an item of a client batch delivered to `node`; `lastIndex`, `lastTerm` (ghost): the coordinates
of the node's last log entry when the batch was delivered -/
structure Sub where
  node : Nat
  task : Nat
  typ : Nat
  data : String
  lastIndex : Nat
  lastTerm : Nat
  deriving DecidableEq, Repr

/-- an answer: the completion of `task` by `node` with the canonical `result` -/
structure Ans where
  node : Nat
  task : Nat
  result : String
  deriving DecidableEq, Repr

structure Sys where
  c : Commit.Sys
  subs : List Sub
  tasks : List (Nat × Nat)
  answers : List Ans

abbrev Sys.node (x : Sys) (i : Nat) : Node := x.c.node i
abbrev Sys.T (x : Sys) : List CEntry := x.c.T

/-- the submissions an operation delivers to node `i` (state `pre`) -/
def subsOf (i : Nat) (pre : Node) : Op → List Sub
  | .newEntries b => b.map (fun q => ⟨i, q.task, q.typ, q.data, pre.lastLogIndex, pre.lastLogTerm⟩)
  | _ => []

/-- the task ids an operation brings to node `i` -/
def tasksOf (i : Nat) (op : Op) : List (Nat × Nat) := (C15Tasks.submitted op).map (fun t => (i, t))

/-- the answers of a completed step of node `i` -/
def answersOf (i : Nat) (post : Node) : List Ans :=
  (post.replies.filter (fun r => r.task != 0)).map (fun r => ⟨i, r.task, r.result⟩)

/-- the update payloads an operation submits -/
def opUpd : Op → List String
  | .newEntries b => updData b
  | _ => []

/-- **assumptions on the client side** for an operation delivered to node `i`: fresh task ids, distinct update
payloads (see the file header) -/
structure EnabledC (x : Sys) (i : Nat) (op : Op) : Prop where
  idsNodup : (C15Tasks.submitted op).Nodup
  idsFresh : ∀ t ∈ C15Tasks.submitted op, (i, t) ∉ x.tasks
  updNodup : (opUpd op).Nodup
  updSubs : ∀ d ∈ opUpd op, ∀ s ∈ x.subs, s.typ = etUpdate → s.data ≠ d
  updTree : ∀ d ∈ opUpd op, ∀ c ∈ x.T, c.e.typ = etUpdate → c.e.data ≠ d

def stepS (x : Sys) (i : Nat) (op : Op) (ra : List Nat) (ord : List (List Nat)) (src : Nat) : Sys :=
  { c := stepC x.c i op ra ord src
    subs := subsOf i (x.node i) op ++ x.subs
    tasks := tasksOf i op ++ x.tasks
    answers := answersOf i ((x.node i).step op ra ord) ++ x.answers }

def crashS (x : Sys) (i : Nat) (op : Op) (n : Node) : Sys :=
  { c := crashC x.c i op n
    subs := subsOf i (x.node i) op ++ x.subs
    tasks := tasksOf i op ++ x.tasks
    answers := x.answers }

/-- the transitions of `SysInv.TransG` with the client-side assumptions, and the ledgers -/
inductive Trans (x : Sys) : Sys → Prop
  | step (i : Nat) (op : Op) (ra : List Nat) (ord : List (List Nat)) (src : Nat) : Commit.Enabled x.c i op src →
      EnabledG x.c i op → (x.node i).closed = "" → EnabledC x i op → Trans x (stepS x i op ra ord src)
  | crash (i : Nat) (op : Op) (ra : List Nat) (ord : List (List Nat)) (src k retain : Nat) (sor : Bool)
      (n : Node) : Commit.Enabled x.c i op src → EnabledG x.c i op → ((x.node i).closed = "" ∨ k = 0) →
      Node.restart (C05.crashDisk (x.node i) op ra ord k) retain sor = some n → EnabledC x i op →
      Trans x (crashS x i op n)
  | send (i : Nat) (q : AppendReq) : i ≠ 0 → (x.node i).role = .leader → Replication.ReadFrom (x.node i) q →
      q.ldrCommitIndex ≤ (x.node i).commitIndex → Trans x { x with c := sendC x.c q }

theorem trans_c {x y : Sys} (h : Trans x y) : TransG x.c y.c := by
  cases h with
  | step i op ra ord src he heG ho _ => exact .step i op ra ord src he heG ho
  | crash i op ra ord src k retain sor n he heG ho hn _ => exact .crash i op ra ord src k retain sor n he heG ho hn
  | send i q hi hl hr hc => exact .send i q hi hl hr hc

/-- initial states: a good initial state of the cluster (`Commit.Init`, `SysInv.GInv`), empty ledgers, no client
task pending anywhere -/
structure Init (x : Sys) : Prop where
  c : Commit.Init x.c
  good : GInv x.c
  subs : x.subs = []
  tasks : x.tasks = []
  answers : x.answers = []
  idle : ∀ i, C15Tasks.TasksOK (x.node i) ∧ C15Tasks.pending (x.node i) = []

/-- states reachable with the side conditions of C19Sys in every state -/
inductive Reachable (V : List Nat) : Sys → Prop
  | init (x : Sys) : Init x → SideV V x.c → SideG x.c → Reachable V x
  | next (x y : Sys) : Reachable V x → Trans x y → SideV V y.c → SideG y.c → Reachable V y

inductive Run (V : List Nat) (x : Sys) : Sys → Prop
  | refl : Run V x x
  | next (y z : Sys) : Run V x y → Trans y z → SideV V z.c → SideG z.c → Run V x z

theorem reachable_c {V : List Nat} {x : Sys} (h : Reachable V x) : ReachableG V x.c := by
  induction h with
  | init x hi hs hg => exact .init _ hi.c hs hg hi.good
  | next x y _ ht hs hg ih => exact .next _ _ ih (trans_c ht) hs hg

theorem run_reachable {V : List Nat} {x y : Sys} (hx : Reachable V x) (h : Run V x y) : Reachable V y := by
  induction h with
  | refl => exact hx
  | next y z _ ht hs hg ih => exact .next y z ih ht hs hg

theorem inj_of_nodup {α β : Type} (p : α → Bool) (f : α → β) : ∀ (l : List α), ((l.filter p).map f).Nodup →
    ∀ a ∈ l, ∀ a' ∈ l, p a = true → p a' = true → f a = f a' → a = a' := nodup_map_inj p f

theorem mem_ups {es : List Entry} {e : Entry} (he : e ∈ es) (ht : e.typ = etUpdate) : e.data ∈ ups es := by
  unfold ups
  exact List.mem_map.mpr ⟨e, List.mem_filter.mpr ⟨he, by simp [ht]⟩, rfl⟩

theorem mem_updData {b : List QItem} {d : String} (h : d ∈ updData b) : ∃ q ∈ b, q.typ = etUpdate ∧ q.data = d := by
  unfold updData at h
  obtain ⟨q, hq, hd⟩ := List.mem_map.mp h
  obtain ⟨h1, h2⟩ := List.mem_filter.mp hq
  exact ⟨q, h1, by simpa using h2, hd⟩

theorem mem_updData_of {b : List QItem} {q : QItem} (hq : q ∈ b) (ht : q.typ = etUpdate) : q.data ∈ updData b := by
  unfold updData
  exact List.mem_map.mpr ⟨q, List.mem_filter.mpr ⟨hq, by simp [ht]⟩, rfl⟩

theorem ups_prefix {l l' : List Entry} (h : l <+: l') : ups l <+: ups l' := by
  obtain ⟨r, hr⟩ := h
  rw [← hr, ups_append]
  exact List.prefix_append _ _

/-- records of one chain whose update payloads are pairwise distinct: the payload determines the record -/
theorem chainOf_upd_inj (cr : Nat) : ∀ (es : List Entry) (pt : Nat), (ups es).Nodup →
    ∀ c ∈ chainOf cr pt es, ∀ c' ∈ chainOf cr pt es, c.e.typ = etUpdate → c'.e.typ = etUpdate →
      c.e.data = c'.e.data → c = c' := by
  intro es
  induction es with
  | nil => intro _ _ c hc; cases hc
  | cons e rest ih =>
    intro pt hn c hc c' hc' ht ht' hd
    have hcons : ups (e :: rest) = ups [e] ++ ups rest := ups_append [e] rest
    rw [hcons, ups_single] at hn
    simp only [chainOf, List.mem_cons] at hc hc'
    have hrest : (ups rest).Nodup := by
      split at hn
      · exact (List.nodup_cons.mp hn).2
      · exact hn
    have hhead : ∀ z ∈ chainOf cr e.term rest, z.e.typ = etUpdate → e.typ = etUpdate → z.e.data ≠ e.data := by
      intro z hz hzt het hzd
      rw [if_pos het] at hn
      exact (List.nodup_cons.mp hn).1 (by rw [← hzd]; exact mem_ups (C04Sys.mem_chainOf hz).2 hzt)
    rcases hc with hc | hc <;> rcases hc' with hc' | hc'
    · rw [hc, hc']
    · exfalso; rw [hc] at ht hd; exact hhead c' hc' ht' ht hd.symm
    · exfalso; rw [hc'] at ht' hd; exact hhead c hc ht ht' hd
    · exact ih _ hrest c hc c' hc' ht ht' hd

/-- **the committed root path behind a value answer** `n` to submission `s`: `p` is a root path of the tree whose last
entry is committed, `n` is the number of update entries on it; for an update `p` ends with the entry that carries its
payload; unless `s` is a dirty read, `p` extends the log the node had when `s` was delivered -/
def ValPath (x : Sys) (s : Sub) (n : Nat) (p : List Entry) : Prop :=
  Path x.T p ∧ (p ≠ [] → Committed x.c (p.length, lastTerm p)) ∧ n = (ups p).length ∧
  (s.typ = etUpdate → ∃ e, p.getLast? = some e ∧ e.typ = etUpdate ∧ e.data = s.data) ∧
  (s.typ ≠ etDirtyRead → s.lastIndex ≤ p.length ∧ (1 ≤ s.lastIndex → Holds p s.lastIndex s.lastTerm))

structure CL (x : Sys) : Prop where
  tasksOK : ∀ i, C15Tasks.TasksOK (x.node i)
  /-- every pending task id was brought in by an operation -/
  pend : ∀ i, ∀ t ∈ C15Tasks.pending (x.node i), (i, t) ∈ x.tasks
  subTask : ∀ s ∈ x.subs, s.task ≠ 0 → (s.node, s.task) ∈ x.tasks
  /-- a task id names one submission -/
  subUniq : ∀ s ∈ x.subs, ∀ s' ∈ x.subs, s.node = s'.node → s.task = s'.task → s.task ≠ 0 → s = s'
  subNode : ∀ s ∈ x.subs, s.node ≠ 0
  /-- an update payload names one submission -/
  subData : ∀ s ∈ x.subs, ∀ s' ∈ x.subs, s.typ = etUpdate → s'.typ = etUpdate → s.data = s'.data → s = s'
  /-- every queued task is a submission to that node, delivered when the log was shorter than the item's index;
  the node's log still holds what it held then -/
  queue : ∀ i, ∀ q ∈ (x.node i).ldr.queue, q.task ≠ 0 → ∃ s ∈ x.subs, s.node = i ∧ s.task = q.task ∧
    s.typ = q.typ ∧ s.data = q.data ∧ s.lastIndex < q.index ∧
    (1 ≤ s.lastIndex → Holds (x.node i).log.entries s.lastIndex s.lastTerm)
  /-- every update entry a node created carries the payload of an update submitted to that node -/
  updSub : ∀ c ∈ x.T, c.cr ≠ 0 → c.e.typ = etUpdate →
    ∃ s ∈ x.subs, s.node = c.cr ∧ s.typ = etUpdate ∧ s.data = c.e.data
  /-- a created update entry is the only update entry with its payload -/
  updUniq : ∀ c ∈ x.T, ∀ c' ∈ x.T, c.cr ≠ 0 → c.e.typ = etUpdate → c'.e.typ = etUpdate →
    c.e.data = c'.e.data → c = c'
  /-- an update entry with the payload of a submission was created by the node the submission went to -/
  updCr : ∀ s ∈ x.subs, s.typ = etUpdate → ∀ c ∈ x.T, c.e.typ = etUpdate → c.e.data = s.data → c.cr = s.node
  ansTask : ∀ a ∈ x.answers, a.task ≠ 0 ∧ (a.node, a.task) ∈ x.tasks
  ansVal : ∀ a ∈ x.answers, ∀ n, a.result = valStr n →
    ∃ s ∈ x.subs, s.node = a.node ∧ s.task = a.task ∧ isValTyp s.typ ∧ ∃ p, ValPath x s n p
  ansDef : ∀ a ∈ x.answers, Definite a.result → ∀ s ∈ x.subs, s.node = a.node → s.task = a.task →
    s.typ = etUpdate → ∀ c ∈ x.T, c.e.typ = etUpdate → c.e.data ≠ s.data
  /-- an answered task is no longer pending -/
  ansNP : ∀ a ∈ x.answers, a.task ∉ C15Tasks.pending (x.node a.node)
  /-- a task is answered at most once -/
  ansOnce : ∀ a ∈ x.answers, ∀ a' ∈ x.answers, a.node = a'.node → a.task = a'.task → a = a'

/-! ### how a step or a crash of node `i` extends the ledgers of submissions, tasks and created entries -/

/-- `y` extends `x`: node `i` was handed `op`; the tree grew by the records of `es` (created by `i`), whose update
payloads are none, or a prefix of those of the batch -/
structure Grow (x y : Sys) (i : Nat) (op : Op) (es : List Entry) : Prop where
  id : i ≠ 0
  en : EnabledC x i op
  subs : y.subs = subsOf i (x.node i) op ++ x.subs
  tasks : y.tasks = tasksOf i op ++ x.tasks
  T : ∃ pt, y.T = chainOf i pt es ++ x.T
  upd : ups es <+: opUpd op

theorem mem_subsOf {i : Nat} {pre : Node} {op : Op} {s : Sub} (hs : s ∈ subsOf i pre op) :
    ∃ b, op = .newEntries b ∧ ∃ q ∈ b, s = ⟨i, q.task, q.typ, q.data, pre.lastLogIndex, pre.lastLogTerm⟩ := by
  cases op <;> try (cases hs)
  rename_i b
  obtain ⟨q, hq, e⟩ := List.mem_map.mp hs
  exact ⟨b, rfl, q, hq, e.symm⟩

namespace Grow
variable {x y : Sys} {i : Nat} {op : Op} {es : List Entry}

theorem new_sub_task (g : Grow x y i op es) {s : Sub} (hs : s ∈ subsOf i (x.node i) op) (h0 : s.task ≠ 0) :
    s.node = i ∧ s.task ∈ C15Tasks.submitted op := by
  obtain ⟨b, rfl, q, hq, rfl⟩ := mem_subsOf hs
  refine ⟨rfl, ?_⟩
  unfold C15Tasks.submitted TL.submittedRaw
  exact List.mem_filter.mpr ⟨List.mem_map.mpr ⟨q, hq, rfl⟩, by simpa using h0⟩

theorem new_sub_upd (g : Grow x y i op es) {s : Sub} (hs : s ∈ subsOf i (x.node i) op) (ht : s.typ = etUpdate) :
    s.node = i ∧ s.data ∈ opUpd op := by
  obtain ⟨b, rfl, q, hq, rfl⟩ := mem_subsOf hs
  exact ⟨rfl, mem_updData_of hq ht⟩

theorem new_rec (g : Grow x y i op es) {c : CEntry} (hc : c ∈ y.T) :
    c ∈ x.T ∨ (c.cr = i ∧ c.e ∈ es ∧ (c.e.typ = etUpdate → c.e.data ∈ opUpd op)) := by
  obtain ⟨pt, hT⟩ := g.T
  rw [hT] at hc
  rcases List.mem_append.mp hc with hc | hc
  · obtain ⟨h1, h2⟩ := C04Sys.mem_chainOf hc
    exact Or.inr ⟨h1, h2, fun ht => g.upd.subset (mem_ups h2 ht)⟩
  · exact Or.inl hc

theorem subTask (g : Grow x y i op es) (h : CL x) : ∀ s ∈ y.subs, s.task ≠ 0 → (s.node, s.task) ∈ y.tasks := by
  intro s hs h0
  rw [g.subs] at hs; rw [g.tasks]
  rcases List.mem_append.mp hs with hs | hs
  · obtain ⟨e1, e2⟩ := g.new_sub_task hs h0
    exact List.mem_append_left _ (List.mem_map.mpr ⟨s.task, e2, by rw [e1]⟩)
  · exact List.mem_append_right _ (h.subTask s hs h0)

theorem subNode (g : Grow x y i op es) (h : CL x) : ∀ s ∈ y.subs, s.node ≠ 0 := by
  intro s hs
  rw [g.subs] at hs
  rcases List.mem_append.mp hs with hs | hs
  · obtain ⟨b, _, q, _, rfl⟩ := mem_subsOf hs
    exact g.id
  · exact h.subNode s hs

theorem subUniq (g : Grow x y i op es) (h : CL x) :
    ∀ s ∈ y.subs, ∀ s' ∈ y.subs, s.node = s'.node → s.task = s'.task → s.task ≠ 0 → s = s' := by
  intro s hs s' hs' hn ht h0
  rw [g.subs] at hs hs'
  have fresh : ∀ a ∈ subsOf i (x.node i) op, ∀ a' ∈ x.subs, a.node = a'.node → a.task = a'.task → a.task ≠ 0 → False := by
    intro a ha a' ha' e1 e2 e0
    obtain ⟨f1, f2⟩ := g.new_sub_task ha e0
    have := h.subTask a' ha' (by rw [← e2]; exact e0)
    rw [← e1, ← e2, f1] at this
    exact g.en.idsFresh _ f2 this
  rcases List.mem_append.mp hs with hs | hs <;> rcases List.mem_append.mp hs' with hs' | hs'
  · obtain ⟨b, rfl, q, hq, rfl⟩ := mem_subsOf hs
    obtain ⟨b', hb', q', hq', rfl⟩ := mem_subsOf hs'
    cases hb'
    have hnd : ((b.filter (fun q : QItem => decide (q.task ≠ 0))).map (·.task)).Nodup := by
      have := g.en.idsNodup
      unfold C15Tasks.submitted TL.submittedRaw at this
      rw [List.filter_map] at this
      exact this
    have := inj_of_nodup (fun q : QItem => decide (q.task ≠ 0)) (·.task) b hnd q hq q' hq' (by simpa using h0)
      (by have : q'.task ≠ 0 := by rw [← show q.task = q'.task from ht]; exact h0
          simpa using this) ht
    rw [this]
  · exact (fresh s hs s' hs' hn ht h0).elim
  · exact (fresh s' hs' s hs hn.symm ht.symm (by rw [← ht]; exact h0)).elim
  · exact h.subUniq s hs s' hs' hn ht h0

theorem subData (g : Grow x y i op es) (h : CL x) :
    ∀ s ∈ y.subs, ∀ s' ∈ y.subs, s.typ = etUpdate → s'.typ = etUpdate → s.data = s'.data → s = s' := by
  intro s hs s' hs' ht ht' hd
  rw [g.subs] at hs hs'
  have fresh : ∀ a ∈ subsOf i (x.node i) op, ∀ a' ∈ x.subs, a.typ = etUpdate → a'.typ = etUpdate → a.data = a'.data → False := by
    intro a ha a' ha' e1 e2 e3
    exact g.en.updSubs _ (g.new_sub_upd ha e1).2 a' ha' e2 e3.symm
  rcases List.mem_append.mp hs with hs | hs <;> rcases List.mem_append.mp hs' with hs' | hs'
  · obtain ⟨b, rfl, q, hq, rfl⟩ := mem_subsOf hs
    obtain ⟨b', hb', q', hq', rfl⟩ := mem_subsOf hs'
    cases hb'
    have hnd : ((b.filter (fun q => q.typ == etUpdate)).map (·.data)).Nodup := g.en.updNodup
    have := inj_of_nodup (fun q : QItem => q.typ == etUpdate) (·.data) b hnd q hq q' hq'
      (by simpa using ht) (by simpa using ht') hd
    rw [this]
  · exact (fresh s hs s' hs' ht ht' hd).elim
  · exact (fresh s' hs' s hs ht' ht hd.symm).elim
  · exact h.subData s hs s' hs' ht ht' hd

theorem updSub (g : Grow x y i op es) (h : CL x) : ∀ c ∈ y.T, c.cr ≠ 0 → c.e.typ = etUpdate →
    ∃ s ∈ y.subs, s.node = c.cr ∧ s.typ = etUpdate ∧ s.data = c.e.data := by
  intro c hc h0 ht
  rw [g.subs]
  rcases g.new_rec hc with hc | ⟨e1, _, e3⟩
  · obtain ⟨s, hs, k⟩ := h.updSub c hc h0 ht
    exact ⟨s, List.mem_append_right _ hs, k⟩
  · have hd := e3 ht
    cases op <;> try (cases hd)
    rename_i b
    obtain ⟨q, hq, hqt, hqd⟩ := mem_updData hd
    exact ⟨⟨i, q.task, q.typ, q.data, (x.node i).lastLogIndex, (x.node i).lastLogTerm⟩,
      List.mem_append_left _ (List.mem_map.mpr ⟨q, hq, rfl⟩), e1.symm, hqt, hqd⟩

theorem updUniq (g : Grow x y i op es) (h : CL x) : ∀ c ∈ y.T, ∀ c' ∈ y.T, c.cr ≠ 0 → c.e.typ = etUpdate →
    c'.e.typ = etUpdate → c.e.data = c'.e.data → c = c' := by
  intro c hc c' hc' h0 ht ht' hd
  rcases g.new_rec hc with hco | ⟨e1, e2, e3⟩ <;> rcases g.new_rec hc' with hco' | ⟨e1', e2', e3'⟩
  · exact h.updUniq c hco c' hco' h0 ht ht' hd
  · exact (g.en.updTree _ (e3' ht') c hco ht hd).elim
  · exact (g.en.updTree _ (e3 ht) c' hco' ht' hd.symm).elim
  · obtain ⟨pt, hT⟩ := g.T
    rw [hT] at hc hc'
    have hnd : (ups es).Nodup := List.Nodup.sublist g.upd.sublist g.en.updNodup
    have old : ∀ z ∈ x.T, z.e.typ = etUpdate → z.e.data ∈ opUpd op → False :=
      fun z hz hzt hzd => g.en.updTree _ hzd z hz hzt rfl
    rcases List.mem_append.mp hc with hc | hc <;> rcases List.mem_append.mp hc' with hc' | hc'
    · exact chainOf_upd_inj i es pt hnd c hc c' hc' ht ht' hd
    · exact (old c' hc' ht' (by rw [← hd]; exact e3 ht)).elim
    · exact (old c hc ht (e3 ht)).elim
    · exact (old c hc ht (e3 ht)).elim

theorem updCr (g : Grow x y i op es) (h : CL x) : ∀ s ∈ y.subs, s.typ = etUpdate → ∀ c ∈ y.T,
    c.e.typ = etUpdate → c.e.data = s.data → c.cr = s.node := by
  intro s hs ht c hc hct hd
  rw [g.subs] at hs
  rcases List.mem_append.mp hs with hs | hs <;> rcases g.new_rec hc with hco | ⟨e1, _, e3⟩
  · exact (g.en.updTree _ (g.new_sub_upd hs ht).2 c hco hct hd).elim
  · rw [e1, (g.new_sub_upd hs ht).1]
  · exact h.updCr s hs ht c hco hct hd
  · exact (g.en.updSubs _ (e3 hct) s hs ht hd.symm).elim

/-- a definite answer given before the step: the new submissions have fresh task ids, and the new entries carry
payloads no earlier submission has -/
theorem ansDef_old (g : Grow x y i op es) (h : CL x) {a : Ans} (ha : a ∈ x.answers) (hd : Definite a.result) :
    ∀ s ∈ y.subs, s.node = a.node → s.task = a.task → s.typ = etUpdate → ∀ c ∈ y.T, c.e.typ = etUpdate →
      c.e.data ≠ s.data := by
  intro s hs e1 e2 ht c hc hct
  rw [g.subs] at hs
  rcases List.mem_append.mp hs with hs | hs
  · have h0 : s.task ≠ 0 := by rw [e2]; exact (h.ansTask a ha).1
    obtain ⟨g1, g2⟩ := g.new_sub_task hs h0
    have := (h.ansTask a ha).2
    rw [← e1, ← e2, g1] at this
    exact (g.en.idsFresh _ g2 this).elim
  · rcases g.new_rec hc with hco | ⟨_, _, g3⟩
    · exact h.ansDef a ha hd s hs e1 e2 ht c hco hct
    · exact fun hcd => g.en.updSubs _ (g3 hct) s hs ht hcd.symm

end Grow

theorem ValPath.mono {x y : Sys} {s : Sub} {n : Nat} {p : List Entry} (h : ValPath x s n p)
    (hT : ∀ c ∈ x.T, c ∈ y.T) (hC : ∀ m ∈ x.c.committed, m ∈ y.c.committed) : ValPath y s n p := by
  obtain ⟨h1, h2, h3, h4, h5⟩ := h
  refine ⟨h1.mono hT, fun hne => ?_, h3, h4, h5⟩
  obtain ⟨m, hm, ha⟩ := h2 hne
  exact ⟨m, hC m hm, ha.mono hT⟩

/-- what is known about the submissions to node `i` (state `pre`) in the ledger of `y` -/
def KnownAt (y : Sys) (i : Nat) (pre : Node) : Known := fun t typ d lb =>
  ∃ s ∈ y.subs, s.node = i ∧ s.task = t ∧ s.typ = typ ∧ s.data = d ∧ s.lastIndex = lb ∧
    (1 ≤ lb → Holds pre.log.entries lb s.lastTerm)

theorem holds_last_entry {s : Node} (hn : NWF s) (h : 1 ≤ s.lastLogIndex) :
    Holds s.log.entries s.lastLogIndex s.lastLogTerm := by
  rw [hn.last, hn.lastT]
  rw [hn.last] at h
  exact ⟨h, Nat.le_refl _, termAt_length _⟩

section step
variable {V : List Nat} {x : Sys} {i : Nat} {op : Op} {ra : List Nat} {ord : List (List Nat)} {src : Nat}

/-- the node-level facts about a completed step of the system -/
structure StepFacts (V : List Nat) (x : Sys) (i : Nat) (op : Op) (ra : List Nat) (ord : List (List Nat)) (src : Nat) :
    Prop where
  hV : V.Nodup
  rx : ReachableG V x.c
  he : Commit.Enabled x.c i op src
  heG : EnabledG x.c i op
  ho : (x.node i).closed = ""
  en : EnabledC x i op
  cl : CL x

namespace StepFacts

theorem sc (h : StepFacts V x i op ra ord src) : SC V x.c i op ra ord src :=
  ⟨h.hV, (inv_reachable h.hV (reachableG_V h.rx)).1, (inv_reachable h.hV (reachableG_V h.rx)).2, h.he⟩

theorem good (h : StepFacts V x i op ra ord src) :
    ((x.node i).step op ra ord).panicked = none ∧ Good true ((x.node i).step op ra ord) :=
  sc_good h.sc (reachableG_V h.rx) h.ho (ginv_reachable h.hV h.rx) h.heG

theorem fresh (h : StepFacts V x i op ra ord src) : C15Tasks.Fresh (x.node i) op :=
  ⟨h.en.idsNodup, fun t ht hp => h.en.idsFresh t ht (h.cl.pend i t hp)⟩

theorem tasks (h : StepFacts V x i op ra ord src) :
    (C15Tasks.submitted op ++ C15Tasks.pending (x.node i)).Perm
      (C15Tasks.answered ((x.node i).step op ra ord) ++ C15Tasks.pending ((x.node i).step op ra ord)) ∧
    (∀ r ∈ ((x.node i).step op ra ord).replies, r.task ≠ 0 →
      r.task ∈ C15Tasks.submitted op ++ C15Tasks.pending (x.node i)) ∧
    (C15Tasks.answered ((x.node i).step op ra ord)).Nodup ∧
    (∀ t ∈ C15Tasks.answered ((x.node i).step op ra ord), t ∉ C15Tasks.pending ((x.node i).step op ra ord)) ∧
    C15Tasks.TasksOK ((x.node i).step op ra ord) ∧ NoPanic.Good true ((x.node i).step op ra ord) :=
  C15Tasks.task_step_two (x.node i) op ra ord ((ginv_reachable h.hV h.rx).good i) h.ho
    (reqok' h.hV (reachableG_V h.rx) (ginv_reachable h.hV h.rx) h.he h.heG) (h.cl.tasksOK i) h.fresh

theorem preOK (h : StepFacts V x i op ra ord src) :
    PreOK (KnownAt (stepS x i op ra ord src) i (x.node i)) (x.node i) := by
  have hI := h.sc.inv
  have hFB := fsmInv_reachable h.hV (C19Sys.reachable_np_of_good V h.hV x.c h.rx) i
  refine ⟨hFB.fsm, ⟨(nwf hI i).prev, (nwf hI i).last⟩, ?_, ?_⟩
  · by_cases hl : (x.node i).role = .leader
    · exact hFB.queue hl
    · intro q hq
      rw [((h.cl.tasksOK i).quiet hl).1] at hq; cases hq
  · intro q hq h0
    obtain ⟨s, hs, e1, e2, e3, e4, e5, e6⟩ := h.cl.queue i q hq h0
    exact ⟨s.lastIndex, ⟨s, List.mem_append_right _ hs, e1, e2, e3, e4, rfl, e6⟩, e5⟩

theorem knownBatch (h : StepFacts V x i op ra ord src) : ∀ b, op = .newEntries b → ∀ q ∈ b, q.task ≠ 0 →
    KnownAt (stepS x i op ra ord src) i (x.node i) q.task q.typ q.data (x.node i).lastLogIndex := by
  intro b hb q hq _
  subst hb
  refine ⟨⟨i, q.task, q.typ, q.data, (x.node i).lastLogIndex, (x.node i).lastLogTerm⟩,
    List.mem_append_left _ (List.mem_map.mpr ⟨q, hq, rfl⟩), rfl, rfl, rfl, rfl, rfl, fun h1 => ?_⟩
  exact holds_last_entry (nwf h.sc.inv i) h1

theorem cstep (h : StepFacts V x i op ra ord src) (happ : ∀ q, op ≠ .append q) :
    CStep (KnownAt (stepS x i op ra ord src) i (x.node i)) (x.node i) op ((x.node i).step op ra ord) :=
  client_step (x.node i) op ra ord h.preOK h.he.ok2 happ h.knownBatch h.good.1

theorem grow (h : StepFacts V x i op ra ord src) :
    ∃ es, Grow x (stepS x i op ra ord src) i op es ∧
      ((∀ q, op ≠ .append q) → ((x.node i).step op ra ord).log.entries = (x.node i).log.entries ++ es ∧
        (ups es ≠ [] → ∀ r ∈ ((x.node i).step op ra ord).replies, ¬ Definite r.result)) := by
  rcases SC.op_cases op with happ | ⟨q, rfl⟩
  · obtain ⟨es, l1, l2⟩ := (h.cstep happ).log
    refine ⟨es, ⟨h.he.rp.id, h.en, rfl, rfl, ⟨lastTerm (x.node i).log.entries, ?_⟩, ?_⟩, fun _ => ⟨l1, fun hne => ?_⟩⟩
    · show (stepC x.c i op ra ord src).T = _
      rw [h.sc.T_eq, C04Sys.newCreated_other _ _ _ _ happ, l1, List.drop_left]
    · rcases l2 with l2 | ⟨b, rfl, l2, _⟩
      · rw [l2]; exact List.nil_prefix
      · rw [l2]; exact List.prefix_refl _
    · rcases l2 with l2 | ⟨b, _, _, l3⟩
      · exact absurd l2 hne
      · exact l3
  · refine ⟨[], ⟨h.he.rp.id, h.en, rfl, rfl, ⟨0, ?_⟩, List.nil_prefix⟩, fun hc => absurd rfl (hc q)⟩
    show (stepC x.c i (.append q) ra ord src).T = _
    rw [h.sc.T_eq]; rfl

theorem node_i (h : StepFacts V x i op ra ord src) : (stepS x i op ra ord src).node i = (x.node i).step op ra ord :=
  h.sc.node_i

theorem node_j (h : StepFacts V x i op ra ord src) {j : Nat} (hj : j ≠ i) :
    (stepS x i op ra ord src).node j = x.node j := h.sc.node_j hj

theorem mem_answers (_h : StepFacts V x i op ra ord src) {a : Ans} (ha : a ∈ (stepS x i op ra ord src).answers) :
    a ∈ x.answers ∨ (a.node = i ∧ a.task ≠ 0 ∧
      (⟨a.task, a.result⟩ : Reply) ∈ ((x.node i).step op ra ord).replies) := by
  rcases List.mem_append.mp (show a ∈ answersOf i _ ++ x.answers from ha) with ha | ha
  · right
    obtain ⟨r, hr, e⟩ := List.mem_map.mp ha
    obtain ⟨h1, h2⟩ := List.mem_filter.mp hr
    rw [← e]
    exact ⟨rfl, by simpa using h2, h1⟩
  · exact Or.inl ha

theorem new_val (h : StepFacts V x i op ra ord src) {r : Reply} (hr : r ∈ ((x.node i).step op ra ord).replies)
    {n : Nat} (hn : r.result = valStr n) :
    ∃ s ∈ (stepS x i op ra ord src).subs, s.node = i ∧ s.task = r.task ∧ isValTyp s.typ ∧
      ∃ p, ValPath (stepS x i op ra ord src) s n p := by
  rcases SC.op_cases op with happ | ⟨q, rfl⟩
  · have cs := h.cstep happ
    obtain ⟨typ, d, lb, ⟨s, hs, e1, e2, e3, e4, e5, e6⟩, hv, k, k1, k2, k3, k4⟩ := (cs.rep r hr).1 n hn
    have hIy := h.sc.cinv
    have hpath : Path (stepS x i op ra ord src).T ((x.node i).step op ra ord).log.entries := by
      have := log_path hIy i
      rwa [h.sc.node_i] at this
    have hlen : k ≤ ((x.node i).step op ra ord).log.entries.length := Nat.le_trans k1 cs.fsm.len
    obtain ⟨es, l1, _⟩ := cs.log
    refine ⟨s, hs, e1, e2, by rw [e3]; exact hv, ((x.node i).step op ra ord).log.entries.take k,
      hpath.prefix (List.take_prefix _ _), fun hne => ?_, k2, fun hu => ?_, fun hd => ?_⟩
    · have hk1 : 1 ≤ k := by
        cases k with
        | zero => exact absurd rfl hne
        | succ k => omega
      have hkc : k ≤ ((stepC x.c i op ra ord src).node i).commitIndex := by
        rw [h.sc.node_i]; exact Nat.le_trans k1 cs.fsm.le
      obtain ⟨_, m, hm, _, m2⟩ := covered_committed hIy hk1 hkc
      rw [h.sc.node_i] at m2
      rw [List.length_take, Nat.min_eq_left hlen, lastTerm_take _ _ hlen]
      exact ⟨m, hm, m2⟩
    · obtain ⟨hk1, e, he, he1, he2⟩ := k3 (by rw [← e3]; exact hu)
      refine ⟨e, ?_, he1, by rw [he2, e4]⟩
      rw [List.getLast?_eq_getElem?, List.length_take, Nat.min_eq_left hlen, List.getElem?_take_of_lt (by omega)]
      exact he
    · have hlb := k4 (by rw [← e3]; exact hd)
      rw [List.length_take, Nat.min_eq_left hlen]
      refine ⟨by rw [e5]; exact hlb, fun h1 => ?_⟩
      have hh := e6 (by rw [← e5]; exact h1)
      rw [← e5] at hh
      have hpost : Holds ((x.node i).step op ra ord).log.entries s.lastIndex s.lastTerm :=
        holds_prefix (by rw [l1]; exact List.prefix_append _ _) hh
      exact holds_of_prefix (List.take_prefix _ _) hpost
        (by rw [List.length_take, Nat.min_eq_left hlen, e5]; exact hlb)
  · exact absurd ⟨n, hn⟩ (append_step_replies (x.node i) q ra ord r hr).1

theorem ext (h : StepFacts V x i op ra ord src) :
    (∀ c ∈ x.T, c ∈ (stepS x i op ra ord src).T) ∧
    (∀ m ∈ x.c.committed, m ∈ (stepS x i op ra ord src).c.committed) :=
  ⟨h.sc.ext.T, h.sc.ext.committed⟩

theorem inv (h : StepFacts V x i op ra ord src) : CL (stepS x i op ra ord src) := by
  obtain ⟨es, g, hes⟩ := h.grow
  have hcl := h.cl
  obtain ⟨tk1, tk2, tk3, tk4, tk5, _⟩ := h.tasks
  have hsubs : ∀ s ∈ x.subs, s ∈ (stepS x i op ra ord src).subs := fun s hs => List.mem_append_right _ hs
  have htasks : ∀ t ∈ x.tasks, t ∈ (stepS x i op ra ord src).tasks := fun t ht => List.mem_append_right _ ht
  have hnewt : ∀ t ∈ C15Tasks.submitted op, (i, t) ∈ (stepS x i op ra ord src).tasks :=
    fun t ht => List.mem_append_left _ (List.mem_map.mpr ⟨t, ht, rfl⟩)
  have hknown : ∀ t ∈ C15Tasks.submitted op ++ C15Tasks.pending (x.node i), (i, t) ∈ (stepS x i op ra ord src).tasks := by
    intro t ht
    rcases List.mem_append.mp ht with ht | ht
    · exact hnewt t ht
    · exact htasks _ (hcl.pend i t ht)
  -- an old answer of node `i`: its task is neither submitted now nor pending
  have hold : ∀ a ∈ x.answers, a.node = i → a.task ∉ C15Tasks.submitted op ++ C15Tasks.pending (x.node i) := by
    intro a ha hn hm
    rcases List.mem_append.mp hm with hm | hm
    · have := (hcl.ansTask a ha).2
      rw [hn] at this
      exact g.en.idsFresh _ hm this
    · have := hcl.ansNP a ha
      rw [hn] at this
      exact this hm
  have hansw : ∀ r ∈ ((x.node i).step op ra ord).replies, r.task ≠ 0 →
      r.task ∈ C15Tasks.answered ((x.node i).step op ra ord) := fun r hr h0 =>
    List.mem_filter.mpr ⟨List.mem_map.mpr ⟨r, hr, rfl⟩, by simpa using h0⟩
  refine ⟨forall_setNode (P := fun _ m => C15Tasks.TasksOK m) tk5 (fun j _ => hcl.tasksOK j),
    forall_setNode (P := fun j m => ∀ t ∈ C15Tasks.pending m, (j, t) ∈ (stepS x i op ra ord src).tasks)
      (fun t ht => hknown t (tk1.symm.subset (List.mem_append_right _ ht)))
      (fun j _ t ht => htasks _ (hcl.pend j t ht)),
    g.subTask hcl, g.subUniq hcl, g.subNode hcl, g.subData hcl,
    fun j q hq h0 => ?_, g.updSub hcl, g.updUniq hcl, g.updCr hcl, fun a ha => ?_, fun a ha n hn => ?_,
    fun a ha hd s hs e1 e2 ht c hc hct => ?_, fun a ha => ?_, fun a ha a' ha' en et => ?_⟩
  · -- queue
    by_cases hj : j = i
    · subst hj
      rw [h.node_i] at hq ⊢
      rcases SC.op_cases op with happ | ⟨aq, rfl⟩
      · obtain ⟨lb, ⟨s, hs, e1, e2, e3, e4, e5, e6⟩, hlt⟩ := (h.cstep happ).queue q hq h0
        refine ⟨s, hs, e1, e2, e3, e4, by rw [e5]; exact hlt, fun h1 => ?_⟩
        have hh := e6 (by rw [← e5]; exact h1)
        rw [← e5] at hh
        exact holds_prefix (by rw [(hes happ).1]; exact List.prefix_append _ _) hh
      · by_cases hst : aq.term < (x.node j).term
        · obtain ⟨s1, _, _, _, _, _, _, s8, _⟩ := append_stale (x.node j) aq ra ord hst
          rw [s8] at hq
          obtain ⟨s, hs, k⟩ := hcl.queue j q hq h0
          rw [s1]
          exact ⟨s, hsubs s hs, k⟩
        · have hrole := append_step_role (x.node j) aq ra ord hst
          have := (tk5.quiet (by rw [hrole]; decide)).1
          rw [this] at hq; cases hq
    · rw [h.node_j hj] at hq ⊢
      obtain ⟨s, hs, k⟩ := hcl.queue j q hq h0
      exact ⟨s, hsubs s hs, k⟩
  · -- ansTask
    rcases h.mem_answers ha with ha | ⟨e1, e2, e3⟩
    · exact ⟨(hcl.ansTask a ha).1, htasks _ (hcl.ansTask a ha).2⟩
    · refine ⟨e2, ?_⟩
      rw [e1]
      exact hknown _ (tk2 _ e3 e2)
  · -- ansVal
    rcases h.mem_answers ha with ha | ⟨e1, e2, e3⟩
    · obtain ⟨s, hs, k1, k2, k3, p, hp⟩ := hcl.ansVal a ha n hn
      exact ⟨s, hsubs s hs, k1, k2, k3, p, hp.mono h.ext.1 h.ext.2⟩
    · obtain ⟨s, hs, k1, k2, k3, p, hp⟩ := h.new_val e3 hn
      exact ⟨s, hs, by rw [k1, e1], k2, k3, p, hp⟩
  · -- ansDef
    rcases h.mem_answers ha with ha | ⟨f1, f2, f3⟩
    · exact g.ansDef_old hcl ha hd s hs e1 e2 ht c hc hct
    · -- an answer of this step
      rcases SC.op_cases op with happ | ⟨aq, rfl⟩
      · have hD : a.task ∈ TL.submittedRaw op := ((h.cstep happ).rep _ f3).2 hd
        have hD' : a.task ∈ C15Tasks.submitted op := List.mem_filter.mpr ⟨hD, by simpa using f2⟩
        rw [g.subs] at hs
        rcases List.mem_append.mp hs with hs | hs
        · -- a submission of this step: nothing was stored
          rcases g.new_rec hc with hco | ⟨_, g2, g3⟩
          · exact fun hcd => g.en.updTree _ (g.new_sub_upd hs ht).2 c hco hct hcd
          · have hne : ups es ≠ [] := by
              intro he
              have := mem_ups g2 hct
              rw [he] at this; cases this
            exact ((hes happ).2 hne _ f3 hd).elim
        · -- an old submission cannot carry a fresh task id
          have := hcl.subTask s hs (by rw [e2]; exact f2)
          rw [e1, e2, f1] at this
          exact (g.en.idsFresh _ hD' this).elim
      · exact absurd hd (append_step_replies (x.node i) aq ra ord _ f3).2
  · -- ansNP
    rcases h.mem_answers ha with ha | ⟨f1, f2, f3⟩
    · by_cases hj : a.node = i
      · rw [hj, h.node_i]
        intro hp
        exact hold a ha hj (tk1.symm.subset (List.mem_append_right _ hp))
      · rw [h.node_j hj]; exact hcl.ansNP a ha
    · rw [f1, h.node_i]
      exact tk4 _ (hansw _ f3 f2)
  · -- ansOnce
    rcases h.mem_answers ha with ha | ⟨f1, f2, f3⟩ <;> rcases h.mem_answers ha' with ha' | ⟨f1', f2', f3'⟩
    · exact hcl.ansOnce a ha a' ha' en et
    · exact (hold a ha (by rw [en, f1']) (by rw [et]; exact tk2 _ f3' f2')).elim
    · exact (hold a' ha' (by rw [← en, f1]) (by rw [← et]; exact tk2 _ f3 f2)).elim
    · have hnd : ((((x.node i).step op ra ord).replies.filter (fun r : Reply => decide (r.task ≠ 0))).map
          (·.task)).Nodup := by
        have := tk3
        unfold C15Tasks.answered at this
        rw [List.filter_map] at this
        exact this
      have := inj_of_nodup (fun r : Reply => decide (r.task ≠ 0)) (·.task) _ hnd _ f3 _ f3'
        (by simpa using f2) (by simpa using f2') et
      have e1 : a.result = a'.result := congrArg Reply.result this
      cases a; cases a'
      simp only at en et e1
      subst en et e1
      rfl

end StepFacts
end step

section crash
variable {V : List Nat} {x : Sys} {i : Nat} {op : Op} {ra : List Nat} {ord : List (List Nat)}
  {src k retain : Nat} {sor : Bool} {n : Node}

structure CrashFacts (V : List Nat) (x : Sys) (i : Nat) (op : Op) (ra : List Nat) (ord : List (List Nat))
    (src k retain : Nat) (sor : Bool) (n : Node) : Prop where
  hV : V.Nodup
  rx : ReachableG V x.c
  he : Commit.Enabled x.c i op src
  heG : EnabledG x.c i op
  ho : (x.node i).closed = "" ∨ k = 0
  hn : Node.restart (C05.crashDisk (x.node i) op ra ord k) retain sor = some n
  en : EnabledC x i op
  cl : CL x

namespace CrashFacts

theorem cc (h : CrashFacts V x i op ra ord src k retain sor n) : CC V x.c i op ra ord src k retain sor n :=
  ⟨⟨h.hV, (inv_reachable h.hV (reachableG_V h.rx)).1, (inv_reachable h.hV (reachableG_V h.rx)).2, h.he⟩, h.hn⟩

/-- what reached the disk beyond the old log is a prefix of what the completed step would have appended -/
theorem grow (h : CrashFacts V x i op ra ord src k retain sor n) :
    ∃ es, Grow x (crashS x i op n) i op es := by
  have cc := h.cc
  rcases SC.op_cases op with happ | ⟨q, rfl⟩
  · refine ⟨n.log.entries.drop (x.node i).log.entries.length,
      ⟨h.he.rp.id, h.en, rfl, rfl, ⟨lastTerm (x.node i).log.entries, ?_⟩, ?_⟩⟩
    · show newCreated i (x.node i).log.entries n.log.entries op ++ x.T = _
      rw [C04Sys.newCreated_other _ _ _ _ happ]
    · rcases cc.disk_prefix happ with w | ⟨hk, w⟩
      · rw [List.drop_eq_nil_of_le w.length_le]
        exact List.nil_prefix
      · have sf : StepFacts V x i op ra ord src := ⟨h.hV, h.rx, h.he, h.heG, h.ho.resolve_right hk, h.en, h.cl⟩
        obtain ⟨es, l1, l2⟩ := (sf.cstep happ).log
        rw [l1] at w
        rcases C04Sys.prefix_append_cases w with w | ⟨b', _, hb', e⟩
        · rw [List.drop_eq_nil_of_le w.length_le]
          exact List.nil_prefix
        · rw [e, List.drop_left]
          refine List.IsPrefix.trans (ups_prefix hb') ?_
          rcases l2 with l2 | ⟨b, rfl, l2, _⟩
          · rw [l2]; exact List.nil_prefix
          · rw [l2]; exact List.prefix_refl _
  · exact ⟨[], ⟨h.he.rp.id, h.en, rfl, rfl, ⟨0, rfl⟩, List.nil_prefix⟩⟩

theorem node_i (h : CrashFacts V x i op ra ord src k retain sor n) : (crashS x i op n).node i = n := h.cc.node_i

theorem node_j (h : CrashFacts V x i op ra ord src k retain sor n) {j : Nat} (hj : j ≠ i) :
    (crashS x i op n).node j = x.node j := h.cc.node_j hj

theorem inv (h : CrashFacts V x i op ra ord src k retain sor n) : CL (crashS x i op n) := by
  obtain ⟨es, g⟩ := h.grow
  have hcl := h.cl
  have cc := h.cc
  obtain ⟨tn1, tn2⟩ := C19Sys.restart_tasksOK _ _ _ _ h.hn
  have hrole : n.role = .follower := cc.facts.2.2.2.1
  have hsubs : ∀ s ∈ x.subs, s ∈ (crashS x i op n).subs := fun s hs => List.mem_append_right _ hs
  have htasks : ∀ t ∈ x.tasks, t ∈ (crashS x i op n).tasks := fun t ht => List.mem_append_right _ ht
  refine ⟨forall_setNode (P := fun _ m => C15Tasks.TasksOK m) tn1 (fun j _ => hcl.tasksOK j),
    forall_setNode (P := fun j m => ∀ t ∈ C15Tasks.pending m, (j, t) ∈ (crashS x i op n).tasks)
      (fun t ht => by rw [tn2] at ht; cases ht) (fun j _ t ht => htasks _ (hcl.pend j t ht)),
    g.subTask hcl, g.subUniq hcl, g.subNode hcl, g.subData hcl,
    fun j q hq h0 => ?_, g.updSub hcl, g.updUniq hcl, g.updCr hcl, fun a ha => ?_, fun a ha n' hn => ?_,
    fun a ha hd s hs e1 e2 ht c hc hct => ?_, fun a ha => ?_, hcl.ansOnce⟩
  · by_cases hj : j = i
    · subst hj
      rw [h.node_i] at hq
      rw [(tn1.quiet (by rw [hrole]; decide)).1] at hq; cases hq
    · rw [h.node_j hj] at hq ⊢
      obtain ⟨s, hs, k⟩ := hcl.queue j q hq h0
      exact ⟨s, hsubs s hs, k⟩
  · exact ⟨(hcl.ansTask a ha).1, htasks _ (hcl.ansTask a ha).2⟩
  · obtain ⟨s, hs, k1, k2, k3, p, hp⟩ := hcl.ansVal a ha n' hn
    exact ⟨s, hsubs s hs, k1, k2, k3, p, hp.mono cc.ext.T cc.ext.committed⟩
  · exact g.ansDef_old hcl ha hd s hs e1 e2 ht c hc hct
  · by_cases hj : a.node = i
    · rw [hj, h.node_i, tn2]; exact fun hc => by cases hc
    · rw [h.node_j hj]; exact hcl.ansNP a ha

end CrashFacts
end crash

theorem cl_init {x : Sys} (h : Init x) : CL x := by
  have hq : ∀ i, (x.node i).ldr.queue = [] := fun i =>
    (((h.idle i).1).quiet (by rw [(h.c.rp.el.1 i).2.2]; decide)).1
  have hs : ∀ s, s ∉ x.subs := fun s hs => by rw [h.subs] at hs; cases hs
  have ha : ∀ a, a ∉ x.answers := fun a ha => by rw [h.answers] at ha; cases ha
  exact ⟨fun i => (h.idle i).1, fun i t ht => (by rw [(h.idle i).2] at ht; cases ht),
    fun s k => absurd k (hs s), fun s k => absurd k (hs s), fun s k => absurd k (hs s), fun s k => absurd k (hs s),
    fun i q hq' => (by rw [hq i] at hq'; cases hq'),
    fun c hc h0 => absurd (h.c.rp.cr0 c hc) h0, fun c hc c' _ h0 => absurd (h.c.rp.cr0 c hc) h0,
    fun s k => absurd k (hs s), fun a k => absurd k (ha a), fun a k => absurd k (ha a), fun a k => absurd k (ha a),
    fun a k => absurd k (ha a), fun a k => absurd k (ha a)⟩

theorem cl_trans {V : List Nat} (hV : V.Nodup) {x y : Sys} (hx : Reachable V x) (hcl : CL x) (ht : Trans x y) :
    CL y := by
  cases ht with
  | step i op ra ord src he heG ho hen =>
    exact (StepFacts.mk hV (reachable_c hx) he heG ho hen hcl).inv
  | crash i op ra ord src k retain sor n he heG ho hn hen =>
    exact (CrashFacts.mk hV (reachable_c hx) he heG ho hn hen hcl).inv
  | send i q hi hl hr hc =>
    exact ⟨hcl.tasksOK, hcl.pend, hcl.subTask, hcl.subUniq, hcl.subNode, hcl.subData, hcl.queue, hcl.updSub,
      hcl.updUniq, hcl.updCr, hcl.ansTask, fun a ha n hn => by
        obtain ⟨s, hs, k1, k2, k3, p, hp⟩ := hcl.ansVal a ha n hn
        exact ⟨s, hs, k1, k2, k3, p, hp.mono (fun _ hc => hc) (fun _ hm => hm)⟩, hcl.ansDef, hcl.ansNP,
      hcl.ansOnce⟩

/-- **the ledger invariant holds in every reachable state** -/
theorem cl_reachable {V : List Nat} (hV : V.Nodup) {x : Sys} (h : Reachable V x) : CL x := by
  induction h with
  | init x hi _ _ => exact cl_init hi
  | next x y hx ht _ _ ih => exact cl_trans hV hx ih ht


/-- two root paths whose last entries are committed: the shorter one is a prefix of the longer one -/
theorem committed_paths_comparable {V : List Nat} {c : Commit.Sys} (hI : CInv V c) {p p' : List Entry}
    (hp : Path c.T p) (hp' : Path c.T p') (hc : p ≠ [] → Committed c (p.length, lastTerm p))
    (hc' : p' ≠ [] → Committed c (p'.length, lastTerm p')) (hle : p.length ≤ p'.length) : p <+: p' :=
  paths_comparable (uniq hI) (chained hI) hp hp' hc hc' hle

/-- the log prefix a node has applied is a root path whose last entry is committed -/
theorem applied_path {V : List Nat} (hV : V.Nodup) {x : Sys} (h : Reachable V x) (j : Nat) :
    Path x.T ((x.node j).log.entries.take (x.node j).fsm.index) ∧
    ((x.node j).log.entries.take (x.node j).fsm.index ≠ [] →
      Committed x.c (((x.node j).log.entries.take (x.node j).fsm.index).length,
        lastTerm ((x.node j).log.entries.take (x.node j).fsm.index))) ∧
    (x.node j).fsm.applied = ups ((x.node j).log.entries.take (x.node j).fsm.index) := by
  have hR := reachable_c h
  obtain ⟨hI, _⟩ := inv_reachable hV (reachableG_V hR)
  have hFB := (fsmInv_reachable hV (C19Sys.reachable_np_of_good V hV x.c hR) j).fsm
  refine ⟨(log_path hI j).prefix (List.take_prefix _ _), fun hne => ?_, hFB.applied⟩
  have hlen : ((x.node j).log.entries.take (x.node j).fsm.index).length = (x.node j).fsm.index := by
    rw [List.length_take]; exact Nat.min_eq_left hFB.len
  have h1 : 1 ≤ (x.node j).fsm.index := by
    rw [← hlen]
    cases hh : (x.node j).log.entries.take (x.node j).fsm.index with
    | nil => exact absurd hh hne
    | cons a as => simp
  obtain ⟨_, m, hm, _, m2⟩ := covered_committed hI h1 hFB.le
  rw [hlen, lastTerm_take _ _ hFB.len]
  exact ⟨m, hm, m2⟩

theorem count_ups (d : String) : ∀ (L : List Entry),
    (ups L).count d = (L.filter (fun e => e.typ == etUpdate && e.data == d)).length := by
  intro L
  induction L with
  | nil => rfl
  | cons e es ih =>
    have hcons : ups (e :: es) = ups [e] ++ ups es := ups_append [e] es
    rw [hcons, List.count_append, ih, ups_single, List.filter_cons]
    by_cases h1 : e.typ = etUpdate
    · by_cases h2 : e.data = d
      · simp [h1, h2]; omega
      · simp [h1, h2]
    · simp [h1]

theorem filter_length_le_one {α : Type} (P : α → Bool) : ∀ (L : List α), L.Nodup →
    (∀ a ∈ L, ∀ b ∈ L, P a = true → P b = true → a = b) → (L.filter P).length ≤ 1 := by
  intro L
  induction L with
  | nil => intro _ _; simp
  | cons x xs ih =>
    intro hn hall
    have hn' := List.nodup_cons.mp hn
    have hxs := ih hn'.2 (fun a ha b hb => hall a (List.mem_cons_of_mem _ ha) b (List.mem_cons_of_mem _ hb))
    by_cases hx : P x = true
    · rw [List.filter_cons_of_pos hx]
      have : xs.filter P = [] := by
        apply List.filter_eq_nil_iff.mpr
        intro a ha hpa
        have := hall a (List.mem_cons_of_mem _ ha) x (List.mem_cons_self ..) hpa hx
        rw [this] at ha
        exact hn'.1 ha
      rw [this]; simp
    · rw [List.filter_cons_of_neg hx]; exact hxs

theorem contig_nodup {L : List Entry} (hc : Contig L) : L.Nodup := by
  rw [List.nodup_iff_pairwise_ne, List.pairwise_iff_getElem]
  intro a b ha hb hab he
  have h1 := hc a ha
  have h2 := hc b hb
  rw [he] at h1
  omega

/-- on a root path an update payload that belongs to a submission occurs at most once -/
theorem path_payload_once {x : Sys} (hcl : CL x) {s : Sub} (hs : s ∈ x.subs) (ht : s.typ = etUpdate)
    {L : List Entry} (hp : Path x.T L) : (ups L).count s.data ≤ 1 := by
  rw [count_ups]
  apply filter_length_le_one _ L (contig_nodup hp.2)
  intro a ha b hb hpa hpb
  simp only [Bool.and_eq_true, beq_iff_eq] at hpa hpb
  obtain ⟨ca, hca, ea⟩ := C04Sys.chain_mem hp.1 a ha
  obtain ⟨cb, hcb, eb⟩ := C04Sys.chain_mem hp.1 b hb
  have hcr : ca.cr = s.node := hcl.updCr s hs ht ca hca (by rw [ea]; exact hpa.1) (by rw [ea]; exact hpa.2)
  have := hcl.updUniq ca hca cb hcb (by rw [hcr]; exact hcl.subNode s hs) (by rw [ea]; exact hpa.1)
    (by rw [eb]; exact hpb.1) (by rw [ea, eb, hpa.2, hpb.2])
  rw [← ea, ← eb, this]

theorem run_mono {V : List Nat} {x y : Sys} (h : Run V x y) :
    (∀ s ∈ x.subs, s ∈ y.subs) ∧ (∀ a ∈ x.answers, a ∈ y.answers) ∧ (∀ c ∈ x.T, c ∈ y.T) ∧
    (∀ m ∈ x.c.committed, m ∈ y.c.committed) := by
  induction h with
  | refl => exact ⟨fun _ h => h, fun _ h => h, fun _ h => h, fun _ h => h⟩
  | next y z _ ht _ _ ih =>
    obtain ⟨i1, i2, i3, i4⟩ := ih
    cases ht with
    | step i op ra ord src he heG ho hen =>
      exact ⟨fun s hs => List.mem_append_right _ (i1 s hs), fun a ha => List.mem_append_right _ (i2 a ha),
        fun c hc => List.mem_append_right _ (i3 c hc), fun m hm => List.mem_append_right _ (i4 m hm)⟩
    | crash i op ra ord src k retain sor n he heG ho hn hen =>
      exact ⟨fun s hs => List.mem_append_right _ (i1 s hs), i2,
        fun c hc => List.mem_append_right _ (i3 c hc), i4⟩
    | send i q hi hl hr hc => exact ⟨i1, i2, i3, i4⟩

/-- a submission made after `x`: its update payload is not in the tree of `x` -/
theorem fresh_after {V : List Nat} {x y : Sys} (h : Run V x y) {s : Sub} (hs : s ∈ y.subs) (hn : s ∉ x.subs)
    (ht : s.typ = etUpdate) : ∀ c ∈ x.T, c.e.typ = etUpdate → c.e.data ≠ s.data := by
  induction h with
  | refl => exact absurd hs hn
  | next y z hxy htr _ _ ih =>
    have hm := (run_mono hxy).2.2.1
    have key : ∀ (i : Nat) (op : Op), EnabledC y i op → s ∈ subsOf i (y.node i) op ++ y.subs →
        ∀ c ∈ x.T, c.e.typ = etUpdate → c.e.data ≠ s.data := by
      intro i op hen hs' c hc hct
      rcases List.mem_append.mp hs' with hs' | hs'
      · cases op <;> try (cases hs')
        rename_i b _
        obtain ⟨q, hq, e⟩ := List.mem_map.mp hs'
        have hd : s.data ∈ opUpd (.newEntries b) := by
          rw [← e]
          rw [← e] at ht
          exact mem_updData_of hq ht
        exact hen.updTree _ hd c (hm c hc) hct
      · exact ih hs' c hc hct
    cases htr with
    | step i op ra ord src he heG ho hen => exact key i op hen hs
    | crash i op ra ord src k retain sor n he heG ho hn' hen => exact key i op hen hs
    | send i q hi hl hr hc => exact ih hs

/-- **C07 (1), a completed update took effect exactly once, at the reported position (partial: the restrictions and
assumptions of the file header).** Let `x` be a reachable state, `s` an update submitted to node `s.node` with task
id `s.task ≠ 0`, and `a` an answer of that node to that task with the value `val:<n>`. Then there is exactly one
record `c` in the tree of created entries that is an update entry with the payload of `s`; it was created by the node
`s` was submitted to; it is committed; `n ≥ 1`; on every node `j` whose commit index covers its index `k`, the log holds
the entry at `k` and `n` is the number of update entries among the log entries `1 … k`; every node that has applied
index `k` holds the payload at position `n` of its applied sequence (the one sequence of C03Sys); and no node's
applied sequence holds the payload twice. -/
theorem completed_update_took_effect_once_partial (V : List Nat) (hV : V.Nodup) (x : Sys) (h : Reachable V x)
    (s : Sub) (hs : s ∈ x.subs) (ht : s.typ = etUpdate) (h0 : s.task ≠ 0)
    (a : Ans) (ha : a ∈ x.answers) (han : a.node = s.node) (hat : a.task = s.task) (n : Nat)
    (hr : a.result = valStr n) :
    ∃ c ∈ x.T, c.cr = s.node ∧ c.e.typ = etUpdate ∧ c.e.data = s.data ∧
      (∀ c' ∈ x.T, c'.e.typ = etUpdate → c'.e.data = s.data → c' = c) ∧
      Committed x.c (key c) ∧ 1 ≤ n ∧
      (∀ j, c.e.index ≤ (x.node j).commitIndex →
        (x.node j).log.entries[c.e.index - 1]? = some c.e ∧
        n = (ups ((x.node j).log.entries.take c.e.index)).length) ∧
      (∀ j, c.e.index ≤ (x.node j).fsm.index → (x.node j).fsm.applied[n - 1]? = some s.data) ∧
      (∀ j, (x.node j).fsm.applied.count s.data ≤ 1) := by
  have hcl := cl_reachable hV h
  have hR := reachable_c h
  obtain ⟨hI, _⟩ := inv_reachable hV (reachableG_V hR)
  obtain ⟨s', hs', e1, e2, _, p, hp1, hp2, hp3, hp4, _⟩ := hcl.ansVal a ha n hr
  have hss : s' = s := hcl.subUniq s' hs' s hs (by rw [e1, han]) (by rw [e2, hat]) (by rw [e2, hat]; exact h0)
  subst hss
  obtain ⟨e, hlast, het, hed⟩ := hp4 ht
  have hne : p ≠ [] := by intro he; rw [he] at hlast; cases hlast
  have hl : 1 ≤ p.length := by
    cases p with
    | nil => exact absurd rfl hne
    | cons a as => simp
  have hh : Holds p p.length (lastTerm p) := ⟨hl, Nat.le_refl _, termAt_length _⟩
  obtain ⟨c, hc, ci, ct, cg⟩ := path_record hp1 hh
  have hce : c.e = e := by
    rw [List.getLast?_eq_getElem?] at hlast
    rw [hlast] at cg
    injection cg with cg; exact cg.symm
  have hcr : c.cr = s'.node := hcl.updCr s' hs ht c hc (by rw [hce]; exact het) (by rw [hce]; exact hed)
  have hkey : key c = (p.length, lastTerm p) := by unfold key; rw [ci, ct]
  -- the path splits into the entries before and the entry itself
  have hsplit : p = p.dropLast ++ [e] := by
    obtain ⟨ys, hys⟩ := List.getLast?_eq_some_iff.mp hlast
    rw [hys]; simp
  have hn1 : n = (ups p.dropLast).length + 1 := by
    rw [hp3, hsplit, ups_append, ups_single, if_pos het]
    simp
  have hagree : ∀ j, c.e.index ≤ (x.node j).commitIndex → (x.node j).log.entries.take c.e.index = p := by
    intro j hj
    rw [ci] at hj ⊢
    obtain ⟨hhj, m, hm, _, m2⟩ := covered_committed hI hl hj
    have := committed_unique hI ⟨m, hm, m2⟩ (hp2 hne) rfl
    have htm : termAt (x.node j).log.entries p.length = lastTerm p := congrArg Prod.snd this
    rw [htm] at hhj
    have hpre : p <+: (x.node j).log.entries :=
      prefix_of_agree (fun k hk1 hk2 => path_agree (uniq hI) hp1 (log_path hI j) hh hhj k hk1 hk2)
    exact (List.prefix_iff_eq_take.mp hpre).symm
  refine ⟨c, hc, hcr, by rw [hce]; exact het, by rw [hce]; exact hed, fun c' hc' h1 h2 => ?_, ?_, by omega,
    fun j hj => ?_, fun j hj => ?_, fun j => ?_⟩
  · exact (hcl.updUniq c hc c' hc' (by rw [hcr]; exact hcl.subNode s' hs) (by rw [hce]; exact het) h1
      (by rw [hce, hed, h2])).symm
  · rw [hkey]; exact hp2 hne
  · have hk := hagree j hj
    refine ⟨?_, by rw [hk]; exact hp3⟩
    have := congrArg (fun l => l[c.e.index - 1]?) hk
    simp only [List.getElem?_take] at this
    rw [if_pos (by rw [ci]; omega)] at this
    rw [this, ci]; exact cg
  · obtain ⟨_, _, happ⟩ := applied_path hV h j
    have hFB := (fsmInv_reachable hV (C19Sys.reachable_np_of_good V hV x.c hR) j).fsm
    have hk := hagree j (Nat.le_trans hj hFB.le)
    rw [happ, take_split _ _ _ hj, ups_append, hk, hsplit, ups_append, ups_single, if_pos het, hn1,
      Nat.add_sub_cancel, List.append_assoc, List.getElem?_append_right (Nat.le_refl _), Nat.sub_self, hed]
    rfl
  · obtain ⟨hpj, _, happ⟩ := applied_path hV h j
    rw [happ]
    exact path_payload_once hcl hs ht hpj

/-- a payload a node has applied is the payload of an update entry of the tree -/
theorem applied_in_tree {V : List Nat} (hV : V.Nodup) {x : Sys} (h : Reachable V x) (j : Nat) (d : String)
    (hd : d ∈ (x.node j).fsm.applied) : ∃ c ∈ x.T, c.e.typ = etUpdate ∧ c.e.data = d := by
  obtain ⟨hp, _, happ⟩ := applied_path hV h j
  rw [happ] at hd
  unfold ups at hd
  obtain ⟨e, he, hed⟩ := List.mem_map.mp hd
  obtain ⟨he1, he2⟩ := List.mem_filter.mp he
  obtain ⟨c, hc, hce⟩ := C04Sys.chain_mem hp.1 e he1
  exact ⟨c, hc, by rw [hce]; simpa using he2, by rw [hce]; exact hed⟩

/-- **C07 (2), an update that was rejected definitively never takes effect (partial; same assumptions).** The
definite rejections (`ClientRel.Definite`) are exactly the results the model gives on paths that store nothing:
`notLeader:<leader>:false` (the node is not leader and did not lose leadership while the entry was pending),
`inProgress:transferLeadership`, `inProgress:demoteLeader`, `inProgress:removeLeader`. Let `x` be reachable, `s` an
update submitted to node `s.node` and `a` an answer of that node to its task with a definite rejection. Then in `x`
and in every later state `y` of the run no record of the tree of created entries is an update entry with the payload
of `s` — it is in no node's log — and no node has applied the payload. -/
theorem rejected_update_never_takes_effect_partial (V : List Nat) (hV : V.Nodup) (x y : Sys) (h : Reachable V x)
    (hrun : Run V x y) (s : Sub) (hs : s ∈ x.subs) (ht : s.typ = etUpdate)
    (a : Ans) (ha : a ∈ x.answers) (han : a.node = s.node) (hat : a.task = s.task) (hd : Definite a.result) :
    (∀ c ∈ y.T, c.e.typ = etUpdate → c.e.data ≠ s.data) ∧
    (∀ j, ∀ e ∈ (y.node j).log.entries, e.typ = etUpdate → e.data ≠ s.data) ∧
    (∀ j, s.data ∉ (y.node j).fsm.applied) := by
  have hy := run_reachable h hrun
  have hcl := cl_reachable hV hy
  obtain ⟨m1, m2, _, _⟩ := run_mono hrun
  have key := hcl.ansDef a (m2 a ha) hd s (m1 s hs) han.symm hat.symm ht
  obtain ⟨hI, _⟩ := inv_reachable hV (reachableG_V (reachable_c hy))
  refine ⟨key, fun j e he het hed => ?_, fun j hj => ?_⟩
  · obtain ⟨c, hc, hce⟩ := C04Sys.chain_mem (log_path hI j).1 e he
    exact key c hc (by rw [hce]; exact het) (by rw [hce]; exact hed)
  · obtain ⟨c, hc, h1, h2⟩ := applied_in_tree hV hy j s.data hj
    exact key c hc h1 h2

/-- the results that count as definite rejections, spelled out -/
theorem definite_iff (r : String) : Definite r ↔
    ((∃ l : Nat, r = s!"notLeader:{l}:{false}") ∨ r = "inProgress:transferLeadership" ∨
      r = "inProgress:demoteLeader" ∨ r = "inProgress:removeLeader") := Iff.rfl

/-- **C07 (3), any submission takes effect at most once — whatever its answer, also without an answer (ambiguous
failures: `notLeader:<l>:true`, `plain:serverClosed`, a process that died) (partial; same assumptions).** For an
update `s` submitted in a reachable state `x`: the tree of created entries holds at most one update entry with its
payload (in whatever state, by whatever node it was stored: `C07.store_order` stamps every item of a batch once), that
record was created by the node `s` was submitted to, and the payload occurs at most once in any node's log and in any
node's applied sequence. -/
theorem ambiguous_update_at_most_once_partial (V : List Nat) (hV : V.Nodup) (x : Sys) (h : Reachable V x)
    (s : Sub) (hs : s ∈ x.subs) (ht : s.typ = etUpdate) :
    (∀ c ∈ x.T, ∀ c' ∈ x.T, c.e.typ = etUpdate → c'.e.typ = etUpdate → c.e.data = s.data → c'.e.data = s.data →
      c = c' ∧ c.cr = s.node) ∧
    (∀ j, (ups (x.node j).log.entries).count s.data ≤ 1) ∧
    (∀ j, (x.node j).fsm.applied.count s.data ≤ 1) := by
  have hcl := cl_reachable hV h
  obtain ⟨hI, _⟩ := inv_reachable hV (reachableG_V (reachable_c h))
  refine ⟨fun c hc c' hc' h1 h2 h3 h4 => ?_, fun j => path_payload_once hcl hs ht (log_path hI j), fun j => ?_⟩
  · have hcr := hcl.updCr s hs ht c hc h1 h3
    exact ⟨hcl.updUniq c hc c' hc' (by rw [hcr]; exact hcl.subNode s hs) h1 h2 (by rw [h3, h4]), hcr⟩
  · obtain ⟨hpj, _, happ⟩ := applied_path hV h j
    rw [happ]
    exact path_payload_once hcl hs ht hpj

/-- **C07 (4), real-time order (partial; same assumptions).** Let update `A` be answered `val:<a>` in the reachable
state `x`, and let update `B` be submitted (to any node) after `x` — `B` is not in the ledger of `x` — and answered
`val:<b>` in a later state `y` of the run. Then `a < b`: in the one applied sequence `A` precedes `B`. -/
theorem real_time_order_partial (V : List Nat) (hV : V.Nodup) (x y : Sys) (h : Reachable V x) (hrun : Run V x y)
    (sA : Sub) (hsA : sA ∈ x.subs) (htA : sA.typ = etUpdate) (h0A : sA.task ≠ 0)
    (aA : Ans) (haA : aA ∈ x.answers) (hnA : aA.node = sA.node) (htkA : aA.task = sA.task) (a : Nat)
    (hrA : aA.result = valStr a)
    (sB : Sub) (hsB : sB ∈ y.subs) (hnew : sB ∉ x.subs) (htB : sB.typ = etUpdate) (h0B : sB.task ≠ 0)
    (aB : Ans) (haB : aB ∈ y.answers) (hnB : aB.node = sB.node) (htkB : aB.task = sB.task) (b : Nat)
    (hrB : aB.result = valStr b) : a < b := by
  have hy := run_reachable h hrun
  have hclx := cl_reachable hV h
  have hcly := cl_reachable hV hy
  obtain ⟨m1, _, m3, m4⟩ := run_mono hrun
  obtain ⟨hIy, _⟩ := inv_reachable hV (reachableG_V (reachable_c hy))
  -- the path behind A's answer, in the tree of `x`
  obtain ⟨s1, hs1, e1, e2, _, pA, hpA⟩ := hclx.ansVal aA haA a hrA
  have hs1' : s1 = sA := hclx.subUniq s1 hs1 sA hsA (by rw [e1, hnA]) (by rw [e2, htkA]) (by rw [e2, htkA]; exact h0A)
  subst hs1'
  obtain ⟨s2, hs2, f1, f2, _, pB, hpB⟩ := hcly.ansVal aB haB b hrB
  have hs2' : s2 = sB := hcly.subUniq s2 hs2 sB hsB (by rw [f1, hnB]) (by rw [f2, htkB]) (by rw [f2, htkB]; exact h0B)
  subst hs2'
  obtain ⟨pA1y, pA2y, _, _, _⟩ := (ValPath.mono hpA m3 m4 : ValPath y s1 a pA)
  obtain ⟨pA1, _, pA3, pA4, _⟩ := hpA
  obtain ⟨pB1, pB2, pB3, pB4, _⟩ := hpB
  obtain ⟨eA, hlA, _, _⟩ := pA4 htA
  obtain ⟨eB, hlB, hBt, hBd⟩ := pB4 htB
  have hfresh := fresh_after hrun hsB hnew htB
  -- B's entry is not on A's path
  have hnot : eB ∉ pA := by
    intro hmem
    obtain ⟨c, hc, hce⟩ := C04Sys.chain_mem pA1.1 eB hmem
    exact hfresh c hc (by rw [hce]; exact hBt) (by rw [hce]; exact hBd)
  have hBmem : eB ∈ pB := List.mem_of_getLast? hlB
  rcases Nat.le_total pB.length pA.length with hle | hle
  · have hpre := committed_paths_comparable hIy pB1 pA1y pB2 pA2y hle
    exact absurd (hpre.subset hBmem) hnot
  · have hpre := committed_paths_comparable hIy pA1y pB1 pA2y pB2 hle
    obtain ⟨r, hr⟩ := hpre
    have hrne : r ≠ [] := by
      intro he
      rw [he, List.append_nil] at hr
      rw [hr] at hnot
      exact hnot hBmem
    have hlast : r.getLast? = some eB := by
      rw [← hr, List.getLast?_append] at hlB
      cases hrl : r.getLast? with
      | none => exact absurd (List.getLast?_eq_none_iff.mp hrl) hrne
      | some z => rw [hrl] at hlB; exact hlB
    have hmemr : eB ∈ r := List.mem_of_getLast? hlast
    have h1 : 1 ≤ (ups r).length := List.length_pos_of_mem (mem_ups hmemr hBt)
    rw [pA3, pB3, ← hr, ups_append, List.length_append]
    omega

/-- **C07 (5a), a value answer is the length of a committed prefix of the one applied sequence (partial; same
assumptions)** — for every value answer `val:<n>` of any node to any task (update, read, dirty read; leader or not):
the task is a submission to that node of a type that is answered with a value, and there is a root path `p` of the
tree whose last entry is committed such that `n` is the number of update entries on `p`. The update payloads on `p`
and the applied sequence of ANY node are prefix-comparable: the answer never exposes an update that is not committed,
and never a state that is not a state of the one sequential history. -/
theorem value_answer_is_committed_prefix_partial (V : List Nat) (hV : V.Nodup) (x : Sys) (h : Reachable V x)
    (a : Ans) (ha : a ∈ x.answers) (n : Nat) (hr : a.result = valStr n) :
    ∃ s ∈ x.subs, s.node = a.node ∧ s.task = a.task ∧ isValTyp s.typ ∧
      ∃ p, Path x.T p ∧ (p ≠ [] → Committed x.c (p.length, lastTerm p)) ∧ n = (ups p).length ∧
        ∀ j, ups p <+: (x.node j).fsm.applied ∨ (x.node j).fsm.applied <+: ups p := by
  have hcl := cl_reachable hV h
  obtain ⟨hI, _⟩ := inv_reachable hV (reachableG_V (reachable_c h))
  obtain ⟨s, hs, e1, e2, e3, p, hp1, hp2, hp3, _, _⟩ := hcl.ansVal a ha n hr
  refine ⟨s, hs, e1, e2, e3, p, hp1, hp2, hp3, fun j => ?_⟩
  obtain ⟨hpj, hcj, happ⟩ := applied_path hV h j
  rw [happ]
  rcases Nat.le_total p.length ((x.node j).log.entries.take (x.node j).fsm.index).length with hle | hle
  · exact Or.inl (ups_prefix (committed_paths_comparable hI hp1 hpj hp2 hcj hle))
  · exact Or.inr (ups_prefix (committed_paths_comparable hI hpj hp1 hcj hp2 hle))

/-- **C07 (5b), a read answered by a leader reflects everything that leader had accepted before (partial; same
assumptions).** What the model supports: the leader answers a read from its queue after every earlier accepted item
was applied (`C07.reply_only_after_commit`). Let read `s` (type `etRead`; also an update) be submitted to node
`s.node` when that node's last log entry had the coordinates `(s.lastIndex, s.lastTerm)` (ghost fields of the ledger),
and answered by that node with `val:<n>`. Then `n` counts the update entries on a committed root path that passes
through `(s.lastIndex, s.lastTerm)`: the answer reflects every entry the node held — every update it had accepted —
when the read was delivered. (NOT claimed, and false in the model: that it reflects updates completed by OTHER
leaders; a deposed leader whose log is completely committed answers reads without contacting anybody.) -/
theorem leader_read_reflects_accepted_partial (V : List Nat) (hV : V.Nodup) (x : Sys) (h : Reachable V x)
    (s : Sub) (hs : s ∈ x.subs) (ht : s.typ ≠ etDirtyRead) (h0 : s.task ≠ 0)
    (a : Ans) (ha : a ∈ x.answers) (han : a.node = s.node) (hat : a.task = s.task) (n : Nat)
    (hr : a.result = valStr n) :
    ∃ p, Path x.T p ∧ (p ≠ [] → Committed x.c (p.length, lastTerm p)) ∧ n = (ups p).length ∧
      s.lastIndex ≤ p.length ∧ (1 ≤ s.lastIndex → Holds p s.lastIndex s.lastTerm) := by
  have hcl := cl_reachable hV h
  obtain ⟨s', hs', e1, e2, _, p, hp1, hp2, hp3, _, hp5⟩ := hcl.ansVal a ha n hr
  have hss : s' = s := hcl.subUniq s' hs' s hs (by rw [e1, han]) (by rw [e2, hat]) (by rw [e2, hat]; exact h0)
  subst hss
  exact ⟨p, hp1, hp2, hp3, (hp5 ht).1, (hp5 ht).2⟩

/-- **C07 (5c), a dirty read — on any node, leader or not — returns a prefix of the committed applied sequence
(partial; same assumptions)**: the special case of `value_answer_is_committed_prefix_partial` (node-level:
`C07.dirty_read_sees_applied_only`). -/
theorem dirty_read_is_committed_prefix_partial (V : List Nat) (hV : V.Nodup) (x : Sys) (h : Reachable V x)
    (s : Sub) (_hs : s ∈ x.subs) (_ht : s.typ = etDirtyRead)
    (a : Ans) (ha : a ∈ x.answers) (_han : a.node = s.node) (_hat : a.task = s.task) (n : Nat)
    (hr : a.result = valStr n) :
    ∃ p, Path x.T p ∧ (p ≠ [] → Committed x.c (p.length, lastTerm p)) ∧ n = (ups p).length ∧
      ∀ j, ups p <+: (x.node j).fsm.applied ∨ (x.node j).fsm.applied <+: ups p := by
  obtain ⟨_, _, _, _, _, p, hp⟩ := value_answer_is_committed_prefix_partial V hV x h a ha n hr
  exact ⟨p, hp⟩

/-- **a task is answered at most once (partial; same assumptions)**: two answers of one node to one task id are
the same answer — so the value (or the rejection) a client got is the only result that task will ever get. -/
theorem answered_at_most_once_partial (V : List Nat) (hV : V.Nodup) (x : Sys) (h : Reachable V x)
    (a : Ans) (ha : a ∈ x.answers) (a' : Ans) (ha' : a' ∈ x.answers) (hn : a.node = a'.node)
    (ht : a.task = a'.task) : a = a' :=
  (cl_reachable hV h).ansOnce a ha a' ha' hn ht

/-! ### Examples (non-vacuity): three voters, every node bootstrapped with the same configuration entry (1,1) -/

/-- the initial state `C02Sys.ex0` with empty ledgers -/
def exS0 : Sys := { c := C02Sys.ex0, subs := [], tasks := [], answers := [] }

theorem exS0_init : Init exS0 :=
  ⟨C02Sys.ex0_init.1, C19Sys.ex0_ginv, rfl, rfl, rfl, fun i => ⟨C19Sys.ex0_tasks i, rfl⟩⟩

theorem exS0_reachable : Reachable [1, 2, 3] exS0 := .init _ exS0_init C02Sys.ex0_init.2 C19Sys.ex0_sideG

/-- a client batch with one update, payload "a", task 7 -/
def exBatch : List QItem := [{ typ := etUpdate, data := "a", task := 7 }]

/-- the side conditions after a step: only the acting node has to be looked at -/
theorem side_of_step {V : List Nat} (x : Sys) (i : Nat) (op : Op) (ra : List Nat) (ord : List (List Nat)) (src : Nat)
    (hs : SideV V x.c) (hg : SideG x.c) (hi : NodeSide V ((x.node i).step op ra ord)) :
    SideV V (stepS x i op ra ord src).c ∧ SideG (stepS x i op ra ord src).c :=
  side_iff.mpr (forall_setNode (P := fun _ m => NodeSide V m) hi (fun j _ => side_iff.mp ⟨hs, hg⟩ j))

/-- node 2 (a follower) is handed the batch -/
def exSA : Sys := stepS exS0 2 (.newEntries exBatch) [] [] 0

/-- a client batch with one dirty read, task 8 -/
def exDirty : List QItem := [{ typ := etDirtyRead, task := 8 }]

/-- node 3 (a follower) is handed the dirty read -/
def exSB : Sys := stepS exS0 3 (.newEntries exDirty) [] [] 0

/-- the leader puts a request on the wire -/
def sendS (x : Sys) (q : AppendReq) : Sys := { x with c := sendC x.c q }

/-- match-index reports of the two followers -/
def exUpd (v : Nat) : List ReplUpdate := [{ id := 2, upd := .matchIndex v }, { id := 3, upd := .matchIndex v }]

/-! ### a proved run: election, commit of the no-op, two updates answered

A commit step is rewritten to a form that does not sort (`replUpdates_step_alt`, Lemmas/ScriptNode.lean), with the
majority match index given and checked (`MajIs`). -/

/-- `stepS` with the post-state of the acting node as a parameter -/
def stepSW (x : Sys) (i : Nat) (op : Op) (post : Node) (src : Nat) : Sys :=
  { c := { rp := { el := { node := setNode x.c.rp.el.node i post
                           grants := Election.voteGrant i op post ++
                             (Election.selfGrant i (x.node i) post ++ x.c.rp.el.grants)
                           counted := Election.countedBy i (x.node i) op src ++ x.c.rp.el.counted
                           won := (if post.role = .leader then [(i, post.term)] else []) ++ x.c.rp.el.won }
                   sent := x.c.rp.sent
                   created := newCreated i (x.node i).log.entries post.log.entries op ++ x.c.rp.created }
           acks := ackOf i op post ++ (selfAck i op (x.node i) post ++ x.c.acks)
           camps := campOf i (x.node i) post ++ x.c.camps
           committed := newCommit op (x.node i) post ++ x.c.committed }
    subs := subsOf i (x.node i) op ++ x.subs
    tasks := tasksOf i op ++ x.tasks
    answers := answersOf i post ++ x.answers }

theorem stepS_eq (x : Sys) (i : Nat) (op : Op) (ra : List Nat) (ord : List (List Nat)) (src : Nat) :
    stepS x i op ra ord src = stepSW x i op ((x.node i).step op ra ord) src := rfl

def RS (V : List Nat) (x : Sys) : Prop := Reachable V x ∧ SideV V x.c ∧ SideG x.c

/-- no client-side obligation for an operation that brings neither a task nor a batch -/
theorem enabledC_plain (x : Sys) (i : Nat) (op : Op) (h1 : C15Tasks.submitted op = []) (h2 : opUpd op = []) :
    EnabledC x i op :=
  ⟨by rw [h1]; exact List.nodup_nil, fun t ht => (by rw [h1] at ht; cases ht), by rw [h2]; exact List.nodup_nil,
    fun d hd => (by rw [h2] at hd; cases hd), fun d hd => (by rw [h2] at hd; cases hd)⟩

theorem append_enabled (x : Sys) (i : Nat) (q : AppendReq) (hi : i ≠ 0) (hq : q ∈ x.c.rp.sent) (hsrc : q.src ≠ i) :
    Commit.Enabled x.c i (.append q) 0 ∧ EnabledG x.c i (.append q) ∧ EnabledC x i (.append q) :=
  and_assoc.mp ⟨enabled_iff.mpr ⟨hi, Or.inr hq, hsrc⟩, enabledC_plain _ _ _ rfl rfl⟩

theorem batch_enabled (x : Sys) (i : Nat) (b : List QItem) (hi : i ≠ 0) (hb : NoCfg b) (hc : EnabledC x i (.newEntries b)) :
    Commit.Enabled x.c i (.newEntries b) 0 ∧ EnabledG x.c i (.newEntries b) ∧ EnabledC x i (.newEntries b) :=
  and_assoc.mp ⟨enabled_iff.mpr ⟨hi, hb⟩, hc⟩

/-- the operations the transition systems put no constraint on: no request, result, batch or report comes with them -/
def plainOp : Op → Bool
  | .vote _ | .append _ | .voteResult _ _ _ | .newEntries _ | .changeConfig _ _ | .replUpdates _
  | .timeoutNowResult _ _ _ => false
  | _ => true

theorem plain_enabled (x : Sys) (i : Nat) (op : Op) (hi : i ≠ 0) (hp : plainOp op = true) (hok : OpOK op)
    (h8 : C15Tasks.submitted op = []) (h9 : opUpd op = []) :
    Commit.Enabled x.c i op 0 ∧ EnabledG x.c i op ∧ EnabledC x i op := by
  refine and_assoc.mp ⟨enabled_iff.mpr ⟨hi, ?_⟩, enabledC_plain _ _ _ h8 h9⟩
  -- for an operation that is not plain `hp` is absurd; of a plain one nothing is asked but `OpOK`
  cases op <;> first | (cases hp; done) | exact hok | trivial

/-- one match-index report `v` of follower `j` may be delivered to leader `i` when `j` has acknowledged an index
`≥ v` in `i`'s term -/
theorem upd1_enabled (x : Sys) (i j v : Nat) (hi : i ≠ 0) (a : Ack) (ha : a ∈ x.c.acks)
    (e : a.voter = j ∧ a.term = (x.node i).term ∧ v ≤ a.index) :
    Commit.Enabled x.c i (.replUpdates [{ id := j, upd := .matchIndex v }]) 0 ∧
    EnabledG x.c i (.replUpdates [{ id := j, upd := .matchIndex v }]) ∧
    EnabledC x i (.replUpdates [{ id := j, upd := .matchIndex v }]) := by
  refine and_assoc.mp ⟨enabled_iff.mpr ⟨hi, fun u hu => ?_⟩, enabledC_plain _ _ _ rfl rfl⟩
  rw [List.mem_singleton.mp hu]
  exact Or.inr ⟨a, ha, e⟩

def RB (V : List Nat) (b x : Sys) : Prop := RS V x ∧ Run V b x

theorem rb_step {V : List Nat} {b x : Sys} (hx : RB V b x) (i : Nat) (op : Op) (src : Nat)
    (hen : Commit.Enabled x.c i op src ∧ EnabledG x.c i op ∧ EnabledC x i op) (ho : (x.node i).closed = "")
    (hi : ((x.node i).step op [] []).configs.isBootstrapped = true ∧
      ((x.node i).step op [] []).configs.latest.voters = V ∧
      ((x.node i).step op [] []).configs.latest.isStable = true ∧ 1 ≤ ((x.node i).step op [] []).retain) :
    RB V b (stepS x i op [] [] src) := by
  have hside := side_of_step x i op [] [] src hx.1.2.1 hx.1.2.2 hi
  have ht : Trans x (stepS x i op [] [] src) := .step i op [] [] src hen.1 hen.2.1 ho hen.2.2
  exact ⟨⟨.next x _ hx.1.1 ht hside.1 hside.2, hside⟩, .next x _ hx.2 ht hside.1 hside.2⟩

theorem rb_send {V : List Nat} {b x : Sys} (hx : RB V b x) (i : Nat) (q : AppendReq) (hi : i ≠ 0)
    (hl : (x.node i).role = .leader) (hr : Replication.ReadFrom (x.node i) q)
    (hc : q.ldrCommitIndex ≤ (x.node i).commitIndex) : RB V b (sendS x q) :=
  have ht : Trans x (sendS x q) := .send i q hi hl hr hc
  ⟨⟨.next x _ hx.1.1 ht hx.1.2.1 hx.1.2.2, hx.1.2.1, hx.1.2.2⟩, .next x _ hx.2 ht hx.1.2.1 hx.1.2.2⟩

/-- the side conditions after a crash + restart: only the restarted node has to be looked at -/
theorem side_of_crash {V : List Nat} (x : Sys) (i : Nat) (op : Op) (n : Node)
    (hs : SideV V x.c) (hg : SideG x.c) (hi : NodeSide V n) :
    SideV V (crashS x i op n).c ∧ SideG (crashS x i op n).c :=
  side_iff.mpr (forall_setNode (P := fun _ m => NodeSide V m) hi (fun j _ => side_iff.mp ⟨hs, hg⟩ j))

theorem rb_crash {V : List Nat} {b x : Sys} (hx : RB V b x) (i : Nat) (op : Op) (src k : Nat) (n : Node)
    (hen : Commit.Enabled x.c i op src ∧ EnabledG x.c i op ∧ EnabledC x i op) (ho : (x.node i).closed = "" ∨ k = 0)
    (hn : Node.restart (C05.crashDisk (x.node i) op [] [] k) 1 true = some n) (hi : NodeSide V n) :
    RB V b (crashS x i op n) := by
  have hside := side_of_crash x i op n hx.1.2.1 hx.1.2.2 hi
  have ht : Trans x (crashS x i op n) := .crash i op [] [] src k 1 true n hen.1 hen.2.1 ho hn hen.2.2
  exact ⟨⟨.next x _ hx.1.1 ht hside.1 hside.2, hside⟩, .next x _ hx.2 ht hside.1 hside.2⟩

/-! ### witness runs as checked scripts (`Lemmas/Script.lean`)

An action of a script is a completed step, a commit step of a leader, a crash with restart, or a `send`; `Act.OK` is what
`Trans` and the side conditions ask of it, decidably: `EnabledAt` (`Lemmas/EnabledAt.lean`), `EnabledC`, and `NodeSide`
of the one node that moved. `rb_run` makes a script whose `Checked` evaluates to true a run of `C07Sys`. -/

instance (x : Sys) (i : Nat) (op : Op) : Decidable (EnabledC x i op) :=
  decidable_of_iff ((C15Tasks.submitted op).Nodup ∧ (∀ t ∈ C15Tasks.submitted op, (i, t) ∉ x.tasks) ∧
      (opUpd op).Nodup ∧ (∀ d ∈ opUpd op, ∀ s ∈ x.subs, s.typ = etUpdate → s.data ≠ d) ∧
      ∀ d ∈ opUpd op, ∀ c ∈ x.T, c.e.typ = etUpdate → c.e.data ≠ d)
    ⟨fun h => ⟨h.1, h.2.1, h.2.2.1, h.2.2.2.1, h.2.2.2.2⟩, fun h => ⟨h.1, h.2, h.3, h.4, h.5⟩⟩

inductive Act
  /-- node `i` handles `op` to completion (`src`: the sender a vote response is attributed to) -/
  | step (i : Nat) (op : Op) (src : Nat)
  /-- the leader `i` handles the reports `us`; `v` is the majority match index it computes -/
  | commit (i : Nat) (us : List ReplUpdate) (v : Nat)
  /-- node `i` dies while handling `op`, after `k` storage points, and restarts (options: retain 1, shutdown on remove) -/
  | crash (i : Nat) (op : Op) (src k : Nat)
  /-- the leader `i` puts `q` on the wire; it carries `n` entries (`next` reads `q` only; `i` and `n` are for `OK`) -/
  | send (i : Nat) (q : AppendReq) (n : Nat)

def Act.next (x : Sys) : Act → Sys
  | .step i op src => stepS x i op [] [] src
  | .commit i us v => stepSW x i (.replUpdates us) (altPost (x.node i) us v) 0
  | .crash i op _ k => crashS x i op (rebornOf (x.node i) op k)
  | .send _ q _ => sendS x q

def Act.OK (V : List Nat) (x : Sys) : Act → Prop
  | .step i op src => i ≠ 0 ∧ EnabledAt x.c i src op ∧ EnabledC x i op ∧ (x.node i).closed = "" ∧
      NodeSide V ((x.node i).step op [] [])
  | .commit i us v => i ≠ 0 ∧ EnabledAt x.c i 0 (.replUpdates us) ∧ (x.node i).closed = "" ∧
      (x.node i).role = .leader ∧ MajIs (replUpdLoop ((x.node i).begin [] []) {} us).1 v ∧
      NodeSide V (altPost (x.node i) us v)
  | .crash i op src k => i ≠ 0 ∧ EnabledAt x.c i src op ∧ EnabledC x i op ∧ ((x.node i).closed = "" ∨ k = 0) ∧
      (Node.restart (C05.crashDisk (x.node i) op [] [] k) 1 true).isSome = true ∧ NodeSide V (rebornOf (x.node i) op k)
  | .send i q n => i ≠ 0 ∧ SendOK (x.node i) q n

instance (V : List Nat) (x : Sys) (a : Act) : Decidable (a.OK V x) := by
  cases a <;> unfold Act.OK <;> infer_instance

theorem rb_act {V : List Nat} {b x : Sys} (hx : RB V b x) (a : Act) (h : a.OK V x) : RB V b (a.next x) := by
  cases a with
  | step i op src =>
    have he := enabled_iff.mpr ⟨h.1, h.2.1⟩
    exact rb_step hx i op src ⟨he.1, he.2, h.2.2.1⟩ h.2.2.2.1 h.2.2.2.2
  | commit i us v =>
    have he := enabled_iff.mpr ⟨h.1, h.2.1⟩
    have e := replUpdates_step_alt (x.node i) us v h.2.2.2.1 (majIs_sound h.2.2.2.2.1)
    have := rb_step hx i (.replUpdates us) 0 ⟨he.1, he.2, enabledC_plain _ _ _ rfl rfl⟩ h.2.2.1
      (by rw [e]; exact h.2.2.2.2.2)
    rw [stepS_eq, e] at this
    exact this
  | crash i op src k =>
    have he := enabled_iff.mpr ⟨h.1, h.2.1⟩
    exact rb_crash hx i op src k _ ⟨he.1, he.2, h.2.2.1⟩ h.2.2.2.1 (restart_getD h.2.2.2.2.1) h.2.2.2.2.2
  | send i q n =>
    have hf := send_facts (x.node i) q n h.2
    exact rb_send hx i q h.1 hf.1 hf.2.1 hf.2.2

abbrev Checked (V : List Nat) (x : Sys) (as : List Act) : Prop :=
  Script.Checked (fun x a => Act.next x a) (fun x a => Act.OK V x a) x as

abbrev run (x : Sys) (as : List Act) : Sys := Script.run (fun x a => Act.next x a) x as

/-- **a checked script is a run of `C07Sys`** (hence of every system below it) -/
theorem rb_run {V : List Nat} {b x : Sys} (as : List Act) (hx : RB V b x) (h : Checked V x as) :
    RB V b (run x as) :=
  Script.sound (Inv := RB V b) (fun _ a hx h => rb_act hx a h) as hx h

theorem rs_run {V : List Nat} {x : Sys} (hx : RS V x) (as : List Act) (h : Checked V x as) : RS V (run x as) :=
  (rb_run as ⟨hx, .refl⟩ h).1

theorem rs0 : RS [1, 2, 3] exS0 := ⟨exS0_reachable, C02Sys.ex0_init.2, C19Sys.ex0_sideG⟩

theorem exSA_reachable : Reachable [1, 2, 3] exSA :=
  (rs_run rs0 [.step 2 (.newEntries exBatch) 0] (by decide +kernel)).1

set_option maxRecDepth 100000 in
/-- EXAMPLE (hypotheses of `rejected_update_never_takes_effect_partial` and `ambiguous_update_at_most_once_partial`):
in the reachable state `exSA` the ledger holds the update submitted to node 2 and node 2's definite rejection -/
example : [1, 2, 3].Nodup ∧ Reachable [1, 2, 3] exSA ∧ Run [1, 2, 3] exSA exSA ∧
    (⟨2, 7, etUpdate, "a", 1, 1⟩ : Sub) ∈ exSA.subs ∧
    (⟨2, 7, notLeaderStr 0 false⟩ : Ans) ∈ exSA.answers ∧ Definite (notLeaderStr 0 false) :=
  ⟨by decide, exSA_reachable, .refl, by decide, by decide, definite_notLeader_false 0⟩

set_option maxRecDepth 100000 in
/-- EXAMPLE: `rejected_update_never_takes_effect_partial` applied to the update rejected by node 2 in `exSA` -/
example : ∀ j, "a" ∉ (exSA.node j).fsm.applied :=
  (rejected_update_never_takes_effect_partial [1, 2, 3] (by decide) exSA exSA exSA_reachable .refl
    ⟨2, 7, etUpdate, "a", 1, 1⟩ (by decide) rfl ⟨2, 7, notLeaderStr 0 false⟩ (by decide) rfl rfl
    (definite_notLeader_false 0)).2.2

theorem exSB_reachable : Reachable [1, 2, 3] exSB :=
  (rs_run rs0 [.step 3 (.newEntries exDirty) 0] (by decide +kernel)).1

set_option maxRecDepth 100000 in
/-- EXAMPLE (hypotheses of `value_answer_is_committed_prefix_partial`, `dirty_read_is_committed_prefix_partial`,
`answered_at_most_once_partial`): in the reachable state `exSB` the ledger holds the dirty read submitted to the
follower 3 and its answer `val:0` -/
example : Reachable [1, 2, 3] exSB ∧ (⟨3, 8, etDirtyRead, "", 1, 1⟩ : Sub) ∈ exSB.subs ∧
    (⟨3, 8, valStr 0⟩ : Ans) ∈ exSB.answers :=
  ⟨exSB_reachable, by decide, by decide⟩

def exVote : VoteReq := { term := 2, src := 1, lastLogIndex := 1, lastLogTerm := 1 }
def zs1 : Sys := stepS exS0 1 .timeout [] [] 0
def zs2 : Sys := stepS zs1 2 (.vote exVote) [] [] 0
def zs3 : Sys := stepS zs2 1 (.voteResult false 2 rSuccess) [] [] 2
def zs4 : Sys := sendS zs3 C02Sys.exReq
def zs5 : Sys := stepS zs4 2 (.append C02Sys.exReq) [] [] 0
def zs6 : Sys := stepS zs5 3 (.append C02Sys.exReq) [] [] 0

/-- the leader commits its no-op (index 2) -/
def zs7 : Sys := stepSW zs6 1 (.replUpdates (exUpd 2)) (altPost (zs6.node 1) (exUpd 2) 2) 0

/-- the leader is handed the batch: update "a", task 7 -/
def zs8 : Sys := stepS zs7 1 (.newEntries exBatch) [] [] 0

/-- the request carrying the update -/
def zReq2 : AppendReq :=
  { term := 2, src := 1, prevLogIndex := 2, prevLogTerm := 2, ldrCommitIndex := 2,
    entries := (zs8.node 1).log.entries.drop 2 }

def zs8s : Sys := sendS zs8 zReq2
def zs9a : Sys := stepS zs8s 2 (.append zReq2) [] [] 0
def zs9 : Sys := stepS zs9a 3 (.append zReq2) [] [] 0

/-- the leader learns the acknowledgements, commits index 3, applies the update and answers task 7 -/
def zs10 : Sys := stepSW zs9 1 (.replUpdates (exUpd 3)) (altPost (zs9.node 1) (exUpd 3) 3) 0

/-- the run `exS0 → zs10` as a script: `run exS0 scriptZ` unfolds to `zs10`, which is why `rs_run rs0 scriptZ …` has the
type `RS … zs10` below (the states `zs1 … zs10` are written out because the examples name them) -/
def scriptZ : List Act :=
  [.step 1 .timeout 0, .step 2 (.vote exVote) 0, .step 1 (.voteResult false 2 rSuccess) 2, .send 1 C02Sys.exReq 1,
   .step 2 (.append C02Sys.exReq) 0, .step 3 (.append C02Sys.exReq) 0, .commit 1 (exUpd 2) 2,
   .step 1 (.newEntries exBatch) 0, .send 1 zReq2 1, .step 2 (.append zReq2) 0, .step 3 (.append zReq2) 0,
   .commit 1 (exUpd 3) 3]

theorem rs10 : RS [1, 2, 3] zs10 := rs_run rs0 scriptZ (by decide +kernel)

set_option maxRecDepth 100000 in
/-- EXAMPLE (hypotheses of `completed_update_took_effect_once_partial`, `leader_read_reflects_accepted_partial`,
`value_answer_is_committed_prefix_partial`): the state `zs10` is reachable (proved: election of node 1, commit of its
no-op, the update "a" accepted, replicated, committed, applied); its ledger holds the update "a" submitted to node 1
with task 7 when node 1's last log entry was (2, 2), and node 1's answer `val:1` -/
example : [1, 2, 3].Nodup ∧ Reachable [1, 2, 3] zs10 ∧ (⟨1, 7, etUpdate, "a", 2, 2⟩ : Sub) ∈ zs10.subs ∧
    (⟨1, 7, valStr 1⟩ : Ans) ∈ zs10.answers :=
  ⟨by decide, rs10.1, by decide +kernel, by decide +kernel⟩

/-- the leader is handed a second batch: the update "b" (task 9) followed by a read (task 10) -/
def exBatch2 : List QItem := [{ typ := etUpdate, data := "b", task := 9 }, { typ := etRead, task := 10 }]

def zs11 : Sys := stepS zs10 1 (.newEntries exBatch2) [] [] 0
def zReq3 : AppendReq :=
  { term := 2, src := 1, prevLogIndex := 3, prevLogTerm := 2, ldrCommitIndex := 3,
    entries := (zs11.node 1).log.entries.drop 3 }
def zs11s : Sys := sendS zs11 zReq3
def zs12a : Sys := stepS zs11s 2 (.append zReq3) [] [] 0
def zs12 : Sys := stepS zs12a 3 (.append zReq3) [] [] 0
def zs13 : Sys := stepSW zs12 1 (.replUpdates (exUpd 4)) (altPost (zs12.node 1) (exUpd 4) 4) 0

theorem rb10 : RB [1, 2, 3] zs10 zs10 := ⟨rs10, .refl⟩

theorem rb13 : RB [1, 2, 3] zs10 zs13 :=
  rb_run [.step 1 (.newEntries exBatch2) 0, .send 1 zReq3 1, .step 2 (.append zReq3) 0, .step 3 (.append zReq3) 0,
    .commit 1 (exUpd 4) 4] rb10 (by decide +kernel)

set_option maxRecDepth 100000 in
/-- EXAMPLE (hypotheses of `real_time_order_partial`; also of `leader_read_reflects_accepted_partial` for a read): the
update "a" is answered `val:1` in the reachable state `zs10`; the update "b" and a read are submitted after `zs10` and
answered `val:2` in the later state `zs13` of a (proved) run -/
example : Reachable [1, 2, 3] zs10 ∧ Run [1, 2, 3] zs10 zs13 ∧
    (⟨1, 7, etUpdate, "a", 2, 2⟩ : Sub) ∈ zs10.subs ∧ (⟨1, 7, valStr 1⟩ : Ans) ∈ zs10.answers ∧
    (⟨1, 9, etUpdate, "b", 3, 2⟩ : Sub) ∈ zs13.subs ∧ (⟨1, 9, etUpdate, "b", 3, 2⟩ : Sub) ∉ zs10.subs ∧
    (⟨1, 9, valStr 2⟩ : Ans) ∈ zs13.answers ∧
    (⟨1, 10, etRead, "", 3, 2⟩ : Sub) ∈ zs13.subs ∧ (⟨1, 10, valStr 2⟩ : Ans) ∈ zs13.answers :=
  ⟨rs10.1, rb13.2, by decide +kernel, by decide +kernel, by decide +kernel, by decide +kernel, by decide +kernel,
    by decide +kernel, by decide +kernel⟩

set_option maxRecDepth 100000 in
/-- EXAMPLE: `completed_update_took_effect_once_partial` applied to the update "a" in `zs10` -/
example : ∃ c ∈ zs10.T, c.cr = 1 ∧ c.e.typ = etUpdate ∧ c.e.data = "a" ∧ Committed zs10.c (key c) := by
  obtain ⟨c, hc, h1, h2, h3, _, h5, _⟩ := completed_update_took_effect_once_partial [1, 2, 3] (by decide) zs10 rs10.1
    ⟨1, 7, etUpdate, "a", 2, 2⟩ (by decide +kernel) rfl (by decide) ⟨1, 7, valStr 1⟩ (by decide +kernel) rfl rfl 1 rfl
  exact ⟨c, hc, h1, h2, h3, h5⟩

set_option maxRecDepth 100000 in
/-- EXAMPLE: `real_time_order_partial` applied to the updates "a" (answered in `zs10`) and "b" (submitted after `zs10`,
answered in `zs13`) -/
example : (1 : Nat) < 2 :=
  real_time_order_partial [1, 2, 3] (by decide) zs10 zs13 rs10.1 rb13.2
    ⟨1, 7, etUpdate, "a", 2, 2⟩ (by decide +kernel) rfl (by decide) ⟨1, 7, valStr 1⟩ (by decide +kernel) rfl rfl 1 rfl
    ⟨1, 9, etUpdate, "b", 3, 2⟩ (by decide +kernel) (by decide +kernel) rfl (by decide)
    ⟨1, 9, valStr 2⟩ (by decide +kernel) rfl rfl 2 rfl

set_option maxRecDepth 100000 in
/-- EXAMPLE: `leader_read_reflects_accepted_partial` applied to the read of `zs13` (delivered when node 1's last entry
was (3, 2): the answer counts the updates on a committed path through (3, 2)) -/
example : ∃ p, Path zs13.T p ∧ 2 = (ups p).length ∧ 3 ≤ p.length ∧ Holds p 3 2 := by
  obtain ⟨p, h1, _, h3, h4, h5⟩ := leader_read_reflects_accepted_partial [1, 2, 3] (by decide) zs13
    (run_reachable rs10.1 rb13.2) ⟨1, 10, etRead, "", 3, 2⟩ (by decide +kernel) (by decide) (by decide)
    ⟨1, 10, valStr 2⟩ (by decide +kernel) rfl rfl 2 rfl
  exact ⟨p, h1, h3, h4, h5 (by decide)⟩

-- evaluation of the conclusions in the two states
#guard zs10.T.map (fun c => (c.e.index, c.e.term, c.e.typ, c.e.data, c.cr)) ==
  [(3, 2, etUpdate, "a", 1), (2, 2, etNop, "", 1), (1, 1, etConfig, "", 0)]
#guard (zs10.node 1).fsm.applied == ["a"] && zs10.c.committed == [(3, 2), (2, 2)]
#guard zs13.answers == [⟨1, 9, "val:2"⟩, ⟨1, 10, "val:2"⟩, ⟨1, 7, "val:1"⟩]
#guard (zs13.node 1).fsm.applied == ["a", "b"] && (zs13.node 1).panicked.isNone

/-! ### a proved counterexample: a read answered by a deposed leader is stale -/

def exVote3 : VoteReq := { term := 3, src := 2, lastLogIndex := 3, lastLogTerm := 2 }
def ws0 : Sys := stepS zs10 3 (.disconnected 1) [] [] 0
def ws1 : Sys := stepS ws0 2 .timeout [] [] 0
def ws2 : Sys := stepS ws1 3 (.vote exVote3) [] [] 0
def ws3 : Sys := stepS ws2 2 (.voteResult false 3 rSuccess) [] [] 3
def wReqN : AppendReq :=
  { term := 3, src := 2, prevLogIndex := 3, prevLogTerm := 2, ldrCommitIndex := 2,
    entries := (ws3.node 2).log.entries.drop 3 }
def ws3s : Sys := sendS ws3 wReqN
def ws4 : Sys := stepS ws3s 3 (.append wReqN) [] [] 0

/-- the new leader 2 commits its no-op (index 4) -/
def ws5 : Sys := stepSW ws4 2 (.replUpdates [{ id := 3, upd := .matchIndex 4 }])
  (altPost (ws4.node 2) [{ id := 3, upd := .matchIndex 4 }] 4) 0

/-- the update "c" (task 20) is submitted to the new leader 2 -/
def exBatchC : List QItem := [{ typ := etUpdate, data := "c", task := 20 }]

def ws6 : Sys := stepS ws5 2 (.newEntries exBatchC) [] [] 0
def wReqC : AppendReq :=
  { term := 3, src := 2, prevLogIndex := 4, prevLogTerm := 3, ldrCommitIndex := 4,
    entries := (ws6.node 2).log.entries.drop 4 }
def ws6s : Sys := sendS ws6 wReqC
def ws7 : Sys := stepS ws6s 3 (.append wReqC) [] [] 0
def ws8 : Sys := stepSW ws7 2 (.replUpdates [{ id := 3, upd := .matchIndex 5 }])
  (altPost (ws7.node 2) [{ id := 3, upd := .matchIndex 5 }] 5) 0

theorem rw8 : RS [1, 2, 3] ws8 :=
  rs_run rs10 [.step 3 (.disconnected 1) 0, .step 2 .timeout 0, .step 3 (.vote exVote3) 0,
    .step 2 (.voteResult false 3 rSuccess) 3, .send 2 wReqN 1, .step 3 (.append wReqN) 0,
    .commit 2 [{ id := 3, upd := .matchIndex 4 }] 4, .step 2 (.newEntries exBatchC) 0, .send 2 wReqC 1,
    .step 3 (.append wReqC) 0, .commit 2 [{ id := 3, upd := .matchIndex 5 }] 5] (by decide +kernel)

/-- node 1 — cut off, still leader of term 2 — is handed a read (task 30) -/
def exBatchR : List QItem := [{ typ := etRead, task := 30 }]

def ws9 : Sys := stepS ws8 1 (.newEntries exBatchR) [] [] 0

theorem rw9 : RB [1, 2, 3] ws8 ws9 := rb_run [.step 1 (.newEntries exBatchR) 0] ⟨rw8, .refl⟩ (by decide +kernel)

/-- **COUNTEREXAMPLE (proved): reads are not linearizable across leaders.** There are a reachable state `ws8` and a
later state `ws9` of a run such that: in `ws8` the update "c", submitted to node 2, has been answered `val:2` by node 2
(leader of term 3); a read is submitted AFTER `ws8` — to node 1, which is still leader of term 2, has applied only the
update "a", and holds nothing uncommitted — and is answered `val:1` in `ws9`: the answer does not reflect the completed
update "c". (No assertion fails; every step is an enabled step of the restricted system.) So the analogue of
`real_time_order_partial` for reads is FALSE in the model; the Go code serves `ReadFSM` the same way. -/
theorem stale_read_by_deposed_leader :
    Reachable [1, 2, 3] ws8 ∧ Run [1, 2, 3] ws8 ws9 ∧
    (⟨2, 20, etUpdate, "c", 4, 3⟩ : Sub) ∈ ws8.subs ∧ (⟨2, 20, valStr 2⟩ : Ans) ∈ ws8.answers ∧
    (⟨1, 30, etRead, "", 3, 2⟩ : Sub) ∈ ws9.subs ∧ (⟨1, 30, etRead, "", 3, 2⟩ : Sub) ∉ ws8.subs ∧
    (⟨1, 30, valStr 1⟩ : Ans) ∈ ws9.answers ∧
    (ws8.node 1).role = .leader ∧ (ws8.node 2).role = .leader ∧ (ws8.node 1).term < (ws8.node 2).term :=
  ⟨rw8.1, rw9.2, by decide +kernel, by decide +kernel, by decide +kernel, by decide +kernel, by decide +kernel,
    by decide +kernel, by decide +kernel, by decide +kernel⟩

end C07Sys
end Raft

#print axioms Raft.C07Sys.cl_reachable
#print axioms Raft.C07Sys.completed_update_took_effect_once_partial
#print axioms Raft.C07Sys.rejected_update_never_takes_effect_partial
#print axioms Raft.C07Sys.ambiguous_update_at_most_once_partial
#print axioms Raft.C07Sys.real_time_order_partial
#print axioms Raft.C07Sys.value_answer_is_committed_prefix_partial
#print axioms Raft.C07Sys.leader_read_reflects_accepted_partial
#print axioms Raft.C07Sys.dirty_read_is_committed_prefix_partial
#print axioms Raft.C07Sys.answered_at_most_once_partial
#print axioms Raft.C07Sys.stale_read_by_deposed_leader
#print axioms Raft.ClientRel.client_step
#print axioms Raft.ClientRel.append_step_replies
