/-
C06 — acknowledged entries are durable on a majority of the voters — on the cluster-level systems WITH SNAPSHOTS
(`Raft.Snap3`, Sys/Snap3.lean: local snapshots, log compaction, installation of snapshots, crashes at every storage point
of every handler incl. the install handler; `Raft.Snap4`, Sys/Snap4.lean: the same without the premise `TermTracked`, with
the side conditions `Side4`).  The theorems are stated for the runs of `Raft.Snap4` (every run of it is a run of
`Raft.Snap3`: `C09Sys3.tracked_runs_partial`).

With snapshots a committed entry may LEAVE a voter's log: compaction removes it (it is then covered by the voter's newest
snapshot FILE, which is durable — `snap.publish` is a storage point), and a lagging voter may receive it only inside an
installed snapshot.  So "durably held" becomes "DURABLY COVERED" (`DurableSnap.Covers`, `KeepsS`, `DurablyCovered`): the
flushed part of the log on disk answers every index `log.prev < k' ≤ k` with the committed entry, and every index
`≤ log.prev` is at or below the index of the newest snapshot file on disk — which is the replay of the committed prefix
(`DurableSnap.SnapBacked`, from `C09Sys3.snapshot_is_committed_prefix_partial`).

Theorems:
* `commit_durable_on_majority_snap_partial` — for every index `k` within ANY node's commit index (and for every entry of
  the ledger `committed`) there is ONE duplicate-free majority `Q` of the voters whose members durably cover `1 … k` in
  that state, in EVERY later state of the run, in the disk image of every crash transition of the system taken from those
  states (the storage points of the install handler and of `onSnapshotTaken` / compaction included) and after the restart;
* `no_loss_under_minority_crash_snap_partial` — crash any set of nodes: the same majority still covers, every majority of
  voters contains a node that does, and every later leader holds the entries in log or snapshot (leader completeness on
  the virtual log);
* `install_ack_after_publish` (node level) — a follower that answers `success` to an install request has published the
  received snapshot file before: the storage points are `snap.publish`, `snap.retain`, `clearLog` in this order, at every
  crash point the disk holds either the old log AND old files or the received file as the newest one, and the reply exists
  only in the completed step;  `install_ack_covers_sys_partial` — the cluster-level consequence.
Restrictions (`_partial`): those of `Raft.Snap4` (fixed voter set `V`, fixed stable configuration, no forged requests, no
`shutdown`, replication updates report no compaction, completed steps do not panic, `Side4` in every state) and, for the
crash clauses, those of its crash transitions (`DurableSnap.CrashAt` = `RestartSys.CrashOf`: `Snap3.NoCut`, the log on disk
is not stale unless the disk holds a newly received snapshot file; the state after the restart satisfies `Side4`).
-/
import RaftVerif.Lemmas.DurableSnapB

namespace Raft
namespace C06Snap
open Node Election LogRel Replication CommitRel Commit C02Sys C03Sys SnapRel SnapRelU SnapSim Snap Snap2 SnapInv SnapInv2
open SnapInst Snap3 SnapInst3 Snap4 SnapInst4 RestartSys DurableRel DurableSnap
open C06Sys (Majority)

section
variable {V : List Nat}

/-- **C06 with snapshots — every committed index is durably covered by a majority of the voters, now, in every later
state, whenever a member dies, and after every restart (partial: see the file header).** Let `V` be duplicate free and `x`
a state reachable in `Raft.Snap4` (any schedule; message delay, loss, duplication, reordering; snapshots taken, logs
compacted, snapshots sent and installed at any time; crashes at any storage point and restarts).
1. For every node `j` and every index `1 ≤ k ≤ commitIndex(j)` (leader or follower; the commit index may come from an
   installed snapshot) there is a duplicate-free majority `Q` of `V` such that in `x` and in EVERY later state `y` of the
   run every `v ∈ Q` DURABLY COVERS the entries `1 … k` of `j`'s virtual log in `x` (`DurablyCovered V y v (x.vlog j) k`):
   * `k ≤ log.flushed`; `v`'s virtual log agrees with `x.vlog j` at every index `1 ≤ k' ≤ k`;
   * the flushed part of `v`'s log on disk returns, for EVERY `log.prev < k' ≤ k`, the very entry `j` held at `k'`, and
     `log.prev ≤ snapIndex` = the index of the newest snapshot file on `v`'s disk; so (`Covers.cases`) EITHER the log on
     disk holds entry `k` and all entries between `log.prev` and `k`, flushed, OR the newest snapshot file has index `≥ k`;
   * every snapshot file on `v`'s disk is the replay of a prefix of `v`'s virtual log all of whose entries are committed,
     and of the virtual log of every node whose commit index covers it (`SnapBacked`; also C09);
   * for every crash transition of `v` from `y` (`CrashAt y v d n y'`: `v` dies at ANY storage point of an enabled operation
     of stage 2 — `snapRun`, `snapTaken` / compaction, append, … — or of the install handler — `value.set`, `snap.publish`,
     `snap.retain`, `clearLog` — leaving the disk `d`, and restarts as `n`; `Side4 V y'`): the disk image `d` covers
     `1 … k` with the log `openStorage` works with — `d.log` itself if it is not stale; if it is (the F18 window) the
     newest snapshot file on `d` has index `≥ k` —, the restarted node `n` has `k ≤ n.log.flushed` and covers them, and `v`
     keeps them in `y'`.
2. For every entry `m` of the ledger `committed` (recorded when a LEADER's commit index reaches it) there are a root path
   `ref` of the tree of created entries of length `m.1` ending with `m` and such a majority for `ref`, `m.1`. -/
theorem commit_durable_on_majority_snap_partial (hV : V.Nodup) (x : Snap3.Sys) (hx : Reachable4 V x) :
    (∀ j k, 1 ≤ k → k ≤ (x.node j).commitIndex → ((x.vlog j)[k - 1]?).isSome = true ∧
      ∃ Q, Majority V Q ∧ ∀ y, Run4 V x y → ∀ v ∈ Q, DurablyCovered V y v (x.vlog j) k) ∧
    (∀ m ∈ x.s2.cs.committed, ∃ ref, ref.length = m.1 ∧ Holds ref m.1 m.2 ∧ Path x.s2.cs.T ref ∧
      ∃ Q, Majority V Q ∧ ∀ y, Run4 V x y → ∀ v ∈ Q, DurablyCovered V y v ref m.1) := by
  refine ⟨fun j k hk hkc => ?_, fun m hm => ?_⟩
  · obtain ⟨m, Q, _, hs⟩ := sit_of_commit hV hx hk hkc
    refine ⟨?_, Q, C06Sys.AckQuorum.majority hs.hQ, fun y hrun v hv => covered_later hV hs hrun hv⟩
    have : k - 1 < (x.vlog j).length := by have := hs.hh.2.1; omega
    rw [List.getElem?_eq_getElem this]; rfl
  · obtain ⟨Q, ref, hlen, hs⟩ := sit_of_ledger hV hx hm
    exact ⟨ref, hlen, hs.hh, hs.hp, Q, C06Sys.AckQuorum.majority hs.hQ, fun y hrun v hv => covered_later hV hs hrun hv⟩

/-- **the two cases of C06, spelled out.** A node that durably covers `1 … k` (`DurablyCovered`, the conclusion of the
theorem above) EITHER holds entry `k` — the very entry of the reference sequence — in the flushed part of its log on disk,
together with all entries between `log.prev` and `k`, OR the newest snapshot file on its disk has an index `≥ k`, and that
file is the replay of the first `index` entries of the node's virtual log (which agrees with the reference sequence up to
`k`), every one of them committed. -/
theorem covered_by_log_or_snapshot {y : Snap3.Sys} {v : Nat} {ref : List Entry} {k : Nat}
    (h : DurablyCovered V y v ref k) (hk : 1 ≤ k) :
    ((y.node v).log.prev < k ∧ k ≤ (y.node v).log.flushed ∧
      (∃ e, (y.node v).durable.log.get? k = some e ∧ ref[k - 1]? = some e) ∧
      ∀ k', (y.node v).log.prev < k' → k' ≤ k → (y.node v).durable.log.get? k' = ref[k' - 1]?) ∨
    (k ≤ (headOf (y.node v).durable.snaps).index ∧ headOf (y.node v).durable.snaps ∈ (y.node v).durable.snaps ∧
      (headOf (y.node v).durable.snaps).data =
        ups ((y.vlog v).take (headOf (y.node v).durable.snaps).index) ∧
      (∀ k', 1 ≤ k' → k' ≤ (headOf (y.node v).durable.snaps).index → Committed (view3 y).cs (k', termAt (y.vlog v) k')) ∧
      ∀ k', 1 ≤ k' → k' ≤ k → (y.vlog v)[k' - 1]? = ref[k' - 1]?) := by
  rcases h.keeps.disk.cases with ⟨h1, e, h2, h3⟩ | h1
  · exact Or.inl ⟨h1, h.keeps.flushed, ⟨e, h2, h3⟩, fun k' a b => (h.keeps.disk.log k' a b).1⟩
  · right
    have hpos : 0 < (y.node v).snapIndex := by rw [h.backed.head]; omega
    have hm := h.backed.headMem hpos
    obtain ⟨_, _, f3, f4, _⟩ := h.backed.files _ hm
    exact ⟨h1, hm, f4, f3, h.keeps.virt⟩

/-! ### crashes -/

/-- a burst of crashes: nodes of the list `C` die — each at any storage point of any step for which the system has a
crash transition (`RestartSys.CrashOf`), any number of times, in any order — and restart from disk; nothing else happens
(every state satisfies the side conditions) -/
inductive CrashRun4 (V : List Nat) (C : List Nat) (x : Snap3.Sys) : Snap3.Sys → Prop
  | refl : CrashRun4 V C x x
  | crash (y y' : Snap3.Sys) (i : Nat) (n : Node) : CrashRun4 V C x y → i ∈ C → CrashOf y i n y' → Side4 V y' →
      CrashRun4 V C x y'

/-- a burst of crashes is a run of the system -/
theorem crashRun4_run {C : List Nat} {x y : Snap3.Sys} (h : CrashRun4 V C x y) : Run4 V x y := by
  induction h with
  | refl => exact .refl
  | crash y y' i n _ _ hc hs ih => exact .next y y' ih hc.trans hs

/-- the nodes outside `C` are untouched -/
theorem crashRun4_other {C : List Nat} {x y : Snap3.Sys} (h : CrashRun4 V C x y) :
    ∀ j, j ∉ C → y.node j = x.node j := by
  induction h with
  | refl => exact fun _ _ => rfl
  | crash y y' i n _ hi hc _ ih =>
    intro j hj
    have hne : j ≠ i := fun e => hj (e ▸ hi)
    rw [hc.node_j hne]; exact ih j hj

theorem run4_trans {x y z : Snap3.Sys} (h1 : Run4 V x y) (h2 : Run4 V y z) : Run4 V x z := by
  induction h2 with
  | refl => exact h1
  | next z w _ ht hs ih => exact .next z w ih ht hs

/-- **C06 with snapshots — no committed entry is lost when nodes crash (partial: see the file header).** Let `x` be
reachable in `Raft.Snap4` and let the nodes of ANY list `C` — a minority of the voters, the leader, or all nodes — die, each
at any storage point of any step for which the system has a crash transition (operations of stage 2 incl. the snapshot
goroutine and compaction; the install handler), any number of times, and restart from what is on their disks
(`CrashRun4 V C x y`; the nodes outside `C` are untouched: `crashRun4_other`). Then for every index `k` that was within the
commit index of some node `j` in `x`:
1. a majority `Q` of the voters durably covers, in `y`, the entries `1 … k` exactly as `j` held them (virtually) in `x`
   (`DurablyCovered`: flushed log above `log.prev`, snapshot file at or below; at every further crash point; after every
   further restart);
2. hence EVERY majority `S` of the voters — the survivors, the electorate of any future leader — contains such a node;
3. in every state `z` after `y` the majority `Q` still covers them, and every leader `l` whose term is at least the term
   `j` had in `x` holds at every index `1 ≤ k' ≤ k` of its VIRTUAL log the very entry `j` held there; its real log returns
   that entry if `k'` is above `log.prev`, and otherwise `k' ≤ snapIndex`: the entry is inside the leader's snapshot
   (leader completeness on the virtual log; also C02). -/
theorem no_loss_under_minority_crash_snap_partial (hV : V.Nodup) (x y : Snap3.Sys) (hx : Reachable4 V x)
    (C : List Nat) (hc : CrashRun4 V C x y) (j k : Nat) (hk : 1 ≤ k) (hkc : k ≤ (x.node j).commitIndex) :
    ∃ Q, Majority V Q ∧
      (∀ v ∈ Q, DurablyCovered V y v (x.vlog j) k) ∧
      (∀ S, Majority V S → ∃ v ∈ S, DurablyCovered V y v (x.vlog j) k) ∧
      (∀ z, Run4 V y z →
        (∀ v ∈ Q, DurablyCovered V z v (x.vlog j) k) ∧
        ∀ l, (z.node l).role = .leader → (x.node j).term ≤ (z.node l).term → ∀ k', 1 ≤ k' → k' ≤ k →
          (z.vlog l)[k' - 1]? = (x.vlog j)[k' - 1]? ∧ ((x.vlog j)[k' - 1]?).isSome = true ∧
          ((z.node l).log.prev < k' → (z.node l).log.get? k' = (x.vlog j)[k' - 1]?) ∧
          (k' ≤ (z.node l).log.prev → k' ≤ (z.node l).snapIndex)) := by
  have hxy := crashRun4_run hc
  obtain ⟨m, Q, hmt, hs⟩ := sit_of_commit hV hx hk hkc
  have hQ := C06Sys.AckQuorum.majority hs.hQ
  refine ⟨Q, hQ, fun v hv => covered_later hV hs hxy hv, fun S hS => ?_, fun z hyz => ?_⟩
  · obtain ⟨v, hvQ, hvS⟩ := C01.quorums_intersect V Q S hV hQ.1 hS.1 hQ.2.1 hS.2.1
      (by have := hQ.2.2; have := hS.2.2; omega)
    exact ⟨v, hvS, covered_later hV hs hxy hvQ⟩
  · have hxz := run4_trans hxy hyz
    refine ⟨fun v hv => covered_later hV hs hxz hv, fun l hl ht => ?_⟩
    exact leader_holds_later hV (hs.run hxz) hl (Nat.le_trans hmt ht)

end

/-! ### the acknowledgement of an install request -/

/-- **C06, the acknowledgement clause for snapshots — a follower that answers `success` to an install request has
published the snapshot file before (node level; no cluster assumptions).** Let `s` be any node with `retain ≥ 1` whose
newest snapshot file (if any) is not newer than the request's snapshot (in reachable states: `snapIndex ≤ commitIndex <
lastIndex` for a request that installs — `C09.snapsWF_head_le`), and let the completed step `s.step (.install q)` carry a
reply with result `success`. Then the request was not refused as stale, and
1. if the request INSTALLS (`Installs s q`: it is ahead of the commit index and the log does not hold `(lastIndex,
   lastTerm)`): the storage points of the step are `pre ++ [snap.publish, snap.retain, clearLog]` IN THIS ORDER, where `pre`
   is at most `value.set` (log and files untouched); at `snap.publish` and `snap.retain` the disk holds the OLD log and the
   received file as the NEWEST snapshot file; at `clearLog` and when the handler returns, the log reset to `lastIndex` and
   that file — the file is durable before the log is discarded and before the reply exists;
2. if it does not install, then `lastIndex ≤ commitIndex` (everything the snapshot covers is already committed on the
   follower) or the log holds `(lastIndex, lastTerm)` — nothing is published and nothing is discarded;
3. at EVERY crash point `k` of the step the disk holds either the old log AND the old snapshot files, or (only if the
   request installs) the received file as the newest snapshot file. A reply exists only in the completed step: the crash
   transitions of the systems record no acknowledgement. -/
theorem install_ack_after_publish (s : Node) (q : InstallReq) (ra : List Nat) (ord : List (List Nat))
    (hr : 1 ≤ s.retain) (hh : ∀ g, s.snapsDisk.head? = some g → g.index ≤ q.lastIndex)
    (hack : (s.step (.install q) ra ord).rpcReply.map (·.result) = some rSuccess) :
    ¬ q.term < s.term ∧
    (Installs s q → ∃ pre d1 d2 d3,
      (s.step (.install q) ra ord).trace = pre ++ [("snap.publish", d1), ("snap.retain", d2), ("clearLog", d3)] ∧
      (∀ p ∈ pre, p.2.log = s.durable.log ∧ p.2.snaps = s.snapsDisk) ∧
      (d1.log = s.durable.log ∧ d1.snaps.head? = some (C09.fileOf q)) ∧
      (d2.log = s.durable.log ∧ d2.snaps.head? = some (C09.fileOf q)) ∧
      (d3.log = NLog.reset q.lastIndex ∧ d3.snaps.head? = some (C09.fileOf q)) ∧
      ((s.step (.install q) ra ord).durable.log = NLog.reset q.lastIndex ∧
        (s.step (.install q) ra ord).durable.snaps.head? = some (C09.fileOf q))) ∧
    (¬ Installs s q → q.lastIndex ≤ s.commitIndex ∨ C09.keepsLog s q = true) ∧
    (∀ k, ((C05.crashDisk s (.install q) ra ord k).log = s.durable.log ∧
        (C05.crashDisk s (.install q) ra ord k).snaps = s.snapsDisk) ∨
      (Installs s q ∧ (C05.crashDisk s (.install q) ra ord k).snaps.head? = some (C09.fileOf q))) := by
  have hns := install_reply_success s q ra ord hack
  refine ⟨hns, fun hi => install_trace_order s q ra ord hi hr hh, fun hni => ?_,
    fun k => install_crash_point s q ra ord k hr hh⟩
  by_cases h2 : q.lastIndex ≤ s.commitIndex
  · exact Or.inl h2
  · right
    cases hk : C09.keepsLog s q with
    | true => rfl
    | false => exact absurd ⟨hns, by omega, hk⟩ hni

section
variable {V : List Nat}

/-- **… and what the acknowledging follower then holds (cluster level, partial: the restrictions of `Raft.Snap3`).** Let
`x` be reachable in `Raft.Snap3` (a fortiori in `Raft.Snap4`), `m` an install request of the ledger that node `i ≠ 0`
handles to completion without failing an assertion, let the request install, and let the state `y` after the step satisfy
the side conditions. Then the step's reply is `success`, its storage points are `… snap.publish, snap.retain, clearLog` in
this order (statement 1 of `install_ack_after_publish`), and in `y` the follower durably covers the prefix `m.pre` the
snapshot stands for, up to `lastIndex` (`KeepsS y i m.pre lastIndex`: its log is reset to and flushed up to `lastIndex`,
its virtual log IS `m.pre`, the newest snapshot file on its disk is the received one, at `lastIndex`), that file is the
replay of `m.pre`, every entry of `m.pre` is committed, and every node whose commit index covers `lastIndex` holds
`m.pre` (`SnapBacked`, `C09Sys3.install_request_is_committed_prefix_partial`; also C09). -/
theorem install_ack_covers_sys_partial (hV : V.Nodup) (x : Snap3.Sys) (h : Reachable3 V x) (i : Nat) (m : SnapMsg)
    (ra : List Nat) (ord : List (List Nat)) (hi : i ≠ 0) (hm : m ∈ x.sentSnaps)
    (hp : ((x.node i).step (.install m.q) ra ord).panicked = none) (hin : Installs (x.node i) m.q)
    (hS' : Side3 V (installS x i m ra ord)) :
    let y := installS x i m ra ord
    (y.node i).rpcReply.map (·.result) = some rSuccess ∧
    (∃ pre d1 d2 d3, (y.node i).trace = pre ++ [("snap.publish", d1), ("snap.retain", d2), ("clearLog", d3)] ∧
      d1.snaps.head? = some (C09.fileOf m.q) ∧ d1.log = (x.node i).durable.log) ∧
    KeepsS y i m.pre m.q.lastIndex ∧ SnapBacked y i ∧
    ((y.node i).durable.snaps.head? = some (C09.fileOf m.q) ∧ (C09.fileOf m.q).data = ups m.pre) ∧
    (∀ k, 1 ≤ k → k ≤ m.q.lastIndex → Cmt (view3 y).cs (k, termAt m.pre k) m.q.term) ∧
    Reachable3 V y := by
  intro y
  have hI := (inv3_reachable hV h).1
  have wf := snapsWF_node hI i
  have so : SnapOK (x.vnode i) := hI.sinv.snap i
  have hh := C09.snapsWF_head_le (x.node i) m.q wf hin.2.1
  obtain ⟨c1, c2, c3, c4, c5⟩ := C09Sys3.lagging_follower_catches_up_by_snapshot_partial hV x h i m ra ord hi hm hp hin hS'
  have hny : y.node i = (x.node i).step (.install m.q) ra ord := by
    show (installS x i m ra ord).node i = _
    unfold installS; rw [replS_node_i]
  obtain ⟨pre, d1, d2, d3, t1, _, t3, _, _, _⟩ := install_trace_order (x.node i) m.q ra ord hin so.retain hh
  have hmo := C09Sys3.install_request_is_committed_prefix_partial hV y c5 m hm
  have hrep : (y.node i).rpcReply.map (·.result) = some rSuccess := by
    rw [hny, install_reply]
    have hb1 : ¬ m.q.term < ((x.node i).begin ra ord).term := hin.1
    have hb2 : ((x.node i).begin ra ord).commitIndex < m.q.lastIndex := hin.2.1
    have hb3 : C09.keepsLog ((x.node i).begin ra ord) m.q = false := hin.2.2
    rw [C09.install_discard_shape _ m.q hb1 hb2 hb3]
    rfl
  have hlog : (y.node i).log = NLog.reset m.q.lastIndex := c1.1
  have hvl : y.vlog i = m.pre := c2.2.2.2
  have hlen : m.pre.length = m.q.lastIndex := hmo.1
  refine ⟨hrep, ⟨pre, d1, d2, d3, by rw [hny]; exact t1, t3.2, t3.1⟩, ⟨?_, fun k' _ _ => by rw [hvl], ?_, ?_⟩,
    snapBacked hV c5 i, ⟨c3, c2.2.2.1⟩, hmo.2.2.2.2.1, c5⟩
  · rw [hlog]; exact Nat.le_refl _
  · intro k' h1 h2
    have h1' : (y.node i).log.prev < k' := h1
    rw [hlog] at h1'
    have : (NLog.reset m.q.lastIndex).prev = m.q.lastIndex := rfl
    omega
  · show (y.node i).log.prev ≤ (headOf (y.node i).snapsDisk).index
    have hd : (y.node i).snapsDisk.head? = some (C09.fileOf m.q) := c3
    unfold headOf
    rw [hlog, hd]
    exact Nat.le_refl _

/-- **an install request never carries an uncommitted index (partial: the restrictions of `Raft.Snap3`)** — why the
acknowledgement of an install request is never NEEDED for a commit (and why the systems record no entry of the ledger
`acks` for it): when the leader `i` reads its newest snapshot file into the request `q` (`Snap3.SnapRead`, the premise of
`Trans.sendSnap`), `q.lastIndex = snapIndex ≤ commitIndex` of the leader. The match index `lastIndex` the leader derives
from the follower's `success` (`replication.sendInstallSnapReq`) is therefore at or below the leader's commit index and
moves nothing in `majorityMatchIndex`; every index `≤ lastIndex` is already durably covered by a majority
(`commit_durable_on_majority_snap_partial`). In particular the two `success` answers that publish nothing
(`install_ack_after_publish`, case 2: `lastIndex ≤ commitIndex` on the follower, or its log holds `(lastIndex, lastTerm)`
— possibly NOT flushed) acknowledge nothing that was not committed before. -/
theorem install_request_within_commit_partial (hV : V.Nodup) (x : Snap3.Sys) (h : Reachable3 V x) (i : Nat)
    (q : InstallReq) (hr : SnapRead (x.node i) q) :
    q.lastIndex = (x.node i).snapIndex ∧ q.lastIndex ≤ (x.node i).commitIndex := by
  have sb := snapBacked hV h i
  have hd : (x.node i).durable.snaps.head? = some (C09.fileOf q) := hr.file
  have e : (x.node i).snapIndex = q.lastIndex := by
    rw [sb.head]; unfold headOf; rw [hd]; rfl
  exact ⟨e.symm, by rw [← e]; exact sb.commit⟩

end

/-! ### Examples (non-vacuity) -/

/-- EXAMPLE (`Covers`, both cases): a log compacted up to index 2 that still holds entry 3, with a snapshot file at index
2, covers the first three entries of the reference sequence — entry 3 from the log, entries 1 and 2 by the snapshot; and
it covers the first two by the snapshot alone -/
example :
    let e (i : Nat) : Entry := { index := i, term := 1 }
    let l : NLog := { prev := 2, entries := [e 3], flushed := 3, segs := [2] }
    let f : SnapFile := { index := 2, term := 1 }
    Covers l [f] [e 1, e 2, e 3] 3 ∧ Covers l [f] [e 1, e 2, e 3] 2 ∧ 2 ≤ (headOf [f]).index := by
  intro e l f
  have c3 : Covers l [f] [e 1, e 2, e 3] 3 := by
    refine ⟨fun k' h1 h2 => ?_, by decide⟩
    have h1' : 2 < k' := h1
    have : k' = 3 := by omega
    subst this
    exact ⟨by decide, by decide⟩
  exact ⟨c3, c3.mono (by decide), by decide⟩

/-- EXAMPLE: the hypotheses of the theorems (`V.Nodup`, a state reachable in `Raft.Snap4` by steps that use the snapshot
operations and the install handler, a later state, a burst of crashes, a majority) are satisfiable: `C09Sys3.exW4` (three
voters; node 2 is asked for a snapshot, the snapshot goroutine runs, the result is handed over, node 2 handles a stale
install request). (States with a positive commit index need an elected leader, which the kernel cannot evaluate: the
leader block does not reduce there; they are EVALUATED below.) -/
theorem exW4_reachable4 : Reachable4 [1, 2, 3] C09Sys3.exW4 := by
  have t4 : Snap4.Trans C09Sys3.exW3 C09Sys3.exW4 :=
    .install 2 C09Sys3.exMs [] [] (by decide) (Or.inl (by decide)) (by decide)
  have s4 : Side4 [1, 2, 3] C09Sys3.exW4 :=
    C09Sys3.exSide4 _ (((((C04Sys.exNode 2).step (.takeSnapshot 7 0) [] []).step .snapRun [] []).step .snapTaken [] []).step
        (.install C09Sys3.exMs.q) [] [])
      (by decide) (by decide) (by
        show setNode (setNode (setNode (setNode C04Sys.exNode 2 _) 2 _) 2 _) 2 _ = _
        rw [setNode_setNode, setNode_setNode]
        exact setNode_setNode _ _ _ _) (by decide) (by decide) (by decide)
  exact .next _ _ C10Sys2.exW3_reach4 t4 s4

/-- EXAMPLE: the hypotheses of `commit_durable_on_majority_snap_partial` and `no_loss_under_minority_crash_snap_partial` -/
example : [1, 2, 3].Nodup ∧ Reachable4 [1, 2, 3] C09Sys3.exW4 ∧ Run4 [1, 2, 3] C09Sys3.exW4 C09Sys3.exW4 ∧
    CrashRun4 [1, 2, 3] [2, 3] C09Sys3.exW4 C09Sys3.exW4 ∧ Majority [1, 2, 3] [3, 1] :=
  ⟨by decide, exW4_reachable4, .refl, .refl, by decide, by decide, by decide⟩

set_option maxRecDepth 100000 in
/-- EXAMPLE (`CrashAt`, the crash clause of `DurablyCovered`): node 2 of `exW4` dies while handling an election timeout,
after the first storage point (`value.set`: term 2 and the vote for itself are on disk), and restarts with term 2 -/
example : ∃ d n y', CrashAt C09Sys3.exW4 2 d n y' ∧ d.term = 2 ∧ n.term = 2 := by
  have hn : (Node.restart (C05.crashDisk (C09Sys3.exW4.node 2) .timeout [] [] 1) 1 true).isSome = true := by decide
  obtain ⟨n, hn'⟩ := Option.isSome_iff_exists.mp hn
  have ht : n.term = 2 := by
    have := (C05.restart_reads_durable _ _ _ _ hn').1
    rw [this]; decide
  exact ⟨_, n, _, .op n .timeout [] [] 0 1 1 true
    (C09Sys.exEnabled _ _ trivial (fun _ h => by cases h) (fun _ h => by cases h) (fun _ h => by cases h)
      (fun _ _ h => by cases h) (fun _ _ _ h => by cases h) (fun _ h => by cases h))
    (by decide) (by decide) trivial (by decide) hn', by decide, ht⟩

/-- EXAMPLE (`install_ack_after_publish`): the F18 scenario of Props/C09Sys2.lean — the follower `exI0` (uncommitted
entries 2–4 of term 2, no snapshot, `retain = 1`) handles the leader's snapshot `exIq` (index 3, term 3): the hypotheses
hold, the reply is `success`, the request installs -/
example : 1 ≤ C09Sys2.exI0.retain ∧ (∀ g, C09Sys2.exI0.snapsDisk.head? = some g → g.index ≤ C09Sys2.exIq.lastIndex) ∧
    (C09Sys2.exI0.step (.install C09Sys2.exIq) [] []).rpcReply.map (·.result) = some rSuccess ∧
    Installs C09Sys2.exI0 C09Sys2.exIq := by
  refine ⟨by decide, fun g hg => ?_, by decide, by decide⟩
  have : C09Sys2.exI0.snapsDisk.head? = none := rfl
  rw [this] at hg; cases hg

/-! #### EVALUATED (tests, not proofs) — the scenario of Props/C09Sys3.lean: node 1 leads term 2, commits index 3 (the
update "a") with node 2, takes a snapshot at 3 and compacts; node 3 (log [(1,1)], nothing committed) installs the
snapshot (`exX16`) and then accepts entry 4 behind it (`exX19`); alternatively node 3 dies after `snap.retain` (`exXd`). -/

/-- executable `Covers` -/
def coversB (l : NLog) (snaps : List SnapFile) (ref : List Entry) (k : Nat) : Bool :=
  (List.range (k + 1)).all (fun k' => !(decide (l.prev < k')) || (l.get? k' == ref[k' - 1]? && (ref[k' - 1]?).isSome)) &&
    decide (l.prev ≤ (headOf snaps).index)

/-- executable `KeepsS` -/
def keepsB (y : Snap3.Sys) (v : Nat) (ref : List Entry) (k : Nat) : Bool :=
  decide (k ≤ (y.node v).log.flushed) &&
    (List.range (k + 1)).all (fun k' => k' == 0 || (y.vlog v)[k' - 1]? == ref[k' - 1]?) &&
    coversB (y.node v).durable.log (y.node v).durable.snaps ref k

-- index 3 is committed on the leader; ALL THREE voters durably cover 1 … 3 of the leader's virtual log after the
-- installation: node 1 (leader, compacted) and node 3 (installed) by their snapshot files, node 2 by its flushed log
#guard (C09Sys3.exX16.node 1).commitIndex == 3 && keepsB C09Sys3.exX16 1 (C09Sys3.exX16.vlog 1) 3 &&
  keepsB C09Sys3.exX16 2 (C09Sys3.exX16.vlog 1) 3 && keepsB C09Sys3.exX16 3 (C09Sys3.exX16.vlog 1) 3
#guard (C09Sys3.exX16.node 3).log.prev == 3 && ((C09Sys3.exX16.node 3).durable.snaps.map (·.index)) == [3] &&
  (C09Sys3.exX16.node 2).log.prev == 0 && (C09Sys3.exX16.node 2).log.flushed ≥ 3
-- BEFORE the installation node 3 does not cover index 3 (it is not in the acknowledging majority {1, 2})
#guard !keepsB C09Sys3.exX15 3 (C09Sys3.exX15.vlog 1) 3 && keepsB C09Sys3.exX15 2 (C09Sys3.exX15.vlog 1) 3
-- node 3 dies after `snap.retain` (F18 window): the disk holds the OLD log — stale — and the received file at index 3:
-- the snapshot file alone covers 1 … 3; with the log `openStorage` works with the disk image covers
#guard staleLog C09Sys3.exXd && decide (3 ≤ (headOf C09Sys3.exXd.snaps).index) &&
  coversB (C10.logOf C09Sys3.exXd) C09Sys3.exXd.snaps (C09Sys3.exX15.vlog 1) 3
-- at every crash point of the installation on node 3: old log and old files, or the received file is the newest
#guard (List.range 6).all (fun k =>
  let d := C05.crashDisk (C09Sys3.exX15.node 3) (.install C09Sys3.exQ) [] [] k
  (d.log == (C09Sys3.exX15.node 3).durable.log && d.snaps == (C09Sys3.exX15.node 3).snapsDisk) ||
    d.snaps.head? == some (C09.fileOf C09Sys3.exQ))
-- after the next entry (index 4) behind the snapshot: node 3 covers 1 … 4 — entry 4 from the log, 1 … 3 by the snapshot
#guard keepsB C09Sys3.exX19 3 (C09Sys3.exX19.vlog 1) 4 && (C09Sys3.exX19.node 3).log.prev == 3

end C06Snap
end Raft

#print axioms Raft.C06Snap.commit_durable_on_majority_snap_partial -- also C09
#print axioms Raft.C06Snap.covered_by_log_or_snapshot
#print axioms Raft.C06Snap.no_loss_under_minority_crash_snap_partial -- also C02
#print axioms Raft.C06Snap.install_ack_after_publish
#print axioms Raft.C06Snap.install_ack_covers_sys_partial -- also C09
#print axioms Raft.C06Snap.install_request_within_commit_partial -- also C09
