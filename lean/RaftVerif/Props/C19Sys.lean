/-
C19 / C15 / C06 / C12 on the cluster-level transition system — **the per-node invariants hold in every reachable
state of the cluster**, so that inside the system the hypotheses "the operation is acceptable" (`Order.ReqOk`,
`NoPanic.ReqOk'`) and "the step completes without a failed assertion" of the per-node theorems disappear.

The system (definitions in Lemmas/SysInv.lean): `Raft.Commit` of Sys/Commit.lean — any node handles any enabled
operation with any content and oracle (`Node.step`), dies at any storage point of such a step and restarts from
disk, a leader puts on the wire a request read from its log; `_partial` restrictions: fixed voter set `V`, fixed
stable configuration (`SideV`), no snapshots / compaction, no configuration change (`OpOK2`) — with

* two more environment assumptions on a delivered operation (`SysInv.EnabledG`):
  - a `newTerm` report of a replication delivered to a leader carries a term not below the leader's;
  - a transport error reported for the `timeoutNow` request of a transfer names a node the leader replicates to;
* closed nodes are frozen (`SysInv.TransG`): only an OPEN node (`closed = ""`) handles operations — the state loop
  of a node that closed itself (removed from the cluster; `Shutdown` is excluded by `OpOK`) has returned; its
  process may still be restarted from its disk (a crash with `k = 0`);
* one more side condition on every state of a run (`SysInv.SideG`): every node retains at least one snapshot
  (`SnapshotsRetain ≥ 1`, an option validated by `New`);
* an initial state (`Commit.Init`) that satisfies `SysInv.GInv`: every node is `NoPanic.Good true`; both
  configurations of every node have an index ≤ 1; every configuration entry of the initial tree is the bootstrap
  entry — index 1, decodable, two voters without pending action — and the tree has one root. (Example: all nodes
  bootstrapped with the same configuration entry (1,1) of at least two voters, `ex0_ginv`.)

Proved (`ReachableG V x` = reachable under these assumptions; see the doc comments): `good_in_sys_partial`,
`reqok_in_sys_partial` (the side condition `hcfg` of `C02Sys.reqok_in_sys_partial` is discharged), `reachable_np_of_good`
(every such run is a run without failed assertions, `C03Sys.ReachableNP`; hence `state_machine_safety_sys_partial` — C03
on the cluster WITHOUT the no-failure hypothesis — and `applied_only_grows_sys_partial`), `ordered_in_sys_partial`,
`leader_cache_in_sys_partial`, `tracks_in_sys_partial`, `tasks_step_in_sys_partial` / `tasks_in_sys_partial`; in
Lemmas/SysInv.lean `crashDisk_segsOK`: the segment list is well formed at EVERY crash point of a step that does not fail
(what `C15NoPanic.restart_good` needs of the disk; so crashes INSIDE a step are covered).
-/
import RaftVerif.Lemmas.EnabledAt

namespace Raft
namespace C19Sys
open Node LogRel CommitRel Commit C02Sys NoPanic SysInv

/-- **Every node is good in every reachable state (partial: the restrictions and assumptions of the file
header).** Let `V` be a duplicate-free list of node ids and `x` a state reachable in the cluster system
(`SysInv.ReachableG`: `Commit.Trans` with the assumptions `EnabledG` on delivered operations, closed nodes frozen;
`SideV V` and `SideG` in every state; a good initial state). Then every node `i` satisfies the no-failure
invariant `NoPanic.Good true` (C15NoPanic) — in particular nothing has failed (`panicked = none`), the state is
ordered (`Order.Ordered`, C19: `log.prev ≤ snapIndex ≤ applied ≤ commitIndex ≤ lastLogIndex = log.last`,
`committed.index ≤ latest.index ≤ lastLogIndex`, …) and the leader's caches are current
(`C06Cache.LeaderCacheOpen`) — and both its configurations are the bootstrap configuration or none (index ≤ 1). -/
theorem good_in_sys_partial (V : List Nat) (hV : V.Nodup) (x : Commit.Sys) (h : ReachableG V x) (i : Nat) :
    Good true (x.node i) ∧ (x.node i).panicked = none ∧ Order.Ordered (x.node i) ∧
    C06Cache.LeaderCacheOpen (x.node i) ∧ CfgLe1 (x.node i).configs := by
  have hG := ginv_reachable hV h
  exact ⟨hG.good i, (hG.good i).noPanic, (hG.good i).ordered, (hG.good i).leaderCacheOpen, hG.cfg i⟩

/-- **Every enabled operation is acceptable at its receiver and is handled without failure (partial; same
assumptions)** — `C02Sys.reqok_in_sys_partial` without its side condition, and more: in a reachable state `x`, for
every operation `op` that may be delivered to the open node `i` (`Commit.Enabled`, `EnabledG`), every oracle and
input:
1. `NoPanic.ReqOk' true (x.node i) op` — hence `Order.ReqOk (x.node i) op`: an append request that is not stale
   carries contiguous indexes, conflicts with the receiver's log only above its commit index and above the index
   of its committed configuration, and its configuration entries decode; match-index reports lie within the
   leader's log; …
2. the step does not fail: `panicked = none` — no `assert`, nil dereference, `bug{}`, `unreachable()`, log-view
   failure, and the model's recursion budget suffices;
3. the state after the step is good again. -/
theorem reqok_in_sys_partial (V : List Nat) (hV : V.Nodup) (x : Commit.Sys) (h : ReachableG V x)
    (i : Nat) (op : Op) (src : Nat) (he : Commit.Enabled x i op src) (heG : EnabledG x i op)
    (ho : (x.node i).closed = "") (ra : List Nat) (ord : List (List Nat)) :
    ReqOk' true (x.node i) op ∧ Order.ReqOk (x.node i) op ∧
    ((x.node i).step op ra ord).panicked = none ∧ Good true ((x.node i).step op ra ord) := by
  have hG := ginv_reachable hV h
  have hr := reqok' hV (reachableG_V h) hG he heG
  obtain ⟨hp, hg⟩ := C15NoPanic.good_step_two _ op ra ord (hG.good i) ho hr
  exact ⟨hr, hr.toReqOk, hp, hg⟩

/-- **Every run of the system is a run without failed assertions**: `ReachableG` implies `C03Sys.ReachableNP`. -/
theorem reachable_np_of_good (V : List Nat) (hV : V.Nodup) (x : Commit.Sys) (h : ReachableG V x) :
    C03Sys.ReachableNP V x := by
  induction h with
  | init x hi hs _ _ => exact .init x hi hs
  | next x y hx ht hs hsg ih =>
    have hy : ReachableG V y := .next x y hx ht hs hsg
    exact .next x y ih (transG_trans ht) hs (fun i => ((ginv_reachable hV hy).good i).noPanic)

/-- **C03, state-machine safety on the cluster, WITHOUT the hypothesis that no step fails an assertion (partial:
the restrictions and assumptions of the file header).** In every reachable state:
1. on every node the state machine has been fed exactly the update commands of its log entries `1 … fsm.index`,
   in order, each once, and never ran ahead of the commit index;
2. every entry it has been fed is committed;
3. a node that applied no more than another holds the same entries up to its applied index, and its command
   sequence is a prefix of the other's;
4. the command sequences applied on any two nodes are prefixes of one common sequence. -/
theorem state_machine_safety_sys_partial (V : List Nat) (hV : V.Nodup) (x : Commit.Sys) (h : ReachableG V x) :
    (∀ i, (x.node i).fsm.index ≤ (x.node i).commitIndex ∧
      (x.node i).fsm.index ≤ (x.node i).log.entries.length ∧
      (x.node i).fsm.applied =
        (((x.node i).log.entries.take (x.node i).fsm.index).filter (·.typ == etUpdate)).map (·.data)) ∧
    (∀ i k, 1 ≤ k → k ≤ (x.node i).fsm.index → Committed x (k, termAt (x.node i).log.entries k)) ∧
    (∀ i j, (x.node i).fsm.index ≤ (x.node j).fsm.index →
      (x.node i).log.entries.take (x.node i).fsm.index = (x.node j).log.entries.take (x.node i).fsm.index ∧
      (x.node i).fsm.applied <+: (x.node j).fsm.applied) ∧
    (∀ i j, (x.node i).fsm.applied <+: (x.node j).fsm.applied ∨
      (x.node j).fsm.applied <+: (x.node i).fsm.applied) :=
  C03Sys.state_machine_safety_sys_partial V hV x (reachable_np_of_good V hV x h)

/-- **the state machine only moves forward, by appending** — `C03Sys.applied_only_grows_sys_partial` without the
hypothesis that the step does not fail (same assumptions) -/
theorem applied_only_grows_sys_partial (V : List Nat) (hV : V.Nodup) (x : Commit.Sys) (h : ReachableG V x)
    (i : Nat) (op : Op) (ra : List Nat) (ord : List (List Nat)) (src : Nat) (he : Commit.Enabled x i op src)
    (heG : EnabledG x i op) (ho : (x.node i).closed = "") :
    (x.node i).fsm.index ≤ ((x.node i).step op ra ord).fsm.index ∧
    ((x.node i).step op ra ord).fsm.applied = (x.node i).fsm.applied ++
      C03Sys.ups ((((x.node i).step op ra ord).log.entries.drop (x.node i).fsm.index).take
        (((x.node i).step op ra ord).fsm.index - (x.node i).fsm.index)) :=
  C03Sys.applied_only_grows_sys_partial V hV x (reachable_np_of_good V hV x h) i op ra ord src he
    (reqok_in_sys_partial V hV x h i op src he heG ho ra ord).2.2.1

/-- **C19 orderings in the cluster (partial; same assumptions)**: in every reachable state every node reports
`fsm.index ≤ commitIndex ≤ lastLogIndex = log.last`, `log.prev ≤ snapIndex ≤ commitIndex`,
`configs.committed.index ≤ configs.latest.index ≤ lastLogIndex`. -/
theorem ordered_in_sys_partial (V : List Nat) (hV : V.Nodup) (x : Commit.Sys) (h : ReachableG V x) (i : Nat) :
    (x.node i).fsm.index ≤ (x.node i).commitIndex ∧ (x.node i).commitIndex ≤ (x.node i).lastLogIndex ∧
    (x.node i).lastLogIndex = (x.node i).log.last ∧ (x.node i).log.prev ≤ (x.node i).snapIndex ∧
    (x.node i).snapIndex ≤ (x.node i).commitIndex ∧ (x.node i).snapIndex ≤ (x.node i).lastLogIndex ∧
    (x.node i).configs.committed.index ≤ (x.node i).configs.latest.index ∧
    (x.node i).configs.latest.index ≤ (x.node i).lastLogIndex :=
  C19Order.ordered_chain _ (good_in_sys_partial V hV x h i).2.2.1

/-- **C06 leader caches in the cluster (partial; same assumptions)**: every open leader's cached own entry, voter
count and replication table agree with its latest configuration. -/
theorem leader_cache_in_sys_partial (V : List Nat) (hV : V.Nodup) (x : Commit.Sys) (h : ReachableG V x) (i : Nat)
    (ho : (x.node i).closed = "") (hl : (x.node i).role = .leader) : C06Cache.CacheOK (x.node i) :=
  (good_in_sys_partial V hV x h i).2.2.2.1 ho hl

/-! ### C12Track: the FSM's cache tracks the applied prefix on every node -/

/-- one move of a node out of a reachable state keeps `C12Track.Tracks` -/
theorem tracks_move {V : List Nat} (hV : V.Nodup) {y z : Commit.Sys} (j : Nat) (hy : ReachableG V y) (hsg : SideG z)
    (m : NodeSys.Move (SG y j) (CG y j) (y.node j) (z.node j)) (hT : C12Track.Tracks (y.node j)) :
    C12Track.Tracks (z.node j) := by
  obtain ⟨hI, hS⟩ := inv_reachable hV (reachableG_V hy)
  refine m.keeps hT (fun op ra ord ⟨src, he, heG, ho⟩ => ?_) (fun op ra ord k retain sor ⟨src, he, _, _⟩ hn => ?_)
  · obtain ⟨_, hro, hp, _⟩ := reqok_in_sys_partial V hV y hy j op src he heG ho ra ord
    exact C12Track.tracks_step _ op ra ord hT ((ginv_reachable hV hy).good j).ordered hro hp
  · refine cc_tracks (V := V) (src := src) ⟨⟨hV, hI, hS, he⟩, hn⟩ ?_
    have := hsg j
    rwa [restart_retain _ _ _ _ hn] at this

theorem tracks_trans {V : List Nat} (hV : V.Nodup) {x y : Commit.Sys} (hx : ReachableG V x)
    (hT : ∀ i, C12Track.Tracks (x.node i)) (ht : TransG x y) (hsg : SideG y) :
    ∀ i, C12Track.Tracks (y.node i) :=
  fun j => tracks_move hV j hx hsg (transG_move ht j) (hT j)

/-- **C12Track in the cluster (partial; same assumptions)**: if in a reachable state `x` the FSM's cached
configuration and term track the applied prefix on every node (`C12Track.Tracks`; e.g. an initial state: nothing
applied, no snapshot, `ex0_tracks`), they do so on every node in every later state `y` of the run — through crashes
and restarts. Hence every snapshot a node would store is labelled right (`C12Track.snapshot_labelled_right`). -/
theorem tracks_in_sys_partial (V : List Nat) (hV : V.Nodup) (x y : Commit.Sys) (hx : ReachableG V x)
    (hrun : RunG V x y) (hT : ∀ i, C12Track.Tracks (x.node i)) : ∀ i, C12Track.Tracks (y.node i) :=
  (runG_keeps hx hrun (fun _ _ j hy hsg m h => tracks_move hV j hy hsg m h) hT).2

/-! ### C15Tasks: the ledger of client tasks, one step of the system -/

/-- **C15Tasks in the cluster, one step (partial; same assumptions)**: in a reachable state, when the open node `i` — whose
task ledger is consistent (`C15Tasks.TasksOK`) — handles an enabled operation that brings in fresh task ids
(`C15Tasks.Fresh`: distinct, waiting nowhere yet — an assumption on the client side), the step does not fail and
every submitted or pending task is afterwards EITHER answered OR pending, never both, never lost; no id is
answered twice; the ledger stays consistent. -/
theorem tasks_step_in_sys_partial (V : List Nat) (hV : V.Nodup) (x : Commit.Sys) (h : ReachableG V x)
    (i : Nat) (op : Op) (src : Nat) (he : Commit.Enabled x i op src) (heG : EnabledG x i op)
    (ho : (x.node i).closed = "") (ra : List Nat) (ord : List (List Nat)) (hT : C15Tasks.TasksOK (x.node i))
    (hF : C15Tasks.Fresh (x.node i) op) :
    (C15Tasks.submitted op ++ C15Tasks.pending (x.node i)).Perm
      (C15Tasks.answered ((x.node i).step op ra ord) ++ C15Tasks.pending ((x.node i).step op ra ord)) ∧
    (C15Tasks.answered ((x.node i).step op ra ord)).Nodup ∧
    (∀ t ∈ C15Tasks.answered ((x.node i).step op ra ord), t ∉ C15Tasks.pending ((x.node i).step op ra ord)) ∧
    C15Tasks.TasksOK ((x.node i).step op ra ord) := by
  have hG := ginv_reachable hV h
  obtain ⟨a, _, c, d, e, _⟩ := C15Tasks.task_step_two _ op ra ord (hG.good i) ho
    (reqok' hV (reachableG_V h) hG he heG) hT hF
  exact ⟨a, c, d, e⟩

/-- a restarted node has nothing pending and nothing answered -/
theorem restart_tasksOK (d : Durable) (r : Nat) (sor : Bool) (n : Node) (h : restart d r sor = some n) :
    C15Tasks.TasksOK n ∧ C15Tasks.pending n = [] := by
  obtain ⟨_, _, _, hn⟩ := C10.restart_some d r sor n h
  have hk : n.ldr = {} ∧ n.snapPending = none ∧ n.snapResult = none := by
    rw [hn]
    split
    · rw [fsmRestore_eq]; exact ⟨rfl, rfl, rfl⟩
    · exact ⟨rfl, rfl, rfl⟩
  obtain ⟨k1, k2, k3⟩ := hk
  have hp : C15Tasks.pending n = [] := by
    unfold C15Tasks.pending C15Tasks.pendRaw
    rw [k1, k2, k3]; rfl
  refine ⟨⟨⟨fun _ => by rw [k1], Or.inl k2⟩, fun _ => ⟨by rw [k1], by rw [k1], by rw [k1]⟩, by rw [hp]; exact List.nodup_nil⟩, hp⟩

/-- a run of the restricted system in which every operation handled to completion brings in fresh task ids
(`C15Tasks.Fresh`: distinct, waiting nowhere on that node — the client side generates a new id for every task) -/
inductive RunGF (V : List Nat) (x : Commit.Sys) : Commit.Sys → Prop
  | refl : RunGF V x x
  | step (y : Commit.Sys) (i : Nat) (op : Op) (ra : List Nat) (ord : List (List Nat)) (src : Nat) : RunGF V x y →
      Commit.Enabled y i op src → EnabledG y i op → (y.node i).closed = "" → C15Tasks.Fresh (y.node i) op →
      SideV V (stepC y i op ra ord src) → SideG (stepC y i op ra ord src) → RunGF V x (stepC y i op ra ord src)
  | crash (y : Commit.Sys) (i : Nat) (op : Op) (ra : List Nat) (ord : List (List Nat)) (src k retain : Nat)
      (sor : Bool) (n : Node) : RunGF V x y → Commit.Enabled y i op src → EnabledG y i op →
      ((y.node i).closed = "" ∨ k = 0) → Node.restart (C05.crashDisk (y.node i) op ra ord k) retain sor = some n →
      SideV V (crashC y i op n) → SideG (crashC y i op n) → RunGF V x (crashC y i op n)
  | send (y : Commit.Sys) (i : Nat) (q : AppendReq) : RunGF V x y → i ≠ 0 → (y.node i).role = .leader →
      Replication.ReadFrom (y.node i) q → q.ldrCommitIndex ≤ (y.node i).commitIndex →
      SideV V (sendC y q) → SideG (sendC y q) → RunGF V x (sendC y q)

theorem runGF_run {V : List Nat} {x y : Commit.Sys} (h : RunGF V x y) : RunG V x y := by
  induction h with
  | refl => exact .refl
  | step y i op ra ord src _ he heG ho _ hs hsg ih => exact .next y _ ih (.step i op ra ord src he heG ho) hs hsg
  | crash y i op ra ord src k retain sor n _ he heG ho hn hs hsg ih =>
    exact .next y _ ih (.crash i op ra ord src k retain sor n he heG ho hn) hs hsg
  | send y i q _ hi hl hr hc hs hsg ih => exact .next y _ ih (.send i q hi hl hr hc) hs hsg

/-- **C15Tasks in the cluster, along a run (partial; same assumptions + fresh task ids)**: if the task ledger of
every node is consistent in a reachable state `x` (`C15Tasks.TasksOK`: no task waits twice, an idle transfer carries
no task, nothing waits in the leader places of a non-leader; e.g. an initial state), it is consistent on every node
in every later state of a run in which the operations bring in fresh task ids — through crashes and restarts (a
restarted node has nothing pending: the tasks that were waiting in the process that died are lost with it). For
each completed step the conservation law is `tasks_step_in_sys_partial`. -/
theorem tasks_in_sys_partial (V : List Nat) (hV : V.Nodup) (x y : Commit.Sys) (hx : ReachableG V x)
    (hrun : RunGF V x y) (hT : ∀ i, C15Tasks.TasksOK (x.node i)) : ∀ i, C15Tasks.TasksOK (y.node i) := by
  induction hrun with
  | refl => exact hT
  | step y i op ra ord src hy he heG ho hF _ _ ih =>
    exact NodeSys.forall_setNode (P := fun _ m => C15Tasks.TasksOK m)
      (tasks_step_in_sys_partial V hV y (run_reachableG hx (runGF_run hy)) i op src he heG ho ra ord (ih i) hF).2.2.2
      (fun j _ => ih j)
  | crash y i op ra ord src k retain sor n hy he heG _ hn _ _ ih =>
    exact NodeSys.forall_setNode (P := fun _ m => C15Tasks.TasksOK m) (restart_tasksOK _ _ _ _ hn).1 (fun j _ => ih j)
  | send y i q _ _ _ _ _ _ _ ih => exact ih

/-! ### Examples (non-vacuity): three voters, every node bootstrapped with the same configuration entry (1,1) -/

/-- a stable configuration (no pending action) with its anchors is one every node can hold -/
theorem cfgOk_of_stable {T : Bool} {c : Config} (hs : c.isStable = true) (ha : c.nodes ≠ [] → AnchoredT T c)
    (nid : Nat) : CfgOk T nid c :=
  ⟨⟨by rw [stable_action c hs nid]; decide, fun _ => by rw [stable_action c hs nid]; decide⟩, ha⟩

/-- example: the node `C04Sys.exNode i` (bootstrapped follower of term 1 holding the entry (1,1)) is good -/
theorem exNode_good (i : Nat) : Good true (C04Sys.exNode i) := by
  have ho : Order.Ordered (C04Sys.exNode 0) :=
    ⟨⟨by decide, by decide, by decide, by decide, by decide, by decide, ⟨by decide, by decide, by decide⟩, by decide,
      fun rs h => by cases h⟩, by decide⟩
  exact ⟨rfl, ⟨ho.toCoreW.congr rfl, ho.commit_le_last⟩,
    ⟨(by decide : LogDec [C04Sys.exE]), Nat.le_refl _, (fun g h => by cases h), (fun h => by cases h),
     cfgOk_of_stable (c := C04Sys.exCfg) (by decide) (fun _ => by decide) i,
     cfgOk_of_stable (c := C04Sys.exCfg) (by decide) (fun _ => by decide) i⟩,
    fun _ h => by cases h⟩

/-- example: the initial state `C02Sys.ex0` satisfies the invariant `GInv` … -/
theorem ex0_ginv : GInv C02Sys.ex0 := by
  refine ⟨exNode_good, fun i => ⟨Nat.le_refl _, Nat.le_refl _⟩, fun c hc => ?_, fun c hc d hd _ _ => ?_⟩
  · have e : c = ⟨C04Sys.exE, 0, 0⟩ := List.mem_singleton.mp hc
    rw [e]
    intro _
    exact ⟨rfl, fun nid => cfgOk_of_stable (c := C04Sys.exCfg.payload) (by decide) (fun _ => by decide) nid⟩
  · have e : c = ⟨C04Sys.exE, 0, 0⟩ := List.mem_singleton.mp hc
    have e' : d = ⟨C04Sys.exE, 0, 0⟩ := List.mem_singleton.mp hd
    rw [e, e']

/-- … and the side condition `SideG` (one snapshot retained) -/
theorem ex0_sideG : SideG C02Sys.ex0 := fun _ => Nat.le_refl _

theorem ex0_reachable : ReachableG [1, 2, 3] C02Sys.ex0 :=
  .init _ C02Sys.ex0_init.1 C02Sys.ex0_init.2 ex0_sideG ex0_ginv

/-- example: in `ex0` every node tracks (nothing applied, no snapshot): the hypothesis of `tracks_in_sys_partial` -/
theorem ex0_tracks (i : Nat) : C12Track.Tracks (C02Sys.ex0.node i) := by
  have h0 : C12Track.Tracks (C04Sys.exNode 0) := by decide
  exact ⟨h0.toCore.congr rfl, fun h => by cases h⟩

/-- example: in `ex0` the task ledger of every node is consistent (nothing pending): the hypothesis of
`tasks_in_sys_partial` -/
theorem ex0_tasks (i : Nat) : C15Tasks.TasksOK (C02Sys.ex0.node i) := by
  have hp : C15Tasks.pending (C04Sys.exNode i) = [] := rfl
  exact ⟨⟨fun _ => rfl, Or.inl rfl⟩, fun _ => ⟨rfl, rfl, rfl⟩, by
    show (C15Tasks.pending (C04Sys.exNode i)).Nodup
    rw [hp]; exact List.nodup_nil⟩

/-- the election timeout of node 1 may be delivered in `ex0` (`Commit.Enabled`), and satisfies `EnabledG` -/
theorem ex1_enabled : Commit.Enabled C02Sys.ex0 1 .timeout 0 ∧ EnabledG C02Sys.ex0 1 .timeout :=
  enabled_iff.mpr ⟨by decide, trivial⟩

theorem ex1_sideG : SideG C02Sys.ex1 :=
  NodeSys.forall_setNode (P := fun _ m => 1 ≤ m.retain) (by decide) (fun _ _ => Nat.le_refl _)

/-- EXAMPLE (non-vacuity of `good_in_sys_partial`, `reachable_np_of_good`, …): `ex1` (node 1 is candidate of term 2
after its election timeout) is reachable in the restricted system, from the good initial state `ex0` -/
theorem ex1_reachable : ReachableG [1, 2, 3] C02Sys.ex1 :=
  .next C02Sys.ex0 C02Sys.ex1 ex0_reachable (.step 1 .timeout [] [] 0 ex1_enabled.1 ex1_enabled.2 rfl) C02Sys.ex1_side
    ex1_sideG

set_option maxRecDepth 100000 in
/-- EXAMPLE (non-vacuity of `tracks_in_sys_partial` and `tasks_in_sys_partial`): the step `ex0 → ex1` is a run (an
election timeout submits no task), and in `ex0` every node tracks and has a consistent ledger -/
example : RunGF [1, 2, 3] C02Sys.ex0 C02Sys.ex1 ∧ RunG [1, 2, 3] C02Sys.ex0 C02Sys.ex1 ∧
    (∀ i, C12Track.Tracks (C02Sys.ex0.node i)) ∧ (∀ i, C15Tasks.TasksOK (C02Sys.ex0.node i)) := by
  have h : RunGF [1, 2, 3] C02Sys.ex0 C02Sys.ex1 :=
    .step _ 1 .timeout [] [] 0 .refl ex1_enabled.1 ex1_enabled.2 rfl ⟨List.nodup_nil, fun t ht => by cases ht⟩
      C02Sys.ex1_side ex1_sideG
  exact ⟨h, runGF_run h, ex0_tracks, ex0_tasks⟩

/-- EXAMPLE: the hypotheses of `reqok_in_sys_partial` hold in `ex1` for node 2 and the vote request of node 1;
hence (by the theorem) node 2 handles it without failure and stays good -/
example :
    let q : VoteReq := { term := 2, src := 1, lastLogIndex := 1, lastLogTerm := 1 }
    [1, 2, 3].Nodup ∧ ReachableG [1, 2, 3] C02Sys.ex1 ∧ Commit.Enabled C02Sys.ex1 2 (.vote q) 0 ∧
    EnabledG C02Sys.ex1 2 (.vote q) ∧ (C02Sys.ex1.node 2).closed = "" ∧
    ((C02Sys.ex1.node 2).step (.vote q) [] []).panicked = none := by
  intro q
  obtain ⟨he, heG⟩ : Commit.Enabled C02Sys.ex1 2 (.vote q) 0 ∧ EnabledG C02Sys.ex1 2 (.vote q) :=
    enabled_iff.mpr ⟨by decide, by decide, Or.inr (by decide)⟩
  exact ⟨by decide, ex1_reachable, he, heG, rfl,
    (reqok_in_sys_partial _ (by decide) _ ex1_reachable 2 _ 0 he heG rfl [] []).2.2.1⟩

/-- EXAMPLE (crash images): whatever is on disk when node 1 dies while handling its election timeout in `ex0`
(after any number `k` of storage points) has a well-formed segment list -/
example (k : Nat) : C09.SegsOK (C05.crashDisk (C02Sys.ex0.node 1) .timeout [] [] k).log :=
  crashDisk_segsOK _ _ _ _ k ex1_enabled.1.ok2 (exNode_good 1).ordered.segs ⟨Nat.zero_le _, Nat.le_refl _⟩ rfl
    (fun _ => by decide)

/-- node 1 after it died during its election timeout, after the first storage point (the new term and its own vote
are on disk), and restarted -/
def exN : Node := ((restart (C05.crashDisk (C02Sys.ex0.node 1) .timeout [] [] 1) 1 true).getD {})


theorem exN_restart : restart (C05.crashDisk (C02Sys.ex0.node 1) .timeout [] [] 1) 1 true = some exN := by
  have h : (restart (C05.crashDisk (C02Sys.ex0.node 1) .timeout [] [] 1) 1 true).isSome = true := by decide
  unfold exN
  cases hr : restart (C05.crashDisk (C02Sys.ex0.node 1) .timeout [] [] 1) 1 true with
  | none => rw [hr] at h; cases h
  | some n => rfl

def exCrash : Commit.Sys := crashC C02Sys.ex0 1 .timeout exN

theorem exCrash_sideV : SideV [1, 2, 3] exCrash :=
  ⟨NodeSys.forall_setNode (P := fun _ m => m.configs.isBootstrapped = true ∧ m.configs.latest.voters = [1, 2, 3])
      (by decide) (fun _ _ => ⟨rfl, rfl⟩),
    NodeSys.forall_setNode (P := fun _ m => m.configs.latest.isStable = true) (by decide) (fun _ _ => rfl)⟩

theorem exCrash_sideG : SideG exCrash :=
  NodeSys.forall_setNode (P := fun _ m => 1 ≤ m.retain) (by decide) (fun _ _ => Nat.le_refl _)

/-- EXAMPLE (a crash INSIDE a step): node 1 dies during its election timeout in `ex0` after the first storage point
(`value.set`: term 2 and its own vote are on disk) and restarts; the resulting state is reachable in the restricted
system — so (by `good_in_sys_partial`) the restarted node is good: a follower of term 2 that has voted for itself -/
example : ReachableG [1, 2, 3] exCrash ∧ exN.term = 2 ∧ exN.votedFor = 1 ∧ exN.role = .follower :=
  ⟨.next C02Sys.ex0 exCrash ex0_reachable
    (.crash 1 .timeout [] [] 0 1 1 true exN ex1_enabled.1 ex1_enabled.2 (Or.inl rfl) exN_restart) exCrash_sideV exCrash_sideG,
   by decide, by decide, by decide⟩
end C19Sys
end Raft

#print axioms Raft.SysInv.ginv_reachable
#print axioms Raft.SysInv.crashDisk_segsOK
#print axioms Raft.C19Sys.good_in_sys_partial -- also C15
#print axioms Raft.C19Sys.reqok_in_sys_partial
#print axioms Raft.C19Sys.reachable_np_of_good -- also C03 C15
#print axioms Raft.C19Sys.state_machine_safety_sys_partial -- also C03
#print axioms Raft.C19Sys.applied_only_grows_sys_partial -- also C03
#print axioms Raft.C19Sys.ordered_in_sys_partial
#print axioms Raft.C19Sys.leader_cache_in_sys_partial -- also C06
#print axioms Raft.C19Sys.tracks_in_sys_partial -- also C12
#print axioms Raft.C19Sys.tasks_step_in_sys_partial
#print axioms Raft.C19Sys.tasks_in_sys_partial -- also C15 C07
