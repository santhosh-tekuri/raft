/-
The proved run of Props/AuditMember.lean (`m1 … m21`: election, no-op, configuration (3,2) adding node 4, its promotion
(4,2), crash + restart of node 4, commit with four voters) as a run of `MemberApplyCfg.ReachableT (1,1)` (the same
transitions; initially `snapTerm = 0` on every node) — and its CONTINUATION by a client update: the leader accepts the
update "a" at index 5 (`n22`), replicates it to the nodes 2 and 3 (`n23 … n25`), commits and applies it (`n26`) — with
the theorems of Props/C03Member.lean instantiated on it.
-/
import RaftVerif.Props.C03Member

namespace Raft
namespace C03MemberRun
open Node LogRel Commit Member MemberCommit
open MemberSide C08Member AuditMember
open MemberApplyCfg (ReachableT)
open C07Sys (altPost)

def RT (x : Member.Sys) : Prop := ReachableT (1, 1) x

theorem rt_next (x y : Member.Sys) (hx : RT x) (ht : TransR x y) : RT y := .next x y hx ht

theorem t0 : RT ex0 := .init ex0 ex0_initR (fun _ => rfl)

/-- `m1 … m21` again: the script checked in Props/AuditMember.lean is a run of `ReachableT` as well -/
theorem t21 : RT m21 := runM_sound rt_next scriptM t0 checkedM

theorem t19 : RT m19 := runM_sound rt_next _ t0 (Script.Checked.take _ _ 19 checkedM)

/-! ### the continuation: a client update is accepted, replicated, committed and applied -/

abbrev mNew : Op := .newEntries [{ typ := etUpdate, data := "a", task := 7 }]
/-- the leader accepts the update "a" at index 5 -/
def n22 : Member.Sys := stepM m21 1 mNew [] [] 0
def mReq6 : AppendReq :=
  { term := 2, src := 1, prevLogIndex := 4, prevLogTerm := 2, ldrCommitIndex := 4,
    entries := (n22.node 1).log.entries.drop 4 }
def n23 : Member.Sys := sendM n22 mReq6
def n24 : Member.Sys := stepM n23 2 (.append mReq6) [] [] 0
def n25 : Member.Sys := stepM n24 3 (.append mReq6) [] [] 0
/-- the leader commits index 5 and applies "a" -/
def n26 : Member.Sys := stepMP n25 1 (.replUpdates (mUpd 5)) 0 (altPost (n25.node 1) (mUpd 5) 5)

/-! ### the continuation: the leader DEMOTES ITSELF; once that configuration commits it stops leading (C11) -/

/-- the request: the present members, node 1 (the leader) to be demoted -/
def mDem : Config :=
  { nodes := [{ id := 1, addr := "a:1", voter := true, action := actDemote }, { id := 2, addr := "a:2", voter := true },
              { id := 3, addr := "a:3", voter := true }, { id := 4, addr := "a:4", voter := true }],
    index := 4, term := 2 }

theorem mDem_valid : configValid mDem = true := by
  unfold configValid
  have h1 : mDem.nodes.all nodeValid = true := by
    simp [mDem, nodeValid, addr1, addr2, addr3, addr4, actForceRemove, actPromote, actDemote]
  rw [h1]
  decide

/-- the leader introduces configuration (6,2): voters 2, 3, 4; node 1 a non-voter -/
def n27 : Member.Sys := stepMP n26 1 (.changeConfig 9 mDem) 0 (ccPost (n26.node 1) 9 mDem)
def mReq7 : AppendReq :=
  { term := 2, src := 1, prevLogIndex := 5, prevLogTerm := 2, ldrCommitIndex := 5,
    entries := (n27.node 1).log.entries.drop 5 }
def n28 : Member.Sys := sendM n27 mReq7
def n29 : Member.Sys := stepM n28 2 (.append mReq7) [] [] 0
def n30 : Member.Sys := stepM n29 3 (.append mReq7) [] [] 0
/-- the commit index of node 1 passes the entry of configuration (6,2) — two of the three voters 2, 3, 4 hold it —:
node 1 steps down -/
def n31 : Member.Sys := stepMP n30 1 (.replUpdates (mUpd 6)) 0 (altPost (n30.node 1) (mUpd 6) 6)

/-- the two continuations as scripts; nothing is asked of the node that moved (`ReachableT` has no side condition) -/
def scriptN : List ActM :=
  [.step 1 mNew 0, .send 1 mReq6 1, .step 2 (.append mReq6) 0, .step 3 (.append mReq6) 0, .commit 1 (mUpd 5) 5]

def scriptD : List ActM :=
  [.change 1 9 mDem mDem_valid, .send 1 mReq7 1, .step 2 (.append mReq7) 0, .step 3 (.append mReq7) 0,
   .commit 1 (mUpd 6) 6]

theorem checkedN : CheckedM (fun _ => True) m21 scriptN := by decide +kernel

theorem t26 : RT n26 := runM_sound rt_next scriptN t21 checkedN

theorem t25 : RT n25 := runM_sound rt_next _ t21 (Script.Checked.take _ _ 4 checkedN)

theorem checkedD : CheckedM (fun _ => True) n26 scriptD := by decide +kernel

theorem t30 : RT n30 := runM_sound rt_next _ t26 (Script.Checked.take _ _ 4 checkedD)

theorem t31 : RT n31 := runM_sound rt_next _ t30 (Script.Checked.drop _ _ 4 checkedD)

/-- the two commit steps of the leader, as they were checked -/
theorem ok25 : (ActM.commit 1 (mUpd 5) 5).OK (fun _ => True) n25 := Script.Checked.get _ _ 4 (by decide) checkedN
theorem ok30 : (ActM.commit 1 (mUpd 6) 6).OK (fun _ => True) n30 := Script.Checked.get _ _ 4 (by decide) checkedD

theorem st25 : (n25.node 1).step (.replUpdates (mUpd 5)) [] [] = altPost (n25.node 1) (mUpd 5) 5 :=
  ActM.commit_step ok25

theorem st30 : (n30.node 1).step (.replUpdates (mUpd 6)) [] [] = altPost (n30.node 1) (mUpd 6) 6 :=
  ActM.commit_step ok30

theorem en25 : Member.Enabled n25 1 (.replUpdates (mUpd 5)) 0 ∧ ReqG n25 1 (.replUpdates (mUpd 5)) :=
  enabledM_iff.mpr ⟨ok25.1, ok25.2.1⟩

theorem en30 : Member.Enabled n30 1 (.replUpdates (mUpd 6)) 0 ∧ ReqG n30 1 (.replUpdates (mUpd 6)) :=
  enabledM_iff.mpr ⟨ok30.1, ok30.2.1⟩

/-! ### the theorems of Props/C03Member.lean on the run -/

open C03Member

theorem toR {x : Member.Sys} (h : RT x) : ReachableR (1, 1) x := MemberApplyCfg.ReachableT.toR h

set_option maxRecDepth 100000 in
/-- EXAMPLE (`state_machine_safety_member_partial`): `n26` is reachable; the leader 1 has applied index 5 — the no-op (2),
the configuration entries (3), (4) and the update "a" (5): `applied = ["a"]`; node 2 has applied index 4: `applied = []`
— a prefix, as the theorem says; and entry 5 is committed -/
example : ReachableR (1, 1) n26 ∧ (n26.node 1).fsm.index = 5 ∧ (n26.node 1).fsm.applied = ["a"] ∧
    (n26.node 2).fsm.index = 4 ∧ (n26.node 2).fsm.applied = [] ∧
    (n26.node 2).fsm.applied <+: (n26.node 1).fsm.applied ∧
    Committed n26.cm (5, termAt (n26.node 1).log.entries 5) :=
  have s := state_machine_safety_member_partial (1, 1) n26 (toR t26)
  have h : (n26.node 1).fsm.index = 5 ∧ (n26.node 1).fsm.applied = ["a"] ∧
      (n26.node 2).fsm.index = 4 ∧ (n26.node 2).fsm.applied = [] := by decide +kernel
  ⟨toR t26, h.1, h.2.1, h.2.2.1, h.2.2.2,
    (s.2.2.1 2 1 (by rw [h.1, h.2.2.1]; decide)).2, s.2.1 1 5 (by decide) (by rw [h.1]; decide)⟩

set_option maxRecDepth 100000 in
/-- EXAMPLE (`applied_only_grows_member_partial`): the hypotheses hold for the step `n25 → n26` of the leader (the
match-index reports that commit index 5); the applied sequence grows from `[]` to `["a"]` -/
example : (n25.node 1).fsm.applied = [] ∧ ((n25.node 1).step (.replUpdates (mUpd 5)) [] []).fsm.applied = ["a"] ∧
    (n25.node 1).fsm.index ≤ ((n25.node 1).step (.replUpdates (mUpd 5)) [] []).fsm.index :=
  have h : (n25.node 1).fsm.applied = [] ∧ (altPost (n25.node 1) (mUpd 5) 5).fsm.applied = ["a"] ∧
      (n25.node 1).closed = "" := by decide +kernel
  ⟨h.1, by rw [st25]; exact h.2.1,
    (applied_only_grows_member_partial (1, 1) n25 (toR t25) 1 _ [] [] 0 en25.1 en25.2 h.2.2).1⟩

set_option maxRecDepth 100000 in
/-- EXAMPLE (`applied_grows_or_restarts_member_partial`): the transition `m19 → m20` is the crash + restart of node 4,
which had applied index 3; afterwards its state machine is empty (the second alternative), every other node is
untouched -/
example : TransR m19 m20 ∧ (m19.node 4).fsm.index = 3 ∧ (m20.node 4).fsm.index = 0 ∧ (m20.node 4).fsm.applied = [] ∧
    (((m19.node 4).fsm.applied <+: (m20.node 4).fsm.applied ∧ (m19.node 4).fsm.index ≤ (m20.node 4).fsm.index) ∨
      ((m20.node 4).fsm = {} ∧ (m20.node 4).commitIndex = 0 ∧ (m20.node 4).role = .follower)) :=
  have tr : TransR m19 m20 :=
    .crash 4 .timeout [] [] 0 0 1 true k4 (enM_plain _ 4 _ (by decide) rfl).1 (enM_plain _ 4 _ (by decide) rfl).2
      (Or.inr rfl) (Nat.le_refl _) k4_restart
  have h : (m19.node 4).fsm.index = 3 ∧ (m20.node 4).fsm.index = 0 ∧ (m20.node 4).fsm.applied = [] := by
    decide +kernel
  ⟨tr, h.1, h.2.1, h.2.2, applied_grows_or_restarts_member_partial (1, 1) m19 m20 (toR t19) tr 4⟩

set_option maxRecDepth 100000 in
/-- EXAMPLE (`fsm_config_is_committed_member_partial`): in `n31` node 1 has applied index 6 and its state machine holds
configuration (6,2) — the one that demotes it —, the last configuration entry of the applied prefix, committed; the
restarted node 4 of `m20` has applied nothing and holds no configuration (the first alternative) -/
example : ReachableT (1, 1) n31 ∧ (n31.node 1).fsm.index = 6 ∧ (n31.node 1).fsm.config.index = 6 ∧
    CfgLast ((n31.node 1).log.entries.take (n31.node 1).fsm.index) (n31.node 1).fsm.config ∧
    Committed n31.cm ((n31.node 1).fsm.config.index, (n31.node 1).fsm.config.term) ∧
    (m20.node 4).fsm.config.index = 0 :=
  have h : (n31.node 1).fsm.index = 6 ∧ (n31.node 1).fsm.config.index = 6 := by decide +kernel
  have c := (fsm_config_is_committed_member_partial (1, 1) n31 t31 1).resolve_left
    (fun h0 => absurd h0.1 (by rw [h.2]; decide))
  ⟨t31, h.1, h.2, c.2.1, c.2.2.2.2.1, by decide +kernel⟩

set_option maxRecDepth 100000 in
/-- EXAMPLE (`leader_is_voter_of_committed_member_partial`): in `n26` node 1 is an open leader whose latest
configuration (4,2) is committed: it is a voter of it -/
example : (n26.node 1).closed = "" ∧ (n26.node 1).role = .leader ∧ (n26.node 1).configs.isCommitted = true ∧
    (n26.node 1).configs.latest.isVoter 1 = true :=
  have h : (n26.node 1).closed = "" ∧ (n26.node 1).role = .leader ∧ (n26.node 1).configs.isCommitted = true := by
    decide +kernel
  ⟨h.1, h.2.1, h.2.2, leader_is_voter_of_committed_member_partial (1, 1) n26 (toR t26) 1 h.1 h.2.1 h.2.2⟩

set_option maxRecDepth 100000 in
/-- EXAMPLE (`self_demoted_leader_stops_partial`, a real self-demotion): in `n30` node 1 leads with the uncommitted
latest configuration (6,2) in which it is no voter (it asked for its own demotion, `n27`); the reports of the nodes 2
and 3 move its commit index to 6, past that entry: afterwards the configuration is committed, node 1 is not a voter of
it — and it is FOLLOWER (still open: it was demoted, not removed) -/
example : (n30.node 1).role = .leader ∧ (n30.node 1).commitIndex = 5 ∧ (n30.node 1).configs.latest.index = 6 ∧
    (n30.node 1).configs.isCommitted = false ∧ (n30.node 1).configs.latest.isVoter 1 = false ∧
    ((n30.node 1).step (.replUpdates (mUpd 6)) [] []).commitIndex = 6 ∧
    ((n30.node 1).step (.replUpdates (mUpd 6)) [] []).role = .follower ∧
    (((n30.node 1).step (.replUpdates (mUpd 6)) [] []).role ≠ .leader ∨
      ((n30.node 1).step (.replUpdates (mUpd 6)) [] []).closed ≠ "") :=
  have h : (n30.node 1).role = .leader ∧ (n30.node 1).commitIndex = 5 ∧ (n30.node 1).configs.latest.index = 6 ∧
      (n30.node 1).configs.isCommitted = false ∧ (n30.node 1).configs.latest.isVoter 1 = false ∧
      (n30.node 1).closed = "" := by decide +kernel
  have h' : (altPost (n30.node 1) (mUpd 6) 6).commitIndex = 6 ∧ (altPost (n30.node 1) (mUpd 6) 6).role = .follower ∧
      (altPost (n30.node 1) (mUpd 6) 6).configs.isCommitted = true ∧
      (altPost (n30.node 1) (mUpd 6) 6).configs.latest.isVoter 1 = false := by decide +kernel
  ⟨h.1, h.2.1, h.2.2.1, h.2.2.2.1, h.2.2.2.2.1, by rw [st30]; exact h'.1, by rw [st30]; exact h'.2.1,
    self_demoted_leader_stops_partial (1, 1) n30 (toR t30) 1 _ [] [] 0 en30.1 en30.2 h.2.2.2.2.2
      (by rw [st30]; exact h'.2.2.1) (by rw [st30]; exact h'.2.2.2)⟩

end C03MemberRun
end Raft

#print axioms Raft.C03MemberRun.t26
#print axioms Raft.C03MemberRun.t31
