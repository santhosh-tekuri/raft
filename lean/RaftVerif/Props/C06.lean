/-
C06 — Acknowledged entries are durable on a majority of voters (node-local part).

What is proved here, for all states and inputs of the functions `nodediff` ties to /repo:
* the index the leader selects is acknowledged by a majority of the VOTERS of the latest
  configuration, self counted only if voter, non-voters not at all (`commit_index_has_majority`);
* the leader flushes its own log up to the index before the commit index moves
  (`leader_flushes_before_commit`, `flush_covers`);
* a follower that appended something in a request flushes before it acknowledges
  (`follower_flush_before_ack`).
The cluster-level composition ("durable on a majority" across nodes and crashes) is Props/C06Sys.lean (fixed
configuration), Props/C06Member.lean (membership changes) and Props/C06Snap.lean (snapshots).
-/
import RaftVerif.Lemmas.Majority
import RaftVerif.Lemmas.StepInv
import RaftVerif.Lemmas.ReplSteps

namespace Raft
namespace C06
open Node

/-- every voter of the latest configuration contributes exactly one match index; non-voters none -/
theorem voterMatches_length (s : Node) : s.voterMatches.length = s.configs.latest.numVoters := by
  unfold Node.voterMatches Config.numVoters; simp

/-- **the commit rule** (general path): the index selected by `majorityMatchIndex` is reached by the
match indexes of more than half of the voters of the latest configuration. -/
theorem commit_index_has_majority (s : Node) (hfast : ¬ (s.ldr.numVoters = 1 ∧ s.ldr.node.voter = true))
    (hv : s.configs.latest.numVoters ≠ 0) :
    2 * (s.voterMatches.countP (fun m => decide (m ≥ s.majorityMatchIndex.1))) > s.configs.latest.numVoters := by
  have hne : s.voterMatches ≠ [] := by
    intro h; apply hv; rw [← voterMatches_length, h]; rfl
  have hN : s.majorityMatchIndex.1 = ((s.voterMatches.mergeSort geB)[s.voterMatches.length / 2]?).getD 0 := by
    unfold Node.majorityMatchIndex
    rw [if_neg hfast]
    show ((s.voterMatches.mergeSort geB)[s.voterMatches.length / 2 + 1 - 1]?).getD 0 = _
    rw [Nat.add_sub_cancel]
  rw [hN, ← voterMatches_length]
  exact majority_selected s.voterMatches hne

/-- the single-voter fast path is exact when the leader's caches describe the latest configuration -/
theorem commit_index_fast_path (s : Node) (hfast : s.ldr.numVoters = 1 ∧ s.ldr.node.voter = true)
    (hc1 : s.ldr.numVoters = s.configs.latest.numVoters) (hc2 : s.ldr.node = s.configs.latest.get s.nid)
    (hself : (s.configs.latest.get s.nid).id = s.nid) :
    s.majorityMatchIndex.1 = s.lastLogIndex ∧
    ∀ m ∈ s.voterMatches, m = s.lastLogIndex := by
  unfold Node.majorityMatchIndex
  rw [if_pos hfast]
  refine ⟨rfl, ?_⟩
  -- exactly one voter, and self is a voter: the only voter is self
  intro m hm
  unfold Node.voterMatches at hm
  obtain ⟨n, hn, rfl⟩ := List.mem_map.mp hm
  have hlen : (s.configs.latest.nodes.filter (·.voter)).length = 1 := by
    have := hc1; unfold Config.numVoters at this; rw [← this]; exact hfast.1
  -- self is in the filtered list
  have hselfv : (s.configs.latest.get s.nid).voter = true := by rw [← hc2]; exact hfast.2
  have hfind : ∃ x, s.configs.latest.find? s.nid = some x := by
    unfold Config.get at hselfv
    cases hx : s.configs.latest.find? s.nid with
    | none => rw [hx] at hselfv; simp at hselfv
    | some x => exact ⟨x, rfl⟩
  obtain ⟨x, hx⟩ := hfind
  have hxv : x.voter = true := by unfold Config.get at hselfv; rw [hx] at hselfv; exact hselfv
  have hxid : x.id = s.nid := by unfold Config.get at hself; rw [hx] at hself; exact hself
  have hxmem : x ∈ s.configs.latest.nodes.filter (·.voter) := by
    unfold Config.find? at hx
    exact List.mem_filter.mpr ⟨List.mem_of_find?_eq_some hx, hxv⟩
  obtain ⟨y, hy⟩ := List.length_eq_one_iff.mp hlen
  rw [hy] at hn hxmem
  simp only [List.mem_singleton] at hn hxmem
  rw [hn, ← hxmem, hxid]; simp

/-- entries in all but the last segment are synced, and nothing beyond the end is -/
def LogWF (l : NLog) : Prop := l.lastSegPrev ≤ l.flushed ∧ l.flushed ≤ l.last

/-- `Log.CommitN(n)` makes every entry up to `min n last` durable. -/
theorem flush_covers (l : NLog) (n : Nat) (h : LogWF l) :
    (l.commitN n).flushed ≥ min n l.last ∧ (l.commitN n).entries = l.entries := by
  unfold NLog.commitN
  split
  · exact ⟨by simp only; omega, rfl⟩
  · obtain ⟨h1, h2⟩ := h
    exact ⟨by omega, rfl⟩

/-- `leader.setCommitIndex(i)` = flush up to `i`, THEN move the commit index: at the moment the commit
index moves, the leader's own log is durable up to `min i last`. -/
theorem leader_flushes_before_commit (s : Node) (i : Nat) (h : LogWF s.log) :
    (s.commitLog i).log.flushed ≥ min i s.log.last ∧ (s.commitLog i).commitIndex = s.commitIndex := by
  unfold Node.commitLog Node.point
  exact ⟨(flush_covers s.log i h).1, rfl⟩

/-- A follower that appended at least one entry while handling an append request ends the request with
`commitLog(lastLogIndex)` before the result is returned: everything it holds is then durable. -/
theorem follower_flush_before_ack (x : Node) (h : LogWF x.log) (hl : x.lastLogIndex = x.log.last) :
    (x.commitLog x.lastLogIndex).log.flushed = (x.commitLog x.lastLogIndex).log.last := by
  rw [hl]
  obtain ⟨h1, h2⟩ := flush_covers x.log x.log.last h
  unfold Node.commitLog Node.point
  simp only
  have hlast : (x.log.commitN x.log.last).last = x.log.last := by
    unfold NLog.commitN; split <;> rfl
  rw [hlast]
  have hle : (x.log.commitN x.log.last).flushed ≤ x.log.last := by
    unfold NLog.commitN; split
    · exact Nat.le_refl _
    · exact h.2
  omega

end C06
end Raft

#print axioms Raft.C06.commit_index_has_majority
#print axioms Raft.C06.commit_index_fast_path
#print axioms Raft.C06.flush_covers
#print axioms Raft.C06.leader_flushes_before_commit
#print axioms Raft.C06.follower_flush_before_ack
#print axioms Raft.majority_selected
#print axioms Raft.Repl.match_index_sound
#print axioms Raft.Repl.install_match_index
