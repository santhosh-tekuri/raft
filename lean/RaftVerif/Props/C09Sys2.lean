/-
C09 / C04 / C02 / C03 on the cluster-level transition system WITH LOCAL SNAPSHOTS AND LOG COMPACTION `Raft.Snap2`
(Sys/Snap2.lean) — the second of the snapshot stages: in addition to stage 1 (Sys/Snap.lean, Props/C09Sys.lean) `.snapTaken` compacts the log (`Raft.compactLog`: `log.prev` becomes positive,
`Log.Get` fails at or below it), nodes restart from a compacted log plus their newest snapshot file, and append
requests, elections, replication bookkeeping and the commit rule run on compacted logs.
NOT in this stage: installation of snapshots (`.install`), `.shutdown`, the compaction a leader performs when
replication goroutines report progress (`leader.checkLogCompact`: replication updates report no compaction).  See the
header of Sys/Snap2.lean for the complete list of assumptions (in particular the side conditions `Side2`: segment
lists are well formed and no log is compacted exactly up to its snapshot index).

Method: every node is looked at with its log UN-COMPACTED (`Sys.vnode i = U (base i) (node i)`, `base i` the ghost record
of what compaction removed; the virtual log `Sys.vlog i` starts at index 1).  The cluster of the virtual nodes runs in the
system of stage 1, so its invariant `SnapInv.SInv` holds in every reachable state (`SnapInv2.inv2_reachable`,
Lemmas/SnapInv2.lean); on the real nodes the invariant adds `PrevOK`: the log starts at or below the snapshot index.
-/
import RaftVerif.Lemmas.SnapInv2
import RaftVerif.Props.C09Sys

namespace Raft
namespace C09Sys2
open Node Election LogRel CommitRel Commit C02Sys C03Sys SnapRel SnapRelU SnapSim Snap Snap2 SnapInv SnapInv2

section
variable {V : List Nat}

/-- what the real log still holds is what the virtual log holds there -/
theorem get_virtual (x : Snap2.Sys) (i k : Nat) (h : (x.node i).log.prev < k) :
    (x.node i).log.get? k = (x.vnode i).log.get? k := SnapInv2.get_virtual x i k h

theorem get_some_prev {l : NLog} {k : Nat} {e : Entry} (h : l.get? k = some e) : l.prev < k :=
  (NLog.get?_some_le h).1

/-- the virtual log: `Log.Get(k)` of the virtual node is entry number `k - 1` of `vlog` -/
theorem vget (x : Snap2.Sys) (i k : Nat) (hk : 1 ≤ k) : (x.vnode i).log.get? k = (x.vlog i)[k - 1]? :=
  SnapInv2.vget x i k hk

/-! ## from the view to the real logs

What the theorems of this file and of Props/C09Sys3.lean, C09Sys4.lean, C09Sys5.lean say of the REAL logs uses of the system
only the invariant of stage 1 for the view and `PrevOK`: it is stated here for any state of `Snap2.Sys`. -/

theorem log_matching_of_view (y : Snap2.Sys) (hS : SInv V (view y)) (i j k : Nat)
    (a b : Entry) (ha : (y.node i).log.get? k = some a) (hb : (y.node j).log.get? k = some b)
    (ht : a.term = b.term) :
    (∀ k', k' ≤ k → ∀ a' b', (y.node i).log.get? k' = some a' → (y.node j).log.get? k' = some b' → a' = b') ∧
    (∀ k', k' ≤ k → ∀ a' b', (y.vnode i).log.get? k' = some a' → (y.vnode j).log.get? k' = some b' → a' = b') := by
  rw [get_virtual y i k (get_some_prev ha)] at ha
  rw [get_virtual y j k (get_some_prev hb)] at hb
  have key := C09Sys.log_matching_of_inv (view y) hS i j k a b ha hb ht
  refine ⟨fun k' hk a' b' ha' hb' => ?_, key⟩
  rw [get_virtual y i k' (get_some_prev ha')] at ha'
  rw [get_virtual y j k' (get_some_prev hb')] at hb'
  exact key k' hk a' b' ha' hb'

theorem leader_completeness_of_view (hV : V.Nodup) (y : Snap2.Sys) (hS : SInv V (view y))
    (hP : ∀ i, PrevOK (y.node i)) :
    (∀ i, (y.node i).role = .leader → ∀ m ∈ y.cs.committed, m.2 ≤ (y.node i).term →
      ∃ e, (y.vnode i).log.get? m.1 = some e ∧ e.term = m.2 ∧
        ((y.node i).log.prev < m.1 → (y.node i).log.get? m.1 = some e) ∧
        (m.1 ≤ (y.node i).log.prev → m.1 ≤ (y.node i).snapIndex)) ∧
    (∀ i j k, (y.node i).role = .leader → (y.node j).term ≤ (y.node i).term → 1 ≤ k →
      k ≤ (y.node j).commitIndex →
      (y.vnode i).log.get? k = (y.vnode j).log.get? k ∧ ((y.vnode j).log.get? k).isSome = true) ∧
    (∀ m ∈ y.cs.committed, ∀ c ∈ y.cs.T, m.2 < c.e.term → Anc y.cs.T m (key c)) := by
  obtain ⟨p1, p2, p3⟩ := C09Sys.leader_completeness_of_inv hV (view y) hS
  refine ⟨fun i hl m hm hle => ?_, p2, p3⟩
  obtain ⟨e, he, het⟩ := p1 i hl m hm hle
  exact ⟨e, he, het, fun hlt => by rw [get_virtual y i m.1 hlt]; exact he,
    fun hle' => Nat.le_trans hle' (hP i).le⟩

/-- `compaction_keeps_servable_partial` from the invariant of the view and `PrevOK`; the newest snapshot file, when there
is a snapshot, is given as the head of the listing -/
theorem compaction_keeps_servable_of_view (y : Snap2.Sys) (hS : SInv V (view y)) (i : Nat) (hP : PrevOK (y.node i)) :
    (y.node i).log.prev ≤ (y.node i).snapIndex ∧ (y.node i).snapIndex ≤ (y.node i).commitIndex ∧
    (0 < (y.node i).snapIndex → ∃ f t, (y.node i).snapsDisk = f :: t ∧ f.index = (y.node i).snapIndex ∧
      f.data = ups ((y.vlog i).take f.index)) ∧
    (∀ k, (y.node i).log.prev < k → k ≤ (y.node i).log.last →
      ∃ e, (y.node i).log.get? k = some e ∧ (y.vlog i)[k - 1]? = some e ∧ e.index = k) := by
  have so : SnapOK (y.vnode i) := hS.snap i
  have hhead : (y.node i).snapIndex = (headOf (y.node i).snapsDisk).index := so.head
  refine ⟨hP.le, ?_, fun hpos => ?_, fun k hk hkl => ?_⟩
  · show (y.vnode i).snapIndex ≤ (y.vnode i).commitIndex
    rw [so.head]; exact so.files.head_le
  · cases hsd : (y.node i).snapsDisk with
    | nil => rw [hsd] at hhead; exact absurd hhead (by show ¬ _ = 0; omega)
    | cons f t =>
      have hf : f ∈ (y.vnode i).snapsDisk := by
        show f ∈ (y.node i).snapsDisk; rw [hsd]; exact List.mem_cons_self ..
      refine ⟨f, t, rfl, ?_, (so.files.files f hf).2.2⟩
      rw [hhead, hsd]; rfl
  · have hn : NWF (E σ0 (y.vnode i)) := nwf hS.cinv i
    have hlast : (y.vlog i).length = (y.node i).log.last := vlog_length2 y i
    have hk1 : k - 1 < (y.vlog i).length := by omega
    refine ⟨(y.vlog i)[k - 1], ?_, List.getElem?_eq_getElem hk1, ?_⟩
    · rw [get_virtual y i k hk, vget y i k (by omega)]
      exact List.getElem?_eq_getElem hk1
    · have := hn.contig (k - 1) hk1
      show (y.vlog i)[k - 1].index = k
      rw [show (y.vlog i)[k - 1].index = k - 1 + 1 from this]; omega

/-- … in the form the theorems state it -/
theorem servable_mem {l : List SnapFile} {P : SnapFile → Prop} (h : ∃ f t, l = f :: t ∧ P f) : ∃ f ∈ l, P f := by
  obtain ⟨f, t, e, hp⟩ := h
  exact ⟨f, by rw [e]; exact List.mem_cons_self .., hp⟩

/-- **C04 with compaction — log matching (partial, stage 2).** In every state of the cluster reachable in
`Raft.Snap2` (`Reachable2 V`: any schedule, message delay / loss / duplication / reordering, crashes at any storage
point and restarts from the — possibly compacted — log and the newest snapshot file, snapshots taken and logs
compacted at any time; assumptions: header of Sys/Snap2.lean): if the logs of nodes `i` and `j` hold entries with the
same term at index `k`, then at every index `k' ≤ k` that BOTH logs still hold they hold the SAME entry; and the same
for the virtual logs (`vnode`: compacted-away entries included) at every index `k' ≤ k`. -/
theorem log_matching_sys_snap_partial (hV : V.Nodup) (x : Snap2.Sys) (h : Reachable2 V x) (i j k : Nat)
    (a b : Entry) (ha : (x.node i).log.get? k = some a) (hb : (x.node j).log.get? k = some b)
    (ht : a.term = b.term) :
    (∀ k', k' ≤ k → ∀ a' b', (x.node i).log.get? k' = some a' → (x.node j).log.get? k' = some b' → a' = b') ∧
    (∀ k', k' ≤ k → ∀ a' b', (x.vnode i).log.get? k' = some a' → (x.vnode j).log.get? k' = some b' → a' = b') :=
  log_matching_of_view x (inv2_reachable hV h).1.sinv i j k a b ha hb ht

/-- **C02 with compaction — leader completeness (partial, stage 2).** In every reachable state of `Raft.Snap2`:
1. every leader holds — in its virtual log, and in its real log unless the index was compacted away, in which case
   the index is covered by the leader's own snapshot — every entry of the ledger `committed` whose term is not above
   its own;
2. every leader `i` whose term is at least the term of node `j` holds (virtually), at every index within `j`'s commit
   index, the very entry `j` holds there — where `j`'s commit index may come from a snapshot file read at restart;
3. every created entry of a later term extends every ledger entry. -/
theorem leader_completeness_sys_snap_partial (hV : V.Nodup) (x : Snap2.Sys) (h : Reachable2 V x) :
    (∀ i, (x.node i).role = .leader → ∀ m ∈ x.cs.committed, m.2 ≤ (x.node i).term →
      ∃ e, (x.vnode i).log.get? m.1 = some e ∧ e.term = m.2 ∧
        ((x.node i).log.prev < m.1 → (x.node i).log.get? m.1 = some e) ∧
        (m.1 ≤ (x.node i).log.prev → m.1 ≤ (x.node i).snapIndex)) ∧
    (∀ i j k, (x.node i).role = .leader → (x.node j).term ≤ (x.node i).term → 1 ≤ k →
      k ≤ (x.node j).commitIndex →
      (x.vnode i).log.get? k = (x.vnode j).log.get? k ∧ ((x.vnode j).log.get? k).isSome = true) ∧
    (∀ m ∈ x.cs.committed, ∀ c ∈ x.cs.T, m.2 < c.e.term → Anc x.cs.T m (key c)) :=
  leader_completeness_of_view hV x (inv2_reachable hV h).1.sinv (inv2_reachable hV h).1.prev

/-- **C03 with compaction — state-machine safety (partial, stage 2).** In every reachable state of `Raft.Snap2`, on
every node — whatever mixture of applying log entries, taking snapshots, compacting the log, crashing and restoring the
state machine from a snapshot file at restart produced its state:
1. the state machine holds exactly the update payloads of the entries `1 … fsm.index` of its virtual log, in order,
   and never ran ahead of the commit index;
2. every entry it has been fed is committed;
3. a node that applied no more than another holds (virtually) the same entries up to its applied index and its command
   sequence is a prefix of the other's; hence any two command sequences are prefix-comparable. -/
theorem state_machine_safety_sys_snap_partial (hV : V.Nodup) (x : Snap2.Sys) (h : Reachable2 V x) :
    (∀ i, (x.node i).fsm.index ≤ (x.node i).commitIndex ∧
      (x.node i).fsm.index ≤ (x.vlog i).length ∧
      (x.node i).fsm.applied = ups ((x.vlog i).take (x.node i).fsm.index)) ∧
    (∀ i k, 1 ≤ k → k ≤ (x.node i).fsm.index → Committed (view x).cs (k, termAt (x.vlog i) k)) ∧
    (∀ i j, (x.node i).fsm.index ≤ (x.node j).fsm.index →
      (x.vlog i).take (x.node i).fsm.index = (x.vlog j).take (x.node i).fsm.index ∧
      (x.node i).fsm.applied <+: (x.node j).fsm.applied) ∧
    (∀ i j, (x.node i).fsm.applied <+: (x.node j).fsm.applied ∨
      (x.node j).fsm.applied <+: (x.node i).fsm.applied) :=
  C09Sys.state_machine_safety_of_inv (view x) (inv2_reachable hV h).1.sinv

/-- **C09 — a snapshot is a committed prefix (partial, stage 2).** In every reachable state of `Raft.Snap2`, for every
snapshot file `f` that node `i` ever had on disk (the ghost ledger `snaps`) and for every file on its disk now:
1. `1 ≤ f.index ≤ snapIndex ≤ commitIndex`: a snapshot never contains an uncommitted update;
2. `f.data` is the list of update payloads of the entries `1 … f.index` of node `i`'s virtual log — the snapshot is
   the replay of the log up to its index, including the part of the log that was compacted away since;
3. and it is the replay of the virtual log of EVERY node `j` whose commit index covers `f.index`. -/
theorem snapshot_is_committed_prefix_partial (hV : V.Nodup) (x : Snap2.Sys) (h : Reachable2 V x) :
    ∀ i f, ((i, f) ∈ x.snaps ∨ f ∈ (x.node i).snapsDisk) →
      1 ≤ f.index ∧ f.index ≤ (x.node i).snapIndex ∧ (x.node i).snapIndex ≤ (x.node i).commitIndex ∧
      (∀ k, 1 ≤ k → k ≤ f.index → Committed (view x).cs (k, termAt (x.vlog i) k)) ∧
      f.data = ups ((x.vlog i).take f.index) ∧
      ∀ j, f.index ≤ (x.node j).commitIndex → f.data = ups ((x.vlog j).take f.index) :=
  C09Sys.snapshot_is_committed_prefix_of_inv (view x) (inv2_reachable hV h).1.sinv

/-- **C09 — compaction keeps every follower servable (partial, stage 2).** In every reachable state of `Raft.Snap2`,
for every node `i`:
1. the log starts at or below the snapshot index (`log.prev ≤ snapIndex ≤ commitIndex`): every index the log no longer
   holds is covered by the node's newest snapshot;
2. if anything was compacted away, that snapshot is a file on the node's disk, its index is the snapshot index and its
   content is the replay of the (virtual) log up to there — which, by `snapshot_is_committed_prefix_partial`, is the
   committed prefix on every node;
3. every index above `log.prev` up to the last index is answered by `Log.Get` with the entry of the virtual log.
So a leader can bring ANY follower up to date: from its log above `log.prev`, with its snapshot at or below. -/
theorem compaction_keeps_servable_partial (hV : V.Nodup) (x : Snap2.Sys) (h : Reachable2 V x) (i : Nat) :
    (x.node i).log.prev ≤ (x.node i).snapIndex ∧ (x.node i).snapIndex ≤ (x.node i).commitIndex ∧
    (0 < (x.node i).snapIndex → ∃ f ∈ (x.node i).snapsDisk, f.index = (x.node i).snapIndex ∧
      f.data = ups ((x.vlog i).take f.index)) ∧
    (∀ k, (x.node i).log.prev < k → k ≤ (x.node i).log.last →
      ∃ e, (x.node i).log.get? k = some e ∧ (x.vlog i)[k - 1]? = some e ∧ e.index = k) :=
  have h := compaction_keeps_servable_of_view x (inv2_reachable hV h).1.sinv i ((inv2_reachable hV h).1.prev i)
  ⟨h.1, h.2.1, fun hpos => servable_mem (h.2.2.1 hpos), h.2.2.2⟩

end

/-! ### Examples (non-vacuity): three voters, every node bootstrapped with the same configuration entry (1,1).
A reachable state in which the snapshot operations (`.snapTaken` included) have been used is PROVED reachable in
`Raft.Snap2`; a scenario with a real compaction is EVALUATED. -/

/-- example initial state: `C02Sys.ex0`, nothing compacted away -/
def exY0 : Snap2.Sys := { cs := C02Sys.ex0, snaps := [], base := fun _ => [] }

/-- node 2 is asked for a snapshot, the snapshot goroutine runs (and refuses: nothing was applied since the last
snapshot), the result is handed over by `.snapTaken` -/
def exZ1 : Snap2.Sys := stepS exY0 2 (.takeSnapshot 7 0) [] [] 0
def exZ2 : Snap2.Sys := stepS exZ1 2 .snapRun [] [] 0
def exZ3 : Snap2.Sys := stepS exZ2 2 .snapTaken [] [] 0

theorem exSide2 (x : Snap2.Sys) (n : Node) (hn : n.configs = (C04Sys.exNode 2).configs)
    (hl : n.log = (C04Sys.exNode 2).log)
    (hx : x.cs.rp.el.node = setNode C04Sys.exNode 2 n) : Side2 [1, 2, 3] x := by
  have hnode : ∀ i, x.node i = setNode C04Sys.exNode 2 n i := fun i => by
    show x.cs.rp.el.node i = _; rw [hx]
  have hlog : ∀ i, (x.node i).log = (C04Sys.exNode 2).log := fun i => by
    rw [hnode i]
    unfold setNode
    split
    · exact hl
    · rfl
  refine ⟨⟨fun i => ?_, fun i => ?_⟩, fun i e he ht => ?_, fun i => ?_, fun i => Or.inl ?_⟩
  · show (x.node i).configs.isBootstrapped = true ∧ (x.node i).configs.latest.voters = _
    rw [hnode i]; unfold setNode
    split
    · rw [hn]; exact ⟨rfl, rfl⟩
    · exact ⟨rfl, rfl⟩
  · show (x.node i).configs.latest.isStable = true
    rw [hnode i]; unfold setNode
    split
    · rw [hn]; decide
    · rfl
  · have he' : e ∈ (uncLog (x.base i) (x.node i).log).entries := he
    rw [uncLog_entries0 _ (by rw [hlog i]; rfl), hlog i] at he'
    have : e = C04Sys.exE := List.mem_singleton.mp he'
    subst this; rfl
  · rw [hlog i]
    exact ⟨by decide, rfl, by decide⟩
  · rw [hlog i]; rfl

theorem exY0_init : Snap2.Init exY0 :=
  ⟨C09Sys.exS0_init.1, fun _ => rfl, fun _ => rfl, fun _ => rfl⟩

set_option maxRecDepth 100000 in
/-- example: `exZ3` is reachable in `Raft.Snap2` — the hypotheses of the theorems of this file hold for a state in
which the snapshot operations, `.snapTaken` included, have been used -/
example : [1, 2, 3].Nodup ∧ Reachable2 [1, 2, 3] exZ3 ∧ (exZ3.node 2).snapResult = none ∧
    (exZ2.node 2).snapResult = some { task := 7, err := "plain:noUpdates" } := by
  have en : ∀ (x : Commit.Sys) (op : Op), OpOKS op → (∀ q, op ≠ .vote q) → (∀ q, op ≠ .append q) →
      (∀ b, op ≠ .newEntries b) → (∀ t c, op ≠ .changeConfig t c) → (∀ a b c, op ≠ .voteResult a b c) →
      (∀ us, op ≠ .replUpdates us) → Snap.Enabled x 2 op 0 := C09Sys.exEnabled
  have t1 : Snap2.Trans exY0 exZ1 :=
    .step 2 (.takeSnapshot 7 0) [] [] 0
      (en _ _ trivial (fun _ h => by cases h) (fun _ h => by cases h) (fun _ h => by cases h)
        (fun _ _ h => by cases h) (fun _ _ _ h => by cases h) (fun _ h => by cases h)) (by decide)
  have s0 : Side2 [1, 2, 3] exY0 := exSide2 _ (C04Sys.exNode 2) rfl rfl (by
    show C04Sys.exNode = _
    funext j; unfold setNode; split
    · rename_i h; rw [h]
    · rfl)
  have s1 : Side2 [1, 2, 3] exZ1 :=
    exSide2 _ ((C04Sys.exNode 2).step (.takeSnapshot 7 0) [] []) (by decide) (by decide) rfl
  have t2 : Snap2.Trans exZ1 exZ2 :=
    .step 2 .snapRun [] [] 0
      (en _ _ trivial (fun _ h => by cases h) (fun _ h => by cases h) (fun _ h => by cases h)
        (fun _ _ h => by cases h) (fun _ _ _ h => by cases h) (fun _ h => by cases h)) (by decide)
  have s2 : Side2 [1, 2, 3] exZ2 :=
    exSide2 _ (((C04Sys.exNode 2).step (.takeSnapshot 7 0) [] []).step .snapRun [] []) (by decide) (by decide)
      (by
        show setNode (setNode C04Sys.exNode 2 _) 2 _ = _
        exact setNode_setNode _ _ _ _)
  have t3 : Snap2.Trans exZ2 exZ3 :=
    .step 2 .snapTaken [] [] 0
      (en _ _ trivial (fun _ h => by cases h) (fun _ h => by cases h) (fun _ h => by cases h)
        (fun _ _ h => by cases h) (fun _ _ _ h => by cases h) (fun _ h => by cases h)) (by decide)
  have s3 : Side2 [1, 2, 3] exZ3 :=
    exSide2 _ ((((C04Sys.exNode 2).step (.takeSnapshot 7 0) [] []).step .snapRun [] []).step .snapTaken [] [])
      (by decide) (by decide) (by
        show setNode (setNode (setNode C04Sys.exNode 2 _) 2 _) 2 _ = _
        rw [setNode_setNode]
        exact setNode_setNode _ _ _ _)
  exact ⟨by decide, .next _ _ (.next _ _ (.next _ _ (.init _ exY0_init s0) t1 s1) t2 s2) t3 s3, by decide, by decide⟩

/-! #### an evaluated scenario with a real compaction (`#guard`: tests, not proofs; Props/AuditSnap2.lean PROVES this run
to be a run of `Raft.Snap2`, by one kernel evaluation).  Node 1 is elected in term 2; its first entry (index 2) starts a new log segment; index 2 is
replicated, committed and applied; node 1 takes a snapshot at index 2 and `onSnapshotTaken` compacts its log up to
the segment boundary 1 (`log.prev = 1 < snapIndex = 2`); the leader goes on on the compacted log (a client update is
appended, replicated and committed); finally node 1 dies and restarts from its compacted log and its snapshot file. -/

def exY1 : Snap2.Sys := stepS exY0 1 .timeout [] [] 0
def exY2 : Snap2.Sys := stepS exY1 2 (.vote { term := 2, src := 1, lastLogIndex := 1, lastLogTerm := 1 }) [] [] 0
/-- node 1 wins the election; its first entry (index 2) starts a new segment: `rollAt = [1]` -/
def exY3 : Snap2.Sys := stepS exY2 1 (.voteResult false 2 rSuccess) [1] [] 2
def exYReq : AppendReq :=
  { term := 2, src := 1, prevLogIndex := 1, prevLogTerm := 1, entries := (exY3.node 1).log.entries.drop 1 }
def exY4 : Snap2.Sys := { exY3 with cs := sendC exY3.cs exYReq }
def exY5 : Snap2.Sys := stepS exY4 2 (.append exYReq) [] [] 0
def exY6 : Snap2.Sys := stepS exY5 3 (.append exYReq) [] [] 0
def exY7 : Snap2.Sys :=
  stepS exY6 1 (.replUpdates [{ id := 2, upd := .matchIndex 2 }, { id := 3, upd := .matchIndex 2 }]) [] [] 0
def exY8 : Snap2.Sys := stepS exY7 1 (.takeSnapshot 9 0) [] [] 0
def exY9 : Snap2.Sys := stepS exY8 1 .snapRun [] [] 0
/-- the result is handed over: the log is compacted -/
def exY10 : Snap2.Sys := stepS exY9 1 .snapTaken [] [] 0
/-- the leader goes on on the compacted log: a client update (index 3), replicated to node 2, committed -/
def exY11 : Snap2.Sys := stepS exY10 1 (.newEntries [{ typ := etUpdate, data := "a", task := 7 }]) [] [] 0
def exYReq2 : AppendReq :=
  { term := 2, src := 1, prevLogIndex := 2, prevLogTerm := 2, entries := (exY11.vnode 1).log.entries.drop 2,
    ldrCommitIndex := 2 }
def exY12 : Snap2.Sys := { exY11 with cs := sendC exY11.cs exYReq2 }
def exY13 : Snap2.Sys := stepS exY12 2 (.append exYReq2) [] [] 0
def exY14 : Snap2.Sys := stepS exY13 1 (.replUpdates [{ id := 2, upd := .matchIndex 3 }]) [] [] 0
/-- node 1 dies and restarts from its compacted log and its snapshot file -/
def exYn : Option Node := Node.restart (C05.crashDisk (exY14.node 1) .timeout [] [] 0) 1 true
def exY15 : Option Snap2.Sys := exYn.map (fun n => crashS exY14 1 .timeout n)

#guard (exY3.node 1).log.segs == [0, 1] && (exY3.node 1).role == .leader
#guard (exY9.node 1).snapIndex == 2 && (exY9.node 1).snapsDisk.map (fun f => (f.index, f.term, f.data)) == [(2, 2, [])]
-- the compaction: the log starts after index 1, below the snapshot index 2; the removed entry is in `base`; the virtual
-- log is what the log was; nobody failed an assertion
#guard (exY10.node 1).log.prev == 1 && (exY10.node 1).log.segs == [1] && (exY10.node 1).snapIndex == 2 &&
  (exY10.node 1).log.entries.map (fun e => (e.index, e.term)) == [(2, 2)] &&
  (exY10.base 1).map (fun e => (e.index, e.term)) == [(1, 1)] && exY10.vlog 1 == (exY9.node 1).log.entries &&
  (exY10.node 1).panicked.isNone
-- `Log.Get` below the first index fails on node 1, not on node 2 (log matching is about what both still hold)
#guard ((exY14.node 1).log.get? 1).isNone && ((exY14.node 2).log.get? 1).isSome &&
  (exY14.node 1).log.get? 3 == (exY14.node 2).log.get? 3
#guard (exY13.node 2).log.entries.map (fun e => (e.index, e.term, e.data)) == [(1, 1, ""), (2, 2, ""), (3, 2, "a")] &&
  (exY13.node 2).rpcReply.map (·.result) == some rSuccess
#guard (exY14.node 1).commitIndex == 3 && (exY14.node 1).fsm.applied == ["a"] && (exY14.node 1).panicked.isNone &&
  exY14.cs.committed == [(3, 2), (2, 2)]
-- the restart from the compacted log: first index 1, snapshot index = commit index = applied index 2
#guard (exYn.map (fun n => (n.log.prev, n.log.entries.map (fun e => (e.index, e.term, e.data)), n.snapIndex,
    n.commitIndex, n.fsm.index, n.lastLogIndex, n.lastLogTerm, n.role == .follower, n.panicked.isNone))) ==
  some (1, [(2, 2, ""), (3, 2, "a")], 2, 2, 2, 3, 2, true, true)
#guard (exY15.map (fun y => ((y.base 1).map (fun e => (e.index, e.term)), y.vlog 1 == y.vlog 2))) ==
  some ([(1, 1)], true)

/-! #### installation of snapshots: the crash window of `onInstallSnapRequest` (finding F18), evaluated.  The handler
publishes the snapshot file (`snap.publish`, `snap.retain`) BEFORE it clears the log (`clearLog`); a process that dies
between the two restarts with the new snapshot and the OLD log.  The invariant of installed snapshots — "the log at and
below the snapshot index agrees with the snapshot", which is what makes skipping the consistency check of
`onAppendEntriesRequest` below `snapIndex` sound, and "the state machine is the replay of the log up to the applied
index" — needs `openStorage` to reset such a log; the library as found reset only a log that ENDS before the snapshot
index.  The repair is `staleLog`: the entry on disk at the snapshot index has another term than the snapshot, so the log
is a stale branch.  The scenario: a follower holds the uncommitted entries 2–4 of term 2 (of a deposed leader), receives
the snapshot (index 3, term 3, data [a, b]) of the leader of term 3 (possible with five voters) and dies after
`snap.retain`.  Without the reset it restarts with `snapIndex = 3`, `snapTerm = 3`, the state machine [a, b] — and the log
entries (2, term 2, "g2"), (3, term 2, "g3"), behind which the next append request (`prevLogIndex = 3 ≤ snapIndex`: no
check) appends (4, term 3) and commits index 4.  With it the restart resets the log to the snapshot: the log starts after
index 3 and is empty, and the append request stores (4, term 3) directly behind the snapshot. -/

def exI0 : Node :=
  { cid := 7, nid := 2, term := 2, durTerm := 2, votedFor := 3, durVote := 3,
    log := { entries := [C04Sys.exE, { index := 2, term := 2, typ := etUpdate, data := "g2" },
                         { index := 3, term := 2, typ := etUpdate, data := "g3" },
                         { index := 4, term := 2, typ := etUpdate, data := "g4" }], flushed := 4 },
    lastLogIndex := 4, lastLogTerm := 2, commitIndex := 1,
    fsm := { index := 1, term := 1, config := C04Sys.exCfg },
    configs := { committed := C04Sys.exCfg, latest := C04Sys.exCfg } }
def exIq : InstallReq :=
  { term := 3, src := 1, lastIndex := 3, lastTerm := 3, lastConfig := C04Sys.exCfg, data := ["a", "b"] }
/-- the process dies after the third storage point of the installation (`snap.retain`) -/
def exIn : Option Node := Node.restart (C05.crashDisk exI0 (.install exIq) [] [] 3) 1 true
def exIa : AppendReq :=
  { term := 3, src := 1, prevLogIndex := 3, prevLogTerm := 3, ldrCommitIndex := 4,
    entries := [{ index := 4, term := 3, typ := etUpdate, data := "c" }] }

#guard (exI0.step (.install exIq) [] []).trace.map (·.1) == ["value.set", "snap.publish", "snap.retain", "clearLog"] &&
  (exI0.step (.install exIq) [] []).panicked.isNone
#guard staleLog (C05.crashDisk exI0 (.install exIq) [] [] 3)
#guard (exIn.map (fun n => (n.snapIndex, n.snapTerm, n.commitIndex, n.fsm.applied, n.log.prev,
    n.log.entries.map (fun e => (e.index, e.term, e.data)), n.panicked.isNone))) ==
  some (3, 3, 3, ["a", "b"], 3, [], true)
#guard (exIn.map (fun n => let m := n.step (.append exIa) [] []
    (m.log.entries.map (fun e => (e.index, e.term, e.data)), m.commitIndex, m.fsm.applied,
     m.rpcReply.map (·.result) == some rSuccess, m.panicked.isNone))) ==
  some ([(4, 3, "c")], 4, ["a", "b", "c"], true, true)

end C09Sys2
end Raft

#print axioms Raft.C09Sys2.log_matching_sys_snap_partial -- also C04
#print axioms Raft.C09Sys2.leader_completeness_sys_snap_partial -- also C02
#print axioms Raft.C09Sys2.state_machine_safety_sys_snap_partial -- also C03
#print axioms Raft.C09Sys2.snapshot_is_committed_prefix_partial -- also C12
#print axioms Raft.C09Sys2.compaction_keeps_servable_partial
