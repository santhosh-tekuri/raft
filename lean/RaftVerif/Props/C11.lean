/-
C11 — Non-voters and removed nodes hold no authority.

Decision logic, stated outright on the handler functions that `nodediff` ties to /repo.
-/
import RaftVerif.Lemmas.StepInv
import RaftVerif.Lemmas.ShapeBootstrap

namespace Raft
namespace C11
open Node

/-! ### a node that is not a voter of its own latest configuration never starts an election -/

/-- `follower.onTimeout`: the role becomes candidate only if self is a voter of the latest configuration
(and the node is bootstrapped). -/
theorem follower_timeout_requires_voter (s : Node) (h : s.followerTimeout.role ≠ s.role) :
    s.configs.latest.isVoter s.nid = true ∧ s.configs.isBootstrapped = true := by
  unfold Node.followerTimeout at h
  dsimp only at h
  split at h
  · rename_i hc
    unfold Node.canStartElection at hc
    simp only [Node.setLeader, Bool.and_eq_true] at hc
    exact ⟨hc.2, hc.1⟩
  · exact absurd rfl h

/-- `onTimeoutNowRequest`: a non-voter answers `nonVoter` and nothing in its state changes (it does not
become candidate "even when told to time out now"). -/
theorem timeout_now_refused_by_nonvoter (s : Node) (h : s.configs.latest.isVoter s.nid = false) :
    s.onTimeoutNow = s.ret rNonVoter := by
  unfold Node.onTimeoutNow
  simp [h]

/-- `onTimeoutNowRequest` makes the node a candidate only if it is a voter. -/
theorem timeout_now_candidate_only_voter (s : Node) (h : s.onTimeoutNow.role ≠ s.role) :
    s.configs.latest.isVoter s.nid = true := by
  by_cases hv : s.configs.latest.isVoter s.nid = true
  · exact hv
  · rw [timeout_now_refused_by_nonvoter s (by simpa using hv)] at h
    exact absurd rfl h

/-- `candidate.startElection` asserts that self is a voter: run by a non-voter it panics (never reached,
by the two theorems above and `bootstrap`, which requires self to be a voter). -/
theorem startElection_nonvoter_panics (s : Node) (h : s.configs.latest.isVoter s.nid = false)
    (hp : s.panicked = none) : s.startElection.panicked ≠ none := by
  unfold Node.startElection
  dsimp only
  have h1 : (s.assert (s.configs.latest.isVoter s.nid) "assert.startElection").panicked ≠ none := by
    simp [Node.assert, h, Node.panic, hp]
  have hv : ∀ (x : Node) t c, x.panicked ≠ none → (x.setVotedFor t c).panicked ≠ none := by
    intro x t c hx
    unfold Node.setVotedFor
    exact ite_ind (P := fun y : Node => y.panicked ≠ none)
      (fun _ => ite_ind (P := fun y : Node => y.panicked ≠ none) (fun _ => by rw [storeTermVote_shape]; exact hx)
        fun _ => by unfold Node.panic; split <;> simp_all) fun _ => hx
  split
  · simp only [Node.setLeader, Node.setRole, Node.withVotesNeeded]
    exact hv _ _ _ h1
  · simp only [Node.withVotesNeeded]
    exact hv _ _ _ h1

/-- `Raft.bootstrap` makes the node a candidate only if it is a voter of the submitted configuration. -/
theorem bootstrap_candidate_only_voter (s : Node) (t : Nat) (c : Config)
    (h : (s.bootstrap t c).role ≠ s.role) : c.isVoter s.nid = true :=
  Node.bootstrap_cases s t c (P := fun x => x.role ≠ s.role → c.isVoter s.nid = true)
    (fun _ r hne => absurd (by rw [Node.reply_shape]) hne)
    (fun ⟨_, _, self, hf, hv, _⟩ _ => by unfold Config.isVoter; rw [hf]; exact hv) h

/-! ### a leader that demotes or removes itself stops leading once that change commits; a removed node
shuts down only after its removal is committed -/

theorem commitConfig_fields (x : Node) : x.commitConfig.role = x.role ∧ x.commitConfig.nid = x.nid ∧
    x.commitConfig.configs.latest = x.configs.latest ∧ x.commitConfig.closed = x.closed ∧
    x.commitConfig.shutdownOnRemove = x.shutdownOnRemove :=
  ⟨by rw [Node.commitConfig_shape], by rw [Node.commitConfig_shape], Node.commitConfig_latest x,
    by rw [Node.commitConfig_shape], by rw [Node.commitConfig_shape]⟩

theorem closeIfRemoved_role (x : Node) : x.closeIfRemoved.role = x.role := by rw [closeIfRemoved_shape]

/-- `Raft.setCommitIndex`: when the commit covers the (uncommitted) latest configuration and self is not a
voter in it, a leader steps down in that very step. -/
theorem leader_steps_down_when_self_demotion_commits (s : Node) (i : Nat)
    (hrole : s.role = .leader) (hunc : s.configs.isCommitted = false)
    (hcov : s.configs.latest.index ≤ i) (hnv : s.configs.latest.isVoter s.nid = false) :
    (s.setCommitIndexR i).1.role = .follower ∧ (s.setCommitIndexR i).2 = true := by
  unfold Node.setCommitIndexR
  rw [if_pos (by simp [hunc, hcov])]
  refine ⟨?_, rfl⟩
  obtain ⟨c1, c2, c3, _, _⟩ := commitConfig_fields (s.withCommitIndex i)
  show (s.withCommitIndex i).commitConfig.stepDownIfNotVoter.closeIfRemoved.role = .follower
  rw [closeIfRemoved_role]
  unfold Node.stepDownIfNotVoter
  rw [if_pos (by rw [c1, c2, c3]; simp [Node.withCommitIndex, hrole, hnv])]
  rfl

/-- `Raft.setCommitIndex` closes a node with "node removed" only when the latest configuration becomes
committed by this very call and does not contain the node (and `shutdownOnRemove` is set). -/
theorem removed_node_closes_only_after_commit (s : Node) (i : Nat)
    (h : (s.setCommitIndexR i).1.closed ≠ s.closed) :
    (s.setCommitIndexR i).2 = true ∧ s.configs.latest.index ≤ i ∧ s.configs.latest.has s.nid = false ∧
    s.shutdownOnRemove = true := by
  unfold Node.setCommitIndexR at h ⊢
  split
  · rename_i hc
    rw [if_pos hc] at h
    refine ⟨rfl, hc.2, ?_⟩
    obtain ⟨c1, c2, c3, c4, c5⟩ := commitConfig_fields (s.withCommitIndex i)
    have hs : ∀ x : Node, x.stepDownIfNotVoter.closed = x.closed ∧ x.stepDownIfNotVoter.nid = x.nid ∧
        x.stepDownIfNotVoter.configs.latest = x.configs.latest ∧
        x.stepDownIfNotVoter.shutdownOnRemove = x.shutdownOnRemove := by
      intro x; unfold Node.stepDownIfNotVoter; split <;> exact ⟨rfl, rfl, rfl, rfl⟩
    obtain ⟨d1, d2, d3, d4⟩ := hs (s.withCommitIndex i).commitConfig
    by_cases hx : s.shutdownOnRemove = true ∧ s.configs.latest.has s.nid = false
    · exact ⟨hx.2, hx.1⟩
    · exfalso
      apply h
      show (s.withCommitIndex i).commitConfig.stepDownIfNotVoter.closeIfRemoved.closed = s.closed
      unfold Node.closeIfRemoved
      rw [if_neg]
      · rw [d1, c4]; rfl
      · rw [d4, d3, d2, c5, c3, c2]
        intro hh; apply hx
        simpa [Node.withCommitIndex] using hh
  · rename_i hc
    rw [if_neg hc] at h
    exact absurd rfl h

/-! ### promotion only after the log caught up in a completed round -/

/-- `finishRound` does not return early only when the round is finished and the node either has every
entry or completed the round fast enough. -/
theorem finishRound_proceeds (lastLogIndex : Nat) (st : Repl) (rd : Round)
    (h : (finishRound lastLogIndex st rd).2 = false) :
    ∃ rd', (finishRound lastLogIndex st rd).1.round = some rd' ∧ rd'.finished = true ∧
      ¬ (lastLogIndex > st.matchIndex ∧ rd'.aged = true) := by
  unfold finishRound at h ⊢
  generalize (if (!rd.finished) = true ∧ st.matchIndex ≥ rd.lastIndex then { rd with finished := true } else rd) = r at h ⊢
  dsimp only at h ⊢
  by_cases c1 : (!r.finished) = true
  · rw [if_pos c1] at h; simp at h
  · rw [if_neg c1] at h ⊢
    by_cases c2 : lastLogIndex > st.matchIndex ∧ r.aged = true
    · rw [if_pos c2] at h; simp at h
    · rw [if_neg c2]; exact ⟨r, rfl, by simpa using c1, c2⟩

/-- `checkConfigAction` proposes a promoting configuration only through `actionConfig … actPromote`,
which is reached only when `roundStep` did not return early: the node has a promotion round, it is
finished, and the node either has every entry or completed the round fast enough. -/
theorem promote_requires_finished_round (lastLogIndex : Nat) (st : Repl)
    (h : (roundStep lastLogIndex actPromote st).2 = false) :
    ∃ rd, (roundStep lastLogIndex actPromote st).1.round = some rd ∧ rd.finished = true ∧
      ¬ (lastLogIndex > st.matchIndex ∧ rd.aged = true) := by
  have hm : (startRound lastLogIndex actPromote st).matchIndex = st.matchIndex := by
    unfold startRound; simp only [ne_eq, not_true_eq_false, if_false]; split <;> rfl
  have hr : ∃ rd0, (startRound lastLogIndex actPromote st).round = some rd0 := by
    unfold startRound; simp only [ne_eq, not_true_eq_false, if_false]
    cases hx : st.round with
    | none => exact ⟨_, rfl⟩
    | some rd => exact ⟨rd, by simp [hx]⟩
  obtain ⟨rd0, hr0⟩ := hr
  unfold roundStep at h ⊢
  dsimp only at h ⊢
  rw [hr0] at h ⊢
  dsimp only at h ⊢
  obtain ⟨rd', e1, e2, e3⟩ := finishRound_proceeds lastLogIndex _ rd0 h
  exact ⟨rd', e1, e2, by rw [hm] at e3; exact e3⟩

/-- a round that was not finished is marked finished by `finishRound` only when the follower's match index
reached the round's target (`round.LastIndex`, the leader's last index when the round began). -/
theorem round_finishes_only_when_caught_up (lastLogIndex : Nat) (st : Repl) (rd rd' : Round)
    (hnf : rd.finished = false)
    (h : (finishRound lastLogIndex st rd).1.round = some rd') (hf : rd'.finished = true) :
    st.matchIndex ≥ rd.lastIndex := by
  by_cases hc : st.matchIndex ≥ rd.lastIndex
  · exact hc
  · exfalso
    unfold finishRound at h
    simp only [hnf, Bool.not_false, hc, and_false, if_false, if_true] at h
    injection h with h
    rw [← h] at hf
    simp [hnf] at hf

end C11
end Raft

#print axioms Raft.C11.follower_timeout_requires_voter
#print axioms Raft.C11.timeout_now_refused_by_nonvoter
#print axioms Raft.C11.timeout_now_candidate_only_voter
#print axioms Raft.C11.startElection_nonvoter_panics
#print axioms Raft.C11.bootstrap_candidate_only_voter
#print axioms Raft.C11.leader_steps_down_when_self_demotion_commits
#print axioms Raft.C11.removed_node_closes_only_after_commit
#print axioms Raft.C11.promote_requires_finished_round
#print axioms Raft.C11.round_finishes_only_when_caught_up
