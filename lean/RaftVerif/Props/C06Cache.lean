/-
C06 / C11 / C17 — the leader's cached view of the configuration is current.

The Go leader caches `l.numVoters`, `l.node` (its own entry of the latest configuration) and keeps one
replication per other member, each with a copy `node` of that member's configuration entry. The commit
rule (`majorityMatchIndex`), the refusal of new entries by a demoted leader and the promotion trigger
read these caches; a stale cache is a safety bug (defect F2: `numVoters` refreshed from the OLD
configuration made a leader commit alone).

Proved here, for EVERY operation, every input and every oracle of `Node.step`:
* `step_leaderCache`: `LeaderCache` is an invariant of every step other than `shutdown`;
  `step_leaderCacheOpen`: for a node that is not closed it is an invariant of every step (shutdown
  closes the node and deliberately drops the replications);
* `run_leaderCacheOpen`: along any run from a state where it holds (e.g. any restarted node);
* corollaries connecting `C06.commit_index_has_majority` / `commit_index_fast_path` with the
  configuration itself: `commit_needs_majority_of_latest_voters`, `fast_path_only_voter`,
  `voter_has_replication`, `repl_voter_flag_current`, `nonvoter_ack_never_counts`, `majority_no_nil`.

Nothing is assumed about the requests. The corollaries that identify a replication's cached node with
THE member of that id need the member ids of `configs.latest` to be distinct (`IdsNodup`; a Go map has
distinct keys, the model's association list is not forced to by adversarial wire input).
-/
import RaftVerif.Lemmas.LeaderCache
import RaftVerif.Lemmas.RestartShape
import RaftVerif.Lemmas.ShapeConfig
import RaftVerif.Props.C06
import RaftVerif.Props.C17
import RaftVerif.Props.C15

namespace Raft
namespace C06Cache
open Node

/-- The leader's caches describe `configs.latest`:
* `numVoters` is its number of voters, `ldr.node` is self's entry (Go's zero node when self is not a member);
* the replications are sorted by id (a Go map: one per id);
* every replication belongs to another node, caches a node of the latest configuration and that
  node has the replication's id (so with distinct member ids: caches THE member, flag `voter` included);
* every other member has a replication. -/
structure CacheOK (s : Node) : Prop where
  numVoters : s.ldr.numVoters = s.configs.latest.numVoters
  node : s.ldr.node = s.configs.latest.get s.nid
  sorted : s.ldr.repls.Pairwise (fun a b => a.id < b.id)
  repl_member : ∀ r ∈ s.ldr.repls, r.id ≠ s.nid ∧ r.node ∈ s.configs.latest.nodes ∧ r.node.id = r.id
  member_repl : ∀ n ∈ s.configs.latest.nodes, n.id ≠ s.nid → ∃ r ∈ s.ldr.repls, r.id = n.id

/-- **the invariant**: whenever the node is leader its caches are current. -/
def LeaderCache (s : Node) : Prop := s.role = .leader → CacheOK s

/-- the invariant for nodes that have not been closed (`Shutdown`, or removed from the cluster) -/
def LeaderCacheOpen (s : Node) : Prop := s.closed = "" → LeaderCache s

/-- distinct member ids (Go: `Config.Nodes` is a map keyed by id) -/
def IdsNodup (c : Config) : Prop := (c.nodes.map (·.id)).Nodup

theorem cacheOK_iff (s : Node) : CacheOK s ↔ LC.Cache s := by
  rw [LC.cache_iff]
  constructor
  · intro h; exact ⟨h.numVoters, h.node, h.sorted, h.repl_member, h.member_repl⟩
  · rintro ⟨a, b, c, d, e⟩; exact ⟨a, b, c, d, e⟩

theorem role_rpcDone (s : Node) (a b : Bool) : (s.rpcDone a b).role = s.role := by
  unfold Node.rpcDone
  split
  · exact LC.role_panic _ _
  · rfl

/-- the handler of any operation other than `shutdown`, run by a leader with current caches, ends with
current caches or with a node that is no longer leader: the two requests that replace the configuration make a
follower first, and every other handler keeps the caches (`LC.guardedStep`) -/
theorem handle_leader (s : Node) (op : Op) (hop : op ≠ .shutdown) (hr : s.role = .leader) (hc : LC.Cache s)
    (hl : (s.handle op).role = .leader) : LC.Cache (s.handle op) := by
  refine LC.guardedStep.handle_with s op (Caps.ok_all s op) hc (fun e => absurd e hop) (fun q e => ?_) (fun q e => ?_)
    (fun _ _ _ hn => absurd hr hn)
  all_goals
    subst e
    by_cases hq : q.term < s.term
  · unfold Node.onAppendEntries; rw [if_pos hq]; exact hc
  · exact absurd ((role_rpcDone _ _ _).symm.trans hl) (LC.nl_onAppendEntries s q hq)
  · unfold Node.onInstallSnap; rw [if_pos hq]; exact hc
  · exact absurd ((role_rpcDone _ _ _).symm.trans hl) (LC.nl_onInstallSnap s q hq)

/-- **the leader's caches are current after every step** (any operation other than `shutdown`, any
input, any oracle): if `LeaderCache` holds before, it holds after. A node that BECOMES leader in the
step gets its caches from `leader.init`; a leader that changes the configuration (`leader.changeConfig`,
reached from `storeEntry`, `onChangeConfig`, promotions/demotions/removals in `checkConfigActions`)
refreshes them from the NEW configuration; a leader never reverts or replaces its configuration
otherwise (append/install requests make it follower first). -/
theorem step_leaderCache (s : Node) (op : Op) (ra : List Nat) (ord : List (List Nat)) (hop : op ≠ .shutdown)
    (h : LeaderCache s) : LeaderCache (s.step op ra ord) := by
  intro hl
  rw [cacheOK_iff]
  revert hl
  unfold Node.step
  dsimp only
  split
  · exact absurd rfl hop
  · refine LC.settle_cache 3 _ _ fun he hl => ?_
    have hcur : (s.begin ra ord).role = .leader := he.symm.trans hl
    exact handle_leader (s.begin ra ord) op hop hcur ((cacheOK_iff s).mp (h hcur)) hl

/-! ### closed nodes stay closed; the invariant for open nodes holds for every operation -/

/-- a closed node stays closed through every step -/
theorem step_closed (s : Node) (op : Op) (ra : List Nat) (ord : List (List Nat)) (h : s.closed ≠ "") :
    (s.step op ra ord).closed ≠ "" := C15.closed_is_sticky s op ra ord h

/-- `shutdown` closes the node -/
theorem shutdown_closes (s : Node) (ra : List Nat) (ord : List (List Nat)) :
    (s.step .shutdown ra ord).closed ≠ "" := C15.shutdown_closes (s.begin ra ord)

/-- **for a node that is not closed the invariant survives EVERY operation** (`shutdown` included: it
closes the node — `stateLoop` has returned, the replications are stopped and dropped on purpose). -/
theorem step_leaderCacheOpen (s : Node) (op : Op) (ra : List Nat) (ord : List (List Nat))
    (h : LeaderCacheOpen s) : LeaderCacheOpen (s.step op ra ord) := by
  intro hopen
  by_cases hc : s.closed = ""
  · by_cases hop : op = .shutdown
    · subst hop
      exact absurd hopen (shutdown_closes s ra ord)
    · exact step_leaderCache s op ra ord hop (h hc)
  · exact absurd hopen (step_closed s op ra ord hc)

/-- a node constructed by `restart` (or any non-leader) satisfies the invariant -/
theorem leaderCache_of_not_leader (s : Node) (h : s.role ≠ .leader) : LeaderCacheOpen s :=
  fun _ hl => absurd hl h

theorem restart_leaderCache (d : Durable) (retain : Nat) (sor : Bool) (n : Node)
    (h : Node.restart d retain sor = some n) : LeaderCacheOpen n := by
  apply leaderCache_of_not_leader
  rw [Node.restart_field (·.role) (fun _ _ _ _ => rfl) h]
  exact fun x => by cases x

/-- **along any run** of operations with arbitrary inputs and oracles -/
theorem run_leaderCacheOpen (s : Node) (ops : List (Op × List Nat × List (List Nat))) (h : LeaderCacheOpen s) :
    LeaderCacheOpen (ops.foldl (fun s o => s.step o.1 o.2.1 o.2.2) s) :=
  List.foldlRecOn (motive := LeaderCacheOpen) ops _ h fun s hs o _ => step_leaderCacheOpen s o.1 o.2.1 o.2.2 hs

/-! ### what current caches mean for the commit rule (C06), non-voters (C11), availability (C17) -/

theorem find_of_nodup (nodes : List CNode) (hn : (nodes.map (·.id)).Nodup) (n : CNode) (h : n ∈ nodes) :
    nodes.find? (·.id == n.id) = some n :=
  Config.find?_of_mem_nodup nodes hn n h

/-- with distinct member ids, two members with the same id are the same member -/
theorem member_unique (c : Config) (hn : IdsNodup c) (a b : CNode) (ha : a ∈ c.nodes) (hb : b ∈ c.nodes)
    (e : a.id = b.id) : a = b := by
  have h1 := find_of_nodup c.nodes hn a ha
  have h2 := find_of_nodup c.nodes hn b hb
  rw [e, h2] at h1
  injection h1 with h1
  exact h1.symm

/-- **each replication caches THE member it replicates to** (distinct member ids) -/
theorem repl_node_is_member (s : Node) (hc : CacheOK s) (hn : IdsNodup s.configs.latest) :
    ∀ r ∈ s.ldr.repls, s.configs.latest.find? r.id = some r.node := by
  intro r hr
  obtain ⟨_, h2, h3⟩ := hc.repl_member r hr
  have := find_of_nodup _ hn r.node h2
  rw [h3] at this
  exact this

/-- **the voter flag a replication carries is the member's current one** -/
theorem repl_voter_flag_current (s : Node) (hc : CacheOK s) (hn : IdsNodup s.configs.latest) :
    ∀ r ∈ s.ldr.repls, r.node.voter = s.configs.latest.isVoter r.id := by
  intro r hr
  unfold Config.isVoter
  rw [repl_node_is_member s hc hn r hr]

/-- **every other member has its replication** (`l.repls[n.ID]` is never nil), with the member's id -/
theorem member_has_replication (s : Node) (hc : CacheOK s) (n : CNode) (hn : n ∈ s.configs.latest.nodes)
    (hne : n.id ≠ s.nid) : ∃ r, s.findRepl? n.id = some r ∧ r ∈ s.ldr.repls ∧ r.id = n.id := by
  obtain ⟨r0, hr0, e0⟩ := hc.member_repl n hn hne
  unfold Node.findRepl?
  cases hf : s.ldr.repls.find? (·.id == n.id) with
  | none =>
    have := List.find?_eq_none.mp hf r0 hr0
    simp [e0] at this
  | some r => exact ⟨r, rfl, (LC.find_mem hf).1, (LC.find_mem hf).2⟩

/-- … and (distinct member ids) that replication caches exactly this member, voter flag included -/
theorem voter_has_replication (s : Node) (hc : CacheOK s) (hnd : IdsNodup s.configs.latest) (n : CNode)
    (hn : n ∈ s.configs.latest.nodes) (hne : n.id ≠ s.nid) :
    ∃ r, s.findRepl? n.id = some r ∧ r.id = n.id ∧ r.node = n := by
  obtain ⟨r, h1, h2, h3⟩ := member_has_replication s hc n hn hne
  refine ⟨r, h1, h3, ?_⟩
  obtain ⟨_, h5, h6⟩ := hc.repl_member r h2
  exact member_unique _ hnd _ _ h5 hn (h6.trans h3)

/-- **acknowledgements of non-voters never count** (C11): a replication whose cached flag says
"non-voter" belongs to no voter of the latest configuration, so `voterMatches` never reads it; and a
replication of a non-voter carries the flag "non-voter". -/
theorem nonvoter_ack_never_counts (s : Node) (hc : CacheOK s) (hnd : IdsNodup s.configs.latest)
    (r : Repl) (hr : r ∈ s.ldr.repls) :
    (r.node.voter = false → ∀ n ∈ s.configs.latest.nodes.filter (·.voter), n.id ≠ r.id) ∧
    (s.configs.latest.isVoter r.id = false → r.node.voter = false) := by
  constructor
  · intro hv n hn e
    obtain ⟨hn1, hn2⟩ := List.mem_filter.mp hn
    obtain ⟨_, h5, h6⟩ := hc.repl_member r hr
    have := member_unique _ hnd n r.node hn1 h5 (e.trans h6.symm)
    rw [this, hv] at hn2
    cases hn2
  · intro h; rw [repl_voter_flag_current s hc hnd r hr]; exact h

/-- **no nil dereference in `majorityMatchIndex`**: with current caches and a non-empty configuration
the model's "no nil / index out of range" flag is set. -/
theorem majority_no_nil (s : Node) (hc : CacheOK s) (hne : s.configs.latest.nodes ≠ []) :
    s.majorityMatchIndex.2 = true := by
  unfold Node.majorityMatchIndex
  split
  · rfl
  · dsimp only
    have hm : (s.configs.latest.nodes.filter (·.voter)).any
        (fun n => n.id != s.nid && (s.findRepl? n.id).isNone) = false := by
      rw [List.any_eq_false]
      intro n hn
      by_cases e : n.id = s.nid
      · simp [e]
      · obtain ⟨r, h1, _⟩ := member_has_replication s hc n (List.mem_filter.mp hn).1 e
        simp [h1]
    rw [hm]
    have : s.configs.latest.nodes.length > 0 := List.length_pos_iff.mpr hne
    simp [this]

/-- self's entry, when self is a voter according to the cache, really is self's -/
theorem self_entry (s : Node) (hc : CacheOK s) (hv : s.ldr.node.voter = true) :
    ∃ x, s.configs.latest.find? s.nid = some x ∧ x ∈ s.configs.latest.nodes ∧ x.id = s.nid ∧ x.voter = true := by
  have h := hc.node
  unfold Config.get at h
  cases hx : s.configs.latest.find? s.nid with
  | none => rw [hx] at h; rw [h] at hv; cases hv
  | some x =>
    rw [hx] at h
    unfold Config.find? at hx
    refine ⟨x, rfl, List.mem_of_find?_eq_some hx, ?_, ?_⟩
    · have := List.find?_some hx
      simpa using this
    · rw [← hv, h]; rfl

/-- **the single-voter fast path is only taken when self is the only voter of the latest
configuration** (this is what defect F2 violated). -/
theorem fast_path_only_voter (s : Node) (hc : CacheOK s) (hfast : s.ldr.numVoters = 1 ∧ s.ldr.node.voter = true) :
    s.configs.latest.voters = [s.nid] := by
  obtain ⟨x, _, hx2, hx3, hx4⟩ := self_entry s hc hfast.2
  have hlen : (s.configs.latest.nodes.filter (·.voter)).length = 1 := by
    have := hc.numVoters; unfold Config.numVoters at this; rw [← this]; exact hfast.1
  obtain ⟨y, hy⟩ := List.length_eq_one_iff.mp hlen
  have hxm : x ∈ s.configs.latest.nodes.filter (·.voter) := List.mem_filter.mpr ⟨hx2, hx4⟩
  unfold Config.voters
  rw [hy] at hxm ⊢
  rw [List.mem_singleton] at hxm
  rw [← hxm, List.map_singleton, hx3]

/-- **the commit rule counts a majority of the voters of the configuration itself.** With current
caches, the index `N` that `majorityMatchIndex` selects — on the general path AND on the single-voter
fast path — is reached by the match indexes of more than half of the voters of `configs.latest`, where
`voterMatches` attributes to self (if voter) its last log index and to every other voter the match
index of its replication (which exists: `member_has_replication`); non-members and non-voters
contribute nothing. -/
theorem commit_needs_majority_of_latest_voters (s : Node) (hc : CacheOK s)
    (hv : s.configs.latest.numVoters ≠ 0) :
    2 * (s.voterMatches.countP (fun m => decide (m ≥ s.majorityMatchIndex.1))) > s.configs.latest.numVoters := by
  by_cases hfast : s.ldr.numVoters = 1 ∧ s.ldr.node.voter = true
  · obtain ⟨x, hx1, _, hx3, _⟩ := self_entry s hc hfast.2
    have hself : (s.configs.latest.get s.nid).id = s.nid := by
      unfold Config.get; rw [hx1]; exact hx3
    obtain ⟨e1, e2⟩ := C06.commit_index_fast_path s hfast hc.numVoters hc.node hself
    have hall : s.voterMatches.countP (fun m => decide (m ≥ s.majorityMatchIndex.1)) = s.voterMatches.length := by
      apply List.countP_eq_length.mpr
      intro m hm
      rw [e1, e2 m hm]
      simp
    rw [hall, C06.voterMatches_length]
    omega
  · exact C06.commit_index_has_majority s hfast hv

/-- the same, for a leader satisfying the invariant -/
theorem leader_commit_needs_majority (s : Node) (h : LeaderCache s) (hr : s.role = .leader)
    (hv : s.configs.latest.numVoters ≠ 0) :
    2 * (s.voterMatches.countP (fun m => decide (m ≥ s.majorityMatchIndex.1))) > s.configs.latest.numVoters :=
  commit_needs_majority_of_latest_voters s (h hr) hv

/-- **commit is not stuck behind stale caches** (C17): with current caches, whenever more than half of
the voters of the latest configuration have reached `N`, the selected index is at least `N` — on both paths. -/
theorem majority_of_latest_voters_commits (s : Node) (hc : CacheOK s) (N : Nat)
    (hmaj : 2 * (s.voterMatches.countP (fun m => decide (m ≥ N))) > s.configs.latest.numVoters) :
    s.majorityMatchIndex.1 ≥ N := by
  by_cases hfast : s.ldr.numVoters = 1 ∧ s.ldr.node.voter = true
  · obtain ⟨x, hx1, _, hx3, _⟩ := self_entry s hc hfast.2
    have hself : (s.configs.latest.get s.nid).id = s.nid := by
      unfold Config.get; rw [hx1]; exact hx3
    obtain ⟨e1, e2⟩ := C06.commit_index_fast_path s hfast hc.numVoters hc.node hself
    rw [e1]
    -- some voter reached N, and every voter's match index is the leader's last log index
    have hpos : 0 < s.voterMatches.countP (fun m => decide (m ≥ N)) := by omega
    obtain ⟨m, hm, hmN⟩ := List.countP_pos_iff.mp hpos
    rw [e2 m hm] at hmN
    simpa using hmN
  · exact C17.majority_commits s N hfast (by rw [C06.voterMatches_length]; exact hmaj)

/-! ### examples (hypotheses are satisfiable; the cache hypothesis is needed) -/

/-- EXAMPLE state: node 1 leads {1 voter, 2 voter, 3 non-voter being promoted} in term 1; its log holds
the configuration, its no-op and one update (uncommitted, waiting in the queue for task 9); node 2
acknowledged index 2, the non-voter 3 acknowledged 3. -/
def exLeader : Node :=
  let n1 : CNode := { id := 1, addr := "a:1", voter := true }
  let n2 : CNode := { id := 2, addr := "b:1", voter := true }
  let n3 : CNode := { id := 3, addr := "c:1", voter := false, action := actPromote }
  let c : Config := { nodes := [n1, n2, n3], index := 1, term := 1 }
  { nid := 1, cid := 7, term := 1, durTerm := 1, role := .leader, leader := 1,
    log := { entries := [c.toEntry, { index := 2, term := 1, typ := etNop },
                         { index := 3, term := 1, typ := etUpdate, data := "x" }], flushed := 3 },
    lastLogIndex := 3, lastLogTerm := 1, commitIndex := 2, fsm := { index := 2, term := 1, config := c },
    configs := { committed := c, latest := c },
    ldr := { node := n1, numVoters := 2, startIndex := 2,
             queue := [{ index := 3, term := 1, typ := etUpdate, data := "x", task := 9 }],
             repls := [{ id := 2, node := n2, matchIndex := 2 }, { id := 3, node := n3, matchIndex := 3 }] } }

theorem exLeader_ok : CacheOK exLeader := ⟨by decide, by decide, by decide, by decide, by decide⟩

/-- EXAMPLE: the hypotheses of the corollaries hold on `exLeader` (a leader, so `LeaderCache` is not vacuous) -/
example : exLeader.role = .leader ∧ LeaderCache exLeader ∧ LeaderCacheOpen exLeader ∧
    IdsNodup exLeader.configs.latest ∧ exLeader.configs.latest.numVoters ≠ 0 :=
  ⟨rfl, fun _ => exLeader_ok, fun _ _ => exLeader_ok, by unfold IdsNodup; decide, by decide⟩

/-- EXAMPLE: there the commit rule selects 2: the non-voter's 3 does not count, the leader's own 3 is not a majority -/
example : exLeader.voterMatches = [3, 2] ∧ exLeader.majorityMatchIndex = (2, true) := by
  have hv : exLeader.voterMatches = [3, 2] := by decide
  refine ⟨hv, ?_⟩
  unfold Node.majorityMatchIndex
  rw [if_neg (by decide)]
  simp only [hv]
  simp [List.mergeSort, geB]
  decide

/-- EXAMPLE (the hypothesis is needed; this is defect F2): the same state with a STALE `numVoters = 1`
takes the fast path and selects the leader's own last index 3, which only one of the two voters reached. -/
example :
    let s := exLeader.withLdr { exLeader.ldr with numVoters := 1 }
    s.majorityMatchIndex.1 = 3 ∧
    ¬ (2 * (s.voterMatches.countP (fun m => decide (m ≥ s.majorityMatchIndex.1))) > s.configs.latest.numVoters) := by
  decide +kernel

/-- EXAMPLE input: a client asks to demote node 2 -/
def exDemote : Config :=
  { exLeader.configs.latest with
    nodes := exLeader.configs.latest.nodes.map (fun n => if n.id = 2 then { n with action := actDemote } else n) }

/-- EXAMPLE: a step of `exLeader` that changes the configuration keeps the caches current (an instance
of `step_leaderCache`). `#eval` of this step: no panic, still leader, configuration 4 appended and
installed in which node 2 is a non-voter, replications `[(2, voter := false), (3, voter := false)]`,
`numVoters = 1` (the kernel cannot replay it by `decide`: `mergeSort` and the string functions are
defined by well-founded recursion). -/
example : LeaderCache (exLeader.step (.changeConfig 1 exDemote) [] []) :=
  step_leaderCache _ _ _ _ (fun h => by cases h) (fun _ => exLeader_ok)

/-- EXAMPLE (why `shutdown` is excluded from `step_leaderCache`): `Shutdown` runs `leader.release`, which
stops and drops the replications while the role variable stays "leader" and the configuration keeps its
three members; the node is closed, `stateLoop` has returned. -/
example :
    (exLeader.step .shutdown [] []).role = .leader ∧ (exLeader.step .shutdown [] []).ldr.repls = [] ∧
    (exLeader.step .shutdown [] []).configs.latest.nodes.length = 3 ∧
    (exLeader.step .shutdown [] []).closed = "serverClosed" ∧
    ¬ LeaderCache (exLeader.step .shutdown [] []) := by
  have h : (exLeader.step .shutdown [] []).role = .leader ∧ (exLeader.step .shutdown [] []).ldr.repls = [] ∧
      (exLeader.step .shutdown [] []).configs.latest.nodes = exLeader.configs.latest.nodes ∧
      (exLeader.step .shutdown [] []).nid = 1 ∧
      (exLeader.step .shutdown [] []).closed = "serverClosed" := by decide +kernel
  obtain ⟨h1, h2, h3, h4, h5⟩ := h
  refine ⟨h1, h2, by rw [h3]; rfl, h5, ?_⟩
  intro hc
  obtain ⟨r, hr, _⟩ := (hc h1).member_repl { id := 2, addr := "b:1", voter := true } (by rw [h3]; decide)
    (by rw [h4]; decide)
  rw [h2] at hr
  cases hr

end C06Cache
end Raft

#print axioms Raft.C06Cache.step_leaderCache
#print axioms Raft.C06Cache.step_leaderCacheOpen
#print axioms Raft.C06Cache.run_leaderCacheOpen
#print axioms Raft.C06Cache.restart_leaderCache
#print axioms Raft.C06Cache.step_closed -- also C15
#print axioms Raft.C06Cache.shutdown_closes -- also C15
#print axioms Raft.C06Cache.repl_node_is_member
#print axioms Raft.C06Cache.repl_voter_flag_current -- also C11
#print axioms Raft.C06Cache.member_has_replication
#print axioms Raft.C06Cache.voter_has_replication
#print axioms Raft.C06Cache.nonvoter_ack_never_counts -- also C11
#print axioms Raft.C06Cache.majority_no_nil
#print axioms Raft.C06Cache.fast_path_only_voter -- also C11 C17
#print axioms Raft.C06Cache.commit_needs_majority_of_latest_voters
#print axioms Raft.C06Cache.leader_commit_needs_majority
#print axioms Raft.C06Cache.majority_of_latest_voters_commits -- also C17
#print axioms Raft.Node.LC.block
#print axioms Raft.Node.LC.cleaderInit
#print axioms Raft.Node.LC.settle_cache
