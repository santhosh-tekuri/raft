/-
C09 / C04 / C02 / C03 with THE LEADER'S DELAYED LOG COMPACTION (`leader.checkLogCompact`, `removeLTE` reports) — on the
node level for every state, and on the cluster-level transition system `Raft.Snap5` (Sys/Snap5.lean), which is stage 2
(Sys/Snap2.lean, Props/C09Sys2.lean) WITHOUT its restriction "replication updates never report a compaction".
What the code does (fsm.go `onSnapshotTaken`, leader.go `checkReplUpdates` / `checkLogCompact` / `notifyFlr`,
replication.go `onLeaderUpdate`): see the header of Sys/Snap5.lean.

1. NODE LEVEL — every ordered state, every batch, every oracle, no cluster assumptions: what a compacting step does to
   the log (`delayed_compaction_node`), the bounds `log.prev ≤ ldr.removeLTE ≤ snapIndex ≤ commitIndex`
   (`leader_compaction_bounds_node`), the crash image at `compactLog` (`compaction_point_crash_image`).
2. CLUSTER LEVEL — `Raft.Snap5` (`Reachable5 V`): the theorems of Props/C09Sys2.lean, and `delayed_compaction_step_sys_partial`.
   "partial": the assumptions of Sys/Snap5.lean — those of stage 2, ONE more side condition on every state
   (`ldr.removeLTE ≤ snapIndex`, discharged by `ordered_in_snap5_partial` under the two configuration side conditions of
   `Snap4.Side4`), and a process dies before `compactLog` in a compacting `checkReplUpdates` (dying later is: completing
   the step, then dying — item 1). `removeLTE` reports are ARBITRARY: cluster-level safety does not depend on them.
3. THE PROPERTY THE DELAY EXISTS FOR — "a running replication goroutine never has entries of its log view removed under
   it" — on the report protocol in isolation (Sys/SnapView.lean; the ledger of reports is its queue `q`, the ghost is
   the first index `view j` of the goroutine's view; parameterised by the report rule of `replication.onLeaderUpdate`):
   **FINDING F19** (`view_removed_under_replication`, `removeLTE_lowered`, the chains `exL0 … exL7` / `exR4 … exR8`), the
   repaired rule (`compact_keeps_views`), the alternative repair (`compact_keeps_views_mono_partial`), and the node level
   for the batch of the waiting reports (`delayed_compaction_keeps_views_node_partial`).
4. THE FRAME of the leader's compaction bookkeeping for every operation (`status_frame_*`, `leaderInit_resets`,
   `leadership_change_all_new`) and the protocol composed with the node model (`leader_step_keeps_views_partial`).
   STILL MISSING (so `views_valid_sys_snap5` is not stated): (a) "`log.prev ≤ view j` in every reachable state" is FALSE
   as it stands — the immediate compaction does not consult the views (`exImm`); the true invariant is `log.prev ≤ view j
   ∨ log.prev ≤ the goroutine's match index` and needs, beyond this file, monotone match-index reports and the
   goroutine-side fact `nextIndex - 1 ≥ matchIndex` (and even then a goroutine reads AT its match index: second
   observation of section 3); (b) `NoReAdd` (no member is removed and added again inside one handler) needs reasoning
   about configurations through the leader block; (c) batches that mix `removeLTE` reports with other updates: the frame
   says which statuses such a batch can produce (`status_frame_replUpdates`), the FIFO bookkeeping (`latest`) through a
   loop interleaved with configuration actions is done only for the batch of the waiting reports; (d) the ghost-extended
   cluster system itself.
-/
import RaftVerif.Lemmas.SnapDelayD
import RaftVerif.Lemmas.SnapDelayG5
import RaftVerif.Sys.SnapView
import RaftVerif.Props.C09Sys2
import RaftVerif.Props.C15NoPanic

namespace Raft
namespace C09Sys4
open Node Election LogRel Replication CommitRel Commit C02Sys C03Sys SnapRel SnapRelU SnapSim Snap Snap2 SnapInv SnapInv2
  Snap5 SnapDelay SnapView

/-! ## 1. node level -/

/-- **Delayed compaction, node level.** Let `s` be any ordered state (`Order.Ordered`, the per-node invariant of C19),
`us` any batch of replication updates, `ra`/`ord` any oracle, and let the step not fail an assertion. Then the step
`s.step (.replUpdates us)` EITHER is the step without compaction (`SnapDelay.stepNC`: the log is what the batch without
its `removeLTE` reports leaves), OR (`SnapDelay.DelayedCompaction`), with `a` the state in which `checkReplUpdates`
takes the decision (`SnapDelay.updPre`: after the loop over the batch, `onMajorityCommit`, `checkQuorum`):
* the node led when the step began, a report was in the batch, `a.log.prev < a.ldr.removeLTE`, and EVERY replication
  status holds `removeLTE ≥ a.ldr.removeLTE` (`all`);
* the log is `RemoveLTE(a.ldr.removeLTE)` of `a.log` (`log`): `log.prev` moves forward (`prev_mono`) but not beyond
  `ldr.removeLTE` (`prev_le`), which is not beyond the snapshot index (`bound_le`) and is not changed (`bound_same`);
  the last index does not move (`last`, `lastLogIndex`); every index above the new `log.prev` keeps its entry (`kept`);
* the state after the step is ordered again (`ordered`): `log.prev ≤ snapIndex ≤ applied ≤ commitIndex ≤ lastLogIndex
  = log.last`, well-formed segment list, `ldr.removeLTE ≤ snapIndex`. -/
theorem delayed_compaction_node (s : Node) (us : List ReplUpdate) (ra : List Nat) (ord : List (List Nat))
    (ho : Order.Ordered s) (hp : (s.step (.replUpdates us) ra ord).panicked = none) :
    s.step (.replUpdates us) ra ord = stepNC s us ra ord ∨ DelayedCompaction s us ra ord :=
  SnapDelay.delayed_compaction_node s us ra ord ho hp

/-- **`log.prev ≤ ldr.removeLTE ≤ snapIndex ≤ commitIndex` for a leader, in every state of every run.** The bounds are
clauses of the per-node invariant `NoPanic.Good` (C15NoPanic), which every operation preserves
(`C15NoPanic.good_step`: from an open good state, for an acceptable operation, unless the model's recursion budget runs
out); so they hold after the step as well. `ldr.removeLTE ≤ snapIndex` holds for every node, leader or not, also for a
stale leader record. -/
theorem leader_compaction_bounds_node {T : Bool} (s : Node) (op : Op) (ra : List Nat) (ord : List (List Nat))
    (hG : NoPanic.Good T s) (ho : s.closed = "") (hr : NoPanic.ReqOk' T s op)
    (hf : (s.step op ra ord).panicked ≠ some "fuel") :
    (s.ldr.removeLTE ≤ s.snapIndex ∧ s.snapIndex ≤ s.commitIndex ∧ (s.role = .leader → s.log.prev ≤ s.ldr.removeLTE)) ∧
    ((s.step op ra ord).ldr.removeLTE ≤ (s.step op ra ord).snapIndex ∧
     (s.step op ra ord).snapIndex ≤ (s.step op ra ord).commitIndex ∧
     ((s.step op ra ord).closed = "" → (s.step op ra ord).role = .leader →
       (s.step op ra ord).log.prev ≤ (s.step op ra ord).ldr.removeLTE)) := by
  have hG' := C15NoPanic.good_step s op ra ord hG ho hr hf
  refine ⟨⟨hG.ordered.removeLTE_le, Nat.le_trans hG.ordered.snap_le_applied hG.ordered.applied_le_commit,
    fun hl => (hG.leader ho hl).1.prevLe⟩,
    ⟨hG'.ordered.removeLTE_le, Nat.le_trans hG'.ordered.snap_le_applied hG'.ordered.applied_le_commit,
    fun hc hl => (hG'.leader hc hl).1.prevLe⟩⟩

/-- **The crash image at `compactLog`.** Let the step compact (`DelayedCompaction`). Then `compactLog` is the last
storage point of the step: a process that dies after `k` storage points with `k` beyond the storage points of the step
without the compaction finds on disk exactly the disk of the COMPLETED step — the same disk as after dying before the
first storage point of whatever operation `op'` comes next — and that disk, with what the compaction removed added to the
compacted-away prefix `β`, un-compacts to the whole un-compacted log the leader had when it decided (entries not flushed
before included: `RemoveLTE` commits first). So the restart after such a crash is the restart of stage 2 from the state
after the completed step (`SnapInv2.restart_view`): same virtual log. -/
theorem compaction_point_crash_image (β : List Entry) (s : Node) (us : List ReplUpdate) (ra : List Nat)
    (ord : List (List Nat)) (hd : DelayedCompaction s us ra ord) (k : Nat)
    (hk : (stepNC s us ra ord).trace.length < k) (op' : Op) (ra' : List Nat) (ord' : List (List Nat)) :
    C05.crashDisk s (.replUpdates us) ra ord k = (s.step (.replUpdates us) ra ord).durable ∧
    C05.crashDisk (s.step (.replUpdates us) ra ord) op' ra' ord' 0 = (s.step (.replUpdates us) ra ord).durable ∧
    (uncD ((uncLog β (updPre (s.begin ra ord) us).log).entries.take (s.step (.replUpdates us) ra ord).log.prev)
      (C05.crashDisk s (.replUpdates us) ra ord k)).log.entries = (uncLog β (updPre (s.begin ra ord) us).log).entries := by
  obtain ⟨h1, h2⟩ := crash_after_compact s us ra ord hd.compacted k hk op' ra' ord'
  refine ⟨h1, h2, ?_⟩
  rw [h1]
  exact compact_image_virtual β s us ra ord hd

/-! ### example (node level): a leader with one lagging follower — snapshot at 5, follower 3 matched 2 and out of
contact, follower 2 matched 6; segments `(0,4]`, `(4,…]`.  `onSnapshotTaken` records `removeLTE = 4` and does not
compact (`nowCompact = CanLTE(2) = 0`); the report of follower 2 alone does not compact; when follower 3 has reported
too, `checkLogCompact` compacts to 4. -/

def exCfg : Config :=
  { index := 1, term := 1, nodes := [1, 2, 3].map (fun i => { id := i, addr := s!"h:{i}", voter := true }) }
def exRepl (id m : Nat) (nc : Bool) : Repl :=
  { id := id, matchIndex := m, noContact := nc, node := { id := id, addr := s!"h:{id}", voter := true } }
def exEnt (k : Nat) : Entry := if k = 1 then exCfg.toEntry else { index := k, term := 2, typ := etUpdate, data := s!"d{k}" }

/-- leader 1 of term 2, log 1…6, snapshot taken at index 5 (the result is waiting to be handed over) -/
def exD0 : Node :=
  { cid := 7, nid := 1, term := 2, durTerm := 2, votedFor := 1, durVote := 1,
    log := { prev := 0, entries := [exEnt 1, exEnt 2, exEnt 3, exEnt 4, exEnt 5, exEnt 6], flushed := 6, segs := [0, 4] },
    lastLogIndex := 6, lastLogTerm := 2, role := .leader, leader := 1, commitIndex := 5,
    snapIndex := 5, snapTerm := 2,
    snapsDisk := [{ index := 5, term := 2, config := exCfg, data := ["d2", "d3", "d4", "d5"] }],
    fsm := { index := 5, term := 2, applied := ["d2", "d3", "d4", "d5"], config := exCfg },
    configs := { committed := exCfg, latest := exCfg },
    snapResult := some { task := 9, index := 5 },
    ldr := { node := exCfg.get 1, numVoters := 3, startIndex := 2, removeLTE := 0,
             repls := [exRepl 2 6 false, exRepl 3 2 true] } }

def exRm (id v : Nat) : ReplUpdate := { id := id, upd := .removeLTE v }
/-- the result is handed over: `ldr.removeLTE = 4`, nothing compacted -/
def exD1 : Node := exD0.step .snapTaken [] []
/-- follower 2 reports: nothing compacted -/
def exD2 : Node := exD1.step (.replUpdates [exRm 2 4]) [] []
/-- follower 3 reports: compaction to 4 -/
def exD3 : Node := exD2.step (.replUpdates [exRm 3 4]) [] []

set_option maxRecDepth 100000 in
/-- example for `delayed_compaction_node`: its hypotheses hold for `exD2` and the batch `[removeLTE{3: 4}]`, and the
step is a delayed compaction (the log starts after index 4 afterwards; before, `removeLTE = 4` was recorded and the
report of follower 2 alone compacted nothing) -/
example : Order.Ordered exD2 ∧ exD3.panicked = none ∧
    exD1.log.prev = 0 ∧ exD1.ldr.removeLTE = 4 ∧ exD2.log.prev = 0 ∧
    exD3.log.prev = 4 ∧ exD3.log.entries.map (·.index) = [5, 6] ∧ exD3.snapIndex = 5 ∧
    exD3.trace.map (·.1) = ["compactLog"] ∧ exD3 ≠ stepNC exD2 [exRm 3 4] [] [] := by
  refine ⟨⟨⟨by decide, by decide, by decide, by decide, by decide, by decide, ⟨by decide, by decide, by decide⟩,
    by decide, by decide⟩, by decide⟩, by decide, by decide, by decide, by decide, by decide, by decide, by decide,
    by decide, fun h => ?_⟩
  have : exD3.log.prev = (stepNC exD2 [exRm 3 4] [] []).log.prev := by rw [h]
  revert this
  decide

/-! ## 2. cluster level: `Raft.Snap5` -/

section
variable {V : List Nat}

/-- **C04 with delayed compaction — log matching (partial).** In every state of the cluster reachable in `Raft.Snap5`
(`Reachable5 V`: any schedule, message delay / loss / duplication / reordering, crashes and restarts, snapshots, the
compaction by `onSnapshotTaken` AND the delayed compaction by `checkLogCompact` triggered by arbitrary `removeLTE`
reports; assumptions: header of Sys/Snap5.lean): if the logs of nodes `i` and `j` hold entries with the same term at
index `k`, then at every index `k' ≤ k` that BOTH logs still hold they hold the SAME entry; and the same for the virtual
logs (compacted-away entries included) at every index `k' ≤ k`. -/
theorem log_matching_sys_snap5_partial (hV : V.Nodup) (x : Snap2.Sys) (h : Reachable5 V x) (i j k : Nat)
    (a b : Entry) (ha : (x.node i).log.get? k = some a) (hb : (x.node j).log.get? k = some b)
    (ht : a.term = b.term) :
    (∀ k', k' ≤ k → ∀ a' b', (x.node i).log.get? k' = some a' → (x.node j).log.get? k' = some b' → a' = b') ∧
    (∀ k', k' ≤ k → ∀ a' b', (x.vnode i).log.get? k' = some a' → (x.vnode j).log.get? k' = some b' → a' = b') :=
  C09Sys2.log_matching_of_view x (inv5_reachable hV h).1.inv2.sinv i j k a b ha hb ht

/-- **C02 with delayed compaction — leader completeness (partial).** In every reachable state of `Raft.Snap5`:
1. every leader holds — in its virtual log, and in its real log unless the index was compacted away, in which case the
   index is covered by the leader's own snapshot — every entry of the ledger `committed` whose term is not above its own;
2. every leader `i` whose term is at least the term of node `j` holds (virtually), at every index within `j`'s commit
   index, the very entry `j` holds there;
3. every created entry of a later term extends every ledger entry. -/
theorem leader_completeness_sys_snap5_partial (hV : V.Nodup) (x : Snap2.Sys) (h : Reachable5 V x) :
    (∀ i, (x.node i).role = .leader → ∀ m ∈ x.cs.committed, m.2 ≤ (x.node i).term →
      ∃ e, (x.vnode i).log.get? m.1 = some e ∧ e.term = m.2 ∧
        ((x.node i).log.prev < m.1 → (x.node i).log.get? m.1 = some e) ∧
        (m.1 ≤ (x.node i).log.prev → m.1 ≤ (x.node i).snapIndex)) ∧
    (∀ i j k, (x.node i).role = .leader → (x.node j).term ≤ (x.node i).term → 1 ≤ k →
      k ≤ (x.node j).commitIndex →
      (x.vnode i).log.get? k = (x.vnode j).log.get? k ∧ ((x.vnode j).log.get? k).isSome = true) ∧
    (∀ m ∈ x.cs.committed, ∀ c ∈ x.cs.T, m.2 < c.e.term → Anc x.cs.T m (key c)) :=
  C09Sys2.leader_completeness_of_view hV x (inv5_reachable hV h).1.inv2.sinv (inv5_reachable hV h).1.inv2.prev

/-- **C03 with delayed compaction — state-machine safety (partial).** In every reachable state of `Raft.Snap5`, on
every node — whatever mixture of applying entries, snapshots, immediate and delayed compaction, crashes and restores
produced its state:
1. the state machine holds exactly the update payloads of the entries `1 … fsm.index` of its virtual log, in order, and
   never ran ahead of the commit index;
2. every entry it has been fed is committed;
3. a node that applied no more than another holds (virtually) the same entries up to its applied index and its command
   sequence is a prefix of the other's; hence any two command sequences are prefix-comparable. -/
theorem state_machine_safety_sys_snap5_partial (hV : V.Nodup) (x : Snap2.Sys) (h : Reachable5 V x) :
    (∀ i, (x.node i).fsm.index ≤ (x.node i).commitIndex ∧
      (x.node i).fsm.index ≤ (x.vlog i).length ∧
      (x.node i).fsm.applied = ups ((x.vlog i).take (x.node i).fsm.index)) ∧
    (∀ i k, 1 ≤ k → k ≤ (x.node i).fsm.index → Committed (view x).cs (k, termAt (x.vlog i) k)) ∧
    (∀ i j, (x.node i).fsm.index ≤ (x.node j).fsm.index →
      (x.vlog i).take (x.node i).fsm.index = (x.vlog j).take (x.node i).fsm.index ∧
      (x.node i).fsm.applied <+: (x.node j).fsm.applied) ∧
    (∀ i j, (x.node i).fsm.applied <+: (x.node j).fsm.applied ∨
      (x.node j).fsm.applied <+: (x.node i).fsm.applied) :=
  C09Sys.state_machine_safety_of_inv (view x) (inv5_reachable hV h).1.inv2.sinv

/-- **C09 — a snapshot is a committed prefix (partial), with delayed compaction.** In every reachable state of
`Raft.Snap5`, for every snapshot file `f` node `i` ever had on disk and every file on its disk now: `1 ≤ f.index ≤
snapIndex ≤ commitIndex`; `f.data` is the replay of the entries `1 … f.index` of node `i`'s virtual log — including
what either kind of compaction removed since —, and of the virtual log of every node whose commit index covers
`f.index`. -/
theorem snapshot_is_committed_prefix_snap5_partial (hV : V.Nodup) (x : Snap2.Sys) (h : Reachable5 V x) :
    ∀ i f, ((i, f) ∈ x.snaps ∨ f ∈ (x.node i).snapsDisk) →
      1 ≤ f.index ∧ f.index ≤ (x.node i).snapIndex ∧ (x.node i).snapIndex ≤ (x.node i).commitIndex ∧
      (∀ k, 1 ≤ k → k ≤ f.index → Committed (view x).cs (k, termAt (x.vlog i) k)) ∧
      f.data = ups ((x.vlog i).take f.index) ∧
      ∀ j, f.index ≤ (x.node j).commitIndex → f.data = ups ((x.vlog j).take f.index) :=
  C09Sys.snapshot_is_committed_prefix_of_inv (view x) (inv5_reachable hV h).1.inv2.sinv

/-- **C09 — compaction keeps every follower servable (partial), with delayed compaction.** In every reachable state of
`Raft.Snap5` — in particular after `checkLogCompact` compacted —, for every node `i`:
1. `log.prev ≤ snapIndex ≤ commitIndex`: every index the log no longer holds is covered by the node's newest snapshot;
2. if a snapshot exists it is a file on the node's disk, with the snapshot index, whose content is the replay of the
   (virtual) log up to there;
3. every index above `log.prev` up to the last index is answered by `Log.Get` with the entry of the virtual log.
So a leader can bring ANY follower up to date: from its log above `log.prev`, with its snapshot at or below. -/
theorem compaction_keeps_servable_snap5_partial (hV : V.Nodup) (x : Snap2.Sys) (h : Reachable5 V x) (i : Nat) :
    (x.node i).log.prev ≤ (x.node i).snapIndex ∧ (x.node i).snapIndex ≤ (x.node i).commitIndex ∧
    (0 < (x.node i).snapIndex → ∃ f ∈ (x.node i).snapsDisk, f.index = (x.node i).snapIndex ∧
      f.data = ups ((x.vlog i).take f.index)) ∧
    (∀ k, (x.node i).log.prev < k → k ≤ (x.node i).log.last →
      ∃ e, (x.node i).log.get? k = some e ∧ (x.vlog i)[k - 1]? = some e ∧ e.index = k) :=
  have h := C09Sys2.compaction_keeps_servable_of_view x (inv5_reachable hV h).1.inv2.sinv i
    ((inv5_reachable hV h).1.inv2.prev i)
  ⟨h.1, h.2.1, fun hpos => C09Sys2.servable_mem (h.2.2.1 hpos), h.2.2.2⟩

/-- **The delayed compaction does not change the virtual log (partial).** Let `x` be reachable in `Raft.Snap5`, let
node `i` handle a batch `us` of replication updates — with any `removeLTE` reports — to completion, and let the side
conditions hold afterwards. Then the state after the step is reachable, and the virtual log of node `i` after the step
(`base ++ entries`, with what `checkLogCompact` removed added to `base`) is the log the UN-COMPACTED node has after
handling the batch without the reports (`SnapDelay.rmF us`); the virtual logs of the other nodes are untouched. -/
theorem delayed_compaction_step_sys_partial (hV : V.Nodup) (x : Snap2.Sys) (h : Reachable5 V x) {i : Nat}
    {us : List ReplUpdate} {ra : List Nat} {ord : List (List Nat)} {src : Nat}
    (en : Snap5.Enabled x.cs i (.replUpdates us) src)
    (hp : ((x.node i).step (.replUpdates us) ra ord).panicked = none)
    (hS' : Side5 V (stepS x i (.replUpdates us) ra ord src)) :
    Reachable5 V (stepS x i (.replUpdates us) ra ord src) ∧
    (stepS x i (.replUpdates us) ra ord src).vlog i =
      ((x.vnode i).step (.replUpdates (rmF us)) ra ord).log.entries ∧
    ∀ j, j ≠ i → (stepS x i (.replUpdates us) ra ord src).vlog j = x.vlog j := by
  obtain ⟨hI, hS⟩ := inv5_reachable hV h
  have hr := hS'.rm i
  rw [stepS_node_i] at hr
  have key := step_rm hV hI.inv2.sinv hI.inv2.prev hS.side (hI.cache i) en hp hS'.side hr
  refine ⟨.next _ _ h (.step i _ ra ord src en hp) hS', key.2.2, fun j hj => ?_⟩
  show ((stepS x i (.replUpdates us) ra ord src).vnode j).log.entries = _
  rw [view_stepS_node, if_neg hj]
  rfl

/-- **The side condition on the compaction bound, discharged (partial): every node is ordered.** Let the runs satisfy,
instead of `Side5.rm`, the two side conditions on configurations of `Snap4.Side4` (`SnapDelay.Side5c`: `cfgord`, `cfg` —
this fixed-membership model does not track configurations) and start with leader records that hold no bound. Then every
reachable state is a reachable state of `Raft.Snap5` — so all theorems above apply — and every node `i` satisfies the
per-node invariant `Order.Ordered`; in particular `log.prev ≤ snapIndex ≤ commitIndex ≤ lastLogIndex` and
**`ldr.removeLTE ≤ snapIndex`** hold in every state of every run, delayed compactions included. (`log.prev ≤
ldr.removeLTE` for a leader is the clause `prevLe` of `NoPanic.Good`: `leader_compaction_bounds_node`; in this system
completed steps are ASSUMED not to fail, so it is not needed.) -/
theorem ordered_in_snap5_partial (hV : V.Nodup) (x : Snap2.Sys) (h : Reachable5c V x) (i : Nat) :
    Reachable5 V x ∧ Order.Ordered (x.node i) ∧ (x.node i).ldr.removeLTE ≤ (x.node i).snapIndex ∧
    (x.node i).log.prev ≤ (x.node i).snapIndex ∧ (x.node i).snapIndex ≤ (x.node i).commitIndex := by
  obtain ⟨h1, _, h3⟩ := reachable5c hV h
  have ho := h3 i
  exact ⟨h1, ho, ho.removeLTE_le, ho.prev_le_snap, Nat.le_trans ho.snap_le_applied ho.applied_le_commit⟩

end

/-! ### examples (cluster level).  Three voters, every node bootstrapped with the same configuration entry (1,1)
(`C09Sys2.exY0`).  A state reached by a transition of the NEW kind — a batch with a `removeLTE` report is delivered — is
PROVED reachable in `Raft.Snap5` (to a follower, which ignores it: the mutually recursive leader block does not reduce
in the kernel); a scenario with a real delayed compaction on a leader is EVALUATED. -/

def exA1 : Snap2.Sys := stepS C09Sys2.exY0 2 (.replUpdates [exRm 3 0]) [] [] 0

theorem exEnabled5 (x : Commit.Sys) : Snap5.Enabled x 2 (.replUpdates [exRm 3 0]) 0 := by
  refine ⟨by decide, fun q h => (by cases h), fun ⟨_, _, _, h⟩ => (by cases h),
    ⟨trivial, fun b h => (by cases h), fun t c h => (by cases h)⟩,
    fun q h => (by cases h), fun q h => (by cases h), fun q h => (by cases h), fun us h u hu v hv => ?_⟩
  injection h with h
  rw [← h] at hu
  have : u = exRm 3 0 := List.mem_singleton.mp hu
  rw [this] at hv
  cases hv

set_option maxRecDepth 100000 in
/-- example: `exA1` is reachable in `Raft.Snap5` — the hypotheses of the theorems of this section hold for a state
reached by delivering a `removeLTE` report -/
example : [1, 2, 3].Nodup ∧ Reachable5 [1, 2, 3] exA1 := by
  have s0 : Side2 [1, 2, 3] C09Sys2.exY0 := C09Sys2.exSide2 _ (C04Sys.exNode 2) rfl rfl (by
    show C04Sys.exNode = _
    funext j; unfold setNode; split
    · rename_i h; rw [h]
    · rfl)
  have r0 : ∀ i, (C09Sys2.exY0.node i).ldr.removeLTE ≤ (C09Sys2.exY0.node i).snapIndex := fun i => Nat.le_refl 0
  have t1 : Snap5.Trans C09Sys2.exY0 exA1 := .step 2 _ [] [] 0 (exEnabled5 _) (by decide)
  have s1 : Side2 [1, 2, 3] exA1 :=
    C09Sys2.exSide2 _ ((C04Sys.exNode 2).step (.replUpdates [exRm 3 0]) [] []) (by decide) (by decide) rfl
  have r1 : ∀ i, (exA1.node i).ldr.removeLTE ≤ (exA1.node i).snapIndex := by
    intro i
    show (setNode C04Sys.exNode 2 ((C04Sys.exNode 2).step (.replUpdates [exRm 3 0]) [] []) i).ldr.removeLTE ≤
      (setNode C04Sys.exNode 2 ((C04Sys.exNode 2).step (.replUpdates [exRm 3 0]) [] []) i).snapIndex
    by_cases h : i = 2
    · subst h
      rw [setNode_same]
      decide
    · rw [setNode_other _ _ _ _ h]
      exact Nat.le_refl 0
  exact ⟨by decide, .next _ _ (.init _ C09Sys2.exY0_init ⟨s0, r0⟩) t1 ⟨s1, r1⟩⟩

set_option maxRecDepth 100000 in
/-- example: `exA1` is reachable with the configuration side conditions of `ordered_in_snap5_partial` as well (the only
record of the tree of created entries is the bootstrap entry) -/
example : Reachable5c [1, 2, 3] exA1 := by
  have s0 : Side2 [1, 2, 3] C09Sys2.exY0 := C09Sys2.exSide2 _ (C04Sys.exNode 2) rfl rfl (by
    show C04Sys.exNode = _
    funext j; unfold setNode; split
    · rename_i h; rw [h]
    · rfl)
  have t1 : Snap5.Trans C09Sys2.exY0 exA1 := .step 2 _ [] [] 0 (exEnabled5 _) (by decide)
  have s1 : Side2 [1, 2, 3] exA1 :=
    C09Sys2.exSide2 _ ((C04Sys.exNode 2).step (.replUpdates [exRm 3 0]) [] []) (by decide) (by decide) rfl
  have hT0 : ∀ c ∈ C09Sys2.exY0.cs.T, ∀ d ∈ C09Sys2.exY0.cs.T, c.e.index = d.e.index → c.e.term = d.e.term := by
    intro c hc d hd _
    have e1 : c = ⟨C04Sys.exE, 0, 0⟩ := List.mem_singleton.mp hc
    have e2 : d = ⟨C04Sys.exE, 0, 0⟩ := List.mem_singleton.mp hd
    rw [e1, e2]
  have hT1 : ∀ c ∈ exA1.cs.T, ∀ d ∈ exA1.cs.T, c.e.index = d.e.index → c.e.term = d.e.term := by
    intro c hc d hd _
    have e1 : c = ⟨C04Sys.exE, 0, 0⟩ := List.mem_singleton.mp hc
    have e2 : d = ⟨C04Sys.exE, 0, 0⟩ := List.mem_singleton.mp hd
    rw [e1, e2]
  have c0 : Side5c [1, 2, 3] C09Sys2.exY0 :=
    ⟨s0, fun i => ⟨Nat.le_refl 1, Nat.le_refl 1⟩, fun i => Or.inr (fun c hc d hd h _ => hT0 c hc d hd h)⟩
  have c1 : Side5c [1, 2, 3] exA1 := by
    refine ⟨s1, fun i => ?_, fun i => Or.inr (fun c hc d hd h _ => hT1 c hc d hd h)⟩
    show (setNode C04Sys.exNode 2 ((C04Sys.exNode 2).step (.replUpdates [exRm 3 0]) [] []) i).configs.committed.index ≤
        (setNode C04Sys.exNode 2 ((C04Sys.exNode 2).step (.replUpdates [exRm 3 0]) [] []) i).configs.latest.index ∧
      (setNode C04Sys.exNode 2 ((C04Sys.exNode 2).step (.replUpdates [exRm 3 0]) [] []) i).configs.latest.index ≤
        (setNode C04Sys.exNode 2 ((C04Sys.exNode 2).step (.replUpdates [exRm 3 0]) [] []) i).lastLogIndex
    by_cases h : i = 2
    · subst h
      rw [setNode_same]
      decide
    · rw [setNode_other _ _ _ _ h]
      exact ⟨Nat.le_refl 1, Nat.le_refl 1⟩
  exact .next _ _ (.init _ ⟨C09Sys2.exY0_init, fun i => rfl⟩ c0) t1 c1

/-! #### an evaluated scenario with a delayed compaction (tests, not proofs).  As in Props/C09Sys2.lean node 1 is elected
in term 2 and its first entry (index 2) starts a new log segment; index 2 is replicated to nodes 2 and 3, but only node
2's acknowledgement reaches the leader and node 3 is reported out of contact; index 2 is committed and applied; node 1
takes a snapshot at index 2: `nowCompact = CanLTE(0) = 0` (node 3's match index), `canCompact = CanLTE(2) = 1` — nothing
is compacted, `ldr.removeLTE = 1` is recorded; the report of node 2's goroutine compacts nothing; when node 3's goroutine
has reported too, `checkLogCompact` compacts the log up to index 1. -/

def exMi (id v : Nat) : ReplUpdate := { id := id, upd := .matchIndex v }
def exNc (id : Nat) (b : Bool) : ReplUpdate := { id := id, upd := .noContact b }
def exW7 : Snap2.Sys := stepS C09Sys2.exY6 1 (.replUpdates [exMi 2 2, exNc 3 true]) [] [] 0
def exW8 : Snap2.Sys := stepS exW7 1 (.takeSnapshot 9 0) [] [] 0
def exW9 : Snap2.Sys := stepS exW8 1 .snapRun [] [] 0
def exW10 : Snap2.Sys := stepS exW9 1 .snapTaken [] [] 0
def exW11 : Snap2.Sys := stepS exW10 1 (.replUpdates [exRm 2 1]) [] [] 0
def exW12 : Snap2.Sys := stepS exW11 1 (.replUpdates [exRm 3 1]) [] [] 0

#guard (exW9.node 1).snapIndex == 2 && (exW9.node 1).commitIndex == 2 && (exW9.node 1).log.segs == [0, 1]
-- the snapshot is handed over: the bound is recorded, nothing is compacted
#guard (exW10.node 1).log.prev == 0 && (exW10.node 1).ldr.removeLTE == 1 && (exW10.node 1).panicked.isNone
-- one report is not enough
#guard (exW11.node 1).log.prev == 0 && (exW11.node 1).ldr.repls.map (fun r => (r.id, r.removeLTE)) == [(2, 1), (3, 0)]
-- both reported: the delayed compaction; the removed entry goes to `base`, the virtual log is what it was, the log
-- starts below the snapshot index
#guard (exW12.node 1).log.prev == 1 && (exW12.node 1).log.segs == [1] && (exW12.node 1).snapIndex == 2 &&
  (exW12.node 1).trace.map (·.1) == ["compactLog"] && (exW12.base 1).map (fun e => (e.index, e.term)) == [(1, 1)] &&
  exW12.vlog 1 == exW10.vlog 1 && (exW12.node 1).panicked.isNone && (exW12.node 1).role == .leader &&
  (exW12.node 1).ldr.removeLTE ≤ (exW12.node 1).snapIndex

/-! ## 3. the views of the replication goroutines -/

/-- **A delayed compaction never removes an entry of the view of a running replication** (the repaired
`onLeaderUpdate`: every change of the view's first index is reported). In every state of the report protocol
(Sys/SnapView.lean, rule `chg = true`) reachable by ANY run — `ldr.removeLTE` raised and lowered at will by
`onSnapshotTaken` (`mono` arbitrary), updates replaced in `leaderUpdateCh`, reports delayed in `replUpdateCh`,
replications added and removed:
1. an update waiting for a goroutine carries a view that starts at the current bound `R`;
2. for every replication `j` the newest report still waiting in the channel — if none waits, `status.removeLTE` — IS the
   first index of the view the goroutine holds (`latest q j (st j) = view j`): what the status holds is the first index
   of the goroutine's view, or of a view it held when a report that is still waiting was sent;
3. hence: whenever `checkLogCompact` compacts — the leader has taken every waiting report (`q = []`, the loop of
   `checkReplUpdates` drains the channel) and every status is `≥ R` — to whatever first index `p ≤ R`
   (`Log.RemoveLTE(R)`), `p ≤ view j` for EVERY replication `j`; and this still holds when, between the draining and the
   compaction, some goroutine `k` takes the update waiting for it (`p ≤ upd view k pk j`).
Restrictions (why the protocol and not yet the cluster system): see item 3 of the file header. -/
theorem compact_keeps_views {mono : Bool} (x : PState) (h : PReach mono true x) :
    (∀ j p, x.chan j = some p → p = x.R) ∧
    (∀ j ∈ x.ids, latest x.q j (x.st j) = x.view j) ∧
    (x.q = [] → (∀ j ∈ x.ids, x.R ≤ x.st j) → ∀ p, p ≤ x.R → ∀ j ∈ x.ids,
      p ≤ x.view j ∧ ∀ k pk, x.chan k = some pk → p ≤ upd x.view k pk j) := by
  have hI := qinv_reach h
  refine ⟨hI.j2, hI.j3, fun hq hall p hp j hj => ?_⟩
  have hv : x.st j = x.view j := by
    have := hI.j3 j hj
    rw [hq] at this
    exact this
  have h1 : p ≤ x.view j := by rw [← hv]; exact Nat.le_trans hp (hall j hj)
  refine ⟨h1, fun k pk hk => ?_⟩
  unfold upd
  split
  · rw [hI.j2 k pk hk]; exact hp
  · exact h1

/-- the transition form: a `compact` transition of the repaired protocol leaves the log starting at or below every
view -/
theorem compact_trans_keeps_views {mono : Bool} (x y : PState) (h : PReach mono true x) (ht : PTrans mono true x y)
    (hP : y.P ≠ x.P) : ∀ j ∈ y.ids, y.P ≤ y.view j := by
  cases ht with
  | setR r _ => exact absurd rfl hP
  | notify J => exact absurd rfl hP
  | consume j p _ => exact absurd rfl hP
  | deliver j v rest _ => exact absurd rfl hP
  | compact p hq _ hall _ hp => exact fun j hj => ((compact_keeps_views x h).2.2 hq hall p hp j hj).1
  | add j _ => exact absurd rfl hP
  | remove j => exact absurd rfl hP

/-- example for `compact_keeps_views`: the run of finding F19 — bound 10, lowered to 5, raised to 10 — with the repaired
rule: the switch to the view starting at 5 is reported, the status drops to 5, and `checkLogCompact` does NOT compact
(`¬ ∀ j, R ≤ st j`) while the goroutine reads through the view starting at 5 -/
example : PReach false true ex7' ∧ ex7'.q = [] ∧ ex7'.st 2 = 5 ∧ ex7'.view 2 = 5 ∧ ex7'.R = 10 ∧
    ¬ (∀ j ∈ ex7'.ids, ex7'.R ≤ ex7'.st j) := ex_run_repaired

/-- **The alternative repair: never lower the bound (partial).** With the ORIGINAL report rule (or the repaired one:
`chg` arbitrary), in every state of the protocol reachable by runs in which `setR` never lowers the bound: no view starts
above the bound, every waiting report and every status is at or below the first index of the view of the goroutine it
belongs to — and therefore every compaction leaves the first index of the log at or below the first index of EVERY
replication's view. -/
theorem compact_keeps_views_mono_partial {chg : Bool} (x : PState) (h : PReach true chg x) :
    (∀ j, x.view j ≤ x.R) ∧ (∀ e ∈ x.q, e.2 ≤ x.view e.1) ∧ (∀ j ∈ x.ids, x.st j ≤ x.view j) ∧
    ∀ y p, y = { x with P := p } → (∀ j ∈ x.ids, x.R ≤ x.st j) → p ≤ x.R → ∀ j ∈ y.ids, y.P ≤ y.view j := by
  have hI := pinv_reach h
  refine ⟨hI.i1, hI.i3, hI.i4, fun y p hy hall hp j hj => ?_⟩
  rw [hy] at hj ⊢
  exact Nat.le_trans hp (Nat.le_trans (hall j hj) (hI.i4 j hj))

/-- example for `compact_keeps_views_mono_partial`: a leader whose log starts at 0 with replications 2 and 3; the bound 4
is recorded, both goroutines switch and report, the leader may compact to 4 -/
example : ∃ x : PState, PReach true false x ∧ x.R = 4 ∧ x.ids = [2, 3] ∧ x.q = [] ∧ (∀ j ∈ x.ids, x.R ≤ x.st j) := by
  let x0 : PState := { R := 0, P := 0, ids := [2, 3], st := fun _ => 0, view := fun _ => 0, chan := fun _ => none, q := [] }
  have r0 : PReach true false x0 := .init _ ⟨rfl, fun _ => rfl, fun _ => rfl, fun _ => rfl, rfl⟩
  have r1 := PReach.next _ _ r0 (.setR 4 (fun _ => Nat.zero_le 4))
  have r2 := PReach.next _ _ r1 (.consume 2 4 rfl)
  have r3 := PReach.next _ _ r2 (.consume 3 4 rfl)
  have r4 := PReach.next _ _ r3 (.deliver 2 4 [(3, 4)] rfl)
  have r5 := PReach.next _ _ r4 (.deliver 3 4 [] rfl)
  refine ⟨_, r5, rfl, rfl, rfl, fun j hj => ?_⟩
  have hj' : j ∈ [2, 3] := hj
  rcases List.mem_cons.mp hj' with rfl | hj''
  · decide
  · have : j = 3 := List.mem_singleton.mp hj''
    rw [this]
    decide

/-- **FINDING F19 (protocol level, the ORIGINAL report rule): when the bound is lowered, a view in use loses
entries.** With `onLeaderUpdate` reporting only when the view moves UP (`chg = false`) and `setR` allowed to lower the
bound, as `onSnapshotTaken` does (`mono = false`), there is a run that reaches a state in which no report is waiting,
every status is `≥ R`, and `checkLogCompact` compacts to index 10 while the goroutine of replication 2 reads through a
view that starts at 5: the entries 6 … 10 of its view are removed under it (`SnapView.ex0` … `ex7`). Reproduced on the Go
code and repaired (commit 1c6b1f3: report whenever the first index changes). -/
theorem view_removed_under_replication :
    PReach false false ex6 ∧ PTrans false false ex6 ex7 ∧ ex6.q = [] ∧ 2 ∈ ex7.ids ∧ ex7.view 2 = 5 ∧ ex7.P = 10 ∧
    ex6.st 2 = 10 :=
  ⟨ex_run.1, ex_run.2, rfl, by decide, by decide, rfl, by decide⟩

/-- `PTrans.consume` with the repaired rule is `replication.onLeaderUpdate` (Model/Repl.lean, compared with the Go
function by the replication engine): the view is replaced unconditionally; a `removeLTE` report is sent iff the first
index of the new view DIFFERS from the old one -/
theorem consume_is_onLeaderUpdate (st : Repl.State) (p l c : Nat) (v : Option Bool) :
    (Repl.onLeaderUpdate st p l c v).st.viewPrev = p ∧
    (Repl.onLeaderUpdate st p l c v).notes = (if reports true st.viewPrev p then [⟨"removeLTE", p⟩] else []) := by
  refine ⟨rfl, ?_⟩
  unfold Repl.onLeaderUpdate reports
  dsimp only
  by_cases h : p = st.viewPrev
  · rw [if_neg (fun hn => hn h)]
    simp [h]
  · rw [if_pos h]
    simp [h]

/-- `PTrans.deliver` is the case `removeLTE` of the loop of `leader.checkReplUpdates`: the status of the replication
records the reported index, whatever it held -/
theorem deliver_is_replUpdLoop (s : Node) (f : UpdFlags) (id v : Nat) (st : Repl) (us : List ReplUpdate)
    (h : s.findRepl? id = some st) :
    replUpdLoop s f ({ id := id, upd := .removeLTE v } :: us) =
      replUpdLoop (s.setRepl { st with removeLTE := v }) { f with removeLTEU := true } us := by
  conv => lhs; unfold replUpdLoop
  rw [if_neg (by show ¬ (false = true); decide), h]

/-- **The delayed compaction never removes an entry of the view of a running replication — node level, for the batch
of the waiting reports (partial).** Let `s` be an ordered leader state whose caches are current
(`C06Cache.LeaderCache`: the replication table is sorted by id), `view j` the first index of the view the goroutine of
replication `j` holds, `q` the `removeLTE` reports waiting in `replUpdateCh`, coupled as in every reachable state of the
repaired report protocol (`SnapDelay.Coupled` = `SnapView.QInv.j3`: the newest waiting report of a replication — its
status if none waits — is the first index of its goroutine's view). Let the leader take exactly these reports without
failing. Then either the step is the step without compaction, or the log afterwards starts at or below the first index
of the view of EVERY replication of `s`. ("partial": the batch holds nothing but the waiting reports; for the general
batch see the header of Lemmas/SnapDelayG5.lean.) -/
theorem delayed_compaction_keeps_views_node_partial (s : Node) (q : List (Nat × Nat)) (view : Nat → Nat)
    (ra : List Nat) (ord : List (List Nat)) (ho : Order.Ordered s) (hl : s.role = .leader)
    (hC : C06Cache.LeaderCache s) (hc : Coupled s q view)
    (hp : (s.step (.replUpdates (rmBatch q)) ra ord).panicked = none) :
    s.step (.replUpdates (rmBatch q)) ra ord = stepNC s (rmBatch q) ra ord ∨
    ∀ r ∈ s.ldr.repls, (s.step (.replUpdates (rmBatch q)) ra ord).log.prev ≤ view r.id :=
  reports_only_keeps_views s q view ra ord ho hl hC hc hp

set_option maxRecDepth 100000 in
/-- example for `delayed_compaction_keeps_views_node_partial`: the leader `exD2` (bound 4 recorded, the status of
replication 2 holds 4, that of 3 holds 0), both goroutines read through views starting at 4, the report of 3 is waiting -/
example : Order.Ordered exD2 ∧ exD2.role = .leader ∧ C06Cache.LeaderCache exD2 ∧
    Coupled exD2 [(3, 4)] (fun _ => 4) ∧ (exD2.step (.replUpdates (rmBatch [(3, 4)])) [] []).panicked = none ∧
    (exD2.step (.replUpdates (rmBatch [(3, 4)])) [] []).log.prev = 4 := by
  refine ⟨⟨⟨by decide, by decide, by decide, by decide, by decide, by decide, ⟨by decide, by decide, by decide⟩,
    by decide, by decide⟩, by decide⟩, by decide, fun _ => ⟨by decide, by decide, by decide, by decide, by decide⟩,
    ?_, by decide, by decide⟩
  intro r hr
  have hr' : r ∈ [{ exRepl 2 6 false with removeLTE := 4 }, exRepl 3 2 true] := by
    have e : exD2.ldr.repls = [{ exRepl 2 6 false with removeLTE := 4 }, exRepl 3 2 true] := by decide
    rw [← e]; exact hr
  rcases List.mem_cons.mp hr' with rfl | h
  · decide
  · have : r = exRepl 3 2 true := List.mem_singleton.mp h
    rw [this]
    decide

/-! ### finding F19 on the model (evaluated) — the ORIGINAL defect, and the repaired protocol on the same chain.
Five voters; leader 1 (term 2) holds entries 1 … 14 in segments `(0,5]`, `(5,10]`, `(10,…]`; followers 2, 3 matched 14;
follower 4 matched 7 and follower 5 matched 0, both out of contact; applied = committed = 12.
* snapshot 1 (index 12): `nowCompact = CanLTE(0) = 0`, `canCompact = CanLTE(12) = 10`: `ldr.removeLTE = 10`.  The
  goroutines of 2 and 3 switch to the view starting at 10 and report; the leader records 10 in their statuses.
* follower 4 is in contact again (match 7); commit 14.  snapshot 2 (index 14): `canCompact = CanLTE(7) = 5 >
  nowCompact = 0`: **`ldr.removeLTE` is lowered to 5**; the goroutines of 2 and 3 take the update: their views now start
  at 5.  ORIGINAL `onLeaderUpdate`: no report (5 is not above 10), their statuses still say 10.
* follower 4 is out of contact again; entry 15, commit 15.  snapshot 3 (index 15): `canCompact = 10`:
  `ldr.removeLTE = 10`.  The goroutines of 4 and 5 (from their back-off loops) switch and report 10.  Now every status is
  `≥ 10` and `checkLogCompact` compacts to 10 (`exL7`) — while the goroutines of 2 and 3, which have not yet taken the
  third update, read through views that start at 5.
In the Go code a view holds pointers to its segments (`log.ViewAt`); `Log.RemoveLTE` unmaps and deletes the segment
`(5,10]` and cuts it out of the segment list, so `view.Get(i)` for `5 < i ≤ 10` dereferences a nil `segment.prev`: the
goroutine's `recover` reports the error to the leader, which panics.  REPRODUCED on the real leader and replication
objects (variant with non-voters; `writeAppendEntriesReq` with `prevLogIndex` at the compaction point died with a nil
dereference) and REPAIRED (commit 1c6b1f3): `onLeaderUpdate` reports whenever the first index of the view CHANGES.  The
leader-side model is unchanged, so `exL0 … exL7` (the leader fed with the reports the ORIGINAL goroutines sent) still
evaluates as before and documents the defect.  With the REPAIRED goroutine (`exG2`: the switch to the view starting at 5
IS reported) the chain continues differently (`exR4 … exR8`): the statuses of 2 and 3 drop to 5, the reports of 4 and 5
do not trigger a compaction, and the log is compacted to 10 only when 2 and 3 have switched to the view starting at 10
and said so.

A second, smaller observation (`exServe`): the IMMEDIATE compaction goes up to `nowCompact = CanLTE(min matchIndex)`,
which may EQUAL a follower's match index `m` (a segment boundary: the usual place, a segment starts where the log ended
when the entry did not fit).  The next request for that follower has `prevLogIndex = m`, whose term the leader can no
longer read unless `m` is the snapshot index: `writeAppendEntriesReq` answers `ErrNotFound` and the follower is sent the
whole snapshot although every entry it lacks is in the log ("never beyond any follower's match index" holds, but AT the
match index the follower is no longer servable from the log). -/

def cfg5 : Config :=
  { index := 1, term := 1, nodes := [1, 2, 3, 4, 5].map (fun i => { id := i, addr := s!"h:{i}", voter := true }) }

def exL0 : Node :=
  { cid := 7, nid := 1, term := 2, durTerm := 2, votedFor := 1, durVote := 1,
    log := { prev := 0,
             entries := (List.range 14).map (fun k =>
               if k = 0 then cfg5.toEntry else { index := k + 1, term := 2, typ := etUpdate, data := s!"d{k+1}" }),
             flushed := 14, segs := [0, 5, 10] },
    lastLogIndex := 14, lastLogTerm := 2, role := .leader, leader := 1, commitIndex := 12,
    fsm := { index := 12, term := 2, applied := (List.range 11).map (fun k => s!"d{k+2}"), config := cfg5 },
    configs := { committed := cfg5, latest := cfg5 },
    ldr := { node := cfg5.get 1, numVoters := 5, startIndex := 2, removeLTE := 0,
             repls := [exRepl 2 14 false, exRepl 3 14 false, exRepl 4 7 true, exRepl 5 0 true] } }

def snap (s : Node) (task : Nat) : Node :=
  ((s.step (.takeSnapshot task 0) [] []).step .snapRun [] []).step .snapTaken [] []

/-- snapshot 1: the bound 10 is recorded -/
def exL1 : Node := snap exL0 100
/-- the goroutines of 2 and 3 report 10 -/
def exL2 : Node := exL1.step (.replUpdates [exRm 2 10, exRm 3 10]) [] []
/-- follower 4 in contact; commit 14 -/
def exL3 : Node := exL2.step (.replUpdates [exNc 4 false, exMi 2 14]) [] []
/-- snapshot 2: the bound is lowered to 5 -/
def exL4 : Node := snap exL3 101
/-- follower 4 out of contact; entry 15 stored, replicated to 2 and 3, committed -/
def exL5 : Node :=
  (exL4.step (.newEntries [{ typ := etUpdate, data := "d15", task := 9 }]) [] []).step
    (.replUpdates [exNc 4 true, exMi 2 15, exMi 3 15]) [] []
/-- snapshot 3: the bound is 10 again -/
def exL6 : Node := snap exL5 102
/-- the goroutines of 4 and 5 report 10: `checkLogCompact` compacts to 10 -/
def exL7 : Node := exL6.step (.replUpdates [exRm 4 10, exRm 5 10]) [] []

/-- GHOST: the goroutine of replication 2, as `Repl.State`: the updates it takes (snapshot 1 and 2; not yet 3) -/
def exG0 : Repl.State := { matchIndex := 14, nextIndex := 15, viewPrev := 0, viewLast := 14 }
def exG1 : Repl.Out := Repl.onLeaderUpdate exG0 exL1.ldr.removeLTE 14 12 none
def exG2 : Repl.Out := Repl.onLeaderUpdate exG1.st exL4.ldr.removeLTE 14 14 none

/-- a replication in contact whose status holds the report `r` -/
def exReplR (id m r : Nat) : Repl :=
  { id := id, matchIndex := m, noContact := false, node := { id := id, addr := s!"h:{id}", voter := true },
    removeLTE := r }

/-- the leader of the scenario when the result of snapshot 2 (index 14) is handed over: the bound 10 is recorded,
the statuses of 2 and 3 hold the report 10, follower 4 (match 7) is in contact again -/
def exLowLdr : Leader :=
  { node := cfg5.get 1, numVoters := 5, startIndex := 2, removeLTE := 10,
    repls := [exReplR 2 14 10, exReplR 3 14 10, exRepl 4 7 false, exRepl 5 0 true] }

def exLow : Node :=
  { exL0 with
    commitIndex := 14, snapIndex := 14, snapTerm := 2,
    snapsDisk := [{ index := 14, term := 2, config := cfg5, data := (List.range 13).map (fun k => s!"d{k+2}") }],
    fsm := { index := 14, term := 2, applied := (List.range 13).map (fun k => s!"d{k+2}"), config := cfg5 },
    snapResult := some { task := 101, index := 14 },
    ldr := exLowLdr }

/-- **`onSnapshotTaken` lowers `ldr.removeLTE`** (kernel-checked): in the ordered leader state `exLow` the bound is 10;
one `.snapTaken` step, which does not fail and keeps the node leader, leaves it at 5 (`canCompact = CanLTE(7) = 5 >
nowCompact = 0`) — `PTrans.setR` without monotonicity is what the code does -/
theorem removeLTE_lowered :
    Order.Ordered exLow ∧ exLow.role = .leader ∧ exLow.ldr.removeLTE = 10 ∧
    (exLow.step .snapTaken [] []).ldr.removeLTE = 5 ∧ (exLow.step .snapTaken [] []).role = .leader ∧
    (exLow.step .snapTaken [] []).panicked = none ∧ (exLow.step .snapTaken [] []).log.prev = 0 := by
  refine ⟨⟨⟨by decide, by decide, by decide, by decide, by decide, by decide, ⟨by decide, by decide, by decide⟩,
    by decide, by decide⟩, by decide⟩, by decide, by decide, by decide, by decide, by decide, by decide⟩

-- the same on the run (evaluated): 10 after snapshot 1, 5 after snapshot 2, 10 after snapshot 3
#guard exL1.ldr.removeLTE == 10 && exL4.ldr.removeLTE == 5 && exL6.ldr.removeLTE == 10 &&
  exL1.role == .leader && exL4.role == .leader && exL6.role == .leader &&
  exL1.log.prev == 0 && exL6.log.prev == 0 && [exL1, exL2, exL3, exL4, exL5, exL6, exL7].all (·.panicked.isNone)
-- the goroutine of 2 (REPAIRED `onLeaderUpdate`): reports 10 after the first update and 5 after the second — the
-- original one sent nothing there (`reports false 10 5 = false`); its view then starts at 5
#guard exG1.notes == [⟨"removeLTE", 10⟩] && exG2.notes == [⟨"removeLTE", 5⟩] && exG2.st.viewPrev == 5 &&
  !(reports false 10 5) && reports true 10 5
-- ORIGINAL defect: the leader never hears of the switch; the statuses of 2 and 3 keep the report 10 through the
-- lowering of the bound
#guard exL6.ldr.repls.map (fun r => (r.id, r.removeLTE)) == [(2, 10), (3, 10), (4, 0), (5, 0)]
-- … and the compaction: every status is ≥ 10, the log now starts after index 10 — beyond the first index 5 of the view
-- of the goroutine of replication 2 (and 3)
#guard exL7.log.prev == 10 && exL7.log.segs == [10] && exL7.trace.map (·.1) == ["compactLog"] &&
  exL7.ldr.repls.map (fun r => (r.id, r.removeLTE)) == [(2, 10), (3, 10), (4, 10), (5, 10)] &&
  exG2.st.viewPrev < exL7.log.prev

/-- REPAIRED protocol, same chain: after snapshot 2 the goroutines of 2 and 3 report 5 and the leader takes the reports -/
def exR4 : Node := exL4.step (.replUpdates [exRm 2 5, exRm 3 5]) [] []
/-- follower 4 out of contact; entry 15 stored, replicated to 2 and 3, committed -/
def exR5 : Node :=
  (exR4.step (.newEntries [{ typ := etUpdate, data := "d15", task := 9 }]) [] []).step
    (.replUpdates [exNc 4 true, exMi 2 15, exMi 3 15]) [] []
/-- snapshot 3: the bound is 10 again -/
def exR6 : Node := snap exR5 102
/-- the goroutines of 4 and 5 report 10: `checkLogCompact` WAITS (2 and 3 hold 5) -/
def exR7 : Node := exR6.step (.replUpdates [exRm 4 10, exRm 5 10]) [] []
/-- the goroutines of 2 and 3 take the third update (their views now start at 10) and report: compaction to 10 -/
def exG3 : Repl.Out := Repl.onLeaderUpdate exG2.st exR6.ldr.removeLTE 15 15 none
def exR8 : Node := exR7.step (.replUpdates [exRm 2 10, exRm 3 10]) [] []

-- the statuses follow the views down …
#guard exR4.ldr.repls.map (fun r => (r.id, r.removeLTE)) == [(2, 5), (3, 5), (4, 0), (5, 0)] && exR4.log.prev == 0
-- … so the reports of 4 and 5 after snapshot 3 compact nothing: the log still starts at 0 ≤ 5 = the view of 2 and 3
#guard exR6.ldr.removeLTE == 10 && exR7.log.prev == 0 && exR7.trace.map (·.1) == [] &&
  exR7.ldr.repls.map (fun r => (r.id, r.removeLTE)) == [(2, 5), (3, 5), (4, 10), (5, 10)] &&
  exR7.log.prev ≤ exG2.st.viewPrev
-- … and the compaction happens when 2 and 3 have switched to the view starting at 10 and reported it
#guard exG3.notes == [⟨"removeLTE", 10⟩] && exG3.st.viewPrev == 10 && exR8.log.prev == 10 &&
  exR8.trace.map (·.1) == ["compactLog"] && exR8.log.prev ≤ exG3.st.viewPrev &&
  [exR4, exR5, exR6, exR7, exR8].all (·.panicked.isNone)

/-- the second observation: after the immediate compaction up to a follower's match index `m = 5` (snapshot index 12)
the follower's next request needs the term at `prevLogIndex = 5`, which the view no longer holds: `notFound`, i.e. the
snapshot is sent although the entries 6 … are in the log -/
def exServe : Repl.Out :=
  Repl.writeAppend { matchIndex := 5, nextIndex := 6, ldrLastIndex := 14, viewPrev := 5, viewLast := 14, term := 2, src := 1 }
    { log := (exL0.log.removeLTE 5), snapIndex := 12, snapTerm := 2 } true
#guard (exL0.log.removeLTE 5).prev == 5 && exServe.err == "notFound" && ((exL0.log.removeLTE 5).get? 6).isSome

/-! ## 4. the frame of the leader's compaction bookkeeping, and the protocol composed with the node model -/

/-- **The frame lemma (handlers).** Every handler of `Node.handle` except `onSnapshotTaken`, the loop of
`checkReplUpdates` and `shutdown` (`FOp`), from ANY state: `ldr.removeLTE` is unchanged, and every status of the
replication table afterwards holds `ldr.removeLTE` (it is NEW: `addReplication` creates a status with `removeLTE =
ldr.removeLTE` and a goroutine whose view is `ViewAt(ldr.removeLTE, lastLogIndex)`) or has the id and the `removeLTE` of a
status of the table before (`Inh`). -/
theorem status_frame_handle (s : Node) (op : Op) (hop : StepClosedG.FOp op) :
    (s.handle op).ldr.removeLTE = s.ldr.removeLTE ∧
    ∀ r ∈ (s.handle op).ldr.repls, r.removeLTE = s.ldr.removeLTE ∨ Inh s r.id r.removeLTE :=
  handle_status_frame s op hop

/-- **The frame lemma (steps, leadership change).** For the same operations through the role transitions of a step: the
conclusion of `status_frame_handle` — or `leader.init` ran and EVERY status holds the bound (`FreshL`: all replications of
a new leadership are new). `leader.init` itself, from any state: `ldr.removeLTE := log.prev`, all statuses new, `log.prev`
unchanged (`leaderInit_resets`); and if the handler of a leader left the role `leader` and the node leads after the step,
`leader.init` ran last: `ldr.removeLTE = log.prev` and all statuses hold it (`NewLeadership`). -/
theorem status_frame_step (s : Node) (op : Op) (ra : List Nat) (ord : List (List Nat)) (hop : StepClosedG.FOp op) :
    ((s.step op ra ord).ldr.removeLTE = s.ldr.removeLTE ∧
      ∀ r ∈ (s.step op ra ord).ldr.repls, r.removeLTE = s.ldr.removeLTE ∨ Inh s r.id r.removeLTE) ∨
    FreshL (s.step op ra ord).ldr :=
  step_status_frame s op ra ord hop

theorem leaderInit_resets (s : Node) :
    s.leaderInit.ldr.removeLTE = s.log.prev ∧ FreshL s.leaderInit.ldr ∧ s.leaderInit.log.prev = s.log.prev :=
  leaderInit_spec s

theorem leadership_change_all_new (s : Node) (op : Op) (ra : List Nat) (ord : List (List Nat)) (hl : s.role = .leader)
    (hh : ((s.begin ra ord).handle op).role ≠ .leader) (hop : op ≠ .shutdown)
    (hl' : (s.step op ra ord).role = .leader) : NewLeadership (s.step op ra ord) :=
  step_new_leadership s op ra ord hl hh hop hl'

/-- **The frame lemma (`onSnapshotTaken`).** The replication table is untouched (only `ldr.removeLTE` is set: to
`CanLTE(canCompact)`, or to the new `log.prev`); and what `onSnapshotTaken` compacts AT ONCE is not beyond the MATCH INDEX
of any replication of a leader. **The views of the goroutines are not consulted** — see `exImm` below: the immediate
compaction may go beyond the first index of every view; it relies on a goroutine never reading at or below its match
index (for `prevLogTerm` it reads AT `nextIndex - 1`, which may be the match index: second observation of section 3). -/
theorem status_frame_snapTaken (s : Node) (hok : C09.SegsOK s.log) :
    s.onSnapshotTaken.ldr.repls = s.ldr.repls ∧
    (s.onSnapshotTaken.log.prev = s.log.prev ∨
      (s.role = .leader → ∀ r ∈ s.ldr.repls, s.onSnapshotTaken.log.prev ≤ r.matchIndex)) :=
  snapTaken_status_frame s hok

/-- **The frame lemma (`checkReplUpdates`, any batch).** `ldr.removeLTE` is unchanged; every status afterwards is new,
inherited, or holds an index that a `removeLTE` report of the batch carried for its id: nothing but the case `removeLTE`
of the loop changes the `removeLTE` of a status. -/
theorem status_frame_replUpdates (s : Node) (us : List ReplUpdate) :
    (s.checkReplUpdates us).ldr.removeLTE = s.ldr.removeLTE ∧
    ∀ r ∈ (s.checkReplUpdates us).ldr.repls,
      r.removeLTE = s.ldr.removeLTE ∨ Inh s r.id r.removeLTE ∨ Reported us r.id r.removeLTE :=
  replUpdates_status_frame s us

/-- **What a step of a leader does to the views of its replication goroutines (partial).** Let `s` be an ordered leader
state with current caches, coupled with the ghost `(q, view)` of its goroutines as in every reachable state of the
repaired report protocol (`Coupled`), and let the node handle `op` without failing and lead afterwards, where `op` is any
operation except `shutdown`, `install`, and batches of replication updates other than the batch of the waiting reports
(`LOp`). Assume `NoReAdd` for the handler (a status whose id existed is inherited: no member is removed and added again
inside one handler — NOT proved, it needs reasoning about configurations). Then there is a ghost `(q', view')` after the
step, determined by the step —
* a NEW LEADERSHIP (the handler left the role): `ldr.removeLTE = log.prev`, every replication is new, `view' j =
  ldr.removeLTE`, nothing waits; or
* the SAME LEADERSHIP: the goroutines that existed keep their views, those of new replications start at
  `ldr.removeLTE` (`viewAfter`), the reports of stopped goroutines are dropped (`queueAfter`) or — for the batch of the
  waiting reports — all reports are taken —
with which the state after the step is coupled again, and the first index of the log
* did not move, or
* is at or below `view' j` for EVERY replication `j` (the delayed compaction, and a new leadership), or
* was moved by the immediate compaction of `onSnapshotTaken` and is at or below every replication's MATCH INDEX (not:
  view). -/
theorem leader_step_keeps_views_partial (s : Node) (op : Op) (ra : List Nat) (ord : List (List Nat))
    (q : List (Nat × Nat)) (view : Nat → Nat)
    (ho : Order.Ordered s) (hl : s.role = .leader) (hC : C06Cache.LeaderCache s)
    (hc : Coupled s q view) (hop : LOp q op)
    (hre : StepClosedG.FOp op → NoReAdd (s.begin ra ord) ((s.begin ra ord).handle op))
    (hp : (s.step op ra ord).panicked = none) (hl' : (s.step op ra ord).role = .leader) :
    ∃ q' view',
      Coupled (s.step op ra ord) q' view' ∧
      ((NewLeadership (s.step op ra ord) ∧ q' = [] ∧ ∀ j, view' j = (s.step op ra ord).ldr.removeLTE) ∨
       ((q' = queueAfter s q ∨ q' = []) ∧ view' = viewAfter s view (s.step op ra ord).ldr.removeLTE)) ∧
      ((s.step op ra ord).log.prev = s.log.prev ∨
       (∀ r ∈ (s.step op ra ord).ldr.repls, (s.step op ra ord).log.prev ≤ view' r.id) ∨
       (op = .snapTaken ∧ ∀ r ∈ s.ldr.repls, (s.step op ra ord).log.prev ≤ r.matchIndex)) :=
  leader_step_keeps_views s op ra ord q view ho hl hC hc hop hre hp hl'

set_option maxRecDepth 100000 in
/-- example for `leader_step_keeps_views_partial`: the leader `exD2` with the report of replication 3 waiting (both
goroutines read through views starting at 4), for the batch of the waiting reports and for an election timeout
(`checkQuorum`) -/
example : Order.Ordered exD2 ∧ exD2.role = .leader ∧ C06Cache.LeaderCache exD2 ∧ Coupled exD2 [(3, 4)] (fun _ => 4) ∧
    LOp [(3, 4)] (.replUpdates (rmBatch [(3, 4)])) ∧ LOp [(3, 4)] .timeout ∧
    NoReAdd (exD2.begin [] []) ((exD2.begin [] []).handle .timeout) ∧
    (exD2.step .timeout [] []).panicked = none ∧ (exD2.step .timeout [] []).role = .leader := by
  refine ⟨⟨⟨by decide, by decide, by decide, by decide, by decide, by decide, ⟨by decide, by decide, by decide⟩,
    by decide, by decide⟩, by decide⟩, by decide, fun _ => ⟨by decide, by decide, by decide, by decide, by decide⟩,
    ?_, .reports, .frame _ trivial (fun m h => by cases h), ?_, by decide, by decide⟩
  · intro r hr
    have hr' : r ∈ [exReplR 2 6 4, exRepl 3 2 true] := by
      have e : exD2.ldr.repls = [exReplR 2 6 4, exRepl 3 2 true] := by decide
      rw [← e]; exact hr
    rcases List.mem_cons.mp hr' with rfl | h
    · decide
    · have : r = exRepl 3 2 true := List.mem_singleton.mp h
      rw [this]
      decide
  · unfold NoReAdd HasId Inh
    decide

/-- the immediate compaction does not look at the views (evaluated): the leader `exD0` with BOTH followers matched 6 and
in contact; the snapshot at 5 is handed over: `nowCompact = CanLTE(5) = 4` — the log is compacted to 4 at once, while the
goroutines, which have not yet taken the update sent by `notifyFlr`, read through views that start at 0 -/
def exImm : Node :=
  ({ exD0 with ldr := { exD0.ldr with repls := [exRepl 2 6 false, exRepl 3 6 false] } } : Node).step .snapTaken [] []
#guard exImm.log.prev == 4 && exImm.ldr.removeLTE == 4 && exImm.trace.map (·.1) == ["compactLog"] &&
  exImm.ldr.repls.map (fun r => (r.id, r.matchIndex, r.removeLTE)) == [(2, 6, 0), (3, 6, 0)] && exImm.panicked.isNone

end C09Sys4
end Raft

#print axioms Raft.C09Sys4.delayed_compaction_node
#print axioms Raft.C09Sys4.leader_compaction_bounds_node
#print axioms Raft.C09Sys4.compaction_point_crash_image
#print axioms Raft.C09Sys4.log_matching_sys_snap5_partial -- also C04
#print axioms Raft.C09Sys4.leader_completeness_sys_snap5_partial -- also C02
#print axioms Raft.C09Sys4.state_machine_safety_sys_snap5_partial -- also C03
#print axioms Raft.C09Sys4.snapshot_is_committed_prefix_snap5_partial -- also C12
#print axioms Raft.C09Sys4.compaction_keeps_servable_snap5_partial
#print axioms Raft.C09Sys4.delayed_compaction_step_sys_partial
#print axioms Raft.C09Sys4.ordered_in_snap5_partial
#print axioms Raft.C09Sys4.compact_keeps_views
#print axioms Raft.C09Sys4.compact_trans_keeps_views
#print axioms Raft.C09Sys4.compact_keeps_views_mono_partial
#print axioms Raft.C09Sys4.delayed_compaction_keeps_views_node_partial
#print axioms Raft.SnapDelay.compaction_keeps_views_at_decision
#print axioms Raft.C09Sys4.view_removed_under_replication
#print axioms Raft.C09Sys4.removeLTE_lowered
#print axioms Raft.C09Sys4.consume_is_onLeaderUpdate
#print axioms Raft.C09Sys4.deliver_is_replUpdLoop
#print axioms Raft.C09Sys4.status_frame_handle
#print axioms Raft.C09Sys4.status_frame_step
#print axioms Raft.C09Sys4.leaderInit_resets
#print axioms Raft.C09Sys4.leadership_change_all_new
#print axioms Raft.C09Sys4.status_frame_snapTaken
#print axioms Raft.C09Sys4.status_frame_replUpdates
#print axioms Raft.C09Sys4.leader_step_keeps_views_partial
#print axioms Raft.SnapDelay.inv5_reachable
#print axioms Raft.SnapDelay.trans_of_trans2
