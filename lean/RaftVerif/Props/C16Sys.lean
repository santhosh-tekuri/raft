/-
C16 on the cluster-level transition system — **a leadership transfer returns success only after the old leader has
stepped down in favour of a higher term; it never produces two leaders in one term, never designates as successor a
non-voter or a node whose log lacks entries the old leader accepted; while it is in progress no new client commands or
membership changes are accepted.**

The system: `SysInv.ReachableG` (Props/C19Sys.lean) — `Raft.Commit` of Sys/Commit.lean with the environment assumptions
`EnabledG`, closed nodes frozen, `SideG`, a good initial state; `_partial` restrictions: fixed voter set `V`, fixed stable
configuration (`SideV`), no snapshots / compaction, no configuration change (`OpOK2`). All operations of a transfer —
the `TransferLeadership` task (`.transfer`), the `timeoutNow` request (`.timeoutNow`), vote requests carrying the
transfer flag, the result of the `timeoutNow` request, the transfer timer and the new-term timer — are ordinary
operations of that system (`transfer_ops_admitted`).

Proved (see the doc comments): `transfer_target_holds_log_sys_partial`, `transfer_never_two_leaders_partial`,
`transfer_success_means_stepped_down_sys_partial` (for fresh task ids: `C15Tasks.TasksOK`, `C15Tasks.Fresh`; node level, for
every state and operation of the model: `transfer_ok_means_left`), `no_new_work_during_transfer_step` (node level, EVERY
state).
NOT covered: "fails with an error and leaves the cluster able to keep or elect a leader" (liveness, C17); membership
changes in the system (C08Sys).
-/
import RaftVerif.Lemmas.SysMore
import RaftVerif.Props.C10Sys

namespace Raft
namespace C16Sys
open Node LogRel CommitRel Commit C02Sys SysInv SysMore

/-! ### no new work while a transfer is in progress (node level) -/

/-- a membership change request handled by a leader with a transfer in progress stores nothing: the validation
answers it, or `storeEntry` rejects the configuration entry -/
theorem core_onChangeConfig (b : Node) (t : Nat) (c : Config) (htb : b.ldr.transfer.active = true) :
    core (b.onChangeConfig t c) = core b := by
  have h1 := core_checkConfigActions (fuelFor 0) b t c htb
  have ha : (checkConfigActions (fuelFor 0) b t c).ldr.transfer.active = true := by
    rw [(core_eq h1).2.2.2.2.2.2.2]; exact htb
  have rep : ∀ r, core (b.reply t r) = core b := fun r => SysMore.core_reply b t r
  refine Node.onChangeConfig_cases (P := fun x => core x = core b) b t c rep fun _ => ?_
  refine ite_ind (P := fun x => core x = core b) (fun _ => ?_) fun _ => h1
  have e68 : fuelFor 1 = 66 + 1 + 1 := rfl
  rw [e68]
  unfold doChangeConfig
  exact (core_storeEntry_transfer 66 _ _ ha (by simp)).1.trans h1

/-- **C16 (8), while a transfer is in progress nothing new is accepted** — for EVERY state `s` of a node that is
leader with a transfer in progress (`ldr.transfer.active`), every oracle (`SysMore.core s` is the tuple of the fields
named below; `SysMore.core_eq` unpacks an equation between two such tuples into the field equations):
1. a client batch `b` (`newEntries`) stores nothing: the log (entries, flushed, segments), the last index and term,
   both configurations, the commit index, role, term and the transfer record are as before, and every item with a
   task is answered `inProgress:transferLeadership`;
2. a membership change request (`changeConfig`) stores nothing either: the same fields are as before (no
   configuration entry is appended, `configs` does not move). -/
theorem no_new_work_during_transfer_step (s : Node) (ra : List Nat) (ord : List (List Nat))
    (hl : s.role = .leader) (ht : s.ldr.transfer.active = true) :
    (∀ b : List QItem,
      core (s.step (.newEntries b) ra ord) = core s ∧
      ∀ q ∈ b, q.task ≠ 0 →
        ({ task := q.task, result := "inProgress:transferLeadership" } : Reply) ∈ (s.step (.newEntries b) ra ord).replies) ∧
    (∀ (t : Nat) (c : Config), core (s.step (.changeConfig t c) ra ord) = core s) := by
  have hb : core (s.begin ra ord) = core s := rfl
  have hlb : (s.begin ra ord).role = .leader := hl
  have htb : (s.begin ra ord).ldr.transfer.active = true := ht
  have fin : ∀ (op : Op) (h : Node), (s.begin ra ord).handle op = h → core h = core s → s.step op ra ord = h := by
    intro op h e hc
    subst e
    exact Node.step_same_role s op ra ord (core_eq hc).2.2.2.2.2.1
  refine ⟨fun b => ?_, fun t c => ?_⟩
  · have hh : (s.begin ra ord).handle (.newEntries b) = storeEntry (63 + 4 * b.length + 1) (s.begin ra ord) b := by
      unfold Node.handle
      dsimp only
      rw [if_pos hlb]
      have : fuelFor b.length = 63 + 4 * b.length + 1 := by unfold fuelFor; omega
      rw [this]
    obtain ⟨c1, c2⟩ := core_storeEntry_transfer (63 + 4 * b.length) (s.begin ra ord) b htb (by omega)
    rw [fin _ _ hh (c1.trans hb)]
    exact ⟨c1.trans hb, c2⟩
  · have key : core ((s.begin ra ord).onChangeConfig t c) = core s :=
      (core_onChangeConfig (s.begin ra ord) t c htb).trans hb
    have hh : (s.begin ra ord).handle (.changeConfig t c) = (s.begin ra ord).onChangeConfig t c := by
      unfold Node.handle
      dsimp only
      rw [if_pos hlb]
    rw [fin _ _ hh key]
    exact key

/-! ### never two leaders in one term -/

/-- the operations of a leadership transfer are ordinary operations of the system (`CommitRel.OpOK2`; the other
enabling conditions of `Commit.Enabled` concern vote requests — a vote request that is not stale is a recorded
campaign, with or without the transfer flag — append requests and match-index reports) -/
theorem transfer_ops_admitted (t g src r : Nat) (err : Bool) (q : VoteReq) :
    OpOK2 (.transfer t g) ∧ OpOK2 .timeoutNow ∧ OpOK2 (.vote { q with transfer := true }) ∧ OpOK2 .transferTimeout ∧
    OpOK2 (.timeoutNowResult src err r) ∧ OpOK2 .newTermTimeout := by
  refine ⟨?_, ?_, ?_, ?_, ?_, ?_⟩ <;> exact ⟨trivial, (fun b h => by cases h), (fun t c h => by cases h)⟩

/-- **C16 (6), a transfer never produces two leaders in one term (partial: the restrictions of the file header).** Let
`V` be a duplicate-free list of node ids, `x` a reachable state of the cluster system and `y` any later state of the
run — any operations in between, in particular any number of leadership transfers, complete or not: transfer
requests, `timeoutNow` requests delivered to any node at any time (also stale or duplicated ones), vote requests with
the transfer flag (which voters grant although they know a leader), timers, crashes. A node that is leader in `x` and
a node that is leader in `y` in the same term are the same node; in particular (`y = x`) two leaders of one term in
one state are the same node. -/
theorem transfer_never_two_leaders_partial (V : List Nat) (hV : V.Nodup) (x y : Commit.Sys) (hx : ReachableG V x)
    (hrun : RunG V x y) (i j : Nat) (hi : (x.node i).role = .leader) (hj : (y.node j).role = .leader)
    (ht : (x.node i).term = (y.node j).term) : i = j := by
  have hy := run_reachableG hx hrun
  obtain ⟨_, wy, ry⟩ := (C10Sys.safe_of_reachable V hV y hy).election
  obtain ⟨_, _, rx⟩ := (C10Sys.safe_of_reachable V hV x hx).election
  exact C01Sys.one_leader_ever (x := x.rp.el) (y := y.rp.el) rx ry (C10Sys.runG_mono hrun).1 wy hi hj ht

/-! ### success means: stepped down, higher term -/

theorem repMem_leaderReleaseRest (x : Reply) (s : Node) (hs : RepMem x s) : RepMem x s.leaderReleaseRest := by
  unfold Node.leaderReleaseRest
  dsimp only
  apply (repMem_step x).ldr
  apply Node.Guarded.foldl_inv _ (fun s t hs => (repMem_step x).reply _ _ _ hs)
  apply Node.Guarded.foldl_inv _ (fun s t hs => (repMem_step x).reply _ _ _ hs)
  split
  · exact (repMem_step x).setLeader _ _ hs
  · exact hs

theorem pending_transfer (z : Node) (h0 : z.ldr.transfer.task ≠ 0) : z.ldr.transfer.task ∈ C15Tasks.pending z := by
  unfold C15Tasks.pending C15Tasks.pendRaw
  exact List.mem_filter.mpr ⟨List.mem_append_right _ (List.mem_append_right _ (List.mem_cons_self ..)),
    by simpa using h0⟩

/-- **C16 (7), node level: success means that the leader stepped down, in a higher term.** For EVERY state `s` of a
node that is leader with a transfer in progress for the task `tk ≠ 0` (memory = disk: `C05.VoteWF`), every operation
of the model without snapshots (`LogRel.OpOK`; membership change requests and configuration entries included — the
form Props/C16Member.lean uses), oracle and input such that after the step no task is answered twice and no answered task is
still pending (`hnd`, `hdis`: the conclusions of `C15Tasks.task_step_two` for fresh task ids): if the step answers the
transfer task with `ok` — `TransferLeadership` returns success — then
* the handler ended in a role other than leader: the node stepped down in this step and `stateLoop` ran
  `leader.release` (which gives the answer), and
* the node's term after the step is above the term in which the transfer was started. -/
theorem transfer_ok_means_left (s : Node) (op : Op) (ra : List Nat) (ord : List (List Nat)) (hok : OpOK op)
    (hl : s.role = .leader) (hact : s.ldr.transfer.active = true) (h0 : s.ldr.transfer.task ≠ 0)
    (hwf : C05.VoteWF s)
    (hnd : (C15Tasks.answered (s.step op ra ord)).Nodup)
    (hdis : ∀ t ∈ C15Tasks.answered (s.step op ra ord), t ∉ C15Tasks.pending (s.step op ra ord))
    (hrep : ({ task := s.ldr.transfer.task, result := "ok" } : Reply) ∈ (s.step op ra ord).replies) :
    ((s.begin ra ord).handle op).role ≠ .leader ∧ s.ldr.transfer.term < (s.step op ra ord).term := by
  have hne : op ≠ .shutdown := by intro e; rw [e] at hok; exact hok
  have hst := Node.step_eq_settle s op ra ord hne
  rw [hl] at hst
  have hlb : (s.begin ra ord).role = .leader := hl
  have hE := handle_end_of (s.begin ra ord) op hok hlb
  have hwfb : C05.VoteWF (s.begin ra ord) := hwf
  have hwfh : C05.VoteWF ((s.begin ra ord).handle op) :=
    ((C05.closed (s.begin ra ord)).handle_inv _ op (C05.inv_refl _ hwfb)).2.1
  -- the transfer task is among the answered ones, once
  have hans : s.ldr.transfer.task ∈ C15Tasks.answered (s.step op ra ord) :=
    List.mem_filter.mpr ⟨List.mem_map.mpr ⟨_, hrep, rfl⟩, by simpa using h0⟩
  have uniq : ∀ r : String, RepMem { task := s.ldr.transfer.task, result := r } (s.step op ra ord) → r = "ok" := by
    intro r hr
    have := reply_unique _ hnd _ hr _ hrep rfl h0
    exact congrArg Reply.result this
  have notPending : ∀ z : Node, s.step op ra ord = z → z.ldr.transfer.task = s.ldr.transfer.task → False := by
    intro z ez et
    have := pending_transfer z (by rw [et]; exact h0)
    rw [et, ← ez] at this
    exact hdis _ hans this
  -- a handler that ended by answering the transfer: its answer is among the replies
  have ans : ∀ (c : Node) (r : String), c.ldr.transfer.task = (s.begin ra ord).ldr.transfer.task →
      (s.begin ra ord).handle op = c.replyTransfer r →
      RepMem { task := s.ldr.transfer.task, result := r } ((s.begin ra ord).handle op) := by
    intro c r htk e
    rw [e]
    unfold Node.replyTransfer
    have h1 := transferReply_mem c r (by rw [htk]; exact h0)
    rw [htk] at h1
    exact (repMem_step _).checkConfigActions_inv _ _ _ _ h1
  by_cases hr : ((s.begin ra ord).handle op).role = .leader
  · -- the handler stays leader: the step is the handler, and the transfer was not answered `ok`
    exfalso
    have hp := Node.step_same_role s op ra ord (hr.trans hl.symm)
    cases hE with
    | keep ts => exact notPending _ hp ts.task
    | tryT c _ r2 e =>
      refine notPending _ hp ?_
      rw [e, (tryTransfer_transfer c).1]; exact (r2 hact).task
    | answered c r hr' htk _ e =>
      have hm := ans c r htk e
      rw [← hp] at hm
      exact hr' (uniq r hm)
  · refine ⟨hr, ?_⟩
    -- the handler left the leader role: `leader.release` answers the transfer with `releaseResult`
    have hmono : ∀ x : Reply, RepMem x ((s.begin ra ord).handle op) → RepMem x (s.step op ra ord) := by
      intro x hx; rw [hst]; exact (repMem_step x).settle_inv 6 _ _ hx
    have hterm : ((s.begin ra ord).handle op).term ≤ (s.step op ra ord).term := by
      rw [hst]
      exact ((C05.closed _).settle_inv 6 _ .leader (C05.inv_refl _ hwfh)).1.1
    have main : ((s.begin ra ord).handle op).ldr.transfer.task = s.ldr.transfer.task →
        ((s.begin ra ord).handle op).ldr.transfer.term = s.ldr.transfer.term →
        ((s.begin ra ord).handle op).ldr.transfer.active = true →
        s.ldr.transfer.term < (s.step op ra ord).term := by
      intro e1 e2 e3
      have hrel : RepMem { task := s.ldr.transfer.task, result := ((s.begin ra ord).handle op).releaseResult }
          (s.step op ra ord) := by
        rw [hst, settle_step hr]
        apply (repMem_step _).settle_inv
        apply (repMem_step _).initRole_inv
        unfold Node.releaseRole
        dsimp only
        rw [C16.leaderRelease_uses_releaseResult _ e3]
        apply repMem_leaderReleaseRest
        have h1 := transferReply_mem ((s.begin ra ord).handle op) ((s.begin ra ord).handle op).releaseResult
          (by rw [e1]; exact h0)
        rw [e1] at h1
        exact h1
      have hgt := (C16.transfer_success_means_higher_term _).mp (uniq _ hrel)
      rw [e2] at hgt
      omega
    cases hE with
    | keep ts => exact main ts.task ts.term (by rw [ts.active]; exact hact)
    | tryT c _ r2 e =>
      have ts := r2 hact
      obtain ⟨t1, t2, t3, _⟩ := tryTransfer_transfer c
      exact main (by rw [e, t1]; exact ts.task) (by rw [e, t2]; exact ts.term)
        (by rw [e, t3, ts.active]; exact hact)
    | answered c r hr' htk _ e => exact absurd (uniq r (hmono _ (ans c r htk e))) hr'

/-- **C16 (7), a transfer returns success only after the old leader has stepped down in favour of a higher term
(partial: the restrictions of the file header).** Let `x` be a reachable state of the cluster system, `i` an open node
that is leader with a transfer in progress for the task `tk ≠ 0`, whose task ledger is consistent
(`C15Tasks.TasksOK`), and `op` any operation that may be delivered to `i` (`Commit.Enabled`, `EnabledG`) bringing in
fresh task ids (`C15Tasks.Fresh`: distinct, waiting nowhere — the client side generates a new id per task), handled
with any oracle. If the step answers the transfer task with `ok` (the `TransferLeadership` call returns success), then
in this very step the handler left the leader role — the node stepped down; the answer is the one `leader.release`
gives — and the node's term after the step is above the term in which the transfer was started. (Otherwise the task
stays pending, or is answered with an error: `timeout:transferLeadership`, the target's refusal, `notLeader`,
`serverClosed`, `quorumUnreachable`.) -/
theorem transfer_success_means_stepped_down_sys_partial (V : List Nat) (hV : V.Nodup) (x : Commit.Sys)
    (h : ReachableG V x) (i : Nat) (op : Op) (src : Nat) (he : Commit.Enabled x i op src) (heG : EnabledG x i op)
    (ho : (x.node i).closed = "") (ra : List Nat) (ord : List (List Nat))
    (hT : C15Tasks.TasksOK (x.node i)) (hF : C15Tasks.Fresh (x.node i) op)
    (hl : (x.node i).role = .leader) (hact : (x.node i).ldr.transfer.active = true)
    (h0 : (x.node i).ldr.transfer.task ≠ 0)
    (hrep : ({ task := (x.node i).ldr.transfer.task, result := "ok" } : Reply) ∈ ((x.node i).step op ra ord).replies) :
    (((x.node i).begin ra ord).handle op).role ≠ .leader ∧
    (x.node i).ldr.transfer.term < ((x.node i).step op ra ord).term := by
  obtain ⟨hI, _⟩ := inv_reachable hV (reachableG_V h)
  obtain ⟨_, hnd, hdis, _⟩ := C19Sys.tasks_step_in_sys_partial V hV x h i op src he heG ho ra ord hT hF
  exact transfer_ok_means_left _ op ra ord he.ok2.1 hl hact h0 (hI.rp.el.ids i).2 hnd hdis hrep

/-! ### the designated target -/

/-- **node level: a step of a leader that raises `respPending` ended with the call `tryTransfer` that designated a
target** — for every state, every operation of the model without snapshots (`LogRel.OpOK`), every oracle. -/
theorem designated_by_tryTransfer (s : Node) (op : Op) (ra : List Nat) (ord : List (List Nat)) (hok : OpOK op)
    (hl : s.role = .leader) (h0 : s.ldr.transfer.respPending = false)
    (h1 : (s.step op ra ord).ldr.transfer.respPending = true) :
    ∃ c : Node, s.step op ra ord = c.tryTransfer ∧ c.tryTransferTarget.1 ≠ 0 := by
  have hne : op ≠ .shutdown := by intro e; rw [e] at hok; exact hok
  have hst := Node.step_eq_settle s op ra ord hne
  rw [hl] at hst
  have hlb : (s.begin ra ord).role = .leader := hl
  have hE := handle_end_of (s.begin ra ord) op hok hlb
  have h0b : ¬ (s.begin ra ord).ldr.transfer.respPending = true := by
    show ¬ s.ldr.transfer.respPending = true
    rw [h0]; exact fun e => by cases e
  by_cases hr : ((s.begin ra ord).handle op).role = .leader
  · have hp := Node.step_same_role s op ra ord (hr.trans hl.symm)
    rw [hp] at h1 ⊢
    cases hE with
    | keep ts => exact absurd (ts.resp h1) h0b
    | tryT c r1 _ e =>
      by_cases ht : c.tryTransferTarget.1 = 0
      · rw [e, (tryTransfer_transfer c).2.2.2 ht] at h1
        exact absurd (r1 h1) h0b
      · exact ⟨c, e, ht⟩
    | answered c r _ _ _ e =>
      rw [e, replyTransfer_transfer] at h1
      cases h1
  · have := settle_left_noTransfer 5 _ hr
    rw [← hst] at this
    rw [this] at h1
    cases h1

/-- **node level: whom `tryTransfer` designates**, read off the leader `p` after the call, whose caches are current
(`C06Cache.CacheOK`): another node, a voter of `p`'s latest configuration, to which `p` replicates, with contact, and whose
match index is `p`'s last log index -/
theorem tryTransfer_target {p c : Node} (hc : p = c.tryTransfer) (ht0 : c.tryTransferTarget.1 ≠ 0)
    (hcache : C06Cache.CacheOK p) :
    c.tryTransferTarget.1 ≠ p.nid ∧ p.configs.latest.isVoter c.tryTransferTarget.1 = true ∧
    ∃ r ∈ p.ldr.repls, r.id = c.tryTransferTarget.1 ∧ r.noContact = false ∧ r.matchIndex = p.lastLogIndex := by
  obtain ⟨f1, f2, f3, _, _, _⟩ := tryTransfer_fields c
  have frepls := tryTransfer_repls c
  rw [← hc] at f1 f2 f3 frepls
  have hself : c.findRepl? c.nid = none := by
    unfold Node.findRepl?
    rw [← frepls, ← f2]
    apply List.find?_eq_none.mpr
    intro r hr
    have := (hcache.repl_member r hr).1
    simpa using this
  obtain ⟨e1, e2, r, e3, e4, e5⟩ := C16.transfer_target_eligible c _ rfl ht0 hself
  have hr := findRepl_mem e3
  exact ⟨by rw [f2]; exact e2, by rw [f1]; exact e1, r, by rw [frepls]; exact hr.1, hr.2, e4, by rw [e5, f3]⟩

/-- **C16 (5), the designated successor is a voter that holds the old leader's log (partial: the restrictions of the
file header).** Let `x` be a reachable state, `i` an open node that is leader and has no `timeoutNow` request in
flight (`transfer.respPending = false`), `op` any operation that may be delivered to `i`, handled with any oracle,
such that afterwards `i` is still an open leader and HAS a `timeoutNow` request in flight (`respPending = true`): the
step designated a transfer target. Let `y = stepC x i op ra ord src` be the state after the step (satisfying the
side condition `SideV` of the run) and `p` the node `i` in it. Then the step ended with a call `c.tryTransfer` whose
choice `t = c.tryTransferTarget.1 ≠ 0` — the target the `timeoutNow` request is sent to — satisfies:
* `t` is a voter of the (fixed) configuration, `t ∈ V`, other than the leader itself;
* the ledger `acks` of `y` holds an acknowledgement `a` of `t` for the leader's term whose index is the leader's LAST
  log index and whose entry term is the leader's term: `t` answered `success` to an append request of this leader
  ending at the leader's last entry — at that moment its log held every entry of the leader's log (log matching);
* and now: `t`'s log, flushed up to that index, holds at EVERY index `1 ≤ k' ≤ lastLogIndex` the very entry the
  leader holds — unless the tree of created entries contains an entry of a later term, not above `t`'s current term,
  that does not extend the leader's last entry (a leader of a later term has overwritten it on `t`; the transfer is
  then moot: the old leader is deposed). -/
theorem transfer_target_holds_log_sys_partial (V : List Nat) (hV : V.Nodup) (x : Commit.Sys) (h : ReachableG V x)
    (i : Nat) (op : Op) (src : Nat) (he : Commit.Enabled x i op src) (heG : EnabledG x i op)
    (ho : (x.node i).closed = "") (ra : List Nat) (ord : List (List Nat))
    (hs : SideV V (stepC x i op ra ord src))
    (hl : (x.node i).role = .leader) (h0 : (x.node i).ldr.transfer.respPending = false)
    (hl1 : ((x.node i).step op ra ord).role = .leader) (ho1 : ((x.node i).step op ra ord).closed = "")
    (h1 : ((x.node i).step op ra ord).ldr.transfer.respPending = true) :
    ∃ (c : Node) (t : Nat), (x.node i).step op ra ord = c.tryTransfer ∧ c.tryTransferTarget.1 = t ∧ t ≠ 0 ∧
      (t ∈ V ∧ t ≠ i ∧ ((x.node i).step op ra ord).configs.latest.isVoter t = true) ∧
      ∃ a ∈ (stepC x i op ra ord src).acks, a.voter = t ∧ a.term = ((x.node i).step op ra ord).term ∧
        a.index = ((x.node i).step op ra ord).lastLogIndex ∧ a.eterm = ((x.node i).step op ra ord).term ∧
        ((((x.node i).step op ra ord).lastLogIndex ≤ ((stepC x i op ra ord src).node t).log.flushed ∧
          ∀ k', 1 ≤ k' → k' ≤ ((x.node i).step op ra ord).lastLogIndex →
            ((stepC x i op ra ord src).node t).log.get? k' = ((x.node i).step op ra ord).log.get? k') ∨
         ∃ c' ∈ (stepC x i op ra ord src).T, ((x.node i).step op ra ord).term < c'.e.term ∧
           c'.e.term ≤ ((stepC x i op ra ord src).node t).term ∧
           ¬ Anc (stepC x i op ra ord src).T
             (((x.node i).step op ra ord).lastLogIndex, ((x.node i).step op ra ord).term) (c'.e.index, c'.e.term)) := by
  have hG := ginv_reachable hV h
  have hR := reachableG_V h
  obtain ⟨hI, hS⟩ := inv_reachable hV hR
  have sc : SC V x i op ra ord src := ⟨hV, hI, hS, he⟩
  have hIy : CInv V (stepC x i op ra ord src) := sc.cinv
  have hGy : GInv (stepC x i op ra ord src) := sc_ginv sc hR ho hG heG
  have hni : (stepC x i op ra ord src).node i = (x.node i).step op ra ord := sc.node_i
  obtain ⟨c, hc, ht0⟩ := designated_by_tryTransfer (x.node i) op ra ord he.ok2.1 hl h0 h1
  -- the facts about node `i` of `y`, in terms of `p`
  have hly : ((stepC x i op ra ord src).node i).role = .leader := by rw [hni]; exact hl1
  have hcache : C06Cache.CacheOK ((x.node i).step op ra ord) := by
    have := (hGy.good i).leaderCacheOpen
    rw [hni] at this
    exact this ho1 hl1
  have hnid : ((x.node i).step op ra ord).nid = i := by rw [← hni]; exact (hIy.rp.el.ids i).1
  obtain ⟨hti, hvt, r, hrm, hrid, _, hmi⟩ := tryTransfer_target hc ht0 hcache
  have hV' : c.tryTransferTarget.1 ∈ V := by
    have hv := C01Sys.isVoter_mem_voters _ _ hvt
    have := (hs.1 i).2
    rw [show ((stepC x i op ra ord src).rp.el.node i) = (x.node i).step op ra ord from hni] at this
    rw [this] at hv; exact hv
  -- the target has caught up
  obtain ⟨a, ha, a1, a2, hidx, het, hst⟩ := (core_of_cinv hIy).caught_up (ldrCreates hV hIy) (fun _ ha => ha) hly
    (by rw [hni]; exact hrm) (by rw [hni]; exact hmi)
  rw [hrid] at a1 hst
  rw [hni] at a2 hidx het hst
  exact ⟨c, _, hc, rfl, ht0, ⟨hV', by rw [← hnid]; exact hti, hvt⟩, a, ha, a1, a2, hidx, het, hst⟩

/-! ### Examples (non-vacuity)

A hand-made leader state for the node-level statements (checked by the kernel), and the scenario of Props/C02Sys.lean
continued for the cluster-level ones (evaluated with `#guard` — tests, not proofs: its state `ex7` comes from a commit
step, and the kernel does not evaluate the `List.mergeSort` of `leader.majorityMatchIndex`; Lemmas/ScriptNode.lean has the
way around it). -/

/-- `C06Cache.exLeader` (node 1 leads {1 voter, 2 voter, 3 non-voter} in term 1, last log index 3) after node 2 has
acknowledged index 3 -/
def exT : Node :=
  C06Cache.exLeader.withLdr { C06Cache.exLeader.ldr with
    repls := [{ id := 2, node := { id := 2, addr := "b:1", voter := true }, matchIndex := 3 },
              { id := 3, node := { id := 3, addr := "c:1", voter := false, action := actPromote }, matchIndex := 3 }] }

/-- the same leader with a transfer in progress: task 7, started in term 1, `timeoutNow` sent to the target -/
def exA : Node :=
  exT.withLdr { exT.ldr with transfer := { active := true, task := 7, term := 1, respPending := true } }

/-- EXAMPLE (`designated_by_tryTransfer`, and the node-level hypotheses of `transfer_target_holds_log_sys_partial`): the
leader `exT` handles a `TransferLeadership` task without target: it is a leader, no request is in flight before, one is
afterwards; `tryTransfer` designates node 2 — the voter whose match index is the last log index; the non-voter 3 is
not eligible although it has acknowledged everything -/
example : OpOK2 (.transfer 7 0) ∧ exT.role = .leader ∧ exT.ldr.transfer.respPending = false ∧
    (exT.step (.transfer 7 0) [] []).role = .leader ∧
    (exT.step (.transfer 7 0) [] []).ldr.transfer.respPending = true ∧
    (exT.step (.transfer 7 0) [] []).ldr.transfer.task = 7 ∧
    ((exT.begin [] []).withLdr { exT.ldr with transfer := { term := 1, task := 7, active := true } }).tryTransferTarget.1 = 2 :=
  ⟨⟨trivial, (fun b h => by cases h), (fun t c h => by cases h)⟩, by decide, by decide, by decide, by decide,
    by decide, by decide⟩

/-- EXAMPLE (`no_new_work_during_transfer_step`): its hypotheses hold on `exA`; hence (by the theorem) a client update
submitted now is answered `inProgress:transferLeadership` and the log stays as it is -/
example : exA.role = .leader ∧ exA.ldr.transfer.active = true ∧
    core (exA.step (.newEntries [{ typ := etUpdate, data := "y", task := 8 }]) [] []) = core exA :=
  ⟨rfl, rfl, ((no_new_work_during_transfer_step exA [] [] rfl rfl).1 _).1⟩

/-- a replication reports that it has seen term 2 -/
def exNewTerm : Op := .replUpdates [{ id := 2, upd := .newTerm 2 }]

set_option maxRecDepth 100000 in
/-- EXAMPLE (`transfer_ok_means_left`): the leader `exA` learns of term 2 from a replication (`exNewTerm`): it steps
down and `leader.release` answers the transfer task 7 with `ok` — all hypotheses of the theorem hold; its term is then
2, above the transfer's term 1 -/
example :
    OpOK2 exNewTerm ∧ exA.role = .leader ∧ exA.ldr.transfer.active = true ∧ exA.ldr.transfer.task ≠ 0 ∧
    C05.VoteWF exA ∧ (C15Tasks.answered (exA.step exNewTerm [] [])).Nodup ∧
    (∀ t ∈ C15Tasks.answered (exA.step exNewTerm [] []), t ∉ C15Tasks.pending (exA.step exNewTerm [] [])) ∧
    ({ task := exA.ldr.transfer.task, result := "ok" } : Reply) ∈ (exA.step exNewTerm [] []).replies ∧
    (exA.step exNewTerm [] []).term = 2 ∧ (exA.step exNewTerm [] []).role = .follower := by
  refine ⟨⟨?_, (fun b h => by unfold exNewTerm at h; cases h), (fun t c h => by unfold exNewTerm at h; cases h)⟩,
    rfl, rfl, by decide, ⟨rfl, rfl⟩, ?_, ?_, ?_, ?_, ?_⟩
  · show NoCompact [{ id := 2, upd := .newTerm 2 }]
    intro u hu v h
    rw [List.mem_singleton.mp hu] at h
    cases h
  all_goals decide +kernel

/-- the scenario of Props/C02Sys.lean continued: the leader 1 of term 2 (nodes 2 and 3 have acknowledged its last entry
(2,2)) is asked to transfer leadership (task 7, no target): it designates node 2 … -/
def exS1 : Commit.Sys := stepC C02Sys.ex7 1 (.transfer 7 0) [] [] 0
/-- … and then learns of term 3 from its replication to node 2 (the new leader's term): it steps down -/
def exS2 : Commit.Sys := stepC exS1 1 (.replUpdates [{ id := 2, upd := .newTerm 3 }]) [] [] 0

-- evaluation (tests, not proofs): in `ex7` the leader has no request in flight; after the step it has one; the ledger
-- holds the acknowledgement (voter 2, term 2, index 2 = the leader's last index, entry term 2) the theorem promises,
-- and node 2's flushed log holds the leader's log
#guard (C02Sys.ex7.node 1).role == .leader && !(C02Sys.ex7.node 1).ldr.transfer.respPending
#guard (exS1.node 1).role == .leader && (exS1.node 1).ldr.transfer.respPending && (exS1.node 1).lastLogIndex == 2
#guard exS1.acks.any (fun a => a.voter == 2 && a.term == 2 && a.index == 2 && a.eterm == 2)
#guard (exS1.node 2).log.flushed == 2 &&
  [1, 2].all (fun k => ((exS1.node 2).log.get? k).map (·.term) == ((exS1.node 1).log.get? k).map (·.term))
-- the transfer task is answered `ok` in the step in which node 1 steps down, and its term is then 3 > 2
#guard (exS1.node 1).ldr.transfer.active && (exS1.node 1).ldr.transfer.task == 7 && (exS1.node 1).ldr.transfer.term == 2
#guard (exS2.node 1).replies.any (fun r => r.task == 7 && r.result == "ok")
#guard (exS2.node 1).role == .follower && (exS2.node 1).term == 3
-- while the transfer is in progress a client update is rejected and nothing is stored
#guard ((exS1.node 1).step (.newEntries [{ typ := etUpdate, data := "y", task := 8 }]) [] []).replies.any
  (fun r => r.task == 8 && r.result == "inProgress:transferLeadership")
#guard ((exS1.node 1).step (.newEntries [{ typ := etUpdate, data := "y", task := 8 }]) [] []).lastLogIndex == 2

-- `transfer_never_two_leaders_partial`: `ex7`, `exS1` have the leader 1 of term 2; after the transfer no node leads
#guard (C02Sys.ex7.node 1).role == .leader && (exS1.node 1).term == 2 &&
  [1, 2, 3].all (fun j => (exS2.node j).role != .leader)

/-- EXAMPLE (`transfer_never_two_leaders_partial`): the hypotheses on the run are satisfiable (a reachable state and a
later state of a run; leaders only arise after `leader.init`, see the `#guard` above) -/
example : [1, 2, 3].Nodup ∧ ReachableG [1, 2, 3] C02Sys.ex0 ∧ RunG [1, 2, 3] C02Sys.ex0 C02Sys.ex1 :=
  ⟨by decide, C19Sys.ex0_reachable,
    .next _ _ .refl (.step 1 .timeout [] [] 0 C19Sys.ex1_enabled.1 C19Sys.ex1_enabled.2 rfl) C02Sys.ex1_side
      C19Sys.ex1_sideG⟩

end C16Sys
end Raft

#print axioms Raft.C16Sys.transfer_target_holds_log_sys_partial
#print axioms Raft.C16Sys.designated_by_tryTransfer
#print axioms Raft.C16Sys.transfer_never_two_leaders_partial
#print axioms Raft.C16Sys.transfer_ops_admitted
#print axioms Raft.C16Sys.transfer_success_means_stepped_down_sys_partial
#print axioms Raft.C16Sys.transfer_ok_means_left
#print axioms Raft.C16Sys.no_new_work_during_transfer_step
