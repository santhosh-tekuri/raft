/-
C08 / C01 / C02 on the cluster-level transition system WITH membership changes (`Raft.Member`, Sys/Member.lean) — **the
side conditions of Props/C02Member.lean discharged**: election safety, leader completeness, "committed entries are never
replaced", commit-index safety and "every node uses the last configuration entry of its log", for ARBITRARY chains of
membership changes, from conditions on the INITIAL state and on WHAT IS DELIVERED only.

Props/C02Member.lean proves these statements for the states of `ReachableNF (SideC root)`: runs in which EVERY state
satisfies the side conditions `SideC` (`boot`, `q1`, `cfl0`, `tree`, `root`) and no operation handled by a candidate or
leader fails (`MemberStep.TransNF`). Here all of this is PROVED of every run of `ReachableR root` (`reachableNF_of`), so
the theorems hold with the reduced assumption set:

* `boot`   (every node bootstrapped), `root` (`RootI`), `cfl0` → `CfgLatest` in every state: follow from the invariant
           `MemberInv.MInv` of the state itself (`MemberSide.boot_of`, `TreeM.rootC/rootA/rootOnly`, `CfgM.cl`);
* `tree`   (`MemberInv.SideT`: configuration entries decode, have duplicate-free voter lists, a created configuration
           entry is adjacent to its predecessor): a CONTENT invariant on the tree of created entries —
           `MemberGood.EntOK`: every configuration entry carries a `MemberGood.CfgAll` configuration (ids strictly
           increasing, actions defined and never `Promote` on a voter, TWO voters without pending action) — carried
           through the leader's handlers by a guarded closure (`MemberGood.block`, `MemberGood.step_content`: what a
           step writes into the log; the FIRST configuration entry of a step is adjacent to the latest configuration
           before it), plus "a step appends at most one configuration entry" (`MemberSide.ev_small`: with two voters no
           commit moment of a step reaches beyond the old log, so the guard `isCommitted` of a second change fails).
           Crashed steps: what a crashed step created is part of what the completed step creates (`crash_T_sub`);
* `q1`     (no quorum of one): `CfgAll` has two voters;
* no failure: `MemberStep.NoFail x` as a side condition on every state **is not usable: it is FALSE** in every state in
           which a leader has a replication (`nofail_unsatisfiable`): `NoFail x` asks that NO operation admitted by
           `Member.Enabled` makes a candidate or leader fail, and `Member.Enabled` admits a `newTerm 0` report of a
           replication, which makes a leader of a term ≥ 1 fail the assertion of `storage.setTerm` (as `C15NoPanic` shows;
           `C19Sys` has the assumption `EnabledG.newTerm` for this) — theorems under it would hold vacuously from the
           first leader with a replication on. The proofs use the no-failure of the operation AT HAND only: it is a field
           of `MemberStep.SM` / a hypothesis of the transitions `MemberStep.TransNF`, and here it is PROVED for every
           delivered operation: every node is `NoPanic.Good true` in every reachable state, every delivered operation
           satisfies `NoPanic.ReqOk' true` (`MemberSide.reqok`), hence `C15NoPanic.good_step_two`
           (`MemberSide.transNF_of`).

What is ASSUMED (`ReachableR root`):
* the initial state (`InitR`): `Member.Init`; every node `NoPanic.Good true`; every configuration entry of the initial
  tree carries a `CfgAll` configuration; `RootI root` (one bootstrap configuration entry below every entry); every node's
  latest configuration is the last configuration entry of its log (`CfgLatest`). Example: all nodes bootstrapped with the
  same entry (1,1) with three voters (`ex0_initR`);
* what is delivered (`MemberSide.TransR`): `Member.Enabled` (no snapshots; no forged append requests / vote requests /
  match-index reports; vote responses are real replies; a client batch holds no configuration entry) and
  `MemberSide.ReqG`: a submitted configuration has strictly increasing ids, a defined action for the receiver and TWO
  voters without pending action (`NoPanic.UserCfg true` — so no request leaves fewer than two stable voters); a `newTerm`
  report of a replication carries a term not below the leader's; a transport error of a `timeoutNow` request names a
  replicated node; closed nodes are frozen (only an open node handles operations; any node's process may be restarted
  from its disk); a restart retains at least one snapshot (`SnapshotsRetain ≥ 1`).
"partial": these assumptions (and no snapshots / compaction, as in Sys/Member.lean) — and every node of every run is
bootstrapped from the start (see `InitR`; `AuditMember.no_fresh_node`): a server added by a membership change starts with
a copy of the bootstrap entry, never with empty storage; the `Raft.bootstrap` path and "not bootstrapped yet" followers
are outside these theorems.
-/
import RaftVerif.Lemmas.MemberSide
import RaftVerif.Lemmas.EnabledAtM
import RaftVerif.Props.C02Member
import RaftVerif.Props.C19Sys
import RaftVerif.Lemmas.Shape

namespace Raft
namespace C08Member
open Node Election LogRel CommitRel Commit Member MemberCore MemberInv MemberCommit
open MemberGood MemberSide NoPanic
open MemberStep (CfgLatest NoFail RootI)

/-- the initial states.

RESTRICTION (made explicit by `AuditMember.no_fresh_node`): the field `cfl : CfgLatest x` asks of EVERY node — also of
nodes that are members of no configuration yet — that its log holds a configuration entry, and `good` that it is
bootstrapped. So EVERY NODE OF EVERY RUN IS BOOTSTRAPPED FROM THE START: a server that a membership change adds to the
cluster starts with a copy of the bootstrap entry, never with empty storage. The `Raft.bootstrap` path and followers that
are "not bootstrapped yet" (`follower.canStartElection`; a fresh server that receives its first configuration from the
leader) are OUTSIDE the theorems of this file. -/
structure InitR (root : K) (x : Member.Sys) : Prop where
  init : Member.Init x
  good : ∀ i, Good true (x.node i)
  /-- every configuration entry of the initial tree carries a `CfgAll` configuration -/
  tree : ∀ c ∈ x.cm.T, EntOK c.e
  root : RootI root x
  cfl : CfgLatest x

/-- States reachable by runs of `MemberSide.TransR` from an initial state satisfying `InitR root`. NO condition on the
states passed. -/
inductive ReachableR (root : K) : Member.Sys → Prop
  | init (x : Member.Sys) : InitR root x → ReachableR root x
  | next (x y : Member.Sys) : ReachableR root x → TransR x y → ReachableR root y

theorem reachableP_of {root : K} {x : Member.Sys} (h : ReachableR root x) : ReachableP (fun _ => True) x := by
  induction h with
  | init x hi => exact .init x hi.init trivial
  | next x y _ ht ih => exact .next x y ih (transR_trans ht) trivial

/-- **the invariants hold in every reachable state** -/
theorem inv_reachable (root : K) (x : Member.Sys) (h : ReachableR root x) :
    (∃ G, MInv x G ∧ G.root = root) ∧ XInv x := by
  induction h with
  | init x hi =>
    refine ⟨⟨⟨root, [], [], []⟩, MemberStep.minv_init root hi.init hi.root hi.cfl, rfl⟩, hi.good, hi.tree, ?_⟩
    intro c hc _ _ h0
    exact absurd (hi.init.cm.rp.cr0 c hc) h0
  | next x y hx ht ih =>
    obtain ⟨⟨G, hI, hr⟩, hX⟩ := ih
    obtain ⟨hX', G', hI', hr'⟩ := xinv_trans hI hX (C08Sys.leaderCache_reachable x (reachableP_of hx)) ht
    exact ⟨⟨G', hI', hr'.trans hr⟩, hX'⟩

/-! ### the finding: `NoFail` is unsatisfiable -/

/-- A leader of a term ≥ 1 that one of its replications tells "`newTerm 0`" steps down and fails the assertion of
`storage.setTerm` (`assert.setTerm`); the role transitions that follow keep the failure recorded. -/
theorem step_newTerm_zero_fails (n : Node) (r : Repl) (hl : n.role = .leader) (hr : r ∈ n.ldr.repls) (ht : n.term ≠ 0) :
    (n.step (.replUpdates [{ id := r.id, upd := .newTerm 0 }]) [] []).panicked ≠ none := by
  have hs : n.step (.replUpdates [{ id := r.id, upd := .newTerm 0 }]) [] [] =
      settle 6 ((n.begin [] []).handle (.replUpdates [{ id := r.id, upd := .newTerm 0 }])) (n.begin [] []).role := rfl
  rw [hs]
  replace hl : (n.begin [] []).role = .leader := hl
  replace hr : r ∈ (n.begin [] []).ldr.repls := hr
  replace ht : (n.begin [] []).term ≠ 0 := ht
  generalize n.begin [] [] = m at hl hr ht ⊢
  obtain ⟨st, hst⟩ : ∃ st, m.findRepl? r.id = some st := by
    unfold Node.findRepl?
    cases hf : m.ldr.repls.find? (·.id == r.id) with
    | some st => exact ⟨st, rfl⟩
    | none =>
      have := List.find?_eq_none.mp hf r hr
      simp at this
  have hloop : replUpdLoop m {} [{ id := r.id, upd := .newTerm 0 }] =
      (((m.setRole .follower).setLeader 0).setTerm 0, { stop := true }) := by
    unfold replUpdLoop
    rw [if_neg Bool.false_ne_true]
    dsimp only
    rw [hst]
  have hh : m.handle (.replUpdates [{ id := r.id, upd := .newTerm 0 }]) = ((m.setRole .follower).setLeader 0).setTerm 0 := by
    unfold Node.handle
    dsimp only
    rw [if_pos hl]
    unfold Node.checkReplUpdates
    dsimp only
    rw [hloop]
    rfl
  have hpan : (((m.setRole .follower).setLeader 0).setTerm 0).panicked ≠ none := by
    unfold Node.setTerm
    rw [if_pos (show ((m.setRole .follower).setLeader 0).term ≠ 0 from ht), if_neg (Nat.not_lt_zero _)]
    exact Node.panic_panicked_ne _ _
  have hrole : (((m.setRole .follower).setLeader 0).setTerm 0).role = .follower := by
    rw [Node.setTerm_shape]; rfl
  rw [hh]
  exact fun hp => (CfgRel.settle_follower_q _ m.role hrole).pan hpan hp

/-- **`MemberStep.NoFail` (the side condition `SideC.nofail` of Props/C02Member.lean) is FALSE in every state in which a
leader (of a term ≥ 1, as every leader is) has a replication**: `Member.Enabled` admits the report "`newTerm 0`" of that
replication (it constrains match-index reports only), and a leader that handles it fails the assertion of
`storage.setTerm` (`assert.setTerm`; `NoPanic.UpdOk` / `SysInv.EnabledG.newTerm` exclude such a report). -/
theorem nofail_unsatisfiable (x : Member.Sys) (i : Nat) (r : Repl) (hi : i ≠ 0) (hl : (x.node i).role = .leader)
    (hr : r ∈ (x.node i).ldr.repls) (ht : (x.node i).term ≠ 0) : ¬ NoFail x := by
  intro hnf
  have he : Member.Enabled x i (.replUpdates [{ id := r.id, upd := .newTerm 0 }]) 0 :=
    ⟨⟨hi, (fun q h => by cases h), (fun ⟨_, _, _, h⟩ => by cases h),
        (fun u hu v hv => by rw [List.mem_singleton.mp hu] at hv; cases hv), (fun q h => by cases h)⟩, trivial,
      (fun q h => by cases h), (fun q h => by cases h),
      (fun us h u hu v hv => by
        injection h with h
        rw [← h, List.mem_singleton] at hu
        rw [hu] at hv; cases hv)⟩
  exact step_newTerm_zero_fails (x.node i) r hl hr ht (hnf i _ [] [] 0 he (by rw [hl]; exact fun h => by cases h))

/-- **The side conditions of Props/C02Member.lean, discharged (partial: the assumptions of the file header).** In every
state `x` reachable in the cluster with membership changes (`ReachableR root`: a good initial state, well-formed requests,
closed nodes frozen — NO condition on the states passed):
1. every node is bootstrapped (`boot`);
2. no node's latest configuration has a quorum of one (`q1`) — it is a `CfgAll` configuration: two voters without pending
   action;
3. every node's latest configuration is the last configuration entry of its log (`cfl0`, in EVERY state);
4. the tree of created entries satisfies `SideT` (`tree`): every configuration entry decodes, its voter list is duplicate
   free, and a configuration entry created by a node — in a completed step or in a step that ended in a crash — is
   adjacent to the previous configuration entry on its path; moreover every configuration entry carries a `CfgAll`
   configuration;
5. the initial entries descend from the one bootstrap configuration entry `root` (`root`);
6. every node is `NoPanic.Good true` (nothing has failed, orderings, caches, …);
7. (instead of `nofail`) every operation that may be delivered to an open node (`Member.Enabled`, `ReqG`) is acceptable
   (`NoPanic.ReqOk' true`), is handled WITHOUT FAILURE — no assertion, nil dereference, `bug{}`, `unreachable()`,
   exhausted recursion budget — and leaves the node good. -/
theorem side_conditions_member_partial (root : K) (x : Member.Sys) (h : ReachableR root x) :
    Boot x ∧ (∀ i, (x.node i).configs.latest.quorum ≠ 1) ∧ CfgLatest x ∧
    (SideT x ∧ ∀ c ∈ x.cm.T, EntOK c.e) ∧ RootI root x ∧ (∀ i, Good true (x.node i)) ∧
    (∀ i op src, Member.Enabled x i op src → ReqG x i op → (x.node i).closed = "" → ∀ ra ord,
      ReqOk' true (x.node i) op ∧ ((x.node i).step op ra ord).panicked = none ∧
      Good true ((x.node i).step op ra ord)) := by
  obtain ⟨⟨G, hI, hr⟩, hX⟩ := inv_reachable root x h
  refine ⟨boot_of hI, fun i => (latest_all hI hX.tree i).quorum_ne_one, hI.cfg.cl, ⟨hX.sideT, hX.tree⟩, ?_, hX.good,
    fun i op src he hg ho ra ord => ?_⟩
  · rw [← hr]; exact ⟨hI.tree.rootC, fun c hc _ => hI.tree.rootA c hc, hI.tree.rootOnly⟩
  · have hq := reqok hI hX he hg
    obtain ⟨hp, hgood⟩ := C15NoPanic.good_step_two _ op ra ord (hX.good i) ho hq
    exact ⟨hq, hp, hgood⟩

/-- **every run of `ReachableR root` is a run of Props/C02Member.lean**: its states satisfy the side conditions
`C02Member.SideC root`, and no operation handled in it fails -/
theorem reachableNF_of (root : K) (x : Member.Sys) (h : ReachableR root x) :
    C02Member.ReachableNF (C02Member.SideC root) x := by
  have side : ∀ y, ReachableR root y → C02Member.SideC root y := by
    intro y hy
    obtain ⟨b, q, cl, ⟨t, _⟩, r, _⟩ := side_conditions_member_partial root y hy
    exact ⟨b, q, fun _ => cl, t, r⟩
  induction h with
  | init x hi => exact .init x hi.init (side x (.init x hi))
  | next x y hx ht ih =>
    obtain ⟨⟨G, hI, _⟩, hX⟩ := inv_reachable root x hx
    exact .next x y ih (transNF_of hI hX (C08Sys.leaderCache_reachable x (reachableP_of hx)) ht)
      (side y (.next x y hx ht))

/-! ### the theorems of Props/C02Member.lean with the reduced assumption set -/

/-- **C02, leader completeness, across arbitrary chains of membership changes (partial: the assumptions of the file
header; NO side condition on the states of the run).** In every state reachable in `ReachableR root`:
1. every entry of the tree of created entries whose term is above that of an entry `m` of the ledger `committed` extends
   `m`: entries of later terms are only ever created on top of what was committed before, whatever configurations the
   cluster went through;
2. every leader holds every entry of the ledger `committed` whose term is not above its own — at the same index, with
   the same term. -/
theorem leader_completeness_member_partial (root : K) (x : Member.Sys) (h : ReachableR root x) :
    (∀ m ∈ x.cm.committed, ∀ c ∈ x.cm.T, m.2 < c.e.term → Anc x.cm.T m (key c)) ∧
    (∀ i, (x.node i).role = .leader → ∀ m ∈ x.cm.committed, m.2 ≤ (x.node i).term →
      ∃ e, (x.node i).log.get? m.1 = some e ∧ e.term = m.2) :=
  C02Member.leader_completeness_member_modulo_sides root x (reachableNF_of root x h)

/-- **C01, election safety, across arbitrary chains of membership changes (partial; no side condition on the states).**
In every reachable state:
1. two nodes that are leader in the same term are the same node;
2. the ledger `won` names at most one node per term;
3. two recorded candidates of one term that each hold a majority of grants of the voters of THEIR OWN election
   configuration are the same node (`C04Member.ESafe`). -/
theorem election_safety_member_partial (root : K) (x : Member.Sys) (h : ReachableR root x) :
    (∀ i j, (x.node i).role = .leader → (x.node j).role = .leader → (x.node i).term = (x.node j).term → i = j) ∧
    (∀ l l' t, (l, t) ∈ x.el.won → (l', t) ∈ x.el.won → l = l') ∧
    C04Member.ESafe x.el.grants x.ecfg :=
  C02Member.election_safety_member_modulo_sides root x (reachableNF_of root x h)

/-- **C02, committed entries are never replaced, across membership changes (partial; no side condition on the
states).**
1. The entries of the ledger `committed` lie on ONE path of the tree.
2. Two committed keys with the same index are the same key.
3. A key that is committed stays committed in every successor state. -/
theorem committed_never_replaced_member_partial (root : K) (x : Member.Sys) (h : ReachableR root x) :
    (∀ m ∈ x.cm.committed, ∀ m' ∈ x.cm.committed, Anc x.cm.T m m' ∨ Anc x.cm.T m' m) ∧
    (∀ m ∈ x.cm.committed, ∀ m' ∈ x.cm.committed, m.1 = m'.1 → m = m') ∧
    (∀ y, Member.Trans x y → ∀ a, Committed x.cm a → Committed y.cm a) :=
  C02Member.committed_never_replaced_member_modulo_sides root x (reachableNF_of root x h)

/-- **C02 / C03, state-machine safety for the commit indexes of ALL nodes, across membership changes (partial; no side
condition on the states).** In every reachable state:
1. everything within a node's commit index is committed;
2. two nodes whose commit indexes cover index `k` hold the same entry at `k`;
3. every leader whose term is at least the term of a node `j` holds, at every index within `j`'s commit index, the
   very entry `j` holds there;
4. when an open node handles a delivered operation (`Member.Enabled`, `ReqG`) to completion, every index within its
   commit index still holds the same entry afterwards, and is still within the commit index. -/
theorem commit_index_safety_member_partial (root : K) (x : Member.Sys) (h : ReachableR root x) :
    (∀ j k, 1 ≤ k → k ≤ (x.node j).commitIndex →
      k ≤ (x.node j).log.entries.length ∧ Cmt x.cm (k, termAt (x.node j).log.entries k) (x.node j).term) ∧
    (∀ i j k, 1 ≤ k → k ≤ (x.node i).commitIndex → k ≤ (x.node j).commitIndex →
      (x.node i).log.get? k = (x.node j).log.get? k ∧ ((x.node i).log.get? k).isSome = true) ∧
    (∀ i j k, (x.node i).role = .leader → (x.node j).term ≤ (x.node i).term → 1 ≤ k →
      k ≤ (x.node j).commitIndex →
      (x.node i).log.get? k = (x.node j).log.get? k ∧ ((x.node j).log.get? k).isSome = true) ∧
    (∀ i op ra ord src, Member.Enabled x i op src → ReqG x i op → (x.node i).closed = "" →
      ∀ k, 1 ≤ k → k ≤ (x.node i).commitIndex →
      ((x.node i).step op ra ord).log.get? k = (x.node i).log.get? k ∧
      k ≤ ((x.node i).step op ra ord).commitIndex) := by
  obtain ⟨a, b, c, d⟩ := C02Member.commit_index_safety_member_modulo_sides root x (reachableNF_of root x h)
  refine ⟨a, b, c, fun i op ra ord src he hg ho => d i op ra ord src he (fun _ => ?_)⟩
  exact ((side_conditions_member_partial root x h).2.2.2.2.2.2 i op src he hg ho ra ord).2.1

/-- **C08, every node uses the latest configuration of its log (partial; no side condition on the states).** In every
reachable state, for every node (leader, candidate or follower; after completed steps, truncations by append requests,
crashes and restarts):
1. `configs.latest` is the LAST CONFIGURATION ENTRY OF THE NODE'S LOG — and it is a `CfgAll` configuration: member ids
   strictly increasing, defined actions, two voters without pending action;
2. the index of that entry is protected (`C02Member.Protected`: the log holds an entry there, and no append request in the
   ledger `sent` of the node's current or a later term conflicts with the node's log at or below it) — or the
   configuration is pending: `configs.committed` is the configuration entry just before it (`MemberFollow.Pend`), and the
   index of THAT entry is protected;
3. what protection means for the next step: when an open node handles a delivered operation (`Member.Enabled`, `ReqG`) to
   completion, its log up to a protected index is unchanged — nothing at or below the index is truncated or replaced.
(Statement 2 is stated without ghost ledgers: `∃ G, G.root = root ∧ ∀ i, ProtG x G i … ∨ …` is satisfied by a degenerate
ghost ledger in every state — `AuditMember.protG_degenerate`; `Protected` is the consequence `MemberInv.protNoConf` draws
from `ProtG` for the ledger of the invariant `MInv`. `AuditMember.protected_informative`: an instance in which the first
alternative is FALSE.) -/
theorem cfg_latest_member_partial (root : K) (x : Member.Sys) (h : ReachableR root x) :
    CfgLatest x ∧ (∀ i, CfgAll (x.node i).configs.latest) ∧
    (∀ i, C02Member.Protected x i (x.node i).configs.latest.index ∨
      (MemberFollow.Pend (x.node i).log.entries (x.node i).configs ∧
        C02Member.Protected x i (x.node i).configs.committed.index)) ∧
    (∀ i k, C02Member.Protected x i k → ∀ op ra ord src, Member.Enabled x i op src → ReqG x i op →
      (x.node i).closed = "" →
      ((x.node i).step op ra ord).log.entries.take k = (x.node i).log.entries.take k) := by
  obtain ⟨⟨G, hI, _⟩, hX⟩ := inv_reachable root x h
  obtain ⟨a, b, c⟩ := C02Member.cfg_latest_member_modulo_sides root x (reachableNF_of root x h)
  refine ⟨a, latest_all hI hX.tree, b, fun i k hp op ra ord src he hg ho => c i k hp op ra ord src he (fun _ => ?_)⟩
  exact ((side_conditions_member_partial root x h).2.2.2.2.2.2 i op src he hg ho ra ord).2.1

/-- example initial state: `C08Sys.ex0` (three voters 1, 2, 3, every node bootstrapped with the configuration entry
(1,1)) -/
abbrev ex0 : Member.Sys := C08Sys.ex0

theorem exCfg_all : CfgAll C04Sys.exCfg.payload := ⟨by decide, by decide, by decide⟩

theorem exE_entOK : EntOK C04Sys.exE := fun _ => ⟨C04Sys.exCfg.payload, rfl, exCfg_all⟩

/-- **a way to satisfy `InitR`**: every node is bootstrapped with the SAME configuration entry `e0` (index 1), which
carries a `CfgAll` configuration — the log of every node is `[e0]`, its latest configuration is that of `e0`, the tree
of created entries is the one initial record of `e0` — and every node is `NoPanic.Good true`. The bootstrap key is
`(1, e0.term)`. -/
theorem initR_single {x : Member.Sys} (hi : Member.Init x) (hg : ∀ i, Good true (x.node i)) (e0 : Entry) (c0 : Config)
    (hc0 : e0.config? = some c0) (hidx : e0.index = 1) (hok : EntOK e0) (hT : x.cm.T = [⟨e0, 0, 0⟩])
    (hlog : ∀ i, (x.node i).log.entries = [e0]) (hcfg : ∀ i, (x.node i).configs.latest = c0) :
    InitR (1, e0.term) x := by
  obtain ⟨hty, hci, _⟩ := Entry.config?_facts hc0
  have hp : Path x.cm.T [e0] :=
    ⟨⟨⟨⟨e0, 0, 0⟩, by rw [hT]; exact List.mem_singleton.mpr rfl, rfl, fun pt h => by cases h⟩, trivial⟩,
      fun k hk => by
        have : k = 0 := by have : k < 1 := hk; omega
        subst this; exact hidx⟩
  have hh : Holds [e0] 1 e0.term := ⟨Nat.le_refl _, Nat.le_refl _, rfl⟩
  have hkey : ∀ c ∈ x.cm.T, key c = (1, e0.term) := by
    intro c hc
    rw [hT] at hc
    rw [List.mem_singleton.mp hc]
    show (e0.index, e0.term) = _
    rw [hidx]
  refine ⟨hi, hg, fun c hc => ?_, ⟨⟨⟨e0, 0, 0⟩, by rw [hT]; exact List.mem_singleton.mpr rfl, hkey _ (by rw [hT]; exact List.mem_singleton.mpr rfl), hty, rfl⟩,
    fun c hc _ => ?_, fun c hc _ _ => hkey c hc⟩, fun i => ?_⟩
  · rw [hT] at hc
    rw [List.mem_singleton.mp hc]; exact hok
  · rw [hkey c hc]
    exact anc_of_path hp hh hh (Nat.le_refl _)
  · show CfgLast (x.node i).log.entries (x.node i).configs.latest
    rw [hlog i, hcfg i]
    exact ⟨⟨e0, List.mem_singleton.mpr rfl, hc0⟩, fun e he _ => by rw [List.mem_singleton.mp he, hci]; exact Nat.le_refl _⟩

/-- EXAMPLE: the hypotheses on the initial state hold of `ex0` (by `initR_single`) -/
theorem ex0_initR : InitR (1, 1) ex0 :=
  initR_single C08Sys.ex0_init C19Sys.exNode_good C04Sys.exE C04Sys.exCfg C02Member.exE_config rfl exE_entOK rfl
    (fun _ => rfl) (fun _ => rfl)

/-- EXAMPLE: node 2 answers an identity request of node 1 — a transition of `TransR` (the operation satisfies `ReqG`, the
node is open) -/
theorem exA_transR : TransR ex0 C02Member.exA :=
  have he : Member.Enabled ex0 2 (.identity 1 7 2) 0 ∧ ReqG ex0 2 (.identity 1 7 2) :=
    enabledM_iff.mpr ⟨by decide, by decide⟩
  .step 2 (.identity 1 7 2) [] [] 0 he.1 he.2 rfl

/-- EXAMPLE: the hypotheses of the theorems hold for a non-initial state — `exA` is reachable — and hence their
conclusions, e.g. election safety and the discharged side conditions -/
example : ReachableR (1, 1) C02Member.exA ∧ C04Member.ESafe C02Member.exA.el.grants C02Member.exA.ecfg ∧
    SideT C02Member.exA :=
  have r : ReachableR (1, 1) C02Member.exA := .next ex0 _ (.init ex0 ex0_initR) exA_transR
  ⟨r, (election_safety_member_partial (1, 1) _ r).2.2, (side_conditions_member_partial (1, 1) _ r).2.2.2.1.1⟩

theorem ex1_enabled : Member.Enabled ex0 1 .timeout 0 ∧ ReqG ex0 1 .timeout :=
  enabledM_iff.mpr ⟨by decide, trivial⟩

set_option maxRecDepth 100000 in
/-- EXAMPLE (a role change): `C08Sys.ex1` — node 1 is candidate of term 2 after its election timeout — is reachable; so
(by the theorems) it satisfies the side conditions, and the candidate is good -/
example : ReachableR (1, 1) C08Sys.ex1 ∧ (C08Sys.ex1.node 1).role = .candidate ∧ Good true (C08Sys.ex1.node 1) ∧
    (C08Sys.ex1.node 1).configs.latest.quorum ≠ 1 :=
  have r : ReachableR (1, 1) C08Sys.ex1 :=
    .next ex0 _ (.init ex0 ex0_initR) (.step 1 .timeout [] [] 0 ex1_enabled.1 ex1_enabled.2 rfl)
  have s := side_conditions_member_partial (1, 1) _ r
  ⟨r, by decide, s.2.2.2.2.2.1 1, s.2.1 1⟩

/-- EXAMPLE (a crash INSIDE a step): node 1 dies during its election timeout in `ex0` after the first storage point
(`value.set`: term 2 and its own vote are on disk) and restarts as `C19Sys.exN`; the resulting state is reachable, so
the restarted node is good and the side conditions hold -/
example : ReachableR (1, 1) (crashM ex0 1 .timeout C19Sys.exN) ∧ Good true ((crashM ex0 1 .timeout C19Sys.exN).node 1) ∧
    SideT (crashM ex0 1 .timeout C19Sys.exN) :=
  have r : ReachableR (1, 1) (crashM ex0 1 .timeout C19Sys.exN) :=
    .next ex0 _ (.init ex0 ex0_initR)
      (.crash 1 .timeout [] [] 0 1 1 true C19Sys.exN ex1_enabled.1 ex1_enabled.2 (Or.inl rfl) (Nat.le_refl _)
        C19Sys.exN_restart)
  have s := side_conditions_member_partial (1, 1) _ r
  ⟨r, s.2.2.2.2.2.1 1, s.2.2.2.1.1⟩

/-- EXAMPLE (the hypotheses of `nofail_unsatisfiable` are satisfiable): a state whose node 1 is the leader of
`C06Cache.exLeader` (term 1, replications for the nodes 2 and 3) does not satisfy `NoFail` -/
example : ¬ NoFail { cm := { rp := { el := { node := fun _ => C06Cache.exLeader, grants := [], counted := [], won := [] },
                                     sent := [], created := [] }, acks := [], camps := [], committed := [] },
                     ecfg := [], changes := [] } :=
  nofail_unsatisfiable _ 1 { id := 2, node := { id := 2, addr := "b:1", voter := true }, matchIndex := 2 } (by decide)
    (by decide) (by decide) (by decide)

end C08Member
end Raft

#print axioms Raft.MemberGood.step_content
#print axioms Raft.MemberSeg.crashDisk_segsOK
#print axioms Raft.MemberSide.reqok
#print axioms Raft.MemberSide.xinv_trans
#print axioms Raft.C08Member.inv_reachable
#print axioms Raft.C08Member.nofail_unsatisfiable
#print axioms Raft.C08Member.reachableNF_of
#print axioms Raft.C08Member.side_conditions_member_partial -- also C15 C19
#print axioms Raft.C08Member.leader_completeness_member_partial -- also C02
#print axioms Raft.C08Member.election_safety_member_partial -- also C01
#print axioms Raft.C08Member.committed_never_replaced_member_partial -- also C02
#print axioms Raft.C08Member.commit_index_safety_member_partial -- also C02 C03
#print axioms Raft.C08Member.cfg_latest_member_partial -- also C19
#print axioms Raft.C08Member.ex0_initR
