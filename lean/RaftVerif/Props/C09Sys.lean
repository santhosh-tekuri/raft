/-
C09 (snapshots are transparent), C04 / C02 / C03 (log matching, leader completeness, state-machine safety) on the
cluster-level transition system WITH LOCAL SNAPSHOTS `Raft.Snap` (Sys/Snap.lean) — stage 1 of lifting the `OpOK`
restriction of `Raft.Commit`: `.takeSnapshot` / `.snapRun` / `.snapTaken` are enabled, nodes restart from their newest
snapshot file plus the log, append requests are handled by nodes with `snapIndex > 0` (consistency check skipped at or
below the snapshot index).  NOT yet in this stage: compaction (`log.prev` never moves: `.snapTaken` is only taken when it
does not compact, replication updates report no compaction) and installation of snapshots (`.install` never occurs);
`.shutdown` never occurs.  See the header of Sys/Snap.lean for the complete list of assumptions.

Method: the cluster seen WITHOUT its snapshot data (`SnapInv.eview`: every node with `snapIndex = snapTerm = 0` and no
snapshot files, in the state and at every crash point) runs in `Raft.Commit`, so the invariants of `Raft.Commit` hold for
the view in every reachable state, together with the snapshot invariant `SnapOK` (every file on disk fits the log and the
commit index): `SnapInv.inv_reachable`, Lemmas/SnapInv.lean.  The theorems below are statements about the nodes of the
cluster itself (the erasure changes none of the fields they mention).
-/
import RaftVerif.Lemmas.SnapInv

namespace Raft
namespace C09Sys
open Election LogRel CommitRel Commit C02Sys C03Sys SnapInv Snap

section
variable {V : List Nat}

/-- the fields the theorems mention are those of the view -/
theorem view_log (x : Snap.Sys) (i : Nat) : ((eview x.cs).node i).log = (x.node i).log := rfl

/-- log matching, from the invariant (used for the reachable states of `Raft.Snap` and of `Raft.Snap2`) -/
theorem log_matching_of_inv (x : Snap.Sys) (hS : SInv V x) (i j k : Nat)
    (a b : Entry) (ha : (x.node i).log.get? k = some a) (hb : (x.node j).log.get? k = some b)
    (ht : a.term = b.term) :
    ∀ k', k' ≤ k → ∀ a' b', (x.node i).log.get? k' = some a' → (x.node j).log.get? k' = some b' → a' = b' :=
  C04Sys.log_matching_of_chain hS.cinv.rp.uniq (hS.cinv.rp.nodes i) (hS.cinv.rp.nodes j) k a b ha hb ht

/-- **C04 with local snapshots — log matching (partial, stage 1).** In every state of the cluster reachable in
`Raft.Snap` (`ReachableS V`: any schedule, message delay / loss / duplication / reordering, crashes at any storage
point and restarts from log + newest snapshot file, local snapshots taken at any time; assumptions: header of
Sys/Snap.lean): if the logs of nodes `i` and `j` hold entries with the same term at index `k`, then at every index
`k' ≤ k` they hold the SAME entry (index, term, type, payload, configuration).  In particular for nodes whose
`snapIndex` is positive, which skip the consistency check of `onAppendEntriesRequest` below it. -/
theorem log_matching_sys_snap_partial (hV : V.Nodup) (x : Snap.Sys) (h : ReachableS V x) (i j k : Nat)
    (a b : Entry) (ha : (x.node i).log.get? k = some a) (hb : (x.node j).log.get? k = some b)
    (ht : a.term = b.term) :
    ∀ k', k' ≤ k → ∀ a' b', (x.node i).log.get? k' = some a' → (x.node j).log.get? k' = some b' → a' = b' :=
  log_matching_of_inv x (inv_reachable hV h).1 i j k a b ha hb ht

/-- `leader_completeness_sys_snap_partial` from the invariant -/
theorem leader_completeness_of_inv (hV : V.Nodup) (x : Snap.Sys) (hS : SInv V x) :
    (∀ i, (x.node i).role = .leader → ∀ m ∈ x.cs.committed, m.2 ≤ (x.node i).term →
      ∃ e, (x.node i).log.get? m.1 = some e ∧ e.term = m.2) ∧
    (∀ i j k, (x.node i).role = .leader → (x.node j).term ≤ (x.node i).term → 1 ≤ k →
      k ≤ (x.node j).commitIndex →
      (x.node i).log.get? k = (x.node j).log.get? k ∧ ((x.node j).log.get? k).isSome = true) ∧
    (∀ m ∈ x.cs.committed, ∀ c ∈ x.cs.T, m.2 < c.e.term → Anc x.cs.T m (key c)) :=
  leader_completeness_of_cinv (x := eview x.cs) hV hS.cinv

/-- **C02 with local snapshots — leader completeness (partial, stage 1).** In every reachable state of `Raft.Snap`:
1. every leader holds every entry of the ledger `committed` (the entries a leader's commit index reached by the
   majority rule) whose term is not above its own;
2. every leader `i` whose term is at least the term of node `j` holds, at every index within `j`'s commit index, the
   very entry `j` holds there — where `j`'s commit index may come from a snapshot file read at restart
   (`commitIndex = snapIndex`);
3. every created entry of a later term extends every ledger entry. -/
theorem leader_completeness_sys_snap_partial (hV : V.Nodup) (x : Snap.Sys) (h : ReachableS V x) :
    (∀ i, (x.node i).role = .leader → ∀ m ∈ x.cs.committed, m.2 ≤ (x.node i).term →
      ∃ e, (x.node i).log.get? m.1 = some e ∧ e.term = m.2) ∧
    (∀ i j k, (x.node i).role = .leader → (x.node j).term ≤ (x.node i).term → 1 ≤ k →
      k ≤ (x.node j).commitIndex →
      (x.node i).log.get? k = (x.node j).log.get? k ∧ ((x.node j).log.get? k).isSome = true) ∧
    (∀ m ∈ x.cs.committed, ∀ c ∈ x.cs.T, m.2 < c.e.term → Anc x.cs.T m (key c)) :=
  leader_completeness_of_inv hV x (inv_reachable hV h).1

/-- `state_machine_safety_sys_snap_partial` from the invariant -/
theorem state_machine_safety_of_inv (x : Snap.Sys) (hS : SInv V x) :
    (∀ i, (x.node i).fsm.index ≤ (x.node i).commitIndex ∧
      (x.node i).fsm.index ≤ (x.node i).log.entries.length ∧
      (x.node i).fsm.applied = ups ((x.node i).log.entries.take (x.node i).fsm.index)) ∧
    (∀ i k, 1 ≤ k → k ≤ (x.node i).fsm.index → Committed x.cs (k, termAt (x.node i).log.entries k)) ∧
    (∀ i j, (x.node i).fsm.index ≤ (x.node j).fsm.index →
      (x.node i).log.entries.take (x.node i).fsm.index = (x.node j).log.entries.take (x.node i).fsm.index ∧
      (x.node i).fsm.applied <+: (x.node j).fsm.applied) ∧
    (∀ i j, (x.node i).fsm.applied <+: (x.node j).fsm.applied ∨
      (x.node j).fsm.applied <+: (x.node i).fsm.applied) :=
  state_machine_safety_of (x := eview x.cs) (core_of_cinv hS.cinv) (chained hS.cinv) hS.fsm

/-- **C03 with local snapshots — state-machine safety (partial, stage 1).** In every reachable state of `Raft.Snap`,
on every node — whatever mixture of applying log entries, taking snapshots, crashing and restoring the state machine
from a snapshot file at restart produced its state:
1. the state machine holds exactly the update payloads of its log entries `1 … fsm.index`, in order (`fsm.applied` is
   the replay of the log up to the applied index), and never ran ahead of the commit index;
2. every entry it has been fed is committed;
3. a node that applied no more than another holds the same entries up to its applied index and its command sequence
   is a prefix of the other's; hence any two command sequences are prefix-comparable. -/
theorem state_machine_safety_sys_snap_partial (hV : V.Nodup) (x : Snap.Sys) (h : ReachableS V x) :
    (∀ i, (x.node i).fsm.index ≤ (x.node i).commitIndex ∧
      (x.node i).fsm.index ≤ (x.node i).log.entries.length ∧
      (x.node i).fsm.applied = ups ((x.node i).log.entries.take (x.node i).fsm.index)) ∧
    (∀ i k, 1 ≤ k → k ≤ (x.node i).fsm.index → Committed x.cs (k, termAt (x.node i).log.entries k)) ∧
    (∀ i j, (x.node i).fsm.index ≤ (x.node j).fsm.index →
      (x.node i).log.entries.take (x.node i).fsm.index = (x.node j).log.entries.take (x.node i).fsm.index ∧
      (x.node i).fsm.applied <+: (x.node j).fsm.applied) ∧
    (∀ i j, (x.node i).fsm.applied <+: (x.node j).fsm.applied ∨
      (x.node j).fsm.applied <+: (x.node i).fsm.applied) :=
  state_machine_safety_of_inv x (inv_reachable hV h).1

/-- `snapshot_is_committed_prefix_partial` from the invariant -/
theorem snapshot_is_committed_prefix_of_inv (x : Snap.Sys) (hS : SInv V x) :
    ∀ i f, ((i, f) ∈ x.snaps ∨ f ∈ (x.node i).snapsDisk) →
      1 ≤ f.index ∧ f.index ≤ (x.node i).snapIndex ∧ (x.node i).snapIndex ≤ (x.node i).commitIndex ∧
      (∀ k, 1 ≤ k → k ≤ f.index → Committed x.cs (k, termAt (x.node i).log.entries k)) ∧
      f.data = ups ((x.node i).log.entries.take f.index) ∧
      ∀ j, f.index ≤ (x.node j).commitIndex → f.data = ups ((x.node j).log.entries.take f.index) := by
  have hI := hS.cinv
  intro i f hf
  have so := hS.snap i
  have hsc : (x.node i).snapIndex ≤ (x.node i).commitIndex := by rw [so.head]; exact so.files.head_le
  have key : 1 ≤ f.index ∧ f.index ≤ (x.node i).snapIndex ∧
      f.data = ups ((x.node i).log.entries.take f.index) := by
    rcases hf with hf | hf
    · exact hS.ledger (i, f) hf
    · obtain ⟨a, _, c⟩ := so.files.files f hf
      exact ⟨a, by rw [so.head]; exact so.files.le_head f hf, c⟩
  obtain ⟨k1, k2, k3⟩ := key
  refine ⟨k1, k2, hsc, fun k hk hkf => ?_, k3, fun j hj => ?_⟩
  · obtain ⟨_, m, hm, _, m2⟩ := covered_committed (x := eview x.cs) hI (j := i) hk
      (Nat.le_trans hkf (Nat.le_trans k2 hsc))
    exact ⟨m, hm, m2⟩
  · have e := agree_take hI (i := i) (j := j) (F := f.index) (Nat.le_trans k2 hsc) hj
    have e' : (x.node i).log.entries.take f.index = (x.node j).log.entries.take f.index := e
    rw [k3, e']

/-- **C09 — a snapshot is a committed prefix (partial, stage 1).** In every reachable state of `Raft.Snap`, for every
snapshot file `f` that node `i` ever had on disk (the ghost ledger `snaps`: files written by `snapRun`, files found by
a restart), and for every file on its disk now:
1. `f.index ≥ 1` is not above node `i`'s snapshot index, hence not above its commit index: **a snapshot never contains
   an uncommitted update** — every index `k ≤ f.index` of `i`'s log holds a committed entry;
2. `f.data` is the list of update payloads of the entries `1 … f.index` of node `i`'s log — **the snapshot is the
   replay of the log up to its index**;
3. and it is the replay of the log of EVERY node `j` whose commit index covers `f.index` (the committed prefix is
   the same everywhere), in particular of every leader of a term not below `i`'s. -/
theorem snapshot_is_committed_prefix_partial (hV : V.Nodup) (x : Snap.Sys) (h : ReachableS V x) :
    ∀ i f, ((i, f) ∈ x.snaps ∨ f ∈ (x.node i).snapsDisk) →
      1 ≤ f.index ∧ f.index ≤ (x.node i).snapIndex ∧ (x.node i).snapIndex ≤ (x.node i).commitIndex ∧
      (∀ k, 1 ≤ k → k ≤ f.index → Committed x.cs (k, termAt (x.node i).log.entries k)) ∧
      f.data = ups ((x.node i).log.entries.take f.index) ∧
      ∀ j, f.index ≤ (x.node j).commitIndex → f.data = ups ((x.node j).log.entries.take f.index) :=
  snapshot_is_committed_prefix_of_inv x (inv_reachable hV h).1

/-- **C09 — restarting from a snapshot plus the log (partial, stage 1).** When a node of a reachable state dies at any
storage point of any enabled operation and restarts from what is on disk — log, term, vote and snapshot files — then,
provided the restarted state satisfies the side condition of the stage (its log was not reset, …: `SideS`), the
restarted node's state machine holds exactly the replay of its log up to its applied index, which lies between its
snapshot index and its commit index; every file it found on disk is the replay of its log up to the file's index, and
that index is not above the commit index. -/
theorem restart_from_snapshot_partial (hV : V.Nodup) (x y : Snap.Sys) (h : ReachableS V x)
    (i : Nat) (op : Op) (ra : List Nat) (ord : List (List Nat)) (src k retain : Nat) (sor : Bool) (n : Node)
    (en : Snap.Enabled x.cs i op src) (hret : 1 ≤ retain)
    (hlog : op = .snapTaken → ((x.node i).step op ra ord).log = (x.node i).log)
    (hn : Node.restart (C05.crashDisk (x.node i) op ra ord k) retain sor = some n)
    (hy : y = { cs := crashC x.cs i op n, snaps := newSnaps i (x.node i).snapsDisk n.snapsDisk ++ x.snaps })
    (hs : SideS V y) :
    n.fsm.applied = ups (n.log.entries.take n.fsm.index) ∧ n.fsm.index ≤ n.commitIndex ∧
    n.snapIndex ≤ n.fsm.index ∧
    ∀ f ∈ n.snapsDisk, f.index ≤ n.commitIndex ∧ f.data = ups (n.log.entries.take f.index) := by
  have hry : ReachableS V y := by
    subst hy
    exact .next x _ h (.crash i op ra ord src k retain sor n en hret hlog hn) hs
  obtain ⟨hS, _⟩ := inv_reachable hV hry
  have hni : y.node i = n := by subst hy; exact crashC_node_i x.cs i op n
  have fb := hS.fsm i
  have so := hS.snap i
  rw [hni] at so
  have fa : (y.node i).fsm.applied = ups ((y.node i).log.entries.take (y.node i).fsm.index) := fb.fsm.applied
  have fl : (y.node i).fsm.index ≤ (y.node i).commitIndex := fb.fsm.le
  rw [hni] at fa fl
  exact ⟨fa, fl, so.le, fun f hf => ⟨(so.files.files f hf).2.1, (so.files.files f hf).2.2⟩⟩

end

/-! ### Examples (non-vacuity): three voters, every node bootstrapped with the same configuration entry (1,1)
(the example states of C02Sys / C04Sys).  A reachable state in which a snapshot was requested and the snapshot
goroutine ran is PROVED reachable; the scenario in which a snapshot is actually written, the leader keeps
replicating, and the leader dies and restarts from the snapshot is EVALUATED (`#guard` — tests, not proofs;
Props/AuditSnap.lean PROVES a run with real snapshots and a restart from one, by one kernel evaluation). -/

/-- example initial state: `C02Sys.ex0` with an empty snapshot ledger -/
def exS0 : Snap.Sys := { cs := C02Sys.ex0, snaps := [] }

/-- node 2 is asked for a snapshot (`TakeSnapshot(threshold = 0)`), the snapshot goroutine runs (and refuses: nothing
was applied since the last snapshot), the result is handed back -/
def exS1 : Snap.Sys :=
  { cs := stepC exS0.cs 2 (.takeSnapshot 7 0) [] [] 0
    snaps := newSnaps 2 (exS0.node 2).snapsDisk ((exS0.node 2).step (.takeSnapshot 7 0) [] []).snapsDisk ++ exS0.snaps }
def exS2 : Snap.Sys :=
  { cs := stepC exS1.cs 2 .snapRun [] [] 0
    snaps := newSnaps 2 (exS1.node 2).snapsDisk ((exS1.node 2).step .snapRun [] []).snapsDisk ++ exS1.snaps }

theorem exS0_init : Snap.Init exS0 ∧ SideS [1, 2, 3] exS0 := by
  refine ⟨⟨C02Sys.ex0_init.1, fun i => Nat.le_refl _, rfl⟩, C02Sys.ex0_init.2, fun i => rfl, fun i e he ht => ?_⟩
  have : e = C04Sys.exE := List.mem_singleton.mp he
  subst this; rfl

theorem exEnabled (x : Commit.Sys) (op : Op) (h1 : OpOKS op) (h2 : ∀ q, op ≠ .vote q) (h3 : ∀ q, op ≠ .append q)
    (h4 : ∀ b, op ≠ .newEntries b) (h5 : ∀ t c, op ≠ .changeConfig t c) (h6 : ∀ a b c, op ≠ .voteResult a b c)
    (h7 : ∀ us, op ≠ .replUpdates us) : Snap.Enabled x 2 op 0 :=
  ⟨by decide, fun q h => absurd h (h2 q), fun ⟨_, _, _, h⟩ => absurd h (h6 _ _ _), ⟨h1, fun b h => absurd h (h4 b), h5⟩,
    fun q h => absurd h (h3 q), fun q h => absurd h (h2 q), fun q h => absurd h (h3 q), fun us h => absurd h (h7 us)⟩

theorem exSide (x : Commit.Sys) (n : Node) (hn : n.configs = (C04Sys.exNode 2).configs) (hl : n.log = (C04Sys.exNode 2).log)
    (hx : x.rp.el.node = setNode C04Sys.exNode 2 n) (s : List (Nat × SnapFile)) :
    SideS [1, 2, 3] { cs := x, snaps := s } := by
  have hnode : ∀ i, x.node i = setNode C04Sys.exNode 2 n i := fun i => by
    show x.rp.el.node i = _; rw [hx]
  refine ⟨⟨fun i => ?_, fun i => ?_⟩, fun i => ?_, fun i e he ht => ?_⟩
  all_goals (
    have hi := hnode i
    by_cases h : i = 2
    · subst h
      rw [setNode_same] at hi
      first
        | (show (x.node 2).configs.isBootstrapped = true ∧ (x.node 2).configs.latest.voters = _
           rw [hi, hn]; exact ⟨rfl, rfl⟩)
        | (show (x.node 2).configs.latest.isStable = true
           rw [hi, hn]; decide)
        | (show (x.node 2).log.prev = 0
           rw [hi, hl]; rfl)
        | (have he' : e ∈ (x.node 2).log.entries := he
           rw [hi, hl] at he'
           have : e = C04Sys.exE := List.mem_singleton.mp he'
           subst this; rfl)
    · rw [setNode_other _ _ _ _ h] at hi
      first
        | (show (x.node i).configs.isBootstrapped = true ∧ (x.node i).configs.latest.voters = _
           rw [hi]; exact ⟨rfl, rfl⟩)
        | (show (x.node i).configs.latest.isStable = true
           rw [hi]; rfl)
        | (show (x.node i).log.prev = 0
           rw [hi]; rfl)
        | (have he' : e ∈ (x.node i).log.entries := he
           rw [hi] at he'
           have : e = C04Sys.exE := List.mem_singleton.mp he'
           subst this; rfl))

set_option maxRecDepth 100000 in
/-- example: `exS2` is reachable in `Raft.Snap` — the hypotheses of the theorems of this file hold for a state in
which the snapshot operations have been used: node 2 has a finished (refused) snapshot waiting to be handed over -/
example : [1, 2, 3].Nodup ∧ ReachableS [1, 2, 3] exS2 ∧
    (exS2.node 2).snapResult = some { task := 7, err := "plain:noUpdates" } := by
  have t1 : Snap.Trans exS0 exS1 :=
    .step 2 (.takeSnapshot 7 0) [] [] 0
      (exEnabled _ _ trivial (fun _ h => by cases h) (fun _ h => by cases h) (fun _ h => by cases h)
        (fun _ _ h => by cases h) (fun _ _ _ h => by cases h) (fun _ h => by cases h))
      (by decide) (fun h => by cases h)
  have s1 : SideS [1, 2, 3] exS1 :=
    exSide _ ((C04Sys.exNode 2).step (.takeSnapshot 7 0) [] []) (by decide) (by decide) rfl _
  have t2 : Snap.Trans exS1 exS2 :=
    .step 2 .snapRun [] [] 0
      (exEnabled _ _ trivial (fun _ h => by cases h) (fun _ h => by cases h) (fun _ h => by cases h)
        (fun _ _ h => by cases h) (fun _ _ _ h => by cases h) (fun _ h => by cases h))
      (by decide) (fun h => by cases h)
  have s2 : SideS [1, 2, 3] exS2 :=
    exSide _ (((C04Sys.exNode 2).step (.takeSnapshot 7 0) [] []).step .snapRun [] []) (by decide) (by decide)
      (by
        show setNode (setNode C04Sys.exNode 2 _) 2 _ = _
        exact setNode_setNode _ _ _ _) _
  exact ⟨by decide, .next _ _ (.next _ _ (.init _ exS0_init.1 exS0_init.2) t1 s1) t2 s2, by decide⟩

/-! #### an evaluated scenario with a real snapshot (continues `C02Sys.ex7`: node 1 leads term 2, index 2 committed
and applied on node 1) -/

/-- node 1 is asked for a snapshot, the goroutine writes the file `(index 2, term 2, [])`, the result is handed
over (no compaction: one segment) -/
def exT1 : Commit.Sys := stepC C02Sys.ex7 1 (.takeSnapshot 9 0) [] [] 0
def exT2 : Commit.Sys := stepC exT1 1 .snapRun [] [] 0
def exT3 : Commit.Sys := stepC exT2 1 .snapTaken [] [] 0
/-- node 1 dies (between two steps) and restarts from its disk: log + snapshot file -/
def exT4n : Option Node := Node.restart (C05.crashDisk (exT3.node 1) .timeout [] [] 0) 1 true

#guard (exT2.node 1).snapIndex == 2 && (exT2.node 1).snapTerm == 2 &&
  (exT2.node 1).snapsDisk.map (fun f => (f.index, f.term, f.data)) == [(2, 2, [])] &&
  (exT2.node 1).panicked.isNone
#guard (exT3.node 1).log.prev == 0 && (exT3.node 1).log == (exT2.node 1).log && (exT3.node 1).panicked.isNone &&
  (exT3.node 1).snapResult.isNone
#guard (exT4n.map (fun n => (n.snapIndex, n.commitIndex, n.fsm.index, n.fsm.applied, n.log.prev, n.log.entries.length,
    n.role == .follower, n.panicked.isNone))) == some (2, 2, 2, [], 0, 2, true, true)
-- node 2 (snapshot index 0) and the restarted node 1 (snapshot index 2) hold the same entries: log matching
#guard (exT4n.map (fun n => n.log.entries)) == some (exT3.node 2).log.entries

end C09Sys
end Raft

#print axioms Raft.C09Sys.log_matching_sys_snap_partial -- also C04
#print axioms Raft.C09Sys.leader_completeness_sys_snap_partial -- also C02
#print axioms Raft.C09Sys.state_machine_safety_sys_snap_partial -- also C03
#print axioms Raft.C09Sys.snapshot_is_committed_prefix_partial -- also C12
#print axioms Raft.C09Sys.restart_from_snapshot_partial
