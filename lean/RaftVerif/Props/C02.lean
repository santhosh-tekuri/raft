/-
C02 — Committed entries are never lost, overwritten or replaced (node-local rules).

For ALL states and inputs of the executable node model (Model/Handlers.lean): every leader-side handler only appends to or
flushes the log (`leader_never_truncates_*`: `C04.Extends s (f s)`); a follower's log changes only by conflict truncations
above its snapshot index and by appends of request entries (`follower_log_changes`, `follower_no_conflict_only_appends`), so
a request that agrees with the log on every index ≤ c leaves those indexes alone (`committed_prefix_preserved`,
`truncation_above_commit_requires_conflict_above_commit`); the commit index moves only under the own-term majority rule on
a leader (`leader_commit_rule_*`) and under `canCommit` on a follower (`follower_commit_rule_*`).

NOT proved here (cluster-level; evaluated on explored executions by clustersim/nodediff with the
`CommittedStable` ledger): leader completeness, i.e. that every later leader holds every committed
entry, and stability of committed entries across elections, crashes, snapshots and membership changes.
-/
import RaftVerif.Lemmas.LeaderCommit
import RaftVerif.Lemmas.ShapeAppend
import RaftVerif.Props.C04
import RaftVerif.Props.C19

namespace Raft
namespace C02
open Node

theorem ext_refl (s : Node) : C04.Extends s s := ⟨rfl, List.prefix_refl _⟩

theorem ext_trans {a b c : Node} (h1 : C04.Extends a b) (h2 : C04.Extends b c) : C04.Extends a c :=
  ⟨h2.1.trans h1.1, List.IsPrefix.trans h1.2 h2.2⟩

/-- `Raft.setCommitIndex` does not touch the log (no guard needed) -/
theorem setCommitIndexR_log (s : Node) (i : Nat) : (s.setCommitIndexR i).1.log = s.log := by
  rw [Node.setCommitIndexR_shape]

theorem leader_never_truncates_storeEntry (fuel : Nat) (s : Node) (batch : List QItem) :
    C04.Extends s (storeEntry fuel s batch) := C04.leader_log_append_only fuel s batch

theorem leader_never_truncates_storeItems (fuel : Nat) (s : Node) (batch : List QItem) :
    C04.Extends s (storeItems fuel s batch) := (C04.leader_closed s).storeItems_inv fuel s batch (ext_refl s)

theorem leader_never_truncates_changeConfigL (fuel : Nat) (s : Node) (c : Config) :
    C04.Extends s (changeConfigL fuel s c) := (C04.leader_closed s).changeConfigL_inv fuel s c (ext_refl s)

theorem leader_never_truncates_doChangeConfig (fuel : Nat) (s : Node) (t : Nat) (c : Config) :
    C04.Extends s (doChangeConfig fuel s t c) := (C04.leader_closed s).doChangeConfig_inv fuel s t c (ext_refl s)

theorem leader_never_truncates_checkConfigActions (fuel : Nat) (s : Node) (t : Nat) (c : Config) :
    C04.Extends s (checkConfigActions fuel s t c) := C04.leader_actions_append_only fuel s t c

theorem leader_never_truncates_checkConfigAction (fuel : Nat) (s : Node) (t : Nat) (c : Config) (id : Nat) :
    C04.Extends s (checkConfigAction fuel s t c id) :=
  (C04.leader_closed s).checkConfigAction_inv fuel s t c id (ext_refl s)

theorem leader_never_truncates_onMajorityCommit (fuel : Nat) (s : Node) :
    C04.Extends s (onMajorityCommit fuel s) := C04.leader_commit_append_only fuel s

/-- `leader.setCommitIndex`, for EVERY index (the framework lemma assumes `i > commitIndex`; the log
does not care). -/
theorem leader_never_truncates_setCommitIndexL (fuel : Nat) (s : Node) (i : Nat) :
    C04.Extends s (setCommitIndexL fuel s i) := by
  have hc := C04.leader_closed s
  cases fuel with
  | zero => unfold setCommitIndexL; exact hc.panic _ _ (ext_refl s)
  | succ n =>
    exact hc.setCommitIndexL_tail n s i (C04.ext_congr (hc.commitLog_inv _ _ (ext_refl s)) (setCommitIndexR_log _ i))

theorem leader_never_truncates_onChangeConfig (s : Node) (t : Nat) (c : Config) :
    C04.Extends s (s.onChangeConfig t c) := (C04.leader_closed s).onChangeConfig_inv s t c (ext_refl s)

theorem leader_never_truncates_onTransfer (s : Node) (t g : Nat) :
    C04.Extends s (s.onTransfer t g) := (C04.leader_closed s).onTransfer_inv s t g (ext_refl s)

theorem leader_never_truncates_replyTransfer (s : Node) (r : String) :
    C04.Extends s (s.replyTransfer r) := (C04.leader_closed s).replyTransfer_inv s r (ext_refl s)

theorem leader_never_truncates_onTimeoutNowResult (s : Node) (src : Nat) (e : Bool) (r : Nat) :
    C04.Extends s (s.onTimeoutNowResult src e r) :=
  (C04.leader_closed s).onTimeoutNowResult_inv s src e r (ext_refl s)

theorem leader_never_truncates_onWaitForStable (s : Node) (t : Nat) :
    C04.Extends s (s.onWaitForStable t) := (C04.leader_closed s).onWaitForStable_inv s t (ext_refl s)

theorem leader_never_truncates_tryTransfer (s : Node) :
    C04.Extends s s.tryTransfer := (C04.leader_closed s).tryTransfer_inv s (ext_refl s)

theorem leader_never_truncates_leaderInit (s : Node) :
    C04.Extends s s.leaderInit := (C04.leader_closed s).leaderInit_inv s (ext_refl s)

/-- **a leader never truncates**: every operation the `stateLoop` hands to the leader handlers that can
write the log — new entries, membership change, wait-for-stable, leadership transfer and its timers /
results — leaves the old log as a prefix of the new one. (`replUpdates`, `timeout` (checkQuorum),
`snapTaken` never append; they may compact the START of the log below every follower's match index, which
is C09's subject, or step down.) -/
theorem leader_never_truncates (s : Node) (op : Op) (hrole : s.role = .leader)
    (hop : match op with
      | .newEntries _ | .changeConfig _ _ | .waitStable _ | .transfer _ _ | .transferTimeout
      | .timeoutNowResult _ _ _ | .newTermTimeout => True
      | _ => False) :
    C04.Extends s (s.handle op) := by
  have hc := C04.leader_closed s
  cases op <;> simp only at hop <;> unfold Node.handle <;> dsimp only
  case newEntries b => rw [if_pos hrole]; exact leader_never_truncates_storeEntry _ _ _
  case changeConfig t c => rw [if_pos hrole]; exact leader_never_truncates_onChangeConfig _ _ _
  case waitStable t => rw [if_pos hrole]; exact leader_never_truncates_onWaitForStable _ _
  case transfer t g => rw [if_pos hrole]; exact leader_never_truncates_onTransfer _ _ _
  case transferTimeout => split; exact leader_never_truncates_replyTransfer _ _; exact ext_refl s
  case timeoutNowResult a b c => split; exact leader_never_truncates_onTimeoutNowResult _ _ _ _; exact ext_refl s
  case newTermTimeout => split; exact hc.tryTransfer_inv _ (hc.ldr _ _ (ext_refl s)); exact ext_refl s

/-- no entry of the request conflicts with an entry the node holds above its snapshot -/
def NoConflict (s : Node) (es : List Entry) : Prop :=
  ∀ ne ∈ es, s.snapIndex < ne.index → ne.index ≤ s.lastLogIndex → s.entryTerm? ne.index = some ne.term

/-- **no conflict ⇒ only appends**: if every entry of the request (indexes increasing) that the follower
already holds above its snapshot has the term the follower has at that index, processing the request
removes nothing from the follower's log. -/
theorem follower_no_conflict_only_appends (st : AppLoop) (es : List Entry)
    (hs : es.Pairwise (fun a b => a.index < b.index)) (hnc : NoConflict st.s es) :
    C04.Extends st.s (appendLoop st es).s := by
  refine appendLoop_rec (M := fun st es r => es.Pairwise (fun a b => a.index < b.index) → NoConflict st.s es →
      C04.Extends st.s r.s)
    (fun _ _ _ _ _ => ext_refl _)
    (fun _ _ _ _ _ _ ih hs hnc => ih (List.pairwise_cons.mp hs).2 fun e he => hnc e (List.mem_cons_of_mem _ he))
    (fun st ne rest y r _ hn hy ih hs hnc => ?_) (fun st ne rest _ hn _ _ _ hnc => ?_) st es hs hnc
  all_goals
    -- an entry that is not held and does not conflict lies beyond the log: nothing is truncated
    have hgt : ¬ ne.index ≤ st.s.lastLogIndex := fun hle =>
      hn (Or.inr ⟨hle, hnc ne (List.mem_cons_self ..) (Nat.lt_of_not_le fun h => hn (Or.inl h)) hle⟩)
    have hst : stored st ne = st.s.appendEntry ne := by unfold stored; rw [C04.no_truncation_beyond_log _ _ _ hgt]
    have h1 : C04.Extends st.s (stored st ne) := hst ▸ (C04.leader_closed st.s).appendEntry_inv _ _ (ext_refl _)
  · refine ext_trans (C04.ext_congr h1 hy.fields.1) (ih (List.pairwise_cons.mp hs).2 fun e he _ hle => ?_)
    -- beyond the appended entry nothing of the rest of the request is held yet
    have := (List.pairwise_cons.mp hs).1 e he
    have hl : y.lastLogIndex = ne.index := hy.fields.2.1
    change e.index ≤ y.lastLogIndex at hle
    omega
  · exact h1

/-- How a follower's log can change while it processes the entries `es` of one append request
(`snap` = its snapshot index): only by truncating at an index above the snapshot where it holds an entry
whose term differs from the term of the request's entry with that index, and by appending an entry of the
request. -/
inductive LogReach (snap : Nat) (es : List Entry) : NLog → NLog → Prop
  | refl (l : NLog) : LogReach snap es l l
  | truncate (l l' : NLog) (ne : Entry) (t : Nat) : ne ∈ es → snap < ne.index →
      (l.get? ne.index).map (·.term) = some t → t ≠ ne.term →
      LogReach snap es (l.removeGTE ne.index) l' → LogReach snap es l l'
  | append (l l' : NLog) (e : Entry) (roll : Bool) : e ∈ es →
      LogReach snap es (l.append e roll) l' → LogReach snap es l l'

theorem LogReach.mono {snap : Nat} {es es' : List Entry} (hsub : ∀ e ∈ es, e ∈ es') {l l' : NLog}
    (h : LogReach snap es l l') : LogReach snap es' l l' := by
  induction h with
  | refl l => exact .refl l
  | truncate l l' ne t hm hsn hg ht _ ih => exact .truncate l l' ne t (hsub _ hm) hsn hg ht ih
  | append l l' e roll hm _ ih => exact .append l l' e roll (hsub _ hm) ih

/-- **a follower truncates only on conflict** (general form): whatever the request, the log after
`appendLoop` is reached from the log before by conflict truncations above the snapshot index and appends
of request entries — there is no other way the log changes. -/
theorem follower_log_changes (st : AppLoop) (es : List Entry) :
    LogReach st.s.snapIndex es st.s.log (appendLoop st es).s.log := by
  -- storing `ne` is a conflict truncation (if any) and an append
  have one : ∀ (st : AppLoop) (ne : Entry) (rest : List Entry), ¬ Held st.s ne → ∀ l',
      LogReach st.s.snapIndex (ne :: rest) (stored st ne).log l' →
      LogReach st.s.snapIndex (ne :: rest) st.s.log l' := by
    intro st ne rest hn l' hl'
    obtain ⟨roll, e | ⟨t, _, ht, hne, e⟩⟩ := stored_log st ne hn <;> rw [e] at hl'
    · exact .append _ _ ne roll (List.mem_cons_self ..) hl'
    · exact .truncate _ _ ne t (List.mem_cons_self ..) (Nat.lt_of_not_le fun h => hn (Or.inl h)) ht hne
        (.append _ _ ne roll (List.mem_cons_self ..) hl')
  refine appendLoop_rec (M := fun st es r => LogReach st.s.snapIndex es st.s.log r.s.log)
    (fun _ _ _ => .refl _) (fun _ _ _ _ _ _ ih => ih.mono fun e he => List.mem_cons_of_mem _ he)
    (fun st ne rest y r _ hn hy ih => one st ne rest hn _ ?_) (fun st ne rest _ hn _ _ => one st ne rest hn _ (.refl _)) st es
  have ih' : LogReach y.snapIndex rest y.log r.s.log := ih
  rw [hy.fields.1, hy.fields.2.2.1] at ih'
  exact ih'.mono fun e he => List.mem_cons_of_mem _ he

/-- `removeGTE j` keeps every entry below `j` -/
theorem get?_removeGTE (l : NLog) (j i : Nat) (h : i < j) : (l.removeGTE j).get? i = l.get? i :=
  NLog.get?_removeGTE l j i h

/-- `append` keeps every entry the log holds -/
theorem get?_append (l : NLog) (e : Entry) (roll : Bool) (i : Nat) (h : i ≤ l.last) :
    (l.append e roll).get? i = l.get? i := NLog.get?_append l e roll i h

theorem last_removeGTE (l : NLog) (j c : Nat) (hc : c ≤ l.last) (hj : c < j) : c ≤ (l.removeGTE j).last :=
  NLog.le_last_removeGTE l j c hc hj

theorem last_append (l : NLog) (e : Entry) (roll : Bool) : (l.append e roll).last = l.last + 1 :=
  NLog.last_append l e roll

/-- the request agrees with the log `l` on every index ≤ c above the snapshot: an entry of the request
with such an index has the term `l` holds there -/
def AgreeUpTo (c snap : Nat) (l : NLog) (es : List Entry) : Prop :=
  ∀ ne ∈ es, ne.index ≤ c → snap < ne.index → (l.get? ne.index).map (·.term) = some ne.term

/-- a sequence of conflict truncations and appends driven by a request that agrees with the log up to `c`
never touches an index ≤ c -/
theorem LogReach.keeps_agreed {snap c : Nat} {es : List Entry} {l l' : NLog} (h : LogReach snap es l l')
    (hc : c ≤ l.last) (hag : AgreeUpTo c snap l es) :
    c ≤ l'.last ∧ ∀ i, i ≤ c → l'.get? i = l.get? i := by
  induction h with
  | refl l => exact ⟨hc, fun _ _ => rfl⟩
  | truncate l l' ne t hm hsn hg ht _ ih =>
    have hgt : c < ne.index := by
      apply Nat.lt_of_not_le
      intro hle
      have := hag ne hm hle hsn
      rw [hg] at this
      injection this with this
      exact ht this
    have hag' : AgreeUpTo c snap (l.removeGTE ne.index) es := by
      intro e he h1 h2
      rw [get?_removeGTE _ _ _ (by omega)]
      exact hag e he h1 h2
    obtain ⟨i1, i2⟩ := ih (last_removeGTE l _ c hc hgt) hag'
    exact ⟨i1, fun i hi => by rw [i2 i hi, get?_removeGTE _ _ _ (by omega)]⟩
  | append l l' e roll hm _ ih =>
    have hag' : AgreeUpTo c snap (l.append e roll) es := by
      intro e' he h1 h2
      rw [get?_append _ _ _ _ (by omega)]
      exact hag e' he h1 h2
    obtain ⟨i1, i2⟩ := ih (by rw [last_append]; omega) hag'
    exact ⟨i1, fun i hi => by rw [i2 i hi, get?_append _ _ _ _ (by omega)]⟩

/-- **committed entries are never removed by a consistent request**: if the log holds everything up to
`c` and the request agrees with it on every index ≤ c (for `c` = the commit index this is what Log
Matching + Leader Completeness give for a request from a legitimate leader), then after the request every
index ≤ c holds the same entry as before. -/
theorem committed_prefix_preserved (st : AppLoop) (es : List Entry) (c : Nat) (hc : c ≤ st.s.log.last)
    (hag : AgreeUpTo c st.s.snapIndex st.s.log es) :
    c ≤ (appendLoop st es).s.log.last ∧ ∀ i, i ≤ c → (appendLoop st es).s.log.get? i = st.s.log.get? i :=
  (follower_log_changes st es).keeps_agreed hc hag

/-- the commit index itself is not touched by the entry loop -/
theorem appendLoop_commitIndex (st : AppLoop) (es : List Entry) :
    (appendLoop st es).s.commitIndex = st.s.commitIndex ∧ (appendLoop st es).s.snapIndex = st.s.snapIndex :=
  appendLoop_rec (M := fun st _ r => r.s.commitIndex = st.s.commitIndex ∧ r.s.snapIndex = st.s.snapIndex)
    (fun _ _ _ => ⟨rfl, rfl⟩) (fun _ _ _ _ _ _ ih => ih)
    (fun _ _ _ _ _ _ _ hy ih => ⟨ih.1.trans hy.fields.2.2.2, ih.2.trans hy.fields.2.2.1⟩)
    (fun st ne _ _ _ _ _ => ⟨(stored_fields st ne).2.2, (stored_fields st ne).2.1⟩) st es

/-- **truncation above commit requires a conflict above commit** (single step): when the entry loop
reaches `resolveConflict` (the entry is not "present with the same term") and the request agrees with the
log at every index ≤ c, a truncation can only be at an index > c — and it is exactly `removeGTE ne.index`. -/
theorem truncation_above_commit_requires_conflict_above_commit (s : Node) (ne : Entry) (pt c : Nat)
    (hnp : ¬ (ne.index ≤ s.lastLogIndex ∧ s.entryTerm? ne.index = some ne.term))
    (hag : ne.index ≤ c → s.entryTerm? ne.index = some ne.term)
    (hchg : (s.resolveConflict ne pt).log ≠ s.log) :
    c < ne.index ∧ ne.index ≤ s.lastLogIndex ∧ (∃ t, s.entryTerm? ne.index = some t ∧ t ≠ ne.term) ∧
    (s.resolveConflict ne pt).log = s.log.removeGTE ne.index := by
  obtain ⟨_, hr⟩ := resolveConflict_log s ne pt
  rcases hr with ⟨e1, _⟩ | ⟨t, hle, ht, e1⟩
  · exact absurd e1 hchg
  · refine ⟨?_, hle, ⟨t, ht, ?_⟩, e1⟩
    · apply Nat.lt_of_not_le
      intro h; exact hnp ⟨hle, hag h⟩
    · intro he; apply hnp; rw [he] at ht; exact ⟨hle, ht⟩

/-- non-vacuity: a follower holding (1,t1) (2,t1), commit index 1, receiving a conflicting entry (2,t2)
truncates at 2 > 1 and keeps entry 1. -/
example :
    let s : Node := { log := { entries := [{ index := 1, term := 1 }, { index := 2, term := 1 }] },
                      lastLogIndex := 2, lastLogTerm := 1, commitIndex := 1 }
    let st := appendLoop { s := s, index := 1, term := 1 } [{ index := 2, term := 2 }]
    st.s.log.entries = [{ index := 1, term := 1 }, { index := 2, term := 2 }] := by
  decide

/-- `leader.setCommitIndex(i)` (with recursion budget left) leaves the commit index at `i` or beyond
(beyond: a single-voter leader may append and commit a configuration entry in the same call). -/
theorem setCommitIndexL_reaches (fuel : Nat) (s : Node) (i : Nat) :
    i ≤ (setCommitIndexL (fuel + 1) s i).commitIndex :=
  (C19.closed (s.withCommitIndex i)).toClosed.setCommitIndexL_tail fuel s i
    (show i ≤ ((s.commitLog i).setCommitIndexR i).1.commitIndex by
      rw [C19.setCommitIndexR_commitIndex]; exact Nat.le_refl _)

/-- **leader commit rule, part 1**: `onMajorityCommit` does nothing (but record a nil dereference, which
`C15` excludes) unless the majority match index is above the commit index AND at or beyond `startIndex`,
the index of the first entry of the leader's own term. -/
theorem leader_commit_rule_guard (fuel : Nat) (s : Node)
    (h : ¬ (s.majorityMatchIndex.1 > s.commitIndex ∧ s.majorityMatchIndex.1 ≥ s.ldr.startIndex)) :
    onMajorityCommit (fuel + 1) s = (if s.majorityMatchIndex.2 then s else s.panic "nil.majorityMatchIndex") := by
  rw [onMajorityCommit_succ, if_neg h]

/-- …in particular the commit index, the log and the FSM do not move (for every recursion budget). -/
theorem leader_commit_rule_unchanged (fuel : Nat) (s : Node)
    (h : ¬ (s.majorityMatchIndex.1 > s.commitIndex ∧ s.majorityMatchIndex.1 ≥ s.ldr.startIndex)) :
    (onMajorityCommit fuel s).commitIndex = s.commitIndex ∧ (onMajorityCommit fuel s).log = s.log ∧
    (onMajorityCommit fuel s).fsm = s.fsm := by
  cases fuel with
  | zero =>
    unfold onMajorityCommit
    exact ⟨(panic_fields _ _).2.2.2.1, (panic_fields _ _).1, (panic_fields _ _).2.2.2.2.1⟩
  | succ n =>
    rw [leader_commit_rule_guard n s h]
    split
    · exact ⟨rfl, rfl, rfl⟩
    · exact ⟨(panic_fields _ _).2.2.2.1, (panic_fields _ _).1, (panic_fields _ _).2.2.2.2.1⟩

/-- **leader commit rule, part 2**: when it does move the commit index, the new value is at least the
majority match index (which is > the old commit index and ≥ startIndex). -/
theorem leader_commit_rule_advances (fuel : Nat) (s : Node)
    (h : s.majorityMatchIndex.1 > s.commitIndex ∧ s.majorityMatchIndex.1 ≥ s.ldr.startIndex) :
    s.majorityMatchIndex.1 ≤ (onMajorityCommit (fuel + 2) s).commitIndex ∧
    s.commitIndex < (onMajorityCommit (fuel + 2) s).commitIndex ∧
    s.ldr.startIndex ≤ (onMajorityCommit (fuel + 2) s).commitIndex := by
  have hc := (C19.closed (s.withCommitIndex s.majorityMatchIndex.1)).toClosed
  suffices hh : s.majorityMatchIndex.1 ≤ (onMajorityCommit (fuel + 2) s).commitIndex by
    exact ⟨hh, by omega, by omega⟩
  rw [onMajorityCommit_succ, if_pos h]
  exact hc.notifyFlr_inv _ (hc.applyCommittedL_inv _ (setCommitIndexL_reaches fuel _ _))

/-- the contrapositive reading: the commit index moved ⇒ the own-term majority rule held -/
theorem leader_commit_rule (fuel : Nat) (s : Node)
    (h : (onMajorityCommit fuel s).commitIndex ≠ s.commitIndex) :
    s.majorityMatchIndex.1 > s.commitIndex ∧ s.majorityMatchIndex.1 ≥ s.ldr.startIndex := by
  apply Classical.byContradiction
  intro hn
  exact h (leader_commit_rule_unchanged fuel s hn).1

/-- non-vacuity of the guard: a single-voter leader whose last index 3 is of an OLD term (startIndex = 5)
does not commit it; once its own entry 5 is there it commits. -/
example :
    let s : Node := { nid := 1, role := .leader, lastLogIndex := 3, ldr := { numVoters := 1, startIndex := 5, node := { id := 1, voter := true } } }
    s.majorityMatchIndex = (3, true) ∧ (onMajorityCommit 3 s).commitIndex = 0 := by
  intro s
  exact ⟨by decide, (leader_commit_rule_unchanged 3 s (by decide)).1⟩

/-- `canCommit` (restated from C19): index ≤ leader commit, term = request term, index above commit index -/
theorem follower_commit_guard (s : Node) (q : AppendReq) (index term : Nat) (h : s.canCommit q index term = true) :
    q.ldrCommitIndex ≥ index ∧ term = q.term ∧ index > s.commitIndex := C19.follower_commit_guard s q index term h

theorem ret_commitIndex (x : Node) (r : Nat) : (x.ret r).commitIndex = x.commitIndex := rfl

/-- `appendCheck` moves the commit index only under `canCommit` for the previous-entry coordinates, which it
has just verified against its own log, and then exactly to `prevLogIndex`. -/
theorem follower_commit_rule_check (s : Node) (q : AppendReq) :
    (s.appendCheck q).commitIndex = s.commitIndex ∨
    (s.canCommit q q.prevLogIndex q.prevLogTerm = true ∧ (s.appendCheck q).commitIndex = q.prevLogIndex ∧
     s.snapIndex < q.prevLogIndex ∧ q.prevLogIndex ≤ s.lastLogIndex ∧
     q.prevLogTerm = (if q.prevLogIndex = s.lastLogIndex then s.lastLogTerm else (s.entryTerm? q.prevLogIndex).getD 0)) :=
  appendCheck_cases s q
    (P := fun y => y.commitIndex = s.commitIndex ∨
      (s.canCommit q q.prevLogIndex q.prevLogTerm = true ∧ y.commitIndex = q.prevLogIndex ∧
       s.snapIndex < q.prevLogIndex ∧ q.prevLogIndex ≤ s.lastLogIndex ∧
       q.prevLogTerm = (if q.prevLogIndex = s.lastLogIndex then s.lastLogTerm else (s.entryTerm? q.prevLogIndex).getD 0)))
    (fun x r hx _ => Or.inl (by rcases hx.eq with rfl | rfl; rfl; exact (panic_fields _ _).2.2.2.1))
    (fun x _ h1 h2 h3 hcc => Or.inr ⟨hcc, by
      rw [ret_commitIndex, fsmFrame_commitIndex.applyCommitted_eq, C19.setCommitIndexR_commitIndex], h1, h2, h3⟩)

/-- the coordinates the entry loop ends with are the request's previous-entry coordinates or those of one
of the request's entries -/
theorem appendLoop_coords (st : AppLoop) (es : List Entry) :
    ((appendLoop st es).index = st.index ∧ (appendLoop st es).term = st.term) ∨
    ∃ e ∈ es, (appendLoop st es).index = e.index ∧ (appendLoop st es).term = e.term := by
  -- after an entry `ne` was looked at, the coordinates are its own or those of a later entry
  have lift : ∀ {st' : AppLoop} {ne : Entry} {rest : List Entry} {r : AppLoop},
      st'.index = ne.index → st'.term = ne.term →
      ((r.index = st'.index ∧ r.term = st'.term) ∨ ∃ e ∈ rest, r.index = e.index ∧ r.term = e.term) →
      ∃ e ∈ ne :: rest, r.index = e.index ∧ r.term = e.term := by
    intro st' ne rest r h1 h2 ih
    rcases ih with ⟨a, b⟩ | ⟨e, he, a, b⟩
    · exact ⟨ne, List.mem_cons_self .., a.trans h1, b.trans h2⟩
    · exact ⟨e, List.mem_cons_of_mem _ he, a, b⟩
  exact appendLoop_rec
    (M := fun st es r => (r.index = st.index ∧ r.term = st.term) ∨ ∃ e ∈ es, r.index = e.index ∧ r.term = e.term)
    (fun _ _ _ => Or.inl ⟨rfl, rfl⟩) (fun _ _ _ _ _ _ ih => Or.inr (lift rfl rfl ih))
    (fun _ _ _ _ _ _ _ _ ih => Or.inr (lift rfl rfl ih))
    (fun _ ne _ _ _ _ _ => Or.inr ⟨ne, List.mem_cons_self .., rfl, rfl⟩) st es

theorem afterLoop_commitIndex (q : AppendReq) (st : AppLoop) :
    (afterLoop q st).commitIndex = st.s.commitIndex ∨
    ((st.s.commitLog st.s.lastLogIndex).canCommit q st.index st.term = true ∧ (afterLoop q st).commitIndex = st.index) := by
  unfold afterLoop
  show (if _ then _ else _ : Node).commitIndex = _ ∨ _ ∧ (if _ then _ else _ : Node).commitIndex = _
  refine ite_ind (P := fun y : Node => y.commitIndex = st.s.commitIndex ∨ _ ∧ y.commitIndex = st.index)
    (fun _ => ?_) fun _ => Or.inl rfl
  refine ite_ind (P := fun y : Node => y.commitIndex = st.s.commitIndex ∨ _ ∧ y.commitIndex = st.index)
    (fun hcc => Or.inr ⟨hcc, ?_⟩) fun _ => Or.inl rfl
  rw [fsmFrame_commitIndex.applyCommitted_eq, C19.setCommitIndexR_commitIndex]

/-- **follower commit rule**: an append request moves the follower's commit index only forward, never
beyond the leader's commit index, and only to the index of the previous entry it verified or of an entry of
the request it has just stored or found present — in both cases an index whose entry has the LEADER'S
CURRENT TERM (`canCommit`: "term == req.term"). A request of a lower term moves nothing. -/
theorem follower_commit_rule (s : Node) (q : AppendReq) :
    (s.onAppendEntries q).commitIndex = s.commitIndex ∨
    (s.commitIndex < (s.onAppendEntries q).commitIndex ∧ (s.onAppendEntries q).commitIndex ≤ q.ldrCommitIndex ∧
     s.term ≤ q.term ∧
     (((s.onAppendEntries q).commitIndex = q.prevLogIndex ∧ q.prevLogTerm = q.term) ∨
      ∃ e ∈ q.entries, e.index = (s.onAppendEntries q).commitIndex ∧ e.term = q.term)) := by
  let P : Node → Prop := fun y => y.commitIndex = s.commitIndex ∨
    (s.commitIndex < y.commitIndex ∧ y.commitIndex ≤ q.ldrCommitIndex ∧ s.term ≤ q.term ∧
     ((y.commitIndex = q.prevLogIndex ∧ q.prevLogTerm = q.term) ∨
      ∃ e ∈ q.entries, e.index = y.commitIndex ∧ e.term = q.term))
  show P _
  rw [onAppendEntries_stages]
  refine ite_ind (P := P) (fun _ => Or.inl rfl) fun hstale => ?_
  have hpre : (followPre s q.term q.src).commitIndex = s.commitIndex := followPre_commitIndex s q.term q.src
  generalize followPre s q.term q.src = p at hpre ⊢
  -- the check: the commit index stays, or moves to the verified previous entry
  have fin3 : (p.appendCheck q).commitIndex = s.commitIndex ∨
      (s.commitIndex < (p.appendCheck q).commitIndex ∧ (p.appendCheck q).commitIndex ≤ q.ldrCommitIndex ∧
       (p.appendCheck q).commitIndex = q.prevLogIndex ∧ q.prevLogTerm = q.term) := by
    rcases follower_commit_rule_check p q with h3 | ⟨hcc, hci, _⟩
    · exact Or.inl (h3.trans hpre)
    · obtain ⟨g1, g2, g3⟩ := follower_commit_guard _ _ _ _ hcc
      exact Or.inr ⟨by rw [hci, ← hpre]; exact g3, by rw [hci]; exact g1, hci, g2⟩
  have lift : ∀ y : Node, y.commitIndex = (p.appendCheck q).commitIndex → P y := fun y hy => by
    show y.commitIndex = _ ∨ _ < y.commitIndex ∧ y.commitIndex ≤ _ ∧ _ ∧ ((y.commitIndex = _ ∧ _) ∨
      ∃ e ∈ q.entries, e.index = y.commitIndex ∧ _)
    rw [hy]
    rcases fin3 with h | ⟨a, b, c, d⟩
    · exact Or.inl h
    · exact Or.inr ⟨a, b, by omega, Or.inl ⟨c, d⟩⟩
  refine ite_ind (P := P) (fun _ => lift _ rfl) fun _ => ?_
  generalize hst : appendLoop ⟨p.appendCheck q, q.prevLogIndex, q.prevLogTerm, false, false⟩ q.entries = st
  have e4 : st.s.commitIndex = (p.appendCheck q).commitIndex := hst ▸ (appendLoop_commitIndex _ _).1
  have coords : (st.index = q.prevLogIndex ∧ st.term = q.prevLogTerm) ∨
      ∃ e ∈ q.entries, st.index = e.index ∧ st.term = e.term := hst ▸ appendLoop_coords _ q.entries
  rcases afterLoop_commitIndex q st with k | ⟨hcc, k⟩
  · exact lift _ (k.trans e4)
  · obtain ⟨g1, g2, g3⟩ := follower_commit_guard _ _ _ _ hcc
    have g3' : st.s.commitIndex < st.index := g3
    have hmono : s.commitIndex ≤ (p.appendCheck q).commitIndex := by
      rcases fin3 with g | ⟨a, _⟩ <;> omega
    show (afterLoop q st).commitIndex = _ ∨ _ < (afterLoop q st).commitIndex ∧ (afterLoop q st).commitIndex ≤ _ ∧ _ ∧
      (((afterLoop q st).commitIndex = _ ∧ _) ∨ ∃ e ∈ q.entries, e.index = (afterLoop q st).commitIndex ∧ _)
    rw [k]
    refine Or.inr ⟨by omega, g1, by omega, ?_⟩
    rcases coords with ⟨a, b⟩ | ⟨e, he, a, b⟩
    · exact Or.inl ⟨a, by rw [← b]; exact g2⟩
    · exact Or.inr ⟨e, he, a.symm, by rw [← b]; exact g2⟩

end C02
end Raft

#print axioms Raft.C02.ext_refl
#print axioms Raft.C02.ext_trans
#print axioms Raft.C02.setCommitIndexR_log
#print axioms Raft.C02.leader_never_truncates_storeEntry
#print axioms Raft.C02.leader_never_truncates_storeItems
#print axioms Raft.C02.leader_never_truncates_changeConfigL
#print axioms Raft.C02.leader_never_truncates_doChangeConfig
#print axioms Raft.C02.leader_never_truncates_checkConfigActions
#print axioms Raft.C02.leader_never_truncates_checkConfigAction
#print axioms Raft.C02.leader_never_truncates_onMajorityCommit
#print axioms Raft.C02.leader_never_truncates_setCommitIndexL
#print axioms Raft.C02.leader_never_truncates_onChangeConfig
#print axioms Raft.C02.leader_never_truncates_onTransfer
#print axioms Raft.C02.leader_never_truncates_replyTransfer
#print axioms Raft.C02.leader_never_truncates_onTimeoutNowResult
#print axioms Raft.C02.leader_never_truncates_onWaitForStable
#print axioms Raft.C02.leader_never_truncates_tryTransfer
#print axioms Raft.C02.leader_never_truncates_leaderInit
#print axioms Raft.C02.leader_never_truncates
#print axioms Raft.C02.follower_no_conflict_only_appends
#print axioms Raft.C02.LogReach.mono
#print axioms Raft.C02.resolveConflict_log
#print axioms Raft.C02.follower_log_changes
#print axioms Raft.C02.get?_removeGTE
#print axioms Raft.C02.get?_append
#print axioms Raft.C02.last_removeGTE
#print axioms Raft.C02.last_append
#print axioms Raft.C02.LogReach.keeps_agreed
#print axioms Raft.C02.committed_prefix_preserved
#print axioms Raft.C02.appendLoop_commitIndex
#print axioms Raft.C02.truncation_above_commit_requires_conflict_above_commit
#print axioms Raft.C02.setCommitIndexL_reaches
#print axioms Raft.C02.leader_commit_rule_guard
#print axioms Raft.C02.leader_commit_rule_unchanged
#print axioms Raft.C02.leader_commit_rule_advances
#print axioms Raft.C02.leader_commit_rule
#print axioms Raft.C02.follower_commit_guard
#print axioms Raft.C02.follower_commit_rule_check
#print axioms Raft.C02.appendLoop_coords
#print axioms Raft.C02.follower_commit_rule
