/-
C03 (state-machine safety) on the cluster-level transition system `Raft.Commit` (Sys/Commit.lean), on top of
C02Sys (leader completeness, committed entries are never replaced) — fixed voter set, fixed stable configuration,
no snapshots / compaction (the `_partial` restrictions, see the header of Sys/Commit.lean), and runs in which no
step fails an assertion (`ReachableNP`; the model records a failed assertion in `Node.panicked` and continues on
a totalised path whose results are meaningless — in the implementation the process dies).

`FsmOK`: the state machine holds exactly the update payloads of the log entries `1 … fsm.index`, in order;
`fsm.index ≤ commitIndex`; the applied index does not go back. `QOK`: every log-type item of the leader queue is the log
entry at its index — `leader.applyCommitted` feeds the state machine from the queue, not from the log. The leader side
(`FL`) is an instance of the walk of Lemmas/StepWalk.lean (`flAt`, `flLdr`); the follower side (`fn_onAppendEntries`): a
request that does not conflict with the log at or below the commit index (guaranteed in the system: `C02Sys.reqok`) only
removes entries above what was applied.
-/
import RaftVerif.Props.C02Sys
import RaftVerif.Props.C12
import RaftVerif.Props.C15
import RaftVerif.Lemmas.ShapeQueue

namespace Raft
namespace C03Sys
open Node LogRel CommitRel Commit C02Sys
open Election (setNode setNode_same setNode_other)

def ups (es : List Entry) : List String := (es.filter (·.typ == etUpdate)).map (·.data)

theorem ups_append (a b : List Entry) : ups (a ++ b) = ups a ++ ups b := by
  unfold ups; rw [List.filter_append, List.map_append]

theorem ups_single (e : Entry) : ups [e] = if e.typ = etUpdate then [e.data] else [] := by
  unfold ups
  by_cases h : e.typ = etUpdate
  · rw [if_pos h]; simp [h]
  · rw [if_neg h]; simp [h]

/-- **the state machine holds exactly the update payloads of the log entries `1 … fsm.index`, in order**, and
never ran ahead of the commit index; `m` is a lower bound of the applied index (the applied index at the
beginning of the step: the state machine never goes back) -/
structure FsmOK (m : Nat) (s : Node) : Prop where
  le : s.fsm.index ≤ s.commitIndex
  len : s.fsm.index ≤ s.log.entries.length
  applied : s.fsm.applied = ups (s.log.entries.take s.fsm.index)
  mono : m ≤ s.fsm.index

theorem FsmOK.weaken {m m' : Nat} {s : Node} (h : FsmOK m s) (hm : m' ≤ m) : FsmOK m' s :=
  ⟨h.le, h.len, h.applied, Nat.le_trans hm h.mono⟩

/-- every log-type item of the leader queue is the log entry at its index -/
def QOK (s : Node) : Prop :=
  ∀ q ∈ s.ldr.queue, isLogEntryTyp q.typ = true → s.log.entries[q.index - 1]? = some q.toEntry

/-- the log starts at index 1 and the cached last index is right -/
def LW (s : Node) : Prop := s.log.prev = 0 ∧ s.lastLogIndex = s.log.entries.length

/-- invariant of the handlers (followers, candidates): unless the step has failed -/
def FN (m : Nat) (s : Node) : Prop := s.panicked = none → FsmOK m s ∧ LW s

/-- invariant of the leader handlers: unless the step has failed -/
def FL (m : Nat) (s : Node) : Prop := s.panicked = none → FsmOK m s ∧ LW s ∧ QOK s

theorem FL.fn {m : Nat} {s : Node} (h : FL m s) : FN m s := fun hp => ⟨(h hp).1, (h hp).2.1⟩

def nobs (s : Node) : NLog × Nat × Nat × Fsm := (s.log, s.lastLogIndex, s.commitIndex, s.fsm)

theorem fn_congr {s s' : Node} (h : FN m s) (e : nobs s' = nobs s) (hp : s'.panicked = none → s.panicked = none) :
    FN m s' := by
  intro hp'
  obtain ⟨⟨a1, a2, a3, a4⟩, b1, b2⟩ := h (hp hp')
  unfold nobs at e
  simp only [Prod.mk.injEq] at e
  obtain ⟨e1, e2, e3, e4⟩ := e
  exact ⟨⟨by rw [e4, e3]; exact a1, by rw [e4, e1]; exact a2, by rw [e4, e1]; exact a3, by rw [e4]; exact a4⟩,
    by rw [e1]; exact b1, by rw [e2, e1]; exact b2⟩

theorem fl_congr {s s' : Node} (h : FL m s) (e : nobs s' = nobs s) (eq : s'.ldr.queue = s.ldr.queue)
    (hp : s'.panicked = none → s.panicked = none) : FL m s' := by
  intro hp'
  obtain ⟨b1, b2⟩ := fn_congr h.fn e hp hp'
  refine ⟨b1, b2, ?_⟩
  have hq := (h (hp hp')).2.2
  unfold nobs at e
  simp only [Prod.mk.injEq] at e
  intro q hq' ht
  rw [e.1]
  exact hq q (by rw [← eq]; exact hq') ht

theorem fl_panic (s : Node) (site : String) : FL m (s.panic site) :=
  fun hp => absurd hp (panic_panicked_ne s site)

theorem fn_panic (s : Node) (site : String) : FN m (s.panic site) :=
  fun hp => absurd hp (panic_panicked_ne s site)

theorem fl_assert (s : Node) (b : Bool) (site : String) (hs : FL m s) : FL m (s.assert b site) :=
  assert_of (fun x site _ => fl_panic x site) s b site hs

theorem fl_reply (s : Node) (t : Nat) (r : String) (hs : FL m s) : FL m (s.reply t r) := by
  obtain ⟨a1, a2, _, a4, a5, a6, a7, _⟩ := reply_fields s t r
  exact fl_congr hs (by unfold nobs; rw [a1, a2, a4, a5]) (by rw [a7]) (by rw [a6]; exact id)

theorem fl_popOrder (s : Node) (hs : FL m s) : FL m s.popOrder := fl_congr hs rfl rfl id
theorem fl_setRole (s : Node) (r : Role) (hs : FL m s) : FL m (s.setRole r) := fl_congr hs rfl rfl id
theorem fl_setLeader (s : Node) (l : Nat) (hs : FL m s) : FL m (s.setLeader l) := fl_congr hs rfl rfl id

theorem fl_ldr (s : Node) (l : Leader) (hs : FL m s) (hq : l.queue = s.ldr.queue) : FL m (s.withLdr l) :=
  fl_congr hs rfl hq id

theorem fl_ldr_nil (s : Node) (l : Leader) (hs : FN m s) (hq : l.queue = []) : FL m (s.withLdr l) := by
  intro hp
  obtain ⟨a, b⟩ := hs hp
  refine ⟨⟨a.le, a.len, a.applied, a.mono⟩, b, ?_⟩
  intro q hq'
  have : q ∈ l.queue := hq'
  rw [hq] at this; cases this

/-- `setTerm` and `setVotedFor` have this form: under a condition, store the pair or fail an assertion -/
theorem storeOrPanic_nobs (c d : Prop) [Decidable c] [Decidable d] (s : Node) (t v : Nat) (site : String) :
    nobs (if c then (if d then s.storeTermVote t v else s.panic site) else s) = nobs s ∧
    (if c then (if d then s.storeTermVote t v else s.panic site) else s).ldr = s.ldr ∧
    ((if c then (if d then s.storeTermVote t v else s.panic site) else s).panicked = none → s.panicked = none) := by
  by_cases hc : c
  · rw [if_pos hc]
    by_cases hd : d
    · rw [if_pos hd]; unfold nobs; rw [storeTermVote_shape]; exact ⟨rfl, rfl, id⟩
    · rw [if_neg hd]
      refine ⟨?_, ?_, fun h => absurd h (panic_panicked_ne s site)⟩
      · unfold nobs; rw [panic_shape]
      · rw [panic_shape]
  · rw [if_neg hc]; exact ⟨rfl, rfl, id⟩

theorem setTerm_nobs (s : Node) (t : Nat) :
    nobs (s.setTerm t) = nobs s ∧ (s.setTerm t).ldr = s.ldr ∧ ((s.setTerm t).panicked = none → s.panicked = none) :=
  storeOrPanic_nobs _ _ s t 0 _

theorem fl_setTerm (s : Node) (t : Nat) (hs : FL m s) : FL m (s.setTerm t) := by
  obtain ⟨a, b, c⟩ := setTerm_nobs s t
  exact fl_congr hs a (by rw [b]) c

theorem fn_commitLog (s : Node) (n : Nat) (hs : FN m s) : FN m (s.commitLog n) := by
  unfold Node.commitLog
  refine fn_congr (s := { s with log := s.log.commitN n }) ?_ rfl id
  obtain ⟨p1, p2⟩ := commitN_parts s.log n
  intro hp
  obtain ⟨a, b⟩ := hs hp
  exact ⟨⟨a.le, by show _ ≤ (s.log.commitN n).entries.length; rw [p2]; exact a.len,
      by show _ = ups ((s.log.commitN n).entries.take _); rw [p2]; exact a.applied, a.mono⟩,
    ⟨by show (s.log.commitN n).prev = 0; rw [p1]; exact b.1,
      by show s.lastLogIndex = (s.log.commitN n).entries.length; rw [p2]; exact b.2⟩⟩

theorem fl_commitLog (s : Node) (n : Nat) (hs : FL m s) : FL m (s.commitLog n) := by
  intro hp
  obtain ⟨f, w⟩ := fn_commitLog s n hs.fn hp
  refine ⟨f, w, fun q hq ht => ?_⟩
  show (s.log.commitN n).entries[q.index - 1]? = _
  rw [(commitN_parts s.log n).2]
  exact (hs hp).2.2 q hq ht

theorem changeConfigR_ldr (s : Node) (c : Config) : (s.changeConfigR c).ldr = s.ldr := by
  rw [changeConfigR_shape]

theorem fl_changeConfigR (s : Node) (c : Config) (hs : FL m s) : FL m (s.changeConfigR c) := by
  exact fl_congr hs (by unfold nobs; rw [changeConfigR_shape]) (by rw [changeConfigR_ldr])
    (by rw [changeConfigR_shape]; exact id)

theorem setCommitIndexR_nobs (s : Node) (i : Nat) :
    (s.setCommitIndexR i).1.log = s.log ∧ (s.setCommitIndexR i).1.lastLogIndex = s.lastLogIndex ∧
    (s.setCommitIndexR i).1.fsm = s.fsm ∧ (s.setCommitIndexR i).1.ldr = s.ldr :=
  ⟨by rw [setCommitIndexR_shape], by rw [setCommitIndexR_shape], by rw [setCommitIndexR_shape],
    by rw [setCommitIndexR_shape]⟩

theorem fn_setCommitIndexR (s : Node) (i : Nat) (hs : FN m s) (hi : i > s.commitIndex) :
    FN m (s.setCommitIndexR i).1 := by
  obtain ⟨a1, a2, a3, _⟩ := setCommitIndexR_nobs s i
  intro hp
  rw [C15.setCommitIndexR_panicked] at hp
  obtain ⟨a, b⟩ := hs hp
  refine ⟨⟨?_, ?_, ?_, ?_⟩, ⟨?_, ?_⟩⟩
  · rw [a3, C19.setCommitIndexR_commitIndex]; have := a.le; omega
  · rw [a3, a1]; exact a.len
  · rw [a3, a1]; exact a.applied
  · rw [a3]; exact a.mono
  · rw [a1]; exact b.1
  · rw [a2, a1]; exact b.2

theorem fl_setCommitIndexR (s : Node) (i : Nat) (hs : FL m s) (hi : i > s.commitIndex) :
    FL m (s.setCommitIndexR i).1 := by
  intro hp
  obtain ⟨f, w⟩ := fn_setCommitIndexR s i hs.fn hi hp
  rw [C15.setCommitIndexR_panicked] at hp
  obtain ⟨a1, _, _, a4⟩ := setCommitIndexR_nobs s i
  refine ⟨f, w, fun q hq ht => ?_⟩
  rw [a1]
  exact (hs hp).2.2 q (by rw [← a4]; exact hq) ht

theorem pushLog_aux (s x : Node) (q : QItem) (hs : FL m s) (hx : nobs x = nobs s)
    (hq : x.ldr.queue = s.ldr.queue ++ [q]) (hpx : x.panicked = s.panicked) :
    FL m (x.appendEntry q.toEntry) := by
  unfold Node.appendEntry
  extract_lets a roll
  intro hp
  have hpa : a.panicked = none := hp
  have hidx : (q.toEntry.index == x.lastLogIndex + 1) = true := Order.assert_true hpa
  have ea : a = x := by unfold a Node.assert; rw [if_pos hidx]
  have hps : s.panicked = none := by rw [ea, hpx] at hpa; exact hpa
  obtain ⟨f, w, c⟩ := hs hps
  obtain ⟨p1, p2⟩ := append_parts a.log q.toEntry roll
  unfold nobs at hx
  simp only [Prod.mk.injEq] at hx
  obtain ⟨x1, x2, x3, x4⟩ := hx
  have hal : a.log = s.log := by rw [ea]; exact x1
  have hqi : q.index = s.log.entries.length + 1 := by
    have : q.toEntry.index = x.lastLogIndex + 1 := by simpa using hidx
    rw [x2, w.2] at this; exact this
  refine ⟨⟨?_, ?_, ?_, ?_⟩, ⟨?_, ?_⟩, ?_⟩
  · show a.fsm.index ≤ a.commitIndex
    rw [ea, x3, x4]; exact f.le
  · show a.fsm.index ≤ (a.log.append q.toEntry roll).entries.length
    rw [p2, hal, List.length_append, ea, x4]
    have := f.len
    omega
  · show a.fsm.applied = ups ((a.log.append q.toEntry roll).entries.take a.fsm.index)
    rw [p2, hal, ea, x4]
    rw [List.take_append_of_le_length f.len]; exact f.applied
  · show m ≤ a.fsm.index
    rw [ea, x4]; exact f.mono
  · show (a.log.append q.toEntry roll).prev = 0
    rw [p1, hal]; exact w.1
  · show q.toEntry.index = (a.log.append q.toEntry roll).entries.length
    rw [p2, hal, List.length_append]
    show q.index = _
    rw [hqi]; rfl
  · intro y hy hyt
    show (a.log.append q.toEntry roll).entries[y.index - 1]? = some y.toEntry
    rw [p2, hal]
    have hy' : y ∈ s.ldr.queue ++ [q] := by
      have : y ∈ a.ldr.queue := hy
      rw [ea, hq] at this; exact this
    rcases List.mem_append.mp hy' with hy' | hy'
    · have := c y hy' hyt
      have hlt : y.index - 1 < s.log.entries.length := by
        obtain ⟨hl, _⟩ := List.getElem?_eq_some_iff.mp this
        exact hl
      rw [List.getElem?_append_left hlt]; exact this
    · rw [List.mem_singleton.mp hy', hqi, Nat.add_sub_cancel, List.getElem?_append_right (Nat.le_refl _),
        Nat.sub_self]
      rfl

theorem fl_pushLog (s : Node) (q : QItem) (hs : FL m s) :
    FL m ((s.withLdr { s.ldr with queue := s.ldr.queue ++ [q] }).appendEntry q.toEntry) :=
  pushLog_aux s _ q hs rfl rfl rfl

/-- an item that is not a log entry (a read, a barrier) is queued -/
theorem fl_pushOther (s : Node) (q : QItem) (hs : FL m s) (ht : isLogEntryTyp q.typ = false) :
    FL m (s.withLdr { s.ldr with queue := s.ldr.queue ++ [q] }) := by
  intro hp
  obtain ⟨f, w, c⟩ := hs hp
  refine ⟨⟨f.le, f.len, f.applied, f.mono⟩, w, fun x hx hxt => ?_⟩
  have hx' : x ∈ s.ldr.queue ++ [q] := hx
  rcases List.mem_append.mp hx' with hx' | hx'
  · exact c x hx' hxt
  · rw [List.mem_singleton.mp hx', ht] at hxt; cases hxt

/-- relative to the entries `L`: the content invariant while `fsmApply` runs (no claim about the commit index) -/
def PW (m : Nat) (L : List Entry) (s : Node) : Prop :=
  s.panicked = none → s.log.entries = L ∧ s.log.prev = 0 ∧ s.fsm.index ≤ L.length ∧
    s.fsm.applied = ups (L.take s.fsm.index) ∧ m ≤ s.fsm.index

theorem take_split {α : Type} (l : List α) (a b : Nat) (h : a ≤ b) :
    l.take b = l.take a ++ (l.drop a).take (b - a) := by
  have e : b = a + (b - a) := by omega
  rw [e, List.take_add, ← e]

/-- **the state machine only moves forward, by appending**: a node `p` that kept the log of `s` up to `s`'s commit index
and applied at least what `s` had applied holds the command sequence of `s` followed by the update payloads of the entries
between the two applied indexes -/
theorem FsmOK.extends {s p : Node} (fs : FsmOK 0 s) (f : FsmOK s.fsm.index p) (hs : NWF s) (hp : NWF p)
    (keep : ∀ k, 1 ≤ k → k ≤ s.commitIndex → p.log.get? k = s.log.get? k) :
    p.log.entries.take s.fsm.index = s.log.entries.take s.fsm.index ∧
    p.fsm.applied = s.fsm.applied ++ ups ((p.log.entries.drop s.fsm.index).take (p.fsm.index - s.fsm.index)) := by
  have htake : p.log.entries.take s.fsm.index = s.log.entries.take s.fsm.index := by
    apply List.ext_getElem?
    intro n
    rw [List.getElem?_take, List.getElem?_take]
    split
    · rename_i hn
      have := keep (n + 1) (by omega) (by have := fs.le; omega)
      rw [hp.get?, hs.get?, if_pos (by omega), if_pos (by omega), Nat.add_sub_cancel] at this
      exact this
    · rfl
  refine ⟨htake, ?_⟩
  rw [f.applied, take_split _ _ _ f.mono, ups_append, htake, ← fs.applied]

theorem pw_applyLogTo (L : List Entry) (s : Node) (upto : Nat) (hs : PW m L s) : PW m L (s.fsmApplyLogTo upto) := by
  unfold Node.fsmApplyLogTo
  refine ite_ind (fun _ => hs) fun hlt => ite_ind (fun _ hp => absurd hp (panic_panicked_ne _ _)) fun _ => ?_
  extract_lets es us lt cfg s1
  refine ite_ind (fun _ hp => absurd hp (panic_panicked_ne _ _)) fun hlen hp => ?_
  have hwith : ∀ (z : Node) (f : Fsm), (z.withFsm f).panicked = z.panicked := fun _ _ => rfl
  have hp1 : s1.panicked = none := (hwith s1 _).symm.trans hp
  have e1 : s1 = s := by
    unfold s1 at hp1 ⊢
    split at hp1
    · exact absurd hp1 (panic_panicked_ne _ _)
    · rename_i hc; rw [if_neg hc]
  rw [e1] at hp1
  obtain ⟨a1, a2, a3, a4, a5⟩ := hs hp1
  have hes : es = (L.drop s.fsm.index).take (upto - s.fsm.index) := by
    unfold es; rw [a1, a2, Nat.sub_zero]
  have hl : es.length = upto - s.fsm.index := Classical.byContradiction (fun hne => hlen hne)
  have hup : upto ≤ L.length := by
    rw [hes, List.length_take, List.length_drop] at hl
    omega
  refine ⟨?_, ?_, hup, ?_, by show m ≤ upto; omega⟩
  · show s1.log.entries = L
    rw [e1]; exact a1
  · show s1.log.prev = 0
    rw [e1]; exact a2
  · show s1.fsm.applied ++ us = ups (L.take upto)
    rw [e1, a4, take_split L s.fsm.index upto (by omega), ups_append, ← hes]
    rfl

theorem itemStep_panicked (s : Node) (q : QItem) :
    (C12.itemStep s q).panicked = (s.assert (q.index == s.fsm.index + 1) "fsm.assertNext").panicked := by
  rw [C12.itemStep_eq]

theorem itemStep_log (s : Node) (q : QItem) : (C12.itemStep s q).log = s.log := by
  rw [C12.itemStep_eq]

theorem itemStep_index (s : Node) (q : QItem) :
    (C12.itemStep s q).fsm.index = if isLogEntryTyp q.typ then q.index else s.fsm.index := by
  rw [C12.itemStep_eq]

theorem itemStep_applied (s : Node) (q : QItem) :
    (C12.itemStep s q).fsm.applied = if q.typ = etUpdate then s.fsm.applied ++ [q.data] else s.fsm.applied := by
  rw [C12.itemStep_eq]

theorem pw_itemStep (L : List Entry) (s : Node) (q : QItem) (hs : PW m L s)
    (hq : isLogEntryTyp q.typ = true → L[q.index - 1]? = some q.toEntry) : PW m L (C12.itemStep s q) := by
  intro hp
  rw [itemStep_panicked] at hp
  have hidx : (q.index == s.fsm.index + 1) = true := Order.assert_true hp
  have hps : s.panicked = none := by
    unfold Node.assert at hp; rw [if_pos hidx] at hp; exact hp
  have hqi : q.index = s.fsm.index + 1 := by simpa using hidx
  obtain ⟨a1, a2, a3, a4, a5⟩ := hs hps
  rw [itemStep_log, itemStep_index, itemStep_applied]
  refine ⟨a1, a2, ?_, ?_, ?_⟩
  · split
    · rename_i ht
      obtain ⟨hl, _⟩ := List.getElem?_eq_some_iff.mp (hq ht)
      omega
    · exact a3
  · by_cases ht : isLogEntryTyp q.typ = true
    · rw [if_pos ht]
      have hget := hq ht
      rw [hqi, Nat.add_sub_cancel] at hget
      rw [hqi, List.take_add_one, hget, ups_append, ← a4]
      show _ = s.fsm.applied ++ ups [q.toEntry]
      rw [ups_single]
      show _ = s.fsm.applied ++ if q.typ = etUpdate then [q.data] else []
      split
      · rfl
      · rw [List.append_nil]
    · rw [if_neg ht]
      have hne : q.typ ≠ etUpdate := by
        intro he; apply ht; rw [he]; decide
      rw [if_neg hne]; exact a4
  · split
    · omega
    · exact a5

theorem pw_items (L : List Entry) (items : List QItem) : ∀ (s : Node), PW m L s →
    (∀ q ∈ items, isLogEntryTyp q.typ = true → L[q.index - 1]? = some q.toEntry) →
    PW m L (s.fsmApplyItems items) := by
  induction items with
  | nil => intro s hs _; exact hs
  | cons q qs ih =>
    intro s hs hq
    rw [C12.fsmApplyItems_cons]
    exact ih _ (pw_itemStep L s q hs (hq q (List.mem_cons_self ..)))
      (fun x hx => hq x (List.mem_cons_of_mem _ hx))

/-- **`fsmApply`**: the log entries up to the first item, then the items, each of which is the log entry at its
index; unless an assertion failed the state machine ends at the commit index with the payloads of the log -/
theorem fsmApply_ok (s : Node) (items : List QItem) (hs : FN m s)
    (hq : s.panicked = none →
      ∀ q ∈ items, isLogEntryTyp q.typ = true → s.log.entries[q.index - 1]? = some q.toEntry) :
    FN m (s.fsmApply items) := by
  intro hp
  have hlog : (s.fsmApply items).log = s.log := fsmFrame_log.fsmApply_eq s items
  have hlast : (s.fsmApply items).lastLogIndex = s.lastLogIndex := fsmFrame_lastLogIndex.fsmApply_eq s items
  have hci : (s.fsmApply items).commitIndex = s.commitIndex := fsmFrame_commitIndex.fsmApply_eq s items
  have key : (s.fsmApply items).panicked = none → s.panicked = none ∧
      (s.fsmApply items).fsm.index = s.commitIndex ∧ PW m s.log.entries (s.fsmApply items) := by
    unfold Node.fsmApply
    split
    · exact fun hp => absurd hp (panic_panicked_ne _ _)
    · split
      · exact fun hp => absurd hp (panic_panicked_ne _ _)
      · extract_lets front s1 s2
        intro hp2
        have hc : (s2.fsm.index == s2.commitIndex) = true := Order.assert_true hp2
        have e2 : s2.assert (s2.fsm.index == s2.commitIndex) "fsm.assertCommit" = s2 := by
          unfold Node.assert; rw [if_pos hc]
        rw [e2] at hp2 ⊢
        have hc2 : s2.commitIndex = s.commitIndex := by
          unfold s2 s1
          rw [fsmFrame_commitIndex.fsmApplyItems_eq, fsmFrame_commitIndex.fsmApplyLogTo_eq]
        have hst : s.panicked = none := by
          apply Classical.byContradiction
          intro hne
          have h1 : s1.panicked ≠ none := C15.panicked_closed.fsmApplyLogTo_inv s _ hne
          exact (C15.panicked_closed.fsmApplyItems_inv s1 items h1) hp2
        have P0 : PW m s.log.entries s := fun hp0 =>
          ⟨rfl, (hs hp0).2.1, (hs hp0).1.len, (hs hp0).1.applied, (hs hp0).1.mono⟩
        have P2 : PW m s.log.entries s2 := pw_items _ items s1 (pw_applyLogTo _ s _ P0) (hq hst)
        exact ⟨hst, by rw [← hc2]; simpa using hc, P2⟩
  obtain ⟨hps, hidx, P⟩ := key hp
  obtain ⟨a1, a2, a3, a4, a5⟩ := P hp
  obtain ⟨f, w⟩ := hs hps
  refine ⟨⟨by rw [hidx, hci]; exact Nat.le_refl _, by rw [hlog]; exact a3, by rw [hlog]; exact a4, a5⟩,
    by rw [hlog]; exact w.1, by rw [hlast, hlog]; exact w.2⟩

theorem fn_applyCommitted (s : Node) (hs : FN m s) : FN m s.applyCommitted := by
  unfold Node.applyCommitted
  exact fsmApply_ok s [] hs (fun _ q hq => by cases hq)

theorem splitQueue_mem (ci : Nat) (l : List QItem) (q : QItem)
    (h : q ∈ (splitQueue ci l).1 ∨ q ∈ (splitQueue ci l).2) : q ∈ l :=
  h.elim ((splitQueue_sub ci l).1 q) ((splitQueue_sub ci l).2 q)

/-- **`leader.applyCommitted`**: the committed prefix of the queue is handed to the state machine -/
theorem fl_applyL (s : Node) (hs : FL m s) : FL m s.applyCommittedL := by
  unfold Node.applyCommittedL
  extract_lets sp l0 s1
  have h1 : FL m s1 := by
    intro hp
    obtain ⟨f, w, c⟩ := hs hp
    exact ⟨⟨f.le, f.len, f.applied, f.mono⟩, w, fun q hq ht => c q (splitQueue_mem _ _ q (Or.inr hq)) ht⟩
  have hlog : (s1.fsmApply sp.1).log = s1.log := fsmFrame_log.fsmApply_eq s1 sp.1
  have hldr : (s1.fsmApply sp.1).ldr = s1.ldr := fsmFrame_ldr.fsmApply_eq s1 sp.1
  have hst : (s1.fsmApply sp.1).panicked = none → s1.panicked = none := by
    intro hp
    apply Classical.byContradiction
    intro hne
    exact (C15.panicked_closed.fsmApply_inv s1 sp.1 hne) hp
  have hfn : FN m (s1.fsmApply sp.1) := by
    apply fsmApply_ok s1 sp.1 h1.fn
    intro hp q hq ht
    exact (hs hp).2.2 q (splitQueue_mem _ _ q (Or.inl hq)) ht
  intro hp
  obtain ⟨f, w⟩ := hfn hp
  refine ⟨f, w, fun q hq ht => ?_⟩
  rw [hlog]
  exact (h1 (hst hp)).2.2 q (by rw [← hldr]; exact hq) ht

theorem fl_setRepl (s : Node) (r : Repl) (hs : FL m s) : FL m (s.setRepl r) := by
  unfold Node.setRepl; exact fl_ldr _ _ hs rfl

/-- no compaction: `LW` says that the log starts at index 1 -/
def caps : Caps := { Caps.all with compact := False }

/-- **the updates of the leader's handlers keep the invariant**: `FL m` at every level of the walk of Lemmas/StepWalk.lean
— the leader record changes but for its queue, an item is queued together with its entry (`fl_pushLog`), the committed
prefix of the queue goes to the state machine (`fl_applyL`) -/
theorem flAt : GuardedAt (FL m) (FL m) (fun _ => FL m) where
  panic := fun s site _ => fl_panic s site
  reject := fun s _ r hs _ => fl_reply s _ r hs
  stable := fun s t hs => fl_reply s t _ hs
  popOrder := fl_popOrder
  ldrK := fun s l hs _ _ _ _ _ _ hq => fl_ldr s l hs hq
  setRound := fun s _ _ _ hs _ => fl_setRepl s _ hs
  beginFinishedRounds := fun s hs => by unfold Node.beginFinishedRounds; exact fl_ldr _ _ hs rfl
  enqueue := fun s q hs _ _ ht => fl_pushOther s _ hs (by simpa using ht)
  enqueueLog := fun s q hs _ _ _ _ => fl_pushLog s _ hs
  enqueueCfg := fun s q _ hs _ _ _ => fl_pushLog s _ hs
  decodeFail := fun _ _ _ _ _ _ _ _ => fl_panic _ _
  configSync := fun s c hs => by
    refine Guarded.foldl_inv (Inv := FL m) _ (fun x n hx => ?_) _ _ ?_
    · unfold LC.changeBody
      refine ite_ind (fun _ => hx) fun _ => ?_
      split
      · unfold Node.addReplication
        refine fl_setRepl _ _ ?_
        split
        · exact fl_assert _ _ _ hx
        · exact fl_panic _ _
      · exact fl_setRepl _ _ hx
    · exact fl_ldr _ _ (fl_changeConfigR _ _ (fl_ldr _ _ hs rfl)) rfl
  prePanic := fun _ _ _ _ => fl_panic _ _
  commitLog := fl_commitLog
  commitR := fl_setCommitIndexR
  applyL := fl_applyL

theorem flLdr : GuardedLdrAt caps (FL m) (FL m) (fun _ => FL m) where
  toGuardedAt := flAt
  blk := flAt.block flAt
  reply := fl_reply
  ldrT := fun _ s l hs _ _ _ _ _ hq => fl_ldr s l hs hq
  noContact := fun _ s _ _ hs _ => fl_setRepl s _ hs
  report := fun _ s _ r _ hs _ _ _ _ => fl_setRepl s r hs
  setRole := fun s r hs _ _ => fl_setRole s r hs
  setLeader := fl_setLeader
  setTerm := fun s t hs _ => fl_setTerm s t hs
  compactBound := fun hc => hc.elim

/-- **the leader block preserves the invariant** (accepting entries, configuration actions, commit
advancement), by induction on the recursion budget -/
theorem fl_block : ∀ fuel : Nat,
    (∀ s b, FL m s → FL m (storeEntry fuel s b)) ∧
    (∀ s b, FL m s → FL m (storeItems fuel s b)) ∧
    (∀ s c, FL m s → FL m (changeConfigL fuel s c)) ∧
    (∀ s t c, FL m s → FL m (doChangeConfig fuel s t c)) ∧
    (∀ s t c, FL m s → FL m (checkConfigActions fuel s t c)) ∧
    (∀ s t c id, FL m s → FL m (checkConfigAction fuel s t c id)) ∧
    (∀ s i, FL m s → i > s.commitIndex → FL m (setCommitIndexL fuel s i)) ∧
    (∀ s, FL m s → FL m (onMajorityCommit fuel s)) := fun fuel =>
  have B : Block (FL m) (FL m) (fun _ => FL m) fuel := flLdr.blk fuel
  ⟨B.storeEntry, B.storeItems, B.changeConfigL, B.doChangeConfig, B.checkConfigActions, B.checkConfigAction,
    B.setCommitIndexL, B.onMajorityCommit⟩

theorem fl_checkConfigActions (f : Nat) (s : Node) (t : Nat) (c : Config) (hs : FL m s) :
    FL m (checkConfigActions f s t c) := (flLdr.blk f).checkConfigActions s t c hs

/-- without a compaction report the loop does not ask for a compaction -/
theorem fl_checkReplUpdates (us : List ReplUpdate) (hus : NoCompact us) (s : Node) (hs : FL m s) :
    FL m (s.checkReplUpdates us) :=
  flLdr.checkReplUpdates_inv trivial trivial s us
    (fun hf => by rw [(replUpdLoop_flag us hus s {})] at hf; cases hf) hs

/-- **`leader.init`** starts with an empty queue -/
theorem fl_leaderInit (s : Node) (hs : FN m s) : FL m s.leaderInit :=
  Block.leaderInit_of flLdr.blk (fun x n hx _ => by
      unfold Node.addReplication
      refine fl_setRepl _ _ ?_
      split
      · exact fl_assert _ _ _ hx
      · exact fl_panic _ _) s
    (fl_ldr_nil _ _ (by unfold Node.assert; split; exact hs; exact fn_panic _ _) rfl)

theorem fn_reply (s : Node) (t : Nat) (r : String) (hs : FN m s) : FN m (s.reply t r) := by
  obtain ⟨a1, a2, _, a4, a5, a6, _, _⟩ := reply_fields s t r
  exact fn_congr hs (by unfold nobs; rw [a1, a2, a4, a5]) (by rw [a6]; exact id)

theorem fn_leaderRelease (s : Node) (hs : FN m s) : FN m s.leaderRelease :=
  leaderRelease_of (fun x l hx _ _ _ _ _ _ => fn_congr (s' := x.withLdr l) hx rfl id) fn_reply
    (fun x l hx => fn_congr (s' := x.setLeader l) hx rfl id) (fun _ hx => fn_congr hx rfl id) s hs

theorem fn_releaseRole (s : Node) (r : Role) (hs : FN m s) : FN m (s.releaseRole r) :=
  releaseRole_of (fun _ _ hs => fn_congr hs rfl id) fn_leaderRelease s r hs

theorem setVotedFor_nobs (s : Node) (t c : Nat) :
    nobs (s.setVotedFor t c) = nobs s ∧ ((s.setVotedFor t c).panicked = none → s.panicked = none) :=
  ⟨(storeOrPanic_nobs _ _ s t c _).1, (storeOrPanic_nobs _ _ s t c _).2.2⟩

theorem fn_setRole (s : Node) (r : Role) (hs : FN m s) : FN m (s.setRole r) := fn_congr hs rfl id
theorem fn_setLeader (s : Node) (l : Nat) (hs : FN m s) : FN m (s.setLeader l) := fn_congr hs rfl id
theorem fn_votesNeeded (s : Node) (v : Int) (hs : FN m s) : FN m (s.withVotesNeeded v) := fn_congr hs rfl id
theorem fn_setVotedFor (s : Node) (t c : Nat) (hs : FN m s) : FN m (s.setVotedFor t c) := by
  obtain ⟨a, b⟩ := setVotedFor_nobs s t c
  exact fn_congr hs a b

theorem fn_startElection (s : Node) (hs : FN m s) : FN m s.startElection :=
  startElection_of s (fun _ _ _ => fn_panic _ _) fn_votesNeeded (fun _ hx => fn_setVotedFor _ _ _ hx)
    (fun _ hx _ => fn_setRole _ _ hx) fn_setLeader hs

/-- `y` has the state machine of `x` and has not cleared a failure -/
def KeepF (x y : Node) : Prop := y.fsm = x.fsm ∧ (y.panicked = none → x.panicked = none)

theorem KeepF.refl (x : Node) : KeepF x x := ⟨rfl, id⟩
theorem KeepF.trans {x y z : Node} (h1 : KeepF x y) (h2 : KeepF y z) : KeepF x z :=
  ⟨h2.1.trans h1.1, fun h => h1.2 (h2.2 h)⟩

theorem keepF_panic (s : Node) (site : String) : KeepF s (s.panic site) :=
  ⟨by rw [panic_shape], fun h => absurd h (panic_panicked_ne _ _)⟩

theorem keepF_resolveConflict (s : Node) (ne : Entry) (pt : Nat) : KeepF s (s.resolveConflict ne pt) := by
  unfold Node.resolveConflict
  refine ite_ind (fun _ => ?_) fun _ => KeepF.refl s
  cases s.entryTerm? ne.index with
  | none => exact keepF_panic s _
  | some _ => exact ite_ind (fun _ => ⟨rfl, id⟩) fun _ => ⟨rfl, id⟩

theorem keepF_appendEntry (s : Node) (e : Entry) : KeepF s (s.appendEntry e) := by
  unfold Node.appendEntry
  have ha : KeepF s (s.assert (e.index == s.lastLogIndex + 1) "assert.appendEntry") := by
    unfold Node.assert
    exact ite_ind (fun _ => KeepF.refl s) fun _ => keepF_panic s _
  exact ⟨ha.1, ha.2⟩

theorem keepF_changeConfigR (s : Node) (c : Config) : KeepF s (s.changeConfigR c) := by
  exact ⟨by rw [changeConfigR_shape], by rw [changeConfigR_shape]; exact id⟩

theorem keepF_appendLoop (es : List Entry) (st : AppLoop) : KeepF st.s (appendLoop st es).s :=
  appendLoop_keeps (Inv := KeepF st.s)
    (fun x ne _ h => h.trans ((keepF_resolveConflict x.s ne x.term).trans (keepF_appendEntry _ ne)))
    (fun x c h => h.trans (keepF_changeConfigR x c)) st es (KeepF.refl _)

theorem fn_ret (s : Node) (r : Nat) (hs : FN m s) : FN m (s.ret r) := fn_congr hs rfl id

theorem fn_setTerm (s : Node) (t : Nat) (hs : FN m s) : FN m (s.setTerm t) := by
  obtain ⟨a, _, c⟩ := setTerm_nobs s t
  exact fn_congr hs a c

theorem fn_appendCheck (s : Node) (q : AppendReq) (hs : FN m s) : FN m (s.appendCheck q) := by
  have hx : ∀ x, x = s ∨ x = s.panic "bug.mustGetEntry" → FN m x ∧ x.commitIndex = s.commitIndex := by
    rintro x (rfl | rfl)
    · exact ⟨hs, rfl⟩
    · exact ⟨fn_panic _ _, by rw [panic_shape]⟩
  exact appendCheck_cases s q (fun x r e _ => fn_ret _ _ (hx x e.eq).1) fun x e _ _ _ hcc =>
    fn_ret _ _ (fn_applyCommitted _ (fn_setCommitIndexR _ _ (hx x e.eq).1 (by rw [(hx x e.eq).2]; exact canCommit_gt hcc)))

/-- **`onAppendEntriesRequest` keeps the state machine's content right**, for a request that is not stale, carries
the indexes `prevLogIndex + 1, …` and does not conflict with the log at or below the commit index: entries are
only removed above the commit index, hence above what was applied -/
theorem fn_onAppendEntries (b : Node) (q : AppendReq) (hn : NWF b)
    (hidx : ∀ k (h : k < q.entries.length), q.entries[k].index = q.prevLogIndex + k + 1)
    (hst : ¬ q.term < b.term) (hnc : NoConf b q b.commitIndex) (hci : b.commitIndex ≤ b.log.entries.length)
    (hs : FN m b) : FN m (b.onAppendEntries q) := by
  rw [onAppendEntries_stages, if_neg hst]
  -- the term is adopted and the request checked: the log is that of `b`
  obtain ⟨g0, a2, a3, a4, a5, _⟩ := FollowerSpec.followPre_nwf b q
  have c0 : (followPre b q.term q.src).commitIndex = b.commitIndex := followPre_commitIndex b q.term q.src
  have n0 : FN m (followPre b q.term q.src) := by
    unfold followPre
    refine fn_setLeader _ _ (fn_setRole _ _ ?_)
    exact ite_ind (fun _ => fn_setRole _ _ (fn_setTerm _ _ hs)) fun _ => hs
  have w0 : NWF (followPre b q.term q.src) := nwf_congr hn g0 a2 a3 a4 a5
  generalize followPre b q.term q.src = p0 at *
  obtain ⟨e3, hchk⟩ := FollowerSpec.appendCheck_nwf p0 q w0
  obtain ⟨g3', _, _, _, w3'⟩ := FollowerSpec.lobs_parts e3
  have g3 : (p0.appendCheck q).log = b.log := g3'.trans g0
  have w3 := w3' w0
  have n3 : FN m (p0.appendCheck q) := fn_appendCheck p0 q n0
  have ci3 : (p0.appendCheck q).commitIndex = b.commitIndex ∨ (p0.appendCheck q).commitIndex = q.prevLogIndex := by
    rcases C02.follower_commit_rule_check p0 q with c | ⟨_, hci', _⟩
    · exact Or.inl (c.trans c0)
    · exact Or.inr hci'
  refine ite_ind (fun _ => n3) fun hres => ?_
  have hanch : q.prevLogIndex ≤ (p0.appendCheck q).log.entries.length := by
    rcases hchk with ⟨r | r, _⟩ | ⟨_, h, _⟩
    · exact absurd (by rw [r]; decide) hres
    · exact absurd (by rw [r]; decide) hres
    · rw [g3']; exact h
  generalize p0.appendCheck q = s3 at *
  -- the loop removed nothing at or below the commit index
  have c4 := (C02.appendLoop_commitIndex ⟨s3, q.prevLogIndex, q.prevLogTerm, false, false⟩ q.entries).1
  have k4 : KeepF s3 (appendLoop ⟨s3, q.prevLogIndex, q.prevLogTerm, false, false⟩ q.entries).s := keepF_appendLoop q.entries _
  have n4 : FN m (appendLoop ⟨s3, q.prevLogIndex, q.prevLogTerm, false, false⟩ q.entries).s := by
    obtain ⟨k, _, _, hc⟩ := FollowerSpec.appendLoop_spec q.entries ⟨s3, q.prevLogIndex, q.prevLogTerm, false, false⟩ w3
      hanch rfl hidx
    rcases hc with ⟨_, ps⟩ | ⟨hk, hna, mm, sp⟩
    · rw [ps.s]; exact n3
    · generalize appendLoop ⟨s3, q.prevLogIndex, q.prevLogTerm, false, false⟩ q.entries = r at *
      have hsp : r.s.log.entries = s3.log.entries.take (q.prevLogIndex + k) ++ (q.entries.drop k).take mm := sp.entries
      have hcut : s3.commitIndex ≤ q.prevLogIndex + k := by
        rcases ci3 with c | c
        · rw [c]; exact noConf_le hidx hk (by rw [← g3]; exact hna) hci hnc
        · rw [c]; omega
      have hlen3 : s3.commitIndex ≤ s3.log.entries.length := by
        rcases ci3 with c | c
        · rw [c, g3]; exact hci
        · rw [c]; exact hanch
      intro hp
      obtain ⟨f, w⟩ := n3 (k4.2 hp)
      have htake : r.s.log.entries.take s3.commitIndex = s3.log.entries.take s3.commitIndex := by
        rw [hsp, List.take_append_of_le_length (by rw [List.length_take]; omega), List.take_take,
          Nat.min_eq_left hcut]
      have hlen4 : s3.commitIndex ≤ r.s.log.entries.length := by
        have := congrArg List.length htake
        rw [List.length_take, List.length_take] at this
        omega
      have hfi : r.s.fsm.index ≤ s3.commitIndex := by rw [k4.1]; exact f.le
      refine ⟨⟨by rw [c4]; exact hfi, by omega, ?_, by rw [k4.1]; exact f.mono⟩, sp.nwf.prev, sp.nwf.last⟩
      rw [take_le_congr htake hfi, k4.1]; exact f.applied
  generalize appendLoop ⟨s3, q.prevLogIndex, q.prevLogTerm, false, false⟩ q.entries = st at *
  unfold afterLoop
  refine fn_ret _ _ (ite_ind (fun _ => ?_) fun _ => n4)
  have n6 : FN m (st.s.commitLog st.s.lastLogIndex) := fn_commitLog _ _ n4
  refine ite_ind (fun hcc => ?_) fun _ => n6
  obtain ⟨_, _, k3⟩ := C19.follower_commit_guard _ _ _ _ hcc
  exact fn_applyCommitted _ (fn_setCommitIndexR _ _ n6 k3)

theorem fn_rpcDone (s : Node) (a b : Bool) (hs : FN m s) : FN m (s.rpcDone a b) :=
  rpcDone_of (fun x site _ => fn_panic x site) (fun _ _ hx => fn_congr hx rfl id) s a b hs

/-- between the handler and the role transitions; `c` is the role whose `init` ran last -/
def G (m : Nat) (c : Role) (s : Node) : Prop :=
  s.panicked = none → FsmOK m s ∧ LW s ∧ (s.role = .leader → c = .leader → QOK s)

/-- **at step boundaries**: the state machine's content is right, and a leader's queue matches its log -/
structure FB (s : Node) : Prop where
  fsm : FsmOK 0 s
  queue : s.role = .leader → QOK s

/-- every log-type item waiting in a leader's queue is the log entry at its index -/
theorem FB.queue_get? {s : Node} (hF : FB s) (hn : NWF s) (hl : s.role = .leader) :
    ∀ q ∈ s.ldr.queue, isLogEntryTyp q.typ = true → s.log.get? q.index = some q.toEntry := by
  intro q hq ht
  have hget := hF.queue hl q hq ht
  obtain ⟨hlt, hge⟩ := List.getElem?_eq_some_iff.mp hget
  have hidx : q.index = q.index - 1 + 1 := by
    have := hn.contig (q.index - 1) hlt
    rw [hge] at this
    exact this
  rw [hn.get?, if_pos (by omega)]
  exact hget

theorem g_of_fl {m : Nat} {c : Role} {s : Node} (h : FL m s) : G m c s :=
  fun hp => ⟨(h hp).1, (h hp).2.1, fun _ _ => (h hp).2.2⟩

theorem g_of_fn {m : Nat} {c : Role} {s : Node} (h : FN m s) (hr : s.role ≠ .leader) : G m c s :=
  fun hp => ⟨(h hp).1, (h hp).2, fun hl => absurd hl hr⟩

theorem G.fn {m : Nat} {c : Role} {s : Node} (h : G m c s) : FN m s := fun hp => ⟨(h hp).1, (h hp).2.1⟩

/-- a handler that left the log, the commit index, the state machine and the leader record alone -/
theorem g_sx {b h : Node} {A : Nat → Nat → Prop} (hx : SX b A True h) (hs : FsmOK m b ∧ LW b)
    (hq : b.role = .leader → QOK b) : G m b.role h := by
  intro _
  have e := hx.core
  unfold LCore at e
  simp only [Prod.mk.injEq] at e
  obtain ⟨e1, e2, _, _, _⟩ := e
  obtain ⟨f, w⟩ := hs
  refine ⟨⟨by rw [hx.fsm, hx.ci]; exact f.le, by rw [hx.fsm, e1]; exact f.len, by rw [hx.fsm, e1]; exact f.applied,
      by rw [hx.fsm]; exact f.mono⟩,
    ⟨by rw [e1]; exact w.1, by rw [e2, e1]; exact w.2⟩, fun _ hl => ?_⟩
  intro q hq' ht
  rw [e1]
  exact hq hl q (by rw [← hx.ldr trivial]; exact hq') ht

/-- **every case of `handle`** other than an append request; a `.changeConfig` request is handled by a leader
(`leader.onChangeConfig`: checks, then the block) or refused by a bootstrapped node -/
theorem handle_g (b : Node) (op : Op) (hwf : C05.VoteWF b) (hok : OpOK op)
    (hboot : ∀ t c, op = .changeConfig t c → b.role ≠ .leader → b.configs.isBootstrapped = true)
    (happ : ∀ q, op ≠ .append q)
    (hs : FsmOK m b ∧ LW b) (hq : b.role = .leader → QOK b) : G m b.role (b.handle op) := by
  cases handle_kind b op with
  | quiet q => exact g_sx (q _ (sx_quiet b op True) (sx_refl b _ _ hwf)) hs hq
  | ldr hr c =>
    have F0 : FL m b := fun _ => ⟨hs.1, hs.2, hq hr⟩
    generalize b.handle op = h at c ⊢
    cases c with
    | store batch => exact g_of_fl ((flLdr.blk _).storeEntry _ _ F0)
    | change t c => exact g_of_fl (Block.onChangeConfig_of flLdr.blk flLdr.reply _ _ _ F0)
    | wait t => exact g_of_fl (flAt.onWaitForStable_of flLdr.reply _ _ F0)
    | transfer t g => exact g_of_fl (flLdr.onTransfer_inv trivial _ _ _ F0)
    | transferTimeout _ => exact g_of_fl (flLdr.replyTransfer_inv trivial _ _ F0)
    | timeoutNowResult a c d _ => exact g_of_fl (flLdr.onTimeoutNowResult_inv trivial _ _ _ _ F0)
    | newTermTimeout _ => exact g_of_fl (flLdr.tryTransfer_inv trivial _ (fl_ldr _ _ F0 rfl))
    | repl us => exact g_of_fl (fl_checkReplUpdates us hok _ F0)
  | special sp =>
    cases sp with
    | append q => exact absurd rfl (happ q)
    | bootstrap t c hr hb => rw [hboot t c rfl hr] at hb; cases hb
    | _ => exact hok.elim

/-- the boundary invariant, unless the step failed -/
def FBp (m : Nat) (s : Node) : Prop := s.panicked = none → FsmOK m s ∧ LW s ∧ (s.role = .leader → QOK s)

/-- **the role transitions after the handler** -/
theorem settle_g (h : Node) (cur : Role) (hg : G m cur h) : FBp m (settle 6 h cur) := by
  by_cases hrole : h.role = cur
  · have e : settle 6 h cur = h := settle_of_role hrole
    rw [e]
    intro hp
    obtain ⟨f, w, qk⟩ := hg hp
    exact ⟨f, w, fun hl => qk hl (by rw [← hrole]; exact hl)⟩
  · have FNr : ∀ x r, FN m x → FN m (x.releaseRole r) := fun x r hx => fn_releaseRole x r hx
    have roleR : ∀ (x : Node) r, (x.releaseRole r).role = x.role := fun x r => (SameKey.releaseRole x r).role
    have ofFN : ∀ x : Node, FN m x → x.role ≠ .leader → FBp m x :=
      fun x hx hr hp => ⟨(hx hp).1, (hx hp).2, fun hl => absurd hl hr⟩
    have ofFL : ∀ x : Node, FL m x → FBp m x := fun x hx hp => ⟨(hx hp).1, (hx hp).2.1, fun _ => (hx hp).2.2⟩
    have LI : ∀ (x post : Node), FN m x →
        ((x.leaderInit.role = .leader ∧ post = x.leaderInit) ∨
          (x.leaderInit.role = .follower ∧ post = x.leaderInit.releaseRole .leader)) → FBp m post := by
      intro x post hx hc
      have hl := fl_leaderInit x hx
      rcases hc with ⟨_, e⟩ | ⟨hr, e⟩
      · rw [e]; exact ofFL _ hl
      · rw [e]
        exact ofFN _ (FNr _ _ hl.fn) (by rw [roleR, hr]; decide)
    cases settle_shape 3 h cur hrole with
    | follower hf e =>
      rw [e]
      exact ofFN _ (FNr _ _ hg.fn) (by rw [roleR, hf]; decide)
    | leader x hl e hc => exact LI x _ (by rw [e]; exact FNr _ _ hg.fn) hc
    | cand hc e hr =>
      rw [e]
      refine ofFN _ (fn_startElection _ (FNr _ _ hg.fn)) ?_
      rw [← e, hr]; decide
    | candLeader x hc hl e hcases =>
      exact LI x _ (by rw [e]; exact FNr _ _ (fn_startElection _ (FNr _ _ hg.fn))) hcases

/-- **One step of a node keeps the state machine's content right** — for every operation of the `_partial`
model (`OpOK2`), unless the step fails an assertion (`panicked`): afterwards the state machine holds exactly the
update payloads of the log entries `1 … fsm.index`, in order, `fsm.index ≤ commitIndex`, the applied index is
not below the one before the step, and a leader's queue matches its log. For an append request that is not stale the hypothesis `happ` is what the system guarantees
(`C02Sys.reqok`): consecutive indexes and no conflict with the log at or below the commit index. -/
theorem fsm_step (pre : Node) (op : Op) (ra : List Nat) (ord : List (List Nat)) (hn : NWF pre)
    (hl : C06.LogWF pre.log) (hwf : C05.VoteWF pre) (hok : OpOK2 op) (hfb : FB pre)
    (happ : ∀ q, op = .append q → ¬ q.term < pre.term →
      (∀ k (h : k < q.entries.length), q.entries[k].index = q.prevLogIndex + k + 1) ∧
      NoConf pre q pre.commitIndex ∧ pre.commitIndex ≤ pre.log.entries.length) :
    FBp pre.fsm.index (pre.step op ra ord) := by
  have hbn : NWF (pre.begin ra ord) := nwf_congr hn rfl rfl rfl rfl rfl
  have hbwf : C05.VoteWF (pre.begin ra ord) := hwf
  have hpost := step_settle pre op ra ord (fun e => by subst e; exact hok.1)
  have hs : FsmOK pre.fsm.index (pre.begin ra ord) ∧ LW (pre.begin ra ord) :=
    ⟨⟨hfb.fsm.le, hfb.fsm.len, hfb.fsm.applied, Nat.le_refl _⟩, hn.prev, hn.last⟩
  have hq : (pre.begin ra ord).role = .leader → QOK (pre.begin ra ord) := fun hr => hfb.queue hr
  rw [hpost]
  apply settle_g
  by_cases ha : ∃ q, op = .append q
  · obtain ⟨q, rfl⟩ := ha
    show G _ _ (((pre.begin ra ord).onAppendEntries q).rpcDone false true)
    by_cases hst : q.term < pre.term
    · rw [C04.stale_append_refused (pre.begin ra ord) q hst]
      have S0 : SX (pre.begin ra ord) AF True (pre.begin ra ord) := sx_refl _ _ _ hbwf
      exact g_sx (sx_rpcDone _ _ (sx_ret _ S0)) hs hq
    · obtain ⟨h1, h2, h3⟩ := happ q rfl hst
      have hfn : FN pre.fsm.index ((pre.begin ra ord).onAppendEntries q) :=
        fn_onAppendEntries (pre.begin ra ord) q hbn h1 hst h2 h3 (fun _ => hs)
      refine g_of_fn (fn_rpcDone _ _ _ hfn) ?_
      have hr : (((pre.begin ra ord).onAppendEntries q).rpcDone false true).role = .follower :=
        (SameKey.rpcDone _ _ _).role.trans (onAppendEntries_role (pre.begin ra ord) q hst)
      rw [hr]; decide
  · exact handle_g (pre.begin ra ord) op hbwf hok.1 (fun t c e => absurd e (hok.2.2 t c)) (fun q hq' => ha ⟨q, hq'⟩) hs hq

/-- Runs of `Raft.Commit` in which no step fails an assertion: in every state after a transition every node's
`panicked` is `none`. (The model records a failed assertion in `panicked` and continues on a totalised path whose
results are meaningless; in the implementation the process dies. `Node.begin` clears the flag, so it only ever
describes the node's last step.) -/
inductive ReachableNP (V : List Nat) : Commit.Sys → Prop
  | init (x : Commit.Sys) : Commit.Init x → SideV V x → ReachableNP V x
  | next (x y : Commit.Sys) : ReachableNP V x → Commit.Trans x y → SideV V y →
      (∀ i, (y.node i).panicked = none) → ReachableNP V y

theorem np_reachable {V : List Nat} {x : Commit.Sys} (h : ReachableNP V x) : Commit.ReachableV V x := by
  induction h with
  | init x hi hs => exact .init x hi hs
  | next x y _ ht hs _ ih => exact .next x y ih ht hs

def FsmInv (x : Commit.Sys) : Prop := ∀ i, FB (x.node i)

theorem fsmInv_init {x : Commit.Sys} (hi : Commit.Init x) : FsmInv x := by
  intro i
  obtain ⟨_, _, h3, _, h5⟩ := hi.nodes i
  refine ⟨⟨by rw [h5]; exact Nat.zero_le _, by rw [h5]; exact Nat.zero_le _, by rw [h5]; rfl, Nat.zero_le _⟩,
    fun hl => ?_⟩
  rw [(hi.rp.el.1 i).2.2] at hl; cases hl

/-- a restarted node starts with an empty state machine: `FsmInv` after a crash and restart -/
theorem fsmInv_crash {V : List Nat} {x : Commit.Sys} {i : Nat} {op : Op} {ra : List Nat} {ord : List (List Nat)}
    {src k retain : Nat} {sor : Bool} {n : Node} (cc : CC V x i op ra ord src k retain sor n) (hF : FsmInv x) :
    FsmInv (crashC x i op n) := by
  intro j
  show FB ((crashC x i op n).node j)
  by_cases hj : j = i
  · subst hj
    rw [cc.node_i]
    obtain ⟨_, _, _, hr, hc, hf, _, _, _⟩ := cc.facts
    refine ⟨⟨by rw [hf]; exact Nat.zero_le _, by rw [hf]; exact Nat.zero_le _, by rw [hf]; rfl, Nat.zero_le _⟩,
      fun hl => ?_⟩
    rw [hr] at hl; cases hl
  · rw [cc.node_j hj]; exact hF j

theorem fsmInv_trans {V : List Nat} (hV : V.Nodup) {x y : Commit.Sys} (hI : CInv V x) (hS : SideV V x)
    (hF : FsmInv x) (ht : Commit.Trans x y) (hp : ∀ i, (y.node i).panicked = none) : FsmInv y := by
  cases ht with
  | step i op ra ord src he =>
    have sc : SC V x i op ra ord src := ⟨hV, hI, hS, he⟩
    intro j
    show FB ((stepC x i op ra ord src).node j)
    by_cases hj : j = i
    · subst hj
      have hpj : ((stepC x j op ra ord src).node j).panicked = none := hp j
      rw [sc.node_i] at hpj ⊢
      have := fsm_step (x.node j) op ra ord (nwf hI j) (hI.node.lwf j) (hI.rp.el.ids j).2 he.ok2 (hF j)
        (fun q hq hst => by
          subst hq
          have hq : q ∈ x.rp.sent := (he.rp.append q rfl).resolve_left hst
          refine ⟨(hI.rp.sent q hq).idx, reqok hI hq hst, ?_⟩
          by_cases h0 : (x.node j).commitIndex = 0
          · rw [h0]; exact Nat.zero_le _
          · exact (hI.cmt.cc j _ (by omega) (Nat.le_refl _)).1)
      obtain ⟨f, _, qk⟩ := this hpj
      exact ⟨f.weaken (Nat.zero_le _), qk⟩
    · rw [sc.node_j hj]; exact hF j
  | crash i op ra ord src k retain sor n he hn =>
    exact fsmInv_crash (⟨⟨hV, hI, hS, he⟩, hn⟩ : CC V x i op ra ord src k retain sor n) hF
  | send i q hi hl hr hc => exact hF

theorem fsmInv_reachable {V : List Nat} (hV : V.Nodup) {x : Commit.Sys} (h : ReachableNP V x) : FsmInv x := by
  induction h with
  | init x hi hs => exact fsmInv_init hi
  | next x y hx ht hs hp ih =>
    obtain ⟨hI, hS⟩ := inv_reachable hV (np_reachable hx)
    exact fsmInv_trans hV hI hS ih ht hp

/-- two logs agree on every prefix that both commit indexes cover -/
theorem agree_take {V : List Nat} {x : Commit.Sys} (hI : CInv V x) {i j F : Nat}
    (hi : F ≤ (x.node i).commitIndex) (hj : F ≤ (x.node j).commitIndex) :
    (x.node i).log.entries.take F = (x.node j).log.entries.take F :=
  (core_of_cinv hI).agree_take (chained hI) hi hj

/-- `state_machine_safety_sys_partial` on the invariants: for any cluster whose invariant gives `Commit.CoreI`, whose
ledger of commits lies on one path (`Commit.Chained`) and that has `FsmInv` — the reachable states of `Raft.Commit`, the
views of the systems with snapshots (Props/C09Sys.lean), the system with membership changes (Props/C03Member.lean) -/
theorem state_machine_safety_of {x : Commit.Sys} {A : List Ack} (hC : CoreI x A) (hch : Chained x) (hF : FsmInv x) :
    (∀ i, (x.node i).fsm.index ≤ (x.node i).commitIndex ∧
      (x.node i).fsm.index ≤ (x.node i).log.entries.length ∧
      (x.node i).fsm.applied = ups ((x.node i).log.entries.take (x.node i).fsm.index)) ∧
    (∀ i k, 1 ≤ k → k ≤ (x.node i).fsm.index → Committed x (k, termAt (x.node i).log.entries k)) ∧
    (∀ i j, (x.node i).fsm.index ≤ (x.node j).fsm.index →
      (x.node i).log.entries.take (x.node i).fsm.index = (x.node j).log.entries.take (x.node i).fsm.index ∧
      (x.node i).fsm.applied <+: (x.node j).fsm.applied) ∧
    (∀ i j, (x.node i).fsm.applied <+: (x.node j).fsm.applied ∨
      (x.node j).fsm.applied <+: (x.node i).fsm.applied) := by
  have P3 : ∀ i j, (x.node i).fsm.index ≤ (x.node j).fsm.index →
      (x.node i).log.entries.take (x.node i).fsm.index = (x.node j).log.entries.take (x.node i).fsm.index ∧
      (x.node i).fsm.applied <+: (x.node j).fsm.applied := by
    intro i j hle
    have fi := (hF i).fsm
    have fj := (hF j).fsm
    have e := hC.agree_take hch (i := i) (j := j) (F := (x.node i).fsm.index) fi.le (Nat.le_trans hle fj.le)
    refine ⟨e, ?_⟩
    rw [fi.applied, fj.applied, e, take_split (x.node j).log.entries _ _ hle, ups_append]
    exact List.prefix_append _ _
  refine ⟨fun i => ⟨(hF i).fsm.le, (hF i).fsm.len, (hF i).fsm.applied⟩, fun i k hk hki => ?_, P3, fun i j => ?_⟩
  · obtain ⟨_, m, hm, _, m2⟩ := hC.covered hk (Nat.le_trans hki (hF i).fsm.le)
    exact ⟨m, hm, m2⟩
  · rcases Nat.le_total (x.node i).fsm.index (x.node j).fsm.index with hle | hle
    · exact Or.inl (P3 i j hle).2
    · exact Or.inr (P3 j i hle).2

/-- **C03, state-machine safety, cluster level — fixed voter set, fixed stable configuration, no snapshots,
runs without failed assertions (partial).** Let `V` be a duplicate-free list of node ids and `x` a state of the
cluster reachable in the transition system `Raft.Commit` (any schedule, any message delay / loss / duplication /
reordering, crashes at any storage point + restart; the assumptions and `_partial` restrictions of
`C02Sys.leader_completeness_sys_partial`) by a run in which no step fails an assertion (`ReachableNP`). Then:
1. on every node the state machine has been fed exactly the update commands of its log entries
   `1 … fsm.index`, in log-index order, without gaps, each once: `fsm.applied` is the list of the payloads of the
   update entries among them — and it never ran ahead of the commit index;
2. every entry it has been fed is committed (an ancestor-or-equal, in the tree of created entries, of an entry a
   leader committed by the majority rule);
3. a node that applied no more than another holds the same entries up to its applied index, and its command
   sequence is a prefix of the other's;
4. hence the command sequences applied on any two nodes are prefixes of one common sequence. -/
theorem state_machine_safety_sys_partial (V : List Nat) (hV : V.Nodup) (x : Commit.Sys) (h : ReachableNP V x) :
    (∀ i, (x.node i).fsm.index ≤ (x.node i).commitIndex ∧
      (x.node i).fsm.index ≤ (x.node i).log.entries.length ∧
      (x.node i).fsm.applied =
        (((x.node i).log.entries.take (x.node i).fsm.index).filter (·.typ == etUpdate)).map (·.data)) ∧
    (∀ i k, 1 ≤ k → k ≤ (x.node i).fsm.index → Committed x (k, termAt (x.node i).log.entries k)) ∧
    (∀ i j, (x.node i).fsm.index ≤ (x.node j).fsm.index →
      (x.node i).log.entries.take (x.node i).fsm.index = (x.node j).log.entries.take (x.node i).fsm.index ∧
      (x.node i).fsm.applied <+: (x.node j).fsm.applied) ∧
    (∀ i j, (x.node i).fsm.applied <+: (x.node j).fsm.applied ∨
      (x.node j).fsm.applied <+: (x.node i).fsm.applied) :=
  have hI := (inv_reachable hV (np_reachable h)).1
  state_machine_safety_of (core_of_cinv hI) (chained hI) (fsmInv_reachable hV h)

/-- **the leader's queue** (same assumptions): every log-type item waiting in a leader's queue — the items
`leader.applyCommitted` hands to the state machine instead of reading the log — is the log entry at its index. -/
theorem leader_queue_is_log_sys_partial (V : List Nat) (hV : V.Nodup) (x : Commit.Sys) (h : ReachableNP V x) :
    ∀ i, (x.node i).role = .leader → ∀ q ∈ (x.node i).ldr.queue, isLogEntryTyp q.typ = true →
      (x.node i).log.get? q.index = some q.toEntry := by
  obtain ⟨hI, _⟩ := inv_reachable hV (np_reachable h)
  exact fun i => (fsmInv_reachable hV h i).queue_get? (nwf hI i)

/-- **the state machine only moves forward, by appending** (same assumptions): when a node handles an enabled
operation to completion without a failed assertion, its applied index does not decrease and the new command
sequence is the old one followed by the update payloads of the entries between the old and the new applied
index — no command is fed twice, none is skipped, nothing already fed is taken back. (A crash + restart starts a
new state-machine lifetime with nothing applied.) -/
theorem applied_only_grows_sys_partial (V : List Nat) (hV : V.Nodup) (x : Commit.Sys) (h : ReachableNP V x)
    (i : Nat) (op : Op) (ra : List Nat) (ord : List (List Nat)) (src : Nat) (he : Commit.Enabled x i op src)
    (hp : ((x.node i).step op ra ord).panicked = none) :
    (x.node i).fsm.index ≤ ((x.node i).step op ra ord).fsm.index ∧
    ((x.node i).step op ra ord).fsm.applied = (x.node i).fsm.applied ++
      ups ((((x.node i).step op ra ord).log.entries.drop (x.node i).fsm.index).take
        (((x.node i).step op ra ord).fsm.index - (x.node i).fsm.index)) := by
  obtain ⟨hI, hS⟩ := inv_reachable hV (np_reachable h)
  have hF := fsmInv_reachable hV h
  have sc : SC V x i op ra ord src := ⟨hV, hI, hS, he⟩
  have st := fsm_step (x.node i) op ra ord (nwf hI i) (hI.node.lwf i) (hI.rp.el.ids i).2 he.ok2 (hF i)
    (fun q hq hst => by
      subst hq
      have hq : q ∈ x.rp.sent := (he.rp.append q rfl).resolve_left hst
      refine ⟨(hI.rp.sent q hq).idx, reqok hI hq hst, ?_⟩
      by_cases h0 : (x.node i).commitIndex = 0
      · rw [h0]; exact Nat.zero_le _
      · exact (hI.cmt.cc i _ (by omega) (Nat.le_refl _)).1)
  obtain ⟨f, _, _⟩ := st hp
  have keep := (committed_never_replaced_sys_partial V hV x (np_reachable h)).2.1 i op ra ord src he
  exact ⟨f.mono, ((hF i).fsm.extends f (nwf hI i) sc.nwf_post fun k h1 h2 => (keep k h1 h2).1).2⟩

/-! ### Examples (non-vacuity) -/

/-- example: the run `ex0 → ex1` of C02Sys (election timeout of node 1) has no failed assertion -/
example : [1, 2, 3].Nodup ∧ ReachableNP [1, 2, 3] C02Sys.ex1 := by
  refine ⟨by decide, .next C02Sys.ex0 C02Sys.ex1 (.init _ C02Sys.ex0_init.1 C02Sys.ex0_init.2) C02Sys.ex1_trans
    C02Sys.ex1_side (fun i => ?_)⟩
  by_cases h : i = 1
  · subst h; decide
  · show (setNode C04Sys.exNode 1 _ i).panicked = none
    rw [setNode_other _ _ _ _ h]; rfl

/-- example: the hypotheses of `applied_only_grows_sys_partial` hold for the election timeout of node 1 in the
initial state `C02Sys.ex0` -/
example : ReachableNP [1, 2, 3] C02Sys.ex0 ∧ Commit.Enabled C02Sys.ex0 1 .timeout 0 ∧
    ((C02Sys.ex0.node 1).step .timeout [] []).panicked = none :=
  ⟨.init _ C02Sys.ex0_init.1 C02Sys.ex0_init.2,
   ⟨⟨by decide, (fun q h => by cases h), (fun ⟨_, _, _, h⟩ => by cases h), trivial, (fun q h => by cases h)⟩,
    ⟨trivial, (fun b h => by cases h), (fun t c h => by cases h)⟩, (fun q h => by cases h),
    (fun q h => by cases h), (fun us h => by cases h)⟩,
   by decide⟩

/-- a node whose state machine is at 2 over the log (1, update "a") (2, no-op) (3, update "b") -/
def exN : Node :=
  { log := { entries := [{ index := 1, term := 1, typ := etUpdate, data := "a" },
                         { index := 2, term := 1, typ := etNop },
                         { index := 3, term := 2, typ := etUpdate, data := "b" }] },
    lastLogIndex := 3, commitIndex := 2, fsm := { index := 2, term := 1, applied := ["a"] } }

/-- example for the node-level invariant -/
example : FsmOK 1 exN := ⟨by decide, by decide, by decide, by decide⟩

/-! evaluation (tests, not proofs) of a scenario that continues `C02Sys.ex7` (node 1 leads term 2, index 2 is
committed): the leader accepts the update "a" at index 3, replicates it to nodes 2 and 3, commits and applies it;
a heartbeat carries the commit index to node 2, which applies it too. No assertion fails on the way. -/

def ex8 : Commit.Sys := stepC C02Sys.ex7 1 (.newEntries [{ typ := etUpdate, data := "a", task := 7 }]) [] [] 0
def exReq2 : AppendReq :=
  { term := 2, src := 1, prevLogIndex := 2, prevLogTerm := 2, ldrCommitIndex := 2,
    entries := (ex8.node 1).log.entries.drop 2 }
def ex9 : Commit.Sys := stepC (stepC (sendC ex8 exReq2) 2 (.append exReq2) [] [] 0) 3 (.append exReq2) [] [] 0
def ex10 : Commit.Sys :=
  stepC ex9 1 (.replUpdates [{ id := 2, upd := .matchIndex 3 }, { id := 3, upd := .matchIndex 3 }]) [] [] 0
def exReq3 : AppendReq :=
  { term := 2, src := 1, prevLogIndex := 3, prevLogTerm := 2, ldrCommitIndex := 3, entries := [] }
def ex11 : Commit.Sys := stepC (sendC ex10 exReq3) 2 (.append exReq3) [] [] 0

#guard (ex8.node 1).panicked.isNone && (ex8.node 1).log.entries.length == 3 && (ex8.node 1).ldr.queue.length == 1
#guard (ex9.node 2).panicked.isNone && (ex9.node 3).panicked.isNone && (ex9.node 2).log.entries.length == 3
#guard (ex10.node 1).panicked.isNone && (ex10.node 1).commitIndex == 3 && (ex10.node 1).fsm.index == 3
#guard (ex10.node 1).fsm.applied == ["a"] && (ex10.node 1).ldr.queue.isEmpty && ex10.committed == [(3, 2), (2, 2)]
#guard (ex10.node 2).fsm.applied == [] && (ex10.node 2).fsm.index == 2
#guard (ex11.node 2).panicked.isNone && (ex11.node 2).commitIndex == 3 && (ex11.node 2).fsm.applied == ["a"]

end C03Sys
end Raft

#print axioms Raft.C03Sys.fsm_step
#print axioms Raft.C03Sys.fsmInv_reachable
#print axioms Raft.C03Sys.state_machine_safety_sys_partial
#print axioms Raft.C03Sys.applied_only_grows_sys_partial
#print axioms Raft.C03Sys.leader_queue_is_log_sys_partial
