/-
C07 (client-visible semantics), second part.

PART 1 — leadership lost, for ANY reason and under ANY operation (no `_partial` restriction: membership changes,
snapshots, shutdown … are all covered; node level, every state): `role_change_never_rejects_definitely`,
`step_definite_only_from_handler`, `lost_leadership_answers_pending_ambiguously`.

PART 2 — answers and crash points (`answer_precedes_storage_point`, `crash_after_all_points`): the modelling decision
"a crashed step delivers no answer" (Props/C07Sys.lean) is a STRICT under-approximation: in the model (and in the Go
code: `leader.storeEntry` runs `applyCommitted` for a read/barrier at the head of the queue BEFORE the single-voter
commit `onMajorityCommit → storage.commitLog`) an answer can be delivered before a later storage point of the same step.

PART 3 — `barrier_ok_means_applied_node`: what an `ok` (barrier) / value (read, update) answer of `leader.applyCommitted`
means, at the only place where queued tasks are answered (node level; NOT lifted to the ledger invariant of
`Sys/Commit`: the guarded closure `ClientRel.RClosed` lets the generic part of a step answer `ok` to any task, so tying an
`ok` in the answer ledger to a barrier submission needs a finer closure).

PART 4 — `answers_before_crash_are_sound_partial`: the ledger invariant `C07Sys.CL` survives a crash transition that had
delivered answers `A` before the crash point, for answers of the kind that can precede a storage point (`Early`).
-/
import RaftVerif.Lemmas.ClientRel2
import RaftVerif.Props.C07Sys

namespace Raft
namespace C07Sys2
open Node ClientRel ClientRel2

/-! ### Part 1: leadership lost -/

/-- **No answer of a role transition is a definite rejection.** `h`: the node after the handler of a step, `cur`: the
role whose `init` ran last. Every answer in the reply list after the role transitions (`settle`, any number of rounds)
was already there, or is no definite rejection. Holds for every state, whatever made the role change (a membership change
that removes or demotes the leader included). -/
theorem role_change_never_rejects_definitely (h : Node) (cur : Role) (n : Nat) :
    ∀ r ∈ (settle n h cur).replies, r ∈ h.replies ∨ ¬ Definite r.result :=
  (newND_closed h.replies).settle_inv trivial trivial n h cur (fun _ hr => Or.inl hr)

/-- **A definite rejection is given by the handler, never by the role transition**, for EVERY operation and state. -/
theorem step_definite_only_from_handler (pre : Node) (op : Op) (ra : List Nat) (ord : List (List Nat)) :
    ∀ r ∈ (pre.step op ra ord).replies, Definite r.result → r ∈ ((pre.begin ra ord).handle op).replies := by
  intro r hr hd
  by_cases hs : op = .shutdown
  · subst hs; exact hr
  · rw [Node.step_eq_settle pre op ra ord hs] at hr
    rcases role_change_never_rejects_definitely _ _ _ r hr with h | h
    · exact h
    · exact absurd hd h

theorem harmless_releaseErr' (s : Node) : Harmless (C07.releaseErr s) := by
  have := RBase.harmless_releaseErr (if s.leader = s.nid then s.setLeader 0 else s)
  unfold C07.releaseErr
  have e : (if s.leader = s.nid then s.setLeader 0 else s).isClosed = s.isClosed := by split <;> rfl
  rw [e] at this
  exact this

/-- the queue `leader.release` answers is the one the handler left -/
theorem release_head_queue (h : Node) :
    (if h.ldr.transfer.active then h.transferReply h.releaseResult else h).ldr.queue = h.ldr.queue := by
  split
  · unfold Node.transferReply
    show (h.reply _ _).ldr.queue = _
    rw [(reply_fields _ _ _).2.2.2.2.2.2.1]
  · rfl

/-- **Leadership lost ⇒ every pending entry is answered, ambiguously.** `h`: the node after the handler of a step that
began as leader; if `h` is no longer leader then for every entry `q` still queued (with a task) the reply list at the end
of the step holds an answer to `q.task` that is neither a value nor a definite rejection. -/
theorem lost_leadership_answers_pending_ambiguously (h : Node) (n : Nat) (hr : h.role ≠ .leader)
    (q : QItem) (hq : q ∈ h.ldr.queue) (h0 : q.task ≠ 0) :
    ∃ r ∈ (settle (n + 1) h .leader).replies, r.task = q.task ∧ Harmless r.result := by
  let h1 := if h.ldr.transfer.active then h.transferReply h.releaseResult else h
  have hq1 : q ∈ h1.ldr.queue := by rw [release_head_queue]; exact hq
  have hm := C07.lost_leadership_replies_mem h1 q hq1 h0
  have hrel : h.releaseRole .leader = h1.leaderReleaseRest := rfl
  have hC := has_closed [({ task := q.task, result := C07.releaseErr h1 } : Reply)]
  have H0 : Has [({ task := q.task, result := C07.releaseErr h1 } : Reply)] (h.releaseRole .leader) := by
    intro r hr'
    rw [List.mem_singleton.mp hr', hrel]; exact hm
  have H1 := hC.initRole_inv trivial trivial _ H0
  have H2 := hC.settle_inv trivial trivial n _ (h.releaseRole .leader).role H1
  refine ⟨{ task := q.task, result := C07.releaseErr h1 }, ?_, rfl, harmless_releaseErr' h1⟩
  rw [settle_step hr]
  exact H2 _ (List.mem_singleton.mpr rfl)

/-- the same, for a step: a leader that handled `op` and is no longer leader after the handler -/
theorem step_lost_leadership_answers_pending (pre : Node) (op : Op) (ra : List Nat) (ord : List (List Nat))
    (hs : op ≠ .shutdown) (hl : pre.role = .leader) (hr : ((pre.begin ra ord).handle op).role ≠ .leader)
    (q : QItem) (hq : q ∈ ((pre.begin ra ord).handle op).ldr.queue) (h0 : q.task ≠ 0) :
    ∃ r ∈ (pre.step op ra ord).replies, r.task = q.task ∧ Harmless r.result ∧ ¬ Definite r.result := by
  rw [Node.step_eq_settle pre op ra ord hs, hl]
  obtain ⟨r, h1, h2, h3⟩ := lost_leadership_answers_pending_ambiguously _ 5 hr q hq h0
  exact ⟨r, h1, h2, h3, h3.2⟩

/-- a vote request of a higher term -/
def exVoteOp : Op := .vote { term := 5, src := 2, lastLogIndex := 9, lastLogTerm := 4, transfer := true }

/-- EXAMPLE (hypotheses satisfiable, non-trivially): the leader `C06Cache.exLeader` (update "x" queued for task 9,
not committed) receives a vote request (leadership transfer) of a higher term: it steps down, task 9 is answered `notLeader:0:true`. -/
example :
    exVoteOp ≠ .shutdown ∧ C06Cache.exLeader.role = .leader ∧
    ((C06Cache.exLeader.begin [] []).handle exVoteOp).role ≠ .leader ∧
    ((C06Cache.exLeader.begin [] []).handle exVoteOp).ldr.queue.map (·.task) = [9] ∧
    (C06Cache.exLeader.step exVoteOp [] []).replies = [{ task := 9, result := notLeaderStr 0 true }] := by
  refine ⟨?_, rfl, by decide +kernel, by decide +kernel, by decide +kernel⟩
  intro h; unfold exVoteOp at h; cases h

/-! ### Part 2: answers and crash points -/

/-- a crash "after the last storage point" of a step (`k` beyond the trace) leaves on disk what the completed step
leaves: such a crash, with ALL answers of the step delivered, is the run "the step completes; the node dies at the very
beginning (`k = 0`) of its next step" — which the transition systems already contain. -/
theorem crash_after_all_points (s : Node) (op : Op) (ra : List Nat) (ord : List (List Nat)) (k : Nat)
    (hk : (s.step op ra ord).trace.length < k) (op' : Op) (ra' : List Nat) (ord' : List (List Nat)) :
    C05.crashDisk s op ra ord k = C05.crashDisk (s.step op ra ord) op' ra' ord' 0 := by
  cases k with
  | zero => omega
  | succ k =>
    show (match (s.step op ra ord).trace[k]? with
      | some p => p.2
      | none => (s.step op ra ord).durable) = (s.step op ra ord).durable
    rw [List.getElem?_eq_none (by omega)]

/-- the batch of the witness: a read, then an update -/
def exBatchRU : List QItem := [{ typ := etRead, task := 8 }, { typ := etUpdate, data := "y", task := 7 }]

/-- the single-voter leader `C15Tasks.exSolo` inside `leader.storeEntry`, after the loop over the batch and the
head-of-queue call of `applyCommitted`, before `onMajorityCommit` -/
def exMid : Node := (storeItems 71 (C15Tasks.exSolo.begin [] []) exBatchRU).applyCommittedL

/-- `storeEntry` when the head of the queue is a read/barrier and the leader is the only voter: the loop, then
`applyCommitted`, then the commit -/
theorem storeEntry_head_rule (f : Nat) (s : Node) (b : List QItem) (q : QItem) (qs : List QItem)
    (hq : (storeItems f s b).ldr.queue = q :: qs) (hn : isLogEntryTyp q.typ = false)
    (hl : (storeItems f s b).applyCommittedL.lastLogIndex > s.lastLogIndex)
    (hv : (storeItems f s b).applyCommittedL.beginFinishedRounds.notifyFlr.ldr.numVoters = 1 ∧
          (storeItems f s b).applyCommittedL.beginFinishedRounds.notifyFlr.ldr.node.voter = true) :
    storeEntry (f + 1) s b =
      onMajorityCommit f (storeItems f s b).applyCommittedL.beginFinishedRounds.notifyFlr := by
  unfold storeEntry
  dsimp only
  rw [hq]
  dsimp only
  simp only [hn, Bool.not_false, ↓reduceIte]
  rw [if_pos hl, if_pos hv]

/-- **WITNESS (proved): an answer is delivered BEFORE a later storage point of the same step.** The single-voter leader
`exSolo` (log: configuration, no-op, update "x"; all committed and applied) is handed the batch [read (task 8), update
"y" (task 7)]. Inside `storeEntry`, at `exMid`, the read has been answered (`val:1`) and NO storage point has been passed
(`trace = []`); the step goes on with `onMajorityCommit`, whose `commitLog` is the one storage point of the step, and
answers the update after it. A process death at that point before the flush (`crashDisk … 0`) leaves a disk without
"y" — and the client of task 8 has its answer. (The answer is sound: it counts the updates of the prefix that was
committed before the step.) -/
theorem answer_precedes_storage_point :
    let pre := C15Tasks.exSolo
    let op : Op := .newEntries exBatchRU
    exMid.replies = [{ task := 8, result := valStr 1 }] ∧ exMid.trace.length = 0 ∧
    storeEntry 72 (pre.begin [] []) exBatchRU = onMajorityCommit 71 exMid.beginFinishedRounds.notifyFlr ∧
    (pre.step op [] []).replies = [{ task := 8, result := valStr 1 }, { task := 7, result := valStr 2 }] ∧
    (pre.step op [] []).trace.map (·.1) = ["commitLog"] ∧ (pre.step op [] []).panicked = none ∧
    (C05.crashDisk pre op [] [] 0).log.entries.length = 3 ∧
    (C05.crashDisk pre op [] [] 1).log.entries.length = 4 := by
  refine ⟨by decide +kernel, by decide +kernel, ?_, by decide +kernel, by decide +kernel, by decide +kernel,
    by decide +kernel, by decide +kernel⟩
  exact storeEntry_head_rule 71 _ exBatchRU { index := 4, term := 1, typ := etRead, task := 8 }
    [{ index := 4, term := 1, typ := etUpdate, data := "y", task := 7 }]
    (by decide +kernel) (by decide) (by decide +kernel) (by decide +kernel)

/-! ### Part 3: what an `ok` (barrier) or a value (read) answer of `leader.applyCommitted` means — node level -/

/-- unless an assertion failed, `fsmApply` leaves the applied index at the commit index -/
theorem fsmApply_index_commit (s : Node) (items : List QItem) (hp : (s.fsmApply items).panicked = none) :
    (s.fsmApply items).fsm.index = s.commitIndex := by
  have hci : (s.fsmApply items).commitIndex = s.commitIndex := fsmFrame_commitIndex.fsmApply_eq s items
  rw [← hci]
  revert hp
  unfold Node.fsmApply
  split
  · exact fun hp => absurd hp (panic_panicked_ne _ _)
  · split
    · exact fun hp => absurd hp (panic_panicked_ne _ _)
    · extract_lets front s1 s2
      intro hp
      have hc : (s2.fsm.index == s2.commitIndex) = true := Order.assert_true hp
      have e2 : s2.assert (s2.fsm.index == s2.commitIndex) "fsm.assertCommit" = s2 := by
        unfold Node.assert; rw [if_pos hc]
      rw [e2]
      simpa using hc

/-- **What an answer of `leader.applyCommitted` means** (the only place a queued task gets `ok` or a value). `s`: a
leader state inside a step that satisfies the step invariant `FL 0` of C03Sys (the state machine holds exactly the update
payloads of the applied log prefix; the log starts at index 1; every log-type queue item is the log entry at its index) —
which `C03Sys` proves for every reachable state of `Sys/Commit` and every intermediate state of a step. If the call does not
fail, then every NEW answer belongs to a queued item `q` with `q.index ≤ commitIndex + 1`, and at that moment the applied
index equals the commit index and the state machine holds exactly the update payloads of the first `commitIndex` log
entries — so EVERY log entry below `q.index` (all entries the leader had accepted when it stamped `q`: a barrier or read is
stamped `lastLogIndex + 1`, `C07.store_reads_leave_log`) has been applied; a barrier (any item that is not
read/dirty-read/update) is answered `ok`; a read or update is answered with the number of update entries among the first
`k` log entries for some `k` with `q.index ≤ k + 1` (`k = q.index` for an update). -/
theorem barrier_ok_means_applied_node (s : Node) (hs : C03Sys.FL 0 s) (hp : s.applyCommittedL.panicked = none) :
    s.applyCommittedL.fsm.index = s.commitIndex ∧
    s.applyCommittedL.fsm.applied = C03Sys.ups (s.log.entries.take s.commitIndex) ∧
    ∀ r ∈ s.applyCommittedL.replies, r ∈ s.replies ∨
      ∃ q ∈ s.ldr.queue, q.task = r.task ∧ q.task ≠ 0 ∧ q.index ≤ s.commitIndex + 1 ∧
        (¬ isValTyp q.typ → r.result = "ok") ∧
        (isValTyp q.typ → ∃ k, k ≤ s.commitIndex ∧ q.index ≤ k + 1 ∧
          r.result = valStr (C03Sys.ups (s.log.entries.take k)).length ∧ (q.typ = etUpdate → k = q.index)) := by
  have hfl := C03Sys.fl_applyL (m := 0) s hs
  obtain ⟨f', _, _⟩ := hfl hp
  have hlogA : s.applyCommittedL.log = s.log := by
    unfold Node.applyCommittedL
    extract_lets sp l0 s1
    exact fsmFrame_log.fsmApply_eq s1 sp.1
  have hidx : s.applyCommittedL.fsm.index = s.commitIndex := by
    revert hp
    unfold Node.applyCommittedL
    extract_lets sp l0 s1
    intro hp
    exact fsmApply_index_commit s1 sp.1 hp
  refine ⟨hidx, by rw [f'.applied, hlogA, hidx], ?_⟩
  revert hp hidx
  unfold Node.applyCommittedL
  extract_lets sp l0 s1
  intro hp hidx
  have hps : s.panicked = none := by
    apply Classical.byContradiction
    intro hne
    exact (C15.panicked_closed.fsmApply_inv s1 sp.1 (show s1.panicked ≠ none from hne)) hp
  obtain ⟨f, w, c⟩ := hs hps
  have hfn1 : C03Sys.FN s.fsm.index s1 := fun _ => ⟨⟨f.le, f.len, f.applied, Nat.le_refl _⟩, w⟩
  obtain ⟨_, hr⟩ := fsmApply_rep s1 sp.1 hfn1
    (fun _ q hq ht => c q (C03Sys.splitQueue_mem _ _ q (Or.inl hq)) ht) hp
  intro r hrm
  rcases hr r hrm with h | ⟨q, hq, hqt, h0, hcase⟩
  · exact Or.inl h
  · right
    have hrel := (C07.reply_only_after_commit_split s.commitIndex s.ldr.queue).2.1 q hq
    refine ⟨q, C03Sys.splitQueue_mem _ _ q (Or.inl hq), hqt, h0, ?_, ?_, ?_⟩
    · rcases hrel with h | h
      · omega
      · omega
    · intro hnv
      rcases hcase with ⟨_, h⟩ | ⟨hv, _⟩
      · exact h
      · exact absurd hv hnv
    · intro hv
      rcases hcase with ⟨hnv, _⟩ | ⟨_, k, _, k2, k3, k4, k5⟩
      · exact absurd hv hnv
      · exact ⟨k, by rw [← hidx]; exact k2, k4, k3, fun hu => (k5 hu).1⟩

set_option maxRecDepth 100000 in
/-- EXAMPLE (hypotheses satisfiable, non-trivially): the single-voter leader `exSolo` inside `storeEntry` with a barrier
(task 8) at the head of its queue and an update behind it: the call answers the barrier `ok`. -/
example :
    let s := storeItems 71 (C15Tasks.exSolo.begin [] [])
      [{ typ := etBarrier, task := 8 }, { typ := etUpdate, data := "y", task := 7 }]
    s.applyCommittedL.panicked = none ∧ s.commitIndex = 3 ∧ s.replies = [] ∧
    s.ldr.queue.map (fun q => (q.index, q.typ, q.task)) = [(4, etBarrier, 8), (4, etUpdate, 7)] ∧
    s.applyCommittedL.replies = [{ task := 8, result := "ok" }] ∧ s.applyCommittedL.fsm.applied = ["x"] := by
  decide +kernel

/-! ### Part 4: a crash with answers delivered before the crash point — system level (`Sys/Commit` + client ledgers) -/

section early
open C07Sys

/-- the state after node `i` died while handling `op`, restarted as `n`, and the answers `A` had been delivered before
it died (`C07Sys.crashS` delivers none) -/
def crashSA (x : C07Sys.Sys) (i : Nat) (op : Op) (n : Node) (A : List Ans) : C07Sys.Sys :=
  { crashS x i op n with answers := A ++ x.answers }

/-- **answers delivered before a storage point of the step**, as far as the model can say it (the model does not record
how answers and storage points interleave): `A` are answers of the completed step, to distinct tasks, none a definite
rejection, and every value among them is backed by a root path that was committed BEFORE the step (`ValPath x`). By
inspection of the handlers the answers that precede a storage point in the restricted model are of this
kind: reads/barriers answered by the head-of-queue rule of `storeEntry` before the single-voter commit
(`answer_precedes_storage_point`), and the lost-leadership answers of `leader.release` before a candidate's vote is
stored. -/
structure Early (x : C07Sys.Sys) (i : Nat) (op : Op) (ra : List Nat) (ord : List (List Nat)) (A : List Ans) : Prop where
  sub : ∀ a ∈ A, a.node = i ∧ a.task ≠ 0 ∧ (⟨a.task, a.result⟩ : Reply) ∈ ((x.node i).step op ra ord).replies
  nodup : (A.map (·.task)).Nodup
  notDef : ∀ a ∈ A, ¬ Definite a.result
  backed : ∀ a ∈ A, ∀ m, a.result = valStr m → ∃ s ∈ subsOf i (x.node i) op ++ x.subs, s.node = a.node ∧
    s.task = a.task ∧ isValTyp s.typ ∧ ∃ p, ValPath x s m p

/-- **The ledger invariant `C07Sys.CL` survives a crash that had delivered early answers** (`_partial`: the
restrictions of C07Sys; and `Early` is an assumption about which answers can precede a storage point, not derived
from the model). Consequently all statements of C07Sys that are consequences of `CL` and of the cluster invariants
(exactly-once, position, definite rejection, value = committed prefix, answered at most once) hold for the answers
delivered before the crash as well. -/
theorem answers_before_crash_are_sound_partial {V : List Nat} {x : C07Sys.Sys} {i : Nat} {op : Op} {ra : List Nat}
    {ord : List (List Nat)} {src k retain : Nat} {sor : Bool} {n : Node} {A : List Ans}
    (h : CrashFacts V x i op ra ord src k retain sor n) (ho : (x.node i).closed = "") (hA : Early x i op ra ord A) :
    CL (crashSA x i op n A) := by
  have base := h.inv
  have sf : StepFacts V x i op ra ord src := ⟨h.hV, h.rx, h.he, h.heG, ho, h.en, h.cl⟩
  obtain ⟨_, tk2, _, _, _, _⟩ := sf.tasks
  have cc := h.cc
  obtain ⟨_, tn2⟩ := C19Sys.restart_tasksOK _ _ _ _ h.hn
  have hcl := h.cl
  have hknown : ∀ t ∈ C15Tasks.submitted op ++ C15Tasks.pending (x.node i), (i, t) ∈ (crashS x i op n).tasks := by
    intro t ht
    rcases List.mem_append.mp ht with ht | ht
    · exact List.mem_append_left _ (List.mem_map.mpr ⟨t, ht, rfl⟩)
    · exact List.mem_append_right _ (hcl.pend i t ht)
  have hold : ∀ a ∈ x.answers, a.node = i → a.task ∉ C15Tasks.submitted op ++ C15Tasks.pending (x.node i) := by
    intro a ha hn hm
    rcases List.mem_append.mp hm with hm | hm
    · have := (hcl.ansTask a ha).2
      rw [hn] at this
      exact h.en.idsFresh _ hm this
    · have := hcl.ansNP a ha
      rw [hn] at this
      exact this hm
  have hsplit : ∀ a ∈ (crashSA x i op n A).answers, a ∈ A ∨ a ∈ x.answers := fun a ha => List.mem_append.mp ha
  refine ⟨base.tasksOK, base.pend, base.subTask, base.subUniq, base.subNode, base.subData, base.queue, base.updSub,
    base.updUniq, base.updCr, fun a ha => ?_, fun a ha m hm => ?_, fun a ha hd => ?_, fun a ha => ?_,
    fun a ha a' ha' en et => ?_⟩
  · rcases hsplit a ha with ha | ha
    · obtain ⟨e1, e2, e3⟩ := hA.sub a ha
      exact ⟨e2, by rw [e1]; exact hknown _ (tk2 _ e3 e2)⟩
    · exact base.ansTask a ha
  · rcases hsplit a ha with ha | ha
    · obtain ⟨s, hs, k1, k2, k3, p, hp⟩ := hA.backed a ha m hm
      exact ⟨s, hs, k1, k2, k3, p, hp.mono cc.ext.T cc.ext.committed⟩
    · exact base.ansVal a ha m hm
  · rcases hsplit a ha with ha | ha
    · exact absurd hd (hA.notDef a ha)
    · exact base.ansDef a ha hd
  · rcases hsplit a ha with ha | ha
    · rw [(hA.sub a ha).1]
      show a.task ∉ C15Tasks.pending ((crashS x i op n).node i)
      rw [h.node_i, tn2]; exact fun hc => by cases hc
    · exact base.ansNP a ha
  · rcases hsplit a ha with ha | ha <;> rcases hsplit a' ha' with ha' | ha'
    · have hnd : ((A.filter (fun _ => true)).map (·.task)).Nodup := by
        have e : A.filter (fun _ => true) = A := List.filter_eq_self.mpr (fun _ _ => rfl)
        rw [e]; exact hA.nodup
      exact inj_of_nodup (fun _ => true) (·.task) A hnd a ha a' ha' rfl rfl et
    · obtain ⟨e1, e2, e3⟩ := hA.sub a ha
      exact (hold a' ha' (by rw [← en, e1]) (by rw [← et]; exact tk2 _ e3 e2)).elim
    · obtain ⟨e1, e2, e3⟩ := hA.sub a' ha'
      exact (hold a ha (by rw [en, e1]) (by rw [et]; exact tk2 _ e3 e2)).elim
    · exact base.ansOnce a ha a' ha' en et

/-- EXAMPLE (`Early` is satisfiable with a non-empty `A` only by answers of the step; trivially by none): delivering
no answer is the transition `C07Sys.Trans.crash` itself. -/
example (x : C07Sys.Sys) (i : Nat) (op : Op) (ra : List Nat) (ord : List (List Nat)) (n : Node) :
    Early x i op ra ord [] ∧ (crashSA x i op n []).answers = (crashS x i op n).answers :=
  ⟨Early.mk (fun _ ha => absurd ha List.not_mem_nil) List.nodup_nil (fun _ ha => absurd ha List.not_mem_nil)
    (fun _ ha => absurd ha List.not_mem_nil), rfl⟩

end early

end C07Sys2
end Raft

#print axioms Raft.C07Sys2.role_change_never_rejects_definitely
#print axioms Raft.C07Sys2.step_definite_only_from_handler
#print axioms Raft.C07Sys2.lost_leadership_answers_pending_ambiguously
#print axioms Raft.C07Sys2.step_lost_leadership_answers_pending
#print axioms Raft.C07Sys2.crash_after_all_points
#print axioms Raft.C07Sys2.storeEntry_head_rule
#print axioms Raft.C07Sys2.answer_precedes_storage_point
#print axioms Raft.C07Sys2.fsmApply_index_commit
#print axioms Raft.C07Sys2.barrier_ok_means_applied_node
#print axioms Raft.C07Sys2.answers_before_crash_are_sound_partial
