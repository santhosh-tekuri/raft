/-
C03 — State-machine agreement: same updates, same order, exactly once (node-local part).

For ALL states and inputs of the node model: what the two loops of `stateMachine.onApply` apply and answer over a log with
contiguous indexes (`LogContig`; `apply_log_contiguous`, `apply_items_contiguous`), that nothing beyond the commit index is
applied (`apply_never_beyond_commit`), that what the leader queues for the FSM goroutine is what it logs
(`leader_queue_matches_log`), and what `fsmRestore` leaves (`restore_replaces_state`).

NOT proved here (cluster-level; checked by the engines on explored executions with the recording FSM):
that the sequences applied on two nodes are prefixes of one common sequence (needs C02/C04 across nodes),
and exactly-once across restarts / snapshot installation.
-/
import RaftVerif.Lemmas.ShapeApply

namespace Raft
namespace C03
open Node

/-- entry number k (0-based) of the log has index prev+k+1 -/
def LogContig (l : NLog) : Prop := ∀ k (h : k < l.entries.length), l.entries[k].index = l.prev + k + 1

theorem LogContig.reset (i : Nat) : LogContig (NLog.reset i) := by
  intro k h; simp [NLog.reset] at h

theorem append_parts (l : NLog) (e : Entry) (roll : Bool) :
    (l.append e roll).prev = l.prev ∧ (l.append e roll).entries = l.entries ++ [e] := NLog.append_parts l e roll

theorem LogContig.append {l : NLog} (hc : LogContig l) (e : Entry) (roll : Bool) (he : e.index = l.last + 1) :
    LogContig (l.append e roll) := by
  obtain ⟨p1, p2⟩ := append_parts l e roll
  intro k h
  simp only [p1, p2] at h ⊢
  by_cases hk : k < l.entries.length
  · rw [List.getElem_append_left hk]; exact hc k hk
  · have : k = l.entries.length := by simp at h; omega
    subst this
    simp [he, NLog.last]

theorem LogContig.removeGTE {l : NLog} (hc : LogContig l) (i : Nat) : LogContig (l.removeGTE i) := by
  intro k h
  simp only [NLog.removeGTE] at h ⊢
  rw [List.getElem_take]
  exact hc k (by rw [List.length_take] at h; omega)

/-- the new start of the log after `RemoveLTE` is not below the old one when the first segment starts at
`prev` (which `Model/Log.lean` maintains: "the head is `prev`") -/
theorem dropLTE_head_ge (i : Nat) : ∀ (segs : List Nat) (p : Nat), segs.head? = some p →
    ∃ p', (NLog.dropLTE i segs).head? = some p' ∧ p ≤ p' := by
  intro segs
  induction segs with
  | nil => intro p h; simp at h
  | cons a rest ih =>
    intro p h
    have hp : a = p := by simpa using h
    subst hp
    cases rest with
    | nil => exact ⟨a, by simp [NLog.dropLTE], Nat.le_refl _⟩
    | cons b rest' =>
      unfold NLog.dropLTE
      split
      · rename_i hab
        obtain ⟨p', h1, h2⟩ := ih b rfl
        exact ⟨p', h1, by omega⟩
      · exact ⟨a, rfl, Nat.le_refl _⟩

theorem LogContig.removeLTE {l : NLog} (hc : LogContig l) (i : Nat) (hseg : l.segs.head? = some l.prev) :
    LogContig (l.removeLTE i) := by
  obtain ⟨p', h1, h2⟩ := dropLTE_head_ge i l.segs l.prev hseg
  intro k h
  simp only [NLog.removeLTE, h1, Option.getD_some] at h ⊢
  rw [List.getElem_drop]
  rw [hc _ (by rw [List.length_drop] at h; omega)]
  omega

/-- `Log.Get(i)` of a contiguous log returns the entry whose index is `i` -/
theorem LogContig.get?_index {l : NLog} (hc : LogContig l) (i : Nat) (e : Entry) (h : l.get? i = some e) :
    e.index = i := by
  unfold NLog.get? at h
  split at h
  · obtain ⟨hk, he⟩ := List.getElem?_eq_some_iff.mp h
    rw [← he, hc _ hk]; omega
  · cases h

/-- element k of the slice (a, b] is `Log.Get(a+k+1)` -/
theorem slice_get (l : NLog) (a b k : Nat) (ha : l.prev ≤ a) (hk : k < b - a) :
    (slice l a b)[k]? = l.get? (a + k + 1) := by
  unfold slice NLog.get?
  rw [List.getElem?_take, if_pos hk, List.getElem?_drop, if_pos (by omega)]
  congr 1; omega

/-- **the slice is the index range**: in a contiguous log the entries handed to the FSM for (a, b] have
exactly the indexes a+1, a+2, …, b in this order. -/
theorem slice_indexes (l : NLog) (hc : LogContig l) (a b : Nat) (ha : l.prev ≤ a) (hb : b ≤ l.last) :
    (slice l a b).map (·.index) = List.range' (a + 1) (b - a) := by
  apply List.ext_getElem
  · rw [List.length_map, slice_length l a b ha hb, List.length_range']
  · intro k h1 h2
    rw [List.length_map, slice_length l a b ha hb] at h1
    rw [List.getElem_map, List.getElem_range']
    have hs := slice_get l a b k ha h1
    have hk : k < (slice l a b).length := by rw [slice_length l a b ha hb]; exact h1
    rw [List.getElem?_eq_getElem hk] at hs
    rw [hc.get?_index _ _ hs.symm]; omega

/-- **apply_log_contiguous**: with the FSM inside the log (`prev ≤ fsm.index ≤ upto ≤ last`) and every
configuration entry of the slice decodable, `fsmApplyLogTo upto` does not panic, sets `fsm.index = upto`
and appends to `applied` exactly the payloads of the update entries of the slice (fsm.index, upto] in log
order (`slice_indexes`: these are the entries with indexes fsm.index+1 … upto). -/
theorem apply_log_contiguous (s : Node) (upto : Nat) (h1 : s.fsm.index ≤ upto) (h2 : s.log.prev ≤ s.fsm.index)
    (h3 : upto ≤ s.log.last)
    (h4 : ∀ e ∈ slice s.log s.fsm.index upto, e.typ = etConfig → e.config?.isSome = true) :
    (s.fsmApplyLogTo upto).fsm.index = upto ∧
    (s.fsmApplyLogTo upto).fsm.applied =
      s.fsm.applied ++ ((slice s.log s.fsm.index upto).filter (·.typ == etUpdate)).map (·.data) ∧
    (s.fsmApplyLogTo upto).panicked = s.panicked ∧ (s.fsmApplyLogTo upto).replies = s.replies := by
  rcases Nat.eq_or_lt_of_le h1 with h | h
  · rw [fsmApplyLogTo_panicked s upto (Or.inl (by omega)), fsmApplyLogTo_shape,
      if_neg (fun a : Applies s upto => by have := a.1; omega)]
    exact ⟨h, by simp [slice, ← h], rfl, rfl⟩
  · have ha := Applies.of_inside h h2 h3
    rw [fsmApplyLogTo_panicked s upto (Or.inr ⟨ha, h4⟩), fsmApplyLogTo_shape, if_pos ha]
    exact ⟨rfl, rfl, rfl, rfl⟩

/-- non-vacuity: FSM at 0, log (1,update a) (2,nop) (3,update b): applying up to 3 yields a, b -/
example :
    let s : Node := { log := { entries := [{ index := 1, term := 1, typ := etUpdate, data := "a" },
        { index := 2, term := 1, typ := etNop }, { index := 3, term := 1, typ := etUpdate, data := "b" }] } }
    (s.fsmApplyLogTo 3).fsm.applied = ["a", "b"] ∧ (s.fsmApplyLogTo 3).fsm.index = 3 ∧ LogContig s.log := by
  refine ⟨by decide, by decide, ?_⟩
  intro k h
  have : k < 3 := h
  match k, this with
  | 0, _ => rfl
  | 1, _ => rfl
  | 2, _ => rfl

/-- the items sit at consecutive positions after `n`: a log-type item occupies position n+1 and advances
it; reads and barriers are stamped n+1 ("next index") and do not advance it. -/
def ItemsFrom : Nat → List QItem → Prop
  | _, [] => True
  | n, q :: qs => q.index = n + 1 ∧ ItemsFrom (if isLogEntryTyp q.typ then n + 1 else n) qs

/-- where the FSM ends after the items -/
def endPos (n : Nat) (items : List QItem) : Nat := n + (items.filter (fun q => isLogEntryTyp q.typ)).length

/-- **apply_items_contiguous**: on items at consecutive positions after `fsm.index` the second loop never
trips its assertion, applies exactly the update payloads in order, advances `fsm.index` by the number of
log-type items, and answers every item that carries a task exactly once, in order. -/
theorem apply_items_contiguous (s : Node) (items : List QItem) (h : ItemsFrom s.fsm.index items) :
    (s.fsmApplyItems items).panicked = s.panicked ∧
    (s.fsmApplyItems items).fsm.applied = s.fsm.applied ++ (items.filter (·.typ == etUpdate)).map (·.data) ∧
    (s.fsmApplyItems items).fsm.index = endPos s.fsm.index items ∧
    (s.fsmApplyItems items).replies.map (·.task) = s.replies.map (·.task) ++ (items.map (·.task)).filter (· ≠ 0) := by
  suffices h3 : (s.fsmApplyItems items).panicked = s.panicked ∧
      (s.fsmApplyItems items).fsm.applied = s.fsm.applied ++ (items.filter (·.typ == etUpdate)).map (·.data) ∧
      (s.fsmApplyItems items).fsm.index = endPos s.fsm.index items from
    ⟨h3.1, h3.2.1, h3.2.2, C12.fsmApplyItems_reply_tasks s items⟩
  induction items generalizing s with
  | nil => simp [Node.fsmApplyItems, endPos]
  | cons q qs ih =>
    obtain ⟨hq, hrest⟩ := h
    have e := C12.itemStep_eq s q
    have hi : (C12.itemStep s q).fsm.index = if isLogEntryTyp q.typ = true then s.fsm.index + 1 else s.fsm.index := by
      rw [e, ← hq]
    obtain ⟨i1, i2, i3⟩ := ih (C12.itemStep s q) (by rw [hi]; exact hrest)
    rw [C12.fsmApplyItems_cons, i1, i2, i3, hi, e]
    refine ⟨?_, ?_, ?_⟩
    · show (s.assert _ _).panicked = _
      unfold Node.assert; rw [if_pos (by simp [hq])]
    · show (if q.typ = etUpdate then _ else _) ++ _ = _
      simp only [List.filter_cons]
      split <;> simp [*]
    · unfold endPos
      simp only [List.filter_cons]
      split <;> simp <;> omega

/-- non-vacuity: an update at 4, a read stamped 5, an update at 5 -/
example : ItemsFrom 3 [{ index := 4, typ := etUpdate }, { index := 5, typ := etRead }, { index := 5, typ := etUpdate }] := by
  simp [ItemsFrom, isLogEntryTyp, etUpdate, etRead, etDirtyRead, etBarrier]

/-- **apply_never_beyond_commit**: whatever the items, if `fsmApply` did not panic then afterwards
`fsm.index` is exactly the commit index (the final assertion of `onApply`); the commit index itself is not
changed by applying. -/
theorem apply_never_beyond_commit (s : Node) (items : List QItem) (h : (s.fsmApply items).panicked = none) :
    (s.fsmApply items).fsm.index = s.commitIndex ∧ (s.fsmApply items).commitIndex = s.commitIndex := by
  refine ⟨?_, fsmFrame_commitIndex.fsmApply_eq s items⟩
  unfold Node.fsmApply at h ⊢
  split
  · rw [if_pos ‹_›] at h; exact absurd h (panic_panicked_ne _ _)
  · rw [if_neg ‹_›] at h
    split
    · rw [if_pos ‹_›] at h; exact absurd h (panic_panicked_ne _ _)
    · rw [if_neg ‹_›] at h
      dsimp only at h ⊢
      generalize hx : ((s.fsmApplyLogTo _).fsmApplyItems items) = x at h ⊢
      have hci : x.commitIndex = s.commitIndex := by
        rw [← hx, fsmFrame_commitIndex.fsmApplyItems_eq, fsmFrame_commitIndex.fsmApplyLogTo_eq]
      unfold Node.assert at h ⊢
      split
      · rename_i hb
        rw [← hci]; simpa using hb
      · rw [if_neg ‹_›] at h; exact absurd h (panic_panicked_ne _ _)

/-- the follower-side caller -/
theorem applyCommitted_never_beyond_commit (s : Node) (h : s.applyCommitted.panicked = none) :
    s.applyCommitted.fsm.index = s.commitIndex := (apply_never_beyond_commit s [] h).1

/-- **restore_replaces_state**: `fsmRestore` without panic leaves the FSM exactly at the snapshot the
node's `snaps.index` names: index, term, data and configuration all come from that snapshot file; nothing
of the previous FSM state survives. -/
theorem restore_replaces_state (s : Node) (h : s.fsmRestore.panicked = none) :
    ∃ f, f ∈ s.snapsDisk ∧ f.index = s.snapIndex ∧
      s.fsmRestore.fsm = { index := f.index, term := f.term, applied := f.data, config := f.config } := by
  unfold Node.fsmRestore at h ⊢
  split
  · rw [if_pos ‹_›] at h; exact absurd h (panic_panicked_ne _ _)
  · rw [if_neg ‹_›] at h
    split
    · rename_i f hf
      exact ⟨f, List.mem_of_find?_eq_some hf, by simpa using List.find?_some hf, rfl⟩
    · rename_i hf
      rw [hf] at h; exact absurd h (panic_panicked_ne _ _)

/-- the restored FSM index is the snapshot index (so install-snapshot can set commitIndex = snapIndex) -/
theorem restore_index (s : Node) (h : s.fsmRestore.panicked = none) : s.fsmRestore.fsm.index = s.snapIndex := by
  obtain ⟨f, _, h1, h2⟩ := restore_replaces_state s h
  rw [h2]; exact h1

/-- `storage.appendEntry` of the next index: no assertion fails, the entry goes to the end of the log -/
theorem appendEntry_next (s : Node) (e : Entry) (h : e.index = s.lastLogIndex + 1) :
    s.appendEntry e = { s with
      log := s.log.append e (s.rollAt.contains (e.index - 1) && s.log.lastSegPrev != e.index - 1),
      lastLogIndex := e.index, lastLogTerm := e.term } := by
  unfold Node.appendEntry Node.assert
  rw [if_pos (by simp [h])]

/-- the stamping `storeEntry` gives a batch: every item gets index = (last log index so far)+1 and the
leader's term; only log-type items advance the last log index. -/
def assign (last term : Nat) : List QItem → List QItem
  | [] => []
  | q :: qs =>
    { q with index := last + 1, term := term, cfg := q.cfg.map Config.payload } ::
      assign (if isLogEntryTyp q.typ then last + 1 else last) term qs

/-- accepting one non-configuration item: queue it, and append it to the log if it is a log-type item -/
def accept (s : Node) (q : QItem) : Node :=
  let s1 := s.withLdr { s.ldr with queue := s.ldr.queue ++ [stamp s q] }
  if isLogEntryTyp q.typ then s1.appendEntry (stamp s q).toEntry else s1

theorem storeItems_cons_accept (n : Nat) (s : Node) (q : QItem) (qs : List QItem)
    (ht : s.ldr.transfer.active = false) (hv : s.ldr.node.voter = true) (hq : q.typ ≠ etConfig) :
    storeItems (n + 1) s (q :: qs) = storeItems n (accept s q) qs := by
  conv => lhs; unfold storeItems
  dsimp only
  rw [if_neg (by simp [ht]), if_neg (by simp [hv])]
  unfold accept stamp
  dsimp only
  congr 1
  split
  · first | rfl | rw [if_neg hq]
  · rfl

theorem accept_fields (s : Node) (q : QItem) :
    (accept s q).ldr = { s.ldr with queue := s.ldr.queue ++ [stamp s q] } ∧
    (accept s q).log.entries = s.log.entries ++ ([stamp s q].filter (fun q => isLogEntryTyp q.typ)).map QItem.toEntry ∧
    (accept s q).log.prev = s.log.prev ∧
    (accept s q).lastLogIndex = (if isLogEntryTyp q.typ then s.lastLogIndex + 1 else s.lastLogIndex) ∧
    (accept s q).panicked = s.panicked ∧ (accept s q).replies = s.replies ∧ (accept s q).term = s.term := by
  unfold accept
  dsimp only
  split
  · rename_i hl
    rw [appendEntry_next _ _ rfl]
    refine ⟨rfl, ?_, (append_parts _ _ _).1, rfl, rfl, rfl, rfl⟩
    show (s.log.append _ _).entries = _
    rw [(append_parts _ _ _).2]; simp [hl]
  · rename_i hl
    refine ⟨rfl, ?_, rfl, rfl, rfl, rfl, rfl⟩
    simp [hl, Node.withLdr]

/-- **leader_queue_matches_log**: a leader that is a voter, with no transfer in progress, given a batch
without configuration entries (those go through `changeConfigL`, see C08), appends to its queue the
stamped batch, and to its log exactly the log-type items of that stamped batch converted field by field
(`QItem.toEntry`: same index, term, type, data, config) — nothing else changes in log or queue. -/
theorem leader_queue_matches_log (fuel : Nat) (s : Node) (batch : List QItem) (hf : fuel ≥ batch.length)
    (ht : s.ldr.transfer.active = false) (hv : s.ldr.node.voter = true)
    (hnc : ∀ q ∈ batch, q.typ ≠ etConfig) :
    (storeItems fuel s batch).ldr.queue = s.ldr.queue ++ assign s.lastLogIndex s.term batch ∧
    (storeItems fuel s batch).log.entries = s.log.entries ++
      ((assign s.lastLogIndex s.term batch).filter (fun q => isLogEntryTyp q.typ)).map QItem.toEntry ∧
    (storeItems fuel s batch).log.prev = s.log.prev ∧
    (storeItems fuel s batch).lastLogIndex = s.lastLogIndex + (batch.filter (fun q => isLogEntryTyp q.typ)).length ∧
    (storeItems fuel s batch).panicked = s.panicked ∧ (storeItems fuel s batch).replies = s.replies ∧
    (storeItems fuel s batch).term = s.term := by
  induction batch generalizing s fuel with
  | nil => unfold storeItems; simp [assign]
  | cons q qs ih =>
    cases fuel with
    | zero => simp at hf
    | succ n =>
      have hn : n ≥ qs.length := by simp at hf; omega
      have hnc' : ∀ q ∈ qs, q.typ ≠ etConfig := fun x hx => hnc x (List.mem_cons_of_mem _ hx)
      have hq : q.typ ≠ etConfig := hnc q (List.mem_cons_self ..)
      rw [storeItems_cons_accept n s q qs ht hv hq]
      obtain ⟨a1, a2, a3, a4, a5, a6, a7⟩ := accept_fields s q
      obtain ⟨i1, i2, i3, i4, i5, i6, i7⟩ := ih n (accept s q) hn (by rw [a1]; exact ht) (by rw [a1]; exact hv) hnc'
      have hasg : assign s.lastLogIndex s.term (q :: qs) = stamp s q :: assign (accept s q).lastLogIndex (accept s q).term qs := by
        rw [a4, a7]; rfl
      refine ⟨?_, ?_, by rw [i3, a3], ?_, by rw [i5, a5], by rw [i6, a6], by rw [i7, a7]⟩
      · rw [i1, a1, hasg]; simp
      · rw [i2, a2, hasg]; simp [List.filter_cons]
        split <;> simp
      · rw [i4, a4, List.filter_cons]
        split <;> simp <;> omega

/-- every stamped log-type item is in the log under its own index and term: the pair (queue item, log entry)
the FSM goroutine may see for one index is one and the same entry. -/
theorem queued_log_item_is_logged (fuel : Nat) (s : Node) (batch : List QItem) (hf : fuel ≥ batch.length)
    (ht : s.ldr.transfer.active = false) (hv : s.ldr.node.voter = true)
    (hnc : ∀ q ∈ batch, q.typ ≠ etConfig) (q : QItem) (hq : q ∈ assign s.lastLogIndex s.term batch)
    (hl : isLogEntryTyp q.typ = true) :
    q ∈ (storeItems fuel s batch).ldr.queue ∧ q.toEntry ∈ (storeItems fuel s batch).log.entries := by
  obtain ⟨i1, i2, _⟩ := leader_queue_matches_log fuel s batch hf ht hv hnc
  rw [i1, i2]
  refine ⟨List.mem_append_right _ hq, List.mem_append_right _ ?_⟩
  exact List.mem_map_of_mem (List.mem_filter.mpr ⟨hq, hl⟩)

end C03
end Raft

#print axioms Raft.C03.LogContig.reset
#print axioms Raft.C03.append_parts
#print axioms Raft.C03.LogContig.append
#print axioms Raft.C03.LogContig.removeGTE
#print axioms Raft.C03.dropLTE_head_ge
#print axioms Raft.C03.LogContig.removeLTE
#print axioms Raft.C03.LogContig.get?_index
#print axioms Raft.C03.slice_length
#print axioms Raft.C03.slice_get
#print axioms Raft.C03.slice_indexes
#print axioms Raft.C03.apply_log_contiguous
#print axioms Raft.C03.apply_items_contiguous
#print axioms Raft.C03.apply_never_beyond_commit
#print axioms Raft.C03.applyCommitted_never_beyond_commit
#print axioms Raft.C03.restore_replaces_state
#print axioms Raft.C03.restore_index
#print axioms Raft.C03.appendEntry_next
#print axioms Raft.C03.storeItems_cons_accept
#print axioms Raft.C03.accept_fields
#print axioms Raft.C03.leader_queue_matches_log
#print axioms Raft.C03.queued_log_item_is_logged
