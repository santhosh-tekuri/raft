/-
C08 / C15-Once — membership changes THROUGH single-voter configurations (quorum 1), node level.

A leader that is the only voter commits every entry the moment it is stored, INSIDE `leader.storeEntry`
(`majorityMatchIndex`'s fast path `numVoters == 1 && node.Voter`); `onMajorityCommit → setCommitIndex → commitConfig →
checkConfigActions` re-enters the configuration machinery and may store the NEXT configuration entry within the same
step: several configuration entries per step, stored by NESTED calls, while the loops of the callers
(`checkConfigActions` iterating over `l.repls` with the configuration it was called with, e.g. the one submitted by the
client) go on afterwards with a STALE configuration. This is the real bootstrap path (a cluster is started as a single
voter and grown by AddNonvoter + promotion). `C08Step.config_step` claims adjacency only for the FIRST configuration of a
step, `C15Tasks.task_step_partial` ASSUMES `Once` for it. Here both restrictions are removed.

Lemmas/MemberOneA–C.lean: `One.block` — by induction on the recursion budget, for every handler of the mutually recursive
leader block: after a nested change either the step has failed, or the latest configuration is not committed (`Blocked`:
no change can start), or every replication is `Settled` (no action; a removal waiting for the follower; a promotion whose
round is in progress) and the caller's stale configuration AGREES with the latest one on every node that still has a
replication (`Agr`) — so the caller's loop does not act a second time: ONE action per loop, everything else is done by
nested calls working on the latest configuration.

`step_chain_partial`: the entries appended within a step of a leader form a `Chain1` — EVERY configuration entry among
them, nested or not, any number per step, is `Link`ed to the configuration before it (the leader's case of `One.step_pw`,
Lemmas/MemberOneD.lean). `task_step_one`, `task_run_one`, `task_run_shutdown_one`: `C15Tasks.task_step` / `task_run` /
`task_run_shutdown` from `NoPanic.Good T` for ANY `T` with NO assumption on ChangeConfig requests (neither `CCOk` nor
`Once`); `once_of_start`: `Once` itself.
FINDING (model, not Go): the recursion budget `fuelFor` is too small for more than 10 nested changes (see the last section).
No counterexample in the Go behaviour was found: neither by the proof nor by a randomised search (80 000 runs of 12 steps
from a bootstrapped single voter: ChangeConfig requests with random actions, match-index reports, aged rounds, random
iteration orders).
-/
import RaftVerif.Lemmas.MemberOneD
import RaftVerif.Props.C15Tasks
import RaftVerif.Props.C08Step
import RaftVerif.Lemmas.QuorumRel

namespace Raft
namespace C08One
open Node CfgRel Raft.One

/-- what the analysis of a leader's handlers needs of the state the step starts from: the leader's caches describe the
latest configuration (`LC.Cache`), the latest configuration is in the log and has an anchor (or is empty) -/
structure Start (s : Node) : Prop where
  cache : LC.Cache s
  li : s.configs.latest.index ≤ s.lastLogIndex
  anch : AnchC s.configs.latest

theorem v_begin {s : Node} (h : Start s) (ra : List Nat) (ord : List (List Nat)) : V (s.begin ra ord) (s.begin ra ord) :=
  ⟨h.cache.congr rfl, h.li, h.anch, rfl, fun _ => LogChain.refl _⟩

theorem start_of_good {T : Bool} {s : Node} (hG : NoPanic.Good T s) (ho : s.closed = "") (hl : s.role = .leader) : Start s := by
  refine ⟨(hG.leader ho hl).2, hG.ordered.latest_le_last, ?_⟩
  by_cases hn : s.configs.latest.nodes = []
  · exact Or.inl hn
  · exact Or.inr (C08Step.hasAnchor_of_anchored (hG.glob.cfgL.2 hn).1)

theorem nodup_of_sorted {c : Config} (h : c.nodes.Pairwise (fun a b => a.id < b.id)) : (c.nodes.map (·.id)).Nodup := by
  rw [List.Nodup, List.pairwise_map]
  exact h.imp (fun hab => Nat.ne_of_lt hab)

/-- the operations by which a leader stores log entries -/
inductive LeaderOp : Op → Prop
  | newEntries (b : List QItem) : LeaderOp (.newEntries b)
  | changeConfig (task : Nat) (c : Config) : LeaderOp (.changeConfig task c)
  | replUpdates (us : List ReplUpdate) : LeaderOp (.replUpdates us)
  | transferTimeout : LeaderOp .transferTimeout
  | timeoutNowResult (src : Nat) (err : Bool) (result : Nat) : LeaderOp (.timeoutNowResult src err result)

/-- **step_chain_partial — the configuration entries of one step, through single-voter configurations.**  For a leader
in a state with `Start` (part of `NoPanic.Good`: `start_of_good`) handling `newEntries` (without configuration items),
`changeConfig` (distinct member ids — strictly increasing if those of the latest configuration are: `hsr`, needed only for
`Link.srt`), `replUpdates`, `transferTimeout` or `timeoutNowResult` — with any oracle, any input,
if the step does not fail: there is a list `ext` of log entries — the entries appended within the step, in this order: the
log afterwards is (a suffix, after compaction, of) the old log followed by `ext` — such that EVERY configuration entry of
`ext`, however many there are and however deeply nested the call that stored it, is `Link`ed to the configuration before
it (the first to `s.configs.latest`, the last is `s'.configs.latest`): their voting rights differ at ONE node at most, the
new one has a voter and keeps a voter without pending action, and at the moment it was stored — `y` is the node's state
right then — its predecessor was committed, no transfer was in progress, an entry of the leader's own term was committed
(`y.canChangeConfig`), the leader's own entry was a voter, and it is the next log entry, of the leader's term.
(`C08OneSys.step_chain_any_partial` extends this to every role and every operation other than append / install requests.)
PARTIAL: the other operations (requests from peers, timers, elections, snapshots, `waitStable`, `transfer`, `shutdown`)
store no entry as leader unless the node is RE-elected inside the step (`leader.init`: `leaderInit_chain`, not wired into
`Node.step` here); steps that fail (only the model's recursion budget can, from
`NoPanic.Good`) are excluded. -/
theorem step_chain_partial (s : Node) (op : Op) (ra : List Nat) (ord : List (List Nat)) (hS : Start s)
    (hl : s.role = .leader) (hok : OpOk op) (hop : LeaderOp op)
    (hsr : ∀ task c, op = .changeConfig task c → Srt s.configs.latest → Srt c)
    (hp : (s.step op ra ord).panicked = none) :
    LogChain s (s.step op ra ord) :=
  (step_pw s op ra ord hS.li hS.anch (fun _ => hS.cache) hok hsr (fun q e => by rw [e] at hop; cases hop)
    (fun q e => by rw [e] at hop; cases hop) (fun h => absurd hl h) hp).chain hp

/-- **leaderInit_chain — `leader.init`** (what a node runs when it has won an election, in the same step; nothing is assumed
of its stale `Leader` record): if `latest.index ≤ lastLogIndex` and the latest configuration has an anchor (or is empty), the
entries it appends — the no-op entry of its term and, for a leader that is the only voter, the configuration changes that
the commit of that entry sets off at once (pending removals / promotions: `leader.setCommitIndex → checkConfigActions`),
nested as deep as they go — form a `Chain1` from the latest configuration. -/
theorem leaderInit_chain (s : Node) (hli : s.configs.latest.index ≤ s.lastLogIndex) (hanch : AnchC s.configs.latest)
    (hp : s.leaderInit.panicked = none) : LogChain s s.leaderInit := by
  rcases (leaderInit_G s s (PW.refl s hli hanch)).2 with h | ⟨h, _⟩
  · exact absurd hp h
  · exact h.chain hp

def cfgsOf (es : List Entry) : List Config := es.filterMap (·.config?)

/-- consecutive configurations are `Link`ed -/
def Links : Config → List Config → Prop
  | _, [] => True
  | c, c' :: cs => Link c c' ∧ Links c' cs

def lastOr : Config → List Config → Config
  | c, [] => c
  | _, c' :: cs => lastOr c' cs

theorem links_snoc {cs : List Config} : ∀ {c₀ c c' : Config}, Links c₀ cs → lastOr c₀ cs = c → Link c c' →
    Links c₀ (cs ++ [c']) ∧ lastOr c₀ (cs ++ [c']) = c' := by
  induction cs with
  | nil => intro c₀ c c' _ hl hk; subst hl; exact ⟨⟨hk, trivial⟩, rfl⟩
  | cons a as ih =>
    intro c₀ c c' h hl hk
    obtain ⟨h1, h2⟩ := ih h.2 hl hk
    exact ⟨⟨h.1, h1⟩, h2⟩

/-- **reading a `Chain1`**: the configurations among the appended entries, in order, are linked one to the next, starting
from the old latest configuration and ending with the new one -/
theorem chain_links {c₀ c : Config} {es : List Entry} (h : Chain1 c₀ es c) :
    Links c₀ (cfgsOf es) ∧ lastOr c₀ (cfgsOf es) = c := by
  induction h with
  | nil => exact ⟨trivial, rfl⟩
  | @plain _ es' e _ ht ih =>
    have : cfgsOf (es' ++ [e]) = cfgsOf es' := by
      unfold cfgsOf
      rw [List.filterMap_append]
      have : e.config? = none := Entry.config?_none_of_typ ht
      simp [this]
    rw [this]; exact ih
  | @cfg _ es' e c' _ hc hk ih =>
    have : cfgsOf (es' ++ [e]) = cfgsOf es' ++ [c'] := by
      unfold cfgsOf
      rw [List.filterMap_append]
      simp [hc]
    rw [this]
    exact links_snoc ih.1 ih.2 hk

/-! ### every task is answered at most once — no assumption on ChangeConfig requests -/

open C15Tasks in
/-- what is asked of the state when a leader handles a ChangeConfig request: `Start`, `TL.Hs` (a leader whose latest
configuration is committed is a voter by its cached own entry; the latest configuration is in the log) — both hold in every
`NoPanic.Good` state — and strictly increasing member ids in the request (`Config.Nodes` is a Go map keyed by id: `Srt`). (Vacuous for every other operation.) -/
def OneOK (s : Node) (op : Op) : Prop :=
  ∀ task c, op = .changeConfig task c → s.role = .leader → Start s ∧ TL.Hs s ∧ Srt c

/-- **the ledger through one step, exact count, through single-voter configurations**: unless the step failed, the
occurrences of `t` among the answers and the pending places afterwards are exactly those pending before plus those
submitted — for EVERY operation, a ChangeConfig request with any actions and any number of voters included. -/
theorem step_rel_one (t : Nat) (ht : t ≠ 0) (s : Node) (op : Op) (ra : List Nat) (ord : List (List Nat))
    (ho : TL.OK s) (hq : s.role ≠ .leader → TL.Quiet s) (hcc : OneOK s op)
    (hp : (s.step op ra ord).panicked = none) :
    TL.led t (s.step op ra ord) = TL.pendCount t s + (TL.submittedRaw op).count t := by
  have := (TL.step_rel_m t ht s op ra ord ho hq 0 (fun task c e hl => by
    obtain ⟨a, b, d⟩ := hcc task c e hl
    have hs : Hs (s.begin ra ord) := fun hc => b.1 (TL.isCommitted_of_canChange hc)
    exact ((onChangeConfig_one (s.begin ra ord) t ht (s.begin ra ord) task c (v_begin a ra ord) (nodup_of_sorted d)
      (fun _ => d)).2 hs).cast
      (by omega))).2.2 hp
  rw [this]; omega

/-- **`Once` is a theorem**: the task of a ChangeConfig request handled by a leader — with promote / demote / remove
actions, in a cluster with ONE stable voter, where the changes it starts are committed at once and nest — occurs at most
once afterwards: it is answered once, or attached to exactly one configuration entry (the other entries of the step are
stored for the null task). -/
theorem once_of_start (s : Node) (op : Op) (ra : List Nat) (ord : List (List Nat)) (hT : C15Tasks.TasksOK s)
    (hF : C15Tasks.Fresh s op) (hp : (s.step op ra ord).panicked = none) (h : OneOK s op) :
    C15Tasks.Once s op (s.step op ra ord) :=
  C15Tasks.once_of_exact s op _ hF.notPending (fun t ht => step_rel_one t ht s op ra ord hT.ok hT.quiet h hp)

theorem oneOK_of_good {T : Bool} (s : Node) (op : Op) (hG : NoPanic.Good T s) (hopen : s.closed = "")
    (hr : NoPanic.ReqOk' T s op) : OneOK s op := by
  intro task c e hl
  subst e
  exact ⟨start_of_good hG hopen hl, C15Tasks.hs_of_good s hG hopen hl, hr.1.1⟩

/-- **task_step_one — one step of a node in a `NoPanic.Good` state, ANY operation, one stable voter suffices.**  With
`s' = s.step op …` (any oracle, any input), from `Good T s` (any `T`: `Good false` asks for ONE voter without pending action),
an open node, an acceptable operation (`ReqOk' T`), fresh task ids, the model's recursion budget not exhausted:
(c) `submitted op ++ pending s` is a permutation of `answered s' ++ pending s'`: every task that was submitted or pending is
    afterwards EITHER answered OR pending — never both, never lost, and nothing else is;
(a) every answer of the step (with a non-zero id) is for a task that was pending or is submitted by `op`;
(b) no id is answered twice within the step; an answered id is not pending afterwards;
(d) `TasksOK s'` and `Good T s'`.
NO assumption on ChangeConfig requests: neither `C15Tasks.task_step`'s `CCOk` nor `task_step_partial`'s `Once`. -/
theorem task_step_one {T : Bool} (s : Node) (op : Op) (ra : List Nat) (ord : List (List Nat))
    (hG : NoPanic.Good T s) (hopen : s.closed = "") (hr : NoPanic.ReqOk' T s op)
    (hf : (s.step op ra ord).panicked ≠ some "fuel") (hT : C15Tasks.TasksOK s) (hF : C15Tasks.Fresh s op) :
    (C15Tasks.submitted op ++ C15Tasks.pending s).Perm
      (C15Tasks.answered (s.step op ra ord) ++ C15Tasks.pending (s.step op ra ord)) ∧
    (∀ r ∈ (s.step op ra ord).replies, r.task ≠ 0 → r.task ∈ C15Tasks.submitted op ++ C15Tasks.pending s) ∧
    (C15Tasks.answered (s.step op ra ord)).Nodup ∧
    (∀ t ∈ C15Tasks.answered (s.step op ra ord), t ∉ C15Tasks.pending (s.step op ra ord)) ∧
    C15Tasks.TasksOK (s.step op ra ord) ∧ NoPanic.Good T (s.step op ra ord) := by
  have hp := C15NoPanic.good_step_noPanic s op ra ord hG hopen hr hf
  obtain ⟨a, b, c, d, e⟩ := C15Tasks.task_step_partial s op ra ord hT hF hp
    (once_of_start s op ra ord hT hF hp (oneOK_of_good s op hG hopen hr))
  exact ⟨a, b, c, d, e, C15NoPanic.good_step s op ra ord hG hopen hr hf⟩

/-- the run conditions: every operation is handled by an open node, is acceptable (`ReqOk' T`), and the model's recursion
budget is not exhausted — nothing else (compare `C15Tasks.RunGood`: no `CCOk`) -/
def RunGood1 (T : Bool) : Node → List C15Tasks.Ev → Prop
  | _, [] => True
  | s, e :: es =>
    s.closed = "" ∧ NoPanic.ReqOk' T s e.1 ∧ (s.step e.1 e.2.1 e.2.2).panicked ≠ some "fuel" ∧
    RunGood1 T (s.step e.1 e.2.1 e.2.2) es

theorem runOK_of_good1 {T : Bool} (evs : List C15Tasks.Ev) : ∀ (s : Node), NoPanic.Good T s → C15Tasks.TasksOK s →
    (C15Tasks.submittedRun evs).Nodup → (∀ t ∈ C15Tasks.submittedRun evs, t ∉ C15Tasks.pending s) → RunGood1 T s evs →
    C15Tasks.RunOK s evs ∧ NoPanic.Good T (C19Order.run s evs) := by
  induction evs with
  | nil => intro s hG _ _ _ _; exact ⟨trivial, hG⟩
  | cons e es ih =>
    intro s hG hT hnd hfr hr
    obtain ⟨h1, h2, h3, h4⟩ := hr
    have hnd' : (C15Tasks.submitted e.1 ++ C15Tasks.submittedRun es).Nodup := hnd
    obtain ⟨n1, n2, n3⟩ := List.nodup_append.mp hnd'
    have hF : C15Tasks.Fresh s e.1 := ⟨n1, fun t ht => hfr t (List.mem_append_left _ ht)⟩
    obtain ⟨p1, _, _, _, hT1, hG1⟩ := task_step_one s e.1 e.2.1 e.2.2 hG h1 h2 h3 hT hF
    have hp := C15NoPanic.good_step_noPanic s e.1 e.2.1 e.2.2 hG h1 h2 h3
    have hfr1 : ∀ t ∈ C15Tasks.submittedRun es, t ∉ C15Tasks.pending (s.step e.1 e.2.1 e.2.2) := by
      intro t ht hpd
      have : t ∈ C15Tasks.submitted e.1 ++ C15Tasks.pending s := p1.mem_iff.mpr (List.mem_append_right _ hpd)
      rcases List.mem_append.mp this with h | h
      · exact n3 t h t ht rfl
      · exact hfr t (List.mem_append_right _ ht) h
    obtain ⟨r1, r2⟩ := ih _ hG1 hT1 n2 hfr1 h4
    exact ⟨⟨hp, Or.inr (once_of_start s e.1 e.2.1 e.2.2 hT hF hp (oneOK_of_good s e.1 hG h1 h2)), r1⟩, r2⟩

/-- **task_run_one — any run of a node from a `NoPanic.Good` state, one stable voter suffices**: over ANY list of operations
(any oracles) handled by an open node, each `ReqOk' T`, the model's budget never exhausted, fresh task ids:
`submittedRun ++ pending s ~ answeredRun ++ pending (final)`: every task submitted during the run (or pending at its start)
has been answered AT MOST ONCE and is EITHER answered OR still pending at the end; `TasksOK` and `Good T` hold at the end. -/
theorem task_run_one {T : Bool} (s : Node) (evs : List C15Tasks.Ev) (hG : NoPanic.Good T s) (hT : C15Tasks.TasksOK s)
    (hnd : (C15Tasks.submittedRun evs).Nodup) (hfr : ∀ t ∈ C15Tasks.submittedRun evs, t ∉ C15Tasks.pending s)
    (hr : RunGood1 T s evs) :
    (C15Tasks.submittedRun evs ++ C15Tasks.pending s).Perm
      (C15Tasks.answeredRun s evs ++ C15Tasks.pending (C19Order.run s evs)) ∧
    C15Tasks.TasksOK (C19Order.run s evs) ∧ (C15Tasks.answeredRun s evs).Nodup ∧
    (∀ t ∈ C15Tasks.answeredRun s evs, t ∉ C15Tasks.pending (C19Order.run s evs)) ∧
    NoPanic.Good T (C19Order.run s evs) := by
  obtain ⟨r1, r2⟩ := runOK_of_good1 evs s hG hT hnd hfr hr
  obtain ⟨a, b, c, d⟩ := C15Tasks.task_run_partial s evs hT hnd hfr r1
  exact ⟨a, b, c, d, r2⟩

/-- **task_run_shutdown_one — … and after `Shutdown` every task has been answered EXACTLY ONCE**: the tasks submitted during
the run or pending at its start are, as a multiset, exactly the tasks answered during the run or by the shutdown step;
nothing is left pending. -/
theorem task_run_shutdown_one {T : Bool} (s : Node) (evs : List C15Tasks.Ev) (ra : List Nat) (ord : List (List Nat))
    (hG : NoPanic.Good T s) (hT : C15Tasks.TasksOK s)
    (hnd : (C15Tasks.submittedRun evs).Nodup) (hfr : ∀ t ∈ C15Tasks.submittedRun evs, t ∉ C15Tasks.pending s)
    (hr : RunGood1 T s evs) :
    (C15Tasks.submittedRun evs ++ C15Tasks.pending s).Perm
      (C15Tasks.answeredRun s evs ++ C15Tasks.answered ((C19Order.run s evs).step .shutdown ra ord)) ∧
    C15Tasks.pending ((C19Order.run s evs).step .shutdown ra ord) = [] ∧
    (C15Tasks.answeredRun s evs ++ C15Tasks.answered ((C19Order.run s evs).step .shutdown ra ord)).Nodup := by
  obtain ⟨r1, r2⟩ := runOK_of_good1 evs s hG hT hnd hfr hr
  exact C15Tasks.task_run_shutdown_partial s evs ra ord hT hnd hfr r1 (C15NoPanic.shutdown_good _ ra ord r2).1

/-- EXAMPLE state: node 1 leads {1 voter, 2 voter, 3 non-voter}; the latest configuration (entry 3, not yet committed)
asks to demote 2 and to force-remove 3; the follower 2 has acknowledged entry 2 so far -/
def exN : Node :=
  let n1 : CNode := { id := 1, addr := "a:1", voter := true }
  let n2 : CNode := { id := 2, addr := "b:1", voter := true }
  let n3 : CNode := { id := 3, addr := "c:1", voter := false }
  let c1 : Config := { nodes := [n1, n2, n3], index := 1, term := 1 }
  let c3 : Config := { nodes := [n1, { n2 with action := actDemote }, { n3 with action := actForceRemove }], index := 3, term := 1 }
  { nid := 1, cid := 7, term := 1, durTerm := 1, role := .leader, leader := 1,
    log := { entries := [c1.toEntry, { index := 2, term := 1, typ := etNop }, c3.toEntry], flushed := 3 },
    lastLogIndex := 3, lastLogTerm := 1, commitIndex := 2, fsm := { index := 2, term := 1, config := c1 },
    configs := { committed := c1, latest := c3 },
    ldr := { node := n1, numVoters := 2, startIndex := 2,
             queue := [{ index := 3, term := 1, typ := etConfig, cfg := some c3.payload, task := 9 }],
             repls := [{ id := 2, node := { n2 with action := actDemote }, matchIndex := 2 },
                       { id := 3, node := { n3 with action := actForceRemove }, matchIndex := 2 }] } }

/-- the follower 2 acknowledges entry 3 -/
def exAck : Op := .replUpdates [{ id := 2, upd := .matchIndex 3 }]

theorem exN_start : Start exN :=
  ⟨(C06Cache.cacheOK_iff _).mp ⟨by decide, by decide, by decide, by decide, by decide⟩, by decide,
    Or.inr ⟨1, { id := 1, addr := "a:1", voter := true }, by decide, rfl, rfl⟩⟩

/-- EXAMPLE (the hypotheses of `step_chain_partial` are satisfiable, by the interesting case): ONE step — the acknowledgement
of entry 3 — commits the pending configuration, demotes node 2 (entry 4: the leader is now the ONLY voter, so entry 4 is
committed inside `storeEntry`) and, nested inside the commit of entry 4, force-removes node 3 (entry 5, committed at once
as well): two configuration entries in one step, the second stored three calls deep; the task 9 of entry 3 is answered.
(The outcome is checked by running the model — `#guard` below: the kernel cannot evaluate `List.mergeSort` in
`majorityMatchIndex`.) -/
example : Start exN ∧ exN.role = .leader ∧ OpOk exAck ∧ LeaderOp exAck :=
  ⟨exN_start, rfl, trivial, .replUpdates _⟩

#guard (exN.step exAck [] []).panicked = none
#guard (exN.step exAck [] []).lastLogIndex = 5
#guard (exN.step exAck [] []).commitIndex = 5
#guard (cfgsOf ((exN.step exAck [] []).log.entries.drop 3)).map (fun c => (c.index, c.nodes.map (fun n => (n.id, n.voter, n.action)))) =
      [(4, [(1, true, 0), (2, false, 0), (3, false, 4)]), (5, [(1, true, 0), (2, false, 0)])]
#guard C15Tasks.answered (exN.step exAck [] []) = [9]

/-- EXAMPLE state: a single-voter leader with two caught-up non-voters -/
def exS : Node :=
  let n1 : CNode := { id := 1, addr := "a:1", voter := true }
  let n2 : CNode := { id := 2, addr := "b:1", voter := false }
  let n3 : CNode := { id := 3, addr := "c:1", voter := false }
  let c : Config := { nodes := [n1, n2, n3], index := 1, term := 1 }
  { nid := 1, cid := 7, term := 1, durTerm := 1, role := .leader, leader := 1,
    log := { entries := [c.toEntry, { index := 2, term := 1, typ := etNop }], flushed := 2 },
    lastLogIndex := 2, lastLogTerm := 1, commitIndex := 2, fsm := { index := 2, term := 1, config := c },
    configs := { committed := c, latest := c },
    ldr := { node := n1, numVoters := 1, startIndex := 2,
             repls := [{ id := 2, node := n2, matchIndex := 2 }, { id := 3, node := n3, matchIndex := 2 }] } }

/-- the request: remove node 2 (caught up: the removal proceeds at once) and force-remove node 3 -/
def exReq : Config :=
  { nodes := [{ id := 1, addr := "a:1", voter := true }, { id := 2, addr := "b:1", voter := false, action := actRemove },
              { id := 3, addr := "c:1", voter := false, action := actForceRemove }], index := 1, term := 1 }

/-- EXAMPLE (`step_chain_partial` applied, every hypothesis checked by the kernel): the single-voter leader `exS` stores an
update and commits it at once (fast path) -/
example : LogChain exS (exS.step (.newEntries [{ typ := etUpdate, data := "y", task := 7 }]) [] []) :=
  step_chain_partial exS _ [] []
    ⟨(C06Cache.cacheOK_iff _).mp ⟨by decide, by decide, by decide, by decide, by decide⟩, by decide,
      Or.inr ⟨1, { id := 1, addr := "a:1", voter := true }, by decide, rfl, rfl⟩⟩
    rfl (fun q hq => by rw [List.mem_singleton.mp hq]; decide) (.newEntries _) (fun _ _ e => by cases e)
    (by decide +kernel)

theorem exS_good : NoPanic.Good false exS :=
  ⟨rfl,
   ⟨⟨by decide, by decide, by decide, by decide, by decide, by decide, ⟨by decide, by decide, by decide⟩, by decide,
     fun rs h => by cases h⟩, by decide⟩,
   ⟨by decide, by decide, by decide, by decide, by decide, by decide⟩,
   fun _ _ => ⟨⟨by decide, ⟨3, by decide, rfl⟩, by decide, by decide, by decide, by decide, by decide, by decide,
     by decide⟩, (C06Cache.cacheOK_iff _).mp ⟨by decide, by decide, by decide, by decide, by decide⟩⟩⟩

/-- EXAMPLE (the hypotheses of `task_step_one` are satisfiable by the case that `C15Tasks.task_step` excludes): a
ChangeConfig request WITH actions handled by a leader that is the ONLY voter (`Good false`, `ReqOk' false`; neither `NoAct`
nor the two-anchor condition `UserCfg true` holds). The budget hypothesis and the outcome are checked by running the model
(`#guard` below: the kernel cannot evaluate the address validation of `Config.validate`). -/
example : NoPanic.Good false exS ∧ exS.closed = "" ∧ NoPanic.ReqOk' false exS (.changeConfig 7 exReq) ∧
    C15Tasks.TasksOK exS ∧ C15Tasks.Fresh exS (.changeConfig 7 exReq) ∧ ¬ C15Tasks.NoAct exS (.changeConfig 7 exReq) ∧
    ¬ NoPanic.UserCfg true exS.nid exReq :=
  ⟨exS_good, rfl, by decide, by decide, by decide, by decide, by decide⟩

-- the step does not fail; the removal of node 2 is stored as entry 3 WITH the task 7 and committed at once; nested inside
-- that commit, the removal of node 3 is stored as entry 4 for the null task; the loop of `checkConfigActions` over the
-- SUBMITTED configuration then reaches node 3, whose replication is gone: task 7 is answered exactly once
#guard (exS.step (.changeConfig 7 exReq) [] []).panicked = none
#guard (exS.step (.changeConfig 7 exReq) [] []).lastLogIndex = 4
#guard (exS.step (.changeConfig 7 exReq) [] []).commitIndex = 4
#guard C15Tasks.answered (exS.step (.changeConfig 7 exReq) [] []) = [7]
#guard C15Tasks.pending (exS.step (.changeConfig 7 exReq) [] []) = []
#guard (cfgsOf ((exS.step (.changeConfig 7 exReq) [] []).log.entries.drop 2)).map (fun c => c.nodes.map (·.id)) = [[1, 3], [1]]
-- the other iteration order: node 3 first (entry 3, task 7, committed at once); the removal of node 2 — in the nested call as
-- well as in the caller's loop over the submitted configuration — now has to wait until node 2 has caught up with entry 3
#guard C15Tasks.answered (exS.step (.changeConfig 7 exReq) [] [[3, 2], [3, 2], [3, 2]]) = [7]
#guard (cfgsOf ((exS.step (.changeConfig 7 exReq) [] [[3, 2], [3, 2], [3, 2]]).log.entries.drop 2)).map (fun c => c.nodes.map (·.id)) = [[1, 2]]

/-- EXAMPLE state: a node that has just won an election (the only voter; its `Leader` record is stale / empty); the latest
configuration, committed, still asks to force-remove node 3 (the previous leader did not get to it) -/
def exI : Node :=
  let n1 : CNode := { id := 1, addr := "a:1", voter := true }
  let n2 : CNode := { id := 2, addr := "b:1", voter := false }
  let n3 : CNode := { id := 3, addr := "c:1", voter := false, action := actForceRemove }
  let c : Config := { nodes := [n1, n2, n3], index := 1, term := 1 }
  { nid := 1, cid := 7, term := 2, durTerm := 2, votedFor := 1, durVote := 1, role := .leader, leader := 1,
    log := { entries := [c.toEntry, { index := 2, term := 1, typ := etNop }], flushed := 2 },
    lastLogIndex := 2, lastLogTerm := 1, commitIndex := 2, fsm := { index := 2, term := 1, config := c },
    configs := { committed := c, latest := c } }

/-- EXAMPLE (`leaderInit_chain` applied, every hypothesis checked by the kernel): `leader.init` stores the no-op entry 3,
commits it alone, and — inside that commit — force-removes node 3 (configuration entry 4, committed at once) -/
example : LogChain exI exI.leaderInit ∧ exI.leaderInit.lastLogIndex = 4 ∧ exI.leaderInit.commitIndex = 4 ∧
    (cfgsOf (exI.leaderInit.log.entries.drop 2)).map (fun c => (c.index, c.nodes.map (·.id))) = [(4, [1, 2])] :=
  ⟨leaderInit_chain exI (by decide) (Or.inr ⟨1, { id := 1, addr := "a:1", voter := true }, by decide, rfl, rfl⟩)
    (by decide +kernel), by decide +kernel, by decide +kernel, by decide +kernel⟩

/-- EXAMPLE (the hypotheses of `task_run_one` / `task_run_shutdown_one` are satisfiable): on the single-voter leader `exS`
an update (task 7) and a read (task 8) are submitted, then `Shutdown` -/
example :
    let evs : List C15Tasks.Ev := [(.newEntries [{ typ := etUpdate, data := "y", task := 7 }, { typ := etRead, task := 8 }], [], [])]
    NoPanic.Good false exS ∧ C15Tasks.TasksOK exS ∧ (C15Tasks.submittedRun evs).Nodup ∧
    (∀ t ∈ C15Tasks.submittedRun evs, t ∉ C15Tasks.pending exS) ∧ RunGood1 false exS evs :=
  ⟨exS_good, by decide, by decide, by decide, ⟨rfl, by decide, by decide +kernel, trivial⟩⟩

/-! ### FINDING (about the MODEL, not the Go code): the recursion budget and quorum 1

`Node.fuelFor` gives the mutually recursive leader block a budget of `64 + 4 * batch` nested calls, with the remark "real
nesting depth is bounded (a configuration entry can trigger at most one more)". For a leader that is the ONLY voter that
remark is wrong: every configuration entry is committed inside the call that stored it, and its commit starts the next
pending action — the nesting depth is the NUMBER OF PENDING ACTIONS (about 6 calls per level). With 10 non-voters to
force-remove the budget suffices; with 11 the model records `panicked = some "fuel"` (and then runs on a meaningless
totalised path), while the Go code simply recurses a little deeper. All theorems here (as `C15NoPanic.good_step`) therefore
carry the hypothesis "the budget is not exhausted"; differential tests with more than 10 simultaneous removals on a
single-voter cluster would report a spurious difference. -/

/-- a single-voter leader with `k` caught-up non-voters -/
def exMany (k : Nat) : Node :=
  let n1 : CNode := { id := 1, addr := "a:1", voter := true }
  let nvs : List CNode := (List.range k).map (fun i => { id := i + 2, addr := s!"h{i}:1", voter := false })
  let c : Config := { nodes := n1 :: nvs, index := 1, term := 1 }
  { nid := 1, cid := 7, term := 1, durTerm := 1, role := .leader, leader := 1,
    log := { entries := [c.toEntry, { index := 2, term := 1, typ := etNop }], flushed := 2 },
    lastLogIndex := 2, lastLogTerm := 1, commitIndex := 2, fsm := { index := 2, term := 1, config := c },
    configs := { committed := c, latest := c },
    ldr := { node := n1, numVoters := 1, startIndex := 2,
             repls := nvs.map (fun n => { id := n.id, node := n, matchIndex := 2 }) } }

/-- the request: force-remove all of them -/
def exManyReq (k : Nat) : Config :=
  { nodes := { id := 1, addr := "a:1", voter := true } ::
      (List.range k).map (fun i => { id := i + 2, addr := s!"h{i}:1", voter := false, action := actForceRemove }),
    index := 1, term := 1 }

-- 10 removals: 10 configuration entries in ONE step, nested 10 deep, task answered once
#guard ((exMany 10).step (.changeConfig 7 (exManyReq 10)) [] []).panicked = none
#guard ((exMany 10).step (.changeConfig 7 (exManyReq 10)) [] []).lastLogIndex = 12
#guard C15Tasks.answered ((exMany 10).step (.changeConfig 7 (exManyReq 10)) [] []) = [7]
-- 11 removals: the model's budget is exhausted
#guard ((exMany 11).step (.changeConfig 7 (exManyReq 11)) [] []).panicked = some "fuel"

/-- EXAMPLE (ledger level): the quorum-intersection lemma of `MemberCore.member_safety` has no lower bound on the
number of voters — the majorities of the adjacent voter sets `{1}` and `{1, 2}` (`{1}` resp. `{1, 2}`) intersect, and so do
those of `{1, 2}` and `{2}` (demoting / removing node 1) -/
example : QuorumRel.AdjLists [1] [1, 2] ∧ (∃ x, x ∈ [1] ∧ x ∈ [1, 2]) ∧ QuorumRel.AdjLists [1, 2] [2] ∧
    (∃ x, x ∈ [1, 2] ∧ x ∈ [2]) :=
  ⟨⟨2, fun x hx => by simp [hx]⟩,
   QuorumRel.adjacent_quorums_intersect [1] [1, 2] [1] [1, 2] (by decide) (by decide) (by decide) (by decide)
     ⟨2, fun x hx => by simp [hx]⟩ (by decide) (by decide) (by decide) (by decide),
   ⟨1, fun x hx => by simp [hx]⟩,
   QuorumRel.adjacent_quorums_intersect [1, 2] [2] [1, 2] [2] (by decide) (by decide) (by decide) (by decide)
     ⟨1, fun x hx => by simp [hx]⟩ (by decide) (by decide) (by decide) (by decide)⟩

end C08One
end Raft

#print axioms Raft.One.block
#print axioms Raft.One.onChangeConfig_one
#print axioms Raft.C08One.step_chain_partial
#print axioms Raft.C08One.leaderInit_chain
#print axioms Raft.C08One.chain_links
#print axioms Raft.C08One.start_of_good
#print axioms Raft.C08One.step_rel_one
#print axioms Raft.C08One.once_of_start -- also C15
#print axioms Raft.C08One.task_step_one -- also C15
#print axioms Raft.C08One.task_run_one -- also C15
#print axioms Raft.C08One.task_run_shutdown_one -- also C15
