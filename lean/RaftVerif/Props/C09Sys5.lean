/-
C09 / C04 / C02 / C03 / C10 / C06 on the cluster-level transition system `Raft.Snap6` (Sys/Snap6.lean) — stage 3
(`Raft.Snap3`: local snapshots, log compaction, installation of snapshots, crashes at every storage point) WITHOUT the two
restrictions stage 3 put on its crash transitions:

(A) **the stale reset** — no premise "`openStorage` does not reset the log" (`staleLog (crashDisk …) = false`), neither for
    the operations of stage 2 nor for a crash in the install handler that leaves the old snapshot files.  A node whose
    flushed index is below its commit index may take a snapshot at its commit index (`C10Sys2.stale_log_after_own_snapshot`);
    from then on every crash leaves a log that ends below the newest snapshot file, and the restart resets the log to
    that file.  `stale_restart_is_committed_replacement`: the restarted node's virtual log is the COMMITTED PREFIX the
    file stands for (`SnapInst.cinv_replace` after the crash of the view without snapshot data: Lemmas/SnapStale.lean) — the
    invariant of stage 1 is kept; a log on a crash disk is stale ONLY because it is short (`SnapCut.stale_is_short`).
(B) **the cut** — no premise `Snap3.NoCut`: a process may die while an append request overwrites the uncommitted first
    entry directly behind an installed snapshot (`0 < log.prev = snapIndex = commitIndex`): after `RemoveGTE` the log on
    disk is EMPTY and contiguous with the snapshot, after `commitLog` it holds the new entries.
    `cut_crash_keeps_committed_prefix`: none of these disks is stale, the restart keeps `log.prev`, and the restarted
    virtual log is `(old virtual log).take commitIndex ++ (log on disk)` — what was removed was uncommitted
    (Lemmas/SnapCut.lean: the crash is followed with the un-compaction that keeps the segment list, `SnapInstV.V`).

RESULT: both (A) and (B) are TRUE in the model — no counterexample.  Every run of `Raft.Snap3` is a run of `Raft.Snap6`
(`stage3_runs_are_snap6_runs`), and the invariant `SnapInst3.Inv3` holds in every reachable state of `Raft.Snap6`
(`SnapCut.inv6_reachable`), hence the stage-3 theorems: `snapshot_agrees_with_log_sys_snap6_partial`,
`log_matching_sys_snap6_partial`, `leader_completeness_sys_snap6_partial`, `state_machine_safety_sys_snap6_partial`,
`snapshot_is_committed_prefix_sys_snap6_partial`, `install_request_is_committed_prefix_sys_snap6_partial`, and
`rejoin_after_any_crash_snap6_partial` (C10 / C06: the state after ANY crash + restart is reachable again).

Restrictions kept (`_partial`): those of Sys/Snap3.lean other than the two above — fixed voter set `V`, fixed stable
configuration, no forged requests, `.shutdown` never occurs, replication updates report no compaction, completed steps do not
fail an assertion and a process dies only in a step that would not fail one, `retain ≥ 1`, side conditions `Side3` on every
state, and `TermTracked` (a `.snapRun` step is taken in a state in which `fsm.term` is the term of the log entry at
`fsm.index`).  `TermTracked` is REMOVED for the runs of `Snap6.TransT` (`Reachable6T`: side conditions `Snap4.Side4`, initial
states tracking and ordered): `tracked_runs_snap6_partial` (Lemmas/SnapCut.lean: the per-node invariants survive stale
resets and the cut), `restart_succeeds_and_rejoins_snap6_partial` (C10: at EVERY crash point of EVERY enabled step the restart
succeeds and the state is reachable again; one explicit assumption `SnapFbOp`, on `.snapRun` only, as in Props/C10Sys2.lean).
-/
import RaftVerif.Lemmas.SnapCut
import RaftVerif.Props.C09Sys3
import RaftVerif.Props.C10Sys2
import RaftVerif.Props.C06Snap

namespace Raft
namespace C09Sys5
open Node Election LogRel Replication CommitRel Commit C02Sys C03Sys SnapRel SnapRelU SnapSim Snap Snap2 SnapInv SnapInv2
open SnapInst Snap3 SnapInst3 Snap4 SnapInst4 Snap6 SnapCut TrackCrash RestartSys DurableRel DurableSnap
open C06Sys (Majority)

/-! ## node level -/

/-- **(A), node level — what `openStorage` makes of a stale log.** Whatever the disk `d`: if the log on `d` is stale with
respect to the newest snapshot file `f` on `d` (`Node.staleLog`: it ends below `f.index`, or holds an entry of another term
at `f.index`) and the restart succeeds, the restarted node has the log `NLog.reset f.index` (empty, starting at the file),
last log index / term, snapshot index / term and commit index those of `f`, the state machine restored from `f`, the files
of `d`, the durable term and vote (memory = disk); it is a follower with nothing pending. -/
theorem stale_restart_resets_to_snapshot (d : Durable) (r : Nat) (sor : Bool) (n : Node)
    (hn : Node.restart d r sor = some n) (hst : staleLog d = true) :
    n.log = NLog.reset (headSnap d).index ∧ n.lastLogIndex = (headSnap d).index ∧ n.lastLogTerm = (headSnap d).term ∧
    n.snapIndex = (headSnap d).index ∧ n.snapTerm = (headSnap d).term ∧ n.commitIndex = (headSnap d).index ∧
    n.fsm = { index := (headSnap d).index, term := (headSnap d).term, applied := (headSnap d).data,
              config := (headSnap d).config } ∧
    n.snapsDisk = d.snaps ∧ n.role = .follower ∧ n.term = d.term ∧ n.votedFor = d.vote ∧ n.nid = d.nid ∧
    n.retain = r ∧ n.snapResult = none ∧ n.trace = [] ∧ C05.VoteWF n :=
  restart_stale_fields d r sor n hn hst

/-! ## cluster level -/

section
variable {V : List Nat}

/-- **`Raft.Snap6` extends `Raft.Snap3`**: every state reachable in the system of stage 3 is reachable in `Raft.Snap6`
(whose crash transitions have fewer premises). -/
theorem stage3_runs_are_snap6_runs (hV : V.Nodup) (x : Snap3.Sys) (h : Reachable3 V x) : Reachable6 V x :=
  reach3_reach6 hV h

/-- **(A) — a stale restart is a replacement by a committed prefix.** Let `x` be reachable in `Raft.Snap6`, let node `i`
die after `k` storage points of ANY enabled operation `op` of stage 2 (votes, append requests, timeouts, client batches,
the snapshot goroutine, `onSnapshotTaken` / compaction, replication updates …) that would not fail an assertion, let the log
on its disk be STALE, and let `n` be the node restarted from that disk; `F` = index of the newest snapshot file `f` on the
disk.  Then, with `y` the state after the transition:
1. `n.log = NLog.reset F`, `n.commitIndex = n.snapIndex = F`, `n.fsm.applied = f.data`;
2. the log on disk was stale only because it was SHORT: it ended below `F` (the other reason is excluded);
3. the virtual log of `i` in `y` is `(x.vlog i).take F` — the first `F` entries of its virtual log before the crash, and
   `1 ≤ F ≤ commitIndex` of `i` in `x`: a REPLACEMENT BY A COMMITTED ROOT PATH;
4. every entry of it is committed (ledger of `y`), `f.data` is its replay, and it is the first `F` entries of the virtual
   log of EVERY node `j` of `y` whose commit index covers `F`;
5. the invariant of stage 3 holds in `y` — so, the side conditions given, `y` is reachable again. -/
theorem stale_restart_is_committed_replacement (hV : V.Nodup) (x : Snap3.Sys) (h : Reachable6 V x) (i : Nat) (op : Op)
    (ra : List Nat) (ord : List (List Nat)) (src k retain : Nat) (sor : Bool) (n : Node)
    (en : Snap.Enabled x.s2.cs i op src) (hret : 1 ≤ retain) (hp : ((x.node i).step op ra ord).panicked = none)
    (htt : TermTracked (x.node i) op)
    (hst : staleLog (C05.crashDisk (x.node i) op ra ord k) = true)
    (hn : Node.restart (C05.crashDisk (x.node i) op ra ord k) retain sor = some n) :
    let y : Snap3.Sys := { x with s2 := crashS x.s2 i op n }
    let f := headSnap (C05.crashDisk (x.node i) op ra ord k)
    (n.log = NLog.reset f.index ∧ n.commitIndex = f.index ∧ n.snapIndex = f.index ∧ n.fsm.applied = f.data) ∧
    (C05.crashDisk (x.node i) op ra ord k).log.last < f.index ∧
    (y.vlog i = (x.vlog i).take f.index ∧ 1 ≤ f.index ∧ f.index ≤ (x.node i).commitIndex) ∧
    ((∀ j, 1 ≤ j → j ≤ f.index → Committed (view3 y).cs (j, termAt (y.vlog i) j)) ∧
      f.data = ups (y.vlog i) ∧
      ∀ j, f.index ≤ (y.node j).commitIndex → (y.vlog j).take f.index = y.vlog i) ∧
    Inv3 V y ∧ (Side3 V y → Reachable6 V y) := by
  intro y f
  obtain ⟨hI, hS⟩ := inv6_reachable hV h
  -- `NoCut` holds: inside the window no disk is stale
  have hnc : NoCut (x.node i) op := by
    by_cases hap : ∃ q, op = .append q
    · obtain ⟨q, rfl⟩ := hap
      apply Classical.byContradiction
      intro hc
      rw [cut_not_stale hI hS k en hc] at hst
      cases hst
    · exact noCut_of_not_append _ hap
  obtain ⟨hIy, a5, a6⟩ := inv3_crash_stale hV hI hS en hret hp hnc htt hst hn
  obtain ⟨b1, _, _, b4, _, b6, b7, b8, _⟩ := restart_stale_fields _ retain sor n hn hst
  have hyi : y.node i = n := crashS_node_i _ _ _ _
  have hfm : f ∈ (y.node i).snapsDisk := by rw [hyi, b8]; exact headSnap_mem _ (stale_pos _ hst)
  obtain ⟨c1, c2, c3, c4, c5, c6⟩ :=
    C09Sys.snapshot_is_committed_prefix_of_inv (view3 y) hIy.sinv i f (Or.inr hfm)
  have hyv : y.vlog i = (x.vlog i).take f.index := a6
  have hlen : (y.vlog i).length = (y.node i).log.last := vlog_length y i
  have hFl : (y.vlog i).length = f.index := by
    rw [hlen, hyi, b1]; rfl
  have htk : (y.vlog i).take f.index = y.vlog i := List.take_of_length_le (by rw [hFl]; exact Nat.le_refl _)
  have hFx : f.index ≤ (x.node i).commitIndex := by
    -- the files on the crash disk lie within the commit index
    have so : SnapOK (x.vnode i) := hI.sinv.snap i
    by_cases hsn : op = .snapTaken
    · subst hsn
      have hsn' : (C05.crashDisk (x.node i) .snapTaken ra ord k).snaps = (x.node i).snapsDisk := by
        rcases snapTaken_crashDisk (x.node i) ra ord k with e | ⟨e, _⟩ <;> rw [e] <;> rfl
      have hm : f ∈ (x.node i).snapsDisk := by rw [← hsn']; exact headSnap_mem _ (stale_pos _ hst)
      exact (so.files.files f hm).2.1
    · obtain ⟨_, _, _, _, hfo⟩ := crash3_disk hI hS k en hp hsn hnc htt
      exact (hfo.files f (headSnap_mem _ (stale_pos _ hst))).2.1
  have hshort : (C05.crashDisk (x.node i) op ra ord k).log.last < f.index := by
    by_cases hsn : op = .snapTaken
    · subst hsn
      -- both disks of `.snapTaken` hold the durable part of the old or of the compacted log, and the old files, which
      -- name entries of the virtual log
      have hsn' : (C05.crashDisk (x.node i) .snapTaken ra ord k).snaps = (x.node i).snapsDisk := by
        rcases snapTaken_crashDisk (x.node i) ra ord k with e | ⟨e, _⟩ <;> rw [e] <;> rfl
      have hm : f ∈ (x.node i).snapsDisk := by rw [← hsn']; exact headSnap_mem _ (stale_pos _ hst)
      have hterm : termAt (x.vlog i) f.index = f.term := (hI.vterm i).files f hm
      rcases snapTaken_crashDisk (x.node i) ra ord k with e | ⟨e, _⟩
      · exact stale_is_short_of_drop (x.s2.base i) (x.node i).log (x.node i).log (by rw [e]; rfl) (Nat.le_refl _)
          (by rw [Nat.sub_self]; rfl) hterm hst
      · obtain ⟨c1', _, c3', _⟩ := compact_cases ((x.node i).begin ra ord) (hS.segs i)
        exact stale_is_short_of_drop (x.s2.base i) (x.node i).log ((x.node i).begin ra ord).onSnapshotTaken.log
          (by rw [e]) c1' c3' hterm hst
    · obtain ⟨hdisk, hd, _, hft, hfo⟩ := crash3_disk hI hS k en hp hsn hnc htt
      have hSv : SideS V (view x.s2) := sideS_view3 hS
      have hlogv : op = .snapTaken → (((view x.s2).node i).step op ra ord).log = ((view x.s2).node i).log :=
        fun h' => absurd h' hsn
      refine stale_is_short (β := x.s2.base i) hd.2 hft hfo (fun K h1 h2 => ?_) hst
      have := crash_keep_snap hV hI.sinv hSv ra ord k (enabled_view en) hlogv K h1
        (by show K ≤ (C05.crashDisk (x.vnode i) op ra ord k).log.entries.length; rw [hdisk]; exact h2)
      have this' : (C05.crashDisk (x.vnode i) op ra ord k).log.entries.take K = (x.vlog i).take K := this
      rw [hdisk] at this'
      exact this'
  have c5' : f.data = ups ((y.vlog i).take f.index) := c5
  refine ⟨⟨a5, b6, b4, by rw [b7]⟩, hshort, ⟨hyv, c1, hFx⟩, ⟨c4, by rw [c5', htk], fun j hj => ?_⟩, hIy,
    fun hS' => .next x y h (.crash i op ra ord src k retain sor n en hret hp htt hn) hS'⟩
  -- every node whose commit index covers `F` holds the prefix
  have hc := hIy.sinv.cinv
  obtain ⟨_, _, _, eN⟩ := SnapInst3.cview y
  generalize eview (view3 y).cs = z at hc eN
  obtain ⟨ei, _, eci, _⟩ := eN i
  obtain ⟨ej, _, ecj, _⟩ := eN j
  have hpath : Path z.T (y.vlog i) := ei ▸ log_path hc i
  have hF1 : 1 ≤ (y.vlog i).length := by rw [hFl]; exact c1
  obtain ⟨_, hcm⟩ := hc.cmt.cc i (y.vlog i).length hF1 (by rw [eci, hFl, hyi, b6]; exact Nat.le_refl _)
  have hcm' : Cmt z ((y.vlog i).length, lastTerm (y.vlog i)) (z.node i).term := by
    rw [ei] at hcm; rw [← termAt_length]; exact hcm
  have := path_agree_commit hc hpath hF1 hcm' j f.index (ecj ▸ hj) (by rw [hFl]; exact Nat.le_refl _)
  rw [htk, ej] at this
  exact this.symm

/-- **(B) — the cut: a crash while an append request overwrites the first entry behind an installed snapshot.** Let `x`
be reachable in `Raft.Snap6` and let node `i` be INSIDE the window `Snap3.NoCut` excluded: the append request `q` is not
stale and conflicts with the log of `i` at `log.prev + 1`, and `0 < log.prev`, `¬ log.prev < snapIndex`,
`¬ log.prev < commitIndex`.  Let `i` die after `k` storage points (`value.set`, `removeGTE`, `commitLog`; any `k`) of
handling `q` and restart as `n`.  Then:
1. `log.prev = snapIndex = commitIndex` on `i` (the entry to be overwritten is UNCOMMITTED);
2. the log on disk starts at `log.prev`, the snapshot files are untouched, and the log on disk is NOT stale — whether it
   still holds the old entries, is EMPTY (after `removeGTE`: contiguous with the snapshot), or holds new entries;
3. the restarted log starts at `log.prev` and holds exactly the entries on disk; `n.commitIndex = snapIndex`;
4. given the side conditions in the state `y` after the transition: the invariant of stage 3 holds in `y`, `y` is
   reachable, and the virtual log of `i` in `y` is `(x.vlog i).take commitIndex ++ n.log.entries` — the committed prefix
   is intact. -/
theorem cut_crash_keeps_committed_prefix (hV : V.Nodup) (x : Snap3.Sys) (h : Reachable6 V x) (i : Nat) (q : AppendReq)
    (ra : List Nat) (ord : List (List Nat)) (src k retain : Nat) (sor : Bool) (n : Node)
    (en : Snap.Enabled x.s2.cs i (.append q) src) (hret : 1 ≤ retain)
    (hp : ((x.node i).step (.append q) ra ord).panicked = none)
    (hcut : ¬ NoCut (x.node i) (.append q))
    (hn : Node.restart (C05.crashDisk (x.node i) (.append q) ra ord k) retain sor = some n) :
    let y : Snap3.Sys := { x with s2 := crashS x.s2 i (.append q) n }
    let d := C05.crashDisk (x.node i) (.append q) ra ord k
    (0 < (x.node i).log.prev ∧ (x.node i).log.prev = (x.node i).snapIndex ∧
      (x.node i).snapIndex = (x.node i).commitIndex) ∧
    (d.log.prev = (x.node i).log.prev ∧ d.snaps = (x.node i).snapsDisk ∧ staleLog d = false) ∧
    (n.log.prev = (x.node i).log.prev ∧ n.log.entries = d.log.entries ∧ n.commitIndex = (x.node i).snapIndex) ∧
    (Side3 V y → Inv3 V y ∧ Reachable6 V y ∧
      y.vlog i = (x.vlog i).take (x.node i).commitIndex ++ n.log.entries) := by
  intro y d
  obtain ⟨hI, hS⟩ := inv6_reachable hV h
  have so : SnapOK (x.vnode i) := hI.sinv.snap i
  have hle := (hI.prev i).le
  have hsc : (x.node i).snapIndex ≤ (x.node i).commitIndex := by
    show (x.vnode i).snapIndex ≤ (x.vnode i).commitIndex
    rw [so.head]; exact so.files.head_le
  have h0 : ¬ (x.node i).log.prev = 0 := fun e => hcut (Or.inr (Or.inl e))
  have h1 : ¬ (x.node i).log.prev < (x.node i).snapIndex := fun e => hcut (Or.inr (Or.inr (Or.inl e)))
  have h2 : ¬ (x.node i).log.prev < (x.node i).commitIndex := fun e => hcut (Or.inr (Or.inr (Or.inr (Or.inl e))))
  obtain ⟨d1, d2⟩ := append_disk hI hS (ra := ra) (ord := ord) k en
  have hst := cut_not_stale hI hS (ra := ra) (ord := ord) k en hcut
  obtain ⟨r1, r2⟩ := SnapInst4.restart_log_notstale _ retain sor n hn hst
  obtain ⟨_, _, w3, _⟩ := restart_snapTerm _ retain sor n hn
  have hhd : (headSnap d).index = (x.node i).snapIndex := by
    show (headOf d.snaps).index = _
    rw [show d.snaps = (x.node i).snapsDisk from d2]; exact so.head.symm
  refine ⟨⟨by omega, by omega, by omega⟩, ⟨d1, d2, hst⟩, ⟨by rw [r2]; exact d1, r1, by rw [w3]; exact hhd⟩, fun hS' => ?_⟩
  have hIy := inv3_crash_append hV hI hS en hret hp hst hn hS'
  refine ⟨hIy, .next x y h (.crash i (.append q) ra ord src k retain sor n en hret hp trivial hn) hS', ?_⟩
  have hseg : n.log.segs ≠ [] := fun he => by
    have := (hS'.segs i).head
    have e : y.node i = n := crashS_node_i _ _ _ _
    rw [e, he] at this; cases this
  obtain ⟨_, _, a3, _, _, _⟩ := crash3_append hV hI hS en hret hp hst hn hseg (sideS_view3 hS')
  show ((crashS x.s2 i (.append q) n).vnode i).log.entries = _
  rw [a3]
  show pad (x.s2.base i) n.log.prev ++ n.log.entries = _
  have hpc : n.log.prev = (x.node i).commitIndex := by rw [r2, d1]; omega
  have hpp : n.log.prev = (x.node i).log.prev := by rw [r2]; exact d1
  rw [← hpc, hpp]
  have : (x.vlog i).take (x.node i).log.prev = pad (x.s2.base i) (x.node i).log.prev :=
    take_vlog (x.s2.base i) (x.node i).log
  rw [this]

/-- **C09 — the snapshot agrees with the log (partial, `Raft.Snap6`).** In every state reachable in `Raft.Snap6` (any
schedule, message delay / loss / duplication / reordering, crashes at ANY storage point of ANY handler — stale resets and the
cut included — and restarts), on every node `i`: `log.prev ≤ snapIndex ≤ commitIndex`; `snapTerm` is the term of the newest
file; every snapshot file on disk names an entry of the virtual log; the log entry at the snapshot index, if the log holds
it, has term `snapTerm`. -/
theorem snapshot_agrees_with_log_sys_snap6_partial (hV : V.Nodup) (x : Snap3.Sys) (h : Reachable6 V x) (i : Nat) :
    ((x.node i).log.prev ≤ (x.node i).snapIndex ∧ (x.node i).snapIndex ≤ (x.node i).commitIndex) ∧
    ((x.node i).snapTerm = (headOf (x.node i).snapsDisk).term ∧
      (∀ f ∈ (x.node i).snapsDisk, termAt (x.vlog i) f.index = f.term)) ∧
    (∀ e, (x.node i).log.get? (x.node i).snapIndex = some e → e.term = (x.node i).snapTerm) :=
  have h := C09Sys3.snapshot_agrees_of_inv3 (inv6_reachable hV h).1 i
  ⟨h.1, ⟨h.2.1.1, h.2.1.2.1⟩, h.2.2.1⟩

/-- **C04 — log matching (partial, `Raft.Snap6`).** In every reachable state of `Raft.Snap6`: if the logs of nodes `i` and
`j` hold entries with the same term at index `k`, then at every index `k' ≤ k` that both logs still hold they hold the SAME
entry; and the same for the virtual logs at every index `k' ≤ k`. -/
theorem log_matching_sys_snap6_partial (hV : V.Nodup) (x : Snap3.Sys) (h : Reachable6 V x) (i j k : Nat)
    (a b : Entry) (ha : (x.node i).log.get? k = some a) (hb : (x.node j).log.get? k = some b)
    (ht : a.term = b.term) :
    (∀ k', k' ≤ k → ∀ a' b', (x.node i).log.get? k' = some a' → (x.node j).log.get? k' = some b' → a' = b') ∧
    (∀ k', k' ≤ k → ∀ a' b', (x.vnode i).log.get? k' = some a' → (x.vnode j).log.get? k' = some b' → a' = b') :=
  C09Sys2.log_matching_of_view x.s2 (inv6_reachable hV h).1.sinv i j k a b ha hb ht

/-- **C02 — leader completeness (partial, `Raft.Snap6`).** In every reachable state of `Raft.Snap6`: every leader holds
(virtually; really above `log.prev`, else covered by its snapshot) every ledger entry of a term not above its own; every
leader whose term is at least that of node `j` holds, at every index within `j`'s commit index — which may come from a
snapshot `j` was RESET to — the entry `j` holds there; every created entry of a later term extends every ledger entry. -/
theorem leader_completeness_sys_snap6_partial (hV : V.Nodup) (x : Snap3.Sys) (h : Reachable6 V x) :
    (∀ i, (x.node i).role = .leader → ∀ m ∈ x.s2.cs.committed, m.2 ≤ (x.node i).term →
      ∃ e, (x.vnode i).log.get? m.1 = some e ∧ e.term = m.2 ∧
        ((x.node i).log.prev < m.1 → (x.node i).log.get? m.1 = some e) ∧
        (m.1 ≤ (x.node i).log.prev → m.1 ≤ (x.node i).snapIndex)) ∧
    (∀ i j k, (x.node i).role = .leader → (x.node j).term ≤ (x.node i).term → 1 ≤ k →
      k ≤ (x.node j).commitIndex →
      (x.vnode i).log.get? k = (x.vnode j).log.get? k ∧ ((x.vnode j).log.get? k).isSome = true) ∧
    (∀ m ∈ x.s2.cs.committed, ∀ c ∈ x.s2.cs.T, m.2 < c.e.term → Anc x.s2.cs.T m (key c)) :=
  C09Sys2.leader_completeness_of_view hV x.s2 (inv6_reachable hV h).1.sinv (inv6_reachable hV h).1.prev

/-- **C03 — state-machine safety (partial, `Raft.Snap6`).** In every reachable state of `Raft.Snap6`, on every node —
whatever mixture of applying, snapshotting, compacting, installing, crashing (stale resets and the cut included) and
restoring produced its state: the state machine holds exactly the update payloads of the entries `1 … fsm.index` of its
virtual log and never ran ahead of the commit index; every entry it was fed is committed; any two command sequences are
prefix-comparable. -/
theorem state_machine_safety_sys_snap6_partial (hV : V.Nodup) (x : Snap3.Sys) (h : Reachable6 V x) :
    (∀ i, (x.node i).fsm.index ≤ (x.node i).commitIndex ∧
      (x.node i).fsm.index ≤ (x.vlog i).length ∧
      (x.node i).fsm.applied = ups ((x.vlog i).take (x.node i).fsm.index)) ∧
    (∀ i k, 1 ≤ k → k ≤ (x.node i).fsm.index → Committed (view3 x).cs (k, termAt (x.vlog i) k)) ∧
    (∀ i j, (x.node i).fsm.index ≤ (x.node j).fsm.index →
      (x.vlog i).take (x.node i).fsm.index = (x.vlog j).take (x.node i).fsm.index ∧
      (x.node i).fsm.applied <+: (x.node j).fsm.applied) ∧
    (∀ i j, (x.node i).fsm.applied <+: (x.node j).fsm.applied ∨
      (x.node j).fsm.applied <+: (x.node i).fsm.applied) :=
  C09Sys.state_machine_safety_of_inv (view3 x) (inv6_reachable hV h).1.sinv

/-- **C09 — every snapshot file, taken or installed, is a committed prefix (partial, `Raft.Snap6`).** In every reachable
state of `Raft.Snap6`, for every snapshot file `f` node `i` ever had on disk (ghost ledger `snaps`) and every file on its
disk now — in particular the file a stale log is reset to: `1 ≤ f.index ≤ snapIndex ≤ commitIndex`; every index up to
`f.index` of `i`'s virtual log holds a committed entry and `f.data` is the replay of that prefix — and of the virtual log of
EVERY node whose commit index covers `f.index`. -/
theorem snapshot_is_committed_prefix_sys_snap6_partial (hV : V.Nodup) (x : Snap3.Sys) (h : Reachable6 V x) :
    ∀ i f, ((i, f) ∈ x.s2.snaps ∨ f ∈ (x.node i).snapsDisk) →
      1 ≤ f.index ∧ f.index ≤ (x.node i).snapIndex ∧ (x.node i).snapIndex ≤ (x.node i).commitIndex ∧
      (∀ k, 1 ≤ k → k ≤ f.index → Committed (view3 x).cs (k, termAt (x.vlog i) k)) ∧
      f.data = ups ((x.vlog i).take f.index) ∧
      ∀ j, f.index ≤ (x.node j).commitIndex → f.data = ups ((x.vlog j).take f.index) :=
  C09Sys.snapshot_is_committed_prefix_of_inv (view3 x) (inv6_reachable hV h).1.sinv

/-- **C09 — an install request on the wire is a committed prefix (partial, `Raft.Snap6`).** For every install request a
leader ever sent: its ghost prefix `m.pre` has length `lastIndex ≥ 1`, is a root path whose last entry has term `lastTerm`,
`data` is its replay, and EVERY node whose commit index covers `lastIndex` holds exactly `m.pre` as the first `lastIndex`
entries of its virtual log. -/
theorem install_request_is_committed_prefix_sys_snap6_partial (hV : V.Nodup) (x : Snap3.Sys) (h : Reachable6 V x) :
    ∀ m ∈ x.sentSnaps, m.pre.length = m.q.lastIndex ∧ 1 ≤ m.q.lastIndex ∧ Path (view3 x).cs.T m.pre ∧
      lastTerm m.pre = m.q.lastTerm ∧ m.q.data = ups m.pre ∧
      ∀ j, m.q.lastIndex ≤ (x.node j).commitIndex → (x.vlog j).take m.q.lastIndex = m.pre :=
  fun m hm =>
    have h := C09Sys3.install_request_of_inv3 (inv6_reachable hV h).1 m hm
    ⟨h.1, h.2.1, h.2.2.1, h.2.2.2.1, h.2.2.2.2.2.1, fun j hj => (h.2.2.2.2.2.2 j hj).1⟩

/-- **C10 / C06 — the cluster after ANY crash and restart is reachable again (partial, `Raft.Snap6`).** Let `x` be
reachable in `Raft.Snap6`.  (1) Node `i` dies after ANY number `k` of storage points of ANY enabled operation of stage 2 that
would not fail an assertion — NO condition on the request (`NoCut`) and NO condition on the disk (`staleLog`) — and
restarts as `n`; or (2) it dies at any storage point of handling an install request (stale, or of the ledger) — NO
condition on the disk.  If the state `y` after the transition satisfies the side conditions, `y` is reachable: every
theorem of this file (election safety of the view, log matching, leader completeness, state-machine safety, snapshots =
committed prefixes) holds in `y` and in every state reachable from it. -/
theorem rejoin_after_any_crash_snap6_partial (hV : V.Nodup) (x : Snap3.Sys) (h : Reachable6 V x) (i : Nat)
    (retain : Nat) (sor : Bool) (n : Node) (hret : 1 ≤ retain) :
    (∀ (op : Op) (ra : List Nat) (ord : List (List Nat)) (src k : Nat),
      Snap.Enabled x.s2.cs i op src → ((x.node i).step op ra ord).panicked = none → TermTracked (x.node i) op →
      Node.restart (C05.crashDisk (x.node i) op ra ord k) retain sor = some n →
      Side3 V { x with s2 := crashS x.s2 i op n } →
      Reachable6 V { x with s2 := crashS x.s2 i op n } ∧ Inv3 V { x with s2 := crashS x.s2 i op n }) ∧
    (∀ (m : SnapMsg) (ra : List Nat) (ord : List (List Nat)) (k : Nat), i ≠ 0 →
      (m.q.term < (x.node i).term ∨ m ∈ x.sentSnaps) →
      ((x.node i).step (.install m.q) ra ord).panicked = none →
      Node.restart (C05.crashDisk (x.node i) (.install m.q) ra ord k) retain sor = some n →
      Side3 V (crashInstS6 x i m (C05.crashDisk (x.node i) (.install m.q) ra ord k) n) →
      Reachable6 V (crashInstS6 x i m (C05.crashDisk (x.node i) (.install m.q) ra ord k) n) ∧
      Inv3 V (crashInstS6 x i m (C05.crashDisk (x.node i) (.install m.q) ra ord k) n)) := by
  refine ⟨fun op ra ord src k en hp htt hn hS' => ?_, fun m ra ord k hi hm hp hn hS' => ?_⟩
  · have hr := Reachable6.next x _ h (.crash i op ra ord src k retain sor n en hret hp htt hn) hS'
    exact ⟨hr, (inv6_reachable hV hr).1⟩
  · have hr := Reachable6.next x _ h (.crashInstall i m ra ord k retain sor n hi hm hret hp hn) hS'
    exact ⟨hr, (inv6_reachable hV hr).1⟩

/-- **C06 at the new crash points — what a majority durably covers survives a stale reset and the cut (partial,
`Raft.Snap6`).** Let `y` be reachable in `Raft.Snap6`, `j` any node and `1 ≤ k ≤ commitIndex(j)`; `ref = y.vlog j`.  There
is a duplicate-free majority `Q` of the voters such that every `v ∈ Q`
1. durably covers `1 … k` of `ref` in `y` (`DurableSnap.KeepsS`: flushed, virtual log agrees with `ref`, the flushed part of
   the log on disk answers every `log.prev < k' ≤ k` with `ref`'s entry and `log.prev ≤` index of the newest snapshot file);
2. and, when `v` dies after ANY number `kk` of storage points of ANY enabled operation of stage 2 that would not fail an
   assertion — inside the `NoCut` window, with a stale log on disk, whatever — leaving the disk `d`, and restarts as `n`
   (state `y'`, side conditions given): the disk image covers `1 … k` with the log `openStorage` works with
   (`C10.logOf d`) — `d.log` itself if it is not stale; if it is stale the newest snapshot file on `d` ALONE has index
   `≥ k` (what the reset discards was not needed) —, the restarted node has `k ≤ n.log.flushed` and covers them, and `v`
   durably covers them in `y'`. -/
theorem commit_durable_across_any_crash_snap6_partial (hV : V.Nodup) (y : Snap3.Sys) (hy : Reachable6 V y) (j k : Nat)
    (hk : 1 ≤ k) (hkc : k ≤ (y.node j).commitIndex) :
    ∃ Q, Majority V Q ∧ ∀ v ∈ Q, KeepsS y v (y.vlog j) k ∧
      ∀ (op : Op) (ra : List Nat) (ord : List (List Nat)) (src kk retain : Nat) (sor : Bool) (n : Node),
        Snap.Enabled y.s2.cs v op src → 1 ≤ retain → ((y.node v).step op ra ord).panicked = none →
        TermTracked (y.node v) op →
        Node.restart (C05.crashDisk (y.node v) op ra ord kk) retain sor = some n →
        Side3 V { y with s2 := crashS y.s2 v op n } →
        Covers (C10.logOf (C05.crashDisk (y.node v) op ra ord kk)) (C05.crashDisk (y.node v) op ra ord kk).snaps
          (y.vlog j) k ∧
        (staleLog (C05.crashDisk (y.node v) op ra ord kk) = false →
          Covers (C05.crashDisk (y.node v) op ra ord kk).log (C05.crashDisk (y.node v) op ra ord kk).snaps (y.vlog j) k) ∧
        (staleLog (C05.crashDisk (y.node v) op ra ord kk) = true →
          k ≤ (headOf (C05.crashDisk (y.node v) op ra ord kk).snaps).index) ∧
        k ≤ n.log.flushed ∧ Covers n.log n.snapsDisk (y.vlog j) k ∧
        KeepsS { y with s2 := crashS y.s2 v op n } v (y.vlog j) k := by
  have hI := (inv6_reachable hV hy).1
  obtain ⟨hp, hh, m, hm, _, hkm, Q, hQ⟩ := committed_quorum hI hk hkc
  refine ⟨Q, C06Sys.AckQuorum.majority hQ, fun v hv => ⟨cover_quorum hI hm hQ hp hh hkm hv, ?_⟩⟩
  intro op ra ord src kk retain sor n en hret hpn htt hn hS'
  have hy' : Reachable6 V { y with s2 := crashS y.s2 v op n } :=
    .next y _ hy (.crash v op ra ord src kk retain sor n en hret hpn htt hn) hS'
  have hI' := (inv6_reachable hV hy').1
  obtain ⟨hT, hC⟩ := crashS_T y.s2 v op n
  have hQ' : AckQuorum V (eview (view3 { y with s2 := crashS y.s2 v op n }).cs) m Q := hQ.run hT (fun a ha => ha)
  have k' : KeepsS { y with s2 := crashS y.s2 v op n } v (y.vlog j) k :=
    cover_quorum hI' (hC m hm) hQ' (hp.mono hT) hh (hkm.mono hT) hv
  have hni : ({ y with s2 := crashS y.s2 v op n } : Snap3.Sys).node v = n := crashS_node_i _ _ _ _
  have cn : Covers n.log n.snapsDisk (y.vlog j) k := by
    have := k'.disk.of_durable
    rw [hni] at this
    exact this
  have cd := cover_restart hn cn
  refine ⟨cd, fun hst => ?_, fun hst => cover_stale hst cd, ?_, cn, k'⟩
  · rw [← C10.logOf_not_stale _ hst]; exact cd
  · have := k'.flushed
    rw [hni] at this
    exact this

/-! ### without the premise `TermTracked` (`Snap6.TransT`, `Snap6.Reachable6T`) -/

/-- **Every run of `Snap6.TransT` is a run of `Raft.Snap6` on which every node is tracking and ordered (partial).**
`Snap6.TransT` is `Snap6.Trans` WITHOUT the premise that a node taking a snapshot has `fsm.term` equal to the term of the log
entry at `fsm.index`; its states satisfy the side conditions `Snap4.Side4`, its initial states the per-node invariants.  In
every reachable state `x`: `x` is reachable in `Raft.Snap6` — so ALL theorems of this file hold for it — and every node
satisfies `C12Track.Tracks` and `Order.Ordered`: through completed steps, installations, and crashes at every storage point
followed by restarts — a restart that RESETS a stale log yields a tracking node whatever was on disk
(`SnapCut.stale_restart_tracks`), and so does a restart from every disk of the cut (`SnapCut.crash_tracks6`).  Every run of
`Raft.Snap4` is such a run (`SnapCut.reach4_reach6T`). -/
theorem tracked_runs_snap6_partial (hV : V.Nodup) (x : Snap3.Sys) (h : Reachable6T V x) :
    Reachable6 V x ∧ ∀ i, C12Track.Tracks (x.node i) ∧ Order.Ordered (x.node i) := by
  obtain ⟨r6, i4, _⟩ := reach6T hV h
  exact ⟨r6, fun i => ⟨i4.tracks i, i4.ord i⟩⟩

/-- **C10 (1) + (4) on `Raft.Snap6` — at EVERY crash point of EVERY enabled step the restart succeeds, and the cluster the
node rejoins is a reachable state again (partial).** Let `x` be reachable (`Reachable6T`), `i` a node with a cluster id, `op`
any operation of stage 2 that may be delivered to `i`, handled with any oracle, which run to completion would not panic, with
`SnapFbOp` (a condition on `.snapRun` only, see `C10Sys2.restart_succeeds_snap_partial`), and `k` ANY crash point — the
`NoCut` window and disks with a stale log INCLUDED.  Then there is `n` with `Node.restart … = some n`, `n` is
`RestartSys.Restarted` (tracks, ordered, configurations derived from snapshot label + log on disk, follower, memory = disk,
log contiguous with the snapshot), `n.nid = i`; and if the state `y` after the crash transition satisfies the side
conditions, `y` is reachable again (`Reachable6T`, hence `Reachable6`: every safety theorem of this file holds in `y` and
from there on). -/
theorem restart_succeeds_and_rejoins_snap6_partial (hV : V.Nodup) (x : Snap3.Sys) (h : Reachable6T V x) (i : Nat) (op : Op)
    (ra : List Nat) (ord : List (List Nat)) (src : Nat) (en : Snap.Enabled x.s2.cs i op src)
    (hp : ((x.node i).step op ra ord).panicked = none) (hfb : SnapFbOp (x.node i) op) (hcid : (x.node i).cid ≠ 0)
    (k r : Nat) (hr : 1 ≤ r) (sor : Bool) :
    ∃ n, Node.restart (C05.crashDisk (x.node i) op ra ord k) r sor = some n ∧
      Restarted (x.node i) (C05.crashDisk (x.node i) op ra ord k) n ∧ n.nid = i ∧
      (Side4 V { x with s2 := crashS x.s2 i op n } →
        Reachable6T V { x with s2 := crashS x.s2 i op n } ∧ Reachable6 V { x with s2 := crashS x.s2 i op n }) := by
  obtain ⟨n, hn, hR, hid⟩ := restarted_in_6T hV h ra ord en hp hfb hcid k r hr sor
  refine ⟨n, hn, hR, hid, fun hS' => ?_⟩
  have hy : Reachable6T V { x with s2 := crashS x.s2 i op n } :=
    .next x _ h (.crash i op ra ord src k r sor n en hr hp hn) hS'
  exact ⟨hy, (reach6T hV hy).1⟩

end

/-! ### Examples (non-vacuity) -/

/-- EXAMPLE (`stale_restart_resets_to_snapshot`; node level, (A)): the follower `C10Sys2.exStale` (snapshot at 1, entries
2–4, only entry 2 flushed, commit index 4) — its snapshot goroutine publishes a snapshot at index 4; the disk after
`snap.publish` holds a log that ends at 2: stale; the restart succeeds -/
example : staleLog (C05.crashDisk C10Sys2.exStale .snapRun [] [] 1) = true ∧
    (C05.crashDisk C10Sys2.exStale .snapRun [] [] 1).log.last = 2 ∧
    (headSnap (C05.crashDisk C10Sys2.exStale .snapRun [] [] 1)).index = 4 ∧
    (Node.restart (C05.crashDisk C10Sys2.exStale .snapRun [] [] 1) 1 true).isSome = true := by
  refine ⟨by decide, by decide, by decide, by decide⟩

set_option maxRecDepth 100000 in
/-- EXAMPLE (cluster level: `Reachable6`, `Reachable6T`, `Snap6.Trans.crash`, `rejoin_after_any_crash_snap6_partial`,
`tracked_runs_snap6_partial`, `restart_succeeds_and_rejoins_snap6_partial`): the state `C09Sys3.exW3` (three voters
bootstrapped; node 2 asked for a snapshot, the goroutine ran, the result was handed over) is reachable in `Raft.Snap6` (with
and without `TermTracked`); node 2 dies after the first storage point of its election timeout and restarts as `C10Sys2.exRn`:
a crash transition of `Raft.Snap6` (which asks neither for `NoCut` nor for `staleLog = false`); the state after it satisfies
the side conditions and is reachable again -/
example : [1, 2, 3].Nodup ∧ Reachable6 [1, 2, 3] C09Sys3.exW3 ∧ Reachable6T [1, 2, 3] C09Sys3.exW3 ∧
    Snap6.Trans C09Sys3.exW3 C10Sys2.exW3c ∧ Snap6.TransT C09Sys3.exW3 C10Sys2.exW3c ∧
    Snap.Enabled C09Sys3.exW3.s2.cs 2 .timeout 0 ∧ ((C09Sys3.exW3.node 2).step .timeout [] []).panicked = none ∧
    SnapFbOp (C09Sys3.exW3.node 2) .timeout ∧ (C09Sys3.exW3.node 2).cid ≠ 0 ∧
    Side4 [1, 2, 3] C10Sys2.exW3c ∧ Reachable6 [1, 2, 3] C10Sys2.exW3c ∧ Reachable6T [1, 2, 3] C10Sys2.exW3c := by
  have hV : [1, 2, 3].Nodup := by decide
  have r6T : Reachable6T [1, 2, 3] C09Sys3.exW3 := reach4_reach6T hV C10Sys2.exW3_reach4
  have r6 : Reachable6 [1, 2, 3] C09Sys3.exW3 := (reach6T hV r6T).1
  have t : Snap6.Trans C09Sys3.exW3 C10Sys2.exW3c :=
    .crash 2 .timeout [] [] 0 1 1 true C10Sys2.exRn (C10Sys2.exTimeout_enabled _) (Nat.le_refl _) (by decide) trivial
      C10Sys2.exRn_restart
  have tT : Snap6.TransT C09Sys3.exW3 C10Sys2.exW3c :=
    .crash 2 .timeout [] [] 0 1 1 true C10Sys2.exRn (C10Sys2.exTimeout_enabled _) (Nat.le_refl _) (by decide)
      C10Sys2.exRn_restart
  exact ⟨hV, r6, r6T, t, tT, C10Sys2.exTimeout_enabled _, by decide, trivial, by decide, C10Sys2.exW3c_crashOf.2,
    .next _ _ r6 t C10Sys2.exW3c_crashOf.2.side, .next _ _ r6T tT C10Sys2.exW3c_crashOf.2⟩

/-! #### (B) EVALUATED (tests, not proofs): the cut.  `C09Sys3.exX19`: node 3 installed the leader's snapshot (3, term 2) and
appended the leader's entry (4, term 2, "b") directly behind it (`log.prev = snapIndex = commitIndex = 3`: inside the
window).  A leader of term 3 whose log holds another entry at index 4 sends `exCutReq` (`prevLogIndex = 3`, entry (4, term 3,
"c")): the handler stores the term (`value.set`), truncates at `log.prev + 1` (`removeGTE`: the log is EMPTY), appends and
flushes (`commitLog`). -/

/-- the conflicting request of the leader of term 3 -/
def exCutReq : AppendReq :=
  { term := 3, src := 2, prevLogIndex := 3, prevLogTerm := 2,
    entries := [{ index := 4, term := 3, typ := etUpdate, data := "c" }], ldrCommitIndex := 3 }

-- the node is inside the window (`0 < log.prev = snapIndex = commitIndex`, the request is not stale and conflicts with the
-- log at `log.prev + 1`): `NoCut` fails
#guard (C09Sys3.exX19.node 3).log.prev == 3 && (C09Sys3.exX19.node 3).snapIndex == 3 &&
  (C09Sys3.exX19.node 3).commitIndex == 3 && (C09Sys3.exX19.node 3).term == 2 && exCutReq.term == 3 &&
  (C09Sys3.exX19.node 3).lastLogIndex == 4 && (C09Sys3.exX19.node 3).entryTerm? 4 == some 2
-- the storage points of the handler; it does not fail an assertion
#guard ((C09Sys3.exX19.node 3).step (.append exCutReq) [] []).trace.map (·.1) == ["value.set", "removeGTE", "commitLog"] &&
  ((C09Sys3.exX19.node 3).step (.append exCutReq) [] []).panicked.isNone
-- the crash disks: (term, log.prev, entries, flushed, stale?) — old log / old log, new term / EMPTY log at the snapshot /
-- the new entry; none is stale
#guard (List.range 5).map (fun k => let d := C05.crashDisk (C09Sys3.exX19.node 3) (.append exCutReq) [] [] k
    (d.term, d.log.prev, d.log.entries.map (fun e => (e.index, e.term, e.data)), d.log.flushed, staleLog d)) ==
  [(2, 3, [(4, 2, "b")], 4, false), (3, 3, [(4, 2, "b")], 4, false), (3, 3, [], 3, false),
   (3, 3, [(4, 3, "c")], 4, false), (3, 3, [(4, 3, "c")], 4, false)]
-- the restarts: (term, log.prev, entries, lastLogIndex, lastLogTerm, commitIndex, applied) — from the empty log the last
-- log index / term are the snapshot's (3, term 2); the state machine is the snapshot's content in every case
#guard (List.range 5).map (fun k =>
    (Node.restart (C05.crashDisk (C09Sys3.exX19.node 3) (.append exCutReq) [] [] k) 1 true).map
      (fun n => (n.term, n.log.prev, n.log.entries.map (fun e => (e.index, e.term, e.data)), n.lastLogIndex, n.lastLogTerm,
        n.commitIndex, n.fsm.applied))) ==
  [some (2, 3, [(4, 2, "b")], 4, 2, 3, ["a"]), some (3, 3, [(4, 2, "b")], 4, 2, 3, ["a"]),
   some (3, 3, [], 3, 2, 3, ["a"]), some (3, 3, [(4, 3, "c")], 4, 3, 3, ["a"]),
   some (3, 3, [(4, 3, "c")], 4, 3, 3, ["a"])]
-- (A) EVALUATED: the stale reset of `C10Sys2.exStale` at every crash point of its snapshot goroutine: before `snap.publish`
-- the old log (prev 1, three entries... of which one is flushed) is kept; from `snap.publish` on the log is reset to the
-- snapshot at 4: (log.prev, entries, snapIndex, commitIndex, applied)
#guard (List.range 4).map (fun k => (Node.restart (C05.crashDisk C10Sys2.exStale .snapRun [] [] k) 1 true).map
    (fun n => (n.log.prev, n.log.entries.length, n.snapIndex, n.commitIndex, n.fsm.applied))) ==
  [some (1, 1, 1, 1, []), some (4, 0, 4, 4, ["a"]), some (4, 0, 4, 4, ["a"]), some (4, 0, 4, 4, ["a"])]

end C09Sys5
end Raft

#print axioms Raft.C09Sys5.stale_restart_resets_to_snapshot -- also C10
#print axioms Raft.C09Sys5.stage3_runs_are_snap6_runs
#print axioms Raft.C09Sys5.stale_restart_is_committed_replacement -- also C10 C06
#print axioms Raft.C09Sys5.cut_crash_keeps_committed_prefix -- also C10 C06
#print axioms Raft.C09Sys5.snapshot_agrees_with_log_sys_snap6_partial
#print axioms Raft.C09Sys5.log_matching_sys_snap6_partial -- also C04
#print axioms Raft.C09Sys5.leader_completeness_sys_snap6_partial -- also C02
#print axioms Raft.C09Sys5.state_machine_safety_sys_snap6_partial -- also C03
#print axioms Raft.C09Sys5.snapshot_is_committed_prefix_sys_snap6_partial -- also C12
#print axioms Raft.C09Sys5.install_request_is_committed_prefix_sys_snap6_partial
#print axioms Raft.C09Sys5.rejoin_after_any_crash_snap6_partial -- also C10 C06
#print axioms Raft.C09Sys5.commit_durable_across_any_crash_snap6_partial -- also C06
#print axioms Raft.C09Sys5.tracked_runs_snap6_partial
#print axioms Raft.C09Sys5.restart_succeeds_and_rejoins_snap6_partial -- also C10 C06
