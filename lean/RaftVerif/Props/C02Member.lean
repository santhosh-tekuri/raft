/-
C02 / C01 / C08 on the cluster-level transition system WITH membership changes (`Raft.Member`, Sys/Member.lean): the
node model satisfies the LOCAL RULES of the single-server-change argument (`MemberCore.Rules`), in every reachable
state, for arbitrary chains of membership changes — and hence leader completeness, election safety WITHOUT the adjacency
proviso of `C08Sys.election_safety_sys_member_partial`, "committed entries are never replaced" (for the ledger and for
the commit indexes of all nodes), and "every node's latest configuration is the last configuration entry of its log".

How it is proved: the invariant `MInv x G` (Lemmas/MemberInv.lean; `G`: ghost ledgers — commit records, election
records, self acknowledgements of interrupted steps) holds in every reachable state (`minv_reachable`: completed steps,
crashes at any storage point + restart, sends; Lemmas/MemberStep.lean, MemberCrash.lean over the node-level facts of
MemberCommit.lean and MemberFollow.lean). In one state it implies `MemberCore.Rules` for the ledgers of the state
(`MemberInv.localM`, with the monotonicity rule in its strict form — `MemberInv.safety_strict`: the rule
`MemberCore.Local.mono` as stated is violated by a leader that commits twice while its log has the same length) and,
statically, leader completeness (`lcM`) and election safety of all candidates that hold a majority of grants (`esafeM`,
which is what the log-matching layer `C04Member.rinv_upd` needs for the next step: the joint induction of the argument,
across transitions). The invariant also carries `Commit.CmtI.cc` (what a commit index — of a leader, of a follower, or
stamped on a request on the wire — covers is committed: `CmtM`, `SentM.cmt`), from which the statements about the commit
indexes of ALL nodes follow (`commit_index_safety_member_modulo_sides`).

What is ASSUMED — the side conditions `SideC root` on EVERY state of the run, and that no operation handled by a candidate
or leader in the run fails (`ReachableNF (SideC root)`: runs of `MemberStep.TransNF`); each is named, with what it would
take to discharge it (Props/C08Member.lean DISCHARGES ALL OF THEM from conditions on the initial state and on what is
delivered):
* `boot`     every node is bootstrapped (`Member.Boot`; as in `C08Sys`);
* `q1`       no node's latest configuration has a quorum of one (as `C04Member.Side`: otherwise a node is elected by
             its own vote alone and commits alone — the ledgers of a step that crashes are then incomplete, and a step
             may introduce several configurations: `CfgRel.Phase.nested`);
* `cfl0`     INITIALLY (`Member.Init`) every node's `configs.latest` is the last configuration entry of its log
             (`CfgLatest`). That this stays so in every reachable state is PROVED (`cfg_latest_member_modulo_sides`;
             invariant `MemberInv.CfgM`): for leader steps by `MEvs.cl`/`MEvs.cmtd`; for a follower
             (`MemberFollow.fcfg`: truncation + `revertConfig`, adoption, `commitConfig`) because a truncation never
             reaches a PROTECTED index (`MemberInv.protNoConf` — commit safety: leader completeness of the same
             state), and the index of `configs.committed` of a pending configuration is protected (`pend_prot`: the
             single-server-change rule, `RecM.chain`); for a restart by `MemberFollow.restart_cfg` (`openStorage`
             scans the last two configuration entries);
* no failure (`MemberStep.TransNF`, a hypothesis of every step / crash transition of the run, for the operation at hand):
             the operation handled does not make a candidate or leader fail (`panicked`; `C15NoPanic.good_step_two` from
             `NoPanic.Good true`). (A side condition `NoFail x` on the states — "no ENABLED operation makes a
             candidate or leader fail" — is unsatisfiable as soon as a leader has a replication:
             `C08Member.nofail_unsatisfiable`.)
* `cache`    `C06Cache.LeaderCache` — NOT an assumption: `C08Sys.leaderCache_reachable` (discharged in the theorems);
* `tree`     `SideT`: the voter list of every configuration entry is duplicate free and every configuration entry
             decodes (`NoPanic.Glob.logDec`; member ids are map keys in Go), and a configuration entry created by a node
             is ADJACENT to the previous configuration entry on its path (for completed steps that introduce one
             configuration this is `C08Sys.config_chain_partial`; missing: steps interrupted by a crash);
* `root`     `RootI`: the initial entries (creator 0) descend from one bootstrap configuration entry `root`, the only
             initial configuration entry (e.g. all nodes bootstrapped with the same entry (1,1)).
-/
import RaftVerif.Lemmas.MemberCrash

namespace Raft
namespace C02Member
open Election LogRel Replication CommitRel Commit Member MemberCore MemberInv MemberCommit MemberStep

/-- the side conditions on every state of a run (see the file header) -/
structure SideC (root : K) (x : Member.Sys) : Prop where
  boot : Boot x
  q1 : ∀ i, (x.node i).configs.latest.quorum ≠ 1
  cfl0 : Member.Init x → CfgLatest x
  tree : SideT x
  root : RootI root x

/-- States reachable by runs — of `MemberStep.TransNF`: no operation handled by a candidate or leader fails — in which
`P` holds in every state. -/
inductive ReachableNF (P : Member.Sys → Prop) : Member.Sys → Prop
  | init (x : Member.Sys) : Member.Init x → P x → ReachableNF P x
  | next (x y : Member.Sys) : ReachableNF P x → TransNF x y → P y → ReachableNF P y

theorem ReachableNF.side {P : Member.Sys → Prop} {x : Member.Sys} (h : ReachableNF P x) : P x := by
  cases h with
  | init _ _ hp => exact hp
  | next _ _ _ _ hp => exact hp

theorem ReachableNF.toP {P : Member.Sys → Prop} {x : Member.Sys} (h : ReachableNF P x) : ReachableP P x := by
  induction h with
  | init x hi hp => exact .init x hi hp
  | next x y _ ht hp ih => exact .next x y ih ht.trans hp

theorem sideM_of {root : K} {x : Member.Sys} (h : ReachableNF (SideC root) x) : SideM x :=
  ⟨h.side.boot, h.side.q1, C08Sys.leaderCache_reachable x h.toP, h.side.tree⟩

/-- **the invariant holds in every reachable state** (for suitable ghost ledgers with the bootstrap key `root`) -/
theorem minv_reachable (root : K) (x : Member.Sys) (h : ReachableNF (SideC root) x) :
    ∃ G, MInv x G ∧ G.root = root := by
  induction h with
  | init x hi hp => exact ⟨⟨root, [], [], []⟩, minv_init root hi hp.root (hp.cfl0 hi), rfl⟩
  | next x y hx ht hp ih =>
    obtain ⟨G, hI, hr⟩ := ih
    obtain ⟨G', hI', hr'⟩ := minv_trans hI (sideM_of hx) hp.tree ht
    exact ⟨G', hI', hr'.trans hr⟩

/-- **the node model satisfies the local rules of the single-server-change argument**: in every reachable state the
ledgers (the tree of created entries, acknowledgements, grants; ghost commit and election records) obey
`MemberCore.Forest`, the local rules `MemberInv.LocalS` (`MemberCore.Local True` with the monotonicity rule in its strict
form) and grant uniqueness, and every entry of the ledger `committed` has its commit record. -/
theorem rules_reachable_modulo_sides (root : K) (x : Member.Sys) (h : ReachableNF (SideC root) x) :
    ∃ G, Forest (dataM x G) ∧ LocalS (dataM x G) ∧
      (∀ v t c c', (dataM x G).granted v t c → (dataM x G).granted v t c' → c = c') ∧
      (∀ m ∈ x.cm.committed, ∃ r ∈ G.R, r.m = m) ∧ G.root = root := by
  obtain ⟨G, hI, hr⟩ := minv_reachable root x h
  exact ⟨G, forestM hI, localM hI h.side.tree, grantUM hI, hI.recs.cover, hr⟩

theorem lc_ledger {x : Member.Sys} {G : Ghost} (hI : MInv x G) (hS : SideT x) :
    ∀ m ∈ x.cm.committed, ∀ c ∈ x.cm.T, m.2 < c.e.term → Anc x.cm.T m (key c) :=
  lcCommitted hI hS

theorem leader_holds_committedM {x : Member.Sys} {G : Ghost} (hI : MInv x G) (hS : SideT x) {i : Nat}
    (hl : (x.node i).role = .leader) {m : Nat × Nat} (hm : m ∈ x.cm.committed) (hle : m.2 ≤ (x.node i).term) :
    Holds (x.node i).log.entries m.1 m.2 := by
  obtain ⟨r, hr, e⟩ := hI.recs.cover m hm
  obtain ⟨_, ⟨_, es, p, _, hm'⟩, _⟩ := hI.recs.recd r hr
  obtain ⟨c, hc, c1, c2, _⟩ := path_record p hm'
  exact (core_of_minv hI).leader_holds_committed (ldrCreatesM hI hS) hl (leader_last_recordM hI hl).1 hc
    (e ▸ key_eq.mpr ⟨c1, c2⟩) (lc_ledger hI hS m hm) hle

theorem ledger_chain {x : Member.Sys} {G : Ghost} (hI : MInv x G) (hS : SideT x) :
    ∀ m ∈ x.cm.committed, ∀ m' ∈ x.cm.committed, Anc x.cm.T m m' ∨ Anc x.cm.T m' m := by
  exact (core_of_minv hI).chained_of_lc (fun m hm => (hlcM hI hS m hm).1) (lc_ledger hI hS)

theorem committed_uniqueM {x : Member.Sys} {G : Ghost} (hI : MInv x G) (hS : SideT x) {a a' : Nat × Nat}
    (ha : Committed x.cm a) (ha' : Committed x.cm a') (hi : a.1 = a'.1) : a = a' :=
  (core_of_minv hI).committed_unique (ledger_chain hI hS) ha ha' hi

theorem covered_committedM {x : Member.Sys} {G : Ghost} (hI : MInv x G) {j k : Nat} (hk : 1 ≤ k)
    (hkc : k ≤ (x.node j).commitIndex) :
    Holds (x.node j).log.entries k (termAt (x.node j).log.entries k) ∧
    ∃ m ∈ x.cm.committed, m.2 ≤ (x.node j).term ∧ Anc x.cm.T (k, termAt (x.node j).log.entries k) m :=
  (core_of_minv hI).covered hk hkc

theorem same_entriesM {x : Member.Sys} {G : Ghost} (hI : MInv x G) {i j k τ : Nat}
    (hi : Holds (x.node i).log.entries k τ) (hj : Holds (x.node j).log.entries k τ) {k' : Nat} (h1 : 1 ≤ k')
    (hle : k' ≤ k) : (x.node i).log.get? k' = (x.node j).log.get? k' := (core_of_minv hI).same_entries hi hj h1 hle

/-- **C02, leader completeness, across ARBITRARY CHAINS of membership changes (modulo the side conditions `SideC`).**
Let `x` be any state of `Member` (Sys/Member.lean: any node handling any enabled operation — `.changeConfig` requests and
configuration entries included —, crashes at any storage point and restarts, leaders sending append requests read from
their logs; no snapshots) reachable by runs whose states satisfy `SideC root`. Then
1. every entry of the tree of created entries whose term is above that of an entry `m` of the ledger `committed` (the
   entries a leader's commit index reached by the majority rule — a majority of the voters of the configuration that was
   latest in ITS log at that moment) extends `m`: entries of later terms are only ever created on top of what was
   committed before, whatever configurations the cluster went through;
2. every leader holds every entry of the ledger `committed` whose term is not above its own term — at the same index,
   with the same term. -/
theorem leader_completeness_member_modulo_sides (root : K) (x : Member.Sys) (h : ReachableNF (SideC root) x) :
    (∀ m ∈ x.cm.committed, ∀ c ∈ x.cm.T, m.2 < c.e.term → Anc x.cm.T m (key c)) ∧
    (∀ i, (x.node i).role = .leader → ∀ m ∈ x.cm.committed, m.2 ≤ (x.node i).term →
      ∃ e, (x.node i).log.get? m.1 = some e ∧ e.term = m.2) := by
  obtain ⟨G, hI, _⟩ := minv_reachable root x h
  have hS := h.side.tree
  refine ⟨lc_ledger hI hS, fun i hl m hm hle => ?_⟩
  have hh := leader_holds_committedM hI hS hl hm hle
  obtain ⟨e, he, het⟩ := holds_get hh
  exact ⟨e, by rw [(nwfM hI i).get?, if_pos (show 0 < m.1 from hh.1)]; exact he, het⟩

/-- **C01, election safety, across arbitrary chains of membership changes — WITHOUT the adjacency proviso (modulo
`SideC`).** In every reachable state:
1. two nodes that are leader in the same term are the same node;
2. the ledger `won` (every (node, term) in which a node was leader at the end of one of its steps) names at most one
   node per term;
3. more generally, two recorded candidates of one term that each hold a majority of grants of the voters of THEIR OWN
   election configuration are the same node (`C04Member.ESafe`): the election configurations of one term are equal or
   adjacent because both candidates' logs extend every committed configuration entry (`MemberCore.es_overlap`). -/
theorem election_safety_member_modulo_sides (root : K) (x : Member.Sys) (h : ReachableNF (SideC root) x) :
    (∀ i j, (x.node i).role = .leader → (x.node j).role = .leader → (x.node i).term = (x.node j).term → i = j) ∧
    (∀ l l' t, (l, t) ∈ x.el.won → (l', t) ∈ x.el.won → l = l') ∧
    C04Member.ESafe x.el.grants x.ecfg := by
  obtain ⟨G, hI, _⟩ := minv_reachable root x h
  have hS := h.side.tree
  have hes := esafeM hI hS
  have hwon : ∀ l l' t, (l, t) ∈ x.el.won → (l', t) ∈ x.el.won → l = l' := by
    intro l l' t hl hl'
    obtain ⟨k, hk, k1, k2, _, k4⟩ := hI.rp.el.backed l t hl
    obtain ⟨k', hk', j1, j2, _, j4⟩ := hI.rp.el.backed l' t hl'
    have := hes k hk k' hk' (by rw [k2, j2]) (by rw [k1, k2]; exact k4) (by rw [j1, j2]; exact j4)
    rw [k1, j1] at this
    exact this
  exact ⟨fun i j hi hj ht => hwon i j _ (hI.rp.el.recorded i hi) (by rw [ht]; exact hI.rp.el.recorded j hj),
    hwon, hes⟩

/-- **C02, committed entries are never replaced, across membership changes (modulo `SideC`).**
1. The entries of the ledger `committed` lie on ONE path of the tree: of two committed keys one is an ancestor of the
   other — two leaders (of any terms, under any configurations) never commit conflicting entries.
2. Two committed keys with the same index are the same key.
3. The ledger and the tree only grow: a key that is committed (`Commit.Committed`: an ancestor of a ledger entry) stays
   committed in every successor state — and by `leader_completeness_member_modulo_sides` every later leader holds it.
(The commit indexes of the nodes: `commit_index_safety_member_modulo_sides`.) -/
theorem committed_never_replaced_member_modulo_sides (root : K) (x : Member.Sys) (h : ReachableNF (SideC root) x) :
    (∀ m ∈ x.cm.committed, ∀ m' ∈ x.cm.committed, Anc x.cm.T m m' ∨ Anc x.cm.T m' m) ∧
    (∀ m ∈ x.cm.committed, ∀ m' ∈ x.cm.committed, m.1 = m'.1 → m = m') ∧
    (∀ y, Member.Trans x y → ∀ a, Committed x.cm a → Committed y.cm a) := by
  obtain ⟨G, hI, _⟩ := minv_reachable root x h
  have hS := h.side.tree
  have chain := ledger_chain hI hS
  refine ⟨chain, fun m hm m' hm' hi => ?_, fun y ht a ha => ?_⟩
  · rcases chain m hm m' hm' with c | c
    · exact c.eq_of_index hi
    · exact (c.eq_of_index hi.symm).symm
  · obtain ⟨m, hm, hanc⟩ := ha
    exact ⟨m, ht.grows.committed m hm, hanc.mono ht.grows.T⟩

/-- **C02, state-machine safety for the commit indexes of ALL nodes, across membership changes (modulo `SideC`).**
In every reachable state:
1. everything within a node's commit index (leader or follower) is committed: node `j` holds an entry at every index
   `1 ≤ k ≤ commitIndex`, and its key is an ancestor of an entry of the ledger `committed` (of a term `≤` the node's);
2. two nodes whose commit indexes cover index `k` hold the same entry at `k`;
3. every leader `i` whose term is at least the term of a node `j` holds, at every index within `j`'s commit index, the
   very entry `j` holds there;
4. when a node handles an operation to completion — without failure if it is candidate or leader —, every index `k`
   within its commit index still holds the same entry afterwards, and is still within the commit index (a crash resets
   the volatile commit index to 0). -/
theorem commit_index_safety_member_modulo_sides (root : K) (x : Member.Sys) (h : ReachableNF (SideC root) x) :
    (∀ j k, 1 ≤ k → k ≤ (x.node j).commitIndex →
      k ≤ (x.node j).log.entries.length ∧ Cmt x.cm (k, termAt (x.node j).log.entries k) (x.node j).term) ∧
    (∀ i j k, 1 ≤ k → k ≤ (x.node i).commitIndex → k ≤ (x.node j).commitIndex →
      (x.node i).log.get? k = (x.node j).log.get? k ∧ ((x.node i).log.get? k).isSome = true) ∧
    (∀ i j k, (x.node i).role = .leader → (x.node j).term ≤ (x.node i).term → 1 ≤ k →
      k ≤ (x.node j).commitIndex →
      (x.node i).log.get? k = (x.node j).log.get? k ∧ ((x.node j).log.get? k).isSome = true) ∧
    (∀ i op ra ord src, Member.Enabled x i op src →
      ((x.node i).role ≠ .follower → ((x.node i).step op ra ord).panicked = none) →
      ∀ k, 1 ≤ k → k ≤ (x.node i).commitIndex →
      ((x.node i).step op ra ord).log.get? k = (x.node i).log.get? k ∧
      k ≤ ((x.node i).step op ra ord).commitIndex) := by
  obtain ⟨G, hI, _⟩ := minv_reachable root x h
  have hS := h.side.tree
  refine ⟨hI.cmt.cc, fun i j k hk hi hj => ?_, fun i j k hl hij hk hkc => ?_,
    fun i op ra ord src he hnf k hk hkc => ?_⟩
  · exact (core_of_minv hI).covered_agree (ledger_chain hI hS) hk hi hj
  · exact (core_of_minv hI).leader_covers (core_of_minv hI) (fun _ h => h) (fun _ h => h)
      (fun m hm hle => leader_holds_committedM hI hS hl hm hle) hk hkc hij
  · have sc : SM x G i op ra ord src := ⟨hI, sideM_of h, he, hnf⟩
    obtain ⟨c1, _⟩ := hI.cmt.cc i k hk hkc
    have hpn := sc.nwf_post
    have key : sc.post.log.entries.take k = (x.node i).log.entries.take k ∧ k ≤ sc.post.commitIndex := by
      rcases Commit.op_cases op with happ | ⟨q, rfl⟩
      · obtain ⟨es, te, _, hl⟩ := sc.newM happ
        refine ⟨by rw [hl, List.take_append_of_le_length c1], ?_⟩
        have := (sc.nst happ).cim
        omega
      · by_cases hst : q.term < (x.node i).term
        · obtain ⟨s1, _, _, s4, _⟩ := append_stale _ q ra ord hst
          rw [show sc.post.log = _ from s1, show sc.post.commitIndex = _ from s4]; exact ⟨rfl, hkc⟩
        · obtain ⟨hq, fs⟩ := sc.fst hst
          have hnc := reqokM hI hS (i := i) hq hst
          refine ⟨(fs.keep k c1 (fun e he' hek => hnc e he' (by omega))).1, ?_⟩
          rcases fs.ci with c | ⟨c, _⟩
          · rw [c]; exact hkc
          · omega
    refine ⟨?_, key.2⟩
    show sc.post.log.get? k = _
    rw [hpn.get?, (nwfM hI i).get?, if_pos (show 0 < k from hk), if_pos (show 0 < k from hk)]
    exact getElem?_of_take_eq key.1 (by omega)

/-- **index `k` of node `i`'s log is PROTECTED in the state `x`**: the log holds an entry at `k`, and NO APPEND REQUEST
that has been sent (the ledger `sent` — the only append requests `Member.Enabled` lets a node handle, apart from stale
ones) and that is not stale for the node (`q.term` is the node's term or a later one; a stale request is refused and
leaves the log alone) CONFLICTS WITH THE NODE'S LOG AT OR BELOW `k` (`CommitRel.NoConf`: every entry of the request with
an index `≤ k` carries the term the log holds at that index — so handling the request truncates nothing at or below
`k`). A statement about the state and its ledger `sent` only — no ghost ledger. -/
def Protected (x : Member.Sys) (i k : Nat) : Prop :=
  1 ≤ k ∧ k ≤ (x.node i).log.entries.length ∧
  ∀ q ∈ x.cm.rp.sent, ¬ q.term < (x.node i).term → NoConf (x.node i) q k

/-- the ghost-ledger notion `MemberInv.ProtG` implies `Protected` — for ghost ledgers LINKED TO THE STATE by the invariant
`MInv x G` (`MemberInv.protNoConf`; without the link `ProtG` says nothing: `AuditMember.protG_degenerate`) -/
theorem protected_of_protG {x : Member.Sys} {G : Ghost} (hI : MInv x G) (hS : SideT x) {i k : Nat}
    (hp : ProtG x G i k) : Protected x i k :=
  ⟨hp.1, hp.2.1, fun _ hq hst => protNoConf hI hS hq hst hp⟩

/-- **C08, every node uses the latest configuration of its log (modulo `SideC`).** In every reachable state, for every
node (leader, candidate or follower; after completed steps, truncations by append requests, crashes and restarts):
1. `configs.latest` is the LAST CONFIGURATION ENTRY OF THE NODE'S LOG (`MemberCommit.CfgLast`);
2. the index of that entry is protected (`Protected`: no append request in `sent` of the node's current or a later term
   conflicts with the node's log at or below it) — or the configuration is pending: `configs.committed` is the
   configuration entry just before it (`MemberFollow.Pend`), and the index of THAT entry is protected (so `revertConfig`
   after a truncation restores the last configuration entry of the truncated log);
3. what protection means for the next step: when the node handles ANY delivered operation to completion — without
   failure if it is candidate or leader —, its log up to a protected index is unchanged (nothing at or below the index is
   truncated or replaced).
(Statement 2 is stated without ghost ledgers: `∃ G, G.root = root ∧ ∀ i, ProtG x G i … ∨ …`, with `G` constrained by its
root only, is satisfied by a degenerate `G` in every state, `AuditMember.protG_degenerate`; `Protected` is the consequence
`MemberInv.protNoConf` draws from `ProtG` for the ledger of the invariant.) -/
theorem cfg_latest_member_modulo_sides (root : K) (x : Member.Sys) (h : ReachableNF (SideC root) x) :
    CfgLatest x ∧
    (∀ i, Protected x i (x.node i).configs.latest.index ∨
      (MemberFollow.Pend (x.node i).log.entries (x.node i).configs ∧
        Protected x i (x.node i).configs.committed.index)) ∧
    (∀ i k, Protected x i k → ∀ op ra ord src, Member.Enabled x i op src →
      ((x.node i).role ≠ .follower → ((x.node i).step op ra ord).panicked = none) →
      ((x.node i).step op ra ord).log.entries.take k = (x.node i).log.entries.take k) := by
  obtain ⟨G, hI, hr⟩ := minv_reachable root x h
  have hS := h.side.tree
  refine ⟨hI.cfg.cl, fun i => ?_, fun i k hp op ra ord src he hnf => ?_⟩
  · exact (hI.cfg.sp i).elim (fun p => Or.inl (protected_of_protG hI hS p))
      (fun p => Or.inr ⟨p, protected_of_protG hI hS (pend_prot hI.rp hI.tree.rootA hI.tree.rootOnly hI.recs.chain
        (hI.node.termLe i) (hI.cfg.cl i) p)⟩)
  · obtain ⟨_, hk2, hnc⟩ := hp
    have sc : SM x G i op ra ord src := ⟨hI, sideM_of h, he, hnf⟩
    show sc.post.log.entries.take k = _
    rcases Commit.op_cases op with happ | ⟨q, rfl⟩
    · obtain ⟨es, te, _, hl⟩ := sc.newM happ
      rw [hl, List.take_append_of_le_length hk2]
    · by_cases hst : q.term < (x.node i).term
      · obtain ⟨s1, _⟩ := append_stale _ q ra ord hst
        rw [show sc.post.log = _ from s1]
      · obtain ⟨hq, fs⟩ := sc.fst hst
        exact (fs.keep k hk2 (hnc q hq hst)).1

/-- example initial state: `C08Sys.ex0` (three voters 1, 2, 3, every node bootstrapped with the configuration entry
(1,1)); the bootstrap key is (1,1) -/
abbrev ex0 : Member.Sys := C08Sys.ex0

theorem exE_config : C04Sys.exE.config? = some C04Sys.exCfg := by decide

theorem ex0_path : Path ex0.cm.T [C04Sys.exE] ∧ Holds [C04Sys.exE] 1 1 := by
  have hp : Path ex0.cm.T [C04Sys.exE] :=
    ⟨⟨⟨⟨C04Sys.exE, 0, 0⟩, List.mem_singleton.mpr rfl, rfl, fun pt h => by cases h⟩, trivial⟩,
      fun k hk => by
        have : k = 0 := by have : k < 1 := hk; omega
        subst this; rfl⟩
  exact ⟨hp, Nat.le_refl _, Nat.le_refl _, rfl⟩

theorem sideT_of_T {x : Member.Sys} (hT : x.cm.T = [⟨C04Sys.exE, 0, 0⟩]) : SideT x := by
  refine ⟨fun c hc cfg hcfg => ?_, fun c hc p _ h0 => ?_, fun c hc _ => ?_⟩
  · rw [hT] at hc
    rw [List.mem_singleton.mp hc] at hcfg
    have : cfg = C04Sys.exCfg := by
      have := exE_config
      rw [show (⟨C04Sys.exE, 0, 0⟩ : CEntry).e = C04Sys.exE from rfl] at hcfg
      rw [this] at hcfg
      injection hcfg with e; exact e.symm
    rw [this]; decide
  · rw [hT] at hc
    rw [List.mem_singleton.mp hc] at h0
    exact absurd rfl h0
  · rw [hT] at hc
    rw [List.mem_singleton.mp hc]
    exact ⟨C04Sys.exCfg, exE_config⟩

theorem rootI_of_T {x : Member.Sys} (hT : x.cm.T = [⟨C04Sys.exE, 0, 0⟩]) : RootI (1, 1) x := by
  have hp : Path x.cm.T [C04Sys.exE] ∧ Holds [C04Sys.exE] 1 1 := by rw [hT]; exact ex0_path
  refine ⟨⟨⟨C04Sys.exE, 0, 0⟩, by rw [hT]; exact List.mem_singleton.mpr rfl, rfl, rfl, rfl⟩,
    fun c hc _ => ?_, fun c hc _ _ => ?_⟩
  · rw [hT] at hc
    rw [List.mem_singleton.mp hc]
    exact anc_of_path hp.1 hp.2 hp.2 (Nat.le_refl _)
  · rw [hT] at hc
    rw [List.mem_singleton.mp hc]; rfl

theorem cfgLast_ex : CfgLast [C04Sys.exE] C04Sys.exCfg :=
  ⟨⟨C04Sys.exE, List.mem_singleton.mpr rfl, exE_config⟩,
    fun e he _ => by rw [List.mem_singleton.mp he]; decide⟩

/-- EXAMPLE: the side conditions hold in the initial state `ex0` -/
theorem ex0_side : SideC (1, 1) ex0 :=
  ⟨fun _ => rfl, fun _ => by show C04Sys.exCfg.quorum ≠ 1; decide, fun _ _ => cfgLast_ex,
    sideT_of_T rfl, rootI_of_T rfl⟩

/-- node 2 answers an identity request of node 1: a completed step -/
def exA : Member.Sys := stepM ex0 2 (.identity 1 7 2) [] [] 0

theorem exA_trans : TransNF ex0 exA :=
  .step 2 (.identity 1 7 2) [] [] 0
    ⟨⟨by decide, (fun q h => by cases h), (fun ⟨_, _, _, h⟩ => by cases h), trivial, (fun q h => by cases h)⟩,
     trivial, (fun q h => by cases h), (fun q h => by cases h), (fun us h => by cases h)⟩
    (fun hnf => absurd rfl hnf)

theorem exA_node2 : ((C04Sys.exNode 2).step (.identity 1 7 2) [] []).configs = (C04Sys.exNode 2).configs ∧
    ((C04Sys.exNode 2).step (.identity 1 7 2) [] []).log = (C04Sys.exNode 2).log ∧
    ((C04Sys.exNode 2).step (.identity 1 7 2) [] []).role = .follower ∧
    ((C04Sys.exNode 2).step (.identity 1 7 2) [] []).commitIndex = 0 := by
  refine ⟨by decide, by decide, by decide, by decide⟩

theorem exA_T : exA.cm.T = [⟨C04Sys.exE, 0, 0⟩] := by
  show newCreated 2 (C04Sys.exNode 2).log.entries ((C04Sys.exNode 2).step (.identity 1 7 2) [] []).log.entries
    (.identity 1 7 2) ++ [⟨C04Sys.exE, 0, 0⟩] = _
  rw [exA_node2.2.1]
  rfl

theorem exA_node (j : Nat) : (exA.node j).configs = (C04Sys.exNode j).configs ∧
    (exA.node j).log = (C04Sys.exNode j).log ∧ (exA.node j).role = .follower ∧ (exA.node j).commitIndex = 0 := by
  by_cases h : j = 2
  · subst h
    show (setNode C04Sys.exNode 2 _ 2).configs = _ ∧ (setNode C04Sys.exNode 2 _ 2).log = _ ∧
      (setNode C04Sys.exNode 2 _ 2).role = _ ∧ (setNode C04Sys.exNode 2 _ 2).commitIndex = _
    rw [setNode_same]
    exact exA_node2
  · show (setNode C04Sys.exNode 2 _ j).configs = _ ∧ (setNode C04Sys.exNode 2 _ j).log = _ ∧
      (setNode C04Sys.exNode 2 _ j).role = _ ∧ (setNode C04Sys.exNode 2 _ j).commitIndex = _
    rw [setNode_other _ _ _ _ h]
    exact ⟨rfl, rfl, rfl, rfl⟩

/-- EXAMPLE: the side conditions hold in the non-initial state `exA` -/
theorem exA_side : SideC (1, 1) exA := by
  refine ⟨fun j => ?_, fun j => ?_, fun _ j => ?_, sideT_of_T exA_T, rootI_of_T exA_T⟩
  · show (exA.node j).configs.isBootstrapped = true
    rw [(exA_node j).1]; rfl
  · rw [(exA_node j).1]; show C04Sys.exCfg.quorum ≠ 1; decide
  · show CfgLast (exA.node j).log.entries (exA.node j).configs.latest
    rw [(exA_node j).1, (exA_node j).2.1]; exact cfgLast_ex

/-- EXAMPLE: the hypotheses of the theorems hold for a non-initial state — `exA` is reachable by a run whose states
satisfy `SideC (1, 1)` — and hence their conclusions -/
example : ReachableNF (SideC (1, 1)) exA ∧ C04Member.ESafe exA.el.grants exA.ecfg :=
  have r : ReachableNF (SideC (1, 1)) exA := .next ex0 exA (.init ex0 C08Sys.ex0_init ex0_side) exA_trans exA_side
  ⟨r, (election_safety_member_modulo_sides (1, 1) exA r).2.2⟩

end C02Member
end Raft

#print axioms Raft.MemberCommit.nstepM
#print axioms Raft.MemberInv.safety_strict
#print axioms Raft.MemberInv.cand_unique
#print axioms Raft.MemberInv.localM
#print axioms Raft.MemberStep.minv_trans
#print axioms Raft.C02Member.minv_reachable
#print axioms Raft.C02Member.rules_reachable_modulo_sides -- also C08
#print axioms Raft.C02Member.leader_completeness_member_modulo_sides -- also C08
#print axioms Raft.C02Member.election_safety_member_modulo_sides -- also C01 C08
#print axioms Raft.C02Member.committed_never_replaced_member_modulo_sides
#print axioms Raft.C02Member.commit_index_safety_member_modulo_sides -- also C03
#print axioms Raft.C02Member.cfg_latest_member_modulo_sides -- also C08 C19
#print axioms Raft.MemberFollow.fcfg
#print axioms Raft.MemberFollow.restart_cfg
#print axioms Raft.C02Member.exA_side
