/-
C06 — acknowledged entries are durable on a majority of the voters — on the cluster-level transition system
`Raft.Commit` (Sys/Commit.lean): fixed voter set `V`, fixed stable configuration, no snapshots / compaction (the
`_partial` restrictions of C02Sys, see the header of Sys/Commit.lean).

"Durable" means: in the part of the log that is flushed to stable storage (`NLog.flushed`), i.e. in the disk
image `Node.durable` that a process crash keeps and `Node.restart` reads (`DurableRel.DiskHolds`,
`DurablyHolds`); "crash safe" means: in the disk image at EVERY storage point of EVERY enabled step
(`C05.crashDisk`, `DurableRel.CrashSafe`) — whenever the process may die.

Theorems (all for every state of `Commit.ReachableV V`, `V` duplicate free; nothing is assumed about the schedule, the
network or crashes beyond the enabling conditions of `Commit.Trans`; see the doc comments):
`commit_durable_on_majority_sys_partial`, `leader_self_ack_durable_partial`,
`acknowledged_durable_until_overwritten_partial` (the invariant behind them), `no_loss_under_minority_crash_partial`.
Examples at the end (`#guard` scenarios: commit of (2,2) durable on all three voters; a forged conflicting request
would remove it; finding (a): an acknowledgement of an earlier-term entry that is not durable on the voter).
-/
import RaftVerif.Lemmas.DurableRel

namespace Raft
namespace C06Sys
open Node LogRel CommitRel Commit C02Sys DurableRel
open Replication (Uniq)

/-- `Q` is a duplicate-free majority of the voters `V` (non-voters never count) -/
def Majority (V Q : List Nat) : Prop := Q.Nodup ∧ (∀ v ∈ Q, v ∈ V) ∧ 2 * Q.length > V.length

theorem AckQuorum.majority {V : List Nat} {x : Commit.Sys} {m : Nat × Nat} {Q : List Nat}
    (h : AckQuorum V x m Q) : Majority V Q := ⟨h.1, h.2.1, h.2.2.1⟩

/-! ### the core: a member of the acknowledging majority, in a later state -/

section core
variable {V : List Nat} {x y : Commit.Sys}

/-- the situation: `m` is in the ledger of the reachable state `x`, `Q` is its acknowledging majority, `v ∈ Q`,
and `y` is a later state -/
structure Later (V : List Nat) (x y : Commit.Sys) (m : Nat × Nat) (Q : List Nat) (v : Nat) : Prop where
  hV : V.Nodup
  ix : CInv V x
  iy : CInv V y
  sy : SideV V y
  hT : ∀ c ∈ x.T, c ∈ y.T
  hm : m ∈ y.committed
  hQ : AckQuorum V y m Q
  hv : v ∈ Q

theorem later_of_run (hV : V.Nodup) (hx : Commit.ReachableV V x) (hrun : RunV V x y) {m : Nat × Nat}
    (hm : m ∈ x.committed) {Q : List Nat} (hQ : AckQuorum V x m Q) {v : Nat} (hv : v ∈ Q) :
    Later V x y m Q v := by
  obtain ⟨hy, hT, hC⟩ := run_reachable hx hrun
  obtain ⟨hIx, _⟩ := inv_reachable hV hx
  obtain ⟨hIy, hSy⟩ := inv_reachable hV hy
  exact ⟨hV, hIx, hIy, hSy, hT, hC m hm, hQ.run hT (run_acks hrun), hv⟩

namespace Later
variable {m : Nat × Nat} {Q : List Nat} {v : Nat}

/-- the member still holds the ledger entry durably -/
theorem durHolds (h : Later V x y m Q v) : DurHolds (y.node v) m := h.hQ.durHolds h.iy h.hm h.hv

theorem durablyHolds (h : Later V x y m Q v) : DurablyHolds y v m.1 m.2 :=
  (durablyHolds_iff h.iy).mpr h.durHolds

/-- the ledger entry is on the member's disk whenever the member may die -/
theorem crash_holds (h : Later V x y m Q v) {op : Op} {src : Nat} (he : Commit.Enabled y v op src)
    (ra : List Nat) (ord : List (List Nat)) (n : Nat) :
    (C05.crashDisk (y.node v) op ra ord n).log.prev = 0 ∧
    Holds (C05.crashDisk (y.node v) op ra ord n).log.entries m.1 m.2 := by
  have sc : SC V y v op ra ord src := ⟨h.hV, h.iy, h.sy, he⟩
  obtain ⟨a, ha, a1, a2, a3⟩ := h.hQ.2.2.2 v h.hv
  exact ⟨(sc.img n).prev, DurableRel.SC.disk_holds sc n h.hm ha a1 a2 a3⟩

theorem crashSafe (h : Later V x y m Q v) : CrashSafe y v m.1 m.2 := by
  intro op ra ord src n he
  obtain ⟨c1, c2⟩ := h.crash_holds he ra ord n
  exact (diskHolds_iff c1).mpr c2

/-- everything a member of the acknowledging majority guarantees: it returns from disk the very entries node `i` held in
`x` up to an ancestor `(k, τ)` of `m`, so does every crash image, and a restart from one brings them back
(`Commit.CoreI.keeps`) -/
theorem keeps (h : Later V x y m Q v) {i k τ : Nat} (hh : Holds (x.node i).log.entries k τ)
    (hanc : Anc x.T (k, τ) m) : Keeps y v (x.node i) k := by
  obtain ⟨a, ha, a1, a2, _⟩ := h.hQ.2.2.2 v h.hv
  have hC := core_of_cinv h.iy
  have hd : DurHolds (y.node v) (k, τ) := durHolds_anc h.iy (hanc.mono h.hT) h.durHolds
  have ht : m.2 ≤ (y.node v).term := by rw [← a2, ← a1]; exact (hC.ack a ha).wf.2.1
  obtain ⟨hdisk, himg⟩ := hC.keeps (hlc h.iy) hd ⟨m, h.hm, ht, hanc.mono h.hT⟩ (nwf h.ix i)
    ((log_path h.ix i).mono h.hT) hh
  exact ⟨hd.1, hdisk,
    fun _ ra ord _ n he => (himg ((⟨h.hV, h.iy, h.sy, he⟩ : SC V y v _ ra ord _).imgC n)
      (fun q e hns => (he.rp.append q e).resolve_left hns)).1,
    fun _ ra ord _ n retain sor w he hw => (himg ((⟨h.hV, h.iy, h.sy, he⟩ : SC V y v _ ra ord _).imgC n)
      (fun q e hns => (he.rp.append q e).resolve_left hns)).2 retain sor w hw⟩

end Later
end core

/-- **C06, acknowledged entries are durable on a majority of the voters, cluster level — fixed voter set, fixed
stable configuration, no snapshots (partial).** Let `V` be a duplicate-free list of node ids and `x` any state of
the cluster reachable in the transition system `Raft.Commit` (Sys/Commit.lean: from an initial state — nothing
committed, logs pairwise matching and completely flushed — by ANY sequence of: a node handling any enabled
operation with any content and oracle; a node dying at any storage point of such a step and restarting from
disk; a leader putting on the wire an append request read from its log; see `leader_completeness_sys_partial`
for the enabling conditions; **restrictions (`_partial`)**: in every state every node's latest configuration is
stable with voter list `V`, no operation asks for a configuration change, no snapshot is installed, taken or
published and no log is compacted: `SideV`, `OpOK2`). Then:

1. for every entry `m = (index, term)` of the ledger `committed` — an entry is put there in the very step in
   which a LEADER's commit index reaches it by the majority rule, i.e. before any client is told that an update
   at or below it succeeded — there is a duplicate-free majority `Q` of the voters `V` (non-voters never count)
   such that in `x` AND in every later state `y` of the run (`RunV V x y`: any further steps, crashes, restarts,
   elections, truncations by later leaders) every member of `Q`
   * holds an entry with that term at that index in its DURABLE log (`DurablyHolds`: flushed to stable storage,
     what `restart` reads), and
   * would still find it on its disk if it died before, at any storage point of, or after any enabled step with
     any content (`CrashSafe`);
2. for every node `i` and every index `k` within `i`'s commit index (leader or follower) there is such a majority
   `Q` whose members, in `x` and in every later state `y`, KEEP the entries `1 … k` of `i`'s log (`Keeps`): they
   have flushed their log up to `k` at least; their disk returns, for EVERY index `1 ≤ k' ≤ k`, the very entry
   `i` holds at `k'` in `x` (index, term, type, payload, configuration) — entry `k` and all entries before it;
   so does the disk image at every storage point of every enabled step of a member (whenever it may die); and a
   member that restarts from such an image holds these very entries again. -/
theorem commit_durable_on_majority_sys_partial (V : List Nat) (hV : V.Nodup) (x : Commit.Sys)
    (hx : Commit.ReachableV V x) :
    (∀ m ∈ x.committed, ∃ Q, Majority V Q ∧ ∀ y, RunV V x y → ∀ v ∈ Q,
      DurablyHolds y v m.1 m.2 ∧ CrashSafe y v m.1 m.2) ∧
    (∀ i k, 1 ≤ k → k ≤ (x.node i).commitIndex → ∃ Q, Majority V Q ∧ ∀ y, RunV V x y → ∀ v ∈ Q,
      Keeps y v (x.node i) k) := by
  obtain ⟨hI, _⟩ := inv_reachable hV hx
  refine ⟨fun m hm => ?_, fun i k hk hkc => ?_⟩
  · obtain ⟨Q, hQ⟩ := ackQuorum_exists hI hm
    refine ⟨Q, AckQuorum.majority hQ, fun y hrun v hv => ?_⟩
    have hL := later_of_run hV hx hrun hm hQ hv
    exact ⟨hL.durablyHolds, hL.crashSafe⟩
  · obtain ⟨hh, m, hm, _, hanc⟩ := covered_committed hI hk hkc
    obtain ⟨Q, hQ⟩ := ackQuorum_exists hI hm
    exact ⟨Q, AckQuorum.majority hQ, fun y hrun v hv => (later_of_run hV hx hrun hm hQ hv).keeps hh hanc⟩

/-- **C06, the leader's own contribution (partial; same assumptions).** Let `x` be reachable and let node `i`
handle an enabled operation that is not an append request such that its commit index moves (`LeaderCommit`: the
leader-side majority rule; `N` is the new commit index, `τ` the term of the entry at `N`), and let
`y = stepC x i op ra ord src` be the resulting state (the target of `Commit.Trans.step`), satisfying the side
condition. Then in `y` — the very state in which the commit index has moved:
1. the ledgers record the commit `(N, τ)` and the leader's self acknowledgement `(i, τ, N, τ)` (the leader
   counting itself in `majorityMatchIndex`);
2. `i` is a voter (`i ∈ V`): the leader counts itself only as a voter;
3. the leader's own log is flushed up to `N` at least, its durable log holds `(N, τ)` and returns from disk
   every entry `1 ≤ k' ≤ N` of its log: the self acknowledgement is backed by the leader's own flush
   (`leader.setCommitIndex` = `commitLog(N)` THEN move the index, cf. `C06.leader_flushes_before_commit`);
4. and there is a majority `Q` of `V` (statement 2 of `commit_durable_on_majority_sys_partial` for `y`, `i`, `N`)
   whose members keep all entries of the leader up to `N` durably in `y` and ever after. -/
theorem leader_self_ack_durable_partial (V : List Nat) (hV : V.Nodup) (x : Commit.Sys)
    (hx : Commit.ReachableV V x) (i : Nat) (op : Op) (ra : List Nat) (ord : List (List Nat)) (src : Nat)
    (he : Commit.Enabled x i op src) (hlc : LeaderCommit op (x.node i) ((x.node i).step op ra ord))
    (hS : SideV V (stepC x i op ra ord src)) :
    let y := stepC x i op ra ord src
    let N := (y.node i).commitIndex
    let τ := termAt (y.node i).log.entries N
    ((N, τ) ∈ y.committed ∧ ({ voter := i, term := τ, index := N, eterm := τ } : Ack) ∈ y.acks) ∧
    i ∈ V ∧
    (N ≤ (y.node i).log.flushed ∧ DurablyHolds y i N τ ∧ SameOnDisk (y.node i).durable (y.node i) N) ∧
    (∃ Q, Majority V Q ∧ ∀ z, RunV V y z → ∀ v ∈ Q, Keeps z v (y.node i) N) := by
  intro y N τ
  obtain ⟨hI, hSx⟩ := inv_reachable hV hx
  have sc : SC V x i op ra ord src := ⟨hV, hI, hSx, he⟩
  have hy : Commit.ReachableV V y := .next x y hx (.step i op ra ord src he) hS
  obtain ⟨hIy, _⟩ := inv_reachable hV hy
  have hni : y.node i = (x.node i).step op ra ord := sc.node_i
  have happ := SC.lc_happ hlc
  obtain ⟨T, cev, hT⟩ := sc.commit_ev happ hlc
  have hN : N = ((x.node i).step op ra ord).commitIndex := by show (y.node i).commitIndex = _; rw [hni]
  have hτ : τ = T := by show termAt (y.node i).log.entries (y.node i).commitIndex = _; rw [hni]; exact hT
  have hN1 : 1 ≤ N := by have := cev.adv; omega
  have hmem : (N, τ) ∈ y.committed := by
    apply List.mem_append_left
    unfold newCommit
    rw [if_pos hlc, ← hni]
    exact List.mem_singleton.mpr rfl
  have hack : ({ voter := i, term := τ, index := N, eterm := τ } : Ack) ∈ y.acks := by
    apply List.mem_append_right
    apply List.mem_append_left
    unfold selfAck
    rw [if_pos hlc, ← hni]
    exact List.mem_singleton.mpr rfl
  have hfl : N ≤ (y.node i).log.flushed := by rw [hN, hni]; exact cev.flushed
  have hh : Holds (y.node i).log.entries N τ := by rw [hN, hτ, hni]; exact cev.holds
  have hiV : i ∈ V := by
    rcases cev.src with ⟨hl, _⟩ | ⟨hl, _⟩
    · exact hI.rp.ldrV i hl
    · have hl' : (y.node i).role = .leader := by rw [hni]; exact hl
      exact hIy.rp.ldrV i hl'
  refine ⟨⟨hmem, hack⟩, hiV, ⟨hfl, (durablyHolds_iff hIy).mpr ⟨hfl, hh⟩, fun k' h1 hle => ?_⟩, ?_⟩
  · refine ⟨durable_get? (nwf hIy i) (Nat.le_trans hle hfl), ?_⟩
    rw [(nwf hIy i).get?, if_pos (show 0 < k' from h1)]
    have : k' - 1 < (y.node i).log.entries.length := by have := hh.2.1; omega
    rw [List.getElem?_eq_getElem this]; rfl
  · have hkc : N ≤ (y.node i).commitIndex := Nat.le_refl _
    exact (commit_durable_on_majority_sys_partial V hV y hy).2 i N hN1 hkc

/-- **C06, what an acknowledgement promises (partial; same assumptions)** — the invariant behind the theorems
(`Commit.AckI.stable`). Let `a = (voter, term, index, eterm)` be a recorded acknowledgement of a reachable state
`x`: at a moment when the voter's term was `term` its log held an entry of term `eterm` at `index`, and it
answered `success` to an append request of that term ending at `index` (or it is the leader of `term` counting
itself). Then every entry `b` OF THE TERM OF THE ACKNOWLEDGEMENT on the path to the acknowledged entry
(`b.2 = a.term`, `b` an ancestor of or equal to `(index, eterm)`) is still in the voter's durable log — unless
the tree of created entries contains an entry of a later term, not above the voter's current term, that does not
extend `b` (a later leader overwrote it; by leader completeness this never happens to a committed `b`).
Entries of EARLIER terms below an acknowledgement need not be durable on the voter (finding (a) of C02Sys: a
follower that appends nothing answers `success` without flushing; its unflushed entries are its own, created when
it was leader — the scenario `exA` below); they are durable on the majority that acknowledged them to the leader
of their own term once they are committed (theorem `commit_durable_on_majority_sys_partial`). -/
theorem acknowledged_durable_until_overwritten_partial (V : List Nat) (hV : V.Nodup) (x : Commit.Sys)
    (hx : Commit.ReachableV V x) (a : Ack) (ha : a ∈ x.acks) (b : Nat × Nat) (hb : b.2 = a.term)
    (hanc : Anc x.T b (a.index, a.eterm)) :
    DurablyHolds x a.voter b.1 b.2 ∨
    ∃ c ∈ x.T, b.2 < c.e.term ∧ c.e.term ≤ (x.node a.voter).term ∧ ¬ Anc x.T b (c.e.index, c.e.term) := by
  obtain ⟨hI, _⟩ := inv_reachable hV hx
  rcases hI.ack.stable a ha b hb hanc with d | u
  · exact Or.inl ((durablyHolds_iff hI).mpr d)
  · exact Or.inr u

/-- a burst of crashes: nodes of the list `C` die — each at any storage point of any enabled step, any number
of times, in any order — and restart from disk; nothing else happens (every state satisfies the side condition) -/
inductive CrashRun (V : List Nat) (C : List Nat) (x : Commit.Sys) : Commit.Sys → Prop
  | refl : CrashRun V C x x
  | crash (y : Commit.Sys) (i : Nat) (op : Op) (ra : List Nat) (ord : List (List Nat)) (src k retain : Nat)
      (sor : Bool) (n : Node) : CrashRun V C x y → i ∈ C → Commit.Enabled y i op src →
      Node.restart (C05.crashDisk (y.node i) op ra ord k) retain sor = some n →
      SideV V (crashC y i op n) → CrashRun V C x (crashC y i op n)

theorem crashRun_run {V C : List Nat} {x y : Commit.Sys} (h : CrashRun V C x y) : RunV V x y := by
  induction h with
  | refl => exact .refl
  | crash y i op ra ord src k retain sor n _ _ he hn hs ih =>
    exact .next y _ ih (.crash i op ra ord src k retain sor n he hn) hs

/-- the nodes outside `C` are untouched, nothing is added to the ledgers of acknowledgements and commits -/
theorem crashRun_other {V C : List Nat} {x y : Commit.Sys} (h : CrashRun V C x y) :
    (∀ j, j ∉ C → y.node j = x.node j) ∧ y.acks = x.acks ∧ y.committed = x.committed := by
  induction h with
  | refl => exact ⟨fun _ _ => rfl, rfl, rfl⟩
  | crash y i op ra ord src k retain sor n _ hi _ _ _ ih =>
    refine ⟨fun j hj => ?_, ih.2.1, ih.2.2⟩
    have hne : j ≠ i := fun e => hj (e ▸ hi)
    rw [← ih.1 j hj]
    exact crashC_node_j y i op n hne

/-- **C06, no acknowledged update is lost when nodes crash (partial; same assumptions).** Let `x` be reachable
and let the nodes of ANY list `C` — a minority of the voters, the leader, or even all nodes — die, each at any
storage point of any enabled step, any number of times, and restart from what is on their disks
(`CrashRun V C x y`; the nodes outside `C` are untouched: `crashRun_other`). Then for every index `k` that was
within the commit index of some node `j` in `x` (so a client may have been told that the update at `k`
succeeded):
1. a majority `Q` of the voters still keeps, in `y`, every entry `1 ≤ k' ≤ k` durably, exactly as `j` held it in
   `x` (`Keeps`: flushed, on disk whenever the node may die again, back in the log after any further restart);
2. hence EVERY majority `S` of the voters — e.g. the voters that are still alive if the nodes outside `S` never
   come back, or the electorate of any future leader — contains a node that does;
3. in every state `z` after `y` (any further steps, crashes, elections) the majority `Q` still keeps them, and
   every leader whose term is at least the term `j` had in `x` holds at every index `1 ≤ k' ≤ k` the very entry
   `j` held there in `x` (`leader_completeness_ever_partial`).
(In this model a crashed node keeps its disk; a node that never restarts is a node that takes no further step,
which every run allows. So the statement needs no bound on `C`; the bound is what statement 2 is about.) -/
theorem no_loss_under_minority_crash_partial (V : List Nat) (hV : V.Nodup) (x y : Commit.Sys)
    (hx : Commit.ReachableV V x) (C : List Nat) (hc : CrashRun V C x y) (j k : Nat) (hk : 1 ≤ k)
    (hkc : k ≤ (x.node j).commitIndex) :
    ∃ Q, Majority V Q ∧
      (∀ v ∈ Q, Keeps y v (x.node j) k) ∧
      (∀ S, Majority V S → ∃ v ∈ S, Keeps y v (x.node j) k) ∧
      (∀ z, RunV V y z →
        (∀ v ∈ Q, Keeps z v (x.node j) k) ∧
        ∀ l, (z.node l).role = .leader → (x.node j).term ≤ (z.node l).term → ∀ k', 1 ≤ k' → k' ≤ k →
          (z.node l).log.get? k' = (x.node j).log.get? k' ∧ ((x.node j).log.get? k').isSome = true) := by
  have hxy := crashRun_run hc
  obtain ⟨Q, hQ, hall⟩ := (commit_durable_on_majority_sys_partial V hV x hx).2 j k hk hkc
  refine ⟨Q, hQ, fun v hv => hall y hxy v hv, fun S hS => ?_, fun z hyz => ?_⟩
  · obtain ⟨v, hvQ, hvS⟩ := C01.quorums_intersect V Q S hV hQ.1 hS.1 hQ.2.1 hS.2.1
      (by have := hQ.2.2; have := hS.2.2; omega)
    exact ⟨v, hvS, hall y hxy v hvQ⟩
  · have hxz := run_trans hxy hyz
    refine ⟨fun v hv => hall z hxz v hv, fun l hl ht k' h1 hle => ?_⟩
    exact leader_completeness_ever_partial V hV x z hx hxz l j k' h1 (Nat.le_trans hle hkc) hl ht

/-! ### Examples (non-vacuity) — the scenario of Props/C02Sys.lean: three voters, node 1 is elected in term 2,
appends its no-op (2,2), nodes 2 and 3 acknowledge it, node 1 commits index 2 (`ex7`). What is said of `ex7` is
evaluated with `#guard` (tests, not proofs): the kernel does not evaluate the `List.mergeSort` of the commit step. -/

/-- example: the hypotheses of the theorems (`V.Nodup`, a reachable state, a later state, a burst of
crashes) are satisfiable on the non-initial state `ex1` (node 1 is candidate of term 2) -/
example : [1, 2, 3].Nodup ∧ Commit.ReachableV [1, 2, 3] ex1 ∧ RunV [1, 2, 3] ex0 ex1 ∧
    CrashRun [1, 2, 3] [2, 3] ex1 ex1 ∧ Majority [1, 2, 3] [3, 1] :=
  ⟨by decide, .next ex0 ex1 (.init ex0 ex0_init.1 ex0_init.2) ex1_trans ex1_side,
    .next ex0 ex1 .refl ex1_trans ex1_side, .refl, by decide, by decide, by decide⟩

/-- example: the notions on a concrete node — in `ex1` the durable log of node 2 holds the bootstrap entry (1,1) -/
example : DurablyHolds ex1 2 1 1 ∧ SameOnDisk (ex1.node 2).durable (ex1.node 3) 1 := by
  refine ⟨⟨C04Sys.exE, by decide, by decide⟩, fun k' h1 hle => ?_⟩
  have : k' = 1 := by omega
  subst this
  exact ⟨by decide, by decide⟩

/-- the disk of node `v` in state `s` returns an entry of term `t` at index `k` (executable `DurablyHolds`) -/
def durB (s : Commit.Sys) (v k t : Nat) : Bool := (((s.node v).durable.log.get? k).map (·.term)) == some t

/-- the disk image of node `v` after `n` storage points of handling `op` returns an entry of term `t` at `k` -/
def crashB (s : Commit.Sys) (v : Nat) (op : Op) (n k t : Nat) : Bool :=
  ((((C05.crashDisk (s.node v) op [] [] n).log.get? k).map (·.term)) == some t)

/-- a conflicting append request of term 3 "from node 3" that no run contains -/
def exForged : AppendReq :=
  { term := 3, src := 3, prevLogIndex := 1, prevLogTerm := 1,
    entries := [{ index := 2, term := 3, typ := etNop }] }

-- the commit of (2,2) is in the ledger of `ex7`, and every voter (in particular the majority [2, 3] that
-- acknowledged, and the leader 1 itself: its self acknowledgement is backed by its flush) holds it durably
#guard ex7.committed == [(2, 2)] && (ex7.node 1).commitIndex == 2 && (ex7.node 1).log.flushed == 2
#guard durB ex7 1 2 2 && durB ex7 2 2 2 && durB ex7 3 2 2 && durB ex7 2 1 1 && durB ex7 3 1 1
-- before the acknowledgements the leader's no-op was NOT yet flushed on the leader (finding (a) of C02Sys: it
-- is the leader's own entry), and not yet held by node 3
#guard (ex3.node 1).log.flushed == 1 && !durB ex3 1 2 2 && !durB ex5 3 2 2 && durB ex5 2 2 2
-- node 2 dies at any storage point of an election timeout, or of a conflicting append request of a later
-- term 3 sent by node 3 (which cannot exist in a run: it is refused by the theorem's enabling conditions, but it
-- shows what the invariant excludes): the timeout keeps the entry, the forged request would remove it
#guard (List.range 4).all (fun n => crashB ex7 2 .timeout n 2 2)
#guard !(List.range 4).all (fun n => crashB ex7 2 (.append exForged) n 2 2)

/-- finding (a) of C02Sys, as a scenario (continuing `ex5`, where node 1 leads term 2 with its no-op (2,2) not yet
flushed and node 2 has acknowledged it): node 2 times out, node 3 votes for it, node 2 leads term 3 and sends
node 1 a request without entries whose previous entry is (2,2); node 1 answers `success` without flushing -/
def exA1 : Commit.Sys := stepC ex5 2 .timeout [] [] 0
def exA2 : Commit.Sys := stepC exA1 3 (.vote { term := 3, src := 2, lastLogIndex := 2, lastLogTerm := 2 }) [] [] 0
def exA3 : Commit.Sys := stepC exA2 2 (.voteResult false 3 rSuccess) [] [] 3
def exHb : AppendReq := { term := 3, src := 2, prevLogIndex := 2, prevLogTerm := 2, entries := [] }
def exA : Commit.Sys := stepC (sendC exA3 exHb) 1 (.append exHb) [] [] 0

-- node 1's acknowledgement (voter 1, term 3, index 2, entry term 2) is recorded although (2,2) is not durable on
-- node 1: the acknowledged entry is of an EARLIER term (its own, from term 2), the case
-- `acknowledged_durable_until_overwritten_partial` leaves out; nothing is committed, and node 2 holds (2,2) durably
#guard (exA3.node 2).role == .leader && (exA3.node 2).term == 3
#guard exA.acks.map (fun a => (a.voter, a.term, a.index, a.eterm)) == [(1, 3, 2, 2), (2, 2, 2, 2)]
#guard (exA.node 1).log.flushed == 1 && !durB exA 1 2 2 && durB exA 2 2 2 && exA.committed == []

end C06Sys
end Raft

#print axioms Raft.C06Sys.commit_durable_on_majority_sys_partial
#print axioms Raft.C06Sys.leader_self_ack_durable_partial
#print axioms Raft.C06Sys.acknowledged_durable_until_overwritten_partial
#print axioms Raft.C06Sys.no_loss_under_minority_crash_partial
