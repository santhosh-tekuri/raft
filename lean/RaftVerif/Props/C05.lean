/-
C05 — One durable vote per term; the term never goes backwards.

Model: `Raft.Node.step` (Model/Step.lean), i.e. every case of stateLoop's select, for every input.
Everything here is node-local and quantifies over ARBITRARY requests (no assumption that peers behave).
-/
import RaftVerif.Lemmas.Traced
import RaftVerif.Lemmas.Frame
import RaftVerif.Lemmas.RestartShape

namespace Raft
namespace C05
open Node

/-- The in-memory `(term, votedFor)` equals what is on disk (what a restart would read). -/
def VoteWF (s : Node) : Prop := s.durTerm = s.term ∧ s.durVote = s.votedFor

/-- Relation between a state and any later state of the same process: the term never decreases and a
vote cast in a term is never changed within that term. -/
def VoteStep (s s' : Node) : Prop :=
  s.term ≤ s'.term ∧ (s'.term = s.term → s.votedFor ≠ 0 → s'.votedFor = s.votedFor)

/-- The same relation for what a crash would leave on disk. -/
def DurStep (s : Node) (d : Durable) : Prop :=
  s.term ≤ d.term ∧ (d.term = s.term → s.votedFor ≠ 0 → d.vote = s.votedFor)

/-- The invariant carried through a step, relative to the state `s₀` the step started from; it also
covers every crash point passed so far (`trace`). -/
def Inv (s₀ s : Node) : Prop :=
  VoteStep s₀ s ∧ VoteWF s ∧ ∀ p ∈ s.trace, DurStep s₀ p.2 ∨ p ∈ s₀.trace

theorem storeTermVote_fields (s : Node) (t c : Nat) :
    (s.storeTermVote t c).term = t ∧ (s.storeTermVote t c).votedFor = c ∧
    (s.storeTermVote t c).durTerm = t ∧ (s.storeTermVote t c).durVote = c :=
  ⟨by rw [Node.storeTermVote_shape], by rw [Node.storeTermVote_shape], Node.storeTermVote_dur s t c⟩

/-- `Inv s₀` without its clause about the crash images -/
def Mem (s₀ s : Node) : Prop := VoteStep s₀ s ∧ VoteWF s

theorem Mem.refl {s : Node} (h : VoteWF s) : Mem s s := ⟨⟨Nat.le_refl _, fun _ _ => rfl⟩, h⟩

theorem inv_refl (s : Node) (h : VoteWF s) : Inv s s := ⟨(Mem.refl h).1, h, fun _ hp => Or.inr hp⟩

theorem Mem.congr {s₀ s s' : Node} (h : Mem s₀ s) (e1 : s'.term = s.term) (e2 : s'.votedFor = s.votedFor)
    (e3 : s'.durTerm = s.durTerm) (e4 : s'.durVote = s.durVote) : Mem s₀ s' := by
  unfold Mem VoteStep VoteWF at *
  rw [e1, e2, e3, e4]; exact h

theorem Mem.dur {s₀ s : Node} (h : Mem s₀ s) : DurStep s₀ s.durable := by
  unfold DurStep Node.durable
  rw [h.2.1, h.2.2]; exact h.1

/-- `setTerm` and `setVotedFor` store a pair or fail an assertion: with a pair that is a legal successor of where the
step started, either way the invariant is kept. (Between the rename and the update of the memory copy it does not hold:
what a crash there leaves is the disk of the state after the update, Lemmas/Traced.lean.) -/
theorem Mem.storeOrPanic {s₀ s : Node} (t c : Nat) (site : String) (a b : Prop) [Decidable a] [Decidable b]
    (h : Mem s₀ s) (hok : b → s₀.term ≤ t ∧ (t = s₀.term → s₀.votedFor ≠ 0 → c = s₀.votedFor)) :
    Mem s₀ (if a then (if b then s.storeTermVote t c else s.panic site) else s) :=
  ite_ind (fun _ => ite_ind
    (fun hb => by
      obtain ⟨e1, e2, e3, e4⟩ := storeTermVote_fields s t c
      unfold Mem VoteStep VoteWF
      rw [e1, e2, e3, e4]; exact ⟨hok hb, rfl, rfl⟩)
    fun _ => by refine h.congr ?_ ?_ ?_ ?_ <;> rw [Node.panic_shape]) fun _ => h

theorem mem_closed (s₀ : Node) : StepClosed (Mem s₀) where
  panic := fun s site h => by refine h.congr ?_ ?_ ?_ ?_ <;> rw [Node.panic_shape]
  reply := fun s t r h => by refine h.congr ?_ ?_ ?_ ?_ <;> rw [Node.reply_shape]
  point := fun _ _ h => h.congr rfl rfl rfl rfl
  ldr := fun _ _ h => h.congr rfl rfl rfl rfl
  append := fun _ _ _ h => h.congr rfl rfl rfl rfl
  commitN := fun _ _ h => h.congr rfl rfl rfl rfl
  fsm := fun _ _ h => h.congr rfl rfl rfl rfl
  changeConfigR := fun s c h => by refine h.congr ?_ ?_ ?_ ?_ <;> rw [Node.changeConfigR_shape]
  setCommitIndexR := fun s i h _ => by refine h.congr ?_ ?_ ?_ ?_ <;> rw [Node.setCommitIndexR_shape]
  popOrder := fun _ h => h.congr rfl rfl rfl rfl
  begin := fun _ _ _ h => h.congr rfl rfl rfl rfl
  rpcReply := fun _ _ h => h.congr rfl rfl rfl rfl
  ret := fun _ _ h => h.congr rfl rfl rfl rfl
  setRole := fun _ _ h => h.congr rfl rfl rfl rfl
  setLeader := fun _ _ h => h.congr rfl rfl rfl rfl
  doClose := fun s r h => by refine h.congr ?_ ?_ ?_ ?_ <;> rw [Node.doClose_shape]
  setTerm := fun s t h => h.storeOrPanic t 0 _ _ _ fun hgt =>
    ⟨Nat.le_trans h.1.1 (Nat.le_of_lt hgt), fun he _ => by have := h.1.1; omega⟩
  voteNewTerm := fun s t c h hgt => h.storeOrPanic t c _ _ _ fun _ =>
    ⟨Nat.le_trans h.1.1 (Nat.le_of_lt hgt), fun he _ => by have := h.1.1; omega⟩
  voteGrant := fun s c h hv => h.storeOrPanic s.term c _ _ _ fun _ => ⟨h.1.1, fun he hne => by
    -- a vote cast in this term would still be in `s.votedFor`
    have := h.1.2 he hne
    rw [hv] at this
    exact absurd this.symm hne⟩
  votesNeeded := fun _ _ h => h.congr rfl rfl rfl rfl
  candTransfer := fun _ _ h => h.congr rfl rfl rfl rfl
  removeGTE := fun _ _ _ h => h.congr rfl rfl rfl rfl
  removeLTE := fun _ _ h => h.congr rfl rfl rfl rfl
  clearLog := fun _ h => h.congr rfl rfl rfl rfl
  revertConfig := fun _ h => h.congr rfl rfl rfl rfl
  commitConfig := fun s h => by refine h.congr ?_ ?_ ?_ ?_ <;> rw [Node.commitConfig_shape]
  publishSnapshot := fun _ _ h => h.congr rfl rfl rfl rfl
  installCommit := fun _ h _ => h.congr rfl rfl rfl rfl
  snapPending := fun _ _ h => h.congr rfl rfl rfl rfl
  snapResult := fun _ _ h => h.congr rfl rfl rfl rfl
  bootstrapLast := fun _ _ _ h => h.congr rfl rfl rfl rfl

/-- `Inv s₀` is preserved by every primitive the handlers are built from: its clause about the crash images follows
from `Mem.dur`. -/
theorem closed (s₀ : Node) : StepClosed (Inv s₀) := by
  have e : (fun s => Mem s₀ s ∧ Traced (fun p => DurStep s₀ p.2 ∨ p ∈ s₀.trace) s) = Inv s₀ :=
    funext fun s => propext and_assoc
  exact e ▸ (mem_closed s₀).traced (fun _ _ h => Or.inl h.dur) fun s _ _ h =>
    Or.inl (Mem.dur (s := { s with snapsDisk := _ }) h)

theorem setVotedFor_same' (s : Node) : s.setVotedFor s.term s.votedFor = s := Node.setVotedFor_same s

theorem begin_trace (s : Node) (ra : List Nat) (ord : List (List Nat)) : (s.begin ra ord).trace = [] := rfl

/-- **C05 (a)** — for EVERY operation a node can handle (any RPC with any content, any timeout, task,
replication update, snapshot event, shutdown), in every state: the term does not decrease, a vote
already cast in the current term is not changed, what is in memory is what is on disk, and the same
holds for the disk contents at every crash point inside the step. -/
theorem step_vote_stable (s : Node) (op : Op) (rollAt : List Nat) (order : List (List Nat)) (h : VoteWF s) :
    VoteStep s (s.step op rollAt order) ∧ VoteWF (s.step op rollAt order) ∧
    ∀ p ∈ (s.step op rollAt order).trace, DurStep s p.2 :=
  have h2 := (mem_closed (s.begin rollAt order)).step_traced (D := fun p => DurStep s p.2) (fun _ _ h => h.dur)
    (fun x _ _ h => Mem.dur (s := { x with snapsDisk := _ }) h) s op rollAt order (Mem.refl h)
  ⟨h2.1.1, h2.1.2, h2.2⟩

theorem ret_result (x : Node) (r : Nat) : (x.ret r).result = r := rfl

/-- Shape of a granted vote: the handler ends with `setVotedFor(req.term, req.src)`. -/
theorem onVoteRequest_success (s : Node) (q : VoteReq) (hs : (s.onVoteRequest q).result = rSuccess) :
    q.term ≥ s.term ∧
    s.onVoteRequest q =
      ((if q.term > s.term then s.setRole .follower else s).setVotedFor q.term q.src).ret rSuccess := by
  unfold Node.onVoteRequest at hs ⊢
  by_cases c1 : ((!q.transfer) = true ∧ s.leader ≠ 0 ∧ q.src ≠ s.leader)
  · rw [if_pos c1, ret_result] at hs; exact absurd hs (by decide)
  · rw [if_neg c1] at hs ⊢
    by_cases c2 : q.term < s.term
    · rw [if_pos c2, ret_result] at hs; exact absurd hs (by decide)
    · rw [if_neg c2] at hs ⊢
      refine ⟨Nat.le_of_not_lt c2, ?_⟩
      dsimp only at hs ⊢
      by_cases c3 : q.term > s.term
      · simp only [c3, if_true, ne_eq, not_true_eq_false, if_false] at hs ⊢
        split at hs
        · rw [ret_result] at hs; exact absurd hs (by decide)
        · rename_i c4; rw [if_neg c4]
      · have heq : q.term = s.term := by omega
        simp only [c3, if_false] at hs ⊢
        by_cases c5 : s.votedFor ≠ 0
        · rw [if_pos c5] at hs ⊢
          by_cases c6 : s.votedFor = q.src
          · rw [if_pos c6, heq, c6]
          · rw [if_neg c6, ret_result] at hs; exact absurd hs (by decide)
        · rw [if_neg c5] at hs ⊢
          split at hs
          · rw [ret_result] at hs; exact absurd hs (by decide)
          · rename_i c4; rw [if_neg c4, heq]

theorem setVotedFor_fields (x : Node) (t c : Nat) (hw : VoteWF x) (hge : t ≥ x.term) :
    (x.setVotedFor t c).term = t ∧ (x.setVotedFor t c).votedFor = c ∧
    (x.setVotedFor t c).durTerm = t ∧ (x.setVotedFor t c).durVote = c := by
  unfold Node.setVotedFor
  split
  · exact storeTermVote_fields x t c
  · rename_i hn
    simp only [not_or, Decidable.not_not] at hn
    obtain ⟨hw1, hw2⟩ := hw
    refine ⟨hn.1.symm, hn.2.symm, ?_, ?_⟩
    · rw [hw1, hn.1]
    · rw [hw2, hn.2]

/-- **C05 (b)** — whenever the vote handler answers `success`, the vote for the REQUESTED term and
candidate is what is in memory and on disk when the handler returns (i.e. before the reply is built). -/
theorem grant_is_durable (s : Node) (q : VoteReq) (h : VoteWF s)
    (hs : (s.onVoteRequest q).result = rSuccess) :
    (s.onVoteRequest q).term = q.term ∧ (s.onVoteRequest q).votedFor = q.src ∧
    (s.onVoteRequest q).durTerm = q.term ∧ (s.onVoteRequest q).durVote = q.src := by
  obtain ⟨hge, heq⟩ := onVoteRequest_success s q hs
  rw [heq]
  have hx : VoteWF (if q.term > s.term then s.setRole .follower else s) := by split <;> exact h
  have hxt : (if q.term > s.term then s.setRole .follower else s).term = s.term := by split <;> rfl
  exact setVotedFor_fields _ q.term q.src hx (by rw [hxt]; exact hge)

/-- **C05 (d)** — a restart reads back exactly the durable `(term, vote)`. -/
theorem restart_reads_durable (d : Durable) (retain : Nat) (sor : Bool) (n : Node)
    (h : Node.restart d retain sor = some n) :
    n.term = d.term ∧ n.votedFor = d.vote ∧ VoteWF n := by
  have t := Node.restart_field (·.term) (fun _ _ _ _ => rfl) h
  have v := Node.restart_field (·.votedFor) (fun _ _ _ _ => rfl) h
  exact ⟨t, v, (Node.restart_field (·.durTerm) (fun _ _ _ _ => rfl) h).trans t.symm,
    (Node.restart_field (·.durVote) (fun _ _ _ _ => rfl) h).trans v.symm⟩

inductive Ev where
  /-- the operation is handled to completion (its reply, if any, is sent) -/
  | step (op : Op) (rollAt : List Nat) (order : List (List Nat))
  /-- the process dies while handling `op`, after `k` storage points (`k = 0`: before the first one;
  `k` beyond the last: after everything but before replying), and is restarted on the same directory -/
  | crash (op : Op) (rollAt : List Nat) (order : List (List Nat)) (k : Nat)

/-- Disk contents when the process dies after `k` storage points of handling `op`. -/
def crashDisk (s : Node) (op : Op) (ra : List Nat) (ord : List (List Nat)) : Nat → Durable
  | 0 => s.durable
  | k + 1 => match (s.step op ra ord).trace[k]? with
    | some p => p.2
    | none => (s.step op ra ord).durable

theorem crashDisk_of {D : Durable → Prop} (s : Node) (op : Op) (ra : List Nat) (ord : List (List Nat)) (k : Nat)
    (h0 : D s.durable) (h1 : D (s.step op ra ord).durable) (ht : Traced (fun p => D p.2) (s.step op ra ord)) :
    D (crashDisk s op ra ord k) := by
  cases k with
  | zero => exact h0
  | succ k =>
    simp only [crashDisk]
    split
    · rename_i p hp; exact ht p (List.mem_of_getElem? hp)
    · exact h1

/-- A map `F` of nodes that acts as `G` on what is durable, in the state and at every crash point, and commutes with the
step: the disk a crash of `F s` leaves is `G` of the disk the crash of `s` leaves. -/
theorem crashDisk_comm (F : Node → Node) (G : Durable → Durable) (hd : ∀ s, (F s).durable = G s.durable)
    (ht : ∀ s, (F s).trace = s.trace.map (fun p => (p.1, G p.2))) (s : Node) (op op' : Op) (ra : List Nat)
    (ord : List (List Nat)) (h : (F s).step op' ra ord = F (s.step op ra ord)) (k : Nat) :
    crashDisk (F s) op' ra ord k = G (crashDisk s op ra ord k) := by
  cases k with
  | zero => exact hd s
  | succ k =>
    simp only [crashDisk]
    rw [h, ht, List.getElem?_map]
    cases (s.step op ra ord).trace[k]? with
    | none => exact hd _
    | some p => rfl

theorem _root_.Raft.Node.StepClosed.crashDisk {P : Node → Prop} {D : Durable → Prop} (h : StepClosed P)
    (dur : ∀ s, P s → D s.durable) (publish : ∀ (s : Node) f, P s → D (published s f))
    (s : Node) (op : Op) (ra : List Nat) (ord : List (List Nat)) (k : Nat) (hs : P (s.begin ra ord)) :
    D (crashDisk s op ra ord k) :=
  have h2 := h.step_traced (D := fun p => D p.2) (fun s _ => dur s) (fun s f _ => publish s f) s op ra ord hs
  crashDisk_of s op ra ord k (dur (s.begin ra ord) hs) (dur _ h2.1) h2.2

/-- The votes this node has acknowledged as granted: `(term, candidate)` of every vote request answered `success`. -/
def grantOf (op : Op) (s' : Node) : Option (Nat × Nat) :=
  match op with
  | .vote q => if (s'.rpcReply.map (·.result)) = some rSuccess then some (q.term, q.src) else none
  | _ => none

def exec (retain : Nat) (sor : Bool) : Node → List (Nat × Nat) → List Ev → Option (Node × List (Nat × Nat))
  | s, g, [] => some (s, g)
  | s, g, .step op ra ord :: evs =>
    let s' := s.step op ra ord
    exec retain sor s' (match grantOf op s' with | some x => x :: g | none => g) evs
  | s, g, .crash op ra ord k :: evs =>
    match Node.restart (crashDisk s op ra ord k) retain sor with
    | some n => exec retain sor n g evs
    | none => none

/-- every vote request in the run names a real candidate (node ids are non-zero: `SetIdentity`, `New`) -/
def SrcOK : List Ev → Prop
  | [] => True
  | .step (.vote q) _ _ :: evs => q.src ≠ 0 ∧ SrcOK evs
  | _ :: evs => SrcOK evs

/-- run invariant: every acknowledged grant is still honoured by the current `(term, votedFor)`. -/
def Honoured (s : Node) (g : List (Nat × Nat)) : Prop :=
  ∀ x ∈ g, x.2 ≠ 0 ∧ (x.1 < s.term ∨ (x.1 = s.term ∧ s.votedFor = x.2))

def Unique (g : List (Nat × Nat)) : Prop := ∀ x ∈ g, ∀ y ∈ g, x.1 = y.1 → x.2 = y.2

theorem honoured_step {s s' : Node} {g : List (Nat × Nat)} (h : Honoured s g) (hs : VoteStep s s') :
    Honoured s' g := by
  intro x hx
  obtain ⟨h1, h2⟩ := h x hx
  refine ⟨h1, ?_⟩
  obtain ⟨ht, hv⟩ := hs
  rcases h2 with h2 | ⟨h2, h3⟩
  · left; omega
  · by_cases he : s'.term = s.term
    · right; refine ⟨by omega, ?_⟩
      rw [hv he (by rw [h3]; exact h1), h3]
    · left; omega

theorem honoured_dur {s : Node} {d : Durable} {n : Node} {g : List (Nat × Nat)} (h : Honoured s g)
    (hd : DurStep s d) (hn : n.term = d.term ∧ n.votedFor = d.vote) : Honoured n g := by
  apply honoured_step h
  unfold VoteStep; rw [hn.1, hn.2]; exact hd

theorem rpcReply_frame : FrameS (fun s : Node => s.rpcReply) where
  panic := fun s site => by rw [Node.panic_shape]
  reply := fun s t r => by rw [Node.reply_shape]
  point := fun _ _ => rfl
  ldr := fun _ _ => rfl
  log := fun _ _ _ _ => rfl
  logOnly := fun _ _ => rfl
  fsm := fun _ _ => rfl
  configs := fun _ _ => rfl
  commitIndex := fun _ _ => rfl
  leader := fun _ _ => rfl
  role := fun _ _ => rfl
  closed := fun _ _ => rfl
  popOrder := fun _ => rfl
  votesNeeded := fun _ _ => rfl
  candTransfer := fun _ _ => rfl
  setVotedFor := fun s t c => by rw [Node.setVotedFor_shape]

theorem rpcDone_result (x : Node) (a b : Bool) : (x.rpcDone a b).rpcReply.map (·.result) = some x.result := by
  rw [Node.rpcDone_reply]; rfl

theorem vote_step_shape (s : Node) (q : VoteReq) (ra : List Nat) (ord : List (List Nat))
    (h : ((s.step (.vote q) ra ord).rpcReply.map (·.result)) = some rSuccess) :
    ((s.begin ra ord).onVoteRequest q).result = rSuccess := by
  unfold Node.step at h
  dsimp only at h
  rw [rpcReply_frame.settle_eq] at h
  unfold Node.handle at h
  rw [rpcDone_result] at h
  injection h

theorem vote_step_honours (s : Node) (q : VoteReq) (ra : List Nat) (ord : List (List Nat)) (hwf : VoteWF s)
    (hq : q.src ≠ 0)
    (h : ((s.step (.vote q) ra ord).rpcReply.map (·.result)) = some rSuccess) :
    q.term < (s.step (.vote q) ra ord).term ∨
    (q.term = (s.step (.vote q) ra ord).term ∧ (s.step (.vote q) ra ord).votedFor = q.src) := by
  have hs := vote_step_shape s q ra ord h
  have hb : VoteWF (s.begin ra ord) := hwf
  obtain ⟨e1, e2, e3, e4⟩ := grant_is_durable (s.begin ra ord) q hb hs
  -- from the handler's result state to the end of the step
  let x := (s.begin ra ord).onVoteRequest q
  have hx : Inv x x := inv_refl x ⟨by rw [e3, e1], by rw [e4, e2]⟩
  have h2 : Inv x (s.step (.vote q) ra ord) := by
    unfold Node.step
    dsimp only
    exact (closed x).settle_inv _ _ _ ((closed x).rpcDone_inv _ _ _ hx)
  obtain ⟨⟨ht, hv⟩, _, _⟩ := h2
  by_cases he : (s.step (.vote q) ra ord).term = x.term
  · right
    refine ⟨by rw [he]; exact e1.symm, ?_⟩
    rw [hv he (by show x.votedFor ≠ 0; rw [e2]; exact hq)]
    exact e2
  · left
    have : x.term = q.term := e1
    omega

theorem crashDisk_durStep (s : Node) (op : Op) (ra : List Nat) (ord : List (List Nat)) (k : Nat) (hwf : VoteWF s) :
    DurStep s (crashDisk s op ra ord k) :=
  have ⟨hvs, hwf', htr⟩ := step_vote_stable s op ra ord hwf
  crashDisk_of s op ra ord k (Mem.refl hwf).dur (Mem.dur ⟨hvs, hwf'⟩) htr

/-- **runs, once**: a predicate on (state, grants, events to come) that a completed step carries on and that passes
from a state to any restart from a `DurStep` disk holds at the end of every run; `VoteWF` holds throughout. -/
theorem exec_rec {R : Node → List (Nat × Nat) → List Ev → Prop} (retain : Nat) (sor : Bool)
    (step : ∀ s g op ra ord evs, VoteWF s → R s g (.step op ra ord :: evs) →
      R (s.step op ra ord) (match grantOf op (s.step op ra ord) with | some x => x :: g | none => g) evs)
    (crash : ∀ s g op ra ord k evs d n, VoteWF s → R s g (.crash op ra ord k :: evs) → DurStep s d →
      n.term = d.term → n.votedFor = d.vote → R n g evs)
    (evs : List Ev) (s₀ : Node) (g₀ : List (Nat × Nat)) (hwf : VoteWF s₀) (h0 : R s₀ g₀ evs)
    (s : Node) (g : List (Nat × Nat)) (h : exec retain sor s₀ g₀ evs = some (s, g)) : R s g [] ∧ VoteWF s := by
  induction evs generalizing s₀ g₀ with
  | nil =>
    simp only [exec, Option.some.injEq, Prod.mk.injEq] at h
    rw [← h.1, ← h.2]; exact ⟨h0, hwf⟩
  | cons ev evs ih =>
    cases ev with
    | step op ra ord =>
      simp only [exec] at h
      exact ih _ _ (step_vote_stable s₀ op ra ord hwf).2.1 (step _ _ _ _ _ _ hwf h0) h
    | crash op ra ord k =>
      simp only [exec] at h
      split at h
      · rename_i n hn
        obtain ⟨hn1, hn2, hnwf⟩ := restart_reads_durable _ _ _ _ hn
        exact ih _ _ hnwf (crash _ _ _ _ _ _ _ _ _ hwf h0 (crashDisk_durStep s₀ op ra ord k hwf) hn1 hn2) h
      · cases h

/-- **C05 (e)** — in every run of a node (any operations with any contents, the process dying at any
storage point of any handler and restarting), all vote requests it answered `success` for one term
name one candidate. -/
theorem vote_once (retain : Nat) (sor : Bool) (evs : List Ev) (s₀ : Node) (g₀ : List (Nat × Nat))
    (hwf : VoteWF s₀) (hh : Honoured s₀ g₀) (hu : Unique g₀) (hsrc : SrcOK evs)
    (s : Node) (g : List (Nat × Nat)) (h : exec retain sor s₀ g₀ evs = some (s, g)) : Unique g := by
  refine (exec_rec (R := fun x g evs => Honoured x g ∧ Unique g ∧ SrcOK evs) retain sor
    (fun x g op ra ord evs hx ⟨hh, hu, hsrc⟩ => ?_)
    (fun _ _ _ _ _ _ _ _ _ _ ⟨hh, hu, hsrc⟩ hd hn1 hn2 => ⟨honoured_dur hh hd ⟨hn1, hn2⟩, hu, hsrc⟩)
    evs s₀ g₀ hwf ⟨hh, hu, hsrc⟩ s g h).1.2.1
  have hh' := honoured_step hh (step_vote_stable x op ra ord hx).1
  have hsrc' : SrcOK evs := by
    cases op <;> first | exact hsrc | exact hsrc.2
  cases hg : grantOf op (x.step op ra ord) with
  | none => exact ⟨hh', hu, hsrc'⟩
  | some y =>
    -- a grant: op is a vote request answered success
    cases op with
    | vote q =>
      simp only [grantOf] at hg
      split at hg
      · rename_i hsucc
        injection hg with hg
        subst hg
        have hq : q.src ≠ 0 := hsrc.1
        have hon := vote_step_honours x q ra ord hx hq hsucc
        -- an older grant for the same term names the same candidate
        have key : ∀ y ∈ g, y.1 = q.term → y.2 = q.src := by
          intro y hy hyt
          obtain ⟨hy0, hy1⟩ := hh y hy
          have hsh := vote_step_shape x q ra ord hsucc
          obtain ⟨hqge, _⟩ := onVoteRequest_success (x.begin ra ord) q hsh
          have hqge' : q.term ≥ x.term := hqge
          have hb : VoteWF (x.begin ra ord) := hx
          obtain ⟨e1, e2, _, _⟩ := grant_is_durable (x.begin ra ord) q hb hsh
          have hi := ((closed (x.begin ra ord)).onVoteRequest_inv _ q (inv_refl _ hb)).1
          rcases hy1 with hlt | ⟨heq, hvf⟩
          · omega
          · have h1 : ((x.begin ra ord).onVoteRequest q).term = (x.begin ra ord).term := by
              rw [e1]; show q.term = x.term; omega
            have h2 := hi.2 h1 (by show x.votedFor ≠ 0; rw [hvf]; exact hy0)
            rw [e2] at h2
            rw [h2]; exact hvf.symm
        refine ⟨fun y hy => ?_, fun a ha b hb hab => ?_, hsrc'⟩
        · rcases List.mem_cons.mp hy with hy | hy
          · subst hy; exact ⟨hq, hon⟩
          · exact hh' y hy
        · rcases List.mem_cons.mp ha with ha | ha <;> rcases List.mem_cons.mp hb with hb | hb
          · subst ha; subst hb; rfl
          · subst ha; exact (key b hb hab.symm).symm
          · subst hb; exact key a ha hab
          · exact hu a ha b hb hab
      · cases hg
    | _ => simp [grantOf] at hg

/-- **C05 (f)** — the term a node reports never goes backwards over a run with crashes and restarts. -/
theorem term_monotone_run (retain : Nat) (sor : Bool) (evs : List Ev) (s₀ : Node) (g₀ : List (Nat × Nat))
    (hwf : VoteWF s₀) (s : Node) (g : List (Nat × Nat)) (h : exec retain sor s₀ g₀ evs = some (s, g)) :
    s₀.term ≤ s.term ∧ VoteWF s :=
  exec_rec (R := fun x _ _ => s₀.term ≤ x.term) retain sor
    (fun x _ op ra ord _ hx hle => Nat.le_trans hle (step_vote_stable x op ra ord hx).1.1)
    (fun _ _ _ _ _ _ _ _ _ _ hle hd hn _ => by have := hd.1; omega) evs s₀ g₀ hwf (Nat.le_refl _) s g h

/-- The property as one statement about the model: for every run of a node from a well-formed state
(arbitrary operations with arbitrary contents; the process dying at any storage point of any handler and
restarting) (1) granted votes are unique per term, (2) the term never goes backwards, and (3) a vote reply
`success` is only produced after the vote for the requested term and candidate is durable. -/
def C05_statement : Prop :=
  (∀ (retain : Nat) (sor : Bool) (evs : List Ev) (s₀ s : Node) (g : List (Nat × Nat)),
      VoteWF s₀ → SrcOK evs → exec retain sor s₀ [] evs = some (s, g) → Unique g ∧ s₀.term ≤ s.term) ∧
  (∀ (s : Node) (q : VoteReq), VoteWF s → (s.onVoteRequest q).result = rSuccess →
      (s.onVoteRequest q).durTerm = q.term ∧ (s.onVoteRequest q).durVote = q.src)

theorem C05 : C05_statement := by
  refine ⟨fun retain sor evs s₀ s g hwf hsrc h => ⟨?_, ?_⟩, fun s q hwf hs => ?_⟩
  · exact vote_once retain sor evs s₀ [] hwf (fun _ hx => by cases hx) (fun _ hx => by cases hx) hsrc s g h
  · exact (term_monotone_run retain sor evs s₀ [] hwf s g h).1
  · exact (grant_is_durable s q hwf hs).2.2

/-! Non-vacuity: a freshly opened node is well formed, grants a vote, and the run semantics produces
a non-empty grant list for it. -/
example : VoteWF ({ cid := 7, nid := 1 } : Node) := ⟨rfl, rfl⟩
example : (({ cid := 7, nid := 1 } : Node).onVoteRequest { term := 3, src := 2 }).result = rSuccess := by decide
example : ((exec 1 true ({ cid := 7, nid := 1 } : Node) [] [.step (.vote { term := 3, src := 2 }) [] []]).map (·.2))
    = some [(3, 2)] := by decide

end C05
end Raft

#print axioms Raft.C05.C05
#print axioms Raft.C05.vote_once
#print axioms Raft.C05.term_monotone_run
#print axioms Raft.C05.grant_is_durable
#print axioms Raft.C05.step_vote_stable
#print axioms Raft.C05.restart_reads_durable
