/-
C06 — acknowledged entries are durable on a majority of the VOTERS OF THE CONFIGURATION IN FORCE — on the cluster-level
transition system WITH membership changes (`Raft.Member`, Sys/Member.lean; runs of `C08Member.ReachableR`: chains of
single-voter changes, promote / demote / remove, leader self-removal; crashes at any storage point + restart).

"The configuration in force" for a committed key `m` (`InForce x m C`): the configuration `C` carried by the LAST
CONFIGURATION ENTRY on the tree path to an entry `l` of `m`'s term at or above `m` — `l` is the last entry of the log of
the leader of that term at a moment it advanced its commit index to `m`, so `C` was that leader's `configs.latest` at
that moment (`C08Member.cfg_latest_member_partial`; the commit rule `majorityMatchIndex` reads the voters of
`configs.latest`, self only if voter: `C06Cache`). The majority `Q` comes from the commit record of the proof's ghost
ledger (`MemberInv.RecOK`, one record per commit moment `MemberCommit.SEv`); the STATEMENTS are ghost free.

"Durable": in the flushed part of the log (`DurableRel.DurablyHolds`: what `restart` reads); "crash safe": on the disk
image at EVERY storage point of EVERY step `TransR` admits (`MemberDurable.CrashSafeM`); `MemberDurable.KeepsM y v s k`:
node `v` keeps the entries `1 … k` of the log `s` durably (flushed, on every crash image, back after every restart).

All theorems are `_partial`: the restrictions of Props/C08Member.lean — no snapshots / compaction; every node bootstrapped
from the start; submitted configurations keep two action-free voters; `ReqG`; closed nodes frozen.
-/
import RaftVerif.Lemmas.MemberDurableRun
import RaftVerif.Props.C06Cache
import RaftVerif.Props.C06Sys
import RaftVerif.Props.AuditMember

namespace Raft
namespace C06Member
open Node Election LogRel CommitRel Commit Member MemberCore QuorumRel MemberInv MemberCommit MemberStep
open MemberSide C08Member DurableRel MemberDurable MemberGood
open MemberStep.SM (recOf)

/-- **`C` is a configuration in force for the committed key `m`**: the configuration carried by the last configuration
entry `D` on the tree path to an entry `l` of `m`'s term at or above `m` (the last entry of the committing leader's log
when its commit index moved to `m`: its `configs.latest` at that moment) -/
def InForce (x : Member.Sys) (m : K) (C : Config) : Prop :=
  ∃ l D, l.2 = m.2 ∧ Anc x.cm.T m l ∧ CfgAt x.cm.T D C l

/-- **`Q` is a duplicate-free majority of the VOTERS of the configuration `C`**: every member of `Q` is a voter of `C`
(`C.isVoter`; non-voters, nodes being promoted, removed nodes and non-members never count), and `Q` is more than half of
the (duplicate-free) voter list -/
structure VoterMajority (C : Config) (Q : List Nat) : Prop where
  cfg : CfgAll C
  nodup : Q.Nodup
  voter : ∀ v ∈ Q, C.isVoter v = true
  mem : ∀ v ∈ Q, v ∈ C.voters
  maj : 2 * Q.length > C.voters.length

theorem VoterMajority.voters_nodup {C : Config} {Q : List Nat} (h : VoterMajority C Q) : C.voters.Nodup :=
  h.cfg.voters_nodup

/-- a non-voter (or non-member) is not in the majority -/
theorem VoterMajority.not_mem {C : Config} {Q : List Nat} (h : VoterMajority C Q) {j : Nat}
    (hj : C.isVoter j = false) : j ∉ Q := fun hq => by
  have := h.voter j hq
  rw [hj] at this; cases this

/-- two majorities of the voters of one configuration share a member -/
theorem VoterMajority.intersect {C : Config} {Q S : List Nat} (hQ : VoterMajority C Q) (hS : VoterMajority C S) :
    ∃ v, v ∈ Q ∧ v ∈ S :=
  C01.quorums_intersect C.voters Q S hQ.voters_nodup hQ.nodup hS.nodup hQ.mem hS.mem
    (by have := hQ.maj; have := hS.maj; omega)

section core
variable {root : K} {x : Member.Sys} {G : Ghost}

/-- the configuration of a configuration entry of the tree is `CfgAll` -/
theorem cfgAt_all (h : RS root x G) {D : K} {C : Config} {a : K} (hc : CfgAt x.cm.T D C a) : CfgAll C := by
  obtain ⟨⟨c, hc, _, hcfg⟩, _, _⟩ := hc
  exact entOK_config (h.xinv.tree c hc) hcfg

/-- **the majority of a ledger entry**: a configuration in force, and a majority of its voters that keep the entry -/
theorem quorum_of_committed (h : RS root x G) {m : K} (hm : m ∈ x.cm.committed) :
    ∃ C Q, InForce x m C ∧ VoterMajority C Q ∧ ∀ v ∈ Q, Kept x v m := by
  obtain ⟨r, hr, e⟩ := h.inv.recs.cover m hm
  obtain ⟨r1, r2, D, cfg, r4, _, r6, r7, r8⟩ := rec_quorum h.inv h.sideT hr
  have hall := cfgAt_all h r4
  subst e
  refine ⟨cfg, r.Q, ⟨r.l, D, r1.symm, r2, r4⟩,
    ⟨hall, r6, fun v hv => (mem_voters_iff cfg (ids_nodup hall.sorted) v).mp (r7 v hv), r7, r8⟩,
    fun v hv => kept_of_rec h.inv h.sideT hr hm hv⟩

end core

/-- **C06, acknowledged entries are durable on a majority of the voters of the configuration in force — cluster level,
WITH membership changes (partial).** Let `x` be any state of the cluster reachable in `C08Member.ReachableR root` (a good
initial state: every node bootstrapped with one `CfgAll` configuration entry; then ANY sequence of: an open node handling
any enabled, well-formed operation — `.changeConfig` requests, configuration entries, promotions, demotions, removals
included —, a node dying at any storage point of such a step and restarting from disk, a leader putting on the wire an
append request read from its log; **restrictions (`_partial`)**: those of Props/C08Member.lean — no snapshots or
compaction, no fresh un-bootstrapped node, two action-free voters always remain). Then:

1. for every entry `m = (index, term)` of the ledger `committed` — put there in the very step in which a LEADER's commit
   index reaches it by the majority rule — there are a configuration `C` IN FORCE for `m` (`InForce`: the last
   configuration entry of the committing leader's log at that moment) and a duplicate-free majority `Q` of the VOTERS of
   `C` (`VoterMajority`: every member is a voter of `C`; non-voters and nodes not in `C` are not counted) such that every
   member of `Q` holds `m` in its DURABLE log (flushed: what `restart` reads), would still find it on its disk if it died
   at any storage point of any step (`CrashSafeM`), and `Kept`s it (the hypothesis of
   `committed_entry_stays_flushed_on_Q_partial`: for ever);
2. for every node `i` (leader or follower) and every index `k` within `i`'s commit index there are a ledger entry `m` at
   or above `(k, term of i's entry at k)`, a configuration `C` in force for `m` and such a majority `Q` whose members KEEP
   the entries `1 … k` of `i`'s log (`KeepsM`): flushed up to `k`; their disk returns, for EVERY index `1 ≤ k' ≤ k`, the
   very entry `i` holds at `k'` — entry `k` and all before it; so does every crash image; and a member that restarts
   holds these entries again. -/
theorem commit_durable_on_majority_member_partial (root : K) (x : Member.Sys) (hx : ReachableR root x) :
    (∀ m ∈ x.cm.committed, ∃ C Q, InForce x m C ∧ VoterMajority C Q ∧ ∀ v ∈ Q,
      DurablyHolds x.cm v m.1 m.2 ∧ CrashSafeM x v m.1 m.2 ∧ Kept x v m) ∧
    (∀ i k, 1 ≤ k → k ≤ (x.node i).commitIndex → ∃ m ∈ x.cm.committed, ∃ C Q,
      Anc x.cm.T (k, termAt (x.node i).log.entries k) m ∧ InForce x m C ∧ VoterMajority C Q ∧
      ∀ v ∈ Q, KeepsM x v (x.node i) k ∧ Kept x v (k, termAt (x.node i).log.entries k)) := by
  obtain ⟨G, h, _⟩ := rs_of hx
  refine ⟨fun m hm => ?_, fun i k hk hkc => ?_⟩
  · obtain ⟨C, Q, hC, hQ, hkept⟩ := quorum_of_committed h hm
    exact ⟨C, Q, hC, hQ, fun v hv =>
      ⟨(crashSafe_of_kept h (hkept v hv)).1, (crashSafe_of_kept h (hkept v hv)).2, hkept v hv⟩⟩
  · obtain ⟨hh, m, hm, _, hanc⟩ := C02Member.covered_committedM h.inv hk hkc
    obtain ⟨C, Q, hC, hQ, hkept⟩ := quorum_of_committed h hm
    refine ⟨m, hm, C, Q, hanc, hC, hQ, fun v hv => ?_⟩
    have hk' := (hkept v hv).anc h.inv hanc
    exact ⟨keepsM_of_kept h h.inv (fun _ hc => hc) hh hk', hk'⟩

/-- **C06, persistence across membership changes: the holder set `Q` keeps the entry for ever (partial; the assumptions
of `commit_durable_on_majority_member_partial`).** Let `x` be reachable.
1. General form: if node `v` KEEPS the key `b` in `x` (`Kept`: its durable log holds `b`, and `b` is at or below a ledger
   entry of a term `v` has reached — e.g. every member of the majorities of `commit_durable_on_majority_member_partial`),
   then in EVERY later state `y` (`RunR x y`: any further steps, elections, membership changes, truncations by later
   leaders, crashes, restarts) `v` still keeps `b`: it is in `v`'s durable log and on `v`'s disk at every storage point of
   every step; and for every node `i` whose log held `b` in `x`, `v` keeps the entries `1 … b.index` of that log
   (`KeepsM`). (By commit safety — `C02Member`: no request that is not stale conflicts with a protected index — the entry
   is never overwritten on `v`.)
2. For every ledger entry `m` of `x`: ONE configuration `C` in force for `m` and ONE majority `Q` of its voters hold `m`
   durably and crash-safely in `x` AND IN EVERY LATER STATE — whatever configurations the cluster moves to afterwards
   (members of `Q` may have been demoted or removed since: their disks still hold the entry).
3. For every node `i` and index `k` within `i`'s commit index in `x`: there is a ledger entry `m` at or above `i`'s entry
   at `k`, and one such `Q` (for a configuration in force for `m`) keeps the entries `1 … k` of `i`'s log in every later
   state. -/
theorem committed_entry_stays_flushed_on_Q_partial (root : K) (x : Member.Sys) (hx : ReachableR root x) :
    (∀ v b, Kept x v b → ∀ y, RunR x y → Kept y v b ∧ DurablyHolds y.cm v b.1 b.2 ∧ CrashSafeM y v b.1 b.2 ∧
      ∀ i, Holds (x.node i).log.entries b.1 b.2 → KeepsM y v (x.node i) b.1) ∧
    (∀ m ∈ x.cm.committed, ∃ C Q, InForce x m C ∧ VoterMajority C Q ∧ ∀ y, RunR x y → ∀ v ∈ Q,
      DurablyHolds y.cm v m.1 m.2 ∧ CrashSafeM y v m.1 m.2) ∧
    (∀ i k, 1 ≤ k → k ≤ (x.node i).commitIndex → ∃ m ∈ x.cm.committed, ∃ C Q,
      Anc x.cm.T (k, termAt (x.node i).log.entries k) m ∧ InForce x m C ∧ VoterMajority C Q ∧
      ∀ y, RunR x y → ∀ v ∈ Q, KeepsM y v (x.node i) k) := by
  obtain ⟨G, h, _⟩ := rs_of hx
  have gen : ∀ v b, Kept x v b → ∀ y, RunR x y → Kept y v b ∧ DurablyHolds y.cm v b.1 b.2 ∧ CrashSafeM y v b.1 b.2 ∧
      ∀ i, Holds (x.node i).log.entries b.1 b.2 → KeepsM y v (x.node i) b.1 := by
    intro v b hk y hrun
    obtain ⟨Gy, hy, _⟩ := rs_of (run_reachable hx hrun)
    have hky := hk.run hx hrun
    exact ⟨hky, (crashSafe_of_kept hy hky).1, (crashSafe_of_kept hy hky).2,
      fun i hh => keepsM_of_kept hy h.inv (run_grow hrun).1 hh hky⟩
  refine ⟨gen, fun m hm => ?_, fun i k hk hkc => ?_⟩
  · obtain ⟨C, Q, hC, hQ, hkept⟩ := quorum_of_committed h hm
    exact ⟨C, Q, hC, hQ, fun y hrun v hv =>
      ⟨(gen v m (hkept v hv) y hrun).2.1, (gen v m (hkept v hv) y hrun).2.2.1⟩⟩
  · obtain ⟨hh, m, hm, _, hanc⟩ := C02Member.covered_committedM h.inv hk hkc
    obtain ⟨C, Q, hC, hQ, hkept⟩ := quorum_of_committed h hm
    exact ⟨m, hm, C, Q, hanc, hC, hQ, fun y hrun v hv =>
      (gen v _ ((hkept v hv).anc h.inv hanc) y hrun).2.2.2 i hh⟩

/-- **C06, the chain of configurations: every later commit's majority holds the earlier commits too (partial).** In a
reachable state `x`, let `m` and `m'` be ledger entries with `m.index ≤ m'.index` (e.g. `m'` committed later, under a
configuration reached by any chain of single-voter changes). Then `m` lies on the path to `m'` (commit safety), and there
are a configuration `C'` in force for `m'` and a majority `Q'` of the voters of `C'` — the acknowledging majority of `m'`
— whose members hold `m` durably and crash-safely, in `x` and in every later state: the committed entry is flushed on a
majority of the voters of the configuration in force of EVERY commit at or above it. -/
theorem committed_entry_on_later_majorities_partial (root : K) (x : Member.Sys) (hx : ReachableR root x)
    (m m' : K) (hm : m ∈ x.cm.committed) (hm' : m' ∈ x.cm.committed) (hle : m.1 ≤ m'.1) :
    Anc x.cm.T m m' ∧ ∃ C' Q', InForce x m' C' ∧ VoterMajority C' Q' ∧ ∀ y, RunR x y → ∀ v ∈ Q',
      DurablyHolds y.cm v m.1 m.2 ∧ CrashSafeM y v m.1 m.2 := by
  obtain ⟨G, h, _⟩ := rs_of hx
  have hanc : Anc x.cm.T m m' := by
    rcases C02Member.ledger_chain h.inv h.sideT m hm m' hm' with c | c
    · exact c
    · have e : m' = m := c.eq_of_index (Nat.le_antisymm c.1 hle)
      rw [e]; rw [e] at c; exact c
  obtain ⟨C', Q', hC, hQ, hkept⟩ := quorum_of_committed h hm'
  refine ⟨hanc, C', Q', hC, hQ, fun y hrun v hv => ?_⟩
  have := (committed_entry_stays_flushed_on_Q_partial root x hx).1 v m ((hkept v hv).anc h.inv hanc) y hrun
  exact ⟨this.2.1, this.2.2.1⟩

/-- EXAMPLE (why the statement is about the configurations in force of COMMITS, not about every configuration that is
`latest` at a leader): voters `V = {1,2,3}`, the entry is held by the majority `Q = {1,2}`; the leader demotes the holder 2:
the new configuration has the voters `V' = {1,3}`, and the holders among them — `{1}` — are NOT a majority of `V'` until
node 3 has caught up (which it must have before anything is committed under `V'`: then
`committed_entry_on_later_majorities_partial` applies). Safety does not need more: every majority of `V'` meets `Q`
(adjacent configurations, `QuorumRel.adjacent_quorums_intersect`). -/
example : 2 * [1, 2].length > [1, 2, 3].length ∧
    ¬ (2 * ([1, 2].filter (fun v => decide (v ∈ [1, 3]))).length > [1, 3].length) ∧
    ∀ S : List Nat, S.Nodup → (∀ v ∈ S, v ∈ [1, 3]) → 2 * S.length > [1, 3].length → ∃ v, v ∈ [1, 2] ∧ v ∈ S :=
  ⟨by decide, by decide, fun S hS hsub hlen =>
    adjacent_quorums_intersect [1, 2, 3] [1, 3] [1, 2] S (by decide) (by decide) (by decide) hS
      ⟨2, fun x hx => by simp; omega⟩ (by decide) hsub (by decide) hlen⟩

/-- a burst of crashes: nodes of the list `F` die — each at any storage point of any step `TransR` admits (or between two
steps), any number of times, in any order — and restart from disk; nothing else happens -/
inductive CrashRunR (F : List Nat) (x : Member.Sys) : Member.Sys → Prop
  | refl : CrashRunR F x x
  | crash (y : Member.Sys) (i : Nat) (op : Op) (ra : List Nat) (ord : List (List Nat)) (src k retain : Nat)
      (sor : Bool) (n : Node) : CrashRunR F x y → i ∈ F → Member.Enabled y i op src → ReqG y i op →
      ((y.node i).closed = "" ∨ k = 0) → 1 ≤ retain →
      Node.restart (C05.crashDisk (y.node i) op ra ord k) retain sor = some n → CrashRunR F x (crashM y i op n)

theorem crashRun_run {F : List Nat} {x y : Member.Sys} (h : CrashRunR F x y) : RunR x y := by
  induction h with
  | refl => exact .refl
  | crash y i op ra ord src k retain sor n _ _ he hg ho hr hn ih =>
    exact .next y _ ih (.crash i op ra ord src k retain sor n he hg ho hr hn)

/-- the nodes outside `F` are untouched, nothing is added to the ledgers of acknowledgements and commits -/
theorem crashRun_other {F : List Nat} {x y : Member.Sys} (h : CrashRunR F x y) :
    (∀ j, j ∉ F → y.node j = x.node j) ∧ y.cm.acks = x.cm.acks ∧ y.cm.committed = x.cm.committed := by
  induction h with
  | refl => exact ⟨fun _ _ => rfl, rfl, rfl⟩
  | crash y i op ra ord src k retain sor n _ hi _ _ _ _ _ ih =>
    refine ⟨fun j hj => ?_, ih.2.1, ih.2.2⟩
    have hne : j ≠ i := fun e => hj (e ▸ hi)
    rw [← ih.1 j hj]
    exact crashM_node_j y i op n hne

/-- **every later leader holds what was within a commit index** (leader completeness along a run) -/
theorem leader_holds_ever {root : K} {x z : Member.Sys} (hx : ReachableR root x) (hrun : RunR x z) {j k : Nat}
    (hkc : k ≤ (x.node j).commitIndex) {l : Nat} (hl : (z.node l).role = .leader)
    (ht : (x.node j).term ≤ (z.node l).term) :
    ∀ k', 1 ≤ k' → k' ≤ k →
      (z.node l).log.get? k' = (x.node j).log.get? k' ∧ ((x.node j).log.get? k').isSome = true := by
  obtain ⟨Gx, h, _⟩ := rs_of hx
  obtain ⟨Gz, hz, _⟩ := rs_of (run_reachable hx hrun)
  obtain ⟨hT, _, hC⟩ := run_grow hrun
  exact fun k' h1 hle => (core_of_minv h.inv).leader_covers (core_of_minv hz.inv) hT hC
    (fun m hm hle' => C02Member.leader_holds_committedM hz.inv hz.sideT hl hm hle') h1 (Nat.le_trans hle hkc) ht

/-- **C06, no acknowledged update is lost when nodes crash, across membership changes (partial; the assumptions of
`commit_durable_on_majority_member_partial`).** Let `x` be reachable and let the nodes of ANY list `F` — a minority of the
voters, the leader, non-voters, or even all nodes — die, each at any storage point of any step (or between steps), any
number of times, and restart from what is on their disks (`CrashRunR F x y`; the nodes outside `F` are untouched:
`crashRun_other`). Then for every index `k` that was within the commit index of some node `j` in `x` (so a client may have
been told that the update at `k` succeeded) there are a configuration `C` in force for the commit and a majority `Q` of
the voters of `C` such that:
1. every member of `Q` still keeps, in `y`, every entry `1 ≤ k' ≤ k` durably, exactly as `j` held it in `x` (`KeepsM`:
   flushed, on disk whenever the node may die again, back in the log after any further restart);
2. hence EVERY majority `S` of the voters of `C` — e.g. the voters that are still alive if the others never come back —
   contains a node that does;
3. in every state `z` after `y` (any further steps, crashes, elections, membership changes) `Q` still keeps them, and
   every leader whose term is at least the term `j` had in `x` holds at every index `1 ≤ k' ≤ k` the very entry `j` held
   there in `x` (leader completeness, `C02Member`).
(A crashed node keeps its disk; a node that never restarts is a node that takes no further step, which every run
allows. So the statement needs no bound on `F`; the bound is what statement 2 is about.) -/
theorem no_loss_under_minority_crash_member_partial (root : K) (x y : Member.Sys) (hx : ReachableR root x)
    (F : List Nat) (hc : CrashRunR F x y) (j k : Nat) (hk : 1 ≤ k) (hkc : k ≤ (x.node j).commitIndex) :
    ∃ C Q, VoterMajority C Q ∧ (∃ m ∈ x.cm.committed, InForce x m C ∧ k ≤ m.1) ∧
      (∀ v ∈ Q, KeepsM y v (x.node j) k) ∧
      (∀ S, VoterMajority C S → ∃ v ∈ S, KeepsM y v (x.node j) k) ∧
      (∀ z, RunR y z →
        (∀ v ∈ Q, KeepsM z v (x.node j) k) ∧
        ∀ l, (z.node l).role = .leader → (x.node j).term ≤ (z.node l).term → ∀ k', 1 ≤ k' → k' ≤ k →
          (z.node l).log.get? k' = (x.node j).log.get? k' ∧ ((x.node j).log.get? k').isSome = true) := by
  have hxy := crashRun_run hc
  obtain ⟨m, hm, C, Q, hanc, hC, hQ, hall⟩ := (committed_entry_stays_flushed_on_Q_partial root x hx).2.2 j k hk hkc
  have hkm : k ≤ m.1 := hanc.1
  exact ⟨C, Q, hQ, ⟨m, hm, hC, hkm⟩, fun v hv => hall y hxy v hv,
    fun S hS => by
      obtain ⟨v, hvQ, hvS⟩ := hQ.intersect hS
      exact ⟨v, hvS, hall y hxy v hvQ⟩,
    fun z hyz => ⟨fun v hv => hall z (hxy.trans hyz) v hv,
      fun l hl ht => leader_holds_ever hx (hxy.trans hyz) hkc hl ht⟩⟩

theorem not_append_of {op : Op} (h : isAppend op = false) : ∀ q, op ≠ .append q := fun q e => by
  rw [e] at h; cases h

/-- what is known of the step in which the commit index of a leader moves (`LeaderCommit`): `T` is the leader's term, `len`
the length of its log at the (last) commit moment of the step, `C` the last configuration entry of the log of that moment,
`Q` the nodes that were counted -/
structure Moment (x : Member.Sys) (i : Nat) (post : Node) (y : Member.Sys) (len : Nat) (C : Config) (Q : List Nat) :
    Prop where
  /-- the node was leader before the step; the entry its commit index reaches carries its term -/
  leader : (x.node i).role = .leader
  term : termAt post.log.entries post.commitIndex = (x.node i).term
  holds : Holds post.log.entries post.commitIndex (x.node i).term
  /-- the leader flushed its own log up to the index BEFORE the commit index moved -/
  flushed : post.commitIndex ≤ post.log.flushed
  lenGe : post.commitIndex ≤ len
  lenLe : len ≤ post.log.entries.length
  /-- `C` is the last configuration entry of the leader's log at that moment … -/
  cfg : CfgLast (post.log.entries.take len) C
  /-- … its `configs.latest` after the step, unless the step appended something after the commit moment -/
  latest : len = post.log.entries.length → C = post.configs.latest
  force : InForce y (post.commitIndex, (x.node i).term) C
  maj : VoterMajority C Q
  /-- who is counted: the leader itself, or a node whose match index is backed by a recorded acknowledgement, in the
  leader's term, of an index at or beyond the new commit index -/
  counted : ∀ j ∈ Q, j = i ∨ ∃ a ∈ x.cm.acks, a.voter = j ∧ a.term = (x.node i).term ∧ post.commitIndex ≤ a.index
  /-- the ledger records the commit, and every counted node keeps the entry -/
  ledger : (post.commitIndex, (x.node i).term) ∈ y.cm.committed
  kept : ∀ v ∈ Q, Kept y v (post.commitIndex, (x.node i).term)

/-- **the commit moment** of a step of a reachable state -/
theorem commit_moment {root : K} {x : Member.Sys} {G : Ghost} (h : RS root x G) {i : Nat} {op : Op} {ra : List Nat}
    {ord : List (List Nat)} {src : Nat} (he : Member.Enabled x i op src) (hg : ReqG x i op)
    (ho : (x.node i).closed = "") (hlc : LeaderCommit op (x.node i) ((x.node i).step op ra ord)) :
    ∃ len C Q, Moment x i ((x.node i).step op ra ord) (stepM x i op ra ord src) len C Q := by
  obtain ⟨hp, _⟩ := C15NoPanic.good_step_two _ op ra ord (h.xinv.good i) ho (reqok h.inv h.xinv he hg)
  have sm : MemberStep.SM x G i op ra ord src := ⟨h.inv, h.sideM, he, fun _ => hp⟩
  have happ := not_append_of hlc.1
  obtain ⟨T, L, m⟩ := sm.evs happ
  rcases sm.head_ev m with ⟨_, e⟩ | ⟨ev, hev, e, _⟩
  · have := hlc.2
    have e' : ((x.node i).step op ra ord).commitIndex = (x.node i).commitIndex := e
    omega
  · have e' : ((x.node i).step op ra ord).commitIndex = ev.ci := e
    obtain ⟨E', hI'⟩ := minv_step_evs sm happ m
    have hy : ReachableR root (stepM x i op ra ord src) := .next x _ h.reach (.step i op ra ord src he hg ho)
    have hy' := rs_with hy hI'
    obtain ⟨hl, hT⟩ := sm.ev_leader m (List.ne_nil_of_mem hev)
    obtain ⟨a1, a2, a3, a4, hci, afl, acl, aq1, aq2, aq3⟩ := m.ev ev hev
    have hlenT := sm.ev_terms happ m hev a2 a4
    have hni := sm.node_i
    obtain ⟨D, hD, _⟩ := cfgAt_of_log sm.ry i ev.len hlenT.1 (by rw [hni]; exact a4) (by rw [hni]; exact acl)
    rw [hni, hlenT.2.2] at hD
    have hall : CfgAll ev.cfg := cfgAt_all hy' hD
    have hr : recOf T ev ∈ (⟨G.root, L.map (recOf T) ++ G.R, E', G.SA⟩ : Ghost).R :=
      List.mem_append_left _ (List.mem_map.mpr ⟨ev, hev, rfl⟩)
    have hmem : (ev.ci, T) ∈ (stepM x i op ra ord src).cm.committed := by
      apply List.mem_append_left
      unfold newCommit
      rw [if_pos hlc, e', hci.2.2]
      exact List.mem_singleton.mpr rfl
    subst hT
    refine ⟨ev.len, ev.cfg, ev.Q, hl, by rw [e']; exact hci.2.2, by rw [e']; exact hci, by rw [e']; exact afl,
      by rw [e']; exact a2, a4, acl, fun hlen => ?_,
      by rw [e']; exact ⟨(ev.len, (x.node i).term), D, rfl, sm.toC.anc_i hci hlenT a2, hD⟩,
      ⟨hall, hall.voters_nodup.sublist aq1,
        fun v hv => (mem_voters_iff ev.cfg (ids_nodup hall.sorted) v).mp (aq1.subset hv), fun v hv => aq1.subset hv, aq2⟩,
      fun j hj => ?_, by rw [e']; exact hmem, fun v hv => by rw [e']; exact kept_of_rec hI' hy'.sideT hr hmem hv⟩
    · have c1 := acl
      have hlen' : ev.len = sm.post.log.entries.length := hlen
      rw [hlen', List.take_length] at c1
      exact cfgLast_unique sm.nwf_post.contig c1 m.cl
    · rw [e']
      rcases aq3 j hj with e0 | ⟨_, _, mm, hm1, a, ha, b1, b2, b3⟩
      · exact Or.inl (by rw [e0, sm.nid_pre])
      · exact Or.inr ⟨a, ha, b1, b2, by omega⟩

/-- **C06, the moment a leader's commit index moves, across membership changes (partial; the assumptions of
`commit_durable_on_majority_member_partial`).** Let `x` be reachable and let the open node `i` handle an enabled,
well-formed operation that is not an append request such that its commit index moves (`LeaderCommit`: the leader-side
majority rule; `N` is the new commit index, `τ` the term of the entry at `N`); `y = stepM x i op ra ord src` is the
resulting state. Then in `y` — the very state in which the commit index has moved, before any client is told:
1. `i` was leader, `τ` is its term, and the ledgers record the commit `(N, τ)`;
2. the leader's own log is flushed up to `N` at least, its durable log holds `(N, τ)` and returns from disk every entry
   `1 ≤ k' ≤ N` of its log (`leader.setCommitIndex` = `commitLog(N)` THEN move the index) — whether or not the leader
   counted itself;
3. there are `len`, `C`, `Q`: `C` is the last configuration entry of the leader's log at the commit moment (its first `len`
   entries, `N ≤ len`; `C` is the leader's `configs.latest` after the step unless the step appended entries after that
   moment), hence IN FORCE for `(N, τ)`; `Q` is a duplicate-free majority of the VOTERS of `C`; every counted node is the
   leader itself — only if it is a voter of `C` — or a node whose match index is backed by a recorded acknowledgement, in
   the leader's term, of an index `≥ N`;
4. every member of `Q` keeps all entries of the leader's log up to `N` durably, in `y` AND IN EVERY LATER STATE (`KeepsM`:
   flushed — "at that moment" —, on every crash image, back after every restart). -/
theorem leader_commit_moment_member_partial (root : K) (x : Member.Sys) (hx : ReachableR root x) (i : Nat) (op : Op)
    (ra : List Nat) (ord : List (List Nat)) (src : Nat) (he : Member.Enabled x i op src) (hg : ReqG x i op)
    (ho : (x.node i).closed = "") (hlc : LeaderCommit op (x.node i) ((x.node i).step op ra ord)) :
    let y := stepM x i op ra ord src
    let N := (y.node i).commitIndex
    let τ := termAt (y.node i).log.entries N
    ((x.node i).role = .leader ∧ τ = (x.node i).term ∧ (N, τ) ∈ y.cm.committed) ∧
    (N ≤ (y.node i).log.flushed ∧ DurablyHolds y.cm i N τ ∧ SameOnDisk (y.node i).durable (y.node i) N) ∧
    ∃ len C Q, N ≤ len ∧ len ≤ (y.node i).log.entries.length ∧ CfgLast ((y.node i).log.entries.take len) C ∧
      (len = (y.node i).log.entries.length → C = (y.node i).configs.latest) ∧ InForce y (N, τ) C ∧
      VoterMajority C Q ∧ (i ∈ Q → C.isVoter i = true) ∧
      (∀ j ∈ Q, j = i ∨ ∃ a ∈ x.cm.acks, a.voter = j ∧ a.term = (x.node i).term ∧ N ≤ a.index) ∧
      ∀ z, RunR y z → ∀ v ∈ Q, KeepsM z v (y.node i) N := by
  intro y N τ
  obtain ⟨G, h, _⟩ := rs_of hx
  obtain ⟨len, C, Q, mo⟩ := commit_moment h he hg ho hlc (ra := ra) (ord := ord)
  have hy : ReachableR root y := .next x _ hx (.step i op ra ord src he hg ho)
  obtain ⟨Gy, hys, _⟩ := rs_of hy
  have hni : y.node i = (x.node i).step op ra ord := stepM_node_i x i op ra ord src
  have hτ : τ = (x.node i).term := by
    show termAt (y.node i).log.entries (y.node i).commitIndex = _
    rw [hni]; exact mo.term
  have hh : Holds (y.node i).log.entries N τ := by
    show Holds (y.node i).log.entries (y.node i).commitIndex τ
    rw [hτ, hni]; exact mo.holds
  have hfl : N ≤ (y.node i).log.flushed := by
    show (y.node i).commitIndex ≤ _
    rw [hni]; exact mo.flushed
  have hNτ : (N, τ) = (((x.node i).step op ra ord).commitIndex, (x.node i).term) := by
    show ((y.node i).commitIndex, τ) = _
    rw [hτ, hni]
  refine ⟨⟨mo.leader, hτ, by rw [hNτ]; exact mo.ledger⟩,
    ⟨hfl, (durable_holds_iff (nwfM hys.inv i)).mpr ⟨hfl, hh⟩, fun k' h1 hle => ?_⟩,
    len, C, Q, ?_, ?_, ?_, ?_, by rw [hNτ]; exact mo.force, mo.maj, fun hi => mo.maj.voter i hi, ?_, ?_⟩
  · obtain ⟨e1, e2⟩ := get?_some_of_holds (nwfM hys.inv i) hh h1 hle
    exact ⟨durable_get? (nwfM hys.inv i) (Nat.le_trans hle hfl), e2⟩
  · show (y.node i).commitIndex ≤ len
    rw [hni]; exact mo.lenGe
  · rw [hni]; exact mo.lenLe
  · rw [hni]; exact mo.cfg
  · rw [hni]; exact mo.latest
  · show ∀ j ∈ Q, j = i ∨ ∃ a ∈ x.cm.acks, a.voter = j ∧ a.term = (x.node i).term ∧ (y.node i).commitIndex ≤ a.index
    rw [hni]; exact mo.counted
  · intro z hrun v hv
    have hk : Kept y v (N, τ) := by rw [hNτ]; exact mo.kept v hv
    exact ((committed_entry_stays_flushed_on_Q_partial root y hy).1 v (N, τ) hk z hrun).2.2.2 i hh

/-- **C06 / C11, acknowledgements of non-voters never count, across membership changes (partial; the assumptions of
`commit_durable_on_majority_member_partial`).** Let `x` be reachable and let the open node `i` handle an enabled,
well-formed operation — e.g. a batch of match-index reports, from voters, non-voters, nodes being promoted — such that
its commit index moves. Let `C` be the LAST CONFIGURATION ENTRY OF THE LEADER'S LOG AT THE COMMIT MOMENT (the first `len`
entries of its log after the step) and `Q` the nodes counted (`Moment`). Then:
1. every node `j` that is not a voter of `C` — a non-voter, a node whose promotion is still pending, a removed node, a
   node that is no member of `C` — is NOT in `Q`, whatever match index was reported for it: the commit stands on a
   majority of the voters of `C` alone, each of them the leader itself or backed by a recorded acknowledgement in the
   leader's term;
2. the leader counts itself only if it is a voter of `C`;
3. a node that IS counted is a voter under a configuration entry that the leader's log holds at that moment: a node just
   promoted counts only from the configuration entry that makes it a voter on (there is an entry `e` among the first `len`
   entries of the leader's log that carries `C`, and `C.isVoter j`).
(Node level: `nonvoter_matchIndex_irrelevant` — the index `majorityMatchIndex` selects does not depend on the replication
status of a non-voter; `C06Cache.nonvoter_ack_never_counts`.) -/
theorem nonvoter_ack_never_counts_partial (root : K) (x : Member.Sys) (hx : ReachableR root x) (i : Nat) (op : Op)
    (ra : List Nat) (ord : List (List Nat)) (src : Nat) (he : Member.Enabled x i op src) (hg : ReqG x i op)
    (ho : (x.node i).closed = "") (hlc : LeaderCommit op (x.node i) ((x.node i).step op ra ord)) :
    ∃ len C Q, Moment x i ((x.node i).step op ra ord) (stepM x i op ra ord src) len C Q ∧
      (∀ j, C.isVoter j = false → j ∉ Q) ∧ (C.isVoter i = false → i ∉ Q) ∧
      (∀ j ∈ Q, C.isVoter j = true ∧
        ∃ e ∈ ((x.node i).step op ra ord).log.entries.take len, e.config? = some C) := by
  obtain ⟨G, h, _⟩ := rs_of hx
  obtain ⟨len, C, Q, mo⟩ := commit_moment h he hg ho hlc (ra := ra) (ord := ord)
  exact ⟨len, C, Q, mo, fun j hj => mo.maj.not_mem hj, fun hj => mo.maj.not_mem hj,
    fun j hj => ⟨mo.maj.voter j hj, mo.cfg.1⟩⟩

/-! ### node level: the commit rule does not read the replication status of a non-voter -/

theorem find?_insertRepl_ne (r : Repl) (id : Nat) (h : r.id ≠ id) :
    ∀ l : List Repl, (insertRepl r l).find? (·.id == id) = l.find? (·.id == id)
  | [] => List.find?_cons_of_neg (by simpa using h)
  | m :: ms => by
    unfold insertRepl
    refine ite_ind (P := fun l : List Repl => l.find? (·.id == id) = (m :: ms).find? (·.id == id))
      (fun _ => List.find?_cons_of_neg (by simpa using h)) fun _ => ?_
    refine ite_ind (P := fun l : List Repl => l.find? (·.id == id) = (m :: ms).find? (·.id == id))
      (fun e => ?_) fun _ => ?_
    · rw [List.find?_cons_of_neg (by simpa using h), List.find?_cons_of_neg (by rw [← e]; simpa using h)]
    · rw [List.find?_cons, List.find?_cons, find?_insertRepl_ne r id h ms]

theorem findRepl?_setRepl_ne (s : Node) (r : Repl) (id : Nat) (h : r.id ≠ id) :
    (s.setRepl r).findRepl? id = s.findRepl? id := by
  unfold Node.findRepl? Node.setRepl
  exact find?_insertRepl_ne r id h s.ldr.repls

theorem any_congr_mem {α : Type} {p q : α → Bool} : ∀ {l : List α}, (∀ a ∈ l, p a = q a) → l.any p = l.any q
  | [], _ => rfl
  | a :: l, h => by
    rw [List.any_cons, List.any_cons, h a (List.mem_cons_self ..),
      any_congr_mem (fun b hb => h b (List.mem_cons_of_mem _ hb))]

/-- **C06 / C11, node level: the index the commit rule selects does not depend on a non-voter's replication status.**
For ANY node state `s` whose latest configuration has distinct member ids, and any replication status `r` (match index,
round, flags — all arbitrary) of a node that is NOT a voter of `s.configs.latest` (a non-voter, a node being promoted, a
non-member): storing `r` (`leader.repls[r.id] = r`; what `replication.onAppendEntriesResp` → `checkReplUpdates` does with a
`matchIndex` report: `Node.setRepl { st with matchIndex := v }`) changes neither the list of match indexes the leader
attributes to the voters (`voterMatches`) nor the index `leader.majorityMatchIndex` selects. So the report of a non-voter
never moves the commit index by itself — it can only trigger the promotion (`checkConfigAction`), and the node counts from
the configuration entry that makes it a voter on (`nonvoter_ack_never_counts_partial`). -/
theorem nonvoter_matchIndex_irrelevant (s : Node) (hnd : C06Cache.IdsNodup s.configs.latest) (r : Repl)
    (hv : s.configs.latest.isVoter r.id = false) :
    (s.setRepl r).voterMatches = s.voterMatches ∧ (s.setRepl r).majorityMatchIndex = s.majorityMatchIndex := by
  have hne : ∀ n ∈ s.configs.latest.nodes.filter (·.voter), r.id ≠ n.id := by
    intro n hn e
    obtain ⟨hn1, hn2⟩ := List.mem_filter.mp hn
    have := C06Cache.find_of_nodup _ hnd n hn1
    unfold Config.isVoter Config.find? at hv
    rw [e, this] at hv
    have hv' : n.voter = false := hv
    rw [hv'] at hn2; cases hn2
  have hf : ∀ n ∈ s.configs.latest.nodes.filter (·.voter), (s.setRepl r).findRepl? n.id = s.findRepl? n.id :=
    fun n hn => findRepl?_setRepl_ne s r n.id (hne n hn)
  have hvm : (s.setRepl r).voterMatches = s.voterMatches := by
    unfold Node.voterMatches
    show (s.configs.latest.nodes.filter (·.voter)).map (fun n =>
      if n.id = s.nid then s.lastLogIndex else (((s.setRepl r).findRepl? n.id).map (·.matchIndex)).getD 0) = _
    apply List.map_congr_left
    intro n hn
    rw [hf n hn]
  refine ⟨hvm, ?_⟩
  unfold Node.majorityMatchIndex
  rw [hvm]
  have hmiss : (s.configs.latest.nodes.filter (·.voter)).any
        (fun n => n.id != s.nid && ((s.setRepl r).findRepl? n.id).isNone) =
      (s.configs.latest.nodes.filter (·.voter)).any (fun n => n.id != s.nid && (s.findRepl? n.id).isNone) :=
    any_congr_mem (fun n hn => by rw [hf n hn])
  show (if s.ldr.numVoters = 1 ∧ s.ldr.node.voter = true then (s.lastLogIndex, true) else
    (((s.voterMatches.mergeSort geB)[s.voterMatches.length / 2 + 1 - 1]?).getD 0,
      !(s.configs.latest.nodes.filter (·.voter)).any
        (fun n => n.id != s.nid && ((s.setRepl r).findRepl? n.id).isNone) &&
        decide (s.configs.latest.nodes.length > 0))) = _
  rw [hmiss]

/-- a replication status of node 3 — a non-voter being promoted — with an arbitrary match index -/
def exRepl3 (v : Nat) : Repl :=
  { id := 3, node := { id := 3, addr := "c:1", voter := false, action := actPromote }, matchIndex := v }

/-- EXAMPLE (`C06Cache.exLeader`: node 1 leads {1 voter, 2 voter, 3 non-voter being promoted}; node 2 acknowledged index 2,
the non-voter 3 acknowledged 3): the hypotheses hold for the replication of node 3 with ANY match index — so the selected
index stays what it is -/
example (v : Nat) :
    (C06Cache.exLeader.setRepl (exRepl3 v)).majorityMatchIndex = C06Cache.exLeader.majorityMatchIndex :=
  (nonvoter_matchIndex_irrelevant C06Cache.exLeader (by unfold C06Cache.IdsNodup; decide) (exRepl3 v)
    (show C06Cache.exLeader.configs.latest.isVoter 3 = false by decide)).2

/-! ### Examples (non-vacuity) — the run `m1 … m21` of Props/AuditMember.lean (PROVED reachable there: `q1 … q21`): three
voters 1, 2, 3; node 1 is elected in term 2 and commits its no-op (2,2) (`m7`); a client asks to add node 4 as a non-voter
to be promoted: configuration (3,2) (`m8`), replicated to 2, 3 and the new node 4 (`m13`: node 4 — a NON-VOTER — has
acknowledged index 3); the reports of 2 and 3 commit it (`m14`); the report of node 4 triggers its promotion:
configuration (4,2), voters 1, 2, 3, 4 (`m15`), replicated to all (`m19`); node 4 crashes and restarts (`m20`); the reports
of 2 and 3 commit index 4 by three of four voters (`m21`). -/

section examples
open AuditMember
open C07Sys (altPost)

/-- the leader 1 may handle the match-index reports `mUpd v` of the nodes 2 and 3 once the ledger holds their
acknowledgements of index `v` in its term `t` (one hypothesis, so that a concrete state is evaluated once) -/
theorem enM_mUpd (x : Member.Sys) (v t k2 k3 : Nat)
    (h : ((⟨2, t, v, k2⟩ : Ack) ∈ x.cm.acks ∧ (⟨3, t, v, k3⟩ : Ack) ∈ x.cm.acks) ∧ (x.node 1).term = t) :
    Member.Enabled x 1 (.replUpdates (mUpd v)) 0 ∧ ReqG x 1 (.replUpdates (mUpd v)) :=
  enM_upd _ 1 _ (by decide) (mUpd_only v)
    (mUpd_backed _ 1 v _ _ h.1.1 h.1.2 ⟨rfl, h.2.symm, Nat.le_refl _⟩ ⟨rfl, h.2.symm, Nat.le_refl _⟩)

/-- the last step of the run: the leader 1 handles the match-index reports of the nodes 2 and 3 in `m20` -/
theorem ex21_en : Member.Enabled m20 1 (.replUpdates (mUpd 4)) 0 ∧ ReqG m20 1 (.replUpdates (mUpd 4)) :=
  enM_mUpd m20 4 2 2 2 (by decide +kernel)

theorem ex21_open : (m20.node 1).closed = "" := by decide +kernel

theorem ex21_lc : LeaderCommit (.replUpdates (mUpd 4)) (m20.node 1) ((m20.node 1).step (.replUpdates (mUpd 4)) [] []) := by
  rw [st20]; exact ⟨rfl, by decide +kernel⟩

theorem ex21_run : RunR m20 m21 := by
  have := RunR.next m20 _ .refl (.step 1 (.replUpdates (mUpd 4)) [] [] 0 ex21_en.1 ex21_en.2 ex21_open)
  rw [m21_eq] at this
  exact this

/-- node 4 dies between two steps in `m19` and restarts from its disk: a burst of crashes of the set `{4}` -/
theorem ex20_crash : CrashRunR [4] m19 m20 :=
  .crash m19 4 .timeout [] [] 0 0 1 true k4 .refl (List.mem_singleton.mpr rfl)
    (enM_plain _ 4 _ (by decide) rfl).1 (enM_plain _ 4 _ (by decide) rfl).2 (Or.inr rfl) (Nat.le_refl _) k4_restart

set_option maxRecDepth 100000 in
/-- EXAMPLE: the hypotheses of `commit_durable_on_majority_member_partial`, `committed_entry_stays_flushed_on_Q_partial`,
`committed_entry_on_later_majorities_partial` and `no_loss_under_minority_crash_member_partial` are satisfiable on the
non-trivial states of the run: `m19` / `m20` / `m21` are reachable, `m21` is a later state of `m20`, `m20` results from
`m19` by a crash of node 4; in `m19` the commit index of the leader covers index 3 (the configuration entry (3,2) that made
node 4 a member), the ledger holds (3,2) and (2,2); in `m21` it holds (4,2), (3,2), (2,2) -/
example : ReachableR (1, 1) m19 ∧ ReachableR (1, 1) m21 ∧ RunR m20 m21 ∧ CrashRunR [4] m19 m20 ∧
    (1 ≤ 3 ∧ 3 ≤ (m19.node 1).commitIndex) ∧ (3, 2) ∈ m19.cm.committed ∧ (2, 2) ∈ m19.cm.committed ∧
    m21.cm.committed = [(4, 2), (3, 2), (2, 2)] :=
  have h : 3 ≤ (m19.node 1).commitIndex ∧ (3, 2) ∈ m19.cm.committed ∧ (2, 2) ∈ m19.cm.committed := by decide +kernel
  ⟨q19.1, q21.1, ex21_run, ex20_crash, ⟨by decide, h.1⟩, h.2.1, h.2.2, runM_facts.2.2.2.2.2.2.2.1⟩

/-- EXAMPLE (the conclusions, on the run): after the crash of node 4, a majority of the voters of a configuration in force
still keeps the entries 1 … 3 of the leader's log of `m19`, every majority of those voters contains a keeper, and they
keep them in `m21` — after node 4 (promoted meanwhile) helped… or not: the statement does not depend on it -/
example : ∃ C Q, VoterMajority C Q ∧ (∀ v ∈ Q, KeepsM m20 v (m19.node 1) 3) ∧
    (∀ S, VoterMajority C S → ∃ v ∈ S, KeepsM m20 v (m19.node 1) 3) ∧ ∀ v ∈ Q, KeepsM m21 v (m19.node 1) 3 := by
  obtain ⟨C, Q, hQ, _, h1, h2, h3⟩ :=
    no_loss_under_minority_crash_member_partial (1, 1) m19 m20 q19.1 [4] ex20_crash 1 3 (by decide) (by decide +kernel)
  exact ⟨C, Q, hQ, h1, h2, (h3 m21 ex21_run).1⟩

/-- EXAMPLE: the hypotheses of `leader_commit_moment_member_partial` and `nonvoter_ack_never_counts_partial` are
satisfiable — the step `m20 → m21` (the commit of index 4 under the configuration (4,2) with the voters 1, 2, 3, 4) — and
their conclusion there: the commit stands on a majority of the voters of the last configuration entry of the leader's log -/
example : ∃ len C Q, Moment m20 1 ((m20.node 1).step (.replUpdates (mUpd 4)) [] [])
    (stepM m20 1 (.replUpdates (mUpd 4)) [] [] 0) len C Q ∧ ∀ j, C.isVoter j = false → j ∉ Q := by
  obtain ⟨len, C, Q, mo, h, _⟩ := nonvoter_ack_never_counts_partial (1, 1) m20 q20.1 1 _ [] [] 0 ex21_en.1 ex21_en.2
    ex21_open ex21_lc
  exact ⟨len, C, Q, mo, h⟩

/-- the step `m13 → m14`: the reports of the voters 2 and 3 reach the leader while the NON-VOTER 4 has already acknowledged
index 3 (its acknowledgement (4, term 2, index 3) is in the ledger `acks` of `m13`) -/
theorem ex14_en : Member.Enabled m13 1 (.replUpdates (mUpd 3)) 0 ∧ ReqG m13 1 (.replUpdates (mUpd 3)) :=
  enM_mUpd m13 3 2 2 2 (by decide +kernel)

set_option maxRecDepth 100000 in
/-- EXAMPLE (a promotion in progress): in the step `m13 → m14` the leader commits index 3. Node 4 — a non-voter with a
pending promotion — HAS acknowledged index 3 in the leader's term, yet it is NOT among the nodes counted: the
configuration in force is the leader's latest configuration (3,2), whose voters are 1, 2, 3 -/
example : (⟨4, 2, 3, 2⟩ : Ack) ∈ m13.cm.acks ∧
    ∃ len C Q, Moment m13 1 ((m13.node 1).step (.replUpdates (mUpd 3)) [] [])
      (stepM m13 1 (.replUpdates (mUpd 3)) [] [] 0) len C Q ∧ C.voters = [1, 2, 3] ∧ 4 ∉ Q := by
  -- the state before the step and the state of node 1 after it, each evaluated once
  have pre : (⟨4, 2, 3, 2⟩ : Ack) ∈ m13.cm.acks ∧ (m13.node 1).closed = "" ∧ (m13.node 1).commitIndex = 2 := by
    decide +kernel
  have post : ((altPost (m13.node 1) (mUpd 3) 3).commitIndex = 3 ∧
      (altPost (m13.node 1) (mUpd 3) 3).log.entries.length = 3) ∧
      (altPost (m13.node 1) (mUpd 3) 3).configs.latest.voters = [1, 2, 3] ∧
      (altPost (m13.node 1) (mUpd 3) 3).configs.latest.isVoter 4 = false := by decide +kernel
  have hlc : LeaderCommit (.replUpdates (mUpd 3)) (m13.node 1) ((m13.node 1).step (.replUpdates (mUpd 3)) [] []) := by
    rw [st13]; exact ⟨rfl, by rw [pre.2.2, post.1.1]; decide⟩
  obtain ⟨len, C, Q, mo, h, _⟩ := nonvoter_ack_never_counts_partial (1, 1) m13 q13.1 1 _ [] [] 0 ex14_en.1 ex14_en.2
    pre.2.1 hlc
  have hlen : len = ((m13.node 1).step (.replUpdates (mUpd 3)) [] []).log.entries.length := by
    have h1 := mo.lenGe
    have h2 := mo.lenLe
    rw [st13] at h1 h2 ⊢
    rw [post.1.1] at h1
    rw [post.1.2] at h2 ⊢
    omega
  have hC : C = (altPost (m13.node 1) (mUpd 3) 3).configs.latest := by rw [mo.latest hlen, st13]
  exact ⟨pre.1, len, C, Q, mo, by rw [hC]; exact post.2.1, h 4 (by rw [hC]; exact post.2.2)⟩

end examples

/-- executable companions of the examples (tests, not proofs: the kernel does not evaluate the `List.mergeSort` of the commit
rule): the commit index of the leader 1 after it handles the match-index reports `l` (pairs (node, index)) in `x` -/
def ciAfter (x : Member.Sys) (l : List (Nat × Nat)) : Nat :=
  ((x.node 1).step (.replUpdates (l.map (fun p => { id := p.1, upd := .matchIndex p.2 }))) [] []).commitIndex

-- `m13` (latest configuration (3,2): voters 1, 2, 3; node 4 a non-voter to be promoted; commit index 2; the leader and
-- the nodes 2, 3, 4 hold index 3): the NON-VOTER 4 acknowledges first → NO commit (the leader and node 4 are two of four
-- nodes, but only one of three voters); the report of the voter 2 commits index 3
#guard (AuditMember.m13.node 1).commitIndex == 2 && (AuditMember.m13.node 1).configs.latest.voters == [1, 2, 3]
#guard AuditMember.m13.cm.acks.any (fun a => a.voter == 4 && a.term == 2 && a.index == 3)
#guard ciAfter AuditMember.m13 [(4, 3)] == 2 && ciAfter AuditMember.m13 [(2, 3)] == 3
-- `m20` (latest configuration (4,2): node 4 PROMOTED, voters 1, 2, 3, 4; commit index 3; everybody holds index 4): now the
-- acknowledgement of node 4 COUNTS — the reports of 2 and 4 commit index 4 (1, 2, 4: three of four), the report of node 2
-- alone does not (two of four), nor does the report of node 4 alone
#guard (AuditMember.m20.node 1).commitIndex == 3 && (AuditMember.m20.node 1).configs.latest.voters == [1, 2, 3, 4]
#guard ciAfter AuditMember.m20 [(2, 4), (4, 4)] == 4 && ciAfter AuditMember.m20 [(2, 4)] == 3 &&
  ciAfter AuditMember.m20 [(4, 4)] == 3
-- in `m21` every voter holds the committed entries (4,2), (3,2), (2,2) in its flushed log — node 4 after its restart too
#guard [1, 2, 3, 4].all (fun v => (AuditMember.m21.node v).log.flushed == 4 &&
  C06Sys.durB AuditMember.m21.cm v 4 2 && C06Sys.durB AuditMember.m21.cm v 3 2 && C06Sys.durB AuditMember.m21.cm v 2 2)

end C06Member
end Raft

#print axioms Raft.C06Member.commit_durable_on_majority_member_partial
#print axioms Raft.C06Member.committed_entry_stays_flushed_on_Q_partial
#print axioms Raft.C06Member.committed_entry_on_later_majorities_partial
#print axioms Raft.C06Member.no_loss_under_minority_crash_member_partial
#print axioms Raft.C06Member.leader_commit_moment_member_partial
#print axioms Raft.C06Member.nonvoter_ack_never_counts_partial -- also C11
#print axioms Raft.C06Member.nonvoter_matchIndex_irrelevant -- also C11
#print axioms Raft.MemberDurable.minv_run_mono
#print axioms Raft.MemberDurable.Kept.run
#print axioms Raft.MemberDurable.keepsM_of_kept
#print axioms Raft.C06Member.commit_moment
#print axioms Raft.C06Member.leader_holds_ever -- also C02
#print axioms Raft.C06Member.ex21_run
#print axioms Raft.C06Member.ex20_crash
