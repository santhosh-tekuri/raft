/-
C19 / C12 / C10 — **`FirstIsConfig` / `CfgInv` are invariants** (what `Props/C19FsmConfig.lean` leaves open): entry 1 of a
node's log is a configuration, through EVERY step, restart and crash point; hence the state machine of a node holds a
configuration once it has applied anything, and the snapshot goroutine never takes its fallback.

What `CfgInv` lacks is "a node with an empty log does not append an entry of its own at index 1". `NodeInv s`:
* `cfg`    : `C19FsmConfig.CfgInv s` (entry 1 is a configuration, every snapshot label is a real configuration, above a
             snapshot the state machine holds a configuration);
* `latest` : `C19Latest.LatestIsNewest s`;
* `role`   : `RoleLast s` — a node that is not a follower has a non-empty log (`1 ≤ lastLogIndex`).
With `LatestIsNewest` a node with an empty log (and, by `labels`, no snapshot) has the ZERO latest configuration, of which it
is not a voter: it neither starts an election (`follower.onTimeout`, `onTimeoutNowRequest` test exactly that) nor is it
leader; a leader's own appends go to `lastLogIndex + 1 ≥ 2` (Lemmas/FirstConfigA.lean, FirstConfigB.lean: a two-level
variant of the composition framework — `L` inside the leader handlers, `J` between handlers).

Node level: `first_labels_step` (`FirstIsConfig`, `RoleLast`, `LabelsPos` after EVERY operation handled to completion, and
`DiskCfg` of EVERY crash point of the step; an append request that is not stale must carry a configuration at index 1 if it
carries index 1 — `ReqFirst`, true of every request read from a log with `FirstIsConfig` —, an install request a real label,
`ReqLab`; the bootstrap step included), hence `nodeInv_step`: `CrashInv ∧ NodeInv` is inductive with NO hypothesis on the
snapshot goroutine and none on the post-state; `nodeInv_restart`, `nodeInv_after_crash_partial` re-establish it after a
restart from the disk between two steps / at ANY crash point of a step.
Cluster level (`Raft.Snap4`), PER TRANSITION only: `nodeInv_step_sys_partial`, `restart_succeeds_snap_sys_partial` — for a
node of a reachable state satisfying `NodeInv`, with `Order.ReqOk`, `ReqDec`, `CrashInv` discharged inside the system and NO
fallback hypothesis. The induction over the runs (`Init4F`, the ledger invariants that give `ReqFirst` / `ReqLab` of every
enabled operation, the install / crashInstall transitions), and the same for `SysInv.ReachableG`: Props/C19FsmConfigRun.lean.
-/
import RaftVerif.Lemmas.FirstConfigB
import RaftVerif.Props.C19FsmConfig

namespace Raft
namespace C19FsmConfigSys
open Node Track Order FsmCfg C19FsmConfig

/-- a node that is not a follower has a non-empty log -/
def RoleLast (s : Node) : Prop := s.role ≠ .follower → 1 ≤ s.lastLogIndex

instance (s : Node) : Decidable (RoleLast s) := by unfold RoleLast; infer_instance

/-- **the per-node invariant** (see the file header) -/
structure NodeInv (s : Node) : Prop where
  cfg : CfgInv s
  latest : C19Latest.LatestIsNewest s
  role : RoleLast s

instance (s : Node) : Decidable (NodeInv s) :=
  decidable_of_iff (CfgInv s ∧ C19Latest.LatestIsNewest s ∧ RoleLast s)
    ⟨fun ⟨a, b, c⟩ => ⟨a, b, c⟩, fun h => ⟨h.cfg, h.latest, h.role⟩⟩

/-- what is asked of an append request: stale, or its entry with index 1 (if it carries one) is a configuration — true of
every request read from a log with `FirstIsConfig` -/
def ReqFirst (s : Node) : Op → Prop
  | .append q => q.term < s.term ∨ ∀ e ∈ q.entries, e.index = 1 → e.config?.isSome = true
  | _ => True

instance (s : Node) (op : Op) : Decidable (ReqFirst s op) := by cases op <;> unfold ReqFirst <;> infer_instance

theorem firstIsConfig_iff (s : Node) : FirstIsConfig s ↔ FirstCfg.First s.log.entries := Iff.rfl

/-- **a node with an empty log holds the zero configuration**: in an ordered state whose latest configuration is the
newest configuration entry of log ∪ snapshot, whose label is covered by the snapshot and real if there is a snapshot file,
`lastLogIndex = 0` implies `configs.latest = {}` -/
theorem empty_log_zero_config (s : Node) (ho : Ordered s) (hl : (label s).index ≤ s.snapIndex)
    (hln : C19Latest.LatestIsNewest s) (hlab : LabelsPos s.snapsDisk) (h0 : s.lastLogIndex = 0) :
    s.configs.latest = {} := by
  have h1 := ho.last_eq
  have hlen : s.log.entries = [] := by
    have : s.log.entries.length = 0 := by unfold NLog.last at h1; omega
    exact List.eq_nil_of_length_eq_zero this
  have hsnap : s.snapIndex = 0 := by
    have := ho.snap_le_applied; have := ho.applied_le_commit; have := ho.commit_le_last; omega
  have hpre : pre s.log s.log.last = [] := by unfold pre; rw [hlen]; simp
  rw [hln.latest, newest_of_nil _ hpre]
  unfold label at hl ⊢
  cases hh : s.snapsDisk.head? with
  | none => rfl
  | some f =>
    rw [hh] at hl
    have := hlab f (List.mem_of_mem_head? hh)
    have hl' : f.config.index ≤ s.snapIndex := hl
    omega

/-- **a voter of its latest configuration has a non-empty log** -/
theorem voter_has_log (s : Node) (ho : Ordered s) (hl : (label s).index ≤ s.snapIndex)
    (hln : C19Latest.LatestIsNewest s) (hlab : LabelsPos s.snapsDisk)
    (hv : s.configs.latest.isVoter s.nid = true) : 1 ≤ s.lastLogIndex := by
  by_cases h0 : s.lastLogIndex = 0
  · rw [empty_log_zero_config s ho hl hln hlab h0] at hv
    have : ({} : Config).isVoter s.nid = false := rfl
    rw [this] at hv; cases hv
  · omega

theorem diskCfg_of_diskF {d : Durable} (h : FirstCfg.DiskF d) : DiskCfg d := ⟨h.1, h.2⟩

/-- the snapshot goroutine finds a real configuration in the state machine (what the framework asks, `FirstCfg.PS`) -/
theorem ps_of_fsm (s : Node) (ho : Ordered s) (hf : FsmHasConfig s) : FirstCfg.PS s := by
  intro hne
  have := ho.snap_le_applied
  exact (hf (by omega)).1

/-- **entry 1 stays a configuration, only a node with a log leaves the follower role, every snapshot file keeps a real
label — in memory and at EVERY crash point of the step** (`(s.step …).trace`: the disk contents at the storage points of
the step). EVERY operation, oracle and input, handled to completion without a Go panic, from a tracking, ordered state with
`NodeInv` whose label is covered by its snapshot. An append request that is not stale must satisfy `ReqFirst`, an install
request `ReqLab`; nothing is asked of the snapshot goroutine. -/
theorem first_labels_step (s : Node) (op : Op) (ra : List Nat) (ord : List (List Nat)) (ht : C12Track.Tracks s)
    (ho : Ordered s) (hl : (label s).index ≤ s.snapIndex) (hi : NodeInv s) (hq : ReqFirst s op) (hlb : ReqLab s op)
    (hp : (s.step op ra ord).panicked = none) :
    FirstIsConfig (s.step op ra ord) ∧ RoleLast (s.step op ra ord) ∧ LabelsPos (s.step op ra ord).snapsDisk ∧
      ∀ p ∈ (s.step op ra ord).trace, DiskCfg p.2 := by
  have hQ : FirstCfg.QJ s := ⟨hi.role, voter_has_log s ho hl hi.latest hi.cfg.labels⟩
  by_cases hap : ∃ q, op = .append q ∧ ¬ q.term < s.term
  · obtain ⟨q, rfl, hst⟩ := hap
    have hq' : FirstCfg.First q.entries := hq.resolve_left hst
    obtain ⟨a, b⟩ := FirstCfg.append_step_as s q ra ord hst hi.cfg.first hi.cfg.labels hq'
    exact ⟨a.first, fun hne => absurd b hne, a.labels, fun p hp' => diskCfg_of_diskF (a.tr p hp')⟩
  · have hps : FirstCfg.PS s := ps_of_fsm s ho (fsm_has_config s ht ho hl hi.cfg)
    have hop : TwoOpOk FirstCfg.PA FirstCfg.PI FirstCfg.PS (s.begin ra ord) op := by
      cases op <;> first | exact hlb | exact hps | trivial | skip
      case append q =>
        show q.term < s.term
        exact Classical.not_not.mp (fun hn => hap ⟨q, rfl, hn⟩)
      case shutdown =>
        exact Track.keepS_congr (Q := fun _ f i => f.index ≠ i → 0 < f.config.index)
          (Track.keepS_shutdownPre (s.begin ra ord) "serverClosed" ((s.begin ra ord).doClose "serverClosed").role) hps
    have g := FirstCfg.j_step s op ra ord hi.cfg.first hQ hi.cfg.labels hop hp
    exact ⟨g.first, g.q.1, g.labels, fun p hp' => diskCfg_of_diskF (g.tr p hp')⟩

/-- **`FirstIsConfig` is inductive** (and so is `RoleLast`) — see `first_labels_step` -/
theorem first_is_config_step (s : Node) (op : Op) (ra : List Nat) (ord : List (List Nat)) (ht : C12Track.Tracks s)
    (ho : Ordered s) (hl : (label s).index ≤ s.snapIndex) (hi : NodeInv s) (hq : ReqFirst s op) (hlb : ReqLab s op)
    (hp : (s.step op ra ord).panicked = none) :
    FirstIsConfig (s.step op ra ord) ∧ RoleLast (s.step op ra ord) :=
  let ⟨a, b, _⟩ := first_labels_step s op ra ord ht ho hl hi hq hlb hp; ⟨a, b⟩

/-- **the crash-point extension**: what is on disk after ANY number `k` of storage points of the step (those of the
snapshot goroutine, of compaction, of the install handler included) has a configuration as entry 1 of the log (if it holds
entry 1) and real configurations as labels of all snapshot files -/
theorem diskCfg_at_crash_point (s : Node) (op : Op) (ra : List Nat) (ord : List (List Nat)) (k : Nat)
    (ht : C12Track.Tracks s) (ho : Ordered s) (hl : (label s).index ≤ s.snapIndex) (hi : NodeInv s)
    (hq : ReqFirst s op) (hlb : ReqLab s op) (hp : (s.step op ra ord).panicked = none) :
    DiskCfg (C05.crashDisk s op ra ord k) := by
  obtain ⟨a, _, c, d⟩ := first_labels_step s op ra ord ht ho hl hi hq hlb hp
  exact C05.crashDisk_of (D := DiskCfg) s op ra ord k (durable_cfg s hi.cfg)
    ⟨fun x hx => a x (List.mem_of_mem_take (show x ∈ (s.step op ra ord).log.entries.take _ from hx)), c⟩ d

/-- **`CrashInv ∧ NodeInv` is inductive** — no hypothesis on the snapshot goroutine, none on the post-state: from a state
satisfying both, an acceptable operation (`Order.ReqOk`, `ReqDec`, `ReqLab`, `ReqFirst`) handled to completion leads to a
state satisfying both, in which the state machine holds a configuration if it has applied anything. -/
theorem nodeInv_step (s : Node) (op : Op) (ra : List Nat) (ord : List (List Nat)) (hc : C12Crash.CrashInv s)
    (hi : NodeInv s) (hr : ReqOk s op) (hd : TrackCrash.ReqDec s op) (hlb : ReqLab s op) (hq : ReqFirst s op)
    (hp : (s.step op ra ord).panicked = none) :
    C12Crash.CrashInv (s.step op ra ord) ∧ NodeInv (s.step op ra ord) ∧ FsmHasConfig (s.step op ra ord) := by
  obtain ⟨hf, hrl⟩ := first_is_config_step s op ra ord hc.tracks hc.ordered hc.mem.lab hi hq hlb hp
  obtain ⟨a, b, c⟩ := cfgInv_step_partial s op ra ord hc hi.cfg hr hd hlb hp hf
  exact ⟨a, ⟨b, latest_is_newest_step_nofb s op ra ord hi.latest hc.tracks hc.ordered hc.mem.lab hi.cfg hr hp, hrl⟩, c⟩

/-- **the state machine holds a configuration** in every state satisfying `CrashInv` and `NodeInv`; hence the fallback
conditions of C19Latest / C12Crash / C10Sys2 hold for every operation -/
theorem nodeInv_fsm (s : Node) (hc : C12Crash.CrashInv s) (hi : NodeInv s) :
    FsmHasConfig s ∧ (∀ op, Latest.NoFallback s op) ∧ (∀ op, TrackCrash.SnapFbOp s op) := by
  have hf := fsm_has_config s hc.tracks hc.ordered hc.mem.lab hi.cfg
  exact ⟨hf, fun op => no_fallback s op hc.ordered hf, fun op => snapFbOp s op hc.ordered hf⟩

/-- **a restart from the disk of a `CrashInv ∧ NodeInv` node** (between two steps) succeeds and yields such a node -/
theorem nodeInv_restart (s : Node) (r : Nat) (sor : Bool) (hc : C12Crash.CrashInv s) (hi : NodeInv s) (hr : 1 ≤ r) :
    ∃ n, Node.restart s.durable r sor = some n ∧ C12Crash.CrashInv n ∧ NodeInv n := by
  have hpd := TrackCrash.pd_durable hc.tracks.toCore hc.ordered.toCoreW hc.mem
  obtain ⟨n, hn', ht, ho, _, _, hln, hm, hcid, hnid⟩ := C12Crash.pd_restart s.durable r sor hpd hc.cid hc.nid hr
  have hcn : C12Crash.CrashInv n := ⟨ht, ho, hm, by rw [hcid]; exact hc.cid, by rw [hnid]; exact hc.nid⟩
  refine ⟨n, hn', hcn, ⟨restart_cfgInv _ r sor n (durable_cfg s hi.cfg) hn', hln, ?_⟩⟩
  intro hne
  exact absurd (Election.restart_role_nid _ r sor n hn').1 hne

/-- **C12 / C10 at every crash point, with `NodeInv` carried along (partial: the restrictions of
`C12Crash.tracks_after_crash_at_any_point_partial`; NO fallback hypothesis).** Let `s` satisfy `CrashInv` and `NodeInv`,
`op` be ANY acceptable operation (`Order.ReqOk`, `ReqDec`, `ReqLab`, `ReqFirst`) handled with ANY oracle without a Go
panic; let the process die after ANY number `k` of storage points of that step and restart with `retain = r ≥ 1`. Then the
restart succeeds and the restarted node satisfies `CrashInv` and `NodeInv` again (so its state machine holds a
configuration as soon as it has applied anything). -/
theorem nodeInv_after_crash_partial (s : Node) (op : Op) (ra : List Nat) (ord : List (List Nat)) (k r : Nat) (sor : Bool)
    (hc : C12Crash.CrashInv s) (hi : NodeInv s) (hr : ReqOk s op) (hd : TrackCrash.ReqDec s op) (hlb : ReqLab s op)
    (hq : ReqFirst s op) (hp : (s.step op ra ord).panicked = none) (hret : 1 ≤ r) :
    ∃ n, Node.restart (C05.crashDisk s op ra ord k) r sor = some n ∧ C12Crash.CrashInv n ∧ NodeInv n := by
  obtain ⟨n, hn, _, _, _, _, hln, hcn⟩ :=
    tracks_after_crash_at_any_point_nofb_partial s op ra ord k r sor hc hi.cfg hr hd hp hret
  have hd' := diskCfg_at_crash_point s op ra ord k hc.tracks hc.ordered hc.mem.lab hi hq hlb hp
  refine ⟨n, hn, hcn, ⟨restart_cfgInv _ r sor n hd' hn, hln, ?_⟩⟩
  intro hne
  exact absurd (Election.restart_role_nid _ r sor n hn).1 hne

/-! ### 5. inside the cluster-level system `Raft.Snap4` (per transition) -/

section
open Snap3 SnapInst3 Snap4 SnapInst4 RestartSys
variable {V : List Nat}

/-- **a completed step of a node of a reachable state of `Raft.Snap4` keeps `NodeInv`** (partial: per transition — the
ledger invariants "every sent append request carries a configuration at index 1 if it carries index 1" and "every sent
install request is labelled with a real configuration", which give `ReqFirst` / `ReqLab` of every enabled operation, are
hypotheses here; `C19FsmConfigRun.ledgers_reachable4F` proves them along the runs). `Order.ReqOk`, `ReqDec` and `CrashInv` are discharged
inside the system; nothing is asked of the snapshot goroutine. -/
theorem nodeInv_step_sys_partial (hV : V.Nodup) (x : Snap3.Sys) (h : Reachable4 V x) (i : Nat) (op : Op)
    (ra : List Nat) (ord : List (List Nat)) (src : Nat) (en : Snap.Enabled x.s2.cs i op src)
    (hp : ((x.node i).step op ra ord).panicked = none) (hcid : (x.node i).cid ≠ 0) (hi : NodeInv (x.node i))
    (hlb : ReqLab (x.node i) op) (hq : ReqFirst (x.node i) op) :
    NodeInv ((x.node i).step op ra ord) ∧ FsmHasConfig ((x.node i).step op ra ord) := by
  obtain ⟨r3, _, s4⟩ := reach4 hV h
  have hI := (inv3_reachable hV r3).1
  have hc := crashInv_node4 hV h i en.id hcid
  obtain ⟨_, b, c⟩ := nodeInv_step (x.node i) op ra ord hc hi (reqOk_old hI en (s4.cfg i))
    (reqDec_enabled (sentDec_reach3 hV r3) en) hlb hq hp
  exact ⟨b, c⟩

/-- **C10 (1) on `Raft.Snap4` with NO fallback hypothesis, `NodeInv` carried through the crash (partial: per transition,
see `nodeInv_step_sys_partial`; the restrictions of `C10Sys2.restart_succeeds_snap_partial`).** A node `i` of a reachable
state that has a cluster id and satisfies `NodeInv`, dying at ANY crash point `k` of ANY enabled operation that would
complete, restarts successfully as a `RestartSys.Restarted` node that satisfies `NodeInv` again. -/
theorem restart_succeeds_snap_sys_partial (hV : V.Nodup) (x : Snap3.Sys) (h : Reachable4 V x) (i : Nat) (op : Op)
    (ra : List Nat) (ord : List (List Nat)) (src : Nat) (en : Snap.Enabled x.s2.cs i op src)
    (hp : ((x.node i).step op ra ord).panicked = none) (hcid : (x.node i).cid ≠ 0) (hi : NodeInv (x.node i))
    (hlb : ReqLab (x.node i) op) (hq : ReqFirst (x.node i) op) (k r : Nat) (hr : 1 ≤ r) (sor : Bool) :
    ∃ n, Node.restart (C05.crashDisk (x.node i) op ra ord k) r sor = some n ∧
      Restarted (x.node i) (C05.crashDisk (x.node i) op ra ord k) n ∧ n.nid = i ∧ NodeInv n := by
  obtain ⟨n, hn, hR, hid⟩ := restart_succeeds_snap_nofb_partial hV x h i op ra ord src en hp hcid hi.cfg k r hr sor
  have hc := crashInv_node4 hV h i en.id hcid
  have hd' := diskCfg_at_crash_point (x.node i) op ra ord k hc.tracks hc.ordered hc.mem.lab hi hq hlb hp
  refine ⟨n, hn, hR, hid, ⟨restart_cfgInv _ r sor n hd' hn, hR.latestNewest, ?_⟩⟩
  intro hne
  exact absurd (Election.restart_role_nid _ r sor n hn).1 hne

end

/-- EXAMPLE (`first_is_config_step`, the bootstrap step): a fresh node (empty log, zero configuration) satisfies the
hypotheses; `changeConfig` appends the configuration at index 1 and the single voter elects itself, storing its no-op at
index 2. -/
def exFresh : Node := { nid := 1, cid := 7 }

def exCfg : Config := { nodes := [{ id := 1, addr := "a:1", voter := true }] }

example :
    NodeInv exFresh ∧ C12Track.Tracks exFresh ∧ (label exFresh).index ≤ exFresh.snapIndex ∧
    ReqFirst exFresh (.changeConfig 5 exCfg) ∧ ReqLab exFresh (.changeConfig 5 exCfg) := by
  refine ⟨by decide, by decide, by decide, trivial, trivial⟩

#guard (exFresh.step (.changeConfig 5 exCfg) [] []).panicked = none
#guard (exFresh.step (.changeConfig 5 exCfg) [] []).role = .leader
#guard (exFresh.step (.changeConfig 5 exCfg) [] []).log.entries.map (fun e => (e.index, e.typ)) = [(1, etConfig), (2, etNop)]
#guard decide (FirstIsConfig (exFresh.step (.changeConfig 5 exCfg) [] []))

/-- EXAMPLE (`nodeInv_step`): the bootstrapped node `C19FsmConfig.exBoot` satisfies `NodeInv`; the counterexample
`C19FsmConfig.exEmpty` (empty log, a voter) is excluded by clause `latest`. -/
example : NodeInv C19FsmConfig.exBoot ∧ ¬ NodeInv C19FsmConfig.exEmpty := by
  refine ⟨by decide, fun h => C19FsmConfig.first_needs_latest.2.2.2 h.latest⟩

/-- NECESSITY of `ReqFirst`: a fresh node accepts an append request whose entry 1 is a no-op. -/
example :
    let q : AppendReq := { term := 1, src := 2, entries := [{ index := 1, term := 1, typ := etNop }] }
    ¬ ReqFirst exFresh (.append q) ∧ (exFresh.step (.append q) [] []).panicked = none ∧
    ¬ FirstIsConfig (exFresh.step (.append q) [] []) := by
  refine ⟨by decide, by decide, by decide⟩

end C19FsmConfigSys
end Raft

#print axioms Raft.C19FsmConfigSys.empty_log_zero_config
#print axioms Raft.C19FsmConfigSys.voter_has_log
#print axioms Raft.C19FsmConfigSys.first_labels_step
#print axioms Raft.C19FsmConfigSys.first_is_config_step
#print axioms Raft.C19FsmConfigSys.diskCfg_at_crash_point -- also C12
#print axioms Raft.C19FsmConfigSys.nodeInv_step -- also C12
#print axioms Raft.C19FsmConfigSys.nodeInv_fsm -- also C12
#print axioms Raft.C19FsmConfigSys.nodeInv_restart -- also C10
#print axioms Raft.C19FsmConfigSys.nodeInv_after_crash_partial -- also C12
#print axioms Raft.C19FsmConfigSys.nodeInv_step_sys_partial -- also C12
#print axioms Raft.C19FsmConfigSys.restart_succeeds_snap_sys_partial -- also C10
#print axioms Raft.Node.TwoClosed.step_j
#print axioms Raft.FirstCfg.g_closed
#print axioms Raft.FirstCfg.append_step_as
