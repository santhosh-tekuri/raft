/-
C09 / C04 / C02 / C03 on the cluster-level transition system WITH LOCAL SNAPSHOTS, LOG COMPACTION AND INSTALLATION OF
SNAPSHOTS `Raft.Snap3` (Sys/Snap3.lean) — stage 3 of lifting the `OpOK` restriction of `Raft.Commit`: in addition to
stage 2 (Sys/Snap2.lean, Props/C09Sys2.lean) a leader puts its newest snapshot on the wire (`Trans.sendSnap`), any node
handles an install request of the ledger at any time (`Trans.install`: `Raft.onInstallSnapRequest` — publish the file,
apply retention, reset the log to the snapshot, restore the state machine, `commitIndex := lastIndex`), and dies at ANY
storage point of that handler and restarts from what is on disk (`Trans.crashInstall`).  From then on a log may start
exactly at its snapshot index and be empty (the side condition `Side2.gap` of stage 2 is gone).
See the header of Sys/Snap3.lean for the complete list of assumptions (`NoCut` — for CRASHES in an append handler only;
completed steps are unrestricted —, `TermTracked`, no reset of a log that is not stale because of a newly received
snapshot, and those of stages 1 and 2).

Finding F18 (a crash between `snap.publish` and `clearLog` left the OLD log under the NEW snapshot; `Props/C09Sys2.lean`,
`exI*`) is repaired in the library and in the model: such a log is reset on restart (`Node.staleLog`).  This file proves:
* node level (any node, no cluster assumptions): the crash analysis of the install handler — `install_crash_disks`,
  `install_window_log_is_stale`, `install_crash_restarts_installed`, `install_crash_keeps_node_invariants`;
* cluster level (every reachable state of `Raft.Snap3`): `snapshot_agrees_with_log_partial` (the invariant "the log at
  the snapshot index agrees with the snapshot"), `snapshot_is_committed_prefix_partial` (files taken AND installed),
  `install_request_is_committed_prefix_partial`, `log_matching_sys_snap3_partial`, `leader_completeness_sys_snap3_partial`,
  `state_machine_safety_sys_snap3_partial`, `compaction_keeps_servable_partial`,
  `lagging_follower_catches_up_by_snapshot_partial`.

* cluster level WITHOUT the premise `TermTracked` (`Raft.Snap4`, Sys/Snap4.lean: the per-node invariants `C12Track.Tracks` /
  `Order.Ordered` are carried along the runs; three more side conditions on configurations): `tracked_runs_partial`,
  `snapshot_agrees_with_log_sys_snap4_partial`.

-/
import RaftVerif.Lemmas.SnapCut
import RaftVerif.Props.C09Sys2
import RaftVerif.Props.C19Sys

namespace Raft
namespace C09Sys3
open Node Election LogRel Replication CommitRel Commit C02Sys C03Sys SnapRel SnapRelU SnapSim Snap Snap2 SnapInv SnapInv2
open SnapInst Snap3 SnapInst3 Snap4 SnapInst4

/-! ## node level: a crash at every storage point of `onInstallSnapRequest` -/

/-- **The crash points of the install handler.** Whatever the install request `q` (stale, duplicate, already held, or
installing) and after however many storage points `k` the process dies, the disk holds (`SnapInst.InstDisk`): the node's
identity; the old `(term, vote)` or the request's newer term with no vote; and EITHER the old log and the old snapshot
files, OR — only when the request installs (`Installs`: not stale, ahead of the commit index, last entry not held) — the
received file among the files (before or after retention) with the OLD log (crash after `snap.publish` / `snap.retain`)
or the RESET log (crash after `clearLog`). -/
theorem install_crash_disks (s : Node) (q : InstallReq) (ra : List Nat) (ord : List (List Nat)) (k : Nat) :
    InstDisk s q (C05.crashDisk s (.install q) ra ord k) := install_crashDisk s q ra ord k

/-- **F18, repaired: in the window between `snap.publish` and `clearLog` the log on disk is stale.** If the request
installs and the log starts at or below the commit index, then a disk holding the OLD log under the received snapshot file
is recognised by `openStorage` (`Node.staleLog`): the log ends below the snapshot index or holds an entry of another term
there — so the restart resets it to the snapshot (`C10.logOf d = NLog.reset lastIndex`). -/
theorem install_window_log_is_stale (s : Node) (q : InstallReq) (hi : Installs s q) (hprev : s.log.prev ≤ s.commitIndex)
    (d : Durable) (hlog : d.log = s.durable.log) (hhead : d.snaps.head? = some (C09.fileOf q)) :
    staleLog d = true ∧ C10.logOf d = NLog.reset q.lastIndex :=
  ⟨install_disk_stale s q hi hprev d hlog hhead, (install_disk_logOf s q hi hprev d (Or.inl hlog) hhead).2⟩

/-- **A crash after `snap.publish` restarts into the installed state.** From every disk that holds the received file
(old or reset log, files before or after retention) the restarted node has: the log reset to the snapshot, last log
index / term = snapshot index / term = the request's, `commitIndex = lastIndex`, the state machine = the snapshot's content,
both configurations = its label, role follower, term and vote from disk, no failed assertion — never the old log under
the new snapshot. -/
theorem install_crash_restarts_installed (s : Node) (q : InstallReq) (hi : Installs s q)
    (hprev : s.log.prev ≤ s.commitIndex) (hr : 1 ≤ s.retain)
    (hh : ∀ g, s.snapsDisk.head? = some g → g.index ≤ q.lastIndex)
    (d : Durable) (hlog : d.log = s.durable.log ∨ d.log = NLog.reset q.lastIndex)
    (hsn : d.snaps = insertSnap (C09.fileOf q) s.snapsDisk ∨
      d.snaps = (insertSnap (C09.fileOf q) s.snapsDisk).take s.retain)
    (r : Nat) (sor : Bool) (n : Node) (hn : Node.restart d r sor = some n) :
    n.log = NLog.reset q.lastIndex ∧ n.lastLogIndex = q.lastIndex ∧ n.lastLogTerm = q.lastTerm ∧
    n.snapIndex = q.lastIndex ∧ n.snapTerm = q.lastTerm ∧ n.commitIndex = q.lastIndex ∧
    n.fsm = { index := q.lastIndex, term := q.lastTerm, applied := q.data, config := q.lastConfig } ∧
    n.configs = { committed := q.lastConfig, latest := q.lastConfig } ∧ n.snapsDisk = d.snaps ∧
    n.role = .follower ∧ n.term = d.term ∧ n.votedFor = d.vote ∧ n.panicked = none :=
  install_crash_restart_installed s q hi hprev hr hh d hlog hsn r sor n hn

/-- **The per-node invariants survive a crash at EVERY storage point of the install handler** (what
`Props/C12Track.lean` left open for the storage points inside this handler). Let `s` be tracking (`C12Track.Tracks`: the
log entry at the snapshot index, if held, has the snapshot's term; `fsm.term` / `fsm.config` are those of the applied
prefix; the newest label is self-consistent) and ordered (`Order.Ordered`), with a log well formed with respect to
flushing, a newest label covered by its snapshot, and — if `q` installs — a label of `q` covered by `q`'s snapshot
(`Order.InstallOk`). Then the node restarted after a crash at any point `k` of handling ANY install request `q` is tracking
and ordered again. -/
theorem install_crash_keeps_node_invariants (s : Node) (q : InstallReq) (ra : List Nat) (ord : List (List Nat))
    (k r : Nat) (sor : Bool) (n : Node) (ht : C12Track.Tracks s) (ho : Order.Ordered s) (hw : C06.LogWF s.log)
    (hlab : (Track.label s).index ≤ s.snapIndex) (hq : Installs s q → Order.InstallOk q) (hr : 1 ≤ r)
    (hn : Node.restart (C05.crashDisk s (.install q) ra ord k) r sor = some n) :
    C12Track.Tracks n ∧ Order.Ordered n ∧
    (n.log.prev < n.snapIndex → (n.log.get? n.snapIndex).map (·.term) = some n.snapTerm) := by
  obtain ⟨a, b⟩ := install_crash_restart_tracks s q ra ord k r sor n ht ho hw hlab hq hr hn
  exact ⟨a, b, a.snapOk.termLog⟩

/-! ## cluster level -/

section
variable {V : List Nat}

/-- what the real log still holds is what the virtual log holds there -/
theorem get_virtual3 (x : Snap3.Sys) (i k : Nat) (h : (x.node i).log.prev < k) :
    (x.node i).log.get? k = (x.vnode i).log.get? k := SnapInst3.get_virtual3 x i k h

theorem vget3 (x : Snap3.Sys) (i k : Nat) (hk : 1 ≤ k) : (x.vnode i).log.get? k = (x.vlog i)[k - 1]? :=
  SnapInst3.vget3 x i k hk

/-- an entry the real log holds at index `k` has the term of the virtual log at `k` -/
theorem term_of_get (x : Snap3.Sys) (i k : Nat) (e : Entry) (h : (x.node i).log.get? k = some e) :
    termAt (x.vlog i) k = e.term := by
  have hp := C09Sys2.get_some_prev h
  rw [get_virtual3 x i k hp, vget3 x i k (by omega)] at h
  unfold termAt
  rw [if_neg (by omega), h]; rfl

/-! ### what the invariant says, whatever system reached the state (`Raft.Snap3`, `Raft.Snap4`, `Raft.Snap6`) -/

theorem snapshot_agrees_of_inv3 {x : Snap3.Sys} (hI : Inv3 V x) (i : Nat) :
    ((x.node i).log.prev ≤ (x.node i).snapIndex ∧ (x.node i).snapIndex ≤ (x.node i).commitIndex) ∧
    ((x.node i).snapTerm = (headOf (x.node i).snapsDisk).term ∧
      (∀ f ∈ (x.node i).snapsDisk, termAt (x.vlog i) f.index = f.term) ∧
      (0 < (x.node i).snapIndex → termAt (x.vlog i) (x.node i).snapIndex = (x.node i).snapTerm)) ∧
    ((∀ e, (x.node i).log.get? (x.node i).snapIndex = some e → e.term = (x.node i).snapTerm) ∧
      ∀ f ∈ (x.node i).snapsDisk, ∀ e, (x.node i).log.get? f.index = some e → e.term = f.term) := by
  have so : SnapOK (x.vnode i) := hI.sinv.snap i
  have hv := hI.vterm i
  have hhead : (x.node i).snapIndex = (headOf (x.node i).snapsDisk).index := so.head
  have hsc : (x.node i).snapIndex ≤ (x.node i).commitIndex := by
    show (x.vnode i).snapIndex ≤ (x.vnode i).commitIndex
    rw [so.head]; exact so.files.head_le
  have hpos : 0 < (x.node i).snapIndex → termAt (x.vlog i) (x.node i).snapIndex = (x.node i).snapTerm := by
    intro h0
    have hm : headOf (x.node i).snapsDisk ∈ (x.node i).snapsDisk := by
      rw [hhead] at h0
      unfold headOf at h0 ⊢
      cases hs : (x.node i).snapsDisk with
      | nil => rw [hs] at h0; simp at h0
      | cons a as => simp
    rw [hv.head, hhead]
    exact hv.files _ hm
  refine ⟨⟨(hI.prev i).le, hsc⟩, ⟨hv.head, hv.files, hpos⟩, fun e he => ?_, fun f hf e he => ?_⟩
  · have hp := C09Sys2.get_some_prev he
    rw [← term_of_get x i _ e he]
    exact hpos (by omega)
  · rw [← term_of_get x i _ e he]
    exact hv.files f hf

theorem install_request_of_inv3 {x : Snap3.Sys} (hI : Inv3 V x) :
    ∀ m ∈ x.sentSnaps, m.pre.length = m.q.lastIndex ∧ 1 ≤ m.q.lastIndex ∧ Path (view3 x).cs.T m.pre ∧
      lastTerm m.pre = m.q.lastTerm ∧
      (∀ k, 1 ≤ k → k ≤ m.q.lastIndex → Cmt (view3 x).cs (k, termAt m.pre k) m.q.term) ∧
      m.q.data = ups m.pre ∧
      ∀ j, m.q.lastIndex ≤ (x.node j).commitIndex →
        (x.vlog j).take m.q.lastIndex = m.pre ∧ m.q.data = ups ((x.vlog j).take m.q.lastIndex) := by
  intro m hm
  have mo := hI.msgs m hm
  have hc := hI.sinv.cinv
  have hne : 1 ≤ m.pre.length := by rw [mo.len]; exact mo.pos
  have eC : (eview (view3 x).cs).committed = (view3 x).cs.committed := (withNodes_ledgers _ _).1
  have eT : (eview (view3 x).cs).T = (view3 x).cs.T := (withNodes_ledgers _ _).2.2
  have hpath : Path (eview (view3 x).cs).T m.pre := eT ▸ mo.path
  have hcmt : Cmt (eview (view3 x).cs) (m.pre.length, lastTerm m.pre) m.q.term := by
    unfold Cmt; rw [eC, eT]; exact mo.cmt
  refine ⟨mo.len, mo.pos, mo.path, mo.lastT, fun k h1 h2 => ?_, mo.data, fun j hj => ?_⟩
  · have := path_cmt (uniq hc) hpath hne hcmt k h1 (by rw [mo.len]; exact h2)
    unfold Cmt at this ⊢
    rw [eC, eT] at this
    exact this
  · obtain ⟨e1, _, e3, _⟩ := (SnapInst3.cview x).2.2.2 j
    have := path_agree_commit hc hpath hne hcmt j m.q.lastIndex (by rw [e3]; exact hj)
      (by rw [mo.len]; exact Nat.le_refl _)
    rw [List.take_of_length_le (by rw [mo.len]; exact Nat.le_refl _), e1] at this
    exact ⟨this.symm, by rw [← this]; exact mo.data⟩

/-- **C09 — the snapshot agrees with the log (partial, stage 3).** In every state of the cluster reachable in
`Raft.Snap3` (`Reachable3 V`: any schedule, message delay / loss / duplication / reordering, crashes at any storage point
— of the install handler too — and restarts, snapshots taken, logs compacted, snapshots sent and installed at any time;
assumptions: header of Sys/Snap3.lean), on every node `i`:
1. `log.prev ≤ snapIndex ≤ commitIndex`: the log starts at or below the snapshot index;
2. `snapTerm` is the term recorded in the newest snapshot file, and every snapshot file `f` on disk — TAKEN by the node
   (`fsm.index`, `fsm.term`) or INSTALLED from a leader (`lastIndex`, `lastTerm`) — names an entry of the node's virtual
   log: the entry at `f.index` has term `f.term`;
3. hence: **the log entry at the snapshot index, if the log holds it, has term `snapTerm`** — what makes skipping the
   consistency check of `onAppendEntriesRequest` for `prevLogIndex ≤ snapIndex` sound — and likewise at the index of
   every file on disk. -/
theorem snapshot_agrees_with_log_partial (hV : V.Nodup) (x : Snap3.Sys) (h : Reachable3 V x) (i : Nat) :
    ((x.node i).log.prev ≤ (x.node i).snapIndex ∧ (x.node i).snapIndex ≤ (x.node i).commitIndex) ∧
    ((x.node i).snapTerm = (headOf (x.node i).snapsDisk).term ∧
      (∀ f ∈ (x.node i).snapsDisk, termAt (x.vlog i) f.index = f.term) ∧
      (0 < (x.node i).snapIndex → termAt (x.vlog i) (x.node i).snapIndex = (x.node i).snapTerm)) ∧
    ((∀ e, (x.node i).log.get? (x.node i).snapIndex = some e → e.term = (x.node i).snapTerm) ∧
      ∀ f ∈ (x.node i).snapsDisk, ∀ e, (x.node i).log.get? f.index = some e → e.term = f.term) :=
  snapshot_agrees_of_inv3 (inv3_reachable hV h).1 i

/-- **C04 with installed snapshots — log matching (partial, stage 3).** In every reachable state of `Raft.Snap3`: if
the logs of nodes `i` and `j` hold entries with the same term at index `k`, then at every index `k' ≤ k` that BOTH logs
still hold they hold the SAME entry; and the same for the virtual logs (compacted-away and installed prefixes included)
at every index `k' ≤ k`. -/
theorem log_matching_sys_snap3_partial (hV : V.Nodup) (x : Snap3.Sys) (h : Reachable3 V x) (i j k : Nat)
    (a b : Entry) (ha : (x.node i).log.get? k = some a) (hb : (x.node j).log.get? k = some b)
    (ht : a.term = b.term) :
    (∀ k', k' ≤ k → ∀ a' b', (x.node i).log.get? k' = some a' → (x.node j).log.get? k' = some b' → a' = b') ∧
    (∀ k', k' ≤ k → ∀ a' b', (x.vnode i).log.get? k' = some a' → (x.vnode j).log.get? k' = some b' → a' = b') :=
  C09Sys2.log_matching_of_view x.s2 (inv3_reachable hV h).1.sinv i j k a b ha hb ht

/-- **C02 with installed snapshots — leader completeness (partial, stage 3).** In every reachable state of `Raft.Snap3`:
1. every leader holds — in its virtual log, and in its real log unless the index is at or below `log.prev`, in which
   case it is covered by the leader's own snapshot — every entry of the ledger `committed` whose term is not above its own;
2. every leader `i` whose term is at least the term of node `j` holds (virtually), at every index within `j`'s commit
   index, the very entry `j` holds there — where `j`'s commit index may come from an INSTALLED snapshot;
3. every created entry of a later term extends every ledger entry. -/
theorem leader_completeness_sys_snap3_partial (hV : V.Nodup) (x : Snap3.Sys) (h : Reachable3 V x) :
    (∀ i, (x.node i).role = .leader → ∀ m ∈ x.s2.cs.committed, m.2 ≤ (x.node i).term →
      ∃ e, (x.vnode i).log.get? m.1 = some e ∧ e.term = m.2 ∧
        ((x.node i).log.prev < m.1 → (x.node i).log.get? m.1 = some e) ∧
        (m.1 ≤ (x.node i).log.prev → m.1 ≤ (x.node i).snapIndex)) ∧
    (∀ i j k, (x.node i).role = .leader → (x.node j).term ≤ (x.node i).term → 1 ≤ k →
      k ≤ (x.node j).commitIndex →
      (x.vnode i).log.get? k = (x.vnode j).log.get? k ∧ ((x.vnode j).log.get? k).isSome = true) ∧
    (∀ m ∈ x.s2.cs.committed, ∀ c ∈ x.s2.cs.T, m.2 < c.e.term → Anc x.s2.cs.T m (key c)) :=
  C09Sys2.leader_completeness_of_view hV x.s2 (inv3_reachable hV h).1.sinv (inv3_reachable hV h).1.prev

/-- **C03 with installed snapshots — state-machine safety (partial, stage 3).** In every reachable state of
`Raft.Snap3`, on every node — whatever mixture of applying log entries, taking snapshots, compacting, INSTALLING a
snapshot, crashing (also in the middle of an installation) and restoring the state machine from a snapshot file at
restart produced its state:
1. the state machine holds exactly the update payloads of the entries `1 … fsm.index` of its virtual log (after an
   installation: of the prefix the installed snapshot stands for), in order, and never ran ahead of the commit index;
2. every entry it has been fed is committed;
3. a node that applied no more than another holds (virtually) the same entries up to its applied index and its command
   sequence is a prefix of the other's; hence any two command sequences are prefix-comparable. -/
theorem state_machine_safety_sys_snap3_partial (hV : V.Nodup) (x : Snap3.Sys) (h : Reachable3 V x) :
    (∀ i, (x.node i).fsm.index ≤ (x.node i).commitIndex ∧
      (x.node i).fsm.index ≤ (x.vlog i).length ∧
      (x.node i).fsm.applied = ups ((x.vlog i).take (x.node i).fsm.index)) ∧
    (∀ i k, 1 ≤ k → k ≤ (x.node i).fsm.index → Committed (view3 x).cs (k, termAt (x.vlog i) k)) ∧
    (∀ i j, (x.node i).fsm.index ≤ (x.node j).fsm.index →
      (x.vlog i).take (x.node i).fsm.index = (x.vlog j).take (x.node i).fsm.index ∧
      (x.node i).fsm.applied <+: (x.node j).fsm.applied) ∧
    (∀ i j, (x.node i).fsm.applied <+: (x.node j).fsm.applied ∨
      (x.node j).fsm.applied <+: (x.node i).fsm.applied) :=
  C09Sys.state_machine_safety_of_inv (view3 x) (inv3_reachable hV h).1.sinv

/-- **C09 — every snapshot file, taken or installed, is a committed prefix (partial, stage 3).** In every reachable
state of `Raft.Snap3`, for every snapshot file `f` that node `i` ever had on disk (the ghost ledger `snaps`: files
written by the node's snapshot goroutine AND files received in install requests) and for every file on its disk now:
1. `1 ≤ f.index ≤ snapIndex ≤ commitIndex`;
2. every index up to `f.index` of node `i`'s virtual log holds a committed entry, and `f.data` is the list of update
   payloads of the entries `1 … f.index` of that log;
3. and it is the replay of the virtual log of EVERY node `j` whose commit index covers `f.index`. -/
theorem snapshot_is_committed_prefix_partial (hV : V.Nodup) (x : Snap3.Sys) (h : Reachable3 V x) :
    ∀ i f, ((i, f) ∈ x.s2.snaps ∨ f ∈ (x.node i).snapsDisk) →
      1 ≤ f.index ∧ f.index ≤ (x.node i).snapIndex ∧ (x.node i).snapIndex ≤ (x.node i).commitIndex ∧
      (∀ k, 1 ≤ k → k ≤ f.index → Committed (view3 x).cs (k, termAt (x.vlog i) k)) ∧
      f.data = ups ((x.vlog i).take f.index) ∧
      ∀ j, f.index ≤ (x.node j).commitIndex → f.data = ups ((x.vlog j).take f.index) :=
  C09Sys.snapshot_is_committed_prefix_of_inv (view3 x) (inv3_reachable hV h).1.sinv

/-- **C09 — an install request on the wire is a committed prefix (partial, stage 3).** In every reachable state of
`Raft.Snap3`, for every install request `m.q` a leader ever sent (ledger `sentSnaps`; `m.pre` is the ghost prefix of the
sender's virtual log it was read from): `m.pre` has length `lastIndex ≥ 1`, is a root path of the tree of created entries
whose last entry has term `lastTerm`, every entry of it is committed by a leader of a term `≤` the request's, `data` is
the replay of `m.pre`, and EVERY node `j` whose commit index covers `lastIndex` holds exactly `m.pre` as the first
`lastIndex` entries of its virtual log — whenever the request is delivered, however late. -/
theorem install_request_is_committed_prefix_partial (hV : V.Nodup) (x : Snap3.Sys) (h : Reachable3 V x) :
    ∀ m ∈ x.sentSnaps, m.pre.length = m.q.lastIndex ∧ 1 ≤ m.q.lastIndex ∧ Path (view3 x).cs.T m.pre ∧
      lastTerm m.pre = m.q.lastTerm ∧
      (∀ k, 1 ≤ k → k ≤ m.q.lastIndex → Cmt (view3 x).cs (k, termAt m.pre k) m.q.term) ∧
      m.q.data = ups m.pre ∧
      ∀ j, m.q.lastIndex ≤ (x.node j).commitIndex →
        (x.vlog j).take m.q.lastIndex = m.pre ∧ m.q.data = ups ((x.vlog j).take m.q.lastIndex) :=
  install_request_of_inv3 (inv3_reachable hV h).1

/-- **C09 — compaction and installation keep every follower servable (partial, stage 3).** In every reachable state of
`Raft.Snap3`, for every node `i`:
1. the log starts at or below the snapshot index (`log.prev ≤ snapIndex ≤ commitIndex`): every index the log no longer
   holds — compacted away, or never held because a snapshot was installed — is covered by the node's newest snapshot;
2. if anything is missing, that snapshot is a file on the node's disk, its index is the snapshot index, its term the
   snapshot term, and its content is the replay of the virtual log up to there — the committed prefix on every node;
3. every index above `log.prev` up to the last index is answered by `Log.Get` with the entry of the virtual log.
So a leader can bring ANY follower up to date: from its log above `log.prev`, with its snapshot at or below. -/
theorem compaction_keeps_servable_partial (hV : V.Nodup) (x : Snap3.Sys) (h : Reachable3 V x) (i : Nat) :
    (x.node i).log.prev ≤ (x.node i).snapIndex ∧ (x.node i).snapIndex ≤ (x.node i).commitIndex ∧
    (0 < (x.node i).snapIndex → ∃ f ∈ (x.node i).snapsDisk, f.index = (x.node i).snapIndex ∧
      f.term = (x.node i).snapTerm ∧ f.data = ups ((x.vlog i).take f.index)) ∧
    (∀ k, (x.node i).log.prev < k → k ≤ (x.node i).log.last →
      ∃ e, (x.node i).log.get? k = some e ∧ (x.vlog i)[k - 1]? = some e ∧ e.index = k) :=
  have hI := (inv3_reachable hV h).1
  have h := C09Sys2.compaction_keeps_servable_of_view x.s2 hI.sinv i (hI.prev i)
  ⟨h.1, h.2.1, fun hpos =>
    let ⟨f, t, e, h1, h2⟩ := h.2.2.1 hpos
    ⟨f, by rw [show (x.node i).snapsDisk = f :: t from e]; exact List.mem_cons_self ..,
      h1, by rw [(hI.vterm i).head, show (x.node i).snapsDisk = f :: t from e]; rfl, h2⟩, h.2.2.2⟩

/-- **C09 — a lagging follower catches up by snapshot (partial, stage 3).** Let `x` be a reachable state of `Raft.Snap3`,
`m` an install request of the ledger that node `i` (`i ≠ 0`) handles to completion without failing an assertion, and
let the request INSTALL (`Installs`: its term is not stale, `lastIndex` is ahead of `i`'s commit index, `i`'s log does not
hold `(lastIndex, lastTerm)`); let the state `y` after the step satisfy the side conditions. Then in `y`:
1. the follower's log is empty and starts at the snapshot: `log = reset lastIndex`, last log index / term, snapshot
   index / term and commit index are the request's `lastIndex` / `lastTerm`; it is a follower;
2. its state machine is the snapshot: `fsm.index = lastIndex`, `fsm.applied = data`, and `data` is the replay of the
   prefix `m.pre` of the sender's virtual log, which is now `i`'s virtual log;
3. the newest file on its disk is the received one;
4. **it agrees with everybody**: every node `j` whose commit index covers `lastIndex` holds `m.pre` as the first
   `lastIndex` entries of its virtual log — so the follower's state machine is the replay of the committed sequence;
5. and `y` is reachable again: all theorems of this file hold for it. -/
theorem lagging_follower_catches_up_by_snapshot_partial (hV : V.Nodup) (x : Snap3.Sys) (h : Reachable3 V x)
    (i : Nat) (m : SnapMsg) (ra : List Nat) (ord : List (List Nat)) (hi : i ≠ 0) (hm : m ∈ x.sentSnaps)
    (hp : ((x.node i).step (.install m.q) ra ord).panicked = none) (hin : Installs (x.node i) m.q)
    (hS' : Side3 V (installS x i m ra ord)) :
    let y := installS x i m ra ord
    ((y.node i).log = NLog.reset m.q.lastIndex ∧ (y.node i).lastLogIndex = m.q.lastIndex ∧
      (y.node i).lastLogTerm = m.q.lastTerm ∧ (y.node i).snapIndex = m.q.lastIndex ∧
      (y.node i).snapTerm = m.q.lastTerm ∧ (y.node i).commitIndex = m.q.lastIndex ∧ (y.node i).role = .follower) ∧
    ((y.node i).fsm.index = m.q.lastIndex ∧ (y.node i).fsm.applied = m.q.data ∧ m.q.data = ups m.pre ∧
      y.vlog i = m.pre) ∧
    (y.node i).snapsDisk.head? = some (C09.fileOf m.q) ∧
    (∀ j, m.q.lastIndex ≤ (y.node j).commitIndex → (y.vlog j).take m.q.lastIndex = m.pre) ∧
    Reachable3 V y := by
  intro y
  have hI := (inv3_reachable hV h).1
  have hvw : C05.VoteWF (x.node i) := (hI.sinv.cinv.rp.el.ids i).2
  have wf := snapsWF_node hI i
  have so : SnapOK (x.vnode i) := hI.sinv.snap i
  have hmo := hI.msgs m hm
  have hinst := installed_of_step (x.node i) m.q ra ord hin wf so.retain hvw (hI.prev i).res wf.le_commit
  have hy : Reachable3 V y := .next x y h (.install i m ra ord hi (Or.inr hm) hp) hS'
  have hny : y.node i = (x.node i).step (.install m.q) ra ord := by
    show (installS x i m ra ord).node i = _
    unfold installS; rw [replS_node_i]
  have hvy : y.vlog i = m.pre := by
    show ((installS x i m ra ord).vnode i).log.entries = _
    unfold installS instBase
    rw [if_pos hin, replS_vnode_i]
    show (uncLog m.pre ((x.node i).step (.install m.q) ra ord).log).entries = _
    rw [hinst.log]; exact uncLog_reset_entries _ _ hmo.len
  have hh : ∀ g, (x.node i).snapsDisk.head? = some g → g.index ≤ m.q.lastIndex := by
    intro g hg
    have := wf.head g hg; have := wf.le_commit; have := hin.2.1
    omega
  refine ⟨⟨by rw [hny]; exact hinst.log, by rw [hny]; exact hinst.lastI, by rw [hny]; exact hinst.lastT,
    by rw [hny]; exact hinst.snapI, by rw [hny]; exact hinst.snapT, by rw [hny]; exact hinst.commit,
    by rw [hny]; exact hinst.role⟩, ⟨by rw [hny, hinst.fsm], by rw [hny, hinst.fsm], hmo.data, hvy⟩, ?_, ?_, hy⟩
  · rw [hny]; exact inst_head (x.node i) m.q so.retain hh hinst.files
  · intro j hj
    exact ((install_request_is_committed_prefix_partial hV y hy m hm).2.2.2.2.2.2 j hj).1

end

/-! ## cluster level, without the premise `TermTracked` (`Raft.Snap4`) -/

section
variable {V : List Nat}

/-- **Every run of `Raft.Snap4` is a run of `Raft.Snap3` on which every node is tracking and ordered (partial).**
`Raft.Snap4` (Sys/Snap4.lean) is `Raft.Snap3` WITHOUT the premise that a node taking a snapshot has `fsm.term` equal to
the term of the log entry at `fsm.index`; instead its states satisfy three more side conditions on configurations
(`Side4`) and its initial states the per-node invariants. In every reachable state `x`: `x` is reachable in `Raft.Snap3` —
so ALL theorems of this file hold for it — and every node `i` satisfies `C12Track.Tracks` (the state machine's cached term
and configuration are those of the applied prefix, the snapshot's term is that of the log entry at the snapshot index,
the newest label is self-consistent) and `Order.Ordered` (`log.prev ≤ snapIndex ≤ applied ≤ commitIndex ≤ lastLogIndex
= log.last`, …) — through completed steps, installations, and crashes at every storage point (those of the install
handler included) followed by restarts. -/
theorem tracked_runs_partial (hV : V.Nodup) (x : Snap3.Sys) (h : Reachable4 V x) :
    Reachable3 V x ∧ ∀ i, C12Track.Tracks (x.node i) ∧ Order.Ordered (x.node i) := by
  obtain ⟨r3, i4, _⟩ := reach4 hV h
  exact ⟨r3, fun i => ⟨i4.tracks i, i4.ord i⟩⟩

/-- **C09 — the snapshot agrees with the log, nothing assumed of snapshot takers (partial, stage 3).** In every state
reachable in `Raft.Snap4`, on every node `i`: the log entry at the snapshot index, if the log holds it
(`log.prev < snapIndex`), has term `snapTerm`; `fsm.term` is the term of the log entry at `fsm.index` (if held) — so
every snapshot the node WOULD take is labelled with the term of the entry it covers; and everything
`snapshot_agrees_with_log_partial` says (every file on disk, taken or installed, names an entry of the virtual log). -/
theorem snapshot_agrees_with_log_sys_snap4_partial (hV : V.Nodup) (x : Snap3.Sys) (h : Reachable4 V x) (i : Nat) :
    ((x.node i).log.prev < (x.node i).snapIndex →
      ((x.node i).log.get? (x.node i).snapIndex).map (·.term) = some (x.node i).snapTerm) ∧
    ((x.node i).log.prev < (x.node i).fsm.index → (x.node i).entryTerm? (x.node i).fsm.index = some (x.node i).fsm.term) ∧
    ((x.node i).snapTerm = (headOf (x.node i).snapsDisk).term ∧
      ∀ f ∈ (x.node i).snapsDisk, termAt (x.vlog i) f.index = f.term) := by
  obtain ⟨r3, i4, _⟩ := reach4 hV h
  have := snapshot_agrees_with_log_partial hV x r3 i
  exact ⟨(i4.tracks i).snapOk.termLog, C12Track.tracks_term _ (i4.tracks i), this.2.1.1, this.2.1.2.1⟩

end

/-! ### Examples (non-vacuity)

#### node level — the F18 scenario of Props/C09Sys2.lean (`exI0`: a follower with the uncommitted entries 2–4 of term 2;
`exIq`: the snapshot (index 3, term 3, data [a, b]) of the leader of term 3) -/

/-- EXAMPLE (`install_crash_disks`, `install_window_log_is_stale`, `install_crash_restarts_installed`): the request
installs; the hypotheses on the node hold; after the third storage point (`snap.retain`) the log on disk is stale; the
restart succeeds -/
example : Installs C09Sys2.exI0 C09Sys2.exIq ∧ C09Sys2.exI0.log.prev ≤ C09Sys2.exI0.commitIndex ∧
    1 ≤ C09Sys2.exI0.retain ∧ (∀ g, C09Sys2.exI0.snapsDisk.head? = some g → g.index ≤ C09Sys2.exIq.lastIndex) ∧
    staleLog (C05.crashDisk C09Sys2.exI0 (.install C09Sys2.exIq) [] [] 3) = true ∧
    (C05.crashDisk C09Sys2.exI0 (.install C09Sys2.exIq) [] [] 3).log = C09Sys2.exI0.durable.log ∧
    (Node.restart (C05.crashDisk C09Sys2.exI0 (.install C09Sys2.exIq) [] [] 3) 1 true).isSome = true := by
  refine ⟨by decide, by decide, by decide, fun g hg => ?_, by decide, by decide, by decide⟩
  have : C09Sys2.exI0.snapsDisk.head? = none := rfl
  rw [this] at hg; cases hg

/-- EXAMPLE (`install_crash_keeps_node_invariants`): the node of the F18 scenario is tracking and ordered, its log is
well formed, its label (none) is covered, the request's label is covered by its snapshot -/
example : C12Track.Tracks C09Sys2.exI0 ∧ Order.Ordered C09Sys2.exI0 ∧ C06.LogWF C09Sys2.exI0.log ∧
    (Track.label C09Sys2.exI0).index ≤ C09Sys2.exI0.snapIndex ∧ Order.InstallOk C09Sys2.exIq := by
  refine ⟨by decide, ⟨⟨by decide, by decide, by decide, by decide, by decide, by decide,
    ⟨by decide, rfl, by decide⟩, by decide, fun rs hrs => ?_⟩, by decide⟩, ⟨by decide, by decide⟩, by decide, by decide⟩
  have : C09Sys2.exI0.snapResult = none := rfl
  rw [this] at hrs; cases hrs

/-! #### cluster level, PROVED: three voters bootstrapped with the configuration entry (1,1); node 2 is asked for a
snapshot, the snapshot goroutine runs, the result is handed over (`C09Sys2.exZ3`), then node 2 handles a STALE install
request (term 0 < its term 1: such a request need not be of the ledger): the resulting state is reachable in
`Raft.Snap3`, so the hypotheses of the theorems of this file are satisfiable with the new transitions in use. (A leader
cannot be elected inside a kernel-checked example: the mutually recursive leader block does not reduce there; the
installing transitions are EVALUATED below.) -/

def exW0 : Snap3.Sys := ⟨C09Sys2.exY0, []⟩
def exW1 : Snap3.Sys := { exW0 with s2 := stepS exW0.s2 2 (.takeSnapshot 7 0) [] [] 0 }
def exW2 : Snap3.Sys := { exW1 with s2 := stepS exW1.s2 2 .snapRun [] [] 0 }
def exW3 : Snap3.Sys := { exW2 with s2 := stepS exW2.s2 2 .snapTaken [] [] 0 }
/-- a stale install request: term 0 -/
def exMs : SnapMsg := ⟨{ term := 0, src := 1, lastIndex := 5, lastTerm := 0 }, []⟩
def exW4 : Snap3.Sys := installS exW3 2 exMs [] []

theorem exSide3 (x : Snap3.Sys) (n : Node) (hn : n.configs = (C04Sys.exNode 2).configs)
    (hl : n.log = (C04Sys.exNode 2).log) (hx : x.s2.cs.rp.el.node = setNode C04Sys.exNode 2 n) : Side3 [1, 2, 3] x := by
  have := C09Sys2.exSide2 x.s2 n hn hl hx
  exact ⟨this.sideV, this.dec, this.segs⟩

set_option maxRecDepth 100000 in
/-- example: `exW4` is reachable in `Raft.Snap3` -/
example : [1, 2, 3].Nodup ∧ Reachable3 [1, 2, 3] exW4 ∧ (exW4.node 2).panicked = none ∧
    (exW4.node 2).rpcReply.map (·.result) = some rStaleTerm := by
  have en : ∀ (x : Commit.Sys) (op : Op), OpOKS op → (∀ q, op ≠ .vote q) → (∀ q, op ≠ .append q) →
      (∀ b, op ≠ .newEntries b) → (∀ t c, op ≠ .changeConfig t c) → (∀ a b c, op ≠ .voteResult a b c) →
      (∀ us, op ≠ .replUpdates us) → Snap.Enabled x 2 op 0 := C09Sys.exEnabled
  have i0 : Snap3.Init exW0 := ⟨C09Sys2.exY0_init, fun _ => rfl, rfl⟩
  have s0 : Side3 [1, 2, 3] exW0 := exSide3 _ (C04Sys.exNode 2) rfl rfl (by
    show C04Sys.exNode = _
    funext j; unfold setNode; split
    · rename_i h; rw [h]
    · rfl)
  have t1 : Snap3.Trans exW0 exW1 :=
    .step 2 (.takeSnapshot 7 0) [] [] 0
      (en _ _ trivial (fun _ h => by cases h) (fun _ h => by cases h) (fun _ h => by cases h)
        (fun _ _ h => by cases h) (fun _ _ _ h => by cases h) (fun _ h => by cases h)) (by decide) trivial
  have s1 : Side3 [1, 2, 3] exW1 :=
    exSide3 _ ((C04Sys.exNode 2).step (.takeSnapshot 7 0) [] []) (by decide) (by decide) rfl
  have t2 : Snap3.Trans exW1 exW2 :=
    .step 2 .snapRun [] [] 0
      (en _ _ trivial (fun _ h => by cases h) (fun _ h => by cases h) (fun _ h => by cases h)
        (fun _ _ h => by cases h) (fun _ _ _ h => by cases h) (fun _ h => by cases h)) (by decide)
      (by show (exW1.node 2).log.prev < (exW1.node 2).fsm.index → _; intro h; exact absurd h (by decide))
  have s2 : Side3 [1, 2, 3] exW2 :=
    exSide3 _ (((C04Sys.exNode 2).step (.takeSnapshot 7 0) [] []).step .snapRun [] []) (by decide) (by decide)
      (by
        show setNode (setNode C04Sys.exNode 2 _) 2 _ = _
        exact setNode_setNode _ _ _ _)
  have t3 : Snap3.Trans exW2 exW3 :=
    .step 2 .snapTaken [] [] 0
      (en _ _ trivial (fun _ h => by cases h) (fun _ h => by cases h) (fun _ h => by cases h)
        (fun _ _ h => by cases h) (fun _ _ _ h => by cases h) (fun _ h => by cases h)) (by decide) trivial
  have s3 : Side3 [1, 2, 3] exW3 :=
    exSide3 _ ((((C04Sys.exNode 2).step (.takeSnapshot 7 0) [] []).step .snapRun [] []).step .snapTaken [] [])
      (by decide) (by decide) (by
        show setNode (setNode (setNode C04Sys.exNode 2 _) 2 _) 2 _ = _
        rw [setNode_setNode]
        exact setNode_setNode _ _ _ _)
  have t4 : Snap3.Trans exW3 exW4 := .install 2 exMs [] [] (by decide) (Or.inl (by decide)) (by decide)
  have s4 : Side3 [1, 2, 3] exW4 :=
    exSide3 _ (((((C04Sys.exNode 2).step (.takeSnapshot 7 0) [] []).step .snapRun [] []).step .snapTaken [] []).step
        (.install exMs.q) [] [])
      (by decide) (by decide) (by
        show setNode (setNode (setNode (setNode C04Sys.exNode 2 _) 2 _) 2 _) 2 _ = _
        rw [setNode_setNode, setNode_setNode]
        exact setNode_setNode _ _ _ _)
  exact ⟨by decide, .next _ _ (.next _ _ (.next _ _ (.next _ _ (.init _ i0 s0) t1 s1) t2 s2) t3 s3) t4 s4,
    by decide, by decide⟩

theorem exSide4 (x : Snap3.Sys) (n : Node) (hn : n.configs = (C04Sys.exNode 2).configs)
    (hl : n.log = (C04Sys.exNode 2).log) (hx : x.s2.cs.rp.el.node = setNode C04Sys.exNode 2 n)
    (hli : 1 ≤ n.lastLogIndex) (hsd : n.snapsDisk = []) (hT : ∀ c ∈ x.s2.cs.T, c = ⟨C04Sys.exE, 0, 0⟩) :
    Side4 [1, 2, 3] x := by
  have hnode : ∀ i, x.node i = setNode C04Sys.exNode 2 n i := fun i => by
    show x.s2.cs.rp.el.node i = _; rw [hx]
  refine ⟨exSide3 x n hn hl hx, fun i => ?_, fun i => Or.inr (fun c hc d hd _ _ => ?_), fun i => ?_⟩
  · rw [hnode i]; unfold setNode
    split
    · rw [hn]; exact ⟨by decide, hli⟩
    · exact ⟨Nat.le_refl _, Nat.le_refl _⟩
  · rw [hT c hc, hT d hd]
  · rw [hnode i]; unfold setNode
    split
    · unfold Track.label; rw [hsd]; exact Nat.zero_le _
    · exact Nat.zero_le _

set_option maxRecDepth 100000 in
/-- example: `exW4` is reachable in `Raft.Snap4` too — the hypotheses of `tracked_runs_partial` and
`snapshot_agrees_with_log_sys_snap4_partial` are satisfiable -/
example : Reachable4 [1, 2, 3] exW4 := by
  have en : ∀ (x : Commit.Sys) (op : Op), OpOKS op → (∀ q, op ≠ .vote q) → (∀ q, op ≠ .append q) →
      (∀ b, op ≠ .newEntries b) → (∀ t c, op ≠ .changeConfig t c) → (∀ a b c, op ≠ .voteResult a b c) →
      (∀ us, op ≠ .replUpdates us) → Snap.Enabled x 2 op 0 := C09Sys.exEnabled
  have i0 : Snap4.Init4 exW0 :=
    ⟨⟨C09Sys2.exY0_init, fun _ => rfl, rfl⟩, C19Sys.ex0_tracks, fun i => (C19Sys.exNode_good i).ordered⟩
  have s0 : Side4 [1, 2, 3] exW0 := exSide4 _ (C04Sys.exNode 2) rfl rfl (by
    show C04Sys.exNode = _
    funext j; unfold setNode; split
    · rename_i h; rw [h]
    · rfl) (by decide) rfl (by decide)
  have t1 : Snap4.Trans exW0 exW1 :=
    .step 2 (.takeSnapshot 7 0) [] [] 0
      (en _ _ trivial (fun _ h => by cases h) (fun _ h => by cases h) (fun _ h => by cases h)
        (fun _ _ h => by cases h) (fun _ _ _ h => by cases h) (fun _ h => by cases h)) (by decide)
  have s1 : Side4 [1, 2, 3] exW1 :=
    exSide4 _ ((C04Sys.exNode 2).step (.takeSnapshot 7 0) [] []) (by decide) (by decide) rfl (by decide) (by decide)
      (by decide)
  have t2 : Snap4.Trans exW1 exW2 :=
    .step 2 .snapRun [] [] 0
      (en _ _ trivial (fun _ h => by cases h) (fun _ h => by cases h) (fun _ h => by cases h)
        (fun _ _ h => by cases h) (fun _ _ _ h => by cases h) (fun _ h => by cases h)) (by decide)
  have s2 : Side4 [1, 2, 3] exW2 :=
    exSide4 _ (((C04Sys.exNode 2).step (.takeSnapshot 7 0) [] []).step .snapRun [] []) (by decide) (by decide)
      (by
        show setNode (setNode C04Sys.exNode 2 _) 2 _ = _
        exact setNode_setNode _ _ _ _) (by decide) (by decide) (by decide)
  have t3 : Snap4.Trans exW2 exW3 :=
    .step 2 .snapTaken [] [] 0
      (en _ _ trivial (fun _ h => by cases h) (fun _ h => by cases h) (fun _ h => by cases h)
        (fun _ _ h => by cases h) (fun _ _ _ h => by cases h) (fun _ h => by cases h)) (by decide)
  have s3 : Side4 [1, 2, 3] exW3 :=
    exSide4 _ ((((C04Sys.exNode 2).step (.takeSnapshot 7 0) [] []).step .snapRun [] []).step .snapTaken [] [])
      (by decide) (by decide) (by
        show setNode (setNode (setNode C04Sys.exNode 2 _) 2 _) 2 _ = _
        rw [setNode_setNode]
        exact setNode_setNode _ _ _ _) (by decide) (by decide) (by decide)
  have t4 : Snap4.Trans exW3 exW4 := .install 2 exMs [] [] (by decide) (Or.inl (by decide)) (by decide)
  have s4 : Side4 [1, 2, 3] exW4 :=
    exSide4 _ (((((C04Sys.exNode 2).step (.takeSnapshot 7 0) [] []).step .snapRun [] []).step .snapTaken [] []).step
        (.install exMs.q) [] [])
      (by decide) (by decide) (by
        show setNode (setNode (setNode (setNode C04Sys.exNode 2 _) 2 _) 2 _) 2 _ = _
        rw [setNode_setNode, setNode_setNode]
        exact setNode_setNode _ _ _ _) (by decide) (by decide) (by decide)
  exact .next _ _ (.next _ _ (.next _ _ (.next _ _ (.init _ i0 s0) t1 s1) t2 s2) t3 s3) t4 s4

/-! #### cluster level, EVALUATED (tests, not proofs): a lagging follower catches up by snapshot.  From
`C09Sys2.exY5` (node 1 leads term 2, entry 2 — its first — is on node 2, NOT on node 3): the leader commits index 2 with
node 2's acknowledgement, appends the client update "a" (index 3), replicates it to node 2, commits it, takes a snapshot
at index 3 (data [a]) and compacts.  It sends the snapshot (`sendSnap`: ledger entry `exM`, ghost prefix = its virtual
log up to 3).  Node 3 — log [(1,1)], term 1, commit index 0 — installs it (`installS`), then accepts the leader's next
entry (4, "b") directly behind the snapshot.  Alternatively node 3 dies after `snap.retain` (`crashInstS`): the restart
resets the stale log — same state. -/

def exX5 : Snap3.Sys := ⟨C09Sys2.exY5, []⟩
def exX7 : Snap3.Sys := { exX5 with s2 := stepS exX5.s2 1 (.replUpdates [{ id := 2, upd := .matchIndex 2 }]) [] [] 0 }
def exX8 : Snap3.Sys :=
  { exX7 with s2 := stepS exX7.s2 1 (.newEntries [{ typ := etUpdate, data := "a", task := 7 }]) [] [] 0 }
def exXReq : AppendReq :=
  { term := 2, src := 1, prevLogIndex := 2, prevLogTerm := 2, entries := (exX8.vlog 1).drop 2, ldrCommitIndex := 2 }
def exX9 : Snap3.Sys := { exX8 with s2 := { exX8.s2 with cs := sendC exX8.s2.cs exXReq } }
def exX10 : Snap3.Sys := { exX9 with s2 := stepS exX9.s2 2 (.append exXReq) [] [] 0 }
def exX11 : Snap3.Sys := { exX10 with s2 := stepS exX10.s2 1 (.replUpdates [{ id := 2, upd := .matchIndex 3 }]) [] [] 0 }
def exX12 : Snap3.Sys := { exX11 with s2 := stepS exX11.s2 1 (.takeSnapshot 9 0) [] [] 0 }
def exX13 : Snap3.Sys := { exX12 with s2 := stepS exX12.s2 1 .snapRun [] [] 0 }
def exX14 : Snap3.Sys := { exX13 with s2 := stepS exX13.s2 1 .snapTaken [] [] 0 }
/-- what the leader sends: its newest snapshot file, stamped with its term -/
def exQ : InstallReq :=
  let f := (exX14.node 1).snapsDisk.head?.getD {}
  { term := (exX14.node 1).term, src := 1, lastIndex := f.index, lastTerm := f.term, lastConfig := f.config, data := f.data }
def exM : SnapMsg := ⟨exQ, (exX14.vlog 1).take exQ.lastIndex⟩
def exX15 : Snap3.Sys := { exX14 with sentSnaps := exM :: exX14.sentSnaps }
/-- node 3 installs the snapshot -/
def exX16 : Snap3.Sys := installS exX15 3 exM [] []
/-- … and then accepts the leader's next entry directly behind it -/
def exX17 : Snap3.Sys :=
  { exX16 with s2 := stepS exX16.s2 1 (.newEntries [{ typ := etUpdate, data := "b", task := 8 }]) [] [] 0 }
def exXReq2 : AppendReq :=
  { term := 2, src := 1, prevLogIndex := 3, prevLogTerm := 2, entries := (exX17.vlog 1).drop 3, ldrCommitIndex := 3 }
def exX18 : Snap3.Sys := { exX17 with s2 := { exX17.s2 with cs := sendC exX17.s2.cs exXReq2 } }
def exX19 : Snap3.Sys := { exX18 with s2 := stepS exX18.s2 3 (.append exXReq2) [] [] 0 }
/-- alternatively: node 3 dies after the third storage point of the installation (`snap.retain`) and restarts -/
def exXd : Durable := C05.crashDisk (exX15.node 3) (.install exQ) [] [] 3
def exXn : Option Node := Node.restart exXd 1 true
def exX16c : Option Snap3.Sys := exXn.map (fun n => crashInstS exX15 3 exM exXd n)

-- the leader: commit index 3, snapshot (3, term 2, [a]); the request is what `SnapRead` asks for
#guard (exX14.node 1).role == .leader && (exX14.node 1).commitIndex == 3 &&
  (exX14.node 1).snapsDisk.map (fun f => (f.index, f.term, f.data)) == [(3, 2, ["a"])] &&
  (exX14.node 1).snapsDisk.head? == some (C09.fileOf exQ) && exQ.term == (exX14.node 1).term
-- the follower before: one entry, nothing committed; the request installs
#guard (exX15.node 3).log.entries.map (fun e => (e.index, e.term)) == [(1, 1)] && (exX15.node 3).commitIndex == 0 &&
  (exX15.node 3).term == 1 && decide (Installs (exX15.node 3) exQ)
-- after the installation: the log is empty at the snapshot, everything is the snapshot's, the virtual log of node 3 is
-- the prefix the request stands for = the leader's virtual log up to index 3; nobody failed an assertion
#guard (exX16.node 3).log.prev == 3 && (exX16.node 3).log.entries.isEmpty && (exX16.node 3).snapIndex == 3 &&
  (exX16.node 3).snapTerm == 2 && (exX16.node 3).commitIndex == 3 && (exX16.node 3).lastLogIndex == 3 &&
  (exX16.node 3).lastLogTerm == 2 && (exX16.node 3).fsm.applied == ["a"] && (exX16.node 3).term == 2 &&
  (exX16.node 3).role == .follower && (exX16.node 3).panicked.isNone &&
  exX16.vlog 3 == (exX16.vlog 1).take 3 && exX16.vlog 3 == exM.pre &&
  (exX16.node 3).fsm.applied == (exX16.node 1).fsm.applied
#guard ((exX15.node 3).step (.install exQ) [] []).trace.map (·.1) == ["value.set", "snap.publish", "snap.retain", "clearLog"]
-- the next entry is appended directly behind the snapshot and applied
#guard (exX19.node 3).log.prev == 3 && (exX19.node 3).log.entries.map (fun e => (e.index, e.term, e.data)) == [(4, 2, "b")] &&
  (exX19.node 3).rpcReply.map (·.result) == some rSuccess && (exX19.node 3).panicked.isNone &&
  exX19.vlog 3 == exX19.vlog 1
-- the crash in the F18 window: the new file is on disk with the OLD log; the log is stale; the restart gives the
-- installed state, and `base` is the prefix again
#guard exXd.log == (exX15.node 3).durable.log && exXd.snaps.head? == some (C09.fileOf exQ) && staleLog exXd
#guard (exXn.map (fun n => (n.log.prev, n.log.entries.length, n.snapIndex, n.snapTerm, n.commitIndex, n.fsm.applied,
    n.lastLogIndex, n.lastLogTerm, n.term, n.panicked.isNone))) == some (3, 0, 3, 2, 3, ["a"], 3, 2, 2, true)
#guard (exX16c.map (fun y => (y.vlog 3 == exM.pre, y.vlog 3 == (y.vlog 1).take 3))) == some (true, true)

end C09Sys3
end Raft

#print axioms Raft.C09Sys3.install_crash_disks
#print axioms Raft.C09Sys3.install_window_log_is_stale
#print axioms Raft.C09Sys3.install_crash_restarts_installed
#print axioms Raft.C09Sys3.install_crash_keeps_node_invariants
#print axioms Raft.C09Sys3.snapshot_agrees_with_log_partial -- the invariant "log at the snapshot index agrees"
#print axioms Raft.C09Sys3.log_matching_sys_snap3_partial -- also C04
#print axioms Raft.C09Sys3.leader_completeness_sys_snap3_partial -- also C02
#print axioms Raft.C09Sys3.state_machine_safety_sys_snap3_partial -- also C03
#print axioms Raft.C09Sys3.snapshot_is_committed_prefix_partial -- also C12
#print axioms Raft.C09Sys3.install_request_is_committed_prefix_partial
#print axioms Raft.C09Sys3.compaction_keeps_servable_partial
#print axioms Raft.C09Sys3.lagging_follower_catches_up_by_snapshot_partial
#print axioms Raft.C09Sys3.tracked_runs_partial
#print axioms Raft.C09Sys3.snapshot_agrees_with_log_sys_snap4_partial
