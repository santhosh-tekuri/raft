/-
C01 — Election safety: at most one leader per term.

Proved here (no bound on cluster size, terms or steps):
* `vote_unique` (= C05.vote_once): over every run of a voter — arbitrary requests, crashes at any storage
  point, restarts — all votes it grants in one term name one candidate;
* `quorums_intersect`: two duplicate-free sets of voters of one voter set, each larger than half of it,
  share a voter;
* `election_safety_partial`: if every leader of a term is backed by such a quorum of grants and grants
  are unique per (voter, term), two leaders of one term are the same node;
* `election_starts_with_quorum` / `candidate_counts_down`: the only ways the model node becomes leader
  are `startElection` with a quorum of one and `onVoteResult` reaching `votesNeeded = 0`, each success
  response lowering `votesNeeded` by exactly one.
NOT proved here (hence `_partial`): that the responses a candidate counts are distinct voters'
grants for its current term (candidate bookkeeping across all handlers) — that is Props/C01Sys.lean for a fixed
voter set and Props/C01Member.lean with membership changes, both under `Election.RealReply` (a counted response is
a real reply of the current election: pairing of responses with requests on pooled connections is transport, see
C18/C20) — and the overlap of quorums across configuration changes (C08). `clustersim` evaluates the ledger
term → leader over the real nodes' states after every event of every explored execution.
-/
import RaftVerif.Props.C05
import RaftVerif.Lemmas.ReplSteps
import RaftVerif.Lemmas.RoleRel

namespace Raft
namespace C01
open Node

/-- **a voter grants at most one candidate per term**, over runs with crashes and restarts. -/
theorem vote_unique (retain : Nat) (sor : Bool) (evs : List C05.Ev) (s₀ s : Node) (g : List (Nat × Nat))
    (hwf : C05.VoteWF s₀) (hsrc : C05.SrcOK evs) (h : C05.exec retain sor s₀ [] evs = some (s, g)) :
    ∀ x ∈ g, ∀ y ∈ g, x.1 = y.1 → x.2 = y.2 :=
  C05.vote_once retain sor evs s₀ [] hwf (fun _ hx => by cases hx) (fun _ hx => by cases hx) hsrc s g h

/-- **majorities of one voter set intersect** (pigeonhole, for any duplicate-free voter list). -/
theorem quorums_intersect : ∀ (V Q Q' : List Nat), V.Nodup → Q.Nodup → Q'.Nodup →
    (∀ x ∈ Q, x ∈ V) → (∀ x ∈ Q', x ∈ V) → Q.length + Q'.length > V.length →
    ∃ x, x ∈ Q ∧ x ∈ Q'
  | [], Q, Q', _, _, _, hq, hq', hl => by
    cases Q with
    | nil =>
      cases Q' with
      | nil => simp at hl
      | cons b _ => exact absurd (hq' b (List.mem_cons_self ..)) (by simp)
    | cons a _ => exact absurd (hq a (List.mem_cons_self ..)) (by simp)
  | a :: V, Q, Q', hV, hQ, hQ', hq, hq', hl => by
    by_cases h1 : a ∈ Q
    · by_cases h2 : a ∈ Q'
      · exact ⟨a, h1, h2⟩
      · have hV' : V.Nodup := (List.nodup_cons.mp hV).2
        have hsub : ∀ x ∈ Q.erase a, x ∈ V := by
          intro x hx
          have := (hQ.mem_erase_iff).mp hx
          rcases List.mem_cons.mp (hq x this.2) with e | e
          · exact absurd e this.1
          · exact e
        have hsub' : ∀ x ∈ Q', x ∈ V := by
          intro x hx
          rcases List.mem_cons.mp (hq' x hx) with e | e
          · subst e; exact absurd hx h2
          · exact e
        have hlen : (Q.erase a).length + Q'.length > V.length := by
          rw [List.length_erase_of_mem h1]
          simp only [List.length_cons] at hl
          have : Q.length ≥ 1 := List.length_pos_of_mem h1
          omega
        obtain ⟨x, hx1, hx2⟩ := quorums_intersect V (Q.erase a) Q' hV' (hQ.erase a) hQ' hsub hsub' hlen
        exact ⟨x, List.mem_of_mem_erase hx1, hx2⟩
    · have hV' : V.Nodup := (List.nodup_cons.mp hV).2
      have hsub : ∀ x ∈ Q, x ∈ V := by
        intro x hx
        rcases List.mem_cons.mp (hq x hx) with e | e
        · subst e; exact absurd hx h1
        · exact e
      by_cases h2 : a ∈ Q'
      · have hsub' : ∀ x ∈ Q'.erase a, x ∈ V := by
          intro x hx
          have := (hQ'.mem_erase_iff).mp hx
          rcases List.mem_cons.mp (hq' x this.2) with e | e
          · exact absurd e this.1
          · exact e
        have hlen : Q.length + (Q'.erase a).length > V.length := by
          rw [List.length_erase_of_mem h2]
          simp only [List.length_cons] at hl
          have : Q'.length ≥ 1 := List.length_pos_of_mem h2
          omega
        obtain ⟨x, hx1, hx2⟩ := quorums_intersect V Q (Q'.erase a) hV' hQ (hQ'.erase a) hsub hsub' hlen
        exact ⟨x, hx1, List.mem_of_mem_erase hx2⟩
      · have hsub' : ∀ x ∈ Q', x ∈ V := by
          intro x hx
          rcases List.mem_cons.mp (hq' x hx) with e | e
          · subst e; exact absurd hx h2
          · exact e
        have hlen : Q.length + Q'.length > V.length := by
          simp only [List.length_cons] at hl; omega
        exact quorums_intersect V Q Q' hV' hQ hQ' hsub hsub' hlen

/-- a grant: `voter` acknowledged its vote for `cand` in `term` (its own vote for a candidate/leader) -/
structure Grant where
  voter : Nat
  term : Nat
  cand : Nat
  deriving DecidableEq, Repr

/-- a leader of `term` backed by a quorum of the voter set `V` -/
def Backed (G : List Grant) (V : List Nat) (l term : Nat) : Prop :=
  ∃ Q : List Nat, Q.Nodup ∧ (∀ v ∈ Q, v ∈ V) ∧ 2 * Q.length > V.length ∧
    ∀ v ∈ Q, ({ voter := v, term := term, cand := l } : Grant) ∈ G

/-- **election safety from vote uniqueness and quorums** — the partial theorem: for one voter set `V`,
if grants are unique per (voter, term) [proved per voter: `vote_unique`] and two nodes are each backed by
a majority of `V` in the same term [the candidate-bookkeeping link: Props/C01Sys.lean], they are the same node. -/
theorem election_safety_partial (G : List Grant) (V : List Nat) (hV : V.Nodup)
    (huniq : ∀ a ∈ G, ∀ b ∈ G, a.voter = b.voter → a.term = b.term → a.cand = b.cand)
    (l l' T : Nat) (hl : Backed G V l T) (hl' : Backed G V l' T) : l = l' := by
  obtain ⟨Q, hQ, hs, hlen, hg⟩ := hl
  obtain ⟨Q', hQ', hs', hlen', hg'⟩ := hl'
  obtain ⟨v, hv, hv'⟩ := quorums_intersect V Q Q' hV hQ hQ' hs hs' (by omega)
  exact huniq _ (hg v hv) _ (hg' v hv') rfl rfl

/-! ### how the model node becomes leader -/

/-- `onVoteResult` counts: a success response with a term not above the candidate's lowers
`votesNeeded` by exactly one and makes the node leader exactly when it reaches zero; any other response
leaves `votesNeeded` alone. -/
theorem candidate_counts_down (s : Node) (err : Bool) (term result : Nat) :
    (err = false ∧ term ≤ s.term ∧ result = rSuccess →
        (s.onVoteResult err term result).votesNeeded = s.votesNeeded - 1 ∧
        ((s.onVoteResult err term result).role = .leader ↔ (s.votesNeeded - 1 = 0 ∨ s.role = .leader))) ∧
    (¬ (err = false ∧ term ≤ s.term ∧ result = rSuccess) →
        (s.onVoteResult err term result).votesNeeded = s.votesNeeded ∧
        ((s.onVoteResult err term result).role = .leader → s.role = .leader)) := by
  have hst : ∀ (x : Node) t, (x.setTerm t).votesNeeded = x.votesNeeded ∧ (x.setTerm t).role = x.role := by
    intro x t
    unfold Node.setTerm Node.storeTermVote Node.panic Node.point
    constructor <;> (repeat' split) <;> rfl
  constructor
  · intro ⟨he, ht, hr⟩
    unfold Node.onVoteResult
    simp only [he, Bool.false_eq_true, if_false, show ¬ term > s.term from by omega, hr, if_true]
    constructor
    · split <;> rfl
    · constructor
      · intro h
        split at h
        · left; assumption
        · right; exact h
      · intro h
        rcases h with h | h
        · rw [if_pos (show (s.withVotesNeeded (s.votesNeeded - 1)).votesNeeded = 0 from h)]; rfl
        · split
          · rfl
          · exact h
  · intro hn
    unfold Node.onVoteResult
    by_cases he : err = true
    · simp [he]
    · have he' : err = false := by simpa using he
      simp only [he', Bool.false_eq_true, if_false]
      by_cases ht : term > s.term
      · rw [if_pos ht]
        obtain ⟨a, b⟩ := hst (s.setRole .follower) term
        refine ⟨by rw [a]; rfl, fun h => ?_⟩
        rw [b] at h; cases h
      · rw [if_neg ht]
        have hr : ¬ result = rSuccess := fun hr => hn ⟨he', by omega, hr⟩
        rw [if_neg hr]
        exact ⟨rfl, id⟩

/-- `startElection` asks for the quorum of the latest configuration and counts the self vote:
the node needs `quorum - 1` more votes, and is leader at once exactly when that is zero. -/
theorem election_starts_with_quorum (s : Node) :
    s.startElection.votesNeeded = (s.configs.latest.quorum : Int) - 1 ∧
    (s.startElection.role = .leader ↔ ((s.configs.latest.quorum : Int) - 1 = 0 ∨ s.role = .leader)) := by
  obtain ⟨_, _, _, _, e5, e6⟩ := Node.startElection_spec s
  refine ⟨e5, fun h => ?_, fun h => ?_⟩
  · rcases e6 with ⟨q0, _⟩ | ⟨_, r⟩
    · exact Or.inl q0
    · exact Or.inr (r ▸ h)
  · rcases e6 with ⟨_, r⟩ | ⟨q0, r⟩
    · exact r
    · rcases h with h | h
      · exact absurd h q0
      · rw [r]; exact h

end C01
end Raft

#print axioms Raft.C01.vote_unique
#print axioms Raft.C01.quorums_intersect
#print axioms Raft.C01.election_safety_partial
#print axioms Raft.C01.candidate_counts_down
#print axioms Raft.C01.election_starts_with_quorum
#print axioms Raft.Repl.stale_term_stops
