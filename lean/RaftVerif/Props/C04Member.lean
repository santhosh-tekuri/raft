/-
C04 (log matching) on the cluster-level transition system WITH membership changes (`Raft.Member`) — the replication
layer of the joint induction, proved from ELECTION SAFETY of the states passed.

`RInv x E` generalises `Replication.Inv V`: every node is well formed and its log is a path in the tree `created`; the
tree holds at most one record per (index, term) (`Uniq`); every request on the wire is a slice of the tree; an entry
created by node `l` has an election record `k ∈ E` for its term with `l` backed by a majority of grants OF THE VOTERS OF
`k.cfg` (instead of a fixed `V`), … — it is `EInv` plus `C04Sys.LogInv` for this notion of election (`ElE`), and its
preservation (`rinv_upd`, `upd_step`, `upd_crash`, `rinv_send`) is that of `LogInv`.
`rinv_reachable`: `RInv` holds in every state reachable by runs whose states satisfy `Side`: every node bootstrapped; no
single-voter configuration (`quorum ≠ 1` — then a node is never elected by its own vote alone, which is the one case
in which the grant ledger of a crashed step is incomplete); and `ESafe`: two election records of one term that are both
backed by a majority of their own configuration name the same candidate (election safety; `esafe_of_overlap`: it
follows from `EInv` when the voter lists of such records are equal or adjacent).
Consequences: `log_matching_member_partial`; and, with NO hypothesis on elections,
`log_matching_one_change_partial`: log matching in every run in which the voters of every node's latest configuration
are `V` or an adjacent `V'` (both with at least two voters).
-/
import RaftVerif.Props.C08Sys

namespace Raft
namespace C04Member
open Node Election LogRel Replication C01 C01Sys Member C01Member QuorumRel C04Sys

/-- election safety of the records: two records of one term, each backed by a majority of grants of the voters of its
own configuration, name the same candidate -/
def ESafe (G : List Grant) (E : List ECfg) : Prop :=
  ∀ k ∈ E, ∀ k' ∈ E, k.term = k'.term → Backed G k.cfg.voters k.cand k.term →
    Backed G k'.cfg.voters k'.cand k'.term → k.cand = k'.cand

/-- it follows from grant uniqueness when the voter lists of backed records of one term are equal or adjacent -/
theorem esafe_of_overlap {G : List Grant} {E : List ECfg} (hu : GrantsUnique G)
    (hov : ∀ k ∈ E, ∀ k' ∈ E, k.term = k'.term → k.cfg.voters.Nodup ∧ k'.cfg.voters.Nodup ∧
      AdjLists k.cfg.voters k'.cfg.voters) : ESafe G E := by
  intro k hk k' hk' ht b b'
  obtain ⟨n1, n2, n3⟩ := hov k hk k' hk' ht
  rw [← ht] at b'
  exact election_safety_adjacent G _ _ n1 n2 n3 hu _ _ _ b b'

/-- **the replication invariant without a fixed voter set** -/
structure RInv (x : Replication.Sys) (E : List ECfg) : Prop where
  el : EInv x.el E
  nodes : ∀ i, NWF (x.el.node i) ∧ Chain x.created none (x.el.node i).log.entries
  uniq : Uniq x.created
  sent : ∀ q ∈ x.sent, ReqOK x.created q
  init0 : ∀ c ∈ x.created, c.cr = 0 → ∀ j, c.e.term ≤ (x.el.node j).term ∧
    ((x.el.node j).role ≠ .follower → c.e.term < (x.el.node j).term)
  own : ∀ c ∈ x.created, c.cr ≠ 0 →
    (∃ k ∈ E, k.cand = c.cr ∧ k.term = c.e.term ∧ Backed x.el.grants k.cfg.voters c.cr c.e.term) ∧
    c.e.term ≤ (x.el.node c.cr).term ∧
    ((x.el.node c.cr).role = .leader → c.e.term = (x.el.node c.cr).term →
      c.e.index ≤ (x.el.node c.cr).lastLogIndex) ∧
    ((x.el.node c.cr).role = .candidate → c.e.term < (x.el.node c.cr).term)

theorem rinv_init (x : Replication.Sys) (h : Replication.Init x) : RInv x [] := by
  refine ⟨einv_init x.el h.el, h.nodes, h.uniq, ?_, ?_, ?_⟩
  · rw [h.sent]; intro q hq; cases hq
  · intro c hc _ j
    exact ⟨h.terms c hc j, fun hr => absurd (h.el.1 j).2.2 hr⟩
  · intro c hc hne; exact absurd (h.cr0 c hc) hne

/-- a node that appends to its own log was elected for the entries' term: it has an election record and is backed by
a majority of grants (already in the ledger before the step) of the voters of that record's configuration — when
its quorum is not one -/
theorem story_backed {x : Replication.Sys} {E : List ECfg} (hI : RInv x E) (i : Nat) (op : Op) (src te : Nat)
    (hq1 : (x.el.node i).configs.latest.quorum ≠ 1)
    (hr : Counts (x.el.node i) op → RealReply x.el i src) (hs : Story (x.el.node i) op te) :
    ∃ k ∈ E, k.cand = i ∧ k.term = te ∧ Backed x.el.grants k.cfg.voters i te := by
  rcases hs with ⟨h, ht⟩ | ⟨h, h0, ht⟩ | ⟨_, hq, _⟩
  · obtain ⟨k, hk, k1, k2, _, k4⟩ := hI.el.backed _ _ (hI.el.recorded i h)
    rw [ht]
    exact ⟨k, hk, k1, k2, k4⟩
  · rw [ht]
    exact ⟨_, (hI.el.cand i h.1).recd, rfl, rfl, (hI.el.cand i h.1).backed_last (hr h) h0⟩
  · exact absurd hq hq1

/-- node `l` counts as elected for term `t`: an election record names it, backed by a majority of grants of the voters
of the record's own configuration -/
def ElE (G : List Grant) (E : List ECfg) (l t : Nat) : Prop :=
  ∃ k ∈ E, k.cand = l ∧ k.term = t ∧ Backed G k.cfg.voters l t

theorem elE_unique {G : List Grant} {E : List ECfg} (hS : ESafe G E) {l l' t : Nat} :
    ElE G E l t → ElE G E l' t → l = l'
  | ⟨k, hk, k1, k2, k3⟩, ⟨k', hk', k1', k2', k3'⟩ => by
    have := hS k hk k' hk' (k2.trans k2'.symm) (by rw [k1, k2]; exact k3) (by rw [k1', k2']; exact k3')
    rw [k1, k1'] at this
    exact this

/-- `RInv` is the election invariant `EInv` and the log invariant of `C04Sys` for `ElE` -/
theorem RInv.logInv {x : Replication.Sys} {E : List ECfg} (hI : RInv x E) : LogInv (ElE x.el.grants E) x :=
  ⟨hI.nodes, hI.uniq, hI.sent, hI.init0, hI.own⟩

theorem rinv_of_logInv {x : Replication.Sys} {E : List ECfg} (hel : EInv x.el E)
    (h : LogInv (ElE x.el.grants E) x) : RInv x E :=
  ⟨hel, h.nodes, h.uniq, h.sent, h.init0, h.own⟩

/-- **a transition of one node preserves the invariant** when the node update satisfies `UpdM`, the election part
of the new state satisfies the election invariant and no grant or election record was lost -/
theorem rinv_upd {x : Replication.Sys} {E : List ECfg} (hI : RInv x E) (hS : ESafe x.el.grants E) (i : Nat) (op : Op)
    (src : Nat) (n' : Node) (hi : i ≠ 0) (hq1 : (x.el.node i).configs.latest.quorum ≠ 1)
    (hr : Counts (x.el.node i) op → RealReply x.el i src)
    (hu : UpdM x i op n') (el' : Election.Sys) (E' : List ECfg) (hnode : el'.node = setNode x.el.node i n')
    (hgr : ∀ g ∈ x.el.grants, g ∈ el'.grants) (hE : ∀ k ∈ E, k ∈ E') (hel : EInv el' E') :
    RInv { el := el', sent := x.sent,
           created := newCreated i (x.el.node i).log.entries n'.log.entries op ++ x.created } E' :=
  rinv_of_logInv hel (logInv_upd hI.logInv (fun _ _ _ => elE_unique hS) i op n' hi hu
    (fun te => story_backed hI i op src te hq1 hr)
    (fun _ _ ⟨k, hk, k1, k2, k3⟩ => ⟨k, hE k hk, k1, k2, C01Sys.backed_mono hgr k3⟩) el' hnode)

theorem upd_step {x : Replication.Sys} {E : List ECfg} (hI : RInv x E)
    (i : Nat) (hboot : (x.el.node i).configs.isBootstrapped = true) (op : Op)
    (ra : List Nat) (ord : List (List Nat)) (src : Nat) (he : Replication.Enabled x i op src) :
    UpdM x i op ((x.el.node i).step op ra ord) :=
  updM_step hI.logInv i (hI.el.ids i).2 (fun h => (hI.el.cand i h).term_pos) hboot op ra ord src he

theorem upd_crash {x : Replication.Sys} {E : List ECfg} (hI : RInv x E)
    (i : Nat) (hboot : (x.el.node i).configs.isBootstrapped = true) (op : Op)
    (ra : List Nat) (ord : List (List Nat)) (src k retain : Nat) (sor : Bool) (n : Node)
    (he : Replication.Enabled x i op src)
    (hn : Node.restart (C05.crashDisk (x.el.node i) op ra ord k) retain sor = some n) :
    UpdM x i op n :=
  updM_crash hI.logInv i (hI.el.ids i).2 (fun h => (hI.el.cand i h).term_pos) hboot op ra ord src k retain sor n he hn

theorem rinv_send {x : Replication.Sys} {E : List ECfg} (hI : RInv x E) (i : Nat) (q : AppendReq)
    (hr : ReadFrom (x.el.node i) q) : RInv { x with sent := q :: x.sent } E :=
  rinv_of_logInv hI.el (logInv_send hI.logInv i q hr)

/-- side condition on the states of a run: every node is bootstrapped, no node's latest configuration has a quorum
of one, and the election records are safe (`ESafe`) -/
def Side (x : Member.Sys) : Prop :=
  Boot x ∧ (∀ i, (x.node i).configs.latest.quorum ≠ 1) ∧ ESafe x.el.grants x.ecfg

/-- **the replication invariant holds in every reachable state of the system with membership changes** whose run
satisfies `Side` -/
theorem rinv_reachable (x : Member.Sys) (h : ReachableP Side x) : RInv x.cm.rp x.ecfg := by
  induction h with
  | init x hi _ =>
    rw [hi.ecfg]
    exact rinv_init x.cm.rp hi.cm.rp
  | next x y hx ht _ ih =>
    obtain ⟨hb, hq, hS⟩ := hx.side
    cases ht with
    | step i op ra ord src he =>
      exact rinv_upd ih hS i op src _ he.rp.id (hq i) he.rp.real (upd_step ih i (hb i) op ra ord src he.rp)
        (stepSys x.cm.rp.el i op ra ord src) _ rfl
        (fun g hg => List.mem_append_right _ (List.mem_append_right _ hg))
        (fun k hk => List.mem_append_right _ hk)
        (einv_step x.cm.rp.el x.ecfg ih.el i op ra ord src he.rp.id (hb i) he.rp.ok he.rp.voteSrc he.rp.real)
    | crash i op ra ord src k retain sor n he hn =>
      exact rinv_upd ih hS i op src n he.rp.id (hq i) he.rp.real
        (upd_crash ih i (hb i) op ra ord src k retain sor n he.rp hn)
        { x.cm.rp.el with node := setNode x.cm.rp.el.node i n } _ rfl (fun g hg => hg)
        (fun k hk => List.mem_append_right _ hk)
        (einv_crash x.cm.rp.el x.ecfg ih.el i op ra ord k retain sor n hn)
    | send i q _ _ hr _ => exact rinv_send ih i q hr

/-- **C04, log matching, cluster level, WITH membership changes (partial).** Let `x` be any state of `Member`
(Sys/Member.lean: any node handling any enabled operation — `.changeConfig` requests and configuration entries
included —, crashes at any storage point and restarts, leaders sending append requests read from their logs; no
snapshots) reachable by runs whose states satisfy `Side`: every node is bootstrapped, no latest configuration has a
quorum of one, and **election safety of the election records holds in every state of the run** (`ESafe`: the
`_partial` restriction — it is what `esafe_of_overlap` derives when the configurations of one term's elections are
equal or adjacent). Then:
1. if the logs of nodes `i` and `j` hold entries with the same term at index `k`, then at every index `k' ≤ k` that
   both logs hold they hold the SAME entry — index, term, type, payload and configuration;
2. the tree of created entries holds at most one record per (index, term), and every log entry and every entry of a
   request on the wire is recorded in it. -/
theorem log_matching_member_partial (x : Member.Sys) (h : ReachableP Side x) :
    (∀ (i j k : Nat) (a b : Entry), (x.node i).log.get? k = some a → (x.node j).log.get? k = some b →
      a.term = b.term → ∀ k', k' ≤ k → ∀ a' b', (x.node i).log.get? k' = some a' → (x.node j).log.get? k' = some b' →
        a' = b') ∧
    Uniq x.cm.T ∧
    (∀ i k e, (x.node i).log.get? k = some e → ∃ c ∈ x.cm.T, c.e = e) ∧
    (∀ q ∈ x.cm.rp.sent, ReqOK x.cm.T q) := by
  have hI := rinv_reachable x h
  refine ⟨fun i j k a b ha hb ht k' hk a' b' ha' hb' => ?_, hI.uniq, fun i k e he => ?_, hI.sent⟩
  · exact log_matching_of_chain hI.uniq (hI.nodes i) (hI.nodes j) k a b ha hb ht k' hk a' b' ha' hb'
  · have e1 : (x.node i).log.get? k = _ := (hI.nodes i).1.get? k
    rw [e1] at he
    split at he
    · exact chain_mem (hI.nodes i).2 e (List.mem_of_getElem? he)
    · cases he

/-! ### one change of the voter set: no hypothesis on elections -/

theorem side_of_twoV {V V' : List Nat} (hV : V.Nodup) (hV' : V'.Nodup) (hadj : AdjLists V V') (h2 : 2 ≤ V.length)
    (h2' : 2 ≤ V'.length) (x : Member.Sys) (h : ReachableP (C08Sys.TwoV V V') x) : Side x := by
  have hb : ReachableP Boot x := h.mono (fun _ hp => hp.1)
  have hI := einv_reachable x hb
  have hcf := C08Sys.ecfg_twoV x h
  refine ⟨h.side.1, fun i => ?_, esafe_of_overlap hI.unique (fun k hk k' hk' _ => ?_)⟩
  · rw [quorum_eq]
    rcases h.side.2 i with e | e <;> rw [e] <;> omega
  · rcases hcf k hk with e | e <;> rcases hcf k' hk' with e' | e' <;> rw [e, e']
    · exact ⟨hV, hV, AdjLists.refl V⟩
    · exact ⟨hV, hV', hadj⟩
    · exact ⟨hV', hV, hadj.symm⟩
    · exact ⟨hV', hV', AdjLists.refl V'⟩

theorem reachable_side_of_twoV {V V' : List Nat} (hV : V.Nodup) (hV' : V'.Nodup) (hadj : AdjLists V V')
    (h2 : 2 ≤ V.length) (h2' : 2 ≤ V'.length) (x : Member.Sys) (h : ReachableP (C08Sys.TwoV V V') x) :
    ReachableP Side x := by
  induction h with
  | init x hi hp => exact .init x hi (side_of_twoV hV hV' hadj h2 h2' x (.init x hi hp))
  | next x y hx ht hp ih => exact .next x y ih ht (side_of_twoV hV hV' hadj h2 h2' y (.next x y hx ht hp))

/-- **C04 across one membership change (no hypothesis on elections).** Let `V`, `V'` be duplicate-free voter lists
with at least two voters each that differ by at most one id. In every state of `Member` reachable by runs in which
every node is bootstrapped and the voters of every node's latest configuration are `V` or `V'` in every state (the
voter set changes from `V` to `V'` or back, at any time, node by node; any number of non-voter changes, crashes,
restarts): logs that hold entries of the same term at an index hold the same entries up to that index, and the tree
of created entries holds at most one record per (index, term). (`V' = V`: `C04Sys.log_matching_sys_partial`, there
without the two-voter restriction.) -/
theorem log_matching_one_change_partial (V V' : List Nat) (hV : V.Nodup) (hV' : V'.Nodup) (hadj : AdjLists V V')
    (h2 : 2 ≤ V.length) (h2' : 2 ≤ V'.length) (x : Member.Sys) (h : ReachableP (C08Sys.TwoV V V') x) :
    (∀ (i j k : Nat) (a b : Entry), (x.node i).log.get? k = some a → (x.node j).log.get? k = some b →
      a.term = b.term → ∀ k', k' ≤ k → ∀ a' b', (x.node i).log.get? k' = some a' → (x.node j).log.get? k' = some b' →
        a' = b') ∧
    Uniq x.cm.T :=
  let r := log_matching_member_partial x (reachable_side_of_twoV hV hV' hadj h2 h2' x h)
  ⟨r.1, r.2.1⟩

/-- EXAMPLE: the hypotheses of `log_matching_one_change_partial` (and hence `Side` in every state of the run,
`reachable_side_of_twoV`) hold for the reachable state `C08Sys.ex1` — node 1 is candidate of term 2 — with
`V = {1,2,3}` and `V' = {1,2,3,4}`, the voter sets before and after the promotion of node 4 in the scenario of
`C08Sys` -/
example : ReachableP Side C08Sys.ex1 ∧ Uniq C08Sys.ex1.cm.T :=
  have h := C08Sys.ex1_twoV
  ⟨reachable_side_of_twoV h.1 h.2.1 h.2.2.1 (by decide) (by decide) _ h.2.2.2,
   (log_matching_one_change_partial _ _ h.1 h.2.1 h.2.2.1 (by decide) (by decide) _ h.2.2.2).2⟩

end C04Member
end Raft

#print axioms Raft.C04Member.rinv_reachable
#print axioms Raft.C04Member.log_matching_member_partial
#print axioms Raft.C04Member.log_matching_one_change_partial
