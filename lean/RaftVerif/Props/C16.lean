/-
C16 — Leadership transfer is safe and means what it reports (node-local decision logic).
"never two leaders in one term" is C01 (vote requests with the transfer flag are part of that model).
-/
import RaftVerif.Lemmas.LocalA

namespace Raft
namespace C16
open Node

/-- **the successor is eligible**: `tryTransfer` picks `t` only if `t` is a voter of the latest
configuration other than the leader itself (`hself`: the leader keeps no replication for itself), reachable,
and its match index equals the leader's last log index (it holds every entry the leader accepted). -/
theorem transfer_target_eligible (s : Node) (t : Nat) (ht : s.tryTransferTarget.1 = t) (h0 : t ≠ 0)
    (hself : s.findRepl? s.nid = none) :
    s.configs.latest.isVoter t = true ∧ t ≠ s.nid ∧
    ∃ r, s.findRepl? t = some r ∧ r.noContact = false ∧ r.matchIndex = s.lastLogIndex := by
  unfold Node.tryTransferTarget at ht
  dsimp only at ht
  split at ht
  · rename_i htar
    split at ht
    · rename_i hv
      split at ht
      · rename_i r hr
        dsimp only at ht
        split at ht
        · rename_i hc
          subst ht
          refine ⟨hv, ?_, r, hr, by simpa using hc.1, hc.2⟩
          intro he; rw [he] at hr; rw [hself] at hr; cases hr
        · exact absurd ht.symm h0
      · exact absurd ht.symm h0
    · exact absurd ht.symm h0
  · dsimp only at ht
    cases hf : (List.filter (fun id => id != s.nid && s.configs.latest.isVoter id) s.replOrder).find? s.transferReady with
    | none => rw [hf] at ht; exact absurd ht.symm h0
    | some x =>
      rw [hf] at ht
      simp only [Option.getD_some] at ht
      subst ht
      have hm := List.mem_of_find?_eq_some hf
      have hp := List.find?_some hf
      simp only [List.mem_filter, Bool.and_eq_true, bne_iff_ne, ne_eq] at hm
      unfold Node.transferReady at hp
      split at hp
      · rename_i r hr
        simp only [Bool.and_eq_true, Bool.not_eq_eq_eq_not, Bool.not_true, beq_iff_eq] at hp
        exact ⟨hm.2.2, hm.2.1, r, hr, hp.1, hp.2⟩
      · cases hp

/-- what a leader that takes no entries answers: a transfer is in progress, or it is no longer a voter (its own
demotion or removal is in the log but not yet committed) -/
def refusal (s : Node) : Option String :=
  if s.ldr.transfer.active then some "inProgress:transferLeadership"
  else if !s.ldr.node.voter then
    some (if s.configs.latest.has s.nid then "inProgress:demoteLeader" else "inProgress:removeLeader")
  else none

/-- **a refusing leader only answers**: every task of the batch gets the refusal, nothing else changes -/
theorem storeItems_refusing (fuel : Nat) (s : Node) (batch : List QItem) (r : String)
    (h : refusal s = some r) (hf : fuel ≥ batch.length) :
    storeItems fuel s batch = s.addReplies (batch.flatMap (fun q => mkReply? q.task r)) := by
  induction batch generalizing s fuel with
  | nil => unfold storeItems; exact (addReplies_nil s).symm
  | cons q qs ih =>
    cases fuel with
    | zero => simp at hf
    | succ n =>
      unfold storeItems
      dsimp only
      have e : ∀ x : Node, (if s.ldr.transfer.active = true then s.reply q.task "inProgress:transferLeadership"
          else if (!s.ldr.node.voter) = true then
            (if s.configs.latest.has s.nid = true then s.reply q.task "inProgress:demoteLeader"
             else s.reply q.task "inProgress:removeLeader")
          else x) = s.reply q.task r := by
        intro x
        unfold refusal at h
        by_cases ht : s.ldr.transfer.active = true
        · rw [if_pos ht] at h ⊢; cases h; rfl
        · rw [if_neg ht] at h ⊢
          by_cases hv : (!s.ldr.node.voter) = true
          · rw [if_pos hv] at h ⊢; cases h; split <;> rfl
          · rw [if_neg hv] at h; cases h
      rw [e, reply_eq_addReplies, ih n (s.addReplies (mkReply? q.task r)) h (by simp at hf; omega),
        addReplies_addReplies]
      rfl

/-- while a transfer is in progress the leader appends nothing: every submitted entry is answered
`InProgressError("transferLeadership")`. -/
theorem store_rejected_during_transfer (fuel : Nat) (s : Node) (batch : List QItem)
    (h : s.ldr.transfer.active = true) (hf : fuel ≥ batch.length) :
    (storeItems fuel s batch).log = s.log ∧ (storeItems fuel s batch).lastLogIndex = s.lastLogIndex ∧
    (storeItems fuel s batch).ldr = s.ldr ∧ (storeItems fuel s batch).configs = s.configs := by
  rw [storeItems_refusing fuel s batch _ (by unfold refusal; rw [if_pos h]) hf]; exact ⟨rfl, rfl, rfl, rfl⟩

/-- no membership change is started while a transfer is in progress -/
theorem no_config_change_during_transfer (s : Node) (h : s.ldr.transfer.active = true) :
    s.canChangeConfig = false := by
  unfold Node.canChangeConfig; simp [h]

/-- `validateTransfer`: the documented error for a transfer in progress, a single voter, the leader itself as
target, an unknown target; a valid request names no target or another voter (so a non-voter target is refused;
its error, ErrTransferTargetNonvoter, is not stated). That a refused request has no effect:
`onTransfer_invalid_no_effect`. -/
theorem validate_transfer_classes (s : Node) (target : Nat) :
    (s.ldr.transfer.active = true → s.validateTransfer target = "inProgress:transferLeadership") ∧
    (s.ldr.transfer.active = false → s.configs.latest.numVoters = 1 → s.validateTransfer target = "plain:transferNoVoter") ∧
    (s.ldr.transfer.active = false → s.configs.latest.numVoters ≠ 1 → target ≠ 0 → target = s.nid →
        s.validateTransfer target = "plain:transferSelf") ∧
    (s.ldr.transfer.active = false → s.configs.latest.numVoters ≠ 1 → target ≠ 0 → target ≠ s.nid →
        s.configs.latest.find? target = none → s.validateTransfer target = "plain:transferInvalidTarget") ∧
    (s.validateTransfer target = "" → s.ldr.transfer.active = false ∧ s.configs.latest.numVoters ≠ 1 ∧
        (target = 0 ∨ (target ≠ s.nid ∧ s.configs.latest.isVoter target = true))) := by
  unfold Node.validateTransfer
  refine ⟨?_, ?_, ?_, ?_, ?_⟩
  · intro h; simp [h]
  · intro h1 h2; simp [h1, h2]
  · intro h1 h2 h3 h4; subst h4; simp [h1, h2, h3]
  · intro h1 h2 h3 h4 h5; simp [h1, h2, h3, h4, h5]
  · intro h
    split at h
    · simp at h
    · split at h
      · simp at h
      · rename_i ha hn
        refine ⟨by simpa using ha, hn, ?_⟩
        split at h
        · rename_i h0
          split at h
          · simp at h
          · rename_i hs
            right
            refine ⟨hs, ?_⟩
            unfold Config.isVoter
            split at h
            · rename_i n hfn
              rw [hfn]
              split at h
              · simp at h
              · rename_i hv; simpa using hv
            · simp at h
        · rename_i h0; left; simpa using h0

theorem onTransfer_invalid_no_effect (s : Node) (task target : Nat) (h : s.validateTransfer target ≠ "") :
    s.onTransfer task target = s.reply task (s.validateTransfer target) := by
  unfold Node.onTransfer
  dsimp only
  rw [if_pos h]

/-- **success means a higher term**: when a leader with a transfer in progress releases its role, the
transfer task is answered `nil` (success) exactly when the node's term is above the term in which the
transfer started; otherwise it is an error (server closed / quorum unreachable). -/
theorem transfer_success_means_higher_term (s : Node) :
    s.releaseResult = "ok" ↔ s.term > s.ldr.transfer.term := by
  unfold Node.releaseResult
  constructor
  · intro hr
    split at hr
    · assumption
    · split at hr <;> simp at hr
  · intro hgt; rw [if_pos hgt]

/-- the reply chosen by `leaderRelease` for a transfer in progress is the one characterised above -/
theorem leaderRelease_transfer_reply (s : Node) (ht : s.ldr.transfer.task ≠ 0) :
    (s.transferReply (s.releaseResult)).replies
      = s.replies ++ [{ task := s.ldr.transfer.task, result := s.releaseResult }] := by
  unfold Node.transferReply Node.reply Node.withLdr
  simp [ht]

/-- …and that is what `leaderRelease` does first when a transfer is in progress -/
theorem leaderRelease_uses_releaseResult (s : Node) (h : s.ldr.transfer.active = true) :
    s.leaderRelease = (s.transferReply s.releaseResult).leaderReleaseRest := by
  unfold Node.leaderRelease
  rw [if_pos h]

/-- after a transfer timed out the postponed configuration actions are re-evaluated -/
theorem timeout_reenables_actions (s : Node) (r : String) :
    s.replyTransfer r = checkConfigActions (fuelFor 0) (s.transferReply r) 0 (s.transferReply r).configs.latest := rfl

/-- a reply to the transfer task clears the transfer: afterwards entries and actions are accepted again -/
theorem transferReply_clears (s : Node) (r : String) : (s.transferReply r).ldr.transfer.active = false := by
  unfold Node.transferReply Node.withLdr; rfl

end C16
end Raft

#print axioms Raft.C16.transfer_target_eligible
#print axioms Raft.C16.store_rejected_during_transfer
#print axioms Raft.C16.no_config_change_during_transfer
#print axioms Raft.C16.validate_transfer_classes
#print axioms Raft.C16.onTransfer_invalid_no_effect
#print axioms Raft.C16.transfer_success_means_higher_term
#print axioms Raft.C16.leaderRelease_transfer_reply
#print axioms Raft.C16.leaderRelease_uses_releaseResult
#print axioms Raft.C16.timeout_reenables_actions
#print axioms Raft.C16.transferReply_clears
