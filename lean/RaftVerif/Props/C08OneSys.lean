/-
C08 (/ C01 / C02) on the cluster-level transition system WITH membership changes (`Raft.Member`, Sys/Member.lean), THROUGH
single-voter configurations (quorum 1) and steps that append SEVERAL configuration entries.

(a) `config_chain_one_partial`: every configuration entry a step appended — however many, however deeply nested, stored by
    the handler or by `leader.init` of a node elected inside the step — is `One.Link`ed to the configuration before it. This
    removes the `nested` escape of `C08Sys.config_chain_partial`; it rests on `One.step_pw` (Lemmas/MemberOneD.lean).
(b) adjacency / intersection for every consecutive pair of the chain, 1 ↔ 2 voters included: `link_adjLists`,
    `link_quorums_intersect`, `chain_pairs`, `change_pairs_partial`.
(c) `election_safety_bootstrap_partial`: election safety for a cluster started as the single voter `a` and grown by `b`, with
    NO hypothesis on elections (an instance of `C08Sys.election_safety_one_change_partial`, which has no lower bound on the
    number of voters; `C01Member.einv_reachable` covers a node elected by its own vote alone).

What is NOT here: the unconditional theorems of Props/C08Member.lean (election safety, leader completeness, commit-index
safety for ARBITRARY chains) for runs through quorum 1. `MemberCore.member_safety` / `adjacent_quorums_intersect` have no
lower bound on the number of voters, and the node-level ingredient for multi-entry steps is (a)/(b). The restriction
"quorum ≠ 1" (`SideC.q1`, from `ReqG`'s two anchors) is used in the INSTANTIATION, to rule out "follower → leader within one
step": `C04Member.story_backed` / `rinv_upd`, `C04Sys.new_old_absurd` (third case of `LogRel.Story`: the grant ledger of a
CRASHED self-election is incomplete — `Election.Trans.crash` records no grant), `MemberCommit.nstepM` (`init_no_commit`:
nothing is committed inside `leader.init`), `MemberStep.leader_pre` / `NewM` (`Commit.NewC.no_old`),
`MemberCrash` (`rinv_upd`), and `MemberSide.ev_small` + `MemberGood.CfgAll` (two voters ⇒ one configuration entry per step
⇒ `SideT.adj`).
-/
import RaftVerif.Lemmas.MemberOneD
import RaftVerif.Props.C08Sys
import RaftVerif.Props.C08One
import RaftVerif.Lemmas.EnabledAtM

namespace Raft
namespace C08OneSys
open Node Election Member QuorumRel CfgRel Raft.One CommitRel

/-! ### (b) voter lists of linked configurations -/

theorem mem_voters_iff {c : Config} (h : Srt c) (x : Nat) : x ∈ c.voters ↔ c.isVoter x = true := by
  constructor
  · intro hx
    unfold Config.voters at hx
    obtain ⟨n, hn, hid⟩ := List.mem_map.mp hx
    obtain ⟨hm, hv⟩ := List.mem_filter.mp hn
    have hf : c.find? x = some n := by
      rw [← hid]
      unfold Config.find?
      exact Config.find?_of_mem_nodup c.nodes (by
        rw [List.Nodup, List.pairwise_map]
        exact h.imp (fun hab => Nat.ne_of_lt hab)) n hm
    unfold Config.isVoter
    rw [hf]; exact hv
  · exact C01Sys.isVoter_mem_voters c x

theorem voters_nodup {c : Config} (h : Srt c) : c.voters.Nodup := by
  unfold Config.voters
  rw [List.Nodup, List.pairwise_map]
  exact (List.Pairwise.filter _ h).imp (fun hab => Nat.ne_of_lt hab)

/-- **linked configurations have adjacent voter lists** (member ids strictly increasing) -/
theorem link_adjLists {c c' : Config} (hs : Srt c) (h : Link c c') : AdjLists c.voters c'.voters := by
  obtain ⟨id, hid⟩ := h.adj.1
  refine ⟨id, fun x hx => ?_⟩
  rw [mem_voters_iff hs, mem_voters_iff (h.srt hs), hid x hx]

/-- **every majority of the voters of `c` meets every majority of the voters of the next configuration `c'`** — whatever
the numbers of voters: `{a}` / `{a, b}` (majorities `{a}` and `{a, b}`), `{a, b}` / `{b}` included -/
theorem link_quorums_intersect {c c' : Config} (hs : Srt c) (h : Link c c') (Q Q' : List Nat) (hQ : Q.Nodup)
    (hQ' : Q'.Nodup) (hq : ∀ x ∈ Q, x ∈ c.voters) (hq' : ∀ x ∈ Q', x ∈ c'.voters)
    (h1 : 2 * Q.length > c.voters.length) (h2 : 2 * Q'.length > c'.voters.length) : ∃ x, x ∈ Q ∧ x ∈ Q' :=
  adjacent_quorums_intersect c.voters c'.voters Q Q' (voters_nodup hs) (voters_nodup (h.srt hs)) hQ hQ'
    (link_adjLists hs h) hq hq' h1 h2

/-- what is known of two consecutive configurations of a chain -/
structure Pair (c c' : Config) : Prop where
  link : Link c c'
  srt : Srt c ∧ Srt c'
  nodup : c.voters.Nodup ∧ c'.voters.Nodup
  adj : AdjLists c.voters c'.voters
  meet : ∀ Q Q' : List Nat, Q.Nodup → Q'.Nodup → (∀ x ∈ Q, x ∈ c.voters) → (∀ x ∈ Q', x ∈ c'.voters) →
    2 * Q.length > c.voters.length → 2 * Q'.length > c'.voters.length → ∃ x, x ∈ Q ∧ x ∈ Q'

/-- consecutive configurations of the list (starting from `c`) are `Pair`s -/
def Pairs : Config → List Config → Prop
  | _, [] => True
  | c, c' :: cs => Pair c c' ∧ Pairs c' cs

theorem pairs_of_links {cs : List Config} : ∀ {c : Config}, Srt c → C08One.Links c cs → Pairs c cs := by
  induction cs with
  | nil => intro c _ _; trivial
  | cons a as ih =>
    intro c hs h
    exact ⟨⟨h.1, ⟨hs, h.1.srt hs⟩, ⟨voters_nodup hs, voters_nodup (h.1.srt hs)⟩, link_adjLists hs h.1,
      link_quorums_intersect hs h.1⟩, ih (h.1.srt hs) h.2⟩

/-- **the chain of a step, pair by pair**: the configurations among the entries `ext` of a `Chain1`, in order, starting
from a configuration with strictly increasing member ids -/
theorem chain_pairs {c₀ c : Config} {es : List Entry} (hs : Srt c₀) (h : Chain1 c₀ es c) :
    Pairs c₀ (C08One.cfgsOf es) ∧ C08One.lastOr c₀ (C08One.cfgsOf es) = c :=
  ⟨pairs_of_links hs (C08One.chain_links h).1, (C08One.chain_links h).2⟩

/-! ### one whole step, any role, any operation but append / install requests (node level) -/

/-- **step_chain_any_partial — `C08One.step_chain_partial` for EVERY role and every operation other than an append /
install-snapshot request** (those are the follower side: they adopt / truncate, `C08Step.config_step`). A bootstrapped node
`s` — follower, candidate or leader — with `latest.index ≤ lastLogIndex`, an anchor (or an empty configuration), current
leader caches if it is leader (`C06Cache.LeaderCache`: proved of every reachable state); a client batch without
configuration items, a submitted configuration with distinct ids that are strictly increasing if those of the latest
configuration are. Unless the step fails: `One.LogChain s s'` — the entries appended within the step, by the handler or by
`leader.init` when the node is ELECTED INSIDE THE STEP (the only voter at its election timeout; a candidate counting the
last vote), form a `Chain1`: every configuration entry is `Link`ed to the configuration before it. -/
theorem step_chain_any_partial (s : Node) (op : Op) (ra : List Nat) (ord : List (List Nat))
    (hb : s.configs.isBootstrapped = true) (hli : s.configs.latest.index ≤ s.lastLogIndex)
    (hanch : AnchC s.configs.latest) (hlc : C06Cache.LeaderCache s) (hok : CfgRel.OpOk op)
    (hsr : ∀ task c, op = .changeConfig task c → Srt s.configs.latest → Srt c)
    (hna : ∀ q, op ≠ .append q) (hni : ∀ q, op ≠ .install q) (hp : (s.step op ra ord).panicked = none) :
    LogChain s (s.step op ra ord) :=
  (step_pw s op ra ord hli hanch (fun hl => (C06Cache.cacheOK_iff s).mp (hlc hl)) hok hsr hna hni (fun _ => hb) hp).chain hp

/-! ### (a) the ledger of steps -/

/-- node-level side condition (as `C08Sys.NodeOK`, and the member ids of the latest configuration strictly increase) -/
def NodeOK1 (s : Node) : Prop := C08Sys.NodeOK s ∧ Srt s.configs.latest

/-- side condition on the states of a run -/
def NodesOK1 (x : Member.Sys) : Prop := Boot x ∧ ∀ i, NodeOK1 (x.node i)

/-- what is known of a recorded step in which the index of the node's latest configuration grew -/
structure ChangeOK1 (r : Change) : Prop where
  /-- the record is a step of the model that did not handle an append request -/
  step : ∃ ra ord, r.post = r.pre.step r.op ra ord
  noAppend : ∀ q, r.op ≠ .append q
  grew : r.pre.configs.latest.index < r.post.configs.latest.index
  /-- unless the step failed: the entries it appended form a `Chain1` (a submitted configuration having strictly
  increasing member ids) -/
  chain : (∀ task c, r.op = .changeConfig task c → Srt c) → r.post.panicked = none → LogChain r.pre r.post

theorem changeOK1_step (i : Nat) (s : Node) (op : Op) (ra : List Nat) (ord : List (List Nat))
    (hb : s.configs.isBootstrapped = true) (hlc : C06Cache.LeaderCache s) (hn : NodeOK1 s) (hok : LogRel.OpOK op)
    (hcf : CfgRel.OpOk op) (r : Change) (hr : r ∈ changeOf i s op (s.step op ra ord)) : ChangeOK1 r := by
  obtain ⟨h1, h2, rfl⟩ := C08Sys.mem_changeOf hr
  have hna := C08Sys.isAppend_false h1
  refine ⟨⟨ra, ord, rfl⟩, hna, h2, fun hsr hp => ?_⟩
  exact (step_pw s op ra ord hn.1.1 hn.1.2 (fun hl => (C06Cache.cacheOK_iff s).mp (hlc hl)) hcf
    (fun task c e _ => hsr task c e) hna
    (fun q e => by subst e; exact absurd hok (by simp [LogRel.OpOK])) (fun _ => hb) hp).chain hp

/-- **(a) C08, cluster level: the configuration chain, every entry of every step.**  In every state of `Member` reachable by
runs whose states satisfy `NodesOK1` (every node bootstrapped; `latest.index ≤ lastLogIndex`, an anchor and strictly
increasing member ids in the latest configuration — node-level invariants that only an append request or a restart can
break: **assuming them of every state is the `_partial` restriction**, as in `C08Sys.config_chain_partial`; the leader
caches are proved: `C08Sys.leaderCache_reachable`), every record `r` of the ledger `changes` — EVERY step in which a node
introduced configurations as leader, NO restriction on the number of voters — is a step of the model, and unless it failed
(and a submitted configuration has strictly increasing ids) `One.LogChain r.pre r.post`: there is the list `ext` of the
entries it appended, and EVERY configuration entry of `ext` is `One.Link`ed to the configuration before it — the first to
`r.pre.configs.latest`, the last is `r.post.configs.latest`. -/
theorem config_chain_one_partial (x : Member.Sys) (h : ReachableP NodesOK1 x) : ∀ r ∈ x.changes, ChangeOK1 r :=
  h.changes_all fun x i op ra ord _ hx he => changeOK1_step i (x.node i) op ra ord (hx.side.1 i)
    (C08Sys.leaderCache_reachable x hx i) (hx.side.2 i) he.rp.ok he.cfg

/-- **(a)+(b) pair by pair**: for every record of `changes` (the step did not fail; a submitted configuration and the
node's latest configuration before the step have strictly increasing member ids) there is the list `ext` of appended
entries whose configurations, in order, are `Pair`s — adjacent, duplicate-free voter lists whose majorities intersect, 1 ↔ 2
voters included — from `r.pre.configs.latest` to `r.post.configs.latest`. -/
theorem change_pairs_partial (x : Member.Sys) (h : ReachableP NodesOK1 x) (r : Change) (hr : r ∈ x.changes)
    (hsr : ∀ task c, r.op = .changeConfig task c → Srt c) (hs : Srt r.pre.configs.latest)
    (hp : r.post.panicked = none) :
    ∃ ext, Pairs r.pre.configs.latest (C08One.cfgsOf ext) ∧
      C08One.lastOr r.pre.configs.latest (C08One.cfgsOf ext) = r.post.configs.latest := by
  obtain ⟨_, ext, _, _, hc⟩ := (config_chain_one_partial x h r hr).chain hsr hp
  exact ⟨ext, chain_pairs hs hc⟩

/-! ### (c) election safety along the bootstrap path -/

theorem adj_single_pair (a b : Nat) : AdjLists [a] [a, b] :=
  ⟨b, fun x hx => by simp [hx]⟩

/-- **C01 through a single-voter configuration (no hypothesis on elections).** In every state of `Member` reachable by runs
in which every node is bootstrapped and the voters of every node's latest configuration are `[a]` or `[a, b]` in every state
— a cluster started as the SINGLE voter `a` (who elects itself by its own vote, within one step) and grown by adding `b` as a
non-voter and promoting it (or shrunk back by demoting / removing `b`), any number of times, with any number of non-voter
changes, crashes and restarts — two nodes that are leader in the same term are the same node, and the ledger `won` names at
most one node per term. (**`_partial`: one pair of adjacent voter sets per run**.) -/
theorem election_safety_bootstrap_partial (a b : Nat) (hab : a ≠ b) (x : Member.Sys)
    (h : ReachableP (C08Sys.TwoV [a] [a, b]) x) :
    (∀ i j, (x.node i).role = .leader → (x.node j).role = .leader → (x.node i).term = (x.node j).term → i = j) ∧
    (∀ l l' t, (l, t) ∈ x.el.won → (l', t) ∈ x.el.won → l = l') :=
  C08Sys.election_safety_one_change_partial [a] [a, b] (by simp) (by simp [hab]) (adj_single_pair a b) x h

/-! ### example run: bootstrap as a single voter, add a non-voter, promote it -/

/-- the bootstrap configuration: node 1 is the ONLY voter; nodes 3 and 4 are left-over non-voters -/
def bCfg : Config :=
  { nodes := [{ id := 1, addr := "a:1", voter := true }, { id := 3, addr := "a:3", voter := false },
              { id := 4, addr := "a:4", voter := false }], index := 1, term := 1 }
def bE : Entry := bCfg.toEntry
def bNode (i : Nat) : Node :=
  { cid := 7, nid := i, term := 1, durTerm := 1, log := { entries := [bE], flushed := 1 },
    lastLogIndex := 1, lastLogTerm := 1, configs := { committed := bCfg, latest := bCfg } }
def b0 : Member.Sys :=
  { cm := { rp := { el := { node := bNode, grants := [], counted := [], won := [] }, sent := [], created := [⟨bE, 0, 0⟩] },
            acks := [], camps := [], committed := [] }, ecfg := [], changes := [] }
def b1 := stepM b0 1 .timeout [] [] 0

theorem b0_rinit : Replication.Init b0.cm.rp := by
  refine ⟨⟨fun i => ⟨rfl, ⟨rfl, rfl⟩, rfl⟩, rfl, rfl, rfl⟩, rfl, ?_, ?_, fun i => ⟨⟨rfl, rfl, rfl, ?_, rfl, rfl⟩, ?_⟩, ?_⟩
  · intro c hc
    rw [List.mem_singleton.mp hc]
  · intro a ha b hb _ _
    rw [List.mem_singleton.mp ha, List.mem_singleton.mp hb]
  · intro k hk
    have : k = 0 := by
      have : k < 1 := hk
      omega
    subst this; rfl
  · exact ⟨⟨⟨bE, 0, 0⟩, List.mem_singleton.mpr rfl, rfl, fun pt h => by cases h⟩, trivial⟩
  · intro c hc j
    rw [List.mem_singleton.mp hc]
    exact Nat.le_refl _

theorem b0_init : Member.Init b0 := by
  have hp : Path b0.cm.T [bE] :=
    ⟨⟨⟨⟨bE, 0, 0⟩, List.mem_singleton.mpr rfl, rfl, fun pt h => by cases h⟩, trivial⟩,
      fun k hk => by
        have : k = 0 := by have : k < 1 := hk; omega
        subst this; rfl⟩
  have hh : Holds [bE] 1 1 := ⟨Nat.le_refl _, Nat.le_refl _, rfl⟩
  refine ⟨⟨b0_rinit, ⟨fun c hc => ?_, fun c hc => ?_, fun c hc d hd _ _ => ?_⟩,
    fun i => ⟨?_, rfl, rfl, rfl, rfl⟩, rfl, rfl, rfl⟩, rfl, rfl⟩
  · rw [List.mem_singleton.mp hc]; exact ⟨_, hp, hh⟩
  · rw [List.mem_singleton.mp hc]; decide
  · rw [List.mem_singleton.mp hc, List.mem_singleton.mp hd]
    exact anc_of_path hp hh hh (Nat.le_refl _)
  · show C06.LogWF ({ entries := [bE], flushed := 1 } : NLog)
    exact ⟨by decide, by decide⟩

theorem bCfg_ok : bCfg.find? 1 = some { id := 1, addr := "a:1", voter := true } ∧ Srt bCfg :=
  ⟨by decide, by unfold Srt; decide⟩

theorem bNode_ok (i : Nat) : NodeOK1 (bNode i) :=
  ⟨⟨Nat.le_refl 1, Or.inr ⟨1, { id := 1, addr := "a:1", voter := true }, bCfg_ok.1, rfl, rfl⟩⟩, bCfg_ok.2⟩

theorem b1_trans : Member.Trans b0 b1 :=
  have he : Member.Enabled b0 1 .timeout 0 ∧ MemberSide.ReqG b0 1 .timeout := MemberSide.enabledM_iff.mpr ⟨by decide, trivial⟩
  .step 1 .timeout [] [] 0 he.1

theorem b1_facts : (b1.node 1).role = .leader ∧ (b1.node 1).term = 2 ∧ (b1.node 1).commitIndex = 2 ∧
    (b1.node 1).configs.isBootstrapped = true ∧ (b1.node 1).configs.latest = bCfg ∧ (b1.node 1).lastLogIndex = 2 ∧
    b1.el.won = [(1, 2)] := by
  decide +kernel

theorem b1_node (i : Nat) (h : i ≠ 1) : b1.node i = bNode i := by
  show setNode bNode 1 _ i = _
  rw [setNode_other _ _ _ _ h]

theorem b1_ok : NodesOK1 b1 ∧ C08Sys.TwoV [1] [1, 2] b1 := by
  obtain ⟨_, _, _, f4, f5, f6, _⟩ := b1_facts
  refine ⟨⟨fun i => ?_, fun i => ?_⟩, fun i => ?_, fun i => ?_⟩
  · by_cases h : i = 1
    · subst h; exact f4
    · rw [b1_node i h]; rfl
  · by_cases h : i = 1
    · subst h
      exact ⟨⟨by rw [f5, f6]; decide, by rw [f5]; exact (bNode_ok 1).1.2⟩, by rw [f5]; exact (bNode_ok 1).2⟩
    · rw [b1_node i h]; exact bNode_ok i
  · by_cases h : i = 1
    · subst h; exact f4
    · rw [b1_node i h]; rfl
  · by_cases h : i = 1
    · subst h; left; rw [f5]; rfl
    · rw [b1_node i h]; left; rfl

/-- EXAMPLE (the hypotheses of `config_chain_one_partial` and `election_safety_bootstrap_partial` hold for a non-initial
state, PROVED reachable): `b1` — node 1, the only voter, has elected itself in ONE step (election timeout → candidate →
its own vote is the majority → leader of term 2 → `leader.init`: the no-op entry (2,2), committed alone) -/
theorem b1_reachable : ReachableP NodesOK1 b1 ∧ ReachableP (C08Sys.TwoV [1] [1, 2]) b1 ∧ (b1.node 1).role = .leader ∧
    b1.el.won = [(1, 2)] :=
  ⟨.next b0 b1 (.init b0 b0_init ⟨fun _ => rfl, bNode_ok⟩) b1_trans b1_ok.1,
   .next b0 b1 (.init b0 b0_init ⟨fun _ => rfl, fun _ => Or.inl rfl⟩) b1_trans b1_ok.2,
   b1_facts.1, b1_facts.2.2.2.2.2.2⟩

/-- … hence election safety in `b1` (and in every state of every run through the voter sets `{1}` / `{1, 2}`) -/
example : ∀ i j, (b1.node i).role = .leader → (b1.node j).role = .leader → (b1.node i).term = (b1.node j).term → i = j :=
  (election_safety_bootstrap_partial 1 2 (by decide) b1 b1_reachable.2.1).1

/-- the run continues (evaluated with `#guard` below, as the scenario of Props/C08Sys.lean: `Config.validate` does not
reduce in the kernel): a client asks to add node 2 as a non-voter to be promoted and to force-remove the nodes 3 and 4 -/
def bReq : Config :=
  { nodes := [{ id := 1, addr := "a:1", voter := true }, { id := 2, addr := "a:2", voter := false, action := actPromote },
              { id := 3, addr := "a:3", voter := false, action := actForceRemove },
              { id := 4, addr := "a:4", voter := false, action := actForceRemove }], index := 1, term := 1 }
def b2 : Member.Sys := stepM b1 1 (.changeConfig 5 bReq) [] [] 0
/-- the leader replicates entries 2 … 4 to the new node 2 -/
def bApp : AppendReq :=
  { term := 2, src := 1, prevLogIndex := 1, prevLogTerm := 1, ldrCommitIndex := 4, entries := (b2.node 1).log.entries.drop 1 }
def b3 : Member.Sys :=
  stepM { b2 with cm := { b2.cm with rp := { b2.cm.rp with sent := bApp :: b2.cm.rp.sent } } } 2 (.append bApp) [] [] 0
/-- node 2 has caught up (its report is backed by its acknowledgement of entry 4): the leader promotes it -/
def b4 : Member.Sys := stepM b3 1 (.replUpdates [{ id := 2, upd := .matchIndex 4 }]) [] [] 0

-- `b2`: ONE step stores TWO configuration entries — (3,2) = {1, 2, 4} for the client's task and, nested inside its commit,
-- (4,2) = {1, 2} — both committed by the leader alone; ONE record of `changes`, whose chain has two links; voters `[1]`
#guard (b2.node 1).panicked.isNone && (b2.node 1).lastLogIndex == 4 && (b2.node 1).commitIndex == 4
#guard (b2.node 1).replies.map (·.task) == [5]
#guard b2.changes.map (fun r => (r.node, r.pre.configs.latest.index, r.post.configs.latest.index,
    (C08One.cfgsOf (r.post.log.entries.drop r.pre.log.entries.length)).map (fun c => (c.index, c.ids, c.voters)))) ==
  [(1, 1, 4, [(3, [1, 2, 4], [1]), (4, [1, 2], [1])])]
-- `b3`: node 2 holds the entries and has acknowledged entry 4
#guard (b3.node 2).panicked.isNone && (b3.node 2).lastLogIndex == 4 && (b3.node 2).configs.latest.voters == [1]
#guard b3.cm.acks.any (fun a => a.voter == 2 && a.index == 4 && a.term == 2)
-- `b4`: the promotion: configuration (5,2) with the voters 1 and 2, ADJACENT to {1} — from quorum 1 to quorum 2
#guard (b4.node 1).panicked.isNone && (b4.node 1).lastLogIndex == 5 && (b4.node 1).commitIndex == 4
#guard b4.changes.map (fun r => (r.pre.configs.latest.voters, r.post.configs.latest.voters)) == [([1], [1, 2]), ([1], [1])]
-- along the run the voters of every node's latest configuration are `[1]` or `[1, 2]` (`C08Sys.TwoV [1] [1, 2]`)
#guard [b2, b3, b4].all (fun x => [1, 2, 3, 4].all (fun i => (x.node i).configs.latest.voters == [1] || (x.node i).configs.latest.voters == [1, 2]))

end C08OneSys
end Raft

#print axioms Raft.One.step_pw
#print axioms Raft.C08OneSys.step_chain_any_partial
#print axioms Raft.C08OneSys.config_chain_one_partial
#print axioms Raft.C08OneSys.change_pairs_partial
#print axioms Raft.C08OneSys.link_adjLists
#print axioms Raft.C08OneSys.link_quorums_intersect -- also C01
#print axioms Raft.C08OneSys.chain_pairs
#print axioms Raft.C08OneSys.election_safety_bootstrap_partial -- also C01
#print axioms Raft.C08OneSys.b1_reachable
