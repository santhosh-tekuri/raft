/-
AUDIT of the theorems over `Raft.Member` (Sys/Member.lean; Props/C01Member, C04Member, C08Sys, C02Member, C08Member —
the cluster WITH membership changes).

The examples of Props/C08Member.lean reach only an initial state, one election timeout, one identity request and one crash
during an election timeout: no leader, no membership change. This file supplies a proved run with a leader and a complete
membership change; the scenario of Props/C08Sys.lean (`ex1 … ex12`) is the initial segment `m1 … m15` of it
(`c08sys_scenario_run`; `c08sys_ex10_not_enabled`: match-index reports that no acknowledgement backs are NOT transitions of
the system). Statement 2 of `C08Member.cfg_latest_member_partial` is `C02Member.Protected` (no ghost ledger: a statement
over the ledger could be satisfied by a degenerate witness, section 4); `protected_informative` (section 6) instantiates it
on the runs below.

Here:
1. GENERAL: every state of every run of `ReachableR root` satisfies the side predicates the older theorems need of
   every state — `Boot`, `C08Sys.NodesOK`, `C04Member.Side` — so every run of `ReachableR` is a run of
   `ReachableP Boot`, `ReachableP NodesOK`, `ReachableP C04Member.Side` (`reachableP_of_R`).
2. a PROVED run of `ReachableR (1,1)` with a complete membership change: node 1 is elected (term 2) and commits its
   no-op; a client asks to add node 4 as a non-voter to be promoted; the leader introduces configuration (3,2),
   replicates it to the nodes 2, 3 and to the new node 4, commits it; node 4 has caught up: the leader PROMOTES it
   (configuration (4,2), voters 1, 2, 3, 4), replicates it to all; node 4 DIES and restarts (it finds the two
   configuration entries on disk); the leader commits configuration (4,2) with the quorum of FOUR voters.
   Along the run the voters of every node's latest configuration are [1,2,3] or [1,2,3,4] (`C08Sys.TwoV`).
3. a restriction the doc comments state only implicitly (`no_fresh_node`): in EVERY state of EVERY run every node's
   log holds a configuration entry — a node that joins the cluster (node 4 above) is not a fresh node with an empty
   log and no configuration (`follower.canStartElection`: "not bootstrapped yet"), it starts with the bootstrap entry.
-/
import RaftVerif.Props.C08Member
import RaftVerif.Lemmas.Script
import RaftVerif.Lemmas.ScriptNode
import RaftVerif.Lemmas.EnabledAtM

namespace Raft
namespace AuditMember
open Node Election LogRel Replication CommitRel Commit Member MemberCore MemberInv MemberCommit
open MemberSide C08Member
open MemberStep (CfgLatest)

/-! ### 1. the side predicates of the older theorems hold along every run of `ReachableR` -/

theorem nodesOK_of_R {root : K} {x : Member.Sys} (h : ReachableR root x) : C08Sys.NodesOK x := by
  obtain ⟨hb, _, _, _, _, hg, _⟩ := side_conditions_member_partial root x h
  obtain ⟨_, hall, _⟩ := cfg_latest_member_partial root x h
  exact ⟨hb, fun i => ⟨(hg i).ordered.latest_le_last,
    Or.inr (C08Step.hasAnchor_of_anchored (hall i).anch.1)⟩⟩

theorem side4_of_R {root : K} {x : Member.Sys} (h : ReachableR root x) : C04Member.Side x := by
  obtain ⟨hb, hq, _⟩ := side_conditions_member_partial root x h
  exact ⟨hb, hq, (election_safety_member_partial root x h).2.2⟩

/-- **every run of `ReachableR root` is a run of the older systems**: `ReachableP` with `Boot`, `NodesOK` and
`C04Member.Side` in every state -/
theorem reachableP_of_R {root : K} {x : Member.Sys} (h : ReachableR root x) :
    ReachableP (fun y => Boot y ∧ C08Sys.NodesOK y ∧ C04Member.Side y) x := by
  induction h with
  | init x hi =>
    have r : ReachableR root x := .init x hi
    exact .init x hi.init ⟨(nodesOK_of_R r).1, nodesOK_of_R r, side4_of_R r⟩
  | next x y hx ht ih =>
    have r : ReachableR root y := .next x y hx ht
    exact .next x y ih (transR_trans ht) ⟨(nodesOK_of_R r).1, nodesOK_of_R r, side4_of_R r⟩

/-! ### 3. no node is ever fresh -/

/-- **in every state of every run every node holds a configuration entry in its log** (and is bootstrapped): the
initial states demand it of ALL nodes (`InitR.cfl : CfgLatest`), also of nodes that are members of no configuration
yet. A server that is added to the cluster therefore starts with (a copy of) the bootstrap entry, not with empty
storage. -/
theorem no_fresh_node {root : K} {x : Member.Sys} (h : ReachableR root x) (i : Nat) :
    (x.node i).log.entries ≠ [] ∧ (x.node i).configs.isBootstrapped = true ∧
    ∃ e ∈ (x.node i).log.entries, e.typ = etConfig := by
  obtain ⟨hb, _, hcl, _⟩ := side_conditions_member_partial root x h
  obtain ⟨⟨e, he, hec⟩, _⟩ := hcl i
  refine ⟨(fun hn => by rw [hn] at he; cases he), hb i, e, he, (Entry.config?_facts hec).1⟩

/-- … already in the initial states: `InitR` is not satisfied by a state in which some node has an empty log -/
theorem initR_no_fresh_node {root : K} {x : Member.Sys} (h : InitR root x) (i : Nat) :
    (x.node i).log.entries ≠ [] := (no_fresh_node (.init x h) i).1

/-! ### 4. a conclusion that a degenerate witness satisfies -/

/-- **why `C02Member.Protected` is stated without the ghost ledger.** "The index of the latest configuration entry is
PROTECTED — no append request of a current or later term ever conflicts with the log at or below it — or the configuration
is pending and the index of `configs.committed` is protected" in the form `∃ G, G.root = root ∧ ∀ i, ProtG x G i … ∨ …`
constrains the ghost ledger `G` by its `root` ONLY: without the link `MInv x G` to the state (which `MemberInv.protNoConf`
needs) `ProtG` says nothing — in every reachable state there is a `G` with the required root for which EVERY index of EVERY
node's log, committed or not, is "protected" (take one record per entry of the tree). `C02Member.Protected` is the
conclusion of `MemberInv.protNoConf`, about the state and its ledger `sent` only, and is NOT satisfied by every index:
`protected_informative`. -/
theorem protG_degenerate {root : K} {x : Member.Sys} (h : ReachableR root x) :
    ∃ G : Ghost, G.root = root ∧ ∀ i k, 1 ≤ k → k ≤ (x.node i).log.entries.length → ProtG x G i k := by
  obtain ⟨⟨G0, hI, _⟩, _⟩ := inv_reachable root x h
  refine ⟨⟨root, x.cm.T.map (fun c => ⟨key c, key c, []⟩), [], []⟩, rfl, fun i k hk1 hk2 => ?_⟩
  have hh : Holds (x.node i).log.entries k (termAt (x.node i).log.entries k) := ⟨hk1, hk2, rfl⟩
  obtain ⟨c, hc, hck⟩ := log_recordM hI i hh
  refine ⟨hk1, hk2, Or.inr ⟨⟨key c, key c, []⟩, List.mem_map.mpr ⟨c, hc, rfl⟩, ?_, ?_⟩⟩
  · show (key c).2 ≤ _
    rw [hck]
    obtain ⟨e, he, het⟩ := holds_get hh
    rw [← het]
    exact hI.node.termLe i e (List.mem_of_getElem? he)
  · show Anc x.cm.T _ (key c)
    rw [hck]
    exact Anc.refl_of_holds (log_pathM hI i) hh

/-! ### builders for `Member.Enabled` and `ReqG` (instances of `MemberSide.enabledM_iff`) -/

/-- operations without enabling constraints -/
def isPlainM : Op → Bool
  | .vote _ | .append _ | .voteResult _ _ _ | .newEntries _ | .changeConfig _ _ | .replUpdates _ | .install _
  | .shutdown | .snapRun | .snapTaken | .timeoutNowResult _ _ _ => false
  | _ => true

theorem enM_plain (x : Member.Sys) (i : Nat) (op : Op) (hi : i ≠ 0) (h : isPlainM op = true) :
    Member.Enabled x i op 0 ∧ ReqG x i op := by
  refine enabledM_iff.mpr ⟨hi, ?_⟩
  cases op <;> first | (cases h; done) | trivial

/-- match-index reports only, each backed by an acknowledgement -/
def OnlyMatch (us : List ReplUpdate) : Prop := ∀ u ∈ us, ∃ v, u.upd = .matchIndex v

theorem enM_upd (x : Member.Sys) (i : Nat) (us : List ReplUpdate) (hi : i ≠ 0) (hm : OnlyMatch us)
    (hb : ∀ u ∈ us, ∀ v, u.upd = .matchIndex v →
      v = 0 ∨ ∃ a ∈ x.cm.acks, a.voter = u.id ∧ a.term = (x.node i).term ∧ v ≤ a.index) :
    Member.Enabled x i (.replUpdates us) 0 ∧ ReqG x i (.replUpdates us) := by
  refine enabledM_iff.mpr ⟨hi, fun u hu => ?_⟩
  obtain ⟨w, hw⟩ := hm u hu
  have := hb u hu w hw
  unfold SysInv.UpdAt
  rw [hw]
  exact this

/-! ### `Config.validate` on the example request (the address syntax check uses `String.splitOn` / `String.toNat?`,
which the kernel does not evaluate: proved by unfolding) -/

theorem addr_ok (a h p : String) (n : Nat) (hs : a.splitOn ":" = [h, p]) (hh : h.isEmpty = false)
    (hp : p.toNat? = some n) (hn : 0 < n) : addrValid a = true := by
  unfold addrValid
  rw [hs]
  simp [hh, hp, hn]

theorem splitOn_a : "a:1".splitOn ":" = ["a", "1"] ∧ "a:2".splitOn ":" = ["a", "2"] ∧
    "a:3".splitOn ":" = ["a", "3"] ∧ "a:4".splitOn ":" = ["a", "4"] := by
  refine ⟨?_, ?_, ?_, ?_⟩ <;>
  · unfold String.splitOn
    rw [if_neg (by decide)]
    rw [String.splitOnAux]
    rw [if_neg (by decide), if_neg (by decide)]
    rw [String.splitOnAux]
    rw [if_neg (by decide), if_pos (by decide), if_pos (by decide)]
    rw [String.splitOnAux]
    rw [if_neg (by decide), if_neg (by decide)]
    rw [String.splitOnAux]
    rw [if_pos (by decide)]
    decide

theorem addr1 : addrValid "a:1" = true :=
  addr_ok _ "a" "1" 1 splitOn_a.1 (by decide)
    (by simp [String.toNat?, String.Slice.toNat?, String.Slice.isNat]) (by decide)
theorem addr2 : addrValid "a:2" = true :=
  addr_ok _ "a" "2" 2 splitOn_a.2.1 (by decide)
    (by simp [String.toNat?, String.Slice.toNat?, String.Slice.isNat]) (by decide)
theorem addr3 : addrValid "a:3" = true :=
  addr_ok _ "a" "3" 3 splitOn_a.2.2.1 (by decide)
    (by simp [String.toNat?, String.Slice.toNat?, String.Slice.isNat]) (by decide)
theorem addr4 : addrValid "a:4" = true :=
  addr_ok _ "a" "4" 4 splitOn_a.2.2.2 (by decide)
    (by simp [String.toNat?, String.Slice.toNat?, String.Slice.isNat]) (by decide)

/-- the request of the scenario (the members 1, 2, 3 plus the non-voter 4 to be promoted) passes `Config.validate` -/
theorem exAdd_valid : configValid C08Sys.exAdd = true := by
  unfold configValid
  have h1 : C08Sys.exAdd.nodes.all nodeValid = true := by
    simp [C08Sys.exAdd, C04Sys.exCfg, nodeValid, addr1, addr2, addr3, addr4, actForceRemove, actPromote, actDemote]
  rw [h1]
  decide

/-- `leader.onChangeConfig` for a configuration that passes `Config.validate` (the check is left out) -/
def onChangeConfigV (s : Node) (task : Nat) (newConf : Config) : Node :=
  if !s.configs.isCommitted then s.reply task "inProgress:configChange"
  else if s.commitIndex < s.ldr.startIndex then s.reply task "temp:notCommitReady"
  else if newConf.index ≠ s.configs.latest.index then s.reply task "plain:staleConfig"
  else if s.configs.latest.nodes.any (fun n => match newConf.find? n.id with
      | none => true
      | some nn => n.voter != nn.voter) then s.reply task "error"
  else if newConf.nodes.any (fun n => !s.configs.latest.has n.id && n.voter) then s.reply task "error"
  else if !newConf.nodes.any (fun n => n.voter && n.action == actNone) then s.reply task "error"
  else
    let lastIndex := s.lastLogIndex
    let s := checkConfigActions (fuelFor 0) s task newConf
    if s.lastLogIndex = lastIndex then doChangeConfig (fuelFor 1) s task newConf else s

theorem onChangeConfig_valid (s : Node) (task : Nat) (c : Config) (hv : configValid c = true) :
    s.onChangeConfig task c = onChangeConfigV s task c := by
  unfold Node.onChangeConfig onChangeConfigV
  simp only [hv, Bool.not_true, Bool.false_eq_true, if_false]
  rfl

/-- the post-state of a leader handling a valid `ChangeConfig` request -/
def ccPost (s : Node) (task : Nat) (c : Config) : Node := settle 6 (onChangeConfigV (s.begin [] []) task c) s.role

theorem changeConfig_step_valid (s : Node) (task : Nat) (c : Config) (hl : s.role = .leader)
    (hv : configValid c = true) : s.step (.changeConfig task c) [] [] = ccPost s task c := by
  unfold ccPost
  rw [Node.step_eq_settle s _ [] [] (by intro h; cases h)]
  have hh : (s.begin [] []).handle (.changeConfig task c) = (s.begin [] []).onChangeConfig task c := by
    unfold Node.handle
    dsimp only
    rw [if_pos (show (s.begin [] []).role = .leader from hl)]
  rw [hh, onChangeConfig_valid _ _ _ hv]

/-! ### 2. the run -/

abbrev V3 : List Nat := [1, 2, 3]
abbrev V4 : List Nat := [1, 2, 3, 4]

/-- `Member.stepM` with the post-state of the acting node as a parameter -/
def stepMP (x : Member.Sys) (i : Nat) (op : Op) (src : Nat) (post : Node) : Member.Sys :=
  { cm := { rp := { el := { node := setNode x.cm.rp.el.node i post
                            grants := voteGrant i op post ++ (selfGrant i (x.node i) post ++ x.cm.rp.el.grants)
                            counted := countedBy i (x.node i) op src ++ x.cm.rp.el.counted
                            won := (if post.role = .leader then [(i, post.term)] else []) ++ x.cm.rp.el.won }
                    sent := x.cm.rp.sent
                    created := newCreated i (x.node i).log.entries post.log.entries op ++ x.cm.rp.created }
            acks := ackOf i op post ++ (selfAck i op (x.node i) post ++ x.cm.acks)
            camps := campOf i (x.node i) post ++ x.cm.camps
            committed := newCommit op (x.node i) post ++ x.cm.committed }
    ecfg := ecfgOf i (x.node i) post ++ x.ecfg
    changes := changeOf i (x.node i) op post ++ x.changes }

theorem stepM_eq (x : Member.Sys) (i : Nat) (op : Op) (ra : List Nat) (ord : List (List Nat)) (src : Nat) :
    stepM x i op ra ord src = stepMP x i op src ((x.node i).step op ra ord) := rfl

def sendM (x : Member.Sys) (q : AppendReq) : Member.Sys :=
  { x with cm := { x.cm with rp := { x.cm.rp with sent := q :: x.cm.rp.sent } } }

/-! ### witness runs of `Member.Sys` as checked scripts (`Lemmas/Script.lean`) -/

open C07Sys (altPost replUpdates_step_alt MajIs majIs_sound SendOK rebornOf)

inductive ActM
  /-- node `i` handles `op` to completion (`src`: the sender a vote response is attributed to) -/
  | step (i : Nat) (op : Op) (src : Nat)
  /-- the leader `i` handles the reports `us`; `v` is the majority match index it computes -/
  | commit (i : Nat) (us : List ReplUpdate) (v : Nat)
  /-- the leader `i` handles a `ChangeConfig` request that passes `Config.validate` -/
  | change (i t : Nat) (c : Config) (hv : configValid c = true)
  /-- node `i` dies while handling `op`, after `k` storage points, and restarts (retain 1, `sor`) -/
  | crash (i : Nat) (op : Op) (src k : Nat)
  /-- the leader `i` puts `q` on the wire; it carries `n` entries -/
  | send (i : Nat) (q : AppendReq) (n : Nat)

def ActM.next (x : Member.Sys) : ActM → Member.Sys
  | .step i op src => stepM x i op [] [] src
  | .commit i us v => stepMP x i (.replUpdates us) 0 (altPost (x.node i) us v)
  | .change i t c _ => stepMP x i (.changeConfig t c) 0 (ccPost (x.node i) t c)
  | .crash i op _ k => crashM x i op (rebornOf (x.node i) op k)
  | .send _ q _ => sendM x q

/-- what `TransR` asks of an action, decidably; `N`: what the run asks in addition of the node that moved (a side
condition on every state, such as `C08Sys.TwoV`) -/
def ActM.OK (N : Node → Prop) (x : Member.Sys) : ActM → Prop
  | .step i op src => i ≠ 0 ∧ EnabledAtM x i src op ∧ (x.node i).closed = "" ∧ N ((x.node i).step op [] [])
  | .commit i us v => i ≠ 0 ∧ EnabledAtM x i 0 (.replUpdates us) ∧ (x.node i).closed = "" ∧
      (x.node i).role = .leader ∧ MajIs (replUpdLoop ((x.node i).begin [] []) {} us).1 v ∧
      N (altPost (x.node i) us v)
  | .change i t c _ => i ≠ 0 ∧ EnabledAtM x i 0 (.changeConfig t c) ∧ (x.node i).closed = "" ∧
      (x.node i).role = .leader ∧ N (ccPost (x.node i) t c)
  | .crash i op src k => i ≠ 0 ∧ EnabledAtM x i src op ∧ ((x.node i).closed = "" ∨ k = 0) ∧
      (Node.restart (C05.crashDisk (x.node i) op [] [] k) 1 true).isSome = true ∧ N (rebornOf (x.node i) op k)
  | .send i q n => i ≠ 0 ∧ SendOK (x.node i) q n

instance (N : Node → Prop) [DecidablePred N] (x : Member.Sys) (a : ActM) : Decidable (a.OK N x) := by
  cases a <;> unfold ActM.OK <;> infer_instance

section act
variable {N : Node → Prop} {x : Member.Sys}

theorem ActM.commit_step {i : Nat} {us : List ReplUpdate} {v : Nat} (h : (ActM.commit i us v).OK N x) :
    (x.node i).step (.replUpdates us) [] [] = altPost (x.node i) us v :=
  replUpdates_step_alt (x.node i) us v h.2.2.2.1 (majIs_sound h.2.2.2.2.1)

theorem ActM.change_step {i t : Nat} {c : Config} {hv : configValid c = true} (h : (ActM.change i t c hv).OK N x) :
    (x.node i).step (.changeConfig t c) [] [] = ccPost (x.node i) t c :=
  changeConfig_step_valid (x.node i) t c h.2.2.2.1 hv

/-- an action that is OK is a transition of `TransR` … -/
theorem ActM.transR (a : ActM) (h : a.OK N x) : TransR x (a.next x) := by
  cases a with
  | step i op src =>
    have he := enabledM_iff.mpr ⟨h.1, h.2.1⟩
    exact .step i op [] [] src he.1 he.2 h.2.2.1
  | commit i us v =>
    have he := enabledM_iff.mpr ⟨h.1, h.2.1⟩
    have := TransR.step i (.replUpdates us) [] [] 0 he.1 he.2 h.2.2.1
    rwa [stepM_eq, ActM.commit_step h] at this
  | change i t c hv =>
    have he := enabledM_iff.mpr ⟨h.1, h.2.1⟩
    have := TransR.step i (.changeConfig t c) [] [] 0 he.1 he.2 h.2.2.1
    rwa [stepM_eq, ActM.change_step h] at this
  | crash i op src k =>
    have he := enabledM_iff.mpr ⟨h.1, h.2.1⟩
    exact .crash i op [] [] src k 1 true _ he.1 he.2 h.2.2.1 (Nat.le_refl _) (C07Sys.restart_getD h.2.2.2.1)
  | send i q n =>
    have hf := C07Sys.send_facts (x.node i) q n h.2
    exact .send i q h.1 hf.1 hf.2.1 hf.2.2

/-- … after which every node is as before or satisfies `N` -/
theorem ActM.nodes (a : ActM) (h : a.OK N x) : ∀ j, (a.next x).node j = x.node j ∨ N ((a.next x).node j) := by
  cases a with
  | step i op src => exact NodeSys.forall_setNode (P := fun j m => m = x.node j ∨ N m) (Or.inr h.2.2.2) (fun _ _ => Or.inl rfl)
  | commit i us v =>
    exact NodeSys.forall_setNode (P := fun j m => m = x.node j ∨ N m) (Or.inr h.2.2.2.2.2) (fun _ _ => Or.inl rfl)
  | change i t c hv =>
    exact NodeSys.forall_setNode (P := fun j m => m = x.node j ∨ N m) (Or.inr h.2.2.2.2) (fun _ _ => Or.inl rfl)
  | crash i op src k =>
    exact NodeSys.forall_setNode (P := fun j m => m = x.node j ∨ N m) (Or.inr h.2.2.2.2) (fun _ _ => Or.inl rfl)
  | send i q n => exact fun _ => Or.inl rfl

end act

abbrev CheckedM (N : Node → Prop) (x : Member.Sys) (as : List ActM) : Prop :=
  Script.Checked (fun x a => ActM.next x a) (fun x a => ActM.OK N x a) x as

abbrev runM (x : Member.Sys) (as : List ActM) : Member.Sys := Script.run (fun x a => ActM.next x a) x as

/-- a checked script is a run of `TransR`: it keeps whatever `TransR` keeps (`ReachableR`, `ReachableT`, …) -/
theorem runM_sound {N : Node → Prop} {Inv : Member.Sys → Prop} (hInv : ∀ x y, Inv x → TransR x y → Inv y)
    (as : List ActM) {x : Member.Sys} (hx : Inv x) (h : CheckedM N x as) : Inv (runM x as) :=
  Script.sound (Inv := Inv) (fun x a hx h => hInv x _ hx (a.transR h)) as hx h

/-- what `C08Sys.TwoV V3 V4` asks of one node -/
def NodeTwoV (n : Node) : Prop :=
  n.configs.isBootstrapped = true ∧ (n.configs.latest.voters = V3 ∨ n.configs.latest.voters = V4)

instance : DecidablePred NodeTwoV := fun n => by unfold NodeTwoV; infer_instance

/-- a state of the run: reachable in `ReachableR`, and reachable with `TwoV V3 V4` in every state -/
def RM (x : Member.Sys) : Prop := ReachableR (1, 1) x ∧ ReachableP (C08Sys.TwoV V3 V4) x

theorem rm_act {x : Member.Sys} (hx : RM x) (a : ActM) (h : a.OK NodeTwoV x) : RM (a.next x) := by
  have ht := a.transR h
  refine ⟨.next x _ hx.1 ht, .next x _ hx.2 (transR_trans ht) ⟨fun j => ?_, fun j => ?_⟩⟩
  · rcases a.nodes h j with e | hn
    · rw [e]; exact hx.2.side.1 j
    · exact hn.1
  · rcases a.nodes h j with e | hn
    · rw [e]; exact hx.2.side.2 j
    · exact hn.2

theorem rm_run (as : List ActM) {x : Member.Sys} (hx : RM x) (h : CheckedM NodeTwoV x as) : RM (runM x as) :=
  Script.sound (Inv := RM) (fun _ a hx h => rm_act hx a h) as hx h

abbrev mVote : VoteReq := { term := 2, src := 1, lastLogIndex := 1, lastLogTerm := 1 }
def m1 : Member.Sys := stepM ex0 1 .timeout [] [] 0
def m2 : Member.Sys := stepM m1 2 (.vote mVote) [] [] 0
def m3 : Member.Sys := stepM m2 1 (.voteResult false 2 rSuccess) [] [] 2
def mReq : AppendReq :=
  { term := 2, src := 1, prevLogIndex := 1, prevLogTerm := 1, entries := (m3.node 1).log.entries.drop 1 }
def m4 : Member.Sys := sendM m3 mReq
def m5 : Member.Sys := stepM m4 2 (.append mReq) [] [] 0
def m6 : Member.Sys := stepM m5 3 (.append mReq) [] [] 0
abbrev mUpd (v : Nat) : List ReplUpdate := [{ id := 2, upd := .matchIndex v }, { id := 3, upd := .matchIndex v }]
/-- the leader commits its no-op -/
def m7 : Member.Sys := stepMP m6 1 (.replUpdates (mUpd 2)) 0 (altPost (m6.node 1) (mUpd 2) 2)
/-- the request: the present members plus node 4, a non-voter to be promoted -/
abbrev mAdd : Config := C08Sys.exAdd
/-- the leader introduces configuration (3,2) -/
def m8 : Member.Sys := stepMP m7 1 (.changeConfig 5 mAdd) 0 (ccPost (m7.node 1) 5 mAdd)
def mReq3 : AppendReq :=
  { term := 2, src := 1, prevLogIndex := 2, prevLogTerm := 2, ldrCommitIndex := 2,
    entries := (m8.node 1).log.entries.drop 2 }
def m9 : Member.Sys := sendM m8 mReq3
def m10 : Member.Sys := stepM m9 2 (.append mReq3) [] [] 0
def m11 : Member.Sys := stepM m10 3 (.append mReq3) [] [] 0
/-- the new node 4 (it holds the bootstrap entry only) gets the entries 2 and 3 -/
def mReq4 : AppendReq :=
  { term := 2, src := 1, prevLogIndex := 1, prevLogTerm := 1, ldrCommitIndex := 2,
    entries := (m8.node 1).log.entries.drop 1 }
def m12 : Member.Sys := sendM m11 mReq4
def m13 : Member.Sys := stepM m12 4 (.append mReq4) [] [] 0
/-- configuration (3,2) is committed -/
def m14 : Member.Sys := stepMP m13 1 (.replUpdates (mUpd 3)) 0 (altPost (m13.node 1) (mUpd 3) 3)
abbrev mUpd4 : List ReplUpdate := [{ id := 4, upd := .matchIndex 3 }]
/-- node 4 has caught up: the leader promotes it — configuration (4,2), voters 1, 2, 3, 4 -/
def m15 : Member.Sys := stepMP m14 1 (.replUpdates mUpd4) 0 (altPost (m14.node 1) mUpd4 3)
def mReq5 : AppendReq :=
  { term := 2, src := 1, prevLogIndex := 3, prevLogTerm := 2, ldrCommitIndex := 3,
    entries := (m15.node 1).log.entries.drop 3 }
def m16 : Member.Sys := sendM m15 mReq5
def m17 : Member.Sys := stepM m16 2 (.append mReq5) [] [] 0
def m18 : Member.Sys := stepM m17 3 (.append mReq5) [] [] 0
def m19 : Member.Sys := stepM m18 4 (.append mReq5) [] [] 0
/-- node 4 dies between two steps and restarts: it finds the configuration entries (3,2) and (4,2) on disk -/
def k4 : Node := (Node.restart (C05.crashDisk (m19.node 4) .timeout [] [] 0) 1 true).getD {}
def m20 : Member.Sys := crashM m19 4 .timeout k4
/-- the leader commits configuration (4,2): the quorum is three of four -/
def m21 : Member.Sys := stepMP m20 1 (.replUpdates (mUpd 4)) 0 (altPost (m20.node 1) (mUpd 4) 4)

theorem q0 : RM ex0 :=
  ⟨.init ex0 ex0_initR, .init ex0 C08Sys.ex0_init ⟨fun _ => rfl, fun _ => Or.inl rfl⟩⟩

/-- the run `ex0 → m21` -/
def scriptM : List ActM :=
  [.step 1 .timeout 0, .step 2 (.vote mVote) 0, .step 1 (.voteResult false 2 rSuccess) 2, .send 1 mReq 1,
   .step 2 (.append mReq) 0, .step 3 (.append mReq) 0, .commit 1 (mUpd 2) 2, .change 1 5 mAdd exAdd_valid,
   .send 1 mReq3 1, .step 2 (.append mReq3) 0, .step 3 (.append mReq3) 0, .send 1 mReq4 2,
   .step 4 (.append mReq4) 0, .commit 1 (mUpd 3) 3, .commit 1 mUpd4 3, .send 1 mReq5 1,
   .step 2 (.append mReq5) 0, .step 3 (.append mReq5) 0, .step 4 (.append mReq5) 0, .crash 4 .timeout 0 0,
   .commit 1 (mUpd 4) 4]

theorem checkedM : CheckedM NodeTwoV ex0 scriptM := by decide +kernel

theorem q21 : RM m21 := rm_run scriptM q0 checkedM

/-- the states of the run that are spoken of elsewhere: prefixes of the script -/
theorem q8 : RM m8 := rm_run _ q0 (Script.Checked.take _ _ 8 checkedM)
theorem q13 : RM m13 := rm_run _ q0 (Script.Checked.take _ _ 13 checkedM)
theorem q15 : RM m15 := rm_run _ q0 (Script.Checked.take _ _ 15 checkedM)
theorem q19 : RM m19 := rm_run _ q0 (Script.Checked.take _ _ 19 checkedM)
theorem q20 : RM m20 := rm_run _ q0 (Script.Checked.take _ _ 20 checkedM)

theorem k4_restart : Node.restart (C05.crashDisk (m19.node 4) .timeout [] [] 0) 1 true = some k4 :=
  have ok : (ActM.crash 4 .timeout 0 0).OK NodeTwoV m19 := Script.Checked.get _ _ 19 (by decide) checkedM
  C07Sys.restart_getD ok.2.2.2.1

/-- the steps of the leader that the script takes in the form `altPost` / `ccPost`, as they were checked -/
theorem st6 : (m6.node 1).step (.replUpdates (mUpd 2)) [] [] = altPost (m6.node 1) (mUpd 2) 2 :=
  ActM.commit_step (N := NodeTwoV) (Script.Checked.get _ _ 6 (by decide) checkedM)
theorem st7 : (m7.node 1).step (.changeConfig 5 mAdd) [] [] = ccPost (m7.node 1) 5 mAdd :=
  ActM.change_step (N := NodeTwoV) (Script.Checked.get _ _ 7 (by decide) checkedM)
theorem st13 : (m13.node 1).step (.replUpdates (mUpd 3)) [] [] = altPost (m13.node 1) (mUpd 3) 3 :=
  ActM.commit_step (N := NodeTwoV) (Script.Checked.get _ _ 13 (by decide) checkedM)
theorem st14 : (m14.node 1).step (.replUpdates mUpd4) [] [] = altPost (m14.node 1) mUpd4 3 :=
  ActM.commit_step (N := NodeTwoV) (Script.Checked.get _ _ 14 (by decide) checkedM)
theorem st20 : (m20.node 1).step (.replUpdates (mUpd 4)) [] [] = altPost (m20.node 1) (mUpd 4) 4 :=
  ActM.commit_step (N := NodeTwoV) (Script.Checked.get _ _ 20 (by decide) checkedM)

theorem m7_eq : stepM m6 1 (.replUpdates (mUpd 2)) [] [] 0 = m7 := by rw [stepM_eq, st6]; rfl
theorem m8_eq : stepM m7 1 (.changeConfig 5 mAdd) [] [] 0 = m8 := by rw [stepM_eq, st7]; rfl
theorem m14_eq : stepM m13 1 (.replUpdates (mUpd 3)) [] [] 0 = m14 := by rw [stepM_eq, st13]; rfl
theorem m15_eq : stepM m14 1 (.replUpdates mUpd4) [] [] 0 = m15 := by rw [stepM_eq, st14]; rfl
theorem m21_eq : stepM m20 1 (.replUpdates (mUpd 4)) [] [] 0 = m21 := by rw [stepM_eq, st20]; rfl

theorem mUpd_only (v : Nat) : OnlyMatch (mUpd v) := by
  intro u hu
  rcases List.mem_cons.mp hu with e | hu
  · exact ⟨v, by rw [e]⟩
  · exact ⟨v, by rw [List.mem_singleton.mp hu]⟩

theorem mUpd_backed (x : Member.Sys) (i v : Nat) (a2 a3 : Ack) (h2 : a2 ∈ x.cm.acks) (h3 : a3 ∈ x.cm.acks)
    (e2 : a2.voter = 2 ∧ a2.term = (x.node i).term ∧ v ≤ a2.index)
    (e3 : a3.voter = 3 ∧ a3.term = (x.node i).term ∧ v ≤ a3.index) :
    ∀ u ∈ mUpd v, ∀ w, u.upd = .matchIndex w →
      w = 0 ∨ ∃ a ∈ x.cm.acks, a.voter = u.id ∧ a.term = (x.node i).term ∧ w ≤ a.index := by
  intro u hu w hw
  rcases List.mem_cons.mp hu with e | hu
  · rw [e] at hw ⊢; cases hw; exact Or.inr ⟨a2, h2, e2⟩
  · rw [List.mem_singleton.mp hu] at hw ⊢; cases hw; exact Or.inr ⟨a3, h3, e3⟩

/-- WITNESS M: facts about the run. `m8`: the ledger `changes` records the introduction of configuration (3,2) by
node 1 (voters unchanged, node 4 added); `m13`: the new node 4 has adopted it; `m15`: the second record — the promotion:
voters [1,2,3] → [1,2,3,4]; `m20`: node 4 restarted with latest = (4,2), committed = (3,2); `m21`: the leader has
committed index 4 — both configurations are committed, the ledger `committed` holds (4,2), (3,2), (2,2); nobody
failed an assertion. -/
theorem runM_facts :
    (m8.changes.map (fun r => (r.node, r.post.configs.latest.index, r.post.configs.latest.voters)) = [(1, 3, V3)] ∧
      (m8.node 1).configs.latest.ids = V4) ∧
    ((m13.node 4).configs.latest.index = 3 ∧ (m13.node 4).configs.latest.ids = V4 ∧
      (m13.node 4).log.entries.length = 3) ∧
    (m15.changes.map (fun r => (r.node, r.pre.configs.latest.voters, r.post.configs.latest.voters)) =
        [(1, V3, V4), (1, V3, V3)] ∧ (m15.node 1).configs.latest.index = 4) ∧
    ((m20.node 4).configs.latest.index = 4 ∧ (m20.node 4).configs.committed.index = 3 ∧
      (m20.node 4).configs.latest.voters = V4 ∧ (m20.node 4).role = .follower) ∧
    ((m21.node 1).commitIndex = 4 ∧ (m21.node 1).configs.committed.index = 4 ∧ (m21.node 1).role = .leader ∧
      m21.cm.committed = [(4, 2), (3, 2), (2, 2)] ∧ (∀ i ∈ V4, (m21.node i).panicked = none)) := by
  decide +kernel

set_option maxRecDepth 100000 in
/-- … e.g. in the reachable state `m8` the configuration entry (3,2) that the leader 1 has just appended is NOT
committed (commit index 2; no other node holds it; a leader of term 3 elected by the nodes 2 and 3 would overwrite it),
and yet index 3 of node 1's log is "protected" for a ghost ledger with the right root -/
example : (m8.node 1).configs.latest.index = 3 ∧ (m8.node 1).commitIndex = 2 ∧
    (m8.node 2).log.entries.length = 2 ∧ (m8.node 3).log.entries.length = 2 ∧
    ∃ G : Ghost, G.root = (1, 1) ∧ ProtG m8 G 1 (m8.node 1).configs.latest.index := by
  obtain ⟨G, hr, hp⟩ := protG_degenerate q8.1
  have h : ((m8.node 1).configs.latest.index = 3 ∧ (m8.node 1).commitIndex = 2 ∧
      (m8.node 2).log.entries.length = 2 ∧ (m8.node 3).log.entries.length = 2) ∧
      (m8.node 1).log.entries.length = 3 := by decide +kernel
  obtain ⟨⟨h1, h2, h3, h4⟩, h5⟩ := h
  exact ⟨h1, h2, h3, h4, G, hr, hp 1 _ (by rw [h1]; decide) (by rw [h1, h5]; decide)⟩

/-! #### … and that entry IS overwritten in a continuation of the run: node 3 loses contact with the leader, node 2 times
out and is elected in term 3 by node 3 (neither holds entry 3), appends its no-op (3,3) and sends it to node 1, which
truncates its log at index 3 and reverts its configuration -/

def o1 : Member.Sys := stepM m8 3 (.disconnected 1) [] [] 0
def o2 : Member.Sys := stepM o1 2 .timeout [] [] 0
abbrev oVote : VoteReq := { term := 3, src := 2, lastLogIndex := 2, lastLogTerm := 2 }
def o3 : Member.Sys := stepM o2 3 (.vote oVote) [] [] 0
def o4 : Member.Sys := stepM o3 2 (.voteResult false 3 rSuccess) [] [] 3
def oReq : AppendReq :=
  { term := 3, src := 2, prevLogIndex := 2, prevLogTerm := 2, ldrCommitIndex := 0,
    entries := (o4.node 2).log.entries.drop 2 }
def o5 : Member.Sys := sendM o4 oReq
def o6 : Member.Sys := stepM o5 1 (.append oReq) [] [] 0

theorem checkedO : CheckedM NodeTwoV m8 [.step 3 (.disconnected 1) 0, .step 2 .timeout 0, .step 3 (.vote oVote) 0,
    .step 2 (.voteResult false 3 rSuccess) 3, .send 2 oReq 1, .step 1 (.append oReq) 0] := by decide +kernel

theorem p6 : RM o6 := rm_run _ q8 checkedO

theorem p5 : RM o5 := rm_run _ q8 (Script.Checked.take _ _ 5 checkedO)

/-- the index 3 of node 1 (state `m8`), "protected" in the sense of `ProtG` for a ghost ledger constrained by its root
only (the `example` above), holds the configuration entry (3,2); in the later reachable state `o6` node 1 holds the no-op
(3,3) of the new leader there and is back to the bootstrap configuration. (For `C02Member.Protected` see
`protected_informative`: in `o5` index 3 of node 1 is NOT protected, the theorem yields the second alternative — the
configuration is pending and index 1, that of `configs.committed`, is protected — and index 1 is what node 1 keeps.) -/
theorem protected_index_overwritten :
    ReachableR (1, 1) m8 ∧ ReachableR (1, 1) o6 ∧
    ((m8.node 1).log.get? 3).map (fun e => (e.term, e.typ)) = some (2, etConfig) ∧
    ((o6.node 1).log.get? 3).map (fun e => (e.term, e.typ)) = some (3, etNop) ∧
    (o6.node 1).configs.latest.index = 1 ∧ (o6.node 1).panicked = none ∧ (o6.node 2).role = .leader :=
  ⟨q8.1, p6.1, by decide +kernel⟩

/-! ### instances: the older theorems on the run -/

/-- C08Sys `config_chain_partial` on `m21`: the ledger `changes` holds the two introductions (configuration (3,2) and the
promotion (4,2)); both are `ChangeOK` -/
example : m21.changes.length = 2 ∧ ∀ r ∈ m21.changes, C08Sys.ChangeOK r :=
  ⟨by decide +kernel,
   C08Sys.config_chain_partial m21 ((reachableP_of_R q21.1).mono (fun _ h => h.2.1))⟩

/-- C08Sys `election_safety_one_change_partial` (voter sets [1,2,3] and [1,2,3,4]) and `election_safety_sys_member_partial`
on `m21`; C04Member `log_matching_member_partial` on `m21` -/
example : (∀ l l' t, (l, t) ∈ m21.el.won → (l', t) ∈ m21.el.won → l = l') ∧ (1, 2) ∈ m21.el.won ∧
    Replication.Uniq m21.cm.T :=
  ⟨(C08Sys.election_safety_one_change_partial V3 V4 C08Sys.ex1_twoV.1 C08Sys.ex1_twoV.2.1 C08Sys.ex1_twoV.2.2.1 m21
      q21.2).2,
   by decide +kernel,
   (C04Member.log_matching_member_partial m21 ((reachableP_of_R q21.1).mono (fun _ h => h.2.2))).2.1⟩

set_option maxRecDepth 100000 in
/-- C08Member `leader_completeness_member_partial` / `commit_index_safety_member_partial` on `m21`: the leader holds the
committed configuration entries (3,2) and (4,2); node 4 — restarted, commit index 0 — and the leader agree on what is
within node 2's commit index -/
example : (∃ e, (m21.node 1).log.get? 4 = some e ∧ e.term = 2) ∧ (m21.node 2).commitIndex = 3 ∧
    (m21.node 1).log.get? 3 = (m21.node 2).log.get? 3 := by
  have h : (m21.node 1).role = .leader ∧ (4, 2) ∈ m21.cm.committed ∧ 2 ≤ (m21.node 1).term ∧
      (m21.node 2).term ≤ (m21.node 1).term ∧ (m21.node 2).commitIndex = 3 := by decide +kernel
  obtain ⟨hl, hc, ht, ht2, hc2⟩ := h
  exact ⟨(leader_completeness_member_partial (1, 1) m21 q21.1).2 1 hl (4, 2) hc ht, hc2,
    ((commit_index_safety_member_partial (1, 1) m21 q21.1).2.2.1 1 2 3 hl ht2 (by decide)
      (Nat.le_of_eq hc2.symm)).1⟩

/-! ### 5. the evaluated scenario of Props/C08Sys.lean is a run of the system; reports without acknowledgements are not -/

/-- acknowledgements recorded in a completed step that is not an append request are the acting node's own -/
theorem acks_stepM_nonappend (x : Member.Sys) (i : Nat) (op : Op) (ra : List Nat) (ord : List (List Nat)) (src : Nat)
    (hop : ∀ q, op ≠ .append q) : ∀ a ∈ (stepM x i op ra ord src).cm.acks, a.voter = i ∨ a ∈ x.cm.acks := by
  intro a ha
  have ha' : a ∈ ackOf i op ((x.node i).step op ra ord) ++
      (selfAck i op (x.node i) ((x.node i).step op ra ord) ++ x.cm.acks) := ha
  rcases List.mem_append.mp ha' with h | h
  · unfold ackOf at h
    split at h
    · rename_i q; exact absurd rfl (hop q)
    · cases h
  · rcases List.mem_append.mp h with h | h
    · unfold selfAck at h
      split at h
      · left; rw [List.mem_singleton.mp h]
      · cases h
    · exact Or.inr h

/-- a continuation of `C08Sys.ex8` (the leader has just appended configuration (3,2), no append request for it has been
sent) that delivers reports nobody backs: the match-index reports "3" of the nodes 2 and 3 are delivered to the leader -/
def oldEx9 : Member.Sys :=
  stepM C08Sys.ex8 1 (.replUpdates [{ id := 2, upd := .matchIndex 3 }, { id := 3, upd := .matchIndex 3 }]) [] [] 0

/-- **a match-index report that no acknowledgement backs is NOT enabled**: the report "match index 3" of node 4 delivered
to the leader in `oldEx9` — node 4 never handled an append request there (`Member.Enabled.upd`). The scenario of
Props/C08Sys.lean delivers the append requests first and is a run: `c08sys_scenario_run`. -/
theorem c08sys_ex10_not_enabled :
    ¬ Member.Enabled oldEx9 1 (.replUpdates [{ id := 4, upd := .matchIndex 3 }]) 0 := by
  intro h
  rcases h.upd _ rfl _ (List.mem_singleton.mpr rfl) 3 rfl with h0 | ⟨a, ha, hv, _⟩
  · cases h0
  · have hv4 : a.voter = 4 := hv
    rcases acks_stepM_nonappend C08Sys.ex8 1 _ [] [] 0 (fun _ h => by cases h) a ha with h1 | ha
    · rw [hv4] at h1; cases h1
    · rcases acks_stepM_nonappend C08Sys.ex7 1 _ [] [] 0 (fun _ h => by cases h) a ha with h1 | ha
      · rw [hv4] at h1; cases h1
      · rcases acks_stepM_nonappend C08Sys.ex6 1 _ [] [] 0 (fun _ h => by cases h) a ha with h1 | ha
        · rw [hv4] at h1; cases h1
        · have hall : ∀ b ∈ C08Sys.ex6.cm.acks, b.voter ≠ 4 := by decide +kernel
          exact hall a ha hv4

/-- the scenario of Props/C08Sys.lean takes the leader's steps as the model computes them, the run above in the form
`altPost` / `ccPost`: the same states (`m7_eq`, `m8_eq`, `m14_eq`, `m15_eq`) -/
theorem c08sys_ex12 : C08Sys.ex12 = m15 := by
  rw [← m15_eq, ← m14_eq]
  unfold m13 m12 mReq4 m11 m10 m9 mReq3
  rw [← m8_eq, ← m7_eq]
  rfl

/-- **the scenario of Props/C08Sys.lean (`ex1 … ex12`) is a run of the system**: its last state is the state
`m15` of the run above (the leader has promoted node 4: configuration (4,2)), reachable in `ReachableR (1,1)`, with the
voters of every node's latest configuration [1,2,3] or [1,2,3,4] along the run -/
theorem c08sys_scenario_run : C08Sys.ex12 = m15 ∧ RM C08Sys.ex12 := ⟨c08sys_ex12, c08sys_ex12 ▸ q15⟩

/-! ### 6. statement 2 of `cfg_latest_member_partial` (`C02Member.Protected`) on the runs: it is informative -/

/-- **statement 2 of `C08Member.cfg_latest_member_partial` (`C02Member.Protected`), instantiated.**
* State `o5` (reachable: the leader 1 of term 2 has appended configuration (3,2), held by no other node; node 2 has been
  elected in term 3 and its request `oReq` — the no-op (3,3) at index 3 — is on the wire). For node 1 the latest
  configuration entry is at index 3 and index 3 is NOT protected (`oReq` conflicts with it: unlike `ProtG` for an
  unconstrained ledger, `Protected` is not satisfied by every index of the log). So the theorem yields its SECOND alternative: the
  configuration of node 1 is pending and the index 1 of `configs.committed` is protected — and (statement 3) node 1 keeps
  entry 1 when it handles `oReq`; indeed in `o6` node 1 is back to configuration 1 (`protected_index_overwritten`).
* State `m21` (reachable: both configurations committed): the leader's latest configuration (index 4) is not pending, so
  the theorem yields the FIRST alternative: none of the requests on the wire conflicts with the leader's log up to 4. -/
theorem protected_informative :
    (ReachableR (1, 1) o5 ∧ (o5.node 1).configs.latest.index = 3 ∧ (o5.node 1).configs.committed.index = 1 ∧
      ¬ C02Member.Protected o5 1 3 ∧
      MemberFollow.Pend (o5.node 1).log.entries (o5.node 1).configs ∧ C02Member.Protected o5 1 1 ∧
      ((o5.node 1).step (.append oReq) [] []).log.entries.take 1 = (o5.node 1).log.entries.take 1) ∧
    (ReachableR (1, 1) m21 ∧ (m21.node 1).configs.latest.index = 4 ∧ m21.cm.rp.sent.length = 4 ∧
      C02Member.Protected m21 1 4) := by
  have ho : (o5.node 1).configs.latest.index = 3 ∧ (o5.node 1).configs.committed.index = 1 ∧
      ¬ oReq.term < (o5.node 1).term ∧ ¬ NoConf (o5.node 1) oReq 3 ∧ (o5.node 1).closed = "" := by
    unfold NoConf
    decide +kernel
  obtain ⟨hl, hc, hq, hnc, hcl⟩ := ho
  have hnp : ¬ C02Member.Protected o5 1 3 := fun ⟨_, _, h⟩ => hnc (h oReq List.mem_cons_self hq)
  obtain ⟨_, _, h2, h3⟩ := cfg_latest_member_partial (1, 1) o5 p5.1
  have h2' := h2 1
  rw [hl, hc] at h2'
  obtain ⟨hpend, hprot⟩ := h2'.resolve_left hnp
  have hen : Member.Enabled o5 1 (.append oReq) 0 ∧ ReqG o5 1 (.append oReq) :=
    enabledM_iff.mpr ⟨by decide, Or.inr List.mem_cons_self, by decide⟩
  refine ⟨⟨p5.1, hl, hc, hnp, hpend, hprot, h3 1 1 hprot _ [] [] 0 hen.1 hen.2 hcl⟩, ?_⟩
  have hm : (m21.node 1).configs.latest.index = 4 ∧ (m21.node 1).configs.committed.index = 4 ∧
      m21.cm.rp.sent.length = 4 := by decide +kernel
  obtain ⟨hl4, hc4, hs4⟩ := hm
  refine ⟨q21.1, hl4, hs4, ?_⟩
  rcases (cfg_latest_member_partial (1, 1) m21 q21.1).2.2.1 1 with h | ⟨hp, _⟩
  · rw [hl4] at h; exact h
  · have := hp.1
    rw [hl4, hc4] at this
    exact absurd this (Nat.lt_irrefl _)

end AuditMember
end Raft

#print axioms Raft.AuditMember.reachableP_of_R
#print axioms Raft.AuditMember.no_fresh_node
#print axioms Raft.AuditMember.protG_degenerate
#print axioms Raft.AuditMember.protected_index_overwritten
#print axioms Raft.AuditMember.c08sys_ex10_not_enabled
#print axioms Raft.AuditMember.c08sys_scenario_run
#print axioms Raft.AuditMember.protected_informative
#print axioms Raft.AuditMember.q21
#print axioms Raft.AuditMember.runM_facts
#print axioms Raft.AuditMember.exAdd_valid
