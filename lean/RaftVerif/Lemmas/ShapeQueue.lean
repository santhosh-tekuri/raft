/-
`splitQueue` (the split of the leader queue in `leader.applyCommitted`): the two parts are the queue, in order.
-/
import RaftVerif.Model.Handlers

namespace Raft
namespace Node

theorem splitQueue_append (ci : Nat) (q : List QItem) : (splitQueue ci q).1 ++ (splitQueue ci q).2 = q := by
  induction q with
  | nil => rfl
  | cons x xs ih =>
    unfold splitQueue
    split
    · dsimp only; rw [List.cons_append, ih]
    · rfl

theorem splitQueue_sub (ci : Nat) (l : List QItem) :
    (∀ q ∈ (splitQueue ci l).1, q ∈ l) ∧ (∀ q ∈ (splitQueue ci l).2, q ∈ l) :=
  ⟨fun _ hq => splitQueue_append ci l ▸ List.mem_append_left _ hq,
   fun _ hq => splitQueue_append ci l ▸ List.mem_append_right _ hq⟩

end Node
end Raft
