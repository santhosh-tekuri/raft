/-
The cluster invariants of `Raft.Commit` (`CInv`, Sys/Commit.lean; `FsmInv`, Props/C03Sys.lean) read only some fields of
a node; and of a FOLLOWER they constrain the commit index, the state machine and the configurations only through
"what the commit index covers is committed" (`CmtI.cc`) and "the state machine holds the payloads of the applied
prefix" (`FsmOK`).  `bump`: replacing the nodes of a state by nodes that agree on the fields read (`robs`) and — unless
they are followers for which these two facts are supplied — on `lobs`, preserves both invariants (namespace `SnapSim`).

The walk over the components of `CInv` is made once, for nodes that STAND FOR the old ones (`Stands`, `cinv_stands`): the
term not lower, a node that is not a follower unchanged in what is read, and the clauses about one node given. `bump` is
the instance "same fields" (`Stands.of_fieldEq`); the replacement of one node by a follower with another log
(`SnapInst.cinv_replace`, Lemmas/SnapInstA.lean) is the other.

This is what connects the system with snapshots to `Raft.Commit`: a snapshot operation changes nothing the invariants
read; a restart from a snapshot differs from a restart without one in the commit index, the state machine and the
configurations of a follower.
-/
import RaftVerif.Lemmas.SnapSim
import RaftVerif.Props.C03Sys

namespace Raft
namespace SnapSim
open LogRel CommitRel Commit C03Sys

/-- the cluster `z` with the node map `N`; the ledgers stay -/
def withNodes (z : Commit.Sys) (N : Nat → Node) : Commit.Sys :=
  { z with rp := { z.rp with el := { z.rp.el with node := N } } }

theorem withNodes_ledgers (z : Commit.Sys) (N : Nat → Node) :
    (withNodes z N).committed = z.committed ∧ (withNodes z N).acks = z.acks ∧ (withNodes z N).T = z.T :=
  ⟨rfl, rfl, rfl⟩

theorem withNodes_sent (z : Commit.Sys) (N : Nat → Node) : (withNodes z N).rp.sent = z.rp.sent := rfl

theorem withNodes_won (z : Commit.Sys) (N : Nat → Node) : (withNodes z N).rp.el.won = z.rp.el.won := rfl

def robs (s : Node) : (Nat × Nat × Nat × Nat × Nat × NLog × Nat × Nat × Role × Int) × Nat × List SnapFile :=
  (pobs s, s.snapIndex, s.snapsDisk)

/-- `a` agrees with `b` on what the invariants of `Raft.Commit` read of EVERY node — identity, term and vote (in memory and
on disk), the entries of the log, the cached last coordinates, role, `votesNeeded`, the snapshot data `NWF` asks to be
absent — except that the log of `a` may be flushed further -/
structure FieldEq (a b : Node) : Prop where
  nid : a.nid = b.nid
  term : a.term = b.term
  votedFor : a.votedFor = b.votedFor
  durTerm : a.durTerm = b.durTerm
  durVote : a.durVote = b.durVote
  entries : a.log.entries = b.log.entries
  prev : a.log.prev = b.log.prev
  /-- the log may be flushed further (and its segments regrouped) -/
  flushed : b.log.flushed ≤ a.log.flushed
  lwf : C06.LogWF b.log → C06.LogWF a.log
  lastLogIndex : a.lastLogIndex = b.lastLogIndex
  lastLogTerm : a.lastLogTerm = b.lastLogTerm
  role : a.role = b.role
  votesNeeded : a.votesNeeded = b.votesNeeded
  snapIndex : a.snapIndex = b.snapIndex
  snapsDisk : a.snapsDisk = b.snapsDisk

theorem fieldEq_of_robs {a b : Node} (h : robs a = robs b) : FieldEq a b := by
  unfold robs pobs at h
  simp only [Prod.mk.injEq] at h
  obtain ⟨⟨h1, h2, h3, h4, h5, h6, h7, h8, h9, h10⟩, h11, h12⟩ := h
  exact ⟨h1, h2, h3, h4, h5, by rw [h6], by rw [h6], by rw [h6]; exact Nat.le_refl _, fun h => by rw [h6]; exact h,
    h7, h8, h9, h10, h11, h12⟩

/-- … and on what they read depending on the role: commit index, state machine, configurations, and of the leader record
the voter count, the start index, the replication table and the queue -/
structure LFieldEq (a b : Node) : Prop where
  commitIndex : a.commitIndex = b.commitIndex
  fsm : a.fsm = b.fsm
  configs : a.configs = b.configs
  numVoters : a.ldr.numVoters = b.ldr.numVoters
  startIndex : a.ldr.startIndex = b.ldr.startIndex
  repls : a.ldr.repls = b.ldr.repls
  queue : a.ldr.queue = b.ldr.queue

theorem lfieldEq_of_lobs {a b : Node} (h : lobs a = lobs b) : LFieldEq a b := by
  unfold lobs at h
  simp only [Prod.mk.injEq] at h
  obtain ⟨h1, h2, h3, h4, h5, h6, h7⟩ := h
  exact ⟨h1, h2, h3, h4, h5, h6, h7⟩

/-- what is supplied for a follower whose commit index / state machine / configurations were replaced -/
def FollowerOK (z : Commit.Sys) (n : Node) : Prop :=
  n.role = .follower ∧
  (∀ k, 1 ≤ k → k ≤ n.commitIndex → k ≤ n.log.entries.length ∧ Cmt z (k, termAt n.log.entries k) n.term) ∧
  FsmOK 0 n


theorem cmt_withNodes (z : Commit.Sys) (N : Nat → Node) (a : Nat × Nat) (u : Nat) :
    Cmt (withNodes z N) a u ↔ Cmt z a u := Iff.rfl

/-- **what the invariants of `Raft.Commit` ask of a node `m` that takes the place of node `j` of `z`, the ledgers staying as
they are**: its term is not lower, its vote the old one (same term) or none (newer term); if it is not a follower it is the
old node in all the invariants read (`FieldEq`, `LFieldEq`); and the clauses about one node hold of it. Two instances:
a node that agrees with the old one on those fields (`Stands.of_fieldEq`, for `bump`), and a follower whose log is a
committed root path (`SnapInst.ReplOK`, for `SnapInst.cinv_replace`). -/
structure Stands (z : Commit.Sys) (j : Nat) (m : Node) : Prop where
  nid : m.nid = (z.node j).nid
  tv : (m.term = (z.node j).term ∧ m.votedFor = (z.node j).votedFor) ∨ ((z.node j).term < m.term ∧ m.votedFor = 0)
  vwf : C05.VoteWF m
  act : m.role ≠ .follower → FieldEq m (z.node j) ∧ LFieldEq m (z.node j)
  nwf : NWF m
  lwf : C06.LogWF m.log
  unfl : ∀ k, m.log.flushed < k → k ≤ m.log.entries.length →
    ∃ c ∈ z.T, c.e.index = k ∧ c.e.term = termAt m.log.entries k ∧ c.cr = j
  chain : Chain z.rp.created none m.log.entries
  termLe : ∀ e ∈ m.log.entries, e.term ≤ m.term
  commit : ∀ k, 1 ≤ k → k ≤ m.commitIndex → k ≤ m.log.entries.length ∧ Cmt z (k, termAt m.log.entries k) m.term
  fb : FB m
  stable : ∀ b : Nat × Nat, DurHolds (z.node j) b → b.2 ≤ (z.node j).term → DurHolds m b ∨ Unsafe z.T b m.term

theorem unsafe_mono {T : List CEntry} {b : Nat × Nat} {u u' : Nat} (hu : u ≤ u') (h : Unsafe T b u) : Unsafe T b u' := by
  obtain ⟨c, hc, h1, h2, h3⟩ := h
  exact ⟨c, hc, h1, Nat.le_trans h2 hu, h3⟩

section stands
variable {V : List Nat} {z : Commit.Sys} {N : Nat → Node} {j : Nat} {m : Node}

theorem Stands.term_le (h : Stands z j m) : (z.node j).term ≤ m.term := by
  rcases h.tv with ⟨e, _⟩ | ⟨e, _⟩ <;> omega

theorem Stands.vstep (h : Stands z j m) : C05.VoteStep (z.node j) m := by
  refine ⟨h.term_le, fun he _ => ?_⟩
  rcases h.tv with ⟨_, e⟩ | ⟨e, _⟩
  · exact e
  · omega

/-- a node that has voted has the vote and the term of the old one -/
theorem Stands.voted (h : Stands z j m) (h0 : m.votedFor ≠ 0) :
    m.votedFor = (z.node j).votedFor ∧ m.term = (z.node j).term := by
  rcases h.tv with ⟨e1, e2⟩ | ⟨_, e2⟩
  · exact ⟨e2, e1⟩
  · exact absurd e2 h0

theorem stands_el (hI : C01Sys.Inv V z.rp.el) (h : ∀ j, Stands z j (N j)) : C01Sys.Inv V (withNodes z N).rp.el := by
  refine ⟨fun j => ?_, fun g hg => ?_, hI.unique, fun j hr => ?_, fun j hl => ?_, hI.backed, fun c hc => ?_⟩
  · show (N j).nid = j ∧ C05.VoteWF (N j)
    exact ⟨(h j).nid.trans (hI.ids j).1, (h j).vwf⟩
  · show C01Sys.HonouredBy (N g.voter) g
    exact C01Sys.honouredBy_step (hI.honoured g hg) (h g.voter).vstep
  · have hr' : (N j).role = .candidate := hr
    obtain ⟨e, _⟩ := (h j).act (by rw [hr']; decide)
    exact (hI.cand j (by rw [← e.role]; exact hr')).transfer (y := (withNodes z N).rp.el) e.term e.votesNeeded
      (fun g hg => hg) rfl
  · have hl' : (N j).role = .leader := hl
    obtain ⟨e, _⟩ := (h j).act (by rw [hl']; decide)
    show (j, (N j).term) ∈ z.rp.el.won
    rw [e.term]
    exact hI.recorded j (by rw [← e.role]; exact hl')
  · show c.2.1 ≤ (N c.1).term
    exact Nat.le_trans (hI.countedTerm c hc) (h c.1).term_le

theorem stands_rp (hI : Replication.Inv V z.rp) (h : ∀ j, Stands z j (N j)) :
    Replication.Inv V (withNodes z N).rp := by
  refine ⟨stands_el hI.el h, fun j => ?_, hI.uniq, hI.sent, fun j hl => ?_, fun c hc h0 j => ?_, fun c hc h0 => ?_⟩
  · show NWF (N j) ∧ Chain z.rp.created none (N j).log.entries
    exact ⟨(h j).nwf, (h j).chain⟩
  · have hl' : (N j).role = .leader := hl
    obtain ⟨e, _⟩ := (h j).act (by rw [hl']; decide)
    exact hI.ldrV j (by rw [← e.role]; exact hl')
  · show c.e.term ≤ (N j).term ∧ ((N j).role ≠ .follower → c.e.term < (N j).term)
    refine ⟨Nat.le_trans (hI.init0 c hc h0 j).1 (h j).term_le, fun hr => ?_⟩
    obtain ⟨e, _⟩ := (h j).act hr
    rw [e.term]
    exact (hI.init0 c hc h0 j).2 (by rw [← e.role]; exact hr)
  · show c.cr ∈ V ∧ _ ∧ c.e.term ≤ (N c.cr).term ∧
      ((N c.cr).role = .leader → c.e.term = (N c.cr).term → c.e.index ≤ (N c.cr).lastLogIndex) ∧
      ((N c.cr).role = .candidate → c.e.term < (N c.cr).term)
    obtain ⟨a1, a2, a3, a4, a5⟩ := hI.own c hc h0
    refine ⟨a1, a2, Nat.le_trans a3 (h c.cr).term_le, fun hl ht => ?_, fun hl => ?_⟩
    · obtain ⟨e, _⟩ := (h c.cr).act (by rw [hl]; decide)
      rw [e.lastLogIndex]
      exact a4 (by rw [← e.role]; exact hl) (by rw [← e.term]; exact ht)
    · obtain ⟨e, _⟩ := (h c.cr).act (by rw [hl]; decide)
      rw [e.term]
      exact a5 (by rw [← e.role]; exact hl)

theorem stands_tree (hI : TreeI V z) (h : ∀ j, Stands z j (N j)) : TreeI V (withNodes z N) := by
  refine ⟨hI.ok, fun c hc h0 => ?_, fun c hc h0 hl ht => ?_⟩
  · obtain ⟨k, hk, a1, a2, a3, a4, Q, q1, q2, q3, q4⟩ := hI.crElect c hc h0
    refine ⟨k, hk, a1, a2, a3, a4, Q, q1, q2, q3, fun v hv => ?_⟩
    show c.e.term ≤ (N v).term ∧ UpTo z k v
    exact ⟨Nat.le_trans (q4 v hv).1 (h v).term_le, (q4 v hv).2⟩
  · have hl' : (N c.cr).role = .leader := hl
    have ht' : (N c.cr).term = c.e.term := ht
    obtain ⟨e, _⟩ := (h c.cr).act (by rw [hl']; decide)
    show Holds (N c.cr).log.entries c.e.index c.e.term
    rw [e.entries]
    exact hI.ownLog c hc h0 (by rw [← e.role]; exact hl') (by rw [← e.term]; exact ht')

theorem stands_node (hI : NodeI z) (h : ∀ j, Stands z j (N j)) : NodeI (withNodes z N) := by
  refine ⟨fun j => (h j).lwf, fun j => (h j).termLe, fun j k => (h j).unfl k, fun j hr => ?_, fun j hr => ?_,
    fun j hl => ?_⟩
  · have hr' : (N j).role ≠ .follower := hr
    obtain ⟨e, l⟩ := (h j).act hr'
    show (N j).configs.latest.isVoter (N j).nid = true
    rw [l.configs, e.nid]
    exact hI.roleVoter j (by rw [← e.role]; exact hr')
  · have hr' : (N j).role ≠ .follower := hr
    obtain ⟨e, _⟩ := (h j).act hr'
    show ∃ k ∈ z.camps, k.cand = j ∧ k.term = (N j).term ∧ k.lastIndex ≤ (N j).log.entries.length ∧
      (1 ≤ k.lastIndex → termAt (N j).log.entries k.lastIndex = k.lastTerm) ∧
      ((N j).role = .candidate → k.lastIndex = (N j).log.entries.length)
    rw [e.term, e.entries, e.role]
    exact hI.camp j (by rw [← e.role]; exact hr')
  · have hl2 : (N j).role = .leader := hl
    obtain ⟨e, l2⟩ := (h j).act (by rw [hl2]; decide)
    have lo := hI.ldr j (by rw [← e.role]; exact hl2)
    show LeadOK (Commit.Backed (withNodes z N) j) (N j)
    refine ⟨by rw [l2.numVoters, l2.configs]; exact lo.numVoters, by rw [l2.startIndex]; exact lo.start, ?_, ?_,
      by rw [l2.startIndex, e.entries]; exact lo.startLe, by rw [e.lastLogTerm, e.term]; exact lo.lastT⟩
    · rw [l2.startIndex, e.entries, e.term]; exact lo.own
    · rw [l2.repls]
      intro r hr
      refine (lo.mi r hr).imp id ?_
      rintro ⟨a, ha, a1, a2, a3⟩
      exact ⟨a, ha, a1, by show a.term = (N j).term; rw [e.term]; exact a2, a3⟩

theorem stands_sent (hI : SentI V z) (h : ∀ j, Stands z j (N j)) : SentI V (withNodes z N) := by
  refine ⟨fun q hq => ?_, hI.term, hI.anc, hI.cmt⟩
  show q.src ≠ 0 ∧ q.src ∈ V ∧ (q.src, q.term) ∈ z.rp.el.won ∧ q.term ≤ (N q.src).term ∧
    ((N q.src).role = .candidate → q.term < (N q.src).term)
  obtain ⟨a1, a2, a3, a4, a5⟩ := hI.won q hq
  refine ⟨a1, a2, a3, Nat.le_trans a4 (h q.src).term_le, fun hr => ?_⟩
  obtain ⟨e, _⟩ := (h q.src).act (by rw [hr]; decide)
  rw [e.term]
  exact a5 (by rw [← e.role]; exact hr)

theorem stands_ack (hI : AckI z) (h : ∀ j, Stands z j (N j)) : AckI (withNodes z N) := by
  refine ⟨fun a ha => ?_, hI.src, fun a ha b hb hanc => ?_⟩
  · show 1 ≤ a.index ∧ a.term ≤ (N a.voter).term ∧ a.eterm ≤ a.term ∧ ∃ c ∈ z.T, key c = a.key
    obtain ⟨a1, a2, a3, a4⟩ := hI.wf a ha
    exact ⟨a1, Nat.le_trans a2 (h a.voter).term_le, a3, a4⟩
  · show DurHolds (N a.voter) b ∨ Unsafe z.T b (N a.voter).term
    rcases hI.stable a ha b hb hanc with d | u
    · exact (h a.voter).stable b d (by rw [hb]; exact (hI.wf a ha).2.1)
    · exact Or.inr (unsafe_mono (h a.voter).term_le u)

theorem stands_vote (hI : VoteI V z) (h : ∀ j, Stands z j (N j)) : VoteI V (withNodes z N) := by
  refine ⟨hI.campUniq, fun k hk => ?_, fun v h0 hv => ?_, fun v h0 k hk hc ht => ?_, hI.grantInv, hI.electInv,
    hI.countedGrant, hI.grantCamp⟩
  · show k.cand ≠ 0 ∧ k.term ≤ (N k.cand).term ∧ _
    obtain ⟨a1, a2, a3⟩ := hI.campWf k hk
    exact ⟨a1, Nat.le_trans a2 (h k.cand).term_le, a3⟩
  · have h0' : (N v).votedFor ≠ 0 := h0
    have hv' : (N v).votedFor ≠ v := hv
    show ∃ k ∈ z.camps, k.cand = (N v).votedFor ∧ k.term = (N v).term
    obtain ⟨ev, et⟩ := (h v).voted h0'
    rw [ev] at h0' hv' ⊢
    rw [et]
    exact hI.voteCamp v h0' hv'
  · have h0' : (N v).votedFor ≠ 0 := h0
    have hc' : k.cand = (N v).votedFor := hc
    have ht' : k.term = (N v).term := ht
    obtain ⟨ev, et⟩ := (h v).voted h0'
    rw [ev] at h0' hc'
    rw [et] at ht'
    exact hI.voteInv v h0' k hk hc' ht'

/-- **the invariants of `Raft.Commit` survive when every node `j` is replaced by a node that stands for it** -/
theorem cinv_stands (hI : CInv V z) (h : ∀ j, Stands z j (N j)) : CInv V (withNodes z N) ∧ FsmInv (withNodes z N) :=
  ⟨⟨stands_rp hI.rp h, stands_tree hI.tree h, stands_node hI.node h, stands_sent hI.sent h, stands_ack hI.ack h,
    stands_vote hI.vote h, ⟨hI.cmt.quorum, hI.cmt.lc, fun j k hk hkc => (h j).commit k hk hkc⟩⟩, fun j => (h j).fb⟩

/-- a node that agrees with node `j` on the fields of `FieldEq` (the log: its entries and how far it is flushed), and on
those of `LFieldEq` unless it is a follower whose commit index, state machine and configurations are supplied -/
theorem Stands.of_fieldEq (hI : CInv V z) (hF : FsmInv z) (e : FieldEq m (z.node j))
    (h2 : LFieldEq m (z.node j) ∨ FollowerOK z m) : Stands z j m := by
  obtain ⟨a, b⟩ := hI.rp.nodes j
  refine ⟨e.nid, Or.inl ⟨e.term, e.votedFor⟩, ?_, fun hr => ⟨e, h2.resolve_right (fun f => hr f.1)⟩,
    ⟨by rw [e.snapIndex]; exact a.snapIndex, by rw [e.snapsDisk]; exact a.snaps, by rw [e.prev]; exact a.prev,
      by rw [e.entries]; exact a.contig, by rw [e.lastLogIndex, e.entries]; exact a.last,
      by rw [e.lastLogTerm, e.entries]; exact a.lastT⟩,
    e.lwf (hI.node.lwf j), fun k h1 => ?_, by rw [e.entries]; exact b,
    by rw [e.entries, e.term]; exact hI.node.termLe j, ?_, ?_, fun bb d _ => Or.inl ?_⟩
  · have := (hI.rp.el.ids j).2
    unfold C05.VoteWF at this ⊢
    rw [e.durTerm, e.term, e.durVote, e.votedFor]
    exact this
  · rw [e.entries]
    exact hI.node.unfl j k (Nat.lt_of_le_of_lt e.flushed h1)
  · rcases h2 with l | ⟨_, f, _⟩
    · intro k hk hkc
      rw [e.entries, e.term]
      exact hI.cmt.cc j k hk (by rw [← l.commitIndex]; exact hkc)
    · exact f
  · rcases h2 with l | ⟨f, _, g⟩
    · obtain ⟨fo, qo⟩ := hF j
      refine ⟨⟨by rw [l.fsm, l.commitIndex]; exact fo.le, by rw [l.fsm, e.entries]; exact fo.len,
        by rw [l.fsm, e.entries]; exact fo.applied, Nat.zero_le _⟩, fun hl => ?_⟩
      have := qo (by rw [← e.role]; exact hl)
      unfold QOK at this ⊢
      rw [l.queue, e.entries]
      exact this
    · exact ⟨g, fun hl => by rw [f] at hl; cases hl⟩
  · unfold DurHolds at d ⊢
    rw [e.entries]
    exact ⟨Nat.le_trans d.1 e.flushed, d.2⟩

/-- **the invariants of `Raft.Commit` only read the fields of `FieldEq` (the log: its entries and how far it is
flushed), and those of `LFieldEq` except on followers** -/
theorem bump_fe (hI : CInv V z) (hF : FsmInv z) (e : ∀ j, FieldEq (N j) (z.node j))
    (h2' : ∀ j, LFieldEq (N j) (z.node j) ∨ FollowerOK z (N j)) :
    CInv V (withNodes z N) ∧ FsmInv (withNodes z N) :=
  cinv_stands hI (fun j => .of_fieldEq hI hF (e j) (h2' j))

theorem bump (hI : CInv V z) (hF : FsmInv z) (h1 : ∀ j, robs (N j) = robs (z.node j))
    (h2 : ∀ j, lobs (N j) = lobs (z.node j) ∨ FollowerOK z (N j)) :
    CInv V (withNodes z N) ∧ FsmInv (withNodes z N) :=
  bump_fe hI hF (fun j => fieldEq_of_robs (h1 j)) (fun j => (h2 j).imp lfieldEq_of_lobs id)

end stands

end SnapSim
end Raft
