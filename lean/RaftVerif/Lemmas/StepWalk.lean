/-
The walk through the handlers of `Node.step`. Its records list the state updates of the handlers, each as its call sites
perform it: the hypotheses of a field of the `At` records are equations and branch conditions that hold at every call site
(a new leader record that differs from the old one in the transfer record only, a status that gets a new `round`, the
bound up to which `checkLogCompact` compacts). What a predicate needs at a site it derives from these facts and from
itself at the state before the update, which every field receives.

`GuardedAt Mid P Pre` lists the updates of the mutually recursive leader block, `GuardedLdrAt c …` adds the other handlers
only a leader runs, `GuardedStepAt c …` the rest; `Block Mid P Pre fuel` says what the block does, by function, and
`GuardedAt.block` is the induction over the fuel. The control flow has two brackets in which a predicate may be at another
level, and both are in the record: `leader.setCommitIndex` may leave the commit index beyond the log and every call of it
is followed by `applyCommitted`, which repairs that or fails (`commitR` leads from `P` down to `Mid`, `applyL` back up); a
configuration entry is appended and then adopted by `leader.changeConfig` (`enqueueCfg` leads from `P` to `Pre c`,
`configSync` back). Updates that some predicate survives only as a whole are single fields (queueing an item and appending
its entry, `configSync`, `applyL`, `snapRun`, `snapTaken`); the handlers that depend on what a request carries, and
`leader.release` and `leader.init`, which not every predicate survives, are hypotheses of `handle_with`, `settle_inv`,
`step_with`. A predicate that follows only some batches restricts the items (`It`) and the tasks of `doChangeConfig` (`Tk`).
A predicate that cannot survive a group of updates at all (compaction, a new transfer record, the promotions, …) switches
it off in `c : Caps` and is preserved by the operations `c.Ok` admits.

For a new invariant: `StepClosed` (Lemmas/StepInv.lean) if every update preserves it unconditionally; `GuardedStep c` —
one level, the compound updates part by part, under guards that forget most of what the call sites know; `toAt` converts
it — if it is blind to the structure of the compound updates; otherwise the `At` records directly (`Order.guardedStep`,
`LC.guardedStep` are templates). For a relation `Inv s₀` to the state after `begin`, `step_with`/`step_inv` ask for `Inv`
after `begin`.

The records say "a predicate of the state survives every update". A property of the call tree — hypotheses on the arguments
of the block's functions, a budget on the fuel, a count of answers, a specification per function — is not an instance
(NoPanic, TaskLedger, MemberOneB, `CommitRel.CfgClosed.block`, `CfgRel.block`).
-/
import RaftVerif.Lemmas.ShapeLeader
import RaftVerif.Lemmas.ShapeBootstrap
import RaftVerif.Lemmas.Quiet
import RaftVerif.Lemmas.LeaderSide
import RaftVerif.Lemmas.ShapeAppend
import RaftVerif.Lemmas.ShapeSnap

namespace Raft
namespace Node

theorem mem_insertRepl (r x : Repl) (l : List Repl) (hx : x ∈ insertRepl r l) : x = r ∨ x ∈ l := by
  induction l with
  | nil => exact Or.inl (List.mem_singleton.mp hx)
  | cons m ms ih =>
    unfold insertRepl at hx
    split at hx
    · exact List.mem_cons.mp hx
    · split at hx
      · exact (List.mem_cons.mp hx).imp_right (List.mem_cons_of_mem _)
      · rcases List.mem_cons.mp hx with e | e
        · exact Or.inr (e ▸ List.mem_cons_self ..)
        · exact (ih e).imp_right (List.mem_cons_of_mem _)

/-- A status `r` that may enter the replication table of `s`: it holds the leader's compaction bound, or it has the id
and the `removeLTE` of a status of the table. -/
def ReplKept (s : Node) (r : Repl) : Prop :=
  r.removeLTE = s.ldr.removeLTE ∨ ∃ r1 ∈ s.ldr.repls, r1.id = r.id ∧ r1.removeLTE = r.removeLTE

theorem ReplKept.of_mem {s : Node} {st r : Repl} (hst : st ∈ s.ldr.repls) (hid : r.id = st.id)
    (hrm : r.removeLTE = st.removeLTE) : ReplKept s r :=
  Or.inr ⟨st, hst, hid.symm, hrm.symm⟩

theorem canCommit_gt {s : Node} {q : AppendReq} {i t : Nat} (h : s.canCommit q i t = true) : i > s.commitIndex := by
  simp only [canCommit, Bool.and_eq_true, decide_eq_true_eq] at h
  exact h.2

theorem install_commit_guard (s : Node) (f : SnapFile) (hgt : ¬ f.index ≤ s.commitIndex) :
    ((s.publishSnapshot f).clearLog.fsmRestore).snapIndex > ((s.publishSnapshot f).clearLog.fsmRestore).commitIndex := by
  rw [fsmRestore_shape]
  exact Nat.lt_of_not_le hgt

/-! The compound updates, for a predicate that survives the smaller ones they consist of. -/
section fine
variable {Inv : Node → Prop} (panic : ∀ s site, Inv s → Inv (s.panic site))
include panic

theorem assert_of (s : Node) (b : Bool) (site : String) (hs : Inv s) : Inv (s.assert b site) := by
  unfold Node.assert
  split
  · exact hs
  · exact panic _ _ hs

theorem appendEntry_of
    (append : ∀ (s : Node) e roll, Inv s →
      Inv { s with log := s.log.append e roll, lastLogIndex := e.index, lastLogTerm := e.term })
    (s : Node) (e : Entry) (hs : Inv s) : Inv (s.appendEntry e) := by
  unfold Node.appendEntry
  exact append _ _ _ (assert_of panic _ _ _ hs)

theorem fsmApply_of (fsmLog : ∀ (s : Node) n, Inv s → Inv (s.fsmApplyLogTo n))
    (fsmItems : ∀ (s : Node) qs, Inv s → Inv (s.fsmApplyItems qs)) (s : Node) (qs : List QItem) (hs : Inv s) :
    Inv (s.fsmApply qs) := by
  unfold Node.fsmApply
  split
  · exact panic _ _ hs
  · split
    · exact panic _ _ hs
    · exact assert_of panic _ _ _ (fsmItems _ _ (fsmLog _ _ hs))

variable (fsm : ∀ (s : Node) f, Inv s → Inv (s.withFsm f))
include fsm

theorem fsmApplyLogTo_of (s : Node) (n : Nat) (hs : Inv s) : Inv (s.fsmApplyLogTo n) := by
  unfold Node.fsmApplyLogTo
  split
  · exact hs
  · split
    · exact panic _ _ hs
    · dsimp only
      split
      · exact panic _ _ hs
      · apply fsm
        split
        · exact panic _ _ hs
        · exact hs

theorem fsmApplyItems_of (reply : ∀ s t r, Inv s → Inv (s.reply t r)) (s : Node) (qs : List QItem) (hs : Inv s) :
    Inv (s.fsmApplyItems qs) := by
  induction qs generalizing s with
  | nil => exact hs
  | cons q qs ih =>
    unfold Node.fsmApplyItems
    dsimp only
    apply ih
    apply reply
    have h1 : Inv (s.assert (q.index == s.fsm.index + 1) "fsm.assertNext") := assert_of panic s _ _ hs
    repeat' split
    all_goals first
      | exact fsm _ _ (fsm _ _ (fsm _ _ h1))
      | exact fsm _ _ (fsm _ _ h1)
      | exact fsm _ _ h1
      | exact h1

theorem fsmRestore_of (s : Node) (hs : Inv s) : Inv s.fsmRestore := by
  unfold Node.fsmRestore
  split
  · exact panic _ _ hs
  · split
    · exact fsm _ _ hs
    · exact panic _ _ hs

omit panic fsm in
theorem snapRun_of (snapPending : ∀ (s : Node) v, Inv s → Inv (s.withSnapPending v))
    (snapResult : ∀ (s : Node) v, Inv s → Inv (s.withSnapResult v))
    (publishSnapshot : ∀ (s : Node) f, Inv s → Inv (s.publishSnapshot f)) (s : Node) (hs : Inv s) : Inv s.snapRun := by
  unfold Node.snapRun
  split
  · exact hs
  · dsimp only
    have h1 := snapPending s none hs
    split
    · exact snapResult _ _ h1
    · split
      · exact snapResult _ _ h1
      · exact snapResult _ _ (publishSnapshot _ _ h1)

omit fsm in
/-- `onSnapshotTaken` for a predicate that survives compaction up to any bound and any new leader record -/
theorem onSnapshotTaken_of (reply : ∀ s t r, Inv s → Inv (s.reply t r))
    (snapResult : ∀ (s : Node) v, Inv s → Inv (s.withSnapResult v))
    (compactLog : ∀ (s : Node) i, Inv s → Inv (s.compactLog i)) (ldrAny : ∀ (s : Node) l, Inv s → Inv (s.withLdr l))
    (s : Node) (hs : Inv s) : Inv s.onSnapshotTaken := by
  have h1 : Inv (s.withSnapResult none) := snapResult s none hs
  refine onSnapshotTaken_cases s (fun _ => hs) (fun rs _ => reply _ _ _ h1) fun rs a b y _ _ _ _ _ hy => reply _ _ _ ?_
  have h2 : Inv y := hy.elim (fun e => e ▸ h1) fun e => e.2 ▸ compactLog _ _ h1
  exact ite_ind (fun _ => notifyFlr_of panic _ (ldrAny _ _ h2)) fun _ =>
    ite_ind (fun _ => notifyFlr_of panic _ (ldrAny _ _ h2)) fun _ => h2

end fine

/-- The updates of the mutually recursive leader block for a predicate at level `P`. `Mid`: the level between
`leader.setCommitIndex` and the `applyCommitted` that follows it; `Pre c`: the level between the append of the
configuration entry `c` and its adoption by `leader.changeConfig`. Queueing an item and appending its entry is one
update: a predicate that compares the leader queue with the log fails between the two. `It`: the items a batch may hold;
`Tk`: the tasks `doChangeConfig` may be called for (a predicate that follows only internal batches, whose items carry no
task, restricts both; left out, they admit everything). They exist here and in `Block` only: `GuardedLdrAt` and
`GuardedStepAt` fix the defaults, so a restricted predicate has `block` and walks the handlers around it itself. -/
structure GuardedAt (Mid P : Node → Prop) (Pre : Config → Node → Prop) (It : QItem → Prop := fun _ => True)
    (Tk : Nat → Prop := fun _ => True) : Prop where
  panic : ∀ s site, P s → P (s.panic site)
  /-- `storeItems` refuses an item: a transfer of leadership is in progress, or the leader is no voter any more -/
  reject : ∀ s q r, P s → It q → P (s.reply q.task r)
  /-- `leader.setCommitIndex` answers a task that waits for a stable configuration -/
  stable : ∀ (s : Node) t, P s → P (s.reply t s!"config:{s.configs.latest.index}")
  tk0 : Tk 0 := by trivial
  /-- the item `doChangeConfig` stores -/
  cfgItem : ∀ t (c : Config), Tk t →
    It { index := c.index, term := c.term, typ := etConfig, cfg := some c, task := t } := by exact fun _ _ _ => trivial
  popOrder : ∀ (s : Node), P s → P s.popOrder
  /-- K for kept: a new leader record that keeps everything but the wait list -/
  ldrK : ∀ (s : Node) l, P s → l.node = s.ldr.node → l.numVoters = s.ldr.numVoters → l.startIndex = s.ldr.startIndex →
    l.removeLTE = s.ldr.removeLTE → l.repls = s.ldr.repls → l.transfer = s.ldr.transfer → l.queue = s.ldr.queue →
    P (s.withLdr l)
  /-- the status found under `id` gets a new `round`, nothing else (`checkConfigAction`) -/
  setRound : ∀ (s : Node) st rd id, P s → s.findRepl? id = some st → P (s.setRepl { st with round := rd })
  beginFinishedRounds : ∀ (s : Node), P s → P s.beginFinishedRounds
  /-- an item that is not a log entry (read, barrier) is queued; `storeItems` queues while no transfer of leadership is in
  progress -/
  enqueue : ∀ (s : Node) q, P s → It q → s.ldr.transfer.active = false →
    isLogEntryTyp (s.stamp q).typ ≠ true → P (s.enq (s.stamp q))
  /-- a log-entry item that is not a configuration is queued and its entry appended: it has the next index (the assertion
  of `storage.appendEntry` holds) and the leader's term -/
  enqueueLog : ∀ (s : Node) q, P s → It q → s.ldr.transfer.active = false →
    isLogEntryTyp (s.stamp q).typ = true → ¬ (s.stamp q).typ = etConfig →
    P ((s.enq (s.stamp q)).appendEntry (s.stamp q).toEntry)
  /-- a configuration item is queued and its entry appended: the adoption by `leader.changeConfig` is pending -/
  enqueueCfg : ∀ (s : Node) q c, P s → It q → s.ldr.transfer.active = false →
    (s.stamp q).toEntry.config? = some c → Pre c ((s.enq (s.stamp q)).appendEntry (s.stamp q).toEntry)
  /-- a configuration item that does not decode is queued and appended, and the step fails -/
  decodeFail : ∀ (s : Node) q site, P s → It q → s.ldr.transfer.active = false →
    (s.stamp q).typ = etConfig → (s.stamp q).toEntry.config? = none →
    P (((s.enq (s.stamp q)).appendEntry (s.stamp q).toEntry).panic site)
  /-- `leader.changeConfig c` up to the end of its loop over the nodes of `c` -/
  configSync : ∀ (s : Node) (c : Config), Pre c s → P (c.nodes.foldl LC.changeBody (LC.changePre s c))
  /-- the budget ran out before the adoption -/
  prePanic : ∀ (s : Node) (c : Config) site, Pre c s → P (s.panic site)
  commitLog : ∀ (s : Node) n, P s → P (s.commitLog n)
  /-- every call site has checked `i > commitIndex`; `i` may lie beyond the log, hence the lower level -/
  commitR : ∀ (s : Node) i, P s → i > s.commitIndex → Mid (s.setCommitIndexR i).1
  weaken : ∀ s, P s → Mid s := by exact fun _ h => h
  applyL : ∀ (s : Node), Mid s → P s.applyCommittedL

/-- what the leader block does to a predicate at level `P`, by function -/
structure Block (Mid P : Node → Prop) (Pre : Config → Node → Prop) (fuel : Nat) (It : QItem → Prop := fun _ => True)
    (Tk : Nat → Prop := fun _ => True) : Prop where
  storeEntry : ∀ s b, P s → (hb : ∀ q ∈ b, It q := by intros; trivial) → P (storeEntry fuel s b)
  storeItems : ∀ s b, P s → (hb : ∀ q ∈ b, It q := by intros; trivial) → P (storeItems fuel s b)
  changeConfigL : ∀ s c, Pre c s → P (changeConfigL fuel s c)
  doChangeConfig : ∀ s t c, P s → (ht : Tk t := by trivial) → P (doChangeConfig fuel s t c)
  checkConfigActions : ∀ s t c, P s → (ht : Tk t := by trivial) → P (checkConfigActions fuel s t c)
  checkConfigAction : ∀ s t c id, P s → (ht : Tk t := by trivial) → P (checkConfigAction fuel s t c id)
  setCommitIndexL : ∀ s i, P s → i > s.commitIndex → Mid (setCommitIndexL fuel s i)
  onMajorityCommit : ∀ s, P s → P (onMajorityCommit fuel s)

theorem Guarded.foldl_inv {Inv : Node → Prop} {β : Type} (f : Node → β → Node) (hf : ∀ s x, Inv s → Inv (f s x))
    (xs : List β) (s : Node) (hs : Inv s) : Inv (xs.foldl f s) :=
  List.foldlRecOn (motive := Inv) xs f hs fun s hs x _ => hf s x hs

namespace GuardedAt

variable {Mid P : Node → Prop} {Pre : Config → Node → Prop} {It : QItem → Prop} {Tk : Nat → Prop}
  (h : GuardedAt Mid P Pre It Tk)
include h

theorem notifyFlr_inv (s : Node) (hs : P s) : P s.notifyFlr := notifyFlr_of h.panic s hs

theorem zero : Block Mid P Pre 0 It Tk where
  storeEntry := fun s b hs _ => by unfold Node.storeEntry; exact h.panic _ _ hs
  storeItems := fun s b hs _ => by
    cases b with
    | nil => unfold Node.storeItems; exact hs
    | cons q qs => unfold Node.storeItems; exact h.panic _ _ hs
  changeConfigL := fun s c hs => by unfold Node.changeConfigL; exact h.prePanic _ _ _ hs
  doChangeConfig := fun s t c hs _ => by unfold Node.doChangeConfig; exact h.panic _ _ hs
  checkConfigActions := fun s t c hs _ => by unfold Node.checkConfigActions; exact h.panic _ _ hs
  checkConfigAction := fun s t c id hs _ => by unfold Node.checkConfigAction; exact h.panic _ _ hs
  setCommitIndexL := fun s i hs _ => by unfold Node.setCommitIndexL; exact h.weaken _ (h.panic _ _ hs)
  onMajorityCommit := fun s hs => by unfold Node.onMajorityCommit; exact h.panic _ _ hs

/-- One unit of fuel: the bodies of the eight functions. `hMr`, `hMl`, `hM`: what the part of `leader.setCommitIndex`
after the commit (answers to the tasks waiting for a stable configuration, `checkConfigActions`) does at level `Mid`. -/
theorem succ {n : Nat} (hMr : ∀ (s : Node) t, Mid s → Mid (s.reply t s!"config:{s.configs.latest.index}"))
    (hMl : ∀ (s : Node) l, Mid s → l.node = s.ldr.node → l.numVoters = s.ldr.numVoters → l.startIndex = s.ldr.startIndex →
      l.removeLTE = s.ldr.removeLTE → l.repls = s.ldr.repls → l.transfer = s.ldr.transfer → l.queue = s.ldr.queue →
      Mid (s.withLdr l))
    (hM : ∀ s c, Mid s → Mid (Node.checkConfigActions n s 0 c)) (ih : Block Mid P Pre n It Tk) :
    Block Mid P Pre (n + 1) It Tk where
  storeEntry := fun s b hs hb => by
    unfold Node.storeEntry
    extract_lets last s1 s2
    have h1 : P s1 := ih.storeItems _ _ hs hb
    have h2 : P s2 := by
      unfold s2; split
      · exact ite_ind (fun _ => h.applyL _ (h.weaken _ h1)) fun _ => h1
      · exact h1
    refine ite_ind (fun _ => ?_) fun _ => h2
    have h3 := h.notifyFlr_inv _ (h.beginFinishedRounds _ h2)
    exact ite_ind (fun _ => ih.onMajorityCommit _ h3) fun _ => h3
  storeItems := fun s b hs hb => by
    cases b with
    | nil => unfold Node.storeItems; exact hs
    | cons q qs =>
      have hq : It q := hb q List.mem_cons_self
      unfold Node.storeItems; dsimp only
      refine ih.storeItems _ _ ?_ (fun x hx => hb x (List.mem_cons_of_mem _ hx))
      refine ite_ind (fun _ => h.reject _ _ _ hs hq) fun hna =>
        ite_ind (fun _ => ite_ind (fun _ => h.reject _ _ _ hs hq) fun _ => h.reject _ _ _ hs hq) fun _ => ?_
      have ha : s.ldr.transfer.active = false := Bool.eq_false_iff.mpr hna
      refine ite_ind (fun hl => ?_) fun hl => h.enqueue s q hs hq ha hl
      refine ite_ind (fun hc => ?_) fun hc => h.enqueueLog s q hs hq ha hl hc
      split
      · rename_i cfg hcfg
        exact ih.changeConfigL _ _ (h.enqueueCfg s q cfg hs hq ha hcfg)
      · rename_i hcfg
        exact h.decodeFail s q _ hs hq ha hc hcfg
  changeConfigL := fun s c hs => by
    unfold Node.changeConfigL; dsimp only
    exact ih.checkConfigActions _ _ _ (h.configSync s c hs) h.tk0
  doChangeConfig := fun s t c hs ht => by
    unfold Node.doChangeConfig
    exact ih.storeEntry _ _ hs (fun q hq => List.mem_singleton.mp hq ▸ h.cfgItem t c ht)
  checkConfigActions := fun s t c hs ht => by
    unfold Node.checkConfigActions; dsimp only
    apply Guarded.foldl_inv
    · intro s x hs
      split
      · exact ih.checkConfigAction _ _ _ _ hs ht
      · exact hs
    · apply h.popOrder
      split
      · split
        · exact ih.doChangeConfig _ _ _ hs ht
        · split
          · exact ih.doChangeConfig _ _ _ hs ht
          · exact h.panic _ _ hs
      · exact hs
  checkConfigAction := fun s t c id hs ht => by
    unfold Node.checkConfigAction; dsimp only
    split
    · exact hs
    · rename_i st hf
      refine ite_ind (fun _ => hs) fun _ => ?_
      rw [roundStep_shape]
      have h1 := h.setRound s st (roundStep s.lastLogIndex (c.get id).nextAction st).1.round id hs hf
      refine ite_ind (fun _ => h1) fun _ => ite_ind (fun _ => h1) fun _ => ?_
      split
      · exact ih.doChangeConfig _ _ _ h1 ht
      · exact h1
  setCommitIndexL := fun s i hs hi => by
    unfold Node.setCommitIndexL
    extract_lets s1 ready r s2 s3
    have h2 : Mid s2 := h.commitR _ i (h.commitLog _ _ hs) hi
    have h3 : Mid s3 := by
      unfold s3; split
      · exact hM _ _ h2
      · exact h2
    split
    · split
      · exact hMl _ _ (Guarded.foldl_inv _ (fun s t hs => hMr _ _ hs) _ _ h3) rfl rfl rfl rfl rfl rfl rfl
      · exact hM _ _ h3
    · exact h3
  onMajorityCommit := fun s hs => by
    unfold Node.onMajorityCommit
    extract_lets m s1
    have h1 : P s1 := by unfold s1; split; exact hs; exact h.panic _ _ hs
    split
    · rename_i hgt
      exact h.notifyFlr_inv _ (h.applyL _ (ih.setCommitIndexL _ _ h1 hgt.1))
    · exact h1

end GuardedAt

/-- the block for a record whose two levels are the same -/
theorem GuardedAt.blockM {Mid : Node → Prop} {Pre : Config → Node → Prop} {It : QItem → Prop} {Tk : Nat → Prop}
    (h : GuardedAt Mid Mid Pre It Tk) : ∀ fuel, Block Mid Mid Pre fuel It Tk
  | 0 => h.zero
  | n + 1 => h.succ h.stable h.ldrK (fun s c hs => (blockM h n).checkConfigActions s 0 c hs h.tk0) (blockM h n)

/-- **The leader block** at level `P`. `hM`: a second record, for the lower level `Mid` as a level of its own — the part of
`leader.setCommitIndex` after the commit runs `checkConfigActions` there. A predicate of one level passes the same record
twice (`Guarded.block`); one of two levels gives its record at the index of `Mid` (`Order.block`: `(guarded s₀ b).block
(guarded s₀ false)`; `Track.Carries.block`). -/
theorem GuardedAt.block {Mid P : Node → Prop} {Pre PreM : Config → Node → Prop} {It ItM : QItem → Prop}
    {Tk TkM : Nat → Prop} (h : GuardedAt Mid P Pre It Tk) (hM : GuardedAt Mid Mid PreM ItM TkM) :
    ∀ fuel, Block Mid P Pre fuel It Tk
  | 0 => h.zero
  | n + 1 => h.succ hM.stable hM.ldrK (fun s c hs => (hM.blockM n).checkConfigActions s 0 c hs hM.tk0) (block h hM n)

/-! `transfer.reply` and `leader.tryTransfer` write the transfer record only; they are also run by `leader.release`, where
a predicate may no longer be at a level of the block. -/
section transferRecord
variable {P : Node → Prop} (ldrT : ∀ (s : Node) l, P s → l.node = s.ldr.node → l.numVoters = s.ldr.numVoters →
    l.startIndex = s.ldr.startIndex → l.removeLTE = s.ldr.removeLTE → l.repls = s.ldr.repls → l.queue = s.ldr.queue →
    P (s.withLdr l))
include ldrT

theorem transferReply_ldrT (reply : ∀ s t r, P s → P (s.reply t r)) (s : Node) (r : String) (hs : P s) :
    P (s.transferReply r) :=
  Node.transferReply_of (fun s _ hs _ => ldrT s _ hs rfl rfl rfl rfl rfl rfl) reply s r hs

theorem tryTransfer_ldrT (panic : ∀ s site, P s → P (s.panic site)) (popOrder : ∀ (s : Node), P s → P s.popOrder)
    (s : Node) (hs : P s) : P s.tryTransfer :=
  Node.tryTransfer_of (fun s _ hs _ => ldrT s _ hs rfl rfl rfl rfl rfl rfl) panic popOrder s hs

theorem onTransfer_ldrT (reply : ∀ s t r, P s → P (s.reply t r)) (panic : ∀ s site, P s → P (s.panic site))
    (popOrder : ∀ (s : Node), P s → P s.popOrder) (s : Node) (t g : Nat) (hs : P s) : P (s.onTransfer t g) := by
  unfold Node.onTransfer; dsimp only
  exact ite_ind (fun _ => reply _ _ _ hs) fun _ =>
    tryTransfer_ldrT ldrT panic popOrder _ (ldrT _ _ hs rfl rfl rfl rfl rfl rfl)

/-- `leader.release`: the transfer in progress is answered, the tasks are answered, then the queue, the wait list, the
replications and the transfer record go (`cut`) -/
theorem leaderRelease_of (reply : ∀ s t r, P s → P (s.reply t r)) (setLeader : ∀ (s : Node) l, P s → P (s.setLeader l))
    (cut : ∀ (s : Node), P s → P (s.withLdr { s.ldr with queue := [], repls := [], transfer := {}, waitStable := [] }))
    (s : Node) (hs : P s) : P s.leaderRelease := by
  have hrest : ∀ x : Node, P x → P x.leaderReleaseRest := by
    intro x hx
    unfold Node.leaderReleaseRest
    extract_lets s1 err s2 s3
    have h1 : P s1 := ite_ind (fun _ => setLeader _ _ hx) fun _ => hx
    have h2 : P s2 := Guarded.foldl_inv _ (fun s t hs => reply _ _ _ hs) _ _ h1
    exact cut _ (Guarded.foldl_inv _ (fun s t hs => reply _ _ _ hs) _ _ h2)
  unfold Node.leaderRelease
  exact ite_ind (P := fun x : Node => P x.leaderReleaseRest) (fun _ => hrest _ (transferReply_ldrT ldrT reply _ _ hs))
    fun _ => hrest _ hs

end transferRecord

/-! The handlers of transfer.go, `leader.init` and the two requests that only enter the block use, besides the block, a
new leader record that differs in the transfer record only (`ldrT`) and a status marked unreachable (`noContact`);
`leader.init` starts from the record it builds itself (`LC.initPre`) and adds a replication for every other node. -/
section leaderSide
variable {Mid P : Node → Prop} {Pre : Config → Node → Prop} (h : GuardedAt Mid P Pre) (B : ∀ f, Block Mid P Pre f)
include h B

omit h in
theorem Block.onChangeConfig_of (reply : ∀ s t r, P s → P (s.reply t r)) (s : Node) (t : Nat) (cf : Config) (hs : P s) :
    P (s.onChangeConfig t cf) :=
  Node.onChangeConfig_of reply (fun s t c hs => (B _).checkConfigActions s t c hs)
    (fun s t c hs => (B _).doChangeConfig s t c hs) s t cf hs

omit B in
theorem GuardedAt.onWaitForStable_of (reply : ∀ s t r, P s → P (s.reply t r)) (s : Node) (t : Nat) (hs : P s) :
    P (s.onWaitForStable t) :=
  Node.onWaitForStable_of reply (fun _ _ hs => h.ldrK _ _ hs rfl rfl rfl rfl rfl rfl rfl) s t hs

omit h in
/-- `leader.init` from the record it builds itself (`LC.initPre`): a replication for every other node, then the block -/
theorem Block.leaderInit_of (addReplication : ∀ (s : Node) n, P s → n.id ≠ s.nid → P (s.addReplication n)) (s : Node)
    (hs : P (LC.initPre s)) : P s.leaderInit := by
  unfold Node.leaderInit; dsimp only
  apply (B _).storeEntry
  apply (B _).checkConfigActions
  apply Guarded.foldl_inv
  · intro s x hs
    exact ite_ind (fun _ => hs) fun hne => addReplication _ _ hs hne
  · exact hs

variable (ldrT : ∀ (s : Node) l, P s → l.node = s.ldr.node → l.numVoters = s.ldr.numVoters →
    l.startIndex = s.ldr.startIndex → l.removeLTE = s.ldr.removeLTE → l.repls = s.ldr.repls → l.queue = s.ldr.queue →
    P (s.withLdr l))
include ldrT

omit h in
theorem Block.replyTransfer_of (reply : ∀ s t r, P s → P (s.reply t r)) (s : Node) (r : String) (hs : P s) :
    P (s.replyTransfer r) :=
  Node.replyTransfer_of (fun s _ hs _ => ldrT s _ hs rfl rfl rfl rfl rfl rfl) reply
    (fun f s t hs => (B f).checkConfigActions s t _ hs) s r hs

theorem GuardedAt.onTimeoutNowResult_of (reply : ∀ s t r, P s → P (s.reply t r))
    (noContact : ∀ (s : Node) st id, P s → s.findRepl? id = some st → P (s.setRepl { st with noContact := true }))
    (s : Node) (src : Nat) (e : Bool) (r : Nat) (hs : P s) : P (s.onTimeoutNowResult src e r) :=
  Node.onTimeoutNowResult_of (fun s _ hs _ => ldrT s _ hs rfl rfl rfl rfl rfl rfl) h.panic reply h.popOrder noContact
    (fun f s t hs => (B f).checkConfigActions s t _ hs) s src e r hs

end leaderSide

/-- What a predicate can follow. A predicate that cannot survive a group of updates at all switches the group off here
and is then preserved by the operations of `Caps.Ok`. -/
structure Caps where
  /-- the snapshot files an install request may carry -/
  file : SnapFile → Prop
  /-- the states in which the snapshot goroutine may run -/
  snap : Node → Prop
  install : Prop
  /-- compaction of the log and results of the snapshot goroutine -/
  compact : Prop
  /-- what the followers report: the statuses of the replications change, a new compaction bound is noted after a
  snapshot (a predicate of one level asks for any leader record there: `GuardedLdr.ldrAny`) -/
  reports : Prop
  transfer : Prop
  /-- the operation `changeConfig`: `Raft.bootstrap` and the leader's `onChangeConfig` arrive as the same operation -/
  boot : Prop
  shutdown : Prop
  /-- the promotions: a follower or the target of a transfer becomes candidate, a candidate votes for itself, counts its
  votes and becomes leader. Switched off, the record gives `handle_with` only: `settle_inv` and `step_with` ask for it -/
  promote : Prop := True

def Caps.all : Caps :=
  { file := fun _ => True, snap := fun _ => True, install := True, compact := True, reports := True, transfer := True,
    boot := True, shutdown := True }

/-- What is asked of an operation so that its handler stays within the updates `c` admits. `.replUpdates` asks for
`transfer` because `checkReplUpdates` ends with `tryTransfer`; `.shutdown` for `transfer`, `compact`, `reports` and `snap`
because it runs `leader.release`, which answers a transfer in progress, lets a running snapshot finish and delivers its
result. -/
def Caps.Ok (c : Caps) (s : Node) : Op → Prop
  | .install q => q.term < s.term ∨
      (c.install ∧ c.file { index := q.lastIndex, term := q.lastTerm, config := q.lastConfig, data := q.data })
  | .snapRun => c.snap s
  | .snapTaken => c.compact ∧ c.reports
  | .changeConfig _ _ => c.boot
  | .transfer _ _ => c.transfer
  | .replUpdates us =>
      c.reports ∧ c.transfer ∧ ((replUpdLoop s {} us).2.removeLTEU = true → c.compact)
  | .transferTimeout => c.transfer
  | .timeoutNowResult _ _ _ => c.transfer
  | .newTermTimeout => c.transfer
  | .shutdown => c.shutdown ∧ c.transfer ∧ c.compact ∧ c.reports ∧
      c.snap ((s.doClose "serverClosed").releaseRole (s.doClose "serverClosed").role)
  | .timeout => s.role = .leader ∨ c.promote
  | .timeoutNow => c.promote
  | .voteResult _ _ _ => s.role = .candidate → c.promote
  | _ => True

theorem Caps.ok_all (s : Node) (op : Op) : Caps.all.Ok s op := by
  cases op <;> simp only [Caps.Ok, Caps.all, and_self, or_true, implies_true]

/-- the updates of the handlers that only a leader runs, beyond the block -/
structure GuardedLdrAt (c : Caps) (Mid P : Node → Prop) (Pre : Config → Node → Prop) : Prop extends GuardedAt Mid P Pre where
  /-- the block: `toGuardedAt.block hM`; a field, because the record `hM` of the lower level is not part of this one -/
  blk : ∀ f, Block Mid P Pre f
  /-- the answers of the handlers around the block: to the request handled, to the transfer in progress -/
  reply : ∀ s t r, P s → P (s.reply t r)
  /-- T for transfer: a new leader record that differs in the transfer record only -/
  ldrT : c.transfer → ∀ (s : Node) l, P s → l.node = s.ldr.node → l.numVoters = s.ldr.numVoters →
    l.startIndex = s.ldr.startIndex → l.removeLTE = s.ldr.removeLTE → l.repls = s.ldr.repls → l.queue = s.ldr.queue →
    P (s.withLdr l)
  noContact : c.transfer → ∀ (s : Node) st id, P s → s.findRepl? id = some st → P (s.setRepl { st with noContact := true })
  /-- a report of a replication: the status found under its id gets a new match index, bound or reachability -/
  report : c.reports → ∀ (s : Node) st r id, P s → s.findRepl? id = some st → r.id = st.id → r.node = st.node →
    r.round = st.round → P (s.setRepl r)
  /-- why the role is set; a predicate that cannot follow a promotion switches them off -/
  setRole : ∀ (s : Node) r, P s → RoleWhy s r → r = .follower ∨ c.promote → P (s.setRole r)
  setLeader : ∀ (s : Node) l, P s → P (s.setLeader l)
  /-- a higher term is adopted by a node that has stepped down -/
  setTerm : ∀ (s : Node) t, P s → s.role = .follower → P (s.setTerm t)
  /-- `checkLogCompact`: compaction up to the bound kept in the leader record -/
  compactBound : c.compact → ∀ (s : Node), P s → P (s.compactLog s.ldr.removeLTE)

namespace GuardedLdrAt

variable {c : Caps} {Mid P : Node → Prop} {Pre : Config → Node → Prop} (h : GuardedLdrAt c Mid P Pre)
include h

theorem toFollower (s : Node) (hs : P s) : P (s.setRole .follower) := h.setRole s _ hs .follower (.inl rfl)

theorem checkQuorum_inv (s : Node) (hs : P s) : P s.checkQuorum :=
  checkQuorum_of h.panic h.toFollower h.setLeader s hs

theorem tryTransfer_inv (ht : c.transfer) (s : Node) (hs : P s) : P s.tryTransfer :=
  tryTransfer_ldrT (h.ldrT ht) h.panic h.popOrder s hs

theorem onTransfer_inv (ht : c.transfer) (s : Node) (t g : Nat) (hs : P s) : P (s.onTransfer t g) :=
  onTransfer_ldrT (h.ldrT ht) h.reply h.panic h.popOrder s t g hs

theorem replyTransfer_inv (ht : c.transfer) (s : Node) (r : String) (hs : P s) : P (s.replyTransfer r) :=
  Block.replyTransfer_of h.blk (h.ldrT ht) h.reply s r hs

theorem onTimeoutNowResult_inv (ht : c.transfer) (s : Node) (src : Nat) (e : Bool) (r : Nat) (hs : P s) :
    P (s.onTimeoutNowResult src e r) :=
  h.toGuardedAt.onTimeoutNowResult_of h.blk (h.ldrT ht) h.reply (h.noContact ht) s src e r hs

theorem leaderRelease_of (ht : c.transfer)
    (cut : ∀ (s : Node), P s → P (s.withLdr { s.ldr with queue := [], repls := [], transfer := {}, waitStable := [] }))
    (s : Node) (hs : P s) : P s.leaderRelease :=
  Node.leaderRelease_of (h.ldrT ht) h.reply h.setLeader cut s hs

theorem replUpdLoop_of (report : ∀ (s : Node) st r id, P s → s.findRepl? id = some st → r.id = st.id → r.node = st.node →
      r.round = st.round → P (s.setRepl r)) (s : Node) (f : UpdFlags) (us : List ReplUpdate) (hs : P s) :
    P (replUpdLoop s f us).1 :=
  Node.replUpdLoop_of report (fun _ t hx => h.setTerm _ t (h.setLeader _ _ (h.toFollower _ hx)) rfl)
    (fun f s id hs => (h.blk f).checkConfigAction s 0 _ id hs) us s f hs

theorem replUpdLoop_inv (ha : c.reports) (s : Node) (f : UpdFlags) (us : List ReplUpdate) (hs : P s) :
    P (replUpdLoop s f us).1 :=
  h.replUpdLoop_of (h.report ha) s f us hs

theorem checkLogCompact_inv (hc : c.compact) (s : Node) (hs : P s) : P s.checkLogCompact :=
  checkLogCompact_of (h.compactBound hc) s hs

/-- `checkReplUpdates_of` for the record: from the predicate after the loop over the reports (`hL`) -/
theorem checkReplUpdates_rest (ht : c.transfer) (s : Node) (us : List ReplUpdate)
    (hc : (replUpdLoop s {} us).2.removeLTEU = true → c.compact) (hL : P (replUpdLoop s {} us).1) :
    P (s.checkReplUpdates us) :=
  Node.checkReplUpdates_of (fun f s hs => (h.blk f).onMajorityCommit s hs) h.checkQuorum_inv (h.tryTransfer_inv ht) s us
    (fun hf x hx => h.checkLogCompact_inv (hc hf) x hx) hL

theorem checkReplUpdates_inv (ha : c.reports) (ht : c.transfer) (s : Node) (us : List ReplUpdate)
    (hc : (replUpdLoop s {} us).2.removeLTEU = true → c.compact) (hs : P s) : P (s.checkReplUpdates us) :=
  h.checkReplUpdates_rest ht s us hc (h.replUpdLoop_inv ha _ _ _ hs)

end GuardedLdrAt

/-- the updates of the handlers of `Node.handle`, but for the three that depend on what a request carries
(`onAppendEntries`, `onInstallSnap`, `bootstrap`) -/
structure GuardedStepAt (c : Caps) (Mid P : Node → Prop) (Pre : Config → Node → Prop) : Prop
    extends GuardedLdrAt c Mid P Pre where
  rpcReply : ∀ (s : Node) r, P s → P (s.withRpcReply r)
  ret : ∀ (s : Node) r, P s → P (s.ret r)
  doClose : c.shutdown → ∀ (s : Node) r, P s → P (s.doClose r)
  /-- `setVotedFor` entering a higher term (vote requests, the self vote of `startElection`) -/
  voteNewTerm : ∀ (s : Node) t v, P s → t > s.term → s.role = .follower ∨ c.promote → P (s.setVotedFor t v)
  voteGrant : ∀ (s : Node) c, P s → s.votedFor = 0 → P (s.setVotedFor s.term c)
  votesNeeded : c.promote → ∀ (s : Node) v, P s → P (s.withVotesNeeded v)
  candTransfer : ∀ (s : Node) v, P s → P (s.withCandTransfer v)
  snapPending : ∀ (s : Node) v, P s → P (s.withSnapPending v)
  snapRun : ∀ (s : Node), P s → c.snap s → P s.snapRun
  snapTaken : c.compact → c.reports → ∀ (s : Node), P s → P s.onSnapshotTaken

namespace GuardedStepAt

variable {c : Caps} {Mid P : Node → Prop} {Pre : Config → Node → Prop} (h : GuardedStepAt c Mid P Pre)
include h

theorem startElection_inv (hp : c.promote) (s : Node) (hs : P s) (hr : s.role = .candidate) : P s.startElection :=
  startElection_of s h.panic (h.votesNeeded hp) (fun x hx => h.voteNewTerm x _ _ hx (Nat.lt_succ_self _) (.inr hp))
    (fun x hx e => h.setRole x _ hx (.leader (e.trans hr)) (.inr hp)) h.setLeader hs

theorem onVoteResult_inv (hp : c.promote) (s : Node) (e : Bool) (t r : Nat) (hs : P s) (hr : s.role = .candidate) :
    P (s.onVoteResult e t r) :=
  onVoteResult_of s h.toFollower h.setTerm (h.votesNeeded hp)
    (fun x hx e => h.setRole x _ hx (.leader (e.trans hr)) (.inr hp)) h.setLeader e t r hs

theorem followerTimeout_inv (hp : c.promote) (s : Node) (hs : P s) : P s.followerTimeout :=
  followerTimeout_of h.setLeader (fun x hx hv => h.setRole x _ hx (.candidate hv) (.inr hp)) s hs

theorem releaseRole_inv (hrel : ∀ s : Node, P s → P s.leaderRelease) (s : Node) (r : Role) (hs : P s) :
    P (s.releaseRole r) :=
  releaseRole_of h.candTransfer hrel s r hs

theorem initRole_inv (hp : c.promote) (hinit : ∀ s : Node, P s → P s.leaderInit) (s : Node) (hs : P s) : P s.initRole := by
  unfold Node.initRole
  split
  · exact hs
  · rename_i hr; exact h.startElection_inv hp _ hs hr
  · exact hinit _ hs

/-- the role transitions after a handler; `hrel`, `hinit`: from `leaderRelease_of` and `Block.leaderInit_of` where the
predicate survives `leader.release` and `leader.init` -/
theorem settle_inv (hp : c.promote) (hrel : ∀ s : Node, P s → P s.leaderRelease) (hinit : ∀ s : Node, P s → P s.leaderInit)
    (f : Nat) (s : Node) (cur : Role) (hs : P s) : P (settle f s cur) :=
  Node.settle_of (h.releaseRole_inv hrel) (h.startElection_inv hp) (fun s hs _ => hinit s hs) f s cur hs

/-- the deferred `setVotedFor` of a vote request enters the higher term of the request, or grants the vote still open -/
theorem onVoteRequest_inv (s : Node) (q : VoteReq) (hs : P s) : P (s.onVoteRequest q) :=
  onVoteRequest_of q h.ret h.toFollower (fun x t hx hlt hr => h.voteNewTerm x t 0 hx hlt (.inl hr))
    (fun x t hx _ hw _ => hw.elim (fun a => h.voteNewTerm x t _ hx a.1 (.inl a.2)) fun a => a.1 ▸ h.voteGrant x _ hx a.2)
    s hs

theorem onTimeoutNow_inv (hp : c.promote) (s : Node) (hs : P s) : P s.onTimeoutNow :=
  onTimeoutNow_of h.ret (fun x hx hv => h.setRole x _ hx (.candidate hv) (.inr hp)) h.setLeader h.candTransfer s hs

theorem onTakeSnapshot_inv (s : Node) (t th : Nat) (hs : P s) : P (s.onTakeSnapshot t th) :=
  onTakeSnapshot_of h.reply h.snapPending s t th hs

theorem rejectEntries_inv (s : Node) (b : List QItem) (hs : P s) : P (s.rejectEntries b) :=
  rejectEntries_of h.reply s b hs

theorem rpcDone_inv (s : Node) (a b : Bool) (hs : P s) : P (s.rpcDone a b) := rpcDone_of h.panic h.rpcReply s a b hs

theorem shutdown_inv (hrel : ∀ s : Node, P s → P s.leaderRelease) (s : Node)
    (hop : c.shutdown ∧ c.transfer ∧ c.compact ∧ c.reports ∧
      c.snap ((s.doClose "serverClosed").releaseRole (s.doClose "serverClosed").role))
    (hs : P s) : P s.shutdown := by
  obtain ⟨hsd, _, hc, ha, hps⟩ := hop
  have h2 := h.releaseRole_inv hrel (s.doClose "serverClosed") (s.doClose "serverClosed").role (h.doClose hsd s _ hs)
  exact shutdown_of s h2 (h.snapRun _ h2 hps) (h.snapTaken hc ha)

/-- Every case of `Node.handle`. The three handlers that depend on what the request carries are asked for, and
`leader.release` for a shutdown; the tools for them: `appendLoop_keeps`, `appendCheck_cases`, `onAppendEntries_stages`
(Lemmas/ShapeAppend.lean), `C09.onInstallSnap_cases`, `bootstrap_cases` (Lemmas/ShapeBootstrap.lean); the one-level
`GuardedStep` has fields for their updates. A summary of the step by kind of operation, which is no predicate kept by every
update, starts from `handle_kind` (Lemmas/HandleKind.lean) instead. -/
theorem handle_with (s : Node) (op : Op) (hop : c.Ok s op) (hs : P s)
    (hrel : op = .shutdown → ∀ x : Node, P x → P x.leaderRelease)
    (happend : ∀ q, op = .append q → P (s.onAppendEntries q))
    (hinstall : ∀ q, op = .install q → P (s.onInstallSnap q))
    (hboot : ∀ t cf, op = .changeConfig t cf → s.role ≠ .leader → P (s.bootstrap t cf)) : P (s.handle op) := by
  cases op <;> unfold Node.handle <;> dsimp only
  case vote q => exact h.rpcDone_inv _ _ _ (h.onVoteRequest_inv _ _ hs)
  case append q => exact h.rpcDone_inv _ _ _ (happend q rfl)
  case install q => exact h.rpcDone_inv _ _ _ (hinstall q rfl)
  case timeoutNow => exact h.rpcDone_inv _ _ _ (h.onTimeoutNow_inv hop _ hs)
  case identity a b c => exact h.rpcReply _ _ hs
  case disconnected n => exact ite_ind (fun _ => h.setLeader _ _ hs) fun _ => hs
  case timeout =>
    split
    · rename_i hr; exact h.followerTimeout_inv (hop.resolve_left (by rw [hr]; exact fun e => by cases e)) _ hs
    · rename_i hr; exact h.startElection_inv (hop.resolve_left (by rw [hr]; exact fun e => by cases e)) _ hs hr
    · exact h.checkQuorum_inv _ hs
  case newEntries b => exact ite_ind (fun _ => (h.blk _).storeEntry _ _ hs) fun _ => h.rejectEntries_inv _ _ hs
  case changeConfig t cf =>
    exact ite_ind (fun _ => Block.onChangeConfig_of h.blk h.reply _ _ _ hs) fun hr => hboot t cf rfl hr
  case takeSnapshot t th => exact h.onTakeSnapshot_inv _ _ _ hs
  case snapRun => exact h.snapRun _ hs hop
  case snapTaken => exact h.snapTaken hop.1 hop.2 _ hs
  case waitStable t => exact ite_ind (fun _ => h.toGuardedAt.onWaitForStable_of h.reply _ _ hs) fun _ => h.reply _ _ _ hs
  case transfer t g => exact ite_ind (fun _ => h.onTransfer_inv hop _ _ _ hs) fun _ => h.reply _ _ _ hs
  case voteResult e t r => exact ite_ind (fun hr => h.onVoteResult_inv (hop hr) _ _ _ _ hs hr) fun _ => hs
  case replUpdates us => exact ite_ind (fun _ => h.checkReplUpdates_inv hop.1 hop.2.1 _ _ hop.2.2 hs) fun _ => hs
  case transferTimeout => exact ite_ind (fun _ => h.replyTransfer_inv hop _ _ hs) fun _ => hs
  case timeoutNowResult a b c => exact ite_ind (fun _ => h.onTimeoutNowResult_inv hop _ _ _ _ hs) fun _ => hs
  case newTermTimeout =>
    exact ite_ind (fun _ => h.tryTransfer_inv hop _ (h.ldrT hop _ _ hs rfl rfl rfl rfl rfl rfl)) fun _ => hs
  case shutdown => exact h.shutdown_inv (hrel rfl) _ hop hs

/-- one step from the predicate after the handler -/
theorem step_with (hp : c.promote) (hrel : ∀ s : Node, P s → P s.leaderRelease) (hinit : ∀ s : Node, P s → P s.leaderInit)
    (s : Node) (op : Op)
    (ra : List Nat) (ord : List (List Nat)) (h1 : P ((s.begin ra ord).handle op)) : P (s.step op ra ord) :=
  Node.step_of (h.settle_inv hp hrel hinit) s op ra ord h1

end GuardedStepAt

/-- The updates of the leader block for a predicate that has one level and survives the parts of the compound updates one
by one, under guards that forget most of what the call sites know; `toAt` converts. -/
structure Guarded (Inv : Node → Prop) : Prop where
  panic : ∀ s site, Inv s → Inv (s.panic site)
  reply : ∀ s t r, Inv s → Inv (s.reply t r)
  point : ∀ s n, Inv s → Inv (s.point n)
  /-- a new leader record with the same compaction bound, replication table and transfer record -/
  ldrK : ∀ (s : Node) l, Inv s → l.removeLTE = s.ldr.removeLTE → l.repls = s.ldr.repls →
    l.transfer = s.ldr.transfer → Inv (s.withLdr l)
  /-- a new replication table, nothing else; `ReplKept` is what a predicate about delayed compaction (`ClosedG`) needs of it -/
  replsG : ∀ (s : Node) rs, Inv s → (∀ r ∈ rs, ReplKept s r) → Inv (s.withLdr { s.ldr with repls := rs })
  /-- `storage.appendEntry` of the leader: the entry has the next index (the assertion holds) and the leader's term -/
  appendEntry : ∀ (s : Node) e, Inv s → e.index = s.lastLogIndex + 1 → e.term = s.term → Inv (s.appendEntry e)
  commitN : ∀ (s : Node) n, Inv s → Inv { s with log := s.log.commitN n }
  fsmLog : ∀ (s : Node) n, Inv s → Inv (s.fsmApplyLogTo n)
  fsmItems : ∀ (s : Node) qs, Inv s → Inv (s.fsmApplyItems qs)
  changeConfigR : ∀ (s : Node) c, Inv s → Inv (s.changeConfigR c)
  /-- the commit index only ever moves forward: every call site has checked `i > commitIndex` -/
  setCommitIndexR : ∀ (s : Node) i, Inv s → i > s.commitIndex → Inv (s.setCommitIndexR i).1
  popOrder : ∀ (s : Node), Inv s → Inv s.popOrder

namespace Guarded

variable {Inv : Node → Prop} (h : Guarded Inv)
include h

theorem assert_inv (s : Node) (b : Bool) (site : String) (hs : Inv s) : Inv (s.assert b site) :=
  assert_of h.panic s b site hs

theorem commitLog_inv (s : Node) (n : Nat) (hs : Inv s) : Inv (s.commitLog n) := by
  unfold Node.commitLog; exact h.point _ _ (h.commitN _ _ hs)

theorem setRepl_inv (s : Node) (r : Repl) (hs : Inv s) (hr : ReplKept s r) : Inv (s.setRepl r) := by
  unfold Node.setRepl
  refine h.replsG _ _ hs (fun x hx => ?_)
  rcases mem_insertRepl r x _ hx with e | e
  · exact e ▸ hr
  · exact .of_mem e rfl rfl

theorem setRepl_found (s : Node) (r st : Repl) {id : Nat} (hs : Inv s) (hf : s.findRepl? id = some st)
    (hid : r.id = st.id) (hrm : r.removeLTE = st.removeLTE) : Inv (s.setRepl r) :=
  h.setRepl_inv s r hs (.of_mem (List.mem_of_find?_eq_some hf) hid hrm)

theorem addReplication_inv (s : Node) (n : CNode) (hs : Inv s) : Inv (s.addReplication n) := by
  unfold Node.addReplication
  dsimp only
  apply h.setRepl_inv
  · split
    · exact h.assert_inv _ _ _ hs
    · exact h.panic _ _ (h.assert_inv _ _ _ hs)
  · exact Or.inl rfl

theorem beginFinishedRounds_inv (s : Node) (hs : Inv s) : Inv s.beginFinishedRounds := by
  unfold Node.beginFinishedRounds
  refine h.replsG _ _ hs (fun x hx => ?_)
  obtain ⟨r, hr, e⟩ := List.mem_map.mp hx
  subst e
  apply ReplKept.of_mem hr
  · split
    · split <;> rfl
    · rfl
  · split
    · split <;> rfl
    · rfl

theorem fsmApply_inv (s : Node) (qs : List QItem) (hs : Inv s) : Inv (s.fsmApply qs) :=
  fsmApply_of h.panic h.fsmLog h.fsmItems s qs hs

theorem applyCommitted_inv (s : Node) (hs : Inv s) : Inv s.applyCommitted := by
  unfold Node.applyCommitted; exact h.fsmApply_inv _ _ hs

theorem applyCommittedL_inv (s : Node) (hs : Inv s) : Inv s.applyCommittedL := by
  unfold Node.applyCommittedL; exact h.fsmApply_inv _ _ (h.ldrK _ _ hs rfl rfl rfl)

theorem toAt : GuardedAt Inv Inv (fun _ s => Inv s) where
  panic := h.panic
  reject := fun s _ r hs _ => h.reply s _ r hs
  stable := fun s t hs => h.reply s t _ hs
  popOrder := h.popOrder
  ldrK := fun s l hs _ _ _ e1 e2 e3 _ => h.ldrK s l hs e1 e2 e3
  setRound := fun s st rd id hs hf => h.setRepl_found s _ st hs hf rfl rfl
  beginFinishedRounds := h.beginFinishedRounds_inv
  enqueue := fun s _ hs _ _ _ => h.ldrK s _ hs rfl rfl rfl
  enqueueLog := fun s _ hs _ _ _ _ => h.appendEntry _ _ (h.ldrK s _ hs rfl rfl rfl) rfl rfl
  enqueueCfg := fun s _ _ hs _ _ _ => h.appendEntry _ _ (h.ldrK s _ hs rfl rfl rfl) rfl rfl
  decodeFail := fun s _ _ hs _ _ _ _ => h.panic _ _ (h.appendEntry _ _ (h.ldrK s _ hs rfl rfl rfl) rfl rfl)
  configSync := fun s c hs => by
    apply Guarded.foldl_inv
    · intro s x hs
      unfold LC.changeBody
      split
      · exact hs
      · split
        · exact h.addReplication_inv _ _ hs
        · rename_i r hf
          exact h.setRepl_found _ _ r hs hf rfl rfl
    · unfold LC.changePre
      refine h.replsG _ _ (h.changeConfigR _ _ (h.ldrK _ _ hs rfl rfl rfl)) (fun x hx => ?_)
      exact .of_mem (List.mem_filter.mp hx).1 rfl rfl
  prePanic := fun s _ site hs => h.panic s site hs
  commitLog := h.commitLog_inv
  commitR := h.setCommitIndexR
  applyL := h.applyCommittedL_inv

theorem notifyFlr_inv (s : Node) (hs : Inv s) : Inv s.notifyFlr := h.toAt.notifyFlr_inv s hs

theorem block (fuel : Nat) : Block Inv Inv (fun _ s => Inv s) fuel := h.toAt.block h.toAt fuel

theorem storeEntry_inv (f : Nat) (s : Node) (b) (hs : Inv s) : Inv (storeEntry f s b) := (h.block f).storeEntry s b hs
theorem doChangeConfig_inv (f : Nat) (s : Node) (t c) (hs : Inv s) : Inv (doChangeConfig f s t c) :=
  (h.block f).doChangeConfig s t c hs
theorem checkConfigActions_inv (f : Nat) (s : Node) (t c) (hs : Inv s) : Inv (checkConfigActions f s t c) :=
  (h.block f).checkConfigActions s t c hs
theorem onMajorityCommit_inv (f : Nat) (s : Node) (hs : Inv s) : Inv (onMajorityCommit f s) :=
  (h.block f).onMajorityCommit s hs

theorem onChangeConfig_inv (s : Node) (t : Nat) (cf : Config) (hs : Inv s) : Inv (s.onChangeConfig t cf) :=
  Block.onChangeConfig_of h.block h.reply s t cf hs

theorem onWaitForStable_inv (s : Node) (t : Nat) (hs : Inv s) : Inv (s.onWaitForStable t) :=
  h.toAt.onWaitForStable_of h.reply s t hs

theorem leaderInit_of (ldrAny : ∀ (s : Node) l, Inv s → Inv (s.withLdr l)) (s : Node) (hs : Inv s) : Inv s.leaderInit :=
  Block.leaderInit_of h.block (fun s n hs _ => h.addReplication_inv s n hs) s (ldrAny _ _ (h.assert_inv _ _ _ hs))

/-! the handlers of transfer.go for a predicate that survives a new leader record with the same compaction bound and
replication table -/
section transfer
variable (ldrT : ∀ (s : Node) l, Inv s → l.removeLTE = s.ldr.removeLTE → l.repls = s.ldr.repls → Inv (s.withLdr l))
include ldrT

theorem tryTransfer_of (s : Node) (hs : Inv s) : Inv s.tryTransfer :=
  Node.tryTransfer_ldrT (fun s l hs _ _ _ e1 e2 _ => ldrT s l hs e1 e2) h.panic h.popOrder s hs

theorem onTransfer_of (s : Node) (t g : Nat) (hs : Inv s) : Inv (s.onTransfer t g) :=
  Node.onTransfer_ldrT (fun s l hs _ _ _ e1 e2 _ => ldrT s l hs e1 e2) h.reply h.panic h.popOrder s t g hs

theorem replyTransfer_of (s : Node) (r : String) (hs : Inv s) : Inv (s.replyTransfer r) :=
  Block.replyTransfer_of h.block (fun s l hs _ _ _ e1 e2 _ => ldrT s l hs e1 e2) h.reply s r hs

theorem onTimeoutNowResult_of (s : Node) (src : Nat) (e : Bool) (r : Nat) (hs : Inv s) :
    Inv (s.onTimeoutNowResult src e r) :=
  h.toAt.onTimeoutNowResult_of h.block (fun s l hs _ _ _ e1 e2 _ => ldrT s l hs e1 e2) h.reply
    (fun s st _ hs hf => h.setRepl_found s _ st hs hf rfl rfl) s src e r hs

end transfer

end Guarded

/-- `Guarded` with the updates of the handlers only a leader runs -/
structure GuardedLdr (c : Caps) (Inv : Node → Prop) : Prop extends Guarded Inv where
  /-- a new leader record with the same compaction bound and replication table -/
  ldrT : c.transfer → ∀ (s : Node) l, Inv s → l.removeLTE = s.ldr.removeLTE → l.repls = s.ldr.repls → Inv (s.withLdr l)
  ldrAny : c.reports → ∀ (s : Node) l, Inv s → Inv (s.withLdr l)
  setRole : ∀ (s : Node) r, Inv s → RoleWhy s r → r = .follower ∨ c.promote → Inv (s.setRole r)
  setLeader : ∀ (s : Node) l, Inv s → Inv (s.setLeader l)
  setTerm : ∀ (s : Node) t, Inv s → s.role = .follower → Inv (s.setTerm t)
  removeLTE : c.compact → ∀ (s : Node) i, Inv s → Inv { s with log := s.log.removeLTE i }

/-- `GuardedLdr` with the updates of the other handlers, the three request handlers included (`handle_inv`, `step_inv`) -/
structure GuardedStep (c : Caps) (Inv : Node → Prop) : Prop extends GuardedLdr c Inv where
  /-- `storage.appendEntry` of a follower and of `bootstrap`, including its assertion `e.index = lastLogIndex + 1` -/
  appendAny : ∀ (s : Node) e, Inv s → Inv (s.appendEntry e)
  rpcReply : ∀ (s : Node) r, Inv s → Inv (s.withRpcReply r)
  ret : ∀ (s : Node) r, Inv s → Inv (s.ret r)
  doClose : c.shutdown → ∀ (s : Node) r, Inv s → Inv (s.doClose r)
  /-- `setVotedFor` entering a higher term (vote requests, the self vote of `startElection`) -/
  voteNewTerm : ∀ (s : Node) t v, Inv s → t > s.term → s.role = .follower ∨ c.promote → Inv (s.setVotedFor t v)
  voteGrant : ∀ (s : Node) c, Inv s → s.votedFor = 0 → Inv (s.setVotedFor s.term c)
  votesNeeded : c.promote → ∀ (s : Node) v, Inv s → Inv (s.withVotesNeeded v)
  /-- the two follower handlers adopt a higher term and step down, in this order -/
  termDown : ∀ (s : Node) t, Inv s → t > s.term → Inv ((s.setTerm t).setRole .follower)
  bootTerm : c.boot → ∀ (s : Node), Inv s → Inv (s.setTerm 1)
  bootRole : c.boot → ∀ (s : Node), Inv s → Inv (s.setRole .candidate)
  candTransfer : ∀ (s : Node) v, Inv s → Inv (s.withCandTransfer v)
  /-- `storage.removeGTE(i)`: the call site (`appendLoop`) has found entry `i` in the log, above the snapshot index -/
  removeGTE : ∀ (s : Node) i pt, Inv s → s.snapIndex < i → s.log.prev < i → i ≤ s.log.last →
    Inv { s with log := s.log.removeGTE i, lastLogIndex := i - 1, lastLogTerm := pt }
  revertConfig : ∀ (s : Node), Inv s → Inv s.revertConfig
  commitConfig : c.install → ∀ (s : Node), Inv s → Inv s.commitConfig
  /-- the core of `onInstallSnapRequest`: publish the received file, reset the log, restore the state machine -/
  installCore : c.install → ∀ (s : Node) f, Inv s → c.file f → Inv ((s.publishSnapshot f).clearLog.fsmRestore)
  /-- `onInstallSnapRequest` sets the commit index to the new snapshot index, which is above it -/
  installCommit : c.install → ∀ (s : Node), Inv s → s.snapIndex > s.commitIndex → Inv (s.withCommitIndex s.snapIndex)
  snapRun : ∀ (s : Node), Inv s → c.snap s → Inv s.snapRun
  snapPending : ∀ (s : Node) v, Inv s → Inv (s.withSnapPending v)
  snapResult : c.compact → ∀ (s : Node) v, Inv s → Inv (s.withSnapResult v)
  bootstrapLast : c.boot → ∀ (s : Node) i t, Inv s → Inv (s.withLast i t)

namespace GuardedLdr

variable {c : Caps} {Inv : Node → Prop} (h : GuardedLdr c Inv)
include h

theorem compactLog_inv (hc : c.compact) (s : Node) (i : Nat) (hs : Inv s) : Inv (s.compactLog i) := by
  unfold Node.compactLog; exact h.point _ _ (h.removeLTE hc _ _ hs)

theorem toAt : GuardedLdrAt c Inv Inv (fun _ s => Inv s) where
  toGuardedAt := h.toGuarded.toAt
  blk := h.toGuarded.block
  reply := h.reply
  ldrT := fun ht s l hs _ _ _ e1 e2 _ => h.ldrT ht s l hs e1 e2
  noContact := fun _ s st id hs hf => h.setRepl_found s _ st hs hf rfl rfl
  report := fun ha s _ r _ hs _ _ _ _ => by unfold Node.setRepl; exact h.ldrAny ha _ _ hs
  setRole := h.setRole
  setLeader := h.setLeader
  setTerm := h.setTerm
  compactBound := fun hc s hs => h.compactLog_inv hc s _ hs

theorem leaderInit_inv (hc : c.reports) (s : Node) (hs : Inv s) : Inv s.leaderInit :=
  h.toGuarded.leaderInit_of (h.ldrAny hc) s hs
theorem leaderRelease_inv (ht : c.transfer) (s : Node) (hs : Inv s) : Inv s.leaderRelease :=
  h.toAt.leaderRelease_of ht (fun s hs => by
    have h4 : Inv (s.withLdr { s.ldr with repls := [] }) := h.replsG s [] hs (fun r hr => nomatch hr)
    have e : ∀ l, (s.withLdr { s.ldr with repls := [] }).withLdr l = s.withLdr l := fun l => by
      unfold Node.withLdr; rfl
    rw [← e]
    exact h.ldrT ht _ _ h4 rfl rfl) s hs

theorem replUpdLoop_of (hset : ∀ (s : Node) r, Inv s → Inv (s.setRepl r)) (s : Node) (f : UpdFlags)
    (us : List ReplUpdate) (hs : Inv s) : Inv (replUpdLoop s f us).1 :=
  h.toAt.replUpdLoop_of (fun s _ r _ hs _ _ _ _ => hset s r hs) s f us hs

end GuardedLdr

namespace GuardedStep

variable {c : Caps} {Inv : Node → Prop} (h : GuardedStep c Inv)
include h

theorem removeGTE_inv (s : Node) (i pt : Nat) (hs : Inv s) (h1 : s.snapIndex < i) (h2 : s.log.prev < i)
    (h3 : i ≤ s.log.last) : Inv (s.removeGTE i pt) := by
  unfold Node.removeGTE; exact h.point _ _ (h.removeGTE _ _ _ hs h1 h2 h3)

omit h in
theorem entryTerm_bounds {s : Node} {i t : Nat} (ht : s.entryTerm? i = some t) : s.log.prev < i ∧ i ≤ s.log.last := by
  unfold Node.entryTerm? at ht
  cases hx : s.log.get? i with
  | none => rw [hx] at ht; cases ht
  | some e => exact NLog.get?_some_le hx

theorem resolveConflict_inv (s : Node) (ne : Entry) (pt : Nat) (hs : Inv s) (hi : s.snapIndex < ne.index) :
    Inv (s.resolveConflict ne pt) := by
  unfold Node.resolveConflict
  split
  · split
    · exact h.panic _ _ hs
    · rename_i t ht
      have h1 := h.removeGTE_inv s ne.index pt hs hi (entryTerm_bounds ht).1 (entryTerm_bounds ht).2
      dsimp only
      split
      · exact h.revertConfig _ h1
      · exact h1
  · exact hs

theorem appendLoop_inv (st : AppLoop) (es : List Entry) (hs : Inv st.s) : Inv (appendLoop st es).s :=
  appendLoop_keeps (fun _ _ hn hs =>
      h.appendAny _ _ (h.resolveConflict_inv _ _ _ hs (Nat.lt_of_not_le fun hle => hn (Or.inl hle))))
    h.changeConfigR st es hs

theorem appendCheck_inv (s : Node) (q : AppendReq) (hs : Inv s) : Inv (s.appendCheck q) := by
  have hx : ∀ {x}, Looked s q x → Inv x ∧ x.commitIndex = s.commitIndex := fun hl => by
    rcases hl.eq with rfl | rfl
    · exact ⟨hs, rfl⟩
    · exact ⟨h.panic _ _ hs, by rw [panic_shape]⟩
  exact appendCheck_cases s q (fun x r hl _ => h.ret _ _ (hx hl).1) fun x hl _ _ _ hcc =>
    h.ret _ _ (h.applyCommitted_inv _ (h.setCommitIndexR _ _ (hx hl).1 (by rw [(hx hl).2]; exact canCommit_gt hcc)))

theorem followPre_inv (s : Node) (term src : Nat) (hs : Inv s) : Inv (followPre s term src) :=
  h.setLeader _ _ (h.setRole _ _ (ite_ind (fun hgt => h.termDown _ _ hs hgt) fun _ => hs) .follower (.inl rfl))

theorem afterLoop_inv (q : AppendReq) (st : AppLoop) (hs : Inv st.s) : Inv (afterLoop q st) := by
  have hc := h.commitLog_inv _ st.s.lastLogIndex hs
  exact h.ret _ _ (ite_ind (fun _ => ite_ind
    (fun hcc => h.applyCommitted_inv _ (h.setCommitIndexR _ _ hc (canCommit_gt hcc))) fun _ => hc) fun _ => hs)

theorem onAppendEntries_inv (s : Node) (q : AppendReq) (hs : Inv s) : Inv (s.onAppendEntries q) := by
  rw [onAppendEntries_stages]
  have h3 := h.appendCheck_inv _ q (h.followPre_inv s q.term q.src hs)
  exact ite_ind (fun _ => h.ret _ _ hs) fun _ => ite_ind (fun _ => h3) fun _ =>
    h.afterLoop_inv q _ (h.appendLoop_inv _ _ h3)

theorem onInstallSnap_inv (s : Node) (q : InstallReq) (hs : Inv s)
    (hq : q.term < s.term ∨
      (c.install ∧ c.file { index := q.lastIndex, term := q.lastTerm, config := q.lastConfig, data := q.data })) :
    Inv (s.onInstallSnap q) := by
  rw [onInstallSnap_eq]
  refine ite_ind (fun _ => h.ret _ _ hs) fun hlt => ?_
  obtain ⟨hi, hf⟩ := hq.resolve_left hlt
  have h2 : Inv (installPre s q) := h.followPre_inv s q.term q.src hs
  refine ite_ind (fun _ => h.ret _ _ h2) fun hgt => ite_ind (fun _ => h.ret _ _ h2) fun _ => ?_
  exact h.ret _ _ (h.commitConfig hi _ (h.changeConfigR _ _
    (h.installCommit hi _ (h.installCore hi _ _ h2 hf) (install_commit_guard _ _ hgt))))

theorem onSnapshotTaken_inv (hc : c.compact) (ha : c.reports) (s : Node) (hs : Inv s) : Inv s.onSnapshotTaken :=
  onSnapshotTaken_of h.panic h.reply (h.snapResult hc) (h.compactLog_inv hc) (h.ldrAny ha) s hs

theorem bootstrap_inv (hb : c.boot) (s : Node) (t : Nat) (cf : Config) (hs : Inv s) : Inv (s.bootstrap t cf) :=
  bootstrap_cases s t cf (fun _ r => h.reply s t r hs) fun _ =>
    h.bootRole hb _ (h.reply _ _ _ (h.changeConfigR _ _ (h.bootstrapLast hb _ _ _ (h.bootTerm hb _
      (h.commitLog_inv _ _ (h.appendAny _ _ hs))))))

theorem toAt : GuardedStepAt c Inv Inv (fun _ s => Inv s) where
  toGuardedLdrAt := h.toGuardedLdr.toAt
  rpcReply := h.rpcReply
  ret := h.ret
  doClose := h.doClose
  voteNewTerm := h.voteNewTerm
  voteGrant := h.voteGrant
  votesNeeded := h.votesNeeded
  candTransfer := h.candTransfer
  snapPending := h.snapPending
  snapRun := h.snapRun
  snapTaken := h.onSnapshotTaken_inv

theorem releaseRole_inv (ht : c.transfer) (s : Node) (r : Role) (hs : Inv s) : Inv (s.releaseRole r) :=
  h.toAt.releaseRole_inv (h.leaderRelease_inv ht) s r hs
theorem settle_inv (hp : c.promote) (ht : c.transfer) (hinit : ∀ s : Node, Inv s → Inv s.leaderInit) (f : Nat) (s : Node)
    (cur : Role) (hs : Inv s) : Inv (settle f s cur) :=
  h.toAt.settle_inv hp (h.leaderRelease_inv ht) hinit f s cur hs
theorem shutdown_inv (s : Node)
    (hop : c.shutdown ∧ c.transfer ∧ c.compact ∧ c.reports ∧
      c.snap ((s.doClose "serverClosed").releaseRole (s.doClose "serverClosed").role))
    (hs : Inv s) : Inv s.shutdown :=
  h.toAt.shutdown_inv (h.leaderRelease_inv hop.2.1) s hop hs

theorem handle_inv (s : Node) (op : Op) (hop : c.Ok s op) (hs : Inv s) : Inv (s.handle op) :=
  h.toAt.handle_with s op hop hs (fun e => h.leaderRelease_inv (by subst e; exact hop.2.1))
    (fun q _ => h.onAppendEntries_inv _ _ hs)
    (fun q e => h.onInstallSnap_inv _ _ hs (by subst e; exact hop))
    (fun t cf e _ => h.bootstrap_inv (by subst e; exact hop) _ _ _ hs)

/-- `hinit` is `leaderInit_inv` where the predicate admits any new leader record. -/
theorem step_inv (hp : c.promote) (ht : c.transfer) (hinit : ∀ s : Node, Inv s → Inv s.leaderInit) (s : Node) (op : Op)
    (ra : List Nat) (ord : List (List Nat)) (hop : c.Ok (s.begin ra ord) op) (hs : Inv (s.begin ra ord)) :
    Inv (s.step op ra ord) :=
  h.toAt.step_with hp (h.leaderRelease_inv ht) hinit s op ra ord (h.handle_inv _ op hop hs)

end GuardedStep

end Node
end Raft
