/-
The invariant of the cluster system with snapshots, compaction and INSTALLATION of snapshots (Sys/Snap3.lean; namespace
`SnapInst3`, as in SnapInv3Events.lean): the definitions, that `VTerm` reads of a state one node and its virtual node, that the virtual node makes the step of an
operation of stage 2 also when its log starts exactly at its snapshot index (`vstep_comm`, given `Snap3.NoCut`), that a
completed step keeps `VTerm` (`vterm_step`), and a crash in an operation of stage 2 with the restart (`crash3_nc`:
`SnapInv2.crash_nc` for a state of stage 3) — also from a disk whose log starts exactly at the newest snapshot (then
`openStorage` takes the coordinates of the last entry from the snapshot: `VTerm` makes them those of the virtual log).

`Inv3 V x`:
* `sinv`  — the invariant of stage 1 (`SnapInv.SInv`: election safety, log matching, leader completeness, commit safety,
            state-machine content, snapshot files fit the log) for the cluster of the VIRTUAL nodes;
* `prev`  — every log starts at or below the node's snapshot index (`SnapInv2.PrevOK`);
* `vterm` — **the snapshot agrees with the log**: every snapshot file on a node's disk carries the term of the entry of
            the node's virtual log at the file's index, and `snapTerm` is the term of the newest file (`VTerm`);
* `msgs`  — every install request on the wire stands for a committed root path of the tree of created entries
            (`MsgOK`): its ghost prefix `pre` is a path of length `lastIndex` whose last entry has term `lastTerm` and is
            committed by a leader of a term `≤` the request's; `data` is the replay of `pre`.
-/
import RaftVerif.Sys.Snap3
import RaftVerif.Lemmas.SnapInv2
import RaftVerif.Lemmas.SnapInstA
import RaftVerif.Lemmas.SnapInstU

namespace Raft
namespace SnapInst3
open Node Election LogRel Replication CommitRel Commit C02Sys C03Sys SnapRel SnapRelU SnapSim Snap Snap2 SnapInv SnapInv2
open SnapInst SnapInstU Snap3

/-- `cview2` for stage 3: the state `Inv3` puts under `CInv` has the ledgers of `y`, the virtual logs, and flushed mark, commit
index, term and role of the real nodes -/
theorem cview (y : Snap3.Sys) :
    (eview (view3 y).cs).committed = y.s2.cs.committed ∧ (eview (view3 y).cs).acks = y.s2.cs.acks ∧
    (eview (view3 y).cs).T = y.s2.cs.T ∧
    ∀ v, ((eview (view3 y).cs).node v).log.entries = y.vlog v ∧
      ((eview (view3 y).cs).node v).log.flushed = (y.node v).log.flushed ∧
      ((eview (view3 y).cs).node v).commitIndex = (y.node v).commitIndex ∧
      ((eview (view3 y).cs).node v).term = (y.node v).term ∧ ((eview (view3 y).cs).node v).role = (y.node v).role :=
  cview2 y.s2

/-- the TERMS of node `i`'s snapshot data fit its virtual log: every file carries the term of the entry at its index, and
`snaps.term` is the term of the newest file (what `SnapOK`, which speaks of indexes and payloads, leaves open; needed once
a log may start exactly at its snapshot index, where `openStorage` takes the last term from the snapshot) -/
structure VTerm (x : Snap3.Sys) (i : Nat) : Prop where
  files : ∀ f ∈ (x.node i).snapsDisk, termAt (x.vlog i) f.index = f.term
  head : (x.node i).snapTerm = (headOf (x.node i).snapsDisk).term

/-- an install request on the wire stands for a committed prefix: `m.pre` (ghost: the entries the snapshot replaces) is a
root path of the tree whose last entry — index `lastIndex`, term `lastTerm` — is committed by a leader of a term not above
the request's, and the request's data is its replay -/
structure MsgOK (z : Commit.Sys) (m : SnapMsg) : Prop where
  len : m.pre.length = m.q.lastIndex
  pos : 1 ≤ m.q.lastIndex
  path : Path z.T m.pre
  lastT : lastTerm m.pre = m.q.lastTerm
  cmt : Cmt z (m.pre.length, lastTerm m.pre) m.q.term
  data : m.q.data = ups m.pre
  termLe : ∀ e ∈ m.pre, e.term ≤ m.q.term
  dec : ∀ e ∈ m.pre, e.typ = etConfig → e.cfg.isSome = true

/-- **the invariant of the cluster with installation of snapshots**: the clauses of `Inv2` (for `view3 x`), the terms of the snapshot data
(`VTerm`) and the install requests on the wire (`MsgOK`) -/
structure Inv3 (V : List Nat) (x : Snap3.Sys) : Prop where
  sinv : SInv V (view3 x)
  prev : ∀ i, PrevOK (x.node i)
  vterm : ∀ i, VTerm x i
  msgs : ∀ m ∈ x.sentSnaps, MsgOK (view3 x).cs m

/-- the ledgers only grow: the request still stands for a committed prefix -/
theorem MsgOK.mono {z z' : Commit.Sys} {m : SnapMsg} (h : MsgOK z m) (hT : ∀ c ∈ z.T, c ∈ z'.T)
    (hC : ∀ c ∈ z.committed, c ∈ z'.committed) : MsgOK z' m := by
  obtain ⟨mm, hm, h1, h2⟩ := h.cmt
  exact ⟨h.len, h.pos, h.path.mono hT, h.lastT, ⟨mm, hC mm hm, h1, h2.mono hT⟩, h.data, h.termLe, h.dec⟩

theorem vlog_def (x : Snap3.Sys) (i : Nat) : x.vlog i = pad (x.s2.base i) (x.node i).log.prev ++ (x.node i).log.entries :=
  rfl

theorem vlog_length (x : Snap3.Sys) (i : Nat) : (x.vlog i).length = (x.node i).log.last := vlog_length2 x.s2 i

/-! ### `VTerm` reads of the state only node `j` and its virtual node -/

theorem VTerm.congr {x y : Snap3.Sys} {j : Nat} (h : VTerm x j) (hn : y.node j = x.node j)
    (hv : y.vnode j = x.vnode j) : VTerm y j := by
  refine ⟨?_, ?_⟩
  · show ∀ f ∈ (y.node j).snapsDisk, termAt (y.vnode j).log.entries f.index = f.term
    rw [hn, hv]; exact h.files
  · rw [hn]; exact h.head

theorem vterm_nodes {x y : Snap3.Sys} {i : Nat} (hx : ∀ j, VTerm x j) (hn : ∀ j, j ≠ i → y.node j = x.node j)
    (hv : ∀ j, j ≠ i → y.vnode j = x.vnode j) (hi : VTerm y i) (j : Nat) : VTerm y j := by
  by_cases hj : j = i
  · subst hj; exact hi
  · exact (hx j).congr (hn j hj) (hv j hj)

theorem vterm_stepS {x : Snap3.Sys} {i : Nat} {op : Op} {ra : List Nat} {ord : List (List Nat)} {src : Nat}
    (hx : ∀ j, VTerm x j) (hi : VTerm { x with s2 := stepS x.s2 i op ra ord src } i) :
    ∀ j, VTerm { x with s2 := stepS x.s2 i op ra ord src } j :=
  vterm_nodes hx (fun _ hj => setNode_other _ _ _ _ hj)
    (fun j hj => by
      show (stepS x.s2 i op ra ord src).vnode j = x.s2.vnode j
      rw [view_stepS_node, if_neg hj]) hi

theorem vterm_crashS {x : Snap3.Sys} {i : Nat} {op : Op} {n : Node} (hx : ∀ j, VTerm x j)
    (hi : VTerm { x with s2 := crashS x.s2 i op n } i) : ∀ j, VTerm { x with s2 := crashS x.s2 i op n } j :=
  vterm_nodes hx (fun _ hj => setNode_other _ _ _ _ hj)
    (fun j hj => by
      show (crashS x.s2 i op n).vnode j = x.s2.vnode j
      rw [view_crashS_node, if_neg hj]) hi

open SnapFrame

section
variable {V : List Nat}

theorem sideS_view3 {x : Snap3.Sys} (h : Side3 V x) : SideS V (view3 x) := ⟨h.sideV, fun _ => rfl, h.dec⟩

theorem aok2_of {s : Node} (hp : PrevOK s) (hs : C09.SegsOK s.log) : AOK2 s := by
  refine ⟨hp.le, ?_⟩
  have := hs.head
  cases hseg : s.log.segs with
  | nil => rw [hseg] at this; cases this
  | cons a t =>
    rw [hseg] at this
    have ha : a = s.log.prev := by simpa using this
    rw [ha]; exact List.mem_cons_self ..

theorem sent_sorted {x : Snap3.Sys} (hI : SInv V (view3 x)) {q : AppendReq} (hq : q ∈ x.s2.cs.rp.sent) :
    q.entries.Pairwise (fun a b => a.index < b.index) :=
  pairwise_of_idx q.prevLogIndex q.entries (hI.cinv.rp.sent q hq).idx

/-- **the virtual node makes the same step** — for every operation of stage 2 but `.snapTaken`, also when the log starts
exactly at the snapshot index -/
theorem vstep_comm {x : Snap3.Sys} (hI : SInv V (view3 x)) (hP : ∀ i, PrevOK (x.node i)) (hS : Side3 V x) {i : Nat}
    {op : Op} {ra : List Nat} {ord : List (List Nat)} {src : Nat} (en : Snap.Enabled x.s2.cs i op src)
    (hp : ((x.node i).step op ra ord).panicked = none) (hne : op ≠ .snapTaken) (hnc : NoCut (x.node i) op) :
    (x.vnode i).step op ra ord = U (x.s2.base i) ((x.node i).step op ra ord) := by
  by_cases happ : ∃ q, op = .append q
  · obtain ⟨q, rfl⟩ := happ
    have ha2 : AOK2 (x.node i) := aok2_of (hP i) (hS.segs i)
    by_cases ha : AOK (x.node i)
    · exact append_step_U _ q ra ord ha hp
    · refine append_step_U2 _ q ra ord ha2 (fun hst => ?_) hp
      have hq : q ∈ x.s2.cs.rp.sent := (en.append q rfl).resolve_left hst
      refine ⟨sent_sorted hI hq, fun ne hne' hidx => ?_⟩
      rcases hnc with h | h | h | h | h
      · exact absurd h hst
      · exact Or.inl h
      · exact absurd (Or.inr ⟨h, ha2.2⟩) ha
      · -- the entry directly behind the first index is committed: the request does not conflict with it
        right; right
        have hc := hI.cinv
        obtain ⟨_, _, e3, e4, _⟩ := (cview x).2.2.2 i
        have eS := cview2_sent x.s2
        have e : ((eview (view3 x).cs).node i).entryTerm? ne.index = (U (x.s2.base i) (x.node i)).entryTerm? ne.index := rfl
        generalize eview (view3 x).cs = z at hc e3 e4 eS e
        have hnc' := reqok hc (i := i) (eS ▸ hq) (e4 ▸ hst)
        have hn : NWF (z.node i) := nwf hc i
        have hidx' : ne.index = (x.node i).log.prev + 1 := hidx
        have h' : (x.node i).log.prev < (x.node i).commitIndex := h
        have hle : ne.index ≤ (z.node i).commitIndex := by omega
        have hlen := (hc.cmt.cc i ne.index (by omega) hle).1
        have het := hn.entryTerm ne.index (by omega) hlen
        rw [e, U_entryTerm? (x.node i) ne.index (by omega)] at het
        rw [het]
        exact congrArg some (hnc' ne hne' hle)
      · exact Or.inr (h ne hne' hidx)
  · exact step_U _ op ra ord (uPlain_of_ok en.ok2 hne happ) hp

theorem noCut_of_not_append (s : Node) {op : Op} (hap : ¬ ∃ q, op = .append q) : NoCut s op := by
  cases op <;> first | trivial | exact absurd ⟨_, rfl⟩ hap

theorem vnode_lwf3 {x : Snap3.Sys} (hI : SInv V (view3 x)) (i : Nat) :
    C06.LogWF (uncLog (x.s2.base i) (x.node i).log) := hI.cinv.node.lwf i

/-- a completed step of an operation of `Raft.Commit` keeps what the commit index covered (stage 1) -/
theorem vstep_keep (hV : V.Nodup) {x : Snap.Sys} (hI : SInv V x) (hS : SideS V x) {i : Nat} {op : Op}
    {ra : List Nat} {ord : List (List Nat)} {src : Nat} (en : Snap.Enabled x.cs i op src) (h1 : op ≠ .snapRun)
    (h2 : op ≠ .snapTaken) :
    (x.node i).commitIndex ≤ ((x.node i).step op ra ord).commitIndex ∧
    ((x.node i).step op ra ord).log.entries.take (x.node i).commitIndex =
      (x.node i).log.entries.take (x.node i).commitIndex := by
  have hcomm := step_comm hI en h1 ra ord
  have sc : SC V (eview x.cs) i (eraseOp σ0 (x.node i) op) ra ord src :=
    ⟨hV, hI.cinv, sideV_eview hS.sideV, enabled_eview en h1 h2⟩
  have hpost : ((eview x.cs).node i).step (eraseOp σ0 (x.node i) op) ra ord = E σ0 ((x.node i).step op ra ord) := hcomm
  have hkeep := step_keep sc
  rw [hpost] at hkeep
  exact hkeep

/-- the snapshot files after the snapshot goroutine ran: the old ones, or a new one at the applied index labelled with
`fsm.term`; `snapTerm` stays the term of the newest file -/
theorem snapRun_files (s : Node) (hr : 1 ≤ s.retain) (hhead : ∀ g ∈ s.snapsDisk, g.index ≤ s.snapIndex)
    (hle : s.snapIndex ≤ s.fsm.index) (hst : s.snapTerm = (headOf s.snapsDisk).term) :
    (∀ g ∈ s.snapRun.snapsDisk, g ∈ s.snapsDisk ∨
      (g.index = s.fsm.index ∧ g.term = s.fsm.term ∧ s.fsm.index ≠ s.snapIndex)) ∧
    s.snapRun.snapTerm = (headOf s.snapRun.snapsDisk).term := by
  cases hp : s.snapPending with
  | none => rw [C09.snapRun_idle s hp]; exact ⟨fun g hg => Or.inl hg, hst⟩
  | some rq =>
    by_cases hrf : s.fsm.index = s.snapIndex ∨ s.fsm.index < rq.minIndex
    · obtain ⟨e1, e2, _⟩ := (C09.snapRun_refusal s rq hp).2 hrf
      have e3 : s.snapRun.snapTerm = s.snapTerm := by
        unfold Node.snapRun
        rw [hp]
        dsimp only
        split
        · rfl
        · split
          · rfl
          · rename_i h1 h2
            exfalso
            rcases hrf with h | h
            · exact h1 h
            · exact h2 h
      rw [e1, e3]
      exact ⟨fun g hg => Or.inl hg, hst⟩
    · have hne : s.fsm.index ≠ s.snapIndex := fun e => hrf (Or.inl e)
      have hge : rq.minIndex ≤ s.fsm.index := Nat.le_of_not_lt (fun e => hrf (Or.inr e))
      obtain ⟨e1, _, e3, _⟩ := C09.snapshot_at_applied_index s rq hp hne hge
      have hlt : ∀ g ∈ s.snapsDisk, g.index < (C09.snapFileOf s rq).index := by
        intro g hg
        have := hhead g hg
        show g.index < s.fsm.index
        omega
      have c1 := insertSnap_front (C09.snapFileOf s rq) s.snapsDisk hlt
      obtain ⟨r, hr'⟩ : ∃ r, s.retain = r + 1 := ⟨s.retain - 1, by omega⟩
      have htake : s.snapRun.snapsDisk = C09.snapFileOf s rq :: s.snapsDisk.take r := by
        rw [e1, c1, hr']; rfl
      refine ⟨fun g hg => ?_, by rw [e3, htake]; rfl⟩
      rw [htake] at hg
      rcases List.mem_cons.mp hg with rfl | hg
      · exact Or.inr ⟨rfl, rfl, hne⟩
      · exact Or.inl (List.mem_of_mem_take hg)

/-- what the real log still holds is what the virtual log holds there -/
theorem get_virtual3 (x : Snap3.Sys) (i k : Nat) (h : (x.node i).log.prev < k) :
    (x.node i).log.get? k = (x.vnode i).log.get? k := get_virtual x.s2 i k h

theorem vget3 (x : Snap3.Sys) (i k : Nat) (hk : 1 ≤ k) : (x.vnode i).log.get? k = (x.vlog i)[k - 1]? :=
  vget x.s2 i k hk

/-- the term the real log answers for is the term of the virtual log -/
theorem termAt_vlog_of_real (x : Snap3.Sys) (i k t : Nat) (hk : (x.node i).log.prev < k)
    (h : (x.node i).entryTerm? k = some t) : termAt (x.vlog i) k = t := by
  rw [entryTerm_virtual x.s2 i k hk] at h
  unfold termAt
  rw [if_neg (by omega)]
  show (((x.vlog i)[k - 1]?).map (·.term)).getD 0 = t
  rw [h]; rfl

theorem vterm_step (hV : V.Nodup) {x : Snap3.Sys} (hI : Inv3 V x) (hS : Side3 V x) {i : Nat} {op : Op}
    {ra : List Nat} {ord : List (List Nat)} {src : Nat} (en : Snap.Enabled x.s2.cs i op src)
    (hne : op ≠ .snapTaken) (htt : TermTracked (x.node i) op)
    (hvn : (stepS x.s2 i op ra ord src).vnode i = (x.vnode i).step op ra ord)
    (hU : (x.vnode i).step op ra ord = U (x.s2.base i) ((x.node i).step op ra ord)) :
    ∀ j, VTerm { x with s2 := stepS x.s2 i op ra ord src } j := by
  refine vterm_stepS hI.vterm ?_
  have e1 : (stepS x.s2 i op ra ord src).cs.node i = (x.node i).step op ra ord := stepS_node_i _ _ _ _ _ _
  have hv := hI.vterm i
  have so : SnapOK (x.vnode i) := hI.sinv.snap i
  have hsc : (x.node i).snapIndex ≤ (x.node i).commitIndex := by
    show (x.vnode i).snapIndex ≤ (x.vnode i).commitIndex
    rw [so.head]; exact so.files.head_le
  suffices hh : (∀ f ∈ ((stepS x.s2 i op ra ord src).cs.node i).snapsDisk,
      termAt ((stepS x.s2 i op ra ord src).vnode i).log.entries f.index = f.term) ∧
    ((stepS x.s2 i op ra ord src).cs.node i).snapTerm =
      (headOf ((stepS x.s2 i op ra ord src).cs.node i).snapsDisk).term from ⟨hh.1, hh.2⟩
  rw [e1, hvn]
  by_cases hr : op = .snapRun
  · subst hr
    have hlog : ((x.vnode i).step .snapRun ra ord).log = (x.vnode i).log := by
      rw [snapRun_step_eq]
      exact congrArg (fun p => p.2.2.2.2.2.1) (snapRun_obs ((x.vnode i).begin ra ord)).1
    rw [hlog, snapRun_step_eq]
    have hfl : ∀ g ∈ (x.node i).snapsDisk, g.index ≤ (x.node i).snapIndex := by
      intro g hg
      have := so.files.le_head g hg
      rw [← so.head] at this
      exact this
    obtain ⟨a, b⟩ := snapRun_files ((x.node i).begin ra ord) so.retain hfl so.le hv.head
    refine ⟨fun f hf => ?_, b⟩
    rcases a f hf with h | ⟨h1, h2, h3⟩
    · exact hv.files f h
    · rw [h1, h2]
      have hlt : (x.node i).log.prev < (x.node i).fsm.index := by
        have p1 := (hI.prev i).le
        have p2 : (x.node i).snapIndex ≤ (x.node i).fsm.index := so.le
        have h3' : (x.node i).fsm.index ≠ (x.node i).snapIndex := h3
        omega
      exact termAt_vlog_of_real x i _ _ hlt (htt hlt)
  · obtain ⟨k1, k2, _⟩ := step_keeps_snap (x.node i) op ra ord en.ok2.1 hr
    have k3 : ((x.node i).step op ra ord).snapTerm = (x.node i).snapTerm :=
      (snap_frame_of_ok (x.node i) op ra ord en.ok2.1 hr).2.1
    obtain ⟨_, hk⟩ := vstep_keep hV hI.sinv (sideS_view3 hS) (enabled_view en) hr hne (ra := ra) (ord := ord)
    rw [k2, k3]
    refine ⟨fun f hf => ?_, hv.head⟩
    have hfi : f.index ≤ (x.node i).commitIndex := by
      have := so.files.le_head f hf
      rw [← so.head] at this
      exact Nat.le_trans this hsc
    have hk' : ((x.vnode i).step op ra ord).log.entries.take (x.node i).commitIndex =
        (x.vlog i).take (x.node i).commitIndex := hk
    rw [termAt_of_take_eq hk' hfi]
    exact hv.files f hf

theorem stepS_T (y : Snap2.Sys) (i : Nat) (op : Op) (ra : List Nat) (ord : List (List Nat)) (src : Nat) :
    (∀ c ∈ (view y).cs.T, c ∈ (view (stepS y i op ra ord src)).cs.T) ∧
    (∀ c ∈ (view y).cs.committed, c ∈ (view (stepS y i op ra ord src)).cs.committed) :=
  ⟨fun _ hc => List.mem_append_right _ hc, fun _ hc => List.mem_append_right _ hc⟩

theorem crashS_T (y : Snap2.Sys) (i : Nat) (op : Op) (n : Node) :
    (∀ c ∈ (view y).cs.T, c ∈ (view (crashS y i op n)).cs.T) ∧
    (∀ c ∈ (view y).cs.committed, c ∈ (view (crashS y i op n)).cs.committed) :=
  ⟨fun _ hc => List.mem_append_right _ hc, fun _ hc => hc⟩

/-- **what a committed key pins down**: a node whose commit index covers index `K` holds, at `K`, the term of any root
path whose key at `K` is committed -/
theorem termAt_of_committed {z : Commit.Sys} (hI : CInv V z) {L : List Entry} (hL : Path z.T L) {K u : Nat}
    (h1 : 1 ≤ K) (hK : K ≤ L.length) (hc : Cmt z (K, termAt L K) u) (j : Nat) (hj : K ≤ (z.node j).commitIndex) :
    termAt (z.node j).log.entries K = termAt L K := by
  have hP : Path z.T (L.take K) := hL.prefix (List.take_prefix _ _)
  have hlen : (L.take K).length = K := by rw [List.length_take]; omega
  have hlt : lastTerm (L.take K) = termAt L K := lastTerm_take L K hK
  have hc' : Cmt z ((L.take K).length, lastTerm (L.take K)) u := by rw [hlen, hlt]; exact hc
  have := path_agree_commit hI hP (by omega) hc' j K hj (by omega)
  rw [List.take_take, Nat.min_self] at this
  rw [← termAt_take (z.node j).log.entries K K (Nat.le_refl _), ← this, termAt_take L K K (Nat.le_refl _)]

/-- the snapshot files on disk whenever the process dies in an operation of stage 2: the files the node had, or —
while the snapshot goroutine publishes — a new one at the applied index labelled with `fsm.term` -/
theorem crash_files3 (s : Node) (op : Op) (ra : List Nat) (ord : List (List Nat)) (k : Nat) (hok : OpOKS op) :
    ∀ g ∈ (C05.crashDisk s op ra ord k).snaps, g ∈ s.snapsDisk ∨
      (op = .snapRun ∧ g.index = s.fsm.index ∧ g.term = s.fsm.term ∧ s.fsm.index ≠ s.snapIndex) := by
  intro g hg
  by_cases hr : op = .snapRun
  · subst hr
    rcases (snap_crashDisk s .snapRun ra ord k (Or.inl rfl)).2 with e | ⟨rq, _, hp, hne, hge, e⟩
    · rw [e] at hg; exact Or.inl hg
    · have hin : g ∈ insertSnap (C09.snapFileOf s rq) s.snapsDisk := by
        rcases e with e | e
        · rw [e] at hg; exact hg
        · rw [e] at hg; exact List.mem_of_mem_take hg
      have : ∀ (l : List SnapFile), g ∈ insertSnap (C09.snapFileOf s rq) l → g = C09.snapFileOf s rq ∨ g ∈ l := by
        intro l
        induction l with
        | nil => intro h; exact Or.inl (List.mem_singleton.mp h)
        | cons a as ih =>
          intro h
          unfold insertSnap at h
          split at h
          · rcases List.mem_cons.mp h with h | h
            · exact Or.inl h
            · exact Or.inr h
          · split at h
            · rcases List.mem_cons.mp h with h | h
              · exact Or.inl h
              · exact Or.inr (List.mem_cons_of_mem _ h)
            · rcases List.mem_cons.mp h with h | h
              · exact Or.inr (h ▸ List.mem_cons_self ..)
              · rcases ih h with h | h
                · exact Or.inl h
                · exact Or.inr (List.mem_cons_of_mem _ h)
      rcases this _ hin with h | h
      · right; rw [h]; exact ⟨rfl, rfl, rfl, hne⟩
      · exact Or.inl h
  · left
    rw [crash_snaps_eq s op ra ord k hok hr] at hg
    exact hg

theorem crash_files_term {x : Snap3.Sys} (hI : Inv3 V x) {i : Nat} {op : Op} {ra : List Nat} {ord : List (List Nat)}
    (k : Nat) (hok : OpOKS op) (htt : TermTracked (x.node i) op) :
    ∀ g ∈ (C05.crashDisk (x.node i) op ra ord k).snaps, termAt (x.vlog i) g.index = g.term := by
  intro g hg
  have so : SnapOK (x.vnode i) := hI.sinv.snap i
  rcases crash_files3 (x.node i) op ra ord k hok g hg with h | ⟨rfl, h1, h2, h3⟩
  · exact (hI.vterm i).files g h
  · rw [h1, h2]
    have hlt : (x.node i).log.prev < (x.node i).fsm.index := by
      have p1 := (hI.prev i).le
      have p2 : (x.node i).snapIndex ≤ (x.node i).fsm.index := so.le
      omega
    exact termAt_vlog_of_real x i _ _ hlt (htt hlt)

theorem headOf_mem (l : List SnapFile) (h : 0 < (headOf l).index) : headOf l ∈ l := by
  unfold headOf at h ⊢
  cases l with
  | nil => simp at h
  | cons a as => simp

theorem headSnap_mem (d : Durable) (h : 0 < (headSnap d).index) : headSnap d ∈ d.snaps := headOf_mem d.snaps h

theorem restart_snapTerm (d : Durable) (r : Nat) (sor : Bool) (n : Node) (hn : Node.restart d r sor = some n) :
    n.snapTerm = (headSnap d).term ∧ n.snapsDisk = d.snaps ∧ n.commitIndex = (headSnap d).index ∧
    n.retain = r :=
  ⟨restart_field (·.snapTerm) (fun _ _ _ _ => rfl) hn, restart_field (·.snapsDisk) (fun _ _ _ _ => rfl) hn,
    restart_commitIndex hn, restart_field (·.retain) (fun _ _ _ _ => rfl) hn⟩

/-- the hypothesis `hlt` of `restart_view`, from the terms of the files on disk -/
theorem pad_term_of_files {x : Snap3.Sys} {i : Nat} {d : Durable} (hp : d.log.prev = (x.node i).log.prev)
    (hf : ∀ g ∈ d.snaps, termAt (x.vlog i) g.index = g.term) :
    0 < d.log.prev → d.log.prev = (headSnap d).index →
      (((pad (x.s2.base i) d.log.prev).getLast?).map (·.term)).getD 0 = (headSnap d).term := by
  intro h0 he
  rw [hp] at h0 ⊢
  rw [pad_getLast_term (x.s2.base i) (x.node i).log.entries _ h0, ← vlog_def]
  have hm : headSnap d ∈ d.snaps := headSnap_mem d (by rw [← he, hp]; exact h0)
  have := hf _ hm
  rw [← he, hp] at this
  exact this

theorem crash3_nc (hV : V.Nodup) {x : Snap3.Sys} (hI3 : Inv3 V x) (hS : Side3 V x) {i : Nat} {op : Op} {ra : List Nat}
    {ord : List (List Nat)} {src k retain : Nat} {sor : Bool} {n : Node} (en : Snap.Enabled x.s2.cs i op src)
    (hret : 1 ≤ retain) (hp : ((x.node i).step op ra ord).panicked = none) (hne : op ≠ .snapTaken)
    (hnc : NoCut (x.node i) op) (htt : TermTracked (x.node i) op)
    (hst : staleLog (C05.crashDisk (x.node i) op ra ord k) = false)
    (hn : Node.restart (C05.crashDisk (x.node i) op ra ord k) retain sor = some n)
    (hS' : SideS V (view (crashS x.s2 i op n))) :
    SInv V (view (crashS x.s2 i op n)) ∧ PrevOK n ∧ (crashS x.s2 i op n).vnode i = U (x.s2.base i) n ∧
    FilesOK (x.vlog i) (x.node i).commitIndex (C05.crashDisk (x.node i) op ra ord k).snaps ∧
    (C05.crashDisk (x.node i) op ra ord k).log.prev = (x.node i).log.prev :=
  crash_nc hV hI3.sinv (sideS_view3 hS) (hI3.prev i) (hS.segs i) en hret hne
    (vstep_comm hI3.sinv hI3.prev hS en hp hne hnc) hst
    (fun h0 he => by
      have := crash_files_term hI3 (i := i) (op := op) (ra := ra) (ord := ord) k en.ok2.1 htt _
        (headSnap_mem _ (he ▸ h0))
      rwa [← he] at this)
    hn hS'

end

end SnapInst3
end Raft
