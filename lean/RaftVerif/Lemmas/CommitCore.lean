/-
The part of the cluster invariant that does not know what a quorum is.

`Commit.CInv V x` (Sys/Commit.lean, fixed voter set) and `MemberInv.MInv x G` (Lemmas/MemberInv.lean, configurations
change) say the same about everything that is not a majority: the tree of created entries, every log a root path of it,
the node clauses, the requests on the wire, the acknowledgements, the campaigns and votes, the commit indexes. `CoreI x A`
states that part once, over a `Commit.Sys` and a list `A` of acknowledgements (`x.acks` for the fixed system, the ledger
plus the ghost acknowledgements for the membership system, whose state holds a `Commit.Sys`); `CoreUpd` states once what a
completed step of node `i` and a crash of node `i` followed by its restart have in common, in either system (its first
eight fields are the record `ReplC`, which `StepC` of Lemmas/CommitCoreTree.lean extends as well). The clauses
are stated element by element (`NodeAt` a node, `SentAt` a request, `AckAt` an acknowledgement), so that a transition of
node `i` has to look at node `i` and at the new ledger entries only. The lemmas that follow from `CoreI` alone, and the
preservation of the acknowledgement and vote clauses along a `CoreUpd`, are below; the tree and node clauses are in
Lemmas/CommitCoreTree.lean. Where the voter set matters — who created the entries of a term, leader completeness — the
lemmas take that fact as a hypothesis, and each system supplies it from its own election argument.

The vocabulary of the clauses is defined elsewhere: keys `(index, term)`, `Path`, `Holds`, `Anc` (ancestor in the tree `T` of
created entries, records `CEntry` = entry, term of its predecessor `pt`, creator `cr`), `PathClosed`, `PairOK`, `AOp`, `AF`,
`LeadOK`, `NStep`, `FStep`, `NoConf` in Lemmas/CommitRel.lean; `Story` in Lemmas/LogRel.lean; `Ack`, `Camp`, `Cmt` (committed by
a leader of a term `≤ u`), `Unsafe` / `UnsafeS` (an entry of a later term up to / below `u` does not extend `b`), `Other`,
`Backed`, `DurHolds`, `Ext` in Sys/Commit.lean.
-/
import RaftVerif.Sys.Commit

namespace Raft
namespace Commit
open Node Election LogRel Replication CommitRel

/-- node `i` (in state `s`) has a recorded campaign for its term whose coordinates its log still holds -/
def CampAt (y : Commit.Sys) (i : Nat) (s : Node) : Prop :=
  ∃ k ∈ y.camps, k.cand = i ∧ k.term = s.term ∧ k.lastIndex ≤ s.log.entries.length ∧
    (1 ≤ k.lastIndex → termAt s.log.entries k.lastIndex = k.lastTerm) ∧
    (s.role = .candidate → k.lastIndex = s.log.entries.length)

/-- what `NodeI` / `NodeM` say of node `j` (without the clause about the voters of its configuration) -/
structure NodeAt (y : Commit.Sys) (j : Nat) : Prop where
  lwf : C06.LogWF (y.node j).log
  termLe : ∀ e ∈ (y.node j).log.entries, e.term ≤ (y.node j).term
  /-- what is not flushed the node created itself -/
  unfl : ∀ k, (y.node j).log.flushed < k → k ≤ (y.node j).log.entries.length →
    ∃ c ∈ y.T, c.e.index = k ∧ c.e.term = termAt (y.node j).log.entries k ∧ c.cr = j
  camp : (y.node j).role ≠ .follower → CampAt y j (y.node j)
  /-- a leader's record: its own entries from `startIndex` on, every match index backed by an acknowledgement -/
  ldr : (y.node j).role = .leader → LeadOK (Backed y j) (y.node j)

/-- what `SentI` / `SentM` say of the request `q` (without "its sender is a voter") -/
structure SentAt (y : Commit.Sys) (q : AppendReq) : Prop where
  /-- the sender won the request's term and has not fallen behind it -/
  won : q.src ≠ 0 ∧ (q.src, q.term) ∈ y.rp.el.won ∧ q.term ≤ (y.node q.src).term ∧
    ((y.node q.src).role = .candidate → q.term < (y.node q.src).term)
  term : (∀ e ∈ q.entries, e.term ≤ q.term) ∧ q.prevLogTerm ≤ q.term
  /-- the entries and the previous entry lie on the path to ONE record of the request's term -/
  anc : ∃ c ∈ y.T, c.e.term = q.term ∧ (∀ e ∈ q.entries, Anc y.T (e.index, e.term) (key c)) ∧
    (1 ≤ q.prevLogIndex → Anc y.T (q.prevLogIndex, q.prevLogTerm) (key c))
  /-- what lies within `ldrCommitIndex` is committed by a leader of a term up to the request's -/
  cmt : (∀ e ∈ q.entries, e.index ≤ q.ldrCommitIndex → Cmt y (e.index, e.term) q.term) ∧
    (1 ≤ q.prevLogIndex → q.prevLogIndex ≤ q.ldrCommitIndex → Cmt y (q.prevLogIndex, q.prevLogTerm) q.term)

/-- what `AckI` / `AckM` say of the acknowledgement `a` -/
structure AckAt (y : Commit.Sys) (a : Ack) : Prop where
  /-- the acknowledged key `(index, eterm)` is recorded in the tree; the voter has not fallen behind the term -/
  wf : 1 ≤ a.index ∧ a.term ≤ (y.node a.voter).term ∧ a.eterm ≤ a.term ∧ ∃ c ∈ y.T, key c = a.key
  /-- where it comes from: a request of that term whose last entry (or previous entry, if it carries none) it names, or
  the voter acknowledging an entry it created itself -/
  src : (∃ q ∈ y.rp.sent, q.term = a.term ∧ q.src ≠ a.voter ∧ a.index = q.prevLogIndex + q.entries.length ∧
      ((∃ e ∈ q.entries, e.index = a.index ∧ e.term = a.eterm) ∨ (q.entries = [] ∧ q.prevLogTerm = a.eterm))) ∨
    (a.eterm = a.term ∧ ∃ c ∈ y.T, key c = a.key ∧ c.cr = a.voter ∧ c.cr ≠ 0)
  /-- what it acknowledged in its term the voter holds durably, unless an entry of a later term up to the voter's does
  not extend it -/
  stable : ∀ b : Nat × Nat, b.2 = a.term → Anc y.T b a.key →
    DurHolds (y.node a.voter) b ∨ Unsafe y.T b (y.node a.voter).term

theorem SentAt.send {x : Commit.Sys} {q' : AppendReq} (h : SentAt x q') (q : AppendReq) :
    SentAt { x with rp := { x.rp with sent := q :: x.rp.sent } } q' := ⟨h.won, h.term, h.anc, h.cmt⟩

theorem ackI_iff {y : Commit.Sys} : AckI y ↔ ∀ a ∈ y.acks, AckAt y a :=
  ⟨fun h a ha => ⟨h.wf a ha, h.src a ha, h.stable a ha⟩,
   fun h => ⟨fun a ha => (h a ha).wf, fun a ha => (h a ha).src, fun a ha => (h a ha).stable⟩⟩

/-- the clauses of `VoteI` / `VoteM` about campaigns, votes and grants, over a list `A` of acknowledgements (all but
the clause about the votes a candidate counted, which is `UpToW` for the escape clause of each system) -/
structure VoteB (y : Commit.Sys) (A : List Ack) : Prop where
  campUniq : ∀ k ∈ y.camps, ∀ k' ∈ y.camps, k.cand = k'.cand → k.term = k'.term → k = k'
  campWf : ∀ k ∈ y.camps, k.cand ≠ 0 ∧ k.term ≤ (y.node k.cand).term ∧ k.lastTerm < k.term ∧
    ((k.lastIndex = 0 ∧ k.lastTerm = 0) ∨ ∃ c ∈ y.T, key c = k.last)
  voteCamp : ∀ v, (y.node v).votedFor ≠ 0 → (y.node v).votedFor ≠ v →
    ∃ k ∈ y.camps, k.cand = (y.node v).votedFor ∧ k.term = (y.node v).term
  voteInv : ∀ v, (y.node v).votedFor ≠ 0 → ∀ k ∈ y.camps, k.cand = (y.node v).votedFor →
    k.term = (y.node v).term → ∀ a ∈ A, a.voter = v → a.term < k.term →
    ∀ b : Nat × Nat, b.2 = a.term → Anc y.T b a.key → Anc y.T b k.last ∨ Unsafe y.T b k.term
  grantInv : ∀ g ∈ y.rp.el.grants, ∀ k ∈ y.camps, k.cand = g.cand → k.term = g.term →
    ∀ a ∈ A, a.voter = g.voter → a.term < k.term →
    ∀ b : Nat × Nat, b.2 = a.term → Anc y.T b a.key → Anc y.T b k.last ∨ Unsafe y.T b k.term
  countedGrant : ∀ e ∈ y.rp.el.counted,
    ({ voter := e.2.2, term := e.2.1, cand := e.1 } : C01.Grant) ∈ y.rp.el.grants
  grantCamp : ∀ g ∈ y.rp.el.grants, ∃ k ∈ y.camps, k.cand = g.cand ∧ k.term = g.term

/-- **the up-to-date check for the votes a candidate counted**, with the escape clause as a parameter: what voter `v`
acknowledged in a term before the campaign `k` is extended by the log the candidate campaigned with, unless `W`.
`Commit.UpTo` is `UpToW W₁`, `MemberInv.UpToM` is `UpToW W₂`. -/
def UpToW (W : List CEntry → Nat × Nat → Camp → Prop) (T : List CEntry) (A : List Ack) (k : Camp) (v : Nat) : Prop :=
  ∀ a ∈ A, a.voter = v → a.term < k.term → ∀ b : Nat × Nat, b.2 = a.term → Anc T b a.key → Anc T b k.last ∨ W T b k

/-- an entry of a term in between does not extend `b`, or somebody else created an entry of the campaign's term -/
def W₁ (T : List CEntry) (b : Nat × Nat) (k : Camp) : Prop := UnsafeS T b k.term ∨ Other T k.cand k.term

/-- an entry of a term in between, or of the campaign's term and created by somebody else, does not extend `b` -/
def W₂ (T : List CEntry) (b : Nat × Nat) (k : Camp) : Prop :=
  ∃ c ∈ T, b.2 < c.e.term ∧ ¬ Anc T b (key c) ∧ (c.e.term < k.term ∨ (c.e.term = k.term ∧ c.cr ≠ 0 ∧ c.cr ≠ k.cand))

/-- the log invariant of the replication system, for whatever notion of "elected" the system has -/
abbrev LogCore (x : Replication.Sys) : Prop := C04Sys.LogInv (fun _ _ => True) x

theorem logCore {El : Nat → Nat → Prop} {x : Replication.Sys} (h : C04Sys.LogInv El x) : LogCore x :=
  ⟨h.nodes, h.uniq, h.sent, h.init0, fun c hc h0 => ⟨trivial, (h.own c hc h0).2⟩⟩

/-- the cluster invariant without its quorum clauses, over the acknowledgements `A` (head of the file) -/
structure CoreI (x : Commit.Sys) (A : List Ack) : Prop where
  /-- the invariant of the replication system (Props/C04Sys.lean): every log is a root path of the tree, one record per key -/
  log : LogCore x.rp
  /-- the ledgers of the election system (Props/C01Sys.lean): ids, honoured and unique grants, recorded leaders -/
  el : C01Sys.VoteInv x.rp.el
  candTerm : ∀ i, (x.node i).role = .candidate → (x.node i).term ≠ 0
  /-- every record lies on a root path: the tree is closed under predecessors -/
  pathc : PathClosed x.T
  /-- terms do not decrease along a path -/
  tmono : ∀ c ∈ x.T, c.pt ≤ c.e.term
  /-- the entries of one term lie on one path -/
  tblock : ∀ c ∈ x.T, ∀ d ∈ x.T, c.e.term = d.e.term → c.e.index ≤ d.e.index → Anc x.T (key c) (key d)
  /-- while its creator is leader of its term the entry is in the creator's log -/
  ownLog : ∀ c ∈ x.T, c.cr ≠ 0 → (x.node c.cr).role = .leader → (x.node c.cr).term = c.e.term →
    Holds (x.node c.cr).log.entries c.e.index c.e.term
  node : ∀ j, NodeAt x j
  sent : ∀ q ∈ x.rp.sent, SentAt x q
  ack : ∀ a ∈ A, AckAt x a
  vote : VoteB x A
  /-- every node's commit index covers only committed entries -/
  cc : ∀ i k, 1 ≤ k → k ≤ (x.node i).commitIndex → k ≤ (x.node i).log.entries.length ∧
    Cmt x (k, termAt (x.node i).log.entries k) (x.node i).term

theorem core_of_cinv {V : List Nat} {x : Commit.Sys} (hI : CInv V x) : CoreI x x.acks where
  log := logCore (C04Sys.logInv hI.rp)
  el := C01Sys.voteInv hI.rp.el
  candTerm := fun i hc => (hI.rp.el.cand i hc).term_pos
  pathc := hI.tree.ok.pathc
  tmono := hI.tree.ok.tmono
  tblock := hI.tree.ok.tblock
  ownLog := hI.tree.ownLog
  node := fun j => ⟨hI.node.lwf j, hI.node.termLe j, hI.node.unfl j, hI.node.camp j, hI.node.ldr j⟩
  sent := fun q hq =>
    ⟨let ⟨a, _, r⟩ := hI.sent.won q hq; ⟨a, r⟩, hI.sent.term q hq, hI.sent.anc q hq, hI.sent.cmt q hq⟩
  ack := ackI_iff.mp hI.ack
  vote := ⟨hI.vote.campUniq, hI.vote.campWf, hI.vote.voteCamp, hI.vote.voteInv, hI.vote.grantInv,
    hI.vote.countedGrant, hI.vote.grantCamp⟩
  cc := hI.cmt.cc

/-- **the two-state condition on the moving node behind the stability of acknowledgements**: what node `i` durably held
for one of its acknowledgements the new state `p` still holds durably, unless an entry of a term up to the term of `p`
does not extend it -/
def KeepsAcked (x : Commit.Sys) (A : List Ack) (i : Nat) (p : Node) : Prop :=
  ∀ a ∈ A, a.voter = i → ∀ b : Nat × Nat, b.2 = a.term → DurHolds (x.node i) b →
    DurHolds p b ∨ Unsafe x.T b p.term

/-- Node `i` of `x` is replaced by `p` and the tree, the campaigns and the log invariant of `y` are those of the
replacement: what a completed step (`StepC`) and a replacement in general (`CoreUpd`) share -/
structure ReplC (x y : Commit.Sys) (A : List Ack) (i : Nat) (op : Op) (p : Node) : Prop where
  core : CoreI x A
  ext : Ext x y i
  i0 : i ≠ 0
  node_i : y.node i = p
  upd : C04Member.UpdM x.rp i op p
  log' : LogCore y.rp
  /-- a campaign is recorded exactly when `p` voted for itself in a higher term -/
  camps : y.camps = campOf i (x.node i) p ++ x.camps
  /-- the records of the entries the node appended to its own log are added to the tree -/
  created : y.T = newCreated i (x.node i).log.entries p.log.entries op ++ x.T

/-- Node `i` of `x` is replaced by `p` — its state after handling `op`, or after dying in the handler and restarting —
and the ledgers of `y` grew accordingly; `A'` are the acknowledgements afterwards. The (term, vote) of `p` moved as
`PairOK` allows; the grants and counted votes that are new are those of a completed step (after a crash there is none);
the acknowledgements that are new are node `i`'s, of its old term or later — of the term of `p` if `p` holds a vote; no
request is added. -/
structure CoreUpd (x y : Commit.Sys) (A A' : List Ack) (i : Nat) (op : Op) (src : Nat) (p : Node) : Prop
    extends ReplC x y A i op p where
  keeps : KeepsAcked x A i p
  pair : PairOK (x.node i) (AOp (x.node i) op) p.term p.votedFor
  req : ∀ q, op = .vote q → q.term < (x.node i).term ∨
    (Camp.mk q.src q.term q.lastLogIndex q.lastLogTerm) ∈ x.camps
  acks : ∀ a ∈ A', a ∈ A ∨ (a.voter = i ∧ (x.node i).term ≤ a.term ∧ (p.votedFor ≠ 0 → p.term ≤ a.term))
  /-- a new grant is the vote `p` holds, and answers a recorded campaign -/
  grants : ∀ g ∈ y.rp.el.grants,
    (g.voter = i ∧ p.term = g.term ∧ p.votedFor = g.cand ∧ g.cand ≠ 0 ∧
      ∃ k ∈ y.camps, k.cand = g.cand ∧ k.term = g.term) ∨ g ∈ x.rp.el.grants
  counted : ∀ e ∈ y.rp.el.counted, (Counts (x.node i) op ∧ e = (i, (x.node i).term, src)) ∨ e ∈ x.rp.el.counted
  real : Counts (x.node i) op → RealReply x.rp.el i src
  sent : y.rp.sent = x.rp.sent

theorem op_cases (op : Op) : (∀ q, op ≠ .append q) ∨ ∃ q, op = .append q := by
  by_cases happ : ∀ q, op ≠ .append q
  · exact Or.inl happ
  · exact Or.inr (Classical.byContradiction (fun hn => happ (fun q hq => hn ⟨q, hq⟩)))

theorem ackOf_nonappend (i : Nat) (op : Op) (post : Node) (happ : ∀ q, op ≠ .append q) : ackOf i op post = [] := by
  cases op <;> first | rfl | exact absurd rfl (happ _)

theorem mem_campOf {i : Nat} {pre s : Node} {k : Camp} (hk : k ∈ campOf i pre s) :
    s.term > pre.term ∧ s.votedFor = i ∧ k = Camp.mk i s.term pre.lastLogIndex pre.lastLogTerm := by
  unfold campOf at hk
  split at hk
  · rename_i hc
    exact ⟨hc.1, hc.2, List.mem_singleton.mp hk⟩
  · cases hk

theorem campOf_self {i : Nat} {pre s : Node} (h : s.term > pre.term ∧ s.votedFor = i) :
    Camp.mk i s.term pre.lastLogIndex pre.lastLogTerm ∈ campOf i pre s := by
  unfold campOf
  rw [if_pos h]
  exact List.mem_singleton.mpr rfl

protected theorem anc_reflect {x y : Commit.Sys} {i : Nat} (hE : Ext x y i) {b : Nat × Nat} {c : CEntry} (hc : c ∈ x.T)
    (h : Anc y.T b (key c)) : Anc x.T b (key c) :=
  Classical.byContradiction (fun hn => hE.not_anc hc hn h)

theorem anc_old {x y : Commit.Sys} {i : Nat} (hE : Ext x y i) {a : Ack} (hw : ∃ c ∈ x.T, key c = a.key)
    {b : Nat × Nat} (h : Anc y.T b a.key) : Anc x.T b a.key := by
  obtain ⟨c, hc, hk⟩ := hw
  rw [← hk] at h ⊢
  exact Commit.anc_reflect hE hc h

protected theorem holds_last {s : Node} (hn : NWF s) (h : 1 ≤ s.log.entries.length) :
    Holds s.log.entries s.log.entries.length s.lastLogTerm :=
  ⟨h, Nat.le_refl _, by rw [termAt_length, hn.lastT]⟩

protected theorem holds_of_mem {es : List Entry} (hc : Contig es) {e : Entry} (h : e ∈ es) : Holds es e.index e.term := by
  obtain ⟨k, hk, rfl⟩ := List.getElem_of_mem h
  have := holds_of_lt k hk
  rw [hc k hk]
  exact this

section path
variable {El : Nat → Nat → Prop} {y : Commit.Sys}

theorem node_path (h : C04Sys.LogInv El y.rp) (i : Nat) : Path y.T (y.node i).log.entries :=
  ⟨(h.nodes i).2, (h.nodes i).1.contig⟩

theorem node_anc (h : C04Sys.LogInv El y.rp) (i : Nat) {a c : Nat × Nat}
    (ha : Holds (y.node i).log.entries a.1 a.2) (hc : Holds (y.node i).log.entries c.1 c.2) (hle : a.1 ≤ c.1) :
    Anc y.T a c := anc_of_path (node_path h i) ha hc hle

theorem node_holds (h : C04Sys.LogInv El y.rp) (i : Nat) {a c : Nat × Nat} (ha : Anc y.T a c)
    (hc : Holds (y.node i).log.entries c.1 c.2) : Holds (y.node i).log.entries a.1 a.2 :=
  ha.on_path h.uniq (node_path h i) hc

theorem node_record (h : C04Sys.LogInv El y.rp) (i : Nat) {k τ : Nat} (hh : Holds (y.node i).log.entries k τ) :
    ∃ c ∈ y.T, key c = (k, τ) := by
  obtain ⟨c, hc, h1, h2, _⟩ := path_record (node_path h i) hh
  exact ⟨c, hc, key_eq.mpr ⟨h1, h2⟩⟩

end path

namespace CoreI
variable {x : Commit.Sys} {A : List Ack}

theorem nwf (hC : CoreI x A) (i : Nat) : NWF (x.node i) := (hC.log.nodes i).1

theorem path (hC : CoreI x A) (i : Nat) : Path x.T (x.node i).log.entries := node_path hC.log i

theorem uniq (hC : CoreI x A) : Uniq x.T := hC.log.uniq

theorem record (hC : CoreI x A) (i : Nat) {k τ : Nat} (h : Holds (x.node i).log.entries k τ) :
    ∃ c ∈ x.T, key c = (k, τ) := node_record hC.log i h

theorem anc (hC : CoreI x A) (i : Nat) {a c : Nat × Nat} (ha : Holds (x.node i).log.entries a.1 a.2)
    (hc : Holds (x.node i).log.entries c.1 c.2) (h : a.1 ≤ c.1) : Anc x.T a c := node_anc hC.log i ha hc h

theorem holds_anc (hC : CoreI x A) (i : Nat) {a c : Nat × Nat} (h : Anc x.T a c)
    (hc : Holds (x.node i).log.entries c.1 c.2) : Holds (x.node i).log.entries a.1 a.2 := node_holds hC.log i h hc

theorem anc_last (hC : CoreI x A) (i : Nat) {b : Nat × Nat} (hh : Holds (x.node i).log.entries b.1 b.2) :
    Anc x.T b ((x.node i).lastLogIndex, (x.node i).lastLogTerm) := by
  have hlen : 1 ≤ (x.node i).log.entries.length := by have := hh.1; have := hh.2.1; omega
  rw [(hC.nwf i).last]
  exact hC.anc i hh (Commit.holds_last (hC.nwf i) hlen) hh.2.1

theorem key_inj (hC : CoreI x A) {c d : CEntry} (hc : c ∈ x.T) (hd : d ∈ x.T) (h : key c = key d) : c = d := by
  unfold key at h
  simp only [Prod.mk.injEq] at h
  exact hC.uniq c hc d hd h.1 h.2

theorem cr_ne_zero (hC : CoreI x A) {i : Nat} (hl : (x.node i).role ≠ .follower)
    {c : CEntry} (hc : c ∈ x.T) (ht : c.e.term = (x.node i).term) : c.cr ≠ 0 := by
  intro h0
  have h : c.e.term < (x.node i).term := (hC.log.init0 c hc h0 i).2 hl
  omega

theorem lastLogTerm_le (hC : CoreI x A) (i : Nat) : (x.node i).lastLogTerm ≤ (x.node i).term := by
  rw [(hC.nwf i).lastT]
  unfold lastTerm
  cases hl : (x.node i).log.entries.getLast? with
  | none => exact Nat.zero_le _
  | some z => exact (hC.node i).termLe z (List.mem_of_getLast? hl)

theorem grant_term (hC : CoreI x A) {g : C01.Grant} (hg : g ∈ x.rp.el.grants) : g.term ≤ (x.node g.voter).term := by
  obtain ⟨_, h2⟩ := hC.el.honoured g hg
  rcases h2 with h2 | ⟨h2, _⟩
  · exact Nat.le_of_lt h2
  · exact Nat.le_of_eq h2

theorem elector_term (hC : CoreI x A) {k : Camp} (hk : k ∈ x.camps) {v : Nat}
    (he : Elector x k.cand k.term v) : k.term ≤ (x.node v).term := by
  rcases he with e | e
  · rw [e]; exact (hC.vote.campWf k hk).2.1
  · exact hC.grant_term (hC.vote.countedGrant _ e)

/-- **the up-to-date check, on the tree** -/
theorem uptodate_anc (hC : CoreI x A) {i : Nat} {b : Nat × Nat}
    (hh : Holds (x.node i).log.entries b.1 b.2) {k : Camp} (hk : k ∈ x.camps)
    (hup : ¬ ((x.node i).lastLogTerm > k.lastTerm ∨
      ((x.node i).lastLogTerm = k.lastTerm ∧ (x.node i).lastLogIndex > k.lastIndex))) :
    Anc x.T b k.last ∨ Unsafe x.T b k.term := by
  have hn := hC.nwf i
  have hlen : 1 ≤ (x.node i).log.entries.length := by have := hh.1; have := hh.2.1; omega
  have hv := Commit.holds_last hn hlen
  have hbv : Anc x.T b ((x.node i).log.entries.length, (x.node i).lastLogTerm) :=
    anc_of_path (hC.path i) hh hv hh.2.1
  have hle : b.2 ≤ (x.node i).lastLogTerm := hbv.term_le hC.tmono
  obtain ⟨_, _, w3, w4⟩ := hC.vote.campWf k hk
  rw [hn.last] at hup
  have hrec : ∃ ck ∈ x.T, key ck = k.last := by
    rcases w4 with ⟨z1, z2⟩ | r
    · exfalso
      apply hup
      by_cases h0 : (x.node i).lastLogTerm = 0
      · right; rw [z1, z2]; exact ⟨h0, by omega⟩
      · left; rw [z2]; omega
    · exact r
  obtain ⟨ck, hck, hckk⟩ := hrec
  have hk1 : ck.e.index = k.lastIndex ∧ ck.e.term = k.lastTerm := key_eq.mp hckk
  by_cases heq : (x.node i).lastLogTerm = k.lastTerm
  · left
    have hidx : (x.node i).log.entries.length ≤ k.lastIndex := by
      apply Nat.le_of_not_lt; intro hlt; exact hup (Or.inr ⟨heq, hlt⟩)
    obtain ⟨cv, hcv, e1, e2, _⟩ := path_record (hC.path i) hv
    have := hC.tblock cv hcv ck hck (by rw [e2, hk1.2]; exact heq) (by rw [e1, hk1.1]; exact hidx)
    rw [hckk, show key cv = ((x.node i).log.entries.length, (x.node i).lastLogTerm) from key_eq.mpr ⟨e1, e2⟩] at this
    exact hbv.trans hC.uniq this
  · have hgt : (x.node i).lastLogTerm < k.lastTerm := by
      apply Nat.lt_of_le_of_ne
      · apply Nat.le_of_not_lt; intro hlt; exact hup (Or.inl hlt)
      · exact heq
    by_cases hanc : Anc x.T b k.last
    · exact Or.inl hanc
    · exact Or.inr ⟨ck, hck, by rw [hk1.2]; omega, by rw [hk1.2]; omega, by rw [hckk]; exact hanc⟩

/-- **a conflicting request exposes the acknowledged entry**: if a request that is not stale for the
voter carries an entry at or below `b` that differs from what the voter's log (which holds `b`) has there, then an
entry of the request's term does not extend `b` — and that term is above `b`'s. -/
theorem conflict_unsafe (hC : CoreI x A) {v : Nat} {a : Ack} (ha : a ∈ A)
    (hv : a.voter = v) {b : Nat × Nat} (hb : b.2 = a.term) (hh : Holds (x.node v).log.entries b.1 b.2)
    {q : AppendReq} (hq : q ∈ x.rp.sent) (hns : ¬ q.term < (x.node v).term) {e : Entry} (he : e ∈ q.entries)
    (hle : e.index ≤ b.1) (hne : termAt (x.node v).log.entries e.index ≠ e.term) :
    Unsafe x.T b q.term := by
  obtain ⟨c, hc, c1, c2, _⟩ := (hC.sent q hq).anc
  have hec := c2 e he
  have hat : a.term ≤ (x.node v).term := by rw [← hv]; exact (hC.ack a ha).wf.2.1
  have no1 : ¬ Anc x.T b (key c) := by
    intro hbc
    have := hC.holds_anc v (hec.comparable hC.uniq hbc hle) hh
    exact hne this.2.2
  by_cases hlt : b.2 < q.term
  · exact ⟨c, hc, by rw [c1]; exact hlt, by rw [c1]; exact Nat.le_refl _, no1⟩
  · exfalso
    have hbt : b.2 = c.e.term := by rw [c1]; omega
    obtain ⟨cb, hcb, hcbk⟩ := hC.record v hh
    have e1 : cb.e.term = c.e.term := by
      rw [(key_eq.mp hcbk).2, hbt]
    have e2 : cb.e.index = b.1 := (key_eq.mp hcbk).1
    by_cases hidx : cb.e.index ≤ c.e.index
    · have := hC.tblock cb hcb c hc e1 hidx
      rw [hcbk] at this
      exact no1 this
    · have := hC.tblock c hc cb hcb e1.symm (by omega)
      rw [hcbk] at this
      have h2 := hC.holds_anc v (hec.trans hC.uniq this) hh
      exact hne h2.2.2

/-- **from a grant to the form for counted votes, for a node that is still candidate of the term**: an entry of the
campaign's term that does not extend `b` was created by somebody else (`wle`: what the escape clause `W` asks for) -/
theorem upToW_of_grant (hC : CoreI x A) {W : List CEntry → Nat × Nat → Camp → Prop}
    (wle : ∀ (b : Nat × Nat) (k : Camp), ∀ c ∈ x.T, b.2 < c.e.term → c.e.term ≤ k.term → ¬ Anc x.T b (key c) →
      (c.e.term = k.term → c.cr ≠ 0 ∧ c.cr ≠ k.cand) → W x.T b k) {i : Nat}
    (hc : (x.node i).role = .candidate) {k : Camp} (hk : k ∈ x.camps) (hki : k.cand = i)
    (hkt : k.term = (x.node i).term) {v : Nat}
    (hg : ({ voter := v, term := (x.node i).term, cand := i } : C01.Grant) ∈ x.rp.el.grants) :
    UpToW W x.T A k v := by
  intro a ha hv hlt b hb hanc
  rcases hC.vote.grantInv _ hg k hk hki hkt a ha hv hlt b hb hanc with r | ⟨c, hcT, c1, c2, c3⟩
  · exact Or.inl r
  · refine Or.inr (wle b k c hcT c1 c2 c3 fun hct' => ?_)
    have hct : c.e.term = (x.node i).term := hct'.trans hkt
    have h0 := hC.cr_ne_zero (i := i) (by rw [hc]; decide) hcT hct
    refine ⟨h0, ?_⟩
    rw [hki]
    intro hci
    have o5 := (hC.log.own c hcT h0).2.2.2
    rw [hci] at o5
    have : c.e.term < (x.node i).term := o5 hc
    omega

/-! the leader of a term and the entries of that term: who created them is the election argument of each system
(`LdrCreates`); the rest follows from the core -/

/-- entries of the term of a current leader were created by that leader -/
def _root_.Raft.Commit.LdrCreates (x : Commit.Sys) : Prop :=
  ∀ i, (x.node i).role = .leader → ∀ c ∈ x.T, c.e.term = (x.node i).term → c.cr = i

theorem leader_holds_own (hC : CoreI x A) (hL : LdrCreates x) {i : Nat} (hl : (x.node i).role = .leader)
    {c : CEntry} (hc : c ∈ x.T) (ht : c.e.term = (x.node i).term) :
    Holds (x.node i).log.entries c.e.index c.e.term := by
  have := hC.ownLog c hc (hC.cr_ne_zero (by rw [hl]; decide) hc ht)
  rw [hL i hl c hc ht] at this
  exact this hl ht.symm

/-- a leader holds every committed key `m` of a term not above its own: of a smaller term because its last entry, which
carries its term (`hz`), extends `m` by leader completeness (`hlc`, the quorum argument of each system); of its own term
because it created the record -/
theorem leader_holds_committed (hC : CoreI x A) (hL : LdrCreates x) {i : Nat} (hl : (x.node i).role = .leader)
    (hz : Holds (x.node i).log.entries (x.node i).log.entries.length (x.node i).term) {m : Nat × Nat} {c : CEntry}
    (hc : c ∈ x.T) (hck : key c = m) (hlc : ∀ z ∈ x.T, m.2 < z.e.term → Anc x.T m (key z))
    (hle : m.2 ≤ (x.node i).term) : Holds (x.node i).log.entries m.1 m.2 := by
  subst hck
  rcases Nat.lt_or_ge c.e.term (x.node i).term with h | h
  · obtain ⟨z, hzT, hzk⟩ := hC.record i hz
    have := hlc z hzT (by rw [(key_eq.mp hzk).2]; exact h)
    rw [hzk] at this
    exact hC.holds_anc i this hz
  · exact hC.leader_holds_own hL hl hc (Nat.le_antisymm hle h)

theorem leader_holds_sent (hC : CoreI x A) (hL : LdrCreates x) {i : Nat} (hl : (x.node i).role = .leader)
    {q : AppendReq} (hq : q ∈ x.rp.sent) (ht : q.term = (x.node i).term) :
    (∀ e ∈ q.entries, Holds (x.node i).log.entries e.index e.term) ∧
    (1 ≤ q.prevLogIndex → Holds (x.node i).log.entries q.prevLogIndex q.prevLogTerm) := by
  obtain ⟨c, hc, hct, he, hp⟩ := (hC.sent q hq).anc
  have hh := hC.leader_holds_own hL hl hc (hct.trans ht)
  exact ⟨fun e hem => hC.holds_anc i (he e hem) hh, fun h1 => hC.holds_anc i (hp h1) hh⟩

theorem ack_on_leader (hC : CoreI x A) (hL : LdrCreates x) {i : Nat} (hl : (x.node i).role = .leader)
    {a : Ack} (ha : a ∈ A) (ht : a.term = (x.node i).term) :
    Holds (x.node i).log.entries a.index a.eterm := by
  rcases (hC.ack a ha).src with ⟨q, hq, h1, _, h3, h4⟩ | ⟨he, c, hc, hk, _, _⟩
  · obtain ⟨he, hp⟩ := hC.leader_holds_sent hL hl hq (h1.trans ht)
    rcases h4 with ⟨e, hem, e1, e2⟩ | ⟨hnil, e2⟩
    · rw [← e1, ← e2]; exact he e hem
    · have h1' := (hC.ack a ha).wf.1
      rw [hnil, List.length_nil, Nat.add_zero] at h3
      rw [h3, ← e2]; exact hp (by omega)
  · unfold key Ack.key at hk
    simp only [Prod.mk.injEq] at hk
    have hct : c.e.term = (x.node i).term := by rw [hk.2, he]; exact ht
    have := hC.leader_holds_own hL hl hc hct
    rw [hk.1, hk.2] at this
    exact this

theorem backed_le (hC : CoreI x A) (hL : LdrCreates x) (hA : ∀ a ∈ x.acks, a ∈ A) {i : Nat}
    (hl : (x.node i).role = .leader) : ∀ j m, Backed x i j m → m ≤ (x.node i).log.entries.length := by
  rintro j m ⟨a, ha, _, h2, h3⟩
  have := (hC.ack_on_leader hL hl (hA a ha) h2).2.1
  omega

/-- a key `(k, t)` below a committed entry of a term the node `i` has reached, and a key `(k, τ)` on the path to an entry
`c` of a term not below the node's, are the same key: the committed entry and `c` lie on one path. `hlc`: leader
completeness (every entry of a later term extends a committed key, which is a record of the tree), from the quorum
argument of each system -/
theorem key_of_cmt (hC : CoreI x A)
    (hlc : ∀ m ∈ x.committed, (∃ cm ∈ x.T, key cm = m) ∧ ∀ c ∈ x.T, m.2 < c.e.term → Anc x.T m (key c))
    {i : Nat} {q : AppendReq} (hns : ¬ q.term < (x.node i).term) {c : CEntry} (hc : c ∈ x.T) (c1 : c.e.term = q.term)
    {k τ t : Nat} (hec : Anc x.T (k, τ) (key c)) (hcm : Cmt x (k, t) (x.node i).term) : t = τ := by
  obtain ⟨m, hm, m1, m2⟩ := hcm
  -- `m` and `c` lie on one path, so the two keys with index `k` below them coincide
  have fin : ∀ z : Nat × Nat, Anc x.T (k, t) z → Anc x.T (k, τ) z → t = τ := by
    intro z h1 h2
    have := (h1.comparable hC.uniq h2 (Nat.le_refl _)).eq_of_index rfl
    exact congrArg Prod.snd this
  by_cases hlt : m.2 < q.term
  · have hmc := (hlc m hm).2 c hc (by rw [c1]; exact hlt)
    exact fin (key c) (m2.trans hC.uniq hmc) hec
  · have hmt : m.2 = c.e.term := by rw [c1]; omega
    obtain ⟨cm, hcm, hcmk⟩ := (hlc m hm).1
    have e1 : cm.e.term = c.e.term := by
      have : cm.e.term = m.2 := by unfold key at hcmk; rw [← hcmk]
      rw [this, hmt]
    by_cases hidx' : cm.e.index ≤ c.e.index
    · have := hC.tblock cm hcm c hc e1 hidx'
      rw [hcmk] at this
      exact fin (key c) (m2.trans hC.uniq this) hec
    · have := hC.tblock c hc cm hcm e1.symm (by omega)
      rw [hcmk] at this
      exact fin m m2 (hec.trans hC.uniq this)

/-- … in particular at an index the node's commit index covers: the key the node's log holds there -/
theorem reqok_key (hC : CoreI x A)
    (hlc : ∀ m ∈ x.committed, (∃ cm ∈ x.T, key cm = m) ∧ ∀ c ∈ x.T, m.2 < c.e.term → Anc x.T m (key c))
    {i : Nat} {q : AppendReq} (hns : ¬ q.term < (x.node i).term) {c : CEntry} (hc : c ∈ x.T) (c1 : c.e.term = q.term)
    {k τ : Nat} (hec : Anc x.T (k, τ) (key c)) (h1 : 1 ≤ k) (hle : k ≤ (x.node i).commitIndex) :
    termAt (x.node i).log.entries k = τ :=
  hC.key_of_cmt hlc hns hc c1 hec (hC.cc i k h1 hle).2

/-- **a request that is not stale does not conflict with the log up to a key the node holds below a committed entry of a
term it has reached** -/
theorem noConf_of_cmt (hC : CoreI x A)
    (hlc : ∀ m ∈ x.committed, (∃ cm ∈ x.T, key cm = m) ∧ ∀ c ∈ x.T, m.2 < c.e.term → Anc x.T m (key c))
    {i : Nat} {q : AppendReq} (hq : q ∈ x.rp.sent) (hns : ¬ q.term < (x.node i).term) {b : Nat × Nat}
    (hh : Holds (x.node i).log.entries b.1 b.2) (hcm : Cmt x b (x.node i).term) : NoConf (x.node i) q b.1 := by
  intro e he hle
  have h1 : 1 ≤ e.index := by
    obtain ⟨j, hj, rfl⟩ := List.getElem_of_mem he
    rw [(hC.log.sent q hq).idx j hj]; omega
  obtain ⟨c, hc, c1, c2, _⟩ := (hC.sent q hq).anc
  obtain ⟨m, hm, m1, m2⟩ := hcm
  have hbelow : Anc x.T (e.index, termAt (x.node i).log.entries e.index) b :=
    hC.anc i ⟨h1, by have := hh.2.1; omega, rfl⟩ hh hle
  exact hC.key_of_cmt hlc hns hc c1 (c2 e he) ⟨m, hm, m1, hbelow.trans hC.uniq m2⟩

/-- **a request that is not stale does not conflict with what the receiver has committed** (`reqok_key` for the entries
of the request) -/
theorem reqok (hC : CoreI x A)
    (hlc : ∀ m ∈ x.committed, (∃ cm ∈ x.T, key cm = m) ∧ ∀ c ∈ x.T, m.2 < c.e.term → Anc x.T m (key c))
    {i : Nat} {q : AppendReq} (hq : q ∈ x.rp.sent)
    (hns : ¬ q.term < (x.node i).term) : NoConf (x.node i) q (x.node i).commitIndex := by
  intro e he hle
  have h1 : 1 ≤ e.index := by
    obtain ⟨j, hj, rfl⟩ := List.getElem_of_mem he
    rw [(hC.log.sent q hq).idx j hj]; omega
  obtain ⟨c, hc, c1, c2, _⟩ := (hC.sent q hq).anc
  exact hC.reqok_key hlc hns hc c1 (c2 e he) h1 hle

/-- **a request a leader reads from its log** (`Commit.Trans.send`) has what `SentAt` asks of a request on the wire -/
theorem sentAt_send (hC : CoreI x A) {i : Nat} {q : AppendReq} (hi : i ≠ 0) (hl : (x.node i).role = .leader)
    (hr : ReadFrom (x.node i) q) (hc : q.ldrCommitIndex ≤ (x.node i).commitIndex) : SentAt x q := by
  have hn := hC.nwf i
  have lo := (hC.node i).ldr hl
  have hlen : 1 ≤ (x.node i).log.entries.length := Nat.le_trans lo.start lo.startLe
  have hz : Holds (x.node i).log.entries (x.node i).log.entries.length (x.node i).term :=
    ⟨hlen, Nat.le_refl _, lo.own _ lo.startLe (Nat.le_refl _)⟩
  obtain ⟨n', hq'⟩ := hr.entries
  have hmem : ∀ e ∈ q.entries, Holds (x.node i).log.entries e.index e.term := by
    intro e he
    rw [hq'] at he
    exact Commit.holds_of_mem hn.contig (List.mem_of_mem_drop (List.mem_of_mem_take he))
  have hprev : 1 ≤ q.prevLogIndex → Holds (x.node i).log.entries q.prevLogIndex q.prevLogTerm :=
    fun h1 => ⟨h1, hr.prev, hr.prevTerm.symm⟩
  refine ⟨?_, ⟨fun e he => ?_, ?_⟩, ?_, fun e he hle => ?_, fun h1 h2 => ?_⟩
  · rw [hr.src, (hC.el.ids i).1, hr.term]
    exact ⟨hi, hC.el.recorded i hl, Nat.le_refl _,
      fun hcd => by
        have hcd' : (x.node i).role = .candidate := hcd
        rw [hl] at hcd'; cases hcd'⟩
  · rw [hr.term]
    obtain ⟨z, hz1, hz2⟩ := holds_get (hmem e he)
    rw [← hz2]; exact (hC.node i).termLe z (List.mem_of_getElem? hz1)
  · rw [hr.term, hr.prevTerm]
    unfold termAt
    split
    · exact Nat.zero_le _
    · cases hg : (x.node i).log.entries[q.prevLogIndex - 1]? with
      | none => exact Nat.zero_le _
      | some z => exact (hC.node i).termLe z (List.mem_of_getElem? hg)
  · obtain ⟨c, hcT, hck⟩ := hC.record i hz
    refine ⟨c, hcT, (congrArg Prod.snd hck).trans hr.term.symm, fun e he => ?_, fun h1 => ?_⟩
    · rw [hck]; exact hC.anc i (hmem e he) hz (hmem e he).2.1
    · rw [hck]; exact hC.anc i (hprev h1) hz hr.prev
  · have hh := hmem e he
    obtain ⟨_, c2⟩ := hC.cc i e.index hh.1 (Nat.le_trans hle hc)
    rw [hh.2.2, ← hr.term] at c2
    exact c2
  · have hh := hprev h1
    obtain ⟨_, c2⟩ := hC.cc i q.prevLogIndex h1 (Nat.le_trans h2 hc)
    rw [hh.2.2, ← hr.term] at c2
    exact c2

end CoreI

theorem w₁_mono {x y : Commit.Sys} {i : Nat} (hE : Ext x y i) (b : Nat × Nat) (k : Camp) (h : W₁ x.T b k) : W₁ y.T b k :=
  h.imp hE.unsafeS hE.other_cr

theorem w₂_mono {x y : Commit.Sys} {i : Nat} (hE : Ext x y i) (b : Nat × Nat) (k : Camp) (h : W₂ x.T b k) : W₂ y.T b k :=
  let ⟨c, hc, c1, c2, c3⟩ := h
  ⟨c, hE.T c hc, c1, hE.not_anc hc c2, c3⟩

theorem w₁_strict {T : List CEntry} (b : Nat × Nat) (k : Camp) (h : UnsafeS T b k.term) : W₁ T b k := Or.inl h

theorem w₂_strict {T : List CEntry} (b : Nat × Nat) (k : Camp) (h : UnsafeS T b k.term) : W₂ T b k :=
  let ⟨c, hc, c1, c2, c3⟩ := h
  ⟨c, hc, c1, c3, Or.inl c2⟩

theorem w₁_le {T : List CEntry} (b : Nat × Nat) (k : Camp) (c : CEntry) (hc : c ∈ T) (c1 : b.2 < c.e.term)
    (c2 : c.e.term ≤ k.term) (c3 : ¬ Anc T b (key c)) (hcr : c.e.term = k.term → c.cr ≠ 0 ∧ c.cr ≠ k.cand) :
    W₁ T b k := by
  by_cases hlt : c.e.term < k.term
  · exact Or.inl ⟨c, hc, c1, hlt, c3⟩
  · have e : c.e.term = k.term := by omega
    exact Or.inr ⟨c, hc, e, hcr e⟩

theorem w₂_le {T : List CEntry} (b : Nat × Nat) (k : Camp) (c : CEntry) (hc : c ∈ T) (c1 : b.2 < c.e.term)
    (c2 : c.e.term ≤ k.term) (c3 : ¬ Anc T b (key c)) (hcr : c.e.term = k.term → c.cr ≠ 0 ∧ c.cr ≠ k.cand) :
    W₂ T b k := by
  refine ⟨c, hc, c1, c3, ?_⟩
  by_cases hlt : c.e.term < k.term
  · exact Or.inl hlt
  · have e : c.e.term = k.term := by omega
    exact Or.inr ⟨e, hcr e⟩

/-- `UpToW` survives a transition in which the new acknowledgements of the voter are made in a term at or above the
campaign's -/
theorem upToW_mono {W : List CEntry → Nat × Nat → Camp → Prop} {x y : Commit.Sys} {i : Nat} (hE : Ext x y i)
    (wmono : ∀ b k, W x.T b k → W y.T b k) {A A' : List Ack} {k : Camp} {v : Nat}
    (hwf : ∀ a ∈ A, ∃ c ∈ x.T, key c = a.key)
    (hacks : ∀ a ∈ A', a ∈ A ∨ (a.voter = v → k.term ≤ a.term)) (h : UpToW W x.T A k v) : UpToW W y.T A' k v := by
  intro a ha hv hlt b hb hanc
  rcases hacks a ha with hx | hn
  · exact (h a hx hv hlt b hb (anc_old hE (hwf a hx) hanc)).imp hE.anc (wmono b k)
  · have := hn hv; omega

namespace CoreUpd
variable {x y : Commit.Sys} {A A' : List Ack} {i : Nat} {op : Op} {src : Nat} {p : Node}

theorem camp_cases (h : CoreUpd x y A A' i op src p) {k : Camp} (hk : k ∈ y.camps) :
    k ∈ campOf i (x.node i) p ∨ k ∈ x.camps := by
  rw [h.camps] at hk; exact List.mem_append.mp hk

theorem campUniq (h : CoreUpd x y A A' i op src p) : ∀ k ∈ y.camps,
    ∀ k' ∈ y.camps, k.cand = k'.cand → k.term = k'.term → k = k' := by
  intro k hk k' hk' hc ht
  have key : ∀ kn ∈ campOf i (x.node i) p, ∀ ko ∈ x.camps, kn.cand = ko.cand → kn.term = ko.term → False := by
    intro kn hkn ko hko e1 e2
    obtain ⟨n1, _, n3⟩ := mem_campOf hkn
    have := (h.core.vote.campWf ko hko).2.1
    rw [← e1, ← e2, n3] at this
    have t : (x.node i).term < p.term := n1
    have this' : p.term ≤ (x.node i).term := this
    omega
  rcases h.camp_cases hk with hn | ho <;> rcases h.camp_cases hk' with hn' | ho'
  · rw [(mem_campOf hn).2.2, (mem_campOf hn').2.2]
  · exact (key k hn k' ho' hc ht).elim
  · exact (key k' hn' k ho hc.symm ht.symm).elim
  · exact h.core.vote.campUniq k ho k' ho' hc ht

/-- **the up-to-date check for the vote the node holds afterwards** -/
theorem vote_core (h : CoreUpd x y A A' i op src p) (hv0 : p.votedFor ≠ 0)
    {k : Camp} (hk : k ∈ y.camps) (hkc : k.cand = p.votedFor) (hkt : k.term = p.term)
    {a : Ack} (ha : a ∈ A') (hav : a.voter = i) (hlt : a.term < k.term)
    {b : Nat × Nat} (hb : b.2 = a.term) (hanc : Anc y.T b a.key) :
    Anc y.T b k.last ∨ Unsafe y.T b k.term := by
  have hC := h.core
  have hE := h.ext
  have hao : a ∈ A := by
    rcases h.acks a ha with ho | ⟨_, _, hn⟩
    · exact ho
    · have := hn hv0; omega
  have hanc' := anc_old hE ((hC.ack a hao).wf.2.2.2) hanc
  have hst := (hC.ack a hao).stable b hb hanc'
  rw [hav] at hst
  rcases h.pair.2 with p0 | ⟨p1, p2⟩ | ⟨q, rfl, p1, p2, p3, p4⟩ | ⟨p1, p2⟩
  · exact absurd p0 hv0
  · -- the vote the node held before
    have hko : k ∈ x.camps := by
      rcases h.camp_cases hk with hn | ho
      · have := (mem_campOf hn).1; omega
      · exact ho
    have hv0' : (x.node i).votedFor ≠ 0 := by rw [← p2]; exact hv0
    rcases hC.vote.voteInv i hv0' k hko (hkc.trans p2) (hkt.trans p1) a hao hav hlt b hb hanc' with r | r
    · exact Or.inl (hE.anc r)
    · exact Or.inr (hE.unsafeU (Nat.le_refl _) r)
  · -- a vote granted in this step: the request is a recorded campaign
    have hk0 : (Camp.mk q.src q.term q.lastLogIndex q.lastLogTerm) ∈ x.camps := by
      rcases h.req q rfl with hs | hc
      · omega
      · exact hc
    have hkk : k = Camp.mk q.src q.term q.lastLogIndex q.lastLogTerm :=
      h.campUniq k hk _ (hE.camps _ hk0) (hkc.trans p2) (hkt.trans p1)
    rcases hst with ⟨_, hh⟩ | u
    · rcases hC.uptodate_anc hh hk0 p4 with r | r
      · left; rw [hkk]; exact hE.anc r
      · right; rw [hkk]; exact hE.unsafeU (Nat.le_refl _) r
    · right
      rw [hkt, p1]
      exact hE.unsafeU p3 u
  · -- the self vote of an election started in this step
    have hcond : p.term > (x.node i).term ∧ p.votedFor = i := ⟨p2, by rw [p1, (hC.el.ids i).1]⟩
    have hkn : (Camp.mk i p.term (x.node i).lastLogIndex (x.node i).lastLogTerm) ∈ y.camps := by
      rw [h.camps]; exact List.mem_append_left _ (campOf_self hcond)
    have hkk := h.campUniq k hk _ hkn (hkc.trans hcond.2) hkt
    rcases hst with ⟨_, hh⟩ | u
    · left
      rw [hkk]
      exact hE.anc (hC.anc_last i hh)
    · right
      rw [hkt]
      exact hE.unsafeU (Nat.le_of_lt p2) u

theorem voteB (h : CoreUpd x y A A' i op src p) : VoteB y A' := by
  have hC := h.core
  have hE := h.ext
  have hni := h.node_i
  have hnid := (hC.el.ids i).1
  have newk : ∀ k ∈ campOf i (x.node i) p,
      k.cand = i ∧ (x.node i).term < k.term ∧ k.term = p.term ∧
      p.votedFor = i ∧ k.last = ((x.node i).lastLogIndex, (x.node i).lastLogTerm) := by
    intro k hk
    obtain ⟨n1, n2, n3⟩ := mem_campOf hk
    rw [n3]; exact ⟨rfl, n1, rfl, n2, rfl⟩
  refine ⟨h.campUniq, fun k hk => ?_, fun v hv hvv => ?_, fun v hv k hk hkc hkt a ha hav hlt b hb hanc => ?_,
    fun g hg k hk hkc hkt a ha hav hlt b hb hanc => ?_, fun e he => ?_, fun g hg => ?_⟩
  · -- campaigns are well formed
    rcases h.camp_cases hk with hn | ho
    · obtain ⟨n1, n2, n3, _, n5⟩ := newk k hn
      have hlt := hC.lastLogTerm_le i
      refine ⟨by rw [n1]; exact h.i0, by rw [n1, hni, n3]; exact Nat.le_refl _, ?_, ?_⟩
      · have : k.lastTerm = (x.node i).lastLogTerm := congrArg Prod.snd n5
        omega
      · by_cases h0 : (x.node i).log.entries.length = 0
        · left
          have e1 : k.lastIndex = (x.node i).lastLogIndex := congrArg Prod.fst n5
          have e2 : k.lastTerm = (x.node i).lastLogTerm := congrArg Prod.snd n5
          refine ⟨by rw [e1, (hC.nwf i).last]; exact h0, ?_⟩
          rw [e2, (hC.nwf i).lastT, List.eq_nil_of_length_eq_zero h0]; rfl
        · right
          obtain ⟨c, hc, e1, e2, _⟩ := path_record (hC.path i) (Commit.holds_last (hC.nwf i) (by omega))
          exact ⟨c, hE.T c hc, by rw [n5, (hC.nwf i).last]; exact key_eq.mpr ⟨e1, e2⟩⟩
    · obtain ⟨a1, a2, a3, a4⟩ := hC.vote.campWf k ho
      refine ⟨a1, Nat.le_trans a2 (hE.term _), a3, a4.imp id ?_⟩
      rintro ⟨c, hc, hck⟩
      exact ⟨c, hE.T c hc, hck⟩
  · -- a vote for somebody else answers a campaign
    by_cases hvi : v = i
    · subst hvi
      rw [hni] at hv hvv ⊢
      rcases h.pair.2 with p0 | ⟨p1, p2⟩ | ⟨q, rfl, p1, p2, p3, _⟩ | ⟨p1, _⟩
      · exact absurd p0 hv
      · obtain ⟨k, hk, k1, k2⟩ := hC.vote.voteCamp v (by rw [← p2]; exact hv) (by rw [← p2]; exact hvv)
        exact ⟨k, hE.camps k hk, by rw [k1, p2], by rw [k2, p1]⟩
      · rcases h.req q rfl with hst | hc
        · omega
        · exact ⟨_, hE.camps _ hc, p2.symm, p1.symm⟩
      · rw [p1, hnid] at hvv; exact absurd rfl hvv
    · rw [hE.other _ hvi] at hv hvv ⊢
      obtain ⟨k, hk, r⟩ := hC.vote.voteCamp v hv hvv
      exact ⟨k, hE.camps k hk, r⟩
  · -- the vote a node holds
    by_cases hvi : v = i
    · subst hvi
      rw [hni] at hv hkc hkt
      exact h.vote_core hv hk hkc hkt ha hav hlt hb hanc
    · rw [hE.other _ hvi] at hv hkc hkt
      have hko : k ∈ x.camps := by
        rcases h.camp_cases hk with hn | ho
        · exfalso
          obtain ⟨n1, n2, _⟩ := newk k hn
          have hvv : (x.node v).votedFor ≠ v := by rw [← hkc, n1]; exact fun e => hvi e.symm
          obtain ⟨k', hk', k1, k2⟩ := hC.vote.voteCamp v hv hvv
          have := (hC.vote.campWf k' hk').2.1
          rw [k1, ← hkc, n1, k2, ← hkt] at this
          omega
        · exact ho
      have hao : a ∈ A := by
        rcases h.acks a ha with ho | ⟨hn, _⟩
        · exact ho
        · exact absurd (hav.symm.trans hn) hvi
      have hanc' := anc_old hE ((hC.ack a hao).wf.2.2.2) hanc
      rcases hC.vote.voteInv v hv k hko hkc hkt a hao hav hlt b hb hanc' with r | r
      · exact Or.inl (hE.anc r)
      · exact Or.inr (hE.unsafeU (Nat.le_refl _) r)
  · -- every recorded grant
    rcases h.grants g hg with hn | ho
    · obtain ⟨g1, g2, g3, g4, _⟩ := hn
      exact h.vote_core (by rw [g3]; exact g4) hk (hkc.trans g3.symm) (hkt.trans g2.symm) ha (hav.trans g1) hlt hb hanc
    · have hgt := hC.grant_term ho
      have hko : k ∈ x.camps := by
        rcases h.camp_cases hk with hn | ho'
        · exfalso
          obtain ⟨n1, n2, _⟩ := newk k hn
          obtain ⟨k', hk', k1, k2⟩ := hC.vote.grantCamp g ho
          have := (hC.vote.campWf k' hk').2.1
          rw [k1, ← hkc, n1, k2, ← hkt] at this
          omega
        · exact ho'
      have hao : a ∈ A := by
        rcases h.acks a ha with ho' | ⟨hn, hn2, _⟩
        · exact ho'
        · exfalso
          rw [← hav, hn] at hgt
          omega
      have hanc' := anc_old hE ((hC.ack a hao).wf.2.2.2) hanc
      rcases hC.vote.grantInv g ho k hko hkc hkt a hao hav hlt b hb hanc' with r | r
      · exact Or.inl (hE.anc r)
      · exact Or.inr (hE.unsafeU (Nat.le_refl _) r)
  · rcases h.counted _ he with ⟨hc, e'⟩ | e'
    · rw [e']
      exact hE.grants _ (h.real hc).2.2.1
    · exact hE.grants _ (hC.vote.countedGrant e e')
  · rcases h.grants g hg with hn | ho
    · exact hn.2.2.2.2
    · obtain ⟨k, hk, r⟩ := hC.vote.grantCamp g ho
      exact ⟨k, hE.camps k hk, r⟩

/-- **the voters a candidate counted** (the clause `electInv` of `VoteI` and of `VoteM`), for any escape clause `W` that
grows with the tree and is implied by the strict one; `hgrant`: the vote counted in this step passed the check
(`upToW_of_grant`) -/
theorem electW (h : CoreUpd x y A A' i op src p) {W : List CEntry → Nat × Nat → Camp → Prop}
    (wmono : ∀ b k, W x.T b k → W y.T b k) (wstrict : ∀ b (k : Camp), UnsafeS y.T b k.term → W y.T b k)
    (hold : ∀ k ∈ x.camps, ∀ v, Elector x k.cand k.term v → UpToW W x.T A k v)
    (hgrant : Counts (x.node i) op → ∀ k ∈ x.camps, k.cand = i → k.term = (x.node i).term →
      UpToW W x.T A k src) :
    ∀ k ∈ y.camps, ∀ v, Elector y k.cand k.term v → UpToW W y.T A' k v := by
  have counted := h.counted
  have ct := h.core.el.countedTerm
  have hsrc : Counts (x.node i) op → src ≠ i := fun hc => (h.real hc).1
  have hC := h.core
  have hE := h.ext
  have hwfa : ∀ a ∈ A, ∃ c ∈ x.T, key c = a.key := fun a ha => (hC.ack a ha).wf.2.2.2
  intro k hk v hel
  rcases h.camp_cases hk with hn | ho
  · -- a new campaign: only the candidate itself
    obtain ⟨n1, n2, n3⟩ := mem_campOf hn
    have e1 : k.cand = i := by rw [n3]
    have e3 : k.term = p.term := by rw [n3]
    have e5 : k.last = ((x.node i).lastLogIndex, (x.node i).lastLogTerm) := by rw [n3]; rfl
    have hvi : v = i := by
      rcases hel with e | e
      · exact e.trans e1
      · exfalso
        rcases counted _ e with ⟨_, e'⟩ | e'
        · injection e' with _ e'; injection e' with e' _; omega
        · have this' : k.term ≤ (x.node k.cand).term := ct _ e'
          rw [e1] at this'; omega
    subst hvi
    intro a ha hav hlt b hb hanc
    have hv0 : p.votedFor ≠ 0 := by rw [n2]; exact h.i0
    have hao : a ∈ A := by
      rcases h.acks a ha with ho | ⟨_, _, hn⟩
      · exact ho
      · have := hn hv0; omega
    have hanc' := anc_old hE (hwfa a hao) hanc
    have hst := (hC.ack a hao).stable b hb hanc'
    rw [hav] at hst
    rcases hst with ⟨_, hh⟩ | ⟨c, hc, c1, c2, c3⟩
    · left
      rw [e5]
      exact hE.anc (hC.anc_last v hh)
    · exact Or.inr (wstrict b k ⟨c, hE.T c hc, c1, by omega, hE.not_anc hc c3⟩)
  · -- an old campaign
    have hup : ∀ u, Elector x k.cand k.term u → UpToW W y.T A' k u := by
      intro u hu
      refine upToW_mono hE wmono hwfa (fun a ha => ?_) (hold k ho u hu)
      rcases h.acks a ha with ho' | ⟨a1, a2, _⟩
      · exact Or.inl ho'
      · right
        intro hau
        have := hC.elector_term ho hu
        rw [← hau, a1] at this
        omega
    rcases hel with e | e
    · exact hup v (Or.inl e)
    · rcases counted _ e with ⟨hc, e'⟩ | e'
      · injection e' with e1 e'
        injection e' with e2 e3
        rw [e3]
        refine upToW_mono hE wmono hwfa (fun a ha => ?_) (hgrant hc k ho e1 e2)
        rcases h.acks a ha with ho' | ⟨a1, _⟩
        · exact Or.inl ho'
        · exact Or.inr fun hau => absurd (hau.symm.trans a1) (hsrc hc)
      · exact hup v (Or.inr e')

end CoreUpd

/-- what the acknowledgement recorded for a `success` reply to the append request `q` says; `hstale`: a stale request is
not answered with success, `hfs`: a request that is not stale is handled as `FStep` says -/
theorem ackOf_facts {pre post : Node} {i : Nat} {q : AppendReq} {a : Ack} (ha : a ∈ ackOf i (.append q) post)
    (hstale : q.term < pre.term → ¬ post.rpcReply.map (·.result) = some rSuccess)
    {T : List CEntry} (hfs : ¬ q.term < pre.term → FStep pre q post ∧ ReqOK T q) :
    ¬ q.term < pre.term ∧ a.voter = i ∧ a.term = q.term ∧
    a.index = q.prevLogIndex + q.entries.length ∧ 1 ≤ a.index ∧
    Holds post.log.entries a.index a.eterm ∧ post.term = q.term ∧
    ((∃ e ∈ q.entries, e.index = a.index ∧ e.term = a.eterm) ∨ (q.entries = [] ∧ q.prevLogTerm = a.eterm)) := by
  unfold ackOf at ha
  dsimp only at ha
  split at ha
  · rename_i hc
    have hst : ¬ q.term < pre.term := fun hst => hstale hst hc.1
    obtain ⟨fs, hq⟩ := hfs hst
    obtain ⟨_, f2, f3, f4⟩ := fs.ack hc.1
    have hidx := hq.idx
    rw [List.mem_singleton.mp ha]
    refine ⟨hst, rfl, rfl, rfl, hc.2, ?_, fs.term hst, ?_⟩
    · exact ⟨hc.2, f4, rfl⟩
    · show (∃ e ∈ q.entries, e.index = q.prevLogIndex + q.entries.length ∧
          e.term = termAt _ (q.prevLogIndex + q.entries.length)) ∨
        (q.entries = [] ∧ q.prevLogTerm = termAt _ (q.prevLogIndex + q.entries.length))
      cases hqe : q.entries with
      | nil =>
        right
        refine ⟨rfl, ?_⟩
        rw [hqe] at hc
        simp only [List.length_nil, Nat.add_zero] at hc ⊢
        exact (f3 hc.2).2.2.symm
      | cons e0 es0 =>
        left
        have hlast : q.entries.length - 1 < q.entries.length := by rw [hqe]; simp
        refine ⟨q.entries[q.entries.length - 1], by rw [← hqe]; exact List.getElem_mem hlast, ?_, ?_⟩
        · rw [hidx _ hlast, ← hqe]; omega
        · have hh := f2 _ (List.getElem_mem hlast)
          rw [hidx _ hlast] at hh
          have e : q.prevLogIndex + (q.entries.length - 1) + 1 = q.prevLogIndex + q.entries.length := by omega
          rw [e] at hh
          rw [← hqe]
          exact hh.2.2.symm
  · cases ha

/-- **a completed step keeps what the node durably held for its acknowledgements**: its own appends leave the flushed
prefix alone (`own`); a request that is not stale (`app`) truncates only at a conflict, and a conflict at or below an
acknowledged entry exposes it (`CoreI.conflict_unsafe`) -/
theorem keepsAcked_step {x : Commit.Sys} {A : List Ack} (hC : CoreI x A) {i : Nat} {op : Op} {p : Node}
    (own : (∀ q, op ≠ .append q) →
      ∃ es, p.log.entries = (x.node i).log.entries ++ es ∧ (x.node i).log.flushed ≤ p.log.flushed)
    (app : ∀ q, op = .append q → p.log = (x.node i).log ∨
      (q ∈ x.rp.sent ∧ ¬ q.term < (x.node i).term ∧ FStep (x.node i) q p)) : KeepsAcked x A i p := by
  intro a ha hv b hb ⟨d1, d2⟩
  rcases op_cases op with happ | ⟨q, hq⟩
  · obtain ⟨es, hl, hf⟩ := own happ
    exact Or.inl ⟨Nat.le_trans d1 hf, by rw [hl]; exact holds_prefix (List.prefix_append _ _) d2⟩
  · rcases app q hq with e | ⟨hqs, hst, fs⟩
    · left
      unfold DurHolds
      rw [e]
      exact ⟨d1, d2⟩
    · by_cases hnc : NoConf (x.node i) q b.1
      · obtain ⟨k1, k2⟩ := fs.keep b.1 d2.2.1 hnc
        exact Or.inl ⟨k2 d1, holds_of_take_eq k1 d2 (Nat.le_refl _)⟩
      · right
        have : ∃ e ∈ q.entries, e.index ≤ b.1 ∧ termAt (x.node i).log.entries e.index ≠ e.term :=
          Classical.byContradiction fun hn => hnc fun e he hle =>
            Classical.byContradiction fun hne => hn ⟨e, he, hle, hne⟩
        obtain ⟨e, he, hle, hne⟩ := this
        rw [fs.term hst]
        exact hC.conflict_unsafe ha hv hb d2 hqs hst he hle hne

/-- what is known of a self acknowledgement — the record of a commit moment of a leader — when node `i` has become `p`:
the entry of the leader's own term is in the flushed part of the log of `p`, and its record was created by `i` (the
election argument of each system) -/
structure SelfAck (y : Commit.Sys) (i : Nat) (p : Node) (a : Ack) : Prop where
  voter : a.voter = i
  et : a.eterm = a.term
  termLe : a.term ≤ p.term
  holds : Holds p.log.entries a.index a.term
  flushed : a.index ≤ p.log.flushed
  own : ∀ r ∈ y.T, key r = (a.index, a.term) → r.cr = i

namespace ReplC
variable {x y : Commit.Sys} {A : List Ack} {i : Nat} {op : Op} {p : Node}

theorem path_i (h : ReplC x y A i op p) : Path y.T p.log.entries := h.node_i ▸ node_path h.log' i

theorem record_i (h : ReplC x y A i op p) {k τ : Nat} (hh : Holds p.log.entries k τ) :
    ∃ c ∈ y.T, key c = (k, τ) := node_record h.log' i (h.node_i.symm ▸ hh)

theorem holds_i (h : ReplC x y A i op p) {a c : Nat × Nat} (ha : Anc y.T a c)
    (hc : Holds p.log.entries c.1 c.2) : Holds p.log.entries a.1 a.2 :=
  h.node_i ▸ node_holds h.log' i ha (h.node_i.symm ▸ hc)

theorem anc_i (h : ReplC x y A i op p) {a c : Nat × Nat} (ha : Holds p.log.entries a.1 a.2)
    (hc : Holds p.log.entries c.1 c.2) (hle : a.1 ≤ c.1) : Anc y.T a c :=
  node_anc h.log' i (h.node_i.symm ▸ ha) (h.node_i.symm ▸ hc) hle

theorem mem_T (h : ReplC x y A i op p) {c : CEntry} (hc : c ∈ y.T) : c.cr = i ∨ c ∈ x.T := by
  rw [h.created] at hc
  rcases List.mem_append.mp hc with hn | ho
  · left
    rcases op_cases op with happ | ⟨q, rfl⟩
    · rw [C04Sys.newCreated_other _ _ _ _ happ] at hn
      exact (C04Sys.mem_chainOf hn).1
    · cases hn
  · exact Or.inr ho

end ReplC

namespace CoreUpd
variable {x y : Commit.Sys} {A A' : List Ack} {i : Nat} {op : Op} {src : Nat} {p : Node}

theorem acks_term (h : CoreUpd x y A A' i op src p) : ∀ a ∈ A', a ∈ A ∨ (a.voter = i ∧ (x.node i).term ≤ a.term) :=
  fun a ha => (h.acks a ha).imp id fun ⟨a1, a2, _⟩ => ⟨a1, a2⟩

/-- **a request on the wire** after node `i` was replaced: a candidate afterwards was a candidate of the same term before,
or its term grew (`UpdM.cand`) -/
theorem sentAt (h : CoreUpd x y A A' i op src p) {q : AppendReq} (hq : q ∈ x.rp.sent) : SentAt y q := by
  have hE := h.ext
  have hs := h.core.sent q hq
  refine ⟨?_, hs.term, ?_, ?_⟩
  · obtain ⟨a1, a3, a4, a5⟩ := hs.won
    refine ⟨a1, hE.won _ a3, Nat.le_trans a4 (hE.term _), fun hcd => ?_⟩
    by_cases hj : q.src = i
    · rw [hj] at hcd a4 a5 ⊢
      rw [h.node_i] at hcd ⊢
      rcases h.upd.cand hcd with ⟨c1, c2⟩ | c
      · rw [c2]; exact a5 c1
      · have c' : (x.node i).term < p.term := c
        omega
    · rw [hE.other _ hj] at hcd ⊢; exact a5 hcd
  · obtain ⟨c, hc, c1, c2, c3⟩ := hs.anc
    exact ⟨c, hE.T c hc, c1, fun e he => hE.anc (c2 e he), fun h1 => hE.anc (c3 h1)⟩
  · obtain ⟨c1, c2⟩ := hs.cmt
    exact ⟨fun e he hle => hE.cmt (Nat.le_refl _) (c1 e he hle), fun h1 h2 => hE.cmt (Nat.le_refl _) (c2 h1 h2)⟩

/-- an old acknowledgement after node `i` was replaced: the frame for the other voters, `KeepsAcked` for voter `i` -/
theorem ackAt_old (h : CoreUpd x y A A' i op src p) {a : Ack} (ha : a ∈ A) : AckAt y a := by
  have hE := h.ext
  have ho := h.core.ack a ha
  obtain ⟨a1, a2, a3, c, hc, hkc⟩ := ho.wf
  refine ⟨⟨a1, Nat.le_trans a2 (hE.term _), a3, c, hE.T c hc, hkc⟩, ?_, fun b hb hanc => ?_⟩
  · rcases ho.src with ⟨q, hq, r⟩ | ⟨e, c, hc, r⟩
    · exact Or.inl ⟨q, hE.sent q hq, r⟩
    · exact Or.inr ⟨e, c, hE.T c hc, r⟩
  · have hanc' := anc_old hE ⟨c, hc, hkc⟩ hanc
    by_cases hv : a.voter = i
    · rw [hv, h.node_i]
      rcases ho.stable b hb hanc' with d | u
      · rw [hv] at d
        exact (h.keeps a ha hv b hb d).imp id (hE.unsafeU (Nat.le_refl _))
      · rw [hv] at u
        exact Or.inr (hE.unsafeU h.pair.1 u)
    · rw [hE.other _ hv]
      exact (ho.stable b hb hanc').imp id (hE.unsafeU (Nat.le_refl _))

theorem ack_of (h : CoreUpd x y A A' i op src p) (new : ∀ a ∈ A', a ∈ A ∨ AckAt y a) : ∀ a ∈ A', AckAt y a :=
  fun a ha => (new a ha).elim h.ackAt_old id

/-- **the acknowledgement of a `success` reply to the request `q`** (facts: `ackOf_facts`). The acknowledged entry is
flushed: if the handler wrote nothing, an unflushed entry of the request's term would be one the node created itself,
but the entries of that term are the sender's (`hcr`: the election argument of each system) -/
theorem ackAt_reply (h : CoreUpd x y A A' i op src p) {q : AppendReq} (hq : q ∈ x.rp.sent) (hsrc : q.src ≠ i)
    (hcr : ∀ c ∈ x.T, c.cr ≠ 0 → c.e.term = q.term → c.cr = q.src)
    (hdirty : p.log = (x.node i).log ∨ p.log.flushed = p.log.entries.length) {a : Ack}
    (av : a.voter = i) (atm : a.term = q.term) (ai : a.index = q.prevLogIndex + q.entries.length)
    (a1 : 1 ≤ a.index) (ah : Holds p.log.entries a.index a.eterm) (pt : p.term = q.term)
    (a7 : (∃ e ∈ q.entries, e.index = a.index ∧ e.term = a.eterm) ∨ (q.entries = [] ∧ q.prevLogTerm = a.eterm)) :
    AckAt y a := by
  have hs := h.core.sent q hq
  refine ⟨⟨a1, by rw [av, h.node_i, atm, pt]; exact Nat.le_refl _, ?_, h.record_i ah⟩,
    Or.inl ⟨q, h.ext.sent q hq, atm.symm, by rw [av]; exact hsrc, ai, a7⟩, fun b hb hanc => Or.inl ?_⟩
  · rw [atm]
    rcases a7 with ⟨e, he, _, e2⟩ | ⟨_, e2⟩
    · rw [← e2]; exact hs.term.1 e he
    · rw [← e2]; exact hs.term.2
  · rw [av, h.node_i]
    have hbh := h.holds_i hanc (show Holds _ a.key.1 a.key.2 from ah)
    refine ⟨?_, hbh⟩
    rcases hdirty with d | d
    · apply Nat.le_of_not_lt
      intro hlt
      rw [d] at hlt hbh
      obtain ⟨c, hc, c1, c2, c3⟩ := (h.core.node i).unfl b.1 hlt hbh.2.1
      have := hcr c hc (by rw [c3]; exact h.i0) (by rw [c2, hbh.2.2, hb, atm])
      exact hsrc (this.symm.trans c3)
    · rw [d]; exact hbh.2.1

theorem ackAt_self (h : CoreUpd x y A A' i op src p) {a : Ack} (s : SelfAck y i p a) : AckAt y a := by
  obtain ⟨r, hr, hk⟩ := h.record_i s.holds
  have hka : (a.index, a.term) = a.key := by unfold Ack.key; rw [s.et]
  refine ⟨⟨s.holds.1, by rw [s.voter, h.node_i]; exact s.termLe, Nat.le_of_eq s.et, r, hr, hk.trans hka⟩,
    Or.inr ⟨s.et, r, hr, hk.trans hka, by rw [s.voter]; exact s.own r hr hk,
      by rw [s.own r hr hk]; exact h.i0⟩, fun b hb hanc => Or.inl ?_⟩
  rw [s.voter, h.node_i]
  have hbh := h.holds_i hanc (show Holds _ a.key.1 a.key.2 by rw [← hka]; exact s.holds)
  refine ⟨?_, hbh⟩
  have := hanc.1
  have e : a.key.1 = a.index := rfl
  have := s.flushed
  omega

end CoreUpd

end Commit
end Raft
