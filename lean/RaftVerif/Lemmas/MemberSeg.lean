/-
The segment list at every crash point of a step of the model WITH membership changes: `SysInv.crashDisk_segsOK_of`
(Lemmas/SysInv.lean) for a bootstrapped node — a `ChangeConfig` request is handled by a leader
(`leader.onChangeConfig`, inside the guarded closure `SysInv.SClosed`) or answered by a bootstrapped node that is not
leader.
-/
import RaftVerif.Lemmas.SysInv

namespace Raft
namespace MemberSeg
open Node LogRel CommitRel SysInv

namespace SStepX
variable {Inv : Node → Prop} (h : SStep Inv)
include h

theorem step_inv (s : Node) (op : Op) (ra : List Nat) (ord : List (List Nat)) (hok : OpOK op) (hcf : CfgRel.OpOk op)
    (hboot : s.configs.isBootstrapped = true) (hs : Inv (s.begin ra ord)) : Inv (s.step op ra ord) :=
  h.step_with s op ra ord hok (fun _ _ _ _ => hboot) hs

end SStepX

theorem crashDisk_segsOK (s : Node) (op : Op) (ra : List Nat) (ord : List (List Nat)) (k : Nat) (hok : OpOK op)
    (hcf : CfgRel.OpOk op) (hboot : s.configs.isBootstrapped = true)
    (h1 : C09.SegsOK s.log) (h2 : C06.LogWF s.log) (h3 : s.lastLogIndex = s.log.last)
    (hp : k ≠ 0 → (s.step op ra ord).panicked = none) : C09.SegsOK (C05.crashDisk s op ra ord k).log :=
  crashDisk_segsOK_of s op ra ord k hok (fun _ _ _ _ => hboot) h1 h2 h3 hp

end MemberSeg
end Raft

#print axioms Raft.MemberSeg.crashDisk_segsOK
