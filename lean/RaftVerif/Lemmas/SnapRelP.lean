/-
Panic persistence.

`P π s` is the state `s` with a failure recorded (`panicked := some π`). `Node.panic` records only the FIRST failure
site and nothing else reads the field, so every handler commutes with `P π`: `f (P π s) = P π (f s)` (for the handlers
that do not read the snapshot fields this is an instance of Lemmas/SnapBlind.lean). Hence a
failure recorded before a handler runs is still recorded afterwards, and — read backwards — a result without a
recorded failure comes from an argument without one (`npk`). (`Node.begin` clears the field: it is the only
exception.)
-/
import RaftVerif.Lemmas.SnapRelA

namespace Raft
namespace SnapRelP
open Node

def P (π : String) (s : Node) : Node := { s with panicked := some π }

variable {π : String}

/-- the recording of a failure as an update of fields the handlers do not read -/
def fail (π : String) : Blind where
  index := id
  term := id
  files := id
  points := id
  failure := fun _ => some π
  snoc := fun _ _ _ => rfl
  first := fun _ _ => rfl

theorem P_eq (s : Node) : P π s = (fail π).on s := rfl

@[pproj] theorem P_cid (s : Node) : (P π s).cid = s.cid := rfl
@[pproj] theorem P_nid (s : Node) : (P π s).nid = s.nid := rfl
@[pproj] theorem P_retain (s : Node) : (P π s).retain = s.retain := rfl
@[pproj] theorem P_shutdownOnRemove (s : Node) : (P π s).shutdownOnRemove = s.shutdownOnRemove := rfl
@[pproj] theorem P_term (s : Node) : (P π s).term = s.term := rfl
@[pproj] theorem P_votedFor (s : Node) : (P π s).votedFor = s.votedFor := rfl
@[pproj] theorem P_durTerm (s : Node) : (P π s).durTerm = s.durTerm := rfl
@[pproj] theorem P_durVote (s : Node) : (P π s).durVote = s.durVote := rfl
@[pproj] theorem P_log (s : Node) : (P π s).log = s.log := rfl
@[pproj] theorem P_lastLogIndex (s : Node) : (P π s).lastLogIndex = s.lastLogIndex := rfl
@[pproj] theorem P_lastLogTerm (s : Node) : (P π s).lastLogTerm = s.lastLogTerm := rfl
@[pproj] theorem P_configs (s : Node) : (P π s).configs = s.configs := rfl
@[pproj] theorem P_role (s : Node) : (P π s).role = s.role := rfl
@[pproj] theorem P_leader (s : Node) : (P π s).leader = s.leader := rfl
@[pproj] theorem P_commitIndex (s : Node) : (P π s).commitIndex = s.commitIndex := rfl
@[pproj] theorem P_fsm (s : Node) : (P π s).fsm = s.fsm := rfl
@[pproj] theorem P_votesNeeded (s : Node) : (P π s).votesNeeded = s.votesNeeded := rfl
@[pproj] theorem P_candTransfer (s : Node) : (P π s).candTransfer = s.candTransfer := rfl
@[pproj] theorem P_ldr (s : Node) : (P π s).ldr = s.ldr := rfl
@[pproj] theorem P_snapPending (s : Node) : (P π s).snapPending = s.snapPending := rfl
@[pproj] theorem P_snapResult (s : Node) : (P π s).snapResult = s.snapResult := rfl
@[pproj] theorem P_closed (s : Node) : (P π s).closed = s.closed := rfl
@[pproj] theorem P_rollAt (s : Node) : (P π s).rollAt = s.rollAt := rfl
@[pproj] theorem P_orders (s : Node) : (P π s).orders = s.orders := rfl
@[pproj] theorem P_replies (s : Node) : (P π s).replies = s.replies := rfl
@[pproj] theorem P_rpcReply (s : Node) : (P π s).rpcReply = s.rpcReply := rfl
@[pproj] theorem P_result (s : Node) : (P π s).result = s.result := rfl

@[pproj] theorem P_trace (s : Node) : (P π s).trace = s.trace := rfl
@[pproj] theorem P_snapIndex (s : Node) : (P π s).snapIndex = s.snapIndex := rfl
@[pproj] theorem P_snapTerm (s : Node) : (P π s).snapTerm = s.snapTerm := rfl
@[pproj] theorem P_snapsDisk (s : Node) : (P π s).snapsDisk = s.snapsDisk := rfl
@[pproj] theorem P_panicked (s : Node) : (P π s).panicked = some π := rfl

@[pproj] theorem P_durable (s : Node) : (P π s).durable = s.durable := rfl

@[pproj] theorem P_findRepl? (s : Node) (id : Nat) : (P π s).findRepl? id = s.findRepl? id := rfl
@[pproj] theorem P_replOrder (s : Node) : (P π s).replOrder = s.replOrder := rfl
@[pproj] theorem P_voterMatches (s : Node) : (P π s).voterMatches = s.voterMatches := rfl
@[pproj] theorem P_majorityMatchIndex (s : Node) : (P π s).majorityMatchIndex = s.majorityMatchIndex := rfl
@[pproj] theorem P_canChangeConfig (s : Node) : (P π s).canChangeConfig = s.canChangeConfig := rfl
@[pproj] theorem P_transferReady (s : Node) (id : Nat) : (P π s).transferReady id = s.transferReady id := rfl
@[pproj] theorem P_tryTransferTarget (s : Node) : (P π s).tryTransferTarget = s.tryTransferTarget := rfl
@[pproj] theorem P_validateTransfer (s : Node) (t : Nat) : (P π s).validateTransfer t = s.validateTransfer t := rfl
@[pproj] theorem P_releaseResult (s : Node) : (P π s).releaseResult = s.releaseResult := rfl
@[pproj] theorem P_notLeader (s : Node) (b : Bool) : (P π s).notLeader b = s.notLeader b := rfl
@[pproj] theorem P_canStartElection (s : Node) : (P π s).canStartElection = s.canStartElection := rfl
@[pproj] theorem P_isClosed (s : Node) : (P π s).isClosed = s.isClosed := rfl
@[pproj] theorem P_entryTerm? (s : Node) (i : Nat) : (P π s).entryTerm? i = s.entryTerm? i := rfl
@[pproj] theorem P_mkReply (s : Node) (a b : Bool) : (P π s).mkReply a b = s.mkReply a b := rfl
@[pproj] theorem P_canCommit (s : Node) (q : AppendReq) (i t : Nat) : (P π s).canCommit q i t = s.canCommit q i t := rfl

@[psimp] theorem P_point (s : Node) (n : String) : (P π s).point n = P π (s.point n) := rfl

@[psimp] theorem P_panic (s : Node) (site : String) : (P π s).panic site = P π (s.panic site) :=
  (fail π).on_panic s site

@[psimp] theorem P_assert (s : Node) (b : Bool) (site : String) : (P π s).assert b site = P π (s.assert b site) :=
  (fail π).on_assert s b site

@[psimp] theorem P_reply (s : Node) (t : Nat) (r : String) : (P π s).reply t r = P π (s.reply t r) :=
  (fail π).on_reply s t r

@[psimp] theorem P_setRole (s : Node) (r : Role) : (P π s).setRole r = P π (s.setRole r) := rfl
@[psimp] theorem P_popOrder (s : Node) : (P π s).popOrder = P π s.popOrder := rfl
@[psimp] theorem P_withLdr (s : Node) (l : Leader) : (P π s).withLdr l = P π (s.withLdr l) := rfl
@[psimp] theorem P_withFsm (s : Node) (f : Fsm) : (P π s).withFsm f = P π (s.withFsm f) := rfl
@[psimp] theorem P_withVotesNeeded (s : Node) (v : Int) : (P π s).withVotesNeeded v = P π (s.withVotesNeeded v) := rfl
@[psimp] theorem P_withCandTransfer (s : Node) (v : Bool) : (P π s).withCandTransfer v = P π (s.withCandTransfer v) := rfl
@[psimp] theorem P_withSnapPending (s : Node) (v : Option SnapReq) : (P π s).withSnapPending v = P π (s.withSnapPending v) := rfl
@[psimp] theorem P_withSnapResult (s : Node) (v : Option SnapRes) : (P π s).withSnapResult v = P π (s.withSnapResult v) := rfl
@[psimp] theorem P_withRpcReply (s : Node) (v : Option RpcReply) : (P π s).withRpcReply v = P π (s.withRpcReply v) := rfl
@[psimp] theorem P_withCommitIndex (s : Node) (i : Nat) : (P π s).withCommitIndex i = P π (s.withCommitIndex i) := rfl
@[psimp] theorem P_withLast (s : Node) (i t : Nat) : (P π s).withLast i t = P π (s.withLast i t) := rfl
@[psimp] theorem P_ret (s : Node) (r : Nat) : (P π s).ret r = P π (s.ret r) := rfl
@[psimp] theorem P_setLeader (s : Node) (l : Nat) : (P π s).setLeader l = P π (s.setLeader l) := rfl


@[psimp] theorem ite_P (c : Prop) {inst : Decidable c} (a b : Node) :
    @ite Node c inst (P π a) (P π b) = P π (@ite Node c inst a b) :=
  Blind.ite_on (fail π) c a b

/-- normalise a goal `f (P π s) = P π (f s)` after unfolding `f`: rewrite fields / observations of states with a failure recorded
(`pproj`, definitional, instances included), push `P` outward through the primitives (`psimp`), split what is
left and close by reflexivity -/
syntax "pnorm" ("[" Lean.Parser.Tactic.simpLemma,* "]")? : tactic
macro_rules
  | `(tactic| pnorm) => `(tactic| repeat (first | dsimp +instances only [pproj] | simp only [psimp]))
  | `(tactic| pnorm [$ls,*]) => `(tactic| repeat (first | dsimp +instances only [pproj] | simp only [psimp, $ls,*]))

syntax "pcomm" ("[" Lean.Parser.Tactic.simpLemma,* "]")? : tactic
macro_rules
  | `(tactic| pcomm) =>
    `(tactic| (pnorm <;> repeat' (first | rfl | contradiction | (exfalso; simp_all; done) | (split <;> (try simp only [*, ↓reduceIte]) <;> (try pnorm)))))
  | `(tactic| pcomm [$ls,*]) =>
    `(tactic| (pnorm [$ls,*] <;>
        repeat' (first | rfl | contradiction | (exfalso; simp_all; done) | (split <;> (try simp only [*, ↓reduceIte]) <;> (try pnorm [$ls,*])))))

@[psimp] theorem P_storeTermVote (s : Node) (t c : Nat) : (P π s).storeTermVote t c = P π (s.storeTermVote t c) :=
  (fail π).on_storeTermVote s t c

@[psimp] theorem P_setTerm (s : Node) (t : Nat) : (P π s).setTerm t = P π (s.setTerm t) :=
  (fail π).on_setTerm s t

@[psimp] theorem P_setVotedFor (s : Node) (t c : Nat) : (P π s).setVotedFor t c = P π (s.setVotedFor t c) :=
  (fail π).on_setVotedFor s t c

@[psimp] theorem P_appendEntry (s : Node) (e : Entry) : (P π s).appendEntry e = P π (s.appendEntry e) := by
  rw [P_eq s, P_eq (s.appendEntry e)]
  exact (fail π).on_appendEntry s e

@[psimp] theorem P_commitLog (s : Node) (n : Nat) : (P π s).commitLog n = P π (s.commitLog n) :=
  (fail π).on_commitLog s n

@[psimp] theorem P_removeGTE (s : Node) (i pt : Nat) : (P π s).removeGTE i pt = P π (s.removeGTE i pt) :=
  (fail π).on_removeGTE s i pt

@[psimp] theorem P_doClose (s : Node) (r : String) : (P π s).doClose r = P π (s.doClose r) :=
  (fail π).on_doClose s r

@[psimp] theorem P_changeConfigR (s : Node) (c : Config) : (P π s).changeConfigR c = P π (s.changeConfigR c) := by
  rw [P_eq s, P_eq (s.changeConfigR c)]
  exact (fail π).on_changeConfigR s c

@[psimp] theorem P_commitConfig (s : Node) : (P π s).commitConfig = P π s.commitConfig := by
  rw [P_eq s, P_eq s.commitConfig]
  exact (fail π).on_commitConfig s

@[psimp] theorem P_revertConfig (s : Node) : (P π s).revertConfig = P π s.revertConfig := rfl

@[psimp] theorem P_stepDownIfNotVoter (s : Node) : (P π s).stepDownIfNotVoter = P π s.stepDownIfNotVoter :=
  (fail π).on_stepDownIfNotVoter s

@[psimp] theorem P_closeIfRemoved (s : Node) : (P π s).closeIfRemoved = P π s.closeIfRemoved :=
  (fail π).on_closeIfRemoved s

@[psimp] theorem P_afterConfigCommit (s : Node) : (P π s).afterConfigCommit = P π s.afterConfigCommit :=
  (fail π).on_afterConfigCommit s

@[psimp] theorem P_setCommitIndexR_1 (s : Node) (i : Nat) : ((P π s).setCommitIndexR i).1 = P π (s.setCommitIndexR i).1 :=
  (fail π).on_setCommitIndexR_1 s i

@[psimp] theorem P_setCommitIndexR_2 (s : Node) (i : Nat) : ((P π s).setCommitIndexR i).2 = (s.setCommitIndexR i).2 :=
  (fail π).on_setCommitIndexR_2 s i

@[psimp] theorem P_fsmApplyLogTo (s : Node) (n : Nat) : (P π s).fsmApplyLogTo n = P π (s.fsmApplyLogTo n) :=
  (fail π).on_fsmApplyLogTo s n

@[psimp] theorem P_fsmApplyItems (s : Node) (qs : List QItem) : (P π s).fsmApplyItems qs = P π (s.fsmApplyItems qs) :=
  (fail π).on_fsmApplyItems s qs

@[psimp] theorem P_fsmApply (s : Node) (qs : List QItem) : (P π s).fsmApply qs = P π (s.fsmApply qs) :=
  (fail π).on_fsmApply s qs

@[psimp] theorem P_applyCommitted (s : Node) : (P π s).applyCommitted = P π s.applyCommitted :=
  (fail π).on_applyCommitted s

@[psimp] theorem P_setRepl (s : Node) (r : Repl) : (P π s).setRepl r = P π (s.setRepl r) := rfl

@[psimp] theorem P_addReplication (s : Node) (n : CNode) : (P π s).addReplication n = P π (s.addReplication n) := by
  rw [P_eq s, P_eq (s.addReplication n)]
  exact (fail π).on_addReplication s n

@[psimp] theorem P_notifyFlr (s : Node) : (P π s).notifyFlr = P π s.notifyFlr :=
  (fail π).on_notifyFlr s

@[psimp] theorem P_beginFinishedRounds (s : Node) : (P π s).beginFinishedRounds = P π s.beginFinishedRounds := rfl

@[psimp] theorem P_applyCommittedL (s : Node) : (P π s).applyCommittedL = P π s.applyCommittedL :=
  (fail π).on_applyCommittedL s

@[psimp] theorem P_storeEntry (f : Nat) (s : Node) (b : List QItem) : storeEntry f (P π s) b = P π (storeEntry f s b) :=
  (fail π).on_storeEntry f s b

@[psimp] theorem P_storeItems (f : Nat) (s : Node) (b : List QItem) : storeItems f (P π s) b = P π (storeItems f s b) :=
  (fail π).on_storeItems f s b

@[psimp] theorem P_changeConfigL (f : Nat) (s : Node) (c : Config) : changeConfigL f (P π s) c = P π (changeConfigL f s c) :=
  (fail π).on_changeConfigL f s c

@[psimp] theorem P_setCommitIndexL (f : Nat) (s : Node) (i : Nat) : setCommitIndexL f (P π s) i = P π (setCommitIndexL f s i) :=
  (fail π).on_setCommitIndexL f s i

@[psimp] theorem P_doChangeConfig (f : Nat) (s : Node) (t : Nat) (c : Config) :
    doChangeConfig f (P π s) t c = P π (doChangeConfig f s t c) :=
  (fail π).on_doChangeConfig f s t c

@[psimp] theorem P_checkConfigActions (f : Nat) (s : Node) (t : Nat) (c : Config) :
    checkConfigActions f (P π s) t c = P π (checkConfigActions f s t c) :=
  (fail π).on_checkConfigActions f s t c

@[psimp] theorem P_checkConfigAction (f : Nat) (s : Node) (t : Nat) (c : Config) (id : Nat) :
    checkConfigAction f (P π s) t c id = P π (checkConfigAction f s t c id) :=
  (fail π).on_checkConfigAction f s t c id

@[psimp] theorem P_onMajorityCommit (f : Nat) (s : Node) : onMajorityCommit f (P π s) = P π (onMajorityCommit f s) :=
  (fail π).on_onMajorityCommit f s

theorem P_applyHead (s : Node) : applyHead (P π s) = P π (applyHead s) := (fail π).on_applyHead s

theorem P_storeTail (n li : Nat) (s : Node) : storeTail n li (P π s) = P π (storeTail n li s) :=
  (fail π).on_storeTail n li s (fun x => P_onMajorityCommit n x)

theorem P_postponedActions (n : Nat) (ready committed : Bool) (s : Node) :
    postponedActions n ready committed (P π s) = P π (postponedActions n ready committed s) :=
  (fail π).on_postponedActions n ready committed s (fun x t c => P_checkConfigActions n x t c)

theorem P_configCommitted (n : Nat) (s : Node) : configCommitted n (P π s) = P π (configCommitted n s) :=
  (fail π).on_configCommitted n s (fun x t c => P_checkConfigActions n x t c)

@[psimp] theorem P_checkQuorum (s : Node) : (P π s).checkQuorum = P π s.checkQuorum := by
  rw [P_eq s, P_eq s.checkQuorum]
  exact (fail π).on_checkQuorum s

@[psimp] theorem P_transferReply (s : Node) (r : String) : (P π s).transferReply r = P π (s.transferReply r) := by
  rw [P_eq s, P_eq (s.transferReply r)]
  exact (fail π).on_transferReply s r

@[psimp] theorem P_tryTransfer (s : Node) : (P π s).tryTransfer = P π s.tryTransfer := by
  rw [P_eq s, P_eq s.tryTransfer]
  exact (fail π).on_tryTransfer s

@[psimp] theorem P_onTransfer (s : Node) (t g : Nat) : (P π s).onTransfer t g = P π (s.onTransfer t g) :=
  (fail π).on_onTransfer s t g

@[psimp] theorem P_replyTransfer (s : Node) (r : String) : (P π s).replyTransfer r = P π (s.replyTransfer r) :=
  (fail π).on_replyTransfer s r

@[psimp] theorem P_onTimeoutNowResult (s : Node) (src : Nat) (e : Bool) (r : Nat) :
    (P π s).onTimeoutNowResult src e r = P π (s.onTimeoutNowResult src e r) :=
  (fail π).on_onTimeoutNowResult s src e r

@[psimp] theorem P_leaderInit (s : Node) : (P π s).leaderInit = P π s.leaderInit :=
  (fail π).on_leaderInit s

@[psimp] theorem foldl_reply_P {β : Type} (g : β → Nat) (r : String) (xs : List β) (s : Node) :
    xs.foldl (fun s x => s.reply (g x) r) (P π s) = P π (xs.foldl (fun s x => s.reply (g x) r) s) :=
  (fail π).foldl_reply_on g r xs s

@[psimp] theorem P_leaderReleaseRest (s : Node) : (P π s).leaderReleaseRest = P π s.leaderReleaseRest := by
  rw [P_eq s, P_eq s.leaderReleaseRest]
  exact (fail π).on_leaderReleaseRest s

@[psimp] theorem P_leaderRelease (s : Node) : (P π s).leaderRelease = P π s.leaderRelease := by
  rw [P_eq s, P_eq s.leaderRelease]
  exact (fail π).on_leaderRelease s

@[psimp] theorem P_startElection (s : Node) : (P π s).startElection = P π s.startElection := by
  rw [P_eq s, P_eq s.startElection]
  exact (fail π).on_startElection s

@[psimp] theorem P_onVoteResult (s : Node) (e : Bool) (t r : Nat) : (P π s).onVoteResult e t r = P π (s.onVoteResult e t r) :=
  (fail π).on_onVoteResult s e t r

@[psimp] theorem P_followerTimeout (s : Node) : (P π s).followerTimeout = P π s.followerTimeout :=
  (fail π).on_followerTimeout s

@[psimp] theorem P_releaseRole (s : Node) (r : Role) : (P π s).releaseRole r = P π (s.releaseRole r) :=
  (fail π).on_releaseRole s r

@[psimp] theorem P_initRole (s : Node) : (P π s).initRole = P π s.initRole :=
  (fail π).on_initRole s

@[psimp] theorem P_settle (f : Nat) (s : Node) (c : Role) : settle f (P π s) c = P π (settle f s c) :=
  (fail π).on_settle f s c

@[psimp] theorem P_onVoteRequest (s : Node) (q : VoteReq) : (P π s).onVoteRequest q = P π (s.onVoteRequest q) :=
  (fail π).on_onVoteRequest s q

@[psimp] theorem P_onTimeoutNow (s : Node) : (P π s).onTimeoutNow = P π s.onTimeoutNow :=
  (fail π).on_onTimeoutNow s

@[psimp] theorem P_rpcDone (s : Node) (a b : Bool) : (P π s).rpcDone a b = P π (s.rpcDone a b) :=
  (fail π).on_rpcDone s a b

@[psimp] theorem P_onTakeSnapshot (s : Node) (t th : Nat) : (P π s).onTakeSnapshot t th = P π (s.onTakeSnapshot t th) :=
  (fail π).on_onTakeSnapshot s t th th rfl

@[psimp] theorem P_compactLog (s : Node) (i : Nat) : (P π s).compactLog i = P π (s.compactLog i) :=
  (fail π).on_compactLog s i

@[psimp] theorem P_onSnapshotTaken (s : Node) : (P π s).onSnapshotTaken = P π s.onSnapshotTaken :=
  (fail π).on_onSnapshotTaken s

@[psimp] theorem P_onChangeConfig (s : Node) (t : Nat) (c : Config) : (P π s).onChangeConfig t c = P π (s.onChangeConfig t c) :=
  (fail π).on_onChangeConfig s t c

@[psimp] theorem P_bootstrap (s : Node) (t : Nat) (c : Config) : (P π s).bootstrap t c = P π (s.bootstrap t c) :=
  (fail π).on_bootstrap s t c

def Pp (π : String) (p : Node × UpdFlags) : Node × UpdFlags := (P π p.1, p.2)

theorem P_replUpdLoop (us : List ReplUpdate) : ∀ (s : Node) (f : UpdFlags),
    replUpdLoop (P π s) f us = Pp π (replUpdLoop s f us) :=
  (fail π).on_replUpdLoop us

@[psimp] theorem P_checkLogCompact (s : Node) : (P π s).checkLogCompact = P π s.checkLogCompact :=
  (fail π).on_checkLogCompact s

@[psimp] theorem P_checkReplUpdates (s : Node) (us : List ReplUpdate) :
    (P π s).checkReplUpdates us = P π (s.checkReplUpdates us) :=
  (fail π).on_checkReplUpdates s us

@[psimp] theorem P_rejectEntries (s : Node) (b : List QItem) : (P π s).rejectEntries b = P π (s.rejectEntries b) :=
  (fail π).on_rejectEntries s b

@[psimp] theorem P_onWaitForStable (s : Node) (t : Nat) : (P π s).onWaitForStable t = P π (s.onWaitForStable t) :=
  (fail π).on_onWaitForStable s t

@[psimp] theorem P_resolveConflict (s : Node) (ne : Entry) (pt : Nat) :
    (P π s).resolveConflict ne pt = P π (s.resolveConflict ne pt) :=
  (fail π).on_resolveConflict s ne pt

def Pl (π : String) (st : AppLoop) : AppLoop := { st with s := P π st.s }

theorem P_appendLoop (es : List Entry) (st : AppLoop) : appendLoop (Pl π st) es = Pl π (appendLoop st es) :=
  (fail π).on_appendLoop es st rfl

@[psimp] theorem P_appendCheck (s : Node) (q : AppendReq) : (P π s).appendCheck q = P π (s.appendCheck q) :=
  (fail π).on_appendCheck s q rfl

@[psimp] theorem P_onAppendEntries (s : Node) (q : AppendReq) : (P π s).onAppendEntries q = P π (s.onAppendEntries q) :=
  (fail π).on_onAppendEntries s q rfl

/-! ### the handler of every operation that can occur in the system with snapshots and compaction -/

def Handled : Op → Prop
  | .install _ => False
  | .shutdown => False
  | _ => True

@[psimp] theorem P_publishSnapshot (s : Node) (f : SnapFile) : (P π s).publishSnapshot f = P π (s.publishSnapshot f) := rfl

@[psimp] theorem P_snapRun (s : Node) : (P π s).snapRun = P π s.snapRun := by
  unfold Node.snapRun
  pcomm

theorem handle_P (s : Node) (op : Op) (h : Handled op) : (P π s).handle op = P π (s.handle op) := by
  cases op with
  | install q => exact h.elim
  | shutdown => exact h.elim
  | append q =>
    show ((P π s).onAppendEntries q).rpcDone false true = _
    rw [P_onAppendEntries, P_rpcDone]
    rfl
  | takeSnapshot t th => exact P_onTakeSnapshot s t th
  | snapRun => exact P_snapRun s
  | _ =>
    rw [P_eq s, P_eq (s.handle _)]
    exact (fail π).on_handle s _ trivial (fun _ _ e => by cases e)

theorem eq_P_of {y : Node} {site : String} (h : y.panicked = some site) : y = P site y := by
  cases y
  simp only [P] at h ⊢
  simp only [h]

theorem npk {k : Node → Node} (hk : ∀ π s, k (P π s) = P π (k s)) {x : Node} (h : (k x).panicked = none) :
    x.panicked = none := by
  cases hx : x.panicked with
  | none => rfl
  | some site =>
    rw [eq_P_of hx, hk] at h
    cases h

end SnapRelP
end Raft
