/-
What the storage primitives of `Model/Node.lean` and `Model/Handlers.lean` append to the crash-point trace, one
equation each. The storage script of a handler is the composition of these.
-/
import RaftVerif.Lemmas.Shape

namespace Raft

namespace Node

theorem point_trace (s : Node) (n : String) : (s.point n).trace = s.trace ++ [(n, s.durable)] := rfl

theorem panic_trace (s : Node) (site : String) : (s.panic site).trace = s.trace := by rw [panic_shape]

theorem assert_trace (s : Node) (b : Bool) (site : String) : (s.assert b site).trace = s.trace := by
  rw [assert_shape]

theorem reply_trace (s : Node) (t : Nat) (r : String) : (s.reply t r).trace = s.trace := by rw [reply_shape]

/-- `value.set` is skipped when the pair is already what is on disk. -/
theorem storeTermVote_trace (s : Node) (t c : Nat) :
    (s.storeTermVote t c).trace =
      s.trace ++ (if t = s.durTerm ∧ c = s.durVote then []
                  else [("value.set", { s.durable with term := t, vote := c })]) := by
  unfold storeTermVote
  dsimp only
  split
  · rw [List.append_nil]
  · rfl

theorem setTerm_trace (s : Node) (t : Nat) :
    (s.setTerm t).trace =
      s.trace ++ (if t > s.term ∧ ¬ (t = s.durTerm ∧ 0 = s.durVote)
                  then [("value.set", { s.durable with term := t, vote := 0 })] else []) := by
  by_cases h : t > s.term
  · unfold setTerm
    rw [if_pos (by omega), if_pos h, storeTermVote_trace]
    by_cases h2 : t = s.durTerm ∧ 0 = s.durVote
    · rw [if_pos h2, if_neg (fun x => x.2 h2)]
    · rw [if_neg h2, if_pos ⟨h, h2⟩]
  · rw [if_neg (fun x => h x.1), List.append_nil]
    unfold setTerm
    split
    · rw [panic_trace]
    · rfl

theorem setVotedFor_trace (s : Node) (t c : Nat) :
    (s.setVotedFor t c).trace = s.trace ∨
    (s.setVotedFor t c).trace = s.trace ++ [("value.set", { s.durable with term := t, vote := c })] := by
  unfold setVotedFor
  split
  · split
    · rw [storeTermVote_trace]
      split
      · left; rw [List.append_nil]
      · right; rfl
    · left; rw [panic_trace]
  · left; rfl

theorem appendEntry_trace (s : Node) (e : Entry) : (s.appendEntry e).trace = s.trace := by rw [appendEntry_shape]

theorem changeConfigR_trace (s : Node) (c : Config) : (s.changeConfigR c).trace = s.trace := by
  rw [changeConfigR_shape]

theorem setCommitIndexR_trace (s : Node) (i : Nat) : (s.setCommitIndexR i).1.trace = s.trace := by
  rw [setCommitIndexR_shape]

theorem commitLog_trace (s : Node) (n : Nat) :
    (s.commitLog n).trace = s.trace ++ [("commitLog", (s.commitLog n).durable)] := rfl

theorem clearLog_durable (s : Node) : s.clearLog.durable = { s.durable with log := NLog.reset s.snapIndex } := by
  unfold clearLog point durable
  dsimp only
  rw [NLog.reset_durable]

theorem clearLog_trace (s : Node) : s.clearLog.trace = s.trace ++ [("clearLog", s.clearLog.durable)] := rfl

theorem publishSnapshot_durable (p : Node) (f : SnapFile) :
    (p.publishSnapshot f).durable = { p.durable with snaps := (insertSnap f p.snapsDisk).take p.retain } := rfl

/-- the disk between the publication of `f` and retention -/
abbrev published (s : Node) (f : SnapFile) : Durable := { s.durable with snaps := insertSnap f s.snapsDisk }

/-- The one update whose first image is not the disk it leaves. -/
theorem publishSnapshot_trace (p : Node) (f : SnapFile) :
    (p.publishSnapshot f).trace = p.trace ++
      [("snap.publish", { p.durable with snaps := insertSnap f p.snapsDisk }),
       ("snap.retain", { p.durable with snaps := (insertSnap f p.snapsDisk).take p.retain })] := by
  unfold Node.publishSnapshot
  dsimp only
  rw [point_trace, point_trace, List.append_assoc]
  rfl

end Node
end Raft
