/-
Durability of committed entries on the cluster system WITH membership changes (`Raft.Member`, Sys/Member.lean), for
Props/C06Member.lean, one transition at a time.

The invariant `MemberInv.MInv x G` is stated for ghost ledgers `G` (commit records `G.R` — one per commit moment of a
leader, with the configuration that was latest in the leader's log at that moment and the majority `Q` of ITS voters that
had acknowledged —, election records, self acknowledgements of interrupted steps). The ghost ledgers after a transition
EXTEND the old ones (`GLe`: `MemberStep.minv_trans_grow`), so that what a commit record promises — every member of its majority holds the committed key durably (`rec_durHolds`), and
the key is protected there, hence on every crash image (`rec_protG`, `SM.rec_img`) — can be followed along a run; `Kept` is
the same without ghost ledgers.
-/
import RaftVerif.Lemmas.MemberCrash

namespace Raft
namespace MemberDurable
open Node Election LogRel Replication CommitRel Commit Member MemberCore QuorumRel MemberInv MemberCommit MemberStep
open SM (recOf)

structure GLe (G G' : Ghost) : Prop where
  root : G'.root = G.root
  R : ∀ r ∈ G.R, r ∈ G'.R
  SA : ∀ a ∈ G.SA, a ∈ G'.SA

theorem GLe.refl (G : Ghost) : GLe G G := ⟨rfl, fun _ h => h, fun _ h => h⟩

theorem GLe.trans {G G' G'' : Ghost} (h : GLe G G') (h' : GLe G' G'') : GLe G G'' :=
  ⟨h'.root.trans h.root, fun r hr => h'.R r (h.R r hr), fun a ha => h'.SA a (h.SA a ha)⟩

theorem minv_transNF_mono {x y : Member.Sys} {G : Ghost} (hI : MInv x G) (hS : SideM x) (hSy : SideT y)
    (ht : TransNF x y) : ∃ G', MInv y G' ∧ GLe G G' :=
  let ⟨G', hI', hr, hR, hSA⟩ := minv_trans_grow hI hS hSy ht
  ⟨G', hI', hr, hR, hSA⟩

theorem trans_grow {x y : Member.Sys} (ht : Member.Trans x y) :
    (∀ c ∈ x.cm.T, c ∈ y.cm.T) ∧ (∀ a ∈ x.cm.acks, a ∈ y.cm.acks) ∧ (∀ m ∈ x.cm.committed, m ∈ y.cm.committed) :=
  ⟨ht.grows.T, ht.grows.acks, ht.grows.committed⟩

section static
variable {x : Member.Sys} {G : Ghost}

theorem rec_node (hI : MInv x G) {r : Rec} (hr : r ∈ G.R) : ∃ c ∈ x.cm.T, key c = r.m := by
  obtain ⟨_, r2, _⟩ := hI.recs.recd r hr
  obtain ⟨_, es, p, _, hm⟩ := r2
  obtain ⟨c, hc, c1, c2, _⟩ := path_record p hm
  exact ⟨c, hc, by unfold key; rw [c1, c2]⟩

/-- no entry of a later term fails to extend the committed key of a record -/
theorem rec_not_unsafe (hI : MInv x G) (hS : SideT x) {r : Rec} (hr : r ∈ G.R) (u : Nat) : ¬ Unsafe x.cm.T r.m u := by
  rintro ⟨c, hc, h1, _, h3⟩
  exact h3 (lcM hI hS r hr c hc h1)

/-- **every member of the majority of a commit record holds the committed key in its DURABLE log** — it acknowledged an
entry at or above the key in the key's term (`RecOK`), an acknowledged entry of the acknowledgement's term stays durable
unless an entry of a later term does not extend it (`AckM.stable`), and every later entry extends a committed key
(`lcM`) -/
theorem rec_durHolds (hI : MInv x G) (hS : SideT x) {r : Rec} (hr : r ∈ G.R) {v : Nat} (hv : v ∈ r.Q) :
    DurHolds (x.node v) r.m ∧ r.m.2 ≤ (x.node v).term := by
  obtain ⟨_, _, _, D, cfg, _, _, _, r7⟩ := hI.recs.recd r hr
  obtain ⟨a, ha, a1, a2, a3⟩ := r7 v hv
  have hd := (hI.ack.stable a ha r.m a2.symm a3).resolve_right (rec_not_unsafe hI hS hr _)
  have ht := (hI.ack.wf a ha).2.1
  rw [a1] at hd ht
  exact ⟨hd, by rw [← a2]; exact ht⟩

theorem rec_protG (hI : MInv x G) (hS : SideT x) {r : Rec} (hr : r ∈ G.R) {v : Nat} (hv : v ∈ r.Q) :
    ProtG x G v r.m.1 := by
  obtain ⟨hd, ht⟩ := rec_durHolds hI hS hr hv
  obtain ⟨c, hc, hk⟩ := rec_node hI hr
  refine ⟨hd.2.1, hd.2.2.1, Or.inr ⟨r, hr, ht, ?_⟩⟩
  rw [hd.2.2.2, ← hk]
  exact (forestM hI).refl _ ⟨c, hc, rfl⟩

/-- the members of the majority are voters of the configuration of the record, and that list is duplicate free -/
theorem rec_quorum (hI : MInv x G) (hS : SideT x) {r : Rec} (hr : r ∈ G.R) :
    r.m.2 = r.l.2 ∧ Anc x.cm.T r.m r.l ∧ ∃ D cfg, CfgAt x.cm.T D cfg r.l ∧ cfg.voters.Nodup ∧ r.Q.Nodup ∧
      (∀ v ∈ r.Q, v ∈ cfg.voters) ∧ 2 * r.Q.length > cfg.voters.length := by
  obtain ⟨r1, r2, _, D, cfg, r4, r5, r6, _⟩ := hI.recs.recd r hr
  have r4' := r4
  obtain ⟨⟨cD, hcD, _, hcfgD⟩, _, _⟩ := r4'
  have hnd : cfg.voters.Nodup := hS.nodup cD hcD cfg hcfgD
  exact ⟨r1, r2, D, cfg, r4, hnd, hnd.sublist r5, fun v hv => r5.subset hv, r6⟩

end static

namespace SM
variable {x : Member.Sys} {G : Ghost} {i : Nat} {op : Op} {ra : List Nat} {ord : List (List Nat)} {src : Nat}

/-- **whenever a member `i` of the majority of a commit record may die, its disk still holds its log up to the
committed key**: the disk image at every storage point of every step keeps the first `r.m.1` entries -/
theorem rec_img (h : MemberStep.SM x G i op ra ord src) {r : Rec} (hr : r ∈ G.R) (hv : i ∈ r.Q) (k : Nat) :
    (C05.crashDisk (x.node i) op ra ord k).log.prev = 0 ∧
    (C05.crashDisk (x.node i) op ra ord k).log.entries.take r.m.1 = (x.node i).log.entries.take r.m.1 ∧
    r.m.1 ≤ (C05.crashDisk (x.node i) op ra ord k).log.entries.length := by
  have im := h.img k
  obtain ⟨hd, _⟩ := rec_durHolds h.inv h.side.tree hr hv
  exact ⟨im.prev, im.keep r.m.1 hd.1 (h.prot_noConf (rec_protG h.inv h.side.tree hr hv))⟩

end SM

/-- **node `v` KEEPS the key `b`**: its durable log holds `b`, and `b` is an ancestor of (or equal to) an entry of the ledger
`committed` of a term not above `v`'s current term. (Why the term condition — an informal remark, not formalised: a node
that has not yet reached the term in which `b` was committed may still be sent — by a deposed leader of a term in between —
a request that replaces `b`.) -/
structure Kept (x : Member.Sys) (v : Nat) (b : K) : Prop where
  dur : DurHolds (x.node v) b
  cmt : Cmt x.cm b (x.node v).term

section kept
variable {x : Member.Sys} {G : Ghost}

theorem Kept.protG (hI : MInv x G) {v : Nat} {b : K} (hk : Kept x v b) : ProtG x G v b.1 := by
  obtain ⟨m, hm, m1, m2⟩ := hk.cmt
  obtain ⟨r, hr, e⟩ := hI.recs.cover m hm
  refine ⟨hk.dur.2.1, hk.dur.2.2.1, Or.inr ⟨r, hr, by rw [e]; exact m1, ?_⟩⟩
  rw [hk.dur.2.2.2, e]; exact m2

theorem kept_of_rec (hI : MInv x G) (hS : SideT x) {r : Rec} (hr : r ∈ G.R) (hm : r.m ∈ x.cm.committed) {v : Nat}
    (hv : v ∈ r.Q) : Kept x v r.m := by
  obtain ⟨hd, ht⟩ := rec_durHolds hI hS hr hv
  obtain ⟨c, hc, hk⟩ := rec_node hI hr
  exact ⟨hd, r.m, hm, ht, by rw [← hk]; exact (forestM hI).refl _ ⟨c, hc, rfl⟩⟩

theorem Kept.anc (hI : MInv x G) {v : Nat} {a b : K} (hk : Kept x v b) (h : Anc x.cm.T a b) : Kept x v a := by
  obtain ⟨m, hm, m1, m2⟩ := hk.cmt
  exact ⟨⟨Nat.le_trans h.1 hk.dur.1, log_holds_ancM hI v h hk.dur.2⟩, m, hm, m1, h.trans (uniqM hI) m2⟩

variable {i : Nat} {op : Op} {ra : List Nat} {ord : List (List Nat)} {src : Nat}

/-- **whenever a node that keeps `b` may die, its disk still holds its log up to `b`**: the disk image at every storage
point of every step keeps the first `b.1` entries -/
theorem Kept.img (h : MemberStep.SM x G i op ra ord src) {b : K} (hk : Kept x i b) (k : Nat) :
    (C05.crashDisk (x.node i) op ra ord k).log.prev = 0 ∧
    (C05.crashDisk (x.node i) op ra ord k).log.entries.take b.1 = (x.node i).log.entries.take b.1 ∧
    b.1 ≤ (C05.crashDisk (x.node i) op ra ord k).log.entries.length := by
  have im := h.img k
  exact ⟨im.prev, im.keep b.1 hk.dur.1 (h.prot_noConf (hk.protG h.inv))⟩

theorem Kept.step (h : MemberStep.SM x G i op ra ord src) {v : Nat} {b : K} (hk : Kept x v b) :
    Kept (stepM x i op ra ord src) v b := by
  have hI := h.inv
  have hE := h.ext
  refine ⟨?_, hE.cmt (hE.term v) hk.cmt⟩
  by_cases hv : v = i
  · subst hv
    rw [show (stepM x v op ra ord src).node v = h.post from h.node_i]
    obtain ⟨k1, k2⟩ := h.img_post.keep b.1 hk.dur.1 (h.prot_noConf (hk.protG hI))
    have hd : h.post.durable.log.entries = h.post.log.entries.take h.post.log.flushed := durable_entries h.nwf_post
    rw [hd] at k1 k2
    rw [List.length_take] at k2
    have hh : Holds (h.post.log.entries.take h.post.log.flushed) b.1 b.2 :=
      holds_of_take_eq k1 hk.dur.2 (Nat.le_refl _)
    exact ⟨by omega, holds_prefix (List.take_prefix _ _) hh⟩
  · rw [show (stepM x i op ra ord src).node v = x.node v from h.node_j hv]
    exact hk.dur

theorem Kept.crash {k retain : Nat} {sor : Bool} {n : Node} (h : CM x G i op ra ord src k retain sor n) {v : Nat}
    {b : K} (hk : Kept x v b) : Kept (crashM x i op n) v b := by
  have hE := h.ext
  refine ⟨?_, hE.cmt (hE.term v) hk.cmt⟩
  by_cases hv : v = i
  · subst hv
    rw [show (crashM x v op n).node v = n from h.node_i]
    obtain ⟨_, k1, k2⟩ := hk.img h.sm k
    obtain ⟨_, _, _, _, _, _, f7, _, f9⟩ := h.facts
    refine ⟨by rw [f7, f9]; exact k2, ?_⟩
    rw [f9]
    exact holds_of_take_eq k1 hk.dur.2 (Nat.le_refl _)
  · rw [show (crashM x i op n).node v = x.node v from h.node_j hv]
    exact hk.dur

theorem Kept.transNF {y : Member.Sys} (hI : MInv x G) (hS : SideM x) (ht : TransNF x y) {v : Nat} {b : K}
    (hk : Kept x v b) : Kept y v b := by
  cases ht with
  | step i op ra ord src he hnf => exact hk.step ⟨hI, hS, he, hnf⟩
  | crash i op ra ord src k retain sor n he hnf hn =>
    exact hk.crash (⟨⟨hI, hS, he, hnf⟩, hn⟩ : CM x G i op ra ord src k retain sor n)
  | send i q hi hl hr hc => exact ⟨hk.dur, hk.cmt⟩

end kept

end MemberDurable
end Raft

#print axioms Raft.MemberDurable.minv_transNF_mono
#print axioms Raft.MemberDurable.Kept.transNF
#print axioms Raft.MemberDurable.Kept.img
