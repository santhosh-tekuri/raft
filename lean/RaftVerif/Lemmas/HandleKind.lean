/-
The anatomy of `Node.handle`: every operation is handled by a quiet handler (`QuietClosed op`, Lemmas/Quiet.lean), by a
handler only a leader runs (`LdrCall b op h`: which one, as an equation), or it is one of six special cases (`Special`).
For the summaries of a step by kind of operation (`LogRel.handle_res`, `CommitRel.handle_cls`, `MemberCommit.handle_clsM`,
`C03Sys.handle_g`); a predicate kept by every update uses `GuardedStepAt.handle_with` (Lemmas/StepWalk.lean).
-/
import RaftVerif.Lemmas.StepWalk
import RaftVerif.Lemmas.Quiet

namespace Raft
namespace Node

/-- the operations whose handlers are neither quiet nor a leader's -/
inductive Special (b : Node) : Op → Prop
  | append q : Special b (.append q)
  | install q : Special b (.install q)
  | snapRun : Special b .snapRun
  | snapTaken : Special b .snapTaken
  | shutdown : Special b .shutdown
  | bootstrap t c : b.role ≠ .leader → b.configs.isBootstrapped = false → Special b (.changeConfig t c)

/-- the handler a leader runs for `op`, as an equation -/
inductive LdrCall (b : Node) : Op → Node → Prop
  | store batch : LdrCall b (.newEntries batch) (storeEntry (fuelFor batch.length) b batch)
  | change t c : LdrCall b (.changeConfig t c) (b.onChangeConfig t c)
  | wait t : LdrCall b (.waitStable t) (b.onWaitForStable t)
  | transfer t g : LdrCall b (.transfer t g) (b.onTransfer t g)
  | transferTimeout : b.ldr.transfer.active = true →
      LdrCall b .transferTimeout (b.replyTransfer "timeout:transferLeadership")
  | timeoutNowResult a c d : b.ldr.transfer.respPending = true →
      LdrCall b (.timeoutNowResult a c d) (b.onTimeoutNowResult a c d)
  | newTermTimeout : b.ldr.transfer.newTermTimer = true → LdrCall b .newTermTimeout
      (b.withLdr { b.ldr with transfer := { b.ldr.transfer with newTermTimer := false } }).tryTransfer
  | repl us : LdrCall b (.replUpdates us) (b.checkReplUpdates us)

/-- every leader call but `checkReplUpdates` stays inside the block `storeEntry … onMajorityCommit` and transfer.go: a
`Guarded` predicate that survives a new transfer record (`T`) is kept -/
theorem LdrCall.block {b h : Node} {op : Op} (c : LdrCall b op h) (hu : ∀ us, op ≠ .replUpdates us) {Inv : Node → Prop}
    (G : Guarded Inv)
    (T : ∀ (s : Node) l, Inv s → l.removeLTE = s.ldr.removeLTE → l.repls = s.ldr.repls → Inv (s.withLdr l))
    (hs : Inv b) : Inv h := by
  cases c with
  | store batch => exact G.storeEntry_inv _ _ _ hs
  | change t c => exact G.onChangeConfig_inv _ _ _ hs
  | wait t => exact G.onWaitForStable_inv _ _ hs
  | transfer t g => exact G.onTransfer_of T _ _ _ hs
  | transferTimeout _ => exact G.replyTransfer_of T _ _ hs
  | timeoutNowResult a c d _ => exact G.onTimeoutNowResult_of T _ _ _ _ hs
  | newTermTimeout _ => exact G.tryTransfer_of T _ (T _ _ hs rfl rfl)
  | repl us => exact absurd rfl (hu us)

/-- every leader call keeps a predicate of the `At` records that follows transfers and reports -/
theorem LdrCall.ldr {b h : Node} {op : Op} (k : LdrCall b op h) {c : Caps} {Mid P : Node → Prop}
    {Pre : Config → Node → Prop} (G : GuardedLdrAt c Mid P Pre) (ht : c.transfer) (ha : c.reports)
    (hc : ∀ us, op = .replUpdates us → (replUpdLoop b {} us).2.removeLTEU = true → c.compact) (hs : P b) : P h := by
  cases k with
  | store batch => exact (G.blk _).storeEntry _ _ hs
  | change t cf => exact Block.onChangeConfig_of G.blk G.reply _ _ _ hs
  | wait t => exact G.toGuardedAt.onWaitForStable_of G.reply _ _ hs
  | transfer t g => exact G.onTransfer_inv ht _ _ _ hs
  | transferTimeout _ => exact G.replyTransfer_inv ht _ _ hs
  | timeoutNowResult a x d _ => exact G.onTimeoutNowResult_inv ht _ _ _ _ hs
  | newTermTimeout _ => exact G.tryTransfer_inv ht _ (G.ldrT ht _ _ hs rfl rfl rfl rfl rfl rfl)
  | repl us => exact G.checkReplUpdates_inv ha ht _ _ (hc us rfl) hs

theorem handle_bootstrap {b : Node} (hr : b.role ≠ .leader) (t : Nat) (c : Config) :
    b.handle (.changeConfig t c) = b.bootstrap t c := by
  unfold Node.handle; dsimp only; rw [if_neg hr]

/-- how `b.handle op` is made: by quiet updates only (for any `QuietClosed op` predicate), as one leader call, or as one of
the special cases, whose handlers the user walks -/
inductive HandleKind (b : Node) (op : Op) : Prop
  | quiet : (∀ Inv, QuietClosed op Inv → Inv b → Inv (b.handle op)) → HandleKind b op
  | ldr : b.role = .leader → LdrCall b op (b.handle op) → HandleKind b op
  | special : Special b op → HandleKind b op

theorem handle_kind (b : Node) (op : Op) : HandleKind b op := by
  cases op
  case vote q => exact .quiet fun _ Q hs => Q.rpcDone_inv _ _ _ (Q.onVoteRequest_inv _ _ rfl hs)
  case append q => exact .special (.append q)
  case install q => exact .special (.install q)
  case timeoutNow => exact .quiet fun _ Q hs => Q.rpcDone_inv _ _ _ (Q.onTimeoutNow_inv _ hs)
  case identity a c d => exact .quiet fun _ Q hs => Q.rpcReply _ _ hs
  case disconnected n =>
    exact .quiet fun _ Q hs => by unfold Node.handle; exact ite_ind (fun _ => Q.setLeader _ _ hs) fun _ => hs
  case timeout =>
    refine .quiet fun _ Q hs => ?_
    unfold Node.handle; dsimp only
    split
    · exact Q.followerTimeout_inv _ hs
    · exact Q.startElection_inv _ hs ‹_›
    · exact Q.checkQuorum_inv _ hs
  case newEntries batch =>
    by_cases hr : b.role = .leader
    · exact .ldr hr (by unfold Node.handle; dsimp only; rw [if_pos hr]; exact .store batch)
    · exact .quiet fun _ Q hs => by unfold Node.handle; dsimp only; rw [if_neg hr]; exact Q.rejectEntries_inv _ _ hs
  case changeConfig t c =>
    by_cases hr : b.role = .leader
    · exact .ldr hr (by unfold Node.handle; dsimp only; rw [if_pos hr]; exact .change t c)
    · cases hb : b.configs.isBootstrapped with
      | false => exact .special (.bootstrap t c hr hb)
      | true =>
        refine .quiet fun _ Q hs => ?_
        rw [handle_bootstrap hr]; unfold Node.bootstrap; rw [if_pos hb]; exact Q.reply _ _ _ hs
  case takeSnapshot t th => exact .quiet fun _ Q hs => Q.onTakeSnapshot_inv _ _ _ hs
  case snapRun => exact .special .snapRun
  case snapTaken => exact .special .snapTaken
  case waitStable t =>
    by_cases hr : b.role = .leader
    · exact .ldr hr (by unfold Node.handle; dsimp only; rw [if_pos hr]; exact .wait t)
    · exact .quiet fun _ Q hs => by unfold Node.handle; dsimp only; rw [if_neg hr]; exact Q.reply _ _ _ hs
  case transfer t g =>
    by_cases hr : b.role = .leader
    · exact .ldr hr (by unfold Node.handle; dsimp only; rw [if_pos hr]; exact .transfer t g)
    · exact .quiet fun _ Q hs => by unfold Node.handle; dsimp only; rw [if_neg hr]; exact Q.reply _ _ _ hs
  case voteResult e t r =>
    exact .quiet fun _ Q hs => by
      unfold Node.handle; exact ite_ind (fun hr => Q.onVoteResult_inv _ _ _ _ hs hr) fun _ => hs
  case replUpdates us =>
    by_cases hr : b.role = .leader
    · exact .ldr hr (by unfold Node.handle; dsimp only; rw [if_pos hr]; exact .repl us)
    · exact .quiet fun _ _ hs => by unfold Node.handle; dsimp only; rw [if_neg hr]; exact hs
  case transferTimeout =>
    by_cases hr : b.role = .leader ∧ b.ldr.transfer.active
    · exact .ldr hr.1 (by unfold Node.handle; dsimp only; rw [if_pos hr]; exact .transferTimeout hr.2)
    · exact .quiet fun _ _ hs => by unfold Node.handle; dsimp only; rw [if_neg hr]; exact hs
  case timeoutNowResult a c d =>
    by_cases hr : b.role = .leader ∧ b.ldr.transfer.respPending
    · exact .ldr hr.1 (by unfold Node.handle; dsimp only; rw [if_pos hr]; exact .timeoutNowResult a c d hr.2)
    · exact .quiet fun _ _ hs => by unfold Node.handle; dsimp only; rw [if_neg hr]; exact hs
  case newTermTimeout =>
    by_cases hr : b.role = .leader ∧ b.ldr.transfer.newTermTimer
    · exact .ldr hr.1 (by unfold Node.handle; dsimp only; rw [if_pos hr]; exact .newTermTimeout hr.2)
    · exact .quiet fun _ _ hs => by unfold Node.handle; dsimp only; rw [if_neg hr]; exact hs
  case shutdown => exact .special .shutdown

end Node
end Raft
