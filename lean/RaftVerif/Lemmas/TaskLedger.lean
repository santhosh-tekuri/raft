/-
Helper lemmas for Props/C15Tasks: the ledger of client tasks of one node.

A task is a non-zero `Nat` id. It is *answered* when a `Reply` with its id is appended to `replies`, and it is
*pending* while it waits in one of: the leader queue (`ldr.queue`), the wait list (`ldr.waitStable`), the transfer
in progress (`ldr.transfer.task`), the snapshot request (`snapPending`) or the undelivered snapshot result
(`snapResult`).  For a fixed id `t`, `led t s` counts the occurrences of `t` among the answers and the pending
places of `s`.

* `Rel t k s s'`: going from `s` to `s'` no recorded failure was cleared, and unless `s'` has failed the count of
  `t` grew by exactly `k`; the structural invariant `OK` (an idle transfer carries no task; not both a snapshot
  request and an undelivered result) is kept.  `Rel` composes (`Rel.trans`).
* `FK s s'`: a *frame* step: none of the ledger fields changed (and no failure was cleared).
* `block`: the mutually recursive leader block, by induction on the fuel.  The only place where the count is not
  determined by the inputs is `checkConfigActions`/`checkConfigAction`, which may hand the SAME task to
  `doChangeConfig` several times (once per configuration change they start): there the count grows by `m`
  times the indicator of the task, `m` = the number of changes started with the task.
* `step_rel`: every operation; `step_rel_stable` (`m = 0` for a request without actions) and `step_rel_two` (`m = 0` when
  every configuration the request can lead to has two anchors).
-/
import RaftVerif.Lemmas.LeaderCache
import RaftVerif.Lemmas.NoPanic
import RaftVerif.Lemmas.ShapeAppend
import RaftVerif.Lemmas.ShapeQueue

namespace Raft
namespace Node
namespace TL

def ind (a t : Nat) : Nat := if a = t then 1 else 0

/-- `ind` of the task of an optional snapshot request / result -/
def optCount {α : Type} (f : α → Nat) (o : Option α) (t : Nat) : Nat :=
  match o with
  | some x => ind (f x) t
  | none => 0

/-- occurrences of `t` among the answers of this step -/
def cA (t : Nat) (s : Node) : Nat := (s.replies.map (·.task)).count t
/-- … in the leader queue -/
def cQ (t : Nat) (s : Node) : Nat := (s.ldr.queue.map (·.task)).count t
/-- … in the wait list -/
def cW (t : Nat) (s : Node) : Nat := s.ldr.waitStable.count t
/-- … as the transfer task -/
def cT (t : Nat) (s : Node) : Nat := ind s.ldr.transfer.task t
/-- … as the snapshot request -/
def cP (t : Nat) (s : Node) : Nat := optCount (·.task) s.snapPending t
/-- … as the undelivered snapshot result -/
def cR (t : Nat) (s : Node) : Nat := optCount (·.task) s.snapResult t

def pendCount (t : Nat) (s : Node) : Nat := cQ t s + cW t s + cT t s + cP t s + cR t s

def led (t : Nat) (s : Node) : Nat := cA t s + pendCount t s

/-- the fields the ledger reads -/
def key (s : Node) :=
  (s.replies, s.ldr.queue, s.ldr.waitStable, s.ldr.transfer.task, s.ldr.transfer.active, s.snapPending, s.snapResult)

def ldrKey (s : Node) := (s.ldr.queue, s.ldr.waitStable, s.ldr.transfer.task, s.ldr.transfer.active)

theorem key_eq {s s' : Node} (h : key s' = key s) :
    s'.replies = s.replies ∧ s'.ldr.queue = s.ldr.queue ∧ s'.ldr.waitStable = s.ldr.waitStable ∧
    s'.ldr.transfer.task = s.ldr.transfer.task ∧ s'.ldr.transfer.active = s.ldr.transfer.active ∧
    s'.snapPending = s.snapPending ∧ s'.snapResult = s.snapResult := by
  unfold key at h
  simp only [Prod.mk.injEq] at h
  exact h

theorem ldrKey_of_key {s s' : Node} (h : key s' = key s) : ldrKey s' = ldrKey s := by
  obtain ⟨_, a, b, c, d, _, _⟩ := key_eq h
  unfold ldrKey; rw [a, b, c, d]

theorem led_congr {s s' : Node} (t : Nat) (h : key s' = key s) : led t s' = led t s := by
  obtain ⟨a, b, c, d, _, e, f⟩ := key_eq h
  unfold led pendCount cA cQ cW cT cP cR
  rw [a, b, c, d, e, f]

def TransOK (s : Node) : Prop := s.ldr.transfer.active = false → s.ldr.transfer.task = 0
def SnapOK (s : Node) : Prop := s.snapPending = none ∨ s.snapResult = none
/-- the structural part of the ledger invariant -/
def OK (s : Node) : Prop := TransOK s ∧ SnapOK s
/-- nothing waits in the leader places -/
def Quiet (s : Node) : Prop := s.ldr.queue = [] ∧ s.ldr.waitStable = [] ∧ s.ldr.transfer.task = 0

instance (s : Node) : Decidable (OK s) := by unfold OK TransOK SnapOK; infer_instance
instance (s : Node) : Decidable (Quiet s) := by unfold Quiet; infer_instance

theorem OK.congr {s s' : Node} (h : OK s) (e : key s' = key s) : OK s' := by
  obtain ⟨_, _, _, c, d, e, f⟩ := key_eq e
  unfold OK TransOK SnapOK at *
  rw [c, d, e, f]; exact h

theorem Quiet.congr {s s' : Node} (h : Quiet s) (e : ldrKey s' = ldrKey s) : Quiet s' := by
  unfold ldrKey at e
  simp only [Prod.mk.injEq] at e
  unfold Quiet at *
  rw [e.1, e.2.1, e.2.2.1]; exact h

structure Rel (t k : Nat) (s s' : Node) : Prop where
  mono : s.panicked ≠ none → s'.panicked ≠ none
  cnt : s'.panicked = none → led t s' = led t s + k
  ok : OK s → OK s'

structure FK (s s' : Node) : Prop where
  same : key s' = key s
  mono : s.panicked ≠ none → s'.panicked ≠ none

theorem Rel.refl (t : Nat) (s : Node) : Rel t 0 s s := ⟨id, fun _ => rfl, id⟩

theorem Rel.trans {t k₁ k₂ : Nat} {s s' s'' : Node} (h₁ : Rel t k₁ s s') (h₂ : Rel t k₂ s' s'') :
    Rel t (k₁ + k₂) s s'' := by
  refine ⟨fun h => h₂.mono (h₁.mono h), fun h => ?_, fun h => h₂.ok (h₁.ok h)⟩
  have h' : s'.panicked = none := by
    cases hp : s'.panicked with
    | none => rfl
    | some x => exact absurd h (h₂.mono (by rw [hp]; exact fun e => by cases e))
  rw [h₂.cnt h, h₁.cnt h']; omega

theorem Rel.trans' {t k₁ k₂ k : Nat} {s s' s'' : Node} (h₁ : Rel t k₁ s s') (h₂ : Rel t k₂ s' s'') (e : k = k₁ + k₂) :
    Rel t k s s'' := e ▸ h₁.trans h₂

theorem Rel.cast {t k k' : Nat} {s s' : Node} (h : Rel t k s s') (e : k' = k) : Rel t k' s s' := e ▸ h

theorem FK.refl (s : Node) : FK s s := ⟨rfl, id⟩

theorem FK.trans {s s' s'' : Node} (h₁ : FK s s') (h₂ : FK s' s'') : FK s s'' :=
  ⟨h₂.same.trans h₁.same, fun h => h₂.mono (h₁.mono h)⟩

theorem FK.rel {s s' : Node} (h : FK s s') (t : Nat) : Rel t 0 s s' :=
  ⟨h.mono, fun _ => by rw [led_congr t h.same, Nat.add_zero], fun o => o.congr h.same⟩

theorem FK.ldrKey {s s' : Node} (h : FK s s') : ldrKey s' = ldrKey s := ldrKey_of_key h.same

theorem Rel.fk {t k : Nat} {s s' s'' : Node} (h₁ : Rel t k s s') (h₂ : FK s' s'') : Rel t k s s'' :=
  (h₁.trans (h₂.rel t)).cast rfl

theorem FK.then {t k : Nat} {s s' s'' : Node} (h₁ : FK s s') (h₂ : Rel t k s' s'') : Rel t k s s'' :=
  ((h₁.rel t).trans h₂).cast (by omega)

theorem FK.of_eq {s s' : Node} (h : key s' = key s) (hp : s'.panicked = s.panicked) : FK s s' :=
  ⟨h, fun hn => by rw [hp]; exact hn⟩

theorem fk_panic (s : Node) (site : String) : FK s (s.panic site) :=
  ⟨by unfold Node.panic; split <;> rfl, fun _ => panic_panicked_ne s site⟩

theorem fk_assert (s : Node) (b : Bool) (site : String) : FK s (s.assert b site) :=
  assert_of (Inv := FK s) (fun x st h => h.trans (fk_panic x st)) s b site (FK.refl s)

theorem fk_point (s : Node) (n : String) : FK s (s.point n) := FK.of_eq rfl rfl
theorem fk_popOrder (s : Node) : FK s s.popOrder := FK.of_eq rfl rfl
theorem fk_withFsm (s : Node) (f : Fsm) : FK s (s.withFsm f) := FK.of_eq rfl rfl
theorem fk_ret (s : Node) (r : Nat) : FK s (s.ret r) := FK.of_eq rfl rfl
theorem fk_setRole (s : Node) (r : Role) : FK s (s.setRole r) := FK.of_eq rfl rfl
theorem fk_setLeader (s : Node) (l : Nat) : FK s (s.setLeader l) := FK.of_eq rfl rfl
theorem fk_withRpcReply (s : Node) (r : Option RpcReply) : FK s (s.withRpcReply r) := FK.of_eq rfl rfl
theorem fk_withVotesNeeded (s : Node) (v : Int) : FK s (s.withVotesNeeded v) := FK.of_eq rfl rfl
theorem fk_withCandTransfer (s : Node) (v : Bool) : FK s (s.withCandTransfer v) := FK.of_eq rfl rfl
theorem fk_withCommitIndex (s : Node) (i : Nat) : FK s (s.withCommitIndex i) := FK.of_eq rfl rfl
theorem fk_withLast (s : Node) (i t : Nat) : FK s (s.withLast i t) := FK.of_eq rfl rfl
theorem fk_revertConfig (s : Node) : FK s s.revertConfig := FK.of_eq rfl rfl
theorem fk_publishSnapshot (s : Node) (f : SnapFile) : FK s (s.publishSnapshot f) := FK.of_eq rfl rfl
theorem fk_commitLog (s : Node) (n : Nat) : FK s (s.commitLog n) := FK.of_eq rfl rfl
theorem fk_removeGTE (s : Node) (i p : Nat) : FK s (s.removeGTE i p) := FK.of_eq rfl rfl
theorem fk_compactLog (s : Node) (i : Nat) : FK s (s.compactLog i) := FK.of_eq rfl rfl
theorem fk_clearLog (s : Node) : FK s s.clearLog := FK.of_eq rfl rfl

theorem fk_withLdr (s : Node) (l : Leader) (h1 : l.queue = s.ldr.queue) (h2 : l.waitStable = s.ldr.waitStable)
    (h3 : l.transfer.task = s.ldr.transfer.task) (h4 : l.transfer.active = s.ldr.transfer.active) :
    FK s (s.withLdr l) := by
  refine FK.of_eq ?_ rfl
  unfold key Node.withLdr
  dsimp only
  rw [h1, h2, h3, h4]

theorem fk_doClose (s : Node) (r : String) : FK s (s.doClose r) :=
  FK.of_eq (by rw [doClose_shape]; rfl) (by rw [doClose_shape])

theorem fk_storeTermVote (s : Node) (t c : Nat) : FK s (s.storeTermVote t c) :=
  FK.of_eq (by rw [storeTermVote_shape]; rfl) (by rw [storeTermVote_shape])

theorem fk_setTerm (s : Node) (t : Nat) : FK s (s.setTerm t) := by
  unfold Node.setTerm; split
  · split
    · exact fk_storeTermVote s t 0
    · exact fk_panic s _
  · exact FK.refl s

theorem fk_setVotedFor (s : Node) (t c : Nat) : FK s (s.setVotedFor t c) := by
  unfold Node.setVotedFor; split
  · split
    · exact fk_storeTermVote s t c
    · exact fk_panic s _
  · exact FK.refl s

theorem fk_appendEntry (s : Node) (e : Entry) : FK s (s.appendEntry e) := by
  unfold Node.appendEntry
  exact (fk_assert s _ _).trans (FK.of_eq rfl rfl)

theorem fk_changeConfigR (s : Node) (c : Config) : FK s (s.changeConfigR c) :=
  FK.of_eq (by rw [changeConfigR_shape]; rfl) (by rw [changeConfigR_shape])

theorem fk_commitConfig (s : Node) : FK s s.commitConfig :=
  FK.of_eq (by rw [commitConfig_shape]; rfl) (by rw [commitConfig_shape])

theorem fk_setCommitIndexR (s : Node) (i : Nat) : FK s (s.setCommitIndexR i).1 :=
  FK.of_eq (by rw [setCommitIndexR_shape]; rfl) (by rw [setCommitIndexR_shape])

theorem fk_setRepl (s : Node) (r : Repl) : FK s (s.setRepl r) := by
  unfold Node.setRepl; exact fk_withLdr s _ rfl rfl rfl rfl

theorem fk_addReplication (s : Node) (n : CNode) : FK s (s.addReplication n) := by
  unfold Node.addReplication
  dsimp only
  refine FK.trans ?_ (fk_setRepl _ _)
  split
  · exact fk_assert s _ _
  · exact (fk_assert s _ _).trans (fk_panic _ _)

theorem fk_notifyFlr (s : Node) : FK s s.notifyFlr :=
  notifyFlr_of (P := FK s) (fun x site h => h.trans (fk_panic x site)) s (FK.refl s)

theorem fk_beginFinishedRounds (s : Node) : FK s s.beginFinishedRounds := by
  unfold Node.beginFinishedRounds; exact fk_withLdr s _ rfl rfl rfl rfl

theorem fk_fsmApplyLogTo (s : Node) (n : Nat) : FK s (s.fsmApplyLogTo n) :=
  fsmApplyLogTo_of (Inv := FK s) (fun x st h => h.trans (fk_panic x st)) (fun x f h => h.trans (fk_withFsm x f)) s n
    (FK.refl s)

theorem fk_foldl {β : Type} (f : Node → β → Node) (hf : ∀ s x, FK s (f s x)) (xs : List β) (s : Node) :
    FK s (xs.foldl f s) :=
  Guarded.foldl_inv (Inv := FK s) f (fun y x h => h.trans (hf y x)) xs s (FK.refl s)

theorem fk_fsmRestore (s : Node) : FK s s.fsmRestore :=
  fsmRestore_of (Inv := FK s) (fun x st h => h.trans (fk_panic x st)) (fun x f h => h.trans (fk_withFsm x f)) s
    (FK.refl s)

theorem fk_checkQuorum (s : Node) : FK s s.checkQuorum :=
  checkQuorum_of (Inv := FK s) (fun x site h => h.trans (fk_panic x site)) (fun x h => h.trans (fk_setRole x _))
    (fun x l h => h.trans (fk_setLeader x l)) s (FK.refl s)

theorem fk_checkLogCompact (s : Node) : FK s s.checkLogCompact :=
  checkLogCompact_of (P := FK s) (fun x h => h.trans (fk_compactLog x _)) s (FK.refl s)

theorem fk_tryTransfer (s : Node) : FK s s.tryTransfer := by
  unfold Node.tryTransfer
  extract_lets r s1 s2
  have h1 : FK s s1 := by unfold s1; split; exact fk_popOrder s; exact FK.refl s
  have h2 : FK s s2 := by unfold s2; split; exact h1.trans (fk_panic _ _); exact h1
  split
  · exact h2.trans (fk_withLdr _ _ rfl rfl rfl rfl)
  · exact h2

theorem count_singleton' (a t : Nat) : [a].count t = ind a t := by
  unfold ind
  simp only [List.count_cons, List.count_nil, Nat.zero_add, beq_iff_eq]

theorem led_reply (t : Nat) (s : Node) (task : Nat) (r : String) (ht : t ≠ 0) :
    led t (s.reply task r) = led t s + ind task t := by
  unfold Node.reply
  split
  · rename_i h0
    have : ind task t = 0 := by unfold ind; rw [if_neg (by omega)]
    rw [this]; rfl
  · unfold led cA
    show ((s.replies ++ [_]).map _).count t + pendCount t s = _
    rw [List.map_append, List.count_append]
    simp only [List.map_cons, List.map_nil, count_singleton']
    omega

theorem rel_reply (t : Nat) (ht : t ≠ 0) (s : Node) (task : Nat) (r : String) :
    Rel t (ind task t) s (s.reply task r) := by
  refine ⟨fun h => ?_, fun _ => led_reply t s task r ht, fun o => ?_⟩
  · rw [(reply_fields s task r).2.2.2.2.2.1]; exact h
  · have e : (s.reply task r).ldr = s.ldr ∧ (s.reply task r).snapPending = s.snapPending ∧
        (s.reply task r).snapResult = s.snapResult := by unfold Node.reply; split <;> exact ⟨rfl, rfl, rfl⟩
    unfold OK TransOK SnapOK at *
    rw [e.1, e.2.1, e.2.2]; exact o

theorem rel_foldl_reply {β : Type} (t : Nat) (ht : t ≠ 0) (f : β → Nat) (g : Node → β → String) (xs : List β) (s : Node) :
    Rel t ((xs.map f).count t) s (xs.foldl (fun s x => s.reply (f x) (g s x)) s) ∧
    (xs.foldl (fun s x => s.reply (f x) (g s x)) s).ldr = s.ldr := by
  induction xs generalizing s with
  | nil => exact ⟨Rel.refl t s, rfl⟩
  | cons x xs ih =>
    simp only [List.foldl_cons, List.map_cons, List.count_cons]
    obtain ⟨i1, i2⟩ := ih (s.reply (f x) (g s x))
    refine ⟨(rel_reply t ht s (f x) (g s x)).trans' i1 ?_, ?_⟩
    · unfold ind; simp only [beq_iff_eq]; omega
    · rw [i2]; exact (reply_fields s _ _).2.2.2.2.2.2.1

theorem ind_zero {t : Nat} (ht : t ≠ 0) : ind 0 t = 0 := by unfold ind; rw [if_neg (by omega)]

/-- a failed state satisfies every count -/
theorem Rel.of_failed {t k k' : Nat} {s s' : Node} (h : Rel t k s s') (hp : s'.panicked ≠ none) : Rel t k' s s' :=
  ⟨h.mono, fun e => absurd e hp, h.ok⟩

theorem rel_failed (t k : Nat) {s s' : Node} (h : FK s s') (hp : s'.panicked ≠ none) : Rel t k s s' :=
  (h.rel t).of_failed hp

theorem rel_panic_any (t k : Nat) (s : Node) (site : String) : Rel t k s (s.panic site) :=
  rel_failed t k (fk_panic s site) (panic_panicked_ne s site)

theorem rel_withLdr (t k : Nat) (s : Node) (l : Leader)
    (hc : (l.queue.map (·.task)).count t + l.waitStable.count t + ind l.transfer.task t =
          cQ t s + cW t s + cT t s + k)
    (ho : TransOK s → (l.transfer.active = false → l.transfer.task = 0)) : Rel t k s (s.withLdr l) := by
  refine ⟨id, fun _ => ?_, fun o => ⟨ho o.1, o.2⟩⟩
  show cA t s + ((l.queue.map (·.task)).count t + l.waitStable.count t + ind l.transfer.task t + cP t s + cR t s) = _
  unfold led pendCount
  omega

/-- `storeItems`: the entry joins the leader queue -/
theorem rel_enqueue (t : Nat) (s : Node) (q : QItem) :
    Rel t (ind q.task t) s (s.withLdr { s.ldr with queue := s.ldr.queue ++ [q] }) := by
  apply rel_withLdr
  · show ((s.ldr.queue ++ [q]).map (·.task)).count t + cW t s + cT t s = _
    rw [List.map_append, List.count_append]
    simp only [List.map_cons, List.map_nil, count_singleton']
    unfold cQ; omega
  · exact id

theorem fsmApplyItems_rel (t : Nat) (ht : t ≠ 0) (items : List QItem) (s : Node) :
    Rel t ((items.map (·.task)).count t) s (s.fsmApplyItems items) := by
  induction items generalizing s with
  | nil => exact Rel.refl t s
  | cons q qs ih =>
    unfold Node.fsmApplyItems
    extract_lets s1 src2 s2 resp src3 s3 src4 s4
    have h1 : FK s s1 := fk_assert s _ _
    have h2 : FK s s2 := by unfold s2; split; exact h1.trans (fk_withFsm _ _); exact h1
    have h3 : FK s s3 := by unfold s3; split; exact h2.trans (fk_withFsm _ _); exact h2
    have h4 : FK s s4 := by unfold s4; split; exact h3.trans (fk_withFsm _ _); exact h3
    refine (h4.then (rel_reply t ht s4 q.task resp)).trans' (ih _) ?_
    simp only [List.map_cons, List.count_cons, beq_iff_eq]
    unfold ind; omega

theorem fsmApply_rel (t : Nat) (ht : t ≠ 0) (items : List QItem) (s : Node) :
    Rel t ((items.map (·.task)).count t) s (s.fsmApply items) := by
  unfold Node.fsmApply
  split
  · exact rel_panic_any t _ s _
  · split
    · exact rel_panic_any t _ s _
    · extract_lets front s1 s2
      have h1 : FK s s1 := fk_fsmApplyLogTo s _
      have h2 : Rel t ((items.map (·.task)).count t) s s2 := h1.then (fsmApplyItems_rel t ht items s1)
      exact h2.fk (fk_assert _ _ _)

theorem fk_applyCommitted (s : Node) : FK s s.applyCommitted := by
  unfold Node.applyCommitted Node.fsmApply
  split
  · exact fk_panic s _
  · split
    · exact fk_panic s _
    · exact (fk_fsmApplyLogTo s _).trans (fk_assert _ _ _)

theorem applyCommittedL_rel (t : Nat) (ht : t ≠ 0) (s : Node) : Rel t 0 s s.applyCommittedL := by
  unfold Node.applyCommittedL
  extract_lets sp src s1
  have hq : s.ldr.queue = sp.1 ++ sp.2 := (splitQueue_append _ _).symm
  have h2 := fsmApply_rel t ht sp.1 s1
  refine ⟨fun h => h2.mono h, fun hp => ?_, fun o => h2.ok ⟨o.1, o.2⟩⟩
  rw [h2.cnt hp, Nat.add_zero]
  show cA t s + ((sp.2.map (·.task)).count t + cW t s + cT t s + cP t s + cR t s) + _ = _
  unfold led pendCount cQ
  rw [hq, List.map_append, List.count_append]
  omega

/-- `setCommitIndexL` on a stable configuration: every waiting task is answered and the list is cleared -/
theorem rel_waitStable (t : Nat) (ht : t ≠ 0) (g : Node → Nat → String) (s : Node) :
    Rel t 0 s ((s.ldr.waitStable.foldl (fun s x => s.reply x (g s x)) s).withLdr
      { (s.ldr.waitStable.foldl (fun s x => s.reply x (g s x)) s).ldr with waitStable := [] }) := by
  obtain ⟨h1, h2⟩ := rel_foldl_reply t ht (fun x : Nat => x) g s.ldr.waitStable s
  generalize s.ldr.waitStable.foldl (fun s x => s.reply x (g s x)) s = s' at h1 h2
  simp only [List.map_id'] at h1
  refine ⟨h1.mono, fun hp => ?_, fun o => ?_⟩
  · have hc := h1.cnt hp
    show cA t s' + ((s'.ldr.queue.map (·.task)).count t + 0 + ind s'.ldr.transfer.task t + cP t s' + cR t s') = _
    unfold led pendCount cQ cW cT at hc
    rw [h2] at hc ⊢
    unfold led pendCount cQ cW cT
    omega
  · have o' := h1.ok o
    exact ⟨o'.1, o'.2⟩

/-- the statement about `checkConfigActions` / `checkConfigAction`: `m` changes were started with the task -/
def CountsUpTo (t task : Nat) (s s' : Node) : Prop :=
  ∃ m, Rel t (m * ind task t) s s' ∧ (m = 0 → s'.lastLogIndex = s.lastLogIndex)

theorem CountsUpTo.zero {t task : Nat} {s s' : Node} (h : FK s s') (hl : s'.lastLogIndex = s.lastLogIndex) :
    CountsUpTo t task s s' := ⟨0, (h.rel t).cast (Nat.zero_mul _), fun _ => hl⟩

theorem CountsUpTo.trans {t task : Nat} {s s' s'' : Node} (h₁ : CountsUpTo t task s s') (h₂ : CountsUpTo t task s' s'') :
    CountsUpTo t task s s'' := by
  obtain ⟨m₁, r₁, l₁⟩ := h₁
  obtain ⟨m₂, r₂, l₂⟩ := h₂
  exact ⟨m₁ + m₂, r₁.trans' r₂ (Nat.add_mul _ _ _), fun h => by rw [l₂ (by omega), l₁ (by omega)]⟩

theorem CountsUpTo.rel0 {t : Nat} (ht : t ≠ 0) {s s' : Node} (h : CountsUpTo t 0 s s') : Rel t 0 s s' := by
  obtain ⟨m, r, _⟩ := h
  exact r.cast (by rw [ind_zero ht, Nat.mul_zero])

theorem countsUpTo_foldl {t task : Nat} (f : Node → Nat → Node) (hf : ∀ s x, CountsUpTo t task s (f s x))
    (xs : List Nat) (s : Node) : CountsUpTo t task s (xs.foldl f s) :=
  Guarded.foldl_inv (Inv := CountsUpTo t task s) f (fun y x h => h.trans (hf y x)) xs s
    (CountsUpTo.zero (FK.refl s) rfl)

theorem lastLogIndex_panic (s : Node) (site : String) : (s.panic site).lastLogIndex = s.lastLogIndex :=
  (panic_fields s site).2.1

/-- **The ledger through the leader block** (any fuel): accepting a batch adds exactly its tasks (each is queued,
or answered at once with a definite rejection, or — the fuel having run out — the step has failed); commit
advancement, applying and membership bookkeeping only move tasks from pending to answered. -/
theorem block (t : Nat) (ht : t ≠ 0) : ∀ fuel : Nat,
    (∀ s b, Rel t ((b.map (·.task)).count t) s (storeEntry fuel s b)) ∧
    (∀ s b, Rel t ((b.map (·.task)).count t) s (storeItems fuel s b)) ∧
    (∀ s c, Rel t 0 s (changeConfigL fuel s c)) ∧
    (∀ s task c, Rel t (ind task t) s (doChangeConfig fuel s task c)) ∧
    (∀ s task c, CountsUpTo t task s (checkConfigActions fuel s task c)) ∧
    (∀ s task c id, CountsUpTo t task s (checkConfigAction fuel s task c id)) ∧
    (∀ s i, Rel t 0 s (setCommitIndexL fuel s i)) ∧
    (∀ s, Rel t 0 s (onMajorityCommit fuel s)) := by
  intro fuel
  induction fuel with
  | zero =>
    refine ⟨?_, ?_, ?_, ?_, ?_, ?_, ?_, ?_⟩
    · intro s b; unfold storeEntry; exact rel_panic_any t _ s _
    · intro s b
      cases b with
      | nil => unfold storeItems; exact Rel.refl t s
      | cons q qs => unfold storeItems; exact rel_panic_any t _ s _
    · intro s c; unfold changeConfigL; exact rel_panic_any t _ s _
    · intro s task c; unfold doChangeConfig; exact rel_panic_any t _ s _
    · intro s task c; unfold checkConfigActions
      exact CountsUpTo.zero (fk_panic s _) (lastLogIndex_panic s _)
    · intro s task c id; unfold checkConfigAction
      exact CountsUpTo.zero (fk_panic s _) (lastLogIndex_panic s _)
    · intro s i; unfold setCommitIndexL; exact rel_panic_any t _ s _
    · intro s; unfold onMajorityCommit; exact rel_panic_any t _ s _
  | succ n ih =>
    obtain ⟨ihSE, ihSI, ihCL, ihDC, ihCAs, ihCA, ihSC, ihMC⟩ := ih
    refine ⟨?_, ?_, ?_, ?_, ?_, ?_, ?_, ?_⟩
    · intro s b
      unfold storeEntry
      extract_lets lastIndex s1 s2 s3 s4
      have h1 : Rel t ((b.map (·.task)).count t) s s1 := ihSI s b
      have h2 : Rel t ((b.map (·.task)).count t) s s2 := by
        unfold s2
        split
        · split
          · exact (h1.trans (applyCommittedL_rel t ht s1)).cast rfl
          · exact h1
        · exact h1
      have h4 : Rel t ((b.map (·.task)).count t) s s4 :=
        (h2.fk (fk_beginFinishedRounds s2)).fk (fk_notifyFlr _)
      split
      · split
        · exact (h4.trans (ihMC s4)).cast rfl
        · exact h4
      · exact h2
    · intro s b
      cases b with
      | nil => unfold storeItems; exact Rel.refl t s
      | cons q qs =>
        unfold storeItems; dsimp only
        refine Rel.trans' (k₁ := ind q.task t) ?_ (ihSI _ qs) ?_
        · refine ite_ind (fun _ => rel_reply t ht s _ _) fun _ =>
            ite_ind (fun _ => ite_ind (fun _ => rel_reply t ht s _ _) fun _ => rel_reply t ht s _ _) fun _ => ?_
          have h1 := rel_enqueue t s { q with index := s.lastLogIndex + 1, term := s.term, cfg := q.cfg.map Config.payload }
          split
          · have h2 := h1.fk (fk_appendEntry _ { q with index := s.lastLogIndex + 1, term := s.term, cfg := q.cfg.map Config.payload }.toEntry)
            split
            · split
              · exact (h2.trans (ihCL _ _)).cast rfl
              · exact h2.fk (fk_panic _ _)
            · exact h2
          · exact h1
        · simp only [List.map_cons, List.count_cons, beq_iff_eq]
          unfold ind; omega
    · intro s c
      unfold changeConfigL
      extract_lets src1 s1 s2 src2 s3 s4
      have h1 : FK s s1 := fk_withLdr s _ rfl rfl rfl rfl
      have h2 : FK s s2 := h1.trans (fk_changeConfigR _ _)
      have h3 : FK s s3 := h2.trans (fk_withLdr _ _ rfl rfl rfl rfl)
      have h4 : FK s s4 := by
        refine h3.trans (fk_foldl _ ?_ _ _)
        intro x nd
        split
        · exact FK.refl x
        · split
          · exact fk_addReplication _ _
          · exact fk_setRepl _ _
      exact h4.then ((ihCAs s4 0 _).rel0 ht)
    · intro s task c
      unfold doChangeConfig
      refine (ihSE s _).cast ?_
      simp only [List.map_cons, List.map_nil, count_singleton']
    · intro s task c
      unfold checkConfigActions
      extract_lets nd c1 c2 r
      have h1 : CountsUpTo t task s r.1 := by
        unfold r
        split
        · split
          · exact ⟨1, (ihDC s task _).cast (Nat.one_mul _), fun h => by omega⟩
          · split
            · exact ⟨1, (ihDC s task _).cast (Nat.one_mul _), fun h => by omega⟩
            · exact CountsUpTo.zero (fk_panic s _) (lastLogIndex_panic s _)
        · exact CountsUpTo.zero (FK.refl s) rfl
      refine h1.trans ((CountsUpTo.zero (fk_popOrder r.1) rfl).trans (countsUpTo_foldl _ ?_ _ _))
      intro x id
      split
      · exact ihCA x task r.2 id
      · exact CountsUpTo.zero (FK.refl x) rfl
    · intro s task c id
      unfold checkConfigAction; dsimp only
      have h1 : ∀ r, CountsUpTo t task s (s.setRepl r) := fun r => CountsUpTo.zero (fk_setRepl s r) rfl
      have h2 : ∀ r c', CountsUpTo t task s (doChangeConfig n (s.setRepl r) task c') := fun r c' =>
        ⟨1, ((fk_setRepl s r).then (ihDC _ task c')).cast (Nat.one_mul _), fun h => by omega⟩
      repeat' split
      all_goals first
        | exact CountsUpTo.zero (FK.refl s) rfl
        | exact h1 _
        | exact h2 _ _
    · intro s i
      unfold setCommitIndexL
      extract_lets s1 ready r s2 s3 s5 src5
      have h2 : FK s s2 := (fk_commitLog s i).trans (fk_setCommitIndexR _ i)
      have h3 : Rel t 0 s s3 := by
        unfold s3; split
        · exact h2.then ((ihCAs s2 0 _).rel0 ht)
        · exact h2.rel t
      split
      · split
        · exact (h3.trans (rel_waitStable t ht (fun x _ => s!"config:{x.configs.latest.index}") s3)).cast rfl
        · exact (h3.trans ((ihCAs s3 0 _).rel0 ht)).cast rfl
      · exact h3
    · intro s
      unfold onMajorityCommit
      extract_lets m s1
      have h1 : FK s s1 := by unfold s1; split; exact FK.refl s; exact fk_panic s _
      split
      · exact h1.then ((((ihSC s1 m.1).trans (applyCommittedL_rel t ht _)).cast rfl).fk (fk_notifyFlr _))
      · exact h1.rel t

theorem fk_onVoteRequest (s : Node) (q : VoteReq) : FK s (s.onVoteRequest q) :=
  onVoteRequest_of (Inv := FK s) q (fun x r h => h.trans (fk_ret x r)) (fun x h => h.trans (fk_setRole x _))
    (fun x t h _ _ => h.trans (fk_setVotedFor x t 0)) (fun x t h _ _ _ => h.trans (fk_setVotedFor x t q.src)) s (FK.refl s)

theorem fk_onTimeoutNow (s : Node) : FK s s.onTimeoutNow :=
  onTimeoutNow_of (Inv := FK s) (fun x r h => h.trans (fk_ret x r)) (fun x h _ => h.trans (fk_setRole x _))
    (fun x l h => h.trans (fk_setLeader x l)) (fun x v h => h.trans (fk_withCandTransfer x v)) s (FK.refl s)

theorem fk_rpcDone (s : Node) (a b : Bool) : FK s (s.rpcDone a b) :=
  rpcDone_of (Inv := FK s) (fun x site h => h.trans (fk_panic x site)) (fun x r h => h.trans (fk_withRpcReply x r)) s a b
    (FK.refl s)

theorem fk_followerTimeout (s : Node) : FK s s.followerTimeout :=
  followerTimeout_of (Inv := FK s) (fun x l h => h.trans (fk_setLeader x l)) (fun x h _ => h.trans (fk_setRole x _)) s
    (FK.refl s)

theorem fk_startElection (s : Node) : FK s s.startElection :=
  startElection_of (Inv := FK s) s (fun x site h => h.trans (fk_panic x site))
    (fun x v h => h.trans (fk_withVotesNeeded x v)) (fun x h => h.trans (fk_setVotedFor x _ _))
    (fun x h _ => h.trans (fk_setRole x _)) (fun x l h => h.trans (fk_setLeader x l)) (FK.refl s)

theorem fk_onVoteResult (s : Node) (e : Bool) (tm r : Nat) : FK s (s.onVoteResult e tm r) :=
  onVoteResult_of (Inv := FK s) s (fun x h => h.trans (fk_setRole x _)) (fun x t h _ => h.trans (fk_setTerm x t))
    (fun x v h => h.trans (fk_withVotesNeeded x v)) (fun x h _ => h.trans (fk_setRole x _))
    (fun x l h => h.trans (fk_setLeader x l)) e tm r (FK.refl s)

theorem fk_resolveConflict (s : Node) (ne : Entry) (pt : Nat) : FK s (s.resolveConflict ne pt) := by
  unfold Node.resolveConflict
  refine ite_ind (fun _ => ?_) fun _ => FK.refl s
  split
  · exact fk_panic s _
  · exact ite_ind (fun _ => (fk_removeGTE s _ _).trans (fk_revertConfig _)) fun _ => fk_removeGTE s _ _

theorem fk_appendLoop (s₀ : Node) (st : AppLoop) (es : List Entry) (h : FK s₀ st.s) : FK s₀ (appendLoop st es).s :=
  appendLoop_keeps (Inv := FK s₀)
    (fun st ne _ h => (h.trans (fk_resolveConflict st.s ne st.term)).trans (fk_appendEntry _ ne))
    (fun x c h => h.trans (fk_changeConfigR x c)) st es h

theorem fk_appendCheck (s : Node) (q : AppendReq) : FK s (s.appendCheck q) := by
  have hx : ∀ x, x = s ∨ x = s.panic "bug.mustGetEntry" → FK s x := fun x hx => by
    rcases hx with rfl | rfl
    · exact FK.refl _
    · exact fk_panic s _
  exact appendCheck_cases s q (fun x r h _ => (hx x h.eq).trans (fk_ret x r)) fun x h _ _ _ _ =>
    (((hx x h.eq).trans (fk_setCommitIndexR x _)).trans (fk_applyCommitted _)).trans (fk_ret _ _)

theorem fk_followPre (s : Node) (term src : Nat) : FK s (followPre s term src) := by
  unfold followPre
  refine ((?_ : FK s _).trans (fk_setRole _ _)).trans (fk_setLeader _ _)
  exact ite_ind (fun _ => (fk_setTerm s term).trans (fk_setRole _ _)) fun _ => FK.refl s

theorem fk_afterLoop (s₀ : Node) (q : AppendReq) (st : AppLoop) (h : FK s₀ st.s) : FK s₀ (afterLoop q st) := by
  unfold afterLoop
  refine FK.trans ?_ (fk_ret _ _)
  have hc : FK s₀ (st.s.commitLog st.s.lastLogIndex) := h.trans (fk_commitLog _ _)
  exact ite_ind
    (fun _ => ite_ind (fun _ => (hc.trans (fk_setCommitIndexR _ _)).trans (fk_applyCommitted _)) fun _ => hc) fun _ => h

theorem fk_onAppendEntries (s : Node) (q : AppendReq) : FK s (s.onAppendEntries q) := by
  rw [onAppendEntries_stages]
  have h3 : FK s ((followPre s q.term q.src).appendCheck q) := (fk_followPre s _ _).trans (fk_appendCheck _ q)
  exact ite_ind (fun _ => fk_ret s _) fun _ => ite_ind (fun _ => h3) fun _ =>
    fk_afterLoop s q _ (fk_appendLoop s ⟨_, q.prevLogIndex, q.prevLogTerm, false, false⟩ q.entries h3)

theorem fk_onInstallSnap (s : Node) (q : InstallReq) : FK s (s.onInstallSnap q) := by
  rw [onInstallSnap_eq]
  have hp : FK s (installPre s q) := fk_followPre s q.term q.src
  refine ite_ind (fun _ => fk_ret s _) fun _ => ite_ind (fun _ => hp.trans (fk_ret _ _)) fun _ =>
    ite_ind (fun _ => hp.trans (fk_ret _ _)) fun _ => ?_
  dsimp only
  exact ((((((hp.trans (fk_publishSnapshot _ _)).trans (fk_clearLog _)).trans (fk_fsmRestore _)).trans
    (fk_withCommitIndex _ _)).trans (fk_changeConfigR _ _)).trans (fk_commitConfig _)).trans (fk_ret _ _)

/-! ### counted handlers that leave the leader places (`ldrKey`) as they are -/

def RelK (t k : Nat) (s s' : Node) : Prop := Rel t k s s' ∧ ldrKey s' = ldrKey s

theorem RelK.trans' {t k₁ k₂ k : Nat} {s s' s'' : Node} (h₁ : RelK t k₁ s s') (h₂ : RelK t k₂ s' s'') (e : k = k₁ + k₂) :
    RelK t k s s'' := ⟨h₁.1.trans' h₂.1 e, h₂.2.trans h₁.2⟩

theorem FK.relK {s s' : Node} (h : FK s s') (t : Nat) : RelK t 0 s s' := ⟨h.rel t, h.ldrKey⟩

theorem RelK.fk {t k : Nat} {s s' s'' : Node} (h₁ : RelK t k s s') (h₂ : FK s' s'') : RelK t k s s'' :=
  h₁.trans' (h₂.relK t) rfl

theorem FK.thenK {t k : Nat} {s s' s'' : Node} (h₁ : FK s s') (h₂ : RelK t k s' s'') : RelK t k s s'' :=
  (h₁.relK t).trans' h₂ (by omega)

theorem relK_reply (t : Nat) (ht : t ≠ 0) (s : Node) (task : Nat) (r : String) :
    RelK t (ind task t) s (s.reply task r) :=
  ⟨rel_reply t ht s task r, by unfold ldrKey; rw [(reply_fields s task r).2.2.2.2.2.2.1]⟩

theorem rejectEntries_relK (t : Nat) (ht : t ≠ 0) (b : List QItem) (s : Node) :
    RelK t ((b.map (·.task)).count t) s (s.rejectEntries b) := by
  induction b generalizing s with
  | nil => exact (FK.refl s).relK t
  | cons q qs ih =>
    unfold Node.rejectEntries
    dsimp only
    refine RelK.trans' (k₁ := ind q.task t) ?_ (ih _) ?_
    · split
      · exact relK_reply t ht s _ _
      · exact relK_reply t ht s _ _
    · simp only [List.map_cons, List.count_cons, beq_iff_eq]
      unfold ind; omega

theorem bootstrap_relK (t : Nat) (ht : t ≠ 0) (s : Node) (task : Nat) (c : Config) :
    RelK t (ind task t) s (s.bootstrap task c) := by
  refine bootstrap_cases s task c (fun _ r => relK_reply t ht s _ r) fun _ => ?_
  refine RelK.fk (FK.thenK ?_ (relK_reply t ht _ _ _)) (fk_setRole _ _)
  exact ((((fk_appendEntry s _).trans (fk_commitLog _ _)).trans (fk_setTerm _ _)).trans (fk_withLast _ _ _)).trans
    (fk_changeConfigR _ _)

theorem relK_snap (t k : Nat) (s s' : Node) (hr : s'.replies = s.replies) (hl : s'.ldr = s.ldr)
    (hp : s'.panicked = s.panicked) (hc : cP t s' + cR t s' = cP t s + cR t s + k) (ho : SnapOK s → SnapOK s') :
    RelK t k s s' := by
  refine ⟨⟨fun h => by rw [hp]; exact h, fun _ => ?_, fun o => ⟨?_, ho o.2⟩⟩, by unfold ldrKey; rw [hl]⟩
  · unfold led pendCount cA cQ cW cT
    rw [hr, hl]; omega
  · have := o.1; unfold TransOK at *; rw [hl]; exact this

theorem onTakeSnapshot_relK (t : Nat) (ht : t ≠ 0) (s : Node) (task th : Nat) :
    RelK t (ind task t) s (s.onTakeSnapshot task th) := by
  unfold Node.onTakeSnapshot
  split
  · exact relK_reply t ht s _ _
  · rename_i h
    have hp : s.snapPending = none := by
      cases e : s.snapPending with
      | none => rfl
      | some x => exact absurd (Or.inl (by rw [e]; rfl)) h
    have hr : s.snapResult = none := by
      cases e : s.snapResult with
      | none => rfl
      | some x => exact absurd (Or.inr (by rw [e]; rfl)) h
    refine relK_snap t _ s (s.withSnapPending (some _)) rfl rfl rfl ?_ ?_
    · show ind task t + cR t s = _
      unfold cP cR optCount; rw [hp, hr]; show _ + 0 = 0 + 0 + _; omega
    · intro _; exact Or.inr hr

theorem snapRun_relK (t : Nat) (s : Node) (ho : SnapOK s) : RelK t 0 s s.snapRun := by
  unfold Node.snapRun
  split
  · exact (FK.refl s).relK t
  · rename_i rq hrq
    have hr : s.snapResult = none := by
      rcases ho with h | h
      · rw [h] at hrq; cases hrq
      · exact h
    have key : ∀ x : Node, FK (s.withSnapPending none) x → ∀ rs : SnapRes, rs.task = rq.task →
        RelK t 0 s (x.withSnapResult (some rs)) := by
      intro x hx rs hrs
      obtain ⟨a, b, c, d, e, f, g⟩ := key_eq hx.same
      have a : x.replies = s.replies := a
      have b : x.ldr.queue = s.ldr.queue := b
      have c : x.ldr.waitStable = s.ldr.waitStable := c
      have d : x.ldr.transfer.task = s.ldr.transfer.task := d
      have e : x.ldr.transfer.active = s.ldr.transfer.active := e
      have f : x.snapPending = none := f
      have hl : ldrKey x = ldrKey s := hx.ldrKey
      refine ⟨⟨fun h => hx.mono h, fun _ => ?_, fun o => ⟨?_, Or.inl f⟩⟩, hl⟩
      · show cA t x + (cQ t x + cW t x + cT t x + cP t x + ind rs.task t) = _
        unfold led pendCount cA cQ cW cT cP cR
        rw [a, b, c, d, f, hrs, hrq, hr]
        show _ + (_ + _ + _ + 0 + _) = _ + (_ + _ + _ + ind rq.task t + 0) + 0
        omega
      · have := o.1; unfold TransOK at *
        show (x.ldr.transfer.active = false → x.ldr.transfer.task = 0)
        rw [d, e]; exact this
    dsimp only
    split
    · exact key _ (FK.refl _) _ rfl
    · split
      · exact key _ (FK.refl _) _ rfl
      · exact key _ (fk_publishSnapshot _ _) _ rfl

theorem onSnapshotTaken_relK (t : Nat) (ht : t ≠ 0) (s : Node) : RelK t 0 s s.onSnapshotTaken := by
  have key : ∀ rs, s.snapResult = some rs → ∀ x : Node, FK (s.withSnapResult none) x → ∀ r : String,
      RelK t 0 s (x.reply rs.task r) := by
    intro rs hrs x hx r
    obtain ⟨r1, r2⟩ := relK_reply t ht x rs.task r
    obtain ⟨a, b, c, d, e, f, g⟩ := key_eq hx.same
    have a : x.replies = s.replies := a
    have b : x.ldr.queue = s.ldr.queue := b
    have c : x.ldr.waitStable = s.ldr.waitStable := c
    have d : x.ldr.transfer.task = s.ldr.transfer.task := d
    have e : x.ldr.transfer.active = s.ldr.transfer.active := e
    have f : x.snapPending = s.snapPending := f
    have g : x.snapResult = none := g
    refine ⟨⟨fun h => r1.mono (hx.mono h), fun hp => ?_, fun o => r1.ok ⟨?_, Or.inr g⟩⟩, r2.trans hx.ldrKey⟩
    · rw [r1.cnt hp]
      unfold led pendCount cA cQ cW cT cP cR
      rw [a, b, c, d, f, g, hrs]
      show _ + (_ + _ + _ + _ + 0) + _ = _ + (_ + _ + _ + _ + ind rs.task t) + 0
      omega
    · have := o.1; unfold TransOK at *
      rw [d, e]; exact this
  refine onSnapshotTaken_cases s (fun _ => (FK.refl s).relK t) (fun rs hrs => key rs hrs _ (FK.refl _) _)
    fun rs a b y hrs _ _ _ _ hy => key rs hrs _ ?_ _
  have h2 : FK (s.withSnapResult none) y := by
    rcases hy with rfl | ⟨_, rfl⟩
    · exact FK.refl _
    · exact fk_compactLog _ _
  have hn : ∀ v, FK (s.withSnapResult none) (y.withLdr { y.ldr with removeLTE := v }).notifyFlr :=
    fun v => (h2.trans (fk_withLdr y { y.ldr with removeLTE := v } rfl rfl rfl rfl)).trans (fk_notifyFlr _)
  exact ite_ind (fun _ => hn _) fun _ => ite_ind (fun _ => hn _) fun _ => h2

theorem led_eq (t : Nat) (s : Node) :
    led t s = cA t s + ((s.ldr.queue.map (·.task)).count t + s.ldr.waitStable.count t + ind s.ldr.transfer.task t +
      cP t s + cR t s) := rfl

/-- `transfer.reply`: the transfer task is answered and the transfer record cleared -/
theorem transferReply_rel (t : Nat) (ht : t ≠ 0) (s : Node) (r : String) :
    Rel t 0 s (s.transferReply r) ∧ (s.transferReply r).ldr.transfer.task = 0 := by
  unfold Node.transferReply
  have h1 := rel_reply t ht s s.ldr.transfer.task r
  have hl : (s.reply s.ldr.transfer.task r).ldr = s.ldr := (reply_fields _ _ _).2.2.2.2.2.2.1
  show Rel t 0 s ((s.reply s.ldr.transfer.task r).withLdr { (s.reply s.ldr.transfer.task r).ldr with transfer := {} }) ∧ _
  generalize s.reply s.ldr.transfer.task r = s1 at h1 hl
  refine ⟨⟨h1.mono, fun hp => ?_, fun o => ⟨fun _ => rfl, (h1.ok o).2⟩⟩, rfl⟩
  have hc := h1.cnt hp
  rw [led_eq, led_eq, hl] at hc
  show cA t s1 + ((s1.ldr.queue.map (·.task)).count t + s1.ldr.waitStable.count t + ind 0 t + cP t s1 + cR t s1) = _
  rw [led_eq, hl, ind_zero ht]
  omega

theorem onTransfer_rel (t : Nat) (ht : t ≠ 0) (s : Node) (task target : Nat) (ho : TransOK s) :
    Rel t (ind task t) s (s.onTransfer task target) := by
  unfold Node.onTransfer
  extract_lets err src1 src2 s1
  split
  · exact rel_reply t ht s _ _
  · rename_i hv
    have hv' : s.validateTransfer target = "" := by
      cases h : decide (s.validateTransfer target = "") with
      | true => exact of_decide_eq_true h
      | false => exact absurd (of_decide_eq_false h) hv
    have ha : s.ldr.transfer.active = false := by
      cases h : s.ldr.transfer.active with
      | false => rfl
      | true =>
        exfalso
        unfold Node.validateTransfer at hv'
        rw [if_pos h] at hv'
        exact absurd hv' (by decide)
    have h0 := ho ha
    refine (rel_withLdr t (ind task t) s _ ?_ ?_).fk (fk_tryTransfer s1)
    · show cQ t s + cW t s + ind task t = _
      unfold cT; rw [h0, ind_zero ht]; omega
    · intro _ h; cases h

theorem replyTransfer_rel (t : Nat) (ht : t ≠ 0) (s : Node) (r : String) : Rel t 0 s (s.replyTransfer r) := by
  unfold Node.replyTransfer
  exact ((transferReply_rel t ht s r).1.trans (((block t ht _).2.2.2.2.1 _ 0 _).rel0 ht)).cast rfl

theorem onTimeoutNowResult_rel (t : Nat) (ht : t ≠ 0) (s : Node) (src : Nat) (e : Bool) (r : Nat) :
    Rel t 0 s (s.onTimeoutNowResult src e r) := by
  unfold Node.onTimeoutNowResult
  extract_lets l0 t0 s1 s2 l1 t1
  have h0 : FK s s1 := fk_withLdr s _ rfl rfl rfl rfl
  have h2 : FK s s2 := by
    unfold s2
    split
    · split
      · exact h0.trans (fk_setRepl _ _)
      · exact h0
    · exact h0.trans (fk_panic _ _)
  split
  · split
    · exact (h2.trans (fk_tryTransfer _)).rel t
    · exact h2.rel t
  · split
    · split
      · exact h0.then (replyTransfer_rel t ht s1 _)
      · exact (h0.trans (fk_tryTransfer _)).rel t
    · refine (FK.trans h0 ?_).rel t
      exact fk_withLdr s1 _ rfl rfl rfl rfl

/-- `leader.init` overwrites the queue, the wait list and the transfer record: nothing may wait there -/
theorem leaderInit_rel (t : Nat) (ht : t ≠ 0) (s : Node) (hq : Quiet s) : Rel t 0 s s.leaderInit := by
  unfold Node.leaderInit
  extract_lets s1 s2 s3 s4
  have h1 : FK s s1 := fk_assert s _ _
  have hq1 : Quiet s1 := hq.congr h1.ldrKey
  have h2 : Rel t 0 s1 s2 := by
    apply rel_withLdr
    · show 0 + 0 + ind 0 t = _
      unfold cQ cW cT; rw [hq1.1, hq1.2.1, hq1.2.2]; rfl
    · intro _ _; rfl
  have h3 : FK s2 s3 := by
    apply fk_foldl
    intro x nd
    split
    · exact FK.refl x
    · exact fk_addReplication _ _
  have h4 : Rel t 0 s3 s4 := ((block t ht _).2.2.2.2.1 s3 0 _).rel0 ht
  have h5 : Rel t 0 s4 (storeEntry (fuelFor 1) s4 [{ typ := etNop }]) := by
    refine ((block t ht _).1 s4 _).cast ?_
    show 0 = [0].count t
    rw [count_singleton', ind_zero ht]
  exact (h1.then ((((h2.fk h3).trans h4).cast rfl).trans h5)).cast rfl

/-- `leader.release` after the transfer was answered: every queued entry and every waiting task is answered,
the record is reset -/
theorem leaderReleaseRest_rel (t : Nat) (ht : t ≠ 0) (s : Node) (h0 : s.ldr.transfer.task = 0) :
    Rel t 0 s s.leaderReleaseRest ∧ Quiet s.leaderReleaseRest := by
  unfold Node.leaderReleaseRest
  extract_lets s1 err s2 s3
  have h1 : FK s s1 := by unfold s1; split; exact fk_setLeader s 0; exact FK.refl s
  obtain ⟨a2, b2⟩ := rel_foldl_reply t ht (fun q : QItem => q.task) (fun _ _ => err) s1.ldr.queue s1
  obtain ⟨a3, b3⟩ := rel_foldl_reply t ht (fun x : Nat => x) (fun _ _ => err) s2.ldr.waitStable s2
  have a2 : Rel t ((s1.ldr.queue.map (·.task)).count t) s1 s2 := a2
  have a3 : Rel t (s2.ldr.waitStable.count t) s2 s3 := by simpa only [List.map_id'] using a3
  have b2 : s2.ldr = s1.ldr := b2
  have b3 : s3.ldr = s2.ldr := b3
  obtain ⟨_, k1, k2, k3, _, _, _⟩ := key_eq h1.same
  have h13 := h1.then (a2.trans a3)
  clear_value s3
  refine ⟨⟨h13.mono, fun hp => ?_, fun o => ⟨fun _ => rfl, (h13.ok o).2⟩⟩, rfl, rfl, rfl⟩
  have hc := h13.cnt hp
  rw [led_eq, led_eq, b3, b2, k1, k2, k3, h0, ind_zero ht] at hc
  show cA t s3 + (0 + 0 + ind 0 t + cP t s3 + cR t s3) = _
  rw [led_eq, h0, ind_zero ht]
  omega

theorem leaderRelease_rel (t : Nat) (ht : t ≠ 0) (s : Node) (ho : TransOK s) :
    Rel t 0 s s.leaderRelease ∧ Quiet s.leaderRelease := by
  unfold Node.leaderRelease
  split
  · obtain ⟨a, b⟩ := transferReply_rel t ht s s.releaseResult
    obtain ⟨c, d⟩ := leaderReleaseRest_rel t ht _ b
    exact ⟨(a.trans c).cast rfl, d⟩
  · rename_i ha
    exact leaderReleaseRest_rel t ht s (ho (by simpa using ha))

theorem onWaitForStable_rel (t : Nat) (ht : t ≠ 0) (s : Node) (task : Nat) :
    Rel t (ind task t) s (s.onWaitForStable task) := by
  unfold Node.onWaitForStable
  split
  · exact rel_reply t ht s _ _
  · apply rel_withLdr
    · show cQ t s + (s.ldr.waitStable ++ [task]).count t + cT t s = _
      rw [List.count_append, count_singleton']
      unfold cW; omega
    · exact id

/-- `leader.onChangeConfig`: the task is answered at once, or attached to `m ≥ 1` configuration changes -/
theorem onChangeConfig_rel (t : Nat) (ht : t ≠ 0) (s : Node) (task : Nat) (c : Config) :
    ∃ m, 1 ≤ m ∧ Rel t (m * ind task t) s (s.onChangeConfig task c) := by
  have hCA := (block t ht (fuelFor 0)).2.2.2.2.1 s task c
  have hDC := fun x => (block t ht (fuelFor 1)).2.2.2.1 x task c
  refine onChangeConfig_cases (P := fun x => ∃ m, 1 ≤ m ∧ Rel t (m * ind task t) s x) s task c
    (fun r => ⟨1, Nat.le_refl _, (rel_reply t ht s _ _).cast (Nat.one_mul _)⟩) fun _ => ?_
  dsimp only
  obtain ⟨m, r, hl⟩ := hCA
  refine ite_ind (P := fun x => ∃ m, 1 ≤ m ∧ Rel t (m * ind task t) s x)
    (fun _ => ⟨m + 1, by omega, r.trans' (hDC _) (by rw [Nat.add_mul, Nat.one_mul])⟩) fun hne => ⟨m, ?_, r⟩
  cases m with
  | zero => exact absurd (hl rfl) hne
  | succ k => omega

theorem replUpdLoop_rel (t : Nat) (ht : t ≠ 0) (s₀ : Node) :
    ∀ (us : List ReplUpdate) (s : Node) (f : UpdFlags), Rel t 0 s₀ s → Rel t 0 s₀ (replUpdLoop s f us).1 := by
  intro us
  induction us with
  | nil => intro s f h; exact h
  | cons u us ih =>
    intro s f h
    unfold replUpdLoop
    split
    · exact ih _ _ h
    · split
      · exact ih _ _ h
      · split
        · dsimp only
          apply ih
          split
          · exact ((h.fk (fk_setRepl s _)).trans (((block t ht _).2.2.2.2.2.1 _ 0 _ _).rel0 ht)).cast rfl
          · exact h.fk (fk_setRepl s _)
        · exact ih _ _ (h.fk (fk_setRepl _ _))
        · exact ih _ _ (h.fk (fk_setRepl _ _))
        · exact h.fk (((fk_setRole s _).trans (fk_setLeader _ _)).trans (fk_setTerm _ _))

theorem checkReplUpdates_rel (t : Nat) (ht : t ≠ 0) (s : Node) (us : List ReplUpdate) :
    Rel t 0 s (s.checkReplUpdates us) :=
  checkReplUpdates_of (P := Rel t 0 s) (fun f x h => (h.trans ((block t ht f).2.2.2.2.2.2.2 x)).cast rfl)
    (fun x h => h.fk (fk_checkQuorum x)) (fun x h => h.fk (fk_tryTransfer x)) s us
    (fun _ x h => h.fk (fk_checkLogCompact x)) (replUpdLoop_rel t ht s us s {} (Rel.refl t s))

theorem releaseRole_rel (t : Nat) (ht : t ≠ 0) (x : Node) (cur : Role) (ho : TransOK x) :
    Rel t 0 x (x.releaseRole cur) ∧ (cur ≠ .leader → ldrKey (x.releaseRole cur) = ldrKey x) ∧
    (cur = .leader → Quiet (x.releaseRole cur)) := by
  cases cur with
  | follower => exact ⟨Rel.refl t x, fun _ => rfl, fun h => by cases h⟩
  | candidate => exact ⟨(fk_withCandTransfer x false).rel t, fun _ => rfl, fun h => by cases h⟩
  | leader =>
    obtain ⟨a, b⟩ := leaderRelease_rel t ht x ho
    exact ⟨a, fun h => absurd rfl h, fun _ => b⟩

/-- the end of `Shutdown`: a running snapshot finishes and its result is delivered -/
theorem finish_relK (t : Nat) (ht : t ≠ 0) (x : Node) (ho : SnapOK x) :
    RelK t 0 x (if (if x.snapPending.isSome then x.snapRun else x).snapResult.isSome
      then (if x.snapPending.isSome then x.snapRun else x).onSnapshotTaken
      else (if x.snapPending.isSome then x.snapRun else x)) := by
  have h1 : RelK t 0 x (if x.snapPending.isSome then x.snapRun else x) := by
    split
    · exact snapRun_relK t x ho
    · exact (FK.refl x).relK t
  generalize (if x.snapPending.isSome then x.snapRun else x) = y at h1 ⊢
  split
  · exact h1.trans' (onSnapshotTaken_relK t ht _) (by omega)
  · exact h1

theorem shutdown_rel (t : Nat) (ht : t ≠ 0) (s : Node) (ho : OK s) :
    Rel t 0 s s.shutdown ∧ (s.role ≠ .leader → ldrKey s.shutdown = ldrKey s) ∧
    (s.role = .leader → Quiet s.shutdown) := by
  unfold Node.shutdown
  extract_lets s1 s2 s3
  have h1 : FK s s1 := fk_doClose s _
  have hr1 : s1.role = s.role := LC.role_doClose s _
  obtain ⟨a, b, c⟩ := releaseRole_rel t ht s1 s1.role (h1.rel t |>.ok ho).1
  have a : Rel t 0 s1 s2 := a
  have ho2 : OK s2 := a.ok ((h1.rel t).ok ho)
  obtain ⟨f1, f2⟩ := finish_relK t ht s2 ho2.2
  refine ⟨(h1.then (a.trans f1)).cast rfl, fun hne => ?_, fun hl => ?_⟩
  · exact f2.trans ((b (by rw [hr1]; exact hne)).trans h1.ldrKey)
  · exact (c (by rw [hr1]; exact hl)).congr f2

/-- the task ids an operation submits (0 = no client task) -/
def submittedRaw : Op → List Nat
  | .newEntries b => b.map (·.task)
  | .changeConfig t _ => [t]
  | .takeSnapshot t _ => [t]
  | .waitStable t => [t]
  | .transfer t _ => [t]
  | _ => []

/-- 1 for the task of a ChangeConfig request that a leader handles, else 0: the only task that the code
attaches to an unknown number of entries (see `block`) -/
def ccInd (s : Node) (op : Op) (t : Nat) : Nat :=
  match op with
  | .changeConfig task _ => if s.role = .leader then ind task t else 0
  | _ => 0

/-- a ChangeConfig request that carries no action is answered at once or attached to exactly one entry -/
theorem onChangeConfig_stable_rel (t : Nat) (ht : t ≠ 0) (s : Node) (task : Nat) (c : Config) (h : c.isStable = true) :
    Rel t (ind task t) s (s.onChangeConfig task c) := by
  have e : checkConfigActions (fuelFor 0) s task c = s.popOrder := C08.checkConfigActions_stable 62 s task c h
  refine onChangeConfig_cases s task c (fun r => rel_reply t ht s _ _) fun _ => ?_
  dsimp only
  rw [e]
  exact ite_ind (fun _ => (fk_popOrder s).then ((block t ht _).2.2.2.1 _ task c)) fun hne => absurd rfl hne

/-- `handle`, with the number `m + 1` of entries a leader's ChangeConfig task is attached to as a parameter -/
theorem handle_rel_m (t : Nat) (ht : t ≠ 0) (s : Node) (op : Op) (ho : OK s) (m : Nat)
    (hcc : ∀ task c, op = .changeConfig task c → s.role = .leader →
      Rel t ((m + 1) * ind task t) s (s.onChangeConfig task c)) :
    Rel t ((submittedRaw op).count t + m * ccInd s op t) s (s.handle op) ∧
    (s.role ≠ .leader → ldrKey (s.handle op) = ldrKey s) := by
  have z : ([] : List Nat).count t + m * 0 = 0 := by rw [List.count_nil]; omega
  have frame : ∀ {x : Node}, FK s x → Rel t (([] : List Nat).count t + m * 0) s x ∧
      (s.role ≠ .leader → ldrKey x = ldrKey s) := fun h => ⟨(h.rel t).cast z, fun _ => h.ldrKey⟩
  have one : ∀ {x : Node} {task : Nat}, RelK t (ind task t) s x →
      Rel t ([task].count t + m * 0) s x ∧ (s.role ≠ .leader → ldrKey x = ldrKey s) :=
    fun h => ⟨h.1.cast (by rw [count_singleton']; omega), fun _ => h.2⟩
  cases op <;> unfold Node.handle <;> dsimp only [submittedRaw, ccInd]
  case vote q => exact frame ((fk_onVoteRequest s q).trans (fk_rpcDone _ _ _))
  case append q => exact frame ((fk_onAppendEntries s q).trans (fk_rpcDone _ _ _))
  case install q => exact frame ((fk_onInstallSnap s q).trans (fk_rpcDone _ _ _))
  case timeoutNow => exact frame ((fk_onTimeoutNow s).trans (fk_rpcDone _ _ _))
  case identity a b c => exact frame (fk_withRpcReply s _)
  case disconnected n =>
    split
    · exact frame (fk_setLeader s 0)
    · exact frame (FK.refl s)
  case timeout =>
    split
    · exact frame (fk_followerTimeout s)
    · exact frame (fk_startElection s)
    · exact frame (fk_checkQuorum s)
  case newEntries b =>
    split
    · rename_i hl
      exact ⟨((block t ht _).1 s b).cast (by omega), fun h => absurd hl h⟩
    · obtain ⟨a, b'⟩ := rejectEntries_relK t ht b s
      exact ⟨a.cast (by omega), fun _ => b'⟩
  case changeConfig task c =>
    split
    · rename_i hl
      refine ⟨(hcc task c rfl hl).cast ?_, fun h => absurd hl h⟩
      rw [count_singleton', Nat.add_mul, Nat.one_mul]; omega
    · exact one (bootstrap_relK t ht s task c)
  case takeSnapshot task th => exact one (onTakeSnapshot_relK t ht s task th)
  case snapRun =>
    obtain ⟨a, b⟩ := snapRun_relK t s ho.2
    exact ⟨a.cast z, fun _ => b⟩
  case snapTaken =>
    obtain ⟨a, b⟩ := onSnapshotTaken_relK t ht s
    exact ⟨a.cast z, fun _ => b⟩
  case waitStable task =>
    split
    · rename_i hl
      exact ⟨(onWaitForStable_rel t ht s task).cast (by rw [count_singleton']; omega), fun h => absurd hl h⟩
    · exact one (relK_reply t ht s task _)
  case transfer task target =>
    split
    · rename_i hl
      exact ⟨(onTransfer_rel t ht s task target ho.1).cast (by rw [count_singleton']; omega), fun h => absurd hl h⟩
    · exact one (relK_reply t ht s task _)
  case voteResult e tm r =>
    split
    · exact frame (fk_onVoteResult s e tm r)
    · exact frame (FK.refl s)
  case replUpdates us =>
    split
    · rename_i hl
      exact ⟨(checkReplUpdates_rel t ht s us).cast z, fun h => absurd hl h⟩
    · exact frame (FK.refl s)
  case transferTimeout =>
    split
    · rename_i hl
      exact ⟨(replyTransfer_rel t ht s _).cast z, fun h => absurd hl.1 h⟩
    · exact frame (FK.refl s)
  case timeoutNowResult a b c =>
    split
    · rename_i hl
      exact ⟨(onTimeoutNowResult_rel t ht s a b c).cast z, fun h => absurd hl.1 h⟩
    · exact frame (FK.refl s)
  case newTermTimeout =>
    split
    · rename_i hl
      refine ⟨((FK.trans ?_ (fk_tryTransfer _)).rel t).cast z, fun h => absurd hl.1 h⟩
      exact fk_withLdr s _ rfl rfl rfl rfl
    · exact frame (FK.refl s)
  case shutdown =>
    obtain ⟨a, b, _⟩ := shutdown_rel t ht s ho
    exact ⟨a.cast z, b⟩

theorem exists_cc (t : Nat) (ht : t ≠ 0) (s : Node) (op : Op) :
    ∃ m, ∀ task c, op = .changeConfig task c → s.role = .leader →
      Rel t ((m + 1) * ind task t) s (s.onChangeConfig task c) := by
  cases op
  case changeConfig task c =>
    obtain ⟨m, hm, r⟩ := onChangeConfig_rel t ht s task c
    refine ⟨m - 1, fun task' c' e _ => ?_⟩
    injection e with e1 e2
    subst e1; subst e2
    exact r.cast (by rw [Nat.sub_add_cancel hm])
  all_goals exact ⟨0, fun task c e => by cases e⟩

/-- `settle`: the role transitions after a handler. While the role whose `init` ran last is not the leader role,
nothing waits in the leader places. -/
theorem settle_rel (t : Nat) (ht : t ≠ 0) (n : Nat) (x : Node) (cur : Role) (ho : OK x) (hq : cur ≠ .leader → Quiet x) :
    Rel t 0 x (settle (n + 3) x cur) ∧ ((settle (n + 3) x cur).role ≠ .leader → Quiet (settle (n + 3) x cur)) := by
  refine LC.settle_induct (Q := fun s cur => Rel t 0 x s ∧ OK s ∧ (cur ≠ .leader → Quiet s))
    (R := fun s => Rel t 0 x s ∧ (s.role ≠ .leader → Quiet s))
    (fun s cur h e => ⟨h.1, fun hr => h.2.2 (by rw [← e]; exact hr)⟩) (fun s cur ⟨r0, ho, hq⟩ _ => ?_) n x cur
    ⟨Rel.refl t x, ho, hq⟩
  obtain ⟨a, b, c⟩ := releaseRole_rel t ht s cur ho.1
  have hq1 : Quiet (s.releaseRole cur) := by
    by_cases hc : cur = .leader
    · exact c hc
    · exact (hq hc).congr (b hc)
  have ho1 : OK (s.releaseRole cur) := a.ok ho
  have hinit : Rel t 0 (s.releaseRole cur) (s.releaseRole cur).initRole ∧
      ((s.releaseRole cur).role ≠ .leader → Quiet (s.releaseRole cur).initRole) := by
    unfold Node.initRole
    split
    · exact ⟨Rel.refl t _, fun _ => hq1⟩
    · exact ⟨(fk_startElection _).rel t, fun _ => hq1.congr (fk_startElection _).ldrKey⟩
    · rename_i hl
      exact ⟨leaderInit_rel t ht _ hq1, fun h => absurd hl h⟩
  obtain ⟨i1, i2⟩ := hinit
  exact ⟨((r0.trans a).trans i1).cast rfl, i1.ok ho1, i2⟩

theorem step_rel_m (t : Nat) (ht : t ≠ 0) (s : Node) (op : Op) (ra : List Nat) (ord : List (List Nat))
    (ho : OK s) (hq : s.role ≠ .leader → Quiet s) (m : Nat)
    (hcc : ∀ task c, op = .changeConfig task c → s.role = .leader →
      Rel t ((m + 1) * ind task t) (s.begin ra ord) ((s.begin ra ord).onChangeConfig task c)) :
    OK (s.step op ra ord) ∧ ((s.step op ra ord).role ≠ .leader → Quiet (s.step op ra ord)) ∧
    ((s.step op ra ord).panicked = none →
      led t (s.step op ra ord) = pendCount t s + (submittedRaw op).count t + m * ccInd s op t) := by
  have hb : led t (s.begin ra ord) = pendCount t s := by
    show 0 + pendCount t s = _
    omega
  have hob : OK (s.begin ra ord) := ho
  have hqb : (s.begin ra ord).role ≠ .leader → Quiet (s.begin ra ord) := hq
  obtain ⟨r, hk⟩ := handle_rel_m t ht (s.begin ra ord) op hob m hcc
  by_cases hs : op = .shutdown
  · subst hs
    rw [step_shutdown]
    obtain ⟨a, b, c⟩ := shutdown_rel t ht (s.begin ra ord) hob
    refine ⟨a.ok hob, fun hr => ?_, fun hp => ?_⟩
    · by_cases hl : (s.begin ra ord).role = .leader
      · exact c hl
      · exact (hqb hl).congr (b hl)
    · rw [a.cnt hp, hb]; rfl
  · rw [step_eq_settle s op ra ord hs]
    have hq' : s.role ≠ .leader → Quiet ((s.begin ra ord).handle op) := fun h => (hqb h).congr (hk h)
    obtain ⟨a, b⟩ := settle_rel t ht 3 ((s.begin ra ord).handle op) s.role (r.ok hob) hq'
    refine ⟨a.ok (r.ok hob), b, fun hp => ?_⟩
    have hc := (r.trans a).cnt hp
    rw [hc, hb]
    show _ = pendCount t s + (submittedRaw op).count t + m * ccInd (s.begin ra ord) op t
    omega

/-- **The ledger through one step.** For a task id `t ≠ 0`, from a state whose ledger is well-formed (`OK`, and
nothing waits in the leader places of a non-leader): the new state is well-formed again, and unless the step
failed, the occurrences of `t` among the answers of the step and the pending places afterwards are: those among
the pending places before, plus those among the submitted tasks, plus `m` more for the task of a ChangeConfig
request handled by a leader (for some `m`; in the proof `m + 1` is the number of configuration changes the request
was attached to). -/
theorem step_rel (t : Nat) (ht : t ≠ 0) (s : Node) (op : Op) (ra : List Nat) (ord : List (List Nat))
    (ho : OK s) (hq : s.role ≠ .leader → Quiet s) :
    OK (s.step op ra ord) ∧ ((s.step op ra ord).role ≠ .leader → Quiet (s.step op ra ord)) ∧
    ∃ m, (s.step op ra ord).panicked = none →
      led t (s.step op ra ord) = pendCount t s + (submittedRaw op).count t + m * ccInd s op t := by
  obtain ⟨m, hm⟩ := exists_cc t ht (s.begin ra ord) op
  obtain ⟨a, b, c⟩ := step_rel_m t ht s op ra ord ho hq m hm
  exact ⟨a, b, m, c⟩

/-- a ChangeConfig request that carries no action: the exact count -/
theorem step_rel_stable (t : Nat) (ht : t ≠ 0) (s : Node) (task : Nat) (c : Config) (ra : List Nat) (ord : List (List Nat))
    (ho : OK s) (hq : s.role ≠ .leader → Quiet s) (hst : c.isStable = true)
    (hp : (s.step (.changeConfig task c) ra ord).panicked = none) :
    led t (s.step (.changeConfig task c) ra ord) = pendCount t s + [task].count t := by
  have := (step_rel_m t ht s (.changeConfig task c) ra ord ho hq 0 (fun task' c' e _ => by
    injection e with e1 e2
    subst e1; subst e2
    exact (onChangeConfig_stable_rel t ht _ task c hst).cast (by omega))).2.2 hp
  rw [this]
  show pendCount t s + [task].count t + 0 * _ = pendCount t s + [task].count t
  omega

/-! ### one configuration change per request, when no change commits alone

With two anchors (two voters without pending action) every configuration a request can lead to has at least two
voters, so the leader never commits the entry it has just stored inside the same call; the stored configuration
stays uncommitted, `canChangeConfig` is false for the rest of the call, and no second change can start with the
request's task. -/

/-- the fields `canChangeConfig`, the single-voter test and the log end read -/
def ck (s : Node) :=
  (s.configs, s.ldr.transfer.active, s.commitIndex, s.ldr.startIndex, s.lastLogIndex, s.ldr.numVoters, s.ldr.node)

theorem ck_eq {s s' : Node} (h : ck s' = ck s) :
    s'.configs = s.configs ∧ s'.ldr.transfer.active = s.ldr.transfer.active ∧ s'.commitIndex = s.commitIndex ∧
    s'.ldr.startIndex = s.ldr.startIndex ∧ s'.lastLogIndex = s.lastLogIndex ∧
    s'.ldr.numVoters = s.ldr.numVoters ∧ s'.ldr.node = s.ldr.node := by
  unfold ck at h
  simp only [Prod.mk.injEq] at h
  exact h

theorem canChange_congr {s s' : Node} (h : ck s' = ck s) : s'.canChangeConfig = s.canChangeConfig := by
  obtain ⟨a, b, c, d, _⟩ := ck_eq h
  unfold Node.canChangeConfig
  rw [a, b, c, d]

theorem ck_panic (s : Node) (site : String) : ck (s.panic site) = ck s := by rw [panic_shape]; rfl

theorem ck_reply (s : Node) (t : Nat) (r : String) : ck (s.reply t r) = ck s := by rw [reply_shape]; rfl

theorem fsmFrame_ck : FsmFrame ck := ⟨ck_panic, ck_reply, fun _ _ => rfl⟩

theorem ck_assert (s : Node) (b : Bool) (site : String) : ck (s.assert b site) = ck s := fsmFrame_ck.assert_eq s b site

theorem ck_applyCommittedL (s : Node) : ck s.applyCommittedL = ck s := by
  unfold Node.applyCommittedL
  dsimp only
  rw [fsmFrame_ck.fsmApply_eq]
  rfl

theorem ck_notifyFlr (s : Node) : ck s.notifyFlr = ck s := by rw [notifyFlr_shape]; rfl

theorem ck_setRepl (s : Node) (r : Repl) : ck (s.setRepl r) = ck s := rfl

theorem ck_addReplication (s : Node) (n : CNode) : ck (s.addReplication n) = ck s := by
  unfold Node.addReplication
  dsimp only
  rw [ck_setRepl]
  split
  · exact ck_assert s _ _
  · rw [ck_panic]; exact ck_assert s _ _

structure BL (s s' : Node) : Prop where
  fk : FK s s'
  ck : ck s' = ck s

theorem BL.refl (s : Node) : BL s s := ⟨FK.refl s, rfl⟩
theorem BL.trans {s s' s'' : Node} (h₁ : BL s s') (h₂ : BL s' s'') : BL s s'' :=
  ⟨h₁.fk.trans h₂.fk, h₂.ck.trans h₁.ck⟩
theorem bl_panic (s : Node) (site : String) : BL s (s.panic site) := ⟨fk_panic s site, ck_panic s site⟩
theorem bl_setRepl (s : Node) (r : Repl) : BL s (s.setRepl r) := ⟨fk_setRepl s r, rfl⟩
theorem bl_popOrder (s : Node) : BL s s.popOrder := ⟨fk_popOrder s, rfl⟩

theorem bl_foldl {β : Type} (f : Node → β → Node) (P : Node → Prop) (hP : ∀ s s', P s → BL s s' → P s')
    (hf : ∀ s x, P s → BL s (f s x)) (xs : List β) (s : Node) (hs : P s) : BL s (xs.foldl f s) := by
  induction xs generalizing s with
  | nil => exact BL.refl s
  | cons x xs ih => exact (hf s x hs).trans (ih _ (hP _ _ hs (hf s x hs)))

/-- `checkConfigAction` when configuration changes are blocked: bookkeeping of rounds only -/
theorem ca_blocked (fuel : Nat) (s : Node) (task : Nat) (c : Config) (id : Nat) (h : s.canChangeConfig = false) :
    BL s (checkConfigAction fuel s task c id) := by
  rcases C08.checkConfigAction_blocked fuel s task c id h with e | ⟨r, e⟩ | e <;> rw [e]
  · exact BL.refl s
  · exact bl_setRepl s r
  · exact bl_panic s _

/-- …and `checkConfigActions` -/
theorem cas_blocked (fuel : Nat) (s : Node) (task : Nat) (c : Config) (h : s.canChangeConfig = false) :
    BL s (checkConfigActions fuel s task c) := by
  cases fuel with
  | zero => unfold checkConfigActions; exact bl_panic s _
  | succ n =>
    rw [C08.checkConfigActions_blocked n s task c h]
    refine (bl_popOrder s).trans (bl_foldl _ (fun x => x.canChangeConfig = false)
      (fun x x' hx hb => by rw [canChange_congr hb.ck]; exact hx) ?_ _ _ (by rw [canChange_congr (bl_popOrder s).ck]; exact h))
    intro x a hx
    split
    · exact ca_blocked n x task c a hx
    · exact BL.refl x

/-- the outcome of a call that stored a configuration with `n ≥ 2` voters at index `L`: the step has failed, or
configuration changes are blocked -/
def Blk (n L : Nat) (s : Node) : Prop :=
  s.panicked ≠ none ∨ (s.canChangeConfig = false ∧ s.lastLogIndex = L ∧ s.ldr.numVoters = n)

theorem Blk.of_ck {n L : Nat} {s s' : Node} (h : Blk n L s) (hm : s.panicked ≠ none → s'.panicked ≠ none)
    (e : ck s' = ck s) : Blk n L s' := by
  rcases h with h | h
  · exact Or.inl (hm h)
  · obtain ⟨_, _, _, _, e5, e6, _⟩ := ck_eq e
    exact Or.inr ⟨by rw [canChange_congr e]; exact h.1, by rw [e5]; exact h.2.1, by rw [e6]; exact h.2.2⟩

theorem Blk.bl {n L : Nat} {s s' : Node} (h : Blk n L s) (b : BL s s') : Blk n L s' := h.of_ck b.fk.mono b.ck

theorem Blk.failed {n L : Nat} {s : Node} (h : s.panicked ≠ none) : Blk n L s := Or.inl h

/-- `leader.changeConfig` with a configuration whose index differs from the latest one's: afterwards the latest
configuration is not committed -/
theorem changeConfigL_blk (fuel : Nat) (s : Node) (c : Config) (hidx : c.index ≠ s.configs.latest.index) :
    Blk c.numVoters s.lastLogIndex (changeConfigL fuel s c) := by
  cases fuel with
  | zero => unfold changeConfigL; exact Blk.failed (panic_panicked_ne s _)
  | succ n =>
    unfold changeConfigL
    extract_lets src1 s1 s2 src2 s3 s4
    have h2 : Blk c.numVoters s.lastLogIndex s2 := by
      refine Or.inr ⟨?_, ?_, ?_⟩
      · have hcfg : s2.configs = { committed := s.configs.latest, latest := c } := by
          unfold s2 Node.changeConfigR; dsimp only; split <;> rfl
        unfold Node.canChangeConfig Configs.isCommitted
        rw [hcfg]
        have : (c.index == s.configs.latest.index) = false := by simpa using hidx
        simp only [this, Bool.false_and]
      · unfold s2 Node.changeConfigR; dsimp only; split <;> rfl
      · unfold s2 Node.changeConfigR; dsimp only; split <;> rfl
    have b3 : BL s2 s3 := ⟨fk_withLdr s2 _ rfl rfl rfl rfl, rfl⟩
    have b4 : BL s3 s4 := by
      refine ⟨fk_foldl _ ?_ _ _, Frame.foldl_eq (proj := ck) _ ?_ _ _⟩
      · intro x nd; split
        · exact FK.refl x
        · split
          · exact fk_addReplication _ _
          · exact fk_setRepl _ _
      · intro x nd; split
        · rfl
        · split
          · exact ck_addReplication _ _
          · rfl
    rcases (h2.bl b3).bl b4 with h4 | h4
    · exact Blk.failed (((block 1 (by omega) n).2.2.2.2.1 s4 0 _).rel0 (by omega) |>.mono h4)
    · exact Blk.bl (Or.inr h4) (cas_blocked n s4 0 _ h4.1)

theorem fk_beginNotify (s : Node) : FK s s.beginFinishedRounds.notifyFlr :=
  (fk_beginFinishedRounds s).trans (fk_notifyFlr _)

theorem ck_beginNotify (s : Node) : ck s.beginFinishedRounds.notifyFlr = ck s := by
  rw [ck_notifyFlr]; rfl

/-- `doChangeConfig` by a leader that may change the configuration, is a voter, and whose new configuration has at
least two voters: the entry is stored at the next index and stays uncommitted -/
theorem dc_blk (fuel : Nat) (s : Node) (task : Nat) (c : Config) (hc : s.canChangeConfig = true)
    (hv : s.ldr.node.voter = true) (hl : s.configs.latest.index ≤ s.lastLogIndex) (h2 : 2 ≤ c.numVoters) :
    Blk c.numVoters (s.lastLogIndex + 1) (doChangeConfig fuel s task c) := by
  have ha : s.ldr.transfer.active = false := by
    unfold Node.canChangeConfig at hc
    simp only [Bool.and_eq_true, Bool.not_eq_true', decide_eq_true_eq] at hc
    exact hc.1.2
  cases fuel with
  | zero => unfold doChangeConfig; exact Blk.failed (panic_panicked_ne s _)
  | succ f =>
    unfold doChangeConfig
    cases f with
    | zero => unfold storeEntry; exact Blk.failed (panic_panicked_ne s _)
    | succ f' =>
      unfold storeEntry
      extract_lets lastIndex s1 s2 s3 s4
      have h1 : Blk c.numVoters (s.lastLogIndex + 1) s1 := by
        unfold s1
        cases f' with
        | zero => unfold storeItems; exact Blk.failed (panic_panicked_ne s _)
        | succ f'' =>
          unfold storeItems
          dsimp only
          rw [storeItems_nil, if_neg (by rw [ha]; exact Bool.false_ne_true), if_neg (by rw [hv]; decide),
            if_pos (by decide), if_pos rfl]
          unfold QItem.toEntry Entry.config?
          dsimp only
          rw [if_pos rfl]
          simp only [Option.map_some]
          refine changeConfigL_blk f'' _ _ ?_
          rw [NoPanic.appendEntry_configs]
          show s.lastLogIndex + 1 ≠ s.configs.latest.index
          omega
      have hm12 : s1.panicked ≠ none → s2.panicked ≠ none := by
        intro h; unfold s2; split
        · split
          · exact (applyCommittedL_rel 1 (by omega) s1).mono h
          · exact h
        · exact h
      have hk12 : ck s2 = ck s1 := by
        unfold s2; split
        · split
          · exact ck_applyCommittedL s1
          · rfl
        · rfl
      have h2' : Blk c.numVoters (s.lastLogIndex + 1) s2 := h1.of_ck hm12 hk12
      have h4 : Blk c.numVoters (s.lastLogIndex + 1) s4 := h2'.of_ck (fk_beginNotify s2).mono (ck_beginNotify s2)
      split
      · split
        · rename_i hsingle
          rcases h4 with h4 | h4
          · exact Blk.failed (((block 1 (by omega) f').2.2.2.2.2.2.2 s4).mono h4)
          · rw [h4.2.2] at hsingle; omega
        · exact h4
      · exact h2'

/-- what `doChangeConfig` needs of the state: a leader whose latest configuration is committed is a voter of it
(by its cached own entry), and the latest configuration is in the log -/
def Hs (s : Node) : Prop :=
  (s.configs.isCommitted = true → s.ldr.node.voter = true) ∧ s.configs.latest.index ≤ s.lastLogIndex

theorem Hs.congr {s s' : Node} (h : Hs s) (e : ck s' = ck s) : Hs s' := by
  obtain ⟨a, _, _, _, b, _, c⟩ := ck_eq e
  unfold Hs; rw [a, b, c]; exact h

theorem isCommitted_of_canChange {s : Node} (h : s.canChangeConfig = true) : s.configs.isCommitted = true := by
  unfold Node.canChangeConfig at h
  simp only [Bool.and_eq_true] at h
  exact h.1.1

/-- a change was started after the log end was `L`: the step has failed, or changes are blocked and the log grew -/
def After (L : Nat) (x : Node) : Prop := x.panicked ≠ none ∨ (x.canChangeConfig = false ∧ L < x.lastLogIndex)

theorem After.of_blk {n L : Nat} {x : Node} (h : Blk n (L + 1) x) : After L x := by
  rcases h with h | h
  · exact Or.inl h
  · exact Or.inr ⟨h.1, by rw [h.2.1]; omega⟩

/-- the configuration `checkConfigAction` proposes keeps the anchors -/
theorem anchored_actionConfig {id : Nat} {c c' : Config} {li : Nat} {st : Repl} (h : NoPanic.AnchoredT true c)
    (hn : (c.get id).nextAction ≠ actNone)
    (ha : actionConfig li c (c.get id) (c.get id).nextAction st = some c') : NoPanic.AnchoredT true c' := by
  rcases NoPanic.actionConfig_cases hn ha with ⟨n', e, rfl⟩ | rfl
  · exact h.set n' (Or.inl (by rw [e]; exact hn))
  · exact h.erase id (Or.inl hn)

theorem dc_after (t : Nat) (ht : t ≠ 0) (fuel : Nat) (s : Node) (task : Nat) (c : Config) (hH : Hs s)
    (hc : s.canChangeConfig = true) (hA : NoPanic.AnchoredT true c) :
    Rel t (ind task t) s (doChangeConfig fuel s task c) ∧ After s.lastLogIndex (doChangeConfig fuel s task c) :=
  ⟨(block t ht fuel).2.2.2.1 s task c,
   After.of_blk (dc_blk fuel s task c hc (hH.1 (isCommitted_of_canChange hc)) hH.2
     (NoPanic.numVoters_of_anchored2 (hA.2 rfl)))⟩

/-- `checkConfigAction`: nothing but round bookkeeping, or exactly one configuration change after which changes
are blocked -/
theorem ca_once (t : Nat) (ht : t ≠ 0) (fuel : Nat) (s : Node) (task : Nat) (c : Config) (id : Nat) (hH : Hs s)
    (hA : NoPanic.AnchoredT true c) :
    BL s (checkConfigAction fuel s task c id) ∨
    (Rel t (ind task t) s (checkConfigAction fuel s task c id) ∧
      After s.lastLogIndex (checkConfigAction fuel s task c id)) := by
  cases fuel with
  | zero => unfold checkConfigAction; exact Or.inl (bl_panic s _)
  | succ n =>
    unfold checkConfigAction
    dsimp only
    split
    · exact Or.inl (BL.refl s)
    · split
      · exact Or.inl (BL.refl s)
      · rename_i hact
        split
        · exact Or.inl (bl_setRepl s _)
        · split
          · exact Or.inl (bl_setRepl s _)
          · rename_i hcan
            split
            · rename_i c'' hac
              right
              have hcan' : (s.setRepl (roundStep s.lastLogIndex (c.get id).nextAction ‹Repl›).1).canChangeConfig = true := by
                simpa using hcan
              have hH1 : Hs (s.setRepl (roundStep s.lastLogIndex (c.get id).nextAction ‹Repl›).1) := hH.congr rfl
              obtain ⟨r, a⟩ := dc_after t ht n _ task c'' hH1 hcan' (anchored_actionConfig hA hact hac)
              exact ⟨(fk_setRepl s _).then r, a⟩
            · exact Or.inl (bl_setRepl s _)

/-- after a change was started: `checkConfigAction` starts no other -/
theorem ca_after (t : Nat) (ht : t ≠ 0) (fuel : Nat) (x : Node) (task : Nat) (c : Config) (id : Nat) (L : Nat)
    (h : After L x) :
    Rel t 0 x (checkConfigAction fuel x task c id) ∧ After L (checkConfigAction fuel x task c id) := by
  rcases h with h | h
  · obtain ⟨m, r, _⟩ := (block t ht fuel).2.2.2.2.2.1 x task c id
    exact ⟨r.of_failed (r.mono h), Or.inl (r.mono h)⟩
  · have b := ca_blocked fuel x task c id h.1
    refine ⟨b.fk.rel t, Or.inr ⟨by rw [canChange_congr b.ck]; exact h.1, ?_⟩⟩
    rw [(ck_eq b.ck).2.2.2.2.1]; exact h.2

/-- a loop whose steps start no change once one was started -/
theorem fold_after (t : Nat) (f : Node → Nat → Node) (L : Nat)
    (hf : ∀ x a, After L x → Rel t 0 x (f x a) ∧ After L (f x a)) (xs : List Nat) (x : Node) (h : After L x) :
    Rel t 0 x (xs.foldl f x) ∧ After L (xs.foldl f x) := by
  induction xs generalizing x with
  | nil => exact ⟨Rel.refl t x, h⟩
  | cons a as ih =>
    obtain ⟨r1, a1⟩ := hf x a h
    obtain ⟨r2, a2⟩ := ih _ a1
    exact ⟨(r1.trans r2).cast rfl, a2⟩

/-- a loop whose steps each start at most one change, and none after one was started, starts at most one -/
theorem fold_once (t k : Nat) (f : Node → Nat → Node)
    (hf : ∀ x a, Hs x → BL x (f x a) ∨ (Rel t k x (f x a) ∧ After x.lastLogIndex (f x a)))
    (hg : ∀ L x a, After L x → Rel t 0 x (f x a) ∧ After L (f x a)) (xs : List Nat) (x : Node) (hH : Hs x) :
    BL x (xs.foldl f x) ∨ (Rel t k x (xs.foldl f x) ∧ After x.lastLogIndex (xs.foldl f x)) := by
  induction xs generalizing x with
  | nil => exact Or.inl (BL.refl x)
  | cons a as ih =>
    rw [List.foldl_cons]
    rcases hf x a hH with b | ⟨r, af⟩
    · have hl : (f x a).lastLogIndex = x.lastLogIndex := (ck_eq b.ck).2.2.2.2.1
      rcases ih _ (hH.congr b.ck) with b2 | ⟨r2, a2⟩
      · exact Or.inl (b.trans b2)
      · exact Or.inr ⟨b.fk.then r2, by rw [← hl]; exact a2⟩
    · obtain ⟨r2, a2⟩ := fold_after t f x.lastLogIndex (hg _) as _ af
      exact Or.inr ⟨(r.trans r2).cast rfl, a2⟩

/-- `checkConfigActions` with two anchors: no configuration change, or exactly one -/
theorem cas_once (t : Nat) (ht : t ≠ 0) (fuel : Nat) (s : Node) (task : Nat) (c : Config) (hH : Hs s)
    (hA : NoPanic.AnchoredT true c) :
    BL s (checkConfigActions fuel s task c) ∨
    (Rel t (ind task t) s (checkConfigActions fuel s task c) ∧
      After s.lastLogIndex (checkConfigActions fuel s task c)) := by
  cases fuel with
  | zero => unfold checkConfigActions; exact Or.inl (bl_panic s _)
  | succ n =>
    unfold checkConfigActions
    extract_lets nd c1 c2 r
    have hr : (BL s r.1 ∧ r.2 = c) ∨ (Rel t (ind task t) s r.1 ∧ After s.lastLogIndex r.1) := by
      unfold r
      split
      · rename_i hcond
        have hcan : s.canChangeConfig = true := hcond.1
        have hact : (c.get s.nid).action ≠ actNone := hcond.2
        have hid : (c.get s.nid).id = s.nid := by
          rcases NoPanic.get_id c s.nid with e | e
          · exact e
          · rw [e] at hact; exact absurd rfl hact
        split
        · right
          refine dc_after t ht n s task c1 hH hcan ?_
          exact hA.set _ (Or.inr (by show (c.get (c.get s.nid).id).action ≠ actNone; rw [hid]; exact hact))
        · split
          · right
            exact dc_after t ht n s task c2 hH hcan (hA.erase s.nid (Or.inr hact))
          · exact Or.inl ⟨bl_panic s _, rfl⟩
      · exact Or.inl ⟨BL.refl s, rfl⟩
    rcases hr with ⟨b, e⟩ | ⟨r1, a1⟩
    · rw [e]
      have bp : BL s r.1.popOrder := b.trans (bl_popOrder _)
      have hl : r.1.popOrder.lastLogIndex = s.lastLogIndex := (ck_eq bp.ck).2.2.2.2.1
      rcases fold_once t (ind task t) (fun x id => match x.findRepl? id with
            | some _ => checkConfigAction n x task c id
            | none => x)
          (fun x a hx => by
            split
            · exact ca_once t ht n x task c a hx hA
            · exact Or.inl (BL.refl x))
          (fun L x a h => by
            split
            · exact ca_after t ht n x task c a L h
            · exact ⟨Rel.refl t x, h⟩) r.1.replOrder r.1.popOrder (hH.congr bp.ck) with b2 | ⟨r2, a2⟩
      · exact Or.inl (bp.trans b2)
      · exact Or.inr ⟨bp.fk.then r2, by rw [← hl]; exact a2⟩
    · have a1' : After s.lastLogIndex r.1.popOrder := by
        rcases a1 with h | h
        · exact Or.inl h
        · exact Or.inr h
      obtain ⟨r2, a2⟩ := fold_after t (fun x id => match x.findRepl? id with
          | some _ => checkConfigAction n x task r.2 id
          | none => x) s.lastLogIndex
        (fun x a h => by
          split
          · exact ca_after t ht n x task r.2 a _ h
          · exact ⟨Rel.refl t x, h⟩) r.1.replOrder r.1.popOrder a1'
      exact Or.inr ⟨((r1.fk (fk_popOrder _)).trans r2).cast rfl, a2⟩

/-- **`leader.onChangeConfig` with two anchors**: the task is answered at once, or attached to exactly one
configuration entry -/
theorem onChangeConfig_two_rel (t : Nat) (ht : t ≠ 0) (s : Node) (task : Nat) (c : Config) (hH : Hs s)
    (hu : NoPanic.UserCfg true s.nid c) : Rel t (ind task t) s (s.onChangeConfig task c) := by
  refine onChangeConfig_cases s task c (fun r => rel_reply t ht s _ _) fun ad => ?_
  dsimp only
  have h7' : c.nodes.any (fun n => n.voter && n.action == actNone) = true := by simpa using ad.anchor
  have hA : NoPanic.AnchoredT true c := NoPanic.anchoredT_of_sorted hu.1 h7' hu.2.2
  have hDC := fun x => (block t ht (fuelFor 1)).2.2.2.1 x task c
  rcases cas_once t ht (fuelFor 0) s task c hH hA with b | ⟨r, a⟩
  · rw [if_pos (ck_eq b.ck).2.2.2.2.1]
    exact b.fk.then (hDC _)
  · rcases a with hp | ⟨_, hlt⟩
    · exact ite_ind
        (fun _ => (r.trans (hDC _)).of_failed ((hDC _).mono hp))
        fun _ => r
    · rw [if_neg (by omega)]
      exact r

/-- the ledger through one step of a leader with two anchors handling any operation: the exact count -/
theorem step_rel_two (t : Nat) (ht : t ≠ 0) (s : Node) (op : Op) (ra : List Nat) (ord : List (List Nat))
    (ho : OK s) (hq : s.role ≠ .leader → Quiet s)
    (hcc : ∀ task c, op = .changeConfig task c → s.role = .leader → Hs s ∧ NoPanic.UserCfg true s.nid c)
    (hp : (s.step op ra ord).panicked = none) :
    led t (s.step op ra ord) = pendCount t s + (submittedRaw op).count t := by
  have := (step_rel_m t ht s op ra ord ho hq 0 (fun task c e hl => by
    obtain ⟨a, b⟩ := hcc task c e hl
    exact (onChangeConfig_two_rel t ht (s.begin ra ord) task c a b).cast (by omega))).2.2 hp
  rw [this]; omega

end TL
end Node
end Raft
