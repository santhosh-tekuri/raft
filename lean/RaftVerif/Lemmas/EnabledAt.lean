/-
What `Commit.Enabled` and `SysInv.EnabledG` ask of an operation, as ONE function of the operation (namespace `SysInv`).
`Commit.Enabled` is a conjunction spread over three nested structures: `id`, `real`, `ok`, `ok2`, and clauses of the form
`∀ q, op = .vote q → …`, of which `EnabledG` adds two more; for a given kind of operation all but one or two of the
latter are void. `enabled_iff`
says so once; whoever delivers a concrete operation (the liveness chain, the witness runs) states only what is left.
The clauses are written so that `EnabledAt` is decidable on a concrete state: a witness run checks it by evaluation.
-/
import RaftVerif.Lemmas.SysInv

namespace Raft
namespace SysInv
open Node LogRel CommitRel Commit

/-- what is asked of one report of a replication delivered to node `i` -/
def UpdAt (x : Commit.Sys) (i : Nat) (u : ReplUpdate) : Prop :=
  match u.upd with
  | .matchIndex v => v = 0 ∨ ∃ a ∈ x.acks, a.voter = u.id ∧ a.term = (x.node i).term ∧ v ≤ a.index
  | .newTerm v => (x.node i).role = .leader → u.removed = false → (x.node i).term ≤ v
  | .removeLTE _ => False
  | .noContact _ => True

/-- what is asked of `op` delivered to node `i` (a vote response attributed to `src`) in state `x` -/
def EnabledAt (x : Commit.Sys) (i src : Nat) : Op → Prop
  | .vote q => q.src ≠ 0 ∧ (q.term < (x.node i).term ∨
      ({ cand := q.src, term := q.term, lastIndex := q.lastLogIndex, lastTerm := q.lastLogTerm } : Camp) ∈ x.camps)
  | .append q => (q.term < (x.node i).term ∨ q ∈ x.rp.sent) ∧ q.src ≠ i
  | .voteResult e tm res => (x.node i).role = .candidate → e = false → tm ≤ (x.node i).term → res = rSuccess →
      Election.RealReply x.rp.el i src
  | .newEntries b => NoCfg b
  | .replUpdates us => ∀ u ∈ us, UpdAt x i u
  | .timeoutNowResult s err _ => (x.node i).role = .leader → (x.node i).ldr.transfer.respPending = true →
      err = true → ((x.node i).findRepl? s).isSome = true
  | .changeConfig _ _ | .install _ | .snapRun | .snapTaken | .shutdown => False
  | _ => True

instance (x : Election.Sys) (i src : Nat) : Decidable (Election.RealReply x i src) := by
  unfold Election.RealReply; infer_instance

instance (b : List QItem) : Decidable (NoCfg b) := by unfold NoCfg; infer_instance

instance (x : Commit.Sys) (i : Nat) (u : ReplUpdate) : Decidable (UpdAt x i u) := by
  unfold UpdAt; split <;> infer_instance

instance (x : Commit.Sys) (i src : Nat) (op : Op) : Decidable (EnabledAt x i src op) := by
  cases op <;> unfold EnabledAt <;> infer_instance

theorem enabled_iff {x : Commit.Sys} {i src : Nat} {op : Op} :
    (Commit.Enabled x i op src ∧ EnabledG x i op) ↔ i ≠ 0 ∧ EnabledAt x i src op := by
  constructor
  · rintro ⟨⟨⟨hi, h1, h2, h3, h4⟩, ⟨_, h5, h6⟩, h7, h8, h9⟩, ⟨g1, g2⟩⟩
    refine ⟨hi, ?_⟩
    cases op with
    | vote q => exact ⟨h1 q rfl, h7 q rfl⟩
    | append q => exact ⟨h4 q rfl, h8 q rfl⟩
    | voteResult e tm res => exact fun hr he ht hres => h2 ⟨hr, tm, ht, by rw [he, hres]⟩
    | newEntries b => exact h5 b rfl
    | replUpdates us =>
      intro u hu
      unfold UpdAt
      split
      · next v hv => exact h9 us rfl u hu v hv
      · next v hv => exact fun hl hr => g1 us rfl hl u hu hr v hv
      · next v hv => exact h3 u hu v hv
      · trivial
    | timeoutNowResult s err r => exact fun hl hp he => Option.isSome_iff_ne_none.mpr (g2 s err r rfl hl hp he)
    | changeConfig t c => exact h6 t c rfl
    | install q => exact h3
    | snapRun => exact h3
    | snapTaken => exact h3
    | shutdown => exact h3
    | _ => trivial
  · rintro ⟨hi, h⟩
    -- `nofun`: a clause about another constructor; `nc`: nothing but a vote response is counted
    have nc : (∀ e tm res, op ≠ .voteResult e tm res) → Counts (x.node i) op → Election.RealReply x.rp.el i src :=
      fun hne c => absurd c (not_counts hne)
    cases op with
    | vote q =>
      exact ⟨⟨⟨hi, fun _ e => (by cases e; exact h.1), nc nofun, trivial, nofun⟩, ⟨trivial, nofun, nofun⟩,
        fun _ e => (by cases e; exact h.2), nofun, nofun⟩, ⟨nofun, nofun⟩⟩
    | append q =>
      exact ⟨⟨⟨hi, nofun, nc nofun, trivial, fun _ e => (by cases e; exact h.1)⟩, ⟨trivial, nofun, nofun⟩,
        nofun, fun _ e => (by cases e; exact h.2), nofun⟩, ⟨nofun, nofun⟩⟩
    | voteResult e tm res =>
      refine ⟨⟨⟨hi, nofun, fun ⟨hr, tm', ht, e'⟩ => ?_, trivial, nofun⟩, ⟨trivial, nofun, nofun⟩,
        nofun, nofun, nofun⟩, ⟨nofun, nofun⟩⟩
      cases e'
      exact h hr rfl ht rfl
    | newEntries b =>
      exact ⟨⟨⟨hi, nofun, nc nofun, trivial, nofun⟩, ⟨trivial, fun _ e => (by cases e; exact h), nofun⟩,
        nofun, nofun, nofun⟩, ⟨nofun, nofun⟩⟩
    | replUpdates us =>
      have at' : ∀ u ∈ us, ∀ w, u.upd = w → UpdAt x i { u with upd := w } := fun u hu w e => e ▸ h u hu
      have hc : NoCompact us := fun u hu v hv => at' u hu _ hv
      exact ⟨⟨⟨hi, nofun, nc nofun, hc, nofun⟩, ⟨hc, nofun, nofun⟩, nofun, nofun,
        fun _ e u hu v hv => (by cases e; exact at' u hu _ hv)⟩,
        ⟨fun _ e hl u hu hr v hv => (by cases e; exact at' u hu _ hv hl hr), nofun⟩⟩
    | timeoutNowResult s err r =>
      exact ⟨⟨⟨hi, nofun, nc nofun, trivial, nofun⟩, ⟨trivial, nofun, nofun⟩, nofun, nofun, nofun⟩,
        ⟨nofun, fun _ _ _ e hl hp he => (by cases e; exact Option.isSome_iff_ne_none.mp (h hl hp he))⟩⟩
    | changeConfig t c => exact h.elim
    | install q => exact h.elim
    | snapRun => exact h.elim
    | snapTaken => exact h.elim
    | shutdown => exact h.elim
    | _ =>
      exact ⟨⟨⟨hi, nofun, nc nofun, trivial, nofun⟩, ⟨trivial, nofun, nofun⟩, nofun, nofun, nofun⟩, ⟨nofun, nofun⟩⟩

end SysInv
end Raft
