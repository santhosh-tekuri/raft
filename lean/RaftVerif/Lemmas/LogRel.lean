/-
Node-level two-state facts about the log, for the cluster-level log-matching proof (Sys/Replication.lean,
Props/C04Sys.lean).

Setting: no snapshot is ever taken or installed and the log is never compacted (`NWF`, Lemmas/LogBase.lean).

* `LClosed` — a guarded variant of `Closed` (Lemmas/Inv.lean): the `append` primitive is only used for an
  entry with index `lastLogIndex + 1` and the node's current term; `HI b` is the instance "relative to `b`: same term,
  the log is the log of `b` plus entries of that term, every new crash point holds a prefix of the current log";
* `leader_step` — for every operation other than an append request (and the excluded snapshot operations):
  the log after `Node.step` is the log before plus entries of ONE term `te`, and if any entry was added the
  node was leader of `te` before the step, or counted the last missing vote in this step, or elected itself
  with a quorum of one in this step (`Story`); every crash point of the step holds a prefix of the old or of
  the new log;
* `follower_step` — for an append request whose entries form a path in `T` attached at `prevLogIndex` with
  term `prevLogTerm`: the log after the step (and at every crash point) is again a path in `T`.
-/
import RaftVerif.Lemmas.LogBase
import RaftVerif.Lemmas.FollowerSpec
import RaftVerif.Lemmas.RoleRel
import RaftVerif.Lemmas.LocalA
import RaftVerif.Lemmas.HandleKind
import RaftVerif.Lemmas.Shape
import RaftVerif.Props.C05
import RaftVerif.Props.C04

namespace Raft
namespace LogRel
open Node

/-- Like `Closed` (Lemmas/Inv.lean), but `append` is only required for the entry the leader code actually
appends: index `lastLogIndex + 1`, term = the node's current term. -/
structure LClosed (Inv : Node → Prop) : Prop where
  panic : ∀ s site, Inv s → Inv (s.panic site)
  reply : ∀ s t r, Inv s → Inv (s.reply t r)
  point : ∀ s n, Inv s → Inv (s.point n)
  ldr : ∀ (s : Node) l, Inv s → Inv (s.withLdr l)
  append : ∀ (s : Node) e roll, Inv s → e.index = s.lastLogIndex + 1 → e.term = s.term →
    Inv { s with log := s.log.append e roll, lastLogIndex := e.index, lastLogTerm := e.term }
  commitN : ∀ (s : Node) n, Inv s → Inv { s with log := s.log.commitN n }
  fsm : ∀ (s : Node) f, Inv s → Inv (s.withFsm f)
  changeConfigR : ∀ (s : Node) c, Inv s → Inv (s.changeConfigR c)
  setCommitIndexR : ∀ (s : Node) i, Inv s → i > s.commitIndex → Inv (s.setCommitIndexR i).1
  popOrder : ∀ (s : Node), Inv s → Inv s.popOrder

theorem assert_term (s : Node) (b : Bool) (site : String) : (s.assert b site).term = s.term :=
  (SameKey.assert s b site).term

namespace LClosed

variable {Inv : Node → Prop} (h : LClosed Inv)
include h

theorem assert_inv (s : Node) (b : Bool) (site : String) (hs : Inv s) : Inv (s.assert b site) :=
  assert_of h.panic s b site hs

theorem appendEntry_inv (s : Node) (e : Entry) (hs : Inv s) (hi : e.index = s.lastLogIndex + 1)
    (ht : e.term = s.term) : Inv (s.appendEntry e) := by
  unfold Node.appendEntry
  refine h.append _ _ _ (h.assert_inv _ _ _ hs) ?_ ?_
  · rw [(assert_fields s _ _).2.1]; exact hi
  · rw [assert_term]; exact ht

theorem setRepl_inv (s : Node) (r : Repl) (hs : Inv s) : Inv (s.setRepl r) := by
  unfold Node.setRepl; exact h.ldr _ _ hs

/-- the one guard used is that of `appendEntry`: the leader appends the next index in its own term -/
theorem toGuarded : Guarded Inv where
  panic := h.panic
  reply := h.reply
  point := h.point
  ldrK := fun s l hs _ _ _ => h.ldr s l hs
  replsG := fun s _ hs _ => h.ldr s _ hs
  appendEntry := h.appendEntry_inv
  commitN := h.commitN
  fsmLog := fsmApplyLogTo_of h.panic h.fsm
  fsmItems := fsmApplyItems_of h.panic h.fsm h.reply
  changeConfigR := h.changeConfigR
  setCommitIndexR := h.setCommitIndexR
  popOrder := h.popOrder

theorem block (fuel : Nat) : Block Inv Inv (fun _ s => Inv s) fuel := h.toGuarded.block fuel

theorem checkConfigAction_l (f : Nat) (s : Node) (t c id) (hs : Inv s) : Inv (checkConfigAction f s t c id) :=
  (h.block f).checkConfigAction s t c id hs
theorem onMajorityCommit_l (f : Nat) (s : Node) (hs : Inv s) : Inv (onMajorityCommit f s) :=
  (h.block f).onMajorityCommit s hs

theorem tryTransfer_l (s : Node) (hs : Inv s) : Inv s.tryTransfer :=
  h.toGuarded.tryTransfer_of (fun s l hs _ _ => h.ldr s l hs) s hs

theorem leaderInit_l (s : Node) (hs : Inv s) : Inv s.leaderInit := h.toGuarded.leaderInit_of h.ldr s hs

end LClosed

def Core (s : Node) : NLog × Nat × Nat × Nat × List SnapFile × Nat × Nat × List (String × Durable) :=
  (s.log, s.lastLogIndex, s.lastLogTerm, s.snapIndex, s.snapsDisk, s.term, s.durTerm, s.trace)

/-- a disk content recorded at a crash point: no snapshot, the log starts at 1 and holds a prefix of `es`,
the durable term is `t` -/
def PtNew (t : Nat) (es : List Entry) (d : Durable) : Prop :=
  d.snaps = [] ∧ d.log.prev = 0 ∧ d.log.entries <+: es ∧ d.term = t

/-- Relative to `b` (the state a leader handler starts from): well-formed, same term in memory and on
disk, the log is the log of `b` plus entries of that term, and every crash point recorded since holds a
prefix of the current log. -/
structure HI (b s : Node) : Prop where
  nwf : NWF s
  term : s.term = b.term
  dur : s.durTerm = b.durTerm
  ext : ∃ es, s.log.entries = b.log.entries ++ es ∧ ∀ e ∈ es, e.term = b.term
  tr : ∀ p ∈ s.trace, p ∈ b.trace ∨ PtNew b.durTerm s.log.entries p.2

theorem hi_congr {b s s' : Node} (h : HI b s) (e : Core s' = Core s) : HI b s' := by
  unfold Core at e
  simp only [Prod.mk.injEq] at e
  obtain ⟨e1, e2, e3, e4, e5, e6, e7, e8⟩ := e
  obtain ⟨a, b', c, d, f⟩ := h
  refine ⟨nwf_congr a e1 e2 e3 e4 e5, by rw [e6]; exact b', by rw [e7]; exact c, by rw [e1]; exact d, ?_⟩
  rw [e8, e1]; exact f

theorem hi_refl (b : Node) (h : NWF b) : HI b b :=
  ⟨h, rfl, rfl, ⟨[], by simp, fun e he => by cases he⟩, fun p hp => Or.inl hp⟩

theorem core_panic (s : Node) (site : String) : Core (s.panic site) = Core s := by
  unfold Node.panic; split <;> rfl

theorem core_reply (s : Node) (t : Nat) (r : String) : Core (s.reply t r) = Core s := by
  unfold Node.reply; split <;> rfl

theorem core_changeConfigR (s : Node) (c : Config) : Core (s.changeConfigR c) = Core s := by
  unfold Node.changeConfigR; dsimp only; split <;> rfl

theorem core_commitConfig (s : Node) : Core s.commitConfig = Core s := by
  unfold Node.commitConfig; dsimp only; split <;> rfl

theorem core_stepDown (s : Node) : Core s.stepDownIfNotVoter = Core s := by
  unfold Node.stepDownIfNotVoter; split <;> rfl

theorem core_doClose (s : Node) (r : String) : Core (s.doClose r) = Core s := by
  unfold Node.doClose; split <;> rfl

theorem core_closeIfRemoved (s : Node) : Core s.closeIfRemoved = Core s := by
  unfold Node.closeIfRemoved; split
  · exact core_doClose _ _
  · rfl

theorem core_setCommitIndexR (s : Node) (i : Nat) : Core (s.setCommitIndexR i).1 = Core s := by
  unfold Node.setCommitIndexR
  split
  · show Core (s.withCommitIndex i).commitConfig.stepDownIfNotVoter.closeIfRemoved = _
    rw [core_closeIfRemoved, core_stepDown, core_commitConfig]; rfl
  · rfl

theorem hi_point {b s : Node} (n : String) (h : HI b s) : HI b (s.point n) :=
  ⟨nwf_congr h.nwf rfl rfl rfl rfl rfl, h.term, h.dur, h.ext,
    Traced.step (D := fun p => p ∈ b.trace ∨ PtNew b.durTerm s.log.entries p.2) h.tr (rec_point s n)
      fun _ => Or.inr ⟨h.nwf.snaps, h.nwf.prev, List.take_prefix _ _, h.dur⟩⟩

theorem hi_closed (b : Node) : LClosed (HI b) where
  panic := fun s site h => hi_congr h (core_panic s site)
  reply := fun s t r h => hi_congr h (core_reply s t r)
  point := fun s n h => hi_point n h
  ldr := fun s l h => hi_congr h rfl
  append := fun s e roll h hi ht => by
    obtain ⟨a, b', c, ⟨es, d1, d2⟩, f⟩ := h
    obtain ⟨p1, p2⟩ := append_parts s.log e roll
    have hi' : e.index = s.log.entries.length + 1 := by rw [hi, a.last]
    refine ⟨⟨a.snapIndex, a.snaps, ?_, ?_, ?_, ?_⟩, b', c, ⟨es ++ [e], ?_, ?_⟩, ?_⟩
    · show (s.log.append e roll).prev = 0
      rw [p1]; exact a.prev
    · show ∀ k (hk : k < (s.log.append e roll).entries.length), (s.log.append e roll).entries[k].index = k + 1
      rw [p2]; exact contig_append a.contig e hi'
    · show e.index = (s.log.append e roll).entries.length
      rw [p2, List.length_append, hi']; rfl
    · show e.term = lastTerm (s.log.append e roll).entries
      rw [p2, lastTerm_append_singleton]
    · show (s.log.append e roll).entries = _
      rw [p2, d1, List.append_assoc]
    · intro x hx
      rcases List.mem_append.mp hx with hx | hx
      · exact d2 x hx
      · rw [List.mem_singleton.mp hx, ht, b']
    · intro p hp
      rcases f p hp with hp' | ⟨q1, q2, q3, q4⟩
      · exact Or.inl hp'
      · right
        refine ⟨q1, q2, ?_, q4⟩
        show _ <+: (s.log.append e roll).entries
        rw [p2]
        exact List.IsPrefix.trans q3 (List.prefix_append _ _)
  commitN := fun s n h => by
    obtain ⟨a, b', c, d, f⟩ := h
    obtain ⟨p1, p2⟩ := commitN_parts s.log n
    refine ⟨nwf_same_entries a p1 p2 rfl rfl rfl rfl, b', c, ?_, ?_⟩
    · show ∃ es, (s.log.commitN n).entries = _ ∧ _
      rw [p2]; exact d
    · show ∀ p ∈ s.trace, p ∈ b.trace ∨ PtNew b.durTerm (s.log.commitN n).entries p.2
      rw [p2]; exact f
  fsm := fun s f h => hi_congr h rfl
  changeConfigR := fun s c h => hi_congr h (core_changeConfigR s c)
  setCommitIndexR := fun s i h _ => hi_congr h (core_setCommitIndexR s i)
  popOrder := fun s h => hi_congr h rfl

def LCore (s : Node) : NLog × Nat × Nat × Nat × List SnapFile :=
  (s.log, s.lastLogIndex, s.lastLogTerm, s.snapIndex, s.snapsDisk)

/-- Relative to `b`: log, cached last coordinates and snapshot data are those of `b`; every crash point
recorded since holds the durable part of that log. -/
structure SL (b s : Node) : Prop where
  core : LCore s = LCore b
  tr : ∀ p ∈ s.trace, p ∈ b.trace ∨ (p.2.log = b.log.durable ∧ p.2.snaps = b.snapsDisk)

theorem sl_refl (b : Node) : SL b b := ⟨rfl, fun _ hp => Or.inl hp⟩

theorem sl_congr {b s s' : Node} (h : SL b s) (e : LCore s' = LCore s) (et : s'.trace = s.trace) : SL b s' :=
  ⟨e.trans h.core, by rw [et]; exact h.tr⟩

theorem sl_trans {a b c : Node} (h1 : SL a b) (h2 : SL b c) : SL a c := by
  refine ⟨h2.core.trans h1.core, fun p hp => ?_⟩
  have e := h1.core
  unfold LCore at e
  simp only [Prod.mk.injEq] at e
  rcases h2.tr p hp with hp' | ⟨q1, q2⟩
  · exact h1.tr p hp'
  · right; rw [q1, q2, e.1, e.2.2.2.2]; exact ⟨rfl, rfl⟩

theorem sl_ret {b s : Node} (r : Nat) (h : SL b s) : SL b (s.ret r) := sl_congr h rfl rfl
theorem sl_ldr {b s : Node} (l : Leader) (h : SL b s) : SL b (s.withLdr l) := sl_congr h rfl rfl
theorem sl_popOrder {b s : Node} (h : SL b s) : SL b s.popOrder := sl_congr h rfl rfl

theorem lcore_quiet (b : Node) (op : Op) : QuietClosed op fun s => LCore s = LCore b where
  panic := fun s site h => by rw [panic_shape]; exact h
  setRole := fun _ _ h _ => h
  setLeader := fun _ _ h => h
  ret := fun _ _ h => h
  rpcReply := fun _ _ h => h
  votesNeeded := fun _ _ h => h
  candTransfer := fun _ _ h => h
  setTerm := fun s t h => by rw [setTerm_shape]; exact h
  vote := fun s t c h _ => by rw [setVotedFor_shape]; exact h
  reply := fun s t r h => by rw [reply_shape]; exact h
  snapPending := fun _ _ h => h

/-- the clause about the crash images from the other: the disk of a state with `b`'s log and snapshots -/
theorem sl_quiet (b : Node) (op : Op) : QuietClosed op (SL b) := by
  have e : (fun s => LCore s = LCore b ∧
      Traced (fun p => p ∈ b.trace ∨ (p.2.log = b.log.durable ∧ p.2.snaps = b.snapsDisk)) s) = SL b :=
    funext fun s => propext ⟨fun h => ⟨h.1, h.2⟩, fun h => ⟨h.core, h.tr⟩⟩
  refine e ▸ (lcore_quiet b op).traced fun s n h => Or.inr ?_
  unfold LCore at h
  simp only [Prod.mk.injEq] at h
  show s.log.durable = _ ∧ s.snapsDisk = _
  rw [h.1, h.2.2.2.2]; exact ⟨rfl, rfl⟩

theorem core_releaseRole (s : Node) (r : Role) : Core (s.releaseRole r) = Core s :=
  releaseRole_of (P := fun x => Core x = Core s) (fun _ _ hx => hx)
    (Node.leaderRelease_of (fun _ _ hx _ _ _ _ _ _ => hx) (fun x t r hx => (core_reply x t r).trans hx)
      (fun _ _ hx => hx) (fun _ hx => hx)) s r rfl

/-- Like `HI` without the term: the log is the log of `b` plus entries of `b`'s term, every crash point
recorded since holds a prefix of the current log. -/
structure HJ (b s : Node) : Prop where
  nwf : NWF s
  ext : ∃ es, s.log.entries = b.log.entries ++ es ∧ ∀ e ∈ es, e.term = b.term
  tr : ∀ p ∈ s.trace, p ∈ b.trace ∨ (p.2.snaps = [] ∧ p.2.log.prev = 0 ∧ p.2.log.entries <+: s.log.entries)

theorem HI.toHJ {b s : Node} (h : HI b s) : HJ b s :=
  ⟨h.nwf, h.ext, fun p hp => (h.tr p hp).imp id (fun ⟨a, b', c, _⟩ => ⟨a, b', c⟩)⟩

/-- an update that leaves the log and the snapshot fields alone, whatever it records (Lemmas/Traced.lean) -/
theorem hj_rec {b s s' : Node} (h : HJ b s) (e : LCore s' = LCore s) (r : Rec s s') : HJ b s' := by
  unfold LCore at e
  simp only [Prod.mk.injEq] at e
  obtain ⟨e1, e2, e3, e4, e5⟩ := e
  have a := nwf_congr h.nwf e1 e2 e3 e4 e5
  refine ⟨a, by rw [e1]; exact h.ext, ?_⟩
  rw [e1]
  refine Traced.step (D := fun p => p ∈ b.trace ∨ (p.2.snaps = [] ∧ p.2.log.prev = 0 ∧ p.2.log.entries <+: s.log.entries))
    h.tr r fun _ => Or.inr ⟨a.snaps, a.prev, ?_⟩
  show s'.log.durable.entries <+: _
  rw [e1]; exact List.take_prefix _ _

theorem hj_congr {b s s' : Node} (h : HJ b s) (e : LCore s' = LCore s) (et : s'.trace = s.trace) : HJ b s' :=
  hj_rec h e (.of_eq et)

theorem hj_setTerm {b s : Node} (t : Nat) (h : HJ b s) : HJ b (s.setTerm t) :=
  hj_rec h (by rw [setTerm_shape]; rfl) (rec_setTerm s t)

theorem hj_of_sl {b s : Node} (hb : NWF b) (h : SL b s) : HJ b s := by
  have e := h.core
  unfold LCore at e
  simp only [Prod.mk.injEq] at e
  obtain ⟨e1, e2, e3, e4, e5⟩ := e
  refine ⟨nwf_congr hb e1 e2 e3 e4 e5, ⟨[], by rw [e1]; simp, fun e he => by cases he⟩, fun p hp => ?_⟩
  rcases h.tr p hp with hp' | ⟨q1, q2⟩
  · exact Or.inl hp'
  · right
    rw [q1, q2, e1]
    exact ⟨hb.snaps, hb.prev, List.take_prefix _ _⟩

theorem hi_checkQuorum {b s : Node} (h : HI b s) : HI b s.checkQuorum :=
  checkQuorum_of (fun x site hx => hi_congr hx (core_panic x site)) (fun _ hx => hi_congr hx rfl)
    (fun _ _ hx => hi_congr hx rfl) s h

/-- no update of the batch reports a compaction (`removeLTE`) -/
def NoCompact (us : List ReplUpdate) : Prop := ∀ u ∈ us, ∀ v, u.upd ≠ .removeLTE v

theorem replUpdLoop_hi {b : Node} (us : List ReplUpdate) (hus : NoCompact us) :
    ∀ (s : Node) (f : UpdFlags), HI b s → f.removeLTEU = false →
    (replUpdLoop s f us).2.removeLTEU = false ∧
    (((replUpdLoop s f us).2.stop = f.stop ∧ HI b (replUpdLoop s f us).1) ∨
     ((replUpdLoop s f us).2.stop = true ∧ HJ b (replUpdLoop s f us).1)) := by
  induction us with
  | nil => intro s f hs hf; exact ⟨hf, Or.inl ⟨rfl, hs⟩⟩
  | cons u us ih =>
    intro s f hs hf
    have hus' : NoCompact us := fun x hx => hus x (List.mem_cons_of_mem _ hx)
    have hu := hus u (List.mem_cons_self ..)
    have L := hi_closed b
    unfold replUpdLoop
    split
    · exact ih hus' s f hs hf
    · split
      · exact ih hus' s f hs hf
      · rename_i st hst
        split
        · rename_i v hv
          dsimp only
          have h1 : HI b (s.setRepl { st with matchIndex := v }) := L.setRepl_inv _ _ hs
          have := ih hus' (if ¬ st.node.voter = true ∧ st.node.action ≠ actNone
              then checkConfigAction (fuelFor 0) (s.setRepl { st with matchIndex := v }) 0
                (s.setRepl { st with matchIndex := v }).configs.latest st.id
              else s.setRepl { st with matchIndex := v }) { f with matchU := true }
            (by split; exact L.checkConfigAction_l _ _ _ _ _ h1; exact h1) hf
          simpa using this
        · rename_i v hv
          exact absurd hv (hu v)
        · rename_i v hv
          exact ih hus' _ { f with noContactU := true } (L.setRepl_inv _ _ hs) hf
        · rename_i v hv
          refine ⟨hf, Or.inr ⟨rfl, ?_⟩⟩
          exact hj_setTerm v (hj_congr hs.toHJ rfl rfl)

theorem checkReplUpdates_hj {b s : Node} (us : List ReplUpdate) (hus : NoCompact us) (hs : HI b s) :
    HJ b (s.checkReplUpdates us) := by
  have L := hi_closed b
  unfold Node.checkReplUpdates
  extract_lets r s1 f s2 s3 s4
  obtain ⟨k1, k2⟩ := replUpdLoop_hi (b := b) us hus s {} hs rfl
  split
  · rcases k2 with ⟨_, k⟩ | ⟨_, k⟩
    · exact k.toHJ
    · exact k
  · rename_i hstop
    rcases k2 with ⟨_, k⟩ | ⟨k0, _⟩
    · have h2 : HI b s2 := by unfold s2; split; exact L.onMajorityCommit_l _ _ k; exact k
      have h3 : HI b s3 := by unfold s3; split; exact hi_checkQuorum h2; exact h2
      have h4 : HI b s4 := by
        unfold s4
        rw [if_neg]
        · exact h3
        · intro hc
          have : f.removeLTEU = true := hc.1
          have k1' : f.removeLTEU = false := k1
          rw [k1'] at this; cases this
      split
      · exact (L.tryTransfer_l _ h4).toHJ
      · exact h4.toHJ
    · exact absurd k0 hstop

/-- The operations covered: everything except installing, taking and publishing snapshots (which also
excludes `shutdown`, because `Raft.release` completes a pending snapshot) and replication updates that report
a compaction. (Append requests are covered by `follower_step`.) -/
def OpOK : Op → Prop
  | .install _ => False
  | .snapRun => False
  | .snapTaken => False
  | .shutdown => False
  | .replUpdates us => NoCompact us
  | _ => True

/-- What a handler did to the log: nothing (`same`), or — in a leader — it appended entries of the term the
handler started with, and did not promote the node (`ldr`). -/
inductive HRes (b h : Node) : Prop
  | same : SL b h → HRes b h
  | ldr : b.role = .leader → HJ b h → Down b h → HRes b h

theorem handle_res (b : Node) (op : Op) (hn : NWF b) (hboot : b.configs.isBootstrapped = true)
    (hok : OpOK op) (happ : ∀ q, op ≠ .append q) : HRes b (b.handle op) := by
  cases handle_kind b op with
  | quiet q => exact .same (q _ (sl_quiet b op) (sl_refl b))
  | ldr hr c =>
    by_cases hu : ∀ us, op ≠ .replUpdates us
    · exact .ldr hr (c.block hu (hi_closed b).toGuarded (fun s l hs _ _ => (hi_closed b).ldr s l hs) (hi_refl b hn)).toHJ
        (c.block hu (down_closed b).toClosed.toGuarded (fun s l hs _ _ => (down_closed b).ldr s l hs) (Down.refl b))
    · generalize b.handle op = h at c ⊢
      cases c with
      | repl us =>
        exact .ldr hr (checkReplUpdates_hj us hok (hi_refl b hn)) ((down_closed b).checkReplUpdates_g _ _ (Down.refl b))
      | _ => exact absurd (fun us e => by cases e) hu
  | special sp =>
    cases sp with
    | append q => exact absurd rfl (happ q)
    | bootstrap t c _ hb => rw [hboot] at hb; cases hb
    | _ => exact hok.elim

/-- Why a node appended entries of term `te` to its own log in a step: it was leader of `te` before the
step, or it was candidate of `te` and counted the last missing vote in this step, or it moved to the higher
term `te` in this step and won at once because the quorum of its latest configuration is one (it was
candidate already, or it is a voter of that configuration). -/
def Story (pre : Node) (op : Op) (te : Nat) : Prop :=
  (pre.role = .leader ∧ te = pre.term) ∨
  (Counts pre op ∧ pre.votesNeeded - 1 = 0 ∧ te = pre.term) ∨
  (te > pre.term ∧ pre.configs.latest.quorum = 1 ∧
    (pre.role = .candidate ∨ pre.configs.latest.isVoter pre.nid = true))

/-- a disk content at a crash point of the step: no snapshot, the log starts at 1 and holds a prefix of the
log before the step, or a prefix of the log after the step and then the durable term is at least `te` -/
def PtOK (pre post : Node) (te : Nat) (d : Durable) : Prop :=
  d.snaps = [] ∧ d.log.prev = 0 ∧
  (d.log.entries <+: pre.log.entries ∨ (d.log.entries <+: post.log.entries ∧ te ≤ d.term))

/-- The log after the step is the log before plus entries of one term `te ≤` the new term; if there are
any, `Story` tells why and the node is not a candidate afterwards; every crash point is `PtOK`. -/
structure LStep (pre : Node) (op : Op) (post : Node) : Prop where
  nwf : NWF post
  ext : ∃ es te, post.log.entries = pre.log.entries ++ es ∧ (∀ e ∈ es, e.term = te) ∧ te ≤ post.term ∧
      (es ≠ [] → Story pre op te ∧ post.role ≠ .candidate) ∧ ∀ p ∈ post.trace, PtOK pre post te p.2

theorem sl_core {b s s' : Node} (h : SL b s) (e : Core s' = Core s) : SL b s' := by
  unfold Core at e
  simp only [Prod.mk.injEq] at e
  obtain ⟨e1, e2, e3, e4, e5, _, _, e8⟩ := e
  refine sl_congr h ?_ e8
  unfold LCore; rw [e1, e2, e3, e4, e5]

theorem hj_core {b s s' : Node} (h : HJ b s) (e : Core s' = Core s) : HJ b s' := by
  unfold Core at e
  simp only [Prod.mk.injEq] at e
  obtain ⟨e1, e2, e3, e4, e5, _, _, e8⟩ := e
  refine hj_congr h ?_ e8
  unfold LCore; rw [e1, e2, e3, e4, e5]

theorem core_term {s s' : Node} (e : Core s' = Core s) : s'.term = s.term := by
  unfold Core at e
  simp only [Prod.mk.injEq] at e
  exact e.2.2.2.2.2.1

theorem lstep_sl {b post : Node} (op : Op) (hn : NWF b) (htr : b.trace = []) (hsl : SL b post)
    (hterm : b.term ≤ post.term) : LStep b op post := by
  have hj := hj_of_sl hn hsl
  have e := hsl.core
  unfold LCore at e
  simp only [Prod.mk.injEq] at e
  refine ⟨hj.nwf, [], b.term, (by rw [e.1]; simp), (fun e he => by cases he), hterm, fun h => absurd rfl h, ?_⟩
  intro p hp
  rcases hsl.tr p hp with hp' | ⟨q1, q2⟩
  · rw [htr] at hp'; cases hp'
  · refine ⟨by rw [q2]; exact hn.snaps, by rw [q1]; exact hn.prev, Or.inl ?_⟩
    rw [q1]; exact List.take_prefix _ _

theorem lstep_hj {b post : Node} (op : Op) (htr : b.trace = []) (hj : HJ b post) (hr : b.role = .leader)
    (hnc : post.role ≠ .candidate) (hdur : ∀ p ∈ post.trace, b.term ≤ p.2.term) (hterm : b.term ≤ post.term) :
    LStep b op post := by
  obtain ⟨es, h1, h2⟩ := hj.ext
  refine ⟨hj.nwf, es, b.term, h1, h2, hterm, fun _ => ⟨Or.inl ⟨hr, rfl⟩, hnc⟩, ?_⟩
  intro p hp
  rcases hj.tr p hp with hp' | ⟨q1, q2, q3⟩
  · rw [htr] at hp'; cases hp'
  · exact ⟨q1, q2, Or.inr ⟨q3, hdur p hp⟩⟩

theorem lstep_init {b x post : Node} (op : Op) (hn : NWF b) (htr : b.trace = []) (hsl : SL b x)
    (hwf : C05.VoteWF x) (hstory : Story b op x.term)
    (hpost : InitTail x post) : LStep b op post := by
  have hnx := (hj_of_sl hn hsl).nwf
  have hi : HI x x.leaderInit := (hi_closed x).leaderInit_l x (hi_refl x hnx)
  have hcore : Core post = Core x.leaderInit ∧ post.role ≠ .candidate := by
    rcases hpost with ⟨r, e⟩ | ⟨r, e⟩
    · rw [e]; exact ⟨rfl, by rw [r]; decide⟩
    · rw [e]
      exact ⟨core_releaseRole _ _, by rw [(SameKey.releaseRole _ _).role, r]; decide⟩
  obtain ⟨hcore, hnc⟩ := hcore
  have hi' : HI x post := hi_congr hi hcore
  obtain ⟨es, h1, h2⟩ := hi'.ext
  have e := hsl.core
  unfold LCore at e
  simp only [Prod.mk.injEq] at e
  refine ⟨hi'.nwf, es, x.term, by rw [h1, e.1], h2, by rw [hi'.term]; exact Nat.le_refl _,
    fun _ => ⟨hstory, hnc⟩, ?_⟩
  intro p hp
  rcases hi'.tr p hp with hp' | ⟨q1, q2, q3, q4⟩
  · rcases hsl.tr p hp' with hp'' | ⟨r1, r2⟩
    · rw [htr] at hp''; cases hp''
    · refine ⟨by rw [r2]; exact hn.snaps, by rw [r1]; exact hn.prev, Or.inl ?_⟩
      rw [r1]; exact List.take_prefix _ _
  · exact ⟨q1, q2, Or.inr ⟨q3, by rw [q4, hwf.1]; exact Nat.le_refl _⟩⟩

/-- only a leader's handlers write the log, and they start no election -/
theorem HRes.sl_of {b h : Node} (r : HRes b h) (hx : h.role = .candidate ∨ b.role = .candidate) : SL b h := by
  cases r with
  | same hsl => exact hsl
  | ldr hr _ hd =>
    rcases hx with hx | hx
    · rcases hd.2.2 with ⟨a, _, _⟩ | a
      · rw [hx, hr] at a; cases a
      · rw [hx] at a; cases a
    · rw [hx] at hr; cases hr

theorem lstep_path (b : Node) (op : Op) (hn : NWF b) (hboot : b.configs.isBootstrapped = true) (htr : b.trace = [])
    (h : Node) (hres : HRes b h) (hnid : h.nid = b.nid) (hI : C05.Inv b h) (post : Node)
    (p : StepPath b op h post) (hterm : b.term ≤ post.term) (hdur : ∀ p ∈ post.trace, b.term ≤ p.2.term) :
    LStep b op post := by
  have C := C05.closed b
  have k := SameKey.releaseRole h b.role
  have kc := core_releaseRole h b.role
  cases p with
  | stay e hrole _ =>
    subst e
    cases hres with
    | same hsl => exact lstep_sl op hn htr hsl hterm
    | ldr hr hj hd => exact lstep_hj op htr hj hr (by rw [hrole, hr]; decide) hdur hterm
  | down hf _ e =>
    subst e
    cases hres with
    | same hsl => exact lstep_sl op hn htr (sl_core hsl kc) hterm
    | ldr hr hj hd => exact lstep_hj op htr (hj_core hj kc) hr (by rw [k.role, hf]; decide) hdur hterm
  | elect pd e _ =>
    subst e
    exact lstep_sl op hn htr ((sl_quiet _ op).startElection_inv _ (sl_core (hres.sl_of (.inl pd.role)) kc) (k.role.trans pd.role))
      hterm
  | electWon x pd rl ex tl =>
    subst ex
    have I3 := C.releaseRole_inv _ .candidate (C.startElection_inv _ (C.releaseRole_inv _ b.role hI))
    obtain ⟨t, _, hq, _⟩ := pd.elected b.role
    refine lstep_init op hn htr
      (sl_core ((sl_quiet _ op).startElection_inv _ (sl_core (hres.sl_of (.inl pd.role)) kc) (k.role.trans pd.role))
        (core_releaseRole _ _))
      I3.2.1 ?_ tl
    rw [t]
    have hv := pd.voter
    rw [pd.cfg hboot, hnid] at hv
    exact Or.inr (Or.inr ⟨Nat.lt_succ_of_le pd.term, pd.cfg hboot ▸ hq rl, Or.inr hv⟩)
  | won x c r0 t _ ex tl =>
    subst ex
    refine lstep_init op hn htr (sl_core (hres.sl_of (.inr c.1)) kc) (C.releaseRole_inv _ _ hI).2.1 ?_ tl
    rw [k.term]
    exact Or.inr (Or.inl ⟨c, r0, t⟩)
  | reelectWon x c e r ex tl =>
    subst ex
    refine lstep_init op hn htr (sl_core (hres.sl_of (.inr c)) kc) (C.releaseRole_inv _ _ hI).2.1 ?_ tl
    rw [k.term]
    subst e
    obtain ⟨_, e2, _, _, _, e6⟩ := startElection_spec b
    rcases e6 with ⟨q0, _⟩ | ⟨_, r1⟩
    · exact Or.inr (Or.inr ⟨by rw [e2]; exact Nat.lt_succ_self _, by omega, Or.inl c⟩)
    · rw [r1, c] at r; cases r

/-- **One step of a node that is not an append request** (and none of the excluded snapshot operations),
from a well-formed, bootstrapped state: see `LStep`. -/
theorem leader_step (pre : Node) (op : Op) (ra : List Nat) (ord : List (List Nat)) (hn : NWF pre)
    (hwf : C05.VoteWF pre) (hboot : pre.configs.isBootstrapped = true) (hok : OpOK op)
    (happ : ∀ q, op ≠ .append q) (hc : pre.role = .candidate → pre.term ≠ 0) :
    LStep pre op (pre.step op ra ord) := by
  obtain ⟨hvs, _, hdur⟩ := C05.step_vote_stable pre op ra ord hwf
  have hnb : NWF (pre.begin ra ord) := nwf_congr hn rfl rfl rfl rfl rfl
  have hwfb : C05.VoteWF (pre.begin ra ord) := hwf
  have hI := (C05.closed (pre.begin ra ord)).handle_inv _ op (C05.inv_refl _ hwfb)
  have key := lstep_path (pre.begin ra ord) op hnb hboot rfl _ (handle_res (pre.begin ra ord) op hnb hboot hok happ)
    (handle_rel (pre.begin ra ord) op hc).1 hI (pre.step op ra ord)
    (step_settle pre op ra ord (fun e => by subst e; exact hok) ▸ step_path (pre.begin ra ord) op hc) hvs.1
    (fun p hp => (hdur p hp).1)
  exact ⟨key.nwf, key.ext⟩

def Contig (es : List Entry) : Prop := ∀ k (h : k < es.length), es[k].index = k + 1

/-- a disk content that restarts into a well-formed node whose log is a path in `T` -/
def DiskOK (T : List CEntry) (d : Durable) : Prop :=
  d.snaps = [] ∧ d.log.prev = 0 ∧ Chain T none d.log.entries ∧ Contig d.log.entries

/-- An append request is a slice of the tree `T`: its entries have the indexes `prevLogIndex+1, …` and form
a path in `T` whose first entry is recorded with predecessor term `prevLogTerm` (unless `prevLogIndex = 0`:
the entry with index 1 has no predecessor). -/
structure ReqOK (T : List CEntry) (q : AppendReq) : Prop where
  chain : Chain T (if q.prevLogIndex = 0 then none else some q.prevLogTerm) q.entries
  idx : ∀ k (h : k < q.entries.length), q.entries[k].index = q.prevLogIndex + k + 1

/-- the node is well formed, its log is a path in `T`, and so is the log on disk at every crash point -/
structure FI (T : List CEntry) (s : Node) : Prop where
  nwf : NWF s
  chain : Chain T none s.log.entries
  tr : ∀ p ∈ s.trace, DiskOK T p.2

theorem fi_congr {T : List CEntry} {s s' : Node} (h : FI T s) (e : LCore s' = LCore s) (et : s'.trace = s.trace) :
    FI T s' := by
  unfold LCore at e
  simp only [Prod.mk.injEq] at e
  obtain ⟨e1, e2, e3, e4, e5⟩ := e
  exact ⟨nwf_congr h.nwf e1 e2 e3 e4 e5, by rw [e1]; exact h.chain, by rw [et]; exact h.tr⟩

theorem fi_core {T : List CEntry} {s s' : Node} (h : FI T s) (e : Core s' = Core s) : FI T s' := by
  unfold Core at e
  simp only [Prod.mk.injEq] at e
  obtain ⟨e1, e2, e3, e4, e5, _, _, e8⟩ := e
  refine fi_congr h ?_ e8
  unfold LCore; rw [e1, e2, e3, e4, e5]

theorem diskOK_durable {T : List CEntry} {s : Node} (hn : NWF s) (hc : Chain T none s.log.entries) :
    DiskOK T s.durable :=
  ⟨hn.snaps, hn.prev, hc.take _, contig_take hn.contig _⟩

theorem fi_panic {T : List CEntry} {s : Node} (site : String) (h : FI T s) : FI T (s.panic site) :=
  fi_core h (core_panic s site)

theorem core_assert (s : Node) (b : Bool) (site : String) : Core (s.assert b site) = Core s :=
  assert_of (Inv := fun x => Core x = Core s) (fun x site hx => (core_panic x site).trans hx) s b site rfl

/-- the state between `resolveConflict` and `appendEntry`: the log was cut back to its first `n` entries -/
structure Trunc (T : List CEntry) (s : Node) (n : Nat) (r : Node) : Prop where
  prev : r.log.prev = 0
  entries : r.log.entries = s.log.entries.take n
  last : r.lastLogIndex = n
  snapIndex : r.snapIndex = 0
  snaps : r.snapsDisk = []
  tr : ∀ p ∈ r.trace, DiskOK T p.2

section follower
open FollowerSpec

/-- a slice of a path in `T`, from its entry `k` on, on top of the prefix of a path that holds the entries before -/
theorem chain_splice {T : List CEntry} {L es : List Entry} {p k pt : Nat} (m : Nat) (hL : Chain T none L)
    (hes : Chain T (if p = 0 then none else some pt) es) (hp : p ≤ L.length) (hpt : 1 ≤ p → termAt L p = pt)
    (hag : ∀ j (h : j < es.length), j < k → Agree L (p + j + 1) es[j]) (hk : k ≤ es.length) :
    Chain T none (L.take (p + k) ++ (es.drop k).take m) := by
  have hd : Chain T (endO (if p = 0 then none else some pt) (es.take k)) (es.drop k) :=
    (chain_append.mp (by rw [List.take_append_drop]; exact hes)).2
  refine chain_append.mpr ⟨hL.prefix (List.take_prefix _ _), ?_⟩
  by_cases h0 : p + k = 0
  · rw [h0]; exact (hd.take m).weaken
  have hpk : p + k ≤ L.length := by
    cases k with
    | zero => exact hp
    | succ k' => have := (hag k' (by omega) (Nat.lt_succ_self _)).1; omega
  rw [endO_take none L (p + k) (by omega) hpk]
  suffices e : endO (if p = 0 then none else some pt) (es.take k) = some (termAt L (p + k)) by
    rw [← e]; exact hd.take m
  cases k with
  | zero => rw [List.take_zero, endO_nil, if_neg (by omega), Nat.add_zero, hpt (by omega)]
  | succ k' =>
    rw [endO_take _ es (k' + 1) (by omega) hk]
    have ha := (hag k' (by omega) (Nat.lt_succ_self _)).2
    unfold termAt at ha ⊢
    rw [if_neg (by omega)] at ha ⊢
    rw [if_neg (by omega), show k' + 1 - 1 = k' by omega, List.getElem?_eq_getElem (by omega)]
    rw [show p + (k' + 1) - 1 = p + k' + 1 - 1 by omega, ha]
    rfl

theorem diskOK_prefix {T : List CEntry} {d : Durable} {L : List Entry} (hs : d.snaps = []) (hp : d.log.prev = 0)
    (hc : Chain T none L) (hg : Contig L) (h : d.log.entries <+: L) : DiskOK T d :=
  ⟨hs, hp, hc.prefix h, contig_prefix hg h⟩

/-- **`onAppendEntriesRequest`**: a stale request changes nothing; any other request that is a slice of `T`
leaves the log (and the disk at every crash point) a path in `T`. -/
theorem onAppendEntries_fi {T : List CEntry} (s : Node) (q : AppendReq) (hfi : FI T s)
    (hq : q.term < s.term ∨ ReqOK T q) : FI T (s.onAppendEntries q) := by
  by_cases hst : q.term < s.term
  · rw [C04.stale_append_refused s q hst]; exact fi_congr hfi rfl rfl
  have req : ReqOK T q := hq.resolve_left hst
  have hn := hfi.nwf
  obtain ⟨rn, _, _, hc⟩ := onAppendEntries_spec s q hn req.idx hst
  generalize s.onAppendEntries q = r at *
  have old : ∀ p ∈ s.trace ++ termImage s q, DiskOK T p.2 := fun p hp => by
    rcases List.mem_append.mp hp with hp | hp
    · exact hfi.tr p hp
    · unfold termImage at hp
      split at hp
      · rw [List.mem_singleton.mp hp]
        exact diskOK_prefix hn.snaps hn.prev hfi.chain hn.contig (List.take_prefix _ _)
      · cases hp
  have untouched : Untouched s q r → FI T r := fun u =>
    ⟨rn, by rw [u.log]; exact hfi.chain, fun p hp => old p (u.trace ▸ hp)⟩
  rcases hc with ⟨_, u, _⟩ | ⟨hp, hpt, k, hk, hag, hc⟩
  · exact untouched u
  rcases hc with ⟨_, _, u⟩ | ⟨_, _, m, sf⟩
  · exact untouched u
  have hch : Chain T none r.log.entries := by
    rw [sf.entries]; exact chain_splice m hfi.chain req.chain hp hpt hag hk
  refine ⟨rn, hch, fun p hp => ?_⟩
  rw [sf.trace] at hp
  rcases List.mem_append.mp hp with hp | hp
  · rcases List.mem_append.mp hp with hp | hp
    · exact old p hp
    · split at hp
      · rw [List.mem_singleton.mp hp]
        refine diskOK_prefix hn.snaps hn.prev hfi.chain hn.contig ?_
        exact (List.take_prefix _ _).trans (List.take_prefix _ _)
      · cases hp
  · rw [List.mem_singleton.mp hp]
    exact diskOK_prefix rn.snaps rn.prev hch rn.contig (List.take_prefix _ _)

end follower

theorem fi_rpcDone {T : List CEntry} {s : Node} (x y : Bool) (h : FI T s) : FI T (s.rpcDone x y) :=
  rpcDone_of (fun _ site hx => fi_panic site hx) (fun _ _ hx => fi_congr hx rfl rfl) s x y h

/-- **One step handling an append request**, from a well-formed state whose log is a path in `T`: if the
request is stale (lower term) or a slice of `T` (`ReqOK`), the state after the step is well formed, its log is
a path in `T`, and so is the log on disk at every crash point of the step. -/
theorem follower_step {T : List CEntry} (pre : Node) (q : AppendReq) (ra : List Nat) (ord : List (List Nat))
    (hn : NWF pre) (hch : Chain T none pre.log.entries) (hq : q.term < pre.term ∨ ReqOK T q) :
    FI T (pre.step (.append q) ra ord) := by
  have hb : FI T (pre.begin ra ord) :=
    ⟨nwf_congr hn rfl rfl rfl rfl rfl, hch, fun p hp => by simp [Node.begin] at hp⟩
  have hh : FI T ((pre.begin ra ord).handle (.append q)) := by
    unfold Node.handle
    exact fi_rpcDone _ _ (onAppendEntries_fi _ q hb hq)
  have hd : Down (pre.begin ra ord) ((pre.begin ra ord).handle (.append q)) := by
    have G := down_closed (pre.begin ra ord)
    unfold Node.handle
    exact G.rpcDone_g _ _ _ (G.onAppendEntries_g _ _ (Down.refl _))
  have hpost : pre.step (.append q) ra ord =
      settle 6 ((pre.begin ra ord).handle (.append q)) (pre.begin ra ord).role := rfl
  rw [hpost]
  generalize (pre.begin ra ord).handle (.append q) = h at hh hd
  rcases hd.settle with e | ⟨_, e⟩
  · rw [e]; exact hh
  · rw [e]; exact fi_core hh (core_releaseRole _ _)

theorem roleF_closed : GClosed (fun s : Node => s.role = .follower) where
  panic := fun s site h => (SameKey.panic s site).role.trans h
  reply := fun s t r h => (SameKey.reply s t r).role.trans h
  point := fun _ _ h => h
  ldr := fun _ _ h => h
  append := fun _ _ _ h => h
  commitN := fun _ _ h => h
  fsm := fun _ _ h => h
  changeConfigR := fun s c h => (changeConfigR_key s c).2.1.trans h
  setCommitIndexR := fun s i h _ => by
    rcases (setCommitIndexR_key s i).2.2.2 with e | e
    · exact e.trans h
    · exact e
  popOrder := fun _ h => h
  rpcReply := fun _ _ h => h
  ret := fun _ _ h => h
  setLeader := fun _ _ h => h
  doClose := fun s r h => by
    show (s.doClose r).role = _
    unfold Node.doClose; split <;> exact h
  candTransfer := fun _ _ h => h
  removeGTE := fun _ _ _ h => h
  removeLTE := fun _ _ h => h
  clearLog := fun _ h => h
  revertConfig := fun _ h => h
  commitConfig := fun s h => by
    show s.commitConfig.role = _
    unfold Node.commitConfig; dsimp only; split <;> exact h
  publishSnapshot := fun _ _ h => h
  installCommit := fun _ h _ => h
  snapPending := fun _ _ h => h
  snapResult := fun _ _ h => h
  toFollower := fun _ _ => rfl
  setTermF := fun s t h _ => (setTerm_key s t).2.1.trans h
  termThenFollower := fun _ _ _ => rfl
  voteF := fun s t c h _ => (setVotedFor_key s t c).2.1.trans h
  voteGrant := fun s c h _ => (setVotedFor_key s s.term c).2.1.trans h

theorem onAppendEntries_role (s : Node) (q : AppendReq) (hq : ¬ q.term < s.term) :
    (s.onAppendEntries q).role = .follower := by
  rw [onAppendEntries_stages, if_neg hq]
  have h3 : ((followPre s q.term q.src).appendCheck q).role = .follower := roleF_closed.appendCheck_g _ q rfl
  exact ite_ind (P := fun x : Node => x.role = .follower) (fun _ => h3) fun _ =>
    roleF_closed.toGuardedStep.afterLoop_inv q _ (roleF_closed.appendLoop_g _ _ h3)

theorem settle_follower (h : Node) (cur : Role) (hf : h.role = .follower) :
    (settle 6 h cur).role = .follower ∧ Core (settle 6 h cur) = Core h := by
  rcases settle_of_follower h cur hf with e | e
  · rw [e]; exact ⟨hf, rfl⟩
  · rw [e]; exact ⟨(SameKey.releaseRole _ _).role.trans hf, core_releaseRole _ _⟩

theorem append_step_role (pre : Node) (q : AppendReq) (ra : List Nat) (ord : List (List Nat))
    (hq : ¬ q.term < pre.term) : (pre.step (.append q) ra ord).role = .follower := by
  have hpost : pre.step (.append q) ra ord =
      settle 6 ((pre.begin ra ord).handle (.append q)) (pre.begin ra ord).role := rfl
  rw [hpost]
  refine (settle_follower _ _ ?_).1
  show (((pre.begin ra ord).onAppendEntries q).rpcDone false true).role = _
  rw [(SameKey.rpcDone _ _ _).role]
  exact onAppendEntries_role _ q hq

theorem append_step_stale (pre : Node) (q : AppendReq) (ra : List Nat) (ord : List (List Nat))
    (hq : q.term < pre.term) :
    LCore (pre.step (.append q) ra ord) = LCore pre ∧ (pre.step (.append q) ra ord).role = pre.role := by
  have hpost : pre.step (.append q) ra ord =
      settle 6 ((pre.begin ra ord).handle (.append q)) (pre.begin ra ord).role := rfl
  have hh : (pre.begin ra ord).handle (.append q) = ((pre.begin ra ord).ret rStaleTerm).rpcDone false true := by
    show ((pre.begin ra ord).onAppendEntries q).rpcDone false true = _
    rw [C04.stale_append_refused (pre.begin ra ord) q hq]
  have hsl : SL (pre.begin ra ord) ((pre.begin ra ord).handle (.append q)) := by
    rw [hh]; exact (sl_quiet _ (.append q)).rpcDone_inv _ _ _ (sl_ret _ (sl_refl _))
  have hr : ((pre.begin ra ord).handle (.append q)).role = (pre.begin ra ord).role := by
    rw [hh, (SameKey.rpcDone _ _ _).role]; rfl
  have e : settle 6 ((pre.begin ra ord).handle (.append q)) (pre.begin ra ord).role =
      (pre.begin ra ord).handle (.append q) := settle_of_role hr
  rw [hpost, e]
  exact ⟨hsl.core, hr⟩

theorem restartNode_nosnap (d : Durable) (retain : Nat) (sor : Bool) (hs : d.snaps = []) (hp : d.log.prev = 0) :
    (restartNode d retain sor).snapIndex = 0 ∧ (restartNode d retain sor).snapsDisk = [] ∧
    (restartNode d retain sor).log.prev = 0 ∧ (restartNode d retain sor).log.entries = d.log.entries ∧
    (restartNode d retain sor).lastLogIndex = d.log.entries.length ∧
    (restartNode d retain sor).lastLogTerm = lastTerm d.log.entries ∧
    (restartNode d retain sor).role = .follower ∧ (restartNode d retain sor).trace = [] := by
  unfold Node.restartNode
  extract_lets snap log lastIdx lastT sc latest committed
  have e0 : snap = {} := by unfold snap; rw [hs]; rfl
  have e1 : log = d.log := by
    unfold log; rw [Node.staleLog_nosnap hs]; rfl
  refine ⟨by show snap.index = 0; rw [e0], hs, by show log.prev = 0; rw [e1]; exact hp,
    by show log.entries = _; rw [e1], ?_, ?_, rfl, rfl⟩
  · show lastIdx = _
    unfold lastIdx
    rw [e1, e0]
    unfold NLog.count NLog.last
    rw [hp]
    split
    · omega
    · show 0 = _; omega
  · show lastT = _
    unfold lastT lastTerm
    rw [e1, e0]
    unfold NLog.count
    split
    · rfl
    · rename_i h
      have : d.log.entries = [] := by
        cases hl : d.log.entries with
        | nil => rfl
        | cons a b => rw [hl] at h; simp at h
      rw [this]; rfl

/-- **restart without snapshots**: the node comes back as a follower holding exactly the entries found on
disk, well formed when those are contiguous from index 1. -/
theorem restart_nwf (d : Durable) (retain : Nat) (sor : Bool) (n : Node)
    (h : Node.restart d retain sor = some n) (hs : d.snaps = []) (hp : d.log.prev = 0)
    (hc : Contig d.log.entries) :
    NWF n ∧ n.log.entries = d.log.entries ∧ n.role = .follower ∧ n.trace = [] := by
  obtain ⟨r1, r2, r3, r4, r5, r6, r7, r8⟩ := restartNode_nosnap d retain sor hs hp
  rw [Node.restart_nosnap h r1]
  exact ⟨⟨r1, r2, r3, by rw [r4]; exact hc, r5.trans (by rw [r4]), r6.trans (by rw [r4])⟩, r4, r7, r8⟩

end LogRel
end Raft

#print axioms Raft.LogRel.leader_step
#print axioms Raft.LogRel.follower_step
#print axioms Raft.LogRel.restart_nwf
