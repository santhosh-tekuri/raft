/-
Durability of committed entries on the cluster system WITH membership changes, for Props/C06Member.lean, along the runs of
`C08Member.ReachableR` (`RunR`): a node that `Kept` a key keeps it in every later state (`Kept.run`), the ghost ledgers of
a later state may be chosen to extend those of the earlier one (`minv_run_mono`), and the notions of
Lemmas/DurableRel.lean for the transitions of `TransR` (`CrashSafeM`, `KeepsM`).
-/
import RaftVerif.Lemmas.MemberDurable
import RaftVerif.Lemmas.DurableRel
import RaftVerif.Props.C08Member

namespace Raft
namespace MemberDurable
open Node Election LogRel Replication CommitRel Commit Member MemberCore QuorumRel MemberInv MemberCommit MemberStep
open MemberSide C08Member DurableRel

inductive RunR (x : Member.Sys) : Member.Sys → Prop
  | refl : RunR x x
  | next (y z : Member.Sys) : RunR x y → TransR y z → RunR x z

theorem RunR.trans {x y z : Member.Sys} (h1 : RunR x y) (h2 : RunR y z) : RunR x z := by
  induction h2 with
  | refl => exact h1
  | next z w _ ht ih => exact .next z w ih ht

theorem run_reachable {root : K} {x y : Member.Sys} (hx : ReachableR root x) (h : RunR x y) : ReachableR root y := by
  induction h with
  | refl => exact hx
  | next y z _ ht ih => exact .next y z ih ht

theorem run_grow {x y : Member.Sys} (h : RunR x y) :
    (∀ c ∈ x.cm.T, c ∈ y.cm.T) ∧ (∀ a ∈ x.cm.acks, a ∈ y.cm.acks) ∧ (∀ m ∈ x.cm.committed, m ∈ y.cm.committed) := by
  induction h with
  | refl => exact ⟨fun _ h => h, fun _ h => h, fun _ h => h⟩
  | next y z _ ht ih =>
    obtain ⟨g1, g2, g3⟩ := trans_grow (transR_trans ht)
    exact ⟨fun c hc => g1 c (ih.1 c hc), fun a ha => g2 a (ih.2.1 a ha), fun m hm => g3 m (ih.2.2 m hm)⟩

structure RS (root : K) (x : Member.Sys) (G : Ghost) : Prop where
  reach : ReachableR root x
  inv : MInv x G
  xinv : XInv x
  cache : ∀ i, C06Cache.LeaderCache (x.node i)

theorem RS.sideM {root : K} {x : Member.Sys} {G : Ghost} (h : RS root x G) : SideM x :=
  sideM_of h.inv h.xinv h.cache

theorem RS.sideT {root : K} {x : Member.Sys} {G : Ghost} (h : RS root x G) : SideT x := h.xinv.sideT

theorem rs_of {root : K} {x : Member.Sys} (hx : ReachableR root x) : ∃ G, RS root x G ∧ G.root = root := by
  obtain ⟨⟨G, hI, hr⟩, hX⟩ := inv_reachable root x hx
  exact ⟨G, ⟨hx, hI, hX, C08Sys.leaderCache_reachable x (reachableP_of hx)⟩, hr⟩

theorem rs_with {root : K} {x : Member.Sys} {G : Ghost} (hx : ReachableR root x) (hI : MInv x G) : RS root x G := by
  obtain ⟨_, hX⟩ := inv_reachable root x hx
  exact ⟨hx, hI, hX, C08Sys.leaderCache_reachable x (reachableP_of hx)⟩

theorem RS.transNF {root : K} {x y : Member.Sys} {G : Ghost} (h : RS root x G) (ht : TransR x y) : TransNF x y :=
  transNF_of h.inv h.xinv h.cache ht

theorem Kept.run {root : K} {x y : Member.Sys} (hx : ReachableR root x) (hrun : RunR x y) {v : Nat} {b : K}
    (hk : Kept x v b) : Kept y v b := by
  induction hrun with
  | refl => exact hk
  | next y z hxy ht ih =>
    obtain ⟨G, hy, _⟩ := rs_of (run_reachable hx hxy)
    exact ih.transNF hy.inv hy.sideM (hy.transNF ht)

theorem minv_run_mono {root : K} {x y : Member.Sys} {G : Ghost} (hx : RS root x G) (hrun : RunR x y) :
    ∃ G', RS root y G' ∧ GLe G G' := by
  induction hrun with
  | refl => exact ⟨G, hx, GLe.refl G⟩
  | next y z hxy ht ih =>
    obtain ⟨G', hy, hle⟩ := ih
    have hz : ReachableR root z := .next y z hy.reach ht
    obtain ⟨_, hXz⟩ := inv_reachable root z hz
    obtain ⟨G'', hIz, hle'⟩ := minv_transNF_mono hy.inv hy.sideM hXz.sideT (hy.transNF ht)
    exact ⟨G'', rs_with hz hIz, hle.trans hle'⟩

/-- **from the conditions of `TransR` to the hypotheses `SM` of the analysis of a step**: an enabled, well-formed
operation delivered to an open node does not fail; and the disk image "after 0 storage points" (a restart between two
steps, the only crash of a closed node) is the one of a trivial operation -/
theorem sm_of_R {root : K} {x : Member.Sys} {G : Ghost} (h : RS root x G) {i : Nat} {op : Op} {src : Nat}
    (he : Member.Enabled x i op src) (hg : ReqG x i op) (ra : List Nat) (ord : List (List Nat)) (k : Nat)
    (hopen : (x.node i).closed = "" ∨ k = 0) :
    ∃ op', MemberStep.SM x G i op' ra ord src ∧
      C05.crashDisk (x.node i) op' ra ord k = C05.crashDisk (x.node i) op ra ord k := by
  rcases hopen with ho | hk
  · exact ⟨op, (sm_of_step h.inv h.xinv h.cache he hg ho ra ord).1, rfl⟩
  · subst hk
    obtain ⟨he', hp'⟩ := disconnected0_ok he ra ord
    exact ⟨.disconnected 0, ⟨h.inv, h.sideM, he', fun _ => hp'⟩, rfl⟩

/-- whenever node `j` may die — before, at any storage point of, or after any step that `TransR` admits (an enabled,
well-formed operation delivered to an open node; for a closed node: between two steps) — the disk holds an entry with
term `t` at index `k` -/
def CrashSafeM (x : Member.Sys) (j k t : Nat) : Prop :=
  ∀ op ra ord src n, Member.Enabled x j op src → ReqG x j op → ((x.node j).closed = "" ∨ n = 0) →
    DiskHolds (C05.crashDisk (x.node j) op ra ord n) k t

/-- **node `v` of state `y` keeps the entries `1 … k` of the log of `s` durably**: its log is flushed up to `k` at least;
its disk returns these very entries — now, and at every storage point of every step that `TransR` admits (whenever the
process may die); and whenever it restarts from such a disk image, the restarted node holds these very entries again, in a
completely flushed log. -/
structure KeepsM (y : Member.Sys) (v : Nat) (s : Node) (k : Nat) : Prop where
  flushed : k ≤ (y.node v).log.flushed
  disk : SameOnDisk (y.node v).durable s k
  crash : ∀ op ra ord src n, Member.Enabled y v op src → ReqG y v op → ((y.node v).closed = "" ∨ n = 0) →
    SameOnDisk (C05.crashDisk (y.node v) op ra ord n) s k
  restart : ∀ op ra ord src n retain sor w, Member.Enabled y v op src → ReqG y v op →
    ((y.node v).closed = "" ∨ n = 0) → Node.restart (C05.crashDisk (y.node v) op ra ord n) retain sor = some w →
    k ≤ w.log.flushed ∧ ∀ k', 1 ≤ k' → k' ≤ k → w.log.get? k' = s.log.get? k'

section keeps
variable {root : K} {x y : Member.Sys} {Gx G : Ghost}

/-- **a node that keeps the key `(k, τ)` keeps, durably, the entries `1 … k` of every log that held `(k, τ)` in an
earlier state** -/
theorem keepsM_of_kept (hy : RS root y G) (hIx : MInv x Gx) (hT : ∀ c ∈ x.cm.T, c ∈ y.cm.T) {i v k τ : Nat}
    (hh : Holds (x.node i).log.entries k τ) (hk : Kept y v (k, τ)) : KeepsM y v (x.node i) k := by
  obtain ⟨hdisk, himg⟩ := (core_of_minv hy.inv).keeps (hlcM hy.inv hy.sideT) hk.dur hk.cmt (nwfM hIx i)
    ((log_pathM hIx i).mono hT) hh
  refine ⟨hk.dur.1, hdisk, fun op ra ord src n he hg ho => ?_, fun op ra ord src n retain sor w he hg ho hw => ?_⟩
  · obtain ⟨op', sm, e⟩ := sm_of_R hy he hg ra ord n ho
    exact (himg (e ▸ sm.imgC n) (fun q eq hns => (sm.en.rp.append q eq).resolve_left hns)).1
  · obtain ⟨op', sm, e⟩ := sm_of_R hy he hg ra ord n ho
    exact (himg (e ▸ sm.imgC n) (fun q eq hns => (sm.en.rp.append q eq).resolve_left hns)).2 retain sor w hw

theorem crashSafe_of_kept (hy : RS root y G) {v : Nat} {b : K} (hk : Kept y v b) :
    DurablyHolds y.cm v b.1 b.2 ∧ CrashSafeM y v b.1 b.2 := by
  refine ⟨(durable_holds_iff (nwfM hy.inv v)).mpr hk.dur, ?_⟩
  intro op ra ord src n he hg ho
  obtain ⟨op', sm, e⟩ := sm_of_R hy he hg ra ord n ho
  obtain ⟨hprev, k1, _⟩ := hk.img sm n
  rw [e] at hprev k1
  exact (diskHolds_iff hprev).mpr (holds_of_take_eq k1 hk.dur.2 (Nat.le_refl _))

end keeps

end MemberDurable
end Raft

#print axioms Raft.MemberDurable.Kept.run
#print axioms Raft.MemberDurable.minv_run_mono
#print axioms Raft.MemberDurable.keepsM_of_kept
#print axioms Raft.MemberDurable.crashSafe_of_kept
