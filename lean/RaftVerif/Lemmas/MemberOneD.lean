/-
Membership changes THROUGH single-voter configurations: one whole step of `Node.step`, any role, every operation other
than an append / install-snapshot request (`step_pw`): the handler, then the role transitions — `leader.init` included (a
node elected inside the step, e.g. the only voter at its election timeout, stores its no-op entry, commits it alone, and
may go on to store configuration entries).
-/
import RaftVerif.Lemmas.MemberOneC
import RaftVerif.Lemmas.HandleKind

namespace Raft
namespace One
open Node CfgRel

theorem PW.same {s₀ x y : Node} (h : PW s₀ x) (h1 : y.configs.latest = x.configs.latest)
    (h2 : y.lastLogIndex = x.lastLogIndex) (h3 : y.nid = x.nid) (h4 : y.log.entries = x.log.entries)
    (hp : y.panicked = none → x.panicked = none) : PW s₀ y := by
  refine ⟨by rw [h1, h2]; exact h.li, by rw [h1]; exact h.anch, by rw [h3]; exact h.nid, fun hy => ?_⟩
  obtain ⟨k, ext, e0, e1, e2⟩ := h.chain (hp hy)
  exact ⟨k, ext, e0, by rw [h4]; exact e1, by rw [h1]; exact e2⟩

theorem failed_setVotedFor (x : Node) (t c : Nat) (h : Failed x) : Failed (x.setVotedFor t c) :=
  (TL.fk_setVotedFor x t c).mono h

theorem pwQ (s₀ : Node) : QClosed (PW s₀) where
  panic := fun x site h => ⟨by rw [(q_panic x site).configs, (q_panic x site).lastLogIndex]; exact h.li,
    by rw [(q_panic x site).configs]; exact h.anch, by rw [(q_panic x site).nid]; exact h.nid,
    fun hp => absurd hp (failed_panic x site)⟩
  reply := fun x t r h => h.same (by rw [(q_reply x t r).configs]) (q_reply x t r).lastLogIndex (q_reply x t r).nid
    (q_reply x t r).entries (q_reply x t r).pan'
  point := fun _ _ h => h.same rfl rfl rfl rfl id
  ldr := fun _ _ h => h.same rfl rfl rfl rfl id
  popOrder := fun _ h => h.same rfl rfl rfl rfl id
  rpcReply := fun _ _ h => h.same rfl rfl rfl rfl id
  ret := fun _ _ h => h.same rfl rfl rfl rfl id
  setRole := fun _ _ h => h.same rfl rfl rfl rfl id
  setLeader := fun _ _ h => h.same rfl rfl rfl rfl id
  doClose := fun x r h => by rw [Node.doClose_shape]; exact h.same rfl rfl rfl rfl id
  setTerm := fun x t h => by
    rw [Node.setTerm_shape]; exact h.same rfl rfl rfl rfl (pan_of_failed (CfgRel.setTerm_pan x t))
  setVotedFor := fun x t c h => by
    rw [Node.setVotedFor_shape]; exact h.same rfl rfl rfl rfl (pan_of_failed (failed_setVotedFor x t c))
  votesNeeded := fun _ _ h => h.same rfl rfl rfl rfl id
  candTransfer := fun _ _ h => h.same rfl rfl rfl rfl id
  removeLTE := fun x i h => by
    refine ⟨h.li, h.anch, h.nid, fun hp => ?_⟩
    obtain ⟨k, ext, _, e1, e2⟩ := h.chain hp
    have he : ({ x with log := x.log.removeLTE i } : Node).log.entries =
        x.log.entries.drop (((NLog.dropLTE i x.log.segs).head?).getD x.log.prev - x.log.prev) := rfl
    obtain ⟨k', h1, h2⟩ := drop_drop_le (s₀.log.entries ++ ext) k (((NLog.dropLTE i x.log.segs).head?).getD x.log.prev - x.log.prev)
    exact ⟨k', ext, h1, by rw [he, e1]; exact h2, e2⟩
  publishSnapshot := fun _ _ h => h.same rfl rfl rfl rfl id
  snapPending := fun _ _ h => h.same rfl rfl rfl rfl id
  snapResult := fun _ _ h => h.same rfl rfl rfl rfl id

theorem failedQ : QClosed Failed where
  panic := fun x site _ => failed_panic x site
  reply := fun x t r h => (q_reply x t r).pan h
  point := fun _ _ h => h
  ldr := fun _ _ h => h
  popOrder := fun _ h => h
  rpcReply := fun _ _ h => h
  ret := fun _ _ h => h
  setRole := fun _ _ h => h
  setLeader := fun _ _ h => h
  doClose := fun x r h => by unfold Failed; rw [Node.doClose_shape]; exact h
  setTerm := fun x t h => CfgRel.setTerm_pan x t h
  setVotedFor := failed_setVotedFor
  votesNeeded := fun _ _ h => h
  candTransfer := fun _ _ h => h
  removeLTE := fun _ _ h => h
  publishSnapshot := fun _ _ h => h
  snapPending := fun _ _ h => h
  snapResult := fun _ _ h => h

def PWf (s₀ x : Node) : Prop := x.panicked = none → PW s₀ x

theorem pwf_of_vf {s₀ y : Node} (h : VF s₀ y) : PWf s₀ y := fun hp => h.elim (absurd hp) V.pw

theorem pwf_of_G {s₀ x y : Node} (h : G s₀ x y) : PWf s₀ y := pwf_of_vf (vf_of_G h)

theorem PWf.closed {s₀ x y : Node} (h : PWf s₀ x) (hf : Failed x → Failed y) (hp : PW s₀ x → PW s₀ y) : PWf s₀ y :=
  fun hy => hp (h (pan_of_failed hf hy))

theorem settle_pwf (s₀ : Node) (fuel : Nat) (x : Node) (cur : Role) (h : PWf s₀ x) : PWf s₀ (settle fuel x cur) :=
  settle_of (fun s r hs => hs.closed (failedQ.releaseRole_q s r) ((pwQ s₀).releaseRole_q s r))
    (fun s hs _ => hs.closed (failedQ.startElection_q s) ((pwQ s₀).startElection_q s))
    (fun s hs _ => fun hp => pwf_of_G (leaderInit_G s₀ s (hs (pan_of_failed (pnClosed.leaderInit_inv s) hp))) hp)
    fuel x cur h

theorem pwf_of_pw {s₀ x : Node} (h : PW s₀ x) : PWf s₀ x := fun _ => h

/-- **every handler other than those of append / install-snapshot requests** (a bootstrapped node in any role; a leader's
caches are current) -/
theorem handle_pwf (s₀ x : Node) (op : Op) (hP : PW s₀ x) (hc : x.role = .leader → LC.Cache x) (hok : OpOk op)
    (hsr : ∀ task c, op = .changeConfig task c → Srt x.configs.latest → Srt c)
    (hna : ∀ q, op ≠ .append q) (hni : ∀ q, op ≠ .install q)
    (hb : x.role ≠ .leader → x.configs.isBootstrapped = true) : PWf s₀ (x.handle op) := by
  have Q := pwQ s₀
  cases handle_kind x op with
  | quiet q => exact pwf_of_pw (q _ (Q.toQuiet op) hP)
  | ldr hl c =>
    have hV : VF s₀ x := Or.inr (hP.v (hc hl))
    generalize x.handle op = h at c ⊢
    cases c with
    | store batch => exact pwf_of_G ((block s₀ 1 (by omega) _).1.1 x batch (hP.v (hc hl)) hok)
    | change task c => exact pwf_of_G (onChangeConfig_one s₀ 1 (by omega) x task c (hP.v (hc hl)) hok (hsr task c rfl)).1
    | wait t => exact pwf_of_pw (Q.onWaitForStable_q _ _ hP)
    | transfer t g => exact pwf_of_pw (Q.onTransfer_q _ _ _ hP)
    | transferTimeout _ => exact pwf_of_vf ((vSide s₀).replyTransfer_inv x _ hV)
    | timeoutNowResult src err result _ => exact pwf_of_vf ((vSide s₀).onTimeoutNowResult_inv x src err result hV)
    | newTermTimeout _ => exact pwf_of_pw (Q.tryTransfer_q _ (Q.ldr _ _ hP))
    | repl us => exact pwf_of_vf ((vSide s₀).checkReplUpdates_inv x us (fun _ _ => vf_checkLogCompact) hV)
  | special sp =>
    cases sp with
    | append q => exact absurd rfl (hna q)
    | install q => exact absurd rfl (hni q)
    | snapRun => exact pwf_of_pw (Q.snapRun_q _ hP)
    | snapTaken => exact pwf_of_pw (Q.onSnapshotTaken_q _ hP)
    | shutdown => exact pwf_of_pw (Q.shutdown_q _ hP)
    | bootstrap t c hl hn => rw [hb hl] at hn; cases hn

/-- **one whole step** of a node in any role (a leader's caches current; `latest.index ≤ lastLogIndex`; an anchor; a node
that is not leader is bootstrapped: it refuses a `ChangeConfig` request), every operation of `CfgRel.OpOk` (no
configuration entry in a client batch; a submitted configuration has distinct member ids, and is sorted if the latest one
is) other than an append / install-snapshot request, any oracle and input: unless the step fails, the entries appended
within it — by the handler or by `leader.init` if the node is elected inside the step — form a `Chain1` from the latest
configuration before to the latest configuration after the step. -/
theorem step_pw (s : Node) (op : Op) (ra : List Nat) (ord : List (List Nat))
    (hli : s.configs.latest.index ≤ s.lastLogIndex) (hanch : AnchC s.configs.latest)
    (hc : s.role = .leader → LC.Cache s) (hok : OpOk op)
    (hsr : ∀ task c, op = .changeConfig task c → Srt s.configs.latest → Srt c)
    (hna : ∀ q, op ≠ .append q) (hni : ∀ q, op ≠ .install q)
    (hb : s.role ≠ .leader → s.configs.isBootstrapped = true)
    (hp : (s.step op ra ord).panicked = none) : PW s (s.step op ra ord) := by
  have hP : PW (s.begin ra ord) (s.begin ra ord) := PW.refl _ hli hanch
  have hh := handle_pwf (s.begin ra ord) (s.begin ra ord) op hP (fun hl => (hc hl).congr rfl) hok hsr hna hni hb
  have key : PWf (s.begin ra ord) (s.step op ra ord) := step_of (settle_pwf _) s op ra ord hh
  obtain ⟨a, b, c, d⟩ := key hp
  exact ⟨a, b, c, d⟩

end One
end Raft
