/-
Durability of committed entries on the cluster systems WITH snapshots (`Raft.Snap3` / `Raft.Snap4`) — helper lemmas for
Props/C06Snap.lean.

Per state: from the invariant `Inv3`, whoever acknowledged a ledger entry `m` in `m`'s term covers (`Covers`, `KeepsS`: durable
log above `log.prev`, snapshot files at or below) every prefix of every root path through an ancestor of `m` (`cover_state`);
what the restarted node covers, the disk image it restarted from covers with the log `openStorage` works with (`cover_restart`:
`C10.logOf d` is `d.log` unless it is stale, i.e. in the F18 window under a newly published snapshot).
Along a run of `Raft.Snap4`: the snapshot files on a node's disk are replays of committed prefixes of its virtual log
(`SnapBacked`, from Props/C09Sys3.lean); a member of the acknowledging majority of a ledger entry durably covers
(`DurablyCovered`), in every later state, every root path through an ancestor of the entry (`covered_later`); leader completeness
across states, on the virtual log (`leader_holds_later`). The install handler at node level: `install_reply_success`,
`install_trace_order`, `install_crash_point`.
-/
import RaftVerif.Props.C10Sys2
import RaftVerif.Props.C06Sys

namespace Raft
namespace DurableSnap
open Node Election LogRel Replication CommitRel Commit C02Sys C03Sys SnapRel SnapRelU SnapSim Snap Snap2 SnapInv SnapInv2
open SnapInst Snap3 SnapInst3 Snap4 SnapInst4 RestartSys DurableRel

structure Covers (l : NLog) (snaps : List SnapFile) (ref : List Entry) (k : Nat) : Prop where
  log : ∀ k', l.prev < k' → k' ≤ k → l.get? k' = ref[k' - 1]? ∧ (ref[k' - 1]?).isSome = true
  snap : l.prev ≤ (headOf snaps).index

/-- the two cases of the statement of C06: the entry at `k` is in the log (with everything between `l.prev` and `k`), or
the newest snapshot file has an index `≥ k` -/
theorem Covers.cases {l : NLog} {snaps : List SnapFile} {ref : List Entry} {k : Nat} (h : Covers l snaps ref k) :
    (l.prev < k ∧ ∃ e, l.get? k = some e ∧ ref[k - 1]? = some e) ∨ k ≤ (headOf snaps).index := by
  by_cases hk : l.prev < k
  · left
    obtain ⟨h1, h2⟩ := h.log k hk (Nat.le_refl _)
    cases he : ref[k - 1]? with
    | none => rw [he] at h2; cases h2
    | some e => exact ⟨hk, e, by rw [h1, he], rfl⟩
  · right
    exact Nat.le_trans (Nat.le_of_not_lt hk) h.snap

theorem Covers.mono {l : NLog} {snaps : List SnapFile} {ref : List Entry} {k k' : Nat} (h : Covers l snaps ref k)
    (hk : k' ≤ k) : Covers l snaps ref k' :=
  ⟨fun j h1 h2 => h.log j h1 (Nat.le_trans h2 hk), h.snap⟩

theorem Covers.of_durable {l : NLog} {snaps : List SnapFile} {ref : List Entry} {k : Nat}
    (h : Covers l.durable snaps ref k) : Covers l snaps ref k := by
  refine ⟨fun k' h1 h2 => ?_, h.snap⟩
  obtain ⟨a, b⟩ := h.log k' h1 h2
  refine ⟨?_, b⟩
  cases he : ref[k' - 1]? with
  | none => rw [he] at b; cases b
  | some e =>
    rw [he] at a
    exact NLog.get?_of_durable l k' e a

theorem Covers.congr {l l' : NLog} {snaps : List SnapFile} {ref : List Entry} {k : Nat} (h : Covers l snaps ref k)
    (hp : l'.prev = l.prev) (he : l'.entries = l.entries) : Covers l' snaps ref k := by
  refine ⟨fun k' h1 h2 => ?_, by rw [hp]; exact h.snap⟩
  rw [hp] at h1
  have := h.log k' h1 h2
  unfold NLog.get? at this ⊢
  rw [hp, he]
  exact this

structure KeepsS (y : Snap3.Sys) (v : Nat) (ref : List Entry) (k : Nat) : Prop where
  flushed : k ≤ (y.node v).log.flushed
  virt : ∀ k', 1 ≤ k' → k' ≤ k → (y.vlog v)[k' - 1]? = ref[k' - 1]?
  disk : Covers (y.node v).durable.log (y.node v).durable.snaps ref k

theorem KeepsS.mono {y : Snap3.Sys} {v : Nat} {ref : List Entry} {k k' : Nat} (h : KeepsS y v ref k) (hk : k' ≤ k) :
    KeepsS y v ref k' :=
  ⟨Nat.le_trans hk h.flushed, fun j h1 h2 => h.virt j h1 (Nat.le_trans h2 hk), h.disk.mono hk⟩

section state
variable {V : List Nat} {y : Snap3.Sys}

theorem cover_state (hI : Inv3 V y) {m : Nat × Nat} (hm : m ∈ y.s2.cs.committed) {a : Ack} (ha : a ∈ y.s2.cs.acks)
    (hat : a.term = m.2) (hanc : Anc y.s2.cs.T m a.key) {ref : List Entry} (hp : Path y.s2.cs.T ref) {k τ : Nat}
    (hh : Holds ref k τ) (hkm : Anc y.s2.cs.T (k, τ) m) : KeepsS y a.voter ref k := by
  have hc : CInv V (eview (view3 y).cs) := hI.sinv.cinv
  obtain ⟨eC, eA, eT, eN⟩ := SnapInst3.cview y
  generalize eview (view3 y).cs = z at hc eC eA eT eN
  rw [← eC] at hm
  rw [← eA] at ha
  rw [← eT] at hanc hp hkm
  have hd : DurHolds (z.node a.voter) m := acker_durHolds hc hm ha hat hanc
  have hfl : m.1 ≤ (y.node a.voter).log.flushed := (eN a.voter).2.1 ▸ hd.1
  have hmv : Holds (y.vlog a.voter) m.1 m.2 := (eN a.voter).1 ▸ hd.2
  have hkv : Holds (y.vlog a.voter) k τ := (eN a.voter).1 ▸ log_holds_anc hc a.voter hkm ((eN a.voter).1.symm ▸ hmv)
  have hle : k ≤ m.1 := hkm.1
  have hpv : Path z.T (y.vlog a.voter) := (eN a.voter).1 ▸ log_path hc a.voter
  have agree : ∀ k', 1 ≤ k' → k' ≤ k → (y.vlog a.voter)[k' - 1]? = ref[k' - 1]? :=
    fun k' h1 h2 => path_agree (uniq hc) hpv hp hkv hh k' h1 h2
  have so : SnapOK (y.vnode a.voter) := hI.sinv.snap a.voter
  refine ⟨Nat.le_trans hle hfl, agree, fun k' h1 h2 => ?_, ?_⟩
  · have h1' : (y.node a.voter).log.prev < k' := h1
    have e1 : (y.node a.voter).durable.log.get? k' = (y.node a.voter).log.get? k' :=
      NLog.durable_get_flushed _ k' h1' (by omega)
    rw [e1, C09Sys3.get_virtual3 y a.voter k' h1', C09Sys3.vget3 y a.voter k' (by omega), agree k' (by omega) h2]
    refine ⟨rfl, ?_⟩
    have : k' - 1 < ref.length := by have := hh.2.1; omega
    rw [List.getElem?_eq_getElem this]; rfl
  · show (y.node a.voter).log.prev ≤ (headOf (y.node a.voter).snapsDisk).index
    have : (y.node a.voter).snapIndex = (headOf (y.node a.voter).snapsDisk).index := so.head
    rw [← this]
    exact (hI.prev a.voter).le

theorem cover_quorum (hI : Inv3 V y) {m : Nat × Nat} (hm : m ∈ y.s2.cs.committed) {Q : List Nat}
    (hQ : AckQuorum V (eview (view3 y).cs) m Q) {ref : List Entry} (hp : Path y.s2.cs.T ref) {k τ : Nat}
    (hh : Holds ref k τ) (hkm : Anc y.s2.cs.T (k, τ) m) {v : Nat} (hv : v ∈ Q) : KeepsS y v ref k := by
  obtain ⟨a, ha, a1, a2, a3⟩ := hQ.2.2.2 v hv
  obtain ⟨_, eA, eT, _⟩ := SnapInst3.cview y
  rw [eA] at ha
  rw [eT] at a3
  have := cover_state hI hm ha a2 a3 hp hh hkm
  rwa [a1] at this

theorem committed_quorum (hI : Inv3 V y) {j k : Nat} (hk : 1 ≤ k) (hkc : k ≤ (y.node j).commitIndex) :
    Path y.s2.cs.T (y.vlog j) ∧ Holds (y.vlog j) k (termAt (y.vlog j) k) ∧
    ∃ m ∈ y.s2.cs.committed, m.2 ≤ (y.node j).term ∧ Anc y.s2.cs.T (k, termAt (y.vlog j) k) m ∧
      ∃ Q, AckQuorum V (eview (view3 y).cs) m Q := by
  have hc : CInv V (eview (view3 y).cs) := hI.sinv.cinv
  obtain ⟨eC, _, eT, eN⟩ := SnapInst3.cview y
  obtain ⟨e1, _, e3, e4, _⟩ := eN j
  generalize eview (view3 y).cs = z at hc eC eT e1 e3 e4 ⊢
  rw [← eC, ← eT, ← e1, ← e4]
  rw [← e3] at hkc
  obtain ⟨h1, m, hm, h2, h3⟩ := covered_committed hc hk hkc
  exact ⟨log_path hc j, h1, m, hm, h2, h3, ackQuorum_exists hc hm⟩

end state

/-- **`y'` is the state after node `i` of `x` died leaving the disk `d` and restarted from it as `n`** — `RestartSys.CrashOf`
with the disk image exposed: a crash at the point `k` of an enabled operation of stage 2 (premises of `Snap4.Trans.crash`:
the completed step would not panic, `Snap3.NoCut`, the log on disk is not stale) or at the point `k` of the install handler
(premises of `Snap4.Trans.crashInstall`) -/
inductive CrashAt (x : Snap3.Sys) (i : Nat) : Durable → Node → Snap3.Sys → Prop
  | op (n : Node) (op : Op) (ra : List Nat) (ord : List (List Nat)) (src k retain : Nat) (sor : Bool) :
      Snap.Enabled x.s2.cs i op src → 1 ≤ retain →
      ((x.node i).step op ra ord).panicked = none → NoCut (x.node i) op →
      staleLog (C05.crashDisk (x.node i) op ra ord k) = false →
      Node.restart (C05.crashDisk (x.node i) op ra ord k) retain sor = some n →
      CrashAt x i (C05.crashDisk (x.node i) op ra ord k) n { x with s2 := crashS x.s2 i op n }
  | install (n : Node) (m : SnapMsg) (ra : List Nat) (ord : List (List Nat)) (k retain : Nat) (sor : Bool) :
      i ≠ 0 → (m.q.term < (x.node i).term ∨ m ∈ x.sentSnaps) → 1 ≤ retain →
      ((x.node i).step (.install m.q) ra ord).panicked = none →
      ((C05.crashDisk (x.node i) (.install m.q) ra ord k).snaps = (x.node i).snapsDisk →
        staleLog (C05.crashDisk (x.node i) (.install m.q) ra ord k) = false) →
      Node.restart (C05.crashDisk (x.node i) (.install m.q) ra ord k) retain sor = some n →
      CrashAt x i (C05.crashDisk (x.node i) (.install m.q) ra ord k) n
        (crashInstS x i m (C05.crashDisk (x.node i) (.install m.q) ra ord k) n)

theorem CrashAt.crashOf {x y : Snap3.Sys} {i : Nat} {d : Durable} {n : Node} (h : CrashAt x i d n y) :
    CrashOf x i n y ∧ ∃ retain sor, Node.restart d retain sor = some n := by
  cases h with
  | op n' o ra ord src k retain sor en hret hp hnc hst hn =>
    exact ⟨.op o ra ord src k retain sor en hret hp hnc hst hn, retain, sor, hn⟩
  | install n' m ra ord k retain sor hi hm hret hp hold hn =>
    exact ⟨.install m ra ord k retain sor hi hm hret hp hold hn, retain, sor, hn⟩

theorem restart_log_files (d : Durable) (r : Nat) (sor : Bool) (n : Node) (h : Node.restart d r sor = some n) :
    n.log.prev = (C10.logOf d).prev ∧ n.log.entries = (C10.logOf d).entries ∧ n.log.flushed = (C10.logOf d).last ∧
    n.snapsDisk = d.snaps := by
  rw [restart_field (·.log) (fun _ _ _ _ => rfl) h]
  exact ⟨rfl, rfl, rfl, restart_field (·.snapsDisk) (fun _ _ _ _ => rfl) h⟩

theorem cover_restart {d : Durable} {r : Nat} {sor : Bool} {n : Node} (h : Node.restart d r sor = some n)
    {ref : List Entry} {k : Nat} (hc : Covers n.log n.snapsDisk ref k) : Covers (C10.logOf d) d.snaps ref k := by
  obtain ⟨a, b, _, c⟩ := restart_log_files d r sor n h
  rw [c] at hc
  exact hc.congr a.symm b.symm

theorem cover_stale {d : Durable} (h : staleLog d = true) {ref : List Entry} {k : Nat}
    (hc : Covers (C10.logOf d) d.snaps ref k) : k ≤ (headOf d.snaps).index := by
  have e := C10.logOf_stale d h
  rcases hc.cases with ⟨_, e', he, _⟩ | h'
  · rw [e] at he
    unfold NLog.get? NLog.reset at he
    dsimp only at he
    split at he
    · simp at he
    · cases he
  · exact h'

structure SnapBacked (y : Snap3.Sys) (v : Nat) : Prop where
  prev : (y.node v).log.prev ≤ (y.node v).snapIndex
  commit : (y.node v).snapIndex ≤ (y.node v).commitIndex
  head : (y.node v).snapIndex = (headOf (y.node v).durable.snaps).index
  headMem : 0 < (y.node v).snapIndex → headOf (y.node v).durable.snaps ∈ (y.node v).durable.snaps
  files : ∀ f ∈ (y.node v).durable.snaps, 1 ≤ f.index ∧ f.index ≤ (y.node v).snapIndex ∧
    (∀ k, 1 ≤ k → k ≤ f.index → Committed (view3 y).cs (k, termAt (y.vlog v) k)) ∧
    f.data = ups ((y.vlog v).take f.index) ∧
    ∀ j, f.index ≤ (y.node j).commitIndex → f.data = ups ((y.vlog j).take f.index)

theorem snapBacked {V : List Nat} (hV : V.Nodup) {y : Snap3.Sys} (h : Reachable3 V y) (v : Nat) : SnapBacked y v := by
  have hI := (inv3_reachable hV h).1
  have so : SnapOK (y.vnode v) := hI.sinv.snap v
  have hhead : (y.node v).snapIndex = (headOf (y.node v).snapsDisk).index := so.head
  obtain ⟨⟨a1, a2⟩, _, _⟩ := C09Sys3.snapshot_agrees_with_log_partial hV y h v
  refine ⟨a1, a2, hhead, fun hpos => headOf_mem _ ?_, fun f hf => ?_⟩
  · show 0 < (headOf (y.node v).snapsDisk).index
    rw [← hhead]; exact hpos
  obtain ⟨b1, b2, _, b4, b5, b6⟩ := C09Sys3.snapshot_is_committed_prefix_partial hV y h v f (Or.inr hf)
  exact ⟨b1, b2, b4, b5, b6⟩

/-- **node `v` of state `y` durably covers the first `k` entries of `ref`** — in `y` (`KeepsS`: flushed log above
`log.prev`, snapshot at or below; `SnapBacked`: that snapshot is the replay of a committed prefix), and whenever it dies:
for every crash transition of the system (`CrashAt y v d n y'`: the process dies at any storage point of an enabled
operation of stage 2 — with `NoCut`, the log on disk not stale — or at any storage point of the install handler, leaving the
disk `d`, and restarts as `n`; the state `y'` after the restart satisfies the side conditions)
* the disk image `d` covers them with the log `openStorage` works with (`C10.logOf d`): with `d.log` itself if that is
  not stale; if it is stale (the F18 window: the received snapshot file is on disk, the old log not yet reset) the
  newest snapshot file on `d` alone covers `k`;
* the restarted node holds them again: flushed, in log or snapshot; and keeps them in `y'`. -/
structure DurablyCovered (V : List Nat) (y : Snap3.Sys) (v : Nat) (ref : List Entry) (k : Nat) : Prop where
  keeps : KeepsS y v ref k
  backed : SnapBacked y v
  crash : ∀ d n y', CrashAt y v d n y' → Side4 V y' →
    Covers (C10.logOf d) d.snaps ref k ∧ (staleLog d = false → Covers d.log d.snaps ref k) ∧
    (staleLog d = true → k ≤ (headOf d.snaps).index) ∧
    k ≤ n.log.flushed ∧ Covers n.log n.snapsDisk ref k ∧ KeepsS y' v ref k ∧ SnapBacked y' v

section later
variable {V : List Nat} {x y : Snap3.Sys}

/-- the situation: `m` is a ledger entry of the reachable state `x`, `Q` its acknowledging majority, `ref` a root path of
`x`'s tree that holds the ancestor `(k, τ)` of `m` -/
structure Sit (V : List Nat) (x : Snap3.Sys) (m : Nat × Nat) (Q : List Nat) (ref : List Entry) (k τ : Nat) : Prop where
  hx : Reachable4 V x
  hm : m ∈ x.s2.cs.committed
  hQ : AckQuorum V (eview (view3 x).cs) m Q
  hp : Path x.s2.cs.T ref
  hh : Holds ref k τ
  hkm : Anc x.s2.cs.T (k, τ) m

theorem Sit.run {m : Nat × Nat} {Q : List Nat} {ref : List Entry} {k τ : Nat} (h : Sit V x m Q ref k τ)
    (hrun : Run4 V x y) : Sit V y m Q ref k τ := by
  have kp := run4_mono hrun
  obtain ⟨_, aX, tX, _⟩ := SnapInst3.cview x
  obtain ⟨_, aY, tY, _⟩ := SnapInst3.cview y
  exact ⟨run4_reachable h.hx hrun, kp.committed m h.hm,
    h.hQ.run (by rw [tX, tY]; exact kp.tree) (by rw [aX, aY]; exact kp.acks), h.hp.mono kp.tree, h.hh, h.hkm.mono kp.tree⟩

theorem Sit.keeps (hV : V.Nodup) {m : Nat × Nat} {Q : List Nat} {ref : List Entry} {k τ : Nat}
    (h : Sit V x m Q ref k τ) {v : Nat} (hv : v ∈ Q) : KeepsS x v ref k :=
  cover_quorum (inv3_reachable hV (reach4 hV h.hx).1).1 h.hm h.hQ h.hp h.hh h.hkm hv

theorem Sit.covered (hV : V.Nodup) {m : Nat × Nat} {Q : List Nat} {ref : List Entry} {k τ : Nat}
    (h : Sit V x m Q ref k τ) {v : Nat} (hv : v ∈ Q) : DurablyCovered V x v ref k := by
  refine ⟨h.keeps hV hv, snapBacked hV (reach4 hV h.hx).1 v, fun d n y' hc hs => ?_⟩
  obtain ⟨co, r, sor, hn⟩ := hc.crashOf
  have hrun : Run4 V x y' := .next x y' .refl co.trans hs
  have h' := h.run hrun
  have k' := h'.keeps hV hv
  have hni : y'.node v = n := co.node_i
  have cn : Covers n.log n.snapsDisk ref k := by
    have := k'.disk.of_durable
    rw [hni] at this
    exact this
  have cd := cover_restart hn cn
  refine ⟨cd, fun hst => ?_, fun hst => cover_stale hst cd, ?_, cn, k', snapBacked hV (reach4 hV h'.hx).1 v⟩
  · rw [← C10.logOf_not_stale d hst]; exact cd
  · have := k'.flushed
    rw [hni] at this
    exact this

theorem covered_later (hV : V.Nodup) {m : Nat × Nat} {Q : List Nat} {ref : List Entry} {k τ : Nat}
    (h : Sit V x m Q ref k τ) (hrun : Run4 V x y) {v : Nat} (hv : v ∈ Q) : DurablyCovered V y v ref k :=
  (h.run hrun).covered hV hv

/-- **leader completeness across states, on the virtual log**: a leader of a later state whose term is at least the term
of the ledger entry holds every root path through an ancestor of the entry — in its virtual log; in its real log above
`log.prev`; at or below, its snapshot covers the index -/
theorem leader_holds_later (hV : V.Nodup) {m : Nat × Nat} {Q : List Nat} {ref : List Entry} {k τ : Nat}
    (h : Sit V x m Q ref k τ) {l : Nat} (hl : (x.node l).role = .leader) (hle : m.2 ≤ (x.node l).term) :
    ∀ k', 1 ≤ k' → k' ≤ k → (x.vlog l)[k' - 1]? = ref[k' - 1]? ∧ (ref[k' - 1]?).isSome = true ∧
      ((x.node l).log.prev < k' → (x.node l).log.get? k' = ref[k' - 1]?) ∧
      (k' ≤ (x.node l).log.prev → k' ≤ (x.node l).snapIndex) := by
  have hI := (inv3_reachable hV (reach4 hV h.hx).1).1
  have hc : CInv V (eview (view3 x).cs) := hI.sinv.cinv
  obtain ⟨eC, _, eT, eN⟩ := SnapInst3.cview x
  obtain ⟨e1, _, _, e4, e5⟩ := eN l
  have hm := h.hm
  have hkm := h.hkm
  have hp := h.hp
  generalize eview (view3 x).cs = z at hc eC eT e1 e4 e5
  rw [← eC] at hm
  rw [← eT] at hkm hp
  rw [← e4] at hle
  rw [← e5] at hl
  have hmv : Holds (z.node l).log.entries m.1 m.2 := leader_holds_committed hV hc (i := l) hl hm hle
  have hkv : Holds (z.node l).log.entries k τ := log_holds_anc hc l hkm hmv
  have hpv : Path z.T (z.node l).log.entries := log_path hc l
  intro k' h1 h2
  have ag : (x.vlog l)[k' - 1]? = ref[k' - 1]? := e1 ▸ path_agree (uniq hc) hpv hp hkv h.hh k' h1 h2
  refine ⟨ag, ?_, fun hlt => ?_, fun hle' => Nat.le_trans hle' (hI.prev l).le⟩
  · have : k' - 1 < ref.length := by have := h.hh.2.1; omega
    rw [List.getElem?_eq_getElem this]; rfl
  · rw [C09Sys3.get_virtual3 x l k' hlt, C09Sys3.vget3 x l k' h1, ag]

theorem sit_of_commit (hV : V.Nodup) (hx : Reachable4 V x) {j k : Nat} (hk : 1 ≤ k) (hkc : k ≤ (x.node j).commitIndex) :
    ∃ m Q, m.2 ≤ (x.node j).term ∧ Sit V x m Q (x.vlog j) k (termAt (x.vlog j) k) := by
  have hI := (inv3_reachable hV (reach4 hV hx).1).1
  obtain ⟨hp, hh, m, hm, hmt, hanc, Q, hQ⟩ := committed_quorum hI hk hkc
  exact ⟨m, Q, hmt, hx, hm, hQ, hp, hh, hanc⟩

theorem sit_of_ledger (hV : V.Nodup) (hx : Reachable4 V x) {m : Nat × Nat} (hm : m ∈ x.s2.cs.committed) :
    ∃ Q ref, ref.length = m.1 ∧ Sit V x m Q ref m.1 m.2 := by
  have hI := (inv3_reachable hV (reach4 hV hx).1).1
  have hc : CInv V (eview (view3 x).cs) := hI.sinv.cinv
  obtain ⟨eC, _, eT, _⟩ := SnapInst3.cview x
  have hm' := hm
  rw [← eC] at hm'
  obtain ⟨⟨c, hcT, hck, _⟩, _⟩ := hc.cmt.quorum m hm'
  obtain ⟨es, hp, hh⟩ := hc.tree.ok.pathc c hcT
  have e1 : c.e.index = m.1 := by rw [← hck]; rfl
  have e2 : c.e.term = m.2 := by rw [← hck]; rfl
  rw [e1, e2] at hh
  obtain ⟨Q, hQ⟩ := ackQuorum_exists hc hm'
  rw [eT] at hp
  have hp' : Path x.s2.cs.T (es.take m.1) := hp.prefix (List.take_prefix _ _)
  have hh' : Holds (es.take m.1) m.1 m.2 := holds_take_iff.mpr ⟨Nat.le_refl _, hh⟩
  refine ⟨Q, es.take m.1, ?_, hx, hm, hQ, hp', hh', anc_of_path hp' hh' hh' (Nat.le_refl _)⟩
  rw [List.length_take]; have := hh.2.1; omega

end later

theorem install_reply (s : Node) (q : InstallReq) (ra : List Nat) (ord : List (List Nat)) :
    (s.step (.install q) ra ord).rpcReply.map (·.result) = some ((s.begin ra ord).onInstallSnap q).result := by
  have h := install_step_iobs s q ra ord
  have : (s.step (.install q) ra ord).rpcReply =
      some (((s.begin ra ord).onInstallSnap q).mkReply false false) := congrArg (fun p => p.2.2.2.2.1.2.2.1) h
  rw [this]; rfl

theorem install_reply_success (s : Node) (q : InstallReq) (ra : List Nat) (ord : List (List Nat))
    (h : (s.step (.install q) ra ord).rpcReply.map (·.result) = some rSuccess) : ¬ q.term < s.term := by
  intro hst
  rw [install_reply] at h
  have hst' : q.term < (s.begin ra ord).term := hst
  rw [onInstallSnap_eq, if_pos hst'] at h
  have h' : some rStaleTerm = some rSuccess := h
  exact absurd h' (by decide)

/-- **the storage points of an installing request, in order**: (`value.set`, if the term is adopted), `snap.publish`,
`snap.retain`, `clearLog`; before `snap.publish` the log and the snapshot files on disk are the old ones; from
`snap.publish` on the received file is the newest file on disk; the log is reset only at `clearLog` -/
theorem install_trace_order (s : Node) (q : InstallReq) (ra : List Nat) (ord : List (List Nat)) (hi : Installs s q)
    (hr : 1 ≤ s.retain) (hh : ∀ g, s.snapsDisk.head? = some g → g.index ≤ q.lastIndex) :
    ∃ pre d1 d2 d3, (s.step (.install q) ra ord).trace =
        pre ++ [("snap.publish", d1), ("snap.retain", d2), ("clearLog", d3)] ∧
      (∀ p ∈ pre, p.2.log = s.durable.log ∧ p.2.snaps = s.snapsDisk) ∧
      (d1.log = s.durable.log ∧ d1.snaps.head? = some (C09.fileOf q)) ∧
      (d2.log = s.durable.log ∧ d2.snaps.head? = some (C09.fileOf q)) ∧
      (d3.log = NLog.reset q.lastIndex ∧ d3.snaps.head? = some (C09.fileOf q)) ∧
      ((s.step (.install q) ra ord).durable.log = NLog.reset q.lastIndex ∧
        (s.step (.install q) ra ord).durable.snaps.head? = some (C09.fileOf q)) := by
  obtain ⟨hterm, hahead, hk⟩ := hi
  have hb1 : ¬ q.term < (s.begin ra ord).term := hterm
  have hb2 : (s.begin ra ord).commitIndex < q.lastIndex := hahead
  have hb3 : C09.keepsLog (s.begin ra ord) q = false := hk
  have htr : (s.step (.install q) ra ord).trace = ((s.begin ra ord).onInstallSnap q).trace :=
    (install_step_eqs s q ra ord).2.2.2.1.1
  have hscript := C10.install_discard_script (s.begin ra ord) q hb1 hb2 hb3
  have hbt : (s.begin ra ord).trace = [] := rfl
  rw [hbt, List.nil_append] at hscript
  have sd := sameData_installPre (s.begin ra ord) q
  have hpl : (installPre (s.begin ra ord) q).durable.log = s.durable.log := by
    show (installPre (s.begin ra ord) q).log.durable = s.log.durable
    rw [sd.log]; rfl
  have hd1 := inst_head s q hr hh (l := insertSnap (C09.fileOf q) s.snapsDisk) (Or.inl rfl)
  have hd2 := inst_head s q hr hh (l := (insertSnap (C09.fileOf q) s.snapsDisk).take s.retain) (Or.inr rfl)
  have hdur : (s.step (.install q) ra ord).durable = ((s.begin ra ord).onInstallSnap q).durable :=
    (iobs_durable (install_step_iobs s q ra ord)).trans rfl
  refine ⟨C10.preTrace (s.begin ra ord) q,
    { (installPre (s.begin ra ord) q).durable with snaps := insertSnap (C09.fileOf q) s.snapsDisk },
    { (installPre (s.begin ra ord) q).durable with snaps := (insertSnap (C09.fileOf q) s.snapsDisk).take s.retain },
    { (installPre (s.begin ra ord) q).durable with
        snaps := (insertSnap (C09.fileOf q) s.snapsDisk).take s.retain, log := NLog.reset q.lastIndex },
    htr.trans hscript, C10.preTrace_forall _ q fun _ => ⟨rfl, rfl⟩, ⟨hpl, hd1⟩, ⟨hpl, hd2⟩, ⟨rfl, hd2⟩, ?_⟩
  rw [hdur]
  obtain ⟨e1, _, _, _, _, _, _, _, e9, _⟩ := C09.install_snapshot_discard (s.begin ra ord) q hb1 hb2 hb3
  constructor
  · show ((s.begin ra ord).onInstallSnap q).log.durable = _
    rw [e1, NLog.reset_durable]
  · show ((s.begin ra ord).onInstallSnap q).snapsDisk.head? = _
    rw [e9]; exact hd2

/-- **every crash point of the install handler**: the disk holds the old log and the old snapshot files (the process died
before `snap.publish`), or the received file is the newest file on disk -/
theorem install_crash_point (s : Node) (q : InstallReq) (ra : List Nat) (ord : List (List Nat)) (k : Nat)
    (hr : 1 ≤ s.retain) (hh : ∀ g, s.snapsDisk.head? = some g → g.index ≤ q.lastIndex) :
    ((C05.crashDisk s (.install q) ra ord k).log = s.durable.log ∧
      (C05.crashDisk s (.install q) ra ord k).snaps = s.snapsDisk) ∨
    (Installs s q ∧ (C05.crashDisk s (.install q) ra ord k).snaps.head? = some (C09.fileOf q)) := by
  rcases (install_crashDisk s q ra ord k).data with h | ⟨hi, _, hs, _⟩
  · exact Or.inl h
  · exact Or.inr ⟨hi, inst_head s q hr hh hs⟩

end DurableSnap
end Raft
