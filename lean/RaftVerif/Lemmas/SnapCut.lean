/-
The cut: crash disks and restart for the un-compaction that keeps the segment list (`SnapInstV.V`,
Lemmas/SnapInstV.lean) — what `Snap3.NoCut` excludes for crashes: a process that dies while an append request overwrites
the uncommitted first entry directly behind an installed snapshot.

The disk of `V β s` at a crash point is `vD β` of the disk of `s` (`C05.crashDisk_comm`); `openStorage` does not read the
segment list (`restart_segs`); the ledgers of a crash read of the restarted node only term, vote and log entries
(`crashC_congr`); hence `crash3_append`: the invariant of stage 1 for the virtual nodes after a crash at any storage point of
the handler of ANY append request and the restart from a log that is not stale.

Then the system WITH THE STALE RESET AND THE CUT (Sys/Snap6.lean). Inside the `NoCut` window (`0 < log.prev = snapIndex =
commitIndex`) no crash disk of an append handler is stale (`cut_not_stale`); the invariant `SnapInst3.Inv3` survives a crash
at ANY storage point of any operation and the restart (`inv3_crash_any`, `inv3_crashInstall`), so every transition of
`Raft.Snap6` preserves it (`inv6_trans`), and every run of `Raft.Snap3` is a run of `Raft.Snap6` (`trans3_trans6`).
The per-node invariants `C12Track.Tracks` / `Order.Ordered` WITHOUT the premise `TermTracked` (`Snap6.TransT`): a restart that
resets a stale log yields a tracking node WHATEVER was on the disk (`stale_restart_tracks`: it is the restart from the disk
with the log `NLog.reset F`), a crash at any storage point of any operation of stage 2 leaves a disk from which the restart
yields a tracking node (`crash_tracks6`), so every run of `Snap6.TransT` — in particular of `Raft.Snap4` — is a run of
`Snap6.Trans` on which every node is tracking and ordered (`inv4_trans6`, `trans4_transT`).
-/
import RaftVerif.Lemmas.SnapStale
import RaftVerif.Lemmas.SnapInst3v
import RaftVerif.Lemmas.SnapInst4
import RaftVerif.Sys.Snap6

namespace Raft
namespace SnapCut
open Node Election LogRel Replication CommitRel Commit C02Sys C03Sys SnapRel SnapRelU SnapSim Snap Snap2 SnapInv SnapInv2
open SnapInst SnapInstU Snap3 SnapFrame SnapInst3 SnapInstV

variable {β : List Entry}

def segL (l : NLog) (sg : List Nat) : NLog := { l with segs := sg }

theorem vD_eq (d : Durable) : vD β d = { uncD β d with log := segL (uncD β d).log d.log.segs } := rfl

theorem scan_segs (l : NLog) (sg : List Nat) (sn : Nat) : ∀ (fuel i : Nat) (latest : Option Config),
    scanConfigs (segL l sg) sn fuel i latest = scanConfigs l sn fuel i latest := by
  intro fuel
  induction fuel with
  | zero => intro i latest; rfl
  | succ n ih =>
    intro i latest
    unfold scanConfigs
    by_cases hi : i ≤ sn
    · rw [if_pos hi, if_pos hi]
    · rw [if_neg hi, if_neg hi]
      have hg : (segL l sg).get? i = l.get? i := rfl
      rw [hg]
      cases l.get? i with
      | none => rfl
      | some e =>
        dsimp only
        cases e.config? with
        | some c =>
          dsimp only
          cases latest with
          | none => exact ih _ _
          | some l' => rfl
        | none =>
          dsimp only
          split
          · rfl
          · exact ih _ _

theorem staleLog_segs (D : Durable) (sg : List Nat) : staleLog { D with log := segL D.log sg } = staleLog D := rfl

theorem restart_segs (D : Durable) (sg : List Nat) (r : Nat) (sor : Bool) (N : Node)
    (hN : Node.restart D r sor = some N) (hst : staleLog D = false) :
    Node.restart { D with log := segL D.log sg } r sor = some { N with log := segL N.log sg } := by
  have hst' := staleLog_segs D sg
  rw [hst] at hst'
  have hf : restartFails { D with log := segL D.log sg } = restartFails D := by
    unfold restartFails
    dsimp only
    simp only [hst, hst', Bool.false_eq_true, if_false]
    rw [scan_segs]
    rfl
  have hrn : restartNode { D with log := segL D.log sg } r sor =
      { restartNode D r sor with log := segL (restartNode D r sor).log sg } := by
    unfold restartNode
    dsimp only
    simp only [hst, hst', Bool.false_eq_true, if_false]
    rw [scan_segs]
    rfl
  rw [Node.restart_map (fun n => { n with log := segL n.log sg }) hf hrn rfl rfl rfl
    (by rw [fsmRestore_eq, fsmRestore_eq]; rfl), hN]
  rfl

theorem crashC_congr (z : Commit.Sys) (i : Nat) (op : Op) (N N' : Node)
    (h1 : N'.term = N.term) (h2 : N'.votedFor = N.votedFor) (h3 : N'.log.entries = N.log.entries) :
    withNodes (crashC z i op N) (setNode (crashC z i op N).rp.el.node i N') = crashC z i op N' := by
  have hs : setNode (setNode z.rp.el.node i N) i N' = setNode z.rp.el.node i N' := setNode_setNode _ _ _ _
  unfold crashC crashRp campOf withNodes
  simp only [h1, h2, h3, hs]

theorem restart_segs_eq (d : Durable) (r : Nat) (sor : Bool) (n : Node) (hn : Node.restart d r sor = some n)
    (hst : staleLog d = false) : n.log.segs = d.log.segs := by
  rw [Node.restart_log_notstale hn hst]

section
variable {V : List Nat}

/-- **a crash at any storage point of the handler of ANY append request — also one that overwrites the first entry of a
log that starts exactly at its snapshot index (`RemoveGTE` empties the log: the case `Snap3.NoCut` excludes) — and the
restart from a log that is not stale.**  The virtual node is regrouped to the un-compaction that keeps the segment list
(`SnapInstV.V`), crashes there (a crash of stage 1: `C05.crashDisk_comm`, `restart_segs`), and the restarted node is regrouped
back. -/
theorem crash3_append (hV : V.Nodup) {x : Snap3.Sys} (hI3 : Inv3 V x) (hS : Side3 V x) {i : Nat} {q : AppendReq}
    {ra : List Nat} {ord : List (List Nat)} {src k retain : Nat} {sor : Bool} {n : Node}
    (en : Snap.Enabled x.s2.cs i (.append q) src) (hret : 1 ≤ retain)
    (hp : ((x.node i).step (.append q) ra ord).panicked = none)
    (hst : staleLog (C05.crashDisk (x.node i) (.append q) ra ord k) = false)
    (hn : Node.restart (C05.crashDisk (x.node i) (.append q) ra ord k) retain sor = some n)
    (hseg : n.log.segs ≠ [])
    (hS' : SideS V (view (crashS x.s2 i (.append q) n))) :
    SInv V (view (crashS x.s2 i (.append q) n)) ∧ PrevOK n ∧
    (crashS x.s2 i (.append q) n).vnode i = U (x.s2.base i) n ∧
    FilesOK (x.vlog i) (x.node i).commitIndex (C05.crashDisk (x.node i) (.append q) ra ord k).snaps ∧
    (∀ g ∈ (C05.crashDisk (x.node i) (.append q) ra ord k).snaps, termAt (x.vlog i) g.index = g.term) ∧
    (C05.crashDisk (x.node i) (.append q) ra ord k).log.prev = (x.node i).log.prev := by
  have hI := hI3.sinv
  have hP := hI3.prev
  obtain ⟨hav, hfl⟩ := av_node hI3 hS i
  have so : SnapOK (x.vnode i) := hI.snap i
  have hcomm0 := append_step_V (β := x.s2.base i) (x.node i) q ra ord hav hp
  have hdiskV := C05.crashDisk_comm (SnapInstV.V (x.s2.base i)) (vD (x.s2.base i)) V_durable (fun _ => rfl) (x.node i)
    (.append q) (.append q) ra ord hcomm0 k
  have fr := step_frame (x.node i) (.append q) ra ord trivial (hP i).le hfl
  have hd := disk_of_FR fr hfl (C04Sys.crashDisk_cases (x.node i) (.append q) ra ord k)
  have hsd := crash_snaps_eq (x.node i) (.append q) ra ord k en.ok2.1 (fun h => nomatch h)
  generalize C05.crashDisk (x.node i) (.append q) ra ord k = d at hn hst hdiskV hd hsd
  have hhd : headSnap d = headOf (x.node i).snapsDisk := by show headOf d.snaps = _; rw [hsd]
  have hft : ∀ g ∈ d.snaps, termAt (x.vlog i) g.index = g.term := by rw [hsd]; exact (hI3.vterm i).files
  have hfo : FilesOK (x.vlog i) (x.node i).commitIndex d.snaps := by rw [hsd]; exact so.files
  have hsn : (x.node i).snapIndex = (headSnap d).index := by rw [hhd]; exact so.head
  obtain ⟨r1, r2, r3, r4, r5⟩ := restart_view (x.s2.base i) d retain sor n hn
    (by rw [hd.1, ← hsn]; exact (hP i).le) hd.2 hst (pad_term_of_files hd.1 hft)
  have hnu : staleLog (uncD (x.s2.base i) d) = false := (restart_noreset _ retain sor _ r1 rfl).2.2
  obtain ⟨N1, hN1⟩ : ∃ N1 : Node, N1 = { U (x.s2.base i) n with log := segL (U (x.s2.base i) n).log d.log.segs } := ⟨_, rfl⟩
  have rV : Node.restart (vD (x.s2.base i) d) retain sor = some N1 := by
    rw [vD_eq, hN1]; exact restart_segs _ _ _ _ _ r1 hnu
  have hPn : U (newBase x.s2 i n.log.prev) n = U (x.s2.base i) n := by
    have hb : newBase x.s2 i n.log.prev = pad (x.s2.base i) (x.node i).log.prev := by
      unfold newBase Snap2.Sys.vlog Snap2.Sys.vnode
      rw [r2, hd.1]
      exact take_vlog (x.s2.base i) (x.node i).log
    rw [hb, U_pad _ _ _ (by rw [r2, hd.1]) (by rw [r5]; intro pt hpt; cases hpt)]
  -- step 1: regroup the virtual node of `i` to `V`
  obtain ⟨hI1, hSX1, hx1i, hx1j, hen⟩ := regroupV_spec hI3 hS i
  have en1 := hen en
  generalize hX1 : regroupV x i = X1 at hI1 hSX1 hx1i hx1j en1
  -- step 2: the virtual node crashes and restarts (stage 1)
  obtain ⟨Y1, hY1⟩ : ∃ Y1 : Snap.Sys, Y1 = { cs := crashC X1.cs i (.append q) N1, snaps := newSnaps i (X1.node i).snapsDisk N1.snapsDisk ++ X1.snaps } :=
    ⟨_, rfl⟩
  have ht : Snap.Trans X1 Y1 := by
    rw [hY1]
    exact Snap.Trans.crash i (.append q) ra ord src k retain sor N1 en1 hret (fun h => nomatch h)
      (by rw [hx1i, hdiskV]; exact rV)
  have hY1i : Y1.node i = N1 := by rw [hY1]; exact crashC_node_i _ _ _ _
  have hY1j : ∀ j, j ≠ i → Y1.node j = x.vnode j := fun j hj => by
    rw [hY1]
    show (crashC X1.cs i (.append q) N1).node j = _
    rw [crashC_node_j _ _ _ _ hj]; exact hx1j j hj
  have hvy : ∀ j, (crashS x.s2 i (.append q) n).vnode j = if j = i then U (x.s2.base i) n else x.vnode j := by
    intro j; rw [view_crashS_node, hPn]
  have hN1c : N1.configs = n.configs := by rw [hN1]; rfl
  have hN1e : N1.log.entries = (U (x.s2.base i) n).log.entries := by rw [hN1]; rfl
  have hSY1 : SideS V Y1 := by
    refine sideS_replace hS' (fun j hj => (hY1j j hj).trans ?_) ?_
    · show x.vnode j = (crashS x.s2 i (.append q) n).vnode j
      rw [hvy, if_neg hj]
    · have := sideS_node hS' i
      rw [show (view (crashS x.s2 i (.append q) n)).node i = (crashS x.s2 i (.append q) n).vnode i from rfl,
        hvy, if_pos rfl] at this
      rw [hY1i]; exact this.congr hN1c (by rw [hN1]; rfl) hN1e
  have hIY1 := inv_trans hV hI1 hSX1 ht hSY1
  -- step 3: regroup back to `U`
  have hsegs : n.log.segs = d.log.segs := restart_segs_eq d retain sor n hn hst
  have hsoN : SnapOK N1 := by rw [← hY1i]; exact hIY1.snap i
  have ss2 : SnapStep N1 (U (x.s2.base i) n) := by
    rw [hN1] at hsoN ⊢
    refine ⟨⟨rfl, rfl, rfl, rfl, rfl, rfl, rfl, Nat.le_refl _, fun hw => ?_, rfl, rfl, rfl, rfl, rfl, rfl⟩, rfl,
      ⟨hsoN.retain, hsoN.files, hsoN.head, hsoN.le⟩, Nat.le_refl _, fun g hg => Or.inl hg⟩
    show C06.LogWF (uncLog (x.s2.base i) n.log)
    have hw' : C06.LogWF (segL (uncLog (x.s2.base i) n.log) d.log.segs) := hw
    unfold C06.LogWF at hw' ⊢
    have h1 : (segL (uncLog (x.s2.base i) n.log) d.log.segs).lastSegPrev = (uncLog (x.s2.base i) n.log).lastSegPrev := by
      rw [uncLog_lastSegPrev]
      unfold NLog.lastSegPrev segL
      dsimp only
      rw [← hsegs]
      cases hl : n.log.segs.getLast? with
      | none => exact absurd (List.getLast?_eq_none_iff.mp hl) hseg
      | some v => rfl
    have h2 : (segL (uncLog (x.s2.base i) n.log) d.log.segs).last = (uncLog (x.s2.base i) n.log).last := rfl
    have h3 : (segL (uncLog (x.s2.base i) n.log) d.log.segs).flushed = (uncLog (x.s2.base i) n.log).flushed := rfl
    rw [h1, h2, h3] at hw'
    exact hw'
  have ss2' : SnapStep (Y1.node i) (U (x.s2.base i) n) := by rw [hY1i]; exact ss2
  have hI2 := sinv_regroup hIY1 ss2'
  -- step 4: this is the view of the state after the crash
  have hview : view (crashS x.s2 i (.append q) n) =
      { cs := withNodes Y1.cs (setNode Y1.cs.rp.el.node i (U (x.s2.base i) n)),
        snaps := newSnaps i (Y1.node i).snapsDisk (U (x.s2.base i) n).snapsDisk ++ Y1.snaps } := by
    rw [view_crashS x.s2 i (.append q) n _ hPn]
    refine sys_ext ?_ ?_
    · show crashC (view x.s2).cs i (.append q) (U (x.s2.base i) n) = withNodes Y1.cs (setNode Y1.cs.rp.el.node i _)
      have hYcs : Y1.cs = crashC (view x.s2).cs i (.append q) N1 := by
        rw [hY1, ← hX1]
        exact crashC_regroup (view x.s2).cs i (.append q) (SnapInstV.V (x.s2.base i) (x.node i)) N1 rfl rfl rfl rfl
      rw [hYcs]
      exact (crashC_congr (view x.s2).cs i (.append q) N1 (U (x.s2.base i) n) (by rw [hN1]) (by rw [hN1])
        (by rw [hN1]; rfl)).symm
    · show newSnaps i (x.node i).snapsDisk n.snapsDisk ++ x.s2.snaps = _
      have e1 : (Y1.node i).snapsDisk = n.snapsDisk := by rw [hY1i, hN1]; rfl
      have e2 : (X1.node i).snapsDisk = (x.node i).snapsDisk := by rw [hx1i]; rfl
      have e3 : N1.snapsDisk = n.snapsDisk := by rw [hN1]; rfl
      have e4 : X1.snaps = newSnaps i (x.node i).snapsDisk (x.node i).snapsDisk ++ x.s2.snaps := by rw [← hX1]; rfl
      have e5 : Y1.snaps = newSnaps i (X1.node i).snapsDisk N1.snapsDisk ++ X1.snaps := by rw [hY1]
      rw [e1, e5, e2, e3, e4]
      show _ = newSnaps i n.snapsDisk n.snapsDisk ++ _
      rw [newSnaps_same, newSnaps_same, List.nil_append, List.nil_append]
  refine ⟨by rw [hview]; exact hI2, ⟨by rw [r2, r3, hd.1, ← hsn]; exact (hP i).le,
    fun rs hrs => by rw [r4] at hrs; cases hrs⟩, by rw [hvy, if_pos rfl], hfo, hft, hd.1⟩

end

open Snap6

section
variable {V : List Nat}

/-- what a crash in the handler of an append request leaves on disk: the log starts where it started, is flushed as far
as it goes; the snapshot files are untouched -/
theorem append_disk {x : Snap3.Sys} (hI3 : Inv3 V x) (hS : Side3 V x) {i : Nat} {q : AppendReq} {ra : List Nat}
    {ord : List (List Nat)} {src : Nat} (k : Nat) (en : Snap.Enabled x.s2.cs i (.append q) src) :
    (C05.crashDisk (x.node i) (.append q) ra ord k).log.prev = (x.node i).log.prev ∧
    (C05.crashDisk (x.node i) (.append q) ra ord k).snaps = (x.node i).snapsDisk := by
  have hI := hI3.sinv
  have hP := hI3.prev
  have hfl : (x.node i).log.prev ≤ (x.node i).log.flushed :=
    prev_le_flushed (x.s2.base i) (hS.segs i) (vnode_lwf3 hI i)
  have fr := step_frame (x.node i) (.append q) ra ord trivial (hP i).le hfl
  exact ⟨(disk_of_FR fr hfl (C04Sys.crashDisk_cases (x.node i) (.append q) ra ord k)).1,
    crash_snaps_eq (x.node i) (.append q) ra ord k en.ok2.1 (fun h => nomatch h)⟩

/-- **inside the `NoCut` window no crash disk of the append handler is stale**: the node has `0 < log.prev = snapIndex`,
so the log on every crash disk starts exactly at the newest snapshot file — it neither ends below it nor holds an entry
at its index -/
theorem cut_not_stale {x : Snap3.Sys} (hI3 : Inv3 V x) (hS : Side3 V x) {i : Nat} {q : AppendReq} {ra : List Nat}
    {ord : List (List Nat)} {src : Nat} (k : Nat) (en : Snap.Enabled x.s2.cs i (.append q) src)
    (hcut : ¬ NoCut (x.node i) (.append q)) :
    staleLog (C05.crashDisk (x.node i) (.append q) ra ord k) = false := by
  obtain ⟨h1, h2⟩ := append_disk hI3 hS (ra := ra) (ord := ord) k en
  have so : SnapOK (x.vnode i) := hI3.sinv.snap i
  have hle := (hI3.prev i).le
  have hsi : (x.node i).snapIndex = (headOf (x.node i).snapsDisk).index := so.head
  have hnp : ¬ (x.node i).log.prev < (x.node i).snapIndex := fun h => hcut (Or.inr (Or.inr (Or.inl h)))
  generalize C05.crashDisk (x.node i) (.append q) ra ord k = d at h1 h2
  have hF : (headSnap d).index = d.log.prev := by
    show (headOf d.snaps).index = _
    rw [h2, ← hsi, h1]; omega
  show (decide (d.log.last < (headSnap d).index) ||
    (decide (d.log.prev < (headSnap d).index) &&
      ((d.log.get? (headSnap d).index).map (·.term) != some (headSnap d).term))) = false
  rw [hF]
  have e1 : decide (d.log.last < d.log.prev) = false := by
    have : d.log.last = d.log.prev + d.log.entries.length := rfl
    simp; omega
  have e2 : decide (d.log.prev < d.log.prev) = false := by simp
  rw [e1, e2]; rfl

theorem inv3_crash_append (hV : V.Nodup) {x : Snap3.Sys} (hI : Inv3 V x) (hS : Side3 V x) {i : Nat} {q : AppendReq}
    {ra : List Nat} {ord : List (List Nat)} {src k retain : Nat} {sor : Bool} {n : Node}
    (en : Snap.Enabled x.s2.cs i (.append q) src) (hret : 1 ≤ retain)
    (hp : ((x.node i).step (.append q) ra ord).panicked = none)
    (hst : staleLog (C05.crashDisk (x.node i) (.append q) ra ord k) = false)
    (hn : Node.restart (C05.crashDisk (x.node i) (.append q) ra ord k) retain sor = some n)
    (hS' : Side3 V { x with s2 := crashS x.s2 i (.append q) n }) :
    Inv3 V { x with s2 := crashS x.s2 i (.append q) n } := by
  obtain ⟨w1, w2, w3, _⟩ := restart_snapTerm _ retain sor n hn
  have hseg : n.log.segs ≠ [] := fun h => by
    have := (hS'.segs i).head
    have e : ({ x with s2 := crashS x.s2 i (.append q) n } : Snap3.Sys).node i = n := crashS_node_i _ _ _ _
    rw [e, h] at this; cases this
  obtain ⟨a1, a2, _, a4, hft, _⟩ := crash3_append hV hI hS en hret hp hst hn hseg (sideS_view3 hS')
  exact ⟨a1, nodes_crashS hI.prev a2,
    vterm_crashS hI.vterm (vterm_restart hI (y := { x with s2 := crashS x.s2 i (.append q) n }) a1 (crashS_T _ _ _ _).1
      (crashS_T _ _ _ _).2 (crashS_node_i _ _ _ _) a4 hft w2 w1 w3),
    fun m hm => (hI.msgs m hm).mono (crashS_T _ _ _ _).1 (crashS_T _ _ _ _).2⟩

/-- **a crash at any storage point of any operation of stage 2, and the restart** — whether or not the restart resets
the log (`inv3_crash_stale`), inside the window of `Snap3.NoCut` (`inv3_crash_append`) or outside (`inv3_crash_plain`) -/
theorem inv3_crash_any (hV : V.Nodup) {x : Snap3.Sys} (hI : Inv3 V x) (hS : Side3 V x) {i : Nat} {op : Op}
    {ra : List Nat} {ord : List (List Nat)} {src k retain : Nat} {sor : Bool} {n : Node}
    (en : Snap.Enabled x.s2.cs i op src) (hret : 1 ≤ retain) (hp : ((x.node i).step op ra ord).panicked = none)
    (htt : TermTracked (x.node i) op)
    (hn : Node.restart (C05.crashDisk (x.node i) op ra ord k) retain sor = some n)
    (hS' : Side3 V { x with s2 := crashS x.s2 i op n }) : Inv3 V { x with s2 := crashS x.s2 i op n } := by
  by_cases hap : ∃ q, op = .append q
  · obtain ⟨q, rfl⟩ := hap
    cases hst : staleLog (C05.crashDisk (x.node i) (.append q) ra ord k) with
    | false => exact inv3_crash_append hV hI hS en hret hp hst hn hS'
    | true =>
      have hnc : NoCut (x.node i) (.append q) := by
        apply Classical.byContradiction
        intro hc
        rw [cut_not_stale hI hS k en hc] at hst
        cases hst
      exact (inv3_crash_stale hV hI hS en hret hp hnc htt hst hn).1
  · have hnc : NoCut (x.node i) op := noCut_of_not_append _ hap
    cases hst : staleLog (C05.crashDisk (x.node i) op ra ord k) with
    | false => exact inv3_crash_plain hV hI hS en hret hp hnc htt hst hn hS'
    | true => exact (inv3_crash_stale hV hI hS en hret hp hnc htt hst hn).1

theorem sys3_ext {a b : Snap3.Sys} (h1 : a.s2.cs = b.s2.cs) (h2 : a.s2.snaps = b.s2.snaps) (h3 : a.s2.base = b.s2.base)
    (h4 : a.sentSnaps = b.sentSnaps) : a = b := by
  obtain ⟨⟨_, _, _⟩, _⟩ := a
  obtain ⟨⟨_, _, _⟩, _⟩ := b
  simp only at h1 h2 h3 h4
  subst h1; subst h2; subst h3; subst h4
  rfl

/-- **a crash in the install handler that leaves the old log and the old snapshot files on disk** (at most the request's
newer term reached the disk), and the restart, whether or not it resets the log: a crash of stage 2 before the first
storage point of a trivial operation (`inv3_crash_any`) followed by the adoption of the term (`bumped_inv`); the state
reached in these two stages is the state reached at once -/
theorem olddisk_inv (hV : V.Nodup) {x : Snap3.Sys} (hI : Inv3 V x) (hS : Side3 V x) {i : Nat} (hi : i ≠ 0)
    {d : Durable} {t retain : Nat} {sor : Bool} {n : Node}
    (h1 : d.cid = (x.node i).cid) (h2 : d.nid = (x.node i).nid) (h3 : d.log = (x.node i).durable.log)
    (h4 : d.snaps = (x.node i).snapsDisk)
    (htv : (d.term = (x.node i).durTerm ∧ d.vote = (x.node i).durVote) ∨ ((x.node i).term < t ∧ d.term = t ∧ d.vote = 0))
    (hret : 1 ≤ retain) (hn : Node.restart d retain sor = some n)
    (hS' : Side3 V (replS x i n (newBase x.s2 i n.log.prev))) :
    SInv V (view3 (replS x i n (newBase x.s2 i n.log.prev))) ∧ PrevOK n ∧
    VTerm (replS x i n (newBase x.s2 i n.log.prev)) i := by
  have hvw : C05.VoteWF (x.node i) := (hI.sinv.cinv.rp.el.ids i).2
  -- the node restarted from the old disk with the old term and vote
  have hd0 := durable_ext d (x.node i) h1 h2 h3 h4
  have hn0 := restart_congr_tv d (x.node i).durTerm (x.node i).durVote retain sor n hn
  rw [hd0] at hn0
  obtain ⟨n0, hn0def⟩ : ∃ n0 : Node, n0 = { n with term := (x.node i).durTerm, votedFor := (x.node i).durVote, durTerm := (x.node i).durTerm, durVote := (x.node i).durVote } :=
    ⟨_, rfl⟩
  rw [← hn0def] at hn0
  have e_log : n0.log = n.log := by rw [hn0def]
  have e_sd : n0.snapsDisk = n.snapsDisk := by rw [hn0def]
  have e_cfg : n0.configs = n.configs := by rw [hn0def]
  have e_term : n0.term = (x.node i).durTerm := by rw [hn0def]
  obtain ⟨v1, v2, v3, v4⟩ := C10.restart_term_vote d retain sor n hn
  have hpd : ((x.node i).step (.disconnected 0) [] []).panicked = none := by rw [step_disconnected0]; rfl
  -- its log is not longer than the old virtual log
  have hlen : n.log.prev + n.log.entries.length ≤ (x.vlog i).length := by
    rw [vlog_length]
    cases hst : staleLog d with
    | false =>
      obtain ⟨r1, r2⟩ := SnapInst4.restart_log_notstale d retain sor n hn hst
      rw [r1, r2, h3]
      show (x.node i).log.prev + ((x.node i).log.entries.take _).length ≤ (x.node i).log.prev + (x.node i).log.entries.length
      rw [List.length_take]; omega
    | true =>
      rw [(restart_stale_fields d retain sor n hn hst).1]
      have hm := headSnap_mem _ (stale_pos _ hst)
      rw [h4] at hm
      have so : SnapOK (x.vnode i) := hI.sinv.snap i
      obtain ⟨g1, g2, _⟩ := so.files.files _ hm
      have := (hI.sinv.cinv.cmt.cc i _ g1 g2).1
      rw [show ((eview (view3 x).cs).node i).log.entries.length = (x.vlog i).length from rfl, vlog_length] at this
      show (headSnap d).index + 0 ≤ _
      omega
  generalize hβ : newBase x.s2 i n.log.prev = β at hS' ⊢
  have hβlen : β.length = n.log.prev := by
    have hlen' : n.log.prev + n.log.entries.length ≤ (x.s2.vlog i).length := hlen
    rw [← hβ]; unfold newBase; rw [List.length_take]; omega
  have hvn0 : (crashS x.s2 i (.disconnected 0) n0).vnode i = U β n0 := by
    rw [view_crashS_node, if_pos rfl, e_log, hβ]
  -- stage A: a crash of stage 2 before the first storage point of a trivial operation
  have hSA : SideS V (view (crashS x.s2 i (.disconnected 0) n0)) := by
    refine sideS_replace (sideS_view3 hS') (i := i) (fun j hj => ?_) ?_
    · show (crashS x.s2 i (.disconnected 0) n0).vnode j = (replS x i n β).vnode j
      rw [view_crashS_node, if_neg hj, replS_vnode_j _ _ _ _ hj]
    · show SideN V ((crashS x.s2 i (.disconnected 0) n0).vnode i)
      rw [hvn0]
      have := sideS_node (sideS_view3 hS') i
      rw [show (view3 (replS x i n β)).node i = (replS x i n β).vnode i from rfl, replS_vnode_i] at this
      exact this.congr (by show n0.configs = n.configs; exact e_cfg) rfl
        (by show (uncLog _ n0.log).entries = (uncLog _ n.log).entries; rw [e_log])
  have hS1 : Side3 V { x with s2 := crashS x.s2 i (.disconnected 0) n0 } :=
    ⟨hSA.sideV, hSA.dec, nodes_crashS (P := fun s => C09.SegsOK s.log) hS.segs (by
      have := hS'.segs i
      rw [replS_node_i] at this
      rw [e_log]; exact this)⟩
  have hx1 := inv3_crash_any hV hI hS (i := i) (op := .disconnected 0) (ra := []) (ord := []) (src := 0) (k := 0)
    (enabled_disc0 _ hi 0) hret hpd trivial hn0 hS1
  -- stage B: the term is adopted
  obtain ⟨r1, _⟩ := restart_role_nid d retain sor n hn
  have hb : Bumped (({ x with s2 := crashS x.s2 i (.disconnected 0) n0 } : Snap3.Sys).node i) n := by
    show Bumped ((crashS x.s2 i (.disconnected 0) n0).node i) n
    rw [crashS_node_i, hn0def]
    refine ⟨rfl, rfl, rfl, rfl, rfl, rfl, rfl, rfl, r1, rfl, ?_, ⟨v3, v4⟩, rfl, rfl⟩
    show (n.term = (x.node i).durTerm ∧ n.votedFor = (x.node i).durVote) ∨ ((x.node i).durTerm < n.term ∧ n.votedFor = 0)
    rw [v1, v2]
    rcases htv with ⟨e1, e2⟩ | ⟨e0, e1, e2⟩
    · exact Or.inl ⟨e1, e2⟩
    · right; rw [e1, e2, hvw.1]; exact ⟨e0, rfl⟩
  obtain ⟨c1, c2, c3⟩ := bumped_inv hx1 (i := i) hb
  -- the state reached in two stages is the state reached at once
  have hstate : replS { x with s2 := crashS x.s2 i (.disconnected 0) n0 } i n
      (newBase (crashS x.s2 i (.disconnected 0) n0) i
        (({ x with s2 := crashS x.s2 i (.disconnected 0) n0 } : Snap3.Sys).node i).log.prev) = replS x i n β := by
    refine sys3_ext ?_ ?_ ?_ rfl
    · show withNodes (withNodes (crashC (view x.s2).cs i (.disconnected 0) _) (setNode x.s2.cs.rp.el.node i n0))
          (setNode (setNode x.s2.cs.rp.el.node i n0) i n) = withNodes x.s2.cs (setNode x.s2.cs.rp.el.node i n)
      have hq : crashC (view x.s2).cs i (.disconnected 0) (U (newBase x.s2 i n0.log.prev) n0) =
          repl (view x.s2).cs i (U (newBase x.s2 i n0.log.prev) n0) := by
        refine crashC_quiet _ _ _ _ ?_ ?_
        · show chainOf i _ (List.drop _ _) = []
          have hle : (U (newBase x.s2 i n0.log.prev) n0).log.entries.length ≤
              ((view x.s2).cs.node i).log.entries.length := by
            show (pad _ n0.log.prev ++ n0.log.entries).length ≤ (x.vlog i).length
            rw [List.length_append, pad_length, e_log]; exact hlen
          rw [List.drop_eq_nil_of_le hle]; rfl
        · unfold campOf
          rw [if_neg]
          intro hc
          have : (U (newBase x.s2 i n0.log.prev) n0).term = n0.term := rfl
          have h5 : ((view x.s2).cs.node i).term = (x.node i).term := rfl
          rw [this, h5, e_term, hvw.1] at hc
          omega
      rw [hq]
      rw [setNode_setNode]; rfl
    · show newSnaps i ((crashS x.s2 i (.disconnected 0) n0).node i).snapsDisk n.snapsDisk ++
          (newSnaps i (x.node i).snapsDisk n0.snapsDisk ++ x.s2.snaps) =
        newSnaps i (x.node i).snapsDisk n.snapsDisk ++ x.s2.snaps
      rw [crashS_node_i, e_sd, newSnaps_same, List.nil_append]
    · show setBase (setBase x.s2.base i _) i _ = setBase x.s2.base i β
      have hb1 : newBase (crashS x.s2 i (.disconnected 0) n0) i
          (({ x with s2 := crashS x.s2 i (.disconnected 0) n0 } : Snap3.Sys).node i).log.prev = β := by
        show ((crashS x.s2 i (.disconnected 0) n0).vnode i).log.entries.take
          ((crashS x.s2 i (.disconnected 0) n0).node i).log.prev = β
        rw [hvn0, crashS_node_i]
        show (uncLog β n0.log).entries.take n0.log.prev = β
        rw [take_vlog, e_log, ← hβlen]; exact pad_eq β
      rw [hb1]
      funext j; unfold setBase; split <;> rfl
  rw [hstate] at c1 c3
  exact ⟨c1, c2, c3⟩

/-- **a crash at any storage point of the install handler, and the restart**: the disk holds the old log and the old
files (`olddisk_inv`), or the received file (`installed_inv`) -/
theorem inv3_crashInstall (hV : V.Nodup) {x : Snap3.Sys} (hI : Inv3 V x) (hS : Side3 V x) {i : Nat} {m : SnapMsg}
    {ra : List Nat} {ord : List (List Nat)} {k retain : Nat} {sor : Bool} {n : Node} (hi : i ≠ 0)
    (hm : m.q.term < (x.node i).term ∨ m ∈ x.sentSnaps) (hret : 1 ≤ retain)
    (hn : Node.restart (C05.crashDisk (x.node i) (.install m.q) ra ord k) retain sor = some n)
    (hS' : Side3 V (crashInstS6 x i m (C05.crashDisk (x.node i) (.install m.q) ra ord k) n)) :
    Inv3 V (crashInstS6 x i m (C05.crashDisk (x.node i) (.install m.q) ra ord k) n) := by
  have hvw : C05.VoteWF (x.node i) := (hI.sinv.cinv.rp.el.ids i).2
  have hd := install_crashDisk (x.node i) m.q ra ord k
  have wf := snapsWF_node hI i
  have so : SnapOK (x.vnode i) := hI.sinv.snap i
  generalize C05.crashDisk (x.node i) (.install m.q) ra ord k = d at hd hn hS'
  have key : SInv V (view3 (crashInstS6 x i m d n)) ∧ PrevOK n ∧ VTerm (crashInstS6 x i m d n) i := by
    unfold crashInstS6 at hS' ⊢
    rcases hd.data with ⟨e1, e2⟩ | ⟨hin, e1, e2, e3⟩
    · have hnf : ¬ (d.snaps.head? = some (C09.fileOf m.q) ∧ Installs (x.node i) m.q) := by
        intro hc
        rw [e2] at hc
        exact head_ne_file hI hc.2 hc.1
      rw [if_neg hnf] at hS' ⊢
      exact olddisk_inv hV hI hS hi hd.cid hd.nid e1 e2 hd.tv hret hn hS'
    · have hprev : (x.node i).log.prev ≤ (x.node i).commitIndex := by
        have := (hI.prev i).le; have := wf.le_commit; omega
      have hh : ∀ g, (x.node i).snapsDisk.head? = some g → g.index ≤ m.q.lastIndex := by
        intro g hg
        have := wf.head g hg; have := wf.le_commit; have := hin.2.1
        omega
      have hhead := inst_head (x.node i) m.q so.retain hh e2
      rw [if_pos ⟨hhead, hin⟩]
      have hmo : MsgOK (view3 x).cs m := hI.msgs m (hm.resolve_left hin.1)
      exact installed_inv hI hmo hin
        (installed_of_restart (x.node i) m.q hin hprev so.retain hh hvw d hd.nid e1 e2 e3 retain hret sor n hn)
  obtain ⟨a1, a2, a3⟩ := key
  exact ⟨a1, nodes_replS hI.prev a2, vterm_replS hI.vterm a3,
    fun m' hm' => (hI.msgs m' hm').mono (fun _ h => h) (fun _ h => h)⟩

theorem inv6_trans (hV : V.Nodup) {x y : Snap3.Sys} (hI : Inv3 V x) (hS : Side3 V x) (ht : Snap6.Trans x y)
    (hS' : Side3 V y) : Inv3 V y := by
  cases ht with
  | step i op ra ord src en hp htt => exact inv3_step hV hI hS en hp htt hS'
  | crash i op ra ord src k retain sor n en hret hp htt hn => exact inv3_crash_any hV hI hS en hret hp htt hn hS'
  | send i q hi hl hr hc => exact inv3_send hV hI hS hi hl hr hc hS'
  | sendSnap i q hi hl hr => exact inv3_sendSnap hI hS hr
  | install i m ra ord hi hm hp => exact inv3_install hI hm
  | crashInstall i m ra ord k retain sor n hi hm hret hp hn => exact inv3_crashInstall hV hI hS hi hm hret hn hS'

theorem inv6_reachable (hV : V.Nodup) {x : Snap3.Sys} (h : Reachable6 V x) : Inv3 V x ∧ Side3 V x := by
  induction h with
  | init x hi hs => exact ⟨inv3_init hi, hs⟩
  | next x y _ ht hs ih => exact ⟨inv6_trans hV ih.1 ih.2 ht hs, hs⟩

/-- the one difference in the states between `Snap3.Trans` and `Snap6.Trans` vanishes under the premise of
`Snap3.Trans.crashInstall` -/
theorem crashInstS_eq6 {x : Snap3.Sys} (hI : Inv3 V x) {i : Nat} {m : SnapMsg} {ra : List Nat} {ord : List (List Nat)}
    {k retain : Nat} {sor : Bool} {n : Node}
    (hold : (C05.crashDisk (x.node i) (.install m.q) ra ord k).snaps = (x.node i).snapsDisk →
      staleLog (C05.crashDisk (x.node i) (.install m.q) ra ord k) = false)
    (hn : Node.restart (C05.crashDisk (x.node i) (.install m.q) ra ord k) retain sor = some n) :
    crashInstS x i m (C05.crashDisk (x.node i) (.install m.q) ra ord k) n =
      crashInstS6 x i m (C05.crashDisk (x.node i) (.install m.q) ra ord k) n := by
  have hd := install_crashDisk (x.node i) m.q ra ord k
  have wf := snapsWF_node hI i
  have so : SnapOK (x.vnode i) := hI.sinv.snap i
  generalize C05.crashDisk (x.node i) (.install m.q) ra ord k = d at hd hold hn
  unfold crashInstS crashInstS6 instBase
  by_cases hc : d.snaps.head? = some (C09.fileOf m.q) ∧ Installs (x.node i) m.q
  · rw [if_pos hc, if_pos hc]
  · rw [if_neg hc, if_neg hc]
    rcases hd.data with ⟨e1, e2⟩ | ⟨hin, e1, e2, e3⟩
    · obtain ⟨_, _, _, s4⟩ := restart_shape d retain sor n hn
      rw [hold e2] at s4
      have hprev : n.log.prev = (x.node i).log.prev := by
        have : n.log.prev = d.log.prev := s4
        rw [this, e1]; rfl
      rw [hprev]
    · have hh : ∀ g, (x.node i).snapsDisk.head? = some g → g.index ≤ m.q.lastIndex := by
        intro g hg
        have := wf.head g hg; have := wf.le_commit; have := hin.2.1
        omega
      exact absurd ⟨inst_head (x.node i) m.q so.retain hh e2, hin⟩ hc

theorem trans3_trans6 {x y : Snap3.Sys} (hI : Inv3 V x) (ht : Snap3.Trans x y) : Snap6.Trans x y := by
  cases ht with
  | step i op ra ord src en hp htt => exact .step i op ra ord src en hp htt
  | crash i op ra ord src k retain sor n en hret hp hnc htt hst hn => exact .crash i op ra ord src k retain sor n en hret hp htt hn
  | send i q hi hl hr hc => exact .send i q hi hl hr hc
  | sendSnap i q hi hl hr => exact .sendSnap i q hi hl hr
  | install i m ra ord hi hm hp => exact .install i m ra ord hi hm hp
  | crashInstall i m ra ord k retain sor n hi hm hret hp hold hn =>
    rw [crashInstS_eq6 hI hold hn]
    exact .crashInstall i m ra ord k retain sor n hi hm hret hp hn

theorem reach3_reach6 (hV : V.Nodup) {x : Snap3.Sys} (h : Reachable3 V x) : Reachable6 V x := by
  induction h with
  | init x hi hs => exact .init x hi hs
  | next x y _ ht hs ih => exact .next x y ih (trans3_trans6 (inv6_reachable hV ih).1 ht) hs

theorem _root_.Raft.SnapInst3.inv3_reachable (hV : V.Nodup) {x : Snap3.Sys} (h : Reachable3 V x) : Inv3 V x ∧ Side3 V x :=
  inv6_reachable hV (reach3_reach6 hV h)

end

open Snap4 SnapInst4

theorem restart_stale_as_reset (d : Durable) (r : Nat) (sor : Bool) (hst : staleLog d = true) :
    Node.restart { d with log := NLog.reset (headSnap d).index } r sor = Node.restart d r sor ∧
    staleLog { d with log := NLog.reset (headSnap d).index } = false := by
  have hst' : staleLog { d with log := NLog.reset (headSnap d).index } = false := by
    show (decide ((NLog.reset (headSnap d).index).last < (headSnap d).index) ||
      (decide ((NLog.reset (headSnap d).index).prev < (headSnap d).index) && _)) = false
    have e1 : (NLog.reset (headSnap d).index).last = (headSnap d).index := by simp [NLog.reset, NLog.last]
    have e2 : (NLog.reset (headSnap d).index).prev = (headSnap d).index := rfl
    rw [e1, e2]
    simp
  refine ⟨?_, hst'⟩
  unfold Node.restart Node.restartFails Node.restartNode
  simp only [hst, hst', if_true, Bool.false_eq_true, if_false]
  rfl

theorem stale_restart_tracks (d : Durable) (r : Nat) (sor : Bool) (n : Node) (hr : 1 ≤ r)
    (hn : Node.restart d r sor = some n) (hst : staleLog d = true) : C12Track.Tracks n := by
  obtain ⟨e, hst'⟩ := restart_stale_as_reset d r sor hst
  rw [← e] at hn
  refine C12Track.restart_tracks _ r sor n hr ?_ hn
  have hlo : C10.logOf { d with log := NLog.reset (headSnap d).index } = NLog.reset (headSnap d).index :=
    C10.logOf_not_stale _ hst'
  have hpos := stale_pos d hst
  refine ⟨C03.LogContig.reset _, ?_, fun hlt => ?_, fun h0 => ?_⟩
  · rw [hlo]; exact Track.newest_of_nil _ (Track.pre_reset _ _)
  · rw [hlo] at hlt
    exact absurd hlt (Nat.lt_irrefl _)
  · have h0' : (headSnap d).index = 0 := h0
    omega

section
variable {V : List Nat}

theorem crash_tracks6 (hV : V.Nodup) {x : Snap3.Sys} (hI : Inv3 V x) (hS : Side3 V x) {i : Nat} {op : Op}
    {ra : List Nat} {ord : List (List Nat)} {src k retain : Nat} {sor : Bool} {n : Node}
    (en : Snap.Enabled x.s2.cs i op src) (hret : 1 ≤ retain) (hp : ((x.node i).step op ra ord).panicked = none)
    (htt : TermTracked (x.node i) op)
    (hn : Node.restart (C05.crashDisk (x.node i) op ra ord k) retain sor = some n)
    (hIy : Inv3 V { x with s2 := crashS x.s2 i op n }) (hSy : Side3 V { x with s2 := crashS x.s2 i op n })
    (hT : C12Track.Tracks (x.node i)) (hO : Order.Ordered (x.node i))
    (hr : Order.ReqOk (x.node i) op) : C12Track.Tracks n := by
  cases hst : staleLog (C05.crashDisk (x.node i) op ra ord k) with
  | true => exact stale_restart_tracks _ retain sor n hret hn hst
  | false =>
    by_cases hnc : NoCut (x.node i) op
    · exact crash_tracks hV hI hS en hret hp hnc htt hst hn hIy hSy hT hO hr
    · -- the cut: only an append request can fail `NoCut`
      have hap : ∃ q, op = .append q := Classical.byContradiction fun h => hnc (noCut_of_not_append _ h)
      obtain ⟨q, rfl⟩ := hap
      have hseg : n.log.segs ≠ [] := fun h => by
        have := (hSy.segs i).head
        have e : ({ x with s2 := crashS x.s2 i (.append q) n } : Snap3.Sys).node i = n := crashS_node_i _ _ _ _
        rw [e, h] at this; cases this
      obtain ⟨_, _, a3, _, _, a5⟩ := crash3_append hV hI hS en hret hp hst hn hseg (sideS_view3 hSy)
      exact C12Track.restart_tracks _ retain sor n hret
        (diskTracks_of_crash hI hst hn hIy hT a3 a5
          (crash_snaps_eq (x.node i) (.append q) ra ord k en.ok2.1 (fun h => nomatch h))) hn

theorem transT_trans6 {x y : Snap3.Sys} (ht : Snap6.TransT x y) (hT : ∀ i, C12Track.Tracks (x.node i)) :
    Snap6.Trans x y := by
  cases ht with
  | step i op ra ord src en hp => exact .step i op ra ord src en hp (termTracked_of _ (hT i) op)
  | crash i op ra ord src k retain sor n en hret hp hn =>
    exact .crash i op ra ord src k retain sor n en hret hp (termTracked_of _ (hT i) op) hn
  | send i q hi hl hr hc => exact .send i q hi hl hr hc
  | sendSnap i q hi hl hr => exact .sendSnap i q hi hl hr
  | install i m ra ord hi hm hp => exact .install i m ra ord hi hm hp
  | crashInstall i m ra ord k retain sor n hi hm hret hp hn =>
    exact .crashInstall i m ra ord k retain sor n hi hm hret hp hn

theorem inv4_trans6 (hV : V.Nodup) {x y : Snap3.Sys} (h6 : Reachable6 V x) (hI4 : Inv4 x) (hS : Side4 V x)
    (ht : Snap6.TransT x y) (hS' : Side4 V y) : Inv4 y := by
  have hI := (inv6_reachable hV h6).1
  have h6y : Reachable6 V y := .next x y h6 (transT_trans6 ht hI4.tracks) hS'.side
  have hIy := (inv6_reachable hV h6y).1
  cases ht with
  | step i op ra ord src en hp =>
    have hr := reqOk_old hI en (hS.cfg i)
    exact ⟨nodes_stepS hI4.tracks (C12Track.tracks_step _ op ra ord (hI4.tracks i) (hI4.ord i) hr hp),
      nodes_stepS hI4.ord (C19Order.ordered_step _ op ra ord (hI4.ord i) hr hp), hI4.mlab⟩
  | crash i op ra ord src k retain sor n en hret hp hn =>
    have hr := reqOk_old hI en (hS.cfg i)
    have ho : Order.Ordered n := by
      have := ordered_assemble (inv2_of_inv3 hIy) i (hS'.cfgord i) (hS'.side.segs i) (by
        show ((crashS x.s2 i op n).node i).ldr.removeLTE ≤ _
        rw [crashS_node_i, restart_ldr _ retain sor n hn]; exact Nat.zero_le _)
      rwa [show (crashS x.s2 i op n).node i = n from crashS_node_i _ _ _ _] at this
    exact ⟨nodes_crashS hI4.tracks (crash_tracks6 hV hI hS.side en hret hp (termTracked_of _ (hI4.tracks i) op) hn hIy
      hS'.side (hI4.tracks i) (hI4.ord i) hr), nodes_crashS hI4.ord ho, hI4.mlab⟩
  | send i q hi hl hr hc => exact ⟨hI4.tracks, hI4.ord, hI4.mlab⟩
  | sendSnap i q hi hl hr =>
    refine ⟨hI4.tracks, hI4.ord, fun m hm => ?_⟩
    rcases List.mem_cons.mp hm with rfl | hm
    · show q.lastConfig.index ≤ q.lastIndex
      have hlab := hS.lab i
      have so : SnapOK (x.vnode i) := hI.sinv.snap i
      have h1 : Track.label (x.node i) = q.lastConfig := by
        unfold Track.label; rw [hr.file]; rfl
      have h2 : (x.node i).snapIndex = q.lastIndex := by
        have : (x.node i).snapIndex = (headOf (x.node i).snapsDisk).index := so.head
        rw [this]
        unfold headOf; rw [hr.file]; rfl
      rw [h1, h2] at hlab
      exact hlab
    · exact hI4.mlab m hm
  | install i m ra ord hi hm hp =>
    have hr : Order.ReqOk (x.node i) (.install m.q) := by
      show m.q.term < (x.node i).term ∨ m.q.lastIndex ≤ (x.node i).commitIndex ∨ Order.InstallOk m.q
      rcases hm with h | h
      · exact Or.inl h
      · exact Or.inr (Or.inr (hI4.mlab m h))
    exact ⟨nodes_replS hI4.tracks (C12Track.tracks_step _ _ ra ord (hI4.tracks i) (hI4.ord i) hr hp),
      nodes_replS hI4.ord (C19Order.ordered_step _ _ ra ord (hI4.ord i) hr hp), hI4.mlab⟩
  | crashInstall i m ra ord k retain sor n hi hm hret hp hn =>
    have hq : Installs (x.node i) m.q → Order.InstallOk m.q := fun hin => hI4.mlab m (hm.resolve_left hin.1)
    obtain ⟨t1, t2⟩ := install_crash_restart_tracks (x.node i) m.q ra ord k retain sor n (hI4.tracks i) (hI4.ord i)
      (lwf_real hI i) (hS.lab i) hq hret hn
    exact ⟨nodes_replS hI4.tracks t1, nodes_replS hI4.ord t2, hI4.mlab⟩

theorem reach6T (hV : V.Nodup) {x : Snap3.Sys} (h : Reachable6T V x) : Reachable6 V x ∧ Inv4 x ∧ Side4 V x := by
  induction h with
  | init x hi hs =>
    exact ⟨.init x hi.init hs.side, ⟨hi.tracks, hi.ord, fun m hm => by rw [hi.init.sent] at hm; cases hm⟩, hs⟩
  | next x y _ ht hs ih =>
    obtain ⟨r6, i4, s4⟩ := ih
    exact ⟨.next x y r6 (transT_trans6 ht i4.tracks) hs.side, inv4_trans6 hV r6 i4 s4 ht hs, hs⟩

theorem trans4_transT {x y : Snap3.Sys} (hI : Inv3 V x) (ht : Snap4.Trans x y) : Snap6.TransT x y := by
  cases ht with
  | step i op ra ord src en hp => exact .step i op ra ord src en hp
  | crash i op ra ord src k retain sor n en hret hp hnc hst hn => exact .crash i op ra ord src k retain sor n en hret hp hn
  | send i q hi hl hr hc => exact .send i q hi hl hr hc
  | sendSnap i q hi hl hr => exact .sendSnap i q hi hl hr
  | install i m ra ord hi hm hp => exact .install i m ra ord hi hm hp
  | crashInstall i m ra ord k retain sor n hi hm hret hp hold hn =>
    rw [crashInstS_eq6 hI hold hn]
    exact .crashInstall i m ra ord k retain sor n hi hm hret hp hn

theorem reach4_reach6T (hV : V.Nodup) {x : Snap3.Sys} (h : Reachable4 V x) : Reachable6T V x := by
  induction h with
  | init x hi hs => exact .init x hi hs
  | next x y _ ht hs ih => exact .next x y ih (trans4_transT (inv6_reachable hV (reach6T hV ih).1).1 ht) hs

/-- every run of `Raft.Snap4` is a run of `Raft.Snap3` on which every node is tracking and ordered -/
theorem _root_.Raft.SnapInst4.reach4 (hV : V.Nodup) {x : Snap3.Sys} (h : Reachable4 V x) :
    Reachable3 V x ∧ Inv4 x ∧ Side4 V x := by
  refine ⟨?_, (reach6T hV (reach4_reach6T hV h)).2⟩
  induction h with
  | init x hi hs => exact .init x hi.init hs.side
  | next x y h4 ht hs ih =>
    exact .next x y ih (trans4_trans3 ht (reach6T hV (reach4_reach6T hV h4)).2.1.tracks) hs.side

end

end SnapCut
end Raft
