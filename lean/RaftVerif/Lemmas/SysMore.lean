/-
Helper lemmas for Props/C10Sys.lean and Props/C16Sys.lean (restart after a crash at any point; leadership transfer), on
the cluster system `Raft.Commit` with the assumptions of `SysInv.ReachableG`.

* The cluster id is never written by a step, is the same in every crash image and is what a restarted node carries.
* A restart from any crash image of an enabled step never fails (`crash_restart_some`): the log on disk is a path of the
  tree of created entries, whose configuration entries are bootstrap entries that decode (`crashDisk_cfgGood`), so
  `openStorage`'s scan for the configurations succeeds.
* `TClosed` / `TStep`: the closure records of Lemmas/SysInv.lean with the primitive `withLdr` asked only for leader records
  with THE SAME transfer record — what the leader block and the handlers that do not deal with the transfer (`PlainOp`)
  satisfy; `replCore` is `checkReplUpdates` without its final `tryTransfer`.
* `HEnd` / `handle_end_of`: the handler of a leader keeps the transfer record, ends with `tryTransfer`, or answers the
  transfer task with an error through `replyTransfer`; completions only accumulate within a step (`RepMem`); `core`: the
  fields a step that stores nothing leaves alone, `checkConfigActions` and `storeEntry` while a transfer is in progress.
-/
import RaftVerif.Props.C19Sys
import RaftVerif.Props.C06Sys
import RaftVerif.Lemmas.ShapeLeader

namespace Raft
namespace SysMore
open Node LogRel CommitRel Commit C02Sys NoPanic SysInv


theorem step_cid (s : Node) (op : Op) (ra : List Nat) (ord : List (List Nat)) : (s.step op ra ord).cid = s.cid :=
  (Election.step_ids s op ra ord).2

theorem crashDisk_cid (s : Node) (op : Op) (ra : List Nat) (ord : List (List Nat)) (k : Nat) :
    (C05.crashDisk s op ra ord k).cid = s.cid :=
  (Election.crashDisk_ids s op ra ord k).2

theorem restart_cid (d : Durable) (r : Nat) (sor : Bool) (n : Node) (h : restart d r sor = some n) :
    n.cid = d.cid := by
  obtain ⟨_, _, _, hn⟩ := C10.restart_some d r sor n h
  rw [hn]
  split
  · rw [fsmRestore_eq]; rfl
  · rfl


section crash
variable {V : List Nat} {x : Commit.Sys} {i : Nat} {op : Op} {ra : List Nat} {ord : List (List Nat)} {src : Nat}

/-- **every configuration entry on disk, at any moment the process may die, is a bootstrap entry that decodes**
(`SysInv.CfgGoodE`). `hopen`: the node is open, or it dies between two steps (`k = 0`). -/
theorem crashDisk_cfgGood (sc : SC V x i op ra ord src) (hR : Commit.ReachableV V x) (hG : GInv x)
    (heG : EnabledG x i op) (k : Nat) (hopen : (x.node i).closed = "" ∨ k = 0) :
    ∀ e ∈ (C05.crashDisk (x.node i) op ra ord k).log.entries, CfgGoodE e := by
  rcases hopen with ho | hk
  · have hG' := sc_ginv sc hR ho hG heG
    have hp := DurableRel.SC.disk_path sc k
    intro e he
    obtain ⟨c, hc, hce⟩ := C04Sys.chain_mem hp.1 e he
    rw [← hce]; exact hG'.tree c hc
  · subst hk
    intro e he
    have hm : e ∈ (x.node i).log.entries := by
      have hd := durable_entries (nwf sc.inv i)
      have he' : e ∈ (x.node i).log.durable.entries := he
      rw [hd] at he'
      exact List.mem_of_mem_take he'
    exact log_cfg sc.inv hG i e hm

/-- `openStorage` does not fail on a crash image -/
theorem crashDisk_restartFails (sc : SC V x i op ra ord src) (hR : Commit.ReachableV V x) (hG : GInv x)
    (heG : EnabledG x i op) (k : Nat) (hopen : (x.node i).closed = "" ∨ k = 0) :
    restartFails (C05.crashDisk (x.node i) op ra ord k) = false := by
  have im := sc.img k
  have hcfg := crashDisk_cfgGood sc hR hG heG k hopen
  have hwf : C10.DurWF (C05.crashDisk (x.node i) op ra ord k) := by
    unfold C10.DurWF; rw [im.prev]; exact Nat.zero_le _
  have hok : C10.NoDecodeErr (C10.window (C10.logOf (C05.crashDisk (x.node i) op ra ord k))
      (C10.snapOf (C05.crashDisk (x.node i) op ra ord k)).index
      (C10.logOf (C05.crashDisk (x.node i) op ra ord k)).last) := by
    intro e he ht
    have hm := C15NoPanic.logOf_entries _ e (C15NoPanic.window_sub _ _ _ e he)
    obtain ⟨_, b⟩ := hcfg e hm ht
    obtain ⟨c, hc, _⟩ := (b 0).get
    rw [Entry.config?_of_cfg ht hc]; rfl
  exact (C10.restart_configs _ 1 true hwf hok).1

/-- **a restart from any crash image of an enabled step succeeds**, for a node that has a cluster id (`cid ≠ 0`:
`storage.SetIdentity` was called — `Raft.New` refuses to start otherwise) -/
theorem crash_restart_some (sc : SC V x i op ra ord src) (hR : Commit.ReachableV V x) (hG : GInv x)
    (heG : EnabledG x i op) (k : Nat) (hopen : (x.node i).closed = "" ∨ k = 0) (hcid : (x.node i).cid ≠ 0)
    (retain : Nat) (sor : Bool) :
    ∃ n, Node.restart (C05.crashDisk (x.node i) op ra ord k) retain sor = some n := by
  have hf := crashDisk_restartFails sc hR hG heG k hopen
  obtain ⟨n, hn, _⟩ := C10.restart_ok_contiguous (C05.crashDisk (x.node i) op ra ord k) retain sor
    (by rw [crashDisk_cid]; exact hcid)
    (by rw [Election.crashDisk_nid, (sc.inv.rp.el.ids i).1]; exact sc.en.rp.id) hf
  exact ⟨n, hn⟩

end crash

/-! ## a guarded closure for facts about the leader's transfer record

`Node.Closed` / `SysInv.SClosed` ask for closure under `withLdr l` for an ARBITRARY leader record `l`, so they cannot
carry a fact about `ldr.transfer`. `TClosed` / `TStep` state the primitive `ldr` for the real call sites of the leader
block and of the handlers that do not deal with the transfer: the new record has THE SAME transfer record; this is one
of the guards of the walk in Lemmas/StepWalk.lean, which gives the composition lemmas. (The handlers of `transfer.go` —
`onTransfer`, `tryTransfer`, `replyTransfer`, `onTimeoutNowResult`, `leader.init` / `leader.release` — write it; they are
described case by case below.) -/

/-- `leader.checkReplUpdates` up to (not including) its final `tryTransfer`: the state and the flags -/
def replCore (s : Node) (us : List ReplUpdate) : Node × UpdFlags :=
  let r := replUpdLoop s {} us
  let s := r.1
  let f := r.2
  if f.stop then (s, f)
  else
    let s := if f.matchU then onMajorityCommit (fuelFor 0) s else s
    let s := if f.noContactU then s.checkQuorum else s
    let s := if f.removeLTEU ∧ s.ldr.removeLTE > s.log.prev then s.checkLogCompact else s
    (s, f)

theorem checkReplUpdates_eq (s : Node) (us : List ReplUpdate) :
    s.checkReplUpdates us =
      if (replCore s us).2.stop then (replCore s us).1
      else if ((replCore s us).2.matchU ∨ (replCore s us).2.noContactU) ∧ (replCore s us).1.ldr.transfer.active ∧
          !(replCore s us).1.ldr.transfer.targetChosen then (replCore s us).1.tryTransfer
      else (replCore s us).1 := by
  unfold Node.checkReplUpdates replCore
  dsimp only
  by_cases h : (replUpdLoop s {} us).2.stop = true
  · simp only [if_pos h]
  · simp only [if_neg h]

/-- the operations whose handler never writes the transfer record (run by any node) -/
def PlainOp : Op → Prop
  | .transfer _ _ => False
  | .replUpdates _ => False
  | .transferTimeout => False
  | .timeoutNowResult _ _ _ => False
  | .newTermTimeout => False
  | _ => True

structure TClosed (Inv : Node → Prop) : Prop where
  panic : ∀ s site, Inv s → Inv (s.panic site)
  reply : ∀ s t r, Inv s → Inv (s.reply t r)
  point : ∀ s n, Inv s → Inv (s.point n)
  /-- the leader record is replaced by one with THE SAME transfer record -/
  ldr : ∀ (s : Node) l, Inv s → l.transfer = s.ldr.transfer → Inv (s.withLdr l)
  /-- the real `storage.appendEntry`, with its own assertion and roll-over decision -/
  appendEntry : ∀ (s : Node) e, Inv s → Inv (s.appendEntry e)
  commitN : ∀ (s : Node) n, Inv s → Inv { s with log := s.log.commitN n }
  fsm : ∀ (s : Node) f, Inv s → Inv (s.withFsm f)
  changeConfigR : ∀ (s : Node) c, Inv s → Inv (s.changeConfigR c)
  /-- the commit index only ever moves forward: every call site has checked `i > commitIndex` -/
  setCommitIndexR : ∀ (s : Node) i, Inv s → i > s.commitIndex → Inv (s.setCommitIndexR i).1
  popOrder : ∀ (s : Node), Inv s → Inv s.popOrder

namespace TClosed

variable {Inv : Node → Prop} (h : TClosed Inv)
include h

/-- of the guards of the leader block only the one on the transfer record is used -/
theorem toGuarded : Guarded Inv where
  panic := h.panic
  reply := h.reply
  point := h.point
  ldrK := fun s l hs _ _ e => h.ldr s l hs e
  replsG := fun s _ hs _ => h.ldr s _ hs rfl
  appendEntry := fun s e hs _ _ => h.appendEntry s e hs
  commitN := h.commitN
  fsmLog := fsmApplyLogTo_of h.panic h.fsm
  fsmItems := fsmApplyItems_of h.panic h.fsm h.reply
  changeConfigR := h.changeConfigR
  setCommitIndexR := h.setCommitIndexR
  popOrder := h.popOrder

theorem appendEntry_inv (s : Node) (e : Entry) (hs : Inv s) : Inv (s.appendEntry e) := h.appendEntry _ _ hs

theorem addReplication_inv (s : Node) (n : CNode) (hs : Inv s) : Inv (s.addReplication n) :=
  h.toGuarded.addReplication_inv s n hs

end TClosed

structure TStep (Inv : Node → Prop) : Prop extends TClosed Inv where
  rpcReply : ∀ (s : Node) r, Inv s → Inv (s.withRpcReply r)
  ret : ∀ (s : Node) r, Inv s → Inv (s.ret r)
  setRole : ∀ (s : Node) r, Inv s → Inv (s.setRole r)
  setLeader : ∀ (s : Node) l, Inv s → Inv (s.setLeader l)
  setTerm : ∀ (s : Node) t, Inv s → Inv (s.setTerm t)
  /-- `setVotedFor` entering a higher term (vote requests, the self vote of `startElection`) -/
  voteNewTerm : ∀ (s : Node) t c, Inv s → t > s.term → Inv (s.setVotedFor t c)
  /-- `setVotedFor` granting the vote in the current term while no vote was cast yet -/
  voteGrant : ∀ (s : Node) c, Inv s → s.votedFor = 0 → Inv (s.setVotedFor s.term c)
  votesNeeded : ∀ (s : Node) v, Inv s → Inv (s.withVotesNeeded v)
  candTransfer : ∀ (s : Node) v, Inv s → Inv (s.withCandTransfer v)
  /-- `storage.removeGTE`: every call site has found the entry `i` in the log -/
  removeGTE : ∀ (s : Node) i pt, Inv s → s.log.prev < i → i ≤ s.log.last →
    Inv { s with log := s.log.removeGTE i, lastLogIndex := i - 1, lastLogTerm := pt }
  removeLTE : ∀ (s : Node) i, Inv s → Inv { s with log := s.log.removeLTE i }
  revertConfig : ∀ (s : Node), Inv s → Inv s.revertConfig
  snapPending : ∀ (s : Node) v, Inv s → Inv (s.withSnapPending v)

namespace TStep

variable {Inv : Node → Prop} (h : TStep Inv)
include h

omit h in
/-- the updates a `TStep` predicate is asked about: as for `SysInv.SStep`, and no new transfer record and no unguarded
new leader record either -/
def caps : Caps :=
  { file := fun _ => False, snap := fun _ => False, install := False, compact := False, reports := False,
    transfer := False, boot := False, shutdown := False }

theorem toGuardedStep : GuardedStep caps Inv where
  toGuarded := h.toTClosed.toGuarded
  ldrT := fun hc => hc.elim
  ldrAny := fun hc => hc.elim
  appendAny := h.appendEntry
  rpcReply := h.rpcReply
  ret := h.ret
  setRole := fun s r hs _ _ => h.setRole s r hs
  setLeader := h.setLeader
  doClose := fun hc => hc.elim
  setTerm := fun s t hs _ => h.setTerm s t hs
  voteNewTerm := fun s t v hs ht _ => h.voteNewTerm s t v hs ht
  voteGrant := h.voteGrant
  votesNeeded := fun _ => h.votesNeeded
  termDown := fun s t hs _ => h.setRole _ _ (h.setTerm s t hs)
  bootTerm := fun hc => hc.elim
  bootRole := fun hc => hc.elim
  candTransfer := h.candTransfer
  removeGTE := fun s i pt hs _ a b => h.removeGTE s i pt hs a b
  removeLTE := fun _ => h.removeLTE
  revertConfig := h.revertConfig
  commitConfig := fun hc => hc.elim
  installCore := fun hc => hc.elim
  installCommit := fun hc => hc.elim
  snapRun := fun _ _ hc => hc.elim
  snapPending := h.snapPending
  snapResult := fun hc => hc.elim
  bootstrapLast := fun hc => hc.elim

theorem storeEntry_inv (f : Nat) (s : Node) (b) (hs : Inv s) : Inv (storeEntry f s b) :=
  h.toGuardedStep.storeEntry_inv f s b hs
theorem doChangeConfig_inv (f : Nat) (s : Node) (t c) (hs : Inv s) : Inv (doChangeConfig f s t c) :=
  h.toGuardedStep.doChangeConfig_inv f s t c hs
theorem checkConfigActions_inv (f : Nat) (s : Node) (t c) (hs : Inv s) : Inv (checkConfigActions f s t c) :=
  h.toGuardedStep.checkConfigActions_inv f s t c hs
theorem onMajorityCommit_inv (f : Nat) (s : Node) (hs : Inv s) : Inv (onMajorityCommit f s) :=
  h.toGuardedStep.onMajorityCommit_inv f s hs

/-- `leader.checkReplUpdates` up to (not including) the final `tryTransfer`: a report only replaces a status of the
replication table, which leaves the transfer record alone -/
theorem replCore_inv (s : Node) (us : List ReplUpdate) (hs : Inv s) : Inv (replCore s us).1 := by
  have G := h.toGuardedStep
  unfold replCore
  extract_lets r s0 f s1 s2 s3
  have hL : Inv s0 := G.replUpdLoop_of (fun s _ hs => h.ldr s _ hs rfl) s {} us hs
  split
  · exact hL
  · have h1 : Inv s1 := by unfold s1; split; exact G.onMajorityCommit_inv _ _ hL; exact hL
    have h2 : Inv s2 := by unfold s2; split; exact G.toAt.checkQuorum_inv _ h1; exact h1
    show Inv s3
    unfold s3
    split
    · exact checkLogCompact_of (fun x hx => h.point _ _ (h.removeLTE _ _ hx)) _ h2
    · exact h2

omit h in
theorem opOk (s : Node) {op : Op} (hok : OpOK op) (hcc : ∀ t c, op ≠ .changeConfig t c) (hpl : PlainOp op) :
    caps.Ok s op := by
  cases op <;> first | exact hok.elim | exact hpl.elim | exact absurd rfl (hcc _ _) | trivial | exact Or.inr trivial |
    exact fun _ => trivial

/-- the handlers that leave the transfer record alone, for the operations that are no snapshot / compaction operation; a
node that is not leader refuses a `ChangeConfig` request if it is bootstrapped -/
theorem handle_inv (s : Node) (op : Op) (hok : OpOK op) (hpl : PlainOp op)
    (hboot : ∀ t c, op = .changeConfig t c → s.role ≠ .leader → s.configs.isBootstrapped = true) (hs : Inv s) :
    Inv (s.handle op) := by
  by_cases hc : ∃ t c, op = .changeConfig t c
  · obtain ⟨t, c, rfl⟩ := hc
    exact handle_changeConfig_of h.reply (fun s t c => h.checkConfigActions_inv _ s t c)
      (fun s t c => h.doChangeConfig_inv _ s t c) s t c (hboot t c rfl) hs
  · exact h.toGuardedStep.handle_inv s op (opOk s hok (fun t c e => hc ⟨t, c, e⟩) hpl) hs

end TStep


def TEq (b s : Node) : Prop := s.ldr.transfer = b.ldr.transfer

theorem teq_congr {b s s' : Node} (h : TEq b s) (e : s'.ldr = s.ldr) : TEq b s' := by
  unfold TEq at *; rw [e]; exact h

theorem ldr_panic (s : Node) (site : String) : (s.panic site).ldr = s.ldr := by rw [panic_shape]

theorem ldr_reply (s : Node) (t : Nat) (r : String) : (s.reply t r).ldr = s.ldr := by rw [reply_shape]

theorem teq_step (b : Node) : TStep (TEq b) where
  panic := fun s site h => teq_congr h (ldr_panic s site)
  reply := fun s t r h => teq_congr h (ldr_reply s t r)
  point := fun s n h => teq_congr h rfl
  ldr := fun s l h hg => by unfold TEq at *; show l.transfer = _; rw [hg]; exact h
  appendEntry := fun s e h => teq_congr h (by rw [appendEntry_shape])
  commitN := fun s n h => teq_congr h rfl
  fsm := fun s f h => teq_congr h rfl
  changeConfigR := fun s c h => teq_congr h (by rw [changeConfigR_shape])
  setCommitIndexR := fun s i h _ => teq_congr h (by rw [setCommitIndexR_shape])
  popOrder := fun s h => teq_congr h rfl
  rpcReply := fun s r h => teq_congr h rfl
  ret := fun s r h => teq_congr h rfl
  setRole := fun s r h => teq_congr h rfl
  setLeader := fun s l h => teq_congr h rfl
  setTerm := fun s t h => teq_congr h (by rw [setTerm_shape])
  voteNewTerm := fun s t c h _ => teq_congr h (by rw [setVotedFor_shape])
  voteGrant := fun s c h _ => teq_congr h (by rw [setVotedFor_shape])
  votesNeeded := fun s v h => teq_congr h rfl
  candTransfer := fun s v h => teq_congr h rfl
  removeGTE := fun s i pt h _ _ => teq_congr h rfl
  removeLTE := fun s i h => teq_congr h rfl
  revertConfig := fun s h => teq_congr h rfl
  snapPending := fun s v h => teq_congr h rfl

/-- **the leader block never writes the transfer record** -/
theorem block_transfer (f : Nat) (s : Node) :
    (∀ b, (storeEntry f s b).ldr.transfer = s.ldr.transfer) ∧
    (∀ t c, (doChangeConfig f s t c).ldr.transfer = s.ldr.transfer) ∧
    (∀ t c, (checkConfigActions f s t c).ldr.transfer = s.ldr.transfer) ∧
    (onMajorityCommit f s).ldr.transfer = s.ldr.transfer :=
  ⟨fun b => (teq_step s).storeEntry_inv f s b rfl, fun t c => (teq_step s).doChangeConfig_inv f s t c rfl,
    fun t c => (teq_step s).checkConfigActions_inv f s t c rfl, (teq_step s).onMajorityCommit_inv f s rfl⟩


/-- `tryTransfer` only sets the flag `respPending`, and only when it designates a target -/
theorem tryTransfer_ldr (c : Node) :
    c.tryTransfer.ldr = (if c.tryTransferTarget.1 ≠ 0
      then { c.ldr with transfer := { c.ldr.transfer with respPending := true } } else c.ldr) := by
  -- the two conditional updates before the last one (`popOrder`, a failure) leave the leader record alone
  have e1 : (if c.ldr.transfer.target = 0 then c.popOrder else c).ldr = c.ldr := by split <;> rfl
  have e2 : ∀ x : Node, (if c.tryTransferTarget.2 = true then x.panic "nil.tryTransfer" else x).ldr = x.ldr :=
    fun x => ite_ind (P := fun y : Node => y.ldr = x.ldr) (fun _ => ldr_panic x _) (fun _ => rfl)
  unfold Node.tryTransfer
  dsimp only [Node.withLdr]
  by_cases h : c.tryTransferTarget.1 ≠ 0
  · rw [if_pos h, if_pos h]; dsimp only; rw [e2, e1]
  · rw [if_neg h, if_neg h, e2, e1]

/-- … and touches nothing else the choice of the target depends on -/
theorem tryTransfer_fields (c : Node) :
    c.tryTransfer.configs = c.configs ∧ c.tryTransfer.nid = c.nid ∧ c.tryTransfer.lastLogIndex = c.lastLogIndex ∧
    c.tryTransfer.role = c.role ∧ c.tryTransfer.term = c.term ∧ c.tryTransfer.replies = c.replies := by
  rw [tryTransfer_shape]; exact ⟨rfl, rfl, rfl, rfl, rfl, rfl⟩

theorem tryTransfer_repls (c : Node) : c.tryTransfer.ldr.repls = c.ldr.repls := by
  rw [tryTransfer_ldr]; split <;> rfl

theorem tryTransfer_transfer (c : Node) :
    c.tryTransfer.ldr.transfer.task = c.ldr.transfer.task ∧ c.tryTransfer.ldr.transfer.term = c.ldr.transfer.term ∧
    c.tryTransfer.ldr.transfer.active = c.ldr.transfer.active ∧
    (c.tryTransferTarget.1 = 0 → c.tryTransfer.ldr.transfer = c.ldr.transfer) := by
  rw [tryTransfer_ldr]
  split
  · exact ⟨rfl, rfl, rfl, fun h0 => absurd h0 ‹_›⟩
  · exact ⟨rfl, rfl, rfl, fun _ => rfl⟩

theorem replyTransfer_transfer (c : Node) (r : String) : (c.replyTransfer r).ldr.transfer = {} := by
  unfold Node.replyTransfer
  dsimp only
  rw [(block_transfer _ _).2.2.1]
  rfl

theorem leaderInit_transfer (s : Node) : s.leaderInit.ldr.transfer = {} := by
  unfold Node.leaderInit
  dsimp only
  rw [(block_transfer _ _).1, (block_transfer _ _).2.2.1]
  have key : ∀ (ns : List CNode) (x : Node),
      (ns.foldl (fun s n => if n.id = s.nid then s else s.addReplication n) x).ldr.transfer = x.ldr.transfer :=
    fun ns x => foldl_addReplication (P := TEq x) (fun s n hs => (teq_step x).toTClosed.addReplication_inv _ _ hs) ns x rfl
  rw [key]
  rfl

theorem leaderRelease_transfer (s : Node) : s.leaderRelease.ldr.transfer = {} := by
  unfold Node.leaderRelease Node.leaderReleaseRest
  rfl

theorem startElection_ldr (s : Node) : s.startElection.ldr = s.ldr := by rw [startElection_shape]

theorem settle_noTransfer (f : Nat) (s : Node) (cur : Role) (h : s.ldr.transfer = {}) :
    (settle f s cur).ldr.transfer = {} :=
  settle_of (P := fun x => x.ldr.transfer = {})
    (releaseRole_of (fun _ _ hx => hx) fun x _ => leaderRelease_transfer x)
    (fun x hx _ => by rw [startElection_ldr]; exact hx) (fun x _ _ => leaderInit_transfer x) f s cur h

/-- a leader whose handler left the leader role ends the step without a transfer in progress -/
theorem settle_left_noTransfer (f : Nat) (s : Node) (hr : s.role ≠ .leader) :
    (settle (f + 1) s .leader).ldr.transfer = {} := by
  rw [settle_step hr]
  apply settle_noTransfer
  have h1 : (s.releaseRole .leader).ldr.transfer = {} := by
    unfold Node.releaseRole; dsimp only; rw [leaderRelease_transfer]
  unfold Node.initRole
  split
  · exact h1
  · rw [startElection_ldr]; exact h1
  · rw [leaderInit_transfer]

/-- the transfer in progress is the same one (its `respPending` flag may have been cleared, its `newTermTimer`
flag may differ) -/
structure TSame (b h : Node) : Prop where
  task : h.ldr.transfer.task = b.ldr.transfer.task
  term : h.ldr.transfer.term = b.ldr.transfer.term
  active : h.ldr.transfer.active = b.ldr.transfer.active
  resp : h.ldr.transfer.respPending = true → b.ldr.transfer.respPending = true

theorem TSame.of_eq {b h : Node} (e : h.ldr.transfer = b.ldr.transfer) : TSame b h :=
  ⟨by rw [e], by rw [e], by rw [e], by rw [e]; exact id⟩

theorem TSame.refl (b : Node) : TSame b b := TSame.of_eq rfl

/-- **how the handler `h` of a leader `b` ends, as far as the transfer is concerned**: the transfer record is kept;
or the handler ends with a call `c.tryTransfer`; or it ends with `c.replyTransfer r`, answering the transfer task with
an error `r` (`timeout:transferLeadership` when the transfer timer fires, `error` when the target refused the
`timeoutNow` request). -/
inductive HEnd (b h : Node) : Prop
  | keep : TSame b h → HEnd b h
  | tryT (c : Node) : (c.ldr.transfer.respPending = true → b.ldr.transfer.respPending = true) →
      (b.ldr.transfer.active = true → TSame b c) → h = c.tryTransfer → HEnd b h
  | answered (c : Node) (r : String) : r ≠ "ok" → c.ldr.transfer.task = b.ldr.transfer.task →
      b.replies <+: c.replies → h = c.replyTransfer r → HEnd b h

theorem validateTransfer_active (s : Node) (g : Nat) (h : s.ldr.transfer.active = true) : s.validateTransfer g ≠ "" := by
  rw [(C16.validate_transfer_classes s g).1 h]; decide

theorem handle_end_of (b : Node) (op : Op) (hok : OpOK op) (hl : b.role = .leader) : HEnd b (b.handle op) := by
  by_cases hpl : PlainOp op
  · exact .keep (TSame.of_eq ((teq_step b).handle_inv b op hok hpl (fun _ _ _ hr => absurd hl hr) rfl))
  · cases op <;> first | exact absurd trivial hpl | skip
    case transfer t g =>
      unfold Node.handle
      dsimp only
      rw [if_pos hl]
      unfold Node.onTransfer
      dsimp only
      split
      · exact .keep (TSame.of_eq (by rw [ldr_reply]))
      · rename_i hv
        refine .tryT (b.withLdr { b.ldr with transfer :=
          { b.ldr.transfer with term := b.term, task := t, target := g, active := true } }) (fun h => h)
          (fun ha => absurd ?_ hv) rfl
        exact validateTransfer_active b g ha
    case replUpdates us =>
      unfold Node.handle
      dsimp only
      rw [if_pos hl, checkReplUpdates_eq]
      have hc : TEq b (replCore b us).1 := (teq_step b).replCore_inv b us rfl
      split
      · exact .keep (TSame.of_eq hc)
      · split
        · exact .tryT _ (by rw [hc]; exact id) (fun _ => TSame.of_eq hc) rfl
        · exact .keep (TSame.of_eq hc)
    case transferTimeout =>
      unfold Node.handle
      dsimp only
      split
      · exact .answered b _ (by decide) rfl (List.prefix_refl _) rfl
      · exact .keep (TSame.refl b)
    case timeoutNowResult src err r =>
      unfold Node.handle
      dsimp only
      split
      · unfold Node.onTimeoutNowResult
        extract_lets l0 t0 s1 s2 l1 t1
        have h1 : TSame b s1 := ⟨rfl, rfl, rfl, fun h => by cases h⟩
        have r1 : s1.ldr.transfer.respPending = true → b.ldr.transfer.respPending = true := fun h => by cases h
        have e2 : s2.ldr.transfer = s1.ldr.transfer := by
          unfold s2
          split
          · split
            · rfl
            · rfl
          · rw [ldr_panic]
        have h2 : TSame b s2 := ⟨by rw [e2]; exact h1.task, by rw [e2]; exact h1.term, by rw [e2]; exact h1.active,
          by rw [e2]; exact r1⟩
        refine ite_ind (fun _ => ite_ind (fun _ => .tryT s2 h2.resp (fun _ => h2) rfl) fun _ => .keep h2) fun _ => ?_
        refine ite_ind (fun _ => ?_) fun _ => .keep ⟨rfl, rfl, rfl, fun h => by cases h⟩
        exact ite_ind (fun _ => .answered s1 "error" (by decide) rfl (List.prefix_refl _) rfl) fun _ =>
          .tryT s1 r1 (fun _ => h1) rfl
      · exact .keep (TSame.refl b)
    case newTermTimeout =>
      unfold Node.handle
      dsimp only
      split
      · exact .tryT (b.withLdr { b.ldr with transfer := { b.ldr.transfer with newTermTimer := false } })
          (fun h => h) (fun _ => ⟨rfl, rfl, rfl, fun h => h⟩) rfl
      · exact .keep (TSame.refl b)


def RepMem (x : Reply) (s : Node) : Prop := x ∈ s.replies

theorem repMem_congr {x : Reply} {s s' : Node} (h : RepMem x s) (e : s'.replies = s.replies) : RepMem x s' := by
  unfold RepMem at *; rw [e]; exact h

/-- within a step (after `Node.begin`) a recorded completion stays recorded -/
theorem repMem_step (x : Reply) : SStep (RepMem x) where
  panic := fun s site h => repMem_congr h (by rw [panic_shape])
  reply := fun s t r h => by
    unfold RepMem Node.reply at *
    split
    · exact h
    · exact List.mem_append_left _ h
  point := fun s n h => repMem_congr h rfl
  ldr := fun s l h => repMem_congr h rfl
  appendEntry := fun s e h => repMem_congr h (by rw [appendEntry_shape])
  commitN := fun s n h => repMem_congr h rfl
  fsm := fun s f h => repMem_congr h rfl
  changeConfigR := fun s c h => repMem_congr h (by rw [changeConfigR_shape])
  setCommitIndexR := fun s i h _ => repMem_congr h (by rw [setCommitIndexR_shape])
  popOrder := fun s h => repMem_congr h rfl
  rpcReply := fun s r h => repMem_congr h rfl
  ret := fun s r h => repMem_congr h rfl
  setRole := fun s r h => repMem_congr h rfl
  setLeader := fun s l h => repMem_congr h rfl
  setTerm := fun s t h => repMem_congr h (by rw [setTerm_shape])
  voteNewTerm := fun s t c h _ => repMem_congr h (by rw [setVotedFor_shape])
  voteGrant := fun s c h _ => repMem_congr h (by rw [setVotedFor_shape])
  votesNeeded := fun s v h => repMem_congr h rfl
  candTransfer := fun s v h => repMem_congr h rfl
  removeGTE := fun s i pt h _ _ => repMem_congr h rfl
  removeLTE := fun s i h => repMem_congr h rfl
  revertConfig := fun s h => repMem_congr h rfl
  snapPending := fun s v h => repMem_congr h rfl

/-- the answer `transfer.reply` records -/
theorem transferReply_mem (c : Node) (r : String) (h0 : c.ldr.transfer.task ≠ 0) :
    RepMem { task := c.ldr.transfer.task, result := r } (c.transferReply r) := by
  unfold RepMem Node.transferReply Node.withLdr Node.reply
  dsimp only
  rw [if_neg h0]
  exact List.mem_append_right _ (List.mem_singleton.mpr rfl)

theorem reply_unique : ∀ (l : List Reply), ((l.map (·.task)).filter (· ≠ 0)).Nodup → ∀ a ∈ l, ∀ b ∈ l,
    a.task = b.task → a.task ≠ 0 → a = b := by
  intro l hn a ha b hb hab h0
  have h0' : b.task ≠ 0 := by rw [← hab]; exact h0
  rw [List.filter_map] at hn
  exact nodup_map_inj _ _ l hn a ha b hb (by simpa using h0) (by simpa using h0') hab


/-- the fields a step that stores nothing leaves as they are: the log, the last index and term, the
configurations, the commit index, role and term, and the transfer record -/
def core (s : Node) : NLog × Nat × Nat × Configs × Nat × Role × Nat × Transfer :=
  (s.log, s.lastLogIndex, s.lastLogTerm, s.configs, s.commitIndex, s.role, s.term, s.ldr.transfer)

theorem core_eq {s s' : Node} (h : core s' = core s) :
    s'.log = s.log ∧ s'.lastLogIndex = s.lastLogIndex ∧ s'.lastLogTerm = s.lastLogTerm ∧ s'.configs = s.configs ∧
    s'.commitIndex = s.commitIndex ∧ s'.role = s.role ∧ s'.term = s.term ∧ s'.ldr.transfer = s.ldr.transfer := by
  unfold core at h
  simp only [Prod.mk.injEq] at h
  exact h

theorem core_panic (s : Node) (site : String) : core (s.panic site) = core s := by
  unfold Node.panic; split <;> rfl

theorem core_reply (s : Node) (t : Nat) (r : String) : core (s.reply t r) = core s := by
  unfold Node.reply; split <;> rfl

theorem coreFsmFrame : FsmFrame core := ⟨core_panic, core_reply, fun _ _ => rfl⟩

theorem core_applyCommittedL (s : Node) : core s.applyCommittedL = core s := by
  unfold Node.applyCommittedL
  dsimp only
  rw [coreFsmFrame.fsmApply_eq]
  rfl

theorem core_setRepl (s : Node) (r : Repl) : core (s.setRepl r) = core s := rfl

theorem canChangeConfig_core {s s' : Node} (h : core s' = core s) (h0 : s.ldr.transfer.active = true) :
    s'.canChangeConfig = false := by
  obtain ⟨_, _, _, _, _, _, _, e⟩ := core_eq h
  exact C16.no_config_change_during_transfer s' (by rw [e]; exact h0)

/-- while a transfer is in progress `checkConfigAction` starts no change: only the round bookkeeping moves -/
theorem core_checkConfigAction (f : Nat) (s : Node) (t : Nat) (c : Config) (id : Nat)
    (h0 : s.ldr.transfer.active = true) : core (checkConfigAction f s t c id) = core s := by
  cases f with
  | zero => unfold checkConfigAction; exact core_panic _ _
  | succ n =>
    unfold checkConfigAction
    dsimp only
    split
    · rfl
    · split
      · rfl
      · split
        · rfl
        · have hc : (s.setRepl (roundStep s.lastLogIndex (c.get id).nextAction ‹Repl›).1).canChangeConfig = false :=
            canChangeConfig_core (core_setRepl _ _) h0
          rw [hc]
          rfl

/-- … and neither does `checkConfigActions` -/
theorem core_checkConfigActions (f : Nat) (s : Node) (t : Nat) (c : Config)
    (h0 : s.ldr.transfer.active = true) : core (checkConfigActions f s t c) = core s := by
  cases f with
  | zero => unfold checkConfigActions; exact core_panic _ _
  | succ n =>
    unfold checkConfigActions
    dsimp only
    have hc : s.canChangeConfig = false := C16.no_config_change_during_transfer s h0
    rw [hc]
    simp only [Bool.false_eq_true, false_and, if_false]
    have key : ∀ (ids : List Nat) (x : Node), core x = core s →
        core (ids.foldl (fun s id => match s.findRepl? id with
          | some _ => checkConfigAction n s t c id
          | none => s) x) = core s := by
      intro ids
      induction ids with
      | nil => intro x hx; exact hx
      | cons id ids ih =>
        intro x hx
        rw [List.foldl_cons]
        apply ih
        have hx0 : x.ldr.transfer.active = true := by rw [(core_eq hx).2.2.2.2.2.2.2]; exact h0
        split
        · rw [core_checkConfigAction n x t c id hx0]; exact hx
        · exact hx
    exact key _ _ rfl

/-- a batch handed to `storeEntry` while a transfer is in progress is rejected item by item; nothing is stored -/
theorem core_storeEntry_transfer (f : Nat) (s : Node) (b : List QItem) (h0 : s.ldr.transfer.active = true)
    (hf : f ≥ b.length) :
    core (storeEntry (f + 1) s b) = core s ∧
    ∀ q ∈ b, q.task ≠ 0 →
      RepMem { task := q.task, result := "inProgress:transferLeadership" } (storeEntry (f + 1) s b) := by
  unfold storeEntry
  extract_lets li s1 s2
  have e1 : s1 = s.addReplies (b.flatMap (fun q => mkReply? q.task "inProgress:transferLeadership")) :=
    C07.definite_rejection_transfer f s b h0 hf
  have hmem : ∀ q ∈ b, q.task ≠ 0 → RepMem { task := q.task, result := "inProgress:transferLeadership" } s1 := by
    intro q hq hq0
    rw [e1]
    exact List.mem_append_right _
      (mem_flatMap_mkReply? (fun q : QItem => q.task) (fun _ => "inProgress:transferLeadership") b q hq hq0)
  have hcore : core s1 = core s := by rw [e1]; rfl
  have hA : ∀ (y : Reply) (x : Node), RepMem y x → RepMem y x.applyCommittedL :=
    fun y x hx => (repMem_step y).toSClosed.applyCommittedL_inv x hx
  -- the queue's head is looked at: what `applyCommittedL` does to the node keeps both
  have key : core s2 = core s ∧
      ∀ q ∈ b, q.task ≠ 0 → RepMem { task := q.task, result := "inProgress:transferLeadership" } s2 := by
    unfold s2
    split
    · split
      · exact ⟨(core_applyCommittedL _).trans hcore, fun q hq hq0 => hA _ _ (hmem q hq hq0)⟩
      · exact ⟨hcore, hmem⟩
    · exact ⟨hcore, hmem⟩
  rw [if_neg (by rw [(core_eq key.1).2.1]; exact Nat.lt_irrefl _)]
  exact key

end SysMore
end Raft
