/-
Two invariants of the guarded closure of `Lemmas/ClientRel.lean` (`RClosed`) that need NO assumption on the state or on
the operation:

* `NewND R0` — every answer in the reply list is one of the fixed list `R0`, or it is no definite rejection;
* `Has R1`   — every answer of the fixed list `R1` is in the reply list (answers are never taken back).
-/
import RaftVerif.Lemmas.ClientRel

namespace Raft
namespace ClientRel2
open Node ClientRel

/-- what the FSM goroutine answers: a value, or `ok` -/
def FsmAns (r : String) : Prop := IsVal r ∨ r = "ok"

theorem fsmAns_not_definite {r : String} (h : FsmAns r) : ¬ Definite r := by
  rcases h with h | h
  · exact fun hd => definite_not_val hd h
  · rw [h]; exact harmless_ok.2

/-- the second loop of `onApply` only appends answers, each a value or `ok` (whether or not an assertion failed) -/
theorem fsmApplyItems_appends (items : List QItem) : ∀ s : Node,
    ∃ rs, (s.fsmApplyItems items).replies = s.replies ++ rs ∧ ∀ r ∈ rs, FsmAns r.result := by
  induction items with
  | nil => intro s; exact ⟨[], (List.append_nil _).symm, fun r hr => by cases hr⟩
  | cons q qs ih =>
    intro s
    rw [C12.fsmApplyItems_cons]
    obtain ⟨rs, e, hrs⟩ := ih (C12.itemStep s q)
    refine ⟨mkReply? q.task (if isValTyp q.typ then valStr (C12.itemStep s q).fsm.applied.length else "ok") ++ rs,
      by rw [e, itemStep_replies, List.append_assoc], fun r hr => ?_⟩
    rcases List.mem_append.mp hr with hr | hr
    · rw [(mem_mkReply? hr).2]
      show FsmAns (if isValTyp q.typ then _ else _)
      split
      · exact Or.inl ⟨_, rfl⟩
      · exact Or.inr rfl
    · exact hrs r hr

theorem fsmApply_appends (s : Node) (items : List QItem) :
    ∃ rs, (s.fsmApply items).replies = s.replies ++ rs ∧ ∀ r ∈ rs, FsmAns r.result := by
  have nil : ∀ x : Node, x.replies = s.replies →
      ∃ rs, x.replies = s.replies ++ rs ∧ ∀ r ∈ rs, FsmAns r.result :=
    fun x hx => ⟨[], by rw [hx, List.append_nil], fun r hr => by cases hr⟩
  unfold Node.fsmApply
  split
  · exact nil _ (panic_fields _ _).2.2.2.2.2.1
  · split
    · exact nil _ (panic_fields _ _).2.2.2.2.2.1
    · extract_lets front s1 s2
      obtain ⟨rs, e, hrs⟩ := fsmApplyItems_appends items s1
      refine ⟨rs, ?_, hrs⟩
      rw [(assert_fields _ _ _).2.2.2.2.2.1]
      show s2.replies = _
      rw [show s2 = s1.fsmApplyItems items from rfl, e, show s1 = s.fsmApplyLogTo (front - 1) from rfl,
        C07.fsmApplyLogTo_replies]

theorem applyCommittedL_appends (s : Node) :
    ∃ rs, s.applyCommittedL.replies = s.replies ++ rs ∧ ∀ r ∈ rs, FsmAns r.result := by
  unfold Node.applyCommittedL
  extract_lets sp l0 s1
  exact fsmApply_appends s1 sp.1

def NewND (R0 : List Reply) (s : Node) : Prop := ∀ r ∈ s.replies, r ∈ R0 ∨ ¬ Definite r.result

def Has (R1 : List Reply) (s : Node) : Prop := ∀ r ∈ R1, r ∈ s.replies

theorem wf_replies {s s' : Node} (hw : WF s s') : s'.replies = s.replies := by
  have e := hw.same
  unfold wobs at e
  simp only [Prod.mk.injEq] at e
  exact e.2.2.2.2.2.1

theorem pushLog_replies (s : Node) (q : QItem) :
    ((s.withLdr { s.ldr with queue := s.ldr.queue ++ [q] }).appendEntry q.toEntry).replies = s.replies :=
  (appendEntry_more _ _).1

theorem commitIdx_replies (s : Node) (i : Nat) : (s.setCommitIndexR i).1.replies = s.replies :=
  (TL.key_eq (TL.fk_setCommitIndexR s i).same).1

/-- **`NewND R0` is closed** under the guarded primitives — no definite rejection is ever allowed to the generic part
(`D = False`), anything may be pushed -/
theorem newND_closed (R0 : List Reply) : RClosed (fun _ _ => True) (fun _ => False) (NewND R0) where
  frame := fun s s' hs hw => by unfold NewND; rw [wf_replies hw]; exact hs
  reply := fun s t r hs ht hg x hx => by
    rw [reply_replies s t r ht] at hx
    rcases List.mem_append.mp hx with hx | hx
    · exact hs x hx
    · rw [List.mem_singleton.mp hx]; exact Or.inr (fun hd => hg.2 hd)
  ldrNil := fun _ _ hs _ => hs
  pushLog := fun s q hs _ _ _ => by unfold NewND; rw [pushLog_replies]; exact hs
  pushOther := fun _ _ hs _ _ _ => hs
  commitIdx := fun s i hs _ => by unfold NewND; rw [commitIdx_replies]; exact hs
  applyL := fun s hs x hx => by
    obtain ⟨rs, e, hrs⟩ := applyCommittedL_appends s
    rw [e] at hx
    rcases List.mem_append.mp hx with hx | hx
    · exact hs x hx
    · exact Or.inr (fsmAns_not_definite (hrs x hx))

/-- **`Has R1` is closed** under the guarded primitives: answers are never taken back -/
theorem has_closed (R1 : List Reply) : RClosed (fun _ _ => True) (fun _ => True) (Has R1) where
  frame := fun s s' hs hw => by unfold Has; rw [wf_replies hw]; exact hs
  reply := fun s t r hs ht _ x hx => by
    rw [reply_replies s t r ht]; exact List.mem_append_left _ (hs x hx)
  ldrNil := fun _ _ hs _ => hs
  pushLog := fun s q hs _ _ _ => by unfold Has; rw [pushLog_replies]; exact hs
  pushOther := fun _ _ hs _ _ _ => hs
  commitIdx := fun s i hs _ => by unfold Has; rw [commitIdx_replies]; exact hs
  applyL := fun s hs x hx => by
    obtain ⟨rs, e, _⟩ := applyCommittedL_appends s
    rw [e]; exact List.mem_append_left _ (hs x hx)

end ClientRel2
end Raft
