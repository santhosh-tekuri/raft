/-
The invariant of the cluster system with snapshots and log compaction (Sys/Snap2.lean).

The cluster of the VIRTUAL nodes (`Snap2.view`: every log with its compacted-away prefix put back) is a state of the
system of stage 1 (Sys/Snap.lean), and
* a completed step of an operation other than `.snapTaken` is the same step of the virtual node (Lemmas/SnapRelU*.lean)
  — a step of stage 1;
* `.snapTaken` — with or without compaction — is, for the virtual node, a step that changes nothing the invariants
  read except that the log is flushed further (`SnapInv.sinv_quiet`);
* a crash is a crash of the virtual node (for `.snapTaken`: after the log was flushed and its segments regrouped).
These lemmas (`step_nc`, `step_snapTaken`, `crash_disk`, `crash_nc`, `crash_snapTaken`, `restart_view`) are stated for any
state of `Snap2.Sys` whose view satisfies the invariant, with what they need as premises: that the virtual node makes the
same step, that the restart does not reset the log, and the term under a log that starts exactly at its newest snapshot
file. The later stages (Lemmas/SnapInv3.lean, SnapInv3Events.lean, SnapDelayC.lean) use them as they are; for `Raft.Snap2` the side
condition `Side2.gap` gives the premises (`aok_of`, `notstale_of_gap`, `gap_of_restart`).
So the invariant `SnapInv.SInv` of stage 1 holds for the view in every reachable state. On the real nodes the
invariant adds `PrevOK`: the log starts at or below the snapshot index.
-/
import RaftVerif.Sys.Snap2
import RaftVerif.Lemmas.SnapInv
import RaftVerif.Lemmas.SnapFrame
import RaftVerif.Lemmas.ShapeSnap
import RaftVerif.Lemmas.NodeSys
import RaftVerif.Lemmas.SnapInstU

namespace Raft
namespace SnapInv2
open Node Election LogRel Commit C02Sys C03Sys SnapRel SnapRelU SnapSim Snap Snap2 SnapInv SnapFrame SnapInstU

theorem pad_pad (β : List Entry) (p : Nat) : pad (pad β p) p = pad β p := by
  have := pad_eq (pad β p)
  rw [pad_length] at this
  exact this

theorem uncLog_pad (β : List Entry) (l : NLog) : uncLog (pad β l.prev) l = uncLog β l := by
  unfold uncLog
  rw [pad_pad]

theorem uncD_pad (β : List Entry) (d : Durable) : uncD (pad β d.log.prev) d = uncD β d := by
  unfold uncD
  rw [pad_pad]

/-- only the first `log.prev` entries of the prefix matter -/
theorem U_pad (β : List Entry) (s : Node) (p : Nat) (h1 : s.log.prev = p) (h2 : ∀ pt ∈ s.trace, pt.2.log.prev = p) :
    U (pad β p) s = U β s := by
  unfold U
  have e1 : uncLog (pad β p) s.log = uncLog β s.log := by rw [← h1]; exact uncLog_pad β s.log
  have e2 : s.trace.map (uncP (pad β p)) = s.trace.map (uncP β) := by
    apply List.map_congr_left
    intro pt hpt
    unfold uncP
    rw [← h2 pt hpt, uncD_pad]
  rw [e1, e2]

theorem take_vlog (β : List Entry) (l : NLog) : (uncLog β l).entries.take l.prev = pad β l.prev := by
  show (pad β l.prev ++ l.entries).take l.prev = _
  rw [List.take_append_of_le_length (by rw [pad_length]; exact Nat.le_refl _), List.take_of_length_le (by rw [pad_length]; exact Nat.le_refl _)]

theorem withNodes_withNodes (z : Commit.Sys) (N M : Nat → Node) : withNodes (withNodes z N) M = withNodes z M := rfl

/-- the state `Inv2` puts under `CInv`: its ledgers are those of `x`, its logs the virtual ones; flushed mark, commit index,
term and role are the real nodes'. (Proofs take the state as a variable with these equations: compared as wholes, the two
states are dear.) -/
theorem cview2 (x : Snap2.Sys) :
    (eview (view x).cs).committed = x.cs.committed ∧ (eview (view x).cs).acks = x.cs.acks ∧
    (eview (view x).cs).T = x.cs.T ∧
    ∀ v, ((eview (view x).cs).node v).log.entries = x.vlog v ∧
      ((eview (view x).cs).node v).log.flushed = (x.node v).log.flushed ∧
      ((eview (view x).cs).node v).commitIndex = (x.node v).commitIndex ∧
      ((eview (view x).cs).node v).term = (x.node v).term ∧ ((eview (view x).cs).node v).role = (x.node v).role :=
  have a := withNodes_ledgers (view x).cs fun i => E σ0 ((view x).cs.node i)
  have b := withNodes_ledgers x.cs x.vnode
  ⟨a.1.trans b.1, a.2.1.trans b.2.1, a.2.2.trans b.2.2, fun v => ⟨rfl, rfl, (E_commitIndex (x.vnode v)).trans rfl,
    (E_term (x.vnode v)).trans rfl, (show (E σ0 (x.vnode v)).role = (x.vnode v).role from rfl).trans rfl⟩⟩

theorem cview2_last (x : Snap2.Sys) (v : Nat) : ((eview (view x).cs).node v).lastLogIndex = (x.node v).lastLogIndex :=
  (E_lastLogIndex (x.vnode v)).trans rfl

/-- node `v` of the state under `CInv` -/
theorem cview2_node (x : Snap2.Sys) (v : Nat) : (eview (view x).cs).node v = E σ0 (U (x.base v) (x.node v)) := rfl

/-- what `E σ0 (U β p)` has of `p`: everything `ReplOK` reads of a node but the log (that of `U β p`) and the snapshot data
(none). (Stated once: through `E` and `U`, each of these comparisons is dear.) -/
theorem EU_fields (β : List Entry) (p : Node) :
    (E σ0 (U β p)).nid = p.nid ∧ (E σ0 (U β p)).term = p.term ∧ (E σ0 (U β p)).votedFor = p.votedFor ∧
    (E σ0 (U β p)).durTerm = p.durTerm ∧ (E σ0 (U β p)).durVote = p.durVote ∧ (E σ0 (U β p)).role = p.role ∧
    (E σ0 (U β p)).log = (U β p).log ∧ (E σ0 (U β p)).lastLogIndex = p.lastLogIndex ∧
    (E σ0 (U β p)).lastLogTerm = p.lastLogTerm ∧ (E σ0 (U β p)).commitIndex = p.commitIndex ∧
    (E σ0 (U β p)).fsm = p.fsm ∧ (E σ0 (U β p)).snapIndex = 0 ∧ (E σ0 (U β p)).snapsDisk = [] :=
  ⟨(E_nid _).trans (U_nid p), (E_term _).trans (U_term p), (E_votedFor _).trans (U_votedFor p),
    (E_durTerm _).trans (U_durTerm p), (E_durVote _).trans (U_durVote p), (show (E σ0 (U β p)).role = (U β p).role from rfl).trans (U_role p), E_log _,
    (E_lastLogIndex _).trans (U_lastLogIndex p), (E_lastLogTerm _).trans (U_lastLogTerm p),
    (E_commitIndex _).trans (U_commitIndex p), (E_fsm _).trans (U_fsm p), rfl, rfl⟩

theorem cview2_sent (x : Snap2.Sys) : (eview (view x).cs).rp.sent = x.cs.rp.sent :=
  (withNodes_sent (view x).cs fun i => E σ0 ((view x).cs.node i)).trans (withNodes_sent x.cs x.vnode)

theorem view_stepS_node (x : Snap2.Sys) (i : Nat) (op : Op) (ra : List Nat) (ord : List (List Nat)) (src : Nat) (j : Nat) :
    (stepS x i op ra ord src).vnode j =
      if j = i then U (newBase x i ((x.node i).step op ra ord).log.prev) ((x.node i).step op ra ord) else x.vnode j := by
  unfold Sys.vnode stepS setBase
  show U (if j = i then _ else x.base j) (setNode x.cs.rp.el.node i _ j) = _
  unfold setNode
  split <;> rfl

theorem sideS_view {V : List Nat} {x : Snap2.Sys} (h : Side2 V x) : SideS V (view x) :=
  ⟨h.sideV, fun _ => rfl, h.dec⟩

structure SideN (V : List Nat) (s : Node) : Prop where
  boot : s.configs.isBootstrapped = true ∧ s.configs.latest.voters = V
  stable : s.configs.latest.isStable = true
  prev : s.log.prev = 0
  dec : ∀ e ∈ s.log.entries, e.typ = etConfig → e.cfg.isSome = true

theorem SideN.congr {V : List Nat} {s s' : Node} (h : SideN V s) (hc : s'.configs = s.configs)
    (hp : s'.log.prev = s.log.prev) (he : s'.log.entries = s.log.entries) : SideN V s' :=
  ⟨by rw [hc]; exact h.boot, by rw [hc]; exact h.stable, by rw [hp]; exact h.prev, by rw [he]; exact h.dec⟩

theorem sideS_node {V : List Nat} {X : Snap.Sys} (h : SideS V X) (j : Nat) : SideN V (X.node j) :=
  ⟨h.sideV.1 j, h.sideV.2 j, h.prev j, h.dec j⟩

theorem sideS_of_nodes {V : List Nat} {X : Snap.Sys} (h : ∀ j, SideN V (X.node j)) : SideS V X :=
  ⟨⟨fun j => (h j).boot, fun j => (h j).stable⟩, fun j => (h j).prev, fun j => (h j).dec⟩

theorem sideS_replace {V : List Nat} {X Y : Snap.Sys} {i : Nat} (hX : SideS V X)
    (hj : ∀ j, j ≠ i → Y.node j = X.node j) (hi : SideN V (Y.node i)) : SideS V Y :=
  sideS_of_nodes fun j => by
    by_cases h : j = i
    · subst h; exact hi
    · rw [hj j h]; exact sideS_node hX j

theorem sys_ext {a b : Snap.Sys} (h1 : a.cs = b.cs) (h2 : a.snaps = b.snaps) : a = b := by
  cases a; cases b
  simp only at h1 h2
  rw [h1, h2]

theorem withNodes_stepL (z : Commit.Sys) (i : Nat) (op : Op) (src : Nat) (P : Node) (M : Nat → Node)
    (h : ∀ j, M j = if j = i then P else z.node j) : withNodes (stepL z i op src P) M = stepL z i op src P := by
  have : M = setNode z.rp.el.node i P := funext (fun j => by rw [h j]; rfl)
  rw [this]; rfl

theorem view_step_nc (x : Snap2.Sys) (i : Nat) (op : Op) (ra : List Nat) (ord : List (List Nat)) (src : Nat)
    (hU : (x.vnode i).step op ra ord = U (x.base i) ((x.node i).step op ra ord))
    (h1 : ((x.node i).step op ra ord).log.prev = (x.node i).log.prev)
    (h2 : ∀ pt ∈ ((x.node i).step op ra ord).trace, pt.2.log.prev = (x.node i).log.prev) :
    view (stepS x i op ra ord src) =
      { cs := stepC (view x).cs i op ra ord src
        snaps := newSnaps i (x.vnode i).snapsDisk ((x.vnode i).step op ra ord).snapsDisk ++ (view x).snaps } := by
  have hb : newBase x i ((x.node i).step op ra ord).log.prev = pad (x.base i) (x.node i).log.prev := by
    unfold newBase Sys.vlog Sys.vnode
    rw [h1]
    exact take_vlog (x.base i) (x.node i).log
  have hP : U (newBase x i ((x.node i).step op ra ord).log.prev) ((x.node i).step op ra ord) =
      (x.vnode i).step op ra ord := by
    rw [hb, U_pad _ _ _ h1 h2, hU]
  have hcs : (view (stepS x i op ra ord src)).cs = stepC (view x).cs i op ra ord src := by
    rw [stepC_eq]
    show withNodes (withNodes (stepL (view x).cs i op src _) _) (stepS x i op ra ord src).vnode = _
    rw [withNodes_withNodes, hP]
    exact withNodes_stepL _ _ _ _ _ _ (fun j => by rw [view_stepS_node, hP]; rfl)
  have hsn : (view (stepS x i op ra ord src)).snaps =
      newSnaps i (x.vnode i).snapsDisk ((x.vnode i).step op ra ord).snapsDisk ++ (view x).snaps := by
    rw [hU]; rfl
  exact sys_ext hcs hsn

/-- the log starts at or below the snapshot index, and so does what a pending result of the snapshot goroutine will
let `onSnapshotTaken` compact -/
structure PrevOK (s : Node) : Prop where
  le : s.log.prev ≤ s.snapIndex
  res : ∀ rs, s.snapResult = some rs → rs.index ≤ s.snapIndex

theorem enabled_view {x : Snap2.Sys} {i : Nat} {op : Op} {src : Nat} (h : Snap.Enabled x.cs i op src) :
    Snap.Enabled (view x).cs i op src :=
  ⟨h.id, h.voteSrc, h.real, h.ok2, h.append, h.vote, h.appendSrc, h.upd⟩

theorem getLast_ge_head : ∀ (l : List Nat) (p : Nat), l.Pairwise (· < ·) → l.head? = some p → p ≤ l.getLast?.getD p
  | [], _, _, h => by cases h
  | [a], p, _, h => by simp at h; simp [h]
  | a :: b :: t, p, hs, h => by
    have ha : a = p := by simpa using h
    have hab : a < b := (List.pairwise_cons.mp hs).1 b (List.mem_cons_self ..)
    have := getLast_ge_head (b :: t) b (List.pairwise_cons.mp hs).2 rfl
    rw [List.getLast?_cons_cons]
    cases hl : (b :: t).getLast? with
    | none => simp at hl
    | some z => rw [hl] at this; simp at this ⊢; omega

theorem prev_le_flushed {l : NLog} (β : List Entry) (hs : C09.SegsOK l) (hw : C06.LogWF (uncLog β l)) : l.prev ≤ l.flushed := by
  have h1 : l.prev ≤ l.lastSegPrev := getLast_ge_head l.segs l.prev hs.sorted hs.head
  have h2 : l.lastSegPrev ≤ l.flushed := by
    have := hw.1
    rw [uncLog_lastSegPrev] at this
    exact this
  omega

theorem aok_of {s : Node} (hp : PrevOK s) (hs : C09.SegsOK s.log) (hg : s.log.prev = 0 ∨ s.log.prev ≠ s.snapIndex) :
    AOK s := by
  rcases hg with h | h
  · exact Or.inl h
  · refine Or.inr ⟨by have := hp.le; omega, ?_⟩
    have := hs.head
    cases hseg : s.log.segs with
    | nil => rw [hseg] at this; cases this
    | cons a t =>
      rw [hseg] at this
      have ha : a = s.log.prev := by simpa using this
      rw [ha]; exact List.mem_cons_self ..

theorem snapRun_res (s : Node) (h : ∀ rs, s.snapResult = some rs → rs.index ≤ s.snapIndex) :
    ∀ rs, s.snapRun.snapResult = some rs → rs.index ≤ s.snapRun.snapIndex := by
  unfold Node.snapRun
  split
  · exact h
  · dsimp only
    split
    · intro rs hrs
      have := Option.some.inj hrs
      rw [← this]; exact Nat.zero_le _
    · split
      · intro rs hrs
        have := Option.some.inj hrs
        rw [← this]; exact Nat.zero_le _
      · intro rs hrs
        have := Option.some.inj hrs
        rw [← this]
        exact Nat.le_refl _

theorem snapRun_frame (s : Node) : s.snapRun.log = s.log ∧ (∀ pt ∈ s.snapRun.trace, pt ∈ s.trace ∨ pt.2.log = s.durable.log) := by
  rcases snapRun_tobs s with h | ⟨rq, _, _, _, h⟩
  · unfold tobs at h
    simp only [Prod.mk.injEq] at h
    exact ⟨h.2.1, fun pt hpt => Or.inl (by rw [h.1] at hpt; exact hpt)⟩
  · unfold tobs at h
    simp only [Prod.mk.injEq] at h
    refine ⟨h.2.1, fun pt hpt => ?_⟩
    rw [h.1] at hpt
    rcases List.mem_append.mp hpt with a | a
    · exact Or.inl a
    · right
      simp only [List.mem_cons, List.mem_nil_iff, or_false] at a
      rcases a with rfl | rfl <;> rfl

theorem vnode_lwf {V : List Nat} {x : Snap2.Sys} (hI : SInv V (view x)) (i : Nat) :
    C06.LogWF (uncLog (x.base i) (x.node i).log) := hI.cinv.node.lwf i

theorem ncOp_of_ok {op : Op} (h1 : OpOKS op) (hne : op ≠ .snapTaken) (hr : op ≠ .snapRun) : StepClosedNC.NCOp op := by
  cases op <;> first | trivial | exact h1.elim | exact absurd rfl hne | exact absurd rfl hr | exact h1

theorem uPlain_of_ok {op : Op} (h : OpOK2S op) (hne : op ≠ .snapTaken) (happ : ¬ ∃ q, op = .append q) : UPlain op := by
  have h1 := h.1
  have h2 := h.2.2
  cases op <;> first | trivial | exact h1.elim | exact absurd rfl hne | exact absurd ⟨_, rfl⟩ happ | exact absurd rfl (h2 _ _) | exact h1

/-- the virtual node makes the same step (`step_U`, `append_step_U`) -/
theorem vnode_step {x : Snap2.Sys} {i : Nat} {op : Op} {ra : List Nat} {ord : List (List Nat)} {src : Nat}
    (ha : AOK (x.node i)) (en : Snap.Enabled x.cs i op src) (hp : ((x.node i).step op ra ord).panicked = none)
    (hne : op ≠ .snapTaken) : (x.vnode i).step op ra ord = U (x.base i) ((x.node i).step op ra ord) := by
  by_cases happ : ∃ q, op = .append q
  · obtain ⟨q, rfl⟩ := happ
    exact append_step_U _ q ra ord ha hp
  · exact step_U _ op ra ord (uPlain_of_ok en.ok2 hne happ) hp

/-- **a completed step of an operation of stage 2 other than `.snapTaken` is the same step of the virtual node**
(a step of stage 1 on the view), given that the virtual node makes the same step (`hU`: `vnode_step` when the log does
not start at its snapshot index, `SnapInst3.vstep_comm` when it may) -/
theorem step_nc {V : List Nat} (hV : V.Nodup) {x : Snap2.Sys} (hI : SInv V (view x)) (hP : ∀ i, PrevOK (x.node i))
    (hSv : SideS V (view x)) {i : Nat} (hseg : C09.SegsOK (x.node i).log) {op : Op} {ra : List Nat}
    {ord : List (List Nat)} {src : Nat}
    (en : Snap.Enabled x.cs i op src) (hp : ((x.node i).step op ra ord).panicked = none) (hne : op ≠ .snapTaken)
    (hU : (x.vnode i).step op ra ord = U (x.base i) ((x.node i).step op ra ord)) (hS' : SideS V (view (stepS x i op ra ord src))) :
    SInv V (view (stepS x i op ra ord src)) ∧ PrevOK ((x.node i).step op ra ord) ∧
    (stepS x i op ra ord src).vnode i = (x.vnode i).step op ra ord := by
  have hfl : (x.node i).log.prev ≤ (x.node i).log.flushed :=
    prev_le_flushed (x.base i) hseg (vnode_lwf hI i)
  have hfr : ((x.node i).step op ra ord).log.prev = (x.node i).log.prev ∧
      (∀ pt ∈ ((x.node i).step op ra ord).trace, pt.2.log.prev = (x.node i).log.prev) ∧
      (∀ rs, ((x.node i).step op ra ord).snapResult = some rs → rs.index ≤ ((x.node i).step op ra ord).snapIndex) ∧
      (x.node i).snapIndex ≤ ((x.node i).step op ra ord).snapIndex := by
    by_cases hr : op = .snapRun
    · subst hr
      rw [snapRun_step_eq]
      obtain ⟨f1, f2⟩ := snapRun_frame ((x.node i).begin ra ord)
      refine ⟨by rw [f1]; rfl, fun pt hpt => ?_, snapRun_res _ (hP i).res, ?_⟩
      · rcases f2 pt hpt with a | a
        · cases a
        · rw [a]; rfl
      · have fbi : FB (E σ0 (x.vnode i)) := hI.fsm i
        have hf : FsmOK 0 (x.vnode i) := ⟨fbi.fsm.le, fbi.fsm.len, fbi.fsm.applied, fbi.fsm.mono⟩
        have ss := snapStep (x.vnode i) .snapRun ra ord (hI.snap i) hf (Or.inl rfl)
        have := ss.mono
        rw [hU, snapRun_step_eq] at this
        exact this
    · have fr := step_frame (x.node i) op ra ord (ncOp_of_ok en.ok2.1 hne hr) (hP i).le hfl
      refine ⟨fr.1, fun pt hpt => (fr.2.2.2.2 pt hpt).1, fun rs hrs => ?_, by rw [fr.2.2.1]; exact Nat.le_refl _⟩
      rw [fr.2.2.1]
      exact (hP i).res rs (by rw [← fr.2.2.2.1]; exact hrs)
  obtain ⟨f1, f2, f3, f4⟩ := hfr
  have hview := view_step_nc x i op ra ord src hU f1 f2
  have hvn : (stepS x i op ra ord src).vnode i = (x.vnode i).step op ra ord :=
    (congrArg (fun y : Snap.Sys => y.cs.node i) hview).trans (stepC_node_i _ _ _ _ _ _)
  refine ⟨?_, ⟨by rw [f1]; exact Nat.le_trans (hP i).le f4, f3⟩, hvn⟩
  have ht : Snap.Trans (view x) (view (stepS x i op ra ord src)) := by
    rw [hview]
    refine Snap.Trans.step i op ra ord src (enabled_view en) ?_ (fun h => absurd h hne)
    show ((x.vnode i).step op ra ord).panicked = none
    rw [hU]; exact hp
  exact inv_trans hV hI (hSv) ht hS'

/-- compaction does not change the virtual log: what it removes goes to the compacted-away prefix -/
theorem vlog_keep (β : List Entry) (L L' : NLog) (hp : L.prev ≤ L'.prev) (hl : L'.prev ≤ L.last)
    (he : L'.entries = L.entries.drop (L'.prev - L.prev)) :
    (uncLog ((uncLog β L).entries.take L'.prev) L').entries = (uncLog β L).entries := by
  show pad ((pad β L.prev ++ L.entries).take L'.prev) L'.prev ++ L'.entries = pad β L.prev ++ L.entries
  have hlen : ((pad β L.prev ++ L.entries).take L'.prev).length = L'.prev := by
    rw [List.length_take, List.length_append, pad_length]
    unfold NLog.last at hl
    omega
  have e1 : pad ((pad β L.prev ++ L.entries).take L'.prev) L'.prev = (pad β L.prev ++ L.entries).take L'.prev := by
    have := pad_eq ((pad β L.prev ++ L.entries).take L'.prev)
    rw [hlen] at this
    exact this
  have e2 : L'.entries = (pad β L.prev ++ L.entries).drop L'.prev := by
    rw [he, drop_pad _ _ _ (by rw [pad_length]; exact hp), pad_length]
  rw [e1, e2, List.take_append_drop]

theorem compact_cases (s : Node) (hok : C09.SegsOK s.log) :
    s.log.prev ≤ s.onSnapshotTaken.log.prev ∧ s.onSnapshotTaken.log.prev ≤ s.log.last ∧
    s.onSnapshotTaken.log.entries = s.log.entries.drop (s.onSnapshotTaken.log.prev - s.log.prev) ∧
    (s.onSnapshotTaken.log = s.log ∨ s.onSnapshotTaken.log.flushed = s.log.last) ∧
    s.onSnapshotTaken.log.last = s.log.last ∧ C09.SegsOK s.onSnapshotTaken.log ∧
    (∀ rs, s.snapResult = some rs → s.onSnapshotTaken.log.prev ≤ max s.log.prev rs.index) ∧
    s.onSnapshotTaken.snapResult = none := by
  have hres : s.onSnapshotTaken.snapResult = none := by
    refine Node.onSnapshotTaken_cases (motive := fun t => t.snapResult = none) s (fun h => h)
      (fun rs _ => by rw [Node.reply_shape]; rfl) (fun rs a b y _ _ _ _ _ hy => ?_)
    have hy' : y.snapResult = none := by
      rcases hy with e | ⟨_, e⟩ <;> rw [e] <;> rfl
    rw [Node.reply_shape]
    show (if s.log.canLTE b > s.log.canLTE a then (y.withLdr { y.ldr with removeLTE := s.log.canLTE b }).notifyFlr
      else if y.role = .leader ∧ y.ldr.removeLTE < y.log.prev then
        (y.withLdr { y.ldr with removeLTE := y.log.prev }).notifyFlr
      else y).snapResult = none
    split
    · rw [Node.notifyFlr_shape]; exact hy'
    · split
      · rw [Node.notifyFlr_shape]; exact hy'
      · exact hy'
  have hself : s.log.prev ≤ s.log.last := by unfold NLog.last; omega
  cases hr : s.snapResult with
  | none =>
    have e : s.onSnapshotTaken = s := by
      unfold Node.onSnapshotTaken
      rw [hr]
    rw [e]
    exact ⟨Nat.le_refl _, hself, by rw [Nat.sub_self]; rfl, Or.inl rfl, rfl, hok, fun rs h => (by cases h), hr⟩
  | some rs =>
    rcases C09.compaction_never_beyond_snapshot s rs hr hok with e | ⟨n, _, hn1, hn2, e⟩
    · rw [e]
      exact ⟨Nat.le_refl _, hself, by rw [Nat.sub_self]; rfl, Or.inl rfl, rfl, hok,
        fun rs' _ => Nat.le_max_left _ _, hres⟩
    · have h := C09.removeLTE_whole_segments s.log n hok
      refine ⟨?_, ?_, ?_, ?_, ?_, ?_, fun rs' h' => ?_, hres⟩
      · rw [e]; exact h.2.2.1
      · rw [e]; exact hok.le_last _ h.2.1
      · rw [e]; exact C09.removeLTE_entries s.log n
      · rw [e]; exact Or.inr rfl
      · rw [e]; exact h.2.2.2.2.1
      · rw [e]; exact h.2.2.2.2.2.2
      · rw [e]
        have h4 := h.2.2.2.1
        cases h'
        rcases h4 with h4 | h4 <;> omega

theorem lobs_U (β : List Entry) (s : Node) :
    SnapSim.lobs (U β s) = (s.commitIndex, s.fsm, s.configs, s.ldr.numVoters, s.ldr.startIndex, s.ldr.repls.map zrr, s.ldr.queue) :=
  rfl

theorem lobs_U_congr {β β' : List Entry} {s s' : Node} (h : SnapSim.lobs s' = SnapSim.lobs s) :
    SnapSim.lobs (U β' s') = SnapSim.lobs (U β s) := by
  rw [lobs_U, lobs_U]
  unfold SnapSim.lobs at h
  simp only [Prod.mk.injEq] at h
  obtain ⟨h1, h2, h3, h4, h5, h6, h7⟩ := h
  rw [h1, h2, h3, h4, h5, h6, h7]

theorem lastSegPrev_le_last {l : NLog} (h : C09.SegsOK l) : l.lastSegPrev ≤ l.last := by
  unfold NLog.lastSegPrev
  cases hl : l.segs.getLast? with
  | none =>
    have := List.getLast?_eq_none_iff.mp hl
    have hh := h.head
    rw [this] at hh; cases hh
  | some z => exact h.le_last z (List.mem_of_getLast? hl)

/-- **`onSnapshotTaken` on the virtual node**: with the removed entries added to the compacted-away prefix, nothing the
invariants read changes, except that the log may be flushed completely -/
theorem snapTaken_snapStep (β : List Entry) (pre : Node) (ra : List Nat) (ord : List (List Nat))
    (hok : C09.SegsOK pre.log) (hso : SnapOK (U β pre)) (hwf : C06.LogWF (uncLog β pre.log)) :
    SnapStep (U β pre)
      (U ((uncLog β pre.log).entries.take (pre.begin ra ord).onSnapshotTaken.log.prev)
        (pre.begin ra ord).onSnapshotTaken) := by
  have hq := onSnapshotTaken_qobs (pre.begin ra ord)
  have hret := step_retain pre .snapTaken ra ord
  rw [snapTaken_step_eq] at hret
  obtain ⟨c1, c2, c3, c4, c5, c6, _, _⟩ := compact_cases (pre.begin ra ord) hok
  generalize (pre.begin ra ord).onSnapshotTaken = post at *
  have c1' : pre.log.prev ≤ post.log.prev := c1
  have c2' : post.log.prev ≤ pre.log.last := c2
  have c3' : post.log.entries = pre.log.entries.drop (post.log.prev - pre.log.prev) := c3
  have hent := vlog_keep β pre.log post.log c1' c2' c3'
  generalize (uncLog β pre.log).entries.take post.log.prev = β' at *
  have c4' : post.log = pre.log ∨ post.log.flushed = pre.log.last := c4
  have c5' : post.log.last = pre.log.last := c5
  unfold qobs at hq
  simp only [Prod.mk.injEq] at hq
  obtain ⟨⟨q1, q2, q3, q4, q5, q6, q7, q8, q9⟩, ql, ⟨s1, s2, s3⟩, _⟩ := hq
  have ql' : SnapSim.lobs (U β' post) = SnapSim.lobs (U β pre) := lobs_U_congr ql
  have hl2 := lfieldEq_of_lobs ql
  refine ⟨⟨q1, q2, q3, q4, q5, hent, rfl, ?_, fun _ => ?_, q6, q7, q8, q9, rfl, rfl⟩, ql', ?_, ?_, ?_⟩
  · show pre.log.flushed ≤ post.log.flushed
    rcases c4' with h | h
    · rw [h]; exact Nat.le_refl _
    · rw [h]; have := hwf.2; rw [uncLog_last] at this; exact this
  · show C06.LogWF (uncLog β' post.log)
    refine ⟨?_, ?_⟩
    · rw [uncLog_lastSegPrev]
      show post.log.lastSegPrev ≤ post.log.flushed
      rcases c4' with h | h
      · rw [h]; have := hwf.1; rw [uncLog_lastSegPrev] at this; exact this
      · rw [h, ← c5']; exact lastSegPrev_le_last c6
    · rw [uncLog_last]
      show post.log.flushed ≤ post.log.last
      rcases c4' with h | h
      · rw [h]; have := hwf.2; rw [uncLog_last] at this; exact this
      · rw [h, c5']; exact Nat.le_refl _
  · refine ⟨by show 1 ≤ post.retain; rw [hret]; exact hso.retain, ?_, ?_, ?_⟩
    · show FilesOK (uncLog β' post.log).entries post.commitIndex post.snapsDisk
      rw [hent, hl2.commitIndex, s3]
      exact hso.files
    · show post.snapIndex = (headOf post.snapsDisk).index
      rw [s1, s3]; exact hso.head
    · show post.snapIndex ≤ post.fsm.index
      rw [s1, hl2.fsm]; exact hso.le
  · show pre.snapIndex ≤ post.snapIndex
    rw [s1]; exact Nat.le_refl _
  · intro g hg
    left
    have : g ∈ post.snapsDisk := hg
    rw [s3] at this
    exact this

/-- `onSnapshotTaken` compacts at most up to the index of the result it is handed, which lies within the snapshot -/
theorem prevOK_snapTaken (s : Node) (ra : List Nat) (ord : List (List Nat)) (hP : PrevOK s) (hseg : C09.SegsOK s.log) :
    PrevOK (s.begin ra ord).onSnapshotTaken := by
  obtain ⟨_, _, _, _, _, _, c7, c8⟩ := compact_cases (s.begin ra ord) hseg
  have s1 : (s.begin ra ord).onSnapshotTaken.snapIndex = s.snapIndex := by rw [(onSnapshotTaken_frame _).shape]; rfl
  refine ⟨?_, fun rs hrs => ?_⟩
  · rw [s1]
    cases hr : s.snapResult with
    | none =>
      have e : (s.begin ra ord).onSnapshotTaken = s.begin ra ord := by
        unfold Node.onSnapshotTaken
        rw [show (s.begin ra ord).snapResult = none from hr]
      rw [e]; exact hP.le
    | some rs =>
      have := c7 rs hr
      have h1 := hP.le
      have h2 := hP.res rs hr
      have h3 : (s.begin ra ord).log.prev = s.log.prev := rfl
      rw [h3] at this
      omega
  · rw [c8] at hrs; cases hrs

theorem step_snapTaken {V : List Nat} (hV : V.Nodup) {x : Snap2.Sys} (hI : SInv V (view x)) (hSv : SideS V (view x))
    {i : Nat} (hP : PrevOK (x.node i)) (hseg : C09.SegsOK (x.node i).log) {ra : List Nat} {ord : List (List Nat)}
    {src : Nat} (hi : i ≠ 0) :
    SInv V (view (stepS x i .snapTaken ra ord src)) ∧ PrevOK ((x.node i).step .snapTaken ra ord) ∧
    ((stepS x i .snapTaken ra ord src).vnode i).log.entries = (x.vlog i) ∧
    ((x.node i).step .snapTaken ra ord).snapsDisk = (x.node i).snapsDisk ∧
    ((x.node i).step .snapTaken ra ord).snapTerm = (x.node i).snapTerm := by
  have hpost : (x.node i).step .snapTaken ra ord = ((x.node i).begin ra ord).onSnapshotTaken := snapTaken_step_eq _ ra ord
  have ss := snapTaken_snapStep (x.base i) (x.node i) ra ord hseg (hI.snap i) (vnode_lwf hI i)
  have hb : newBase x i ((x.node i).step .snapTaken ra ord).log.prev =
      (uncLog (x.base i) (x.node i).log).entries.take ((x.node i).begin ra ord).onSnapshotTaken.log.prev := by
    rw [hpost]; rfl
  have hq := onSnapshotTaken_qobs ((x.node i).begin ra ord)
  unfold qobs at hq
  simp only [Prod.mk.injEq] at hq
  obtain ⟨_, _, ⟨_, s2, s3⟩, _⟩ := hq
  have hP' : U (newBase x i ((x.node i).step .snapTaken ra ord).log.prev) ((x.node i).step .snapTaken ra ord) =
      U ((uncLog (x.base i) (x.node i).log).entries.take ((x.node i).begin ra ord).onSnapshotTaken.log.prev)
        ((x.node i).begin ra ord).onSnapshotTaken := by rw [hb, hpost]
  refine ⟨?_, ?_, ?_, by rw [hpost]; exact s3, by rw [hpost]; exact s2⟩
  · generalize U ((uncLog (x.base i) (x.node i).log).entries.take ((x.node i).begin ra ord).onSnapshotTaken.log.prev)
          ((x.node i).begin ra ord).onSnapshotTaken = P at ss hP'
    have pe := ss.feq
    have le := lfieldEq_of_lobs ss.lobs
    have hq' := stepL_quiet (view x).cs i .snapTaken src P trivial pe.term pe.entries le.commitIndex
    have hcs : (view (stepS x i .snapTaken ra ord src)).cs = quietC (view x).cs i P := by
      rw [← hq']
      show withNodes (withNodes (stepL (view x).cs i .snapTaken src _) _) (stepS x i .snapTaken ra ord src).vnode = _
      rw [withNodes_withNodes, hP']
      exact withNodes_stepL _ _ _ _ _ _ (fun j => by rw [view_stepS_node, hP']; rfl)
    have hsd : P.snapsDisk = ((x.node i).step .snapTaken ra ord).snapsDisk := by rw [← hP']; rfl
    have hsn : (view (stepS x i .snapTaken ra ord src)).snaps =
        newSnaps i ((view x).node i).snapsDisk P.snapsDisk ++ (view x).snaps := by
      rw [hsd]; rfl
    have key := sinv_quiet hV hI (hSv) hi ss
    have hv : view (stepS x i .snapTaken ra ord src) =
        { cs := quietC (view x).cs i P, snaps := newSnaps i ((view x).node i).snapsDisk P.snapsDisk ++ (view x).snaps } :=
      sys_ext hcs hsn
    rw [hv]
    exact key
  · rw [hpost]
    exact prevOK_snapTaken (x.node i) ra ord hP hseg
  · rw [view_stepS_node, if_pos rfl, hP']
    exact ss.feq.entries

theorem restart_shape (d : Durable) (retain : Nat) (sor : Bool) (n : Node) (h : Node.restart d retain sor = some n) :
    n.snapIndex = (headSnap d).index ∧ n.snapResult = none ∧ n.trace = [] ∧
    n.log.prev = (if staleLog d then (headSnap d).index else d.log.prev) :=
  ⟨restart_field (·.snapIndex) (fun _ _ _ _ => rfl) h, restart_field (·.snapResult) (fun _ _ _ _ => rfl) h,
    restart_field (·.trace) (fun _ _ _ _ => rfl) h, by
      rw [restart_field (·.log) (fun _ _ _ _ => rfl) h, restartNode_log]; split <;> rfl⟩

/-- the last compacted-away entry is the entry of the virtual log at `log.prev` -/
theorem pad_getLast_term (β : List Entry) (es : List Entry) (p : Nat) (hp : 0 < p) :
    (((pad β p).getLast?).map (·.term)).getD 0 = termAt (pad β p ++ es) p := by
  unfold termAt
  rw [if_neg (by omega), List.getElem?_append_left (by rw [pad_length]; omega)]
  rw [List.getLast?_eq_getElem?, pad_length]

/-- **the restart of the virtual node**: from the un-compacted disk the node restarts as the un-compacted
restarted node — when `openStorage` does not reset the log on disk, and, in case the log on disk starts exactly at the
newest snapshot, the last compacted-away entry has that snapshot's term -/
theorem restart_view (β : List Entry) (d : Durable) (retain : Nat) (sor : Bool) (n : Node)
    (hn : Node.restart d retain sor = some n) (hps : d.log.prev ≤ (headSnap d).index)
    (hlen : d.log.prev + d.log.entries.length ≤ d.log.flushed) (hst : staleLog d = false)
    (hlt : 0 < d.log.prev → d.log.prev = (headSnap d).index →
      (((pad β d.log.prev).getLast?).map (·.term)).getD 0 = (headSnap d).term) :
    Node.restart (uncD β d) retain sor = some (U β n) ∧ n.log.prev = d.log.prev ∧
    n.snapIndex = (headSnap d).index ∧ n.snapResult = none ∧ n.trace = [] := by
  obtain ⟨s1, s2, s3, s4⟩ := restart_shape d retain sor n hn
  rw [hst] at s4
  have s4 : n.log.prev = d.log.prev := s4
  have hreach := notstale_reaches d hst
  by_cases hA : d.log.prev = 0 ∨ d.log.prev < (headSnap d).index
  · have hnu : staleLog { d with log := uncLog β d.log } = false := by rw [staleLog_U d hA, hst]
    have hne : d.log.entries ≠ [] ∨ d.log.prev = 0 := by
      rcases hA with h | h
      · exact Or.inr h
      · left
        intro he
        have hl : d.log.last = d.log.prev := by unfold NLog.last; rw [he]; rfl
        omega
    rw [uncD_eq d hlen, restart_U d retain sor hne hst hnu hps, hn]
    exact ⟨rfl, s4, s1, s2, s3⟩
  · have hpe : d.log.prev = (headSnap d).index := by omega
    have hpos : 0 < d.log.prev := by omega
    have hterm := hlt hpos hpe
    -- the un-compacted log is not stale: at the snapshot index it holds the last compacted-away entry
    have hnu : staleLog { d with log := uncLog β d.log } = false := by
      unfold staleLog
      show (decide ((uncLog β d.log).last < (headSnap d).index) ||
        (decide ((uncLog β d.log).prev < (headSnap d).index) &&
          (((uncLog β d.log).get? (headSnap d).index).map (·.term) != some (headSnap d).term))) = false
      rw [uncLog_last, uncLog_prev]
      have h1 : decide (d.log.last < (headSnap d).index) = false := by simp; omega
      have hget : ((uncLog β d.log).get? (headSnap d).index).map (·.term) = some (headSnap d).term := by
        unfold NLog.get?
        show (if 0 < (headSnap d).index then (pad β d.log.prev ++ d.log.entries)[(headSnap d).index - 0 - 1]? else none).map
          (·.term) = _
        rw [if_pos (by omega), Nat.sub_zero, ← hpe,
          List.getElem?_append_left (by rw [pad_length]; omega)]
        have hg : (pad β d.log.prev).getLast? = (pad β d.log.prev)[d.log.prev - 1]? := by
          rw [List.getLast?_eq_getElem?, pad_length]
        rw [hg] at hterm
        have hlt' : d.log.prev - 1 < (pad β d.log.prev).length := by rw [pad_length]; omega
        rw [List.getElem?_eq_getElem hlt'] at hterm ⊢
        simp only [Option.map_some, Option.getD_some] at hterm ⊢
        rw [hterm]
      rw [h1, hget]
      simp
    by_cases he : d.log.entries = []
    · rw [uncD_eq d hlen, restart_U_empty d retain sor he hpe hpos hst hnu hterm, hn]
      exact ⟨rfl, s4, s1, s2, s3⟩
    · rw [uncD_eq d hlen, restart_U d retain sor (Or.inl he) hst hnu hps, hn]
      exact ⟨rfl, s4, s1, s2, s3⟩

/-- a restarted node whose log is not compacted exactly up to its snapshot index was not reset -/
theorem notstale_of_gap (d : Durable) (retain : Nat) (sor : Bool) (n : Node) (hn : Node.restart d retain sor = some n)
    (hgap : n.log.prev = 0 ∨ n.log.prev ≠ n.snapIndex) : staleLog d = false := by
  obtain ⟨s1, _, _, s4⟩ := restart_shape d retain sor n hn
  cases hst : staleLog d with
  | false => rfl
  | true =>
    rw [if_pos hst] at s4
    have := stale_pos d hst
    rcases hgap with h | h
    · rw [s4] at h; omega
    · exact absurd (by rw [s4, s1]) h

/-- … and its log on disk does not start exactly at the newest snapshot -/
theorem gap_of_restart (d : Durable) (retain : Nat) (sor : Bool) (n : Node) (hn : Node.restart d retain sor = some n)
    (hgap : n.log.prev = 0 ∨ n.log.prev ≠ n.snapIndex) : d.log.prev = 0 ∨ d.log.prev ≠ (headSnap d).index := by
  obtain ⟨s1, _, _, s4⟩ := restart_shape d retain sor n hn
  rw [notstale_of_gap d retain sor n hn hgap] at s4
  have s4 : n.log.prev = d.log.prev := s4
  rw [s4, s1] at hgap
  exact hgap

theorem restart_view_gap (β : List Entry) (d : Durable) (retain : Nat) (sor : Bool) (n : Node)
    (hn : Node.restart d retain sor = some n) (hps : d.log.prev ≤ (headSnap d).index)
    (hlen : d.log.prev + d.log.entries.length ≤ d.log.flushed)
    (hgap : n.log.prev = 0 ∨ n.log.prev ≠ n.snapIndex) :
    Node.restart (uncD β d) retain sor = some (U β n) ∧ n.log.prev = d.log.prev ∧
    n.snapIndex = (headSnap d).index ∧ n.snapResult = none ∧ n.trace = [] :=
  restart_view β d retain sor n hn hps hlen (notstale_of_gap d retain sor n hn hgap) (fun h0 he => by
    rcases gap_of_restart d retain sor n hn hgap with h | h
    · omega
    · exact absurd he h)

theorem withNodes_crashC (z : Commit.Sys) (i : Nat) (op : Op) (P : Node) (M : Nat → Node)
    (h : ∀ j, M j = if j = i then P else z.node j) : withNodes (crashC z i op P) M = crashC z i op P := by
  have : M = setNode z.rp.el.node i P := funext (fun j => by rw [h j]; rfl)
  rw [this]; rfl

theorem view_crashS_node (x : Snap2.Sys) (i : Nat) (op : Op) (n : Node) (j : Nat) :
    (crashS x i op n).vnode j = if j = i then U (newBase x i n.log.prev) n else x.vnode j := by
  unfold Sys.vnode crashS setBase
  show U (if j = i then _ else x.base j) (setNode x.cs.rp.el.node i _ j) = _
  unfold setNode
  split <;> rfl

theorem view_crashS (x : Snap2.Sys) (i : Nat) (op : Op) (n P : Node) (hP : U (newBase x i n.log.prev) n = P) :
    view (crashS x i op n) =
      { cs := crashC (view x).cs i op P, snaps := newSnaps i (x.vnode i).snapsDisk P.snapsDisk ++ (view x).snaps } := by
  have hcs : (view (crashS x i op n)).cs = crashC (view x).cs i op P := by
    show withNodes (withNodes (crashC (view x).cs i op _) _) (crashS x i op n).vnode = _
    rw [withNodes_withNodes, hP]
    exact withNodes_crashC _ _ _ _ _ (fun j => by rw [view_crashS_node, hP]; rfl)
  have hsn : (view (crashS x i op n)).snaps = newSnaps i (x.vnode i).snapsDisk P.snapsDisk ++ (view x).snaps := by
    rw [← hP]; rfl
  exact sys_ext hcs hsn

theorem crashS_node_i (x : Snap2.Sys) (i : Nat) (op : Op) (n : Node) : (crashS x i op n).node i = n :=
  setNode_same _ _ _

/-- what a crash in an operation of stage 2 other than `.snapTaken` leaves on disk: the disk of the virtual node is the
un-compacted disk; the log starts where it started and is flushed as far as it goes; the newest file is not older than
the node's snapshot; the files fit the virtual log -/
theorem crash_disk {V : List Nat} {x : Snap2.Sys} (hI : SInv V (view x)) {i : Nat} (hP : PrevOK (x.node i))
    (hseg : C09.SegsOK (x.node i).log) {op : Op} {ra : List Nat} {ord : List (List Nat)} {src : Nat} (k : Nat)
    (en : Snap.Enabled x.cs i op src) (hne : op ≠ .snapTaken)
    (hU : (x.vnode i).step op ra ord = U (x.base i) ((x.node i).step op ra ord)) :
    C05.crashDisk (x.vnode i) op ra ord k = uncD (x.base i) (C05.crashDisk (x.node i) op ra ord k) ∧
    ((C05.crashDisk (x.node i) op ra ord k).log.prev = (x.node i).log.prev ∧
      (C05.crashDisk (x.node i) op ra ord k).log.prev + (C05.crashDisk (x.node i) op ra ord k).log.entries.length ≤
        (C05.crashDisk (x.node i) op ra ord k).log.flushed) ∧
    (x.node i).snapIndex ≤ (headSnap (C05.crashDisk (x.node i) op ra ord k)).index ∧
    FilesOK (x.vlog i) (x.node i).commitIndex (C05.crashDisk (x.node i) op ra ord k).snaps := by
  have hfl : (x.node i).log.prev ≤ (x.node i).log.flushed := prev_le_flushed (x.base i) hseg (vnode_lwf hI i)
  have hdisk : C05.crashDisk (x.vnode i) op ra ord k = uncD (x.base i) (C05.crashDisk (x.node i) op ra ord k) :=
    C05.crashDisk_comm (U (x.base i)) (uncD (x.base i)) U_durable (fun _ => rfl) _ op op ra ord hU k
  have hd : (C05.crashDisk (x.node i) op ra ord k).log.prev = (x.node i).log.prev ∧
      (C05.crashDisk (x.node i) op ra ord k).log.prev + (C05.crashDisk (x.node i) op ra ord k).log.entries.length ≤
        (C05.crashDisk (x.node i) op ra ord k).log.flushed := by
    have hpre : (x.node i).durable.log.prev = (x.node i).log.prev ∧
        (x.node i).durable.log.prev + (x.node i).durable.log.entries.length ≤ (x.node i).durable.log.flushed :=
      ⟨rfl, durable_len _ hfl⟩
    by_cases hr : op = .snapRun
    · subst hr
      have hc := C04Sys.crashDisk_cases (x.node i) .snapRun ra ord k
      rw [snapRun_step_eq] at hc
      obtain ⟨f1, f2⟩ := snapRun_frame ((x.node i).begin ra ord)
      rcases hc with e | ⟨p, hpt, e⟩ | e
      · rw [e]; exact hpre
      · rw [e]
        rcases f2 p hpt with a | a
        · cases a
        · rw [a]; exact hpre
      · rw [e]
        have : ((x.node i).begin ra ord).snapRun.durable.log = (x.node i).durable.log := by
          show ((x.node i).begin ra ord).snapRun.log.durable = _
          rw [f1]; rfl
        rw [this]; exact hpre
    · have fr := step_frame (x.node i) op ra ord (ncOp_of_ok en.ok2.1 hne hr) hP.le hfl
      exact disk_of_FR fr hfl (C04Sys.crashDisk_cases (x.node i) op ra ord k)
  have fbi : FB (E σ0 (x.vnode i)) := hI.fsm i
  have hf : FsmOK 0 (x.vnode i) := ⟨fbi.fsm.le, fbi.fsm.len, fbi.fsm.applied, fbi.fsm.mono⟩
  have hcs := crash_snaps (x.vnode i) op ra ord k en.ok2.1 (hI.snap i) hf
  rw [hdisk] at hcs
  exact ⟨hdisk, hd, hcs.2, hcs.1⟩

/-- **a crash at any storage point of an operation of stage 2 other than `.snapTaken`, and the restart from a log that is
not reset, is the same crash of the virtual node** (a crash of stage 1 on the view), given that the virtual node makes
the same step (`hU`) and — in case the log on disk starts exactly at the newest snapshot file — the virtual log has that
file's term there (`hlt`) -/
theorem crash_nc {V : List Nat} (hV : V.Nodup) {x : Snap2.Sys} (hI : SInv V (view x)) (hSv : SideS V (view x))
    {i : Nat} (hP : PrevOK (x.node i)) (hseg : C09.SegsOK (x.node i).log) {op : Op} {ra : List Nat}
    {ord : List (List Nat)} {src k retain : Nat} {sor : Bool} {n : Node} (en : Snap.Enabled x.cs i op src)
    (hret : 1 ≤ retain) (hne : op ≠ .snapTaken)
    (hU : (x.vnode i).step op ra ord = U (x.base i) ((x.node i).step op ra ord))
    (hst : staleLog (C05.crashDisk (x.node i) op ra ord k) = false)
    (hlt : 0 < (C05.crashDisk (x.node i) op ra ord k).log.prev →
      (C05.crashDisk (x.node i) op ra ord k).log.prev = (headSnap (C05.crashDisk (x.node i) op ra ord k)).index →
      termAt (x.vlog i) (C05.crashDisk (x.node i) op ra ord k).log.prev =
        (headSnap (C05.crashDisk (x.node i) op ra ord k)).term)
    (hn : Node.restart (C05.crashDisk (x.node i) op ra ord k) retain sor = some n)
    (hS' : SideS V (view (crashS x i op n))) :
    SInv V (view (crashS x i op n)) ∧ PrevOK n ∧ (crashS x i op n).vnode i = U (x.base i) n ∧
    FilesOK (x.vlog i) (x.node i).commitIndex (C05.crashDisk (x.node i) op ra ord k).snaps ∧
    (C05.crashDisk (x.node i) op ra ord k).log.prev = (x.node i).log.prev := by
  obtain ⟨hdisk, hd, hsn, hfo⟩ := crash_disk hI hP hseg k en hne hU
  generalize C05.crashDisk (x.node i) op ra ord k = d at hn hdisk hd hsn hst hlt hfo
  obtain ⟨r1, r2, r3, r4, r5⟩ := restart_view (x.base i) d retain sor n hn
    (by rw [hd.1]; exact Nat.le_trans hP.le hsn) hd.2 hst (fun h0 he => by
      have := hlt h0 he
      rw [hd.1] at this h0 ⊢
      rw [pad_getLast_term (x.base i) (x.node i).log.entries _ h0]
      exact this)
  have hPn : U (newBase x i n.log.prev) n = U (x.base i) n := by
    have hb : newBase x i n.log.prev = pad (x.base i) (x.node i).log.prev := by
      unfold newBase Sys.vlog Sys.vnode
      rw [r2, hd.1]
      exact take_vlog (x.base i) (x.node i).log
    rw [hb, U_pad _ _ _ (by rw [r2, hd.1]) (by rw [r5]; intro pt hpt; cases hpt)]
  refine ⟨?_, ⟨by rw [r2, r3, hd.1]; exact Nat.le_trans hP.le hsn, fun rs hrs => by rw [r4] at hrs; cases hrs⟩, ?_, hfo,
    hd.1⟩
  · have hview := view_crashS x i op n _ hPn
    have ht : Snap.Trans (view x) (view (crashS x i op n)) := by
      rw [hview]
      refine Snap.Trans.crash i op ra ord src k retain sor (U (x.base i) n) (enabled_view en) hret
        (fun h => absurd h hne) ?_
      show Node.restart (C05.crashDisk (x.vnode i) op ra ord k) retain sor = _
      rw [hdisk]; exact r1
    exact inv_trans hV hI hSv ht hS'
  · rw [view_crashS_node, if_pos rfl, hPn]

theorem snapTaken_crashDisk (s : Node) (ra : List Nat) (ord : List (List Nat)) (k : Nat) :
    C05.crashDisk s .snapTaken ra ord k = s.durable ∨
    (C05.crashDisk s .snapTaken ra ord k = { s.durable with log := (s.begin ra ord).onSnapshotTaken.log.durable } ∧
      (s.begin ra ord).onSnapshotTaken.durable = { s.durable with log := (s.begin ra ord).onSnapshotTaken.log.durable }) := by
  have hc := C04Sys.crashDisk_cases s .snapTaken ra ord k
  rw [snapTaken_step_eq] at hc
  have hdur : ∀ (a b : Node), a.durTerm = b.durTerm → a.durVote = b.durVote → a.cid = b.cid → a.nid = b.nid →
      a.snapsDisk = b.snapsDisk → a.durable = { b.durable with log := a.log.durable } := by
    intro a b h1 h2 h3 h4 h5
    unfold Node.durable
    rw [h1, h2, h3, h4, h5]
  rcases onSnapshotTaken_tobs (s.begin ra ord) with h | h
  · unfold tobs at h
    simp only [Prod.mk.injEq] at h
    obtain ⟨t1, t2, t3, t4, t5, t6, t7⟩ := h
    have hd : (s.begin ra ord).onSnapshotTaken.durable = s.durable := by
      unfold Node.durable
      rw [t2, t3, t4, t5, t6, t7]; rfl
    left
    rcases hc with e | ⟨p, hp, e⟩ | e
    · exact e
    · rw [t1] at hp; cases hp
    · rw [e, hd]
  · unfold tobs at h
    simp only [Prod.mk.injEq] at h
    obtain ⟨t1, _, t3, t4, t5, t6, t7⟩ := h
    have hd := hdur (s.begin ra ord).onSnapshotTaken (s.begin ra ord) t3 t4 t5 t6 t7
    rcases hc with e | ⟨p, hp, e⟩ | e
    · exact Or.inl e
    · right
      rw [t1] at hp
      have : p = ("compactLog", { (s.begin ra ord).durable with log := (s.begin ra ord).onSnapshotTaken.log.durable }) := by
        rcases List.mem_append.mp hp with a | a
        · cases a
        · exact List.mem_singleton.mp a
      rw [e, this]
      exact ⟨rfl, hd⟩
    · right
      rw [e]
      exact ⟨hd, hd⟩

theorem crashC_op (z : Commit.Sys) (i : Nat) (N : Node) : crashC z i .snapTaken N = crashC z i (.disconnected 0) N := rfl

/-- a crash after node `i` was regrouped to `A` is the crash before, if `A` agrees on what the ledgers record -/
theorem crashC_regroup (z : Commit.Sys) (i : Nat) (op : Op) (A N : Node)
    (he : A.log.entries = (z.node i).log.entries) (ht : A.term = (z.node i).term)
    (hli : A.lastLogIndex = (z.node i).lastLogIndex) (hlt : A.lastLogTerm = (z.node i).lastLogTerm) :
    crashC (withNodes z (setNode z.rp.el.node i A)) i op N = crashC z i op N := by
  have hn : (withNodes z (setNode z.rp.el.node i A)).node i = A := setNode_same _ _ _
  have hs : setNode (withNodes z (setNode z.rp.el.node i A)).rp.el.node i N = setNode z.rp.el.node i N :=
    setNode_setNode _ _ _ _
  unfold crashC crashRp campOf
  rw [hn, he, ht, hli, hlt, hs]
  rfl

/-- **a crash at any storage point of `.snapTaken` (before or after the compaction) and the restart from a log that is
not reset**: a crash of stage 1 before the first storage point, from the view or — once the compacted log is on disk —
from the regrouped view; `hlt` as in `crash_nc` -/
theorem crash_snapTaken {V : List Nat} (hV : V.Nodup) {x : Snap2.Sys} (hI : SInv V (view x)) (hSv : SideS V (view x))
    {i : Nat} (hP : PrevOK (x.node i)) (hseg : C09.SegsOK (x.node i).log) {ra : List Nat} {ord : List (List Nat)}
    {src k retain : Nat} {sor : Bool} {n : Node} (hi : i ≠ 0) (hret : 1 ≤ retain)
    (hst : staleLog (C05.crashDisk (x.node i) .snapTaken ra ord k) = false)
    (hlt : 0 < (C05.crashDisk (x.node i) .snapTaken ra ord k).log.prev →
      (C05.crashDisk (x.node i) .snapTaken ra ord k).log.prev =
        (headSnap (C05.crashDisk (x.node i) .snapTaken ra ord k)).index →
      termAt (x.vlog i) (C05.crashDisk (x.node i) .snapTaken ra ord k).log.prev =
        (headSnap (C05.crashDisk (x.node i) .snapTaken ra ord k)).term)
    (hn : Node.restart (C05.crashDisk (x.node i) .snapTaken ra ord k) retain sor = some n)
    (hS' : SideS V (view (crashS x i .snapTaken n))) :
    SInv V (view (crashS x i .snapTaken n)) ∧ PrevOK n := by
  have hfl : (x.node i).log.prev ≤ (x.node i).log.flushed :=
    prev_le_flushed (x.base i) (hseg) (vnode_lwf hI i)
  have hhead : (x.node i).snapIndex = (headOf (x.node i).snapsDisk).index := (hI.snap i).head
  rcases snapTaken_crashDisk (x.node i) ra ord k with e | ⟨e, hdur⟩
  · -- nothing was compacted yet
    rw [e] at hn hst hlt
    obtain ⟨r1, r2, r3, r4, r5⟩ := restart_view (x.base i) (x.node i).durable retain sor n hn
      (by show (x.node i).log.prev ≤ (headOf (x.node i).snapsDisk).index; rw [← hhead]; exact hP.le)
      (durable_len _ hfl) hst
      (fun h0 he => by rw [pad_getLast_term (x.base i) (x.node i).log.entries _ h0]; exact hlt h0 he)
    have r2' : n.log.prev = (x.node i).log.prev := r2
    have hPn : U (newBase x i n.log.prev) n = U (x.base i) n := by
      have hb : newBase x i n.log.prev = pad (x.base i) (x.node i).log.prev := by
        unfold newBase Sys.vlog Sys.vnode
        rw [r2']
        exact take_vlog (x.base i) (x.node i).log
      rw [hb, U_pad _ _ _ r2' (by rw [r5]; intro pt hpt; cases hpt)]
    refine ⟨?_, ⟨by rw [r2', r3]; show _ ≤ (headOf (x.node i).snapsDisk).index; rw [← hhead]; exact hP.le,
      fun rs hrs => by rw [r4] at hrs; cases hrs⟩⟩
    have hview := view_crashS x i .snapTaken n _ hPn
    rw [crashC_op] at hview
    have ht : Snap.Trans (view x) (view (crashS x i .snapTaken n)) := by
      rw [hview]
      refine Snap.Trans.crash i (.disconnected 0) [] [] src 0 retain sor (U (x.base i) n)
        (enabled_disc0 _ hi src) hret (fun h => nomatch h) ?_
      show Node.restart (x.vnode i).durable retain sor = _
      rw [show (x.vnode i).durable = uncD (x.base i) (x.node i).durable from U_durable _]
      exact r1
    exact inv_trans hV hI (hSv) ht hS'
  · -- the compacted log is on disk
    have hpost : (x.node i).step .snapTaken ra ord = ((x.node i).begin ra ord).onSnapshotTaken := snapTaken_step_eq _ ra ord
    have hPpost : PrevOK ((x.node i).begin ra ord).onSnapshotTaken := prevOK_snapTaken (x.node i) ra ord hP hseg
    have ss := snapTaken_snapStep (x.base i) (x.node i) ra ord (hseg) (hI.snap i) (vnode_lwf hI i)
    obtain ⟨c1, c2, c3, _, _, c6, _, _⟩ := compact_cases ((x.node i).begin ra ord) (hseg)
    have hq := onSnapshotTaken_qobs ((x.node i).begin ra ord)
    unfold qobs at hq
    simp only [Prod.mk.injEq] at hq
    obtain ⟨_, _, ⟨s1, _, s3⟩, _⟩ := hq
    rw [e] at hn hst hlt
    have hent0 := vlog_keep (x.base i) (x.node i).log ((x.node i).begin ra ord).onSnapshotTaken.log c1 c2 c3
    generalize hpo : ((x.node i).begin ra ord).onSnapshotTaken = post at *
    have s1' : post.snapIndex = (x.node i).snapIndex := s1
    have s3' : post.snapsDisk = (x.node i).snapsDisk := s3
    generalize hb' : (uncLog (x.base i) (x.node i).log).entries.take post.log.prev = β' at ss hent0
    have hlwf : C06.LogWF (uncLog β' post.log) := ss.feq.lwf (vnode_lwf hI i)
    have hflp : post.log.prev ≤ post.log.flushed := prev_le_flushed β' c6 hlwf
    have hlt' : 0 < post.log.prev → post.log.prev = (headOf (x.node i).snapsDisk).index →
        (((pad β' post.log.prev).getLast?).map (·.term)).getD 0 = (headOf (x.node i).snapsDisk).term := by
      intro h0 he
      rw [pad_getLast_term β' post.log.entries _ h0]
      have hent1 : pad β' post.log.prev ++ post.log.entries = x.vlog i := hent0
      rw [hent1]
      exact hlt h0 he
    obtain ⟨r1, r2, r3, r4, r5⟩ := restart_view β' { (x.node i).durable with log := post.log.durable } retain sor n hn
      (by show post.log.prev ≤ (headOf (x.node i).snapsDisk).index; rw [← hhead, ← s1']; exact hPpost.le)
      (durable_len post hflp) hst hlt'
    have r2' : n.log.prev = post.log.prev := r2
    have hPn : U (newBase x i n.log.prev) n = U β' n := by
      unfold newBase Sys.vlog Sys.vnode
      rw [r2']
      show U ((uncLog (x.base i) (x.node i).log).entries.take post.log.prev) n = _
      rw [hb']
    refine ⟨?_, ⟨by rw [r2', r3]; show _ ≤ (headOf (x.node i).snapsDisk).index; rw [← hhead, ← s1']; exact hPpost.le,
      fun rs hrs => by rw [r4] at hrs; cases hrs⟩⟩
    have hview := view_crashS x i .snapTaken n _ hPn
    have hI' := sinv_regroup hI ss
    have pe := ss.feq
    have le := lfieldEq_of_lobs ss.lobs
    have hSr : SideS V { cs := withNodes (view x).cs (setNode (view x).cs.rp.el.node i (U β' post))
                         snaps := newSnaps i ((view x).node i).snapsDisk (U β' post).snapsDisk ++ (view x).snaps } := by
      refine sideS_replace hSv (i := i) (fun j hj => setNode_other _ _ _ _ hj) ?_
      show SideN V (setNode (view x).cs.rp.el.node i (U β' post) i)
      rw [setNode_same]
      exact (sideS_node hSv i).congr le.configs rfl pe.entries
    have ht : Snap.Trans
        { cs := withNodes (view x).cs (setNode (view x).cs.rp.el.node i (U β' post))
          snaps := newSnaps i ((view x).node i).snapsDisk (U β' post).snapsDisk ++ (view x).snaps }
        (view (crashS x i .snapTaken n)) := by
      have hcs : crashC (withNodes (view x).cs (setNode (view x).cs.rp.el.node i (U β' post))) i (.disconnected 0) (U β' n) =
          crashC (view x).cs i .snapTaken (U β' n) := by
        rw [crashC_op]
        exact crashC_regroup (view x).cs i (.disconnected 0) (U β' post) (U β' n) pe.entries pe.term pe.lastLogIndex
          pe.lastLogTerm
      have hsn : newSnaps i (x.vnode i).snapsDisk (U β' n).snapsDisk ++ (view x).snaps =
          newSnaps i (U β' post).snapsDisk (U β' n).snapsDisk ++
            (newSnaps i ((view x).node i).snapsDisk (U β' post).snapsDisk ++ (view x).snaps) := by
        show newSnaps i (x.node i).snapsDisk n.snapsDisk ++ x.snaps =
          newSnaps i post.snapsDisk n.snapsDisk ++ (newSnaps i (x.node i).snapsDisk post.snapsDisk ++ x.snaps)
        rw [s3', newSnaps_same, List.nil_append]
      rw [hview, ← hcs, hsn]
      have hXi : Snap.Sys.node
          { cs := withNodes (view x).cs (setNode (view x).cs.rp.el.node i (U β' post))
            snaps := newSnaps i ((view x).node i).snapsDisk (U β' post).snapsDisk ++ (view x).snaps } i = U β' post :=
        setNode_same _ _ _
      have key := Snap.Trans.crash
        (x := { cs := withNodes (view x).cs (setNode (view x).cs.rp.el.node i (U β' post))
                snaps := newSnaps i ((view x).node i).snapsDisk (U β' post).snapsDisk ++ (view x).snaps })
        i (.disconnected 0) [] [] src 0 retain sor (U β' n) (enabled_disc0 _ hi src) hret (fun h => nomatch h) (by
          rw [hXi]
          show Node.restart (U β' post).durable retain sor = _
          rw [show (U β' post).durable = uncD β' post.durable from U_durable _]
          rw [show post.durable = { (x.node i).durable with log := post.log.durable } from hdur]
          exact r1)
      rw [hXi] at key
      exact key
    exact inv_trans hV hI' hSr ht hS'

/-- **the invariant of the cluster with compaction**: the invariant of stage 1 for the cluster of the virtual nodes, and
on the real nodes the log starts at or below the snapshot index -/
structure Inv2 (V : List Nat) (x : Snap2.Sys) : Prop where
  sinv : SInv V (view x)
  prev : ∀ i, PrevOK (x.node i)

theorem vlog_length2 (x : Snap2.Sys) (i : Nat) : (x.vlog i).length = (x.node i).log.last := by
  show (pad (x.base i) (x.node i).log.prev ++ (x.node i).log.entries).length = _
  rw [List.length_append, pad_length]; rfl

/-- what the real log still holds is what the virtual log holds there -/
theorem get_virtual (x : Snap2.Sys) (i k : Nat) (h : (x.node i).log.prev < k) :
    (x.node i).log.get? k = (x.vnode i).log.get? k := (U_get? (x.node i) k h).symm

/-- the virtual log: `Log.Get(k)` of the virtual node is entry number `k - 1` of `vlog` -/
theorem vget (x : Snap2.Sys) (i k : Nat) (hk : 1 ≤ k) : (x.vnode i).log.get? k = (x.vlog i)[k - 1]? := by
  rw [NLog.get?_prev0 _ rfl, if_pos (show 0 < k from hk)]; rfl

/-- the term the real log answers with is the term of the virtual log -/
theorem entryTerm_virtual (x : Snap2.Sys) (i k : Nat) (h : (x.node i).log.prev < k) :
    (x.node i).entryTerm? k = ((x.vlog i)[k - 1]?).map (·.term) := by
  unfold Node.entryTerm?
  rw [get_virtual x i k h, vget x i k (by omega)]

theorem stepS_node_i (x : Snap2.Sys) (i : Nat) (op : Op) (ra : List Nat) (ord : List (List Nat)) (src : Nat) :
    (stepS x i op ra ord src).node i = (x.node i).step op ra ord := setNode_same _ _ _

theorem nodes_stepS {P : Node → Prop} {x : Snap2.Sys} {i : Nat} {op : Op} {ra : List Nat} {ord : List (List Nat)}
    {src : Nat} (hx : ∀ j, P (x.node j)) (hp : P ((x.node i).step op ra ord)) (j : Nat) :
    P ((stepS x i op ra ord src).node j) :=
  NodeSys.forall_setNode (P := fun _ => P) hp (fun j _ => hx j) j

theorem nodes_crashS {P : Node → Prop} {x : Snap2.Sys} {i : Nat} {op : Op} {n : Node} (hx : ∀ j, P (x.node j))
    (hp : P n) (j : Nat) : P ((crashS x i op n).node j) :=
  NodeSys.forall_setNode (P := fun _ => P) hp (fun j _ => hx j) j

theorem inv2_trans {V : List Nat} (hV : V.Nodup) {x y : Snap2.Sys} (hI : Inv2 V x) (hS : Side2 V x)
    (ht : Snap2.Trans x y) (hS' : Side2 V y) : Inv2 V y := by
  cases ht with
  | step i op ra ord src en hp =>
    have key : SInv V (view (stepS x i op ra ord src)) ∧ PrevOK ((x.node i).step op ra ord) := by
      by_cases hsn : op = .snapTaken
      · subst hsn
        have h := step_snapTaken hV hI.sinv (sideS_view hS) (hI.prev i) (hS.segs i) (ra := ra) (ord := ord)
          (src := src) en.id
        exact ⟨h.1, h.2.1⟩
      · have h := step_nc hV hI.sinv hI.prev (sideS_view hS) (hS.segs i) en hp hsn
          (vnode_step (aok_of (hI.prev i) (hS.segs i) (hS.gap i)) en hp hsn) (sideS_view hS')
        exact ⟨h.1, h.2.1⟩
    exact ⟨key.1, nodes_stepS hI.prev key.2⟩
  | crash i op ra ord src k retain sor n en hret hp hn =>
    have hgap : n.log.prev = 0 ∨ n.log.prev ≠ n.snapIndex := by
      have := hS'.gap i
      rw [crashS_node_i] at this
      exact this
    have hst := notstale_of_gap _ retain sor n hn hgap
    have hno : ∀ {P : Prop}, 0 < (C05.crashDisk (x.node i) op ra ord k).log.prev →
        (C05.crashDisk (x.node i) op ra ord k).log.prev = (headSnap (C05.crashDisk (x.node i) op ra ord k)).index →
        P := fun h0 he => by
      rcases gap_of_restart _ retain sor n hn hgap with h | h
      · omega
      · exact absurd he h
    have key : SInv V (view (crashS x i op n)) ∧ PrevOK n := by
      by_cases hsn : op = .snapTaken
      · subst hsn
        exact crash_snapTaken (src := src) hV hI.sinv (sideS_view hS) (hI.prev i) (hS.segs i) en.id hret hst
          (fun h0 he => hno h0 he) hn (sideS_view hS')
      · have h := crash_nc hV hI.sinv (sideS_view hS) (hI.prev i) (hS.segs i) en hret hsn
          (vnode_step (aok_of (hI.prev i) (hS.segs i) (hS.gap i)) en hp hsn) hst (fun h0 he => hno h0 he) hn
          (sideS_view hS')
        exact ⟨h.1, h.2.1⟩
    exact ⟨key.1, nodes_crashS hI.prev key.2⟩
  | send i q hi hl hr hc =>
    refine ⟨?_, hI.prev⟩
    have ht : Snap.Trans (view x) (view { x with cs := sendC x.cs q }) :=
      Snap.Trans.send (x := view x) i q hi hl hr.read hc
    exact inv_trans hV hI.sinv (sideS_view hS) ht (sideS_view hS')

theorem inv2_reachable {V : List Nat} (hV : V.Nodup) {x : Snap2.Sys} (h : Reachable2 V x) : Inv2 V x ∧ Side2 V x := by
  induction h with
  | init x hi hs =>
    exact ⟨⟨sinv_init hi.init, fun i => ⟨by rw [hi.prev i]; exact Nat.zero_le _,
      fun rs hrs => by rw [hi.result i] at hrs; cases hrs⟩⟩, hs⟩
  | next x y _ ht hs ih => exact ⟨inv2_trans hV ih.1 ih.2 ht hs, hs⟩

end SnapInv2
end Raft
