/-
Node-level facts for the cluster-level membership proofs (Sys/Member.lean, Props/C08Sys.lean).

* `cand_configs`: a node that is CANDIDATE after a step (any operation of the no-snapshot model, any oracle) has the
  configurations it had before the step — a candidate never touches `configs`: the handlers that write them
  (`onAppendEntries`, the leader block) leave the node follower or leader. Hence the configuration whose voters a
  candidate asked for their vote (`candidate.startElection`: `configs.latest` at that moment) is still its latest
  configuration when it counts the responses.
-/
import RaftVerif.Lemmas.LogRel
import RaftVerif.Props.C01Sys
import RaftVerif.Lemmas.Shape

namespace Raft
namespace MemberRel
open Node LogRel

theorem cfgQuiet (C : Configs) (op : Op) : QuietClosed op (fun x : Node => x.configs = C) where
  panic := fun s site h => (SameKey.panic s site).configs.trans h
  setRole := fun _ _ h _ => h
  setLeader := fun _ _ h => h
  ret := fun _ _ h => h
  rpcReply := fun _ _ h => h
  votesNeeded := fun _ _ h => h
  candTransfer := fun _ _ h => h
  setTerm := fun s t h => by rw [Node.setTerm_shape]; exact h
  vote := fun s t c h _ => by rw [Node.setVotedFor_shape]; exact h
  reply := fun s t r h => (SameKey.reply s t r).configs.trans h
  snapPending := fun _ _ h => h

theorem down_not_cand {b h : Node} (hd : Down b h) (hb : b.role ≠ .candidate) : h.role ≠ .candidate := by
  rcases hd.2.2 with ⟨a, _, _⟩ | a
  · rw [a]; exact hb
  · rw [a]; decide

theorem handle_cand_configs (b : Node) (op : Op) (hboot : b.configs.isBootstrapped = true) (hok : OpOK op)
    (hc : (b.handle op).role = .candidate) : (b.handle op).configs = b.configs := by
  cases handle_kind b op with
  | quiet q => exact q _ (cfgQuiet b.configs op) rfl
  | ldr hr c =>
    -- a leader's handler never returns a candidate
    have G := down_closed b
    have D0 := Down.refl b
    generalize b.handle op = h at c hc ⊢
    have hd : Down b h := by
      cases c with
      | store batch => exact G.storeEntry_g _ _ _ D0
      | change t c => exact G.onChangeConfig_g _ _ _ D0
      | wait t => exact G.onWaitForStable_g _ _ D0
      | transfer t g => exact G.onTransfer_g _ _ _ D0
      | transferTimeout _ => exact G.replyTransfer_g _ _ D0
      | timeoutNowResult a c d _ => exact G.onTimeoutNowResult_g _ _ _ _ D0
      | newTermTimeout _ => exact G.tryTransfer_g _ (G.ldr _ _ D0)
      | repl us => exact G.checkReplUpdates_g _ _ D0
    exact absurd hc (down_not_cand hd (by rw [hr]; decide))
  | special sp =>
    cases sp with
    | append q =>
      refine (SameKey.rpcDone _ _ _).configs.trans ?_
      by_cases hq : q.term < b.term
      · rw [C04.stale_append_refused b q hq]; rfl
      · have hr : (b.handle (.append q)).role = .follower :=
          (SameKey.rpcDone _ _ _).role.trans (onAppendEntries_role b q hq)
        rw [hr] at hc
        cases hc
    | bootstrap t c _ hn => rw [hboot] at hn; cases hn
    | _ => exact absurd hok (by simp [OpOK])

theorem settle_cand_configs (n : Nat) (h : Node) (cur : Role) (hc : (settle (n + 3) h cur).role = .candidate) :
    h.role = .candidate ∧ (settle (n + 3) h cur).configs = h.configs := by
  by_cases hne : h.role = cur
  · have e : settle (n + 3) h cur = h := settle_of_role hne
    rw [e] at hc ⊢
    exact ⟨hc, rfl⟩
  · cases settle_shape n h cur hne with
    | follower r e =>
      rw [e, (SameKey.releaseRole _ _).role, r] at hc; cases hc
    | leader x r _ e =>
      rcases e with ⟨a, e⟩ | ⟨a, e⟩
      · rw [e, a] at hc; cases hc
      · rw [e, (SameKey.releaseRole _ _).role, a] at hc; cases hc
    | cand r e _ =>
      refine ⟨r, ?_⟩
      rw [e, (startElection_spec _).2.2.2.1, (SameKey.releaseRole _ _).configs]
    | candLeader x r _ _ e =>
      rcases e with ⟨a, e⟩ | ⟨a, e⟩
      · rw [e, a] at hc; cases hc
      · rw [e, (SameKey.releaseRole _ _).role, a] at hc; cases hc

theorem cand_configs (s : Node) (op : Op) (ra : List Nat) (ord : List (List Nat))
    (hboot : s.configs.isBootstrapped = true) (hok : OpOK op) (hc : (s.step op ra ord).role = .candidate) :
    (s.step op ra ord).configs = s.configs := by
  have hsd : op ≠ .shutdown := by
    intro e; subst e; exact absurd hok (by simp [OpOK])
  rw [step_settle s op ra ord hsd] at hc ⊢
  obtain ⟨h1, h2⟩ := settle_cand_configs 3 _ _ hc
  rw [h2]
  exact handle_cand_configs (s.begin ra ord) op hboot hok h1

/-- EXAMPLE: the bootstrapped follower `C01Sys.exNode 1` (voters 1, 2, 3) times out; it is candidate afterwards and its
configurations are unchanged -/
example : ((C01Sys.exNode 1).step .timeout [] []).role = .candidate ∧
    ((C01Sys.exNode 1).step .timeout [] []).configs = (C01Sys.exNode 1).configs :=
  ⟨by decide, cand_configs (C01Sys.exNode 1) .timeout [] [] rfl trivial (by decide)⟩

end MemberRel
end Raft

#print axioms Raft.MemberRel.cand_configs
