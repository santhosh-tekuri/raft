/-
The vocabulary of the log theorems: the ledger of created entries and paths in it (`CEntry`, `Chain`), the term at an
index of a list of entries (`termAt`, `lastTerm`, `endO`), and the node states in which no snapshot was ever taken or
installed and the log was never compacted (`NWF`: entry number k has index k + 1); what `append`, `commitN` and `removeGTE`
do to the entries of a log and to `C06.LogWF`. The names are in the namespaces `LogRel` and `CommitRel` of their users.
-/
import RaftVerif.Props.C06

namespace Raft
namespace LogRel
open Node

/-- A created entry: the entry, the term of its predecessor (0 for index 1), and the node that created it
(0: the entry was in the initial logs). -/
structure CEntry where
  e : Entry
  pt : Nat
  cr : Nat
  deriving DecidableEq, Repr

/-- `es` is a path in `T`: every entry is recorded in `T` with the term of the entry before it; for the first
entry the predecessor term must be `pt` if `o = some pt` and is unconstrained if `o = none`. -/
def Chain (T : List CEntry) : Option Nat → List Entry → Prop
  | _, [] => True
  | o, e :: es => (∃ c ∈ T, c.e = e ∧ (∀ pt, o = some pt → c.pt = pt)) ∧ Chain T (some e.term) es

/-- term of the last entry (0 for the empty list) -/
def lastTerm (es : List Entry) : Nat := (es.getLast?.map (·.term)).getD 0

/-- the predecessor term seen by an entry appended after `es` (which itself is attached to `o`) -/
def endO (o : Option Nat) (es : List Entry) : Option Nat :=
  match es.getLast? with
  | some e => some e.term
  | none => o

/-- term of the entry with index `i` in a contiguous list starting at index 1 (0 for index 0 or beyond) -/
def termAt (es : List Entry) (i : Nat) : Nat := if i = 0 then 0 else ((es[i - 1]?).map (·.term)).getD 0

theorem Chain.mono {T T' : List CEntry} (h : ∀ c ∈ T, c ∈ T') : ∀ {o : Option Nat} {es : List Entry},
    Chain T o es → Chain T' o es := by
  intro o es
  induction es generalizing o with
  | nil => intro _; trivial
  | cons e es ih =>
    intro hc
    obtain ⟨⟨c, hm, h1, h2⟩, h3⟩ := hc
    exact ⟨⟨c, h _ hm, h1, h2⟩, ih h3⟩

theorem Chain.weaken {T : List CEntry} {o : Option Nat} {es : List Entry} (h : Chain T o es) :
    Chain T none es := by
  cases es with
  | nil => trivial
  | cons e es =>
    obtain ⟨⟨c, hm, h1, _⟩, h3⟩ := h
    exact ⟨⟨c, hm, h1, fun pt hp => by cases hp⟩, h3⟩

theorem endO_append_singleton (o : Option Nat) (es : List Entry) (e : Entry) :
    endO o (es ++ [e]) = some e.term := by
  unfold endO; simp

theorem endO_nil (o : Option Nat) : endO o [] = o := rfl

theorem endO_cons (o : Option Nat) (e : Entry) (es : List Entry) : endO o (e :: es) = endO (some e.term) es := by
  unfold endO
  cases es with
  | nil => simp
  | cons x xs =>
    rw [List.getLast?_cons_cons]
    cases h : (x :: xs).getLast? with
    | none => simp at h
    | some y => rfl

theorem chain_append {T : List CEntry} : ∀ {o : Option Nat} {a b : List Entry},
    Chain T o (a ++ b) ↔ Chain T o a ∧ Chain T (endO o a) b := by
  intro o a
  induction a generalizing o with
  | nil => intro b; simp [Chain, endO_nil]
  | cons e es ih =>
    intro b
    rw [List.cons_append, endO_cons]
    constructor
    · intro h
      obtain ⟨h1, h2⟩ := h
      obtain ⟨h3, h4⟩ := ih.mp h2
      exact ⟨⟨h1, h3⟩, h4⟩
    · intro h
      obtain ⟨⟨h1, h3⟩, h4⟩ := h
      exact ⟨h1, ih.mpr ⟨h3, h4⟩⟩

theorem Chain.prefix {T : List CEntry} {o : Option Nat} {l es : List Entry} (h : Chain T o es) (hp : l <+: es) :
    Chain T o l := by
  obtain ⟨r, hr⟩ := hp
  rw [← hr] at h
  exact (chain_append.mp h).1

theorem Chain.take {T : List CEntry} {o : Option Nat} {es : List Entry} (h : Chain T o es) (n : Nat) :
    Chain T o (es.take n) := h.prefix (List.take_prefix n es)

theorem lastTerm_append_singleton (es : List Entry) (e : Entry) : lastTerm (es ++ [e]) = e.term := by
  unfold lastTerm; simp

theorem lastTerm_nil : lastTerm [] = 0 := rfl

theorem endO_none_eq (es : List Entry) (h : es ≠ []) : endO none es = some (lastTerm es) := by
  unfold endO lastTerm
  cases hl : es.getLast? with
  | none => exact absurd (List.getLast?_eq_none_iff.mp hl) h
  | some e => simp

theorem termAt_length (es : List Entry) : termAt es es.length = lastTerm es := by
  unfold termAt lastTerm
  split
  · rename_i h
    have : es = [] := List.eq_nil_of_length_eq_zero h
    subst this; rfl
  · rw [List.getLast?_eq_getElem?]

theorem termAt_take (es : List Entry) (n i : Nat) (h : i ≤ n) : termAt (es.take n) i = termAt es i := by
  unfold termAt
  split
  · rfl
  · rw [List.getElem?_take_of_lt (by omega)]

theorem termAt_append_left (es r : List Entry) (i : Nat) (h : i ≤ es.length) : termAt (es ++ r) i = termAt es i := by
  unfold termAt
  split
  · rfl
  · rw [List.getElem?_append_left (by omega)]

theorem lastTerm_take (es : List Entry) (n : Nat) (h : n ≤ es.length) : lastTerm (es.take n) = termAt es n := by
  have hl : (es.take n).length = n := by rw [List.length_take]; omega
  have := termAt_length (es.take n)
  rw [hl] at this
  rw [← this, termAt_take es n n (Nat.le_refl _)]

theorem endO_take (o : Option Nat) (es : List Entry) (n : Nat) (h1 : 1 ≤ n) (h : n ≤ es.length) :
    endO o (es.take n) = some (termAt es n) := by
  have hne : es.take n ≠ [] := by
    intro he
    have := congrArg List.length he
    simp only [List.length_take, List.length_nil] at this
    omega
  have : endO o (es.take n) = endO none (es.take n) := by
    unfold endO
    cases hl : (es.take n).getLast? with
    | none => exact absurd (List.getLast?_eq_none_iff.mp hl) hne
    | some e => rfl
  rw [this, endO_none_eq _ hne, lastTerm_take es n h]

/-- No snapshot was taken, the log starts at index 1, entry number k has index k+1 and the cached
coordinates of the last entry are right. -/
structure NWF (s : Node) : Prop where
  snapIndex : s.snapIndex = 0
  snaps : s.snapsDisk = []
  prev : s.log.prev = 0
  contig : ∀ k (h : k < s.log.entries.length), s.log.entries[k].index = k + 1
  last : s.lastLogIndex = s.log.entries.length
  lastT : s.lastLogTerm = lastTerm s.log.entries

theorem nwf_congr {s s' : Node} (h : NWF s) (e1 : s'.log = s.log) (e2 : s'.lastLogIndex = s.lastLogIndex)
    (e3 : s'.lastLogTerm = s.lastLogTerm) (e4 : s'.snapIndex = s.snapIndex) (e5 : s'.snapsDisk = s.snapsDisk) :
    NWF s' := by
  obtain ⟨a, b, c, d, e, f⟩ := h
  refine ⟨by rw [e4]; exact a, by rw [e5]; exact b, by rw [e1]; exact c, ?_, by rw [e2, e1]; exact e,
    by rw [e3, e1]; exact f⟩
  rw [e1]; exact d

/-- an update of the log that keeps its start and its entries (`commitN`) -/
theorem nwf_same_entries {s s' : Node} (h : NWF s) (e1 : s'.log.prev = s.log.prev) (e2 : s'.log.entries = s.log.entries)
    (e3 : s'.lastLogIndex = s.lastLogIndex) (e4 : s'.lastLogTerm = s.lastLogTerm) (e5 : s'.snapIndex = s.snapIndex)
    (e6 : s'.snapsDisk = s.snapsDisk) : NWF s' :=
  ⟨e5.trans h.snapIndex, e6.trans h.snaps, e1.trans h.prev, by rw [e2]; exact h.contig, by rw [e3, e2]; exact h.last,
    by rw [e4, e2]; exact h.lastT⟩

theorem NWF.get? {s : Node} (h : NWF s) (i : Nat) : s.log.get? i = if 0 < i then s.log.entries[i - 1]? else none :=
  NLog.get?_prev0 _ h.prev i

theorem NWF.entryTerm {s : Node} (h : NWF s) (i : Nat) (h1 : 1 ≤ i) (h2 : i ≤ s.log.entries.length) :
    s.entryTerm? i = some (termAt s.log.entries i) := by
  unfold Node.entryTerm?
  rw [h.get?, if_pos (by omega)]
  unfold termAt
  rw [if_neg (by omega)]
  have : i - 1 < s.log.entries.length := by omega
  rw [List.getElem?_eq_getElem this]
  rfl

theorem contig_append {es : List Entry} (hc : ∀ k (h : k < es.length), es[k].index = k + 1) (e : Entry)
    (he : e.index = es.length + 1) : ∀ k (h : k < (es ++ [e]).length), (es ++ [e])[k].index = k + 1 := by
  intro k h
  by_cases hk : k < es.length
  · rw [List.getElem_append_left hk]; exact hc k hk
  · have : k = es.length := by simp at h; omega
    subst this
    simp [he]

theorem contig_take {es : List Entry} (hc : ∀ k (h : k < es.length), es[k].index = k + 1) (n : Nat) :
    ∀ k (h : k < (es.take n).length), (es.take n)[k].index = k + 1 := by
  intro k h
  rw [List.getElem_take]
  exact hc k (by rw [List.length_take] at h; omega)

theorem contig_prefix {l es : List Entry} (hc : ∀ k (h : k < es.length), es[k].index = k + 1) (hp : l <+: es) :
    ∀ k (h : k < l.length), l[k].index = k + 1 := by
  obtain ⟨r, hr⟩ := hp
  intro k h
  have := hc k (by rw [← hr, List.length_append]; omega)
  simp only [← hr] at this
  rw [List.getElem_append_left h] at this
  exact this

theorem append_parts (l : NLog) (e : Entry) (roll : Bool) :
    (l.append e roll).prev = l.prev ∧ (l.append e roll).entries = l.entries ++ [e] := NLog.append_parts l e roll

theorem commitN_parts (l : NLog) (n : Nat) :
    (l.commitN n).prev = l.prev ∧ (l.commitN n).entries = l.entries :=
  ⟨(NLog.commitN_same l n).1, (NLog.commitN_same l n).2.1⟩

end LogRel

namespace CommitRel

theorem logwf_append (l : NLog) (e : Entry) (roll : Bool) (h : C06.LogWF l) :
    C06.LogWF (l.append e roll) ∧ l.flushed ≤ (l.append e roll).flushed := by
  obtain ⟨h1, h2⟩ := h
  unfold NLog.append
  split
  · refine ⟨⟨?_, ?_⟩, h2⟩
    · show (NLog.lastSegPrev _) ≤ l.last
      unfold NLog.lastSegPrev
      simp
    · show l.last ≤ NLog.last _
      unfold NLog.last
      simp
  · refine ⟨⟨h1, ?_⟩, Nat.le_refl _⟩
    show l.flushed ≤ NLog.last _
    unfold NLog.last at *
    simp only [List.length_append, List.length_singleton]
    omega

theorem logwf_commitN (l : NLog) (n : Nat) (h : C06.LogWF l) :
    C06.LogWF (l.commitN n) ∧ l.flushed ≤ (l.commitN n).flushed ∧ min n l.last ≤ (l.commitN n).flushed := by
  obtain ⟨h1, h2⟩ := h
  unfold NLog.commitN
  split
  · exact ⟨⟨Nat.le_trans h1 h2, Nat.le_refl _⟩, h2, Nat.min_le_right _ _⟩
  · exact ⟨⟨h1, h2⟩, Nat.le_refl _, by omega⟩

theorem logwf_removeGTE (l : NLog) (i : Nat) (hp : l.prev = 0) (h1 : 1 ≤ i) (h2 : i ≤ l.entries.length) :
    C06.LogWF (l.removeGTE i) ∧ (l.removeGTE i).flushed = i - 1 ∧ (l.removeGTE i).prev = 0 ∧
    (l.removeGTE i).entries = l.entries.take (i - 1) := by
  unfold NLog.removeGTE
  dsimp only
  refine ⟨⟨?_, ?_⟩, rfl, hp, by rw [hp, Nat.sub_zero]⟩
  · unfold NLog.lastSegPrev
    dsimp only
    split
    · simp
    · rename_i hne
      cases hl : (l.segs.filter (· < i - 1)).getLast? with
      | none =>
        have := List.getLast?_eq_none_iff.mp hl
        rw [this] at hne; simp at hne
      | some x =>
        have hm := List.mem_of_getLast? hl
        have := (List.mem_filter.mp hm).2
        simp only [Option.getD_some]
        have : x < i - 1 := by simpa using this
        omega
  · unfold NLog.last
    dsimp only
    rw [hp, List.length_take]
    omega

end CommitRel
end Raft
