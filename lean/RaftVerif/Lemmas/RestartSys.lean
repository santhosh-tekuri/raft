/-
C10 on the cluster-level systems WITH snapshots (Sys/Snap3.lean, Sys/Snap4.lean).

The hypotheses of the per-node crash theorem `C12Crash.tracks_after_crash_at_any_point_partial` are discharged inside the
system: every configuration entry of every append request on the wire decodes (`sentDec_reach3`, `sentDec_reach6`: a request is
read from a leader's virtual log, whose configuration entries decode, `Snap.CfgDec`), every node with a cluster id of every state
reachable in `Raft.Snap4` satisfies `C12Crash.CrashInv` (`crashInv_node4`), an enabled operation satisfies `TrackCrash.ReqDec`
(`reqDec_enabled`) — hence `restart_some_snap4`. `Restarted s d n` is what C10 promises of the node restarted from a crash image
(per node); `CrashOf x i n y` the crash transitions of `Raft.Snap4`; `grant_honoured3`, `ack_held3` what every reachable state
keeps of granted votes and acknowledged entries.

The same on the system WITH MEMBERSHIP CHANGES (Sys/Member.lean, runs of `C08Member.ReachableR`): `restarted_member` (at every
crash point of every step `MemberSide.TransR` admits, for a node that tracks and has a cluster id), `tracks_transR` /
`tracks_runR` (`C12Track.Tracks` on every node is preserved by every transition), `grants_runR`.
-/
import RaftVerif.Lemmas.SnapCut
import RaftVerif.Props.C12Crash
import RaftVerif.Lemmas.MemberDurableRun

namespace Raft
namespace RestartSys
open Node Election LogRel Replication CommitRel Commit C02Sys C03Sys SnapRel SnapRelU SnapSim Snap Snap2 SnapInv SnapInv2
open SnapInst SnapInstU Snap3 SnapInst3 Snap4 SnapInst4 Snap6 TrackCrash

section
variable {V : List Nat}

def SentDec (x : Snap3.Sys) : Prop := ∀ q ∈ x.s2.cs.rp.sent, EntriesDec q.entries

theorem sentDec_send {x : Snap3.Sys} (h : SentDec x) (hd : CfgDec (view x.s2).cs) (i : Nat) (q : AppendReq)
    (hr : ReadFrom2 (x.node i) (x.vnode i) q) :
    SentDec { x with s2 := { x.s2 with cs := sendC x.s2.cs q } } := by
  intro q' hq'
  have hq'' : q' ∈ q :: x.s2.cs.rp.sent := hq'
  rcases List.mem_cons.mp hq'' with rfl | hm
  · obtain ⟨n, hn⟩ := hr.read.entries
    intro ne hne ht
    rw [hn] at hne
    exact hd i ne (List.mem_of_mem_drop (List.mem_of_mem_take hne)) ht
  · exact h q' hm

theorem sentDec_reach6 {x : Snap3.Sys} (h : Reachable6 V x) : SentDec x := by
  induction h with
  | init x hi hs =>
    intro q hq
    have : x.s2.cs.rp.sent = [] := hi.init.init.cs.rp.sent
    rw [this] at hq; cases hq
  | next x y hx ht hs ih =>
    have hsx : Side3 V x := by
      cases hx with
      | init _ _ hs' => exact hs'
      | next _ _ _ _ hs' => exact hs'
    cases ht with
    | step i op ra ord src en hp htt => exact ih
    | crash i op ra ord src k retain sor n en hret hp htt hn => exact ih
    | send i q hi hl hr hc => exact sentDec_send ih hsx.dec i q hr
    | sendSnap i q hi hl hr => exact ih
    | install i m ra ord hi hm hp => exact ih
    | crashInstall i m ra ord k retain sor n hi hm hret hp hn => exact ih

theorem sentDec_reach3 (hV : V.Nodup) {x : Snap3.Sys} (h : Reachable3 V x) : SentDec x :=
  sentDec_reach6 (SnapCut.reach3_reach6 hV h)

theorem logDec_real {x : Snap3.Sys} (hS : Side3 V x) (i : Nat) : NoPanic.LogDec (x.node i).log.entries := by
  intro e he ht
  refine hS.dec i e ?_ ht
  show e ∈ x.vlog i
  rw [vlog_def]
  exact List.mem_append_right _ he

theorem crashInv_node4 (hV : V.Nodup) {x : Snap3.Sys} (h : Reachable4 V x) (i : Nat) (hi : i ≠ 0)
    (hcid : (x.node i).cid ≠ 0) : C12Crash.CrashInv (x.node i) := by
  obtain ⟨r3, i4, s4⟩ := reach4 hV h
  have hI := (inv3_reachable hV r3).1
  have hnid : (x.node i).nid = i := (hI.sinv.cinv.rp.el.ids i).1
  exact ⟨i4.tracks i, i4.ord i, ⟨lwf_real hI i, s4.lab i, logDec_real s4.side i⟩, hcid, by rw [hnid]; exact hi⟩

theorem reqDec_enabled {x : Snap3.Sys} (hD : SentDec x) {i : Nat} {op : Op} {src : Nat}
    (en : Snap.Enabled x.s2.cs i op src) : ReqDec (x.node i) op := by
  cases op with
  | append q =>
    show q.term < (x.node i).term ∨ EntriesDec q.entries
    rcases en.append q rfl with h | h
    · exact Or.inl h
    · exact Or.inr (hD q h)
  | _ => trivial

/-- **the restart from every crash image of every enabled step succeeds** (`Raft.Snap4`) and yields a node that tracks,
is ordered, takes its configurations from the log on disk above the snapshot (else the snapshot's label), and satisfies
`CrashInv` again. `SnapFbOp`: see `C12Crash` (a condition on `.snapRun` only). -/
theorem restart_some_snap4 (hV : V.Nodup) {x : Snap3.Sys} (h : Reachable4 V x) {i : Nat} {op : Op} {src : Nat}
    (ra : List Nat) (ord : List (List Nat)) (en : Snap.Enabled x.s2.cs i op src)
    (hp : ((x.node i).step op ra ord).panicked = none) (hfb : SnapFbOp (x.node i) op) (hcid : (x.node i).cid ≠ 0)
    (k r : Nat) (hr : 1 ≤ r) (sor : Bool) :
    ∃ n, Node.restart (C05.crashDisk (x.node i) op ra ord k) r sor = some n ∧
      C12Track.Tracks n ∧ Order.Ordered n ∧
      n.configs.latest = ((C10.configsAbove (C05.crashDisk (x.node i) op ra ord k))[0]?).getD
        (C10.snapOf (C05.crashDisk (x.node i) op ra ord k)).config ∧
      n.configs.committed = ((C10.configsAbove (C05.crashDisk (x.node i) op ra ord k))[1]?).getD
        (C10.snapOf (C05.crashDisk (x.node i) op ra ord k)).config ∧
      C19Latest.LatestIsNewest n ∧ C12Crash.CrashInv n := by
  obtain ⟨r3, _, s4⟩ := reach4 hV h
  have hI := (inv3_reachable hV r3).1
  exact C12Crash.tracks_after_crash_at_any_point_partial (x.node i) op ra ord k r sor
    (crashInv_node4 hV h i en.id hcid) (reqOk_old hI en (s4.cfg i)) (reqDec_enabled (sentDec_reach3 hV r3) en) hfb hp hr

/-- the same for a crash at any storage point of the install handler (no further hypothesis: an install request that is
not stale is one of the ledger, whose label its snapshot covers) -/
theorem restart_some_install4 (hV : V.Nodup) {x : Snap3.Sys} (h : Reachable4 V x) {i : Nat} (m : SnapMsg)
    (ra : List Nat) (ord : List (List Nat)) (hi : i ≠ 0) (hm : m.q.term < (x.node i).term ∨ m ∈ x.sentSnaps)
    (hp : ((x.node i).step (.install m.q) ra ord).panicked = none) (hcid : (x.node i).cid ≠ 0)
    (k r : Nat) (hr : 1 ≤ r) (sor : Bool) :
    ∃ n, Node.restart (C05.crashDisk (x.node i) (.install m.q) ra ord k) r sor = some n ∧
      C12Track.Tracks n ∧ Order.Ordered n ∧
      n.configs.latest = ((C10.configsAbove (C05.crashDisk (x.node i) (.install m.q) ra ord k))[0]?).getD
        (C10.snapOf (C05.crashDisk (x.node i) (.install m.q) ra ord k)).config ∧
      n.configs.committed = ((C10.configsAbove (C05.crashDisk (x.node i) (.install m.q) ra ord k))[1]?).getD
        (C10.snapOf (C05.crashDisk (x.node i) (.install m.q) ra ord k)).config ∧
      C19Latest.LatestIsNewest n ∧ C12Crash.CrashInv n := by
  obtain ⟨_, i4, _⟩ := reach4 hV h
  have hrq : Order.ReqOk (x.node i) (.install m.q) := by
    show m.q.term < (x.node i).term ∨ m.q.lastIndex ≤ (x.node i).commitIndex ∨ Order.InstallOk m.q
    rcases hm with h' | h'
    · exact Or.inl h'
    · exact Or.inr (Or.inr (i4.mlab m h'))
  exact C12Crash.tracks_after_crash_at_any_point_partial (x.node i) (.install m.q) ra ord k r sor
    (crashInv_node4 hV h i hi hcid) hrq trivial trivial hp hr

end


structure Restarted (s : Node) (d : Durable) (n : Node) : Prop where
  /-- snapshot label / configuration tracking, `fsm.term`, `snapTerm` are those of the log -/
  tracks : C12Track.Tracks n
  /-- `log.prev ≤ snapIndex ≤ applied ≤ commitIndex ≤ lastLogIndex = log.last`, configurations within the log -/
  ordered : Order.Ordered n
  /-- the hypotheses of the crash theorem hold again: the node may crash again at any point -/
  again : C12Crash.CrashInv n
  /-- `configs.latest` is the newest configuration entry of the log, else the snapshot's label -/
  latestNewest : C19Latest.LatestIsNewest n
  /-- the configurations are derived from the log on disk above the snapshot, else the snapshot's label -/
  cfgLatest : n.configs.latest = ((C10.configsAbove d)[0]?).getD (C10.snapOf d).config
  cfgCommitted : n.configs.committed = ((C10.configsAbove d)[1]?).getD (C10.snapOf d).config
  /-- the log is contiguous with the snapshot -/
  contiguous : n.log.prev ≤ n.snapIndex ∧ n.snapIndex ≤ n.lastLogIndex ∧ n.lastLogIndex = n.log.last
  /-- … and agrees with it -/
  snapAgrees : n.log.prev < n.snapIndex → (n.log.get? n.snapIndex).map (·.term) = some n.snapTerm
  /-- a follower with the ids it had -/
  ident : n.role = .follower ∧ n.nid = s.nid ∧ n.cid = s.cid
  /-- term and vote are the durable pair, a legal successor of the pair the step started from -/
  vote : n.term = d.term ∧ n.votedFor = d.vote ∧ C05.VoteWF n ∧ C05.VoteStep s n
  /-- everything in the log is flushed; the snapshot files are those on disk; nothing failed -/
  flushed : n.log.flushed = n.log.last
  files : n.snapsDisk = d.snaps
  noPanic : n.panicked = none

theorem restarted_of_crash (s : Node) (op : Op) (ra : List Nat) (ord : List (List Nat)) (k r : Nat) (sor : Bool)
    (hi : C12Crash.CrashInv s) (hwf : C05.VoteWF s) (hr : Order.ReqOk s op) (hd : ReqDec s op) (hfb : SnapFbOp s op)
    (hp : (s.step op ra ord).panicked = none) (hret : 1 ≤ r) :
    ∃ n, Node.restart (C05.crashDisk s op ra ord k) r sor = some n ∧ Restarted s (C05.crashDisk s op ra ord k) n := by
  obtain ⟨n, hn, ht, ho, c1, c2, hL, hci⟩ :=
    C12Crash.tracks_after_crash_at_any_point_partial s op ra ord k r sor hi hr hd hfb hp hret
  obtain ⟨r1, r2, r3⟩ := C05.restart_reads_durable _ _ _ _ hn
  obtain ⟨f1, f2⟩ := Election.restart_role_nid _ _ _ _ hn
  obtain ⟨_, hnp, _, hlog, _, _, hdisk⟩ := C10.restart_fsm _ r sor n hn
  have e3 := (C10.restartNode_fields (C05.crashDisk s op ra ord k) r sor).2.2.1
  have hvs : C05.VoteStep s n := by
    have := Election.crashDisk_durStep s op ra ord k hwf
    unfold C05.VoteStep; rw [r1, r2]; exact this
  refine ⟨n, hn, ht, ho, hci, hL, c1, c2, ⟨ho.prev_le_snap, ?_, ho.last_eq⟩, ht.snapOk.termLog,
    ⟨f1, by rw [f2, Election.crashDisk_nid], by rw [SysMore.restart_cid _ _ _ _ hn, SysMore.crashDisk_cid]⟩,
    ⟨r1, r2, r3, hvs⟩, by rw [hlog, e3]; rfl, hdisk, hnp⟩
  have := ho.snap_le_applied; have := ho.applied_le_commit; have := ho.commit_le_last
  omega

section
variable {V : List Nat}

/-- `restarted_of_crash` at a node with a cluster id of a state reachable in `Raft.Snap6` without the premise `TermTracked`
(`Reachable6T`; every run of `Raft.Snap4` is one, `SnapCut.reach4_reach6T`), for any enabled operation: the state supplies
the premises -/
theorem restarted_in_6T (hV : V.Nodup) {x : Snap3.Sys} (h : Reachable6T V x) {i : Nat} {op : Op} {src : Nat}
    (ra : List Nat) (ord : List (List Nat)) (en : Snap.Enabled x.s2.cs i op src)
    (hp : ((x.node i).step op ra ord).panicked = none) (hfb : SnapFbOp (x.node i) op) (hcid : (x.node i).cid ≠ 0)
    (k r : Nat) (hr : 1 ≤ r) (sor : Bool) :
    ∃ n, Node.restart (C05.crashDisk (x.node i) op ra ord k) r sor = some n ∧
      Restarted (x.node i) (C05.crashDisk (x.node i) op ra ord k) n ∧ n.nid = i := by
  obtain ⟨r6, i4, s4⟩ := SnapCut.reach6T hV h
  have hI := (SnapCut.inv6_reachable hV r6).1
  have hnid : (x.node i).nid = i := (hI.sinv.cinv.rp.el.ids i).1
  obtain ⟨n, hn, hR⟩ := restarted_of_crash (x.node i) op ra ord k r sor
    ⟨i4.tracks i, i4.ord i, ⟨lwf_real hI i, s4.lab i, logDec_real s4.side i⟩, hcid, by rw [hnid]; exact en.id⟩
    (hI.sinv.cinv.rp.el.ids i).2 (reqOk_old hI en (s4.cfg i)) (reqDec_enabled (sentDec_reach6 r6) en) hfb hp hr
  exact ⟨n, hn, hR, by rw [hR.ident.2.1]; exact hnid⟩


inductive Run4 (V : List Nat) (x : Snap3.Sys) : Snap3.Sys → Prop
  | refl : Run4 V x x
  | next (y z : Snap3.Sys) : Run4 V x y → Snap4.Trans y z → Side4 V z → Run4 V x z

theorem run4_reachable {x y : Snap3.Sys} (hx : Reachable4 V x) (h : Run4 V x y) : Reachable4 V y := by
  induction h with
  | refl => exact hx
  | next y z _ ht hs ih => exact .next y z ih ht hs

structure Keeps (x y : Snap3.Sys) : Prop where
  grants : ∀ g ∈ x.s2.cs.rp.el.grants, g ∈ y.s2.cs.rp.el.grants
  won : ∀ e ∈ x.s2.cs.rp.el.won, e ∈ y.s2.cs.rp.el.won
  acks : ∀ a ∈ x.s2.cs.acks, a ∈ y.s2.cs.acks
  committed : ∀ m ∈ x.s2.cs.committed, m ∈ y.s2.cs.committed
  tree : ∀ c ∈ x.s2.cs.T, c ∈ y.s2.cs.T
  snaps : ∀ p ∈ x.s2.snaps, p ∈ y.s2.snaps
  sentSnaps : ∀ m ∈ x.sentSnaps, m ∈ y.sentSnaps

theorem Keeps.rfl' (x : Snap3.Sys) : Keeps x x :=
  ⟨fun _ h => h, fun _ h => h, fun _ h => h, fun _ h => h, fun _ h => h, fun _ h => h, fun _ h => h⟩

theorem Keeps.trans {x y z : Snap3.Sys} (a : Keeps x y) (b : Keeps y z) : Keeps x z :=
  ⟨fun e h => b.grants e (a.grants e h), fun e h => b.won e (a.won e h), fun e h => b.acks e (a.acks e h),
    fun e h => b.committed e (a.committed e h), fun e h => b.tree e (a.tree e h), fun e h => b.snaps e (a.snaps e h),
    fun e h => b.sentSnaps e (a.sentSnaps e h)⟩

theorem trans4_mono {x y : Snap3.Sys} (h : Snap4.Trans x y) : Keeps x y := by
  cases h with
  | step i op ra ord src en hp =>
    exact ⟨fun g hg => List.mem_append_right _ (List.mem_append_right _ hg), fun e he => List.mem_append_right _ he,
      fun a ha => List.mem_append_right _ (List.mem_append_right _ ha), fun m hm => List.mem_append_right _ hm,
      fun c hc => List.mem_append_right _ hc, fun p hp' => List.mem_append_right _ hp', fun m hm => hm⟩
  | crash i op ra ord src k retain sor n en hret hp hnc hst hn =>
    exact ⟨fun g hg => hg, fun e he => he, fun a ha => ha, fun m hm => hm, fun c hc => List.mem_append_right _ hc,
      fun p hp' => List.mem_append_right _ hp', fun m hm => hm⟩
  | send i q hi hl hr hc =>
    exact ⟨fun _ h => h, fun _ h => h, fun _ h => h, fun _ h => h, fun _ h => h, fun _ h => h, fun _ h => h⟩
  | sendSnap i q hi hl hr =>
    exact ⟨fun _ h => h, fun _ h => h, fun _ h => h, fun _ h => h, fun _ h => h, fun _ h => h,
      fun m hm => List.mem_cons_of_mem _ hm⟩
  | install i m ra ord hi hm hp =>
    exact ⟨fun _ h => h, fun _ h => h, fun _ h => h, fun _ h => h, fun _ h => h,
      fun p hp' => List.mem_append_right _ hp', fun _ h => h⟩
  | crashInstall i m ra ord k retain sor n hi hm hret hp hold hn =>
    exact ⟨fun _ h => h, fun _ h => h, fun _ h => h, fun _ h => h, fun _ h => h,
      fun p hp' => List.mem_append_right _ hp', fun _ h => h⟩

theorem run4_mono {x y : Snap3.Sys} (h : Run4 V x y) : Keeps x y := by
  induction h with
  | refl => exact Keeps.rfl' x
  | next y z _ ht _ ih => exact ih.trans (trans4_mono ht)


/-- **`y` is the state after node `i` of `x` died and restarted as `n`**: in an enabled operation of stage 2 at the crash
point `k` (premises of `Snap4.Trans.crash`: the completed step would not panic, `NoCut`, the log on disk is not stale), or
at the crash point `k` of the install handler (premises of `Snap4.Trans.crashInstall`) -/
inductive CrashOf (x : Snap3.Sys) (i : Nat) (n : Node) : Snap3.Sys → Prop
  | op (op : Op) (ra : List Nat) (ord : List (List Nat)) (src k retain : Nat) (sor : Bool) :
      Snap.Enabled x.s2.cs i op src → 1 ≤ retain →
      ((x.node i).step op ra ord).panicked = none → NoCut (x.node i) op →
      staleLog (C05.crashDisk (x.node i) op ra ord k) = false →
      Node.restart (C05.crashDisk (x.node i) op ra ord k) retain sor = some n →
      CrashOf x i n { x with s2 := crashS x.s2 i op n }
  | install (m : SnapMsg) (ra : List Nat) (ord : List (List Nat)) (k retain : Nat) (sor : Bool) :
      i ≠ 0 → (m.q.term < (x.node i).term ∨ m ∈ x.sentSnaps) → 1 ≤ retain →
      ((x.node i).step (.install m.q) ra ord).panicked = none →
      ((C05.crashDisk (x.node i) (.install m.q) ra ord k).snaps = (x.node i).snapsDisk →
        staleLog (C05.crashDisk (x.node i) (.install m.q) ra ord k) = false) →
      Node.restart (C05.crashDisk (x.node i) (.install m.q) ra ord k) retain sor = some n →
      CrashOf x i n (crashInstS x i m (C05.crashDisk (x.node i) (.install m.q) ra ord k) n)

theorem CrashOf.trans {x y : Snap3.Sys} {i : Nat} {n : Node} (h : CrashOf x i n y) : Snap4.Trans x y := by
  cases h with
  | op op ra ord src k retain sor en hret hp hnc hst hn => exact .crash i op ra ord src k retain sor n en hret hp hnc hst hn
  | install m ra ord k retain sor hi hm hret hp hold hn => exact .crashInstall i m ra ord k retain sor n hi hm hret hp hold hn

theorem CrashOf.node_i {x y : Snap3.Sys} {i : Nat} {n : Node} (h : CrashOf x i n y) : y.node i = n := by
  cases h with
  | op op ra ord src k retain sor en hret hp hnc hst hn => exact crashS_node_i x.s2 i op n
  | install m ra ord k retain sor hi hm hret hp hold hn => unfold crashInstS; exact replS_node_i x i n _

theorem CrashOf.node_j {x y : Snap3.Sys} {i : Nat} {n : Node} (h : CrashOf x i n y) {j : Nat} (hj : j ≠ i) :
    y.node j = x.node j := by
  cases h with
  | op op ra ord src k retain sor en hret hp hnc hst hn => exact setNode_other _ _ _ _ hj
  | install m ra ord k retain sor hi hm hret hp hold hn => exact setNode_other _ _ _ _ hj


theorem grant_honoured3 (hV : V.Nodup) {x : Snap3.Sys} (h : Reachable3 V x) (g : C01.Grant)
    (hg : g ∈ x.s2.cs.rp.el.grants) : C01Sys.HonouredBy (x.node g.voter) g :=
  (inv3_reachable hV h).1.sinv.cinv.rp.el.honoured g hg

theorem voteWF3 (hV : V.Nodup) {x : Snap3.Sys} (h : Reachable3 V x) (i : Nat) : C05.VoteWF (x.node i) :=
  ((inv3_reachable hV h).1.sinv.cinv.rp.el.ids i).2

/-- **every acknowledged entry of the acknowledgement's term is durably held** — in the voter's virtual log within the
flushed part; in its real log if above `log.prev`; at or below `log.prev` it is covered by the voter's snapshot — unless
an entry of a later term, not above the voter's term, does not extend it -/
theorem ack_held3 (hV : V.Nodup) {x : Snap3.Sys} (h : Reachable3 V x) (a : Ack) (ha : a ∈ x.s2.cs.acks)
    (b : Nat × Nat) (hb : b.2 = a.term) (hanc : Anc x.s2.cs.T b a.key) :
    (b.1 ≤ (x.node a.voter).log.flushed ∧ Holds (x.vlog a.voter) b.1 b.2 ∧
      ((x.node a.voter).log.prev < b.1 → ∃ e, (x.node a.voter).log.get? b.1 = some e ∧ e.term = b.2) ∧
      (b.1 ≤ (x.node a.voter).log.prev → b.1 ≤ (x.node a.voter).snapIndex)) ∨
    Unsafe x.s2.cs.T b (x.node a.voter).term := by
  have hI := (inv3_reachable hV h).1
  have hc := hI.sinv.cinv
  obtain ⟨_, eA, eT, eN⟩ := SnapInst3.cview x
  obtain ⟨e1, e2, _, e4, _⟩ := eN a.voter
  generalize eview (view3 x).cs = z at hc eA eT e1 e2 e4
  rw [← eA] at ha
  rw [← eT] at hanc ⊢
  rcases hc.ack.stable a ha b hb hanc with hd | hu
  · left
    obtain ⟨d1, d2⟩ := hd
    have d2' : Holds (x.vlog a.voter) b.1 b.2 := e1 ▸ d2
    refine ⟨e2 ▸ d1, d2', fun hlt => ?_, fun hle => Nat.le_trans hle (hI.prev a.voter).le⟩
    obtain ⟨h1, h2, h3⟩ := d2'
    have hk : b.1 - 1 < (x.vlog a.voter).length := by omega
    refine ⟨(x.vlog a.voter)[b.1 - 1], ?_, ?_⟩
    · rw [get_virtual3 x a.voter b.1 hlt, vget3 x a.voter b.1 h1]
      exact List.getElem?_eq_getElem hk
    · unfold termAt at h3
      rw [if_neg (by omega), List.getElem?_eq_getElem hk] at h3
      exact h3
  · exact Or.inr (e4 ▸ hu)

end

end RestartSys
end Raft

namespace Raft
namespace RestartSys
open Node Election LogRel Replication CommitRel Commit Member MemberCore QuorumRel MemberInv MemberCommit MemberStep
open MemberSide C08Member MemberDurable MemberGood NoPanic TrackCrash

section
variable {root : K} {x y : Member.Sys} {G : Ghost}

/-- a node of a reachable state that tracks and has a cluster id satisfies `C12Crash.CrashInv` (there are no snapshots in
this system: the label is the zero configuration) -/
theorem crashInv_member (h : RS root x G) (i : Nat) (hi : i ≠ 0) (ht : C12Track.Tracks (x.node i))
    (hcid : (x.node i).cid ≠ 0) : C12Crash.CrashInv (x.node i) := by
  have hn := nwfM h.inv i
  have hg := h.xinv.good i
  refine ⟨ht, hg.ordered, ⟨h.inv.node.lwf i, ?_, hg.glob.logDec⟩, hcid, by rw [(h.inv.rp.el.ids i).1]; exact hi⟩
  unfold Track.label
  rw [hn.snaps]
  exact Nat.zero_le _

/-- an operation the system delivers does not run the snapshot goroutine -/
theorem snapFbOp_member {i : Nat} {op : Op} {src : Nat} (he : Member.Enabled x i op src) : SnapFbOp (x.node i) op := by
  have hok : LogRel.OpOK op := he.rp.ok
  cases op <;> first | trivial | exact hok.elim

/-- … and its configuration entries decode -/
theorem reqDec_member {s : Node} {op : Op} (hr : ReqOk' true s op) : ReqDec s op := by
  cases op <;> try trivial
  case append q =>
    rcases hr with h | h
    · exact Or.inl h
    · right
      intro ne hne htc
      obtain ⟨c, hc, _⟩ := (h.2 ne hne htc).get
      rw [hc]; rfl

theorem restarted_member (h : RS root x G) {i : Nat} {op : Op} {src : Nat} (he : Member.Enabled x i op src)
    (hg : ReqG x i op) (ra : List Nat) (ord : List (List Nat)) (k : Nat)
    (hopen : (x.node i).closed = "" ∨ k = 0) (ht : C12Track.Tracks (x.node i)) (hcid : (x.node i).cid ≠ 0)
    (r : Nat) (hret : 1 ≤ r) (sor : Bool) :
    ∃ n, Node.restart (C05.crashDisk (x.node i) op ra ord k) r sor = some n ∧
      Restarted (x.node i) (C05.crashDisk (x.node i) op ra ord k) n := by
  have hci := crashInv_member h i he.rp.id ht hcid
  have hwf : C05.VoteWF (x.node i) := (h.inv.rp.el.ids i).2
  rcases hopen with ho | hk
  · have hr := reqok h.inv h.xinv he hg
    have hp := (C15NoPanic.good_step_two _ op ra ord (h.xinv.good i) ho hr).1
    exact restarted_of_crash (x.node i) op ra ord k r sor hci hwf hr.toReqOk (reqDec_member hr) (snapFbOp_member he) hp
      hret
  · subst hk
    have hp' : ((x.node i).step (.disconnected 0) ra ord).panicked = none := by
      rw [Node.step_disconnected0]; rfl
    have e : C05.crashDisk (x.node i) op ra ord 0 = C05.crashDisk (x.node i) (.disconnected 0) ra ord 0 := rfl
    rw [e]
    exact restarted_of_crash (x.node i) (.disconnected 0) ra ord 0 r sor hci hwf trivial trivial trivial hp' hret

theorem tracks_transR (h : RS root x G) (hT : ∀ i, C12Track.Tracks (x.node i)) (ht : TransR x y) :
    ∀ i, C12Track.Tracks (y.node i) := by
  cases ht with
  | step i op ra ord src he hg ho =>
    have hr := reqok h.inv h.xinv he hg
    have hp := (C15NoPanic.good_step_two _ op ra ord (h.xinv.good i) ho hr).1
    exact NodeSys.forall_setNode (P := fun _ => C12Track.Tracks)
      (C12Track.tracks_step _ op ra ord (hT i) (h.xinv.good i).ordered hr.toReqOk hp) (fun j _ => hT j)
  | crash i op ra ord src k retain sor n he hg ho hret hn =>
    have hcid : (x.node i).cid ≠ 0 := by
      have := (C10.restart_some _ _ _ _ hn).1
      rwa [SysMore.crashDisk_cid] at this
    obtain ⟨n', hn', hR⟩ := restarted_member h he hg ra ord k ho (hT i) hcid retain hret sor
    rw [hn] at hn'
    injection hn' with hn'
    exact NodeSys.forall_setNode (P := fun _ => C12Track.Tracks) (by rw [hn']; exact hR.tracks) (fun j _ => hT j)
  | send i q hi hl hr hc => exact hT

theorem tracks_runR (hx : ReachableR root x) (hT : ∀ i, C12Track.Tracks (x.node i)) (hrun : RunR x y) :
    ∀ i, C12Track.Tracks (y.node i) := by
  induction hrun with
  | refl => exact hT
  | next y z hxy ht ih =>
    obtain ⟨G, hy, _⟩ := rs_of (run_reachable hx hxy)
    exact tracks_transR hy ih ht

theorem grants_transR (ht : TransR x y) : ∀ g ∈ x.el.grants, g ∈ y.el.grants := by
  cases ht with
  | step i op ra ord src he hg ho => exact fun g hg' => List.mem_append_right _ (List.mem_append_right _ hg')
  | crash i op ra ord src k retain sor n he hg ho hret hn => exact fun g hg' => hg'
  | send i q hi hl hr hc => exact fun g hg' => hg'

theorem grants_runR (hrun : RunR x y) : ∀ g ∈ x.el.grants, g ∈ y.el.grants := by
  induction hrun with
  | refl => exact fun _ h => h
  | next y z _ ht ih => exact fun g hg => grants_transR ht g (ih g hg)

theorem cid_transR (ht : TransR x y) (j : Nat) : (y.node j).cid = (x.node j).cid := by
  cases ht with
  | step i op ra ord src he hg ho =>
    exact NodeSys.forall_setNode (P := fun j s => s.cid = (x.node j).cid) (SysMore.step_cid _ _ _ _) (fun _ _ => rfl) j
  | crash i op ra ord src k retain sor n he hg ho hret hn =>
    exact NodeSys.forall_setNode (P := fun j s => s.cid = (x.node j).cid)
      (by rw [SysMore.restart_cid _ _ _ _ hn, SysMore.crashDisk_cid]) (fun _ _ => rfl) j
  | send i q hi hl hr hc => rfl

theorem cid_runR (hrun : RunR x y) (j : Nat) : (y.node j).cid = (x.node j).cid := by
  induction hrun with
  | refl => rfl
  | next y z _ ht ih => rw [cid_transR ht j, ih]

end

end RestartSys
end Raft
