/-
Installation of a snapshot (`Raft.onInstallSnapRequest`, `Node.onInstallSnap`) — the crash analysis at node level.

The handler has up to four storage points: `value.set` (a newer term is adopted), `snap.publish` (the meta file of the
received snapshot is renamed into place), `snap.retain` (older files are removed), `clearLog` (the log is reset to the
snapshot).  Between `snap.publish` and `clearLog` the disk holds the NEW snapshot and the OLD log.  At the two crash
points in that window the old log is STALE with respect to the new snapshot (`install_disk_stale`; `Node.staleLog`: it ends
below the snapshot index, or the entry it holds there has another term — the F18 repair), so `openStorage` resets it.  Hence
every disk a crash in the handler can leave restarts into a node that is `Tracks` / `Ordered` again
(`install_crash_restart_tracks`), and one that holds the new snapshot into the node after the completed installation
(`install_crash_restart_installed`).
-/
import RaftVerif.Props.C12Track
import RaftVerif.Props.C19Order
import RaftVerif.Lemmas.SysInv
import RaftVerif.Lemmas.ShapeSnap

namespace Raft

namespace Node

theorem installPre_shape (s : Node) (q : InstallReq) :
    installPre s q =
      { s with term := (installPre s q).term, votedFor := (installPre s q).votedFor,
               durTerm := (installPre s q).durTerm, durVote := (installPre s q).durVote,
               trace := (installPre s q).trace, panicked := (installPre s q).panicked,
               role := .follower, leader := q.src } := by
  unfold installPre
  split
  · rw [setTerm_shape]; rfl
  · rfl

theorem installPre_durable (s : Node) (q : InstallReq) :
    (installPre s q).durable = { s.durable with term := (installPre s q).durTerm, vote := (installPre s q).durVote } := by
  rw [installPre_shape]; rfl

/-- term and vote after the prefix, in memory and on disk: untouched, or the request's newer term and no vote -/
theorem installPre_termVote (s : Node) (q : InstallReq) :
    (¬ s.term < q.term ∧ (installPre s q).term = s.term ∧ (installPre s q).votedFor = s.votedFor ∧
      (installPre s q).durTerm = s.durTerm ∧ (installPre s q).durVote = s.durVote) ∨
    (s.term < q.term ∧ (installPre s q).term = q.term ∧ (installPre s q).votedFor = 0 ∧
      (installPre s q).durTerm = q.term ∧ (installPre s q).durVote = 0) := by
  unfold installPre
  by_cases h : q.term > s.term
  · have e : s.setTerm q.term = s.storeTermVote q.term 0 := by
      unfold setTerm; rw [if_pos (Nat.ne_of_lt h), if_pos h]
    rw [if_pos h, e]
    exact Or.inr ⟨h, rfl, rfl, storeTermVote_dur s q.term 0⟩
  · rw [if_neg h]
    exact Or.inl ⟨h, rfl, rfl, rfl, rfl⟩

/-- **the handler on a request that installs** (not stale, ahead of the commit index, its last entry not held): the
prefix, `publishSnapshot` and the discard tail together, as one update of `s` -/
theorem onInstallSnap_installs (s : Node) (q : InstallReq) (hterm : ¬ q.term < s.term)
    (hahead : s.commitIndex < q.lastIndex) (hk : C09.keepsLog s q = false) :
    s.onInstallSnap q =
      { s with
        term := (installPre s q).term, votedFor := (installPre s q).votedFor,
        durTerm := (installPre s q).durTerm, durVote := (installPre s q).durVote,
        role := .follower, leader := (s.onInstallSnap q).leader,
        snapsDisk := (insertSnap (C09.fileOf q) s.snapsDisk).take s.retain,
        snapIndex := q.lastIndex, snapTerm := q.lastTerm,
        log := NLog.reset q.lastIndex, lastLogIndex := q.lastIndex, lastLogTerm := q.lastTerm,
        commitIndex := q.lastIndex, configs := { committed := q.lastConfig, latest := q.lastConfig },
        fsm := (s.onInstallSnap q).fsm, panicked := (s.onInstallSnap q).panicked,
        trace := (s.onInstallSnap q).trace, result := rSuccess } := by
  rw [C09.install_discard_shape s q hterm hahead hk, C09.discardTail_shape, publishSnapshot_shape, installPre_shape]
  rfl

/-- … and what is then on disk -/
theorem onInstallSnap_installs_durable (s : Node) (q : InstallReq) (hterm : ¬ q.term < s.term)
    (hahead : s.commitIndex < q.lastIndex) (hk : C09.keepsLog s q = false) :
    (s.onInstallSnap q).durable =
      { s.durable with term := (installPre s q).durTerm, vote := (installPre s q).durVote,
                       log := (NLog.reset q.lastIndex).durable,
                       snaps := (insertSnap (C09.fileOf q) s.snapsDisk).take s.retain } := by
  rw [onInstallSnap_installs s q hterm hahead hk]; rfl

end Node

namespace SnapInst
open Node

/-- everything of a node but what `leader.release` / `candidate.release` touch (`replies`, `ldr`, `leader`,
`candTransfer`) -/
def iobs (s : Node) :
    (NLog × Nat × Nat × Nat × Nat × List SnapFile) × (Nat × Nat × Nat × Nat) × (Nat × Fsm × Configs) ×
      (List (String × Durable) × Nat × Nat × Nat × Bool) × (Role × Option String × Option RpcReply × Nat) ×
      (Option SnapReq × Option SnapRes × String × Int) :=
  ((s.log, s.lastLogIndex, s.lastLogTerm, s.snapIndex, s.snapTerm, s.snapsDisk),
   (s.term, s.votedFor, s.durTerm, s.durVote), (s.commitIndex, s.fsm, s.configs),
   (s.trace, s.cid, s.nid, s.retain, s.shutdownOnRemove), (s.role, s.panicked, s.rpcReply, s.result),
   (s.snapPending, s.snapResult, s.closed, s.votesNeeded))

theorem relFrame_iobs : CommitRel.RelFrame iobs where
  reply := fun s t r => by unfold Node.reply; split <;> rfl
  ldr := fun _ _ => rfl
  leader := fun _ _ => rfl
  candTransfer := fun _ _ => rfl

theorem iobs_durable {a b : Node} (h : iobs a = iobs b) : a.durable = b.durable := by
  unfold iobs at h
  simp only [Prod.mk.injEq] at h
  obtain ⟨⟨h1, _, _, _, _, h6⟩, ⟨_, _, h9, h10⟩, _, ⟨_, h12, h13, _, _⟩, _⟩ := h
  unfold Node.durable
  rw [h1, h6, h9, h10, h12, h13]

theorem install_result (s : Node) (q : InstallReq) :
    (s.onInstallSnap q).result = rStaleTerm ∨ (s.onInstallSnap q).result = rSuccess := by
  rw [onInstallSnap_eq]
  split
  · exact Or.inl rfl
  · split
    · exact Or.inr rfl
    · split
      · exact Or.inr rfl
      · exact Or.inr rfl

theorem installPre_role (s : Node) (q : InstallReq) : (installPre s q).role = .follower := rfl

theorem install_role (s : Node) (q : InstallReq) (hq : ¬ q.term < s.term) : (s.onInstallSnap q).role = .follower := by
  rcases C09.onInstallSnap_cases s q with ⟨ht, _⟩ | ⟨_, _, e⟩ | ⟨_, hahead, hk, _⟩
  · exact absurd ht hq
  · rw [e]; rfl
  · rw [onInstallSnap_installs s q hq hahead hk]

theorem iobs_rpcDone_install (h : Node) (hr : h.result = rStaleTerm ∨ h.result = rSuccess) :
    (h.rpcDone false).role = h.role ∧ (h.rpcDone false).trace = h.trace ∧ (h.rpcDone false).durable = h.durable ∧
    (h.rpcDone false).log = h.log ∧ (h.rpcDone false).panicked = h.panicked ∧
    (h.rpcDone false) = h.withRpcReply (some (h.mkReply false false)) := by
  have hne : ¬ h.result = rUnexpectedErr := by
    rcases hr with e | e <;> rw [e] <;> decide
  unfold Node.rpcDone
  rw [if_neg hne]
  exact ⟨rfl, rfl, rfl, rfl, rfl, rfl⟩

/-- **a completed `.install` step**: apart from the reply and what releasing the previous role touches (`replies`,
the leader record, `leader`, `candTransfer`), the node is what the handler `onInstallSnap` left -/
theorem install_step_iobs (s : Node) (q : InstallReq) (ra : List Nat) (ord : List (List Nat)) :
    iobs (s.step (.install q) ra ord) =
      iobs (((s.begin ra ord).onInstallSnap q).withRpcReply
        (some (((s.begin ra ord).onInstallSnap q).mkReply false false))) := by
  have hpost : s.step (.install q) ra ord =
      settle 6 (((s.begin ra ord).onInstallSnap q).rpcDone false) (s.begin ra ord).role := rfl
  obtain ⟨r1, _, _, _, _, r6⟩ := iobs_rpcDone_install _ (install_result (s.begin ra ord) q)
  rw [hpost]
  by_cases hst : q.term < (s.begin ra ord).term
  · have hh : (s.begin ra ord).onInstallSnap q = (s.begin ra ord).ret rStaleTerm := by
      rw [onInstallSnap_eq, if_pos hst]
    have hrole : (((s.begin ra ord).onInstallSnap q).rpcDone false).role = (s.begin ra ord).role := by
      rw [r1, hh]; rfl
    have e : settle 6 (((s.begin ra ord).onInstallSnap q).rpcDone false) (s.begin ra ord).role =
        ((s.begin ra ord).onInstallSnap q).rpcDone false := settle_of_role hrole
    rw [e, r6]
  · have hf : (((s.begin ra ord).onInstallSnap q).rpcDone false).role = .follower := by
      rw [r1]; exact install_role _ q hst
    rcases CommitRel.settle_follower_cases _ (s.begin ra ord).role hf with e | e
    · rw [e, r6]
    · rw [e, relFrame_iobs.releaseRole, r6]

/-- the request makes the handler store the snapshot and discard the log: it is not stale, it is ahead of the commit
index, and the log does not hold the snapshot's last entry -/
def Installs (s : Node) (q : InstallReq) : Prop :=
  ¬ q.term < s.term ∧ s.commitIndex < q.lastIndex ∧ C09.keepsLog s q = false

instance (s : Node) (q : InstallReq) : Decidable (Installs s q) := by unfold Installs; infer_instance

/-- **a disk content a crash in `onInstallSnapRequest` can leave**: identity untouched; `(term, vote)` as before or the
request's newer term with no vote; and either log and snapshot files as before, or — only when the request installs —
the received snapshot file among the files (before or after the retention pass) with the OLD log or the reset log -/
structure InstDisk (s : Node) (q : InstallReq) (d : Durable) : Prop where
  cid : d.cid = s.cid
  nid : d.nid = s.nid
  tv : (d.term = s.durTerm ∧ d.vote = s.durVote) ∨ (s.term < q.term ∧ d.term = q.term ∧ d.vote = 0)
  data : (d.log = s.durable.log ∧ d.snaps = s.snapsDisk) ∨
    (Installs s q ∧ (d.log = s.durable.log ∨ d.log = NLog.reset q.lastIndex) ∧
      (d.snaps = insertSnap (C09.fileOf q) s.snapsDisk ∨
        d.snaps = (insertSnap (C09.fileOf q) s.snapsDisk).take s.retain) ∧
      ((s.term < q.term ∧ d.term = q.term ∧ d.vote = 0) ∨
        (¬ s.term < q.term ∧ d.term = s.durTerm ∧ d.vote = s.durVote)))

/-- a disk with the identity of `s` and the term and vote the prefix of the handler leaves holds `InstDisk`, when log and
files are untouched or, for a request that installs, as in the window of the discard branch -/
theorem instDisk_of (s : Node) (q : InstallReq) (d : Durable) (hc : d.cid = s.cid) (hn : d.nid = s.nid)
    (ht : d.term = (installPre s q).durTerm) (hv : d.vote = (installPre s q).durVote)
    (hd : (d.log = s.durable.log ∧ d.snaps = s.snapsDisk) ∨
      (Installs s q ∧ (d.log = s.durable.log ∨ d.log = NLog.reset q.lastIndex) ∧
        (d.snaps = insertSnap (C09.fileOf q) s.snapsDisk ∨
          d.snaps = (insertSnap (C09.fileOf q) s.snapsDisk).take s.retain))) : InstDisk s q d := by
  have tv := installPre_termVote s q
  rw [← ht, ← hv] at tv
  rcases tv with ⟨h, _, _, t, v⟩ | ⟨h, _, _, t, v⟩
  · refine ⟨hc, hn, Or.inl ⟨t, v⟩, ?_⟩
    rcases hd with hd | ⟨hi, hl, hf⟩
    · exact Or.inl hd
    · exact Or.inr ⟨hi, hl, hf, Or.inr ⟨h, t, v⟩⟩
  · refine ⟨hc, hn, Or.inr ⟨h, t, v⟩, ?_⟩
    rcases hd with hd | ⟨hi, hl, hf⟩
    · exact Or.inl hd
    · exact Or.inr ⟨hi, hl, hf, Or.inl ⟨h, t, v⟩⟩

theorem instDisk_pre (s : Node) (q : InstallReq) : InstDisk s q (installPre s q).durable := by
  rw [installPre_durable]
  exact instDisk_of s q _ rfl rfl rfl rfl (Or.inl ⟨rfl, rfl⟩)

theorem instDisk_preTrace (s : Node) (q : InstallReq) : ∀ p ∈ C10.preTrace s q, InstDisk s q p.2 :=
  C10.preTrace_forall s q fun h => ⟨rfl, rfl, Or.inr ⟨h, rfl, rfl⟩, Or.inl ⟨rfl, rfl⟩⟩

/-- every crash point of the handler, and what is durable when it returns -/
theorem install_points (b : Node) (q : InstallReq) (hb : b.trace = []) :
    (∀ p ∈ (b.onInstallSnap q).trace, InstDisk b q p.2) ∧ InstDisk b q (b.onInstallSnap q).durable := by
  -- a request that is ignored leaves at most the crash points of the common prefix
  have ign : q.term < b.term ∨ q.lastIndex ≤ b.commitIndex ∨ C09.keepsLog b q = true →
      ∀ p ∈ (b.onInstallSnap q).trace, InstDisk b q p.2 := by
    refine fun hign => (Traced.of_nil hb).append (C10.install_ignored_script b q hign).1 ?_
    split
    · exact nofun
    · exact instDisk_preTrace b q
  rcases C09.onInstallSnap_cases b q with ⟨h1, e⟩ | ⟨_, h2, e⟩ | ⟨hterm, hahead, hk, _⟩
  · exact ⟨ign (Or.inl h1), by rw [e]; exact ⟨rfl, rfl, Or.inl ⟨rfl, rfl⟩, Or.inl ⟨rfl, rfl⟩⟩⟩
  · exact ⟨ign (Or.inr h2), by rw [e]; exact instDisk_pre b q⟩
  · have hi : Installs b q := ⟨hterm, hahead, hk⟩
    constructor
    · refine ((Traced.of_nil hb).append (C10.installPre_trace b q) (instDisk_preTrace b q)).append
        ((C10.install_discard_script b q hterm hahead hk).trans (by rw [C10.installPre_trace])) fun p hp => ?_
      rw [installPre_durable] at hp
      simp only [List.mem_cons, List.not_mem_nil, or_false] at hp
      rcases hp with rfl | rfl | rfl
      · exact instDisk_of b q _ rfl rfl rfl rfl (Or.inr ⟨hi, Or.inl rfl, Or.inl rfl⟩)
      · exact instDisk_of b q _ rfl rfl rfl rfl (Or.inr ⟨hi, Or.inl rfl, Or.inr rfl⟩)
      · exact instDisk_of b q _ rfl rfl rfl rfl (Or.inr ⟨hi, Or.inr rfl, Or.inr rfl⟩)
    · rw [onInstallSnap_installs_durable b q hterm hahead hk]
      exact instDisk_of b q _ rfl rfl rfl rfl (Or.inr ⟨hi, Or.inr (NLog.reset_durable _), Or.inr rfl⟩)

/-- **the crash points of `.install`**: whatever the request and the point at which the process dies, the disk holds
`InstDisk` -/
theorem install_crashDisk (s : Node) (q : InstallReq) (ra : List Nat) (ord : List (List Nat)) (k : Nat) :
    InstDisk s q (C05.crashDisk s (.install q) ra ord k) := by
  have hio := install_step_iobs s q ra ord
  have htr : (s.step (.install q) ra ord).trace = ((s.begin ra ord).onInstallSnap q).trace := by
    have := congrArg (fun p => p.2.2.2.1.1) hio
    exact this
  have hdur : (s.step (.install q) ra ord).durable = ((s.begin ra ord).onInstallSnap q).durable :=
    (iobs_durable hio).trans rfl
  obtain ⟨h1, h2⟩ := install_points (s.begin ra ord) q rfl
  have key : InstDisk (s.begin ra ord) q (C05.crashDisk s (.install q) ra ord k) :=
    C05.crashDisk_of (D := InstDisk (s.begin ra ord) q) s _ ra ord k ⟨rfl, rfl, Or.inl ⟨rfl, rfl⟩, Or.inl ⟨rfl, rfl⟩⟩
      (hdur ▸ h2) (fun p hp => h1 p (htr ▸ hp))
  exact ⟨key.cid, key.nid, key.tv, key.data⟩

/-- the received file heads the listing, before and after the retention pass -/
theorem inst_head (s : Node) (q : InstallReq) (hr : 1 ≤ s.retain)
    (hh : ∀ g, s.snapsDisk.head? = some g → g.index ≤ q.lastIndex) {l : List SnapFile}
    (hl : l = insertSnap (C09.fileOf q) s.snapsDisk ∨ l = (insertSnap (C09.fileOf q) s.snapsDisk).take s.retain) :
    l.head? = some (C09.fileOf q) := by
  obtain ⟨tl, htl⟩ := insertSnap_head (C09.fileOf q) s.snapsDisk hh
  obtain ⟨k, hk⟩ : ∃ k, s.retain = k + 1 := ⟨s.retain - 1, by omega⟩
  rcases hl with e | e
  · rw [e, htl]; rfl
  · rw [e, htl, hk]; rfl

theorem durable_last_le (l : NLog) : l.durable.last ≤ l.last := by
  unfold NLog.last
  have hp : l.durable.prev = l.prev := rfl
  have he : l.durable.entries = l.entries.take (l.flushed - l.prev) := rfl
  rw [hp, he, List.length_take]
  omega

/-- **F18, the repaired window.** The old log on disk under the newly published snapshot is a STALE log: a process that
dies after `snap.publish` / `snap.retain` and before `clearLog` finds, on restart, a log that ends below the snapshot
index or holds another entry there — because the handler stores the snapshot only when the log does NOT hold the
snapshot's last entry (`keepsLog = false`), and what is on disk is a prefix of that log. -/
theorem install_disk_stale (s : Node) (q : InstallReq) (hi : Installs s q) (hprev : s.log.prev ≤ s.commitIndex)
    (d : Durable) (hlog : d.log = s.durable.log) (hhead : d.snaps.head? = some (C09.fileOf q)) :
    staleLog d = true := by
  obtain ⟨_, hahead, hk⟩ := hi
  have hso : C10.snapOf d = C09.fileOf q := by unfold C10.snapOf; rw [hhead]; rfl
  cases hst : staleLog d with
  | true => rfl
  | false =>
    exfalso
    have h1 := C10.not_stale_reaches d hst
    have hp : d.log.prev < (C10.snapOf d).index := by
      rw [hso, hlog]
      show s.log.prev < q.lastIndex
      omega
    have h2 := C10.not_stale_term d hst hp
    rw [hso, hlog] at h1 h2
    have h1' : q.lastIndex ≤ s.log.durable.last := h1
    have h2' : (s.log.durable.get? q.lastIndex).map (·.term) = some q.lastTerm := h2
    cases hg : s.log.durable.get? q.lastIndex with
    | none => rw [hg] at h2'; cases h2'
    | some e =>
      rw [hg] at h2'
      have hget := NLog.get?_of_durable s.log q.lastIndex e hg
      have hk' : C09.keepsLog s q = true := by
        unfold C09.keepsLog NLog.contains Node.entryTerm?
        rw [hget]
        have hl := durable_last_le s.log
        have e1 : decide (s.log.prev < q.lastIndex) = true := decide_eq_true (by omega)
        have e2 : decide (q.lastIndex ≤ s.log.last) = true := decide_eq_true (by omega)
        rw [e1, e2]
        simp only [Option.map_some, Bool.and_self, Bool.true_and, beq_iff_eq]
        simpa using h2'
      rw [hk] at hk'; cases hk'

/-- … so `openStorage` works with the log reset to the snapshot, at every crash point that has the new file -/
theorem install_disk_logOf (s : Node) (q : InstallReq) (hi : Installs s q) (hprev : s.log.prev ≤ s.commitIndex)
    (d : Durable) (hlog : d.log = s.durable.log ∨ d.log = NLog.reset q.lastIndex)
    (hhead : d.snaps.head? = some (C09.fileOf q)) :
    C10.snapOf d = C09.fileOf q ∧ C10.logOf d = NLog.reset q.lastIndex := by
  have hso : C10.snapOf d = C09.fileOf q := by unfold C10.snapOf; rw [hhead]; rfl
  refine ⟨hso, ?_⟩
  rcases hlog with e | e
  · rw [C10.logOf_stale d (install_disk_stale s q hi hprev d e hhead), hso]; rfl
  · rcases C10.logOf_cases d with ⟨_, h⟩ | ⟨_, h⟩
    · rw [h, hso]; rfl
    · rw [h, e]

theorem diskTracks_congr {d d' : Durable} (h : C12Track.DiskTracks d') (e1 : d.log = d'.log) (e2 : d.snaps = d'.snaps) :
    C12Track.DiskTracks d := by
  cases d; cases d'
  simp only at e1 e2
  subst e1; subst e2
  exact ⟨h.contig, h.lab, h.term, h.zero⟩

/-- **`DiskTracks` at every crash point of `.install`** — what `C12Track.restart_tracks` assumes of the disk, for the storage points INSIDE this
handler: from a tracking, ordered node, whatever the request and wherever the process dies, the disk is one from which
a restart yields a tracking node (`C12Track.restart_tracks`). -/
theorem install_disk_tracks (s : Node) (q : InstallReq) (ra : List Nat) (ord : List (List Nat)) (k : Nat)
    (ht : C12Track.Tracks s) (ho : Order.Ordered s) :
    C12Track.DiskTracks (C05.crashDisk s (.install q) ra ord k) := by
  have hd := install_crashDisk s q ra ord k
  generalize C05.crashDisk s (.install q) ra ord k = d at hd
  have hprev : s.log.prev ≤ s.commitIndex := by
    have := ho.prev_le_snap; have := ho.snap_le_applied; have := ho.applied_le_commit; omega
  rcases hd.data with ⟨e1, e2⟩ | ⟨hi, e1, e2, _⟩
  · exact diskTracks_congr (C12Track.durable_diskTracks s ht ho) e1 e2
  · have hh : ∀ g, s.snapsDisk.head? = some g → g.index ≤ q.lastIndex := by
      intro g hg
      have := ht.headLe g hg
      have := ho.snap_le_applied; have := ho.applied_le_commit; have := hi.2.1
      omega
    have hhead := inst_head s q ht.retain hh e2
    obtain ⟨hso, hlo⟩ := install_disk_logOf s q hi hprev d e1 hhead
    refine ⟨?_, ?_, fun hlt => ?_, fun h0 => ?_⟩
    · rcases e1 with e | e <;> rw [e]
      · exact C12Track.contig_durable ht.contig
      · exact C03.LogContig.reset _
    · rw [hlo]; exact Track.newest_of_nil _ (Track.pre_reset _ _)
    · rw [hlo, hso] at hlt
      exact absurd hlt (Nat.lt_irrefl _)
    · rw [hso] at h0
      have h0' : q.lastIndex = 0 := h0
      have := hi.2.1
      omega

/-- … and `C19Order.DiskOK` (for `restart_ordered`), given in addition that the log is well formed with respect to
flushing (`C06.LogWF`), that the label of the newest snapshot on disk is a configuration the snapshot covers, and that
the request's label is one its snapshot covers (`Order.InstallOk`, required of an installing request) -/
theorem install_disk_ok (s : Node) (q : InstallReq) (ra : List Nat) (ord : List (List Nat)) (k : Nat)
    (ht : C12Track.Tracks s) (ho : Order.Ordered s) (hw : C06.LogWF s.log)
    (hlab : (Track.label s).index ≤ s.snapIndex) (hq : Installs s q → Order.InstallOk q) :
    C19Order.DiskOK (C05.crashDisk s (.install q) ra ord k) := by
  have hd := install_crashDisk s q ra ord k
  generalize C05.crashDisk s (.install q) ra ord k = d at hd
  have hprev : s.log.prev ≤ s.commitIndex := by
    have := ho.prev_le_snap; have := ho.snap_le_applied; have := ho.applied_le_commit; omega
  have hseg : C09.SegsOK s.log.durable := SysInv.segsOK_durable _ ho.segs hw
  have hidx : ∀ i e, s.log.durable.get? i = some e → e.index = i :=
    fun i e h => (C12Track.contig_durable ht.contig).get?_index i e h
  rcases hd.data with ⟨e1, e2⟩ | ⟨hi, e1, e2, _⟩
  · obtain ⟨dw, dc, di⟩ := C12Track.durable_snap s ht ho
    have hso : C10.snapOf d = C10.snapOf s.durable := by unfold C10.snapOf; rw [e2]; rfl
    refine ⟨?_, by rw [e1]; exact hseg, by rw [e1]; exact hidx, ?_⟩
    · unfold C10.DurWF; rw [hso, e1]; exact dw
    · rw [hso, dc, di]; exact hlab
  · have hh : ∀ g, s.snapsDisk.head? = some g → g.index ≤ q.lastIndex := by
      intro g hg
      have := ht.headLe g hg
      have := ho.snap_le_applied; have := ho.applied_le_commit; have := hi.2.1
      omega
    have hhead := inst_head s q ht.retain hh e2
    have hso : C10.snapOf d = C09.fileOf q := by unfold C10.snapOf; rw [hhead]; rfl
    refine ⟨?_, ?_, ?_, by rw [hso]; exact hq hi⟩
    · unfold C10.DurWF
      rw [hso]
      rcases e1 with e | e <;> rw [e]
      · show s.log.prev ≤ q.lastIndex
        have := hi.2.1; omega
      · exact Nat.le_refl _
    · rcases e1 with e | e <;> rw [e]
      · exact hseg
      · exact Order.segsOK_reset _
    · rcases e1 with e | e <;> rw [e]
      · exact hidx
      · intro i x hx
        unfold NLog.get? NLog.reset at hx
        dsimp only at hx
        split at hx
        · simp at hx
        · cases hx

/-- **the per-node invariants survive a crash at EVERY storage point of `onInstallSnapRequest`.** Let `s` be a
tracking (`C12Track.Tracks`: in particular the log entry at the snapshot index, if the log holds it, has the snapshot's
term) and ordered (`Order.Ordered`) node with a well-formed log; let the process die after `k` storage points of
handling ANY install request `q` (stale, duplicate, already held, or installing) and restart from what is on disk.
Then the restarted node is again tracking and ordered. -/
theorem install_crash_restart_tracks (s : Node) (q : InstallReq) (ra : List Nat) (ord : List (List Nat)) (k : Nat)
    (r : Nat) (sor : Bool) (n : Node) (ht : C12Track.Tracks s) (ho : Order.Ordered s) (hw : C06.LogWF s.log)
    (hlab : (Track.label s).index ≤ s.snapIndex) (hq : Installs s q → Order.InstallOk q) (hr : 1 ≤ r)
    (hn : Node.restart (C05.crashDisk s (.install q) ra ord k) r sor = some n) :
    C12Track.Tracks n ∧ Order.Ordered n :=
  ⟨C12Track.restart_tracks _ r sor n hr (install_disk_tracks s q ra ord k ht ho) hn,
   C19Order.restart_ordered _ r sor n (install_disk_ok s q ra ord k ht ho hw hlab hq) hn⟩

theorem restartNode_lastLogTerm (d : Durable) (r : Nat) (sor : Bool) :
    (restartNode d r sor).lastLogTerm =
      (if (C10.logOf d).count > 0 then (((C10.logOf d).entries.getLast?).map (·.term)).getD 0 else (C10.snapOf d).term) ∧
    (restartNode d r sor).role = .follower := ⟨rfl, rfl⟩

/-- **a crash after `snap.publish`: the restarted node is the node after the installation.** If the disk the process
leaves holds the received snapshot file (crash points `snap.publish`, `snap.retain`, `clearLog`, or after the handler
returned), the restarted node has the log reset to the snapshot — never the OLD log under the NEW snapshot —, last log
index / term, snapshot index / term and commit index are the snapshot's, the state machine is the snapshot's content
and both configurations are its label: exactly what the completed handler leaves (`C09.install_snapshot_discard`,
`C09.install_discard_restore_ok`), with the durable term and vote. -/
theorem install_crash_restart_installed (s : Node) (q : InstallReq) (hi : Installs s q)
    (hprev : s.log.prev ≤ s.commitIndex) (hr : 1 ≤ s.retain)
    (hh : ∀ g, s.snapsDisk.head? = some g → g.index ≤ q.lastIndex)
    (d : Durable) (hlog : d.log = s.durable.log ∨ d.log = NLog.reset q.lastIndex)
    (hsn : d.snaps = insertSnap (C09.fileOf q) s.snapsDisk ∨
      d.snaps = (insertSnap (C09.fileOf q) s.snapsDisk).take s.retain)
    (r : Nat) (sor : Bool) (n : Node) (hn : Node.restart d r sor = some n) :
    n.log = NLog.reset q.lastIndex ∧ n.lastLogIndex = q.lastIndex ∧ n.lastLogTerm = q.lastTerm ∧
    n.snapIndex = q.lastIndex ∧ n.snapTerm = q.lastTerm ∧ n.commitIndex = q.lastIndex ∧
    n.fsm = { index := q.lastIndex, term := q.lastTerm, applied := q.data, config := q.lastConfig } ∧
    n.configs = { committed := q.lastConfig, latest := q.lastConfig } ∧ n.snapsDisk = d.snaps ∧
    n.role = .follower ∧ n.term = d.term ∧ n.votedFor = d.vote ∧ n.panicked = none := by
  have hhead := inst_head s q hr hh hsn
  obtain ⟨hso, hlo⟩ := install_disk_logOf s q hi hprev d hlog hhead
  have hpos : (C10.snapOf d).index > 0 := by
    rw [hso]; show q.lastIndex > 0; have := hi.2.1; omega
  obtain ⟨f1, f2, f3, f4, f5, f6, f7⟩ := C10.restart_fsm d r sor n hn
  rw [if_pos hpos] at f1
  obtain ⟨_, e2, e3, e4, _⟩ := C10.restartNode_fields d r sor
  obtain ⟨t1, t2⟩ := restartNode_lastLogTerm d r sor
  obtain ⟨v1, v2, _, _⟩ := C10.restart_term_vote d r sor n hn
  have hcount : ¬ (C10.logOf d).count > 0 := by rw [hlo]; simp [NLog.reset, NLog.count]
  have hcfg := C10.restart_configs_none d r sor (by
      unfold C10.DurWF
      rw [hso]
      rcases hlog with e | e <;> rw [e]
      · show s.log.prev ≤ q.lastIndex
        have := hi.2.1; omega
      · exact Nat.le_refl _) (by
      intro e he
      rw [hlo, hso] at he
      rw [C10.window_empty _ _ _ (by show (NLog.reset q.lastIndex).last ≤ q.lastIndex; simp [NLog.reset, NLog.last])] at he
      cases he)
  refine ⟨?_, ?_, ?_, by rw [f3, hso]; rfl, ?_, by rw [f1.2, hso]; rfl, by rw [f1.1, hso]; rfl, ?_, f7, ?_, v1, v2, f2⟩
  · rw [f4, e3, hlo]; rfl
  · rw [f5, e4, if_neg hcount, hso]; rfl
  · rw [Node.restart_field (·.lastLogTerm) (fun _ _ _ _ => rfl) hn, t1, if_neg hcount, hso]; rfl
  · rw [Node.restart_field (·.snapTerm) (fun _ _ _ _ => rfl) hn, e2, hso]; rfl
  · rw [f6]
    have := hcfg.2
    rw [hso] at this
    cases hc : (restartNode d r sor).configs with
    | mk c l =>
      rw [hc] at this
      obtain ⟨a, b⟩ := this
      have a' : l = q.lastConfig := a
      have b' : c = q.lastConfig := b
      rw [a', b']
  · rw [Node.restart_field (·.role) (fun _ _ _ _ => rfl) hn]; exact t2

end SnapInst
end Raft
