/-
C03 on the cluster WITH membership changes (`Raft.Member`, Sys/Member.lean): the state-machine invariant `C03Sys.FB` of
Props/C03Sys.lean in the system in which configuration entries are ordinary log entries and `.changeConfig` requests are
delivered. Node level: `fsm_stepM` = `C03Sys.fsm_step` plus the `.changeConfig` request (`C03Sys.handle_g` covers it);
cluster level: `FsmInvM` in every state of `C08Member.ReachableR` (a restarted state machine is empty).
-/
import RaftVerif.Props.C08Member
import RaftVerif.Props.C03Sys

namespace Raft
namespace MemberApply
open Node LogRel CommitRel Commit Member MemberInv MemberSide NoPanic C03Sys
open MemberStep (SM CM)

/-- **One step of a node keeps the state machine's content right — every operation of `Member.Enabled`** (`OpOK`: no
snapshot operation; `CfgRel.OpOk`: no configuration entry in a client batch), on a bootstrapped node, unless the step
fails an assertion: `C03Sys.fsm_step` plus the `.changeConfig` request. -/
theorem fsm_stepM (pre : Node) (op : Op) (ra : List Nat) (ord : List (List Nat)) (hn : NWF pre)
    (hl : C06.LogWF pre.log) (hwf : C05.VoteWF pre) (hok : OpOK op) (hcfg : CfgRel.OpOk op)
    (hboot : pre.configs.isBootstrapped = true) (hfb : FB pre)
    (happ : ∀ q, op = .append q → ¬ q.term < pre.term →
      (∀ k (h : k < q.entries.length), q.entries[k].index = q.prevLogIndex + k + 1) ∧
      NoConf pre q pre.commitIndex ∧ pre.commitIndex ≤ pre.log.entries.length) :
    FBp pre.fsm.index (pre.step op ra ord) := by
  by_cases hcc : ∃ t c, op = .changeConfig t c
  · obtain ⟨t, c, rfl⟩ := hcc
    have hpost : pre.step (.changeConfig t c) ra ord =
        settle 6 ((pre.begin ra ord).handle (.changeConfig t c)) (pre.begin ra ord).role := rfl
    rw [hpost]
    apply settle_g
    exact handle_g (pre.begin ra ord) _ hwf hok (fun _ _ _ _ => hboot) (fun q e => by cases e)
      ⟨⟨hfb.fsm.le, hfb.fsm.len, hfb.fsm.applied, Nat.le_refl _⟩, hn.prev, hn.last⟩ (fun hr => hfb.queue hr)
  · refine fsm_step pre op ra ord hn hl hwf ⟨hok, fun b hb => ?_, fun t c h => hcc ⟨t, c, h⟩⟩ hfb happ
    subst hb
    exact hcfg

def FsmInvM (x : Member.Sys) : Prop := ∀ i, FB (x.node i)

variable {x : Member.Sys} {G : Ghost}

/-- a follower that has applied nothing -/
theorem fb_fresh {n : Node} (hf : n.fsm = {}) (hr : n.role = .follower) : FB n := by
  refine ⟨⟨by rw [hf]; exact Nat.zero_le _, by rw [hf]; exact Nat.zero_le _, by rw [hf]; rfl, Nat.zero_le _⟩,
    fun hl => ?_⟩
  rw [hr] at hl; cases hl

theorem fsmInvM_init (hi : Member.Init x) : FsmInvM x :=
  fun i => fb_fresh (hi.cm.nodes i).2.2.2.2 (hi.cm.rp.el.1 i).2.2

/-- what the system guarantees of an append request delivered to node `i` -/
theorem happ_of (hI : MInv x G) (hS : SideT x) {i : Nat} {op : Op} {src : Nat} (he : Member.Enabled x i op src) :
    ∀ q, op = .append q → ¬ q.term < (x.node i).term →
      (∀ k (h : k < q.entries.length), q.entries[k].index = q.prevLogIndex + k + 1) ∧
      NoConf (x.node i) q (x.node i).commitIndex ∧ (x.node i).commitIndex ≤ (x.node i).log.entries.length := by
  intro q hq hst
  subst hq
  have hq : q ∈ x.cm.rp.sent := (he.rp.append q rfl).resolve_left hst
  exact ⟨(hI.rp.sent q hq).idx, reqokM hI hS hq hst, ciLeM hI i⟩

theorem fbp_step (hI : MInv x G) (hX : XInv x) (hF : FsmInvM x) {i : Nat} {op : Op} {src : Nat}
    (he : Member.Enabled x i op src) (ra : List Nat) (ord : List (List Nat)) :
    FBp (x.node i).fsm.index ((x.node i).step op ra ord) :=
  fsm_stepM (x.node i) op ra ord (nwfM hI i) (hI.node.lwf i) (hI.rp.el.ids i).2 he.rp.ok he.cfg (boot_of hI i) (hF i)
    (happ_of hI hX.sideT he)

theorem fsmInvM_trans (hI : MInv x G) (hX : XInv x) (hLC : ∀ i, C06Cache.LeaderCache (x.node i)) (hF : FsmInvM x)
    {y : Member.Sys} (ht : TransR x y) : FsmInvM y := by
  cases ht with
  | step i op ra ord src he hg ho =>
    obtain ⟨f, _, qk⟩ := fbp_step hI hX hF he ra ord (sm_of_step hI hX hLC he hg ho ra ord).2
    exact NodeSys.forall_setNode (P := fun _ m => FB m) ⟨f.weaken (Nat.zero_le _), qk⟩ (fun j _ => hF j)
  | crash i op ra ord src k retain sor n he hg hopen hret hn =>
    obtain ⟨op', cm, heq, _⟩ := cm_of_crash hI hX hLC he hg hopen hn
    rw [heq]
    obtain ⟨_, _, _, hr, _, hf, _⟩ := cm.facts
    exact NodeSys.forall_setNode (P := fun _ m => FB m) (fb_fresh hf hr) (fun j _ => hF j)
  | send i q hi hl hr hc => exact hF

theorem fsmInvM_reachable (root : MemberCore.K) (x : Member.Sys) (h : C08Member.ReachableR root x) : FsmInvM x := by
  induction h with
  | init x hi => exact fsmInvM_init hi.init
  | next x y hx ht ih =>
    obtain ⟨⟨G, hI, _⟩, hX⟩ := C08Member.inv_reachable root x hx
    exact fsmInvM_trans hI hX (C08Sys.leaderCache_reachable x (C08Member.reachableP_of hx)) ih ht

end MemberApply
end Raft

#print axioms Raft.MemberApply.fsm_stepM
#print axioms Raft.MemberApply.fsmInvM_reachable
