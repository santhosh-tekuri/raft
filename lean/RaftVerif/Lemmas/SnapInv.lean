/-
The invariant of the cluster system with local snapshots (Sys/Snap.lean, stage 1) and its preservation.

`SInv V x`:
* `cinv`, `fsm` — the invariants of `Raft.Commit` (`CInv`: election safety, log matching, leader completeness, commit
  safety; `FsmInv`: state-machine content) hold for the cluster SEEN WITHOUT SNAPSHOT DATA (`eview`: every node `E σ0`);
* `snap` — on every node: every snapshot file on disk has a positive index not above the commit index and holds the
  update payloads of the log prefix up to that index; the files are listed newest first, `snapIndex` is the index of
  the newest one and is not above the applied index; `retain ≥ 1`;
* `ledger` — every file in the ghost ledger `snaps` (every file a node ever had on disk) has a positive index not above
  the snapshot index of the node that stored it and holds the update payloads of that node's log up to its index.

How a transition of `Snap.Trans` is analysed (`inv_trans`): an operation that does not read the snapshot data commutes
with the erasure `E` (Lemmas/SnapRel.lean), so the view makes a `Commit.Trans` step; an append request does too,
because the request agrees with the log on what the node's snapshot covers (commit safety of the view: `C02Sys.reqok`);
a snapshot operation is, in the view, a step that only clears the outputs of the previous step (`bump`); a crash is a
crash of the view followed by the replacement of the restarted follower's commit index / state machine /
configurations (`bump`, `restart_rel`).
-/
import RaftVerif.Sys.Snap2
import RaftVerif.Lemmas.SnapBump
import RaftVerif.Lemmas.Shape
import RaftVerif.Lemmas.NodeSys

namespace Raft
namespace SnapInv
open Node Election LogRel Replication CommitRel Commit C02Sys C03Sys SnapRel SnapSim Snap

/-- the cluster seen without snapshot data: every node `E σ0` (`SnapRel.E`; `σ0 = (0, 0, [])`, Lemmas/SnapSim.lean), in the
state and at every crash point — a state the invariants of `Raft.Commit` (which ask `snapIndex = 0`, no files: `NWF`) can
hold of; the ledgers are untouched -/
def eview (x : Commit.Sys) : Commit.Sys := withNodes x (fun i => E σ0 (x.node i))

theorem eview_node (x : Commit.Sys) (i : Nat) : (eview x).node i = E σ0 (x.node i) := rfl

theorem setNode_E (f : Nat → Node) (i : Nat) (n : Node) :
    (fun j => E σ0 (setNode f i n j)) = setNode (fun j => E σ0 (f j)) i (E σ0 n) := by
  funext j
  unfold setNode
  split <;> rfl

theorem ackOf_E (i : Nat) (op : Op) (s post : Node) : ackOf i (eraseOp σ0 s op) (E σ0 post) = ackOf i op post := by
  cases op <;> rfl
theorem selfAck_E (i : Nat) (op : Op) (s pre post : Node) :
    selfAck i (eraseOp σ0 s op) (E σ0 pre) (E σ0 post) = selfAck i op pre post := by
  cases op <;> rfl
theorem newCommit_E (op : Op) (s pre post : Node) :
    newCommit (eraseOp σ0 s op) (E σ0 pre) (E σ0 post) = newCommit op pre post := by
  cases op <;> rfl
theorem newCreated_E (i : Nat) (op : Op) (s : Node) (a b : List Entry) :
    newCreated i a b (eraseOp σ0 s op) = newCreated i a b op := by
  cases op <;> rfl
theorem voteGrant_E (i : Nat) (op : Op) (s post : Node) :
    voteGrant i (eraseOp σ0 s op) (E σ0 post) = voteGrant i op post := by
  cases op <;> rfl
theorem countedBy_E (i : Nat) (op : Op) (s pre : Node) (src : Nat) :
    countedBy i (E σ0 pre) (eraseOp σ0 s op) src = countedBy i pre op src := by
  cases op <;> rfl

/-- a completed step whose handler commutes with the erasure is a step of the view -/
theorem eview_stepC (x : Commit.Sys) (i : Nat) (op : Op) (ra : List Nat) (ord : List (List Nat)) (src : Nat)
    (h : (E σ0 (x.node i)).step (eraseOp σ0 (x.node i) op) ra ord = E σ0 ((x.node i).step op ra ord)) :
    eview (stepC x i op ra ord src) = stepC (eview x) i (eraseOp σ0 (x.node i) op) ra ord src := by
  unfold stepC stepRp stepSys
  simp only [eview_node, h]
  unfold eview withNodes
  simp only [ackOf_E, selfAck_E, newCommit_E, newCreated_E, voteGrant_E, countedBy_E, Commit.Sys.node, setNode_E]
  rfl

theorem eview_sendC (x : Commit.Sys) (q : AppendReq) : eview (sendC x q) = sendC (eview x) q := rfl


theorem eraseOp_eq (σ : SnapData) (s : Node) (op : Op) (h : ∀ t th, op ≠ .takeSnapshot t th) : eraseOp σ s op = op := by
  cases op <;> first | rfl | exact absurd rfl (h _ _)

theorem opOK_eraseOp {op : Op} (h : OpOKS op) (h1 : op ≠ .snapRun) (h2 : op ≠ .snapTaken) (σ : SnapData) (s : Node) :
    OpOK (eraseOp σ s op) := by
  cases op <;> first | exact h | trivial | exact absurd rfl h1 | exact absurd rfl h2

theorem counts_erase (σ : SnapData) (s s' : Node) (op : Op) (h : Counts (E σ0 s) (eraseOp σ s' op)) : Counts s op := by
  obtain ⟨hr, tm, hle, he⟩ := h
  refine ⟨hr, tm, hle, ?_⟩
  cases op <;> first | exact he | cases he

/-- what is enabled in the cluster (and is an operation of `Raft.Commit`) is enabled in its view -/
theorem enabled_eview {x : Commit.Sys} {i : Nat} {op : Op} {src : Nat} (h : Snap.Enabled x i op src)
    (h1 : op ≠ .snapRun) (h2 : op ≠ .snapTaken) :
    Commit.Enabled (eview x) i (eraseOp σ0 (x.node i) op) src := by
  refine ⟨⟨h.id, fun q hq => ?_, fun hc => ?_, opOK_eraseOp h.ok2.1 h1 h2 _ _, fun q hq => ?_⟩,
    ⟨opOK_eraseOp h.ok2.1 h1 h2 _ _, fun b hb => ?_, fun t c hc => ?_⟩, fun q hq => ?_, fun q hq => ?_,
    fun us hus u hu v hv => ?_⟩
  · cases op <;> first | cases hq | skip
    exact h.voteSrc _ rfl
  · exact h.real (counts_erase σ0 _ _ op hc)
  · cases op <;> first | cases hq | skip
    exact h.append _ rfl
  · cases op <;> first | cases hb | skip
    exact h.ok2.2.1 _ rfl
  · cases op <;> first | cases hc | skip
    exact h.ok2.2.2 _ _ rfl
  · cases op <;> first | cases hq | skip
    exact h.vote _ rfl
  · cases op <;> first | cases hq | skip
    exact h.appendSrc _ rfl
  · cases op <;> first | cases hus | skip
    exact h.upd _ rfl u hu v hv

/-- `.disconnected 0` (contact lost with node 0, which no node is) is enabled on every node: its handler only clears the
outputs of the previous step (`step_disconnected0`) -/
theorem enabled_disc0 (z : Commit.Sys) {i : Nat} (hi : i ≠ 0) (src : Nat) : Snap.Enabled z i (.disconnected 0) src := by
  refine ⟨hi, fun q hq => ?_, fun hc => ?_, ⟨trivial, fun b hb => ?_, fun t c hc => ?_⟩, fun q hq => ?_,
    fun q hq => ?_, fun q hq => ?_, fun us hus => ?_⟩
  · cases hq
  · obtain ⟨_, _, _, he⟩ := hc; cases he
  · cases hb
  · cases hc
  · cases hq
  · cases hq
  · cases hq
  · cases hus


def headOf (l : List SnapFile) : SnapFile := (l.head?).getD {}

/-- A list of snapshot files fits the log `es` with commit index `ci`: every file has a positive index not above
`ci` and holds the update payloads of `es` up to its index; the files are listed newest first. -/
structure FilesOK (es : List Entry) (ci : Nat) (l : List SnapFile) : Prop where
  files : ∀ f ∈ l, 1 ≤ f.index ∧ f.index ≤ ci ∧ f.data = ups (es.take f.index)
  sorted : l.Pairwise (fun a b => a.index > b.index)

theorem FilesOK.nil (es : List Entry) (ci : Nat) : FilesOK es ci [] :=
  ⟨fun f hf => (by cases hf), List.Pairwise.nil⟩

theorem FilesOK.le_head {es : List Entry} {ci : Nat} {l : List SnapFile} (h : FilesOK es ci l) :
    ∀ g ∈ l, g.index ≤ (headOf l).index := by
  cases l with
  | nil => intro g hg; cases hg
  | cons a as =>
    intro g hg
    show g.index ≤ a.index
    rcases List.mem_cons.mp hg with rfl | hg
    · exact Nat.le_refl _
    · exact Nat.le_of_lt ((List.pairwise_cons.mp h.sorted).1 g hg)

theorem FilesOK.head_le {es : List Entry} {ci : Nat} {l : List SnapFile} (h : FilesOK es ci l) :
    (headOf l).index ≤ ci := by
  cases l with
  | nil => exact Nat.zero_le _
  | cons a as => exact (h.files a (List.mem_cons_self ..)).2.1

theorem FilesOK.mono {es es' : List Entry} {ci ci' : Nat} {l : List SnapFile} (h : FilesOK es ci l)
    (hc : ci ≤ ci') (he : es'.take ci = es.take ci) : FilesOK es' ci' l := by
  refine ⟨fun f hf => ?_, h.sorted⟩
  obtain ⟨a, b, c⟩ := h.files f hf
  refine ⟨a, Nat.le_trans b hc, ?_⟩
  rw [c]
  rw [take_le_congr he b]

theorem FilesOK.sub {es : List Entry} {ci : Nat} {l l' : List SnapFile} (h : FilesOK es ci l)
    (hs : l'.Sublist l) : FilesOK es ci l' :=
  ⟨fun f hf => h.files f (hs.subset hf), h.sorted.sublist hs⟩

theorem insertSnap_front (f : SnapFile) (l : List SnapFile) (h : ∀ g ∈ l, g.index < f.index) :
    insertSnap f l = f :: l := by
  cases l with
  | nil => rfl
  | cons g gs =>
    unfold insertSnap
    rw [if_pos (h g (List.mem_cons_self ..))]

theorem FilesOK.cons {es : List Entry} {ci : Nat} {l : List SnapFile} (h : FilesOK es ci l) (f : SnapFile)
    (h1 : 1 ≤ f.index) (h2 : f.index ≤ ci) (h3 : f.data = ups (es.take f.index)) (h4 : (headOf l).index < f.index) :
    insertSnap f l = f :: l ∧ FilesOK es ci (f :: l) := by
  have hlt : ∀ g ∈ l, g.index < f.index := fun g hg => Nat.lt_of_le_of_lt (h.le_head g hg) h4
  refine ⟨insertSnap_front f l hlt, fun g hg => ?_, List.pairwise_cons.mpr ⟨fun g hg => hlt g hg, h.sorted⟩⟩
  rcases List.mem_cons.mp hg with rfl | hg
  · exact ⟨h1, h2, h3⟩
  · exact h.files g hg

/-- the snapshot data of one node fits its log -/
structure SnapOK (s : Node) : Prop where
  /-- `SnapshotsRetain ≥ 1`: the retention pass of `snapshotSink.done` keeps the file it has just written -/
  retain : 1 ≤ s.retain
  /-- every file on disk is the replay of a prefix of the log within the commit index; newest first -/
  files : FilesOK s.log.entries s.commitIndex s.snapsDisk
  /-- `snaps.index` is the index of the newest file (0 when there is none) -/
  head : s.snapIndex = (headOf s.snapsDisk).index
  /-- a snapshot is taken at the applied index, a restart and an installation restore the state machine to it -/
  le : s.snapIndex ≤ s.fsm.index

/-- **the invariant of the cluster with local snapshots**: the invariants of `Raft.Commit` for the cluster seen without
snapshot data, and the snapshot data of every node and of the ghost ledger of files fits the logs -/
structure SInv (V : List Nat) (x : Snap.Sys) : Prop where
  cinv : CInv V (eview x.cs)
  fsm : FsmInv (eview x.cs)
  snap : ∀ i, SnapOK (x.node i)
  /-- every recorded snapshot file fits the log of the node that stored it and is not beyond its snapshot index -/
  ledger : ∀ p ∈ x.snaps, 1 ≤ p.2.index ∧ p.2.index ≤ (x.node p.1).snapIndex ∧
    p.2.data = ups ((x.node p.1).log.entries.take p.2.index)

/-- **the ledger clause when node `i` is replaced by `n`**: the snapshot index of `n` is not lower, its log keeps the first
`K` entries for a `K` that covers the old snapshot index, and each of its files was on the old disk or fits its log -/
theorem ledger_replace {V : List Nat} {x : Snap.Sys} (hI : SInv V x) {i : Nat} {n : Node} {K : Nat}
    (hm : (x.node i).snapIndex ≤ n.snapIndex) (hK : (x.node i).snapIndex ≤ K)
    (hl : n.log.entries.take K = (x.node i).log.entries.take K)
    (hf : ∀ g ∈ n.snapsDisk, g ∈ (x.node i).snapsDisk ∨
      (1 ≤ g.index ∧ g.index ≤ n.snapIndex ∧ g.data = ups (n.log.entries.take g.index)))
    {cs' : Commit.Sys} (hN : cs'.rp.el.node = setNode x.cs.rp.el.node i n) :
    ∀ p ∈ newSnaps i (x.node i).snapsDisk n.snapsDisk ++ x.snaps, 1 ≤ p.2.index ∧
      p.2.index ≤ (cs'.node p.1).snapIndex ∧ p.2.data = ups ((cs'.node p.1).log.entries.take p.2.index) := by
  have hi : cs'.node i = n := by show cs'.rp.el.node i = n; rw [hN, setNode_same]
  intro p hp
  rcases List.mem_append.mp hp with hn | ho
  · unfold newSnaps at hn
    obtain ⟨g, hg, rfl⟩ := List.mem_map.mp hn
    obtain ⟨hg1, hg2⟩ := List.mem_filter.mp hg
    rw [hi]
    rcases hf g hg1 with hin | h
    · simp [hin] at hg2
    · exact h
  · obtain ⟨a, b, c⟩ := hI.ledger p ho
    by_cases h : p.1 = i
    · rw [h, hi]
      rw [h] at b c
      refine ⟨a, Nat.le_trans b hm, ?_⟩
      rw [take_le_congr hl (Nat.le_trans b hK)]; exact c
    · have hj : cs'.node p.1 = x.node p.1 := by show cs'.rp.el.node p.1 = _; rw [hN, setNode_other _ _ _ _ h]
      rw [hj]; exact ⟨a, b, c⟩


/-! ### an append request agrees with what the node's snapshot covers -/

/-- a key on the path to the anchor of a request that is not stale, at an index the node's commit index covers, is the
key the node's log holds there (`Commit.CoreI.reqok_key` for `CInv`) -/
theorem reqok_key {V : List Nat} {x : Commit.Sys} (hI : CInv V x) {i : Nat} {q : AppendReq}
    (hns : ¬ q.term < (x.node i).term) {c : CEntry} (hc : c ∈ x.T) (c1 : c.e.term = q.term) {k τ : Nat}
    (hec : Anc x.T (k, τ) (key c)) (h1 : 1 ≤ k) (hle : k ≤ (x.node i).commitIndex) :
    termAt (x.node i).log.entries k = τ :=
  (core_of_cinv hI).reqok_key (C02Sys.hlc hI) hns hc c1 hec h1 hle

theorem pairwise_of_idx (p : Nat) : ∀ (es : List Entry),
    (∀ k (h : k < es.length), es[k].index = p + k + 1) → es.Pairwise (fun a b => a.index < b.index) := by
  intro es
  induction es generalizing p with
  | nil => intro _; exact List.Pairwise.nil
  | cons e es ih =>
    intro h
    refine List.pairwise_cons.mpr ⟨fun b hb => ?_, ih (p + 1) (fun k hk => ?_)⟩
    · obtain ⟨j, hj, rfl⟩ := List.getElem_of_mem hb
      have h0 := h 0 (by simp)
      have hj' := h (j + 1) (by simp; omega)
      simp only [List.getElem_cons_zero] at h0
      simp only [List.getElem_cons_succ] at hj'
      omega
    · have := h (k + 1) (by simp; omega)
      simp only [List.getElem_cons_succ] at this
      omega

/-- **commit safety of the view gives `AppAgree`**: a request on the wire that is not stale agrees with the node's
log on everything the node's snapshot covers -/
theorem appAgree {V : List Nat} {x : Commit.Sys} (hI : CInv V (eview x)) {i : Nat} {q : AppendReq}
    (hq : q ∈ x.rp.sent) (hns : ¬ q.term < (x.node i).term) (hsc : (x.node i).snapIndex ≤ (x.node i).commitIndex) :
    AppAgree (x.node i) q := by
  have hn : NWF (E σ0 (x.node i)) := nwf hI i
  have hlast : (x.node i).lastLogIndex = (x.node i).log.entries.length := hn.last
  have hidx := (hI.rp.sent q hq).idx
  obtain ⟨c, hc, c1, c2, c3⟩ := hI.sent.anc q hq
  have hci : ∀ k, 1 ≤ k → k ≤ (x.node i).commitIndex → k ≤ (x.node i).log.entries.length :=
    fun k h1 h2 => (hI.cmt.cc i k h1 h2).1
  have het : ∀ k, 1 ≤ k → k ≤ (x.node i).log.entries.length →
      (x.node i).entryTerm? k = some (termAt (x.node i).log.entries k) := fun k h1 h2 => hn.entryTerm k h1 h2
  refine ⟨fun h0 hs => ?_, fun ne hne hs => ?_, pairwise_of_idx q.prevLogIndex q.entries hidx⟩
  · have hk : q.prevLogIndex ≤ (x.node i).commitIndex := Nat.le_trans hs hsc
    have hlen := hci _ h0 hk
    have ht : termAt (x.node i).log.entries q.prevLogIndex = q.prevLogTerm :=
      reqok_key hI (i := i) hns hc c1 (c3 h0) h0 hk
    refine ⟨by rw [hlast]; exact hlen, hk, fun he => ?_, fun _ => ?_⟩
    · have : (x.node i).lastLogTerm = lastTerm (x.node i).log.entries := hn.lastT
      rw [this, ← termAt_length, ← hlast, ← he]; exact ht
    · rw [het _ h0 hlen, ht]
  · have h1 : 1 ≤ ne.index := by
      obtain ⟨j, hj, rfl⟩ := List.getElem_of_mem hne
      rw [hidx j hj]; omega
    have hk : ne.index ≤ (x.node i).commitIndex := Nat.le_trans hs hsc
    have hlen := hci _ h1 hk
    have ht : termAt (x.node i).log.entries ne.index = ne.term :=
      reqok_key hI (i := i) hns hc c1 (c2 ne hne) h1 hk
    exact ⟨by rw [hlast]; exact hlen, by rw [het _ h1 hlen, ht]⟩


/-! ### a completed step of an operation of `Raft.Commit` -/

theorem plain_of_ok {op : Op} (hok : OpOKS op) (h1 : op ≠ .snapRun) (happ : ¬ ∃ q, op = .append q) : Plain op := by
  cases op <;> first | trivial | exact absurd rfl h1 | exact hok | exact absurd ⟨_, rfl⟩ happ

theorem sideV_eview {V : List Nat} {x : Commit.Sys} (h : SideV V x) : SideV V (eview x) := h

/-- the step commutes with the erasure: for an operation that does not read the snapshot data, and for an append
request by commit safety of the view -/
theorem step_comm {V : List Nat} {x : Snap.Sys} (hI : SInv V x) {i : Nat} {op : Op} {src : Nat}
    (en : Snap.Enabled x.cs i op src) (h1 : op ≠ .snapRun) (ra : List Nat) (ord : List (List Nat)) :
    (E σ0 (x.node i)).step (eraseOp σ0 (x.node i) op) ra ord = E σ0 ((x.node i).step op ra ord) := by
  by_cases happ : ∃ q, op = .append q
  · obtain ⟨q, rfl⟩ := happ
    show (E σ0 (x.node i)).step (.append q) ra ord = _
    by_cases hst : q.term < (x.node i).term
    · exact append_step_E_stale _ q ra ord hst
    · have hq : q ∈ x.cs.rp.sent := (en.append q rfl).resolve_left hst
      have so := hI.snap i
      have hsc : (x.node i).snapIndex ≤ (x.node i).commitIndex := by rw [so.head]; exact so.files.head_le
      exact append_step_E _ q ra ord (Or.inr ⟨rfl, appAgree hI.cinv hq hst hsc⟩)
  · refine step_E _ op ra ord ?_ ?_
    · exact plain_of_ok en.ok2.1 h1 happ
    · cases op <;> first | trivial | exact Nat.zero_le _

/-- the snapshot data is not touched by any operation of the system other than `snapRun` (`step_snap_frame`,
`append_snap_frame`) -/
theorem snap_frame_of_ok (s : Node) (op : Op) (ra : List Nat) (ord : List (List Nat)) (hok : OpOKS op)
    (h1 : op ≠ .snapRun) :
    (s.step op ra ord).snapIndex = s.snapIndex ∧ (s.step op ra ord).snapTerm = s.snapTerm ∧
    (s.step op ra ord).snapsDisk = s.snapsDisk ∧ ∀ p ∈ (s.step op ra ord).trace, p.2.snaps = s.snapsDisk := by
  by_cases happ : ∃ q, op = .append q
  · obtain ⟨q, rfl⟩ := happ
    exact append_snap_frame s q ra ord
  · exact step_snap_frame s op ra ord (plain_of_ok hok h1 happ)

theorem crash_snaps_eq (s : Node) (op : Op) (ra : List Nat) (ord : List (List Nat)) (k : Nat) (hok : OpOKS op)
    (h1 : op ≠ .snapRun) : (C05.crashDisk s op ra ord k).snaps = s.snapsDisk :=
  have hfr := (snap_frame_of_ok s op ra ord hok h1).2.2
  C05.crashDisk_of (D := fun d => d.snaps = s.snapsDisk) s op ra ord k rfl hfr.1 hfr.2

theorem step_keeps_snap (s : Node) (op : Op) (ra : List Nat) (ord : List (List Nat)) (hok : OpOKS op)
    (h1 : op ≠ .snapRun) :
    (s.step op ra ord).snapIndex = s.snapIndex ∧ (s.step op ra ord).snapsDisk = s.snapsDisk ∧
    (s.step op ra ord).retain = s.retain :=
  have f := snap_frame_of_ok s op ra ord hok h1
  ⟨f.1, f.2.2.1, step_retain s op ra ord⟩


/-- a completed step of `Raft.Commit`: the commit index does not decrease and the log keeps what it covered -/
theorem step_keep {V : List Nat} {x : Commit.Sys} {i : Nat} {op : Op} {ra : List Nat} {ord : List (List Nat)}
    {src : Nat} (sc : SC V x i op ra ord src) :
    (x.node i).commitIndex ≤ ((x.node i).step op ra ord).commitIndex ∧
    ((x.node i).step op ra ord).log.entries.take (x.node i).commitIndex =
      (x.node i).log.entries.take (x.node i).commitIndex := by
  have hI := sc.inv
  by_cases h0 : (x.node i).commitIndex = 0
  · rw [h0]; exact ⟨Nat.zero_le _, rfl⟩
  · obtain ⟨c1, _⟩ := hI.cmt.cc i (x.node i).commitIndex (by omega) (Nat.le_refl _)
    rcases SC.op_cases op with happ | ⟨q, rfl⟩
    · obtain ⟨es, te, _, hl⟩ := sc.newE happ
      refine ⟨?_, by rw [hl, List.take_append_of_le_length c1]⟩
      rcases (sc.nst happ).ci with c | ⟨T, c⟩
      · rw [c]; exact Nat.le_refl _
      · exact Nat.le_of_lt c.adv
    · by_cases hst : q.term < (x.node i).term
      · obtain ⟨s1, _, _, s4, _⟩ := append_stale _ q ra ord hst
        rw [s1, s4]; exact ⟨Nat.le_refl _, rfl⟩
      · obtain ⟨hq, fs⟩ := sc.fst hst
        have hnc := reqok hI (i := i) hq hst
        refine ⟨?_, (fs.keep _ c1 hnc).1⟩
        rcases fs.ci with c | ⟨c, _⟩
        · rw [c]; exact Nat.le_refl _
        · exact Nat.le_of_lt c

/-- the node that made a completed step of `Raft.Commit` without failing an assertion: `FB` holds of it again, and its
applied index did not decrease -/
theorem step_fb {V : List Nat} {x : Commit.Sys} {i : Nat} {op : Op} {ra : List Nat} {ord : List (List Nat)}
    {src : Nat} (sc : SC V x i op ra ord src) (hF : FB (x.node i))
    (hp : ((x.node i).step op ra ord).panicked = none) :
    FB ((x.node i).step op ra ord) ∧ (x.node i).fsm.index ≤ ((x.node i).step op ra ord).fsm.index := by
  have hI := sc.inv
  have he := sc.en
  have := fsm_step (x.node i) op ra ord (nwf hI i) (hI.node.lwf i) (hI.rp.el.ids i).2 he.ok2 hF
    (fun q hq hst => by
      subst hq
      have hq : q ∈ x.rp.sent := (he.rp.append q rfl).resolve_left hst
      refine ⟨(hI.rp.sent q hq).idx, reqok hI hq hst, ?_⟩
      by_cases h0 : (x.node i).commitIndex = 0
      · rw [h0]; exact Nat.zero_le _
      · exact (hI.cmt.cc i _ (by omega) (Nat.le_refl _)).1)
  obtain ⟨f, _, qk⟩ := this hp
  exact ⟨⟨f.weaken (Nat.zero_le _), qk⟩, f.mono⟩

theorem newSnaps_same (i : Nat) (l : List SnapFile) : newSnaps i l l = [] := by
  unfold newSnaps
  have : l.filter (fun f => !l.contains f) = [] := by
    apply List.filter_eq_nil_iff.mpr
    intro f hf
    simp [hf]
  rw [this]; rfl

theorem SnapOK.keep {s s' : Node} (h : SnapOK s) (e1 : s'.snapIndex = s.snapIndex) (e2 : s'.snapsDisk = s.snapsDisk)
    (e3 : s'.retain = s.retain) (hc : s.commitIndex ≤ s'.commitIndex)
    (hl : s'.log.entries.take s.commitIndex = s.log.entries.take s.commitIndex) (hf : s.fsm.index ≤ s'.fsm.index) :
    SnapOK s' :=
  ⟨by rw [e3]; exact h.retain, by rw [e2]; exact h.files.mono hc hl, by rw [e1, e2]; exact h.head,
    by rw [e1]; exact Nat.le_trans h.le hf⟩

/-- **a completed step of an operation of `Raft.Commit`** (anything but `.snapRun` / `.snapTaken`) -/
theorem sinv_step_commit {V : List Nat} (hV : V.Nodup) {x : Snap.Sys} (hI : SInv V x) (hS : SideS V x) {i : Nat}
    {op : Op} {ra : List Nat} {ord : List (List Nat)} {src : Nat} (en : Snap.Enabled x.cs i op src)
    (hp : ((x.node i).step op ra ord).panicked = none) (h1 : op ≠ .snapRun) (h2 : op ≠ .snapTaken) :
    SInv V { cs := stepC x.cs i op ra ord src
             snaps := newSnaps i (x.node i).snapsDisk ((x.node i).step op ra ord).snapsDisk ++ x.snaps } := by
  have hcomm := step_comm hI en h1 ra ord
  have sc : SC V (eview x.cs) i (eraseOp σ0 (x.node i) op) ra ord src :=
    ⟨hV, hI.cinv, sideV_eview hS.sideV, enabled_eview en h1 h2⟩
  have hpost : ((eview x.cs).node i).step (eraseOp σ0 (x.node i) op) ra ord = E σ0 ((x.node i).step op ra ord) := hcomm
  have hkeep := step_keep sc
  have hfb := step_fb sc (hI.fsm i) (by rw [hpost]; exact hp)
  rw [hpost] at hkeep hfb
  have hkeep : (x.node i).commitIndex ≤ ((x.node i).step op ra ord).commitIndex ∧
      ((x.node i).step op ra ord).log.entries.take (x.node i).commitIndex =
        (x.node i).log.entries.take (x.node i).commitIndex := hkeep
  have hfb : FB (E σ0 ((x.node i).step op ra ord)) ∧ (x.node i).fsm.index ≤ ((x.node i).step op ra ord).fsm.index := hfb
  obtain ⟨k1, k2, k3⟩ := step_keeps_snap (x.node i) op ra ord en.ok2.1 h1
  have hso : SnapOK ((x.node i).step op ra ord) := (hI.snap i).keep k1 k2 k3 hkeep.1 hkeep.2 hfb.2
  refine ⟨?_, fun j => ?_, fun j => ?_, fun p hp' => ?_⟩
  · show CInv V (eview (stepC x.cs i op ra ord src))
    rw [eview_stepC _ _ _ _ _ _ hcomm]
    exact sc.cinv
  · show FB ((eview (stepC x.cs i op ra ord src)).node j)
    rw [eview_stepC _ _ _ _ _ _ hcomm]
    exact NodeSys.forall_setNode (P := fun _ m => FB m) (by rw [hpost]; exact hfb.1) (fun j _ => hI.fsm j) j
  · exact NodeSys.forall_setNode (P := fun _ m => SnapOK m) hso (fun j _ => hI.snap j) j
  · have so := hI.snap i
    exact ledger_replace hI (Nat.le_of_eq k1.symm) (by rw [so.head]; exact so.files.head_le) hkeep.2
      (fun g hg => Or.inl (k2 ▸ hg)) rfl p hp'


/-! ### a step that touches nothing the ledgers record -/

/-- the state after node `i` made a step to `post` that acknowledged nothing, created nothing, committed nothing -/
def quietC (x : Commit.Sys) (i : Nat) (post : Node) : Commit.Sys :=
  { rp := { el := { node := setNode x.rp.el.node i post
                    grants := x.rp.el.grants
                    counted := x.rp.el.counted
                    won := (if post.role = .leader then [(i, post.term)] else []) ++ x.rp.el.won }
            sent := x.rp.sent
            created := x.rp.created }
    acks := x.acks
    camps := x.camps
    committed := x.committed }

/-- the operation is not a request or response the ledgers look at -/
def QuietOp : Op → Prop
  | .vote _ => False
  | .append _ => False
  | .voteResult _ _ _ => False
  | _ => True

theorem stepL_quiet (z : Commit.Sys) (i : Nat) (op : Op) (src : Nat) (P : Node)
    (hop : QuietOp op) (ht : P.term = (z.node i).term) (hl : P.log.entries = (z.node i).log.entries)
    (hc : P.commitIndex = (z.node i).commitIndex) : Snap2.stepL z i op src P = quietC z i P := by
  have e1 : voteGrant i op P = [] := by cases op <;> first | rfl | exact hop.elim
  have e2 : selfGrant i (z.node i) P = [] := by
    unfold selfGrant; rw [if_neg (by rw [ht]; omega)]
  have e3 : countedBy i (z.node i) op src = [] := by cases op <;> first | rfl | exact hop.elim
  have e4 : newCreated i (z.node i).log.entries P.log.entries op = [] := by
    rw [hl]
    cases op <;> first | exact hop.elim | (show chainOf i _ (List.drop _ _) = []; rw [List.drop_length]; rfl)
  have e5 : ackOf i op P = [] := by cases op <;> first | rfl | exact hop.elim
  have hlc : ¬ LeaderCommit op (z.node i) P := by
    intro h; have := h.2; rw [hc] at this; omega
  have e6 : selfAck i op (z.node i) P = [] := by unfold selfAck; rw [if_neg hlc]
  have e7 : campOf i (z.node i) P = [] := by
    unfold campOf; rw [if_neg (by rw [ht]; omega)]
  have e8 : newCommit op (z.node i) P = [] := by unfold newCommit; rw [if_neg hlc]
  unfold Snap2.stepL quietC
  simp only [Commit.Sys.node] at *
  rw [e1, e2, e3, e4, e5, e6, e7, e8]
  rfl

theorem stepC_quiet (x : Commit.Sys) (i : Nat) (op : Op) (ra : List Nat) (ord : List (List Nat)) (src : Nat)
    (hop : QuietOp op) (ht : ((x.node i).step op ra ord).term = (x.node i).term)
    (hl : ((x.node i).step op ra ord).log.entries = (x.node i).log.entries)
    (hc : ((x.node i).step op ra ord).commitIndex = (x.node i).commitIndex) :
    stepC x i op ra ord src = quietC x i ((x.node i).step op ra ord) :=
  stepL_quiet x i op src _ hop ht hl hc


/-- `snapRun` keeps the snapshot data right: a new file is the state machine's `(index, applied)`, which fits the
log because the state machine holds the payloads of the applied prefix (`FsmOK`) -/
theorem snapRun_snapOK (s : Node) (h : SnapOK s) (hf : FsmOK 0 s) :
    SnapOK s.snapRun ∧ s.snapIndex ≤ s.snapRun.snapIndex ∧
    ∀ g ∈ s.snapRun.snapsDisk, g ∈ s.snapsDisk ∨
      (1 ≤ g.index ∧ g.index ≤ s.snapRun.snapIndex ∧ g.data = ups (s.log.entries.take g.index)) := by
  obtain ⟨o1, o2, _⟩ := snapRun_obs s
  have hlog : s.snapRun.log = s.log := congrArg (fun p => p.2.2.2.2.2.1) o1
  have hci : s.snapRun.commitIndex = s.commitIndex := congrArg (fun p => p.1) o2
  have hfsm : s.snapRun.fsm = s.fsm := congrArg (fun p => p.2.1) o2
  have hret : s.snapRun.retain = s.retain := by rw [Node.snapRun_shape]
  have same : s.snapRun.snapsDisk = s.snapsDisk → s.snapRun.snapIndex = s.snapIndex →
      SnapOK s.snapRun ∧ s.snapIndex ≤ s.snapRun.snapIndex ∧
      ∀ g ∈ s.snapRun.snapsDisk, g ∈ s.snapsDisk ∨
        (1 ≤ g.index ∧ g.index ≤ s.snapRun.snapIndex ∧ g.data = ups (s.log.entries.take g.index)) := by
    intro e1 e2
    refine ⟨⟨by rw [hret]; exact h.retain, by rw [hlog, hci, e1]; exact h.files, by rw [e1, e2]; exact h.head,
      by rw [e2, hfsm]; exact h.le⟩, by rw [e2]; exact Nat.le_refl _, fun g hg => Or.inl (by rw [← e1]; exact hg)⟩
  cases hp : s.snapPending with
  | none => rw [C09.snapRun_idle s hp]; rw [C09.snapRun_idle s hp] at same; exact same rfl rfl
  | some rq =>
    by_cases hr : s.fsm.index = s.snapIndex ∨ s.fsm.index < rq.minIndex
    · obtain ⟨e1, e2, _⟩ := (C09.snapRun_refusal s rq hp).2 hr
      exact same e1 e2
    · have hne : s.fsm.index ≠ s.snapIndex := fun e => hr (Or.inl e)
      have hge : rq.minIndex ≤ s.fsm.index := Nat.le_of_not_lt (fun e => hr (Or.inr e))
      have hle := h.le
      obtain ⟨e1, e2, _⟩ := C09.snapshot_at_applied_index s rq hp hne hge
      have hlt : (headOf s.snapsDisk).index < (C09.snapFileOf s rq).index := by
        show _ < s.fsm.index
        rw [← h.head]
        have := h.le
        omega
      have hpos : 1 ≤ (C09.snapFileOf s rq).index := by show 1 ≤ s.fsm.index; omega
      obtain ⟨c1, c2⟩ := h.files.cons (C09.snapFileOf s rq) hpos hf.le hf.applied hlt
      obtain ⟨r, hr'⟩ : ∃ r, s.retain = r + 1 := ⟨s.retain - 1, by have := h.retain; omega⟩
      have htake : s.snapRun.snapsDisk = C09.snapFileOf s rq :: s.snapsDisk.take r := by
        rw [e1, c1, hr']; rfl
      have hsub : (C09.snapFileOf s rq :: s.snapsDisk.take r).Sublist (C09.snapFileOf s rq :: s.snapsDisk) :=
        (List.take_sublist r s.snapsDisk).cons_cons _
      refine ⟨⟨by rw [hret]; exact h.retain, ?_, ?_, by rw [e2, hfsm]; exact Nat.le_refl _⟩,
        by rw [e2]; exact h.le, fun g hg => ?_⟩
      · rw [hlog, hci, htake]; exact c2.sub hsub
      · rw [e2, htake]; rfl
      · rw [htake] at hg
        rcases List.mem_cons.mp hg with rfl | hg
        · exact Or.inr ⟨hpos, by rw [e2]; exact Nat.le_refl _, hf.applied⟩
        · exact Or.inl (List.mem_of_mem_take hg)


theorem robs_E (s : Node) : robs (E σ0 s) = (pobs s, 0, []) := rfl

/-- what a step that only concerns the snapshots (or only flushes / regroups the log) does to a node: the fields the
cluster invariants read are untouched — the log may be flushed further —, the snapshot files on disk stay consistent
with the log, new files are snapshots of a prefix of the log -/
structure SnapStep (pre post : Node) : Prop where
  feq : FieldEq (E σ0 post) (E σ0 pre)
  lobs : SnapSim.lobs post = SnapSim.lobs pre
  ok : SnapOK post
  mono : pre.snapIndex ≤ post.snapIndex
  files : ∀ g ∈ post.snapsDisk, g ∈ pre.snapsDisk ∨
    (1 ≤ g.index ∧ g.index ≤ post.snapIndex ∧ g.data = ups (pre.log.entries.take g.index))

theorem snapStep (s : Node) (op : Op) (ra : List Nat) (ord : List (List Nat)) (h : SnapOK s) (hf : FsmOK 0 s)
    (hop : op = .snapRun ∨ (op = .snapTaken ∧ (s.step op ra ord).log = s.log)) :
    SnapStep s (s.step op ra ord) := by
  rcases hop with rfl | ⟨rfl, hlog⟩
  · rw [snapRun_step_eq]
    have hb : SnapOK (s.begin ra ord) := ⟨h.retain, h.files, h.head, h.le⟩
    have hfb : FsmOK 0 (s.begin ra ord) := ⟨hf.le, hf.len, hf.applied, hf.mono⟩
    obtain ⟨a, b, c⟩ := snapRun_snapOK (s.begin ra ord) hb hfb
    obtain ⟨o1, o2, _⟩ := snapRun_obs (s.begin ra ord)
    exact ⟨fieldEq_of_robs (by rw [robs_E, robs_E, o1]; rfl), o2, a, b, c⟩
  · rw [snapTaken_step_eq] at hlog ⊢
    have hq := onSnapshotTaken_qobs (s.begin ra ord)
    obtain ⟨o1, o2⟩ := pobs_of_qobs hq hlog
    unfold qobs at hq
    simp only [Prod.mk.injEq] at hq
    obtain ⟨_, _, ⟨q1, _, q3⟩, _⟩ := hq
    have hret : (s.begin ra ord).onSnapshotTaken.retain = s.retain :=
      (snapTaken_step_eq s ra ord) ▸ step_retain s .snapTaken ra ord
    have hl2 := lfieldEq_of_lobs o2
    refine ⟨fieldEq_of_robs (by rw [robs_E, robs_E, o1]; rfl), o2, ?_, by rw [q1]; exact Nat.le_refl _,
      fun g hg => Or.inl (by rw [q3] at hg; exact hg)⟩
    refine ⟨by rw [hret]; exact h.retain, ?_, by rw [q1, q3]; exact h.head, by rw [q1, hl2.fsm]; exact h.le⟩
    rw [hlog, hl2.commitIndex, q3]
    exact h.files


theorem quietC_node_i (x : Commit.Sys) (i : Nat) (post : Node) : (quietC x i post).node i = post :=
  setNode_same _ _ _

/-- in the view, a quiet step of the cluster is the quiet step of the view to any node with the same role and term,
up to the nodes -/
theorem eview_quietC (x : Commit.Sys) (i : Nat) (post post0 : Node) (hr : post0.role = post.role)
    (ht : post0.term = post.term) :
    eview (quietC x i post) = withNodes (quietC (eview x) i post0) (fun j => E σ0 ((quietC x i post).node j)) := by
  unfold eview withNodes quietC
  simp only [hr, ht]

/-- node `i` of the cluster `cs'` is `post`, which differs from the node of `x` as after a `SnapStep`; the other nodes are
those of `x`; the view of `cs'` is a cluster `z` that has the invariants of `Raft.Commit`, with the nodes replaced — node `i`
of `z` agreeing with the erased `post` on what those invariants read -/
theorem sinv_of_snapStep {V : List Nat} {x : Snap.Sys} (hI : SInv V x) {i : Nat} {post : Node}
    (ss : SnapStep (x.node i) post) {cs' z : Commit.Sys} (hN : cs'.rp.el.node = setNode x.cs.rp.el.node i post)
    (cz : CInv V z) (fz : FsmInv z) (hview : eview cs' = withNodes z (fun j => E σ0 (cs'.node j)))
    (fi : FieldEq (E σ0 post) (z.node i)) (li : LFieldEq (E σ0 post) (z.node i))
    (hzj : ∀ j, j ≠ i → z.node j = E σ0 (x.node j)) :
    SInv V { cs := cs', snaps := newSnaps i (x.node i).snapsDisk post.snapsDisk ++ x.snaps } := by
  have hlogeq : post.log.entries = (x.node i).log.entries := ss.feq.entries
  have hnode : ∀ {P : Nat → Node → Prop}, P i post → (∀ j, j ≠ i → P j (x.node j)) → ∀ j, P j (cs'.node j) :=
    @fun P h1 h2 j => by show P j (cs'.rp.el.node j); rw [hN]; exact NodeSys.forall_setNode h1 h2 j
  have hb := bump_fe cz fz (N := fun j => E σ0 (cs'.node j))
    (hnode (P := fun j m => FieldEq (E σ0 m) (z.node j)) fi (fun j hj => by rw [hzj j hj]; exact fieldEq_of_robs rfl))
    (hnode (P := fun j m => LFieldEq (E σ0 m) (z.node j) ∨ FollowerOK z (E σ0 m)) (Or.inl li)
      (fun j hj => Or.inl (by rw [hzj j hj]; exact lfieldEq_of_lobs rfl)))
  exact ⟨by rw [hview]; exact hb.1, by rw [hview]; exact hb.2,
    hnode (P := fun _ m => SnapOK m) ss.ok (fun j _ => hI.snap j),
    ledger_replace hI ss.mono (Nat.le_refl _) (by rw [hlogeq])
      (fun g hg => (ss.files g hg).imp id (fun ⟨a, b, c⟩ => ⟨a, b, by rw [hlogeq]; exact c⟩)) hN⟩

/-- `begin` clears outputs only -/
theorem fieldEq_begin {a b : Node} (h : FieldEq a b) (ra : List Nat) (ord : List (List Nat)) : FieldEq a (b.begin ra ord) :=
  ⟨h.nid, h.term, h.votedFor, h.durTerm, h.durVote, h.entries, h.prev, h.flushed, h.lwf, h.lastLogIndex, h.lastLogTerm,
    h.role, h.votesNeeded, h.snapIndex, h.snapsDisk⟩

/-- … and neither `begin` nor the erasure touches what `LFieldEq` reads -/
theorem lfieldEq_E_begin {a b : Node} (h : LFieldEq a b) (σ : SnapData) (ra : List Nat) (ord : List (List Nat)) :
    LFieldEq (E σ a) ((E σ b).begin ra ord) :=
  ⟨h.commitIndex, h.fsm, h.configs, h.numVoters, h.startIndex, h.repls, h.queue⟩

/-- **node `i` moves to `post` by a step that only concerns the snapshots, or only flushes / regroups its log**
(`SnapStep`); nothing is acknowledged, created or committed -/
theorem sinv_quiet {V : List Nat} (hV : V.Nodup) {x : Snap.Sys} (hI : SInv V x) (hS : SideS V x) {i : Nat}
    (hi : i ≠ 0) {post : Node} (ss : SnapStep (x.node i) post) :
    SInv V { cs := quietC x.cs i post
             snaps := newSnaps i (x.node i).snapsDisk post.snapsDisk ++ x.snaps } := by
  have pe := ss.feq
  have le := lfieldEq_of_lobs ss.lobs
  -- the view makes a step that only clears the outputs of the previous step
  have h0 : ((eview x.cs).node i).step (.disconnected 0) [] [] = (E σ0 (x.node i)).begin [] [] :=
    step_disconnected0 _ [] []
  have en0 : Commit.Enabled (eview x.cs) i (.disconnected 0) 0 :=
    enabled_eview (enabled_disc0 x.cs hi 0) (fun h => nomatch h) (fun h => nomatch h)
  have sc0 : SC V (eview x.cs) i (.disconnected 0) [] [] 0 := ⟨hV, hI.cinv, sideV_eview hS.sideV, en0⟩
  have hz : stepC (eview x.cs) i (.disconnected 0) [] [] 0 = quietC (eview x.cs) i ((E σ0 (x.node i)).begin [] []) := by
    rw [stepC_quiet (eview x.cs) i (.disconnected 0) [] [] 0 trivial (by rw [h0]; rfl) (by rw [h0]; rfl)
      (by rw [h0]; rfl), h0]
  have cz : CInv V (quietC (eview x.cs) i ((E σ0 (x.node i)).begin [] [])) := hz ▸ sc0.cinv
  have fz : FsmInv (quietC (eview x.cs) i ((E σ0 (x.node i)).begin [] [])) := fun j =>
    NodeSys.forall_setNode (P := fun _ m => FB m)
      (by have := (step_fb sc0 (hI.fsm i) (by rw [h0]; rfl)).1; rw [h0] at this; exact this) (fun j _ => hI.fsm j) j
  refine sinv_of_snapStep hI ss rfl cz fz
    (eview_quietC x.cs i _ _ pe.role.symm pe.term.symm) ?_ ?_ (fun _ hj => setNode_other _ _ _ _ hj)
  · rw [quietC_node_i]
    exact fieldEq_begin pe [] []
  · rw [quietC_node_i]
    exact lfieldEq_E_begin le σ0 [] []

/-- **node `i` is replaced by `post`, which differs from it as after a step that only concerns the snapshots or only
flushes / regroups its log** (`SnapStep`); the ledgers stay as they are -/
theorem sinv_regroup {V : List Nat} {x : Snap.Sys} (hI : SInv V x) {i : Nat} {post : Node}
    (ss : SnapStep (x.node i) post) :
    SInv V { cs := withNodes x.cs (setNode x.cs.rp.el.node i post)
             snaps := newSnaps i (x.node i).snapsDisk post.snapsDisk ++ x.snaps } := by
  have le := lfieldEq_of_lobs ss.lobs
  exact sinv_of_snapStep hI ss rfl hI.cinv hI.fsm rfl ss.feq
    ⟨le.commitIndex, le.fsm, le.configs, le.numVoters, le.startIndex, le.repls, le.queue⟩ (fun _ _ => rfl)

/-- **a completed snapshot operation** (`.snapRun`, or `.snapTaken` that does not compact) -/
theorem sinv_step_snap {V : List Nat} (hV : V.Nodup) {x : Snap.Sys} (hI : SInv V x) (hS : SideS V x) {i : Nat}
    {op : Op} {ra : List Nat} {ord : List (List Nat)} {src : Nat} (hi : i ≠ 0)
    (hop : op = .snapRun ∨ (op = .snapTaken ∧ ((x.node i).step op ra ord).log = (x.node i).log)) :
    SInv V { cs := stepC x.cs i op ra ord src
             snaps := newSnaps i (x.node i).snapsDisk ((x.node i).step op ra ord).snapsDisk ++ x.snaps } := by
  have fbi : FB (E σ0 (x.node i)) := hI.fsm i
  have hf : FsmOK 0 (x.node i) := ⟨fbi.fsm.le, fbi.fsm.len, fbi.fsm.applied, fbi.fsm.mono⟩
  have ss := snapStep (x.node i) op ra ord (hI.snap i) hf hop
  have le := lfieldEq_of_lobs ss.lobs
  have hq : QuietOp op := by rcases hop with rfl | ⟨rfl, _⟩ <;> trivial
  have hstep : stepC x.cs i op ra ord src = quietC x.cs i ((x.node i).step op ra ord) :=
    stepC_quiet x.cs i op ra ord src hq ss.feq.term ss.feq.entries le.commitIndex
  rw [hstep]
  exact sinv_quiet hV hI hS hi ss


/-! ### a crash: what the disk keeps of the committed prefix -/

theorem take_of_prefix_append {d pre es : List Entry} (hp : d <+: pre ++ es) {K : Nat} (h1 : K ≤ d.length)
    (h2 : K ≤ pre.length) : d.take K = pre.take K := by
  have hd : d = (pre ++ es).take d.length := (List.prefix_iff_eq_take.mp hp)
  rw [hd, List.take_take, Nat.min_eq_left h1, List.take_append_of_le_length h2]

/-- **whatever the disk holds when the process dies** (`Raft.Commit`): up to the commit index, and as far as the
log on disk reaches, it holds the entries the log held before the step -/
theorem crash_keep {V : List Nat} {x : Commit.Sys} {i : Nat} {op : Op} {ra : List Nat} {ord : List (List Nat)}
    {src : Nat} (sc : SC V x i op ra ord src) (k K : Nat) (hK : K ≤ (x.node i).commitIndex)
    (hd : K ≤ (C05.crashDisk (x.node i) op ra ord k).log.entries.length) :
    (C05.crashDisk (x.node i) op ra ord k).log.entries.take K = (x.node i).log.entries.take K := by
  have hI := sc.inv
  have hn := nwf hI i
  by_cases h0 : K = 0
  · rw [h0]; rfl
  have hlen : K ≤ (x.node i).log.entries.length := (hI.cmt.cc i K (by omega) hK).1
  rcases SC.op_cases op with happ | ⟨q, rfl⟩
  · obtain ⟨es, te, _, hl⟩ := sc.newE happ
    rcases (sc.img k).within happ with w | w
    · exact take_of_prefix_append (es := []) (by rw [List.append_nil]; exact w) hd hlen
    · rw [hl] at w
      exact take_of_prefix_append w hd hlen
  · have hcases := C04Sys.crashDisk_cases (x.node i) (.append q) ra ord k
    generalize C05.crashDisk (x.node i) (.append q) ra ord k = d at hcases hd ⊢
    have hpre : (x.node i).durable.log.entries <+: (x.node i).log.entries := by
      rw [show (x.node i).durable.log = (x.node i).log.durable from rfl, durable_entries hn]
      exact List.take_prefix _ _
    by_cases hst : q.term < (x.node i).term
    · obtain ⟨s1, _, _, _, s5, _⟩ := append_stale (x.node i) q ra ord hst
      rcases hcases with e | ⟨p, hp, _⟩ | e
      · rw [e] at hd ⊢
        exact take_of_prefix_append (es := []) (by rw [List.append_nil]; exact hpre) hd hlen
      · rw [s5] at hp; cases hp
      · rw [e] at hd ⊢
        have : ((x.node i).step (.append q) ra ord).durable.log.entries <+: (x.node i).log.entries := by
          show ((x.node i).step (.append q) ra ord).log.durable.entries <+: _
          rw [s1]; exact hpre
        exact take_of_prefix_append (es := []) (by rw [List.append_nil]; exact this) hd hlen
    · obtain ⟨hq, fs⟩ := sc.fst hst
      have hnc := reqok hI (i := i) hq hst
      have hpath : Path x.T (x.node i).log.entries := log_path hI i
      have fi := follower_step (T := x.T) (x.node i) q ra ord hn (hI.rp.nodes i).2 (Or.inr (hI.rp.sent q hq))
      -- the disk: a path of the tree whose entries come from the old log or from the request
      have key : Path x.T d.log.entries ∧ ∀ e ∈ d.log.entries, e ∈ (x.node i).log.entries ∨ e ∈ q.entries := by
        rcases hcases with e | ⟨p, hp, e⟩ | e
        · rw [e]
          exact ⟨hpath.prefix hpre, fun e he => Or.inl (hpre.subset he)⟩
        · rw [e]
          have dk := fi.tr p hp
          exact ⟨⟨dk.2.2.1, dk.2.2.2⟩, (fs.tr p hp).src⟩
        · rw [e]
          have hpp : ((x.node i).step (.append q) ra ord).durable.log.entries <+:
              ((x.node i).step (.append q) ra ord).log.entries := by
            rw [show ((x.node i).step (.append q) ra ord).durable.log =
              ((x.node i).step (.append q) ra ord).log.durable from rfl, durable_entries fi.nwf]
            exact List.take_prefix _ _
          exact ⟨(Path.prefix ⟨fi.chain, fi.nwf.contig⟩ hpp), fun e he => fs.src e (hpp.subset he)⟩
      obtain ⟨pd, hsrc⟩ := key
      refine take_of_paths (uniq hI) pd hpath hd hlen ?_
      -- the entry at index `K` on disk
      have hKd : K - 1 < d.log.entries.length := by omega
      have hmem : d.log.entries[K - 1] ∈ d.log.entries := List.getElem_mem hKd
      have hidx : d.log.entries[K - 1].index = K := by rw [pd.2 (K - 1) hKd]; omega
      have hterm : termAt d.log.entries K = d.log.entries[K - 1].term := by
        unfold termAt
        rw [if_neg h0, List.getElem?_eq_getElem hKd]; rfl
      rw [hterm]
      rcases hsrc _ hmem with m | m
      · have := holds_of_mem hn.contig m
        rw [hidx] at this
        exact this.2.2.symm
      · have := hnc _ m (by rw [hidx]; exact hK)
        rw [hidx] at this
        exact this.symm


/-- the snapshot files on disk whenever the process dies fit the log and the commit index of the state the step
started from, and the newest is not older than the node's snapshot index -/
theorem crash_snaps (s : Node) (op : Op) (ra : List Nat) (ord : List (List Nat)) (k : Nat) (hok : OpOKS op)
    (h : SnapOK s) (hf : FsmOK 0 s) :
    FilesOK s.log.entries s.commitIndex (C05.crashDisk s op ra ord k).snaps ∧
    s.snapIndex ≤ (headOf (C05.crashDisk s op ra ord k).snaps).index := by
  have same : (C05.crashDisk s op ra ord k).snaps = s.snapsDisk →
      FilesOK s.log.entries s.commitIndex (C05.crashDisk s op ra ord k).snaps ∧
      s.snapIndex ≤ (headOf (C05.crashDisk s op ra ord k).snaps).index := by
    intro e; rw [e]; exact ⟨h.files, by rw [h.head]; exact Nat.le_refl _⟩
  by_cases hr : op = .snapRun
  · subst hr
    rcases (snap_crashDisk s .snapRun ra ord k (Or.inl rfl)).2 with e | ⟨rq, _, hp, hne, hge, e⟩
    · exact same e
    · have hlt : (headOf s.snapsDisk).index < (C09.snapFileOf s rq).index := by
        show _ < s.fsm.index
        rw [← h.head]
        have := h.le
        omega
      have hpos : 1 ≤ (C09.snapFileOf s rq).index := by have := h.le; show 1 ≤ s.fsm.index; omega
      obtain ⟨c1, c2⟩ := h.files.cons (C09.snapFileOf s rq) hpos hf.le hf.applied hlt
      have hle : s.snapIndex ≤ (C09.snapFileOf s rq).index := h.le
      rcases e with e | e
      · rw [e, c1]; exact ⟨c2, hle⟩
      · obtain ⟨r, hr'⟩ : ∃ r, s.retain = r + 1 := ⟨s.retain - 1, by have := h.retain; omega⟩
        rw [e, c1, hr']
        exact ⟨c2.sub ((List.take_sublist r s.snapsDisk).cons_cons _), hle⟩
  · exact same (crash_snaps_eq s op ra ord k hok hr)

/-- in the view, the state after a crash is the state after the view's crash, up to the nodes -/
theorem eview_crashC (x : Commit.Sys) (i : Nat) (op op' : Op) (n n0 : Node)
    (hnc : ∀ a b, newCreated i a b op' = newCreated i a b op) (hl : n0.log = n.log) (ht : n0.term = n.term)
    (hv : n0.votedFor = n.votedFor) :
    eview (crashC x i op n) = withNodes (crashC (eview x) i op' n0) (fun j => E σ0 ((crashC x i op n).node j)) := by
  unfold eview withNodes crashC crashRp campOf
  simp only [Commit.Sys.node, hnc, hl, ht, hv]
  rfl


theorem ups_nil : ups [] = [] := rfl

/-- the crash of the view: the view crashes in the erased operation at the same storage point — for the two snapshot
operations, whose storage points the view does not have, before the first storage point of a trivial one — and is left
with the erased disk -/
theorem crash_view {V : List Nat} {x : Snap.Sys} (hI : SInv V x) {i : Nat} {op : Op} (ra : List Nat) (ord : List (List Nat))
    {src : Nat} (k : Nat) (en : Snap.Enabled x.cs i op src)
    (hlog : op = .snapTaken → ((x.node i).step op ra ord).log = (x.node i).log) :
    ∃ op' k', Commit.Enabled (eview x.cs) i op' src ∧
      C05.crashDisk (E σ0 (x.node i)) op' ra ord k' = eraseD σ0 (C05.crashDisk (x.node i) op ra ord k) ∧
      ∀ a b, newCreated i a b op' = newCreated i a b op := by
  by_cases hsnap : op = .snapRun ∨ op = .snapTaken
  · refine ⟨.disconnected 0, 0,
      enabled_eview (enabled_disc0 x.cs en.id src) (fun h => nomatch h) (fun h => nomatch h), ?_, ?_⟩
    · have := (snap_crashDisk (x.node i) op ra ord k
        (hsnap.imp id (fun h => ⟨h, hlog h⟩))).1
      rw [this]; rfl
    · intro a b
      rcases hsnap with rfl | rfl <;> rfl
  · have h1 : op ≠ .snapRun := fun h => hsnap (Or.inl h)
    have h2 : op ≠ .snapTaken := fun h => hsnap (Or.inr h)
    exact ⟨eraseOp σ0 (x.node i) op, k, enabled_eview en h1 h2,
      C05.crashDisk_comm (E σ0) (eraseD σ0) (fun _ => rfl) (fun _ => rfl) _ op _ ra ord (step_comm hI en h1 ra ord) k, fun a b => newCreated_E i op _ a b⟩

/-- **a crash at any storage point of any enabled operation, and the restart from disk (log, term, vote, snapshot
files)** -/
theorem sinv_crash {V : List Nat} (hV : V.Nodup) {x : Snap.Sys} (hI : SInv V x) (hS : SideS V x) {i : Nat}
    {op : Op} {ra : List Nat} {ord : List (List Nat)} {src k retain : Nat} {sor : Bool} {n : Node}
    (en : Snap.Enabled x.cs i op src) (hret : 1 ≤ retain)
    (hlog : op = .snapTaken → ((x.node i).step op ra ord).log = (x.node i).log)
    (hn : Node.restart (C05.crashDisk (x.node i) op ra ord k) retain sor = some n)
    (hprev : n.log.prev = 0) (hdec : ∀ e ∈ n.log.entries, e.typ = etConfig → e.cfg.isSome = true) :
    SInv V { cs := crashC x.cs i op n
             snaps := newSnaps i (x.node i).snapsDisk n.snapsDisk ++ x.snaps } := by
  have fbi : FB (E σ0 (x.node i)) := hI.fsm i
  have hf : FsmOK 0 (x.node i) := ⟨fbi.fsm.le, fbi.fsm.len, fbi.fsm.applied, fbi.fsm.mono⟩
  have so := hI.snap i
  obtain ⟨hfiles, hsn⟩ := crash_snaps (x.node i) op ra ord k en.ok2.1 so hf
  obtain ⟨op', k', en', hdisk, hnc⟩ := crash_view hI ra ord k en hlog
  generalize hd : C05.crashDisk (x.node i) op ra ord k = d at hn hfiles hsn hdisk
  have sc : SC V (eview x.cs) i op' ra ord src := ⟨hV, hI.cinv, sideV_eview hS.sideV, en'⟩
  -- the log on disk reaches the newest snapshot, and agrees with the old log up to there
  obtain ⟨hreach, hdp, hnst⟩ := restart_noreset d retain sor n hn hprev
  have hKci : (headOf d.snaps).index ≤ (x.node i).commitIndex := hfiles.head_le
  have hagree : ∀ K, K ≤ (headOf d.snaps).index → d.log.entries.take K = (x.node i).log.entries.take K := by
    intro K hK
    have hdisk' : C05.crashDisk ((eview x.cs).node i) op' ra ord k' = eraseD σ0 d := hdisk
    have := crash_keep sc k' K (Nat.le_trans hK hKci) (by rw [hdisk']; exact Nat.le_trans hK hreach)
    rw [hdisk'] at this
    exact this
  -- the restart without the snapshot files
  have hidx : ∀ f ∈ d.snaps, 1 ≤ f.index := fun f hf' => (hfiles.files f hf').1
  obtain ⟨n0, hn0, hp0, hrole, hretn, hsnaps, hsi, hci, hldr, htr, hlogn, hfsm⟩ :=
    restart_rel d retain sor n hn hprev hidx (by
      intro j h1 h2
      have hj : j - 1 < d.log.entries.length := by
        have : (headSnap d).index ≤ d.log.entries.length := hreach
        omega
      refine ⟨d.log.entries[j - 1], ?_, fun ht => ?_⟩
      · unfold NLog.get?
        rw [hdp, if_pos (by omega), Nat.sub_zero, List.getElem?_eq_getElem hj]
      · have hm : d.log.entries[j - 1] ∈ n.log.entries := by
          have hl : n.log.entries = d.log.entries := by
            rw [Node.restart_log_notstale hn hnst]
          rw [hl]; exact List.getElem_mem hj
        exact Entry.config?_isSome ht (hdec _ hm ht))
  have pe := fieldEq_of_robs (a := E σ0 n) (b := E σ0 n0) (by rw [robs_E, robs_E, hp0])
  have cc : CC V (eview x.cs) i op' ra ord src k' retain sor n0 := ⟨sc, by
    show Node.restart (C05.crashDisk (E σ0 (x.node i)) op' ra ord k') retain sor = some n0
    rw [hdisk]; exact hn0⟩
  have cz := cc.cinv
  have hnwf0 : NWF n0 := by
    have := (cc.ry.nodes i).1
    rw [show (crashC (eview x.cs) i op' n0).rp.el.node i = n0 from cc.node_i] at this
    exact this
  have fz : FsmInv (crashC (eview x.cs) i op' n0) := fsmInv_crash cc hI.fsm
  have hviewy : eview (crashC x.cs i op n) =
      withNodes (crashC (eview x.cs) i op' n0) (fun j => E σ0 ((crashC x.cs i op n).node j)) :=
    eview_crashC x.cs i op op' n n0 hnc (congrArg (fun p => p.2.2.2.2.2.1) hp0) pe.term.symm pe.votedFor.symm
  -- the restarted node: commit index = snapshot index, state machine restored
  have hKn : n.commitIndex = (headOf d.snaps).index := by rw [hci, hsi]; rfl
  have hlen : (headOf d.snaps).index ≤ n.log.entries.length := by rw [hlogn]; exact hreach
  have hfsmn : FsmOK 0 n ∧ n.snapIndex ≤ n.fsm.index := by
    rcases hfsm with ⟨e1, e2⟩ | ⟨hpos, f, hf1, hf2⟩
    · have e2' : (headOf d.snaps).index = 0 := e2
      refine ⟨⟨by rw [e1]; exact Nat.zero_le _, by rw [e1]; exact Nat.zero_le _, by rw [e1]; rfl, Nat.zero_le _⟩, ?_⟩
      rw [hsi, e2]; exact Nat.zero_le _
    · have hfh : headOf d.snaps = f := by unfold headOf; rw [hf1]; rfl
      have hfm : f ∈ d.snaps := by
        cases hs : d.snaps with
        | nil => rw [hs] at hf1; cases hf1
        | cons g gs => rw [hs] at hf1; injection hf1 with hf1; rw [← hf1]; exact List.mem_cons_self ..
      obtain ⟨_, _, hdat⟩ := hfiles.files f hfm
      refine ⟨⟨by rw [hf2, hKn, hfh]; exact Nat.le_refl _, by rw [hf2]; rw [hfh] at hlen; exact hlen, ?_,
        Nat.zero_le _⟩, by rw [hsi, hf2]; show (headOf d.snaps).index ≤ f.index; rw [hfh]; exact Nat.le_refl _⟩
      rw [hf2]
      show f.data = ups (n.log.entries.take f.index)
      rw [hdat, hlogn, hagree f.index (by rw [hfh]; exact Nat.le_refl _)]
  have hb := bump cz fz (N := fun j => E σ0 ((crashC x.cs i op n).node j))
    (NodeSys.forall_setNode (P := fun j m => robs (E σ0 m) = robs ((crashC (eview x.cs) i op' n0).node j))
      (by
        rw [cc.node_i, robs_E, ← hp0]
        show _ = (pobs n0, n0.snapIndex, n0.snapsDisk)
        rw [hnwf0.snapIndex, hnwf0.snaps])
      (fun j hj => by rw [cc.node_j hj]; rfl))
    (NodeSys.forall_setNode
      (P := fun j m => SnapSim.lobs (E σ0 m) = SnapSim.lobs ((crashC (eview x.cs) i op' n0).node j) ∨
        FollowerOK (crashC (eview x.cs) i op' n0) (E σ0 m))
      (by
        right
        refine ⟨hrole, fun K h1 h2 => ?_, ⟨hfsmn.1.le, hfsmn.1.len, hfsmn.1.applied, hfsmn.1.mono⟩⟩
        have h2' : K ≤ (headOf d.snaps).index := by rw [← hKn]; exact h2
        have hKc : K ≤ (x.node i).commitIndex := Nat.le_trans h2' hKci
        obtain ⟨c1, c2⟩ := hI.cinv.cmt.cc i K h1 hKc
        refine ⟨Nat.le_trans h2' hlen, ?_⟩
        have hta : termAt n.log.entries K = termAt (x.node i).log.entries K := by
          rw [hlogn]
          have := hagree K h2'
          unfold termAt
          rw [if_neg (by omega), if_neg (by omega)]
          rw [getElem?_of_take_eq this (by omega)]
        show Cmt _ (K, termAt n.log.entries K) n.term
        rw [hta]
        have hterm : ((eview x.cs).node i).term ≤ n.term := by
          have := cc.ext.term i
          rw [cc.node_i] at this
          have e : n.term = n0.term := pe.term
          rw [e]
          exact this
        exact cc.ext.cmt hterm c2)
      (fun j hj => Or.inl (by rw [cc.node_j hj]; rfl)))
  have hfn : ∀ g ∈ d.snaps, 1 ≤ g.index ∧ g.index ≤ (headOf d.snaps).index ∧
      g.data = ups (n.log.entries.take g.index) := fun g hg =>
    ⟨(hfiles.files g hg).1, hfiles.le_head g hg,
      by rw [(hfiles.files g hg).2.2, hlogn, hagree g.index (hfiles.le_head g hg)]⟩
  refine ⟨by rw [hviewy]; exact hb.1, by rw [hviewy]; exact hb.2,
    NodeSys.forall_setNode (P := fun _ m => SnapOK m) ⟨by rw [hretn]; exact hret, ?_, by rw [hsi, hsnaps]; rfl, hfsmn.2⟩
      (fun j _ => hI.snap j),
    ledger_replace hI (by rw [hsi]; exact hsn) hsn (by rw [hlogn]; exact hagree _ (Nat.le_refl _))
      (fun g hg => Or.inr (by rw [hsnaps] at hg; rw [hsi]; exact hfn g hg)) rfl⟩
  rw [hsnaps, hKn]
  exact ⟨hfn, hfiles.sorted⟩


/-! ### sending, initial states, every reachable state -/

theorem sinv_send {V : List Nat} (hV : V.Nodup) {x : Snap.Sys} (hI : SInv V x) {i : Nat} {q : AppendReq}
    (hi : i ≠ 0) (hl : (x.node i).role = .leader) (hr : ReadFrom (x.node i) q)
    (hc : q.ldrCommitIndex ≤ (x.node i).commitIndex) : SInv V { x with cs := sendC x.cs q } := by
  refine ⟨?_, fun j => hI.fsm j, fun j => hI.snap j, hI.ledger⟩
  show CInv V (sendC (eview x.cs) q)
  exact cinv_send hV hI.cinv (i := i) hi hl ⟨hr.term, hr.src, hr.prev, hr.prevTerm, hr.entries⟩ hc

theorem sinv_init {V : List Nat} {x : Snap.Sys} (h : Snap.Init x) : SInv V x := by
  have hn : ∀ j, NWF (x.node j) := fun j => (h.cs.rp.nodes j).1
  have hb := bump (V := V) (Commit.inv_init V x.cs h.cs) (fsmInv_init h.cs) (N := fun j => E σ0 (x.node j))
    (fun j => by rw [robs_E]; show _ = (pobs (x.node j), (x.node j).snapIndex, (x.node j).snapsDisk)
                 rw [(hn j).snapIndex, (hn j).snaps])
    (fun j => Or.inl rfl)
  refine ⟨hb.1, hb.2, fun j => ?_, fun p hp => by rw [h.snaps] at hp; cases hp⟩
  refine ⟨h.retain j, by rw [(hn j).snaps]; exact FilesOK.nil _ _, by rw [(hn j).snapIndex, (hn j).snaps]; rfl,
    by rw [(hn j).snapIndex]; exact Nat.zero_le _⟩

theorem inv_trans {V : List Nat} (hV : V.Nodup) {x y : Snap.Sys} (hI : SInv V x) (hS : SideS V x)
    (ht : Snap.Trans x y) (hS' : SideS V y) : SInv V y := by
  cases ht with
  | step i op ra ord src en hp hlog =>
    by_cases hsnap : op = .snapRun ∨ op = .snapTaken
    · exact sinv_step_snap hV hI hS en.id (hsnap.imp id (fun h => ⟨h, hlog h⟩))
    · exact sinv_step_commit hV hI hS en hp (fun h => hsnap (Or.inl h)) (fun h => hsnap (Or.inr h))
  | crash i op ra ord src k retain sor n en hret hlog hn =>
    have hp : n.log.prev = 0 := by
      have := hS'.prev i
      rw [show ({ cs := crashC x.cs i op n, snaps := _ } : Snap.Sys).node i = n from crashC_node_i x.cs i op n] at this
      exact this
    have hdec : ∀ e ∈ n.log.entries, e.typ = etConfig → e.cfg.isSome = true := by
      have := hS'.dec i
      rw [show (crashC x.cs i op n).node i = n from crashC_node_i x.cs i op n] at this
      exact this
    exact sinv_crash hV hI hS en hret hlog hn hp hdec
  | send i q hi hl hr hc => exact sinv_send hV hI hi hl hr hc

theorem inv_reachable {V : List Nat} (hV : V.Nodup) {x : Snap.Sys} (h : ReachableS V x) : SInv V x ∧ SideS V x := by
  induction h with
  | init x hi hs => exact ⟨sinv_init hi, hs⟩
  | next x y _ ht hs ih => exact ⟨inv_trans hV ih.1 ih.2 ht hs, hs⟩

end SnapInv
end Raft
