/-
C03 / C12 on the cluster WITH membership changes — **the configuration cached by the state machine tracks the applied
prefix of the log** (`C12Track.Tracks`, the per-node invariant of Props/C12Track.lean) in every state of a run of
`C08Member.ReachableR` whose INITIAL nodes have `snapTerm = 0` (`ReachableT`; there are no snapshots in this system, and
`Tracks` asks that the cached term of the newest snapshot is 0 when there is none — what `openStorage` yields; the other
clauses of `Tracks` follow from `Member.Init`, `NWF` and `NoPanic.Good` for an initial node).
`cfgLast_of_tracks`: what `Tracks` says without snapshots, in the words of `MemberCommit.CfgLast`.
-/
import RaftVerif.Lemmas.MemberApply
import RaftVerif.Props.C12Track

namespace Raft
namespace MemberApplyCfg
open Node LogRel CommitRel Commit Member MemberInv MemberSide NoPanic MemberCommit
open MemberStep (SM CM)

theorem getLast_filterMap {α β : Type} (f : α → Option β) : ∀ (l : List α) (c : β), (l.filterMap f).getLast? = some c →
    ∃ l1 e l2, l = l1 ++ e :: l2 ∧ f e = some c ∧ ∀ e' ∈ l2, f e' = none := by
  intro l
  induction l with
  | nil => intro c h; cases h
  | cons a t ih =>
    intro c h
    by_cases ht : t.filterMap f = []
    · have hnone : ∀ e' ∈ t, f e' = none := List.filterMap_eq_nil_iff.mp ht
      cases hfa : f a with
      | none =>
        rw [List.filterMap_cons_none hfa, ht] at h; cases h
      | some b =>
        rw [List.filterMap_cons_some hfa, ht] at h
        have : b = c := by simpa using h
        exact ⟨[], a, t, rfl, by rw [hfa, this], hnone⟩
    · have h' : (t.filterMap f).getLast? = some c := by
        cases hfa : f a with
        | none => rw [List.filterMap_cons_none hfa] at h; exact h
        | some b =>
          rw [List.filterMap_cons_some hfa] at h
          cases hq : t.filterMap f with
          | nil => exact absurd hq ht
          | cons u us => rw [hq, List.getLast?_cons_cons] at h; exact h
      obtain ⟨l1, e, l2, e1, e2, e3⟩ := ih c h'
      exact ⟨a :: l1, e, l2, by rw [e1]; rfl, e2, e3⟩

theorem tracks_fresh (s : Node) (hn : NWF s) (hf : s.fsm = {}) (hr : s.role = .follower) (hret : 1 ≤ s.retain)
    (hst : s.snapTerm = 0) : C12Track.Tracks s := by
  have hpre : Track.pre s.log 0 = [] := by unfold Track.pre; rw [Nat.zero_sub]; rfl
  refine ⟨⟨hret, ?_, ?_, ?_, ?_, ⟨?_, ?_, ?_, ?_⟩, ⟨?_, ?_, ?_⟩⟩, fun hl => ?_⟩
  · rw [hn.snapIndex, hn.snaps]; rfl
  · intro k h; rw [hn.prev, hn.contig k h]; omega
  · rw [hf]; exact Nat.zero_le _
  · rw [hn.snapIndex]; exact Track.newest_of_nil _ hpre
  · intro h; rw [hf] at h; exact absurd h (Nat.lt_irrefl 0)
  · intro _; rw [hf]; exact hpre
  · intro h; rw [hf] at h; exact absurd h (Nat.not_lt_zero _)
  · intro _; rw [hf, hst]
  · intro h; rw [hn.snapIndex] at h; exact absurd h (Nat.not_lt_zero _)
  · rw [hst, hn.snaps]; rfl
  · intro _; exact hst
  · rw [hr] at hl; cases hl

theorem tracks_restart (d : Durable) (r : Nat) (sor : Bool) (n : Node) (hr : 1 ≤ r) (hs : d.snaps = [])
    (hc : C03.LogContig d.log) (h : Node.restart d r sor = some n) : C12Track.Tracks n := by
  have hso : C10.snapOf d = {} := by unfold C10.snapOf; rw [hs]; rfl
  refine C12Track.restart_tracks d r sor n hr ⟨hc, ?_, ?_, ?_⟩ h
  · rw [hso]
    apply Track.newest_of_nil
    unfold Track.pre
    rw [show (({} : SnapFile).index) = 0 from rfl, Nat.zero_sub]; rfl
  · rw [hso]; intro h; exact absurd h (Nat.not_lt_zero _)
  · intro _; rw [hso]

/-- **what `Tracks` says of a node without snapshots**: the configuration the state machine holds is the LAST
configuration entry of the applied prefix `1 … fsm.index` of the log (every configuration entry of which decodes) — or it
holds none (index 0) and the applied prefix has no configuration entry -/
theorem cfgLast_of_tracks (s : Node) (ht : C12Track.Tracks s) (hn : NWF s)
    (hdec : ∀ e ∈ s.log.entries, e.typ = etConfig → ∃ c, e.config? = some c) :
    (s.fsm.config.index = 0 ∧ ∀ e ∈ s.log.entries.take s.fsm.index, e.typ ≠ etConfig) ∨
    (0 < s.fsm.config.index ∧ CfgLast (s.log.entries.take s.fsm.index) s.fsm.config) := by
  have hpre : Track.pre s.log s.fsm.index = (s.log.entries.take s.fsm.index).filterMap Entry.config? := by
    unfold Track.pre; rw [hn.prev, Nat.sub_zero]
  by_cases h0 : s.fsm.config.index = 0
  · left
    refine ⟨h0, fun e he hty => ?_⟩
    have hnil := ht.fsmOk.cfgZero h0
    rw [hpre] at hnil
    obtain ⟨c, hc⟩ := hdec e (List.mem_of_mem_take he) hty
    have := List.filterMap_eq_nil_iff.mp hnil e he
    rw [hc] at this; cases this
  · right
    have hpos : 0 < s.fsm.config.index := by omega
    refine ⟨hpos, ?_⟩
    have hnew := ht.fsmOk.cfgPos hpos
    have hlab : Track.label s = {} := by unfold Track.label; rw [hn.snaps]; rfl
    have hlast : (Track.pre s.log s.fsm.index).getLast? = some s.fsm.config := by
      unfold Track.newest at hnew
      cases hq : (Track.pre s.log s.fsm.index).getLast? with
      | none =>
        rw [hq, hlab] at hnew
        rw [hnew] at hpos
        exact absurd hpos (Nat.lt_irrefl 0)
      | some c =>
        rw [hq] at hnew
        rw [hnew]; rfl
    rw [hpre] at hlast
    obtain ⟨l1, e, l2, e1, e2, e3⟩ := getLast_filterMap _ _ _ hlast
    have hmem : e ∈ s.log.entries.take s.fsm.index := by rw [e1]; exact List.mem_append_right _ (List.mem_cons_self ..)
    refine ⟨⟨e, hmem, e2⟩, fun e' he' hty => ?_⟩
    obtain ⟨_, hci, _⟩ := Entry.config?_facts e2
    rw [hci]
    have hidx : ∀ k (h : k < (s.log.entries.take s.fsm.index).length),
        (s.log.entries.take s.fsm.index)[k].index = k + 1 := by
      intro k h
      rw [List.getElem_take]
      exact hn.contig k (by rw [List.length_take] at h; omega)
    have hpw : (l1 ++ e :: l2).Pairwise (fun a b => a.index < b.index) := by
      rw [← e1]; exact contig_pairwise hidx
    have he'' : e' ∈ l1 ++ e :: l2 := by rw [← e1]; exact he'
    rcases List.mem_append.mp he'' with h1 | h1
    · exact Nat.le_of_lt ((List.pairwise_append.mp hpw).2.2 e' h1 e (List.mem_cons_self ..))
    · rcases List.mem_cons.mp h1 with h2 | h2
      · rw [h2]; exact Nat.le_refl _
      · obtain ⟨c', hc'⟩ := hdec e' (List.mem_of_mem_take he') hty
        have := e3 e' h2
        rw [hc'] at this; cases this

def TInv (x : Member.Sys) : Prop := ∀ i, C12Track.Tracks (x.node i)

variable {x : Member.Sys} {G : Ghost}

theorem tinv_init (hi : Member.Init x) (hg : ∀ i, Good true (x.node i)) (hst : ∀ i, (x.node i).snapTerm = 0) :
    TInv x := by
  intro i
  obtain ⟨_, _, _, _, h5⟩ := hi.cm.nodes i
  exact tracks_fresh _ (hi.cm.rp.nodes i).1 h5 (hi.cm.rp.el.1 i).2.2 (hg i).glob.retain (hst i)

theorem tinv_trans (hI : MInv x G) (hX : XInv x) (hLC : ∀ i, C06Cache.LeaderCache (x.node i)) (hT : TInv x)
    {y : Member.Sys} (ht : TransR x y) : TInv y := by
  obtain ⟨_, G', hI', _⟩ := xinv_trans hI hX hLC ht
  cases ht with
  | step i op ra ord src he hg ho =>
    exact NodeSys.forall_setNode (P := fun _ m => C12Track.Tracks m)
      (C12Track.tracks_step _ op ra ord (hT i) (hX.good i).ordered (reqok hI hX he hg).toReqOk
        (sm_of_step hI hX hLC he hg ho ra ord).2) (fun j _ => hT j)
  | crash i op ra ord src k retain sor n he hg hopen hret hn =>
    obtain ⟨op', cm, heq, _⟩ := cm_of_crash hI hX hLC he hg hopen hn
    rw [heq] at hI' ⊢
    refine NodeSys.forall_setNode (P := fun _ m => C12Track.Tracks m) ?_ (fun j _ => hT j)
    have hnw : NWF n := by
      have := nwfM hI' i
      rw [show (crashM x i op' n).node i = n from cm.node_i] at this
      exact this
    have im := cm.sm.img k
    obtain ⟨_, _, _, _, _, _, _, _, f9⟩ := cm.facts
    refine tracks_restart _ retain sor n hret im.snaps ?_ cm.hn
    show ∀ k' (h : k' < (C05.crashDisk (x.node i) op' ra ord k).log.entries.length),
      (C05.crashDisk (x.node i) op' ra ord k).log.entries[k'].index =
        (C05.crashDisk (x.node i) op' ra ord k).log.prev + k' + 1
    rw [im.prev, ← f9]
    intro k' h
    rw [hnw.contig k' h]; omega
  | send i q hi hl hr hc => exact hT

/-- States reachable by runs of `MemberSide.TransR` from an initial state satisfying `C08Member.InitR root` in which, in
addition, every node's cached snapshot term is 0 (there is no snapshot). -/
inductive ReachableT (root : MemberCore.K) : Member.Sys → Prop
  | init (x : Member.Sys) : C08Member.InitR root x → (∀ i, (x.node i).snapTerm = 0) → ReachableT root x
  | next (x y : Member.Sys) : ReachableT root x → TransR x y → ReachableT root y

theorem ReachableT.toR {root : MemberCore.K} {x : Member.Sys} (h : ReachableT root x) : C08Member.ReachableR root x := by
  induction h with
  | init x hi _ => exact .init x hi
  | next x y _ ht ih => exact .next x y ih ht

theorem tinv_reachableT (root : MemberCore.K) (x : Member.Sys) (h : ReachableT root x) : TInv x := by
  induction h with
  | init x hi hst => exact tinv_init hi.init hi.good hst
  | next x y hx ht ih =>
    obtain ⟨⟨G, hI, _⟩, hX⟩ := C08Member.inv_reachable root x hx.toR
    exact tinv_trans hI hX (C08Sys.leaderCache_reachable x (C08Member.reachableP_of hx.toR)) ih ht

end MemberApplyCfg
end Raft

#print axioms Raft.MemberApplyCfg.cfgLast_of_tracks
#print axioms Raft.MemberApplyCfg.tinv_reachableT
