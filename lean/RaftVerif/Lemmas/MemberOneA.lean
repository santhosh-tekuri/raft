/-
Membership changes THROUGH single-voter configurations: the definitions, the primitives, and what is shown of the
block's handlers without induction on the recursion budget (`ca_cases`, `ca_settled`, the calls that store nothing —
`dc_dormant`, `ca_inert`, `cas_inert` —, `cl_effect`, `store_cfg`, `storeItems_plain`).

When the leader is the only voter (`FP`: the single-voter fast path of `leader.storeEntry`) a configuration entry is
committed the moment it is stored, INSIDE `storeEntry`; `setCommitIndex → checkConfigActions` then re-enters the
configuration machinery and may store the NEXT configuration entry within the same call. The loops of the callers
(`checkConfigActions` working on the configuration it was CALLED with) continue afterwards with a configuration that is
no longer the latest one. The lemmas here and in `MemberOneB.lean` show that such a loop never acts a second time:
after a nested change either the step has failed, or the latest configuration is not committed (`Blocked`), or every
replication is `Settled` (there is nothing to do for it) and the stale configuration agrees with the latest one on every
node that still has a replication (`Agr`).
-/
import RaftVerif.Lemmas.TaskLedger
import RaftVerif.Lemmas.ConfigRel
import RaftVerif.Lemmas.ShapeLeader

namespace Raft
namespace One
open Node CfgRel

theorem two_voters {c : Config} {a b : Nat} {m1 m2 : CNode} (h1 : c.find? a = some m1) (h2 : c.find? b = some m2)
    (hne : a ≠ b) (v1 : m1.voter = true) (v2 : m2.voter = true) : 2 ≤ c.numVoters := by
  unfold Config.numVoters
  have i1 := CfgRel.find?_id h1
  have i2 := CfgRel.find?_id h2
  unfold Config.find? at h1 h2
  refine length_ge_two_of_mem (a := m1) (b := m2) ?_ ?_ ?_
  · exact List.mem_filter.mpr ⟨List.mem_of_find?_eq_some h1, v1⟩
  · exact List.mem_filter.mpr ⟨List.mem_of_find?_eq_some h2, v2⟩
  · intro e; rw [e] at i1; exact hne (i1.symm.trans i2)

theorem isVoter_find {c : Config} {id : Nat} (h : c.isVoter id = true) : ∃ m, c.find? id = some m ∧ m.voter = true := by
  unfold Config.isVoter at h
  cases hf : c.find? id with
  | none => rw [hf] at h; cases h
  | some m => rw [hf] at h; exact ⟨m, rfl, h⟩

theorem single_voter {c : Config} {nid id : Nat} (h1 : c.numVoters = 1) (hv : c.isVoter nid = true) (hne : id ≠ nid) :
    c.isVoter id = false := by
  cases hx : c.isVoter id with
  | false => rfl
  | true =>
    obtain ⟨m1, f1, v1⟩ := isVoter_find hv
    obtain ⟨m2, f2, v2⟩ := isVoter_find hx
    have := two_voters f2 f1 hne v2 v1
    omega

theorem get_of_find {c : Config} {id : Nat} {m : CNode} (h : c.find? id = some m) : c.get id = m := by
  unfold Config.get; rw [h]; rfl

theorem get_congr_find {c c' : Config} {id : Nat} (h : c'.find? id = c.find? id) : c'.get id = c.get id := by
  unfold Config.get; rw [h]

/-- the member ids of the configuration are strictly increasing (`Config.Nodes` is a Go map keyed by id; the model keeps
it as a list sorted by id) -/
def Srt (c : Config) : Prop := c.nodes.Pairwise (fun a b => a.id < b.id)

theorem Srt.congr {c c' : Config} (h : Srt c) (e : c'.nodes = c.nodes) : Srt c' := by unfold Srt; rw [e]; exact h

theorem Srt.set {c : Config} (h : Srt c) (n : CNode) : Srt (c.set n) := Config.sorted_insertSorted n c.nodes h

theorem Srt.erase {c : Config} (h : Srt c) (id : Nat) : Srt (c.erase id) := List.Pairwise.filter _ h

theorem srt_actionConfig {I : Nat} {cfg : Config} {n : CNode} {a : Nat} {st : Repl} {c : Config} (h : Srt cfg)
    (hc : actionConfig I cfg n a st = some c) : Srt c := by
  rcases actionConfig_eq_some hc with ⟨_, rfl⟩ | ⟨_, rfl⟩ | ⟨_, rfl⟩
  · exact h.set _
  · exact h.erase _
  · exact h.set _

/-- the replication waits for the follower to catch up with a round in progress: nothing to do for a promotion -/
def Waiting (st : Repl) : Prop := ∃ rd, st.round = some rd ∧ rd.finished = false ∧ st.matchIndex < rd.lastIndex

/-- **nothing to do** for the replication `st` of a node whose configuration entry is `n`, when the latest
configuration has index `I`: no action; a removal that waits for the follower to catch up with the latest
configuration; a promotion whose round is in progress. (`ForceRemove` / `Demote` are never settled.) -/
def Settled (I : Nat) (n : CNode) (st : Repl) : Prop :=
  n.nextAction = actNone ∨ (n.nextAction = actRemove ∧ st.matchIndex < I) ∨ (n.nextAction = actPromote ∧ Waiting st)

theorem Settled.mono {I I' : Nat} {n : CNode} {st : Repl} (h : Settled I n st) (hle : I ≤ I') : Settled I' n st := by
  rcases h with h | ⟨h1, h2⟩ | h
  · exact Or.inl h
  · exact Or.inr (Or.inl ⟨h1, by omega⟩)
  · exact Or.inr (Or.inr h)

theorem finishRound_early (L : Nat) (st : Repl) (rd : Round) (h : (finishRound L st rd).2 = true) :
    Waiting (finishRound L st rd).1 := by
  unfold finishRound at h ⊢
  extract_lets rd' at h ⊢
  have hrd' : rd'.finished = false → rd.finished = false ∧ st.matchIndex < rd.lastIndex ∧ rd' = rd := by
    intro hf
    unfold rd' at hf ⊢
    split
    · rename_i hc; rw [if_pos hc] at hf; cases hf
    · rename_i hc
      rw [if_neg hc] at hf
      refine ⟨hf, ?_, rfl⟩
      rw [hf] at hc
      simp only [Bool.not_false, true_and, ge_iff_le, Nat.not_le] at hc
      exact hc
  by_cases h1 : (!rd'.finished) = true
  · rw [if_pos h1]
    have hf : rd'.finished = false := by simpa using h1
    obtain ⟨_, b, c⟩ := hrd' hf
    exact ⟨rd', rfl, hf, by rw [c]; exact b⟩
  · rw [if_neg h1] at h ⊢
    by_cases h2 : L > st.matchIndex ∧ rd'.aged = true
    · rw [if_pos h2]
      exact ⟨_, rfl, rfl, h2.1⟩
    · rw [if_neg h2] at h
      cases h

/-- an early return of the round bookkeeping: a promotion whose round is (now) in progress -/
theorem roundStep_early (L a : Nat) (st : Repl) (h : (roundStep L a st).2 = true) :
    a = actPromote ∧ Waiting (roundStep L a st).1 := by
  unfold roundStep at h ⊢
  dsimp only at h ⊢
  split at h
  · cases h
  · rename_i rd hr
    refine ⟨?_, finishRound_early L _ rd h⟩
    by_cases ha : a = actPromote
    · exact ha
    · exfalso
      unfold startRound at hr
      rw [if_pos ha] at hr
      cases hr

theorem roundStep_waiting (L : Nat) (st : Repl) (h : Waiting st) :
    roundStep L actPromote st = (st, true) := by
  obtain ⟨rd, h1, h2, h3⟩ := h
  have hs : startRound L actPromote st = st := by
    unfold startRound
    rw [if_neg (by decide), h1]
  unfold roundStep
  dsimp only
  rw [hs, h1]
  dsimp only
  unfold finishRound
  dsimp only
  have hc : ¬ ((!rd.finished) = true ∧ st.matchIndex ≥ rd.lastIndex) := by
    intro ⟨_, hge⟩; omega
  rw [if_neg hc, if_pos (by rw [h2]; rfl)]
  have : ({ st with round := some rd } : Repl) = st := by
    cases st; simp only at h1; subst h1; rfl
  rw [this]

/-- `actionConfig` proposes nothing for a pending action only for a removal that has to wait -/
theorem actionConfig_none {I : Nat} {cfg : Config} {n : CNode} {st : Repl}
    (ha : n.nextAction ≠ actNone) (h : actionConfig I cfg n n.nextAction st = none) :
    n.nextAction = actRemove ∧ st.matchIndex < I := by
  rcases actionConfig_eq_none h with h1 | ⟨h1, h2, h3, h4⟩
  · exact h1
  · rcases nextAction_cases n with e | e | e | e | e
    · exact absurd e ha
    · exact absurd e h1
    · exact absurd e h2
    · exact absurd e h3
    · exact absurd e h4

/-- everything the predicates of this file read (`panicked` apart), except the replications -/
def k0 (x : Node) :=
  (x.configs, x.ldr.transfer.active, x.commitIndex, x.ldr.startIndex, x.lastLogIndex, x.ldr.numVoters, x.ldr.node,
   x.log.entries, x.nid)

def k1 (x : Node) := (k0 x, x.ldr.repls)

theorem k0_eq {x y : Node} (h : k0 y = k0 x) :
    y.configs = x.configs ∧ y.ldr.transfer.active = x.ldr.transfer.active ∧ y.commitIndex = x.commitIndex ∧
    y.ldr.startIndex = x.ldr.startIndex ∧ y.lastLogIndex = x.lastLogIndex ∧ y.ldr.numVoters = x.ldr.numVoters ∧
    y.ldr.node = x.ldr.node ∧ y.log.entries = x.log.entries ∧ y.nid = x.nid := by
  unfold k0 at h
  simp only [Prod.mk.injEq] at h
  exact h

theorem k1_eq {x y : Node} (h : k1 y = k1 x) : k0 y = k0 x ∧ y.ldr.repls = x.ldr.repls := by
  unfold k1 at h
  simp only [Prod.mk.injEq] at h
  exact h

theorem k0_of_k1 {x y : Node} (h : k1 y = k1 x) : k0 y = k0 x := (k1_eq h).1

theorem canChange_k0 {x y : Node} (h : k0 y = k0 x) : y.canChangeConfig = x.canChangeConfig := by
  obtain ⟨a, b, c, d, _⟩ := k0_eq h
  unfold Node.canChangeConfig
  rw [a, b, c, d]

theorem view_k1 {x y : Node} (h : k1 y = k1 x) : LC.view y = LC.view x := by
  obtain ⟨h0, hr⟩ := k1_eq h
  obtain ⟨a, _, _, _, _, f, g, _, i⟩ := k0_eq h0
  unfold LC.view
  rw [a, f, g, i, hr]

theorem k1_panic (x : Node) (site : String) : k1 (x.panic site) = k1 x := by
  unfold Node.panic; split <;> rfl

theorem k1_reply (x : Node) (t : Nat) (r : String) : k1 (x.reply t r) = k1 x := by
  unfold Node.reply; split <;> rfl

theorem k1FsmFrame : FsmFrame k1 := ⟨k1_panic, k1_reply, fun _ _ => rfl⟩

theorem k1_assert (x : Node) (b : Bool) (site : String) : k1 (x.assert b site) = k1 x := k1FsmFrame.assert_eq x b site

theorem k1_applyCommittedL (x : Node) : k1 x.applyCommittedL = k1 x := by
  unfold Node.applyCommittedL
  dsimp only
  rw [k1FsmFrame.fsmApply_eq]
  rfl

theorem k1_notifyFlr (x : Node) : k1 x.notifyFlr = k1 x :=
  notifyFlr_of (P := fun y => k1 y = k1 x) (fun y site h => (k1_panic y site).trans h) x rfl

theorem k1_commitLog (x : Node) (n : Nat) : k1 (x.commitLog n) = k1 x := by
  unfold k1 k0 Node.commitLog Node.point
  simp only [(NLog.commitN_same _ _).2.1]

theorem k1_popOrder (x : Node) : k1 x.popOrder = k1 x := rfl

theorem k0_setRepl (x : Node) (r : Repl) : k0 (x.setRepl r) = k0 x := rfl

theorem k0_beginFinishedRounds (x : Node) : k0 x.beginFinishedRounds = k0 x := rfl

theorem k0_foldl {β : Type} (f : Node → β → Node) (hf : ∀ s b, k0 (f s b) = k0 s) (xs : List β) (x : Node) :
    k0 (xs.foldl f x) = k0 x :=
  Node.Guarded.foldl_inv (Inv := fun y => k0 y = k0 x) f (fun s b h => (hf s b).trans h) xs x rfl

theorem k0_addReplication (x : Node) (n : CNode) : k0 (x.addReplication n) = k0 x := by
  unfold Node.addReplication
  dsimp only
  rw [k0_setRepl]
  split
  · exact k0_of_k1 (k1_assert x _ _)
  · rw [k0_of_k1 (k1_panic _ _)]; exact k0_of_k1 (k1_assert x _ _)

def Failed (x : Node) : Prop := x.panicked ≠ none

theorem failed_panic (x : Node) (site : String) : Failed (x.panic site) := Node.panic_panicked_ne x site

/-- the single-voter fast path of `leader.storeEntry` / `leader.majorityMatchIndex` is taken -/
def FP (x : Node) : Prop := x.ldr.numVoters = 1 ∧ x.ldr.node.voter = true

/-- the latest configuration is not committed: no configuration change can start -/
def Blocked (x : Node) : Prop := x.configs.isCommitted = false

theorem FP.k0 {x y : Node} (h : FP x) (e : k0 y = k0 x) : FP y := by
  obtain ⟨_, _, _, _, _, f, g, _⟩ := k0_eq e
  unfold FP; rw [f, g]; exact h

theorem Blocked.k0 {x y : Node} (h : Blocked x) (e : k0 y = k0 x) : Blocked y := by
  unfold Blocked; rw [(k0_eq e).1]; exact h

theorem Blocked.cannot {x : Node} (h : Blocked x) : x.canChangeConfig = false := by
  unfold Node.canChangeConfig
  unfold Blocked at h
  rw [h]; rfl

/-- every replication is settled with respect to the latest configuration -/
def Q (x : Node) : Prop :=
  ∀ st ∈ x.ldr.repls, Settled x.configs.latest.index (x.configs.latest.get st.id) st

/-- the configuration `c` and the latest configuration have the same entry for every node that has a replication -/
def Agr (c : Config) (x : Node) : Prop := ∀ st ∈ x.ldr.repls, x.configs.latest.find? st.id = c.find? st.id

theorem Q.k1 {x y : Node} (h : Q x) (e : k1 y = k1 x) : Q y := by
  obtain ⟨h0, hr⟩ := k1_eq e
  unfold Q; rw [(k0_eq h0).1, hr]; exact h

theorem Agr.k1 {c : Config} {x y : Node} (h : Agr c x) (e : k1 y = k1 x) : Agr c y := by
  obtain ⟨h0, hr⟩ := k1_eq e
  unfold Agr; rw [(k0_eq h0).1, hr]; exact h

/-- the outcome of a call that stored the configuration `c`: the step has failed, or the latest configuration is not
committed, or everything is settled, the latest configuration agrees with `c` wherever there is a replication, and the
leader is the only voter -/
def Post (c : Config) (x : Node) : Prop := Failed x ∨ Blocked x ∨ (Q x ∧ Agr c x ∧ FP x)

theorem Post.k1 {c : Config} {x y : Node} (h : Post c x) (e : k1 y = k1 x) (hp : Failed x → Failed y) : Post c y := by
  rcases h with h | h | ⟨h1, h2, h3⟩
  · exact Or.inl (hp h)
  · exact Or.inr (Or.inl (h.k0 (k0_of_k1 e)))
  · exact Or.inr (Or.inr ⟨h1.k1 e, h2.k1 e, h3.k0 (k0_of_k1 e)⟩)

theorem insertRepl_self (st : Repl) (l : List Repl) (hs : LC.Sorted l) (hm : st ∈ l) : insertRepl st l = l := by
  induction l with
  | nil => cases hm
  | cons m ms ih =>
    have hms : LC.Sorted ms := (List.pairwise_cons.mp hs).2
    have hlt : ∀ y ∈ ms, m.id < y.id := (List.pairwise_cons.mp hs).1
    unfold insertRepl
    rcases List.mem_cons.mp hm with e | h'
    · subst e
      rw [if_neg (by omega), if_pos rfl]
    · have := hlt st h'
      rw [if_neg (by omega), if_neg (by omega), ih hms h']

/-- `r` is `st` up to the round bookkeeping -/
def RSame (r st : Repl) : Prop := r.id = st.id ∧ r.matchIndex = st.matchIndex ∧ r.node = st.node

theorem RSame.refl (st : Repl) : RSame st st := ⟨rfl, rfl, rfl⟩

theorem rsame_roundStep (L a : Nat) (st : Repl) : RSame (roundStep L a st).1 st := by
  rw [roundStep_shape]
  exact ⟨rfl, rfl, rfl⟩

/-- the cases of `leader.checkConfigAction` for a node with a replication `st` -/
theorem ca_cases (n : Nat) (x : Node) (task : Nat) (cfg : Config) (id : Nat) (st : Repl)
    (hf : x.findRepl? id = some st) :
    (checkConfigAction (n + 1) x task cfg id = x ∧ Settled x.configs.latest.index (cfg.get id) st) ∨
    (∃ r, RSame r st ∧ checkConfigAction (n + 1) x task cfg id = x.setRepl r ∧
      (Settled x.configs.latest.index (cfg.get id) r ∨ x.canChangeConfig = false)) ∨
    (∃ r c, RSame r st ∧ x.canChangeConfig = true ∧ (cfg.get id).nextAction ≠ actNone ∧
      actionConfig x.configs.latest.index cfg (cfg.get id) (cfg.get id).nextAction r = some c ∧
      checkConfigAction (n + 1) x task cfg id = doChangeConfig n (x.setRepl r) task c) := by
  generalize hy : checkConfigAction (n + 1) x task cfg id = y
  unfold checkConfigAction at hy
  rw [hf] at hy
  dsimp only at hy
  split at hy
  · rename_i ha
    exact Or.inl ⟨hy.symm, Or.inl ha⟩
  · rename_i ha
    have hrs := rsame_roundStep x.lastLogIndex (cfg.get id).nextAction st
    split at hy
    · rename_i h2
      obtain ⟨hp, hw⟩ := roundStep_early _ _ _ h2
      exact Or.inr (Or.inl ⟨_, hrs, hy.symm, Or.inl (Or.inr (Or.inr ⟨hp, hw⟩))⟩)
    · split at hy
      · rename_i h3
        refine Or.inr (Or.inl ⟨_, hrs, hy.symm, Or.inr ?_⟩)
        have : (x.setRepl (roundStep x.lastLogIndex (cfg.get id).nextAction st).1).canChangeConfig = x.canChangeConfig := rfl
        rw [this] at h3
        simpa using h3
      · rename_i h3
        have hcan : x.canChangeConfig = true := by
          have : (x.setRepl (roundStep x.lastLogIndex (cfg.get id).nextAction st).1).canChangeConfig = x.canChangeConfig := rfl
          rw [this] at h3
          simpa using h3
        split at hy
        · rename_i c hc
          exact Or.inr (Or.inr ⟨_, c, hrs, hcan, ha, hc, hy.symm⟩)
        · rename_i hc
          have hc' : actionConfig x.configs.latest.index cfg (cfg.get id) (cfg.get id).nextAction
              (roundStep x.lastLogIndex (cfg.get id).nextAction st).1 = none := hc
          obtain ⟨h5, h6⟩ := actionConfig_none ha hc'
          exact Or.inr (Or.inl ⟨_, hrs, hy.symm, Or.inl (Or.inr (Or.inl ⟨h5, h6⟩))⟩)

theorem roundStep_notPromote (L a : Nat) (st : Repl) (ha : a ≠ actPromote) : (roundStep L a st).2 = false := by
  cases h : (roundStep L a st).2 with
  | false => rfl
  | true => exact absurd (roundStep_early L a st h).1 ha

/-- `leader.checkConfigAction` for a settled replication: round bookkeeping that leaves it settled -/
theorem ca_settled (n : Nat) (x : Node) (task : Nat) (cfg : Config) (id : Nat) (st : Repl)
    (hf : x.findRepl? id = some st) (hs : Settled x.configs.latest.index (cfg.get id) st) :
    checkConfigAction (n + 1) x task cfg id = x ∨
    ∃ r, RSame r st ∧ checkConfigAction (n + 1) x task cfg id = x.setRepl r ∧
      Settled x.configs.latest.index (cfg.get id) r := by
  rcases hs with hs | ⟨h1, h2⟩ | ⟨h1, h2⟩
  · left
    unfold checkConfigAction
    rw [hf]
    dsimp only
    rw [if_pos hs]
  · right
    have hrs := rsame_roundStep x.lastLogIndex actRemove st
    refine ⟨(roundStep x.lastLogIndex actRemove st).1, hrs, ?_, Or.inr (Or.inl ⟨h1, by rw [hrs.2.1]; exact h2⟩)⟩
    unfold checkConfigAction
    rw [hf]
    dsimp only
    rw [h1, if_neg (by decide), roundStep_notPromote _ _ _ (by decide)]
    simp only [Bool.false_eq_true, if_false]
    split
    · rfl
    · have : actionConfig x.configs.latest.index cfg (cfg.get id) actRemove (roundStep x.lastLogIndex actRemove st).1 = none := by
        unfold actionConfig
        rw [if_neg (by decide), if_pos rfl, if_neg (by rw [hrs.2.1]; omega)]
      show (match actionConfig x.configs.latest.index cfg (cfg.get id) actRemove (roundStep x.lastLogIndex actRemove st).1 with
        | some c => doChangeConfig n (x.setRepl (roundStep x.lastLogIndex actRemove st).1) task c
        | none => x.setRepl (roundStep x.lastLogIndex actRemove st).1) = _
      rw [this]
  · right
    refine ⟨st, RSame.refl st, ?_, Or.inr (Or.inr ⟨h1, h2⟩)⟩
    unfold checkConfigAction
    rw [hf]
    dsimp only
    rw [h1, if_neg (by decide), roundStep_waiting _ _ h2]
    simp only [if_true]

/-- no configuration change can be stored: changes are not allowed now, or the leader's own entry has no vote
(`leader.storeEntry` answers "demotion / removal in progress") -/
def Inert (x : Node) : Prop := x.canChangeConfig = false ∨ x.ldr.node.voter = false

theorem Inert.k0 {x y : Node} (h : Inert x) (e : k0 y = k0 x) : Inert y := by
  unfold Inert
  rw [canChange_k0 e, (k0_eq e).2.2.2.2.2.2.1]
  exact h

/-- `doChangeConfig` by a leader whose own entry has no vote (or during a transfer): an answer, nothing else -/
theorem dc_dormant (n : Nat) (x : Node) (task : Nat) (c : Config)
    (h : x.ldr.transfer.active = true ∨ x.ldr.node.voter = false) : k1 (doChangeConfig n x task c) = k1 x := by
  cases n with
  | zero => unfold doChangeConfig; exact k1_panic x _
  | succ n =>
    unfold doChangeConfig
    cases n with
    | zero => unfold storeEntry; exact k1_panic x _
    | succ n =>
      unfold storeEntry
      extract_lets lastIndex s1 s2 s3 s4
      have h1 : k1 s1 = k1 x := by
        unfold s1
        cases n with
        | zero => unfold storeItems; exact k1_panic x _
        | succ n =>
          unfold storeItems
          dsimp only
          rw [storeItems_nil]
          rcases h with h | h
          · rw [if_pos h]; exact k1_reply x _ _
          · split
            · exact k1_reply x _ _
            · rw [if_pos (by rw [h]; rfl)]
              split <;> exact k1_reply x _ _
      have h2 : k1 s2 = k1 x := by
        unfold s2
        split
        · split
          · rw [k1_applyCommittedL]; exact h1
          · exact h1
        · exact h1
      have hl : s2.lastLogIndex = x.lastLogIndex := (k0_eq (k0_of_k1 h2)).2.2.2.2.1
      rw [if_neg (by rw [hl]; exact Nat.lt_irrefl _)]
      exact h2

/-- `checkConfigAction` when nothing can be stored: round bookkeeping (and answers) only -/
theorem ca_inert (n : Nat) (x : Node) (task : Nat) (cfg : Config) (id : Nat) (h : Inert x) :
    k0 (checkConfigAction n x task cfg id) = k0 x := by
  cases n with
  | zero => unfold checkConfigAction; exact k0_of_k1 (k1_panic x _)
  | succ n =>
    cases hf : x.findRepl? id with
    | none => unfold checkConfigAction; rw [hf]
    | some st =>
      rcases ca_cases n x task cfg id st hf with h1 | ⟨r, _, h2, _⟩ | ⟨r, c, _, h2, _, _, h5⟩
      · rw [h1.1]
      · rw [h2]; rfl
      · rw [h5]
        rcases h with h | h
        · rw [h] at h2; cases h2
        · rw [k0_of_k1 (dc_dormant n (x.setRepl r) task c (Or.inr h))]; rfl

theorem cas_inert (n : Nat) (x : Node) (task : Nat) (cfg : Config) (h : Inert x) :
    k0 (checkConfigActions n x task cfg) = k0 x := by
  cases n with
  | zero => unfold checkConfigActions; exact k0_of_k1 (k1_panic x _)
  | succ n =>
    unfold checkConfigActions
    extract_lets nd c1 c2 r
    have hr : k0 r.1 = k0 x := by
      unfold r
      split
      · rename_i hc
        have hv : x.ldr.node.voter = false := by
          rcases h with h | h
          · rw [h] at hc; exact absurd hc.1 (by decide)
          · exact h
        split
        · exact k0_of_k1 (dc_dormant n x task c1 (Or.inr hv))
        · split
          · exact k0_of_k1 (dc_dormant n x task c2 (Or.inr hv))
          · exact k0_of_k1 (k1_panic x _)
      · rfl
    have hloop : ∀ (ids : List Nat) (y : Node), Inert y →
        k0 (ids.foldl (fun s id => match s.findRepl? id with
          | some _ => checkConfigAction n s task r.2 id
          | none => s) y) = k0 y := by
      intro ids
      induction ids with
      | nil => intro y _; rfl
      | cons a as ih =>
        intro y hy
        rw [List.foldl_cons]
        have h1 : k0 (match y.findRepl? a with
            | some _ => checkConfigAction n y task r.2 a
            | none => y) = k0 y := by
          split
          · exact ca_inert n y task r.2 a hy
          · rfl
        rw [ih _ (hy.k0 h1), h1]
    exact (hloop _ _ ((h.k0 hr).k0 (k0_of_k1 (k1_popOrder r.1)))).trans ((k0_of_k1 (k1_popOrder r.1)).trans hr)

theorem k0_changeConfigR (x : Node) (c : Config) :
    k0 (x.changeConfigR c) = (⟨x.configs.latest, c⟩, x.ldr.transfer.active, x.commitIndex, x.ldr.startIndex,
      x.lastLogIndex, x.ldr.numVoters, x.ldr.node, x.log.entries, x.nid) := by
  unfold Node.changeConfigR
  dsimp only
  split <;> rfl

/-- what `leader.changeConfig` does to the fields read here, for a configuration with a new index: the latest
configuration is `c`, not committed; the cached own entry and voter count are those of `c` -/
theorem cl_effect (n : Nat) (s : Node) (c : Config) (hidx : c.index ≠ s.configs.latest.index) :
    k0 (changeConfigL (n + 1) s c) = (⟨s.configs.latest, c⟩, s.ldr.transfer.active, s.commitIndex, s.ldr.startIndex,
      s.lastLogIndex, c.numVoters, c.get s.nid, s.log.entries, s.nid) := by
  unfold changeConfigL
  extract_lets src1 s1 s2 src2 s3 s4
  have h2 : k0 s2 = (⟨s.configs.latest, c⟩, s.ldr.transfer.active, s.commitIndex, s.ldr.startIndex,
      s.lastLogIndex, c.numVoters, c.get s.nid, s.log.entries, s.nid) := k0_changeConfigR s1 c
  have h3 : k0 s3 = k0 s2 := rfl
  have h4 : k0 s4 = k0 s3 := by
    refine k0_foldl _ ?_ _ _
    intro y nd
    split
    · rfl
    · split
      · exact k0_addReplication _ _
      · rfl
  have h4' : k0 s4 = (⟨s.configs.latest, c⟩, s.ldr.transfer.active, s.commitIndex, s.ldr.startIndex,
      s.lastLogIndex, c.numVoters, c.get s.nid, s.log.entries, s.nid) := h4.trans (h3.trans h2)
  have hb : Blocked s4 := by
    unfold Blocked Configs.isCommitted
    have : s4.configs = ⟨s.configs.latest, c⟩ := by
      have := congrArg Prod.fst h4'
      exact this
    rw [this]
    simpa using hidx
  rw [cas_inert n s4 0 _ (Or.inl hb.cannot)]
  exact h4'

/-- the configuration `c'` was stored when the latest configuration was `c`: the voting rights differ at one node at
most and `c'` has a voter (`CfgRel.Adjacent`), `c'` keeps a voter without pending action, and the guards of
`leader.canChangeConfig` held at that moment — `y` is the state of the node right then: `c` (its latest configuration) was
committed, no transfer was in progress, an entry of the leader's own term was committed; the leader's own entry is a
voter; `c'` is the next log entry, of the leader's term -/
structure Link (c c' : Config) : Prop where
  adj : CfgRel.Adjacent c c'
  anchor : CfgRel.HasAnchor c'
  srt : Srt c → Srt c'
  guard : ∃ y : Node, y.configs.latest = c ∧ y.canChangeConfig = true ∧ y.ldr.node.voter = true ∧
    c'.index = y.lastLogIndex + 1 ∧ c'.term = y.term

/-- `Chain1 c₀ es c`: the log entries `es`, appended in this order when the latest configuration was `c₀`, leave `c`
as the latest configuration: every configuration entry among them is `Link`ed to the configuration before it -/
inductive Chain1 : Config → List Entry → Config → Prop
  | nil (c : Config) : Chain1 c [] c
  | plain {c₀ c : Config} {es : List Entry} (e : Entry) : Chain1 c₀ es c → e.typ ≠ etConfig → Chain1 c₀ (es ++ [e]) c
  | cfg {c₀ c : Config} {es : List Entry} (e : Entry) (c' : Config) : Chain1 c₀ es c → e.config? = some c' →
      Link c c' → Chain1 c₀ (es ++ [e]) c'

/-- `ext` are the entries appended to the log since the state `s₀`, in this order: the log of `x` is (a suffix — the
log may have been compacted meanwhile — of) the log of `s₀` followed by `ext`, and `ext` forms a `Chain1` from the latest
configuration of `s₀` to the latest configuration of `x` -/
def LogChain (s₀ x : Node) : Prop :=
  ∃ k ext, k ≤ (s₀.log.entries ++ ext).length ∧ x.log.entries = (s₀.log.entries ++ ext).drop k ∧
    Chain1 s₀.configs.latest ext x.configs.latest

theorem LogChain.refl (s : Node) : LogChain s s := ⟨0, [], Nat.zero_le _, by simp, .nil _⟩

theorem drop_snoc {α : Type} {l m : List α} {k : Nat} (a : α) (hk : k ≤ l.length) (h : m = l.drop k) :
    k ≤ (l ++ [a]).length ∧ m ++ [a] = (l ++ [a]).drop k := by
  refine ⟨by rw [List.length_append]; omega, ?_⟩
  rw [h, List.drop_append_of_le_length hk]

theorem LogChain.k0 {s₀ x y : Node} (h : LogChain s₀ x) (e : k0 y = k0 x) : LogChain s₀ y := by
  obtain ⟨a, _, _, _, _, _, _, b, _⟩ := k0_eq e
  unfold LogChain
  rw [a, b]
  exact h

/-- the state invariant carried through the leader's handlers (relative to the state `s₀` the step started from) -/
structure V (s₀ x : Node) : Prop where
  cache : LC.Cache x
  li : x.configs.latest.index ≤ x.lastLogIndex
  anch : CfgRel.AnchC x.configs.latest
  nid : x.nid = s₀.nid
  chain : x.panicked = none → LogChain s₀ x

theorem V.k1 {s₀ x y : Node} (h : V s₀ x) (e : k1 y = k1 x) (hp : y.panicked = none → x.panicked = none) : V s₀ y := by
  have e0 := k0_of_k1 e
  obtain ⟨a, _, _, _, b, _, _, _, c⟩ := k0_eq e0
  exact ⟨h.cache.congr (view_k1 e), by rw [a, b]; exact h.li, by rw [a]; exact h.anch, by rw [c]; exact h.nid,
    fun hy => (h.chain (hp hy)).k0 e0⟩

theorem pan_of_failed {x y : Node} (h : Failed x → Failed y) : y.panicked = none → x.panicked = none := by
  intro hy
  cases hx : x.panicked with
  | none => rfl
  | some v => exact absurd hy (h (by unfold Failed; rw [hx]; simp))

theorem V.panic {s₀ x : Node} (h : V s₀ x) (site : String) : V s₀ (x.panic site) :=
  h.k1 (k1_panic x site) (fun hp => absurd hp (failed_panic x site))

theorem V.reply {s₀ x : Node} (h : V s₀ x) (t : Nat) (r : String) : V s₀ (x.reply t r) :=
  h.k1 (k1_reply x t r) (fun hp => by rw [← (reply_fields x t r).2.2.2.2.2.1]; exact hp)

theorem V.setRepl {s₀ x : Node} (h : V s₀ x) {id : Nat} {r st : Repl} (hf : x.findRepl? id = some st) (hr : RSame r st) :
    V s₀ (x.setRepl r) :=
  ⟨LC.csetRepl r st id h.cache hf (by unfold LC.key; rw [hr.1, hr.2.2]), h.li, h.anch, h.nid, h.chain⟩

theorem failed_mono_applyCommittedL (x : Node) : Failed x → Failed x.applyCommittedL :=
  fun h => CfgRel.pnClosed.applyCommittedL_inv x h

theorem failed_mono_notifyFlr (x : Node) : Failed x → Failed x.notifyFlr := (CfgRel.q_notifyFlr x).pan

theorem V.applyCommittedL {s₀ x : Node} (h : V s₀ x) : V s₀ x.applyCommittedL :=
  h.k1 (k1_applyCommittedL x) (pan_of_failed (failed_mono_applyCommittedL x))

theorem V.notifyFlr {s₀ x : Node} (h : V s₀ x) : V s₀ x.notifyFlr :=
  h.k1 (k1_notifyFlr x) (pan_of_failed (failed_mono_notifyFlr x))

theorem V.commitLog {s₀ x : Node} (h : V s₀ x) (n : Nat) : V s₀ (x.commitLog n) :=
  h.k1 (k1_commitLog x n) id

theorem V.popOrder {s₀ x : Node} (h : V s₀ x) : V s₀ x.popOrder := h.k1 (k1_popOrder x) id

theorem V.beginFinishedRounds {s₀ x : Node} (h : V s₀ x) : V s₀ x.beginFinishedRounds :=
  ⟨LC.cbegin h.cache, h.li, h.anch, h.nid, h.chain⟩

/-- `y` is `x` after a configuration entry with the nodes of `c` was stored and adopted (`leader.storeEntry` +
`leader.changeConfig`) -/
structure Stored (x : Node) (c : Config) (y : Node) : Prop where
  nodes : y.configs.latest.nodes = c.nodes
  committed : y.configs.committed = x.configs.latest
  idx : y.configs.latest.index = x.lastLogIndex + 1
  lli : y.lastLogIndex = x.lastLogIndex + 1
  ci : y.commitIndex = x.commitIndex
  act : y.ldr.transfer.active = x.ldr.transfer.active
  start : y.ldr.startIndex = x.ldr.startIndex
  nv : y.ldr.numVoters = c.numVoters
  node : y.ldr.node = c.get x.nid
  nid : y.nid = x.nid

theorem numVoters_congr {c c' : Config} (h : c'.nodes = c.nodes) : c'.numVoters = c.numVoters := by
  unfold Config.numVoters; rw [h]

theorem Stored.blocked {x y : Node} {c : Config} (h : Stored x c y) (hli : x.configs.latest.index ≤ x.lastLogIndex) :
    Blocked y := by
  unfold Blocked Configs.isCommitted
  rw [h.idx, h.committed]
  simp only [beq_eq_false_iff_ne, ne_eq]
  omega

theorem canChange_facts' {x : Node} (h : x.canChangeConfig = true) :
    x.configs.isCommitted = true ∧ x.ldr.transfer.active = false ∧ x.ldr.startIndex ≤ x.commitIndex :=
  canChange_facts h

theorem k0_tuple {y : Node} {cf : Configs} {a : Bool} {ci st l nv : Nat} {nd : CNode} {es : List Entry} {ni : Nat}
    (h : k0 y = (cf, a, ci, st, l, nv, nd, es, ni)) :
    y.configs = cf ∧ y.ldr.transfer.active = a ∧ y.commitIndex = ci ∧ y.ldr.startIndex = st ∧ y.lastLogIndex = l ∧
    y.ldr.numVoters = nv ∧ y.ldr.node = nd ∧ y.log.entries = es ∧ y.nid = ni := by
  unfold k0 at h
  simp only [Prod.mk.injEq] at h
  exact h

theorem store_cfg (s₀ : Node) (m : Nat) (x : Node) (q : QItem) (b c : Config) (hV : V s₀ x)
    (hcan : x.canChangeConfig = true) (hv : x.ldr.node.voter = true) (hq : q.typ = etConfig) (hc : q.cfg = some c)
    (hd : Deriv b c) (hsv : SameVoters b x.configs.latest) (hs : Srt x.configs.latest → Srt c) (ha : HasAnchor c) :
    V s₀ (storeItem m x q) ∧ (Failed (storeItem m x q) ∨ Stored x c (storeItem m x q)) := by
  obtain ⟨_, hact, _⟩ := canChange_facts hcan
  unfold storeItem
  rw [if_neg (by rw [hact]; exact Bool.false_ne_true), if_neg (by rw [hv]; decide)]
  extract_lets q' l0 x0 x1
  have hty : q'.typ = etConfig := hq
  rw [if_pos (by rw [hty]; rfl), if_pos hty]
  have hcfg : q'.toEntry.config? = some { c.payload with index := x.lastLogIndex + 1, term := x.term } :=
    Entry.config?_of_cfg hty (congrArg (Option.map Config.payload) hc)
  rw [hcfg]
  dsimp only
  generalize hc' : ({ c.payload with index := x.lastLogIndex + 1, term := x.term } : Config) = c'
  have hn : c'.nodes = c.nodes := by rw [← hc']; rfl
  have hi : c'.index = x.lastLogIndex + 1 := by rw [← hc']
  have ht : c'.term = x.term := by rw [← hc']
  -- the state right after the entry was appended
  have hk : k0 x1 = (x.configs, x.ldr.transfer.active, x.commitIndex, x.ldr.startIndex, x.lastLogIndex + 1,
      x.ldr.numVoters, x.ldr.node, x.log.entries ++ [q'.toEntry], x.nid) := by
    obtain ⟨a1, a2, _, a4, _, a6, a7, _⟩ := appendEntry_key x0 q'.toEntry
    unfold k0
    rw [a1, a6, a4, a7, appendEntry_entries, a2]
    rfl
  have hC1 : LC.Cache x1 := LC.cappend _ (LC.cldr _ hV.cache rfl rfl rfl)
  have hidx : c'.index ≠ x1.configs.latest.index := by
    have : x1.configs = x.configs := congrArg Prod.fst hk
    rw [this, hi]
    have := hV.li
    omega
  have hx1 : x1.configs = x.configs := congrArg Prod.fst hk
  cases m with
  | zero =>
    unfold changeConfigL
    refine ⟨?_, Or.inl (failed_panic _ _)⟩
    refine ⟨LC.cpanic _ hC1, ?_, ?_, ?_, fun hp => absurd hp (failed_panic _ _)⟩
    · rw [(panic_fields x1 _).2.2.2.2.2.2.2, (panic_fields x1 _).2.1, hx1]
      have : x1.lastLogIndex = x.lastLogIndex + 1 := (k0_tuple hk).2.2.2.2.1
      have := hV.li
      omega
    · rw [(panic_fields x1 _).2.2.2.2.2.2.2, hx1]; exact hV.anch
    · rw [(k0_eq (k0_of_k1 (k1_panic x1 _))).2.2.2.2.2.2.2.2, (k0_tuple hk).2.2.2.2.2.2.2.2]; exact hV.nid
  | succ m =>
    have he := cl_effect m x1 c' hidx
    have hst : Stored x c (changeConfigL (m + 1) x1 c') := by
      obtain ⟨b1, b2, b3, b4, b5, b6, b7, _, b9⟩ := k0_tuple hk
      obtain ⟨a1, a2, a3, a4, a5, a6, a7, _, a9⟩ := k0_tuple he
      refine ⟨?_, ?_, ?_, ?_, ?_, ?_, ?_, ?_, ?_, ?_⟩
      · rw [a1]; exact hn
      · rw [a1, b1]
      · rw [a1]; exact hi
      · rw [a5]; exact b5
      · rw [a3]; exact b3
      · rw [a2]; exact b2
      · rw [a4]; exact b4
      · rw [a6]; exact numVoters_congr hn
      · rw [a7, b9]; exact NoPanic.get_congr hn _
      · rw [a9]; exact b9
    refine ⟨⟨(LC.block (m + 1)).changeConfigL x1 c' hC1, ?_, ?_, ?_, ?_⟩, Or.inr hst⟩
    · rw [hst.idx, hst.lli]; exact Nat.le_refl _
    · exact Or.inr (ha.congr hst.nodes)
    · rw [hst.nid]; exact hV.nid
    · intro hp
      have hp1 : x1.panicked = none :=
        pan_of_failed (fun h => (pnClosed.block (m + 1)).2.2.1 x1 c' h) hp
      have hpx : x.panicked = none := appendEntry_pan' x0 _ hp1
      obtain ⟨k, ext, e0, e1, e2⟩ := hV.chain hpx
      have hent : (changeConfigL (m + 1) x1 c').log.entries = x.log.entries ++ [q'.toEntry] :=
        (k0_tuple he).2.2.2.2.2.2.2.1.trans (k0_tuple hk).2.2.2.2.2.2.2.1
      have hlat : (changeConfigL (m + 1) x1 c').configs.latest = c' := by
        have := (k0_tuple he).1
        rw [this]
      obtain ⟨d1, d2⟩ := drop_snoc q'.toEntry e0 e1
      refine ⟨k, ext ++ [q'.toEntry], by rw [← List.append_assoc]; exact d1, by rw [hent, ← List.append_assoc]; exact d2, ?_⟩
      rw [hlat]
      refine .cfg _ c' e2 (by rw [hcfg, hc']) ⟨⟨?_, ?_⟩, ha.congr hn, fun h => (hs h).congr hn, x, rfl, hcan, hv, hi, ht⟩
      · exact (hd.congr hn).adjacent hsv
      · exact (ha.congr hn).voter

theorem V.withQueue {s₀ x : Node} (h : V s₀ x) (qs : List QItem) : V s₀ (x.withLdr { x.ldr with queue := qs }) :=
  h.k1 rfl id

theorem V.appendPlain {s₀ x : Node} (h : V s₀ x) (e : Entry) (hi : e.index = x.lastLogIndex + 1) (ht : e.typ ≠ etConfig) :
    V s₀ (x.appendEntry e) := by
  obtain ⟨a1, a2, _, _, _, _, a7, _⟩ := appendEntry_key x e
  refine ⟨LC.cappend _ h.cache, by rw [a1, a7, hi]; have := h.li; omega, by rw [a1]; exact h.anch,
    by rw [a2]; exact h.nid, fun hp => ?_⟩
  obtain ⟨k, ext, e0, e1, e2⟩ := h.chain (appendEntry_pan' x e hp)
  obtain ⟨d1, d2⟩ := drop_snoc e e0 e1
  exact ⟨k, ext ++ [e], by rw [← List.append_assoc]; exact d1,
    by rw [appendEntry_entries, ← List.append_assoc]; exact d2, by rw [a1]; exact .plain e e2 ht⟩

/-- what a batch of client entries leaves alone -/
def kp (x : Node) :=
  (x.configs, x.ldr.transfer.active, x.commitIndex, x.ldr.startIndex, x.ldr.numVoters, x.ldr.node, x.ldr.repls, x.nid)

theorem kp_reply (x : Node) (t : Nat) (r : String) : kp (x.reply t r) = kp x := by
  unfold Node.reply; split <;> rfl

theorem kp_panic (x : Node) (site : String) : kp (x.panic site) = kp x := by
  unfold Node.panic; split <;> rfl

theorem kp_appendEntry (x : Node) (e : Entry) : kp (x.appendEntry e) = kp x := by
  obtain ⟨a1, a2, _, a4, _, a6, _, _⟩ := appendEntry_key x e
  unfold kp
  rw [a1, a2, a4, a6]

theorem storeItem_plain (s₀ : Node) (m : Nat) (x : Node) (q : QItem) (hV : V s₀ x) (hq : q.typ ≠ etConfig) :
    V s₀ (storeItem m x q) ∧ kp (storeItem m x q) = kp x ∧ x.lastLogIndex ≤ (storeItem m x q).lastLogIndex ∧
    (Failed x → Failed (storeItem m x q)) := by
  unfold storeItem
  split
  · exact ⟨hV.reply _ _, kp_reply _ _ _, Nat.le_of_eq (reply_fields x _ _).2.1.symm, (q_reply x _ _).pan⟩
  · split
    · split
      · exact ⟨hV.reply _ _, kp_reply _ _ _, Nat.le_of_eq (reply_fields x _ _).2.1.symm, (q_reply x _ _).pan⟩
      · exact ⟨hV.reply _ _, kp_reply _ _ _, Nat.le_of_eq (reply_fields x _ _).2.1.symm, (q_reply x _ _).pan⟩
    · extract_lets q' l0 x0 x1
      have hV0 : V s₀ x0 := hV.withQueue _
      have hty : q'.typ ≠ etConfig := hq
      split
      · have e1 : (if q'.typ = etConfig then
            match q'.toEntry.config? with
            | some c => changeConfigL m x1 c
            | none => x1.panic "bug.configDecode"
          else x1) = x1 := if_neg hty
        first | rw [e1] | skip
        refine ⟨hV0.appendPlain _ rfl hty, (kp_appendEntry x0 _).trans rfl, ?_, (appendEntry_key x0 _).2.2.2.2.2.2.2⟩
        rw [(appendEntry_key x0 _).2.2.2.2.2.2.1]
        show x.lastLogIndex ≤ x.lastLogIndex + 1
        omega
      · exact ⟨hV0, rfl, Nat.le_refl _, id⟩

theorem storeItems_plain (s₀ : Node) (m : Nat) (b : List QItem) : ∀ (x : Node), V s₀ x → (∀ q ∈ b, q.typ ≠ etConfig) →
    V s₀ (storeItems m x b) ∧ kp (storeItems m x b) = kp x ∧ x.lastLogIndex ≤ (storeItems m x b).lastLogIndex ∧
    (Failed x → Failed (storeItems m x b)) := by
  induction b generalizing m with
  | nil => intro x hV _; rw [storeItems_nil]; exact ⟨hV, rfl, Nat.le_refl _, id⟩
  | cons q qs ih =>
    intro x hV hb
    cases m with
    | zero =>
      have e : storeItems 0 x (q :: qs) = x.panic "fuel" := by unfold storeItems; rfl
      rw [e]
      exact ⟨hV.panic _, kp_panic x _, Nat.le_of_eq (panic_fields x _).2.1.symm, (q_panic x _).pan⟩
    | succ m =>
      rw [storeItems_cons]
      obtain ⟨a1, a2, a3, a4⟩ := storeItem_plain s₀ m x q hV (hb q List.mem_cons_self)
      obtain ⟨b1, b2, b3, b4⟩ := ih m _ a1 (fun q' hq' => hb q' (List.mem_cons_of_mem _ hq'))
      exact ⟨b1, b2.trans a2, Nat.le_trans a3 b3, fun h => b4 (a4 h)⟩

end One
end Raft
