/-
What `Config.set` (Go's `c.Nodes[n.ID] = n`) and `Config.erase` (`delete(c.Nodes, id)`) do to a lookup: at the id written
the node stored, or nothing; at every other id what was there. Stated for `find?` and, from it, for `get` and `isVoter`.
With distinct ids, a member is found under its id (`find?_of_mem_nodup`). A stable configuration asks for no action
(`get_action_of_stable`, `nextAction_of_stable`).
-/
import RaftVerif.Model.Config

namespace Raft
namespace Config

theorem find_insertSorted_self (m : CNode) (l : List CNode) : (insertSorted m l).find? (·.id == m.id) = some m := by
  induction l with
  | nil => simp [insertSorted]
  | cons a as ih =>
    unfold insertSorted
    split
    · simp
    · split
      · simp
      · rename_i h1 h2
        rw [List.find?_cons_of_neg (by simpa using fun e => h2 e.symm), ih]

theorem find_insertSorted_ne (m : CNode) (l : List CNode) (x : Nat) (h : x ≠ m.id) :
    (insertSorted m l).find? (·.id == x) = l.find? (·.id == x) := by
  induction l with
  | nil => simp [insertSorted, List.find?]; intro he; exact absurd he.symm h
  | cons a as ih =>
    unfold insertSorted
    split
    · simp only [List.find?]
      have : (m.id == x) = false := by simp; intro he; exact h he.symm
      rw [this]
    · split
      · rename_i heq
        simp only [List.find?]
        have h1 : (m.id == x) = false := by simp; intro he; exact h he.symm
        have h2 : (a.id == x) = false := by simp; intro he; exact h (by rw [heq, he])
        rw [h1, h2]
      · simp only [List.find?]
        split
        · rfl
        · exact ih

theorem find_filter_self (l : List CNode) (id : Nat) : (l.filter (·.id != id)).find? (·.id == id) = none := by
  rw [List.find?_eq_none]
  intro x hx
  have := (List.mem_filter.mp hx).2
  simpa using this

theorem find_filter_ne (l : List CNode) (id x : Nat) (h : x ≠ id) :
    (l.filter (·.id != id)).find? (·.id == x) = l.find? (·.id == x) := by
  induction l with
  | nil => rfl
  | cons a as ih =>
    simp only [List.filter]
    by_cases ha : a.id = id
    · have h1 : (a.id != id) = false := by simp [ha]
      have h2 : (a.id == x) = false := by simp; intro he; exact h (by rw [← he, ha])
      rw [h1]
      simp only [List.find?, h2]
      exact ih
    · have h1 : (a.id != id) = true := by simp [ha]
      rw [h1]
      simp only [List.find?]
      split
      · rfl
      · exact ih

/-- with distinct ids a member is what a lookup of its id finds -/
theorem find?_of_mem_nodup : ∀ (l : List CNode), (l.map (·.id)).Nodup → ∀ n ∈ l, l.find? (·.id == n.id) = some n
  | [], _, _, h => by cases h
  | a :: as, hn, n, hm => by
    rw [List.map_cons, List.nodup_cons] at hn
    rcases List.mem_cons.mp hm with h | h
    · subst h
      simp [List.find?]
    · have hne : a.id ≠ n.id := fun he => hn.1 (by rw [he]; exact List.mem_map_of_mem h)
      have : (a.id == n.id) = false := by simp [hne]
      simp only [List.find?, this]
      exact find?_of_mem_nodup as hn.2 n h

theorem find?_set_self (c : Config) (m : CNode) : (c.set m).find? m.id = some m := find_insertSorted_self m c.nodes

theorem find?_set_ne (c : Config) (m : CNode) (x : Nat) (h : x ≠ m.id) : (c.set m).find? x = c.find? x :=
  find_insertSorted_ne m c.nodes x h

theorem find?_erase_self (c : Config) (id : Nat) : (c.erase id).find? id = none := find_filter_self c.nodes id

theorem find?_erase_ne (c : Config) (id x : Nat) (h : x ≠ id) : (c.erase id).find? x = c.find? x :=
  find_filter_ne c.nodes id x h

theorem get_set_self (c : Config) (n : CNode) : (c.set n).get n.id = n := by
  unfold get; rw [find?_set_self]; rfl

theorem get_set_ne (c : Config) (n : CNode) (id : Nat) (hne : n.id ≠ id) : (c.set n).get id = c.get id := by
  unfold get; rw [find?_set_ne c n id (Ne.symm hne)]

theorem get_erase_self (c : Config) (x : Nat) : (c.erase x).get x = {} := by
  unfold get; rw [find?_erase_self]; rfl

theorem get_erase_ne (c : Config) (x id : Nat) (hne : x ≠ id) : (c.erase x).get id = c.get id := by
  unfold get; rw [find?_erase_ne c x id (Ne.symm hne)]

theorem isVoter_set_ne (c : Config) (m : CNode) (x : Nat) (h : x ≠ m.id) : (c.set m).isVoter x = c.isVoter x := by
  unfold isVoter; rw [find?_set_ne c m x h]

theorem isVoter_erase_ne (c : Config) (id x : Nat) (h : x ≠ id) : (c.erase id).isVoter x = c.isVoter x := by
  unfold isVoter; rw [find?_erase_ne c id x h]

theorem _root_.Raft.CNode.nextAction_of_none (n : CNode) (h : n.action = actNone) : n.nextAction = actNone := by
  unfold CNode.nextAction
  rw [h]
  simp only [actNone, actForceRemove, actDemote, actRemove, actPromote]
  repeat' split
  all_goals first | rfl | omega

theorem get_action_of_stable (c : Config) (id : Nat) (h : c.isStable = true) : (c.get id).action = actNone := by
  unfold Config.get Config.find?
  cases hf : c.nodes.find? (·.id == id) with
  | none => rfl
  | some n =>
    have hm : n ∈ c.nodes := List.mem_of_find?_eq_some hf
    unfold Config.isStable at h
    have := List.all_eq_true.mp h n hm
    simpa using this

theorem nextAction_of_stable (c : Config) (id : Nat) (h : c.isStable = true) : (c.get id).nextAction = actNone :=
  CNode.nextAction_of_none _ (get_action_of_stable c id h)

end Config
end Raft
