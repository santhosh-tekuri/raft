/-
Delayed compaction (`leader.checkLogCompact`) at node level.

A batch of replication updates that contains `removeLTE` reports (`ReplUpd.removeLTE`) makes `checkReplUpdates` run
`checkLogCompact`, which compacts the log up to `ldr.removeLTE` when every replication reported an index at or above
it.  Stage 2 of the cluster system (Sys/Snap2.lean) excludes such batches (`LogRel.NoCompact`).  Here:

* `rmF us` — the batch without its compaction reports; `updPre` — the state in which `checkReplUpdates` decides about the
  compaction; `updTail` — what it does afterwards (`tryTransfer`); `checkReplUpdates_eq` — the decomposition.
* `U_replUpdLoop_rm` — on the UN-COMPACTED node (`SnapRelU.U`, which forgets the compaction bounds of the leader record)
  the loop over the batch is the loop over the batch without its compaction reports (the replication table is sorted by
  id: `LC.Cache`).
* `relog` — a node with another log and another list of crash points; what follows the compaction (`tryTransfer`,
  `leader.release` if `checkQuorum` made the node step down) neither reads nor writes them (`updFin_relog`).
* `step_rm_U` — the step of the un-compacted node with the batch `rmF us` is the un-compaction of `updFin` of `updPre`;
  `step_rm_real` — the step of the real node is that state, with the compacted log and one more crash point if
  `checkLogCompact` compacted.
-/
import RaftVerif.Lemmas.SnapRelU4
import RaftVerif.Lemmas.LeaderCache
import RaftVerif.Lemmas.ShapeLeader

namespace Raft
namespace SnapDelay
open Node SnapRelP SnapRelU

variable {β : List Entry}


def isRm (u : ReplUpdate) : Bool :=
  match u.upd with
  | .removeLTE _ => true
  | _ => false

def rmF (us : List ReplUpdate) : List ReplUpdate := us.filter (fun u => !isRm u)

theorem isRm_false {u : ReplUpdate} (h : isRm u = false) : ∀ v, u.upd ≠ .removeLTE v := by
  intro v hv
  unfold isRm at h
  rw [hv] at h
  cases h

theorem isRm_true {u : ReplUpdate} (h : isRm u = true) : ∃ v, u.upd = .removeLTE v := by
  unfold isRm at h
  split at h
  · exact ⟨_, by assumption⟩
  · cases h

theorem rmF_noRm (us : List ReplUpdate) : NoRm (rmF us) := by
  intro u hu v
  have := (List.mem_filter.mp hu).2
  exact isRm_false (by simpa using this) v

theorem rmF_mem {us : List ReplUpdate} {u : ReplUpdate} (h : u ∈ rmF us) : u ∈ us := (List.mem_filter.mp h).1

theorem rmF_cons_rm (u : ReplUpdate) (us : List ReplUpdate) (h : isRm u = true) : rmF (u :: us) = rmF us := by
  unfold rmF
  rw [List.filter_cons, if_neg (by rw [h]; decide)]

theorem rmF_cons_keep (u : ReplUpdate) (us : List ReplUpdate) (h : isRm u = false) : rmF (u :: us) = u :: rmF us := by
  unfold rmF
  rw [List.filter_cons, if_pos (by rw [h]; rfl)]

theorem rmF_of_noRm (us : List ReplUpdate) (h : NoRm us) : rmF us = us := by
  unfold rmF
  apply List.filter_eq_self.mpr
  intro u hu
  unfold isRm
  split
  · rename_i v hv; exact absurd hv (h u hu v)
  · rfl


theorem U_setRepl_rm (s : Node) (st : Repl) (id v : Nat) (hc : LC.Cache s) (hf : s.findRepl? id = some st) :
    U β (s.setRepl { st with removeLTE := v }) = U β s := by
  have hm := LC.find_mem hf
  have e : (insertRepl { st with removeLTE := v } s.ldr.repls).map zrr = s.ldr.repls.map zrr :=
    LC.map_insertRepl zrr _ st _ hc.sortedRepls hm.1 rfl rfl
  unfold Node.setRepl
  show ({ s with log := uncLog β s.log,
                 ldr := { zr s.ldr with repls := (insertRepl { st with removeLTE := v } s.ldr.repls).map zrr },
                 trace := s.trace.map (uncP β) } : Node) = _
  rw [e]
  rfl


/-- the flags of the loop over `rmF us` are those of the loop over `us`, except the one that records a compaction
report -/
def FlagsEq (g f : UpdFlags) : Prop := g.matchU = f.matchU ∧ g.noContactU = f.noContactU ∧ g.stop = f.stop

theorem flags_ext {g f : UpdFlags} (h : FlagsEq g f) : g = { f with removeLTEU := g.removeLTEU } := by
  obtain ⟨h1, h2, h3⟩ := h
  cases g; cases f
  simp only at h1 h2 h3
  simp only [h1, h2, h3]

theorem U_replUpdLoop_rm (us : List ReplUpdate) : ∀ (s : Node) (f g : UpdFlags), LC.Cache s → FlagsEq g f →
    (replUpdLoop s f us).1.panicked = none →
    replUpdLoop (U β s) g (rmF us) =
      (U β (replUpdLoop s f us).1, { (replUpdLoop s f us).2 with removeLTEU := g.removeLTEU }) := by
  induction us with
  | nil =>
    intro s f g _ hg _
    show (U β s, g) = (U β s, { f with removeLTEU := g.removeLTEU })
    rw [← flags_ext hg]
  | cons u us ih =>
    intro s f g hc hg hp
    cases hrm : isRm u with
    | true =>
      rw [rmF_cons_rm u us hrm]
      obtain ⟨v, hv⟩ := isRm_true hrm
      unfold replUpdLoop at hp
      conv => rhs; unfold replUpdLoop
      by_cases hr : u.removed = true
      · rw [if_pos hr] at hp ⊢
        exact ih s f g hc hg hp
      · rw [if_neg hr] at hp ⊢
        cases hf : s.findRepl? u.id with
        | none =>
          rw [hf] at hp
          exact ih s f g hc hg hp
        | some st =>
          rw [hf] at hp
          dsimp only at hp ⊢
          rw [hv] at hp ⊢
          dsimp only at hp ⊢
          have hc' : LC.Cache (s.setRepl { st with removeLTE := v }) := LC.csetRepl _ st u.id hc hf rfl
          have := ih (s.setRepl { st with removeLTE := v }) { f with removeLTEU := true } g hc' hg hp
          rw [U_setRepl_rm s st u.id v hc hf] at this
          exact this
    | false =>
      rw [rmF_cons_keep u us hrm]
      have hu := isRm_false hrm
      unfold replUpdLoop at hp ⊢
      by_cases hr : u.removed = true
      · rw [if_pos hr] at hp ⊢
        rw [if_pos hr]
        exact ih s f g hc hg hp
      · rw [if_neg hr] at hp ⊢
        rw [if_neg hr, U_findRepl?]
        cases hf : s.findRepl? u.id with
        | none =>
          rw [hf] at hp
          exact ih s f g hc hg hp
        | some st =>
          rw [hf] at hp
          dsimp only [Option.map] at hp ⊢
          cases hupd : u.upd with
          | matchIndex v =>
            rw [hupd] at hp
            dsimp only at hp ⊢
            have hs := replUpdLoop_sticky us _ _ hp
            have e1 : (U β s).setRepl { zrr st with matchIndex := v } = U β (s.setRepl { st with matchIndex := v }) :=
              U_setRepl s { st with matchIndex := v }
            have hc1 : LC.Cache (s.setRepl { st with matchIndex := v }) := LC.csetRepl _ st u.id hc hf rfl
            have e2 : (if (!(zrr st).node.voter) = true ∧ (zrr st).node.action ≠ actNone then
                  checkConfigAction (fuelFor 0) ((U β s).setRepl { zrr st with matchIndex := v }) 0
                    ((U β s).setRepl { zrr st with matchIndex := v }).configs.latest (zrr st).id
                else (U β s).setRepl { zrr st with matchIndex := v }) =
                U β (if (!st.node.voter) = true ∧ st.node.action ≠ actNone then
                  checkConfigAction (fuelFor 0) (s.setRepl { st with matchIndex := v }) 0
                    (s.setRepl { st with matchIndex := v }).configs.latest st.id
                else s.setRepl { st with matchIndex := v }) := by
              rw [e1]
              by_cases hcc : (!st.node.voter) = true ∧ st.node.action ≠ actNone
              · rw [if_pos hcc] at hs ⊢
                rw [if_pos (show (!(zrr st).node.voter) = true ∧ (zrr st).node.action ≠ actNone from hcc)]
                exact U_checkConfigAction _ _ _ _ _ hs
              · rw [if_neg hcc, if_neg (show ¬ ((!(zrr st).node.voter) = true ∧ (zrr st).node.action ≠ actNone) from hcc)]
            rw [e2]
            have hc2 : LC.Cache (if (!st.node.voter) = true ∧ st.node.action ≠ actNone then
                  checkConfigAction (fuelFor 0) (s.setRepl { st with matchIndex := v }) 0
                    (s.setRepl { st with matchIndex := v }).configs.latest st.id
                else s.setRepl { st with matchIndex := v }) := by
              split
              · exact LC.ccheckConfigAction _ _ _ _ hc1
              · exact hc1
            exact ih _ { f with matchU := true } { g with matchU := true } hc2 ⟨rfl, hg.2.1, hg.2.2⟩ hp
          | removeLTE v => exact absurd hupd (hu v)
          | noContact b =>
            rw [hupd] at hp
            dsimp only at hp ⊢
            have e1 : (U β s).setRepl { zrr st with noContact := b } = U β (s.setRepl { st with noContact := b }) :=
              U_setRepl s { st with noContact := b }
            rw [e1]
            have hc1 : LC.Cache (s.setRepl { st with noContact := b }) := LC.csetRepl _ st u.id hc hf rfl
            exact ih _ { f with noContactU := true } { g with noContactU := true } hc1 ⟨hg.1, rfl, hg.2.2⟩ hp
          | newTerm v =>
            rw [hupd] at hp
            dsimp only at hp ⊢
            show ((((U β s).setRole .follower).setLeader 0).setTerm v, _) = _
            rw [U_setRole, U_setLeader, U_setTerm, hg.1, hg.2.1]


/-- the state in which `checkReplUpdates` decides about the compaction (when the loop did not stop): after the loop,
`onMajorityCommit` and `checkQuorum` -/
def updPre (s : Node) (us : List ReplUpdate) : Node :=
  let r := replUpdLoop s {} us
  let a := if r.2.matchU then onMajorityCommit (fuelFor 0) r.1 else r.1
  if r.2.noContactU then a.checkQuorum else a

/-- the compaction decision of `checkReplUpdates` -/
def updCompact (f : UpdFlags) (a : Node) : Node :=
  if f.removeLTEU ∧ a.ldr.removeLTE > a.log.prev then a.checkLogCompact else a

/-- what `checkReplUpdates` does after the compaction decision -/
def updTail (f : UpdFlags) (s : Node) : Node :=
  if (f.matchU ∨ f.noContactU) ∧ s.ldr.transfer.active ∧ !s.ldr.transfer.targetChosen then s.tryTransfer else s

theorem checkReplUpdates_eq (s : Node) (us : List ReplUpdate) :
    s.checkReplUpdates us =
      if (replUpdLoop s {} us).2.stop then (replUpdLoop s {} us).1
      else updTail (replUpdLoop s {} us).2 (updCompact (replUpdLoop s {} us).2 (updPre s us)) := rfl

theorem updCompact_noRm (f : UpdFlags) (a : Node) (h : f.removeLTEU = false) : updCompact f a = a := by
  unfold updCompact
  rw [h]
  simp only [Bool.false_eq_true, false_and, if_false]


def relog (a : Node) (l : NLog) (t : List (String × Durable)) : Node := { a with log := l, trace := t }

theorem relog_self (a : Node) : relog a a.log a.trace = a := rfl

theorem compactLog_relog (a : Node) (R : Nat) :
    a.compactLog R = relog a (a.log.removeLTE R)
      (a.trace ++ [("compactLog", ({ a with log := a.log.removeLTE R } : Node).durable)]) := rfl

theorem panic_relog (a : Node) (l : NLog) (t : List (String × Durable)) (site : String) :
    (relog a l t).panic site = relog (a.panic site) l t := by
  unfold Node.panic
  show (if a.panicked.isNone = true then _ else _) = _
  split <;> rfl

theorem tryTransfer_relog (a : Node) (l : NLog) (t : List (String × Durable)) :
    (relog a l t).tryTransfer = relog a.tryTransfer l t := by
  unfold Node.tryTransfer
  have e : (relog a l t).tryTransferTarget = a.tryTransferTarget := rfl
  rw [e]
  dsimp only
  show (if a.tryTransferTarget.1 ≠ 0 then _ else _) = _
  by_cases h1 : a.ldr.transfer.target = 0
  · rw [if_pos (show (relog a l t).ldr.transfer.target = 0 from h1), if_pos h1]
    by_cases h2 : a.tryTransferTarget.2 = true
    · rw [if_pos h2, if_pos h2, show (relog a l t).popOrder = relog a.popOrder l t from rfl, panic_relog]
      split <;> rfl
    · rw [if_neg h2, if_neg h2]
      split <;> rfl
  · rw [if_neg (show ¬ (relog a l t).ldr.transfer.target = 0 from h1), if_neg h1]
    by_cases h2 : a.tryTransferTarget.2 = true
    · rw [if_pos h2, if_pos h2, panic_relog]
      split <;> rfl
    · rw [if_neg h2, if_neg h2]
      split <;> rfl

theorem updTail_relog (f : UpdFlags) (a : Node) (l : NLog) (t : List (String × Durable)) :
    updTail f (relog a l t) = relog (updTail f a) l t := by
  unfold updTail
  show (if (f.matchU = true ∨ f.noContactU = true) ∧ a.ldr.transfer.active = true ∧ (!a.ldr.transfer.targetChosen) = true
    then _ else _) = _
  split
  · exact tryTransfer_relog a l t
  · rfl

theorem foldl_reply_relog {α : Type} (g : α → Nat) (err : String) (xs : List α) :
    ∀ (a : Node) (l : NLog) (t : List (String × Durable)),
      xs.foldl (fun s q => s.reply (g q) err) (relog a l t) = relog (xs.foldl (fun s q => s.reply (g q) err) a) l t := by
  intro a l t
  rw [foldl_reply_eq, foldl_reply_eq]
  rfl

theorem leaderReleaseRest_relog (a : Node) (l : NLog) (t : List (String × Durable)) :
    (relog a l t).leaderReleaseRest = relog a.leaderReleaseRest l t := by
  unfold Node.leaderReleaseRest
  dsimp only
  show (Node.withLdr _ _) = _
  by_cases h1 : a.leader = a.nid
  · simp only [if_pos (show (relog a l t).leader = (relog a l t).nid from h1), if_pos h1]
    rw [show (relog a l t).setLeader 0 = relog (a.setLeader 0) l t from rfl]
    rw [show (relog (a.setLeader 0) l t).isClosed = (a.setLeader 0).isClosed from rfl,
      show (relog (a.setLeader 0) l t).notLeader true = (a.setLeader 0).notLeader true from rfl,
      show (relog (a.setLeader 0) l t).ldr = (a.setLeader 0).ldr from rfl]
    rw [foldl_reply_relog (fun q : QItem => q.task), foldl_reply_relog (fun q : Nat => q)]
    rfl
  · simp only [if_neg (show ¬ (relog a l t).leader = (relog a l t).nid from h1), if_neg h1]
    rw [show (relog a l t).isClosed = a.isClosed from rfl,
      show (relog a l t).notLeader true = a.notLeader true from rfl,
      show (relog a l t).ldr = a.ldr from rfl]
    rw [foldl_reply_relog (fun q : QItem => q.task), foldl_reply_relog (fun q : Nat => q)]
    rfl

theorem transferReply_relog (a : Node) (l : NLog) (t : List (String × Durable)) (r : String) :
    (relog a l t).transferReply r = relog (a.transferReply r) l t := by
  unfold Node.transferReply Node.reply
  by_cases h : a.ldr.transfer.task = 0
  · simp only [if_pos (show (relog a l t).ldr.transfer.task = 0 from h), if_pos h]; rfl
  · simp only [if_neg (show ¬ (relog a l t).ldr.transfer.task = 0 from h), if_neg h]; rfl

theorem leaderRelease_relog (a : Node) (l : NLog) (t : List (String × Durable)) :
    (relog a l t).leaderRelease = relog a.leaderRelease l t := by
  unfold Node.leaderRelease
  by_cases h : a.ldr.transfer.active = true
  · rw [if_pos (show (relog a l t).ldr.transfer.active = true from h), if_pos h,
      show (relog a l t).releaseResult = a.releaseResult from rfl, transferReply_relog]
    exact leaderReleaseRest_relog _ l t
  · rw [if_neg (show ¬ (relog a l t).ldr.transfer.active = true from h), if_neg h]
    exact leaderReleaseRest_relog a l t


theorem settle_succ (n : Nat) (s : Node) (c : Role) :
    settle (n + 1) s c = if s.role = c then s else settle n (s.releaseRole c).initRole (s.releaseRole c).role := rfl

/-- a leader that is still leader, or stepped down, after its handler: at most `leader.release` runs -/
theorem settle_leader (s : Node) (h : s.role ≠ .candidate) :
    settle 6 s .leader = if s.role = .leader then s else s.leaderRelease := by
  rw [settle_succ]
  split
  · rfl
  · rename_i hl
    have hr : (s.releaseRole .leader).role = s.role := LC.role_releaseRole s .leader
    have hf : s.role = .follower := by
      cases hrole : s.role with
      | follower => rfl
      | candidate => exact absurd hrole h
      | leader => exact absurd hrole hl
    have e1 : (s.releaseRole .leader).initRole = s.releaseRole .leader := by
      unfold Node.initRole
      rw [hr, hf]
    rw [e1, settle_succ, if_pos rfl]
    rfl

/-- `checkReplUpdates` after the compaction decision, and the role transitions -/
def updFin (f : UpdFlags) (a : Node) : Node := settle 6 (updTail f a) .leader

theorem role_tryTransfer (s : Node) : s.tryTransfer.role = s.role := by rw [tryTransfer_shape]

theorem role_updTail (f : UpdFlags) (a : Node) : (updTail f a).role = a.role := by
  unfold updTail
  split
  · exact role_tryTransfer a
  · rfl

theorem updFin_relog (f : UpdFlags) (a : Node) (l : NLog) (t : List (String × Durable)) (h : a.role ≠ .candidate) :
    updFin f (relog a l t) = relog (updFin f a) l t := by
  unfold updFin
  rw [updTail_relog]
  have h1 : (updTail f a).role ≠ .candidate := by rw [role_updTail]; exact h
  rw [settle_leader _ h1, settle_leader (relog (updTail f a) l t) h1]
  show (if (updTail f a).role = .leader then _ else _) = _
  split
  · rfl
  · exact leaderRelease_relog _ l t

/-- what is left of `checkReplUpdates` after the compaction decision answers tasks and updates the leader record -/
theorem updFin_shape (f : UpdFlags) (a : Node) (h : a.role ≠ .candidate) :
    updFin f a =
      { a with orders := (updFin f a).orders, panicked := (updFin f a).panicked, leader := (updFin f a).leader,
               replies := (updFin f a).replies, ldr := (updFin f a).ldr } := by
  unfold updFin
  have h1 : (updTail f a).role ≠ .candidate := by rw [role_updTail]; exact h
  have h2 : updTail f a =
      { a with orders := (updTail f a).orders, panicked := (updTail f a).panicked, ldr := (updTail f a).ldr } := by
    unfold updTail
    split
    · rw [tryTransfer_shape]
    · rfl
  rw [settle_leader _ h1]
  split
  · rw [h2]
  · rw [leaderRelease_shape, h2]

theorem updFin_log (f : UpdFlags) (a : Node) (h : a.role ≠ .candidate) :
    (updFin f a).log = a.log ∧ (updFin f a).trace = a.trace := by
  have := updFin_relog f a a.log a.trace h
  rw [relog_self] at this
  constructor
  · rw [this]; rfl
  · rw [this]; rfl


theorem step_rm_eq (s : Node) (us : List ReplUpdate) (ra : List Nat) (ord : List (List Nat)) :
    s.step (.replUpdates us) ra ord =
      if (s.begin ra ord).role = .leader then
        if (replUpdLoop (s.begin ra ord) {} us).2.stop then settle 6 (replUpdLoop (s.begin ra ord) {} us).1 .leader
        else updFin (replUpdLoop (s.begin ra ord) {} us).2
          (updCompact (replUpdLoop (s.begin ra ord) {} us).2 (updPre (s.begin ra ord) us))
      else s.begin ra ord := by
  unfold Node.step
  dsimp only
  unfold Node.handle
  dsimp only
  by_cases hl : (s.begin ra ord).role = .leader
  · rw [if_pos hl, if_pos hl, checkReplUpdates_eq, hl]
    split
    · rfl
    · rfl
  · rw [if_neg hl, if_neg hl, settle_succ, if_pos rfl]

/-- the result of the step with a batch of updates when the compaction is left out -/
def stepNC (s : Node) (us : List ReplUpdate) (ra : List Nat) (ord : List (List Nat)) : Node :=
  if (s.begin ra ord).role = .leader then
    if (replUpdLoop (s.begin ra ord) {} us).2.stop then settle 6 (replUpdLoop (s.begin ra ord) {} us).1 .leader
    else updFin (replUpdLoop (s.begin ra ord) {} us).2 (updPre (s.begin ra ord) us)
  else s.begin ra ord

theorem stepNC_noRm (s : Node) (us : List ReplUpdate) (ra : List Nat) (ord : List (List Nat)) (h : NoRm us) :
    s.step (.replUpdates us) ra ord = stepNC s us ra ord := by
  rw [step_rm_eq]
  unfold stepNC
  rw [updCompact_noRm _ _ (replUpdLoop_flag us h _ {})]


theorem notCand_replUpdLoop (us : List ReplUpdate) : ∀ (s : Node) (f : UpdFlags), s.role ≠ .candidate →
    (replUpdLoop s f us).1.role ≠ .candidate := by
  induction us with
  | nil => intro s f h; exact h
  | cons u us ih =>
    intro s f h
    unfold replUpdLoop
    split
    · exact ih s f h
    · split
      · exact ih s f h
      · split
        · dsimp only
          apply ih
          split
          · exact (LC.notCandidate_closed.block _).2.2.2.2.2.1 _ _ _ _ (LC.notCandidate_closed.setRepl_inv _ _ h)
          · exact LC.notCandidate_closed.setRepl_inv _ _ h
        · exact ih _ _ (LC.notCandidate_closed.setRepl_inv _ _ h)
        · exact ih _ _ (LC.notCandidate_closed.setRepl_inv _ _ h)
        · show (Node.setTerm _ _).role ≠ _
          rw [LC.role_setTerm]
          exact fun x => by cases x

theorem role_checkQuorum (s : Node) : s.checkQuorum.role = s.role ∨ s.checkQuorum.role = .follower := by
  unfold Node.checkQuorum
  dsimp only
  repeat' split
  all_goals first | exact Or.inl rfl | exact Or.inr rfl | exact Or.inl (LC.role_panic _ _)

theorem notCand_updPre (s : Node) (us : List ReplUpdate) (h : s.role ≠ .candidate) :
    (updPre s us).role ≠ .candidate := by
  unfold updPre
  dsimp only
  have h1 := notCand_replUpdLoop us s {} h
  have h2 : (if (replUpdLoop s {} us).2.matchU = true then onMajorityCommit (fuelFor 0) (replUpdLoop s {} us).1
      else (replUpdLoop s {} us).1).role ≠ .candidate := by
    split
    · exact (LC.notCandidate_closed.block _).2.2.2.2.2.2.2 _ h1
    · exact h1
  split
  · rcases role_checkQuorum (if (replUpdLoop s {} us).2.matchU = true then onMajorityCommit (fuelFor 0) (replUpdLoop s {} us).1
      else (replUpdLoop s {} us).1) with e | e
    · rw [e]; exact h2
    · rw [e]; exact fun x => by cases x
  · exact h2


/-- the step compacted the log (`checkLogCompact` ran `compactLog`) -/
structure Compacted (s : Node) (us : List ReplUpdate) (ra : List Nat) (ord : List (List Nat)) : Prop where
  leader : (s.begin ra ord).role = .leader
  go : (replUpdLoop (s.begin ra ord) {} us).2.stop = false
  gt : (updPre (s.begin ra ord) us).log.prev < (updPre (s.begin ra ord) us).ldr.removeLTE
  all : ∀ r ∈ (updPre (s.begin ra ord) us).ldr.repls, (updPre (s.begin ra ord) us).ldr.removeLTE ≤ r.removeLTE
  step : s.step (.replUpdates us) ra ord =
    relog (stepNC s us ra ord)
      ((updPre (s.begin ra ord) us).log.removeLTE (updPre (s.begin ra ord) us).ldr.removeLTE)
      ((updPre (s.begin ra ord) us).trace ++ [("compactLog",
        ((updPre (s.begin ra ord) us).compactLog (updPre (s.begin ra ord) us).ldr.removeLTE).durable)])
  log : (stepNC s us ra ord).log = (updPre (s.begin ra ord) us).log
  trace : (stepNC s us ra ord).trace = (updPre (s.begin ra ord) us).trace

/-- what the compaction decision changes in the final state: nothing, or the log is compacted at the leader's bound and
one crash point is added -/
theorem updFin_updCompact (f : UpdFlags) (a : Node) (hnc : a.role ≠ .candidate) :
    updFin f (updCompact f a) = updFin f a ∨
    (a.log.prev < a.ldr.removeLTE ∧ (∀ r ∈ a.ldr.repls, a.ldr.removeLTE ≤ r.removeLTE) ∧
      updFin f (updCompact f a) = relog (updFin f a) (a.log.removeLTE a.ldr.removeLTE)
        (a.trace ++ [("compactLog", (a.compactLog a.ldr.removeLTE).durable)])) := by
  unfold updCompact
  by_cases hg : f.removeLTEU = true ∧ a.ldr.removeLTE > a.log.prev
  · rw [if_pos hg]
    rcases C09.checkLogCompact_effect a with ⟨_, e⟩ | ⟨hall, e⟩
    · left; rw [e]
    · right
      refine ⟨hg.2, hall, ?_⟩
      rw [e, compactLog_relog, updFin_relog _ _ _ _ hnc]
      rfl
  · left; rw [if_neg hg]

theorem step_rm_real (s : Node) (us : List ReplUpdate) (ra : List Nat) (ord : List (List Nat)) :
    s.step (.replUpdates us) ra ord = stepNC s us ra ord ∨ Compacted s us ra ord := by
  by_cases hl : (s.begin ra ord).role = .leader
  · cases hst : (replUpdLoop (s.begin ra ord) {} us).2.stop with
    | true => left; rw [step_rm_eq]; unfold stepNC; rw [if_pos hl, if_pos hl, hst, if_pos rfl, if_pos rfl]
    | false =>
      have hnc : (updPre (s.begin ra ord) us).role ≠ .candidate :=
        notCand_updPre _ us (by rw [hl]; exact fun x => by cases x)
      have hN : stepNC s us ra ord = updFin (replUpdLoop (s.begin ra ord) {} us).2 (updPre (s.begin ra ord) us) := by
        unfold stepNC
        rw [if_pos hl, hst, if_neg Bool.false_ne_true]
      have hS : s.step (.replUpdates us) ra ord = updFin (replUpdLoop (s.begin ra ord) {} us).2
          (updCompact (replUpdLoop (s.begin ra ord) {} us).2 (updPre (s.begin ra ord) us)) := by
        rw [step_rm_eq, if_pos hl, hst, if_neg Bool.false_ne_true]
      rw [hS, hN]
      rcases updFin_updCompact (replUpdLoop (s.begin ra ord) {} us).2 _ hnc with e | ⟨hgt, hall, e⟩
      · left; exact e
      · right
        have hlt := updFin_log (replUpdLoop (s.begin ra ord) {} us).2 _ hnc
        exact ⟨hl, hst, hgt, hall, by rw [hS, hN]; exact e, by rw [hN]; exact hlt.1, by rw [hN]; exact hlt.2⟩
  · left; rw [step_rm_eq]; unfold stepNC; rw [if_neg hl, if_neg hl]


theorem P_updFin (π : String) (f : UpdFlags) (x : Node) : updFin f (P π x) = P π (updFin f x) := by
  unfold updFin updTail
  pcomm

theorem updFin_sticky (f : UpdFlags) (x : Node) (h : (updFin f x).panicked = none) : x.panicked = none :=
  npk (k := fun x => updFin f x) (fun π x => P_updFin π f x) h

theorem updPre_sticky (s : Node) (us : List ReplUpdate) (h : (updPre s us).panicked = none) :
    (replUpdLoop s {} us).1.panicked = none ∧
    (if (replUpdLoop s {} us).2.matchU = true then onMajorityCommit (fuelFor 0) (replUpdLoop s {} us).1
      else (replUpdLoop s {} us).1).panicked = none := by
  unfold updPre at h
  dsimp only at h
  have h2 : (if (replUpdLoop s {} us).2.matchU = true then onMajorityCommit (fuelFor 0) (replUpdLoop s {} us).1
      else (replUpdLoop s {} us).1).panicked = none := by
    split at h
    · exact npk (k := fun x => x.checkQuorum) (fun π x => P_checkQuorum x) h
    · exact h
  refine ⟨?_, h2⟩
  split at h2
  · exact npk (k := fun x => onMajorityCommit (fuelFor 0) x) (fun π x => P_onMajorityCommit _ x) h2
  · exact h2

theorem stepNC_panicked (s : Node) (us : List ReplUpdate) (ra : List Nat) (ord : List (List Nat)) :
    (stepNC s us ra ord).panicked = (s.step (.replUpdates us) ra ord).panicked := by
  rcases step_rm_real s us ra ord with e | hc
  · rw [e]
  · rw [hc.step]; rfl


theorem U_updPre (s : Node) (us : List ReplUpdate) (hc : LC.Cache s) (hp : (updPre s us).panicked = none) :
    updPre (U β s) (rmF us) = U β (updPre s us) := by
  obtain ⟨h1, h2⟩ := updPre_sticky s us hp
  have hl := U_replUpdLoop_rm (β := β) us s {} {} hc ⟨rfl, rfl, rfl⟩ h1
  unfold updPre
  rw [hl]
  dsimp only
  have e1 : (if (replUpdLoop s {} us).2.matchU = true then onMajorityCommit (fuelFor 0) (U β (replUpdLoop s {} us).1)
      else U β (replUpdLoop s {} us).1) =
      U β (if (replUpdLoop s {} us).2.matchU = true then onMajorityCommit (fuelFor 0) (replUpdLoop s {} us).1
      else (replUpdLoop s {} us).1) := by
    split
    · rename_i hm
      rw [if_pos hm] at h2
      exact U_onMajorityCommit _ _ h2
    · rfl
  rw [e1]
  split
  · exact U_checkQuorum _
  · rfl

theorem U_updFin (f g : UpdFlags) (a : Node) (h1 : g.matchU = f.matchU) (h2 : g.noContactU = f.noContactU)
    (hp : (updFin f a).panicked = none) : updFin g (U β a) = U β (updFin f a) := by
  unfold updFin at hp ⊢
  have e : updTail g (U β a) = U β (updTail f a) := by
    unfold updTail
    rw [h1, h2]
    show (if (f.matchU = true ∨ f.noContactU = true) ∧ a.ldr.transfer.active = true ∧
      (!a.ldr.transfer.targetChosen) = true then _ else _) = _
    split
    · exact U_tryTransfer a
    · rfl
  rw [e]
  exact U_settle 6 _ _ hp

theorem step_rm_U (s : Node) (us : List ReplUpdate) (ra : List Nat) (ord : List (List Nat))
    (hc : (s.begin ra ord).role = .leader → LC.Cache (s.begin ra ord))
    (hp : (s.step (.replUpdates us) ra ord).panicked = none) :
    (U β s).step (.replUpdates (rmF us)) ra ord = U β (stepNC s us ra ord) := by
  rw [← stepNC_panicked] at hp
  rw [stepNC_noRm (U β s) (rmF us) ra ord (rmF_noRm us)]
  unfold stepNC at hp ⊢
  show (if (s.begin ra ord).role = .leader then _ else _) = _
  by_cases hl : (s.begin ra ord).role = .leader
  · rw [if_pos hl] at hp ⊢
    rw [if_pos hl]
    have hC := hc hl
    rw [show (U β s).begin ra ord = U β (s.begin ra ord) from rfl]
    cases hst : (replUpdLoop (s.begin ra ord) {} us).2.stop with
    | true =>
      rw [hst] at hp
      simp only [if_true] at hp
      have h1 : (replUpdLoop (s.begin ra ord) {} us).1.panicked = none := settle_sticky 6 _ _ hp
      have hloop := U_replUpdLoop_rm (β := β) us (s.begin ra ord) {} {} hC ⟨rfl, rfl, rfl⟩ h1
      rw [hloop]
      dsimp only
      rw [hst]
      simp only [if_true]
      exact U_settle 6 _ _ hp
    | false =>
      rw [hst] at hp
      simp only [Bool.false_eq_true, if_false] at hp
      have h0 : (updPre (s.begin ra ord) us).panicked = none := updFin_sticky _ _ hp
      have h1 := (updPre_sticky _ us h0).1
      have hloop := U_replUpdLoop_rm (β := β) us (s.begin ra ord) {} {} hC ⟨rfl, rfl, rfl⟩ h1
      rw [hloop]
      dsimp only
      rw [hst]
      simp only [Bool.false_eq_true, if_false]
      rw [U_updPre _ us hC h0]
      exact U_updFin _ _ _ rfl rfl hp
  · rw [if_neg hl] at hp ⊢
    rw [if_neg hl]
    rfl

end SnapDelay
end Raft
