/-
C12 at every crash point (part B): the invariant `TJ` of `Lemmas/TrackCrashA.lean` is carried through the leader block
and the handlers (`tj_carries`, an instance of `Track.Carries`); the snapshot goroutine and `bootstrap`;
with what `TJ` asks of an operation it goes through `handle` and `step` (`tj_handles`, an instance of
`Track.Handles`; `tj_stepAll`). An install request, whose crash points are analysed in `Lemmas/SnapInstCrash.lean`, is
excluded.
-/
import RaftVerif.Lemmas.TrackCrashA

namespace Raft
namespace TrackCrash
open Node Track

variable {s₀ : Node} {b g : Bool}

theorem tj_push {s : Node} (q' : QItem) (h : TJ s₀ b true s) (hq : isLogEntryTyp q'.typ ≠ true) :
    TJ s₀ b true (s.withLdr { s.ldr with queue := s.ldr.queue ++ [q'] }) :=
  h.irr (ti_push q' h.1 hq) rfl id

theorem tj_push_append {s : Node} (q' : QItem) (h : TJ s₀ b true s)
    (hd : s.panicked = none → q'.toEntry.typ = etConfig → q'.toEntry.cfg.isSome = true) :
    TJ s₀ b true ((s.withLdr { s.ldr with queue := s.ldr.queue ++ [q'] }).appendEntry q'.toEntry) := by
  refine tj_appendEntry q'.toEntry (h.irr (ti_pushQ q' h.1) rfl id) (fun _ hp x hx ht hlt => ?_) hd
  rcases List.mem_append.mp hx with e | e
  · exact Or.inl ((h.1.2 hp).2 rfl x e ht hlt)
  · rw [List.mem_singleton.mp e]; exact Or.inr ⟨rfl, rfl⟩

/-- `TJ` with the side condition of the adoption that is pending -/
def JPre (s₀ : Node) (b g : Bool) (s : Node) (c : Config) : Prop := TJ s₀ b g s ∧ Fresh s c

theorem tj_carries (s₀ : Node) : Carries s₀ (TJ s₀) (JPre s₀) where
  inv := fun h => h.1.1
  dropQ := TJ.dropQ
  weaken := TJ.weaken
  panic := tj_panic
  irr := TJ.irrT
  point := tj_point
  setTerm := tj_setTerm
  setVotedFor := tj_setVotedFor
  ldr := tj_ldr
  ldr_sub := tj_ldr_sub
  ldr_fresh := tj_ldr_fresh
  commitConfig := tj_commitConfig
  setCommitIndexR := fun i h hg _ => tj_setCommitIndexR i h hg
  snapResult := tj_snapResult
  commitLog := tj_commitLog
  compactLog := tj_compactLog
  applyCommitted := tj_applyCommitted
  applyCommittedL := tj_applyCommittedL
  push := tj_push
  pushAppend := fun q' h hnc => tj_push_append q' h (fun _ ht => absurd ht hnc)
  pushPend := fun q' h hcfg => ⟨tj_push_append q' h (fun _ _ => (Entry.config?_facts hcfg).2.2.2),
    (ti_pushPend q' h.1 hcfg).2⟩
  adopt := fun h hl hq => tj_changeConfigR _ (tj_ldr_same h.1 hl hq) h.2

theorem block (s₀ : Node) (fuel : Nat) (b : Bool) :
    Block (TJ s₀ false true) (TJ s₀ b true) (fun c s => JPre s₀ b true s c) fuel :=
  (tj_carries s₀).block fuel b

/-- the fallback of `doTakeSnapshot` (the configuration captured at request time is used when the FSM holds
none) yields a label the snapshot covers: what is asked of a pending snapshot request -/
def SnapFb (s : Node) : Prop :=
  ∀ rq, s.snapPending = some rq → s.fsm.index ≠ s.snapIndex → rq.minIndex ≤ s.fsm.index →
    0 < s.fsm.config.index ∨ rq.config.index ≤ s.fsm.index

instance (s : Node) : Decidable (SnapFb s) := by
  unfold SnapFb
  cases h : s.snapPending with
  | none => exact isTrue (fun rq hrq => by cases hrq)
  | some rq =>
    exact decidable_of_iff (s.fsm.index ≠ s.snapIndex → rq.minIndex ≤ s.fsm.index →
        0 < s.fsm.config.index ∨ rq.config.index ≤ s.fsm.index)
      ⟨fun hh rq' hrq' => by injection hrq' with e; rw [← e]; exact hh, fun hh => hh rq rfl⟩

def SnapFbOp (s : Node) : Op → Prop
  | .snapRun => SnapFb s
  | .shutdown => SnapFb s
  | _ => True

instance (s : Node) (op : Op) : Decidable (SnapFbOp s op) := by
  cases op <;> unfold SnapFbOp <;> infer_instance

theorem tj_snapRun {s : Node} (h : TJ s₀ b g s) (hfb : SnapFb s) : TJ s₀ b g s.snapRun := by
  refine (tj_carries s₀).snapRun_of h fun rq hrq hne hmin =>
    tj_publishSnap _ ((tj_carries s₀).snapPending none h) rfl rfl (fun hpos => if_pos hpos) (fun hp => ?_)
  have hp' : s.panicked = none := hp
  have c := h.core hp'
  have cw := h.coreW hp'
  have m := h.mem hp'
  show (if s.fsm.config.index > 0 then s.fsm.config else rq.config).index ≤ s.fsm.index
  split
  · rename_i hpos
    rw [c.fsmOk.cfgPos hpos]
    exact newest_index_le c.contig _ _ (Nat.le_trans m.lab cw.snap_le_applied)
  · rename_i hz
    rcases hfb rq hrq hne hmin with h1 | h1
    · exact absurd h1 hz
    · exact h1

theorem tj_bootstrap {s : Node} (t : Nat) (cfg : Config) (hs : TJ s₀ b g s) : TJ s₀ b g (s.bootstrap t cfg) := by
  refine (tj_carries s₀).bootstrap_of t cfg hs ?_
  have hl := tj_withLast 1 1 (tj_setTerm 1 (tj_commitLog 1 (tj_appendEntry' _ hs (fun _ _ => rfl))))
    (fun _ => bootStore_last s { cfg with index := 1, term := 1 })
  exact tj_changeConfigR _ hl (ti_bootStore (s₀ := s₀) { cfg with index := 1, term := 1 } hs.1).2

/-- every configuration entry of the request carries a payload (it decodes) -/
def EntriesDec (es : List Entry) : Prop := ∀ ne ∈ es, ne.typ = etConfig → ne.cfg.isSome = true

instance (es : List Entry) : Decidable (EntriesDec es) := by unfold EntriesDec; infer_instance

/-- what is asked of the operation beyond `Order.ReqOk`: the configuration entries of an append request (that is
not stale) decode -/
def ReqDec (s : Node) : Op → Prop
  | .append q => q.term < s.term ∨ EntriesDec q.entries
  | _ => True

instance (s : Node) (op : Op) : Decidable (ReqDec s op) := by
  cases op <;> unfold ReqDec <;> infer_instance

theorem tj_handles (s₀ : Node) : Handles s₀ (TJ s₀) (JPre s₀) (fun ne => ne.typ = etConfig → ne.cfg.isSome = true)
    (fun s op => Order.ReqOk s op ∧ ReqDec s op ∧ SnapFbOp s op ∧ ∀ q, op ≠ .install q) where
  toCarries := tj_carries s₀
  reqOk := fun h => h.1
  okBegin := fun {_ op} _ _ h => ⟨by cases op <;> exact h.1, by cases op <;> exact h.2.1,
    by cases op <;> exact h.2.2.1, h.2.2.2⟩
  acc := fun h hq => h.2.1.resolve_left hq
  followerAppend := fun ne pt h ha hg =>
    have h2 := tj_appendEntry' ne (tj_resolveConflict ne pt h hg) (fun _ => ha)
    ⟨fun _ => h2, fun c hc => ⟨h2, (ti_followerAppend ne pt h.1 hg).2 c hc⟩⟩
  bootstrap := tj_bootstrap
  snapRun := fun h hr => tj_snapRun h hr.2.2.1
  okShutdown := fun h e => ⟨trivial, trivial, keepS_congr (Q := fun p f i => ∀ rq, p = some rq → f.index ≠ i →
    rq.minIndex ≤ f.index → 0 < f.config.index ∨ rq.config.index ≤ f.index) e h.2.2.1, fun q hq => by cases hq⟩
  install := fun q _ hr _ => absurd rfl (hr.2.2.2 q)

/-- `begin` (clearing the ghost outputs, among them the crash-point trace) establishes the step invariant -/
theorem tj_begin {s : Node} (ra : List Nat) (ord : List (List Nat)) (ho : Order.Ordered s) (c : Core s)
    (hq : g = true → QM s) (m : Mem s) : TJ s true g (s.begin ra ord) :=
  ⟨ti_begin ra ord ho c hq, fun _ => ⟨m.congr rfl rfl rfl, fun p hp => by cases hp⟩⟩

/-- One step (any operation but an install request) from an ordered state satisfying `Core`
(and `QM` if leader) and `Mem`: the invariant `TJ` holds of the state after the step — in particular every crash
point recorded in its `trace` satisfies `Pd`, if the step has not panicked. -/
theorem tj_stepAll {s : Node} (op : Op) (ra : List Nat) (ord : List (List Nat)) (ho : Order.Ordered s)
    (c : Core s) (hq : s.role = .leader → QM s) (m : Mem s) (hr : Order.ReqOk s op) (hd : ReqDec s op)
    (hfb : SnapFbOp s op) (hni : ∀ q, op ≠ .install q) :
    TJ s true false (s.step op ra ord) :=
  ((tj_handles s).stepAll op ra ord (fun _ hg => tj_begin ra ord ho c (fun e => hq (hg e)) m) ⟨hr, hd, hfb, hni⟩).1

end TrackCrash
end Raft
