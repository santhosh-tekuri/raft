/-
Membership changes THROUGH single-voter configurations: the handlers around the leader block.
-/
import RaftVerif.Lemmas.MemberOneB
import RaftVerif.Lemmas.LeaderSide

namespace Raft
namespace One
open Node CfgRel

/-- **`leader.onChangeConfig`**, from a state satisfying the invariant `V`, for a submitted configuration with distinct
member ids: the invariant is kept (every configuration entry appended is `Link`ed to its predecessor), and — if a leader that
may change the configuration is a voter by its cached own entry (`Hs`) — the request's task is answered at once or attached
to EXACTLY ONE configuration entry: `Rel t (ind task t)`. -/
theorem onChangeConfig_one (s₀ : Node) (t : Nat) (ht : t ≠ 0) (x : Node) (task : Nat) (c : Config) (hV : V s₀ x)
    (hn : (c.nodes.map (·.id)).Nodup) (hs : Srt x.configs.latest → Srt c) :
    G s₀ x (x.onChangeConfig task c) ∧ (Hs x → TL.Rel t (TL.ind task t) x (x.onChangeConfig task c)) := by
  have rep : ∀ r, G s₀ x (x.reply task r) ∧ (Hs x → TL.Rel t (TL.ind task t) x (x.reply task r)) := fun r =>
    ⟨G.mk (hV.reply _ _) (Nat.le_of_eq (reply_fields x _ _).2.1.symm), fun _ => TL.rel_reply t ht x _ _⟩
  refine Node.onChangeConfig_cases (P := fun y => G s₀ x y ∧ (Hs x → TL.Rel t (TL.ind task t) x y)) x task c rep
    fun ad => ?_
  intro x1
  have hcm' : x.configs.isCommitted = true := ad.committed
  have hst' : x.ldr.startIndex ≤ x.commitIndex := Nat.le_of_not_lt ad.ready
  have hsv : SameVoters c x.configs.latest := validated_sameVoters ad.voters ad.added
  have hanch := validated_anchor hn ad.anchor
  obtain ⟨⟨gc, g⟩, o⟩ := (block s₀ t ht (fuelFor 0)).2.2.1 x task c hV (Or.inr hanch) (fun _ => ⟨hsv, hs⟩)
  obtain ⟨m, hrCA, _⟩ := (TL.block t ht (fuelFor 0)).2.2.2.2.1 x task c
  have hrDC := fun y => (TL.block t ht (fuelFor 1)).2.2.2.1 y task c
  have hfail : Failed x1 →
      G s₀ x (if x1.lastLogIndex = x.lastLogIndex then doChangeConfig (fuelFor 1) x1 task c else x1) ∧
      (Hs x → TL.Rel t (TL.ind task t) x
        (if x1.lastLogIndex = x.lastLogIndex then doChangeConfig (fuelFor 1) x1 task c else x1)) := by
    intro hf
    split
    · have hf' := (CfgRel.pnClosed.block (fuelFor 1)).2.2.2.1 x1 task c hf
      exact ⟨G.failed (LC.cdoChangeConfig _ _ _ gc) hf', fun _ => (hrCA.trans (hrDC x1)).of_failed hf'⟩
    · exact ⟨G.failed gc hf, fun _ => hrCA.of_failed hf⟩
  rcases o with o | ⟨o1, _, o3⟩ | ⟨o1, o2, o3, _⟩
  · exact hfail o
  · -- no action was started: the submitted configuration is stored as it is
    rcases g with g | ⟨g1, _⟩
    · exact hfail g
    have hl : x1.lastLogIndex = x.lastLogIndex := (k0_eq o1).2.2.2.2.1
    rw [if_pos hl]
    have hcc : x1.canChangeConfig = x.canChangeConfig := canChange_k0 o1
    by_cases hcan : Can x1
    · obtain ⟨g2, _⟩ := (block s₀ t ht (fuelFor 1)).2.1 x1 task c c g1 hcan (Or.inl rfl)
        (by rw [(k0_eq o1).1]; exact hsv) (by rw [(k0_eq o1).1]; exact hs) hanch
      exact ⟨g2.of_le (Nat.le_of_eq hl.symm), fun hs => (o3 hs).then (hrDC x1)⟩
    · have hd : x1.ldr.transfer.active = true ∨ x1.ldr.node.voter = false := by
        cases ha : x1.ldr.transfer.active with
        | true => exact Or.inl rfl
        | false =>
          right
          cases hv : x1.ldr.node.voter with
          | false => rfl
          | true =>
            exfalso
            apply hcan
            refine ⟨?_, hv⟩
            unfold Node.canChangeConfig
            rw [(k0_eq o1).1, ha, (k0_eq o1).2.2.1, (k0_eq o1).2.2.2.1, hcm']
            simpa using hst'
      have hk := dc_dormant (fuelFor 1) x1 task c hd
      exact ⟨G.mk (g1.k1 hk (pan_of_failed ((CfgRel.pnClosed.block (fuelFor 1)).2.2.2.1 x1 task c)))
        (by rw [(k0_eq (k0_of_k1 hk)).2.2.2.2.1, hl]; exact Nat.le_refl _),
        fun hs => (o3 hs).then (hrDC x1)⟩
  · have hl : ¬ x1.lastLogIndex = x.lastLogIndex := fun e => by
      have : x.lastLogIndex < x1.lastLogIndex := o2
      rw [e] at this
      exact Nat.lt_irrefl _ this
    rw [if_neg hl]
    exact ⟨⟨gc, g⟩, fun _ => o3⟩

/-- the invariant reads only: the cache view, the latest configuration, the log end, the log entries, the failure flag -/
theorem V.same {s₀ x y : Node} (h : V s₀ x) (hv : LC.view y = LC.view x) (h1 : y.configs.latest = x.configs.latest)
    (h2 : y.lastLogIndex = x.lastLogIndex) (h4 : y.log.entries = x.log.entries) (hp : Failed x → Failed y) : V s₀ y := by
  refine ⟨h.cache.congr hv, by rw [h1, h2]; exact h.li, by rw [h1]; exact h.anch, ?_, fun hy => ?_⟩
  · have : y.nid = x.nid := congrArg LC.CView.nid hv
    rw [this]; exact h.nid
  · obtain ⟨k, ext, e0, e1, e2⟩ := h.chain (pan_of_failed hp hy)
    exact ⟨k, ext, e0, by rw [h4]; exact e1, by rw [h1]; exact e2⟩

theorem G.refl {s₀ x : Node} (h : V s₀ x) : G s₀ x x := G.mk h (Nat.le_refl _)

theorem G.trans {s₀ x y z : Node} (h1 : G s₀ x y) (h2 : V s₀ y → G s₀ y z) (hc : LC.Cache z) (hf : Failed y → Failed z) :
    G s₀ x z := by
  rcases h1.2 with h | ⟨h, hl⟩
  · exact G.failed hc (hf h)
  · exact (h2 h).of_le hl

theorem ca_latest (s₀ : Node) (n : Nat) (x : Node) (task id : Nat) (hV : V s₀ x) :
    G s₀ x (checkConfigAction n x task x.configs.latest id) := by
  cases hf : x.findRepl? id with
  | none =>
    cases n with
    | zero => unfold checkConfigAction; exact G.failed (LC.cpanic _ hV.cache) (failed_panic x _)
    | succ n =>
      have : checkConfigAction (n + 1) x task x.configs.latest id = x := by unfold checkConfigAction; rw [hf]
      rw [this]; exact G.refl hV
  | some st => exact ((block s₀ 1 (by omega) n).2.2.2.1 x task _ id st hV hV.anch (J.refl x) hf).1

theorem k1_checkQuorum (x : Node) : k1 x.checkQuorum = k1 x := by
  unfold k1 k0
  rw [Node.checkQuorum_shape]

theorem k1_tryTransfer (x : Node) : k1 x.tryTransfer = k1 x := by
  unfold k1 k0
  rw [Node.tryTransfer_shape]

theorem failed_tryTransfer (x : Node) (h : Failed x) : Failed x.tryTransfer := (TL.fk_tryTransfer x).mono h

theorem drop_drop_le {α : Type} (L : List α) (k d : Nat) : ∃ k', k' ≤ L.length ∧ (L.drop k).drop d = L.drop k' := by
  by_cases h : k + d ≤ L.length
  · exact ⟨k + d, h, by rw [List.drop_drop]⟩
  · refine ⟨L.length, Nat.le_refl _, ?_⟩
    rw [List.drop_drop, List.drop_length, List.drop_eq_nil_of_le (by omega)]

theorem V.compactLog {s₀ x : Node} (h : V s₀ x) (i : Nat) : V s₀ (x.compactLog i) := by
  refine ⟨LC.ccompactLog i h.cache, h.li, h.anch, h.nid, fun hp => ?_⟩
  obtain ⟨k, ext, _, e1, e2⟩ := h.chain hp
  have he : (x.compactLog i).log.entries = x.log.entries.drop (((NLog.dropLTE i x.log.segs).head?).getD x.log.prev - x.log.prev) := rfl
  obtain ⟨k', h1, h2⟩ := drop_drop_le (s₀.log.entries ++ ext) k (((NLog.dropLTE i x.log.segs).head?).getD x.log.prev - x.log.prev)
  exact ⟨k', ext, h1, by rw [he, e1]; exact h2, e2⟩

theorem V.checkLogCompact {s₀ x : Node} (h : V s₀ x) : V s₀ x.checkLogCompact :=
  checkLogCompact_of (fun _ h => h.compactLog _) x h

theorem V.withTransfer {s₀ x : Node} (h : V s₀ x) (tr : Transfer) : V s₀ (x.withLdr { x.ldr with transfer := tr }) :=
  h.same (LC.view_ldr _ _ rfl rfl rfl) rfl rfl rfl id

theorem V.tryTransfer {s₀ x : Node} (h : V s₀ x) : V s₀ x.tryTransfer :=
  h.k1 (k1_tryTransfer x) (pan_of_failed (failed_tryTransfer x))

/-- the step has failed, or the invariant holds: what the leader's handlers around the block keep (they call the block on
the latest configuration: `LeaderSide`) -/
def VF (s₀ x : Node) : Prop := Failed x ∨ V s₀ x

theorem VF.map {s₀ x y : Node} (h : VF s₀ x) (hf : Failed x → Failed y) (hv : V s₀ x → VF s₀ y) : VF s₀ y :=
  h.elim (fun f => Or.inl (hf f)) hv

theorem vf_of_G {s₀ x y : Node} (h : G s₀ x y) : VF s₀ y := h.2.imp id And.left

theorem vSide (s₀ : Node) : LeaderSide (VF s₀) where
  panic := fun x site _ => Or.inl (failed_panic x site)
  reply := fun x t r h => h.map (q_reply x t r).pan fun v => Or.inr (v.reply t r)
  popOrder := fun _ h => h.map id fun v => Or.inr v.popOrder
  transfer := fun _ tr h _ => h.map id fun v => Or.inr (v.withTransfer tr)
  report := fun x st r _ h hf e1 e2 _ => h.map id fun v => Or.inr
    (v.same (LC.view_setRepl x r st v.cache.sortedRepls (LC.find_mem hf).1 (by unfold LC.key; rw [e1, e2])) rfl rfl rfl id)
  stepDown := fun x t h => by
    have e := Node.setTerm_shape ((x.setRole .follower).setLeader 0) t
    exact h.map (CfgRel.setTerm_pan ((x.setRole .follower).setLeader 0) t) fun v => Or.inr
      (v.same (LC.view_setTerm _ _) (by rw [e] <;> rfl) (by rw [e] <;> rfl) (by rw [e] <;> rfl)
        (CfgRel.setTerm_pan ((x.setRole .follower).setLeader 0) t))
  checkQuorum := fun x h => h.map (TL.fk_checkQuorum x).mono fun v =>
    Or.inr (v.k1 (k1_checkQuorum x) (pan_of_failed (TL.fk_checkQuorum x).mono))
  checkConfigAction := fun f x t id h =>
    h.map ((CfgRel.pnClosed.block f).2.2.2.2.2.1 x t _ id) fun v => vf_of_G (ca_latest s₀ f x t id v)
  checkConfigActions := fun f x t h => h.map ((CfgRel.pnClosed.block f).2.2.2.2.1 x t _) fun v =>
    vf_of_G ((block s₀ 1 (by omega) f).2.2.1 x t _ v v.anch (J.refl x)).1
  onMajorityCommit := fun f x h => h.map ((CfgRel.pnClosed.block f).2.2.2.2.2.2.2 x) fun v =>
    vf_of_G ((block s₀ 1 (by omega) f).2.2.2.2.2.1 x v)

theorem vf_checkLogCompact {s₀ x : Node} (h : VF s₀ x) : VF s₀ x.checkLogCompact :=
  h.map (TL.fk_checkLogCompact x).mono fun v => Or.inr v.checkLogCompact

theorem k0_initBody (x : Node) (n : CNode) : k0 (LC.initBody x n) = k0 x := by
  unfold LC.initBody
  split
  · rfl
  · exact k0_addReplication x n

theorem failed_addReplication (x : Node) (n : CNode) (h : Failed x) : Failed (x.addReplication n) :=
  (q_addReplication x n).pan h

/-- the part of the invariant that does not read the `Leader` record (it holds of a node in any role) -/
structure PW (s₀ x : Node) : Prop where
  li : x.configs.latest.index ≤ x.lastLogIndex
  anch : AnchC x.configs.latest
  nid : x.nid = s₀.nid
  chain : x.panicked = none → LogChain s₀ x

theorem V.pw {s₀ x : Node} (h : V s₀ x) : PW s₀ x := ⟨h.li, h.anch, h.nid, h.chain⟩

theorem PW.v {s₀ x : Node} (h : PW s₀ x) (hc : LC.Cache x) : V s₀ x := ⟨hc, h.li, h.anch, h.nid, h.chain⟩

theorem PW.refl (s : Node) (hli : s.configs.latest.index ≤ s.lastLogIndex) (hanch : AnchC s.configs.latest) : PW s s :=
  ⟨hli, hanch, rfl, fun _ => LogChain.refl s⟩

/-- **`leader.init`** (a node that has just won an election; nothing is assumed of its stale `Leader` record): the entries it
appends — the no-op entry of its term and, on the single-voter fast path, whatever configuration changes the commit of that
entry sets off — extend the chain. -/
theorem leaderInit_G (s₀ s : Node) (hP : PW s₀ s) : G s₀ s s.leaderInit := by
  have hy : ∀ y : Node, y = (LC.initPre s).configs.latest.nodes.foldl LC.initBody (LC.initPre s) →
      LC.Cache y → G s₀ s (storeEntry (fuelFor 1) (checkConfigActions (fuelFor 0) y 0 y.configs.latest) [{ typ := etNop }]) := by
    intro y hy hc
    have hk : k0 y = (s.configs, false, s.commitIndex, s.lastLogIndex + 1, s.lastLogIndex, s.configs.latest.numVoters,
        s.configs.latest.get s.nid, s.log.entries, s.nid) := by
      rw [hy, k0_foldl _ k0_initBody]
      unfold LC.initPre
      dsimp only
      have := k0_of_k1 (k1_assert s (s.leader == s.nid) "assert.leaderInit")
      obtain ⟨a, _, c, _, e, _, _, h, i⟩ := k0_eq this
      unfold k0
      simp only [Node.withLdr]
      rw [a, c, e, h, i]
    obtain ⟨a, _, _, _, e, _, _, h, i⟩ := k0_tuple hk
    have hpan : y.panicked = none → s.panicked = none := by
      intro hp
      rw [hy] at hp
      refine pan_of_failed (fun hf => ?_) hp
      have h1 : Failed (LC.initPre s) := by
        unfold LC.initPre; dsimp only
        exact (q_assert s _ _).pan hf
      have : ∀ (l : List CNode) (z : Node), Failed z → Failed (l.foldl LC.initBody z) := by
        intro l
        induction l with
        | nil => intro z hz; exact hz
        | cons b bs ih =>
          intro z hz
          refine ih _ ?_
          unfold LC.initBody
          split
          · exact hz
          · exact failed_addReplication z b hz
      exact this _ _ h1
    have hV : V s₀ y := ⟨hc, by rw [a, e]; exact hP.li, by rw [a]; exact hP.anch, i.trans hP.nid, fun hp => by
      obtain ⟨k, ext, e0, e1, e2⟩ := hP.chain (hpan hp)
      exact ⟨k, ext, e0, by rw [h]; exact e1, by rw [a]; exact e2⟩⟩
    have g1 := ((block s₀ 1 (by omega) (fuelFor 0)).2.2.1 y 0 _ hV hV.anch (J.refl y)).1
    have g1' : G s₀ s (checkConfigActions (fuelFor 0) y 0 y.configs.latest) := g1.of_le (Nat.le_of_eq e.symm)
    exact G.trans g1' (fun hv => (block s₀ 1 (by omega) (fuelFor 1)).1.1 _ _ hv (fun q hq => by
        rw [List.mem_singleton.mp hq]; decide))
      (LC.cstoreEntry _ _ g1.1) ((CfgRel.pnClosed.block (fuelFor 1)).1 _ _)
  exact hy _ rfl (LC.cache_initSync s)

end One
end Raft
