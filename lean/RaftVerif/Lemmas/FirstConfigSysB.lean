/-
`NodeInv` along the runs of the cluster-level system `Raft.Snap4`, part B: the induction over the runs.

* `Init4F`      : an initial state of `Raft.Snap4` in which every node satisfies `C19FsmConfigSys.NodeInv` (there is no
                  snapshot, entry 1 of every non-empty log is the bootstrap configuration, the latest configuration is the
                  newest configuration entry of the log, every node is a follower);
* `Reachable4F` : the states reachable in `Raft.Snap4` from such initial states (`reachable4F_reachable4`: they are
                  reachable states of `Raft.Snap4`);
* `InvF`        : what is carried: `NodeInv` of EVERY node, and the two ledger invariants "every append request on the wire
                  carries a configuration at index 1 if it carries index 1" and "every install request on the wire is
                  labelled with a real configuration";
* `invF_trans`  : preserved by every transition of `Raft.Snap4` from a reachable state (completed steps, crashes at any
                  storage point + restart, sends, completed installations, crashes in the install handler + restart);
* `reach4F`     : hence it holds in every state of `Reachable4F`.
-/
import RaftVerif.Lemmas.FirstConfigSysA

namespace Raft
namespace FirstCfgSys
open Node Track Order FsmCfg C19FsmConfig C19FsmConfigSys TrackCrash
open Snap Snap2 Snap3 SnapRelU SnapInst SnapInst3 Snap4 SnapInst4 RestartSys SnapInv2

structure Init4F (x : Snap3.Sys) : Prop where
  init4 : Snap4.Init4 x
  ninv : ∀ i, NodeInv (x.node i)

inductive Reachable4F (V : List Nat) : Snap3.Sys → Prop
  | init (x : Snap3.Sys) : Init4F x → Side4 V x → Reachable4F V x
  | next (x y : Snap3.Sys) : Reachable4F V x → Snap4.Trans x y → Side4 V y → Reachable4F V y

section
variable {V : List Nat}

theorem reachable4F_reachable4 {x : Snap3.Sys} (h : Reachable4F V x) : Reachable4 V x := by
  induction h with
  | init x hi hs => exact .init x hi.init4 hs
  | next x y _ ht hs ih => exact .next x y ih ht hs

structure InvF (x : Snap3.Sys) : Prop where
  ninv : ∀ i, NodeInv (x.node i)
  sentFirst : ∀ q ∈ x.s2.cs.rp.sent, FirstCfg.First q.entries
  snapLab : ∀ m ∈ x.sentSnaps, 0 < m.q.lastConfig.index

theorem reqFirst_enabled {x : Snap3.Sys} (hF : InvF x) {i : Nat} {op : Op} {src : Nat}
    (en : Snap.Enabled x.s2.cs i op src) : ReqFirst (x.node i) op ∧ ReqLab (x.node i) op := by
  cases op with
  | append q =>
    refine ⟨?_, trivial⟩
    show q.term < (x.node i).term ∨ ∀ e ∈ q.entries, e.index = 1 → e.config?.isSome = true
    rcases en.append q rfl with h | h
    · exact Or.inl h
    · exact Or.inr (hF.sentFirst q h)
  | install q => exact (en.ok2.1).elim
  | _ => exact ⟨trivial, trivial⟩

theorem reqLab_install {x : Snap3.Sys} (i4 : Inv4 x) (hF : InvF x) {i : Nat} {m : SnapMsg}
    (hm : m.q.term < (x.node i).term ∨ m ∈ x.sentSnaps) :
    Order.ReqOk (x.node i) (.install m.q) ∧ ReqLab (x.node i) (.install m.q) := by
  constructor
  · show m.q.term < (x.node i).term ∨ m.q.lastIndex ≤ (x.node i).commitIndex ∨ Order.InstallOk m.q
    rcases hm with h | h
    · exact Or.inl h
    · exact Or.inr (Or.inr (i4.mlab m h))
  · show m.q.term < (x.node i).term ∨ 0 < m.q.lastConfig.index
    rcases hm with h | h
    · exact Or.inl h
    · exact Or.inr (hF.snapLab m h)

theorem invF_trans (hV : V.Nodup) {x y : Snap3.Sys} (h4 : Reachable4 V x) (hF : InvF x) (ht : Snap4.Trans x y) :
    InvF y := by
  obtain ⟨r3, i4, s4⟩ := reach4 hV h4
  have hI := (inv3_reachable hV r3).1
  have hmem : ∀ i, Mem (x.node i) := fun i => ⟨lwf_real hI i, s4.lab i, logDec_real s4.side i⟩
  cases ht with
  | step i op ra ord src en hp =>
    have hr := reqOk_old hI en (s4.cfg i)
    obtain ⟨hq, hlb⟩ := reqFirst_enabled hF en
    exact ⟨NodeSys.forall_setNode (P := fun _ => NodeInv)
      (nodeInv_step_nc _ op ra ord (i4.tracks i) (i4.ord i) (s4.lab i) (hF.ninv i) hr hlb hq hp) (fun j _ => hF.ninv j),
      hF.sentFirst, hF.snapLab⟩
  | crash i op ra ord src k retain sor n en hret hp hnc hst hn =>
    have hr := reqOk_old hI en (s4.cfg i)
    obtain ⟨hq, hlb⟩ := reqFirst_enabled hF en
    exact ⟨NodeSys.forall_setNode (P := fun _ => NodeInv)
      (nodeInv_crash_nc _ op ra ord k retain sor n (i4.tracks i) (i4.ord i) (hmem i) (hF.ninv i) hr
        (reqDec_enabled (sentDec_reach3 hV r3) en) hlb hq hp hn) (fun j _ => hF.ninv j), hF.sentFirst, hF.snapLab⟩
  | send i q hi hl hr hc =>
    refine ⟨hF.ninv, fun q' hq' => ?_, hF.snapLab⟩
    have hq'' : q' ∈ q :: x.s2.cs.rp.sent := hq'
    rcases List.mem_cons.mp hq'' with rfl | hm
    · exact first_of_readFrom2 x i _ hr (hF.ninv i).cfg.first
    · exact hF.sentFirst q' hm
  | sendSnap i q hi hl hr =>
    refine ⟨hF.ninv, hF.sentFirst, fun m hm => ?_⟩
    rcases List.mem_cons.mp hm with rfl | hm
    · exact lab_of_snapRead _ q hr (hF.ninv i).cfg.labels
    · exact hF.snapLab m hm
  | install i m ra ord hi hm hp =>
    obtain ⟨hr, hlb⟩ := reqLab_install i4 hF hm
    exact ⟨NodeSys.forall_setNode (P := fun _ => NodeInv)
      (nodeInv_step_nc _ _ ra ord (i4.tracks i) (i4.ord i) (s4.lab i) (hF.ninv i) hr hlb trivial hp)
      (fun j _ => hF.ninv j), hF.sentFirst, hF.snapLab⟩
  | crashInstall i m ra ord k retain sor n hi hm hret hp hold hn =>
    obtain ⟨hr, hlb⟩ := reqLab_install i4 hF hm
    exact ⟨NodeSys.forall_setNode (P := fun _ => NodeInv)
      (nodeInv_crash_nc _ _ ra ord k retain sor n (i4.tracks i) (i4.ord i) (hmem i) (hF.ninv i) hr trivial hlb trivial hp hn)
      (fun j _ => hF.ninv j), hF.sentFirst, hF.snapLab⟩

theorem reach4F (hV : V.Nodup) {x : Snap3.Sys} (h : Reachable4F V x) : InvF x := by
  induction h with
  | init x hi hs =>
    refine ⟨hi.ninv, fun q hq => ?_, fun m hm => ?_⟩
    · have : x.s2.cs.rp.sent = [] := hi.init4.init.init.init.cs.rp.sent
      rw [this] at hq; cases hq
    · rw [hi.init4.init.sent] at hm; cases hm
  | next x y hx ht hs ih => exact invF_trans hV (reachable4F_reachable4 hx) ih ht

end

end FirstCfgSys
end Raft
