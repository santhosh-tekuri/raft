/-
For Props/C07Sys (client-visible semantics on the cluster system).

Result strings: `valStr n` (`val:<n>`), `notLeaderStr l lost`, the classes `IsVal`, `Definite` (the results the model
gives on paths that store nothing: `notLeader:<l>:false`, `inProgress:transferLeadership`, `inProgress:demoteLeader`,
`inProgress:removeLeader`) and `Harmless` (neither).
A guarded closure for the leader side of `Node.step` (`RBase`, `RClosed`): `reply` is only required for results that
are not value answers (and definite rejections only for tasks in `D`), a queue item is pushed together with its log
entry, the leader record changes with the queue kept or emptied, and `leader.applyCommitted` is a primitive.
Its instance `WI`: the state machine holds the update payloads of the applied log prefix, the queue matches the log,
the log grew by entries that are no updates, every queued task is a known submission, every value answer given in this
step is the length of the applied sequence at a known item, and definite rejections went to tasks in `D` only.
`client_step` is the summary of one step of a node for the cluster-level proof.
-/
import RaftVerif.Lemmas.SysInv
import RaftVerif.Lemmas.Shape
import Std.Data.String.ToNat

namespace Raft
namespace ClientRel
open Node LogRel CommitRel C03Sys

/-- the answer of the recording state machine to an update / read: the length of the applied sequence -/
def valStr (n : Nat) : String := s!"val:{n}"

/-- `NotLeaderError{Leader, Lost}` in canonical form -/
def notLeaderStr (l : Nat) (lost : Bool) : String := s!"notLeader:{l}:{lost}"

theorem valStr_eq (n : Nat) : valStr n = "val:" ++ Nat.repr n := rfl
theorem notLeaderStr_eq (l : Nat) (b : Bool) :
    notLeaderStr l b = "notLeader:" ++ Nat.repr l ++ ":" ++ toString b := rfl

theorem notLeader_eq (s : Node) (b : Bool) :
    s.notLeader b = notLeaderStr (if s.leader ≠ 0 then (s.configs.latest.get s.leader).id else 0) b := rfl

theorem valStr_toList (n : Nat) : (valStr n).toList = ['v','a','l',':'] ++ (Nat.repr n).toList := by
  rw [valStr_eq, String.toList_append]; rfl

theorem valStr_inj {n m : Nat} (h : valStr n = valStr m) : n = m := by
  have := congrArg String.toList h
  rw [valStr_toList, valStr_toList] at this
  exact Nat.repr_inj.mp (String.toList_inj.mp (List.append_cancel_left this))

def hd (r : String) : Option Char := r.toList.head?

def IsVal (r : String) : Prop := ∃ n, r = valStr n

/-- a definite rejection of a submitted entry: not leader (leadership not lost: nothing was stored), or a
leadership transfer / the leader's own demotion or removal is in progress -/
def Definite (r : String) : Prop :=
  (∃ l, r = notLeaderStr l false) ∨ r = "inProgress:transferLeadership" ∨ r = "inProgress:demoteLeader" ∨
    r = "inProgress:removeLeader"

def Harmless (r : String) : Prop := ¬ IsVal r ∧ ¬ Definite r

theorem hd_valStr (n : Nat) : hd (valStr n) = some 'v' := by
  unfold hd; rw [valStr_toList]; rfl

theorem hd_notLeaderStr (l : Nat) (b : Bool) : hd (notLeaderStr l b) = some 'n' := by
  unfold hd
  rw [notLeaderStr_eq, String.toList_append, String.toList_append, String.toList_append]
  rfl

theorem isVal_hd {r : String} (h : IsVal r) : hd r = some 'v' := by
  obtain ⟨n, rfl⟩ := h; exact hd_valStr n

theorem definite_hd {r : String} (h : Definite r) : hd r = some 'n' ∨ hd r = some 'i' := by
  rcases h with ⟨l, rfl⟩ | rfl | rfl | rfl
  · exact Or.inl (hd_notLeaderStr l false)
  · exact Or.inr (by decide)
  · exact Or.inr (by decide)
  · exact Or.inr (by decide)

theorem definite_not_val {r : String} (h : Definite r) : ¬ IsVal r := by
  intro hv
  have := isVal_hd hv
  rcases definite_hd h with e | e <;> (rw [e] at this; cases this)

theorem harmless_of_hd {r : String} {c : Char} (h : hd r = some c) (h1 : c ≠ 'v') (h2 : c ≠ 'n') (h3 : c ≠ 'i') :
    Harmless r := by
  constructor
  · intro hv; rw [isVal_hd hv] at h; injection h with h; exact h1 h.symm
  · intro hdf
    rcases definite_hd hdf with e | e <;> (rw [e] at h; injection h with h)
    · exact h2 h.symm
    · exact h3 h.symm

theorem harmless_ok : Harmless "ok" := harmless_of_hd (c := 'o') (by decide) (by decide) (by decide) (by decide)
theorem harmless_error : Harmless "error" := harmless_of_hd (c := 'e') (by decide) (by decide) (by decide) (by decide)
theorem harmless_timeout : Harmless "timeout:transferLeadership" :=
  harmless_of_hd (c := 't') (by decide) (by decide) (by decide) (by decide)
theorem harmless_plain_closed : Harmless "plain:serverClosed" :=
  harmless_of_hd (c := 'p') (by decide) (by decide) (by decide) (by decide)
theorem harmless_plain_quorum : Harmless "plain:quorumUnreachable" :=
  harmless_of_hd (c := 'p') (by decide) (by decide) (by decide) (by decide)

theorem harmless_config (n : Nat) : Harmless s!"config:{n}" := by
  refine harmless_of_hd (c := 'c') ?_ (by decide) (by decide) (by decide)
  unfold hd
  show ("config:" ++ Nat.repr n).toList.head? = _
  rw [String.toList_append]; rfl

theorem notLeader_true_ne_false (l l' : Nat) : notLeaderStr l true ≠ notLeaderStr l' false := by
  intro h
  have := congrArg (fun s => (s.toList.reverse).take 2) h
  simp only [notLeaderStr_eq, String.toList_append, List.reverse_append] at this
  have e1 : (toString true).toList.reverse = ['e', 'u', 'r', 't'] := by decide
  have e2 : (toString false).toList.reverse = ['e', 's', 'l', 'a', 'f'] := by decide
  rw [e1, e2, List.take_append_of_le_length (by decide), List.take_append_of_le_length (by decide)] at this
  revert this
  decide

theorem harmless_notLeader_true (l : Nat) : Harmless (notLeaderStr l true) := by
  constructor
  · intro hv; have := isVal_hd hv; rw [hd_notLeaderStr] at this; cases this
  · intro hdf
    rcases hdf with ⟨l', e⟩ | e | e | e
    · exact notLeader_true_ne_false l l' e
    all_goals (have := congrArg hd e; rw [hd_notLeaderStr] at this; revert this; decide)

theorem definite_notLeader_false (l : Nat) : Definite (notLeaderStr l false) := Or.inl ⟨l, rfl⟩

theorem not_val_of_hd {r : String} {c : Char} (h : hd r = some c) (h1 : c ≠ 'v') : ¬ IsVal r := by
  intro hv; rw [isVal_hd hv] at h; injection h with h; exact h1 h.symm

def wobs (s : Node) : List Entry × Nat × Nat × Nat × Fsm × List Reply × List QItem :=
  (s.log.entries, s.log.prev, s.lastLogIndex, s.commitIndex, s.fsm, s.replies, s.ldr.queue)

/-- a frame step: none of the fields `wobs` changed and no failure was cleared -/
structure WF (s s' : Node) : Prop where
  same : wobs s' = wobs s
  mono : s'.panicked = none → s.panicked = none

theorem WF.refl (s : Node) : WF s s := ⟨rfl, id⟩
theorem WF.trans {a b c : Node} (h1 : WF a b) (h2 : WF b c) : WF a c :=
  ⟨h2.same.trans h1.same, fun h => h1.mono (h2.mono h)⟩

theorem wf_panic (s : Node) (site : String) : WF s (s.panic site) := by
  unfold Node.panic; split
  · exact ⟨rfl, fun h => by cases h⟩
  · exact WF.refl s

theorem wf_storeTermVote (s : Node) (t c : Nat) : WF s (s.storeTermVote t c) := by
  unfold Node.storeTermVote Node.point; split <;> exact ⟨rfl, id⟩

theorem wf_setTerm (s : Node) (t : Nat) : WF s (s.setTerm t) := by
  unfold Node.setTerm
  split
  · split
    · exact wf_storeTermVote s t 0
    · exact wf_panic s _
  · exact WF.refl s

theorem wf_setVotedFor (s : Node) (t c : Nat) : WF s (s.setVotedFor t c) := by
  unfold Node.setVotedFor
  split
  · split
    · exact wf_storeTermVote s t c
    · exact wf_panic s _
  · exact WF.refl s

theorem wf_commitLog (s : Node) (n : Nat) : WF s (s.commitLog n) := by
  unfold Node.commitLog Node.point
  refine ⟨?_, id⟩
  unfold wobs
  obtain ⟨a, b⟩ := commitN_parts s.log n
  simp only [a, b]

theorem wf_changeConfigR (s : Node) (c : Config) : WF s (s.changeConfigR c) := by
  rw [changeConfigR_shape]; exact ⟨rfl, id⟩

structure RFrame (Inv : Node → Prop) : Prop where
  frame : ∀ s s', Inv s → WF s s' → Inv s'

namespace RFrame
variable {Inv : Node → Prop} (h : RFrame Inv)
include h

theorem panic (s : Node) (site : String) (hs : Inv s) : Inv (s.panic site) := h.frame _ _ hs (wf_panic s site)
theorem assert (s : Node) (b : Bool) (site : String) (hs : Inv s) : Inv (s.assert b site) :=
  assert_of h.panic s b site hs
theorem point (s : Node) (n : String) (hs : Inv s) : Inv (s.point n) := h.frame _ _ hs ⟨rfl, id⟩
theorem popOrder (s : Node) (hs : Inv s) : Inv s.popOrder := h.frame _ _ hs ⟨rfl, id⟩
theorem setRole (s : Node) (r : Role) (hs : Inv s) : Inv (s.setRole r) := h.frame _ _ hs ⟨rfl, id⟩
theorem setLeader (s : Node) (l : Nat) (hs : Inv s) : Inv (s.setLeader l) := h.frame _ _ hs ⟨rfl, id⟩
theorem ret (s : Node) (r : Nat) (hs : Inv s) : Inv (s.ret r) := h.frame _ _ hs ⟨rfl, id⟩
theorem rpcReply (s : Node) (r : Option RpcReply) (hs : Inv s) : Inv (s.withRpcReply r) := h.frame _ _ hs ⟨rfl, id⟩
theorem votesNeeded (s : Node) (v : Int) (hs : Inv s) : Inv (s.withVotesNeeded v) := h.frame _ _ hs ⟨rfl, id⟩
theorem candTransfer (s : Node) (v : Bool) (hs : Inv s) : Inv (s.withCandTransfer v) := h.frame _ _ hs ⟨rfl, id⟩
theorem snapPending (s : Node) (v : Option SnapReq) (hs : Inv s) : Inv (s.withSnapPending v) :=
  h.frame _ _ hs ⟨rfl, id⟩
theorem ldrQ (s : Node) (l : Leader) (hs : Inv s) (hq : l.queue = s.ldr.queue) : Inv (s.withLdr l) :=
  h.frame _ _ hs ⟨by unfold wobs Node.withLdr; simp only [hq], id⟩
theorem setTerm (s : Node) (t : Nat) (hs : Inv s) : Inv (s.setTerm t) := h.frame _ _ hs (wf_setTerm s t)
theorem setVotedFor (s : Node) (t c : Nat) (hs : Inv s) : Inv (s.setVotedFor t c) :=
  h.frame _ _ hs (wf_setVotedFor s t c)
theorem commitLog (s : Node) (n : Nat) (hs : Inv s) : Inv (s.commitLog n) := h.frame _ _ hs (wf_commitLog s n)
theorem changeConfigR (s : Node) (c : Config) (hs : Inv s) : Inv (s.changeConfigR c) :=
  h.frame _ _ hs (wf_changeConfigR s c)
theorem setRepl (s : Node) (r : Repl) (hs : Inv s) : Inv (s.setRepl r) := by
  unfold Node.setRepl; exact h.ldrQ _ _ hs rfl

theorem addReplication (s : Node) (n : CNode) (hs : Inv s) : Inv (s.addReplication n) := by
  unfold Node.addReplication
  apply h.setRepl
  split
  · exact h.assert _ _ _ hs
  · exact h.panic _ _ (h.assert _ _ _ hs)

theorem notifyFlr (s : Node) (hs : Inv s) : Inv s.notifyFlr := notifyFlr_of h.panic s hs

theorem beginFinishedRounds (s : Node) (hs : Inv s) : Inv s.beginFinishedRounds := by
  unfold Node.beginFinishedRounds; exact h.ldrQ _ _ hs rfl

theorem checkQuorum (s : Node) (hs : Inv s) : Inv s.checkQuorum :=
  checkQuorum_of h.panic (fun x hx => h.setRole x _ hx) h.setLeader s hs
theorem tryTransfer (s : Node) (hs : Inv s) : Inv s.tryTransfer :=
  tryTransfer_ldrT (fun x l hx _ _ _ _ _ hq => h.ldrQ x l hx hq) h.panic h.popOrder s hs
theorem startElection (s : Node) (hs : Inv s) : Inv s.startElection :=
  startElection_of s h.panic h.votesNeeded (fun x hx => h.setVotedFor x _ _ hx) (fun x hx _ => h.setRole x _ hx) h.setLeader hs
theorem onVoteResult (s : Node) (e : Bool) (t r : Nat) (hs : Inv s) : Inv (s.onVoteResult e t r) :=
  onVoteResult_of s (fun x hx => h.setRole x _ hx) (fun x t hx _ => h.setTerm x t hx) h.votesNeeded
    (fun x hx _ => h.setRole x _ hx) h.setLeader e t r hs
theorem onVoteRequest (s : Node) (q : VoteReq) (hs : Inv s) : Inv (s.onVoteRequest q) :=
  onVoteRequest_of q h.ret (fun x hx => h.setRole x _ hx) (fun x t hx _ _ => h.setVotedFor x t 0 hx)
    (fun x t hx _ _ _ => h.setVotedFor x t q.src hx) s hs
theorem onTimeoutNow (s : Node) (hs : Inv s) : Inv s.onTimeoutNow :=
  onTimeoutNow_of h.ret (fun x hx _ => h.setRole x _ hx) h.setLeader h.candTransfer s hs

end RFrame

theorem rframe_wf (b : Node) : RFrame (WF b) := ⟨fun _ _ hs hw => hs.trans hw⟩

/-- what the generic part of a step may answer to task `t`: no value; a definite rejection only if `D t` -/
def G (D : Nat → Prop) (t : Nat) (r : String) : Prop := ¬ IsVal r ∧ (Definite r → D t)

theorem G_of_harmless {D : Nat → Prop} {t : Nat} {r : String} (h : Harmless r) : G D t r :=
  ⟨h.1, fun hd => absurd hd h.2⟩

/-- … and the two primitives `leader.release` needs besides: a guarded `reply`, and the leader record replaced by
one with an empty queue -/
structure RBase (D : Nat → Prop) (Inv : Node → Prop) : Prop extends RFrame Inv where
  reply : ∀ s t r, Inv s → t ≠ 0 → G D t r → Inv (s.reply t r)
  ldrNil : ∀ (s : Node) l, Inv s → l.queue = [] → Inv (s.withLdr l)

namespace RBase
variable {D : Nat → Prop} {Inv : Node → Prop} (h : RBase D Inv)
include h

theorem reply' (s : Node) (t : Nat) (r : String) (hs : Inv s) (hg : t ≠ 0 → G D t r) : Inv (s.reply t r) := by
  by_cases ht : t = 0
  · rw [ht, reply_zero]; exact hs
  · exact h.reply _ _ _ hs ht (hg ht)

theorem transferReply (s : Node) (r : String) (hs : Inv s) (hg : G D s.ldr.transfer.task r) :
    Inv (s.transferReply r) := by
  unfold Node.transferReply
  refine h.ldrQ _ _ (h.reply' _ _ _ hs (fun _ => hg)) ?_
  rw [(reply_fields _ _ _).2.2.2.2.2.2.1]

omit h in
theorem harmless_releaseResult (s : Node) : Harmless s.releaseResult := by
  unfold Node.releaseResult
  repeat' split
  · exact harmless_ok
  · exact harmless_plain_closed
  · exact harmless_plain_quorum

omit h in
theorem harmless_releaseErr (s : Node) :
    Harmless (if s.isClosed then "plain:serverClosed" else s.notLeader true) := by
  split
  · exact harmless_plain_closed
  · rw [notLeader_eq]; exact harmless_notLeader_true _

theorem leaderReleaseRest (s : Node) (hs : Inv s) : Inv s.leaderReleaseRest := by
  unfold Node.leaderReleaseRest
  extract_lets s1 err s2 s3
  have h1 : Inv s1 := by unfold s1; split; exact h.setLeader _ _ hs; exact hs
  have herr : Harmless err := harmless_releaseErr s1
  have h2 : Inv s2 := Node.Guarded.foldl_inv _ (fun x q hx => h.reply' _ _ _ hx (fun _ => G_of_harmless herr)) _ _ h1
  have h3 : Inv s3 := Node.Guarded.foldl_inv _ (fun x t hx => h.reply' _ _ _ hx (fun _ => G_of_harmless herr)) _ _ h2
  exact h.ldrNil _ _ h3 rfl

theorem leaderRelease (s : Node) (hs : Inv s) : Inv s.leaderRelease := by
  unfold Node.leaderRelease
  apply h.leaderReleaseRest
  split
  · exact h.transferReply _ _ hs (G_of_harmless (harmless_releaseResult s))
  · exact hs

theorem releaseRole (s : Node) (r : Role) (hs : Inv s) : Inv (s.releaseRole r) :=
  releaseRole_of h.candTransfer h.leaderRelease s r hs

end RBase

/-- **the closure for the leader side**: a queue item is pushed together with its log entry (`storeEntry`; `P typ
data` restricts what may be pushed: the generic part of a step pushes only internal items — no-op and configuration
entries), the commit index only moves forward, `leader.applyCommitted` is a primitive -/
structure RClosed (P : Nat → String → Prop) (D : Nat → Prop) (Inv : Node → Prop) : Prop extends RBase D Inv where
  pushLog : ∀ (s : Node) q, Inv s → P q.typ q.data → q.task = 0 → isLogEntryTyp q.typ = true →
    Inv ((s.withLdr { s.ldr with queue := s.ldr.queue ++ [q] }).appendEntry q.toEntry)
  pushOther : ∀ (s : Node) q, Inv s → P q.typ q.data → q.task = 0 → isLogEntryTyp q.typ = false →
    Inv (s.withLdr { s.ldr with queue := s.ldr.queue ++ [q] })
  commitIdx : ∀ (s : Node) i, Inv s → i > s.commitIndex → Inv (s.setCommitIndexR i).1
  applyL : ∀ s, Inv s → Inv s.applyCommittedL

/-- an internal batch: items without a task whose type and payload may be pushed -/
def Internal (P : Nat → String → Prop) (b : List QItem) : Prop := ∀ q ∈ b, q.task = 0 ∧ P q.typ q.data

namespace RClosed
variable {P : Nat → String → Prop} {D : Nat → Prop} {Inv : Node → Prop} (h : RClosed P D Inv)
include h

/-- the part of `storeEntry` after the loop over the batch (for a batch of client items, whose loop is walked apart) -/
theorem storeEntry_tail (hMC : ∀ s, Inv s → Inv (onMajorityCommit n s)) (s : Node) (b : List QItem)
    (h1 : Inv (storeItems n s b)) : Inv (storeEntry (n + 1) s b) :=
  storeEntry_tail_of h.applyL h.beginFinishedRounds h.notifyFlr hMC s b h1

/-- The leader block for internal batches and task 0, as an instance of the walk of Lemmas/StepWalk.lean: an item of an
internal batch carries no task, so refusing it answers nobody; the configuration items the block builds itself (for
task 0) are internal (`hCfg`). -/
theorem toAt (hCfg : P etConfig "") :
    GuardedAt Inv Inv (fun _ s => Inv s) (fun q => q.task = 0 ∧ P q.typ q.data) (fun t => t = 0) where
  panic := h.panic
  reject := fun s q r hs hq => by rw [hq.1, reply_zero]; exact hs
  stable := fun s t hs => h.reply' _ _ _ hs (fun _ => G_of_harmless (harmless_config _))
  tk0 := rfl
  cfgItem := fun _ _ ht => ⟨ht, hCfg⟩
  popOrder := h.popOrder
  ldrK := fun s l hs _ _ _ _ _ _ hq => h.ldrQ s l hs hq
  setRound := fun s _ _ _ hs _ => h.setRepl s _ hs
  beginFinishedRounds := h.beginFinishedRounds
  enqueue := fun s q hs hq _ hl => h.pushOther s (s.stamp q) hs hq.2 hq.1 (by simpa using hl)
  enqueueLog := fun s q hs hq _ hl _ => h.pushLog s (s.stamp q) hs hq.2 hq.1 hl
  enqueueCfg := fun s q c hs hq _ hc => h.pushLog s (s.stamp q) hs hq.2 hq.1 (by
    rw [show (s.stamp q).typ = etConfig from (Entry.config?_facts hc).1]; rfl)
  decodeFail := fun s q site hs hq _ ht _ => h.panic _ site (h.pushLog s (s.stamp q) hs hq.2 hq.1 (by rw [ht]; rfl))
  configSync := fun s c hs => by
    apply Node.Guarded.foldl_inv
    · intro s x hs
      unfold LC.changeBody
      split
      · exact hs
      · split
        · exact h.addReplication _ _ hs
        · exact h.setRepl _ _ hs
    · unfold LC.changePre
      refine h.ldrQ _ _ (h.changeConfigR _ _ (h.ldrQ _ _ hs rfl)) ?_
      rw [changeConfigR_ldr]
  prePanic := fun s _ site hs => h.panic s site hs
  commitLog := h.commitLog
  commitR := fun s i hs hi => h.commitIdx s i hs hi
  applyL := h.applyL

theorem block (hCfg : P etConfig "") (f : Nat) :
    Block Inv Inv (fun _ s => Inv s) f (fun q => q.task = 0 ∧ P q.typ q.data) (fun t => t = 0) :=
  (h.toAt hCfg).block (h.toAt hCfg) f

theorem storeEntry_inv (hCfg : P etConfig "") (f : Nat) (s : Node) (b) (hs : Inv s) (hb : Internal P b) :
    Inv (storeEntry f s b) := (h.block hCfg f).storeEntry s b hs hb
theorem checkConfigActions_inv (hCfg : P etConfig "") (f : Nat) (s : Node) (c) (hs : Inv s) :
    Inv (checkConfigActions f s 0 c) := (h.block hCfg f).checkConfigActions s 0 c hs rfl
theorem checkConfigAction_inv (hCfg : P etConfig "") (f : Nat) (s : Node) (c id) (hs : Inv s) :
    Inv (checkConfigAction f s 0 c id) := (h.block hCfg f).checkConfigAction s 0 c id hs rfl
theorem onMajorityCommit_inv (hCfg : P etConfig "") (f : Nat) (s : Node) (hs : Inv s) :
    Inv (onMajorityCommit f s) := (h.block hCfg f).onMajorityCommit s hs

omit h in
theorem validateTransfer_notVal (s : Node) (target : Nat) : ¬ IsVal (s.validateTransfer target) := by
  have key : ∀ r : String, hd r ≠ some 'v' → ¬ IsVal r := fun r hr hv => hr (isVal_hd hv)
  unfold Node.validateTransfer
  repeat' split
  all_goals exact key _ (by decide)

theorem onTransfer_inv (s : Node) (t g : Nat) (hs : Inv s) (hD : t ≠ 0 → D t) : Inv (s.onTransfer t g) := by
  unfold Node.onTransfer; dsimp only
  split
  · exact h.reply' _ _ _ hs (fun ht => ⟨validateTransfer_notVal s g, fun _ => hD ht⟩)
  · exact h.tryTransfer _ (h.ldrQ _ _ hs rfl)

theorem replyTransfer_inv (hCfg : P etConfig "") (s : Node) (r : String) (hs : Inv s) (hr : Harmless r) :
    Inv (s.replyTransfer r) := by
  unfold Node.replyTransfer
  exact h.checkConfigActions_inv hCfg _ _ _ (h.transferReply _ _ hs (G_of_harmless hr))

theorem onTimeoutNowResult_inv (hCfg : P etConfig "") (s : Node) (src : Nat) (e : Bool) (r : Nat) (hs : Inv s) :
    Inv (s.onTimeoutNowResult src e r) := by
  unfold Node.onTimeoutNowResult
  extract_lets l0 t0 s1 s2 l1 t1
  have h0 : Inv s1 := h.ldrQ _ _ hs rfl
  have h2 : Inv s2 := by
    unfold s2
    split
    · split
      · exact h.setRepl _ _ h0
      · exact h0
    · exact h.panic _ _ h0
  split
  · split
    · exact h.tryTransfer _ h2
    · exact h2
  · split
    · split
      · exact h.replyTransfer_inv hCfg _ _ h0 harmless_error
      · exact h.tryTransfer _ h0
    · exact h.ldrQ _ _ h0 rfl

theorem leaderInit_inv (hCfg : P etConfig "") (hNop : P etNop "") (s : Node) (hs : Inv s) : Inv s.leaderInit := by
  unfold Node.leaderInit; dsimp only
  apply h.storeEntry_inv hCfg
  · apply h.checkConfigActions_inv hCfg
    apply Node.Guarded.foldl_inv
    · intro s x hs
      split
      · exact hs
      · exact h.addReplication _ _ hs
    · exact h.ldrNil _ _ (h.assert _ _ _ hs) rfl
  · intro q hq
    rw [List.mem_singleton.mp hq]
    exact ⟨rfl, hNop⟩

theorem onWaitForStable_inv (s : Node) (t : Nat) (hs : Inv s) : Inv (s.onWaitForStable t) := by
  unfold Node.onWaitForStable
  exact ite_ind (fun _ => h.reply' _ _ _ hs (fun _ => G_of_harmless (harmless_config _))) fun _ => h.ldrQ _ _ hs rfl

theorem checkReplUpdates_inv (hCfg : P etConfig "") (us : List ReplUpdate) (hus : NoCompact us) (s : Node)
    (hs : Inv s) : Inv (s.checkReplUpdates us) :=
  Node.checkReplUpdates_of (fun f x hx => h.onMajorityCommit_inv hCfg f x hx) h.checkQuorum h.tryTransfer s us
    (fun hf => by rw [replUpdLoop_flag us hus s {}] at hf; cases hf)
    (Node.replUpdLoop_of (fun x _ r _ hx _ _ _ _ => h.setRepl x r hx)
      (fun x t hx => h.setTerm _ t (h.setLeader _ _ (h.setRole _ _ hx)))
      (fun f x id hx => h.checkConfigAction_inv hCfg f x _ id hx) us s {} hs)

theorem initRole_inv (hCfg : P etConfig "") (hNop : P etNop "") (s : Node) (hs : Inv s) : Inv s.initRole := by
  unfold Node.initRole
  split
  · exact hs
  · exact h.startElection _ hs
  · exact h.leaderInit_inv hCfg hNop _ hs

theorem settle_inv (hCfg : P etConfig "") (hNop : P etNop "") (f : Nat) (s : Node) (c : Role) (hs : Inv s) :
    Inv (settle f s c) := by
  induction f generalizing s c with
  | zero => exact hs
  | succ n ih =>
    unfold settle
    split
    · exact hs
    · exact ih _ _ (h.initRole_inv hCfg hNop _ (h.releaseRole _ _ hs))

omit h in
theorem harmless_takeSnapshot : Harmless "inProgress:takeSnapshot" := by
  constructor
  · exact fun hv => absurd (isVal_hd hv) (by decide)
  · intro hdf
    rcases hdf with ⟨l, e⟩ | e | e | e
    · have := congrArg hd e; rw [hd_notLeaderStr] at this; revert this; decide
    all_goals (revert e; decide)

/-- **every case of `handle`** except a client batch and an append request, for the operations of the `_partial`
model; `D` must allow a definite rejection of the task the operation brings in -/
theorem handle_inv (hCfg : P etConfig "") (s : Node) (op : Op) (hok : OpOK2 op)
    (hne : ∀ b, op ≠ .newEntries b) (happ : ∀ q, op ≠ .append q)
    (hD : ∀ t ∈ TL.submittedRaw op, t ≠ 0 → D t) (hs : Inv s) : Inv (s.handle op) := by
  obtain ⟨hok1, hok2, hok3⟩ := hok
  cases op <;> unfold Node.handle <;> dsimp only
  case vote q => exact rpcDone_of h.panic h.rpcReply _ _ _ (h.onVoteRequest _ _ hs)
  case append q => exact absurd rfl (happ q)
  case install q => exact absurd hok1 (by simp [OpOK])
  case timeoutNow => exact rpcDone_of h.panic h.rpcReply _ _ _ (h.onTimeoutNow _ hs)
  case identity a b c => exact h.rpcReply _ _ hs
  case disconnected n =>
    split
    · exact h.setLeader _ _ hs
    · exact hs
  case timeout =>
    split
    · exact followerTimeout_of h.setLeader (fun x hx _ => h.setRole x _ hx) _ hs
    · exact h.startElection _ hs
    · exact h.checkQuorum _ hs
  case newEntries b => exact absurd rfl (hne b)
  case changeConfig => exact absurd rfl (hok3 _ _)
  case takeSnapshot t th =>
    unfold Node.onTakeSnapshot
    split
    · exact h.reply' _ _ _ hs (fun _ => G_of_harmless harmless_takeSnapshot)
    · exact h.snapPending _ _ hs
  case snapRun => exact absurd hok1 (by simp [OpOK])
  case snapTaken => exact absurd hok1 (by simp [OpOK])
  case waitStable t =>
    split
    · exact h.onWaitForStable_inv _ _ hs
    · refine h.reply' _ _ _ hs (fun ht => ⟨?_, fun _ => hD t (List.mem_singleton.mpr rfl) ht⟩)
      rw [notLeader_eq]; exact definite_not_val (definite_notLeader_false _)
  case transfer t g =>
    split
    · exact h.onTransfer_inv _ _ _ hs (hD t (List.mem_singleton.mpr rfl))
    · refine h.reply' _ _ _ hs (fun ht => ⟨?_, fun _ => hD t (List.mem_singleton.mpr rfl) ht⟩)
      rw [notLeader_eq]; exact definite_not_val (definite_notLeader_false _)
  case voteResult e t r =>
    split
    · exact h.onVoteResult _ _ _ _ hs
    · exact hs
  case replUpdates us =>
    split
    · exact h.checkReplUpdates_inv hCfg us hok1 _ hs
    · exact hs
  case transferTimeout =>
    split
    · exact h.replyTransfer_inv hCfg _ _ hs harmless_timeout
    · exact hs
  case timeoutNowResult a b c =>
    split
    · exact h.onTimeoutNowResult_inv hCfg _ _ _ _ hs
    · exact hs
  case newTermTimeout =>
    split
    · exact h.tryTransfer _ (h.ldrQ _ _ hs rfl)
    · exact hs
  case shutdown => exact absurd hok1 (by simp [OpOK])

end RClosed

/-- the item types the recording state machine answers with a value -/
def isValTyp (typ : Nat) : Prop := typ = etRead ∨ typ = etDirtyRead ∨ typ = etUpdate

instance (typ : Nat) : Decidable (isValTyp typ) := by unfold isValTyp; infer_instance

theorem mem_mkReply? {t : Nat} {x : String} {r : Reply} (h : r ∈ mkReply? t x) : t ≠ 0 ∧ r = ⟨t, x⟩ := by
  unfold mkReply? at h
  split at h
  · cases h
  · rename_i h0
    exact ⟨h0, List.mem_singleton.mp h⟩

theorem itemStep_replies (s : Node) (q : QItem) :
    (C12.itemStep s q).replies = s.replies ++
      mkReply? q.task (if isValTyp q.typ then valStr (C12.itemStep s q).fsm.applied.length else "ok") := by
  rw [C12.itemStep_eq]
  by_cases hv : isValTyp q.typ
  · rw [if_pos hv]; exact congrArg (fun r => s.replies ++ mkReply? q.task r) (if_pos hv)
  · rw [if_neg hv]; exact congrArg (fun r => s.replies ++ mkReply? q.task r) (if_neg hv)

/-- an answer given by the FSM goroutine while it works through `items` over the log `L`, the applied index going
from `lo` to `hi`: it belongs to an item; it is `ok`, or the length of the applied sequence at an index `k` — the
item's index for an update, the index before for a read -/
def NewRep (L : List Entry) (lo hi : Nat) (items : List QItem) (r : Reply) : Prop :=
  ∃ q ∈ items, q.task = r.task ∧ q.task ≠ 0 ∧
    ((¬ isValTyp q.typ ∧ r.result = "ok") ∨
     (isValTyp q.typ ∧ ∃ k, lo ≤ k ∧ k ≤ hi ∧ r.result = valStr (ups (L.take k)).length ∧ q.index ≤ k + 1 ∧
        (q.typ = etUpdate → k = q.index ∧ L[k - 1]? = some q.toEntry)))

theorem NewRep.mono {L : List Entry} {lo lo' hi hi' : Nat} {items items' : List QItem} {r : Reply}
    (h : NewRep L lo hi items r) (h1 : lo' ≤ lo) (h2 : hi ≤ hi') (h3 : ∀ q ∈ items, q ∈ items') :
    NewRep L lo' hi' items' r := by
  obtain ⟨q, hq, ht, h0, hc⟩ := h
  refine ⟨q, h3 q hq, ht, h0, ?_⟩
  rcases hc with hc | ⟨hv, k, k1, k2, k3⟩
  · exact Or.inl hc
  · exact Or.inr ⟨hv, k, by omega, by omega, k3⟩

theorem itemStep_rep (L : List Entry) (s : Node) (q : QItem) (hs : PW m L s)
    (hq : isLogEntryTyp q.typ = true → L[q.index - 1]? = some q.toEntry)
    (hp : (C12.itemStep s q).panicked = none) :
    s.panicked = none ∧ s.fsm.index ≤ (C12.itemStep s q).fsm.index ∧
    ∀ r ∈ (C12.itemStep s q).replies, r ∈ s.replies ∨
      NewRep L s.fsm.index (C12.itemStep s q).fsm.index [q] r := by
  have hP := pw_itemStep L s q hs hq hp
  obtain ⟨_, _, _, b4, _⟩ := hP
  have hp' := hp
  rw [itemStep_panicked] at hp'
  have hidx : (q.index == s.fsm.index + 1) = true := Order.assert_true hp'
  have hps : s.panicked = none := by
    unfold Node.assert at hp'; rw [if_pos hidx] at hp'; exact hp'
  have hqi : q.index = s.fsm.index + 1 := by simpa using hidx
  have hidx' := itemStep_index s q
  have hmono : s.fsm.index ≤ (C12.itemStep s q).fsm.index := by
    rw [hidx']; split <;> omega
  refine ⟨hps, hmono, fun r hr => ?_⟩
  rw [itemStep_replies] at hr
  rcases List.mem_append.mp hr with hr | hr
  · exact Or.inl hr
  · right
    obtain ⟨h0, hr'⟩ := mem_mkReply? hr
    refine ⟨q, List.mem_singleton.mpr rfl, by rw [hr'], h0, ?_⟩
    by_cases hv : isValTyp q.typ
    · right
      refine ⟨hv, (C12.itemStep s q).fsm.index, hmono, Nat.le_refl _, ?_, ?_, ?_⟩
      · rw [hr', if_pos hv, b4]
      · rw [hidx']; split <;> omega
      · intro hu
        have hlt : isLogEntryTyp q.typ = true := by rw [hu]; decide
        rw [hidx', if_pos hlt]
        exact ⟨rfl, hq hlt⟩
    · left
      exact ⟨hv, by rw [hr', if_neg hv]⟩

theorem items_rep (L : List Entry) (items : List QItem) : ∀ (s : Node), PW m L s →
    (∀ q ∈ items, isLogEntryTyp q.typ = true → L[q.index - 1]? = some q.toEntry) →
    (s.fsmApplyItems items).panicked = none →
    s.panicked = none ∧ s.fsm.index ≤ (s.fsmApplyItems items).fsm.index ∧
    ∀ r ∈ (s.fsmApplyItems items).replies, r ∈ s.replies ∨
      NewRep L s.fsm.index (s.fsmApplyItems items).fsm.index items r := by
  induction items with
  | nil => intro s _ _ hp; exact ⟨hp, Nat.le_refl _, fun r hr => Or.inl hr⟩
  | cons q qs ih =>
    intro s hs hq hp
    rw [C12.fsmApplyItems_cons] at hp ⊢
    have hP1 := pw_itemStep L s q hs (hq q (List.mem_cons_self ..))
    obtain ⟨p1, m1, r1⟩ := ih (C12.itemStep s q) hP1 (fun x hx => hq x (List.mem_cons_of_mem _ hx)) hp
    obtain ⟨p0, m0, r0⟩ := itemStep_rep L s q hs (hq q (List.mem_cons_self ..)) p1
    refine ⟨p0, Nat.le_trans m0 m1, fun r hr => ?_⟩
    rcases r1 r hr with hr | hr
    · rcases r0 r hr with hr | hr
      · exact Or.inl hr
      · exact Or.inr (hr.mono (Nat.le_refl _) m1 (fun x hx => by
          rw [List.mem_singleton.mp hx]; exact List.mem_cons_self ..))
    · exact Or.inr (hr.mono m0 (Nat.le_refl _) (fun x hx => List.mem_cons_of_mem _ hx))

/-- **`fsmApply`**: unless an assertion failed, every answer it gives belongs to one of the items handed over -/
theorem fsmApply_rep (s : Node) (items : List QItem) (hs : FN m s)
    (hq : s.panicked = none →
      ∀ q ∈ items, isLogEntryTyp q.typ = true → s.log.entries[q.index - 1]? = some q.toEntry)
    (hp : (s.fsmApply items).panicked = none) :
    s.fsm.index ≤ (s.fsmApply items).fsm.index ∧
    ∀ r ∈ (s.fsmApply items).replies, r ∈ s.replies ∨
      NewRep s.log.entries s.fsm.index (s.fsmApply items).fsm.index items r := by
  revert hp
  unfold Node.fsmApply
  split
  · exact fun hp => absurd hp (panic_panicked_ne _ _)
  · split
    · exact fun hp => absurd hp (panic_panicked_ne _ _)
    · extract_lets front s1 s2
      intro hp2
      have hc : (s2.fsm.index == s2.commitIndex) = true := Order.assert_true hp2
      have e2 : s2.assert (s2.fsm.index == s2.commitIndex) "fsm.assertCommit" = s2 := by
        unfold Node.assert; rw [if_pos hc]
      rw [e2] at hp2 ⊢
      have hst : s.panicked = none := by
        apply Classical.byContradiction
        intro hne
        have h1 : s1.panicked ≠ none := C15.panicked_closed.fsmApplyLogTo_inv s _ hne
        exact (C15.panicked_closed.fsmApplyItems_inv s1 items h1) hp2
      have P0 : PW s.fsm.index s.log.entries s := fun hp0 =>
        ⟨rfl, (hs hp0).2.1, (hs hp0).1.len, (hs hp0).1.applied, Nat.le_refl _⟩
      have P1 : PW s.fsm.index s.log.entries s1 := pw_applyLogTo _ s _ P0
      obtain ⟨p1, m1, r1⟩ := items_rep s.log.entries items s1 P1 (hq hst) hp2
      have hm0 : s.fsm.index ≤ s1.fsm.index := (P1 p1).2.2.2.2
      have hr1 : s1.replies = s.replies := C07.fsmApplyLogTo_replies s _
      refine ⟨Nat.le_trans hm0 m1, fun r hr => ?_⟩
      rcases r1 r hr with hr | hr
      · exact Or.inl (by rw [← hr1]; exact hr)
      · exact Or.inr (hr.mono hm0 (Nat.le_refl _) (fun x hx => hx))

/-- what is known about the submissions a node may answer: task, type, payload, and the last log index of the node
when the submission was delivered to it -/
abbrev Known := Nat → Nat → String → Nat → Prop

/-- the value answer `n` to task `t` in state `s`: the task is a known submission of a type that is answered with a
value, and `n` is the number of update entries among the first `k` log entries, `k` within the applied index; for an
update the entry at `k` carries its payload; unless it is a dirty read, `k` is not below the last log index at
delivery -/
def ValOK (K : Known) (s : Node) (t n : Nat) : Prop :=
  ∃ typ d lb, K t typ d lb ∧ isValTyp typ ∧
    ∃ k, k ≤ s.fsm.index ∧ n = (ups (s.log.entries.take k)).length ∧
      (typ = etUpdate → 1 ≤ k ∧ ∃ e, s.log.entries[k - 1]? = some e ∧ e.typ = etUpdate ∧ e.data = d) ∧
      (typ ≠ etDirtyRead → lb ≤ k)

/-- an answer recorded in this step is in order: a value is `ValOK`; a definite rejection went to a task in `D` -/
def RepOK (K : Known) (D : Nat → Prop) (s : Node) (r : Reply) : Prop :=
  (∀ n, r.result = valStr n → ValOK K s r.task n) ∧ (Definite r.result → D r.task)

theorem ValOK.mono {K : Known} {s s' : Node} {t n : Nat} (h : ValOK K s t n) (hi : s.fsm.index ≤ s'.fsm.index)
    (hl : s'.log.entries.take s.fsm.index = s.log.entries.take s.fsm.index) : ValOK K s' t n := by
  obtain ⟨typ, d, lb, hK, hv, k, k1, k2, k3, k4⟩ := h
  have htk : s'.log.entries.take k = s.log.entries.take k := take_le_congr hl k1
  refine ⟨typ, d, lb, hK, hv, k, Nat.le_trans k1 hi, by rw [htk]; exact k2, fun hu => ?_, k4⟩
  obtain ⟨hk, e, he, h1, h2⟩ := k3 hu
  refine ⟨hk, e, ?_, h1, h2⟩
  rw [getElem?_of_take_eq htk (by omega)]; exact he

theorem RepOK.mono {K : Known} {D : Nat → Prop} {s s' : Node} {r : Reply} (h : RepOK K D s r)
    (hi : s.fsm.index ≤ s'.fsm.index)
    (hl : s'.log.entries.take s.fsm.index = s.log.entries.take s.fsm.index) : RepOK K D s' r :=
  ⟨fun n hn => (h.1 n hn).mono hi hl, h.2⟩

/-- the within-step invariant, unless the step has failed -/
structure WIp (L0 : List Entry) (K : Known) (D : Nat → Prop) (s : Node) : Prop where
  /-- the state machine holds the update payloads of the applied log prefix -/
  fsm : FsmOK 0 s
  lw : LW s
  /-- every log-type queue item is the log entry at its index -/
  qok : QOK s
  /-- the log is `L0` followed by entries that are no updates -/
  log : ∃ es, s.log.entries = L0 ++ es ∧ ups es = []
  /-- every queued task is a known submission, delivered when the log was shorter than the item's index -/
  qk : ∀ q ∈ s.ldr.queue, q.task ≠ 0 → ∃ lb, K q.task q.typ q.data lb ∧ lb < q.index
  rep : ∀ r ∈ s.replies, RepOK K D s r

def WI (L0 : List Entry) (K : Known) (D : Nat → Prop) (s : Node) : Prop := s.panicked = none → WIp L0 K D s

theorem WI.fl {L0 : List Entry} {K : Known} {D : Nat → Prop} {s : Node} (h : WI L0 K D s) : FL 0 s :=
  fun hp => ⟨(h hp).fsm, (h hp).lw, (h hp).qok⟩

theorem wi_frame {L0 : List Entry} {K : Known} {D : Nat → Prop} {s s' : Node} (h : WI L0 K D s) (hw : WF s s') :
    WI L0 K D s' := by
  intro hp
  obtain ⟨f, w, c, l, k, r⟩ := h (hw.mono hp)
  have e := hw.same
  unfold wobs at e
  simp only [Prod.mk.injEq] at e
  obtain ⟨e1, e2, e3, e4, e5, e6, e7⟩ := e
  refine ⟨⟨by rw [e5, e4]; exact f.le, by rw [e5, e1]; exact f.len, by rw [e5, e1]; exact f.applied, Nat.zero_le _⟩,
    ⟨by rw [e2]; exact w.1, by rw [e3, e1]; exact w.2⟩, ?_, by rw [e1]; exact l, by rw [e7]; exact k, ?_⟩
  · intro q hq ht
    rw [e1]; exact c q (by rw [← e7]; exact hq) ht
  · intro x hx
    rw [e6] at hx
    exact (r x hx).mono (by rw [e5]; exact Nat.le_refl _) (by rw [e1])

theorem appendEntry_more (s : Node) (e : Entry) :
    (s.appendEntry e).replies = s.replies ∧ (s.appendEntry e).ldr = s.ldr ∧ (s.appendEntry e).fsm = s.fsm ∧
    (s.appendEntry e).log.entries = s.log.entries ++ [e] := by
  unfold Node.appendEntry
  extract_lets a roll
  obtain ⟨a1, _, _, _, a5, a6, a7, _⟩ := assert_fields s (e.index == s.lastLogIndex + 1) "assert.appendEntry"
  refine ⟨a6, a7, a5, ?_⟩
  show (a.log.append e roll).entries = _
  rw [(append_parts a.log e roll).2, a1]

/-- **the instance**: the within-step invariant is closed under the guarded primitives; the generic part of a step
pushes only items that are no updates -/
theorem wi_closed (L0 : List Entry) (K : Known) (D : Nat → Prop) :
    RClosed (fun typ _ => typ ≠ etUpdate) D (WI L0 K D) where
  frame := fun _ _ hs hw => wi_frame hs hw
  reply := fun s t r hs ht hg => by
    intro hp
    obtain ⟨a1, a2, _, a4, a5, a6, a7, _⟩ := reply_fields s t r
    rw [a6] at hp
    obtain ⟨f, w, c, l, k, rp⟩ := hs hp
    refine ⟨⟨by rw [a5, a4]; exact f.le, by rw [a5, a1]; exact f.len, by rw [a5, a1]; exact f.applied, Nat.zero_le _⟩,
      ⟨by rw [a1]; exact w.1, by rw [a2, a1]; exact w.2⟩, ?_, by rw [a1]; exact l, by rw [a7]; exact k, ?_⟩
    · intro q hq hqt
      rw [a1]; exact c q (by rw [← a7]; exact hq) hqt
    · intro x hx
      rw [reply_replies s t r ht] at hx
      rcases List.mem_append.mp hx with hx | hx
      · exact (rp x hx).mono (by rw [a5]; exact Nat.le_refl _) (by rw [a1])
      · rw [List.mem_singleton.mp hx]
        exact ⟨fun n hn => absurd ⟨n, hn⟩ hg.1, hg.2⟩
  ldrNil := fun s l hs hl => by
    intro hp
    obtain ⟨f, w, c, lg, k, rp⟩ := hs hp
    have hq0 : ∀ q, q ∈ (s.withLdr l).ldr.queue → False := by
      intro q hq
      rw [show (s.withLdr l).ldr.queue = l.queue from rfl, hl] at hq
      cases hq
    exact ⟨⟨f.le, f.len, f.applied, f.mono⟩, w, fun q hq _ => (hq0 q hq).elim, lg,
      fun q hq _ => (hq0 q hq).elim, rp⟩
  pushLog := fun s q hs hP hq0 hlt => by
    have hfl := fl_pushLog (m := 0) s q hs.fl
    intro hp
    obtain ⟨f', w', c'⟩ := hfl hp
    obtain ⟨b1, b2, b3, b4⟩ := appendEntry_more (s.withLdr { s.ldr with queue := s.ldr.queue ++ [q] }) q.toEntry
    have hps : s.panicked = none := by
      apply Classical.byContradiction
      intro hne
      have hne' : (s.withLdr { s.ldr with queue := s.ldr.queue ++ [q] }).panicked ≠ none := hne
      exact (C15.panicked_closed.appendEntry_inv _ _ hne') hp
    obtain ⟨f, w, c, ⟨es, l1, l2⟩, k, rp⟩ := hs hps
    refine ⟨f', w', c', ⟨es ++ [q.toEntry], ?_, ?_⟩, ?_, ?_⟩
    · rw [b4]; show s.log.entries ++ _ = _; rw [l1, List.append_assoc]
    · rw [ups_append, l2, ups_single, if_neg (show ¬ q.toEntry.typ = etUpdate from hP)]; rfl
    · intro x hx hxt
      rw [b2] at hx
      rcases List.mem_append.mp (show x ∈ s.ldr.queue ++ [q] from hx) with hx | hx
      · exact k x hx hxt
      · rw [List.mem_singleton.mp hx] at hxt; exact absurd hq0 hxt
    · intro x hx
      rw [b1] at hx
      refine (rp x hx).mono (by rw [b3]; exact Nat.le_refl _) ?_
      rw [b4]
      exact List.take_append_of_le_length f.len
  pushOther := fun s q hs hP hq0 hlt => by
    have hfl := fl_pushOther (m := 0) s q hs.fl hlt
    intro hp
    obtain ⟨f', w', c'⟩ := hfl hp
    obtain ⟨f, w, c, lg, k, rp⟩ := hs hp
    refine ⟨f', w', c', lg, ?_, rp⟩
    intro x hx hxt
    rcases List.mem_append.mp (show x ∈ s.ldr.queue ++ [q] from hx) with hx | hx
    · exact k x hx hxt
    · rw [List.mem_singleton.mp hx] at hxt; exact absurd hq0 hxt
  commitIdx := fun s i hs hi => by
    have hfl := fl_setCommitIndexR (m := 0) s i hs.fl hi
    obtain ⟨a1, a2, a3, a4⟩ := setCommitIndexR_nobs s i
    have hk := (TL.key_eq (TL.fk_setCommitIndexR s i).same).1
    intro hp
    obtain ⟨f', w', c'⟩ := hfl hp
    rw [C15.setCommitIndexR_panicked] at hp
    obtain ⟨f, w, c, lg, k, rp⟩ := hs hp
    refine ⟨f', w', c', by rw [a1]; exact lg, by rw [a4]; exact k, ?_⟩
    intro x hx
    rw [hk] at hx
    exact (rp x hx).mono (by rw [a3]; exact Nat.le_refl _) (by rw [a1])
  applyL := fun s hs => by
    have hfl := fl_applyL (m := 0) s hs.fl
    intro hp
    obtain ⟨f', w', c'⟩ := hfl hp
    revert hp f' w' c'
    unfold Node.applyCommittedL
    extract_lets sp l0 s1
    intro hp f' w' c'
    have hlog : (s1.fsmApply sp.1).log = s1.log := fsmFrame_log.fsmApply_eq s1 sp.1
    have hldr : (s1.fsmApply sp.1).ldr = s1.ldr := fsmFrame_ldr.fsmApply_eq s1 sp.1
    have hps : s.panicked = none := by
      apply Classical.byContradiction
      intro hne
      exact (C15.panicked_closed.fsmApply_inv s1 sp.1 (show s1.panicked ≠ none from hne)) hp
    obtain ⟨f, w, c, lg, k, rp⟩ := hs hps
    have hfn1 : FN s.fsm.index s1 := fun _ => ⟨⟨f.le, f.len, f.applied, Nat.le_refl _⟩, w⟩
    obtain ⟨hm, hr⟩ := fsmApply_rep s1 sp.1 hfn1
      (fun _ q hq ht => c q (splitQueue_mem _ _ q (Or.inl hq)) ht) hp
    refine ⟨f', w', c', by rw [hlog]; exact lg, ?_, ?_⟩
    · intro q hq hqt
      rw [hldr] at hq
      exact k q (splitQueue_mem _ _ q (Or.inr hq)) hqt
    · intro x hx
      rcases hr x hx with hx | ⟨q, hq, hqt, h0, hcase⟩
      · exact (rp x hx).mono hm (by rw [hlog]; rfl)
      · obtain ⟨lb, hK, hlb⟩ := k q (splitQueue_mem _ _ q (Or.inl hq)) h0
        rcases hcase with ⟨hnv, hres⟩ | ⟨hv, kk, k1, k2, k3, k4, k5⟩
        · exact ⟨fun n hn => absurd ⟨n, hres ▸ hn⟩ harmless_ok.1, fun hd => absurd (hres ▸ hd) harmless_ok.2⟩
        · refine ⟨fun n hn => ?_, fun hd => absurd ⟨_, k3⟩ (definite_not_val hd)⟩
          have hn' : n = (ups (s.log.entries.take kk)).length := valStr_inj (hn.symm.trans k3)
          rw [← hqt]
          refine ⟨q.typ, q.data, lb, hK, hv, kk, k2, by rw [hlog]; exact hn', fun hu => ?_, fun _ => by omega⟩
          obtain ⟨e1, e2⟩ := k5 hu
          refine ⟨by omega, q.toEntry, by rw [hlog]; exact e2, hu, rfl⟩

theorem WI.weaken {L0 : List Entry} {K : Known} {D D' : Nat → Prop} {s : Node} (h : WI L0 K D s)
    (hD : ∀ t, D t → D' t) : WI L0 K D' s := by
  intro hp
  obtain ⟨f, w, c, l, k, r⟩ := h hp
  exact ⟨f, w, c, l, k, fun x hx => ⟨(r x hx).1, fun hd => hD _ ((r x hx).2 hd)⟩⟩

/-- answers are added, nothing else changes -/
theorem wi_addReplies {L0 : List Entry} {K : Known} {D : Nat → Prop} {s : Node} (h : WI L0 K D s)
    (rs : List Reply) (hr : s.panicked = none → ∀ r ∈ rs, RepOK K D s r) : WI L0 K D (s.addReplies rs) := by
  intro hp
  have hp' : s.panicked = none := hp
  obtain ⟨f, w, c, l, k, r⟩ := h hp'
  refine ⟨⟨f.le, f.len, f.applied, f.mono⟩, w, c, l, k, fun x hx => ?_⟩
  rcases List.mem_append.mp (show x ∈ s.replies ++ rs from hx) with hx | hx
  · exact ⟨(r x hx).1, (r x hx).2⟩
  · exact ⟨(hr hp' x hx).1, (hr hp' x hx).2⟩

/-- the update payloads of a client batch, in order -/
def updData (b : List QItem) : List String := (b.filter (fun q => q.typ == etUpdate)).map (·.data)

theorem ups_assign (last term : Nat) (b : List QItem) :
    ups (((C03.assign last term b).filter (fun q => isLogEntryTyp q.typ)).map QItem.toEntry) = updData b := by
  induction b generalizing last with
  | nil => rfl
  | cons q qs ih =>
    unfold C03.assign updData
    simp only [List.filter_cons]
    by_cases hl : isLogEntryTyp q.typ = true
    · simp only [hl, if_true, List.map_cons]
      have := ih (last + 1)
      unfold updData at this
      by_cases hu : q.typ = etUpdate
      · have e : ups (QItem.toEntry { q with index := last + 1, term := term, cfg := q.cfg.map Config.payload } ::
            List.map QItem.toEntry (List.filter (fun q => isLogEntryTyp q.typ) (C03.assign (last + 1) term qs))) =
            q.data :: ups (List.map QItem.toEntry (List.filter (fun q => isLogEntryTyp q.typ) (C03.assign (last + 1) term qs))) := by
          unfold ups; simp [QItem.toEntry, hu]
        rw [e, this]; simp [hu]
      · have e : ups (QItem.toEntry { q with index := last + 1, term := term, cfg := q.cfg.map Config.payload } ::
            List.map QItem.toEntry (List.filter (fun q => isLogEntryTyp q.typ) (C03.assign (last + 1) term qs))) =
            ups (List.map QItem.toEntry (List.filter (fun q => isLogEntryTyp q.typ) (C03.assign (last + 1) term qs))) := by
          unfold ups; simp [QItem.toEntry, hu]
        rw [e, this]; simp [hu]
    · have hl' : isLogEntryTyp q.typ = false := by simpa using hl
      have hu : q.typ ≠ etUpdate := by intro he; rw [he] at hl'; revert hl'; decide
      simp only [hl', Bool.false_eq_true, if_false]
      have := ih last
      unfold updData at this
      rw [this]; simp [hu]

theorem mem_assign (last term : Nat) (b : List QItem) : ∀ x ∈ C03.assign last term b,
    last < x.index ∧ ∃ q ∈ b, x.task = q.task ∧ x.typ = q.typ ∧ x.data = q.data := by
  induction b generalizing last with
  | nil => intro x hx; simp [C03.assign] at hx
  | cons q qs ih =>
    intro x hx
    simp only [C03.assign, List.mem_cons] at hx
    rcases hx with hx | hx
    · rw [hx]; exact ⟨Nat.lt_succ_self _, q, List.mem_cons_self .., rfl, rfl, rfl⟩
    · obtain ⟨h1, y, hy, h2⟩ := ih _ x hx
      refine ⟨?_, y, List.mem_cons_of_mem _ hy, h2⟩
      split at h1 <;> omega

/-- what the cluster-level proof knows about a node before it takes a step -/
structure PreOK (K : Known) (pre : Node) : Prop where
  fsm : FsmOK 0 pre
  lw : LW pre
  qok : QOK pre
  qk : ∀ q ∈ pre.ldr.queue, q.task ≠ 0 → ∃ lb, K q.task q.typ q.data lb ∧ lb < q.index

/-- **summary of one step** (any operation but an append request) for the client ledger: every task still queued
is known; every answer of the step is in order (`RepOK`: a value answer is the length of the applied sequence at a
known item; a definite rejection went to a task the operation brought in); the log grew by entries that are no
updates — or, for a client batch that was stored, by entries whose update payloads are exactly those of the batch, in
order, and then the step gave no definite rejection at all -/
structure CStep (K : Known) (pre : Node) (op : Op) (post : Node) : Prop where
  queue : ∀ q ∈ post.ldr.queue, q.task ≠ 0 → ∃ lb, K q.task q.typ q.data lb ∧ lb < q.index
  rep : ∀ r ∈ post.replies, RepOK K (fun t => t ∈ TL.submittedRaw op) post r
  log : ∃ es, post.log.entries = pre.log.entries ++ es ∧
    (ups es = [] ∨ (∃ b, op = .newEntries b ∧ ups es = updData b ∧ ∀ r ∈ post.replies, ¬ Definite r.result))
  fsm : FsmOK 0 post

theorem wi_begin {K : Known} {D : Nat → Prop} {pre : Node} (h : PreOK K pre) (ra : List Nat) (ord : List (List Nat)) :
    WI pre.log.entries K D (pre.begin ra ord) :=
  fun _ => ⟨⟨h.fsm.le, h.fsm.len, h.fsm.applied, h.fsm.mono⟩, h.lw, h.qok, ⟨[], (List.append_nil _).symm, rfl⟩, h.qk,
    fun r hr => by cases hr⟩

theorem cstep_of_wi {K : Known} {pre post : Node} {op : Op}
    (h : WI pre.log.entries K (fun t => t ∈ TL.submittedRaw op) post) (hp : post.panicked = none) :
    CStep K pre op post := by
  obtain ⟨f, _, _, ⟨es, l1, l2⟩, k, r⟩ := h hp
  exact ⟨k, r, ⟨es, l1, Or.inl l2⟩, f⟩

theorem client_step_other {K : Known} (pre : Node) (op : Op) (ra : List Nat) (ord : List (List Nat))
    (hpre : PreOK K pre) (hok : OpOK2 op) (happ : ∀ q, op ≠ .append q) (hne : ∀ b, op ≠ .newEntries b)
    (hp : (pre.step op ra ord).panicked = none) : CStep K pre op (pre.step op ra ord) := by
  have hC := wi_closed pre.log.entries K (fun t => t ∈ TL.submittedRaw op)
  have hsd : op ≠ .shutdown := by
    intro he; rw [he] at hok; exact hok.1
  have h0 := wi_begin (D := fun t => t ∈ TL.submittedRaw op) hpre ra ord
  have h1 := hC.handle_inv (by decide) (pre.begin ra ord) op hok hne happ (fun t ht _ => ht) h0
  have h2 := hC.settle_inv (by decide) (by decide) 6 _ pre.role h1
  rw [← Node.step_eq_settle pre op ra ord hsd] at h2
  exact cstep_of_wi h2 hp

/-- an answer to a batch that is refused as a whole goes to an item with a task -/
theorem mem_refusals {b : List QItem} {f : QItem → String} {r : Reply}
    (h : r ∈ b.flatMap (fun q => mkReply? q.task (f q))) : ∃ q ∈ b, q.task ≠ 0 ∧ r = ⟨q.task, f q⟩ := by
  obtain ⟨q, hq, hrq⟩ := List.mem_flatMap.mp h
  exact ⟨q, hq, mem_mkReply? hrq⟩

/-- a client batch delivered to a node that is not leader: every item is answered, nothing else happens -/
theorem client_step_reject {K : Known} (pre : Node) (b : List QItem) (ra : List Nat) (ord : List (List Nat))
    (hpre : PreOK K pre) (hr : pre.role ≠ .leader)
    (hKb : ∀ q ∈ b, q.task ≠ 0 → K q.task q.typ q.data pre.lastLogIndex) :
    CStep K pre (.newEntries b) (pre.step (.newEntries b) ra ord) := by
  have hst : pre.step (.newEntries b) ra ord = (pre.begin ra ord).rejectEntries b := by
    rw [Node.step_eq_settle pre _ ra ord (by intro h; cases h)]
    have hh : (pre.begin ra ord).handle (.newEntries b) = (pre.begin ra ord).rejectEntries b := by
      unfold Node.handle
      dsimp only
      rw [if_neg (show ¬ (pre.begin ra ord).role = .leader from hr)]
    rw [hh, C07.definite_rejection_not_leader]
    exact settle_of_role rfl
  rw [hst, C07.definite_rejection_not_leader]
  have h0 := wi_begin (D := fun t => t ∈ TL.submittedRaw (.newEntries b)) hpre ra ord
  refine cstep_of_wi (wi_addReplies h0 _ (fun _ r hr => ?_)) rfl
  obtain ⟨q, hq, h0, rfl⟩ := mem_refusals hr
  have hD : q.task ∈ TL.submittedRaw (.newEntries b) := List.mem_map.mpr ⟨q, hq, rfl⟩
  unfold C07.rejectReply
  split
  · rename_i hd
    have hv : IsVal s!"val:{(pre.begin ra ord).fsm.applied.length}" := ⟨_, rfl⟩
    refine ⟨fun n hn => ?_, fun hdf => absurd hv (definite_not_val hdf)⟩
    have hn' : n = pre.fsm.applied.length := valStr_inj (hn.symm.trans rfl)
    refine ⟨q.typ, q.data, pre.lastLogIndex, hKb q hq h0, Or.inr (Or.inl hd), pre.fsm.index, Nat.le_refl _,
      ?_, fun hu => ?_, fun hnd => absurd hd hnd⟩
    · rw [hn']; show _ = (ups (pre.log.entries.take pre.fsm.index)).length
      rw [← hpre.fsm.applied]
    · rw [hd] at hu; exact absurd hu (by decide)
  · refine ⟨fun n hn => ?_, fun _ => hD⟩
    rw [notLeader_eq] at hn
    exact absurd ⟨n, hn⟩ (definite_not_val (definite_notLeader_false _))

theorem definite_nonVoterReply (s : Node) : Definite (C07.nonVoterReply s) := by
  unfold C07.nonVoterReply
  split
  · exact Or.inr (Or.inr (Or.inl rfl))
  · exact Or.inr (Or.inr (Or.inr rfl))

/-- a client batch delivered to a leader: the whole batch is rejected (transfer in progress, leader demoted or
removed) and nothing is stored, or the whole batch is stored and no definite rejection is given -/
theorem client_step_store {K : Known} (pre : Node) (b : List QItem) (ra : List Nat) (ord : List (List Nat))
    (hpre : PreOK K pre) (hr : pre.role = .leader) (hnc : NoCfg b)
    (hKb : ∀ q ∈ b, q.task ≠ 0 → K q.task q.typ q.data pre.lastLogIndex)
    (hp : (pre.step (.newEntries b) ra ord).panicked = none) :
    CStep K pre (.newEntries b) (pre.step (.newEntries b) ra ord) := by
  have hfuel : fuelFor b.length = (63 + 4 * b.length) + 1 := by unfold fuelFor; omega
  have hst : pre.step (.newEntries b) ra ord =
      settle 6 (storeEntry ((63 + 4 * b.length) + 1) (pre.begin ra ord) b) pre.role := by
    rw [Node.step_eq_settle pre _ ra ord (by intro h; cases h)]
    have hh : (pre.begin ra ord).handle (.newEntries b) = storeEntry (fuelFor b.length) (pre.begin ra ord) b := by
      unfold Node.handle
      dsimp only
      rw [if_pos (show (pre.begin ra ord).role = .leader from hr)]
    rw [hh, hfuel]
  have hge : 63 + 4 * b.length ≥ b.length := by omega
  rw [hst] at hp ⊢
  -- after the loop over the batch, relative to a base log `L0` and a set `D` of tasks that may be rejected
  have fin : ∀ (L0 : List Entry) (D : Nat → Prop), WI L0 K D (storeItems (63 + 4 * b.length) (pre.begin ra ord) b) →
      WI L0 K D (settle 6 (storeEntry ((63 + 4 * b.length) + 1) (pre.begin ra ord) b) pre.role) := by
    intro L0 D h1
    have hC := wi_closed L0 K D
    exact hC.settle_inv (by decide) (by decide) 6 _ pre.role
      (hC.storeEntry_tail (fun x hx => hC.onMajorityCommit_inv (by decide) _ x hx) _ b h1)
  have h0 := wi_begin (D := fun t => t ∈ TL.submittedRaw (.newEntries b)) hpre ra ord
  have hDq : ∀ q ∈ b, q.task ∈ TL.submittedRaw (.newEntries b) := fun q hq => List.mem_map.mpr ⟨q, hq, rfl⟩
  by_cases ht : (pre.begin ra ord).ldr.transfer.active = true
  · -- transfer in progress
    refine cstep_of_wi (fin _ _ ?_) hp
    rw [C07.definite_rejection_transfer _ _ b ht hge]
    refine wi_addReplies h0 _ (fun _ r hr => ?_)
    obtain ⟨q, hq, _, rfl⟩ := mem_refusals hr
    have hd : Definite "inProgress:transferLeadership" := Or.inr (Or.inl rfl)
    exact ⟨fun n hn => absurd ⟨n, hn⟩ (definite_not_val hd), fun _ => hDq q hq⟩
  · have ht' : (pre.begin ra ord).ldr.transfer.active = false := by simpa using ht
    by_cases hv : (pre.begin ra ord).ldr.node.voter = true
    · -- the batch is stored
      obtain ⟨a1, a2, _, a4, a5, a6, _⟩ := C03.leader_queue_matches_log _ (pre.begin ra ord) b hge ht' hv hnc
      have hfl : FL 0 (storeItems (63 + 4 * b.length) (pre.begin ra ord) b) :=
        (fl_block (m := 0) _).2.1 _ b (h0.fl)
      have h1 : WI (storeItems (63 + 4 * b.length) (pre.begin ra ord) b).log.entries K (fun _ => False)
          (storeItems (63 + 4 * b.length) (pre.begin ra ord) b) := by
        intro hp1
        obtain ⟨f, w, c⟩ := hfl hp1
        refine ⟨f, w, c, ⟨[], (List.append_nil _).symm, rfl⟩, fun q hq hq0 => ?_, fun r hr => ?_⟩
        · rw [a1] at hq
          rcases List.mem_append.mp hq with hq | hq
          · exact hpre.qk q hq hq0
          · obtain ⟨hlt, y, hy, e1, e2, e3⟩ := mem_assign _ _ b q hq
            refine ⟨pre.lastLogIndex, ?_, hlt⟩
            rw [e1, e2, e3]
            exact hKb y hy (by rw [← e1]; exact hq0)
        · rw [a6] at hr; cases hr
      have h2 := fin _ _ h1
      obtain ⟨f, _, _, ⟨es, l1, l2⟩, k, r⟩ := h2 hp
      refine ⟨k, fun x hx => ⟨(r x hx).1, fun hd => ((r x hx).2 hd).elim⟩,
        ⟨List.map QItem.toEntry (List.filter (fun q => isLogEntryTyp q.typ)
          (C03.assign (pre.begin ra ord).lastLogIndex (pre.begin ra ord).term b)) ++ es, ?_,
          Or.inr ⟨b, rfl, ?_, ?_⟩⟩, f⟩
      · rw [l1, a2, List.append_assoc]; rfl
      · rw [ups_append, l2, ups_assign, List.append_nil]
      · exact fun x hx hd => (r x hx).2 hd
    · -- the leader is no longer a voter
      have hv' : (pre.begin ra ord).ldr.node.voter = false := by simpa using hv
      refine cstep_of_wi (fin _ _ ?_) hp
      rw [C07.definite_rejection_nonvoter _ _ b ht' hv' hge]
      refine wi_addReplies h0 _ (fun _ r hr => ?_)
      obtain ⟨q, hq, _, rfl⟩ := mem_refusals hr
      have hd := definite_nonVoterReply (pre.begin ra ord)
      exact ⟨fun n hn => absurd ⟨n, hn⟩ (definite_not_val hd), fun _ => hDq q hq⟩

/-- **summary of one step that is not an append request**, for the operations of the `_partial` model -/
theorem client_step {K : Known} (pre : Node) (op : Op) (ra : List Nat) (ord : List (List Nat))
    (hpre : PreOK K pre) (hok : OpOK2 op) (happ : ∀ q, op ≠ .append q)
    (hKb : ∀ b, op = .newEntries b → ∀ q ∈ b, q.task ≠ 0 → K q.task q.typ q.data pre.lastLogIndex)
    (hp : (pre.step op ra ord).panicked = none) : CStep K pre op (pre.step op ra ord) := by
  by_cases hb : ∃ b, op = .newEntries b
  · obtain ⟨b, rfl⟩ := hb
    by_cases hr : pre.role = .leader
    · exact client_step_store pre b ra ord hpre hr (hok.2.1 b rfl) (hKb b rfl) hp
    · exact client_step_reject pre b ra ord hpre hr (hKb b rfl)
  · exact client_step_other pre op ra ord hpre hok happ (fun b he => hb ⟨b, he⟩) hp

/-- every answer is neither a value nor a definite rejection: closed under the primitives of `leader.release` -/
theorem harmless_base : RBase (fun _ => False) (fun s => ∀ r ∈ s.replies, Harmless r.result) where
  frame := fun s s' hs hw => by
    have e := hw.same
    unfold wobs at e
    simp only [Prod.mk.injEq] at e
    rw [e.2.2.2.2.2.1]; exact hs
  reply := fun s t r hs ht hg x hx => by
    rw [reply_replies s t r ht] at hx
    rcases List.mem_append.mp hx with hx | hx
    · exact hs x hx
    · rw [List.mem_singleton.mp hx]; exact ⟨hg.1, fun hd => hg.2 hd⟩
  ldrNil := fun _ _ hs _ => hs

/-- **an append request**: whatever the step answers to client tasks (a leader that steps down answers what it had
pending) is neither a value nor a definite rejection -/
theorem append_step_replies (pre : Node) (q : AppendReq) (ra : List Nat) (ord : List (List Nat)) :
    ∀ r ∈ (pre.step (.append q) ra ord).replies, Harmless r.result := by
  have hpost : pre.step (.append q) ra ord =
      settle 6 (((pre.begin ra ord).onAppendEntries q).rpcDone false true) pre.role := rfl
  have hk := (TL.key_eq ((TL.fk_onAppendEntries (pre.begin ra ord) q).trans (TL.fk_rpcDone _ false true)).same).1
  have h1 : ∀ r ∈ (((pre.begin ra ord).onAppendEntries q).rpcDone false true).replies, Harmless r.result := by
    rw [hk]; intro r hr; cases hr
  rw [hpost]
  by_cases hst : q.term < pre.term
  · have hh : (pre.begin ra ord).onAppendEntries q = (pre.begin ra ord).ret rStaleTerm :=
      C04.stale_append_refused _ q hst
    have hr : (((pre.begin ra ord).onAppendEntries q).rpcDone false true).role = pre.role := by
      rw [hh, (SameKey.rpcDone _ _ _).role]; rfl
    have e : settle 6 (((pre.begin ra ord).onAppendEntries q).rpcDone false true) pre.role =
        ((pre.begin ra ord).onAppendEntries q).rpcDone false true := settle_of_role hr
    rw [e]; exact h1
  · have hf : (((pre.begin ra ord).onAppendEntries q).rpcDone false true).role = .follower := by
      rw [(SameKey.rpcDone _ _ _).role]
      exact onAppendEntries_role _ q hst
    rcases settle_follower_cases _ pre.role hf with e | e
    · rw [e]; exact h1
    · rw [e]; exact harmless_base.releaseRole _ _ h1

end ClientRel
end Raft
