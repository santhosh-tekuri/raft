/-
Durability of committed entries on the cluster system `Raft.Commit` (Sys/Commit.lean) — helper lemmas for
Props/C06Sys.lean.

The facts are consequences of the invariant `Commit.CInv` (Sys/Commit.lean), mainly of `AckI.stable` (an
acknowledged entry of the acknowledgement's term stays durably in the voter's log unless an entry of a later
term does not extend it), `CmtI.quorum`, `CmtI.lc` (every later entry extends a committed one) and of the
description `C02Sys.DImg` of the crash images of a step.
-/
import RaftVerif.Props.C02Sys

namespace Raft
namespace DurableRel
open Node Election LogRel Replication CommitRel Commit C02Sys

/-- the disk image `d` holds an entry with term `t` at index `k`: `Log.Get(k)` on the reopened log returns it -/
def DiskHolds (d : Durable) (k t : Nat) : Prop := ∃ e, d.log.get? k = some e ∧ e.term = t

/-- node `j`'s DURABLE log in state `x` (entries up to `flushed`: what a process crash keeps and `restart`
reads) holds an entry with term `t` at index `k` -/
def DurablyHolds (x : Commit.Sys) (j k t : Nat) : Prop := DiskHolds (x.node j).durable k t

/-- whenever node `j` may die — before, at any storage point of, or after any enabled step with any content and
oracles — the disk holds an entry with term `t` at index `k` -/
def CrashSafe (x : Commit.Sys) (j k t : Nat) : Prop :=
  ∀ op ra ord src n, Commit.Enabled x j op src → DiskHolds (C05.crashDisk (x.node j) op ra ord n) k t

def SameOnDisk (d : Durable) (s : Node) (k : Nat) : Prop :=
  ∀ k', 1 ≤ k' → k' ≤ k → d.log.get? k' = s.log.get? k' ∧ (s.log.get? k').isSome = true

/-- **node `v` of state `y` keeps the entries `1 … k` of the log of `s` durably**: its log is flushed up to
`k` at least; its disk returns these very entries — now, and at every storage point of every enabled step
(whenever the process may die); and whenever it restarts from such a disk image, the restarted node holds these
very entries again, in a completely flushed log. -/
structure Keeps (y : Commit.Sys) (v : Nat) (s : Node) (k : Nat) : Prop where
  flushed : k ≤ (y.node v).log.flushed
  disk : SameOnDisk (y.node v).durable s k
  crash : ∀ op ra ord src n, Commit.Enabled y v op src → SameOnDisk (C05.crashDisk (y.node v) op ra ord n) s k
  restart : ∀ op ra ord src n retain sor w, Commit.Enabled y v op src →
    Node.restart (C05.crashDisk (y.node v) op ra ord n) retain sor = some w →
    k ≤ w.log.flushed ∧ ∀ k', 1 ≤ k' → k' ≤ k → w.log.get? k' = s.log.get? k'

theorem diskHolds_iff {d : Durable} (hp : d.log.prev = 0) {k t : Nat} :
    DiskHolds d k t ↔ Holds d.log.entries k t := by
  unfold DiskHolds
  rw [NLog.get?_prev0 _ hp]
  constructor
  · rintro ⟨e, he, het⟩
    by_cases hk : 0 < k
    · rw [if_pos hk] at he
      obtain ⟨hlt, hee⟩ := List.getElem?_eq_some_iff.mp he
      refine ⟨hk, by omega, ?_⟩
      unfold termAt
      rw [if_neg (by omega), he]
      exact het
    · rw [if_neg hk] at he; cases he
  · intro h
    obtain ⟨e, he, het⟩ := holds_get h
    exact ⟨e, by rw [if_pos (show 0 < k from h.1)]; exact he, het⟩

theorem holds_take_iff {es : List Entry} {f k t : Nat} :
    Holds (es.take f) k t ↔ k ≤ f ∧ Holds es k t := by
  constructor
  · intro h
    have hl := h.2.1
    rw [List.length_take] at hl
    exact ⟨by omega, holds_prefix (List.take_prefix _ _) h⟩
  · rintro ⟨hf, h⟩
    exact holds_of_take_eq (k := f) (by rw [List.take_take, Nat.min_self]) h hf

theorem durable_holds_iff {s : Node} (hn : NWF s) {k t : Nat} :
    DiskHolds s.durable k t ↔ DurHolds s (k, t) := by
  have hp : s.durable.log.prev = 0 := hn.prev
  rw [diskHolds_iff hp]
  show Holds s.log.durable.entries k t ↔ _
  rw [durable_entries hn, holds_take_iff]
  rfl

theorem durablyHolds_iff {V : List Nat} {x : Commit.Sys} (hI : CInv V x) {j k t : Nat} :
    DurablyHolds x j k t ↔ DurHolds (x.node j) (k, t) := durable_holds_iff (nwf hI j)

theorem durable_get? {s : Node} (hn : NWF s) {k : Nat} (hk : k ≤ s.log.flushed) :
    s.durable.log.get? k = s.log.get? k := by
  by_cases h0 : s.log.prev < k
  · exact NLog.durable_get_flushed s.log k h0 hk
  · have : k = 0 := by have := hn.prev; omega
    subst this; rfl

theorem trans_acks {x y : Commit.Sys} (h : Commit.Trans x y) : ∀ a ∈ x.acks, a ∈ y.acks := by
  cases h with
  | step i op ra ord src he => exact fun a ha => List.mem_append_right _ (List.mem_append_right _ ha)
  | crash i op ra ord src k retain sor n he hn => exact fun a ha => ha
  | send i q hi hl hr hc => exact fun a ha => ha

theorem run_acks {V : List Nat} {x y : Commit.Sys} (h : RunV V x y) : ∀ a ∈ x.acks, a ∈ y.acks := by
  induction h with
  | refl => exact fun a ha => ha
  | next y z _ ht _ ih => exact fun a ha => trans_acks ht a (ih a ha)

theorem run_trans {V : List Nat} {x y z : Commit.Sys} (h1 : RunV V x y) (h2 : RunV V y z) : RunV V x z := by
  induction h2 with
  | refl => exact h1
  | next z w _ ht hs ih => exact .next z w ih ht hs

section inv
variable {V : List Nat} {x : Commit.Sys}

/-- no entry of a later term fails to extend a ledger entry -/
theorem not_unsafe (hI : CInv V x) {m : Nat × Nat} (hm : m ∈ x.committed) (u : Nat) : ¬ Unsafe x.T m u := by
  rintro ⟨c, hc, h1, _, h3⟩
  exact h3 (hI.cmt.lc m hm c hc h1)

/-- **whoever acknowledged a ledger entry in the entry's term holds it durably** -/
theorem acker_durHolds (hI : CInv V x) {m : Nat × Nat} (hm : m ∈ x.committed) {a : Ack} (ha : a ∈ x.acks)
    (hat : a.term = m.2) (hanc : Anc x.T m a.key) : DurHolds (x.node a.voter) m :=
  (hI.ack.stable a ha m hat.symm hanc).resolve_right (not_unsafe hI hm _)

theorem durHolds_anc (hI : CInv V x) {v : Nat} {a c : Nat × Nat} (h : Anc x.T a c)
    (hc : DurHolds (x.node v) c) : DurHolds (x.node v) a :=
  ⟨Nat.le_trans h.1 hc.1, log_holds_anc hI v h hc.2⟩

/-- the acknowledging majority of a ledger entry -/
def AckQuorum (V : List Nat) (x : Commit.Sys) (m : Nat × Nat) (Q : List Nat) : Prop :=
  Q.Nodup ∧ (∀ v ∈ Q, v ∈ V) ∧ 2 * Q.length > V.length ∧
    ∀ v ∈ Q, ∃ a ∈ x.acks, a.voter = v ∧ a.term = m.2 ∧ Anc x.T m a.key

theorem ackQuorum_exists (hI : CInv V x) {m : Nat × Nat} (hm : m ∈ x.committed) : ∃ Q, AckQuorum V x m Q :=
  (hI.cmt.quorum m hm).2

theorem AckQuorum.run {y : Commit.Sys} {m : Nat × Nat} {Q : List Nat} (h : AckQuorum V x m Q)
    (hT : ∀ c ∈ x.T, c ∈ y.T) (hA : ∀ a ∈ x.acks, a ∈ y.acks) : AckQuorum V y m Q := by
  obtain ⟨q1, q2, q3, q4⟩ := h
  refine ⟨q1, q2, q3, fun v hv => ?_⟩
  obtain ⟨a, ha, a1, a2, a3⟩ := q4 v hv
  exact ⟨a, hA a ha, a1, a2, a3.mono hT⟩

theorem AckQuorum.durHolds (hI : CInv V x) {m : Nat × Nat} (hm : m ∈ x.committed) {Q : List Nat}
    (h : AckQuorum V x m Q) {v : Nat} (hv : v ∈ Q) : DurHolds (x.node v) m := by
  obtain ⟨a, ha, a1, a2, a3⟩ := h.2.2.2 v hv
  have := acker_durHolds hI hm ha a2 a3
  rwa [a1] at this

end inv

namespace SC
variable {V : List Nat} {x : Commit.Sys} {i : Nat} {op : Op} {ra : List Nat} {ord : List (List Nat)} {src : Nat}

/-- the log on disk at any moment the process may die is a root path of the tree after the completed step -/
theorem disk_path (h : SC V x i op ra ord src) (k : Nat) :
    Path (stepC x i op ra ord src).T (C05.crashDisk (x.node i) op ra ord k).log.entries := by
  have hI := h.inv
  have hE := h.ext
  have hpre : Path (stepC x i op ra ord src).T (x.node i).log.entries := (log_path hI i).mono hE.T
  rcases C02Sys.SC.op_cases op with happ | ⟨q, rfl⟩
  · rcases (h.img k).within happ with w | w
    · exact hpre.prefix w
    · exact h.ppath.prefix w
  · have fi := follower_step (T := x.T) (x.node i) q ra ord (hI.rp.nodes i).1 (hI.rp.nodes i).2
      (C04Sys.enabled_req hI.rp h.en.rp)
    have hd : DiskOK x.T (C05.crashDisk (x.node i) (.append q) ra ord k) :=
      C05.crashDisk_of (D := DiskOK x.T) _ _ ra ord k (diskOK_durable (hI.rp.nodes i).1 (hI.rp.nodes i).2)
        (diskOK_durable fi.nwf fi.chain) fi.tr
    have hp : Path x.T (C05.crashDisk (x.node i) (.append q) ra ord k).log.entries := ⟨hd.2.2.1, hd.2.2.2⟩
    exact Path.mono hE.T hp

/-- a ledger entry that node `i` acknowledged in the entry's term is on disk whenever `i` may die -/
theorem disk_holds (h : SC V x i op ra ord src) (k : Nat) {m : Nat × Nat} (hm : m ∈ x.committed) {a : Ack}
    (ha : a ∈ x.acks) (hv : a.voter = i) (hat : a.term = m.2) (hanc : Anc x.T m a.key) :
    Holds (C05.crashDisk (x.node i) op ra ord k).log.entries m.1 m.2 := by
  have hd := acker_durHolds h.inv hm ha hat hanc
  rw [hv] at hd
  rcases (h.img k).dur a ha hv m hat.symm hd with ⟨_, d⟩ | u
  · exact d
  · exact absurd u (not_unsafe h.inv hm _)

end SC

end DurableRel
end Raft
