/-
Frame facts for the operations that neither compact the log nor touch the snapshots (`Node.StepClosedNC.NCOp`,
Lemmas/StepInvNC.lean): the first index of the log stays what it is — in memory and at every crash point —, it stays
within the flushed part of the log, and the snapshot index and the pending result of the snapshot goroutine are not
touched; and what a crash in a step framed in this way leaves on disk (`disk_of_FR`).
-/
import RaftVerif.Lemmas.StepInvNC
import RaftVerif.Lemmas.Traced

namespace Raft
namespace SnapFrame
open Node

/-- the log starts after index `c`, which is flushed (in memory and at every crash point of the current step); the
snapshot index is `k`, the pending snapshot result is `r` -/
def FR (c k : Nat) (r : Option SnapRes) (s : Node) : Prop :=
  s.log.prev = c ∧ c ≤ s.log.flushed ∧ s.snapIndex = k ∧ s.snapResult = r ∧
  ∀ p ∈ s.trace, p.2.log.prev = c ∧ c ≤ p.2.log.flushed ∧ p.2.log.prev + p.2.log.entries.length ≤ p.2.log.flushed

variable {c k : Nat} {r : Option SnapRes}

theorem durable_len (s : Node) (h : s.log.prev ≤ s.log.flushed) :
    s.durable.log.prev + s.durable.log.entries.length ≤ s.durable.log.flushed := by
  show s.log.prev + (s.log.entries.take (s.log.flushed - s.log.prev)).length ≤ s.log.flushed
  rw [List.length_take]
  omega

/-- an update that leaves the log and the snapshot fields alone, whatever it records (Lemmas/Traced.lean) -/
theorem FR.rec {s s' : Node} (h : FR c k r s) (e1 : s'.log = s.log) (e2 : s'.snapIndex = s.snapIndex)
    (e3 : s'.snapResult = s.snapResult) (hr : Rec s s') : FR c k r s' :=
  have h1 : s'.log.prev = c := e1 ▸ h.1
  have h2 : c ≤ s'.log.flushed := e1 ▸ h.2.1
  ⟨h1, h2, e2 ▸ h.2.2.1, e3 ▸ h.2.2.2.1,
    Traced.step h.2.2.2.2 hr fun _ => ⟨h1, h2, durable_len s' (by rw [h1]; exact h2)⟩⟩

theorem FR_closed (c k : Nat) (hck : c ≤ k) (r : Option SnapRes) : StepClosedNC (FR c k r) where
  panic := fun s site h => by rw [Node.panic_shape]; exact h
  reply := fun s t r h => by rw [Node.reply_shape]; exact h
  point := fun s name h => h.rec rfl rfl rfl (rec_point s name)
  ldr := fun s l h => h
  append := fun s e roll h => by
    refine ⟨?_, ?_, h.2.2.1, h.2.2.2.1, h.2.2.2.2⟩
    · show (s.log.append e roll).prev = c
      unfold NLog.append; split <;> exact h.1
    · show c ≤ (s.log.append e roll).flushed
      unfold NLog.append
      split
      · show c ≤ s.log.last
        unfold NLog.last; rw [h.1]; exact Nat.le_add_right _ _
      · exact h.2.1
  commitN := fun s n h => by
    refine ⟨?_, ?_, h.2.2.1, h.2.2.2.1, h.2.2.2.2⟩
    · show (s.log.commitN n).prev = c
      unfold NLog.commitN; split <;> exact h.1
    · show c ≤ (s.log.commitN n).flushed
      unfold NLog.commitN
      split
      · show c ≤ s.log.last
        unfold NLog.last; rw [h.1]; exact Nat.le_add_right _ _
      · exact h.2.1
  fsm := fun s f h => h
  changeConfigR := fun s c h => by rw [Node.changeConfigR_shape]; exact h
  setCommitIndexR := fun s i h _ => by rw [Node.setCommitIndexR_shape]; exact h
  popOrder := fun s h => h
  begin := fun s ra ord h => ⟨h.1, h.2.1, h.2.2.1, h.2.2.2.1, fun p hp => by cases hp⟩
  rpcReply := fun s r h => h
  ret := fun s r h => h
  setRole := fun s r h => h
  setLeader := fun s l h => h
  doClose := fun s r h => by rw [Node.doClose_shape]; exact h
  setTerm := fun s t h => by
    refine h.rec ?_ ?_ ?_ (rec_setTerm s t) <;> rw [Node.setTerm_shape]
  voteNewTerm := fun s t c h _ => by
    refine h.rec ?_ ?_ ?_ (rec_setVotedFor s t c) <;> rw [Node.setVotedFor_shape]
  voteGrant := fun s c h _ => by
    refine h.rec ?_ ?_ ?_ (rec_setVotedFor s _ c) <;> rw [Node.setVotedFor_shape]
  votesNeeded := fun s v h => h
  candTransfer := fun s v h => h
  removeGTE := fun s i pt h hi => by
    refine ⟨h.1, ?_, h.2.2.1, h.2.2.2.1, h.2.2.2.2⟩
    show c ≤ i - 1
    have : s.snapIndex = k := h.2.2.1
    omega
  revertConfig := fun s h => h
  commitConfig := fun s h => by rw [Node.commitConfig_shape]; exact h
  snapPending := fun s v h => h
  bootstrapLast := fun s i t h => h

theorem step_frame (s : Node) (op : Op) (ra : List Nat) (ord : List (List Nat)) (hop : StepClosedNC.NCOp op)
    (h1 : s.log.prev ≤ s.snapIndex) (h2 : s.log.prev ≤ s.log.flushed) :
    FR s.log.prev s.snapIndex s.snapResult (s.step op ra ord) := by
  have h0 : FR s.log.prev s.snapIndex s.snapResult (s.begin ra ord) := ⟨rfl, h2, rfl, rfl, fun p hp => by cases hp⟩
  have e : s.step op ra ord = (s.begin ra ord).step op ra ord := rfl
  rw [e]
  exact (FR_closed s.log.prev s.snapIndex h1 s.snapResult).step_inv (s.begin ra ord) op ra ord hop h0

theorem disk_of_FR {s z : Node} {k : Nat} {r : Option SnapRes} (fr : FR s.log.prev k r z)
    (hfl : s.log.prev ≤ s.log.flushed) {d : Durable}
    (hd : d = s.durable ∨ (∃ p ∈ z.trace, d = p.2) ∨ d = z.durable) :
    d.log.prev = s.log.prev ∧ d.log.prev + d.log.entries.length ≤ d.log.flushed := by
  rcases hd with e | ⟨p, hpt, e⟩ | e
  · rw [e]; exact ⟨rfl, durable_len _ hfl⟩
  · rw [e]
    have := fr.2.2.2.2 p hpt
    exact ⟨this.1, this.2.2⟩
  · rw [e]; exact ⟨fr.1, durable_len _ (by rw [fr.1]; exact fr.2.1)⟩

end SnapFrame
end Raft
