/-
Un-compaction, continued (Lemmas/SnapRelU.lean, SnapRelU2.lean): append requests. The handler reads the log only above
the snapshot index; it commutes with `W g β` when the log starts at or below the snapshot index, `g` keeps the last
segment boundary and commutes with the cut `RemoveGTE` makes where an entry is stored (`AppendOK g C`, `append_step_W`).
For `U β` (`g = uncG`) the cut has to stay strictly above `log.prev` at a segment boundary unless the log starts at 0
(`AOK`, `append_step_U`); the side conditions of Lemmas/SnapInstU.lean and SnapInstV.lean are two more instances.
The consistency check (`checkBody_comm`), the loop (`SnapRel.appendLoop_comm`) and what follows it (`SnapRel.afterLoop_comm`)
commute with any map `F` of nodes that commutes with their parts.
-/
import RaftVerif.Lemmas.SnapRelU2
import RaftVerif.Lemmas.SnapRelA
namespace Raft
namespace SnapRelU
open Node SnapRelP SnapRel
variable {g : Nat → List Nat → List Nat} {β : List Entry}

def AOK (s : Node) : Prop := s.log.prev = 0 ∨ (s.log.prev < s.snapIndex ∧ s.log.prev ∈ s.log.segs)

theorem W_get? (s : Node) (i : Nat) (h : s.log.prev < i) : (W g β s).log.get? i = s.log.get? i := by
  unfold NLog.get?
  rw [if_pos h]
  show (if 0 < i then (pad β s.log.prev ++ s.log.entries)[i - 0 - 1]? else none) = _
  rw [if_pos (by omega), List.getElem?_append_right (by rw [pad_length]; omega), pad_length]
  congr 1
  omega

theorem U_get? (s : Node) (i : Nat) (h : s.log.prev < i) : (U β s).log.get? i = s.log.get? i := W_get? (g := uncG) s i h

theorem W_entryTerm? (s : Node) (i : Nat) (h : s.log.prev < i) : (W g β s).entryTerm? i = s.entryTerm? i := by
  unfold Node.entryTerm?
  rw [W_get? s i h]

theorem U_entryTerm? (s : Node) (i : Nat) (h : s.log.prev < i) : (U β s).entryTerm? i = s.entryTerm? i :=
  W_entryTerm? (g := uncG) s i h

/-- `g` commutes with what `RemoveGTE(i)` does to the segment list of `l` -/
def KeepsCut (g : Nat → List Nat → List Nat) (l : NLog) (i : Nat) : Prop :=
  (if ((g l.prev l.segs).filter (· < i - 1)).isEmpty then [i - 1] else (g l.prev l.segs).filter (· < i - 1)) =
    g l.prev (if (l.segs.filter (· < i - 1)).isEmpty then [i - 1] else l.segs.filter (· < i - 1))

theorem wLog_removeGTE (l : NLog) (i : Nat) (h : l.prev ≤ i - 1) (hc : KeepsCut g l i) :
    (wLog g β l).removeGTE i = wLog g β (l.removeGTE i) := by
  unfold NLog.removeGTE wLog
  dsimp only
  have e1 : (pad β l.prev ++ l.entries).take (i - 1 - 0) = pad β l.prev ++ l.entries.take (i - 1 - l.prev) := by
    rw [Nat.sub_zero, List.take_append, pad_length, List.take_of_length_le (by rw [pad_length]; exact h)]
  unfold KeepsCut at hc
  rw [e1, hc]

/-- `uncSegs` puts `prev` in front: the cut keeps it when it stays below the cut and heads a segment -/
theorem uncG_keepsCut (l : NLog) (i : Nat) (h : l.prev = 0 ∨ (l.prev < i - 1 ∧ l.prev ∈ l.segs)) : KeepsCut uncG l i := by
  unfold KeepsCut uncG
  by_cases h0 : l.prev = 0
  · simp only [h0, if_true]
  · obtain ⟨h1, h2⟩ := h.resolve_left h0
    simp only [if_neg h0]
    have e2 : List.filter (fun x => decide (x < i - 1)) (l.prev :: l.segs) =
        l.prev :: List.filter (fun x => decide (x < i - 1)) l.segs := by
      rw [List.filter_cons_of_pos (by simpa using h1)]
    have e3 : (List.filter (fun x => decide (x < i - 1)) l.segs).isEmpty = false := by
      rw [List.isEmpty_eq_false_iff]
      intro hc
      have : l.prev ∈ List.filter (fun x => decide (x < i - 1)) l.segs := List.mem_filter.mpr ⟨h2, by simpa using h1⟩
      rw [hc] at this; cases this
    rw [e2, e3]
    simp only [List.isEmpty_cons, Bool.false_eq_true, if_false]

theorem W_removeGTE (s : Node) (i pt : Nat) (h : s.log.prev ≤ i - 1) (hc : KeepsCut g s.log i) :
    (W g β s).removeGTE i pt = W g β (s.removeGTE i pt) := by
  unfold Node.removeGTE
  show ({ W g β s with log := (wLog g β s.log).removeGTE i, lastLogIndex := i - 1, lastLogTerm := pt } : Node).point _ = _
  rw [wLog_removeGTE _ _ h hc]
  show (W g β { s with log := s.log.removeGTE i, lastLogIndex := i - 1, lastLogTerm := pt }).point _ = _
  rw [W_point]

theorem W_resolveConflict (s : Node) (ne : Entry) (pt : Nat) (hlt : s.log.prev < ne.index)
    (hc : ne.index ≤ s.lastLogIndex → KeepsCut g s.log ne.index) :
    (W g β s).resolveConflict ne pt = W g β (s.resolveConflict ne pt) := by
  unfold Node.resolveConflict
  rw [W_entryTerm? s ne.index hlt]
  show (if ne.index ≤ s.lastLogIndex then _ else _) = _
  split
  · rename_i hle
    cases s.entryTerm? ne.index with
    | none => exact W_panic s _
    | some t =>
      dsimp only
      rw [W_removeGTE s ne.index pt (by omega) (hc hle)]
      show (if ne.index ≤ (s.removeGTE ne.index pt).configs.latest.index then _ else _) = _
      split <;> rfl
  · rfl

/-- What the side conditions of the append handler read, from `s` to `s'`: first index and snapshot index stay, the
segment list stays non-empty and — where `cut` holds — keeps `log.prev`. -/
structure SegFrame (cut : Prop) (s s' : Node) : Prop where
  prev : s'.log.prev = s.log.prev
  snap : s'.snapIndex = s.snapIndex
  ne : s.log.segs ≠ [] → s'.log.segs ≠ []
  mem : cut → s.log.prev ∈ s.log.segs → s.log.prev ∈ s'.log.segs

theorem SegFrame.of_log {cut : Prop} {s s' : Node} (e1 : s'.log = s.log) (e2 : s'.snapIndex = s.snapIndex) :
    SegFrame cut s s' :=
  ⟨by rw [e1], e2, fun h => by rw [e1]; exact h, fun _ h => by rw [e1]; exact h⟩

theorem SegFrame.trans {c1 c2 : Prop} {a b c : Node} (h1 : SegFrame c1 a b) (h2 : SegFrame c2 b c) :
    SegFrame (c1 ∧ c2) a c :=
  ⟨h2.prev.trans h1.prev, h2.snap.trans h1.snap, fun h => h2.ne (h1.ne h),
    fun hc h => h1.prev ▸ h2.mem hc.2 (h1.prev ▸ h1.mem hc.1 h)⟩

theorem SegFrame.panic {cut : Prop} (s : Node) (site : String) : SegFrame cut s (s.panic site) :=
  .of_log (lobs_panic s site) (snapIndex_panic s site)

/-- `RemoveGTE(i)` keeps `prev` in the segment list when it cuts above it (or at it, when the log starts at 0) -/
theorem removeGTE_segs (l : NLog) (i : Nat) :
    (l.removeGTE i).segs ≠ [] ∧
    (l.prev = 0 ∨ l.prev < i - 1 → l.prev ∈ l.segs → l.prev ∈ (l.removeGTE i).segs) := by
  unfold NLog.removeGTE
  dsimp only
  by_cases hk : (List.filter (fun x => decide (x < i - 1)) l.segs).isEmpty = true
  · rw [if_pos hk]
    refine ⟨List.cons_ne_nil _ _, fun hcut h => ?_⟩
    by_cases h2 : l.prev < i - 1
    · have hm : l.prev ∈ List.filter (fun x => decide (x < i - 1)) l.segs := List.mem_filter.mpr ⟨h, by simpa using h2⟩
      rw [List.isEmpty_iff.mp hk] at hm; cases hm
    · rw [show i - 1 = l.prev by omega]; exact List.mem_singleton.mpr rfl
  · rw [if_neg hk]
    refine ⟨fun hc => hk (by rw [hc]; rfl), fun hcut h => ?_⟩
    by_cases h2 : l.prev < i - 1
    · exact List.mem_filter.mpr ⟨h, by simpa using h2⟩
    · -- `prev = 0` and the cut is at 0: nothing is below it
      exfalso
      apply hk
      rw [show i - 1 = 0 by omega, List.isEmpty_iff]
      exact List.filter_eq_nil_iff.mpr (fun a _ => by simp)

theorem SegFrame.resolveConflict (s : Node) (ne : Entry) (pt : Nat) :
    SegFrame (ne.index ≤ s.lastLogIndex → s.log.prev = 0 ∨ s.log.prev < ne.index - 1) s (s.resolveConflict ne pt) := by
  unfold Node.resolveConflict
  split
  · rename_i hle
    split
    · exact .panic s _
    · dsimp only
      have key : SegFrame (ne.index ≤ s.lastLogIndex → s.log.prev = 0 ∨ s.log.prev < ne.index - 1) s
          (s.removeGTE ne.index pt) :=
        ⟨rfl, rfl, fun _ => (removeGTE_segs s.log ne.index).1, fun hc => (removeGTE_segs s.log ne.index).2 (hc hle)⟩
      split
      · exact ⟨key.prev, key.snap, key.ne, key.mem⟩
      · exact key
  · exact .of_log rfl rfl

theorem SegFrame.appendEntry (s : Node) (e : Entry) : SegFrame True s (s.appendEntry e) := by
  rw [appendEntry_eq]
  have h1 : SegFrame True s (s.assert (e.index == s.lastLogIndex + 1) "assert.appendEntry") := by
    unfold Node.assert
    split
    · exact .of_log rfl rfl
    · exact .panic s _
  generalize s.assert (e.index == s.lastLogIndex + 1) "assert.appendEntry" = s1 at h1
  have h2 : SegFrame True s1 (appendRaw s1 e) := by
    unfold appendRaw
    refine ⟨?_, rfl, fun h => ?_, fun _ h => ?_⟩
    · show (s1.log.append e _).prev = _
      unfold NLog.append; split <;> rfl
    · show (s1.log.append e _).segs ≠ []
      unfold NLog.append
      split
      · exact fun hc => h (List.append_eq_nil_iff.mp hc).1
      · exact h
    · show s1.log.prev ∈ (s1.log.append e _).segs
      unfold NLog.append
      split
      · exact List.mem_append_left _ h
      · exact h
  exact ⟨(h1.trans h2).prev, (h1.trans h2).snap, (h1.trans h2).ne, fun _ => (h1.trans h2).mem ⟨trivial, trivial⟩⟩

theorem SegFrame.changeConfigR (s : Node) (c : Config) : SegFrame True s (s.changeConfigR c) := by
  rw [Node.changeConfigR_shape]
  exact .of_log rfl rfl

theorem AOK.frame {cut : Prop} {s s' : Node} (h : AOK s) (f : SegFrame cut s s') (hc : cut) : AOK s' := by
  unfold AOK at h ⊢
  rw [f.prev, f.snap]
  exact h.imp id (fun h => ⟨h.1, f.mem hc h.2⟩)

theorem checkBody_far (s : Node) (q : AppendReq) (h1 : q.prevLogIndex > s.lastLogIndex) :
    checkBody s q = s.ret rPrevEntryNotFound := by
  unfold checkBody; rw [if_pos h1]

/-- the check when the log answers for the previous entry: `t` is the term it holds at `prevLogIndex` -/
theorem checkBody_held (s : Node) (q : AppendReq) (t : Nat) (h1 : ¬ q.prevLogIndex > s.lastLogIndex)
    (ht : (q.prevLogIndex = s.lastLogIndex ∧ s.lastLogTerm = t) ∨
      (q.prevLogIndex ≠ s.lastLogIndex ∧ s.entryTerm? q.prevLogIndex = some t)) :
    checkBody s q =
      if q.prevLogTerm ≠ t then s.ret rPrevTermMismatch
      else if s.canCommit q q.prevLogIndex q.prevLogTerm then
        ((s.setCommitIndexR q.prevLogIndex).1.applyCommitted).ret 0
      else s.ret 0 := by
  unfold checkBody
  rw [if_neg h1]
  rcases ht with ⟨h2, h3⟩ | ⟨h2, h3⟩
  · simp only [if_pos h2, h3]
  · simp only [if_neg h2, h3, Option.getD_some]

/-- … and when it does not: `mustGetEntry` panics -/
theorem checkBody_missing (s : Node) (q : AppendReq) (h1 : ¬ q.prevLogIndex > s.lastLogIndex)
    (h2 : q.prevLogIndex ≠ s.lastLogIndex) (h3 : s.entryTerm? q.prevLogIndex = none) :
    (checkBody s q).panicked ≠ none := by
  intro hp
  unfold checkBody at hp
  simp only [if_neg h1, if_neg h2, h3] at hp
  have : (s.panic "bug.mustGetEntry").panicked = none := by npk_core hp
  exact absurd this (panic_panicked_ne _ _)

/-- **the consistency check commutes with a map `F` of nodes** that leaves alone what the check reads of the node and
commutes with what it does to it — for the application of newly committed entries only when that does not panic -/
theorem checkBody_comm (F : Node → Node) (s : Node) (q : AppendReq)
    (hli : (F s).lastLogIndex = s.lastLogIndex) (hlt : (F s).lastLogTerm = s.lastLogTerm)
    (het : (F s).entryTerm? q.prevLogIndex = s.entryTerm? q.prevLogIndex)
    (hcan : (F s).canCommit q q.prevLogIndex q.prevLogTerm = s.canCommit q q.prevLogIndex q.prevLogTerm)
    (hret : ∀ r, (F s).ret r = F (s.ret r))
    (hcommit : (s.setCommitIndexR q.prevLogIndex).1.applyCommitted.panicked = none →
      (((F s).setCommitIndexR q.prevLogIndex).1.applyCommitted).ret 0 =
        F (((s.setCommitIndexR q.prevLogIndex).1.applyCommitted).ret 0))
    (hp : (checkBody s q).panicked = none) : checkBody (F s) q = F (checkBody s q) := by
  by_cases h1 : q.prevLogIndex > s.lastLogIndex
  · rw [checkBody_far (F s) q (by rw [hli]; exact h1), checkBody_far s q h1]
    exact hret _
  · obtain ⟨t, ht⟩ : ∃ t, (q.prevLogIndex = s.lastLogIndex ∧ s.lastLogTerm = t) ∨
        (q.prevLogIndex ≠ s.lastLogIndex ∧ s.entryTerm? q.prevLogIndex = some t) := by
      by_cases h2 : q.prevLogIndex = s.lastLogIndex
      · exact ⟨_, Or.inl ⟨h2, rfl⟩⟩
      · cases h3 : s.entryTerm? q.prevLogIndex with
        | none => exact absurd hp (checkBody_missing s q h1 h2 h3)
        | some t => exact ⟨t, Or.inr ⟨h2, rfl⟩⟩
    rw [checkBody_held s q t h1 ht] at hp ⊢
    rw [checkBody_held (F s) q t (by rw [hli]; exact h1) (by rw [hli, hlt, het]; exact ht), hcan]
    by_cases c1 : q.prevLogTerm ≠ t
    · rw [if_pos c1, if_pos c1]; exact hret _
    · rw [if_neg c1] at hp ⊢
      rw [if_neg c1]
      by_cases c2 : s.canCommit q q.prevLogIndex q.prevLogTerm = true
      · rw [if_pos c2] at hp ⊢
        rw [if_pos c2]
        have ret_panicked : ∀ (x : Node) (r : Nat), (x.ret r).panicked = x.panicked := fun _ _ => rfl
        rw [ret_panicked] at hp
        exact hcommit hp
      · rw [if_neg c2, if_neg c2]; exact hret _

theorem appendLoop_sticky (es : List Entry) (st : AppLoop) (h : (appendLoop st es).s.panicked = none) :
    st.s.panicked = none := by
  refine npk (k := fun x => (appendLoop { st with s := x } es).s) (fun π x => ?_) h
  show (appendLoop (Pl π { st with s := x }) es).s = _
  rw [P_appendLoop]; rfl

/-- What the handler of append requests needs of the segment map `g` and of a side condition `C s es` (on the node and
on the entries of the request still to come) to commute with `W g β`: the log starts at or below the snapshot index, `g`
keeps the last segment boundary, `C` reads only log, last index and snapshot index, and the loop maintains it — where
an entry is stored, `g` commutes with the cut `RemoveGTE` makes. -/
structure AppendOK (g : Nat → List Nat → List Nat) (C : Node → List Entry → Prop) : Prop where
  snoc : Snoc g
  nil : ∀ s es, C s es → C s []
  next : ∀ s ne rest, C s (ne :: rest) → C s rest
  prev : ∀ s es, C s es → s.log.prev ≤ s.snapIndex
  last : ∀ s es, C s es → KeepsLast g s.log
  congr : ∀ s s' es, C s es → s'.log = s.log → s'.lastLogIndex = s.lastLogIndex → s'.snapIndex = s.snapIndex → C s' es
  store : ∀ s ne rest pt, C s (ne :: rest) → s.snapIndex < ne.index → ¬ pres s ne = true →
    (ne.index ≤ s.lastLogIndex → KeepsCut g s.log ne.index) ∧ KeepsLast g (s.resolveConflict ne pt).log ∧
    C ((s.resolveConflict ne pt).appendEntry ne) rest
  cc : ∀ s c rest, C s rest → C (s.changeConfigR c) rest

variable {C : Node → List Entry → Prop}

theorem appendLoop_W (A : AppendOK g C) (es : List Entry) (st : AppLoop) (hc : C st.s es) :
    appendLoop { st with s := W g β st.s } es = { appendLoop st es with s := W g β (appendLoop st es).s } ∧
    C (appendLoop st es).s [] :=
  appendLoop_comm (W g β) C A.nil A.next (fun _ _ _ _ h => Or.inl h)
    (fun s ne rest hc hi => ⟨hi, by
      unfold pres; rw [W_entryTerm? s ne.index (by have := A.prev _ _ hc; omega)]; rfl⟩)
    (fun s ne rest pt hc hi hp => by
      obtain ⟨a, b, c⟩ := A.store s ne rest pt hc hi hp
      exact ⟨by rw [W_resolveConflict _ _ _ (by have := A.prev _ _ hc; omega) a, W_appendEntry A.snoc _ _ b], c⟩)
    (fun s c rest hc => ⟨W_changeConfigR s c, A.cc s c rest hc⟩) es st hc

theorem appendCheck_W (s : Node) (q : AppendReq) (hle : s.log.prev ≤ s.snapIndex)
    (hp : (s.appendCheck q).panicked = none) : (W g β s).appendCheck q = W g β (s.appendCheck q) := by
  rw [appendCheck_eq] at hp ⊢
  rw [appendCheck_eq]
  show (if q.prevLogIndex > s.snapIndex then _ else _) = _
  split
  · rename_i h
    rw [if_pos h] at hp
    exact checkBody_comm (W g β) s q rfl rfl (W_entryTerm? s _ (by omega)) rfl (fun _ => rfl)
      (fun h => by rw [W_setCommitIndexR_1, W_applyCommitted _ h, W_ret]) hp
  · rfl

theorem onAppendEntries_W (A : AppendOK g C) (s : Node) (q : AppendReq) (hc : ¬ q.term < s.term → C s q.entries)
    (hp : (s.onAppendEntries q).panicked = none) : (W g β s).onAppendEntries q = W g β (s.onAppendEntries q) := by
  have eh : followPre (W g β s) q.term q.src = W g β (followPre s q.term q.src) := by
    unfold followPre
    have hp' : True := trivial
    ucomm hp'
  by_cases hst : q.term < s.term
  · exact onAppendEntries_comm (W g β) s q rfl rfl eh (fun h => absurd hst h) (fun h => absurd hst h)
  rw [onAppendEntries_stages, if_neg hst] at hp
  obtain ⟨c1, c2, c3⟩ := aobs_check s q
  have h2 : C ((followPre s q.term q.src).appendCheck q) q.entries := A.congr _ _ _ (hc hst) c1 c2 c3
  have hck : ((followPre s q.term q.src).appendCheck q).panicked = none :=
    npk (k := fun x => afterCheck q x) (fun π x => (fail π).on_afterCheck q x rfl) hp
  refine onAppendEntries_comm (W g β) s q rfl rfl eh (fun _ => ?_) (fun _ => ?_)
  · have ea := aobs_followPre s q.term q.src
    unfold aobs at ea
    simp only [Prod.mk.injEq] at ea
    exact appendCheck_W _ q (by rw [ea.1, ea.2.2.2.2, ← c1, ← c3]; exact A.prev _ _ h2) hck
  · generalize (followPre s q.term q.src).appendCheck q = x at h2 hp ⊢
    obtain ⟨hl, hk⟩ := appendLoop_W (β := β) A q.entries ⟨x, q.prevLogIndex, q.prevLogTerm, false, false⟩ h2
    refine afterCheck_comm (W g β) q x _ rfl rfl (fun _ => hl) (fun h0 => ?_)
    rw [if_neg (fun h => h h0)] at hp
    generalize appendLoop ⟨x, q.prevLogIndex, q.prevLogTerm, false, false⟩ q.entries = st at hp hk ⊢
    refine afterLoop_comm (W g β) q st rfl (fun n => W_commitLog _ n (A.last _ _ hk)) (fun _ _ _ => rfl) (fun _ _ => rfl)
      (fun hc h2 => ?_)
    unfold afterLoop at hp
    rw [if_pos hc, if_pos h2, show ∀ (y : Node) (r : Nat), (y.ret r).panicked = y.panicked from fun _ _ => rfl] at hp
    rw [W_setCommitIndexR_1, W_applyCommitted _ hp]

theorem append_step_W (A : AppendOK g C) (s : Node) (q : AppendReq) (ra : List Nat) (ord : List (List Nat))
    (hc : ¬ q.term < s.term → C s q.entries) (hp : (s.step (.append q) ra ord).panicked = none) :
    (W g β s).step (.append q) ra ord = W g β (s.step (.append q) ra ord) := by
  have hp' : (settle 6 (((s.begin ra ord).onAppendEntries q).rpcDone false true) (s.begin ra ord).role).panicked = none := hp
  show settle 6 ((((W g β s).begin ra ord).onAppendEntries q).rpcDone false true) ((W g β s).begin ra ord).role =
    W g β (settle 6 (((s.begin ra ord).onAppendEntries q).rpcDone false true) (s.begin ra ord).role)
  have h1 : ((s.begin ra ord).onAppendEntries q).panicked = none := by npk_core hp'
  have hb : ¬ q.term < (s.begin ra ord).term → C (s.begin ra ord) q.entries := fun h => A.congr _ _ _ (hc h) rfl rfl rfl
  -- after the handler the role is the old one or follower: `settle` does nothing, or releases the old role
  have hr : (((s.begin ra ord).onAppendEntries q).rpcDone false true).role = (s.begin ra ord).role ∨
      (((s.begin ra ord).onAppendEntries q).rpcDone false true).role = .follower := by
    rw [(Node.SameKey.rpcDone _ _ _).role]
    by_cases hst : q.term < (s.begin ra ord).term
    · left
      rw [C04.stale_append_refused _ q hst]; rfl
    · exact Or.inr (LogRel.onAppendEntries_role _ q hst)
  rw [W_begin, onAppendEntries_W A _ q hb h1, W_rpcDone]
  show settle 6 (W g β (((s.begin ra ord).onAppendEntries q).rpcDone false true)) (s.begin ra ord).role = _
  generalize ((s.begin ra ord).onAppendEntries q).rpcDone false true = h at hp' hr ⊢
  generalize (s.begin ra ord).role = cur at hp' hr ⊢
  have same : h.role = cur → settle 6 (W g β h) cur = W g β (settle 6 h cur) := by
    intro hrole
    have e1 : settle 6 h cur = h := settle_of_role hrole
    have e2 : settle 6 (W g β h) cur = W g β h := settle_of_role (show (W g β h).role = cur from hrole)
    rw [e1, e2]
  rcases hr with hrole | hf
  · exact same hrole
  · by_cases hrole : h.role = cur
    · exact same hrole
    · have hne : h.role ≠ cur := hrole
      have hne' : (W g β h).role ≠ cur := hrole
      have e1 : settle 6 h cur = h.releaseRole cur := by
        cases Node.settle_shape 3 h cur hne with
        | follower _ e => exact e
        | leader x r _ _ => rw [hf] at r; cases r
        | cand r _ _ => rw [hf] at r; cases r
        | candLeader x r _ _ _ => rw [hf] at r; cases r
      have hf' : (W g β h).role = .follower := hf
      have e2 : settle 6 (W g β h) cur = (W g β h).releaseRole cur := by
        cases Node.settle_shape 3 (W g β h) cur hne' with
        | follower _ e => exact e
        | leader x r _ _ => rw [hf'] at r; cases r
        | cand r _ _ => rw [hf'] at r; cases r
        | candLeader x r _ _ _ => rw [hf'] at r; cases r
      rw [e1, e2, W_releaseRole]

theorem aok_appendOK : AppendOK uncG (fun s _ => AOK s) where
  snoc := uncG_snoc
  nil := fun _ _ h => h
  next := fun _ _ _ h => h
  prev := fun s _ h => by rcases h with h | h <;> omega
  last := fun s _ _ => uncG_keepsLast _
  congr := fun s s' _ h e1 _ e3 => h.frame (cut := True) (.of_log e1 e3) trivial
  store := fun s ne _ pt ha hi _ =>
    ⟨fun _ => uncG_keepsCut _ _ (ha.imp id (fun h => ⟨by omega, h.2⟩)), uncG_keepsLast _,
      ha.frame ((SegFrame.resolveConflict s ne pt).trans (.appendEntry _ ne))
        ⟨fun _ => by rcases ha with h | h <;> omega, trivial⟩⟩
  cc := fun s c _ ha => ha.frame (.changeConfigR s c) trivial

theorem append_step_U (s : Node) (q : AppendReq) (ra : List Nat) (ord : List (List Nat)) (ha : AOK s)
    (hp : (s.step (.append q) ra ord).panicked = none) :
    (U β s).step (.append q) ra ord = U β (s.step (.append q) ra ord) :=
  append_step_W aok_appendOK s q ra ord (fun _ => ha) hp

end SnapRelU
end Raft
