/-
What the operations of `Model/Log.lean` do to the fields of an `NLog` and to `get?`, one statement each; before them, the
facts about lists that several files need.
-/
import RaftVerif.Model.Log

namespace Raft

theorem take_le_congr {α : Type} {l l' : List α} {n m : Nat} (h : l'.take n = l.take n) (hm : m ≤ n) :
    l'.take m = l.take m := by
  have e : m = min m n := by omega
  rw [e, ← List.take_take, ← List.take_take, h]

theorem getElem?_of_take_eq {α : Type} {l l' : List α} {n : Nat} (h : l.take n = l'.take n) {j : Nat} (hj : j < n) :
    l[j]? = l'[j]? := by
  have := congrArg (fun l => l[j]?) h
  simp only [List.getElem?_take] at this
  rw [if_pos hj, if_pos hj] at this
  exact this

/-- a list that agrees with another at each of its positions is a prefix of it -/
theorem prefix_of_agree {α : Type} {p p' : List α}
    (h : ∀ j, 1 ≤ j → j ≤ p.length → p[j - 1]? = p'[j - 1]?) : p <+: p' := by
  rw [List.prefix_iff_eq_take]
  apply List.ext_getElem?
  intro k
  rw [List.getElem?_take]
  split
  · rename_i hk
    have := h (k + 1) (by omega) (by omega)
    rw [Nat.add_sub_cancel] at this
    exact this
  · rename_i hk
    exact List.getElem?_eq_none (by omega)

theorem length_ge_two_of_mem {α : Type} {l : List α} {a b : α} (ha : a ∈ l) (hb : b ∈ l) (hne : a ≠ b) :
    2 ≤ l.length := by
  match l with
  | [] => cases ha
  | [x] =>
    rw [List.mem_singleton] at ha hb
    exact absurd (ha.trans hb.symm) hne
  | _ :: _ :: _ => simp

theorem length_le_one_of_all_eq {α : Type} {a : α} : ∀ {l : List α}, l.Nodup → (∀ x ∈ l, x = a) → l.length ≤ 1
  | [], _, _ => Nat.zero_le _
  | [_], _, _ => Nat.le_refl _
  | x :: y :: l, hn, h => by
    have hx := h x (List.mem_cons_self ..)
    have hy := h y (List.mem_cons_of_mem _ (List.mem_cons_self ..))
    have := (List.nodup_cons.mp hn).1
    exact absurd (List.mem_cons_self ..) (by rw [hx, ← hy] at this; exact this)

/-- where `p` holds, `f` tells the members of `l` apart if it takes no value twice there -/
theorem nodup_map_inj {α β : Type} (p : α → Bool) (f : α → β) : ∀ (l : List α), ((l.filter p).map f).Nodup →
    ∀ a ∈ l, ∀ a' ∈ l, p a = true → p a' = true → f a = f a' → a = a' := by
  intro l
  induction l with
  | nil => intro _ a ha; cases ha
  | cons x xs ih =>
    intro hn a ha a' ha' hp hp' hf
    have hmem : ∀ z ∈ xs, p z = true → f z ∈ (xs.filter p).map f := fun z hz hpz =>
      List.mem_map.mpr ⟨z, List.mem_filter.mpr ⟨hz, hpz⟩, rfl⟩
    by_cases hx : p x = true
    · rw [List.filter_cons_of_pos hx, List.map_cons, List.nodup_cons] at hn
      rcases List.mem_cons.mp ha with ha | ha <;> rcases List.mem_cons.mp ha' with ha' | ha'
      · rw [ha, ha']
      · exfalso; apply hn.1; rw [← ha, hf]; exact hmem a' ha' hp'
      · exfalso; apply hn.1; rw [← ha', ← hf]; exact hmem a ha hp
      · exact ih hn.2 a ha a' ha' hp hp' hf
    · rw [List.filter_cons_of_neg hx] at hn
      rcases List.mem_cons.mp ha with ha | ha
      · rw [ha] at hp; exact absurd hp hx
      · rcases List.mem_cons.mp ha' with ha' | ha'
        · rw [ha'] at hp'; exact absurd hp' hx
        · exact ih hn a ha a' ha' hp hp' hf

namespace Entry

/-- `Config.decode`: only a configuration entry with a payload decodes, to a configuration with the entry's index and term -/
theorem config?_facts {e : Entry} {c : Config} (h : e.config? = some c) :
    e.typ = etConfig ∧ c.index = e.index ∧ c.term = e.term ∧ e.cfg.isSome = true := by
  unfold Entry.config? at h
  split at h
  · rename_i ht
    cases hc : e.cfg with
    | none => rw [hc] at h; cases h
    | some c0 =>
      rw [hc] at h
      injection h with h
      subst h
      exact ⟨ht, rfl, rfl, rfl⟩
  · cases h

theorem config?_none_of_typ {e : Entry} (h : ¬ e.typ = etConfig) : e.config? = none := by
  unfold Entry.config?; rw [if_neg h]

theorem config?_of_cfg {e : Entry} {c : Config} (ht : e.typ = etConfig) (hc : e.cfg = some c) :
    e.config? = some { c with index := e.index, term := e.term } := by
  unfold Entry.config?; rw [if_pos ht, hc]; rfl

theorem config?_isSome {e : Entry} (ht : e.typ = etConfig) (hc : e.cfg.isSome = true) : e.config?.isSome = true := by
  obtain ⟨c, hc⟩ := Option.isSome_iff_exists.mp hc
  rw [config?_of_cfg ht hc]; rfl

end Entry

namespace NLog

theorem append_parts (l : NLog) (e : Entry) (roll : Bool) :
    (l.append e roll).prev = l.prev ∧ (l.append e roll).entries = l.entries ++ [e] := by
  unfold NLog.append; split <;> exact ⟨rfl, rfl⟩

theorem last_append (l : NLog) (e : Entry) (roll : Bool) : (l.append e roll).last = l.last + 1 := by
  unfold NLog.last
  rw [(append_parts l e roll).1, (append_parts l e roll).2, List.length_append, List.length_singleton, Nat.add_assoc]

/-- `append` keeps every entry the log holds -/
theorem get?_append (l : NLog) (e : Entry) (roll : Bool) (i : Nat) (h : i ≤ l.last) :
    (l.append e roll).get? i = l.get? i := by
  unfold NLog.get?
  rw [(append_parts l e roll).1, (append_parts l e roll).2]
  unfold NLog.last at h
  split
  · rw [List.getElem?_append_left (by omega)]
  · rfl

/-- a log that starts at index 1 answers with its entries -/
theorem get?_prev0 (l : NLog) (hp : l.prev = 0) (k : Nat) :
    l.get? k = if 0 < k then l.entries[k - 1]? else none := by
  unfold NLog.get?
  rw [hp]
  split
  · rw [Nat.sub_zero]
  · rfl

theorem get?_some_le {l : NLog} {i : Nat} {e : Entry} (h : l.get? i = some e) : l.prev < i ∧ i ≤ l.last := by
  unfold NLog.get? at h
  split at h
  · obtain ⟨hk, _⟩ := List.getElem?_eq_some_iff.mp h
    unfold NLog.last; omega
  · cases h

theorem get?_append_of_some (l : NLog) (e : Entry) (roll : Bool) (i : Nat) (x : Entry) (h : l.get? i = some x) :
    (l.append e roll).get? i = some x := by
  rw [get?_append l e roll i (get?_some_le h).2]; exact h

theorem get?_append_new (l : NLog) (e : Entry) (roll : Bool) : (l.append e roll).get? (l.last + 1) = some e := by
  unfold NLog.get? NLog.last
  rw [(append_parts l e roll).1, (append_parts l e roll).2, if_pos (by omega)]
  have : l.prev + l.entries.length + 1 - l.prev - 1 = l.entries.length := by omega
  rw [this]
  simp

theorem commitN_same (l : NLog) (n : Nat) :
    (l.commitN n).prev = l.prev ∧ (l.commitN n).entries = l.entries ∧ (l.commitN n).segs = l.segs := by
  unfold NLog.commitN; split <;> exact ⟨rfl, rfl, rfl⟩

/-- `removeGTE j` keeps every entry below `j` -/
theorem get?_removeGTE (l : NLog) (j i : Nat) (h : i < j) : (l.removeGTE j).get? i = l.get? i := by
  unfold NLog.get? NLog.removeGTE
  dsimp only
  split
  · rw [List.getElem?_take, if_pos (by omega)]
  · rfl

theorem last_removeGTE (l : NLog) (i : Nat) (h1 : l.prev < i) (h2 : i ≤ l.last) : (l.removeGTE i).last = i - 1 := by
  unfold NLog.removeGTE NLog.last at *
  simp only [List.length_take]
  omega

/-- an index below `j` that the log reached is still reached after `removeGTE j`, wherever `j` lies -/
theorem le_last_removeGTE (l : NLog) (j c : Nat) (hc : c ≤ l.last) (hj : c < j) : c ≤ (l.removeGTE j).last := by
  unfold NLog.last NLog.removeGTE at *
  dsimp only
  rw [List.length_take]
  omega

theorem reset_durable (i : Nat) : (NLog.reset i).durable = NLog.reset i := by
  unfold NLog.durable NLog.reset
  rw [List.take_nil]

/-- the flushed part of the log is on disk -/
theorem durable_get_flushed (l : NLog) (k : Nat) (h1 : l.prev < k) (h2 : k ≤ l.flushed) : l.durable.get? k = l.get? k := by
  unfold NLog.get?
  have hp : l.durable.prev = l.prev := rfl
  have he : l.durable.entries = l.entries.take (l.flushed - l.prev) := rfl
  rw [hp, if_pos h1, if_pos h1, he, List.getElem?_take, if_pos (by omega)]

/-- what is on disk is in the log -/
theorem get?_of_durable (l : NLog) (i : Nat) (e : Entry) (h : l.durable.get? i = some e) : l.get? i = some e := by
  unfold NLog.get? at h ⊢
  have hp : l.durable.prev = l.prev := rfl
  rw [hp] at h
  split
  · rw [if_pos (by assumption)] at h
    have he : l.durable.entries = l.entries.take (l.flushed - l.prev) := rfl
    rw [he, List.getElem?_take] at h
    split at h
    · exact h
    · cases h
  · rw [if_neg (by assumption)] at h; cases h

end NLog
end Raft
