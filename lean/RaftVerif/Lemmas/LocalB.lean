/-
What the small primitives (`panic`, `setTerm`, `publishSnapshot`, `fsmRestore`, …) and the common prefix of
`onInstallSnap` (`installPre`) leave untouched, and the list lemmas about `dropLTE` / `insertSnap`.
-/
import RaftVerif.Lemmas.StepInv
import RaftVerif.Lemmas.Shape

namespace Raft


theorem dropLTE_nil (i : Nat) : NLog.dropLTE i [] = [] := by
  simp [NLog.dropLTE]

theorem dropLTE_single (i a : Nat) : NLog.dropLTE i [a] = [a] := by
  simp [NLog.dropLTE]

theorem dropLTE_cons2 (i a b : Nat) (rest : List Nat) :
    NLog.dropLTE i (a :: b :: rest) =
      if a < b ∧ b ≤ i then NLog.dropLTE i (b :: rest) else a :: b :: rest := by
  simp [NLog.dropLTE]

theorem dropLTE_cons_cases (i a : Nat) (rest : List Nat) :
    ∃ h tl, NLog.dropLTE i (a :: rest) = h :: tl ∧ (h :: tl) <:+ (a :: rest) ∧ (h = a ∨ h ≤ i) := by
  induction rest generalizing a with
  | nil => exact ⟨a, [], dropLTE_single i a, List.suffix_refl _, Or.inl rfl⟩
  | cons b rest ih =>
    rw [dropLTE_cons2]
    split
    · rename_i hc
      obtain ⟨h, tl, e, suf, hh⟩ := ih b
      refine ⟨h, tl, e, List.IsSuffix.trans suf (List.suffix_cons _ _), Or.inr ?_⟩
      rcases hh with hh | hh
      · omega
      · exact hh
    · exact ⟨a, b :: rest, rfl, List.suffix_refl _, Or.inl rfl⟩

/-- the segment after the new head starts above `i` (nothing more could have been dropped) -/
theorem dropLTE_next_gt (i : Nat) (l : List Nat) (hs : l.Pairwise (· < ·)) :
    ∀ h b tl, NLog.dropLTE i l = h :: b :: tl → i < b := by
  induction l with
  | nil => intro h b tl e; rw [dropLTE_nil] at e; cases e
  | cons a rest ih =>
    cases rest with
    | nil => intro h b tl e; rw [dropLTE_single] at e; cases e
    | cons c rest =>
      intro h b tl e
      rw [dropLTE_cons2] at e
      split at e
      · exact ih (List.Pairwise.of_cons hs) h b tl e
      · rename_i hc
        have hac : a < c := (List.pairwise_cons.mp hs).1 c (List.mem_cons_self ..)
        injection e with e1 e2
        injection e2 with e2 e3
        omega


theorem mem_insertSnap (f : SnapFile) (l : List SnapFile) : f ∈ Node.insertSnap f l := by
  induction l with
  | nil => simp [Node.insertSnap]
  | cons g gs ih =>
    unfold Node.insertSnap
    split
    · exact List.mem_cons_self ..
    · split
      · exact List.mem_cons_self ..
      · exact List.mem_cons_of_mem _ ih

theorem insertSnap_head (f : SnapFile) (l : List SnapFile)
    (h : ∀ g, l.head? = some g → g.index ≤ f.index) :
    ∃ tl, Node.insertSnap f l = f :: tl := by
  cases l with
  | nil => exact ⟨[], rfl⟩
  | cons g gs =>
    have hg := h g rfl
    unfold Node.insertSnap
    split
    · exact ⟨_, rfl⟩
    · split
      · exact ⟨_, rfl⟩
      · omega

theorem insertSnap_head_older (f g : SnapFile) (gs : List SnapFile) (h : f.index < g.index) :
    Node.insertSnap f (g :: gs) = g :: Node.insertSnap f gs := by
  conv => lhs; unfold Node.insertSnap
  rw [if_neg (by omega), if_neg (by omega)]

namespace Node

theorem panic_eq (s : Node) (site : String) :
    s.panic site = { s with panicked := if s.panicked.isNone then some site else s.panicked } := by
  unfold Node.panic; split <;> rfl

/-- The data part of a node: everything except `(term, votedFor)` and their disk copy, role, leader,
the rpc result/reply, the crash-point trace and the panic flag. -/
structure SameData (s s' : Node) : Prop where
  cid : s'.cid = s.cid
  nid : s'.nid = s.nid
  retain : s'.retain = s.retain
  log : s'.log = s.log
  lastLogIndex : s'.lastLogIndex = s.lastLogIndex
  lastLogTerm : s'.lastLogTerm = s.lastLogTerm
  snapIndex : s'.snapIndex = s.snapIndex
  snapTerm : s'.snapTerm = s.snapTerm
  snapsDisk : s'.snapsDisk = s.snapsDisk
  configs : s'.configs = s.configs
  commitIndex : s'.commitIndex = s.commitIndex
  fsm : s'.fsm = s.fsm
  ldr : s'.ldr = s.ldr
  snapPending : s'.snapPending = s.snapPending
  snapResult : s'.snapResult = s.snapResult

theorem SameData.refl (s : Node) : SameData s s := by constructor <;> rfl

theorem SameData.trans {a b c : Node} (h1 : SameData a b) (h2 : SameData b c) : SameData a c := by
  constructor
  · rw [h2.cid, h1.cid]
  · rw [h2.nid, h1.nid]
  · rw [h2.retain, h1.retain]
  · rw [h2.log, h1.log]
  · rw [h2.lastLogIndex, h1.lastLogIndex]
  · rw [h2.lastLogTerm, h1.lastLogTerm]
  · rw [h2.snapIndex, h1.snapIndex]
  · rw [h2.snapTerm, h1.snapTerm]
  · rw [h2.snapsDisk, h1.snapsDisk]
  · rw [h2.configs, h1.configs]
  · rw [h2.commitIndex, h1.commitIndex]
  · rw [h2.fsm, h1.fsm]
  · rw [h2.ldr, h1.ldr]
  · rw [h2.snapPending, h1.snapPending]
  · rw [h2.snapResult, h1.snapResult]

theorem sameData_panic (s : Node) (site : String) : SameData s (s.panic site) := by
  rw [panic_eq]; constructor <;> rfl

theorem sameData_setTerm (s : Node) (t : Nat) : SameData s (s.setTerm t) := by
  rw [Node.setTerm_shape]; constructor <;> rfl

theorem sameData_setRole (s : Node) (r : Role) : SameData s (s.setRole r) := by constructor <;> rfl
theorem sameData_setLeader (s : Node) (l : Nat) : SameData s (s.setLeader l) := by constructor <;> rfl
theorem sameData_ret (s : Node) (r : Nat) : SameData s (s.ret r) := by constructor <;> rfl

theorem sameData_installPre (s : Node) (q : InstallReq) : SameData s (installPre s q) := by
  unfold installPre
  refine SameData.trans (SameData.trans ?_ (sameData_setRole _ _)) (sameData_setLeader _ _)
  split
  · exact SameData.trans (sameData_setTerm s q.term) (sameData_setRole _ _)
  · exact SameData.refl s

theorem commitConfig_eq (s : Node) :
    s.commitConfig =
      { s with leader := if s.leader ≠ 0 ∧ (!s.configs.latest.isVoter s.leader) = true then 0 else s.leader,
               configs := { committed := s.configs.latest, latest := s.configs.latest } } := by
  unfold Node.commitConfig Node.setLeader
  dsimp only
  split <;> rfl

theorem fsmRestore_eq (s : Node) :
    s.fsmRestore =
      { s with
        fsm := if s.snapIndex = 0 then s.fsm else
          match s.snapsDisk.find? (·.index == s.snapIndex) with
          | some f => { index := f.index, term := f.term, applied := f.data, config := f.config }
          | none => s.fsm
        panicked := if s.snapIndex = 0 then (if s.panicked.isNone then some "fsm.restoreNoSnapshot" else s.panicked) else
          match s.snapsDisk.find? (·.index == s.snapIndex) with
          | some _ => s.panicked
          | none => (if s.panicked.isNone then some "fsm.restoreOpen" else s.panicked) } := by
  unfold Node.fsmRestore
  simp only [panic_eq, Node.withFsm]
  split
  · rfl
  · cases hf : List.find? (fun x => x.index == s.snapIndex) s.snapsDisk <;> rfl

theorem fsmRestore_other (s : Node) :
    s.fsmRestore.log = s.log ∧ s.fsmRestore.lastLogIndex = s.lastLogIndex ∧
    s.fsmRestore.lastLogTerm = s.lastLogTerm ∧ s.fsmRestore.snapIndex = s.snapIndex ∧
    s.fsmRestore.snapTerm = s.snapTerm ∧ s.fsmRestore.snapsDisk = s.snapsDisk ∧
    s.fsmRestore.configs = s.configs ∧ s.fsmRestore.commitIndex = s.commitIndex ∧
    s.fsmRestore.trace = s.trace ∧ s.fsmRestore.term = s.term ∧ s.fsmRestore.votedFor = s.votedFor := by
  rw [fsmRestore_eq]
  exact ⟨rfl, rfl, rfl, rfl, rfl, rfl, rfl, rfl, rfl, rfl, rfl⟩

/-- when the meta file of `snaps.index` is on disk, the FSM becomes its content -/
theorem fsmRestore_fsm (s : Node) (f : SnapFile) (h0 : s.snapIndex ≠ 0)
    (hf : s.snapsDisk.find? (·.index == s.snapIndex) = some f) :
    s.fsmRestore.fsm = { index := f.index, term := f.term, applied := f.data, config := f.config } ∧
    s.fsmRestore.panicked = s.panicked := by
  unfold Node.fsmRestore
  rw [if_neg h0, hf]
  exact ⟨rfl, rfl⟩

/-- when it is not, the node panics (`snaps.open` fails) and the FSM keeps its old content -/
theorem fsmRestore_missing (s : Node) (hf : s.snapsDisk.find? (·.index == s.snapIndex) = none) :
    s.fsmRestore.fsm = s.fsm ∧ (s.panicked = none → s.fsmRestore.panicked ≠ none) := by
  unfold Node.fsmRestore
  rw [hf]
  simp only [panic_eq]
  constructor
  · split <;> rfl
  · intro hp; split <;> simp [hp]

theorem changeConfigR_other (s : Node) (c : Config) :
    (s.changeConfigR c).configs = { committed := s.configs.latest, latest := c } ∧
    (s.changeConfigR c).log = s.log ∧ (s.changeConfigR c).lastLogIndex = s.lastLogIndex ∧
    (s.changeConfigR c).lastLogTerm = s.lastLogTerm ∧ (s.changeConfigR c).snapIndex = s.snapIndex ∧
    (s.changeConfigR c).snapTerm = s.snapTerm ∧ (s.changeConfigR c).snapsDisk = s.snapsDisk ∧
    (s.changeConfigR c).commitIndex = s.commitIndex ∧ (s.changeConfigR c).fsm = s.fsm ∧
    (s.changeConfigR c).trace = s.trace ∧ (s.changeConfigR c).panicked = s.panicked := by
  rw [changeConfigR_shape]
  exact ⟨rfl, rfl, rfl, rfl, rfl, rfl, rfl, rfl, rfl, rfl, rfl⟩

theorem commitConfig_other (s : Node) :
    s.commitConfig.configs = { committed := s.configs.latest, latest := s.configs.latest } ∧
    s.commitConfig.log = s.log ∧ s.commitConfig.lastLogIndex = s.lastLogIndex ∧
    s.commitConfig.lastLogTerm = s.lastLogTerm ∧ s.commitConfig.snapIndex = s.snapIndex ∧
    s.commitConfig.snapTerm = s.snapTerm ∧ s.commitConfig.snapsDisk = s.snapsDisk ∧
    s.commitConfig.commitIndex = s.commitIndex ∧ s.commitConfig.fsm = s.fsm ∧
    s.commitConfig.trace = s.trace ∧ s.commitConfig.panicked = s.panicked := by
  rw [commitConfig_eq]
  exact ⟨rfl, rfl, rfl, rfl, rfl, rfl, rfl, rfl, rfl, rfl, rfl⟩

theorem insertSnap_decomp (f : SnapFile) (l : List SnapFile) :
    ∃ rest, insertSnap f l = l.takeWhile (fun g => decide (g.index > f.index)) ++ f :: rest := by
  induction l with
  | nil => exact ⟨[], rfl⟩
  | cons g gs ih =>
    unfold insertSnap
    split
    · rename_i h
      exact ⟨g :: gs, by rw [List.takeWhile_cons_of_neg (by simp; omega)]; rfl⟩
    · split
      · rename_i h1 h2
        exact ⟨gs, by rw [List.takeWhile_cons_of_neg (by simp; omega)]; rfl⟩
      · rename_i h1 h2
        obtain ⟨rest, e⟩ := ih
        exact ⟨rest, by rw [List.takeWhile_cons_of_pos (by simp; omega), e]; rfl⟩

theorem find_take_insertSnap (f : SnapFile) (l : List SnapFile) (r : Nat) :
    ((insertSnap f l).take r).find? (·.index == f.index) =
      if (l.takeWhile (fun g => decide (g.index > f.index))).length < r then some f else none := by
  obtain ⟨rest, e⟩ := insertSnap_decomp f l
  rw [e, List.take_append, List.find?_append]
  have h1 : List.find? (fun x => x.index == f.index)
      (List.take r (List.takeWhile (fun g => decide (g.index > f.index)) l)) = none := by
    rw [List.find?_eq_none]
    intro x hx
    have hx2 := List.all_eq_true.mp (List.all_takeWhile (l := l) (p := fun g => decide (g.index > f.index))) x
      (List.mem_of_mem_take hx)
    simp at hx2 ⊢
    omega
  rw [h1, Option.none_or]
  split
  · rename_i h
    obtain ⟨k, hk⟩ : ∃ k, r - (List.takeWhile (fun g => decide (g.index > f.index)) l).length = k + 1 :=
      ⟨r - (List.takeWhile (fun g => decide (g.index > f.index)) l).length - 1, by omega⟩
    rw [hk, List.take_succ_cons, List.find?_cons_of_pos (by simp)]
  · rename_i h
    have : r - (List.takeWhile (fun g => decide (g.index > f.index)) l).length = 0 := by omega
    rw [this]; rfl

theorem mem_of_mem_insertSnap (f g : SnapFile) (l : List SnapFile) (h : g ∈ insertSnap f l) : g = f ∨ g ∈ l := by
  induction l with
  | nil => simp [insertSnap] at h; exact Or.inl h
  | cons x xs ih =>
    unfold insertSnap at h
    split at h
    · rcases List.mem_cons.mp h with h | h
      · exact Or.inl h
      · exact Or.inr h
    · split at h
      · rcases List.mem_cons.mp h with h | h
        · exact Or.inl h
        · exact Or.inr (List.mem_cons_of_mem _ h)
      · rcases List.mem_cons.mp h with h | h
        · exact Or.inr (h ▸ List.mem_cons_self ..)
        · rcases ih h with h | h
          · exact Or.inl h
          · exact Or.inr (List.mem_cons_of_mem _ h)

theorem publishSnapshot_fields (s : Node) (f : SnapFile) :
    (s.publishSnapshot f).snapsDisk = (insertSnap f s.snapsDisk).take s.retain ∧
    (s.publishSnapshot f).snapIndex = f.index ∧ (s.publishSnapshot f).snapTerm = f.term ∧
    (s.publishSnapshot f).log = s.log ∧ (s.publishSnapshot f).lastLogIndex = s.lastLogIndex ∧
    (s.publishSnapshot f).lastLogTerm = s.lastLogTerm ∧ (s.publishSnapshot f).commitIndex = s.commitIndex ∧
    (s.publishSnapshot f).fsm = s.fsm ∧ (s.publishSnapshot f).configs = s.configs ∧
    (s.publishSnapshot f).retain = s.retain ∧ (s.publishSnapshot f).panicked = s.panicked :=
  ⟨rfl, rfl, rfl, rfl, rfl, rfl, rfl, rfl, rfl, rfl, rfl⟩

end Node
end Raft
