/-
`Raft.bootstrap` by cases: the request it accepts, and what it does then.
-/
import RaftVerif.Lemmas.Shape

namespace Raft
open Node

namespace C10

def BootstrapAccepts (s : Node) (c : Config) : Prop :=
  s.configs.isBootstrapped = false ∧ configValid c = true ∧
  ∃ self, c.find? s.nid = some self ∧ self.voter = true ∧ c.isStable = true

end C10

namespace Node
open C10

/-- `Raft.bootstrap` answers a request it does not accept and does nothing else; for one it accepts it runs
`storage.bootstrap`, adopts the configuration and becomes candidate. -/
theorem bootstrap_cases (s : Node) (t : Nat) (c : Config) {P : Node → Prop}
    (hrej : ¬ BootstrapAccepts s c → ∀ r, P (s.reply t r))
    (hacc : BootstrapAccepts s c →
      P (((((((s.appendEntry ({ c with index := 1, term := 1 } : Config).toEntry).commitLog 1).setTerm 1).withLast
        ({ c with index := 1, term := 1 } : Config).index ({ c with index := 1, term := 1 } : Config).term).changeConfigR
        { c with index := 1, term := 1 }).reply t "ok").setRole Role.candidate)) :
    P (s.bootstrap t c) := by
  unfold Node.bootstrap
  refine ite_ind (fun h1 => hrej (fun h => by rw [h.1] at h1; cases h1) _) fun h1 => ?_
  refine ite_ind (fun h2 => hrej (fun h => by rw [h.2.1] at h2; cases h2) _) fun h2 => ?_
  cases hf : c.find? s.nid with
  | none => exact hrej (fun ⟨_, _, x, hx, _⟩ => by rw [hf] at hx; cases hx) _
  | some self =>
    have hself : ∀ x, c.find? s.nid = some x → x = self := fun x hx => by rw [hf] at hx; exact (Option.some.inj hx).symm
    refine ite_ind (fun h3 => hrej (fun ⟨_, _, x, hx, hv, _⟩ => by rw [← hself x hx, hv] at h3; cases h3) _) fun h3 => ?_
    refine ite_ind (fun h4 => hrej (fun ⟨_, _, _, _, _, hst⟩ => by rw [hst] at h4; cases h4) _) fun h4 => ?_
    exact hacc ⟨by simpa using h1, by simpa using h2, self, hf, by simpa using h3, by simpa using h4⟩

end Node
end Raft
