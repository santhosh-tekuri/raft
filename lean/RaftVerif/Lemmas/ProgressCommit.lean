/-
Node-level lemma `ack_majority_commits` for the possibility proof (Props/C17Sys.lean): a leader that is told, in one
`replUpdates` batch, that the other members of a majority `M` of the voters have reached its last log index `N`
commits `N` and applies it.
-/
import RaftVerif.Lemmas.ProgressNode

namespace Raft
namespace Progress
open Node CommitRel

theorem find_insertRepl (r : Repl) (id : Nat) : ∀ (l : List Repl),
    (insertRepl r l).find? (·.id == id) = if r.id = id then some r else l.find? (·.id == id)
  | [] => by
    unfold insertRepl
    by_cases h : r.id = id
    · rw [if_pos h]; simp [List.find?, h]
    · rw [if_neg h]
      have : (r.id == id) = false := by simpa using h
      simp [List.find?, this]
  | m :: ms => by
    unfold insertRepl
    by_cases h : r.id = id
    · rw [if_pos h]
      split
      · simp [List.find?, h]
      · split
        · simp [List.find?, h]
        · rename_i h1 h2
          have hm : ¬ m.id = id := by omega
          rw [List.find?_cons_of_neg (by simpa using hm), find_insertRepl r id ms, if_pos h]
    · rw [if_neg h]
      split
      · rw [List.find?_cons_of_neg (by simpa using h)]
      · split
        · rename_i h1 h2
          have hm : ¬ m.id = id := by omega
          rw [List.find?_cons_of_neg (by simpa using h), List.find?_cons_of_neg (by simpa using hm)]
        · by_cases hm : m.id = id
          · rw [List.find?_cons_of_pos (by simpa using hm), List.find?_cons_of_pos (by simpa using hm)]
          · rw [List.find?_cons_of_neg (by simpa using hm), List.find?_cons_of_neg (by simpa using hm),
              find_insertRepl r id ms, if_neg h]

def mkMatch (N j : Nat) : ReplUpdate := { id := j, removed := false, upd := .matchIndex N }

def withRepls (s : Node) (R : List Repl) : Node := s.withLdr { s.ldr with repls := R }

theorem withRepls_self (s : Node) : withRepls s s.ldr.repls = s := rfl

theorem withRepls_setRepl (s : Node) (R : List Repl) (r : Repl) :
    (withRepls s R).setRepl r = withRepls s (insertRepl r R) := rfl

/-- **the loop of `checkReplUpdates` over match-index reports `N` for the ids `js`**, each of which has a
replication whose cached node carries no action: only the replication table changes — the same ids are present,
those in `js` have match index `N`; the flag `matchU` is raised. -/
theorem replUpdLoop_match (N : Nat) : ∀ (js : List Nat) (s : Node) (R : List Repl) (f : UpdFlags),
    (∀ j ∈ js, ∃ r, R.find? (·.id == j) = some r) → (∀ r ∈ R, r.node.action = actNone) →
    ∃ R', replUpdLoop (withRepls s R) f (js.map (mkMatch N)) =
        (withRepls s R', { f with matchU := f.matchU || !js.isEmpty }) ∧
      (∀ id, (R'.find? (·.id == id)).isSome = (R.find? (·.id == id)).isSome) ∧
      (∀ j ∈ js, ∀ r, R'.find? (·.id == j) = some r → r.matchIndex = N) ∧
      (∀ id r, R'.find? (·.id == id) = some r → r.matchIndex = N ∨ R.find? (·.id == id) = some r) ∧
      (∀ r ∈ R', r.node.action = actNone)
  | [], s, R, f, _, hact => by
    refine ⟨R, ?_, fun _ => rfl, fun j hj => absurd hj List.not_mem_nil, fun id r h => Or.inr h, hact⟩
    show (withRepls s R, f) = _
    cases f; simp
  | j :: js, s, R, f, hjs, hact => by
    obtain ⟨st, hst⟩ := hjs j (List.mem_cons_self ..)
    have hid : st.id = j := by simpa using List.find?_some hst
    have hmem : st ∈ R := List.mem_of_find?_eq_some hst
    have hact' : ∀ r ∈ insertRepl { st with matchIndex := N } R, r.node.action = actNone := by
      intro r hr
      rcases mem_insertRepl hr with e | e
      · rw [e]; exact hact st hmem
      · exact hact r e
    have hfind : ∀ id, (insertRepl { st with matchIndex := N } R).find? (·.id == id) =
        if st.id = id then some { st with matchIndex := N } else R.find? (·.id == id) :=
      fun id => find_insertRepl { st with matchIndex := N } id R
    have hjs' : ∀ j' ∈ js, ∃ r, (insertRepl { st with matchIndex := N } R).find? (·.id == j') = some r := by
      intro j' hj'
      rw [hfind]
      split
      · exact ⟨_, rfl⟩
      · exact hjs j' (List.mem_cons_of_mem _ hj')
    obtain ⟨R', e, a1, a2, a3, a4⟩ := replUpdLoop_match N js s (insertRepl { st with matchIndex := N } R)
      { f with matchU := true } hjs' hact'
    refine ⟨R', ?_, ?_, ?_, ?_, a4⟩
    · show replUpdLoop (withRepls s R) f (mkMatch N j :: js.map (mkMatch N)) = _
      unfold replUpdLoop
      rw [if_neg (by intro h; cases h)]
      have hf : (withRepls s R).findRepl? (mkMatch N j).id = some st := hst
      rw [hf]
      dsimp only [mkMatch]
      rw [if_neg (by
        intro h
        exact h.2 (hact st hmem))]
      rw [withRepls_setRepl, e]
      simp
    · intro id
      rw [a1, hfind]
      split
      · rename_i h; rw [← h, hid, hst]; rfl
      · rfl
    · intro j' hj' r hr
      rcases List.mem_cons.mp hj' with e' | e'
      · rcases a3 j' r hr with h | h
        · exact h
        · rw [hfind, if_pos (by rw [hid, e'])] at h
          injection h with h; rw [← h]
      · exact a2 j' e' r hr
    · intro id r hr
      rcases a3 id r hr with h | h
      · exact Or.inl h
      · rw [hfind] at h
        split at h
        · injection h with h; left; rw [← h]
        · exact Or.inr h

theorem count_sub (g : CNode → Nat) (N : Nat) : ∀ (L : List CNode) (M : List Nat), (L.map (·.id)).Nodup → M.Nodup →
    (∀ v ∈ M, v ∈ L.map (·.id)) → (∀ n ∈ L, n.id ∈ M → g n ≥ N) →
    M.length ≤ (L.map g).countP (fun m => decide (m ≥ N))
  | [], M, _, _, hsub, _ => by
    cases M with
    | nil => exact Nat.zero_le _
    | cons v M => exact absurd (hsub v (List.mem_cons_self ..)) List.not_mem_nil
  | n :: L, M, hL, hM, hsub, hg => by
    rw [List.map_cons, List.nodup_cons] at hL
    by_cases hn : n.id ∈ M
    · have hM' : (M.erase n.id).Nodup := hM.erase _
      have hlen : (M.erase n.id).length = M.length - 1 := List.length_erase_of_mem hn
      have hpos : 0 < M.length := List.length_pos_of_mem hn
      have hsub' : ∀ v ∈ M.erase n.id, v ∈ L.map (·.id) := by
        intro v hv
        have hvM : v ∈ M := List.mem_of_mem_erase hv
        have hne : v ≠ n.id := fun e => by
          rw [e] at hv
          exact (List.Nodup.not_mem_erase hM) hv
        rcases List.mem_cons.mp (hsub v hvM) with e | e
        · exact absurd e hne
        · exact e
      have ih := count_sub g N L (M.erase n.id) hL.2 hM' hsub'
        (fun m hm hmM => hg m (List.mem_cons_of_mem _ hm) (List.mem_of_mem_erase hmM))
      rw [List.map_cons, List.countP_cons_of_pos (by simpa using hg n (List.mem_cons_self ..) hn)]
      omega
    · have hsub' : ∀ v ∈ M, v ∈ L.map (·.id) := by
        intro v hv
        rcases List.mem_cons.mp (hsub v hv) with e | e
        · rw [e] at hv; exact absurd hv hn
        · exact e
      have ih := count_sub g N L M hL.2 hM hsub' (fun m hm hmM => hg m (List.mem_cons_of_mem _ hm) hmM)
      rw [List.map_cons, List.countP_cons]
      exact Nat.le_trans ih (Nat.le_add_right _ _)

/-- **ack_majority_commits, the selection**: when the members of a majority `M` of the voters other than the leader
itself have match index `≥ N` in the table and the leader's log reaches `N`, `majorityMatchIndex` selects an index
`≥ N`. -/
theorem majority_after_acks (s : Node) (R' : List Repl) (M : List Nat) (N : Nat)
    (hM : M.Nodup) (hMV : ∀ v ∈ M, v ∈ s.configs.latest.voters) (hnd : s.configs.latest.voters.Nodup)
    (hmaj : 2 * M.length > s.configs.latest.voters.length) (hself : s.lastLogIndex ≥ N)
    (hothers : ∀ j ∈ M, j ≠ s.nid → ∃ r, R'.find? (·.id == j) = some r ∧ r.matchIndex ≥ N)
    (h2 : ¬ (s.ldr.numVoters = 1 ∧ s.ldr.node.voter = true)) :
    (withRepls s R').majorityMatchIndex.1 ≥ N := by
  apply C17.majority_commits (withRepls s R') N h2
  have hlen : (withRepls s R').voterMatches.length = s.configs.latest.voters.length := by
    rw [C06.voterMatches_length, voters_length]; rfl
  rw [hlen]
  have hc := count_sub (fun n => if n.id = s.nid then s.lastLogIndex
      else (((withRepls s R').findRepl? n.id).map (·.matchIndex)).getD 0) N
    (s.configs.latest.nodes.filter (·.voter)) M hnd hM hMV (fun n _ hnM => by
      show (if n.id = s.nid then s.lastLogIndex
        else (((withRepls s R').findRepl? n.id).map (·.matchIndex)).getD 0) ≥ N
      split
      · exact hself
      · rename_i hne
        obtain ⟨r, hr, hm⟩ := hothers n.id hnM hne
        have : (withRepls s R').findRepl? n.id = some r := hr
        rw [this]; exact hm)
  have : (withRepls s R').voterMatches.countP (fun m => decide (m ≥ N)) ≥ M.length := hc
  omega

/-- … and it reports no missing replication -/
theorem majority_ok (s : Node) (R' : List Repl)
    (hall : ∀ n ∈ s.configs.latest.nodes, n.id ≠ s.nid → (R'.find? (·.id == n.id)).isSome = true)
    (hne : s.configs.latest.nodes ≠ []) (h2 : ¬ (s.ldr.numVoters = 1 ∧ s.ldr.node.voter = true)) :
    (withRepls s R').majorityMatchIndex.2 = true := by
  unfold Node.majorityMatchIndex
  rw [if_neg (show ¬ ((withRepls s R').ldr.numVoters = 1 ∧ (withRepls s R').ldr.node.voter = true) from h2)]
  dsimp only
  have h1 : ((s.configs.latest.nodes.filter (·.voter)).any
      (fun n => n.id != s.nid && ((withRepls s R').findRepl? n.id).isNone)) = false := by
    rw [List.any_eq_false]
    intro n hn
    have hn' := (List.mem_filter.mp hn).1
    by_cases e : n.id = s.nid
    · simp [e]
    · have := hall n hn' e
      have hf : ((withRepls s R').findRepl? n.id).isSome = true := this
      simp [Option.isNone_iff_eq_none, Option.isSome_iff_ne_none.mp hf]
  have h3 : decide ((withRepls s R').configs.latest.nodes.length > 0) = true := by
    have : (withRepls s R').configs.latest.nodes.length > 0 := List.length_pos_iff.mpr hne
    exact decide_eq_true this
  show (!(List.any _ _) && decide _) = true
  rw [h3]
  have : ((withRepls s R').configs.latest.nodes.filter (·.voter)).any
      (fun n => n.id != (withRepls s R').nid && ((withRepls s R').findRepl? n.id).isNone) = false := h1
  rw [this]; rfl

/-- `leader.setCommitIndex` of an open leader that is a voter of its stable latest configuration: afterwards the
commit index is at least `i`; role, term, latest configuration, `closed` stay -/
theorem setCommitIndexL_ki {C : Config} {n t lb : Nat} (hC : C.isVoter n = true) (hS : C.isStable = true)
    (f : Nat) (s : Node) (i : Nat) (hs : KI C n t lb s) : KI C n t i (setCommitIndexL (f + 1) s i) := by
  have L := ki_closed C AF n t i hC
  unfold setCommitIndexL
  extract_lets s1 ready r s2 s3
  have h2 : KI C n t i s2 := by
    have hv : (s.commitLog i).configs.latest.isVoter (s.commitLog i).nid = true := by
      show s.configs.latest.isVoter s.nid = true
      rw [hs.1, hs.2.2.1]; exact hC
    obtain ⟨a, b, c, d⟩ := setCommitIndexR_open (s.commitLog i) i (has_of_isVoter _ _ hv)
    obtain ⟨_, _, r', _⟩ := setCommitIndexR_voter (s.commitLog i) i hv
    exact ⟨a.trans hs.1, b.trans hs.2.1, c.trans hs.2.2.1, by show i ≤ (s1.setCommitIndexR i).1.commitIndex; rw [d]; exact Nat.le_refl _,
      r'.trans hs.2.2.2.2.1, (setCommitIndexR_key (s.commitLog i) i).2.1.trans hs.2.2.2.2.2⟩
  have h3 : KI C n t i s3 := by
    unfold s3
    split
    · rw [h2.1]; exact L.checkConfigActions_m hS _ _ _ h2
    · exact h2
  split
  · split
    · have key : ∀ (ts : List Nat) (x : Node), KI C n t i x →
          KI C n t i (ts.foldl (fun s t => s.reply t s!"config:{s.configs.latest.index}") x) := by
        intro ts
        induction ts with
        | nil => intro x hx; exact hx
        | cons a as ih => intro x hx; exact ih _ (L.reply _ _ _ hx)
      exact L.ldrSame_m _ _ (key _ _ h3) rfl rfl rfl rfl
    · rw [h3.1]; exact L.checkConfigActions_m hS _ _ _ h3
  · exact h3

/-- what the step in which a leader `s` learns that a majority has reached its last log index `N` leaves -/
structure Committed (N : Nat) (s s' : Node) : Prop where
  role : s'.role = .leader
  term : s'.term = s.term
  nid : s'.nid = s.nid
  cfg : s'.configs.latest = s.configs.latest
  closed : s'.closed = ""
  commit : N ≤ s'.commitIndex
  applied : s'.fsm.index = s'.commitIndex

theorem keep_notifyFlr (s : Node) : Keep s s.notifyFlr ∧ s.notifyFlr.role = s.role ∧ s.notifyFlr.term = s.term := by
  rw [notifyFlr_shape]; exact ⟨.of_eq rfl, rfl, rfl⟩

theorem keep_tryTransfer (s : Node) : Keep s s.tryTransfer ∧ s.tryTransfer.role = s.role ∧ s.tryTransfer.term = s.term := by
  rw [tryTransfer_shape]; exact ⟨.of_eq rfl, rfl, rfl⟩

/-- **ack_majority_commits**: a leader `s` (an open voter of its stable latest configuration `C`, at least two
voters, current caches, commit index below its last log index `N`, `startIndex ≤ N`) is told in one batch of
replication updates that every OTHER member of a majority `M` of the voters has match index `N`; the step does not
fail. Then it commits: `commitIndex ≥ N`, the state machine has applied everything up to the commit index, it is
still the leader of the same term, open, with the same latest configuration. -/
theorem ack_majority_commits (s : Node) (ra : List Nat) (ord : List (List Nat)) (M : List Nat) (N : Nat)
    (hr : s.role = .leader) (ho : s.closed = "") (hN : s.lastLogIndex = N) (hci : s.commitIndex < N)
    (hstart : s.ldr.startIndex ≤ N) (hcache : C06Cache.CacheOK s) (hst : s.configs.latest.isStable = true)
    (hv : s.configs.latest.isVoter s.nid = true) (hnd : s.configs.latest.voters.Nodup)
    (h2 : 2 ≤ s.configs.latest.numVoters) (hM : M.Nodup) (hMV : ∀ v ∈ M, v ∈ s.configs.latest.voters)
    (hmaj : 2 * M.length > s.configs.latest.voters.length) (hMne : ∃ j ∈ M, j ≠ s.nid)
    (hp : (s.step (.replUpdates ((M.filter (· != s.nid)).map (mkMatch N))) ra ord).panicked = none) :
    Committed N s (s.step (.replUpdates ((M.filter (· != s.nid)).map (mkMatch N))) ra ord) := by
  have hrepl : ∀ j ∈ M, j ≠ s.nid → ∃ r, s.ldr.repls.find? (·.id == j) = some r := by
    intro j hj hne
    have hjv := hMV j hj
    unfold Config.voters at hjv
    obtain ⟨nd, hnd', hid⟩ := List.mem_map.mp hjv
    obtain ⟨r, hr', hrid⟩ := hcache.member_repl nd (List.mem_filter.mp hnd').1 (by rw [hid]; exact hne)
    have : (s.ldr.repls.find? (·.id == j)).isSome = true := by
      rw [List.find?_isSome]
      exact ⟨r, hr', by rw [hrid, hid]; simp⟩
    exact Option.isSome_iff_exists.mp this
  have hact : ∀ r ∈ s.ldr.repls, r.node.action = actNone := by
    intro r hr'
    have hm := (hcache.repl_member r hr').2.1
    have := hst
    unfold Config.isStable at this
    have := List.all_eq_true.mp this r.node hm
    simpa using this
  have hfast : ¬ (s.ldr.numVoters = 1 ∧ s.ldr.node.voter = true) := by
    intro h; rw [hcache.numVoters] at h; omega
  have hjs_mem : ∀ j, j ∈ M.filter (· != s.nid) ↔ j ∈ M ∧ j ≠ s.nid := by
    intro j; rw [List.mem_filter]; simp
  generalize hjs : M.filter (· != s.nid) = js at hp hjs_mem ⊢
  have hjs_ne : js ≠ [] := by
    obtain ⟨j, hj, hne⟩ := hMne
    exact List.ne_nil_of_mem ((hjs_mem j).mpr ⟨hj, hne⟩)
  obtain ⟨R', eloop, a1, a2, _, _⟩ := replUpdLoop_match N js (s.begin ra ord) s.ldr.repls {}
    (fun j hj => hrepl j ((hjs_mem j).mp hj).1 ((hjs_mem j).mp hj).2) hact
  have hbR : withRepls (s.begin ra ord) s.ldr.repls = s.begin ra ord := rfl
  rw [hbR] at eloop
  have hm1 : (withRepls (s.begin ra ord) R').majorityMatchIndex.1 ≥ N := by
    refine majority_after_acks (s.begin ra ord) R' M N hM hMV hnd hmaj
      (by show s.lastLogIndex ≥ N; omega) ?_ hfast
    intro j hj hne
    obtain ⟨r0, hr0⟩ := hrepl j hj hne
    have hsome : (R'.find? (·.id == j)).isSome = true := by rw [a1, hr0]; rfl
    obtain ⟨r, hr'⟩ := Option.isSome_iff_exists.mp hsome
    exact ⟨r, hr', by rw [a2 j ((hjs_mem j).mpr ⟨hj, hne⟩) r hr']; exact Nat.le_refl _⟩
  have hm2 : (withRepls (s.begin ra ord) R').majorityMatchIndex.2 = true := by
    refine majority_ok (s.begin ra ord) R' ?_ ?_ hfast
    · intro nd hnd' hne
      obtain ⟨r, hr', hrid⟩ := hcache.member_repl nd hnd' hne
      rw [a1, List.find?_isSome]
      exact ⟨r, hr', by rw [hrid]; simp⟩
    · intro e
      have : s.configs.latest.numVoters = 0 := by
        unfold Config.numVoters
        rw [show s.configs.latest.nodes = [] from e]; rfl
      omega
  have hadv := C17.onMajorityCommit_advances 63 (withRepls (s.begin ra ord) R') hm2
    (by show (withRepls (s.begin ra ord) R').majorityMatchIndex.1 > s.commitIndex; omega)
    (by show (withRepls (s.begin ra ord) R').majorityMatchIndex.1 ≥ s.ldr.startIndex; omega)
  have hki0 : KI s.configs.latest s.nid s.term 0 (withRepls (s.begin ra ord) R') :=
    ⟨rfl, ho, rfl, Nat.zero_le _, hr, rfl⟩
  generalize hmdef : (withRepls (s.begin ra ord) R').majorityMatchIndex.1 = m at hm1 hadv
  have hkiX : KI s.configs.latest s.nid s.term m (setCommitIndexL 63 (withRepls (s.begin ra ord) R') m) :=
    setCommitIndexL_ki hv hst 62 _ m hki0
  have L := ki_closed s.configs.latest AF s.nid s.term m hv
  generalize hX : setCommitIndexL 63 (withRepls (s.begin ra ord) R') m = X at hadv hkiX
  have hkiY : KI s.configs.latest s.nid s.term m X.applyCommittedL := L.applyCommittedL_m _ hkiX
  have hhandle : (s.begin ra ord).handle (.replUpdates (js.map (mkMatch N))) =
      (if X.applyCommittedL.notifyFlr.ldr.transfer.active = true ∧
          (!X.applyCommittedL.notifyFlr.ldr.transfer.targetChosen) = true
        then X.applyCommittedL.notifyFlr.tryTransfer else X.applyCommittedL.notifyFlr) := by
    show (if (s.begin ra ord).role = .leader then (s.begin ra ord).checkReplUpdates _ else (s.begin ra ord)) = _
    rw [if_pos (show (s.begin ra ord).role = .leader from hr)]
    unfold Node.checkReplUpdates
    rw [eloop]
    have hne : (!js.isEmpty) = true := by
      cases js with
      | nil => exact absurd rfl hjs_ne
      | cons _ _ => rfl
    simp only [hne, Bool.or_true, Bool.false_eq_true, if_false, if_true, false_and, true_or,
      true_and]
    have : onMajorityCommit (fuelFor 0) (withRepls (s.begin ra ord) R') = X.applyCommittedL.notifyFlr := hadv
    rw [this]
  have hstep := Node.step_eq_settle s (.replUpdates (js.map (mkMatch N))) ra ord (by intro h; cases h)
  rw [hstep, hhandle] at hp ⊢
  obtain ⟨kz, rz, tz⟩ := keep_notifyFlr X.applyCommittedL
  generalize hZ : X.applyCommittedL.notifyFlr = Z at hp kz rz tz ⊢
  have hpY : X.applyCommittedL.panicked = none := by
    have hpZ : Z.panicked = none := by
      have h1 := SnapRelU.settle_sticky 6 _ _ hp
      split at h1
      · exact SnapRelP.npk (k := fun x => x.tryTransfer) (fun π x => SnapRelP.P_tryTransfer x) h1
      · exact h1
    rw [← hZ] at hpZ
    exact SnapRelP.npk (k := fun x => x.notifyFlr) (fun π x => SnapRelP.P_notifyFlr x) hpZ
  obtain ⟨ap1, ap2⟩ := C03.apply_never_beyond_commit _ _ hpY
  have ap1' : X.applyCommittedL.fsm.index = X.applyCommittedL.commitIndex := ap1.trans ap2.symm
  have hfin : ∀ H, Keep Z H → H.role = Z.role → H.term = Z.term → settle 6 H s.role = H ∧ Committed N s H := by
    intro H kH rH tH
    have hrole : H.role = .leader := by rw [rH, rz]; exact hkiY.2.2.2.2.1
    refine ⟨settle_of_role (by rw [hrole, hr]), hrole, ?_, ?_, ?_, ?_, ?_, ?_⟩
    · rw [tH, tz]; exact hkiY.2.2.2.2.2
    · rw [kH.nid, kz.nid]; exact hkiY.2.2.1
    · rw [kH.configs, kz.configs]; exact hkiY.1
    · rw [kH.closed, kz.closed]; exact hkiY.2.1
    · rw [kH.commitIndex, kz.commitIndex]
      have := hkiY.2.2.2.1
      omega
    · rw [kH.fsm, kz.fsm, kH.commitIndex, kz.commitIndex]; exact ap1'
  split
  · obtain ⟨kt, rt, tt⟩ := keep_tryTransfer Z
    obtain ⟨e, c⟩ := hfin _ kt rt tt
    rw [e]; exact c
  · obtain ⟨e, c⟩ := hfin Z (Keep.refl Z) rfl rfl
    rw [e]; exact c

end Progress
end Raft
