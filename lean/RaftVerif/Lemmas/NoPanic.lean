/-
Lemmas for C15 "no self-inflicted failure on every path" (Props/C15NoPanic.lean): `Node.step` never panics from a
good state.

Parameters used throughout: `F : Prop` — whether the MODEL's recursion budget may fail (`PF F`: nothing has failed,
or — if `F` — only the budget); `T : Bool` — whether configurations have two anchors (voters without pending
action) instead of one. The general theorems take `F := True`; with `T = true` the budget provably suffices and
`F := False` is used.

The invariant `I F T lr lc R s₀ s` is carried through a step that started in `s₀` (it contains `Order.Inv s₀ true s`, so
the lemmas of Lemmas/Order.lean supply the orderings): every primitive state update preserves it (`i_…`), failure sites
are unreachable (`i_unreach`), the mutually recursive leader block by induction on the recursion budget (`block`, with
the budgets that suffice when `T`), then the handlers outside the block, every case of `handle` (`handle_post`), the role
transitions (`settle_post`) and one step (`step_goodF`) for the state invariant `Good` and the condition `ReqOk'`.
-/
import RaftVerif.Props.C06Cache
import RaftVerif.Props.C19Order
import RaftVerif.Props.C15
import RaftVerif.Props.C08
import RaftVerif.Lemmas.RoleRel
import RaftVerif.Lemmas.ShapeLeader
import RaftVerif.Lemmas.ShapeSnap
import RaftVerif.Lemmas.ShapeAppend

namespace Raft
namespace NoPanic
open Node

variable {F : Prop} {T : Bool} {lr lc : Bool} {R : Role → Prop} {s₀ s : Node}

/-- nothing has failed so far, except — when `F` is granted — possibly the recursion budget of the MODEL
(`panic "fuel"`: the Go code has no such budget). `F := True`: the general theorems; `F := False`: the
theorems for configurations with two anchors, where the budget provably suffices. -/
def PF (F : Prop) (s : Node) : Prop := s.panicked = none ∨ (F ∧ s.panicked = some "fuel")

/-- a configuration has an "anchor": a voter without pending action whose id no other member carries
(a Go map has distinct keys; `Config.validate` demands a voter without action) -/
def Anchored (c : Config) : Prop :=
  ∃ a ∈ c.nodes, a.voter = true ∧ a.action = actNone ∧ ∀ m ∈ c.nodes, m.id = a.id → m = a

/-- two anchors with different ids: then there are always at least two voters, the leader never commits alone
(no single-voter fast path) and membership changes do not nest within one step -/
def Anchored2 (c : Config) : Prop :=
  ∃ a ∈ c.nodes, ∃ b ∈ c.nodes, a.id ≠ b.id ∧
    (a.voter = true ∧ a.action = actNone ∧ ∀ m ∈ c.nodes, m.id = a.id → m = a) ∧
    (b.voter = true ∧ b.action = actNone ∧ ∀ m ∈ c.nodes, m.id = b.id → m = b)

def AnchoredT (T : Bool) (c : Config) : Prop := Anchored c ∧ (T = true → Anchored2 c)

/-- the entry of node `nid` in `c` carries one of the five defined actions, and not `Promote` if it is a voter -/
def SelfAct (c : Config) (nid : Nat) : Prop :=
  (c.get nid).action ≤ 4 ∧ ((c.get nid).voter = true → (c.get nid).action ≠ actPromote)

def CfgOk (T : Bool) (nid : Nat) (c : Config) : Prop := SelfAct c nid ∧ (c.nodes ≠ [] → AnchoredT T c)

def CfgP (T : Bool) (nid : Nat) (c : Config) : Prop :=
  AnchoredT T c ∧ (c.get nid).action ≤ 4 ∧ (c.get nid).action ≠ actPromote

instance (c : Config) : Decidable (Anchored c) := by unfold Anchored; infer_instance
instance (c : Config) : Decidable (Anchored2 c) := by unfold Anchored2; infer_instance
instance (T : Bool) (c : Config) : Decidable (AnchoredT T c) := by unfold AnchoredT; infer_instance
instance (c : Config) (nid : Nat) : Decidable (SelfAct c nid) := by unfold SelfAct; infer_instance
instance (T : Bool) (c : Config) (nid : Nat) : Decidable (CfgOk T nid c) := by unfold CfgOk; infer_instance
instance (T : Bool) (c : Config) (nid : Nat) : Decidable (CfgP T nid c) := by unfold CfgP; infer_instance

def LogDec (es : List Entry) : Prop := ∀ e ∈ es, e.typ = etConfig → e.cfg.isSome = true

instance (es : List Entry) : Decidable (LogDec es) := by unfold LogDec; infer_instance

/-- **global part of the invariant** (every role) -/
structure Glob (T : Bool) (s : Node) : Prop where
  logDec : LogDec s.log.entries
  retain : 1 ≤ s.retain
  snaps : ∀ g ∈ s.snapsDisk, g.index ≤ s.snapIndex
  cand : s.role = .candidate → s.configs.latest.isVoter s.nid = true
  cfgL : CfgOk T s.nid s.configs.latest
  cfgC : CfgOk T s.nid s.configs.committed

/-- The leader queue `neHead..neTail`, starting at position `n` and ending at `e`: a log entry sits at
its position and advances it, a read/barrier sits at the position of the NEXT log entry. -/
def QChain : Nat → List QItem → Nat → Prop
  | n, [], e => n = e
  | n, q :: qs, e => q.index = n ∧ QChain (if isLogEntryTyp q.typ then n + 1 else n) qs e

/-- **leader part of the invariant** (except the caches, `LC.Cache`), relative to the state `s₀` the
step started from. Unconditional inside the leader handlers; for a state: when open and leader. -/
structure LdrR (s₀ s : Node) : Prop where
  /-- the view `ViewAt(removeLTE, lastLogIndex)` can be built (F6) -/
  prevLe : s.log.prev ≤ s.ldr.removeLTE
  /-- the queue holds exactly the entries above some index beyond the applied one, up to the log end -/
  queue : ∃ n, s.fsm.index < n ∧ QChain n s.ldr.queue (s.lastLogIndex + 1)
  matchLe : ∀ r ∈ s.ldr.repls, r.matchIndex ≤ s.lastLogIndex
  target : s.ldr.transfer.target ≠ 0 → s.ldr.transfer.target ≠ s.nid
  notCand : s.role ≠ .candidate
  selfNP : (s.configs.latest.get s.nid).action ≠ actPromote
  lv : s.role = .leader → s.configs.isCommitted = true → s.configs.latest.isVoter s.nid = true
  nonempty : s.configs.latest.nodes ≠ []
  lastMono : s₀.lastLogIndex ≤ s.lastLogIndex

/-- **the invariant carried through a step** that started in `s₀`. `lr`/`lc`: the leader part / the caches
are part of it; `R`: what is known about the role. Everything but `pf`, `role`, `res` is claimed while
nothing has failed. -/
structure I (F : Prop) (T : Bool) (lr lc : Bool) (R : Role → Prop) (s₀ s : Node) : Prop where
  pf : PF F s
  role : R s.role
  /-- the rpc result is not `unexpectedErr` (replyRPC would panic); the node id is the one of `s₀` -/
  res : s.result ≠ rUnexpectedErr ∧ s.nid = s₀.nid
  ord : Order.Inv s₀ true s
  glob : s.panicked = none → Glob T s
  ldr : lr = true → s.panicked = none → LdrR s₀ s
  cache : lc = true → s.panicked = none → LC.Cache s

abbrev RT : Role → Prop := fun _ => True
abbrev RF : Role → Prop := fun r => r = .follower
abbrev RN : Role → Prop := fun r => r ≠ .leader


theorem get_congr {c c' : Config} (h : c'.nodes = c.nodes) (id : Nat) : c'.get id = c.get id := by
  unfold Config.get Config.find?; rw [h]

theorem isVoter_congr {c c' : Config} (h : c'.nodes = c.nodes) (id : Nat) : c'.isVoter id = c.isVoter id := by
  unfold Config.isVoter Config.find?; rw [h]

theorem config?_nodes {e : Entry} {c c' : Config} (hc : e.cfg = some c) (h : e.config? = some c') : c'.nodes = c.nodes := by
  rw [Entry.config?_of_cfg (Entry.config?_facts h).1 hc] at h
  injection h with h
  rw [← h]

theorem Anchored.congr {c c' : Config} (h : Anchored c) (e : c'.nodes = c.nodes) : Anchored c' := by
  unfold Anchored at *; rw [e]; exact h

theorem Anchored2.congr {c c' : Config} (h : Anchored2 c) (e : c'.nodes = c.nodes) : Anchored2 c' := by
  unfold Anchored2 at *; rw [e]; exact h

theorem AnchoredT.congr {T : Bool} {c c' : Config} (h : AnchoredT T c) (e : c'.nodes = c.nodes) : AnchoredT T c' :=
  ⟨h.1.congr e, fun ht => (h.2 ht).congr e⟩

theorem CfgOk.congr {T : Bool} {nid : Nat} {c c' : Config} (h : CfgOk T nid c) (e : c'.nodes = c.nodes) : CfgOk T nid c' := by
  unfold CfgOk SelfAct at *
  rw [get_congr e, e]
  exact ⟨h.1, fun hne => (h.2 hne).congr e⟩

theorem CfgP.congr {T : Bool} {nid : Nat} {c c' : Config} (h : CfgP T nid c) (e : c'.nodes = c.nodes) : CfgP T nid c' := by
  unfold CfgP at *
  rw [get_congr e]
  exact ⟨h.1.congr e, h.2⟩

theorem Anchored.nonempty {c : Config} (h : Anchored c) : c.nodes ≠ [] := by
  obtain ⟨a, ha, _⟩ := h
  intro e; rw [e] at ha; cases ha

theorem AnchoredT.nonempty {T : Bool} {c : Config} (h : AnchoredT T c) : c.nodes ≠ [] := h.1.nonempty

theorem CfgP.cfgOk {T : Bool} {nid : Nat} {c : Config} (h : CfgP T nid c) : CfgOk T nid c :=
  ⟨⟨h.2.1, fun _ => h.2.2⟩, fun _ => h.1⟩

theorem cfgOk_empty (T : Bool) (nid : Nat) : CfgOk T nid {} :=
  ⟨⟨Nat.zero_le 4, fun h => absurd (show false = true from h) (by decide)⟩, fun h => absurd rfl h⟩

theorem find_spec {c : Config} {id : Nat} {n : CNode} (h : c.find? id = some n) : n ∈ c.nodes ∧ n.id = id := by
  unfold Config.find? at h
  refine ⟨List.mem_of_find?_eq_some h, ?_⟩
  have := List.find?_some h
  simpa using this

theorem anchor_get {c : Config} {a : CNode} (ha : a ∈ c.nodes) (hu : ∀ m ∈ c.nodes, m.id = a.id → m = a) :
    c.get a.id = a := by
  unfold Config.get
  cases hf : c.find? a.id with
  | none =>
    unfold Config.find? at hf
    have := List.find?_eq_none.mp hf a ha
    simp at this
  | some n =>
    obtain ⟨h1, h2⟩ := find_spec hf
    rw [hu n h1 h2]; rfl

theorem nextAction_anchor {a : CNode} (hv : a.voter = true) (ha : a.action = actNone) : a.nextAction = actNone := by
  unfold CNode.nextAction
  rw [ha, hv]
  decide

theorem mem_insertSorted_of_ne {n x : CNode} {l : List CNode} (h : x ∈ l) (hne : x.id ≠ n.id) :
    x ∈ Config.insertSorted n l := by
  induction l with
  | nil => cases h
  | cons m ms ih =>
    unfold Config.insertSorted
    split
    · exact List.mem_cons_of_mem _ h
    · split
      · rename_i h1 h2
        rcases List.mem_cons.mp h with e | e
        · rw [e] at hne; exact absurd h2.symm hne
        · exact List.mem_cons_of_mem _ e
      · rcases List.mem_cons.mp h with e | e
        · rw [e]; exact List.mem_cons_self
        · exact List.mem_cons_of_mem _ (ih e)

def IsAnchor (c : Config) (a : CNode) : Prop :=
  a ∈ c.nodes ∧ a.voter = true ∧ a.action = actNone ∧ ∀ m ∈ c.nodes, m.id = a.id → m = a

theorem IsAnchor.ne {c : Config} {a : CNode} (h : IsAnchor c a) {x : Nat}
    (hn : (c.get x).nextAction ≠ actNone ∨ (c.get x).action ≠ actNone) : a.id ≠ x := by
  obtain ⟨ha, hv, hact, hu⟩ := h
  intro e
  rw [← e, anchor_get ha hu] at hn
  rcases hn with hn | hn
  · exact hn (nextAction_anchor hv hact)
  · exact hn hact

theorem IsAnchor.set {c : Config} {a : CNode} (h : IsAnchor c a) (n' : CNode)
    (hn : (c.get n'.id).nextAction ≠ actNone ∨ (c.get n'.id).action ≠ actNone) : IsAnchor (c.set n') a := by
  have hne := h.ne hn
  obtain ⟨ha, hv, hact, hu⟩ := h
  refine ⟨mem_insertSorted_of_ne ha hne, hv, hact, ?_⟩
  intro m hm e
  rcases Config.mem_insertSorted hm with e' | e'
  · rw [e'] at e; exact absurd e.symm hne
  · exact hu m e' e

theorem IsAnchor.erase {c : Config} {a : CNode} (h : IsAnchor c a) (x : Nat)
    (hn : (c.get x).nextAction ≠ actNone ∨ (c.get x).action ≠ actNone) : IsAnchor (c.erase x) a := by
  have hne := h.ne hn
  obtain ⟨ha, hv, hact, hu⟩ := h
  refine ⟨?_, hv, hact, ?_⟩
  · unfold Config.erase
    exact List.mem_filter.mpr ⟨ha, by simpa using hne⟩
  · intro m hm e
    unfold Config.erase at hm
    exact hu m (List.mem_filter.mp hm).1 e

theorem anchored_iff (c : Config) : Anchored c ↔ ∃ a, IsAnchor c a :=
  ⟨fun ⟨a, h1, h2, h3, h4⟩ => ⟨a, h1, h2, h3, h4⟩, fun ⟨a, h1, h2, h3, h4⟩ => ⟨a, h1, h2, h3, h4⟩⟩

theorem anchored2_iff (c : Config) : Anchored2 c ↔ ∃ a b, a.id ≠ b.id ∧ IsAnchor c a ∧ IsAnchor c b :=
  ⟨fun ⟨a, h1, b, h2, hne, ⟨x1, x2, x3⟩, ⟨y1, y2, y3⟩⟩ => ⟨a, b, hne, ⟨h1, x1, x2, x3⟩, ⟨h2, y1, y2, y3⟩⟩,
   fun ⟨a, b, hne, ⟨h1, x1, x2, x3⟩, ⟨h2, y1, y2, y3⟩⟩ => ⟨a, h1, b, h2, hne, ⟨x1, x2, x3⟩, ⟨y1, y2, y3⟩⟩⟩

theorem AnchoredT.set {T : Bool} {c : Config} (h : AnchoredT T c) (n' : CNode)
    (hn : (c.get n'.id).nextAction ≠ actNone ∨ (c.get n'.id).action ≠ actNone) : AnchoredT T (c.set n') := by
  refine ⟨?_, fun ht => ?_⟩
  · obtain ⟨a, ha⟩ := (anchored_iff c).mp h.1
    exact (anchored_iff _).mpr ⟨a, ha.set n' hn⟩
  · obtain ⟨a, b, hne, ha, hb⟩ := (anchored2_iff c).mp (h.2 ht)
    exact (anchored2_iff _).mpr ⟨a, b, hne, ha.set n' hn, hb.set n' hn⟩

theorem AnchoredT.erase {T : Bool} {c : Config} (h : AnchoredT T c) (x : Nat)
    (hn : (c.get x).nextAction ≠ actNone ∨ (c.get x).action ≠ actNone) : AnchoredT T (c.erase x) := by
  refine ⟨?_, fun ht => ?_⟩
  · obtain ⟨a, ha⟩ := (anchored_iff c).mp h.1
    exact (anchored_iff _).mpr ⟨a, ha.erase x hn⟩
  · obtain ⟨a, b, hne, ha, hb⟩ := (anchored2_iff c).mp (h.2 ht)
    exact (anchored2_iff _).mpr ⟨a, b, hne, ha.erase x hn, hb.erase x hn⟩

theorem numVoters_of_anchored2 {c : Config} (h : Anchored2 c) : 2 ≤ c.numVoters := by
  obtain ⟨a, b, hne, ha, hb⟩ := (anchored2_iff c).mp h
  unfold Config.numVoters
  have ma : a ∈ c.nodes.filter (·.voter) := List.mem_filter.mpr ⟨ha.1, ha.2.1⟩
  have mb : b ∈ c.nodes.filter (·.voter) := List.mem_filter.mpr ⟨hb.1, hb.2.1⟩
  generalize c.nodes.filter (·.voter) = l at ma mb
  match l, ma, mb with
  | [], ma, _ => cases ma
  | [x], ma, mb =>
    rw [List.mem_singleton] at ma mb
    exact absurd (by rw [ma, mb]) hne
  | _ :: _ :: _, _, _ => simp


theorem QChain.snoc : ∀ (qs : List QItem) (n e : Nat) (q : QItem), QChain n qs e → q.index = e →
    QChain n (qs ++ [q]) (if isLogEntryTyp q.typ then e + 1 else e)
  | [], n, e, q, h, hq => by
    have : n = e := h
    subst this
    exact ⟨hq, rfl⟩
  | x :: xs, n, e, q, h, hq => ⟨h.1, QChain.snoc xs _ e q h.2 hq⟩

theorem splitQueue_chain : ∀ (qs : List QItem) (n e ci : Nat), QChain n qs e → n ≤ ci + 1 → ci + 1 ≤ e →
    QChain n (splitQueue ci qs).1 (ci + 1) ∧ QChain (ci + 1) (splitQueue ci qs).2 e
  | [], n, e, ci, h, h1, h2 => by
    have : n = e := h
    subst this
    have : n = ci + 1 := by omega
    subst this
    exact ⟨rfl, rfl⟩
  | q :: qs, n, e, ci, h, h1, h2 => by
    obtain ⟨hq, hc⟩ := h
    unfold splitQueue
    split
    · rename_i hcond
      have hn' : (if isLogEntryTyp q.typ then n + 1 else n) ≤ ci + 1 := by
        rcases hcond with hc1 | ⟨hc1, hc2⟩
        · split <;> omega
        · have : isLogEntryTyp q.typ = false := by simpa using hc2
          rw [this]; simp; omega
      obtain ⟨a, b⟩ := splitQueue_chain qs _ e ci hc hn' h2
      exact ⟨⟨hq, a⟩, b⟩
    · rename_i hcond
      have hn : n = ci + 1 := by
        by_cases h3 : n ≤ ci
        · exact absurd (Or.inl (by omega)) hcond
        · omega
      subst hn
      exact ⟨rfl, hq, hc⟩

theorem splitQueue_none (qs : List QItem) (n e ci : Nat) (h : QChain n qs e) (hn : ci + 1 < n) :
    splitQueue ci qs = ([], qs) := by
  cases qs with
  | nil => rfl
  | cons q qs =>
    unfold splitQueue
    rw [if_neg]
    have := h.1
    omega


def obsM (s : Node) :=
  (s.log, s.lastLogIndex, s.configs, s.ldr, s.role, s.nid, s.retain, s.snapsDisk, s.snapIndex, s.result,
   s.commitIndex, s.snapResult, s.term, s.leader, s.closed)

theorem fsmFrame_obsM : FsmFrame obsM :=
  ⟨fun s site => by unfold Node.panic; split <;> rfl, fun s t r => by unfold Node.reply; split <;> rfl,
   fun _ _ => rfl⟩

theorem fsmApplyLogTo_ok (s : Node) (upto : Nat) (hp : s.log.prev ≤ s.fsm.index) (hu : upto ≤ s.log.last)
    (hd : LogDec s.log.entries) :
    (s.fsmApplyLogTo upto).panicked = s.panicked ∧ (s.fsmApplyLogTo upto).fsm.index = max s.fsm.index upto := by
  by_cases h : upto ≤ s.fsm.index
  · rw [fsmApplyLogTo_panicked s upto (Or.inl h), fsmApplyLogTo_shape,
      if_neg (fun a : Applies s upto => by have := a.1; omega)]
    exact ⟨rfl, by show s.fsm.index = _; omega⟩
  · have ha := Applies.of_inside (Nat.lt_of_not_le h) hp hu
    rw [fsmApplyLogTo_shape, if_pos ha]
    refine ⟨fsmApplyLogTo_panicked s upto (Or.inr ⟨ha, fun e he ht => ?_⟩), by show upto = _; omega⟩
    have := hd e (List.mem_of_mem_drop (List.mem_of_mem_take he)) ht
    simpa [Entry.config?, ht] using this

/-- a queue chain from `n + 1` is `C03.ItemsFrom n`, and ends where `C03.endPos` says -/
theorem QChain.itemsFrom : ∀ (items : List QItem) (n m : Nat), QChain (n + 1) items m →
    C03.ItemsFrom n items ∧ C03.endPos n items + 1 = m
  | [], _, _, h => ⟨trivial, h⟩
  | q :: qs, n, m, ⟨hq, hc⟩ => by
    unfold C03.ItemsFrom C03.endPos
    simp only [List.filter_cons]
    by_cases hl : isLogEntryTyp q.typ = true
    · rw [if_pos hl] at hc ⊢
      obtain ⟨a, b⟩ := QChain.itemsFrom qs (n + 1) m hc
      exact ⟨⟨hq, a⟩, by unfold C03.endPos at b; rw [if_pos hl, List.length_cons]; omega⟩
    · rw [if_neg hl] at hc ⊢
      obtain ⟨a, b⟩ := QChain.itemsFrom qs n m hc
      exact ⟨⟨hq, a⟩, by rw [if_neg hl]; exact b⟩

theorem fsmApplyItems_ok (items : List QItem) (s : Node) (n m : Nat) (h : QChain n items m)
    (hn : s.fsm.index + 1 = n) :
    (s.fsmApplyItems items).panicked = s.panicked ∧ (s.fsmApplyItems items).fsm.index + 1 = m := by
  subst hn
  obtain ⟨hi, he⟩ := QChain.itemsFrom items _ m h
  obtain ⟨a, _, c, _⟩ := C03.apply_items_contiguous s items hi
  exact ⟨a, by rw [c, he]⟩

def front (ci : Nat) : List QItem → Nat
  | [] => ci + 1
  | q :: _ => q.index

/-- **`fsmApply` completes** (no `ViewAt` failure, nil view, `Get` below the log start, undecodable
configuration, out-of-order item) and leaves `fsm.index = commitIndex`: when the items form the part of
the queue from some index `n` beyond the applied one up to the commit index. -/
theorem fsmApply_chain (s : Node) (items : List QItem) (n : Nat) (hc : QChain n items (s.commitIndex + 1))
    (hn : s.fsm.index < n) (hp : s.log.prev ≤ s.fsm.index) (hl : s.commitIndex ≤ s.log.last)
    (hd : LogDec s.log.entries) :
    (s.fsmApply items).panicked = s.panicked ∧ (s.fsmApply items).fsm.index = s.commitIndex ∧
    obsM (s.fsmApply items) = obsM s := by
  have hfront : front s.commitIndex items = n := by
    cases items with
    | nil => exact (show n = s.commitIndex + 1 from hc).symm
    | cons q qs => exact hc.1
  have hnle : n ≤ s.commitIndex + 1 := by
    clear hfront
    induction items generalizing n with
    | nil => exact Nat.le_of_eq hc
    | cons q qs ih =>
      have := ih _ hc.2 (by split <;> omega)
      split at this <;> omega
  obtain ⟨a1, a2⟩ := fsmApplyLogTo_ok s (n - 1) hp (by omega) hd
  obtain ⟨b1, b2⟩ := fsmApplyItems_ok items (s.fsmApplyLogTo (n - 1)) n (s.commitIndex + 1) hc (by rw [a2]; omega)
  have hci : ((s.fsmApplyLogTo (n - 1)).fsmApplyItems items).commitIndex = s.commitIndex := by
    rw [fsmFrame_commitIndex.fsmApplyItems_eq, fsmFrame_commitIndex.fsmApplyLogTo_eq]
  -- the log part goes up to the first item, the final assertion holds
  have e : s.fsmApply items = (s.fsmApplyLogTo (n - 1)).fsmApplyItems items := by
    have hmid : Order.fsmMid s items = (s.fsmApplyLogTo (n - 1)).fsmApplyItems items := by
      rw [← hfront]; cases items <;> rfl
    have hb : (((s.fsmApplyLogTo (n - 1)).fsmApplyItems items).fsm.index ==
        ((s.fsmApplyLogTo (n - 1)).fsmApplyItems items).commitIndex) = true := by
      rw [hci]; simp; omega
    rw [Order.fsmApply_unfold, if_neg (by omega), if_neg (by omega), hmid, hb]
    rfl
  refine ⟨?_, ?_, fsmFrame_obsM.fsmApply_eq s items⟩
  · rw [e, b1, a1]
  · rw [e]; omega

theorem Glob.congr {s s' : Node} (g : Glob T s) (e1 : s'.log.entries = s.log.entries) (e2 : s'.retain = s.retain)
    (e3 : s'.snapsDisk = s.snapsDisk) (e4 : s'.snapIndex = s.snapIndex) (e5 : s'.role = s.role)
    (e6 : s'.nid = s.nid) (e7 : s'.configs = s.configs) : Glob T s' :=
  ⟨by rw [e1]; exact g.logDec, by rw [e2]; exact g.retain, by rw [e3, e4]; exact g.snaps,
   by rw [e5, e6, e7]; exact g.cand, by rw [e6, e7]; exact g.cfgL, by rw [e6, e7]; exact g.cfgC⟩

theorem LdrR.congr {s₀ s s' : Node} (l : LdrR s₀ s) (e1 : s'.log.prev = s.log.prev) (e2 : s'.ldr = s.ldr)
    (e3 : s'.fsm.index = s.fsm.index) (e4 : s'.lastLogIndex = s.lastLogIndex) (e5 : s'.nid = s.nid)
    (e6 : s'.role = s.role) (e7 : s'.configs = s.configs) : LdrR s₀ s' :=
  ⟨by rw [e1, e2]; exact l.prevLe, by rw [e2, e3, e4]; exact l.queue, by rw [e2, e4]; exact l.matchLe,
   by rw [e2, e5]; exact l.target, by rw [e6]; exact l.notCand, by rw [e5, e7]; exact l.selfNP,
   by rw [e5, e6, e7]; exact l.lv, by rw [e7]; exact l.nonempty, by rw [e4]; exact l.lastMono⟩

theorem LdrR.rebase {s₀ s : Node} (l : LdrR s₀ s) : LdrR s s :=
  ⟨l.prevLe, l.queue, l.matchLe, l.target, l.notCand, l.selfNP, l.lv, l.nonempty, Nat.le_refl _⟩

theorem cache_congr {s s' : Node} (c : LC.Cache s) (e1 : s'.nid = s.nid) (e2 : s'.configs = s.configs)
    (e3 : s'.ldr = s.ldr) : LC.Cache s' := by
  apply c.congr
  unfold LC.view
  rw [e1, e2, e3]

def obsN (s : Node) :=
  (s.log, s.lastLogIndex, s.fsm.index, s.configs, s.ldr, s.role, s.nid, s.retain, s.snapsDisk, s.snapIndex,
   s.result, s.panicked, s.commitIndex, s.snapResult)

theorem obsN_eq {s s' : Node} (h : obsN s' = obsN s) :
    s'.log = s.log ∧ s'.lastLogIndex = s.lastLogIndex ∧ s'.fsm.index = s.fsm.index ∧ s'.configs = s.configs ∧
    s'.ldr = s.ldr ∧ s'.role = s.role ∧ s'.nid = s.nid ∧ s'.retain = s.retain ∧ s'.snapsDisk = s.snapsDisk ∧
    s'.snapIndex = s.snapIndex ∧ s'.result = s.result ∧ s'.panicked = s.panicked ∧
    s'.commitIndex = s.commitIndex ∧ s'.snapResult = s.snapResult := by
  simp only [obsN, Prod.mk.injEq] at h
  exact h

theorem I.of_same {s s' : Node} (h : I F T lr lc R s₀ s) (e : obsN s' = obsN s) : I F T lr lc R s₀ s' := by
  obtain ⟨e1, e2, e3, e4, e5, e6, e7, e8, e9, e10, e11, e12, e13, e14⟩ := obsN_eq e
  have hirr : Order.Irr s s' :=
    ⟨by unfold Order.obs; rw [e1, e2, e3, e4, e5, e10, e13, e14], fun hp => by rw [← e12]; exact hp⟩
  refine ⟨?_, by rw [e6]; exact h.role, by rw [e11, e7]; exact h.res, hirr.inv h.ord, ?_, ?_, ?_⟩
  · unfold PF; rw [e12]; exact h.pf
  · intro hp
    exact (h.glob (by rw [← e12]; exact hp)).congr (by rw [e1]) e8 e9 e10 e6 e7 e4
  · intro hl hp
    exact (h.ldr hl (by rw [← e12]; exact hp)).congr (by rw [e1]) e5 e3 e2 e7 e6 e4
  · intro hl hp
    exact cache_congr (h.cache hl (by rw [← e12]; exact hp)) e7 e4 e5

theorem I.mono {R' : Role → Prop} (h : I F T lr lc R s₀ s) (hR : ∀ r, R r → R' r) : I F T lr lc R' s₀ s :=
  ⟨h.pf, hR _ h.role, h.res, h.ord, h.glob, h.ldr, h.cache⟩

theorem I.weaken {lr' lc' : Bool} (h : I F T lr lc R s₀ s) (h1 : lr' = true → lr = true) (h2 : lc' = true → lc = true) :
    I F T lr' lc' R s₀ s :=
  ⟨h.pf, h.role, h.res, h.ord, h.glob, fun a => h.ldr (h1 a), fun a => h.cache (h2 a)⟩

theorem I.nidEq (h : I F T lr lc R s₀ s) : s.nid = s₀.nid := h.res.2

theorem I.drop (h : I F T lr lc R s₀ s) : I F T false false R s₀ s :=
  h.weaken (fun e => Bool.noConfusion e) (fun e => Bool.noConfusion e)

theorem I.dropC (h : I F T lr lc R s₀ s) : I F T lr false R s₀ s :=
  h.weaken id (fun e => Bool.noConfusion e)

theorem I.core (h : I F T lr lc R s₀ s) (hp : s.panicked = none) : Order.CoreW s ∧ s.commitIndex ≤ s.lastLogIndex := by
  obtain ⟨c, hcl, _, _⟩ := h.ord hp
  exact ⟨c, hcl rfl⟩


theorem panic_of_some (site : String) (h : s.panicked ≠ none) : s.panic site = s := by
  unfold Node.panic
  rw [if_neg (by simpa [Option.isNone_iff_eq_none] using h)]

theorem panic_of_none (site : String) (h : s.panicked = none) : (s.panic site).panicked = some site := by
  unfold Node.panic
  rw [if_pos (by simp [h])]

theorem panic_result (site : String) : (s.panic site).result = s.result := by
  unfold Node.panic; split <;> rfl

theorem i_unreach (site : String) (h : I F T lr lc R s₀ s) (hg : s.panicked = none → False) :
    I F T lr lc R s₀ (s.panic site) := by
  rw [panic_of_some site (fun e => hg e)]; exact h

theorem i_fuel (hF : F) (h : I F T lr lc R s₀ s) : I F T lr lc R s₀ (s.panic "fuel") := by
  by_cases hp : s.panicked = none
  · have hne := panic_panicked_ne s "fuel"
    exact ⟨Or.inr ⟨hF, panic_of_none _ hp⟩, by rw [LC.role_panic]; exact h.role, by rw [panic_result, (LC.panic_frame s _).1]; exact h.res,
      Order.inv_panic _ _, fun e => absurd e hne, fun _ e => absurd e hne, fun _ e => absurd e hne⟩
  · rw [panic_of_some _ hp]; exact h

theorem assert_eq_self {b : Bool} (site : String) (hg : s.panicked = none → b = true) : s.assert b site = s := by
  unfold Node.assert
  split
  · rfl
  · by_cases hp : s.panicked = none
    · rename_i hb; exact absurd (hg hp) hb
    · exact panic_of_some _ hp

theorem i_assert {b : Bool} (site : String) (h : I F T lr lc R s₀ s) (hg : s.panicked = none → b = true) :
    I F T lr lc R s₀ (s.assert b site) := by
  rw [assert_eq_self site hg]; exact h


theorem i_reply (t : Nat) (r : String) (h : I F T lr lc R s₀ s) : I F T lr lc R s₀ (s.reply t r) :=
  h.of_same (by unfold Node.reply; split <;> rfl)
theorem i_point (n : String) (h : I F T lr lc R s₀ s) : I F T lr lc R s₀ (s.point n) := h.of_same rfl
theorem i_popOrder (h : I F T lr lc R s₀ s) : I F T lr lc R s₀ s.popOrder := h.of_same rfl
theorem i_rpcReply (r) (h : I F T lr lc R s₀ s) : I F T lr lc R s₀ (s.withRpcReply r) := h.of_same rfl
theorem i_setLeader (l : Nat) (h : I F T lr lc R s₀ s) : I F T lr lc R s₀ (s.setLeader l) := h.of_same rfl
theorem i_votesNeeded (v : Int) (h : I F T lr lc R s₀ s) : I F T lr lc R s₀ (s.withVotesNeeded v) := h.of_same rfl
theorem i_candTransfer (v : Bool) (h : I F T lr lc R s₀ s) : I F T lr lc R s₀ (s.withCandTransfer v) := h.of_same rfl
theorem i_snapPending (v) (h : I F T lr lc R s₀ s) : I F T lr lc R s₀ (s.withSnapPending v) := h.of_same rfl
theorem i_doClose (r : String) (h : I F T lr lc R s₀ s) : I F T lr lc R s₀ (s.doClose r) :=
  h.of_same (by unfold Node.doClose; split <;> rfl)
theorem i_storeTermVote (t c : Nat) (h : I F T lr lc R s₀ s) : I F T lr lc R s₀ (s.storeTermVote t c) :=
  h.of_same (by unfold Node.storeTermVote Node.point; dsimp only; split <;> rfl)

/-- `storage.setTerm`: the assertion `term ≥ current term` -/
theorem i_setTerm (t : Nat) (h : I F T lr lc R s₀ s) (hg : s.panicked = none → s.term ≤ t) : I F T lr lc R s₀ (s.setTerm t) := by
  unfold Node.setTerm
  split
  · split
    · exact i_storeTermVote _ _ h
    · exact i_unreach _ h (fun hp => by have := hg hp; omega)
  · exact h

/-- `storage.setVotedFor`: the assertion `term ≥ current term` -/
theorem i_setVotedFor (t c : Nat) (h : I F T lr lc R s₀ s) (hg : s.panicked = none → s.term ≤ t) :
    I F T lr lc R s₀ (s.setVotedFor t c) := by
  unfold Node.setVotedFor
  split
  · split
    · exact i_storeTermVote _ _ h
    · exact i_unreach _ h (fun hp => by have := hg hp; omega)
  · exact h

theorem i_ret (r : Nat) (h : I F T lr lc R s₀ s) (hr : r ≠ rUnexpectedErr) : I F T lr lc R s₀ (s.ret r) :=
  ⟨h.pf, h.role, ⟨hr, h.res.2⟩, Order.inv_ret _ h.ord, fun hp => (h.glob hp).congr rfl rfl rfl rfl rfl rfl rfl,
   fun hl hp => (h.ldr hl hp).congr rfl rfl rfl rfl rfl rfl rfl,
   fun hl hp => cache_congr (h.cache hl hp) rfl rfl rfl⟩


theorem i_toFollower (h : I F T lr lc R s₀ s) : I F T lr lc RF s₀ (s.setRole .follower) :=
  ⟨h.pf, rfl, h.res, Order.inv_setRole _ h.ord,
   fun hp => let g := h.glob hp
     ⟨g.logDec, g.retain, g.snaps, (fun e => by cases e), g.cfgL, g.cfgC⟩,
   fun hl hp => let l := h.ldr hl hp
     ⟨l.prevLe, l.queue, l.matchLe, l.target, (fun e => by cases e), l.selfNP, (fun e => by cases e), l.nonempty, l.lastMono⟩,
   fun hl hp => h.cache hl hp⟩

/-- a node that has checked that it is a voter asks for an election -/
theorem i_toCandidate (h : I F T lr lc R s₀ s) (hv : s.panicked = none → s.configs.latest.isVoter s.nid = true) :
    I F T false false (fun r => r = .candidate) s₀ (s.setRole .candidate) :=
  ⟨h.pf, rfl, h.res, Order.inv_setRole _ h.ord,
   fun hp => let g := h.glob hp
     ⟨g.logDec, g.retain, g.snaps, fun _ => hv hp, g.cfgL, g.cfgC⟩,
   fun hl _ => Bool.noConfusion hl, fun hl _ => Bool.noConfusion hl⟩

theorem i_toLeader (h : I F T lr lc R s₀ s) :
    I F T false false (fun r => r = .leader) s₀ ((s.setRole .leader).setLeader s.nid) :=
  ⟨h.pf, rfl, h.res, Order.inv_setLeader _ (Order.inv_setRole _ h.ord),
   fun hp => let g := h.glob hp
     ⟨g.logDec, g.retain, g.snaps, (fun e => by cases e), g.cfgL, g.cfgC⟩,
   fun hl _ => Bool.noConfusion hl, fun hl _ => Bool.noConfusion hl⟩


/-- replacing the leader record: the orderings and the global part survive when the compaction bound stays at
or below the snapshot index; the leader part and the caches must be supplied -/
theorem i_withLdr {lr' lc' : Bool} (l : Leader) (h : I F T lr lc R s₀ s)
    (hrm : s.panicked = none → l.removeLTE ≤ s.snapIndex)
    (hL : lr' = true → s.panicked = none → LdrR s₀ (s.withLdr l))
    (hC : lc' = true → s.panicked = none → LC.Cache (s.withLdr l)) : I F T lr' lc' R s₀ (s.withLdr l) :=
  ⟨h.pf, h.role, h.res, Order.inv_ldr h.ord hrm, fun hp => (h.glob hp).congr rfl rfl rfl rfl rfl rfl rfl, hL, hC⟩

/-- the leader part under a new leader record: to be shown is what reads the record -/
theorem LdrR.withLdr {s₀ s : Node} (L : LdrR s₀ s) (l : Leader) (hp : s.log.prev ≤ l.removeLTE)
    (hq : ∃ n, s.fsm.index < n ∧ QChain n l.queue (s.lastLogIndex + 1))
    (hm : ∀ r ∈ l.repls, r.matchIndex ≤ s.lastLogIndex) (ht : l.transfer.target ≠ 0 → l.transfer.target ≠ s.nid) :
    LdrR s₀ (s.withLdr l) :=
  ⟨hp, hq, hm, ht, L.notCand, L.selfNP, L.lv, L.nonempty, L.lastMono⟩

theorem i_ldrMisc (l : Leader) (h : I F T lr lc R s₀ s) (e1 : l.node = s.ldr.node) (e2 : l.numVoters = s.ldr.numVoters)
    (e3 : l.repls = s.ldr.repls) (e4 : l.removeLTE = s.ldr.removeLTE)
    (hq : lr = true → s.panicked = none → ∃ n, s.fsm.index < n ∧ QChain n l.queue (s.lastLogIndex + 1))
    (ht : lr = true → s.panicked = none → l.transfer.target ≠ 0 → l.transfer.target ≠ s.nid) :
    I F T lr lc R s₀ (s.withLdr l) := by
  refine i_withLdr l h (fun hp => by rw [e4]; exact (h.core hp).1.removeLTE_le) (fun hl hp => ?_) (fun hl hp => ?_)
  · have L := h.ldr hl hp
    exact L.withLdr l (by rw [e4]; exact L.prevLe) (hq hl hp) (by rw [e3]; exact L.matchLe) (ht hl hp)
  · exact LC.cldr l (h.cache hl hp) e1 e2 (by rw [e3])

/-- a new replication table whose statuses stay within the log; the caches are to be supplied -/
theorem i_repls {lc' : Bool} (rs : List Repl) (h : I F T lr lc R s₀ s)
    (hm : lr = true → s.panicked = none → ∀ r ∈ rs, r.matchIndex ≤ s.lastLogIndex)
    (hC : lc' = true → s.panicked = none → LC.Cache (s.withLdr { s.ldr with repls := rs })) :
    I F T lr lc' R s₀ (s.withLdr { s.ldr with repls := rs }) :=
  i_withLdr _ h (fun hp => (h.core hp).1.removeLTE_le)
    (fun hl hp => (h.ldr hl hp).withLdr _ (h.ldr hl hp).prevLe (h.ldr hl hp).queue (hm hl hp) (h.ldr hl hp).target) hC

theorem i_insertRepl {lc' : Bool} (r : Repl) (h : I F T lr lc R s₀ s)
    (hm : lr = true → s.panicked = none → r.matchIndex ≤ s.lastLogIndex)
    (hC : lc' = true → s.panicked = none → LC.Cache (s.setRepl r)) : I F T lr lc' R s₀ (s.setRepl r) := by
  unfold Node.setRepl at hC ⊢
  refine i_repls _ h (fun hl hp x hx => ?_) hC
  rcases mem_insertRepl r x _ hx with e | e
  · rw [e]; exact hm hl hp
  · exact (h.ldr hl hp).matchLe x e

theorem i_setRepl (r st : Repl) (id : Nat) (h : I F T lr lc R s₀ s) (hf : s.findRepl? id = some st)
    (hk : LC.key r = LC.key st) (hm : lr = true → s.panicked = none → r.matchIndex ≤ s.lastLogIndex) :
    I F T lr lc R s₀ (s.setRepl r) :=
  i_insertRepl r h hm (fun hl hp => LC.csetRepl r st id (h.cache hl hp) hf hk)

theorem i_setRepl_same (r st : Repl) (id : Nat) (h : I F T lr lc R s₀ s) (hf : s.findRepl? id = some st)
    (hk : LC.key r = LC.key st) (hm : r.matchIndex = st.matchIndex) : I F T lr lc R s₀ (s.setRepl r) :=
  i_setRepl r st id h hf hk (fun hl hp => by
    rw [hm]; exact (h.ldr hl hp).matchLe st (LC.find_mem (by unfold Node.findRepl? at hf; exact hf)).1)

theorem viewOk_of (h : I F T lr lc R s₀ s) (hp : s.panicked = none) (hv : s.log.prev ≤ s.ldr.removeLTE) :
    s.log.viewOk s.ldr.removeLTE s.lastLogIndex = true := by
  obtain ⟨c, hcl⟩ := h.core hp
  have := c.removeLTE_le; have := c.snap_le_applied; have := c.applied_le_commit
  unfold NLog.viewOk
  simp only [Bool.not_eq_true', Bool.or_eq_false_iff, decide_eq_false_iff_not]
  omega

theorem i_notifyFlr (h : I F T lr lc R s₀ s)
    (hv : s.panicked = none → s.ldr.repls.isEmpty = true ∨ s.log.prev ≤ s.ldr.removeLTE) :
    I F T lr lc R s₀ s.notifyFlr := by
  unfold Node.notifyFlr
  split
  · exact h
  · split
    · exact h
    · rename_i hne hvw
      refine i_unreach _ h (fun hp => ?_)
      rcases hv hp with e | e
      · exact hne e
      · exact hvw (viewOk_of h hp e)

theorem i_notifyFlrL (h : I F T true lc R s₀ s) : I F T true lc R s₀ s.notifyFlr :=
  i_notifyFlr h (fun hp => Or.inr (h.ldr rfl hp).prevLe)

theorem i_addReplication (n : CNode) (h : I F T true lc R s₀ s) (hn : n.id ≠ s.nid) :
    I F T true false R s₀ (s.addReplication n) := by
  unfold Node.addReplication
  extract_lets s1 s2
  have e1 : s1 = s := assert_eq_self _ (fun _ => by simpa using hn)
  have h2 : I F T true false R s₀ s2 := by
    unfold s2
    rw [e1]
    split
    · exact h.dropC
    · rename_i hvw
      exact i_unreach _ h.dropC (fun hp => hvw (viewOk_of h hp (h.ldr rfl hp).prevLe))
  clear_value s2
  exact i_insertRepl _ h2 (fun _ _ => Nat.zero_le _) (fun hl _ => Bool.noConfusion hl)

theorem i_beginFinishedRounds (h : I F T lr lc R s₀ s) : I F T lr lc R s₀ s.beginFinishedRounds := by
  unfold Node.beginFinishedRounds
  refine i_repls _ h (fun hl hp x hx => ?_) (fun hl hp => LC.cbegin (h.cache hl hp))
  obtain ⟨r, hr, rfl⟩ := List.mem_map.mp hx
  have := (h.ldr hl hp).matchLe r hr
  repeat' split
  all_goals exact this


theorem entries_append (l : NLog) (e : Entry) (roll : Bool) : (l.append e roll).entries = l.entries ++ [e] := by
  unfold NLog.append; split <;> rfl

theorem logDec_append {es : List Entry} {e : Entry} (h : LogDec es) (he : e.typ = etConfig → e.cfg.isSome = true) :
    LogDec (es ++ [e]) := by
  intro x hx ht
  rcases List.mem_append.mp hx with h1 | h1
  · exact h x h1 ht
  · rw [List.mem_singleton.mp h1] at ht ⊢; exact he ht

/-- `storage.appendEntry`: the entry is the next one and decodes; for a leader the queue already holds it -/
theorem i_appendEntry (e : Entry) (h : I F T lr lc R s₀ s) (hidx : s.panicked = none → e.index = s.lastLogIndex + 1)
    (hdec : e.typ = etConfig → e.cfg.isSome = true)
    (hq : lr = true → s.panicked = none → ∃ n, s.fsm.index < n ∧ QChain n s.ldr.queue (e.index + 1)) :
    I F T lr lc R s₀ (s.appendEntry e) := by
  have hord := Order.inv_appendEntry e h.ord
  have hcache : ∀ hl : lc = true, (s.appendEntry e).panicked = none → LC.Cache (s.appendEntry e) := by
    intro hl hp
    have hp' : s.panicked = none := (Order.appendEntry_ok hp).2
    exact LC.cappend e (h.cache hl hp')
  unfold Node.appendEntry at hord hcache ⊢
  dsimp only at hord hcache ⊢
  rw [assert_eq_self _ (fun hp => by simpa using hidx hp)] at hord hcache ⊢
  refine ⟨h.pf, h.role, h.res, hord, fun hp => ?_, fun hl hp => ?_, hcache⟩
  · have g := h.glob hp
    refine ⟨?_, g.retain, g.snaps, g.cand, g.cfgL, g.cfgC⟩
    show LogDec (s.log.append e _).entries
    rw [entries_append]; exact logDec_append g.logDec hdec
  · have L := h.ldr hl hp
    have hi := hidx hp
    refine ⟨?_, hq hl hp, ?_, L.target, L.notCand, L.selfNP, L.lv, L.nonempty, ?_⟩
    · show (s.log.append e _).prev ≤ _
      rw [(NLog.append_parts _ _ _).1]; exact L.prevLe
    · intro r hr
      have := L.matchLe r hr
      show r.matchIndex ≤ e.index
      omega
    · have := L.lastMono
      show s₀.lastLogIndex ≤ e.index
      omega

theorem i_commitLog (n : Nat) (h : I F T lr lc R s₀ s) : I F T lr lc R s₀ (s.commitLog n) := by
  obtain ⟨e1, e2, _⟩ := NLog.commitN_same s.log n
  exact ⟨h.pf, h.role, h.res, Order.inv_commitLog n h.ord,
    fun hp => (h.glob hp).congr e2 rfl rfl rfl rfl rfl rfl,
    fun hl hp => (h.ldr hl hp).congr e1 rfl rfl rfl rfl rfl rfl,
    fun hl hp => cache_congr (h.cache hl hp) rfl rfl rfl⟩

theorem setCommitIndexR_spec (s : Node) (i : Nat) :
    (s.setCommitIndexR i).1.log = s.log ∧ (s.setCommitIndexR i).1.lastLogIndex = s.lastLogIndex ∧
    (s.setCommitIndexR i).1.fsm = s.fsm ∧ (s.setCommitIndexR i).1.ldr = s.ldr ∧
    (s.setCommitIndexR i).1.nid = s.nid ∧ (s.setCommitIndexR i).1.retain = s.retain ∧
    (s.setCommitIndexR i).1.snapsDisk = s.snapsDisk ∧ (s.setCommitIndexR i).1.snapIndex = s.snapIndex ∧
    (s.setCommitIndexR i).1.result = s.result ∧ (s.setCommitIndexR i).1.panicked = s.panicked ∧
    (s.setCommitIndexR i).1.configs.latest = s.configs.latest ∧
    ((s.setCommitIndexR i).1.configs.committed = s.configs.committed ∨
      (s.setCommitIndexR i).1.configs.committed = s.configs.latest) ∧
    ((s.setCommitIndexR i).1.role = s.role ∨ (s.setCommitIndexR i).1.role = .follower) ∧
    (((s.setCommitIndexR i).1.configs = s.configs ∧ (s.setCommitIndexR i).1.role = s.role) ∨
      ((s.setCommitIndexR i).1.role = .leader → s.configs.latest.isVoter s.nid = true)) := by
  have sh := Node.setCommitIndexR_shape s i
  obtain ⟨_, k2, k3, k4, k5⟩ := Node.setCommitIndexR_spec s i
  refine ⟨by rw [sh], by rw [sh], by rw [sh], by rw [sh], by rw [sh], by rw [sh], by rw [sh], by rw [sh], by rw [sh],
    by rw [sh], Node.setCommitIndexR_latest s i, ?_, k4.imp id (·.2), ?_⟩
  · cases h : (s.setCommitIndexR i).2 with
    | true => exact Or.inr (by rw [k2 h])
    | false => exact Or.inl (by rw [(k3 h).1])
  · cases h : (s.setCommitIndexR i).2 with
    | true => exact Or.inr fun hl => k5 hl h
    | false => exact Or.inl (k3 h)

theorem i_setCommitIndexR (i : Nat) (h : I F T lr lc R s₀ s) (hRf : R .follower)
    (hg : s.panicked = none → s.fsm.index ≤ i ∧ i ≤ s.lastLogIndex) : I F T lr lc R s₀ (s.setCommitIndexR i).1 := by
  obtain ⟨e1, e2, e3, e4, e5, e6, e7, e8, e9, e10, e11, e12, e13, e14⟩ := setCommitIndexR_spec s i
  refine ⟨by unfold PF; rw [e10]; exact h.pf, ?_, by rw [e9, e5]; exact h.res,
    Order.inv_setCommitIndexR (b' := true) i h.ord (fun hp => ⟨(hg hp).1, fun _ => (hg hp).2⟩),
    fun hp => ?_, fun hl hp => ?_, fun hl hp => ?_⟩
  · rcases e13 with e | e <;> rw [e]
    · exact h.role
    · exact hRf
  · have g := h.glob (by rw [← e10]; exact hp)
    refine ⟨by rw [e1]; exact g.logDec, by rw [e6]; exact g.retain, by rw [e7, e8]; exact g.snaps, ?_,
      by rw [e5, e11]; exact g.cfgL, ?_⟩
    · intro hc
      rw [e5, e11]
      apply g.cand
      rcases e13 with e | e
      · rw [← e]; exact hc
      · rw [e] at hc; cases hc
    · rw [e5]
      rcases e12 with e | e <;> rw [e]
      · exact g.cfgC
      · exact g.cfgL
  · have L := h.ldr hl (by rw [← e10]; exact hp)
    refine ⟨by rw [e1, e4]; exact L.prevLe, by rw [e3, e4, e2]; exact L.queue, by rw [e4, e2]; exact L.matchLe,
      by rw [e4, e5]; exact L.target, ?_, by rw [e11, e5]; exact L.selfNP, ?_, by rw [e11]; exact L.nonempty,
      by rw [e2]; exact L.lastMono⟩
    · rcases e13 with e | e <;> rw [e]
      · exact L.notCand
      · exact fun x => by cases x
    · intro hrl hcm
      rw [e11, e5]
      rcases e14 with ⟨a, b⟩ | a
      · rw [a] at hcm; rw [b] at hrl; exact L.lv hrl hcm
      · exact a hrl
  · exact LC.ccommitR i (h.cache hl (by rw [← e10]; exact hp))


theorem obsM_eq {s s' : Node} (h : obsM s' = obsM s) :
    s'.log = s.log ∧ s'.lastLogIndex = s.lastLogIndex ∧ s'.configs = s.configs ∧ s'.ldr = s.ldr ∧
    s'.role = s.role ∧ s'.nid = s.nid ∧ s'.retain = s.retain ∧ s'.snapsDisk = s.snapsDisk ∧
    s'.snapIndex = s.snapIndex ∧ s'.result = s.result ∧ s'.commitIndex = s.commitIndex ∧
    s'.snapResult = s.snapResult ∧ s'.term = s.term ∧ s'.leader = s.leader ∧ s'.closed = s.closed := by
  simp only [obsM, Prod.mk.injEq] at h
  exact h

theorem fsm_pre (h : I F T lr lc R s₀ s) (hp : s.panicked = none) :
    s.log.prev ≤ s.fsm.index ∧ s.fsm.index ≤ s.commitIndex ∧ s.commitIndex ≤ s.log.last ∧ LogDec s.log.entries := by
  obtain ⟨c, hcl⟩ := h.core hp
  have := c.prev_le_snap; have := c.snap_le_applied; have := c.applied_le_commit; have := c.last_eq
  exact ⟨by omega, by omega, by omega, (h.glob hp).logDec⟩

/-- once the model's budget has failed, that stays the recorded failure -/
theorem fuelClosed : Closed (fun x : Node => x.panicked = some "fuel") :=
  Closed.ofPanicked (· = some "fuel") (fun _ e => by cases e)

/-- after a failure everything but `pf`, `role`, `res` is vacuous -/
theorem I.of_failed {lr' lc' : Bool} {R' : Role → Prop} {t : Node} (h : I F T lr lc R s₀ s) (hp : s.panicked ≠ none)
    (ht : s.panicked = some "fuel" → t.panicked = some "fuel") (hrole : R' t.role) (hres : t.result ≠ rUnexpectedErr ∧ t.nid = s₀.nid) :
    I F T lr' lc' R' s₀ t := by
  have hf : F ∧ t.panicked = some "fuel" := by
    rcases h.pf with e | e
    · exact absurd e hp
    · exact ⟨e.1, ht e.2⟩
  have hne : t.panicked ≠ none := by rw [hf.2]; exact fun e => by cases e
  exact ⟨Or.inr hf, hrole, hres, fun e => absurd e hne, fun e => absurd e hne, fun _ e => absurd e hne,
    fun _ e => absurd e hne⟩

theorem i_applyCommitted (h : I F T false lc R s₀ s) : I F T false lc R s₀ s.applyCommitted := by
  obtain ⟨e1, e2, e3, e4, e5, e6, e7, e8, e9, e10, e11, e12, _⟩ := obsM_eq (fsmFrame_obsM.fsmApply_eq s [])
  have hrole : R s.applyCommitted.role := by show R (s.fsmApply []).role; rw [e5]; exact h.role
  have hres : s.applyCommitted.result ≠ rUnexpectedErr ∧ s.applyCommitted.nid = s₀.nid := by
    show (s.fsmApply []).result ≠ _ ∧ (s.fsmApply []).nid = _; rw [e10, e6]; exact h.res
  by_cases hp : s.panicked = none
  · obtain ⟨p1, p2, p3, p4⟩ := fsm_pre h hp
    obtain ⟨a, b, c⟩ := fsmApply_chain s [] (s.commitIndex + 1) rfl (by omega) p1 p3 p4
    have a' : s.applyCommitted.panicked = s.panicked := a
    exact ⟨by unfold PF; rw [a']; exact h.pf, hrole, hres, Order.inv_applyCommitted h.ord,
      fun _ => (h.glob hp).congr (by show (s.fsmApply []).log.entries = _; rw [e1]) e7 e8 e9 e5 e6 e3,
      fun hl _ => Bool.noConfusion hl, fun hl _ => cache_congr (h.cache hl hp) e6 e3 e4⟩
  · exact h.of_failed hp (fun e => fuelClosed.fsmApply_inv s [] e) hrole hres

/-- `leader.applyCommitted`: the committed part of the queue goes to the FSM, the rest is again a chain beyond
the (new) applied index -/
theorem i_applyCommittedL (h : I F T true lc R s₀ s) : I F T true lc R s₀ s.applyCommittedL := by
  unfold Node.applyCommittedL
  extract_lets sp a1 s1
  obtain ⟨e1, e2, e3, e4, e5, e6, e7, e8, e9, e10, e11, e12, _⟩ := obsM_eq (fsmFrame_obsM.fsmApply_eq s1 sp.1)
  have hrole : R (s1.fsmApply sp.1).role := by rw [e5]; exact h.role
  have hres : (s1.fsmApply sp.1).result ≠ rUnexpectedErr ∧ (s1.fsmApply sp.1).nid = s₀.nid := by rw [e10, e6]; exact h.res
  by_cases hp : s.panicked = none
  · obtain ⟨p1, p2, p3, p4⟩ := fsm_pre h hp
    have L := h.ldr rfl hp
    obtain ⟨c, hcl⟩ := h.core hp
    obtain ⟨n, hn, hq⟩ := L.queue
    -- the items handed over form a chain up to the commit index; the rest a chain beyond it
    have key : ∃ m, s.fsm.index < m ∧ QChain m sp.1 (s.commitIndex + 1) ∧
        ∃ n', s.commitIndex < n' ∧ QChain n' sp.2 (s.lastLogIndex + 1) := by
      by_cases hle : n ≤ s.commitIndex + 1
      · obtain ⟨a, b⟩ := splitQueue_chain s.ldr.queue n (s.lastLogIndex + 1) s.commitIndex hq hle (by omega)
        exact ⟨n, hn, a, s.commitIndex + 1, Nat.lt_succ_self _, b⟩
      · have e := splitQueue_none s.ldr.queue n (s.lastLogIndex + 1) s.commitIndex hq (by omega)
        refine ⟨s.commitIndex + 1, by omega, ?_, n, by omega, ?_⟩
        · show QChain _ (splitQueue s.commitIndex s.ldr.queue).1 _
          rw [e]; rfl
        · show QChain _ (splitQueue s.commitIndex s.ldr.queue).2 _
          rw [e]; exact hq
    obtain ⟨m, hm, hc1, n', hn', hc2⟩ := key
    obtain ⟨a, b, _⟩ := fsmApply_chain s1 sp.1 m hc1 hm p1 p3 p4
    have a' : (s1.fsmApply sp.1).panicked = s.panicked := a
    have b' : (s1.fsmApply sp.1).fsm.index = s.commitIndex := b
    have hl1 : s1.ldr = { s.ldr with queue := sp.2 } := rfl
    refine ⟨by unfold PF; rw [a']; exact h.pf, hrole, hres, Order.inv_applyCommittedL h.ord,
      fun _ => (h.glob hp).congr (by rw [e1]; rfl) e7 e8 e9 e5 e6 e3, fun _ _ => ?_, fun hl _ => ?_⟩
    · refine ⟨by rw [e1, e4, hl1]; exact L.prevLe, ⟨n', by rw [b']; exact hn', by rw [e4, e2, hl1]; exact hc2⟩,
        by rw [e4, e2, hl1]; exact L.matchLe, by rw [e4, e6, hl1]; exact L.target, by rw [e5]; exact L.notCand,
        by rw [e3, e6]; exact L.selfNP, by rw [e5, e3, e6]; exact L.lv, by rw [e3]; exact L.nonempty,
        by rw [e2]; exact L.lastMono⟩
    · have := LC.capplyL (h.cache hl hp)
      unfold Node.applyCommittedL at this
      exact this
  · exact h.of_failed hp (fun e => fuelClosed.fsmApply_inv s1 sp.1 e) hrole hres


theorem i_enqueueRead (q : QItem) (h : I F T true lc R s₀ s) (hi : q.index = s.lastLogIndex + 1)
    (hl : isLogEntryTyp q.typ = false) : I F T true lc R s₀ (s.withLdr { s.ldr with queue := s.ldr.queue ++ [q] }) := by
  refine i_ldrMisc _ h rfl rfl rfl rfl (fun _ hp => ?_) (fun _ hp => (h.ldr rfl hp).target)
  obtain ⟨n, hn, hq⟩ := (h.ldr rfl hp).queue
  refine ⟨n, hn, ?_⟩
  have := QChain.snoc _ _ _ q hq hi
  rw [hl] at this
  exact this

theorem appendEntry_eq (e : Entry) (hidx : s.panicked = none → e.index = s.lastLogIndex + 1) :
    ∃ roll, s.appendEntry e = { s with log := s.log.append e roll, lastLogIndex := e.index, lastLogTerm := e.term } := by
  unfold Node.appendEntry
  dsimp only
  rw [assert_eq_self _ (fun hp => by simpa using hidx hp)]
  exact ⟨_, rfl⟩

theorem i_enqueueLog (q : QItem) (h : I F T true lc R s₀ s) (hi : q.index = s.lastLogIndex + 1)
    (hl : isLogEntryTyp q.typ = true) (hdec : q.typ = etConfig → q.cfg.isSome = true) :
    I F T true lc R s₀ ((s.withLdr { s.ldr with queue := s.ldr.queue ++ [q] }).appendEntry q.toEntry) := by
  have hord := Order.inv_appendEntry q.toEntry (Order.inv_ldr_same (l := { s.ldr with queue := s.ldr.queue ++ [q] }) h.ord rfl)
  obtain ⟨roll, er⟩ := appendEntry_eq (s := s.withLdr { s.ldr with queue := s.ldr.queue ++ [q] }) q.toEntry (fun _ => hi)
  have hcache : ∀ hl : lc = true, s.panicked = none →
      LC.Cache ((s.withLdr { s.ldr with queue := s.ldr.queue ++ [q] }).appendEntry q.toEntry) :=
    fun hl hp => LC.cappend _ (LC.cldr _ (h.cache hl hp) rfl rfl rfl)
  rw [er] at hord hcache ⊢
  refine ⟨h.pf, h.role, h.res, hord, fun hp => ?_, fun _ hp => ?_, fun hl hp => hcache hl hp⟩
  · have g := h.glob hp
    refine ⟨?_, g.retain, g.snaps, g.cand, g.cfgL, g.cfgC⟩
    show LogDec (s.log.append q.toEntry roll).entries
    rw [entries_append]; exact logDec_append g.logDec hdec
  · have L := h.ldr rfl hp
    obtain ⟨n, hn, hq⟩ := L.queue
    have hsn := QChain.snoc _ _ _ q hq hi
    rw [hl] at hsn
    refine ⟨?_, ⟨n, hn, ?_⟩, ?_, L.target, L.notCand, L.selfNP, L.lv, L.nonempty, ?_⟩
    · show (s.log.append q.toEntry roll).prev ≤ _
      rw [(NLog.append_parts _ _ _).1]; exact L.prevLe
    · show QChain n (s.ldr.queue ++ [q]) (q.index + 1)
      rw [hi]; exact hsn
    · intro r hr
      have := L.matchLe r hr
      show r.matchIndex ≤ q.index
      omega
    · have := L.lastMono
      show s₀.lastLogIndex ≤ q.index
      omega


theorem changePre_fields (s : Node) (c : Config) :
    (LC.changePre s c).log = s.log ∧ (LC.changePre s c).lastLogIndex = s.lastLogIndex ∧
    (LC.changePre s c).fsm = s.fsm ∧ (LC.changePre s c).role = s.role ∧ (LC.changePre s c).nid = s.nid ∧
    (LC.changePre s c).retain = s.retain ∧ (LC.changePre s c).snapsDisk = s.snapsDisk ∧
    (LC.changePre s c).snapIndex = s.snapIndex ∧ (LC.changePre s c).result = s.result ∧
    (LC.changePre s c).panicked = s.panicked ∧
    (LC.changePre s c).configs = { committed := s.configs.latest, latest := c } ∧
    (LC.changePre s c).ldr = { s.ldr with node := c.get s.nid, numVoters := c.numVoters,
                                           repls := s.ldr.repls.filter (fun r => c.has r.id) } := by
  unfold LC.changePre
  dsimp only
  rw [changeConfigR_shape]
  exact ⟨rfl, rfl, rfl, rfl, rfl, rfl, rfl, rfl, rfl, rfl, rfl, rfl⟩

/-- the part of `leader.changeConfig` before its "add / refresh replications" loop: the new configuration is the
entry just appended -/
theorem i_changePre (c : Config) (h : I F T true lc R s₀ s) (hc : CfgP T s.nid c)
    (hidx : s.panicked = none → s.configs.latest.index < c.index ∧ c.index ≤ s.lastLogIndex) :
    I F T true false R s₀ (LC.changePre s c) := by
  obtain ⟨e1, e2, e3, e4, e5, e6, e7, e8, e9, e10, e11, e12⟩ := changePre_fields s c
  have hord : Order.Inv s₀ true (LC.changePre s c) :=
    Order.inv_ldr_same (Order.inv_changeConfigR c (Order.inv_ldr_same h.ord rfl)
      (fun hp => ⟨Nat.le_of_lt (hidx hp).1, (hidx hp).2⟩)) rfl
  refine ⟨by unfold PF; rw [e10]; exact h.pf, by rw [e4]; exact h.role, by rw [e9, e5]; exact h.res, hord,
    fun hp => ?_, fun _ hp => ?_, fun hl _ => Bool.noConfusion hl⟩
  · have hp' : s.panicked = none := by rw [← e10]; exact hp
    have g := h.glob hp'
    have L := h.ldr rfl hp'
    exact ⟨by rw [e1]; exact g.logDec, by rw [e6]; exact g.retain, by rw [e7, e8]; exact g.snaps,
      fun hcand => absurd (by rw [← e4]; exact hcand) L.notCand, by rw [e5, e11]; exact hc.cfgOk,
      by rw [e5, e11]; exact g.cfgL⟩
  · have hp' : s.panicked = none := by rw [← e10]; exact hp
    have L := h.ldr rfl hp'
    refine ⟨by rw [e1, e12]; exact L.prevLe, by rw [e3, e12, e2]; exact L.queue, ?_, by rw [e12, e5]; exact L.target,
      by rw [e4]; exact L.notCand, by rw [e11, e5]; exact hc.2.2, ?_, by rw [e11]; exact hc.1.nonempty,
      by rw [e2]; exact L.lastMono⟩
    · rw [e12, e2]
      intro r hr
      exact L.matchLe r (List.mem_filter.mp hr).1
    · intro _ hcm
      rw [e11] at hcm
      have := (hidx hp').1
      unfold Configs.isCommitted at hcm
      simp only [beq_iff_eq] at hcm
      omega

theorem i_changeBody (n : CNode) (h : I F T true false R s₀ s) : I F T true false R s₀ (LC.changeBody s n) := by
  unfold LC.changeBody
  split
  · exact h
  · rename_i hne
    split
    · exact i_addReplication n h hne
    · rename_i r hr
      exact i_insertRepl _ h (fun _ hp => (h.ldr rfl hp).matchLe r (LC.find_mem (by unfold Node.findRepl? at hr; exact hr)).1)
        (fun hl _ => Bool.noConfusion hl)

theorem sticky_changeSync (s : Node) (c : Config) :
    (c.nodes.foldl LC.changeBody (LC.changePre s c)).panicked = none → s.panicked = none := by
  have H := Order.sticky_closed s
  apply Guarded.foldl_inv (Inv := fun x => x.panicked = none → s.panicked = none)
  · intro x n hx
    unfold LC.changeBody
    split
    · exact hx
    · split
      · exact H.addReplication_inv _ _ hx
      · exact H.setRepl_inv _ _ hx
  · unfold LC.changePre
    exact H.ldr _ _ (H.changeConfigR _ _ (H.ldr _ _ (fun h => h)))

/-- `leader.changeConfig` up to its final `checkConfigActions`: the caches describe the new configuration -/
theorem i_changeSync (c : Config) (h : I F T true true R s₀ s) (hc : CfgP T s.nid c)
    (hidx : s.panicked = none → s.configs.latest.index < c.index ∧ c.index ≤ s.lastLogIndex) :
    I F T true true R s₀ (c.nodes.foldl LC.changeBody (LC.changePre s c)) := by
  have h1 := Guarded.foldl_inv LC.changeBody (fun x n hx => i_changeBody n hx) c.nodes _ (i_changePre c h hc hidx)
  refine ⟨h1.pf, h1.role, h1.res, h1.ord, h1.glob, h1.ldr, fun _ hp => ?_⟩
  have hp' := sticky_changeSync s c hp
  have hC := h.cache rfl hp'
  have hm := ((LC.cache_iff s).mp hC).2.2.2.1
  exact LC.cache_changeSync s c hC.sortedRepls (fun r hr => (hm r hr).1)

theorem i_changeConfigR (c : Config) (h : I F T false false R s₀ s) (hc : s.panicked = none → CfgOk T s.nid c)
    (hidx : s.panicked = none → s.configs.latest.index ≤ c.index ∧ c.index ≤ s.lastLogIndex)
    (hr : s.role = .candidate → c.isVoter s.nid = true) : I F T false false R s₀ (s.changeConfigR c) := by
  have hord := Order.inv_changeConfigR c h.ord hidx
  rw [changeConfigR_shape] at hord ⊢
  refine ⟨h.pf, h.role, h.res, hord, fun hp => ?_, fun hl _ => Bool.noConfusion hl, fun hl _ => Bool.noConfusion hl⟩
  have g := h.glob hp
  exact ⟨g.logDec, g.retain, g.snaps, hr, hc hp, g.cfgL⟩

theorem i_revertConfig (h : I F T false false RF s₀ s) (hg : s.panicked = none → s.configs.committed.index ≤ s.lastLogIndex) :
    I F T false false RF s₀ s.revertConfig :=
  ⟨h.pf, h.role, h.res, Order.inv_revertConfig h.ord hg,
   fun hp => let g := h.glob hp
     ⟨g.logDec, g.retain, g.snaps, (fun e => by rw [show s.revertConfig.role = s.role from rfl, h.role] at e; cases e),
      g.cfgC, g.cfgC⟩,
   fun hl _ => Bool.noConfusion hl, fun hl _ => Bool.noConfusion hl⟩


theorem i_snapResult (v : Option SnapRes) (h : I F T lr lc R s₀ s)
    (hg : s.panicked = none → ∀ rs, v = some rs → rs.index ≤ s.snapIndex) : I F T lr lc R s₀ (s.withSnapResult v) :=
  ⟨h.pf, h.role, h.res, Order.inv_snapResult v h.ord hg, fun hp => (h.glob hp).congr rfl rfl rfl rfl rfl rfl rfl,
   fun hl hp => (h.ldr hl hp).congr rfl rfl rfl rfl rfl rfl rfl, fun hl hp => cache_congr (h.cache hl hp) rfl rfl rfl⟩

/-- `snapshotSink.done`: the new snapshot is not older than the current one (and, for the orderings, not beyond
the applied index) -/
theorem i_publishSnapshot (f : SnapFile) (h : I F T lr lc R s₀ s)
    (hg : s.panicked = none → s.snapIndex ≤ f.index ∧ f.index ≤ s.fsm.index) : I F T lr lc R s₀ (s.publishSnapshot f) := by
  have ho := Order.inv_publishSnapshot f h.ord hg
  rw [publishSnapshot_shape] at ho ⊢
  refine ⟨h.pf, h.role, h.res, ho, fun hp => ?_,
    fun hl hp => (h.ldr hl hp).congr rfl rfl rfl rfl rfl rfl rfl, fun hl hp => cache_congr (h.cache hl hp) rfl rfl rfl⟩
  have g := h.glob hp
  refine ⟨g.logDec, g.retain, ?_, g.cand, g.cfgL, g.cfgC⟩
  intro x hx
  show x.index ≤ f.index
  have hx' : x ∈ (insertSnap f s.snapsDisk).take s.retain := hx
  rcases mem_of_mem_insertSnap f x _ (List.mem_of_mem_take hx') with e | e
  · rw [e]; exact Nat.le_refl _
  · have := g.snaps x e; have := (hg hp).1; omega

/-- `Raft.compactLog` at or below the snapshot index and (for a leader) the compaction bound -/
theorem i_compactLog (i : Nat) (h : I F T lr lc R s₀ s) (hg : s.panicked = none → i ≤ s.snapIndex)
    (hL : lr = true → s.panicked = none → i ≤ s.ldr.removeLTE) : I F T lr lc R s₀ (s.compactLog i) := by
  refine ⟨h.pf, h.role, h.res, Order.inv_compactLog i h.ord hg, fun hp => ?_, fun hl hp => ?_,
    fun hl hp => cache_congr (h.cache hl hp) rfl rfl rfl⟩
  · have g := h.glob hp
    refine ⟨?_, g.retain, g.snaps, g.cand, g.cfgL, g.cfgC⟩
    intro e he
    have he' : e ∈ s.log.entries.drop _ := he
    exact g.logDec e (List.mem_of_mem_drop he')
  · have L := h.ldr hl hp
    obtain ⟨c, _⟩ := h.core hp
    obtain ⟨_, _, _, hor, _, _, _⟩ := C09.removeLTE_whole_segments s.log i c.segs
    refine ⟨?_, L.queue, L.matchLe, L.target, L.notCand, L.selfNP, L.lv, L.nonempty, L.lastMono⟩
    show (s.log.removeLTE i).prev ≤ s.ldr.removeLTE
    have := L.prevLe; have := hL hl hp
    rcases hor with e | e <;> omega

def cfgPOpt (T : Bool) (nid : Nat) : Option Config → Prop
  | none => False
  | some c => CfgP T nid c

instance (T : Bool) (nid : Nat) (o : Option Config) : Decidable (cfgPOpt T nid o) := by
  cases o <;> unfold cfgPOpt <;> infer_instance

def BatchOk (T : Bool) (nid : Nat) (b : List QItem) : Prop := ∀ q ∈ b, q.typ = etConfig → cfgPOpt T nid q.cfg

instance (T : Bool) (nid : Nat) (b : List QItem) : Decidable (BatchOk T nid b) := by unfold BatchOk; infer_instance

theorem BatchOk.get {T : Bool} {nid : Nat} {b : List QItem} (h : BatchOk T nid b) {q : QItem} (hq : q ∈ b) (ht : q.typ = etConfig) :
    ∃ c, q.cfg = some c ∧ CfgP T nid c := by
  have := h q hq ht
  cases hc : q.cfg with
  | none => rw [hc] at this; exact absurd this id
  | some c => rw [hc] at this; exact ⟨c, rfl, this⟩

theorem appendEntry_configs (s : Node) (e : Entry) : (s.appendEntry e).configs = s.configs :=
  (assert_fields s (e.index == s.lastLogIndex + 1) "assert.appendEntry").2.2.2.2.2.2.2

theorem cfgP_latest (h : I F T true lc R s₀ s) (hp : s.panicked = none) : CfgP T s₀.nid s.configs.latest := by
  have g := h.glob hp
  have L := h.ldr rfl hp
  rw [← h.nidEq]
  exact ⟨g.cfgL.2 L.nonempty, g.cfgL.1.1, L.selfNP⟩

theorem cfgP_demoteSelf {nid : Nat} {c : Config} (h : CfgP T nid c) (hid : (c.get nid).id = nid)
    (ha : (c.get nid).action ≠ actNone) :
    CfgP T nid (c.set { c.get nid with voter := false, action := actNone }) := by
  have e : ({ c.get nid with voter := false, action := actNone } : CNode).id = nid := hid
  refine ⟨h.1.set _ (Or.inr (by rw [e]; exact ha)), ?_, ?_⟩
  · have := Config.get_set_self c { c.get nid with voter := false, action := actNone }
    rw [e] at this; rw [this]; exact Nat.zero_le _
  · have := Config.get_set_self c { c.get nid with voter := false, action := actNone }
    rw [e] at this; rw [this]; exact (by decide : (0 : Nat) ≠ 1)

theorem cfgP_removeSelf {nid : Nat} {c : Config} (h : CfgP T nid c) (ha : (c.get nid).action ≠ actNone) :
    CfgP T nid (c.erase nid) := by
  refine ⟨h.1.erase nid (Or.inr ha), ?_, ?_⟩ <;> rw [Config.get_erase_self] <;> decide

theorem get_id (c : Config) (id : Nat) : (c.get id).id = id ∨ c.get id = {} := by
  unfold Config.get
  cases hf : c.find? id with
  | none => exact Or.inr rfl
  | some n => exact Or.inl (find_spec hf).2

theorem nextAction_default : ({} : CNode).nextAction = actNone := by decide

/-- the configuration `actionConfig` proposes for a node with a next action: its entry replaced, or erased -/
theorem actionConfig_cases {id : Nat} {c c' : Config} {li : Nat} {st : Repl} (hn : (c.get id).nextAction ≠ actNone)
    (ha : actionConfig li c (c.get id) (c.get id).nextAction st = some c') :
    (∃ n' : CNode, n'.id = id ∧ c' = c.set n') ∨ c' = c.erase id := by
  have hid : (c.get id).id = id := by
    rcases get_id c id with e | e
    · exact e
    · rw [e] at hn; exact absurd nextAction_default hn
  unfold actionConfig at ha
  rw [hid] at ha
  split at ha
  · injection ha with ha; exact Or.inl ⟨_, rfl, ha.symm⟩
  · split at ha
    · split at ha
      · injection ha with ha; exact Or.inr ha.symm
      · cases ha
    · split at ha
      · injection ha with ha; exact Or.inr ha.symm
      · split at ha
        · injection ha with ha; exact Or.inl ⟨_, rfl, ha.symm⟩
        · cases ha

theorem cfgP_actionConfig {nid id : Nat} {c c' : Config} {li : Nat} {st : Repl} (h : CfgP T nid c) (hne : id ≠ nid)
    (hn : (c.get id).nextAction ≠ actNone)
    (ha : actionConfig li c (c.get id) (c.get id).nextAction st = some c') : CfgP T nid c' := by
  rcases actionConfig_cases hn ha with ⟨n', e, rfl⟩ | rfl
  · refine ⟨h.1.set n' (Or.inl (by rw [e]; exact hn)), ?_, ?_⟩ <;> rw [Config.get_set_ne c n' nid (by rw [e]; exact hne)]
    · exact h.2.1
    · exact h.2.2
  · refine ⟨h.1.erase id (Or.inl hn), ?_, ?_⟩ <;> rw [Config.get_erase_ne c id nid hne]
    · exact h.2.1
    · exact h.2.2


theorem voterMatches_le (h : I F T true lc R s₀ s) (hp : s.panicked = none) : ∀ m ∈ s.voterMatches, m ≤ s.lastLogIndex := by
  have L := h.ldr rfl hp
  intro m hm
  unfold Node.voterMatches at hm
  obtain ⟨n, _, rfl⟩ := List.mem_map.mp hm
  split
  · exact Nat.le_refl _
  · cases hf : s.findRepl? n.id with
    | none => exact Nat.zero_le _
    | some r =>
      unfold Node.findRepl? at hf
      exact L.matchLe r (LC.find_mem hf).1

/-- the index the commit rule selects lies within the log, and computing it dereferences nothing that is nil -/
theorem majority_ok (h : I F T true true R s₀ s) (hp : s.panicked = none) :
    s.majorityMatchIndex.1 ≤ s.lastLogIndex ∧ s.majorityMatchIndex.2 = true := by
  have L := h.ldr rfl hp
  refine ⟨?_, C06Cache.majority_no_nil s ((C06Cache.cacheOK_iff s).mpr (h.cache rfl hp)) L.nonempty⟩
  unfold Node.majorityMatchIndex
  split
  · exact Nat.le_refl _
  · dsimp only
    cases hg : (s.voterMatches.mergeSort geB)[s.voterMatches.length / 2 + 1 - 1]? with
    | none => exact Nat.zero_le _
    | some v => exact voterMatches_le h hp v (List.mem_mergeSort.mp (List.mem_of_getElem? hg))


theorem roundStep_matchIndex (l a : Nat) (st : Repl) : (roundStep l a st).1.matchIndex = st.matchIndex := by
  rw [roundStep_shape]

theorem batchOk_tail {nid : Nat} {q : QItem} {qs : List QItem} (h : BatchOk T nid (q :: qs)) : BatchOk T nid qs :=
  fun x hx => h x (List.mem_cons_of_mem _ hx)

theorem resNid_frame : Frame (fun y : Node => (y.result, y.nid)) where
  panic := fun s site => by unfold Node.panic; split <;> rfl
  reply := fun s t r => by unfold Node.reply; split <;> rfl
  point := fun _ _ => rfl
  ldr := fun _ _ => rfl
  log := fun _ _ _ _ => rfl
  logOnly := fun _ _ => rfl
  fsm := fun _ _ => rfl
  configs := fun _ _ => rfl
  commitIndex := fun _ _ => rfl
  leader := fun _ _ => rfl
  role := fun _ _ => rfl
  closed := fun _ _ => rfl
  popOrder := fun _ => rfl

theorem resNid_of {x y : Node} (h : I F T lr lc R s₀ x) (e : (fun z : Node => (z.result, z.nid)) y = (fun z : Node => (z.result, z.nid)) x) :
    y.result ≠ rUnexpectedErr ∧ y.nid = s₀.nid := by
  simp only [Prod.mk.injEq] at e
  rw [e.1, e.2]; exact h.res

theorem i_failed_CAs {x : Node} (n t : Nat) (c : Config) (hx : I F T lr lc R s₀ x) (hp : x.panicked ≠ none) :
    I F T true true RT s₀ (checkConfigActions n x t c) :=
  hx.of_failed hp (fun e => fuelClosed.checkConfigActions_inv n x t c e) trivial
    (resNid_of hx ((resNid_frame.block n).2.2.2.2.1 x t c))

theorem i_failed_DC {x : Node} (n t : Nat) (c : Config) (hx : I F T lr lc R s₀ x) (hp : x.panicked ≠ none) :
    I F T true true RT s₀ (doChangeConfig n x t c) :=
  hx.of_failed hp (fun e => fuelClosed.doChangeConfig_inv n x t c e) trivial
    (resNid_of hx ((resNid_frame.block n).2.2.2.1 x t c))


/-- the budget hypothesis: the model's budget may fail (`F`), or configurations have two anchors (`T`: no
single-voter fast path, membership changes do not nest) and at least `b` units are left -/
def Fuel (F : Prop) (T : Bool) (b fuel : Nat) : Prop := F ∨ (T = true ∧ b ≤ fuel)

/-- … `lo` units if the configuration cannot be changed right now, else `hi` -/
def FuelC (F : Prop) (T : Bool) (s : Node) (lo hi fuel : Nat) : Prop :=
  F ∨ (T = true ∧ ((s.canChangeConfig = false ∧ lo ≤ fuel) ∨ hi ≤ fuel))

theorem Fuel.mono {b b' fuel fuel' : Nat} (h : Fuel F T b fuel) (hle : b ≤ fuel → b' ≤ fuel') : Fuel F T b' fuel' :=
  h.imp id (fun ⟨t, hb⟩ => ⟨t, hle hb⟩)

theorem Fuel.toC {b hi fuel fuel' : Nat} (x : Node) (lo : Nat) (h : Fuel F T b fuel) (hle : b ≤ fuel → hi ≤ fuel') :
    FuelC F T x lo hi fuel' :=
  h.imp id (fun ⟨t, hb⟩ => ⟨t, Or.inr (hle hb)⟩)

theorem I.noPanic (h : I F T lr lc R s₀ s) (hF : ¬ F) : s.panicked = none := by
  rcases h.pf with e | e
  · exact e
  · exact absurd e.1 hF

/-- with two anchors the leader is never on the single-voter fast path -/
theorem not_fast (h : I F T true true R s₀ s) (hT : T = true) (hp : s.panicked = none) :
    ¬ (s.ldr.numVoters = 1 ∧ s.ldr.node.voter = true) := by
  have g := h.glob hp
  have L := h.ldr rfl hp
  have hC := (LC.cache_iff s).mp (h.cache rfl hp)
  have := numVoters_of_anchored2 ((g.cfgL.2 L.nonempty).2 hT)
  intro hf
  rw [hC.1] at hf
  omega

theorem canCC_checkConfigAction (f : Nat) (s : Node) (t : Nat) (c : Config) (id : Nat)
    (h : s.canChangeConfig = false) : (checkConfigAction f s t c id).canChangeConfig = false := by
  rcases C08.checkConfigAction_blocked f s t c id h with e | ⟨r, e⟩ | e <;> rw [e]
  · exact h
  · exact h
  · unfold Node.panic; split <;> exact h

/-- after the replications were synchronised with a newer configuration, it is not committed -/
theorem canCC_changeSync (s : Node) (c : Config) (hidx : s.configs.latest.index < c.index) :
    (c.nodes.foldl LC.changeBody (LC.changePre s c)).canChangeConfig = false := by
  have hfold : ∀ (l : List CNode) (x : Node), (l.foldl LC.changeBody x).configs = x.configs := by
    intro l
    induction l with
    | nil => intro x; rfl
    | cons n ns ih => intro x; rw [List.foldl_cons, ih, (LC.changeBody_sync.frame x n).2.1]
  unfold Node.canChangeConfig Configs.isCommitted
  rw [hfold, (changePre_fields s c).2.2.2.2.2.2.2.2.2.2.1]
  have : (c.index == s.configs.latest.index) = false := by
    simp only [beq_eq_false_iff_ne, ne_eq]
    omega
  show ((c.index == s.configs.latest.index) && _ && _) = false
  rw [this]; rfl

/-- **The leader block never fails** (except — if `F` is granted — by running out of the model's budget) and
preserves the invariant, by induction on the recursion budget. With two anchors (`T`) the stated budgets
suffice. -/
theorem block (s₀ : Node) : ∀ fuel : Nat,
    (∀ s bt, I F T true true RT s₀ s → BatchOk T s₀.nid bt → Fuel F T (bt.length + 4) fuel →
      I F T true true RT s₀ (storeEntry fuel s bt)) ∧
    (∀ s bt, I F T true true RT s₀ s → BatchOk T s₀.nid bt → (F ∨ (T = true ∧ (bt = [] ∨ bt.length + 3 ≤ fuel))) →
      I F T true true RT s₀ (storeItems fuel s bt)) ∧
    (∀ s c, I F T true true RT s₀ s → CfgP T s₀.nid c →
      (s.panicked = none → s.configs.latest.index < c.index ∧ c.index ≤ s.lastLogIndex) → Fuel F T 3 fuel →
      I F T true true RT s₀ (changeConfigL fuel s c)) ∧
    (∀ s t c, I F T true true RT s₀ s → CfgP T s₀.nid c → Fuel F T 6 fuel →
      I F T true true RT s₀ (doChangeConfig fuel s t c)) ∧
    (∀ s t c, I F T true true RT s₀ s → CfgP T s₀.nid c → FuelC F T s 2 8 fuel →
      I F T true true RT s₀ (checkConfigActions fuel s t c)) ∧
    (∀ s t c id, I F T true true RT s₀ s → CfgP T s₀.nid c → FuelC F T s 1 7 fuel →
      I F T true true RT s₀ (checkConfigAction fuel s t c id)) ∧
    (∀ s i, I F T true true RT s₀ s → (s.panicked = none → s.commitIndex < i ∧ i ≤ s.lastLogIndex) → Fuel F T 9 fuel →
      I F T true true RT s₀ (setCommitIndexL fuel s i)) ∧
    (∀ s, I F T true true RT s₀ s → Fuel F T 10 fuel → I F T true true RT s₀ (onMajorityCommit fuel s)) := by
  intro fuel
  induction fuel with
  | zero =>
    have hz : ∀ {b : Nat}, Fuel F T (b + 1) 0 → F := fun h => h.elim id (fun ⟨_, hb⟩ => absurd hb (by omega))
    refine ⟨?_, ?_, ?_, ?_, ?_, ?_, ?_, ?_⟩
    · intro s bt hs _ hb; unfold storeEntry; exact i_fuel (hz hb) hs
    · intro s bt hs _ hb
      cases bt with
      | nil => unfold storeItems; exact hs
      | cons q qs =>
        unfold storeItems
        refine i_fuel (hb.elim id (fun ⟨_, h⟩ => ?_)) hs
        rcases h with h | h
        · cases h
        · simp at h
    · intro s c hs _ _ hb; unfold changeConfigL; exact i_fuel (hz hb) hs
    · intro s t c hs _ hb; unfold doChangeConfig; exact i_fuel (hz hb) hs
    · intro s t c hs _ hb; unfold checkConfigActions
      exact i_fuel (hb.elim (fun h => h) (fun ⟨_, h⟩ => by rcases h with ⟨_, h⟩ | h <;> omega)) hs
    · intro s t c id hs _ hb; unfold checkConfigAction
      exact i_fuel (hb.elim (fun h => h) (fun ⟨_, h⟩ => by rcases h with ⟨_, h⟩ | h <;> omega)) hs
    · intro s i hs _ hb; unfold setCommitIndexL; exact i_fuel (hz hb) hs
    · intro s hs hb; unfold onMajorityCommit; exact i_fuel (hz hb) hs
  | succ n ih =>
    obtain ⟨ihSE, ihSI, ihCL, ihDC, ihCAs, ihCA, ihSC, ihMC⟩ := ih
    refine ⟨?_, ?_, ?_, ?_, ?_, ?_, ?_, ?_⟩
    · -- storeEntry
      intro s bt hs hb hf
      unfold storeEntry
      extract_lets last s1 s2
      have h1 : I F T true true RT s₀ s1 :=
        ihSI _ _ hs hb (hf.imp id (fun ⟨t, h⟩ => ⟨t, Or.inr (by omega)⟩))
      have h2 : I F T true true RT s₀ s2 := by
        unfold s2; split
        · exact ite_ind (fun _ => i_applyCommittedL h1) fun _ => h1
        · exact h1
      -- with two anchors the fast path is never taken: `onMajorityCommit` needs no budget here
      have hMC : ∀ x : Node, I F T true true RT s₀ x → x.ldr.numVoters = 1 ∧ x.ldr.node.voter = true →
          I F T true true RT s₀ (onMajorityCommit n x) := by
        intro x hx hfast
        refine ihMC _ hx ?_
        by_cases hF : F
        · exact Or.inl hF
        · rcases hf with hF' | ⟨hT, _⟩
          · exact absurd hF' hF
          · exact absurd hfast (not_fast hx hT (hx.noPanic hF))
      refine ite_ind (fun _ => ?_) fun _ => h2
      have h3 := i_notifyFlrL (i_beginFinishedRounds h2)
      exact ite_ind (fun hfast => hMC _ h3 hfast) fun _ => h3
    · -- storeItems
      intro s bt hs hb hf
      cases bt with
      | nil => unfold storeItems; exact hs
      | cons q qs =>
        have hfn : F ∨ (T = true ∧ qs.length + 4 ≤ n + 1) := hf.imp id (fun ⟨t, h⟩ => ⟨t, by
          rcases h with h | h
          · cases h
          · simp only [List.length_cons] at h; omega⟩)
        unfold storeItems; dsimp only
        refine ihSI _ _ ?_ (batchOk_tail hb) (hfn.imp id (fun ⟨t, h⟩ => ⟨t, Or.inr (by omega)⟩))
        refine ite_ind (fun _ => i_reply _ _ hs) fun _ =>
          ite_ind (fun _ => ite_ind (fun _ => i_reply _ _ hs) fun _ => i_reply _ _ hs) fun _ => ?_
        refine ite_ind (fun hlog => ?_) fun hlog => i_enqueueRead _ hs rfl (by simpa using hlog)
        · have hdec : ({ q with index := s.lastLogIndex + 1, term := s.term, cfg := q.cfg.map Config.payload } : QItem).typ = etConfig →
              ({ q with index := s.lastLogIndex + 1, term := s.term, cfg := q.cfg.map Config.payload } : QItem).cfg.isSome = true := by
            intro ht
            obtain ⟨c, hc, _⟩ := hb.get List.mem_cons_self ht
            show (q.cfg.map Config.payload).isSome = true
            rw [hc]; rfl
          have h1 := i_enqueueLog { q with index := s.lastLogIndex + 1, term := s.term, cfg := q.cfg.map Config.payload }
            hs rfl hlog hdec
          refine ite_ind (fun htyp => ?_) fun _ => h1
          · split
            · rename_i cfg hcfg
              obtain ⟨c, hc, hcp⟩ := hb.get List.mem_cons_self htyp
              have hnodes : cfg.nodes = c.nodes := config?_nodes (c := c.payload) (congrArg (Option.map Config.payload) hc) hcfg
              refine ihCL _ _ h1 (hcp.congr hnodes) (fun hp => ?_) (hfn.imp id (fun ⟨t, h⟩ => ⟨t, by omega⟩))
              have hidx := (Entry.config?_facts hcfg).2.1
              obtain ⟨_, hp0⟩ := Order.appendEntry_ok hp
              have hp0' : s.panicked = none := hp0
              have hll := (hs.core hp0').1.latest_le_last
              rw [hidx, appendEntry_configs]
              exact ⟨Nat.lt_succ_of_le hll, Nat.le_refl _⟩
            · rename_i hcfg
              exfalso
              obtain ⟨c, hc, _⟩ := hb.get List.mem_cons_self htyp
              rw [Entry.config?_of_cfg htyp (congrArg (Option.map Config.payload) hc)] at hcfg
              cases hcfg
    · -- changeConfigL
      intro s c hs hc hidx hf
      unfold changeConfigL; dsimp only
      have h1 : I F T true true RT s₀ (c.nodes.foldl LC.changeBody (LC.changePre s c)) :=
        i_changeSync c hs (by rw [hs.nidEq]; exact hc) hidx
      by_cases hp : (c.nodes.foldl LC.changeBody (LC.changePre s c)).panicked = none
      · refine ihCAs _ _ _ h1 (cfgP_latest h1 hp) (hf.imp id (fun ⟨t, h⟩ => ⟨t, Or.inl ⟨?_, by omega⟩⟩))
        exact canCC_changeSync s c (hidx (sticky_changeSync s c hp)).1
      · exact i_failed_CAs _ _ _ h1 hp
    · -- doChangeConfig
      intro s t c hs hc hf
      unfold doChangeConfig
      refine ihSE _ _ hs ?_ (hf.mono (by simp only [List.length_singleton]; omega))
      intro q hq ht
      rw [List.mem_singleton.mp hq]
      exact hc
    · -- checkConfigActions
      intro s t c hs hc hf
      by_cases hcc : s.canChangeConfig = true
      · -- the budget covers one change and what follows it
        have hf7 : Fuel F T 7 n := by
          refine hf.imp id (fun ⟨t, h⟩ => ⟨t, ?_⟩)
          rcases h with ⟨h, _⟩ | h
          · rw [hcc] at h; cases h
          · omega
        unfold checkConfigActions
        extract_lets nd cd ce r
        -- the leader's own action
        have hself : I F T true true RT s₀ r.1 ∧ CfgP T s₀.nid r.2 := by
          unfold r cd ce nd
          rw [hs.nidEq]
          split
          · rename_i hcond
            have hf6 : Fuel F T 6 n := hf7.mono (by omega)
            have hid : (c.get s₀.nid).id = s₀.nid := by
              rcases get_id c s₀.nid with e | e
              · exact e
              · rw [e] at hcond; exact absurd rfl hcond.2
            split
            · have hc' := cfgP_demoteSelf hc hid hcond.2
              exact ⟨ihDC _ _ _ hs hc' hf6, hc'⟩
            · split
              · have hc' := cfgP_removeSelf hc hcond.2
                exact ⟨ihDC _ _ _ hs hc' hf6, hc'⟩
              · rename_i h1 h2
                refine ⟨i_unreach _ hs (fun _ => ?_), hc⟩
                simp only [not_or] at h2
                have a1 : (c.get s₀.nid).action ≠ 2 := h1
                have a2 : (c.get s₀.nid).action ≠ 3 := h2.1
                have a3 : (c.get s₀.nid).action ≠ 4 := h2.2
                have a4 : (c.get s₀.nid).action ≠ 0 := hcond.2
                have a5 : (c.get s₀.nid).action ≠ 1 := hc.2.2
                have := hc.2.1
                omega
          · exact ⟨hs, hc⟩
        clear_value r
        apply Guarded.foldl_inv
        · intro x id hx
          split
          · exact ihCA _ _ _ _ hx hself.2 (hf7.toC x 1 (fun h => h))
          · exact hx
        · exact i_popOrder hself.1
      · -- no change is possible: the loop over the replications stays in that state
        have hcc' : s.canChangeConfig = false := by
          cases h : s.canChangeConfig with
          | true => exact absurd h hcc
          | false => rfl
        have hlo : F ∨ (T = true ∧ 1 ≤ n) := hf.imp id (fun ⟨t, h⟩ => ⟨t, by rcases h with ⟨_, h⟩ | h <;> omega⟩)
        rw [C08.checkConfigActions_blocked n s t c hcc']
        refine (Guarded.foldl_inv (Inv := fun x : Node => I F T true true RT s₀ x ∧ x.canChangeConfig = false) _
          (fun x id hx => ?_) _ _ ⟨i_popOrder hs, hcc'⟩).1
        split
        · exact ⟨ihCA _ _ _ _ hx.1 hc (hlo.imp (fun h => h) (fun ⟨t, h⟩ => ⟨t, Or.inl ⟨hx.2, h⟩⟩)),
            canCC_checkConfigAction _ _ _ _ _ hx.2⟩
        · exact hx
    · -- checkConfigAction
      intro s t c id hs hc hf
      unfold checkConfigAction; dsimp only
      split
      · exact hs
      · rename_i st hst
        have hk := LC.roundStep_key s.lastLogIndex (c.get id).nextAction st
        have h1 : I F T true true RT s₀ (s.setRepl (roundStep s.lastLogIndex (c.get id).nextAction st).1) :=
          i_setRepl_same _ st id hs hst hk (roundStep_matchIndex _ _ _)
        split
        · exact hs
        · rename_i hact
          split
          · exact h1
          · split
            · exact h1
            · rename_i hcan
              have hcc : s.canChangeConfig = true := by
                rw [C08.canChangeConfig_setRepl] at hcan
                cases h : s.canChangeConfig with
                | true => rfl
                | false => rw [h] at hcan; exact absurd rfl hcan
              have hf6 : Fuel F T 6 n := hf.imp (fun h => h) (fun ⟨t, h⟩ => ⟨t, by
                rcases h with ⟨h, _⟩ | h
                · rw [hcc] at h; cases h
                · omega⟩)
              split
              · rename_i c' hc'
                by_cases hp : s.panicked = none
                · refine ihDC _ _ _ h1 ?_ hf6
                  have hC := hs.cache rfl hp
                  have hmem := ((LC.cache_iff s).mp hC).2.2.2.1 st (LC.find_mem (by unfold Node.findRepl? at hst; exact hst)).1
                  have hid : st.id = id := (LC.find_mem (by unfold Node.findRepl? at hst; exact hst)).2
                  have hne : id ≠ s₀.nid := by rw [← hs.nidEq, ← hid]; exact hmem.1
                  exact cfgP_actionConfig hc hne hact hc'
                · exact i_failed_DC _ _ _ h1 hp
              · exact h1
    · -- setCommitIndexL
      intro s i hs hi hf
      unfold setCommitIndexL
      extract_lets s1 ready r s2 s3
      have h1 : I F T true true RT s₀ s1 := i_commitLog i hs
      have h2 : I F T true true RT s₀ s2 := i_setCommitIndexR i h1 trivial (fun hp => by
        have hp' : s.panicked = none := hp
        have := (hs.core hp').1.applied_le_commit
        have := hi hp'
        exact ⟨by show s.fsm.index ≤ i; omega, by show i ≤ s.lastLogIndex; omega⟩)
      have hCA : ∀ x : Node, I F T true true RT s₀ x → I F T true true RT s₀ (checkConfigActions n x 0 x.configs.latest) := by
        intro x hx
        by_cases hp : x.panicked = none
        · exact ihCAs _ _ _ hx (cfgP_latest hx hp) (hf.toC x 2 (by omega))
        · exact i_failed_CAs _ _ _ hx hp
      have h3 : I F T true true RT s₀ s3 := by
        unfold s3; split
        · exact hCA _ h2
        · exact h2
      split
      · split
        · refine i_ldrMisc _ (Guarded.foldl_inv _ (fun x t hx => i_reply _ _ hx) _ _ h3) rfl rfl rfl rfl ?_ ?_
          · intro _ hp; exact ((Guarded.foldl_inv _ (fun x t hx => i_reply _ _ hx) _ _ h3).ldr rfl hp).queue
          · intro _ hp; exact ((Guarded.foldl_inv _ (fun x t hx => i_reply _ _ hx) _ _ h3).ldr rfl hp).target
        · exact hCA _ h3
      · exact h3
    · -- onMajorityCommit
      intro s hs hf
      have hf9 : Fuel F T 9 n := hf.mono (by omega)
      unfold onMajorityCommit; dsimp only
      split
      · split
        · rename_i hgt
          refine i_notifyFlrL (i_applyCommittedL (ihSC _ _ hs (fun hp => ⟨hgt.1, (majority_ok hs hp).1⟩) hf9))
        · exact hs
      · rename_i hm
        have hu : I F T true true RT s₀ (s.panic "nil.majorityMatchIndex") :=
          i_unreach _ hs (fun hp => hm (majority_ok hs hp).2)
        split
        · rename_i hgt
          have hne : s.panicked ≠ none := fun hp => hm (majority_ok hs hp).2
          rw [panic_of_some _ hne] at hgt ⊢
          exact i_notifyFlrL (i_applyCommittedL (ihSC _ _ hs (fun hp => absurd hp hne) hf9))
        · exact hu

/-- the budget `fuelFor k` of the handlers covers everything the block needs -/
theorem fuelFor_ok (hFT : F ∨ T = true) (k b : Nat) (hb : b ≤ 64 + 4 * k) : Fuel F T b (fuelFor k) :=
  hFT.imp id (fun t => ⟨t, hb⟩)

theorem i_storeEntry (hFT : F ∨ T = true) (bt : List QItem) (hs : I F T true true RT s₀ s) (hb : BatchOk T s₀.nid bt) :
    I F T true true RT s₀ (storeEntry (fuelFor bt.length) s bt) :=
  (block s₀ _).1 s bt hs hb (fuelFor_ok hFT _ _ (by omega))
theorem i_doChangeConfig (hFT : F ∨ T = true) (k t : Nat) (c : Config) (hs : I F T true true RT s₀ s) (hc : CfgP T s₀.nid c) :
    I F T true true RT s₀ (doChangeConfig (fuelFor k) s t c) :=
  (block s₀ _).2.2.2.1 s t c hs hc (fuelFor_ok hFT _ _ (by omega))
theorem i_checkConfigActions (hFT : F ∨ T = true) (k t : Nat) (c : Config) (hs : I F T true true RT s₀ s) (hc : CfgP T s₀.nid c) :
    I F T true true RT s₀ (checkConfigActions (fuelFor k) s t c) :=
  (block s₀ _).2.2.2.2.1 s t c hs hc ((fuelFor_ok hFT k 8 (by omega)).toC s 2 (fun h => h))
theorem i_checkConfigAction (hFT : F ∨ T = true) (k t : Nat) (c : Config) (id : Nat) (hs : I F T true true RT s₀ s)
    (hc : CfgP T s₀.nid c) : I F T true true RT s₀ (checkConfigAction (fuelFor k) s t c id) :=
  (block s₀ _).2.2.2.2.2.1 s t c id hs hc ((fuelFor_ok hFT k 7 (by omega)).toC s 1 (fun h => h))
theorem i_onMajorityCommit (hFT : F ∨ T = true) (k : Nat) (hs : I F T true true RT s₀ s) :
    I F T true true RT s₀ (onMajorityCommit (fuelFor k) s) :=
  (block s₀ _).2.2.2.2.2.2.2 s hs (fuelFor_ok hFT _ _ (by omega))

theorem i_checkConfigActions_latest (hFT : F ∨ T = true) (k t : Nat) (h : I F T true true RT s₀ s) :
    I F T true true RT s₀ (checkConfigActions (fuelFor k) s t s.configs.latest) := by
  by_cases hp : s.panicked = none
  · exact i_checkConfigActions hFT k t _ h (cfgP_latest h hp)
  · exact i_failed_CAs _ _ _ h hp

theorem i_checkConfigAction_latest (hFT : F ∨ T = true) (k t id : Nat) (h : I F T true true RT s₀ s) :
    I F T true true RT s₀ (checkConfigAction (fuelFor k) s t s.configs.latest id) := by
  by_cases hp : s.panicked = none
  · exact i_checkConfigAction hFT k t _ id h (cfgP_latest h hp)
  · exact h.of_failed hp (fun e => fuelClosed.checkConfigAction_inv _ s t _ id e) trivial
      (resNid_of h ((resNid_frame.block _).2.2.2.2.2.1 s t _ id))


theorem isVoter_mem {c : Config} {id : Nat} (h : c.isVoter id = true) : ∃ n ∈ c.nodes, n.id = id ∧ n.voter = true := by
  unfold Config.isVoter at h
  cases hf : c.find? id with
  | none => rw [hf] at h; cases h
  | some n => rw [hf] at h; exact ⟨n, (find_spec hf).1, (find_spec hf).2, h⟩

/-- `leader.checkQuorum`: every other voter has a replication -/
theorem i_checkQuorum (h : I F T true true R s₀ s) : I F T true true RT s₀ s.checkQuorum := by
  unfold Node.checkQuorum
  extract_lets vs reachable s1
  have h1 : I F T true true R s₀ s1 := by
    unfold s1
    split
    · rename_i hany
      refine i_unreach _ h (fun hp => ?_)
      obtain ⟨n, hn, hb⟩ := List.any_eq_true.mp hany
      unfold vs at hn
      simp only [List.mem_filter] at hn
      simp only [Bool.and_eq_true, bne_iff_ne, ne_eq, Option.isNone_iff_eq_none] at hb
      obtain ⟨r, hr, _⟩ := C06Cache.member_has_replication s ((C06Cache.cacheOK_iff s).mpr (h.cache rfl hp)) n hn.1 hb.1
      rw [hr] at hb
      exact absurd hb.2 (by simp)
    · exact h
  split
  · exact h1.mono (fun _ _ => trivial)
  · exact (i_setLeader 0 (i_toFollower h1)).mono (fun _ _ => trivial)


theorem tryTransferTarget_ok (h : I F T true true R s₀ s) (hp : s.panicked = none) : s.tryTransferTarget.2 = false := by
  have L := h.ldr rfl hp
  unfold Node.tryTransferTarget
  dsimp only
  split
  · rename_i h0
    split
    · rename_i hv
      split
      · rfl
      · rename_i hn
        exfalso
        obtain ⟨n, hn1, hn2, _⟩ := isVoter_mem hv
        obtain ⟨r, hr, _⟩ := C06Cache.member_has_replication s ((C06Cache.cacheOK_iff s).mpr (h.cache rfl hp)) n hn1
          (by rw [hn2]; exact L.target h0)
        rw [hn2] at hr
        rw [hr] at hn
        cases hn
    · rfl
  · rfl

theorem i_tryTransfer (h : I F T true true R s₀ s) : I F T true true R s₀ s.tryTransfer := by
  unfold Node.tryTransfer
  extract_lets r s1 s2
  have h1 : I F T true true R s₀ s1 := by
    unfold s1; split
    · exact i_popOrder h
    · exact h
  have h2 : I F T true true R s₀ s2 := by
    unfold s2; split
    · rename_i hr2
      refine i_unreach _ h1 (fun hp => ?_)
      have hp' : s.panicked = none := by
        have : s1.panicked = s.panicked := by unfold s1; split <;> rfl
        rw [← this]; exact hp
      have := tryTransferTarget_ok h hp'
      unfold r at hr2
      rw [this] at hr2
      cases hr2
    · exact h1
  split
  · exact i_ldrMisc _ h2 rfl rfl rfl rfl (fun _ hp => (h2.ldr rfl hp).queue) (fun _ hp => (h2.ldr rfl hp).target)
  · exact h2

theorem i_transferReply (r : String) (h : I F T true lc R s₀ s) : I F T true lc R s₀ (s.transferReply r) := by
  unfold Node.transferReply
  have h1 := i_reply s.ldr.transfer.task r h
  exact i_ldrMisc _ h1 rfl rfl rfl rfl (fun _ hp => (h1.ldr rfl hp).queue) (fun _ _ h0 => absurd rfl h0)

theorem validateTransfer_ok (s : Node) (t : Nat) (h : s.validateTransfer t = "") (h0 : t ≠ 0) : t ≠ s.nid := by
  unfold Node.validateTransfer at h
  split at h
  · exact absurd h (by decide)
  · split at h
    · exact absurd h (by decide)
    · first | rw [if_pos h0] at h | skip
      split at h
      · exact absurd h (by decide)
      · assumption

theorem i_onTransfer (t g : Nat) (h : I F T true true R s₀ s) : I F T true true R s₀ (s.onTransfer t g) := by
  unfold Node.onTransfer
  dsimp only
  split
  · exact i_reply _ _ h
  · rename_i hv
    have hv' : s.validateTransfer g = "" := by
      cases hs : s.validateTransfer g == "" with
      | true => simpa using hs
      | false => exact absurd (by simpa using hs) hv
    exact i_tryTransfer (i_ldrMisc _ h rfl rfl rfl rfl (fun _ hp => (h.ldr rfl hp).queue)
      (fun _ _ h0 => validateTransfer_ok s g hv' h0))

theorem i_replyTransfer (hFT : F ∨ T = true) (r : String) (h : I F T true true RT s₀ s) :
    I F T true true RT s₀ (s.replyTransfer r) := by
  unfold Node.replyTransfer
  exact i_checkConfigActions_latest hFT 0 _ (i_transferReply r h)

/-- `leader.onTimeoutNowResult`: an error is reported for a node that has a replication -/
theorem i_onTimeoutNowResult (hFT : F ∨ T = true) (src : Nat) (e : Bool) (r : Nat) (h : I F T true true RT s₀ s)
    (hsrc : e = true → s.panicked = none → s.findRepl? src ≠ none) : I F T true true RT s₀ (s.onTimeoutNowResult src e r) := by
  unfold Node.onTimeoutNowResult
  extract_lets l0 t0 s1 s2 l1 t1
  have h0 : I F T true true RT s₀ s1 :=
    i_ldrMisc _ h rfl rfl rfl rfl (fun _ hp => (h.ldr rfl hp).queue) (fun _ hp => (h.ldr rfl hp).target)
  split
  · rename_i he
    have h2 : I F T true true RT s₀ s2 := by
      unfold s2
      split
      · rename_i st hst
        split
        · exact i_setRepl_same _ st src h0 hst rfl rfl
        · exact h0
      · rename_i hn
        exact i_unreach _ h0 (fun hp => hsrc he hp hn)
    split
    · exact i_tryTransfer h2
    · exact h2
  · split
    · split
      · exact i_replyTransfer hFT _ h0
      · exact i_tryTransfer h0
    · exact i_ldrMisc _ h0 rfl rfl rfl rfl (fun _ hp => (h0.ldr rfl hp).queue) (fun _ hp => (h0.ldr rfl hp).target)

theorem i_onWaitForStable (t : Nat) (h : I F T true lc R s₀ s) : I F T true lc R s₀ (s.onWaitForStable t) :=
  onWaitForStable_of (fun _ t r h => i_reply t r h) (fun _ _ h => i_ldrMisc _ h rfl rfl rfl rfl
    (fun _ hp => (h.ldr rfl hp).queue) (fun _ hp => (h.ldr rfl hp).target)) s t h


/-- what is asked of a configuration submitted by a client: member ids strictly increasing (the model's
representation of a Go map), the action of the receiving node's own entry one of the five defined ones, and
— for the two-anchor theorems (`T`) — at least two voters without pending action -/
def UserCfg (T : Bool) (nid : Nat) (c : Config) : Prop :=
  c.nodes.Pairwise (fun a b => a.id < b.id) ∧ (c.get nid).action ≤ 4 ∧
  (T = true → 2 ≤ (c.nodes.filter (fun n => n.voter && n.action == actNone)).length)

instance (T : Bool) (nid : Nat) (c : Config) : Decidable (UserCfg T nid c) := by unfold UserCfg; infer_instance

theorem sorted_unique (l : List CNode) (hl : l.Pairwise (fun a b => a.id < b.id)) :
    ∀ x ∈ l, ∀ y ∈ l, x.id = y.id → x = y := by
  induction l with
  | nil => intro x hx; cases hx
  | cons z zs ih =>
    have h1 := (List.pairwise_cons.mp hl).1
    have h2 := (List.pairwise_cons.mp hl).2
    intro x hx y hy exy
    rcases List.mem_cons.mp hx with e1 | e1 <;> rcases List.mem_cons.mp hy with e2 | e2
    · rw [e1, e2]
    · have := h1 y e2; rw [e1] at exy; omega
    · have := h1 x e1; rw [e2] at exy; omega
    · exact ih h2 x e1 y e2 exy

theorem isAnchor_of_sorted {c : Config} (hs : c.nodes.Pairwise (fun a b => a.id < b.id)) {a : CNode}
    (ha : a ∈ c.nodes.filter (fun n => n.voter && n.action == actNone)) : IsAnchor c a := by
  obtain ⟨h1, h2⟩ := List.mem_filter.mp ha
  simp only [Bool.and_eq_true, beq_iff_eq] at h2
  exact ⟨h1, h2.1, h2.2, fun m hm e => sorted_unique c.nodes hs m hm a h1 e⟩

theorem anchoredT_of_sorted {T : Bool} {c : Config} (hs : c.nodes.Pairwise (fun a b => a.id < b.id))
    (ha : c.nodes.any (fun n => n.voter && n.action == actNone) = true)
    (h2 : T = true → 2 ≤ (c.nodes.filter (fun n => n.voter && n.action == actNone)).length) : AnchoredT T c := by
  constructor
  · obtain ⟨a, ha1, ha2⟩ := List.any_eq_true.mp ha
    exact (anchored_iff c).mpr ⟨a, isAnchor_of_sorted hs (List.mem_filter.mpr ⟨ha1, ha2⟩)⟩
  · intro hT
    have hlen := h2 hT
    have hp : (c.nodes.filter (fun n => n.voter && n.action == actNone)).Pairwise (fun a b => a.id < b.id) :=
      List.Pairwise.filter _ hs
    have hmem : ∀ x ∈ c.nodes.filter (fun n => n.voter && n.action == actNone), IsAnchor c x :=
      fun x hx => isAnchor_of_sorted hs hx
    generalize c.nodes.filter (fun n => n.voter && n.action == actNone) = l at hlen hp hmem
    match l, hlen, hp, hmem with
    | x :: y :: _, _, hp, hmem =>
      have hlt := (List.pairwise_cons.mp hp).1 y List.mem_cons_self
      exact (anchored2_iff c).mpr ⟨x, y, by omega, hmem x List.mem_cons_self,
        hmem y (List.mem_cons_of_mem _ List.mem_cons_self)⟩

theorem cfgP_newConf (h : I F T true true RT s₀ s) (hp : s.panicked = none) (hr : s.role = .leader) (c : Config)
    (hu : UserCfg T s.nid c) (hcm : s.configs.isCommitted = true) (hv : configValid c = true)
    (h5 : ∀ n ∈ s.configs.latest.nodes, ∃ nn, c.find? n.id = some nn ∧ nn.voter = n.voter)
    (h7 : c.nodes.any (fun n => n.voter && n.action == actNone) = true) : CfgP T s₀.nid c := by
  have L := h.ldr rfl hp
  rw [← h.nidEq]
  refine ⟨anchoredT_of_sorted hu.1 h7 hu.2.2, hu.2.1, ?_⟩
  obtain ⟨n, hn1, hn2, hn3⟩ := isVoter_mem (L.lv hr hcm)
  obtain ⟨nn, hf, hvo'⟩ := h5 n hn1
  rw [hn2] at hf
  have hvo : nn.voter = true := by rw [hvo', hn3]
  · have hget : c.get s.nid = nn := by unfold Config.get; rw [hf]; rfl
    rw [hget]
    have hmem := (find_spec hf).1
    unfold configValid at hv
    simp only [Bool.and_eq_true, List.all_eq_true] at hv
    have hnv := hv.1.1 nn hmem
    unfold nodeValid at hnv
    simp only [Bool.and_eq_true, Bool.not_eq_true', decide_eq_false_iff_not, not_and] at hnv
    intro hact
    exact absurd hvo (by simpa using hnv.1.2 hact)

theorem i_onChangeConfig (hFT : F ∨ T = true) (t : Nat) (c : Config) (h : I F T true true RT s₀ s) (hr : s.role = .leader)
    (hu : UserCfg T s.nid c) : I F T true true RT s₀ (s.onChangeConfig t c) := by
  refine onChangeConfig_cases s t c (fun _ => i_reply _ _ h) fun ad => ?_
  dsimp only
  by_cases hp : s.panicked = none
  · have h5' : ∀ n ∈ s.configs.latest.nodes, ∃ nn, c.find? n.id = some nn ∧ nn.voter = n.voter := by
      intro n hn
      have h5a : ¬ _ := ad.voters
      rw [List.any_eq_true] at h5a
      cases hf : c.find? n.id with
      | none => exact absurd ⟨n, hn, by rw [hf]⟩ h5a
      | some nn =>
        refine ⟨nn, rfl, ?_⟩
        cases hnv : nn.voter <;> cases hv : n.voter <;> first | rfl | exact absurd ⟨n, hn, by rw [hf]; dsimp only; rw [hnv, hv]; rfl⟩ h5a
    have hc : CfgP T s₀.nid c := cfgP_newConf h hp hr c hu ad.committed ad.valid h5' (by simpa using ad.anchor)
    have hA := i_checkConfigActions hFT 0 t c h hc
    exact ite_ind (fun _ => i_doChangeConfig hFT 1 _ _ hA hc) fun _ => hA
  · have hf := i_failed_CAs (fuelFor 0) t c h hp
    exact ite_ind
      (fun _ => i_failed_DC _ _ _ hf (fun e => hp ((Order.sticky_closed s).checkConfigActions_inv _ s t c (fun x => x) e)))
      fun _ => hf

/-- what is asked of one replication update (unless its status object was removed): a match index within
the leader's log, a newer term not below the leader's term -/
def UpdOk (s : Node) (u : ReplUpdate) : Prop :=
  u.removed = false →
    (∀ v, u.upd = .matchIndex v → v ≤ s.lastLogIndex) ∧ (∀ v, u.upd = .newTerm v → s.term ≤ v)

instance (s : Node) (u : ReplUpdate) : Decidable (UpdOk s u) := by
  unfold UpdOk
  cases h : u.upd with
  | matchIndex v =>
    exact if hr : u.removed = false then
      (if hv : v ≤ s.lastLogIndex then
        isTrue (fun _ => ⟨fun w e => (by injection e with e; rw [← e]; exact hv), fun w e => (by cases e)⟩)
       else isFalse (fun hf => hv ((hf hr).1 v rfl)))
    else isTrue (fun hr' => absurd hr' hr)
  | newTerm v =>
    exact if hr : u.removed = false then
      (if hv : s.term ≤ v then
        isTrue (fun _ => ⟨fun w e => (by cases e), fun w e => (by injection e with e; rw [← e]; exact hv)⟩)
       else isFalse (fun hf => hv ((hf hr).2 v rfl)))
    else isTrue (fun hr' => absurd hr' hr)
  | removeLTE v => exact isTrue (fun _ => ⟨fun w e => (by cases e), fun w e => (by cases e)⟩)
  | noContact b => exact isTrue (fun _ => ⟨fun w e => (by cases e), fun w e => (by cases e)⟩)

theorem term_setRepl (s : Node) (r : Repl) : (s.setRepl r).term = s.term := rfl

theorem term_checkConfigAction (f : Nat) (s : Node) (t : Nat) (c : Config) (id : Nat) :
    (checkConfigAction f s t c id).term = s.term := by
  have := (termVote_frame.block f).2.2.2.2.2.1 s t c id
  simp only [Prod.mk.injEq] at this
  exact this.1

theorem i_replUpdLoop (hFT : F ∨ T = true) (us : List ReplUpdate) : ∀ (s : Node) (f : UpdFlags), I F T true true RT s₀ s → s.term = s₀.term →
    (∀ u ∈ us, UpdOk s₀ u) → I F T true true RT s₀ (replUpdLoop s f us).1 := by
  induction us with
  | nil => intro s f h _ _; exact h
  | cons u us ih =>
    intro s f h ht hu
    have hu' : ∀ u ∈ us, UpdOk s₀ u := fun x hx => hu x (List.mem_cons_of_mem _ hx)
    have hu0 := hu u List.mem_cons_self
    unfold replUpdLoop
    split
    · exact ih _ _ h ht hu'
    · rename_i hrem
      have hrem' : u.removed = false := by simpa using hrem
      split
      · exact ih _ _ h ht hu'
      · rename_i st hst
        split
        · rename_i v hv
          dsimp only
          have h1 : I F T true true RT s₀ (s.setRepl { st with matchIndex := v }) :=
            i_setRepl _ st u.id h hst rfl (fun _ hp => by
              have := (hu0 hrem').1 v hv
              have := (h.ldr rfl hp).lastMono
              show v ≤ s.lastLogIndex
              omega)
          split
          · refine ih _ _ (i_checkConfigAction_latest hFT 0 _ _ h1) ?_ hu'
            rw [term_checkConfigAction]; exact ht
          · exact ih _ _ h1 ht hu'
        · rename_i v hv
          exact ih _ _ (i_setRepl_same _ st u.id h hst rfl rfl) ht hu'
        · rename_i b hv
          exact ih _ _ (i_setRepl_same _ st u.id h hst rfl rfl) ht hu'
        · rename_i v hv
          dsimp only
          refine i_setTerm v ((i_setLeader 0 (i_toFollower h)).mono (fun _ _ => trivial)) (fun _ => ?_)
          have := (hu0 hrem').2 v hv
          show s.term ≤ v
          omega

theorem i_checkLogCompact (h : I F T true lc R s₀ s) : I F T true lc R s₀ s.checkLogCompact :=
  checkLogCompact_of (fun _ h => i_compactLog _ h (fun hp => (h.core hp).1.removeLTE_le) (fun _ _ => Nat.le_refl _)) s h

theorem i_checkReplUpdates (hFT : F ∨ T = true) (us : List ReplUpdate) (h : I F T true true RT s₀ s) (ht : s.term = s₀.term)
    (hu : ∀ u ∈ us, UpdOk s₀ u) : I F T true true RT s₀ (s.checkReplUpdates us) := by
  unfold Node.checkReplUpdates
  extract_lets r s1 f s2 s3 s4
  have h1 : I F T true true RT s₀ s1 := i_replUpdLoop hFT us s {} h ht hu
  split
  · exact h1
  · have h2 : I F T true true RT s₀ s2 := by
      unfold s2; split
      · exact i_onMajorityCommit hFT 0 h1
      · exact h1
    have h3 : I F T true true RT s₀ s3 := by
      unfold s3; split
      · exact i_checkQuorum h2
      · exact h2
    have h4 : I F T true true RT s₀ s4 := by
      unfold s4; split
      · exact i_checkLogCompact h3
      · exact h3
    split
    · exact i_tryTransfer h4
    · exact h4


theorem I.rebase (h : I F T lr lc R s₀ s) : I F T lr lc R s s :=
  ⟨h.pf, h.role, ⟨h.res.1, rfl⟩,
   fun hp => let ⟨c, hcl, _, _⟩ := h.ord hp; ⟨c, hcl, Nat.le_refl _, Nat.le_refl _⟩,
   h.glob, fun hl hp => (h.ldr hl hp).rebase, h.cache⟩

theorem get_of_isVoter {c : Config} {id : Nat} (h : c.isVoter id = true) : (c.get id).voter = true := by
  unfold Config.isVoter at h
  unfold Config.get
  cases hf : c.find? id with
  | none => rw [hf] at h; cases h
  | some n => rw [hf] at h; exact h

theorem i_initBody (n : CNode) (h : I F T true false R s₀ s) : I F T true false R s₀ (LC.initBody s n) := by
  unfold LC.initBody
  split
  · exact h
  · rename_i hne
    exact i_addReplication n h hne

/-- **`leader.init` establishes the leader part of the invariant** for a node that has just won an election:
`leader = nid` and it is a voter of its latest configuration. -/
theorem i_leaderInit (hFT : F ∨ T = true) (h : I F T false false R s₀ s) (hr : s.role = .leader)
    (hl : s.panicked = none → s.leader = s.nid ∧ s.configs.latest.isVoter s.nid = true) :
    I F T true true RT s s.leaderInit := by
  have hb := h.rebase
  unfold Node.leaderInit
  extract_lets s1 s2 s3 s4
  have e1 : s1 = s := assert_eq_self _ (fun hp => by simpa using (hl hp).1)
  have h2 : I F T true false RT s s2 := by
    unfold s2
    rw [e1]
    refine (i_withLdr _ hb (fun hp => (hb.core hp).1.prev_le_snap) (fun _ hp => ?_) (fun hc _ => Bool.noConfusion hc)).mono
      (fun _ _ => trivial)
    obtain ⟨c, hcl⟩ := hb.core hp
    have g := hb.glob hp
    have hv := (hl hp).2
    have := c.applied_le_commit
    refine ⟨Nat.le_refl _, ⟨s.lastLogIndex + 1, (by show s.fsm.index < _; omega), rfl⟩, (fun r hr => by cases hr),
      (fun h0 => absurd rfl h0), ?_, g.cfgL.1.2 (get_of_isVoter hv), (fun _ _ => hv), ?_, Nat.le_refl _⟩
    · show s.role ≠ .candidate
      rw [hr]; exact fun x => by cases x
    · obtain ⟨n, hn, _⟩ := isVoter_mem hv
      intro e
      have e' : s.configs.latest.nodes = [] := e
      rw [e'] at hn
      cases hn
  have h3 : I F T true true RT s s3 := by
    have h3' : I F T true false RT s s3 := Guarded.foldl_inv _ (fun x n hx => i_initBody n hx) _ _ h2
    refine ⟨h3'.pf, h3'.role, h3'.res, h3'.ord, h3'.glob, h3'.ldr, fun _ _ => ?_⟩
    exact LC.cache_initSync s
  have h4 : I F T true true RT s s4 := i_checkConfigActions_latest hFT 0 _ h3
  refine i_storeEntry hFT [{ typ := etNop }] h4 ?_
  intro q hq ht
  rw [List.mem_singleton.mp hq] at ht
  exact absurd ht (by decide)

theorem i_leaderReleaseRest {x : Node} (h : I F T false false R s₀ x) : I F T false false R s₀ x.leaderReleaseRest := by
  unfold Node.leaderReleaseRest
  extract_lets s1 err s2 s3
  have h1 : I F T false false R s₀ s1 := by
    unfold s1; split
    · exact i_setLeader 0 h
    · exact h
  have h2 : I F T false false R s₀ s2 := Guarded.foldl_inv _ (fun y (q : QItem) hy => i_reply q.task err hy) _ _ h1
  have h3 : I F T false false R s₀ s3 := Guarded.foldl_inv _ (fun y (t : Nat) hy => i_reply t err hy) _ _ h2
  exact i_withLdr _ h3 (fun hp => (h3.core hp).1.removeLTE_le) (fun hc _ => Bool.noConfusion hc)
    (fun hc _ => Bool.noConfusion hc)

theorem i_leaderRelease (h : I F T lr lc R s₀ s) : I F T false false R s₀ s.leaderRelease := by
  unfold Node.leaderRelease
  apply i_leaderReleaseRest
  split
  · unfold Node.transferReply
    have h1 := i_reply s.ldr.transfer.task s.releaseResult h.drop
    exact i_withLdr _ h1 (fun hp => (h1.core hp).1.removeLTE_le) (fun hc _ => Bool.noConfusion hc)
      (fun hc _ => Bool.noConfusion hc)
  · exact h.drop

/-! # part Follower -/
theorem I.toRT (h : I F T lr lc R s₀ s) : I F T lr lc RT s₀ s := h.mono (fun _ _ => trivial)

theorem I.dropL (h : I F T lr lc R s₀ s) : I F T false lc R s₀ s := h.weaken (fun e => Bool.noConfusion e) id


theorem i_onVoteRequest (q : VoteReq) (h : I F T lr lc R s₀ s) (hRf : R .follower) : I F T lr lc R s₀ (s.onVoteRequest q) := by
  unfold Node.onVoteRequest
  refine ite_ind (fun _ => i_ret _ h (by decide)) fun _ => ite_ind (fun _ => i_ret _ h (by decide)) fun _ => ?_
  extract_lets vf tm s1
  have h1 : I F T lr lc R s₀ s1 := by
    unfold s1; split
    · exact (i_toFollower h).mono (fun r hr => by rw [hr]; exact hRf)
    · exact h
  have hterm : s1.term = s.term := by unfold s1; split <;> rfl
  have htm : s1.term ≤ tm := by rw [hterm]; unfold tm; split <;> omega
  have hv : ∀ c, I F T lr lc R s₀ (s1.setVotedFor tm c) := fun c => i_setVotedFor tm c h1 (fun _ => htm)
  split
  · refine i_ret _ (hv _) ?_
    split <;> decide
  · split
    · exact i_ret _ (hv _) (by decide)
    · exact i_ret _ (hv _) (by decide)

/-- `Raft.onTimeoutNowRequest`: refused by a non-voter, else the node becomes candidate -/
theorem i_onTimeoutNow (h : I F T lr lc R s₀ s) :
    I F T lr lc R s₀ s.onTimeoutNow ∨ I F T false false (fun r => r = .candidate) s₀ s.onTimeoutNow := by
  unfold Node.onTimeoutNow
  split
  · exact Or.inl (i_ret _ h (by decide))
  · rename_i hv
    refine Or.inr (i_ret _ (i_candTransfer true (i_setLeader 0 (i_toCandidate h (fun _ => ?_)))) (by decide))
    cases hx : s.configs.latest.isVoter s.nid with
    | true => rfl
    | false => rw [hx] at hv; exact absurd rfl hv

theorem i_followerTimeout (h : I F T lr lc R s₀ s) (hr : s.role = .follower) : I F T false false RN s₀ s.followerTimeout := by
  unfold Node.followerTimeout
  dsimp only
  split
  · rename_i hc
    refine (i_toCandidate (i_setLeader 0 h) (fun _ => ?_)).mono (fun r hr => by rw [hr]; exact fun x => by cases x)
    unfold Node.canStartElection at hc
    simp only [Bool.and_eq_true] at hc
    exact hc.2
  · refine ⟨(i_setLeader 0 h).pf, ?_, (i_setLeader 0 h).res, (i_setLeader 0 h).ord, (i_setLeader 0 h).glob,
      fun hl _ => Bool.noConfusion hl, fun hl _ => Bool.noConfusion hl⟩
    show s.role ≠ .leader
    rw [hr]; exact fun x => by cases x

def NewLeader (s : Node) : Prop :=
  s.panicked = none → s.role = .leader → s.leader = s.nid ∧ s.configs.latest.isVoter s.nid = true

/-- `candidate.startElection` (a candidate is a voter of its latest configuration) -/
theorem i_startElection (h : I F T lr lc R s₀ s) (hr : s.role = .candidate) :
    I F T false false RT s₀ s.startElection ∧ NewLeader s.startElection := by
  unfold Node.startElection
  extract_lets s1 s2 s3 s4
  have e1 : s1 = s := assert_eq_self _ (fun hp => (h.glob hp).cand hr)
  have h2 : I F T false false R s₀ s2 := by unfold s2; rw [e1]; exact i_votesNeeded _ h.drop
  have h3 : I F T false false R s₀ s3 := i_setVotedFor _ _ h2 (fun _ => Nat.le_succ _)
  have h4 : I F T false false R s₀ s4 := i_votesNeeded _ h3
  have hrole : s4.role = .candidate := by
    have e2 : s2.role = s.role := by unfold s2; rw [e1]; rfl
    have e3 : s3.role = s2.role := LC.role_setVotedFor _ _ _
    have e4 : ∀ (x : Node) n, (x.withVotesNeeded n).role = x.role := fun _ _ => rfl
    exact (e4 s3 _).trans (e3.trans (e2.trans hr))
  clear_value s4
  split
  · refine ⟨(i_toLeader h4).toRT, fun hp _ => ⟨rfl, ?_⟩⟩
    exact (h4.glob hp).cand hrole
  · exact ⟨h4.toRT, fun _ hl => by rw [hrole] at hl; cases hl⟩

theorem i_onVoteResult (e : Bool) (t r : Nat) (h : I F T lr lc R s₀ s) (hr : s.role = .candidate) :
    I F T false false RT s₀ (s.onVoteResult e t r) ∧ NewLeader (s.onVoteResult e t r) := by
  unfold Node.onVoteResult
  refine ite_ind (P := fun y => I F T false false RT s₀ y ∧ NewLeader y)
    (fun _ => ⟨h.drop.toRT, fun _ hl => by rw [hr] at hl; cases hl⟩) fun _ =>
    ite_ind (P := fun y => I F T false false RT s₀ y ∧ NewLeader y) (fun hgt => ?_) fun _ => ?_
  · refine ⟨(i_setTerm t (i_toFollower h.drop) (fun _ => Nat.le_of_lt hgt)).toRT, fun _ hl => ?_⟩
    rw [LC.role_setTerm] at hl
    cases hl
  · split
    · dsimp only
      have h1 := i_votesNeeded (s.votesNeeded - 1) h.drop
      split
      · exact ⟨(i_toLeader h1).toRT, fun hp _ => ⟨rfl, (h1.glob hp).cand hr⟩⟩
      · exact ⟨h1.toRT, fun _ hl => by have hl' : s.role = .leader := hl; rw [hr] at hl'; cases hl'⟩
    · exact ⟨h.drop.toRT, fun _ hl => by rw [hr] at hl; cases hl⟩


theorem i_onTakeSnapshot (t th : Nat) (h : I F T lr lc R s₀ s) : I F T lr lc R s₀ (s.onTakeSnapshot t th) := by
  unfold Node.onTakeSnapshot
  split
  · exact i_reply _ _ h
  · exact i_snapPending _ h

theorem i_rejectEntries (bt : List QItem) (h : I F T lr lc R s₀ s) : I F T lr lc R s₀ (s.rejectEntries bt) := by
  induction bt generalizing s with
  | nil => exact h
  | cons q qs ih =>
    unfold Node.rejectEntries
    dsimp only
    apply ih
    split
    · exact i_reply _ _ h
    · exact i_reply _ _ h

/-- `replyRPC`: the result is never `unexpectedErr` -/
theorem i_rpcDone (a b : Bool) (h : I F T lr lc R s₀ s) : I F T lr lc R s₀ (s.rpcDone a b) := by
  unfold Node.rpcDone
  split
  · rename_i he
    exact absurd he h.res.1
  · exact i_rpcReply _ h


theorem i_snapRun (h : I F T lr lc R s₀ s) : I F T lr lc R s₀ s.snapRun := by
  unfold Node.snapRun
  split
  · exact h
  · dsimp only
    have h0 := i_snapPending none h
    split
    · exact i_snapResult _ h0 (fun _ rs hrs => by injection hrs with hrs; rw [← hrs]; exact Nat.zero_le _)
    · split
      · exact i_snapResult _ h0 (fun _ rs hrs => by injection hrs with hrs; rw [← hrs]; exact Nat.zero_le _)
      · refine i_snapResult _ (i_publishSnapshot _ h0 (fun hp => ?_)) (fun _ rs hrs => ?_)
        · exact ⟨(h0.core hp).1.snap_le_applied, Nat.le_refl _⟩
        · injection hrs with hrs; rw [← hrs]; exact Nat.le_refl _

/-- the leader part survives a change of the log start and of the compaction bound that keeps the view constructible -/
theorem LdrR.reprev {s₀ s s' : Node} (l : LdrR s₀ s) (hp : s'.log.prev ≤ s'.ldr.removeLTE)
    (eq : s'.ldr.queue = s.ldr.queue) (er : s'.ldr.repls = s.ldr.repls) (et : s'.ldr.transfer = s.ldr.transfer)
    (e3 : s'.fsm.index = s.fsm.index) (e4 : s'.lastLogIndex = s.lastLogIndex) (e5 : s'.nid = s.nid)
    (e6 : s'.role = s.role) (e7 : s'.configs = s.configs) : LdrR s₀ s' :=
  ⟨hp, by rw [eq, e3, e4]; exact l.queue, by rw [er, e4]; exact l.matchLe, by rw [et, e5]; exact l.target,
   by rw [e6]; exact l.notCand, by rw [e5, e7]; exact l.selfNP, by rw [e5, e6, e7]; exact l.lv,
   by rw [e7]; exact l.nonempty, by rw [e4]; exact l.lastMono⟩

/-- `Raft.onSnapshotTaken`: compaction and the new compaction bound keep the views constructible -/
theorem i_onSnapshotTaken (h : I F T lr lc R s₀ s) (hrl : lr = true → s.role = .leader) : I F T lr lc R s₀ s.onSnapshotTaken := by
  have h0 : I F T lr lc R s₀ (s.withSnapResult none) := i_snapResult none h (fun _ rs hrs => by cases hrs)
  refine onSnapshotTaken_cases s (fun _ => h) (fun _ _ => i_reply _ _ h0) fun rs a b y hr _ ha hb _ hy => i_reply _ _ ?_
  have hle : ∀ {i : Nat}, i ≤ rs.index → s.panicked = none → s.log.canLTE i ≤ s.snapIndex := fun hi hp =>
    Order.canLTE_le_of (h.core hp).1.segs (h.core hp).1.prev_le_snap (by have := (h.core hp).1.snapRes_le rs hr; omega)
  have hs1 : I F T false lc R s₀ y := by
    rcases hy with rfl | ⟨_, rfl⟩
    · exact h0.dropL
    · exact i_compactLog _ h0.dropL (hle ha) (fun hl _ => Bool.noConfusion hl)
  have e : y.snapIndex = s.snapIndex ∧ y.panicked = s.panicked ∧ y.ldr = s.ldr ∧ y.fsm = s.fsm ∧
      y.lastLogIndex = s.lastLogIndex ∧ y.nid = s.nid ∧ y.role = s.role ∧ y.configs = s.configs := by
    rcases hy with rfl | ⟨_, rfl⟩ <;> exact ⟨rfl, rfl, rfl, rfl, rfl, rfl, rfl, rfl⟩
  obtain ⟨e1, e2, e3, e4, e5, e6, e7, e8⟩ := e
  -- where the log starts after the compaction
  have hprev : s.panicked = none → s.log.prev ≤ s.log.canLTE b ∧ (y.log.prev ≤ s.log.canLTE a ∨ y.log.prev = s.log.prev) := by
    intro hp
    have hseg := (h.core hp).1.segs
    refine ⟨(C09.canLTE_bounds s.log b hseg).2.1, ?_⟩
    rcases hy with rfl | ⟨_, rfl⟩
    · exact Or.inr rfl
    · obtain ⟨_, _, _, hor, _⟩ := C09.removeLTE_whole_segments s.log (s.log.canLTE a) hseg
      exact hor.symm
  -- the leader part of `s` once the log starts at or below the new compaction bound
  have hL : ∀ v, lr = true → y.panicked = none → y.log.prev ≤ v → LdrR s₀ (y.withLdr { y.ldr with removeLTE := v }) :=
    fun v hl hp hv => (h.ldr hl (e2 ▸ hp)).reprev hv (by show y.ldr.queue = _; rw [e3]) (by show y.ldr.repls = _; rw [e3])
      (by show y.ldr.transfer = _; rw [e3]) (by show y.fsm.index = _; rw [e4]) e5 e6 e7 e8
  refine ite_ind (fun hgt => ?_) fun hngt => ite_ind (fun _ => ?_) fun hnl => ?_
  · have hpc : y.panicked = none → y.log.prev ≤ s.log.canLTE b := fun hp => by
      obtain ⟨a', b'⟩ := hprev (e2 ▸ hp)
      rcases b' with b' | b' <;> omega
    refine i_notifyFlr (i_withLdr _ hs1 (fun hp => by rw [e1]; exact hle hb (e2 ▸ hp)) (fun hl hp => hL _ hl hp (hpc hp))
      (fun hl hp => LC.cldr _ (hs1.cache hl hp) rfl rfl rfl)) (fun hp => Or.inr (hpc hp))
  · exact i_notifyFlr (i_withLdr _ hs1 (fun hp => (hs1.core hp).1.prev_le_snap) (fun hl hp => hL _ hl hp (Nat.le_refl _))
      (fun hl hp => LC.cldr _ (hs1.cache hl hp) rfl rfl rfl)) (fun _ => Or.inr (Nat.le_refl _))
  · refine ⟨hs1.pf, hs1.role, hs1.res, hs1.ord, hs1.glob, fun hl hp => ?_, hs1.cache⟩
    have hrole : y.role = .leader := by rw [e7]; exact hrl hl
    have : ¬ y.ldr.removeLTE < y.log.prev := fun hlt => hnl ⟨hrole, hlt⟩
    exact (h.ldr hl (e2 ▸ hp)).reprev (by omega) (by rw [e3]) (by rw [e3]) (by rw [e3]) (by rw [e4]) e5 e6 e7 e8

def cfgOkOpt (T : Bool) (nid : Nat) : Option Config → Prop
  | none => False
  | some c => CfgOk T nid c

instance (T : Bool) (nid : Nat) (o : Option Config) : Decidable (cfgOkOpt T nid o) := by
  cases o <;> unfold cfgOkOpt <;> infer_instance

theorem cfgOkOpt.get {T : Bool} {nid : Nat} {o : Option Config} (h : cfgOkOpt T nid o) : ∃ c, o = some c ∧ CfgOk T nid c := by
  cases o with
  | none => exact absurd h id
  | some c => exact ⟨c, rfl, h⟩

def EntriesDec (T : Bool) (nid : Nat) (es : List Entry) : Prop := ∀ ne ∈ es, ne.typ = etConfig → cfgOkOpt T nid ne.cfg

instance (T : Bool) (nid : Nat) (es : List Entry) : Decidable (EntriesDec T nid es) := by unfold EntriesDec; infer_instance

theorem get?_some (l : NLog) (i : Nat) (h1 : l.prev < i) (h2 : i ≤ l.last) : ∃ e, l.get? i = some e := by
  unfold NLog.get?
  rw [if_pos h1]
  unfold NLog.last at h2
  have : i - l.prev - 1 < l.entries.length := by omega
  exact ⟨l.entries[i - l.prev - 1], List.getElem?_eq_getElem this⟩

theorem entryTerm?_some (h : I F T lr lc R s₀ s) (hp : s.panicked = none) (i : Nat) (h1 : s.snapIndex < i)
    (h2 : i ≤ s.lastLogIndex) : s.entryTerm? i ≠ none := by
  obtain ⟨c, _⟩ := h.core hp
  have := c.prev_le_snap; have := c.last_eq
  obtain ⟨e, he⟩ := get?_some s.log i (by omega) (by omega)
  unfold Node.entryTerm?
  rw [he]
  exact fun x => by cases x

theorem logDec_take {es : List Entry} (h : LogDec es) (n : Nat) : LogDec (es.take n) :=
  fun e he => h e (List.mem_of_mem_take he)

/-- "delete the conflicting entry and all that follow it" -/
theorem i_resolveConflict (ne : Entry) (pt : Nat) (h : I F T false false RF s₀ s)
    (hg : s.panicked = none → ne.index ≤ s.lastLogIndex →
      s.snapIndex < ne.index ∧ s.commitIndex < ne.index ∧ s.configs.committed.index < ne.index) :
    I F T false false RF s₀ (s.resolveConflict ne pt) := by
  have hord := Order.inv_resolveConflict ne pt h.ord hg
  unfold Node.resolveConflict at hord ⊢
  by_cases hle : ne.index ≤ s.lastLogIndex
  · rw [if_pos hle] at hord ⊢
    cases het : s.entryTerm? ne.index with
    | none =>
      dsimp only
      exact i_unreach _ h (fun hp => entryTerm?_some h hp ne.index (hg hp hle).1 hle het)
    | some tm =>
      rw [het] at hord
      dsimp only at hord ⊢
      have hrole : s.role = .follower := h.role
      by_cases hlat : ne.index ≤ (s.removeGTE ne.index pt).configs.latest.index
      · rw [if_pos hlat] at hord ⊢
        refine ⟨h.pf, h.role, h.res, hord, fun hp => ?_, fun hl _ => Bool.noConfusion hl, fun hl _ => Bool.noConfusion hl⟩
        have g := h.glob hp
        exact ⟨logDec_take g.logDec _, g.retain, g.snaps, (fun e => by rw [show (s.removeGTE ne.index pt).revertConfig.role = s.role from rfl, hrole] at e; cases e),
          g.cfgC, g.cfgC⟩
      · rw [if_neg hlat] at hord ⊢
        refine ⟨h.pf, h.role, h.res, hord, fun hp => ?_, fun hl _ => Bool.noConfusion hl, fun hl _ => Bool.noConfusion hl⟩
        have g := h.glob hp
        exact ⟨logDec_take g.logDec _, g.retain, g.snaps, (fun e => by rw [show (s.removeGTE ne.index pt).role = s.role from rfl, hrole] at e; cases e),
          g.cfgL, g.cfgC⟩
  · rw [if_neg hle]; exact h

theorem resolveConflict_last (s : Node) (ne : Entry) (pt : Nat) (hp : (s.resolveConflict ne pt).panicked = none) :
    (s.resolveConflict ne pt).lastLogIndex = (if ne.index ≤ s.lastLogIndex then ne.index - 1 else s.lastLogIndex) ∧
    s.panicked = none := by
  unfold Node.resolveConflict at hp ⊢
  by_cases hle : ne.index ≤ s.lastLogIndex
  · rw [if_pos hle] at hp ⊢
    rw [if_pos hle]
    cases het : s.entryTerm? ne.index with
    | none =>
      rw [het] at hp
      exact absurd hp (panic_panicked_ne _ _)
    | some tm =>
      rw [het] at hp
      dsimp only at hp ⊢
      constructor
      · split <;> rfl
      · split at hp <;> exact hp
  · rw [if_neg hle] at hp ⊢
    rw [if_neg hle]
    exact ⟨rfl, hp⟩

theorem i_appendCheck (q : AppendReq) (h : I F T false false RF s₀ s) : I F T false false RF s₀ (s.appendCheck q) := by
  have hx : ∀ {x}, Looked s q x →
      I F T false false RF s₀ x ∧ x.lastLogIndex = s.lastLogIndex ∧ x.commitIndex = s.commitIndex := fun hl => by
    cases hl with
    | found => exact ⟨h, rfl, rfl⟩
    | missing hgt hlt hn =>
      exact ⟨i_unreach _ h (fun hp => entryTerm?_some h hp q.prevLogIndex hgt (Nat.le_of_lt hlt) hn),
        by rw [panic_shape], by rw [panic_shape]⟩
  refine appendCheck_cases s q
    (fun x r hl ha => i_ret _ (hx hl).1 (by rcases ha.result with rfl | rfl | rfl <;> decide)) fun x hl _ hle _ hcc => ?_
  obtain ⟨h1, e1, e2⟩ := hx hl
  refine i_ret _ (i_applyCommitted (i_setCommitIndexR _ h1 rfl (fun hp => ?_))) (by decide)
  have := (h1.core hp).1.applied_le_commit
  simp only [Node.canCommit, Bool.and_eq_true, decide_eq_true_eq] at hcc
  rw [e1]
  omega

/-- storing an entry of a request whose configuration entries decode, in the form `Order.appendLoop_chain` asks for it -/
theorem i_store (st : AppLoop) (ne : Entry) (hs : I F T false false RF s₀ st.s) (he : st.err = false)
    (hD : ne.typ = etConfig → cfgOkOpt T s₀.nid ne.cfg)
    (hpos : ne.index = st.index + 1 ∧ (st.s.panicked = none → st.index ≤ st.s.lastLogIndex))
    (hg : st.s.panicked = none → ne.index ≤ st.s.lastLogIndex →
      st.s.snapIndex < ne.index ∧ st.s.commitIndex < ne.index ∧ st.s.configs.committed.index < ne.index) :
    (¬ ne.typ = etConfig → I F T false false RF s₀ (stored st ne) ∧ st.err = false) ∧
    (∀ c, ne.config? = some c → I F T false false RF s₀ ((stored st ne).changeConfigR c) ∧ st.err = false) ∧
    (ne.typ = etConfig → ne.config? = none → I F T false false RF s₀ (stored st ne) ∧ true = false) := by
  obtain ⟨hnext, hidx⟩ := hpos
  have hdec : ne.typ = etConfig → ne.cfg.isSome = true := by
    intro ht
    obtain ⟨c, hc, _⟩ := (hD ht).get
    rw [hc]; rfl
  have h2 : I F T false false RF s₀ (stored st ne) := by
    refine i_appendEntry ne (i_resolveConflict ne st.term hs hg) (fun hp => ?_) hdec (fun hl _ => Bool.noConfusion hl)
    obtain ⟨hrl, hp'⟩ := resolveConflict_last _ _ _ hp
    rw [hrl]
    have := hidx hp'
    split <;> omega
  refine ⟨fun _ => ⟨h2, he⟩, fun cfg hcfg => ⟨?_, he⟩, fun htyp hcfg => ?_⟩
  · have htyp : ne.typ = etConfig := (Entry.config?_facts hcfg).1
    obtain ⟨c, hc, hcok⟩ := (hD htyp).get
    have hnodes : cfg.nodes = c.nodes := config?_nodes hc hcfg
    refine i_changeConfigR cfg h2 (fun _ => ?_) (fun hp => ?_) (fun hcand => ?_)
    · rw [h2.nidEq]; exact hcok.congr hnodes
    · have := (h2.core hp).1.latest_le_last
      rw [show (stored st ne).lastLogIndex = ne.index from rfl] at this
      exact ⟨by rw [(Entry.config?_facts hcfg).2.1]; exact this, by rw [(Entry.config?_facts hcfg).2.1]; exact Nat.le_refl _⟩
    · have := h2.role
      rw [this] at hcand; cases hcand
  · -- a configuration entry that does not decode: ruled out by `EntriesDec`
    exfalso
    obtain ⟨c, hc, _⟩ := (hD htyp).get
    rw [Entry.config?_of_cfg htyp hc] at hcfg
    cases hcfg

/-- the common prefix of `onAppendEntries` and `onInstallSnap`: adopt a newer term, become follower, note the leader -/
theorem i_followPre (term src : Nat) (h : I F T lr lc R s₀ s) : I F T false false RF s₀ (followPre s term src) := by
  unfold followPre
  refine i_setLeader _ (i_toFollower (R := RT) ?_)
  split
  · rename_i hgt
    exact (i_toFollower (i_setTerm _ h.drop (fun _ => Nat.le_of_lt hgt))).toRT
  · exact h.drop.toRT

/-- what is asked of an append request that is not stale: the orderings' `AppendOk`, and decodable,
well-formed configuration entries -/
def AppendOk' (T : Bool) (s : Node) (q : AppendReq) : Prop := Order.AppendOk s q ∧ EntriesDec T s.nid q.entries

instance (T : Bool) (s : Node) (q : AppendReq) : Decidable (AppendOk' T s q) := by unfold AppendOk'; infer_instance

theorem i_onAppendEntries (q : AppendReq) (h : I F T lr lc R s₀ s) (hok' : q.term < s.term ∨ AppendOk' T s q) :
    (q.term < s.term ∧ I F T lr lc R s₀ (s.onAppendEntries q)) ∨ (¬ q.term < s.term ∧ I F T false false RF s₀ (s.onAppendEntries q)) := by
  rw [onAppendEntries_stages]
  refine ite_ind (P := fun y => (q.term < s.term ∧ I F T lr lc R s₀ y) ∨ (¬ q.term < s.term ∧ I F T false false RF s₀ y))
    (fun hst => Or.inl ⟨hst, i_ret _ h (by decide)⟩) fun hterm => Or.inr ⟨hterm, ?_⟩
  obtain ⟨hok1, hok2⟩ := hok'.resolve_left hterm
  have h3 := i_appendCheck q (i_followPre q.term q.src h)
  refine ite_ind (fun _ => h3) fun hres => ?_
  obtain ⟨⟨h4, herr⟩, hL3⟩ := Order.appendLoop_checked (Q := fun st => I F T false false RF s₀ st.s ∧ st.err = false)
    (A := fun ne => ne.typ = etConfig → cfgOkOpt T s₀.nid ne.cfg) (fun h => h.1.ord) (fun _ _ _ h => h)
    (fun st ne h _ => i_store st ne h.1 h.2) q (Order.irr_followPre s q.term q.src) hok1 (Decidable.not_not.mp hres)
    (by rw [← h.nidEq]; exact hok2) ⟨h3, rfl⟩
  generalize appendLoop ⟨(followPre s q.term q.src).appendCheck q, q.prevLogIndex, q.prevLogTerm, false, false⟩ q.entries = st
    at h4 herr hL3 ⊢
  unfold afterLoop
  rw [herr]
  refine i_ret _ (ite_ind (fun _ => ite_ind (fun hcc => ?_) fun _ => i_commitLog _ h4) fun _ => h4) (by decide)
  refine i_applyCommitted (i_setCommitIndexR _ (i_commitLog _ h4) rfl (fun hp => ?_))
  have := ((i_commitLog st.s.lastLogIndex h4).core hp).1.applied_le_commit
  simp only [Node.canCommit, Bool.and_eq_true, decide_eq_true_eq] at hcc
  exact ⟨by omega, hL3 hp⟩

/-- what is asked of an install request that the handler does not ignore: the orderings' `InstallOk`, and a
label the receiver can hold -/
def InstallOk' (T : Bool) (s : Node) (q : InstallReq) : Prop := Order.InstallOk q ∧ CfgOk T s.nid q.lastConfig

instance (T : Bool) (s : Node) (q : InstallReq) : Decidable (InstallOk' T s q) := by unfold InstallOk'; infer_instance

theorem fsmRestore_panicked_of_some (x : Node) (hx : x.panicked ≠ none) : x.fsmRestore.panicked = x.panicked := by
  unfold Node.fsmRestore
  split
  · rw [panic_of_some _ hx]
  · split
    · rfl
    · rw [panic_of_some _ hx]

theorem i_onInstallSnap (q : InstallReq) (h : I F T lr lc R s₀ s)
    (hok : q.term < s.term ∨ q.lastIndex ≤ s.commitIndex ∨ InstallOk' T s q) :
    (q.term < s.term ∧ I F T lr lc R s₀ (s.onInstallSnap q)) ∨
    (¬ q.term < s.term ∧ I F T false false RF s₀ (s.onInstallSnap q)) := by
  have hord := Order.inv_onInstallSnap q h.ord (by
    rcases hok with a | a | a
    · exact Or.inl a
    · exact Or.inr (Or.inl a)
    · exact Or.inr (Or.inr a.1))
  rcases C09.onInstallSnap_cases s q with ⟨hterm, e⟩ | ⟨hterm, _, e⟩ | ⟨hterm, hahead, hk, hshape⟩
  · exact Or.inl ⟨hterm, by rw [e]; exact i_ret _ h (by decide)⟩
  · exact Or.inr ⟨hterm, by rw [e]; exact i_ret _ (i_followPre q.term q.src h) (by decide)⟩
  · refine Or.inr ⟨hterm, ?_⟩
    · have hio : InstallOk' T s q := by
        rcases hok with a | a | a
        · exact absurd a hterm
        · omega
        · exact a
      obtain ⟨e1, e2, _, e4, _, e6, e7, e8, e9, e10⟩ := C09.install_snapshot_discard s q hterm hahead hk
      obtain ⟨_, _, m1, m2, m3⟩ := Order.discardTail_more ((installPre s q).publishSnapshot (C09.fileOf q)) q.lastConfig
      have sd := sameData_installPre s q
      have hrole : (s.onInstallSnap q).role = .follower := by rw [hshape, m1]; rfl
      have hnid : (s.onInstallSnap q).nid = s.nid := by rw [hshape, m2, publishSnapshot_shape]; exact sd.nid
      have hret : (s.onInstallSnap q).retain = s.retain := by rw [hshape, m3, publishSnapshot_shape]; exact sd.retain
      by_cases hp : s.panicked = none
      · have g := h.glob hp
        obtain ⟨c, hcl⟩ := h.core hp
        have hh : ∀ x, s.snapsDisk.head? = some x → x.index ≤ q.lastIndex := by
          intro x hx
          have := g.snaps x (List.mem_of_mem_head? hx)
          have := c.snap_le_applied; have := c.applied_le_commit
          omega
        obtain ⟨_, hpan⟩ := C09.install_snapshot_discard_fsm_ok s q hterm hahead hk g.retain hh
        refine ⟨(by unfold PF; rw [hpan]; exact h.pf), hrole, ⟨(by rw [e10]; decide), (by rw [hnid]; exact h.nidEq)⟩, hord,
          fun _ => ?_, fun hl _ => Bool.noConfusion hl, fun hl _ => Bool.noConfusion hl⟩
        refine ⟨(by rw [e1]; exact fun x hx => by cases hx), (by rw [hret]; exact g.retain), ?_,
          (fun hc => by rw [hrole] at hc; cases hc), (by rw [hnid, e7]; exact hio.2), (by rw [hnid, e8]; exact hio.2)⟩
        rw [e9, e4]
        intro x hx
        rcases mem_of_mem_insertSnap (C09.fileOf q) x _ (List.mem_of_mem_take hx) with e | e
        · rw [e]; exact Nat.le_refl _
        · have := g.snaps x e
          have := c.snap_le_applied; have := c.applied_le_commit
          omega
      · refine h.of_failed hp (fun e => ?_) hrole ⟨(by rw [e10]; decide), (by rw [hnid]; exact h.nidEq)⟩
        -- nothing clears the recorded failure
        have hpre_f : (installPre s q).panicked = some "fuel" := by rw [C09.installPre_panicked]; exact e
        have hcl : (((installPre s q).publishSnapshot (C09.fileOf q)).clearLog).panicked = some "fuel" := by
          rw [(C09.discardPre_fields (installPre s q) (C09.fileOf q)).1]; exact hpre_f
        rw [hshape, (C09.discardTail_fields _ _).2.2.2.2.2.2.2.2.2.2.1,
          fsmRestore_panicked_of_some _ (by rw [hcl]; exact fun x => by cases x)]
        exact hcl


theorem i_withLast (i t : Nat) (h : I F T false false R s₀ s) (hg : s.panicked = none → s.lastLogIndex = i) :
    I F T false false R s₀ (s.withLast i t) :=
  ⟨h.pf, h.role, h.res, Order.inv_withLast i t h.ord hg, fun hp => (h.glob hp).congr rfl rfl rfl rfl rfl rfl rfl,
   fun hl _ => Bool.noConfusion hl, fun hl _ => Bool.noConfusion hl⟩

/-- `Raft.bootstrap`: on a node with an empty log and term at most 1 -/
theorem i_bootstrap (t : Nat) (c : Config) (h : I F T lr lc R s₀ s) (hr : s.role ≠ .leader) (hu : UserCfg T s.nid c)
    (hb : s.configs.isBootstrapped = true ∨ (s.lastLogIndex = 0 ∧ s.term ≤ 1)) :
    I F T false false RN s₀ (s.bootstrap t c) := by
  have hd : I F T false false RN s₀ s :=
    ⟨h.pf, hr, h.res, h.ord, h.glob, fun hl _ => Bool.noConfusion hl, fun hl _ => Bool.noConfusion hl⟩
  refine bootstrap_cases s t c (fun _ _ => i_reply _ _ hd) fun ⟨hnb, _, self, hself, hsv, hst⟩ => ?_
  have hb' : s.lastLogIndex = 0 ∧ s.term ≤ 1 := hb.resolve_left (by rw [hnb]; exact Bool.noConfusion)
  have hmem := find_spec hself
  have hact : self.action = actNone := by
    unfold Config.isStable at hst
    have := List.all_eq_true.mp hst self hmem.1
    simpa using this
  have hanch : AnchoredT T c := anchoredT_of_sorted hu.1 (List.any_eq_true.mpr ⟨self, hmem.1, by simp [hsv, hact]⟩) hu.2.2
  have hget : c.get s.nid = self := by unfold Config.get; rw [hself]; rfl
  -- the configuration as stored: `c` at index 1 in term 1
  have hcok : CfgOk T s.nid ({ c with index := 1, term := 1 } : Config) := by
    refine CfgOk.congr (c := c) ⟨⟨?_, ?_⟩, fun _ => hanch⟩ rfl
    · rw [hget, hact]; decide
    · intro _; rw [hget, hact]; decide
  have hisv : ({ c with index := 1, term := 1 } : Config).isVoter s.nid = true := by
    rw [isVoter_congr (c := c) (c' := ({ c with index := 1, term := 1 } : Config)) rfl s.nid]
    unfold Config.isVoter; rw [hself]; exact hsv
  have he : ({ c with index := 1, term := 1 } : Config).toEntry.index = ({ c with index := 1, term := 1 } : Config).index := rfl
  have hi : ({ c with index := 1, term := 1 } : Config).index = 1 := rfl
  have hdec : ({ c with index := 1, term := 1 } : Config).toEntry.typ = etConfig →
      ({ c with index := 1, term := 1 } : Config).toEntry.cfg.isSome = true := fun _ => rfl
  generalize ({ c with index := 1, term := 1 } : Config) = c1 at hcok hisv he hi hdec ⊢
  -- storage.bootstrap
  have h1 : I F T false false RN s₀ (s.appendEntry c1.toEntry) :=
    i_appendEntry _ hd (fun _ => by rw [hb'.1, he, hi]) hdec (fun hl _ => Bool.noConfusion hl)
  have hterm : ((s.appendEntry c1.toEntry).commitLog 1).term = s.term := by
    have hcl : ∀ (x : Node) n, (x.commitLog n).term = x.term := fun _ _ => rfl
    rw [hcl, appendEntry_shape]
  have h3 := i_setTerm 1 (i_commitLog 1 h1) (fun _ => by rw [hterm]; exact hb'.2)
  have hidx : (((s.appendEntry c1.toEntry).commitLog 1).setTerm 1).lastLogIndex = c1.index := by
    rw [setTerm_shape]; exact he
  have h4 := i_withLast c1.index c1.term h3 (fun _ => hidx)
  have hnid4 : ((((s.appendEntry c1.toEntry).commitLog 1).setTerm 1).withLast c1.index c1.term).nid = s.nid := by
    rw [h4.nidEq, h.nidEq]
  have h6 := i_reply t "ok" (i_changeConfigR c1 h4 (fun _ => by rw [hnid4]; exact hcok)
    (fun hp => ⟨(h4.core hp).1.latest_le_last, Nat.le_refl _⟩) (fun _ => by rw [hnid4]; exact hisv))
  refine (i_toCandidate h6 (fun _ => ?_)).mono (fun r hr => by rw [hr]; exact fun x => by cases x)
  rw [h6.nidEq, ← h.nidEq, (reply_fields _ _ _).2.2.2.2.2.2.2, (LC.changeConfigR_frame _ _).2.2]
  exact hisv


theorem i_releaseRole (r : Role) (h : I F T lr lc R s₀ s) : I F T false false R s₀ (s.releaseRole r) :=
  releaseRole_of (fun _ v h => i_candTransfer v h) (fun _ h => i_leaderRelease h) s r h.drop

theorem i_shutdown (h : I F T lr lc R s₀ s) : I F T false false R s₀ s.shutdown := by
  have h2 := i_releaseRole (s.doClose "serverClosed").role (i_doClose "serverClosed" h)
  exact shutdown_of s h2 (i_snapRun h2) (fun _ h3 => i_onSnapshotTaken h3 (fun hl => Bool.noConfusion hl))

/-- **The state invariant**: nothing has failed, the state is ordered (`Order.Ordered`, C19), the global part
`Glob` holds, and — for a node that is open (not shut down / removed) and leader — the leader part `LdrR` and
the caches (`LC.Cache`, i.e. `C06Cache.CacheOK`) hold. -/
structure Good (T : Bool) (s : Node) : Prop where
  noPanic : s.panicked = none
  ordered : Order.Ordered s
  glob : Glob T s
  leader : s.closed = "" → s.role = .leader → LdrR s s ∧ LC.Cache s

theorem CfgOk.weaken {nid : Nat} {c : Config} (h : CfgOk true nid c) : CfgOk false nid c :=
  ⟨h.1, fun hne => ⟨(h.2 hne).1, fun e => Bool.noConfusion e⟩⟩

theorem Good.weaken (h : Good true s) : Good false s :=
  ⟨h.noPanic, h.ordered,
   ⟨h.glob.logDec, h.glob.retain, h.glob.snaps, h.glob.cand, h.glob.cfgL.weaken, h.glob.cfgC.weaken⟩, h.leader⟩

theorem Good.leaderCacheOpen (h : Good T s) : C06Cache.LeaderCacheOpen s :=
  fun ho hl => (C06Cache.cacheOK_iff s).mpr (h.leader ho hl).2

/-- **What an incoming operation must satisfy** so that handling it cannot fail (beyond `Order.ReqOk`):
* `append` (not stale): `Order.AppendOk`, and every configuration entry decodes to a configuration the
  receiver can hold (`CfgOk T`: own action defined; if not empty an anchor voter — two when `T`);
* `install` (not stale, ahead of the commit index): `Order.InstallOk`, and such a label;
* `newEntries` to a leader: configuration items (the client API has none) carry a storable configuration;
* `changeConfig`: member ids strictly increasing, own action one of the five defined ones (when `T`: at least two
  voters without action); on a node that is not leader and not bootstrapped (`Raft.bootstrap` runs): empty log
  and term at most 1;
* `replUpdates` to a leader: match indexes within the leader's log, newer terms not below its term;
* `timeoutNowResult` with a transport error, to a leader awaiting it: the source has a replication.
Nothing is asked of votes, vote results, timeouts, snapshot events, transfers, `waitStable`, `shutdown`, nor of
the oracles (`rollAt`, `orders`). -/
def ReqOk' (T : Bool) (s : Node) : Op → Prop
  | .append q => q.term < s.term ∨ AppendOk' T s q
  | .install q => q.term < s.term ∨ q.lastIndex ≤ s.commitIndex ∨ InstallOk' T s q
  | .newEntries b => s.role = .leader → BatchOk T s.nid b
  | .changeConfig _ c =>
    UserCfg T s.nid c ∧ (s.role ≠ .leader → s.configs.isBootstrapped = true ∨ (s.lastLogIndex = 0 ∧ s.term ≤ 1))
  | .replUpdates us => s.role = .leader → ∀ u ∈ us, UpdOk s u
  | .timeoutNowResult src err _ =>
    s.role = .leader → s.ldr.transfer.respPending = true → err = true → s.findRepl? src ≠ none
  | _ => True

instance (T : Bool) (s : Node) (op : Op) : Decidable (ReqOk' T s op) := by
  cases op <;> unfold ReqOk' <;> infer_instance

theorem ReqOk'.toReqOk {op : Op} (h : ReqOk' T s op) : Order.ReqOk s op := by
  cases op <;> unfold Order.ReqOk <;> try trivial
  case append q =>
    rcases h with a | a
    · exact Or.inl a
    · exact Or.inr a.1
  case install q =>
    rcases h with a | a | a
    · exact Or.inl a
    · exact Or.inr (Or.inl a)
    · exact Or.inr (Or.inr a.1)


theorem i_begin (ra : List Nat) (ord : List (List Nat)) (h : Good T s) :
    I F T false false (fun r => r = s.role) s (s.begin ra ord) :=
  ⟨Or.inl rfl, rfl, ⟨(by decide : (0 : Nat) ≠ 11), rfl⟩, Order.inv_begin ra ord h.ordered,
   fun _ => h.glob.congr rfl rfl rfl rfl rfl rfl rfl, fun hl _ => Bool.noConfusion hl, fun hl _ => Bool.noConfusion hl⟩

theorem i_beginL (ra : List Nat) (ord : List (List Nat)) (h : Good T s) (ho : s.closed = "") (hl : s.role = .leader) :
    I F T true true (fun r => r = .leader) s (s.begin ra ord) :=
  ⟨Or.inl rfl, hl, ⟨(by decide : (0 : Nat) ≠ 11), rfl⟩, Order.inv_begin ra ord h.ordered,
   fun _ => h.glob.congr rfl rfl rfl rfl rfl rfl rfl,
   fun _ _ => (h.leader ho hl).1.congr rfl rfl rfl rfl rfl rfl rfl,
   fun _ _ => cache_congr (h.leader ho hl).2 rfl rfl rfl⟩


/-- after a handler that started in role `cur`: the invariant (without leader part), a node that has just
become leader is a voter with `leader = nid`, a node that was and still is leader has its leader part -/
structure Post (F : Prop) (T : Bool) (s₀ : Node) (cur : Role) (h : Node) : Prop where
  inv : I F T false false RT s₀ h
  newLdr : cur ≠ .leader → NewLeader h
  oldLdr : cur = .leader → h.panicked = none → h.role = .leader → LdrR h h ∧ LC.Cache h

theorem Post.ofLeader {cur : Role} {x : Node} (h : I F T true true R s₀ x) (hc : cur = .leader) : Post F T s₀ cur x :=
  ⟨h.drop.toRT, fun hn => absurd hc hn, fun _ hp _ => ⟨(h.ldr rfl hp).rebase, h.cache rfl hp⟩⟩

theorem Post.ofNotLeader {cur : Role} {x : Node} (h : I F T lr lc R s₀ x) (hr : x.role ≠ .leader) : Post F T s₀ cur x :=
  ⟨h.drop.toRT, fun _ _ hl => absurd hl hr, fun _ _ hl => absurd hl hr⟩

theorem Post.ofNew {cur : Role} {x : Node} (h : I F T false false RT s₀ x) (hn : NewLeader x) (hc : cur ≠ .leader) :
    Post F T s₀ cur x :=
  ⟨h, fun _ => hn, fun e => absurd e hc⟩

theorem Post.ofEither {cur : Role} {x : Node} (h : I F T lr lc R s₀ x) (hL : lr = true ∧ lc = true ∨ x.role ≠ .leader)
    (hc : cur = .leader) : Post F T s₀ cur x := by
  rcases hL with ⟨a, b⟩ | a
  · subst a; subst b; exact Post.ofLeader h hc
  · exact Post.ofNotLeader h a

theorem role_rpcDone (x : Node) (a b : Bool) : (x.rpcDone a b).role = x.role := C06Cache.role_rpcDone x a b

theorem term_begin (s : Node) (ra : List Nat) (ord : List (List Nat)) : (s.begin ra ord).term = s.term := rfl

theorem handle_post (hFT : F ∨ T = true) (op : Op) (ra : List Nat) (ord : List (List Nat)) (hG : Good T s) (ho : s.closed = "")
    (hr : ReqOk' T s op) (hop : op ≠ .shutdown) : Post F T s s.role ((s.begin ra ord).handle op) := by
  -- the invariant when the handler starts — for a leader with the leader part and the caches — and how the invariant
  -- after a handler that kept its form gives `Post`
  obtain ⟨lr, lc, R, hb, hRf, hlr, close, mode⟩ : ∃ lr lc R, I F T lr lc R s (s.begin ra ord) ∧ R .follower ∧
      (lr = true → (s.begin ra ord).role = .leader) ∧ (∀ {x : Node}, I F T lr lc R s x → Post F T s s.role x) ∧
      ((lr = true ∧ lc = true ∧ R = RT ∧ s.role = .leader) ∨ (lr = false ∧ lc = false ∧ R = RN ∧ s.role ≠ .leader)) := by
    by_cases hl : s.role = .leader
    · exact ⟨true, true, RT, (i_beginL ra ord hG ho hl).toRT, trivial, fun _ => hl, fun h => Post.ofLeader h hl,
        Or.inl ⟨rfl, rfl, rfl, hl⟩⟩
    · exact ⟨false, false, RN, (i_begin ra ord hG).mono (fun r hr => by rw [hr]; exact hl), (fun x => by cases x),
        fun e => Bool.noConfusion e, fun h => Post.ofNotLeader h h.role, Or.inr ⟨rfl, rfl, rfl, hl⟩⟩
  -- a handler of a request from a peer that left the node follower or candidate
  have down : ∀ {lr' lc' : Bool} {R' : Role → Prop} {x : Node} (a b : Bool), I F T lr' lc' R' s x →
      (∀ r, R' r → r ≠ .leader) → Post F T s s.role (x.rpcDone a b) := fun a b hx hR =>
    Post.ofNotLeader (i_rpcDone a b hx) (by rw [role_rpcDone]; exact hR _ hx.role)
  cases op <;> unfold Node.handle <;> dsimp only
  case vote q => exact close (i_rpcDone true false (i_onVoteRequest q hb hRf))
  case append q =>
    rcases i_onAppendEntries q hb hr with ⟨_, a⟩ | ⟨_, a⟩
    · exact close (i_rpcDone _ _ a)
    · exact down _ _ a (fun _ e h => by rw [e] at h; cases h)
  case install q =>
    rcases i_onInstallSnap q hb hr with ⟨_, a⟩ | ⟨_, a⟩
    · exact close (i_rpcDone _ _ a)
    · exact down _ _ a (fun _ e h => by rw [e] at h; cases h)
  case timeoutNow =>
    rcases i_onTimeoutNow hb with a | a
    · exact close (i_rpcDone _ _ a)
    · exact down _ _ a (fun _ e h => by rw [e] at h; cases h)
  case identity a b c => exact close (i_rpcReply _ hb)
  case disconnected n =>
    split
    · exact close (i_setLeader 0 hb)
    · exact close hb
  case takeSnapshot t th => exact close (i_onTakeSnapshot t th hb)
  case snapRun => exact close (i_snapRun hb)
  case snapTaken => exact close (i_onSnapshotTaken hb hlr)
  case shutdown => exact absurd rfl hop
  case timeout =>
    rcases mode with ⟨rfl, rfl, rfl, hl⟩ | ⟨rfl, rfl, rfl, hl⟩
    · rw [show (s.begin ra ord).role = .leader from hl]
      exact close (i_checkQuorum hb)
    · cases hrl : (s.begin ra ord).role with
      | follower => exact close (i_followerTimeout hb hrl)
      | candidate =>
        obtain ⟨a, b⟩ := i_startElection hb hrl
        exact Post.ofNew a b hl
      | leader => exact absurd hrl hl
  case newEntries b =>
    rcases mode with ⟨rfl, rfl, rfl, hl⟩ | ⟨rfl, rfl, rfl, hl⟩
    · rw [if_pos (show (s.begin ra ord).role = .leader from hl)]
      exact close (i_storeEntry hFT b hb (hr hl))
    · rw [if_neg (show ¬ (s.begin ra ord).role = .leader from hl)]
      exact close (i_rejectEntries b hb)
  case changeConfig t c =>
    rcases mode with ⟨rfl, rfl, rfl, hl⟩ | ⟨rfl, rfl, rfl, hl⟩
    · rw [if_pos (show (s.begin ra ord).role = .leader from hl)]
      exact close (i_onChangeConfig hFT t c hb hl hr.1)
    · rw [if_neg (show ¬ (s.begin ra ord).role = .leader from hl)]
      exact close (i_bootstrap t c hb hl hr.1 (hr.2 hl))
  case waitStable t =>
    rcases mode with ⟨rfl, rfl, rfl, hl⟩ | ⟨rfl, rfl, rfl, hl⟩
    · rw [if_pos (show (s.begin ra ord).role = .leader from hl)]
      exact close (i_onWaitForStable t hb)
    · rw [if_neg (show ¬ (s.begin ra ord).role = .leader from hl)]
      exact close (i_reply _ _ hb)
  case transfer t g =>
    rcases mode with ⟨rfl, rfl, rfl, hl⟩ | ⟨rfl, rfl, rfl, hl⟩
    · rw [if_pos (show (s.begin ra ord).role = .leader from hl)]
      exact close (i_onTransfer t g hb)
    · rw [if_neg (show ¬ (s.begin ra ord).role = .leader from hl)]
      exact close (i_reply _ _ hb)
  case voteResult e t r =>
    split
    · rename_i hc
      rcases mode with ⟨rfl, rfl, rfl, hl⟩ | ⟨rfl, rfl, rfl, hl⟩
      · rw [show (s.begin ra ord).role = .leader from hl] at hc
        cases hc
      · obtain ⟨a, b⟩ := i_onVoteResult e t r hb hc
        exact Post.ofNew a b hl
    · exact close hb
  case replUpdates us =>
    rcases mode with ⟨rfl, rfl, rfl, hl⟩ | ⟨rfl, rfl, rfl, hl⟩
    · rw [if_pos (show (s.begin ra ord).role = .leader from hl)]
      exact close (i_checkReplUpdates hFT us hb rfl (hr hl))
    · rw [if_neg (show ¬ (s.begin ra ord).role = .leader from hl)]
      exact close hb
  case transferTimeout =>
    split
    · rename_i hc
      rcases mode with ⟨rfl, rfl, rfl, _⟩ | ⟨_, _, _, hl⟩
      · exact close (i_replyTransfer hFT _ hb)
      · exact absurd hc.1 hl
    · exact close hb
  case timeoutNowResult a b c =>
    split
    · rename_i hc
      rcases mode with ⟨rfl, rfl, rfl, hl⟩ | ⟨_, _, _, hl⟩
      · exact close (i_onTimeoutNowResult hFT a b c hb (fun hb' _ => hr hl hc.2 hb'))
      · exact absurd hc.1 hl
    · exact close hb
  case newTermTimeout =>
    split
    · rename_i hc
      rcases mode with ⟨rfl, rfl, rfl, _⟩ | ⟨_, _, _, hl⟩
      · exact close (i_tryTransfer (i_ldrMisc _ hb rfl rfl rfl rfl (fun _ hp => (hb.ldr rfl hp).queue)
          (fun _ hp => (hb.ldr rfl hp).target)))
      · exact absurd hc.1 hl
    · exact close hb


/-- the result of a step: nothing has failed except possibly the model's budget; and while nothing has failed
the state is `Good` -/
structure GoodF (F : Prop) (T : Bool) (t : Node) : Prop where
  pf : PF F t
  ordered : t.panicked = none → Order.Ordered t
  glob : t.panicked = none → Glob T t
  leader : t.panicked = none → t.closed = "" → t.role = .leader → LdrR t t ∧ LC.Cache t

theorem GoodF.good {t : Node} (h : GoodF F T t) (hp : t.panicked = none) : Good T t :=
  ⟨hp, h.ordered hp, h.glob hp, h.leader hp⟩

theorem goodF_of_post {s₀ x : Node} {cur : Role} (P : Post F T s₀ cur x) (he : x.role = cur) : GoodF F T x := by
  refine ⟨P.inv.pf, fun hp => ?_, P.inv.glob, fun hp _ hl => P.oldLdr (by rw [← he]; exact hl) hp hl⟩
  obtain ⟨c, hcl⟩ := P.inv.core hp
  exact ⟨c, hcl⟩

theorem settle_post (hFT : F ∨ T = true) (n : Nat) (x : Node) (cur : Role) (s₀ : Node) (P : Post F T s₀ cur x) :
    GoodF F T (settle (n + 3) x cur) := by
  refine LC.settle_induct (Q := fun x cur => ∃ s₀, Post F T s₀ cur x) (fun x cur ⟨_, P⟩ e => goodF_of_post P e)
    (fun x cur ⟨s₀, P⟩ hne => ?_) n x cur ⟨s₀, P⟩
  have hr : (x.releaseRole cur).role = x.role := LC.role_releaseRole x cur
  have h1 : I F T false false RT s₀ (x.releaseRole cur) := i_releaseRole cur P.inv
  unfold Node.initRole
  cases hrole : x.role with
  | follower =>
    rw [hr, hrole]; dsimp only
    refine ⟨s₀, Post.ofNotLeader h1 ?_⟩
    rw [hr, hrole]; exact fun e => by cases e
  | candidate =>
    rw [hr, hrole]; dsimp only
    obtain ⟨a, b⟩ := i_startElection h1 (by rw [hr, hrole])
    exact ⟨s₀, Post.ofNew a b (fun e => by cases e)⟩
  | leader =>
    rw [hr, hrole]; dsimp only
    have hcur : cur ≠ .leader := fun e => hne (by rw [hrole, e])
    have hnew := P.newLdr hcur
    have hl : (x.releaseRole cur).panicked = none →
        (x.releaseRole cur).leader = (x.releaseRole cur).nid ∧
        (x.releaseRole cur).configs.latest.isVoter (x.releaseRole cur).nid = true := by
      have hrel : (x.releaseRole cur).panicked = x.panicked ∧ (x.releaseRole cur).leader = x.leader ∧
          (x.releaseRole cur).nid = x.nid ∧ (x.releaseRole cur).configs = x.configs := by
        unfold Node.releaseRole
        cases cur with
        | follower => exact ⟨rfl, rfl, rfl, rfl⟩
        | candidate => exact ⟨rfl, rfl, rfl, rfl⟩
        | leader => exact absurd rfl hcur
      intro hp
      rw [hrel.2.1, hrel.2.2.1, hrel.2.2.2]
      exact hnew (by rw [← hrel.1]; exact hp) hrole
    have h2 : I F T true true RT (x.releaseRole cur) (x.releaseRole cur).leaderInit :=
      i_leaderInit hFT h1 (by rw [hr, hrole]) hl
    exact ⟨_, Post.ofLeader h2 rfl⟩

/-- **one step** from a good, open state, for an acceptable operation: nothing fails except possibly the
model's recursion budget, and unless that happened the resulting state is good -/
theorem step_goodF (hFT : F ∨ T = true) (op : Op) (ra : List Nat) (ord : List (List Nat)) (hG : Good T s) (ho : s.closed = "")
    (hr : ReqOk' T s op) : GoodF F T (s.step op ra ord) := by
  by_cases hop : op = .shutdown
  · subst hop
    have hcl := C06Cache.shutdown_closes s ra ord
    have hsh : I F T false false (fun r => r = s.role) s ((s.begin ra ord).shutdown) := i_shutdown (i_begin ra ord hG)
    have e : s.step .shutdown ra ord = (s.begin ra ord).shutdown := rfl
    rw [e] at hcl ⊢
    refine ⟨hsh.pf, fun hp => ?_, hsh.glob, fun _ hc => absurd hc hcl⟩
    obtain ⟨c, hcl'⟩ := hsh.core hp
    exact ⟨c, hcl'⟩
  · have P := handle_post hFT op ra ord hG ho hr hop
    unfold Node.step
    dsimp only
    split
    · exact absurd rfl hop
    · exact settle_post hFT 3 _ _ s P

end NoPanic
end Raft
