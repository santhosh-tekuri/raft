/-
The stale reset, seen by the invariant of the cluster with local snapshots (stage 1, `SnapInv.SInv`).

When a process dies and the log on its disk ENDS BELOW the newest snapshot file on that disk, `openStorage` resets the log
to the snapshot (`Node.staleLog`).  The crash analysis of Lemmas/SnapInv.lean (`sinv_crash`) does not cover this: it
restarts the view from the un-reset disk.  `sinv_crash_stale` closes that case:

* stage A — the crash of the view WITHOUT snapshot data (`C02Sys.CC`): the node restarted from the erased disk holds the
  log `D` on disk, the durable `(term, vote)`, and the ledgers (`created`, `camps`) are those of the crash;
* stage B — the node is REPLACED (`SnapInst.cinv_replace`) by the follower `N` whose log is the first `F` entries of the
  log before the crash (`F` = index of the newest file on disk `≤ commitIndex`): a committed root path; `D` is a prefix
  of it (`crash_keep`: up to the commit index the disk holds what the log held), so nothing the node acknowledged as
  stored is lost.

Then the same on the cluster system with snapshots, compaction and installation (Sys/Snap3.lean) — the case excluded by
the premise `staleLog = false` of `Snap3.Trans.crash`: what the restart yields (`restart_stale_fields`); in a state that
satisfies the invariant a log on a crash disk is stale ONLY because it ends below the newest file (`stale_is_short`: the
other reason — another term at the file's index — is excluded, the file names an entry of the virtual log and the disk
agrees with the virtual log on what the commit index covers); the invariant of stage 1 for the virtual nodes after such a
crash, the virtual log of the restarted node being the COMMITTED PREFIX `(x.vlog i).take F` the file stands for
(`crash3_stale`; `crash3_stale_snapTaken` for the one operation of stage 2 that changes `log.prev`), and the whole invariant
of stage 3 (`inv3_crash_stale`).
-/
import RaftVerif.Lemmas.SnapInstA
import RaftVerif.Props.C10
import RaftVerif.Lemmas.SnapInv3Events
import RaftVerif.Lemmas.SnapFrame

namespace Raft
namespace SnapCut
open Node Election LogRel Replication CommitRel Commit C02Sys C03Sys SnapRel SnapSim Snap SnapInv SnapInst

/-- **the node `N` is what a restart makes of the disk `d` of node `s` when the log on `d` is reset to the newest snapshot
file on `d`** (virtual form: the log is the prefix of `s`'s log the file stands for; `log.prev = 0`) -/
structure StaleN (s : Node) (d : Durable) (N : Node) : Prop where
  nid : N.nid = d.nid
  term : N.term = d.term
  vote : N.votedFor = d.vote
  vwf : C05.VoteWF N
  role : N.role = .follower
  entries : N.log.entries = s.log.entries.take (headOf d.snaps).index
  prev : N.log.prev = 0
  flushed : N.log.flushed = (headOf d.snaps).index
  lwf : C06.LogWF N.log
  lastI : N.lastLogIndex = (headOf d.snaps).index
  lastT : N.lastLogTerm = lastTerm N.log.entries
  snapI : N.snapIndex = (headOf d.snaps).index
  snaps : N.snapsDisk = d.snaps
  commit : N.commitIndex = (headOf d.snaps).index
  fsm : N.fsm = { index := (headOf d.snaps).index, term := (headOf d.snaps).term, applied := (headOf d.snaps).data,
                  config := (headOf d.snaps).config }
  retain : 1 ≤ N.retain

theorem eview_crashC_repl (x : Commit.Sys) (i : Nat) (op op' : Op) (N n0 : Node)
    (hcr : newCreated i (x.node i).log.entries n0.log.entries op' = newCreated i (x.node i).log.entries N.log.entries op)
    (ht : n0.term = N.term) (hv : n0.votedFor = N.votedFor) :
    eview (crashC x i op N) = repl (crashC (eview x) i op' n0) i (E σ0 N) := by
  have hnodes : (fun j => E σ0 (setNode x.rp.el.node i N j)) =
      setNode (setNode (fun j => E σ0 (x.rp.el.node j)) i n0) i (E σ0 N) := by
    funext j
    unfold setNode
    split <;> rfl
  have hcr' : newCreated i (E σ0 (x.rp.el.node i)).log.entries n0.log.entries op' =
      newCreated i (x.rp.el.node i).log.entries N.log.entries op := hcr
  unfold eview repl withNodes crashC crashRp campOf
  simp only [Commit.Sys.node, hnodes, hcr', ht, hv]
  rfl

section
variable {V : List Nat}

theorem crash_keep_snap (hV : V.Nodup) {x : Snap.Sys} (hI : SInv V x) (hS : SideS V x) {i : Nat} {op : Op}
    (ra : List Nat) (ord : List (List Nat)) {src : Nat} (k : Nat) (en : Snap.Enabled x.cs i op src)
    (hlog : op = .snapTaken → ((x.node i).step op ra ord).log = (x.node i).log) (K : Nat)
    (hK : K ≤ (x.node i).commitIndex) (hd : K ≤ (C05.crashDisk (x.node i) op ra ord k).log.entries.length) :
    (C05.crashDisk (x.node i) op ra ord k).log.entries.take K = (x.node i).log.entries.take K := by
  obtain ⟨op', k', en', hdisk, _⟩ := crash_view hI ra ord k en hlog
  have sc : SC V (eview x.cs) i op' ra ord src := ⟨hV, hI.cinv, sideV_eview hS.sideV, en'⟩
  have hdisk' : C05.crashDisk ((eview x.cs).node i) op' ra ord k' = eraseD σ0 (C05.crashDisk (x.node i) op ra ord k) :=
    hdisk
  have := crash_keep sc k' K hK (by rw [hdisk']; exact hd)
  rw [hdisk'] at this
  exact this

/-- **a crash at any storage point of any enabled operation after which the log on disk ends below the newest snapshot
file on disk, and the restart that resets the log to that file** (stage 1: nothing is compacted, the restarted node is
given in virtual form, `StaleN`) -/
theorem sinv_crash_stale (hV : V.Nodup) {x : Snap.Sys} (hI : SInv V x) (hS : SideS V x) {i : Nat}
    {op : Op} {ra : List Nat} {ord : List (List Nat)} {src k retain : Nat} {sor : Bool} {N : Node}
    (en : Snap.Enabled x.cs i op src)
    (hlog : op = .snapTaken → ((x.node i).step op ra ord).log = (x.node i).log)
    (hcid : (C05.crashDisk (x.node i) op ra ord k).cid ≠ 0) (hnid : (C05.crashDisk (x.node i) op ra ord k).nid ≠ 0)
    (hdp : (C05.crashDisk (x.node i) op ra ord k).log.prev = 0)
    (hshort : (C05.crashDisk (x.node i) op ra ord k).log.entries.length <
      (headOf (C05.crashDisk (x.node i) op ra ord k).snaps).index)
    (hN : StaleN (x.node i) (C05.crashDisk (x.node i) op ra ord k) N)
    (hdec : ∀ e ∈ N.log.entries, e.typ = etConfig → e.cfg.isSome = true) :
    SInv V { cs := crashC x.cs i op N
             snaps := newSnaps i (x.node i).snapsDisk N.snapsDisk ++ x.snaps } := by
  have fbi : FB (E σ0 (x.node i)) := hI.fsm i
  have hf : FsmOK 0 (x.node i) := ⟨fbi.fsm.le, fbi.fsm.len, fbi.fsm.applied, fbi.fsm.mono⟩
  have so := hI.snap i
  obtain ⟨hfiles, hsn⟩ := crash_snaps (x.node i) op ra ord k en.ok2.1 so hf
  obtain ⟨op', k', en', hdisk, hnc⟩ := crash_view hI ra ord k en hlog
  generalize hd : C05.crashDisk (x.node i) op ra ord k = d at hfiles hsn hdisk hcid hnid hdp hshort hN
  have sc : SC V (eview x.cs) i op' ra ord src := ⟨hV, hI.cinv, sideV_eview hS.sideV, en'⟩
  have hF : 0 < (headOf d.snaps).index := by omega
  have hFm : headOf d.snaps ∈ d.snaps := SnapInst3.headOf_mem _ hF
  have hKci : (headOf d.snaps).index ≤ (x.node i).commitIndex := hfiles.head_le
  have hFlen : (headOf d.snaps).index ≤ (x.node i).log.entries.length :=
    (hI.cinv.cmt.cc i _ hF hKci).1
  have hDtake : d.log.entries = (x.node i).log.entries.take d.log.entries.length := by
    have hdisk' : C05.crashDisk ((eview x.cs).node i) op' ra ord k' = eraseD σ0 d := hdisk
    have := crash_keep sc k' d.log.entries.length (by show _ ≤ (x.node i).commitIndex; omega)
      (by rw [hdisk']; exact Nat.le_refl _)
    rw [hdisk'] at this
    have e : (eraseD σ0 d).log.entries = d.log.entries := rfl
    rw [e, List.take_length] at this
    exact this
  have hDP : d.log.entries <+: N.log.entries := by
    rw [hN.entries]
    rw [hDtake]
    exact List.take_prefix_take_left (Nat.le_of_lt hshort)
  have hPlen : N.log.entries.length = (headOf d.snaps).index := by
    rw [hN.entries, List.length_take]; omega
  have hnst : staleLog (eraseD σ0 d) = false := staleLog_nosnap rfl
  have hlo : C10.logOf (eraseD σ0 d) = d.log := C10.logOf_not_stale _ hnst
  obtain ⟨hfail, _, _⟩ := C10.restart_configs (eraseD σ0 d) retain sor
    (by show d.log.prev ≤ _; rw [hdp]; exact Nat.zero_le _)
    (by
      rw [hlo]
      intro e he ht
      have hm : e ∈ d.log.entries := by
        unfold C10.window at he
        exact List.mem_of_mem_take (List.mem_of_mem_drop (List.mem_reverse.mp he))
      exact Entry.config?_isSome ht (hdec e (hDP.subset hm) ht))
  obtain ⟨n0, hn0, _, _⟩ := C10.restart_ok_contiguous (eraseD σ0 d) retain sor hcid hnid hfail
  have cc : CC V (eview x.cs) i op' ra ord src k' retain sor n0 := ⟨sc, by
    show Node.restart (C05.crashDisk (E σ0 (x.node i)) op' ra ord k') retain sor = some n0
    rw [hdisk]; exact hn0⟩
  have cz := cc.cinv
  obtain ⟨f1, f2, f3, f4, f5, f6, f7, f8, f9⟩ := cc.facts
  have hdisk' : C05.crashDisk ((eview x.cs).node i) op' ra ord k' = eraseD σ0 d := hdisk
  rw [hdisk'] at f1 f2 f9
  have f1' : n0.term = d.term := f1
  have f2' : n0.votedFor = d.vote := f2
  have f9' : n0.log.entries = d.log.entries := f9
  have fz : FsmInv (crashC (eview x.cs) i op' n0) := fsmInv_crash cc hI.fsm
  have hnid0 : n0.nid = d.nid := (Election.restart_role_nid _ _ _ _ hn0).2
  have hterm0 : ((eview x.cs).node i).term ≤ n0.term := by
    have := cc.ext.term i
    rw [cc.node_i] at this
    exact this
  have hdata : (headOf d.snaps).data = ups (N.log.entries.take (headOf d.snaps).index) := by
    rw [(hfiles.files _ hFm).2.2, hN.entries, List.take_take, Nat.min_self]
  have hrep : ReplOK (crashC (eview x.cs) i op' n0) i (E σ0 N) := by
    refine ⟨?_, ?_, hN.vwf, hN.role, ?_, hN.lwf, ?_, ?_, ?_, ?_, ?_, ?_⟩
    · rw [cc.node_i, hnid0]; exact hN.nid
    · left
      rw [cc.node_i, f1', f2']
      exact ⟨hN.term, hN.vote⟩
    · refine ⟨rfl, rfl, hN.prev, ?_, ?_, hN.lastT⟩
      · show ∀ k (hk : k < N.log.entries.length), N.log.entries[k].index = k + 1
        intro k hk
        have hc := (nwf hI.cinv i).contig
        have hk' : k < (x.node i).log.entries.length := by rw [hPlen] at hk; omega
        have := hc k hk'
        have e : N.log.entries[k] = (x.node i).log.entries[k] := by
          have h1 : N.log.entries[k]? = (x.node i).log.entries[k]? := by
            rw [hN.entries, List.getElem?_take, if_pos (by rw [hPlen] at hk; exact hk)]
          rw [List.getElem?_eq_getElem hk, List.getElem?_eq_getElem hk'] at h1
          exact Option.some.inj h1
        rw [e]; exact this
      · show N.lastLogIndex = N.log.entries.length
        rw [hN.lastI, hPlen]
    · intro k h1 h2
      have h1' : N.log.flushed < k := h1
      have h2' : k ≤ N.log.entries.length := h2
      rw [hN.flushed] at h1'; rw [hPlen] at h2'; omega
    · show Path _ N.log.entries
      rw [hN.entries]
      exact ((log_path hI.cinv i).prefix (List.take_prefix _ _)).mono cc.ext.T
    · intro e he
      have he' : e ∈ N.log.entries := he
      rw [hN.entries] at he'
      have := hI.cinv.node.termLe i e (List.mem_of_mem_take he')
      show e.term ≤ N.term
      rw [hN.term, ← f1']
      exact Nat.le_trans this hterm0
    · intro k h1 h2
      have h2' : k ≤ N.commitIndex := h2
      rw [hN.commit] at h2'
      obtain ⟨c1, c2⟩ := hI.cinv.cmt.cc i k h1 (Nat.le_trans h2' hKci)
      show k ≤ N.log.entries.length ∧ Cmt _ (k, termAt N.log.entries k) N.term
      refine ⟨by rw [hPlen]; exact h2', ?_⟩
      rw [hN.entries, termAt_take _ _ _ h2', hN.term, ← f1']
      exact cc.ext.cmt hterm0 c2
    · refine ⟨?_, ?_, ?_, Nat.zero_le _⟩
      · show N.fsm.index ≤ N.commitIndex
        rw [hN.fsm, hN.commit]; exact Nat.le_refl _
      · show N.fsm.index ≤ N.log.entries.length
        rw [hN.fsm, hPlen]; exact Nat.le_refl _
      · show N.fsm.applied = ups (N.log.entries.take N.fsm.index)
        rw [hN.fsm]; exact hdata
    · intro b hb _
      left
      rw [cc.node_i] at hb
      obtain ⟨b1, b2⟩ := hb
      rw [f9'] at b2
      have hh := holds_prefix hDP b2
      refine ⟨?_, hh⟩
      show b.1 ≤ N.log.flushed
      rw [hN.flushed, ← hPlen]; exact hh.2.1
  obtain ⟨c1, c2⟩ := cinv_replace cz fz hrep
  have hviewy : eview (crashC x.cs i op N) = repl (crashC (eview x.cs) i op' n0) i (E σ0 N) := by
    refine eview_crashC_repl x.cs i op op' N n0 ?_ (by rw [f1', hN.term]) (by rw [f2', hN.vote])
    rw [hnc]
    by_cases hap : ∃ q, op = .append q
    · obtain ⟨q, rfl⟩ := hap; rfl
    · have hna : ∀ q, op ≠ .append q := fun q h => hap ⟨q, h⟩
      rw [C04Sys.newCreated_other _ _ _ _ hna, C04Sys.newCreated_other _ _ _ _ hna,
        List.drop_eq_nil_of_le (by rw [f9']; show d.log.entries.length ≤ (x.node i).log.entries.length; omega),
        List.drop_eq_nil_of_le (by rw [hPlen]; exact hFlen)]
  have hagree : ∀ K, K ≤ (headOf d.snaps).index → N.log.entries.take K = (x.node i).log.entries.take K := by
    intro K hK
    rw [hN.entries, List.take_take, Nat.min_eq_left hK]
  have hfn : ∀ g ∈ d.snaps, 1 ≤ g.index ∧ g.index ≤ (headOf d.snaps).index ∧
      g.data = ups (N.log.entries.take g.index) := fun g hg =>
    ⟨(hfiles.files g hg).1, hfiles.le_head g hg,
      by rw [(hfiles.files g hg).2.2, hagree g.index (hfiles.le_head g hg)]⟩
  refine ⟨by rw [hviewy]; exact c1, by rw [hviewy]; exact c2,
    NodeSys.forall_setNode (P := fun _ m => SnapOK m)
      ⟨hN.retain, ?_, by rw [hN.snapI, hN.snaps], by rw [hN.snapI, hN.fsm]; exact Nat.le_refl _⟩ (fun j _ => hI.snap j),
    ledger_replace hI (by rw [hN.snapI]; exact hsn) hsn (hagree _ (Nat.le_refl _))
      (fun g hg => Or.inr (by rw [hN.snaps] at hg; rw [hN.snapI]; exact hfn g hg)) rfl⟩
  rw [hN.snaps, hN.commit]
  exact ⟨hfn, hfiles.sorted⟩

end

open SnapRelU Snap2 SnapInv2 SnapInstU Snap3 SnapFrame SnapInst3

theorem restart_stale_fields (d : Durable) (r : Nat) (sor : Bool) (n : Node) (hn : Node.restart d r sor = some n)
    (hst : staleLog d = true) :
    n.log = NLog.reset (headSnap d).index ∧ n.lastLogIndex = (headSnap d).index ∧ n.lastLogTerm = (headSnap d).term ∧
    n.snapIndex = (headSnap d).index ∧ n.snapTerm = (headSnap d).term ∧ n.commitIndex = (headSnap d).index ∧
    n.fsm = { index := (headSnap d).index, term := (headSnap d).term, applied := (headSnap d).data,
              config := (headSnap d).config } ∧
    n.snapsDisk = d.snaps ∧ n.role = .follower ∧ n.term = d.term ∧ n.votedFor = d.vote ∧ n.nid = d.nid ∧
    n.retain = r ∧ n.snapResult = none ∧ n.trace = [] ∧ C05.VoteWF n := by
  have hpos : (C10.snapOf d).index > 0 := stale_pos d hst
  have hlo : C10.logOf d = NLog.reset (C10.snapOf d).index := C10.logOf_stale d hst
  obtain ⟨f1, _⟩ := C10.restart_fsm d r sor n hn
  rw [if_pos hpos] at f1
  obtain ⟨_, _, _, e4, _⟩ := C10.restartNode_fields d r sor
  obtain ⟨t1, _⟩ := restartNode_lastLogTerm d r sor
  obtain ⟨v1, v2, v3, v4⟩ := C10.restart_term_vote d r sor n hn
  have hcount : ¬ (C10.logOf d).count > 0 := by rw [hlo]; simp [NLog.reset, NLog.count]
  refine ⟨Node.restart_log_stale hn hst, ?_, ?_, restart_field (·.snapIndex) (fun _ _ _ _ => rfl) hn,
    restart_field (·.snapTerm) (fun _ _ _ _ => rfl) hn, f1.2, f1.1, restart_field (·.snapsDisk) (fun _ _ _ _ => rfl) hn,
    restart_field (·.role) (fun _ _ _ _ => rfl) hn, v1, v2, restart_field (·.nid) (fun _ _ _ _ => rfl) hn,
    restart_field (·.retain) (fun _ _ _ _ => rfl) hn, restart_field (·.snapResult) (fun _ _ _ _ => rfl) hn,
    restart_field (·.trace) (fun _ _ _ _ => rfl) hn, ⟨v3, v4⟩⟩
  · rw [restart_field (·.lastLogIndex) (fun _ _ _ _ => rfl) hn, e4, if_neg hcount]; rfl
  · rw [restart_field (·.lastLogTerm) (fun _ _ _ _ => rfl) hn, t1, if_neg hcount]; rfl

section
variable {V : List Nat}

/-- what a crash in an operation of stage 2 other than `.snapTaken` leaves on disk (`SnapInv2.crash_disk`, and the terms of the files) -/
theorem crash3_disk {x : Snap3.Sys} (hI3 : Inv3 V x) (hS : Side3 V x) {i : Nat} {op : Op} {ra : List Nat}
    {ord : List (List Nat)} {src : Nat} (k : Nat) (en : Snap.Enabled x.s2.cs i op src)
    (hp : ((x.node i).step op ra ord).panicked = none) (hne : op ≠ .snapTaken)
    (hnc : NoCut (x.node i) op) (htt : TermTracked (x.node i) op) :
    C05.crashDisk (x.vnode i) op ra ord k = uncD (x.s2.base i) (C05.crashDisk (x.node i) op ra ord k) ∧
    ((C05.crashDisk (x.node i) op ra ord k).log.prev = (x.node i).log.prev ∧
      (C05.crashDisk (x.node i) op ra ord k).log.prev + (C05.crashDisk (x.node i) op ra ord k).log.entries.length ≤
        (C05.crashDisk (x.node i) op ra ord k).log.flushed) ∧
    (x.node i).snapIndex ≤ (headSnap (C05.crashDisk (x.node i) op ra ord k)).index ∧
    (∀ g ∈ (C05.crashDisk (x.node i) op ra ord k).snaps, termAt (x.vlog i) g.index = g.term) ∧
    FilesOK (x.vlog i) (x.node i).commitIndex (C05.crashDisk (x.node i) op ra ord k).snaps := by
  obtain ⟨hdisk, hd, hsn, hfo⟩ := crash_disk hI3.sinv (hI3.prev i) (hS.segs i) k en hne
    (vstep_comm hI3.sinv hI3.prev hS en hp hne hnc)
  exact ⟨hdisk, hd, hsn, crash_files_term hI3 (i := i) (op := op) (ra := ra) (ord := ord) k en.ok2.1 htt, hfo⟩

/-- a stale log ends below the newest snapshot file, if what it holds at the file's index (when it reaches it) has the
file's term -/
theorem stale_short_of_term {d : Durable} (hst : staleLog d = true)
    (hterm : d.log.prev < (headSnap d).index → (headSnap d).index ≤ d.log.last →
      (d.log.get? (headSnap d).index).map (·.term) = some (headSnap d).term) : d.log.last < (headSnap d).index := by
  apply Classical.byContradiction
  intro hns
  unfold staleLog at hst
  simp only [Bool.or_eq_true, Bool.and_eq_true, decide_eq_true_eq, bne_iff_ne, ne_eq] at hst
  rcases hst with h | ⟨h1, h2⟩
  · exact hns h
  · exact h2 (hterm h1 (Nat.le_of_not_lt hns))

theorem stale_is_short {vl β : List Entry} {ci : Nat} {d : Durable}
    (hlen : d.log.prev + d.log.entries.length ≤ d.log.flushed)
    (hft : ∀ g ∈ d.snaps, termAt vl g.index = g.term)
    (hfo : FilesOK vl ci d.snaps)
    (hkeep : ∀ K, K ≤ ci → K ≤ (uncD β d).log.entries.length →
      (uncD β d).log.entries.take K = vl.take K)
    (hst : staleLog d = true) : d.log.last < (headSnap d).index := by
  have hpos := stale_pos d hst
  have hm : headSnap d ∈ d.snaps := headSnap_mem d hpos
  refine stale_short_of_term hst fun h1' hge => ?_
  have hent : (uncD β d).log.entries = pad β d.log.prev ++ d.log.entries := by
    rw [uncD_eq d hlen]; rfl
  have hl : (uncD β d).log.entries.length = d.log.last := by
    rw [hent, List.length_append, pad_length]; rfl
  have hF := (hfo.files _ hm).2.1
  have hk := hkeep (headSnap d).index hF (by rw [hl]; exact hge)
  rw [hent] at hk
  have hg : d.log.get? (headSnap d).index = (pad β d.log.prev ++ d.log.entries)[(headSnap d).index - 1]? := by
    rw [← uncLog_get? (β := β) d.log _ h1']
    unfold NLog.get?
    show (if 0 < (headSnap d).index then
      (pad β d.log.prev ++ d.log.entries)[(headSnap d).index - 0 - 1]? else none) = _
    rw [if_pos hpos, Nat.sub_zero]
  have hidx : (pad β d.log.prev ++ d.log.entries)[(headSnap d).index - 1]? =
      vl[(headSnap d).index - 1]? := by
    have := congrArg (fun l => l[(headSnap d).index - 1]?) hk
    simp only [List.getElem?_take] at this
    rw [if_pos (by omega), if_pos (by omega)] at this
    exact this
  have ht := hft _ hm
  unfold termAt at ht
  rw [if_neg (by omega)] at ht
  have hlt : (headSnap d).index - 1 < vl.length := by
    have := (hfo.files _ hm).2.2
    have hh : (headSnap d).index - 1 < (pad β d.log.prev ++ d.log.entries).length := by
      rw [List.length_append, pad_length]
      have : d.log.last = d.log.prev + d.log.entries.length := rfl
      omega
    rw [List.getElem?_eq_getElem hh] at hidx
    cases hc : vl[(headSnap d).index - 1]? with
    | none => rw [hc] at hidx; cases hidx
    | some e => exact (List.getElem?_eq_some_iff.mp hc).1
  rw [List.getElem?_eq_getElem hlt] at ht hidx
  rw [hg, hidx]
  simp only [Option.map_some, Option.getD_some] at ht ⊢
  rw [ht]

/-- A log `L` that holds the entries of `l0` from `L.prev` on and is flushed up to `F`: the entry on disk at `F` has the
term the un-compacted log of `l0` has there. -/
theorem durable_term_of_vlog (β : List Entry) (l0 L : NLog) (F t : Nat)
    (hterm : termAt (pad β l0.prev ++ l0.entries) F = t) (l1 : L.prev < F) (l2 : F ≤ L.durable.last)
    (l3 : l0.prev ≤ L.prev) (l4 : L.entries = l0.entries.drop (L.prev - l0.prev)) :
    (L.durable.get? F).map (·.term) = some t := by
  obtain ⟨d, hd⟩ : ∃ d, L.prev = l0.prev + d := ⟨L.prev - l0.prev, by omega⟩
  obtain ⟨j, hj⟩ : ∃ j, F = L.prev + (j + 1) := ⟨F - L.prev - 1, by omega⟩
  have hlast : L.durable.last = L.prev + (L.entries.take (L.flushed - L.prev)).length := rfl
  rw [hlast, List.length_take] at l2
  have hjf : j < L.flushed - L.prev := by omega
  have hjl : j < L.entries.length := by omega
  have hlt : d + j < l0.entries.length := by rw [l4, List.length_drop] at hjl; omega
  -- the entry on disk at `F` is entry `d + j` of `l0` …
  have hget : L.durable.get? F = l0.entries[d + j]? := by
    unfold NLog.get?
    show (if L.prev < F then (L.entries.take (L.flushed - L.prev))[F - L.prev - 1]? else none) = _
    rw [if_pos l1, show F - L.prev - 1 = j by omega, List.getElem?_take, if_pos hjf, l4, List.getElem?_drop,
      show L.prev - l0.prev = d by omega]
  -- … and so is the entry of the un-compacted log
  have hv : (pad β l0.prev ++ l0.entries)[F - 1]? = l0.entries[d + j]? := by
    rw [List.getElem?_append_right (by rw [pad_length]; omega), pad_length]
    congr 1; omega
  unfold termAt at hterm
  rw [if_neg (by omega), hv, List.getElem?_eq_getElem hlt] at hterm
  rw [hget, List.getElem?_eq_getElem hlt]
  simp only [Option.map_some, Option.getD_some] at hterm ⊢
  rw [hterm]

/-- **stale only because short**, for a disk that holds the durable part of a log `L` with the entries of `l0` from
`L.prev` on, when the newest file names an entry of the un-compacted log of `l0` -/
theorem stale_is_short_of_drop (β : List Entry) (l0 L : NLog) {d : Durable} (hd : d.log = L.durable)
    (l3 : l0.prev ≤ L.prev) (l4 : L.entries = l0.entries.drop (L.prev - l0.prev))
    (hterm : termAt (pad β l0.prev ++ l0.entries) (headSnap d).index = (headSnap d).term)
    (hst : staleLog d = true) : d.log.last < (headSnap d).index :=
  stale_short_of_term hst fun h1 h2 => by
    rw [hd] at h1 h2 ⊢
    exact durable_term_of_vlog β l0 L _ _ hterm h1 h2 l3 l4

theorem staleN_of_restart {s : Node} {β : List Entry} {d : Durable} {r : Nat} {sor : Bool} {n : Node}
    (hr : 1 ≤ r) (hn : Node.restart d r sor = some n) (hst : staleLog d = true)
    (hft : ∀ g ∈ d.snaps, termAt s.log.entries g.index = g.term)
    (hlen : (headSnap d).index ≤ s.log.entries.length) :
    StaleN s (uncD β d) (U (s.log.entries.take (headSnap d).index) n) ∧
    (U (s.log.entries.take (headSnap d).index) n).log.entries = s.log.entries.take (headSnap d).index := by
  obtain ⟨a1, a2, a3, a4, a5, a6, a7, a8, a9, a10, a11, a12, a13, a14, a15, a16⟩ := restart_stale_fields d r sor n hn hst
  have hpos := stale_pos d hst
  have hm : headSnap d ∈ d.snaps := headSnap_mem d hpos
  have hPl : (s.log.entries.take (headSnap d).index).length = (headSnap d).index := by
    rw [List.length_take]; omega
  have hent : (U (s.log.entries.take (headSnap d).index) n).log.entries = s.log.entries.take (headSnap d).index := by
    show (uncLog _ n.log).entries = _
    rw [a1]; exact uncLog_reset_entries _ _ hPl
  refine ⟨⟨a12, a10, a11, a16, a9, hent, rfl, ?_, ?_, a2, ?_, a4, a8, a6, a7, by rw [show (U _ n).retain = n.retain from rfl, a13]; exact hr⟩, hent⟩
  · show n.log.flushed = _
    rw [a1]; rfl
  · show C06.LogWF (uncLog _ n.log)
    rw [a1]; exact uncLog_reset_lwf _ _
  · show n.lastLogTerm = lastTerm (U _ n).log.entries
    rw [hent, a3, lastTerm_take _ _ hlen]
    exact (hft _ hm).symm

theorem crash3_stale (hV : V.Nodup) {x : Snap3.Sys} (hI3 : Inv3 V x) (hS : Side3 V x) {i : Nat} {op : Op} {ra : List Nat}
    {ord : List (List Nat)} {src k retain : Nat} {sor : Bool} {n : Node} (en : Snap.Enabled x.s2.cs i op src)
    (hret : 1 ≤ retain) (hp : ((x.node i).step op ra ord).panicked = none) (hne : op ≠ .snapTaken)
    (hnc : NoCut (x.node i) op) (htt : TermTracked (x.node i) op)
    (hst : staleLog (C05.crashDisk (x.node i) op ra ord k) = true)
    (hn : Node.restart (C05.crashDisk (x.node i) op ra ord k) retain sor = some n) :
    SInv V (view (crashS x.s2 i op n)) ∧ PrevOK n ∧
    FilesOK (x.vlog i) (x.node i).commitIndex (C05.crashDisk (x.node i) op ra ord k).snaps ∧
    (∀ g ∈ (C05.crashDisk (x.node i) op ra ord k).snaps, termAt (x.vlog i) g.index = g.term) ∧
    n.log = NLog.reset (headSnap (C05.crashDisk (x.node i) op ra ord k)).index ∧
    (crashS x.s2 i op n).vlog i = (x.vlog i).take (headSnap (C05.crashDisk (x.node i) op ra ord k)).index := by
  have hI := hI3.sinv
  obtain ⟨hdisk, hd, hsn, hft, hfo⟩ := crash3_disk hI3 hS k en hp hne hnc htt
  have hSv : SideS V (view x.s2) := sideS_view3 hS
  have hlogv : op = .snapTaken → (((view x.s2).node i).step op ra ord).log = ((view x.s2).node i).log :=
    fun h => absurd h hne
  have hkeep : ∀ K, K ≤ (x.node i).commitIndex →
      K ≤ (uncD (x.s2.base i) (C05.crashDisk (x.node i) op ra ord k)).log.entries.length →
      (uncD (x.s2.base i) (C05.crashDisk (x.node i) op ra ord k)).log.entries.take K = (x.vlog i).take K := by
    intro K h1 h2
    have := crash_keep_snap hV hI hSv ra ord k (enabled_view en) hlogv K h1
      (by show K ≤ (C05.crashDisk (x.vnode i) op ra ord k).log.entries.length; rw [hdisk]; exact h2)
    have this' : (C05.crashDisk (x.vnode i) op ra ord k).log.entries.take K = (x.vlog i).take K := this
    rw [hdisk] at this'
    exact this'
  have hshort := stale_is_short hd.2 hft hfo hkeep hst
  obtain ⟨hcid, hnid, _, _⟩ := C10.restart_some _ _ _ _ hn
  have hFlen : (headSnap (C05.crashDisk (x.node i) op ra ord k)).index ≤ (x.vlog i).length := by
    have hm := headSnap_mem _ (stale_pos _ hst)
    obtain ⟨g1, g2, _⟩ := hfo.files _ hm
    exact (hI.cinv.cmt.cc i _ g1 g2).1
  obtain ⟨hN, hent⟩ : StaleN (x.vnode i) (uncD (x.s2.base i) (C05.crashDisk (x.node i) op ra ord k))
        (U ((x.vlog i).take (headSnap (C05.crashDisk (x.node i) op ra ord k)).index) n) ∧
      (U ((x.vlog i).take (headSnap (C05.crashDisk (x.node i) op ra ord k)).index) n).log.entries =
        (x.vlog i).take (headSnap (C05.crashDisk (x.node i) op ra ord k)).index :=
    staleN_of_restart (s := x.vnode i) (β := x.s2.base i) hret hn hst hft hFlen
  obtain ⟨a1, _, _, a4, _, _, _, _, _, _, _, _, _, a14, _, _⟩ := restart_stale_fields _ retain sor n hn hst
  have hdec : ∀ e ∈ (U ((x.vlog i).take (headSnap (C05.crashDisk (x.node i) op ra ord k)).index) n).log.entries,
      e.typ = etConfig → e.cfg.isSome = true := by
    intro e he
    rw [hent] at he
    exact hS.dec i e (List.mem_of_mem_take he)
  have key := sinv_crash_stale hV hI hSv (i := i) (op := op) (ra := ra) (ord := ord) (src := src) (k := k)
    (retain := retain) (sor := sor) (N := U ((x.vlog i).take (headSnap (C05.crashDisk (x.node i) op ra ord k)).index) n)
    (enabled_view en) hlogv
    (by show (C05.crashDisk (x.vnode i) op ra ord k).cid ≠ 0; rw [hdisk]; exact hcid)
    (by show (C05.crashDisk (x.vnode i) op ra ord k).nid ≠ 0; rw [hdisk]; exact hnid)
    (by show (C05.crashDisk (x.vnode i) op ra ord k).log.prev = 0; rw [hdisk]; rfl)
    (by
      show (C05.crashDisk (x.vnode i) op ra ord k).log.entries.length <
        (headOf (C05.crashDisk (x.vnode i) op ra ord k).snaps).index
      rw [hdisk, uncD_eq _ hd.2]
      show (pad _ _ ++ _).length < (headSnap (C05.crashDisk (x.node i) op ra ord k)).index
      rw [List.length_append, pad_length]
      exact hshort)
    (by
      show StaleN (x.vnode i) (C05.crashDisk (x.vnode i) op ra ord k) _
      rw [hdisk]; exact hN)
    hdec
  have hPn : U (newBase x.s2 i n.log.prev) n =
      U ((x.vlog i).take (headSnap (C05.crashDisk (x.node i) op ra ord k)).index) n := by
    rw [a1]; rfl
  refine ⟨?_, ⟨by rw [a1, a4]; exact Nat.le_refl _, fun rs hrs => by rw [a14] at hrs; cases hrs⟩, hfo, hft, a1, ?_⟩
  · rw [view_crashS x.s2 i op n _ hPn]
    exact key
  · show ((crashS x.s2 i op n).vnode i).log.entries = _
    rw [view_crashS_node, if_pos rfl, hPn]
    exact hent

theorem crashS_snapTaken (y : Snap2.Sys) (i : Nat) (n : Node) :
    crashS y i .snapTaken n = crashS y i (.disconnected 0) n := rfl

theorem crash3_stale_snapTaken (hV : V.Nodup) {x : Snap3.Sys} (hI3 : Inv3 V x) (hS : Side3 V x) {i : Nat} {ra : List Nat}
    {ord : List (List Nat)} {src k retain : Nat} {sor : Bool} {n : Node} (hi : i ≠ 0) (hret : 1 ≤ retain)
    (hst : staleLog (C05.crashDisk (x.node i) .snapTaken ra ord k) = true)
    (hn : Node.restart (C05.crashDisk (x.node i) .snapTaken ra ord k) retain sor = some n) :
    SInv V (view (crashS x.s2 i .snapTaken n)) ∧ PrevOK n ∧
    n.log = NLog.reset (headOf (x.node i).snapsDisk).index ∧
    (crashS x.s2 i .snapTaken n).vlog i = (x.vlog i).take (headOf (x.node i).snapsDisk).index := by
  have hI := hI3.sinv
  have hP := hI3.prev
  have so : SnapOK (x.vnode i) := hI.snap i
  have hfl : (x.node i).log.prev ≤ (x.node i).log.flushed :=
    prev_le_flushed (x.s2.base i) (hS.segs i) (vnode_lwf3 hI i)
  rcases snapTaken_crashDisk (x.node i) ra ord k with e | ⟨e, hdur⟩
  · -- nothing was compacted yet: a crash before the first storage point of any operation
    rw [e] at hn hst
    have hpd : ((x.node i).step (.disconnected 0) [] []).panicked = none := by rw [step_disconnected0]; rfl
    obtain ⟨a1, a2, _, _, a5, a6⟩ := crash3_stale hV hI3 hS (i := i) (op := .disconnected 0) (ra := []) (ord := [])
      (src := src) (k := 0) (retain := retain) (sor := sor) (n := n) (enabled_disc0 _ hi src) hret hpd
      (fun h => nomatch h) trivial trivial hst hn
    exact ⟨a1, a2, a5, a6⟩
  · -- the compacted log is on disk
    obtain ⟨c1, c2, c3, _, _, c6, _, _⟩ := compact_cases ((x.node i).begin ra ord) (hS.segs i)
    have ss := snapTaken_snapStep (x.s2.base i) (x.node i) ra ord (hS.segs i) so (vnode_lwf3 hI i)
    have hq := onSnapshotTaken_qobs ((x.node i).begin ra ord)
    unfold qobs at hq
    simp only [Prod.mk.injEq] at hq
    obtain ⟨_, _, ⟨s1, _, s3⟩, _⟩ := hq
    rw [e] at hn hst
    have hent0 := vlog_keep (x.s2.base i) (x.node i).log ((x.node i).begin ra ord).onSnapshotTaken.log c1 c2 c3
    generalize hpo : ((x.node i).begin ra ord).onSnapshotTaken = post at *
    have s3' : post.snapsDisk = (x.node i).snapsDisk := s3
    generalize hb' : (uncLog (x.s2.base i) (x.node i).log).entries.take post.log.prev = β' at ss hent0
    have hent1 : (U β' post).log.entries = x.vlog i := hent0
    have hlwf : C06.LogWF (uncLog β' post.log) := ss.feq.lwf (vnode_lwf3 hI i)
    have hflp : post.log.prev ≤ post.log.flushed := prev_le_flushed β' c6 hlwf
    have hI' := sinv_regroup hI ss
    have pe := ss.feq
    have le := lfieldEq_of_lobs ss.lobs
    have hSr : SideS V { cs := withNodes (view x.s2).cs (setNode (view x.s2).cs.rp.el.node i (U β' post))
                         snaps := newSnaps i ((view x.s2).node i).snapsDisk (U β' post).snapsDisk ++ (view x.s2).snaps } := by
      refine sideS_replace (sideS_view3 hS) (i := i) (fun j hj => setNode_other _ _ _ _ hj) ?_
      show SideN V (setNode (view x.s2).cs.rp.el.node i (U β' post) i)
      rw [setNode_same]
      exact (sideS_node (sideS_view3 hS) i).congr le.configs rfl pe.entries
    generalize hX' : ({ cs := withNodes (view x.s2).cs (setNode (view x.s2).cs.rp.el.node i (U β' post))
                        snaps := newSnaps i ((view x.s2).node i).snapsDisk (U β' post).snapsDisk ++ (view x.s2).snaps } :
        Snap.Sys) = X' at hI' hSr
    have hXi : X'.node i = U β' post := by rw [← hX']; exact setNode_same _ _ _
    have hXs : X'.snaps = newSnaps i ((view x.s2).node i).snapsDisk (U β' post).snapsDisk ++ (view x.s2).snaps := by
      rw [← hX']
    have hXcs : X'.cs = withNodes (view x.s2).cs (setNode (view x.s2).cs.rp.el.node i (U β' post)) := by rw [← hX']
    generalize hdd : ({ (x.node i).durable with log := post.log.durable } : Durable) = d at hn hst hdur
    have hdsn : d.snaps = (x.node i).snapsDisk := by rw [← hdd]; rfl
    have hdlen : d.log.prev + d.log.entries.length ≤ d.log.flushed := by
      rw [← hdd]; exact durable_len post hflp
    have hdV : C05.crashDisk (X'.node i) (.disconnected 0) [] [] 0 = uncD β' d := by
      show (X'.node i).durable = _
      rw [hXi, U_durable, hdur]
    have hft : ∀ g ∈ d.snaps, termAt (x.vlog i) g.index = g.term := by
      rw [hdsn]; exact (hI3.vterm i).files
    have hfo : FilesOK (x.vlog i) (x.node i).commitIndex d.snaps := by
      rw [hdsn]; exact so.files
    have hci : (X'.node i).commitIndex = (x.node i).commitIndex := by
      rw [hXi]; exact le.commitIndex
    have hlogv : (Op.disconnected 0) = .snapTaken →
        ((X'.node i).step (.disconnected 0) [] []).log = (X'.node i).log := fun h => nomatch h
    have hkeep : ∀ K, K ≤ (x.node i).commitIndex → K ≤ (uncD β' d).log.entries.length →
        (uncD β' d).log.entries.take K = (x.vlog i).take K := by
      intro K h1 h2
      have := crash_keep_snap hV hI' hSr [] [] 0 (enabled_disc0 X'.cs hi src) hlogv K (by rw [hci]; exact h1)
        (by rw [hdV]; exact h2)
      rw [hdV, hXi, hent1] at this
      exact this
    have hshort := stale_is_short hdlen hft hfo hkeep hst
    obtain ⟨hcid, hnid, _, _⟩ := C10.restart_some _ _ _ _ hn
    have hFlen : (headSnap d).index ≤ (U β' post).log.entries.length := by
      rw [hent1]
      have hm := headSnap_mem _ (stale_pos _ hst)
      obtain ⟨g1, g2, _⟩ := hfo.files _ hm
      exact (hI.cinv.cmt.cc i _ g1 g2).1
    obtain ⟨hN, hent⟩ := staleN_of_restart (s := U β' post) (β := β') hret hn hst (by rw [hent1]; exact hft) hFlen
    rw [hent1] at hN hent
    obtain ⟨a1, _, _, a4, _, _, _, _, _, _, _, _, _, a14, _, _⟩ := restart_stale_fields _ retain sor n hn hst
    have hhd : (headSnap d).index = (headOf (x.node i).snapsDisk).index := by
      show (headOf d.snaps).index = _; rw [hdsn]
    have key := sinv_crash_stale hV hI' hSr (i := i) (op := .disconnected 0) (ra := []) (ord := []) (src := src) (k := 0)
      (retain := retain) (sor := sor) (N := U ((x.vlog i).take (headSnap d).index) n)
      (enabled_disc0 X'.cs hi src) hlogv
      (by rw [hdV]; exact hcid) (by rw [hdV]; exact hnid) (by rw [hdV]; rfl)
      (by
        rw [hdV, uncD_eq _ hdlen]
        show (pad _ _ ++ _).length < (headSnap d).index
        rw [List.length_append, pad_length]
        exact hshort)
      (by rw [hdV, hXi]; exact hN)
      (by
        intro e he
        rw [hent] at he
        exact hS.dec i e (List.mem_of_mem_take he))
    have hPn : U (newBase x.s2 i n.log.prev) n = U ((x.vlog i).take (headSnap d).index) n := by
      rw [a1]; rfl
    refine ⟨?_, ⟨by rw [a1, a4]; exact Nat.le_refl _, fun rs hrs => by rw [a14] at hrs; cases hrs⟩, by rw [a1, hhd], ?_⟩
    · have hview := view_crashS x.s2 i .snapTaken n _ hPn
      have hcs : crashC X'.cs i (.disconnected 0) (U ((x.vlog i).take (headSnap d).index) n) =
          crashC (view x.s2).cs i .snapTaken (U ((x.vlog i).take (headSnap d).index) n) := by
        rw [crashC_op, hXcs]
        exact crashC_regroup (view x.s2).cs i (.disconnected 0) (U β' post) _ pe.entries pe.term pe.lastLogIndex
          pe.lastLogTerm
      have hsn : newSnaps i (x.vnode i).snapsDisk (U ((x.vlog i).take (headSnap d).index) n).snapsDisk ++ (view x.s2).snaps =
          newSnaps i (X'.node i).snapsDisk (U ((x.vlog i).take (headSnap d).index) n).snapsDisk ++ X'.snaps := by
        rw [hXs, hXi]
        show newSnaps i (x.node i).snapsDisk n.snapsDisk ++ x.s2.snaps =
          newSnaps i post.snapsDisk n.snapsDisk ++ (newSnaps i (x.node i).snapsDisk post.snapsDisk ++ x.s2.snaps)
        rw [s3', newSnaps_same, List.nil_append]
      rw [hview, ← hcs, hsn]
      exact key
    · show ((crashS x.s2 i .snapTaken n).vnode i).log.entries = _
      rw [view_crashS_node, if_pos rfl, hPn, hent, hhd]

theorem inv3_crash_stale (hV : V.Nodup) {x : Snap3.Sys} (hI : Inv3 V x) (hS : Side3 V x) {i : Nat} {op : Op} {ra : List Nat}
    {ord : List (List Nat)} {src k retain : Nat} {sor : Bool} {n : Node} (en : Snap.Enabled x.s2.cs i op src)
    (hret : 1 ≤ retain) (hp : ((x.node i).step op ra ord).panicked = none)
    (hnc : NoCut (x.node i) op) (htt : TermTracked (x.node i) op)
    (hst : staleLog (C05.crashDisk (x.node i) op ra ord k) = true)
    (hn : Node.restart (C05.crashDisk (x.node i) op ra ord k) retain sor = some n) :
    Inv3 V { x with s2 := crashS x.s2 i op n } ∧
    n.log = NLog.reset (headSnap (C05.crashDisk (x.node i) op ra ord k)).index ∧
    (crashS x.s2 i op n).vlog i = (x.vlog i).take (headSnap (C05.crashDisk (x.node i) op ra ord k)).index := by
  obtain ⟨w1, w2, w3, _⟩ := restart_snapTerm _ retain sor n hn
  have so : SnapOK (x.vnode i) := hI.sinv.snap i
  have key : SInv V (view (crashS x.s2 i op n)) ∧ PrevOK n ∧
      FilesOK (x.vlog i) (x.node i).commitIndex (C05.crashDisk (x.node i) op ra ord k).snaps ∧
      (∀ g ∈ (C05.crashDisk (x.node i) op ra ord k).snaps, termAt (x.vlog i) g.index = g.term) ∧
      n.log = NLog.reset (headSnap (C05.crashDisk (x.node i) op ra ord k)).index ∧
      (crashS x.s2 i op n).vlog i = (x.vlog i).take (headSnap (C05.crashDisk (x.node i) op ra ord k)).index := by
    by_cases hsn : op = .snapTaken
    · subst hsn
      obtain ⟨a1, a2, a3, a4⟩ := crash3_stale_snapTaken (src := src) hV hI hS en.id hret hst hn
      have hsn' : (C05.crashDisk (x.node i) .snapTaken ra ord k).snaps = (x.node i).snapsDisk := by
        rcases snapTaken_crashDisk (x.node i) ra ord k with e | ⟨e, _⟩ <;> rw [e] <;> rfl
      have hh : headSnap (C05.crashDisk (x.node i) .snapTaken ra ord k) = headOf (x.node i).snapsDisk := by
        show headOf _ = _; rw [hsn']
      refine ⟨a1, a2, by rw [hsn']; exact so.files, by rw [hsn']; exact (hI.vterm i).files, by rw [hh]; exact a3,
        by rw [hh]; exact a4⟩
    · exact crash3_stale hV hI hS en hret hp hsn hnc htt hst hn
  obtain ⟨a1, a2, a4, hft, a5, a6⟩ := key
  exact ⟨⟨a1, nodes_crashS hI.prev a2,
    vterm_crashS hI.vterm (vterm_restart hI (y := { x with s2 := crashS x.s2 i op n }) a1 (crashS_T _ _ _ _).1
      (crashS_T _ _ _ _).2 (crashS_node_i _ _ _ _) a4 hft w2 w1 w3),
    fun m hm => (hI.msgs m hm).mono (crashS_T _ _ _ _).1 (crashS_T _ _ _ _).2⟩, a5, a6⟩

end

end SnapCut
end Raft
