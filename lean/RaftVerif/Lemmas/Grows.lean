/-
The ledgers of `Commit.Sys` only grow: one relation (`Grows`, the monotone half of `Commit.Ext`), respected by every
transition, reflexive and transitive — hence by every run of every system over `Commit.Sys` (namespace `Commit`).
And the node map: a step or a crash with restart of node `i` replaces entry `i` (`stepRp_node_i`, `crashRp_node_i`).
-/
import RaftVerif.Sys.Commit

namespace Raft
namespace Commit

structure Grows (x y : Sys) : Prop where
  T : ∀ c ∈ x.T, c ∈ y.T
  sent : ∀ q ∈ x.rp.sent, q ∈ y.rp.sent
  acks : ∀ a ∈ x.acks, a ∈ y.acks
  camps : ∀ k ∈ x.camps, k ∈ y.camps
  committed : ∀ m ∈ x.committed, m ∈ y.committed
  grants : ∀ g ∈ x.rp.el.grants, g ∈ y.rp.el.grants
  counted : ∀ e ∈ x.rp.el.counted, e ∈ y.rp.el.counted
  won : ∀ e ∈ x.rp.el.won, e ∈ y.rp.el.won

theorem Grows.refl (x : Sys) : Grows x x :=
  ⟨fun _ h => h, fun _ h => h, fun _ h => h, fun _ h => h, fun _ h => h, fun _ h => h, fun _ h => h, fun _ h => h⟩

theorem Grows.trans {x y z : Sys} (a : Grows x y) (b : Grows y z) : Grows x z :=
  ⟨fun c h => b.T c (a.T c h), fun q h => b.sent q (a.sent q h), fun e h => b.acks e (a.acks e h),
    fun k h => b.camps k (a.camps k h), fun m h => b.committed m (a.committed m h),
    fun g h => b.grants g (a.grants g h), fun e h => b.counted e (a.counted e h), fun e h => b.won e (a.won e h)⟩

/-- `Ext` from the grown ledgers and what it says of the nodes and of the tree -/
theorem Ext.of_grows {x y : Sys} {i : Nat} (g : Grows x y) (other : ∀ j, j ≠ i → y.node j = x.node j)
    (term : ∀ j, (x.node j).term ≤ (y.node j).term) (uniq : Replication.Uniq y.T) (pathc : CommitRel.PathClosed x.T) :
    Ext x y i :=
  ⟨other, term, g.T, g.sent, g.acks, g.camps, g.committed, g.grants, g.counted, g.won, uniq, pathc⟩

/-- the ledgers after node `i` handled `op` to completion (the state of `Trans.step`, whatever enabled it) -/
theorem grows_step (x : Sys) (i : Nat) (op : Op) (ra : List Nat) (ord : List (List Nat)) (src : Nat) :
    Grows x { rp := stepRp x i op ra ord src
              acks := ackOf i op ((x.node i).step op ra ord) ++
                (selfAck i op (x.node i) ((x.node i).step op ra ord) ++ x.acks)
              camps := campOf i (x.node i) ((x.node i).step op ra ord) ++ x.camps
              committed := newCommit op (x.node i) ((x.node i).step op ra ord) ++ x.committed } :=
  ⟨fun _ h => List.mem_append_right _ h, fun _ h => h,
    fun _ h => List.mem_append_right _ (List.mem_append_right _ h), fun _ h => List.mem_append_right _ h,
    fun _ h => List.mem_append_right _ h, fun _ h => List.mem_append_right _ (List.mem_append_right _ h),
    fun _ h => List.mem_append_right _ h, fun _ h => List.mem_append_right _ h⟩

theorem grows_crash (x : Sys) (i : Nat) (op : Op) (n : Node) :
    Grows x { x with rp := crashRp x i op n, camps := campOf i (x.node i) n ++ x.camps } :=
  ⟨fun _ h => List.mem_append_right _ h, fun _ h => h, fun _ h => h, fun _ h => List.mem_append_right _ h,
    fun _ h => h, fun _ h => h, fun _ h => h, fun _ h => h⟩

theorem grows_send (x : Sys) (q : Node.AppendReq) : Grows x { x with rp := { x.rp with sent := q :: x.rp.sent } } :=
  ⟨fun _ h => h, fun _ h => List.mem_cons_of_mem _ h, fun _ h => h, fun _ h => h, fun _ h => h, fun _ h => h,
    fun _ h => h, fun _ h => h⟩

/-- a completed step, and a crash with restart, of node `i` replace entry `i` of the node map -/
theorem stepRp_node_i (x : Sys) (i : Nat) (op : Op) (ra : List Nat) (ord : List (List Nat)) (src : Nat) :
    (stepRp x i op ra ord src).el.node i = (x.node i).step op ra ord := Election.setNode_same _ _ _

theorem stepRp_node_j (x : Sys) (i : Nat) (op : Op) (ra : List Nat) (ord : List (List Nat)) (src : Nat) {j : Nat}
    (hj : j ≠ i) : (stepRp x i op ra ord src).el.node j = x.node j := Election.setNode_other _ _ _ _ hj

theorem crashRp_node_i (x : Sys) (i : Nat) (op : Op) (n : Node) : (crashRp x i op n).el.node i = n :=
  Election.setNode_same _ _ _

theorem crashRp_node_j (x : Sys) (i : Nat) (op : Op) (n : Node) {j : Nat} (hj : j ≠ i) :
    (crashRp x i op n).el.node j = x.node j := Election.setNode_other _ _ _ _ hj

theorem Trans.grows {x y : Sys} (h : Trans x y) : Grows x y := by
  cases h with
  | step i op ra ord src _ => exact grows_step x i op ra ord src
  | crash i op ra ord src k retain sor n _ _ => exact grows_crash x i op n
  | send i q _ _ _ _ => exact grows_send x q

end Commit
end Raft
