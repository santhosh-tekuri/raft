/-
How `configs` (latest / committed configuration) of one node can move: the two-state description of one `Node.step`
(`Phase`, `Move`, `Chain`, `ConfigStep`) and the proof that every step moves them by the moves of `Move` only (`handle_fin`,
used by `Props/C08Step.lean`). The invariant is `BI = Main ∧ LV` inside the leader's handlers — `block` takes it through the
mutually recursive leader block (`storeEntry` … `onMajorityCommit`) for every budget, each function's hypothesis speaking
of its arguments (`BatchOK`, `Jc`, `AnchC`) — and `FI` inside the request handlers of a follower; `QClosed` collects the
primitives that touch neither `configs` nor the log end, the commit index or the node identity.
-/
import RaftVerif.Lemmas.StepInv
import RaftVerif.Lemmas.Shape
import RaftVerif.Lemmas.ShapeSnap
import RaftVerif.Lemmas.ShapeAppend
import RaftVerif.Lemmas.HandleKind
import RaftVerif.Lemmas.LocalA
import RaftVerif.Lemmas.RoleRel
import RaftVerif.Lemmas.LogBase
import RaftVerif.Props.C08

namespace Raft
namespace CfgRel
open Node


def SameVoters (b c : Config) : Prop := ∀ x, b.isVoter x = c.isVoter x

/-- an *anchor*: a voter without pending action (as `Configs` looks nodes up: the first entry of that id) -/
def HasAnchor (c : Config) : Prop := ∃ a m, c.find? a = some m ∧ m.voter = true ∧ m.action = actNone

def AnchC (c : Config) : Prop := c.nodes = [] ∨ HasAnchor c

/-- `c` differs from `b` in the entry of ONE node only, and that entry of `b` asked for an action -/
def OneNode (b c : Config) : Prop := ∃ id, (b.get id).action ≠ actNone ∧ ∀ x, x ≠ id → c.find? x = b.find? x

def Deriv (b c : Config) : Prop := c.nodes = b.nodes ∨ OneNode b c

/-- **adjacent configurations**: the voting rights agree except possibly at one node, and `c'` has a voter -/
def Adjacent (c c' : Config) : Prop := C08.AdjacentVoters c c' ∧ ∃ v, c'.isVoter v = true

theorem SameVoters.refl (c : Config) : SameVoters c c := fun _ => rfl

theorem find?_congr {c c' : Config} (h : c'.nodes = c.nodes) (x : Nat) : c'.find? x = c.find? x := by
  unfold Config.find?; rw [h]

theorem isVoter_congr {c c' : Config} (h : ∀ x, c'.find? x = c.find? x) (x : Nat) : c'.isVoter x = c.isVoter x := by
  unfold Config.isVoter; rw [h x]

theorem SameVoters.of_nodes {b c : Config} (h : c.nodes = b.nodes) : SameVoters b c :=
  fun x => (isVoter_congr (find?_congr h) x).symm

theorem HasAnchor.congr {c c' : Config} (h : HasAnchor c) (e : c'.nodes = c.nodes) : HasAnchor c' := by
  obtain ⟨a, m, h1, h2, h3⟩ := h
  exact ⟨a, m, by rw [find?_congr e]; exact h1, h2, h3⟩

theorem HasAnchor.voter {c : Config} (h : HasAnchor c) : ∃ v, c.isVoter v = true := by
  obtain ⟨a, m, h1, h2, _⟩ := h
  exact ⟨a, by unfold Config.isVoter; rw [h1]; exact h2⟩

theorem HasAnchor.nonempty {c : Config} (h : HasAnchor c) : c.nodes ≠ [] := by
  obtain ⟨a, m, h1, _, _⟩ := h
  intro he
  unfold Config.find? at h1
  rw [he] at h1
  cases h1

theorem OneNode.congr {b c c' : Config} (h : OneNode b c) (e : c'.nodes = c.nodes) : OneNode b c' := by
  obtain ⟨id, h1, h2⟩ := h
  exact ⟨id, h1, fun x hx => by rw [find?_congr e]; exact h2 x hx⟩

theorem Deriv.congr {b c c' : Config} (h : Deriv b c) (e : c'.nodes = c.nodes) : Deriv b c' := by
  rcases h with h | h
  · exact Or.inl (e.trans h)
  · exact Or.inr (h.congr e)

/-- `get` of an absent id is Go's zero node -/
theorem get_action_ne {c : Config} {id : Nat} (h : (c.get id).action ≠ actNone) : c.find? id = some (c.get id) := by
  unfold Config.get at h ⊢
  cases hf : c.find? id with
  | none => rw [hf] at h; exact absurd rfl h
  | some m => rfl

theorem find?_id {c : Config} {id : Nat} {m : CNode} (h : c.find? id = some m) : m.id = id := by
  unfold Config.find? at h
  have := List.find?_some h
  simpa using this

theorem get_id {c : Config} {id : Nat} (h : (c.get id).action ≠ actNone) : (c.get id).id = id :=
  find?_id (get_action_ne h)

theorem OneNode.anchor {b c : Config} (h : OneNode b c) (ha : HasAnchor b) : HasAnchor c := by
  obtain ⟨id, h1, h2⟩ := h
  obtain ⟨a, m, a1, a2, a3⟩ := ha
  have hne : a ≠ id := by
    intro he
    subst he
    apply h1
    unfold Config.get
    rw [a1]
    exact a3
  exact ⟨a, m, by rw [h2 a hne]; exact a1, a2, a3⟩

theorem Deriv.anchor {b c : Config} (h : Deriv b c) (ha : HasAnchor b) : HasAnchor c := by
  rcases h with h | h
  · exact ha.congr h
  · exact h.anchor ha

/-- one action changes the voting right of at most one node -/
theorem Deriv.adjacent {b c L : Config} (h : Deriv b c) (hs : SameVoters b L) : C08.AdjacentVoters L c := by
  rcases h with h | ⟨id, _, h2⟩
  · exact ⟨0, fun x _ => by rw [← hs x]; exact isVoter_congr (find?_congr h) x⟩
  · refine ⟨id, fun x hx => ?_⟩
    rw [← hs x]
    unfold Config.isVoter
    rw [h2 x hx]


theorem oneNode_set (c : Config) (id : Nat) (m : CNode) (hm : m.id = id) (ha : (c.get id).action ≠ actNone) :
    OneNode c (c.set m) :=
  ⟨id, ha, fun x hx => Config.find?_set_ne c m x (by rw [hm]; exact hx)⟩

theorem oneNode_erase (c : Config) (id : Nat) (ha : (c.get id).action ≠ actNone) : OneNode c (c.erase id) :=
  ⟨id, ha, fun x hx => Config.find?_erase_ne c id x hx⟩

theorem nextAction_ne {n : CNode} (h : n.nextAction ≠ actNone) : n.action ≠ actNone := by
  intro he
  apply h
  unfold CNode.nextAction
  rw [he]
  simp [actNone, actForceRemove, actDemote, actRemove, actPromote]

/-- whatever `checkConfigAction` proposes is derived from its `config` argument by one action on that node -/
theorem actionConfig_oneNode (li : Nat) (config : Config) (id : Nat) (st : Repl) (c : Config)
    (ha : (config.get id).nextAction ≠ actNone)
    (h : actionConfig li config (config.get id) (config.get id).nextAction st = some c) : OneNode config c := by
  have hact := nextAction_ne ha
  have hid := get_id hact
  unfold actionConfig at h
  repeat' (split at h)
  all_goals first
    | (injection h with h; subst h
       first
        | exact oneNode_set _ _ _ hid hact
        | (rw [hid]; exact oneNode_erase _ _ hact))
    | cases h

/-- demoting or removing a node that has no vote does not change who votes -/
theorem sameVoters_set_nonvoter (c : Config) (id : Nat) (m : CNode) (hm : m.id = id) (hv : m.voter = false)
    (hc : c.isVoter id = false) : SameVoters (c.set m) c := by
  intro x
  by_cases hx : x = id
  · subst hx
    rw [hc]
    unfold Config.isVoter
    rw [← hm, Config.find?_set_self]
    exact hv
  · unfold Config.isVoter
    rw [Config.find?_set_ne c m x (by rw [hm]; exact hx)]

theorem sameVoters_erase_nonvoter (c : Config) (id : Nat) (hc : c.isVoter id = false) : SameVoters (c.erase id) c := by
  intro x
  by_cases hx : x = id
  · subst hx
    rw [hc]
    unfold Config.isVoter
    rw [Config.find?_erase_self]
  · unfold Config.isVoter
    rw [Config.find?_erase_ne c id x hx]

theorem SameVoters.trans {a b c : Config} (h1 : SameVoters a b) (h2 : SameVoters b c) : SameVoters a c :=
  fun x => (h1 x).trans (h2 x)

theorem get_voter_eq_isVoter (c : Config) (id : Nat) : (c.get id).voter = c.isVoter id := by
  unfold Config.get Config.isVoter
  cases c.find? id <;> rfl


/-- Where a step stands with respect to the leader's membership changes: `fresh` — no configuration was introduced
in this step so far; `changed` — one was, and it has not been committed since; `settled` — that one configuration was
committed within the same step (what only the single-voter fast path, or match indexes beyond the leader's log, can
do) and none was introduced since; `nested` — a further configuration was introduced after that, or a configuration
was introduced after a failure had been recorded (`panicked`: the model runs on a totalised path). -/
inductive Phase where
  | fresh | changed | settled | nested
  deriving DecidableEq, Repr

namespace Phase
def rank : Phase → Nat
  | fresh => 0 | changed => 1 | settled => 2 | nested => 3
def afterChange : Phase → Phase
  | fresh => changed | changed => changed | _ => nested
def afterCommit : Phase → Phase
  | changed => settled | p => p
instance : LE Phase := ⟨fun a b => a.rank ≤ b.rank⟩
instance (a b : Phase) : Decidable (a ≤ b) := inferInstanceAs (Decidable (a.rank ≤ b.rank))
theorem le_def (a b : Phase) : a ≤ b ↔ a.rank ≤ b.rank := Iff.rfl
theorem le_refl (a : Phase) : a ≤ a := Nat.le_refl _
theorem le_trans {a b c : Phase} (h1 : a ≤ b) (h2 : b ≤ c) : a ≤ c := Nat.le_trans h1 h2
theorem le_afterChange (a : Phase) : a ≤ a.afterChange := by cases a <;> decide
theorem le_afterCommit (a : Phase) : a ≤ a.afterCommit := by cases a <;> decide
theorem afterChange_ne (a : Phase) : a.afterChange ≠ fresh := by cases a <;> decide
theorem afterCommit_fresh {a : Phase} (h : a.afterCommit = fresh) : a = fresh := by cases a <;> first | rfl | cases h
theorem eq_fresh_of_le {a b : Phase} (h : a ≤ b) (hb : b = fresh) : a = fresh := by
  subst hb; cases a <;> first | rfl | exact absurd h (by decide)
/-- the phase after a configuration was introduced; `failed`: a failure had been recorded before (the model then
runs on a totalised path and nothing is claimed: `nested`) -/
def afterChangeP (a : Phase) (failed : Bool) : Phase := if failed then nested else a.afterChange
theorem le_afterChangeP (a : Phase) (f : Bool) : a ≤ a.afterChangeP f := by cases a <;> cases f <;> decide
theorem afterChangeP_ne (a : Phase) (f : Bool) : a.afterChangeP f ≠ fresh := by cases a <;> cases f <;> decide
end Phase

/-- **One elementary move of `configs`** inside the step in which the node, in state `s`, handles `op`.
The first `Phase` is the phase before the move, the second the one after it. -/
inductive Move (s : Node) (op : Op) : Phase → Configs → Phase → Configs → Prop
  /-- (a) LEADER CHANGE (`leader.storeEntry` of a configuration entry followed by `leader.changeConfig`).
  `x` is the state of the node right after it appended the entry and before it adopts the configuration `c`:
  the same node, not older than `s`; it IS leader and a voter of its configuration; that configuration is
  committed (`isCommitted`); no leadership transfer is in progress; an entry of its own term is committed
  (`startIndex ≤ commitIndex`); `c` is the entry just appended (index `lastLogIndex`, beyond the predecessor's, and
  the leader's term); `c` was derived from a configuration `b` by at most one action, `b` has the voters of the
  predecessor `x.configs.latest` — claimed while the step has not introduced another configuration before
  (`ph = fresh`) and nothing has failed (`panicked = none`; otherwise the phase becomes `nested`) — and `c` has an
  anchor (a voter without pending action). Afterwards `committed` is the predecessor and `latest = c`. -/
  | change (ph : Phase) (x : Node) (b c : Config) :
      x.nid = s.nid → s.term ≤ x.term → s.commitIndex ≤ x.commitIndex →
      x.role = .leader → x.configs.latest.isVoter x.nid = true →
      x.configs.isCommitted = true → x.ldr.transfer.active = false → x.ldr.startIndex ≤ x.commitIndex →
      x.configs.latest.index < c.index → c.index = x.lastLogIndex → c.term = x.term →
      Deriv b c → (ph = .fresh → x.panicked = none → SameVoters b x.configs.latest) → HasAnchor c →
      Move s op ph x.configs (ph.afterChangeP x.panicked.isSome) ⟨x.configs.latest, c⟩
  /-- (b) COMMIT (`Raft.setCommitIndex`): the latest configuration was not committed and the commit index moves
  to `i`, at or beyond its index: `committed := latest`. -/
  | commit (ph : Phase) (cs : Configs) (i : Nat) :
      cs.isCommitted = false → cs.latest.index ≤ i → s.commitIndex < i →
      Move s op ph cs ph.afterCommit ⟨cs.latest, cs.latest⟩
  /-- (c) FOLLOWER ADOPTION: a configuration entry `e` carried by the append request being handled is stored;
  `committed :=` the previous `latest` (whether or not that one is committed here), `latest :=` the entry. -/
  | adopt (cs : Configs) (q : AppendReq) (e : Entry) (c : Config) :
      op = .append q → e ∈ q.entries → e.config? = some c →
      Move s op .fresh cs .fresh ⟨cs.latest, c⟩
  /-- (c') REVERT: an entry `e` of the append request conflicts with the log at an index at or below that of the
  latest configuration; the log is truncated there and `latest := committed`. -/
  | revert (cs : Configs) (q : AppendReq) (e : Entry) :
      op = .append q → e ∈ q.entries → e.index ≤ cs.latest.index →
      Move s op .fresh cs .fresh ⟨cs.committed, cs.committed⟩
  /-- (d) INSTALL: `latest = committed =` the label of the snapshot of the install request (which is beyond the
  commit index) -/
  | install (cs : Configs) (q : InstallReq) :
      op = .install q → s.commitIndex < q.lastIndex →
      Move s op .fresh cs .fresh ⟨q.lastConfig, q.lastConfig⟩
  /-- (e) BOOTSTRAP of a node that holds no configuration: the submitted configuration (stable, the node itself
  a voter) becomes entry 1 of term 1 -/
  | bootstrap (t : Nat) (c : Config) (self : CNode) :
      op = .changeConfig t c → s.role ≠ .leader → s.configs.isBootstrapped = false →
      c.find? s.nid = some self → self.voter = true → c.isStable = true →
      Move s op .fresh s.configs .fresh ⟨s.configs.latest, { c with index := 1, term := 1 }⟩

/-- the moves of `configs` made so far in the step, with the phase reached -/
inductive Chain (s : Node) (op : Op) : Phase → Configs → Prop
  | start : Chain s op .fresh s.configs
  | step {ph ph' : Phase} {cs cs' : Configs} : Chain s op ph cs → Move s op ph cs ph' cs' → Chain s op ph' cs'

/-- **How `configs` moves in a step**: `s'.configs` is reached from `s.configs` by a chain of moves (possibly none:
then `s'.configs = s.configs`). -/
def ConfigStep (s : Node) (op : Op) (s' : Node) : Prop := ∃ ph, Chain s op ph s'.configs


structure KV where
  configs : Configs
  nid : Nat
  term : Nat
  commitIndex : Nat
  lastLogIndex : Nat
  role : Role
  selfVoter : Bool
  startIndex : Nat
  entries : List Entry

def kv (s : Node) : KV :=
  ⟨s.configs, s.nid, s.term, s.commitIndex, s.lastLogIndex, s.role, s.ldr.node.voter, s.ldr.startIndex, s.log.entries⟩

/-- `y` results from `x` by bookkeeping: the key fields are untouched and a recorded failure stays recorded -/
structure Quiet (x y : Node) : Prop where
  kv : kv y = kv x
  pan : x.panicked ≠ none → y.panicked ≠ none

namespace Quiet
theorem refl (x : Node) : Quiet x x := ⟨rfl, id⟩
theorem trans {x y z : Node} (h1 : Quiet x y) (h2 : Quiet y z) : Quiet x z :=
  ⟨h2.kv.trans h1.kv, fun h => h2.pan (h1.pan h)⟩
theorem configs {x y : Node} (h : Quiet x y) : y.configs = x.configs := congrArg KV.configs h.kv
theorem nid {x y : Node} (h : Quiet x y) : y.nid = x.nid := congrArg KV.nid h.kv
theorem term {x y : Node} (h : Quiet x y) : y.term = x.term := congrArg KV.term h.kv
theorem commitIndex {x y : Node} (h : Quiet x y) : y.commitIndex = x.commitIndex := congrArg KV.commitIndex h.kv
theorem lastLogIndex {x y : Node} (h : Quiet x y) : y.lastLogIndex = x.lastLogIndex := congrArg KV.lastLogIndex h.kv
theorem role {x y : Node} (h : Quiet x y) : y.role = x.role := congrArg KV.role h.kv
theorem selfVoter {x y : Node} (h : Quiet x y) : y.ldr.node.voter = x.ldr.node.voter := congrArg KV.selfVoter h.kv
theorem startIndex {x y : Node} (h : Quiet x y) : y.ldr.startIndex = x.ldr.startIndex := congrArg KV.startIndex h.kv
theorem entries {x y : Node} (h : Quiet x y) : y.log.entries = x.log.entries := congrArg KV.entries h.kv
theorem pan' {x y : Node} (h : Quiet x y) (hy : y.panicked = none) : x.panicked = none := by
  cases hx : x.panicked with
  | none => rfl
  | some v => exact absurd hy (h.pan (by rw [hx]; simp))
end Quiet

theorem q_panic (x : Node) (site : String) : Quiet x (x.panic site) := by
  refine ⟨?_, fun _ => Node.panic_panicked_ne x site⟩
  unfold Node.panic; split <;> rfl

theorem q_assert (x : Node) (b : Bool) (site : String) : Quiet x (x.assert b site) := by
  unfold Node.assert; split
  · exact .refl x
  · exact q_panic x site

theorem q_reply (x : Node) (t : Nat) (r : String) : Quiet x (x.reply t r) := by
  unfold Node.reply; split
  · exact .refl x
  · exact ⟨rfl, id⟩

theorem q_rpcDone (x : Node) (a b : Bool) : Quiet x (x.rpcDone a b) := by
  unfold Node.rpcDone; split
  · exact (⟨rfl, id⟩ : Quiet x (x.withRpcReply (some (x.mkReply a b)))).trans (q_panic _ _)
  · exact ⟨rfl, id⟩

theorem q_point (x : Node) (n : String) : Quiet x (x.point n) := ⟨rfl, id⟩
theorem q_popOrder (x : Node) : Quiet x x.popOrder := ⟨rfl, id⟩
theorem q_fsm (x : Node) (f : Fsm) : Quiet x (x.withFsm f) := ⟨rfl, id⟩

theorem q_ldr (x : Node) (l : Leader) (h1 : l.node = x.ldr.node) (h2 : l.startIndex = x.ldr.startIndex) :
    Quiet x (x.withLdr l) := by
  refine ⟨?_, id⟩
  unfold kv Node.withLdr
  simp only [h1, h2]

theorem q_setRepl (x : Node) (r : Repl) : Quiet x (x.setRepl r) := q_ldr x _ rfl rfl

theorem q_commitLog (x : Node) (n : Nat) : Quiet x (x.commitLog n) := by
  refine ⟨?_, id⟩
  unfold kv Node.commitLog Node.point
  simp only [(NLog.commitN_same _ _).2.1]

theorem q_addReplication (x : Node) (n : CNode) : Quiet x (x.addReplication n) := by
  unfold Node.addReplication
  extract_lets s1 s2
  have h1 : Quiet x s1 := q_assert x _ _
  have h2 : Quiet s1 s2 := by unfold s2; split; exact .refl _; exact q_panic _ _
  exact (h1.trans h2).trans (q_setRepl _ _)

theorem q_notifyFlr (x : Node) : Quiet x x.notifyFlr :=
  notifyFlr_of (P := Quiet x) (fun y site h => h.trans (q_panic y site)) x (.refl x)

theorem q_beginFinishedRounds (x : Node) : Quiet x x.beginFinishedRounds := q_ldr x _ rfl rfl

theorem q_foldl {β : Type} (f : Node → β → Node) (hf : ∀ s b, Quiet s (f s b)) (xs : List β) (x : Node) :
    Quiet x (xs.foldl f x) := by
  induction xs generalizing x with
  | nil => exact .refl x
  | cons b bs ih => exact (hf x b).trans (ih _)

/-- a recorded failure stays recorded: closed under the primitives of the leader block -/
theorem pnClosed : Closed (fun x : Node => x.panicked ≠ none) where
  panic := fun x site _ => Node.panic_panicked_ne x site
  reply := fun x t r h => (q_reply x t r).pan h
  point := fun _ _ h => h
  ldr := fun _ _ h => h
  append := fun _ _ _ h => h
  commitN := fun _ _ h => h
  fsm := fun _ _ h => h
  changeConfigR := fun x c h => by rw [Node.changeConfigR_shape]; exact h
  setCommitIndexR := fun x i h _ => by rw [Node.setCommitIndexR_shape]; exact h
  popOrder := fun _ h => h

theorem kvFsmFrame : FsmFrame kv where
  panic := fun x site => (q_panic x site).kv
  reply := fun x t r => (q_reply x t r).kv
  fsm := fun _ _ => rfl

theorem q_applyCommittedL (x : Node) : Quiet x x.applyCommittedL := by
  refine ⟨?_, fun h => pnClosed.applyCommittedL_inv x h⟩
  unfold Node.applyCommittedL
  dsimp only
  rw [kvFsmFrame.fsmApply_eq]
  rfl


/-- closed under the primitives that touch neither `configs` nor the log end, the commit index or the identity
(the leader record, role, term and vote may change freely) -/
structure QClosed (Inv : Node → Prop) : Prop where
  panic : ∀ s site, Inv s → Inv (s.panic site)
  reply : ∀ s t r, Inv s → Inv (s.reply t r)
  point : ∀ s n, Inv s → Inv (s.point n)
  ldr : ∀ (s : Node) l, Inv s → Inv (s.withLdr l)
  popOrder : ∀ (s : Node), Inv s → Inv s.popOrder
  rpcReply : ∀ (s : Node) r, Inv s → Inv (s.withRpcReply r)
  ret : ∀ (s : Node) r, Inv s → Inv (s.ret r)
  setRole : ∀ (s : Node) r, Inv s → Inv (s.setRole r)
  setLeader : ∀ (s : Node) l, Inv s → Inv (s.setLeader l)
  doClose : ∀ (s : Node) r, Inv s → Inv (s.doClose r)
  setTerm : ∀ (s : Node) t, Inv s → Inv (s.setTerm t)
  setVotedFor : ∀ (s : Node) t c, Inv s → Inv (s.setVotedFor t c)
  votesNeeded : ∀ (s : Node) v, Inv s → Inv (s.withVotesNeeded v)
  candTransfer : ∀ (s : Node) v, Inv s → Inv (s.withCandTransfer v)
  removeLTE : ∀ (s : Node) i, Inv s → Inv { s with log := s.log.removeLTE i }
  publishSnapshot : ∀ (s : Node) f, Inv s → Inv (s.publishSnapshot f)
  snapPending : ∀ (s : Node) v, Inv s → Inv (s.withSnapPending v)
  snapResult : ∀ (s : Node) v, Inv s → Inv (s.withSnapResult v)

namespace QClosed
variable {Inv : Node → Prop} (h : QClosed Inv)
include h

/-- … in particular the quiet handlers (Lemmas/Quiet.lean), without a guard on `setRole` and `setVotedFor` -/
theorem toQuiet (op : Op) : QuietClosed op Inv :=
  ⟨h.panic, fun s r hs _ => h.setRole s r hs, h.setLeader, h.ret, h.rpcReply, h.votesNeeded, h.candTransfer, h.setTerm,
   fun s t c hs _ => h.setVotedFor s t c hs, h.reply, h.snapPending⟩

/-- any new leader record, in the form the walks of the transfer handlers ask for one that differs in the transfer record -/
theorem ldrT_q (s : Node) (l : Leader) (hs : Inv s) (_ : l.node = s.ldr.node) (_ : l.numVoters = s.ldr.numVoters)
    (_ : l.startIndex = s.ldr.startIndex) (_ : l.removeLTE = s.ldr.removeLTE) (_ : l.repls = s.ldr.repls)
    (_ : l.queue = s.ldr.queue) : Inv (s.withLdr l) := h.ldr s l hs

theorem setRepl_q (s : Node) (r : Repl) (hs : Inv s) : Inv (s.setRepl r) := by
  unfold Node.setRepl; exact h.ldr _ _ hs

theorem compactLog_q (s : Node) (i : Nat) (hs : Inv s) : Inv (s.compactLog i) := by
  unfold Node.compactLog; exact h.point _ _ (h.removeLTE _ _ hs)

theorem tryTransfer_q (s : Node) (hs : Inv s) : Inv s.tryTransfer := Node.tryTransfer_ldrT h.ldrT_q h.panic h.popOrder s hs

theorem onTransfer_q (s : Node) (t g : Nat) (hs : Inv s) : Inv (s.onTransfer t g) :=
  Node.onTransfer_ldrT h.ldrT_q h.reply h.panic h.popOrder s t g hs

theorem checkQuorum_q (s : Node) (hs : Inv s) : Inv s.checkQuorum := (h.toQuiet .timeout).checkQuorum_inv s hs

theorem leaderRelease_q (s : Node) (hs : Inv s) : Inv s.leaderRelease :=
  Node.leaderRelease_of h.ldrT_q h.reply h.setLeader (fun s hs => h.ldr s _ hs) s hs

theorem releaseRole_q (s : Node) (r : Role) (hs : Inv s) : Inv (s.releaseRole r) :=
  releaseRole_of h.candTransfer h.leaderRelease_q s r hs

theorem startElection_q (s : Node) (hs : Inv s) : Inv s.startElection :=
  startElection_of s h.panic h.votesNeeded (fun x hx => h.setVotedFor x _ _ hx) (fun x hx _ => h.setRole x _ hx)
    h.setLeader hs

theorem snapRun_q (s : Node) (hs : Inv s) : Inv s.snapRun :=
  snapRun_of h.snapPending h.snapResult h.publishSnapshot s hs

theorem onSnapshotTaken_q (s : Node) (hs : Inv s) : Inv s.onSnapshotTaken :=
  onSnapshotTaken_of h.panic h.reply h.snapResult h.compactLog_q h.ldr s hs

theorem onWaitForStable_q (s : Node) (t : Nat) (hs : Inv s) : Inv (s.onWaitForStable t) :=
  onWaitForStable_of h.reply (fun s _ hs => h.ldr s _ hs) s t hs

theorem rpcDone_q (s : Node) (a b : Bool) (hs : Inv s) : Inv (s.rpcDone a b) := rpcDone_of h.panic h.rpcReply s a b hs

theorem checkLogCompact_q (s : Node) (hs : Inv s) : Inv s.checkLogCompact :=
  checkLogCompact_of (fun s hs => h.compactLog_q s _ hs) s hs

theorem shutdown_q (s : Node) (hs : Inv s) : Inv s.shutdown := by
  have h2 := h.releaseRole_q (s.doClose "serverClosed") (s.doClose "serverClosed").role (h.doClose s _ hs)
  exact shutdown_of s h2 (h.snapRun_q _ h2) h.onSnapshotTaken_q

end QClosed


/-- **the configuration entries of the log and `configs`**: every configuration entry of the log lies at or below the
index of `configs.committed`, or is the entry of `configs.latest` — beyond `committed` the log holds at most ONE
configuration entry, the latest one -/
def CfgLog (x : Node) : Prop :=
  ∀ e ∈ x.log.entries, e.typ = etConfig → e.index ≤ x.configs.committed.index ∨ e.index = x.configs.latest.index

/-- … together with `committed.index ≤ latest.index` (part of `Order.Ordered`) -/
def LogInv (x : Node) : Prop := CfgLog x ∧ x.configs.committed.index ≤ x.configs.latest.index

/-- the part that does not depend on the role or the leader record: the moves made so far, the identity, term
and commit index relative to `s`, `latest.index ≤ lastLogIndex`, and an anchor in the latest configuration -/
structure Main (s : Node) (op : Op) (ph : Phase) (x : Node) : Prop where
  chain : Chain s op ph x.configs
  nid : x.nid = s.nid
  term : s.term ≤ x.term
  ci : s.commitIndex ≤ x.commitIndex
  li : x.configs.latest.index ≤ x.lastLogIndex
  anch : AnchC x.configs.latest
  /-- the configuration entries of the log: if `LogInv` held before the step it holds now (unless a failure was
  recorded: then the model runs on a totalised path, e.g. the recursion budget ran out between `storeEntry` and
  `leader.changeConfig`) -/
  cl : LogInv s → x.panicked = none → LogInv x

variable {s : Node} {op : Op} {ph : Phase} {x y : Node}

theorem LogInv.congr (h : LogInv x) (e1 : y.configs = x.configs) (e2 : ∀ e ∈ y.log.entries, e ∈ x.log.entries) :
    LogInv y := by
  unfold LogInv CfgLog at *
  rw [e1]
  exact ⟨fun e he ht => h.1 e (e2 e he) ht, h.2⟩

theorem Main.congr (h : Main s op ph x) (e1 : y.configs = x.configs) (e2 : y.nid = x.nid) (e3 : x.term ≤ y.term)
    (e4 : y.commitIndex = x.commitIndex) (e5 : y.lastLogIndex = x.lastLogIndex)
    (e6 : ∀ e ∈ y.log.entries, e ∈ x.log.entries) (e7 : y.panicked = none → x.panicked = none) : Main s op ph y :=
  ⟨by rw [e1]; exact h.chain, by rw [e2]; exact h.nid, Nat.le_trans h.term e3, by rw [e4]; exact h.ci,
   by rw [e1, e5]; exact h.li, by rw [e1]; exact h.anch, fun hs hp => (h.cl hs (e7 hp)).congr e1 e6⟩

theorem Main.quiet (h : Main s op ph x) (q : Quiet x y) : Main s op ph y :=
  h.congr q.configs q.nid (by rw [q.term]; exact Nat.le_refl _) q.commitIndex q.lastLogIndex
    (fun e he => by rw [← q.entries]; exact he) q.pan'

theorem storeTermVote_fields (x : Node) (t c : Nat) :
    (x.storeTermVote t c).configs = x.configs ∧ (x.storeTermVote t c).nid = x.nid ∧
    (x.storeTermVote t c).commitIndex = x.commitIndex ∧ (x.storeTermVote t c).lastLogIndex = x.lastLogIndex ∧
    (x.storeTermVote t c).term = t ∧ (x.storeTermVote t c).log = x.log ∧ (x.storeTermVote t c).panicked = x.panicked := by
  rw [Node.storeTermVote_shape]; exact ⟨rfl, rfl, rfl, rfl, rfl, rfl, rfl⟩

theorem main_setTerm (h : Main s op ph x) (t : Nat) : Main s op ph (x.setTerm t) := by
  unfold Node.setTerm
  split
  · split
    · obtain ⟨a, b, c, d, e, f, g⟩ := storeTermVote_fields x t 0
      exact h.congr a b (by rw [e]; omega) c d (fun _ he => by rw [← f]; exact he) (fun hp => by rw [← g]; exact hp)
    · exact h.quiet (q_panic _ _)
  · exact h

theorem main_setVotedFor (h : Main s op ph x) (t c : Nat) : Main s op ph (x.setVotedFor t c) := by
  unfold Node.setVotedFor
  split
  · split
    · obtain ⟨a, b, c', d, e, f, g⟩ := storeTermVote_fields x t c
      exact h.congr a b (by rw [e]; omega) c' d (fun _ he => by rw [← f]; exact he) (fun hp => by rw [← g]; exact hp)
    · exact h.quiet (q_panic _ _)
  · exact h

theorem main_doClose (h : Main s op ph x) (r : String) : Main s op ph (x.doClose r) := by
  unfold Node.doClose
  split
  · exact h
  · exact h.congr rfl rfl (Nat.le_refl _) rfl rfl (fun _ he => he) id

theorem mainQ (s : Node) (op : Op) (ph : Phase) : QClosed (Main s op ph) where
  panic := fun x site h => h.quiet (q_panic x site)
  reply := fun x t r h => h.quiet (q_reply x t r)
  point := fun x n h => h.quiet (q_point x n)
  ldr := fun _ _ h => h.congr rfl rfl (Nat.le_refl _) rfl rfl (fun _ he => he) id
  popOrder := fun x h => h.quiet (q_popOrder x)
  rpcReply := fun _ _ h => h.congr rfl rfl (Nat.le_refl _) rfl rfl (fun _ he => he) id
  ret := fun _ _ h => h.congr rfl rfl (Nat.le_refl _) rfl rfl (fun _ he => he) id
  setRole := fun _ _ h => h.congr rfl rfl (Nat.le_refl _) rfl rfl (fun _ he => he) id
  setLeader := fun _ _ h => h.congr rfl rfl (Nat.le_refl _) rfl rfl (fun _ he => he) id
  doClose := fun _ r h => main_doClose h r
  setTerm := fun _ t h => main_setTerm h t
  setVotedFor := fun _ t c h => main_setVotedFor h t c
  votesNeeded := fun _ _ h => h.congr rfl rfl (Nat.le_refl _) rfl rfl (fun _ he => he) id
  candTransfer := fun _ _ h => h.congr rfl rfl (Nat.le_refl _) rfl rfl (fun _ he => he) id
  removeLTE := fun _ _ h => h.congr rfl rfl (Nat.le_refl _) rfl rfl (fun _ he => List.mem_of_mem_drop he) id
  publishSnapshot := fun _ _ h => h.congr rfl rfl (Nat.le_refl _) rfl rfl (fun _ he => he) id
  snapPending := fun _ _ h => h.congr rfl rfl (Nat.le_refl _) rfl rfl (fun _ he => he) id
  snapResult := fun _ _ h => h.congr rfl rfl (Nat.le_refl _) rfl rfl (fun _ he => he) id

/-- the leader's own cached entry: its voter flag is that of the latest configuration, and a node whose cached
entry is a voter is (still) leader — a leader that finds itself demoted steps down without refreshing the cache -/
structure LV (x : Node) : Prop where
  cache : x.ldr.node.voter = x.configs.latest.isVoter x.nid
  lead : x.ldr.node.voter = true → x.role = .leader

theorem LV.quiet (h : LV x) (q : Quiet x y) : LV y :=
  ⟨by rw [q.selfVoter, q.configs, q.nid]; exact h.cache, fun hv => by rw [q.role]; exact h.lead (by rw [← q.selfVoter]; exact hv)⟩

/-- the invariant inside the leader's handlers -/
structure BI (s : Node) (op : Op) (ph : Phase) (x : Node) : Prop where
  main : Main s op ph x
  lv : LV x

theorem BI.quiet (h : BI s op ph x) (q : Quiet x y) : BI s op ph y := ⟨h.main.quiet q, h.lv.quiet q⟩

/-- how a call of a leader handler relates its input `(x, ph)` to its output `(x', ph')` -/
structure Tr0 (x : Node) (ph : Phase) (x' : Node) (ph' : Phase) : Prop where
  mono : ph ≤ ph'
  lli : x.lastLogIndex ≤ x'.lastLogIndex
  ci : x.commitIndex ≤ x'.commitIndex
  start : x'.ldr.startIndex = x.ldr.startIndex
  pan : x.panicked ≠ none → x'.panicked ≠ none
  /-- while no configuration was introduced: `latest` and the cached voter flag are those of `x`, and a committed
  configuration stays committed -/
  fresh : ph' = .fresh → x'.configs.latest = x.configs.latest ∧
    (x.configs.isCommitted = true → x'.configs.isCommitted = true) ∧ x'.ldr.node.voter = x.ldr.node.voter

/-- … and a configuration is only introduced together with a new log entry -/
structure Tr (x : Node) (ph : Phase) (x' : Node) (ph' : Phase) : Prop extends Tr0 x ph x' ph' where
  moved : ph = .fresh → ph' ≠ .fresh → x.lastLogIndex < x'.lastLogIndex

theorem Tr0.refl (x : Node) (ph : Phase) : Tr0 x ph x ph :=
  ⟨Phase.le_refl _, Nat.le_refl _, Nat.le_refl _, rfl, id, fun _ => ⟨rfl, id, rfl⟩⟩

theorem Tr.refl (x : Node) (ph : Phase) : Tr x ph x ph := ⟨Tr0.refl x ph, fun h1 h2 => absurd h1 h2⟩

theorem Tr0.trans {x y z : Node} {ph ph1 ph2 : Phase} (h1 : Tr0 x ph y ph1) (h2 : Tr0 y ph1 z ph2) : Tr0 x ph z ph2 := by
  refine ⟨Phase.le_trans h1.mono h2.mono, Nat.le_trans h1.lli h2.lli, Nat.le_trans h1.ci h2.ci,
    h2.start.trans h1.start, fun h => h2.pan (h1.pan h), fun hf => ?_⟩
  obtain ⟨a2, b2, c2⟩ := h2.fresh hf
  obtain ⟨a1, b1, c1⟩ := h1.fresh (Phase.eq_fresh_of_le h2.mono hf)
  exact ⟨a2.trans a1, fun h => b2 (b1 h), c2.trans c1⟩

theorem Tr.trans {x y z : Node} {ph ph1 ph2 : Phase} (h1 : Tr x ph y ph1) (h2 : Tr y ph1 z ph2) : Tr x ph z ph2 := by
  refine ⟨h1.toTr0.trans h2.toTr0, fun hf hn => ?_⟩
  by_cases h : ph1 = .fresh
  · have := h2.moved h hn
    have := h1.lli
    omega
  · have := h1.moved hf h
    have := h2.lli
    omega

/-- a `Tr0` call that comes with a new log entry -/
theorem Tr.of_lt {x y z : Node} {ph ph1 ph2 : Phase} (h1 : Tr x ph y ph1) (hlt : x.lastLogIndex < y.lastLogIndex)
    (h2 : Tr0 y ph1 z ph2) : Tr x ph z ph2 :=
  ⟨h1.toTr0.trans h2, fun _ _ => Nat.lt_of_lt_of_le hlt h2.lli⟩

theorem Tr0.quiet (q : Quiet x y) (ph : Phase) : Tr0 x ph y ph :=
  ⟨Phase.le_refl _, Nat.le_of_eq q.lastLogIndex.symm, Nat.le_of_eq q.commitIndex.symm, q.startIndex, q.pan,
   fun _ => ⟨by rw [q.configs], fun h => by rw [q.configs]; exact h, q.selfVoter⟩⟩

theorem Tr.quiet (q : Quiet x y) (ph : Phase) : Tr x ph y ph := ⟨Tr0.quiet q ph, fun h1 h2 => absurd h1 h2⟩

/-- `config` (the configuration a handler works on) has the voters of the node's latest configuration — claimed
while the step has not introduced a configuration and nothing has failed -/
def Jc (x : Node) (ph : Phase) (config : Config) : Prop :=
  ph = .fresh → x.panicked = none → SameVoters config x.configs.latest

theorem Jc.refl (x : Node) (ph : Phase) : Jc x ph x.configs.latest := fun _ _ => SameVoters.refl _

theorem Jc.step {x x' : Node} {ph ph' : Phase} {config : Config} (h : Jc x ph config) (t : Tr0 x ph x' ph') :
    Jc x' ph' config := by
  intro hf hp
  rw [(t.fresh hf).1]
  refine h (Phase.eq_fresh_of_le t.mono hf) ?_
  cases hx : x.panicked with
  | none => rfl
  | some v => exact absurd hp (t.pan (by rw [hx]; simp))

/-- a membership change handed to `storeEntry` by a voting leader without transfer in progress is carried out
(the phase is no longer `fresh`), unless the model's recursion budget fails -/
def Prog (x : Node) (ph' : Phase) (x' : Node) : Prop :=
  x.ldr.node.voter = true → x.ldr.transfer.active = false → ph' ≠ .fresh ∨ x'.panicked ≠ none

theorem Prog.step {x y z : Node} {ph1 ph2 : Phase} (h : Prog x ph1 y) (t : Tr0 y ph1 z ph2) : Prog x ph2 z := by
  intro hv ha
  rcases h hv ha with h | h
  · exact Or.inl (fun hf => h (Phase.eq_fresh_of_le t.mono hf))
  · exact Or.inr (t.pan h)

/-- what is known about a batch handed to `leader.storeEntry`: client entries (no configuration entry), or the single
configuration entry built by `leader.doChangeConfig` for a configuration `c` derived from `b` -/
inductive BatchOK (x : Node) (ph : Phase) : List QItem → Prop
  | plain (b : List QItem) : (∀ q ∈ b, q.typ ≠ etConfig) → BatchOK x ph b
  | cfg (b c : Config) (task i t : Nat) :
      x.configs.isCommitted = true → x.ldr.startIndex ≤ x.commitIndex →
      Deriv b c → Jc x ph b → HasAnchor c →
      BatchOK x ph [{ index := i, term := t, typ := etConfig, cfg := some c, task := task }]

def IsCfg (b : List QItem) : Prop := ∃ q ∈ b, q.typ = etConfig

/-- the outcome of a call: the invariant holds again, in a phase `ph'`, with the relation `Tr` and an extra `W` -/
def StepW (s : Node) (op : Op) (W : Phase → Node → Prop) (x : Node) (ph : Phase) (x' : Node) : Prop :=
  ∃ ph', BI s op ph' x' ∧ Tr x ph x' ph' ∧ W ph' x'

abbrev Step (s : Node) (op : Op) (x : Node) (ph : Phase) (x' : Node) : Prop := StepW s op (fun _ _ => True) x ph x'

theorem Step.refl (h : BI s op ph x) : Step s op x ph x := ⟨ph, h, Tr.refl _ _, trivial⟩

theorem Step.quiet {x y z : Node} (h : Step s op x ph y) (q : Quiet y z) : Step s op x ph z := by
  obtain ⟨ph', hB, hT, _⟩ := h
  exact ⟨ph', hB.quiet q, hT.trans (Tr.quiet q _), trivial⟩

theorem Step.of_quiet (h : BI s op ph x) (q : Quiet x y) : Step s op x ph y := (Step.refl h).quiet q

theorem Step.trans {x y z : Node} (h : Step s op x ph y) (k : ∀ ph1, BI s op ph1 y → Tr x ph y ph1 → Step s op y ph1 z) :
    Step s op x ph z := by
  obtain ⟨ph1, hB, hT, _⟩ := h
  obtain ⟨ph2, hB2, hT2, _⟩ := k ph1 hB hT
  exact ⟨ph2, hB2, hT.trans hT2, trivial⟩

theorem Step.foldl {β : Type} (f : Node → β → Node) (P : Node → Phase → Prop)
    (hP : ∀ {y z : Node} {p1 p2 : Phase}, P y p1 → Tr0 y p1 z p2 → P z p2)
    (hf : ∀ y p b, BI s op p y → P y p → Step s op y p (f y b)) (xs : List β) :
    ∀ x ph, BI s op ph x → P x ph → Step s op x ph (xs.foldl f x) := by
  induction xs with
  | nil => intro x ph h _; exact Step.refl h
  | cons b bs ih =>
    intro x ph h hp
    exact (hf x ph b h hp).trans (fun ph1 hB hT => ih _ ph1 hB (hP hp hT.toTr0))


theorem assert_ldr (x : Node) (b : Bool) (site : String) : (x.assert b site).ldr = x.ldr := by rw [assert_shape]

theorem appendEntry_key (x : Node) (e : Entry) :
    (x.appendEntry e).configs = x.configs ∧ (x.appendEntry e).nid = x.nid ∧ (x.appendEntry e).term = x.term ∧
    (x.appendEntry e).commitIndex = x.commitIndex ∧ (x.appendEntry e).role = x.role ∧
    (x.appendEntry e).ldr = x.ldr ∧ (x.appendEntry e).lastLogIndex = e.index ∧
    (x.panicked ≠ none → (x.appendEntry e).panicked ≠ none) := by
  have q := q_assert x (e.index == x.lastLogIndex + 1) "assert.appendEntry"
  exact ⟨q.configs, q.nid, q.term, q.commitIndex, q.role, assert_ldr x _ _, rfl, q.pan⟩

theorem appendEntry_entries (x : Node) (e : Entry) : (x.appendEntry e).log.entries = x.log.entries ++ [e] := by
  obtain ⟨roll, h⟩ := appendEntry_log x e
  rw [h, (NLog.append_parts _ _ _).2]

theorem appendEntry_pan' (x : Node) (e : Entry) (h : (x.appendEntry e).panicked = none) : x.panicked = none := by
  cases hx : x.panicked with
  | none => rfl
  | some v => exact absurd h ((appendEntry_key x e).2.2.2.2.2.2.2 (by rw [hx]; simp))

theorem BI.appendEntry (h : BI s op ph x) (e : Entry) (hle : x.lastLogIndex ≤ e.index) (ht : e.typ ≠ etConfig) :
    BI s op ph (x.appendEntry e) := by
  obtain ⟨a1, a2, a3, a4, a5, a6, a7, _⟩ := appendEntry_key x e
  refine ⟨⟨by rw [a1]; exact h.main.chain, by rw [a2]; exact h.main.nid, by rw [a3]; exact h.main.term,
    by rw [a4]; exact h.main.ci, by rw [a1, a7]; exact Nat.le_trans h.main.li hle, by rw [a1]; exact h.main.anch, ?_⟩,
    ⟨by rw [a6, a1, a2]; exact h.lv.cache, fun hv => by rw [a5]; exact h.lv.lead (by rw [← a6]; exact hv)⟩⟩
  intro hs hp
  obtain ⟨c1, c2⟩ := h.main.cl hs (appendEntry_pan' x e hp)
  refine ⟨fun e' he' ht' => ?_, by rw [a1]; exact c2⟩
  rw [appendEntry_entries, List.mem_append, List.mem_singleton] at he'
  rw [a1]
  rcases he' with he' | he'
  · exact c1 e' he' ht'
  · subst he'; exact absurd ht' ht

theorem Tr.appendEntry (x : Node) (ph : Phase) (e : Entry) (hle : x.lastLogIndex ≤ e.index) :
    Tr x ph (x.appendEntry e) ph := by
  obtain ⟨a1, a2, a3, a4, a5, a6, a7, a8⟩ := appendEntry_key x e
  exact ⟨⟨Phase.le_refl _, by rw [a7]; exact hle, Nat.le_of_eq a4.symm, by rw [a6], a8,
    fun _ => ⟨by rw [a1], fun hc => by rw [a1]; exact hc, by rw [a6]⟩⟩,
    fun h1 h2 => absurd h1 h2⟩


/-- one iteration of the `for ne != nil` loop of `leader.storeEntry` -/
def storeItem (fuel' : Nat) (s : Node) (q : QItem) : Node :=
  if s.ldr.transfer.active then s.reply q.task "inProgress:transferLeadership"
  else if !s.ldr.node.voter then
    (if s.configs.latest.has s.nid then s.reply q.task "inProgress:demoteLeader"
     else s.reply q.task "inProgress:removeLeader")
  else
    let q := { q with index := s.lastLogIndex + 1, term := s.term, cfg := q.cfg.map Config.payload }
    let s := (s.withLdr ({ s.ldr with queue := s.ldr.queue ++ [q] }))
    if isLogEntryTyp q.typ then
      let s := s.appendEntry q.toEntry
      if q.typ = etConfig then
        match q.toEntry.config? with
        | some c => changeConfigL fuel' s c
        | none => s.panic "bug.configDecode"
      else s
    else s

theorem storeItems_cons (n : Nat) (x : Node) (q : QItem) (qs : List QItem) :
    storeItems (n + 1) x (q :: qs) = storeItems n (storeItem n x q) qs := by
  conv => lhs; unfold storeItems
  rfl

/-- the `changeConfigL` clause of the block, as a hypothesis: `leader.changeConfig` called right after the
configuration entry `e` was appended -/
def CLspec (s : Node) (op : Op) (n : Nat) : Prop :=
  ∀ x ph b c e, BI s op ph x → x.ldr.node.voter = true → x.ldr.transfer.active = false →
    x.configs.isCommitted = true → x.ldr.startIndex ≤ x.commitIndex →
    e.typ = etConfig → e.index = x.lastLogIndex + 1 → c.index = e.index → c.term = x.term →
    Deriv b c → Jc x ph b → HasAnchor c →
    ∃ ph', BI s op ph' (changeConfigL n (x.appendEntry e) c) ∧ Tr x ph (changeConfigL n (x.appendEntry e) c) ph' ∧
      (ph' ≠ .fresh ∨ (changeConfigL n (x.appendEntry e) c).panicked ≠ none)

theorem storeItem_spec {n : Nat} {q : QItem} (hCL : CLspec s op n) (hB : BI s op ph x) (hq : BatchOK x ph [q]) :
    StepW s op (fun ph' x' => q.typ = etConfig → Prog x ph' x') x ph (storeItem n x q) := by
  unfold storeItem
  split
  · rename_i hact
    exact ⟨ph, hB.quiet (q_reply _ _ _), Tr.quiet (q_reply _ _ _) _, fun _ _ ha => by rw [hact] at ha; cases ha⟩
  · split
    · rename_i hnv
      have hq' : Quiet x (if x.configs.latest.has x.nid = true then x.reply q.task "inProgress:demoteLeader"
          else x.reply q.task "inProgress:removeLeader") := by split <;> exact q_reply _ _ _
      exact ⟨ph, hB.quiet hq', Tr.quiet hq' _, fun _ hv _ => by simp [hv] at hnv⟩
    · rename_i hact hv
      have hact' : x.ldr.transfer.active = false := by simpa using hact
      have hv' : x.ldr.node.voter = true := by simpa using hv
      extract_lets q' l0 x0 x1
      have hq0 : Quiet x x0 := q_ldr x _ rfl rfl
      have hB0 := hB.quiet hq0
      have hle : x0.lastLogIndex ≤ q'.toEntry.index := by
        show x.lastLogIndex ≤ x.lastLogIndex + 1
        omega
      cases hq with
      | plain _ hpl =>
        have ht : ¬ q'.typ = etConfig := hpl q (List.mem_singleton_self _)
        have hB1 : BI s op ph x1 := hB0.appendEntry _ hle ht
        have hT1 : Tr x ph x1 ph := (Tr.quiet hq0 ph).trans (Tr.appendEntry x0 ph _ hle)
        have hW : q.typ = etConfig → Prog x ph x1 := fun h => absurd h ht
        split
        · first | rw [if_neg ht] | skip
          exact ⟨ph, hB1, hT1, hW⟩
        · exact ⟨ph, hB0, Tr.quiet hq0 ph, fun h => absurd h ht⟩
      | cfg b c task i t h1 h2 h3 h4 h5 =>
        rw [if_pos (by rfl), if_pos (by rfl)]
        split
        · rename_i c' hc'
          have hc : c' = { c.payload with index := x.lastLogIndex + 1, term := x.term } := by
            have : q'.toEntry.config? = some { c.payload with index := x.lastLogIndex + 1, term := x.term } := rfl
            rw [this] at hc'
            injection hc' with hc'
            exact hc'.symm
          have hnodes : c'.nodes = c.nodes := by rw [hc]; rfl
          obtain ⟨ph', hB', hT', hW'⟩ := hCL x0 ph b c' q'.toEntry hB0 hv' hact' h1 h2 rfl rfl (by rw [hc]; rfl)
            (by rw [hc]; rfl) (h3.congr hnodes) (h4.step (Tr0.quiet hq0 ph)) (h5.congr hnodes)
          exact ⟨ph', hB', (Tr.quiet hq0 ph).trans hT', fun _ _ _ => hW'⟩
        · rename_i hnone
          have : q'.toEntry.config? = some { c.payload with index := x.lastLogIndex + 1, term := x.term } := rfl
          rw [this] at hnone
          cases hnone


theorem canChange_facts (h : x.canChangeConfig = true) :
    x.configs.isCommitted = true ∧ x.ldr.transfer.active = false ∧ x.ldr.startIndex ≤ x.commitIndex := by
  unfold Node.canChangeConfig at h
  simp only [Bool.and_eq_true, Bool.not_eq_true', decide_eq_true_eq] at h
  exact ⟨h.1.1, h.1.2, h.2⟩

theorem AnchC.of_get {c : Config} {id : Nat} (h : AnchC c) (ha : (c.get id).action ≠ actNone) : HasAnchor c := by
  rcases h with h | h
  · have := get_action_ne ha
    unfold Config.find? at this
    rw [h] at this
    cases this
  · exact h

theorem changeConfigR_fields (x : Node) (c : Config) :
    (x.changeConfigR c).configs = ⟨x.configs.latest, c⟩ ∧ (x.changeConfigR c).nid = x.nid ∧
    (x.changeConfigR c).term = x.term ∧ (x.changeConfigR c).commitIndex = x.commitIndex ∧
    (x.changeConfigR c).lastLogIndex = x.lastLogIndex ∧ (x.changeConfigR c).role = x.role ∧
    (x.changeConfigR c).ldr = x.ldr ∧ (x.changeConfigR c).panicked = x.panicked ∧
    (x.changeConfigR c).log = x.log := by
  rw [changeConfigR_shape]; exact ⟨rfl, rfl, rfl, rfl, rfl, rfl, rfl, rfl, rfl⟩

theorem commitConfig_fields (x : Node) :
    x.commitConfig.configs = ⟨x.configs.latest, x.configs.latest⟩ ∧ x.commitConfig.nid = x.nid ∧
    x.commitConfig.term = x.term ∧ x.commitConfig.commitIndex = x.commitIndex ∧
    x.commitConfig.lastLogIndex = x.lastLogIndex ∧ x.commitConfig.ldr = x.ldr ∧
    x.commitConfig.panicked = x.panicked ∧ x.commitConfig.role = x.role ∧ x.commitConfig.log = x.log := by
  unfold Node.commitConfig
  dsimp only
  refine ⟨?_, ?_, ?_, ?_, ?_, ?_, ?_, ?_, ?_⟩ <;> split <;> rfl

/-- the state after `commitConfig` + the step-down / close checks of `Raft.setCommitIndex`: those checks write role,
leader id and `closed` only, and the role only of a node that lost the vote -/
theorem commitPath_fields (x : Node) (i : Nat) :
    let y := (x.withCommitIndex i).commitConfig.afterConfigCommit
    y.configs = ⟨x.configs.latest, x.configs.latest⟩ ∧ y.nid = x.nid ∧ y.term = x.term ∧ y.commitIndex = i ∧
    y.lastLogIndex = x.lastLogIndex ∧ y.ldr = x.ldr ∧ y.panicked = x.panicked ∧
    (y.role = x.role ∨ (x.configs.latest.isVoter x.nid = false ∧ y.role = .follower)) ∧ y.log = x.log := by
  intro y
  obtain ⟨a1, a2, a3, a4, a5, a6, a7, a8, a9⟩ := commitConfig_fields (x.withCommitIndex i)
  have hr : ∀ z : Node, z.stepDownIfNotVoter.role = z.role ∨
      (z.configs.latest.isVoter z.nid = false ∧ z.stepDownIfNotVoter.role = .follower) := fun z => by
    unfold Node.stepDownIfNotVoter
    exact ite_ind (P := fun w : Node => w.role = z.role ∨ (z.configs.latest.isVoter z.nid = false ∧ w.role = .follower))
      (fun h => Or.inr ⟨by simpa using h.2, rfl⟩) fun _ => Or.inl rfl
  unfold y Node.afterConfigCommit
  have h8 := hr (x.withCommitIndex i).commitConfig
  generalize (x.withCommitIndex i).commitConfig = z at a1 a2 a3 a4 a5 a6 a7 a8 a9 h8 ⊢
  rw [Node.closeIfRemoved_shape, Node.stepDownIfNotVoter_shape]
  refine ⟨a1, a2, a3, a4, a5, a6, a7, ?_, a9⟩
  rcases h8 with h | h
  · exact Or.inl (h.trans a8)
  · exact Or.inr ⟨by rw [a1, a2] at h; exact h.1, h.2⟩

theorem isCommitted_self (c : Config) : (⟨c, c⟩ : Configs).isCommitted = true := by
  simp [Configs.isCommitted]

theorem isCommitted_eq {cs : Configs} (h : cs.isCommitted = true) : cs.latest.index = cs.committed.index := by
  simpa [Configs.isCommitted] using h

theorem setCommitIndexR_spec (hB : BI s op ph x) (i : Nat) (hi : i > x.commitIndex) :
    ∃ ph', BI s op ph' (x.setCommitIndexR i).1 ∧ Tr x ph (x.setCommitIndexR i).1 ph' := by
  unfold Node.setCommitIndexR
  split
  · rename_i hc
    obtain ⟨a1, a2, a3, a4, a5, a6, a7, a8, a9⟩ := commitPath_fields x i
    dsimp only at a1 a2 a3 a4 a5 a6 a7 a8 a9 ⊢
    have hnc : x.configs.isCommitted = false := by simpa using hc.1
    have hlt : s.commitIndex < i := Nat.lt_of_le_of_lt hB.main.ci hi
    have hch : Chain s op ph.afterCommit ⟨x.configs.latest, x.configs.latest⟩ :=
      .step hB.main.chain (.commit ph x.configs i hnc hc.2 hlt)
    refine ⟨ph.afterCommit, ⟨⟨by rw [a1]; exact hch, by rw [a2]; exact hB.main.nid, by rw [a3]; exact hB.main.term,
      by rw [a4]; exact Nat.le_of_lt hlt, by rw [a1, a5]; exact hB.main.li, by rw [a1]; exact hB.main.anch, ?_⟩,
      ⟨by rw [a6, a1, a2]; exact hB.lv.cache, fun hv => ?_⟩⟩,
      ⟨⟨Phase.le_afterCommit _, Nat.le_of_eq a5.symm, by rw [a4]; exact Nat.le_of_lt hi, by rw [a6],
        fun h => by rw [a7]; exact h, fun _ => ⟨by rw [a1], fun _ => by rw [a1]; exact isCommitted_self _, by rw [a6]⟩⟩,
       fun hf hn => ?_⟩⟩
    · intro hs hp
      rw [a7] at hp
      obtain ⟨c1, c2⟩ := hB.main.cl hs hp
      refine ⟨fun e he ht => ?_, by rw [a1]; exact Nat.le_refl _⟩
      rw [a9] at he
      rw [a1]
      rcases c1 e he ht with h | h
      · exact Or.inl (Nat.le_trans h c2)
      · exact Or.inr h
    · rw [a6] at hv
      rcases a8 with a8 | a8
      · rw [a8]; exact hB.lv.lead hv
      · rw [hB.lv.cache, a8.1] at hv; cases hv
    · subst hf; exact absurd rfl hn
  · dsimp only
    exact ⟨ph, ⟨⟨hB.main.chain, hB.main.nid, hB.main.term, Nat.le_trans hB.main.ci (Nat.le_of_lt hi), hB.main.li,
      hB.main.anch, hB.main.cl⟩, ⟨hB.lv.cache, hB.lv.lead⟩⟩,
      ⟨⟨Phase.le_refl _, Nat.le_refl _, Nat.le_of_lt hi, rfl, id, fun _ => ⟨rfl, id, rfl⟩⟩, fun h1 h2 => absurd h1 h2⟩⟩


def SEspec (s : Node) (op : Op) (n : Nat) : Prop := ∀ x ph b, BI s op ph x → BatchOK x ph b →
  StepW s op (fun ph' x' => IsCfg b → Prog x ph' x') x ph (storeEntry n x b)
def SIspec (s : Node) (op : Op) (n : Nat) : Prop := ∀ x ph b, BI s op ph x → BatchOK x ph b →
  StepW s op (fun ph' x' => IsCfg b → Prog x ph' x') x ph (storeItems n x b)
def DCspec (s : Node) (op : Op) (n : Nat) : Prop := ∀ x ph t b c, BI s op ph x → x.configs.isCommitted = true →
  x.ldr.startIndex ≤ x.commitIndex → Deriv b c → Jc x ph b → HasAnchor c →
  StepW s op (fun ph' x' => Prog x ph' x') x ph (doChangeConfig n x t c)
def CAsspec (s : Node) (op : Op) (n : Nat) : Prop := ∀ x ph t config, BI s op ph x → AnchC config → Jc x ph config →
  Step s op x ph (checkConfigActions n x t config)
def CAspec (s : Node) (op : Op) (n : Nat) : Prop := ∀ x ph t config id, BI s op ph x → AnchC config → Jc x ph config →
  Step s op x ph (checkConfigAction n x t config id)
def SCspec (s : Node) (op : Op) (n : Nat) : Prop := ∀ x ph i, BI s op ph x → i > x.commitIndex →
  Step s op x ph (setCommitIndexL n x i)
def MCspec (s : Node) (op : Op) (n : Nat) : Prop := ∀ x ph, BI s op ph x → Step s op x ph (onMajorityCommit n x)

theorem fuel_out (hB : BI s op ph x) (W : Phase → Node → Prop) (hW : W ph (x.panic "fuel")) :
    StepW s op W x ph (x.panic "fuel") :=
  ⟨ph, hB.quiet (q_panic _ _), Tr.quiet (q_panic _ _) _, hW⟩

theorem SE_succ {n : Nat} (hSI : SIspec s op n) (hMC : MCspec s op n) : SEspec s op (n + 1) := by
  intro x ph b hB hb
  obtain ⟨ph1, hB1, hT1, hW1⟩ := hSI x ph b hB hb
  unfold storeEntry
  extract_lets lastIndex x1 x2 x3 x4
  have hq2 : Quiet x1 x2 := by
    unfold x2
    split
    · split
      · exact q_applyCommittedL _
      · exact .refl _
    · exact .refl _
  have hB2 : BI s op ph1 x2 := hB1.quiet hq2
  have hT2 : Tr x ph x2 ph1 := hT1.trans (Tr.quiet hq2 ph1)
  have hW2 : IsCfg b → Prog x ph1 x2 := fun h => (hW1 h).step (Tr0.quiet hq2 ph1)
  split
  · have hq4 : Quiet x2 x4 := (q_beginFinishedRounds x2).trans (q_notifyFlr _)
    split
    · obtain ⟨ph5, hB5, hT5, _⟩ := hMC x4 ph1 (hB2.quiet hq4)
      exact ⟨ph5, hB5, (hT2.trans (Tr.quiet hq4 _)).trans hT5,
        fun h => ((hW2 h).step (Tr0.quiet hq4 _)).step hT5.toTr0⟩
    · exact ⟨ph1, hB2.quiet hq4, hT2.trans (Tr.quiet hq4 _), fun h => (hW2 h).step (Tr0.quiet hq4 _)⟩
  · exact ⟨ph1, hB2, hT2, hW2⟩

theorem SI_succ {n : Nat} (hSI : SIspec s op n) (hCL : CLspec s op n) : SIspec s op (n + 1) := by
  intro x ph b hB hb
  cases b with
  | nil =>
    rw [storeItems_nil]
    exact ⟨ph, hB, Tr.refl _ _, fun ⟨q, hq, _⟩ => by cases hq⟩
  | cons q qs =>
    rw [storeItems_cons]
    have hq1 : BatchOK x ph [q] := by
      cases hb with
      | plain _ h =>
        exact .plain _ (fun q' hq' => h q' (by rw [List.mem_singleton.mp hq']; exact List.mem_cons_self ..))
      | cfg b c task i t h1 h2 h3 h4 h5 => exact .cfg b c task i t h1 h2 h3 h4 h5
    obtain ⟨ph1, hB1, hT1, hW1⟩ := storeItem_spec hCL hB hq1
    have hqs : BatchOK (storeItem n x q) ph1 qs := by
      cases hb with
      | plain _ h => exact .plain _ (fun q' hq' => h q' (List.mem_cons_of_mem _ hq'))
      | cfg b c task i t h1 h2 h3 h4 h5 => exact .plain _ (fun q' hq' => by cases hq')
    obtain ⟨ph2, hB2, hT2, _⟩ := hSI _ ph1 qs hB1 hqs
    refine ⟨ph2, hB2, hT1.trans hT2, fun hc => ?_⟩
    have hcfg : q.typ = etConfig := by
      cases hb with
      | plain _ h => obtain ⟨q', hq', ht⟩ := hc; exact absurd ht (h q' hq')
      | cfg b c task i t h1 h2 h3 h4 h5 => rfl
    exact (hW1 hcfg).step hT2.toTr0

theorem DC_succ {n : Nat} (hSE : SEspec s op n) : DCspec s op (n + 1) := by
  intro x ph t b c hB h1 h2 h3 h4 h5
  unfold doChangeConfig
  obtain ⟨ph', hB', hT', hW'⟩ := hSE x ph _ hB (.cfg b c t c.index c.term h1 h2 h3 h4 h5)
  exact ⟨ph', hB', hT', hW' ⟨_, List.mem_singleton_self _, rfl⟩⟩

theorem CL_succ {n : Nat} (hCAs : CAsspec s op n) : CLspec s op (n + 1) := by
  intro x ph b c e hB hv hact hcm hst hty hei hidx htm hd hj ha
  obtain ⟨e1, e2, e3, e4, e5, e6, e7, e8⟩ := appendEntry_key x e
  unfold changeConfigL
  extract_lets l0 x1 x2 l2 x3 x4
  obtain ⟨a1, a2, a3, a4, a5, a6, a7, a8, a9⟩ := changeConfigR_fields x1 c
  have hrole : x.role = .leader := hB.lv.lead hv
  have hlt : x.configs.latest.index < c.index := by have := hB.main.li; omega
  have hch : Chain s op (ph.afterChangeP (x.appendEntry e).panicked.isSome) ⟨(x.appendEntry e).configs.latest, c⟩ :=
    .step (by rw [e1]; exact hB.main.chain) (.change ph (x.appendEntry e) b c (by rw [e2]; exact hB.main.nid)
      (by rw [e3]; exact hB.main.term) (by rw [e4]; exact hB.main.ci) (by rw [e5]; exact hrole)
      (by rw [e1, e2, ← hB.lv.cache]; exact hv) (by rw [e1]; exact hcm) (by rw [e6]; exact hact)
      (by rw [e6, e4]; exact hst) (by rw [e1]; exact hlt) (by rw [e7]; exact hidx) (by rw [e3]; exact htm) hd
      (fun hf hp => by rw [e1]; exact hj hf (appendEntry_pan' x e hp)) ha)
  have hB2 : BI s op (ph.afterChangeP (x.appendEntry e).panicked.isSome) x2 := by
    refine ⟨⟨by rw [a1]; exact hch, by rw [a2]; show (x.appendEntry e).nid = s.nid; rw [e2]; exact hB.main.nid,
      by rw [a3]; show s.term ≤ (x.appendEntry e).term; rw [e3]; exact hB.main.term,
      by rw [a4]; show s.commitIndex ≤ (x.appendEntry e).commitIndex; rw [e4]; exact hB.main.ci,
      by rw [a1, a5]; show c.index ≤ (x.appendEntry e).lastLogIndex; rw [e7]; exact Nat.le_of_eq hidx,
      by rw [a1]; exact Or.inr ha, ?_⟩,
     ⟨by rw [a7, a1, a2]; exact get_voter_eq_isVoter c (x.appendEntry e).nid,
      fun _ => by rw [a6]; show (x.appendEntry e).role = .leader; rw [e5]; exact hrole⟩⟩
    intro hs hp
    rw [a8] at hp
    obtain ⟨c1, c2⟩ := hB.main.cl hs (appendEntry_pan' x e hp)
    have hLC := isCommitted_eq hcm
    refine ⟨fun e' he' ht' => ?_, ?_⟩
    · rw [a9] at he'
      have he'' : e' ∈ (x.appendEntry e).log.entries := he'
      rw [appendEntry_entries, List.mem_append, List.mem_singleton] at he''
      rw [a1]
      show e'.index ≤ (x.appendEntry e).configs.latest.index ∨ e'.index = c.index
      rw [e1]
      rcases he'' with h | h
      · rcases c1 e' h ht' with h' | h'
        · left; omega
        · left; omega
      · subst h; exact Or.inr hidx.symm
    · rw [a1]
      show (x.appendEntry e).configs.latest.index ≤ c.index
      rw [e1]; omega
  have hT2 : Tr x ph x2 (ph.afterChangeP (x.appendEntry e).panicked.isSome) :=
    ⟨⟨Phase.le_afterChangeP _ _, by rw [a5]; show x.lastLogIndex ≤ (x.appendEntry e).lastLogIndex; rw [e7]; omega,
      by rw [a4]; show x.commitIndex ≤ (x.appendEntry e).commitIndex; rw [e4]; exact Nat.le_refl _,
      by rw [a7]; show (x.appendEntry e).ldr.startIndex = x.ldr.startIndex; rw [e6],
      fun h => by rw [a8]; exact e8 h, fun hf => absurd hf (Phase.afterChangeP_ne _ _)⟩,
     fun _ _ => by rw [a5]; show x.lastLogIndex < (x.appendEntry e).lastLogIndex; rw [e7]; omega⟩
  have hq3 : Quiet x2 x3 := q_ldr x2 _ rfl rfl
  have hq4 : Quiet x2 x4 := by
    refine hq3.trans (q_foldl _ (fun y m => ?_) c.nodes x3)
    split
    · exact .refl _
    · split
      · exact q_addReplication _ _
      · exact q_setRepl _ _
  obtain ⟨ph5, hB5, hT5, _⟩ := hCAs x4 (ph.afterChangeP (x.appendEntry e).panicked.isSome) 0 x4.configs.latest (hB2.quiet hq4) (hB2.quiet hq4).main.anch
    (Jc.refl _ _)
  exact ⟨ph5, hB5, (hT2.trans (Tr.quiet hq4 _)).trans hT5,
    Or.inl (fun hf => Phase.afterChangeP_ne ph _ (Phase.eq_fresh_of_le hT5.mono hf))⟩

theorem CA_succ {n : Nat} (hDC : DCspec s op n) : CAspec s op (n + 1) := by
  intro x ph t config id hB hA hJ
  unfold checkConfigAction
  split
  · exact Step.refl hB
  · rename_i st hst
    extract_lets nn action r x1
    split
    · exact Step.refl hB
    · rename_i hact
      have hq1 : Quiet x x1 := q_setRepl x _
      split
      · exact Step.of_quiet hB hq1
      · split
        · exact Step.of_quiet hB hq1
        · rename_i hcan
          split
          · rename_i c hc
            have hcan' : x1.canChangeConfig = true := by simpa using hcan
            obtain ⟨f1, _, f3⟩ := canChange_facts hcan'
            have hone : OneNode config c := actionConfig_oneNode _ config id r.1 c hact hc
            have hanch : HasAnchor config := hA.of_get (nextAction_ne hact)
            obtain ⟨ph', hB', hT', _⟩ := hDC x1 ph t config c (hB.quiet hq1) f1 f3 (Or.inr hone)
              (hJ.step (Tr0.quiet hq1 ph)) (hone.anchor hanch)
            exact ⟨ph', hB', (Tr.quiet hq1 ph).trans hT', trivial⟩
          · exact Step.of_quiet hB hq1

/-- after the leader's action on ITSELF was handed to `doChangeConfig`: the derived configuration `c'` is what
the loop over the replications works on -/
theorem self_action_J {x x1 : Node} {ph ph1 : Phase} {config c' : Config} (hB : BI s op ph x) (hJ : Jc x ph config)
    (hact : x.ldr.transfer.active = false) (hT : Tr x ph x1 ph1) (hW : Prog x ph1 x1)
    (hsv : config.isVoter x.nid = false → SameVoters c' config) : Jc x1 ph1 c' := by
  intro hf hp
  have hv : x.ldr.node.voter = false := by
    cases hv : x.ldr.node.voter with
    | false => rfl
    | true =>
      rcases hW hv hact with h | h
      · exact absurd hf h
      · exact absurd hp h
  have hpx : x.panicked = none := by
    cases hx : x.panicked with
    | none => rfl
    | some v => exact absurd hp (hT.pan (by rw [hx]; simp))
  have h0 := hJ (Phase.eq_fresh_of_le hT.mono hf) hpx
  rw [(hT.fresh hf).1]
  have hnv : config.isVoter x.nid = false := by rw [h0 x.nid, ← hB.lv.cache]; exact hv
  exact (hsv hnv).trans h0

theorem CAs_succ {n : Nat} (hDC : DCspec s op n) (hCA : CAspec s op n) : CAsspec s op (n + 1) := by
  intro x ph t config hB hA hJ
  unfold checkConfigActions
  extract_lets nn c1 c2 r
  have hr : ∃ ph1, BI s op ph1 r.1 ∧ Tr x ph r.1 ph1 ∧ AnchC r.2 ∧ Jc r.1 ph1 r.2 := by
    unfold r
    split
    · rename_i hc
      obtain ⟨f1, f2, f3⟩ := canChange_facts hc.1
      have hact : (config.get x.nid).action ≠ actNone := hc.2
      have hid : (config.get x.nid).id = x.nid := get_id hact
      have hanch : HasAnchor config := hA.of_get hact
      split
      · have hone : OneNode config c1 := oneNode_set _ x.nid _ hid hact
        obtain ⟨ph1, hB1, hT1, hW1⟩ := hDC x ph t config c1 hB f1 f3 (Or.inr hone) hJ (hone.anchor hanch)
        exact ⟨ph1, hB1, hT1, Or.inr (hone.anchor hanch),
          self_action_J hB hJ f2 hT1 hW1 (fun hnv => sameVoters_set_nonvoter config x.nid _ hid rfl hnv)⟩
      · split
        · have hone : OneNode config c2 := oneNode_erase _ x.nid hact
          obtain ⟨ph1, hB1, hT1, hW1⟩ := hDC x ph t config c2 hB f1 f3 (Or.inr hone) hJ (hone.anchor hanch)
          exact ⟨ph1, hB1, hT1, Or.inr (hone.anchor hanch),
            self_action_J hB hJ f2 hT1 hW1 (fun hnv => sameVoters_erase_nonvoter config x.nid hnv)⟩
        · exact ⟨ph, hB.quiet (q_panic _ _), Tr.quiet (q_panic _ _) _, hA, hJ.step (Tr0.quiet (q_panic _ _) _)⟩
    · exact ⟨ph, hB, Tr.refl _ _, hA, hJ⟩
  obtain ⟨ph1, hB1, hT1, hA1, hJ1⟩ := hr
  have hqp : Quiet r.1 r.1.popOrder := q_popOrder _
  have hloop := Step.foldl (s := s) (op := op)
    (fun s id => match s.findRepl? id with
      | some _ => checkConfigAction n s t r.2 id
      | none => s)
    (fun y p => Jc y p r.2) (fun hp ht => hp.step ht)
    (fun y p id hBy hJy => by
      split
      · exact hCA y p t r.2 id hBy hA1 hJy
      · exact Step.refl hBy)
    r.1.replOrder r.1.popOrder ph1 (hB1.quiet hqp) (hJ1.step (Tr0.quiet hqp _))
  obtain ⟨ph2, hB2, hT2, _⟩ := hloop
  exact ⟨ph2, hB2, (hT1.trans (Tr.quiet hqp _)).trans hT2, trivial⟩

theorem SC_succ {n : Nat} (hCAs : CAsspec s op n) : SCspec s op (n + 1) := by
  intro x ph i hB hi
  unfold setCommitIndexL
  extract_lets x1 ready r x2 x3 y l
  have hq1 : Quiet x x1 := q_commitLog x i
  obtain ⟨ph2, hB2, hT2⟩ := setCommitIndexR_spec (hB.quiet hq1) i (by rw [hq1.commitIndex]; exact hi)
  have hS3 : Step s op x2 ph2 x3 := by
    unfold x3
    split
    · exact hCAs _ _ _ _ hB2 hB2.main.anch (Jc.refl _ _)
    · exact Step.refl hB2
  obtain ⟨ph3, hB3, hT3, _⟩ := hS3
  have hT03 : Tr x ph x3 ph3 := ((Tr.quiet hq1 ph).trans hT2).trans hT3
  split
  · split
    · have hq : Quiet x3 y := q_foldl _ (fun y t => q_reply _ _ _) _ _
      clear_value y
      have hq' := hq.trans (q_ldr y { l with waitStable := [] } rfl rfl)
      exact ⟨ph3, hB3.quiet hq', hT03.trans (Tr.quiet hq' _), trivial⟩
    · obtain ⟨ph4, hB4, hT4, _⟩ := hCAs x3 ph3 0 _ hB3 hB3.main.anch (Jc.refl _ _)
      exact ⟨ph4, hB4, hT03.trans hT4, trivial⟩
  · exact ⟨ph3, hB3, hT03, trivial⟩

theorem MC_succ {n : Nat} (hSC : SCspec s op n) : MCspec s op (n + 1) := by
  intro x ph hB
  unfold onMajorityCommit
  extract_lets m x1 x2 x3
  have hq1 : Quiet x x1 := by
    unfold x1
    split
    · exact .refl _
    · exact q_panic _ _
  split
  · rename_i hgt
    obtain ⟨ph2, hB2, hT2, _⟩ := hSC x1 ph m.1 (hB.quiet hq1) hgt.1
    have hq3 : Quiet x2 x3.notifyFlr := (q_applyCommittedL x2).trans (q_notifyFlr _)
    exact ⟨ph2, hB2.quiet hq3, ((Tr.quiet hq1 ph).trans hT2).trans (Tr.quiet hq3 _), trivial⟩
  · exact Step.of_quiet hB hq1

theorem block (s : Node) (op : Op) : ∀ n : Nat,
    SEspec s op n ∧ SIspec s op n ∧ CLspec s op n ∧ DCspec s op n ∧ CAsspec s op n ∧ CAspec s op n ∧ SCspec s op n ∧
    MCspec s op n := by
  intro n
  induction n with
  | zero =>
    refine ⟨?_, ?_, ?_, ?_, ?_, ?_, ?_, ?_⟩
    · intro x ph b hB _
      unfold storeEntry
      exact fuel_out hB _ (fun _ _ _ => Or.inr (Node.panic_panicked_ne _ _))
    · intro x ph b hB _
      cases b with
      | nil => rw [storeItems_nil]; exact ⟨ph, hB, Tr.refl _ _, fun ⟨q, hq, _⟩ => by cases hq⟩
      | cons q qs =>
        unfold storeItems
        exact fuel_out hB _ (fun _ _ _ => Or.inr (Node.panic_panicked_ne _ _))
    · intro x ph b c e hB _ _ _ _ _ hei _ _ _ _ _
      unfold changeConfigL
      obtain ⟨e1, e2, e3, e4, e5, e6, e7, e8⟩ := appendEntry_key x e
      have hq := q_panic (x.appendEntry e) "fuel"
      refine ⟨ph, ⟨⟨by rw [hq.configs, e1]; exact hB.main.chain, by rw [hq.nid, e2]; exact hB.main.nid,
        by rw [hq.term, e3]; exact hB.main.term, by rw [hq.commitIndex, e4]; exact hB.main.ci,
        by rw [hq.configs, hq.lastLogIndex, e1, e7]; have := hB.main.li; omega,
        by rw [hq.configs, e1]; exact hB.main.anch, fun _ hp => absurd hp (Node.panic_panicked_ne _ _)⟩,
        ⟨by rw [hq.selfVoter, hq.configs, hq.nid, e6, e1, e2]; exact hB.lv.cache,
         fun hv => by rw [hq.role, e5]; exact hB.lv.lead (by rw [← e6, ← hq.selfVoter]; exact hv)⟩⟩,
        ⟨⟨Phase.le_refl _, by rw [hq.lastLogIndex, e7]; omega, by rw [hq.commitIndex, e4]; exact Nat.le_refl _,
          by rw [hq.startIndex, e6], fun h => hq.pan (e8 h),
          fun _ => ⟨by rw [hq.configs, e1], fun hc => by rw [hq.configs, e1]; exact hc, by rw [hq.selfVoter, e6]⟩⟩,
         fun h1 h2 => absurd h1 h2⟩, Or.inr (Node.panic_panicked_ne _ _)⟩
    · intro x ph t b c hB _ _ _ _ _
      unfold doChangeConfig
      exact fuel_out hB _ (fun _ _ => Or.inr (Node.panic_panicked_ne _ _))
    · intro x ph t c hB _ _
      unfold checkConfigActions
      exact fuel_out hB _ trivial
    · intro x ph t c id hB _ _
      unfold checkConfigAction
      exact fuel_out hB _ trivial
    · intro x ph i hB _
      unfold setCommitIndexL
      exact fuel_out hB _ trivial
    · intro x ph hB
      unfold onMajorityCommit
      exact fuel_out hB _ trivial
  | succ n ih =>
    obtain ⟨hSE, hSI, hCL, hDC, hCAs, hCA, hSC, hMC⟩ := ih
    exact ⟨SE_succ hSI hMC, SI_succ hSI hCL, CL_succ hCAs, DC_succ hSE, CAs_succ hDC hCA, CA_succ hDC, SC_succ hCAs,
      MC_succ hSC⟩


/-- the outcome of a handler: the role-independent part of the invariant holds, in some phase -/
def Fin (s : Node) (op : Op) (x : Node) : Prop := ∃ ph, Main s op ph x

theorem Step.fin {x y : Node} (h : Step s op x ph y) : Fin s op y := by
  obtain ⟨ph', hB, _, _⟩ := h
  exact ⟨ph', hB.main⟩

theorem Fin.map {x y : Node} (h : Fin s op x) (f : ∀ ph, Main s op ph x → Main s op ph y) : Fin s op y := by
  obtain ⟨ph, hm⟩ := h
  exact ⟨ph, f ph hm⟩

theorem storeEntry_step (n : Nat) (b : List QItem) (hB : BI s op ph x) (hb : BatchOK x ph b) :
    Step s op x ph (storeEntry n x b) := by
  obtain ⟨ph', h1, h2, _⟩ := (block s op n).1 x ph b hB hb
  exact ⟨ph', h1, h2, trivial⟩

theorem doChangeConfig_step (n t : Nat) (b c : Config) (hB : BI s op ph x) (h1 : x.configs.isCommitted = true)
    (h2 : x.ldr.startIndex ≤ x.commitIndex) (h3 : Deriv b c) (h4 : Jc x ph b) (h5 : HasAnchor c) :
    Step s op x ph (doChangeConfig n x t c) := by
  obtain ⟨ph', a, b', _⟩ := (block s op n).2.2.2.1 x ph t b c hB h1 h2 h3 h4 h5
  exact ⟨ph', a, b', trivial⟩

theorem checkConfigActions_step (n t : Nat) (config : Config) (hB : BI s op ph x) (hA : AnchC config)
    (hJ : Jc x ph config) : Step s op x ph (checkConfigActions n x t config) :=
  (block s op n).2.2.2.2.1 x ph t config hB hA hJ

theorem checkConfigAction_step (n t : Nat) (config : Config) (id : Nat) (hB : BI s op ph x) (hA : AnchC config)
    (hJ : Jc x ph config) : Step s op x ph (checkConfigAction n x t config id) :=
  (block s op n).2.2.2.2.2.1 x ph t config id hB hA hJ

theorem onMajorityCommit_step (n : Nat) (hB : BI s op ph x) : Step s op x ph (onMajorityCommit n x) :=
  (block s op n).2.2.2.2.2.2.2 x ph hB

theorem q_transferReply (x : Node) (r : String) : Quiet x (x.transferReply r) := by
  unfold Node.transferReply
  exact (q_reply _ _ _).trans (q_ldr _ _ rfl rfl)

theorem q_tryTransfer (x : Node) : Quiet x x.tryTransfer := by
  unfold Node.tryTransfer
  extract_lets r x1 x2
  have h1 : Quiet x x1 := by
    unfold x1; split
    · exact q_popOrder _
    · exact .refl _
  have h2 : Quiet x1 x2 := by
    unfold x2; split
    · exact q_panic _ _
    · exact .refl _
  split
  · exact (h1.trans h2).trans (q_ldr _ _ rfl rfl)
  · exact h1.trans h2

theorem replyTransfer_step (hB : BI s op ph x) (r : String) : Step s op x ph (x.replyTransfer r) := by
  unfold Node.replyTransfer
  extract_lets x1
  exact (Step.of_quiet hB (q_transferReply x r)).trans
    (fun ph1 hB1 _ => checkConfigActions_step _ 0 _ hB1 hB1.main.anch (Jc.refl _ _))

theorem onTimeoutNowResult_step (hB : BI s op ph x) (src : Nat) (e : Bool) (r : Nat) :
    Step s op x ph (x.onTimeoutNowResult src e r) := by
  unfold Node.onTimeoutNowResult
  extract_lets l0 t0 x1 x2 l1 t1
  have h1 : Quiet x x1 := q_ldr x _ rfl rfl
  have h2 : Quiet x1 x2 := by
    unfold x2
    split
    · split
      · exact q_setRepl _ _
      · exact .refl _
    · exact q_panic _ _
  split
  · split
    · exact Step.of_quiet hB ((h1.trans h2).trans (q_tryTransfer _))
    · exact Step.of_quiet hB (h1.trans h2)
  · split
    · split
      · exact (Step.of_quiet hB h1).trans (fun ph1 hB1 _ => replyTransfer_step hB1 _)
      · exact Step.of_quiet hB (h1.trans (q_tryTransfer _))
    · exact Step.of_quiet hB (h1.trans (q_ldr _ _ rfl rfl))


/-- what `onChangeConfig` checks of a submitted configuration `c` against the latest one `L`: every member of `L`
is still there with the same voting right, and new members are non-voters — so the same nodes vote -/
theorem validated_sameVoters {L c : Config}
    (h1 : ¬ (L.nodes.any (fun n => match c.find? n.id with
      | none => true
      | some nn => n.voter != nn.voter)) = true)
    (h2 : ¬ (c.nodes.any (fun n => !L.has n.id && n.voter)) = true) : SameVoters c L := by
  intro x
  unfold Config.isVoter
  cases hL : L.find? x with
  | some n =>
    have hm : n ∈ L.nodes := List.mem_of_find?_eq_some hL
    have hid : n.id = x := find?_id hL
    have := fun h => h1 (List.any_eq_true.mpr ⟨n, hm, h⟩)
    rw [hid] at this
    cases hc : c.find? x with
    | none => rw [hc] at this; exact absurd rfl this
    | some nn =>
      rw [hc] at this
      dsimp only at this ⊢
      cases hv : n.voter <;> cases hv' : nn.voter <;> simp [hv, hv'] at this ⊢
  | none =>
    cases hc : c.find? x with
    | none => rfl
    | some nn =>
      have hm : nn ∈ c.nodes := List.mem_of_find?_eq_some hc
      have hid : nn.id = x := find?_id hc
      have := fun h => h2 (List.any_eq_true.mpr ⟨nn, hm, h⟩)
      have hhas : L.has nn.id = false := by unfold Config.has; rw [hid, hL]; rfl
      rw [hhas] at this
      dsimp only
      cases hv : nn.voter
      · rfl
      · rw [hv] at this; exact absurd rfl this

theorem validated_anchor {c : Config} (hn : (c.nodes.map (·.id)).Nodup)
    (h3 : ¬ (!c.nodes.any (fun n => n.voter && n.action == actNone)) = true) : HasAnchor c := by
  have : c.nodes.any (fun n => n.voter && n.action == actNone) = true := by simpa using h3
  obtain ⟨n, hm, hp⟩ := List.any_eq_true.mp this
  simp only [Bool.and_eq_true, beq_iff_eq] at hp
  exact ⟨n.id, n, Config.find?_of_mem_nodup c.nodes hn n hm, hp.1, hp.2⟩

theorem onChangeConfig_fin (hB : BI s op .fresh x) (t : Nat) (c : Config) (hn : (c.nodes.map (·.id)).Nodup) :
    Fin s op (x.onChangeConfig t c) := by
  have rep : ∀ r, Fin s op (x.reply t r) := fun r => ⟨_, hB.main.quiet (q_reply _ _ _)⟩
  refine Node.onChangeConfig_cases x t c rep fun ad => ?_
  intro x1
  have hcm' := ad.committed
  have hst := ad.ready
  have hJ : Jc x .fresh c := fun _ _ => validated_sameVoters ad.voters ad.added
  have hanch := validated_anchor hn ad.anchor
  obtain ⟨ph1, hB1, hT1, _⟩ := checkConfigActions_step (fuelFor 0) t c hB (Or.inr hanch) hJ
  refine ite_ind (fun heq => ?_) fun _ => ⟨ph1, hB1.main⟩
  have heq' : (checkConfigActions (fuelFor 0) x t c).lastLogIndex = x.lastLogIndex := heq
  have hf : ph1 = .fresh := by
    cases hp : ph1 with
    | fresh => rfl
    | _ =>
      have := hT1.moved rfl (by rw [hp]; decide)
      omega
  obtain ⟨_, f2, _⟩ := hT1.fresh hf
  exact (doChangeConfig_step (fuelFor 1) t c c hB1 (f2 hcm')
    (by rw [hT1.start]; exact Nat.le_trans (Nat.le_of_not_lt hst) hT1.ci) (Or.inl rfl) (hJ.step hT1.toTr0) hanch).fin


theorem replUpdLoop_spec (us : List ReplUpdate) : ∀ (x : Node) (ph : Phase) (f : UpdFlags), BI s op ph x →
    ∃ ph', Main s op ph' (replUpdLoop x f us).1 ∧ ((replUpdLoop x f us).2.stop = false → LV (replUpdLoop x f us).1) := by
  induction us with
  | nil => intro x ph f hB; exact ⟨ph, hB.main, fun _ => hB.lv⟩
  | cons u us ih =>
    intro x ph f hB
    unfold replUpdLoop
    split
    · exact ih x ph f hB
    · split
      · exact ih x ph f hB
      · rename_i st hst
        split
        · rename_i v
          extract_lets st' x1 x2
          have hq1 : Quiet x x1 := q_setRepl x _
          have h2 : Step s op x1 ph x2 := by
            unfold x2
            split
            · exact checkConfigAction_step _ 0 _ _ (hB.quiet hq1) (hB.quiet hq1).main.anch (Jc.refl _ _)
            · exact Step.refl (hB.quiet hq1)
          obtain ⟨ph2, hB2, _, _⟩ := h2
          exact ih x2 ph2 _ hB2
        · exact ih _ ph _ (hB.quiet (q_setRepl x _))
        · exact ih _ ph _ (hB.quiet (q_setRepl x _))
        · rename_i v
          refine ⟨ph, ?_, fun h => by cases h⟩
          exact (mainQ s op ph).setTerm _ _ ((mainQ s op ph).setLeader _ _ ((mainQ s op ph).setRole _ _ hB.main))

theorem checkReplUpdates_fin (hB : BI s op ph x) (us : List ReplUpdate) : Fin s op (x.checkReplUpdates us) := by
  unfold Node.checkReplUpdates
  extract_lets r x0 f x1 x2 x3
  obtain ⟨ph0, hm0, hlv0⟩ := replUpdLoop_spec us x ph {} hB
  split
  · exact ⟨ph0, hm0⟩
  · rename_i hstop
    have hB0 : BI s op ph0 x0 := ⟨hm0, hlv0 (by simpa using hstop)⟩
    have h1 : Fin s op x1 := by
      unfold x1
      split
      · exact (onMajorityCommit_step _ hB0).fin
      · exact ⟨ph0, hm0⟩
    have h2 : Fin s op x2 := by
      unfold x2
      split
      · exact h1.map (fun p hm => (mainQ s op p).checkQuorum_q _ hm)
      · exact h1
    have h3 : Fin s op x3 := by
      unfold x3
      split
      · exact h2.map (fun p hm => (mainQ s op p).checkLogCompact_q _ hm)
      · exact h2
    split
    · exact h3.map (fun p hm => (mainQ s op p).tryTransfer_q _ hm)
    · exact h3


theorem leaderInit_fin (hm : Main s op ph x) (hr : x.role = .leader) : Fin s op x.leaderInit := by
  unfold Node.leaderInit
  extract_lets x1 x2 x3 x4
  have hq1 : Quiet x x1 := q_assert x _ _
  have hB2 : BI s op ph x2 :=
    ⟨(mainQ s op ph).ldr _ _ (hm.quiet hq1),
     ⟨get_voter_eq_isVoter x1.configs.latest x1.nid, fun _ => by show x1.role = .leader; rw [hq1.role]; exact hr⟩⟩
  have hq3 : Quiet x2 x3 := by
    refine q_foldl _ (fun y m => ?_) _ _
    split
    · exact .refl _
    · exact q_addReplication _ _
  have h4 : Step s op x3 ph x4 := checkConfigActions_step _ 0 _ (hB2.quiet hq3) (hB2.quiet hq3).main.anch (Jc.refl _ _)
  obtain ⟨ph4, hB4, _, _⟩ := h4
  exact (storeEntry_step _ _ hB4 (.plain _ (fun q hq => by rw [List.mem_singleton.mp hq]; decide))).fin

theorem settle_fin (f : Nat) : ∀ (x : Node) (cur : Role) (ph : Phase), Main s op ph x → Fin s op (settle f x cur) := by
  induction f with
  | zero => intro x cur ph hm; exact ⟨ph, hm⟩
  | succ n ih =>
    intro x cur ph hm
    unfold settle
    split
    · exact ⟨ph, hm⟩
    · extract_lets x1 cur' x2
      have h1 : Main s op ph x1 := (mainQ s op ph).releaseRole_q _ _ hm
      have h2 : Fin s op x2 := by
        unfold x2 Node.initRole
        split
        · exact ⟨ph, h1⟩
        · exact ⟨ph, (mainQ s op ph).startElection_q _ h1⟩
        · rename_i hl
          exact leaderInit_fin h1 hl
      obtain ⟨ph2, hm2⟩ := h2
      exact ih x2 cur' ph2 hm2

/-- the invariant inside the append / install handlers (after they made the node a follower): only follower-type
moves were made, the commit index did not go back, the node is a follower -/
structure FI (s : Node) (op : Op) (x : Node) : Prop where
  chain : Chain s op .fresh x.configs
  ci : s.commitIndex ≤ x.commitIndex
  role : x.role = .follower

def kf (x : Node) : Configs × Nat × Role := (x.configs, x.commitIndex, x.role)

theorem FI.congr (h : FI s op x) (e : kf y = kf x) : FI s op y := by
  have e1 : y.configs = x.configs := congrArg Prod.fst e
  have e2 : y.commitIndex = x.commitIndex := congrArg (fun p => p.2.1) e
  have e3 : y.role = x.role := congrArg (fun p => p.2.2) e
  exact ⟨by rw [e1]; exact h.chain, by rw [e2]; exact h.ci, by rw [e3]; exact h.role⟩

theorem kf_panic (x : Node) (site : String) : kf (x.panic site) = kf x := by
  unfold Node.panic; split <;> rfl

theorem kf_reply (x : Node) (t : Nat) (r : String) : kf (x.reply t r) = kf x := by
  unfold Node.reply; split <;> rfl

theorem kf_ret (x : Node) (r : Nat) : kf (x.ret r) = kf x := rfl

theorem kfFsmFrame : FsmFrame kf := ⟨kf_panic, kf_reply, fun _ _ => rfl⟩

theorem kf_appendEntry (x : Node) (e : Entry) : kf (x.appendEntry e) = kf x := by
  unfold Node.appendEntry Node.assert
  dsimp only
  split
  · rfl
  · exact kf_panic x _

theorem fi_setCommitIndexR (h : FI s op x) (i : Nat) (hi : i > x.commitIndex) : FI s op (x.setCommitIndexR i).1 := by
  unfold Node.setCommitIndexR
  split
  · rename_i hc
    obtain ⟨a1, _, _, a4, _, _, _, a8, _⟩ := commitPath_fields x i
    dsimp only at a1 a4 a8 ⊢
    have hnc : x.configs.isCommitted = false := by simpa using hc.1
    have hlt : s.commitIndex < i := Nat.lt_of_le_of_lt h.ci hi
    refine ⟨by rw [a1]; exact .step h.chain (.commit .fresh x.configs i hnc hc.2 hlt), by rw [a4]; exact Nat.le_of_lt hlt, ?_⟩
    rcases a8 with a8 | a8
    · rw [a8]; exact h.role
    · exact a8.2
  · exact ⟨h.chain, Nat.le_trans h.ci (Nat.le_of_lt hi), h.role⟩

theorem fi_resolveConflict {q : AppendReq} (hop : op = .append q) (h : FI s op x) (ne : Entry) (hne : ne ∈ q.entries)
    (pt : Nat) : FI s op (x.resolveConflict ne pt) := by
  unfold Node.resolveConflict
  refine ite_ind (fun _ => ?_) fun _ => h
  split
  · exact h.congr (kf_panic _ _)
  · extract_lets x1
    have h1 : FI s op x1 := h.congr rfl
    refine ite_ind (fun hle => ?_) fun _ => h1
    exact ⟨.step h1.chain (.revert x1.configs q ne hop hne hle), h1.ci, h1.role⟩

theorem fi_appendLoop {q : AppendReq} (hop : op = .append q) (es : List Entry) (st : AppLoop)
    (hsub : ∀ e ∈ es, e ∈ q.entries) (h : FI s op st.s) : FI s op (appendLoop st es).s := by
  have store : ∀ (st : AppLoop) ne, ne ∈ q.entries → FI s op st.s → FI s op (stored st ne) := fun st ne hne h =>
    (fi_resolveConflict hop h ne hne st.term).congr (kf_appendEntry _ _)
  refine appendLoop_rec (M := fun st es r => (∀ e ∈ es, e ∈ q.entries) → FI s op st.s → FI s op r.s) (fun _ _ _ _ h => h)
    (fun _ _ _ _ _ _ ih hsub h => ih (fun e he => hsub e (List.mem_cons_of_mem _ he)) h)
    (fun st ne rest y _ _ _ hy ih hsub h => ih (fun e he => hsub e (List.mem_cons_of_mem _ he)) ?_)
    (fun st ne _ _ _ _ _ hsub h => store st ne (hsub ne (List.mem_cons_self ..)) h) st es hsub h
  have hne : ne ∈ q.entries := hsub ne (List.mem_cons_self ..)
  have h1 := store st ne hne h
  rcases hy with ⟨_, rfl⟩ | ⟨c, hc, rfl⟩
  · exact h1
  · obtain ⟨a1, _, _, a4, _, a6, _, _⟩ := changeConfigR_fields (stored st ne) c
    exact ⟨by rw [a1]; exact .step h1.chain (.adopt (stored st ne).configs q ne c hop hne hc), by rw [a4]; exact h1.ci,
      by rw [a6]; exact h1.role⟩

theorem fi_applyCommitted (h : FI s op x) : FI s op x.applyCommitted := h.congr (kfFsmFrame.applyCommitted_eq x)

theorem fi_appendCheck (h : FI s op x) (q : AppendReq) : FI s op (x.appendCheck q) := by
  have hx : ∀ {y}, Looked x q y → FI s op y ∧ y.commitIndex = x.commitIndex := fun hl => by
    rcases hl.eq with rfl | rfl
    · exact ⟨h, rfl⟩
    · exact ⟨h.congr (kf_panic _ _), by rw [Node.panic_shape]⟩
  exact appendCheck_cases x q (fun y r hl _ => (hx hl).1.congr (kf_ret _ _)) fun y hl _ _ _ hcc =>
    (fi_applyCommitted (fi_setCommitIndexR (hx hl).1 _ (by rw [(hx hl).2]; exact canCommit_gt hcc))).congr (kf_ret _ _)

theorem setTerm_kf (x : Node) (t : Nat) : kf (x.setTerm t) = kf x := by rw [Node.setTerm_shape]; rfl

/-- both request handlers first adopt a higher term and become followers of the sender -/
theorem fi_follow (hc : Chain s op .fresh x.configs) (hci : s.commitIndex ≤ x.commitIndex) (t src : Nat) :
    FI s op (((if t > x.term then (x.setTerm t).setRole .follower else x).setRole .follower).setLeader src) := by
  have key : ∀ y : Node, y.configs = x.configs → y.commitIndex = x.commitIndex →
      FI s op ((y.setRole .follower).setLeader src) := fun y e1 e2 =>
    ⟨by show Chain s op .fresh y.configs; rw [e1]; exact hc, by show _ ≤ y.commitIndex; rw [e2]; exact hci, rfl⟩
  refine ite_ind (P := fun y : Node => FI s op ((y.setRole .follower).setLeader src)) (fun _ => key _ ?_ ?_)
    fun _ => key _ rfl rfl
  · show (x.setTerm t).configs = _; rw [Node.setTerm_shape]
  · show (x.setTerm t).commitIndex = _; rw [Node.setTerm_shape]

/-- `onAppendEntries`: a stale request only sets the result; otherwise the node is a follower afterwards and every
move is an adoption, a revert or a commit -/
theorem onAppendEntries_fi (x : Node) (q : AppendReq) (hop : op = .append q) (hc : Chain s op .fresh x.configs)
    (hci : s.commitIndex ≤ x.commitIndex) :
    x.onAppendEntries q = x.ret rStaleTerm ∨ FI s op (x.onAppendEntries q) := by
  unfold Node.onAppendEntries
  refine ite_ind (P := fun y => y = _ ∨ FI s op y) (fun _ => Or.inl rfl) fun _ => Or.inr ?_
  extract_lets x1 x2 x3 st x4 x6 x5
  have h3 : FI s op x3 := fi_appendCheck (fi_follow hc hci q.term q.src) q
  refine ite_ind (fun _ => h3) fun _ => ?_
  have h4 : FI s op x4 := fi_appendLoop hop q.entries _ (fun e he => he) h3
  refine FI.congr ?_ (kf_ret _ _)
  refine ite_ind (fun _ => ?_) fun _ => h4
  have h6 : FI s op x6 := h4.congr rfl
  refine ite_ind (fun hcc => ?_) fun _ => h6
  have hgt : st.index > x6.commitIndex := by
    simp only [Node.canCommit, Bool.and_eq_true, decide_eq_true_eq] at hcc
    exact hcc.2
  exact fi_applyCommitted (fi_setCommitIndexR h6 _ hgt)

theorem kf_fsmRestore (x : Node) : kf x.fsmRestore = kf x := by
  unfold Node.fsmRestore
  split
  · exact kf_panic _ _
  · split
    · rfl
    · exact kf_panic _ _

theorem kf_publishSnapshot (x : Node) (f : SnapFile) : kf (x.publishSnapshot f) = kf x := rfl

theorem kf_clearLog (x : Node) : kf x.clearLog = kf x := rfl

theorem onInstallSnap_fi (x : Node) (q : InstallReq) (hop : op = .install q) (hc : Chain s op .fresh x.configs)
    (hci : s.commitIndex ≤ x.commitIndex) :
    x.onInstallSnap q = x.ret rStaleTerm ∨ FI s op (x.onInstallSnap q) := by
  rw [onInstallSnap_eq]
  refine ite_ind (P := fun y => y = _ ∨ FI s op y) (fun _ => Or.inl rfl) fun _ => Or.inr ?_
  have h2 : FI s op (installPre x q) := fi_follow hc hci q.term q.src
  refine ite_ind (fun _ => h2.congr (kf_ret _ _)) fun hgt => ite_ind (fun _ => h2.congr (kf_ret _ _)) fun _ => ?_
  extract_lets p
  have h5 : kf p.clearLog.fsmRestore = kf (installPre x q) :=
    (kf_fsmRestore _).trans ((kf_clearLog p).trans (kf_publishSnapshot _ _))
  have hlt : s.commitIndex < q.lastIndex := by have := h2.ci; omega
  have hsi : p.clearLog.fsmRestore.snapIndex = q.lastIndex := by rw [fsmRestore_shape]; rfl
  generalize p.clearLog.fsmRestore = x5 at h5 hsi ⊢
  obtain ⟨a1, _, _, a4, _, a6, _, _⟩ := changeConfigR_fields (x5.withCommitIndex x5.snapIndex) q.lastConfig
  obtain ⟨b1, _, _, b4, _, _, _, b8, _⟩ := commitConfig_fields ((x5.withCommitIndex x5.snapIndex).changeConfigR q.lastConfig)
  refine FI.congr ⟨?_, ?_, ?_⟩ (kf_ret _ _)
  · rw [b1, a1]
    exact .step h2.chain (.install _ q hop hlt)
  · rw [b4, a4]
    show s.commitIndex ≤ x5.snapIndex
    rw [hsi]; exact Nat.le_of_lt hlt
  · rw [b8, a6]
    exact (congrArg (fun p => p.2.2) h5 : x5.role = (installPre x q).role).trans h2.role

theorem setTerm_log (x : Node) (t : Nat) : (x.setTerm t).log = x.log := by
  unfold Node.setTerm
  split
  · split
    · exact (storeTermVote_fields x t 0).2.2.2.2.2.1
    · unfold Node.panic; split <;> rfl
  · rfl

theorem setTerm_pan (x : Node) (t : Nat) (h : x.panicked ≠ none) : (x.setTerm t).panicked ≠ none := by
  unfold Node.setTerm
  split
  · split
    · rw [(storeTermVote_fields x t 0).2.2.2.2.2.2]; exact h
    · exact Node.panic_panicked_ne _ _
  · exact h

/-- `storage.bootstrap`: append the entry, flush it, set term 1 -/
theorem storeBootstrap_facts (x : Node) (e : Entry) :
    let y := ((x.appendEntry e).commitLog 1).setTerm 1
    y.configs = x.configs ∧ y.commitIndex = x.commitIndex ∧ y.nid = x.nid ∧ x.term ≤ y.term ∧
    (y.panicked = none → x.panicked = none) ∧ y.log.entries = x.log.entries ++ [e] := by
  intro y
  obtain ⟨a1, a2, a3, a4, _⟩ := appendEntry_key x e
  obtain ⟨t1, _, _, t4, t5, _⟩ := setTerm_key ((x.appendEntry e).commitLog 1) 1
  refine ⟨t4.trans a1, ?_, t1.trans a2, ?_, fun hp => appendEntry_pan' x e ?_, ?_⟩
  · have ci : ∀ (z : Node) t, (z.setTerm t).commitIndex = z.commitIndex := fun z t => by rw [Node.setTerm_shape]
    exact (ci _ 1).trans a4
  · exact Nat.le_trans (Nat.le_of_eq a3.symm) t5
  · cases h2 : ((x.appendEntry e).commitLog 1).panicked with
    | none => exact h2
    | some v => exact absurd hp (setTerm_pan _ 1 (by rw [h2]; simp))
  · show (((x.appendEntry e).commitLog 1).setTerm 1).log.entries = _
    rw [setTerm_log]
    show ((x.appendEntry e).log.commitN 1).entries = _
    rw [(NLog.commitN_same _ _).2.1]
    exact appendEntry_entries x e

theorem bootstrap_fin (hm : Main s op .fresh x) (hx : x.configs = s.configs) (hrl : s.role ≠ .leader) (t : Nat)
    (c : Config) (hop : op = .changeConfig t c) : Fin s op (x.bootstrap t c) := by
  have rep : ∀ r, Fin s op (x.reply t r) := fun r => ⟨_, hm.quiet (q_reply _ _ _)⟩
  refine bootstrap_cases x t c (fun _ r => rep r) fun ⟨hnb, _, self, hself, hv, hst⟩ => ?_
  let c' : Config := { c with index := 1, term := 1 }
  let x3 : Node := ((x.appendEntry c'.toEntry).commitLog 1).setTerm 1
  let x4 : Node := x3.withLast c'.index c'.term
  let x5 : Node := x4.changeConfigR c'
  show Fin s op ((x5.reply t "ok").setRole .candidate)
  have hnb' : s.configs.isBootstrapped = false := by rw [← hx]; exact hnb
  obtain ⟨e3c, e3i, e3n, e3t, e3p, e3l⟩ : x3.configs = x.configs ∧ x3.commitIndex = x.commitIndex ∧
      x3.nid = x.nid ∧ x.term ≤ x3.term ∧ (x3.panicked = none → x.panicked = none) ∧
      x3.log.entries = x.log.entries ++ [c'.toEntry] := storeBootstrap_facts x c'.toEntry
  clear_value x3
  obtain ⟨b1, b2, b3, b4, b5, _, _, b8, b9⟩ := changeConfigR_fields x4 c'
  have hself' : c.find? s.nid = some self := by rw [← hm.nid]; exact hself
  have hact : self.action = actNone := by
    have hmem : self ∈ c.nodes := List.mem_of_find?_eq_some hself
    unfold Config.isStable at hst
    have := List.all_eq_true.mp hst self hmem
    simpa using this
  have hanch : HasAnchor c' := ⟨x.nid, self, hself, hv, hact⟩
  have m5 : Main s op .fresh x5 := by
    refine ⟨?_, ?_, ?_, ?_, ?_, ?_, ?_⟩
    · rw [b1]
      show Chain s op .fresh ⟨x3.configs.latest, c'⟩
      rw [e3c, hx]
      exact .step .start (.bootstrap t c self hop hrl hnb' hself' hv hst)
    · rw [b2]; show x3.nid = s.nid; rw [e3n]; exact hm.nid
    · rw [b3]; show s.term ≤ x3.term; exact Nat.le_trans hm.term e3t
    · rw [b4]; show s.commitIndex ≤ x3.commitIndex; rw [e3i]; exact hm.ci
    · rw [b1, b5]; exact Nat.le_refl _
    · rw [b1]; exact Or.inr hanch
    · intro hs hp
      have hpx : x.panicked = none := e3p (by rw [b8] at hp; exact hp)
      obtain ⟨c1, c2⟩ := hm.cl hs hpx
      have hl0 : x.configs.latest.index = 0 := by
        have : ¬ (x.configs.latest.index > 0) := by
          simpa [Configs.isBootstrapped, Config.isBootstrapped] using hnb
        omega
      have hent : x5.log.entries = x.log.entries ++ [c'.toEntry] := by rw [b9]; exact e3l
      refine ⟨fun e he ht => ?_, ?_⟩
      · rw [hent, List.mem_append, List.mem_singleton] at he
        rw [b1]
        show e.index ≤ x3.configs.latest.index ∨ e.index = c'.index
        rw [e3c]
        rcases he with h | h
        · rcases c1 e h ht with h' | h'
          · left; omega
          · left; omega
        · subst h; exact Or.inr rfl
      · rw [b1]
        show x3.configs.latest.index ≤ c'.index
        rw [e3c, hl0]
        exact Nat.zero_le _
  exact ⟨_, (mainQ s op _).setRole _ _ ((mainQ s op _).reply _ _ _ m5)⟩


/-- the leader's cached own entry is current (part of `C06Cache.LeaderCache`) -/
def SelfCache (s : Node) : Prop := s.role = .leader → s.ldr.node.voter = s.configs.latest.isVoter s.nid

/-- what is assumed of the operation: a batch of client entries holds no configuration entry (the client API has no
such task; `leader.doChangeConfig` is the only producer), and a submitted configuration has distinct member ids
(`Config.Nodes` is a Go map keyed by id) -/
def OpOk : Op → Prop
  | .newEntries b => ∀ q ∈ b, q.typ ≠ etConfig
  | .changeConfig _ c => (c.nodes.map (·.id)).Nodup
  | _ => True

theorem main_begin (s : Node) (op : Op) (ra : List Nat) (ord : List (List Nat))
    (hli : s.configs.latest.index ≤ s.lastLogIndex) (hanch : AnchC s.configs.latest) :
    Main s op .fresh (s.begin ra ord) :=
  ⟨.start, rfl, Nat.le_refl _, Nat.le_refl _, hli, hanch, fun hs _ => hs⟩

theorem handle_fin (s : Node) (op : Op) (ra : List Nat) (ord : List (List Nat)) (hsc : SelfCache s)
    (hli : s.configs.latest.index ≤ s.lastLogIndex) (hanch : AnchC s.configs.latest) (hok : OpOk op)
    (ha : ∀ q, op ≠ .append q) (hi : ∀ q, op ≠ .install q) : Fin s op ((s.begin ra ord).handle op) := by
  have m0 := main_begin s op ra ord hli hanch
  have Q := mainQ s op .fresh
  have hB : (s.begin ra ord).role = .leader → BI s op .fresh (s.begin ra ord) := fun hr =>
    ⟨m0, ⟨hsc hr, fun _ => hr⟩⟩
  cases handle_kind (s.begin ra ord) op with
  | quiet q => exact ⟨_, q _ (Q.toQuiet op) m0⟩
  | ldr hr c =>
    generalize (s.begin ra ord).handle op = h at c ⊢
    cases c with
    | store batch => exact (storeEntry_step _ _ (hB hr) (.plain _ hok)).fin
    | change t c => exact onChangeConfig_fin (hB hr) t c hok
    | wait t => exact ⟨_, Q.onWaitForStable_q _ _ m0⟩
    | transfer t g => exact ⟨_, Q.onTransfer_q _ _ _ m0⟩
    | transferTimeout _ => exact (replyTransfer_step (hB hr) _).fin
    | timeoutNowResult a b c _ => exact (onTimeoutNowResult_step (hB hr) _ _ _).fin
    | newTermTimeout _ => exact ⟨_, Q.tryTransfer_q _ (Q.ldr _ _ m0)⟩
    | repl us => exact checkReplUpdates_fin (hB hr) us
  | special sp =>
    cases sp with
    | append q => exact absurd rfl (ha q)
    | install q => exact absurd rfl (hi q)
    | snapRun => exact ⟨_, Q.snapRun_q _ m0⟩
    | snapTaken => exact ⟨_, Q.onSnapshotTaken_q _ m0⟩
    | shutdown => exact ⟨_, Q.shutdown_q _ m0⟩
    | bootstrap t c hr _ =>
      rw [handle_bootstrap hr]
      exact bootstrap_fin m0 rfl hr t c rfl

/-- `handle_fin` and the role transitions that follow: a whole step, for an operation other than an append or install request -/
theorem step_fin (s : Node) (op : Op) (ra : List Nat) (ord : List (List Nat)) (hsc : SelfCache s)
    (hli : s.configs.latest.index ≤ s.lastLogIndex) (hanch : AnchC s.configs.latest) (hok : OpOk op)
    (ha : ∀ q, op ≠ .append q) (hi : ∀ q, op ≠ .install q) : Fin s op (s.step op ra ord) := by
  obtain ⟨ph, hm⟩ := handle_fin s op ra ord hsc hli hanch hok ha hi
  unfold Node.step
  dsimp only
  split
  · exact ⟨ph, hm⟩
  · exact settle_fin 6 _ _ ph hm

theorem kf_rpcDone (x : Node) (a b : Bool) : kf (x.rpcDone a b) = kf x := by
  unfold Node.rpcDone
  split
  · exact (kf_panic _ _).trans rfl
  · rfl


theorem q_leaderReleaseRest (x : Node) : Quiet x x.leaderReleaseRest := by
  unfold Node.leaderReleaseRest
  extract_lets x1 err x2 x3
  have h1 : Quiet x x1 := by
    unfold x1; split
    · exact ⟨rfl, id⟩
    · exact .refl _
  have h2 : Quiet x1 x2 := q_foldl _ (fun y q => q_reply _ _ _) _ _
  have h3 : Quiet x2 x3 := q_foldl _ (fun y q => q_reply _ _ _) _ _
  exact ((h1.trans h2).trans h3).trans (q_ldr _ _ rfl rfl)

theorem q_leaderRelease (x : Node) : Quiet x x.leaderRelease := by
  unfold Node.leaderRelease
  split
  · exact (q_transferReply _ _).trans (q_leaderReleaseRest _)
  · exact q_leaderReleaseRest _

theorem q_releaseRole (x : Node) (r : Role) : Quiet x (x.releaseRole r) :=
  releaseRole_of (P := Quiet x) (fun _ _ h => h.trans ⟨rfl, id⟩) (fun y h => h.trans (q_leaderRelease y)) x r (.refl x)

/-- after a handler that left the node a follower, the role transitions are bookkeeping -/
theorem settle_follower_q (x : Node) (cur : Role) (hr : x.role = .follower) : Quiet x (settle 6 x cur) := by
  rcases settle_of_follower x cur hr with e | e <;> rw [e]
  · exact .refl _
  · exact q_releaseRole x cur

theorem settle_follower (x : Node) (cur : Role) (hr : x.role = .follower) :
    (settle 6 x cur).configs = x.configs := (settle_follower_q x cur hr).configs

/-- `onInstallSnap` and the configuration entries of the log: nothing changes, or the log is emptied and both
configurations are the snapshot's label -/
theorem onInstallSnap_logInv (x : Node) (q : InstallReq) (h : LogInv x) : LogInv (x.onInstallSnap q) := by
  rw [onInstallSnap_eq]
  have ret : ∀ (y : Node) r, LogInv y → LogInv (y.ret r) := fun _ _ hy => hy.congr rfl (fun _ he => he)
  have flw : ∀ (y : Node) l, LogInv y → LogInv ((y.setRole .follower).setLeader l) := fun _ _ hy =>
    hy.congr rfl (fun _ he => he)
  have h2 : LogInv (installPre x q) := flw _ _ (ite_ind (fun _ =>
    h.congr (congrArg Prod.fst (setTerm_kf x q.term)) fun e he => by rw [← setTerm_log x q.term]; exact he) fun _ => h)
  refine ite_ind (fun _ => ret _ _ h) fun _ => ite_ind (fun _ => ret _ _ h2) fun _ => ite_ind (fun _ => ret _ _ h2) fun _ => ?_
  extract_lets p
  clear_value p
  obtain ⟨_, _, _, _, _, _, _, _, a9⟩ := changeConfigR_fields
    (p.clearLog.fsmRestore.withCommitIndex p.clearLog.fsmRestore.snapIndex) q.lastConfig
  obtain ⟨b1, _, _, _, _, _, _, _, b9⟩ := commitConfig_fields
    ((p.clearLog.fsmRestore.withCommitIndex p.clearLog.fsmRestore.snapIndex).changeConfigR q.lastConfig)
  refine ret _ _ ⟨fun e he _ => ?_, ?_⟩
  · rw [b9, a9] at he
    have he' : e ∈ p.clearLog.fsmRestore.log.entries := he
    rw [fsmRestore_shape] at he'
    cases he'
  · rw [b1]; exact Nat.le_refl _

end CfgRel
end Raft
