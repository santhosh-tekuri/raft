/-
Witness runs as checked scripts. A script is a list of actions; `run` executes it with a successor function `next`;
`Checked` says that every action is enabled (`OK`) in the state it is executed in. With a decidable `OK` a witness run
is ONE evaluation of `Checked`, and `sound` turns it into whatever every enabled action preserves (reachability, the
side conditions of a system); the same evaluation serves every prefix and every single action of the script
(`Checked.take`, `drop`, `get`). Each cluster system supplies its actions, `next`, `OK` and the one lemma `act`.
-/

namespace Raft
namespace Script
variable {σ α : Type}

def run (next : σ → α → σ) (x : σ) (as : List α) : σ := as.foldl next x

def Checked (next : σ → α → σ) (OK : σ → α → Prop) : σ → List α → Prop
  | _, [] => True
  | x, a :: as => OK x a ∧ Checked next OK (next x a) as

instance Checked.dec (next : σ → α → σ) (OK : σ → α → Prop) [∀ x a, Decidable (OK x a)] :
    (x : σ) → (as : List α) → Decidable (Checked next OK x as)
  | _, [] => isTrue trivial
  | x, a :: as => @instDecidableAnd _ _ inferInstance (Checked.dec next OK (next x a) as)

theorem sound {next : σ → α → σ} {OK : σ → α → Prop} {Inv : σ → Prop}
    (act : ∀ x a, Inv x → OK x a → Inv (next x a)) :
    ∀ (as : List α) {x : σ}, Inv x → Checked next OK x as → Inv (run next x as)
  | [], _, hx, _ => hx
  | a :: as, _, hx, h => sound act as (act _ a hx h.1) h.2

theorem Checked.take {next : σ → α → σ} {OK : σ → α → Prop} :
    ∀ (as : List α) (x : σ) (n : Nat), Checked next OK x as → Checked next OK x (as.take n)
  | [], _, _, _ => by rw [List.take_nil]; trivial
  | _ :: _, _, 0, _ => trivial
  | _ :: as, _, n + 1, h => ⟨h.1, Checked.take as _ n h.2⟩

theorem Checked.drop {next : σ → α → σ} {OK : σ → α → Prop} :
    ∀ (as : List α) (x : σ) (n : Nat), Checked next OK x as → Checked next OK (run next x (as.take n)) (as.drop n)
  | [], _, _, _ => by rw [List.drop_nil]; trivial
  | _ :: _, _, 0, h => h
  | _ :: as, _, n + 1, h => Checked.drop as _ n h.2

theorem Checked.get {next : σ → α → σ} {OK : σ → α → Prop} :
    ∀ (as : List α) (x : σ) (n : Nat) (hn : n < as.length), Checked next OK x as →
      OK (run next x (as.take n)) as[n]
  | _ :: _, _, 0, _, h => h.1
  | _ :: as, _, n + 1, hn, h => Checked.get as _ n (Nat.lt_of_succ_lt_succ hn) h.2

end Script
end Raft
