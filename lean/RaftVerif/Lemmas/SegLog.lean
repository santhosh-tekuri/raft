import RaftVerif.Model.SegLog
/-!
Helper lemmas for C13 / C14 (segmented log).  Core Lean only.
-/
namespace Raft.SL

@[simp] theorem flatChunks_ok (c : List Bytes) : flatChunks (.ok c) = .ok c.flatten := rfl
@[simp] theorem flatChunks_error (e : Err) : flatChunks (.error e) = .error e := rfl

theorem dataSize_append (a b : List Bytes) : dataSize (a ++ b) = dataSize a + dataSize b := by
  induction a with
  | nil => simp [dataSize]
  | cons x xs ih => simp [dataSize, ih]; omega

theorem dataSize_take_le (a : List Bytes) (k : Nat) : dataSize (a.take k) ≤ dataSize a := by
  induction a generalizing k with
  | nil => simp [dataSize]
  | cons x xs ih =>
    cases k with
    | zero => simp [dataSize]
    | succ k => simp [dataSize]; exact ih k

/-- Per segment: data and offset table (slots `0..n+1`) do not overlap; `0 ≤ synced ≤ n`. -/
def SegOK (s : Seg) : Prop :=
  s.size + 8 * (s.n + 2) ≤ s.cap ∧ 0 ≤ s.synced ∧ s.synced ≤ (s.n : Int)

/-- The segments behind a segment whose prevIndex is `p`: chained, non-empty, not dirty. -/
def Chain : Nat → List Seg → Prop
  | _, [] => True
  | p, a :: rest => a.prev + a.n = p ∧ 0 < a.n ∧ a.synced = (a.n : Int) ∧ SegOK a ∧ Chain a.prev rest

/-- C13 invariant. -/
def Inv (l : SegLog) : Prop :=
  SegOK l.last ∧ Chain l.last.prev l.older ∧ 1024 ≤ l.segmentSize

/-- prevIndex of the oldest segment of a chain hanging below `p`. -/
def chainPrev : Nat → List Seg → Nat
  | p, [] => p
  | _, a :: rest => chainPrev a.prev rest

theorem lastD_prev (older : List Seg) (s : Seg) : (lastD older s).prev = chainPrev s.prev older := by
  induction older generalizing s with
  | nil => rfl
  | cons a rest ih => simp [lastD, chainPrev, ih]

theorem prevIndex_eq (l : SegLog) : l.prevIndex = chainPrev l.last.prev l.older := by
  simp [SegLog.prevIndex, SegLog.first, lastD_prev]

theorem chain_len {p : Nat} {older : List Seg} (h : Chain p older) :
    chainPrev p older + (absEntries older).length = p := by
  induction older generalizing p with
  | nil => simp [chainPrev, absEntries]
  | cons a rest ih =>
    obtain ⟨h1, _, _, _, h5⟩ := h
    have := ih h5
    simp [chainPrev, absEntries, Seg.n] at *
    omega

theorem chainPrev_le {p : Nat} {older : List Seg} (h : Chain p older) : chainPrev p older ≤ p := by
  have := chain_len h; omega

theorem abs_lastIndex {l : SegLog} (h : Inv l) : (abs l).lastIndex = l.lastIndex := by
  have := chain_len h.2.1
  simp [AbsLog.lastIndex, abs, SegLog.segs, absEntries, prevIndex_eq, SegLog.lastIndex, Seg.lastIndex, Seg.n] at *
  omega

theorem abs_prev (l : SegLog) : (abs l).prev = l.prevIndex := rfl

theorem abs_count {l : SegLog} (h : Inv l) : (abs l).count = l.count := by
  have := abs_lastIndex h
  simp [AbsLog.count, SegLog.count, AbsLog.lastIndex, abs_prev] at *
  omega

theorem abs_contains {l : SegLog} (h : Inv l) (i : Nat) : (abs l).contains i = l.contains i := by
  simp [AbsLog.contains, SegLog.contains, abs_lastIndex h, abs_prev]


@[simp] theorem sync_prev (s : Seg) : s.sync.prev = s.prev := by unfold Seg.sync; split <;> rfl
@[simp] theorem sync_entries (s : Seg) : s.sync.entries = s.entries := by unfold Seg.sync; split <;> rfl
@[simp] theorem sync_cap (s : Seg) : s.sync.cap = s.cap := by unfold Seg.sync; split <;> rfl
@[simp] theorem sync_n (s : Seg) : s.sync.n = s.n := by simp [Seg.n]
@[simp] theorem sync_size (s : Seg) : s.sync.size = s.size := by simp [Seg.size]

theorem sync_synced {s : Seg} (h : s.synced ≤ (s.n : Int)) : s.sync.synced = (s.n : Int) := by
  unfold Seg.sync Seg.dirty
  split
  · rfl
  · simp_all; omega

theorem sync_ok {s : Seg} (h : SegOK s) : SegOK s.sync := by
  obtain ⟨h1, h2, h3⟩ := h
  refine ⟨by simpa using h1, ?_, ?_⟩ <;> rw [sync_synced h3] <;> simp

theorem sync_not_dirty {s : Seg} (h : s.synced ≤ (s.n : Int)) : s.sync.dirty = false := by
  simp [Seg.dirty, sync_synced h]

theorem sync_id {s : Seg} (h : s.synced = (s.n : Int)) : s.sync = s := by
  simp [Seg.sync, Seg.dirty, h]

theorem fresh_ok {p cap : Nat} (h : 16 ≤ cap) : SegOK (Seg.fresh p cap) := by
  simp [SegOK, Seg.fresh, Seg.size, Seg.n, dataSize]; omega

theorem append_ok {s : Seg} {b : Bytes} (h : SegOK s) (ha : (b.length : Int) ≤ s.available) :
    SegOK (s.append b) := by
  obtain ⟨h1, h2, h3⟩ := h
  simp [SegOK, Seg.append, Seg.size, Seg.n, Seg.available, Seg.slotAt, dataSize_append, dataSize] at *
  omega

/-- `segment_layout` core: when `append` is called with `len b ≤ available()`, the data store
`[size, size+len b)` ends at or below the slot `n+2` it is about to write, i.e. below the whole
offset table / header region `[at(n+2), cap)`. -/
theorem append_layout {s : Seg} {b : Bytes} (ha : (b.length : Int) ≤ s.available) :
    ((s.size + b.length : Nat) : Int) ≤ s.slotAt (s.n + 2) := by
  simp [Seg.available] at ha; omega

theorem removeGTE_entries (s : Seg) (i : Nat) :
    (s.removeGTE i).entries = s.entries.take (i - s.prev - 1) := by
  unfold Seg.removeGTE
  split
  · simp
  · rename_i h; simp [Seg.n] at h ⊢; exact (List.take_of_length_le h).symm

@[simp] theorem removeGTE_prev (s : Seg) (i : Nat) : (s.removeGTE i).prev = s.prev := by
  unfold Seg.removeGTE; split <;> simp

@[simp] theorem removeGTE_cap (s : Seg) (i : Nat) : (s.removeGTE i).cap = s.cap := by
  unfold Seg.removeGTE; split <;> simp

theorem removeGTE_ok {s : Seg} (h : SegOK s) (i : Nat) : SegOK (s.removeGTE i) := by
  unfold Seg.removeGTE
  split
  · rename_i hlt
    obtain ⟨h1, h2, h3⟩ := h
    have hs : dataSize (s.entries.take (i - s.prev - 1)) ≤ dataSize s.entries := dataSize_take_le _ _
    have hn : (List.take (i - s.prev - 1) s.entries).length = i - s.prev - 1 := by
      simp [Seg.n] at hlt; simp; omega
    have hd : ({ s with entries := s.entries.take (i - s.prev - 1), synced := -1 } : Seg).synced ≤
        (({ s with entries := s.entries.take (i - s.prev - 1), synced := -1 } : Seg).n : Int) := by
      simp [Seg.n]
    refine ⟨?_, ?_, ?_⟩
    · simp [Seg.size, Seg.n] at *; omega
    · rw [sync_synced hd]; simp
    · rw [sync_synced hd]; simp
  · exact sync_ok h

theorem chain_head_clean {p : Nat} {older : List Seg} (h : Chain p older) (n : Nat) :
    commitSegs n older = older := by
  cases older with
  | nil => rfl
  | cons a rest =>
    obtain ⟨_, _, h3, _, _⟩ := h
    simp [commitSegs, Seg.dirty, h3]

theorem chain_commitSteps {p : Nat} {older : List Seg} (h : Chain p older) (n : Nat) :
    commitSteps n older = [] := by
  cases older with
  | nil => rfl
  | cons a rest =>
    obtain ⟨_, _, h3, _, _⟩ := h
    simp [commitSteps, Seg.dirty, h3]

theorem commitN_shape {l : SegLog} (h : Inv l) (n : Nat) :
    l.commitN n = l ∨ l.commitN n = { l with last := l.last.sync } := by
  unfold SegLog.commitN
  rw [chain_head_clean h.2.1]
  split
  · left; rfl
  · split
    · left; rfl
    · right; rfl

theorem commit_eq {l : SegLog} (h : Inv l) : l.commit = { l with last := l.last.sync } := by
  unfold SegLog.commit SegLog.commitN
  rw [chain_head_clean h.2.1]
  split
  · rename_i hd
    have : l.last.sync = l.last := by simp [Seg.sync]; intro h'; simp [h'] at hd
    rw [this]
  · split
    · rename_i hd hge
      simp [SegLog.lastIndex, Seg.lastIndex] at hge
      have h3 := h.1.2.1
      have : l.last.n = 0 := by omega
      simp [Seg.dirty, this] at hd
      omega
    · rfl

theorem inv_sync_last {l : SegLog} (h : Inv l) : Inv { l with last := l.last.sync } := by
  refine ⟨sync_ok h.1, ?_, h.2.2⟩
  simpa using h.2.1

theorem abs_sync_last (l : SegLog) : abs { l with last := l.last.sync } = abs l := by
  simp [abs, SegLog.prevIndex, SegLog.first, SegLog.segs, absEntries, lastD_prev]

theorem commitN_inv {l : SegLog} (h : Inv l) (n : Nat) : Inv (l.commitN n) := by
  rcases commitN_shape h n with e | e <;> rw [e]
  · exact h
  · exact inv_sync_last h

theorem commitN_abs {l : SegLog} (h : Inv l) (n : Nat) : abs (l.commitN n) = abs l := by
  rcases commitN_shape h n with e | e <;> rw [e]
  exact abs_sync_last l

theorem commit_inv {l : SegLog} (h : Inv l) : Inv l.commit := commitN_inv h _
theorem commit_abs {l : SegLog} (h : Inv l) : abs l.commit = abs l := commitN_abs h _


theorem abs_eq (l : SegLog) :
    abs l = { prev := chainPrev l.last.prev l.older, entries := absEntries l.older ++ l.last.entries } := by
  simp [abs, prevIndex_eq, SegLog.segs, absEntries]

/-- the abstract log of a bare chain `x :: ys` (newest first) -/
def absOf (x : Seg) (ys : List Seg) : AbsLog := ⟨chainPrev x.prev ys, absEntries ys ++ x.entries⟩

theorem abs_absOf (l : SegLog) : abs l = absOf l.last l.older := abs_eq l

theorem absOf_len {x : Seg} {ys : List Seg} (hc : Chain x.prev ys) :
    chainPrev x.prev ys ≤ x.prev ∧ (absEntries ys).length = x.prev - chainPrev x.prev ys := by
  have := chain_len hc; omega

theorem absOf_lastIndex {x : Seg} {ys : List Seg} (hc : Chain x.prev ys) :
    (absOf x ys).lastIndex = x.prev + x.n := by
  have := absOf_len hc
  simp only [absOf, AbsLog.lastIndex, List.length_append, Seg.n] at *
  omega

theorem append_refines {l : SegLog} (h : Inv l) (b : Bytes) :
    (∃ l', l.append b = .ok l' ∧ Inv l' ∧ abs l' = (abs l).snoc b) ∨
    (l.append b = .error .exceedsSegmentSize ∧ l.last.n = 0 ∧ l.last.available < (b.length : Int)) := by
  unfold SegLog.append
  by_cases hav : l.last.available < (b.length : Int)
  · by_cases hn : l.last.n = 0
    · right; simp [hav, hn]
    · left
      simp only [hav, hn, if_true, if_false]
      refine ⟨_, rfl, ?_, ?_⟩
      · rw [commit_eq h]
        refine ⟨?_, ?_, ?_⟩
        · apply append_ok (fresh_ok (by split <;> omega))
          simp [Seg.available, Seg.slotAt, Seg.fresh, Seg.size, Seg.n, dataSize]
          split <;> omega
        · have h3 := h.1.2.2
          refine ⟨?_, by simp; omega, by rw [sync_synced h3]; simp, sync_ok h.1, by simpa using h.2.1⟩
          simp [Seg.append, Seg.fresh, SegLog.lastIndex, Seg.lastIndex]
        · have := h.2.2
          simp only []
          split <;> omega
      · rw [commit_eq h]
        simp [abs_eq, AbsLog.snoc, Seg.append, Seg.fresh, chainPrev, absEntries]
  · left
    simp only [hav, if_false]
    refine ⟨_, rfl, ⟨append_ok h.1 (by omega), by simpa [Seg.append] using h.2.1, h.2.2⟩, ?_⟩
    simp [abs_eq, AbsLog.snoc, Seg.append]

theorem reset_refines {l : SegLog} (h : Inv l) (j : Nat) :
    Inv (l.reset j) ∧ abs (l.reset j) = AbsLog.reset j := by
  have := h.2.2
  refine ⟨⟨fresh_ok (by omega), by simp [SegLog.reset, Chain], h.2.2⟩, ?_⟩
  simp [abs_eq, SegLog.reset, AbsLog.reset, chainPrev, absEntries, Seg.fresh]

theorem closeOpen_refines {l : SegLog} (h : Inv l) {ss : Nat} (hs : 1024 ≤ ss) :
    Inv (l.closeOpen ss) ∧ abs (l.closeOpen ss) = abs l := by
  have hc := commit_inv h
  refine ⟨⟨hc.1, hc.2.1, hs⟩, ?_⟩
  have := commit_abs h
  simpa [abs_eq, SegLog.closeOpen] using this

theorem take_min_last (es : List Bytes) (i p : Nat) :
    es.take (min i (p + es.length + 1) - p - 1) = es.take (i - p - 1) := by
  by_cases h : i ≤ p + es.length + 1
  · rw [Nat.min_eq_left h]
  · rw [Nat.min_eq_right (by omega), List.take_of_length_le (by omega), List.take_of_length_le (by omega)]

theorem absRemoveGTE_gt {a : AbsLog} {i : Nat} (h : a.prev < i) :
    a.removeGTE i = { a with entries := a.entries.take (i - a.prev - 1) } := by
  rw [AbsLog.removeGTE, if_neg (by omega)]

theorem absRemoveGTE_le {a : AbsLog} {i : Nat} (h : i ≤ a.prev) : a.removeGTE i = ⟨i - 1, []⟩ := by
  rw [AbsLog.removeGTE, if_pos h]

/-- Cutting at `i` inside or just after the newest segment `s` touches only `s`. -/
theorem removeGTE_newest {s t : Seg} {older : List Seg} (hc : Chain s.prev older) {i : Nat}
    (hi : s.prev < i) (hp : t.prev = s.prev) (he : t.entries = s.entries.take (i - s.prev - 1)) :
    absOf t older = (absOf s older).removeGTE i := by
  obtain ⟨l1, l2⟩ := absOf_len hc
  have e : i - chainPrev s.prev older - 1 = (absEntries older).length + (i - s.prev - 1) := by omega
  rw [absRemoveGTE_gt (show chainPrev s.prev older < i by omega)]
  show (⟨_, _⟩ : AbsLog) = ⟨_, List.take (i - chainPrev s.prev older - 1) (absEntries older ++ s.entries)⟩
  rw [hp, he, e, List.take_append, List.take_of_length_le (l := absEntries older) (Nat.le_add_right _ _),
    Nat.add_sub_cancel_left]
  rfl

/-- Cutting at or below the start of the newest segment forgets it. -/
theorem removeGTE_older {s o : Seg} {os : List Seg} (hc : Chain s.prev (o :: os)) {i : Nat}
    (hi : i ≤ s.prev + 1) : (absOf s (o :: os)).removeGTE i = (absOf o os).removeGTE i := by
  obtain ⟨c1, _, _, _, c5⟩ := hc
  obtain ⟨l1, l2⟩ := absOf_len c5
  have e1 : i - chainPrev o.prev os - 1 ≤ (absEntries os ++ o.entries).length := by
    rw [List.length_append, l2]; show _ ≤ _ + o.n; omega
  by_cases h2 : i ≤ chainPrev o.prev os
  · rw [absRemoveGTE_le (show i ≤ (absOf s (o :: os)).prev from h2), absRemoveGTE_le (show i ≤ (absOf o os).prev from h2)]
  · rw [absRemoveGTE_gt (show (absOf s (o :: os)).prev < i from Nat.lt_of_not_le h2),
      absRemoveGTE_gt (show (absOf o os).prev < i from Nat.lt_of_not_le h2)]
    show (⟨_, List.take (i - chainPrev o.prev os - 1) ((absEntries os ++ o.entries) ++ s.entries)⟩ : AbsLog) = ⟨_, _⟩
    rw [List.take_append_of_le_length e1]; rfl

/-- `segment.removeGTE j` on the newest segment, for a `j` that cuts it where `i` does -/
theorem removeGTE_keep {s : Seg} {older : List Seg} (hs : SegOK s) (hc : Chain s.prev older) {i j : Nat}
    (hi : s.prev < i) (hj : s.entries.take (j - s.prev - 1) = s.entries.take (i - s.prev - 1)) :
    SegOK (s.removeGTE j) ∧ Chain (s.removeGTE j).prev older ∧
      absOf (s.removeGTE j) older = (absOf s older).removeGTE i :=
  ⟨removeGTE_ok hs _, by rw [removeGTE_prev]; exact hc,
    removeGTE_newest hc hi (removeGTE_prev _ _) (by rw [removeGTE_entries, hj])⟩

theorem rgte_spec (i ss : Nat) (hss : 16 ≤ ss) (older : List Seg) :
    ∀ (s : Seg), SegOK s → Chain s.prev older →
      SegOK (rgte i ss s older).1 ∧ Chain (rgte i ss s older).1.prev (rgte i ss s older).2 ∧
      absOf (rgte i ss s older).1 (rgte i ss s older).2 = (absOf s older).removeGTE i := by
  induction older with
  | nil =>
    intro s hs hc
    unfold rgte
    by_cases h1 : i ≤ s.prev + 1
    · by_cases h2 : i = s.prev + 1
      · rw [if_pos h1, if_pos h2]; exact removeGTE_keep hs hc (by omega) (by rw [h2])
      · rw [if_pos h1, if_neg h2]
        refine ⟨fresh_ok hss, trivial, ?_⟩
        simp [absOf, chainPrev, absEntries, AbsLog.removeGTE, Seg.fresh, show i ≤ s.prev by omega]
    · rw [if_neg h1]; exact removeGTE_keep hs hc (by omega) (take_min_last _ _ _)
  | cons o os ih =>
    intro s hs hc
    unfold rgte
    by_cases h1 : i ≤ s.prev + 1
    · rw [if_pos h1, removeGTE_older hc h1]; exact ih o hc.2.2.2.1 hc.2.2.2.2
    · rw [if_neg h1]; exact removeGTE_keep hs hc (by omega) (take_min_last _ _ _)

theorem removeGTE_refines {l : SegLog} (h : Inv l) (i : Nat) :
    Inv (l.removeGTE i) ∧ abs (l.removeGTE i) = (abs l).removeGTE i := by
  have hc := commit_inv h
  have := hc.2.2
  obtain ⟨r1, r2, r4⟩ := rgte_spec i l.commit.segmentSize (by omega) l.commit.older l.commit.last hc.1 hc.2.1
  exact ⟨⟨r1, r2, hc.2.2⟩, by rw [← commit_abs h, abs_eq l.commit, abs_eq]; exact r4⟩


theorem absEntries_append (a b : List Seg) : absEntries (a ++ b) = absEntries b ++ absEntries a := by
  induction a with
  | nil => simp [absEntries]
  | cons x xs ih => simp [absEntries, ih]

theorem chainPrev_append (p : Nat) (a b : List Seg) :
    chainPrev p (a ++ b) = chainPrev (chainPrev p a) b := by
  induction a generalizing p with
  | nil => rfl
  | cons x xs ih => simp [chainPrev, ih]

theorem chain_append {p : Nat} {a b : List Seg} (h : Chain p (a ++ b)) :
    Chain p a ∧ Chain (chainPrev p a) b := by
  induction a generalizing p with
  | nil => exact ⟨trivial, h⟩
  | cons x xs ih =>
    obtain ⟨h1, h2, h3, h4, h5⟩ := h
    have := ih h5
    exact ⟨⟨h1, h2, h3, h4, this.1⟩, this.2⟩

theorem dropOld_spec (i : Nat) (older : List Seg) :
    ∃ dropped, older = dropOld i older ++ dropped ∧ ∀ s ∈ dropped, 0 < s.n ∧ s.lastIndex ≤ i := by
  induction older with
  | nil => exact ⟨[], rfl, by simp⟩
  | cons s rest ih =>
    obtain ⟨dr, e, hd⟩ := ih
    unfold dropOld
    split
    · rename_i hnil
      rw [hnil] at e
      by_cases hc : s.n > 0 ∧ s.lastIndex ≤ i
      · refine ⟨s :: dr, by simp [hc, e], ?_⟩
        intro x hx
        rcases List.mem_cons.1 hx with rfl | hx
        · exact hc
        · exact hd x hx
      · exact ⟨dr, by simpa [hc] using e, hd⟩
    · rename_i o os hcons
      rw [hcons] at e
      exact ⟨dr, by rw [e]; simp, hd⟩

theorem canOld_eq (i : Nat) (older : List Seg) :
    canOld i older = match dropOld i older with
      | [] => none
      | k :: ks => some (chainPrev k.prev ks) := by
  induction older with
  | nil => rfl
  | cons s rest ih =>
    unfold canOld dropOld
    rw [ih]
    generalize dropOld i rest = d
    cases d with
    | nil => by_cases hc : s.n > 0 ∧ s.lastIndex ≤ i <;> simp [hc, chainPrev]
    | cons o os => simp [chainPrev]

theorem canLTE_eq (l : SegLog) (i : Nat) :
    l.canLTE i = chainPrev l.last.prev (dropOld i l.older) := by
  unfold SegLog.canLTE
  rw [canOld_eq]
  split <;> simp_all [chainPrev]

theorem lastD_mem (older : List Seg) (s : Seg) : lastD older s ∈ s :: older := by
  induction older generalizing s with
  | nil => simp [lastD]
  | cons a rest ih =>
    have := ih a
    simp [lastD] at this ⊢
    rcases this with h | h
    · exact Or.inr (Or.inl h)
    · exact Or.inr (Or.inr h)

theorem dropped_le {p i : Nat} {kept dropped : List Seg} (h : Chain p (kept ++ dropped))
    (hd : ∀ s ∈ dropped, 0 < s.n ∧ s.lastIndex ≤ i) : dropped = [] ∨ chainPrev p kept ≤ i := by
  cases dropped with
  | nil => exact Or.inl rfl
  | cons d ds =>
    right
    have := (chain_append h).2
    have hdi := (hd d (by simp)).2
    simp [Chain, Seg.lastIndex] at this hdi
    omega

theorem removeLTE_refines {l : SegLog} (h : Inv l) (i : Nat) :
    Inv (l.removeLTE i) ∧
    ∃ k, k ≤ (abs l).entries.length ∧ abs (l.removeLTE i) = (abs l).dropFront k ∧
      (l.removeLTE i).prevIndex = l.canLTE i ∧
      (k = 0 ∨ (l.removeLTE i).prevIndex ≤ i) ∧
      (l.removeLTE i).prevIndex ∈ l.segs.map (·.prev) := by
  have hc := commit_inv h
  have ha := commit_abs h
  have hce := commit_eq h
  obtain ⟨dr, e, hd⟩ := dropOld_spec i l.commit.older
  obtain ⟨kept, hk⟩ : ∃ kept, dropOld i l.commit.older = kept := ⟨_, rfl⟩
  rw [hk] at e
  have hR : l.removeLTE i = { l.commit with older := kept } := by simp [SegLog.removeLTE, hk]
  have holder : l.commit.older = l.older := by rw [hce]
  have hlastp : l.commit.last.prev = l.last.prev := by rw [hce]; simp
  have hch := hc.2.1
  rw [e] at hch
  obtain ⟨ck, cd⟩ := chain_append hch
  have hl := chain_len cd
  rw [hR]
  refine ⟨⟨hc.1, ck, hc.2.2⟩, (absEntries dr).length, ?_, ?_, ?_, ?_, ?_⟩
  · rw [← ha, abs_eq, e, absEntries_append]; simp
  · rw [← ha, abs_eq l.commit, abs_eq, e]
    simp only [AbsLog.dropFront, chainPrev_append, absEntries_append]
    congr 1
    · omega
    · rw [List.append_assoc, List.drop_left]
  · rw [prevIndex_eq, canLTE_eq, ← holder, hk, hlastp]
  · rcases dropped_le hch hd with hnil | hle
    · left; simp [hnil, absEntries]
    · right; rw [prevIndex_eq]; exact hle
  · have hm := lastD_mem kept l.commit.last
    have hsub : ∀ x ∈ l.commit.last :: kept, x.prev ∈ l.segs.map (·.prev) := by
      intro x hx
      rcases List.mem_cons.1 hx with rfl | hx
      · simp [SegLog.segs, hlastp]
      · have : x ∈ l.older := by rw [← holder, e]; exact List.mem_append_left _ hx
        simp [SegLog.segs]
        exact Or.inr ⟨x, this, rfl⟩
    exact hsub _ hm


/-- Entries of a list of segments given OLDEST first (the `s.next` direction). -/
def fwd : List Seg → List Bytes
  | [] => []
  | s :: rest => s.entries ++ fwd rest

def FCh : Seg → List Seg → Prop
  | _, [] => True
  | s, nx :: rest => nx.prev = s.prev + s.n ∧ 0 < s.n ∧ FCh nx rest

theorem findSeg_spec (i : Nat) (older : List Seg) :
    ∀ (s : Seg) (acc : List Seg), Chain s.prev older → FCh s acc →
      chainPrev s.prev older < i → i ≤ s.prev + s.n →
      ∃ seg nexts pre, findSeg i (s :: older) acc = some (seg, nexts) ∧ FCh seg nexts ∧
        seg.prev < i ∧ i ≤ seg.prev + seg.n ∧
        absEntries older ++ s.entries ++ fwd acc = pre ++ (seg.entries ++ fwd nexts) ∧
        chainPrev s.prev older + pre.length = seg.prev := by
  induction older with
  | nil =>
    intro s acc _ hf hp hi
    simp only [chainPrev] at hp
    exact ⟨s, acc, [], by simp [findSeg, hp], hf, hp, hi, by simp [absEntries], by simp [chainPrev]⟩
  | cons o os ih =>
    intro s acc hc hf hp hi
    by_cases h : i > s.prev
    · refine ⟨s, acc, absEntries (o :: os), by simp [findSeg, h], hf, h, hi, by simp, ?_⟩
      exact chain_len hc
    · obtain ⟨c1, c2, c3, c4, c5⟩ := hc
      obtain ⟨seg, nexts, pre, e1, e2, e3, e4, e5, e6⟩ :=
        ih o (s :: acc) c5 ⟨by omega, c2, hf⟩ hp (by omega)
      refine ⟨seg, nexts, pre, by rw [findSeg, if_neg h]; exact e1, e2, e3, e4, ?_, e6⟩
      simpa [absEntries, fwd, List.append_assoc] using e5

theorem flatten_take_one_drop (es : List Bytes) (a : Nat) (h : a < es.length) :
    ((es.drop a).take 1).flatten = es[a] := by
  rw [List.drop_eq_getElem_cons h]; simp [List.take]

theorem seg_get_one {s : Seg} {i : Nat} (h1 : s.prev < i) (h2 : i ≤ s.prev + s.n) :
    s.get i 1 = .ok (s.entries[i - s.prev - 1]'(by simp [Seg.n] at h2; omega)) := by
  unfold Seg.get
  rw [if_pos h1, if_pos (by omega)]
  rw [flatten_take_one_drop]

theorem drop_len_add {α} (pre X : List α) (a : Nat) :
    (pre ++ X).drop (pre.length + a) = X.drop a := by
  induction pre with
  | nil => simp
  | cons x xs ih => simp [Nat.add_right_comm]

theorem seg_get_ok {s : Seg} {i k : Nat} (h1 : s.prev < i) (h2 : (i - s.prev) + k ≤ s.n + 1) :
    s.get i k = .ok ((s.entries.drop (i - s.prev - 1)).take k).flatten := by
  unfold Seg.get
  rw [if_pos h1, if_pos h2]

theorem take_append_min {α} (n : Nat) (X F : List α) :
    (X ++ F).take n = X.take (min X.length n) ++ F.take (n - min X.length n) := by
  rw [List.take_append]
  by_cases h : X.length ≤ n
  · rw [Nat.min_eq_left h, List.take_of_length_le h, List.take_length]
  · rw [Nat.min_eq_right (by omega), Nat.sub_self, Nat.sub_eq_zero_of_le (by omega)]

theorem getNLoop_spec (nexts : List Seg) :
    ∀ (seg : Seg) (i n : Nat), FCh seg nexts → seg.prev < i → i ≤ seg.prev + seg.n + 1 → 0 < n →
      i + n ≤ seg.prev + (seg.entries ++ fwd nexts).length + 1 →
      ∃ chunks, getNLoop seg nexts i n = .ok chunks ∧
        chunks.flatten = (((seg.entries ++ fwd nexts).drop (i - seg.prev - 1)).take n).flatten := by
  induction nexts with
  | nil =>
    intro seg i n _ h1 h2 h3 h4
    simp only [fwd, List.append_nil] at h4 ⊢
    refine ⟨[_], by rw [getNLoop, seg_get_ok h1 (by simp [Seg.n]; omega)], by simp⟩
  | cons nx rest ih =>
    intro seg i n ⟨f1, f2, f3⟩ h1 h2 h3 h4
    -- `m` of the entries of `seg` from `i` on are read here, the other `n - m` from `nx` on
    have hXn : (seg.entries.drop (i - seg.prev - 1)).length + i = seg.prev + seg.n + 1 := by
      rw [List.length_drop]; show seg.n - _ + i = _; omega
    have hX : (seg.entries.drop (i - seg.prev - 1)).length = seg.lastIndex - (i - 1) := by
      unfold Seg.lastIndex; omega
    have hlen : (seg.entries ++ fwd (nx :: rest)).length = seg.n + (nx.entries ++ fwd rest).length :=
      List.length_append
    rw [List.drop_append_of_le_length (by show _ ≤ seg.n; omega), take_append_min, List.flatten_append,
      getNLoop, ← hX]
    generalize hm : min (seg.entries.drop (i - seg.prev - 1)).length n = m
    rw [seg_get_ok h1 (by omega)]
    dsimp only
    split
    · rename_i hgt
      obtain ⟨r, er, fr⟩ := ih nx (i + m) (n - m) f3 (by omega) (by omega) (by omega) (by omega)
      have e0 : i + m - nx.prev - 1 = 0 := by omega
      rw [er]
      exact ⟨_, rfl, by rw [List.flatten_cons, fr, e0]; rfl⟩
    · rename_i hle
      have e0 : n - m = 0 := by omega
      exact ⟨_, rfl, by rw [e0]; simp⟩

theorem findSeg_fst (j : Nat) (ss acc : List Seg) :
    (findSeg j ss acc).map (·.1) = ss.find? (fun s => decide (j > s.prev)) := by
  induction ss generalizing acc with
  | nil => rfl
  | cons x rest ih =>
    by_cases h : j > x.prev
    · simp [findSeg, h]
    · simp [findSeg, h, ih]

def Desc (ss : List Seg) : Prop := List.Pairwise (fun a b => a.prev > b.prev) ss

theorem chain_lt {p : Nat} {older : List Seg} (h : Chain p older) : ∀ x ∈ older, x.prev < p := by
  induction older generalizing p with
  | nil => simp
  | cons a rest ih =>
    obtain ⟨h1, h2, _, _, h5⟩ := h
    intro x hx
    rcases List.mem_cons.1 hx with rfl | hx
    · omega
    · have := ih h5 x hx; omega

theorem chain_desc {p : Nat} {older : List Seg} (h : Chain p older) : Desc older := by
  induction older generalizing p with
  | nil => exact List.Pairwise.nil
  | cons a rest ih =>
    exact List.Pairwise.cons (fun x hx => chain_lt h.2.2.2.2 x hx) (ih h.2.2.2.2)

theorem inv_desc {l : SegLog} (h : Inv l) : Desc l.segs :=
  List.Pairwise.cons (fun x hx => chain_lt h.2.1 x hx) (chain_desc h.2.1)

theorem chainPrev_le_mem {p : Nat} {older : List Seg} (h : Chain p older) :
    ∀ x ∈ older, chainPrev p older ≤ x.prev := by
  induction older generalizing p with
  | nil => simp
  | cons a rest ih =>
    intro x hx
    rcases List.mem_cons.1 hx with rfl | hx
    · exact chainPrev_le h.2.2.2.2
    · exact ih h.2.2.2.2 x hx

/-- What must stay true of the log for a view to keep reading correctly: the `first` pointer's
segment exists, the `last` pointer's is not older than it, and every segment newer than the `last`
pointer's starts at or after the view's end. -/
def ViewOK (v : View) (l : SegLog) : Prop :=
  (∃ x ∈ l.segs, x.prev = v.firstPrev) ∧ v.firstPrev ≤ v.p ∧ v.l ≤ l.lastIndex ∧
  match v.lastPrev with
  | none => v.l ≤ v.p
  | some lp => (v.p < v.l → v.firstPrev ≤ lp) ∧ ∀ x ∈ l.segs, x.prev > lp → v.l ≤ x.prev

theorem walkFirst_spec {p fp : Nat} {ss : List Seg} (h : walkFirst p ss = some fp) :
    (∃ x ∈ ss, x.prev = fp) ∧ fp ≤ p := by
  induction ss with
  | nil => simp [walkFirst] at h
  | cons x rest ih =>
    unfold walkFirst at h
    by_cases hx : p ≥ x.prev
    · simp [hx] at h; exact ⟨⟨x, by simp, h⟩, by omega⟩
    · simp [hx] at h
      obtain ⟨⟨y, hy, e⟩, hle⟩ := ih h
      exact ⟨⟨y, List.mem_cons_of_mem _ hy, e⟩, hle⟩

theorem find_first_ge {ss : List Seg} {l : Nat} {seg : Seg} (hd : Desc ss)
    (h : ss.find? (fun s => decide (l > s.prev)) = some seg) :
    seg ∈ ss ∧ l > seg.prev ∧ ∀ y ∈ ss, l > y.prev → y.prev ≤ seg.prev := by
  induction ss with
  | nil => simp at h
  | cons x rest ih =>
    have hdx := List.pairwise_cons.1 hd
    by_cases hx : l > x.prev
    · simp [List.find?, hx] at h
      subst h
      refine ⟨by simp, hx, ?_⟩
      intro y hy _
      rcases List.mem_cons.1 hy with rfl | hy
      · exact Nat.le_refl _
      · have := hdx.1 y hy; omega
    · simp [List.find?, hx] at h
      obtain ⟨i1, i2, i3⟩ := ih hdx.2 h
      refine ⟨List.mem_cons_of_mem _ i1, i2, ?_⟩
      intro y hy hly
      rcases List.mem_cons.1 hy with rfl | hy
      · omega
      · exact i3 y hy hly

theorem viewAt_ok {s : SegLog} (h : Inv s) {p l : Nat} {v : View}
    (hv : s.viewAt p l = .ok (some v)) : ViewOK v s ∧ v.p = p ∧ v.l = l := by
  unfold SegLog.viewAt at hv
  by_cases h1 : l > s.lastIndex
  · simp [h1] at hv
  · by_cases h2 : p > l ∨ p < s.prevIndex
    · simp [h1, h2] at hv
    · simp only [h1, h2, if_false] at hv
      cases hw : walkFirst p s.segs with
      | none => simp [hw] at hv
      | some fp =>
        simp only [hw] at hv
        obtain ⟨hm, hle⟩ := walkFirst_spec hw
        unfold segmentOf at hv
        simp only [h1, if_false] at hv
        by_cases h3 : l ≤ s.prevIndex
        · simp [h3] at hv
          subst hv
          refine ⟨⟨hm, hle, by simpa using h1, ?_⟩, rfl, rfl⟩
          simp; omega
        · simp only [h3, if_false] at hv
          have hf := findSeg_fst l s.segs []
          cases hfs : findSeg l s.segs [] with
          | none =>
            rw [hfs] at hv
            simp at hv
            subst hv
            refine ⟨⟨hm, hle, by simpa using h1, ?_⟩, rfl, rfl⟩
            -- impossible branch: some segment has prev < l
            exfalso
            rw [hfs] at hf
            have hf' := List.find?_eq_none.1 hf.symm
            have := hf' (lastD s.older s.last) (lastD_mem _ _)
            simp at this
            simp [SegLog.prevIndex, SegLog.first] at h3
            omega
          | some sa =>
            rw [hfs] at hv hf
            simp at hv
            subst hv
            obtain ⟨y, hy, ey⟩ := hm
            obtain ⟨_, _, m3⟩ := find_first_ge (inv_desc h) hf.symm
            refine ⟨⟨⟨y, hy, ey⟩, hle, by simpa using h1, fun hpl => ?_, fun x hx hgt => ?_⟩, rfl, rfl⟩
            · have hpl' : p < l := hpl
              have : y.prev ≤ sa.1.prev := m3 y hy (by omega)
              show fp ≤ sa.1.prev
              omega
            · have hgt' : x.prev > sa.1.prev := hgt
              exact Nat.le_of_not_lt fun hlt => by
                have : x.prev ≤ sa.1.prev := m3 x hx hlt
                omega

def Op.appendish : Op → Bool
  | .append _ => true
  | .commitN _ => true
  | .commit => true
  | _ => false

theorem appendish_valid {op : Op} (ha : op.appendish = true) : op.valid := by
  cases op <;> simp [Op.appendish] at ha <;> trivial

theorem op_inv {s : SegLog} (h : Inv s) {op : Op} (hv : op.valid) : Inv (s.run [op]) := by
  cases op with
  | append b =>
    simp only [SegLog.run, SegLog.apply]
    rcases append_refines h b with ⟨l', e, hi, _⟩ | ⟨e, _, _⟩
    · rw [e]; exact hi
    · rw [e]; exact h
  | commitN n => exact commitN_inv h n
  | commit => exact commit_inv h
  | removeLTE i => exact (removeLTE_refines h i).1
  | removeGTE i => exact (removeGTE_refines h i).1
  | reset j => exact (reset_refines h j).1
  | closeOpen ss => exact (closeOpen_refines h hv).1

theorem run_cons (s : SegLog) (op : Op) (ops : List Op) : s.run (op :: ops) = (s.run [op]).run ops := by
  simp only [SegLog.run]
  cases s.apply op <;> rfl

/-- What appends and commits do to the chain, segments being identified by `prev`: every segment
stays, anything new starts at or after the old end, and the log ends no earlier.  This is all a
view needs of the writer. -/
def Grew (s s' : SegLog) : Prop :=
  (∀ x ∈ s'.segs, (∃ y ∈ s.segs, y.prev = x.prev) ∨ s.lastIndex ≤ x.prev) ∧
  (∀ y ∈ s.segs, ∃ x ∈ s'.segs, x.prev = y.prev) ∧ s.lastIndex ≤ s'.lastIndex

theorem grew_refl (s : SegLog) : Grew s s :=
  ⟨fun x hx => Or.inl ⟨x, hx, rfl⟩, fun y hy => ⟨y, hy, rfl⟩, Nat.le_refl _⟩

theorem grew_trans {a b c : SegLog} (h1 : Grew a b) (h2 : Grew b c) : Grew a c := by
  refine ⟨fun x hx => ?_, fun y hy => ?_, Nat.le_trans h1.2.2 h2.2.2⟩
  · rcases h2.1 x hx with ⟨y, hy, e⟩ | hge
    · rcases h1.1 y hy with ⟨z, hz, e'⟩ | hge
      · exact Or.inl ⟨z, hz, e'.trans e⟩
      · exact Or.inr (e ▸ hge)
    · exact Or.inr (Nat.le_trans h1.2.2 hge)
  · obtain ⟨x, hx, e⟩ := h1.2.1 y hy
    obtain ⟨z, hz, e'⟩ := h2.2.1 x hx
    exact ⟨z, hz, e'.trans e⟩

/-- The last segment is replaced by one with the same `prev` that ends no earlier (sync, append). -/
theorem grew_last {s : SegLog} {t : Seg} (hp : t.prev = s.last.prev) (hl : s.last.lastIndex ≤ t.lastIndex) :
    Grew s { s with last := t } := by
  refine ⟨fun x hx => Or.inl ?_, fun y hy => ?_, hl⟩
  · rcases List.mem_cons.1 hx with rfl | hx
    · exact ⟨s.last, List.mem_cons_self, hp.symm⟩
    · exact ⟨x, List.mem_cons_of_mem _ hx, rfl⟩
  · rcases List.mem_cons.1 hy with rfl | hy
    · exact ⟨t, List.mem_cons_self, hp⟩
    · exact ⟨y, List.mem_cons_of_mem _ hy, rfl⟩

/-- A new segment starting at the old end is put on top of the synced chain (append that rolls). -/
theorem grew_roll {s : SegLog} {t : Seg} (ss : Nat) (hp : t.prev = s.lastIndex) :
    Grew s { last := t, older := s.last.sync :: s.older, segmentSize := ss } := by
  refine ⟨fun x hx => ?_, fun y hy => ?_, ?_⟩
  · rcases List.mem_cons.1 hx with rfl | hx
    · exact Or.inr (Nat.le_of_eq hp.symm)
    · rcases List.mem_cons.1 hx with rfl | hx
      · exact Or.inl ⟨s.last, List.mem_cons_self, (sync_prev _).symm⟩
      · exact Or.inl ⟨x, List.mem_cons_of_mem _ hx, rfl⟩
  · rcases List.mem_cons.1 hy with rfl | hy
    · exact ⟨s.last.sync, List.mem_cons_of_mem _ List.mem_cons_self, sync_prev _⟩
    · exact ⟨y, List.mem_cons_of_mem _ (List.mem_cons_of_mem _ hy), rfl⟩
  · show s.lastIndex ≤ t.prev + t.n
    omega

theorem grew_commitN {s : SegLog} (h : Inv s) (n : Nat) : Grew s (s.commitN n) := by
  rcases commitN_shape h n with e | e <;> rw [e]
  · exact grew_refl s
  · exact grew_last (sync_prev _) (by simp [Seg.lastIndex])

theorem grew_op {s : SegLog} (h : Inv s) {op : Op} (ha : op.appendish = true) : Grew s (s.run [op]) := by
  cases op with
  | append b =>
    simp only [SegLog.run, SegLog.apply, SegLog.append]
    by_cases hav : s.last.available < (b.length : Int)
    · by_cases hn : s.last.n = 0
      · simp only [hav, hn, if_true]; exact grew_refl s
      · simp only [hav, hn, if_true, if_false]
        rw [commit_eq h]
        exact grew_roll _ (by simp [Seg.append, Seg.fresh, SegLog.lastIndex, Seg.lastIndex])
    · simp only [hav, if_false]
      exact grew_last rfl (by simp [Seg.lastIndex, Seg.append, Seg.n])
  | commitN n => exact grew_commitN h n
  | commit => exact grew_commitN h _
  | removeLTE i => simp [Op.appendish] at ha
  | removeGTE i => simp [Op.appendish] at ha
  | reset j => simp [Op.appendish] at ha
  | closeOpen ss => simp [Op.appendish] at ha

theorem viewOK_mono {v : View} {s s' : SegLog} (hv : ViewOK v s) (g : Grew s s') : ViewOK v s' := by
  obtain ⟨h1, h2, h3⟩ := g
  obtain ⟨⟨y, hy, e⟩, hfp, hl, hlp⟩ := hv
  obtain ⟨x, hx, ex⟩ := h2 y hy
  refine ⟨⟨x, hx, by omega⟩, hfp, by omega, ?_⟩
  cases hlpv : v.lastPrev with
  | none => rw [hlpv] at hlp; exact hlp
  | some lp =>
    rw [hlpv] at hlp
    refine ⟨hlp.1, fun z hz hgt => ?_⟩
    rcases h1 z hz with ⟨w, hw, ew⟩ | hge
    · have := hlp.2 w hw (by omega); omega
    · omega

theorem abs_appendish {s : SegLog} (h : Inv s) {op : Op} (ha : op.appendish = true) :
    ∃ extra, abs (s.run [op]) = { abs s with entries := (abs s).entries ++ extra } := by
  cases op with
  | append b =>
    simp only [SegLog.run, SegLog.apply]
    rcases append_refines h b with ⟨l', e, _, ea⟩ | ⟨e, _, _⟩ <;> rw [e]
    · exact ⟨[b], ea⟩
    · exact ⟨[], by simp⟩
  | commitN n => exact ⟨[], by simp [SegLog.run, SegLog.apply, commitN_abs h]⟩
  | commit => exact ⟨[], by simp [SegLog.run, SegLog.apply, commit_abs h]⟩
  | removeLTE i => simp [Op.appendish] at ha
  | removeGTE i => simp [Op.appendish] at ha
  | reset j => simp [Op.appendish] at ha
  | closeOpen ss => simp [Op.appendish] at ha

theorem run_appendish {s : SegLog} (h : Inv s) (ops : List Op) (ha : ∀ op ∈ ops, op.appendish = true) :
    Inv (s.run ops) ∧ Grew s (s.run ops) ∧
    ∃ extra, abs (s.run ops) = { abs s with entries := (abs s).entries ++ extra } := by
  induction ops generalizing s with
  | nil => exact ⟨h, grew_refl s, [], by simp [SegLog.run]⟩
  | cons op ops ih =>
    have hop := ha op (by simp)
    obtain ⟨r1, r2, extra, r3⟩ := ih (op_inv h (appendish_valid hop))
      (fun o ho => ha o (List.mem_cons_of_mem _ ho))
    obtain ⟨extra0, e⟩ := abs_appendish h hop
    rw [run_cons]
    exact ⟨r1, grew_trans (grew_op h hop) r2, extra0 ++ extra, by rw [r3, e]; simp⟩

theorem getN_one (a : AbsLog) (j : Nat) : a.getN j 1 = a.get j := by
  unfold AbsLog.getN AbsLog.get
  by_cases h1 : j > a.lastIndex
  · rw [if_pos (Or.inr ⟨by omega, by omega⟩), if_pos h1]
  · rw [if_neg (by omega), if_neg h1, if_neg h1]
    by_cases h2 : j ≤ a.prev
    · rw [if_pos h2, if_pos h2]
    · have hlt : j - a.prev - 1 < a.entries.length := by simp only [AbsLog.lastIndex] at h1; omega
      rw [if_neg h2, if_neg h2, flatten_take_one_drop _ _ hlt, List.getElem?_eq_getElem hlt]

theorem getN_ok {a : AbsLog} {i n : Nat} (hi : a.prev < i) (hn : 0 < n) (hl : i + (n - 1) ≤ a.lastIndex) :
    a.getN i n = .ok ((a.entries.drop (i - a.prev - 1)).take n).flatten := by
  unfold AbsLog.getN
  rw [if_neg (by omega), if_neg (by omega), if_neg (by omega)]

/-- `w` is a contiguous piece of `a` sitting at the right indices. -/
def Window (w a : AbsLog) : Prop :=
  ∃ A T, a.entries = A ++ w.entries ++ T ∧ w.prev = a.prev + A.length

theorem Window.getN {w a : AbsLog} (hw : Window w a) {i n : Nat} (hi : w.prev < i) (hn : 0 < n)
    (hl : i + (n - 1) ≤ w.lastIndex) : w.getN i n = a.getN i n := by
  obtain ⟨A, T, e, ep⟩ := hw
  have hlen := congrArg List.length e
  simp only [List.length_append] at hlen
  have hk : i - a.prev - 1 = A.length + (i - w.prev - 1) := by omega
  have hwl : w.lastIndex = w.prev + w.entries.length := rfl
  have hal : a.lastIndex = a.prev + a.entries.length := rfl
  rw [getN_ok hi hn hl, getN_ok (by omega) hn (by omega), e, hk, List.append_assoc, drop_len_add,
    List.drop_append_of_le_length (by omega),
    List.take_append_of_le_length (by rw [List.length_drop]; omega)]

theorem Window.get {w a : AbsLog} (hw : Window w a) {j : Nat} (h1 : w.prev < j) (h2 : j ≤ w.lastIndex) :
    w.get j = a.get j := by
  rw [← getN_one, ← getN_one, Window.getN hw h1 Nat.one_pos h2]

theorem window_extend (a : AbsLog) (extra : List Bytes) :
    Window a { a with entries := a.entries ++ extra } := ⟨[], extra, by simp, by simp⟩

theorem prevIndex_le_mem {s : SegLog} (h : Inv s) {x : Seg} (hx : x ∈ s.segs) : s.prevIndex ≤ x.prev := by
  rw [prevIndex_eq]
  rcases List.mem_cons.1 hx with rfl | hx
  · exact chainPrev_le h.2.1
  · exact chainPrev_le_mem h.2.1 x hx

end Raft.SL
