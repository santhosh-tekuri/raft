/-
The guarded closure framework (Lemmas/SnapDelayG1.lean) through the handlers of
`Node.step` (the walk of Lemmas/StepWalk.lean, without the unguarded replacement of the leader record).

`StepClosedG Inv` = `ClosedG Inv` and the primitives of the other handlers (as in `StepClosed`).  `leader.init` REPLACES
the leader record (bound `log.prev`, empty replication table): that the predicate holds after it is a hypothesis
(`hinit`) of `step_inv`, not a guarded update; `handle_inv` does not need it.
NOT covered, because they are the updates the guards exclude — they are treated separately in Lemmas/SnapDelayG3.lean:
* `onSnapshotTaken` (sets `ldr.removeLTE`), `shutdown` (hands a pending snapshot over);
* the loop of `checkReplUpdates` (a `removeLTE` report sets `status.removeLTE`); `checkReplUpdates_inv` is proved FROM a
  given fact about the loop.
`handle_inv` / `step_inv`: every operation except `.snapTaken`, `.replUpdates`, `.shutdown` (`FOp`).
-/
import RaftVerif.Lemmas.SnapDelayG1

namespace Raft
namespace Node

structure StepClosedG (Inv : Node → Prop) : Prop extends ClosedG Inv where
  begin : ∀ (s : Node) ra (ord : List (List Nat)), Inv s → Inv (s.begin ra ord)
  rpcReply : ∀ (s : Node) r, Inv s → Inv (s.withRpcReply r)
  ret : ∀ (s : Node) r, Inv s → Inv (s.ret r)
  setRole : ∀ (s : Node) r, Inv s → Inv (s.setRole r)
  setLeader : ∀ (s : Node) l, Inv s → Inv (s.setLeader l)
  doClose : ∀ (s : Node) r, Inv s → Inv (s.doClose r)
  setTerm : ∀ (s : Node) t, Inv s → Inv (s.setTerm t)
  /-- `setVotedFor` entering a higher term (vote requests, the self vote of `startElection`) -/
  voteNewTerm : ∀ (s : Node) t c, Inv s → t > s.term → Inv (s.setVotedFor t c)
  /-- `setVotedFor` granting the vote in the current term while no vote was cast yet -/
  voteGrant : ∀ (s : Node) c, Inv s → s.votedFor = 0 → Inv (s.setVotedFor s.term c)
  votesNeeded : ∀ (s : Node) v, Inv s → Inv (s.withVotesNeeded v)
  candTransfer : ∀ (s : Node) v, Inv s → Inv (s.withCandTransfer v)
  removeGTE : ∀ (s : Node) i pt, Inv s →
    Inv { s with log := s.log.removeGTE i, lastLogIndex := i - 1, lastLogTerm := pt }
  removeLTE : ∀ (s : Node) i, Inv s → Inv { s with log := s.log.removeLTE i }
  clearLog : ∀ (s : Node), Inv s →
    Inv { s with log := NLog.reset s.snapIndex, lastLogIndex := s.snapIndex, lastLogTerm := s.snapTerm }
  revertConfig : ∀ (s : Node), Inv s → Inv s.revertConfig
  commitConfig : ∀ (s : Node), Inv s → Inv s.commitConfig
  publishSnapshot : ∀ (s : Node) f, Inv s → Inv (s.publishSnapshot f)
  /-- `onInstallSnapRequest` sets the commit index to the new snapshot index, which is above it -/
  installCommit : ∀ (s : Node), Inv s → s.snapIndex > s.commitIndex → Inv (s.withCommitIndex s.snapIndex)
  snapPending : ∀ (s : Node) v, Inv s → Inv (s.withSnapPending v)
  snapResult : ∀ (s : Node) v, Inv s → Inv (s.withSnapResult v)
  bootstrapLast : ∀ (s : Node) i t, Inv s → Inv (s.withLast i t)

namespace StepClosedG

variable {Inv : Node → Prop} (h : StepClosedG Inv)
include h

omit h in
def caps : Caps := { Caps.all with reports := False }

theorem clearLog_inv (s : Node) (hs : Inv s) : Inv s.clearLog := by
  unfold Node.clearLog; exact h.point _ _ (h.clearLog _ hs)

theorem toGuardedStep : GuardedStep caps Inv where
  toGuarded := h.toClosedG.toGuarded
  ldrT := fun _ s l hs e1 e2 => h.ldrK s l hs e1 e2
  ldrAny := fun hc => hc.elim
  appendAny := h.toClosedG.appendEntry_inv
  rpcReply := h.rpcReply
  ret := h.ret
  setRole := fun s r hs _ _ => h.setRole s r hs
  setLeader := h.setLeader
  doClose := fun _ => h.doClose
  setTerm := fun s t hs _ => h.setTerm s t hs
  voteNewTerm := fun s t v hs ht _ => h.voteNewTerm s t v hs ht
  voteGrant := h.voteGrant
  votesNeeded := fun _ => h.votesNeeded
  termDown := fun s t hs _ => h.setRole _ _ (h.setTerm s t hs)
  bootTerm := fun _ s hs => h.setTerm s 1 hs
  bootRole := fun _ s hs => h.setRole s _ hs
  candTransfer := h.candTransfer
  removeGTE := fun s i pt hs _ _ _ => h.removeGTE s i pt hs
  removeLTE := fun _ => h.removeLTE
  revertConfig := h.revertConfig
  commitConfig := fun _ => h.commitConfig
  installCore := fun _ s f hs _ =>
    fsmRestore_of h.panic h.fsm _ (h.clearLog_inv _ (h.publishSnapshot s f hs))
  installCommit := fun _ => h.installCommit
  snapRun := fun s hs _ => snapRun_of h.snapPending h.snapResult h.publishSnapshot s hs
  snapPending := h.snapPending
  snapResult := fun _ => h.snapResult
  bootstrapLast := fun _ => h.bootstrapLast

theorem checkConfigAction_inv (f : Nat) (s : Node) (t c id) (hs : Inv s) : Inv (checkConfigAction f s t c id) :=
  (h.toClosedG.block f).2.2.2.2.2.1 s t c id hs

/-- `checkReplUpdates` after its loop: `onMajorityCommit`, `checkQuorum`, the compaction (which does not touch the leader
record) and `tryTransfer` — given the predicate after the loop -/
theorem checkReplUpdates_inv (s : Node) (us : List ReplUpdate) (hL : Inv (replUpdLoop s {} us).1) :
    Inv (s.checkReplUpdates us) :=
  h.toGuardedStep.toAt.checkReplUpdates_rest trivial s us (fun _ => trivial) hL

omit h in
/-- the operations whose handlers update the leader record under the guards only -/
def FOp : Op → Prop
  | .snapTaken => False
  | .replUpdates _ => False
  | .shutdown => False
  | _ => True

omit h in
theorem opOk (s : Node) {op : Op} (hop : FOp op) : caps.Ok s op := by
  cases op <;> first | exact hop.elim | trivial | exact Or.inr trivial | exact fun _ => trivial | skip
  case install q => exact Or.inr ⟨trivial, trivial⟩

theorem handle_inv (s : Node) (op : Op) (hop : FOp op) (hs : Inv s) : Inv (s.handle op) :=
  h.toGuardedStep.handle_inv s op (opOk s hop) hs

theorem step_inv (hinit : ∀ s : Node, Inv s → Inv s.leaderInit) (s : Node) (op : Op) (ra : List Nat)
    (ord : List (List Nat)) (hop : FOp op) (hs : Inv s) : Inv (s.step op ra ord) :=
  h.toGuardedStep.step_inv trivial trivial hinit s op ra ord (opOk _ hop) (h.begin s ra ord hs)

end StepClosedG
end Node
end Raft
