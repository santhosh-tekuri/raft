/-
The follower's append handler in stages: the consistency check by cases (`appendCheck_cases`; `Looked`: the node after the
lookup of the previous entry, with why a failure was recorded; `Answer`: why it answers as it does), the entry loop as a rule
with four cases (`appendLoop_rec`: stop, pass over an entry held, store and go on, store an undecodable configuration
entry and stop) with what storing an entry does to the node, and the handler as their composition (`onAppendEntries_stages`);
before them, what `resolveConflict` does to the log (`C02.resolveConflict_log`); at the end, the install handler after the
same prefix (`installPre`, `onInstallSnap_eq`).
-/
import RaftVerif.Lemmas.Shape

namespace Raft

namespace C02
open Node

/-- what `resolveConflict` does to the log: nothing, unless the node holds an entry at `ne.index`, in
which case exactly `removeGTE ne.index`. Snapshot and commit index are untouched. -/
theorem resolveConflict_log (s : Node) (ne : Entry) (pt : Nat) :
    ((s.resolveConflict ne pt).snapIndex = s.snapIndex ∧ (s.resolveConflict ne pt).commitIndex = s.commitIndex) ∧
    (((s.resolveConflict ne pt).log = s.log ∧ ¬ (ne.index ≤ s.lastLogIndex ∧ ∃ t, s.entryTerm? ne.index = some t)) ∨
     (∃ t, ne.index ≤ s.lastLogIndex ∧ s.entryTerm? ne.index = some t ∧
        (s.resolveConflict ne pt).log = s.log.removeGTE ne.index)) := by
  unfold Node.resolveConflict
  split
  · rename_i hle
    split
    · rename_i hn
      rw [panic_shape]
      refine ⟨⟨rfl, rfl⟩, Or.inl ⟨rfl, ?_⟩⟩
      intro ⟨_, t, ht⟩; rw [hn] at ht; cases ht
    · rename_i t ht
      dsimp only
      split
      · exact ⟨⟨rfl, rfl⟩, Or.inr ⟨t, hle, ht, rfl⟩⟩
      · exact ⟨⟨rfl, rfl⟩, Or.inr ⟨t, hle, ht, rfl⟩⟩
  · rename_i hle
    exact ⟨⟨rfl, rfl⟩, Or.inl ⟨rfl, fun h => hle h.1⟩⟩

end C02

namespace Node

theorem appendEntry_log (s : Node) (e : Entry) : ∃ roll, (s.appendEntry e).log = s.log.append e roll := by
  unfold Node.appendEntry
  dsimp only
  exact ⟨_, by rw [assert_shape]⟩

/-- `ne` is passed over: the snapshot covers it, or the log holds it with the same term -/
def Held (s : Node) (ne : Entry) : Prop :=
  ne.index ≤ s.snapIndex ∨ (ne.index ≤ s.lastLogIndex ∧ s.entryTerm? ne.index = some ne.term)

/-- the node after `ne` was stored: conflict resolved, entry appended -/
def stored (st : AppLoop) (ne : Entry) : Node := (st.s.resolveConflict ne st.term).appendEntry ne

/-- the node the loop goes on with after storing `ne`: `stored`, with the configuration of a configuration entry -/
def Next (st : AppLoop) (ne : Entry) (y : Node) : Prop :=
  (ne.typ ≠ etConfig ∧ y = stored st ne) ∨ ∃ c, ne.config? = some c ∧ y = (stored st ne).changeConfigR c

/-- **the entry loop**: it stops (no entry left, or a decode error earlier), passes over an entry it holds,
stores an entry and goes on, or stores an undecodable configuration entry and stops with `err`. -/
theorem appendLoop_rec {M : AppLoop → List Entry → AppLoop → Prop}
    (stop : ∀ st es, es = [] ∨ st.err = true → M st es st)
    (skip : ∀ st ne rest r, st.err = false → Held st.s ne →
      M ⟨st.s, ne.index, ne.term, st.syncLog, st.err⟩ rest r → M st (ne :: rest) r)
    (store : ∀ st ne rest y r, st.err = false → ¬ Held st.s ne → Next st ne y →
      M ⟨y, ne.index, ne.term, true, st.err⟩ rest r → M st (ne :: rest) r)
    (bad : ∀ st ne rest, st.err = false → ¬ Held st.s ne → ne.typ = etConfig → ne.config? = none →
      M st (ne :: rest) ⟨stored st ne, ne.index, ne.term, true, true⟩)
    (st : AppLoop) (es : List Entry) : M st es (appendLoop st es) := by
  induction es generalizing st with
  | nil => exact stop st [] (Or.inl rfl)
  | cons ne rest ih =>
    unfold appendLoop
    refine ite_ind (P := M st (ne :: rest)) (fun he => stop _ _ (Or.inr he)) fun he => ?_
    have he : st.err = false := by simpa using he
    dsimp only
    refine ite_ind (P := M st (ne :: rest)) (fun h => skip _ _ _ _ he (Or.inl h) (ih _)) fun hsn => ?_
    refine ite_ind (P := M st (ne :: rest)) (fun h => skip _ _ _ _ he (Or.inr (by simpa using h)) (ih _)) fun hp => ?_
    have hn : ¬ Held st.s ne := fun h => h.elim hsn fun h => hp (by simpa using h)
    refine ite_ind (P := M st (ne :: rest)) (fun ht => ?_) fun ht => store _ _ _ _ _ he hn (Or.inl ⟨ht, rfl⟩) (ih _)
    split
    · rename_i c hc; exact store _ _ _ _ _ he hn (Or.inr ⟨c, hc, rfl⟩) (ih _)
    · rename_i hc; exact bad _ _ _ he hn ht hc

/-- what storing an entry does to the log: a truncation at `ne.index` if the node holds another entry there, and the
append; snapshot and commit index stay -/
theorem stored_log (st : AppLoop) (ne : Entry) (hn : ¬ Held st.s ne) :
    ∃ roll, (stored st ne).log = st.s.log.append ne roll ∨
      ∃ t, ne.index ≤ st.s.lastLogIndex ∧ st.s.entryTerm? ne.index = some t ∧ t ≠ ne.term ∧
        (stored st ne).log = (st.s.log.removeGTE ne.index).append ne roll := by
  obtain ⟨_, hr⟩ := C02.resolveConflict_log st.s ne st.term
  obtain ⟨roll, a1⟩ := appendEntry_log (st.s.resolveConflict ne st.term) ne
  refine ⟨roll, ?_⟩
  unfold stored
  rw [a1]
  rcases hr with ⟨e, _⟩ | ⟨t, hle, ht, e⟩ <;> rw [e]
  · exact Or.inl rfl
  · exact Or.inr ⟨t, hle, ht, fun h => hn (Or.inr ⟨hle, h ▸ ht⟩), rfl⟩

theorem stored_fields (st : AppLoop) (ne : Entry) :
    (stored st ne).lastLogIndex = ne.index ∧ (stored st ne).snapIndex = st.s.snapIndex ∧
    (stored st ne).commitIndex = st.s.commitIndex := by
  obtain ⟨⟨r1, r2⟩, _⟩ := C02.resolveConflict_log st.s ne st.term
  unfold stored
  rw [appendEntry_shape]
  exact ⟨rfl, r1, r2⟩

theorem Next.fields {st : AppLoop} {ne : Entry} {y : Node} (h : Next st ne y) :
    y.log = (stored st ne).log ∧ y.lastLogIndex = ne.index ∧ y.snapIndex = st.s.snapIndex ∧
    y.commitIndex = st.s.commitIndex := by
  have base := stored_fields st ne
  rcases h with ⟨_, rfl⟩ | ⟨c, _, rfl⟩
  · exact ⟨rfl, base⟩
  · rw [changeConfigR_shape]; exact ⟨rfl, base⟩

/-- the common instance: a predicate of the node that storing an entry and adopting a configuration keep -/
theorem appendLoop_keeps {Inv : Node → Prop}
    (store : ∀ st ne, ¬ Held st.s ne → Inv st.s → Inv (stored st ne))
    (cfg : ∀ s c, Inv s → Inv (s.changeConfigR c)) (st : AppLoop) (es : List Entry) (hs : Inv st.s) :
    Inv (appendLoop st es).s :=
  appendLoop_rec (M := fun st _ r => Inv st.s → Inv r.s) (fun _ _ _ h => h) (fun _ _ _ _ _ _ ih => ih)
    (fun st ne _ _ _ _ hn hy ih hs => ih (by
      rcases hy with ⟨_, rfl⟩ | ⟨c, _, rfl⟩
      · exact store st ne hn hs
      · exact cfg _ c (store st ne hn hs)))
    (fun st ne _ _ hn _ _ hs => store st ne hn hs) st es hs

/-- the node after `appendCheck` has looked up the previous entry: `s` itself, or — the log does not hold the entry though its
index lies inside it — `s` with that failure recorded -/
inductive Looked (s : Node) (q : AppendReq) : Node → Prop
  | found : Looked s q s
  | missing : s.snapIndex < q.prevLogIndex → q.prevLogIndex < s.lastLogIndex → s.entryTerm? q.prevLogIndex = none →
      Looked s q (s.panic "bug.mustGetEntry")

theorem Looked.eq {s x : Node} {q : AppendReq} (h : Looked s q x) : x = s ∨ x = s.panic "bug.mustGetEntry" := by
  cases h
  · exact Or.inl rfl
  · exact Or.inr rfl

/-- why `appendCheck` answers `r` without moving the commit index -/
inductive Answer (s : Node) (q : AppendReq) : Nat → Prop
  | covered : q.prevLogIndex ≤ s.snapIndex → Answer s q 0
  | notFound : s.lastLogIndex < q.prevLogIndex → Answer s q rPrevEntryNotFound
  | mismatch : s.snapIndex < q.prevLogIndex → q.prevLogIndex ≤ s.lastLogIndex →
      q.prevLogTerm ≠ (if q.prevLogIndex = s.lastLogIndex then s.lastLogTerm else (s.entryTerm? q.prevLogIndex).getD 0) →
      Answer s q rPrevTermMismatch
  | matched : s.snapIndex < q.prevLogIndex → q.prevLogIndex ≤ s.lastLogIndex →
      q.prevLogTerm = (if q.prevLogIndex = s.lastLogIndex then s.lastLogTerm else (s.entryTerm? q.prevLogIndex).getD 0) →
      Answer s q 0

theorem Answer.result {s : Node} {q : AppendReq} {r : Nat} (h : Answer s q r) :
    r = 0 ∨ r = rPrevEntryNotFound ∨ r = rPrevTermMismatch := by
  cases h
  · exact .inl rfl
  · exact .inr (.inl rfl)
  · exact .inr (.inr rfl)
  · exact .inl rfl

/-- the request goes on (`result = 0`) only if the previous entry is covered by the snapshot or lies inside the log -/
theorem Answer.inside {s : Node} {q : AppendReq} {r : Nat} (h : Answer s q r) (hr : r = 0) :
    q.prevLogIndex ≤ s.snapIndex ∨ q.prevLogIndex ≤ s.lastLogIndex := by
  cases h with
  | covered h => exact Or.inl h
  | notFound _ => cases hr
  | mismatch _ h _ => exact Or.inr h
  | matched _ h _ => exact Or.inr h

/-- **`appendCheck`**: it answers (having at most recorded a failed lookup of the previous entry), or — the previous
entry verified against the log and `canCommit` holding for it — moves the commit index there and applies. -/
theorem appendCheck_cases (s : Node) (q : AppendReq) {P : Node → Prop}
    (plain : ∀ x r, Looked s q x → Answer s q r → P (x.ret r))
    (commit : ∀ x, Looked s q x → s.snapIndex < q.prevLogIndex → q.prevLogIndex ≤ s.lastLogIndex →
      q.prevLogTerm = (if q.prevLogIndex = s.lastLogIndex then s.lastLogTerm else (s.entryTerm? q.prevLogIndex).getD 0) →
      s.canCommit q q.prevLogIndex q.prevLogTerm = true →
      P (((x.setCommitIndexR q.prevLogIndex).1.applyCommitted).ret 0)) :
    P (s.appendCheck q) := by
  unfold Node.appendCheck
  refine ite_ind (fun hsn => ?_) fun h => plain s _ .found (.covered (Nat.le_of_not_lt h))
  refine ite_ind (fun h => plain s _ .found (.notFound h)) fun hle => ?_
  have hle := Nat.le_of_not_lt hle
  extract_lets s1 plt
  have e1 : Looked s q s1 := by
    refine ite_ind (P := Looked s q) (fun _ => .found) fun hne => ?_
    split
    · exact .found
    · exact .missing hsn (Nat.lt_of_le_of_ne hle hne) ‹_›
  have e2 : s1.commitIndex = s.commitIndex ∧ s1.lastLogIndex = s.lastLogIndex ∧ s1.lastLogTerm = s.lastLogTerm ∧
      s1.log = s.log := by
    rcases e1.eq with e | e <;> rw [e]
    · exact ⟨rfl, rfl, rfl, rfl⟩
    · rw [panic_shape]; exact ⟨rfl, rfl, rfl, rfl⟩
  have e3 : s1.canCommit q q.prevLogIndex q.prevLogTerm = s.canCommit q q.prevLogIndex q.prevLogTerm := by
    unfold Node.canCommit; rw [e2.1]
  have e4 : plt = (if q.prevLogIndex = s.lastLogIndex then s.lastLogTerm else (s.entryTerm? q.prevLogIndex).getD 0) := by
    unfold plt Node.entryTerm?
    rw [e2.2.1, e2.2.2.1, e2.2.2.2]
  clear_value s1 plt
  refine ite_ind (fun hterm => plain _ _ e1 (.mismatch hsn hle (e4 ▸ hterm))) fun hterm => ?_
  have hterm : q.prevLogTerm = _ := e4 ▸ Classical.byContradiction hterm
  exact ite_ind (fun hcc => commit _ e1 hsn hle hterm (e3 ▸ hcc)) fun _ => plain _ _ e1 (.matched hsn hle hterm)

/-- the common prefix of the two follower handlers (`onAppendEntries`, `onInstallSnap`): adopt a newer term, become
follower, record the leader. `installPre s q` is `followPre s q.term q.src`. -/
def followPre (s : Node) (term src : Nat) : Node :=
  ((if term > s.term then (s.setTerm term).setRole .follower else s).setRole .follower).setLeader src

theorem followPre_commitIndex (s : Node) (term src : Nat) : (followPre s term src).commitIndex = s.commitIndex := by
  unfold followPre Node.setLeader Node.setRole
  show (if term > s.term then _ else s : Node).commitIndex = _
  refine ite_ind (P := fun y : Node => y.commitIndex = s.commitIndex) (fun _ => ?_) fun _ => rfl
  show (s.setTerm term).commitIndex = _
  rw [setTerm_shape]

/-- what `onAppendEntries` does after the entry loop: flush, and move the commit index under `canCommit` -/
def afterLoop (q : AppendReq) (st : AppLoop) : Node :=
  (if !q.entries.isEmpty ∧ st.syncLog then
      if (st.s.commitLog st.s.lastLogIndex).canCommit q st.index st.term then
        ((st.s.commitLog st.s.lastLogIndex).setCommitIndexR st.index).1.applyCommitted
      else st.s.commitLog st.s.lastLogIndex
    else st.s).ret (if st.err then rUnexpectedErr else rSuccess)

theorem onAppendEntries_stages (s : Node) (q : AppendReq) :
    s.onAppendEntries q =
      if q.term < s.term then s.ret rStaleTerm
      else if ((followPre s q.term q.src).appendCheck q).result ≠ 0 then (followPre s q.term q.src).appendCheck q
      else afterLoop q (appendLoop ⟨(followPre s q.term q.src).appendCheck q, q.prevLogIndex, q.prevLogTerm, false, false⟩
        q.entries) := by
  unfold Node.onAppendEntries followPre afterLoop
  split
  · rfl
  · rfl

/-- The common prefix of `onInstallSnapRequest` once the term check passed: adopt the term, become
follower, record the leader. -/
def installPre (s : Node) (q : InstallReq) : Node :=
  ((if q.term > s.term then (s.setTerm q.term).setRole .follower else s).setRole .follower).setLeader q.src

theorem onInstallSnap_eq (s : Node) (q : InstallReq) :
    s.onInstallSnap q =
      if q.term < s.term then s.ret rStaleTerm
      else if q.lastIndex ≤ (installPre s q).commitIndex then (installPre s q).ret rSuccess
      else if ((installPre s q).log.contains q.lastIndex &&
                ((installPre s q).entryTerm? q.lastIndex == some q.lastTerm)) = true
      then (installPre s q).ret rSuccess
      else
        let p := (installPre s q).publishSnapshot
          { index := q.lastIndex, term := q.lastTerm, config := q.lastConfig, data := q.data }
        (((p.clearLog.fsmRestore.withCommitIndex p.clearLog.fsmRestore.snapIndex).changeConfigR
                q.lastConfig).commitConfig).ret rSuccess := by
  unfold Node.onInstallSnap installPre
  split
  · rfl
  · rfl

end Node
end Raft
