/-
`leader.setCommitIndex` and `onMajorityCommit`, each unfolded once.
-/
import RaftVerif.Lemmas.LocalA

namespace Raft
namespace Node

/-- what follows `commitLog` and `Raft.setCommitIndex` in `leader.setCommitIndex` (configuration actions, the answers to
`waitForStable`) keeps every `Closed` predicate: a fact about the whole call is a fact about those two updates. -/
theorem Closed.setCommitIndexL_tail {Inv : Node → Prop} (hc : Closed Inv) (fuel : Nat) (s : Node) (i : Nat)
    (h : Inv ((s.commitLog i).setCommitIndexR i).1) : Inv (setCommitIndexL (fuel + 1) s i) := by
  unfold setCommitIndexL
  extract_lets s1 ready r s2 s3
  have h3 : Inv s3 := by
    unfold s3; split
    · exact hc.checkConfigActions_inv _ _ _ _ h
    · exact h
  split
  · split
    · exact hc.ldr _ _ (Guarded.foldl_inv _ (fun s t hs => hc.reply _ _ _ hs) _ _ h3)
    · exact hc.checkConfigActions_inv _ _ _ _ h3
  · exact h3

/-- `onMajorityCommit` with budget left: the guard read on the state it was called on (the recorded nil dereference
changes neither the commit index nor the leader record) -/
theorem onMajorityCommit_succ (fuel : Nat) (s : Node) :
    onMajorityCommit (fuel + 1) s =
      if s.majorityMatchIndex.1 > s.commitIndex ∧ s.majorityMatchIndex.1 ≥ s.ldr.startIndex then
        ((setCommitIndexL fuel (if s.majorityMatchIndex.2 then s else s.panic "nil.majorityMatchIndex")
          s.majorityMatchIndex.1).applyCommittedL).notifyFlr
      else if s.majorityMatchIndex.2 then s else s.panic "nil.majorityMatchIndex" := by
  unfold onMajorityCommit
  dsimp only
  have e : (if s.majorityMatchIndex.2 then s else s.panic "nil.majorityMatchIndex").commitIndex = s.commitIndex ∧
      (if s.majorityMatchIndex.2 then s else s.panic "nil.majorityMatchIndex").ldr = s.ldr := by
    split
    · exact ⟨rfl, rfl⟩
    · rw [panic_shape]; exact ⟨rfl, rfl⟩
  rw [e.1, e.2]

end Node
end Raft
