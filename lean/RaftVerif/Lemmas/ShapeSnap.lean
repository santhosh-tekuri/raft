/-
What `onSnapshotTaken` writes, in the style of `Lemmas/Shape.lean`: the relation `SnapTakenFrame s x` (`x` is `s` but for
the fields the handler writes, with the one crash point of a compaction), closed under the parts of the handler.
-/
import RaftVerif.Lemmas.Shape

namespace Raft
namespace Node

/-- `x` differs from `s` at most in what `onSnapshotTaken` writes: the result of the snapshot task and the reply to it,
`ldr.removeLTE`, a panic, and the log, compacted at most once, with the crash point that goes with it -/
structure SnapTakenFrame (s x : Node) : Prop where
  shape : x = { s with snapResult := x.snapResult, replies := x.replies, log := x.log, trace := x.trace,
                       ldr := { s.ldr with removeLTE := x.ldr.removeLTE }, panicked := x.panicked }
  disk : (x.log = s.log ∧ x.trace = s.trace) ∨
    x.trace = s.trace ++ [("compactLog", { s.durable with log := x.log.durable })]

namespace SnapTakenFrame
variable {s x : Node}

theorem clear (s : Node) : SnapTakenFrame s (s.withSnapResult none) := ⟨rfl, Or.inl ⟨rfl, rfl⟩⟩

theorem reply (h : SnapTakenFrame s x) (t : Nat) (r : String) : SnapTakenFrame s (x.reply t r) := by
  rw [reply_shape]
  exact ⟨by rw [h.shape], h.disk⟩

theorem notifyFlr (h : SnapTakenFrame s x) : SnapTakenFrame s x.notifyFlr := by
  rw [notifyFlr_shape]
  exact ⟨by rw [h.shape], h.disk⟩

theorem removeLTE (h : SnapTakenFrame s x) (v : Nat) : SnapTakenFrame s (x.withLdr { x.ldr with removeLTE := v }) :=
  ⟨by rw [h.shape]; rfl, h.disk⟩

theorem compactLog (s : Node) (i : Nat) : SnapTakenFrame s ((s.withSnapResult none).compactLog i) :=
  ⟨rfl, Or.inr rfl⟩

/-- the last part of the handler: note up to where the log may be compacted once the followers have caught up -/
theorem note (h : SnapTakenFrame s x) (a b : Nat) :
    SnapTakenFrame s
      (if b > a then (x.withLdr { x.ldr with removeLTE := b }).notifyFlr
       else if x.role = .leader ∧ x.ldr.removeLTE < x.log.prev then
         (x.withLdr { x.ldr with removeLTE := x.log.prev }).notifyFlr
       else x) :=
  ite_ind (fun _ => (h.removeLTE b).notifyFlr) fun _ => ite_ind (fun _ => (h.removeLTE _).notifyFlr) fun _ => h

end SnapTakenFrame

theorem onSnapshotTaken_frame (s : Node) : SnapTakenFrame s s.onSnapshotTaken := by
  unfold onSnapshotTaken
  split
  · exact ⟨rfl, Or.inl ⟨rfl, rfl⟩⟩
  · dsimp only
    refine ite_ind (fun _ => (SnapTakenFrame.clear s).reply _ _) fun _ => SnapTakenFrame.reply ?_ _ _
    refine ite_ind (fun _ => SnapTakenFrame.note ?_ _ _) fun _ => SnapTakenFrame.clear s
    exact ite_ind (fun _ => SnapTakenFrame.compactLog s _) fun _ => SnapTakenFrame.clear s

/-- `onSnapshotTaken` by cases: no result waits; the task is answered at once (the snapshot failed, or its index has left
the log); or the log is compacted up to `canLTE a` where that moves its start (`y` is the state then) and `canLTE b` is
noted as the bound for later. `a` and `b` (the smallest match index among the replications, among those in contact)
are at most the index of the snapshot, and `a` is at most the match index of every replication of a leader. -/
theorem onSnapshotTaken_cases {motive : Node → Prop} (s : Node) (idle : s.snapResult = none → motive s)
    (answer : ∀ rs, s.snapResult = some rs →
      motive ((s.withSnapResult none).reply rs.task (if rs.err ≠ "" then rs.err else s!"u64:{rs.index}")))
    (compact : ∀ rs a b y, s.snapResult = some rs → rs.err = "" → a ≤ rs.index → b ≤ rs.index →
      (s.role = .leader → ∀ r ∈ s.ldr.repls, a ≤ r.matchIndex) →
      (y = s.withSnapResult none ∨ s.log.canLTE a > s.log.prev ∧ y = (s.withSnapResult none).compactLog (s.log.canLTE a)) →
      motive ((if s.log.canLTE b > s.log.canLTE a then (y.withLdr { y.ldr with removeLTE := s.log.canLTE b }).notifyFlr
        else if y.role = .leader ∧ y.ldr.removeLTE < y.log.prev then
          (y.withLdr { y.ldr with removeLTE := y.log.prev }).notifyFlr
        else y).reply rs.task s!"u64:{rs.index}")) :
    motive s.onSnapshotTaken := by
  unfold onSnapshotTaken
  split
  · rename_i hr; exact idle hr
  · rename_i rs hr
    dsimp only
    refine ite_ind (fun he => ?_) fun he => ?_
    · have := answer rs hr
      rw [if_pos he] at this
      exact this
    · have he' : rs.err = "" := Decidable.not_not.mp he
      refine ite_ind (P := fun z : Node => motive (z.reply _ _)) (fun _ => ?_) fun _ => ?_
      · refine compact rs _ _ _ hr he' (foldl_le_init _ (fun m r => by split <;> omega) _ _)
          (foldl_le_init _ (fun m r => by split <;> omega) _ _) (fun hl r hm => ?_) ?_
        · rw [show (if (s.withSnapResult none).role = .leader then (s.withSnapResult none).ldr.repls else []) = s.ldr.repls
            from if_pos hl]
          exact foldl_min_le _ _ r hm
        exact ite_ind (P := fun z : Node => z = s.withSnapResult none ∨ _ ∧ z = _) (fun h => Or.inr ⟨h, rfl⟩)
          fun _ => Or.inl rfl
      · have := answer rs hr
        rw [if_neg he] at this
        exact this

end Node
end Raft
