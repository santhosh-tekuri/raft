/-
* `Closed`-only versions of the invariant lemmas for the handlers of the mutually recursive leader block and for the
  leader-side handlers outside it (`onTransfer`, `replyTransfer`, `onTimeoutNowResult`, `leaderInit`, `onChangeConfig`):
  these handlers use only the primitives of `Closed` (no role change, truncation, compaction), so an
  invariant that is NOT `StepClosed` (e.g. "the log only grew") still survives them (instances of the lemmas
  of `Guarded`, Lemmas/StepWalk.lean).
* field frames of the small primitives (`panic`, `reply`, `assert`).
* `FsmFrame proj`: a projection of the state that the work of the FSM goroutine (`fsmApply`) leaves alone.
* `addReplies`: `reply`, and a fold of `reply`, as one update of `replies`.
-/
import RaftVerif.Lemmas.StepInv

namespace Raft
namespace Node
namespace Closed

variable {Inv : Node → Prop} (h : Closed Inv)
include h

theorem storeEntry_inv (f : Nat) (s : Node) (b) (hs : Inv s) : Inv (storeEntry f s b) := (h.toGuarded.block f).storeEntry s b hs
theorem storeItems_inv (f : Nat) (s : Node) (b) (hs : Inv s) : Inv (storeItems f s b) := (h.toGuarded.block f).storeItems s b hs
theorem changeConfigL_inv (f : Nat) (s : Node) (c) (hs : Inv s) : Inv (changeConfigL f s c) :=
  (h.toGuarded.block f).changeConfigL s c hs
theorem doChangeConfig_inv (f : Nat) (s : Node) (t c) (hs : Inv s) : Inv (doChangeConfig f s t c) :=
  (h.toGuarded.block f).doChangeConfig s t c hs
theorem checkConfigActions_inv (f : Nat) (s : Node) (t c) (hs : Inv s) : Inv (checkConfigActions f s t c) :=
  (h.toGuarded.block f).checkConfigActions s t c hs
theorem checkConfigAction_inv (f : Nat) (s : Node) (t c id) (hs : Inv s) : Inv (checkConfigAction f s t c id) :=
  (h.toGuarded.block f).checkConfigAction s t c id hs
theorem setCommitIndexL_inv' (f : Nat) (s : Node) (i) (hs : Inv s) (hi : i > s.commitIndex) :
    Inv (setCommitIndexL f s i) := (h.toGuarded.block f).setCommitIndexL s i hs hi
theorem onMajorityCommit_inv (f : Nat) (s : Node) (hs : Inv s) : Inv (onMajorityCommit f s) :=
  (h.toGuarded.block f).onMajorityCommit s hs

theorem tryTransfer_inv (s : Node) (hs : Inv s) : Inv s.tryTransfer :=
  h.toGuarded.tryTransfer_of (fun s l hs _ _ => h.ldr s l hs) s hs

theorem onTransfer_inv (s : Node) (t g : Nat) (hs : Inv s) : Inv (s.onTransfer t g) :=
  h.toGuarded.onTransfer_of (fun s l hs _ _ => h.ldr s l hs) s t g hs

theorem replyTransfer_inv (s : Node) (r : String) (hs : Inv s) : Inv (s.replyTransfer r) :=
  h.toGuarded.replyTransfer_of (fun s l hs _ _ => h.ldr s l hs) s r hs

theorem onTimeoutNowResult_inv (s : Node) (src : Nat) (e : Bool) (r : Nat) (hs : Inv s) :
    Inv (s.onTimeoutNowResult src e r) :=
  h.toGuarded.onTimeoutNowResult_of (fun s l hs _ _ => h.ldr s l hs) s src e r hs

theorem leaderInit_inv (s : Node) (hs : Inv s) : Inv s.leaderInit := h.toGuarded.leaderInit_of h.ldr s hs

theorem onChangeConfig_inv (s : Node) (t : Nat) (c : Config) (hs : Inv s) : Inv (s.onChangeConfig t c) :=
  h.toGuarded.onChangeConfig_inv s t c hs

theorem onWaitForStable_inv (s : Node) (t : Nat) (hs : Inv s) : Inv (s.onWaitForStable t) :=
  h.toGuarded.onWaitForStable_inv s t hs

end Closed

theorem panic_panicked_ne (s : Node) (site : String) : (s.panic site).panicked ≠ none := by
  unfold Node.panic
  split
  · simp
  · rename_i hn; intro he; rw [he] at hn; exact hn rfl

theorem reply_replies (s : Node) (t : Nat) (r : String) (ht : t ≠ 0) :
    (s.reply t r).replies = s.replies ++ [{ task := t, result := r }] := by
  unfold Node.reply; rw [if_neg ht]

theorem reply_zero (s : Node) (r : String) : s.reply 0 r = s := by
  unfold Node.reply; rw [if_pos rfl]


theorem panic_fields (s : Node) (site : String) :
    (s.panic site).log = s.log ∧ (s.panic site).lastLogIndex = s.lastLogIndex ∧
    (s.panic site).snapIndex = s.snapIndex ∧ (s.panic site).commitIndex = s.commitIndex ∧
    (s.panic site).fsm = s.fsm ∧ (s.panic site).replies = s.replies ∧ (s.panic site).ldr = s.ldr ∧
    (s.panic site).configs = s.configs := by
  rw [panic_shape]; exact ⟨rfl, rfl, rfl, rfl, rfl, rfl, rfl, rfl⟩

theorem assert_fields (s : Node) (b : Bool) (site : String) :
    (s.assert b site).log = s.log ∧ (s.assert b site).lastLogIndex = s.lastLogIndex ∧
    (s.assert b site).snapIndex = s.snapIndex ∧ (s.assert b site).commitIndex = s.commitIndex ∧
    (s.assert b site).fsm = s.fsm ∧ (s.assert b site).replies = s.replies ∧ (s.assert b site).ldr = s.ldr ∧
    (s.assert b site).configs = s.configs := by
  rw [assert_shape]; exact ⟨rfl, rfl, rfl, rfl, rfl, rfl, rfl, rfl⟩

theorem reply_fields (s : Node) (t : Nat) (r : String) :
    (s.reply t r).log = s.log ∧ (s.reply t r).lastLogIndex = s.lastLogIndex ∧
    (s.reply t r).snapIndex = s.snapIndex ∧ (s.reply t r).commitIndex = s.commitIndex ∧
    (s.reply t r).fsm = s.fsm ∧ (s.reply t r).panicked = s.panicked ∧ (s.reply t r).ldr = s.ldr ∧
    (s.reply t r).configs = s.configs := by
  rw [reply_shape]; exact ⟨rfl, rfl, rfl, rfl, rfl, rfl, rfl, rfl⟩

/-- `proj` is untouched by the three primitives `fsmApply` is built from -/
structure FsmFrame {α : Type} (proj : Node → α) : Prop where
  panic : ∀ s site, proj (s.panic site) = proj s
  reply : ∀ s t r, proj (s.reply t r) = proj s
  fsm : ∀ (s : Node) f, proj (s.withFsm f) = proj s

namespace FsmFrame
variable {α : Type} {proj : Node → α} (h : FsmFrame proj)
include h

/-- the predicates `proj · = a` follow the three primitives: the lemmas of Lemmas/StepWalk.lean apply to them -/
theorem panic_inv {a : α} (x : Node) (site : String) (hx : proj x = a) : proj (x.panic site) = a := (h.panic x site).trans hx
theorem reply_inv {a : α} (x : Node) (t : Nat) (r : String) (hx : proj x = a) : proj (x.reply t r) = a :=
  (h.reply x t r).trans hx
theorem fsm_inv {a : α} (x : Node) (f : Fsm) (hx : proj x = a) : proj (x.withFsm f) = a := (h.fsm x f).trans hx

theorem assert_eq (s : Node) (b : Bool) (site : String) : proj (s.assert b site) = proj s :=
  assert_of (Inv := (proj · = proj s)) h.panic_inv s b site rfl

theorem fsmApplyLogTo_eq (s : Node) (n : Nat) : proj (s.fsmApplyLogTo n) = proj s :=
  fsmApplyLogTo_of (Inv := (proj · = proj s)) h.panic_inv h.fsm_inv s n rfl

theorem fsmApplyItems_eq (s : Node) (qs : List QItem) : proj (s.fsmApplyItems qs) = proj s :=
  fsmApplyItems_of (Inv := (proj · = proj s)) h.panic_inv h.fsm_inv h.reply_inv s qs rfl

theorem fsmApply_eq (s : Node) (qs : List QItem) : proj (s.fsmApply qs) = proj s :=
  fsmApply_of (Inv := (proj · = proj s)) h.panic_inv (fsmApplyLogTo_of h.panic_inv h.fsm_inv)
    (fsmApplyItems_of h.panic_inv h.fsm_inv h.reply_inv) s qs rfl

theorem applyCommitted_eq (s : Node) : proj s.applyCommitted = proj s := h.fsmApply_eq s []

end FsmFrame

theorem fsmFrame_commitIndex : FsmFrame (·.commitIndex) :=
  ⟨fun s site => (panic_fields s site).2.2.2.1, fun s t r => (reply_fields s t r).2.2.2.1, fun _ _ => rfl⟩
theorem fsmFrame_log : FsmFrame (·.log) :=
  ⟨fun s site => (panic_fields s site).1, fun s t r => (reply_fields s t r).1, fun _ _ => rfl⟩
theorem fsmFrame_lastLogIndex : FsmFrame (·.lastLogIndex) :=
  ⟨fun s site => (panic_fields s site).2.1, fun s t r => (reply_fields s t r).2.1, fun _ _ => rfl⟩
theorem fsmFrame_ldr : FsmFrame (·.ldr) :=
  ⟨fun s site => (panic_fields s site).2.2.2.2.2.2.1, fun s t r => (reply_fields s t r).2.2.2.2.2.2.1, fun _ _ => rfl⟩
theorem fsmFrame_configs : FsmFrame (·.configs) :=
  ⟨fun s site => (panic_fields s site).2.2.2.2.2.2.2, fun s t r => (reply_fields s t r).2.2.2.2.2.2.2, fun _ _ => rfl⟩

def addReplies (s : Node) (rs : List Reply) : Node := { s with replies := s.replies ++ rs }

/-- the completion `reply` records: none for the null task -/
def mkReply? (t : Nat) (r : String) : List Reply := if t = 0 then [] else [{ task := t, result := r }]

theorem addReplies_nil (s : Node) : s.addReplies [] = s := by
  unfold addReplies; simp

theorem addReplies_addReplies (s : Node) (a b : List Reply) : (s.addReplies a).addReplies b = s.addReplies (a ++ b) := by
  unfold addReplies; simp [List.append_assoc]

theorem reply_eq_addReplies (s : Node) (t : Nat) (r : String) : s.reply t r = s.addReplies (mkReply? t r) := by
  unfold Node.reply mkReply?
  split
  · exact (addReplies_nil s).symm
  · rfl

theorem foldl_reply_eq {β : Type} (f : β → Nat) (g : β → String) (xs : List β) (s : Node) :
    xs.foldl (fun s x => s.reply (f x) (g x)) s = s.addReplies (xs.flatMap (fun x => mkReply? (f x) (g x))) := by
  induction xs generalizing s with
  | nil => exact (addReplies_nil s).symm
  | cons x xs ih =>
    simp only [List.foldl_cons, List.flatMap_cons]
    rw [ih, reply_eq_addReplies, addReplies_addReplies]

theorem mem_flatMap_mkReply? {β : Type} (f : β → Nat) (g : β → String) (xs : List β) (x : β) (hx : x ∈ xs)
    (h0 : f x ≠ 0) : ({ task := f x, result := g x } : Reply) ∈ xs.flatMap (fun x => mkReply? (f x) (g x)) := by
  apply List.mem_flatMap.mpr
  exact ⟨x, hx, by unfold mkReply?; rw [if_neg h0]; exact List.mem_singleton.mpr rfl⟩

theorem flatMap_mkReply?_tasks {β : Type} (f : β → Nat) (g : β → String) (xs : List β) :
    (xs.flatMap (fun x => mkReply? (f x) (g x))).map (·.task) = (xs.map f).filter (· ≠ 0) := by
  induction xs with
  | nil => rfl
  | cons x xs ih =>
    simp only [List.flatMap_cons, List.map_append, List.map_cons, List.filter_cons, ih]
    unfold mkReply?
    by_cases h : f x = 0 <;> simp [h]

end Node
end Raft
