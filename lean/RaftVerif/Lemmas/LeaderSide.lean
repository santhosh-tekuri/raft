/-
The handlers a leader runs AROUND the mutually recursive block — `transfer.reply`, `tryTransfer`, `replyTransfer`,
`onTimeoutNowResult`, the loop over the replication reports and `checkReplUpdates` — walked for a predicate that is
known only through
* the updates these handlers perform themselves, each as its call sites perform it, and
* what the block's functions do to it WHEN CALLED ON THE NODE'S LATEST CONFIGURATION, which is the only way these
  handlers call them.
So a predicate whose fate in the block depends on the configuration ARGUMENT (`MemberGood.K`, `One.VF`), or that the block
preserves for a reason of its own (`TransferMember.Frozen`: nothing is appended while a transfer is in progress), is an
instance; the records of Lemmas/StepWalk.lean ask for closure under every update of the block instead, and use the same
walks (the `_of` lemmas here: each from exactly the updates the handler makes).
`settle_of`, `step_of`: in the same way the role transitions after the handler, given what `leader.init` does.
-/
import RaftVerif.Lemmas.ShapeLeader

namespace Raft
namespace Node

/-- A predicate through four of the eight leader calls (`LdrCall`): the transfer timeout, the answer to `timeoutNow`, the
new-term timeout and the replication reports. Not covered: `onTransfer`, which starts a transfer (the guard of `transfer`
forbids a record NEWLY in progress), and the calls that enter the block with an argument of their own (`storeEntry`,
`onChangeConfig` — `onChangeConfig_of` below —, `onWaitForStable`). -/
structure LeaderSide (P : Node → Prop) : Prop where
  panic : ∀ s site, P s → P (s.panic site)
  reply : ∀ s t r, P s → P (s.reply t r)
  popOrder : ∀ (s : Node), P s → P s.popOrder
  /-- the transfer record is replaced by one that is not NEWLY in progress -/
  transfer : ∀ (s : Node) tr, P s → (tr.active = true → s.ldr.transfer.active = true) →
    P (s.withLdr { s.ldr with transfer := tr })
  /-- the status found under `id` is replaced by one with its id, configuration entry and round -/
  report : ∀ (s : Node) st r id, P s → s.findRepl? id = some st → r.id = st.id → r.node = st.node → r.round = st.round →
    P (s.setRepl r)
  /-- a replication reports a higher term -/
  stepDown : ∀ (s : Node) t, P s → P (((s.setRole .follower).setLeader 0).setTerm t)
  checkQuorum : ∀ (s : Node), P s → P s.checkQuorum
  checkConfigAction : ∀ f (s : Node) t id, P s → P (checkConfigAction f s t s.configs.latest id)
  checkConfigActions : ∀ f (s : Node) t, P s → P (checkConfigActions f s t s.configs.latest)
  onMajorityCommit : ∀ f (s : Node), P s → P (onMajorityCommit f s)

/-! The walks, each from exactly the updates the handler makes (`transfer`, `report` as in `LeaderSide`; `cas`, `ca`, `mc`:
the block's functions on the latest configuration). -/
section
variable {P : Node → Prop} (transfer : ∀ (s : Node) tr, P s → (tr.active = true → s.ldr.transfer.active = true) →
    P (s.withLdr { s.ldr with transfer := tr }))
include transfer

theorem transferReply_of (reply : ∀ s t r, P s → P (s.reply t r)) (s : Node) (r : String) (hs : P s) :
    P (s.transferReply r) := by
  unfold Node.transferReply
  exact transfer _ {} (reply _ _ _ hs) (fun e => by cases e)

theorem tryTransfer_of (panic : ∀ s site, P s → P (s.panic site)) (popOrder : ∀ (s : Node), P s → P s.popOrder)
    (s : Node) (hs : P s) : P s.tryTransfer := by
  unfold Node.tryTransfer
  extract_lets r s1 s2
  have h1 : P s1 := ite_ind (fun _ => popOrder s hs) fun _ => hs
  clear_value s1
  have h2 : P s2 := ite_ind (fun _ => panic _ _ h1) fun _ => h1
  clear_value s2
  exact ite_ind (fun _ => transfer _ _ h2 id) fun _ => h2

theorem replyTransfer_of (reply : ∀ s t r, P s → P (s.reply t r))
    (cas : ∀ f (s : Node) t, P s → P (checkConfigActions f s t s.configs.latest)) (s : Node) (r : String) (hs : P s) :
    P (s.replyTransfer r) := by
  unfold Node.replyTransfer
  exact cas _ _ _ (transferReply_of transfer reply s r hs)

/-- `noContact`: the status found under `id` is marked unreachable -/
theorem onTimeoutNowResult_of (panic : ∀ s site, P s → P (s.panic site)) (reply : ∀ s t r, P s → P (s.reply t r))
    (popOrder : ∀ (s : Node), P s → P s.popOrder)
    (noContact : ∀ (s : Node) st id, P s → s.findRepl? id = some st → P (s.setRepl { st with noContact := true }))
    (cas : ∀ f (s : Node) t, P s → P (checkConfigActions f s t s.configs.latest))
    (s : Node) (src : Nat) (e : Bool) (r : Nat) (hs : P s) : P (s.onTimeoutNowResult src e r) := by
  unfold Node.onTimeoutNowResult
  extract_lets l0 t0 s1 s2 l1 t1
  have h1 : P s1 := transfer s _ hs id
  have h2 : P s2 := by
    unfold s2
    split
    · rename_i st hf
      exact ite_ind (fun _ => noContact s1 st src h1 hf) fun _ => h1
    · exact panic _ _ h1
  split
  · exact ite_ind (fun _ => tryTransfer_of transfer panic popOrder _ h2) fun _ => h2
  · split
    · exact ite_ind (fun _ => replyTransfer_of transfer reply cas _ _ h1) fun _ =>
        tryTransfer_of transfer panic popOrder _ h1
    · exact transfer s1 _ h1 id

end

section
variable {P : Node → Prop}

theorem replUpdLoop_of (report : ∀ (s : Node) st r id, P s → s.findRepl? id = some st → r.id = st.id → r.node = st.node →
      r.round = st.round → P (s.setRepl r))
    (stepDown : ∀ (s : Node) t, P s → P (((s.setRole .follower).setLeader 0).setTerm t))
    (ca : ∀ f (s : Node) id, P s → P (checkConfigAction f s 0 s.configs.latest id))
    (us : List ReplUpdate) : ∀ (s : Node) (f : UpdFlags), P s → P (replUpdLoop s f us).1 := by
  induction us with
  | nil => intro s f hs; exact hs
  | cons u us ih =>
    intro s f hs
    unfold Node.replUpdLoop
    split
    · exact ih s f hs
    · split
      · exact ih s f hs
      · rename_i st hf
        split
        · rename_i v _
          dsimp only
          have h1 := report s st { st with matchIndex := v } u.id hs hf rfl rfl rfl
          exact ih _ _ (ite_ind (fun _ => ca _ _ _ h1) fun _ => h1)
        · exact ih _ _ (report s st _ u.id hs hf rfl rfl rfl)
        · exact ih _ _ (report s st _ u.id hs hf rfl rfl rfl)
        · exact stepDown _ _ hs

/-- `checkReplUpdates` after its loop; `compact`: asked for only if a replication reported that it no longer needs a part
of the log -/
theorem checkReplUpdates_of (mc : ∀ f (s : Node), P s → P (onMajorityCommit f s)) (checkQuorum : ∀ (s : Node), P s → P s.checkQuorum)
    (tryTransfer : ∀ (s : Node), P s → P s.tryTransfer) (s : Node) (us : List ReplUpdate)
    (compact : (Node.replUpdLoop s {} us).2.removeLTEU = true → ∀ x : Node, P x → P x.checkLogCompact)
    (h0 : P (Node.replUpdLoop s {} us).1) : P (s.checkReplUpdates us) := by
  unfold Node.checkReplUpdates
  extract_lets r s0 f s1 s2 s3
  refine ite_ind (fun _ => h0) fun _ => ?_
  have h1 : P s1 := ite_ind (fun _ => mc _ _ h0) fun _ => h0
  have h2 : P s2 := ite_ind (fun _ => checkQuorum _ h1) fun _ => h1
  have h3 : P s3 := ite_ind (fun hf => compact hf.1 _ h2) fun _ => h2
  exact ite_ind (fun _ => tryTransfer _ h3) fun _ => h3

/-- `cas`, `dc`: the block's functions on the SUBMITTED configuration -/
theorem onChangeConfig_of (reply : ∀ s t r, P s → P (s.reply t r))
    (cas : ∀ (s : Node) t c, P s → P (checkConfigActions (fuelFor 0) s t c))
    (dc : ∀ (s : Node) t c, P s → P (doChangeConfig (fuelFor 1) s t c)) (s : Node) (t : Nat) (c : Config) (hs : P s) :
    P (s.onChangeConfig t c) :=
  onChangeConfig_cases s t c (fun r => reply s t r hs) fun _ =>
    ite_ind (fun _ => dc _ t c (cas s t c hs)) fun _ => cas s t c hs

/-- `hboot`: a node that is not leader refuses the request because it is bootstrapped -/
theorem handle_changeConfig_of (reply : ∀ s t r, P s → P (s.reply t r))
    (cas : ∀ (s : Node) t c, P s → P (checkConfigActions (fuelFor 0) s t c))
    (dc : ∀ (s : Node) t c, P s → P (doChangeConfig (fuelFor 1) s t c)) (s : Node) (t : Nat) (c : Config)
    (hboot : s.role ≠ .leader → s.configs.isBootstrapped = true) (hs : P s) : P (s.handle (.changeConfig t c)) := by
  unfold Node.handle
  dsimp only
  refine ite_ind (fun _ => onChangeConfig_of reply cas dc s t c hs) fun hr => ?_
  unfold Node.bootstrap
  rw [if_pos (hboot hr)]
  exact reply _ _ _ hs

end

namespace LeaderSide
variable {P : Node → Prop} (h : LeaderSide P)
include h

theorem tryTransfer_inv (s : Node) (hs : P s) : P s.tryTransfer := tryTransfer_of h.transfer h.panic h.popOrder s hs

theorem replyTransfer_inv (s : Node) (r : String) (hs : P s) : P (s.replyTransfer r) :=
  replyTransfer_of h.transfer h.reply h.checkConfigActions s r hs

theorem onTimeoutNowResult_inv (s : Node) (src : Nat) (e : Bool) (r : Nat) (hs : P s) : P (s.onTimeoutNowResult src e r) :=
  onTimeoutNowResult_of h.transfer h.panic h.reply h.popOrder
    (fun s st id hs hf => h.report s st _ id hs hf rfl rfl rfl) h.checkConfigActions s src e r hs

theorem replUpdLoop_inv (us : List ReplUpdate) (s : Node) (f : UpdFlags) (hs : P s) : P (replUpdLoop s f us).1 :=
  replUpdLoop_of h.report h.stepDown (fun f x id hx => h.checkConfigAction f x 0 id hx) us s f hs

theorem checkReplUpdates_inv (s : Node) (us : List ReplUpdate)
    (compact : (Node.replUpdLoop s {} us).2.removeLTEU = true → ∀ x : Node, P x → P x.checkLogCompact) (hs : P s) :
    P (s.checkReplUpdates us) :=
  checkReplUpdates_of h.onMajorityCommit h.checkQuorum h.tryTransfer_inv s us compact (h.replUpdLoop_inv us s {} hs)

end LeaderSide

section
variable {P : Node → Prop}

theorem notifyFlr_of (panic : ∀ s site, P s → P (s.panic site)) (s : Node) (hs : P s) : P s.notifyFlr := by
  unfold Node.notifyFlr
  exact ite_ind (fun _ => hs) fun _ => ite_ind (fun _ => hs) fun _ => panic _ _ hs

theorem releaseRole_of (candTransfer : ∀ (s : Node) v, P s → P (s.withCandTransfer v))
    (release : ∀ s : Node, P s → P s.leaderRelease) (s : Node) (r : Role) (hs : P s) : P (s.releaseRole r) := by
  unfold Node.releaseRole
  split
  · exact hs
  · exact candTransfer _ _ hs
  · exact release _ hs

theorem onWaitForStable_of (reply : ∀ s t r, P s → P (s.reply t r))
    (wait : ∀ (s : Node) t, P s → P (s.withLdr { s.ldr with waitStable := s.ldr.waitStable ++ [t] })) (s : Node) (t : Nat)
    (hs : P s) : P (s.onWaitForStable t) := by
  unfold Node.onWaitForStable
  exact ite_ind (fun _ => reply _ _ _ hs) fun _ => wait _ _ hs

theorem checkLogCompact_of (compact : ∀ s : Node, P s → P (s.compactLog s.ldr.removeLTE)) (s : Node) (hs : P s) :
    P s.checkLogCompact := by
  unfold Node.checkLogCompact
  exact ite_ind (fun _ => hs) fun _ => compact _ hs

end

/-- the role transitions after a handler: `init` of the new role runs on a node that has this role -/
theorem settle_of {P : Node → Prop} (release : ∀ (s : Node) r, P s → P (s.releaseRole r))
    (elect : ∀ s : Node, P s → s.role = .candidate → P s.startElection)
    (init : ∀ s : Node, P s → s.role = .leader → P s.leaderInit) :
    ∀ (f : Nat) (s : Node) (cur : Role), P s → P (settle f s cur) := by
  intro f
  induction f with
  | zero => intro s cur hs; exact hs
  | succ n ih =>
    intro s cur hs
    unfold settle
    refine ite_ind (fun _ => hs) fun _ => ih _ _ ?_
    have h1 := release s cur hs
    unfold Node.initRole
    split
    · exact h1
    · rename_i hr; exact elect _ h1 hr
    · rename_i hr; exact init _ h1 hr

theorem step_of {P : Node → Prop} (settle : ∀ (f : Nat) (s : Node) (cur : Role), P s → P (settle f s cur))
    (s : Node) (op : Op) (ra : List Nat) (ord : List (List Nat)) (hh : P ((s.begin ra ord).handle op)) :
    P (s.step op ra ord) := by
  unfold Node.step
  dsimp only
  split
  · exact hh
  · exact settle _ _ _ hh

end Node
end Raft
