/-
The cluster-level invariant that ties the ledgers of `Member.Sys` (Sys/Member.lean: the transition system WITH
membership changes) to the local rules `MemberCore.Rules` of the single-server-change argument — definitions and the
STATIC part (what follows from the invariant in one state). The dynamic part (every transition preserves it) is in
Lemmas/MemberStep.lean; the theorems are in Props/C02Member.lean.

Part 0 — `MemberCore.member_safety` with the rule `mono` in its STRICT form (`LocalS`): the rule as stated in
`MemberCore.Local` ("`r.l.1 ≤ r'.l.1 → r.m.1 ≤ r'.m.1`") is violated by a leader that commits twice while its log has
the same length; only the strict form (`r.l.1 < r'.l.1 → …`) is true of the code — and it suffices: keep, for every
(term, log length), the commit record with the largest index (`safety_strict`).
-/
import RaftVerif.Props.C04Member
import RaftVerif.Lemmas.MemberCommit
import RaftVerif.Lemmas.MemberFollow
import RaftVerif.Lemmas.CommitCoreTree

namespace Raft
namespace MemberInv
open Node LogRel Replication CommitRel Commit MemberCore QuorumRel

/-- `MemberCore.Local True` with the rule `mono` in the strict form -/
structure LocalS (d : Data) : Prop where
  rootC : d.isC d.root
  rootA : ∀ a, d.N a → d.A d.root a
  cfgN : ∀ a, d.isC a → d.N a
  vnd : ∀ a, d.isC a → (d.V a).Nodup
  tb : ∀ c e, d.N c → d.N e → c.2 = e.2 → d.cr c = d.cr e → c.1 ≤ e.1 → d.A c e
  init : ∀ c, d.N c → d.cr c = 0 → ∀ r ∈ d.R, c.2 ≤ r.m.2
  recd : ∀ r ∈ d.R, r.m.2 = r.l.2 ∧ d.A r.m r.l ∧ d.cr r.l ≠ 0 ∧
    ∃ D, LastCfg d D r.l ∧ r.Q.Nodup ∧ (∀ v ∈ r.Q, v ∈ d.V D) ∧ 2 * r.Q.length > (d.V D).length ∧
      ∀ v ∈ r.Q, ∃ a, d.acked v r.m.2 a ∧ d.A r.m a
  /-- the commit index of a leader does not decrease while its log GROWS -/
  mono : ∀ r ∈ d.R, ∀ r' ∈ d.R, r.m.2 = r'.m.2 → r.l.1 < r'.l.1 → r.m.1 ≤ r'.m.1
  chain : ∀ c, d.isC c → c ≠ d.root → d.cr c ≠ 0 ∧
    ∃ P r, r ∈ d.R ∧ Prev d P c ∧ AdjLists (d.V P) (d.V c) ∧ r.m.2 = c.2 ∧ r.l.1 < c.1 ∧ d.A P r.m
  creator : ∀ c, d.N c → d.cr c ≠ 0 → ∃ e ∈ d.E, e.cand = d.cr c ∧ e.term = c.2 ∧ d.A e.last c
  elect : ∀ e ∈ d.E, e.last.2 < e.term ∧ d.N e.last ∧
    ∃ D, LastCfg d D e.last ∧ e.Q.Nodup ∧ (∀ v ∈ e.Q, v ∈ d.V D) ∧ 2 * e.Q.length > (d.V D).length ∧
      ∀ v ∈ e.Q, d.granted v e.term e.cand ∧ UpToC d e v

def Maximal (R : List Rec) (r : Rec) : Bool :=
  R.all (fun r' => !(r'.m.2 == r.m.2 && r'.l.1 == r.l.1) || decide (r'.m.1 ≤ r.m.1))

theorem maximal_iff (R : List Rec) (r : Rec) :
    Maximal R r = true ↔ ∀ r' ∈ R, r'.m.2 = r.m.2 → r'.l.1 = r.l.1 → r'.m.1 ≤ r.m.1 := by
  unfold Maximal
  simp only [List.all_eq_true, Bool.or_eq_true, Bool.not_eq_true', Bool.and_eq_false_iff, beq_eq_false_iff_ne,
    ne_eq, decide_eq_true_eq]
  constructor
  · intro h r' hr' e1 e2
    rcases h r' hr' with (h1 | h1) | h1
    · exact absurd e1 h1
    · exact absurd e2 h1
    · exact h1
  · intro h r' hr'
    by_cases e1 : r'.m.2 = r.m.2
    · by_cases e2 : r'.l.1 = r.l.1
      · exact Or.inr (h r' hr' e1 e2)
      · exact Or.inl (Or.inr e2)
    · exact Or.inl (Or.inl e1)

theorem exists_maximal (R : List Rec) (hb : ∀ r ∈ R, r.m.1 ≤ r.l.1) :
    ∀ (n : Nat) (r : Rec), r ∈ R → r.l.1 - r.m.1 ≤ n →
      ∃ r' ∈ R, r'.m.2 = r.m.2 ∧ r'.l.1 = r.l.1 ∧ r.m.1 ≤ r'.m.1 ∧ Maximal R r' = true := by
  intro n
  induction n with
  | zero =>
    intro r hr hn
    refine ⟨r, hr, rfl, rfl, Nat.le_refl _, (maximal_iff R r).mpr (fun r' hr' _ e2 => ?_)⟩
    have := hb r' hr'; have := hb r hr; omega
  | succ n ih =>
    intro r hr hn
    by_cases hm : Maximal R r = true
    · exact ⟨r, hr, rfl, rfl, Nat.le_refl _, hm⟩
    · have : ¬ ∀ r' ∈ R, r'.m.2 = r.m.2 → r'.l.1 = r.l.1 → r'.m.1 ≤ r.m.1 := fun h => hm ((maximal_iff R r).mpr h)
      have hex : ∃ r' ∈ R, r'.m.2 = r.m.2 ∧ r'.l.1 = r.l.1 ∧ r.m.1 < r'.m.1 := by
        apply Classical.byContradiction
        intro hno
        apply this
        intro r' hr' e1 e2
        apply Classical.byContradiction
        intro hlt
        exact hno ⟨r', hr', e1, e2, by omega⟩
      obtain ⟨r1, hr1, e1, e2, e3⟩ := hex
      have := hb r1 hr1
      obtain ⟨r2, hr2, f1, f2, f3, f4⟩ := ih r1 hr1 (by omega)
      exact ⟨r2, hr2, f1.trans e1, f2.trans e2, by omega, f4⟩

def filterD (d : Data) : Data := { d with R := d.R.filter (Maximal d.R) }

theorem filterD_sub {d : Data} : ∀ r ∈ (filterD d).R, r ∈ d.R := fun _ hr => (List.mem_filter.mp hr).1

theorem filterD_dom {d : Data} (hF : Forest d) (hL : LocalS d) :
    ∀ r ∈ d.R, ∃ r' ∈ (filterD d).R, r'.m.2 = r.m.2 ∧ r'.l = r.l ∧ d.A r.m r'.m := by
  have hb : ∀ r ∈ d.R, r.m.1 ≤ r.l.1 := fun r hr => hF.idx _ _ (hL.recd r hr).2.1
  intro r hr
  obtain ⟨r', hr', e1, e2, e3, e4⟩ := exists_maximal d.R hb _ r hr (Nat.le_refl _)
  obtain ⟨a1, a2, _⟩ := hL.recd r hr
  obtain ⟨b1, b2, _⟩ := hL.recd r' hr'
  have hl : r'.l = r.l := Prod.ext e2 (by rw [← b1, ← a1, e1])
  refine ⟨r', List.mem_filter.mpr ⟨hr', e4⟩, e1, hl, ?_⟩
  rw [hl] at b2
  exact hF.cmp _ _ _ a2 b2 e3

theorem filterD_rules {d : Data} (hF : Forest d) (hL : LocalS d)
    (hg : ∀ v t c c', d.granted v t c → d.granted v t c' → c = c') : Rules (filterD d) :=
  { refl := hF.refl, node := hF.node, trans := hF.trans, cmp := hF.cmp, eqi := hF.eqi, idx := hF.idx, trm := hF.trm
    rootC := hL.rootC, rootA := hL.rootA, cfgN := hL.cfgN, vnd := hL.vnd, tb := hL.tb
    init := fun c hc h0 r hr => hL.init c hc h0 r (filterD_sub r hr)
    recd := fun r hr => hL.recd r (filterD_sub r hr)
    mono := fun r hr r' hr' et hl => by
      rcases Nat.lt_or_ge r.l.1 r'.l.1 with h1 | h1
      · exact hL.mono r (filterD_sub r hr) r' (filterD_sub r' hr') et h1
      · have hm := (maximal_iff d.R r').mp (List.mem_filter.mp hr').2
        exact hm r (filterD_sub r hr) et (by omega)
    chain := fun c hc hne => by
      obtain ⟨h0, P, r, hr, h1, h2, h3, h4, h5⟩ := hL.chain c hc hne
      obtain ⟨r', hr', e1, e2, e3⟩ := filterD_dom hF hL r hr
      exact ⟨h0, P, r', hr', h1, h2, fun _ => e1.trans h3, by rw [e2]; exact h4, hF.trans _ _ _ h5 e3⟩
    creator := hL.creator
    elect := fun e he => by
      obtain ⟨h1, h2, D, h3, h4, h5, h6, h7⟩ := hL.elect e he
      exact ⟨h1, h2, D, h3, h4, h5, h6, fun v hv => ⟨(h7 v hv).1, fun r hr => (h7 v hv).2 r (filterD_sub r hr)⟩⟩
    grantU := hg }

/-- **`MemberCore.member_safety` from the rules with the strict monotonicity rule**: leader completeness (tree form)
and one creator per term. -/
theorem safety_strict {d : Data} (hF : Forest d) (hL : LocalS d)
    (hg : ∀ v t c c', d.granted v t c → d.granted v t c' → c = c') :
    (∀ r ∈ d.R, ∀ c, d.N c → r.m.2 < c.2 → d.A r.m c) ∧
    (∀ c c', d.N c → d.N c' → c.2 = c'.2 → d.cr c ≠ 0 → d.cr c' ≠ 0 → d.cr c = d.cr c') := by
  obtain ⟨lc, es⟩ := member_safety (filterD_rules hF hL hg)
  refine ⟨fun r hr c hc hlt => ?_, es⟩
  obtain ⟨r', hr', e1, _, e3⟩ := filterD_dom hF hL r hr
  exact hF.trans _ _ _ e3 (lc r' hr' c hc (by rw [e1]; exact hlt))

/-- **the up-to-date check as it holds when a vote is granted** (non-strict): what voter `v` acknowledged below a
committed key before it granted its vote for the term of `e` is extended by the log `e.last` the candidate campaigned
with — unless some entry of a term up to (and including) the election's does not extend it -/
def GrantUp (d : Data) (e : El) (v : Nat) : Prop :=
  ∀ r ∈ d.R, r.m.2 < e.term → ∀ a, d.acked v r.m.2 a → d.A r.m a →
    d.A r.m e.last ∨ ∃ c, d.N c ∧ r.m.2 < c.2 ∧ c.2 ≤ e.term ∧ ¬ d.A r.m c

/-- what is known of a candidate that holds a majority of grants (whether or not it has counted them) -/
structure Cand (d : Data) (e : El) : Prop where
  lt : e.last.2 < e.term
  node : d.N e.last
  maj : ∃ D, LastCfg d D e.last ∧ e.Q.Nodup ∧ (∀ v ∈ e.Q, v ∈ d.V D) ∧ 2 * e.Q.length > (d.V D).length ∧
    ∀ v ∈ e.Q, d.granted v e.term e.cand ∧ GrantUp d e v

theorem cand_ext {d : Data} (h : Rules d) {e : El} (hc : Cand d e) :
    ∀ r : Rec, r ∈ d.R → r.m.2 < e.term → d.A r.m e.last := by
  obtain ⟨e1, _, DL, e3, e4, e5, e6, e7⟩ := hc
  obtain ⟨lc, _⟩ := member_safety h
  obtain ⟨hlc, hes⟩ := safe_below h e.term
  exact ext_of_quorum h hlc hes rfl e1 e3 e4 e5 e6 (P := fun c => c.2 ≤ e.term)
    (fun r hr c c1 c2 _ => lc r hr c c1 c2) (fun v hv => (e7 v hv).2)

/-- **two candidates of one term that both hold a majority of grants of the voters of their configurations are the
same node** (ledgers that obey the rules; the grant-time form `GrantUp` of the up-to-date check) -/
theorem cand_unique {d : Data} (h : Rules d) {e e' : El} (hc : Cand d e) (hc' : Cand d e') (ht : e.term = e'.term) :
    e.cand = e'.cand := by
  have x := cand_ext h hc
  have x' := cand_ext h hc'
  obtain ⟨_, hes⟩ := safe_below h e.term
  obtain ⟨t1, _, DL, f3, f4, f5, f6, f7⟩ := hc
  obtain ⟨t1', _, DL', g3, g4, g5, g6, g7⟩ := hc'
  have tu := h.trm _ _ f3.2.1
  have tu' := h.trm _ _ g3.2.1
  -- each candidate's log extends what was committed in the term of the other's latest configuration
  have hadj := cfgs_adj h hes f3 g3 (by omega) (by omega) (fun _ r hr er _ => x' r hr (by omega))
    (fun r hr er _ => x r hr (by omega))
  obtain ⟨v, hv, hv'⟩ := adjacent_quorums_intersect (d.V DL) (d.V DL') e.Q e'.Q (h.vnd DL f3.1)
    (h.vnd DL' g3.1) f4 g4 hadj f5 g5 f6 g6
  have g1 := (f7 v hv).1
  have g2 := (g7 v hv').1
  rw [← ht] at g2
  exact h.grantU v e.term _ _ g1 g2

/-- ghost ledgers of the proof (not part of `Member.Sys`): the bootstrap key, the commit records (one per commit
moment of a leader: `MemberCommit.SEv`), the election records (one per node and term in which it created entries) and
the self acknowledgements of the commit moments of steps that ended in a crash -/
structure Ghost where
  root : K
  R : List Rec
  E : List El
  SA : List Ack

abbrev acksG (x : Member.Sys) (G : Ghost) : List Ack := x.cm.acks ++ G.SA

/-- `cfg` is the configuration of the record under the key `D`, and `D` is the LAST configuration entry at or below
the key `a` in the tree -/
def CfgAt (T : List CEntry) (D : K) (cfg : Config) (a : K) : Prop :=
  (∃ c ∈ T, key c = D ∧ c.e.config? = some cfg) ∧ Anc T D a ∧
  ∀ c ∈ T, c.e.typ = etConfig → Anc T (key c) a → c.e.index ≤ D.1

/-- `P` is the nearest configuration entry strictly below the key `c` -/
def PrevT (T : List CEntry) (P c : K) : Prop :=
  (∃ p ∈ T, key p = P ∧ p.e.typ = etConfig) ∧ Anc T P c ∧ P.1 < c.1 ∧
  ∀ e ∈ T, e.e.typ = etConfig → Anc T (key e) c → e.e.index < c.1 → e.e.index ≤ P.1

theorem anc_old {T T' : List CEntry} (hsub : ∀ c ∈ T, c ∈ T') (hU' : Uniq T') {a : K}
    (ha : ∃ es, Path T es ∧ Holds es a.1 a.2) {c' : CEntry} (hc' : c' ∈ T') (h : Anc T' (key c') a) :
    c' ∈ T ∧ Anc T (key c') a := by
  obtain ⟨es, p, hes⟩ := ha
  have hh := h.on_path hU' (p.mono hsub) hes
  obtain ⟨c'', hc'', e1, e2, _⟩ := path_record p hh
  have : c'' = c' := hU' c'' (hsub c'' hc'') c' hc' e1 e2
  rw [this] at hc''
  exact ⟨hc'', anc_of_path p hh hes h.1⟩

theorem cfgAt_mono {T T' : List CEntry} (hsub : ∀ c ∈ T, c ∈ T') (hU' : Uniq T') {D : K} {cfg : Config} {a : K}
    (ha : ∃ es, Path T es ∧ Holds es a.1 a.2) (h : CfgAt T D cfg a) : CfgAt T' D cfg a := by
  obtain ⟨⟨c, hc, hk, hcfg⟩, h2, h3⟩ := h
  refine ⟨⟨c, hsub c hc, hk, hcfg⟩, h2.mono hsub, fun c' hc' ht hA => ?_⟩
  obtain ⟨ho, hA'⟩ := anc_old hsub hU' ha hc' hA
  exact h3 c' ho ht hA'

theorem prevT_mono {T T' : List CEntry} (hsub : ∀ c ∈ T, c ∈ T') (hU' : Uniq T') {P a : K}
    (ha : ∃ es, Path T es ∧ Holds es a.1 a.2) (h : PrevT T P a) : PrevT T' P a := by
  obtain ⟨⟨p, hp, hk, ht⟩, h2, h3, h4⟩ := h
  refine ⟨⟨p, hsub p hp, hk, ht⟩, h2.mono hsub, h3, fun e he het hA hlt => ?_⟩
  obtain ⟨ho, hA'⟩ := anc_old hsub hU' ha he hA
  exact h4 e ho het hA' hlt

/-- **the up-to-date check, as established when a candidate counts a vote**: what voter `v` acknowledged in a term
before the campaign `k` is extended by the log the candidate campaigned with — unless an entry of a term strictly in
between does not extend it, or an entry of the campaign's term CREATED BY SOMEBODY ELSE does not extend it (a
candidate has created no entry of its term yet) -/
def UpToM (T : List CEntry) (A : List Ack) (k : Camp) (v : Nat) : Prop :=
  ∀ a ∈ A, a.voter = v → a.term < k.term → ∀ b : K, b.2 = a.term → Anc T b a.key →
    Anc T b k.last ∨ ∃ c ∈ T, b.2 < c.e.term ∧ ¬ Anc T b (key c) ∧
      (c.e.term < k.term ∨ (c.e.term = k.term ∧ c.cr ≠ 0 ∧ c.cr ≠ k.cand))

structure TreeM (x : Member.Sys) (G : Ghost) : Prop where
  pathc : PathClosed x.cm.T
  tmono : ∀ c ∈ x.cm.T, c.pt ≤ c.e.term
  /-- the entries one node created in one term (and the initial entries of one term) lie on one path -/
  tbI : ∀ c ∈ x.cm.T, ∀ d ∈ x.cm.T, c.e.term = d.e.term → c.cr = d.cr → c.e.index ≤ d.e.index →
    Anc x.cm.T (key c) (key d)
  /-- all entries of one term that were created by nodes were created by one node -/
  cu : ∀ c ∈ x.cm.T, ∀ d ∈ x.cm.T, c.e.term = d.e.term → c.cr ≠ 0 → d.cr ≠ 0 → c.cr = d.cr
  /-- while its creator is leader of its term the entry is in the creator's log -/
  ownLog : ∀ c ∈ x.cm.T, c.cr ≠ 0 → (x.node c.cr).role = .leader → (x.node c.cr).term = c.e.term →
    Holds (x.node c.cr).log.entries c.e.index c.e.term
  /-- the bootstrap configuration entry: initial, below every entry, the only initial configuration entry -/
  rootC : ∃ c ∈ x.cm.T, key c = G.root ∧ c.e.typ = etConfig ∧ c.cr = 0
  rootA : ∀ c ∈ x.cm.T, Anc x.cm.T G.root (key c)
  rootOnly : ∀ c ∈ x.cm.T, c.cr = 0 → c.e.typ = etConfig → key c = G.root
  /-- the entries created by nodes have terms above those of the initial entries -/
  initLt : ∀ c ∈ x.cm.T, ∀ d ∈ x.cm.T, c.cr = 0 → d.cr ≠ 0 → c.e.term < d.e.term

structure NodeM (x : Member.Sys) : Prop where
  lwf : ∀ i, C06.LogWF (x.node i).log
  termLe : ∀ i, ∀ e ∈ (x.node i).log.entries, e.term ≤ (x.node i).term
  unfl : ∀ i k, (x.node i).log.flushed < k → k ≤ (x.node i).log.entries.length →
    ∃ c ∈ x.cm.T, c.e.index = k ∧ c.e.term = termAt (x.node i).log.entries k ∧ c.cr = i
  camp : ∀ i, (x.node i).role ≠ .follower → ∃ k ∈ x.cm.camps, k.cand = i ∧ k.term = (x.node i).term ∧
    k.lastIndex ≤ (x.node i).log.entries.length ∧
    (1 ≤ k.lastIndex → termAt (x.node i).log.entries k.lastIndex = k.lastTerm) ∧
    ((x.node i).role = .candidate → k.lastIndex = (x.node i).log.entries.length)
  ldr : ∀ i, (x.node i).role = .leader → LeadOK (Commit.Backed x.cm i) (x.node i)
  /-- a leader's committed configuration lies below its start index or at or below its commit index -/
  cc : ∀ i, (x.node i).role = .leader → (x.node i).configs.isCommitted = true →
    (x.node i).configs.latest.index < (x.node i).ldr.startIndex ∨
    (x.node i).configs.latest.index ≤ (x.node i).commitIndex

structure SentM (x : Member.Sys) : Prop where
  won : ∀ q ∈ x.cm.rp.sent, q.src ≠ 0 ∧ (q.src, q.term) ∈ x.el.won ∧ q.term ≤ (x.node q.src).term ∧
    ((x.node q.src).role = .candidate → q.term < (x.node q.src).term)
  term : ∀ q ∈ x.cm.rp.sent, (∀ e ∈ q.entries, e.term ≤ q.term) ∧ q.prevLogTerm ≤ q.term
  anc : ∀ q ∈ x.cm.rp.sent, ∃ c ∈ x.cm.T, c.e.term = q.term ∧ (∀ e ∈ q.entries, Anc x.cm.T (e.index, e.term) (key c)) ∧
    (1 ≤ q.prevLogIndex → Anc x.cm.T (q.prevLogIndex, q.prevLogTerm) (key c))
  /-- the term of a request is above the terms of the initial entries -/
  init : ∀ q ∈ x.cm.rp.sent, ∀ c ∈ x.cm.T, c.cr = 0 → c.e.term < q.term
  /-- what lies at or below the request's commit index is committed by a leader of a term ≤ the request's -/
  cmt : ∀ q ∈ x.cm.rp.sent, (∀ e ∈ q.entries, e.index ≤ q.ldrCommitIndex → Cmt x.cm (e.index, e.term) q.term) ∧
    (1 ≤ q.prevLogIndex → q.prevLogIndex ≤ q.ldrCommitIndex → Cmt x.cm (q.prevLogIndex, q.prevLogTerm) q.term)

/-- acknowledgements (`Commit.AckI` over a list `A` of acknowledgements) -/
structure AckM (x : Member.Sys) (A : List Ack) : Prop where
  wf : ∀ a ∈ A, 1 ≤ a.index ∧ a.term ≤ (x.node a.voter).term ∧ a.eterm ≤ a.term ∧
    ∃ c ∈ x.cm.T, key c = a.key
  src : ∀ a ∈ A,
    (∃ q ∈ x.cm.rp.sent, q.term = a.term ∧ q.src ≠ a.voter ∧ a.index = q.prevLogIndex + q.entries.length ∧
      ((∃ e ∈ q.entries, e.index = a.index ∧ e.term = a.eterm) ∨
        (q.entries = [] ∧ q.prevLogTerm = a.eterm))) ∨
    (a.eterm = a.term ∧ ∃ c ∈ x.cm.T, key c = a.key ∧ c.cr = a.voter ∧ c.cr ≠ 0)
  stable : ∀ a ∈ A, ∀ b : K, b.2 = a.term → Anc x.cm.T b a.key →
    DurHolds (x.node a.voter) b ∨ Unsafe x.cm.T b (x.node a.voter).term

/-- campaigns, votes and elections (`Commit.VoteI` over `A`, with `UpToM`) -/
structure VoteM (x : Member.Sys) (A : List Ack) : Prop where
  campUniq : ∀ k ∈ x.cm.camps, ∀ k' ∈ x.cm.camps, k.cand = k'.cand → k.term = k'.term → k = k'
  campWf : ∀ k ∈ x.cm.camps, k.cand ≠ 0 ∧ k.term ≤ (x.node k.cand).term ∧ k.lastTerm < k.term ∧
    ∃ c ∈ x.cm.T, key c = k.last
  voteCamp : ∀ v, (x.node v).votedFor ≠ 0 → (x.node v).votedFor ≠ v →
    ∃ k ∈ x.cm.camps, k.cand = (x.node v).votedFor ∧ k.term = (x.node v).term
  voteInv : ∀ v, (x.node v).votedFor ≠ 0 → ∀ k ∈ x.cm.camps, k.cand = (x.node v).votedFor →
    k.term = (x.node v).term → ∀ a ∈ A, a.voter = v → a.term < k.term →
    ∀ b : K, b.2 = a.term → Anc x.cm.T b a.key → Anc x.cm.T b k.last ∨ Unsafe x.cm.T b k.term
  grantInv : ∀ g ∈ x.el.grants, ∀ k ∈ x.cm.camps, k.cand = g.cand → k.term = g.term →
    ∀ a ∈ A, a.voter = g.voter → a.term < k.term →
    ∀ b : K, b.2 = a.term → Anc x.cm.T b a.key → Anc x.cm.T b k.last ∨ Unsafe x.cm.T b k.term
  electInv : ∀ k ∈ x.cm.camps, ∀ v, Elector x.cm k.cand k.term v → UpToM x.cm.T A k v
  countedGrant : ∀ e ∈ x.el.counted,
    ({ voter := e.2.2, term := e.2.1, cand := e.1 } : C01.Grant) ∈ x.el.grants
  grantCamp : ∀ g ∈ x.el.grants, ∃ k ∈ x.cm.camps, k.cand = g.cand ∧ k.term = g.term
  /-- a campaign and its configuration are recorded together; the configuration is the last configuration entry of
  the log the candidate campaigned with -/
  campCfg : ∀ k ∈ x.cm.camps, ∃ kc ∈ x.ecfg, kc.cand = k.cand ∧ kc.term = k.term ∧
    ∃ D, CfgAt x.cm.T D kc.cfg k.last
  cfgCamp : ∀ kc ∈ x.ecfg, ∃ k ∈ x.cm.camps, k.cand = kc.cand ∧ k.term = kc.term

def RecOK (x : Member.Sys) (A : List Ack) (r : Rec) : Prop :=
  r.m.2 = r.l.2 ∧ Anc x.cm.T r.m r.l ∧ (∃ c ∈ x.cm.T, key c = r.l ∧ c.cr ≠ 0) ∧
  ∃ D cfg, CfgAt x.cm.T D cfg r.l ∧ r.Q.Sublist cfg.voters ∧ 2 * r.Q.length > cfg.voters.length ∧
    ∀ v ∈ r.Q, ∃ a ∈ A, a.voter = v ∧ a.term = r.m.2 ∧ Anc x.cm.T r.m a.key

structure RecM (x : Member.Sys) (G : Ghost) : Prop where
  recd : ∀ r ∈ G.R, RecOK x (acksG x G) r
  mono : ∀ r ∈ G.R, ∀ r' ∈ G.R, r.m.2 = r'.m.2 → r.l.1 < r'.l.1 → r.m.1 ≤ r'.m.1
  /-- every entry of the ledger `committed` has its record -/
  cover : ∀ m ∈ x.cm.committed, ∃ r ∈ G.R, r.m = m
  /-- a configuration entry created by a node: when it was created the leader had committed, in its own term and with a
  shorter log, a key at or above the previous configuration entry -/
  chain : ∀ c ∈ x.cm.T, c.e.typ = etConfig → c.cr ≠ 0 → ∃ P r, r ∈ G.R ∧ PrevT x.cm.T P (key c) ∧
    r.m.2 = c.e.term ∧ r.l.1 < c.e.index ∧ Anc x.cm.T P r.m
  /-- the standing record of a leader that has committed an entry of its term -/
  lead : ∀ i, (x.node i).role = .leader → (x.node i).ldr.startIndex ≤ (x.node i).commitIndex →
    ∃ r ∈ G.R, r.m = ((x.node i).commitIndex, (x.node i).term) ∧ r.l.1 ≤ (x.node i).log.entries.length
  init : ∀ c ∈ x.cm.T, c.cr = 0 → ∀ r ∈ G.R, c.e.term ≤ r.m.2
  /-- the records of a leader's term lie within its commit index and its log -/
  bound : ∀ i, (x.node i).role = .leader → ∀ r ∈ G.R, r.m.2 = (x.node i).term →
    r.m.1 ≤ (x.node i).commitIndex ∧ r.l.1 ≤ (x.node i).log.entries.length

def ElOK (x : Member.Sys) (A : List Ack) (e : El) : Prop :=
  ∃ k ∈ x.cm.camps, ∃ kc ∈ x.ecfg, k.cand = e.cand ∧ k.term = e.term ∧ k.last = e.last ∧ kc.cand = e.cand ∧
    kc.term = e.term ∧ (∃ D, CfgAt x.cm.T D kc.cfg k.last) ∧
    e.Q.Nodup ∧ (∀ v ∈ e.Q, v ∈ kc.cfg.voters) ∧ 2 * e.Q.length > kc.cfg.voters.length ∧
    (∀ v ∈ e.Q, ({ voter := v, term := e.term, cand := e.cand } : C01.Grant) ∈ x.el.grants ∧ UpToM x.cm.T A k v) ∧
    ∃ c ∈ x.cm.T, c.cr = e.cand ∧ c.e.term = e.term

structure ElM (x : Member.Sys) (G : Ghost) : Prop where
  creator : ∀ c ∈ x.cm.T, c.cr ≠ 0 → ∃ e ∈ G.E, e.cand = c.cr ∧ e.term = c.e.term ∧ Anc x.cm.T e.last (key c)
  elect : ∀ e ∈ G.E, ElOK x (acksG x G) e

/-- commitment: every node's commit index covers only committed entries (`Commit.CmtI.cc`) -/
structure CmtM (x : Member.Sys) : Prop where
  cc : ∀ i k, 1 ≤ k → k ≤ (x.node i).commitIndex → k ≤ (x.node i).log.entries.length ∧
    Cmt x.cm (k, termAt (x.node i).log.entries k) (x.node i).term

/-- index `k` of node `i`'s log is PROTECTED: it holds the bootstrap configuration entry, or an ancestor of the key of a
commit record of a term not above the node's — no request that is not stale conflicts with the log up to `k`
(`protNoConf`) -/
def ProtG (x : Member.Sys) (G : Ghost) (i k : Nat) : Prop :=
  1 ≤ k ∧ k ≤ (x.node i).log.entries.length ∧
  ((k, termAt (x.node i).log.entries k) = G.root ∨
    ∃ r ∈ G.R, r.m.2 ≤ (x.node i).term ∧ Anc x.cm.T (k, termAt (x.node i).log.entries k) r.m)

/-- configurations and logs: every node's latest configuration is the LAST CONFIGURATION ENTRY OF ITS LOG
(`MemberCommit.CfgLast`); the index of that entry is protected, or the configuration is pending
(`MemberFollow.Pend`: `configs.committed` is the configuration entry before it — then the index of THAT entry is
protected, `MemberStep.pend_prot`); the bootstrap entry is flushed -/
structure CfgM (x : Member.Sys) (G : Ghost) : Prop where
  cl : ∀ i, MemberCommit.CfgLast (x.node i).log.entries (x.node i).configs.latest
  sp : ∀ i, ProtG x G i (x.node i).configs.latest.index ∨
    MemberFollow.Pend (x.node i).log.entries (x.node i).configs
  rootFl : ∀ i, G.root.1 ≤ (x.node i).log.flushed

structure MInv (x : Member.Sys) (G : Ghost) : Prop where
  rp : C04Member.RInv x.cm.rp x.ecfg
  tree : TreeM x G
  node : NodeM x
  sent : SentM x
  ack : AckM x (acksG x G)
  vote : VoteM x (acksG x G)
  recs : RecM x G
  el : ElM x G
  cmt : CmtM x
  cfg : CfgM x G

/-- side conditions on a state, taken as hypotheses of the theorems (see Props/C02Member.lean): every configuration
entry of the tree has a duplicate-free voter list, and a configuration entry created by a node is adjacent to the
previous configuration entry on its path -/
structure SideT (x : Member.Sys) : Prop where
  nodup : ∀ c ∈ x.cm.T, ∀ cfg, c.e.config? = some cfg → cfg.voters.Nodup
  adj : ∀ c ∈ x.cm.T, ∀ p ∈ x.cm.T, c.cr ≠ 0 → PrevT x.cm.T (key p) (key c) → ∀ cfg pcfg, c.e.config? = some cfg →
    p.e.config? = some pcfg → AdjLists pcfg.voters cfg.voters
  dec : ∀ c ∈ x.cm.T, c.e.typ = etConfig → ∃ cfg, c.e.config? = some cfg

/-- the ledgers of a state as `MemberCore.Data` (as `C08Sys.dataOf`, with the ghost ledgers and all acknowledgements) -/
def dataM (x : Member.Sys) (G : Ghost) : Data where
  A := Anc x.cm.T
  N := fun a => ∃ c ∈ x.cm.T, key c = a
  cr := C08Sys.crOf x.cm.T
  isC := fun a => ∃ c ∈ x.cm.T, key c = a ∧ c.e.typ = etConfig
  V := C08Sys.votersAt x.cm.T
  root := G.root
  R := G.R
  E := G.E
  acked := fun v w a => ∃ k ∈ acksG x G, k.voter = v ∧ k.term = w ∧ k.key = a
  granted := fun v t c => ({ voter := v, term := t, cand := c } : C01.Grant) ∈ x.el.grants

theorem votersAt_cfg {T : List CEntry} (hU : Uniq T) {c : CEntry} (hc : c ∈ T) {cfg : Config}
    (h : c.e.config? = some cfg) : C08Sys.votersAt T (key c) = cfg.voters := by
  rw [C08Sys.votersAt_eq hU hc, h]; rfl

section static
variable {x : Member.Sys} {G : Ghost}

theorem sameTermM (hI : MInv x G) {c d : CEntry} (hc : c ∈ x.cm.T) (hd : d ∈ x.cm.T) (ht : c.e.term = d.e.term)
    (hle : c.e.index ≤ d.e.index) : Anc x.cm.T (key c) (key d) := by
  by_cases hc0 : c.cr = 0
  · by_cases hd0 : d.cr = 0
    · exact hI.tree.tbI c hc d hd ht (hc0.trans hd0.symm) hle
    · have := hI.tree.initLt c hc d hd hc0 hd0; omega
  · by_cases hd0 : d.cr = 0
    · have := hI.tree.initLt d hd c hc hd0 hc0; omega
    · exact hI.tree.tbI c hc d hd ht (hI.tree.cu c hc d hd ht hc0 hd0) hle

theorem ackM_iff {y : Member.Sys} {A : List Ack} : AckM y A ↔ ∀ a ∈ A, AckAt y.cm a :=
  ⟨fun h a ha => ⟨h.wf a ha, h.src a ha, h.stable a ha⟩,
   fun h => ⟨fun a ha => (h a ha).wf, fun a ha => (h a ha).src, fun a ha => (h a ha).stable⟩⟩

theorem sentM_iff {y : Member.Sys} : SentM y ↔ (∀ q ∈ y.cm.rp.sent, SentAt y.cm q) ∧
    ∀ q ∈ y.cm.rp.sent, ∀ c ∈ y.cm.T, c.cr = 0 → c.e.term < q.term :=
  ⟨fun h => ⟨fun q hq => ⟨h.won q hq, h.term q hq, h.anc q hq, h.cmt q hq⟩, h.init⟩,
   fun h => ⟨fun q hq => (h.1 q hq).won, fun q hq => (h.1 q hq).term, fun q hq => (h.1 q hq).anc, h.2,
     fun q hq => (h.1 q hq).cmt⟩⟩

/-- the membership invariant has the quorum-free core of the cluster invariant (Lemmas/CommitCore.lean) -/
theorem core_of_minv (hI : MInv x G) : CoreI x.cm (acksG x G) where
  log := logCore hI.rp.logInv
  el := hI.rp.el.voteInv
  candTerm := fun i hc => (hI.rp.el.cand i hc).term_pos
  pathc := hI.tree.pathc
  tmono := hI.tree.tmono
  tblock := fun _ hc _ hd => sameTermM hI hc hd
  ownLog := hI.tree.ownLog
  node := fun j => ⟨hI.node.lwf j, hI.node.termLe j, hI.node.unfl j, hI.node.camp j, hI.node.ldr j⟩
  sent := (sentM_iff.mp hI.sent).1
  ack := ackM_iff.mp hI.ack
  vote := ⟨hI.vote.campUniq,
    fun k hk => let ⟨a, b, c, d⟩ := hI.vote.campWf k hk; ⟨a, b, c, Or.inr d⟩,
    hI.vote.voteCamp, hI.vote.voteInv, hI.vote.grantInv, hI.vote.countedGrant, hI.vote.grantCamp⟩
  cc := hI.cmt.cc

theorem uniqM (hI : MInv x G) : Uniq x.cm.T := hI.rp.uniq

theorem forestM (hI : MInv x G) : Forest (dataM x G) :=
  let f := C08Sys.forest_of x G.root G.R G.E (uniqM hI) hI.tree.pathc hI.tree.tmono
  ⟨f.refl, f.node, f.trans, f.cmp, f.eqi, f.idx, f.trm⟩

theorem key_injM (hI : MInv x G) {c d : CEntry} (hc : c ∈ x.cm.T) (hd : d ∈ x.cm.T) (h : key c = key d) : c = d :=
  (core_of_minv hI).key_inj hc hd h

theorem cfgAt_lastCfg (hI : MInv x G) {D : K} {cfg : Config} {a : K} (h : CfgAt x.cm.T D cfg a) :
    LastCfg (dataM x G) D a ∧ (dataM x G).V D = cfg.voters := by
  obtain ⟨⟨c, hc, hk, hcfg⟩, h2, h3⟩ := h
  refine ⟨⟨⟨c, hc, hk, (Entry.config?_facts hcfg).1⟩, h2, fun E ⟨e, he, hek, het⟩ hA => ?_⟩, ?_⟩
  · have := h3 e he het (by rw [hek]; exact hA)
    rw [← hek]; exact this
  · show C08Sys.votersAt x.cm.T D = _
    rw [← hk]; exact votersAt_cfg (uniqM hI) hc hcfg

theorem localM (hI : MInv x G) (hS : SideT x) : LocalS (dataM x G) := by
  have hU := uniqM hI
  have hF := forestM hI
  have crEq : ∀ {c : CEntry}, c ∈ x.cm.T → (dataM x G).cr (key c) = c.cr := fun hc => C08Sys.crOf_eq hU hc
  refine ⟨?_, ?_, ?_, ?_, ?_, ?_, ?_, hI.recs.mono, ?_, ?_, ?_⟩
  · obtain ⟨c, hc, hk, ht, _⟩ := hI.tree.rootC
    exact ⟨c, hc, hk, ht⟩
  · rintro a ⟨c, hc, rfl⟩; exact hI.tree.rootA c hc
  · rintro a ⟨c, hc, hk, _⟩; exact ⟨c, hc, hk⟩
  · rintro a ⟨c, hc, rfl, ht⟩
    show (C08Sys.votersAt x.cm.T (key c)).Nodup
    obtain ⟨cfg, hcfg⟩ := hS.dec c hc ht
    rw [votersAt_cfg hU hc hcfg]; exact hS.nodup c hc cfg hcfg
  · rintro _ _ ⟨c, hc, rfl⟩ ⟨e, he, rfl⟩ ht hcr hle
    rw [crEq hc, crEq he] at hcr
    exact hI.tree.tbI c hc e he ht hcr hle
  · rintro _ ⟨c, hc, rfl⟩ h0 r hr
    rw [crEq hc] at h0
    exact hI.recs.init c hc h0 r hr
  · intro r hr
    obtain ⟨r1, r2, ⟨c, hc, hk, h0⟩, D, cfg, r4, r5, r6, r7⟩ := hI.recs.recd r hr
    obtain ⟨l1, l2⟩ := cfgAt_lastCfg hI r4
    obtain ⟨⟨cD, hcD, hkD, hcfgD⟩, _, _⟩ := r4
    have hnd : cfg.voters.Nodup := hS.nodup cD hcD cfg hcfgD
    refine ⟨r1, r2, by rw [← hk, crEq hc]; exact h0, D, l1, hnd.sublist r5, fun v hv => by rw [l2]; exact r5.subset hv,
      by rw [l2]; exact r6, fun v hv => ?_⟩
    obtain ⟨a, ha, a1, a2, a3⟩ := r7 v hv
    exact ⟨a.key, ⟨a, ha, a1, a2, rfl⟩, a3⟩
  · rintro _ ⟨c, hc, rfl, ht⟩ hne
    have h0 : c.cr ≠ 0 := fun h0 => hne (hI.tree.rootOnly c hc h0 ht)
    refine ⟨by rw [crEq hc]; exact h0, ?_⟩
    obtain ⟨P, r, hr, hP, r1, r2, r3⟩ := hI.recs.chain c hc ht h0
    obtain ⟨⟨p, hp, hpk, hpt⟩, p2, p3, p4⟩ := hP
    refine ⟨P, r, hr, ⟨⟨p, hp, hpk, hpt⟩, p2, p3, fun E ⟨e, he, hek, het⟩ hA hlt => ?_⟩, ?_, r1, r2, r3⟩
    · rw [← hek] at hA hlt ⊢
      exact p4 e he het hA hlt
    · obtain ⟨cfg, hcfg⟩ := hS.dec c hc ht
      obtain ⟨pcfg, hpcfg⟩ := hS.dec p hp hpt
      show AdjLists (C08Sys.votersAt x.cm.T P) (C08Sys.votersAt x.cm.T (key c))
      rw [← hpk, votersAt_cfg hU hp hpcfg, votersAt_cfg hU hc hcfg]
      exact hS.adj c hc p hp h0 (by rw [hpk]; exact ⟨⟨p, hp, hpk, hpt⟩, p2, p3, p4⟩) cfg pcfg hcfg hpcfg
  · rintro _ ⟨c, hc, rfl⟩ h0
    rw [crEq hc] at h0 ⊢
    exact hI.el.creator c hc h0
  · intro e he
    obtain ⟨k, hk, kc, hkc, k1, k2, k3, k4, k5, ⟨D, hD⟩, q1, q2, q3, q4, c0, hc0, hc0cr, hc0t⟩ := hI.el.elect e he
    obtain ⟨w1, w2, w3, cl, hcl, hclk⟩ := hI.vote.campWf k hk
    obtain ⟨l1, l2⟩ := cfgAt_lastCfg hI hD
    rw [k3] at l1 hclk
    refine ⟨by rw [← k3, ← k2]; exact w3, ⟨cl, hcl, hclk⟩, D, l1, q1, fun v hv => by rw [l2]; exact q2 v hv,
      by rw [l2]; exact q3, fun v hv => ⟨(q4 v hv).1, ?_⟩⟩
    intro r hr hlt a ⟨a', ha', a1, a2, a3⟩ hA
    rw [← a3] at hA
    rcases (q4 v hv).2 a' ha' a1 (by rw [a2, k2]; exact hlt) r.m a2.symm hA with g | ⟨c, hc, c1, c2, c3⟩
    · left; rw [← k3]; exact g
    · rcases c3 with c3 | ⟨c3, c4, c5⟩
      · exact Or.inr ⟨key c, ⟨c, hc, rfl⟩, c1, by rw [← k2]; exact c3, c2⟩
      · exfalso
        have := hI.tree.cu c hc c0 hc0 (by rw [c3, k2, hc0t]) c4 (by rw [hc0cr, ← k1]; exact w1)
        rw [hc0cr, ← k1] at this
        exact c5 this

theorem grantUM (hI : MInv x G) : ∀ v t c c', (dataM x G).granted v t c → (dataM x G).granted v t c' → c = c' :=
  fun _ _ _ _ h1 h2 => hI.rp.el.unique _ h1 _ h2 rfl rfl

/-- **leader completeness (tree form)** in a state that satisfies the invariant: every entry of the tree whose term is
above that of a commit record extends the committed key -/
theorem lcM (hI : MInv x G) (hS : SideT x) :
    ∀ r ∈ G.R, ∀ c ∈ x.cm.T, r.m.2 < c.e.term → Anc x.cm.T r.m (key c) := by
  obtain ⟨lc, _⟩ := safety_strict (forestM hI) (localM hI hS) (grantUM hI)
  exact fun r hr c hc hlt => lc r hr (key c) ⟨c, hc, rfl⟩ hlt

/-- **election safety of the election records**: two recorded candidates of one term that are both backed by a
majority of grants of the voters of their own configurations are the same node (what `C04Member.rinv_upd` needs) -/
theorem esafeM (hI : MInv x G) (hS : SideT x) : C04Member.ESafe x.el.grants x.ecfg := by
  have hR := filterD_rules (forestM hI) (localM hI hS) (grantUM hI)
  have mk : ∀ kc ∈ x.ecfg, C01.Backed x.el.grants kc.cfg.voters kc.cand kc.term →
      ∃ e : El, e.cand = kc.cand ∧ e.term = kc.term ∧ Cand (filterD (dataM x G)) e := by
    intro kc hkc ⟨Q, q1, q2, q3, q4⟩
    obtain ⟨k, hk, k1, k2⟩ := hI.vote.cfgCamp kc hkc
    obtain ⟨kc', hkc', c1, c2, D, hD⟩ := hI.vote.campCfg k hk
    have he : kc' = kc := hI.rp.el.ecfgUniq kc' hkc' kc hkc (c1.trans k1) (c2.trans k2)
    rw [he] at hD
    obtain ⟨w1, w2, w3, cl, hcl, hclk⟩ := hI.vote.campWf k hk
    obtain ⟨l1, l2⟩ := cfgAt_lastCfg hI hD
    have l2 : C08Sys.votersAt x.cm.T D = kc.cfg.voters := l2
    refine ⟨⟨kc.cand, kc.term, k.last, Q⟩, rfl, rfl, ⟨by show k.lastTerm < kc.term; rw [← k2]; exact w3,
      ⟨cl, hcl, hclk⟩, D, l1, q1, fun v hv => by show v ∈ C08Sys.votersAt x.cm.T D; rw [l2]; exact q2 v hv,
      by show _ > (C08Sys.votersAt x.cm.T D).length; rw [l2]; exact q3, fun v hv => ⟨q4 v hv, ?_⟩⟩⟩
    intro r hr hlt a ⟨a', ha', a1, a2, a3⟩ hA
    rw [← a3] at hA
    have hg := hI.vote.grantInv _ (q4 v hv) k hk k1 k2 a' ha' a1 (by rw [a2, k2]; exact hlt) r.m a2.symm hA
    rcases hg with g | ⟨c, hc, c1', c2', c3'⟩
    · exact Or.inl g
    · exact Or.inr ⟨key c, ⟨c, hc, rfl⟩, c1', by rw [← k2]; exact c2', c3'⟩
  intro k hk k' hk' ht b b'
  obtain ⟨e, e1, e2, ec⟩ := mk k hk b
  obtain ⟨e', e1', e2', ec'⟩ := mk k' hk' b'
  have := cand_unique hR ec ec' (by rw [e2, e2', ht])
  rw [e1, e1'] at this
  exact this

theorem nwfM (hI : MInv x G) (i : Nat) : NWF (x.node i) := (hI.rp.nodes i).1

theorem rpathM {y : Member.Sys} (hR : C04Member.RInv y.cm.rp y.ecfg) (i : Nat) :
    Path y.cm.T (y.node i).log.entries := node_path hR.logInv i

theorem rancM {y : Member.Sys} (hR : C04Member.RInv y.cm.rp y.ecfg) (i : Nat) {a c : K}
    (ha : Holds (y.node i).log.entries a.1 a.2) (hc : Holds (y.node i).log.entries c.1 c.2) (h : a.1 ≤ c.1) :
    Anc y.cm.T a c := node_anc hR.logInv i ha hc h

theorem rholdsM {y : Member.Sys} (hR : C04Member.RInv y.cm.rp y.ecfg) (i : Nat) {a c : K}
    (h : Anc y.cm.T a c) (hc : Holds (y.node i).log.entries c.1 c.2) : Holds (y.node i).log.entries a.1 a.2 :=
  node_holds hR.logInv i h hc

theorem rrecordM {y : Member.Sys} (hR : C04Member.RInv y.cm.rp y.ecfg) (i : Nat) {k τ : Nat}
    (h : Holds (y.node i).log.entries k τ) : ∃ c ∈ y.cm.T, key c = (k, τ) := node_record hR.logInv i h

theorem log_pathM (hI : MInv x G) (i : Nat) : Path x.cm.T (x.node i).log.entries := rpathM hI.rp i

theorem log_recordM (hI : MInv x G) (i : Nat) {k τ : Nat} (h : Holds (x.node i).log.entries k τ) :
    ∃ c ∈ x.cm.T, key c = (k, τ) := rrecordM hI.rp i h

theorem log_holds_ancM (hI : MInv x G) (i : Nat) {a c : K} (h : Anc x.cm.T a c)
    (hc : Holds (x.node i).log.entries c.1 c.2) : Holds (x.node i).log.entries a.1 a.2 := rholdsM hI.rp i h hc

theorem leader_last_recordM (hI : MInv x G) {i : Nat} (hl : (x.node i).role = .leader) :
    Holds (x.node i).log.entries (x.node i).log.entries.length (x.node i).term ∧
    ∃ z ∈ x.cm.T, key z = ((x.node i).log.entries.length, (x.node i).term) := by
  have lo := hI.node.ldr i hl
  have hz : Holds (x.node i).log.entries (x.node i).log.entries.length (x.node i).term :=
    ⟨Nat.le_trans lo.start lo.startLe, Nat.le_refl _, lo.own _ lo.startLe (Nat.le_refl _)⟩
  exact ⟨hz, log_recordM hI i hz⟩

theorem creator_of_wonM (hI : MInv x G) (hS : SideT x) {l t : Nat} (hw : (l, t) ∈ x.el.won)
    {c : CEntry} (hc : c ∈ x.cm.T) (h0 : c.cr ≠ 0) (ht : c.e.term = t) : c.cr = l := by
  obtain ⟨⟨k, hk, k1, k2, k3⟩, _⟩ := hI.rp.own c hc h0
  obtain ⟨k', hk', j1, j2, _, j4⟩ := hI.rp.el.backed l t hw
  have := esafeM hI hS k hk k' hk' (by rw [k2, j2]; exact ht) (by rw [k1, k2]; exact k3) (by rw [j1, j2]; exact j4)
  rw [k1, j1] at this
  exact this

theorem creator_is_leaderM (hI : MInv x G) (hS : SideT x) {i : Nat} (hl : (x.node i).role = .leader)
    {c : CEntry} (hc : c ∈ x.cm.T) (ht : c.e.term = (x.node i).term) : c.cr = i :=
  creator_of_wonM hI hS (hI.rp.el.recorded i hl) hc ((core_of_minv hI).cr_ne_zero (i := i) (by rw [hl]; decide) hc ht) ht

theorem ldrCreatesM (hI : MInv x G) (hS : SideT x) : LdrCreates x.cm :=
  fun _ hl _ hc ht => creator_is_leaderM hI hS hl hc ht

theorem ack_on_leaderM (hI : MInv x G) (hS : SideT x) {i : Nat} (hl : (x.node i).role = .leader)
    {a : Ack} (ha : a ∈ acksG x G) (ht : a.term = (x.node i).term) :
    Holds (x.node i).log.entries a.index a.eterm :=
  (core_of_minv hI).ack_on_leader (ldrCreatesM hI hS) hl ha ht

theorem backed_leM (hI : MInv x G) (hS : SideT x) {i : Nat} (hl : (x.node i).role = .leader) :
    ∀ j m, Commit.Backed x.cm i j m → m ≤ (x.node i).log.entries.length :=
  (core_of_minv hI).backed_le (ldrCreatesM hI hS) (fun _ ha => List.mem_append_left _ ha) hl

theorem ciLeM (hI : MInv x G) (i : Nat) : (x.node i).commitIndex ≤ (x.node i).log.entries.length := by
  by_cases h0 : (x.node i).commitIndex = 0
  · omega
  · exact (hI.cmt.cc i _ (by omega) (Nat.le_refl _)).1

theorem lcCommitted (hI : MInv x G) (hS : SideT x) :
    ∀ m ∈ x.cm.committed, ∀ c ∈ x.cm.T, m.2 < c.e.term → Anc x.cm.T m (key c) := by
  intro m hm c hc hlt
  obtain ⟨r, hr, e⟩ := hI.recs.cover m hm
  rw [← e]; exact lcM hI hS r hr c hc (by rw [e]; exact hlt)

/-- leader completeness in the form `Commit.CoreI.reqok_key` / `keeps` ask for: a committed entry is a record of the tree,
and every record of a later term extends it -/
theorem hlcM (hI : MInv x G) (hS : SideT x) : ∀ m ∈ x.cm.committed,
    (∃ cm ∈ x.cm.T, key cm = m) ∧ ∀ c ∈ x.cm.T, m.2 < c.e.term → Anc x.cm.T m (key c) := by
  intro m hm
  refine ⟨?_, lcCommitted hI hS m hm⟩
  obtain ⟨r, hr, e⟩ := hI.recs.cover m hm
  obtain ⟨_, ⟨_, es, p, _, hm'⟩, _⟩ := hI.recs.recd r hr
  obtain ⟨c, hc, c1, c2, _⟩ := path_record p hm'
  exact ⟨c, hc, e ▸ key_eq.mpr ⟨c1, c2⟩⟩

theorem term_eq_of_anc (hI : MInv x G) {k t t' : Nat} {z : K} (h1 : Anc x.cm.T (k, t) z) (h2 : Anc x.cm.T (k, t') z) :
    t = t' :=
  congrArg Prod.snd ((h1.comparable (uniqM hI) h2 (Nat.le_refl _)).eq_of_index rfl)

/-- **an entry of a request agrees with every key of its index that lies below a commit record**: the record and the
entry the request was cut from lie on one path — by leader completeness if the request's term is above the record's,
else (the terms are equal) because the entries of one term lie on one path. -/
theorem sent_agrees_below_rec (hI : MInv x G) (hS : SideT x) {q : AppendReq} (hq : q ∈ x.cm.rp.sent) {e : Entry}
    (he : e ∈ q.entries) {r : Rec} (hr : r ∈ G.R) (hrq : r.m.2 ≤ q.term) {t : Nat} (hb : Anc x.cm.T (e.index, t) r.m) :
    t = e.term := by
  obtain ⟨c, hc, c1, c2, _⟩ := hI.sent.anc q hq
  have hec := c2 e he
  by_cases hlt : r.m.2 < q.term
  · have hmc := lcM hI hS r hr c hc (by rw [c1]; exact hlt)
    exact term_eq_of_anc hI (hb.trans (uniqM hI) hmc) hec
  · have hmt : r.m.2 = c.e.term := by rw [c1]; omega
    obtain ⟨_, ⟨_, es, p, _, hmh⟩, _⟩ := hI.recs.recd r hr
    obtain ⟨cm, hcm, cm1, cm2, _⟩ := path_record p hmh
    have hcmk : key cm = r.m := by unfold key; rw [cm1, cm2]
    have e1 : cm.e.term = c.e.term := by rw [cm2, hmt]
    by_cases hidx' : cm.e.index ≤ c.e.index
    · have := sameTermM hI hcm hc e1 hidx'
      rw [hcmk] at this
      exact term_eq_of_anc hI (hb.trans (uniqM hI) this) hec
    · have := sameTermM hI hc hcm e1.symm (by omega)
      rw [hcmk] at this
      exact term_eq_of_anc hI hb (hec.trans (uniqM hI) this)

theorem sent_index_pos (hI : MInv x G) {q : AppendReq} (hq : q ∈ x.cm.rp.sent) {e : Entry} (he : e ∈ q.entries) :
    1 ≤ e.index := by
  obtain ⟨j, hj, rfl⟩ := List.getElem_of_mem he
  rw [(hI.rp.sent q hq).idx j hj]; omega

/-- **a request that is not stale does not conflict with what the receiver has committed** -/
theorem reqokM (hI : MInv x G) (hS : SideT x) {i : Nat} {q : AppendReq} (hq : q ∈ x.cm.rp.sent)
    (hns : ¬ q.term < (x.node i).term) : NoConf (x.node i) q (x.node i).commitIndex :=
  (core_of_minv hI).reqok (hlcM hI hS) hq hns

/-- **a request that is not stale does not conflict with the receiver's log up to a protected index** -/
theorem protNoConf (hI : MInv x G) (hS : SideT x) {i k : Nat} {q : AppendReq} (hq : q ∈ x.cm.rp.sent)
    (hns : ¬ q.term < (x.node i).term) (hp : ProtG x G i k) : NoConf (x.node i) q k := by
  intro e he hle
  obtain ⟨hk1, hk2, hpr⟩ := hp
  have hbelow : Anc x.cm.T (e.index, termAt (x.node i).log.entries e.index) (k, termAt (x.node i).log.entries k) :=
    rancM hI.rp i ⟨sent_index_pos hI hq he, by omega, rfl⟩ ⟨hk1, hk2, rfl⟩ hle
  rcases hpr with hroot | ⟨r, hr, r1, r2⟩
  · obtain ⟨c, hc, _, c2, _⟩ := hI.sent.anc q hq
    have := hI.tree.rootA c hc
    rw [← hroot] at this
    exact term_eq_of_anc hI (hbelow.trans (uniqM hI) this) (c2 e he)
  · exact sent_agrees_below_rec hI hS hq he hr (by omega) (hbelow.trans (uniqM hI) r2)

end static

end MemberInv
end Raft
