/-
Node-level layer for commit safety ACROSS membership changes (Props/C02Member.lean): what `CommitRel` (`MClosed`, `nstep`)
proves for a fixed, stable configuration, for leader steps that may CHANGE the configuration.

`GClosed Bk Inv` is the instance "a change may be started" (`GClosed.toC`) of `CommitRel.CfgClosed`: a configuration entry
is appended and adopted at once (`leader.changeConfig`) only under the guards of `canChangeConfig` / `onChangeConfig`
(`CanChange`: the node's configuration is committed and an entry of its own term is committed); the commit index moves to
`majorityMatchIndex.1`, evaluated against `configs.latest` AT THAT MOMENT.
Its instance `LJ b B s` (relative to the state `b` a leader handler starts from) extends `CommitRel.LC` by what changes
with the configuration: the cached voter count / own entry are those of `configs.latest`; and, while nothing failed
(`Good`), `configs.latest` is the last configuration entry of the log (`CfgLast`), the list of COMMIT MOMENTS so far
(`CEvt`, `EvOK`: the configuration that was latest THEN and a majority of ITS voters, `majority_QM`) and the guards of
every configuration entry appended (`ChgOK`).
`leaderInit_lj`, `init_no_commit` (with more than one voter nothing is committed inside `leader.init`) and `nstepM` (the
summary `NStepM` of every operation other than an append request, `ChangeConfig` included) are what C02Member uses.
-/
import RaftVerif.Lemmas.CommitRel
import RaftVerif.Lemmas.ConfigRel
import RaftVerif.Lemmas.ShapeLeader
import RaftVerif.Lemmas.StepWalk

namespace Raft
namespace MemberCommit
open Node LogRel Replication CommitRel

structure GClosed (Bk : Nat → Nat → Prop) (Inv : Node → Prop) : Prop where
  panic : ∀ s site, Inv s → Inv (s.panic site)
  reply : ∀ s t r, Inv s → Inv (s.reply t r)
  point : ∀ s n, Inv s → Inv (s.point n)
  fsm : ∀ (s : Node) f, Inv s → Inv (s.withFsm f)
  popOrder : ∀ (s : Node), Inv s → Inv s.popOrder
  ldr : ∀ (s : Node) l, Inv s → LdrSub Bk s.ldr l → Inv (s.withLdr l)
  append : ∀ (s : Node) e, Inv s → e.index = s.lastLogIndex + 1 → e.term = s.term → e.typ ≠ etConfig →
    Inv (s.appendEntry e)
  appendCfg : ∀ (s : Node) e c, Inv s → CanChange s → e.index = s.lastLogIndex + 1 → e.term = s.term →
    e.config? = some c → Inv (adopt (s.appendEntry e) c)
  /-- a configuration entry was appended and then the model's recursion budget ran out -/
  appendCfgFail : ∀ (s : Node) e site, Inv s → CanChange s → e.index = s.lastLogIndex + 1 → e.term = s.term →
    e.typ = etConfig → Inv ((s.appendEntry e).panic site)
  commit : ∀ (s : Node) i, Inv s → i > s.commitIndex → i ≥ s.ldr.startIndex → i = s.majorityMatchIndex.1 →
    Inv ((s.commitLog i).setCommitIndexR i).1

namespace GClosed

variable {Bk : Nat → Nat → Prop} {Inv : Node → Prop} (h : GClosed Bk Inv)
include h

/-- the instance `Ch := True` of the closure principle of the leader block (`CommitRel.CfgClosed.block`) -/
theorem toC : CfgClosed True Bk Inv :=
  { h with appendCfg := fun _ => h.appendCfg, appendCfgFail := fun _ => h.appendCfgFail }

theorem addReplication_g (s : Node) (n : CNode) (hs : Inv s) : Inv (s.addReplication n) :=
  h.toC.addReplication_c s n hs

theorem storeEntry_g (f : Nat) (s : Node) (b) (hs : Inv s) (hb : BatchC True s b) : Inv (storeEntry f s b) :=
  h.toC.storeEntry_c (.of trivial) f s b hs hb

theorem checkConfigActions_g (f : Nat) (s : Node) (t c) (hs : Inv s) : Inv (checkConfigActions f s t c) :=
  h.toC.checkConfigActions_c (.of trivial) f s t c hs (Or.inl trivial)

end GClosed

def CfgLast (es : List Entry) (c : Config) : Prop :=
  (∃ e ∈ es, e.config? = some c) ∧ ∀ e ∈ es, e.typ = etConfig → e.index ≤ c.index

theorem cfgLast_append_plain {es : List Entry} {c : Config} {e : Entry} (h : CfgLast es c) (he : e.typ ≠ etConfig) :
    CfgLast (es ++ [e]) c := by
  obtain ⟨⟨x, hx, hxc⟩, h2⟩ := h
  refine ⟨⟨x, List.mem_append_left _ hx, hxc⟩, fun y hy ht => ?_⟩
  rcases List.mem_append.mp hy with hy | hy
  · exact h2 y hy ht
  · rw [List.mem_singleton.mp hy] at ht; exact absurd ht he

theorem cfgLast_append_cfg {es : List Entry} {c : Config} {e : Entry}
    (hb : ∀ x ∈ es, x.index ≤ es.length) (hi : e.index = es.length + 1) (he : e.config? = some c) :
    CfgLast (es ++ [e]) c := by
  obtain ⟨_, ci, _⟩ := Entry.config?_facts he
  refine ⟨⟨e, List.mem_append_right _ (List.mem_singleton_self _), he⟩, fun y hy _ => ?_⟩
  rcases List.mem_append.mp hy with hy | hy
  · have := hb y hy; omega
  · rw [List.mem_singleton.mp hy]; omega

theorem CfgLast.index_le {es : List Entry} {c : Config} (h : CfgLast es c) (hb : ∀ x ∈ es, x.index ≤ es.length) :
    c.index ≤ es.length := by
  obtain ⟨⟨x, hx, hxc⟩, _⟩ := h
  obtain ⟨_, ci, _⟩ := Entry.config?_facts hxc
  have := hb x hx; omega

theorem contig_index_le {es : List Entry} (hc : ∀ k (_ : k < es.length), es[k].index = k + 1) :
    ∀ x ∈ es, 1 ≤ x.index ∧ x.index ≤ es.length := by
  intro x hx
  obtain ⟨k, hk, rfl⟩ := List.getElem_of_mem hx
  rw [hc k hk]; omega

theorem mem_take_iff_index_le {es : List Entry} (hc : ∀ k (_ : k < es.length), es[k].index = k + 1) {e : Entry}
    {n : Nat} : e ∈ es.take n ↔ e ∈ es ∧ e.index ≤ n := by
  constructor
  · intro h
    refine ⟨List.mem_of_mem_take h, ?_⟩
    obtain ⟨k, hk, rfl⟩ := List.getElem_of_mem h
    rw [List.length_take] at hk
    rw [List.getElem_take, hc k (by omega)]
    omega
  · rintro ⟨h, hn⟩
    obtain ⟨k, hk, rfl⟩ := List.getElem_of_mem h
    rw [hc k hk] at hn
    rw [List.mem_take_iff_getElem]
    exact ⟨k, by rw [Nat.lt_min]; exact ⟨by omega, hk⟩, rfl⟩

/-- a moment at which the commit index of the leader moved (`leader.setCommitIndex`) -/
structure CEvt where
  /-- the index it reached -/
  ci : Nat
  /-- the length of the leader's log at that moment -/
  len : Nat
  /-- the latest configuration of the leader at that moment -/
  cfg : Config
  /-- the voters that had reached the index -/
  Q : List Nat

/-- **what is known of a commit moment**, relative to the state `b` the handler started from and the log `es` the node
has now: the index moved beyond `b`'s commit index, to an index at or beyond `startIndex` (so: an entry of the
leader's own term) within the log of that moment; `cfg` was THE LAST CONFIGURATION ENTRY OF THE LOG AT THAT MOMENT, and a
majority `Q` of ITS voters had reached the index — the leader itself, the others by a backed match index -/
def EvOK (b : Node) (B : Nat → Nat → Prop) (es : List Entry) (ev : CEvt) : Prop :=
  b.commitIndex < ev.ci ∧ b.ldr.startIndex ≤ ev.ci ∧ ev.ci ≤ ev.len ∧ b.log.entries.length ≤ ev.len ∧
  ev.len ≤ es.length ∧ CfgLast (es.take ev.len) ev.cfg ∧ ev.Q.Sublist ev.cfg.voters ∧
  2 * ev.Q.length > ev.cfg.voters.length ∧ ∀ j ∈ ev.Q, j = b.nid ∨ ∃ m, ev.ci ≤ m ∧ B j m

theorem EvOK.mono {b : Node} {B : Nat → Nat → Prop} {es r : List Entry} {ev : CEvt} (h : EvOK b B es ev) :
    EvOK b B (es ++ r) ev := by
  obtain ⟨a1, a2, a3, a4, a5, a6, a7⟩ := h
  refine ⟨a1, a2, a3, a4, by rw [List.length_append]; omega, ?_, a7⟩
  rw [List.take_append_of_le_length a5]; exact a6

/-- **what is known of a configuration entry the leader appended at index `k`**: `P` was the last configuration entry
of the log before it; at that moment the leader's commit index `ci` had reached `startIndex` (an entry of its own term
was committed) and `P` (the previous configuration was committed); and `ci` was the commit index of `b`, or the index of
a commit moment `ev` of this handler that happened when the log was still shorter than `k` -/
def ChgOK (b : Node) (es : List Entry) (L : List CEvt) (k : Nat) : Prop :=
  ∃ P ci, CfgLast (es.take (k - 1)) P ∧ b.ldr.startIndex ≤ ci ∧ P.index ≤ ci ∧
    (ci = b.commitIndex ∨ ∃ ev ∈ L, ev.ci = ci ∧ ev.len < k)

theorem ChgOK.mono {b : Node} {es r : List Entry} {L L' : List CEvt} {k : Nat} (h : ChgOK b es L k)
    (hk : k - 1 ≤ es.length) (hL : ∀ ev ∈ L, ev ∈ L') : ChgOK b (es ++ r) L' k := by
  obtain ⟨P, ci, a1, a2, a3, a4⟩ := h
  refine ⟨P, ci, by rw [List.take_append_of_le_length hk]; exact a1, a2, a3, a4.imp id ?_⟩
  rintro ⟨ev, hev, h1, h2⟩
  exact ⟨ev, hL ev hev, h1, h2⟩

/-- the part of the invariant that is claimed while nothing has failed (`panicked = none`): the latest configuration
is the last configuration entry of the log; a committed configuration lies below `startIndex` or at or below the commit
index; the commit moments so far (newest first), each with its majority; every configuration entry appended since `b`
was appended under the guards -/
structure Good (b : Node) (B : Nat → Nat → Prop) (es : List Entry) (fl : Nat) (cfgs : Configs) (ci : Nat) : Prop where
  cl : CfgLast es cfgs.latest
  cc : cfgs.isCommitted = true → cfgs.latest.index < b.ldr.startIndex ∨ cfgs.latest.index ≤ ci
  /-- `configs` is untouched, or the latest configuration is covered by the commit index, or it is PENDING:
  `configs.committed` is the configuration entry before it -/
  cmtd : cfgs = b.configs ∨ cfgs.latest.index ≤ ci ∨
    (cfgs.committed.index < cfgs.latest.index ∧ CfgLast (es.take (cfgs.latest.index - 1)) cfgs.committed)
  evs : ∃ L : List CEvt, (∀ ev ∈ L, EvOK b B es ev ∧ ev.ci ≤ fl) ∧
    L.Pairwise (fun n o => o.ci < n.ci ∧ o.len ≤ n.len) ∧
    ci = ((L.head?).map (·.ci)).getD b.commitIndex ∧
    ∀ e ∈ es, b.log.entries.length < e.index → e.typ = etConfig → ChgOK b es L e.index

/-- what the handlers need to know about the state `b` they start from -/
structure MBase (b : Node) (B : Nat → Nat → Prop) : Prop where
  nwf : NWF b
  lwf : C06.LogWF b.log
  wf : C05.VoteWF b
  role : b.role = .leader
  start : 1 ≤ b.ldr.startIndex
  own : ∀ k, b.ldr.startIndex ≤ k → k ≤ b.log.entries.length → termAt b.log.entries k = b.term
  hB : ∀ j m, B j m → m ≤ b.log.entries.length
  cache : b.ldr.numVoters = b.configs.latest.numVoters ∧ b.ldr.node = b.configs.latest.get b.nid
  cl : CfgLast b.log.entries b.configs.latest
  cc : b.configs.isCommitted = true → b.configs.latest.index < b.ldr.startIndex ∨ b.configs.latest.index ≤ b.commitIndex
  cile : b.commitIndex ≤ b.log.entries.length

/-- Relative to `b` (a leader; the state a leader handler starts from) and the backing predicate `B` for match
indexes — WITHOUT a fixed configuration: `CommitRel.LC` and what is said of role, configuration and commit index. -/
structure LJ (b : Node) (B : Nat → Nat → Prop) (s : Node) : Prop extends LC b B s where
  /-- the node is still leader, unless it stepped down when a commit made a configuration without it effective -/
  role : s.role = .leader ∨ (s.role = .follower ∧ b.commitIndex < s.commitIndex)
  cache : s.ldr.numVoters = s.configs.latest.numVoters ∧ s.ldr.node = s.configs.latest.get s.nid
  cim : b.commitIndex ≤ s.commitIndex
  /-- while nothing was appended the latest configuration is `b`'s, and if that was committed it still is -/
  keep : s.log.entries.length = b.log.entries.length → s.configs.latest = b.configs.latest ∧
    (b.configs.isCommitted = true → s.configs.isCommitted = true)
  good : s.panicked = none → Good b B s.log.entries s.log.flushed s.configs s.commitIndex

/-- the fields `LJ` looks at (`panicked` apart) -/
def jobs (s : Node) : (NLog × Nat × Nat × Nat × List SnapFile × Nat × Nat × List (String × Durable)) ×
    Role × Nat × Nat × Nat × Configs × Leader × Nat :=
  (Core s, s.role, s.nid, s.votedFor, s.durVote, s.configs, s.ldr, s.commitIndex)

theorem lj_congr {b s s' : Node} {B : Nat → Nat → Prop} (h : LJ b B s) (e : jobs s' = jobs s)
    (hp : s'.panicked = none → s.panicked = none) : LJ b B s' := by
  unfold jobs at e
  simp only [Prod.mk.injEq] at e
  obtain ⟨e1, f1, f2, f3, f4, f5, f6, f7⟩ := e
  have hc : Core s' = Core s := e1
  unfold Core at e1
  simp only [Prod.mk.injEq] at e1
  exact ⟨lc_congr h.toLC (by unfold cobs; rw [hc, f2, f3, f4, f6]), by rw [f1, f7]; exact h.role,
    by rw [f6, f5, f2]; exact h.cache, by rw [f7]; exact h.cim, by rw [e1.1, f5]; exact h.keep,
    fun hn => by rw [e1.1, f5, f7]; exact h.good (hp hn)⟩

theorem lj_refl {b : Node} {B : Nat → Nat → Prop} (hb : MBase b B)
    (hmi : ∀ r ∈ b.ldr.repls, r.matchIndex = 0 ∨ B r.id r.matchIndex) : LJ b B b :=
  ⟨lc_refl hb.nwf hb.lwf hmi, Or.inl hb.role, hb.cache, Nat.le_refl _, fun _ => ⟨rfl, id⟩,
    fun _ => ⟨hb.cl, hb.cc, Or.inl rfl, [], (fun ev hev => by cases hev), List.Pairwise.nil, rfl,
      fun e he hlt => absurd (contig_index_le hb.nwf.contig e he).2 (by omega)⟩⟩

theorem lj_wf {b s : Node} {B : Nat → Nat → Prop} (hb : MBase b B) (h : LJ b B s) : C05.VoteWF s :=
  lc_wf hb.wf h.toLC

theorem lj_len {b s : Node} {B : Nat → Nat → Prop} (h : LJ b B s) : b.log.entries.length ≤ s.log.entries.length :=
  lc_len h.toLC

theorem lj_panic {b s : Node} {B : Nat → Nat → Prop} (site : String) (h : LJ b B s) : LJ b B (s.panic site) :=
  lj_congr h (by unfold jobs; rw [core_panic]; unfold Node.panic; split <;> rfl)
    (fun hn => absurd hn (Node.panic_panicked_ne s site))

theorem lj_reply {b s : Node} {B : Nat → Nat → Prop} (t : Nat) (r : String) (h : LJ b B s) : LJ b B (s.reply t r) :=
  lj_congr h (by unfold jobs; rw [core_reply]; unfold Node.reply; split <;> rfl)
    (fun hn => (CfgRel.q_reply s t r).pan' hn)

theorem setCommitIndexR_gen (s : Node) (i : Nat) :
    (s.setCommitIndexR i).1.commitIndex = i ∧ Core (s.setCommitIndexR i).1 = Core s ∧
    ((s.setCommitIndexR i).1.role = s.role ∨ (s.setCommitIndexR i).1.role = .follower) ∧
    (s.setCommitIndexR i).1.nid = s.nid ∧
    (s.setCommitIndexR i).1.votedFor = s.votedFor ∧ (s.setCommitIndexR i).1.durVote = s.durVote ∧
    (s.setCommitIndexR i).1.ldr = s.ldr ∧ (s.setCommitIndexR i).1.panicked = s.panicked ∧
    (((s.setCommitIndexR i).1.configs = s.configs ∧ ¬ (s.configs.isCommitted = false ∧ s.configs.latest.index ≤ i)) ∨
     (s.configs.isCommitted = false ∧ s.configs.latest.index ≤ i ∧
      (s.setCommitIndexR i).1.configs = ⟨s.configs.latest, s.configs.latest⟩)) := by
  have shape := Node.setCommitIndexR_shape s i
  obtain ⟨k1, k2, k3, k4, _⟩ := Node.setCommitIndexR_spec s i
  refine ⟨C19.setCommitIndexR_commitIndex s i, core_setCommitIndexR s i, k4.imp id (·.2), by rw [shape], by rw [shape],
    by rw [shape], by rw [shape], by rw [shape], ?_⟩
  cases h : (s.setCommitIndexR i).2 with
  | true => exact Or.inr ⟨(k1.mp h).1, (k1.mp h).2, k2 h⟩
  | false => exact Or.inl ⟨(k3 h).1, fun hc => by rw [k1.mpr hc] at h; cases h⟩

theorem good_append_plain {b : Node} {B : Nat → Nat → Prop} {es : List Entry} {fl fl' : Nat} {cfgs : Configs} {ci : Nat}
    {e : Entry} (h : Good b B es fl cfgs ci) (hfl : fl ≤ fl') (he : e.typ ≠ etConfig)
    (hb : ∀ x ∈ es, x.index ≤ es.length) : Good b B (es ++ [e]) fl' cfgs ci := by
  obtain ⟨a1, a2, a3, L, l1, l2, l3, l4⟩ := h
  have hlat0 := a1.index_le hb
  refine ⟨cfgLast_append_plain a1 he, a2,
    a3.imp id (Or.imp id (fun ⟨p1, p2⟩ => ⟨p1, by rw [List.take_append_of_le_length (by omega)]; exact p2⟩)),
    L, fun ev hev => ⟨(l1 ev hev).1.mono, Nat.le_trans (l1 ev hev).2 hfl⟩,
    l2, l3, fun x hx hlt ht => ?_⟩
  rcases List.mem_append.mp hx with hx | hx
  · exact (l4 x hx hlt ht).mono (by have := hb x hx; omega) (fun _ h => h)
  · rw [List.mem_singleton.mp hx] at ht; exact absurd ht he

theorem isCommitted_false {old c : Config} (h : old.index < c.index) : (⟨old, c⟩ : Configs).isCommitted = false := by
  unfold Configs.isCommitted
  simp only [beq_eq_false_iff_ne, ne_eq]
  omega

theorem good_append_cfg {b : Node} {B : Nat → Nat → Prop} {es : List Entry} {fl fl' : Nat} {cfgs : Configs} {ci : Nat}
    {e : Entry} {c : Config} (h : Good b B es fl cfgs ci) (hfl : fl ≤ fl') (hcom : cfgs.isCommitted = true)
    (hst : b.ldr.startIndex ≤ ci) (hi : e.index = es.length + 1) (he : e.config? = some c)
    (hb : ∀ x ∈ es, x.index ≤ es.length) : Good b B (es ++ [e]) fl' ⟨cfgs.latest, c⟩ ci := by
  obtain ⟨a1, a2, _, L, l1, l2, l3, l4⟩ := h
  obtain ⟨_, hci, _⟩ := Entry.config?_facts he
  have hlat := a1.index_le hb
  refine ⟨cfgLast_append_cfg hb hi he, fun hc => ?_,
    Or.inr (Or.inr ⟨by show cfgs.latest.index < c.index; omega, by
      show CfgLast ((es ++ [e]).take (c.index - 1)) cfgs.latest
      rw [show c.index - 1 = es.length by omega, List.take_left']
      · exact a1
      · rfl⟩), L,
    fun ev hev => ⟨(l1 ev hev).1.mono, Nat.le_trans (l1 ev hev).2 hfl⟩, l2, l3, fun x hx hlt ht => ?_⟩
  · rw [isCommitted_false (by show cfgs.latest.index < c.index; omega)] at hc; cases hc
  · rcases List.mem_append.mp hx with hx | hx
    · exact (l4 x hx hlt ht).mono (by have := hb x hx; omega) (fun _ h => h)
    · rw [List.mem_singleton.mp hx, hi]
      refine ⟨cfgs.latest, ci, ?_, hst, ?_, ?_⟩
      · rw [Nat.add_sub_cancel, List.take_left']; exact a1; rfl
      · rcases a2 hcom with h1 | h1 <;> omega
      · cases L with
        | nil => left; exact l3
        | cons ev L' =>
          right
          refine ⟨ev, List.mem_cons_self .., l3.symm, ?_⟩
          have := (l1 ev (List.mem_cons_self ..)).1.2.2.2.2.1
          omega

/-- the state after the commit index moved to `i` under the majority rule -/
theorem good_commit {b : Node} {B : Nat → Nat → Prop} {es : List Entry} {fl fl' : Nat} {cfgs cfgs' : Configs} {ci i : Nat}
    {Q : List Nat} (h : Good b B es fl cfgs ci) (hfl : fl ≤ fl') (hbc : b.commitIndex ≤ ci) (hi : ci < i)
    (hst : b.ldr.startIndex ≤ i) (hlen : i ≤ es.length) (hbl : b.log.entries.length ≤ es.length) (hifl : i ≤ fl')
    (hQ1 : Q.Sublist cfgs.latest.voters) (hQ2 : 2 * Q.length > cfgs.latest.voters.length)
    (hQ3 : ∀ j ∈ Q, j = b.nid ∨ ∃ m, i ≤ m ∧ B j m)
    (hcf : (cfgs' = cfgs ∧ ¬ (cfgs.isCommitted = false ∧ cfgs.latest.index ≤ i)) ∨
      (cfgs.isCommitted = false ∧ cfgs.latest.index ≤ i ∧ cfgs' = ⟨cfgs.latest, cfgs.latest⟩)) :
    Good b B es fl' cfgs' i := by
  obtain ⟨a1, a2, a3, L, l1, l2, l3, l4⟩ := h
  have hlat : cfgs'.latest = cfgs.latest := by
    rcases hcf with ⟨e, _⟩ | ⟨_, _, e⟩ <;> rw [e]
  -- every earlier moment lies at or below the old commit index
  have hold : ∀ ev ∈ L, ev.ci ≤ ci := by
    intro ev hev
    cases L with
    | nil => cases hev
    | cons ev0 L' =>
      have e0 : ci = ev0.ci := l3
      rcases List.mem_cons.mp hev with e | e
      · rw [e, e0]; exact Nat.le_refl _
      · have := (List.pairwise_cons.mp l2).1 ev e
        omega
  have hcm : cfgs' = b.configs ∨ cfgs'.latest.index ≤ i ∨
      (cfgs'.committed.index < cfgs'.latest.index ∧ CfgLast (es.take (cfgs'.latest.index - 1)) cfgs'.committed) := by
    rcases hcf with ⟨e, _⟩ | ⟨_, h2, e⟩
    · rw [e]
      exact a3.imp id (Or.imp (fun h => by omega) id)
    · rw [e]; exact Or.inr (Or.inl h2)
  refine ⟨by rw [hlat]; exact a1, fun hc => ?_, hcm, ⟨i, es.length, cfgs.latest, Q⟩ :: L, ?_, ?_, rfl, ?_⟩
  · rw [hlat]
    rcases hcf with ⟨e, hn⟩ | ⟨_, h2, _⟩
    · rw [e] at hc
      rcases a2 hc with h1 | h1
      · exact Or.inl h1
      · exact Or.inr (by omega)
    · exact Or.inr h2
  · intro ev hev
    rcases List.mem_cons.mp hev with e | e
    · subst e
      exact ⟨⟨by show b.commitIndex < i; omega, hst, hlen, hbl, Nat.le_refl _, by
        show CfgLast (es.take es.length) cfgs.latest
        rw [List.take_length]; exact a1, hQ1, hQ2, hQ3⟩, hifl⟩
    · exact ⟨(l1 ev e).1, Nat.le_trans (l1 ev e).2 hfl⟩
  · refine List.pairwise_cons.mpr ⟨fun ev hev => ?_, l2⟩
    have := hold ev hev
    have := (l1 ev hev).1.2.2.2.2.1
    exact ⟨by show ev.ci < i; omega, this⟩
  · intro x hx hlt ht
    obtain ⟨P, c0, p1, p2, p3, p4⟩ := l4 x hx hlt ht
    exact ⟨P, c0, p1, p2, p3, p4.imp id (fun ⟨ev, hev, q1, q2⟩ => ⟨ev, List.mem_cons_of_mem _ hev, q1, q2⟩)⟩

theorem lj_point {b s : Node} {B : Nat → Nat → Prop} (n : String) (h : LJ b B s) : LJ b B (s.point n) :=
  { h with toLC := lc_point n h.toLC }

theorem lj_ldr {b s : Node} {B : Nat → Nat → Prop} (l : Leader) (h : LJ b B s) (hl : LdrSub B s.ldr l) :
    LJ b B (s.withLdr l) :=
  { h with toLC := lc_ldr l h.toLC hl, cache := ⟨hl.2.1.trans h.cache.1, hl.1.trans h.cache.2⟩ }

/-- the part of an append that does not depend on the kind of entry -/
theorem lj_appendRaw {b s : Node} {B : Nat → Nat → Prop} (e : Entry) (roll : Bool) (cfgs : Configs) (l : Leader)
    (pan : Option String) (h : LJ b B s)
    (hi : e.index = s.lastLogIndex + 1) (ht : e.term = s.term)
    (hl : l.startIndex = s.ldr.startIndex ∧ l.repls = s.ldr.repls)
    (hcache : l.numVoters = cfgs.latest.numVoters ∧ l.node = cfgs.latest.get s.nid)
    (hgood : pan = none → Good b B (s.log.entries ++ [e]) (s.log.append e roll).flushed cfgs s.commitIndex) :
    LJ b B { s with log := s.log.append e roll, lastLogIndex := e.index, lastLogTerm := e.term, configs := cfgs,
                    ldr := l, panicked := pan } := by
  obtain ⟨_, p2⟩ := append_parts s.log e roll
  obtain ⟨w1, w2⟩ := logwf_append s.log e roll h.lwf
  refine ⟨lc_log h.toLC (nwf_append h.nwf e roll hi rfl rfl rfl rfl rfl) w1 w2 (Or.inr ⟨e, p2, ht⟩) rfl hl, h.role,
    hcache, h.cim, fun hlen => ?_, fun hp => ?_⟩
  · exfalso
    have hlen' : (s.log.append e roll).entries.length = b.log.entries.length := hlen
    have := lc_len h.toLC
    rw [p2, List.length_append] at hlen'
    simp at hlen'
    omega
  · show Good b B (s.log.append e roll).entries (s.log.append e roll).flushed cfgs s.commitIndex
    rw [p2]; exact hgood hp

theorem lj_assert {b s : Node} {B : Nat → Nat → Prop} (c : Bool) (site : String) (h : LJ b B s) :
    LJ b B (s.assert c site) :=
  assert_of (fun _ site h => lj_panic site h) s c site h

theorem lj_append {b s : Node} {B : Nat → Nat → Prop} (e : Entry) (h : LJ b B s)
    (hi : e.index = s.lastLogIndex + 1) (ht : e.term = s.term) (hty : e.typ ≠ etConfig) :
    LJ b B (s.appendEntry e) := by
  unfold Node.appendEntry
  extract_lets s1 roll
  have h1 : LJ b B s1 := lj_assert _ _ h
  have e1 := assert_fields s (e.index == s.lastLogIndex + 1) "assert.appendEntry"
  have := lj_appendRaw e roll s1.configs s1.ldr s1.panicked h1 (by rw [e1.2.1]; exact hi)
    (by rw [assert_term]; exact ht) ⟨rfl, rfl⟩ h1.cache
    (fun hp => good_append_plain (h1.good hp) (logwf_append s1.log e roll h1.lwf).2 hty
      (fun x hx => (contig_index_le h1.nwf.contig x hx).2))
  exact this

theorem lj_appendCfg {b s : Node} {B : Nat → Nat → Prop} (e : Entry) (c : Config) (h : LJ b B s) (hc : CanChange s)
    (hi : e.index = s.lastLogIndex + 1) (ht : e.term = s.term) (he : e.config? = some c) :
    LJ b B (adopt (s.appendEntry e) c) := by
  let s1 := s.assert (e.index == s.lastLogIndex + 1) "assert.appendEntry"
  let roll := s1.rollAt.contains (e.index - 1) && s1.log.lastSegPrev != e.index - 1
  have h1 : LJ b B s1 := lj_assert _ _ h
  have e1 := assert_fields s (e.index == s.lastLogIndex + 1) "assert.appendEntry"
  have hnid : s1.nid = s.nid := (CfgRel.q_assert s _ _).nid
  have hX := lj_appendRaw e roll ⟨s1.configs.latest, c⟩ { s1.ldr with node := c.get s1.nid, numVoters := c.numVoters }
    s1.panicked h1 (by rw [e1.2.1]; exact hi) (by rw [assert_term]; exact ht) ⟨rfl, rfl⟩ ⟨rfl, rfl⟩
    (fun hp => by
      have hg := h1.good hp
      have hcom : s1.configs.isCommitted = true := by rw [e1.2.2.2.2.2.2.2]; exact hc.1
      have hst : b.ldr.startIndex ≤ s1.commitIndex := by rw [e1.2.2.2.1, ← h.start]; exact hc.2
      exact good_append_cfg hg (logwf_append s1.log e roll h1.lwf).2 hcom hst
        (by rw [hi, ← e1.2.1, h1.nwf.last]) he (fun x hx => (contig_index_le h1.nwf.contig x hx).2))
  refine lj_congr hX ?_ (fun hp => ?_)
  · unfold jobs Core adopt Node.changeConfigR Node.appendEntry Node.withLdr Node.setLeader
    dsimp only
    split <;> rfl
  · have : (adopt (s.appendEntry e) c).panicked = s1.panicked := by
      unfold adopt Node.changeConfigR Node.appendEntry Node.withLdr Node.setLeader
      dsimp only
      split <;> rfl
    rw [this] at hp
    exact hp

theorem lj_appendCfgFail {b s : Node} {B : Nat → Nat → Prop} (e : Entry) (site : String) (h : LJ b B s)
    (hi : e.index = s.lastLogIndex + 1) (ht : e.term = s.term) :
    LJ b B ((s.appendEntry e).panic site) := by
  let s1 := s.assert (e.index == s.lastLogIndex + 1) "assert.appendEntry"
  let roll := s1.rollAt.contains (e.index - 1) && s1.log.lastSegPrev != e.index - 1
  have h1 : LJ b B s1 := lj_assert _ _ h
  have e1 := assert_fields s (e.index == s.lastLogIndex + 1) "assert.appendEntry"
  have hX := lj_appendRaw e roll s1.configs s1.ldr (some site) h1 (by rw [e1.2.1]; exact hi)
    (by rw [assert_term]; exact ht) ⟨rfl, rfl⟩ h1.cache (fun hp => by cases hp)
  refine lj_congr hX ?_ (fun hp => absurd hp (Node.panic_panicked_ne _ site))
  unfold jobs Core Node.panic Node.appendEntry
  dsimp only
  split <;> rfl

/-- **the majority behind the index `majorityMatchIndex` selects** — of the voters of `configs.latest` AS IT IS NOW: a
sublist `Q` of its voter list, more than half of it; each member is the leader itself (then the index is within its
log) or a voter whose replication carries a backed match index at or above the index. Needs only that the leader's
cached voter count and own entry are current. -/
theorem majority_QM (s : Node) (B : Nat → Nat → Prop)
    (hmi : ∀ r ∈ s.ldr.repls, r.matchIndex = 0 ∨ B r.id r.matchIndex)
    (hcache : s.ldr.numVoters = s.configs.latest.numVoters ∧ s.ldr.node = s.configs.latest.get s.nid)
    (hi : 1 ≤ s.majorityMatchIndex.1) :
    ∃ Q : List Nat, Q.Sublist s.configs.latest.voters ∧
      2 * Q.length > s.configs.latest.voters.length ∧
      ∀ j ∈ Q, (j = s.nid ∧ s.majorityMatchIndex.1 ≤ s.lastLogIndex) ∨
        ∃ m, s.majorityMatchIndex.1 ≤ m ∧ B j m := by
  by_cases hfast : s.ldr.numVoters = 1 ∧ s.ldr.node.voter = true
  · have hm : s.majorityMatchIndex.1 = s.lastLogIndex := by
      unfold Node.majorityMatchIndex; rw [if_pos hfast]
    have hself : s.nid ∈ s.configs.latest.voters := by
      apply C01Sys.isVoter_mem_voters
      rw [← CfgRel.get_voter_eq_isVoter, ← hcache.2]; exact hfast.2
    refine ⟨[s.nid], List.singleton_sublist.mpr hself, ?_, ?_⟩
    · rw [voters_length, ← hcache.1, hfast.1, List.length_singleton]; omega
    · intro j hj
      exact Or.inl ⟨List.mem_singleton.mp hj, by rw [hm]; exact Nat.le_refl _⟩
  · have hv : s.configs.latest.numVoters ≠ 0 := by
      intro h0
      have : s.voterMatches = [] := List.eq_nil_of_length_eq_zero (by rw [C06.voterMatches_length, h0])
      have hz : s.majorityMatchIndex.1 = 0 := by
        unfold Node.majorityMatchIndex
        rw [if_neg hfast]
        dsimp only
        rw [this]
        simp
      omega
    have hmaj := C06.commit_index_has_majority s hfast hv
    generalize s.majorityMatchIndex.1 = N at hi hmaj ⊢
    let f : CNode → Nat := fun n =>
      if n.id = s.nid then s.lastLogIndex else ((s.findRepl? n.id).map (·.matchIndex)).getD 0
    let g : CNode → Bool := fun n => decide (f n ≥ N)
    have hvm : s.voterMatches = (s.configs.latest.nodes.filter (·.voter)).map f := rfl
    have hcount : s.voterMatches.countP (fun m => decide (m ≥ N)) =
        ((s.configs.latest.nodes.filter (·.voter)).filter g).length := by
      rw [hvm, List.countP_map, List.countP_eq_length_filter]
      rfl
    refine ⟨((s.configs.latest.nodes.filter (·.voter)).filter g).map (·.id), ?_, ?_, ?_⟩
    · exact (List.filter_sublist).map _
    · rw [List.length_map, ← hcount, voters_length]; exact hmaj
    · intro j hj
      obtain ⟨n, hn, rfl⟩ := List.mem_map.mp hj
      have hgn : f n ≥ N := by
        have := (List.mem_filter.mp hn).2
        simpa [g] using this
      by_cases hid : n.id = s.nid
      · left
        refine ⟨hid, ?_⟩
        have : f n = s.lastLogIndex := by show (if n.id = s.nid then _ else _) = _; rw [if_pos hid]
        omega
      · right
        have hf : f n = ((s.findRepl? n.id).map (·.matchIndex)).getD 0 := by
          show (if n.id = s.nid then _ else _) = _; rw [if_neg hid]
        cases hr : s.findRepl? n.id with
        | none => rw [hf, hr] at hgn; simp at hgn; omega
        | some r =>
          rw [hf, hr] at hgn
          simp only [Option.map_some, Option.getD_some] at hgn
          obtain ⟨hmem, hrid⟩ := findRepl_mem hr
          rcases hmi r hmem with h0 | hB
          · omega
          · exact ⟨r.matchIndex, hgn, by rw [← hrid]; exact hB⟩

theorem lj_commit {b s : Node} {B : Nat → Nat → Prop} (hb : MBase b B) (i : Nat) (h : LJ b B s)
    (hi : i > s.commitIndex) (hst : i ≥ s.ldr.startIndex) (hm : i = s.majorityMatchIndex.1) :
    LJ b B ((s.commitLog i).setCommitIndexR i).1 := by
  -- the majority, read off the state before the flush
  have hQ := majority_QM s B h.mi h.cache (by rw [← hm]; omega)
  rw [← hm, h.nid] at hQ
  obtain ⟨Q, q1, q2, q4⟩ := hQ
  obtain ⟨es, he, _⟩ := h.ext
  have hlen : i ≤ s.log.entries.length := by
    have hne : Q ≠ [] := by intro e; rw [e] at q2; simp at q2
    obtain ⟨j, hj⟩ := List.exists_mem_of_ne_nil Q hne
    rcases q4 j hj with ⟨_, hle⟩ | ⟨m, hle, hB⟩
    · rw [← h.nwf.last]; exact hle
    · have := hb.hB j m hB
      rw [he, List.length_append]; omega
  -- flush
  obtain ⟨w1, w2, w3⟩ := logwf_commitN s.log i h.lwf
  obtain ⟨c1, c2⟩ := commitN_parts s.log i
  have hifl : i ≤ (s.log.commitN i).flushed := by
    have hl : s.log.last = s.log.entries.length := by unfold NLog.last; rw [h.nwf.prev]; omega
    rw [hl] at w3
    omega
  have h0 : LJ b B { s with log := s.log.commitN i } :=
    { h with
      toLC := lc_log h.toLC (nwf_same_entries h.nwf c1 c2 rfl rfl rfl rfl) w1 w2 (Or.inl c2) rfl ⟨rfl, rfl⟩
      keep := by show (s.log.commitN i).entries.length = _ → _; rw [c2]; exact h.keep
      good := fun hp => by
        show Good b B (s.log.commitN i).entries (s.log.commitN i).flushed s.configs s.commitIndex
        rw [c2]
        obtain ⟨g1, g2, g3, L, l1, l2, l3, l4⟩ := h.good hp
        exact ⟨g1, g2, g3, L, fun ev hev => ⟨(l1 ev hev).1, Nat.le_trans (l1 ev hev).2 w2⟩, l2, l3, l4⟩ }
  have h1 : LJ b B (s.commitLog i) := lj_point "commitLog" h0
  obtain ⟨v1, v2, v3, v4, v5, v6, v7, v8, v9⟩ := setCommitIndexR_gen (s.commitLog i) i
  have hcore := v2
  unfold Core at hcore
  simp only [Prod.mk.injEq] at hcore
  have hlog : ((s.commitLog i).setCommitIndexR i).1.log = s.log.commitN i := hcore.1
  have hcfl : ((s.commitLog i).setCommitIndexR i).1.configs.latest = s.configs.latest := by
    rcases v9 with ⟨e, _⟩ | ⟨_, _, e⟩ <;> rw [e] <;> rfl
  refine ⟨lc_congr h1.toLC (by unfold cobs; rw [v2, v4, v5, v6, v7]), ?_, ?_, ?_, ?_, ?_⟩
  · have hbc : b.commitIndex < i := by have := h.cim; omega
    rcases v3 with e | e
    · rw [e, v1]
      rcases h1.role with r | r
      · exact Or.inl r
      · exact Or.inr ⟨r.1, hbc⟩
    · rw [v1]; exact Or.inr ⟨e, hbc⟩
  · rw [v7, hcfl, v4]; exact h1.cache
  · rw [v1]
    have : b.commitIndex ≤ s.commitIndex := h.cim
    omega
  · intro hl
    rw [hlog] at hl
    obtain ⟨b1, b2⟩ := h1.keep hl
    refine ⟨hcfl.trans b1, fun hbc => ?_⟩
    have hsc := b2 hbc
    rcases v9 with ⟨e, _⟩ | ⟨e, _, _⟩
    · rw [e]; exact hsc
    · have e' : s.configs.isCommitted = false := e
      have hsc' : s.configs.isCommitted = true := hsc
      rw [hsc'] at e'; cases e'
  · intro hp
    rw [v8] at hp
    rw [hlog, v1]
    have hg := h0.good hp
    have hbl : b.log.entries.length ≤ (s.log.commitN i).entries.length := by rw [c2]; exact lj_len h
    exact good_commit (Q := Q) hg (Nat.le_refl _) h.cim hi (by rw [← h.start]; exact hst) (by rw [c2]; exact hlen) hbl
      hifl q1 q2 (fun j hj => (q4 j hj).imp (fun x => x.1) id) v9

theorem lj_closed (b : Node) (B : Nat → Nat → Prop) (hb : MBase b B) : GClosed B (LJ b B) where
  panic := fun _ site h => lj_panic site h
  reply := fun _ t r h => lj_reply t r h
  point := fun _ n h => lj_point n h
  fsm := fun _ _ h => lj_congr h rfl id
  popOrder := fun _ h => lj_congr h rfl id
  ldr := fun _ l h hl => lj_ldr l h hl
  append := fun _ e h hi ht hty => lj_append e h hi ht hty
  appendCfg := fun _ e c h hc hi ht he => lj_appendCfg e c h hc hi ht he
  appendCfgFail := fun _ e site h _ hi ht _ => lj_appendCfgFail e site h hi ht
  commit := fun _ i h hi hst hm => lj_commit hb i h hi hst hm

/-- what a node that cannot change its configuration keeps through `checkConfigActions` -/
def Frozen (s x : Node) : Prop :=
  x.canChangeConfig = false ∧ x.ldr.transfer = s.ldr.transfer ∧ x.ldr.node = s.ldr.node

theorem frozen_panic {s x : Node} (site : String) (h : Frozen s x) : Frozen s (x.panic site) := by
  unfold Node.panic; split
  · exact h
  · exact h

theorem checkConfigAction_frozen {s : Node} (n : Nat) (x : Node) (t : Nat) (c : Config) (id : Nat) (h : Frozen s x) :
    Frozen s (checkConfigAction n x t c id) := by
  rcases C08.checkConfigAction_blocked n x t c id h.1 with e | ⟨r, e⟩ | e <;> rw [e]
  · exact h
  · exact h
  · exact frozen_panic _ h

/-- a leader that cannot change its configuration (at `leader.init`: nothing of its term is committed yet) keeps its
cached entry and its transfer record through `checkConfigActions` -/
theorem checkConfigActions_frozen (n : Nat) (s : Node) (t : Nat) (c : Config) (h : s.canChangeConfig = false) :
    Frozen s (checkConfigActions n s t c) := by
  cases n with
  | zero => unfold checkConfigActions; exact frozen_panic _ ⟨h, rfl, rfl⟩
  | succ n =>
    rw [C08.checkConfigActions_blocked n s t c h]
    refine Node.Guarded.foldl_inv (Inv := Frozen s) _ (fun x id hx => ?_) _ _ ⟨h, rfl, rfl⟩
    split
    · exact checkConfigAction_frozen _ _ _ _ _ hx
    · exact hx

/-- what `leader.init` needs to know about the node that just became leader -/
structure InitHypM (x : Node) : Prop where
  nwf : NWF x
  lwf : C06.LogWF x.log
  wf : C05.VoteWF x
  role : x.role = .leader
  voter : x.configs.latest.isVoter x.nid = true
  cl : CfgLast x.log.entries x.configs.latest
  cile : x.commitIndex ≤ x.lastLogIndex

theorem initBase_baseM {x : Node} (hx : InitHypM x) : MBase (initBase x) AF := by
  obtain ⟨_, _, c3, _, _, c6, c7, _⟩ := initBase_lobs x
  obtain ⟨f1, f2, f3, f4, f5, f6⟩ := initBase_facts hx.nwf hx.lwf hx.wf hx.role
  refine ⟨f1, f2, f3, f4, f5, f6, fun j m hB => hB.elim, by rw [initBase_ldr, c6, c3]; exact ⟨rfl, rfl⟩,
    by rw [initBase_entries, c6]; exact hx.cl, fun _ => Or.inl ?_,
    by rw [c7, initBase_entries, ← hx.nwf.last]; exact hx.cile⟩
  rw [initBase_ldr, c6]
  have := hx.cl.index_le (fun y hy => (contig_index_le hx.nwf.contig y hy).2)
  show x.configs.latest.index < x.lastLogIndex + 1
  rw [hx.nwf.last]; omega

/-- **`leader.init`** — any configuration: relative to the fresh leader record the invariant holds, and at least one
entry (the no-op of the new term) was appended. -/
theorem leaderInit_lj {x : Node} (hx : InitHypM x) :
    LJ (initBase x) AF x.leaderInit ∧ x.log.entries.length < x.leaderInit.log.entries.length := by
  have hb := initBase_baseM hx
  have L := lj_closed (initBase x) AF hb
  have h0 : LJ (initBase x) AF (initBase x) := lj_refl hb (fun r hr => by rw [initBase_ldr] at hr; cases hr)
  have t0 : (initBase x).ldr.transfer.active = false := by rw [initBase_ldr]; rfl
  obtain ⟨c1, _, c3, _, _, c6, c7, _⟩ := initBase_lobs x
  have hx0 := initBase_entries x
  -- the replications: no transfer starts, the commit index and the log stay
  obtain ⟨h2, t2, ci2, hlen2⟩ := foldl_addReplication (P := fun s => LJ (initBase x) AF s ∧
      s.ldr.transfer.active = false ∧ s.commitIndex = x.commitIndex ∧ s.log.entries = (initBase x).log.entries)
    (fun s n hs => ⟨L.addReplication_g _ _ hs.1, by rw [(addReplication_ldr s n).1]; exact hs.2.1,
      by rw [(CfgRel.q_addReplication s n).commitIndex]; exact hs.2.2.1,
      by rw [(CfgRel.q_addReplication s n).entries]; exact hs.2.2.2⟩)
    x.configs.latest.nodes (initBase x) ⟨h0, t0, c7, rfl⟩
  have e : x.leaderInit = storeEntry (fuelFor 1)
      (checkConfigActions (fuelFor 0)
        ((initBase x).configs.latest.nodes.foldl (fun s n => if n.id = s.nid then s else s.addReplication n) (initBase x)) 0
        ((initBase x).configs.latest.nodes.foldl (fun s n => if n.id = s.nid then s else s.addReplication n) (initBase x)).configs.latest)
      [{ typ := etNop }] := rfl
  rw [← c6] at h2 t2 ci2 hlen2
  generalize (initBase x).configs.latest.nodes.foldl (fun s n => if n.id = s.nid then s else s.addReplication n)
    (initBase x) = s2 at h2 t2 ci2 hlen2 e
  have hcan : s2.canChangeConfig = false := by
    unfold Node.canChangeConfig
    have h1 : s2.ldr.startIndex = x.lastLogIndex + 1 := by rw [h2.start, initBase_ldr]; rfl
    have h3 := hx.cile
    simp only [Bool.and_eq_false_iff, decide_eq_false_iff_not]
    right
    rw [ci2, h1]; omega
  have h3 : LJ (initBase x) AF (checkConfigActions (fuelFor 0) s2 0 s2.configs.latest) :=
    L.checkConfigActions_g _ _ _ _ h2
  obtain ⟨_, f2, f3⟩ := checkConfigActions_frozen (fuelFor 0) s2 0 s2.configs.latest hcan
  generalize checkConfigActions (fuelFor 0) s2 0 s2.configs.latest = s3 at h3 f2 f3 e
  have hnc : ∀ q ∈ [({ typ := etNop } : QItem)], q.typ ≠ etConfig := by
    intro q hq; rw [List.mem_singleton.mp hq]; decide
  have h4 : LJ (initBase x) AF x.leaderInit := by rw [e]; exact L.storeEntry_g _ _ _ h3 (Or.inl hnc)
  have hcfg2 : s2.configs.latest = (initBase x).configs.latest := (h2.keep (congrArg List.length hlen2)).1
  refine ⟨h4, leaderInit_grows e ?_ (by rw [f2]; exact t2) (by rw [← hx0]; exact lj_len h3)⟩
  rw [f3, h2.cache.2, hcfg2, h2.nid, c6, c3]
  exact isVoter_get _ _ hx.voter

/-- **a commit moment of a step** (`pre`: the state before the step, `post`: after it, `T`: the term in which the node
was leader during the step): the commit index moved beyond `pre`'s, to an index that holds an entry of term `T` — the
leader's own term —, within the log of that moment (`len`) and inside the part that is flushed now; `cfg` was THE LAST
CONFIGURATION ENTRY OF THE LEADER'S LOG AT THAT MOMENT (`post.log.entries.take len`), and a majority `Q` of ITS voters
(a sublist of `cfg.voters`, more than half of it) had reached the index — the leader itself, the others by a backed
match index. -/
def SEv (pre : Node) (B : Nat → Nat → Prop) (post : Node) (T : Nat) (ev : CEvt) : Prop :=
  pre.commitIndex < ev.ci ∧ ev.ci ≤ ev.len ∧ pre.log.entries.length ≤ ev.len ∧ ev.len ≤ post.log.entries.length ∧
  Holds post.log.entries ev.ci T ∧ ev.ci ≤ post.log.flushed ∧
  CfgLast (post.log.entries.take ev.len) ev.cfg ∧ ev.Q.Sublist ev.cfg.voters ∧
  2 * ev.Q.length > ev.cfg.voters.length ∧
  ∀ j ∈ ev.Q, j = pre.nid ∨ (pre.role = .leader ∧ T = pre.term ∧ ∃ m, ev.ci ≤ m ∧ B j m)

/-- **a configuration entry appended in a step, at index `k`**: `P` was the last configuration entry of the log before
it; at that moment the leader's commit index `ci` held an entry of the leader's own term `T` (an entry of its term was
committed) and covered `P` (the previous configuration was committed); `ci` was the commit index before the step — the
node was leader then, and `ci` at or beyond its `startIndex` — or the index of a commit moment of this step that
happened while the log was shorter than `k`. -/
def SChg (pre post : Node) (T : Nat) (L : List CEvt) (k : Nat) : Prop :=
  ∃ P ci, CfgLast (post.log.entries.take (k - 1)) P ∧ Holds post.log.entries ci T ∧ P.index ≤ ci ∧
    ((ci = pre.commitIndex ∧ pre.role = .leader ∧ pre.ldr.startIndex ≤ ci) ∨ ∃ ev ∈ L, ev.ci = ci ∧ ev.len < k)

/-- the commit moments `L` (newest first) and the configuration entries of a step -/
structure MEvs (pre : Node) (B : Nat → Nat → Prop) (post : Node) (T : Nat) (L : List CEvt) : Prop where
  ev : ∀ ev ∈ L, SEv pre B post T ev
  sorted : L.Pairwise (fun n o => o.ci < n.ci ∧ o.len ≤ n.len)
  head : post.commitIndex = ((L.head?).map (·.ci)).getD pre.commitIndex
  chg : ∀ e ∈ post.log.entries, pre.log.entries.length < e.index → e.typ = etConfig → SChg pre post T L e.index
  cl : CfgLast post.log.entries post.configs.latest
  /-- the entries appended in the step carry the term `T` -/
  newT : ∀ e ∈ post.log.entries, pre.log.entries.length < e.index → e.term = T
  /-- if anything was committed or appended: `T` is the term in which the node was leader during the step — its term
  before the step if it was leader then; else it became leader in the step (`leader.init` appended the no-op), is leader
  of `T` now and has committed nothing yet. Afterwards its term is still `T`, or it is higher and the node has not voted
  in it -/
  src : (L ≠ [] ∨ pre.log.entries.length < post.log.entries.length) →
    T ≤ post.term ∧ (post.term = T ∨ post.votedFor = 0) ∧
    ((pre.role = .leader ∧ T = pre.term) ∨ (post.role = .leader ∧ T = post.term ∧ L = []))
  /-- a step with a commit moment makes no new vote durable: at every crash point, and at its end, the durable
  (term, vote) is the one before the step, or a higher term without vote -/
  trp : L ≠ [] → PairOK pre AF post.term post.votedFor ∧ ∀ p ∈ post.trace, PairOK pre AF p.2.term p.2.vote
  /-- `configs` is untouched, or the latest configuration is covered by the commit index, or it is PENDING:
  `configs.committed` is the configuration entry before it (and no configuration entry lies between them) -/
  cmtd : post.configs = pre.configs ∨ post.configs.latest.index ≤ post.commitIndex ∨
    (post.configs.committed.index < post.configs.latest.index ∧
      CfgLast (post.log.entries.take (post.configs.latest.index - 1)) post.configs.committed)

/-- **summary of a step that is not an append request**, relative to the state `pre` it starts from — as
`CommitRel.NStep`, without the restriction to a stable configuration: instead of `post.configs.latest =
pre.configs.latest` and one piece of commit evidence, the list of commit moments and the guards of every configuration
entry (`MEvs`, claimed when nothing failed). -/
structure NStepM (pre : Node) (A : Nat → Nat → Prop) (B : Nat → Nat → Prop) (post : Node) : Prop where
  lwf : C06.LogWF post.log
  flush : pre.log.flushed ≤ post.log.flushed
  pair : PairOK pre A post.term post.votedFor
  tr : ∀ p ∈ post.trace, pre.log.entries.take pre.log.flushed <+: p.2.log.entries ∧
    PairOK pre A p.2.term p.2.vote ∧ DW p.2
  cim : pre.commitIndex ≤ post.commitIndex
  /-- claimed when nothing failed — and in any case for a node that was follower before the step -/
  evs : (post.panicked = none ∨ pre.role = .follower) → ∃ T L, MEvs pre B post T L
  ldr : post.role = .leader →
    (pre.role = .leader ∧ post.term = pre.term ∧ LeadOK B post) ∨ LeadOK AF post
  cc : post.role = .leader → post.panicked = none → post.configs.isCommitted = true →
    post.configs.latest.index < post.ldr.startIndex ∨ post.configs.latest.index ≤ post.commitIndex
  cache : post.role = .leader → post.ldr.node = post.configs.latest.get post.nid
  /-- a leader keeps its start index, unless it was elected in this step (then nothing of its term is committed) -/
  start : post.role = .leader → post.panicked = none →
    (pre.role = .leader ∧ post.term = pre.term ∧ post.ldr.startIndex = pre.ldr.startIndex) ∨
    post.commitIndex < post.ldr.startIndex
  grow : pre.log.entries.length < post.log.entries.length →
    (pre.role = .leader ∧ lastTerm post.log.entries = pre.term) ∨ (post.panicked = none → post.role = .leader)
  trgrow : ∀ p ∈ post.trace, pre.log.entries.length < p.2.log.entries.length →
    (p.2.term = post.term ∧ p.2.vote = post.votedFor) ∨
    (pre.role = .leader ∧ lastTerm p.2.log.entries = pre.term)

/-- summary of a step whose result is related to its start by `SX` alone -/
theorem nstepM_sx {b post : Node} {A : Nat → Nat → Prop} {B : Nat → Nat → Prop} {K : Prop}
    (hbtr : b.trace = []) (hbn : NWF b) (hbl : C06.LogWF b.log) (hcl : CfgLast b.log.entries b.configs.latest)
    (h : SX b A K post)
    (hld : post.role = .leader → b.role = .leader ∧ post.term = b.term ∧ LeadOK B post ∧ post.ldr = b.ldr)
    (hcc : b.role = .leader → b.configs.isCommitted = true →
      b.configs.latest.index < b.ldr.startIndex ∨ b.configs.latest.index ≤ b.commitIndex)
    (hca : b.role = .leader → b.ldr.node = b.configs.latest.get b.nid) :
    NStepM b A B post := by
  have hlog := sx_log h
  refine ⟨by rw [hlog]; exact hbl, by rw [hlog]; exact Nat.le_refl _, h.pair,
    fun p hp => (sx_trace hbtr hbn hbl h hp).1, Nat.le_of_eq h.ci.symm, ?_,
    fun hl => Or.inl ⟨(hld hl).1, (hld hl).2.1, (hld hl).2.2.1⟩, ?_, ?_,
    fun hl _ => Or.inl ⟨(hld hl).1, (hld hl).2.1, by rw [(hld hl).2.2.2]⟩,
    fun hg => by rw [hlog] at hg; omega,
    fun p hp hg => by have := (sx_trace hbtr hbn hbl h hp).2; omega⟩
  · intro _
    refine ⟨0, [], ⟨(fun ev hev => nomatch hev), List.Pairwise.nil, h.ci, ?_, (by rw [hlog, h.cfg]; exact hcl), ?_, ?_,
      ?_, Or.inl h.cfg⟩⟩
    · intro e he hlt
      rw [hlog] at he
      have := (contig_index_le hbn.contig e he).2
      omega
    · intro e he hlt
      rw [hlog] at he
      have := (contig_index_le hbn.contig e he).2
      omega
    · rintro (h1 | h1)
      · exact absurd rfl h1
      · rw [hlog] at h1; omega
    · intro h1; exact absurd rfl h1
  · intro hl _ hc
    obtain ⟨r1, _, _, r4⟩ := hld hl
    rw [h.cfg, r4, h.ci]
    exact hcc r1 (by rw [← h.cfg]; exact hc)
  · intro hl
    obtain ⟨r1, _, _, r4⟩ := hld hl
    rw [r4, h.cfg, h.nid]; exact hca r1


/-- summary of a step that went through a leader handler (or `leader.init`): `b0` is the state the handler started
from (related to the start `b` of the step by `SX`), `m` its result, and the step ended in `m` or stepped down / was
released from it -/
theorem nstepM_lj {b b0 m post : Node} {A : Nat → Nat → Prop} {B B0 : Nat → Nat → Prop} {K0 : Prop}
    (hbtr : b.trace = []) (hbn : NWF b) (hbl : C06.LogWF b.log) (h0 : SX b A K0 b0) (hb0 : MBase b0 B0)
    (hm : LJ b0 B0 m)
    (hpost : post = m ∨ (post.role = .follower ∧ SX m AF False post))
    (hB0 : ∀ j k, B0 j k → b.role = .leader ∧ b0.term = b.term ∧ B j k)
    (hsrc : (b.role = .leader ∧ b0.term = b.term ∧ b0.ldr.startIndex = b.ldr.startIndex ∧ b0.trace = [] ∧
        b0.votedFor = b.votedFor) ∨
      (Core post = Core m ∧ post.votedFor = m.votedFor ∧ b0.commitIndex < b0.ldr.startIndex ∧
        (post.panicked = none → post = m ∧ m.role = .leader ∧ m.commitIndex = b0.commitIndex)))
    (hlast : b0.ldr.startIndex ≤ m.log.entries.length)
    (hpan : post.panicked = none → m.panicked = none) (hnf : b.role ≠ .follower)
    (hld : post = m → LeadOK B0 m → (b.role = .leader ∧ post.term = b.term ∧ LeadOK B post) ∨ LeadOK AF post) :
    NStepM b A B post := by
  have hlog0 := sx_log h0
  have hwfm := lj_wf hb0 hm
  -- the end of the step has the log, commit index and configuration of `m`
  have hpm : SX m AF False post := by
    rcases hpost with e | ⟨_, e⟩
    · rw [e]; exact sx_refl m AF False hwfm
    · exact e
  have hlogp := sx_log hpm
  obtain ⟨es, he, hes⟩ := hm.ext
  obtain ⟨n1, n2, n3, n4⟩ := nstep_lc hbtr hbn hbl h0 hb0.wf hm.toLC hpm
  have hgrow : b.log.entries.length < post.log.entries.length →
      (b.role = .leader ∧ lastTerm post.log.entries = b.term) ∨ (post.panicked = none → post.role = .leader) := by
    intro hg
    rcases hsrc with ⟨a1, a2, _, _, _⟩ | a
    · left
      refine ⟨a1, ?_⟩
      -- the appended entries carry the leader's term
      rw [hlogp, he] at hg ⊢
      rw [← hlog0, List.length_append] at hg
      have hnil : es ≠ [] := by intro e; rw [e] at hg; simp at hg
      unfold lastTerm
      rw [List.getLast?_append, List.getLast?_eq_some_getLast hnil]
      show (es.getLast hnil).term = b.term
      rw [hes _ (List.getLast_mem hnil)]; exact a2
    · right
      intro hp
      obtain ⟨e1, e2, _⟩ := a.2.2.2 hp
      rw [e1]; exact e2
  have hes' : ∀ e ∈ es, e.term = b0.term := hes
  have htg : ∀ p ∈ post.trace, b.log.entries.length < p.2.log.entries.length →
      (p.2.term = post.term ∧ p.2.vote = post.votedFor) ∨
      (b.role = .leader ∧ lastTerm p.2.log.entries = b.term) := by
    intro p hp hg
    -- a crash point of `b0` holds no more than `b`'s log
    have hnot0 : p ∉ b0.trace := fun hp'' => by have := (sx_trace hbtr hbn hbl h0 hp'').2; omega
    rcases hsrc with ⟨a, a', _, _, _⟩ | ⟨ac, av, _⟩
    · exact Or.inr ⟨a, nstep_lc_grow hbtr hbn hbl h0 hm.toLC hpm a' hp hg⟩
    · left
      unfold Core at ac
      simp only [Prod.mk.injEq] at ac
      rw [ac.2.2.2.2.2.2.2] at hp
      rcases hm.tr p hp with hp'' | ⟨_, _, _, _, r5, r6, _⟩
      · exact absurd hp'' hnot0
      · rw [ac.2.2.2.2.2.1, av, r5, r6, hm.term, hm.vote.1]
        exact ⟨hb0.wf.1, hb0.wf.2⟩
  have hci : post.commitIndex = m.commitIndex := hpm.ci
  refine ⟨n1, n2, n3, n4, by rw [hci, ← h0.ci]; exact hm.cim, ?_, ?_, ?_, ?_, ?_, hgrow, htg⟩
  · -- commit moments and configuration entries
    intro hp'
    have hp : post.panicked = none := hp'.resolve_right hnf
    obtain ⟨g1, _, g3, L, l1, l2, l3, l4⟩ := hm.good (hpan hp)
    have hbl0 : b0.log.entries.length = b.log.entries.length := by rw [hlog0]
    have hown := lc_own hm.toLC hb0.own
    have hst := hb0.start
    refine ⟨b0.term, L, ⟨fun ev hev => ?_, l2, by rw [hci, ← h0.ci]; exact l3, fun e hel hlt ht => ?_,
      by rw [hlogp, hpm.cfg]; exact g1, fun e hel hlt => ?_, fun _ => ⟨?_, ?_, ?_⟩, fun hLne => ?_,
      by rw [hlogp, hpm.cfg, hci, ← h0.cfg]; exact g3⟩⟩
    rotate_right
    · -- no new vote in a step with a commit moment
      rcases hsrc with ⟨a1, a2, _, a4, a5⟩ | ⟨_, _, _, a⟩
      · have hbm : PairOK b AF m.term m.votedFor := by
          rw [hm.term, hm.vote.1, a2, a5]; exact ⟨Nat.le_refl _, Or.inr (Or.inl ⟨rfl, rfl⟩)⟩
        refine ⟨pairOK_trans hbm hpm.pair, fun p hpt => ?_⟩
        rcases hpm.tr p hpt with hp' | ⟨_, _, q3⟩
        · rcases hm.tr p hp' with hp'' | ⟨_, _, _, _, r5, r6, _⟩
          · rw [a4] at hp''; cases hp''
          · rw [r5, r6, hb0.wf.1, hb0.wf.2, a2, a5]
            exact ⟨Nat.le_refl _, Or.inr (Or.inl ⟨rfl, rfl⟩)⟩
        · exact pairOK_trans hbm q3
      · exfalso
        obtain ⟨_, _, e3⟩ := a hp
        cases L with
        | nil => exact hLne rfl
        | cons ev L' =>
          have h1 : m.commitIndex = ev.ci := l3
          have := (l1 ev (List.mem_cons_self ..)).1.1
          omega
    · obtain ⟨⟨a1, a2, a3, a4, a5, a6, a7, a8, a9⟩, afl⟩ := l1 ev hev
      refine ⟨by rw [← h0.ci]; exact a1, a3, by rw [← hbl0]; exact a4, by rw [hlogp]; exact a5, ?_,
        by rw [hlogp]; exact afl, by rw [hlogp]; exact a6, a7, a8, fun j hj => ?_⟩
      · rw [hlogp]
        exact ⟨by omega, by omega, hown _ a2 (by omega)⟩
      · rcases a9 j hj with e | ⟨k, hk, hB⟩
        · exact Or.inl (e.trans h0.nid)
        · obtain ⟨b1, b2, b3⟩ := hB0 j k hB
          exact Or.inr ⟨b1, b2, k, hk, b3⟩
    · rw [hlogp] at hel
      obtain ⟨P, ci, p1, p2, p3, p4⟩ := l4 e hel (by rw [hbl0]; exact hlt) ht
      unfold SChg
      rw [hlogp]
      refine ⟨P, ci, p1, ?_, p3, ?_⟩
      · have hle : ci ≤ m.log.entries.length := by
          rcases p4 with e1 | ⟨ev, hev, e1, _⟩
          · rw [e1]; exact Nat.le_trans hb0.cile (lj_len hm)
          · have := (l1 ev hev).1
            obtain ⟨_, _, a3, _, a5, _⟩ := this
            omega
        exact ⟨by omega, hle, hown _ p2 hle⟩
      · rcases p4 with e1 | p4
        · left
          rcases hsrc with ⟨a, _, a3, _, _⟩ | ⟨_, _, a3, _⟩
          · exact ⟨by rw [← h0.ci]; exact e1, a, by rw [← a3]; exact p2⟩
          · omega
        · exact Or.inr p4
    · rw [hlogp, he] at hel
      rcases List.mem_append.mp hel with hx | hx
      · have := (contig_index_le hb0.nwf.contig e hx).2
        omega
      · exact hes e hx
    · rw [← hm.term]; exact hpm.pair.1
    · rcases hpm.pair.2 with p0 | ⟨p1, _⟩ | p2
      · exact Or.inr p0
      · exact Or.inl (by rw [p1, hm.term])
      · exact p2.elim
    · rcases hsrc with ⟨a, a', _, _, _⟩ | ⟨_, _, _, a⟩
      · exact Or.inl ⟨a, a'⟩
      · obtain ⟨e1, e2, e3⟩ := a hp
        refine Or.inr ⟨by rw [e1]; exact e2, by rw [e1]; exact hm.term.symm, ?_⟩
        cases L with
        | nil => rfl
        | cons ev L' =>
          exfalso
          have h1 : m.commitIndex = ev.ci := l3
          have := (l1 ev (List.mem_cons_self ..)).1.1
          omega
  · intro hl
    rcases hpost with e | ⟨hf, _⟩
    · exact hld e (lc_leadOK hm.toLC hb0.start hb0.own hm.cache.1 hlast)
    · rw [hf] at hl; cases hl
  · intro hl hp hc
    rcases hpost with e | ⟨hf, _⟩
    · subst e
      have := (hm.good hp).cc hc
      rw [hm.start]; exact this
    · rw [hf] at hl; cases hl
  · intro hl
    rcases hpost with e | ⟨hf, _⟩
    · subst e; exact hm.cache.2
    · rw [hf] at hl; cases hl
  · intro hl hp
    rcases hpost with e | ⟨hf, _⟩
    · rcases hsrc with ⟨a1, a2, a3, _, _⟩ | ⟨_, _, a3, a4⟩
      · left
        subst e
        exact ⟨a1, by rw [hm.term]; exact a2, by rw [hm.start]; exact a3⟩
      · right
        obtain ⟨e1, _, e3⟩ := a4 hp
        subst e
        rw [e3, hm.start]; exact a3
    · rw [hf] at hl; cases hl

/-- **every case of `handle`** (append requests excepted; the operations of the model with membership changes:
`LogRel.OpOK` — no snapshot operations — and `CfgRel.OpOk` — no configuration entry in a client batch): either nothing
but role / leader id / (term, vote) / replies moved (`SX`), or the node is a leader and ran a leader handler
(`PostM (LJ b B)`), `ChangeConfig` requests included. -/
theorem handle_clsM (b : Node) (op : Op) (B : Nat → Nat → Prop) (hwf : C05.VoteWF b)
    (hboot : b.configs.isBootstrapped = true) (hok : OpOK op) (hcf : CfgRel.OpOk op)
    (happ : ∀ q, op ≠ .append q)
    (hld : b.role = .leader → MBase b B ∧ ∀ r ∈ b.ldr.repls, r.matchIndex = 0 ∨ B r.id r.matchIndex)
    (hupd : ∀ us, op = .replUpdates us → ∀ u ∈ us, ∀ v, u.upd = .matchIndex v → v = 0 ∨ B u.id v) :
    SX b (AOp b op) True (b.handle op) ∨ (b.role = .leader ∧ PostM (LJ b B) (b.handle op)) := by
  cases handle_kind b op with
  | quiet q => exact Or.inl (q _ (sx_quiet b op True) (sx_refl b _ _ hwf))
  | ldr hr c =>
    have W : ∀ x, LJ b B x → C05.VoteWF x := fun x hx => lj_wf (hld hr).1 hx
    have L := (lj_closed b B (hld hr).1).toC
    have H0 := lj_refl (hld hr).1 (hld hr).2
    refine Or.inr ⟨hr, ?_⟩
    generalize b.handle op = h at c ⊢
    cases c with
    | store batch => exact Or.inl (L.storeEntry_c (.of trivial) _ _ _ H0 (Or.inl hcf))
    | change t c =>
      refine Or.inl (L.onChangeConfig_c trivial _ _ _ H0 (fun x hx hl hc => ?_))
      have hlen : x.log.entries.length = b.log.entries.length := by
        rw [← hx.nwf.last, hl, (hld hr).1.nwf.last]
      exact ⟨(hx.keep hlen).2 hc.1, by rw [hx.start]; exact Nat.le_trans hc.2 hx.cim⟩
    | wait t => exact Or.inl (L.onWaitForStable_c _ _ H0)
    | transfer t g => exact Or.inl (L.onTransfer_c _ _ _ H0)
    | transferTimeout _ => exact Or.inl (L.replyTransfer_c (.of trivial) _ _ H0)
    | timeoutNowResult a c d _ => exact Or.inl (L.onTimeoutNowResult_c (.of trivial) _ _ _ _ H0)
    | newTermTimeout _ => exact Or.inl (L.tryTransfer_c _ (L.ldrSame_c _ _ H0 rfl rfl rfl rfl))
    | repl us => exact L.checkReplUpdates_p (.of trivial) W us hok (hupd us rfl) _ H0
  | special sp =>
    cases sp with
    | append q => exact absurd rfl (happ q)
    | bootstrap t c _ hb => rw [hboot] at hb; cases hb
    | _ => exact hok.elim

theorem initHypM_of_sx {b x : Node} {A : Nat → Nat → Prop} {K : Prop} (hbn : NWF b) (hbl : C06.LogWF b.log)
    (h : SX b A K x) (hr : x.role = .leader) (hv : b.configs.latest.isVoter b.nid = true)
    (hcl : CfgLast b.log.entries b.configs.latest) (hci : b.commitIndex ≤ b.lastLogIndex) : InitHypM x := by
  have e := h.core
  unfold LCore at e
  simp only [Prod.mk.injEq] at e
  obtain ⟨e1, e2, e3, e4, e5⟩ := e
  exact ⟨nwf_congr hbn e1 e2 e3 e4 e5, by rw [e1]; exact hbl, h.wf, hr, by rw [h.cfg, h.nid]; exact hv,
    by rw [e1, h.cfg]; exact hcl, by rw [h.ci, e2]; exact hci⟩

theorem cfgLast_unique {es : List Entry} {c c' : Config} (hc : ∀ k (_ : k < es.length), es[k].index = k + 1)
    (h : CfgLast es c) (h' : CfgLast es c') : c = c' := by
  obtain ⟨⟨e, he, hec⟩, h2⟩ := h
  obtain ⟨⟨e', he', hec'⟩, h2'⟩ := h'
  obtain ⟨t1, i1, _⟩ := Entry.config?_facts hec
  obtain ⟨t1', i1', _⟩ := Entry.config?_facts hec'
  have a := h2 e' he' t1'
  have a' := h2' e he t1
  have hi : e.index = e'.index := by omega
  obtain ⟨k, hk, rfl⟩ := List.getElem_of_mem he
  obtain ⟨k', hk', rfl⟩ := List.getElem_of_mem he'
  rw [hc k hk, hc k' hk'] at hi
  have : k = k' := by omega
  subst this
  rw [hec] at hec'
  injection hec'

theorem exists_min_len : ∀ (L : List CEvt), L ≠ [] → ∃ ev0 ∈ L, ∀ ev ∈ L, ev0.len ≤ ev.len := by
  intro L
  induction L with
  | nil => intro h; exact absurd rfl h
  | cons a as ih =>
    intro _
    by_cases has : as = []
    · subst has
      exact ⟨a, List.mem_cons_self .., fun ev hev => by rw [List.mem_singleton.mp hev]; exact Nat.le_refl _⟩
    · obtain ⟨m, hm, hmin⟩ := ih has
      by_cases hle : a.len ≤ m.len
      · refine ⟨a, List.mem_cons_self .., fun ev hev => ?_⟩
        rcases List.mem_cons.mp hev with e | e
        · rw [e]; exact Nat.le_refl _
        · exact Nat.le_trans hle (hmin ev e)
      · refine ⟨m, List.mem_cons_of_mem _ hm, fun ev hev => ?_⟩
        rcases List.mem_cons.mp hev with e | e
        · rw [e]; omega
        · exact hmin ev e

/-- **nothing is committed inside `leader.init`** when the configuration has more than one voter (no match index is
backed yet), so the node is leader afterwards -/
theorem init_no_commit {b0 m : Node} (hb0 : MBase b0 AF) (hm : LJ b0 AF m) (hp : m.panicked = none)
    (hst : b0.ldr.startIndex = b0.log.entries.length + 1) (hnd : b0.configs.latest.voters.Nodup)
    (hq : b0.configs.latest.voters.length ≠ 1) :
    m.role = .leader ∧ m.commitIndex = b0.commitIndex := by
  obtain ⟨_, _, _, L, l1, _, l3, l4⟩ := hm.good hp
  have hL : L = [] := by
    apply Classical.byContradiction
    intro hne
    obtain ⟨ev0, hev0, hmin⟩ := exists_min_len L hne
    obtain ⟨⟨a1, a2, a3, a4, a5, a6, a7, a8, a9⟩, _⟩ := l1 ev0 hev0
    obtain ⟨es, he, _⟩ := hm.ext
    have hcile := hb0.cile
    -- no configuration entry was appended before that moment
    have hno : ∀ e ∈ m.log.entries, b0.log.entries.length < e.index → e.typ = etConfig → ev0.len < e.index := by
      intro e hel hlt ht
      obtain ⟨P, ci, _, p2, _, p4⟩ := l4 e hel hlt ht
      rcases p4 with e1 | ⟨ev, hev, e1, e2⟩
      · omega
      · have := hmin ev hev; omega
    have hpre : CfgLast (m.log.entries.take ev0.len) b0.configs.latest := by
      obtain ⟨⟨e, hel, hec⟩, h2⟩ := hb0.cl
      have hpf : b0.log.entries <+: m.log.entries.take ev0.len := by
        rw [List.prefix_take_iff]
        exact ⟨by rw [he]; exact List.prefix_append _ _, a4⟩
      refine ⟨⟨e, hpf.subset hel, hec⟩, fun y hy ht => ?_⟩
      have hym : y ∈ m.log.entries := List.mem_of_mem_take hy
      by_cases hyb : y.index ≤ b0.log.entries.length
      · -- an entry of `b0`
        apply h2 y ?_ ht
        obtain ⟨k, hk, rfl⟩ := List.getElem_of_mem hym
        rw [hm.nwf.contig k hk] at hyb
        have hkb : k < b0.log.entries.length := by omega
        have : m.log.entries[k] = b0.log.entries[k] := by
          simp only [he]
          rw [List.getElem_append_left hkb]
        rw [this]; exact List.getElem_mem hkb
      · exfalso
        have h1 := hno y hym (by omega) ht
        obtain ⟨k, hk, rfl⟩ := List.getElem_of_mem hy
        rw [List.getElem_take] at h1
        rw [List.length_take] at hk
        have := hm.nwf.contig k (by omega)
        omega
    have hcfg : ev0.cfg = b0.configs.latest :=
      cfgLast_unique (contig_take hm.nwf.contig _) a6 hpre
    rw [hcfg] at a7 a8
    have hall : ∀ j ∈ ev0.Q, j = b0.nid := fun j hj => (a9 j hj).resolve_right (fun ⟨_, _, hB⟩ => hB)
    have h1 := length_le_one_of_all_eq (hnd.sublist a7) hall
    have h2 : ev0.Q ≠ [] := by intro e; rw [e] at a8; simp at a8
    have h3 := a7.length_le
    have : 0 < ev0.Q.length := List.length_pos_iff.mpr h2
    omega
  subst hL
  have hci : m.commitIndex = b0.commitIndex := l3
  refine ⟨?_, hci⟩
  rcases hm.role with r | ⟨_, r⟩
  · exact r
  · omega

/-- the step ends with `leader.init` of `x` (and possibly the release that follows a step down inside it) -/
theorem nstepM_init {b x post : Node} {A : Nat → Nat → Prop} {B : Nat → Nat → Prop} {K : Prop}
    (hbtr : b.trace = []) (hbn : NWF b) (hbl : C06.LogWF b.log) (h : SX b A K x) (hr : x.role = .leader)
    (hv : b.configs.latest.isVoter b.nid = true)
    (hcl : CfgLast b.log.entries b.configs.latest) (hci : b.commitIndex ≤ b.lastLogIndex)
    (hnd : b.configs.latest.voters.Nodup) (hq : b.configs.latest.voters.length ≠ 1) (hnf : b.role ≠ .follower)
    (hpost : InitTail x post) : NStepM b A B post := by
  have hx := initHypM_of_sx hbn hbl h hr hv hcl hci
  obtain ⟨hli, hlen⟩ := leaderInit_lj hx
  have hb0 := initBase_baseM hx
  obtain ⟨c1, _, _, _, _, c6, _, _⟩ := initBase_lobs x
  have hlen0 : (initBase x).log.entries.length = x.log.entries.length := by rw [initBase_entries]
  have hlast : (initBase x).ldr.startIndex ≤ x.leaderInit.log.entries.length := by
    rw [initBase_ldr]; show x.lastLogIndex + 1 ≤ _; rw [hx.nwf.last]; exact hlen
  have hst : (initBase x).ldr.startIndex = (initBase x).log.entries.length + 1 := by
    rw [initBase_ldr, hlen0]; show x.lastLogIndex + 1 = _; rw [hx.nwf.last]
  have hlt0 : (initBase x).commitIndex < (initBase x).ldr.startIndex := by
    have := hb0.cile
    omega
  have hnc : x.leaderInit.panicked = none →
      x.leaderInit.role = .leader ∧ x.leaderInit.commitIndex = (initBase x).commitIndex := fun hp =>
    init_no_commit hb0 hli hp hst (by rw [c6, h.cfg]; exact hnd) (by rw [c6, h.cfg]; exact hq)
  rcases hpost with ⟨hrl, hpe⟩ | ⟨hrf, hpe⟩
  · exact nstepM_lj hbtr hbn hbl (sx_initBase h) hb0 hli (Or.inl hpe) (fun j k hB => hB.elim)
      (Or.inr ⟨by rw [hpe], by rw [hpe], hlt0, fun hp => ⟨hpe, hnc (by rw [← hpe]; exact hp)⟩⟩) hlast
      (fun hp => by rw [← hpe]; exact hp) hnf
      (fun _ hl => Or.inr (by rw [hpe]; exact hl))
  · have hsk := SameKey.releaseRole x.leaderInit .leader
    have hpp : post.panicked = none → x.leaderInit.panicked = none := fun hp => by
      rw [hpe] at hp; exact (CfgRel.q_releaseRole _ _).pan' hp
    refine nstepM_lj hbtr hbn hbl (sx_initBase h) hb0 hli
      (Or.inr ⟨by rw [hpe, hsk.role]; exact hrf, by rw [hpe]; exact sx_releaseRole _ (sx_refl _ AF False (lj_wf hb0 hli))⟩)
      (fun j k hB => hB.elim)
      (Or.inr ⟨by rw [hpe]; exact core_releaseRole _ _, by rw [hpe]; exact hsk.votedFor, hlt0, fun hp => ?_⟩) hlast hpp
      hnf (fun e hl => Or.inr (by rw [e]; exact hl))
    exfalso
    have := (hnc (hpp hp)).1
    rw [hrf] at this; cases this

/-- **One step of a node that is not an append request, WITH membership changes** (the operations of `Raft.Member`:
no snapshot operation — `LogRel.OpOK` —, no configuration entry in a client batch — `CfgRel.OpOk`; `ChangeConfig`
requests included), from a well-formed, bootstrapped state whose latest configuration is the last configuration entry
of its log: see `NStepM`. `B` backs the match indexes of the leader's table before the step and the match-index reports
delivered in the step. -/
theorem nstepM (pre : Node) (op : Op) (ra : List Nat) (ord : List (List Nat)) (B : Nat → Nat → Prop)
    (hn : NWF pre) (hl : C06.LogWF pre.log) (hwf : C05.VoteWF pre) (hboot : pre.configs.isBootstrapped = true)
    (hok : OpOK op) (hcf : CfgRel.OpOk op) (happ : ∀ q, op ≠ .append q) (hc : pre.role = .candidate → pre.term ≠ 0)
    (hrv : pre.role = .candidate → pre.configs.latest.isVoter pre.nid = true)
    (hcl : CfgLast pre.log.entries pre.configs.latest) (hci : pre.commitIndex ≤ pre.lastLogIndex)
    (hnd : pre.configs.latest.voters.Nodup) (hq1 : pre.configs.latest.quorum ≠ 1)
    (hld : pre.role = .leader → LeadOK B pre ∧ (∀ j m, B j m → m ≤ pre.log.entries.length) ∧
      pre.ldr.node = pre.configs.latest.get pre.nid ∧
      (pre.configs.isCommitted = true →
        pre.configs.latest.index < pre.ldr.startIndex ∨ pre.configs.latest.index ≤ pre.commitIndex))
    (hupd : ∀ us, op = .replUpdates us → ∀ u ∈ us, ∀ v, u.upd = .matchIndex v → v = 0 ∨ B u.id v) :
    NStepM pre (AOp pre op) B (pre.step op ra ord) := by
  have hq : pre.configs.latest.voters.length ≠ 1 := by
    rw [C01Sys.quorum_eq] at hq1; omega
  have hbn : NWF (pre.begin ra ord) := nwf_congr hn rfl rfl rfl rfl rfl
  have hbwf : C05.VoteWF (pre.begin ra ord) := hwf
  have hbase : (pre.begin ra ord).role = .leader → MBase (pre.begin ra ord) B ∧
      ∀ r ∈ (pre.begin ra ord).ldr.repls, r.matchIndex = 0 ∨ B r.id r.matchIndex := by
    intro hr
    obtain ⟨lo, hB, hnode, hcc⟩ := hld hr
    exact ⟨⟨hbn, hl, hbwf, hr, lo.start, lo.own, hB, ⟨lo.numVoters, hnode⟩, hcl, hcc,
      by show pre.commitIndex ≤ pre.log.entries.length; rw [← hn.last]; exact hci⟩, lo.mi⟩
  have p := step_path (pre.begin ra ord) op hc
  rw [← step_settle pre op ra ord (fun e => by subst e; exact hok)] at p
  have cls := handle_clsM (pre.begin ra ord) op B hbwf hboot hok hcf happ hbase hupd
  suffices hs : NStepM (pre.begin ra ord) (AOp (pre.begin ra ord) op) B (pre.step op ra ord) by
    refine ⟨hs.lwf, hs.flush, hs.pair, hs.tr, hs.cim, fun hp => ?_, hs.ldr, hs.cc, hs.cache, hs.start, hs.grow,
      hs.trgrow⟩
    obtain ⟨T, L, m⟩ := hs.evs hp
    exact ⟨T, L, ⟨m.ev, m.sorted, m.head, m.chg, m.cl, m.newT, m.src, m.trp, m.cmtd⟩⟩
  have hbtr : (pre.begin ra ord).trace = [] := rfl
  have hbl : C06.LogWF (pre.begin ra ord).log := hl
  have hcl' : CfgLast (pre.begin ra ord).log.entries (pre.begin ra ord).configs.latest := hcl
  have hci' : (pre.begin ra ord).commitIndex ≤ (pre.begin ra ord).lastLogIndex := hci
  have hnd' : (pre.begin ra ord).configs.latest.voters.Nodup := hnd
  have hq' : (pre.begin ra ord).configs.latest.voters.length ≠ 1 := hq
  have hq1' : (pre.begin ra ord).configs.latest.quorum ≠ 1 := hq1
  have hrv' : (pre.begin ra ord).role = .candidate →
      (pre.begin ra ord).configs.latest.isVoter (pre.begin ra ord).nid = true := hrv
  have hldb : (pre.begin ra ord).role = .leader → LeadOK B (pre.begin ra ord) := fun hr =>
    ⟨(hld hr).1.numVoters, (hld hr).1.start, (hld hr).1.own, (hld hr).1.mi, (hld hr).1.startLe, (hld hr).1.lastT⟩
  have hccb : (pre.begin ra ord).role = .leader → (pre.begin ra ord).configs.isCommitted = true →
      (pre.begin ra ord).configs.latest.index < (pre.begin ra ord).ldr.startIndex ∨
      (pre.begin ra ord).configs.latest.index ≤ (pre.begin ra ord).commitIndex := fun hr => (hld hr).2.2.2
  have hcab : (pre.begin ra ord).role = .leader →
      (pre.begin ra ord).ldr.node = (pre.begin ra ord).configs.latest.get (pre.begin ra ord).nid :=
    fun hr => (hld hr).2.2.1
  generalize pre.step op ra ord = post at *
  generalize pre.begin ra ord = b at *
  generalize b.handle op = h at *
  have k := SameKey.releaseRole h b.role
  rcases cls with hsx | ⟨hr, hp⟩
  · have init : ∀ x, SX b (AOp b op) False x → x.role = .leader → b.role = .candidate → InitTail x post →
        NStepM b (AOp b op) B post := fun x hxs hxr hbc tl =>
      nstepM_init hbtr hbn hbl hxs hxr (hrv' hbc) hcl' hci' hnd' hq' (by rw [hbc]; decide) tl
    cases p with
    | stay e hrole hrel =>
      subst e
      refine nstepM_sx hbtr hbn hbl hcl' hsx (fun hlead => ?_) hccb hcab
      have ht := hrel.leader_term hrole hlead
      exact ⟨hrole ▸ hlead, ht, leadOK_of_sx hsx ht (hldb (hrole ▸ hlead)), hsx.ldr trivial⟩
    | down hf _ e =>
      subst e
      exact nstepM_sx hbtr hbn hbl hcl' (sx_releaseRole _ hsx) (fun hlead => by rw [k.role, hf] at hlead; cases hlead)
        hccb hcab
    | elect pd e hpc =>
      subst e
      exact nstepM_sx hbtr hbn hbl hcl' (sx_startElection (aop_self b op) (sx_releaseRole _ hsx))
        (fun hlead => by rw [hpc] at hlead; cases hlead) hccb hcab
    | electWon x pd rl _ _ =>
      -- `startElection` makes the node leader at once only when the quorum is one
      have := (pd.elected b.role).2.2.1 rl
      rw [hsx.cfg] at this
      exact absurd this hq1'
    | won x c _ _ r ex tl =>
      subst ex
      exact init _ (sx_releaseRole _ hsx) (k.role.trans r) c.1 tl
    | reelectWon x c _ r ex tl =>
      subst ex
      exact init _ (sx_releaseRole _ hsx) (k.role.trans r) c tl
  · -- a leader's handler: the step ends with its result, or with the release after a step down
    obtain ⟨hb0, _⟩ := hbase hr
    have hh : h.role = .leader ∨ h.role = .follower :=
      hp.elim (fun hi => hi.role.imp id fun hf => hf.1) fun hf => Or.inr hf.1
    have hstart : ∀ x, LJ b B x → b.ldr.startIndex ≤ x.log.entries.length := fun x hx => by
      have := (hldb hr).startLe; have := lj_len hx; omega
    rcases p.of_leader hr hh with ⟨e, hrole⟩ | ⟨hf, e⟩
    · subst e
      rcases hp with hi | ⟨hf, _⟩
      · exact nstepM_lj hbtr hbn hbl (sx_refl b _ True hbwf) hb0 hi (Or.inl rfl)
          (fun j k hB => ⟨hr, rfl, hB⟩) (Or.inl ⟨hr, rfl, rfl, hbtr, rfl⟩) (hstart _ hi) id (by rw [hr]; decide)
          (fun _ hlo => Or.inl ⟨hr, hi.term, hlo⟩)
      · rw [hrole, hr] at hf; cases hf
    · subst e
      -- the handler's result is itself a follower, or it stepped down from a state `x` of the handler
      obtain ⟨x, hx, hsx, hpx⟩ : ∃ x, LJ b B x ∧ SX x AF False h ∧ (h.panicked = none → x.panicked = none) := by
        rcases hp with hi | hp
        · exact ⟨h, hi, sx_refl h AF False (lj_wf hb0 hi), id⟩
        · exact hp.2
      exact nstepM_lj hbtr hbn hbl (sx_refl b _ True hbwf) hb0 hx
        (Or.inr ⟨by rw [k.role]; exact hf, sx_releaseRole _ hsx⟩)
        (fun j k hB => ⟨hr, rfl, hB⟩) (Or.inl ⟨hr, rfl, rfl, hbtr, rfl⟩) (hstart _ hx)
        (fun hp => hpx ((CfgRel.q_releaseRole _ _).pan' hp)) (by rw [hr]; decide)
        (fun e' hlo => Or.inl ⟨hr, by rw [e']; exact hx.term, by rw [e']; exact hlo⟩)

/-- EXAMPLE: the hypotheses of `nstepM` are satisfiable — the bootstrapped follower `C04Sys.exNode 2` (log = the
configuration entry (1,1) with the voters 1, 2, 3) handling an election timeout (it becomes candidate of term 2) -/
example : NStepM (C04Sys.exNode 2) (AOp (C04Sys.exNode 2) .timeout) (fun _ _ => False)
    ((C04Sys.exNode 2).step .timeout [] []) := by
  have hcfg : C04Sys.exE.config? = some C04Sys.exCfg := by decide
  refine nstepM (C04Sys.exNode 2) .timeout [] [] (fun _ _ => False)
    ⟨rfl, rfl, rfl, fun k hk => ?_, rfl, rfl⟩ ⟨by decide, by decide⟩ ⟨rfl, rfl⟩ rfl trivial trivial
    (fun q h => by cases h) (fun h => by cases h) (fun h => by cases h)
    ⟨⟨C04Sys.exE, List.mem_singleton.mpr rfl, hcfg⟩, fun e he _ => by rw [List.mem_singleton.mp he]; decide⟩
    (by decide) (by decide) (by decide) (fun h => by cases h) (fun us h => by cases h)
  have : k = 0 := by have : k < 1 := hk; omega
  subst this; rfl

end MemberCommit
end Raft
