/-
The per-node invariants hold in every reachable state of the cluster system (Props/C19Sys.lean).

Node level: how `configs` moves when every configuration entry around has index 1 (`CfgLe1`); the closure records
`SClosed` / `SStep` (the real `appendEntry` and a guarded `removeGTE` as primitives) with the instance `SegInv`: the
segment list is well formed in memory and AT EVERY CRASH POINT of a step that does not fail (`crashDisk_segsOK`).
The cluster: `Commit` (Sys/Commit.lean) with two more environment assumptions (`EnabledG`), closed nodes frozen (`TransG`),
one more side condition (`SideG`), the invariant `GInv` and its preservation by every transition.
-/
import RaftVerif.Props.C03Sys
import RaftVerif.Props.C08Step
import RaftVerif.Props.C12Track
import RaftVerif.Props.C15Tasks
import RaftVerif.Lemmas.Shape
import RaftVerif.Lemmas.NodeSys
import RaftVerif.Lemmas.Grows

namespace Raft
namespace SysInv
open Node LogRel CommitRel Commit C02Sys NoPanic
open Replication (ReadFrom newCreated)
open NodeSys (forall_setNode Move move_setNode)

/-- both configurations a node holds have an index of at most 1 (the bootstrap entry, or none) -/
def CfgLe1 (cs : Configs) : Prop := cs.committed.index ≤ 1 ∧ cs.latest.index ≤ 1

/-- follower-side moves (adoption of a configuration entry with index ≤ 1, revert, commit) keep `CfgLe1` -/
theorem chain_fresh_le1 {s : Node} {op : Op} (h0 : CfgLe1 s.configs)
    (hadopt : ∀ q e c, op = .append q → e ∈ q.entries → e.config? = some c → c.index ≤ 1)
    (hni : ∀ q, op ≠ .install q) (hnb : ∀ t c, op ≠ .changeConfig t c)
    {ph : CfgRel.Phase} {cs : Configs} (h : CfgRel.Chain s op ph cs) : ph = .fresh → CfgLe1 cs := by
  induction h with
  | start => intro _; exact h0
  | @step ph0 ph1 cs0 cs1 hc mv ih =>
    intro hp
    cases mv with
    | change => exact absurd hp (CfgRel.Phase.afterChangeP_ne _ _)
    | commit _ _ i hnc =>
      have := ih (CfgRel.Phase.afterCommit_fresh hp)
      exact ⟨this.2, this.2⟩
    | adopt _ q e c hop he hcfg => exact ⟨(ih rfl).2, hadopt q e c hop he hcfg⟩
    | revert _ q e hop => exact ⟨(ih rfl).1, (ih rfl).1⟩
    | install _ q hop => exact absurd hop (hni q)
    | bootstrap t c _ hop => exact absurd hop (hnb t c)

/-- leader-side moves: the index of the latest configuration does not decrease, and `CfgLe1` is kept unless it
increased -/
theorem chain_leader_le1 {s : Node} {op : Op} (h0 : CfgLe1 s.configs) (happ : ∀ q, op ≠ .append q)
    (hni : ∀ q, op ≠ .install q) (hnb : ∀ t c, op ≠ .changeConfig t c)
    {ph : CfgRel.Phase} {cs : Configs} (h : CfgRel.Chain s op ph cs) :
    s.configs.latest.index ≤ cs.latest.index ∧ (CfgLe1 cs ∨ s.configs.latest.index < cs.latest.index) := by
  induction h with
  | start => exact ⟨Nat.le_refl _, Or.inl h0⟩
  | @step ph0 ph1 cs0 cs1 hc mv ih =>
    cases mv with
    | change _ x b c _ _ _ _ _ _ _ _ hlt =>
      have := ih.1
      exact ⟨by show _ ≤ c.index; omega, Or.inr (by show _ < c.index; omega)⟩
    | commit _ _ i hnc =>
      refine ⟨ih.1, ?_⟩
      rcases ih.2 with l | l
      · exact Or.inl ⟨l.2, l.2⟩
      · exact Or.inr l
    | adopt _ q e c hop => exact absurd hop (happ q)
    | revert _ q e hop => exact absurd hop (happ q)
    | install _ q hop => exact absurd hop (hni q)
    | bootstrap t c _ hop => exact absurd hop (hnb t c)

/-- **a step that is not an append request, handled without failure by a node whose configuration entries all
have index 1, leaves `CfgLe1`** — provided the latest configuration is the same afterwards (`NStep.cfg`: no
change is started under a stable configuration). -/
theorem step_cfgLe1 {T : Bool} (s : Node) (op : Op) (ra : List Nat) (ord : List (List Nat)) (hG : Good T s)
    (ho : s.closed = "") (hok : CfgRel.OpOk op) (happ : ∀ q, op ≠ .append q) (hni : ∀ q, op ≠ .install q)
    (hnb : ∀ t c, op ≠ .changeConfig t c) (h0 : CfgLe1 s.configs)
    (hcfg : (s.step op ra ord).configs.latest = s.configs.latest) : CfgLe1 (s.step op ra ord).configs := by
  obtain ⟨ph, hc⟩ := C08Step.config_step_good s op ra ord hG ho hok
  rcases (chain_leader_le1 h0 happ hni hnb hc).2 with l | l
  · exact l
  · rw [hcfg] at l; omega

/-- **… and appends no configuration entry**: every configuration entry of the log after the step has index ≤ 1 -/
theorem step_cfg_entries {T : Bool} (s : Node) (op : Op) (ra : List Nat) (ord : List (List Nat)) (hG : Good T s)
    (ho : s.closed = "") (hok : CfgRel.OpOk op) (happ : ∀ q, op ≠ .append q)
    (hp : (s.step op ra ord).panicked = none)
    (hc1 : ∀ e ∈ s.log.entries, e.typ = etConfig → e.index = 1) (hl1 : s.configs.latest.index = 1)
    (hcfg : (s.step op ra ord).configs.latest = s.configs.latest) :
    ∀ e ∈ (s.step op ra ord).log.entries, e.typ = etConfig → e.index ≤ 1 := by
  have hl : CfgRel.LogInv s :=
    ⟨fun e he ht => Or.inr (by rw [hc1 e he ht, hl1]), hG.ordered.committed_le_latest⟩
  have hpost := C08Step.at_most_one_uncommitted_log_partial s op ra ord (C08Step.selfCache_of_good hG ho)
    hG.ordered.latest_le_last (C08Step.anchC_of_good hG) hok hl happ hp
  intro e he ht
  rcases hpost.1 e he ht with h | h
  · have := hpost.2
    rw [hcfg, hl1] at this
    omega
  · rw [h, hcfg, hl1]; exact Nat.le_refl _

theorem append_cfgLe1 (s : Node) (q : AppendReq) (ra : List Nat) (ord : List (List Nat))
    (hli : s.configs.latest.index ≤ s.lastLogIndex) (hanch : CfgRel.AnchC s.configs.latest)
    (h0 : CfgLe1 s.configs) (hq : ∀ e ∈ q.entries, ∀ c, e.config? = some c → c.index ≤ 1) :
    CfgLe1 (s.step (.append q) ra ord).configs := by
  have m0 := CfgRel.main_begin s (.append q) ra ord hli hanch
  show CfgLe1 (settle 6 ((s.begin ra ord).handle (.append q)) (s.begin ra ord).role).configs
  have hh : (s.begin ra ord).handle (.append q) = ((s.begin ra ord).onAppendEntries q).rpcDone false true := rfl
  rcases CfgRel.onAppendEntries_fi (s.begin ra ord) q rfl m0.chain m0.ci with h | h
  · rw [hh, h]
    have hk := CfgRel.kf_rpcDone ((s.begin ra ord).ret rStaleTerm) false true
    have e1 : (((s.begin ra ord).ret rStaleTerm).rpcDone false true).configs = s.configs := congrArg Prod.fst hk
    have e3 : (((s.begin ra ord).ret rStaleTerm).rpcDone false true).role = (s.begin ra ord).role :=
      congrArg (fun p => p.2.2) hk
    rw [← e3, settle_same, e1]; exact h0
  · have h' : CfgRel.FI s (.append q) ((s.begin ra ord).handle (.append q)) := by
      rw [hh]; exact h.congr (CfgRel.kf_rpcDone _ _ _)
    rw [CfgRel.settle_follower _ _ h'.role]
    exact chain_fresh_le1 h0 (fun q' e c hop he hc => by
        injection hop with hop; subst hop; exact hq e he c hc)
      (fun q' h => by cases h) (fun t c h => by cases h) h'.chain rfl

/-- **the configurations of a restarted node**: when the disk holds no snapshot and every configuration entry of
its log has index ≤ 1 (and decodes), both have an index ≤ 1 -/
theorem restart_cfgLe1 (d : Durable) (r : Nat) (sor : Bool) (n : Node) (h : restart d r sor = some n)
    (hs : d.snaps = []) (hp : d.log.prev = 0)
    (hc : ∀ e ∈ d.log.entries, e.typ = etConfig → e.index ≤ 1 ∧ e.cfg.isSome = true) : CfgLe1 n.configs := by
  obtain ⟨_, _, _, _, _, hcfg, _⟩ := C10.restart_fsm d r sor n h
  have hsnap : C10.snapOf d = {} := by unfold C10.snapOf; rw [hs]; rfl
  have hwf : C10.DurWF d := by unfold C10.DurWF; rw [hp]; exact Nat.zero_le _
  have hsub : ∀ e ∈ C10.window (C10.logOf d) (C10.snapOf d).index (C10.logOf d).last, e ∈ d.log.entries :=
    fun e he => C15NoPanic.logOf_entries d e (C15NoPanic.window_sub _ _ _ e he)
  have hok : C10.NoDecodeErr (C10.window (C10.logOf d) (C10.snapOf d).index (C10.logOf d).last) := by
    intro e he ht
    exact Entry.config?_isSome ht (hc e (hsub e he) ht).2
  obtain ⟨_, hl, hcm⟩ := C10.restart_configs d r sor hwf hok
  have habove : ∀ c ∈ C10.configsAbove d, c.index ≤ 1 := by
    intro c hcm
    unfold C10.configsAbove at hcm
    obtain ⟨e, he, hec⟩ := List.mem_filterMap.mp hcm
    have ht : e.typ = etConfig := (Entry.config?_facts hec).1
    rw [(Entry.config?_facts hec).2.1]
    exact (hc e (hsub e he) ht).1
  have hget : ∀ k : Nat, (((C10.configsAbove d)[k]?).getD (C10.snapOf d).config).index ≤ 1 := by
    intro k
    cases hk : (C10.configsAbove d)[k]? with
    | none => rw [hsnap]; exact Nat.zero_le _
    | some c => exact habove c (List.mem_of_getElem? hk)
  rw [hcfg]
  exact ⟨by rw [hcm]; exact hget 1, by rw [hl]; exact hget 0⟩

/-! ## a guarded closure for facts about the segment list

`Node.Closed` / `Node.StepClosed` (Lemmas/Inv.lean, Lemmas/StepInv.lean) ask for closure under
`log := log.append e roll` with an ARBITRARY roll-over bit and under `removeGTE i` for an arbitrary `i`; the
well-formedness of the segment list (`C09.SegsOK`: boundaries strictly increasing) survives only the roll-over
`storage.appendEntry` really decides on and a truncation at an index the log holds. `SClosed` / `SStep` list the
primitives with these two stated for the real call sites, for the operations without installation, snapshot and
shutdown (`LogRel.OpOK`: `handle_with`, `step_with`; those of the `_partial` model, `CommitRel.OpOK2`, without configuration
change as well: `handle_inv`, `step_inv`); the composition is the walk of Lemmas/StepWalk.lean (`SStep.toGuardedStep`). -/

structure SClosed (Inv : Node → Prop) : Prop where
  panic : ∀ s site, Inv s → Inv (s.panic site)
  reply : ∀ s t r, Inv s → Inv (s.reply t r)
  point : ∀ s n, Inv s → Inv (s.point n)
  ldr : ∀ (s : Node) l, Inv s → Inv (s.withLdr l)
  /-- the real `storage.appendEntry`, with its own assertion and roll-over decision -/
  appendEntry : ∀ (s : Node) e, Inv s → Inv (s.appendEntry e)
  commitN : ∀ (s : Node) n, Inv s → Inv { s with log := s.log.commitN n }
  fsm : ∀ (s : Node) f, Inv s → Inv (s.withFsm f)
  changeConfigR : ∀ (s : Node) c, Inv s → Inv (s.changeConfigR c)
  /-- the commit index only ever moves forward: every call site has checked `i > commitIndex` -/
  setCommitIndexR : ∀ (s : Node) i, Inv s → i > s.commitIndex → Inv (s.setCommitIndexR i).1
  popOrder : ∀ (s : Node), Inv s → Inv s.popOrder

namespace SClosed

variable {Inv : Node → Prop} (h : SClosed Inv)
include h

/-- the leader block asks for less than an `SClosed` predicate gives: the leader record may be ANY record -/
theorem toGuarded : Guarded Inv where
  panic := h.panic
  reply := h.reply
  point := h.point
  ldrK := fun s l hs _ _ _ => h.ldr s l hs
  replsG := fun s _ hs _ => h.ldr s _ hs
  appendEntry := fun s e hs _ _ => h.appendEntry s e hs
  commitN := h.commitN
  fsmLog := fsmApplyLogTo_of h.panic h.fsm
  fsmItems := fsmApplyItems_of h.panic h.fsm h.reply
  changeConfigR := h.changeConfigR
  setCommitIndexR := h.setCommitIndexR
  popOrder := h.popOrder

theorem applyCommittedL_inv (s : Node) (hs : Inv s) : Inv s.applyCommittedL := h.toGuarded.applyCommittedL_inv s hs

end SClosed

structure SStep (Inv : Node → Prop) : Prop extends SClosed Inv where
  rpcReply : ∀ (s : Node) r, Inv s → Inv (s.withRpcReply r)
  ret : ∀ (s : Node) r, Inv s → Inv (s.ret r)
  setRole : ∀ (s : Node) r, Inv s → Inv (s.setRole r)
  setLeader : ∀ (s : Node) l, Inv s → Inv (s.setLeader l)
  setTerm : ∀ (s : Node) t, Inv s → Inv (s.setTerm t)
  /-- `setVotedFor` entering a higher term (vote requests, the self vote of `startElection`) -/
  voteNewTerm : ∀ (s : Node) t c, Inv s → t > s.term → Inv (s.setVotedFor t c)
  voteGrant : ∀ (s : Node) c, Inv s → s.votedFor = 0 → Inv (s.setVotedFor s.term c)
  votesNeeded : ∀ (s : Node) v, Inv s → Inv (s.withVotesNeeded v)
  candTransfer : ∀ (s : Node) v, Inv s → Inv (s.withCandTransfer v)
  /-- `storage.removeGTE`: every call site has found the entry `i` in the log -/
  removeGTE : ∀ (s : Node) i pt, Inv s → s.log.prev < i → i ≤ s.log.last →
    Inv { s with log := s.log.removeGTE i, lastLogIndex := i - 1, lastLogTerm := pt }
  removeLTE : ∀ (s : Node) i, Inv s → Inv { s with log := s.log.removeLTE i }
  revertConfig : ∀ (s : Node), Inv s → Inv s.revertConfig
  snapPending : ∀ (s : Node) v, Inv s → Inv (s.withSnapPending v)

namespace SStep

variable {Inv : Node → Prop} (h : SStep Inv)
include h

omit h in
/-- the updates an `SStep` predicate is asked about: no installation, no compaction report, no snapshot goroutine,
no `bootstrap`, no shutdown -/
def caps : Caps :=
  { file := fun _ => False, snap := fun _ => False, install := False, compact := False, reports := True, transfer := True,
    boot := False, shutdown := False }

theorem toGuardedStep : GuardedStep caps Inv where
  toGuarded := h.toSClosed.toGuarded
  ldrT := fun _ s l hs _ _ => h.ldr s l hs
  ldrAny := fun _ => h.ldr
  appendAny := h.appendEntry
  rpcReply := h.rpcReply
  ret := h.ret
  setRole := fun s r hs _ _ => h.setRole s r hs
  setLeader := h.setLeader
  doClose := fun hc => hc.elim
  setTerm := fun s t hs _ => h.setTerm s t hs
  voteNewTerm := fun s t v hs ht _ => h.voteNewTerm s t v hs ht
  voteGrant := h.voteGrant
  votesNeeded := fun _ => h.votesNeeded
  termDown := fun s t hs _ => h.setRole _ _ (h.setTerm s t hs)
  bootTerm := fun hc => hc.elim
  bootRole := fun hc => hc.elim
  candTransfer := h.candTransfer
  removeGTE := fun s i pt hs _ a b => h.removeGTE s i pt hs a b
  removeLTE := fun hc => hc.elim
  revertConfig := h.revertConfig
  commitConfig := fun hc => hc.elim
  installCore := fun hc => hc.elim
  installCommit := fun hc => hc.elim
  snapRun := fun _ _ hc => hc.elim
  snapPending := h.snapPending
  snapResult := fun hc => hc.elim
  bootstrapLast := fun hc => hc.elim

theorem doChangeConfig_inv (f : Nat) (s : Node) (t c) (hs : Inv s) : Inv (doChangeConfig f s t c) :=
  h.toGuardedStep.doChangeConfig_inv f s t c hs
theorem checkConfigActions_inv (f : Nat) (s : Node) (t c) (hs : Inv s) : Inv (checkConfigActions f s t c) :=
  h.toGuardedStep.checkConfigActions_inv f s t c hs

theorem leaderInit_inv (s : Node) (hs : Inv s) : Inv s.leaderInit := h.toGuardedStep.leaderInit_inv trivial s hs

theorem initRole_inv (s : Node) (hs : Inv s) : Inv s.initRole :=
  h.toGuardedStep.toAt.initRole_inv trivial h.leaderInit_inv s hs

theorem settle_inv (f : Nat) (s : Node) (c : Role) (hs : Inv s) : Inv (settle f s c) :=
  h.toGuardedStep.settle_inv trivial trivial h.leaderInit_inv f s c hs

omit h in
theorem opOk (s : Node) {op : Op} (hok : OpOK op) (hcc : ∀ t c, op ≠ .changeConfig t c) : caps.Ok s op := by
  cases op <;> first | exact hok.elim | exact absurd rfl (hcc _ _) | trivial | exact Or.inr trivial | exact fun _ => trivial | skip
  case replUpdates us =>
    exact ⟨trivial, trivial, fun hf => Bool.false_ne_true ((replUpdLoop_flag us hok s {}).symm.trans hf)⟩

/-- every case of `handle`: no snapshot / compaction operation (`LogRel.OpOK`); a `ChangeConfig` request is handled by
`leader.onChangeConfig`, or refused by a node that is not leader if it is bootstrapped (`hboot`; `Raft.bootstrap` itself
is not among the updates of `SStep`) -/
theorem handle_with (s : Node) (op : Op) (hok : OpOK op)
    (hboot : ∀ t c, op = .changeConfig t c → s.role ≠ .leader → s.configs.isBootstrapped = true) (hs : Inv s) :
    Inv (s.handle op) := by
  by_cases hc : ∃ t c, op = .changeConfig t c
  · obtain ⟨t, c, rfl⟩ := hc
    exact handle_changeConfig_of h.reply (fun s t c => h.checkConfigActions_inv _ s t c)
      (fun s t c => h.doChangeConfig_inv _ s t c) s t c (hboot t c rfl) hs
  · exact h.toGuardedStep.handle_inv s op (opOk s hok fun t c e => hc ⟨t, c, e⟩) hs

theorem step_with (s : Node) (op : Op) (ra : List Nat) (ord : List (List Nat)) (hok : OpOK op)
    (hboot : ∀ t c, op = .changeConfig t c → s.role ≠ .leader → s.configs.isBootstrapped = true)
    (hs : Inv (s.begin ra ord)) : Inv (s.step op ra ord) :=
  Node.step_of h.settle_inv s op ra ord (h.handle_with (s.begin ra ord) op hok hboot hs)

theorem step_inv (s : Node) (op : Op) (ra : List Nat) (ord : List (List Nat)) (hok : OpOK2 op)
    (hs : Inv (s.begin ra ord)) : Inv (s.step op ra ord) :=
  h.step_with s op ra ord hok.1 (fun t c e => absurd e (hok.2.2 t c)) hs

end SStep

/-! ### the instance: the segment list, in memory and at every crash point -/

theorem le_lastSegPrev (l : NLog) (h : C09.SegsOK l) : ∀ y ∈ l.segs, y ≤ l.lastSegPrev := by
  intro y hy
  unfold NLog.lastSegPrev
  have hne : l.segs ≠ [] := List.ne_nil_of_mem hy
  rw [List.getLast?_eq_some_getLast hne]
  show y ≤ l.segs.getLast hne
  rcases List.mem_iff_getElem.mp hy with ⟨a, ha, rfl⟩
  rw [List.getLast_eq_getElem]
  by_cases hlast : a = l.segs.length - 1
  · subst hlast; exact Nat.le_refl _
  · exact Nat.le_of_lt (List.pairwise_iff_getElem.mp h.sorted a (l.segs.length - 1) ha (by omega) (by omega))

theorem lastSegPrev_mem (l : NLog) (h : C09.SegsOK l) : l.lastSegPrev ∈ l.segs := by
  have hne : l.segs ≠ [] := by
    intro e; have := h.head; rw [e] at this; cases this
  unfold NLog.lastSegPrev
  rw [List.getLast?_eq_some_getLast hne]
  exact List.getLast_mem hne

theorem prev_le_lastSegPrev (l : NLog) (h : C09.SegsOK l) : l.prev ≤ l.lastSegPrev := by
  apply le_lastSegPrev l h
  have := h.head
  cases hs : l.segs with
  | nil => rw [hs] at this; cases this
  | cons a t =>
    rw [hs] at this
    injection this with this
    rw [this]; exact List.mem_cons_self ..

theorem segsOK_durable (l : NLog) (h : C09.SegsOK l) (hw : C06.LogWF l) : C09.SegsOK l.durable := by
  have hp := prev_le_lastSegPrev l h
  obtain ⟨w1, w2⟩ := hw
  refine ⟨h.sorted, h.head, fun y hy => ?_⟩
  show y ≤ l.prev + (l.entries.take (l.flushed - l.prev)).length
  have hy' := le_lastSegPrev l h y hy
  rw [List.length_take]
  unfold NLog.last at w2
  omega

/-- what is claimed of the segment list while the step has not failed: well formed in memory (`SegsOK`, `LogWF`,
the cached last index is right) and at every crash point recorded so far -/
structure SegQ (s : Node) : Prop where
  segs : C09.SegsOK s.log
  lwf : C06.LogWF s.log
  last : s.lastLogIndex = s.log.last
  tr : ∀ p ∈ s.trace, C09.SegsOK p.2.log

/-- … unless the step has failed (the Go process is dead; the model runs on a totalised path) -/
def SegInv (s : Node) : Prop := s.panicked = none → SegQ s

/-- an update that leaves the log alone, whatever it records (Lemmas/Traced.lean), and does not clear a failure -/
theorem segInv_rec {s s' : Node} (h : SegInv s) (e1 : s'.log = s.log) (e2 : s'.lastLogIndex = s.lastLogIndex)
    (e3 : Rec s s') (e4 : s'.panicked = none → s.panicked = none) : SegInv s' := by
  intro hp
  obtain ⟨a, b, c, d⟩ := h (e4 hp)
  have a' : C09.SegsOK s'.log := by rw [e1]; exact a
  have b' : C06.LogWF s'.log := by rw [e1]; exact b
  exact ⟨a', b', by rw [e2, e1]; exact c,
    Traced.step (D := fun p => C09.SegsOK p.2.log) d e3 fun _ => segsOK_durable _ a' b'⟩

theorem segInv_irr {s s' : Node} (h : SegInv s) (e1 : s'.log = s.log) (e2 : s'.lastLogIndex = s.lastLogIndex)
    (e3 : s'.trace = s.trace) (e4 : s'.panicked = none → s.panicked = none) : SegInv s' :=
  segInv_rec h e1 e2 (.of_eq e3) e4

theorem segInv_panic (s : Node) (site : String) : SegInv (s.panic site) :=
  fun hp => absurd hp (panic_panicked_ne s site)

theorem segInv_point {s : Node} (n : String) (h : SegInv s) : SegInv (s.point n) :=
  segInv_rec h rfl rfl (rec_point s n) id

theorem segInv_setTerm {s : Node} (t : Nat) (h : SegInv s) : SegInv (s.setTerm t) := by
  refine segInv_rec h ?_ ?_ (rec_setTerm s t) (Order.irr_setTerm s t).2 <;> rw [setTerm_shape]

theorem segInv_setVotedFor {s : Node} (t c : Nat) (h : SegInv s) : SegInv (s.setVotedFor t c) := by
  refine segInv_rec h ?_ ?_ (rec_setVotedFor s t c) (Order.irr_setVotedFor s t c).2 <;> rw [setVotedFor_shape]

theorem segInv_appendEntry {s : Node} (e : Entry) (h : SegInv s) : SegInv (s.appendEntry e) := by
  unfold Node.appendEntry Node.assert
  dsimp only
  split
  · rename_i hb
    intro hp
    obtain ⟨a, b, c, d⟩ := h hp
    have hidx : e.index = s.lastLogIndex + 1 := by simpa using hb
    refine ⟨Order.segsOK_append _ _ _ a (fun hr => ?_), (logwf_append _ _ _ b).1, ?_, d⟩
    · simp only [Bool.and_eq_true, bne_iff_ne, ne_eq] at hr
      rw [← c]
      intro hx
      exact hr.2 (by rw [hx, hidx]; omega)
    · show e.index = (NLog.append _ _ _).last
      rw [NLog.last_append, ← c, hidx]
  · intro hp
    exact absurd hp (panic_panicked_ne s _)

theorem segInv_commitN {s : Node} (n : Nat) (h : SegInv s) : SegInv { s with log := s.log.commitN n } := by
  intro hp
  obtain ⟨a, b, c, d⟩ := h hp
  have hl : (s.log.commitN n).last = s.log.last := by unfold NLog.commitN NLog.last; split <;> rfl
  have e1 : (s.log.commitN n).segs = s.log.segs := by unfold NLog.commitN; split <;> rfl
  have e2 : (s.log.commitN n).prev = s.log.prev := by unfold NLog.commitN; split <;> rfl
  refine ⟨?_, (logwf_commitN _ n b).1, by show s.lastLogIndex = _; rw [hl]; exact c, d⟩
  refine ⟨?_, ?_, fun y hy => ?_⟩
  · rw [e1]; exact a.sorted
  · rw [e1, e2]; exact a.head
  · rw [e1] at hy
    rw [hl]; exact a.le_last y hy

theorem segInv_removeGTE {s : Node} (i pt : Nat) (h : SegInv s) (h1 : s.log.prev < i) (h2 : i ≤ s.log.last) :
    SegInv { s with log := s.log.removeGTE i, lastLogIndex := i - 1, lastLogTerm := pt } := by
  intro hp
  obtain ⟨a, b, c, d⟩ := h hp
  have hl := NLog.last_removeGTE s.log i h1 h2
  have hs := Order.segsOK_removeGTE s.log i a h1 h2
  refine ⟨hs, ⟨?_, ?_⟩, hl.symm, d⟩
  · show (s.log.removeGTE i).lastSegPrev ≤ i - 1
    have := hs.le_last _ (lastSegPrev_mem _ hs)
    rw [hl] at this; exact this
  · show i - 1 ≤ (s.log.removeGTE i).last
    rw [hl]; exact Nat.le_refl _

theorem segInv_removeLTE {s : Node} (i : Nat) (h : SegInv s) : SegInv { s with log := s.log.removeLTE i } := by
  intro hp
  obtain ⟨a, b, c, d⟩ := h hp
  obtain ⟨_, _, _, _, hl, _, hs⟩ := C09.removeLTE_whole_segments s.log i a
  refine ⟨hs, ⟨?_, ?_⟩, by show s.lastLogIndex = _; rw [hl]; exact c, d⟩
  · show (s.log.removeLTE i).lastSegPrev ≤ s.log.last
    have := hs.le_last _ (lastSegPrev_mem _ hs)
    rw [hl] at this; exact this
  · show s.log.last ≤ (s.log.removeLTE i).last
    rw [hl]; exact Nat.le_refl _

theorem segStep : SStep SegInv where
  panic := fun s site _ => segInv_panic s site
  reply := fun s t r h => by rw [reply_shape]; exact segInv_irr h rfl rfl rfl id
  point := fun s n h => segInv_point n h
  ldr := fun s l h => segInv_irr h rfl rfl rfl id
  appendEntry := fun s e h => segInv_appendEntry e h
  commitN := fun s n h => segInv_commitN n h
  fsm := fun s f h => segInv_irr h rfl rfl rfl id
  changeConfigR := fun s c h => by rw [changeConfigR_shape]; exact segInv_irr h rfl rfl rfl id
  setCommitIndexR := fun s i h _ => by rw [setCommitIndexR_shape]; exact segInv_irr h rfl rfl rfl id
  popOrder := fun s h => segInv_irr h rfl rfl rfl id
  rpcReply := fun s r h => segInv_irr h rfl rfl rfl id
  ret := fun s r h => segInv_irr h rfl rfl rfl id
  setRole := fun s r h => segInv_irr h rfl rfl rfl id
  setLeader := fun s l h => segInv_irr h rfl rfl rfl id
  setTerm := fun s t h => segInv_setTerm t h
  voteNewTerm := fun s t c h _ => segInv_setVotedFor t c h
  voteGrant := fun s c h _ => segInv_setVotedFor _ c h
  votesNeeded := fun s v h => segInv_irr h rfl rfl rfl id
  candTransfer := fun s v h => segInv_irr h rfl rfl rfl id
  removeGTE := fun s i pt h h1 h2 => segInv_removeGTE i pt h h1 h2
  removeLTE := fun s i h => segInv_removeLTE i h
  revertConfig := fun s h => segInv_irr h rfl rfl rfl id
  snapPending := fun s v h => segInv_irr h rfl rfl rfl id

/-- **the segment list at every moment a process may die**: from a state whose segment list is well formed, for an
operation that is no snapshot / compaction operation (a node that is not leader is bootstrapped if the operation is a
`ChangeConfig` request) handled without failure, what is on disk after `k` storage points (`k = 0`: when the step
starts; beyond the last point: when it has completed) has a well-formed segment list — for every `k`. -/
theorem crashDisk_segsOK_of (s : Node) (op : Op) (ra : List Nat) (ord : List (List Nat)) (k : Nat) (hok : OpOK op)
    (hboot : ∀ t c, op = .changeConfig t c → s.role ≠ .leader → s.configs.isBootstrapped = true)
    (h1 : C09.SegsOK s.log) (h2 : C06.LogWF s.log) (h3 : s.lastLogIndex = s.log.last)
    (hp : k ≠ 0 → (s.step op ra ord).panicked = none) : C09.SegsOK (C05.crashDisk s op ra ord k).log := by
  rcases k with _ | k
  · exact segsOK_durable _ h1 h2
  · have h0 : SegInv (s.begin ra ord) := fun _ => ⟨h1, h2, h3, fun p hp' => by cases hp'⟩
    obtain ⟨a, b, _, d⟩ := segStep.step_with s op ra ord hok hboot h0 (hp (Nat.succ_ne_zero k))
    exact C05.crashDisk_of (D := fun x => C09.SegsOK x.log) s op ra ord (k + 1) (segsOK_durable _ h1 h2)
      (segsOK_durable _ a b) d

/-- the operations of the `_partial` model (`CommitRel.OpOK2`: no `ChangeConfig` request) -/
theorem crashDisk_segsOK (s : Node) (op : Op) (ra : List Nat) (ord : List (List Nat)) (k : Nat) (hok : OpOK2 op)
    (h1 : C09.SegsOK s.log) (h2 : C06.LogWF s.log) (h3 : s.lastLogIndex = s.log.last)
    (hp : k ≠ 0 → (s.step op ra ord).panicked = none) : C09.SegsOK (C05.crashDisk s op ra ord k).log :=
  crashDisk_segsOK_of s op ra ord k hok.1 (fun t c e => absurd e (hok.2.2 t c)) h1 h2 h3 hp

/-- a configuration entry has index 1 (it is the bootstrap entry) and decodes to a configuration every node can
hold: own action defined, two voters without pending action (`NoPanic.CfgOk true`) -/
def CfgGoodE (e : Entry) : Prop := e.typ = etConfig → e.index = 1 ∧ ∀ nid, cfgOkOpt true nid e.cfg

/-- **the invariant** (on top of `Commit.CInv` and the side conditions): every node is `Good true`; both
configurations of every node have an index ≤ 1; every configuration entry of the tree of created entries is a
bootstrap entry (`CfgGoodE`); the tree has one root (no two records with the same index ≤ 1 and different terms). -/
structure GInv (x : Commit.Sys) : Prop where
  good : ∀ i, Good true (x.node i)
  cfg : ∀ i, CfgLe1 (x.node i).configs
  tree : ∀ c ∈ x.T, CfgGoodE c.e
  root : ∀ c ∈ x.T, ∀ d ∈ x.T, c.e.index = d.e.index → c.e.index ≤ 1 → c.e.term = d.e.term

/-- **two more assumptions on what is delivered to node `i`** (beyond `Commit.Enabled`):
* a `newTerm` report of a replication (one that was not removed) delivered to a leader carries a term that is not
  below the leader's term (`replication` reports a term only when a response carries a higher one than the term it
  was started with; a leader of a later term has new replications);
* a transport error reported for the `timeoutNow` request of a leadership transfer names a node the leader has a
  replication for (the request went to a replication's node). -/
structure EnabledG (x : Commit.Sys) (i : Nat) (op : Op) : Prop where
  newTerm : ∀ us, op = .replUpdates us → (x.node i).role = .leader → ∀ u ∈ us, u.removed = false →
    ∀ v, u.upd = .newTerm v → (x.node i).term ≤ v
  timeoutNow : ∀ src err r, op = .timeoutNowResult src err r → (x.node i).role = .leader →
    (x.node i).ldr.transfer.respPending = true → err = true → (x.node i).findRepl? src ≠ none

/-- **one more side condition on every state of a run** (beyond `Commit.SideV`): every node retains at least one
snapshot (`Options.validate` demands `SnapshotsRetain ≥ 1`; the option is a parameter of every restart). -/
def SideG (x : Commit.Sys) : Prop := ∀ i, 1 ≤ (x.node i).retain

section facts
variable {V : List Nat} {x : Commit.Sys}

/-- every entry of a node's log is a record of the tree -/
theorem log_cfg (hI : CInv V x) (hG : GInv x) (i : Nat) : ∀ e ∈ (x.node i).log.entries, CfgGoodE e := by
  intro e he
  obtain ⟨c, hc, hce⟩ := C04Sys.chain_mem (hI.rp.nodes i).2 e he
  rw [← hce]; exact hG.tree c hc

/-- … and so is every entry of a request on the wire -/
theorem sent_cfg (hI : CInv V x) (hG : GInv x) {q : AppendReq} (hq : q ∈ x.rp.sent) :
    ∀ e ∈ q.entries, CfgGoodE e := by
  intro e he
  obtain ⟨c, hc, hce⟩ := C04Sys.chain_mem (hI.rp.sent q hq).chain e he
  rw [← hce]; exact hG.tree c hc

/-- the latest configuration of every node is the bootstrap entry's -/
theorem latest_one (hS : SideV V x) (hG : GInv x) (i : Nat) : (x.node i).configs.latest.index = 1 := by
  have h1 := (hS.1 i).1
  have h2 := (hG.cfg i).2
  unfold Configs.isBootstrapped Config.isBootstrapped at h1
  have : (x.node i).configs.latest.index > 0 := of_decide_eq_true h1
  omega

theorem last_pos (hS : SideV V x) (hG : GInv x) (i : Nat) : 1 ≤ (x.node i).lastLogIndex := by
  have := (hG.good i).ordered.latest_le_last
  rw [latest_one hS hG i] at this
  exact this

theorem reqok' (hV : V.Nodup) (hR : Commit.ReachableV V x) (hG : GInv x) {i : Nat} {op : Op} {src : Nat}
    (he : Commit.Enabled x i op src) (heG : EnabledG x i op) : ReqOk' true (x.node i) op := by
  obtain ⟨hI, hS⟩ := inv_reachable hV hR
  cases op with
  | append q =>
    show q.term < (x.node i).term ∨ AppendOk' true (x.node i) q
    by_cases hst : q.term < (x.node i).term
    · exact Or.inl hst
    · right
      have hq : q ∈ x.rp.sent := (he.rp.append q rfl).resolve_left hst
      have hro : q.term < (x.node i).term ∨ Order.AppendOk (x.node i) q :=
        reqok_in_sys_partial V hV x hR i (.append q) src he
          (Or.inr (fun c hc d hd hcd hle => hG.root c hc d hd hcd (Nat.le_trans hle (hG.cfg i).1)))
      exact ⟨hro.resolve_left hst, fun ne hne ht => ((sent_cfg hI hG hq ne hne) ht).2 _⟩
  | install q => exact absurd he.rp.ok (by simp [OpOK])
  | newEntries b =>
    show (x.node i).role = .leader → BatchOk true (x.node i).nid b
    intro _ q hq ht
    exact absurd ht (he.ok2.2.1 b rfl q hq)
  | changeConfig t c => exact absurd rfl (he.ok2.2.2 t c)
  | replUpdates us =>
    show (x.node i).role = .leader → ∀ u ∈ us, UpdOk (x.node i) u
    intro hl u hu hr
    refine ⟨fun v hv => ?_, fun v hv => heG.newTerm us rfl hl u hu hr v hv⟩
    rcases he.upd us rfl u hu v hv with h0 | ⟨a, ha, _, h2, h3⟩
    · rw [h0]; exact Nat.zero_le _
    · have := (ack_on_leader hV hI hl ha h2).2.1
      rw [(nwf hI i).last]; omega
  | timeoutNowResult s e r =>
    show (x.node i).role = .leader → (x.node i).ldr.transfer.respPending = true → e = true →
      (x.node i).findRepl? s ≠ none
    exact heG.timeoutNow s e r rfl
  | _ => trivial

/-- the tree after a transition: old records, and new ones that are no configuration entries and lie beyond index 1 -/
theorem tree_ext {y : Commit.Sys} (hG : GInv x)
    (hnew : ∀ c ∈ y.T, c ∈ x.T ∨ (2 ≤ c.e.index ∧ c.e.typ ≠ etConfig)) :
    (∀ c ∈ y.T, CfgGoodE c.e) ∧
    (∀ c ∈ y.T, ∀ d ∈ y.T, c.e.index = d.e.index → c.e.index ≤ 1 → c.e.term = d.e.term) := by
  refine ⟨fun c hc => ?_, fun c hc d hd hcd hle => ?_⟩
  · rcases hnew c hc with h | h
    · exact hG.tree c h
    · exact fun ht => absurd ht h.2
  · rcases hnew c hc with h | h
    · rcases hnew d hd with h' | h'
      · exact hG.root c h d h' hcd hle
      · omega
    · omega

/-- the records a step or a crash image adds to the tree lie beyond index 1 and are no configuration entries, if the
entries of the new log `post` beyond the old one are none (`hcfg`; an append request adds no record) -/
theorem new_beyond_one (hI : CInv V x) (hS : SideV V x) (hG : GInv x) {i : Nat} {op : Op} {post : List Entry}
    (hpost : Contig post)
    (hcfg : (∀ q, op ≠ .append q) → ∀ e ∈ post.drop (x.node i).log.entries.length, e.typ = etConfig → e.index ≤ 1) :
    ∀ c ∈ newCreated i (x.node i).log.entries post op ++ x.T, c ∈ x.T ∨ (2 ≤ c.e.index ∧ c.e.typ ≠ etConfig) := by
  intro c hc
  rcases List.mem_append.mp hc with hc | hc
  · right
    rcases SC.op_cases op with happ | ⟨q, rfl⟩
    · rw [C04Sys.newCreated_other _ _ _ _ happ] at hc
      have hm := (C04Sys.mem_chainOf hc).2
      have hi := ((C04Sys.contig_drop hpost (x.node i).log.entries.length).2 c.e hm).1
      have hl := last_pos hS hG i
      rw [(nwf hI i).last] at hl
      refine ⟨by omega, fun ht => ?_⟩
      have := hcfg happ c.e hm ht
      omega
    · cases hc
  · exact Or.inl hc

end facts

section step
variable {V : List Nat} {x : Commit.Sys} {i : Nat} {op : Op} {ra : List Nat} {ord : List (List Nat)} {src : Nat}

theorem sc_opOk (h : SC V x i op ra ord src) : CfgRel.OpOk op := by
  have he := h.en
  cases op with
  | newEntries b => exact he.ok2.2.1 b rfl
  | changeConfig t c => exact absurd rfl (he.ok2.2.2 t c)
  | _ => trivial

theorem sc_not_install (h : SC V x i op ra ord src) : ∀ q, op ≠ .install q := by
  intro q hq
  have := h.en.rp.ok
  rw [hq] at this
  exact this

theorem sc_not_change (h : SC V x i op ra ord src) : ∀ t c, op ≠ .changeConfig t c := h.en.ok2.2.2

theorem sc_good (h : SC V x i op ra ord src) (hR : Commit.ReachableV V x) (ho : (x.node i).closed = "")
    (hG : GInv x) (heG : EnabledG x i op) :
    ((x.node i).step op ra ord).panicked = none ∧ Good true ((x.node i).step op ra ord) :=
  C15NoPanic.good_step_two _ op ra ord (hG.good i) ho (reqok' h.hV hR hG h.en heG)

theorem sc_post_cfg (h : SC V x i op ra ord src) (ho : (x.node i).closed = "") (hG : GInv x)
    (hp : ((x.node i).step op ra ord).panicked = none) (happ : ∀ q, op ≠ .append q) :
    ∀ e ∈ ((x.node i).step op ra ord).log.entries, e.typ = etConfig → e.index ≤ 1 :=
  step_cfg_entries _ op ra ord (hG.good i) ho (sc_opOk h) happ hp
    (fun e he ht => ((log_cfg h.inv hG i e he) ht).1) (latest_one h.side hG i) (h.nst happ).cfg

theorem sc_cfg_post (h : SC V x i op ra ord src) (ho : (x.node i).closed = "") (hG : GInv x) :
    CfgLe1 ((x.node i).step op ra ord).configs := by
  rcases SC.op_cases op with happ | ⟨q, rfl⟩
  · exact step_cfgLe1 _ op ra ord (hG.good i) ho (sc_opOk h) happ (sc_not_install h) (sc_not_change h) (hG.cfg i)
      (h.nst happ).cfg
  · by_cases hst : q.term < (x.node i).term
    · rw [(append_stale _ q ra ord hst).2.2.2.2.2.2.1]; exact hG.cfg i
    · have hq : q ∈ x.rp.sent := (h.en.rp.append q rfl).resolve_left hst
      refine append_cfgLe1 _ q ra ord (hG.good i).ordered.latest_le_last (C08Step.anchC_of_good (hG.good i)) (hG.cfg i)
        (fun e he c hc => ?_)
      have ht : e.typ = etConfig := (Entry.config?_facts hc).1
      rw [(Entry.config?_facts hc).2.1, ((sent_cfg h.inv hG hq e he) ht).1]
      exact Nat.le_refl _

theorem sc_ginv (h : SC V x i op ra ord src) (hR : Commit.ReachableV V x) (ho : (x.node i).closed = "")
    (hG : GInv x) (heG : EnabledG x i op) : GInv (stepC x i op ra ord src) := by
  obtain ⟨hp, hGood⟩ := (sc_good h) hR ho hG heG
  obtain ⟨t1, t2⟩ := tree_ext (y := stepC x i op ra ord src) hG
    (new_beyond_one h.inv h.side hG h.nwf_post.contig
      fun happ e he => sc_post_cfg h ho hG hp happ e (List.mem_of_mem_drop he))
  exact ⟨forall_setNode (P := fun _ m => Good true m) hGood (fun j _ => hG.good j),
    forall_setNode (P := fun _ m => CfgLe1 m.configs) ((sc_cfg_post h) ho hG) (fun j _ => hG.cfg j), t1, t2⟩

end step

section crash
variable {V : List Nat} {x : Commit.Sys} {i : Nat} {op : Op} {ra : List Nat} {ord : List (List Nat)}
  {src k retain : Nat} {sor : Bool} {n : Node}

/-- **the invariant after a crash and restart.** `hopen`: the node was open (its state loop was running), or it did
not handle anything when it died (`k = 0`: a closed node's process is restarted); `hret`: the restart retains at
least one snapshot. -/
theorem cc_ginv (h : CC V x i op ra ord src k retain sor n) (hR : Commit.ReachableV V x)
    (hG : GInv x) (heG : EnabledG x i op) (hopen : (x.node i).closed = "" ∨ k = 0) (hret : 1 ≤ retain) :
    GInv (crashC x i op n) := by
  have sc := h.sc
  have hI := sc.inv
  have im := sc.img k
  have hseg : C09.SegsOK (C05.crashDisk (x.node i) op ra ord k).log :=
    crashDisk_segsOK _ op ra ord k sc.en.ok2 (hG.good i).ordered.segs (hI.node.lwf i) (hG.good i).ordered.last_eq
      (fun hk => (sc_good sc hR (hopen.resolve_right hk) hG heG).1)
  obtain ⟨_, _, _, f4, _, _, _, _, f9⟩ := h.facts
  have hnwf : NWF n := by
    have := (h.ry.nodes i).1
    rwa [show (crashC x i op n).rp.el.node i = n from h.node_i] at this
  have hchain : Chain (crashC x i op n).T none n.log.entries := by
    have := (h.ry.nodes i).2
    rwa [show (crashC x i op n).rp.el.node i = n from h.node_i] at this
  obtain ⟨t1, t2⟩ := tree_ext (y := crashC x i op n) hG
    (new_beyond_one hI sc.side hG hnwf.contig fun happ e he ht => by
      rcases h.disk_prefix happ with w | ⟨hk, w⟩
      · rw [List.drop_eq_nil_of_le w.length_le] at he
        cases he
      · have ho := hopen.resolve_right hk
        obtain ⟨hp, _⟩ := sc_good sc hR ho hG heG
        exact sc_post_cfg sc ho hG hp happ e (w.subset (List.mem_of_mem_drop he)) ht)
  have hlog : ∀ e ∈ n.log.entries, CfgGoodE e := by
    intro e he
    obtain ⟨c, hc, hce⟩ := C04Sys.chain_mem hchain e he
    rw [← hce]; exact t1 c hc
  have hgood : Good true n := by
    refine C15NoPanic.restart_good _ retain sor n
      (C15NoPanic.diskOK'_nosnap im.prev im.snaps hseg (by rw [← f9]; exact hnwf.contig) hret fun ne hne ht => ?_) h.hn
    rw [← f9] at hne
    exact ((hlog ne hne) ht).2 _
  have hcfg : CfgLe1 n.configs := by
    refine restart_cfgLe1 _ retain sor n h.hn im.snaps im.prev (fun e he ht => ?_)
    rw [← f9] at he
    obtain ⟨a, b⟩ := (hlog e he) ht
    obtain ⟨c, hc, _⟩ := (b 0).get
    exact ⟨by rw [a]; exact Nat.le_refl _, by rw [hc]; rfl⟩
  exact ⟨forall_setNode (P := fun _ m => Good true m) hgood (fun j _ => hG.good j),
    forall_setNode (P := fun _ m => CfgLe1 m.configs) hcfg (fun j _ => hG.cfg j), t1, t2⟩

/-- the restarted node tracks (C12Track): without a snapshot on disk the label is the empty configuration -/
theorem cc_tracks (h : CC V x i op ra ord src k retain sor n) (hret : 1 ≤ retain) : C12Track.Tracks n := by
  have im := h.sc.img k
  obtain ⟨_, _, _, _, _, _, _, _, f9⟩ := h.facts
  have hnwf : NWF n := by
    have := (h.ry.nodes i).1
    rwa [show (crashC x i op n).rp.el.node i = n from h.node_i] at this
  have hsnap : C10.snapOf (C05.crashDisk (x.node i) op ra ord k) = {} := by
    unfold C10.snapOf; rw [im.snaps]; rfl
  have hc : Contig (C05.crashDisk (x.node i) op ra ord k).log.entries := by
    rw [← f9]; exact hnwf.contig
  refine C12Track.restart_tracks _ retain sor n hret ⟨?_, ?_, ?_, ?_⟩ h.hn
  · intro k' hk'
    rw [im.prev, Nat.zero_add]
    exact hc k' hk'
  · rw [hsnap]
    apply Track.newest_of_nil
    unfold Track.pre
    show (List.take (0 - _) _).filterMap _ = []
    rw [Nat.zero_sub]; rfl
  · rw [hsnap]; intro hlt; exact absurd hlt (Nat.not_lt_zero _)
  · rw [hsnap]; intro _; rfl

end crash

/-! ### the transition system with the additional assumptions -/

/-- The transitions of `Commit.Trans` (Sys/Commit.lean) with the additional environment assumptions `EnabledG` on
the operation a node handles — to completion, or while it dies — and closed nodes frozen. -/
inductive TransG (x : Commit.Sys) : Commit.Sys → Prop
  /-- an OPEN node handles an enabled operation to completion (the state loop of a closed node has returned: it
  handles nothing any more) -/
  | step (i : Nat) (op : Op) (ra : List Nat) (ord : List (List Nat)) (src : Nat) : Commit.Enabled x i op src →
      EnabledG x i op → (x.node i).closed = "" → TransG x (stepC x i op ra ord src)
  /-- an open node dies while handling an enabled operation, after `k` storage points — or any node's process,
  open or closed, dies (is restarted) between two steps (`k = 0`) — and restarts from what is on disk -/
  | crash (i : Nat) (op : Op) (ra : List Nat) (ord : List (List Nat)) (src k retain : Nat) (sor : Bool)
      (n : Node) : Commit.Enabled x i op src → EnabledG x i op → ((x.node i).closed = "" ∨ k = 0) →
      Node.restart (C05.crashDisk (x.node i) op ra ord k) retain sor = some n →
      TransG x (crashC x i op n)
  /-- a leader puts a request read from its log on the wire -/
  | send (i : Nat) (q : AppendReq) : i ≠ 0 → (x.node i).role = .leader → ReadFrom (x.node i) q →
      q.ldrCommitIndex ≤ (x.node i).commitIndex → TransG x (sendC x q)

theorem transG_trans {x y : Commit.Sys} (h : TransG x y) : Commit.Trans x y := by
  cases h with
  | step i op ra ord src he _ _ => exact .step i op ra ord src he
  | crash i op ra ord src k retain sor n he _ _ hn => exact .crash i op ra ord src k retain sor n he hn
  | send i q hi hl hr hc => exact .send i q hi hl hr hc

theorem TransG.grows {x y : Commit.Sys} (h : TransG x y) : Grows x y := (transG_trans h).grows

/-- what `TransG` knows of an operation node `j` handles to completion … -/
def SG (x : Commit.Sys) (j : Nat) (op : Op) : Prop :=
  ∃ src, Commit.Enabled x j op src ∧ EnabledG x j op ∧ (x.node j).closed = ""

/-- … and of one it dies in, at storage point `k` -/
def CG (x : Commit.Sys) (j : Nat) (op : Op) (k : Nat) : Prop :=
  ∃ src, Commit.Enabled x j op src ∧ EnabledG x j op ∧ ((x.node j).closed = "" ∨ k = 0)

theorem transG_move {x y : Commit.Sys} (h : TransG x y) :
    ∀ j, Move (SG x j) (CG x j) (x.node j) (y.node j) := by
  cases h with
  | step i op ra ord src he heG ho => exact move_setNode (.step op ra ord ⟨src, he, heG, ho⟩ rfl)
  | crash i op ra ord src k retain sor n he heG hopen hn =>
    exact move_setNode (.restart op ra ord k retain sor ⟨src, he, heG, hopen⟩ hn)
  | send i q hi hl hr hc => exact fun j => .same rfl

/-- **closed nodes are harmless**: a node that has closed itself does nothing any more — in a transition its state
stays as it is, unless its process is restarted from what it left on disk -/
theorem closed_frozen {x y : Commit.Sys} (ht : TransG x y) (j : Nat) (hc : (x.node j).closed ≠ "") :
    y.node j = x.node j ∨ ∃ n retain sor, Node.restart (x.node j).durable retain sor = some n ∧ y.node j = n := by
  cases transG_move ht j with
  | same e => exact Or.inl e
  | step op ra ord hS e =>
    obtain ⟨_, _, _, ho⟩ := hS
    exact absurd ho hc
  | restart op ra ord k retain sor hC hn =>
    obtain ⟨_, _, _, ho⟩ := hC
    have hk : k = 0 := ho.resolve_left hc
    subst hk
    exact Or.inr ⟨_, retain, sor, hn, rfl⟩

/-- States reachable by runs of `TransG` in which `SideV V` and `SideG` hold in every state, from an initial state
(`Commit.Init`) that satisfies `GInv`. -/
inductive ReachableG (V : List Nat) : Commit.Sys → Prop
  | init (x : Commit.Sys) : Commit.Init x → SideV V x → SideG x → GInv x → ReachableG V x
  | next (x y : Commit.Sys) : ReachableG V x → TransG x y → SideV V y → SideG y → ReachableG V y

theorem reachableG_V {V : List Nat} {x : Commit.Sys} (h : ReachableG V x) : Commit.ReachableV V x := by
  induction h with
  | init x hi hs _ _ => exact .init x hi hs
  | next x y _ ht hs _ ih => exact .next x y ih (transG_trans ht) hs

theorem reachableG_side {V : List Nat} {x : Commit.Sys} (h : ReachableG V x) : SideG x := by
  cases h with
  | init x _ _ hs _ => exact hs
  | next x y _ _ _ hs => exact hs

inductive RunG (V : List Nat) (x : Commit.Sys) : Commit.Sys → Prop
  | refl : RunG V x x
  | next (y z : Commit.Sys) : RunG V x y → TransG y z → SideV V z → SideG z → RunG V x z

theorem run_reachableG {V : List Nat} {x y : Commit.Sys} (hx : ReachableG V x) (h : RunG V x y) :
    ReachableG V y := by
  induction h with
  | refl => exact hx
  | next y z _ ht hs hsg ih => exact .next y z ih ht hs hsg

def clusterG (V : List Nat) : NodeSys.Cluster Commit.Sys where
  node := Commit.Sys.node
  Trans := TransG
  Side := fun z => SideV V z ∧ SideG z
  S := SG
  C := CG
  move := transG_move

theorem runG_run {V : List Nat} {x y : Commit.Sys} (h : RunG V x y) : NodeSys.Run (clusterG V) x y := by
  induction h with
  | refl => exact .refl
  | next y z _ ht hs hsg ih => exact .next y z ih ht ⟨hs, hsg⟩

theorem runG_grows {V : List Nat} {x y : Commit.Sys} (h : RunG V x y) : Grows x y :=
  (runG_run h).rel Grows.refl (fun _ _ _ a b => a.trans b) (fun _ _ t => TransG.grows t)

theorem runG_keeps {V : List Nat} {P : Nat → Node → Prop} {x y : Commit.Sys} (hx : ReachableG V x)
    (h : RunG V x y)
    (hP : ∀ y z j, ReachableG V y → SideG z → Move (SG y j) (CG y j) (y.node j) (z.node j) → P j (y.node j) →
      P j (z.node j))
    (h0 : ∀ j, P j (x.node j)) : ReachableG V y ∧ ∀ j, P j (y.node j) :=
  (runG_run h).keeps (R := ReachableG V) hx (fun y z hy ht hs => .next y z hy ht hs.1 hs.2)
    (fun y z j hy hs m hp => hP y z j hy hs.2 m hp) h0

def NodeSide (V : List Nat) (s : Node) : Prop :=
  s.configs.isBootstrapped = true ∧ s.configs.latest.voters = V ∧ s.configs.latest.isStable = true ∧ 1 ≤ s.retain

instance (V : List Nat) (s : Node) : Decidable (NodeSide V s) := by unfold NodeSide; infer_instance

theorem side_iff {V : List Nat} {x : Commit.Sys} : (SideV V x ∧ SideG x) ↔ ∀ i, NodeSide V (x.node i) :=
  ⟨fun ⟨hs, hg⟩ i => ⟨(hs.1 i).1, (hs.1 i).2, hs.2 i, hg i⟩,
   fun h => ⟨⟨fun i => ⟨(h i).1, (h i).2.1⟩, fun i => (h i).2.2.1⟩, fun i => (h i).2.2.2⟩⟩

theorem restart_retain (d : Durable) (r : Nat) (sor : Bool) (n : Node) (h : restart d r sor = some n) :
    n.retain = r := (C12Track.restart_more d r sor n h).1

theorem ginv_trans {V : List Nat} (hV : V.Nodup) {x y : Commit.Sys} (hR : Commit.ReachableV V x)
    (hG : GInv x) (ht : TransG x y) (hSGy : SideG y) : GInv y := by
  obtain ⟨hI, hS⟩ := inv_reachable hV hR
  cases ht with
  | step i op ra ord src he heG ho => exact sc_ginv ⟨hV, hI, hS, he⟩ hR ho hG heG
  | crash i op ra ord src k retain sor n he heG hopen hn =>
    have cc : CC V x i op ra ord src k retain sor n := ⟨⟨hV, hI, hS, he⟩, hn⟩
    refine cc_ginv cc hR hG heG hopen ?_
    have := hSGy i
    rw [cc.node_i, restart_retain _ _ _ _ hn] at this
    exact this
  | send i q hi hl hr hc => exact ⟨hG.good, hG.cfg, hG.tree, hG.root⟩

theorem ginv_reachable {V : List Nat} (hV : V.Nodup) {x : Commit.Sys} (h : ReachableG V x) : GInv x := by
  induction h with
  | init x _ _ _ hg => exact hg
  | next x y hx ht _ hsg ih => exact ginv_trans hV (reachableG_V hx) ih ht hsg

end SysInv
end Raft
