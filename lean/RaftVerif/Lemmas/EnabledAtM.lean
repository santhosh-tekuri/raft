/-
`SysInv.EnabledAt` for `Member.Sys`: what `Member.Enabled` and `MemberSide.ReqG` ask of an operation, by kind of
operation. It differs from `Commit.Enabled ∧ EnabledG` in one case only: a configuration change is admitted.
-/
import RaftVerif.Lemmas.EnabledAt
import RaftVerif.Lemmas.MemberSide

namespace Raft
namespace MemberSide
open Node NoPanic

/-- the configuration change: distinct ids (`CfgRel.OpOk`) and `ReqG.userCfg` -/
def EnabledAtM (x : Member.Sys) (i src : Nat) : Op → Prop
  | .changeConfig _ c => (c.nodes.map (·.id)).Nodup ∧ UserCfg true i c
  | op => SysInv.EnabledAt x.cm i src op

instance (x : Member.Sys) (i src : Nat) (op : Op) : Decidable (EnabledAtM x i src op) := by
  cases op <;> unfold EnabledAtM <;> infer_instance

theorem enabledM_iff {x : Member.Sys} {i src : Nat} {op : Op} :
    (Member.Enabled x i op src ∧ ReqG x i op) ↔ i ≠ 0 ∧ EnabledAtM x i src op := by
  by_cases hcc : ∃ t c, op = .changeConfig t c
  · obtain ⟨t, c, rfl⟩ := hcc
    constructor
    · rintro ⟨he, hr⟩
      exact ⟨he.rp.id, he.cfg, hr.userCfg t c rfl⟩
    · rintro ⟨hi, hn, hu⟩
      exact ⟨⟨⟨hi, nofun, fun c' => absurd c' (not_counts nofun), trivial, nofun⟩, hn, nofun, nofun, nofun⟩,
        ⟨fun _ _ e => (by cases e; exact hu), nofun, nofun⟩⟩
  · -- any other operation: `Member.Enabled ∧ ReqG` is `Commit.Enabled ∧ EnabledG` of the `Commit.Sys` part
    have hne : ∀ t c, op ≠ .changeConfig t c := fun t c e => hcc ⟨t, c, e⟩
    have e1 : EnabledAtM x i src op = SysInv.EnabledAt x.cm i src op := by
      cases op <;> first | rfl | exact absurd rfl (hne _ _)
    rw [e1, ← SysInv.enabled_iff]
    constructor
    · rintro ⟨he, hr⟩
      exact ⟨⟨he.rp, ⟨he.rp.ok, fun b e => (by subst e; exact he.cfg), hne⟩, he.vote, he.appendSrc, he.upd⟩,
        ⟨hr.newTerm, hr.timeoutNow⟩⟩
    · rintro ⟨he, hg⟩
      refine ⟨⟨he.rp, ?_, he.vote, he.appendSrc, he.upd⟩, ⟨fun t c e => absurd e (hne t c), hg.newTerm, hg.timeoutNow⟩⟩
      cases op <;> first | trivial | exact he.ok2.2.1 _ rfl | exact absurd rfl (hne _ _)

end MemberSide
end Raft
