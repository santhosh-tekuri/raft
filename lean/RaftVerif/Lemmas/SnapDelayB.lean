/-
Delayed compaction (`leader.checkLogCompact`): what the step with a batch of updates leaves alone, and the
un-compacted node after the compaction.

* `StepClosedNC.updPre_inv`, `stepNC_inv` — a predicate closed under the primitives of the operations that do not
  compact (Lemmas/StepInvNC.lean) holds in the state in which `checkReplUpdates` decides about the compaction and after
  the step without the compaction, whatever the batch contains.
* `TK c k e0` — the first index of the log (`c`), the snapshot index (`k`), the entries up to the snapshot index and a
  weak well-formedness of the segment list (`WSegs`: it starts at the first index and lies within the log) are kept by
  those primitives; `wsegs_compact` — what `RemoveLTE` does to a log with such a segment list.
* `updFin_removeLTE` — what follows the compaction decision keeps the leader's compaction bound.
* `snapStep_relog` — the un-compacted node with a compacted log is the un-compacted node before, flushed and with its
  segments regrouped (`SnapInv.SnapStep`).
-/
import RaftVerif.Lemmas.SnapDelayA
import RaftVerif.Lemmas.SnapInv2
import RaftVerif.Lemmas.Shape

namespace Raft
namespace Node
namespace StepClosedNC
open SnapDelay

variable {Inv : Node → Prop} (h : StepClosedNC Inv)
include h

theorem updPre_inv (s : Node) (us : List ReplUpdate) (hs : Inv s) : Inv (updPre s us) := by
  unfold updPre
  dsimp only
  have h1 : Inv (replUpdLoop s {} us).1 := h.replUpdLoop_inv _ _ _ hs
  have h2 : Inv (if (replUpdLoop s {} us).2.matchU = true then onMajorityCommit (fuelFor 0) (replUpdLoop s {} us).1
      else (replUpdLoop s {} us).1) := by
    split
    · exact h.onMajorityCommit_inv _ _ h1
    · exact h1
  split
  · exact h.checkQuorum_inv _ h2
  · exact h2

theorem updFin_inv (f : UpdFlags) (a : Node) (hs : Inv a) : Inv (updFin f a) := by
  unfold updFin updTail
  apply h.settle_inv
  split
  · exact h.tryTransfer_inv _ hs
  · exact hs

theorem stepNC_inv (s : Node) (us : List ReplUpdate) (ra : List Nat) (ord : List (List Nat)) (hs : Inv s) :
    Inv (stepNC s us ra ord) := by
  unfold stepNC
  have hb := h.begin s ra ord hs
  split
  · split
    · exact h.settle_inv _ _ _ (h.replUpdLoop_inv _ _ _ hb)
    · exact h.updFin_inv _ _ (h.updPre_inv _ _ hb)
  · exact hb

omit h in
/-- A predicate that reads only the log and the snapshot index is kept by every primitive but the three that write the
log. -/
theorem of_frame (frame : ∀ s s' : Node, s'.log = s.log → s'.snapIndex = s.snapIndex → Inv s → Inv s')
    (append : ∀ (s : Node) e roll, Inv s →
      Inv { s with log := s.log.append e roll, lastLogIndex := e.index, lastLogTerm := e.term })
    (commitN : ∀ (s : Node) n, Inv s → Inv { s with log := s.log.commitN n })
    (removeGTE : ∀ (s : Node) i pt, Inv s → s.snapIndex < i →
      Inv { s with log := s.log.removeGTE i, lastLogIndex := i - 1, lastLogTerm := pt }) :
    StepClosedNC Inv where
  panic := fun s site => frame s _ (by rw [panic_shape]) (by rw [panic_shape])
  reply := fun s t r => frame s _ (by rw [reply_shape]) (by rw [reply_shape])
  point := fun s _ => frame s _ rfl rfl
  ldr := fun s _ => frame s _ rfl rfl
  append := append
  commitN := commitN
  fsm := fun s _ => frame s _ rfl rfl
  changeConfigR := fun s c => frame s _ (by rw [changeConfigR_shape]) (by rw [changeConfigR_shape])
  setCommitIndexR := fun s i hs _ => frame s _ (by rw [setCommitIndexR_shape]) (by rw [setCommitIndexR_shape]) hs
  popOrder := fun s => frame s _ rfl rfl
  begin := fun s _ _ => frame s _ rfl rfl
  rpcReply := fun s _ => frame s _ rfl rfl
  ret := fun s _ => frame s _ rfl rfl
  setRole := fun s _ => frame s _ rfl rfl
  setLeader := fun s _ => frame s _ rfl rfl
  doClose := fun s r => frame s _ (by rw [doClose_shape]) (by rw [doClose_shape])
  setTerm := fun s t => frame s _ (by rw [setTerm_shape]) (by rw [setTerm_shape])
  voteNewTerm := fun s t c hs _ => frame s _ (by rw [setVotedFor_shape]) (by rw [setVotedFor_shape]) hs
  voteGrant := fun s c hs _ => frame s _ (by rw [setVotedFor_shape]) (by rw [setVotedFor_shape]) hs
  votesNeeded := fun s _ => frame s _ rfl rfl
  candTransfer := fun s _ => frame s _ rfl rfl
  removeGTE := removeGTE
  revertConfig := fun s => frame s _ rfl rfl
  commitConfig := fun s => frame s _ (by rw [commitConfig_shape]) (by rw [commitConfig_shape])
  snapPending := fun s _ => frame s _ rfl rfl
  bootstrapLast := fun s _ _ => frame s _ rfl rfl

end StepClosedNC
end Node

namespace SnapDelay
open Node SnapRelP SnapRelU SnapSim SnapInv SnapInv2

structure WSegs (l : NLog) : Prop where
  head : l.segs.head? = some l.prev
  bnd : ∀ x ∈ l.segs, l.prev ≤ x ∧ x ≤ l.last

theorem wsegs_of_segsOK {l : NLog} (h : C09.SegsOK l) : WSegs l := by
  refine ⟨h.head, fun x hx => ⟨?_, h.le_last x hx⟩⟩
  have hh := h.head
  cases hs : l.segs with
  | nil => rw [hs] at hh; cases hh
  | cons a t =>
    rw [hs] at hh hx
    have ha : a = l.prev := by simpa using hh
    rcases List.mem_cons.mp hx with e | e
    · omega
    · have := (List.pairwise_cons.mp (hs ▸ h.sorted)).1 x e
      omega

def TK (c k : Nat) (e0 : List Entry) (s : Node) : Prop :=
  s.log.prev = c ∧ s.snapIndex = k ∧ s.log.entries.take (k - c) = e0 ∧ k - c ≤ s.log.entries.length ∧ WSegs s.log

variable {c k : Nat} {e0 : List Entry}

theorem TK_congr {s s' : Node} (h : TK c k e0 s) (e1 : s'.log = s.log) (e2 : s'.snapIndex = s.snapIndex) :
    TK c k e0 s' := by
  unfold TK
  rw [e1, e2]; exact h

theorem wsegs_append {l : NLog} (e : Entry) (roll : Bool) (h : WSegs l) : WSegs (l.append e roll) := by
  have hlast : l.last ≤ (l.append e roll).last := by rw [NLog.last_append]; exact Nat.le_succ _
  have hprev : (l.append e roll).prev = l.prev := (NLog.append_parts l e roll).1
  cases roll with
  | false =>
    refine ⟨?_, fun x hx => ?_⟩
    · rw [hprev]; exact h.head
    · rw [hprev]
      have := h.bnd x hx
      exact ⟨this.1, Nat.le_trans this.2 hlast⟩
  | true =>
    have hsegs : (l.append e true).segs = l.segs ++ [l.last] := rfl
    refine ⟨?_, fun x hx => ?_⟩
    · rw [hprev, hsegs]
      have hh := h.head
      cases hs : l.segs with
      | nil => rw [hs] at hh; cases hh
      | cons a t => rw [hs] at hh; exact hh
    · rw [hprev]
      rw [hsegs] at hx
      rcases List.mem_append.mp hx with a | a
      · have := h.bnd x a
        exact ⟨this.1, Nat.le_trans this.2 hlast⟩
      · have : x = l.last := List.mem_singleton.mp a
        rw [this]
        exact ⟨by unfold NLog.last; omega, hlast⟩

theorem wsegs_commitN {l : NLog} (n : Nat) (h : WSegs l) : WSegs (l.commitN n) := by
  unfold NLog.commitN
  split
  · exact ⟨h.head, h.bnd⟩
  · exact h

theorem wsegs_removeGTE {l : NLog} (i k : Nat) (h : WSegs l) (hk : l.prev ≤ k) (hi : k < i) :
    WSegs (l.removeGTE i) := by
  have hprev : (l.removeGTE i).prev = l.prev := rfl
  have hlast : (l.removeGTE i).last = l.prev + min (i - 1 - l.prev) l.entries.length := by
    unfold NLog.last NLog.removeGTE
    dsimp only
    rw [List.length_take]
  have hsegs : (l.removeGTE i).segs =
      if (l.segs.filter (· < i - 1)).isEmpty then [i - 1] else l.segs.filter (· < i - 1) := rfl
  obtain ⟨hh, hb⟩ := h
  cases hs : l.segs with
  | nil => rw [hs] at hh; cases hh
  | cons a t =>
    rw [hs] at hh hb
    have ha : a = l.prev := by simpa using hh
    by_cases hlt : l.prev < i - 1
    · -- the head is kept
      have hf : (a :: t).filter (· < i - 1) = a :: t.filter (· < i - 1) := by
        rw [List.filter_cons, if_pos (by rw [ha]; simpa using hlt)]
      refine ⟨?_, fun x hx => ?_⟩
      · rw [hsegs, hs, hf]
        show (some a : Option Nat) = some (l.removeGTE i).prev
        rw [ha, hprev]
      · rw [hsegs, hs, hf] at hx
        have hx' : x ∈ (a :: t).filter (· < i - 1) := by rw [hf]; exact hx
        obtain ⟨hm, hlt'⟩ := List.mem_filter.mp hx'
        have hlt'' : x < i - 1 := by simpa using hlt'
        have := hb x hm
        rw [hprev, hlast]
        unfold NLog.last at this
        exact ⟨this.1, by omega⟩
    · -- the log starts at `i - 1`: nothing is kept
      have he : l.prev = i - 1 := by omega
      have hf : (a :: t).filter (· < i - 1) = [] := by
        apply List.filter_eq_nil_iff.mpr
        intro x hx
        have := (hb x hx).1
        simp only [decide_eq_true_eq]
        omega
      refine ⟨?_, fun x hx => ?_⟩
      · rw [hsegs, hs, hf]
        show (some (i - 1) : Option Nat) = some (l.removeGTE i).prev
        rw [hprev, he]
      · rw [hsegs, hs, hf] at hx
        have : x = i - 1 := List.mem_singleton.mp hx
        rw [hprev, hlast, this, ← he]
        exact ⟨Nat.le_refl _, Nat.le_add_right _ _⟩

theorem TK_closed (c k : Nat) (hck : c ≤ k) (e0 : List Entry) : StepClosedNC (TK c k e0) := by
  refine StepClosedNC.of_frame (fun _ _ e1 e2 h => TK_congr h e1 e2) ?_ ?_ ?_
  · intro s e roll ⟨h1, h2, h3, h4, h5⟩
    obtain ⟨hprev, hent⟩ := NLog.append_parts s.log e roll
    refine ⟨hprev.trans h1, h2, ?_, ?_, wsegs_append e roll h5⟩
    · show (s.log.append e roll).entries.take (k - c) = e0
      rw [hent, List.take_append_of_le_length h4]; exact h3
    · show k - c ≤ (s.log.append e roll).entries.length
      rw [hent, List.length_append]; omega
  · intro s n ⟨h1, h2, h3, h4, h5⟩
    obtain ⟨hprev, hent, _⟩ := NLog.commitN_same s.log n
    refine ⟨hprev.trans h1, h2, ?_, ?_, wsegs_commitN n h5⟩
    · show (s.log.commitN n).entries.take (k - c) = e0
      rw [hent]; exact h3
    · show k - c ≤ (s.log.commitN n).entries.length
      rw [hent]; exact h4
  · intro s i pt ⟨h1, h2, h3, h4, h5⟩ hi
    have hi' : k < i := by rw [← h2]; exact hi
    refine ⟨h1, h2, ?_, ?_, wsegs_removeGTE i k h5 (by rw [h1]; exact hck) hi'⟩
    · show (s.log.entries.take (i - 1 - s.log.prev)).take (k - c) = e0
      rw [List.take_take, h1, Nat.min_eq_left (by omega)]
      exact h3
    · show k - c ≤ (s.log.entries.take (i - 1 - s.log.prev)).length
      rw [List.length_take, h1]
      omega

theorem wsegs_compact {l : NLog} (R : Nat) (h : WSegs l) :
    l.prev ≤ (l.removeLTE R).prev ∧ (l.removeLTE R).prev ≤ l.last ∧
    ((l.removeLTE R).prev = l.prev ∨ (l.removeLTE R).prev ≤ R) ∧
    (l.removeLTE R).entries = l.entries.drop ((l.removeLTE R).prev - l.prev) ∧
    (l.removeLTE R).flushed = l.last ∧ (l.removeLTE R).last = l.last := by
  obtain ⟨hh, hb⟩ := h
  cases hs : l.segs with
  | nil => rw [hs] at hh; cases hh
  | cons a t =>
    rw [hs] at hh hb
    have ha : a = l.prev := by simpa using hh
    obtain ⟨x, tl, e, suf, hx⟩ := dropLTE_cons_cases R a t
    have hc : (l.removeLTE R).prev = x := by
      rw [C09.removeLTE_prev]; unfold NLog.canLTE; rw [hs, e]; rfl
    have hmem : x ∈ a :: t := suf.subset (List.mem_cons_self ..)
    have hbx := hb x hmem
    have hlast : (l.removeLTE R).last = l.last := by
      unfold NLog.last at hbx ⊢
      rw [hc, C09.removeLTE_entries, List.length_drop]
      have : l.canLTE R = x := hc
      rw [this]
      omega
    refine ⟨by rw [hc]; exact hbx.1, by rw [hc]; exact hbx.2, ?_, rfl, rfl, hlast⟩
    rw [hc]
    rcases hx with hx | hx
    · left; omega
    · right; exact hx

theorem removeLTE_tryTransfer (s : Node) : s.tryTransfer.ldr.removeLTE = s.ldr.removeLTE := by
  rw [tryTransfer_shape]

theorem removeLTE_leaderReleaseRest (x : Node) : x.leaderReleaseRest.ldr.removeLTE = x.ldr.removeLTE := by
  unfold Node.leaderReleaseRest
  extract_lets s1 err s2 s3
  show s3.ldr.removeLTE = x.ldr.removeLTE
  have e3 : s3.ldr = s2.ldr := by unfold s3; rw [foldl_reply_eq]; rfl
  have e2 : s2.ldr = s1.ldr := by unfold s2; rw [foldl_reply_eq]; rfl
  have e1 : s1.ldr = x.ldr := by unfold s1; split <;> rfl
  rw [e3, e2, e1]

theorem removeLTE_leaderRelease (s : Node) : s.leaderRelease.ldr.removeLTE = s.ldr.removeLTE := by
  unfold Node.leaderRelease
  rw [removeLTE_leaderReleaseRest]
  split
  · unfold Node.transferReply
    show ((s.reply s.ldr.transfer.task s.releaseResult).ldr).removeLTE = _
    rw [C09.reply_ldr]
  · rfl

theorem updFin_removeLTE (f : UpdFlags) (a : Node) (h : a.role ≠ .candidate) :
    (updFin f a).ldr.removeLTE = a.ldr.removeLTE := by
  unfold updFin
  have h1 : (updTail f a).role ≠ .candidate := by rw [role_updTail]; exact h
  have h2 : (updTail f a).ldr.removeLTE = a.ldr.removeLTE := by
    unfold updTail
    split
    · exact removeLTE_tryTransfer a
    · rfl
  rw [settle_leader _ h1]
  split
  · exact h2
  · rw [removeLTE_leaderRelease, h2]

theorem snapStep_relog (β β' : List Entry) (z : Node) (L : NLog) (T : List (String × Durable))
    (hent : (uncLog β' L).entries = (uncLog β z.log).entries) (hfl : z.log.flushed ≤ L.flushed)
    (hwf : C06.LogWF (uncLog β' L)) (hok : SnapOK (U β z)) :
    SnapStep (U β z) (U β' (relog z L T)) := by
  refine ⟨⟨rfl, rfl, rfl, rfl, rfl, hent, rfl, hfl, fun _ => hwf, rfl, rfl, rfl, rfl, rfl, rfl⟩, rfl, ?_,
    Nat.le_refl _, fun g hg => Or.inl hg⟩
  refine ⟨hok.retain, ?_, hok.head, hok.le⟩
  show FilesOK (uncLog β' L).entries z.commitIndex z.snapsDisk
  rw [hent]
  exact hok.files

/-- the compacted-away prefix after a compaction: the first entries of the un-compacted log -/
theorem take_unc_congr (β : List Entry) (l l' : NLog) (p n : Nat) (hp : l'.prev = l.prev) (hpn : p ≤ l.prev + n)
    (ht : l'.entries.take n = l.entries.take n) :
    (uncLog β l').entries.take p = (uncLog β l).entries.take p := by
  show (pad β l'.prev ++ l'.entries).take p = (pad β l.prev ++ l.entries).take p
  rw [hp, List.take_append, List.take_append, pad_length]
  congr 1
  have e1 : l'.entries.take (p - l.prev) = (l'.entries.take n).take (p - l.prev) := by
    rw [List.take_take, Nat.min_eq_left (by omega)]
  have e2 : l.entries.take (p - l.prev) = (l.entries.take n).take (p - l.prev) := by
    rw [List.take_take, Nat.min_eq_left (by omega)]
  rw [e1, e2, ht]

end SnapDelay
end Raft
