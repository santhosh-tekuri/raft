/-
The replication / commit part of the possibility proof (Props/C17Sys.lean), on the cluster-level system:
  E  the new leader `w` puts ONE request carrying its whole log above index 1 on the wire; every other node of `M`
     receives it and answers `success`;
  F  `w` is told the acknowledgements and commits its last entry `N` (an entry of its own term);
  G  `w` puts a heartbeat (previous entry `N`, commit index `N`) on the wire; every other node of `M` receives it,
     commits `N` and applies.
-/
import RaftVerif.Lemmas.ProgressRun

namespace Raft
namespace Progress
open Node LogRel CommitRel Commit C02Sys SysInv
open Replication (ReadFrom)

section repl
variable {V : List Nat} {v : Commit.Sys}

theorem stepC_acks (i : Nat) (op : Op) (ra : List Nat) (ord : List (List Nat)) (src : Nat) :
    (stepC v i op ra ord src).acks = ackOf i op ((v.node i).step op ra ord) ++
      (selfAck i op (v.node i) ((v.node i).step op ra ord) ++ v.acks) := rfl

theorem stepC_sent (i : Nat) (op : Op) (ra : List Nat) (ord : List (List Nat)) (src : Nat) :
    (stepC v i op ra ord src).rp.sent = v.rp.sent := rfl

/-- all logs start with the same entry (the bootstrap entry): the tree has one root -/
theorem first_term_eq (hV : V.Nodup) (hv : ReachableG V v) (i j : Nat) :
    termAt (v.node i).log.entries 1 = termAt (v.node j).log.entries 1 := by
  obtain ⟨hI, _⟩ := inv_reachable hV (reachableG_V hv)
  have hG := ginv_reachable hV hv
  have hi : Holds (v.node i).log.entries 1 (termAt (v.node i).log.entries 1) :=
    ⟨Nat.le_refl _, (facts hV hv i).lastPos, rfl⟩
  have hj : Holds (v.node j).log.entries 1 (termAt (v.node j).log.entries 1) :=
    ⟨Nat.le_refl _, (facts hV hv j).lastPos, rfl⟩
  obtain ⟨c, hc, hck⟩ := log_record hI i hi
  obtain ⟨d, hd, hdk⟩ := log_record hI j hj
  unfold key at hck hdk
  simp only [Prod.mk.injEq] at hck hdk
  have := hG.root c hc d hd (by rw [hck.1, hdk.1]) (by rw [hck.1]; exact Nat.le_refl _)
  rw [hck.2, hdk.2] at this
  exact this

theorem enabled_append {j : Nat} (hj0 : j ≠ 0) {q : AppendReq} (hq : q ∈ v.rp.sent) (hsrc : q.src ≠ j) :
    Commit.Enabled v j (.append q) 0 ∧ EnabledG v j (.append q) :=
  enabled_iff.mpr ⟨hj0, Or.inr hq, hsrc⟩

structure Appended (v v' : Commit.Sys) (j : Nat) (q : AppendReq) : Prop where
  others : ∀ i, i ≠ j → v'.node i = v.node i
  holds : ∀ e ∈ q.entries, Holds (v'.node j).log.entries e.index e.term
  holdsPrev : Holds (v'.node j).log.entries q.prevLogIndex q.prevLogTerm
  role : (v'.node j).role = .follower
  term : (v'.node j).term = q.term
  closed : (v'.node j).closed = (v.node j).closed
  cfg : (v'.node j).configs.latest = (v.node j).configs.latest
  ci : (v'.node j).commitIndex = (v.node j).commitIndex ∨
    ((v.node j).commitIndex < (v'.node j).commitIndex ∧ (v'.node j).commitIndex ≤ q.ldrCommitIndex)
  ack : 1 ≤ q.prevLogIndex + q.entries.length → ∃ a ∈ v'.acks, a.voter = j ∧ a.term = q.term ∧
    a.index = q.prevLogIndex + q.entries.length
  sent : v'.rp.sent = v.rp.sent
  acks : ∀ a ∈ v.acks, a ∈ v'.acks
  post : v'.node j = (v.node j).step (.append q) [] []
  np : ((v.node j).step (.append q) [] []).panicked = none

theorem append_node (hV : V.Nodup) (hv : ReachableG V v) (j : Nat) (hj0 : j ≠ 0) (q : AppendReq)
    (hq : q ∈ v.rp.sent) (hsrc : q.src ≠ j) (hns : ¬ q.term < (v.node j).term) (ho : (v.node j).closed = "")
    (hh : (v.node j).configs.latest.has j = true) (h1 : 1 ≤ q.prevLogIndex)
    (h2 : q.prevLogIndex ≤ (v.node j).log.entries.length)
    (ht : termAt (v.node j).log.entries q.prevLogIndex = q.prevLogTerm) :
    Exec V v [.step j (.append q) [] [] 0] (stepC v j (.append q) [] [] 0) ∧
    Appended v (stepC v j (.append q) [] [] 0) j q := by
  obtain ⟨hI, hS⟩ := inv_reachable hV (reachableG_V hv)
  have hG := ginv_reachable hV hv
  have f := facts hV hv j
  obtain ⟨he, heG⟩ := enabled_append (v := v) hj0 hq hsrc
  have sc : SC V v j (.append q) [] [] 0 := ⟨hV, hI, hS, he⟩
  have hp := (C19Sys.reqok_in_sys_partial V hV v hv j (.append q) 0 he heG ho [] []).2.2.1
  have hsucc := append_all_entries_accepted (v.node j) q [] [] f.nwf hns h1 h2 ht hp
  have hidx := (hI.rp.sent q hq).idx
  have hes : ∀ e ∈ q.entries, e.typ ≠ etConfig ∧ (v.node j).configs.latest.index < e.index := by
    intro e hemem
    obtain ⟨k, hk, rfl⟩ := List.getElem_of_mem hemem
    have hi := hidx k hk
    refine ⟨fun htyp => ?_, by rw [f.latest1]; omega⟩
    have := ((sent_cfg hI hG hq _ hemem) htyp).1
    omega
  obtain ⟨a1, a2, a3, a4, a5⟩ := append_step_frame (v.node j) q [] [] hns (by rw [f.nid]; exact hh) hes
  have hex := exec_append hV hv [] [] he heG ho a3
  obtain ⟨_, fs⟩ := sc.fst hns
  obtain ⟨_, k1, k2, k3⟩ := fs.ack hsucc
  have ei := stepC_node_i v j (.append q) [] [] 0
  refine ⟨hex, fun i hi => stepC_node_j _ j _ _ _ _ hi, by rw [ei]; exact k1, by rw [ei]; exact k2 h1,
    by rw [ei]; exact a5, by rw [ei]; exact fs.term hns, by rw [ei]; exact a4, by rw [ei]; exact a3, ?_, ?_, rfl, ?_,
    ei, hp⟩
  · rw [ei]
    rcases fs.ci with c | ⟨c1, c2, _⟩
    · exact Or.inl c
    · exact Or.inr ⟨c1, c2⟩
  · intro hpos
    refine ⟨(⟨j, q.term, q.prevLogIndex + q.entries.length,
      termAt ((v.node j).step (.append q) [] []).log.entries (q.prevLogIndex + q.entries.length)⟩ : Ack),
      ?_, rfl, rfl, rfl⟩
    rw [stepC_acks]
    apply List.mem_append_left
    unfold ackOf
    dsimp only
    rw [if_pos ⟨hsucc, hpos⟩]
    exact List.mem_singleton.mpr rfl
  · intro a ha
    rw [stepC_acks]; exact List.mem_append_right _ (List.mem_append_right _ ha)

structure AppendedJ (s s' : Node) (A : List Ack) (j : Nat) (q : AppendReq) : Prop where
  holds : ∀ e ∈ q.entries, Holds s'.log.entries e.index e.term
  holdsPrev : Holds s'.log.entries q.prevLogIndex q.prevLogTerm
  role : s'.role = .follower
  term : s'.term = q.term
  closed : s'.closed = s.closed
  cfg : s'.configs.latest = s.configs.latest
  ci : s'.commitIndex = s.commitIndex ∨ (s.commitIndex < s'.commitIndex ∧ s'.commitIndex ≤ q.ldrCommitIndex)
  ack : 1 ≤ q.prevLogIndex + q.entries.length → ∃ a ∈ A, a.voter = j ∧ a.term = q.term ∧
    a.index = q.prevLogIndex + q.entries.length
  post : s' = s.step (.append q) [] []
  np : (s.step (.append q) [] []).panicked = none

/-- the leader `w` puts `q` on the wire and every node of `js` handles it (`append_node`), one after the other -/
theorem send_all (hV : V.Nodup) {u : Commit.Sys} (hu : ReachableG V u) {w : Nat} (hw0 : w ≠ 0)
    (hl : (u.node w).role = .leader) {q : AppendReq} (hrf : ReadFrom (u.node w) q)
    (hc : q.ldrCommitIndex ≤ (u.node w).commitIndex) (h1 : 1 ≤ q.prevLogIndex) {js : List Nat} (hjs : js.Nodup)
    (hall : ∀ j ∈ js, j ≠ 0 ∧ q.src ≠ j ∧ ¬ q.term < (u.node j).term ∧ (u.node j).closed = "" ∧
      (u.node j).configs.latest.has j = true ∧ q.prevLogIndex ≤ (u.node j).log.entries.length ∧
      termAt (u.node j).log.entries q.prevLogIndex = q.prevLogTerm) :
    ∃ ls v', Exec V u ([.send w q] ++ ls) v' ∧ ls.length ≤ js.length ∧ (∀ l ∈ ls, l.actor ∈ js) ∧
      ls.filter Lbl.isTimeout = [] ∧ (∀ i, i ∉ js → v'.node i = u.node i) ∧
      (∀ j ∈ js, AppendedJ (u.node j) (v'.node j) v'.acks j q) := by
  have exS : Exec V u [.send w q] (sendC u q) := .send w q (.nil u) hw0 hl hrf hc
  obtain ⟨ls, z, ex, ok, oth, _, r⟩ := Exec.forEach hV 1 0 (fun _ _ => True)
    (fun j v => (j ≠ 0 ∧ q.src ≠ j ∧ ¬ q.term < (v.node j).term ∧ (v.node j).closed = "" ∧
        (v.node j).configs.latest.has j = true ∧ q.prevLogIndex ≤ (v.node j).log.entries.length ∧
        termAt (v.node j).log.entries q.prevLogIndex = q.prevLogTerm) ∧ q ∈ v.rp.sent)
    (fun j s z => AppendedJ s (z.node j) z.acks j q)
    (fun _ => trivial) (fun _ _ _ _ _ => trivial)
    (fun j v z _ g e p => by rw [e]; exact ⟨p.1, g.sent q p.2⟩)
    (fun j s v z _ g e p => by
      rw [e]
      refine ⟨p.holds, p.holdsPrev, p.role, p.term, p.closed, p.cfg, p.ci, fun hp => ?_, p.post, p.np⟩
      obtain ⟨a, ha, r⟩ := p.ack hp
      exact ⟨a, g.acks a ha, r⟩)
    (fun j v hv ⟨⟨hj0, hsrc, hns, ho, hh, h2, ht⟩, hqv⟩ => by
      obtain ⟨hex, ap⟩ := append_node hV hv j hj0 q hqv hsrc hns ho hh h1 h2 ht
      exact ⟨_, _, hex, Nat.le_refl _, fun l hl => by rw [List.mem_singleton.mp hl]; rfl, Nat.le_refl _, ap.others,
        trivial, ap.holds, ap.holdsPrev, ap.role, ap.term, ap.closed, ap.cfg, ap.ci, ap.ack, ap.post, ap.np⟩)
    (Exec.reachable hV hu exS) js hjs (fun j hj => ⟨hall j hj, List.mem_cons_self ..⟩)
  exact ⟨ls, z, exS.trans ex, by have := ok.len; rwa [Nat.one_mul] at this, ok.actors,
    ok.noTimeout (fun i => by show (if i ∈ js then 0 else 0) = 0; split <;> rfl), oth, r⟩

end repl

end Progress
end Raft
