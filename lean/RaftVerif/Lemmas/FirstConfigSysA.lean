/-
`NodeInv` along the runs of the cluster-level system `Raft.Snap4`, part A (node level and ledger lemmas).

* `nodeInv_step_nc`, `nodeInv_crash_nc` : `C19FsmConfigSys.NodeInv` through a completed step / a crash and restart, stated
  on the components of `C12Crash.CrashInv` WITHOUT the two identity clauses (`cid ≠ 0`, `nid ≠ 0` are needed only for the
  restart to SUCCEED; in the system the restart is a premise of the transition) — so that the invariant can be carried for
  EVERY node of the cluster, whatever its cluster id;
* `first_of_readFrom2` : an append request a leader reads from its log (`Snap2.ReadFrom2`) satisfies `FirstCfg.First` when
  the leader's log satisfies `FirstIsConfig` (the request is read from the part of the virtual log the node still holds);
* `lab_of_snapRead`   : an install request a leader builds from its newest snapshot file (`Snap3.SnapRead`) is labelled
  with a real configuration when the leader's files satisfy `LabelsPos`.
-/
import RaftVerif.Props.C19FsmConfigSys

namespace Raft
namespace FirstCfgSys
open Node Track Order FsmCfg C19FsmConfig C19FsmConfigSys TrackCrash
open Snap Snap2 Snap3 SnapRelU SnapInst3

/-- **`NodeInv` through a completed step** (the content of `C19FsmConfigSys.nodeInv_step` for the `NodeInv` part, from
`Tracks`, `Ordered` and the covered label only) -/
theorem nodeInv_step_nc (s : Node) (op : Op) (ra : List Nat) (ord : List (List Nat)) (ht : C12Track.Tracks s)
    (ho : Ordered s) (hl : (label s).index ≤ s.snapIndex) (hi : NodeInv s) (hr : ReqOk s op) (hlb : ReqLab s op)
    (hq : ReqFirst s op) (hp : (s.step op ra ord).panicked = none) : NodeInv (s.step op ra ord) := by
  obtain ⟨hf, hrl⟩ := first_is_config_step s op ra ord ht ho hl hi hq hlb hp
  obtain ⟨a, b⟩ := above_step s op ra ord ht ho hl hi.cfg hlb hp
  exact ⟨⟨hf, a, b⟩, latest_is_newest_step_nofb s op ra ord hi.latest ht ho hl hi.cfg hr hp, hrl⟩

/-- **the disk at every crash point of every acceptable step is a good disk** (`TrackCrash.Pd`; `C12Crash.crashDisk_pd`
without the identity clauses) -/
theorem crashDisk_pd_nc (s : Node) (op : Op) (ra : List Nat) (ord : List (List Nat)) (k : Nat)
    (ht : C12Track.Tracks s) (ho : Ordered s) (hm : Mem s) (hr : ReqOk s op) (hd : ReqDec s op) (hfb : SnapFbOp s op)
    (hp : (s.step op ra ord).panicked = none) : Pd (C05.crashDisk s op ra ord k) :=
  C12Crash.crashDisk_pd_nc s op ra ord k ht ho hm hr hd hfb hp

/-- **`NodeInv` through a crash at ANY crash point of a step and the restart** (when the restart succeeds — for which the
ids must be set; here it is a hypothesis, as it is a premise of the crash transitions of the system) -/
theorem nodeInv_crash_nc (s : Node) (op : Op) (ra : List Nat) (ord : List (List Nat)) (k r : Nat) (sor : Bool) (n : Node)
    (ht : C12Track.Tracks s) (ho : Ordered s) (hm : Mem s) (hi : NodeInv s) (hr : ReqOk s op) (hd : ReqDec s op)
    (hlb : ReqLab s op) (hq : ReqFirst s op) (hp : (s.step op ra ord).panicked = none)
    (hn : Node.restart (C05.crashDisk s op ra ord k) r sor = some n) : NodeInv n := by
  have hf := fsm_has_config s ht ho hm.lab hi.cfg
  have hpd := crashDisk_pd_nc s op ra ord k ht ho hm hr hd (snapFbOp s op ho hf) hp
  have hd' := diskCfg_at_crash_point s op ra ord k ht ho hm.lab hi hq hlb hp
  refine ⟨restart_cfgInv _ r sor n hd' hn,
    C19Latest.restart_latest_is_newest _ r sor n hpd.ok hpd.tracks (C12Crash.noDecodeErr_of_logDec _ hpd.dec) hn, ?_⟩
  intro hne
  exact absurd (Election.restart_role_nid _ r sor n hn).1 hne

theorem mem_of_mem_drop_append {α : Type} {a es : List α} {p : Nat} (hp : a.length ≤ p) {e : α}
    (he : e ∈ (a ++ es).drop p) : e ∈ es := by
  rw [List.drop_append] at he
  rcases List.mem_append.mp he with h | h
  · rw [List.drop_of_length_le hp] at h; cases h
  · exact List.mem_of_mem_drop h

theorem first_of_readFrom2 (x : Snap3.Sys) (i : Nat) (q : AppendReq) (hr : ReadFrom2 (x.node i) (x.vnode i) q)
    (hf : FirstIsConfig (x.node i)) : FirstCfg.First q.entries := by
  obtain ⟨n, hn⟩ := hr.read.entries
  intro e he h1
  rw [hn] at he
  have he' : e ∈ (x.vlog i).drop q.prevLogIndex := List.mem_of_mem_take he
  rw [vlog_def] at he'
  have := mem_of_mem_drop_append (by rw [pad_length]; exact hr.there) he'
  exact hf e this h1

theorem lab_of_snapRead (s : Node) (q : InstallReq) (hr : SnapRead s q) (hl : LabelsPos s.snapsDisk) :
    0 < q.lastConfig.index :=
  hl (C09.fileOf q) (List.mem_of_mem_head? hr.file)

end FirstCfgSys
end Raft
