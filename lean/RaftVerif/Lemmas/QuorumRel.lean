/-
Quorum intersection ACROSS a single-server membership change.

`C01.quorums_intersect` says that two majorities of ONE voter set share a member. The code changes the voter set by at
most one node per configuration (`C08Step.OneChange.adjacent`, `C08.AdjacentVoters`); this file has the pigeonhole
argument for two voter lists with the same members except possibly for ONE id (`AdjLists`: `V' = V`, `V' = V + a`,
`V' = V - a`; the exceptional id may also be a member of both or of neither), and election safety from it.
-/
import RaftVerif.Props.C01Sys
import RaftVerif.Props.C08

namespace Raft
namespace QuorumRel

theorem nodup_subset_length : ∀ (l l' : List Nat), l.Nodup → (∀ x ∈ l, x ∈ l') → l.length ≤ l'.length
  | [], _, _, _ => Nat.zero_le _
  | a :: t, l', hnd, hsub => by
    have ha : a ∈ l' := hsub a (List.mem_cons_self ..)
    have hat : a ∉ t := (List.nodup_cons.mp hnd).1
    have ht : t.Nodup := (List.nodup_cons.mp hnd).2
    have hsub' : ∀ x ∈ t, x ∈ l'.erase a := by
      intro x hx
      have hne : x ≠ a := fun e => hat (e ▸ hx)
      exact (List.mem_erase_of_ne hne).mpr (hsub x (List.mem_cons_of_mem _ hx))
    have ih := nodup_subset_length t (l'.erase a) ht hsub'
    rw [List.length_erase_of_mem ha] at ih
    have : l'.length ≥ 1 := List.length_pos_of_mem ha
    simp only [List.length_cons]
    omega

/-- **adjacent voter lists**: the same members, except possibly for one id `a` -/
def AdjLists (V V' : List Nat) : Prop := ∃ a, ∀ x, x ≠ a → (x ∈ V ↔ x ∈ V')

theorem AdjLists.refl (V : List Nat) : AdjLists V V := ⟨0, fun _ _ => Iff.rfl⟩

theorem AdjLists.symm {V V' : List Nat} (h : AdjLists V V') : AdjLists V' V := by
  obtain ⟨a, h⟩ := h
  exact ⟨a, fun x hx => (h x hx).symm⟩

theorem AdjLists.of_same {V V' : List Nat} (h : ∀ x, x ∈ V ↔ x ∈ V') : AdjLists V V' := ⟨0, fun x _ => h x⟩

theorem AdjLists.cons (V : List Nat) (a : Nat) : AdjLists V (a :: V) :=
  ⟨a, fun x hx => ⟨fun h => List.mem_cons_of_mem _ h, fun h => by
    rcases List.mem_cons.mp h with e | e
    · exact absurd e hx
    · exact e⟩⟩

theorem AdjLists.erase (V : List Nat) (a : Nat) : AdjLists V (V.erase a) :=
  ⟨a, fun _ hx => ⟨fun h => (List.mem_erase_of_ne hx).mpr h, fun h => List.mem_of_mem_erase h⟩⟩

theorem adjacent_quorums_aux (V V' Q Q' : List Nat) (a : Nat) (hV : V.Nodup) (hQ : Q.Nodup)
    (hQ' : Q'.Nodup) (hadj : ∀ x, x ≠ a → (x ∈ V ↔ x ∈ V')) (hq : ∀ x ∈ Q, x ∈ V) (hq' : ∀ x ∈ Q', x ∈ V')
    (h1 : 2 * Q.length > V.length) (h2 : 2 * Q'.length > V'.length) (ha : a ∉ Q) : ∃ x, x ∈ Q ∧ x ∈ Q' := by
  -- everything happens inside `W = V - a`
  have hW : (V.erase a).Nodup := hV.erase a
  have memW : ∀ x, x ∈ V.erase a ↔ x ≠ a ∧ x ∈ V := fun x => hV.mem_erase_iff
  have hqW : ∀ x ∈ Q, x ∈ V.erase a := fun x hx => (memW x).mpr ⟨fun e => ha (e ▸ hx), hq x hx⟩
  have hq'W : ∀ x ∈ Q'.erase a, x ∈ V.erase a := by
    intro x hx
    have := hQ'.mem_erase_iff.mp hx
    exact (memW x).mpr ⟨this.1, (hadj x this.1).mpr (hq' x this.2)⟩
  have hWV : (V.erase a).length ≤ V.length := List.length_erase_le
  have hWV' : (V.erase a).length ≤ V'.length :=
    nodup_subset_length _ _ hW (fun x hx => (hadj x ((memW x).mp hx).1).mp ((memW x).mp hx).2)
  have hlen : Q.length + (Q'.erase a).length > (V.erase a).length := by
    by_cases ha' : a ∈ Q'
    · -- then `a ∈ V'`, so `W` is strictly smaller than `V'`
      have haV' : a ∈ V' := hq' a ha'
      have hlt : (V.erase a).length ≤ (V'.erase a).length :=
        nodup_subset_length _ _ hW (fun x hx =>
          (List.mem_erase_of_ne ((memW x).mp hx).1).mpr ((hadj x ((memW x).mp hx).1).mp ((memW x).mp hx).2))
      rw [List.length_erase_of_mem haV'] at hlt
      rw [List.length_erase_of_mem ha']
      have : V'.length ≥ 1 := List.length_pos_of_mem haV'
      have : Q'.length ≥ 1 := List.length_pos_of_mem ha'
      omega
    · rw [List.erase_of_not_mem ha']
      omega
  obtain ⟨x, hx, hx'⟩ := C01.quorums_intersect (V.erase a) Q (Q'.erase a) hW hQ (hQ'.erase a) hqW hq'W hlen
  exact ⟨x, hx, List.mem_of_mem_erase hx'⟩

/-- **majorities of adjacent voter sets intersect**: if `V'` has the members of `V` except possibly for one id
(one voter added, one removed, or none), every duplicate-free majority `Q` of `V` and every duplicate-free majority
`Q'` of `V'` share a member. (No bound on the sizes; `V`, `V'` duplicate-free.) -/
theorem adjacent_quorums_intersect (V V' Q Q' : List Nat) (hV : V.Nodup) (hV' : V'.Nodup) (hQ : Q.Nodup)
    (hQ' : Q'.Nodup) (hadj : AdjLists V V') (hq : ∀ x ∈ Q, x ∈ V) (hq' : ∀ x ∈ Q', x ∈ V')
    (h1 : 2 * Q.length > V.length) (h2 : 2 * Q'.length > V'.length) : ∃ x, x ∈ Q ∧ x ∈ Q' := by
  obtain ⟨a, hadj⟩ := hadj
  by_cases ha : a ∈ Q
  · by_cases ha' : a ∈ Q'
    · exact ⟨a, ha, ha'⟩
    · obtain ⟨x, hx', hx⟩ := adjacent_quorums_aux V' V Q' Q a hV' hQ' hQ (fun x hx => (hadj x hx).symm) hq' hq h2 h1 ha'
      exact ⟨x, hx, hx'⟩
  · exact adjacent_quorums_aux V V' Q Q' a hV hQ hQ' hadj hq hq' h1 h2 ha

/-- EXAMPLE: `{1,2,3}` and `{1,2,3,4}` are adjacent; the majorities `{2,3}` and `{1,3,4}` share node 3 -/
example : ∃ x, x ∈ [2, 3] ∧ x ∈ [1, 3, 4] :=
  adjacent_quorums_intersect [1, 2, 3] [4, 1, 2, 3] [2, 3] [1, 3, 4] (by decide) (by decide) (by decide) (by decide)
    (AdjLists.cons [1, 2, 3] 4) (by decide) (by decide) (by decide) (by decide)

/-- EXAMPLE (necessity of adjacency): `{1,2,4}` and `{1,2,5}` are two ids apart;
the majorities `{1,4}` of `{1,2,4}` and `{2,5}` of `{1,2,5}` are disjoint — the classic reason why the next
configuration may only be introduced when the previous one is committed. -/
example : ¬ ∃ x, x ∈ [1, 4] ∧ x ∈ [2, 5] := by decide

theorem mem_voters_iff (c : Config) (h : c.ids.Nodup) (id : Nat) : id ∈ c.voters ↔ c.isVoter id = true := by
  constructor
  · intro hm
    unfold Config.voters at hm
    obtain ⟨n, hn, hid⟩ := List.mem_map.mp hm
    obtain ⟨hn1, hn2⟩ := List.mem_filter.mp hn
    have := Config.find?_of_mem_nodup c.nodes h n hn1
    unfold Config.isVoter Config.find?
    rw [← hid, this]
    exact hn2
  · exact C01Sys.isVoter_mem_voters c id

theorem voters_nodup (c : Config) (h : c.ids.Nodup) : c.voters.Nodup := by
  unfold Config.voters
  unfold Config.ids at h
  exact (List.filter_sublist.map _).nodup h

/-- voting rights that agree except at one id (`C08.AdjacentVoters`, what one action of the leader produces) give
adjacent voter lists -/
theorem adjLists_of_adjacentVoters (c c' : Config) (h : c.ids.Nodup) (h' : c'.ids.Nodup)
    (hadj : C08.AdjacentVoters c c') : AdjLists c.voters c'.voters := by
  obtain ⟨a, ha⟩ := hadj
  refine ⟨a, fun x hx => ?_⟩
  rw [mem_voters_iff c h, mem_voters_iff c' h', ha x hx]

theorem adjacent_config_quorums_intersect (c c' : Config) (h : c.ids.Nodup) (h' : c'.ids.Nodup)
    (hadj : C08.AdjacentVoters c c') (Q Q' : List Nat) (hQ : Q.Nodup) (hQ' : Q'.Nodup)
    (hq : ∀ x ∈ Q, c.isVoter x = true) (hq' : ∀ x ∈ Q', c'.isVoter x = true)
    (h1 : 2 * Q.length > c.voters.length) (h2 : 2 * Q'.length > c'.voters.length) : ∃ x, x ∈ Q ∧ x ∈ Q' :=
  adjacent_quorums_intersect c.voters c'.voters Q Q' (voters_nodup c h) (voters_nodup c' h') hQ hQ'
    (adjLists_of_adjacentVoters c c' h h' hadj) (fun x hx => (mem_voters_iff c h x).mpr (hq x hx))
    (fun x hx => (mem_voters_iff c' h' x).mpr (hq' x hx)) h1 h2

/-- **election safety from vote uniqueness and quorums of ADJACENT voter sets**: if grants are unique per
(voter, term) and two nodes are each backed by a majority of grants — `l` of the voter set `V`, `l'` of the adjacent
voter set `V'` — in the same term, they are the same node. -/
theorem election_safety_adjacent (G : List C01.Grant) (V V' : List Nat) (hV : V.Nodup) (hV' : V'.Nodup)
    (hadj : AdjLists V V')
    (huniq : ∀ a ∈ G, ∀ b ∈ G, a.voter = b.voter → a.term = b.term → a.cand = b.cand)
    (l l' T : Nat) (hl : C01.Backed G V l T) (hl' : C01.Backed G V' l' T) : l = l' := by
  obtain ⟨Q, hQ, hs, hlen, hg⟩ := hl
  obtain ⟨Q', hQ', hs', hlen', hg'⟩ := hl'
  obtain ⟨v, hv, hv'⟩ := adjacent_quorums_intersect V V' Q Q' hV hV' hQ hQ' hadj hs hs' hlen hlen'
  exact huniq _ (hg v hv) _ (hg' v hv') rfl rfl

end QuorumRel
end Raft

#print axioms Raft.QuorumRel.adjacent_quorums_intersect
#print axioms Raft.QuorumRel.adjacent_config_quorums_intersect
#print axioms Raft.QuorumRel.election_safety_adjacent
