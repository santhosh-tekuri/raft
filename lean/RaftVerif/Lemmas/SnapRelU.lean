/-
Un-compaction (stage 2 of the cluster system with snapshots: the log may be compacted).

`U β s` puts the compacted prefix `β` back in front of the log of `s` (the log starts at index 1 again) and forgets
the compaction bounds kept in the leader record; the same at every crash point. The handlers of the operations that
neither compact the log nor install a snapshot commute with `U β` — provided the handler does not fail an assertion
on `s` (on a compacted log `fsmApply` / `ViewAt` / `mustGetEntry` fail where they would not on the full log):
`(f s).panicked = none → f (U β s) = U β (f s)`.

`U β` is `W uncG β`, where `W g β` leaves the segment list of the un-compacted log to a parameter `g`; the updates of the
node that the handler of append requests is made of are shown to commute with `W g β` (Lemmas/SnapRelU3.lean,
SnapInstV.lean use another `g`), the leader block and the other handlers with `U β`.
-/
import RaftVerif.Lemmas.SnapRelP
import Lean

namespace Raft
namespace SnapRelU
open Node SnapRelP

/-- the first `p` entries of `b`, filled up with `default` entries when `b` is shorter: the length is `p` whatever `b`
is (`pad_length`), so the un-compacted log has its entries at their indexes and no lemma asks `b.length = prev`; for the
`b` that is meant — the `prev` entries that were compacted away — `pad b prev = b` (`pad_eq`) -/
def pad (b : List Entry) (p : Nat) : List Entry := b.take p ++ List.replicate (p - b.length) default

theorem pad_length (b : List Entry) (p : Nat) : (pad b p).length = p := by
  unfold pad
  rw [List.length_append, List.length_take, List.length_replicate]
  omega

theorem pad_eq (b : List Entry) : pad b b.length = b := by
  unfold pad
  rw [List.take_length, Nat.sub_self]
  simp

/-- the segment boundaries of the un-compacted log: one more segment `(0, prev]` in front (unless `prev = 0`) -/
def uncSegs (l : NLog) : List Nat := if l.prev = 0 then l.segs else l.prev :: l.segs

def uncLog (b : List Entry) (l : NLog) : NLog :=
  { prev := 0, entries := pad b l.prev ++ l.entries, flushed := l.flushed, segs := uncSegs l }

def uncD (b : List Entry) (d : Durable) : Durable :=
  { d with log := { prev := 0, entries := (pad b d.log.prev ++ d.log.entries).take d.log.flushed,
                    flushed := d.log.flushed, segs := uncSegs d.log } }

def uncP (b : List Entry) (p : String × Durable) : String × Durable := (p.1, uncD b p.2)

/-- a replication status without its compaction bound: `0`, the bound of a log that starts at index 1 -/
def zrr (r : Repl) : Repl := { r with removeLTE := 0 }

/-- the leader record without its compaction bounds (`removeLTE` of the record and of every replication): the handlers
compare them with `log.prev` only (`NLog.viewOk`, `checkLogCompact`), which is 0 in the un-compacted log -/
def zr (l : Leader) : Leader := { l with removeLTE := 0, repls := l.repls.map zrr }

/-- **the node with its log un-compacted**: the prefix `b` is put back (the log starts at index 1), the compaction
bounds of the leader record are forgotten; the same at every crash point of the current step -/
def U (b : List Entry) (s : Node) : Node :=
  { s with log := uncLog b s.log, ldr := zr s.ldr, trace := s.trace.map (uncP b) }

/-- the un-compacted log with the segment list a parameter: `g prev segs` -/
def wLog (g : Nat → List Nat → List Nat) (b : List Entry) (l : NLog) : NLog :=
  { prev := 0, entries := pad b l.prev ++ l.entries, flushed := l.flushed, segs := g l.prev l.segs }

def wD (g : Nat → List Nat → List Nat) (b : List Entry) (d : Durable) : Durable :=
  { d with log := { prev := 0, entries := (pad b d.log.prev ++ d.log.entries).take d.log.flushed,
                    flushed := d.log.flushed, segs := g d.log.prev d.log.segs } }

def wP (g : Nat → List Nat → List Nat) (b : List Entry) (p : String × Durable) : String × Durable := (p.1, wD g b p.2)

/-- The un-compaction with the segment list of the un-compacted log a parameter (`g prev segs`): `U β` is `W uncG β`,
`SnapInstV.V β` is `W (fun _ sg => sg) β`, both by `rfl` — a fact `U_foo` about `U` is the fact `W_foo` at `(g := uncG)`,
accepted for it by unfolding. What the handlers do to the node without reading the segment list commutes with `W g β` for
every `g`; `append` and `commitN` read it through `lastSegPrev` and need `Snoc` / `KeepsLast`. -/
def W (g : Nat → List Nat → List Nat) (b : List Entry) (s : Node) : Node :=
  { s with log := wLog g b s.log, ldr := zr s.ldr, trace := s.trace.map (wP g b) }

/-- `uncSegs` as a function of `prev` and `segs` -/
def uncG (p : Nat) (sg : List Nat) : List Nat := if p = 0 then sg else p :: sg

/-- `g` keeps the last segment boundary of `l` -/
def KeepsLast (g : Nat → List Nat → List Nat) (l : NLog) : Prop := (g l.prev l.segs).getLast?.getD 0 = l.lastSegPrev

/-- `g` commutes with opening a new segment -/
def Snoc (g : Nat → List Nat → List Nat) : Prop := ∀ p sg x, g p (sg ++ [x]) = g p sg ++ [x]

variable {g : Nat → List Nat → List Nat} {β : List Entry}

theorem wLog_last (l : NLog) : (wLog g β l).last = l.last := by
  unfold wLog NLog.last
  dsimp only
  rw [List.length_append, pad_length]; omega

theorem uncLog_last (l : NLog) : (uncLog β l).last = l.last := wLog_last (g := uncG) l

theorem wLog_append (hg : Snoc g) (l : NLog) (e : Entry) (roll : Bool) :
    (wLog g β l).append e roll = wLog g β (l.append e roll) := by
  unfold NLog.append
  rw [wLog_last]
  split
  · unfold wLog; simp only [List.append_assoc]; rw [hg]
  · unfold wLog; simp only [List.append_assoc]

theorem wLog_commitN (l : NLog) (n : Nat) (h : KeepsLast g l) : (wLog g β l).commitN n = wLog g β (l.commitN n) := by
  unfold NLog.commitN
  rw [show (wLog g β l).lastSegPrev = l.lastSegPrev from h, wLog_last]
  split <;> rfl

theorem uncLog_lastSegPrev (l : NLog) : (uncLog β l).lastSegPrev = l.lastSegPrev := by
  unfold uncLog NLog.lastSegPrev uncSegs
  dsimp only
  by_cases hp : l.prev = 0
  · rw [if_pos hp, hp]
  · rw [if_neg hp]
    cases h : l.segs with
    | nil => rfl
    | cons a as =>
      rw [List.getLast?_cons_cons]
      cases h2 : (a :: as).getLast? with
      | none => simp at h2
      | some x => rfl

theorem uncG_snoc : Snoc uncG := fun p sg x => by unfold uncG; split <;> rfl

theorem uncG_keepsLast (l : NLog) : KeepsLast uncG l := uncLog_lastSegPrev (β := []) l

theorem uncSegs_append_false (l : NLog) (e : Entry) : uncSegs (l.append e false) = uncSegs l := rfl

theorem take_pad (p : List Entry) (es : List Entry) (fl : Nat) :
    (p ++ es.take (fl - p.length)).take fl = (p ++ es).take fl := by
  rw [List.take_append, List.take_append, List.take_take]
  congr 1
  congr 1
  omega

theorem W_durable (s : Node) : (W g β s).durable = wD g β s.durable := by
  unfold Node.durable W wD wLog NLog.durable
  dsimp only
  congr 1
  congr 1
  have := take_pad (pad β s.log.prev) s.log.entries s.log.flushed
  rw [pad_length] at this
  rw [Nat.sub_zero]
  exact this.symm

theorem U_durable (s : Node) : (U β s).durable = uncD β s.durable := W_durable (g := uncG) s

@[uproj] theorem U_cid (s : Node) : (U β s).cid = s.cid := rfl
@[uproj] theorem U_nid (s : Node) : (U β s).nid = s.nid := rfl
@[uproj] theorem U_retain (s : Node) : (U β s).retain = s.retain := rfl
@[uproj] theorem U_shutdownOnRemove (s : Node) : (U β s).shutdownOnRemove = s.shutdownOnRemove := rfl
@[uproj] theorem U_term (s : Node) : (U β s).term = s.term := rfl
@[uproj] theorem U_votedFor (s : Node) : (U β s).votedFor = s.votedFor := rfl
@[uproj] theorem U_durTerm (s : Node) : (U β s).durTerm = s.durTerm := rfl
@[uproj] theorem U_durVote (s : Node) : (U β s).durVote = s.durVote := rfl
theorem U_log (s : Node) : (U β s).log = uncLog β s.log := rfl
@[usimp] theorem U_log_lastSegPrev (s : Node) : (U β s).log.lastSegPrev = s.log.lastSegPrev := uncLog_lastSegPrev s.log
@[uproj] theorem U_lastLogIndex (s : Node) : (U β s).lastLogIndex = s.lastLogIndex := rfl
@[uproj] theorem U_lastLogTerm (s : Node) : (U β s).lastLogTerm = s.lastLogTerm := rfl
@[uproj] theorem U_configs (s : Node) : (U β s).configs = s.configs := rfl
@[uproj] theorem U_role (s : Node) : (U β s).role = s.role := rfl
@[uproj] theorem U_leader (s : Node) : (U β s).leader = s.leader := rfl
@[uproj] theorem U_commitIndex (s : Node) : (U β s).commitIndex = s.commitIndex := rfl
@[uproj] theorem U_fsm (s : Node) : (U β s).fsm = s.fsm := rfl
@[uproj] theorem U_votesNeeded (s : Node) : (U β s).votesNeeded = s.votesNeeded := rfl
@[uproj] theorem U_candTransfer (s : Node) : (U β s).candTransfer = s.candTransfer := rfl
theorem U_ldr (s : Node) : (U β s).ldr = zr s.ldr := rfl
@[uproj] theorem U_ldr_node (s : Node) : (U β s).ldr.node = s.ldr.node := rfl
@[uproj] theorem U_ldr_numVoters (s : Node) : (U β s).ldr.numVoters = s.ldr.numVoters := rfl
@[uproj] theorem U_ldr_startIndex (s : Node) : (U β s).ldr.startIndex = s.ldr.startIndex := rfl
@[uproj] theorem U_ldr_queue (s : Node) : (U β s).ldr.queue = s.ldr.queue := rfl
@[uproj] theorem U_ldr_transfer (s : Node) : (U β s).ldr.transfer = s.ldr.transfer := rfl
@[uproj] theorem U_ldr_waitStable (s : Node) : (U β s).ldr.waitStable = s.ldr.waitStable := rfl
@[uproj] theorem U_snapPending (s : Node) : (U β s).snapPending = s.snapPending := rfl
@[uproj] theorem U_snapResult (s : Node) : (U β s).snapResult = s.snapResult := rfl
@[uproj] theorem U_closed (s : Node) : (U β s).closed = s.closed := rfl
@[uproj] theorem U_rollAt (s : Node) : (U β s).rollAt = s.rollAt := rfl
@[uproj] theorem U_orders (s : Node) : (U β s).orders = s.orders := rfl
@[uproj] theorem U_replies (s : Node) : (U β s).replies = s.replies := rfl
@[uproj] theorem U_rpcReply (s : Node) : (U β s).rpcReply = s.rpcReply := rfl
@[uproj] theorem U_result (s : Node) : (U β s).result = s.result := rfl
@[uproj] theorem U_panicked (s : Node) : (U β s).panicked = s.panicked := rfl

@[uproj] theorem W_cid (s : Node) : (W g β s).cid = s.cid := rfl
@[uproj] theorem W_nid (s : Node) : (W g β s).nid = s.nid := rfl
@[uproj] theorem W_retain (s : Node) : (W g β s).retain = s.retain := rfl
@[uproj] theorem W_shutdownOnRemove (s : Node) : (W g β s).shutdownOnRemove = s.shutdownOnRemove := rfl
@[uproj] theorem W_term (s : Node) : (W g β s).term = s.term := rfl
@[uproj] theorem W_votedFor (s : Node) : (W g β s).votedFor = s.votedFor := rfl
@[uproj] theorem W_durTerm (s : Node) : (W g β s).durTerm = s.durTerm := rfl
@[uproj] theorem W_durVote (s : Node) : (W g β s).durVote = s.durVote := rfl
@[uproj] theorem W_lastLogIndex (s : Node) : (W g β s).lastLogIndex = s.lastLogIndex := rfl
@[uproj] theorem W_lastLogTerm (s : Node) : (W g β s).lastLogTerm = s.lastLogTerm := rfl
@[uproj] theorem W_configs (s : Node) : (W g β s).configs = s.configs := rfl
@[uproj] theorem W_role (s : Node) : (W g β s).role = s.role := rfl
@[uproj] theorem W_leader (s : Node) : (W g β s).leader = s.leader := rfl
@[uproj] theorem W_commitIndex (s : Node) : (W g β s).commitIndex = s.commitIndex := rfl
@[uproj] theorem W_fsm (s : Node) : (W g β s).fsm = s.fsm := rfl
@[uproj] theorem W_votesNeeded (s : Node) : (W g β s).votesNeeded = s.votesNeeded := rfl
@[uproj] theorem W_candTransfer (s : Node) : (W g β s).candTransfer = s.candTransfer := rfl
@[uproj] theorem W_ldr_node (s : Node) : (W g β s).ldr.node = s.ldr.node := rfl
@[uproj] theorem W_ldr_numVoters (s : Node) : (W g β s).ldr.numVoters = s.ldr.numVoters := rfl
@[uproj] theorem W_ldr_startIndex (s : Node) : (W g β s).ldr.startIndex = s.ldr.startIndex := rfl
@[uproj] theorem W_ldr_queue (s : Node) : (W g β s).ldr.queue = s.ldr.queue := rfl
@[uproj] theorem W_ldr_transfer (s : Node) : (W g β s).ldr.transfer = s.ldr.transfer := rfl
@[uproj] theorem W_ldr_waitStable (s : Node) : (W g β s).ldr.waitStable = s.ldr.waitStable := rfl
@[uproj] theorem W_snapPending (s : Node) : (W g β s).snapPending = s.snapPending := rfl
@[uproj] theorem W_snapResult (s : Node) : (W g β s).snapResult = s.snapResult := rfl
@[uproj] theorem W_closed (s : Node) : (W g β s).closed = s.closed := rfl
@[uproj] theorem W_rollAt (s : Node) : (W g β s).rollAt = s.rollAt := rfl
@[uproj] theorem W_orders (s : Node) : (W g β s).orders = s.orders := rfl
@[uproj] theorem W_replies (s : Node) : (W g β s).replies = s.replies := rfl
@[uproj] theorem W_rpcReply (s : Node) : (W g β s).rpcReply = s.rpcReply := rfl
@[uproj] theorem W_result (s : Node) : (W g β s).result = s.result := rfl
@[uproj] theorem W_panicked (s : Node) : (W g β s).panicked = s.panicked := rfl
@[uproj] theorem W_trace (s : Node) : (W g β s).trace = s.trace.map (wP g β) := rfl
@[uproj] theorem W_snapIndex (s : Node) : (W g β s).snapIndex = s.snapIndex := rfl
@[uproj] theorem W_snapTerm (s : Node) : (W g β s).snapTerm = s.snapTerm := rfl
@[uproj] theorem W_snapsDisk (s : Node) : (W g β s).snapsDisk = s.snapsDisk := rfl
@[uproj] theorem wLog_prev (l : NLog) : (wLog g β l).prev = 0 := rfl
@[uproj] theorem wLog_flushed (l : NLog) : (wLog g β l).flushed = l.flushed := rfl
@[uproj] theorem W_validateTransfer (s : Node) (t : Nat) : (W g β s).validateTransfer t = s.validateTransfer t := rfl
@[uproj] theorem W_releaseResult (s : Node) : (W g β s).releaseResult = s.releaseResult := rfl
@[uproj] theorem W_notLeader (s : Node) (x : Bool) : (W g β s).notLeader x = s.notLeader x := rfl
@[uproj] theorem W_canStartElection (s : Node) : (W g β s).canStartElection = s.canStartElection := rfl
@[uproj] theorem W_isClosed (s : Node) : (W g β s).isClosed = s.isClosed := rfl
@[uproj] theorem W_mkReply (s : Node) (x y : Bool) : (W g β s).mkReply x y = s.mkReply x y := rfl
@[uproj] theorem W_canCommit (s : Node) (q : AppendReq) (i t : Nat) : (W g β s).canCommit q i t = s.canCommit q i t := rfl
@[uproj] theorem W_canChangeConfig (s : Node) : (W g β s).canChangeConfig = s.canChangeConfig := rfl
@[usimp] theorem W_setRole (s : Node) (r : Role) : (W g β s).setRole r = W g β (s.setRole r) := rfl
@[usimp] theorem W_popOrder (s : Node) : (W g β s).popOrder = W g β s.popOrder := rfl
@[usimp] theorem W_withFsm (s : Node) (f : Fsm) : (W g β s).withFsm f = W g β (s.withFsm f) := rfl
@[usimp] theorem W_withVotesNeeded (s : Node) (v : Int) : (W g β s).withVotesNeeded v = W g β (s.withVotesNeeded v) := rfl
@[usimp] theorem W_withCandTransfer (s : Node) (v : Bool) : (W g β s).withCandTransfer v = W g β (s.withCandTransfer v) := rfl
@[usimp] theorem W_withSnapPending (s : Node) (v : Option SnapReq) : (W g β s).withSnapPending v = W g β (s.withSnapPending v) := rfl
@[usimp] theorem W_withSnapResult (s : Node) (v : Option SnapRes) : (W g β s).withSnapResult v = W g β (s.withSnapResult v) := rfl
@[usimp] theorem W_withRpcReply (s : Node) (v : Option RpcReply) : (W g β s).withRpcReply v = W g β (s.withRpcReply v) := rfl
@[usimp] theorem W_withCommitIndex (s : Node) (i : Nat) : (W g β s).withCommitIndex i = W g β (s.withCommitIndex i) := rfl
@[usimp] theorem W_withLast (s : Node) (i t : Nat) : (W g β s).withLast i t = W g β (s.withLast i t) := rfl
@[usimp] theorem W_ret (s : Node) (r : Nat) : (W g β s).ret r = W g β (s.ret r) := rfl
@[usimp] theorem W_setLeader (s : Node) (l : Nat) : (W g β s).setLeader l = W g β (s.setLeader l) := rfl
@[usimp] theorem W_revertConfig (s : Node) : (W g β s).revertConfig = W g β s.revertConfig := rfl

@[uproj] theorem U_trace (s : Node) : (U β s).trace = s.trace.map (uncP β) := rfl
@[uproj] theorem U_snapIndex (s : Node) : (U β s).snapIndex = s.snapIndex := rfl
@[uproj] theorem U_snapTerm (s : Node) : (U β s).snapTerm = s.snapTerm := rfl
@[uproj] theorem U_snapsDisk (s : Node) : (U β s).snapsDisk = s.snapsDisk := rfl

@[uproj] theorem zr_node (l : Leader) : (zr l).node = l.node := rfl
@[uproj] theorem zr_numVoters (l : Leader) : (zr l).numVoters = l.numVoters := rfl
@[uproj] theorem zr_startIndex (l : Leader) : (zr l).startIndex = l.startIndex := rfl
@[uproj] theorem zr_queue (l : Leader) : (zr l).queue = l.queue := rfl
@[uproj] theorem zr_transfer (l : Leader) : (zr l).transfer = l.transfer := rfl
@[uproj] theorem zr_waitStable (l : Leader) : (zr l).waitStable = l.waitStable := rfl
@[uproj] theorem zr_removeLTE (l : Leader) : (zr l).removeLTE = 0 := rfl
@[uproj] theorem zr_repls (l : Leader) : (zr l).repls = l.repls.map zrr := rfl
@[uproj] theorem zrr_id (r : Repl) : (zrr r).id = r.id := rfl
@[uproj] theorem zrr_matchIndex (r : Repl) : (zrr r).matchIndex = r.matchIndex := rfl
@[uproj] theorem zrr_noContact (r : Repl) : (zrr r).noContact = r.noContact := rfl
@[uproj] theorem zrr_node (r : Repl) : (zrr r).node = r.node := rfl
@[uproj] theorem zrr_round (r : Repl) : (zrr r).round = r.round := rfl
@[uproj] theorem zrr_removeLTE (r : Repl) : (zrr r).removeLTE = 0 := rfl
@[uproj] theorem uncLog_prev (l : NLog) : (uncLog β l).prev = 0 := rfl
@[uproj] theorem uncLog_flushed (l : NLog) : (uncLog β l).flushed = l.flushed := rfl

/-! ### observations (functions of the state that do not return a state) -/

@[uproj] theorem U_validateTransfer (s : Node) (t : Nat) : (U β s).validateTransfer t = s.validateTransfer t := rfl
@[uproj] theorem U_releaseResult (s : Node) : (U β s).releaseResult = s.releaseResult := rfl
@[uproj] theorem U_notLeader (s : Node) (x : Bool) : (U β s).notLeader x = s.notLeader x := rfl
@[uproj] theorem U_canStartElection (s : Node) : (U β s).canStartElection = s.canStartElection := rfl
@[uproj] theorem U_isClosed (s : Node) : (U β s).isClosed = s.isClosed := rfl
@[uproj] theorem U_mkReply (s : Node) (x y : Bool) : (U β s).mkReply x y = s.mkReply x y := rfl
@[uproj] theorem U_canCommit (s : Node) (q : AppendReq) (i t : Nat) : (U β s).canCommit q i t = s.canCommit q i t := rfl
@[uproj] theorem U_canChangeConfig (s : Node) : (U β s).canChangeConfig = s.canChangeConfig := rfl

@[usimp] theorem W_point (s : Node) (n : String) : (W g β s).point n = W g β (s.point n) := by
  show ({ W g β s with trace := (W g β s).trace ++ [(n, (W g β s).durable)] } : Node) = _
  rw [W_durable]
  unfold W Node.point
  simp only [List.map_append, List.map_cons, List.map_nil, wP]

@[usimp] theorem U_point (s : Node) (n : String) : (U β s).point n = U β (s.point n) :=
  W_point (g := uncG) s n

@[usimp] theorem W_panic (s : Node) (site : String) : (W g β s).panic site = W g β (s.panic site) := by
  unfold Node.panic
  show (if s.panicked.isNone = true then _ else _) = _
  split <;> rfl

@[usimp] theorem U_panic (s : Node) (site : String) : (U β s).panic site = U β (s.panic site) :=
  W_panic (g := uncG) s site

@[usimp] theorem W_assert (s : Node) (x : Bool) (site : String) : (W g β s).assert x site = W g β (s.assert x site) := by
  unfold Node.assert; split
  · rfl
  · exact W_panic s site

@[usimp] theorem U_assert (s : Node) (x : Bool) (site : String) : (U β s).assert x site = U β (s.assert x site) :=
  W_assert (g := uncG) s x site

@[usimp] theorem W_reply (s : Node) (t : Nat) (r : String) : (W g β s).reply t r = W g β (s.reply t r) := by
  unfold Node.reply; split <;> rfl

@[usimp] theorem U_reply (s : Node) (t : Nat) (r : String) : (U β s).reply t r = U β (s.reply t r) :=
  W_reply (g := uncG) s t r

@[usimp] theorem U_setRole (s : Node) (r : Role) : (U β s).setRole r = U β (s.setRole r) := rfl
@[usimp] theorem U_popOrder (s : Node) : (U β s).popOrder = U β s.popOrder := rfl
@[usimp] theorem U_withFsm (s : Node) (f : Fsm) : (U β s).withFsm f = U β (s.withFsm f) := rfl
@[usimp] theorem U_withVotesNeeded (s : Node) (v : Int) : (U β s).withVotesNeeded v = U β (s.withVotesNeeded v) := rfl
@[usimp] theorem U_withCandTransfer (s : Node) (v : Bool) : (U β s).withCandTransfer v = U β (s.withCandTransfer v) := rfl
@[usimp] theorem U_withSnapPending (s : Node) (v : Option SnapReq) : (U β s).withSnapPending v = U β (s.withSnapPending v) := rfl
@[usimp] theorem U_withSnapResult (s : Node) (v : Option SnapRes) : (U β s).withSnapResult v = U β (s.withSnapResult v) := rfl
@[usimp] theorem U_withRpcReply (s : Node) (v : Option RpcReply) : (U β s).withRpcReply v = U β (s.withRpcReply v) := rfl
@[usimp] theorem U_withCommitIndex (s : Node) (i : Nat) : (U β s).withCommitIndex i = U β (s.withCommitIndex i) := rfl
@[usimp] theorem U_withLast (s : Node) (i t : Nat) : (U β s).withLast i t = U β (s.withLast i t) := rfl
@[usimp] theorem U_ret (s : Node) (r : Nat) : (U β s).ret r = U β (s.ret r) := rfl
@[usimp] theorem U_setLeader (s : Node) (l : Nat) : (U β s).setLeader l = U β (s.setLeader l) := rfl

/-- an update of the leader record that keeps the replication table and the compaction bound -/
@[usimp] theorem U_withLdr_keep (s : Node) (nd : CNode) (nv si : Nat) (q : List QItem) (tr : Transfer) (ws : List Nat) :
    (U β s).withLdr ⟨nd, nv, si, q, (U β s).ldr.repls, tr, ws, (U β s).ldr.removeLTE⟩ =
      U β (s.withLdr ⟨nd, nv, si, q, s.ldr.repls, tr, ws, s.ldr.removeLTE⟩) := rfl

@[usimp] theorem ite_W (c : Prop) {inst : Decidable c} (x y : Node) :
    @ite Node c inst (W g β x) (W g β y) = W g β (@ite Node c inst x y) := by
  split <;> rfl

@[usimp] theorem ite_U (c : Prop) {inst : Decidable c} (x y : Node) :
    @ite Node c inst (U β x) (U β y) = U β (@ite Node c inst x y) :=
  ite_W (g := uncG) c x y

theorem _root_.Raft.Node.foldl_comm {α : Type} (F : Node → Node) (f : Node → α → Node) (hf : ∀ s x, f (F s) x = F (f s x))
    (xs : List α) (s : Node) : xs.foldl f (F s) = F (xs.foldl f s) := by
  induction xs generalizing s with
  | nil => rfl
  | cons x xs ih => simp only [List.foldl_cons, hf, ih]

open Lean Elab Tactic Meta in
/-- fail (by an exception, not by a logged error) if a goal is left -/
elab "fail_if_goals" : tactic => do
  unless (← getGoals).isEmpty do throwError "goals left"

open Lean Elab Tactic Meta in
/-- `npk_core hp`: the goal is `Y.panicked = none` for a sub-computation `Y` of the computation whose result has no
failure recorded (`hp : (… Y …).panicked = none`): a recorded failure persists (Lemmas/SnapRelP.lean) -/
elab "npk_core " hp:ident : tactic => withMainContext do
  let g ← getMainGoal
  let t ← instantiateMVars (← g.getType)
  match t.eq? with
  | some (_, lhs, _) =>
    if lhs.isApp then
      let Y := lhs.appArg!
      let ys ← Term.exprToSyntax Y
      evalTactic (← `(tactic| (
        generalize hY : $ys = y at $hp:ident ⊢
        refine Option.eq_none_iff_forall_ne_some.mpr (fun site hy => ?_)
        rw [eq_P_of hy] at $hp:ident
        repeat' (first
          | (cases $hp:ident; fail_if_goals)
          | (simp only [psimp, pproj] at $hp:ident)
          | (split at $hp:ident))
        fail_if_goals)))
    else throwError "npk_core: not a projection application"
  | none => throwError "npk_core: not an equation"

syntax "npk_tac " ident : tactic
macro_rules
  | `(tactic| npk_tac $hp) => `(tactic| first | assumption | (npk_core $hp; fail_if_goals))

syntax "unorm " ident ("[" Lean.Parser.Tactic.simpLemma,* "]")? : tactic
macro_rules
  | `(tactic| unorm $hp) =>
    `(tactic| repeat (first | dsimp +instances only [uproj] | simp (discharger := npk_tac $hp) only [usimp]))
  | `(tactic| unorm $hp [$ls,*]) =>
    `(tactic| repeat (first | dsimp +instances only [uproj] | simp (discharger := npk_tac $hp) only [usimp, $ls,*]))

/-- prove `f (U β s) = U β (f s)` after unfolding `f` (in the goal and in `hp : (f s).panicked = none`) -/
syntax "ucomm " ident ("[" Lean.Parser.Tactic.simpLemma,* "]")? : tactic
macro_rules
  | `(tactic| ucomm $hp) =>
    `(tactic| (unorm $hp <;> repeat' (first | rfl | contradiction | (exfalso; simp_all; done) |
        (split <;> (try simp only [*, ↓reduceIte, Bool.false_eq_true, Bool.true_eq_false, if_false, if_true, not_true_eq_false, not_false_eq_true] at $hp:ident ⊢) <;> (try unorm $hp)))))
  | `(tactic| ucomm $hp [$ls,*]) =>
    `(tactic| (unorm $hp [$ls,*] <;> repeat' (first | rfl | contradiction | (exfalso; simp_all; done) |
        (split <;> (try simp only [*, ↓reduceIte, Bool.false_eq_true, Bool.true_eq_false, if_false, if_true, not_true_eq_false, not_false_eq_true] at $hp:ident ⊢) <;> (try unorm $hp [$ls,*])))))

@[usimp] theorem W_storeTermVote (s : Node) (t c : Nat) : (W g β s).storeTermVote t c = W g β (s.storeTermVote t c) := by
  rw [storeTermVote_eq, storeTermVote_eq]
  by_cases h : t = s.durTerm ∧ c = s.durVote
  · rw [if_pos h, if_pos (show t = (W g β s).durTerm ∧ c = (W g β s).durVote from h)]; rfl
  · rw [if_neg h, if_neg (show ¬ (t = (W g β s).durTerm ∧ c = (W g β s).durVote) from h)]
    show ({ (W g β { s with durTerm := t, durVote := c }).point "value.set" with term := t, votedFor := c } : Node) = _
    rw [W_point]; rfl

@[usimp] theorem U_storeTermVote (s : Node) (t c : Nat) : (U β s).storeTermVote t c = U β (s.storeTermVote t c) :=
  W_storeTermVote (g := uncG) s t c

@[usimp] theorem W_setTerm (s : Node) (t : Nat) : (W g β s).setTerm t = W g β (s.setTerm t) := by
  unfold Node.setTerm
  have hp : True := trivial
  ucomm hp

@[usimp] theorem U_setTerm (s : Node) (t : Nat) : (U β s).setTerm t = U β (s.setTerm t) :=
  W_setTerm (g := uncG) s t

@[usimp] theorem U_setVotedFor (s : Node) (t c : Nat) : (U β s).setVotedFor t c = U β (s.setVotedFor t c) := by
  unfold Node.setVotedFor
  have hp : True := trivial
  ucomm hp

/-- `storage.appendEntry` after the assertion -/
def appendRaw (s : Node) (e : Entry) : Node :=
  { s with log := s.log.append e (s.rollAt.contains (e.index - 1) && s.log.lastSegPrev != e.index - 1),
           lastLogIndex := e.index, lastLogTerm := e.term }

theorem appendEntry_eq (s : Node) (e : Entry) :
    s.appendEntry e = appendRaw (s.assert (e.index == s.lastLogIndex + 1) "assert.appendEntry") e := rfl

theorem lobs_panic (s : Node) (site : String) : (s.panic site).log = s.log := by
  rw [panic_shape]

theorem lobs_assert (s : Node) (x : Bool) (site : String) : (s.assert x site).log = s.log := by
  rw [assert_shape]

theorem W_appendRaw (hg : Snoc g) (s : Node) (e : Entry) (h : KeepsLast g s.log) :
    appendRaw (W g β s) e = W g β (appendRaw s e) := by
  unfold appendRaw
  show ({ W g β s with log := (wLog g β s.log).append e (s.rollAt.contains (e.index - 1) &&
      (wLog g β s.log).lastSegPrev != e.index - 1), lastLogIndex := e.index, lastLogTerm := e.term } : Node) = _
  rw [wLog_append hg, show (wLog g β s.log).lastSegPrev = s.log.lastSegPrev from h]
  rfl

theorem W_appendEntry (hg : Snoc g) (s : Node) (e : Entry) (h : KeepsLast g s.log) :
    (W g β s).appendEntry e = W g β (s.appendEntry e) := by
  rw [appendEntry_eq, appendEntry_eq]
  show appendRaw ((W g β s).assert (e.index == s.lastLogIndex + 1) "assert.appendEntry") e = _
  rw [W_assert, W_appendRaw hg _ _ (by unfold KeepsLast; rw [lobs_assert]; exact h)]

@[usimp] theorem U_appendEntry (s : Node) (e : Entry) : (U β s).appendEntry e = U β (s.appendEntry e) :=
  W_appendEntry (g := uncG) uncG_snoc s e (uncG_keepsLast _)

theorem W_commitLog (s : Node) (n : Nat) (h : KeepsLast g s.log) : (W g β s).commitLog n = W g β (s.commitLog n) := by
  unfold Node.commitLog
  show ({ W g β s with log := (wLog g β s.log).commitN n } : Node).point _ = _
  rw [wLog_commitN _ _ h]
  show (W g β { s with log := s.log.commitN n }).point _ = _
  rw [W_point]

@[usimp] theorem U_commitLog (s : Node) (n : Nat) : (U β s).commitLog n = U β (s.commitLog n) :=
  W_commitLog (g := uncG) s n (uncG_keepsLast _)

@[usimp] theorem W_doClose (s : Node) (r : String) : (W g β s).doClose r = W g β (s.doClose r) := by
  unfold Node.doClose
  have hp : True := trivial
  ucomm hp

@[usimp] theorem W_changeConfigR (s : Node) (c : Config) : (W g β s).changeConfigR c = W g β (s.changeConfigR c) := by
  unfold Node.changeConfigR
  have hp : True := trivial
  ucomm hp

@[usimp] theorem U_changeConfigR (s : Node) (c : Config) : (U β s).changeConfigR c = U β (s.changeConfigR c) :=
  W_changeConfigR (g := uncG) s c

@[usimp] theorem W_commitConfig (s : Node) : (W g β s).commitConfig = W g β s.commitConfig := by
  unfold Node.commitConfig
  have hp : True := trivial
  ucomm hp

@[usimp] theorem U_revertConfig (s : Node) : (U β s).revertConfig = U β s.revertConfig := rfl

@[usimp] theorem W_stepDownIfNotVoter (s : Node) : (W g β s).stepDownIfNotVoter = W g β s.stepDownIfNotVoter := by
  unfold Node.stepDownIfNotVoter
  have hp : True := trivial
  ucomm hp

@[usimp] theorem W_closeIfRemoved (s : Node) : (W g β s).closeIfRemoved = W g β s.closeIfRemoved := by
  unfold Node.closeIfRemoved
  have hp : True := trivial
  ucomm hp

@[usimp] theorem W_afterConfigCommit (s : Node) : (W g β s).afterConfigCommit = W g β s.afterConfigCommit := by
  unfold Node.afterConfigCommit
  have hp : True := trivial
  ucomm hp

@[usimp] theorem W_setCommitIndexR_1 (s : Node) (i : Nat) : ((W g β s).setCommitIndexR i).1 = W g β (s.setCommitIndexR i).1 := by
  unfold Node.setCommitIndexR
  have hp : True := trivial
  ucomm hp

@[usimp] theorem U_setCommitIndexR_1 (s : Node) (i : Nat) : ((U β s).setCommitIndexR i).1 = U β (s.setCommitIndexR i).1 :=
  W_setCommitIndexR_1 (g := uncG) s i

@[usimp] theorem W_setCommitIndexR_2 (s : Node) (i : Nat) : ((W g β s).setCommitIndexR i).2 = (s.setCommitIndexR i).2 := by
  unfold Node.setCommitIndexR
  dsimp +instances only [uproj]
  split <;> rfl

@[usimp] theorem U_setCommitIndexR_2 (s : Node) (i : Nat) : ((U β s).setCommitIndexR i).2 = (s.setCommitIndexR i).2 :=
  W_setCommitIndexR_2 (g := uncG) s i

/-! ### the FSM goroutine: the log view is read from the compacted log — conditional on not failing -/

theorem drop_pad (p es : List Entry) (k : Nat) (h : p.length ≤ k) : (p ++ es).drop k = es.drop (k - p.length) := by
  rw [List.drop_append]
  have : p.drop k = [] := List.drop_eq_nil_of_le h
  rw [this, List.nil_append]

/-- **the first loop of `onApply` commutes with a map `F` of nodes** under which the log view the loop reads is the same
(`hview`, when the log still holds the entry after the last applied one), provided the loop does not panic -/
theorem _root_.Raft.Node.fsmApplyLogTo_comm (F : Node → Node) (s : Node) (n : Nat) (hfsm : ∀ x, (F x).fsm = x.fsm)
    (hpanic : ∀ x site, (F x).panic site = F (x.panic site)) (hwith : ∀ x f, (F x).withFsm f = F (x.withFsm f))
    (hview : ¬ s.fsm.index < s.log.prev → ¬ s.fsm.index < (F s).log.prev ∧
      (F s).log.entries.drop (s.fsm.index - (F s).log.prev) = s.log.entries.drop (s.fsm.index - s.log.prev))
    (hp : (s.fsmApplyLogTo n).panicked = none) : (F s).fsmApplyLogTo n = F (s.fsmApplyLogTo n) := by
  have hite : ∀ (c : Prop) [Decidable c] (a b : Node), (if c then F a else F b) = F (if c then a else b) :=
    fun c _ a b => (apply_ite F c a b).symm
  unfold Node.fsmApplyLogTo at hp ⊢
  rw [hfsm]
  by_cases h1 : n ≤ s.fsm.index
  · rw [if_pos h1, if_pos h1]
  · rw [if_neg h1] at hp ⊢
    rw [if_neg h1]
    by_cases h2 : s.fsm.index < s.log.prev
    · rw [if_pos h2] at hp
      exact absurd hp (panic_panicked_ne _ _)
    · obtain ⟨h2', he⟩ := hview h2
      rw [if_neg h2', if_neg h2]
      dsimp only
      rw [he]
      simp only [hpanic, hwith, hite, hfsm]

/-- **the second loop of `onApply` commutes with a map `F` of nodes** that leaves the state machine alone and commutes
with the three updates the loop makes -/
theorem _root_.Raft.Node.fsmApplyItems_comm (F : Node → Node) (hfsm : ∀ x, (F x).fsm = x.fsm)
    (hassert : ∀ x b site, (F x).assert b site = F (x.assert b site))
    (hwith : ∀ x f, (F x).withFsm f = F (x.withFsm f)) (hreply : ∀ x t r, (F x).reply t r = F (x.reply t r))
    (qs : List QItem) : ∀ s, (F s).fsmApplyItems qs = F (s.fsmApplyItems qs) := by
  induction qs with
  | nil => intro s; rfl
  | cons q qs ih =>
    intro s
    unfold Node.fsmApplyItems
    have hite : ∀ (c : Prop) [Decidable c] (a b : Node), (if c then F a else F b) = F (if c then a else b) :=
      fun c _ a b => (apply_ite F c a b).symm
    cases q.toEntry.config? <;> simp only [hfsm, hassert, hwith, hreply, hite, ih]

/-- **`fsmApply` commutes with a map `F` of nodes** that keeps the commit index and the end of the log, keeps the log
from starting above the commit index, and commutes with the two loops (the first only when it does not panic) -/
theorem _root_.Raft.Node.fsmApply_comm (F : Node → Node) (s : Node) (qs : List QItem) (hfsm : ∀ x, (F x).fsm = x.fsm)
    (hci : ∀ x, (F x).commitIndex = x.commitIndex) (hlast : (F s).log.last = s.log.last)
    (hprev : ¬ s.log.prev > s.commitIndex → ¬ (F s).log.prev > s.commitIndex)
    (hassert : ∀ x b site, (F x).assert b site = F (x.assert b site))
    (hlogTo : ∀ n, (s.fsmApplyLogTo n).panicked = none → (F s).fsmApplyLogTo n = F (s.fsmApplyLogTo n))
    (hitems : ∀ x, (F x).fsmApplyItems qs = F (x.fsmApplyItems qs))
    (hp : (s.fsmApply qs).panicked = none) : (F s).fsmApply qs = F (s.fsmApply qs) := by
  unfold Node.fsmApply at hp ⊢
  rw [hci, hlast]
  by_cases h1 : s.commitIndex > s.log.last
  · rw [if_pos h1] at hp; exact absurd hp (panic_panicked_ne _ _)
  · rw [if_neg h1] at hp ⊢
    rw [if_neg h1]
    by_cases h2 : s.log.prev > s.commitIndex
    · rw [if_pos h2] at hp; exact absurd hp (panic_panicked_ne _ _)
    · rw [if_neg h2] at hp ⊢
      rw [if_neg (hprev h2)]
      dsimp only at hp ⊢
      rw [hlogTo _ (by npk_core hp), hitems, hfsm, hci, hassert]

@[usimp] theorem W_fsmApplyLogTo (s : Node) (n : Nat) (hp : (s.fsmApplyLogTo n).panicked = none) :
    (W g β s).fsmApplyLogTo n = W g β (s.fsmApplyLogTo n) :=
  Node.fsmApplyLogTo_comm (W g β) s n (fun _ => rfl) W_panic W_withFsm
    (fun _ => ⟨Nat.not_lt_zero _, by
      show (pad β s.log.prev ++ s.log.entries).drop (s.fsm.index - 0) = _
      rw [Nat.sub_zero, drop_pad _ _ _ (by rw [pad_length]; omega), pad_length]⟩) hp

@[usimp] theorem W_fsmApplyItems (s : Node) (qs : List QItem) : (W g β s).fsmApplyItems qs = W g β (s.fsmApplyItems qs) :=
  Node.fsmApplyItems_comm (W g β) (fun _ => rfl) W_assert W_withFsm W_reply qs s

@[usimp] theorem W_fsmApply (s : Node) (qs : List QItem) (hp : (s.fsmApply qs).panicked = none) :
    (W g β s).fsmApply qs = W g β (s.fsmApply qs) :=
  Node.fsmApply_comm (W g β) s qs (fun _ => rfl) (fun _ => rfl) (wLog_last s.log) (fun _ => Nat.not_lt_zero _) W_assert
    (W_fsmApplyLogTo s) (fun x => W_fsmApplyItems x qs) hp

@[usimp] theorem U_fsmApply (s : Node) (qs : List QItem) (hp : (s.fsmApply qs).panicked = none) :
    (U β s).fsmApply qs = U β (s.fsmApply qs) :=
  W_fsmApply (g := uncG) s qs hp

@[usimp] theorem W_applyCommitted (s : Node) (hp : s.applyCommitted.panicked = none) :
    (W g β s).applyCommitted = W g β s.applyCommitted := by
  unfold Node.applyCommitted at hp ⊢
  exact W_fsmApply s [] hp

theorem find_map_zrr (l : List Repl) (id : Nat) :
    (l.map zrr).find? (fun r => r.id == id) = (l.find? (fun r => r.id == id)).map zrr := by
  induction l with
  | nil => rfl
  | cons a as ih =>
    rw [List.map_cons, List.find?_cons, List.find?_cons]
    show (match (a.id == id) with | true => some (zrr a) | false => _) = _
    cases h : (a.id == id) with
    | true => rfl
    | false => exact ih

theorem insertRepl_map_zrr (r : Repl) (l : List Repl) :
    insertRepl (zrr r) (l.map zrr) = (insertRepl r l).map zrr := by
  induction l with
  | nil => rfl
  | cons a as ih =>
    show insertRepl (zrr r) (zrr a :: as.map zrr) = _
    unfold insertRepl
    show (if r.id < a.id then _ else if r.id = a.id then _ else _) = _
    split
    · rfl
    · split
      · rfl
      · rw [ih]; rfl

theorem U_findRepl? (s : Node) (id : Nat) : (U β s).findRepl? id = (s.findRepl? id).map zrr :=
  find_map_zrr s.ldr.repls id

theorem U_setRepl (s : Node) (r : Repl) : (U β s).setRepl (zrr r) = U β (s.setRepl r) := by
  unfold Node.setRepl
  show ({ U β s with ldr := { (zr s.ldr) with repls := insertRepl (zrr r) (s.ldr.repls.map zrr) } } : Node) = _
  rw [insertRepl_map_zrr]
  rfl

/-- what `beginFinishedRounds` does to one replication status -/
def bfr (lli : Nat) (r : Repl) : Repl :=
  match r.round with
  | some rd => if rd.finished
      then { r with round := some { rd with ordinal := rd.ordinal + 1, lastIndex := lli,
                                            finished := false, aged := false } }
      else r
  | none => r

theorem beginFinishedRounds_eq (s : Node) :
    s.beginFinishedRounds = s.withLdr { s.ldr with repls := s.ldr.repls.map (bfr s.lastLogIndex) } := rfl

theorem bfr_zrr (lli : Nat) (r : Repl) : bfr lli (zrr r) = zrr (bfr lli r) := by
  unfold bfr
  show (match r.round with | some rd => _ | none => _) = _
  cases r.round with
  | none => rfl
  | some rd =>
    dsimp only
    split <;> rfl

/-- the two `match … with | some | none` shapes the handlers use on the result of `findRepl?` -/
theorem match_sn_zrr {α : Sort _} (o : Option Repl) (f : Repl → α) (g : Unit → α) :
    Node.checkConfigActions.match_1 (fun _ => α) (o.map zrr) f g =
      Node.checkConfigActions.match_1 (fun _ => α) o (fun r => f (zrr r)) g := by
  cases o <;> rfl

theorem match_ns_zrr {α : Sort _} (o : Option Repl) (g : Unit → α) (f : Repl → α) :
    Node.changeConfigL.match_1 (fun _ => α) (o.map zrr) g f =
      Node.changeConfigL.match_1 (fun _ => α) o g (fun r => f (zrr r)) := by
  cases o <;> rfl

@[usimp] theorem U_beginFinishedRounds (s : Node) : (U β s).beginFinishedRounds = U β s.beginFinishedRounds := by
  rw [beginFinishedRounds_eq, beginFinishedRounds_eq]
  have hm : (s.ldr.repls.map zrr).map (bfr s.lastLogIndex) = (s.ldr.repls.map (bfr s.lastLogIndex)).map zrr := by
    rw [List.map_map, List.map_map]
    exact List.map_congr_left (fun r _ => bfr_zrr _ r)
  show ({ U β s with ldr := { (zr s.ldr) with repls := (s.ldr.repls.map zrr).map (bfr s.lastLogIndex) } } : Node) = _
  rw [hm]
  rfl

/-- `addReplication`, unless the view of the log for the new replication cannot be built -/
@[usimp] theorem U_addReplication (s : Node) (n : CNode) (hp : (s.addReplication n).panicked = none) :
    (U β s).addReplication n = U β (s.addReplication n) := by
  unfold Node.addReplication at hp ⊢
  dsimp only at hp ⊢
  generalize hs1 : s.assert (n.id != s.nid) "assert.addReplication" = s1 at hp
  have e1 : (U β s).assert (n.id != (U β s).nid) "assert.addReplication" = U β s1 := by rw [← hs1]; exact U_assert s _ _
  rw [e1]
  by_cases hv : s1.log.viewOk s1.ldr.removeLTE s1.lastLogIndex = true
  · rw [if_pos hv] at hp ⊢
    have hv' : (U β s1).log.viewOk (U β s1).ldr.removeLTE (U β s1).lastLogIndex = true := by
      unfold NLog.viewOk at hv ⊢
      show (!(decide (0 > s1.lastLogIndex) || decide (0 < 0))) = true
      simp
    rw [if_pos hv']
    exact U_setRepl s1 { id := n.id, node := n, removeLTE := s1.ldr.removeLTE }
  · rw [if_neg hv] at hp
    have : ((s1.panic "nilView").setRepl { id := n.id, node := n, removeLTE := (s1.panic "nilView").ldr.removeLTE }).panicked =
        (s1.panic "nilView").panicked := rfl
    rw [this] at hp
    exact absurd hp (panic_panicked_ne _ _)

@[usimp] theorem U_notifyFlr (s : Node) (hp : s.notifyFlr.panicked = none) : (U β s).notifyFlr = U β s.notifyFlr := by
  unfold Node.notifyFlr at hp ⊢
  have he : (U β s).ldr.repls.isEmpty = s.ldr.repls.isEmpty := by
    show (s.ldr.repls.map zrr).isEmpty = _
    cases s.ldr.repls <;> rfl
  rw [he]
  by_cases h0 : s.ldr.repls.isEmpty = true
  · rw [if_pos h0, if_pos h0]
  · rw [if_neg h0] at hp ⊢
    rw [if_neg h0]
    by_cases hv : s.log.viewOk s.ldr.removeLTE s.lastLogIndex = true
    · rw [if_pos hv]
      have hv' : (U β s).log.viewOk (U β s).ldr.removeLTE (U β s).lastLogIndex = true := by
        unfold NLog.viewOk
        show (!(decide (0 > s.lastLogIndex) || decide (0 < 0))) = true
        simp
      rw [if_pos hv']
    · rw [if_neg hv] at hp
      exact absurd hp (panic_panicked_ne _ _)

@[usimp] theorem U_replOrder (s : Node) : (U β s).replOrder = s.replOrder := by
  unfold Node.replOrder
  have e : (U β s).ldr.repls.map (fun r => r.id) = s.ldr.repls.map (fun r => r.id) := by
    show (s.ldr.repls.map zrr).map _ = _
    rw [List.map_map]; rfl
  dsimp only
  rw [e]
  rfl

@[usimp] theorem U_findRepl_isNone (s : Node) (id : Nat) : ((U β s).findRepl? id).isNone = (s.findRepl? id).isNone := by
  rw [U_findRepl?]; cases s.findRepl? id <;> rfl

@[usimp] theorem U_findRepl_matchIndex (s : Node) (id : Nat) :
    ((U β s).findRepl? id).map (fun r => r.matchIndex) = (s.findRepl? id).map (fun r => r.matchIndex) := by
  rw [U_findRepl?]; cases s.findRepl? id <;> rfl

@[usimp] theorem U_voterMatches (s : Node) : (U β s).voterMatches = s.voterMatches := by
  unfold Node.voterMatches
  dsimp +instances only [uproj]
  apply List.map_congr_left
  intro n _
  split
  · rfl
  · rw [U_findRepl_matchIndex]

@[usimp] theorem U_majorityMatchIndex (s : Node) : (U β s).majorityMatchIndex = s.majorityMatchIndex := by
  unfold Node.majorityMatchIndex
  dsimp +instances only [uproj]
  simp only [U_voterMatches, U_findRepl_isNone]

@[usimp] theorem U_transferReady (s : Node) (id : Nat) : (U β s).transferReady id = s.transferReady id := by
  unfold Node.transferReady
  rw [U_findRepl?]
  cases s.findRepl? id <;> rfl

@[usimp] theorem U_tryTransferTarget (s : Node) : (U β s).tryTransferTarget = s.tryTransferTarget := by
  unfold Node.tryTransferTarget
  dsimp +instances only [uproj]
  rw [U_replOrder]
  have ht : (U β s).transferReady = s.transferReady := funext (U_transferReady s)
  rw [ht, U_findRepl?]
  cases s.findRepl? s.ldr.transfer.target <;> rfl

@[usimp] theorem U_applyCommittedL (s : Node) (hp : s.applyCommittedL.panicked = none) :
    (U β s).applyCommittedL = U β s.applyCommittedL := by
  unfold Node.applyCommittedL at hp ⊢
  dsimp only at hp ⊢
  ucomm hp

theorem foldl_sticky {α : Type} (f : Node → α → Node) (hst : ∀ s x, (f s x).panicked = none → s.panicked = none)
    (xs : List α) : ∀ s, (xs.foldl f s).panicked = none → s.panicked = none := by
  induction xs with
  | nil => intro s h; exact h
  | cons x xs ih => intro s h; exact hst s x (ih _ h)

theorem foldl_U {α : Type} (f : Node → α → Node)
    (hf : ∀ s x, (f s x).panicked = none → f (U β s) x = U β (f s x))
    (hst : ∀ s x, (f s x).panicked = none → s.panicked = none)
    (xs : List α) : ∀ s, (xs.foldl f s).panicked = none → xs.foldl f (U β s) = U β (xs.foldl f s) := by
  induction xs with
  | nil => intro s _; rfl
  | cons x xs ih =>
    intro s h
    have h1 := foldl_sticky f hst xs _ h
    simp only [List.foldl_cons]
    rw [hf s x h1]
    exact ih _ h

theorem startRound_zrr (lli action : Nat) (st : Repl) : startRound lli action (zrr st) = zrr (startRound lli action st) := by
  unfold startRound
  split
  · rfl
  · show (match st.round with | none => _ | some _ => _) = _
    cases st.round <;> rfl

theorem finishRound_zrr (lli : Nat) (st : Repl) (rd : Round) :
    finishRound lli (zrr st) rd = (zrr (finishRound lli st rd).1, (finishRound lli st rd).2) := by
  unfold finishRound
  simp only [show (zrr st).matchIndex = st.matchIndex from rfl]
  repeat' split
  all_goals rfl

theorem roundStep_zrr (lli action : Nat) (st : Repl) :
    roundStep lli action (zrr st) = (zrr (roundStep lli action st).1, (roundStep lli action st).2) := by
  unfold roundStep
  dsimp only
  rw [startRound_zrr]
  show (match (startRound lli action st).round with | none => _ | some rd => _) = _
  cases h : (startRound lli action st).round with
  | none => rfl
  | some rd => exact finishRound_zrr lli _ rd

theorem actionConfig_zrr (idx : Nat) (config : Config) (n : CNode) (action : Nat) (st : Repl) :
    actionConfig idx config n action (zrr st) = actionConfig idx config n action st := rfl

theorem filter_map_zrr (l : List Repl) (p : Nat → Bool) :
    (l.map zrr).filter (fun r => p r.id) = (l.filter (fun r => p r.id)).map zrr := by
  rw [List.filter_map]; rfl

theorem U_applyHead (s : Node) (hp : (applyHead s).panicked = none) : applyHead (U β s) = U β (applyHead s) := by
  unfold applyHead at hp ⊢
  dsimp only [U_ldr_queue]
  cases hq : s.ldr.queue with
  | nil => rfl
  | cons q qs =>
    rw [hq] at hp
    dsimp only at hp ⊢
    by_cases ht : (!isLogEntryTyp q.typ) = true
    · rw [if_pos ht] at hp
      rw [if_pos ht, if_pos ht]
      exact U_applyCommittedL s hp
    · rw [if_neg ht, if_neg ht]

theorem U_storeTail (n li : Nat) (s : Node)
    (ihMC : ∀ s, (onMajorityCommit n s).panicked = none → onMajorityCommit n (U β s) = U β (onMajorityCommit n s))
    (hp : (storeTail n li s).panicked = none) : storeTail n li (U β s) = U β (storeTail n li s) := by
  unfold storeTail at hp ⊢
  by_cases hl : s.lastLogIndex > li
  · rw [if_pos hl] at hp
    rw [if_pos hl, if_pos (show (U β s).lastLogIndex > li from hl)]
    dsimp only at hp ⊢
    have h3 : s.beginFinishedRounds.notifyFlr.panicked = none :=
      npk (k := fun x => if x.ldr.numVoters = 1 ∧ x.ldr.node.voter then onMajorityCommit n x else x)
        (fun π x => by pcomm) hp
    rw [U_beginFinishedRounds, U_notifyFlr _ h3]
    generalize s.beginFinishedRounds.notifyFlr = s3 at hp ⊢
    by_cases hv : s3.ldr.numVoters = 1 ∧ s3.ldr.node.voter
    · rw [if_pos hv] at hp
      rw [if_pos hv, if_pos (show (U β s3).ldr.numVoters = 1 ∧ (U β s3).ldr.node.voter from hv)]
      exact ihMC s3 hp
    · rw [if_neg hv, if_neg (show ¬ ((U β s3).ldr.numVoters = 1 ∧ (U β s3).ldr.node.voter) from hv)]
  · rw [if_neg hl, if_neg (show ¬ (U β s).lastLogIndex > li from hl)]

theorem U_storeQueued (n : Nat) (s : Node) (q : QItem)
    (ihCL : ∀ s c, (changeConfigL n s c).panicked = none → changeConfigL n (U β s) c = U β (changeConfigL n s c))
    (hp : (storeQueued n s q).panicked = none) : storeQueued n (U β s) q = U β (storeQueued n s q) := by
  unfold storeQueued at hp ⊢
  by_cases hl : isLogEntryTyp q.typ = true
  · rw [if_pos hl] at hp
    rw [if_pos hl, if_pos hl]
    dsimp only at hp ⊢
    rw [U_appendEntry]
    by_cases hc : q.typ = etConfig
    · rw [if_pos hc] at hp
      rw [if_pos hc, if_pos hc]
      cases hd : q.toEntry.config? with
      | some c => rw [hd] at hp; exact ihCL _ c hp
      | none => exact U_panic _ _
    · rw [if_neg hc, if_neg hc]
  · rw [if_neg hl, if_neg hl]

theorem U_storeItem (n : Nat) (s : Node) (q : QItem)
    (ihCL : ∀ s c, (changeConfigL n s c).panicked = none → changeConfigL n (U β s) c = U β (changeConfigL n s c))
    (hp : (storeItem n s q).panicked = none) : storeItem n (U β s) q = U β (storeItem n s q) := by
  unfold storeItem at hp ⊢
  by_cases ha : s.ldr.transfer.active = true
  · rw [if_pos ha, if_pos (show (U β s).ldr.transfer.active = true from ha)]
    exact U_reply s _ _
  · rw [if_neg ha] at hp
    rw [if_neg ha, if_neg (show ¬ (U β s).ldr.transfer.active = true from ha)]
    by_cases hv : (!s.ldr.node.voter) = true
    · rw [if_pos hv, if_pos (show (!(U β s).ldr.node.voter) = true from hv)]
      show (if s.configs.latest.has s.nid = true then (U β s).reply _ _ else (U β s).reply _ _) = _
      rw [U_reply, U_reply, ite_U]
    · rw [if_neg hv] at hp
      rw [if_neg hv, if_neg (show ¬ (!(U β s).ldr.node.voter) = true from hv)]
      exact U_storeQueued n (s.withLdr { s.ldr with queue := s.ldr.queue ++ [_] }) _ ihCL hp

theorem U_postponedActions (n : Nat) (ready committed : Bool) (s : Node)
    (ihCAs : ∀ s t c, (checkConfigActions n s t c).panicked = none →
      checkConfigActions n (U β s) t c = U β (checkConfigActions n s t c))
    (hp : (postponedActions n ready committed s).panicked = none) :
    postponedActions n ready committed (U β s) = U β (postponedActions n ready committed s) := by
  unfold postponedActions at hp ⊢
  by_cases h : ready = true ∧ (!committed) = true ∧ s.role = .leader
  · rw [if_pos h] at hp
    rw [if_pos h, if_pos (show ready = true ∧ (!committed) = true ∧ (U β s).role = .leader from h)]
    exact ihCAs s _ _ hp
  · rw [if_neg h, if_neg (show ¬ (ready = true ∧ (!committed) = true ∧ (U β s).role = .leader) from h)]

theorem U_configCommitted (n : Nat) (s : Node)
    (ihCAs : ∀ s t c, (checkConfigActions n s t c).panicked = none →
      checkConfigActions n (U β s) t c = U β (checkConfigActions n s t c))
    (hp : (configCommitted n s).panicked = none) : configCommitted n (U β s) = U β (configCommitted n s) := by
  unfold configCommitted at hp ⊢
  by_cases h : s.configs.isStable = true
  · rw [if_pos h, if_pos (show (U β s).configs.isStable = true from h)]
    dsimp only
    rw [show (U β s).ldr.waitStable = s.ldr.waitStable from rfl, Node.foldl_comm (U β) _ (fun x t => U_reply x t _)]
    rfl
  · rw [if_neg h] at hp
    rw [if_neg h, if_neg (show ¬ (U β s).configs.isStable = true from h)]
    exact ihCAs s _ _ hp

theorem U_refreshRepl (x : Node) (nd : CNode) (hx : (refreshRepl x nd).panicked = none) :
    refreshRepl (U β x) nd = U β (refreshRepl x nd) := by
  unfold refreshRepl at hx ⊢
  by_cases hid : nd.id = x.nid
  · rw [if_pos hid, if_pos (show nd.id = (U β x).nid from hid)]
  · rw [if_neg hid] at hx ⊢
    rw [if_neg (show ¬ nd.id = (U β x).nid from hid), U_findRepl?]
    cases hf : x.findRepl? nd.id with
    | none =>
      rw [hf] at hx
      exact U_addReplication x nd hx
    | some r => exact U_setRepl x { r with node := nd }

theorem refreshRepl_sticky (x : Node) (nd : CNode) (hx : (refreshRepl x nd).panicked = none) : x.panicked = none :=
  npk (k := fun y => refreshRepl y nd) (fun π y => (fail π).on_refreshRepl y nd) hx

theorem actOnRepl_sticky (n t : Nat) (cf : Config) (y : Node) (id : Nat) (hy : (actOnRepl n t cf y id).panicked = none) :
    y.panicked = none :=
  npk (k := fun z => actOnRepl n t cf z id)
    (fun π z => (fail π).on_actOnRepl n t cf z id (fun s t c id => P_checkConfigAction n s t c id)) hy

theorem U_actOnRepl (n t : Nat) (cf : Config) (y : Node) (id : Nat)
    (ihCA : ∀ s t c id, (checkConfigAction n s t c id).panicked = none →
      checkConfigAction n (U β s) t c id = U β (checkConfigAction n s t c id))
    (hy : (actOnRepl n t cf y id).panicked = none) : actOnRepl n t cf (U β y) id = U β (actOnRepl n t cf y id) := by
  unfold actOnRepl at hy ⊢
  rw [U_findRepl?]
  cases hf : y.findRepl? id with
  | none => rfl
  | some st =>
    rw [hf] at hy
    exact ihCA y _ _ id hy

theorem U_ownAction (n : Nat) (s : Node) (t : Nat) (c : Config)
    (ihDC : ∀ s t c, (doChangeConfig n s t c).panicked = none → doChangeConfig n (U β s) t c = U β (doChangeConfig n s t c))
    (hp : (ownAction n s t c).1.panicked = none) :
    ownAction n (U β s) t c = (U β (ownAction n s t c).1, (ownAction n s t c).2) := by
  unfold ownAction at hp ⊢
  dsimp +instances only [uproj] at hp ⊢
  by_cases h1 : s.canChangeConfig = true ∧ (c.get s.nid).action ≠ actNone
  · rw [if_pos h1] at hp
    rw [if_pos h1, if_pos h1]
    by_cases h2 : (c.get s.nid).action = actDemote
    · rw [if_pos h2] at hp
      rw [if_pos h2, if_pos h2, ihDC s t _ hp]
    · rw [if_neg h2] at hp
      rw [if_neg h2, if_neg h2]
      by_cases h3 : (c.get s.nid).action = actRemove ∨ (c.get s.nid).action = actForceRemove
      · rw [if_pos h3] at hp
        rw [if_pos h3, if_pos h3, ihDC s t _ hp]
      · rw [if_neg h3, if_neg h3, U_panic]
  · rw [if_neg h1, if_neg h1]

theorem block_U : ∀ fuel : Nat,
    (∀ s b, (storeEntry fuel s b).panicked = none → storeEntry fuel (U β s) b = U β (storeEntry fuel s b)) ∧
    (∀ s b, (storeItems fuel s b).panicked = none → storeItems fuel (U β s) b = U β (storeItems fuel s b)) ∧
    (∀ s c, (changeConfigL fuel s c).panicked = none → changeConfigL fuel (U β s) c = U β (changeConfigL fuel s c)) ∧
    (∀ s t c, (doChangeConfig fuel s t c).panicked = none →
      doChangeConfig fuel (U β s) t c = U β (doChangeConfig fuel s t c)) ∧
    (∀ s t c, (checkConfigActions fuel s t c).panicked = none →
      checkConfigActions fuel (U β s) t c = U β (checkConfigActions fuel s t c)) ∧
    (∀ s t c id, (checkConfigAction fuel s t c id).panicked = none →
      checkConfigAction fuel (U β s) t c id = U β (checkConfigAction fuel s t c id)) ∧
    (∀ s i, (setCommitIndexL fuel s i).panicked = none → setCommitIndexL fuel (U β s) i = U β (setCommitIndexL fuel s i)) ∧
    (∀ s, (onMajorityCommit fuel s).panicked = none → onMajorityCommit fuel (U β s) = U β (onMajorityCommit fuel s)) := by
  intro fuel
  induction fuel with
  | zero =>
    refine ⟨?_, ?_, ?_, ?_, ?_, ?_, ?_, ?_⟩
    · intro s b hp; unfold storeEntry at hp ⊢; ucomm hp
    · intro s b hp; cases b with
      | nil => unfold storeItems; rfl
      | cons q qs => unfold storeItems at hp ⊢; ucomm hp
    · intro s c hp; unfold changeConfigL at hp ⊢; ucomm hp
    · intro s t c hp; unfold doChangeConfig at hp ⊢; ucomm hp
    · intro s t c hp; unfold checkConfigActions at hp ⊢; ucomm hp
    · intro s t c id hp; unfold checkConfigAction at hp ⊢; ucomm hp
    · intro s i hp; unfold setCommitIndexL at hp ⊢; ucomm hp
    · intro s hp; unfold onMajorityCommit at hp ⊢; ucomm hp
  | succ n ih =>
    obtain ⟨ihSE, ihSI, ihCL, ihDC, ihCAs, ihCA, ihSC, ihMC⟩ := ih
    refine ⟨?_, ?_, ?_, ?_, ?_, ?_, ?_, ?_⟩
    · intro s b hp
      rw [storeEntry_succ] at hp
      rw [storeEntry_succ, storeEntry_succ]
      have h2 : (applyHead (storeItems n s b)).panicked = none :=
        npk (k := storeTail n s.lastLogIndex) (fun π x => P_storeTail n _ x) hp
      have h1 : (storeItems n s b).panicked = none := npk (k := applyHead) (fun π x => P_applyHead x) h2
      show storeTail n s.lastLogIndex (applyHead (storeItems n (U β s) b)) = _
      rw [ihSI s b h1, U_applyHead _ h2]
      exact U_storeTail n _ _ ihMC hp
    · intro s b hp
      cases b with
      | nil => unfold storeItems; rfl
      | cons q qs =>
        rw [storeItems_succ] at hp
        have h1 : (storeItem n s q).panicked = none := npk (k := fun x => storeItems n x qs) (fun π x => P_storeItems n x qs) hp
        rw [storeItems_succ, storeItems_succ, U_storeItem n s q ihCL h1]
        exact ihSI _ qs hp
    · intro s c hp
      rw [changeConfigL_succ] at hp
      rw [changeConfigL_succ, changeConfigL_succ]
      dsimp only at hp ⊢
      -- the state before the replications are added / refreshed
      have e1 : (((U β s).withLdr { (U β s).ldr with node := c.get (U β s).nid, numVoters := c.numVoters }).changeConfigR c) =
          U β ((s.withLdr { s.ldr with node := c.get s.nid, numVoters := c.numVoters }).changeConfigR c) :=
        U_changeConfigR (s.withLdr { s.ldr with node := c.get s.nid, numVoters := c.numVoters }) c
      rw [e1]
      generalize (s.withLdr { s.ldr with node := c.get s.nid, numVoters := c.numVoters }).changeConfigR c = s1 at hp
      have e2 : (U β s1).withLdr { (U β s1).ldr with repls := (U β s1).ldr.repls.filter (fun r => c.has r.id) } =
          U β (s1.withLdr { s1.ldr with repls := s1.ldr.repls.filter (fun r => c.has r.id) }) := by
        show ({ U β s1 with ldr := { (zr s1.ldr) with repls := (s1.ldr.repls.map zrr).filter (fun r => c.has r.id) } } : Node) = _
        rw [filter_map_zrr s1.ldr.repls (fun i => c.has i)]
        rfl
      rw [e2]
      generalize s1.withLdr { s1.ldr with repls := s1.ldr.repls.filter (fun r => c.has r.id) } = s2 at hp
      have hp2 := npk (k := fun x => checkConfigActions n x 0 x.configs.latest)
        (fun π x => P_checkConfigActions n x 0 _) hp
      rw [foldl_U (β := β) refreshRepl U_refreshRepl refreshRepl_sticky c.nodes s2 hp2]
      exact ihCAs _ 0 _ hp
    · intro s t c hp; unfold doChangeConfig at hp ⊢; ucomm hp [ihSE]
    · intro s t c hp
      rw [checkConfigActions_succ] at hp
      have h1 : (ownAction n s t c).1.panicked = none :=
        foldl_sticky _ (actOnRepl_sticky n t _) _ (ownAction n s t c).1.popOrder hp
      rw [checkConfigActions_succ, checkConfigActions_succ, U_ownAction n s t c ihDC h1]
      dsimp only
      rw [U_replOrder, U_popOrder]
      exact foldl_U (β := β) _ (fun y id hy => U_actOnRepl n t _ y id ihCA hy) (actOnRepl_sticky n t _) _ _ hp
    · -- checkConfigAction
      intro s t c id hp
      unfold checkConfigAction at hp ⊢
      rw [U_findRepl?]
      cases hf : s.findRepl? id with
      | none => rfl
      | some st =>
        rw [hf] at hp
        dsimp only [Option.map] at hp ⊢
        rw [roundStep_zrr]
        dsimp only at hp ⊢
        by_cases ha : (c.get id).nextAction = actNone
        · rw [if_pos ha, if_pos ha]
        · rw [if_neg ha] at hp ⊢
          rw [if_neg ha, U_setRepl]
          simp only [actionConfig_zrr]
          ucomm hp [ihDC]
    · intro s i hp
      rw [setCommitIndexL_succ] at hp
      rw [setCommitIndexL_succ, setCommitIndexL_succ]
      dsimp only at hp ⊢
      rw [U_commitLog, U_setCommitIndexR_1, U_setCommitIndexR_2]
      dsimp +instances only [U_commitIndex, U_ldr_startIndex]
      by_cases hc : ((s.commitLog i).setCommitIndexR i).2 = true
      · rw [if_pos hc] at hp
        rw [if_pos hc, if_pos hc, U_postponedActions n _ _ _ ihCAs
          (npk (k := configCommitted n) (fun π x => P_configCommitted n x) hp)]
        exact U_configCommitted n _ ihCAs hp
      · rw [if_neg hc] at hp
        rw [if_neg hc, if_neg hc]
        exact U_postponedActions n _ _ _ ihCAs hp
    · intro s hp
      unfold onMajorityCommit at hp ⊢
      dsimp only at hp ⊢
      rw [U_majorityMatchIndex]
      by_cases hm : s.majorityMatchIndex.2 = true
      · simp only [if_pos hm] at hp ⊢
        dsimp +instances only [uproj]
        by_cases hc : s.majorityMatchIndex.1 > s.commitIndex ∧ s.majorityMatchIndex.1 ≥ s.ldr.startIndex
        · simp only [if_pos hc] at hp ⊢
          have h1 : (setCommitIndexL n s s.majorityMatchIndex.1).applyCommittedL.panicked = none :=
            npk (k := fun x => x.notifyFlr) (fun π x => P_notifyFlr x) hp
          have h2 : (setCommitIndexL n s s.majorityMatchIndex.1).panicked = none :=
            npk (k := fun x => x.applyCommittedL) (fun π x => P_applyCommittedL x) h1
          rw [ihSC s _ h2, U_applyCommittedL _ h1, U_notifyFlr _ hp]
        · simp only [if_neg hc]
      · simp only [if_neg hm] at hp
        have := npk (k := fun x => if s.majorityMatchIndex.1 > x.commitIndex ∧ s.majorityMatchIndex.1 ≥ x.ldr.startIndex
            then ((setCommitIndexL n x s.majorityMatchIndex.1).applyCommittedL).notifyFlr else x)
          (fun π x => by pcomm) hp
        exact absurd this (panic_panicked_ne _ _)

@[usimp] theorem U_storeEntry (f : Nat) (s : Node) (bt : List QItem) (hp : (storeEntry f s bt).panicked = none) :
    storeEntry f (U β s) bt = U β (storeEntry f s bt) := (block_U f).1 s bt hp
@[usimp] theorem U_doChangeConfig (f : Nat) (s : Node) (t : Nat) (c : Config) (hp : (doChangeConfig f s t c).panicked = none) :
    doChangeConfig f (U β s) t c = U β (doChangeConfig f s t c) := (block_U f).2.2.2.1 s t c hp
@[usimp] theorem U_checkConfigActions (f : Nat) (s : Node) (t : Nat) (c : Config)
    (hp : (checkConfigActions f s t c).panicked = none) :
    checkConfigActions f (U β s) t c = U β (checkConfigActions f s t c) := (block_U f).2.2.2.2.1 s t c hp
@[usimp] theorem U_checkConfigAction (f : Nat) (s : Node) (t : Nat) (c : Config) (id : Nat)
    (hp : (checkConfigAction f s t c id).panicked = none) :
    checkConfigAction f (U β s) t c id = U β (checkConfigAction f s t c id) := (block_U f).2.2.2.2.2.1 s t c id hp
@[usimp] theorem U_onMajorityCommit (f : Nat) (s : Node) (hp : (onMajorityCommit f s).panicked = none) :
    onMajorityCommit f (U β s) = U β (onMajorityCommit f s) := (block_U f).2.2.2.2.2.2.2 s hp

end SnapRelU
end Raft
