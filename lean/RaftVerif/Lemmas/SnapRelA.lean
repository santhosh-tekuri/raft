/-
Snapshot erasure: append requests, crash points, and the frame of the snapshot data.

An append request reads `snapIndex`: the consistency check is skipped when `prevLogIndex ≤ snapIndex` and entries
at or below `snapIndex` are not looked at. The erased node (`snapIndex = 0`) performs the check and the comparison —
with the same outcome when the request agrees with the log on what the snapshot covers (`AppAgree`; in the cluster
this is commit safety: `C02Sys.reqok`). Under `AppAgree` the step commutes with `E` (`append_step_E`).
For an update that keeps the node's own snapshot index (`E` with that index, the recording of a failure) the handler
commutes without any condition on the request (`Blind.on_onAppendEntries`).
-/
import RaftVerif.Lemmas.SnapRel
import RaftVerif.Lemmas.CommitRel
import RaftVerif.Lemmas.ShapeAppend

namespace Raft
namespace SnapRel
open Node LogRel CommitRel Blind

theorem E_resolveConflict (s : Node) (ne : Entry) (pt : Nat) :
    (E σ s).resolveConflict ne pt = E σ (s.resolveConflict ne pt) := (erase σ).on_resolveConflict s ne pt
theorem E_appendEntry (s : Node) (e : Entry) : (E σ s).appendEntry e = E σ (s.appendEntry e) :=
  (erase σ).on_appendEntry s e
theorem E_changeConfigR (s : Node) (c : Config) : (E σ s).changeConfigR c = E σ (s.changeConfigR c) :=
  (erase σ).on_changeConfigR s c
theorem E_rpcDone (s : Node) (a b : Bool) : (E σ s).rpcDone a b = E σ (s.rpcDone a b) := (erase σ).on_rpcDone s a b

theorem E_checkBody (s : Node) (q : AppendReq) : checkBody (E σ s) q = E σ (checkBody s q) := (erase σ).on_checkBody s q


def El (σ : SnapData) (st : AppLoop) : AppLoop := { st with s := E σ st.s }

def Present (s : Node) (ne : Entry) : Prop := ne.index ≤ s.lastLogIndex ∧ s.entryTerm? ne.index = some ne.term

theorem snapIndex_panic (s : Node) (site : String) : (s.panic site).snapIndex = s.snapIndex := by
  rw [panic_shape]

theorem snapIndex_resolveConflict (s : Node) (ne : Entry) (pt : Nat) :
    (s.resolveConflict ne pt).snapIndex = s.snapIndex :=
  (C02.resolveConflict_log s ne pt).1.1

theorem snapIndex_appendEntry (s : Node) (e : Entry) : (s.appendEntry e).snapIndex = s.snapIndex := by
  rw [appendEntry_shape]

theorem snapIndex_changeConfigR (s : Node) (c : Config) : (s.changeConfigR c).snapIndex = s.snapIndex := by
  rw [changeConfigR_shape]

/-- the test of `appendLoop`: the log holds `ne` already -/
abbrev pres (s : Node) (ne : Entry) : Bool := decide (ne.index ≤ s.lastLogIndex) && s.entryTerm? ne.index == some ne.term

/-- **the entry-consuming loop of `onAppendEntries` commutes with a map `F` of nodes** under a side condition `C s es`
(on the node and on the entries still to come) that the loop maintains: an entry the snapshot covers is skipped by `F s`
as well, or found in its log (`hcov`); an entry beyond it is looked at and seen alike (`hlook`); storing it commutes (`hstore`). -/
theorem appendLoop_comm (F : Node → Node) (C : Node → List Entry → Prop)
    (hnil : ∀ s es, C s es → C s [])
    (hnext : ∀ s ne rest, C s (ne :: rest) → C s rest)
    /- an entry the snapshot covers: `F s` skips it too, or finds it in its log -/
    (hcov : ∀ s ne rest, C s (ne :: rest) → ne.index ≤ s.snapIndex → ne.index ≤ (F s).snapIndex ∨ pres (F s) ne = true)
    /- an entry beyond the snapshot: `F s` looks at it as well, and sees what `s` sees -/
    (hlook : ∀ s ne rest, C s (ne :: rest) → ¬ ne.index ≤ s.snapIndex →
      ¬ ne.index ≤ (F s).snapIndex ∧ pres (F s) ne = pres s ne)
    (hstore : ∀ s ne rest pt, C s (ne :: rest) → s.snapIndex < ne.index → ¬ pres s ne = true →
      ((F s).resolveConflict ne pt).appendEntry ne = F ((s.resolveConflict ne pt).appendEntry ne) ∧
      C ((s.resolveConflict ne pt).appendEntry ne) rest)
    (hcc : ∀ s c rest, C s rest → (F s).changeConfigR c = F (s.changeConfigR c) ∧ C (s.changeConfigR c) rest)
    (es : List Entry) : ∀ (st : AppLoop), C st.s es →
      appendLoop { st with s := F st.s } es = { appendLoop st es with s := F (appendLoop st es).s } ∧
      C (appendLoop st es).s [] := by
  induction es with
  | nil => intro st hc; exact ⟨rfl, hc⟩
  | cons ne rest ih =>
    intro st hc
    unfold appendLoop
    by_cases herr : st.err = true
    · rw [if_pos herr, if_pos (show ({ st with s := F st.s } : AppLoop).err = true from herr)]
      exact ⟨rfl, hnil _ _ hc⟩
    · rw [if_neg herr, if_neg (show ¬ ({ st with s := F st.s } : AppLoop).err = true from herr)]
      dsimp only
      have skip := ih { st with index := ne.index, term := ne.term } (hnext _ _ _ hc)
      by_cases hsn : ne.index ≤ st.s.snapIndex
      · rw [if_pos hsn]
        rcases hcov _ _ _ hc hsn with h | h
        · rw [if_pos h]; exact skip
        · by_cases h' : ne.index ≤ (F st.s).snapIndex
          · rw [if_pos h']; exact skip
          · rw [if_neg h', if_pos (show pres (F st.s) ne = true from h)]; exact skip
      · obtain ⟨l1, l2⟩ := hlook _ _ _ hc hsn
        rw [if_neg hsn, if_neg l1]
        rw [show (decide (ne.index ≤ (F st.s).lastLogIndex) && (F st.s).entryTerm? ne.index == some ne.term) =
          pres st.s ne from l2]
        by_cases hpres : pres st.s ne = true
        · rw [if_pos hpres, if_pos hpres]; exact skip
        · rw [if_neg hpres, if_neg hpres]
          obtain ⟨e1, c1⟩ := hstore st.s ne rest st.term hc (by omega) hpres
          rw [e1]
          by_cases hty : ne.typ = etConfig
          · rw [if_pos hty, if_pos hty]
            cases hcf : ne.config? with
            | none => exact ⟨rfl, hnil _ _ c1⟩
            | some c =>
              dsimp only
              obtain ⟨e2, c2⟩ := hcc _ c rest c1
              rw [e2]
              exact ih { st with index := ne.index, term := ne.term,
                                 s := ((st.s.resolveConflict ne st.term).appendEntry ne).changeConfigR c, syncLog := true } c2
          · rw [if_neg hty, if_neg hty]
            exact ih { st with index := ne.index, term := ne.term,
                               s := (st.s.resolveConflict ne st.term).appendEntry ne, syncLog := true } c1

theorem appendLoop_E {σ : SnapData} (h0 : σ.1 = 0) (es : List Entry) (st : AppLoop)
    (hpw : es.Pairwise (fun a b => a.index < b.index))
    (hpr : ∀ ne ∈ es, ne.index ≤ st.s.snapIndex → Present st.s ne) :
    appendLoop (El σ st) es = El σ (appendLoop st es) := by
  refine (appendLoop_comm (E σ)
    (fun s es => es.Pairwise (fun a b => a.index < b.index) ∧
      ((∀ ne ∈ es, ne.index ≤ s.snapIndex → Present s ne) ∨ ∀ ne ∈ es, s.snapIndex < ne.index))
    (fun _ _ _ => ⟨List.Pairwise.nil, Or.inl (fun _ h => nomatch h)⟩)
    (fun _ _ _ h => ⟨(List.pairwise_cons.mp h.1).2,
      h.2.imp (fun k b hb => k b (List.mem_cons_of_mem _ hb)) (fun k b hb => k b (List.mem_cons_of_mem _ hb))⟩)
    (fun s ne _ h hi => ?_) (fun s ne _ _ hi => ⟨by show ¬ ne.index ≤ σ.1; omega, rfl⟩)
    (fun s ne rest pt h hi _ => ?_) (fun s c _ h => ?_) es st ⟨hpw, Or.inl hpr⟩).1
  · rcases h.2 with k | k
    · obtain ⟨p1, p2⟩ := k ne (List.mem_cons_self ..) hi
      right
      show (decide (ne.index ≤ s.lastLogIndex) && s.entryTerm? ne.index == some ne.term) = true
      rw [p2]; simp [p1]
    · have := k ne (List.mem_cons_self ..); omega
  · refine ⟨by rw [E_resolveConflict, E_appendEntry], (List.pairwise_cons.mp h.1).2, Or.inr (fun b hb => ?_)⟩
    have := (List.pairwise_cons.mp h.1).1 b hb
    rw [snapIndex_appendEntry, snapIndex_resolveConflict]
    omega
  · refine ⟨E_changeConfigR s c, h.1, ?_⟩
    rcases h.2 with k | k
    · refine Or.inl (fun b hb hbi => ?_)
      rw [snapIndex_changeConfigR] at hbi
      have := k b hb hbi
      unfold Present at this ⊢
      rw [Node.changeConfigR_shape]
      exact this
    · exact Or.inr (fun b hb => by rw [snapIndex_changeConfigR]; exact k b hb)


/-- the fields `AppAgree` reads -/
def aobs (s : Node) : NLog × Nat × Nat × Nat × Nat := (s.log, s.lastLogIndex, s.lastLogTerm, s.commitIndex, s.snapIndex)

/-- **what an append request has to agree on with a node that holds a snapshot**: if its `prevLogIndex` is covered
by the snapshot (and not 0), the log holds that entry with the term `prevLogTerm` and it is not above the commit
index; every entry of the request covered by the snapshot is in the log with the same term; indexes increase. -/
structure AppAgree (s : Node) (q : AppendReq) : Prop where
  prev : 0 < q.prevLogIndex → q.prevLogIndex ≤ s.snapIndex →
    q.prevLogIndex ≤ s.lastLogIndex ∧ q.prevLogIndex ≤ s.commitIndex ∧
    (q.prevLogIndex = s.lastLogIndex → s.lastLogTerm = q.prevLogTerm) ∧
    (q.prevLogIndex ≠ s.lastLogIndex → s.entryTerm? q.prevLogIndex = some q.prevLogTerm)
  ents : ∀ ne ∈ q.entries, ne.index ≤ s.snapIndex → Present s ne
  sorted : q.entries.Pairwise (fun a b => a.index < b.index)

theorem AppAgree.congr {s s' : Node} {q : AppendReq} (h : AppAgree s q) (e : aobs s' = aobs s) : AppAgree s' q := by
  unfold aobs at e
  simp only [Prod.mk.injEq] at e
  obtain ⟨e1, e2, e3, e4, e5⟩ := e
  refine ⟨?_, ?_, h.sorted⟩
  · unfold Node.entryTerm?
    rw [e1, e2, e3, e4, e5]
    exact h.prev
  · unfold Present Node.entryTerm?
    rw [e1, e2, e5]
    exact h.ents

theorem checkBody_skip (s : Node) (q : AppendReq) (h : AppAgree s q) (h0 : 0 < q.prevLogIndex)
    (hs : q.prevLogIndex ≤ s.snapIndex) : checkBody s q = s.ret 0 := by
  obtain ⟨a, b, c, d⟩ := h.prev h0 hs
  unfold checkBody
  rw [if_neg (by omega)]
  have hcc : s.canCommit q q.prevLogIndex q.prevLogTerm = false := by
    unfold Node.canCommit
    have : decide (q.prevLogIndex > s.commitIndex) = false := by simp; omega
    rw [this]; simp
  by_cases hl : q.prevLogIndex = s.lastLogIndex
  · simp only [if_pos hl]
    rw [if_neg (by rw [c hl]; exact fun h => h rfl), hcc]
    rfl
  · simp only [if_neg hl]
    rw [d hl]
    dsimp only
    rw [if_neg (by rw [if_neg hl, d hl]; simp), hcc]
    rfl

/-- when the replaced snapshot index is the node's own, nothing is asked of the request; when it is 0, `AppAgree` -/
def Fits (σ : SnapData) (s : Node) (q : AppendReq) : Prop := σ.1 = s.snapIndex ∨ (σ.1 = 0 ∧ AppAgree s q)

theorem appendCheck_E (s : Node) (q : AppendReq) (h : Fits σ s q) : (E σ s).appendCheck q = E σ (s.appendCheck q) := by
  rw [appendCheck_eq, appendCheck_eq]
  rcases h with h | ⟨hz, h⟩
  · rw [← appendCheck_eq, ← appendCheck_eq]
    exact (erase σ).on_appendCheck s q h
  · by_cases hs : q.prevLogIndex > s.snapIndex
    · rw [if_pos hs, if_pos (show q.prevLogIndex > (E σ s).snapIndex from by show q.prevLogIndex > σ.1; omega)]
      exact E_checkBody s q
    · rw [if_neg hs]
      by_cases h0 : 0 < q.prevLogIndex
      · rw [if_pos (show q.prevLogIndex > (E σ s).snapIndex from by show q.prevLogIndex > σ.1; omega), E_checkBody,
          checkBody_skip s q h h0 (by omega)]
      · rw [if_neg (show ¬ q.prevLogIndex > (E σ s).snapIndex from by show ¬ q.prevLogIndex > σ.1; omega)]
        rfl

def _root_.Raft.Blind.onl (u : Blind) (st : AppLoop) : AppLoop := { st with s := u.on st.s }

theorem _root_.Raft.Blind.on_appendLoop (u : Blind) (es : List Entry) (st : AppLoop)
    (h : u.index st.s.snapIndex = st.s.snapIndex) : appendLoop (u.onl st) es = u.onl (appendLoop st es) :=
  (appendLoop_comm u.on (fun s _ => u.index s.snapIndex = s.snapIndex) (fun _ _ h => h) (fun _ _ _ h => h)
    (fun s ne _ h hi => Or.inl (by show ne.index ≤ u.index s.snapIndex; rw [h]; exact hi))
    (fun s ne _ h hi => ⟨by show ¬ ne.index ≤ u.index s.snapIndex; rw [h]; exact hi, rfl⟩)
    (fun s ne _ pt h _ _ => ⟨by rw [on_resolveConflict, on_appendEntry],
      by rw [snapIndex_appendEntry, snapIndex_resolveConflict]; exact h⟩)
    (fun s c _ h => ⟨on_changeConfigR u s c, by rw [snapIndex_changeConfigR]; exact h⟩) es st h).1

theorem aobs_of_fobs {s s' : Node} (e : fobs s' = fobs s) (ec : s'.commitIndex = s.commitIndex) : aobs s' = aobs s := by
  unfold fobs Core at e
  simp only [Prod.mk.injEq] at e
  unfold aobs
  rw [e.1.1, e.1.2.1, e.1.2.2.1, e.1.2.2.2.1, ec]


/-- what `onAppendEntries` does with the node after the consistency check: the last two branches of
`Node.onAppendEntries_stages` -/
abbrev afterCheck (q : AppendReq) (x : Node) : Node :=
  if x.result ≠ 0 then x
  else Node.afterLoop q (appendLoop ⟨x, q.prevLogIndex, q.prevLogTerm, false, false⟩ q.entries)

/-- **what follows the entry loop commutes with a map `F` of nodes** that leaves alone what the deferred commit reads and
commutes with what it does (`hcommit`: the application of the newly committed entries, where it happens) -/
theorem afterLoop_comm (F : Node → Node) (q : AppendReq) (st : AppLoop)
    (hli : (F st.s).lastLogIndex = st.s.lastLogIndex) (hcl : ∀ n, (F st.s).commitLog n = F (st.s.commitLog n))
    (hcan : ∀ x i t, (F x).canCommit q i t = x.canCommit q i t) (hret : ∀ x r, (F x).ret r = F (x.ret r))
    (hcommit : (!q.entries.isEmpty) = true ∧ st.syncLog = true →
      (st.s.commitLog st.s.lastLogIndex).canCommit q st.index st.term = true →
      ((F (st.s.commitLog st.s.lastLogIndex)).setCommitIndexR st.index).1.applyCommitted =
        F ((st.s.commitLog st.s.lastLogIndex).setCommitIndexR st.index).1.applyCommitted) :
    Node.afterLoop q { st with s := F st.s } = F (Node.afterLoop q st) := by
  unfold Node.afterLoop
  dsimp only
  by_cases hc : (!q.entries.isEmpty) = true ∧ st.syncLog = true
  · rw [if_pos hc, if_pos hc, hli, hcl, hcan]
    by_cases h2 : (st.s.commitLog st.s.lastLogIndex).canCommit q st.index st.term = true
    · rw [if_pos h2, if_pos h2, hcommit hc h2, hret]
    · rw [if_neg h2, if_neg h2, hret]
  · rw [if_neg hc, if_neg hc, hret]

theorem afterCheck_comm (F : Node → Node) (q : AppendReq) (x : Node) (st : AppLoop) (hres : (F x).result = x.result)
    (hst : appendLoop ⟨x, q.prevLogIndex, q.prevLogTerm, false, false⟩ q.entries = st)
    (hloop : x.result = 0 →
      appendLoop ⟨F x, q.prevLogIndex, q.prevLogTerm, false, false⟩ q.entries = { st with s := F st.s })
    (hafter : x.result = 0 → Node.afterLoop q { st with s := F st.s } = F (Node.afterLoop q st)) :
    afterCheck q (F x) = F (afterCheck q x) := by
  unfold afterCheck
  rw [hres, hst]
  by_cases hr : x.result ≠ 0
  · rw [if_pos hr, if_pos hr]
  · have h0 : x.result = 0 := Classical.byContradiction hr
    rw [if_neg hr, if_neg hr, hloop h0, hafter h0]

/-- **the handler of append requests commutes with a map `F` of nodes** that commutes with its stages -/
theorem onAppendEntries_comm (F : Node → Node) (s : Node) (q : AppendReq) (hterm : (F s).term = s.term)
    (hstale : (F s).ret rStaleTerm = F (s.ret rStaleTerm))
    (hpre : Node.followPre (F s) q.term q.src = F (Node.followPre s q.term q.src))
    (hchk : ¬ q.term < s.term → (F (Node.followPre s q.term q.src)).appendCheck q =
      F ((Node.followPre s q.term q.src).appendCheck q))
    (htail : ¬ q.term < s.term → afterCheck q (F ((Node.followPre s q.term q.src).appendCheck q)) =
      F (afterCheck q ((Node.followPre s q.term q.src).appendCheck q))) :
    (F s).onAppendEntries q = F (s.onAppendEntries q) := by
  rw [Node.onAppendEntries_stages, Node.onAppendEntries_stages, hterm]
  by_cases hst : q.term < s.term
  · rw [if_pos hst, if_pos hst]; exact hstale
  · rw [if_neg hst, if_neg hst, hpre, hchk hst]
    exact htail hst

theorem on_followPre (u : Blind) (s : Node) (t src : Nat) : Node.followPre (u.on s) t src = u.on (Node.followPre s t src) := by
  unfold Node.followPre
  bcomm

theorem aobs_storeTermVote (s : Node) (t c : Nat) : aobs (s.storeTermVote t c) = aobs s := by
  unfold Node.storeTermVote; dsimp only; split <;> rfl

theorem aobs_setTerm (s : Node) (t : Nat) : aobs (s.setTerm t) = aobs s := by
  unfold Node.setTerm
  split
  · split
    · exact aobs_storeTermVote _ _ _
    · unfold Node.panic; split <;> rfl
  · rfl

theorem aobs_followPre (s : Node) (t src : Nat) : aobs (Node.followPre s t src) = aobs s := by
  unfold Node.followPre
  have e : ∀ x : Node, aobs ((x.setRole .follower).setLeader src) = aobs x := fun _ => rfl
  rw [e]
  split
  · rw [show aobs ((s.setTerm t).setRole .follower) = aobs (s.setTerm t) from rfl]
    exact aobs_setTerm s t
  · rfl

/-- the log, the last index and the snapshot index after the consistency check are those before `followPre` -/
theorem aobs_check (s : Node) (q : AppendReq) :
    ((Node.followPre s q.term q.src).appendCheck q).log = s.log ∧
    ((Node.followPre s q.term q.src).appendCheck q).lastLogIndex = s.lastLogIndex ∧
    ((Node.followPre s q.term q.src).appendCheck q).snapIndex = s.snapIndex := by
  have ea := aobs_followPre s q.term q.src
  unfold aobs at ea
  simp only [Prod.mk.injEq] at ea
  obtain ⟨e, _⟩ := appendCheck_fobs (Node.followPre s q.term q.src) q
  unfold fobs Core at e
  simp only [Prod.mk.injEq] at e
  exact ⟨e.1.1.trans ea.1, e.1.2.1.trans ea.2.1, e.1.2.2.2.1.trans ea.2.2.2.2⟩

theorem _root_.Raft.Blind.on_afterCheck (u : Blind) (q : AppendReq) (x : Node) (h : u.index x.snapIndex = x.snapIndex) :
    afterCheck q (u.on x) = u.on (afterCheck q x) :=
  afterCheck_comm u.on q x _ rfl rfl (fun _ => u.on_appendLoop q.entries ⟨x, q.prevLogIndex, q.prevLogTerm, false, false⟩ h)
    (fun _ => afterLoop_comm u.on q _ rfl (fun n => on_commitLog u _ n) (fun _ _ _ => rfl) (fun _ _ => rfl)
      (fun _ _ => by rw [on_setCommitIndexR_1, on_applyCommitted]))

theorem _root_.Raft.Blind.on_onAppendEntries (u : Blind) (s : Node) (q : AppendReq) (h : u.index s.snapIndex = s.snapIndex) :
    (u.on s).onAppendEntries q = u.on (s.onAppendEntries q) :=
  have esn : (Node.followPre s q.term q.src).snapIndex = s.snapIndex :=
    congrArg (fun p => p.2.2.2.2) (aobs_followPre s q.term q.src)
  onAppendEntries_comm u.on s q rfl rfl (on_followPre u s _ _)
    (fun _ => u.on_appendCheck _ q (by rw [esn]; exact h))
    (fun _ => u.on_afterCheck q _ (by rw [(aobs_check s q).2.2]; exact h))

/-- **an append request whose content agrees with what the snapshot covers is handled alike by the erased node** -/
theorem onAppendEntries_E (s : Node) (q : AppendReq) (h : Fits σ s q) :
    (E σ s).onAppendEntries q = E σ (s.onAppendEntries q) := by
  have ea := aobs_followPre s q.term q.src
  have h2 : Fits σ (Node.followPre s q.term q.src) q := by
    rcases h with h | ⟨h0, h⟩
    · exact Or.inl (h.trans (congrArg (fun p => p.2.2.2.2) ea).symm)
    · exact Or.inr ⟨h0, h.congr ea⟩
  obtain ⟨c1, c2, c3⟩ := aobs_check s q
  refine onAppendEntries_comm (E σ) s q rfl rfl (on_followPre (erase σ) s _ _) (fun _ => appendCheck_E _ q h2) (fun _ => ?_)
  refine afterCheck_comm (E σ) q _ _ rfl rfl (fun _ => ?_) (fun _ => afterLoop_comm (E σ) q _ rfl
    (fun n => on_commitLog (erase σ) _ n) (fun _ _ _ => rfl) (fun _ _ => rfl)
    (fun _ _ => by rw [show E σ = (erase σ).on from rfl, on_setCommitIndexR_1, on_applyCommitted]))
  rcases h with h | ⟨h0, h⟩
  · exact (erase σ).on_appendLoop q.entries ⟨_, q.prevLogIndex, q.prevLogTerm, false, false⟩ (h.trans c3.symm)
  · refine appendLoop_E h0 q.entries ⟨_, q.prevLogIndex, q.prevLogTerm, false, false⟩ h.sorted (fun ne hne hle => ?_)
    have := h.ents ne hne (c3 ▸ hle)
    show Present ((Node.followPre s q.term q.src).appendCheck q) ne
    unfold Present Node.entryTerm? at this ⊢
    rw [c1, c2]
    exact this

theorem append_step_E (s : Node) (q : AppendReq) (ra : List Nat) (ord : List (List Nat)) (h : Fits σ s q) :
    (E σ s).step (.append q) ra ord = E σ (s.step (.append q) ra ord) := by
  have hb : Fits σ (s.begin ra ord) q := h.imp id (fun h => ⟨h.1, h.2.congr rfl⟩)
  show settle 6 ((((E σ s).begin ra ord).onAppendEntries q).rpcDone false true) ((E σ s).begin ra ord).role =
    E σ (settle 6 (((s.begin ra ord).onAppendEntries q).rpcDone false true) (s.begin ra ord).role)
  rw [E_begin, onAppendEntries_E _ q hb, E_rpcDone, E_settle]; rfl


/-- a stale append request is refused by both -/
theorem append_step_E_stale (s : Node) (q : AppendReq) (ra : List Nat) (ord : List (List Nat)) (h : q.term < s.term) :
    (E σ s).step (.append q) ra ord = E σ (s.step (.append q) ra ord) := by
  show settle 6 ((((E σ s).begin ra ord).onAppendEntries q).rpcDone false true) ((E σ s).begin ra ord).role =
    E σ (settle 6 (((s.begin ra ord).onAppendEntries q).rpcDone false true) (s.begin ra ord).role)
  have e : ((E σ s).begin ra ord).onAppendEntries q = E σ ((s.begin ra ord).onAppendEntries q) := by
    rw [Node.onAppendEntries_stages, Node.onAppendEntries_stages, E_begin]
    rw [if_pos (show q.term < (s.begin ra ord).term from h), if_pos (show q.term < (E σ (s.begin ra ord)).term from h)]
    rfl
  rw [e, E_begin, E_rpcDone, E_settle]; rfl

/-! ### the snapshot data is not touched by the operations that do not read it -/

def own (s : Node) : SnapData := (s.snapIndex, s.snapTerm, s.snapsDisk)

theorem step_congr_begin {s s' : Node} {ra : List Nat} {ord : List (List Nat)} (h : s.begin ra ord = s'.begin ra ord)
    (op : Op) : s.step op ra ord = s'.step op ra ord := by
  unfold Node.step
  dsimp only
  rw [h]

theorem begin_E_own (s : Node) (ra : List Nat) (ord : List (List Nat)) :
    (E (own s) s).begin ra ord = s.begin ra ord := rfl

/-- a state that is its own `E`-image carries the snapshot data `σ`, in the state and at every crash point -/
theorem fix_E {s : Node} (h : s = E σ s) :
    s.snapIndex = σ.1 ∧ s.snapTerm = σ.2.1 ∧ s.snapsDisk = σ.2.2 ∧ ∀ p ∈ s.trace, p.2.snaps = σ.2.2 := by
  refine ⟨by rw [h]; rfl, by rw [h]; rfl, by rw [h]; rfl, ?_⟩
  have ht : s.trace = s.trace.map (eraseP σ) := by
    have := congrArg Node.trace h
    exact this
  intro p hp
  rw [ht] at hp
  obtain ⟨p', _, rfl⟩ := List.mem_map.mp hp
  rfl

/-- **frame**: an operation that does not read the snapshot data leaves it alone — in the state after the step and
on disk at every crash point of the step -/
theorem step_snap_frame (s : Node) (op : Op) (ra : List Nat) (ord : List (List Nat)) (h : Plain op) :
    (s.step op ra ord).snapIndex = s.snapIndex ∧ (s.step op ra ord).snapTerm = s.snapTerm ∧
    (s.step op ra ord).snapsDisk = s.snapsDisk ∧ ∀ p ∈ (s.step op ra ord).trace, p.2.snaps = s.snapsDisk := by
  have hf : OpFits (own s) s op := by cases op <;> first | trivial | exact Nat.le_add_right _ _
  have he : eraseOp (own s) s op = op := by
    cases op <;> first | rfl | (unfold eraseOp own; dsimp only; rw [Nat.add_sub_cancel_left])
  have h1 := step_E (σ := own s) s op ra ord h hf
  rw [he, step_congr_begin (begin_E_own s ra ord) op] at h1
  exact fix_E h1

/-- the same for an append request -/
theorem append_snap_frame (s : Node) (q : AppendReq) (ra : List Nat) (ord : List (List Nat)) :
    (s.step (.append q) ra ord).snapIndex = s.snapIndex ∧ (s.step (.append q) ra ord).snapTerm = s.snapTerm ∧
    (s.step (.append q) ra ord).snapsDisk = s.snapsDisk ∧
    ∀ p ∈ (s.step (.append q) ra ord).trace, p.2.snaps = s.snapsDisk := by
  have h1 := append_step_E (σ := own s) s q ra ord (Or.inl rfl)
  rw [step_congr_begin (begin_E_own s ra ord) (.append q)] at h1
  exact fix_E h1

end SnapRel
end Raft
