/-
The commit rule's arithmetic: the (quorum)-th largest element of the voters' match indexes is
acknowledged by a majority. Core Lean only.
-/
import RaftVerif.Model.Step

namespace Raft

theorem sortedDesc_pairwise (ms : List Nat) : (ms.mergeSort geB).Pairwise (fun a b => geB a b = true) := by
  apply List.pairwise_mergeSort
  · intro a b c h1 h2; simp only [geB, decide_eq_true_eq] at *; omega
  · intro a b; simp only [geB, Bool.or_eq_true, decide_eq_true_eq]; omega

theorem count_ge_kth_of_sorted (L : List Nat) (hs : L.Pairwise (fun a b => geB a b = true))
    (k : Nat) (hk : k < L.length) : (L.countP (fun m => decide (m ≥ L[k]))) ≥ k + 1 := by
  have hall : ∀ a ∈ L.take (k + 1), (fun m => decide (m ≥ L[k])) a = true := by
    intro a ha
    obtain ⟨i, hi, rfl⟩ := List.mem_iff_getElem.mp ha
    rw [List.getElem_take]
    have hi' : i < k + 1 := by rw [List.length_take] at hi; omega
    simp only [decide_eq_true_eq]
    by_cases e : i = k
    · subst e; exact Nat.le_refl _
    · have := (List.pairwise_iff_getElem.mp hs) i k (by omega) hk (by omega)
      simp only [geB, decide_eq_true_eq] at this
      exact this
  have h1 : (L.take (k + 1)).countP (fun m => decide (m ≥ L[k])) = (L.take (k + 1)).length :=
    List.countP_eq_length.mpr hall
  have h2 : (L.take (k + 1)).countP (fun m => decide (m ≥ L[k])) ≤ L.countP (fun m => decide (m ≥ L[k])) :=
    (List.take_sublist _ _).countP_le
  rw [List.length_take] at h1
  omega

/-- **Quorum arithmetic**: of `n ≥ 1` acknowledged indexes, the one selected by the leader (position
`n/2` of the decreasingly sorted list, i.e. `quorum - 1`) is reached by more than half of them. -/
theorem majority_selected (ms : List Nat) (hne : ms ≠ []) :
    let N := ((ms.mergeSort geB)[ms.length / 2]?).getD 0
    2 * (ms.countP (fun m => decide (m ≥ N))) > ms.length := by
  intro N
  have hlen : (ms.mergeSort geB).length = ms.length := List.length_mergeSort ms
  have hpos : 0 < ms.length := List.length_pos_iff.mpr hne
  have hk : ms.length / 2 < (ms.mergeSort geB).length := by rw [hlen]; omega
  have hN : N = (ms.mergeSort geB)[ms.length / 2] := by
    show ((ms.mergeSort geB)[ms.length / 2]?).getD 0 = _
    rw [List.getElem?_eq_getElem hk]; rfl
  have hc := count_ge_kth_of_sorted _ (sortedDesc_pairwise ms) _ hk
  have hp : (ms.mergeSort geB).countP (fun m => decide (m ≥ N)) = ms.countP (fun m => decide (m ≥ N)) :=
    (List.mergeSort_perm ms geB).countP_eq _
  rw [← hN] at hc
  rw [hp] at hc
  omega

theorem count_le_of_kth_lt (L : List Nat) (hs : L.Pairwise (fun a b => geB a b = true))
    (k N : Nat) (hk : k < L.length) (hlt : L[k] < N) : L.countP (fun m => decide (m ≥ N)) ≤ k := by
  have hdrop : ∀ a ∈ L.drop k, ¬ ((fun m => decide (m ≥ N)) a = true) := by
    intro a ha
    obtain ⟨i, hi, rfl⟩ := List.mem_iff_getElem.mp ha
    rw [List.getElem_drop]
    simp only [decide_eq_true_eq, Nat.not_le]
    by_cases e : i = 0
    · subst e; simpa using hlt
    · have hi' : k + i < L.length := by rw [List.length_drop] at hi; omega
      have := (List.pairwise_iff_getElem.mp hs) k (k + i) hk hi' (by omega)
      simp only [geB, decide_eq_true_eq] at this
      omega
  have h0 : (L.drop k).countP (fun m => decide (m ≥ N)) = 0 := List.countP_eq_zero.mpr hdrop
  have hsplit : L.countP (fun m => decide (m ≥ N)) =
      (L.take k).countP (fun m => decide (m ≥ N)) + (L.drop k).countP (fun m => decide (m ≥ N)) := by
    rw [← List.countP_append, List.take_append_drop]
  have hle : (L.take k).countP (fun m => decide (m ≥ N)) ≤ (L.take k).length := List.countP_le_length
  rw [List.length_take] at hle
  omega

/-- **commit is not stuck**: if more than half of the match indexes reach `N`, the index the leader
selects is at least `N`. -/
theorem selected_ge_of_majority (ms : List Nat) (N : Nat)
    (hmaj : 2 * (ms.countP (fun m => decide (m ≥ N))) > ms.length) :
    ((ms.mergeSort geB)[ms.length / 2]?).getD 0 ≥ N := by
  have hlen : (ms.mergeSort geB).length = ms.length := List.length_mergeSort ms
  have hpos : 0 < ms.length := by
    cases ms with
    | nil => simp at hmaj
    | cons a as => simp
  have hk : ms.length / 2 < (ms.mergeSort geB).length := by rw [hlen]; omega
  rw [List.getElem?_eq_getElem hk]
  simp only [Option.getD_some]
  by_cases hc : (ms.mergeSort geB)[ms.length / 2] ≥ N
  · exact hc
  · exfalso
    have := count_le_of_kth_lt _ (sortedDesc_pairwise ms) _ N hk (by omega)
    have hp : (ms.mergeSort geB).countP (fun m => decide (m ≥ N)) = ms.countP (fun m => decide (m ≥ N)) :=
      (List.mergeSort_perm ms geB).countP_eq _
    rw [hp] at this
    omega

end Raft
