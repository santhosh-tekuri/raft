/-
"Entry 1 of the log is a configuration, every snapshot file is labelled with a real configuration — in memory and at every
crash point" as an invariant of `Node.step` (instance of the two-level framework of Lemmas/FirstConfigA.lean).

* `First es`  : every entry of `es` with index 1 decodes as a configuration;
* `DiskF d`   : `First d.log.entries` and every snapshot file of `d` carries a real configuration (`config.index ≥ 1`);
* `GS Q s`    : `First s.log.entries`, `Q s`, `LabelsPos s.snapsDisk`, and `DiskF` of every crash point recorded so far
                (`s.trace`); `G Q s`: the same while the step has not panicked;
* `L = G QL`  : `QL s` = the log is not empty (`1 ≤ lastLogIndex`) — what holds INSIDE the leader handlers: a leader
                appends at `lastLogIndex + 1 ≥ 2` (the assertion of `storage.appendEntry`), never at index 1;
* `J = G QJ`  : `QJ s` = a node that is not a follower has `1 ≤ lastLogIndex`, and so has a node that is a voter of its
                latest configuration — what holds between handlers;
* `AS = GS True` : what an append request keeps UNCONDITIONALLY (panic or not) when its entry with index 1, if any, is a
                configuration.
The handlers that write a follower's log: `Raft.bootstrap` appends the configuration at index 1; `onInstallSnapRequest` (the
received label must be a real configuration, `PI`) resets the log; `onAppendEntriesRequest` — only the stale case is an
instance of the framework (`PA`), the general case is `append_step_as` below; the node ends as a follower. The snapshot
goroutine labels its file with the FSM's configuration, which must be a real one (`PS`).
-/
import RaftVerif.Lemmas.FirstConfigA
import RaftVerif.Lemmas.ShapeAppend
import RaftVerif.Lemmas.FsmConfigB
import RaftVerif.Lemmas.LogRel
import RaftVerif.Lemmas.Order
import RaftVerif.Props.C02

namespace Raft
namespace FirstCfg
open Node FsmCfg

def First (es : List Entry) : Prop := ∀ e ∈ es, e.index = 1 → e.config?.isSome = true

instance (es : List Entry) : Decidable (First es) := by unfold First; infer_instance

def DiskF (d : Durable) : Prop := First d.log.entries ∧ LabelsPos d.snaps

def TR (s : Node) : Prop := ∀ p ∈ s.trace, DiskF p.2

structure GS (Q : Node → Prop) (s : Node) : Prop where
  first : First s.log.entries
  q : Q s
  labels : LabelsPos s.snapsDisk
  tr : TR s

def G (Q : Node → Prop) (s : Node) : Prop := s.panicked = none → GS Q s

def QL (s : Node) : Prop := 1 ≤ s.lastLogIndex
def QJ (s : Node) : Prop :=
  (s.role ≠ .follower → 1 ≤ s.lastLogIndex) ∧ (s.configs.latest.isVoter s.nid = true → 1 ≤ s.lastLogIndex)

abbrev L : Node → Prop := G QL
abbrev J : Node → Prop := G QJ
abbrev AS : Node → Prop := GS (fun _ => True)

/-- what `QL`, `QJ` look at -/
def obsQ (s : Node) : Nat × Role × Config × Nat := (s.lastLogIndex, s.role, s.configs.latest, s.nid)

def QC (Q : Node → Prop) : Prop := ∀ s s' : Node, obsQ s' = obsQ s → Q s → Q s'

theorem qc_QL : QC QL := by
  intro s s' e h
  simp only [obsQ, Prod.mk.injEq] at e
  unfold QL; rw [e.1]; exact h

theorem qc_QJ : QC QJ := by
  intro s s' e h
  simp only [obsQ, Prod.mk.injEq] at e
  obtain ⟨e1, e2, e3, e4⟩ := e
  unfold QJ; rw [e1, e2, e3, e4]; exact h

theorem qc_true : QC (fun _ => True) := fun _ _ _ _ => trivial

theorem First.sub {es es' : List Entry} (h : First es) (hs : ∀ e ∈ es', e ∈ es) : First es' :=
  fun e he => h e (hs e he)

theorem First.append {es : List Entry} (h : First es) {e : Entry} (he : e.index = 1 → e.config?.isSome = true) :
    First (es ++ [e]) := by
  intro x hx
  rcases List.mem_append.mp hx with hx | hx
  · exact h x hx
  · rw [List.mem_singleton.mp hx]; exact he

theorem first_nil : First [] := fun e he => by cases he

variable {Q Q' : Node → Prop}

theorem diskF_durable {s : Node} (f : First s.log.entries) (l : LabelsPos s.snapsDisk) : DiskF s.durable :=
  ⟨f.sub (fun e he => List.mem_of_mem_take (show e ∈ s.log.entries.take _ from he)), l⟩

/-- an update that leaves the log entries and the snapshot files alone, whatever it records (Lemmas/Traced.lean) -/
theorem GS.of_rec {s s' : Node} (h : GS Q s) (e1 : s'.log.entries = s.log.entries) (e2 : s'.snapsDisk = s.snapsDisk)
    (e3 : Rec s s') (hq : Q' s') : GS Q' s' :=
  have f : First s'.log.entries := by rw [e1]; exact h.first
  have l : LabelsPos s'.snapsDisk := by rw [e2]; exact h.labels
  ⟨f, hq, l, Traced.step (D := fun p => DiskF p.2) h.tr e3 fun _ => diskF_durable f l⟩

theorem GS.congr {s s' : Node} (h : GS Q s) (e1 : s'.log.entries = s.log.entries) (e2 : s'.snapsDisk = s.snapsDisk)
    (e3 : s'.trace = s.trace) (hq : Q' s') : GS Q' s' := h.of_rec e1 e2 (.of_eq e3) hq

theorem GS.sub {s s' : Node} (h : GS Q s) (hl : ∀ e ∈ s'.log.entries, e ∈ s.log.entries)
    (e2 : s'.snapsDisk = s.snapsDisk) (e3 : s'.trace = s.trace) (hq : Q' s') : GS Q' s' :=
  ⟨h.first.sub hl, hq, by rw [e2]; exact h.labels, by unfold TR; rw [e3]; exact h.tr⟩

theorem GS.point {s : Node} (h : GS Q s) (n : String) (hq : Q' (s.point n)) : GS Q' (s.point n) :=
  h.of_rec rfl rfl (rec_point s n) hq

theorem GS.publish {s : Node} (h : GS Q s) (f : SnapFile) (hf : 0 < f.config.index) (hq : Q' (s.publishSnapshot f)) :
    GS Q' (s.publishSnapshot f) :=
  have l1 := labelsPos_insert h.labels f hf
  have l2 : LabelsPos (s.publishSnapshot f).snapsDisk := labelsPos_publish h.labels f hf _
  have d := (diskF_durable h.first h.labels).1
  ⟨h.first, hq, l2, Traced.publishSnapshot (D := fun p => DiskF p.2) h.tr ⟨d, l1⟩ ⟨d, l2⟩⟩

theorem g_panic (s : Node) (site : String) : G Q (s.panic site) := fun hp => absurd hp (panic_panicked_ne s site)

/-- what `G Q` looks at -/
def obsG (s : Node) : List Entry × List SnapFile × List (String × Durable) × (Nat × Role × Config × Nat) :=
  (s.log.entries, s.snapsDisk, s.trace, obsQ s)

theorem G.irr (hQ : QC Q) {s s' : Node} (h : G Q s) (e : obsG s' = obsG s)
    (hp : s'.panicked = none → s.panicked = none) : G Q s' := by
  intro hp'
  simp only [obsG, Prod.mk.injEq] at e
  obtain ⟨e1, e2, e3, e4⟩ := e
  have := h (hp hp')
  exact this.congr e1 e2 e3 (hQ _ _ e4 this.q)

/-- log entries, last index, snapshot files, crash points: what `L` looks at -/
def obsL (s : Node) : List Entry × Nat × List SnapFile × List (String × Durable) :=
  (s.log.entries, s.lastLogIndex, s.snapsDisk, s.trace)

theorem L.irr {s s' : Node} (h : L s) (e : obsL s' = obsL s) (hp : s'.panicked = none → s.panicked = none) : L s' := by
  intro hp'
  simp only [obsL, Prod.mk.injEq] at e
  obtain ⟨e1, e2, e3, e4⟩ := e
  have := h (hp hp')
  exact this.congr e1 e3 e4 (by show 1 ≤ s'.lastLogIndex; rw [e2]; exact this.q)

theorem obsL_of_core {s s' : Node} (e : LogRel.Core s' = LogRel.Core s) : obsL s' = obsL s := by
  unfold LogRel.Core at e
  simp only [Prod.mk.injEq] at e
  obtain ⟨e1, e2, _, _, e5, _, _, e8⟩ := e
  unfold obsL; rw [e1, e2, e5, e8]

theorem G.point (hQ : QC Q) {s : Node} (h : G Q s) (n : String) : G Q (s.point n) := by
  intro hp
  have := h hp
  exact this.point n (hQ s _ rfl this.q)

theorem G.setTerm (hQ : QC Q) {s : Node} (h : G Q s) (t : Nat) : G Q (s.setTerm t) := fun hp =>
  have g := h ((Order.irr_setTerm s t).2 hp)
  g.of_rec (by rw [setTerm_shape]) (by rw [setTerm_shape]) (rec_setTerm s t) (hQ _ _ (by rw [setTerm_shape]; rfl) g.q)

theorem G.setVotedFor (hQ : QC Q) {s : Node} (h : G Q s) (t c : Nat) : G Q (s.setVotedFor t c) := fun hp =>
  have g := h ((Order.irr_setVotedFor s t c).2 hp)
  g.of_rec (by rw [setVotedFor_shape]) (by rw [setVotedFor_shape]) (rec_setVotedFor s t c)
    (hQ _ _ (by rw [setVotedFor_shape]; rfl) g.q)

theorem G.sub (hQ : QC Q) {s s' : Node} (h : G Q s) (hl : ∀ e ∈ s'.log.entries, e ∈ s.log.entries)
    (e2 : s'.snapsDisk = s.snapsDisk) (e3 : s'.trace = s.trace) (e4 : obsQ s' = obsQ s)
    (hp : s'.panicked = none → s.panicked = none) : G Q s' := by
  intro hp'
  have := h (hp hp')
  exact this.sub hl e2 e3 (hQ _ _ e4 this.q)

theorem G.publish (hQ : QC Q) {s : Node} (h : G Q s) (f : SnapFile) (hf : 0 < f.config.index) :
    G Q (s.publishSnapshot f) := by
  intro hp
  have hp0 : s.panicked = none := hp
  have := h hp0
  exact this.publish f hf (hQ s _ rfl this.q)

theorem obsG_reply (s : Node) (t : Nat) (r : String) : obsG (s.reply t r) = obsG s := by
  unfold Node.reply; split <;> rfl

theorem obsG_doClose (s : Node) (r : String) : obsG (s.doClose r) = obsG s := by
  unfold Node.doClose; split <;> rfl

theorem fsmFrame_obsL : FsmFrame obsL :=
  ⟨fun s site => by unfold Node.panic; split <;> rfl, fun s t r => by unfold Node.reply; split <;> rfl,
   fun _ _ => rfl⟩

theorem gs_appendEntry {s : Node} (e : Entry) (h : GS Q s) (he : e.index = 1 → e.config?.isSome = true)
    (hq : Q' (s.appendEntry e)) : GS Q' (s.appendEntry e) := by
  obtain ⟨roll, e1⟩ := appendEntry_log s e
  have c := LogRel.core_assert s (e.index == s.lastLogIndex + 1) "assert.appendEntry"
  have o := obsL_of_core c
  simp only [obsL, Prod.mk.injEq] at o
  refine ⟨?_, hq, ?_, ?_⟩
  · rw [e1, (LogRel.append_parts s.log e roll).2]
    exact h.first.append he
  · show LabelsPos (s.assert _ _).snapsDisk
    rw [o.2.2.1]; exact h.labels
  · show ∀ p ∈ (s.assert _ _).trace, _
    rw [o.2.2.2]; exact h.tr

theorem l_appendEntry {s : Node} (e : Entry) (h : L s) : L (s.appendEntry e) := by
  intro hp
  obtain ⟨he, hp0⟩ := Order.appendEntry_ok hp
  have := h hp0
  have hl : 1 ≤ s.lastLogIndex := this.q
  exact gs_appendEntry e this (fun h1 => by omega) (by show 1 ≤ e.index; omega)

theorem l_closed : FClosed L where
  panic := fun s site _ => g_panic s site
  reply := fun s t r h => h.irr (obsL_of_core (LogRel.core_reply s t r)) (Order.irr_reply s t r).2
  point := fun _ n h => h.point qc_QL n
  ldr := fun _ _ h => h.irr rfl id
  appendEntry := fun _ e h => l_appendEntry e h
  commitN := fun s n h => h.irr (by unfold obsL; dsimp only; rw [(NLog.commitN_same s.log n).2.1]) id
  fsmLog := fun s n h => h.irr (fsmFrame_obsL.fsmApplyLogTo_eq s n)
    (fun hp => (Order.sticky_closed s).fsmApplyLogTo_inv s n (fun x => x) hp)
  fsmItems := fun s qs h => h.irr (fsmFrame_obsL.fsmApplyItems_eq s qs)
    (fun hp => (Order.sticky_closed s).fsmApplyItems_inv s qs (fun x => x) hp)
  changeConfigR := fun s c h => h.irr (obsL_of_core (LogRel.core_changeConfigR s c))
    (fun hp => by rw [changeConfigR_shape] at hp; exact hp)
  setCommitIndexR := fun s i h _ => h.irr (obsL_of_core (LogRel.core_setCommitIndexR s i))
    (fun hp => by rw [← Node.setCommitIndexR_panicked s i]; exact hp)
  popOrder := fun _ h => h.irr rfl id

theorem toEntry_config (c : Config) : c.toEntry.config?.isSome = true := Entry.config?_isSome rfl rfl

theorem l_of_j_append {s : Node} (e : Entry) (h : J s) (he : e.config?.isSome = true) : L (s.appendEntry e) := by
  intro hp
  obtain ⟨hi, hp0⟩ := Order.appendEntry_ok hp
  exact gs_appendEntry e (h hp0) (fun _ => he) (by show 1 ≤ e.index; omega)

theorem j_of_l {s : Node} (h : L s) : J s := fun hp =>
  let g := h hp; ⟨g.first, ⟨fun _ => g.q, fun _ => g.q⟩, g.labels, g.tr⟩

theorem j_bootstrap (s : Node) (t : Nat) (c : Config) (h : J s) : J (s.bootstrap t c) := by
  have hr : ∀ x r, J x → J (x.reply t r) := fun x r hx => hx.irr qc_QJ (obsG_reply x t r) (Order.irr_reply x t r).2
  refine Track.bootstrap_ind s t c (fun r => hr _ r h) ?_
  have h1 : L (s.appendEntry ({ c with index := 1, term := 1 } : Config).toEntry) :=
    l_of_j_append _ h (toEntry_config _)
  have h3 := (l_closed.commitLog_inv _ 1 h1).setTerm qc_QL 1
  have wl : ∀ x : Node, L x → L (x.withLast 1 1) := fun _ hx hp => (hx hp).congr rfl rfl rfl (Nat.le_refl 1)
  have h4 : L (Track.bootStore s { c with index := 1, term := 1 }) := wl _ h3
  exact j_of_l ((l_closed.reply _ t "ok" (l_closed.changeConfigR _ _ h4)).irr rfl id)

theorem fsmRestore_frame (s : Node) :
    obsL s.fsmRestore = obsL s ∧ (s.fsmRestore.panicked = none → s.panicked = none) := by
  unfold Node.fsmRestore Node.withFsm
  repeat' split
  all_goals first
    | exact ⟨rfl, id⟩
    | exact ⟨obsL_of_core (LogRel.core_panic _ _), fun hp => absurd hp (panic_panicked_ne _ _)⟩

def PI (s : Node) (q : InstallReq) : Prop := q.term < s.term ∨ 0 < q.lastConfig.index

theorem j_roleF {s : Node} (h : J s) : J (s.setRole .follower) := fun hp =>
  let g := h hp; ⟨g.first, ⟨fun hne => absurd rfl hne, g.q.2⟩, g.labels, g.tr⟩

theorem j_install (s : Node) (q : InstallReq) (h : J s) (hq : PI s q) : J (s.onInstallSnap q) := by
  rw [onInstallSnap_eq]
  refine ite_ind (fun _ => h.irr qc_QJ rfl id) (fun hnst => ?_)
  have hlab : 0 < q.lastConfig.index := hq.resolve_left hnst
  have ldr : ∀ (x : Node) l, J x → J (x.setLeader l) := fun _ _ hx => hx.irr qc_QJ rfl id
  have h2 : J (installPre s q) := ldr _ _ (j_roleF (ite_ind (fun _ => j_roleF (h.setTerm qc_QJ q.term)) fun _ => h))
  generalize installPre s q = s2 at h2 ⊢
  refine ite_ind (fun _ => h2.irr qc_QJ rfl id) (fun hgt => ite_ind (fun _ => h2.irr qc_QJ rfl id) (fun _ => ?_))
  extract_lets p
  have hpos : 1 ≤ p.snapIndex := by show 1 ≤ q.lastIndex; omega
  have h3 : J p := h2.publish qc_QJ _ hlab
  clear_value p
  have h4 : L p.clearLog := fun hp => by
    unfold Node.clearLog
    refine GS.point (Q := QL) ?_ "clearLog" hpos
    exact ⟨first_nil, hpos, (h3 hp).labels, (h3 hp).tr⟩
  generalize p.clearLog = s4 at h4 ⊢
  have h5 : L s4.fsmRestore := h4.irr (fsmRestore_frame s4).1 (fsmRestore_frame s4).2
  generalize s4.fsmRestore = s5 at h5 ⊢
  have h7 := l_closed.changeConfigR _ q.lastConfig (h5.irr (s' := s5.withCommitIndex s5.snapIndex) rfl id)
  generalize (s5.withCommitIndex s5.snapIndex).changeConfigR q.lastConfig = s7 at h7 ⊢
  exact j_of_l ((h7.irr (obsL_of_core (LogRel.core_commitConfig s7))
    (fun hp => by rw [← (commitConfig_other s7).2.2.2.2.2.2.2.2.2.2]; exact hp)).irr rfl id)

def PS (s : Node) : Prop := s.fsm.index ≠ s.snapIndex → 0 < s.fsm.config.index

theorem j_publish_result (s : Node) (f : SnapFile) (h : J s) (hf : 0 < f.config.index) (r : Option SnapRes) :
    J ((s.publishSnapshot f).withSnapResult r) := by
  have h2 : J (s.publishSnapshot f) := h.publish qc_QJ f hf
  exact fun hp => (h2 hp).congr rfl rfl rfl (qc_QJ _ _ rfl (h2 hp).q)

theorem j_snapRun (s : Node) (h : J s) (hps : PS s) : J s.snapRun := by
  refine Track.snapRun_ind s h (fun _ _ => h.irr qc_QJ rfl id) (fun rq _ hne _ => ?_)
  have hcfg : 0 < s.fsm.config.index := hps hne
  have h1 : J (s.withSnapPending none) := h.irr qc_QJ rfl id
  have hf : 0 < (C09.snapFileOf s rq).config.index := by
    show 0 < (if s.fsm.config.index > 0 then s.fsm.config else rq.config).index
    rw [if_pos hcfg]; exact hcfg
  exact j_publish_result _ _ h1 hf _

/-- what the framework asks of an append request: only the stale ones go through it -/
def PA (s : Node) (q : AppendReq) : Prop := q.term < s.term

theorem g_closed : TwoClosed PA PI PS L J where
  toFClosed := l_closed
  down := fun _ h => j_of_l h
  up := fun _ h hr hp => let g := h hp; ⟨g.first, g.q.1 hr, g.labels, g.tr⟩
  lRole := fun _ _ h => h.irr rfl id
  lLeader := fun _ _ h => h.irr rfl id
  lTerm := fun _ t h => h.setTerm qc_QL t
  lRemoveLTE := fun s i h => h.sub qc_QL (fun e he => List.mem_of_mem_drop (show e ∈ s.log.entries.drop _ from he))
    rfl rfl rfl id
  jpanic := fun s site _ => g_panic s site
  jreply := fun s t r h => h.irr qc_QJ (obsG_reply s t r) (Order.irr_reply s t r).2
  jpoint := fun _ n h => h.point qc_QJ n
  jldr := fun _ _ h => h.irr qc_QJ rfl id
  jrpcReply := fun _ _ h => h.irr qc_QJ rfl id
  jret := fun _ _ h => h.irr qc_QJ rfl id
  jLeader := fun _ _ h => h.irr qc_QJ rfl id
  jdoClose := fun s r h => h.irr qc_QJ (obsG_doClose s r) (Order.irr_doClose s r).2
  jTerm := fun _ t h => h.setTerm qc_QJ t
  jVotedFor := fun _ t c h => h.setVotedFor qc_QJ t c
  jvotesNeeded := fun _ _ h => h.irr qc_QJ rfl id
  jcandTransfer := fun _ _ h => h.irr qc_QJ rfl id
  jRemoveLTE := fun s i h => h.sub qc_QJ (fun e he => List.mem_of_mem_drop (show e ∈ s.log.entries.drop _ from he))
    rfl rfl rfl id
  jsnapPending := fun _ _ h => h.irr qc_QJ rfl id
  jsnapResult := fun _ _ h => h.irr qc_QJ rfl id
  jsnapRun := fun s h hps => j_snapRun s h hps
  jRoleF := fun _ h => j_roleF h
  jRoleC := fun _ h hv hp => let g := h hp; ⟨g.first, ⟨fun _ => g.q.2 hv, g.q.2⟩, g.labels, g.tr⟩
  jbootstrap := fun s t c h => j_bootstrap s t c h
  jappend := fun s q h hq => by rw [C04.stale_append_refused s q hq]; exact h.irr qc_QJ rfl id
  jinstall := fun s q h hq => j_install s q h hq

/-- **`J` after every step** other than an append request that is not stale, from a state satisfying `First`, `QJ`,
`LabelsPos` (the crash points recorded are those of this step) -/
theorem j_step (s : Node) (op : Op) (ra : List Nat) (ord : List (List Nat)) (hf : First s.log.entries) (hq : QJ s)
    (hl : LabelsPos s.snapsDisk) (hop : TwoOpOk PA PI PS (s.begin ra ord) op) : J (s.step op ra ord) :=
  g_closed.step_j s op ra ord (fun _ => ⟨hf, hq, hl, fun p hp => by cases hp⟩) hop

theorem as_core {s s' : Node} (h : AS s) (e : LogRel.Core s' = LogRel.Core s) : AS s' := by
  have o := obsL_of_core e
  simp only [obsL, Prod.mk.injEq] at o
  exact h.congr o.1 o.2.2.1 o.2.2.2 trivial

theorem as_resolveConflict {s : Node} (h : AS s) (ne : Entry) (pt : Nat) : AS (s.resolveConflict ne pt) := by
  unfold Node.resolveConflict
  split
  · split
    · exact as_core h (LogRel.core_panic _ _)
    · dsimp only
      have h1 : AS (s.removeGTE ne.index pt) := by
        unfold Node.removeGTE
        have h0 : AS { s with log := s.log.removeGTE ne.index, lastLogIndex := ne.index - 1, lastLogTerm := pt } :=
          h.sub (fun e he => List.mem_of_mem_take (show e ∈ s.log.entries.take _ from he)) rfl rfl trivial
        exact h0.point "removeGTE" trivial
      split
      · exact h1.congr rfl rfl rfl trivial
      · exact h1
  · exact h

theorem as_appendLoop (es : List Entry) (st : AppLoop) (h : AS st.s) (hes : First es) : AS (appendLoop st es).s := by
  have store : ∀ (st : AppLoop) ne rest, AS st.s → First (ne :: rest) → AS (stored st ne) := fun st ne _ h hes =>
    gs_appendEntry ne (as_resolveConflict h ne st.term) (hes ne (List.mem_cons_self ..)) trivial
  have tail : ∀ ne rest, First (ne :: rest) → First rest := fun _ _ hes => hes.sub fun e he => List.mem_cons_of_mem _ he
  refine appendLoop_rec (M := fun st es r => AS st.s → First es → AS r.s) (fun _ _ _ h _ => h)
    (fun _ _ _ _ _ _ ih h hes => ih h (tail _ _ hes)) (fun st ne rest y _ _ _ hy ih h hes => ih ?_ (tail _ _ hes))
    (fun st ne rest _ _ _ _ h hes => store st ne rest h hes) st es h hes
  rcases hy with ⟨_, rfl⟩ | ⟨c, _, rfl⟩
  · exact store st ne rest h hes
  · exact as_core (store st ne rest h hes) (LogRel.core_changeConfigR _ _)

theorem as_commitLog {s : Node} (h : AS s) (n : Nat) : AS (s.commitLog n) := by
  unfold Node.commitLog
  have h0 : AS { s with log := s.log.commitN n } :=
    h.congr (NLog.commitN_same s.log n).2.1 rfl rfl trivial
  exact h0.point "commitLog" trivial

theorem as_obsL {s s' : Node} (h : AS s) (e : obsL s' = obsL s) : AS s' := by
  simp only [obsL, Prod.mk.injEq] at e
  exact h.congr e.1 e.2.2.1 e.2.2.2 trivial

theorem as_commitApply {s : Node} (h : AS s) (i : Nat) : AS (s.setCommitIndexR i).1.applyCommitted :=
  as_obsL (as_core h (LogRel.core_setCommitIndexR s i)) (fsmFrame_obsL.applyCommitted_eq _)

theorem as_onAppendEntries (s : Node) (q : AppendReq) (h : AS s) (hq : First q.entries) : AS (s.onAppendEntries q) := by
  rw [onAppendEntries_stages]
  have ret : ∀ (x : Node) r, AS x → AS (x.ret r) := fun _ _ hx => hx.congr rfl rfl rfl trivial
  have flw : ∀ (x : Node) l, AS x → AS ((x.setRole .follower).setLeader l) := fun _ _ hx => hx.congr rfl rfl rfl trivial
  refine ite_ind (fun _ => ret _ _ h) fun _ => ?_
  have h2 : AS (followPre s q.term q.src) := flw _ _ (ite_ind (fun _ => GS.congr (Q' := fun _ => True)
    (h.of_rec (Q' := fun _ => True) (by rw [setTerm_shape]) (by rw [setTerm_shape]) (rec_setTerm s q.term) trivial)
    rfl rfl rfl trivial) fun _ => h)
  have h3 : AS ((followPre s q.term q.src).appendCheck q) :=
    as_core h2 (congrArg Prod.fst (CommitRel.appendCheck_fobs _ q).1)
  refine ite_ind (fun _ => h3) fun _ => ?_
  have h4 := as_appendLoop q.entries ⟨_, q.prevLogIndex, q.prevLogTerm, false, false⟩ h3 hq
  exact ret _ _ (ite_ind (fun _ => ite_ind (fun _ => as_commitApply (as_commitLog h4 _) _) fun _ => as_commitLog h4 _)
    fun _ => h4)

/-- **a step handling an append request that is not stale**: the node ends as a follower; entry 1 of its log is a
configuration, in memory and at every crash point of the step, if it was before and the request's entry with index 1, if
any, is one; the snapshot files are untouched -/
theorem append_step_as (s : Node) (q : AppendReq) (ra : List Nat) (ord : List (List Nat))
    (hq : ¬ q.term < s.term) (hf : First s.log.entries) (hl : LabelsPos s.snapsDisk) (he : First q.entries) :
    AS (s.step (.append q) ra ord) ∧ (s.step (.append q) ra ord).role = .follower := by
  refine ⟨?_, LogRel.append_step_role s q ra ord hq⟩
  have hpost : s.step (.append q) ra ord =
      settle 6 ((s.begin ra ord).handle (.append q)) (s.begin ra ord).role := rfl
  have hrole : ((s.begin ra ord).handle (.append q)).role = .follower := by
    show (((s.begin ra ord).onAppendEntries q).rpcDone false true).role = _
    rw [(SameKey.rpcDone _ _ _).role]
    exact LogRel.onAppendEntries_role _ q hq
  have hc := (LogRel.settle_follower ((s.begin ra ord).handle (.append q)) (s.begin ra ord).role hrole).2
  rw [hpost]
  refine as_core ?_ hc
  show AS (((s.begin ra ord).onAppendEntries q).rpcDone false true)
  have h0 : AS (s.begin ra ord) := ⟨hf, trivial, hl, fun p hp => by cases hp⟩
  have h1 := as_onAppendEntries _ q h0 he
  unfold Node.rpcDone
  split
  · exact as_core (h1.congr rfl rfl rfl trivial) (LogRel.core_panic _ _)
  · exact h1.congr rfl rfl rfl trivial

end FirstCfg
end Raft
