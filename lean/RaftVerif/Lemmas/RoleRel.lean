/-
Role transitions of one node over `Node.step`, for EVERY operation: who can become candidate or leader,
and how `term`, `votedFor`, `votesNeeded` move when that happens (`role_step`).

`StepClosed` (Lemmas/StepInv.lean) has unconditional `setRole`/`withVotesNeeded`/`setTerm` fields, so facts
that depend on the role are not instances of it. This file provides

* `GClosed Inv` — a guarded variant: the role may only be set to `follower`, the term/vote may only change
  while the role is `follower` (or together with the step down), `votesNeeded` is never written. These are the
  facts the walk of Lemmas/StepWalk.lean has at the call sites of `setRole`, `setTerm` and `setVotedFor`, so a
  `GClosed` predicate is an instance of it with the promotions and `bootstrap` switched off
  (`GClosed.toGuardedStep`, `GClosed.caps`): every handler that contains no promotion (everything except
  `followerTimeout`, `onTimeoutNow`, `bootstrap`, `startElection`, `onVoteResult`) preserves it;
* `Down b` — the instance: relative to `b`, the node identity is unchanged, the term did not decrease and
  either (role, term, votesNeeded) are those of `b` or the node is now a follower;
* the five promoting handlers, by hand; `handle_rel` (every case of `handle`), `settle_shape` (the role transitions
  after the handler, as equations), `StepPath` (the combinations of the two that can occur: the case analysis every
  summary of a step starts from, `step_path`) and the composition `role_step`.
-/
import RaftVerif.Lemmas.StepInv
import RaftVerif.Lemmas.Frame
import RaftVerif.Lemmas.LocalA
import RaftVerif.Lemmas.Quiet
import RaftVerif.Lemmas.ShapeAppend
import RaftVerif.Lemmas.ShapeSnap
import RaftVerif.Lemmas.Shape

namespace Raft
namespace Node

structure GClosed (Inv : Node → Prop) : Prop extends Closed Inv where
  rpcReply : ∀ (s : Node) r, Inv s → Inv (s.withRpcReply r)
  ret : ∀ (s : Node) r, Inv s → Inv (s.ret r)
  setLeader : ∀ (s : Node) l, Inv s → Inv (s.setLeader l)
  doClose : ∀ (s : Node) r, Inv s → Inv (s.doClose r)
  candTransfer : ∀ (s : Node) v, Inv s → Inv (s.withCandTransfer v)
  removeGTE : ∀ (s : Node) i pt, Inv s →
    Inv { s with log := s.log.removeGTE i, lastLogIndex := i - 1, lastLogTerm := pt }
  removeLTE : ∀ (s : Node) i, Inv s → Inv { s with log := s.log.removeLTE i }
  clearLog : ∀ (s : Node), Inv s →
    Inv { s with log := NLog.reset s.snapIndex, lastLogIndex := s.snapIndex, lastLogTerm := s.snapTerm }
  revertConfig : ∀ (s : Node), Inv s → Inv s.revertConfig
  commitConfig : ∀ (s : Node), Inv s → Inv s.commitConfig
  publishSnapshot : ∀ (s : Node) f, Inv s → Inv (s.publishSnapshot f)
  installCommit : ∀ (s : Node), Inv s → s.snapIndex > s.commitIndex → Inv (s.withCommitIndex s.snapIndex)
  snapPending : ∀ (s : Node) v, Inv s → Inv (s.withSnapPending v)
  snapResult : ∀ (s : Node) v, Inv s → Inv (s.withSnapResult v)
  toFollower : ∀ (s : Node), Inv s → Inv (s.setRole .follower)
  setTermF : ∀ (s : Node) t, Inv s → s.role = .follower → Inv (s.setTerm t)
  /-- `setTerm` immediately followed by the step down (append entries / install snapshot) -/
  termThenFollower : ∀ (s : Node) t, Inv s → Inv ((s.setTerm t).setRole .follower)
  voteF : ∀ (s : Node) t c, Inv s → s.role = .follower → Inv (s.setVotedFor t c)
  voteGrant : ∀ (s : Node) c, Inv s → s.votedFor = 0 → Inv (s.setVotedFor s.term c)

/-- what a `GClosed` predicate follows: every update but the promotions and `bootstrap` -/
def GClosed.caps : Caps := { Caps.all with promote := False, boot := False }

/-- the operations whose handlers contain no promotion -/
theorem GClosed.caps_ok (s : Node) (op : Op) (hto : op = .timeout → s.role = .leader) (htn : op ≠ .timeoutNow)
    (hvr : ∀ e t r, op ≠ .voteResult e t r) (hcc : ∀ t c, op ≠ .changeConfig t c) : GClosed.caps.Ok s op := by
  cases op
  case timeout => exact Or.inl (hto rfl)
  case timeoutNow => exact absurd rfl htn
  case voteResult e t r => exact absurd rfl (hvr e t r)
  case changeConfig t c => exact absurd rfl (hcc t c)
  case install q => exact Or.inr ⟨trivial, trivial⟩
  case snapTaken => exact ⟨trivial, trivial⟩
  case replUpdates us => exact ⟨trivial, trivial, fun _ => trivial⟩
  case shutdown => exact ⟨trivial, trivial, trivial, trivial, trivial⟩
  all_goals exact trivial

namespace GClosed

variable {Inv : Node → Prop} (h : GClosed Inv)
include h

theorem clearLog_g (s : Node) (hs : Inv s) : Inv s.clearLog := by
  unfold Node.clearLog; exact h.point _ _ (h.clearLog _ hs)

theorem fsmRestore_g (s : Node) (hs : Inv s) : Inv s.fsmRestore := fsmRestore_of h.panic h.fsm s hs

/-- The role is only set to follower, the term only written by a follower (or together with the step down), a vote of a
higher term only stored after the step down: the facts these updates have at their call sites in the walk. -/
theorem toGuardedStep : GuardedStep GClosed.caps Inv where
  toGuarded := h.toClosed.toGuarded
  ldrT := fun _ s l hs _ _ => h.ldr s l hs
  ldrAny := fun _ => h.ldr
  setRole := fun s r hs _ g => by
    rcases g with rfl | p
    · exact h.toFollower s hs
    · exact p.elim
  setLeader := h.setLeader
  setTerm := h.setTermF
  removeLTE := fun _ => h.removeLTE
  appendAny := fun s e hs => h.toClosed.appendEntry_inv s e hs
  rpcReply := h.rpcReply
  ret := h.ret
  doClose := fun _ => h.doClose
  voteNewTerm := fun s t v hs _ g => h.voteF s t v hs (g.resolve_right id)
  voteGrant := h.voteGrant
  votesNeeded := fun p => p.elim
  termDown := fun s t hs _ => h.termThenFollower s t hs
  bootTerm := fun p => p.elim
  bootRole := fun p => p.elim
  candTransfer := h.candTransfer
  removeGTE := fun s i pt hs _ _ _ => h.removeGTE s i pt hs
  revertConfig := h.revertConfig
  commitConfig := fun _ => h.commitConfig
  installCore := fun _ s f hs _ => h.fsmRestore_g _ (h.clearLog_g _ (h.publishSnapshot _ _ hs))
  installCommit := fun _ => h.installCommit
  snapRun := fun s hs _ => snapRun_of h.snapPending h.snapResult h.publishSnapshot s hs
  snapPending := h.snapPending
  snapResult := fun _ => h.snapResult
  bootstrapLast := fun p => p.elim

theorem storeEntry_g (f : Nat) (s : Node) (b) (hs : Inv s) : Inv (storeEntry f s b) :=
  h.toGuardedStep.storeEntry_inv f s b hs

theorem applyCommitted_g (s : Node) (hs : Inv s) : Inv s.applyCommitted := h.toGuardedStep.applyCommitted_inv s hs

theorem tryTransfer_g (s : Node) (hs : Inv s) : Inv s.tryTransfer := h.toGuardedStep.toAt.tryTransfer_inv trivial s hs

theorem onTransfer_g (s : Node) (t g : Nat) (hs : Inv s) : Inv (s.onTransfer t g) :=
  h.toGuardedStep.toAt.onTransfer_inv trivial s t g hs

theorem replyTransfer_g (s : Node) (r : String) (hs : Inv s) : Inv (s.replyTransfer r) :=
  h.toGuardedStep.toAt.replyTransfer_inv trivial s r hs

theorem onTimeoutNowResult_g (s : Node) (src : Nat) (e : Bool) (r : Nat) (hs : Inv s) :
    Inv (s.onTimeoutNowResult src e r) := h.toGuardedStep.toAt.onTimeoutNowResult_inv trivial s src e r hs

theorem leaderInit_g (s : Node) (hs : Inv s) : Inv s.leaderInit := h.toGuardedStep.leaderInit_inv trivial s hs

theorem onChangeConfig_g (s : Node) (t : Nat) (c : Config) (hs : Inv s) : Inv (s.onChangeConfig t c) :=
  h.toGuardedStep.onChangeConfig_inv s t c hs

theorem onWaitForStable_g (s : Node) (t : Nat) (hs : Inv s) : Inv (s.onWaitForStable t) :=
  h.toGuardedStep.onWaitForStable_inv s t hs

omit h in
theorem setRole_follower_role (s : Node) : (s.setRole .follower).role = .follower := rfl

theorem onVoteRequest_g (s : Node) (q : VoteReq) (hs : Inv s) : Inv (s.onVoteRequest q) :=
  h.toGuardedStep.toAt.onVoteRequest_inv s q hs

theorem appendLoop_g (st : AppLoop) (es : List Entry) (hs : Inv st.s) : Inv (appendLoop st es).s :=
  h.toGuardedStep.appendLoop_inv st es hs

theorem appendCheck_g (s : Node) (q : AppendReq) (hs : Inv s) : Inv (s.appendCheck q) :=
  h.toGuardedStep.appendCheck_inv s q hs

theorem onAppendEntries_g (s : Node) (q : AppendReq) (hs : Inv s) : Inv (s.onAppendEntries q) :=
  h.toGuardedStep.onAppendEntries_inv s q hs

theorem checkReplUpdates_g (s : Node) (us : List ReplUpdate) (hs : Inv s) : Inv (s.checkReplUpdates us) :=
  h.toGuardedStep.toAt.checkReplUpdates_inv trivial trivial s us (fun _ => trivial) hs

theorem rpcDone_g (s : Node) (a b : Bool) (hs : Inv s) : Inv (s.rpcDone a b) := h.toGuardedStep.toAt.rpcDone_inv s a b hs

theorem shutdown_g (s : Node) (hs : Inv s) : Inv s.shutdown :=
  h.toGuardedStep.shutdown_inv s ⟨trivial, trivial, trivial, trivial, trivial⟩ hs

end GClosed

structure SameKey (s s' : Node) : Prop where
  role : s'.role = s.role
  term : s'.term = s.term
  votedFor : s'.votedFor = s.votedFor
  votesNeeded : s'.votesNeeded = s.votesNeeded
  nid : s'.nid = s.nid
  configs : s'.configs = s.configs

namespace SameKey

theorem refl (s : Node) : SameKey s s := ⟨rfl, rfl, rfl, rfl, rfl, rfl⟩

theorem trans {a b c : Node} (h1 : SameKey a b) (h2 : SameKey b c) : SameKey a c :=
  ⟨h2.role.trans h1.role, h2.term.trans h1.term, h2.votedFor.trans h1.votedFor,
   h2.votesNeeded.trans h1.votesNeeded, h2.nid.trans h1.nid, h2.configs.trans h1.configs⟩

theorem panic (s : Node) (site : String) : SameKey s (s.panic site) := by
  unfold Node.panic; split
  · exact ⟨rfl, rfl, rfl, rfl, rfl, rfl⟩
  · exact refl s

theorem reply (s : Node) (t : Nat) (r : String) : SameKey s (s.reply t r) := by
  unfold Node.reply; split
  · exact refl s
  · exact ⟨rfl, rfl, rfl, rfl, rfl, rfl⟩

theorem assert (s : Node) (b : Bool) (site : String) : SameKey s (s.assert b site) :=
  assert_of (Inv := SameKey s) (fun x site hx => trans hx (panic x site)) s b site (refl s)

theorem rpcDone (s : Node) (a b : Bool) : SameKey s (s.rpcDone a b) :=
  rpcDone_of (Inv := SameKey s) (fun x site hx => trans hx (panic x site))
    (fun _ _ hx => trans hx ⟨rfl, rfl, rfl, rfl, rfl, rfl⟩) s a b (refl s)

theorem appendEntry (s : Node) (e : Entry) : SameKey s (s.appendEntry e) := by
  unfold Node.appendEntry
  exact trans (assert s _ _) ⟨rfl, rfl, rfl, rfl, rfl, rfl⟩

theorem setLeader (s : Node) (l : Nat) : SameKey s (s.setLeader l) := ⟨rfl, rfl, rfl, rfl, rfl, rfl⟩
theorem withLdr (s : Node) (l : Leader) : SameKey s (s.withLdr l) := ⟨rfl, rfl, rfl, rfl, rfl, rfl⟩

theorem releaseRole (s : Node) (r : Role) : SameKey s (s.releaseRole r) :=
  releaseRole_of (P := SameKey s) (fun _ _ hx => trans hx ⟨rfl, rfl, rfl, rfl, rfl, rfl⟩)
    (Node.leaderRelease_of (fun x l hx _ _ _ _ _ _ => trans hx (withLdr x l))
      (fun x t r hx => trans hx (reply x t r)) (fun x l hx => trans hx (setLeader x l))
      (fun x hx => trans hx (withLdr x _))) s r (refl s)

end SameKey

theorem setTerm_key (s : Node) (t : Nat) :
    (s.setTerm t).nid = s.nid ∧ (s.setTerm t).role = s.role ∧ (s.setTerm t).votesNeeded = s.votesNeeded ∧
    (s.setTerm t).configs = s.configs ∧ s.term ≤ (s.setTerm t).term ∧
    (t ≤ s.term → (s.setTerm t).term = s.term) := by
  refine ⟨by rw [Node.setTerm_shape], by rw [Node.setTerm_shape], by rw [Node.setTerm_shape],
    by rw [Node.setTerm_shape], ?_, ?_⟩ <;> unfold Node.setTerm
  · by_cases h1 : s.term ≠ t
    · rw [if_pos h1]
      by_cases h2 : t > s.term
      · rw [if_pos h2, Node.storeTermVote_shape]; exact Nat.le_of_lt h2
      · rw [if_neg h2, Node.panic_shape]; exact Nat.le_refl _
    · rw [if_neg h1]; exact Nat.le_refl _
  · intro hle
    by_cases h1 : s.term ≠ t
    · rw [if_pos h1, if_neg (Nat.not_lt.mpr hle), Node.panic_shape]
    · rw [if_neg h1]

theorem setVotedFor_key (s : Node) (t c : Nat) :
    (s.setVotedFor t c).nid = s.nid ∧ (s.setVotedFor t c).role = s.role ∧
    (s.setVotedFor t c).votesNeeded = s.votesNeeded ∧ (s.setVotedFor t c).configs = s.configs ∧
    s.term ≤ (s.setVotedFor t c).term ∧
    (t ≥ s.term → (s.setVotedFor t c).term = t ∧ (s.setVotedFor t c).votedFor = c) := by
  refine ⟨by rw [Node.setVotedFor_shape], by rw [Node.setVotedFor_shape], by rw [Node.setVotedFor_shape],
    by rw [Node.setVotedFor_shape], ?_, ?_⟩ <;> unfold Node.setVotedFor
  · by_cases h1 : t ≠ s.term ∨ c ≠ s.votedFor
    · rw [if_pos h1]
      by_cases h2 : t ≥ s.term
      · rw [if_pos h2, Node.storeTermVote_shape]; exact h2
      · rw [if_neg h2, Node.panic_shape]; exact Nat.le_refl _
    · rw [if_neg h1]; exact Nat.le_refl _
  · intro hge
    by_cases h1 : t ≠ s.term ∨ c ≠ s.votedFor
    · rw [if_pos h1, if_pos hge, Node.storeTermVote_shape]; exact ⟨rfl, rfl⟩
    · rw [if_neg h1]
      exact ⟨(Decidable.not_not.mp fun h => h1 (Or.inl h)).symm, (Decidable.not_not.mp fun h => h1 (Or.inr h)).symm⟩

theorem setCommitIndexR_key (s : Node) (i : Nat) :
    (s.setCommitIndexR i).1.nid = s.nid ∧ (s.setCommitIndexR i).1.term = s.term ∧
    (s.setCommitIndexR i).1.votesNeeded = s.votesNeeded ∧
    ((s.setCommitIndexR i).1.role = s.role ∨ (s.setCommitIndexR i).1.role = .follower) := by
  exact ⟨by rw [Node.setCommitIndexR_shape], by rw [Node.setCommitIndexR_shape],
    by rw [Node.setCommitIndexR_shape], (Node.setCommitIndexR_spec s i).2.2.2.1.imp id (·.2)⟩

def Down (b s : Node) : Prop :=
  s.nid = b.nid ∧ b.term ≤ s.term ∧
  ((s.role = b.role ∧ s.term = b.term ∧ s.votesNeeded = b.votesNeeded) ∨ s.role = .follower)

theorem Down.refl (b : Node) : Down b b := ⟨rfl, Nat.le_refl _, Or.inl ⟨rfl, rfl, rfl⟩⟩

theorem down_congr {b s s' : Node} (h : Down b s) (e1 : s'.nid = s.nid) (e2 : s'.term = s.term)
    (e3 : s'.role = s.role) (e4 : s'.votesNeeded = s.votesNeeded) : Down b s' := by
  unfold Down at *; rw [e1, e2, e3, e4]; exact h

theorem down_sk {b s s' : Node} (h : Down b s) (k : SameKey s s') : Down b s' :=
  down_congr h k.nid k.term k.role k.votesNeeded

theorem down_closed (b : Node) : GClosed (Down b) where
  panic := fun s site h => down_sk h (SameKey.panic s site)
  reply := fun s t r h => down_sk h (SameKey.reply s t r)
  point := fun s n h => down_congr h rfl rfl rfl rfl
  ldr := fun s l h => down_congr h rfl rfl rfl rfl
  append := fun s e r h => down_congr h rfl rfl rfl rfl
  commitN := fun s n h => down_congr h rfl rfl rfl rfl
  fsm := fun s f h => down_congr h rfl rfl rfl rfl
  changeConfigR := fun s c h => by
    refine down_congr h ?_ ?_ ?_ ?_ <;> rw [Node.changeConfigR_shape]
  setCommitIndexR := fun s i h _ => by
    obtain ⟨e1, e2, e3, e4⟩ := setCommitIndexR_key s i
    obtain ⟨h1, h2, h3⟩ := h
    refine ⟨by rw [e1]; exact h1, by rw [e2]; exact h2, ?_⟩
    rcases e4 with e4 | e4
    · rw [e4, e2, e3]; exact h3
    · right; exact e4
  popOrder := fun s h => down_congr h rfl rfl rfl rfl
  rpcReply := fun s r h => down_congr h rfl rfl rfl rfl
  ret := fun s r h => down_congr h rfl rfl rfl rfl
  setLeader := fun s l h => down_congr h rfl rfl rfl rfl
  doClose := fun s r h => by
    refine down_congr h ?_ ?_ ?_ ?_ <;> rw [Node.doClose_shape]
  candTransfer := fun s v h => down_congr h rfl rfl rfl rfl
  removeGTE := fun s i pt h => down_congr h rfl rfl rfl rfl
  removeLTE := fun s i h => down_congr h rfl rfl rfl rfl
  clearLog := fun s h => down_congr h rfl rfl rfl rfl
  revertConfig := fun s h => down_congr h rfl rfl rfl rfl
  commitConfig := fun s h => by
    refine down_congr h ?_ ?_ ?_ ?_ <;> rw [Node.commitConfig_shape]
  publishSnapshot := fun s f h => down_congr h rfl rfl rfl rfl
  installCommit := fun s h _ => down_congr h rfl rfl rfl rfl
  snapPending := fun s v h => down_congr h rfl rfl rfl rfl
  snapResult := fun s v h => down_congr h rfl rfl rfl rfl
  toFollower := fun s h => ⟨h.1, h.2.1, Or.inr rfl⟩
  setTermF := fun s t h hr => by
    obtain ⟨e1, e2, e3, e4, e5, _⟩ := setTerm_key s t
    exact ⟨by rw [e1]; exact h.1, Nat.le_trans h.2.1 e5, Or.inr (by rw [e2]; exact hr)⟩
  termThenFollower := fun s t h => by
    obtain ⟨e1, e2, e3, e4, e5, _⟩ := setTerm_key s t
    exact ⟨by show (s.setTerm t).nid = _; rw [e1]; exact h.1, Nat.le_trans h.2.1 e5, Or.inr rfl⟩
  voteF := fun s t c h hr => by
    obtain ⟨e1, e2, e3, e4, e5, _⟩ := setVotedFor_key s t c
    exact ⟨by rw [e1]; exact h.1, Nat.le_trans h.2.1 e5, Or.inr (by rw [e2]; exact hr)⟩
  voteGrant := fun s c h _ => by
    obtain ⟨e1, e2, e3, e4, e5, e6⟩ := setVotedFor_key s s.term c
    exact down_congr h e1 (e6 (Nat.le_refl _)).1 e2 e3

/-- `candidate.startElection`: term + 1, vote for itself, `votesNeeded = quorum - 1` of the latest
configuration, leader at once exactly when that is zero. -/
theorem startElection_spec (s : Node) :
    s.startElection.nid = s.nid ∧ s.startElection.term = s.term + 1 ∧ s.startElection.votedFor = s.nid ∧
    s.startElection.configs = s.configs ∧
    s.startElection.votesNeeded = (s.configs.latest.quorum : Int) - 1 ∧
    (((s.configs.latest.quorum : Int) - 1 = 0 ∧ s.startElection.role = .leader) ∨
     ((s.configs.latest.quorum : Int) - 1 ≠ 0 ∧ s.startElection.role = s.role)) := by
  unfold Node.startElection
  extract_lets s1 s2 s3 s4
  have k1 : SameKey s s1 := SameKey.assert s _ _
  clear_value s1
  obtain ⟨b1, b2, b3, b4, _, b6⟩ :
      s3.nid = s1.nid ∧ s3.role = s1.role ∧ s3.votesNeeded = (s1.configs.latest.quorum : Int) ∧
      s3.configs = s1.configs ∧ _ ∧ (s1.term + 1 ≥ s1.term → s3.term = s1.term + 1 ∧ s3.votedFor = s1.nid) :=
    setVotedFor_key s2 (s2.term + 1) s2.nid
  obtain ⟨b6, b7⟩ := b6 (Nat.le_succ _)
  clear_value s3
  have c5 : s4.votesNeeded = (s.configs.latest.quorum : Int) - 1 := by rw [← k1.configs, ← b3]; rfl
  have c : s4.nid = s.nid ∧ s4.term = s.term + 1 ∧ s4.votedFor = s.nid ∧ s4.configs = s.configs :=
    ⟨b1.trans k1.nid, by rw [← k1.term]; exact b6, b7.trans k1.nid, b4.trans k1.configs⟩
  by_cases h0 : s4.votesNeeded = 0
  · rw [if_pos h0]
    exact ⟨c.1, c.2.1, c.2.2.1, c.2.2.2, c5, Or.inl ⟨c5 ▸ h0, rfl⟩⟩
  · rw [if_neg h0]
    exact ⟨c.1, c.2.1, c.2.2.1, c.2.2.2, c5, Or.inr ⟨c5 ▸ h0, b2.trans k1.role⟩⟩

/-- the operation is a vote response that the candidate `s` counts as a granted vote -/
def Counts (s : Node) (op : Op) : Prop :=
  s.role = .candidate ∧ ∃ tm, tm ≤ s.term ∧ op = .voteResult false tm rSuccess

/-- Relation between the state `b` a handler starts from and the state `h` it returns (`handle`, before
the role transitions). -/
inductive HRel (b : Node) (op : Op) (h : Node) : Prop
  /-- role, term and `votesNeeded` unchanged (and the operation was not a counted vote) -/
  | same : ¬ Counts b op → h.role = b.role → h.term = b.term → h.votesNeeded = b.votesNeeded → HRel b op h
  | follower : h.role = .follower → HRel b op h
  /-- the handler asked for an election (`setRole candidate`); `startElection` runs in the role transition.
  The handler checked that the node is a voter of its latest configuration, which it did not change
  (except `bootstrap`, which installs the first configuration). -/
  | pending : b.role ≠ .candidate → h.role = .candidate → b.term ≤ h.term →
      (b.configs.isBootstrapped = true → h.configs.latest = b.configs.latest) →
      h.configs.latest.isVoter h.nid = true → HRel b op h
  /-- a success response was counted -/
  | counted : Counts b op → h.term = b.term → h.votesNeeded = b.votesNeeded - 1 →
      ((b.votesNeeded - 1 = 0 ∧ h.role = .leader) ∨ (b.votesNeeded - 1 ≠ 0 ∧ h.role = .candidate)) → HRel b op h
  /-- election timeout of a candidate: a new election -/
  | reelect : b.role = .candidate → h = b.startElection → HRel b op h

theorem HRel.of_down {b h : Node} {op : Op} (hd : Down b h) (hn : ¬ Counts b op) : HRel b op h := by
  rcases hd.2.2 with ⟨a, b', c⟩ | a
  · exact .same hn a b' c
  · exact .follower a

theorem followerTimeout_rel (b : Node) (op : Op) (hn : ¬ Counts b op) (hr : b.role = .follower) :
    b.followerTimeout.nid = b.nid ∧ HRel b op b.followerTimeout := by
  unfold Node.followerTimeout
  dsimp only
  split
  · rename_i hc
    refine ⟨rfl, ?_⟩
    have hc' : b.configs.isBootstrapped = true ∧ b.configs.latest.isVoter b.nid = true := by
      simpa [Node.canStartElection, Node.setLeader] using hc
    exact .pending (by rw [hr]; decide) rfl (Nat.le_refl _) (fun _ => rfl) hc'.2
  · exact ⟨rfl, .same hn rfl rfl rfl⟩

theorem onTimeoutNow_key (s : Node) :
    s.onTimeoutNow.nid = s.nid ∧ s.onTimeoutNow.term = s.term ∧ s.onTimeoutNow.votesNeeded = s.votesNeeded ∧
    s.onTimeoutNow.configs = s.configs ∧
    (s.onTimeoutNow.role = s.role ∨ s.configs.latest.isVoter s.nid = true ∧ s.onTimeoutNow.role = .candidate) := by
  unfold Node.onTimeoutNow
  by_cases hv : (!s.configs.latest.isVoter s.nid) = true
  · rw [if_pos hv]
    exact ⟨rfl, rfl, rfl, rfl, Or.inl rfl⟩
  · rw [if_neg hv]
    unfold Node.ret Node.withCandTransfer Node.setLeader Node.setRole
    exact ⟨rfl, rfl, rfl, rfl, Or.inr ⟨by simpa using hv, rfl⟩⟩

theorem onTimeoutNow_rel (b : Node) (op : Op) (hn : ¬ Counts b op) :
    (b.onTimeoutNow.rpcDone false).nid = b.nid ∧ HRel b op (b.onTimeoutNow.rpcDone false) := by
  have k := SameKey.rpcDone b.onTimeoutNow false false
  obtain ⟨o1, o2, o3, o4, o5⟩ := onTimeoutNow_key b
  refine ⟨k.nid.trans o1, ?_⟩
  rcases o5 with o5 | ⟨hv, o5⟩
  · exact .same hn (k.role.trans o5) (k.term.trans o2) (k.votesNeeded.trans o3)
  · by_cases hc : b.role = .candidate
    · exact .same hn (k.role.trans (o5.trans hc.symm)) (k.term.trans o2) (k.votesNeeded.trans o3)
    · refine .pending hc (k.role.trans o5) (by rw [k.term, o2]; exact Nat.le_refl _)
        (fun _ => by rw [k.configs, o4]) ?_
      rw [k.configs, o4, k.nid, o1]; exact hv

theorem changeConfigR_key (s : Node) (c : Config) :
    (s.changeConfigR c).nid = s.nid ∧ (s.changeConfigR c).role = s.role ∧ (s.changeConfigR c).term = s.term ∧
    (s.changeConfigR c).votesNeeded = s.votesNeeded ∧ (s.changeConfigR c).configs.latest = c := by
  unfold Node.changeConfigR
  dsimp only
  refine ⟨?_, ?_, ?_, ?_, ?_⟩ <;> first | rfl | (split <;> rfl)

theorem bootstrap_rel (b : Node) (op : Op) (task : Nat) (c : Config) (hn : ¬ Counts b op)
    (hc : b.role = .candidate → b.term ≠ 0) :
    (b.bootstrap task c).nid = b.nid ∧ HRel b op (b.bootstrap task c) := by
  have hrep : ∀ r, (b.reply task r).nid = b.nid ∧ HRel b op (b.reply task r) := fun r =>
    ⟨(SameKey.reply b task r).nid, .same hn (SameKey.reply b task r).role (SameKey.reply b task r).term
      (SameKey.reply b task r).votesNeeded⟩
  unfold Node.bootstrap
  split
  · exact hrep _
  · rename_i hboot
    split
    · exact hrep _
    · split
      · exact hrep _
      · rename_i self hself
        split
        · exact hrep _
        · rename_i hvoter
          split
          · exact hrep _
          · extract_lets c' s1 s2 s3 s4 s5 s6
            have k1 : SameKey b s1 := SameKey.appendEntry b _
            clear_value s1
            have k2 : SameKey b s2 := SameKey.trans k1 ⟨rfl, rfl, rfl, rfl, rfl, rfl⟩
            clear_value s2
            obtain ⟨t1, t2, t3, t4, t5, t6⟩ := setTerm_key s2 1
            have e3 : s3.nid = b.nid ∧ s3.role = b.role ∧ s3.votesNeeded = b.votesNeeded ∧ b.term ≤ s3.term ∧
                (1 ≤ b.term → s3.term = b.term) :=
              ⟨t1.trans k2.nid, t2.trans k2.role, t3.trans k2.votesNeeded, by rw [← k2.term]; exact t5,
               fun h1 => (t6 (by rw [k2.term]; exact h1)).trans k2.term⟩
            clear_value s3
            obtain ⟨u1, u2, u3, u4, u5⟩ := changeConfigR_key s4 c'
            have k6 := SameKey.reply s5 task "ok"
            have f1 : s6.nid = b.nid := by rw [k6.nid, u1]; exact e3.1
            have f2 : s6.role = b.role := by rw [k6.role, u2]; exact e3.2.1
            have f3 : s6.votesNeeded = b.votesNeeded := by rw [k6.votesNeeded, u4]; exact e3.2.2.1
            have f4 : s6.term = s3.term := by rw [k6.term, u3]; rfl
            have f5 : s6.configs.latest = c' := by rw [k6.configs, u5]
            clear_value s6 s5 s4
            refine ⟨f1, ?_⟩
            by_cases hcand : b.role = .candidate
            · refine .same hn ?_ ?_ f3
              · rw [hcand]; rfl
              · show s6.term = b.term
                rw [f4]; exact e3.2.2.2.2 (Nat.pos_of_ne_zero (hc hcand))
            · refine .pending hcand rfl (by show b.term ≤ s6.term; rw [f4]; exact e3.2.2.2.1)
                (fun hb => absurd hb hboot) ?_
              show s6.configs.latest.isVoter s6.nid = true
              rw [f5, f1]
              have hv : self.voter = true := by simpa using hvoter
              show (match c.find? b.nid with | some n => n.voter | none => false) = true
              rw [hself]; exact hv

theorem onVoteResult_rel (b : Node) (err : Bool) (tm res : Nat) (hr : b.role = .candidate) :
    (b.onVoteResult err tm res).nid = b.nid ∧ HRel b (.voteResult err tm res) (b.onVoteResult err tm res) := by
  unfold Node.onVoteResult
  split
  · rename_i he
    refine ⟨rfl, .same ?_ rfl rfl rfl⟩
    rintro ⟨_, tm', _, e⟩
    injection e with e1 _ _
    rw [he] at e1; cases e1
  · rename_i he
    have he' : err = false := by simpa using he
    split
    · obtain ⟨t1, t2, _, _, _, _⟩ := setTerm_key (b.setRole .follower) tm
      exact ⟨t1, .follower t2⟩
    · rename_i hgt
      split
      · rename_i hres
        have hcnt : Counts b (.voteResult err tm res) := ⟨hr, tm, Nat.le_of_not_lt hgt, by rw [he', hres]⟩
        dsimp only
        split
        · rename_i h0
          have hL : ∀ x : Node, ((x.setRole .leader).setLeader x.nid).nid = x.nid ∧
              ((x.setRole .leader).setLeader x.nid).term = x.term := fun _ => ⟨rfl, rfl⟩
          exact ⟨(hL _).1, .counted hcnt (hL _).2 rfl (Or.inl ⟨h0, rfl⟩)⟩
        · rename_i h0
          exact ⟨rfl, .counted hcnt rfl rfl (Or.inr ⟨h0, hr⟩)⟩
      · rename_i hres
        refine ⟨rfl, .same ?_ rfl rfl rfl⟩
        rintro ⟨_, tm', _, e⟩
        injection e with _ _ e3
        exact hres e3

theorem not_counts {b : Node} {op : Op} (h : ∀ e t r, op ≠ .voteResult e t r) : ¬ Counts b op := by
  rintro ⟨_, tm, _, e⟩
  exact h _ _ _ e

theorem handle_rel (b : Node) (op : Op) (hc : b.role = .candidate → b.term ≠ 0) :
    (b.handle op).nid = b.nid ∧ HRel b op (b.handle op) := by
  by_cases hv : ∃ e t r, op = .voteResult e t r
  · obtain ⟨e, t, r, rfl⟩ := hv
    unfold Node.handle
    dsimp only
    split
    · rename_i hr; exact onVoteResult_rel b e t r hr
    · rename_i hr
      exact ⟨rfl, .same (fun hcn => hr hcn.1) rfl rfl rfl⟩
  -- every other operation counts no vote, and apart from the elections its handler only lowers the role
  have hn : ¬ Counts b op := fun ⟨_, tm, _, e⟩ => hv ⟨_, _, _, e⟩
  have G := (down_closed b).toGuardedStep
  have D0 := Down.refl b
  have fin : ∀ {x : Node}, Down b x → x.nid = b.nid ∧ HRel b op x := fun hd => ⟨hd.1, HRel.of_down hd hn⟩
  have rest : (op = .timeout → b.role = .leader) → op ≠ .timeoutNow → (∀ t c, op ≠ .changeConfig t c) →
      (b.handle op).nid = b.nid ∧ HRel b op (b.handle op) := fun h1 h2 h3 =>
    fin (G.handle_inv b op (GClosed.caps_ok b op h1 h2 (fun e t r he => hv ⟨e, t, r, he⟩) h3) D0)
  -- the promotions and `bootstrap`
  cases op
  case timeoutNow => exact onTimeoutNow_rel b _ hn
  case timeout =>
    by_cases hl : b.role = .leader
    · exact rest (fun _ => hl) (fun e => nomatch e) (fun _ _ e => nomatch e)
    · unfold Node.handle
      dsimp only
      split
      · rename_i hr; exact followerTimeout_rel b _ hn hr
      · rename_i hr; exact ⟨(startElection_spec b).1, .reelect hr rfl⟩
      · rename_i hr; exact absurd hr hl
  case changeConfig t c =>
    unfold Node.handle
    dsimp only
    split
    · exact fin (G.onChangeConfig_inv _ _ _ D0)
    · exact bootstrap_rel b _ t c hn hc
  all_goals exact rest (fun e => nomatch e) (fun e => nomatch e) (fun _ _ e => nomatch e)

theorem settle_same (m : Nat) (s : Node) : settle m s s.role = s := by
  cases m with
  | zero => rfl
  | succ m => unfold settle; rw [if_pos rfl]

/-- the role transitions of a step that ended in the role it began in: none -/
theorem settle_of_role {m : Nat} {s : Node} {cur : Role} (h : s.role = cur) : settle m s cur = s :=
  h ▸ settle_same m s

/-- one round of role transitions: `release` of the role the step began in, `init` of the role the handler left -/
theorem settle_step {m : Nat} {s : Node} {cur : Role} (h : s.role ≠ cur) :
    settle (m + 1) s cur = settle m (s.releaseRole cur).initRole (s.releaseRole cur).role := by
  rw [settle, if_neg h]

theorem termVote_frame : Frame (fun s : Node => (s.term, s.votedFor)) where
  panic := fun s site => by unfold Node.panic; split <;> rfl
  reply := fun s t r => by unfold Node.reply; split <;> rfl
  point := fun _ _ => rfl
  ldr := fun _ _ => rfl
  log := fun _ _ _ _ => rfl
  logOnly := fun _ _ => rfl
  fsm := fun _ _ => rfl
  configs := fun _ _ => rfl
  commitIndex := fun _ _ => rfl
  leader := fun _ _ => rfl
  role := fun _ _ => rfl
  closed := fun _ _ => rfl
  popOrder := fun _ => rfl

/-- after `leader.init` the loop is done, or the node found itself removed and is released to follower -/
theorem settle_after_init (m : Nat) (x : Node) (hx : x.role = .leader) :
    (x.leaderInit.role = .leader ∧ settle (m + 1) x.leaderInit .leader = x.leaderInit) ∨
    (x.leaderInit.role = .follower ∧ settle (m + 1) x.leaderInit .leader = x.leaderInit.releaseRole .leader) := by
  have hd : Down x x.leaderInit := (down_closed x).leaderInit_g x (Down.refl x)
  unfold settle
  split
  · rename_i hr
    exact Or.inl ⟨hr, rfl⟩
  · rename_i hr
    have hfol : x.leaderInit.role = .follower := by
      rcases hd.2.2 with ⟨a, _, _⟩ | a
      · rw [hx] at a; exact absurd a hr
      · exact a
    dsimp only
    have k := SameKey.releaseRole x.leaderInit .leader
    have hrr : (x.leaderInit.releaseRole .leader).role = .follower := by rw [k.role]; exact hfol
    have hinit : (x.leaderInit.releaseRole .leader).initRole = x.leaderInit.releaseRole .leader := by
      unfold Node.initRole; rw [hrr]
    rw [hinit, hrr]
    have := settle_same m (x.leaderInit.releaseRole .leader)
    rw [hrr] at this
    rw [this]
    exact Or.inr ⟨hfol, rfl⟩

/-- The shapes of the role transitions that follow a handler whose result `h` has a role different from
the one (`cur`) whose `init` ran last. -/
inductive SettleShape (h : Node) (cur : Role) (post : Node) : Prop
  | follower : h.role = .follower → post = h.releaseRole cur → SettleShape h cur post
  | leader (x : Node) : h.role = .leader → x = h.releaseRole cur →
      ((x.leaderInit.role = .leader ∧ post = x.leaderInit) ∨
       (x.leaderInit.role = .follower ∧ post = x.leaderInit.releaseRole .leader)) → SettleShape h cur post
  | cand : h.role = .candidate → post = (h.releaseRole cur).startElection → post.role = .candidate →
      SettleShape h cur post
  | candLeader (x : Node) : h.role = .candidate → (h.releaseRole cur).startElection.role = .leader →
      x = (h.releaseRole cur).startElection.releaseRole .candidate →
      ((x.leaderInit.role = .leader ∧ post = x.leaderInit) ∨
       (x.leaderInit.role = .follower ∧ post = x.leaderInit.releaseRole .leader)) → SettleShape h cur post

theorem settle_shape (n : Nat) (h : Node) (cur : Role) (hne : h.role ≠ cur) :
    SettleShape h cur (settle (n + 3) h cur) := by
  rw [settle_step hne]
  have k := SameKey.releaseRole h cur
  generalize hh1 : h.releaseRole cur = h1 at k ⊢
  cases hr : h.role with
  | follower =>
    have hr1 : h1.role = .follower := by rw [k.role]; exact hr
    have hinit : h1.initRole = h1 := by unfold Node.initRole; rw [hr1]
    rw [hinit, hr1]
    have := settle_same (n + 2) h1
    rw [hr1] at this
    rw [this]
    exact .follower hr hh1.symm
  | leader =>
    have hr1 : h1.role = .leader := by rw [k.role]; exact hr
    have hinit : h1.initRole = h1.leaderInit := by unfold Node.initRole; rw [hr1]
    rw [hinit, hr1]
    exact .leader h1 hr hh1.symm (settle_after_init (n + 1) h1 hr1)
  | candidate =>
    have hr1 : h1.role = .candidate := by rw [k.role]; exact hr
    have hinit : h1.initRole = h1.startElection := by unfold Node.initRole; rw [hr1]
    rw [hinit, hr1]
    obtain ⟨_, _, _, _, _, e6⟩ := startElection_spec h1
    unfold settle
    rcases e6 with ⟨q0, e6⟩ | ⟨q0, e6⟩
    · rw [if_neg (by rw [e6]; decide)]
      dsimp only
      have k2 := SameKey.releaseRole h1.startElection .candidate
      generalize hh2 : h1.startElection.releaseRole .candidate = h2 at k2 ⊢
      have hr2 : h2.role = .leader := by rw [k2.role]; exact e6
      have hinit2 : h2.initRole = h2.leaderInit := by unfold Node.initRole; rw [hr2]
      rw [hinit2, hr2]
      exact .candLeader h2 hr (by rw [hh1]; exact e6) (by rw [hh1]; exact hh2.symm) (settle_after_init n h2 hr2)
    · rw [e6, hr1, if_pos rfl]
      exact .cand hr (by rw [hh1]) (by rw [e6, hr1])

/-- a handler that leaves a follower: the step ends with its result, or with the release of the old role -/
theorem settle_of_follower (h : Node) (cur : Role) (hf : h.role = .follower) :
    settle 6 h cur = h ∨ settle 6 h cur = h.releaseRole cur := by
  by_cases hrole : h.role = cur
  · exact .inl (settle_of_role hrole)
  · right
    cases settle_shape 3 h cur hrole with
    | follower _ e => exact e
    | leader x r _ _ => rw [hf] at r; cases r
    | cand r _ _ => rw [hf] at r; cases r
    | candLeader x r _ _ _ => rw [hf] at r; cases r

/-- a handler that at most steps down -/
theorem Down.settle {b h : Node} (hd : Down b h) :
    settle 6 h b.role = h ∨ (h.role = .follower ∧ settle 6 h b.role = h.releaseRole b.role) := by
  rcases hd.2.2 with ⟨a, _, _⟩ | a
  · exact .inl (settle_of_role a)
  · exact (settle_of_follower h b.role a).imp id fun e => ⟨a, e⟩

/-- `leader.init` of `x` ends the step, unless it finds the node removed: then the loop releases the leader again -/
def InitTail (x post : Node) : Prop :=
  (x.leaderInit.role = .leader ∧ post = x.leaderInit) ∨
  (x.leaderInit.role = .follower ∧ post = x.leaderInit.releaseRole .leader)

/-- a node that leads after the role transitions has kept the role its handler ended in, or `leader.init` ran last -/
theorem settle_leader_cases (n : Nat) (h : Node) (cur : Role) (hl : (settle (n + 3) h cur).role = .leader) :
    (h.role = cur ∧ settle (n + 3) h cur = h) ∨ ∃ x : Node, settle (n + 3) h cur = x.leaderInit := by
  by_cases hr : h.role = cur
  · exact .inl ⟨hr, settle_of_role hr⟩
  · have tail : ∀ x : Node, InitTail x (settle (n + 3) h cur) → ∃ x : Node, settle (n + 3) h cur = x.leaderInit := by
      rintro x (⟨_, e⟩ | ⟨hf, e⟩)
      · exact ⟨x, e⟩
      · rw [e, (SameKey.releaseRole _ _).role, hf] at hl; cases hl
    right
    cases settle_shape n h cur hr with
    | follower hf e => rw [e, (SameKey.releaseRole _ _).role, hf] at hl; cases hl
    | leader x _ _ hp => exact tail x hp
    | cand _ _ hc => rw [hc] at hl; cases hl
    | candLeader x _ _ _ hp => exact tail x hp

/-- the handler (of a node that was not a candidate) asked for an election: `HRel.pending` -/
structure Pending (b h : Node) : Prop where
  notCand : b.role ≠ .candidate
  role : h.role = .candidate
  term : b.term ≤ h.term
  cfg : b.configs.isBootstrapped = true → h.configs.latest = b.configs.latest
  voter : h.configs.latest.isVoter h.nid = true

/-- The ways from the handler's result `h` (started in `b`) through the role transitions of `stateLoop` to the end `post`
of the step: of the combinations of `HRel` and `SettleShape`, those that can occur. -/
inductive StepPath (b : Node) (op : Op) (h post : Node) : Prop
  | stay : post = h → h.role = b.role → HRel b op h → StepPath b op h post
  | down : h.role = .follower → b.role ≠ .follower → post = h.releaseRole b.role → StepPath b op h post
  | elect : Pending b h → post = (h.releaseRole b.role).startElection → post.role = .candidate → StepPath b op h post
  /-- the election asked for was won at once: a quorum of one -/
  | electWon (x : Node) : Pending b h → (h.releaseRole b.role).startElection.role = .leader →
      x = (h.releaseRole b.role).startElection.releaseRole .candidate → InitTail x post → StepPath b op h post
  /-- a candidate counted the last missing vote -/
  | won (x : Node) : Counts b op → b.votesNeeded - 1 = 0 → h.term = b.term → h.role = .leader →
      x = h.releaseRole b.role → InitTail x post → StepPath b op h post
  /-- a candidate's election timeout: a new election, won at once -/
  | reelectWon (x : Node) : b.role = .candidate → h = b.startElection → h.role = .leader →
      x = h.releaseRole b.role → InitTail x post → StepPath b op h post

theorem step_settle (s : Node) (op : Op) (ra : List Nat) (ord : List (List Nat)) (hop : op ≠ .shutdown) :
    s.step op ra ord = settle 6 ((s.begin ra ord).handle op) (s.begin ra ord).role := by
  unfold Node.step
  cases op <;> first | rfl | exact absurd rfl hop

/-- `step_settle` with the role read before `begin` (which keeps it) -/
theorem step_eq_settle (s : Node) (op : Op) (ra : List Nat) (ord : List (List Nat)) (hne : op ≠ .shutdown) :
    s.step op ra ord = settle 6 ((s.begin ra ord).handle op) s.role :=
  step_settle s op ra ord hne

theorem step_shutdown (s : Node) (ra : List Nat) (ord : List (List Nat)) :
    s.step .shutdown ra ord = (s.begin ra ord).shutdown := rfl

/-- a handler that leaves the role as it was ends the step -/
theorem step_same_role (s : Node) (op : Op) (ra : List Nat) (ord : List (List Nat))
    (hr : ((s.begin ra ord).handle op).role = s.role) : s.step op ra ord = (s.begin ra ord).handle op := by
  by_cases hne : op = .shutdown
  · subst hne; rfl
  · rw [step_eq_settle s op ra ord hne, ← hr]
    exact settle_same 6 _

/-- a `disconnected` notification about nobody: the step only clears the outputs of the previous step -/
theorem step_disconnected0 (s : Node) (ra : List Nat) (ord : List (List Nat)) :
    s.step (.disconnected 0) ra ord = s.begin ra ord := by
  unfold Node.step Node.handle
  dsimp only
  rw [if_neg (by intro h; exact h.2.1 rfl)]
  exact settle_same 6 _

theorem step_path (b : Node) (op : Op) (hc : b.role = .candidate → b.term ≠ 0) :
    StepPath b op (b.handle op) (settle 6 (b.handle op) b.role) := by
  obtain ⟨_, hrel⟩ := handle_rel b op hc
  generalize b.handle op = h at hrel ⊢
  by_cases hrole : h.role = b.role
  · exact .stay (settle_of_role hrole) hrole hrel
  · cases settle_shape 3 h b.role hrole with
    | follower hf e => exact .down hf (fun hb => hrole (hf.trans hb.symm)) e
    | cand hcd e hpc =>
      cases hrel with
      | same _ a _ _ => exact absurd a hrole
      | follower a => rw [a] at hcd; cases hcd
      | pending nb a tle cf vt => exact .elect ⟨nb, a, tle, cf, vt⟩ e hpc
      | counted c _ _ _ => exact absurd (hcd.trans c.1.symm) hrole
      | reelect c _ => exact absurd (hcd.trans c.symm) hrole
    | leader x r ex hp =>
      cases hrel with
      | same _ a _ _ => exact absurd a hrole
      | follower a => rw [a] at r; cases r
      | pending _ a => rw [a] at r; cases r
      | counted c t _ rr =>
        rcases rr with ⟨r0, _⟩ | ⟨_, r1⟩
        · exact .won x c r0 t r ex hp
        · rw [r1] at r; cases r
      | reelect c e' => exact .reelectWon x c e' r ex hp
    | candLeader x r rl ex hp =>
      cases hrel with
      | same _ a _ _ => exact absurd a hrole
      | follower a => rw [a] at r; cases r
      | pending nb a tle cf vt => exact .electWon x ⟨nb, a, tle, cf, vt⟩ rl ex hp
      | counted c _ _ _ => exact absurd (r.trans c.1.symm) hrole
      | reelect c _ => exact absurd (r.trans c.symm) hrole

theorem InitTail.role {x post : Node} (t : InitTail x post) : post.role = .leader ∨ post.role = .follower := by
  rcases t with ⟨r, e⟩ | ⟨r, e⟩
  · exact Or.inl (e ▸ r)
  · exact Or.inr (by rw [e, (SameKey.releaseRole _ _).role]; exact r)

theorem InitTail.termVote {x post : Node} (t : InitTail x post) (hl : post.role = .leader) :
    post.term = x.term ∧ post.votedFor = x.votedFor := by
  rcases t with ⟨_, e⟩ | ⟨r, e⟩
  · have hf := termVote_frame.leaderInit_eq x
    rw [e]
    exact ⟨congrArg Prod.fst hf, congrArg Prod.snd hf⟩
  · rw [e, (SameKey.releaseRole _ _).role, r] at hl; cases hl

/-- the election the role transitions start after the release of `cur` -/
theorem Pending.elected {b h : Node} (p : Pending b h) (cur : Role) :
    ((h.releaseRole cur).startElection.releaseRole .candidate).term = h.term + 1 ∧
    ((h.releaseRole cur).startElection.releaseRole .candidate).votedFor = h.nid ∧
    ((h.releaseRole cur).startElection.role = .leader → h.configs.latest.quorum = 1) ∧
    ((h.releaseRole cur).startElection.role = .candidate →
      (h.releaseRole cur).startElection.votesNeeded = (h.configs.latest.quorum : Int) - 1) ∧
    (h.releaseRole cur).startElection.term = h.term + 1 ∧ (h.releaseRole cur).startElection.votedFor = h.nid := by
  have k := SameKey.releaseRole h cur
  have k2 := SameKey.releaseRole (h.releaseRole cur).startElection .candidate
  obtain ⟨_, e2, e3, _, e5, e6⟩ := startElection_spec (h.releaseRole cur)
  rw [k.term] at e2
  rw [k.nid] at e3
  rw [k.configs] at e5 e6
  refine ⟨k2.term.trans e2, k2.votedFor.trans e3, fun hl => ?_, fun _ => e5, e2, e3⟩
  rcases e6 with ⟨q0, _⟩ | ⟨_, r1⟩
  · omega
  · rw [r1, k.role, p.role] at hl; cases hl

/-- a node that is leader after a handler that did not change its role kept its term -/
theorem HRel.leader_term {b h : Node} {op : Op} (r : HRel b op h) (hrole : h.role = b.role) (hl : h.role = .leader) :
    h.term = b.term := by
  cases r with
  | same _ _ t _ => exact t
  | follower a => rw [a] at hl; cases hl
  | pending _ a => rw [a] at hl; cases hl
  | counted c _ _ _ => rw [hrole, c.1] at hl; cases hl
  | reelect c _ => rw [hrole, c] at hl; cases hl

/-- a handler that starts from a leader and leaves a leader or a follower takes none of the election paths -/
theorem StepPath.of_leader {b h post : Node} {op : Op} (p : StepPath b op h post) (hr : b.role = .leader)
    (hh : h.role = .leader ∨ h.role = .follower) :
    (post = h ∧ h.role = b.role) ∨ (h.role = .follower ∧ post = h.releaseRole b.role) := by
  cases p with
  | stay e hrole _ => exact Or.inl ⟨e, hrole⟩
  | down hf _ e => exact Or.inr ⟨hf, e⟩
  | elect pd _ _ => rcases hh with a | a <;> rw [pd.role] at a <;> cases a
  | electWon x pd _ _ _ => rcases hh with a | a <;> rw [pd.role] at a <;> cases a
  | won x c _ _ _ _ _ => rw [c.1] at hr; cases hr
  | reelectWon x c _ _ _ _ => rw [c] at hr; cases hr

/-- The node started and carried out an election in this step (`candidate.startElection`): it moved to a
higher term with its durable vote cast for itself; `ec` is the configuration whose quorum it asked for —
the latest configuration of the state the step started from (for a node that was not bootstrapped: the
configuration `bootstrap` installed in this very step) — and, unless the node was a candidate already, the
handler checked that the node is a voter of it. -/
structure NewElection (s s' : Node) : Prop where
  term_gt : s'.term > s.term
  vote_self : s'.votedFor = s.nid
  cfg : ∃ ec : Config, (s.configs.isBootstrapped = true → ec = s.configs.latest) ∧
      (s.role = .candidate ∨ ec.isVoter s.nid = true) ∧
      (s'.role = .candidate → s'.votesNeeded = (ec.quorum : Int) - 1) ∧
      (s'.role = .leader → ec.quorum = 1)

structure RoleStep (s : Node) (op : Op) (s' : Node) : Prop where
  nid : s'.nid = s.nid
  /-- a leader after the step was leader of the same term before, or counted the last missing vote in
  this step, or started an election with a quorum of one in this step -/
  leader : s'.role = .leader →
    (s.role = .leader ∧ s'.term = s.term) ∨
    (Counts s op ∧ s.votesNeeded - 1 = 0 ∧ s'.term = s.term) ∨
    NewElection s s'
  /-- a candidate after the step was candidate of the same term before, with `votesNeeded` lowered by
  one exactly if the operation is a counted success response, or started an election in this step -/
  candidate : s'.role = .candidate →
    (s.role = .candidate ∧ s'.term = s.term ∧
      (Counts s op → s'.votesNeeded = s.votesNeeded - 1) ∧ (¬ Counts s op → s'.votesNeeded = s.votesNeeded)) ∨
    NewElection s s'

theorem nid_frameS : FrameS (fun s : Node => s.nid) where
  panic := fun s site => by unfold Node.panic; split <;> rfl
  reply := fun s t r => by unfold Node.reply; split <;> rfl
  point := fun _ _ => rfl
  ldr := fun _ _ => rfl
  log := fun _ _ _ _ => rfl
  logOnly := fun _ _ => rfl
  fsm := fun _ _ => rfl
  configs := fun _ _ => rfl
  commitIndex := fun _ _ => rfl
  leader := fun _ _ => rfl
  role := fun _ _ => rfl
  closed := fun _ _ => rfl
  popOrder := fun _ => rfl
  votesNeeded := fun _ _ => rfl
  candTransfer := fun _ _ => rfl
  setVotedFor := fun s t c => (setVotedFor_key s t c).1

/-- a candidate ran `startElection` on its election timeout; `x` has the term and vote it ended with -/
theorem newElection_reelect {b x : Node} (c : b.role = .candidate) (ht : x.term = b.startElection.term)
    (hv : x.votedFor = b.startElection.votedFor)
    (hvn : x.role = .candidate → x.votesNeeded = b.startElection.votesNeeded)
    (hl : x.role = .leader → b.startElection.role = .leader) : NewElection b x := by
  obtain ⟨_, e2, e3, _, e5, e6⟩ := startElection_spec b
  refine ⟨by rw [ht, e2]; exact Nat.lt_succ_self _, hv.trans e3, b.configs.latest, fun _ => rfl, Or.inl c,
    fun hc => (hvn hc).trans e5, fun hx => ?_⟩
  rcases e6 with ⟨q0, _⟩ | ⟨_, r1⟩
  · omega
  · have := hl hx
    rw [r1, c] at this; cases this

/-- the handler asked for an election in the configuration of `h`; `x` is the state after `startElection` ran on `h` -/
theorem newElection_pending {b h x : Node} (hn : h.nid = b.nid) (tle : b.term ≤ h.term)
    (cf : b.configs.isBootstrapped = true → h.configs.latest = b.configs.latest)
    (vt : h.configs.latest.isVoter h.nid = true) (t : x.term = h.term + 1) (v : x.votedFor = h.nid)
    (hvn : x.role = .candidate → x.votesNeeded = (h.configs.latest.quorum : Int) - 1)
    (hq : x.role = .leader → h.configs.latest.quorum = 1) : NewElection b x :=
  ⟨by rw [t]; exact Nat.lt_succ_of_le tle, by rw [v, hn], h.configs.latest, cf, Or.inr (by rw [← hn]; exact vt), hvn, hq⟩

/-- the handler's result is the result of the step (no role transition follows) -/
theorem roleStep_of_hrel {b h : Node} {op : Op} (hn : h.nid = b.nid) (hrel : HRel b op h)
    (hnp : h.role = .candidate → b.role = .candidate) : RoleStep b op h := by
  refine ⟨hn, fun hl => ?_, fun hcd => ?_⟩
  · cases hrel with
    | same _ a b' _ => exact Or.inl ⟨by rw [← a]; exact hl, b'⟩
    | follower a => rw [a] at hl; cases hl
    | pending _ a => rw [a] at hl; cases hl
    | counted c t _ r =>
      rcases r with ⟨r0, _⟩ | ⟨_, r1⟩
      · exact Or.inr (Or.inl ⟨c, r0, t⟩)
      · rw [r1] at hl; cases hl
    | reelect c e =>
      subst e
      exact Or.inr (Or.inr (newElection_reelect c rfl rfl (fun _ => rfl) id))
  · cases hrel with
    | same nc a b' v =>
      exact Or.inl ⟨by rw [← a]; exact hcd, b', fun c => absurd c nc, fun _ => v⟩
    | follower a => rw [a] at hcd; cases hcd
    | pending nb _ => exact absurd (hnp hcd) nb
    | counted c t v r =>
      exact Or.inl ⟨c.1, t, fun _ => v, fun nc => absurd c nc⟩
    | reelect c e =>
      subst e
      exact Or.inr (newElection_reelect c rfl rfl (fun _ => rfl) id)

/-- the handler's result followed by the role transitions of `stateLoop` -/
theorem roleStep_of_path {b h post : Node} {op : Op} (hn : h.nid = b.nid) (hnid : post.nid = b.nid)
    (p : StepPath b op h post) : RoleStep b op post := by
  have notCand : ∀ {x}, InitTail x post → ¬ post.role = .candidate := fun tl hcd => by
    rcases tl.role with r | r <;> rw [r] at hcd <;> cases hcd
  cases p with
  | stay e hr hrel => subst e; exact roleStep_of_hrel hn hrel (fun hc => hr ▸ hc)
  | down hf _ e =>
    have hr : post.role = .follower := by rw [e, (SameKey.releaseRole _ _).role]; exact hf
    exact ⟨hnid, fun hl => (by rw [hr] at hl; cases hl), fun hl => (by rw [hr] at hl; cases hl)⟩
  | elect pd e hpc =>
    obtain ⟨_, _, _, hvn, t, v⟩ := pd.elected b.role
    refine ⟨hnid, fun hl => (by rw [hpc] at hl; cases hl), fun _ => Or.inr ?_⟩
    exact newElection_pending hn pd.term pd.cfg pd.voter (e ▸ t) (e ▸ v) (fun _ => e ▸ hvn (e ▸ hpc))
      fun hl => (by rw [hpc] at hl; cases hl)
  | electWon x pd rl ex tl =>
    obtain ⟨t, v, hq, _⟩ := pd.elected b.role
    refine ⟨hnid, fun hl => Or.inr (Or.inr ?_), fun hcd => absurd hcd (notCand tl)⟩
    obtain ⟨pt, pv⟩ := tl.termVote hl
    exact newElection_pending hn pd.term pd.cfg pd.voter (by rw [pt, ex]; exact t) (by rw [pv, ex]; exact v)
      (fun hc' => by rw [hl] at hc'; cases hc') fun _ => hq rl
  | won x c r0 t _ ex tl =>
    refine ⟨hnid, fun hl => Or.inr (Or.inl ⟨c, r0, ?_⟩), fun hcd => absurd hcd (notCand tl)⟩
    rw [(tl.termVote hl).1, ex, (SameKey.releaseRole _ _).term]; exact t
  | reelectWon x c e r ex tl =>
    refine ⟨hnid, fun hl => Or.inr (Or.inr ?_), fun hcd => absurd hcd (notCand tl)⟩
    obtain ⟨pt, pv⟩ := tl.termVote hl
    subst e
    exact newElection_reelect c (by rw [pt, ex, (SameKey.releaseRole _ _).term])
      (by rw [pv, ex, (SameKey.releaseRole _ _).votedFor]) (fun hc' => by rw [hl] at hc'; cases hc') fun _ => r

/-- **Role transitions of one step, for EVERY operation, oracle and input.** Assumes only that a candidate
has a non-zero term (true of every candidate: `startElection` increments the term). -/
theorem role_step (s : Node) (op : Op) (ra : List Nat) (ord : List (List Nat))
    (hc : s.role = .candidate → s.term ≠ 0) : RoleStep s op (s.step op ra ord) := by
  have key : RoleStep (s.begin ra ord) op (s.step op ra ord) := by
    by_cases hop : op = .shutdown
    · -- no role transition; the handler never promotes
      subst hop
      have hd : Down (s.begin ra ord) (s.begin ra ord).shutdown := (down_closed _).shutdown_g _ (Down.refl _)
      refine roleStep_of_hrel hd.1 (HRel.of_down hd (not_counts (by intros; simp))) (fun hcd => ?_)
      rcases hd.2.2 with ⟨a, _, _⟩ | a
      · exact a ▸ hcd
      · exact absurd (a.symm.trans hcd) (by decide)
    · rw [step_settle s op ra ord hop]
      have hn := (handle_rel (s.begin ra ord) op hc).1
      exact roleStep_of_path hn (by rw [nid_frameS.settle_eq (proj := fun s : Node => s.nid)]; exact hn)
        (step_path (s.begin ra ord) op hc)
  -- `begin` only clears ghost outputs and installs the oracles
  have hne : ∀ x, NewElection (s.begin ra ord) x → NewElection s x := fun x ⟨a, b, c⟩ => ⟨a, b, c⟩
  exact ⟨key.nid, fun hl => (key.leader hl).imp id (Or.imp id (hne _)), fun hcd => (key.candidate hcd).imp id (hne _)⟩

end Node
end Raft
