/-
Updates of the part of a node's state that most handlers never read.

The handlers of every operation other than append / install requests, the snapshot goroutine and `shutdown` (`Plain`)
never read `snapIndex`, `snapTerm` or the snapshot files, and they touch the recorded failure and the crash points of
the current step only through `Node.panic` and `Node.point`. So they commute with every update `u.on` of these fields
that is compatible with those two primitives (`Blind`): `f (u.on s) = u.on (f s)`, up to `Blind.on_handle` — except
`.takeSnapshot`, whose threshold argument is relative to `snapIndex`: it commutes when the threshold is shifted with the
index (`on_onTakeSnapshot`). The erasure of the snapshot data (Lemmas/SnapRel.lean) and the recording of a failure (Lemmas/SnapRelP.lean) are two such
updates. Where the update also keeps the snapshot index of the state at hand, the handler of an append request commutes
with it as well (`on_onAppendEntries`, Lemmas/SnapRelA.lean).

The file starts with what the commutation proofs unfold, which says nothing about snapshots: the consistency check of
an append request in stages (`SnapRel.checkBody`, `prevEntry`, `checkTail`) and, under `namespace Node`, one unfolding
per function of the mutually recursive leader block with its parts named (`storeEntry_succ` with `applyHead` and
`storeTail`, `storeItems_succ`, `changeConfigL_succ`, `checkConfigActions_succ`, `setCommitIndexL_succ`;
`storeTermVote_eq`).
-/
import RaftVerif.Model.Step
import RaftVerif.Lemmas.SnapAttr

namespace Raft

namespace SnapRel
open Node

/-- The handlers of these operations read the snapshot fields: append requests (the consistency check is skipped
at or below `snapIndex`), install requests, the snapshot goroutine, and `shutdown` (which completes a pending
snapshot). Every other operation is `Plain`. -/
def Plain : Op → Prop
  | .append _ => False
  | .install _ => False
  | .snapRun => False
  | .shutdown => False
  | _ => True

/-- the consistency-check branch of `appendCheck` (taken when `prevLogIndex > snapIndex`) -/
def checkBody (s : Node) (q : AppendReq) : Node :=
  if q.prevLogIndex > s.lastLogIndex then s.ret rPrevEntryNotFound
  else
    let s := if q.prevLogIndex = s.lastLogIndex then s
             else match s.entryTerm? q.prevLogIndex with
               | some _ => s
               | none => s.panic "bug.mustGetEntry"
    let prevLogTerm := if q.prevLogIndex = s.lastLogIndex then s.lastLogTerm
                       else (s.entryTerm? q.prevLogIndex).getD 0
    if q.prevLogTerm ≠ prevLogTerm then s.ret rPrevTermMismatch
    else if s.canCommit q q.prevLogIndex q.prevLogTerm then
      ((s.setCommitIndexR q.prevLogIndex).1.applyCommitted).ret 0
    else s.ret 0

/-- `checkBody`, first part: `mustGetEntry` for the previous entry of the request -/
def prevEntry (s : Node) (q : AppendReq) : Node :=
  if q.prevLogIndex = s.lastLogIndex then s
  else match s.entryTerm? q.prevLogIndex with
    | some _ => s
    | none => s.panic "bug.mustGetEntry"

/-- … second part: the comparison of the terms and the commit -/
def checkTail (s : Node) (q : AppendReq) : Node :=
  let prevLogTerm := if q.prevLogIndex = s.lastLogIndex then s.lastLogTerm
                     else (s.entryTerm? q.prevLogIndex).getD 0
  if q.prevLogTerm ≠ prevLogTerm then s.ret rPrevTermMismatch
  else if s.canCommit q q.prevLogIndex q.prevLogTerm then
    ((s.setCommitIndexR q.prevLogIndex).1.applyCommitted).ret 0
  else s.ret 0

theorem checkBody_eq (s : Node) (q : AppendReq) :
    checkBody s q = if q.prevLogIndex > s.lastLogIndex then s.ret rPrevEntryNotFound else checkTail (prevEntry s q) q := rfl

theorem appendCheck_eq (s : Node) (q : AppendReq) :
    s.appendCheck q = if q.prevLogIndex > s.snapIndex then checkBody s q else s.ret 0 := rfl

end SnapRel

namespace Node

/-- `storeEntry` after the batch is stored: a leading entry of the queue that is not a log entry is applied at once -/
def applyHead (s : Node) : Node :=
  match s.ldr.queue with
  | q :: _ => if !isLogEntryTyp q.typ then s.applyCommittedL else s
  | [] => s

/-- … and, if the log has grown beyond `li`, the replications are notified and a single voter commits -/
def storeTail (n li : Nat) (s : Node) : Node :=
  if s.lastLogIndex > li then
    let s := s.beginFinishedRounds
    let s := s.notifyFlr
    if s.ldr.numVoters = 1 ∧ s.ldr.node.voter then onMajorityCommit n s else s
  else s

theorem storeEntry_succ (n : Nat) (s : Node) (b : List QItem) :
    storeEntry (n + 1) s b = storeTail n s.lastLogIndex (applyHead (storeItems n s b)) := by
  rw [storeEntry]; rfl

/-- `storeItems` on an item that has been given its index and term and put into the queue: a log entry is appended,
and a configuration entry takes effect -/
def storeQueued (n : Nat) (s : Node) (q : QItem) : Node :=
  if isLogEntryTyp q.typ then
    let s := s.appendEntry q.toEntry
    if q.typ = etConfig then
      match q.toEntry.config? with
      | some c => changeConfigL n s c
      | none => s.panic "bug.configDecode"
    else s
  else s

/-- what `storeItems` does with one item of the batch -/
def storeItem (n : Nat) (s : Node) (q : QItem) : Node :=
  if s.ldr.transfer.active then s.reply q.task "inProgress:transferLeadership"
  else if !s.ldr.node.voter then
    (if s.configs.latest.has s.nid then s.reply q.task "inProgress:demoteLeader"
     else s.reply q.task "inProgress:removeLeader")
  else
    let q := { q with index := s.lastLogIndex + 1, term := s.term, cfg := q.cfg.map Config.payload }
    storeQueued n (s.withLdr ({ s.ldr with queue := s.ldr.queue ++ [q] })) q

theorem storeItems_succ (n : Nat) (s : Node) (q : QItem) (qs : List QItem) :
    storeItems (n + 1) s (q :: qs) = storeItems n (storeItem n s q) qs := by
  rw [storeItems]; rfl

/-- `changeConfigL` on one node of the new configuration: its replication is added, or its address refreshed -/
def refreshRepl (s : Node) (n : CNode) : Node :=
  if n.id = s.nid then s
  else match s.findRepl? n.id with
    | none => s.addReplication n
    | some r => s.setRepl { r with node := n }

theorem changeConfigL_succ (n : Nat) (s : Node) (c : Config) :
    changeConfigL (n + 1) s c =
      let s := (s.withLdr ({ s.ldr with node := c.get s.nid, numVoters := c.numVoters })).changeConfigR c
      let s := c.nodes.foldl refreshRepl (s.withLdr ({ s.ldr with repls := s.ldr.repls.filter (fun r => c.has r.id) }))
      checkConfigActions n s 0 s.configs.latest := by
  rw [changeConfigL]; rfl

/-- `checkConfigActions`, first part: the pending action on the leader itself, with the configuration it leaves -/
def ownAction (n : Nat) (s : Node) (task : Nat) (config : Config) : Node × Config :=
  let nd := config.get s.nid
  if s.canChangeConfig ∧ nd.action ≠ actNone then
    if nd.action = actDemote then
      let c' := config.set { nd with voter := false, action := actNone }
      (doChangeConfig n s task c', c')
    else if nd.action = actRemove ∨ nd.action = actForceRemove then
      let c' := config.erase s.nid
      (doChangeConfig n s task c', c')
    else (s.panic "unreachable", config)
  else (s, config)

/-- … second part: the pending action on one replication -/
def actOnRepl (n : Nat) (task : Nat) (config : Config) (s : Node) (id : Nat) : Node :=
  match s.findRepl? id with
  | some _ => checkConfigAction n s task config id
  | none => s

theorem checkConfigActions_succ (n : Nat) (s : Node) (task : Nat) (config : Config) :
    checkConfigActions (n + 1) s task config =
      (ownAction n s task config).1.replOrder.foldl (actOnRepl n task (ownAction n s task config).2)
        (ownAction n s task config).1.popOrder := by
  rw [checkConfigActions]; rfl

/-- `setCommitIndexL` after the commit index is set: the configuration actions that were postponed until the leader is
commit-ready (`committed`: a configuration has just been committed) -/
def postponedActions (n : Nat) (ready committed : Bool) (s : Node) : Node :=
  if ready ∧ !committed ∧ s.role = .leader then checkConfigActions n s 0 s.configs.latest else s

/-- … and what follows the commit of a configuration -/
def configCommitted (n : Nat) (s : Node) : Node :=
  if s.configs.isStable then
    let s := s.ldr.waitStable.foldl (fun s t => s.reply t s!"config:{s.configs.latest.index}") s
    (s.withLdr ({ s.ldr with waitStable := [] }))
  else checkConfigActions n s 0 s.configs.latest

theorem setCommitIndexL_succ (n : Nat) (s : Node) (i : Nat) :
    setCommitIndexL (n + 1) s i =
      let s1 := s.commitLog i
      let r := s1.setCommitIndexR i
      let s3 := postponedActions n (decide (s1.commitIndex < s1.ldr.startIndex ∧ i ≥ s1.ldr.startIndex)) r.2 r.1
      if r.2 then configCommitted n s3 else s3 := by
  rw [setCommitIndexL]; rfl

/-- `storeTermVote` with the test of the stored pair on the inside -/
theorem storeTermVote_eq (s : Node) (t c : Nat) :
    s.storeTermVote t c =
      { (if t = s.durTerm ∧ c = s.durVote then s else ({ s with durTerm := t, durVote := c } : Node).point "value.set")
        with term := t, votedFor := c } := rfl

end Node

/-- An update of the snapshot index and term, the snapshot files (`files`, in the state and in every disk image),
the crash points of the current step (`points`) and the recorded failure. -/
structure Blind where
  index : Nat → Nat
  term : Nat → Nat
  files : List SnapFile → List SnapFile
  points : List (String × Durable) → List (String × Durable)
  failure : Option String → Option String
  /-- a new crash point (`Node.point`) is updated like the disk of the state -/
  snoc : ∀ t n (d : Durable), points (t ++ [(n, d)]) = points t ++ [(n, { d with snaps := files d.snaps })]
  /-- only the first failure is recorded (`Node.panic`) -/
  first : ∀ (o : Option String) (site : String),
    failure (if o.isNone then some site else o) = if (failure o).isNone then some site else failure o

namespace Blind
open Node SnapRel

variable (u : Blind)

def disk (d : Durable) : Durable := { d with snaps := u.files d.snaps }

def on (s : Node) : Node :=
  { s with snapIndex := u.index s.snapIndex, snapTerm := u.term s.snapTerm, snapsDisk := u.files s.snapsDisk,
           trace := u.points s.trace, panicked := u.failure s.panicked }

@[bproj] theorem on_cid (s : Node) : (u.on s).cid = s.cid := rfl
@[bproj] theorem on_nid (s : Node) : (u.on s).nid = s.nid := rfl
@[bproj] theorem on_retain (s : Node) : (u.on s).retain = s.retain := rfl
@[bproj] theorem on_shutdownOnRemove (s : Node) : (u.on s).shutdownOnRemove = s.shutdownOnRemove := rfl
@[bproj] theorem on_term (s : Node) : (u.on s).term = s.term := rfl
@[bproj] theorem on_votedFor (s : Node) : (u.on s).votedFor = s.votedFor := rfl
@[bproj] theorem on_durTerm (s : Node) : (u.on s).durTerm = s.durTerm := rfl
@[bproj] theorem on_durVote (s : Node) : (u.on s).durVote = s.durVote := rfl
@[bproj] theorem on_log (s : Node) : (u.on s).log = s.log := rfl
@[bproj] theorem on_lastLogIndex (s : Node) : (u.on s).lastLogIndex = s.lastLogIndex := rfl
@[bproj] theorem on_lastLogTerm (s : Node) : (u.on s).lastLogTerm = s.lastLogTerm := rfl
@[bproj] theorem on_configs (s : Node) : (u.on s).configs = s.configs := rfl
@[bproj] theorem on_role (s : Node) : (u.on s).role = s.role := rfl
@[bproj] theorem on_leader (s : Node) : (u.on s).leader = s.leader := rfl
@[bproj] theorem on_commitIndex (s : Node) : (u.on s).commitIndex = s.commitIndex := rfl
@[bproj] theorem on_fsm (s : Node) : (u.on s).fsm = s.fsm := rfl
@[bproj] theorem on_votesNeeded (s : Node) : (u.on s).votesNeeded = s.votesNeeded := rfl
@[bproj] theorem on_candTransfer (s : Node) : (u.on s).candTransfer = s.candTransfer := rfl
@[bproj] theorem on_ldr (s : Node) : (u.on s).ldr = s.ldr := rfl
@[bproj] theorem on_snapPending (s : Node) : (u.on s).snapPending = s.snapPending := rfl
@[bproj] theorem on_snapResult (s : Node) : (u.on s).snapResult = s.snapResult := rfl
@[bproj] theorem on_closed (s : Node) : (u.on s).closed = s.closed := rfl
@[bproj] theorem on_rollAt (s : Node) : (u.on s).rollAt = s.rollAt := rfl
@[bproj] theorem on_orders (s : Node) : (u.on s).orders = s.orders := rfl
@[bproj] theorem on_replies (s : Node) : (u.on s).replies = s.replies := rfl
@[bproj] theorem on_rpcReply (s : Node) : (u.on s).rpcReply = s.rpcReply := rfl
@[bproj] theorem on_result (s : Node) : (u.on s).result = s.result := rfl
@[bproj] theorem on_panicked (s : Node) : (u.on s).panicked = u.failure s.panicked := rfl

@[bproj] theorem on_trace (s : Node) : (u.on s).trace = u.points s.trace := rfl
@[bproj] theorem on_snapIndex (s : Node) : (u.on s).snapIndex = u.index s.snapIndex := rfl
@[bproj] theorem on_snapTerm (s : Node) : (u.on s).snapTerm = u.term s.snapTerm := rfl
@[bproj] theorem on_snapsDisk (s : Node) : (u.on s).snapsDisk = u.files s.snapsDisk := rfl

@[bproj] theorem on_durable (s : Node) : (u.on s).durable = u.disk s.durable := rfl

@[bproj] theorem on_findRepl? (s : Node) (id : Nat) : (u.on s).findRepl? id = s.findRepl? id := rfl
@[bproj] theorem on_replOrder (s : Node) : (u.on s).replOrder = s.replOrder := rfl
@[bproj] theorem on_voterMatches (s : Node) : (u.on s).voterMatches = s.voterMatches := rfl
@[bproj] theorem on_majorityMatchIndex (s : Node) : (u.on s).majorityMatchIndex = s.majorityMatchIndex := rfl
@[bproj] theorem on_canChangeConfig (s : Node) : (u.on s).canChangeConfig = s.canChangeConfig := rfl
@[bproj] theorem on_transferReady (s : Node) (id : Nat) : (u.on s).transferReady id = s.transferReady id := rfl
@[bproj] theorem on_tryTransferTarget (s : Node) : (u.on s).tryTransferTarget = s.tryTransferTarget := rfl
@[bproj] theorem on_validateTransfer (s : Node) (t : Nat) : (u.on s).validateTransfer t = s.validateTransfer t := rfl
@[bproj] theorem on_releaseResult (s : Node) : (u.on s).releaseResult = s.releaseResult := rfl
@[bproj] theorem on_notLeader (s : Node) (b : Bool) : (u.on s).notLeader b = s.notLeader b := rfl
@[bproj] theorem on_canStartElection (s : Node) : (u.on s).canStartElection = s.canStartElection := rfl
@[bproj] theorem on_isClosed (s : Node) : (u.on s).isClosed = s.isClosed := rfl
@[bproj] theorem on_entryTerm? (s : Node) (i : Nat) : (u.on s).entryTerm? i = s.entryTerm? i := rfl
@[bproj] theorem on_mkReply (s : Node) (a b : Bool) : (u.on s).mkReply a b = s.mkReply a b := rfl
@[bproj] theorem on_canCommit (s : Node) (q : AppendReq) (i t : Nat) : (u.on s).canCommit q i t = s.canCommit q i t := rfl

@[bsimp] theorem on_point (s : Node) (n : String) : (u.on s).point n = u.on (s.point n) := by
  show ({ u.on s with trace := u.points s.trace ++ [(n, u.disk s.durable)] } : Node) =
    { u.on s with trace := u.points (s.trace ++ [(n, s.durable)]) }
  rw [u.snoc]
  rfl

@[bsimp] theorem on_panic (s : Node) (site : String) : (u.on s).panic site = u.on (s.panic site) := by
  unfold Node.panic
  show (if (u.failure s.panicked).isNone = true then _ else _) = _
  have h := u.first s.panicked site
  by_cases hs : s.panicked.isNone = true
  · rw [if_pos hs] at h ⊢
    by_cases hf : (u.failure s.panicked).isNone = true
    · rw [if_pos hf] at h ⊢
      show ({ u.on s with panicked := some site } : Node) = { u.on s with panicked := u.failure (some site) }
      rw [h]
    · rw [if_neg hf] at h ⊢
      show u.on s = { u.on s with panicked := u.failure (some site) }
      rw [h]
      rfl
  · rw [if_neg hs] at h ⊢
    by_cases hf : (u.failure s.panicked).isNone = true
    · rw [if_pos hf] at h
      rw [h] at hf
      cases hf
    · rw [if_neg hf]

@[bsimp] theorem on_assert (s : Node) (b : Bool) (site : String) : (u.on s).assert b site = u.on (s.assert b site) := by
  unfold Node.assert; split
  · rfl
  · exact on_panic u s site

@[bsimp] theorem on_reply (s : Node) (t : Nat) (r : String) : (u.on s).reply t r = u.on (s.reply t r) := by
  unfold Node.reply; split <;> rfl

@[bsimp] theorem on_setRole (s : Node) (r : Role) : (u.on s).setRole r = u.on (s.setRole r) := rfl
@[bsimp] theorem on_popOrder (s : Node) : (u.on s).popOrder = u.on s.popOrder := rfl
@[bsimp] theorem on_withLdr (s : Node) (l : Leader) : (u.on s).withLdr l = u.on (s.withLdr l) := rfl
@[bsimp] theorem on_withFsm (s : Node) (f : Fsm) : (u.on s).withFsm f = u.on (s.withFsm f) := rfl
@[bsimp] theorem on_withVotesNeeded (s : Node) (v : Int) : (u.on s).withVotesNeeded v = u.on (s.withVotesNeeded v) := rfl
@[bsimp] theorem on_withCandTransfer (s : Node) (v : Bool) : (u.on s).withCandTransfer v = u.on (s.withCandTransfer v) := rfl
@[bsimp] theorem on_withSnapPending (s : Node) (v : Option SnapReq) : (u.on s).withSnapPending v = u.on (s.withSnapPending v) := rfl
@[bsimp] theorem on_withSnapResult (s : Node) (v : Option SnapRes) : (u.on s).withSnapResult v = u.on (s.withSnapResult v) := rfl
@[bsimp] theorem on_withRpcReply (s : Node) (v : Option RpcReply) : (u.on s).withRpcReply v = u.on (s.withRpcReply v) := rfl
@[bsimp] theorem on_withCommitIndex (s : Node) (i : Nat) : (u.on s).withCommitIndex i = u.on (s.withCommitIndex i) := rfl
@[bsimp] theorem on_withLast (s : Node) (i t : Nat) : (u.on s).withLast i t = u.on (s.withLast i t) := rfl
@[bsimp] theorem on_ret (s : Node) (r : Nat) : (u.on s).ret r = u.on (s.ret r) := rfl
@[bsimp] theorem on_setLeader (s : Node) (l : Nat) : (u.on s).setLeader l = u.on (s.setLeader l) := rfl


@[bsimp] theorem ite_on (c : Prop) {inst : Decidable c} (a b : Node) :
    @ite Node c inst (u.on a) (u.on b) = u.on (@ite Node c inst a b) := by
  split <;> rfl

/-- normalise a goal `f (u.on s) = u.on (f s)` after unfolding `f`: rewrite fields / observations of updated states
(`bproj`, definitional, instances included), push the update outward through the primitives (`bsimp`), split what is
left and close by reflexivity -/
syntax "bnorm" ("[" Lean.Parser.Tactic.simpLemma,* "]")? : tactic
macro_rules
  | `(tactic| bnorm) => `(tactic| repeat (first | dsimp +instances only [bproj] | simp only [bsimp]))
  | `(tactic| bnorm [$ls,*]) => `(tactic| repeat (first | dsimp +instances only [bproj] | simp only [bsimp, $ls,*]))

syntax "bcomm" ("[" Lean.Parser.Tactic.simpLemma,* "]")? : tactic
macro_rules
  | `(tactic| bcomm) =>
    `(tactic| (bnorm <;> repeat' (first | rfl | contradiction | (split <;> (try simp only [*, ↓reduceIte]) <;> (try bnorm)) | (exfalso; simp_all; done))))
  | `(tactic| bcomm [$ls,*]) =>
    `(tactic| (bnorm [$ls,*] <;>
        repeat' (first | rfl | contradiction | (split <;> (try simp only [*, ↓reduceIte]) <;> (try bnorm [$ls,*])) | (exfalso; simp_all; done))))

@[bsimp] theorem on_storeTermVote (s : Node) (t c : Nat) : (u.on s).storeTermVote t c = u.on (s.storeTermVote t c) := by
  rw [storeTermVote_eq, storeTermVote_eq]
  by_cases h : t = s.durTerm ∧ c = s.durVote
  · rw [if_pos h, if_pos (show t = (u.on s).durTerm ∧ c = (u.on s).durVote from h)]; rfl
  · rw [if_neg h, if_neg (show ¬ (t = (u.on s).durTerm ∧ c = (u.on s).durVote) from h)]
    show ({ (u.on { s with durTerm := t, durVote := c }).point "value.set" with term := t, votedFor := c } : Node) = _
    rw [on_point]; rfl

@[bsimp] theorem on_setTerm (s : Node) (t : Nat) : (u.on s).setTerm t = u.on (s.setTerm t) := by
  unfold Node.setTerm
  bcomm

@[bsimp] theorem on_setVotedFor (s : Node) (t c : Nat) : (u.on s).setVotedFor t c = u.on (s.setVotedFor t c) := by
  unfold Node.setVotedFor
  bcomm

@[bsimp] theorem on_appendEntry (s : Node) (e : Entry) : (u.on s).appendEntry e = u.on (s.appendEntry e) := by
  unfold Node.appendEntry
  bcomm

@[bsimp] theorem on_commitLog (s : Node) (n : Nat) : (u.on s).commitLog n = u.on (s.commitLog n) := by
  unfold Node.commitLog
  show (u.on { s with log := s.log.commitN n }).point _ = _
  rw [on_point]

@[bsimp] theorem on_removeGTE (s : Node) (i pt : Nat) : (u.on s).removeGTE i pt = u.on (s.removeGTE i pt) := by
  unfold Node.removeGTE
  show (u.on { s with log := s.log.removeGTE i, lastLogIndex := i - 1, lastLogTerm := pt }).point _ = _
  rw [on_point]

@[bsimp] theorem on_doClose (s : Node) (r : String) : (u.on s).doClose r = u.on (s.doClose r) := by
  unfold Node.doClose
  bcomm

@[bsimp] theorem on_changeConfigR (s : Node) (c : Config) : (u.on s).changeConfigR c = u.on (s.changeConfigR c) := by
  unfold Node.changeConfigR
  bcomm

@[bsimp] theorem on_commitConfig (s : Node) : (u.on s).commitConfig = u.on s.commitConfig := by
  unfold Node.commitConfig
  bcomm

@[bsimp] theorem on_revertConfig (s : Node) : (u.on s).revertConfig = u.on s.revertConfig := rfl

@[bsimp] theorem on_stepDownIfNotVoter (s : Node) : (u.on s).stepDownIfNotVoter = u.on s.stepDownIfNotVoter := by
  unfold Node.stepDownIfNotVoter
  bcomm

@[bsimp] theorem on_closeIfRemoved (s : Node) : (u.on s).closeIfRemoved = u.on s.closeIfRemoved := by
  unfold Node.closeIfRemoved
  bcomm

@[bsimp] theorem on_afterConfigCommit (s : Node) : (u.on s).afterConfigCommit = u.on s.afterConfigCommit := by
  unfold Node.afterConfigCommit
  bcomm

@[bsimp] theorem on_setCommitIndexR_1 (s : Node) (i : Nat) : ((u.on s).setCommitIndexR i).1 = u.on (s.setCommitIndexR i).1 := by
  unfold Node.setCommitIndexR
  bcomm

@[bsimp] theorem on_setCommitIndexR_2 (s : Node) (i : Nat) : ((u.on s).setCommitIndexR i).2 = (s.setCommitIndexR i).2 := by
  unfold Node.setCommitIndexR
  dsimp +instances only [bproj]
  split <;> rfl


@[bsimp] theorem on_fsmApplyLogTo (s : Node) (n : Nat) : (u.on s).fsmApplyLogTo n = u.on (s.fsmApplyLogTo n) := by
  unfold Node.fsmApplyLogTo
  bcomm

@[bsimp] theorem on_fsmApplyItems (s : Node) (qs : List QItem) : (u.on s).fsmApplyItems qs = u.on (s.fsmApplyItems qs) := by
  induction qs generalizing s with
  | nil => rfl
  | cons q qs ih =>
    unfold Node.fsmApplyItems
    bcomm [ih]

@[bsimp] theorem on_fsmApply (s : Node) (qs : List QItem) : (u.on s).fsmApply qs = u.on (s.fsmApply qs) := by
  unfold Node.fsmApply
  bcomm

@[bsimp] theorem on_applyCommitted (s : Node) : (u.on s).applyCommitted = u.on s.applyCommitted := by
  unfold Node.applyCommitted
  bcomm

@[bsimp] theorem on_setRepl (s : Node) (r : Repl) : (u.on s).setRepl r = u.on (s.setRepl r) := rfl

@[bsimp] theorem on_addReplication (s : Node) (n : CNode) : (u.on s).addReplication n = u.on (s.addReplication n) := by
  unfold Node.addReplication
  bcomm

@[bsimp] theorem on_notifyFlr (s : Node) : (u.on s).notifyFlr = u.on s.notifyFlr := by
  unfold Node.notifyFlr
  bcomm

@[bsimp] theorem on_beginFinishedRounds (s : Node) : (u.on s).beginFinishedRounds = u.on s.beginFinishedRounds := rfl

@[bsimp] theorem on_applyCommittedL (s : Node) : (u.on s).applyCommittedL = u.on s.applyCommittedL := by
  unfold Node.applyCommittedL
  bcomm

theorem foldl_on {β : Type} (f : Node → β → Node) (hf : ∀ s x, f (u.on s) x = u.on (f s x)) (xs : List β) (s : Node) :
    xs.foldl f (u.on s) = u.on (xs.foldl f s) := by
  induction xs generalizing s with
  | nil => rfl
  | cons x xs ih => simp only [List.foldl_cons, hf, ih]

theorem on_applyHead (s : Node) : applyHead (u.on s) = u.on (applyHead s) := by
  unfold applyHead
  bcomm

theorem on_storeTail (n li : Nat) (s : Node) (ihMC : ∀ s, onMajorityCommit n (u.on s) = u.on (onMajorityCommit n s)) :
    storeTail n li (u.on s) = u.on (storeTail n li s) := by
  unfold storeTail
  bcomm [ihMC]

theorem on_storeQueued (n : Nat) (s : Node) (q : QItem)
    (ihCL : ∀ s c, changeConfigL n (u.on s) c = u.on (changeConfigL n s c)) :
    storeQueued n (u.on s) q = u.on (storeQueued n s q) := by
  unfold storeQueued
  by_cases hl : isLogEntryTyp q.typ = true
  · rw [if_pos hl, if_pos hl]
    dsimp only
    rw [on_appendEntry]
    by_cases hc : q.typ = etConfig
    · rw [if_pos hc, if_pos hc]
      cases q.toEntry.config? with
      | some c => exact ihCL _ c
      | none => exact on_panic u _ _
    · rw [if_neg hc, if_neg hc]
  · rw [if_neg hl, if_neg hl]

theorem on_storeItem (n : Nat) (s : Node) (q : QItem)
    (ihCL : ∀ s c, changeConfigL n (u.on s) c = u.on (changeConfigL n s c)) :
    storeItem n (u.on s) q = u.on (storeItem n s q) := by
  unfold storeItem
  by_cases ha : s.ldr.transfer.active = true
  · rw [if_pos ha, if_pos (show (u.on s).ldr.transfer.active = true from ha)]
    exact on_reply u s _ _
  · rw [if_neg ha, if_neg (show ¬ (u.on s).ldr.transfer.active = true from ha)]
    by_cases hv : (!s.ldr.node.voter) = true
    · rw [if_pos hv, if_pos (show (!(u.on s).ldr.node.voter) = true from hv)]
      show (if s.configs.latest.has s.nid = true then (u.on s).reply _ _ else (u.on s).reply _ _) = _
      rw [on_reply, on_reply, ite_on]
    · rw [if_neg hv, if_neg (show ¬ (!(u.on s).ldr.node.voter) = true from hv)]
      dsimp only
      rw [on_withLdr]
      exact on_storeQueued u n _ _ ihCL

theorem on_refreshRepl (s : Node) (n : CNode) : refreshRepl (u.on s) n = u.on (refreshRepl s n) := by
  unfold refreshRepl
  by_cases h : n.id = s.nid
  · rw [if_pos h, if_pos (show n.id = (u.on s).nid from h)]
  · rw [if_neg h, if_neg (show ¬ n.id = (u.on s).nid from h)]
    show (match s.findRepl? n.id with
      | none => (u.on s).addReplication n
      | some r => (u.on s).setRepl { r with node := n }) = _
    cases s.findRepl? n.id with
    | none => exact on_addReplication u s n
    | some r => rfl

theorem on_ownAction (n : Nat) (s : Node) (t : Nat) (c : Config)
    (ihDC : ∀ s t c, doChangeConfig n (u.on s) t c = u.on (doChangeConfig n s t c)) :
    ownAction n (u.on s) t c = (u.on (ownAction n s t c).1, (ownAction n s t c).2) := by
  unfold ownAction
  dsimp only
  by_cases h1 : s.canChangeConfig = true ∧ (c.get s.nid).action ≠ actNone
  · rw [if_pos h1, if_pos (show (u.on s).canChangeConfig = true ∧ (c.get (u.on s).nid).action ≠ actNone from h1)]
    by_cases h2 : (c.get s.nid).action = actDemote
    · rw [if_pos h2, if_pos (show (c.get (u.on s).nid).action = actDemote from h2), ihDC]
      rfl
    · rw [if_neg h2, if_neg (show ¬ (c.get (u.on s).nid).action = actDemote from h2)]
      by_cases h3 : (c.get s.nid).action = actRemove ∨ (c.get s.nid).action = actForceRemove
      · rw [if_pos h3, if_pos (show (c.get (u.on s).nid).action = actRemove ∨ (c.get (u.on s).nid).action = actForceRemove
          from h3), ihDC]
        rfl
      · rw [if_neg h3, if_neg (show ¬ ((c.get (u.on s).nid).action = actRemove ∨
          (c.get (u.on s).nid).action = actForceRemove) from h3), on_panic]
  · rw [if_neg h1, if_neg (show ¬ ((u.on s).canChangeConfig = true ∧ (c.get (u.on s).nid).action ≠ actNone) from h1)]

theorem on_actOnRepl (n t : Nat) (c : Config) (s : Node) (id : Nat)
    (ihCA : ∀ s t c id, checkConfigAction n (u.on s) t c id = u.on (checkConfigAction n s t c id)) :
    actOnRepl n t c (u.on s) id = u.on (actOnRepl n t c s id) := by
  unfold actOnRepl
  show (match s.findRepl? id with
    | some _ => checkConfigAction n (u.on s) t c id
    | none => u.on s) = _
  cases s.findRepl? id with
  | none => rfl
  | some r => exact ihCA s t c id

theorem on_postponedActions (n : Nat) (ready committed : Bool) (s : Node)
    (ihCAs : ∀ s t c, checkConfigActions n (u.on s) t c = u.on (checkConfigActions n s t c)) :
    postponedActions n ready committed (u.on s) = u.on (postponedActions n ready committed s) := by
  unfold postponedActions
  by_cases h : ready = true ∧ (!committed) = true ∧ s.role = .leader
  · rw [if_pos h, if_pos (show ready = true ∧ (!committed) = true ∧ (u.on s).role = .leader from h)]
    exact ihCAs s _ _
  · rw [if_neg h, if_neg (show ¬ (ready = true ∧ (!committed) = true ∧ (u.on s).role = .leader) from h)]

theorem on_configCommitted (n : Nat) (s : Node)
    (ihCAs : ∀ s t c, checkConfigActions n (u.on s) t c = u.on (checkConfigActions n s t c)) :
    configCommitted n (u.on s) = u.on (configCommitted n s) := by
  unfold configCommitted
  by_cases h : s.configs.isStable = true
  · rw [if_pos h, if_pos (show (u.on s).configs.isStable = true from h)]
    dsimp only
    rw [show (u.on s).ldr.waitStable = s.ldr.waitStable from rfl, foldl_on u _ (fun x t => on_reply u x t _)]
    rfl
  · rw [if_neg h, if_neg (show ¬ (u.on s).configs.isStable = true from h)]
    exact ihCAs s _ _

theorem on_block : ∀ fuel : Nat,
    (∀ s b, storeEntry fuel (u.on s) b = u.on (storeEntry fuel s b)) ∧
    (∀ s b, storeItems fuel (u.on s) b = u.on (storeItems fuel s b)) ∧
    (∀ s c, changeConfigL fuel (u.on s) c = u.on (changeConfigL fuel s c)) ∧
    (∀ s t c, doChangeConfig fuel (u.on s) t c = u.on (doChangeConfig fuel s t c)) ∧
    (∀ s t c, checkConfigActions fuel (u.on s) t c = u.on (checkConfigActions fuel s t c)) ∧
    (∀ s t c id, checkConfigAction fuel (u.on s) t c id = u.on (checkConfigAction fuel s t c id)) ∧
    (∀ s i, setCommitIndexL fuel (u.on s) i = u.on (setCommitIndexL fuel s i)) ∧
    (∀ s, onMajorityCommit fuel (u.on s) = u.on (onMajorityCommit fuel s)) := by
  intro fuel
  induction fuel with
  | zero =>
    refine ⟨?_, ?_, ?_, ?_, ?_, ?_, ?_, ?_⟩
    · intro s b; unfold storeEntry; bcomm
    · intro s b; cases b with
      | nil => unfold storeItems; rfl
      | cons q qs => unfold storeItems; bcomm
    · intro s c; unfold changeConfigL; bcomm
    · intro s t c; unfold doChangeConfig; bcomm
    · intro s t c; unfold checkConfigActions; bcomm
    · intro s t c id; unfold checkConfigAction; bcomm
    · intro s i; unfold setCommitIndexL; bcomm
    · intro s; unfold onMajorityCommit; bcomm
  | succ n ih =>
    obtain ⟨ihSE, ihSI, ihCL, ihDC, ihCAs, ihCA, ihSC, ihMC⟩ := ih
    refine ⟨?_, ?_, ?_, ?_, ?_, ?_, ?_, ?_⟩
    · intro s b
      rw [storeEntry_succ, storeEntry_succ]
      show storeTail n s.lastLogIndex (applyHead (storeItems n (u.on s) b)) = _
      rw [ihSI, on_applyHead, on_storeTail u n _ _ ihMC]
    · intro s b
      cases b with
      | nil => unfold storeItems; rfl
      | cons q qs => rw [storeItems_succ, storeItems_succ, on_storeItem u n s q ihCL, ihSI]
    · intro s c
      rw [changeConfigL_succ, changeConfigL_succ]
      dsimp only
      rw [on_withLdr, on_changeConfigR, on_withLdr, foldl_on u _ (on_refreshRepl u), ihCAs]
      rfl
    · intro s t c; unfold doChangeConfig; bcomm [ihSE]
    · intro s t c
      rw [checkConfigActions_succ, checkConfigActions_succ, on_ownAction u n s t c ihDC]
      dsimp only
      rw [on_popOrder, on_replOrder, foldl_on u _ (fun x id => on_actOnRepl u n t _ x id ihCA)]
    · intro s t c id
      unfold checkConfigAction
      bcomm [ihDC]
    · intro s i
      rw [setCommitIndexL_succ, setCommitIndexL_succ]
      dsimp only
      rw [on_commitLog, on_setCommitIndexR_1, on_setCommitIndexR_2, on_postponedActions u n _ _ _ ihCAs]
      by_cases hc : ((s.commitLog i).setCommitIndexR i).2 = true
      · rw [if_pos hc, if_pos hc]
        exact on_configCommitted u n _ ihCAs
      · rw [if_neg hc, if_neg hc]
        rfl
    · intro s
      unfold onMajorityCommit
      bcomm [ihSC]

@[bsimp] theorem on_storeEntry (f : Nat) (s : Node) (b : List QItem) : storeEntry f (u.on s) b = u.on (storeEntry f s b) :=
  (on_block u f).1 s b
@[bsimp] theorem on_storeItems (f : Nat) (s : Node) (b : List QItem) : storeItems f (u.on s) b = u.on (storeItems f s b) :=
  (on_block u f).2.1 s b
@[bsimp] theorem on_changeConfigL (f : Nat) (s : Node) (c : Config) : changeConfigL f (u.on s) c = u.on (changeConfigL f s c) :=
  (on_block u f).2.2.1 s c
@[bsimp] theorem on_setCommitIndexL (f : Nat) (s : Node) (i : Nat) : setCommitIndexL f (u.on s) i = u.on (setCommitIndexL f s i) :=
  (on_block u f).2.2.2.2.2.2.1 s i
@[bsimp] theorem on_doChangeConfig (f : Nat) (s : Node) (t : Nat) (c : Config) :
    doChangeConfig f (u.on s) t c = u.on (doChangeConfig f s t c) := (on_block u f).2.2.2.1 s t c
@[bsimp] theorem on_checkConfigActions (f : Nat) (s : Node) (t : Nat) (c : Config) :
    checkConfigActions f (u.on s) t c = u.on (checkConfigActions f s t c) := (on_block u f).2.2.2.2.1 s t c
@[bsimp] theorem on_checkConfigAction (f : Nat) (s : Node) (t : Nat) (c : Config) (id : Nat) :
    checkConfigAction f (u.on s) t c id = u.on (checkConfigAction f s t c id) := (on_block u f).2.2.2.2.2.1 s t c id
@[bsimp] theorem on_onMajorityCommit (f : Nat) (s : Node) : onMajorityCommit f (u.on s) = u.on (onMajorityCommit f s) :=
  (on_block u f).2.2.2.2.2.2.2 s

@[bsimp] theorem on_checkQuorum (s : Node) : (u.on s).checkQuorum = u.on s.checkQuorum := by
  unfold Node.checkQuorum
  bcomm

@[bsimp] theorem on_transferReply (s : Node) (r : String) : (u.on s).transferReply r = u.on (s.transferReply r) := by
  unfold Node.transferReply
  bcomm

@[bsimp] theorem on_tryTransfer (s : Node) : (u.on s).tryTransfer = u.on s.tryTransfer := by
  unfold Node.tryTransfer
  bcomm

@[bsimp] theorem on_onTransfer (s : Node) (t g : Nat) : (u.on s).onTransfer t g = u.on (s.onTransfer t g) := by
  unfold Node.onTransfer
  bcomm

@[bsimp] theorem on_replyTransfer (s : Node) (r : String) : (u.on s).replyTransfer r = u.on (s.replyTransfer r) := by
  unfold Node.replyTransfer
  bcomm

@[bsimp] theorem on_onTimeoutNowResult (s : Node) (src : Nat) (e : Bool) (r : Nat) :
    (u.on s).onTimeoutNowResult src e r = u.on (s.onTimeoutNowResult src e r) := by
  unfold Node.onTimeoutNowResult
  bcomm

@[bsimp] theorem on_leaderInit (s : Node) : (u.on s).leaderInit = u.on s.leaderInit := by
  unfold Node.leaderInit
  bnorm
  rw [foldl_on u _ (fun s n => by bcomm)]
  bnorm

@[bsimp] theorem foldl_reply_on {β : Type} (g : β → Nat) (r : String) (xs : List β) (s : Node) :
    xs.foldl (fun s x => s.reply (g x) r) (u.on s) = u.on (xs.foldl (fun s x => s.reply (g x) r) s) :=
  foldl_on u _ (fun s x => on_reply u s (g x) r) xs s

@[bsimp] theorem on_leaderReleaseRest (s : Node) : (u.on s).leaderReleaseRest = u.on s.leaderReleaseRest := by
  unfold Node.leaderReleaseRest
  bcomm

@[bsimp] theorem on_leaderRelease (s : Node) : (u.on s).leaderRelease = u.on s.leaderRelease := by
  unfold Node.leaderRelease
  bcomm


@[bsimp] theorem on_startElection (s : Node) : (u.on s).startElection = u.on s.startElection := by
  unfold Node.startElection
  bcomm

@[bsimp] theorem on_onVoteResult (s : Node) (e : Bool) (t r : Nat) : (u.on s).onVoteResult e t r = u.on (s.onVoteResult e t r) := by
  unfold Node.onVoteResult
  bcomm

@[bsimp] theorem on_followerTimeout (s : Node) : (u.on s).followerTimeout = u.on s.followerTimeout := by
  unfold Node.followerTimeout
  bcomm

@[bsimp] theorem on_releaseRole (s : Node) (r : Role) : (u.on s).releaseRole r = u.on (s.releaseRole r) := by
  unfold Node.releaseRole
  bcomm

@[bsimp] theorem on_initRole (s : Node) : (u.on s).initRole = u.on s.initRole := by
  unfold Node.initRole
  bcomm

@[bsimp] theorem on_settle (f : Nat) (s : Node) (c : Role) : settle f (u.on s) c = u.on (settle f s c) := by
  induction f generalizing s c with
  | zero => rfl
  | succ n ih =>
    unfold settle
    bcomm [ih]

@[bsimp] theorem on_onVoteRequest (s : Node) (q : VoteReq) : (u.on s).onVoteRequest q = u.on (s.onVoteRequest q) := by
  unfold Node.onVoteRequest
  bcomm

@[bsimp] theorem on_onTimeoutNow (s : Node) : (u.on s).onTimeoutNow = u.on s.onTimeoutNow := by
  unfold Node.onTimeoutNow
  bcomm

@[bsimp] theorem on_rpcDone (s : Node) (a b : Bool) : (u.on s).rpcDone a b = u.on (s.rpcDone a b) := by
  unfold Node.rpcDone
  bcomm

/-- `TakeSnapshot` reads the snapshot index: the updated node has to be given the threshold that, counted from its own
snapshot index, yields the same minimal index -/
theorem on_onTakeSnapshot (s : Node) (t th th' : Nat) (h : u.index s.snapIndex + th' = s.snapIndex + th) :
    (u.on s).onTakeSnapshot t th' = u.on (s.onTakeSnapshot t th) := by
  unfold Node.onTakeSnapshot
  bcomm

@[bsimp] theorem on_compactLog (s : Node) (i : Nat) : (u.on s).compactLog i = u.on (s.compactLog i) := by
  unfold Node.compactLog
  show (u.on { s with log := s.log.removeLTE i }).point _ = _
  rw [on_point]

@[bsimp] theorem on_onSnapshotTaken (s : Node) : (u.on s).onSnapshotTaken = u.on s.onSnapshotTaken := by
  unfold Node.onSnapshotTaken
  bcomm

@[bsimp] theorem on_onChangeConfig (s : Node) (t : Nat) (c : Config) : (u.on s).onChangeConfig t c = u.on (s.onChangeConfig t c) := by
  unfold Node.onChangeConfig
  bcomm

@[bsimp] theorem on_bootstrap (s : Node) (t : Nat) (c : Config) : (u.on s).bootstrap t c = u.on (s.bootstrap t c) := by
  unfold Node.bootstrap
  bcomm

def onp (p : Node × UpdFlags) : Node × UpdFlags := (u.on p.1, p.2)

theorem on_replUpdLoop (us : List ReplUpdate) : ∀ (s : Node) (f : UpdFlags),
    replUpdLoop (u.on s) f us = u.onp (replUpdLoop s f us) := by
  induction us with
  | nil => intro s f; rfl
  | cons u us ih =>
    intro s f
    unfold replUpdLoop
    bcomm [ih]

@[bsimp] theorem on_checkLogCompact (s : Node) : (u.on s).checkLogCompact = u.on s.checkLogCompact := by
  unfold Node.checkLogCompact
  bcomm

@[bsimp] theorem on_checkReplUpdates (s : Node) (us : List ReplUpdate) :
    (u.on s).checkReplUpdates us = u.on (s.checkReplUpdates us) := by
  unfold Node.checkReplUpdates
  rw [on_replUpdLoop]
  unfold onp
  bcomm

@[bsimp] theorem on_rejectEntries (s : Node) (b : List QItem) : (u.on s).rejectEntries b = u.on (s.rejectEntries b) := by
  induction b generalizing s with
  | nil => rfl
  | cons q qs ih =>
    unfold Node.rejectEntries
    bcomm [ih]

@[bsimp] theorem on_onWaitForStable (s : Node) (t : Nat) : (u.on s).onWaitForStable t = u.on (s.onWaitForStable t) := by
  unfold Node.onWaitForStable
  bcomm



@[bsimp] theorem on_resolveConflict (s : Node) (ne : Entry) (pt : Nat) :
    (u.on s).resolveConflict ne pt = u.on (s.resolveConflict ne pt) := by
  unfold Node.resolveConflict
  bcomm

theorem on_prevEntry (s : Node) (q : AppendReq) : prevEntry (u.on s) q = u.on (prevEntry s q) := by
  unfold prevEntry
  by_cases h : q.prevLogIndex = s.lastLogIndex
  · rw [if_pos h, if_pos (show q.prevLogIndex = (u.on s).lastLogIndex from h)]
  · rw [if_neg h, if_neg (show ¬ q.prevLogIndex = (u.on s).lastLogIndex from h)]
    show (match s.entryTerm? q.prevLogIndex with
      | some _ => u.on s
      | none => (u.on s).panic "bug.mustGetEntry") = _
    cases s.entryTerm? q.prevLogIndex with
    | none => exact on_panic u s _
    | some _ => rfl

theorem on_checkTail (s : Node) (q : AppendReq) : checkTail (u.on s) q = u.on (checkTail s q) := by
  unfold checkTail
  dsimp +instances only [bproj]
  by_cases c1 : q.prevLogTerm ≠ (if q.prevLogIndex = s.lastLogIndex then s.lastLogTerm else (s.entryTerm? q.prevLogIndex).getD 0)
  · rw [if_pos c1, if_pos c1]; rfl
  · rw [if_neg c1, if_neg c1]
    by_cases c2 : s.canCommit q q.prevLogIndex q.prevLogTerm = true
    · rw [if_pos c2, if_pos c2, on_setCommitIndexR_1, on_applyCommitted, on_ret]
    · rw [if_neg c2, if_neg c2]; rfl

theorem on_checkBody (s : Node) (q : AppendReq) : checkBody (u.on s) q = u.on (checkBody s q) := by
  rw [checkBody_eq, checkBody_eq]
  by_cases h1 : q.prevLogIndex > s.lastLogIndex
  · rw [if_pos h1, if_pos (show q.prevLogIndex > (u.on s).lastLogIndex from h1)]; rfl
  · rw [if_neg h1, if_neg (show ¬ q.prevLogIndex > (u.on s).lastLogIndex from h1), on_prevEntry, on_checkTail]

theorem on_appendCheck (s : Node) (q : AppendReq) (h : u.index s.snapIndex = s.snapIndex) :
    (u.on s).appendCheck q = u.on (s.appendCheck q) := by
  rw [appendCheck_eq, appendCheck_eq]
  show (if q.prevLogIndex > u.index s.snapIndex then _ else _) = _
  rw [h]
  by_cases hs : q.prevLogIndex > s.snapIndex
  · rw [if_pos hs, if_pos hs]; exact on_checkBody u s q
  · rw [if_neg hs, if_neg hs]; rfl

theorem on_handle (s : Node) (op : Op) (h : Plain op) (ht : ∀ t th, op ≠ .takeSnapshot t th) :
    (u.on s).handle op = u.on (s.handle op) := by
  cases op <;> unfold Node.handle <;> first | exact h.elim | exact absurd rfl (ht _ _) | skip
  case vote q => bcomm
  case timeoutNow => bcomm
  case identity a b c => bcomm
  case disconnected n => bcomm
  case timeout => bcomm
  case newEntries b => bcomm
  case changeConfig t c => bcomm
  case snapTaken => bcomm
  case waitStable t => bcomm
  case transfer t g => bcomm
  case voteResult e t r => bcomm
  case replUpdates us => bcomm
  case transferTimeout => bcomm
  case timeoutNowResult a b c => bcomm
  case newTermTimeout => bcomm

end Blind
end Raft
