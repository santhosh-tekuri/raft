/-
The tree and node clauses of the cluster invariant when ONE node moves, for the fixed-membership system (Props/C02Sys.lean)
and the system with membership changes (Lemmas/MemberStep.lean, MemberCrash.lean) at once: both keep a `Commit.Sys`, and
what is said below needs of their invariants only `Commit.CoreI` (Lemmas/CommitCore.lean).

`NewC`: the entries a node appended to its OWN log — in a completed step, or found on disk after a crash — are the new
records of the tree; where election safety is needed (an old record of the new entries' term was created by the same
node) it is the field `creator`. `StepC`: the completed step as both systems provide it, with the node clauses after
it, its commit index and what is on disk wherever the process dies inside it (`DImgC`). Last, what one state gives
from `CoreI`, and from `CoreI` and "the ledger of commits lies on one path" (`Chained`).
-/
import RaftVerif.Lemmas.CommitCore

namespace Raft
namespace Commit
open Node Election LogRel Replication CommitRel

protected theorem chainOf_pt {cr pt : Nat} {es : List Entry} {c : CEntry} (h : c ∈ chainOf cr pt es) :
    c.pt = pt ∨ ∃ e' ∈ es, c.pt = e'.term := by
  induction es generalizing pt with
  | nil => cases h
  | cons e es ih =>
    simp only [chainOf, List.mem_cons] at h
    rcases h with h | h
    · left; rw [h]
    · right
      rcases ih h with h' | ⟨e', he', h'⟩
      · exact ⟨e, List.mem_cons_self .., h'⟩
      · exact ⟨e', List.mem_cons_of_mem _ he', h'⟩

protected theorem chainOf_mem {cr pt : Nat} {es : List Entry} {e : Entry} (h : e ∈ es) :
    ∃ c ∈ chainOf cr pt es, c.e = e ∧ c.cr = cr := by
  induction es generalizing pt with
  | nil => cases h
  | cons x xs ih =>
    rcases List.mem_cons.mp h with h | h
    · exact ⟨⟨x, pt, cr⟩, by simp [chainOf], h.symm, rfl⟩
    · obtain ⟨c, hc, h1, h2⟩ := ih (pt := x.term) h
      exact ⟨c, by simp only [chainOf, List.mem_cons]; exact Or.inr hc, h1, h2⟩

/-- Node `i` of `x` is replaced by `y.node i`; its log grew by `es` (all of term `te`), which are the new records of
the tree. -/
structure NewC (x y : Commit.Sys) (A : List Ack) (i : Nat) (op : Op) (es : List Entry) (te : Nat) : Prop where
  core : CoreI x A
  ext : Ext x y i
  i0 : i ≠ 0
  log' : LogCore y.rp
  T : y.T = chainOf i (lastTerm (x.node i).log.entries) es ++ x.T
  log : es ≠ [] → (y.node i).log.entries = (x.node i).log.entries ++ es
  keepL : (y.node i).role = .leader → (x.node i).log.entries <+: (y.node i).log.entries
  ent : ∀ e ∈ es, e.term = te ∧ (x.node i).lastLogIndex < e.index
  story : es ≠ [] → te ≤ (y.node i).term ∧ Story (x.node i) op te ∧ (y.node i).role ≠ .candidate
  ldr : (y.node i).role = .leader →
    ((x.node i).role = .leader ∧ (y.node i).term = (x.node i).term) ∨
    ((x.node i).role = .candidate ∧ (y.node i).term = (x.node i).term) ∨ (x.node i).term < (y.node i).term
  /-- election safety: a record of the new entries' term that a node created before was created by node `i` -/
  creator : es ≠ [] → ∀ c ∈ x.T, c.cr ≠ 0 → c.e.term = te → c.cr = i

namespace NewC
variable {x y : Commit.Sys} {A : List Ack} {i : Nat} {op : Op} {es : List Entry} {te : Nat}

theorem mem_new (h : NewC x y A i op es te) {c : CEntry}
    (hc : c ∈ chainOf i (lastTerm (x.node i).log.entries) es) :
    c.cr = i ∧ c.e ∈ es ∧ c.e.term = te ∧ (x.node i).log.entries.length < c.e.index ∧ es ≠ [] := by
  obtain ⟨h1, h2⟩ := C04Sys.mem_chainOf hc
  obtain ⟨h3, h4⟩ := h.ent _ h2
  rw [(h.core.log.nodes i).1.last] at h4
  exact ⟨h1, h2, h3, h4, fun e => by rw [e] at h2; cases h2⟩

theorem mem_T (h : NewC x y A i op es te) {c : CEntry} (hc : c ∈ y.T) :
    c ∈ chainOf i (lastTerm (x.node i).log.entries) es ∨ c ∈ x.T := by
  rw [h.T] at hc; exact List.mem_append.mp hc

theorem new_holds (h : NewC x y A i op es te) {c : CEntry}
    (hc : c ∈ chainOf i (lastTerm (x.node i).log.entries) es) :
    Holds (y.node i).log.entries c.e.index c.e.term := by
  obtain ⟨_, h2, _, _, hne⟩ := h.mem_new hc
  apply Commit.holds_of_mem (h.log'.nodes i).1.contig
  rw [h.log hne]
  exact List.mem_append_right _ h2

theorem old_holds (h : NewC x y A i op es te) (hne : es ≠ []) {k τ : Nat}
    (hk : Holds (x.node i).log.entries k τ) : Holds (y.node i).log.entries k τ := by
  rw [h.log hne]; exact holds_prefix (List.prefix_append _ _) hk

theorem term_le (h : NewC x y A i op es te) (hne : es ≠ []) : (x.node i).term ≤ te := by
  rcases (h.story hne).2.1 with ⟨_, b⟩ | ⟨_, _, b⟩ | ⟨a, _, _⟩ <;> omega

theorem no_old (h : NewC x y A i op es te) (hne : es ≠ [])
    (hnl : ¬ ((x.node i).role = .leader ∧ te = (x.node i).term)) {c : CEntry} (hc : c ∈ x.T)
    (ht : c.e.term = te) : False := by
  obtain ⟨_, hs, _⟩ := h.story hne
  -- the old record is an initial one, or (election safety) one of node `i`: its term is not above the node's old term,
  -- and below it if the node was candidate
  have hle : c.e.term ≤ (x.node i).term ∧ ((x.node i).role = .candidate → c.e.term < (x.node i).term) := by
    by_cases h0 : c.cr = 0
    · obtain ⟨i1, i2⟩ := h.core.log.init0 c hc h0 i
      exact ⟨i1, fun a => i2 (by rw [show (x.rp.el.node i).role = _ from a]; decide)⟩
    · obtain ⟨_, o3, _, o5⟩ := h.core.log.own c hc h0
      rw [h.creator hne c hc h0 ht] at o3 o5
      exact ⟨o3, o5⟩
  rcases hs with ⟨a, b⟩ | ⟨a, _, b⟩ | ⟨a, _, _⟩
  · exact hnl ⟨a, b⟩
  · have := hle.2 a.1
    omega
  · have := hle.1
    omega

theorem old_in_log (h : NewC x y A i op es te) (hne : es ≠ []) (hl : (x.node i).role = .leader)
    (ht : te = (x.node i).term) {c : CEntry} (hc : c ∈ x.T) (hct : c.e.term = te) :
    Holds (x.node i).log.entries c.e.index c.e.term := by
  have h0 : c.cr ≠ 0 := fun h0 => by
    have : c.e.term < (x.node i).term :=
      (h.core.log.init0 c hc h0 i).2 (by rw [show (x.rp.el.node i).role = _ from hl]; decide)
    omega
  have hci := h.creator hne c hc h0 hct
  have := h.core.ownLog c hc h0
  rw [hci] at this
  exact this hl (ht.symm.trans hct.symm)

theorem treeOK (h : NewC x y A i op es te) : TreeOK y.T := by
  have hC := h.core
  have hpy := node_path h.log' i
  refine ⟨fun c hc => ?_, fun c hc => ?_, fun c hc d hd ht hle => ?_⟩
  · -- every record lies on a root path
    rcases h.mem_T hc with hn | ho
    · exact ⟨_, hpy, h.new_holds hn⟩
    · obtain ⟨p, hp, hh⟩ := hC.pathc c ho
      exact ⟨p, hp.mono h.ext.T, hh⟩
  · -- terms do not decrease
    rcases h.mem_T hc with hn | ho
    · obtain ⟨_, _, h3, _, hne⟩ := h.mem_new hn
      rcases Commit.chainOf_pt hn with e | ⟨e', he', e⟩
      · rw [e, h3]
        refine Nat.le_trans ?_ (h.term_le hne)
        unfold lastTerm
        cases hl : (x.node i).log.entries.getLast? with
        | none => exact Nat.zero_le _
        | some z => exact (hC.node i).termLe z (List.mem_of_getLast? hl)
      · rw [e, (h.ent e' he').1, h3]; exact Nat.le_refl _
    · exact hC.tmono c ho
  · -- the entries of one term lie on one path
    rcases h.mem_T hc with hcn | hco <;> rcases h.mem_T hd with hdn | hdo
    · exact anc_of_path hpy (h.new_holds hcn) (h.new_holds hdn) hle
    · -- `c` new, `d` old: impossible
      exfalso
      obtain ⟨_, _, c3, c4, hne⟩ := h.mem_new hcn
      by_cases hl : (x.node i).role = .leader ∧ te = (x.node i).term
      · have := (h.old_in_log hne hl.1 hl.2 hdo (by rw [← ht]; exact c3)).2.1
        have hle' : c.e.index ≤ d.e.index := hle
        omega
      · exact h.no_old hne hl hdo (by rw [← ht]; exact c3)
    · obtain ⟨_, _, d3, _, hne⟩ := h.mem_new hdn
      by_cases hl : (x.node i).role = .leader ∧ te = (x.node i).term
      · have hh := h.old_holds hne (h.old_in_log hne hl.1 hl.2 hco (by rw [ht]; exact d3))
        exact anc_of_path hpy hh (h.new_holds hdn) hle
      · exact (h.no_old hne hl hco (by rw [ht]; exact d3)).elim
    · exact h.ext.anc (hC.tblock c hco d hdo ht hle)

theorem ownLog (h : NewC x y A i op es te) : ∀ c ∈ y.T, c.cr ≠ 0 → (y.node c.cr).role = .leader →
    (y.node c.cr).term = c.e.term → Holds (y.node c.cr).log.entries c.e.index c.e.term := by
  intro c hc h0 hl ht
  have hC := h.core
  rcases h.mem_T hc with hn | ho
  · rw [(h.mem_new hn).1] at hl ht ⊢; exact h.new_holds hn
  · by_cases hci : c.cr = i
    · rw [hci] at hl ht ⊢
      obtain ⟨_, o3, _, o5⟩ := hC.log.own c ho h0
      rw [hci] at o3 o5
      have o3' : c.e.term ≤ (x.node i).term := o3
      rcases h.ldr hl with ⟨a, b⟩ | ⟨a, b⟩ | a
      · have := hC.ownLog c ho h0
        rw [hci] at this
        exact holds_prefix (h.keepL hl) (this a (by rw [← b]; exact ht))
      · have : c.e.term < (x.node i).term := o5 a
        omega
      · omega
    · rw [h.ext.other _ hci] at hl ht ⊢
      exact hC.ownLog c ho h0 hl ht

theorem story_cases (h : NewC x y A i op es te) (hne : es ≠ []) :
    ((x.node i).role = .leader ∧ te = (x.node i).term) ∨
    (¬ ((x.node i).role = .leader ∧ te = (x.node i).term) ∧
      ((Counts (x.node i) op ∧ (x.node i).votesNeeded - 1 = 0 ∧ te = (x.node i).term) ∨
       (te > (x.node i).term ∧ (x.node i).configs.latest.quorum = 1))) := by
  by_cases hl : (x.node i).role = .leader ∧ te = (x.node i).term
  · exact Or.inl hl
  · right
    refine ⟨hl, ?_⟩
    rcases (h.story hne).2.1 with a | ⟨a, b, c⟩ | ⟨a, b, _⟩
    · exact absurd a hl
    · exact Or.inl ⟨a, b, c⟩
    · exact Or.inr ⟨a, b⟩

theorem creator_new (h : NewC x y A i op es te) {a b : CEntry}
    (ha : a ∈ chainOf i (lastTerm (x.node i).log.entries) es) (hb : b ∈ x.T) (hab : a.e.term = b.e.term)
    (hb0 : b.cr ≠ 0) : b.cr = a.cr := by
  obtain ⟨a1, _, a3, _, hne⟩ := h.mem_new ha
  rw [a1]
  exact h.creator hne b hb hb0 (hab.symm.trans a3)

end NewC

theorem NodeAt.frame {x y : Commit.Sys} {i : Nat} (hE : Ext x y i) {j : Nat} (hj : j ≠ i) (h : NodeAt x j) :
    NodeAt y j := by
  have e : y.node j = x.node j := hE.other j hj
  refine ⟨by rw [e]; exact h.lwf, by rw [e]; exact h.termLe, fun k hk hk2 => ?_, fun hr => ?_, fun hl => ?_⟩
  · rw [e] at hk hk2 ⊢
    obtain ⟨c, hc, r⟩ := h.unfl k hk hk2
    exact ⟨c, hE.T c hc, r⟩
  · rw [e] at hr ⊢
    obtain ⟨k, hk, r⟩ := h.camp hr
    exact ⟨k, hE.camps k hk, r⟩
  · rw [e] at hl ⊢
    refine (h.ldr hl).mono ?_
    rintro v m ⟨a, ha, a1, a2, a3⟩
    exact ⟨a, hE.acks a ha, a1, by rw [e]; exact a2, a3⟩

theorem NodeAt.restarted {y : Commit.Sys} {j : Nat} (hr : (y.node j).role = .follower)
    (lwf : C06.LogWF (y.node j).log) (hfl : (y.node j).log.flushed = (y.node j).log.entries.length)
    (termLe : ∀ e ∈ (y.node j).log.entries, e.term ≤ (y.node j).term) : NodeAt y j :=
  ⟨lwf, termLe, fun k hk hk2 => by omega, fun h => absurd hr h, fun h => by rw [hr] at h; cases h⟩

theorem nodes_of {x y : Commit.Sys} {A : List Ack} {i : Nat} (hC : CoreI x A) (hE : Ext x y i) (new : NodeAt y i) :
    ∀ j, NodeAt y j := fun j =>
  if hj : j = i then hj ▸ new else (hC.node j).frame hE hj

/-! ### a completed step of node `i`: what the invariant says of the node afterwards

`StepC` is what `C02Sys.SC` and `MemberStep.SM` provide in common: the step and its ledger entries as the transition wrote
them, not yet the consequences `Commit.CoreUpd` draws (`StepC.coreUpd`). The node-level summaries (`leader_step`, `fstep`,
`role_step`, `append_stale`) enter through the lemmas of this section and nowhere else in the cluster proofs. -/

/-- what `CommitRel.NStep` and `MemberCommit.NStepM` say in common of a step that is not an append request. `A t v`: the
new non-zero votes the step may make durable (`AOp pre op` for a step; `AF`: none). `B j m`: what backs a match index `m`
the leader holds for `j` (`Backed x i` in a cluster). `DW`: on a disk image the last segment starts within the entries. -/
structure NStepC (pre : Node) (A B : Nat → Nat → Prop) (post : Node) : Prop where
  lwf : C06.LogWF post.log
  flush : pre.log.flushed ≤ post.log.flushed
  pair : PairOK pre A post.term post.votedFor
  tr : ∀ p ∈ post.trace, pre.log.entries.take pre.log.flushed <+: p.2.log.entries ∧
    PairOK pre A p.2.term p.2.vote ∧ DW p.2
  ldr : post.role = .leader →
    (pre.role = .leader ∧ post.term = pre.term ∧ LeadOK B post) ∨ LeadOK AF post
  trgrow : ∀ p ∈ post.trace, pre.log.entries.length < p.2.log.entries.length →
    (p.2.term = post.term ∧ p.2.vote = post.votedFor) ∨
    (pre.role = .leader ∧ lastTerm p.2.log.entries = pre.term)

theorem _root_.Raft.CommitRel.NStep.toC {pre post : Node} {A B : Nat → Nat → Prop} (h : NStep pre A B post) :
    NStepC pre A B post :=
  ⟨h.lwf, h.flush, h.pair, h.tr, h.ldr, h.trgrow⟩

/-- node `i` of `x` handled `op` to completion, a reply of `src` if it is one; `y` is the state after -/
structure StepC (x y : Commit.Sys) (A : List Ack) (i : Nat) (op : Op) (ra : List Nat) (ord : List (List Nat))
    (src : Nat) : Prop extends ReplC x y A i op ((x.node i).step op ra ord) where
  el : y.rp.el = Election.stepSys x.rp.el i op ra ord src
  sent : y.rp.sent = x.rp.sent
  acks : y.acks = ackOf i op ((x.node i).step op ra ord) ++
    (selfAck i op (x.node i) ((x.node i).step op ra ord) ++ x.acks)
  boot : (x.node i).configs.isBootstrapped = true
  ok : OpOK op
  /-- a vote request comes from a node, and one that is not refused as stale answers a recorded campaign -/
  voteSrc : ∀ q, op = .vote q → q.src ≠ 0
  req : ∀ q, op = .vote q → q.term < (x.node i).term ∨
    (Camp.mk q.src q.term q.lastLogIndex q.lastLogTerm) ∈ x.camps
  /-- a reply that is counted answers a request of this candidacy -/
  real : Counts (x.node i) op → RealReply x.rp.el i src
  /-- an append request that is not refused as stale was sent -/
  app : ∀ q, op = .append q → q.term < (x.node i).term ∨ q ∈ x.rp.sent
  nst : (∀ q, op ≠ .append q) →
    NStepC (x.node i) (AOp (x.node i) op) (Backed x i) ((x.node i).step op ra ord)

namespace StepC
variable {x y : Commit.Sys} {A : List Ack} {i : Nat} {op : Op} {ra : List Nat} {ord : List (List Nat)} {src : Nat}

abbrev post (_h : StepC x y A i op ra ord src) : Node := (x.node i).step op ra ord

theorem nwf (h : StepC x y A i op ra ord src) : NWF (x.node i) := (h.core.log.nodes i).1

theorem nid (h : StepC x y A i op ra ord src) : (x.node i).nid = i := (h.core.el.ids i).1

theorem rstep (h : StepC x y A i op ra ord src) : RoleStep (x.node i) op h.post :=
  role_step (x.node i) op ra ord (h.core.candTerm i)

/-- the follower step: an append request that is not refused as stale was sent, and the step is `FStep` of it -/
theorem fst {q : AppendReq} (h : StepC x y A i (.append q) ra ord src) (hns : ¬ q.term < (x.node i).term) :
    q ∈ x.rp.sent ∧ FStep (x.node i) q h.post := by
  have hq : q ∈ x.rp.sent := (h.app q rfl).resolve_left hns
  exact ⟨hq, fstep (x.node i) q ra ord h.nwf (h.core.node i).lwf (h.core.el.ids i).2
    (h.core.log.sent q hq).idx⟩

theorem own (h : StepC x y A i op ra ord src) (happ : ∀ q, op ≠ .append q) :
    ∃ es te, h.post.log.entries = (x.node i).log.entries ++ es ∧
      y.T = chainOf i (lastTerm (x.node i).log.entries) es ++ x.T ∧ (∀ e ∈ es, e.term = te) ∧ te ≤ h.post.term ∧
      (es ≠ [] → Story (x.node i) op te ∧ h.post.role ≠ .candidate) := by
  have ls := leader_step (x.node i) op ra ord h.nwf (h.core.el.ids i).2 h.boot h.ok happ (h.core.candTerm i)
  obtain ⟨es, te, l1, l2, l3, l4, _⟩ := ls.ext
  refine ⟨es, te, l1, ?_, l2, l3, l4⟩
  rw [h.created, C04Sys.newCreated_other _ _ _ _ happ, l1, List.drop_left]

theorem ack_facts {q : AppendReq} (h : StepC x y A i (.append q) ra ord src) {a : Ack}
    (ha : a ∈ ackOf i (.append q) h.post) :
    q ∈ x.rp.sent ∧ ¬ q.term < (x.node i).term ∧ a.voter = i ∧ a.term = q.term ∧
    a.index = q.prevLogIndex + q.entries.length ∧ 1 ≤ a.index ∧
    Holds h.post.log.entries a.index a.eterm ∧ h.post.term = q.term ∧
    ((∃ e ∈ q.entries, e.index = a.index ∧ e.term = a.eterm) ∨ (q.entries = [] ∧ q.prevLogTerm = a.eterm)) := by
  have f := ackOf_facts ha
    (fun hst hc => by
      rw [(append_stale _ q ra ord hst).2.2.2.2.2.2.2.2.2.2.2] at hc
      exact absurd hc (by decide))
    (fun hst => ⟨(h.fst hst).2, h.core.log.sent q (h.fst hst).1⟩)
  exact ⟨(h.fst f.1).1, f⟩

theorem keepsAcked (h : StepC x y A i op ra ord src) : KeepsAcked x A i h.post :=
  keepsAcked_step h.core
    (fun happ => let ⟨es, _, hl, _⟩ := h.own happ; ⟨es, hl, (h.nst happ).flush⟩)
    fun q hq => by
      subst hq
      by_cases hst : q.term < (x.node i).term
      · exact Or.inl (append_stale _ q ra ord hst).1
      · exact Or.inr ⟨(h.fst hst).1, hst, (h.fst hst).2⟩

theorem pair_post (h : StepC x y A i op ra ord src) : PairOK (x.node i) (AOp (x.node i) op) h.post.term h.post.votedFor := by
  rcases op_cases op with happ | ⟨q, rfl⟩
  · exact (h.nst happ).pair
  · by_cases hst : q.term < (x.node i).term
    · obtain ⟨_, s2, s3, _⟩ := append_stale _ q ra ord hst
      rw [show h.post.term = _ from s2, show h.post.votedFor = _ from s3]
      exact ⟨Nat.le_refl _, Or.inr (Or.inl ⟨rfl, rfl⟩)⟩
    · exact (h.fst hst).2.pair.mono (fun _ _ hf => hf.elim)

theorem grant_new (h : StepC x y A i op ra ord src) {g : C01.Grant}
    (hg : g ∈ Election.voteGrant i op h.post ∨ g ∈ Election.selfGrant i (x.node i) h.post) :
    g.voter = i ∧ h.post.term = g.term ∧ h.post.votedFor = g.cand ∧
    g.cand ≠ 0 ∧ ∃ k ∈ y.camps, k.cand = g.cand ∧ k.term = g.term := by
  have hwf := (h.core.el.ids i).2
  rcases hg with hg | hg
  · unfold Election.voteGrant at hg
    split at hg
    · rename_i z hz
      cases op with
      | vote q =>
        simp only [C05.grantOf] at hz
        split at hz
        · rename_i hs
          injection hz with hz
          subst hz
          rw [List.mem_singleton.mp hg]
          obtain ⟨p1, p2⟩ := vote_step_pair (x.node i) q ra ord hwf hs
          obtain ⟨g1, _⟩ := Election.vote_grant_agrees (x.node i) q ra ord hwf hs
          refine ⟨rfl, p1, p2, h.voteSrc q rfl, ?_⟩
          rcases h.req q rfl with hst | hc
          · omega
          · exact ⟨_, h.ext.camps _ hc, rfl, rfl⟩
        · cases hz
      | _ => simp [C05.grantOf] at hz
    · cases hg
  · obtain ⟨s1, s2, s3⟩ := C01Sys.mem_selfGrant hg
    rw [s3]
    refine ⟨rfl, rfl, s2, h.i0, Camp.mk i h.post.term (x.node i).lastLogIndex (x.node i).lastLogTerm, ?_, rfl, rfl⟩
    rw [h.camps]
    exact List.mem_append_left _ (campOf_self ⟨s1, s2⟩)

theorem acks_cases (h : StepC x y A i op ra ord src) {a : Ack} (ha : a ∈ y.acks) :
    (∃ q, op = .append q ∧ a ∈ ackOf i op h.post) ∨ a ∈ selfAck i op (x.node i) h.post ∨ a ∈ x.acks := by
  rw [h.acks] at ha
  rcases List.mem_append.mp ha with ha | ha
  · left
    rcases op_cases op with happ | ⟨q, hq⟩
    · rw [ackOf_nonappend _ _ _ happ] at ha; cases ha
    · exact ⟨q, hq, ha⟩
  · exact Or.inr (List.mem_append.mp ha)

/-- the acknowledgements added by a step are the node's own, in a term at or above its old term — its new term when it
holds a vote afterwards; `hself`: the self acknowledgement of a leader-side commit is (the commit moments of each
system) -/
theorem new_acks (h : StepC x y A i op ra ord src)
    (hself : ∀ a ∈ selfAck i op (x.node i) h.post,
      a.voter = i ∧ (x.node i).term ≤ a.term ∧ (h.post.votedFor ≠ 0 → h.post.term ≤ a.term))
    {a : Ack} (ha : a ∈ y.acks) :
    a ∈ x.acks ∨ (a.voter = i ∧ (x.node i).term ≤ a.term ∧ (h.post.votedFor ≠ 0 → h.post.term ≤ a.term)) := by
  rcases h.acks_cases ha with ⟨q, rfl, ha⟩ | ha | ha
  · obtain ⟨_, hst, a1, a2, _, _, _, a6, _⟩ := h.ack_facts ha
    exact Or.inr ⟨a1, by rw [a2]; exact Nat.le_of_not_lt hst, fun _ => by rw [a2, a6]; exact Nat.le_refl _⟩
  · exact Or.inr (hself a ha)
  · exact Or.inl ha

/-- **a completed step as a replacement of node `i`** (`CoreUpd`); `A'`: the acknowledgements afterwards -/
theorem coreUpd (h : StepC x y A i op ra ord src) {A' : List Ack}
    (acks : ∀ a ∈ A', a ∈ A ∨
      (a.voter = i ∧ (x.node i).term ≤ a.term ∧ (h.post.votedFor ≠ 0 → h.post.term ≤ a.term))) :
    CoreUpd x y A A' i op src h.post :=
  ⟨h.toReplC, h.keepsAcked, h.pair_post, h.req, acks,
    fun _ hg => (C01Sys.stepSys_grant_cases (h.el ▸ hg)).imp h.grant_new id,
    fun _ he => C01Sys.stepSys_counted_cases (h.el ▸ he), h.real, h.sent⟩

/-- **the step as new entries of the node's own log** (none when it handled an append request). `hcr` is election
safety: a record of the new entries' term that a node created before was created by node `i`. -/
theorem newC (h : StepC x y A i op ra ord src)
    (hcr : ∀ te, Story (x.node i) op te → ∀ c ∈ x.T, c.cr ≠ 0 → c.e.term = te → c.cr = i) :
    ∃ es te, NewC x y A i op es te ∧
      ((∀ q, op ≠ .append q) → h.post.log.entries = (x.node i).log.entries ++ es) ∧
      ((∃ q, op = .append q) → es = []) := by
  have rs := h.rstep
  have hldr : (y.node i).role = .leader →
      ((x.node i).role = .leader ∧ (y.node i).term = (x.node i).term) ∨
      ((x.node i).role = .candidate ∧ (y.node i).term = (x.node i).term) ∨ (x.node i).term < (y.node i).term := by
    rw [h.node_i]
    intro hl
    rcases rs.leader hl with ⟨a, b⟩ | ⟨a, _, b⟩ | ne
    · exact Or.inl ⟨a, b⟩
    · exact Or.inr (Or.inl ⟨a.1, b⟩)
    · exact Or.inr (Or.inr ne.term_gt)
  rcases op_cases op with happ | ⟨q, rfl⟩
  · obtain ⟨es, te, l1, hT, l2, l3, l4⟩ := h.own happ
    refine ⟨es, te, ⟨h.core, h.ext, h.i0, h.log', hT, fun _ => by rw [h.node_i]; exact l1,
      fun _ => by rw [h.node_i, l1]; exact List.prefix_append _ _, fun e he => ⟨l2 e he, ?_⟩,
      fun hne => by rw [h.node_i]; exact ⟨l3, (l4 hne).1, (l4 hne).2⟩, hldr,
      fun hne => hcr te (l4 hne).1⟩, fun _ => l1, fun ⟨q, hq⟩ => absurd hq (happ q)⟩
    have := (C04Sys.contig_drop h.upd.nwf.contig (x.node i).log.entries.length).2 e
      (by rw [l1, List.drop_left]; exact he)
    rw [h.nwf.last]; exact this.1
  · -- a leader after the step was leader before it, and the request was refused as stale: the log is the old one
    have keepL : (y.node i).role = .leader → (x.node i).log.entries <+: (y.node i).log.entries := by
      rw [h.node_i]
      intro hl
      by_cases hst : q.term < (x.node i).term
      · rw [(append_stale _ q ra ord hst).1]; exact List.prefix_refl _
      · rw [append_step_role _ q ra ord hst] at hl; cases hl
    exact ⟨[], 0, ⟨h.core, h.ext, h.i0, h.log', h.created, fun hne => absurd rfl hne, keepL,
      fun e he => absurd he List.not_mem_nil, fun hne => absurd rfl hne, hldr, fun hne => absurd rfl hne⟩,
      fun hna => absurd rfl (hna q), fun _ => rfl⟩

theorem lwf_post (h : StepC x y A i op ra ord src) : C06.LogWF h.post.log := by
  rcases op_cases op with happ | ⟨q, rfl⟩
  · exact (h.nst happ).lwf
  · by_cases hst : q.term < (x.node i).term
    · show C06.LogWF ((x.node i).step (.append q) ra ord).log
      rw [(append_stale _ q ra ord hst).1]; exact (h.core.node i).lwf
    · exact (h.fst hst).2.lwf

theorem termLe_post (h : StepC x y A i op ra ord src) : ∀ e ∈ h.post.log.entries, e.term ≤ h.post.term := by
  have old := (h.core.node i).termLe
  have hmono : (x.node i).term ≤ h.post.term := h.upd.term
  rcases op_cases op with happ | ⟨q, rfl⟩
  · obtain ⟨es, te, hl, _, ht, hle, _⟩ := h.own happ
    intro e he
    rw [hl] at he
    rcases List.mem_append.mp he with he | he
    · exact Nat.le_trans (old e he) hmono
    · rw [ht e he]; exact hle
  · by_cases hst : q.term < (x.node i).term
    · obtain ⟨s1, s2, _⟩ := append_stale _ q ra ord hst
      show ∀ e ∈ ((x.node i).step (.append q) ra ord).log.entries, e.term ≤ ((x.node i).step (.append q) ra ord).term
      rw [s1, s2]; exact old
    · obtain ⟨hq, fs⟩ := h.fst hst
      intro e he
      rcases fs.src e he with he | he
      · exact Nat.le_trans (old e he) hmono
      · show e.term ≤ ((x.node i).step (.append q) ra ord).term
        rw [fs.term hst]; exact (h.core.sent q hq).term.1 e he

/-- an entry that is not flushed yet was created by the node itself: an old one, or one appended in this step -/
theorem unfl_post (h : StepC x y A i op ra ord src) : ∀ k, h.post.log.flushed < k →
    k ≤ h.post.log.entries.length →
    ∃ c ∈ y.T, c.e.index = k ∧ c.e.term = termAt h.post.log.entries k ∧ c.cr = i := by
  have old := (h.core.node i).unfl
  intro k hk hk2
  have same : h.post.log = (x.node i).log →
      ∃ c ∈ y.T, c.e.index = k ∧ c.e.term = termAt h.post.log.entries k ∧ c.cr = i := fun d => by
    rw [d] at hk hk2 ⊢
    obtain ⟨c, hc, r⟩ := old k hk hk2
    exact ⟨c, h.ext.T c hc, r⟩
  rcases op_cases op with happ | ⟨q, rfl⟩
  · obtain ⟨es, te, hl, hT, _, _, _⟩ := h.own happ
    have hfl : (x.node i).log.flushed ≤ h.post.log.flushed := (h.nst happ).flush
    by_cases hkl : k ≤ (x.node i).log.entries.length
    · obtain ⟨c, hc, c1, c2, c3⟩ := old k (by omega) hkl
      refine ⟨c, h.ext.T c hc, c1, ?_, c3⟩
      rw [hl, termAt_append_left _ _ _ hkl]; exact c2
    · -- an entry beyond the old log is one of `es`, recorded in this step
      have hlt : k - 1 < h.post.log.entries.length := by omega
      have hpn : NWF h.post := h.upd.nwf
      obtain ⟨e, hget⟩ : ∃ e, h.post.log.entries[k - 1]? = some e := ⟨_, List.getElem?_eq_getElem hlt⟩
      have hidx : e.index = k := by
        obtain ⟨hh, he⟩ := List.getElem?_eq_some_iff.mp hget
        rw [← he, hpn.contig (k - 1) hh]; omega
      have hmem : e ∈ es := by
        have hg := hget
        rw [hl, List.getElem?_append_right (by omega)] at hg
        exact List.mem_of_getElem? hg
      obtain ⟨c, hc, c1, c2⟩ := Commit.chainOf_mem (cr := i) (pt := lastTerm (x.node i).log.entries) hmem
      refine ⟨c, by rw [hT]; exact List.mem_append_left _ hc, by rw [c1]; exact hidx, ?_, c2⟩
      rw [c1]
      unfold termAt
      rw [if_neg (by omega), hget]; rfl
  · by_cases hst : q.term < (x.node i).term
    · exact same (append_stale _ q ra ord hst).1
    · rcases (h.fst hst).2.dirty with d | d
      · exact same d
      · omega

/-- a candidate or leader after the step has a recorded campaign for its term whose coordinates its log holds: the one
it had, or the one this step recorded -/
theorem camp_post (h : StepC x y A i op ra ord src) : h.post.role ≠ .follower → CampAt y i h.post := by
  have hpre := h.nwf
  have old := (h.core.node i).camp
  intro hr
  rcases op_cases op with happ | ⟨q, rfl⟩
  · obtain ⟨es, te, hl, _, _, _, hst⟩ := h.own happ
    have rs := h.rstep
    have hcand : h.post.role = .candidate → es = [] := fun hc =>
      Classical.byContradiction fun hne => (hst hne).2 hc
    have keep : (x.node i).role ≠ .follower → h.post.term = (x.node i).term →
        (h.post.role = .candidate → (x.node i).role = .candidate) → CampAt y i h.post := by
      intro hp ht hcc
      obtain ⟨k, hk, k1, k2, k3, k4, k5⟩ := old hp
      refine ⟨k, h.ext.camps k hk, k1, k2.trans ht.symm, by rw [hl, List.length_append]; omega, fun h1 => ?_,
        fun hc => ?_⟩
      · rw [hl, termAt_append_left _ _ _ k3]; exact k4 h1
      · rw [hl, hcand hc, List.append_nil]; exact k5 (hcc hc)
    have fromNE : NewElection (x.node i) h.post → CampAt y i h.post := by
      intro ne
      refine ⟨Camp.mk i h.post.term (x.node i).lastLogIndex (x.node i).lastLogTerm, ?_, rfl, rfl,
        ?_, fun h1 => ?_, fun hc => ?_⟩
      · rw [h.camps]
        apply List.mem_append_left
        unfold campOf
        rw [if_pos ⟨ne.term_gt, by rw [ne.vote_self, h.nid]⟩]
        exact List.mem_singleton.mpr rfl
      · show (x.node i).lastLogIndex ≤ _
        rw [hpre.last, hl, List.length_append]; omega
      · show termAt _ (x.node i).lastLogIndex = (x.node i).lastLogTerm
        rw [hpre.last, hl, termAt_append_left _ _ _ (Nat.le_refl _), termAt_length, hpre.lastT]
      · show (x.node i).lastLogIndex = _
        rw [hpre.last, hl, hcand hc, List.append_nil]
    cases hrole : h.post.role with
    | follower => exact absurd hrole hr
    | leader =>
      rcases rs.leader hrole with ⟨a, b⟩ | ⟨a, _, b⟩ | ne
      · exact keep (by rw [a]; decide) b (fun hc => by rw [hrole] at hc; cases hc)
      · exact keep (by rw [a.1]; decide) b (fun _ => a.1)
      · exact fromNE ne
    | candidate =>
      rcases rs.candidate hrole with ⟨a, b, _⟩ | ne
      · exact keep (by rw [a]; decide) b (fun _ => a)
      · exact fromNE ne
  · by_cases hst : q.term < (x.node i).term
    · obtain ⟨s1, s2, _, _, _, s6, _⟩ := append_stale _ q ra ord hst
      show CampAt y i ((x.node i).step (.append q) ra ord)
      unfold CampAt
      rw [s1, s2, s6]
      obtain ⟨k, hk, r⟩ := old (by rw [← s6]; exact hr)
      exact ⟨k, h.ext.camps k hk, r⟩
    · exact absurd (append_step_role _ q ra ord hst) hr

/-- a leader after the step: its record is as `LeadOK` says, every match index backed by an acknowledgement in `y` -/
theorem ldr_post (h : StepC x y A i op ra ord src) : h.post.role = .leader → LeadOK (Backed y i) h.post := by
  intro hl
  have hmono : h.post.term = (x.node i).term → ∀ j m, Backed x i j m → Backed y i j m := by
    rintro ht j m ⟨a, ha, a1, a2, a3⟩
    exact ⟨a, h.ext.acks a ha, a1, by rw [h.node_i, ht]; exact a2, a3⟩
  rcases op_cases op with happ | ⟨q, rfl⟩
  · rcases (h.nst happ).ldr hl with ⟨_, b, lo⟩ | lo
    · exact lo.mono (hmono b)
    · exact lo.mono (fun _ _ hf => hf.elim)
  · by_cases hst : q.term < (x.node i).term
    · obtain ⟨s1, s2, _, _, _, s6, s7, s8, s9, _⟩ := append_stale _ q ra ord hst
      have lo := (h.core.node i).ldr (by rw [← s6]; exact hl)
      exact (LeadOK.mono (hmono s2) (show LeadOK (Backed x i) ((x.node i).step (.append q) ra ord) from
        ⟨by rw [s8, s7]; exact lo.numVoters, by rw [s8]; exact lo.start, by rw [s8, s1, s2]; exact lo.own,
          by rw [s8]; exact lo.mi, by rw [s8, s1]; exact lo.startLe, by rw [s9, s2]; exact lo.lastT⟩))
    · have := append_step_role _ q ra ord hst
      rw [show h.post.role = _ from this] at hl; cases hl

theorem nodeAt (h : StepC x y A i op ra ord src) : NodeAt y i := by
  have e : y.node i = h.post := h.node_i
  refine ⟨?_, ?_, ?_, ?_, ?_⟩ <;> rw [e]
  · exact h.lwf_post
  · exact h.termLe_post
  · exact h.unfl_post
  · exact h.camp_post
  · exact h.ldr_post

end StepC

theorem cc_of {x y : Commit.Sys} {A : List Ack} {i : Nat} (hC : CoreI x A) (hE : Ext x y i)
    (new : ∀ k, 1 ≤ k → k ≤ (y.node i).commitIndex → k ≤ (y.node i).log.entries.length ∧
      Cmt y (k, termAt (y.node i).log.entries k) (y.node i).term) :
    ∀ j k, 1 ≤ k → k ≤ (y.node j).commitIndex → k ≤ (y.node j).log.entries.length ∧
      Cmt y (k, termAt (y.node j).log.entries k) (y.node j).term := by
  intro j k hk hk2
  by_cases hj : j = i
  · subst hj; exact new k hk hk2
  · rw [hE.other j hj] at hk2 ⊢
    obtain ⟨c1, c2⟩ := hC.cc j k hk hk2
    exact ⟨c1, hE.cmt (Nat.le_refl _) c2⟩

namespace StepC
variable {x y : Commit.Sys} {A : List Ack} {i : Nat} {op : Op} {ra : List Nat} {ord : List (List Nat)} {src : Nat}

/-- **the commit index of the node after its step.** Below the old commit index the log is unchanged (a request that is
not stale does not conflict with it: `hnc`); the follower's commit index moves to an entry of the request, committed
by the leader that stamped the request; the leader's own rule is `hmove`: each system records its entry in `committed`. -/
theorem cc_post (h : StepC x y A i op ra ord src)
    (hnc : ∀ q, op = .append q → ¬ q.term < (x.node i).term → NoConf (x.node i) q (x.node i).commitIndex)
    (hmove : (∀ q, op ≠ .append q) → (x.node i).commitIndex < h.post.commitIndex →
      ∃ T, T ≤ h.post.term ∧ Holds h.post.log.entries h.post.commitIndex T ∧ (h.post.commitIndex, T) ∈ y.committed) :
    ∀ k, 1 ≤ k → k ≤ h.post.commitIndex → k ≤ h.post.log.entries.length ∧
      Cmt y (k, termAt h.post.log.entries k) h.post.term := by
  have hC := h.core
  have hE := h.ext
  intro k hk hk2
  have hmono : (x.node i).term ≤ h.post.term := h.upd.term
  have old : k ≤ (x.node i).commitIndex → h.post.log.entries.take k = (x.node i).log.entries.take k →
      k ≤ h.post.log.entries.length ∧ Cmt y (k, termAt h.post.log.entries k) h.post.term := by
    intro hle htk
    obtain ⟨c1, c2⟩ := hC.cc i k hk hle
    have hl := congrArg List.length htk
    simp only [List.length_take] at hl
    refine ⟨by omega, ?_⟩
    rw [termAt_of_take_eq htk (Nat.le_refl _)]
    exact hE.cmt hmono c2
  rcases op_cases op with happ | ⟨q, rfl⟩
  · obtain ⟨es, te, hl, _⟩ := h.own happ
    by_cases hle : k ≤ (x.node i).commitIndex
    · refine old hle ?_
      obtain ⟨c1, _⟩ := hC.cc i k hk hle
      rw [hl, List.take_append_of_le_length c1]
    · obtain ⟨T, hT, hh, hm⟩ := hmove happ (by omega)
      have hkl : k ≤ h.post.log.entries.length := Nat.le_trans hk2 hh.2.1
      exact ⟨hkl, (h.post.commitIndex, T), hm, hT, h.anc_i ⟨hk, hkl, rfl⟩ hh hk2⟩
  · by_cases hst : q.term < (x.node i).term
    · obtain ⟨s1, _, _, s4, _⟩ := append_stale _ q ra ord hst
      rw [show h.post.commitIndex = _ from s4] at hk2
      exact old hk2 (by rw [show h.post.log = _ from s1])
    · obtain ⟨hq, fs⟩ := h.fst hst
      have hnc := hnc q rfl hst
      by_cases hle : k ≤ (x.node i).commitIndex
      · obtain ⟨c1, _⟩ := hC.cc i k hk hle
        exact old hle (fs.keep k c1 (fun e he hek => hnc e he (by omega))).1
      · rcases fs.ci with c | ⟨_, c2, _, c4, c5⟩
        · rw [c] at hk2; exact absurd hk2 hle
        · have hkl : k ≤ h.post.log.entries.length := Nat.le_trans hk2 c4.2.1
          refine ⟨hkl, ?_⟩
          have hcm : Cmt x (h.post.commitIndex, q.term) q.term := by
            obtain ⟨s1, s2⟩ := (hC.sent q hq).cmt
            rcases c5 with ⟨e1, e2⟩ | ⟨e, he, e1, e2⟩
            · have h2 := s2 (by rw [← e1]; exact c4.1) (by rw [← e1]; exact c2)
              rw [e2, ← e1] at h2
              exact h2
            · have h1 := s1 e he (by rw [e1]; exact c2)
              rw [e1, e2] at h1
              exact h1
          obtain ⟨m, hm, m1, m2⟩ := hcm
          refine ⟨m, hE.committed m hm, by rw [show h.post.term = _ from fs.term hst]; exact m1, ?_⟩
          have hkc : Anc y.T (k, termAt h.post.log.entries k) (h.post.commitIndex, q.term) :=
            h.anc_i ⟨hk, hkl, rfl⟩ c4 hk2
          exact hkc.trans h.log'.uniq (hE.anc m2)

end StepC

/-- **a crash and restart as new entries of the node's own log**: what the interrupted step had appended and is found on
disk (`C04Member.UpdM`, from `updM_crash`); the restarted node `p` is a follower. `hcr`: election safety, as in
`StepC.newC`. -/
theorem ReplC.newC_restart {x y : Commit.Sys} {A : List Ack} {i : Nat} {op : Op} {p : Node} (h : ReplC x y A i op p)
    (hfol : p.role = .follower)
    (hcr : ∀ te, Story (x.node i) op te → ∀ c ∈ x.T, c.cr ≠ 0 → c.e.term = te → c.cr = i) :
    ∃ es te, NewC x y A i op es te ∧ (es ≠ [] → (∀ q, op ≠ .append q) ∧ p.log.entries = (x.node i).log.entries ++ es) := by
  obtain ⟨hC, hE, i0, hni, hu, log', _, hT⟩ := h
  have hnl : (y.node i).role = .leader → False := by
    rw [hni, hfol]; intro e; cases e
  have triv : y.T = chainOf i (lastTerm (x.node i).log.entries) [] ++ x.T → NewC x y A i op [] 0 := fun hT =>
    ⟨hC, hE, i0, log', hT, fun hne => absurd rfl hne, fun hl => (hnl hl).elim, fun e he => absurd he List.not_mem_nil,
      fun hne => absurd rfl hne, fun hl => (hnl hl).elim, fun hne => absurd rfl hne⟩
  rcases hu.log with ⟨⟨q, hq⟩, _⟩ | ⟨hna, hl⟩
  · subst hq
    exact ⟨[], 0, triv hT, fun hne => absurd rfl hne⟩
  · rw [C04Sys.newCreated_other _ _ _ _ hna] at hT
    rcases hl with hp | ⟨es, te, e1, e2, e3, e4, e5, e6⟩
    · rw [List.drop_eq_nil_of_le hp.length_le] at hT
      exact ⟨[], 0, triv hT, fun hne => absurd rfl hne⟩
    · rw [e2, List.drop_left] at hT
      refine ⟨es, te, ⟨hC, hE, i0, log', hT, fun _ => by rw [hni]; exact e2, fun hl => (hnl hl).elim,
        fun e he => ⟨e3 e he, ?_⟩, fun _ => by rw [hni]; exact ⟨e4, e5, e6⟩, fun hl => (hnl hl).elim,
        fun _ => hcr te e5⟩, fun _ => ⟨hna, e2⟩⟩
      have := (C04Sys.contig_drop hu.nwf.contig (x.node i).log.entries.length).2 e
        (by rw [e2, List.drop_left]; exact he)
      rw [(hC.log.nodes i).1.last]; exact this.1

/-- what is on disk when node `i` dies while handling `op` (`post`: the state the completed step would have reached) -/
structure DImgC (x : Commit.Sys) (A : List Ack) (i : Nat) (op : Op) (post : Node) (d : Durable) : Prop where
  snaps : d.snaps = []
  prev : d.log.prev = 0
  dw : DW d
  pair : PairOK (x.node i) (AOp (x.node i) op) d.term d.vote
  termLe : ∀ e ∈ d.log.entries, e.term ≤ d.term
  dur : ∀ a ∈ A, a.voter = i → ∀ b : Nat × Nat, b.2 = a.term → DurHolds (x.node i) b →
    (b.1 ≤ d.log.entries.length ∧ Holds d.log.entries b.1 b.2) ∨ Unsafe x.T b d.term
  within : (∀ q, op ≠ .append q) → d.log.entries <+: (x.node i).log.entries ∨ d.log.entries <+: post.log.entries
  growp : (∀ q, op ≠ .append q) → (x.node i).log.entries.length < d.log.entries.length →
    (d.term = post.term ∧ d.vote = post.votedFor) ∨
    ((x.node i).role = .leader ∧ lastTerm d.log.entries = (x.node i).term)
  /-- what was flushed — and does not conflict with the request handled, if it is not stale — is on disk -/
  keep : ∀ k, k ≤ (x.node i).log.flushed →
    (∀ q, op = .append q → ¬ q.term < (x.node i).term → NoConf (x.node i) q k) →
    d.log.entries.take k = (x.node i).log.entries.take k ∧ k ≤ d.log.entries.length

namespace DImgC
variable {x : Commit.Sys} {A : List Ack} {i : Nat} {op : Op} {post : Node} {d : Durable} {retain : Nat} {sor : Bool}
  {n : Node}

theorem restarted (im : DImgC x A i op post d) (hn : Node.restart d retain sor = some n) :
    n.term = d.term ∧ n.votedFor = d.vote ∧ C05.VoteWF n ∧ n.role = .follower ∧
    n.commitIndex = 0 ∧ n.fsm = {} ∧ n.log.flushed = n.log.entries.length ∧ C06.LogWF n.log ∧
    n.log.entries = d.log.entries := by
  obtain ⟨r1, r2, r3⟩ := C05.restart_reads_durable _ _ _ _ hn
  obtain ⟨r4, _⟩ := Election.restart_role_nid _ _ _ _ hn
  obtain ⟨f1, f2, f3, f4, f5⟩ := restart_facts _ retain sor n hn im.snaps im.prev im.dw
  exact ⟨r1, r2, r3, r4, f1, f2, f3, f4, f5⟩

theorem pair_n (im : DImgC x A i op post d) (hn : Node.restart d retain sor = some n) :
    PairOK (x.node i) (AOp (x.node i) op) n.term n.votedFor := by
  rw [(im.restarted hn).1, (im.restarted hn).2.1]; exact im.pair

theorem keepsAcked (im : DImgC x A i op post d) (hn : Node.restart d retain sor = some n) : KeepsAcked x A i n := by
  obtain ⟨f1, _, _, _, _, _, f7, _, f9⟩ := im.restarted hn
  intro a ha hv b hb dh
  exact (im.dur a ha hv b hb dh).imp
    (fun ⟨d1, d2⟩ => ⟨by rw [f7, f9]; exact d1, by rw [f9]; exact d2⟩) (fun u => by rw [f1]; exact u)

end DImgC

theorem flushed_le_length {s : Node} (hn : NWF s) (hw : C06.LogWF s.log) : s.log.flushed ≤ s.log.entries.length := by
  have := hw.2
  unfold NLog.last at this; rw [hn.prev] at this; omega

/-- the durable part of a node `s` (the node before the step, or after it) as a crash image: what `DImgC` asks of the
disk, from the same facts about `s` in memory -/
theorem DImgC.of_node {x : Commit.Sys} {A : List Ack} {i : Nat} {op : Op} {post s : Node} (hn : NWF s)
    (hw : C06.LogWF s.log) (hv : C05.VoteWF s) (pair : PairOK (x.node i) (AOp (x.node i) op) s.term s.votedFor)
    (termLe : ∀ e ∈ s.log.entries, e.term ≤ s.term) (dur : KeepsAcked x A i s)
    (within : s.log.entries <+: (x.node i).log.entries ∨ s.log.entries <+: post.log.entries)
    (growp : (x.node i).log.entries.length < s.log.entries.length → s.term = post.term ∧ s.votedFor = post.votedFor)
    (keep : ∀ k, k ≤ (x.node i).log.flushed →
      (∀ q, op = .append q → ¬ q.term < (x.node i).term → NoConf (x.node i) q k) →
      s.log.entries.take k = (x.node i).log.entries.take k ∧ k ≤ s.log.flushed) :
    DImgC x A i op post s.durable := by
  have hd : s.durable.log.entries = s.log.entries.take s.log.flushed := durable_entries hn
  have hfl := flushed_le_length hn hw
  refine ⟨hn.snaps, hn.prev, durable_dw _ hn.prev hw, ?_, fun e he => ?_, fun a ha hv' b hb hdur => ?_,
    fun _ => within.imp (by rw [hd]; exact (List.take_prefix _ _).trans) (by rw [hd]; exact (List.take_prefix _ _).trans),
    fun _ hg => Or.inl ?_, fun k hk hnc => ?_⟩
  · show PairOK _ _ s.durTerm s.durVote
    rw [hv.1, hv.2]; exact pair
  · rw [hd] at he
    show e.term ≤ s.durTerm
    rw [hv.1]; exact termLe e (List.mem_of_mem_take he)
  · show _ ∨ Unsafe x.T b s.durTerm
    rw [hv.1]
    refine (dur a ha hv' b hb hdur).imp (fun d => ?_) id
    rw [hd, List.length_take]
    have := d.2.2.1
    refine ⟨by have := d.1; omega, holds_of_take_eq (k := s.log.flushed) ?_ d.2 d.1⟩
    rw [List.take_take, Nat.min_self]
  · show s.durTerm = _ ∧ s.durVote = _
    rw [hv.1, hv.2]
    exact growp (by rw [hd, List.length_take] at hg; omega)
  · obtain ⟨k1, k2⟩ := keep k hk hnc
    rw [hd, List.take_take, Nat.min_eq_left k2, List.length_take]
    exact ⟨k1, by omega⟩

namespace StepC
variable {x y : Commit.Sys} {A : List Ack} {i : Nat} {op : Op} {ra : List Nat} {ord : List (List Nat)} {src : Nat}

/-- the process dies before anything is written -/
theorem img_pre (h : StepC x y A i op ra ord src) : DImgC x A i op h.post (x.node i).durable :=
  .of_node h.nwf (h.core.node i).lwf (h.core.el.ids i).2 ⟨Nat.le_refl _, Or.inr (Or.inl ⟨rfl, rfl⟩)⟩
    (h.core.node i).termLe (fun _ _ _ _ _ hb => Or.inl hb) (Or.inl (List.prefix_refl _))
    (fun hg => absurd hg (Nat.lt_irrefl _)) (fun _ hk _ => ⟨rfl, hk⟩)

/-- the process dies after the step -/
theorem img_post (h : StepC x y A i op ra ord src) : DImgC x A i op h.post h.post.durable := by
  have hvwf : C05.VoteWF h.post := (C05.step_vote_stable (x.node i) op ra ord (h.core.el.ids i).2).2.1
  refine .of_node h.upd.nwf h.lwf_post hvwf h.pair_post h.termLe_post h.keepsAcked
    (Or.inr (List.prefix_refl _)) (fun _ => ⟨rfl, rfl⟩) fun k hk hnc => ?_
  have hfl := flushed_le_length h.nwf (h.core.node i).lwf
  rcases op_cases op with happ | ⟨q, rfl⟩
  · obtain ⟨es, te, hl, _⟩ := h.own happ
    exact ⟨by rw [hl, List.take_append_of_le_length (by omega)], Nat.le_trans hk (h.nst happ).flush⟩
  · by_cases hst : q.term < (x.node i).term
    · have s1 : h.post.log = (x.node i).log := (append_stale _ q ra ord hst).1
      rw [s1]; exact ⟨rfl, hk⟩
    · obtain ⟨_, fs⟩ := h.fst hst
      obtain ⟨k1, k2⟩ := fs.keep k (by omega) (hnc q rfl hst)
      exact ⟨k1, k2 hk⟩

/-- the process dies at a storage point of the step -/
theorem img_trace (h : StepC x y A i op ra ord src) {p : String × Durable} (hp : p ∈ h.post.trace) :
    DImgC x A i op h.post p.2 := by
  have hC := h.core
  have hn := h.nwf
  have hfl := flushed_le_length hn (hC.node i).lwf
  rcases op_cases op with happ | ⟨q, rfl⟩
  · have ns := h.nst happ
    have ls := leader_step (x.node i) op ra ord hn (hC.el.ids i).2 h.boot h.ok happ (hC.candTerm i)
    obtain ⟨es, te, l1, l2, _, _, l5⟩ := ls.ext
    obtain ⟨t1, t2, t3⟩ := ns.tr p hp
    obtain ⟨o1, o2, o3⟩ := l5 p hp
    refine ⟨o1, o2, t3, t2, fun e he => ?_, fun a _ _ b _ hb => ?_, fun _ => o3.imp id (fun z => z.1),
      fun _ hg => ns.trgrow p hp hg, fun k hk _ => ?_⟩
    · rcases o3 with o3 | ⟨o3, o4⟩
      · exact Nat.le_trans ((hC.node i).termLe e (o3.subset he)) t2.1
      · have := o3.subset he
        rw [l1] at this
        rcases List.mem_append.mp this with m | m
        · exact Nat.le_trans ((hC.node i).termLe e m) t2.1
        · rw [l2 e m]; exact o4
    · left
      have hh : Holds ((x.node i).log.entries.take (x.node i).log.flushed) b.1 b.2 := by
        have := hb.2.2.1
        refine holds_of_take_eq (k := (x.node i).log.flushed) ?_ hb.2 hb.1
        rw [List.take_take, Nat.min_self]
      have := holds_prefix t1 hh
      exact ⟨this.2.1, this⟩
    · obtain ⟨r, hr⟩ := t1
      rw [← hr, List.take_append_of_le_length (by rw [List.length_take]; omega), List.take_take,
        Nat.min_eq_left hk, List.length_append, List.length_take]
      exact ⟨rfl, by omega⟩
  · by_cases hst : q.term < (x.node i).term
    · have : h.post.trace = [] := (append_stale _ q ra ord hst).2.2.2.2.1
      rw [this] at hp; cases hp
    · obtain ⟨hq, fs⟩ := h.fst hst
      have pf := fs.tr p hp
      have hge : (x.node i).term ≤ q.term := Nat.le_of_not_lt hst
      refine ⟨pf.snaps, pf.prev, pf.segs, pf.pair.mono (fun _ _ hf => hf.elim), fun e he => ?_,
        fun a ha hv b hb hdur => ?_, fun hna => absurd rfl (hna q), fun hna => absurd rfl (hna q),
        fun k hk hnc => pf.keep k hk (by omega) (hnc q rfl hst)⟩
      · rw [pf.term hge]
        rcases pf.src e he with m | m
        · exact Nat.le_trans ((hC.node i).termLe e m) hge
        · exact (hC.sent q hq).term.1 e m
      · by_cases hnc : NoConf (x.node i) q b.1
        · left
          obtain ⟨k1, k2⟩ := pf.keep b.1 hdur.1 hdur.2.2.1 hnc
          exact ⟨k2, holds_of_take_eq k1 hdur.2 (Nat.le_refl _)⟩
        · right
          obtain ⟨e, hnc⟩ := Classical.not_forall.mp hnc
          obtain ⟨he, hnc⟩ := Classical.not_imp.mp hnc
          obtain ⟨hle, hne⟩ := Classical.not_imp.mp hnc
          rw [pf.term hge]
          exact hC.conflict_unsafe ha hv hb hdur.2 hq hst he hle hne

/-- **what is on disk at any moment the process may die** -/
theorem img (h : StepC x y A i op ra ord src) (k : Nat) :
    DImgC x A i op h.post (C05.crashDisk (x.node i) op ra ord k) :=
  C05.crashDisk_of (D := DImgC x A i op h.post) _ op ra ord k h.img_pre h.img_post fun _ hp => h.img_trace hp

end StepC

/-! ### one state: committed keys and the logs below the commit indexes

What both systems conclude from `CoreI` alone, and from `CoreI` and "the ledger of commits lies on one path" (`Chained`:
`chained_of_lc`, from the system's leader completeness in tree form). -/

/-- the entries of the ledger `committed` lie on one path of the tree -/
def Chained (x : Commit.Sys) : Prop := ∀ m ∈ x.committed, ∀ m' ∈ x.committed, Anc x.T m m' ∨ Anc x.T m' m

/-- two root paths whose last entries are committed: the shorter one is a prefix of the longer one -/
theorem paths_comparable {x : Commit.Sys} (hU : Uniq x.T) (hch : Chained x) {p p' : List Entry}
    (hp : Path x.T p) (hp' : Path x.T p') (hc : p ≠ [] → Committed x (p.length, lastTerm p))
    (hc' : p' ≠ [] → Committed x (p'.length, lastTerm p')) (hle : p.length ≤ p'.length) : p <+: p' := by
  by_cases hne : p = []
  · rw [hne]; exact List.nil_prefix
  · have hl : 1 ≤ p.length := by
      cases p with
      | nil => exact absurd rfl hne
      | cons a as => simp
    have hne' : p' ≠ [] := by
      intro he
      have : p.length ≤ 0 := by rw [he] at hle; exact hle
      omega
    obtain ⟨m, hm, ha⟩ := hc hne
    obtain ⟨m', hm', ha'⟩ := hc' hne'
    have hanc : Anc x.T (p.length, lastTerm p) (p'.length, lastTerm p') := by
      rcases hch m hm m' hm' with k | k
      · exact (ha.trans hU k).comparable hU ha' hle
      · exact ha.comparable hU (ha'.trans hU k) hle
    have h1 : Holds p' p'.length (lastTerm p') := ⟨by omega, Nat.le_refl _, termAt_length _⟩
    have h2 : Holds p' p.length (lastTerm p) := hanc.on_path hU hp' h1
    have h3 : Holds p p.length (lastTerm p) := ⟨hl, Nat.le_refl _, termAt_length _⟩
    exact prefix_of_agree (fun j hj1 hj2 => path_agree hU hp hp' h3 h2 j hj1 hj2)

namespace CoreI
variable {x : Commit.Sys} {A : List Ack}

/-- **the ledger of commits lies on one path** when its entries are records of the tree and every record of a later term
extends every committed entry (leader completeness, tree form): entries of different terms by that, entries of one term
because the entries of one term lie on one path -/
theorem chained_of_lc (hC : CoreI x A) (hrec : ∀ m ∈ x.committed, ∃ c ∈ x.T, key c = m)
    (hlc : ∀ m ∈ x.committed, ∀ c ∈ x.T, m.2 < c.e.term → Anc x.T m (key c)) : Chained x := by
  intro m hm m' hm'
  obtain ⟨c, hc, hck⟩ := hrec m hm
  obtain ⟨c', hc', hck'⟩ := hrec m' hm'
  have e1 : c.e.term = m.2 := by rw [← hck]; rfl
  have e2 : c'.e.term = m'.2 := by rw [← hck']; rfl
  rcases Nat.lt_trichotomy m.2 m'.2 with h | h | h
  · left
    have := hlc m hm c' hc' (by rw [e2]; exact h)
    rw [hck'] at this; exact this
  · by_cases hi : c.e.index ≤ c'.e.index
    · left
      have := hC.tblock c hc c' hc' (by rw [e1, e2]; exact h) hi
      rw [hck, hck'] at this; exact this
    · right
      have := hC.tblock c' hc' c hc (by rw [e1, e2]; exact h.symm) (by omega)
      rw [hck, hck'] at this; exact this
  · right
    have := hlc m' hm' c hc (by rw [e1]; exact h)
    rw [hck] at this; exact this

theorem covered (hC : CoreI x A) {j k : Nat} (hk : 1 ≤ k) (hkc : k ≤ (x.node j).commitIndex) :
    Holds (x.node j).log.entries k (termAt (x.node j).log.entries k) ∧
    ∃ m ∈ x.committed, m.2 ≤ (x.node j).term ∧ Anc x.T (k, termAt (x.node j).log.entries k) m :=
  ⟨⟨hk, (hC.cc j k hk hkc).1, rfl⟩, (hC.cc j k hk hkc).2⟩

theorem same_entries (hC : CoreI x A) {i j k τ : Nat} (hi : Holds (x.node i).log.entries k τ)
    (hj : Holds (x.node j).log.entries k τ) {k' : Nat} (h1 : 1 ≤ k') (hle : k' ≤ k) :
    (x.node i).log.get? k' = (x.node j).log.get? k' := by
  rw [(hC.nwf i).get?, (hC.nwf j).get?, if_pos (by omega), if_pos (by omega)]
  exact path_agree hC.uniq (hC.path i) (hC.path j) hi hj k' h1 hle

theorem committed_unique (hC : CoreI x A) (hch : Chained x) {a a' : Nat × Nat} (ha : Committed x a)
    (ha' : Committed x a') (hi : a.1 = a'.1) : a = a' := by
  obtain ⟨m, hm, h1⟩ := ha
  obtain ⟨m', hm', h1'⟩ := ha'
  rcases hch m hm m' hm' with c | c
  · exact ((h1.trans hC.uniq c).comparable hC.uniq h1' (Nat.le_of_eq hi)).eq_of_index hi
  · exact ((h1.comparable hC.uniq (h1'.trans hC.uniq c) (Nat.le_of_eq hi))).eq_of_index hi

theorem agree_take (hC : CoreI x A) (hch : Chained x) {i j F : Nat} (hi : F ≤ (x.node i).commitIndex)
    (hj : F ≤ (x.node j).commitIndex) : (x.node i).log.entries.take F = (x.node j).log.entries.take F := by
  by_cases h0 : F = 0
  · rw [h0]; rfl
  · have hF : 1 ≤ F := by omega
    obtain ⟨hhi, m, hm, _, m2⟩ := hC.covered hF hi
    obtain ⟨hhj, m', hm', _, m2'⟩ := hC.covered hF hj
    exact take_of_paths hC.uniq (hC.path i) (hC.path j) hhi.2.1 hhj.2.1
      (congrArg Prod.snd (hC.committed_unique hch ⟨m, hm, m2⟩ ⟨m', hm', m2'⟩ rfl))

/-- two nodes whose commit indexes cover `k` hold the same entry there -/
theorem covered_agree (hC : CoreI x A) (hch : Chained x) {i j k : Nat} (hk : 1 ≤ k) (hi : k ≤ (x.node i).commitIndex)
    (hj : k ≤ (x.node j).commitIndex) :
    (x.node i).log.get? k = (x.node j).log.get? k ∧ ((x.node i).log.get? k).isSome = true := by
  obtain ⟨hhi, m, hm, _, m2⟩ := hC.covered hk hi
  obtain ⟨hhj, m', hm', _, m2'⟩ := hC.covered hk hj
  have := hC.committed_unique hch ⟨m, hm, m2⟩ ⟨m', hm', m2'⟩ rfl
  have ht : termAt (x.node i).log.entries k = termAt (x.node j).log.entries k := congrArg Prod.snd this
  rw [← ht] at hhj
  refine ⟨hC.same_entries hhi hhj hk (Nat.le_refl _), ?_⟩
  obtain ⟨e, he, _⟩ := holds_get hhi
  rw [(hC.nwf i).get?, if_pos (show 0 < k from hk), he]; rfl

/-- **leader completeness between two states**: `j`'s commit index covers `k` in `x`; the tree and the ledger of commits
grew to `y`, where node `i`, of a term not below `j`'s, holds every committed entry of a term up to its own (a leader:
`leader_holds_committed`). Then `i` holds at `k` the entry `j` held there in `x`. -/
theorem leader_covers {y : Commit.Sys} {B : List Ack} (hC : CoreI x A) (hCy : CoreI y B) (hT : ∀ c ∈ x.T, c ∈ y.T)
    (hcm : ∀ m ∈ x.committed, m ∈ y.committed) {i j k : Nat}
    (hlead : ∀ m ∈ y.committed, m.2 ≤ (y.node i).term → Holds (y.node i).log.entries m.1 m.2)
    (hk : 1 ≤ k) (hkc : k ≤ (x.node j).commitIndex) (ht : (x.node j).term ≤ (y.node i).term) :
    (y.node i).log.get? k = (x.node j).log.get? k ∧ ((x.node j).log.get? k).isSome = true := by
  obtain ⟨hj, m, hm, m1, m2⟩ := hC.covered hk hkc
  have hki := hCy.holds_anc i (m2.mono hT) (hlead m (hcm m hm) (Nat.le_trans m1 ht))
  refine ⟨?_, ?_⟩
  · rw [(hCy.nwf i).get?, (hC.nwf j).get?, if_pos (show 0 < k from hk), if_pos (show 0 < k from hk)]
    exact path_agree hCy.uniq (hCy.path i) ((hC.path j).mono hT) hki hj k hk (Nat.le_refl _)
  · obtain ⟨e, he, _⟩ := holds_get hj
    rw [(hC.nwf j).get?, if_pos (show 0 < k from hk), he]; rfl

omit x A in
theorem _root_.Raft.Commit.get?_some_of_holds {s : Node} (hn : NWF s) {k τ : Nat} (hh : Holds s.log.entries k τ)
    {k' : Nat} (h1 : 1 ≤ k') (hle : k' ≤ k) : s.log.get? k' = s.log.entries[k' - 1]? ∧ (s.log.get? k').isSome = true := by
  have e : s.log.get? k' = s.log.entries[k' - 1]? := by rw [hn.get?, if_pos (show 0 < k' from h1)]
  refine ⟨e, ?_⟩
  rw [e]
  have : k' - 1 < s.log.entries.length := by have := hh.2.1; omega
  rw [List.getElem?_eq_getElem this]; rfl

/-- **what a node keeps.** Node `v` durably holds the key `b`, which lies at or below a committed entry of a term `v` has
reached; `s` is a node whose log is a root path of the tree that holds `b` (a node of an earlier state, say). Then `v`'s
disk returns the entries `1 … b.1` of `s`; so does every crash image `d` of a step of `v` — no request `v` may be handling
conflicts with its log up to `b` (`noConf_of_cmt`), so the flushed prefix is on the image (`DImgC.keep`) —; and a node
restarted from `d` holds them again, flushed. -/
theorem keeps (hC : CoreI x A)
    (hlc : ∀ m ∈ x.committed, (∃ cm ∈ x.T, key cm = m) ∧ ∀ c ∈ x.T, m.2 < c.e.term → Anc x.T m (key c))
    {v : Nat} {b : Nat × Nat} (hd : DurHolds (x.node v) b) (hcm : Cmt x b (x.node v).term) {s : Node} (hs : NWF s)
    (hsp : Path x.T s.log.entries) (hh : Holds s.log.entries b.1 b.2) :
    (∀ k', 1 ≤ k' → k' ≤ b.1 → (x.node v).durable.log.get? k' = s.log.get? k' ∧ (s.log.get? k').isSome = true) ∧
    ∀ {op : Op} {post : Node} {d : Durable}, DImgC x A v op post d →
      (∀ q, op = .append q → ¬ q.term < (x.node v).term → q ∈ x.rp.sent) →
      (∀ k', 1 ≤ k' → k' ≤ b.1 → d.log.get? k' = s.log.get? k' ∧ (s.log.get? k').isSome = true) ∧
      ∀ retain sor w, Node.restart d retain sor = some w →
        b.1 ≤ w.log.flushed ∧ ∀ k', 1 ≤ k' → k' ≤ b.1 → w.log.get? k' = s.log.get? k' := by
  have hn := hC.nwf v
  have hxi := fun {k' : Nat} (h1 : 1 ≤ k') (hle : k' ≤ b.1) => get?_some_of_holds hs hh h1 hle
  have hvs : (x.node v).log.entries.take b.1 = s.log.entries.take b.1 :=
    take_of_paths hC.uniq (hC.path v) hsp hd.2.2.1 hh.2.1 (by rw [hd.2.2.2, hh.2.2])
  refine ⟨fun k' h1 hle => ⟨?_, (hxi h1 hle).2⟩, fun {op post d} im hsent => ?_⟩
  · show (x.node v).log.durable.get? k' = _
    rw [NLog.durable_get_flushed _ k' (by rw [hn.prev]; exact h1) (Nat.le_trans hle hd.1), hn.get?,
      if_pos (show 0 < k' from h1), (hxi h1 hle).1]
    exact getElem?_of_take_eq hvs (by omega)
  · obtain ⟨k1, k2⟩ := im.keep b.1 hd.1 (fun q e hns => hC.noConf_of_cmt hlc (hsent q e hns) hns hd.2 hcm)
    refine ⟨fun k' h1 hle => ⟨?_, (hxi h1 hle).2⟩, fun retain sor w hw => ?_⟩
    · rw [NLog.get?_prev0 _ im.prev, if_pos (show 0 < k' from h1), (hxi h1 hle).1]
      exact getElem?_of_take_eq (k1.trans hvs) (by omega)
    · obtain ⟨_, _, _, _, _, _, f7, _, f9⟩ := im.restarted hw
      obtain ⟨r1, _, r3, _⟩ := restartNode_nosnap d retain sor im.snaps im.prev
      have hw0 : w.log.prev = 0 := by rw [Node.restart_nosnap hw r1]; exact r3
      refine ⟨by rw [f7, f9]; exact k2, fun k' h1 hle => ?_⟩
      rw [NLog.get?_prev0 _ hw0, if_pos (show 0 < k' from h1), (hxi h1 hle).1, f9]
      exact getElem?_of_take_eq (k1.trans hvs) (by omega)

/-- **a node the leader `i` believes to have caught up** (`r.matchIndex` is the leader's last log index): the ledger holds
an acknowledgement of it, in the leader's term, of the leader's last entry; and its log, flushed that far, holds every entry
of the leader's log — unless the tree has an entry of a later term, not above that node's term, that does not extend the
leader's last entry -/
theorem caught_up (hC : CoreI x A) (hL : LdrCreates x) (hA : ∀ a ∈ x.acks, a ∈ A) {i : Nat}
    (hl : (x.node i).role = .leader) {r : Repl} (hr : r ∈ (x.node i).ldr.repls)
    (hm : r.matchIndex = (x.node i).lastLogIndex) :
    ∃ a ∈ x.acks, a.voter = r.id ∧ a.term = (x.node i).term ∧ a.index = (x.node i).lastLogIndex ∧
      a.eterm = (x.node i).term ∧
      (((x.node i).lastLogIndex ≤ (x.node r.id).log.flushed ∧
        ∀ k', 1 ≤ k' → k' ≤ (x.node i).lastLogIndex → (x.node r.id).log.get? k' = (x.node i).log.get? k') ∨
       ∃ c ∈ x.T, (x.node i).term < c.e.term ∧ c.e.term ≤ (x.node r.id).term ∧
         ¬ Anc x.T ((x.node i).lastLogIndex, (x.node i).term) (c.e.index, c.e.term)) := by
  have lo := (hC.node i).ldr hl
  have hn := hC.nwf i
  have hlast : 1 ≤ (x.node i).lastLogIndex := by rw [hn.last]; exact Nat.le_trans lo.start lo.startLe
  obtain ⟨a, ha, a1, a2, a3⟩ : Backed x i r.id r.matchIndex := by
    rcases lo.mi r hr with z | b
    · omega
    · exact b
  have hh := hC.ack_on_leader hL hl (hA a ha) a2
  have hidx : a.index = (x.node i).lastLogIndex := by
    have := hh.2.1
    rw [← hn.last] at this
    omega
  have het : a.eterm = (x.node i).term := by
    rw [← hh.2.2]
    exact lo.own a.index (by rw [hidx, hn.last]; exact lo.startLe) hh.2.1
  refine ⟨a, ha, a1, a2, hidx, het, ?_⟩
  have hanc : Anc x.T (a.index, a.eterm) a.key := ⟨Nat.le_refl _, _, hC.path i, hh, hh⟩
  rcases (hC.ack a (hA a ha)).stable (a.index, a.eterm) (het.trans a2.symm) hanc with d | ⟨c, hc, u1, u2, u3⟩
  · left
    rw [a1] at d
    exact ⟨by rw [← hidx]; exact d.1, fun k' hk1 hk2 => hC.same_entries d.2 hh hk1 (by rw [hidx]; exact hk2)⟩
  · right
    rw [a1] at u2
    exact ⟨c, hc, by rw [← het]; exact u1, u2, by rw [← hidx, ← het]; exact u3⟩

end CoreI

end Commit
end Raft
