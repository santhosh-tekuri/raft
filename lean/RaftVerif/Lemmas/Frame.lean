/-
Frame lemma for the mutually recursive leader handlers (storeEntry … onMajorityCommit):
any projection of the node state that every primitive operation used by those handlers leaves
unchanged is left unchanged by the handlers themselves (`Frame.toClosed`: every predicate of such a projection is
`Closed`, Lemmas/Inv.lean).
-/
import RaftVerif.Lemmas.LeaderCommit

namespace Raft
namespace Node

/-- `proj` is left unchanged by every update of the leader block; for a projection that only some updates move, state the
predicate `proj · = a` as a `Closed` or `Guarded` instead. `block`, `leaderInit_eq`; `FrameS` adds the role transitions. -/
structure Frame {α : Type} (proj : Node → α) : Prop where
  panic : ∀ s site, proj (s.panic site) = proj s
  reply : ∀ s t r, proj (s.reply t r) = proj s
  point : ∀ s n, proj (s.point n) = proj s
  ldr : ∀ (s : Node) l, proj (s.withLdr l) = proj s
  log : ∀ (s : Node) l i t, proj { s with log := l, lastLogIndex := i, lastLogTerm := t } = proj s
  logOnly : ∀ (s : Node) l, proj { s with log := l } = proj s
  fsm : ∀ (s : Node) f, proj (s.withFsm f) = proj s
  configs : ∀ (s : Node) c, proj { s with configs := c } = proj s
  commitIndex : ∀ (s : Node) c, proj (s.withCommitIndex c) = proj s
  leader : ∀ (s : Node) c, proj (s.setLeader c) = proj s
  role : ∀ (s : Node) c, proj (s.setRole c) = proj s
  closed : ∀ (s : Node) c, proj { s with closed := c } = proj s
  popOrder : ∀ (s : Node), proj s.popOrder = proj s

namespace Frame

variable {α : Type} {proj : Node → α} (h : Frame proj)
include h

theorem commitLog_eq (s : Node) (n : Nat) : proj (s.commitLog n) = proj s := by
  unfold Node.commitLog; simp only [h.point, h.logOnly]

theorem changeConfigR_eq (s : Node) (c : Config) : proj (s.changeConfigR c) = proj s := by
  unfold Node.changeConfigR; simp only [h.configs]; split <;> simp [h.leader]

theorem commitConfig_eq (s : Node) : proj s.commitConfig = proj s := by
  unfold Node.commitConfig; simp only [h.configs]; split <;> simp [h.leader]

theorem doClose_eq (s : Node) (r : String) : proj (s.doClose r) = proj s := by
  unfold Node.doClose; split <;> simp [h.closed]

theorem afterConfigCommit_eq (s : Node) : proj s.afterConfigCommit = proj s := by
  unfold Node.afterConfigCommit Node.closeIfRemoved Node.stepDownIfNotVoter
  split <;> split <;> simp [h.doClose_eq, h.leader, h.role]

theorem setCommitIndexR_eq (s : Node) (i : Nat) : proj (s.setCommitIndexR i).1 = proj s := by
  unfold Node.setCommitIndexR
  split
  · simp [h.afterConfigCommit_eq, h.commitConfig_eq, h.commitIndex]
  · simp [h.commitIndex]

omit h in
theorem foldl_eq {β : Type} (f : Node → β → Node) (hf : ∀ s x, proj (f s x) = proj s)
    (xs : List β) (s : Node) : proj (xs.foldl f s) = proj s := by
  induction xs generalizing s with
  | nil => rfl
  | cons x xs ih => simp only [List.foldl_cons, ih, hf]

/-- With `P := (· = proj s)` the theorems about `Closed` become equations. -/
theorem toClosed (P : α → Prop) : Closed (fun s => P (proj s)) where
  panic := fun s site hs => Eq.mpr (congrArg P (h.panic s site)) hs
  reply := fun s t r hs => Eq.mpr (congrArg P (h.reply s t r)) hs
  point := fun s n hs => Eq.mpr (congrArg P (h.point s n)) hs
  ldr := fun s l hs => Eq.mpr (congrArg P (h.ldr s l)) hs
  append := fun s _ _ hs => Eq.mpr (congrArg P (h.log s _ _ _)) hs
  commitN := fun s _ hs => Eq.mpr (congrArg P (h.logOnly s _)) hs
  fsm := fun s f hs => Eq.mpr (congrArg P (h.fsm s f)) hs
  changeConfigR := fun s c hs => Eq.mpr (congrArg P (h.changeConfigR_eq s c)) hs
  setCommitIndexR := fun s i hs _ => Eq.mpr (congrArg P (h.setCommitIndexR_eq s i)) hs
  popOrder := fun s hs => Eq.mpr (congrArg P (h.popOrder s)) hs

/-- The frame property of the whole leader block: `Closed.block` for the predicates `proj · = a`;
`setCommitIndexL`, which `Closed.block` covers for a rising commit index only, by `Closed.setCommitIndexL_tail`. -/
theorem block : ∀ fuel : Nat,
    (∀ s b, proj (storeEntry fuel s b) = proj s) ∧
    (∀ s b, proj (storeItems fuel s b) = proj s) ∧
    (∀ s c, proj (changeConfigL fuel s c) = proj s) ∧
    (∀ s t c, proj (doChangeConfig fuel s t c) = proj s) ∧
    (∀ s t c, proj (checkConfigActions fuel s t c) = proj s) ∧
    (∀ s t c id, proj (checkConfigAction fuel s t c id) = proj s) ∧
    (∀ s i, proj (setCommitIndexL fuel s i) = proj s) ∧
    (∀ s, proj (onMajorityCommit fuel s) = proj s) := by
  intro fuel
  have B := fun (f : Nat) (s : Node) => (h.toClosed (· = proj s)).block f
  refine ⟨fun s b => (B fuel s).1 s b rfl, fun s b => (B fuel s).2.1 s b rfl, fun s c => (B fuel s).2.2.1 s c rfl,
    fun s t c => (B fuel s).2.2.2.1 s t c rfl, fun s t c => (B fuel s).2.2.2.2.1 s t c rfl,
    fun s t c id => (B fuel s).2.2.2.2.2.1 s t c id rfl, fun s i => ?_, fun s => (B fuel s).2.2.2.2.2.2.2 s rfl⟩
  cases fuel with
  | zero => unfold setCommitIndexL; exact h.panic _ _
  | succ n =>
    exact (h.toClosed (· = proj s)).setCommitIndexL_tail n s i ((h.setCommitIndexR_eq _ _).trans (h.commitLog_eq _ _))

theorem leaderInit_eq (s : Node) : proj s.leaderInit = proj s := (h.toClosed (· = proj s)).leaderInit_inv s rfl

end Frame

/-- A projection additionally untouched by the candidate bookkeeping: it survives the role transitions
(`release`/`init`) that follow a handler. -/
structure FrameS {α : Type} (proj : Node → α) : Prop extends Frame proj where
  votesNeeded : ∀ (s : Node) v, proj (s.withVotesNeeded v) = proj s
  candTransfer : ∀ (s : Node) v, proj (s.withCandTransfer v) = proj s
  setVotedFor : ∀ (s : Node) t c, proj (s.setVotedFor t c) = proj s

namespace FrameS
variable {α : Type} {proj : Node → α} (h : FrameS proj)
include h

theorem leaderRelease_eq (s : Node) : proj s.leaderRelease = proj s :=
  leaderRelease_of (P := (proj · = proj s)) (fun x l hx _ _ _ _ _ _ => (h.ldr x l).trans hx)
    (fun x t r hx => (h.reply x t r).trans hx) (fun x l hx => (h.leader x l).trans hx)
    (fun x hx => (h.ldr x _).trans hx) s rfl

theorem startElection_eq (s : Node) : proj s.startElection = proj s :=
  startElection_of (Inv := (proj · = proj s)) s (fun x site hx => (h.panic x site).trans hx)
    (fun x v hx => (h.votesNeeded x v).trans hx) (fun x hx => (h.setVotedFor x _ _).trans hx)
    (fun x hx _ => (h.role x _).trans hx) (fun x l hx => (h.leader x l).trans hx) rfl

theorem settle_eq (f : Nat) (s : Node) (c : Role) : proj (settle f s c) = proj s :=
  settle_of (P := (proj · = proj s))
    (releaseRole_of (fun x v hx => (h.candTransfer x v).trans hx) fun x hx => (h.leaderRelease_eq x).trans hx)
    (fun x hx _ => (h.startElection_eq x).trans hx) (fun x hx _ => (h.toFrame.leaderInit_eq x).trans hx) f s c rfl

end FrameS
end Node
end Raft
