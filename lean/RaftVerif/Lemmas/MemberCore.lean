/-
The single-server-change argument — election safety and leader completeness ACROSS membership changes — as a
theorem about ledgers (trees of log entries with configuration entries, elections, commits), independent of the node
model. It is the joint induction on terms of the Raft thesis (4.1–4.2, with the correction of 2015: a leader may
introduce a configuration only after it has committed an entry of its own term).

`Data`: a forest order `A` ("ancestor of or equal to") on keys (index, term) with nodes `N`; the creator `cr` of a
node (0: present initially); which nodes are configuration entries (`isC`), their voter lists `V`, the bootstrap entry
`root`; commit records `R` (the committed key `m`, the last entry `l` of the committing leader's log — which decides
the configuration whose majority acknowledged — and that majority `Q`); elections `E` (candidate, term, last entry
of the candidate's log, the majority that voted); the ledgers `acked` and `granted`.

`Rules d` = `Forest d` + `Local True d` + `grantU` — the LOCAL rules, each of them about one action of one node at
the time it acts:
* `Forest`: the order is a forest order, terms do not decrease along paths; `Local`: the entries one node created in
  one term lie on one path (`tb`), every path starts with the bootstrap configuration entry `root`;
* `recd`:   a leader commits `m` of its own term, below its last entry `l`, when a majority of the voters OF THE
            LATEST CONFIGURATION ENTRY OF ITS LOG (`LastCfg D l`) acknowledged, in that term, entries extending `m`;
* `mono`:   the commit index of a leader does not decrease while its log grows;
* `chain`:  a configuration entry `c` other than `root` was created by a leader; its predecessor `P` (`Prev P c`: the
            nearest configuration entry below it) has voters that differ by at most one id (`AdjLists`), and when `c` was
            created the leader had committed, IN ITS OWN TERM and with a log that ended below `c` (`r.l.1 < c.1`), a key
            `r.m` at or above `P`: the previous configuration was committed and so was an entry of the leader's term;
* `creator` / `elect`: a node creates entries of term `t` only on top of the log `last` it campaigned with for `t`
            (`last.2 < t`), after a majority of the voters of the latest configuration entry of THAT log granted it
            their vote and passed the up-to-date check in the strict form, for the committed keys (`UpToC`, implied by
            `UpToS`): a committed key the voter acknowledged (an extension of) in an earlier term is extended by `last`,
            unless some entry of a term strictly in between does not extend it;
* `grantU`: one vote per voter and term.  `init`: initial entries have terms not above any commit.

`member_safety` — from the rules alone:
1. LEADER COMPLETENESS (tree form): every entry of a later term extends every committed key;
2. ELECTION SAFETY (tree form): all entries of one term that were created by nodes were created by ONE node.
The proof is by induction on the term (`safe_below`): for an election of term `u`, `ext1` shows that the candidate's
log extends every key committed in a smaller term — taking the least commit record it does not extend (least in the order
term, index, length of the leader's log; `lex3_induction`), the chain rule makes the two configurations equal or adjacent
(`cfg_overlap`), so the majorities intersect (`QuorumRel.adjacent_quorums_intersect`) and the up-to-date check
contradicts the choice; `es_overlap` shows, from `ext1` for both, that two candidates of term `u` have equal or adjacent
configurations, so they share a voter (`safe_below`). Both overlaps are cases of `cfgs_adj`: when each of two logs
extends the commit that the chain rule demands for the latest configuration entry of the other, either one of these
entries lies in the other log and is then the predecessor of the other entry (`adj_of_below`), or the two entries
lie on one path (`cfg_cmp`) and so one of them lies in the other log after all.
Examples: `exData_rules` (the rules hold for a ledger with a membership change and a change of leader);
NECESSITY: `bug_local` / `bug_unsafe` — the scenario of the membership-change bug of 2015 obeys every rule except the
own-term requirement of `chain` (`Local False`) and violates leader completeness.
-/
import RaftVerif.Lemmas.QuorumRel

namespace Raft
namespace MemberCore
open QuorumRel

/-- (index, term) -/
abbrev K := Nat × Nat

/-- a commit record: the committed key, the last entry of the committing leader's log, the acknowledging majority -/
structure Rec where
  m : K
  l : K
  Q : List Nat
  deriving DecidableEq

/-- an election: candidate, term, last entry of the log it campaigned with, the majority that voted for it -/
structure El where
  cand : Nat
  term : Nat
  last : K
  Q : List Nat
  deriving DecidableEq

structure Data where
  A : K → K → Prop
  N : K → Prop
  cr : K → Nat
  isC : K → Prop
  V : K → List Nat
  root : K
  R : List Rec
  E : List El
  acked : Nat → Nat → K → Prop
  granted : Nat → Nat → Nat → Prop

def LastCfg (d : Data) (D a : K) : Prop := d.isC D ∧ d.A D a ∧ ∀ E, d.isC E → d.A E a → E.1 ≤ D.1

def Prev (d : Data) (P c : K) : Prop :=
  d.isC P ∧ d.A P c ∧ P.1 < c.1 ∧ ∀ E, d.isC E → d.A E c → E.1 < c.1 → E.1 ≤ P.1

/-- **the up-to-date check, strict form**: whatever voter `v` acknowledged in a term before the election `e` is
extended by the log the candidate campaigned with — unless an entry of a term strictly in between does not extend it -/
def UpToS (d : Data) (e : El) (v : Nat) : Prop :=
  ∀ w a, d.acked v w a → w < e.term → ∀ b : K, b.2 = w → d.A b a →
    d.A b e.last ∨ ∃ c, d.N c ∧ b.2 < c.2 ∧ c.2 < e.term ∧ ¬ d.A b c

/-- … the part of it the argument uses: the same for the COMMITTED keys only — if voter `v` acknowledged, in the term
of the commit record `r` (a term before the election `e`), an entry extending the committed key `r.m`, then the log
the candidate campaigned with extends `r.m`, unless an entry of a term strictly in between does not -/
def UpToC (d : Data) (e : El) (v : Nat) : Prop :=
  ∀ r ∈ d.R, r.m.2 < e.term → ∀ a, d.acked v r.m.2 a → d.A r.m a →
    d.A r.m e.last ∨ ∃ c, d.N c ∧ r.m.2 < c.2 ∧ c.2 < e.term ∧ ¬ d.A r.m c

theorem upToC_of_upToS {d : Data} {e : El} {v : Nat} (h : UpToS d e v) : UpToC d e v :=
  fun r _ hlt a ha hA => h r.m.2 a ha hlt r.m rfl hA

structure Forest (d : Data) : Prop where
  refl : ∀ a, d.N a → d.A a a
  node : ∀ a c, d.A a c → d.N a ∧ d.N c
  trans : ∀ a b c, d.A a b → d.A b c → d.A a c
  cmp : ∀ a b c, d.A a c → d.A b c → a.1 ≤ b.1 → d.A a b
  eqi : ∀ a c, d.A a c → a.1 = c.1 → a = c
  idx : ∀ a c, d.A a c → a.1 ≤ c.1
  trm : ∀ a c, d.A a c → a.2 ≤ c.2

/-- the local rules of creation, commitment, membership change and election (see the file header). The parameter
`own` switches the requirement "an entry of the leader's OWN TERM is committed" of the chain rule on (`Local True` is
what the code implements: `canChangeConfig` demands `commitIndex ≥ startIndex`) or off (`Local False`: only "the
previous configuration is committed" — the rule of the Raft thesis before the correction of 2015; see `exBug`). -/
structure Local (own : Prop) (d : Data) : Prop where
  rootC : d.isC d.root
  rootA : ∀ a, d.N a → d.A d.root a
  cfgN : ∀ a, d.isC a → d.N a
  vnd : ∀ a, d.isC a → (d.V a).Nodup
  tb : ∀ c e, d.N c → d.N e → c.2 = e.2 → d.cr c = d.cr e → c.1 ≤ e.1 → d.A c e
  init : ∀ c, d.N c → d.cr c = 0 → ∀ r ∈ d.R, c.2 ≤ r.m.2
  recd : ∀ r ∈ d.R, r.m.2 = r.l.2 ∧ d.A r.m r.l ∧ d.cr r.l ≠ 0 ∧
    ∃ D, LastCfg d D r.l ∧ r.Q.Nodup ∧ (∀ v ∈ r.Q, v ∈ d.V D) ∧ 2 * r.Q.length > (d.V D).length ∧
      ∀ v ∈ r.Q, ∃ a, d.acked v r.m.2 a ∧ d.A r.m a
  mono : ∀ r ∈ d.R, ∀ r' ∈ d.R, r.m.2 = r'.m.2 → r.l.1 ≤ r'.l.1 → r.m.1 ≤ r'.m.1
  chain : ∀ c, d.isC c → c ≠ d.root → d.cr c ≠ 0 ∧
    ∃ P r, r ∈ d.R ∧ Prev d P c ∧ AdjLists (d.V P) (d.V c) ∧ (own → r.m.2 = c.2) ∧ r.l.1 < c.1 ∧ d.A P r.m
  creator : ∀ c, d.N c → d.cr c ≠ 0 → ∃ e ∈ d.E, e.cand = d.cr c ∧ e.term = c.2 ∧ d.A e.last c
  elect : ∀ e ∈ d.E, e.last.2 < e.term ∧ d.N e.last ∧
    ∃ D, LastCfg d D e.last ∧ e.Q.Nodup ∧ (∀ v ∈ e.Q, v ∈ d.V D) ∧ 2 * e.Q.length > (d.V D).length ∧
      ∀ v ∈ e.Q, d.granted v e.term e.cand ∧ UpToC d e v

structure Rules (d : Data) : Prop extends Forest d, Local True d where
  grantU : ∀ v t c c', d.granted v t c → d.granted v t c' → c = c'

theorem lex3_induction {α : Type} (f g h : α → Nat) (P : α → Prop)
    (step : ∀ x, (∀ y, f y < f x ∨ (f y = f x ∧ (g y < g x ∨ (g y = g x ∧ h y < h x))) → P y) → P x) :
    ∀ x, P x := fun x =>
  (invImage (fun x => (f x, g x, h x)) Prod.instWellFoundedRelation).wf.induction x fun x ih =>
    step x fun y hy => ih y (Prod.lex_def.mpr (hy.imp_right (And.imp_right Prod.lex_def.mpr)))

section
variable {d : Data} (h : Rules d)
include h

/-- leader completeness below term `u` -/
def LcU (d : Data) (u : Nat) : Prop := ∀ r ∈ d.R, ∀ c, d.N c → r.m.2 < c.2 → c.2 < u → d.A r.m c

/-- one creator per term below `u` -/
def EsU (d : Data) (u : Nat) : Prop :=
  ∀ c c', d.N c → d.N c' → c.2 = c'.2 → c.2 < u → d.cr c ≠ 0 → d.cr c' ≠ 0 → d.cr c = d.cr c'

theorem chain_own (c : K) (hc : d.isC c) (hne : c ≠ d.root) : d.cr c ≠ 0 ∧
    ∃ P r, r ∈ d.R ∧ Prev d P c ∧ AdjLists (d.V P) (d.V c) ∧ r.m.2 = c.2 ∧ r.l.1 < c.1 ∧ d.A P r.m := by
  obtain ⟨a, P, r, b1, b2, b3, b4, b5, b6⟩ := h.chain c hc hne
  exact ⟨a, P, r, b1, b2, b3, b4 trivial, b5, b6⟩

theorem cmp_term {a b c : K} (h1 : d.A a c) (h2 : d.A b c) (ht : a.2 < b.2) : d.A a b := by
  by_cases hi : a.1 ≤ b.1
  · exact h.cmp a b c h1 h2 hi
  · have := h.trm b a (h.cmp b a c h2 h1 (by omega))
    omega

theorem eq_of_anc {a b c : K} (h1 : d.A a c) (h2 : d.A b c) (hi : a.1 = b.1) : a = b :=
  h.eqi a b (h.cmp a b c h1 h2 (by omega)) hi

theorem same_term {u : Nat} (hes : EsU d u) {a b : K} (ha : d.N a) (hb : d.N b) (ht : a.2 = b.2) (hu : a.2 < u)
    (ca : d.cr a ≠ 0) (cb : d.cr b ≠ 0) (hi : a.1 ≤ b.1) : d.A a b :=
  h.tb a b ha hb ht (hes a b ha hb ht hu ca cb) hi

theorem chain_anc {u : Nat} (hes : EsU d u) {c : K} {r : Rec} (hc : d.isC c) (hcr : d.cr c ≠ 0) (hr : r ∈ d.R)
    (ht : r.m.2 = c.2) (hl : r.l.1 < c.1) (hu : c.2 < u) : d.A r.m c := by
  obtain ⟨r1, r2, r3, _⟩ := h.recd r hr
  have hN := (h.node _ _ r2).2
  have : d.A r.l c := same_term h hes hN (h.cfgN c hc) (by rw [← r1, ht]) (by rw [← r1, ht]; exact hu) r3 hcr
    (Nat.le_of_lt hl)
  exact h.trans _ _ _ r2 this

/-- Let `C`, `C'` be the latest configuration entries of the logs `L`, `L'`. If `C ≠ C'` lies in `L'` and `L` extends
the commit that the chain rule requires for `C'`, then `C` is the predecessor of `C'`. -/
theorem adj_of_below {L L' C C' : K} (hC : LastCfg d C L) (hC' : LastCfg d C' L') (hne : C ≠ C') (hA : d.A C L')
    (hx : ∀ r ∈ d.R, r.m.2 = C'.2 → r.l.1 < C'.1 → d.A r.m L) : AdjLists (d.V C) (d.V C') := by
  obtain ⟨cC, aC, mC⟩ := hC
  obtain ⟨cC', aC', mC'⟩ := hC'
  have a1 : d.A C C' := h.cmp _ _ _ hA aC' (mC' C cC hA)
  have i1 : C.1 < C'.1 := Nat.lt_of_le_of_ne (h.idx _ _ a1) fun e => hne (h.eqi _ _ a1 e)
  have hr : C' ≠ d.root := by
    intro e
    have := h.idx _ _ (h.rootA C (h.cfgN C cC))
    rw [e] at i1; omega
  obtain ⟨_, P, r, k1, k2, k3, k4, k5, k6⟩ := chain_own h C' cC' hr
  have aP : d.A P L := h.trans _ _ _ k6 (hx r k1 k4 k5)
  have i2 := mC P k2.1 aP
  have i3 := k2.2.2.2 C cC a1 i1
  rw [← eq_of_anc h aP aC (by omega)]
  exact k3

/-- Two configuration entries of terms below `u`, neither the bootstrap entry, lie on one path when the log `L` of the
one with the smaller term extends the commit that the chain rule requires for the other. -/
theorem cfg_cmp {u : Nat} (hes : EsU d u) {C C' L : K} (cC : d.isC C) (cC' : d.isC C') (hr : C ≠ d.root)
    (hr' : C' ≠ d.root) (aC : d.A C L) (ht : C.2 ≤ C'.2) (tC' : C'.2 < u)
    (hx : ∀ r ∈ d.R, r.m.2 = C'.2 → r.l.1 < C'.1 → d.A r.m L) : d.A C C' ∨ d.A C' C := by
  obtain ⟨c0, _⟩ := h.chain C cC hr
  obtain ⟨c0', _, r, k1, _, _, k4, k5, _⟩ := chain_own h C' cC' hr'
  rcases Nat.lt_or_ge C.2 C'.2 with h1 | h1
  · -- `C` and the commit `r.m` of the term of `C'` are both in `L`, and `r.m` is below `C'`
    exact Or.inl (h.trans _ _ _ (cmp_term h aC (hx r k1 k4 k5) (by omega)) (chain_anc h hes cC' c0' k1 k4 k5 tC'))
  · have e : C.2 = C'.2 := by omega
    rcases Nat.le_total C.1 C'.1 with hi | hi
    · exact Or.inl (same_term h hes (h.cfgN _ cC) (h.cfgN _ cC') e (by omega) c0 c0' hi)
    · exact Or.inr (same_term h hes (h.cfgN _ cC') (h.cfgN _ cC) e.symm tC' c0' c0 hi)

/-- **quorum overlap along the chain of configurations**: the latest configuration entries `C`, `C'` (of terms below
`u`, which are safe) of two logs `L`, `L'` have equal or adjacent voter lists when each log extends the commits that
the chain rule requires for the configuration of the other (for `C` this is needed only when `C` is not in `L'`). -/
theorem cfgs_adj {u : Nat} (hes : EsU d u) {L L' C C' : K} (hC : LastCfg d C L) (hC' : LastCfg d C' L')
    (tC : C.2 < u) (tC' : C'.2 < u)
    (hx : ¬ d.A C L' → ∀ r ∈ d.R, r.m.2 = C.2 → r.l.1 < C.1 → d.A r.m L')
    (hx' : ∀ r ∈ d.R, r.m.2 = C'.2 → r.l.1 < C'.1 → d.A r.m L) : AdjLists (d.V C) (d.V C') := by
  by_cases hne : C = C'
  · rw [hne]; exact AdjLists.refl _
  by_cases hA : d.A C L'
  · exact adj_of_below h hC hC' hne hA hx'
  by_cases hA' : d.A C' L
  · exact (adj_of_below h hC' hC (Ne.symm hne) hA' (hx hA)).symm
  -- neither is in the log of the other (so neither is the bootstrap entry), yet they lie on one path
  exfalso
  have hr : C ≠ d.root := fun e => hA (e ▸ h.rootA L' (h.node _ _ hC'.2.1).2)
  have hr' : C' ≠ d.root := fun e => hA' (e ▸ h.rootA L (h.node _ _ hC.2.1).2)
  have hcmp : d.A C C' ∨ d.A C' C := by
    rcases Nat.le_total C.2 C'.2 with ht | ht
    · exact cfg_cmp h hes hC.1 hC'.1 hr hr' hC.2.1 ht tC' hx'
    · exact (cfg_cmp h hes hC'.1 hC.1 hr' hr hC'.2.1 ht tC (hx hA)).symm
  rcases hcmp with a | a
  · exact hA (h.trans _ _ _ a hC'.2.1)
  · exact hA' (h.trans _ _ _ a hC.2.1)

/-- **the configurations overlap**: let `L` be a log end, `DL` its latest configuration entry, `r` a commit record of a
term `w < u` that `L` does not extend, with configuration `D`; if `L` extends every smaller record (in the order term,
index, log length) and terms below `u` are safe, then the voter lists of `DL` and `D` are equal or adjacent. -/
theorem cfg_overlap {u : Nat} (hlc : LcU d u) (hes : EsU d u) {L DL D : K} {r : Rec} (hr : r ∈ d.R)
    (hL : LastCfg d DL L) (hLu : L.2 < u) (hw : r.m.2 < u) (hD : LastCfg d D r.l) (hna : ¬ d.A r.m L)
    (ih : ∀ y : Rec, y.m.2 < r.m.2 ∨ (y.m.2 = r.m.2 ∧ (y.m.1 < r.m.1 ∨ (y.m.1 = r.m.1 ∧ y.l.1 < r.l.1))) →
      y ∈ d.R → d.A y.m L) :
    AdjLists (d.V DL) (d.V D) := by
  obtain ⟨r1, r2, r3, _⟩ := h.recd r hr
  have Nl : d.N r.l := (h.node _ _ r2).2
  have NDL : d.N DL := h.cfgN DL hL.1
  have tDL := h.trm _ _ hL.2.1
  have tD := h.trm _ _ hD.2.1
  refine cfgs_adj h hes hL hD (by omega) (by omega) (fun hA y hy e _ => ?_) (fun y hy e hl => ih y ?_ hy)
  · -- the term of `DL` is below that of `r`, so the leader's log `r.l` extends what was committed in it
    rcases Nat.lt_trichotomy DL.2 r.m.2 with hlt | heq | hgt
    · exact hlc y hy r.l Nl (by omega) (by omega)
    · -- same term: `DL` and `r.l` lie on one path
      exfalso
      obtain ⟨c0, _⟩ := h.chain DL hL.1 fun e => hA (e ▸ h.rootA r.l Nl)
      rcases Nat.le_total DL.1 r.l.1 with hi | hi
      · exact hA (same_term h hes NDL Nl (by omega) (by omega) c0 r3 hi)
      · exact hna (h.trans _ _ _ r2 (h.trans _ _ _ (same_term h hes Nl NDL (by omega) (by omega) r3 c0 hi) hL.2.1))
    · exact absurd (h.trans _ _ _ (hlc r hr DL NDL hgt (by omega)) hL.2.1) hna
  · -- a record of the term of `D` whose log ended below `D` is smaller than `r`
    have i0 := h.idx _ _ hD.2.1
    have i1 : y.m.2 = r.m.2 → y.m.1 ≤ r.m.1 := fun e' => h.mono y hy r hr e' (by omega)
    omega

/-- **the log a candidate of term `u` campaigns with extends every key committed in a smaller term** (given safety
below `u`), if a majority `e.Q` of the voters of its latest configuration `DL` passed the up-to-date check in the form:
the log extends the committed key `r.m`, unless a key `c` of a later term with `P c` does not — where the keys with `P`
are known to extend the committed keys. A record that the log did not extend, minimal in the order of `lex3_induction`,
has a voter in common with `e.Q` (`cfg_overlap`), whose acknowledgement contradicts the check. -/
theorem ext_of_quorum {u : Nat} (hlc : LcU d u) (hes : EsU d u) {e : El} (hu : e.term = u) (e1 : e.last.2 < e.term)
    {DL : K} (e3 : LastCfg d DL e.last) (e4 : e.Q.Nodup) (e5 : ∀ v ∈ e.Q, v ∈ d.V DL)
    (e6 : 2 * e.Q.length > (d.V DL).length) {P : K → Prop}
    (hP : ∀ r ∈ d.R, ∀ c, d.N c → r.m.2 < c.2 → P c → d.A r.m c)
    (e7 : ∀ v ∈ e.Q, ∀ r ∈ d.R, r.m.2 < e.term → ∀ a, d.acked v r.m.2 a → d.A r.m a →
      d.A r.m e.last ∨ ∃ c, d.N c ∧ r.m.2 < c.2 ∧ P c ∧ ¬ d.A r.m c) :
    ∀ r : Rec, r ∈ d.R → r.m.2 < u → d.A r.m e.last := by
  refine lex3_induction (fun r : Rec => r.m.2) (fun r => r.m.1) (fun r => r.l.1)
    (fun r => r ∈ d.R → r.m.2 < u → d.A r.m e.last) ?_
  intro r ih hr hw
  apply Classical.byContradiction
  intro hna
  obtain ⟨r1, r2, r3, D, r4, r5, r6, r7, r8⟩ := h.recd r hr
  have hadj : AdjLists (d.V DL) (d.V D) :=
    cfg_overlap h hlc hes hr e3 (by rw [← hu]; exact e1) hw r4 hna
      (fun y hy hyR => ih y hy hyR (by rcases hy with hy | ⟨hy, _⟩ <;> omega))
  obtain ⟨v, hv, hv'⟩ := adjacent_quorums_intersect (d.V DL) (d.V D) e.Q r.Q (h.vnd DL e3.1) (h.vnd D r4.1) e4 r5
    hadj e5 r6 e6 r7
  obtain ⟨a, a1, a2⟩ := r8 v hv'
  rcases e7 v hv r hr (by rw [hu]; exact hw) a a1 a2 with g | ⟨c, c1, c2, c3, c4⟩
  · exact hna g
  · exact c4 (hP r hr c c1 c2 c3)

theorem ext1 {u : Nat} (hlc : LcU d u) (hes : EsU d u) {e : El} (he : e ∈ d.E) (hu : e.term = u) :
    ∀ r : Rec, r ∈ d.R → r.m.2 < u → d.A r.m e.last := by
  obtain ⟨e1, _, DL, e3, e4, e5, e6, e7⟩ := h.elect e he
  exact ext_of_quorum h hlc hes hu e1 e3 e4 e5 e6 (P := fun c => c.2 < e.term)
    (fun r hr c c1 c2 c3 => hlc r hr c c1 c2 (by rw [← hu]; exact c3)) (fun v hv => (e7 v hv).2)


theorem es_overlap {u : Nat} (hlc : LcU d u) (hes : EsU d u) {e e' : El} (he : e ∈ d.E) (he' : e' ∈ d.E)
    (hu : e.term = u) (hu' : e'.term = u) {DL DL' : K} (hL : LastCfg d DL e.last) (hL' : LastCfg d DL' e'.last) :
    AdjLists (d.V DL) (d.V DL') := by
  have x1 := ext1 h hlc hes he hu
  have x1' := ext1 h hlc hes he' hu'
  have t1 := (h.elect e he).1
  have t1' := (h.elect e' he').1
  have tu := h.trm _ _ hL.2.1
  have tu' := h.trm _ _ hL'.2.1
  exact cfgs_adj h hes hL hL' (by omega) (by omega) (fun _ r hr _ _ => x1' r hr (by omega))
    (fun r hr _ _ => x1 r hr (by omega))


theorem safe_below : ∀ u, LcU d u ∧ EsU d u := by
  intro u
  induction u with
  | zero => exact ⟨fun _ _ _ _ _ hc => absurd hc (Nat.not_lt_zero _), fun _ _ _ _ _ hc => absurd hc (Nat.not_lt_zero _)⟩
  | succ u ih =>
    obtain ⟨hlc, hes⟩ := ih
    refine ⟨fun r hr c hN hlt hcu => ?_, fun c c' hN hN' ht hcu hc hc' => ?_⟩
    · rcases Nat.lt_or_ge c.2 u with h1 | h1
      · exact hlc r hr c hN hlt h1
      · have hcu' : c.2 = u := by omega
        have hcr : d.cr c ≠ 0 := by
          intro h0
          have := h.init c hN h0 r hr
          omega
        obtain ⟨e, he, _, e2, e3⟩ := h.creator c hN hcr
        exact h.trans _ _ _ (ext1 h hlc hes he (e2.trans hcu') r hr (by omega)) e3
    · rcases Nat.lt_or_ge c.2 u with h1 | h1
      · exact hes c c' hN hN' ht h1 hc hc'
      · have hcu' : c.2 = u := by omega
        obtain ⟨e, he, e1, e2, _⟩ := h.creator c hN hc
        obtain ⟨e', he', e1', e2', _⟩ := h.creator c' hN' hc'
        obtain ⟨_, _, DL, f3, f4, f5, f6, f7⟩ := h.elect e he
        obtain ⟨_, _, DL', g3, g4, g5, g6, g7⟩ := h.elect e' he'
        have hadj := es_overlap h hlc hes he he' (e2.trans hcu') (e2'.trans (ht.symm.trans hcu')) f3 g3
        obtain ⟨v, hv, hv'⟩ := adjacent_quorums_intersect (d.V DL) (d.V DL') e.Q e'.Q (h.vnd DL f3.1)
          (h.vnd DL' g3.1) f4 g4 hadj f5 g5 f6 g6
        have g1 := (f7 v hv).1
        have g2 := (g7 v hv').1
        rw [e2, e1] at g1
        rw [e2', e1', ← ht] at g2
        exact h.grantU v c.2 _ _ g1 g2

/-- **Election safety and leader completeness across single-server membership changes** (ledger form; see the file
header for `Rules`): in a ledger that obeys the local rules,
1. every node `c` of the tree whose term is above that of a commit record `r` extends the committed key `r.m`;
2. all nodes of one term that were created by a node (not initial) were created by the same node. -/
theorem member_safety :
    (∀ r ∈ d.R, ∀ c, d.N c → r.m.2 < c.2 → d.A r.m c) ∧
    (∀ c c', d.N c → d.N c' → c.2 = c'.2 → d.cr c ≠ 0 → d.cr c' ≠ 0 → d.cr c = d.cr c') :=
  ⟨fun r hr c hN hlt => (safe_below h (c.2 + 1)).1 r hr c hN hlt (Nat.lt_succ_self _),
   fun c c' hN hN' ht hc hc' => (safe_below h (c.2 + 1)).2 c c' hN hN' ht (Nat.lt_succ_self _) hc hc'⟩

theorem committed_chain {r r' : Rec} (hr : r ∈ d.R) (hr' : r' ∈ d.R) : d.A r.m r'.m ∨ d.A r'.m r.m := by
  obtain ⟨lc, es⟩ := member_safety h
  obtain ⟨a1, a2, a3, _⟩ := h.recd r hr
  obtain ⟨b1, b2, b3, _⟩ := h.recd r' hr'
  have Nm := (h.node _ _ a2).1
  have Nm' := (h.node _ _ b2).1
  have Nl := (h.node _ _ a2).2
  have Nl' := (h.node _ _ b2).2
  rcases Nat.lt_trichotomy r.m.2 r'.m.2 with h1 | h1 | h1
  · exact Or.inl (lc r hr r'.m Nm' h1)
  · -- same term: both below the longer of the two leader logs
    have hl : d.A r.l r'.l ∨ d.A r'.l r.l := by
      have ecr := es r.l r'.l Nl Nl' (by rw [← a1, ← b1]; exact h1) a3 b3
      rcases Nat.le_total r.l.1 r'.l.1 with h2 | h2
      · exact Or.inl (h.tb _ _ Nl Nl' (by rw [← a1, ← b1]; exact h1) ecr h2)
      · exact Or.inr (h.tb _ _ Nl' Nl (by rw [← a1, ← b1]; exact h1.symm) ecr.symm h2)
    rcases hl with hl | hl
    · have c1 := h.trans _ _ _ a2 hl
      rcases Nat.le_total r.m.1 r'.m.1 with h2 | h2
      · exact Or.inl (h.cmp _ _ _ c1 b2 h2)
      · exact Or.inr (h.cmp _ _ _ b2 c1 h2)
    · have c1 := h.trans _ _ _ b2 hl
      rcases Nat.le_total r.m.1 r'.m.1 with h2 | h2
      · exact Or.inl (h.cmp _ _ _ a2 c1 h2)
      · exact Or.inr (h.cmp _ _ _ c1 a2 h2)
  · exact Or.inr (lc r' hr' r.m Nm h1)

end

instance (V V' : List Nat) : Decidable (AdjLists V V') :=
  decidable_of_iff ((∀ x ∈ V ++ V', x ∈ V ↔ x ∈ V') ∨ ∃ a ∈ V ++ V', ∀ x ∈ V ++ V', x ≠ a → (x ∈ V ↔ x ∈ V')) <| by
    have out : ∀ x, x ∉ V ++ V' → (x ∈ V ↔ x ∈ V') := fun x hm => by
      rw [List.mem_append, not_or] at hm
      exact ⟨fun k => absurd k hm.1, fun k => absurd k hm.2⟩
    constructor
    · rintro (h | ⟨a, _, h⟩)
      · exact AdjLists.of_same fun x => if hm : x ∈ V ++ V' then h x hm else out x hm
      · exact ⟨a, fun x hx => if hm : x ∈ V ++ V' then h x hm hx else out x hm⟩
    · rintro ⟨a, h⟩
      by_cases ha : a ∈ V ++ V'
      · exact Or.inr ⟨a, ha, fun x _ hx => h x hx⟩
      · exact Or.inl fun x _ => if hx : x = a then hx ▸ out a ha else h x hx

/-! ### The rules that quantify over keys, checked over a list of keys

For a concrete ledger whose order relates keys of a list `ns` only, the rules `recd`, `chain` and `elect` follow from
their forms with every quantifier over keys restricted to `ns`, which evaluation decides. -/

section
variable {d : Data} {ns : List K} (hN : ∀ a c, d.A a c → a ∈ ns ∧ c ∈ ns)
include hN

theorem lastCfg_of_nodes {D a : K} (h : d.isC D ∧ d.A D a ∧ ∀ E ∈ ns, d.isC E → d.A E a → E.1 ≤ D.1) :
    LastCfg d D a :=
  ⟨h.1, h.2.1, fun E hE hA => h.2.2 E (hN E a hA).1 hE hA⟩

theorem recd_of_nodes
    (h : ∀ r ∈ d.R, r.m.2 = r.l.2 ∧ d.A r.m r.l ∧ d.cr r.l ≠ 0 ∧
      ∃ D ∈ ns, (d.isC D ∧ d.A D r.l ∧ ∀ E ∈ ns, d.isC E → d.A E r.l → E.1 ≤ D.1) ∧ r.Q.Nodup ∧
        (∀ v ∈ r.Q, v ∈ d.V D) ∧ 2 * r.Q.length > (d.V D).length ∧ ∀ v ∈ r.Q, ∃ a ∈ ns, d.acked v r.m.2 a ∧ d.A r.m a) :
    ∀ r ∈ d.R, r.m.2 = r.l.2 ∧ d.A r.m r.l ∧ d.cr r.l ≠ 0 ∧
      ∃ D, LastCfg d D r.l ∧ r.Q.Nodup ∧ (∀ v ∈ r.Q, v ∈ d.V D) ∧ 2 * r.Q.length > (d.V D).length ∧
        ∀ v ∈ r.Q, ∃ a, d.acked v r.m.2 a ∧ d.A r.m a := by
  intro r hr
  obtain ⟨h1, h2, h3, D, _, h4, h5, h6, h7, h8⟩ := h r hr
  refine ⟨h1, h2, h3, D, lastCfg_of_nodes hN h4, h5, h6, h7, fun v hv => ?_⟩
  obtain ⟨a, _, ha⟩ := h8 v hv
  exact ⟨a, ha⟩

theorem chain_of_nodes {own : Prop} (hC : ∀ c, d.isC c → c ∈ ns)
    (h : ∀ c ∈ ns, d.isC c → c ≠ d.root → d.cr c ≠ 0 ∧
      ∃ P ∈ ns, ∃ r ∈ d.R,
        (d.isC P ∧ d.A P c ∧ P.1 < c.1 ∧ ∀ E ∈ ns, d.isC E → d.A E c → E.1 < c.1 → E.1 ≤ P.1) ∧
        AdjLists (d.V P) (d.V c) ∧ (own → r.m.2 = c.2) ∧ r.l.1 < c.1 ∧ d.A P r.m) :
    ∀ c, d.isC c → c ≠ d.root → d.cr c ≠ 0 ∧
      ∃ P r, r ∈ d.R ∧ Prev d P c ∧ AdjLists (d.V P) (d.V c) ∧ (own → r.m.2 = c.2) ∧ r.l.1 < c.1 ∧ d.A P r.m := by
  intro c hc hne
  obtain ⟨h0, P, _, r, hr, ⟨p1, p2, p3, p4⟩, h2, h3, h4, h5⟩ := h c (hC c hc) hc hne
  exact ⟨h0, P, r, hr, ⟨p1, p2, p3, fun E hE hA => p4 E (hN E c hA).1 hE hA⟩, h2, h3, h4, h5⟩

/-- in the up-to-date check `hu`, "`v` acknowledged nothing above `r.m` in the term of `r`" is checked over `ns` -/
theorem elect_of_nodes
    (h : ∀ e ∈ d.E, e.last.2 < e.term ∧ d.N e.last ∧
      ∃ D ∈ ns, (d.isC D ∧ d.A D e.last ∧ ∀ E ∈ ns, d.isC E → d.A E e.last → E.1 ≤ D.1) ∧ e.Q.Nodup ∧
        (∀ v ∈ e.Q, v ∈ d.V D) ∧ 2 * e.Q.length > (d.V D).length ∧ ∀ v ∈ e.Q, d.granted v e.term e.cand)
    (hu : ∀ e ∈ d.E, ∀ v ∈ e.Q, ∀ r ∈ d.R, r.m.2 < e.term →
      d.A r.m e.last ∨ ∀ a ∈ ns, d.acked v r.m.2 a → ¬ d.A r.m a) :
    ∀ e ∈ d.E, e.last.2 < e.term ∧ d.N e.last ∧
      ∃ D, LastCfg d D e.last ∧ e.Q.Nodup ∧ (∀ v ∈ e.Q, v ∈ d.V D) ∧ 2 * e.Q.length > (d.V D).length ∧
        ∀ v ∈ e.Q, d.granted v e.term e.cand ∧ UpToC d e v := by
  intro e he
  obtain ⟨h1, h2, D, _, h3, h4, h5, h6, h7⟩ := h e he
  refine ⟨h1, h2, D, lastCfg_of_nodes hN h3, h4, h5, h6, fun v hv => ⟨h7 v hv, fun r hr hlt a ha hA => ?_⟩⟩
  rcases hu e he v hv r hr hlt with g | g
  · exact Or.inl g
  · exact absurd hA (g a (hN _ _ hA).2 ha)

end

theorem grantU_of_list {l : List (Nat × Nat × Nat)}
    (h : ∀ g ∈ l, ∀ g' ∈ l, g.1 = g'.1 → g.2.1 = g'.2.1 → g.2.2 = g'.2.2) :
    ∀ v t c c', (v, t, c) ∈ l → (v, t, c') ∈ l → c = c' :=
  fun v t c c' h1 h2 => h (v, t, c) h1 (v, t, c') h2 rfl rfl

/-! ### Example (non-vacuity): the rules are satisfiable by a ledger with a membership change and a change of leader

One path `(1,1) – (2,2) – (3,2) – (4,3)`: the bootstrap configuration `(1,1)` has the voters 1, 2, 3. Node 1 wins term
2 with the votes of 1 and 2, creates the entry `(2,2)`, commits it (acknowledged by 1 and 2: a majority of the
bootstrap configuration), then creates the configuration entry `(3,2)` with the voters 1, 2, 3, 4 (one voter added;
the predecessor `(1,1)` and the own-term entry `(2,2)` are committed) and commits it with 1, 2, 3 (a majority of the NEW
configuration). Node 2, whose log ends with `(3,2)`, wins term 3 with the votes of 2, 3, 4 — a majority of the
configuration `(3,2)` — and creates `(4,3)`. -/

def exNodes : List K := [(1, 1), (2, 2), (3, 2), (4, 3)]

def exData : Data where
  A := fun a c => a ∈ exNodes ∧ c ∈ exNodes ∧ a.1 ≤ c.1
  N := fun a => a ∈ exNodes
  cr := fun a => if a = (1, 1) then 0 else if a = (4, 3) then 2 else 1
  isC := fun a => a = (1, 1) ∨ a = (3, 2)
  V := fun a => if a = (3, 2) then [1, 2, 3, 4] else [1, 2, 3]
  root := (1, 1)
  R := [{ m := (2, 2), l := (2, 2), Q := [1, 2] }, { m := (3, 2), l := (3, 2), Q := [1, 2, 3] }]
  E := [{ cand := 1, term := 2, last := (1, 1), Q := [1, 2] }, { cand := 2, term := 3, last := (3, 2), Q := [2, 3, 4] }]
  acked := fun v w a => (v, w, a) ∈ [(1, 2, (2, 2)), (2, 2, (2, 2)), (1, 2, (3, 2)), (2, 2, (3, 2)), (3, 2, (3, 2))]
  granted := fun v t c => (v, t, c) ∈ [(1, 2, 1), (2, 2, 1), (2, 3, 2), (3, 3, 2), (4, 3, 2)]

instance (a c : K) : Decidable (exData.A a c) :=
  inferInstanceAs (Decidable (a ∈ exNodes ∧ c ∈ exNodes ∧ a.1 ≤ c.1))
instance (a : K) : Decidable (exData.N a) := inferInstanceAs (Decidable (a ∈ exNodes))
instance (a : K) : Decidable (exData.isC a) := inferInstanceAs (Decidable (a = (1, 1) ∨ a = (3, 2)))
instance (v w : Nat) (a : K) : Decidable (exData.acked v w a) :=
  inferInstanceAs (Decidable ((v, w, a) ∈ [(1, 2, ((2, 2) : K)), (2, 2, (2, 2)), (1, 2, (3, 2)), (2, 2, (3, 2)), (3, 2, (3, 2))]))
instance (v t c : Nat) : Decidable (exData.granted v t c) :=
  inferInstanceAs (Decidable ((v, t, c) ∈ [(1, 2, 1), (2, 2, 1), (2, 3, 2), (3, 3, 2), (4, 3, 2)]))
instance (r : Rec) : Decidable (r ∈ exData.R) :=
  inferInstanceAs (Decidable (r ∈ [({ m := (2, 2), l := (2, 2), Q := [1, 2] } : Rec), { m := (3, 2), l := (3, 2), Q := [1, 2, 3] }]))

theorem exA_mem (a c : K) (h : exData.A a c) : a ∈ exNodes ∧ c ∈ exNodes := ⟨h.1, h.2.1⟩

theorem ex_cfgN : ∀ a, exData.isC a → a ∈ exNodes := fun a ha => by rcases ha with rfl | rfl <;> decide

/-- EXAMPLE: the hypotheses of `member_safety` hold for `exData` -/
theorem exData_rules : Rules exData where
  refl := fun a ha => ⟨ha, ha, Nat.le_refl _⟩
  node := exA_mem
  trans := fun a b c h1 h2 => ⟨h1.1, h2.2.1, Nat.le_trans h1.2.2 h2.2.2⟩
  cmp := fun a b c h1 h2 hi => ⟨h1.1, h2.1, hi⟩
  eqi := fun a c h hi => (by decide : ∀ a ∈ exNodes, ∀ c ∈ exNodes, a.1 = c.1 → a = c) a h.1 c h.2.1 hi
  idx := fun a c h => h.2.2
  trm := fun a c h => (by decide : ∀ a ∈ exNodes, ∀ c ∈ exNodes, a.1 ≤ c.1 → a.2 ≤ c.2) a h.1 c h.2.1 h.2.2
  rootC := Or.inl rfl
  rootA := fun a ha => ⟨by decide, ha, (by decide : ∀ a ∈ exNodes, 1 ≤ a.1) a ha⟩
  cfgN := ex_cfgN
  vnd := fun a ha => by rcases ha with rfl | rfl <;> decide
  tb := fun c e hc he _ _ hi => ⟨hc, he, hi⟩
  init := (by decide : ∀ c ∈ exNodes, exData.cr c = 0 → ∀ r ∈ exData.R, c.2 ≤ r.m.2)
  recd := recd_of_nodes exA_mem (by decide +kernel)
  mono := by decide
  chain := chain_of_nodes exA_mem ex_cfgN (by decide +kernel)
  creator := (by decide +kernel : ∀ c ∈ exNodes, exData.cr c ≠ 0 →
    ∃ e ∈ exData.E, e.cand = exData.cr c ∧ e.term = c.2 ∧ exData.A e.last c)
  elect := elect_of_nodes exA_mem (by decide +kernel) (by decide +kernel)
  grantU := grantU_of_list (by decide +kernel)

/-- EXAMPLE: hence the entry `(4,3)` of the new leader extends the committed keys `(2,2)` and `(3,2)` -/
example : exData.A (3, 2) (4, 3) :=
  (member_safety exData_rules).1 { m := (3, 2), l := (3, 2), Q := [1, 2, 3] } (by decide) (4, 3) (by decide) (by decide)


/-! ### NECESSITY of "an entry of the leader's own term is committed" (the membership-change bug of 2015)

Four voters 1–4 (bootstrap entry `(1,1)`). Node 1 leads term 2, commits its no-op `(2,2)` with 1, 2, 3 and appends the
configuration `(3,2)` = voters 1–5 (node 5 added), which reaches nodes 1 and 5 only. Node 2 wins term 3 with the votes
of 2, 3, 4 (a majority of the bootstrap configuration; its log ends with `(2,2)`) and AT ONCE appends the configuration
`(3,3)` = voters 2, 3, 4 (node 1 removed): the previous configuration `(1,1)` is committed, but no entry of term 3 is.
`(3,3)` is acknowledged by 2 and 3 — a majority of ITSELF — and is committed. Node 1, whose log ends with `(3,2)`, wins
term 4 with the votes of 1, 4 and 5 — a majority of `(3,2)`; node 4 never saw `(3,3)` — and appends `(4,4)`, which does
not extend the committed `(3,3)`. Every rule holds except the own-term requirement at `(3,3)`: `Local False`. -/

def bugNodes : List K := [(1, 1), (2, 2), (3, 2), (3, 3), (4, 4)]
def bugPA : List K := [(1, 1), (2, 2), (3, 2), (4, 4)]
def bugPB : List K := [(1, 1), (2, 2), (3, 3)]

def bugA (a c : K) : Prop := (a ∈ bugPA ∧ c ∈ bugPA ∧ a.1 ≤ c.1) ∨ (a ∈ bugPB ∧ c ∈ bugPB ∧ a.1 ≤ c.1)
instance (a c : K) : Decidable (bugA a c) := by unfold bugA; infer_instance

def bugIsC (a : K) : Prop := a ∈ [((1, 1) : K), (3, 2), (3, 3)]
instance (a : K) : Decidable (bugIsC a) := by unfold bugIsC; infer_instance

def bugR : List Rec := [{ m := (2, 2), l := (2, 2), Q := [1, 2, 3] }, { m := (3, 3), l := (3, 3), Q := [2, 3] }]
def bugE : List El :=
  [{ cand := 1, term := 2, last := (1, 1), Q := [1, 2, 3] }, { cand := 2, term := 3, last := (2, 2), Q := [2, 3, 4] },
   { cand := 1, term := 4, last := (3, 2), Q := [1, 4, 5] }]
def bugAcks : List (Nat × Nat × K) :=
  [(1, 2, (2, 2)), (2, 2, (2, 2)), (3, 2, (2, 2)), (1, 2, (3, 2)), (5, 2, (3, 2)), (2, 3, (3, 3)), (3, 3, (3, 3))]
def bugGrants : List (Nat × Nat × Nat) :=
  [(1, 2, 1), (2, 2, 1), (3, 2, 1), (2, 3, 2), (3, 3, 2), (4, 3, 2), (1, 4, 1), (4, 4, 1), (5, 4, 1)]

def exBug : Data where
  A := bugA
  N := fun a => a ∈ bugNodes
  cr := fun a => if a = (1, 1) then 0 else if a = (3, 3) then 2 else 1
  isC := bugIsC
  V := fun a => if a = (3, 2) then [1, 2, 3, 4, 5] else if a = (3, 3) then [2, 3, 4] else [1, 2, 3, 4]
  root := (1, 1)
  R := bugR
  E := bugE
  acked := fun v w a => (v, w, a) ∈ bugAcks
  granted := fun v t c => (v, t, c) ∈ bugGrants

instance (a c : K) : Decidable (exBug.A a c) := inferInstanceAs (Decidable (bugA a c))
instance (a : K) : Decidable (exBug.N a) := inferInstanceAs (Decidable (a ∈ bugNodes))
instance (a : K) : Decidable (exBug.isC a) := inferInstanceAs (Decidable (bugIsC a))
instance (v w : Nat) (a : K) : Decidable (exBug.acked v w a) := inferInstanceAs (Decidable ((v, w, a) ∈ bugAcks))
instance (v t c : Nat) : Decidable (exBug.granted v t c) := inferInstanceAs (Decidable ((v, t, c) ∈ bugGrants))
instance (r : Rec) : Decidable (r ∈ exBug.R) := inferInstanceAs (Decidable (r ∈ bugR))

theorem bugA_mem (a c : K) (h : bugA a c) : a ∈ bugNodes ∧ c ∈ bugNodes := by
  have hA : ∀ x ∈ bugPA, x ∈ bugNodes := by decide
  have hB : ∀ x ∈ bugPB, x ∈ bugNodes := by decide
  rcases h with ⟨h1, h2, _⟩ | ⟨h1, h2, _⟩
  · exact ⟨hA a h1, hA c h2⟩
  · exact ⟨hB a h1, hB c h2⟩

theorem bug_forest : Forest exBug where
  refl := (by decide : ∀ a ∈ bugNodes, bugA a a)
  node := bugA_mem
  trans := fun a b c h1 h2 =>
    (by decide +kernel : ∀ a ∈ bugNodes, ∀ b ∈ bugNodes, ∀ c ∈ bugNodes, bugA a b → bugA b c → bugA a c)
      a (bugA_mem _ _ h1).1 b (bugA_mem _ _ h1).2 c (bugA_mem _ _ h2).2 h1 h2
  cmp := fun a b c h1 h2 hi =>
    (by decide +kernel : ∀ a ∈ bugNodes, ∀ b ∈ bugNodes, ∀ c ∈ bugNodes, bugA a c → bugA b c → a.1 ≤ b.1 → bugA a b)
      a (bugA_mem _ _ h1).1 b (bugA_mem _ _ h2).1 c (bugA_mem _ _ h1).2 h1 h2 hi
  eqi := fun a c h hi =>
    (by decide +kernel : ∀ a ∈ bugNodes, ∀ c ∈ bugNodes, bugA a c → a.1 = c.1 → a = c)
      a (bugA_mem _ _ h).1 c (bugA_mem _ _ h).2 h hi
  idx := fun a c h => by rcases h with ⟨_, _, h⟩ | ⟨_, _, h⟩ <;> exact h
  trm := fun a c h =>
    (by decide +kernel : ∀ a ∈ bugNodes, ∀ c ∈ bugNodes, bugA a c → a.2 ≤ c.2) a (bugA_mem _ _ h).1 c (bugA_mem _ _ h).2 h

/-- NECESSITY: `exBug` obeys every rule when the own-term requirement is dropped (`Local False`), … -/
theorem bug_local : Local False exBug where
  rootC := by decide
  rootA := (by decide : ∀ a ∈ bugNodes, bugA (1, 1) a)
  cfgN := (by decide : ∀ a ∈ [((1, 1) : K), (3, 2), (3, 3)], a ∈ bugNodes)
  vnd := (by decide : ∀ a ∈ [((1, 1) : K), (3, 2), (3, 3)], (exBug.V a).Nodup)
  tb := fun c e hc he =>
    (by decide +kernel : ∀ c ∈ bugNodes, ∀ e ∈ bugNodes, c.2 = e.2 → exBug.cr c = exBug.cr e → c.1 ≤ e.1 → bugA c e)
      c hc e he
  init := (by decide : ∀ c ∈ bugNodes, exBug.cr c = 0 → ∀ r ∈ bugR, c.2 ≤ r.m.2)
  recd := recd_of_nodes bugA_mem (by decide +kernel)
  mono := by decide
  chain := chain_of_nodes bugA_mem (by decide : ∀ a ∈ [((1, 1) : K), (3, 2), (3, 3)], a ∈ bugNodes) (by decide +kernel)
  creator := (by decide +kernel : ∀ c ∈ bugNodes, exBug.cr c ≠ 0 →
    ∃ e ∈ bugE, e.cand = exBug.cr c ∧ e.term = c.2 ∧ bugA e.last c)
  elect := elect_of_nodes bugA_mem (by decide +kernel) (by decide +kernel)

/-- … grants are unique, … -/
theorem bug_grantU : ∀ v t c c', exBug.granted v t c → exBug.granted v t c' → c = c' :=
  grantU_of_list (by decide +kernel)

/-- … and yet LEADER COMPLETENESS FAILS: `(3,3)` was committed in term 3, the entry `(4,4)` of term 4 does not extend
it. So the own-term requirement of the chain rule cannot be dropped from `member_safety`; in the code it is the clause
`commitIndex ≥ startIndex` of `leader.canChangeConfig` (`C08Step.OneChange.ownTerm`). -/
theorem bug_unsafe : ¬ (∀ r ∈ exBug.R, ∀ c, exBug.N c → r.m.2 < c.2 → exBug.A r.m c) := by
  intro h
  have := h { m := (3, 3), l := (3, 3), Q := [2, 3] } (by decide) (4, 4) (by decide) (by decide)
  revert this
  decide

/-- in particular `exBug` violates the own-term requirement (it is the only rule it violates) -/
example : ¬ Local True exBug := fun h =>
  bug_unsafe (member_safety { toForest := bug_forest, toLocal := h, grantU := bug_grantU }).1

end MemberCore
end Raft

#print axioms Raft.MemberCore.member_safety
#print axioms Raft.MemberCore.committed_chain
