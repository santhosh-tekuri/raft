/-
Un-compaction with the segment list kept as it is (`SnapInstV.V β s`): `SnapRelU.U β s` (Lemmas/SnapRelU.lean: the
compacted prefix `β` is put back in front of the log, the compaction bounds of the leader record are forgotten; the same at
every crash point) except that the segment list of the un-compacted log is the segment list of the compacted log (no extra
segment in front) — `SnapRelU.W g β` with `g` the identity on the segment list.  With this choice `RemoveGTE` commutes with
the un-compaction ALSO when it empties the compacted log (an append request that overwrites the first entry of a log that
starts at its snapshot index — the case `AOK` / `NoCut` exclude), at the price of a hypothesis where the handler reads
`lastSegPrev`: the segment list is not empty.

`append_step_V`: the handler of append requests commutes with `V β` for a log that starts at or below the snapshot index
and has a non-empty segment list (`AV`), without any condition on the request (`SnapRelU.append_step_W`).
-/
import RaftVerif.Lemmas.SnapInstU

namespace Raft
namespace SnapInstV
open Node SnapRelU

/-- the log with the compacted prefix `b` put back; the segment list stays -/
def vLog (b : List Entry) (l : NLog) : NLog :=
  { prev := 0, entries := pad b l.prev ++ l.entries, flushed := l.flushed, segs := l.segs }

def vD (b : List Entry) (d : Durable) : Durable :=
  { d with log := { prev := 0, entries := (pad b d.log.prev ++ d.log.entries).take d.log.flushed,
                    flushed := d.log.flushed, segs := d.log.segs } }

def vP (b : List Entry) (p : String × Durable) : String × Durable := (p.1, vD b p.2)

def V (b : List Entry) (s : Node) : Node :=
  { s with log := vLog b s.log, ldr := zr s.ldr, trace := s.trace.map (vP b) }

variable {β : List Entry}

theorem vLog_last (l : NLog) : (vLog β l).last = l.last := wLog_last (g := fun _ sg => sg) l

theorem vLog_lastSegPrev (l : NLog) (h : l.segs ≠ []) : (vLog β l).lastSegPrev = l.lastSegPrev := by
  unfold vLog NLog.lastSegPrev
  dsimp only
  cases hl : l.segs.getLast? with
  | none => exact absurd (List.getLast?_eq_none_iff.mp hl) h
  | some x => rfl

theorem segs_snoc : Snoc (fun _ sg => sg) := fun _ _ _ => rfl

theorem segs_keepsLast (l : NLog) (h : l.segs ≠ []) : KeepsLast (fun _ sg => sg) l := vLog_lastSegPrev (β := []) l h

theorem V_durable (s : Node) : (V β s).durable = vD β s.durable := W_durable (g := fun _ sg => sg) s

@[uproj] theorem V_cid (s : Node) : (V β s).cid = s.cid := rfl
@[uproj] theorem V_nid (s : Node) : (V β s).nid = s.nid := rfl
@[uproj] theorem V_retain (s : Node) : (V β s).retain = s.retain := rfl
@[uproj] theorem V_shutdownOnRemove (s : Node) : (V β s).shutdownOnRemove = s.shutdownOnRemove := rfl
@[uproj] theorem V_term (s : Node) : (V β s).term = s.term := rfl
@[uproj] theorem V_votedFor (s : Node) : (V β s).votedFor = s.votedFor := rfl
@[uproj] theorem V_durTerm (s : Node) : (V β s).durTerm = s.durTerm := rfl
@[uproj] theorem V_durVote (s : Node) : (V β s).durVote = s.durVote := rfl
theorem V_log (s : Node) : (V β s).log = vLog β s.log := rfl
@[uproj] theorem V_lastLogIndex (s : Node) : (V β s).lastLogIndex = s.lastLogIndex := rfl
@[uproj] theorem V_lastLogTerm (s : Node) : (V β s).lastLogTerm = s.lastLogTerm := rfl
@[uproj] theorem V_configs (s : Node) : (V β s).configs = s.configs := rfl
@[uproj] theorem V_role (s : Node) : (V β s).role = s.role := rfl
@[uproj] theorem V_leader (s : Node) : (V β s).leader = s.leader := rfl
@[uproj] theorem V_commitIndex (s : Node) : (V β s).commitIndex = s.commitIndex := rfl
@[uproj] theorem V_fsm (s : Node) : (V β s).fsm = s.fsm := rfl
@[uproj] theorem V_votesNeeded (s : Node) : (V β s).votesNeeded = s.votesNeeded := rfl
@[uproj] theorem V_candTransfer (s : Node) : (V β s).candTransfer = s.candTransfer := rfl
theorem V_ldr (s : Node) : (V β s).ldr = zr s.ldr := rfl
@[uproj] theorem V_ldr_node (s : Node) : (V β s).ldr.node = s.ldr.node := rfl
@[uproj] theorem V_ldr_numVoters (s : Node) : (V β s).ldr.numVoters = s.ldr.numVoters := rfl
@[uproj] theorem V_ldr_startIndex (s : Node) : (V β s).ldr.startIndex = s.ldr.startIndex := rfl
@[uproj] theorem V_ldr_queue (s : Node) : (V β s).ldr.queue = s.ldr.queue := rfl
@[uproj] theorem V_ldr_transfer (s : Node) : (V β s).ldr.transfer = s.ldr.transfer := rfl
@[uproj] theorem V_ldr_waitStable (s : Node) : (V β s).ldr.waitStable = s.ldr.waitStable := rfl
@[uproj] theorem V_snapPending (s : Node) : (V β s).snapPending = s.snapPending := rfl
@[uproj] theorem V_snapResult (s : Node) : (V β s).snapResult = s.snapResult := rfl
@[uproj] theorem V_closed (s : Node) : (V β s).closed = s.closed := rfl
@[uproj] theorem V_rollAt (s : Node) : (V β s).rollAt = s.rollAt := rfl
@[uproj] theorem V_orders (s : Node) : (V β s).orders = s.orders := rfl
@[uproj] theorem V_replies (s : Node) : (V β s).replies = s.replies := rfl
@[uproj] theorem V_rpcReply (s : Node) : (V β s).rpcReply = s.rpcReply := rfl
@[uproj] theorem V_result (s : Node) : (V β s).result = s.result := rfl
@[uproj] theorem V_panicked (s : Node) : (V β s).panicked = s.panicked := rfl
@[uproj] theorem V_trace (s : Node) : (V β s).trace = s.trace.map (vP β) := rfl
@[uproj] theorem V_snapIndex (s : Node) : (V β s).snapIndex = s.snapIndex := rfl
@[uproj] theorem V_snapTerm (s : Node) : (V β s).snapTerm = s.snapTerm := rfl
@[uproj] theorem V_snapsDisk (s : Node) : (V β s).snapsDisk = s.snapsDisk := rfl
@[uproj] theorem vLog_prev (l : NLog) : (vLog β l).prev = 0 := rfl
@[uproj] theorem vLog_flushed (l : NLog) : (vLog β l).flushed = l.flushed := rfl
@[uproj] theorem V_releaseResult (s : Node) : (V β s).releaseResult = s.releaseResult := rfl
@[uproj] theorem V_notLeader (s : Node) (x : Bool) : (V β s).notLeader x = s.notLeader x := rfl
@[uproj] theorem V_isClosed (s : Node) : (V β s).isClosed = s.isClosed := rfl
@[uproj] theorem V_mkReply (s : Node) (x y : Bool) : (V β s).mkReply x y = s.mkReply x y := rfl
@[uproj] theorem V_canCommit (s : Node) (q : AppendReq) (i t : Nat) : (V β s).canCommit q i t = s.canCommit q i t := rfl
@[usimp] theorem V_setRole (s : Node) (r : Role) : (V β s).setRole r = V β (s.setRole r) := rfl
@[usimp] theorem V_withFsm (s : Node) (f : Fsm) : (V β s).withFsm f = V β (s.withFsm f) := rfl
@[usimp] theorem V_withCandTransfer (s : Node) (v : Bool) : (V β s).withCandTransfer v = V β (s.withCandTransfer v) := rfl
@[usimp] theorem V_withRpcReply (s : Node) (v : Option RpcReply) : (V β s).withRpcReply v = V β (s.withRpcReply v) := rfl
@[usimp] theorem V_withCommitIndex (s : Node) (i : Nat) : (V β s).withCommitIndex i = V β (s.withCommitIndex i) := rfl
@[usimp] theorem V_ret (s : Node) (r : Nat) : (V β s).ret r = V β (s.ret r) := rfl
@[usimp] theorem V_setLeader (s : Node) (l : Nat) : (V β s).setLeader l = V β (s.setLeader l) := rfl

@[usimp] theorem V_withLdr_keep (s : Node) (nd : CNode) (nv si : Nat) (q : List QItem) (tr : Transfer) (ws : List Nat) :
    (V β s).withLdr ⟨nd, nv, si, q, (V β s).ldr.repls, tr, ws, (V β s).ldr.removeLTE⟩ =
      V β (s.withLdr ⟨nd, nv, si, q, s.ldr.repls, tr, ws, s.ldr.removeLTE⟩) := rfl

@[usimp] theorem V_revertConfig (s : Node) : (V β s).revertConfig = V β s.revertConfig := rfl

@[usimp] theorem V_setCommitIndexR_2 (s : Node) (i : Nat) : ((V β s).setCommitIndexR i).2 = (s.setCommitIndexR i).2 :=
  W_setCommitIndexR_2 (g := fun _ sg => sg) s i

theorem V_withLdr_released (s : Node) (nd : CNode) (nv si : Nat) :
    (V β s).withLdr { node := nd, numVoters := nv, startIndex := si, removeLTE := (V β s).ldr.removeLTE } =
      V β (s.withLdr { node := nd, numVoters := nv, startIndex := si, removeLTE := s.ldr.removeLTE }) := rfl

def AV (s : Node) : Prop := s.log.prev ≤ s.snapIndex ∧ s.log.segs ≠ []

theorem AV.frame {cut : Prop} {s s' : Node} (h : AV s) (f : SegFrame cut s s') : AV s' := by
  unfold AV at h ⊢
  rw [f.prev, f.snap]
  exact ⟨h.1, f.ne h.2⟩

theorem av_appendOK : AppendOK (fun _ sg => sg) (fun s _ => AV s) where
  snoc := segs_snoc
  nil := fun _ _ h => h
  next := fun _ _ _ h => h
  prev := fun _ _ h => h.1
  last := fun _ _ h => segs_keepsLast _ h.2
  congr := fun _ _ _ h e1 _ e3 => h.frame (cut := True) (.of_log e1 e3)
  store := fun s ne _ pt ha _ _ =>
    ⟨fun _ => rfl, segs_keepsLast _ (ha.frame (.resolveConflict s ne pt)).2,
      ha.frame ((SegFrame.resolveConflict s ne pt).trans (.appendEntry _ ne))⟩
  cc := fun s c _ ha => ha.frame (.changeConfigR s c)

theorem append_step_V (s : Node) (q : AppendReq) (ra : List Nat) (ord : List (List Nat)) (ha : AV s)
    (hp : (s.step (.append q) ra ord).panicked = none) :
    (V β s).step (.append q) ra ord = V β (s.step (.append q) ra ord) :=
  append_step_W av_appendOK s q ra ord (fun _ => ha) hp

end SnapInstV
end Raft
