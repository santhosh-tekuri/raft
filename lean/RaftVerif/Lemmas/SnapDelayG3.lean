/-
Delayed compaction: THE FRAME LEMMA for the leader's compaction bound and the replication statuses, for every
operation of `Node.step` (guarded closure framework: Lemmas/SnapDelayG1.lean, SnapDelayG2.lean).

`GL R F l` (a predicate on leader records): the bound is `R`, and every status of the replication table holds `R`
(it was created by `addReplication`) or a value `v` with `F id v`.  With `Inh s` (`F id v` := a status of `s` has this id
and this `removeLTE`) it says: the bound is that of `s` and every status is new or INHERITED from `s`.

Every predicate on the leader record that survives the two guarded updates is closed under all primitives of all handlers
(`stepClosedG_of_ldr`: none of the others touches the leader record); the frame per kind of operation: `leaderInit_spec`,
`handle_status_frame`, `step_status_frame`, `snapTaken_status_frame`, `replUpdates_status_frame` (in words: Props/C09Sys4.lean,
section 4).
-/
import RaftVerif.Lemmas.SnapDelayG2
import RaftVerif.Lemmas.SnapDelayB

namespace Raft
namespace SnapDelay
open Node


theorem closedG_of_ldr (P : Leader → Prop)
    (hK : ∀ l l' : Leader, P l → l'.removeLTE = l.removeLTE → l'.repls = l.repls → P l')
    (hR : ∀ (l : Leader) rs, P l →
      (∀ r ∈ rs, r.removeLTE = l.removeLTE ∨ ∃ r1 ∈ l.repls, r1.id = r.id ∧ r1.removeLTE = r.removeLTE) →
      P { l with repls := rs }) : ClosedG (fun s => P s.ldr) where
  panic := fun s site h => by rw [panic_shape]; exact h
  reply := fun s t r h => by rw [reply_shape]; exact h
  point := fun s n h => h
  ldrK := fun s l h e1 e2 => hK s.ldr l h e1 e2
  replsG := fun s rs h hg => hR s.ldr rs h hg
  append := fun s e roll h => h
  commitN := fun s n h => h
  fsm := fun s f h => h
  changeConfigR := fun s c h => by rw [changeConfigR_shape]; exact h
  setCommitIndexR := fun s i h _ => by rw [setCommitIndexR_shape]; exact h
  popOrder := fun s h => h

theorem stepClosedG_of_ldr (P : Leader → Prop)
    (hK : ∀ l l' : Leader, P l → l'.removeLTE = l.removeLTE → l'.repls = l.repls → P l')
    (hR : ∀ (l : Leader) rs, P l →
      (∀ r ∈ rs, r.removeLTE = l.removeLTE ∨ ∃ r1 ∈ l.repls, r1.id = r.id ∧ r1.removeLTE = r.removeLTE) →
      P { l with repls := rs }) : StepClosedG (fun s => P s.ldr) where
  toClosedG := closedG_of_ldr P hK hR
  begin := fun s ra ord h => h
  rpcReply := fun s r h => h
  ret := fun s r h => h
  setRole := fun s r h => h
  setLeader := fun s l h => h
  doClose := fun s r h => by rw [doClose_shape]; exact h
  setTerm := fun s t h => by rw [setTerm_shape]; exact h
  voteNewTerm := fun s t c h _ => by rw [setVotedFor_shape]; exact h
  voteGrant := fun s c h _ => by rw [setVotedFor_shape]; exact h
  votesNeeded := fun s v h => h
  candTransfer := fun s v h => h
  removeGTE := fun s i pt h => h
  removeLTE := fun s i h => h
  clearLog := fun s h => h
  revertConfig := fun s h => h
  commitConfig := fun s h => by rw [commitConfig_shape]; exact h
  publishSnapshot := fun s f h => h
  installCommit := fun s h _ => h
  snapPending := fun s v h => h
  snapResult := fun s v h => h
  bootstrapLast := fun s i t h => h


/-- the bound is `R`; every status holds `R` or a value allowed by `F` for its id -/
def GL (R : Nat) (F : Nat → Nat → Prop) (l : Leader) : Prop :=
  l.removeLTE = R ∧ ∀ r ∈ l.repls, r.removeLTE = R ∨ F r.id r.removeLTE

/-- a status of `s` has this id and this `removeLTE` -/
def Inh (s : Node) (id v : Nat) : Prop := ∃ r0 ∈ s.ldr.repls, r0.id = id ∧ r0.removeLTE = v

/-- every status holds the bound: all replications are new -/
def FreshL (l : Leader) : Prop := ∀ r ∈ l.repls, r.removeLTE = l.removeLTE

theorem GL_keep {R : Nat} {F : Nat → Nat → Prop} (l l' : Leader) (h : GL R F l) (e1 : l'.removeLTE = l.removeLTE)
    (e2 : l'.repls = l.repls) : GL R F l' := by
  unfold GL
  rw [e1, e2]; exact h

theorem GL_repls {R : Nat} {F : Nat → Nat → Prop} (l : Leader) (rs : List Repl) (h : GL R F l)
    (hg : ∀ r ∈ rs, r.removeLTE = l.removeLTE ∨ ∃ r1 ∈ l.repls, r1.id = r.id ∧ r1.removeLTE = r.removeLTE) :
    GL R F { l with repls := rs } := by
  refine ⟨h.1, fun r hr => ?_⟩
  rcases hg r hr with e | ⟨r1, h1, e1, e2⟩
  · left; rw [e, h.1]
  · rcases h.2 r1 h1 with a | a
    · left; rw [← e2, a]
    · right; rw [← e1, ← e2]; exact a

theorem FreshL_keep (l l' : Leader) (h : FreshL l) (e1 : l'.removeLTE = l.removeLTE) (e2 : l'.repls = l.repls) :
    FreshL l' := by
  unfold FreshL
  rw [e1, e2]; exact h

theorem FreshL_repls (l : Leader) (rs : List Repl) (h : FreshL l)
    (hg : ∀ r ∈ rs, r.removeLTE = l.removeLTE ∨ ∃ r1 ∈ l.repls, r1.id = r.id ∧ r1.removeLTE = r.removeLTE) :
    FreshL { l with repls := rs } := by
  intro r hr
  rcases hg r hr with e | ⟨r1, h1, _, e2⟩
  · exact e
  · show r.removeLTE = l.removeLTE
    rw [← e2]; exact h r1 h1

theorem GL_closed (R : Nat) (F : Nat → Nat → Prop) : StepClosedG (fun s => GL R F s.ldr) :=
  stepClosedG_of_ldr _ GL_keep GL_repls

def FreshAt (c : Nat) (l : Leader) : Prop := l.removeLTE = c ∧ FreshL l

theorem FreshAt_closed (c : Nat) : StepClosedG (fun s => FreshAt c s.ldr) :=
  stepClosedG_of_ldr _ (fun l l' h e1 e2 => ⟨by rw [e1]; exact h.1, FreshL_keep l l' h.2 e1 e2⟩)
    (fun l rs h hg => ⟨h.1, FreshL_repls l rs h.2 hg⟩)


theorem prev_closed (c : Nat) : Closed (fun s : Node => s.log.prev = c) :=
  (StepClosedNC.of_frame (Inv := fun s : Node => s.log.prev = c) (fun _ _ e _ h => by rw [e]; exact h)
    (fun s e roll h => (NLog.append_parts s.log e roll).1.trans h)
    (fun s n h => (NLog.commitN_same s.log n).1.trans h)
    (fun _ _ _ h _ => h)).toClosed

theorem leaderInit_spec (s : Node) :
    s.leaderInit.ldr.removeLTE = s.log.prev ∧ FreshL s.leaderInit.ldr ∧ s.leaderInit.log.prev = s.log.prev := by
  have hp : s.leaderInit.log.prev = s.log.prev :=
    (prev_closed s.log.prev).leaderInit_inv s rfl
  have c := (FreshAt_closed s.log.prev).toClosedG
  have key : FreshAt s.log.prev s.leaderInit.ldr := by
    unfold Node.leaderInit
    extract_lets s1 s2 s3 s4
    have h2 : FreshAt s.log.prev s2.ldr := by
      refine ⟨?_, fun r hr => by cases hr⟩
      show s1.log.prev = s.log.prev
      unfold s1 Node.assert; split
      · rfl
      · unfold Node.panic; split <;> rfl
    have h3 : FreshAt s.log.prev s3.ldr :=
      ClosedG.foldl_inv (Inv := fun x => FreshAt s.log.prev x.ldr) _ (fun x n hx => by
        split
        · exact hx
        · exact c.addReplication_inv _ _ hx) _ _ h2
    have h4 : FreshAt s.log.prev s4.ldr := (c.block _).2.2.2.2.1 _ _ _ h3
    exact (c.block _).1 _ _ h4
  exact ⟨key.1, key.2, hp⟩


theorem handle_status_frame (s : Node) (op : Op) (hop : StepClosedG.FOp op) :
    GL s.ldr.removeLTE (Inh s) (s.handle op).ldr :=
  (GL_closed s.ldr.removeLTE (Inh s)).handle_inv s op hop ⟨rfl, fun r hr => Or.inr ⟨r, hr, rfl, rfl⟩⟩

theorem step_status_frame (s : Node) (op : Op) (ra : List Nat) (ord : List (List Nat)) (hop : StepClosedG.FOp op) :
    GL s.ldr.removeLTE (Inh s) (s.step op ra ord).ldr ∨ FreshL (s.step op ra ord).ldr := by
  have c : StepClosedG (fun x => GL s.ldr.removeLTE (Inh s) x.ldr ∨ FreshL x.ldr) :=
    stepClosedG_of_ldr (fun l => GL s.ldr.removeLTE (Inh s) l ∨ FreshL l)
      (fun l l' h e1 e2 => h.imp (fun a => GL_keep l l' a e1 e2) (fun a => FreshL_keep l l' a e1 e2))
      (fun l rs h hg => h.imp (fun a => GL_repls l rs a hg) (fun a => FreshL_repls l rs a hg))
  exact c.step_inv (fun x _ => Or.inr (leaderInit_spec x).2.1) s op ra ord hop
    (Or.inl ⟨rfl, fun r hr => Or.inr ⟨r, hr, rfl, rfl⟩⟩)

/-- a step in which the handler leaves the role alone is the handler (no role transition runs) -/
theorem step_eq_handle (s : Node) (op : Op) (ra : List Nat) (ord : List (List Nat))
    (h : ((s.begin ra ord).handle op).role = (s.begin ra ord).role) :
    s.step op ra ord = (s.begin ra ord).handle op := Node.step_same_role s op ra ord h


/-- `onSnapshotTaken`: the replication table is untouched; the first index of the log is unchanged or — the compaction
AT ONCE — not beyond the MATCH INDEX of any replication of a leader -/
theorem snapTaken_status_frame (s : Node) (hok : C09.SegsOK s.log) :
    s.onSnapshotTaken.ldr.repls = s.ldr.repls ∧
    (s.onSnapshotTaken.log.prev = s.log.prev ∨
      (s.role = .leader → ∀ r ∈ s.ldr.repls, s.onSnapshotTaken.log.prev ≤ r.matchIndex)) := by
  refine ⟨by rw [(onSnapshotTaken_frame s).shape], ?_⟩
  cases hrs : s.snapResult with
  | none =>
    left
    unfold Node.onSnapshotTaken
    rw [hrs]
  | some rs =>
    obtain ⟨a, _, _, ha, _, hlog, _⟩ := C09.onSnapshotTaken_values s rs hrs
    rcases hlog with e | ⟨hgt, e⟩
    · left; rw [e]
    · right
      intro hl r hr
      rw [e, C09.removeLTE_prev]
      -- `CanLTE(CanLTE(a)) ≤ CanLTE(a) ≤ a`, the first index lying below `CanLTE(a)`
      have h1 : s.log.canLTE a ≤ a := by rcases (C09.canLTE_bounds s.log a hok).2.2.2.1 with e' | e' <;> omega
      have h2 : s.log.canLTE (s.log.canLTE a) ≤ s.log.canLTE a := by
        rcases (C09.canLTE_bounds s.log (s.log.canLTE a) hok).2.2.2.1 with e' | e' <;> omega
      exact Nat.le_trans h2 (Nat.le_trans h1 (ha hl r hr))


/-- a `removeLTE` report of the batch carried `v` for the replication `id` -/
def Reported (us : List ReplUpdate) (id v : Nat) : Prop := ∃ u ∈ us, u.id = id ∧ u.upd = .removeLTE v

theorem replUpdLoop_status_frame (R : Nat) (F : Nat → Nat → Prop) (us0 : List ReplUpdate) :
    ∀ (us : List ReplUpdate) (s : Node) (f : UpdFlags), (∀ u ∈ us, u ∈ us0) →
      GL R (fun id v => F id v ∨ Reported us0 id v) s.ldr →
      GL R (fun id v => F id v ∨ Reported us0 id v) (replUpdLoop s f us).1.ldr := by
  intro us
  induction us with
  | nil => intro s f _ h; exact h
  | cons u us ih =>
    intro s f hsub h
    have hsub' : ∀ x ∈ us, x ∈ us0 := fun x hx => hsub x (List.mem_cons_of_mem _ hx)
    have hu : u ∈ us0 := hsub u (List.mem_cons_self ..)
    have c := GL_closed R (fun id v => F id v ∨ Reported us0 id v)
    unfold replUpdLoop
    split
    · exact ih s f hsub' h
    · split
      · exact ih s f hsub' h
      · rename_i st hf
        obtain ⟨hmem, hid⟩ := LC.find_mem hf
        split
        · rename_i v _
          dsimp only
          apply ih _ _ hsub'
          have h1 : GL R (fun id v => F id v ∨ Reported us0 id v) (s.setRepl { st with matchIndex := v }).ldr :=
            c.toClosedG.setRepl_keep s _ st h hmem rfl rfl
          split
          · exact (c.toClosedG.block _).2.2.2.2.2.1 _ _ _ _ h1
          · exact h1
        · rename_i v hv
          apply ih _ _ hsub'
          refine ⟨h.1, fun r hr => ?_⟩
          rcases Node.mem_insertRepl _ r _ hr with e | e
          · right; right
            rw [e]
            exact ⟨u, hu, hid.symm, hv⟩
          · exact h.2 r e
        · rename_i b _
          exact ih _ _ hsub' (c.toClosedG.setRepl_keep s _ st h hmem rfl rfl)
        · show GL R _ (Node.setTerm _ _).ldr
          rw [setTerm_shape]
          exact h

theorem replUpdates_status_frame (s : Node) (us : List ReplUpdate) :
    GL s.ldr.removeLTE (fun id v => Inh s id v ∨ Reported us id v) (s.checkReplUpdates us).ldr := by
  have c := GL_closed s.ldr.removeLTE (fun id v => Inh s id v ∨ Reported us id v)
  apply c.checkReplUpdates_inv
  exact replUpdLoop_status_frame s.ldr.removeLTE (Inh s) us us s {} (fun u hu => hu)
    ⟨rfl, fun r hr => Or.inr (Or.inl ⟨r, hr, rfl, rfl⟩)⟩

end SnapDelay
end Raft
