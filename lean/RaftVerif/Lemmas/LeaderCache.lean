/-
Helper lemmas for Props/C06Cache: the leader's cached view of the latest configuration
(`ldr.numVoters`, `ldr.node`, one replication per other member with the member's current `CNode`).

* `CView` / `view`: the part of the state the cache property talks about; `CacheV` the property on it.
* `view_*`: the primitives and handlers that leave the view alone.
* `insertRepl` on id-sorted lists, the "synchronise replications with a configuration" fold.
* `guardedStep`: `Cache` as an instance of the records of Lemmas/StepWalk.lean (it is broken between `changeConfigR` and the
  end of the loop that synchronises the replications, so it needs `leader.changeConfig` up to there as one update, and it
  survives a new leader record only if `node`, `numVoters` and the keys stay); hence `block` and the handlers of a leader.
* `role_*`, `NL`: the role through `release`/`init` and through the request handlers of a follower (`nl_gclosed`, an
  instance of `GClosed`); `need`, `settle_induct`: the induction over the role transitions that follow a handler, for any
  `Q`/`R`; `settle_cache`: the caches after them.
-/
import RaftVerif.Lemmas.RoleRel
import RaftVerif.Lemmas.ShapeLeader
import RaftVerif.Lemmas.ShapeSnap

namespace Raft
namespace Node
namespace LC

/-- what the cache property reads of a replication: its id and the configuration node it caches -/
def key (r : Repl) : Nat × CNode := (r.id, r.node)

/-- strictly increasing ids (Go: `l.repls` is a map keyed by id) -/
def Sorted (l : List Repl) : Prop := l.Pairwise (fun a b => a.id < b.id)

theorem mem_insertRepl_self (r : Repl) (l : List Repl) : r ∈ insertRepl r l := by
  induction l with
  | nil => simp [insertRepl]
  | cons m ms ih =>
    unfold insertRepl
    split
    · simp
    · split
      · simp
      · exact List.mem_cons_of_mem _ ih

theorem mem_insertRepl (r x : Repl) (l : List Repl) (hs : Sorted l) (hx : x ∈ insertRepl r l) :
    x = r ∨ (x ∈ l ∧ x.id ≠ r.id) := by
  induction l with
  | nil => simp [insertRepl] at hx; exact Or.inl hx
  | cons m ms ih =>
    have hms : Sorted ms := (List.pairwise_cons.mp hs).2
    have hlt : ∀ y ∈ ms, m.id < y.id := (List.pairwise_cons.mp hs).1
    unfold insertRepl at hx
    split at hx
    · rename_i h1
      rcases List.mem_cons.mp hx with e | hx'
      · exact Or.inl e
      · right
        refine ⟨hx', ?_⟩
        rcases List.mem_cons.mp hx' with e | hx''
        · rw [e]; omega
        · have := hlt x hx''; omega
    · split at hx
      · rename_i h1 h2
        rcases List.mem_cons.mp hx with e | hx'
        · exact Or.inl e
        · right
          have := hlt x hx'
          exact ⟨List.mem_cons_of_mem _ hx', by omega⟩
      · rename_i h1 h2
        rcases List.mem_cons.mp hx with e | hx'
        · right; rw [e]; exact ⟨List.mem_cons_self, fun h => h2 h.symm⟩
        · rcases ih hms hx' with e | ⟨h3, h4⟩
          · exact Or.inl e
          · exact Or.inr ⟨List.mem_cons_of_mem _ h3, h4⟩

theorem mem_insertRepl_of_mem (r x : Repl) (l : List Repl) (hx : x ∈ l) (hne : x.id ≠ r.id) :
    x ∈ insertRepl r l := by
  induction l with
  | nil => cases hx
  | cons m ms ih =>
    unfold insertRepl
    split
    · exact List.mem_cons_of_mem _ hx
    · split
      · rename_i h1 h2
        rcases List.mem_cons.mp hx with e | hx'
        · rw [e] at hne; exact absurd h2.symm hne
        · exact List.mem_cons_of_mem _ hx'
      · rcases List.mem_cons.mp hx with e | hx'
        · rw [e]; exact List.mem_cons_self
        · exact List.mem_cons_of_mem _ (ih hx')

theorem sorted_insertRepl (r : Repl) (l : List Repl) (hs : Sorted l) : Sorted (insertRepl r l) := by
  induction l with
  | nil => simp [insertRepl, Sorted]
  | cons m ms ih =>
    have hms : Sorted ms := (List.pairwise_cons.mp hs).2
    have hlt : ∀ y ∈ ms, m.id < y.id := (List.pairwise_cons.mp hs).1
    unfold insertRepl
    split
    · rename_i h1
      refine List.pairwise_cons.mpr ⟨?_, hs⟩
      intro y hy
      rcases List.mem_cons.mp hy with e | hy'
      · rw [e]; exact h1
      · have := hlt y hy'; omega
    · split
      · rename_i h1 h2
        refine List.pairwise_cons.mpr ⟨?_, hms⟩
        intro y hy
        have := hlt y hy; omega
      · rename_i h1 h2
        refine List.pairwise_cons.mpr ⟨?_, ih hms⟩
        intro y hy
        rcases mem_insertRepl r y ms hms hy with e | ⟨h3, _⟩
        · rw [e]; omega
        · exact hlt y h3

/-- replacing a status of the table by one with the same id that `f` does not tell apart leaves the image under `f` -/
theorem map_insertRepl {β : Type} (f : Repl → β) (r st : Repl) (l : List Repl) (hs : Sorted l) (hst : st ∈ l)
    (hid : r.id = st.id) (hk : f r = f st) : (insertRepl r l).map f = l.map f := by
  induction l with
  | nil => cases hst
  | cons m ms ih =>
    have hms : Sorted ms := (List.pairwise_cons.mp hs).2
    have hlt : ∀ y ∈ ms, m.id < y.id := (List.pairwise_cons.mp hs).1
    unfold insertRepl
    split
    · rename_i h1
      exfalso
      rcases List.mem_cons.mp hst with e | h'
      · rw [e] at hid; omega
      · have := hlt st h'; omega
    · split
      · rename_i h1 h2
        rcases List.mem_cons.mp hst with e | h'
        · rw [List.map_cons, List.map_cons, hk, e]
        · have := hlt st h'; omega
      · rename_i h1 h2
        rcases List.mem_cons.mp hst with e | h'
        · rw [e] at hid; exact absurd hid h2
        · rw [List.map_cons, List.map_cons, ih hms h']

theorem find_mem {l : List Repl} {id : Nat} {st : Repl} (h : l.find? (·.id == id) = some st) :
    st ∈ l ∧ st.id = id := by
  refine ⟨List.mem_of_find?_eq_some h, ?_⟩
  have := List.find?_some h
  simpa using this

structure CView where
  nid : Nat
  latest : Config
  node : CNode
  numVoters : Nat
  repls : List (Nat × CNode)

def view (s : Node) : CView :=
  { nid := s.nid, latest := s.configs.latest, node := s.ldr.node, numVoters := s.ldr.numVoters,
    repls := s.ldr.repls.map key }

structure CacheV (v : CView) : Prop where
  numVoters : v.numVoters = v.latest.numVoters
  node : v.node = v.latest.get v.nid
  sorted : v.repls.Pairwise (fun a b => a.1 < b.1)
  member : ∀ k ∈ v.repls, k.1 ≠ v.nid ∧ k.2 ∈ v.latest.nodes ∧ k.2.id = k.1
  cover : ∀ n ∈ v.latest.nodes, n.id ≠ v.nid → ∃ k ∈ v.repls, k.1 = n.id

/-- **the leader's caches describe the latest configuration** (unconditional form; the invariant is
`role = leader → Cache`). -/
def Cache (s : Node) : Prop := CacheV (view s)

theorem Cache.congr {s s' : Node} (h : Cache s) (e : view s' = view s) : Cache s' := by
  unfold Cache; rw [e]; exact h

theorem sorted_iff (l : List Repl) : (l.map key).Pairwise (fun a b => a.1 < b.1) ↔ Sorted l := by
  unfold Sorted
  rw [List.pairwise_map]
  exact Iff.rfl

theorem cache_iff (s : Node) : Cache s ↔
    (s.ldr.numVoters = s.configs.latest.numVoters ∧
     s.ldr.node = s.configs.latest.get s.nid ∧
     Sorted s.ldr.repls ∧
     (∀ r ∈ s.ldr.repls, r.id ≠ s.nid ∧ r.node ∈ s.configs.latest.nodes ∧ r.node.id = r.id) ∧
     (∀ n ∈ s.configs.latest.nodes, n.id ≠ s.nid → ∃ r ∈ s.ldr.repls, r.id = n.id)) := by
  constructor
  · intro h
    refine ⟨h.numVoters, h.node, (sorted_iff _).mp h.sorted, ?_, ?_⟩
    · intro r hr
      exact h.member (key r) (List.mem_map_of_mem hr)
    · intro n hn hne
      obtain ⟨k, hk, e⟩ := h.cover n hn hne
      obtain ⟨r, hr, rfl⟩ := List.mem_map.mp hk
      exact ⟨r, hr, e⟩
  · rintro ⟨h1, h2, h3, h4, h5⟩
    refine ⟨h1, h2, (sorted_iff _).mpr h3, ?_, ?_⟩
    · intro k hk
      obtain ⟨r, hr, rfl⟩ := List.mem_map.mp hk
      exact h4 r hr
    · intro n hn hne
      obtain ⟨r, hr, e⟩ := h5 n hn hne
      exact ⟨key r, List.mem_map_of_mem hr, e⟩

theorem Cache.sortedRepls {s : Node} (h : Cache s) : Sorted s.ldr.repls := ((cache_iff s).mp h).2.2.1

theorem view_panic (s : Node) (site : String) : view (s.panic site) = view s := by rw [panic_shape]; rfl
theorem view_assert (s : Node) (b : Bool) (site : String) : view (s.assert b site) = view s := by rw [assert_shape]; rfl
theorem view_reply (s : Node) (t : Nat) (r : String) : view (s.reply t r) = view s := by rw [reply_shape]; rfl
theorem view_point (s : Node) (n : String) : view (s.point n) = view s := rfl
theorem view_popOrder (s : Node) : view s.popOrder = view s := rfl
theorem view_fsm (s : Node) (f : Fsm) : view (s.withFsm f) = view s := rfl
theorem view_setRole (s : Node) (r : Role) : view (s.setRole r) = view s := rfl
theorem view_setLeader (s : Node) (l : Nat) : view (s.setLeader l) = view s := rfl
theorem view_ret (s : Node) (r : Nat) : view (s.ret r) = view s := rfl
theorem view_doClose (s : Node) (r : String) : view (s.doClose r) = view s := by rw [doClose_shape]; rfl

theorem view_ldr (s : Node) (l : Leader) (h1 : l.node = s.ldr.node) (h2 : l.numVoters = s.ldr.numVoters)
    (h3 : l.repls.map key = s.ldr.repls.map key) : view (s.withLdr l) = view s := by
  unfold view Node.withLdr
  simp only [h1, h2, h3]

theorem viewFsmFrame : FsmFrame view := ⟨view_panic, view_reply, view_fsm⟩

theorem view_appendEntry (s : Node) (e : Entry) : view (s.appendEntry e) = view s := by rw [appendEntry_shape]; rfl

theorem view_commitLog (s : Node) (n : Nat) : view (s.commitLog n) = view s := rfl
theorem view_compactLog (s : Node) (n : Nat) : view (s.compactLog n) = view s := rfl

theorem view_applyCommittedL (s : Node) : view s.applyCommittedL = view s := by
  unfold Node.applyCommittedL
  rw [viewFsmFrame.fsmApply_eq]
  exact view_ldr _ _ rfl rfl rfl

theorem view_notifyFlr (s : Node) : view s.notifyFlr = view s := by rw [notifyFlr_shape]; rfl

theorem view_beginFinishedRounds (s : Node) : view s.beginFinishedRounds = view s := by
  unfold Node.beginFinishedRounds
  refine view_ldr s _ rfl rfl ?_
  dsimp only
  rw [List.map_map]
  apply List.map_congr_left
  intro r _
  dsimp only [Function.comp]
  repeat' split
  all_goals rfl

theorem view_commitConfig (s : Node) : view s.commitConfig = view s := by
  unfold Node.commitConfig; dsimp only; split <;> rfl

theorem view_afterConfigCommit (s : Node) : view s.afterConfigCommit = view s := by rw [afterConfigCommit_shape]; rfl

theorem view_setCommitIndexR (s : Node) (i : Nat) : view (s.setCommitIndexR i).1 = view s := by
  unfold Node.setCommitIndexR
  split
  · show view ((s.withCommitIndex i).commitConfig.afterConfigCommit) = _
    rw [view_afterConfigCommit, view_commitConfig]; rfl
  · rfl

theorem view_foldl {β : Type} (f : Node → β → Node) (hf : ∀ s x, view (f s x) = view s)
    (xs : List β) (s : Node) : view (xs.foldl f s) = view s := by
  induction xs generalizing s with
  | nil => rfl
  | cons x xs ih => rw [List.foldl_cons, ih, hf]

theorem view_setRepl (s : Node) (r st : Repl) (hs : Sorted s.ldr.repls) (hst : st ∈ s.ldr.repls)
    (hk : key r = key st) : view (s.setRepl r) = view s := by
  unfold Node.setRepl
  exact view_ldr _ _ rfl rfl (map_insertRepl key r st _ hs hst (congrArg Prod.fst hk) hk)

/-! ### synchronising the replications with a configuration (the loops of `leader.init` and
`leader.changeConfig`) -/

/-- one iteration of such a loop: self is skipped, for any other node a replication with the node's id
and the node itself as cached `node` is inserted (added or refreshed) -/
structure SyncStep (f : Node → CNode → Node) : Prop where
  frame : ∀ s n, (f s n).nid = s.nid ∧ (f s n).configs = s.configs ∧ (f s n).ldr.node = s.ldr.node ∧
    (f s n).ldr.numVoters = s.ldr.numVoters
  self : ∀ s n, n.id = s.nid → (f s n).ldr.repls = s.ldr.repls
  other : ∀ s n, n.id ≠ s.nid → ∃ r : Repl, r.id = n.id ∧ r.node = n ∧ (f s n).ldr.repls = insertRepl r s.ldr.repls

theorem sync_fold {f : Node → CNode → Node} (hf : SyncStep f) (ns : List CNode) (s : Node)
    (hs : Sorted s.ldr.repls) (hn : ∀ r ∈ s.ldr.repls, r.id ≠ s.nid) :
    (ns.foldl f s).nid = s.nid ∧ (ns.foldl f s).configs = s.configs ∧
    (ns.foldl f s).ldr.node = s.ldr.node ∧ (ns.foldl f s).ldr.numVoters = s.ldr.numVoters ∧
    Sorted (ns.foldl f s).ldr.repls ∧
    (∀ r ∈ (ns.foldl f s).ldr.repls, r.id ≠ s.nid ∧
      ((r ∈ s.ldr.repls ∧ ∀ n ∈ ns, n.id ≠ r.id) ∨ (r.node ∈ ns ∧ r.node.id = r.id))) ∧
    (∀ n ∈ ns, n.id ≠ s.nid → ∃ r ∈ (ns.foldl f s).ldr.repls, r.id = n.id) ∧
    (∀ r ∈ s.ldr.repls, ∃ r' ∈ (ns.foldl f s).ldr.repls, r'.id = r.id) := by
  induction ns generalizing s with
  | nil =>
    refine ⟨rfl, rfl, rfl, rfl, hs, ?_, ?_, ?_⟩
    · intro r hr; exact ⟨hn r hr, Or.inl ⟨hr, fun n hn => by cases hn⟩⟩
    · intro n hn; cases hn
    · intro r hr; exact ⟨r, hr, rfl⟩
  | cons n ns ih =>
    rw [List.foldl_cons]
    obtain ⟨f1, f2, f3, f4⟩ := hf.frame s n
    -- facts about the state after the first iteration
    have step : Sorted (f s n).ldr.repls ∧ (∀ r ∈ (f s n).ldr.repls, r.id ≠ s.nid) ∧
        (∀ r ∈ (f s n).ldr.repls, (r ∈ s.ldr.repls ∧ n.id ≠ r.id) ∨ (r.node = n ∧ r.node.id = r.id)) ∧
        (n.id ≠ s.nid → ∃ r ∈ (f s n).ldr.repls, r.id = n.id) ∧
        (∀ r ∈ s.ldr.repls, ∃ r' ∈ (f s n).ldr.repls, r'.id = r.id) := by
      by_cases hself : n.id = s.nid
      · rw [hf.self s n hself]
        refine ⟨hs, hn, ?_, fun h => absurd hself h, fun r hr => ⟨r, hr, rfl⟩⟩
        intro r hr
        exact Or.inl ⟨hr, by rw [hself]; exact fun e => hn r hr e.symm⟩
      · obtain ⟨r0, e1, e2, e3⟩ := hf.other s n hself
        rw [e3]
        refine ⟨sorted_insertRepl _ _ hs, ?_, ?_, ?_, ?_⟩
        · intro r hr
          rcases mem_insertRepl r0 r _ hs hr with e | ⟨h1, _⟩
          · rw [e, e1]; exact hself
          · exact hn r h1
        · intro r hr
          rcases mem_insertRepl r0 r _ hs hr with e | ⟨h1, h2⟩
          · right; rw [e, e2]; exact ⟨rfl, e1.symm⟩
          · left; exact ⟨h1, by rw [← e1]; exact fun e => h2 e.symm⟩
        · intro _; exact ⟨r0, mem_insertRepl_self _ _, e1⟩
        · intro r hr
          by_cases e : r.id = r0.id
          · exact ⟨r0, mem_insertRepl_self _ _, e.symm⟩
          · exact ⟨r, mem_insertRepl_of_mem _ _ _ hr e, rfl⟩
    obtain ⟨s1, s2, s3, s4, s5⟩ := step
    obtain ⟨i1, i2, i3, i4, i5, i6, i7, i8⟩ := ih (f s n) s1 (by rw [f1]; exact s2)
    rw [f1] at i1 i6 i7
    refine ⟨i1, i2.trans f2, i3.trans f3, i4.trans f4, i5, ?_, ?_, ?_⟩
    · intro r hr
      obtain ⟨h1, h2⟩ := i6 r hr
      refine ⟨h1, ?_⟩
      rcases h2 with ⟨h3, h4⟩ | ⟨h3, h4⟩
      · rcases s3 r h3 with ⟨h5, h6⟩ | ⟨h5, h6⟩
        · left
          refine ⟨h5, ?_⟩
          intro m hm
          rcases List.mem_cons.mp hm with e | hm'
          · rw [e]; exact h6
          · exact h4 m hm'
        · right; exact ⟨by rw [h5]; exact List.mem_cons_self, h6⟩
      · right; exact ⟨List.mem_cons_of_mem _ h3, h4⟩
    · intro m hm hne
      rcases List.mem_cons.mp hm with e | hm'
      · obtain ⟨r, hr, e'⟩ := s4 (by rw [← e]; exact hne)
        obtain ⟨r', hr', e''⟩ := i8 r hr
        exact ⟨r', hr', by rw [e'', e', e]⟩
      · exact i7 m hm' hne
    · intro r hr
      obtain ⟨r1, hr1, e1⟩ := s5 r hr
      obtain ⟨r2, hr2, e2⟩ := i8 r1 hr1
      exact ⟨r2, hr2, e2.trans e1⟩

/-- after the loop ran over all nodes of `c`, starting from replications that all belong to members of
`c`, with `configs.latest = c` and `node`/`numVoters` taken from `c`: the caches describe `c`. -/
theorem cache_of_sync {f : Node → CNode → Node} (hf : SyncStep f) (s : Node)
    (hs : Sorted s.ldr.repls) (hn : ∀ r ∈ s.ldr.repls, r.id ≠ s.nid)
    (hmem : ∀ r ∈ s.ldr.repls, ∃ n ∈ s.configs.latest.nodes, n.id = r.id)
    (h1 : s.ldr.numVoters = s.configs.latest.numVoters) (h2 : s.ldr.node = s.configs.latest.get s.nid) :
    Cache (s.configs.latest.nodes.foldl f s) := by
  obtain ⟨i1, i2, i3, i4, i5, i6, i7, _⟩ := sync_fold hf s.configs.latest.nodes s hs hn
  rw [cache_iff, i1, i2, i3, i4]
  refine ⟨h1, h2, i5, ?_, i7⟩
  intro r hr
  obtain ⟨a, b⟩ := i6 r hr
  refine ⟨a, ?_⟩
  rcases b with ⟨b1, b2⟩ | b
  · obtain ⟨n, hn1, hn2⟩ := hmem r b1
    exact absurd hn2 (b2 n hn1)
  · exact b

theorem panic_frame (s : Node) (site : String) :
    (s.panic site).nid = s.nid ∧ (s.panic site).configs = s.configs ∧ (s.panic site).ldr = s.ldr := by
  rw [panic_shape]; exact ⟨rfl, rfl, rfl⟩

theorem assert_frame (s : Node) (b : Bool) (site : String) :
    (s.assert b site).nid = s.nid ∧ (s.assert b site).configs = s.configs ∧ (s.assert b site).ldr = s.ldr := by
  rw [assert_shape]; exact ⟨rfl, rfl, rfl⟩

theorem addReplication_spec (s : Node) (n : CNode) :
    (s.addReplication n).nid = s.nid ∧ (s.addReplication n).configs = s.configs ∧
    (s.addReplication n).ldr.node = s.ldr.node ∧ (s.addReplication n).ldr.numVoters = s.ldr.numVoters ∧
    ∃ r : Repl, r.id = n.id ∧ r.node = n ∧ (s.addReplication n).ldr.repls = insertRepl r s.ldr.repls := by
  unfold Node.addReplication
  extract_lets s1 s2
  have e1 : s1.nid = s.nid ∧ s1.configs = s.configs ∧ s1.ldr = s.ldr := assert_frame s _ _
  have e2 : s2.nid = s.nid ∧ s2.configs = s.configs ∧ s2.ldr = s.ldr := by
    unfold s2; split
    · exact e1
    · obtain ⟨a, b, c⟩ := panic_frame s1 "nilView"
      exact ⟨a.trans e1.1, b.trans e1.2.1, c.trans e1.2.2⟩
  obtain ⟨a, b, c⟩ := e2
  unfold Node.setRepl Node.withLdr
  dsimp only
  rw [c]
  exact ⟨a, b, rfl, rfl, _, rfl, rfl, rfl⟩

theorem initBody_sync : SyncStep initBody where
  frame := by
    intro s n; unfold initBody; split
    · exact ⟨rfl, rfl, rfl, rfl⟩
    · obtain ⟨a, b, c, d, _⟩ := addReplication_spec s n; exact ⟨a, b, c, d⟩
  self := by intro s n h; unfold initBody; rw [if_pos h]
  other := by
    intro s n h; unfold initBody; rw [if_neg h]
    exact (addReplication_spec s n).2.2.2.2

theorem changeBody_sync : SyncStep changeBody where
  frame := by
    intro s n; unfold changeBody; split
    · exact ⟨rfl, rfl, rfl, rfl⟩
    · split
      · obtain ⟨a, b, c, d, _⟩ := addReplication_spec s n; exact ⟨a, b, c, d⟩
      · exact ⟨rfl, rfl, rfl, rfl⟩
  self := by intro s n h; unfold changeBody; rw [if_pos h]
  other := by
    intro s n h; unfold changeBody; rw [if_neg h]
    split
    · exact (addReplication_spec s n).2.2.2.2
    · rename_i r hr
      unfold Node.findRepl? at hr
      exact ⟨{ r with node := n }, (find_mem hr).2, rfl, rfl⟩

/-! ### `leader.changeConfig` re-establishes the caches for the new configuration -/

theorem changeConfigR_frame (s : Node) (c : Config) :
    (s.changeConfigR c).nid = s.nid ∧ (s.changeConfigR c).ldr = s.ldr ∧ (s.changeConfigR c).configs.latest = c := by
  rw [changeConfigR_shape]; exact ⟨rfl, rfl, rfl⟩

theorem changePre_spec (s : Node) (c : Config) :
    (changePre s c).nid = s.nid ∧ (changePre s c).configs.latest = c ∧
    (changePre s c).ldr.node = c.get s.nid ∧ (changePre s c).ldr.numVoters = c.numVoters ∧
    (changePre s c).ldr.repls = s.ldr.repls.filter (fun r => c.has r.id) := by
  unfold changePre
  extract_lets l1 s1 s2 l2
  obtain ⟨a, b, d⟩ := changeConfigR_frame s1 c
  refine ⟨a, d, ?_, ?_, ?_⟩
  · show s2.ldr.node = _; unfold s2; rw [b]; rfl
  · show s2.ldr.numVoters = _; unfold s2; rw [b]; rfl
  · show s2.ldr.repls.filter _ = _; unfold s2; rw [b]; rfl

theorem has_exists (c : Config) (id : Nat) (h : c.has id = true) : ∃ n ∈ c.nodes, n.id = id := by
  unfold Config.has Config.find? at h
  cases hf : c.nodes.find? (·.id == id) with
  | none => rw [hf] at h; cases h
  | some n =>
    refine ⟨n, List.mem_of_find?_eq_some hf, ?_⟩
    have := List.find?_some hf
    simpa using this

/-- whatever the caches were (only: replications sorted by id, none for self), after the loop of
`leader.changeConfig c` they describe `c`, which is now `configs.latest` -/
theorem cache_changeSync (s : Node) (c : Config) (hs : Sorted s.ldr.repls) (hn : ∀ r ∈ s.ldr.repls, r.id ≠ s.nid) :
    Cache (c.nodes.foldl changeBody (changePre s c)) := by
  obtain ⟨e1, e2, e3, e4, e5⟩ := changePre_spec s c
  have := cache_of_sync changeBody_sync (changePre s c)
    (by rw [e5]; exact List.Pairwise.filter _ hs)
    (by rw [e5, e1]; intro r hr; exact hn r (List.mem_filter.mp hr).1)
    (by
      rw [e5, e2]; intro r hr
      exact has_exists c r.id (List.mem_filter.mp hr).2)
    (by rw [e4, e2]) (by rw [e3, e2, e1])
  rw [e2] at this
  exact this

theorem cpanic {s : Node} (site : String) (h : Cache s) : Cache (s.panic site) := h.congr (view_panic _ _)
theorem creply {s : Node} (t : Nat) (r : String) (h : Cache s) : Cache (s.reply t r) := h.congr (view_reply _ _ _)
theorem cassert {s : Node} (b : Bool) (site : String) (h : Cache s) : Cache (s.assert b site) := h.congr (view_assert _ _ _)
theorem cnotify {s : Node} (h : Cache s) : Cache s.notifyFlr := h.congr (view_notifyFlr _)
theorem cbegin {s : Node} (h : Cache s) : Cache s.beginFinishedRounds := h.congr (view_beginFinishedRounds _)
theorem capplyL {s : Node} (h : Cache s) : Cache s.applyCommittedL := h.congr (view_applyCommittedL _)
theorem cappend {s : Node} (e : Entry) (h : Cache s) : Cache (s.appendEntry e) := h.congr (view_appendEntry _ _)
theorem ccommitR {s : Node} (i : Nat) (h : Cache s) : Cache (s.setCommitIndexR i).1 := h.congr (view_setCommitIndexR _ _)
theorem cpop {s : Node} (h : Cache s) : Cache s.popOrder := h.congr (view_popOrder _)
theorem cldr {s : Node} (l : Leader) (h : Cache s) (h1 : l.node = s.ldr.node) (h2 : l.numVoters = s.ldr.numVoters)
    (h3 : l.repls.map key = s.ldr.repls.map key) : Cache (s.withLdr l) := h.congr (view_ldr _ _ h1 h2 h3)

theorem csetRepl {s : Node} (r st : Repl) (id : Nat) (h : Cache s) (hf : s.findRepl? id = some st)
    (hk : key r = key st) : Cache (s.setRepl r) :=
  h.congr (view_setRepl s r st h.sortedRepls (find_mem hf).1 hk)

theorem roundStep_key (l a : Nat) (st : Repl) : key (roundStep l a st).1 = key st := by
  rw [roundStep_shape]; rfl

theorem view_setTerm (s : Node) (t : Nat) : view (s.setTerm t) = view s := by rw [setTerm_shape]; rfl
theorem csetTerm {s : Node} (t : Nat) (h : Cache s) : Cache (s.setTerm t) := h.congr (view_setTerm _ _)
theorem csetVotedFor {s : Node} (t c : Nat) (h : Cache s) : Cache (s.setVotedFor t c) :=
  h.congr (by rw [setVotedFor_shape]; rfl)
theorem cpoint {s : Node} (n : String) (h : Cache s) : Cache (s.point n) := h
theorem ccompactLog {s : Node} (i : Nat) (h : Cache s) : Cache (s.compactLog i) := h
theorem cdoClose {s : Node} (r : String) (h : Cache s) : Cache (s.doClose r) := h.congr (view_doClose _ _)

theorem cldr0 {s : Node} (l : Leader) (h1 : l.node = s.ldr.node) (h2 : l.numVoters = s.ldr.numVoters)
    (h3 : l.repls = s.ldr.repls) (h : Cache s) : Cache (s.withLdr l) := cldr l h h1 h2 (by rw [h3])

theorem conSnapshotTaken {s : Node} (hs : Cache s) : Cache s.onSnapshotTaken :=
  hs.congr (by rw [(onSnapshotTaken_frame s).shape]; rfl)

/-- the updates of the leader block -/
theorem guarded : GuardedAt Cache Cache (fun _ s => Cache s) where
  panic := fun _ _ hs => cpanic _ hs
  reject := fun _ _ _ hs _ => creply _ _ hs
  stable := fun _ _ hs => creply _ _ hs
  popOrder := fun _ hs => cpop hs
  ldrK := fun _ l hs e1 e2 _ _ e3 _ _ => cldr0 l e1 e2 e3 hs
  setRound := fun _ st _ id hs hf => csetRepl _ st id hs hf rfl
  beginFinishedRounds := fun _ hs => cbegin hs
  enqueue := fun _ _ hs _ _ _ => cldr0 _ rfl rfl rfl hs
  enqueueLog := fun _ _ hs _ _ _ _ => cappend _ (cldr0 _ rfl rfl rfl hs)
  enqueueCfg := fun _ _ _ hs _ _ _ => cappend _ (cldr0 _ rfl rfl rfl hs)
  decodeFail := fun _ _ _ hs _ _ _ _ => cpanic _ (cappend _ (cldr0 _ rfl rfl rfl hs))
  configSync := fun s c hs => cache_changeSync s c hs.sortedRepls (fun r hr => (((cache_iff s).mp hs).2.2.2.1 r hr).1)
  prePanic := fun _ _ _ hs => cpanic _ hs
  commitLog := fun s n hs => hs.congr (view_commitLog s n)
  commitR := fun _ i hs _ => ccommitR i hs
  applyL := fun _ hs => capplyL hs

theorem block (fuel : Nat) : Block Cache Cache (fun _ s => Cache s) fuel := guarded.block guarded fuel

/-- the handlers of a leader and the requests that a leader answers like everybody (`leader.init` establishes the caches
by itself, `cleaderInit`, and they do not survive `leader.release`) -/
theorem guardedStep : GuardedStepAt .all Cache Cache (fun _ s => Cache s) where
  toGuardedAt := guarded
  blk := block
  reply := fun _ _ _ hs => creply _ _ hs
  ldrT := fun _ _ l hs e1 e2 _ _ e3 _ => cldr0 l e1 e2 e3 hs
  noContact := fun _ _ st id hs hf => csetRepl _ st id hs hf rfl
  report := fun _ _ st r id hs hf e1 e2 _ => csetRepl r st id hs hf (by unfold key; rw [e1, e2])
  setRole := fun _ _ hs _ _ => hs
  setLeader := fun _ _ hs => hs
  setTerm := fun _ _ hs _ => csetTerm _ hs
  compactBound := fun _ _ hs => hs
  rpcReply := fun _ _ hs => hs
  ret := fun _ _ hs => hs
  doClose := fun _ _ _ hs => cdoClose _ hs
  voteNewTerm := fun _ _ _ hs _ _ => csetVotedFor _ _ hs
  voteGrant := fun _ _ hs _ => csetVotedFor _ _ hs
  votesNeeded := fun _ _ _ hs => hs
  candTransfer := fun _ _ hs => hs
  snapPending := fun _ _ hs => hs
  snapRun := fun s hs _ => snapRun_of (fun _ _ h => h) (fun _ _ h => h) (fun _ _ h => h) s hs
  snapTaken := fun _ _ _ hs => conSnapshotTaken hs

theorem ccheckConfigActions {s : Node} (f t : Nat) (c : Config) (h : Cache s) : Cache (checkConfigActions f s t c) :=
  (guardedStep.blk f).checkConfigActions s t c h
theorem ccheckConfigAction {s : Node} (f t : Nat) (c : Config) (id : Nat) (h : Cache s) :
    Cache (checkConfigAction f s t c id) := (guardedStep.blk f).checkConfigAction s t c id h
theorem cstoreEntry {s : Node} (f : Nat) (b : List QItem) (h : Cache s) : Cache (storeEntry f s b) :=
  (guardedStep.blk f).storeEntry s b h
theorem cdoChangeConfig {s : Node} (f t : Nat) (c : Config) (h : Cache s) : Cache (doChangeConfig f s t c) :=
  (guardedStep.blk f).doChangeConfig s t c h

/-! ### `leader.init` establishes the caches, whatever they were -/

theorem cache_initSync (s : Node) : Cache ((initPre s).configs.latest.nodes.foldl initBody (initPre s)) :=
  cache_of_sync initBody_sync (initPre s) List.Pairwise.nil (fun r hr => by cases hr) (fun r hr => by cases hr) rfl rfl

theorem cleaderInit (s : Node) : Cache s.leaderInit := by
  unfold Node.leaderInit; dsimp only
  apply cstoreEntry
  apply ccheckConfigActions
  exact cache_initSync s

theorem role_panic (s : Node) (site : String) : (s.panic site).role = s.role := by rw [panic_shape]
theorem role_reply (s : Node) (t : Nat) (r : String) : (s.reply t r).role = s.role := by rw [reply_shape]
theorem role_doClose (s : Node) (r : String) : (s.doClose r).role = s.role := by rw [doClose_shape]
theorem role_setTerm (s : Node) (t : Nat) : (s.setTerm t).role = s.role := by rw [setTerm_shape]
theorem role_setVotedFor (s : Node) (t c : Nat) : (s.setVotedFor t c).role = s.role := by rw [setVotedFor_shape]
theorem role_changeConfigR (s : Node) (c : Config) : (s.changeConfigR c).role = s.role := by rw [changeConfigR_shape]
theorem role_commitConfig (s : Node) : s.commitConfig.role = s.role := by rw [commitConfig_shape]
theorem role_setCommitIndexR (s : Node) (i : Nat) :
    (s.setCommitIndexR i).1.role = s.role ∨ (s.setCommitIndexR i).1.role = .follower :=
  (setCommitIndexR_key s i).2.2.2

theorem role_leaderRelease (s : Node) : s.leaderRelease.role = s.role := by rw [leaderRelease_shape]

theorem role_releaseRole (s : Node) (r : Role) : (s.releaseRole r).role = s.role :=
  releaseRole_of (P := fun x => x.role = s.role) (fun _ _ h => h) (fun x h => (role_leaderRelease x).trans h) s r rfl

theorem role_startElection (s : Node) : s.startElection.role = s.role ∨ s.startElection.role = .leader :=
  startElection_of (Inv := fun x => x.role = s.role ∨ x.role = .leader) s
    (fun x site h => by rw [role_panic]; exact h) (fun _ _ h => h) (fun x h => by rw [role_setVotedFor]; exact h)
    (fun _ _ _ => Or.inr rfl) (fun _ _ h => h) (Or.inl rfl)

theorem notCandidate_closed : Closed (fun s : Node => s.role ≠ .candidate) where
  panic := fun s site h => by rw [role_panic]; exact h
  reply := fun s t r h => by rw [role_reply]; exact h
  point := fun s n h => h
  ldr := fun s l h => h
  append := fun s e r h => h
  commitN := fun s n h => h
  fsm := fun s f h => h
  changeConfigR := fun s c h => by rw [role_changeConfigR]; exact h
  setCommitIndexR := fun s i h _ => by
    rcases role_setCommitIndexR s i with e | e <;> rw [e]
    · exact h
    · exact fun x => by cases x
  popOrder := fun s h => h

theorem role_leaderInit (s : Node) (h : s.role ≠ .candidate) : s.leaderInit.role ≠ .candidate :=
  notCandidate_closed.leaderInit_inv s h

/-! ### a node that is not leader stays so through the follower-side request handling -/

def NL (s : Node) : Prop := s.role ≠ .leader

theorem NL.congr {s s' : Node} (h : NL s) (e : s'.role = s.role) : NL s' := by unfold NL; rw [e]; exact h

theorem nl_reply {s : Node} (t : Nat) (r : String) (h : NL s) : NL (s.reply t r) := h.congr (role_reply _ _ _)
theorem nl_point {s : Node} (n : String) (h : NL s) : NL (s.point n) := h
theorem nl_setLeader {s : Node} (l : Nat) (h : NL s) : NL (s.setLeader l) := h

/-- the request handlers of a follower never raise the role -/
theorem nl_gclosed : GClosed NL where
  panic := fun s site h => h.congr (role_panic s site)
  reply := fun _ t r h => nl_reply t r h
  point := fun _ n h => nl_point n h
  ldr := fun _ _ h => h
  append := fun _ _ _ h => h
  commitN := fun _ _ h => h
  fsm := fun _ _ h => h
  changeConfigR := fun s c h => h.congr (role_changeConfigR s c)
  setCommitIndexR := fun s i h _ => by
    rcases role_setCommitIndexR s i with e | e
    · exact h.congr e
    · unfold NL; rw [e]; exact fun x => by cases x
  popOrder := fun _ h => h
  rpcReply := fun _ _ h => h
  ret := fun _ _ h => h
  setLeader := fun _ l h => nl_setLeader l h
  doClose := fun s r h => h.congr (role_doClose s r)
  candTransfer := fun _ _ h => h
  removeGTE := fun _ _ _ h => h
  removeLTE := fun _ _ h => h
  clearLog := fun _ h => h
  revertConfig := fun _ h => h
  commitConfig := fun s h => h.congr (role_commitConfig s)
  publishSnapshot := fun s f h => h.congr (by rw [publishSnapshot_shape])
  installCommit := fun _ h _ => h
  snapPending := fun _ _ h => h
  snapResult := fun _ _ h => h
  toFollower := fun _ _ e => by cases e
  setTermF := fun s t h _ => h.congr (role_setTerm s t)
  termThenFollower := fun _ _ _ e => by cases e
  voteF := fun s t c h _ => h.congr (role_setVotedFor s t c)
  voteGrant := fun s c h _ => h.congr (role_setVotedFor s s.term c)

theorem nl_onAppendEntries (s : Node) (q : AppendReq) (hq : ¬ q.term < s.term) : NL (s.onAppendEntries q) := by
  rw [onAppendEntries_stages, if_neg hq]
  have h3 : NL ((followPre s q.term q.src).appendCheck q) := nl_gclosed.appendCheck_g _ q (fun x => by cases x)
  exact ite_ind (fun _ => h3) fun _ =>
    nl_gclosed.toGuardedStep.afterLoop_inv q _ (nl_gclosed.appendLoop_g _ _ h3)

theorem nl_onInstallSnap (s : Node) (q : InstallReq) (hq : ¬ q.term < s.term) : NL (s.onInstallSnap q) := by
  rw [onInstallSnap_eq, if_neg hq]
  have h2 : NL (installPre s q) := fun x => by cases x
  generalize installPre s q = p at h2 ⊢
  refine ite_ind (fun _ => h2) fun hgt => ite_ind (fun _ => h2) fun _ => ?_
  exact nl_gclosed.ret _ _ (nl_gclosed.commitConfig _ (nl_gclosed.changeConfigR _ _ (nl_gclosed.installCommit _
    (nl_gclosed.fsmRestore_g _ (nl_gclosed.clearLog_g _ (nl_gclosed.publishSnapshot _ _ h2)))
    (install_commit_guard _ _ hgt))))

/-! ### `settle`: the role transitions after a handler; a leader's caches after them are those it had, if the handler left
it leader, else those of `leader.init` -/

/-- how many iterations of `settle` are needed at most: follower `init` is the identity, `leader.init`
can only step down to follower, `startElection` can only make a leader -/
def need (r cur : Role) : Nat :=
  if r = cur then 0 else match r with
    | .follower => 1
    | .leader => 2
    | .candidate => 3

theorem need_self (r : Role) : need r r = 0 := by unfold need; rw [if_pos rfl]

theorem need_zero {r cur : Role} (h : need r cur = 0) : r = cur := by
  unfold need at h
  split at h
  · assumption
  · cases r <;> simp at h

theorem need_le (r cur : Role) : need r cur ≤ 3 := by
  unfold need; split
  · omega
  · cases r <;> simp

/-- one round of `settle` uses up what `need` counts -/
theorem need_step {s : Node} {cur : Role} {n : Nat} (hne : s.role ≠ cur) (hf : need s.role cur ≤ n + 1) :
    need (s.releaseRole cur).initRole.role (s.releaseRole cur).role ≤ n := by
  have hr : (s.releaseRole cur).role = s.role := role_releaseRole s cur
  have hneed : need s.role cur = match s.role with
      | .follower => 1 | .leader => 2 | .candidate => 3 := by
    unfold need; rw [if_neg hne]
  unfold Node.initRole
  cases hrole : s.role with
  | follower =>
    rw [hr, hrole]; dsimp only; rw [hr, hrole, need_self]; omega
  | candidate =>
    rw [hr, hrole]; dsimp only
    rw [hrole] at hneed hf; dsimp only at hneed
    rcases role_startElection (s.releaseRole cur) with e | e
    · rw [e, hr, hrole, need_self]; omega
    · rw [e]; unfold need; simp; omega
  | leader =>
    rw [hr, hrole]; dsimp only
    rw [hrole] at hneed hf; dsimp only at hneed
    have hc := role_leaderInit (s.releaseRole cur) (by rw [hr, hrole]; exact fun x => by cases x)
    cases hrl : (s.releaseRole cur).leaderInit.role with
    | candidate => exact absurd hrl hc
    | leader => rw [need_self]; omega
    | follower => unfold need; simp; omega

section
variable {Q : Node → Role → Prop} {R : Node → Prop} (done : ∀ s cur, Q s cur → s.role = cur → R s)
  (round : ∀ s cur, Q s cur → s.role ≠ cur → Q (s.releaseRole cur).initRole (s.releaseRole cur).role)
include done round

theorem settle_need : ∀ (fuel : Nat) (s : Node) (cur : Role), need s.role cur ≤ fuel → Q s cur → R (settle fuel s cur)
  | 0, s, cur, hf, h => done s cur h (need_zero (Nat.le_zero.mp hf))
  | n + 1, s, cur, hf, h => by
    unfold settle
    split
    · exact done s cur h ‹_›
    · exact settle_need n _ _ (need_step ‹_› hf) (round s cur h ‹_›)

/-- The induction over `settle` for what is carried through the role transitions: `Q s cur` of the node and the role whose `init`
ran last survives a round (the release of that role, `init` of the node's), and gives `R` of the node once the two agree.
Three rounds are enough (`need`), and `Node.step` allows six. -/
theorem settle_induct (n : Nat) (s : Node) (cur : Role) (h : Q s cur) : R (settle (n + 3) s cur) :=
  settle_need done round _ s cur (Nat.le_trans (need_le _ _) (Nat.le_add_left 3 n)) h

end

theorem settle_cache (n : Nat) (s : Node) (cur : Role) (hI : s.role = cur → s.role = .leader → Cache s)
    (hl : (settle (n + 3) s cur).role = .leader) : Cache (settle (n + 3) s cur) := by
  rcases settle_leader_cases n s cur hl with ⟨hr, e⟩ | ⟨x, e⟩
  · rw [e] at hl ⊢; exact hI hr hl
  · rw [e]; exact cleaderInit x

end LC
end Node
end Raft
