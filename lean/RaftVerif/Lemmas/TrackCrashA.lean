/-
C12 at every crash point (part A): the disk predicate `Pd`, the in-memory facts `Mem`, the step invariant
`TJ = Track.TI ∧ TR` (every crash point recorded so far in `trace` satisfies `Pd`), and the primitives.

* `Pd d`  : what a restart needs of a disk content: `C12Track.DiskTracks d` (⇒ the restarted node is `Tracks`),
            `C19Order.DiskOK d` (⇒ it is `Ordered`), every configuration entry of the log decodes (⇒ the restart
            does not fail).
* `Mem s` : what is needed of the node in memory, besides `Track.Core` and `Order.CoreW`, for `Pd s.durable`:
            the log is well formed w.r.t. flushing (`C06.LogWF`), the newest snapshot's label is a configuration the
            snapshot covers, every configuration entry of the log decodes.
* `TR s`  : while the step has not panicked, `Mem s` and `Pd` of every crash point recorded so far.
* `TJ s₀ b g s = Track.TI s₀ b g s ∧ TR s`; every primitive state update preserves it (this file).
-/
import RaftVerif.Lemmas.SnapInstCrash

namespace Raft
namespace TrackCrash
open Node Track

structure Pd (d : Durable) : Prop where
  tracks : C12Track.DiskTracks d
  ok : C19Order.DiskOK d
  dec : NoPanic.LogDec d.log.entries

/-- `Pd` looks at the log and at the newest snapshot file only -/
theorem Pd.congr {d d' : Durable} (h : Pd d') (e1 : d.log = d'.log) (e2 : d.snaps.head? = d'.snaps.head?) : Pd d := by
  have s1 := C10.snapOf_congr e2
  have s2 := C10.logOf_congr e1 e2
  obtain ⟨⟨a1, a2, a3, a4⟩, ⟨b1, b2, b3, b4⟩, c⟩ := h
  refine ⟨⟨by rw [e1]; exact a1, by rw [s1, s2]; exact a2, by rw [s1, s2]; exact a3, by rw [s1]; exact a4⟩,
    ⟨?_, by rw [e1]; exact b2, by rw [e1]; exact b3, by rw [s1]; exact b4⟩, by rw [e1]; exact c⟩
  unfold C10.DurWF at b1 ⊢
  rw [s1, e1]; exact b1

structure Mem (s : Node) : Prop where
  lwf : C06.LogWF s.log
  lab : (label s).index ≤ s.snapIndex
  dec : NoPanic.LogDec s.log.entries

theorem logDec_drop {es : List Entry} (h : NoPanic.LogDec es) (n : Nat) : NoPanic.LogDec (es.drop n) :=
  fun e he => h e (List.mem_of_mem_drop he)

theorem pd_durable {s : Node} (c : Core s) (cw : Order.CoreW s) (m : Mem s) : Pd s.durable := by
  -- `Tracks`/`Ordered` of the node with the role and the commit index normalised: same disk
  let n : Node := { s with role := .follower, commitIndex := s.fsm.index }
  have ht : C12Track.Tracks n := ⟨c.congr6 rfl rfl rfl rfl rfl rfl, fun hl => by cases hl⟩
  have ho : Order.Ordered n :=
    ⟨⟨cw.last_eq, cw.prev_le_snap, cw.snap_le_applied, Nat.le_refl _, cw.committed_le_latest, cw.latest_le_last,
      cw.segs, cw.removeLTE_le, cw.snapRes_le⟩, by
        show s.fsm.index ≤ s.lastLogIndex
        rw [cw.last_eq]; exact c.fsmLe⟩
  have hd : n.durable = s.durable := rfl
  obtain ⟨dw, dc, di⟩ := C12Track.durable_snap n ht ho
  have h1 := C12Track.durable_diskTracks n ht ho
  rw [hd] at dw dc di h1
  refine ⟨h1, ⟨dw, SysInv.segsOK_durable _ cw.segs m.lwf,
    fun i e h => (C12Track.contig_durable c.contig).get?_index i e h, ?_⟩, NoPanic.logDec_take m.dec _⟩
  rw [dc, di]; exact m.lab

def TR (s : Node) : Prop := s.panicked = none → Mem s ∧ ∀ p ∈ s.trace, Pd p.2

/-- the invariant of `Lemmas/ConfigTrack.lean` together with `TR` -/
def TJ (s₀ : Node) (b g : Bool) (s : Node) : Prop := TI s₀ b g s ∧ TR s

variable {s₀ : Node} {b g : Bool}

/-- what `TR` looks at -/
def obsR (s : Node) : NLog × List SnapFile × Nat × List (String × Durable) :=
  (s.log, s.snapsDisk, s.snapIndex, s.trace)

theorem obsR_eq {s s' : Node} (h : obsR s' = obsR s) :
    s'.log = s.log ∧ s'.snapsDisk = s.snapsDisk ∧ s'.snapIndex = s.snapIndex ∧ s'.trace = s.trace := by
  simp only [obsR, Prod.mk.injEq] at h
  exact h

theorem Mem.congr {s s' : Node} (m : Mem s) (e1 : s'.log = s.log) (e2 : s'.snapsDisk = s.snapsDisk)
    (e3 : s'.snapIndex = s.snapIndex) : Mem s' :=
  ⟨by rw [e1]; exact m.lwf, by rw [label_congr e2, e3]; exact m.lab, by rw [e1]; exact m.dec⟩

theorem TR.irr {s s' : Node} (h : TR s) (e : obsR s' = obsR s) (hp : s'.panicked = none → s.panicked = none) :
    TR s' := by
  intro hp'
  obtain ⟨e1, e2, e3, e4⟩ := obsR_eq e
  obtain ⟨m, ht⟩ := h (hp hp')
  exact ⟨m.congr e1 e2 e3, by rw [e4]; exact ht⟩

theorem TJ.irr {s s' : Node} {b' g' : Bool} (h : TJ s₀ b g s) (hti : TI s₀ b' g' s') (e : obsR s' = obsR s)
    (hp : s'.panicked = none → s.panicked = none) : TJ s₀ b' g' s' := ⟨hti, h.2.irr e hp⟩

theorem TJ.irrT {s s' : Node} (h : TJ s₀ b g s) (hi : Order.Irr s s') (e : obsT s' = obsT s)
    (et : s'.trace = s.trace) : TJ s₀ b g s' := by
  obtain ⟨_, e2, e3, _, e5, _, _⟩ := obsT_eq e
  exact h.irr (h.1.irr hi e) (by unfold obsR; rw [e5, e2, e3, et]) hi.2

theorem TJ.dropQ {s : Node} (h : TJ s₀ b g s) : TJ s₀ b false s := ⟨h.1.dropQ, h.2⟩
theorem TJ.weaken {s : Node} (h : TJ s₀ true g s) : TJ s₀ b g s := ⟨h.1.weaken, h.2⟩
theorem TJ.toFalse {s : Node} (h : TJ s₀ b g s) : TJ s₀ false g s := ⟨h.1.toFalse, h.2⟩
theorem TJ.coreW {s : Node} (h : TJ s₀ b g s) (hp : s.panicked = none) : Order.CoreW s := h.1.coreW hp
theorem TJ.core {s : Node} (h : TJ s₀ b g s) (hp : s.panicked = none) : Core s := (h.1.2 hp).1
theorem TJ.mem {s : Node} (h : TJ s₀ b g s) (hp : s.panicked = none) : Mem s := (h.2 hp).1

/-- an update that has recorded at most the disk it leaves (Lemmas/Traced.lean) -/
theorem tr_rec {s x : Node} (hti : TI s₀ b g x) (m : x.panicked = none → Mem x) (hr : Rec s x)
    (ht : x.panicked = none → ∀ p ∈ s.trace, Pd p.2) : TR x := fun hp =>
  ⟨m hp, Traced.step (D := fun p => Pd p.2) (ht hp) hr fun _ => pd_durable (hti.2 hp).1 (hti.coreW hp) (m hp)⟩

theorem tj_panic (s : Node) (site : String) : TJ s₀ b g (s.panic site) :=
  ⟨ti_panic s site, fun h => absurd h (panic_panicked_ne s site)⟩

theorem obsR_panic (s : Node) (site : String) : obsR (s.panic site) = obsR s := by
  unfold Node.panic; split <;> rfl
theorem obsR_assert (s : Node) (bb : Bool) (site : String) : obsR (s.assert bb site) = obsR s := by
  unfold Node.assert; split
  · rfl
  · exact obsR_panic s site
theorem obsR_reply (s : Node) (t : Nat) (r : String) : obsR (s.reply t r) = obsR s := by
  unfold Node.reply; split <;> rfl
theorem obsR_doClose (s : Node) (r : String) : obsR (s.doClose r) = obsR s := by
  unfold Node.doClose; split <;> rfl

theorem tj_assert {s : Node} (bb : Bool) (site : String) (h : TJ s₀ b g s) : TJ s₀ b g (s.assert bb site) :=
  h.irr (ti_assert bb site h.1) (obsR_assert s bb site) (Order.irr_assert s bb site).2

/-- a crash point: what is on disk at this instant satisfies `Pd` -/
theorem tj_point {s : Node} (n : String) (h : TJ s₀ b g s) : TJ s₀ b g (s.point n) :=
  ⟨ti_point n h.1, tr_rec (ti_point n h.1) (fun hp => (h.2 hp).1.congr rfl rfl rfl) (rec_point s n)
    (fun hp => (h.2 hp).2)⟩

/-- `value.set`: the term file changes, log and snapshots do not -/
theorem tj_setTerm {s : Node} (t : Nat) (h : TJ s₀ b g s) : TJ s₀ b g (s.setTerm t) :=
  have hi := (Order.irr_setTerm s t).2
  ⟨ti_setTerm t h.1, tr_rec (ti_setTerm t h.1)
    (fun hp => (h.2 (hi hp)).1.congr (by rw [setTerm_shape]) (by rw [setTerm_shape]) (by rw [setTerm_shape]))
    (rec_setTerm s t) fun hp => (h.2 (hi hp)).2⟩

theorem tj_setVotedFor {s : Node} (t c : Nat) (h : TJ s₀ b g s) : TJ s₀ b g (s.setVotedFor t c) :=
  have hi := (Order.irr_setVotedFor s t c).2
  ⟨ti_setVotedFor t c h.1, tr_rec (ti_setVotedFor t c h.1)
    (fun hp => (h.2 (hi hp)).1.congr (by rw [setVotedFor_shape]) (by rw [setVotedFor_shape])
      (by rw [setVotedFor_shape]))
    (rec_setVotedFor s t c) fun hp => (h.2 (hi hp)).2⟩

theorem tj_ldr_same {s : Node} {l : Leader} (h : TJ s₀ b g s) (hl : l.removeLTE = s.ldr.removeLTE)
    (hq : l.queue = s.ldr.queue) : TJ s₀ b g (s.withLdr l) := h.irr (ti_ldr_same h.1 hl hq) rfl id

theorem tj_ldr {s : Node} {l : Leader} (h : TJ s₀ b g s) (hl : s.panicked = none → l.removeLTE ≤ s.snapIndex)
    (hq : ∀ q ∈ l.queue, q ∈ s.ldr.queue) : TJ s₀ b g (s.withLdr l) := h.irr (ti_ldr h.1 hl hq) rfl id

theorem tj_ldr_sub {s : Node} {l : Leader} (h : TJ s₀ b g s) (hl : l.removeLTE = s.ldr.removeLTE)
    (hq : ∀ q ∈ l.queue, q ∈ s.ldr.queue) : TJ s₀ b g (s.withLdr l) := h.irr (ti_ldr_sub h.1 hl hq) rfl id

theorem tj_ldr_fresh {s : Node} {l : Leader} (h : TJ s₀ b g s) (hl : s.panicked = none → l.removeLTE ≤ s.snapIndex)
    (hq : l.queue = []) : TJ s₀ b true (s.withLdr l) := h.irr (ti_ldr_fresh h.1 hl hq) rfl id

theorem obsR_changeConfigR (s : Node) (c : Config) : obsR (s.changeConfigR c) = obsR s := by
  rw [changeConfigR_shape]; rfl

theorem obsR_commitConfig (s : Node) : obsR s.commitConfig = obsR s := by
  rw [commitConfig_eq]; rfl

theorem tj_changeConfigR {s : Node} (cfg : Config) (h : TJ s₀ b g s)
    (hg : s.panicked = none → s.configs.latest.index ≤ cfg.index ∧ cfg.index ≤ s.lastLogIndex) :
    TJ s₀ b g (s.changeConfigR cfg) :=
  h.irr (ti_changeConfigR cfg h.1 hg) (obsR_changeConfigR s cfg)
    (fun hp => by rw [changeConfigR_shape] at hp; exact hp)

theorem tj_commitConfig {s : Node} (h : TJ s₀ b g s) : TJ s₀ b g s.commitConfig :=
  h.irr (ti_commitConfig h.1) (obsR_commitConfig s)
    (fun hp => by rw [← (commitConfig_other s).2.2.2.2.2.2.2.2.2.2]; exact hp)

theorem tj_revertConfig {s : Node} (h : TJ s₀ b g s)
    (hg : s.panicked = none → s.configs.committed.index ≤ s.lastLogIndex) : TJ s₀ b g s.revertConfig :=
  h.irr (ti_revertConfig h.1 hg) rfl id

theorem obsR_afterConfigCommit (s : Node) : obsR s.afterConfigCommit = obsR s := by
  unfold Node.afterConfigCommit Node.closeIfRemoved Node.stepDownIfNotVoter
  repeat' split
  all_goals first
    | rfl
    | exact obsR_doClose _ _

theorem obsR_setCommitIndexR (s : Node) (i : Nat) : obsR (s.setCommitIndexR i).1 = obsR s := by
  unfold Node.setCommitIndexR
  split
  · rw [obsR_afterConfigCommit, commitConfig_eq]; rfl
  · rfl

theorem tj_withCommitIndex {s : Node} {b' : Bool} (i : Nat) (h : TJ s₀ b g s)
    (hg : s.panicked = none → s.fsm.index ≤ i ∧ (b' = true → i ≤ s.lastLogIndex)) :
    TJ s₀ b' g (s.withCommitIndex i) := h.irr (ti_withCommitIndex i h.1 hg) rfl id

theorem tj_setCommitIndexR {s : Node} {b' : Bool} (i : Nat) (h : TJ s₀ b g s)
    (hg : s.panicked = none → s.fsm.index ≤ i ∧ (b' = true → i ≤ s.lastLogIndex)) :
    TJ s₀ b' g (s.setCommitIndexR i).1 :=
  h.irr (ti_setCommitIndexR i h.1 hg) (obsR_setCommitIndexR s i)
    (fun hp => by rw [← Node.setCommitIndexR_panicked s i]; exact hp)

theorem tj_snapResult {s : Node} (v : Option SnapRes) (h : TJ s₀ b g s)
    (hg : s.panicked = none → ∀ rs, v = some rs → rs.index ≤ s.snapIndex) : TJ s₀ b g (s.withSnapResult v) :=
  h.irr (ti_snapResult v h.1 hg) rfl id

theorem tj_withLast {s : Node} (i t : Nat) (h : TJ s₀ b g s) (hg : s.panicked = none → s.lastLogIndex = i) :
    TJ s₀ b g (s.withLast i t) := h.irr (ti_withLast i t h.1 hg) rfl id

theorem tj_appendRaw {s : Node} {g' : Bool} (e : Entry) (roll : Bool) (h : TJ s₀ b g' s)
    (hg : s.panicked = none → e.index = s.lastLogIndex + 1 ∧ (roll = true → s.log.lastSegPrev ≠ e.index - 1))
    (hq : g = true → s.panicked = none → ∀ q ∈ s.ldr.queue, isLogEntryTyp q.typ = true → s.log.prev < q.index →
      s.log.get? q.index = some q.toEntry ∨ (q.index = e.index ∧ q.toEntry = e))
    (hd : s.panicked = none → e.typ = etConfig → e.cfg.isSome = true) :
    TJ s₀ b g { s with log := s.log.append e roll, lastLogIndex := e.index, lastLogTerm := e.term } := by
  refine ⟨ti_appendRaw e roll h.1 hg hq, fun hp => ?_⟩
  have hp' : s.panicked = none := hp
  obtain ⟨m, ht⟩ := h.2 hp'
  obtain ⟨_, p2⟩ := NLog.append_parts s.log e roll
  refine ⟨⟨(CommitRel.logwf_append _ _ _ m.lwf).1, m.lab, ?_⟩, ht⟩
  show NoPanic.LogDec (s.log.append e roll).entries
  rw [p2]; exact NoPanic.logDec_append m.dec (hd hp')

theorem tj_appendEntry {s : Node} {g' : Bool} (e : Entry) (h : TJ s₀ b g' s)
    (hq : g = true → s.panicked = none → ∀ q ∈ s.ldr.queue, isLogEntryTyp q.typ = true → s.log.prev < q.index →
      s.log.get? q.index = some q.toEntry ∨ (q.index = e.index ∧ q.toEntry = e))
    (hd : s.panicked = none → e.typ = etConfig → e.cfg.isSome = true) :
    TJ s₀ b g (s.appendEntry e) := by
  unfold Node.appendEntry
  dsimp only
  obtain ⟨e1, e2, _⟩ := Order.obs_eq (Order.irr_assert s (e.index == s.lastLogIndex + 1) "assert.appendEntry").1
  obtain ⟨_, _, _, _, t5, _, t7⟩ := obsT_eq (obsT_assert s (e.index == s.lastLogIndex + 1) "assert.appendEntry")
  refine tj_appendRaw e _ (tj_assert _ _ h) (fun hp => ?_) (fun hg hp => ?_)
    (fun hp => hd ((Order.irr_assert _ _ _).2 hp))
  · have hb := Order.assert_true hp
    rw [e1, e2]
    refine ⟨by simpa using hb, fun hroll => ?_⟩
    simp only [Bool.and_eq_true, bne_iff_ne, ne_eq] at hroll
    exact hroll.2
  · rw [t5, t7]
    exact hq hg ((Order.irr_assert _ _ _).2 hp)

theorem tj_appendEntry' {s : Node} (e : Entry) (h : TJ s₀ b g s)
    (hd : s.panicked = none → e.typ = etConfig → e.cfg.isSome = true) : TJ s₀ b g (s.appendEntry e) :=
  tj_appendEntry e h (fun hg hp q hq ht hlt => Or.inl ((h.1.2 hp).2 hg q hq ht hlt)) hd

theorem tj_commitLog {s : Node} (n : Nat) (h : TJ s₀ b g s) : TJ s₀ b g (s.commitLog n) := by
  have hti := ti_commitLog (s₀ := s₀) (b := b) (g := g) n h.1
  refine ⟨hti, tr_rec (s := s) hti (fun hp => ?_) (Or.inr ⟨_, rfl⟩) (fun hp => (h.2 hp).2)⟩
  have hp' : s.panicked = none := hp
  obtain ⟨m, _⟩ := h.2 hp'
  obtain ⟨_, e2, _⟩ := NLog.commitN_same s.log n
  refine ⟨(CommitRel.logwf_commitN _ n m.lwf).1, m.lab, ?_⟩
  show NoPanic.LogDec (s.log.commitN n).entries
  rw [e2]; exact m.dec

theorem logwf_removeLTE (l : NLog) (i : Nat) (a : C09.SegsOK l) : C06.LogWF (l.removeLTE i) := by
  obtain ⟨_, _, _, _, hl, _, hs⟩ := C09.removeLTE_whole_segments l i a
  refine ⟨?_, ?_⟩
  · show (l.removeLTE i).lastSegPrev ≤ l.last
    have := hs.le_last _ (SysInv.lastSegPrev_mem _ hs)
    rw [hl] at this; exact this
  · show l.last ≤ (l.removeLTE i).last
    rw [hl]; exact Nat.le_refl _

theorem logwf_removeGTE (l : NLog) (i : Nat) (a : C09.SegsOK l) (h1 : l.prev < i) (h2 : i ≤ l.last) :
    C06.LogWF (l.removeGTE i) := by
  have hl := NLog.last_removeGTE l i h1 h2
  have hs := Order.segsOK_removeGTE l i a h1 h2
  refine ⟨?_, ?_⟩
  · show (l.removeGTE i).lastSegPrev ≤ i - 1
    have := hs.le_last _ (SysInv.lastSegPrev_mem _ hs)
    rw [hl] at this; exact this
  · show i - 1 ≤ (l.removeGTE i).last
    rw [hl]; exact Nat.le_refl _

theorem tj_compactLog {s : Node} (i : Nat) (h : TJ s₀ b g s) (hg : s.panicked = none → i ≤ s.snapIndex) :
    TJ s₀ b g (s.compactLog i) := by
  have hti := ti_compactLog (s₀ := s₀) (b := b) (g := g) i h.1 hg
  refine ⟨hti, tr_rec (s := s) hti (fun hp => ?_) (Or.inr ⟨_, rfl⟩) (fun hp => (h.2 hp).2)⟩
  have hp' : s.panicked = none := hp
  obtain ⟨m, _⟩ := h.2 hp'
  refine ⟨logwf_removeLTE _ i (h.coreW hp').segs, m.lab, ?_⟩
  show NoPanic.LogDec (s.log.removeLTE i).entries
  rw [C09.removeLTE_entries]; exact logDec_drop m.dec _

theorem tj_resolveConflict {s : Node} (ne : Entry) (pt : Nat) (h : TJ s₀ true g s)
    (hg : s.panicked = none → ne.index ≤ s.lastLogIndex →
      s.snapIndex < ne.index ∧ s.commitIndex < ne.index ∧ s.configs.committed.index < ne.index) :
    TJ s₀ true false (s.resolveConflict ne pt) := by
  have hti := ti_resolveConflict (s₀ := s₀) (g := g) ne pt h.1 hg
  refine ⟨hti, ?_⟩
  by_cases hle : ne.index ≤ s.lastLogIndex
  · cases het : s.entryTerm? ne.index with
    | none =>
      have e : s.resolveConflict ne pt = s.panic "bug.mustGetEntry" := by
        unfold Node.resolveConflict; rw [if_pos hle, het]
      rw [e]; exact (tj_panic (s₀ := s₀) (b := true) (g := g) s _).2
    | some x =>
      have hx : (s.resolveConflict ne pt).log = s.log.removeGTE ne.index ∧
          (s.resolveConflict ne pt).snapsDisk = s.snapsDisk ∧ (s.resolveConflict ne pt).snapIndex = s.snapIndex ∧
          (s.resolveConflict ne pt).trace = s.trace ++ [("removeGTE", (s.resolveConflict ne pt).durable)] ∧
          ((s.resolveConflict ne pt).panicked = none → s.panicked = none) := by
        unfold Node.resolveConflict
        rw [if_pos hle, het]
        dsimp only
        split <;> exact ⟨rfl, rfl, rfl, rfl, id⟩
      obtain ⟨x1, x2, x3, x4, x5⟩ := hx
      refine tr_rec hti (fun hp => ?_) (Or.inr ⟨_, x4⟩) (fun hp => (h.2 (x5 hp)).2)
      have hp' := x5 hp
      obtain ⟨m, _⟩ := h.2 hp'
      have cw := h.coreW hp'
      have hgt := (hg hp' hle).1
      have h1 : s.log.prev < ne.index := by have := cw.prev_le_snap; omega
      have h2 : ne.index ≤ s.log.last := by rw [← cw.last_eq]; exact hle
      refine ⟨by rw [x1]; exact logwf_removeGTE _ _ cw.segs h1 h2, by rw [label_congr x2, x3]; exact m.lab, ?_⟩
      rw [x1]
      exact NoPanic.logDec_take m.dec _
  · have e : s.resolveConflict ne pt = s := by unfold Node.resolveConflict; rw [if_neg hle]
    rw [e]; exact h.2

theorem fsmFrame_obsR : FsmFrame obsR :=
  ⟨fun s site => obsR_panic s site, fun s t r => obsR_reply s t r, fun _ _ => rfl⟩

theorem tj_fsmApply {s : Node} (items : List QItem) (h : TJ s₀ b g s)
    (hit : s.panicked = none → ∀ q ∈ items, isLogEntryTyp q.typ = true → s.log.prev < q.index →
      s.log.get? q.index = some q.toEntry) :
    TJ s₀ true g (s.fsmApply items) :=
  h.irr (ti_fsmApply items h.1 hit) (fsmFrame_obsR.fsmApply_eq s items)
    (fun hp => (Order.fsmApply_ok s items hp).1)

theorem tj_applyCommitted {s : Node} (h : TJ s₀ b g s) : TJ s₀ true g s.applyCommitted :=
  tj_fsmApply [] h (fun _ q hq => by cases hq)

theorem tj_applyCommittedL {s : Node} (h : TJ s₀ b true s) : TJ s₀ true true s.applyCommittedL := by
  unfold Node.applyCommittedL
  dsimp only
  exact tj_fsmApply _ (tj_ldr h (fun hp => (h.coreW hp).removeLTE_le) (splitQueue_sub _ _).2)
    (fun hp q hq => (h.1.2 hp).2 rfl q ((splitQueue_sub _ _).1 q hq))

theorem newest_index_le {log : NLog} (hc : C03.LogContig log) (L : Config) (i : Nat) (hL : L.index ≤ i) :
    (newest log L i).index ≤ i := by
  unfold newest
  cases hl : (pre log i).getLast? with
  | none => exact hL
  | some c => exact (pre_index hc (List.mem_of_getLast? hl)).2

/-- `snapshotSink.done` at the FSM's position: two crash points (`snap.publish`, `snap.retain`), both with the new
file as the newest one -/
theorem tj_publishSnap {s : Node} (f : SnapFile) (h : TJ s₀ b g s) (hidx : f.index = s.fsm.index)
    (hterm : f.term = s.fsm.term) (hcfg : 0 < s.fsm.config.index → f.config = s.fsm.config)
    (hlab : s.panicked = none → f.config.index ≤ f.index) :
    TJ s₀ b g (s.publishSnapshot f) := by
  have hti := ti_publishSnap (s₀ := s₀) (b := b) (g := g) f h.1 hidx hterm hcfg
  refine ⟨hti, fun hp => ?_⟩
  have hp' : s.panicked = none := hp
  obtain ⟨m, ht⟩ := h.2 hp'
  have c := h.core hp'
  have cw := h.coreW hp'
  have hh : ∀ g, s.snapsDisk.head? = some g → g.index ≤ f.index := fun g hg => by
    have := c.headLe g hg; have := cw.snap_le_applied; omega
  have m' : Mem (s.publishSnapshot f) :=
    ⟨m.lwf, by rw [label_publish s f c.retain hh]; exact hlab hp', m.dec⟩
  have hpd := pd_durable (hti.2 hp).1 (hti.coreW hp) m'
  obtain ⟨tl, htl⟩ := insertSnap_head f s.snapsDisk hh
  obtain ⟨k, hk⟩ : ∃ k, s.retain = k + 1 := ⟨s.retain - 1, by have := c.retain; omega⟩
  refine ⟨m', Traced.publishSnapshot (D := fun p => Pd p.2) ht (hpd.congr rfl ?_) hpd⟩
  show (insertSnap f s.snapsDisk).head? = ((insertSnap f s.snapsDisk).take s.retain).head?
  rw [htl, hk]; rfl

end TrackCrash
end Raft
