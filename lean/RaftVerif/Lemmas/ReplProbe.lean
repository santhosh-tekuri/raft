/-
Helper definitions and lemmas about the probe loop of `replicate` (Model/ReplProbe.lean, tied to the real
`replication.replicate` by the engine probelive). Quoted by Props/C17Probe.lean.
-/
import RaftVerif.Model.ReplProbe
import RaftVerif.Lemmas.ReplSteps
import RaftVerif.Lemmas.Shape

namespace Raft
namespace Repl

/-- the leader's term at index `i` as a replication can learn it: 0 at index 0, the snapshot's term at the
snapshot index, otherwise the term of the log entry (none: compacted away / not there) -/
def leaderTerm (env : Env) (i : Nat) : Option Nat :=
  if i = 0 then some 0 else if i = env.snapIndex then some env.snapTerm else (env.log.get? i).map (·.term)

/-- the follower holds the leader's entry at `i` (or its snapshot covers `i`) -/
def AgreeAt (env : Env) (f : Follower) (i : Nat) : Prop :=
  ∃ t, leaderTerm env i = some t ∧ (i ≤ f.snapIndex ∨ f.termAt i = some t)

/-- the weaker form that is enough for termination: IF the leader can still read its term at `i`, the
follower agrees with it there -/
def AgreeIfKnown (env : Env) (f : Follower) (i : Nat) : Prop :=
  ∀ t, leaderTerm env i = some t → (i ≤ f.snapIndex ∨ f.termAt i = some t)

/-- the follower answers by the consistency check in every exchange still to come (no injected fault) -/
def Loop.Honest (s : Loop) : Prop := ∀ t ∈ s.ticks, t.fault = 0

/-- shape of an exchange the probe loop adds to the trace: a non-pipelined appendEntries request without
entries -/
def ProbeShape (x : Exch) : Prop :=
  x.kind = "append" ∧ x.pipelined = false ∧ ∃ q, x.append = some q ∧ q.entries = []

theorem AgreeAt.ifKnown {env : Env} {f : Follower} {i : Nat} (h : AgreeAt env f i) : AgreeIfKnown env f i := by
  obtain ⟨t, ht, h⟩ := h
  intro t' ht'
  rw [ht] at ht'
  injection ht' with ht'
  subst ht'
  exact h

theorem termAt_congr {f g : Follower} (h1 : g.snapIndex = f.snapIndex) (h2 : g.terms = f.terms) (i : Nat) :
    g.termAt i = f.termAt i := by
  unfold Follower.termAt
  rw [h1, h2]

theorem AgreeAt.congr {env : Env} {f g : Follower} {i : Nat} (h1 : g.snapIndex = f.snapIndex)
    (h2 : g.terms = f.terms) (h : AgreeAt env f i) : AgreeAt env g i := by
  obtain ⟨t, ht, h⟩ := h
  exact ⟨t, ht, by rw [termAt_congr h1 h2, h1]; exact h⟩

theorem AgreeIfKnown.congr {env : Env} {f g : Follower} {i : Nat} (h1 : g.snapIndex = f.snapIndex)
    (h2 : g.terms = f.terms) (h : AgreeIfKnown env f i) : AgreeIfKnown env g i := by
  intro t ht
  rw [termAt_congr h1 h2, h1]
  exact h t ht

theorem writeAppend_false_st (st : State) (env : Env) : (writeAppend st env false).st = st := by
  unfold writeAppend
  extract_lets prev pt n es
  have hn0 : n = 0 := by unfold n; simp
  generalize pt = ptv
  match ptv with
  | .error p => rfl
  | .ok none => rfl
  | .ok (some prevTerm) =>
    dsimp only
    split
    · rfl
    · split
      · rfl
      · dsimp only
        rw [hn0]
        rfl

/-- the `prevLogTerm` of a request is the leader's term at `prevLogIndex` -/
theorem writeAppend_leaderTerm (st : State) (env : Env) (b : Bool) (q : Node.AppendReq)
    (h : (writeAppend st env b).append = some q) :
    leaderTerm env q.prevLogIndex = some q.prevLogTerm := by
  obtain ⟨_, _, _, _, h0, hs, hl, _⟩ := repl_request_from_log st env b q h
  unfold leaderTerm
  split
  · rename_i hz
    rw [h0 hz]
  · rename_i hz
    split
    · rename_i hsn
      rw [hs hz hsn]
    · rename_i hsn
      obtain ⟨e, hg, he⟩ := hl hz hsn
      rw [hg]
      simp [he]

theorem exchange_honest (s : Loop) (hh : s.Honest) (q : Node.AppendReq) :
    s.flr.exchange s.tick q = s.flr.answer q := by
  have hf : s.tick.fault = 0 := by
    unfold Loop.tick
    cases hs : s.ticks with
    | nil => rfl
    | cons t ts =>
      apply hh
      rw [hs]
      exact List.mem_cons_self
  unfold Follower.exchange
  simp [hf]

theorem termAt_none_of_gt (f : Follower) (i : Nat) (h : i > f.lastIndex) : f.termAt i = none := by
  unfold Follower.termAt
  unfold Follower.lastIndex at h
  split
  · rfl
  · apply List.getElem?_eq_none
    omega

/-- the answer to a request without entries. It never touches the follower's log; it reports
the follower's last index; and it is a success exactly when the request is not stale and the follower's
snapshot covers `prevLogIndex` or it holds an entry of `prevLogTerm` there. -/
theorem answer_noentries (f : Follower) (q : Node.AppendReq) (he : q.entries = []) :
    (f.answer q).flr.snapIndex = f.snapIndex ∧ (f.answer q).flr.terms = f.terms ∧
    (f.answer q).resp.kind = "append" ∧ (f.answer q).resp.lastLogIndex = f.lastIndex ∧
    ((f.answer q).resp.result = rStaleTerm ∧ q.term < f.term ∨
     ((f.answer q).resp.result = rPrevEntryNotFound ∨ (f.answer q).resp.result = rPrevTermMismatch) ∧
        ¬ q.term < f.term ∧ q.prevLogIndex > f.snapIndex ∧ f.termAt q.prevLogIndex ≠ some q.prevLogTerm ∨
     (f.answer q).resp.result = rSuccess ∧ ¬ q.term < f.term ∧
        (q.prevLogIndex ≤ f.snapIndex ∨ f.termAt q.prevLogIndex = some q.prevLogTerm)) := by
  unfold Follower.answer
  rw [he]
  split
  · rename_i hst
    exact ⟨rfl, rfl, rfl, rfl, Or.inl ⟨rfl, hst⟩⟩
  · rename_i hst
    extract_lets f1 f2 c src f3
    have ht : ∀ i, f1.termAt i = f.termAt i := fun i => termAt_congr rfl rfl i
    have hl : f1.lastIndex = f.lastIndex := rfl
    split
    · rename_i h1
      refine ⟨rfl, rfl, rfl, rfl, Or.inr (Or.inl ⟨Or.inl rfl, hst, h1.1, ?_⟩)⟩
      rw [← ht, termAt_none_of_gt f1 _ h1.2]
      simp
    · split
      · rename_i h1 h2
        refine ⟨rfl, rfl, rfl, rfl, Or.inr (Or.inl ⟨Or.inr rfl, hst, h2.1, ?_⟩)⟩
        rw [← ht]
        exact h2.2
      · rename_i h1 h2
        have hf2 : f2.snapIndex = f.snapIndex ∧ f2.terms = f.terms := by
          unfold f2; split <;> exact ⟨rfl, rfl⟩
        have hc : c.flr = f2 := rfl
        have hf3 : f3.snapIndex = f.snapIndex ∧ f3.terms = f.terms := by
          unfold f3; split
          · exact ⟨by rw [← hf2.1, ← hc], by rw [← hf2.2, ← hc]⟩
          · rw [hc]; exact hf2
        refine ⟨hf3.1, hf3.2, rfl, ?_, Or.inr (Or.inr ⟨rfl, hst, ?_⟩)⟩
        · show f3.lastIndex = f.lastIndex
          unfold Follower.lastIndex
          rw [hf3.1, hf3.2]
        · rw [← ht]
          have hs : f1.snapIndex = f.snapIndex := rfl
          rw [← hs]
          by_cases hp : q.prevLogIndex > f1.snapIndex
          · right
            exact Classical.byContradiction fun hne => h2 ⟨hp, hne⟩
          · left; omega

theorem checkUpdate_fields (s : Loop) :
    s.checkUpdate.st.matchIndex = s.st.matchIndex ∧ s.checkUpdate.st.nextIndex = s.st.nextIndex ∧
    s.checkUpdate.flr = s.flr ∧ s.checkUpdate.ticks = s.ticks ∧ s.checkUpdate.trace = s.trace := by
  unfold Loop.checkUpdate
  split
  · exact ⟨rfl, rfl, rfl, rfl, rfl⟩
  · exact ⟨rfl, rfl, rfl, rfl, rfl⟩

theorem honest_of_tail {s r : Loop} (h : r.ticks = s.ticks.tail) (hh : s.Honest) : r.Honest := by
  intro t ht
  rw [h] at ht
  exact hh t (List.mem_of_mem_tail ht)

theorem onAppendResp_probe (st : State) (term result lli : Nat) (hm : st.matchIndex < st.nextIndex) :
    let o := onAppendResp st term result lli (st.nextIndex - 1)
    (result = rStaleTerm → o.err ≠ "") ∧
    (result = rSuccess → o.err = "" ∧ o.panic = "" ∧ o.st.nextIndex = st.nextIndex ∧
        o.st.matchIndex + 1 = st.nextIndex) ∧
    (result = rPrevEntryNotFound ∨ result = rPrevTermMismatch →
        (o.err ≠ "" ∧ o.st = st) ∨
        (o.err = "" ∧ o.panic = "" ∧ o.st.matchIndex = st.matchIndex ∧
          o.st.nextIndex = min (st.nextIndex - 1) (lli + 1) ∧ st.matchIndex ≤ lli)) ∧
    (o.st.matchIndex = st.matchIndex ∨ result = rSuccess ∧ o.st.matchIndex = st.nextIndex - 1) := by
  intro o
  unfold o
  refine ⟨fun h => ?_, fun h => ?_, fun h => ?_, ?_⟩
  · rw [h, onAppendResp_stale]; exact (by decide : "stop" ≠ "")
  · rw [h, onAppendResp_success]
    split
    · exact ⟨rfl, rfl, rfl, by dsimp only; omega⟩
    · exact ⟨rfl, rfl, rfl, by dsimp only; omega⟩
  · rw [onAppendResp_mismatch _ _ _ _ h]
    split
    · exact Or.inl ⟨(by decide : "faultyFollower" ≠ ""), rfl⟩
    · exact Or.inr ⟨rfl, rfl, rfl, rfl, by omega⟩
  · by_cases he : (onAppendResp st term result lli (st.nextIndex - 1)).st.matchIndex = st.matchIndex
    · exact Or.inl he
    · obtain ⟨a, b, _⟩ := (match_index_sound st term result lli (st.nextIndex - 1)).2.1 he
      exact Or.inr ⟨a, b⟩

structure RoundOK (env : Env) (s : Loop) (r : PR) : Prop where
  honest : r.loop.Honest
  snap : r.loop.flr.snapIndex = s.flr.snapIndex
  terms : r.loop.flr.terms = s.flr.terms
  mono : s.st.matchIndex ≤ r.loop.st.matchIndex
  trace : r.loop.trace = s.trace ∨ ∃ x, r.loop.trace = s.trace ++ [x] ∧ ProbeShape x
  known : AgreeIfKnown env r.loop.flr r.loop.st.matchIndex
  agree : AgreeAt env s.flr s.st.matchIndex → AgreeAt env r.loop.flr r.loop.st.matchIndex
  ending : r.ending = "failed" ∨ (r.ending = "needInstall" ∧ r.loop = s) ∨
    (r.ending = "matched" ∧ r.loop.st.matchIndex + 1 = r.loop.st.nextIndex) ∨
    (r.ending = "continue" ∧ r.loop.st.matchIndex = s.st.matchIndex ∧
      s.st.matchIndex < r.loop.st.nextIndex ∧ r.loop.st.nextIndex < s.st.nextIndex)

theorem RoundOK.same {env : Env} {s : Loop} (hh : s.Honest) (ha : AgreeIfKnown env s.flr s.st.matchIndex)
    (r : PR) (hl : r.loop = s) (he : r.ending = "failed" ∨ r.ending = "needInstall") : RoundOK env s r := by
  refine ⟨?_, ?_, ?_, ?_, ?_, ?_, ?_, ?_⟩
  all_goals rw [hl]
  · exact hh
  · exact Nat.le_refl _
  · exact Or.inl rfl
  · exact ha
  · exact fun h => h
  · rcases he with he | he
    · exact Or.inl he
    · exact Or.inr (Or.inl ⟨he, rfl⟩)

theorem RoundOK.after {env : Env} {s : Loop} (r : PR) (x : Exch)
    (hsn : r.loop.flr.snapIndex = s.flr.snapIndex) (htm : r.loop.flr.terms = s.flr.terms)
    (hticks : r.loop.ticks = s.ticks.tail) (htrace : r.loop.trace = s.trace ++ [x]) (hx : ProbeShape x)
    (hh : s.Honest) (ha : AgreeIfKnown env s.flr s.st.matchIndex)
    (hag : r.loop.st.matchIndex = s.st.matchIndex ∨ AgreeAt env r.loop.flr r.loop.st.matchIndex)
    (hmono : s.st.matchIndex ≤ r.loop.st.matchIndex)
    (hend : r.ending = "failed" ∨
      (r.ending = "matched" ∧ r.loop.st.matchIndex + 1 = r.loop.st.nextIndex) ∨
      (r.ending = "continue" ∧ r.loop.st.matchIndex = s.st.matchIndex ∧
        s.st.matchIndex < r.loop.st.nextIndex ∧ r.loop.st.nextIndex < s.st.nextIndex)) :
    RoundOK env s r := by
  refine ⟨honest_of_tail hticks hh, hsn, htm, hmono, Or.inr ⟨x, htrace, hx⟩, ?_, ?_, ?_⟩
  · rcases hag with h | h
    · rw [h]; exact ha.congr hsn htm
    · exact h.ifKnown
  · intro h0
    rcases hag with h | h
    · rw [h]; exact h0.congr hsn htm
    · exact h
  · rcases hend with h | h | h
    · exact Or.inl h
    · exact Or.inr (Or.inr (Or.inl h))
    · exact Or.inr (Or.inr (Or.inr h))

theorem next_bounds {m n l p : Nat} (hm : m < n) (hp : p = n - 1) (hne : p ≠ m) (hl : m ≤ l) :
    m < min (n - 1) (l + 1) ∧ min (n - 1) (l + 1) < n := by omega

theorem probeRound_spec (env : Env) (s : Loop)
    (hm : s.st.matchIndex < s.st.nextIndex) (ha : AgreeIfKnown env s.flr s.st.matchIndex) (hh : s.Honest) :
    RoundOK env s (probeRound env s) := by
  unfold probeRound
  extract_lets w
  have hwst : w.st = s.st := writeAppend_false_st s.st env
  have hwq : ∀ q, w.append = some q → q.entries = [] ∧ q.prevLogIndex = s.st.nextIndex - 1 ∧
      leaderTerm env q.prevLogIndex = some q.prevLogTerm := fun q hq =>
    ⟨(heartbeat_no_entries s.st env q hq).1, (repl_request_from_log s.st env false q hq).1,
      writeAppend_leaderTerm _ _ _ _ hq⟩
  clear_value w
  refine ite_ind (fun _ => RoundOK.same hh ha _ rfl (Or.inl rfl)) fun _ => ?_
  refine ite_ind (fun _ => RoundOK.same hh ha _ rfl (Or.inr rfl)) fun _ => ?_
  refine ite_ind (fun _ => RoundOK.same hh ha _ rfl (Or.inl rfl)) fun _ => ?_
  split
  · exact RoundOK.same hh ha _ rfl (Or.inl rfl)
  rename_i q hq
  obtain ⟨hqe, hqp, hlt⟩ := hwq q hq
  extract_lets a s1 o s2 s3
  have hax : a = s.flr.answer q := exchange_honest s hh q
  obtain ⟨hsn, htm, hkind, hlli, hres⟩ := answer_noentries s.flr q hqe
  rw [← hax] at hsn htm hkind hlli hres
  clear_value a
  have hs1st : s1.st = s.st := hwst
  have hx : ProbeShape { kind := "append", st := w.st, append := some q, resp := a.resp } :=
    ⟨rfl, rfl, q, rfl, hqe⟩
  have hoeq : o = onAppendResp s.st a.resp.term a.resp.result a.resp.lastLogIndex (s.st.nextIndex - 1) := by
    show onAppendResp s1.st _ _ _ (s1.st.nextIndex - 1) = _
    rw [hs1st]
  have ho := onAppendResp_probe s.st a.resp.term a.resp.result a.resp.lastLogIndex hm
  dsimp only at ho
  rw [← hoeq] at ho
  obtain ⟨hostale, hosucc, homis, homatch⟩ := ho
  -- the follower agrees at whatever `matchIndex` is after the response
  have hag : o.st.matchIndex = s.st.matchIndex ∨ AgreeAt env a.flr o.st.matchIndex := by
    rcases homatch with h | ⟨hr, h⟩
    · exact Or.inl h
    · right
      rw [h, ← hqp]
      refine ⟨q.prevLogTerm, hlt, ?_⟩
      rw [termAt_congr hsn htm, hsn]
      rcases hres with ⟨h3, _⟩ | ⟨h3, _⟩ | ⟨_, _, h3⟩
      · rw [hr] at h3; exact absurd h3 (by decide)
      · rw [hr] at h3; rcases h3 with h3 | h3 <;> exact absurd h3 (by decide)
      · exact h3
  have hmono : s.st.matchIndex ≤ o.st.matchIndex := by
    have := (match_index_sound s.st a.resp.term a.resp.result a.resp.lastLogIndex (s.st.nextIndex - 1)).1
    rw [← hoeq] at this
    exact this
  clear_value o
  have hcu := checkUpdate_fields s2
  refine ite_ind (fun heof => absurd (hkind.symm.trans heof) (by decide)) fun _ => ?_
  refine ite_ind (fun _ => RoundOK.after _ _ hsn htm rfl rfl hx hh ha hag hmono (Or.inl rfl)) fun _ => ?_
  refine ite_ind (fun _ => RoundOK.after _ _ hsn htm rfl rfl hx hh ha hag hmono (Or.inl rfl)) fun herr => ?_
  have hs3m : s3.st.matchIndex = o.st.matchIndex := hcu.1
  have hs3n : s3.st.nextIndex = o.st.nextIndex := hcu.2.1
  have hs3f : s3.flr = a.flr := hcu.2.2.1
  have hs3t : s3.ticks = s.ticks.tail := hcu.2.2.2.1
  have hs3r : s3.trace = s.trace ++ [_] := hcu.2.2.2.2
  refine ite_ind (fun hmatched => ?_) fun hnot => ?_
  · refine RoundOK.after _ _ (by rw [hs3f]; exact hsn) (by rw [hs3f]; exact htm) hs3t hs3r hx hh ha ?_ ?_
      (Or.inr (Or.inl ⟨rfl, hmatched⟩))
    · show s3.st.matchIndex = _ ∨ AgreeAt env s3.flr s3.st.matchIndex
      rw [hs3m, hs3f]; exact hag
    · show _ ≤ s3.st.matchIndex
      rw [hs3m]; exact hmono
  · refine RoundOK.after _ _ (by rw [hs3f]; exact hsn) (by rw [hs3f]; exact htm) hs3t hs3r hx hh ha ?_ ?_
      (Or.inr (Or.inr ?_))
    · show s3.st.matchIndex = _ ∨ AgreeAt env s3.flr s3.st.matchIndex
      rw [hs3m, hs3f]; exact hag
    · show _ ≤ s3.st.matchIndex
      rw [hs3m]; exact hmono
    · show "continue" = "continue" ∧ s3.st.matchIndex = _ ∧ _ < s3.st.nextIndex ∧ s3.st.nextIndex < _
      rw [hs3m, hs3n] at hnot ⊢
      have herr' : o.err = "" := Classical.byContradiction fun h => herr h
      rcases hres with ⟨h3, _⟩ | ⟨h3, hns, hgt, hne⟩ | ⟨h3, _⟩
      · exact absurd herr' (hostale h3)
      · rcases homis h3 with ⟨h4, _⟩ | ⟨_, _, h5, h6, h7⟩
        · exact absurd herr' h4
        · -- a mismatch at `prev = matchIndex` is impossible
          have hpm : q.prevLogIndex ≠ s.st.matchIndex := by
            intro heq
            rcases ha q.prevLogTerm (by rw [← heq]; exact hlt) with h8 | h8
            · omega
            · rw [← heq] at h8; exact hne h8
          rw [h6]
          exact ⟨rfl, h5, next_bounds hm hqp hpm h7⟩
      · obtain ⟨_, _, h5, h6⟩ := hosucc h3
        rw [h5] at hnot
        exact absurd h6 hnot

structure ProbeOK (env : Env) (s : Loop) (fuel : Nat) (r : PR) : Prop where
  ending : r.ending = "matched" ∨ r.ending = "needInstall" ∨ r.ending = "failed" ∨
    (r.ending = "fuel" ∧ fuel < s.st.nextIndex - s.st.matchIndex)
  matched : r.ending = "matched" → r.loop.st.matchIndex + 1 = r.loop.st.nextIndex
  agree : AgreeAt env s.flr s.st.matchIndex → AgreeAt env r.loop.flr r.loop.st.matchIndex
  mono : s.st.matchIndex ≤ r.loop.st.matchIndex
  snap : r.loop.flr.snapIndex = s.flr.snapIndex
  terms : r.loop.flr.terms = s.flr.terms
  trace : ∃ xs, r.loop.trace = s.trace ++ xs ∧ xs.length ≤ s.st.nextIndex - s.st.matchIndex ∧
    xs.length ≤ fuel ∧ ∀ x ∈ xs, ProbeShape x

theorem probe_spec (env : Env) (fuel : Nat) : ∀ (s : Loop),
    s.st.matchIndex < s.st.nextIndex → AgreeIfKnown env s.flr s.st.matchIndex → s.Honest →
    ProbeOK env s fuel (probe env fuel s) := by
  induction fuel with
  | zero =>
    intro s hm ha hh
    unfold probe
    refine ⟨Or.inr (Or.inr (Or.inr ⟨rfl, by omega⟩)), ?_, fun h => h, Nat.le_refl _, rfl, rfl,
      ⟨[], by simp, by simp, by simp, by simp⟩⟩
    intro h
    exact absurd (show "fuel" = "matched" from h) (by decide)
  | succ n ih =>
    intro s hm ha hh
    have hr := probeRound_spec env s hm ha hh
    unfold probe
    extract_lets r
    change RoundOK env s r at hr
    by_cases hc : r.ending = "continue"
    · rw [if_pos hc]
      have hcont : r.loop.st.matchIndex = s.st.matchIndex ∧
          s.st.matchIndex < r.loop.st.nextIndex ∧ r.loop.st.nextIndex < s.st.nextIndex := by
        rcases hr.ending with h | ⟨h, _⟩ | ⟨h, _⟩ | ⟨_, h⟩
        · rw [hc] at h; exact absurd h (by decide)
        · rw [hc] at h; exact absurd h (by decide)
        · rw [hc] at h; exact absurd h (by decide)
        · exact h
      obtain ⟨h1, h2, h3⟩ := hcont
      have hi := ih r.loop (by rw [h1]; exact h2) hr.known hr.honest
      refine ⟨?_, hi.matched, fun h => hi.agree (hr.agree h), Nat.le_trans hr.mono hi.mono,
        hi.snap.trans hr.snap, hi.terms.trans hr.terms, ?_⟩
      · rcases hi.ending with h | h | h | ⟨h, hf⟩
        · exact Or.inl h
        · exact Or.inr (Or.inl h)
        · exact Or.inr (Or.inr (Or.inl h))
        · exact Or.inr (Or.inr (Or.inr ⟨h, by omega⟩))
      · obtain ⟨xs, hx1, hx2, hx3, hx4⟩ := hi.trace
        rcases hr.trace with ht | ⟨x, ht, hx⟩
        · exact ⟨xs, by rw [hx1, ht], by omega, by omega, hx4⟩
        · refine ⟨x :: xs, by rw [hx1, ht]; simp, by simp only [List.length_cons]; omega,
            by simp only [List.length_cons]; omega, ?_⟩
          intro y hy
          rcases List.mem_cons.mp hy with hy | hy
          · rw [hy]; exact hx
          · exact hx4 y hy
    · rw [if_neg hc]
      refine ⟨?_, ?_, hr.agree, hr.mono, hr.snap, hr.terms, ?_⟩
      · rcases hr.ending with h | ⟨h, _⟩ | ⟨h, _⟩ | ⟨h, _⟩
        · exact Or.inr (Or.inr (Or.inl h))
        · exact Or.inr (Or.inl h)
        · exact Or.inl h
        · exact absurd h hc
      · intro hmt
        rcases hr.ending with h | ⟨h, _⟩ | ⟨_, h⟩ | ⟨h, _⟩
        · rw [hmt] at h; exact absurd h (by decide)
        · rw [hmt] at h; exact absurd h (by decide)
        · exact h
        · exact absurd h hc
      · rcases hr.trace with ht | ⟨x, ht, hx⟩
        · exact ⟨[], by rw [ht]; simp, by simp, by simp, by simp⟩
        · refine ⟨[x], ht, by simp only [List.length_singleton]; omega, by simp, ?_⟩
          intro y hy
          rw [List.mem_singleton.mp hy]; exact hx

theorem probeRound_match_mono (env : Env) (s : Loop) :
    s.st.matchIndex ≤ (probeRound env s).loop.st.matchIndex := by
  unfold probeRound
  extract_lets w
  have hw : w.st = s.st := writeAppend_false_st s.st env
  clear_value w
  let P : PR → Prop := fun r => s.st.matchIndex ≤ r.loop.st.matchIndex
  show P _
  refine ite_ind (fun _ => Nat.le_refl _) fun _ => ?_
  refine ite_ind (fun _ => Nat.le_refl _) fun _ => ?_
  refine ite_ind (fun _ => Nat.le_refl _) fun _ => ?_
  split
  · exact Nat.le_refl _
  extract_lets a s1 o s2 s3
  have hs1 : s.st.matchIndex = s1.st.matchIndex := congrArg State.matchIndex hw.symm
  have ho : s.st.matchIndex ≤ o.st.matchIndex := hs1 ▸
    (match_index_sound s1.st a.resp.term a.resp.result a.resp.lastLogIndex (s1.st.nextIndex - 1)).1
  clear_value a o
  have hs3 : s.st.matchIndex ≤ s3.st.matchIndex := (checkUpdate_fields s2).1 ▸ ho
  refine ite_ind (fun _ => Nat.le_of_eq hs1) fun _ => ?_
  refine ite_ind (fun _ => ho) fun _ => ?_
  refine ite_ind (fun _ => ho) fun _ => ?_
  exact ite_ind (fun _ => hs3) fun _ => hs3

/-- the probe loop never lowers `matchIndex`: no hypothesis on the follower, the ticks or the fuel -/
theorem probe_match_mono (env : Env) (fuel : Nat) : ∀ (s : Loop),
    s.st.matchIndex ≤ (probe env fuel s).loop.st.matchIndex := by
  induction fuel with
  | zero => intro s; exact Nat.le_refl _
  | succ n ih =>
    intro s
    unfold probe
    extract_lets r
    have hr : s.st.matchIndex ≤ r.loop.st.matchIndex := probeRound_match_mono env s
    split
    · exact Nat.le_trans hr (ih r.loop)
    · exact hr

/-- a round that ends with `needInstall` sent nothing and changed nothing: `writeAppendEntriesReq`
returned ErrNotFound before anything was written -/
theorem probeRound_needInstall (env : Env) (s : Loop) (h : (probeRound env s).ending = "needInstall") :
    (probeRound env s).loop = s ∧ (writeAppend s.st env false).err = "notFound" := by
  revert h
  unfold probeRound
  extract_lets w
  let P : PR → Prop := fun r => r.ending = "needInstall" → r.loop = s ∧ w.err = "notFound"
  show P _
  have failed : ∀ r : PR, r.ending = "failed" → P r := fun r he h => absurd (he.symm.trans h) (by decide)
  clear_value w
  refine ite_ind (fun _ => failed _ rfl) fun _ => ?_
  refine ite_ind (fun hn _ => ⟨rfl, hn⟩) fun _ => ?_
  refine ite_ind (fun _ => failed _ rfl) fun _ => ?_
  split
  · exact failed _ rfl
  extract_lets a s1 o s2 s3
  refine ite_ind (fun _ => failed _ rfl) fun _ => ?_
  refine ite_ind (fun _ => failed _ rfl) fun _ => ?_
  refine ite_ind (fun _ => failed _ rfl) fun _ => ?_
  exact ite_ind (fun _ h => absurd (show "matched" = "needInstall" from h) (by decide))
    fun _ h => absurd (show "continue" = "needInstall" from h) (by decide)

end Repl
end Raft
