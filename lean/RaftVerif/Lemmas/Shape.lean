/-
Which fields the small state updates of `Model/Node.lean` and `Model/Handlers.lean` write, each as one record update
`f s = { s with … }` whose new values are the projections of `f s` itself (`changeConfigR_shape` and
`publishSnapshot_shape` give the values). A fact "`f` leaves field `x` alone" is then `by rw [f_shape]` (the projection of a
record update reduces by `rfl`), without unfolding `f` and splitting its conditionals again; facts about the written
fields still unfold `f`. At the end: what moving the commit index over a configuration entry does (`setCommitIndexR_spec`).
-/
import RaftVerif.Model.Step
import RaftVerif.Lemmas.ShapeLog

namespace Raft

/-- Case analysis on a conditional without rewriting the goal: only the motive `P` is unified (`split` elaborates the whole
goal again in each branch). -/
theorem ite_ind {α : Sort _} {P : α → Prop} {c : Prop} [Decidable c] {a b : α} (ha : c → P a) (hb : ¬c → P b) :
    P (if c then a else b) := by
  split
  · exact ha ‹_›
  · exact hb ‹_›

/-- a fold that never raises its accumulator ends at or below where it started -/
theorem foldl_le_init {β : Type} (g : Nat → β → Nat) (hg : ∀ m r, g m r ≤ m) (rs : List β) (init : Nat) :
    rs.foldl g init ≤ init := by
  induction rs generalizing init with
  | nil => exact Nat.le_refl _
  | cons r rs ih => exact Nat.le_trans (ih _) (hg _ _)

/-- the least match index among `rs` and `init` -/
theorem foldl_min_le (rs : List Repl) : ∀ (init : Nat) (r : Repl), r ∈ rs →
    rs.foldl (fun m r => if r.matchIndex < m then r.matchIndex else m) init ≤ r.matchIndex := by
  induction rs with
  | nil => intro _ r hr; cases hr
  | cons a t ih =>
    intro init r hr
    rw [List.foldl_cons]
    rcases List.mem_cons.mp hr with e | e
    · rw [e]
      have := foldl_le_init (fun m (r : Repl) => if r.matchIndex < m then r.matchIndex else m)
        (fun m r => by split <;> omega) t (if a.matchIndex < init then a.matchIndex else init)
      by_cases hlt : a.matchIndex < init
      · rw [if_pos hlt] at this ⊢; exact this
      · rw [if_neg hlt] at this ⊢; omega
    · exact ih _ r e

namespace Node

theorem panic_shape (s : Node) (site : String) : s.panic site = { s with panicked := (s.panic site).panicked } := by
  unfold panic; split <;> rfl

theorem assert_shape (s : Node) (b : Bool) (site : String) :
    s.assert b site = { s with panicked := (s.assert b site).panicked } := by
  unfold assert; split
  · rfl
  · exact panic_shape s site

theorem reply_shape (s : Node) (t : Nat) (r : String) : s.reply t r = { s with replies := (s.reply t r).replies } := by
  unfold reply; split <;> rfl

theorem doClose_shape (s : Node) (r : String) : s.doClose r = { s with closed := (s.doClose r).closed } := by
  unfold doClose; split <;> rfl

theorem storeTermVote_shape (s : Node) (t c : Nat) :
    s.storeTermVote t c =
      { s with term := t, votedFor := c, durTerm := (s.storeTermVote t c).durTerm,
               durVote := (s.storeTermVote t c).durVote, trace := (s.storeTermVote t c).trace } := by
  unfold storeTermVote; dsimp only; split <;> rfl

theorem storeTermVote_dur (s : Node) (t c : Nat) :
    (s.storeTermVote t c).durTerm = t ∧ (s.storeTermVote t c).durVote = c := by
  unfold storeTermVote; dsimp only
  split
  · rename_i h; exact ⟨h.1.symm, h.2.symm⟩
  · exact ⟨rfl, rfl⟩

theorem setTerm_shape (s : Node) (t : Nat) :
    s.setTerm t =
      { s with term := (s.setTerm t).term, votedFor := (s.setTerm t).votedFor, durTerm := (s.setTerm t).durTerm,
               durVote := (s.setTerm t).durVote, trace := (s.setTerm t).trace,
               panicked := (s.setTerm t).panicked } := by
  unfold setTerm
  split
  · split
    · rw [storeTermVote_shape]
    · rw [panic_shape]
  · rfl

theorem setVotedFor_shape (s : Node) (t c : Nat) :
    s.setVotedFor t c =
      { s with term := (s.setVotedFor t c).term, votedFor := (s.setVotedFor t c).votedFor,
               durTerm := (s.setVotedFor t c).durTerm, durVote := (s.setVotedFor t c).durVote,
               trace := (s.setVotedFor t c).trace, panicked := (s.setVotedFor t c).panicked } := by
  unfold setVotedFor
  split
  · split
    · rw [storeTermVote_shape]
    · rw [panic_shape]
  · rfl

theorem changeConfigR_shape (s : Node) (c : Config) :
    s.changeConfigR c =
      { s with leader := if s.leader ≠ 0 ∧ (!c.isVoter s.leader) = true then 0 else s.leader,
               configs := { committed := s.configs.latest, latest := c } } := by
  unfold Node.changeConfigR Node.setLeader
  dsimp only
  split <;> rfl

theorem commitConfig_shape (s : Node) :
    s.commitConfig = { s with configs := s.commitConfig.configs, leader := s.commitConfig.leader } := by
  unfold commitConfig; dsimp only; split <;> rfl

theorem stepDownIfNotVoter_shape (s : Node) :
    s.stepDownIfNotVoter = { s with role := s.stepDownIfNotVoter.role, leader := s.stepDownIfNotVoter.leader } := by
  unfold stepDownIfNotVoter; split <;> rfl

theorem closeIfRemoved_shape (s : Node) : s.closeIfRemoved = { s with closed := s.closeIfRemoved.closed } := by
  unfold closeIfRemoved; split
  · exact doClose_shape s _
  · rfl

theorem afterConfigCommit_shape (s : Node) :
    s.afterConfigCommit =
      { s with role := s.afterConfigCommit.role, leader := s.afterConfigCommit.leader,
               closed := s.afterConfigCommit.closed } := by
  unfold afterConfigCommit closeIfRemoved stepDownIfNotVoter
  split <;> split <;> first | rfl | (rw [doClose_shape] <;> rfl)

theorem setCommitIndexR_shape (s : Node) (i : Nat) :
    (s.setCommitIndexR i).1 =
      { s with commitIndex := i, configs := (s.setCommitIndexR i).1.configs, role := (s.setCommitIndexR i).1.role,
               leader := (s.setCommitIndexR i).1.leader, closed := (s.setCommitIndexR i).1.closed } := by
  unfold setCommitIndexR
  split
  · dsimp only; rw [afterConfigCommit_shape, commitConfig_shape]; rfl
  · rfl

theorem setCommitIndexR_panicked (s : Node) (i : Nat) : (s.setCommitIndexR i).1.panicked = s.panicked := by
  rw [setCommitIndexR_shape]

theorem appendEntry_shape (s : Node) (e : Entry) :
    s.appendEntry e =
      { s with log := (s.appendEntry e).log, lastLogIndex := e.index, lastLogTerm := e.term,
               panicked := (s.appendEntry e).panicked } := by
  unfold appendEntry
  dsimp only
  rw [assert_shape]

theorem publishSnapshot_shape (s : Node) (f : SnapFile) :
    s.publishSnapshot f =
      { s with snapsDisk := (insertSnap f s.snapsDisk).take s.retain, snapIndex := f.index, snapTerm := f.term,
               trace := (s.publishSnapshot f).trace } := rfl

theorem fsmRestore_shape (s : Node) :
    s.fsmRestore = { s with fsm := s.fsmRestore.fsm, panicked := s.fsmRestore.panicked } := by
  unfold fsmRestore
  split
  · rw [panic_shape]
  · split
    · rfl
    · rw [panic_shape]

theorem ite_withFsm (c : Prop) [Decidable c] (s : Node) (f : Fsm) :
    (if c then s.withFsm f else s) = s.withFsm (if c then f else s.fsm) := by split <;> rfl

theorem snapRun_shape (s : Node) :
    s.snapRun =
      { s with snapPending := s.snapRun.snapPending, snapResult := s.snapRun.snapResult,
               snapsDisk := s.snapRun.snapsDisk, snapIndex := s.snapRun.snapIndex, snapTerm := s.snapRun.snapTerm,
               trace := s.snapRun.trace } := by
  unfold snapRun
  split
  · rfl
  · dsimp only
    split
    · rfl
    · split
      · rfl
      · rw [publishSnapshot_shape]; rfl

theorem notifyFlr_shape (s : Node) : s.notifyFlr = { s with panicked := s.notifyFlr.panicked } := by
  unfold notifyFlr
  split
  · rfl
  · split
    · rfl
    · rw [panic_shape]

theorem startRound_shape (l a : Nat) (st : Repl) : startRound l a st = { st with round := (startRound l a st).round } := by
  unfold startRound
  split
  · rfl
  · split <;> rfl

theorem finishRound_shape (l : Nat) (st : Repl) (rd : Round) :
    (finishRound l st rd).1 = { st with round := (finishRound l st rd).1.round } := by
  unfold finishRound
  dsimp only
  repeat' split
  all_goals rfl

theorem roundStep_shape (l a : Nat) (st : Repl) : (roundStep l a st).1 = { st with round := (roundStep l a st).1.round } := by
  unfold roundStep
  dsimp only
  split
  · exact startRound_shape l a st
  · rw [finishRound_shape, startRound_shape]

/-- `doClose` is `closeOnce`: a closed node keeps its reason. -/
theorem doClose_of_closed (s : Node) (r : String) (h : s.closed ≠ "") : s.doClose r = s := by
  unfold doClose; rw [if_pos (by simp [isClosed, h])]

theorem afterConfigCommit_closed (s : Node) (h : s.closed ≠ "") : s.afterConfigCommit.closed = s.closed := by
  have e : s.stepDownIfNotVoter.closed = s.closed := by rw [stepDownIfNotVoter_shape]
  unfold afterConfigCommit closeIfRemoved
  split
  · rw [doClose_of_closed _ _ (by rw [e]; exact h), e]
  · exact e

theorem setCommitIndexR_of_closed (s : Node) (i : Nat) (h : s.closed ≠ "") : (s.setCommitIndexR i).1.closed = s.closed := by
  unfold setCommitIndexR
  split
  · have e : (s.withCommitIndex i).commitConfig.closed = s.closed := by rw [commitConfig_shape]; rfl
    show (s.withCommitIndex i).commitConfig.afterConfigCommit.closed = s.closed
    rw [afterConfigCommit_closed _ (by rw [e]; exact h), e]
  · rfl

theorem commitConfig_latest (s : Node) : s.commitConfig.configs.latest = s.configs.latest := by
  unfold commitConfig; dsimp only; split <;> rfl

theorem stepDownIfNotVoter_latest (s : Node) : s.stepDownIfNotVoter.configs.latest = s.configs.latest := by
  unfold stepDownIfNotVoter; split <;> rfl

theorem setCommitIndexR_latest (s : Node) (i : Nat) : (s.setCommitIndexR i).1.configs.latest = s.configs.latest := by
  unfold setCommitIndexR
  refine ite_ind (P := fun p : Node × Bool => p.1.configs.latest = s.configs.latest) (fun _ => ?_) fun _ => rfl
  unfold afterConfigCommit
  rw [closeIfRemoved_shape]
  show (s.withCommitIndex i).commitConfig.stepDownIfNotVoter.configs.latest = _
  rw [stepDownIfNotVoter_latest, commitConfig_latest]
  rfl

/-- after a configuration is committed the role stays, or a leader without the vote becomes follower -/
theorem afterConfigCommit_role (x : Node) :
    (x.afterConfigCommit.role = x.role ∨
      (x.configs.latest.isVoter x.nid = false ∧ x.afterConfigCommit.role = .follower)) ∧
    (x.afterConfigCommit.role = .leader → x.configs.latest.isVoter x.nid = true) := by
  have e : x.afterConfigCommit.role = x.stepDownIfNotVoter.role := by
    unfold afterConfigCommit; rw [closeIfRemoved_shape]
  rw [e]
  unfold stepDownIfNotVoter
  split
  · rename_i h
    exact ⟨Or.inr ⟨by simpa using h.2, rfl⟩, fun e => by cases e⟩
  · rename_i hcond
    refine ⟨Or.inl rfl, fun hl => ?_⟩
    cases hv : x.configs.latest.isVoter x.nid with
    | true => rfl
    | false => exact absurd ⟨hl, by rw [hv]; rfl⟩ hcond

/-- **`Raft.setCommitIndex`, the values of the fields it writes besides `commitIndex`** (`setCommitIndexR_shape` says which
fields are written at all): the flag
says that the latest configuration, not committed so far, lies at or below `i`; then it becomes the committed one and a
leader without the vote in it steps down; otherwise configurations and role stay. -/
theorem setCommitIndexR_spec (s : Node) (i : Nat) :
    ((s.setCommitIndexR i).2 = true ↔ s.configs.isCommitted = false ∧ s.configs.latest.index ≤ i) ∧
    ((s.setCommitIndexR i).2 = true → (s.setCommitIndexR i).1.configs = ⟨s.configs.latest, s.configs.latest⟩) ∧
    ((s.setCommitIndexR i).2 = false →
      (s.setCommitIndexR i).1.configs = s.configs ∧ (s.setCommitIndexR i).1.role = s.role) ∧
    ((s.setCommitIndexR i).1.role = s.role ∨
      (s.configs.latest.isVoter s.nid = false ∧ (s.setCommitIndexR i).1.role = .follower)) ∧
    ((s.setCommitIndexR i).1.role = .leader → (s.setCommitIndexR i).2 = true →
      s.configs.latest.isVoter s.nid = true) := by
  unfold setCommitIndexR
  split
  · rename_i hc
    have hc' : s.configs.isCommitted = false ∧ s.configs.latest.index ≤ i := by simpa using hc
    have c1 : (s.withCommitIndex i).commitConfig.configs = ⟨s.configs.latest, s.configs.latest⟩ := by
      unfold commitConfig; dsimp only; split <;> rfl
    have c2 : (s.withCommitIndex i).commitConfig.role = s.role ∧ (s.withCommitIndex i).commitConfig.nid = s.nid := by
      rw [commitConfig_shape]; exact ⟨rfl, rfl⟩
    obtain ⟨r1, r2⟩ := afterConfigCommit_role (s.withCommitIndex i).commitConfig
    rw [c1, c2.1, c2.2] at r1
    rw [c1, c2.2] at r2
    refine ⟨⟨fun _ => hc', fun _ => rfl⟩, fun _ => ?_, fun h => Bool.noConfusion h, r1, fun hl _ => r2 hl⟩
    show (s.withCommitIndex i).commitConfig.afterConfigCommit.configs = _
    rw [afterConfigCommit_shape]; exact c1
  · rename_i hc
    have hc' : ¬ (s.configs.isCommitted = false ∧ s.configs.latest.index ≤ i) := by simpa using hc
    exact ⟨⟨fun h => Bool.noConfusion h, fun h => absurd h hc'⟩, fun h => Bool.noConfusion h, fun _ => ⟨rfl, rfl⟩,
      Or.inl rfl, fun _ h => Bool.noConfusion h⟩

theorem setCommitIndexR_role_voter (s : Node) (i : Nat) (hv : s.configs.latest.isVoter s.nid = true) :
    (s.setCommitIndexR i).1.role = s.role :=
  (setCommitIndexR_spec s i).2.2.2.1.resolve_right fun h => by rw [hv] at h; cases h.1

theorem storeItems_nil (n : Nat) (s : Node) : storeItems n s [] = s := by
  unfold storeItems; rfl

end Node
end Raft
