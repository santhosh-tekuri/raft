/-
A crash during a step + restart, and a leader putting a request on the wire, preserve the invariant `MemberInv.MInv`
(the generalisation of `C02Sys.CC` / `C02Sys.cinv_send` to the system with membership changes); `minv_trans`: every
transition of `Member.Sys` does. The restarted node is an instance of the "one node replaced" lemmas of
Lemmas/MemberStep.lean (`nodeM_of`, `cfgM_of`, `recOK_mono`, `voteM_of`, `SM.recM_of`).
-/
import RaftVerif.Lemmas.MemberStep

namespace Raft
namespace MemberStep
open Node Election LogRel Replication CommitRel Commit Member MemberCore MemberInv MemberCommit
open SM (recOf)

/-- what is on disk when node `i` dies while handling `op` -/
structure DImg (x : Member.Sys) (G : Ghost) (i : Nat) (op : Op) (post : Node) (d : Durable) : Prop where
  snaps : d.snaps = []
  prev : d.log.prev = 0
  dw : DW d
  pair : PairOK (x.node i) (AOp (x.node i) op) d.term d.vote
  termLe : ∀ e ∈ d.log.entries, e.term ≤ d.term
  dur : ∀ a ∈ acksG x G, a.voter = i → ∀ b : K, b.2 = a.term → DurHolds (x.node i) b →
    (b.1 ≤ d.log.entries.length ∧ Holds d.log.entries b.1 b.2) ∨ Unsafe x.cm.T b d.term
  within : (∀ q, op ≠ .append q) → d.log.entries <+: (x.node i).log.entries ∨ d.log.entries <+: post.log.entries
  growp : (∀ q, op ≠ .append q) → (x.node i).log.entries.length < d.log.entries.length →
    (d.term = post.term ∧ d.vote = post.votedFor) ∨
    ((x.node i).role = .leader ∧ lastTerm d.log.entries = (x.node i).term)
  /-- a step with a commit moment makes no new vote durable -/
  evp : ∀ T L, MEvs (x.node i) (Commit.Backed x.cm i) post T L → L ≠ [] → PairOK (x.node i) AF d.term d.vote
  /-- what was flushed — and does not conflict with the request handled, if it is not stale — is on disk -/
  keep : ∀ k, k ≤ (x.node i).log.flushed →
    (∀ q, op = .append q → ¬ q.term < (x.node i).term → NoConf (x.node i) q k) →
    d.log.entries.take k = (x.node i).log.entries.take k ∧ k ≤ d.log.entries.length

/-- `DImg` is the disk image of `Commit.DImgC` and the clause about the commit moments of the step -/
theorem DImg.of_base {x : Member.Sys} {G : Ghost} {i : Nat} {op : Op} {post : Node} {d : Durable}
    (c : DImgC x.cm (acksG x G) i op post d)
    (evp : ∀ T L, MEvs (x.node i) (Commit.Backed x.cm i) post T L → L ≠ [] → PairOK (x.node i) AF d.term d.vote) :
    DImg x G i op post d :=
  ⟨c.snaps, c.prev, c.dw, c.pair, c.termLe, c.dur, c.within, c.growp, evp, c.keep⟩

namespace SM
variable {x : Member.Sys} {G : Ghost} {i : Nat} {op : Op} {ra : List Nat} {ord : List (List Nat)} {src : Nat}

theorem img_pre (h : SM x G i op ra ord src) : DImg x G i op h.post (x.node i).durable := by
  refine .of_base h.toC.img_pre fun _ _ _ _ => ?_
  show PairOK _ _ (x.node i).durTerm (x.node i).durVote
  rw [(h.inv.rp.el.ids i).2.1, (h.inv.rp.el.ids i).2.2]
  exact ⟨Nat.le_refl _, Or.inr (Or.inl ⟨rfl, rfl⟩)⟩

theorem img_post (h : SM x G i op ra ord src) : DImg x G i op h.post h.post.durable := by
  refine .of_base (h.toC.img_post) fun T L m hne => ?_
  show PairOK _ _ h.post.durTerm h.post.durVote
  rw [h.vstep.2.1, h.vstep.2.2]
  exact (m.trp hne).1

theorem img_trace (h : SM x G i op ra ord src) {p : String × Durable} (hp : p ∈ h.post.trace) :
    DImg x G i op h.post p.2 := by
  refine .of_base (h.toC.img_trace hp) fun T L m hne => ?_
  rcases op_cases op with happ | ⟨q, rfl⟩
  · exact (m.trp hne).2 p hp
  · by_cases hst : q.term < (x.node i).term
    · have : h.post.trace = [] := (append_stale _ q ra ord hst).2.2.2.2.1
      rw [this] at hp; cases hp
    · exact ((h.fst hst).2.tr p hp).pair

theorem imgC (h : SM x G i op ra ord src) (k : Nat) :
    DImgC x.cm (acksG x G) i op h.post (C05.crashDisk (x.node i) op ra ord k) :=
  h.toC.img k

theorem img (h : SM x G i op ra ord src) (k : Nat) : DImg x G i op h.post (C05.crashDisk (x.node i) op ra ord k) :=
  C05.crashDisk_of (D := DImg x G i op h.post) _ op ra ord k h.img_pre h.img_post fun _ hp => h.img_trace hp

theorem prot_noConf (h : SM x G i op ra ord src) {k : Nat} (hp : ProtG x G i k) :
    ∀ q, op = .append q → ¬ q.term < (x.node i).term → NoConf (x.node i) q k := by
  intro q hq hns
  subst hq
  exact protNoConf h.inv h.side.tree (h.fst hns).1 hns hp

end SM

structure CM (x : Member.Sys) (G : Ghost) (i : Nat) (op : Op) (ra : List Nat) (ord : List (List Nat))
    (src k retain : Nat) (sor : Bool) (n : Node) : Prop where
  sm : SM x G i op ra ord src
  hn : Node.restart (C05.crashDisk (x.node i) op ra ord k) retain sor = some n

namespace CM
variable {x : Member.Sys} {G : Ghost} {i : Nat} {op : Op} {ra : List Nat} {ord : List (List Nat)}
  {src k retain : Nat} {sor : Bool} {n : Node}

abbrev y (_h : CM x G i op ra ord src k retain sor n) : Member.Sys := crashM x i op n

theorem node_i (h : CM x G i op ra ord src k retain sor n) : h.y.node i = n := crashM_node_i x i op n

theorem node_j (h : CM x G i op ra ord src k retain sor n) {j : Nat} (hj : j ≠ i) : h.y.node j = x.node j :=
  crashM_node_j x i op n hj

theorem ry (h : CM x G i op ra ord src k retain sor n) : C04Member.RInv h.y.cm.rp h.y.ecfg :=
  C04Member.rinv_upd h.sm.inv.rp h.sm.esafe i op src n h.sm.en.rp.id (h.sm.side.q1 i) h.sm.en.rp.real
    (C04Member.upd_crash h.sm.inv.rp i (h.sm.side.boot i) op ra ord src k retain sor n h.sm.en.rp h.hn)
    { x.cm.rp.el with node := setNode x.cm.rp.el.node i n } _ rfl (fun _ hg => hg)
    (fun _ hk => List.mem_append_right _ hk)
    (C01Member.einv_crash x.cm.rp.el x.ecfg h.sm.inv.rp.el i op ra ord k retain sor n h.hn)

theorem facts (h : CM x G i op ra ord src k retain sor n) :
    n.term = (C05.crashDisk (x.node i) op ra ord k).term ∧
    n.votedFor = (C05.crashDisk (x.node i) op ra ord k).vote ∧ C05.VoteWF n ∧ n.role = .follower ∧
    n.commitIndex = 0 ∧ n.fsm = {} ∧ n.log.flushed = n.log.entries.length ∧ C06.LogWF n.log ∧
    n.log.entries = (C05.crashDisk (x.node i) op ra ord k).log.entries :=
  (h.sm.imgC k).restarted h.hn

/-- the restarted node is a follower: a node that is not is untouched -/
theorem node_nf (h : CM x G i op ra ord src k retain sor n) {j : Nat} (hr : (h.y.node j).role ≠ .follower) :
    h.y.node j = x.node j := by
  by_cases hj : j = i
  · subst hj; rw [h.node_i] at hr; exact absurd h.facts.2.2.2.1 hr
  · exact h.node_j hj

theorem node_ldr (h : CM x G i op ra ord src k retain sor n) {j : Nat} (hl : (h.y.node j).role = .leader) :
    h.y.node j = x.node j := h.node_nf (by rw [hl]; decide)

theorem ext (h : CM x G i op ra ord src k retain sor n) : Ext x.cm h.y.cm i :=
  .of_grows (grows_crash x.cm i op n) (fun j hj => h.node_j hj)
    (NodeSys.forall_setNode (P := fun j s => (x.node j).term ≤ s.term)
      (by rw [h.facts.1]; exact (h.sm.img k).pair.1) (fun _ _ => Nat.le_refl _))
    h.ry.uniq h.sm.inv.tree.pathc

theorem repl (h : CM x G i op ra ord src k retain sor n) : ReplC x.cm h.y.cm (acksG x G) i op n :=
  ⟨core_of_minv h.sm.inv, h.ext, h.sm.en.rp.id, h.node_i,
    C04Member.upd_crash h.sm.inv.rp i (h.sm.side.boot i) op ra ord src k retain sor n h.sm.en.rp h.hn,
    logCore h.ry.logInv, rfl, rfl⟩

theorem newM (h : CM x G i op ra ord src k retain sor n) : ∃ es te, NewM x h.y G i op src es te :=
  let ⟨es, te, c, _⟩ := h.repl.newC_restart h.facts.2.2.2.1 h.sm.creator
  ⟨es, te, h.sm.inv, h.sm.side, c.i0, c.ext, h.ry, c.T, c.log, c.keepL, c.ent, c.story, h.sm.en.rp.real, c.ldr⟩

theorem treeM (h : CM x G i op ra ord src k retain sor n) : TreeM h.y G := by
  obtain ⟨es, te, hN⟩ := h.newM
  exact hN.treeM

theorem nodeM (h : CM x G i op ra ord src k retain sor n) : NodeM h.y := by
  obtain ⟨f1, _, _, f4, _, _, f7, f8, f9⟩ := h.facts
  have hfol : (h.y.cm.node i).role = .follower := by rw [show h.y.cm.node i = n from h.node_i]; exact f4
  refine nodeM_of (nodes_of (core_of_minv h.sm.inv) h.ext (.restarted hfol ?_ ?_ ?_))
    (NodeSys.forall_setNode (P := fun _ s => s.role = .leader → s.configs.isCommitted = true →
      s.configs.latest.index < s.ldr.startIndex ∨ s.configs.latest.index ≤ s.commitIndex)
      (fun hl => by rw [f4] at hl; cases hl) fun j _ => h.sm.inv.node.cc j) <;>
    rw [show h.y.cm.node i = n from h.node_i]
  · exact f8
  · exact f7
  · rw [f9, f1]; exact (h.sm.img k).termLe


/-- **commit indexes** after a crash: the restarted node's is 0 -/
theorem cmtM (h : CM x G i op ra ord src k retain sor n) : CmtM h.y := by
  refine ⟨cc_of (core_of_minv h.sm.inv) h.ext fun k' hk hk2 => ?_⟩
  rw [show h.y.cm.node i = n from h.node_i, h.facts.2.2.2.2.1] at hk2
  omega

/-- the commit moments of the interrupted step that are kept: those that happened within the log found on disk -/
def kept (n : Node) (L : List CEvt) : List CEvt := L.filter (fun ev => decide (ev.len ≤ n.log.entries.length))

theorem mem_kept {n : Node} {L : List CEvt} {ev : CEvt} : ev ∈ kept n L ↔ ev ∈ L ∧ ev.len ≤ n.log.entries.length := by
  unfold kept
  rw [List.mem_filter]
  simp

def selfOf (i T : Nat) (ev : CEvt) : Ack := ⟨i, T, ev.ci, T⟩

/-- after a crash in a step that is not an append request the log found on disk is a prefix of the log the completed
step produces -/
theorem le_post (h : CM x G i op ra ord src k retain sor n) (happ : ∀ q, op ≠ .append q) :
    n.log.entries <+: h.sm.post.log.entries := by
  obtain ⟨es, te, _, hle⟩ := h.sm.newM happ
  rw [h.facts.2.2.2.2.2.2.2.2]
  exact ((h.sm.img k).within happ).elim (fun w => w.trans (by rw [hle]; exact List.prefix_append _ _)) id

end CM


/-- what is known of a ghost self acknowledgement added at a crash -/
structure SelfA (x : Member.Sys) (i : Nat) (n : Node) (a : Ack) : Prop where
  voter : a.voter = i
  et : a.eterm = a.term
  term : a.term = (x.node i).term
  leader : (x.node i).role = .leader
  holds : Holds n.log.entries a.index a.term
  pair : PairOK (x.node i) AF n.term n.votedFor

namespace CM
variable {x : Member.Sys} {G : Ghost} {i : Nat} {op : Op} {ra : List Nat} {ord : List (List Nat)}
  {src k retain : Nat} {sor : Bool} {n : Node}

/-- a commit moment of the interrupted step that is kept: the node was leader of `T`, and no new vote reached the
disk -/
theorem selfA_kept (h : CM x G i op ra ord src k retain sor n) (happ : ∀ q, op ≠ .append q) {T : Nat} {L : List CEvt}
    (m : MEvs (x.node i) (Commit.Backed x.cm i) h.sm.post T L) {ev : CEvt} (hev : ev ∈ kept n L) :
    SelfA x i n (selfOf i T ev) := by
  obtain ⟨hevL, hlen⟩ := mem_kept.mp hev
  have hne : L ≠ [] := List.ne_nil_of_mem hevL
  obtain ⟨hl, hT⟩ := h.sm.ev_leader m hne
  obtain ⟨_, a2, _, _, hci, _⟩ := m.ev ev hevL
  refine ⟨rfl, rfl, hT, hl, holds_of_prefix (h.le_post happ) hci (by show ev.ci ≤ _; omega), ?_⟩
  rw [h.facts.1, h.facts.2.1]
  exact (h.sm.img k).evp T L m hne

theorem acks_cases (h : CM x G i op ra ord src k retain sor n) {SAn : List Ack} {a : Ack}
    (ha : a ∈ h.y.cm.acks ++ (SAn ++ G.SA)) : a ∈ SAn ∨ a ∈ acksG x G := by
  rcases List.mem_append.mp ha with ha | ha
  · exact Or.inr (List.mem_append_left _ ha)
  · rcases List.mem_append.mp ha with ha | ha
    · exact Or.inl ha
    · exact Or.inr (List.mem_append_right _ ha)

/-- a new self acknowledgement is never older than a campaign node `i` takes part in after the restart -/
theorem selfA_term (_h : CM x G i op ra ord src k retain sor n) {a : Ack} (hs : SelfA x i n a) (hv : n.votedFor ≠ 0) :
    n.term = a.term := by
  rcases hs.pair.2 with p | ⟨p, _⟩ | p
  · exact absurd p hv
  · rw [p, hs.term]
  · exact p.elim

/-- the (term, vote) pair and what the node held durably are those of the disk it restarts from (`DImgC`) -/
theorem coreUpd (h : CM x G i op ra ord src k retain sor n) {SAn : List Ack} (hnew : ∀ a ∈ SAn, SelfA x i n a) :
    CoreUpd x.cm h.y.cm (acksG x G) (h.y.cm.acks ++ (SAn ++ G.SA)) i op src n :=
  ⟨h.repl, (h.sm.imgC k).keepsAcked h.hn, (h.sm.imgC k).pair_n h.hn, h.sm.en.vote,
    fun a ha => (h.acks_cases ha).elim (fun hn => Or.inr ⟨(hnew a hn).voter, Nat.le_of_eq (hnew a hn).term.symm,
      fun hv => Nat.le_of_eq (h.selfA_term (hnew a hn) hv)⟩) Or.inl,
    fun _ hg => Or.inr hg, fun _ he => Or.inr he, h.sm.en.rp.real, rfl⟩

theorem sentM (h : CM x G i op ra ord src k retain sor n) : SentM h.y :=
  sentM_of h.sm.inv (h.coreUpd (SAn := []) fun _ ha => by cases ha)

/-- a ghost self acknowledgement added at the crash: the restarted node is flushed, and was leader of the term -/
theorem selfAck_at (h : CM x G i op ra ord src k retain sor n) {a : Ack} (s : SelfA x i n a) :
    SelfAck h.y.cm i n a := by
  refine ⟨s.voter, s.et, by rw [s.term]; exact s.pair.1, s.holds, by rw [h.facts.2.2.2.2.2.2.1]; exact s.holds.2.1,
    fun r hr hk => ?_⟩
  have hrt : r.e.term = a.term := congrArg Prod.snd hk
  exact (h.repl.mem_T hr).elim id fun hold =>
    creator_is_leaderM h.sm.inv h.sm.side.tree s.leader hold (hrt.trans s.term)

theorem ackM (h : CM x G i op ra ord src k retain sor n) {SAn : List Ack} (hnew : ∀ a ∈ SAn, SelfA x i n a) :
    AckM h.y (h.y.cm.acks ++ (SAn ++ G.SA)) :=
  ackM_iff.mpr ((h.coreUpd hnew).ack_of fun a ha =>
    (h.acks_cases ha).elim (fun hn => Or.inr ((h.coreUpd hnew).ackAt_self (h.selfAck_at (hnew a hn)))) Or.inl)

theorem voteM (h : CM x G i op ra ord src k retain sor n) {SAn : List Ack} (hnew : ∀ a ∈ SAn, SelfA x i n a) :
    VoteM h.y (h.y.cm.acks ++ (SAn ++ G.SA)) := voteM_of h.sm.inv (h.coreUpd hnew) rfl

theorem recOK_old (h : CM x G i op ra ord src k retain sor n) (SAn : List Ack) {r : Rec}
    (hr : RecOK x (acksG x G) r) : RecOK h.y (h.y.cm.acks ++ (SAn ++ G.SA)) r :=
  recOK_mono h.sm.inv h.ext (fun _ ha => (List.mem_append.mp ha).elim (List.mem_append_left _)
    (fun ha => List.mem_append_right _ (List.mem_append_right _ ha))) hr

/-- **the commit records** after a crash in a step that is not an append request: the commit moments that happened
within the log found on disk are kept (with their ghost self acknowledgements) -/
theorem recM (h : CM x G i op ra ord src k retain sor n) (happ : ∀ q, op ≠ .append q) {T : Nat} {L : List CEvt}
    (m : MEvs (x.node i) (Commit.Backed x.cm i) h.sm.post T L) (E' : List El) :
    RecM h.y ⟨G.root, (kept n L).map (recOf T) ++ G.R, E', (kept n L).map (selfOf i T) ++ G.SA⟩ := by
  obtain ⟨es, te, hN⟩ := h.newM
  have hfol : n.role = .follower := h.facts.2.2.2.1
  have hnp := h.le_post happ
  refine h.sm.recM_of happ m hN h.node_i hnp (fun _ => mem_kept) (fun a ha => List.mem_append_left _ ha)
    (fun ev hev => ?_) (fun r hr => h.recOK_old _ (h.sm.inv.recs.recd r hr)) (fun _ hm' => Or.inr hm')
    (fun hl => by rw [hfol] at hl; cases hl) (fun hl => by rw [hfol] at hl; cases hl)
  obtain ⟨hevL, hlen⟩ := mem_kept.mp hev
  obtain ⟨_, a2, _, _, hci, _⟩ := m.ev ev hevL
  have hci' : Holds n.log.entries ev.ci T := holds_of_prefix hnp hci (by omega)
  exact ⟨selfOf i T ev, List.mem_append_right _ (List.mem_append_left _ (List.mem_map.mpr ⟨ev, hev, rfl⟩)), rfl, rfl,
    h.repl.anc_i hci' hci' (Nat.le_refl _)⟩

/-- **the commit records** after a crash in a step handling an append request: nothing is added -/
theorem recM_app {q : AppendReq} (h : CM x G i (.append q) ra ord src k retain sor n) : RecM h.y G := by
  have hI := h.sm.inv
  have hT : h.y.cm.T = x.cm.T := rfl
  refine ⟨fun r hr => ?_, hI.recs.mono, hI.recs.cover, by rw [hT]; exact hI.recs.chain, fun j hl hst => ?_,
    by rw [hT]; exact hI.recs.init, fun j hl r hr ht => ?_⟩
  · exact h.recOK_old [] (hI.recs.recd r hr)
  · have e := h.node_ldr hl
    rw [e] at hl hst ⊢; exact hI.recs.lead j hl hst
  · have e := h.node_ldr hl
    rw [e] at hl ht ⊢; exact hI.recs.bound j hl r hr ht

/-- **configurations and logs after a crash and the restart**: the restarted node's configurations are the last two
configuration entries of what it found on disk -/
theorem cfgM (h : CM x G i op ra ord src k retain sor n) (hsidey : SideT (crashM x i op n)) (G' : Ghost)
    (hroot : G'.root = G.root) (hsub : ∀ r ∈ G.R, r ∈ G'.R) : CfgM h.y G' := by
  have hI := h.sm.inv
  have hE := h.ext
  have hR := h.ry
  have t := h.treeM
  have hni := h.node_i
  have im := h.sm.img k
  obtain ⟨_, _, _, _, _, _, f7, _, f9⟩ := h.facts
  have hnw : NWF n := by
    have := (hR.nodes i).1
    rwa [show h.y.cm.rp.el.node i = _ from hni] at this
  have hne : 1 ≤ (x.node i).log.entries.length := by
    obtain ⟨⟨e, he, _⟩, _⟩ := hI.cfg.cl i
    exact List.length_pos_of_mem he
  have hhx := holds_root hI.rp hI.tree.rootA i hne
  have hrootx : ProtG x G i G.root.1 := protG_root hhx
  obtain ⟨k1, k2⟩ := im.keep G.root.1 (hI.cfg.rootFl i) (h.sm.prot_noConf hrootx)
  have hhn : Holds n.log.entries G.root.1 G.root.2 := by
    rw [f9]; exact holds_of_take_eq k1 hhx (Nat.le_refl _)
  have hhy : Holds (h.y.node i).log.entries G.root.1 G.root.2 := by rw [hni]; exact hhn
  obtain ⟨c0, hc0, hk0, ht0, _⟩ := t.rootC
  have e1 : c0.e.index = G.root.1 := by rw [← hk0]; rfl
  have e2 : c0.e.term = G.root.2 := by rw [← hk0]; rfl
  have hm0 : c0.e ∈ n.log.entries := by
    have := record_in_take hR i (h.y.node i).log.entries.length hc0 (by rw [e1, e2]; exact hhy)
      (by rw [e1]; exact hhy.2.1)
    rw [hni] at this
    exact List.mem_of_mem_take this
  have hdec : ∀ e ∈ n.log.entries, e.typ = etConfig → ∃ c, e.config? = some c := by
    intro e he ht
    obtain ⟨c, hc, hce, _⟩ := log_entry_record hR i (by rw [hni]; exact he)
    have := hsidey.dec c hc (by rw [hce]; exact ht)
    rwa [hce] at this
  obtain ⟨R1, R2⟩ := MemberFollow.restart_cfg _ retain sor n h.hn im.snaps im.prev (by rw [← f9]; exact hnw.contig)
    (by rw [← f9]; exact hdec) ⟨c0.e, by rw [← f9]; exact hm0, ht0⟩
  rw [← f9] at R1 R2
  refine cfgM_of hI hE hni hroot hsub R1 ?_ (by rw [f7]; exact hhn.2.1)
  rcases R2 with p | p
  · exact Or.inr p
  · have := prot_single hR (by rw [hroot]; exact t.rootC) (by rw [hroot]; exact t.rootA) (by rw [hni]; exact R1)
      (by rw [hni]; exact p)
    rw [hni] at this
    exact Or.inl this

/-- **a crash during a step and the restart preserve the invariant**, for new ghost ledgers that extend the old ones
(the commit moments of the interrupted step that are kept, with their self acknowledgements, are added) — given the
side condition on the tree in the state after the restart (a hypothesis of this lemma and of `cfgM` only, so that the
other facts about the restarted state can be used to establish it) -/
theorem minv_grow (h : CM x G i op ra ord src k retain sor n) (hsidey : SideT (crashM x i op n)) :
    ∃ G', MInv h.y G' ∧ G'.root = G.root ∧ (∀ r ∈ G.R, r ∈ G'.R) ∧ ∀ a ∈ G.SA, a ∈ G'.SA := by
  have hI := h.sm.inv
  rcases Commit.op_cases op with happ | ⟨q, rfl⟩
  · obtain ⟨T, L, m⟩ := h.sm.evs happ
    have hnew : ∀ a ∈ (kept n L).map (selfOf i T), SelfA x i n a := by
      intro a ha
      obtain ⟨ev, hev, rfl⟩ := List.mem_map.mp ha
      exact h.selfA_kept happ m hev
    obtain ⟨es, te, hN⟩ := h.newM
    obtain ⟨E', hE'⟩ := hN.elM (fun k hk => List.mem_append_right _ hk) ((kept n L).map (recOf T) ++ G.R)
      ((kept n L).map (selfOf i T) ++ G.SA) (h.coreUpd hnew).acks_term
    have t := h.treeM
    exact ⟨⟨G.root, (kept n L).map (recOf T) ++ G.R, E', (kept n L).map (selfOf i T) ++ G.SA⟩,
      ⟨h.ry, ⟨t.pathc, t.tmono, t.tbI, t.cu, t.ownLog, t.rootC, t.rootA, t.rootOnly, t.initLt⟩, h.nodeM, h.sentM,
        h.ackM hnew, h.voteM hnew, h.recM happ m E', hE', h.cmtM,
        h.cfgM hsidey _ rfl (fun r hr => List.mem_append_right _ hr)⟩,
      rfl, fun r hr => List.mem_append_right _ hr, fun a ha => List.mem_append_right _ ha⟩
  · have hnil : ∀ a ∈ ([] : List Ack), SelfA x i n a := fun a ha => by cases ha
    have hT : h.y.cm.T = x.cm.T := rfl
    refine ⟨G, ⟨h.ry, h.treeM, h.nodeM, h.sentM, h.ackM hnil, h.voteM hnil, h.recM_app, ?_, h.cmtM,
      h.cfgM hsidey G rfl (fun r hr => hr)⟩, rfl, fun r hr => hr, fun a ha => ha⟩
    refine ⟨by rw [hT]; exact hI.el.creator, fun e he => ?_⟩
    exact elOK_mono hI h.ext h.ry.uniq (fun k hk => List.mem_append_right _ hk) (h.coreUpd hnil).acks_term (hI.el.elect e he)

theorem minv (h : CM x G i op ra ord src k retain sor n) (hsidey : SideT (crashM x i op n)) :
    ∃ G', MInv h.y G' ∧ G'.root = G.root := by
  obtain ⟨G', hI', hr, _⟩ := h.minv_grow hsidey
  exact ⟨G', hI', hr⟩

end CM

theorem minv_send {x : Member.Sys} {G : Ghost} (hI : MInv x G) {i : Nat} {q : AppendReq}
    (hi : i ≠ 0) (hl : (x.node i).role = .leader) (hr : ReadFrom (x.node i) q)
    (hci : q.ldrCommitIndex ≤ (x.node i).commitIndex) :
    MInv { x with cm := { x.cm with rp := { x.cm.rp with sent := q :: x.cm.rp.sent } } } G := by
  refine ⟨C04Member.rinv_send hI.rp i q hr,
    ⟨hI.tree.pathc, hI.tree.tmono, hI.tree.tbI, hI.tree.cu, hI.tree.ownLog, hI.tree.rootC, hI.tree.rootA,
      hI.tree.rootOnly, hI.tree.initLt⟩,
    ⟨hI.node.lwf, hI.node.termLe, hI.node.unfl, hI.node.camp, hI.node.ldr, hI.node.cc⟩,
    sentM_iff.mpr ⟨List.forall_mem_cons.mpr ⟨((core_of_minv hI).sentAt_send hi hl hr hci).send q,
        fun q' hq' => ((sentM_iff.mp hI.sent).1 q' hq').send q⟩,
      List.forall_mem_cons.mpr ⟨fun c hc h0 => ?_, hI.sent.init⟩⟩,
    ⟨hI.ack.wf, fun a ha => ?_, hI.ack.stable⟩,
    ⟨hI.vote.campUniq, hI.vote.campWf, hI.vote.voteCamp, hI.vote.voteInv, hI.vote.grantInv, hI.vote.electInv,
      hI.vote.countedGrant, hI.vote.grantCamp, hI.vote.campCfg, hI.vote.cfgCamp⟩,
    ⟨hI.recs.recd, hI.recs.mono, hI.recs.cover, hI.recs.chain, hI.recs.lead, hI.recs.init, hI.recs.bound⟩,
    ⟨hI.el.creator, hI.el.elect⟩, ⟨hI.cmt.cc⟩, ⟨hI.cfg.cl, hI.cfg.sp, hI.cfg.rootFl⟩⟩
  · rw [hr.term]
    exact (hI.rp.init0 c hc h0 i).2 (by rw [show (x.cm.rp.el.node i).role = _ from hl]; decide)
  · rcases hI.ack.src a ha with ⟨q', hq'', r⟩ | r
    · exact Or.inl ⟨q', List.mem_cons_of_mem _ hq'', r⟩
    · exact Or.inr r

/-- **A transition of `Member.Sys` in which the operation at hand does not make a candidate or leader fail**: the
transitions of `Member.Trans`, each step / crash with the hypothesis that handling the operation to completion records
no failure (`panicked`) if the node is candidate or leader. (The state predicate `NoFail` asks this of EVERY enabled
operation and is unsatisfiable; Props/C08Member.lean proves the per-operation hypothesis from conditions on the initial
state and on what is delivered.) -/
inductive TransNF (x : Member.Sys) : Member.Sys → Prop
  | step (i : Nat) (op : Op) (ra : List Nat) (ord : List (List Nat)) (src : Nat) : Member.Enabled x i op src →
      ((x.node i).role ≠ .follower → ((x.node i).step op ra ord).panicked = none) →
      TransNF x (stepM x i op ra ord src)
  | crash (i : Nat) (op : Op) (ra : List Nat) (ord : List (List Nat)) (src k retain : Nat) (sor : Bool)
      (n : Node) : Member.Enabled x i op src →
      ((x.node i).role ≠ .follower → ((x.node i).step op ra ord).panicked = none) →
      Node.restart (C05.crashDisk (x.node i) op ra ord k) retain sor = some n →
      TransNF x (crashM x i op n)
  | send (i : Nat) (q : AppendReq) : i ≠ 0 → (x.node i).role = .leader → ReadFrom (x.node i) q →
      q.ldrCommitIndex ≤ (x.node i).commitIndex →
      TransNF x { x with cm := { x.cm with rp := { x.cm.rp with sent := q :: x.cm.rp.sent } } }

theorem TransNF.trans {x y : Member.Sys} (h : TransNF x y) : Member.Trans x y := by
  cases h with
  | step i op ra ord src he _ => exact .step i op ra ord src he
  | crash i op ra ord src k retain sor n he _ hn => exact .crash i op ra ord src k retain sor n he hn
  | send i q hi hl hr hc => exact .send i q hi hl hr hc

/-- **every transition of `Member.Sys` (in which the operation at hand does not fail) preserves the invariant**, for ghost
ledgers that extend the old ones (the bootstrap key stays) -/
theorem minv_trans_grow {x y : Member.Sys} {G : Ghost} (hI : MInv x G) (hS : SideM x) (hSy : SideT y)
    (ht : TransNF x y) :
    ∃ G', MInv y G' ∧ G'.root = G.root ∧ (∀ r ∈ G.R, r ∈ G'.R) ∧ ∀ a ∈ G.SA, a ∈ G'.SA := by
  cases ht with
  | step i op ra ord src he hnf => exact minv_step_grow hI hS i op ra ord src he hnf
  | crash i op ra ord src k retain sor n he hnf hn =>
    exact (⟨⟨hI, hS, he, hnf⟩, hn⟩ : CM x G i op ra ord src k retain sor n).minv_grow hSy
  | send i q hi hl hr hc => exact ⟨G, minv_send hI hi hl hr hc, rfl, fun _ hr => hr, fun _ ha => ha⟩

theorem minv_trans {x y : Member.Sys} {G : Ghost} (hI : MInv x G) (hS : SideM x) (hSy : SideT y)
    (ht : TransNF x y) : ∃ G', MInv y G' ∧ G'.root = G.root :=
  let ⟨G', hI', hr, _⟩ := minv_trans_grow hI hS hSy ht
  ⟨G', hI', hr⟩

/-- the initial tree has a bootstrap configuration entry below every entry, and no other configuration entry
(e.g. all nodes bootstrapped with the same configuration entry (1,1)) — in terms of the INITIAL entries (`cr = 0`), so
that the statement is a predicate on every state of a run -/
structure RootI (root : K) (x : Member.Sys) : Prop where
  rootC : ∃ c ∈ x.cm.T, key c = root ∧ c.e.typ = etConfig ∧ c.cr = 0
  rootA : ∀ c ∈ x.cm.T, c.cr = 0 → Anc x.cm.T root (key c)
  rootOnly : ∀ c ∈ x.cm.T, c.cr = 0 → c.e.typ = etConfig → key c = root

theorem minv_init {x : Member.Sys} (root : K) (h : Member.Init x) (hr : RootI root x) (hcl : CfgLatest x) :
    MInv x ⟨root, [], [], []⟩ := by
  have hc := h.cm
  have hR : C04Member.RInv x.cm.rp x.ecfg := by
    have := C04Member.rinv_init x.cm.rp hc.rp; rw [h.ecfg]; exact this
  have hrole : ∀ i, (x.node i).role = .follower := fun i => (hc.rp.el.1 i).2.2
  have hcr : ∀ c ∈ x.cm.T, c.cr = 0 := hc.rp.cr0
  have hacks : acksG x ⟨root, [], [], []⟩ = [] := by
    show x.cm.acks ++ [] = []
    rw [hc.acks]; rfl
  have hcfg : CfgM x ⟨root, [], [], []⟩ := by
    have hrA : ∀ c ∈ x.cm.T, Anc x.cm.T root (key c) := fun c hc1 => hr.rootA c hc1 (hcr c hc1)
    have hidx : ∀ i, ∀ e ∈ (x.node i).log.entries, e.typ = etConfig → e.index = root.1 := by
      intro i e he ht
      obtain ⟨c, hc1, hce, _⟩ := log_entry_record hR i he
      have := hr.rootOnly c hc1 (hcr c hc1) (by rw [hce]; exact ht)
      rw [← hce, ← this]; rfl
    refine ⟨hcl, fun i => Or.inl ?_, fun i => ?_⟩
    · obtain ⟨⟨el, hel, helc⟩, _⟩ := hcl i
      obtain ⟨ty, li, _⟩ := Entry.config?_facts helc
      refine prot_single (G := ⟨root, [], [], []⟩) hR hr.rootC hrA (hcl i) (fun e he ht => ?_)
      rw [hidx i e he ht, li, hidx i el hel ty]
    · obtain ⟨⟨el, hel, _⟩, _⟩ := hcl i
      have hh := holds_root hR hrA i (List.length_pos_of_mem hel)
      have e : (x.node i).log.flushed = (x.node i).log.entries.length := (hc.nodes i).2.1
      rw [e]; exact hh.2.1
  refine ⟨hR,
    ⟨hc.tree.pathc, hc.tree.tmono, fun c hc1 d hd ht _ hle => hc.tree.tblock c hc1 d hd ht hle,
      fun c hc1 _ _ _ h0 _ => absurd (hcr c hc1) h0, fun c hc1 h0 => absurd (hcr c hc1) h0, hr.rootC,
      fun c hc1 => hr.rootA c hc1 (hcr c hc1), hr.rootOnly, fun _ _ d hd _ hd0 => absurd (hcr d hd) hd0⟩,
    ⟨fun i => (hc.nodes i).1, ?_, ?_, ?_, ?_, ?_⟩, ⟨?_, ?_, ?_, ?_, ?_⟩, ⟨?_, ?_, ?_⟩,
    ⟨?_, ?_, ?_, ?_, ?_, ?_, ?_, ?_, ?_, ?_⟩, ⟨?_, ?_, ?_, ?_, ?_, ?_, ?_⟩, ⟨?_, ?_⟩,
    ⟨fun i k hk hk2 => by have e : (x.node i).commitIndex = 0 := (hc.nodes i).2.2.1; rw [e] at hk2; omega⟩, hcfg⟩
  · intro i e he
    obtain ⟨c, hc1, hce⟩ := C04Sys.chain_mem (hc.rp.nodes i).2 e he
    rw [← hce]; exact hc.rp.terms c hc1 i
  · intro i k hk hk2
    have e : (x.node i).log.flushed = (x.node i).log.entries.length := (hc.nodes i).2.1
    rw [e] at hk; omega
  · intro i hi; exact absurd (hrole i) hi
  · intro i hi; rw [hrole i] at hi; cases hi
  · intro i hi; rw [hrole i] at hi; cases hi
  · intro q hq; rw [hc.rp.sent] at hq; cases hq
  · intro q hq; rw [hc.rp.sent] at hq; cases hq
  · intro q hq; rw [hc.rp.sent] at hq; cases hq
  · intro q hq; rw [hc.rp.sent] at hq; cases hq
  · intro q hq; rw [hc.rp.sent] at hq; cases hq
  · intro a ha; rw [hacks] at ha; cases ha
  · intro a ha; rw [hacks] at ha; cases ha
  · intro a ha; rw [hacks] at ha; cases ha
  · intro k hk; rw [hc.camps] at hk; cases hk
  · intro k hk; rw [hc.camps] at hk; cases hk
  · intro v hv; exact absurd (hc.nodes v).2.2.2.1 hv
  · intro v hv; exact absurd (hc.nodes v).2.2.2.1 hv
  · intro g hg; rw [hc.rp.el.2.1] at hg; cases hg
  · intro k hk; rw [hc.camps] at hk; cases hk
  · intro e he; rw [hc.rp.el.2.2.1] at he; cases he
  · intro g hg; rw [hc.rp.el.2.1] at hg; cases hg
  · intro k hk; rw [hc.camps] at hk; cases hk
  · intro k hk; rw [h.ecfg] at hk; cases hk
  · intro r hr'; cases hr'
  · intro r hr'; cases hr'
  · intro m hm; rw [hc.committed] at hm; cases hm
  · intro c hc1 _ h0; exact absurd (hcr c hc1) h0
  · intro i hi; rw [hrole i] at hi; cases hi
  · intro c _ _ r hr'; cases hr'
  · intro i hi; rw [hrole i] at hi; cases hi
  · intro c hc1 h0; exact absurd (hcr c hc1) h0
  · intro e he; cases he

end MemberStep
end Raft
