/-
Node-level tools for witness runs written as checked scripts (Lemmas/Script.lean): what the action checkers of
Props/C07Sys.lean (`Act`), Props/AuditMember.lean (`ActM`), Props/AuditSnap.lean (`ActS`) and Props/AuditSnap2.lean (`ActS2`)
share, stated of ONE node, so that a concrete run is checked by evaluating states (namespace `C07Sys`).

* a commit step without sorting: the kernel cannot evaluate `List.mergeSort` (well-founded recursion), which
  `leader.majorityMatchIndex` uses; `replUpdates_step_alt` rewrites the step of a leader handling match-index reports to
  `altPost s us v`, with the majority match index `v` given and checked decidably (`MajIs`, `majIs_sound`: a descending
  permutation found by insertion sort IS the merge sort);
* `SendOK`: what a `send` transition asks of the sender, decidably (`send_facts`);
* `rebornOf`: the node a crash at a storage point restarts as, as a term (`restart_getD`).
-/
import RaftVerif.Sys.Replication
import RaftVerif.Props.C05

namespace Raft
namespace C07Sys
open Node LogRel

/-- `leader.onMajorityCommit` when the majority match index is known -/
theorem onMajorityCommit_known (n : Nat) (s : Node) (v : Nat) (hm : s.majorityMatchIndex = (v, true)) :
    onMajorityCommit (n + 1) s =
      if v > s.commitIndex ∧ v ≥ s.ldr.startIndex then ((setCommitIndexL n s v).applyCommittedL).notifyFlr else s := by
  unfold onMajorityCommit
  dsimp only
  rw [hm]
  dsimp only
  rw [if_pos rfl]

/-- `leader.checkReplUpdates` with the majority match index given instead of computed (`63 = fuelFor 0 - 1`: the budget
`onMajorityCommit (fuelFor 0)` hands to `setCommitIndexL`) -/
def altCheck (s : Node) (us : List ReplUpdate) (v : Nat) : Node :=
  let r := replUpdLoop s {} us
  let s := r.1
  let f := r.2
  if f.stop then s
  else
    let s := if f.matchU then
        (if v > s.commitIndex ∧ v ≥ s.ldr.startIndex then ((setCommitIndexL 63 s v).applyCommittedL).notifyFlr else s)
      else s
    let s := if f.noContactU then s.checkQuorum else s
    let s := if f.removeLTEU ∧ s.ldr.removeLTE > s.log.prev then s.checkLogCompact else s
    if (f.matchU ∨ f.noContactU) ∧ s.ldr.transfer.active ∧ !s.ldr.transfer.targetChosen then s.tryTransfer else s

theorem checkReplUpdates_alt (s : Node) (us : List ReplUpdate) (v : Nat)
    (hm : (replUpdLoop s {} us).1.majorityMatchIndex = (v, true)) : s.checkReplUpdates us = altCheck s us v := by
  unfold Node.checkReplUpdates altCheck
  have e : onMajorityCommit (fuelFor 0) (replUpdLoop s {} us).1 =
      if v > (replUpdLoop s {} us).1.commitIndex ∧ v ≥ (replUpdLoop s {} us).1.ldr.startIndex
      then ((setCommitIndexL 63 (replUpdLoop s {} us).1 v).applyCommittedL).notifyFlr else (replUpdLoop s {} us).1 :=
    onMajorityCommit_known 63 _ v hm
  simp only [e]

/-- the post-state of a leader handling match-index reports, with the majority match index given (`settle 6`: the budget of
the role transitions in `Node.step`) -/
def altPost (s : Node) (us : List ReplUpdate) (v : Nat) : Node := settle 6 (altCheck (s.begin [] []) us v) s.role

theorem replUpdates_step_alt (s : Node) (us : List ReplUpdate) (v : Nat) (hl : s.role = .leader)
    (hm : (replUpdLoop (s.begin [] []) {} us).1.majorityMatchIndex = (v, true)) :
    s.step (.replUpdates us) [] [] = altPost s us v := by
  unfold altPost
  rw [step_settle s _ [] [] (by intro h; cases h)]
  have hh : (s.begin [] []).handle (.replUpdates us) = (s.begin [] []).checkReplUpdates us := by
    unfold Node.handle
    dsimp only
    rw [if_pos (show (s.begin [] []).role = .leader from hl)]
  rw [hh, checkReplUpdates_alt _ us v hm]
  rfl

/-- `majorityMatchIndex` of a concrete leader (more than one voter): the sort of the evaluated match indexes `ms` is given
as `sorted`, and the rest is one decidable statement about the state. -/
theorem majorityMatchIndex_eval (s : Node) (ms sorted : List Nat) (v : Nat) (hs : ms.mergeSort geB = sorted)
    (h : ¬ (s.ldr.numVoters = 1 ∧ s.ldr.node.voter = true) ∧ s.voterMatches = ms ∧
      ((sorted[ms.length / 2 + 1 - 1]?).getD 0,
        !(s.configs.latest.nodes.filter (·.voter)).any (fun n => n.id != s.nid && (s.findRepl? n.id).isNone) &&
          decide (s.configs.latest.nodes.length > 0)) = (v, true)) :
    s.majorityMatchIndex = (v, true) := by
  unfold Node.majorityMatchIndex
  rw [if_neg h.1]
  dsimp only
  rw [h.2.1, hs]
  exact h.2.2

/-- insertion sort, descending -/
def insGe (a : Nat) : List Nat → List Nat
  | [] => [a]
  | b :: l => if a ≥ b then a :: b :: l else b :: insGe a l

def sortGe (l : List Nat) : List Nat := l.foldr insGe []

/-- a descending permutation of `ms` IS `ms.mergeSort geB` (`≥` on `Nat` is a total order); nothing has to be known
of how `sorted` was found -/
theorem mergeSort_geB_eq {ms sorted : List Nat} (hp : sorted.isPerm ms = true)
    (hs : sorted.Pairwise (fun a b => geB a b = true)) : ms.mergeSort geB = sorted :=
  List.Perm.eq_of_pairwise (le := fun a b => geB a b = true)
    (fun a b _ _ h1 h2 => Nat.le_antisymm (of_decide_eq_true h2) (of_decide_eq_true h1))
    (List.pairwise_mergeSort (le := geB)
      (fun a b c h1 h2 => decide_eq_true (Nat.le_trans (of_decide_eq_true h2) (of_decide_eq_true h1)))
      (fun a b => by unfold geB; rcases Nat.le_total a b with h | h <;> simp [h]) ms)
    hs ((List.mergeSort_perm ms geB).trans (List.isPerm_iff.mp hp).symm)

/-- `s.majorityMatchIndex = (v, true)` for a leader with more than one voter, decidably -/
def MajIs (s : Node) (v : Nat) : Prop :=
  (sortGe s.voterMatches).isPerm s.voterMatches = true ∧
  (sortGe s.voterMatches).Pairwise (fun a b => geB a b = true) ∧
  ¬ (s.ldr.numVoters = 1 ∧ s.ldr.node.voter = true) ∧
  (((sortGe s.voterMatches)[s.voterMatches.length / 2 + 1 - 1]?).getD 0,
    !(s.configs.latest.nodes.filter (·.voter)).any (fun n => n.id != s.nid && (s.findRepl? n.id).isNone) &&
      decide (s.configs.latest.nodes.length > 0)) = (v, true)

instance (s : Node) (v : Nat) : Decidable (MajIs s v) := by unfold MajIs; infer_instance

theorem majIs_sound {s : Node} {v : Nat} (h : MajIs s v) : s.majorityMatchIndex = (v, true) :=
  majorityMatchIndex_eval s s.voterMatches (sortGe s.voterMatches) v (mergeSort_geB_eq h.1 h.2.1)
    ⟨h.2.2.1, rfl, h.2.2.2⟩

/-- What a `send` transition asks of the sender `s`, as one decidable statement (`n`: how many entries the request
carries). -/
def SendOK (s : Node) (q : AppendReq) (n : Nat) : Prop :=
  s.role = .leader ∧ q.term = s.term ∧ q.src = s.nid ∧ q.prevLogIndex ≤ s.log.entries.length ∧
  q.prevLogTerm = termAt s.log.entries q.prevLogIndex ∧
  q.entries = (s.log.entries.drop q.prevLogIndex).take n ∧ q.ldrCommitIndex ≤ s.commitIndex

instance (s : Node) (q : AppendReq) (n : Nat) : Decidable (SendOK s q n) := by unfold SendOK; infer_instance

theorem send_facts (s : Node) (q : AppendReq) (n : Nat) (h : SendOK s q n) :
    s.role = .leader ∧ Replication.ReadFrom s q ∧ q.ldrCommitIndex ≤ s.commitIndex :=
  ⟨h.1, ⟨h.2.1, h.2.2.1, h.2.2.2.1, h.2.2.2.2.1, ⟨n, h.2.2.2.2.2.1⟩⟩, h.2.2.2.2.2.2⟩

/-- the node `s` restarts as after dying inside `op` at storage point `k` (options: retain 1, shutdown on remove), as a term: the default node
if the restart fails, which `restart_getD` excludes -/
def rebornOf (s : Node) (op : Op) (k : Nat) : Node :=
  (Node.restart (C05.crashDisk s op [] [] k) 1 true).getD {}

theorem restart_getD {d : Durable} {r : Nat} {b : Bool} (h : (Node.restart d r b).isSome = true) :
    Node.restart d r b = some ((Node.restart d r b).getD {}) := by
  cases hr : Node.restart d r b with
  | none => rw [hr] at h; cases h
  | some n => rfl

end C07Sys
end Raft
