/-
`Lemmas/StepInv.lean` restricted to the operations that neither compact the log nor touch the snapshots
(`NCOp`: no `install`, `snapRun`, `snapTaken`, `shutdown`, no replication update that reports a compaction): a predicate
preserved by the primitive state updates THESE operations are built from — no `RemoveLTE`, no `clearLog`, no
`publishSnapshot`, no change of `snapResult` — is preserved by their steps. Used for frame facts (the first index of the
log, the pending snapshot result) that the compacting operations do not have.
-/
import RaftVerif.Lemmas.StepInv
import RaftVerif.Lemmas.SnapRelU2

namespace Raft
namespace Node

structure StepClosedNC (Inv : Node → Prop) : Prop extends Closed Inv where
  begin : ∀ (s : Node) ra (ord : List (List Nat)), Inv s → Inv (s.begin ra ord)
  rpcReply : ∀ (s : Node) r, Inv s → Inv (s.withRpcReply r)
  ret : ∀ (s : Node) r, Inv s → Inv (s.ret r)
  setRole : ∀ (s : Node) r, Inv s → Inv (s.setRole r)
  setLeader : ∀ (s : Node) l, Inv s → Inv (s.setLeader l)
  /-- not used by the walk: only `shutdown` closes the node by hand, and `NCOp` excludes it -/
  doClose : ∀ (s : Node) r, Inv s → Inv (s.doClose r)
  setTerm : ∀ (s : Node) t, Inv s → Inv (s.setTerm t)
  /-- `setVotedFor` entering a higher term (vote requests, the self vote of `startElection`) -/
  voteNewTerm : ∀ (s : Node) t c, Inv s → t > s.term → Inv (s.setVotedFor t c)
  /-- `setVotedFor` granting the vote in the current term while no vote was cast yet -/
  voteGrant : ∀ (s : Node) c, Inv s → s.votedFor = 0 → Inv (s.setVotedFor s.term c)
  votesNeeded : ∀ (s : Node) v, Inv s → Inv (s.withVotesNeeded v)
  candTransfer : ∀ (s : Node) v, Inv s → Inv (s.withCandTransfer v)
  /-- `RemoveGTE(i)` is only called for an index above the snapshot index (`appendLoop`) -/
  removeGTE : ∀ (s : Node) i pt, Inv s → s.snapIndex < i →
    Inv { s with log := s.log.removeGTE i, lastLogIndex := i - 1, lastLogTerm := pt }
  revertConfig : ∀ (s : Node), Inv s → Inv s.revertConfig
  /-- not used by the walk: only `onInstallSnapRequest` calls it, and `NCOp` excludes `install` -/
  commitConfig : ∀ (s : Node), Inv s → Inv s.commitConfig
  snapPending : ∀ (s : Node) v, Inv s → Inv (s.withSnapPending v)
  bootstrapLast : ∀ (s : Node) i t, Inv s → Inv (s.withLast i t)

namespace StepClosedNC

variable {Inv : Node → Prop} (h : StepClosedNC Inv)
include h

omit h in
def caps : Caps :=
  { Caps.all with file := fun _ => False, snap := fun _ => False, install := False, compact := False, shutdown := False }

/-- only the guard of `removeGTE` is used; the updates a `StepClosedNC` does not have are switched off -/
theorem toGuardedStep : GuardedStep caps Inv where
  toGuarded := h.toClosed.toGuarded
  ldrT := fun _ s l hs _ _ => h.ldr s l hs
  ldrAny := fun _ => h.ldr
  appendAny := h.toClosed.appendEntry_inv
  rpcReply := h.rpcReply
  ret := h.ret
  setRole := fun s r hs _ _ => h.setRole s r hs
  setLeader := h.setLeader
  doClose := fun _ => h.doClose
  setTerm := fun s t hs _ => h.setTerm s t hs
  voteNewTerm := fun s t v hs ht _ => h.voteNewTerm s t v hs ht
  voteGrant := h.voteGrant
  votesNeeded := fun _ => h.votesNeeded
  termDown := fun s t hs _ => h.setRole _ _ (h.setTerm s t hs)
  bootTerm := fun _ s hs => h.setTerm s 1 hs
  bootRole := fun _ s hs => h.setRole s _ hs
  candTransfer := h.candTransfer
  removeGTE := fun s i pt hs hi _ _ => h.removeGTE s i pt hs hi
  removeLTE := fun hc => hc.elim
  revertConfig := h.revertConfig
  commitConfig := fun _ => h.commitConfig
  installCore := fun hc => hc.elim
  installCommit := fun hc => hc.elim
  snapRun := fun _ _ hc => hc.elim
  snapPending := h.snapPending
  snapResult := fun hc => hc.elim
  bootstrapLast := fun _ => h.bootstrapLast

theorem onMajorityCommit_inv (f : Nat) (s : Node) (hs : Inv s) : Inv (onMajorityCommit f s) :=
  (h.toClosed.block f).2.2.2.2.2.2.2 s hs

theorem checkQuorum_inv (s : Node) (hs : Inv s) : Inv s.checkQuorum :=
  h.toGuardedStep.toAt.checkQuorum_inv s hs

theorem tryTransfer_inv (s : Node) (hs : Inv s) : Inv s.tryTransfer :=
  h.toGuardedStep.toAt.tryTransfer_inv trivial s hs

theorem settle_inv (f : Nat) (s : Node) (c : Role) (hs : Inv s) : Inv (settle f s c) :=
  h.toGuardedStep.settle_inv trivial trivial (h.toGuardedStep.leaderInit_inv trivial) f s c hs

omit h in
theorem snapIndex_resolveConflict' (s : Node) (ne : Entry) (pt : Nat) :
    (s.resolveConflict ne pt).snapIndex = s.snapIndex := SnapRel.snapIndex_resolveConflict s ne pt

omit h in
theorem snapIndex_appendEntry' (s : Node) (e : Entry) : (s.appendEntry e).snapIndex = s.snapIndex :=
  SnapRel.snapIndex_appendEntry s e

omit h in
theorem snapIndex_changeConfigR' (s : Node) (c : Config) : (s.changeConfigR c).snapIndex = s.snapIndex :=
  SnapRel.snapIndex_changeConfigR s c

theorem fsmRestore_inv (s : Node) (hs : Inv s) : Inv s.fsmRestore := fsmRestore_of h.panic h.fsm s hs

theorem replUpdLoop_inv (s : Node) (f : UpdFlags) (us : List ReplUpdate) (hs : Inv s) :
    Inv (replUpdLoop s f us).1 :=
  h.toGuardedStep.toAt.replUpdLoop_inv trivial s f us hs

def NCOp : Op → Prop
  | .install _ => False
  | .snapRun => False
  | .snapTaken => False
  | .shutdown => False
  | .replUpdates us => SnapRelU.NoRm us
  | _ => True

omit h in
theorem opOk (s : Node) {op : Op} (hop : NCOp op) : caps.Ok s op := by
  cases op <;> first | exact hop.elim | trivial | exact Or.inr trivial | exact fun _ => trivial | skip
  case replUpdates us =>
    exact ⟨trivial, trivial, fun hf => Bool.false_ne_true ((replUpdLoop_flag us hop s {}).symm.trans hf)⟩

theorem step_inv (s : Node) (op : Op) (ra : List Nat) (ord : List (List Nat)) (hop : NCOp op) (hs : Inv s) :
    Inv (s.step op ra ord) :=
  h.toGuardedStep.step_inv trivial trivial (h.toGuardedStep.leaderInit_inv trivial) s op ra ord (opOk _ hop)
    (h.begin s ra ord hs)

end StepClosedNC
end Node
end Raft
