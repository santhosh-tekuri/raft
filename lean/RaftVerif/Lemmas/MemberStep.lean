/-
A completed step of `Member.Sys` preserves the invariant `MemberInv.MInv` (the dynamic part; the generalisation of
`Props/C02Sys.lean` — `SC`, `NewE` — to the system with membership changes; crashes and sends are in
Lemmas/MemberCrash.lean). What a completed step has in common with a crash followed by a restart — node `i` is replaced
by some node, the ledgers grow — is stated once, for both: `NewM` (entries the node appended; with the node clauses, the
commit index and the disk images taken from Lemmas/CommitCoreTree.lean through `SM.toC`), `nodeM_of`, `cfgM_of`,
`recOK_mono`, `voteM_of` (campaigns, votes, elections, over `Commit.CoreUpd` of Lemmas/CommitCore.lean, which is
shared with the fixed-membership system) and `SM.recOK_of` / `SM.recM_of` (commit records, for a node whose log is a prefix
of the log after the completed step).
-/
import RaftVerif.Lemmas.MemberInv
import RaftVerif.Lemmas.CommitCoreTree

namespace Raft
namespace MemberStep
open Node Election LogRel Replication CommitRel Commit Member MemberCore MemberInv MemberCommit

def CfgLatest (x : Member.Sys) : Prop := ∀ i, CfgLast (x.node i).log.entries (x.node i).configs.latest

/-- no enabled step of a candidate or leader fails (`panicked`: a Go panic, or the recursion budget of the model).
NOT a usable side condition: it is FALSE in every state in which a leader has a replication
(`C08Member.nofail_unsatisfiable`: `Member.Enabled` admits a `newTerm 0` report, which fails the assertion of
`storage.setTerm`). The analysis of a transition asks the no-failure of the operation AT HAND only (`SM.nofail`,
`TransNF`). -/
def NoFail (x : Member.Sys) : Prop :=
  ∀ i op ra ord src, Member.Enabled x i op src → (x.node i).role ≠ .follower →
    ((x.node i).step op ra ord).panicked = none

/-- side conditions on a state of a run (hypotheses of the theorems, see Props/C02Member.lean) -/
structure SideM (x : Member.Sys) : Prop where
  boot : Boot x
  q1 : ∀ i, (x.node i).configs.latest.quorum ≠ 1
  cache : ∀ i, C06Cache.LeaderCache (x.node i)
  tree : SideT x

structure SM (x : Member.Sys) (G : Ghost) (i : Nat) (op : Op) (ra : List Nat) (ord : List (List Nat)) (src : Nat) :
    Prop where
  inv : MInv x G
  side : SideM x
  en : Member.Enabled x i op src
  /-- the step at hand does not fail if the node is candidate or leader -/
  nofail : (x.node i).role ≠ .follower → ((x.node i).step op ra ord).panicked = none

namespace SM
variable {x : Member.Sys} {G : Ghost} {i : Nat} {op : Op} {ra : List Nat} {ord : List (List Nat)} {src : Nat}

abbrev y (_h : SM x G i op ra ord src) : Member.Sys := stepM x i op ra ord src

abbrev post (_h : SM x G i op ra ord src) : Node := (x.node i).step op ra ord

theorem node_i (h : SM x G i op ra ord src) : h.y.node i = h.post := stepM_node_i x i op ra ord src

theorem node_j (h : SM x G i op ra ord src) {j : Nat} (hj : j ≠ i) : h.y.node j = x.node j :=
  stepM_node_j x i op ra ord src hj

theorem esafe (h : SM x G i op ra ord src) : C04Member.ESafe x.el.grants x.ecfg := esafeM h.inv h.side.tree

theorem ry (h : SM x G i op ra ord src) : C04Member.RInv h.y.cm.rp h.y.ecfg :=
  C04Member.rinv_upd h.inv.rp h.esafe i op src _ h.en.rp.id (h.side.q1 i) h.en.rp.real
    (C04Member.upd_step h.inv.rp i (h.side.boot i) op ra ord src h.en.rp)
    (stepSys x.cm.rp.el i op ra ord src) _ rfl
    (fun _ hg => List.mem_append_right _ (List.mem_append_right _ hg))
    (fun _ hk => List.mem_append_right _ hk)
    (C01Member.einv_step x.cm.rp.el x.ecfg h.inv.rp.el i op ra ord src h.en.rp.id (h.side.boot i) h.en.rp.ok
      h.en.rp.voteSrc h.en.rp.real)

theorem vstep (h : SM x G i op ra ord src) : C05.VoteStep (x.node i) h.post ∧ C05.VoteWF h.post := by
  obtain ⟨a, b, _⟩ := C05.step_vote_stable (x.node i) op ra ord (h.inv.rp.el.ids i).2
  exact ⟨a, b⟩

theorem ext (h : SM x G i op ra ord src) : Ext x.cm h.y.cm i :=
  .of_grows (grows_step x.cm i op ra ord src) (fun _ hj => h.node_j hj)
    (NodeSys.forall_setNode (P := fun j s => (x.node j).term ≤ s.term) h.vstep.1.1 (fun _ _ => Nat.le_refl _))
    h.ry.uniq h.inv.tree.pathc

theorem rstep (h : SM x G i op ra ord src) : RoleStep (x.node i) op h.post :=
  role_step (x.node i) op ra ord (fun hc => (h.inv.rp.el.cand i hc).term_pos)

theorem upd (h : SM x G i op ra ord src) : C04Member.UpdM x.cm.rp i op h.post :=
  C04Member.upd_step h.inv.rp i (h.side.boot i) op ra ord src h.en.rp

theorem nid_pre (h : SM x G i op ra ord src) : (x.node i).nid = i := (h.inv.rp.el.ids i).1

theorem nid_post (h : SM x G i op ra ord src) : h.post.nid = i := by
  have := (h.ry.el.ids i).1
  have e : h.y.cm.rp.el.node i = h.post := h.node_i
  rw [e] at this; exact this

theorem nwf_post (h : SM x G i op ra ord src) : NWF h.post := by
  have := (h.ry.nodes i).1
  rwa [show h.y.cm.rp.el.node i = _ from h.node_i] at this

theorem noPanic (h : SM x G i op ra ord src) : h.post.panicked = none ∨ (x.node i).role = .follower := by
  by_cases hf : (x.node i).role = .follower
  · exact Or.inr hf
  · exact Or.inl (h.nofail hf)

/-- a node that is leader after the step was not follower before it (the quorum is not one) -/
theorem leader_pre (h : SM x G i op ra ord src) (hl : h.post.role = .leader) :
    (x.node i).role ≠ .follower ∧ h.post.panicked = none := by
  have hnf : (x.node i).role ≠ .follower := by
    intro hf
    rcases h.rstep.leader hl with ⟨a, _⟩ | ⟨a, _⟩ | ne
    · rw [hf] at a; cases a
    · have := a.1; rw [hf] at this; cases this
    · obtain ⟨ec, e1, _, _, e4⟩ := ne.cfg
      have := e4 hl
      rw [e1 (h.side.boot i)] at this
      exact h.side.q1 i this
  exact ⟨hnf, h.nofail hnf⟩

theorem latest_nodup (hI : MInv x G) (hS : SideM x) (j : Nat) : (x.node j).configs.latest.voters.Nodup := by
  obtain ⟨⟨e, he, hec⟩, _⟩ := hI.cfg.cl j
  obtain ⟨c, hc, hce⟩ := C04Sys.chain_mem (hI.rp.nodes j).2 e he
  exact hS.tree.nodup c hc _ (by rw [hce]; exact hec)

theorem voters_ne_one (hS : SideM x) (j : Nat) : (x.node j).configs.latest.voters.length ≠ 1 := by
  have := hS.q1 j
  rw [C01Sys.quorum_eq] at this
  omega

theorem _root_.Raft.MemberCommit.NStepM.toC {pre post : Node} {A B : Nat → Nat → Prop} (h : NStepM pre A B post) :
    NStepC pre A B post :=
  ⟨h.lwf, h.flush, h.pair, h.tr, h.ldr, h.trgrow⟩

theorem nst (h : SM x G i op ra ord src) (happ : ∀ q, op ≠ .append q) :
    NStepM (x.node i) (AOp (x.node i) op) (Commit.Backed x.cm i) h.post := by
  have hI := h.inv
  refine nstepM (x.node i) op ra ord (Commit.Backed x.cm i) (nwfM hI i) (hI.node.lwf i) (hI.rp.el.ids i).2
    (h.side.boot i) h.en.rp.ok h.en.cfg happ (fun hc => (hI.rp.el.cand i hc).term_pos) (fun hc => ?_)
    (hI.cfg.cl i) (by rw [(nwfM hI i).last]; exact ciLeM hI i) (latest_nodup hI h.side i)
    (h.side.q1 i)
    (fun hl => ⟨hI.node.ldr i hl, backed_leM hI h.side.tree hl, (h.side.cache i hl).node, hI.node.cc i hl⟩) h.en.upd
  rw [h.nid_pre]; exact (hI.rp.el.cand i hc).voter

theorem evs (h : SM x G i op ra ord src) (happ : ∀ q, op ≠ .append q) :
    ∃ T L, MEvs (x.node i) (Commit.Backed x.cm i) h.post T L := (h.nst happ).evs h.noPanic

end SM

theorem log_entry_record {y : Member.Sys} (hR : C04Member.RInv y.cm.rp y.ecfg) (j : Nat) {e : Entry}
    (he : e ∈ (y.node j).log.entries) :
    ∃ c ∈ y.cm.T, c.e = e ∧ Holds (y.node j).log.entries e.index e.term := by
  have hn := (hR.nodes j).1
  have hh := C02Sys.holds_of_mem hn.contig he
  obtain ⟨c, hc, c1, c2, c3⟩ := path_record (rpathM hR j) hh
  refine ⟨c, hc, ?_, hh⟩
  obtain ⟨k, hk, rfl⟩ := List.getElem_of_mem he
  have hi := hn.contig k hk
  rw [hi] at c3
  have : (y.node j).log.entries[k + 1 - 1]? = some (y.node j).log.entries[k] := by
    rw [Nat.add_sub_cancel]; exact List.getElem?_eq_getElem hk
  rw [this] at c3
  injection c3 with c3
  exact c3.symm

theorem record_in_take {y : Member.Sys} (hR : C04Member.RInv y.cm.rp y.ecfg) (j n : Nat) {c' : CEntry}
    (hc' : c' ∈ y.cm.T) (hh : Holds (y.node j).log.entries c'.e.index c'.e.term) (hle : c'.e.index ≤ n) :
    c'.e ∈ (y.node j).log.entries.take n := by
  obtain ⟨c'', hc'', d1, d2, d3⟩ := path_record (rpathM hR j) hh
  have : c'' = c' := hR.uniq c'' hc'' c' hc' d1 d2
  rw [this] at d3
  exact (mem_take_iff_index_le (hR.nodes j).1.contig).mpr ⟨List.mem_of_getElem? d3, hle⟩

/-- **from the log to the tree**: the last configuration entry of the first `n` entries of a node's log is the last
configuration entry below the key of its `n`-th entry -/
theorem cfgAt_of_log {y : Member.Sys} (hR : C04Member.RInv y.cm.rp y.ecfg) (j n : Nat) (h1 : 1 ≤ n)
    (hn : n ≤ (y.node j).log.entries.length) {cfg : Config}
    (hcl : CfgLast ((y.node j).log.entries.take n) cfg) :
    ∃ D, CfgAt y.cm.T D cfg (n, termAt (y.node j).log.entries n) ∧ D = (cfg.index, cfg.term) := by
  obtain ⟨⟨e, he, hec⟩, hlast⟩ := hcl
  have hem : e ∈ (y.node j).log.entries := List.mem_of_mem_take he
  obtain ⟨c, hc, hce, hh⟩ := log_entry_record hR j hem
  have hv : Holds (y.node j).log.entries n (termAt (y.node j).log.entries n) := ⟨h1, hn, rfl⟩
  obtain ⟨_, ci, ct, _⟩ := Entry.config?_facts hec
  have hidx : e.index ≤ n := ((mem_take_iff_index_le (hR.nodes j).1.contig).mp he).2
  refine ⟨key c, ⟨⟨c, hc, rfl, by rw [hce]; exact hec⟩, ?_, fun c' hc' ht hA => ?_⟩, ?_⟩
  · exact anc_of_path (rpathM hR j) (a := key c) (c := (n, _)) (by show Holds _ c.e.index c.e.term; rw [hce]; exact hh) hv
      (by show c.e.index ≤ n; rw [hce]; exact hidx)
  · have hh' := rholdsM hR j hA hv
    have hm := record_in_take hR j n hc' hh' hA.1
    have := hlast c'.e hm ht
    show c'.e.index ≤ c.e.index
    rw [hce, ← ci]; exact this
  · exact key_eq.mpr ⟨by rw [hce, ci], by rw [hce, ct]⟩

theorem prevT_of_log {y : Member.Sys} (hR : C04Member.RInv y.cm.rp y.ecfg) (j k : Nat)
    (hk : k ≤ (y.node j).log.entries.length) {P : Config}
    (hcl : CfgLast ((y.node j).log.entries.take (k - 1)) P) :
    PrevT y.cm.T (P.index, P.term) (k, termAt (y.node j).log.entries k) := by
  obtain ⟨⟨e, he, hec⟩, hlast⟩ := hcl
  have hem : e ∈ (y.node j).log.entries := List.mem_of_mem_take he
  obtain ⟨c, hc, hce, hh⟩ := log_entry_record hR j hem
  obtain ⟨ty, ci, ct, _⟩ := Entry.config?_facts hec
  have hidx : e.index ≤ k - 1 ∧ 1 ≤ k - 1 := by
    have := ((mem_take_iff_index_le (hR.nodes j).1.contig).mp he).2
    have := hh.1
    omega
  have hv : Holds (y.node j).log.entries k (termAt (y.node j).log.entries k) := ⟨by omega, hk, rfl⟩
  have hkey : key c = (P.index, P.term) := key_eq.mpr ⟨by rw [hce, ci], by rw [hce, ct]⟩
  refine ⟨⟨c, hc, hkey, by rw [hce]; exact ty⟩, ?_, by show P.index < k; omega, fun c' hc' ht hA hlt => ?_⟩
  · rw [← hkey]
    exact anc_of_path (rpathM hR j) (a := key c) (c := (k, _)) (by show Holds _ c.e.index c.e.term; rw [hce]; exact hh)
      hv (by show c.e.index ≤ k; rw [hce]; omega)
  · have hh' := rholdsM hR j hA hv
    have hlt' : c'.e.index < k := hlt
    have hm := record_in_take hR j (k - 1) hc' hh' (by omega)
    have := hlast c'.e hm ht
    show c'.e.index ≤ P.index
    exact this

theorem protG_mono {x y : Member.Sys} {G G' : Ghost} {i k : Nat} (hT : ∀ c ∈ x.cm.T, c ∈ y.cm.T)
    (hroot : G'.root = G.root) (hR : ∀ r ∈ G.R, r ∈ G'.R) (hterm : (x.node i).term ≤ (y.node i).term)
    (htake : (y.node i).log.entries.take k = (x.node i).log.entries.take k) (h : ProtG x G i k) :
    ProtG y G' i k := by
  obtain ⟨h1, h2, h3⟩ := h
  have hl := congrArg List.length htake
  simp only [List.length_take] at hl
  have ht : termAt (y.node i).log.entries k = termAt (x.node i).log.entries k :=
    termAt_of_take_eq htake (Nat.le_refl _)
  refine ⟨h1, by omega, ?_⟩
  rw [ht, hroot]
  rcases h3 with e | ⟨r, hr, r1, r2⟩
  · exact Or.inl e
  · exact Or.inr ⟨r, hR r hr, Nat.le_trans r1 hterm, r2.mono hT⟩

theorem protG_of_cc {x : Member.Sys} {G : Ghost} (hc : CmtM x) (hcov : ∀ m ∈ x.cm.committed, ∃ r ∈ G.R, r.m = m)
    {i k : Nat} (h1 : 1 ≤ k) (hk : k ≤ (x.node i).commitIndex) : ProtG x G i k := by
  obtain ⟨c1, m, hm, m1, m2⟩ := hc.cc i k h1 hk
  obtain ⟨r, hr, e⟩ := hcov m hm
  exact ⟨h1, c1, Or.inr ⟨r, hr, by rw [e]; exact m1, by rw [e]; exact m2⟩⟩

theorem holds_root {y : Member.Sys} {root : K} (hR : C04Member.RInv y.cm.rp y.ecfg)
    (hrootA : ∀ c ∈ y.cm.T, Anc y.cm.T root (key c)) (j : Nat) (hne : 1 ≤ (y.node j).log.entries.length) :
    Holds (y.node j).log.entries root.1 root.2 := by
  have hv : Holds (y.node j).log.entries (y.node j).log.entries.length
      (termAt (y.node j).log.entries (y.node j).log.entries.length) := ⟨hne, Nat.le_refl _, rfl⟩
  obtain ⟨c, hc, hk⟩ := rrecordM hR j hv
  have := hrootA c hc
  rw [hk] at this
  exact rholdsM hR j this hv

theorem protG_root {y : Member.Sys} {G : Ghost} {j : Nat} (h : Holds (y.node j).log.entries G.root.1 G.root.2) :
    ProtG y G j G.root.1 :=
  ⟨h.1, h.2.1, Or.inl (by rw [h.2.2])⟩

theorem prevT_unique {T : List CEntry} (hU : Uniq T) {P P' a : K} (h : PrevT T P a) (h' : PrevT T P' a) : P = P' := by
  obtain ⟨⟨p, hp, pk, pt⟩, a1, a2, a3⟩ := h
  obtain ⟨⟨p', hp', pk', pt'⟩, b1, b2, b3⟩ := h'
  have e1 : p.e.index = P.1 := by rw [← pk]; rfl
  have e2 : p'.e.index = P'.1 := by rw [← pk']; rfl
  have l1 := a3 p' hp' pt' (by rw [pk']; exact b1) (by rw [e2]; exact b2)
  have l2 := b3 p hp pt (by rw [pk]; exact a1) (by rw [e1]; exact a2)
  have hi : P.1 = P'.1 := by omega
  exact (a1.comparable hU b1 (Nat.le_of_eq hi)).eq_of_index hi

/-- **a pending configuration: the index of `configs.committed` is protected** — the configuration entry after it was
created by a leader that had committed, in its own term, a key at or above it (`RecM.chain`) -/
theorem pend_prot {y : Member.Sys} {G : Ghost} {j : Nat} (hR : C04Member.RInv y.cm.rp y.ecfg)
    (hrootA : ∀ c ∈ y.cm.T, Anc y.cm.T G.root (key c))
    (hrootOnly : ∀ c ∈ y.cm.T, c.cr = 0 → c.e.typ = etConfig → key c = G.root)
    (hchain : ∀ c ∈ y.cm.T, c.e.typ = etConfig → c.cr ≠ 0 → ∃ P r, r ∈ G.R ∧ PrevT y.cm.T P (key c) ∧
      r.m.2 = c.e.term ∧ r.l.1 < c.e.index ∧ Anc y.cm.T P r.m)
    (htl : ∀ e ∈ (y.node j).log.entries, e.term ≤ (y.node j).term)
    (hcl : CfgLast (y.node j).log.entries (y.node j).configs.latest)
    (hp : MemberFollow.Pend (y.node j).log.entries (y.node j).configs) :
    ProtG y G j (y.node j).configs.committed.index := by
  obtain ⟨⟨el, hel, helc⟩, _⟩ := hcl
  obtain ⟨ty, li, ltm, _⟩ := Entry.config?_facts helc
  obtain ⟨c, hc, hce, hh⟩ := log_entry_record hR j hel
  obtain ⟨hlt, hpc⟩ := hp
  obtain ⟨⟨ec, hec, hecc⟩, _⟩ := id hpc
  obtain ⟨ty', ci', ct', _⟩ := Entry.config?_facts hecc
  obtain ⟨c', hc', hce', hh'⟩ := log_entry_record hR j (List.mem_of_mem_take hec)
  have hcr : c.cr ≠ 0 := by
    intro h0
    have hk := hrootOnly c hc h0 (by rw [hce]; exact ty)
    have h1 : G.root.1 ≤ (key c').1 := (hrootA c' hc').1
    have h2 : (key c').1 = ec.index := by show c'.e.index = _; rw [hce']
    have h3 : (key c).1 = el.index := by show c.e.index = _; rw [hce]
    rw [hk] at h3
    omega
  obtain ⟨P, r, hr, hP, r1, _, r3⟩ := hchain c hc (by rw [hce]; exact ty) hcr
  have hkey : key c = ((y.node j).configs.latest.index, termAt (y.node j).log.entries (y.node j).configs.latest.index) := by
    unfold key; rw [hce, li, hh.2.2]
  have hP' := prevT_of_log hR j (y.node j).configs.latest.index (by rw [li]; exact hh.2.1) hpc
  rw [hkey] at hP
  have hPe := prevT_unique hR.uniq hP hP'
  rw [hPe] at r3
  have hterm : termAt (y.node j).log.entries (y.node j).configs.committed.index = (y.node j).configs.committed.term := by
    rw [ci', ct']; exact hh'.2.2
  refine ⟨by rw [ci']; exact hh'.1, by rw [ci']; exact hh'.2.1, Or.inr ⟨r, hr, ?_, by rw [hterm]; exact r3⟩⟩
  rw [r1, hce]
  exact htl el hel

/-- the latest configuration is the only configuration entry of the log: it is the bootstrap entry -/
theorem prot_single {y : Member.Sys} {G : Ghost} {j : Nat} (hR : C04Member.RInv y.cm.rp y.ecfg)
    (hrootC : ∃ c ∈ y.cm.T, key c = G.root ∧ c.e.typ = etConfig ∧ c.cr = 0)
    (hrootA : ∀ c ∈ y.cm.T, Anc y.cm.T G.root (key c))
    (hcl : CfgLast (y.node j).log.entries (y.node j).configs.latest)
    (hone : ∀ e ∈ (y.node j).log.entries, e.typ = etConfig → e.index = (y.node j).configs.latest.index) :
    ProtG y G j (y.node j).configs.latest.index := by
  obtain ⟨⟨el, hel, _⟩, _⟩ := hcl
  have hne : 1 ≤ (y.node j).log.entries.length := List.length_pos_of_mem hel
  have hh := holds_root hR hrootA j hne
  obtain ⟨c0, hc0, hk0, ht0, _⟩ := hrootC
  have e1 : c0.e.index = G.root.1 := by rw [← hk0]; rfl
  have e2 : c0.e.term = G.root.2 := by rw [← hk0]; rfl
  have hm := record_in_take hR j (y.node j).log.entries.length hc0 (by rw [e1, e2]; exact hh)
    (by rw [e1]; exact hh.2.1)
  have := hone c0.e (List.mem_of_mem_take hm) ht0
  rw [e1] at this
  rw [← this]
  exact protG_root hh

/-- `CfgM` after a transition that replaces node `i` by `s` and lets tree and commit records grow: what is to be shown
of `s` -/
theorem cfgM_of {x y : Member.Sys} {G G' : Ghost} {i : Nat} {s : Node} (hI : MInv x G) (hE : Ext x.cm y.cm i)
    (hi : y.node i = s) (hroot : G'.root = G.root) (hsub : ∀ r ∈ G.R, r ∈ G'.R)
    (cl : CfgLast s.log.entries s.configs.latest)
    (sp : ProtG y G' i s.configs.latest.index ∨ MemberFollow.Pend s.log.entries s.configs)
    (fl : G.root.1 ≤ s.log.flushed) : CfgM y G' := by
  have oth : ∀ j, j ≠ i → y.node j = x.node j := hE.other
  exact ⟨NodeSys.forall_of_other (P := fun _ n => CfgLast n.log.entries n.configs.latest) hi oth cl
      (fun j _ => hI.cfg.cl j),
    NodeSys.forall_of_other
      (P := fun j n => ProtG y G' j n.configs.latest.index ∨ MemberFollow.Pend n.log.entries n.configs) hi oth sp
      (fun j hj => (hI.cfg.sp j).imp (protG_mono hE.T hroot hsub (hE.term j) (by rw [oth j hj])) id),
    NodeSys.forall_of_other (P := fun _ n => G'.root.1 ≤ n.log.flushed) hi oth (by rw [hroot]; exact fl)
      (fun j _ => by rw [hroot]; exact hI.cfg.rootFl j)⟩

theorem pairwise_cases {α : Type} {R : α → α → Prop} : ∀ {L : List α}, L.Pairwise R → ∀ a ∈ L, ∀ b ∈ L,
    a = b ∨ R a b ∨ R b a := by
  intro L
  induction L with
  | nil => intro _ a ha; cases ha
  | cons z zs ih =>
    intro hp a ha b hb
    obtain ⟨h1, h2⟩ := List.pairwise_cons.mp hp
    rcases List.mem_cons.mp ha with ea | ha' <;> rcases List.mem_cons.mp hb with eb | hb'
    · exact Or.inl (ea.trans eb.symm)
    · rw [ea]; exact Or.inr (Or.inl (h1 b hb'))
    · rw [eb]; exact Or.inr (Or.inr (h1 a ha'))
    · exact ih h2 a ha' b hb'

/-- Node `i` of `x` is replaced by `(y.node i)`; its log grew by `es` (all of term `te`), which are the new
records of the tree. -/
structure NewM (x y : Member.Sys) (G : Ghost) (i : Nat) (op : Op) (src : Nat) (es : List Entry) (te : Nat) :
    Prop where
  inv : MInv x G
  side : SideM x
  i0 : i ≠ 0
  ext : Ext x.cm y.cm i
  ry : C04Member.RInv y.cm.rp y.ecfg
  T : y.cm.T = chainOf i (lastTerm (x.node i).log.entries) es ++ x.cm.T
  log : es ≠ [] → (y.node i).log.entries = (x.node i).log.entries ++ es
  keepL : (y.node i).role = .leader → (x.node i).log.entries <+: (y.node i).log.entries
  ent : ∀ e ∈ es, e.term = te ∧ (x.node i).lastLogIndex < e.index
  story : es ≠ [] → te ≤ (y.node i).term ∧ Story (x.node i) op te ∧ (y.node i).role ≠ .candidate
  real : Counts (x.node i) op → RealReply x.el i src
  ldr : (y.node i).role = .leader →
    ((x.node i).role = .leader ∧ (y.node i).term = (x.node i).term) ∨
    ((x.node i).role = .candidate ∧ (y.node i).term = (x.node i).term) ∨ (x.node i).term < (y.node i).term

namespace NewM
variable {x y : Member.Sys} {G : Ghost} {i : Nat} {op : Op} {src : Nat} {es : List Entry} {te : Nat}

/-- the part of `NewM` that `Commit.NewC` states for both systems; election safety of the election records
(`esafeM`) is what makes node `i` the creator of every older record of the new entries' term -/
theorem toC (h : NewM x y G i op src es te) : NewC x.cm y.cm (acksG x G) i op es te where
  core := core_of_minv h.inv
  ext := h.ext
  i0 := h.i0
  log' := logCore h.ry.logInv
  T := h.T
  log := h.log
  keepL := h.keepL
  ent := h.ent
  story := h.story
  ldr := h.ldr
  creator := fun hne c hc h0 ht => C04Member.elE_unique (esafeM h.inv h.side.tree)
    (by rw [← ht]; exact (h.inv.rp.own c hc h0).1)
    (C04Member.story_backed h.inv.rp i op src te (h.side.q1 i) h.real (h.story hne).2.1)

theorem mem_new (h : NewM x y G i op src es te) {c : CEntry}
    (hc : c ∈ chainOf i (lastTerm (x.node i).log.entries) es) :
    c.cr = i ∧ c.e ∈ es ∧ c.e.term = te ∧ (x.node i).log.entries.length < c.e.index ∧ es ≠ [] :=
  h.toC.mem_new hc

theorem mem_T (h : NewM x y G i op src es te) {c : CEntry} (hc : c ∈ y.cm.T) :
    c ∈ chainOf i (lastTerm (x.node i).log.entries) es ∨ c ∈ x.cm.T :=
  h.toC.mem_T hc

theorem new_holds (h : NewM x y G i op src es te) {c : CEntry}
    (hc : c ∈ chainOf i (lastTerm (x.node i).log.entries) es) :
    Holds (y.node i).log.entries c.e.index c.e.term :=
  h.toC.new_holds hc

theorem old_holds (h : NewM x y G i op src es te) (hne : es ≠ []) {k τ : Nat}
    (hk : Holds (x.node i).log.entries k τ) : Holds (y.node i).log.entries k τ :=
  h.toC.old_holds hne hk

theorem story_cases (h : NewM x y G i op src es te) (hne : es ≠ []) :
    ((x.node i).role = .leader ∧ te = (x.node i).term) ∨
    (¬ ((x.node i).role = .leader ∧ te = (x.node i).term) ∧
      Counts (x.node i) op ∧ (x.node i).votesNeeded - 1 = 0 ∧ te = (x.node i).term) :=
  (h.toC.story_cases hne).imp id fun ⟨a, b⟩ => ⟨a, b.resolve_right fun c => h.side.q1 i c.2⟩

theorem old_nonempty (h : NewM x y G i op src es te) :
    ∃ z ∈ x.cm.T, Holds (x.node i).log.entries z.e.index z.e.term := by
  obtain ⟨⟨e, he, _⟩, _⟩ := h.inv.cfg.cl i
  have hh := C02Sys.holds_of_mem (nwfM h.inv i).contig he
  obtain ⟨z, hz, hzk⟩ := log_recordM h.inv i hh
  exact ⟨z, hz, by rw [(key_eq.mp hzk).1, (key_eq.mp hzk).2]; exact hh⟩

theorem treeM (h : NewM x y G i op src es te) : TreeM y G := by
  have hI := h.inv
  have hC := h.toC
  have hT := hC.treeOK
  refine ⟨hT.pathc, hT.tmono, fun c hc d hd ht _ hle => hT.tblock c hc d hd ht hle,
    fun c hc d hd ht hc0 hd0 => ?_, hC.ownLog, ?_, fun c hc => ?_, fun c hc h0 hty => ?_, fun c hc d hd hc0 hd0 => ?_⟩
  · -- one creator per term
    rcases h.mem_T hc with hcn | hco <;> rcases h.mem_T hd with hdn | hdo
    · rw [(h.mem_new hcn).1, (h.mem_new hdn).1]
    · exact (hC.creator_new hcn hdo ht hd0).symm
    · exact hC.creator_new hdn hco ht.symm hc0
    · exact hI.tree.cu c hco d hdo ht hc0 hd0
  · obtain ⟨c, hc, r⟩ := hI.tree.rootC
    exact ⟨c, h.ext.T c hc, r⟩
  · rcases h.mem_T hc with hn | ho
    · obtain ⟨_, _, _, c4, hne⟩ := h.mem_new hn
      obtain ⟨z, hz, hzh⟩ := h.old_nonempty
      have h1 : Anc y.cm.T G.root (key z) := h.ext.anc (hI.tree.rootA z hz)
      have h2 : Anc y.cm.T (key z) (key c) :=
        rancM h.ry i (a := key z) (c := key c) (h.old_holds hne hzh) (h.new_holds hn)
          (by show z.e.index ≤ c.e.index; have := hzh.2.1; omega)
      exact h1.trans h.ry.uniq h2
    · exact h.ext.anc (hI.tree.rootA c ho)
  · rcases h.mem_T hc with hn | ho
    · exact absurd ((h.mem_new hn).1.symm.trans h0) h.i0
    · exact hI.tree.rootOnly c ho h0 hty
  · -- created entries have terms above the initial ones
    have hco : c ∈ x.cm.T := (h.mem_T hc).elim
      (fun hn => absurd ((h.mem_new hn).1.symm.trans hc0) h.i0) id
    rcases h.mem_T hd with hn | ho
    · obtain ⟨_, _, d3, _, hne⟩ := h.mem_new hn
      obtain ⟨i1, i2⟩ := hI.rp.init0 c hco hc0 i
      have i1' : c.e.term ≤ (x.node i).term := i1
      rw [d3]
      rcases (h.story hne).2.1 with ⟨a, b⟩ | ⟨a, _, b⟩ | ⟨a, _, _⟩
      · have : c.e.term < (x.node i).term := i2 (by rw [show (x.cm.rp.el.node i).role = _ from a]; decide)
        omega
      · have : c.e.term < (x.node i).term := i2 (by rw [show (x.cm.rp.el.node i).role = _ from a.1]; decide)
        omega
      · omega
    · exact hI.tree.initLt c hco d ho hc0 hd0

end NewM

/-- an election record stays one when the ledgers grow (the new acknowledgements are node `i`'s, in a term at or
above its old term) -/
theorem elOK_mono {x y : Member.Sys} {G : Ghost} {i : Nat} (hI : MInv x G) (hE : Ext x.cm y.cm i)
    (hU : Uniq y.cm.T) (hec : ∀ k ∈ x.ecfg, k ∈ y.ecfg) {A' : List Ack}
    (hA : ∀ a ∈ A', a ∈ acksG x G ∨ (a.voter = i ∧ (x.node i).term ≤ a.term))
    {e : El} (he : ElOK x (acksG x G) e) : ElOK y A' e := by
  obtain ⟨k, hk, kc, hkc, k1, k2, k3, k4, k5, ⟨D, hD⟩, q1, q2, q3, q4, c0, hc0, hc0r⟩ := he
  obtain ⟨_, _, _, cl, hcl, hclk⟩ := hI.vote.campWf k hk
  obtain ⟨p, hp, hh⟩ := hI.tree.pathc cl hcl
  refine ⟨k, hE.camps k hk, kc, hec kc hkc, k1, k2, k3, k4, k5,
    ⟨D, cfgAt_mono hE.T hU ⟨p, hp, by rw [← hclk]; exact hh⟩ hD⟩, q1, q2, q3, fun v hv => ?_,
    c0, hE.T c0 hc0, hc0r⟩
  obtain ⟨g, u⟩ := q4 v hv
  refine ⟨hE.grants _ g, upToW_mono hE (w₂_mono hE) (fun a ha => (hI.ack.wf a ha).2.2.2) (fun a ha => ?_) u⟩
  rcases hA a ha with ho | ⟨a1, a2⟩
  · exact Or.inl ho
  · right
    intro hav
    have := (core_of_minv hI).grant_term g
    change _ ≤ (x.node _).term at this
    have e1 : ({ voter := v, term := e.term, cand := e.cand } : C01.Grant).voter = v := rfl
    rw [e1, ← hav, a1] at this
    have e2 : ({ voter := v, term := e.term, cand := e.cand } : C01.Grant).term = e.term := rfl
    rw [e2] at this
    omega

namespace NewM
variable {x y : Member.Sys} {G : Ghost} {i : Nat} {op : Op} {src : Nat} {es : List Entry} {te : Nat}

/-- **the election records** after node `i` appended `es` to its own log: when the node was elected in the step (it
counted the last missing vote) and created entries, its election record is added -/
theorem elM (hN : NewM x y G i op src es te) (hec : ∀ k ∈ x.ecfg, k ∈ y.ecfg) (R' : List Rec) (SA' : List Ack)
    (hA : ∀ a ∈ y.cm.acks ++ SA', a ∈ acksG x G ∨ (a.voter = i ∧ (x.node i).term ≤ a.term)) :
    ∃ E', ElM y ⟨G.root, R', E', SA'⟩ := by
  have hI := hN.inv
  have hE := hN.ext
  have hold : ∀ e, ElOK x (acksG x G) e → ElOK y (y.cm.acks ++ SA') e :=
    fun e he => elOK_mono hI hE hN.ry.uniq hec hA he
  have oldC : ∀ c ∈ x.cm.T, c.cr ≠ 0 → ∀ E' : List El, (∀ e ∈ G.E, e ∈ E') →
      ∃ e ∈ E', e.cand = c.cr ∧ e.term = c.e.term ∧ Anc y.cm.T e.last (key c) := by
    intro c hc h0 E' hsub
    obtain ⟨e, he, e1, e2, e3⟩ := hI.el.creator c hc h0
    exact ⟨e, hsub e he, e1, e2, hE.anc e3⟩
  by_cases hne : es = []
  · -- nothing was created
    refine ⟨G.E, fun c hc h0 => ?_, fun e he => hold e (hI.el.elect e he)⟩
    rcases hN.mem_T hc with hn | ho
    · exact absurd hne (hN.mem_new hn).2.2.2.2
    · exact oldC c ho h0 G.E (fun _ h => h)
  · rcases hN.story_cases hne with ⟨hl, hte⟩ | ⟨hnl, hcn, hvn, hte⟩
    · -- the node was leader of the term already: the record of its last entry
      refine ⟨G.E, fun c hc h0 => ?_, fun e he => hold e (hI.el.elect e he)⟩
      rcases hN.mem_T hc with hn | ho
      · obtain ⟨hz, z, hzT, hzk⟩ := leader_last_recordM hI hl
        have hzk' : z.e.index = (x.node i).log.entries.length ∧ z.e.term = (x.node i).term := key_eq.mp hzk
        have hzi := creator_is_leaderM hI hN.side.tree hl hzT hzk'.2
        have hz0 := (core_of_minv hI).cr_ne_zero (i := i) (by rw [hl]; decide) hzT hzk'.2
        obtain ⟨e, he, e1, e2, e3⟩ := hI.el.creator z hzT hz0
        obtain ⟨c1, _, c3, c4, _⟩ := hN.mem_new hn
        refine ⟨e, he, by rw [e1, hzi, c1], by rw [e2, hzk'.2, c3, hte], ?_⟩
        have h2 : Anc y.cm.T (key z) (key c) := by
          rw [hzk]
          exact rancM hN.ry i (a := ((x.node i).log.entries.length, (x.node i).term)) (c := key c)
            (hN.old_holds hne hz) (hN.new_holds hn) (by show _ ≤ c.e.index; omega)
        exact (hE.anc e3).trans hN.ry.uniq h2
      · exact oldC c ho h0 G.E (fun _ h => h)
    · -- the node counted the last missing vote in this step: a new election record
      have hcand : (x.node i).role = .candidate := hcn.1
      obtain ⟨k, hk, k1, k2, k3, k4, k5⟩ := hI.node.camp i (by rw [hcand]; decide)
      have ok := hI.rp.el.cand i hcand
      obtain ⟨r1, r2, r3, r4⟩ := hN.real hcn
      have hnotin : src ∉ votersCounted x.el.counted i (x.node i).term :=
        fun hm => r4 ((C01Sys.mem_votersCounted _ _ _ _).mp hm)
      let e : El := ⟨i, (x.node i).term, k.last, i :: src :: votersCounted x.el.counted i (x.node i).term⟩
      have hlen : 1 ≤ (x.node i).log.entries.length := by
        obtain ⟨z, _, hzh⟩ := hN.old_nonempty
        have := hzh.1; have := hzh.2.1; omega
      have hklast : k.last = ((x.node i).log.entries.length, (x.node i).lastLogTerm) := by
        have e1 := k5 hcand
        have e2 := k4 (by rw [e1]; exact hlen)
        unfold Camp.last
        rw [e1] at e2 ⊢
        rw [termAt_length, ← (nwfM hI i).lastT] at e2
        rw [e2]
      have hkh : Holds (x.node i).log.entries (x.node i).log.entries.length (x.node i).lastLogTerm :=
        C02Sys.holds_last (nwfM hI i) hlen
      refine ⟨e :: G.E, fun c hc h0 => ?_, fun e' he' => ?_⟩
      · rcases hN.mem_T hc with hn | ho
        · obtain ⟨c1, _, c3, c4, _⟩ := hN.mem_new hn
          refine ⟨e, List.mem_cons_self .., c1.symm, by show (x.node i).term = _; rw [c3, hte], ?_⟩
          show Anc _ k.last (key c)
          rw [hklast]
          exact rancM hN.ry i (a := ((x.node i).log.entries.length, (x.node i).lastLogTerm)) (c := key c)
            (hN.old_holds hne hkh) (hN.new_holds hn) (by show _ ≤ c.e.index; omega)
        · exact oldC c ho h0 (e :: G.E) (fun _ h => List.mem_cons_of_mem _ h)
      · rcases List.mem_cons.mp he' with rfl | ho
        · -- the new record
          obtain ⟨kc', hkc', c1, c2, D, hD⟩ := hI.vote.campCfg k hk
          have hkce : kc' = ⟨i, (x.node i).term, (x.node i).configs.latest⟩ :=
            hI.rp.el.ecfgUniq kc' hkc' _ ok.recd (c1.trans k1) (c2.trans k2)
          obtain ⟨_, _, _, cl, hcl, hclk⟩ := hI.vote.campWf k hk
          obtain ⟨p, hp, hh⟩ := hI.tree.pathc cl hcl
          have hwfa : ∀ a ∈ acksG x G, ∃ c ∈ x.cm.T, key c = a.key := fun a ha => (hI.ack.wf a ha).2.2.2
          have hmono : ∀ v, UpToM x.cm.T (acksG x G) k v → UpToM y.cm.T (y.cm.acks ++ SA') k v := by
            intro v hu
            refine upToW_mono hE (w₂_mono hE) hwfa (fun a ha => ?_) hu
            rcases hA a ha with ho | ⟨_, a2⟩
            · exact Or.inl ho
            · exact Or.inr (fun _ => by rw [k2]; exact a2)
          obtain ⟨c0, hc0, hc0e, hc0r⟩ : ∃ c0 ∈ y.cm.T, c0.cr = i ∧ c0.e.term = (x.node i).term := by
            obtain ⟨e0, he0⟩ := List.exists_mem_of_ne_nil es hne
            obtain ⟨c0, hc0, h1, h2⟩ := C02Sys.chainOf_mem (cr := i) (pt := lastTerm (x.node i).log.entries) he0
            refine ⟨c0, by rw [hN.T]; exact List.mem_append_left _ hc0, h2, ?_⟩
            rw [h1, (hN.ent e0 he0).1, hte]
          refine ⟨k, hE.camps k hk, ⟨i, (x.node i).term, (x.node i).configs.latest⟩,
            hec _ ok.recd, k1, k2, rfl, rfl, rfl,
            ⟨D, cfgAt_mono hE.T hN.ry.uniq ⟨p, hp, by rw [← hclk]; exact hh⟩ (by rw [hkce] at hD; exact hD)⟩,
            ?_, ?_, ?_, ?_, c0, hc0, hc0e, hc0r⟩
          · refine List.nodup_cons.mpr ⟨?_, List.nodup_cons.mpr ⟨hnotin, ok.nodup⟩⟩
            intro hm
            rcases List.mem_cons.mp hm with hm | hm
            · exact r1 hm.symm
            · exact (ok.real i hm).2.1 rfl
          · intro v hv
            apply C01Sys.isVoter_mem_voters
            rcases List.mem_cons.mp hv with hv | hv
            · subst hv; exact ok.voter
            · rcases List.mem_cons.mp hv with hv | hv
              · subst hv; exact r2
              · exact (ok.real v hv).1
          · have hcount : (x.node i).votesNeeded + ((votersCounted x.el.counted i (x.node i).term).length : Int) + 1 =
                (((x.node i).configs.latest.voters.length / 2 + 1 : Nat) : Int) := ok.count
            show 2 * (i :: src :: votersCounted x.el.counted i (x.node i).term).length >
              (x.node i).configs.latest.voters.length
            simp only [List.length_cons]
            omega
          · intro v hv
            rcases List.mem_cons.mp hv with hv | hv
            · subst hv
              exact ⟨hE.grants _ ok.self, hmono _ (hI.vote.electInv k hk _ (Or.inl k1.symm))⟩
            · rcases List.mem_cons.mp hv with hv | hv
              · subst hv
                exact ⟨hE.grants _ r3, hmono _ ((core_of_minv hI).upToW_of_grant w₂_le hcand hk k1 k2 r3)⟩
              · obtain ⟨_, _, hg⟩ := ok.real v hv
                refine ⟨hE.grants _ hg, hmono _ (hI.vote.electInv k hk v (Or.inr ?_))⟩
                rw [k1, k2]
                exact (C01Sys.mem_votersCounted _ _ _ _).mp hv
        · exact hold e' (hI.el.elect e' ho)

end NewM


theorem nodeM_of {y : Member.Sys} (hn : ∀ j, NodeAt y.cm j)
    (cc : ∀ j, (y.node j).role = .leader → (y.node j).configs.isCommitted = true →
      (y.node j).configs.latest.index < (y.node j).ldr.startIndex ∨
      (y.node j).configs.latest.index ≤ (y.node j).commitIndex) : NodeM y :=
  ⟨fun j => (hn j).lwf, fun j => (hn j).termLe, fun j => (hn j).unfl, fun j => (hn j).camp, fun j => (hn j).ldr, cc⟩

namespace SM
variable {x : Member.Sys} {G : Ghost} {i : Nat} {op : Op} {ra : List Nat} {ord : List (List Nat)} {src : Nat}

theorem T_eq (h : SM x G i op ra ord src) : h.y.cm.T =
    newCreated i (x.node i).log.entries h.post.log.entries op ++ x.cm.T := rfl

/-- what the step is for the clause lemmas of Lemmas/CommitCoreTree.lean -/
theorem toC (h : SM x G i op ra ord src) : StepC x.cm h.y.cm (acksG x G) i op ra ord src :=
  ⟨⟨core_of_minv h.inv, h.ext, h.en.rp.id, h.node_i, h.upd, logCore h.ry.logInv, rfl, rfl⟩, rfl, rfl, rfl, h.side.boot i,
    h.en.rp.ok, h.en.rp.voteSrc, h.en.vote, h.en.rp.real, h.en.rp.append, fun happ => (h.nst happ).toC⟩

theorem fst {q : AppendReq} (h : SM x G i (.append q) ra ord src) (hns : ¬ q.term < (x.node i).term) :
    q ∈ x.cm.rp.sent ∧ FStep (x.node i) q h.post := h.toC.fst hns

/-- election safety of the election records (`esafeM`): a record of the term of entries node `i` appends to its own log
was created by node `i` -/
theorem creator (h : SM x G i op ra ord src) (te : Nat) (hs : Story (x.node i) op te) :
    ∀ c ∈ x.cm.T, c.cr ≠ 0 → c.e.term = te → c.cr = i := fun c hc h0 ht =>
  C04Member.elE_unique h.esafe (by rw [← ht]; exact (h.inv.rp.own c hc h0).1)
    (C04Member.story_backed h.inv.rp i op src te (h.side.q1 i) h.en.rp.real hs)

theorem newM (h : SM x G i op ra ord src) (happ : ∀ q, op ≠ .append q) :
    ∃ es te, NewM x h.y G i op src es te ∧ h.post.log.entries = (x.node i).log.entries ++ es :=
  let ⟨es, te, c, hl, _⟩ := h.toC.newC h.creator
  ⟨es, te, ⟨h.inv, h.side, c.i0, c.ext, h.ry, c.T, c.log, c.keepL, c.ent, c.story, h.en.rp.real, c.ldr⟩, hl happ⟩

theorem cc_post (h : SM x G i op ra ord src) : h.post.role = .leader → h.post.configs.isCommitted = true →
    h.post.configs.latest.index < h.post.ldr.startIndex ∨ h.post.configs.latest.index ≤ h.post.commitIndex := by
  intro hl hc
  rcases op_cases op with happ | ⟨q, rfl⟩
  · exact (h.nst happ).cc hl (h.leader_pre hl).2 hc
  · by_cases hst : q.term < (x.node i).term
    · obtain ⟨_, _, _, s4, _, s6, s7, s8, _⟩ := append_stale _ q ra ord hst
      have hl' : ((x.node i).step (.append q) ra ord).role = .leader := hl
      have hc' : ((x.node i).step (.append q) ra ord).configs.isCommitted = true := hc
      show ((x.node i).step (.append q) ra ord).configs.latest.index < ((x.node i).step (.append q) ra ord).ldr.startIndex ∨
        ((x.node i).step (.append q) ra ord).configs.latest.index ≤ ((x.node i).step (.append q) ra ord).commitIndex
      rw [s7, s8, s4]
      exact h.inv.node.cc i (by rw [← s6]; exact hl') (by rw [← s7]; exact hc')
    · have := append_step_role _ q ra ord hst
      rw [show h.post.role = _ from this] at hl; cases hl


theorem treeM_app {q : AppendReq} (h : SM x G i (.append q) ra ord src) : TreeM h.y G := by
  have hI := h.inv
  have hT : h.y.cm.T = x.cm.T := rfl
  refine ⟨by rw [hT]; exact hI.tree.pathc, by rw [hT]; exact hI.tree.tmono, by rw [hT]; exact hI.tree.tbI,
    by rw [hT]; exact hI.tree.cu, fun c hc h0 hl ht => ?_, by rw [hT]; exact hI.tree.rootC,
    by rw [hT]; exact hI.tree.rootA, by rw [hT]; exact hI.tree.rootOnly, by rw [hT]; exact hI.tree.initLt⟩
  by_cases hj : c.cr = i
  · have e : h.y.node c.cr = h.post := by rw [hj]; exact h.node_i
    rw [e] at hl ht ⊢
    by_cases hst : q.term < (x.node i).term
    · obtain ⟨s1, s2, _, _, _, s6, _⟩ := append_stale _ q ra ord hst
      have s1' : h.post.log = (x.node i).log := s1
      rw [s1']
      have := hI.tree.ownLog c hc h0
      rw [hj] at this
      exact this (by rw [← s6]; exact hl) (by rw [← s2]; exact ht)
    · have := append_step_role _ q ra ord hst
      rw [show h.post.role = _ from this] at hl; cases hl
  · rw [h.node_j hj] at hl ht ⊢
    exact hI.tree.ownLog c hc h0 hl ht

theorem treeM (h : SM x G i op ra ord src) : TreeM h.y G := by
  rcases op_cases op with happ | ⟨q, rfl⟩
  · obtain ⟨es, te, hN, _⟩ := h.newM happ
    exact hN.treeM
  · exact h.treeM_app

/-- what the self acknowledgement of a leader-side commit says: it is that of the newest commit moment of the step -/
theorem selfAck_facts (h : SM x G i op ra ord src) {a : Ack} (ha : a ∈ selfAck i op (x.node i) h.post) :
    (∀ q, op ≠ .append q) ∧ a.voter = i ∧ a.eterm = a.term ∧ a.index = h.post.commitIndex ∧
    ∃ L ev L', MEvs (x.node i) (Commit.Backed x.cm i) h.post a.term L ∧ L = ev :: L' ∧ ev.ci = a.index := by
  unfold selfAck at ha
  split at ha
  · rename_i hlc
    have happ : ∀ q, op ≠ .append q := by
      intro q hq
      have := hlc.1
      rw [hq] at this
      simp [isAppend] at this
    obtain ⟨T, L, m⟩ := h.evs happ
    rw [List.mem_singleton.mp ha]
    cases L with
    | nil =>
      exfalso
      have e : h.post.commitIndex = (x.node i).commitIndex := m.head
      have := hlc.2
      omega
    | cons ev L' =>
      have e : h.post.commitIndex = ev.ci := m.head
      have hT : termAt h.post.log.entries h.post.commitIndex = T := by
        rw [e]; exact (m.ev ev (List.mem_cons_self ..)).2.2.2.2.1.2.2
      exact ⟨happ, rfl, rfl, rfl, ev :: L', ev, L', by show MEvs _ _ _ (termAt _ _) _; rw [hT]; exact m, rfl, e.symm⟩
  · cases ha

theorem selfAck_term (h : SM x G i op ra ord src) {a : Ack} (ha : a ∈ selfAck i op (x.node i) h.post) :
    a.voter = i ∧ (x.node i).term ≤ a.term ∧ (h.post.votedFor ≠ 0 → h.post.term ≤ a.term) := by
  obtain ⟨_, a1, _, _, L, ev, L', m, hL, _⟩ := h.selfAck_facts ha
  have hmono := h.vstep.1.1
  obtain ⟨s1, s2, s3⟩ := m.src (Or.inl (by rw [hL]; exact List.cons_ne_nil _ _))
  refine ⟨a1, ?_, fun hv => ?_⟩
  · rcases s3 with ⟨_, s⟩ | ⟨_, _, s⟩
    · rw [s]; exact Nat.le_refl _
    · rw [hL] at s; cases s
  · rcases s2 with s2 | s2
    · omega
    · exact absurd s2 hv

theorem acks_cases (h : SM x G i op ra ord src) {a : Ack} (ha : a ∈ h.y.cm.acks ++ G.SA) :
    (∃ q, op = .append q ∧ a ∈ ackOf i op h.post) ∨ a ∈ selfAck i op (x.node i) h.post ∨ a ∈ acksG x G :=
  (List.mem_append.mp ha).elim (fun ha => (h.toC.acks_cases ha).imp id (.imp id (List.mem_append_left _)))
    fun ha => Or.inr (Or.inr (List.mem_append_right _ ha))

theorem coreUpd (h : SM x G i op ra ord src) :
    CoreUpd x.cm h.y.cm (acksG x G) (h.y.cm.acks ++ G.SA) i op src h.post :=
  h.toC.coreUpd fun _ ha => (List.mem_append.mp ha).elim
    (fun ha => (h.toC.new_acks (fun _ => h.selfAck_term) ha).imp (List.mem_append_left _) id)
    fun ha => Or.inl (List.mem_append_right _ ha)

end SM

/-- the configuration a campaign of node `i` is recorded with — the node's latest one — is the last configuration
entry of the log it campaigns with, in any tree that extends `x`'s -/
theorem cfgAt_new {x y : Member.Sys} {G : Ghost} {i : Nat} (hI : MInv x G) (hE : Ext x.cm y.cm i) (hU : Uniq y.cm.T) :
    ∃ D, CfgAt y.cm.T D (x.node i).configs.latest ((x.node i).lastLogIndex, (x.node i).lastLogTerm) := by
  have hn := nwfM hI i
  obtain ⟨⟨e, he, hec⟩, hlast⟩ := hI.cfg.cl i
  have hh := C02Sys.holds_of_mem hn.contig he
  obtain ⟨c, hc, c1, c2, c3⟩ := path_record (log_pathM hI i) hh
  have hlen : 1 ≤ (x.node i).log.entries.length := by have := hh.1; have := hh.2.1; omega
  have hv := C02Sys.holds_last hn hlen
  have hce : c.e = e := by
    obtain ⟨k, hk, rfl⟩ := List.getElem_of_mem he
    have hi := hn.contig k hk
    rw [hi] at c3
    have : (x.node i).log.entries[k + 1 - 1]? = some (x.node i).log.entries[k] := by
      rw [Nat.add_sub_cancel]; exact List.getElem?_eq_getElem hk
    rw [this] at c3
    injection c3 with c3
    exact c3.symm
  have hD : CfgAt x.cm.T (key c) (x.node i).configs.latest ((x.node i).log.entries.length, (x.node i).lastLogTerm) := by
    refine ⟨⟨c, hc, rfl, by rw [hce]; exact hec⟩, ?_, fun c' hc' ht hA => ?_⟩
    · exact rancM hI.rp i (a := key c) (by show Holds _ c.e.index c.e.term; rw [c1, c2]; exact hh) hv
        (by show c.e.index ≤ _; rw [c1]; exact hh.2.1)
    · have hh' := log_holds_ancM hI i hA hv
      obtain ⟨c'', hc'', d1, d2, d3⟩ := path_record (log_pathM hI i) hh'
      have : c'' = c' := uniqM hI c'' hc'' c' hc' d1 d2
      rw [this] at d3
      have hm : c'.e ∈ (x.node i).log.entries := List.mem_of_getElem? d3
      have := hlast c'.e hm ht
      obtain ⟨_, ci, _⟩ := Entry.config?_facts hec
      show c'.e.index ≤ c.e.index
      rw [c1, ← ci]; exact this
  refine ⟨key c, ?_⟩
  rw [hn.last]
  exact cfgAt_mono hE.T hU ⟨_, log_pathM hI i, hv⟩ hD

theorem recOK_mono {x y : Member.Sys} {G : Ghost} {i : Nat} {A' : List Ack} (hI : MInv x G) (hE : Ext x.cm y.cm i)
    (hA : ∀ a ∈ acksG x G, a ∈ A') {r : Rec} (hr : RecOK x (acksG x G) r) : RecOK y A' r := by
  obtain ⟨r1, r2, ⟨c, hc, hk, h0⟩, D, cfg, r4, r5, r6, r7⟩ := hr
  obtain ⟨p, hp, hh⟩ := hI.tree.pathc c hc
  refine ⟨r1, hE.anc r2, ⟨c, hE.T c hc, hk, h0⟩, D, cfg,
    cfgAt_mono hE.T hE.uniq ⟨p, hp, by rw [← hk]; exact hh⟩ r4, r5, r6, fun v hv => ?_⟩
  obtain ⟨a, ha, a1, a2, a3⟩ := r7 v hv
  exact ⟨a, hA a ha, a1, a2, hE.anc a3⟩

/-- `SentM` after node `i` was replaced (`Commit.CoreUpd`): `CoreUpd.sentAt`; a new record of the tree was created by node
`i`, so the initial entries are the old ones -/
theorem sentM_of {x y : Member.Sys} {G : Ghost} {i : Nat} {op : Op} {src : Nat} {s : Node} {A' : List Ack}
    (hI : MInv x G) (h : CoreUpd x.cm y.cm (acksG x G) A' i op src s) : SentM y :=
  sentM_iff.mpr ⟨fun q hq => by rw [h.sent] at hq; exact h.sentAt hq, fun q hq c hc h0 => by
    rw [h.sent] at hq
    exact hI.sent.init q hq c ((h.mem_T hc).resolve_left fun e => h.i0 (e.symm.trans h0)) h0⟩

/-- `VoteM` after node `i` was replaced (`Commit.CoreUpd`): the clauses about campaigns, votes and grants are those of the
core, the votes a candidate counted pass `UpToM`; a campaign and its configuration are recorded together -/
theorem voteM_of {x y : Member.Sys} {G : Ghost} {i : Nat} {op : Op} {src : Nat} {s : Node} {A' : List Ack}
    (hI : MInv x G) (h : CoreUpd x.cm y.cm (acksG x G) A' i op src s)
    (hecfg : y.ecfg = ecfgOf i (x.node i) s ++ x.ecfg) : VoteM y A' := by
  have hE := h.ext
  have hU := h.log'.uniq
  have b := h.voteB
  have hrecOld : ∀ k ∈ x.cm.camps, ∃ es, Path x.cm.T es ∧ Holds es k.last.1 k.last.2 := by
    intro k hk
    obtain ⟨_, _, _, c, hc, hck⟩ := hI.vote.campWf k hk
    obtain ⟨es, p, hh⟩ := hI.tree.pathc c hc
    exact ⟨es, p, by rw [← hck]; exact hh⟩
  have campCfg : ∀ k ∈ y.cm.camps, ∃ kc ∈ y.ecfg, kc.cand = k.cand ∧ kc.term = k.term ∧
      ∃ D, CfgAt y.cm.T D kc.cfg k.last := by
    intro k hk
    rcases h.camp_cases hk with hn | ho
    · obtain ⟨n1, n2, n3⟩ := mem_campOf hn
      refine ⟨⟨i, s.term, (x.node i).configs.latest⟩, ?_, by rw [n3], by rw [n3], ?_⟩
      · rw [hecfg]
        apply List.mem_append_left
        unfold ecfgOf
        rw [if_pos ⟨n1, n2⟩]
        exact List.mem_singleton.mpr rfl
      · rw [n3]; exact cfgAt_new hI hE hU
    · obtain ⟨kc, hkc, c1, c2, D, hD⟩ := hI.vote.campCfg k ho
      exact ⟨kc, by rw [hecfg]; exact List.mem_append_right _ hkc, c1, c2, D, cfgAt_mono hE.T hU (hrecOld k ho) hD⟩
  refine ⟨b.campUniq, fun k hk => ?_, b.voteCamp, b.voteInv, b.grantInv,
    h.electW (w₂_mono hE) w₂_strict hI.vote.electInv
      fun hc _ ho e1 e2 => h.core.upToW_of_grant w₂_le hc.1 ho e1 e2 (h.real hc).2.2.1,
    b.countedGrant, b.grantCamp, campCfg, fun kc hkc => ?_⟩
  · -- the log a campaign was recorded with holds its configuration entry, so it is not empty
    obtain ⟨a1, a2, a3, _⟩ := b.campWf k hk
    obtain ⟨_, _, _, _, D, _, ⟨_, es, p, hh, _⟩, _⟩ := campCfg k hk
    obtain ⟨c, hc, c1, c2, _⟩ := path_record p hh
    exact ⟨a1, a2, a3, c, hc, key_eq.mpr ⟨c1, c2⟩⟩
  · rw [hecfg] at hkc
    rcases List.mem_append.mp hkc with hn | ho
    · obtain ⟨n1, n2, n3⟩ := C01Member.mem_ecfgOf hn
      refine ⟨Camp.mk i s.term (x.node i).lastLogIndex (x.node i).lastLogTerm, ?_, by rw [n3], by rw [n3]⟩
      rw [h.camps]; exact List.mem_append_left _ (campOf_self ⟨n1, n2⟩)
    · obtain ⟨k, hk, r⟩ := hI.vote.cfgCamp kc ho
      exact ⟨k, hE.camps k hk, r⟩

namespace SM
variable {x : Member.Sys} {G : Ghost} {i : Nat} {op : Op} {ra : List Nat} {ord : List (List Nat)} {src : Nat}

/-- the self acknowledgement of a leader-side commit: flushed, of the leader's term, its record created by the node -/
theorem selfAck_at (h : SM x G i op ra ord src) {a : Ack} (ha : a ∈ selfAck i op (x.node i) h.post) :
    SelfAck h.y.cm i h.post a := by
  obtain ⟨_, a1, a2, a3, L, ev, L', m, hL, e3⟩ := h.selfAck_facts ha
  have hev := m.ev ev (by rw [hL]; exact List.mem_cons_self ..)
  obtain ⟨s1, _, s3⟩ := m.src (Or.inl (by rw [hL]; exact List.cons_ne_nil _ _))
  refine ⟨a1, a2, s1, by rw [← e3]; exact hev.2.2.2.2.1, by rw [← e3]; exact hev.2.2.2.2.2.1, fun r hr hk => ?_⟩
  have hrt : r.e.term = a.term := congrArg Prod.snd hk
  rcases s3 with ⟨s1, s2⟩ | ⟨_, _, s⟩
  · -- leader before the step: the record is new, or an old record of the leader's term
    exact (h.toC.mem_T hr).elim id fun ho => creator_is_leaderM h.inv h.side.tree s1 ho (hrt.trans s2)
  · rw [hL] at s; cases s

theorem sentM (h : SM x G i op ra ord src) : SentM h.y := sentM_of h.inv h.coreUpd

/-- **acknowledgements** after a completed step: the old ones are kept (`CoreUpd.ackAt_old`); new are the
acknowledgement of a `success` reply and the self acknowledgement of a leader-side commit -/
theorem ackM (h : SM x G i op ra ord src) : AckM h.y (h.y.cm.acks ++ G.SA) := by
  have hU := h.coreUpd
  refine ackM_iff.mpr (hU.ack_of fun a ha => ?_)
  rcases h.acks_cases ha with ⟨q, rfl, ha⟩ | ha | ha
  · obtain ⟨hq, hst, a1, a2, a3, a4, a5, a6, a7⟩ := h.toC.ack_facts ha
    obtain ⟨_, w3, _⟩ := h.inv.sent.won q hq
    exact Or.inr (hU.ackAt_reply hq (h.en.appendSrc q rfl)
      (fun c hc h0 ht => creator_of_wonM h.inv h.side.tree w3 hc h0 ht) (h.fst hst).2.dirty a1 a2 a3 a4 a5 a6 a7)
  · exact Or.inr (hU.ackAt_self (h.selfAck_at ha))
  · exact Or.inl ha

theorem voteM (h : SM x G i op ra ord src) : VoteM h.y (h.y.cm.acks ++ G.SA) := voteM_of h.inv h.coreUpd rfl

theorem nodeM (h : SM x G i op ra ord src) : NodeM h.y :=
  nodeM_of (nodes_of (core_of_minv h.inv) h.ext h.toC.nodeAt)
    (NodeSys.forall_setNode (P := fun _ s => s.role = .leader → s.configs.isCommitted = true →
      s.configs.latest.index < s.ldr.startIndex ∨ s.configs.latest.index ≤ s.commitIndex) h.cc_post
      fun j _ => h.inv.node.cc j)


def recOf (T : Nat) (ev : CEvt) : Rec := ⟨(ev.ci, T), (ev.len, T), ev.Q⟩

theorem head_ev (h : SM x G i op ra ord src) {T : Nat} {L : List CEvt}
    (m : MEvs (x.node i) (Commit.Backed x.cm i) h.post T L) :
    (L = [] ∧ h.post.commitIndex = (x.node i).commitIndex) ∨
    (∃ ev0 ∈ L, h.post.commitIndex = ev0.ci ∧ ∀ ev ∈ L, ev.ci ≤ ev0.ci) := by
  cases L with
  | nil => exact Or.inl ⟨rfl, m.head⟩
  | cons ev0 L' =>
    refine Or.inr ⟨ev0, List.mem_cons_self .., m.head, fun ev hev => ?_⟩
    rcases List.mem_cons.mp hev with e' | e'
    · rw [e']; exact Nat.le_refl _
    · exact Nat.le_of_lt ((List.pairwise_cons.mp m.sorted).1 ev e').1

theorem recOK_old (h : SM x G i op ra ord src) {r : Rec} (hr : RecOK x (acksG x G) r) :
    RecOK h.y (h.y.cm.acks ++ G.SA) r :=
  recOK_mono h.inv h.ext (fun a ha => (List.mem_append.mp ha).elim
    (fun ha => List.mem_append_left _ (h.ext.acks a ha)) (List.mem_append_right _)) hr

theorem ev_leader (h : SM x G i op ra ord src) {T : Nat} {L : List CEvt}
    (m : MEvs (x.node i) (Commit.Backed x.cm i) h.post T L) (hne : L ≠ []) :
    (x.node i).role = .leader ∧ T = (x.node i).term := by
  obtain ⟨_, _, s3⟩ := m.src (Or.inl hne)
  rcases s3 with s | ⟨_, _, s⟩
  · exact s
  · exact absurd s hne

theorem ev_terms (h : SM x G i op ra ord src) (happ : ∀ q, op ≠ .append q) {T : Nat} {L : List CEvt}
    (m : MEvs (x.node i) (Commit.Backed x.cm i) h.post T L) {ev : CEvt} (hev : ev ∈ L) {k : Nat}
    (h1 : ev.ci ≤ k) (h2 : k ≤ h.post.log.entries.length) : Holds h.post.log.entries k T := by
  have hI := h.inv
  obtain ⟨hl, hT⟩ := h.ev_leader m (List.ne_nil_of_mem hev)
  obtain ⟨_, _, _, _, hci, _⟩ := m.ev ev hev
  have h1' : 1 ≤ k := Nat.le_trans hci.1 h1
  refine ⟨h1', h2, ?_⟩
  have hlow : T ≤ termAt h.post.log.entries k :=
    holds_terms_mono h.treeM.tmono h.toC.path_i hci ⟨h1', h2, rfl⟩ h1
  have hup : termAt h.post.log.entries k ≤ T := by
    obtain ⟨es, te, _, hle⟩ := h.newM happ
    have hlt : k - 1 < h.post.log.entries.length := by omega
    have hidx := h.nwf_post.contig (k - 1) hlt
    have hmem : h.post.log.entries[k - 1] ∈ h.post.log.entries := List.getElem_mem hlt
    have ht : termAt h.post.log.entries k = (h.post.log.entries[k - 1]).term := by
      unfold termAt
      rw [if_neg (by omega), List.getElem?_eq_getElem hlt]; rfl
    rw [ht]
    by_cases hk : k ≤ (x.node i).log.entries.length
    · have : h.post.log.entries[k - 1] ∈ (x.node i).log.entries := by
        have e : h.post.log.entries[k - 1] = (x.node i).log.entries[k - 1]'(by omega) := by
          simp only [hle]
          rw [List.getElem_append_left (by omega)]
        rw [e]; exact List.getElem_mem _
      rw [hT]; exact hI.node.termLe i _ this
    · exact Nat.le_of_eq (m.newT _ hmem (by rw [hidx]; omega))
  omega

/-- **the record of a commit moment of the step, after node `i` was replaced by `s`** — a node whose log is a prefix
of the log after the completed step and still holds the log of that moment. Left to the instance: the acknowledgement
of the leader itself (`hself`). -/
theorem recOK_of (h : SM x G i op ra ord src) (happ : ∀ q, op ≠ .append q) {T : Nat} {L : List CEvt}
    (m : MEvs (x.node i) (Commit.Backed x.cm i) h.post T L) {y : Member.Sys} {s : Node} {A' : List Ack}
    {es : List Entry} {te : Nat} (hN : NewM x y G i op src es te) (hi : y.node i = s)
    (hpre : s.log.entries <+: h.post.log.entries) {ev : CEvt} (hev : ev ∈ L) (hlen : ev.len ≤ s.log.entries.length)
    (hacks : ∀ a ∈ x.cm.acks, a ∈ A')
    (hself : ∃ a ∈ A', a.voter = i ∧ a.term = T ∧ Anc y.cm.T (ev.ci, T) a.key) : RecOK y A' (recOf T ev) := by
  have hI := h.inv
  have hR := hN.ry
  obtain ⟨hl, hT⟩ := h.ev_leader m (List.ne_nil_of_mem hev)
  obtain ⟨a1, a2, a3, a4, hci, afl, acl, aq1, aq2, aq3⟩ := m.ev ev hev
  have hpn : (x.node i).log.entries <+: s.log.entries := by
    obtain ⟨es', te', _, hle⟩ := h.newM happ
    exact List.prefix_of_prefix_length_le (by rw [hle]; exact List.prefix_append _ _) hpre (by omega)
  have hlenT := h.ev_terms happ m hev a2 a4
  have hci' : Holds s.log.entries ev.ci T := holds_of_prefix hpre hci (by omega)
  have hlenT' : Holds s.log.entries ev.len T := holds_of_prefix hpre hlenT hlen
  have sanc : ∀ {a c : K}, Holds s.log.entries a.1 a.2 → Holds s.log.entries c.1 c.2 → a.1 ≤ c.1 → Anc y.cm.T a c :=
    fun ha hc hle => rancM hR i (by rw [hi]; exact ha) (by rw [hi]; exact hc) hle
  have htake : s.log.entries.take ev.len = h.post.log.entries.take ev.len := by
    obtain ⟨r, hr⟩ := hpre
    rw [← hr, List.take_append_of_le_length hlen]
  obtain ⟨D, hD, _⟩ := cfgAt_of_log hR i ev.len hlenT.1 (by rw [hi]; exact hlen) (by rw [hi, htake]; exact acl)
  rw [hi, hlenT'.2.2] at hD
  obtain ⟨cl, hcl, hclk⟩ := rrecordM hR i (show Holds (y.node i).log.entries ev.len T by rw [hi]; exact hlenT')
  refine ⟨rfl, sanc hci' hlenT' a2, ⟨cl, hcl, hclk, ?_⟩, D, ev.cfg, hD, aq1, aq2, fun v hv => ?_⟩
  · -- the record of the log end of that moment was created by a node
    have hclt : cl.e.term = T := congrArg Prod.snd hclk
    rcases hN.mem_T hcl with hn | ho
    · rw [(hN.mem_new hn).1]; exact h.en.rp.id
    · exact (core_of_minv hI).cr_ne_zero (i := i) (by rw [hl]; decide) ho (hclt.trans hT)
  · rcases aq3 v hv with e | ⟨_, _, mm, hm1, a, ha, b1, b2, b3⟩
    · obtain ⟨a, ha, a1, a2, a3⟩ := hself
      exact ⟨a, ha, by rw [e, h.nid_pre]; exact a1, a2, a3⟩
    · -- another voter: the acknowledgement that backs its match index
      have hah := ack_on_leaderM hI h.side.tree hl (List.mem_append_left _ ha) b2
      refine ⟨a, hacks a ha, b1, by rw [b2, hT]; rfl, ?_⟩
      exact sanc hci' (holds_prefix hpn hah) (by show ev.ci ≤ a.index; omega)

/-- the self acknowledgement of the newest commit moment of a completed step covers every commit moment of the step -/
theorem self_ack (h : SM x G i op ra ord src) (happ : ∀ q, op ≠ .append q) {T : Nat} {L : List CEvt}
    (m : MEvs (x.node i) (Commit.Backed x.cm i) h.post T L) {ev : CEvt} (hev : ev ∈ L) :
    ∃ a ∈ h.y.cm.acks ++ G.SA, a.voter = i ∧ a.term = T ∧ Anc h.y.cm.T (ev.ci, T) a.key := by
  have hci := (m.ev ev hev).2.2.2.2.1
  rcases h.head_ev m with ⟨e0, _⟩ | ⟨ev0, hev0m, hhead, hmax⟩
  · rw [e0] at hev; cases hev
  · have hev0 := m.ev ev0 hev0m
    have hlc : LeaderCommit op (x.node i) h.post := by
      refine ⟨C02Sys.SC.isAppend_false op happ, ?_⟩
      have := hev0.1
      omega
    have hT0 : termAt h.post.log.entries h.post.commitIndex = T := by rw [hhead]; exact hev0.2.2.2.2.1.2.2
    refine ⟨⟨i, T, ev0.ci, T⟩, ?_, rfl, rfl, h.toC.anc_i hci hev0.2.2.2.2.1 (hmax ev hev)⟩
    apply List.mem_append_left
    apply List.mem_append_right
    apply List.mem_append_left
    unfold selfAck
    rw [if_pos hlc, hT0, hhead]
    exact List.mem_singleton.mpr rfl

theorem ev_le_post (h : SM x G i op ra ord src) {T : Nat} {L : List CEvt}
    (m : MEvs (x.node i) (Commit.Backed x.cm i) h.post T L) {ev : CEvt} (hev : ev ∈ L) :
    ev.ci ≤ h.post.commitIndex := by
  rcases h.head_ev m with ⟨e, _⟩ | ⟨ev0, _, e1, e2⟩
  · rw [e] at hev; cases hev
  · rw [e1]; exact e2 ev hev

theorem leaders_same (hI : MInv x G) (hS : SideT x) {a b : Nat} (ha : (x.node a).role = .leader)
    (hb : (x.node b).role = .leader) (ht : (x.node a).term = (x.node b).term) : a = b := by
  have lo := hI.node.ldr a ha
  have hlen : 1 ≤ (x.node a).log.entries.length := Nat.le_trans lo.start lo.startLe
  have hz : Holds (x.node a).log.entries (x.node a).log.entries.length (x.node a).term :=
    ⟨hlen, Nat.le_refl _, lo.own _ lo.startLe (Nat.le_refl _)⟩
  obtain ⟨z, hzT, hzk⟩ := log_recordM hI a hz
  have hzt : z.e.term = (x.node a).term := (key_eq.mp hzk).2
  have h1 := creator_is_leaderM hI hS ha hzT hzt
  have h2 := creator_is_leaderM hI hS hb hzT (hzt.trans ht)
  exact h1.symm.trans h2

/-- **the commit records after node `i` was replaced by `s`**, a node whose log is a prefix of the log after the
completed step (`s` is the node after the step, or the node restarted after a crash in it): the commit moments `L'` of the
step that happened within that log get their records. Left to the instance: the acknowledgement of the leader itself for the
new records (`hself`), the ledger `committed` (`hcov`), and the clauses `lead` and `bound` for `s` itself — void when `s` is a follower. -/
theorem recM_of (h : SM x G i op ra ord src) (happ : ∀ q, op ≠ .append q) {T : Nat} {L : List CEvt}
    (m : MEvs (x.node i) (Commit.Backed x.cm i) h.post T L) {y : Member.Sys} {s : Node} {L' : List CEvt}
    {E' : List El} {SA' : List Ack} {es : List Entry} {te : Nat}
    (hN : NewM x y G i op src es te) (hi : y.node i = s) (hpre : s.log.entries <+: h.post.log.entries)
    (hL' : ∀ ev, ev ∈ L' ↔ ev ∈ L ∧ ev.len ≤ s.log.entries.length)
    (hacks : ∀ a ∈ x.cm.acks, a ∈ y.cm.acks ++ SA')
    (hself : ∀ ev ∈ L', ∃ a ∈ y.cm.acks ++ SA', a.voter = i ∧ a.term = T ∧ Anc y.cm.T (ev.ci, T) a.key)
    (hold : ∀ r ∈ G.R, RecOK y (y.cm.acks ++ SA') r)
    (hcov : ∀ m' ∈ y.cm.committed, (∃ ev ∈ L', (ev.ci, T) = m') ∨ m' ∈ x.cm.committed)
    (hlead : s.role = .leader → s.ldr.startIndex ≤ s.commitIndex →
      ∃ r ∈ L'.map (recOf T) ++ G.R, r.m = (s.commitIndex, s.term) ∧ r.l.1 ≤ s.log.entries.length)
    (hbound : s.role = .leader → ∀ r ∈ L'.map (recOf T) ++ G.R, r.m.2 = s.term →
      r.m.1 ≤ s.commitIndex ∧ r.l.1 ≤ s.log.entries.length) :
    RecM y ⟨G.root, L'.map (recOf T) ++ G.R, E', SA'⟩ := by
  have hI := h.inv
  have hE := hN.ext
  have hR := hN.ry
  have oth : ∀ j, j ≠ i → y.node j = x.node j := hE.other
  have inL : ∀ {ev}, ev ∈ L' → ev ∈ L := fun hev => ((hL' _).mp hev).1
  have ldr : ∀ {ev}, ev ∈ L' → (x.node i).role = .leader ∧ T = (x.node i).term :=
    fun hev => h.ev_leader m (List.ne_nil_of_mem (inL hev))
  have hmem : ∀ r ∈ L'.map (recOf T) ++ G.R, (∃ ev ∈ L', r = recOf T ev) ∨ r ∈ G.R := by
    intro r hr
    rcases List.mem_append.mp hr with hr | hr
    · obtain ⟨ev, hev, rfl⟩ := List.mem_map.mp hr
      exact Or.inl ⟨ev, hev, rfl⟩
    · exact Or.inr hr
  have sholds : ∀ {a c : K}, Anc y.cm.T a c → Holds s.log.entries c.1 c.2 → Holds s.log.entries a.1 a.2 := by
    intro a c ha hc
    have := rholdsM hR i ha (by rw [hi]; exact hc)
    rwa [hi] at this
  have sanc : ∀ {a c : K}, Holds s.log.entries a.1 a.2 → Holds s.log.entries c.1 c.2 → a.1 ≤ c.1 → Anc y.cm.T a c := by
    intro a c ha hc hle
    exact rancM hR i (by rw [hi]; exact ha) (by rw [hi]; exact hc) hle
  refine ⟨fun r hr => ?_, fun r hr r' hr' ht hlt => ?_, fun m' hm' => ?_, fun c hc hty h0 => ?_,
    fun j hl hst => ?_, fun c hc h0 r hr => ?_, fun j hl r hr ht => ?_⟩
  · rcases hmem r hr with ⟨ev, hev, rfl⟩ | ho
    · exact h.recOK_of happ m hN hi hpre (inL hev) ((hL' ev).mp hev).2 hacks (hself ev hev)
    · exact hold r ho
  · -- monotone
    rcases hmem r hr with ⟨ev, hev, rfl⟩ | ho <;> rcases hmem r' hr' with ⟨ev', hev', rfl⟩ | ho'
    · show ev.ci ≤ ev'.ci
      have hlt' : ev.len < ev'.len := hlt
      rcases pairwise_cases m.sorted ev (inL hev) ev' (inL hev') with e | ⟨_, e⟩ | ⟨e, _⟩
      · rw [e] at hlt'; omega
      · omega
      · omega
    · exfalso
      obtain ⟨hl, hT⟩ := ldr hev
      have hb := (hI.recs.bound i hl r' ho' (by rw [← ht]; exact hT)).2
      have := (m.ev ev (inL hev)).2.2.1
      have hlt' : ev.len < r'.l.1 := hlt
      omega
    · obtain ⟨hl, hT⟩ := ldr hev'
      have hb := (hI.recs.bound i hl r ho (by rw [ht]; exact hT)).1
      have := (m.ev ev' (inL hev')).1
      show r.m.1 ≤ ev'.ci
      omega
    · exact hI.recs.mono r ho r' ho' ht hlt
  · -- the ledger `committed`
    rcases hcov m' hm' with ⟨ev, hev, e⟩ | ho
    · exact ⟨recOf T ev, List.mem_append_left _ (List.mem_map.mpr ⟨ev, hev, rfl⟩), e⟩
    · obtain ⟨r, hr, e⟩ := hI.recs.cover m' ho
      exact ⟨r, List.mem_append_right _ hr, e⟩
  · -- configuration entries created by nodes
    rcases hN.mem_T hc with hn | ho
    · obtain ⟨c1, c2, c3, c4, hne⟩ := hN.mem_new hn
      have hch := hN.new_holds hn
      rw [hi] at hch
      have hcm : c.e ∈ h.post.log.entries := by
        apply hpre.subset
        rw [← hi, hN.log hne]
        exact List.mem_append_right _ c2
      obtain ⟨P, ci, p1, p2, p3, p4⟩ := m.chg c.e hcm c4 hty
      have htake : s.log.entries.take (c.e.index - 1) = h.post.log.entries.take (c.e.index - 1) := by
        obtain ⟨r, hr⟩ := hpre
        rw [← hr, List.take_append_of_le_length (by have := hch.2.1; omega)]
      have hPT := prevT_of_log hR i c.e.index (by rw [hi]; exact hch.2.1) (by rw [hi, htake]; exact p1)
      rw [hi, hch.2.2] at hPT
      have hPh : Holds s.log.entries P.index P.term := sholds hPT.2.1 hch
      have hcT : c.e.term = T := m.newT c.e hcm c4
      have hcile : ci ≤ s.log.entries.length := by
        have := p3; have := hPT.2.2.1; have := hch.2.1
        rcases p4 with ⟨e1, _, _⟩ | ⟨ev, hevL, e1, e2⟩
        · have := ciLeM hI i
          omega
        · have := (m.ev ev hevL).2.1; omega
      have p2' : Holds s.log.entries ci T := holds_of_prefix hpre p2 hcile
      rcases p4 with ⟨e1, hl, hst⟩ | ⟨ev, hevL, e1, e2⟩
      · obtain ⟨r, hr, r1, r2⟩ := hI.recs.lead i hl (by rw [← e1]; exact hst)
        have lo := hI.node.ldr i hl
        have hTe : T = (x.node i).term := by
          have hcl : ci ≤ (x.node i).log.entries.length := by rw [e1]; exact ciLeM hI i
          have := lo.own ci hst hcl
          have h2 := p2.2.2
          obtain ⟨es', te', _, hle⟩ := h.newM happ
          rw [hle, termAt_append_left _ _ _ hcl] at h2
          omega
        refine ⟨(P.index, P.term), r, List.mem_append_right _ hr, hPT, by rw [r1, hcT]; exact hTe.symm, by omega, ?_⟩
        rw [r1, ← e1, ← hTe]
        exact sanc hPh p2' p3
      · have hevk : ev ∈ L' := (hL' ev).mpr ⟨hevL, by have := hch.2.1; omega⟩
        refine ⟨(P.index, P.term), recOf T ev, List.mem_append_left _ (List.mem_map.mpr ⟨ev, hevk, rfl⟩), hPT,
          hcT.symm, e2, ?_⟩
        show Anc _ _ (ev.ci, T)
        rw [e1]
        exact sanc hPh p2' p3
    · obtain ⟨P, r, hr, hP, r1, r2, r3⟩ := hI.recs.chain c ho hty h0
      obtain ⟨p, hp, hh⟩ := hI.tree.pathc c ho
      exact ⟨P, r, List.mem_append_right _ hr, prevT_mono hE.T hR.uniq ⟨p, hp, hh⟩ hP, r1, r2, hE.anc r3⟩
  · -- the standing record of a leader
    by_cases hj : j = i
    · subst hj
      rw [hi] at hl hst ⊢
      exact hlead hl hst
    · rw [oth j hj] at hl hst ⊢
      obtain ⟨r, hr, r1, r2⟩ := hI.recs.lead j hl hst
      exact ⟨r, List.mem_append_right _ hr, r1, r2⟩
  · -- initial entries
    have hco : c ∈ x.cm.T := by
      rcases hN.mem_T hc with hn | ho
      · exact absurd ((hN.mem_new hn).1.symm.trans h0) h.en.rp.id
      · exact ho
    rcases hmem r hr with ⟨ev, hev, rfl⟩ | ho
    · obtain ⟨hl, hT⟩ := ldr hev
      have := (hI.rp.init0 c hco h0 i).2 (by rw [show (x.cm.rp.el.node i).role = _ from hl]; decide)
      show c.e.term ≤ T
      rw [hT]; exact Nat.le_of_lt this
    · exact hI.recs.init c hco h0 r ho
  · -- the records of a leader's term
    by_cases hj : j = i
    · subst hj
      rw [hi] at hl ht ⊢
      exact hbound hl r hr ht
    · rw [oth j hj] at hl ht ⊢
      rcases hmem r hr with ⟨ev, hev, rfl⟩ | ho
      · exfalso
        obtain ⟨hli, hT⟩ := ldr hev
        have ht' : T = (x.node j).term := ht
        exact hj (leaders_same hI h.side.tree hl hli (by rw [← ht', hT]))
      · exact hI.recs.bound j hl r ho ht

/-- **the commit records** after a completed step that is not an append request: the commit moments of the step are
added -/
theorem recM_step (h : SM x G i op ra ord src) (happ : ∀ q, op ≠ .append q) {T : Nat} {L : List CEvt}
    (m : MEvs (x.node i) (Commit.Backed x.cm i) h.post T L) (E' : List El) :
    RecM h.y ⟨G.root, L.map (recOf T) ++ G.R, E', G.SA⟩ := by
  have hI := h.inv
  obtain ⟨es, te, hN, hle⟩ := h.newM happ
  have hmem : ∀ r ∈ L.map (recOf T) ++ G.R, (∃ ev ∈ L, r = recOf T ev) ∨ r ∈ G.R := by
    intro r hr
    rcases List.mem_append.mp hr with hr | hr
    · obtain ⟨ev, hev, rfl⟩ := List.mem_map.mp hr
      exact Or.inl ⟨ev, hev, rfl⟩
    · exact Or.inr hr
  have hlenle : (x.node i).log.entries.length ≤ h.post.log.entries.length := by
    rw [hle, List.length_append]; omega
  have hcim := (h.nst happ).cim
  refine h.recM_of happ m hN h.node_i (List.prefix_refl _)
    (fun ev => ⟨fun hev => ⟨hev, (m.ev ev hev).2.2.2.1⟩, fun hev => hev.1⟩)
    (fun a ha => List.mem_append_left _ (h.ext.acks a ha)) (fun ev hev => h.self_ack happ m hev)
    (fun r hr => h.recOK_old (hI.recs.recd r hr)) (fun m' hm' => ?_) (fun hl hst => ?_) (fun hl r hr ht => ?_)
  · -- the ledger `committed`
    rcases List.mem_append.mp hm' with hn | ho
    · unfold newCommit at hn
      split at hn
      · rename_i hlc
        have hlc2 : (x.node i).commitIndex < h.post.commitIndex := hlc.2
        rcases h.head_ev m with ⟨_, e⟩ | ⟨ev0, hev0m, hhead, _⟩
        · omega
        · have hev0 := m.ev ev0 hev0m
          have hT0 : termAt h.post.log.entries h.post.commitIndex = T := by rw [hhead]; exact hev0.2.2.2.2.1.2.2
          refine Or.inl ⟨ev0, hev0m, ?_⟩
          rw [List.mem_singleton.mp hn]
          show (ev0.ci, T) = (h.post.commitIndex, termAt h.post.log.entries h.post.commitIndex)
          rw [hT0, hhead]
      · cases hn
    · exact Or.inr ho
  · -- the standing record of the node, if it is leader
    rcases (h.nst happ).start hl (h.leader_pre hl).2 with ⟨s1, s2, s3⟩ | s
    · rcases h.head_ev m with ⟨_, e⟩ | ⟨ev0, hev0, hhead, _⟩
      · obtain ⟨r, hr, r1, r2⟩ := hI.recs.lead i s1 (by rw [← e, ← s3]; exact hst)
        exact ⟨r, List.mem_append_right _ hr, by rw [r1, e, s2], by omega⟩
      · obtain ⟨_, hT⟩ := h.ev_leader m (List.ne_nil_of_mem hev0)
        refine ⟨recOf T ev0, List.mem_append_left _ (List.mem_map.mpr ⟨ev0, hev0, rfl⟩), ?_, (m.ev ev0 hev0).2.2.2.1⟩
        show (ev0.ci, T) = _
        rw [hhead, s2, hT]
    · omega
  · -- the records of its term
    rcases hmem r hr with ⟨ev, hev, rfl⟩ | ho
    · exact ⟨h.ev_le_post m hev, (m.ev ev hev).2.2.2.1⟩
    · rcases h.rstep.leader hl with ⟨s1, s2⟩ | ⟨s1, _, s2⟩ | ne
      · obtain ⟨b1, b2⟩ := hI.recs.bound i s1 r ho (ht.trans s2)
        exact ⟨Nat.le_trans b1 hcim, Nat.le_trans b2 hlenle⟩
      · -- elected in this step: no old record carries the new term
        exfalso
        obtain ⟨_, _, ⟨cl, hcl, hclk, hcl0⟩, _⟩ := hI.recs.recd r ho
        have hclt : cl.e.term = (x.node i).term := by
          have : cl.e.term = r.l.2 := by unfold key at hclk; exact congrArg Prod.snd hclk
          rw [this, ← (hI.recs.recd r ho).1, ht, s2]
        obtain ⟨⟨kb, hkb, b1, b2, b3⟩, _, _, o5⟩ := hI.rp.own cl hcl hcl0
        have hs : Story (x.node i) op (x.node i).term := Or.inr (Or.inl ⟨s1, by assumption, rfl⟩)
        obtain ⟨ki, hki, i1, i2, i3⟩ := C04Member.story_backed hI.rp i op src _ (h.side.q1 i) h.en.rp.real hs
        have hli : cl.cr = i := by
          have := esafeM hI h.side.tree kb hkb ki hki (by rw [b2, i2, hclt]) (by rw [b1, b2]; exact b3)
            (by rw [i1, i2]; exact i3)
          rw [b1, i1] at this
          exact this
        rw [hli] at o5
        have : cl.e.term < (x.node i).term := o5 s1.1
        omega
      · obtain ⟨ec, e1, _, _, e4⟩ := ne.cfg
        have := e4 hl
        rw [e1 (h.side.boot i)] at this
        exact absurd this (h.side.q1 i)

/-- **the commit records** after a step handling an append request: nothing is added -/
theorem recM_app {q : AppendReq} (h : SM x G i (.append q) ra ord src) : RecM h.y G := by
  have hI := h.inv
  have hT : h.y.cm.T = x.cm.T := rfl
  have hpost : ∀ (P : Node → Prop), h.post.role = .leader → P (x.node i) →
      (∀ s : Node, s.log = (x.node i).log → s.term = (x.node i).term → s.commitIndex = (x.node i).commitIndex →
        s.ldr = (x.node i).ldr → s.role = (x.node i).role → P (x.node i) → P s) → P h.post := by
    intro P hl hp hc
    by_cases hst : q.term < (x.node i).term
    · obtain ⟨s1, s2, _, s4, _, s6, _, s8, _⟩ := append_stale _ q ra ord hst
      exact hc _ s1 s2 s4 s8 s6 hp
    · have := append_step_role _ q ra ord hst
      rw [show h.post.role = _ from this] at hl; cases hl
  refine ⟨fun r hr => h.recOK_old (hI.recs.recd r hr), hI.recs.mono, fun m' hm' => ?_, by rw [hT]; exact hI.recs.chain,
    fun j hl hst => ?_, by rw [hT]; exact hI.recs.init, fun j hl r hr ht => ?_⟩
  · have : m' ∈ newCommit (.append q) (x.node i) h.post ++ x.cm.committed := hm'
    have e : newCommit (.append q) (x.node i) h.post = [] := by
      unfold newCommit LeaderCommit isAppend
      simp
    rw [e] at this
    exact hI.recs.cover m' this
  · by_cases hj : j = i
    · subst hj
      rw [h.node_i] at hl hst ⊢
      by_cases hs : q.term < (x.node j).term
      · obtain ⟨s1, s2, _, s4, _, s6, _, s8, _⟩ := append_stale _ q ra ord hs
        have e1 : h.post.log = _ := s1
        have e2 : h.post.term = _ := s2
        have e4 : h.post.commitIndex = _ := s4
        have e6 : h.post.role = _ := s6
        have e8 : h.post.ldr = _ := s8
        rw [e1, e2, e4]
        rw [e8, e4] at hst
        exact hI.recs.lead j (by rw [← e6]; exact hl) hst
      · have := append_step_role _ q ra ord hs
        rw [show h.post.role = _ from this] at hl; cases hl
    · rw [h.node_j hj] at hl hst ⊢
      exact hI.recs.lead j hl hst
  · by_cases hj : j = i
    · subst hj
      rw [h.node_i] at hl ht ⊢
      by_cases hs : q.term < (x.node j).term
      · obtain ⟨s1, s2, _, s4, _, s6, _⟩ := append_stale _ q ra ord hs
        have e1 : h.post.log = _ := s1
        have e2 : h.post.term = _ := s2
        have e4 : h.post.commitIndex = _ := s4
        have e6 : h.post.role = _ := s6
        rw [e1, e4]
        exact hI.recs.bound j (by rw [← e6]; exact hl) r hr (by rw [← e2]; exact ht)
      · have := append_step_role _ q ra ord hs
        rw [show h.post.role = _ from this] at hl; cases hl
    · rw [h.node_j hj] at hl ht ⊢
      exact hI.recs.bound j hl r hr ht

theorem elOK_old (h : SM x G i op ra ord src) {e : El} (he : ElOK x (acksG x G) e) :
    ElOK h.y (h.y.cm.acks ++ G.SA) e :=
  elOK_mono h.inv h.ext h.ry.uniq (fun _ hk => List.mem_append_right _ hk) h.coreUpd.acks_term he

theorem elM_app {q : AppendReq} (h : SM x G i (.append q) ra ord src) : ElM h.y G := by
  have hT : h.y.cm.T = x.cm.T := rfl
  exact ⟨by rw [hT]; exact h.inv.el.creator, fun e he => h.elOK_old (h.inv.el.elect e he)⟩

theorem elM_step (h : SM x G i op ra ord src) (happ : ∀ q, op ≠ .append q) (R' : List Rec) :
    ∃ E', ElM h.y ⟨G.root, R', E', G.SA⟩ := by
  obtain ⟨es, te, hN, _⟩ := h.newM happ
  exact hN.elM (fun k hk => List.mem_append_right _ hk) R' G.SA h.coreUpd.acks_term

theorem cmtM (h : SM x G i op ra ord src) : CmtM h.y := by
  refine ⟨cc_of (core_of_minv h.inv) h.ext ?_⟩
  rw [show h.y.cm.node i = h.post from h.node_i]
  refine h.toC.cc_post (fun q hq hns => reqokM h.inv h.side.tree ((h.en.rp.append q hq).resolve_left hns) hns)
    fun happ hlt => ?_
  obtain ⟨T, L, m⟩ := (h.nst happ).evs h.noPanic
  rcases h.head_ev m with ⟨_, e⟩ | ⟨ev0, hev0m, hhead, _⟩
  · rw [show h.toC.post.commitIndex = _ from e] at hlt; exact absurd hlt (Nat.lt_irrefl _)
  · obtain ⟨a1, _, _, _, hci, _⟩ := m.ev ev0 hev0m
    rw [← hhead] at hci
    obtain ⟨s1, _, _⟩ := m.src (Or.inl (List.ne_nil_of_mem hev0m))
    refine ⟨T, s1, hci, List.mem_append_left _ ?_⟩
    unfold newCommit
    rw [if_pos ⟨C02Sys.SC.isAppend_false op happ, hlt⟩, hci.2.2]
    exact List.mem_singleton.mpr rfl

/-- **configurations and logs after a completed step** (for ghost ledgers `G'` that extend `G` and cover the ledger
`committed`): every node's latest configuration is still the last configuration entry of its log; it is protected or
pending -/
theorem cfgM (h : SM x G i op ra ord src) (G' : Ghost) (hroot : G'.root = G.root) (hsub : ∀ r ∈ G.R, r ∈ G'.R)
    (hcov : ∀ m ∈ h.y.cm.committed, ∃ r ∈ G'.R, r.m = m) : CfgM h.y G' := by
  have hI := h.inv
  have hE := h.ext
  have hni := h.node_i
  have mono : ∀ j k, (h.y.node j).log.entries.take k = (x.node j).log.entries.take k → ProtG x G j k →
      ProtG h.y G' j k := fun j k ht hp => protG_mono hE.T hroot hsub (hE.term j) ht hp
  have hcc : ∀ k, 1 ≤ k → k ≤ h.post.commitIndex → ProtG h.y G' i k := fun k h1 hk =>
    protG_of_cc h.cmtM hcov h1 (by rw [hni]; exact hk)
  have hpre := nwfM hI i
  have hlat1 : ∀ {es : List Entry} {c : Config}, CfgLast es c → (∀ k (_ : k < es.length), es[k].index = k + 1) →
      1 ≤ c.index := by
    intro es c hcl hct
    obtain ⟨⟨e, he, hec⟩, _⟩ := hcl
    obtain ⟨_, ci, _⟩ := Entry.config?_facts hec
    have := (contig_index_le hct e he).1
    omega
  have hne : 1 ≤ (x.node i).log.entries.length := by
    obtain ⟨⟨e, he, _⟩, _⟩ := hI.cfg.cl i
    exact List.length_pos_of_mem he
  have hrootx : ProtG x G i G.root.1 := protG_root (holds_root hI.rp hI.tree.rootA i hne)
  have key : CfgLast h.post.log.entries h.post.configs.latest ∧
      (ProtG h.y G' i h.post.configs.latest.index ∨ MemberFollow.Pend h.post.log.entries h.post.configs) ∧
      G.root.1 ≤ h.post.log.flushed := by
    rcases op_cases op with happ | ⟨q, rfl⟩
    · have ns := h.nst happ
      obtain ⟨T, L, m⟩ := ns.evs h.noPanic
      obtain ⟨es, te, _, hl⟩ := h.newM happ
      have hli := (hI.cfg.cl i).index_le (fun x hx => (contig_index_le hpre.contig x hx).2)
      refine ⟨m.cl, ?_, Nat.le_trans (hI.cfg.rootFl i) ns.flush⟩
      rcases m.cmtd with e | e | e
      · rw [show h.post.configs = _ from e]
        rcases hI.cfg.sp i with p | p
        · refine Or.inl (mono i _ ?_ p)
          rw [hni, hl, List.take_append_of_le_length p.2.1]
        · refine Or.inr ⟨p.1, ?_⟩
          rw [hl, List.take_append_of_le_length (by omega)]
          exact p.2
      · exact Or.inl (hcc _ (hlat1 m.cl h.nwf_post.contig) e)
      · exact Or.inr e
    · by_cases hst : q.term < (x.node i).term
      · obtain ⟨e1, e2, e3⟩ := MemberFollow.fcfg_stale (x.node i) q ra ord hst
        have s1 : h.post.log = (x.node i).log := (append_stale _ q ra ord hst).1
        rw [show h.post.log.entries = _ from e1, show h.post.configs = _ from e2, s1]
        refine ⟨hI.cfg.cl i, ?_, hI.cfg.rootFl i⟩
        rcases hI.cfg.sp i with p | p
        · refine Or.inl (mono i _ ?_ p)
          rw [hni, e1]
        · exact Or.inr p
      · obtain ⟨hq, fs⟩ := h.fst hst
        have hQ : ∀ k, ProtG x G i k → k ≤ (x.node i).log.entries.length ∧ NoConf (x.node i) q k :=
          fun k p => ⟨p.2.1, protNoConf hI h.side.tree hq hst p⟩
        have hdec : ∀ e ∈ q.entries, e.typ = etConfig → ∃ c, e.config? = some c := by
          intro e he ht
          obtain ⟨c, hc, hce⟩ := C04Sys.chain_mem (hI.rp.sent q hq).chain e he
          have := h.side.tree.dec c hc (by rw [hce]; exact ht)
          rwa [hce] at this
        have hsp : ProtG x G i (x.node i).configs.latest.index ∨
            (MemberFollow.Pend (x.node i).log.entries (x.node i).configs ∧
              ProtG x G i (x.node i).configs.committed.index) :=
          (hI.cfg.sp i).imp id (fun p => ⟨p, pend_prot hI.rp hI.tree.rootA hI.tree.rootOnly hI.recs.chain
            (hI.node.termLe i) (hI.cfg.cl i) p⟩)
        obtain ⟨R1, R2⟩ : MemberFollow.CFin (ProtG x G i) h.post.log.entries h.post.configs h.post.commitIndex :=
          MemberFollow.fcfg (x.node i) q ra ord hpre (hI.rp.sent q hq).idx (Q := ProtG x G i) hQ hdec (hI.cfg.cl i) hsp
        refine ⟨R1, ?_, ?_⟩
        · rcases R2 with a | a | a
          · exact Or.inl (hcc _ (hlat1 R1 h.nwf_post.contig) a)
          · exact Or.inr a
          · refine Or.inl (mono i _ ?_ a)
            rw [hni]
            exact (fs.keep _ a.2.1 (hQ _ a).2).1
        · exact (fs.keep _ hrootx.2.1 (hQ _ hrootx).2).2 (hI.cfg.rootFl i)
  exact cfgM_of hI hE hni hroot hsub key.1 key.2.1 key.2.2

end SM

section step
variable {x : Member.Sys} {G : Ghost} {i : Nat} {op : Op} {ra : List Nat} {ord : List (List Nat)} {src : Nat}

/-- **a completed step that is not an append request preserves the invariant**; the new commit records are the commit
moments `L` of the step (ANY list of commit moments that describes the step: `MEvs`) -/
theorem minv_step_evs (h : SM x G i op ra ord src) (happ : ∀ q, op ≠ .append q) {T : Nat} {L : List CEvt}
    (m : MEvs (x.node i) (Commit.Backed x.cm i) h.post T L) :
    ∃ E', MInv (stepM x i op ra ord src) ⟨G.root, L.map (SM.recOf T) ++ G.R, E', G.SA⟩ := by
  obtain ⟨E', hE'⟩ := h.elM_step happ (L.map (SM.recOf T) ++ G.R)
  have t := h.treeM
  exact ⟨E', h.ry, ⟨t.pathc, t.tmono, t.tbI, t.cu, t.ownLog, t.rootC, t.rootA, t.rootOnly, t.initLt⟩, h.nodeM,
    h.sentM, h.ackM, h.voteM, h.recM_step happ m E', hE', h.cmtM,
    h.cfgM ⟨G.root, L.map (SM.recOf T) ++ G.R, E', G.SA⟩ rfl (fun r hr => List.mem_append_right _ hr)
      (h.recM_step happ m E').cover⟩

theorem minv_step_app {q : AppendReq} (h : SM x G i (.append q) ra ord src) :
    MInv (stepM x i (.append q) ra ord src) G :=
  ⟨h.ry, h.treeM, h.nodeM, h.sentM, h.ackM, h.voteM, h.recM_app, h.elM_app, h.cmtM,
    h.cfgM G rfl (fun _ hr => hr) h.recM_app.cover⟩

end step

/-- **a completed step preserves the invariant**, for new ghost ledgers that extend the old ones (same bootstrap key, more
commit records, the same ghost acknowledgements) -/
theorem minv_step_grow {x : Member.Sys} {G : Ghost} (hI : MInv x G) (hS : SideM x) (i : Nat) (op : Op) (ra : List Nat)
    (ord : List (List Nat)) (src : Nat) (he : Member.Enabled x i op src)
    (hnf : (x.node i).role ≠ .follower → ((x.node i).step op ra ord).panicked = none) :
    ∃ G', MInv (stepM x i op ra ord src) G' ∧ G'.root = G.root ∧ (∀ r ∈ G.R, r ∈ G'.R) ∧ ∀ a ∈ G.SA, a ∈ G'.SA := by
  have h : SM x G i op ra ord src := ⟨hI, hS, he, hnf⟩
  rcases Commit.op_cases op with happ | ⟨q, rfl⟩
  · obtain ⟨T, L, m⟩ := h.evs happ
    obtain ⟨E', hI'⟩ := minv_step_evs h happ m
    exact ⟨_, hI', rfl, fun r hr => List.mem_append_right _ hr, fun a ha => ha⟩
  · exact ⟨G, minv_step_app h, rfl, fun _ hr => hr, fun _ ha => ha⟩

theorem minv_step {x : Member.Sys} {G : Ghost} (hI : MInv x G) (hS : SideM x) (i : Nat) (op : Op) (ra : List Nat)
    (ord : List (List Nat)) (src : Nat) (he : Member.Enabled x i op src)
    (hnf : (x.node i).role ≠ .follower → ((x.node i).step op ra ord).panicked = none) :
    ∃ G', MInv (stepM x i op ra ord src) G' ∧ G'.root = G.root :=
  let ⟨G', hI', hr, _⟩ := minv_step_grow hI hS i op ra ord src he hnf
  ⟨G', hI', hr⟩

end MemberStep
end Raft
