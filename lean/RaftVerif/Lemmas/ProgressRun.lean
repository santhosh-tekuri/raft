/-
The election run of the possibility proof (Props/C17Sys.lean): phases A–D of Lemmas/ProgressElect.lean put together.
-/
import RaftVerif.Lemmas.ProgressElect

namespace Raft
namespace Progress
open C02Sys SysInv

theorem two_voters {V : List Nat} {x : Commit.Sys} {i : Nat} (f : Facts V x i) (hne : V ≠ []) : 2 ≤ V.length := by
  have hn : (x.node i).configs.latest.nodes ≠ [] := by
    intro e
    have := f.voters
    unfold Config.voters at this
    rw [e] at this
    exact hne this.symm
  obtain ⟨a, ha, b, hb, hab, ⟨hav, _, _⟩, ⟨hbv, _, _⟩⟩ := (f.good.glob.cfgL.2 hn).2 rfl
  have hmem : ∀ n ∈ (x.node i).configs.latest.nodes, n.voter = true → n.id ∈ V := by
    intro n hn' hv
    rw [← f.voters]
    unfold Config.voters
    exact List.mem_map.mpr ⟨n, List.mem_filter.mpr ⟨hn', hv⟩, rfl⟩
  exact length_ge_two_of_mem (hmem a ha hav) (hmem b hb hbv) hab

theorem exists_uptodate (f g : Nat → Nat) : ∀ (l : List Nat), l ≠ [] →
    ∃ w ∈ l, ∀ j ∈ l, ¬ (f j > f w ∨ (f j = f w ∧ g j > g w))
  | [], h => absurd rfl h
  | [a], _ => ⟨a, List.mem_singleton.mpr rfl, fun j hj => by rw [List.mem_singleton.mp hj]; omega⟩
  | a :: b :: l, _ => by
    obtain ⟨w, hw, hall⟩ := exists_uptodate f g (b :: l) (by simp)
    by_cases h : f a > f w ∨ (f a = f w ∧ g a > g w)
    · refine ⟨a, List.mem_cons_self .., fun j hj => ?_⟩
      rcases List.mem_cons.mp hj with e | e
      · rw [e]; omega
      · have := hall j e
        omega
    · refine ⟨w, List.mem_cons_of_mem _ hw, fun j hj => ?_⟩
      rcases List.mem_cons.mp hj with e | e
      · rw [e]; exact h
      · exact hall j e

theorem exists_max (f : Nat → Nat) : ∀ (l : List Nat), l ≠ [] → ∃ T, (∀ j ∈ l, f j ≤ T) ∧ ∃ j ∈ l, f j = T
  | [], h => absurd rfl h
  | [a], _ => ⟨f a, fun j hj => by rw [List.mem_singleton.mp hj]; exact Nat.le_refl _, a, List.mem_singleton.mpr rfl, rfl⟩
  | a :: b :: l, _ => by
    obtain ⟨T, h1, j, hj, hjT⟩ := exists_max f (b :: l) (by simp)
    by_cases h : f a ≤ T
    · refine ⟨T, fun i hi => ?_, j, List.mem_cons_of_mem _ hj, hjT⟩
      rcases List.mem_cons.mp hi with e | e
      · rw [e]; exact h
      · exact h1 i e
    · refine ⟨f a, fun i hi => ?_, a, List.mem_cons_self .., rfl⟩
      rcases List.mem_cons.mp hi with e | e
      · rw [e]; exact Nat.le_refl _
      · have := h1 i e; omega

theorem others_facts {M : List Nat} (hM : M.Nodup) {w : Nat} (hw : w ∈ M) :
    (M.filter (· != w)).Nodup ∧ (M.filter (· != w)).length + 1 = M.length ∧
    (∀ j, j ∈ M.filter (· != w) ↔ j ∈ M ∧ j ≠ w) := by
  refine ⟨?_, ?_, fun j => by rw [List.mem_filter]; simp⟩
  · rw [← List.Nodup.erase_eq_filter hM]; exact hM.erase w
  · rw [← List.Nodup.erase_eq_filter hM, List.length_erase_of_mem hw]
    have := List.length_pos_of_mem hw
    omega

/-- a candidate that has counted nothing in its term still needs a majority minus its own vote -/
theorem votesNeeded_fresh {V : List Nat} (hV : V.Nodup) {u : Commit.Sys} (hu : ReachableG V u) {w : Nat}
    (hr : (u.node w).role = .candidate) (hc : ∀ v, (w, (u.node w).term, v) ∉ u.rp.el.counted) :
    (u.node w).votesNeeded = ((V.length / 2 : Nat) : Int) := by
  obtain ⟨hI, _⟩ := inv_reachable hV (reachableG_V hu)
  have hcand := hI.rp.el.cand w hr
  have hcount := hcand.count
  have hnil : Election.votersCounted u.rp.el.counted w (u.rp.el.node w).term = [] := by
    unfold Election.votersCounted
    rw [List.map_eq_nil_iff, List.filter_eq_nil_iff]
    intro e he hm
    have h1 : e.1 = w ∧ e.2.1 = (u.rp.el.node w).term := by simpa using hm
    apply hc e.2.2
    have : e = (w, (u.node w).term, e.2.2) := by
      obtain ⟨a, b, c⟩ := e
      simp only at h1
      rw [h1.1, h1.2]
    rw [← this]; exact he
  rw [hnil] at hcount
  have e : u.rp.el.node w = u.node w := rfl
  rw [e] at hcount
  simp only [List.length_nil] at hcount
  omega

/-- the state `z` reached by the election run from `x`: `w ∈ M` is leader of the term `T`, above every term the
nodes of `M` had; it has appended entries of term `T` (the no-op of `leader.init`) to the log it had in `x` and
nothing else moved on it; every other node of `M` is a follower of term `T` whose log, commit index, state machine,
configurations are those of `x`. -/
structure ElectedSys (M : List Nat) (x z : Commit.Sys) (w T : Nat) : Prop where
  wM : w ∈ M
  termGt : ∀ i ∈ M, (x.node i).term < T
  role : (z.node w).role = .leader
  term : (z.node w).term = T
  closed : (z.node w).closed = ""
  cfg : (z.node w).configs.latest = (x.node w).configs.latest
  commitIndex : (z.node w).commitIndex = (x.node w).commitIndex
  ext : ∃ es, es ≠ [] ∧ (z.node w).log.entries = (x.node w).log.entries ++ es ∧ ∀ e ∈ es, e.term = T
  others : ∀ j ∈ M, j ≠ w → Keep (x.node j) (z.node j) ∧ (z.node j).role = .follower ∧ (z.node j).term = T
  outside : ∀ i, i ∉ M → z.node i = x.node i

/-- **the election run** (phases A–D): see `ElectedSys`; at most `4 * |M|` labels, all of nodes of `M`, at most two
election timeouts per node. -/
theorem election_run {V : List Nat} (hV : V.Nodup) {x : Commit.Sys} (hx : ReachableG V x) (M : List Nat)
    (hM : M.Nodup) (hMV : ∀ i ∈ M, i ∈ V) (hmaj : 2 * M.length > V.length) (h0 : ∀ i ∈ M, i ≠ 0)
    (hopen : ∀ i ∈ M, (x.node i).closed = "") (hids : ∀ i ∈ M, (x.node i).configs.latest.ids.Nodup) :
    ∃ ls z w T, Exec V x ls z ∧ RunOK M ls (4 * M.length) (fun j => if j ∈ M then 2 else 0) ∧
      ElectedSys M x z w T := by
  have hMne : M ≠ [] := by intro e; rw [e] at hmaj; simp at hmaj
  obtain ⟨i0, hi0⟩ := List.exists_mem_of_ne_nil M hMne
  have hVne : V ≠ [] := List.ne_nil_of_mem (hMV i0 hi0)
  have h2 : 2 ≤ V.length := two_voters (facts hV hx i0) hVne
  have hvot : ∀ i ∈ M, ∀ j ∈ M, (x.node i).configs.latest.isVoter j = true :=
    fun i hi j hj => isVoter_of_mem (facts hV hx i) (hids i hi) (hMV j hj)
  obtain ⟨lsA, z1, exA, okA, othA, rdA⟩ := phaseA hV h2 hx M M hM
    (fun i hi => ⟨hi, h0 i hi, hMV i hi, hopen i hi, hvot i hi i hi⟩)
  have hz1 := Exec.reachable hV hx exA
  obtain ⟨w, hwM, hup⟩ := exists_uptodate (fun j => (x.node j).lastLogTerm) (fun j => (x.node j).lastLogIndex) M hMne
  obtain ⟨T0, hT0, _⟩ := exists_max (fun j => (z1.node j).term) M hMne
  have rw1 := rdA w hwM
  obtain ⟨lsB, z2, exB, lenB, actB, tmoB, onB, rB, lB, tB, vB, campB, cmB, cntB⟩ := phaseB hV h2 hz1 w T0 (h0 w hwM)
    (by rw [rw1.keep.closed]; exact hopen w hwM) rw1.role rw1.leader
    (by rw [rw1.keep.configs]; exact hvot w hwM w hwM) (hT0 w hwM)
  have hz2 := Exec.reachable hV hz1 exB
  obtain ⟨jsN, jsL, jsM⟩ := others_facts hM hwM
  have hjs : ∀ j ∈ M.filter (· != w), j ≠ 0 ∧ (z2.node j).closed = "" ∧ (z2.node j).leader = 0 ∧
      (z2.node j).term < T0 + 1 ∧
      ¬ ((z2.node j).lastLogTerm > (z1.node w).lastLogTerm ∨
        ((z2.node j).lastLogTerm = (z1.node w).lastLogTerm ∧ (z2.node j).lastLogIndex > (z1.node w).lastLogIndex)) := by
    intro j hj
    obtain ⟨hjM, hjw⟩ := (jsM j).mp hj
    have rj := rdA j hjM
    rw [onB.others j hjw]
    refine ⟨h0 j hjM, by rw [rj.keep.closed]; exact hopen j hjM, rj.leader, Nat.lt_succ_of_le (hT0 j hjM), ?_⟩
    rw [rj.keep.lastLogTerm, rj.keep.lastLogIndex, rw1.keep.lastLogTerm, rw1.keep.lastLogIndex]
    exact hup j hjM
  obtain ⟨lsC, z3, exC, lenC, actC, tmoC, othC, vtC, cntC⟩ := phaseC hV hz2 w (T0 + 1)
    (z1.node w).lastLogIndex (z1.node w).lastLogTerm (h0 w hwM) campB (M.filter (· != w)) jsN hjs
  have hz3 := Exec.reachable hV hz2 exC
  have hw3 : z3.node w = z2.node w := othC w (fun h => ((jsM w).mp h).2 rfl)
  have hk2 : Keep (x.node w) (z2.node w) := rw1.keep.trans onB.keep
  have hcnt3 : ∀ v, (w, (z3.node w).term, v) ∉ z3.rp.el.counted := by
    intro v; rw [hw3, tB, cntC]; exact cntB v
  have hvn := votesNeeded_fresh hV hz3 (by rw [hw3]; exact rB) hcnt3
  have hkk : V.length / 2 - 1 + 1 = V.length / 2 := by omega
  obtain ⟨lsD, z4, exD, lenD, actD, tmoD, othD, elD⟩ := phaseD hV h2 w (T0 + 1) (h0 w hwM) (V.length / 2 - 1) z3
    (M.filter (· != w)) hz3 (by rw [hw3]; exact rB) (by rw [hw3]; exact tB)
    (by rw [hw3, hk2.closed]; exact hopen w hwM) (by rw [hvn, hkk]) jsN (by omega)
    (fun j hj => by
      obtain ⟨hjM, hjw⟩ := (jsM j).mp hj
      refine ⟨hjw, by rw [hw3, hk2.configs]; exact hvot w hwM j hjM, (vtC j hj).grant, ?_⟩
      rw [cntC]; exact cntB j)
  refine ⟨(lsA ++ lsB) ++ (lsC ++ lsD), z4, w, T0 + 1, (exA.trans exB).trans (exC.trans exD), ?_, ?_⟩
  · have okB : RunOK M lsB 2 (fun j => if j = w then 1 else 0) := RunOK.single hwM lenB actB tmoB
    have okC : RunOK M lsC (M.filter (· != w)).length (fun _ => 0) :=
      .quiet lenC (fun l hl => ((jsM _).mp (actC l hl)).1) tmoC
    have okD : RunOK M lsD (V.length / 2) (fun _ => 0) :=
      .quiet (by rw [lenD, hkk]; exact Nat.le_refl _) (fun l hl => by rw [actD l hl]; exact hwM) tmoD
    refine ((okA.append okB).append (okC.append okD)).mono (by omega) (fun j => ?_)
    show (if j ∈ M then 1 else 0) + (if j = w then 1 else 0) + (0 + 0) ≤ (if j ∈ M then 2 else 0)
    by_cases hj : j = w
    · rw [if_pos hj, hj, if_pos hwM, if_pos hwM]; omega
    · rw [if_neg hj]
      split <;> omega
  · have hterm : ∀ i ∈ M, (x.node i).term < T0 + 1 := fun i hi =>
      Nat.lt_succ_of_le (Nat.le_trans (Nat.le_of_lt (rdA i hi).term) (hT0 i hi))
    rw [hw3] at elD
    refine ⟨hwM, hterm, elD.role, elD.term.trans tB, elD.closed, by rw [elD.cfg, hk2.configs],
      elD.commitIndex.trans hk2.commitIndex, ?_, ?_, ?_⟩
    · obtain ⟨es, h1, h2', h3⟩ := elD.ext
      exact ⟨es, h1, by rw [h2', hk2.log], fun e he => by rw [h3 e he, tB]⟩
    · intro j hjM hjw
      have hj : j ∈ M.filter (· != w) := (jsM j).mpr ⟨hjM, hjw⟩
      have v := vtC j hj
      rw [othD j hjw]
      have k : Keep (x.node j) (z3.node j) := by
        have := v.keep
        rw [onB.others j hjw] at this
        exact (rdA j hjM).keep.trans this
      exact ⟨k, v.role, v.term⟩
    · intro i hi
      have hiw : i ≠ w := fun e => hi (by rw [e]; exact hwM)
      rw [othD i hiw, othC i (fun h => hi ((jsM i).mp h).1), onB.others i hiw, othA i hi]

end Progress
end Raft
