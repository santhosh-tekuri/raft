/-
The FOLLOWER side of a membership change, node level: how `configs` moves relative to the LOG when a node handles an
append request (`Raft.onAppendEntriesRequest`: truncation + `revertConfig`, adoption of configuration entries with
`Raft.changeConfig`, `commitConfig` when the commit index passes the latest configuration) and when it restarts
(`openStorage`: the last two configuration entries of the log).

`fcfg`: if before the step the node's latest configuration is the last configuration entry of its log (`CfgLast`) and
* either the index of that entry is PROTECTED (`Q`: the request does not conflict with the log up to it),
* or the configuration is PENDING (`Pend`: `configs.committed` is the configuration entry before it, and no other lies
  between them) and the index of `configs.committed` is protected,
then after the step the latest configuration is again the last configuration entry of the log, and it is covered by the
commit index, or pending, or protected (and was protected before).
-/
import RaftVerif.Lemmas.MemberCommit
import RaftVerif.Lemmas.FollowerSpec
import RaftVerif.Props.C10

namespace Raft
namespace MemberFollow
open Node LogRel Replication CommitRel MemberCommit

theorem cfgLast_take {es : List Entry} {c : Config} (hc : ∀ k (_ : k < es.length), es[k].index = k + 1)
    (h : CfgLast es c) {n : Nat} (hn : c.index ≤ n) : CfgLast (es.take n) c := by
  obtain ⟨⟨e, he, hec⟩, h2⟩ := h
  obtain ⟨_, ci, _⟩ := Entry.config?_facts hec
  exact ⟨⟨e, (mem_take_iff_index_le hc).mpr ⟨he, by omega⟩, hec⟩, fun x hx ht => h2 x (List.mem_of_mem_take hx) ht⟩

theorem cfgLast_take_take {es : List Entry} {c : Config} (hc : ∀ k (_ : k < es.length), es[k].index = k + 1)
    {m n : Nat} (h : CfgLast (es.take m) c) (hn : c.index ≤ n) (hnm : n ≤ m) : CfgLast (es.take n) c := by
  have := cfgLast_take (contig_take hc m) h hn
  rwa [List.take_take, Nat.min_eq_left hnm] at this

/-- **pending**: `configs.committed` is the configuration entry just before the latest one -/
def Pend (es : List Entry) (cs : Configs) : Prop :=
  cs.committed.index < cs.latest.index ∧ CfgLast (es.take (cs.latest.index - 1)) cs.committed

/-- the invariant of the entry loop: `pos` — the index up to which the request has been consumed (nothing at or below
it is truncated any more); `ci` — the commit index -/
def CLoop (Q : Nat → Prop) (es : List Entry) (cs : Configs) (ci pos : Nat) : Prop :=
  CfgLast es cs.latest ∧
  ((Q cs.latest.index ∨ (cs.latest.index ≤ pos ∧ cs.latest.index ≤ ci)) ∨
    (Pend es cs ∧ (Q cs.committed.index ∨ cs.latest.index ≤ pos)))

def CFin (Q : Nat → Prop) (es : List Entry) (cs : Configs) (ci : Nat) : Prop :=
  CfgLast es cs.latest ∧ (cs.latest.index ≤ ci ∨ Pend es cs ∨ Q cs.latest.index)

theorem CLoop.mono {Q : Nat → Prop} {es : List Entry} {cs : Configs} {ci pos ci' pos' : Nat}
    (h : CLoop Q es cs ci pos) (h1 : ci ≤ ci') (h2 : pos ≤ pos') : CLoop Q es cs ci' pos' := by
  obtain ⟨a, b⟩ := h
  refine ⟨a, ?_⟩
  rcases b with (b | ⟨b1, b2⟩) | ⟨b1, b2 | b2⟩
  · exact Or.inl (Or.inl b)
  · exact Or.inl (Or.inr ⟨by omega, by omega⟩)
  · exact Or.inr ⟨b1, Or.inl b2⟩
  · exact Or.inr ⟨b1, Or.inr (by omega)⟩

theorem CLoop.fin {Q : Nat → Prop} {es : List Entry} {cs : Configs} {ci pos ci' : Nat}
    (h : CLoop Q es cs ci pos) (h1 : ci ≤ ci') : CFin Q es cs ci' := by
  obtain ⟨a, b⟩ := h
  refine ⟨a, ?_⟩
  rcases b with (b | ⟨_, b2⟩) | ⟨b1, _⟩
  · exact Or.inr (Or.inr b)
  · exact Or.inl (by omega)
  · exact Or.inr (Or.inl b1)

/-- the effect of `Raft.setCommitIndex i` on `configs` -/
def CommitCfg (cs cs' : Configs) (i : Nat) : Prop :=
  cs' = cs ∨ (cs.latest.index ≤ i ∧ cs' = ⟨cs.latest, cs.latest⟩)

theorem CLoop.commit {Q : Nat → Prop} {es : List Entry} {cs cs' : Configs} {ci pos i : Nat}
    (h : CLoop Q es cs ci pos) (hc : CommitCfg cs cs' i) (h1 : ci ≤ i) (h2 : pos ≤ i) : CLoop Q es cs' i i := by
  rcases hc with rfl | ⟨c1, rfl⟩
  · exact h.mono h1 h2
  · exact ⟨h.1, Or.inl (Or.inr ⟨c1, c1⟩)⟩

theorem CLoop.commit_fin {Q : Nat → Prop} {es : List Entry} {cs cs' : Configs} {ci pos i : Nat}
    (h : CLoop Q es cs ci pos) (hc : CommitCfg cs cs' i) (h1 : ci ≤ i) : CFin Q es cs' i := by
  rcases hc with rfl | ⟨c1, rfl⟩
  · exact h.fin h1
  · exact ⟨h.1, Or.inl c1⟩

/-- truncation to the first `n` entries (`n` = the current position; `n = es.length`: nothing is truncated) and the
revert that goes with it -/
theorem CLoop.cut {Q : Nat → Prop} {es : List Entry} {cs : Configs} {ci n : Nat}
    (hc : ∀ k (_ : k < es.length), es[k].index = k + 1) (hn : n ≤ es.length) (h : CLoop Q es cs ci n)
    (hQ : ∀ k, Q k → k ≤ n) :
    CLoop Q (es.take n) (if n < es.length ∧ n + 1 ≤ cs.latest.index then ⟨cs.committed, cs.committed⟩ else cs) ci n ∧
    (if n < es.length ∧ n + 1 ≤ cs.latest.index then (⟨cs.committed, cs.committed⟩ : Configs) else cs).latest.index ≤ n := by
  obtain ⟨a, b⟩ := h
  split
  · rename_i hr
    -- revert: the configuration was pending, `committed` protected
    rcases b with (b | ⟨b1, _⟩) | ⟨⟨p1, p2⟩, b2 | b2⟩
    · have := hQ _ b; omega
    · omega
    · have hle := hQ _ b2
      have hcl : CfgLast (es.take n) cs.committed := cfgLast_take_take hc p2 hle (by omega)
      exact ⟨⟨hcl, Or.inl (Or.inl b2)⟩, hle⟩
    · omega
  · rename_i hr
    have hli : cs.latest.index ≤ n := by
      have := a.index_le (fun x hx => (contig_index_le hc x hx).2)
      by_cases h1 : n < es.length
      · have : ¬ (n + 1 ≤ cs.latest.index) := fun h2 => hr ⟨h1, h2⟩
        omega
      · omega
    refine ⟨⟨cfgLast_take hc a hli, ?_⟩, hli⟩
    rcases b with b | ⟨⟨p1, p2⟩, b2⟩
    · exact Or.inl b
    · refine Or.inr ⟨⟨p1, ?_⟩, b2⟩
      rw [List.take_take, Nat.min_eq_left (by omega)]
      exact p2

theorem CLoop.append_plain {Q : Nat → Prop} {es : List Entry} {cs : Configs} {ci : Nat} {ne : Entry}
    (hc : ∀ k (_ : k < es.length), es[k].index = k + 1) (h : CLoop Q es cs ci es.length)
    (hne : ne.typ ≠ etConfig) : CLoop Q (es ++ [ne]) cs ci (es.length + 1) := by
  obtain ⟨a, b⟩ := h
  have hli : cs.latest.index ≤ es.length := a.index_le (fun x hx => (contig_index_le hc x hx).2)
  refine ⟨cfgLast_append_plain a hne, ?_⟩
  rcases b with (b | ⟨b1, b2⟩) | ⟨⟨p1, p2⟩, b2⟩
  · exact Or.inl (Or.inl b)
  · exact Or.inl (Or.inr ⟨by omega, b2⟩)
  · refine Or.inr ⟨⟨p1, ?_⟩, b2.imp id (fun _ => by omega)⟩
    rw [List.take_append_of_le_length (by omega)]
    exact p2

theorem CLoop.append_cfg {Q : Nat → Prop} {es : List Entry} {cs : Configs} {ci : Nat} {ne : Entry} {c : Config}
    (hc : ∀ k (_ : k < es.length), es[k].index = k + 1) (h : CLoop Q es cs ci es.length)
    (hi : ne.index = es.length + 1) (hne : ne.config? = some c) :
    CLoop Q (es ++ [ne]) ⟨cs.latest, c⟩ ci (es.length + 1) := by
  obtain ⟨a, _⟩ := h
  obtain ⟨_, ci', _⟩ := Entry.config?_facts hne
  have hb : ∀ x ∈ es, x.index ≤ es.length := fun x hx => (contig_index_le hc x hx).2
  have hli : cs.latest.index ≤ es.length := a.index_le hb
  refine ⟨cfgLast_append_cfg hb hi hne, Or.inr ⟨⟨?_, ?_⟩, Or.inr ?_⟩⟩
  · show cs.latest.index < c.index; omega
  · show CfgLast ((es ++ [ne]).take (c.index - 1)) cs.latest
    rw [show c.index - 1 = es.length by omega, List.take_left']
    · exact a
    · rfl
  · show c.index ≤ es.length + 1; omega

def kc (s : Node) : Configs × Nat := (s.configs, s.commitIndex)

theorem kc_of_kf {x y : Node} (h : CfgRel.kf y = CfgRel.kf x) : kc y = kc x := by
  unfold CfgRel.kf at h
  simp only [Prod.mk.injEq] at h
  unfold kc; rw [h.1, h.2.1]

theorem setCommitIndexR_kc (s : Node) (i : Nat) :
    (s.setCommitIndexR i).1.commitIndex = i ∧ CommitCfg s.configs (s.setCommitIndexR i).1.configs i := by
  unfold Node.setCommitIndexR
  split
  · rename_i hc
    obtain ⟨a1, _, _, a4, _⟩ := CfgRel.commitPath_fields s i
    exact ⟨a4, Or.inr ⟨hc.2, a1⟩⟩
  · exact ⟨rfl, Or.inl rfl⟩

theorem commitApply_kc (s : Node) (i : Nat) :
    (s.setCommitIndexR i).1.applyCommitted.commitIndex = i ∧
    CommitCfg s.configs (s.setCommitIndexR i).1.applyCommitted.configs i := by
  have e := kc_of_kf (CfgRel.kfFsmFrame.applyCommitted_eq (s.setCommitIndexR i).1)
  unfold kc at e
  simp only [Prod.mk.injEq] at e
  rw [e.1, e.2]
  exact setCommitIndexR_kc s i

/-- the consistency check: `configs` and the commit index are untouched, or the check committed up to the previous
entry of the request -/
theorem appendCheck_kc (s : Node) (q : AppendReq) :
    kc (s.appendCheck q) = kc s ∨
    (s.commitIndex < q.prevLogIndex ∧ (s.appendCheck q).commitIndex = q.prevLogIndex ∧
      CommitCfg s.configs (s.appendCheck q).configs q.prevLogIndex) := by
  have e1 : ∀ s1, s1 = s ∨ s1 = s.panic "bug.mustGetEntry" → kc s1 = kc s := by
    rintro s1 (rfl | rfl)
    · rfl
    · exact kc_of_kf (CfgRel.kf_panic _ _)
  refine appendCheck_cases (P := fun x => kc x = kc s ∨ (s.commitIndex < q.prevLogIndex ∧
    x.commitIndex = q.prevLogIndex ∧ CommitCfg s.configs x.configs q.prevLogIndex)) s q
    (fun s1 r h1 _ => Or.inl (e1 s1 h1.eq)) (fun s1 h1 _ _ _ hcc => Or.inr ?_)
  obtain ⟨_, _, k3⟩ := C19.follower_commit_guard _ _ _ _ hcc
  obtain ⟨c1, c2⟩ := commitApply_kc s1 q.prevLogIndex
  have e := e1 s1 h1.eq
  unfold kc at e
  simp only [Prod.mk.injEq] at e
  rw [← e.1]
  generalize (s1.setCommitIndexR q.prevLogIndex).1.applyCommitted = y at c1 c2 ⊢
  exact ⟨k3, c1, c2⟩

theorem followPre_kc (b : Node) (term src : Nat) : kc (followPre b term src) = kc b := by
  unfold followPre Node.setLeader Node.setRole
  show kc (if term > b.term then _ else b) = _
  refine ite_ind (P := fun y : Node => kc y = kc b) (fun _ => ?_) fun _ => rfl
  show kc (b.setTerm term) = _
  rw [setTerm_shape]; rfl

/-- storing a slice of the request on top of the log: every configuration entry becomes the latest configuration -/
theorem CLoop.fold {Q : Nat → Prop} {ci : Nat} : ∀ (slice es : List Entry) (cs : Configs),
    (∀ k (_ : k < es.length), es[k].index = k + 1) → CLoop Q es cs ci es.length →
    (∀ k (h : k < slice.length), slice[k].index = es.length + k + 1) →
    (∀ e ∈ slice, e.typ = etConfig → ∃ c, e.config? = some c) →
    CLoop Q (es ++ slice) (FollowerSpec.cfgFold cs slice) ci (es ++ slice).length := by
  intro slice
  induction slice with
  | nil => intro es cs _ h _ _; rw [List.append_nil]; exact h
  | cons ne rest ih =>
    intro es cs hc h hidx hdec
    have hne : ne.index = es.length + 1 := hidx 0 (Nat.zero_lt_succ _)
    have hlen : (es ++ [ne]).length = es.length + 1 := by rw [List.length_append]; rfl
    have step : CLoop Q (es ++ [ne]) (FollowerSpec.cfgFold cs [ne]) ci (es ++ [ne]).length := by
      unfold FollowerSpec.cfgFold
      rw [List.foldl_cons, List.foldl_nil, hlen]
      by_cases ht : ne.typ = etConfig
      · obtain ⟨c, hcf⟩ := hdec ne (List.mem_cons_self ..) ht
        rw [hcf]; exact h.append_cfg hc hne hcf
      · rw [Entry.config?_none_of_typ ht]
        exact h.append_plain hc ht
    have := ih (es ++ [ne]) (FollowerSpec.cfgFold cs [ne]) (contig_append hc ne hne) step
      (fun k hk => by
        have := hidx (k + 1) (Nat.succ_lt_succ hk)
        rw [List.getElem_cons_succ] at this
        rw [this, hlen]; omega)
      (fun e he => hdec e (List.mem_cons_of_mem _ he))
    rw [List.append_assoc, List.singleton_append] at this
    exact this

theorem onAppendEntries_fc (b : Node) (q : AppendReq) (hn : NWF b)
    (hidx : ∀ k (h : k < q.entries.length), q.entries[k].index = q.prevLogIndex + k + 1)
    {Q : Nat → Prop} (hQ : ∀ k, Q k → k ≤ b.log.entries.length ∧ NoConf b q k)
    (hdec : ∀ e ∈ q.entries, e.typ = etConfig → ∃ c, e.config? = some c)
    (hcl : CfgLast b.log.entries b.configs.latest)
    (hsp : Q b.configs.latest.index ∨ (Pend b.log.entries b.configs ∧ Q b.configs.committed.index)) :
    CFin Q (b.onAppendEntries q).log.entries (b.onAppendEntries q).configs (b.onAppendEntries q).commitIndex := by
  have C0 : CLoop Q b.log.entries b.configs b.commitIndex 0 :=
    ⟨hcl, hsp.elim (fun h => Or.inl (Or.inl h)) (fun h => Or.inr ⟨h.1, Or.inl h.2⟩)⟩
  by_cases hst : q.term < b.term
  · rw [C04.stale_append_refused b q hst]
    exact C0.fin (Nat.le_refl _)
  rw [onAppendEntries_stages, if_neg hst]
  obtain ⟨f1, f2, f3, f4, f5, _⟩ := FollowerSpec.followPre_nwf b q
  have hn0 : NWF (followPre b q.term q.src) := nwf_congr hn f1 f2 f3 f4 f5
  have c2 := followPre_kc b q.term q.src
  unfold kc at c2
  simp only [Prod.mk.injEq] at c2
  obtain ⟨e3, hres⟩ := FollowerSpec.appendCheck_nwf (followPre b q.term q.src) q hn0
  have k3 := appendCheck_kc (followPre b q.term q.src) q
  generalize (followPre b q.term q.src).appendCheck q = s3 at e3 hres k3 ⊢
  obtain ⟨g1, _, _, _, g5⟩ := FollowerSpec.lobs_parts e3
  have hn3 : NWF s3 := g5 hn0
  have l3 : s3.log = b.log := g1.trans f1
  -- the commit the consistency check may have made
  have C3 : CLoop Q s3.log.entries s3.configs s3.commitIndex q.prevLogIndex ∧ b.commitIndex ≤ s3.commitIndex := by
    rw [l3]
    rcases k3 with e | ⟨e1, e2, e3⟩
    · unfold kc at e
      simp only [Prod.mk.injEq] at e
      rw [e.1.trans c2.1, e.2.trans c2.2]
      exact ⟨C0.mono (Nat.le_refl _) (Nat.zero_le _), Nat.le_refl _⟩
    · rw [c2.1] at e3
      rw [c2.2] at e1
      rw [e2]
      exact ⟨C0.commit e3 (Nat.le_of_lt e1) (Nat.zero_le _), Nat.le_of_lt e1⟩
  obtain ⟨C3, _⟩ := C3
  rcases hres with ⟨hr, _⟩ | ⟨hr0, anch1, _⟩
  · rw [if_pos (by rcases hr with h | h <;> rw [h] <;> decide)]
    exact C3.fin (Nat.le_refl _)
  rw [if_neg (fun h => h hr0)]
  rw [f1] at anch1
  obtain ⟨k, hk, hj, hc⟩ := FollowerSpec.appendLoop_spec q.entries ⟨s3, q.prevLogIndex, q.prevLogTerm, false, false⟩ hn3
    (by rw [l3]; exact anch1) rfl hidx
  dsimp only at hj hc
  have c4 := (C02.appendLoop_commitIndex ⟨s3, q.prevLogIndex, q.prevLogTerm, false, false⟩ q.entries).1
  generalize appendLoop ⟨s3, q.prevLogIndex, q.prevLogTerm, false, false⟩ q.entries = st at hc c4 ⊢
  have c4' : st.s.commitIndex = s3.commitIndex := c4
  rcases hc with ⟨_, hpass⟩ | ⟨h, hna, m, hs⟩
  · have er : afterLoop q st = s3.ret rSuccess := by
      unfold afterLoop
      rw [hpass.sync, hpass.err, hpass.s, if_neg (fun x => by cases x.2)]
      rfl
    rw [er]
    exact C3.fin (Nat.le_refl _)
  · -- the cut lies at or beyond every protected index: the first entry not held is a conflict or lies beyond the log
    have hpk : q.prevLogIndex + k ≤ s3.log.entries.length := by
      cases k with
      | zero => rw [l3]; exact anch1
      | succ j => have := (hj j (by omega) (Nat.lt_succ_self _)).1; omega
    have hQn : ∀ i, Q i → i ≤ q.prevLogIndex + k := fun i hi => by
      obtain ⟨h1, h2⟩ := hQ i hi
      apply Nat.le_of_not_lt
      intro hlt
      apply hna
      rw [l3]
      have := h2 q.entries[k] (List.getElem_mem h) (by rw [hidx k h]; omega)
      rw [hidx k h] at this
      exact ⟨by omega, this⟩
    obtain ⟨a1, _⟩ := (C3.mono (Nat.le_refl _) (Nat.le_add_right _ k)).cut hn3.contig hpk hQn
    have hlen : (s3.log.entries.take (q.prevLogIndex + k)).length = q.prevLogIndex + k := by
      rw [List.length_take, Nat.min_eq_left hpk]
    have C4 := CLoop.fold ((q.entries.drop k).take m) (s3.log.entries.take (q.prevLogIndex + k))
      (FollowerSpec.cutCfg s3 (q.prevLogIndex + k)) (contig_take hn3.contig _) (by rw [hlen]; exact a1)
      (fun i hi => by
        rw [List.length_take, List.length_drop] at hi
        rw [List.getElem_take, List.getElem_drop, hidx _ (by omega), hlen]; omega)
      (fun e he => hdec e (List.mem_of_mem_drop (List.mem_of_mem_take he)))
    rw [← hs.entries, ← hs.configs, ← c4'] at C4
    -- the flush, then at most a commit
    have hne : (!q.entries.isEmpty) = true := by
      cases hq : q.entries with
      | nil => rw [hq] at h; exact absurd h (Nat.not_lt_zero _)
      | cons _ _ => rfl
    have e6 : (st.s.commitLog st.s.lastLogIndex).log.entries = st.s.log.entries :=
      (commitN_parts st.s.log st.s.lastLogIndex).2
    unfold afterLoop
    rw [if_pos ⟨hne, hs.sync⟩]
    -- `ret` writes the result only (said of a variable: the node at hand is too large a term to unfold)
    have hret : ∀ (x : Node) (r : Nat), CFin Q x.log.entries x.configs x.commitIndex →
        CFin Q (x.ret r).log.entries (x.ret r).configs (x.ret r).commitIndex := fun _ _ h => h
    refine hret _ _ ?_
    refine ite_ind (P := fun x : Node => CFin Q x.log.entries x.configs x.commitIndex) (fun hcc => ?_) fun _ => ?_
    · obtain ⟨_, _, k3⟩ := C19.follower_commit_guard _ _ _ _ hcc
      obtain ⟨d1, d2⟩ := commitApply_kc (st.s.commitLog st.s.lastLogIndex) st.index
      obtain ⟨gl, _⟩ := FollowerSpec.lobs_parts (FollowerSpec.lobs_commitApply (st.s.commitLog st.s.lastLogIndex) st.index)
      rw [gl, e6, d1]
      exact C4.commit_fin d2 (Nat.le_of_lt k3)
    · rw [e6]; exact C4.fin (Nat.le_refl _)

def cobs (s : Node) : List Entry × Configs × Nat := (s.log.entries, s.configs, s.commitIndex)

theorem cobs_panic (s : Node) (site : String) : cobs (s.panic site) = cobs s := by
  unfold Node.panic; split <;> rfl

theorem relFrame_cobs : RelFrame cobs where
  reply := fun s t r => by unfold Node.reply; split <;> rfl
  ldr := fun _ _ => rfl
  leader := fun _ _ => rfl
  candTransfer := fun _ _ => rfl

theorem cobs_rpcDone (s : Node) (a c : Bool) : cobs (s.rpcDone a c) = cobs s ∧ (s.rpcDone a c).role = s.role :=
  ⟨rpcDone_of (Inv := fun x => cobs x = cobs s) (fun x site hx => (cobs_panic x site).trans hx) (fun _ _ hx => hx) s a c rfl,
    (SameKey.rpcDone s a c).role⟩

theorem fcfg (pre : Node) (q : AppendReq) (ra : List Nat) (ord : List (List Nat)) (hn : NWF pre)
    (hidx : ∀ k (h : k < q.entries.length), q.entries[k].index = q.prevLogIndex + k + 1)
    {Q : Nat → Prop} (hQ : ∀ k, Q k → k ≤ pre.log.entries.length ∧ NoConf pre q k)
    (hdec : ∀ e ∈ q.entries, e.typ = etConfig → ∃ c, e.config? = some c)
    (hcl : CfgLast pre.log.entries pre.configs.latest)
    (hsp : Q pre.configs.latest.index ∨ (Pend pre.log.entries pre.configs ∧ Q pre.configs.committed.index)) :
    CFin Q (pre.step (.append q) ra ord).log.entries (pre.step (.append q) ra ord).configs
      (pre.step (.append q) ra ord).commitIndex := by
  have hbn : NWF (pre.begin ra ord) := nwf_congr hn rfl rfl rfl rfl rfl
  have R := onAppendEntries_fc (pre.begin ra ord) q hbn hidx (Q := Q) hQ hdec hcl hsp
  have hpost : pre.step (.append q) ra ord =
      settle 6 (((pre.begin ra ord).onAppendEntries q).rpcDone false true) (pre.begin ra ord).role := rfl
  obtain ⟨d1, d2⟩ := cobs_rpcDone ((pre.begin ra ord).onAppendEntries q) false true
  have hc : cobs (pre.step (.append q) ra ord) = cobs ((pre.begin ra ord).onAppendEntries q) := by
    rw [hpost]
    rcases CfgRel.onAppendEntries_fi (s := pre.begin ra ord) (op := .append q) (pre.begin ra ord) q rfl .start
      (Nat.le_refl _) with e | fi
    · have hr : (((pre.begin ra ord).onAppendEntries q).rpcDone false true).role = (pre.begin ra ord).role := by
        rw [d2, e]; rfl
      rw [← hr, settle_same]
      exact d1
    · have hf : (((pre.begin ra ord).onAppendEntries q).rpcDone false true).role = .follower := by
        rw [d2]; exact fi.role
      rcases settle_follower_cases _ (pre.begin ra ord).role hf with e | e
      · rw [e]; exact d1
      · rw [e, relFrame_cobs.releaseRole]; exact d1
  unfold cobs at hc
  simp only [Prod.mk.injEq] at hc
  rw [hc.1, hc.2.1, hc.2.2]
  exact R

theorem fcfg_stale (pre : Node) (q : AppendReq) (ra : List Nat) (ord : List (List Nat)) (hst : q.term < pre.term) :
    (pre.step (.append q) ra ord).log.entries = pre.log.entries ∧
    (pre.step (.append q) ra ord).configs = pre.configs ∧
    (pre.step (.append q) ra ord).commitIndex = pre.commitIndex := by
  have hpost : pre.step (.append q) ra ord =
      settle 6 (((pre.begin ra ord).onAppendEntries q).rpcDone false true) (pre.begin ra ord).role := rfl
  obtain ⟨d1, d2⟩ := cobs_rpcDone ((pre.begin ra ord).onAppendEntries q) false true
  have e := C04.stale_append_refused (pre.begin ra ord) q hst
  have hr : (((pre.begin ra ord).onAppendEntries q).rpcDone false true).role = (pre.begin ra ord).role := by
    rw [d2, e]; rfl
  have hc : cobs (pre.step (.append q) ra ord) = cobs pre := by
    rw [hpost, ← hr, settle_same, d1, e]; rfl
  unfold cobs at hc
  simp only [Prod.mk.injEq] at hc
  exact hc

def cfgsOf (es : List Entry) : List Config := es.reverse.filterMap Entry.config?

theorem cfgsOf_append (es : List Entry) (e : Entry) :
    cfgsOf (es ++ [e]) = match e.config? with | some c => c :: cfgsOf es | none => cfgsOf es := by
  unfold cfgsOf
  rw [List.reverse_append, List.reverse_singleton, List.singleton_append]
  cases h : e.config? with
  | some c => rw [List.filterMap_cons_some h]
  | none => rw [List.filterMap_cons_none h]

/-- what the newest two configurations of a log say about it -/
def ScanOK (es : List Entry) : List Config → Prop
  | [] => ∀ e ∈ es, e.typ ≠ etConfig
  | [c] => CfgLast es c ∧ ∀ e ∈ es, e.typ = etConfig → e.index = c.index
  | c :: c' :: _ => CfgLast es c ∧ Pend es ⟨c', c⟩

theorem scanOK_take {es : List Entry} (hc : ∀ k (_ : k < es.length), es[k].index = k + 1)
    (hd : ∀ e ∈ es, e.typ = etConfig → ∃ c, e.config? = some c) :
    ∀ n, n ≤ es.length → ScanOK (es.take n) (cfgsOf (es.take n)) := by
  intro n
  induction n with
  | zero =>
    intro _
    rw [List.take_zero]
    exact fun e he => absurd he List.not_mem_nil
  | succ n ih =>
    intro hn
    have ih := ih (by omega)
    have hlt : n < es.length := by omega
    have hct := contig_take hc n
    have hlen : (es.take n).length = n := by rw [List.length_take]; omega
    have hb : ∀ x ∈ es.take n, x.index ≤ n := fun x hx => by
      have := (contig_index_le hct x hx).2; omega
    rw [List.take_add_one, List.getElem?_eq_getElem hlt]
    simp only [Option.toList_some]
    rw [cfgsOf_append]
    have hi : es[n].index = n + 1 := hc n hlt
    cases hcf : es[n].config? with
    | some c =>
      dsimp only
      obtain ⟨_, ci, _⟩ := Entry.config?_facts hcf
      have hcl : CfgLast (es.take n ++ [es[n]]) c := by
        refine ⟨⟨es[n], List.mem_append_right _ (List.mem_singleton_self _), hcf⟩, fun y hy _ => ?_⟩
        rcases List.mem_append.mp hy with hy | hy
        · have := hb y hy; omega
        · rw [List.mem_singleton.mp hy]; omega
      cases hk : cfgsOf (es.take n) with
      | nil =>
        rw [hk] at ih
        refine ⟨hcl, fun y hy ht => ?_⟩
        rcases List.mem_append.mp hy with hy | hy
        · exact absurd ht (ih y hy)
        · rw [List.mem_singleton.mp hy]; omega
      | cons c' rest =>
        rw [hk] at ih
        have hcl' : CfgLast (es.take n) c' := by
          cases rest with
          | nil => exact ih.1
          | cons _ _ => exact ih.1
        have hle := hcl'.index_le (fun x hx => by rw [hlen]; exact hb x hx)
        rw [hlen] at hle
        refine ⟨hcl, ?_, ?_⟩
        · show c'.index < c.index; omega
        · show CfgLast ((es.take n ++ [es[n]]).take (c.index - 1)) c'
          rw [show c.index - 1 = (es.take n).length by rw [hlen]; omega, List.take_left']
          · exact hcl'
          · rfl
    | none =>
      dsimp only
      have hnt : es[n].typ ≠ etConfig := by
        intro ht
        obtain ⟨c, hc'⟩ := hd _ (List.getElem_mem hlt) ht
        rw [hc'] at hcf; cases hcf
      cases hk : cfgsOf (es.take n) with
      | nil =>
        rw [hk] at ih
        intro y hy
        rcases List.mem_append.mp hy with hy | hy
        · exact ih y hy
        · rw [List.mem_singleton.mp hy]; exact hnt
      | cons c rest =>
        rw [hk] at ih
        cases rest with
        | nil =>
          refine ⟨cfgLast_append_plain ih.1 hnt, fun y hy ht => ?_⟩
          rcases List.mem_append.mp hy with hy | hy
          · exact ih.2 y hy ht
          · rw [List.mem_singleton.mp hy] at ht; exact absurd ht hnt
        | cons c' rest' =>
          obtain ⟨a, p1, p2⟩ := ih
          have hle := a.index_le (fun x hx => by rw [hlen]; exact hb x hx)
          rw [hlen] at hle
          refine ⟨cfgLast_append_plain a hnt, p1, ?_⟩
          show CfgLast ((es.take n ++ [es[n]]).take (c.index - 1)) c'
          rw [List.take_append_of_le_length (by rw [hlen]; omega)]
          exact p2

theorem scanOK {es : List Entry} (hc : ∀ k (_ : k < es.length), es[k].index = k + 1)
    (hd : ∀ e ∈ es, e.typ = etConfig → ∃ c, e.config? = some c) : ScanOK es (cfgsOf es) := by
  have := scanOK_take hc hd es.length (Nat.le_refl _)
  rwa [List.take_length] at this

/-- **restart**: the latest configuration of the restarted node is the last configuration entry of its log; it is
pending (`configs.committed` is the configuration entry before it), or the log holds no other configuration entry -/
theorem restart_cfg (d : Durable) (retain : Nat) (sor : Bool) (n : Node)
    (h : Node.restart d retain sor = some n) (hs : d.snaps = []) (hp : d.log.prev = 0)
    (hc : ∀ k (_ : k < d.log.entries.length), d.log.entries[k].index = k + 1)
    (hd : ∀ e ∈ d.log.entries, e.typ = etConfig → ∃ c, e.config? = some c)
    (hex : ∃ e ∈ d.log.entries, e.typ = etConfig) :
    CfgLast d.log.entries n.configs.latest ∧
    (Pend d.log.entries n.configs ∨ ∀ e ∈ d.log.entries, e.typ = etConfig → e.index = n.configs.latest.index) := by
  have hsn : C10.snapOf d = {} := by unfold C10.snapOf; rw [hs]; rfl
  have hsi : (C10.snapOf d).index = 0 := by rw [hsn]
  have hlog : C10.logOf d = d.log := C10.logOf_not_stale d (Node.staleLog_nosnap hs)
  have hlast : d.log.last = d.log.entries.length := by unfold NLog.last; rw [hp]; omega
  have hwin : C10.window (C10.logOf d) (C10.snapOf d).index (C10.logOf d).last = d.log.entries.reverse := by
    unfold C10.window
    rw [hlog, hsi, hlast, hp, Nat.sub_zero, Nat.sub_zero, List.take_length, List.drop_zero]
  have hok : C10.NoDecodeErr (C10.window (C10.logOf d) (C10.snapOf d).index (C10.logOf d).last) := by
    rw [hwin]
    intro e he ht
    obtain ⟨c, hc'⟩ := hd e (List.mem_reverse.mp he) ht
    rw [hc']; rfl
  obtain ⟨_, r1, r2⟩ := C10.restart_configs d retain sor (by unfold C10.DurWF; rw [hp]; exact Nat.zero_le _) hok
  have hk : C10.configsAbove d = cfgsOf d.log.entries := by
    unfold C10.configsAbove cfgsOf; rw [hwin]
  rw [hk] at r1 r2
  -- the restarted node is `restartNode` (no snapshot to restore)
  have hn : n.configs = (restartNode d retain sor).configs := Node.restart_field (·.configs) (fun _ _ _ _ => rfl) h
  rw [hn]
  have sk := scanOK hc hd
  obtain ⟨e0, he0, ht0⟩ := hex
  cases hks : cfgsOf d.log.entries with
  | nil =>
    rw [hks] at sk
    exact absurd ht0 (sk e0 he0)
  | cons c rest =>
    rw [hks] at sk r1 r2
    have e1 : (restartNode d retain sor).configs.latest = c := r1
    cases rest with
    | nil =>
      rw [e1]
      exact ⟨sk.1, Or.inr sk.2⟩
    | cons c' rest' =>
      have e2 : (restartNode d retain sor).configs.committed = c' := r2
      rw [e1]
      refine ⟨sk.1, Or.inl ?_⟩
      have : (restartNode d retain sor).configs = ⟨c', c⟩ := by
        rw [← e1, ← e2]
      rw [this]
      exact sk.2

/-- EXAMPLE (`fcfg`): node 2 of `C04Sys` (log: the bootstrap configuration entry (1,1); latest configuration: that entry)
handles a heartbeat of term 5 that verifies entry 1; index 1 is protected (`Q k := k = 1`: the request carries no entry,
so it conflicts with nothing) -/
example : CFin (fun k => k = 1)
    ((C04Sys.exNode 2).step (.append { term := 5, src := 1, prevLogIndex := 1, prevLogTerm := 1 }) [] []).log.entries
    ((C04Sys.exNode 2).step (.append { term := 5, src := 1, prevLogIndex := 1, prevLogTerm := 1 }) [] []).configs
    ((C04Sys.exNode 2).step (.append { term := 5, src := 1, prevLogIndex := 1, prevLogTerm := 1 }) [] []).commitIndex := by
  have hcfg : C04Sys.exE.config? = some C04Sys.exCfg := by decide
  refine fcfg (C04Sys.exNode 2) { term := 5, src := 1, prevLogIndex := 1, prevLogTerm := 1 } [] []
    ⟨rfl, rfl, rfl, fun k hk => ?_, rfl, rfl⟩ (fun k hk => absurd hk (Nat.not_lt_zero k))
    (Q := fun k => k = 1) (fun k hk => ⟨by rw [hk]; decide, fun e he => absurd he List.not_mem_nil⟩)
    (fun e he => absurd he List.not_mem_nil)
    ⟨⟨C04Sys.exE, List.mem_singleton.mpr rfl, hcfg⟩, fun e he _ => by rw [List.mem_singleton.mp he]; decide⟩
    (Or.inl (by decide))
  have : k = 0 := by have : k < 1 := hk; omega
  subst this; rfl

/-- EXAMPLE (`scanOK` / `restart_cfg`): the configurations found in a log that holds the bootstrap configuration entry -/
example : cfgsOf [C04Sys.exE] = [C04Sys.exCfg] := by decide

end MemberFollow
end Raft
