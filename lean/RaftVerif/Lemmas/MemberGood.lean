/-
Node-level layer for discharging the side conditions of the membership-change theorems (Props/C08Member.lean):
WHAT a leader writes into a configuration entry.

`CfgAll c`: the content of a configuration that every node can hold and that keeps the cluster out of the
single-voter regime: member ids strictly increasing (the model's representation of a Go map), every member's action one
of the five defined ones and never `Promote` on a voter (`Node.validate`), and TWO anchors — voters without pending
action (`NoPanic.AnchoredT true`). It is preserved by the configurations `leader.checkConfigActions` /
`leader.checkConfigAction` derive (`Config.set` / `Config.erase` at a node with a pending action), and holds of a
submitted configuration that passed `Config.validate` and `NoPanic.UserCfg true`.
`K b s`: relative to the state `b` a step started from — the log is `b`'s plus new entries; every
configuration entry of the log carries a `CfgAll` configuration (`EntOK`); the latest configuration is `CfgAll` (or empty);
the leader's cached own voter flag is current; and THE FIRST configuration entry appended since `b` (if any) has voting
rights that differ from those of `b.configs.latest` at one node at most (`C08.AdjacentVoters`) — all claimed while
nothing has failed. A closure principle for the mutually recursive leader block (`block`), phase-free: the
configuration a handler works on has the voters of `b.configs.latest` AS LONG AS NO CONFIGURATION ENTRY WAS APPENDED
(`Rel`), which is all the first entry needs.
Then the handlers around the block (`kSide`: those that call it on the latest configuration are walked in
Lemmas/LeaderSide.lean), `leader.init`, the role transitions, and one whole step (`step_content`).
-/
import RaftVerif.Lemmas.MemberCommit
import RaftVerif.Lemmas.NoPanic
import RaftVerif.Lemmas.QuorumRel
import RaftVerif.Lemmas.LeaderSide

namespace Raft
namespace MemberGood
open Node CfgRel NoPanic

/-- what every configuration (entry) of a run is: member ids strictly increasing, every action defined and never
`Promote` on a voter, two voters without pending action -/
structure CfgAll (c : Config) : Prop where
  sorted : c.nodes.Pairwise (fun a b => a.id < b.id)
  acts : ∀ n ∈ c.nodes, n.action ≤ 4 ∧ (n.voter = true → n.action ≠ actPromote)
  anch : AnchoredT true c

def PZ (c : Config) : Prop := c.nodes = [] ∨ CfgAll c

def EntOK (e : Entry) : Prop := e.typ = etConfig → ∃ c, e.cfg = some c ∧ CfgAll c

theorem CfgAll.congr {c c' : Config} (h : CfgAll c) (e : c'.nodes = c.nodes) : CfgAll c' :=
  ⟨by rw [e]; exact h.sorted, by rw [e]; exact h.acts, h.anch.congr e⟩

theorem PZ.congr {c c' : Config} (h : PZ c) (e : c'.nodes = c.nodes) : PZ c' :=
  h.imp (fun h => e.trans h) (fun h => h.congr e)

theorem get_mem {c : Config} {id : Nat} (h : (c.get id).action ≠ actNone) : c.get id ∈ c.nodes ∧ (c.get id).id = id :=
  find_spec (get_action_ne h)

theorem nextAction_ne' {n : CNode} (h : n.nextAction ≠ actNone) : n.action ≠ actNone := nextAction_ne h

theorem CfgAll.set {c : Config} (h : CfgAll c) (n' : CNode)
    (hn : (c.get n'.id).nextAction ≠ actNone ∨ (c.get n'.id).action ≠ actNone)
    (ha : n'.action ≤ 4 ∧ (n'.voter = true → n'.action ≠ actPromote)) : CfgAll (c.set n') := by
  refine ⟨Config.sorted_insertSorted n' c.nodes h.sorted, fun x hx => ?_, h.anch.set n' hn⟩
  rcases Config.mem_insertSorted hx with e | e
  · rw [e]; exact ha
  · exact h.acts x e

theorem CfgAll.erase {c : Config} (h : CfgAll c) (x : Nat)
    (hn : (c.get x).nextAction ≠ actNone ∨ (c.get x).action ≠ actNone) : CfgAll (c.erase x) := by
  refine ⟨List.Pairwise.filter _ h.sorted, fun y hy => ?_, h.anch.erase x hn⟩
  exact h.acts y (List.mem_filter.mp hy).1

/-- a configuration in which some node carries an action is not empty -/
theorem PZ.of_get {c : Config} {id : Nat} (h : PZ c) (ha : (c.get id).action ≠ actNone) : CfgAll c := by
  rcases h with h | h
  · have := (get_mem ha).1
    rw [h] at this; cases this
  · exact h

theorem cfgAll_actionConfig {id : Nat} {c c' : Config} {li : Nat} {st : Repl} (h : CfgAll c)
    (hn : (c.get id).nextAction ≠ actNone)
    (ha : actionConfig li c (c.get id) (c.get id).nextAction st = some c') : CfgAll c' := by
  have hact := nextAction_ne hn
  obtain ⟨hmem, hid⟩ := get_mem hact
  have hacts := h.acts _ hmem
  have hset : ∀ n' : CNode, n'.id = id → (n'.action ≤ 4 ∧ (n'.voter = true → n'.action ≠ actPromote)) →
      CfgAll (c.set n') := fun n' e k => h.set n' (Or.inl (by rw [e]; exact hn)) k
  rcases actionConfig_eq_some ha with ⟨_, rfl⟩ | ⟨_, rfl⟩ | ⟨_, rfl⟩
  · exact hset _ hid ⟨Nat.zero_le _, fun _ => (by decide : (0 : Nat) ≠ 1)⟩
  · rw [hid]; exact h.erase id (Or.inl hn)
  · refine hset _ hid ⟨?_, fun hv => by cases hv⟩
    show (if (c.get id).action = actDemote then actNone else (c.get id).action) ≤ 4
    split
    · exact Nat.zero_le _
    · exact hacts.1

/-- the leader's own entry: demoted -/
theorem cfgAll_demoteSelf {nid : Nat} {c : Config} (h : CfgAll c) (ha : (c.get nid).action ≠ actNone) :
    CfgAll (c.set { c.get nid with voter := false, action := actNone }) :=
  h.set _ (Or.inr (by
    show (c.get ({ c.get nid with voter := false, action := actNone } : CNode).id).action ≠ actNone
    rw [show ({ c.get nid with voter := false, action := actNone } : CNode).id = (c.get nid).id from rfl,
      (get_mem ha).2]
    exact ha)) ⟨Nat.zero_le _, fun hv => by cases hv⟩

theorem cfgAll_removeSelf {nid : Nat} {c : Config} (h : CfgAll c) (ha : (c.get nid).action ≠ actNone) :
    CfgAll (c.erase nid) := h.erase nid (Or.inr ha)

theorem ids_nodup {c : Config} (h : c.nodes.Pairwise (fun a b => a.id < b.id)) : c.ids.Nodup := by
  unfold Config.ids
  rw [List.nodup_iff_pairwise_ne, List.pairwise_map]
  exact h.imp (fun hlt => Nat.ne_of_lt hlt)

theorem CfgAll.voters_nodup {c : Config} (h : CfgAll c) : c.voters.Nodup :=
  QuorumRel.voters_nodup c (ids_nodup h.sorted)

theorem CfgAll.two {c : Config} (h : CfgAll c) : 2 ≤ c.numVoters := numVoters_of_anchored2 (h.anch.2 rfl)

theorem CfgAll.quorum_ne_one {c : Config} (h : CfgAll c) : c.quorum ≠ 1 := by
  have := h.two
  unfold Config.quorum
  omega

/-- every node can hold a `CfgAll` configuration -/
theorem CfgAll.cfgOk {c : Config} (h : CfgAll c) (nid : Nat) : CfgOk true nid c := by
  refine ⟨?_, fun _ => h.anch⟩
  unfold SelfAct
  rcases NoPanic.get_id c nid with e | e
  · by_cases ha : (c.get nid).action = actNone
    · rw [ha]; exact ⟨Nat.zero_le _, fun _ => by decide⟩
    · exact h.acts _ (get_mem ha).1
  · rw [e]; exact ⟨Nat.zero_le _, fun hv => by cases hv⟩

theorem PZ.cfgOk {c : Config} (h : PZ c) (nid : Nat) : CfgOk true nid c := by
  rcases h with h | h
  · exact (cfgOk_empty true nid).congr h
  · exact h.cfgOk nid

/-- a submitted configuration that passed `Config.validate`, with ids strictly increasing and two voters without action
(`NoPanic.UserCfg true`) -/
theorem cfgAll_user {nid : Nat} {c : Config} (hu : UserCfg true nid c) (hv : configValid c = true) : CfgAll c := by
  have h2 := hu.2.2 rfl
  have hany : c.nodes.any (fun n => n.voter && n.action == actNone) = true := by
    rw [List.any_eq_true]
    cases hl : c.nodes.filter (fun n => n.voter && n.action == actNone) with
    | nil => rw [hl] at h2; exact absurd h2 (by decide)
    | cons x _ =>
      have hx : x ∈ c.nodes.filter (fun n => n.voter && n.action == actNone) := by rw [hl]; exact List.mem_cons_self
      exact ⟨x, (List.mem_filter.mp hx).1, (List.mem_filter.mp hx).2⟩
  refine ⟨hu.1, fun n hn => ?_, anchoredT_of_sorted hu.1 hany hu.2.2⟩
  unfold configValid at hv
  simp only [Bool.and_eq_true, List.all_eq_true] at hv
  have hnv := hv.1.1 n hn
  unfold nodeValid at hnv
  simp only [Bool.and_eq_true, Bool.not_eq_true', decide_eq_false_iff_not, not_and, decide_eq_true_eq] at hnv
  refine ⟨hnv.1.1.2, fun hvo hact => ?_⟩
  exact hnv.1.2 hact hvo

/-- a `CfgAll` configuration decoded from an entry: the index and term do not matter -/
theorem entOK_config {e : Entry} {c : Config} (h : EntOK e) (hc : e.config? = some c) : CfgAll c := by
  obtain ⟨ht, _, _⟩ := Entry.config?_facts hc
  obtain ⟨c0, hc0, h0⟩ := h ht
  exact h0.congr (config?_nodes hc0 hc)

theorem entOK_dec {e : Entry} (h : EntOK e) (ht : e.typ = etConfig) : ∃ c, e.config? = some c ∧ CfgAll c := by
  obtain ⟨c0, hc0, h0⟩ := h ht
  exact ⟨{ c0 with index := e.index, term := e.term }, Entry.config?_of_cfg ht hc0, h0.congr rfl⟩


def fc (b s : Node) : Option Entry :=
  (s.log.entries.drop b.log.entries.length).find? (fun x => x.typ == etConfig)

/-- claimed while nothing has failed -/
structure KOK (b s : Node) : Prop where
  ents : ∀ e ∈ s.log.entries, EntOK e
  latest : PZ s.configs.latest
  cache : s.ldr.node.voter = s.configs.latest.isVoter s.nid
  adj : ∀ e, fc b s = some e → ∃ c, e.config? = some c ∧ C08.AdjacentVoters b.configs.latest c
  keep : fc b s = none → s.configs.latest = b.configs.latest

/-- relative to `b`, the state a step started from -/
structure K (b s : Node) : Prop where
  nid : s.nid = b.nid
  ext : ∃ es, s.log.entries = b.log.entries ++ es
  ok : s.panicked = none → KOK b s

structure Grow (x y : Node) : Prop where
  pan : y.panicked = none → x.panicked = none
  ext : ∃ r, y.log.entries = x.log.entries ++ r

theorem Grow.refl (x : Node) : Grow x x := ⟨id, [], (List.append_nil _).symm⟩

theorem Grow.trans {x y z : Node} (h1 : Grow x y) (h2 : Grow y z) : Grow x z := by
  obtain ⟨r1, e1⟩ := h1.ext
  obtain ⟨r2, e2⟩ := h2.ext
  exact ⟨fun h => h1.pan (h2.pan h), r1 ++ r2, by rw [e2, e1, List.append_assoc]⟩

theorem Grow.of_quiet {x y : Node} (q : Quiet x y) : Grow x y :=
  ⟨q.pan', [], by rw [q.entries, List.append_nil]⟩

def obsK (s : Node) : Config × Nat × Bool × List Entry := (s.configs.latest, s.nid, s.ldr.node.voter, s.log.entries)

theorem obsK_eq {x y : Node} (h : obsK y = obsK x) :
    y.configs.latest = x.configs.latest ∧ y.nid = x.nid ∧ y.ldr.node.voter = x.ldr.node.voter ∧
    y.log.entries = x.log.entries := by
  unfold obsK at h
  simp only [Prod.mk.injEq] at h
  exact h

theorem fc_congr {b x y : Node} (h : y.log.entries = x.log.entries) : fc b y = fc b x := by
  unfold fc; rw [h]

theorem K.congr {b x y : Node} (h : K b x) (e : obsK y = obsK x) (hp : y.panicked = none → x.panicked = none) :
    K b y := by
  obtain ⟨e1, e2, e3, e4⟩ := obsK_eq e
  refine ⟨e2.trans h.nid, by rw [e4]; exact h.ext, fun hy => ?_⟩
  have k := h.ok (hp hy)
  exact ⟨by rw [e4]; exact k.ents, by rw [e1]; exact k.latest, by rw [e1, e2, e3]; exact k.cache,
    by rw [fc_congr e4]; exact k.adj, by rw [fc_congr e4, e1]; exact k.keep⟩

theorem Grow.of_same {x y : Node} (e : obsK y = obsK x) (hp : y.panicked = none → x.panicked = none) : Grow x y :=
  ⟨hp, [], by rw [(obsK_eq e).2.2.2, List.append_nil]⟩

theorem obsK_quiet {x y : Node} (q : Quiet x y) : obsK y = obsK x := by
  unfold obsK
  rw [q.configs, q.nid, q.selfVoter, q.entries]

def KS (b x y : Node) : Prop := K b y ∧ Grow x y

theorem KS.refl {b x : Node} (h : K b x) : KS b x x := ⟨h, Grow.refl x⟩

theorem KS.trans {b x y z : Node} (h1 : KS b x y) (h2 : KS b y z) : KS b x z := ⟨h2.1, h1.2.trans h2.2⟩

theorem KS.same {b x y : Node} (h : K b x) (e : obsK y = obsK x) (hp : y.panicked = none → x.panicked = none) :
    KS b x y := ⟨h.congr e hp, Grow.of_same e hp⟩

theorem KS.quiet {b x y : Node} (h : K b x) (q : Quiet x y) : KS b x y := KS.same h (obsK_quiet q) q.pan'

theorem KS.then {b x y z : Node} (h1 : KS b x y) (k : K b y → KS b y z) : KS b x z := h1.trans (k h1.1)

/-- the log only grows: the first configuration entry stays the first -/
theorem fc_grow {b x y : Node} (hx : ∃ es, x.log.entries = b.log.entries ++ es) (g : Grow x y) :
    (∀ e, fc b x = some e → fc b y = some e) ∧ (fc b y = none → fc b x = none) := by
  obtain ⟨es, he⟩ := hx
  obtain ⟨r, hr⟩ := g.ext
  have h1 : fc b x = es.find? (fun x => x.typ == etConfig) := by
    unfold fc; rw [he, List.drop_left]
  have h2 : fc b y = (es ++ r).find? (fun x => x.typ == etConfig) := by
    unfold fc; rw [hr, he, List.append_assoc, List.drop_left]
  rw [h1, h2, List.find?_append]
  constructor
  · intro e h; rw [h]; rfl
  · intro h
    cases hf : es.find? (fun x => x.typ == etConfig) with
    | none => rfl
    | some v => rw [hf] at h; cases h

/-- the configuration a handler works on has the voters of `b.configs.latest` — claimed while nothing has failed and
no configuration entry was appended since `b` -/
def Rel (b s : Node) (config : Config) : Prop :=
  s.panicked = none → fc b s = none → SameVoters config b.configs.latest

theorem Rel.grow {b x y : Node} {config : Config} (h : Rel b x config) (hx : K b x) (g : Grow x y) : Rel b y config :=
  fun hp hf => h (g.pan hp) ((fc_grow hx.ext g).2 hf)

theorem Rel.latest {b x : Node} (h : K b x) : Rel b x x.configs.latest := by
  intro hp hf
  rw [(h.ok hp).keep hf]
  exact SameVoters.refl _

theorem find?_single_ne {e : Entry} (h : e.typ ≠ etConfig) : [e].find? (fun x => x.typ == etConfig) = none := by
  rw [List.find?_cons_of_neg (by simpa using h)]; rfl

theorem find?_single_eq {e : Entry} (h : e.typ = etConfig) : [e].find? (fun x => x.typ == etConfig) = some e := by
  rw [List.find?_cons_of_pos (by simpa using h)]

theorem fc_append {b x y : Node} {e : Entry} (hx : ∃ es, x.log.entries = b.log.entries ++ es)
    (hy : y.log.entries = x.log.entries ++ [e]) :
    fc b y = (fc b x).or ([e].find? (fun x => x.typ == etConfig)) := by
  obtain ⟨es, he⟩ := hx
  unfold fc
  rw [hy, he, List.append_assoc, List.drop_left, List.drop_left, List.find?_append]

theorem ks_appendPlain {b x : Node} (h : K b x) (e : Entry) (ht : e.typ ≠ etConfig) : KS b x (x.appendEntry e) := by
  obtain ⟨a1, a2, _, _, _, a6, _, _⟩ := appendEntry_key x e
  have hent := appendEntry_entries x e
  have hg : Grow x (x.appendEntry e) := ⟨appendEntry_pan' x e, [e], hent⟩
  have hfc : fc b (x.appendEntry e) = fc b x := by
    rw [fc_append h.ext hent, find?_single_ne ht]
    cases fc b x <;> rfl
  refine ⟨⟨a2.trans h.nid, ?_, fun hp => ?_⟩, hg⟩
  · obtain ⟨es, he⟩ := h.ext
    exact ⟨es ++ [e], by rw [hent, he, List.append_assoc]⟩
  · have k := h.ok (hg.pan hp)
    refine ⟨fun e' he' => ?_, by rw [a1]; exact k.latest, by rw [a6, a1, a2]; exact k.cache,
      by rw [hfc]; exact k.adj, by rw [hfc, a1]; exact k.keep⟩
    rw [hent, List.mem_append, List.mem_singleton] at he'
    rcases he' with he' | he'
    · exact k.ents e' he'
    · rw [he']; exact fun ht' => absurd ht' ht

/-- a configuration entry is appended and adopted (`leader.changeConfig`: cached own entry and voter count refreshed,
`Raft.changeConfig`) -/
theorem ks_appendCfg {b x : Node} (h : K b x) (e : Entry) (c : Config) (hc : e.config? = some c)
    (hall : x.panicked = none → CfgAll c)
    (hadj : x.panicked = none → fc b x = none → C08.AdjacentVoters b.configs.latest c) :
    KS b x (MemberCommit.adopt (x.appendEntry e) c) := by
  obtain ⟨a1, a2, _, _, _, a6, _, _⟩ := appendEntry_key x e
  have hent := appendEntry_entries x e
  have hpan0 := appendEntry_pan' x e
  obtain ⟨ht, _, _⟩ := Entry.config?_facts hc
  generalize x.appendEntry e = z at a1 a2 a6 hent hpan0
  unfold MemberCommit.adopt
  obtain ⟨c1, c2, _, _, _, _, c7, c8, c9⟩ := CfgRel.changeConfigR_fields
    (z.withLdr { z.ldr with node := c.get z.nid, numVoters := c.numVoters }) c
  generalize (z.withLdr { z.ldr with node := c.get z.nid, numVoters := c.numVoters }).changeConfigR c = y
    at c1 c2 c7 c8 c9
  have c2 : y.nid = z.nid := c2
  have c7 : y.ldr.node = c.get z.nid := by rw [c7]; rfl
  have c8 : y.panicked = z.panicked := c8
  have c9 : y.log = z.log := c9
  have hlog : y.log.entries = x.log.entries ++ [e] := by rw [c9]; exact hent
  have hpan : y.panicked = none → x.panicked = none := fun hp => hpan0 (by rw [← c8]; exact hp)
  have hg : Grow x y := ⟨hpan, [e], hlog⟩
  have hfc : fc b y = (fc b x).or (some e) := by rw [fc_append h.ext hlog, find?_single_eq ht]
  refine ⟨⟨by rw [c2]; exact a2.trans h.nid, ?_, fun hp => ?_⟩, hg⟩
  · obtain ⟨es, he⟩ := h.ext
    exact ⟨es ++ [e], by rw [hlog, he, List.append_assoc]⟩
  · have k := h.ok (hpan hp)
    have hlat : y.configs.latest = c := by rw [c1]
    have hall := hall (hpan hp)
    refine ⟨fun e' he' => ?_, by rw [hlat]; exact Or.inr hall, ?_, fun e' he' => ?_, fun hn => ?_⟩
    · rw [hlog, List.mem_append, List.mem_singleton] at he'
      rcases he' with he' | he'
      · exact k.ents e' he'
      · rw [he']
        intro _
        cases hcfg : e.cfg with
        | none =>
          have := (Entry.config?_facts hc).2.2.2
          rw [hcfg] at this; cases this
        | some c0 => exact ⟨c0, rfl, hall.congr ((config?_nodes hcfg hc).symm)⟩
    · rw [hlat, c2, c7]
      exact get_voter_eq_isVoter c _
    · rw [hfc] at he'
      cases hx : fc b x with
      | none =>
        rw [hx] at he'
        injection he' with he'
        rw [← he']
        exact ⟨c, hc, hadj (hpan hp) hx⟩
      | some e0 =>
        rw [hx] at he'
        injection he' with he'
        rw [← he']
        exact k.adj e0 hx
    · rw [hfc] at hn
      cases hx : fc b x <;> rw [hx] at hn <;> cases hn

/-- `leader.setCommitIndex`: flush, `Raft.setCommitIndex` -/
theorem ks_commit {b x : Node} (h : K b x) (i : Nat) : KS b x ((x.commitLog i).setCommitIndexR i).1 := by
  have hq := q_commitLog x i
  have h1 := (KS.quiet h hq).1
  refine (KS.quiet h hq).trans ?_
  generalize x.commitLog i = z at h1
  have sh := Node.setCommitIndexR_shape z i
  exact KS.same h1 (by unfold obsK; rw [Node.setCommitIndexR_latest z i, sh]) (fun hp => by rw [sh] at hp; exact hp)

theorem ks_panic {b x : Node} (h : K b x) (site : String) : KS b x (x.panic site) := KS.quiet h (q_panic x site)


/-- a state in which a failure is recorded satisfies the invariant, whatever else happened -/
theorem K.of_failed {b y : Node} (h1 : y.nid = b.nid) (h2 : ∃ es, y.log.entries = b.log.entries ++ es)
    (h3 : y.panicked ≠ none) : K b y := ⟨h1, h2, fun hp => absurd hp h3⟩

/-- what is known about a batch handed to `leader.storeEntry`: client entries (no configuration entry), or the single
configuration entry built by `leader.doChangeConfig` for a `CfgAll` configuration that — if it is the first of the step —
is adjacent to `b.configs.latest` -/
inductive BatchK (b x : Node) : List QItem → Prop
  | plain (bt : List QItem) : (∀ q ∈ bt, q.typ ≠ etConfig) → BatchK b x bt
  | cfg (c : Config) (task i t : Nat) : (x.panicked = none → CfgAll c) →
      (x.panicked = none → fc b x = none → C08.AdjacentVoters b.configs.latest c) →
      BatchK b x [{ index := i, term := t, typ := etConfig, cfg := some c, task := task }]

/-- a membership change handed over by a voting leader without transfer in progress is carried out — a configuration
entry is appended — unless something fails -/
def Prog (b x y : Node) : Prop :=
  x.ldr.node.voter = true → x.ldr.transfer.active = false → y.panicked = none → fc b y ≠ none

theorem Prog.grow {b x y z : Node} (h : Prog b x y) (hy : K b y) (g : Grow y z) : Prog b x z :=
  fun hv ha hp hf => h hv ha (g.pan hp) ((fc_grow hy.ext g).2 hf)

def SEspec (b : Node) (n : Nat) : Prop := ∀ x bt, K b x → BatchK b x bt →
  KS b x (storeEntry n x bt) ∧ (IsCfg bt → Prog b x (storeEntry n x bt))
def SIspec (b : Node) (n : Nat) : Prop := ∀ x bt, K b x → BatchK b x bt →
  KS b x (storeItems n x bt) ∧ (IsCfg bt → Prog b x (storeItems n x bt))
def CLspec (b : Node) (n : Nat) : Prop := ∀ x e c, K b x → e.config? = some c → (x.panicked = none → CfgAll c) →
  (x.panicked = none → fc b x = none → C08.AdjacentVoters b.configs.latest c) →
  KS b x (changeConfigL n (x.appendEntry e) c) ∧ fc b (changeConfigL n (x.appendEntry e) c) ≠ none
def DCspec (b : Node) (n : Nat) : Prop := ∀ x t c, K b x → (x.panicked = none → CfgAll c) →
  (x.panicked = none → fc b x = none → C08.AdjacentVoters b.configs.latest c) →
  KS b x (doChangeConfig n x t c) ∧ Prog b x (doChangeConfig n x t c)
def CAsspec (b : Node) (n : Nat) : Prop := ∀ x t config, K b x → (x.panicked = none → PZ config) → Rel b x config →
  KS b x (checkConfigActions n x t config)
def CAspec (b : Node) (n : Nat) : Prop := ∀ x t config id, K b x → (x.panicked = none → PZ config) → Rel b x config →
  KS b x (checkConfigAction n x t config id)
def SCspec (b : Node) (n : Nat) : Prop := ∀ x i, K b x → KS b x (setCommitIndexL n x i)
def MCspec (b : Node) (n : Nat) : Prop := ∀ x, K b x → KS b x (onMajorityCommit n x)

variable {b : Node}

theorem fuel_out {x : Node} (h : K b x) : KS b x (x.panic "fuel") := ks_panic h _

theorem prog_failed {x y : Node} (h : y.panicked ≠ none) : Prog b x y := fun _ _ hp => absurd hp h

theorem SE_succ {n : Nat} (hSI : SIspec b n) (hMC : MCspec b n) : SEspec b (n + 1) := by
  intro x bt h hb
  obtain ⟨⟨hK1, hG1⟩, hW1⟩ := hSI x bt h hb
  unfold storeEntry
  extract_lets lastIndex x1 x2 x3 x4
  have hq2 : Quiet x1 x2 := by
    unfold x2
    split
    · split
      · exact q_applyCommittedL _
      · exact .refl _
    · exact .refl _
  have h2 : KS b x x2 := KS.trans ⟨hK1, hG1⟩ (KS.quiet hK1 hq2)
  have hW2 : IsCfg bt → Prog b x x2 := fun hc => (hW1 hc).grow hK1 (Grow.of_quiet hq2)
  split
  · have hq4 : Quiet x2 x4 := (q_beginFinishedRounds x2).trans (q_notifyFlr _)
    have h4 : KS b x x4 := h2.trans (KS.quiet h2.1 hq4)
    have hW4 : IsCfg bt → Prog b x x4 := fun hc => (hW2 hc).grow h2.1 (Grow.of_quiet hq4)
    split
    · have h5 := hMC x4 h4.1
      exact ⟨h4.trans h5, fun hc => (hW4 hc).grow h4.1 h5.2⟩
    · exact ⟨h4, hW4⟩
  · exact ⟨h2, hW2⟩

theorem storeItem_k {n : Nat} {x : Node} {q : QItem} (hCL : CLspec b n) (h : K b x) (hq : BatchK b x [q]) :
    KS b x (storeItem n x q) ∧ (q.typ = etConfig → Prog b x (storeItem n x q)) := by
  unfold storeItem
  split
  · rename_i hact
    exact ⟨KS.quiet h (q_reply _ _ _), fun _ _ ha => by rw [hact] at ha; cases ha⟩
  · split
    · rename_i hnv
      have hq' : Quiet x (if x.configs.latest.has x.nid = true then x.reply q.task "inProgress:demoteLeader"
          else x.reply q.task "inProgress:removeLeader") := by split <;> exact q_reply _ _ _
      exact ⟨KS.quiet h hq', fun _ hv _ => by simp [hv] at hnv⟩
    · extract_lets q' l0 x0 x1
      have hq0 : Quiet x x0 := q_ldr x _ rfl rfl
      have h0 := KS.quiet h hq0
      cases hq with
      | plain _ hpl =>
        have ht : ¬ q'.typ = etConfig := hpl q (List.mem_singleton_self _)
        have h1 : KS b x x1 := h0.trans (ks_appendPlain h0.1 _ ht)
        split
        · first | rw [if_neg ht] | skip
          exact ⟨h1, fun hc => absurd hc ht⟩
        · exact ⟨h0, fun hc => absurd hc ht⟩
      | cfg c task i t hall hadj =>
        rw [if_pos (by rfl), if_pos (by rfl)]
        split
        · rename_i c' hc'
          have hcfg : q'.toEntry.cfg = some c.payload := rfl
          have hnodes : c'.nodes = c.nodes := (config?_nodes hcfg hc').trans rfl
          obtain ⟨hk, hf⟩ := hCL x0 q'.toEntry c' h0.1 hc' (fun hp => (hall (hq0.pan' hp)).congr hnodes) (fun hp hf => by
            obtain ⟨id, hid⟩ := hadj (hq0.pan' hp) (by rw [← fc_congr hq0.entries]; exact hf)
            exact ⟨id, fun y hy => by rw [isVoter_congr (find?_congr hnodes) y]; exact hid y hy⟩)
          exact ⟨h0.trans hk, fun _ _ _ _ => hf⟩
        · exact ⟨h0.trans ⟨K.of_failed
            (by rw [(q_panic _ _).nid, (appendEntry_key x0 _).2.1]; exact h0.1.nid)
            (by
              obtain ⟨es, he⟩ := h0.1.ext
              exact ⟨es ++ [q'.toEntry], by rw [(q_panic _ _).entries, appendEntry_entries, he, List.append_assoc]⟩)
            (Node.panic_panicked_ne _ _),
            ⟨fun hp => absurd hp (Node.panic_panicked_ne _ _), [q'.toEntry], by
              rw [(q_panic _ _).entries, appendEntry_entries]⟩⟩, fun _ => prog_failed (Node.panic_panicked_ne _ _)⟩

theorem SI_succ {n : Nat} (hSI : SIspec b n) (hCL : CLspec b n) : SIspec b (n + 1) := by
  intro x bt h hb
  cases bt with
  | nil =>
    rw [storeItems_nil]
    exact ⟨KS.refl h, fun ⟨q, hq, _⟩ => by cases hq⟩
  | cons q qs =>
    rw [storeItems_cons]
    have hq1 : BatchK b x [q] := by
      cases hb with
      | plain _ hp =>
        exact .plain _ (fun q' hq' => hp q' (by rw [List.mem_singleton.mp hq']; exact List.mem_cons_self ..))
      | cfg c task i t h1 h2 => exact .cfg c task i t h1 h2
    obtain ⟨h1, hW1⟩ := storeItem_k hCL h hq1
    have hqs : BatchK b (storeItem n x q) qs := by
      cases hb with
      | plain _ hp => exact .plain _ (fun q' hq' => hp q' (List.mem_cons_of_mem _ hq'))
      | cfg c task i t _ _ => exact .plain _ (fun q' hq' => by cases hq')
    obtain ⟨h2, _⟩ := hSI _ qs h1.1 hqs
    refine ⟨h1.trans h2, fun hc => ?_⟩
    have hcfg : q.typ = etConfig := by
      cases hb with
      | plain _ hp => obtain ⟨q', hq', ht⟩ := hc; exact absurd ht (hp q' hq')
      | cfg c task i t _ _ => rfl
    exact (hW1 hcfg).grow h1.1 h2.2

theorem DC_succ {n : Nat} (hSE : SEspec b n) : DCspec b (n + 1) := by
  intro x t c h hall hadj
  unfold doChangeConfig
  obtain ⟨hk, hW⟩ := hSE x _ h (.cfg c t c.index c.term hall hadj)
  exact ⟨hk, hW ⟨_, List.mem_singleton_self _, rfl⟩⟩

theorem CL_succ {n : Nat} (hCAs : CAsspec b n) : CLspec b (n + 1) := by
  intro x e c h hc hall hadj
  unfold changeConfigL
  extract_lets l0 x1 x2 l2 x3 x4
  have h2 : KS b x x2 := ks_appendCfg h e c hc hall hadj
  have hq3 : Quiet x2 x3 := q_ldr x2 _ rfl rfl
  have hq4 : Quiet x2 x4 := by
    refine hq3.trans (q_foldl _ (fun y m => ?_) c.nodes x3)
    split
    · exact .refl _
    · split
      · exact q_addReplication _ _
      · exact q_setRepl _ _
  have h4 : KS b x x4 := h2.trans (KS.quiet h2.1 hq4)
  have h5 := hCAs x4 0 x4.configs.latest h4.1 (fun hp => (h4.1.ok hp).latest) (Rel.latest h4.1)
  refine ⟨h4.trans h5, ?_⟩
  have hf2 : fc b x2 ≠ none := by
    obtain ⟨ht, _, _⟩ := Entry.config?_facts hc
    have hlog : x2.log.entries = x.log.entries ++ [e] := by
      rw [(CfgRel.changeConfigR_fields x1 c).2.2.2.2.2.2.2.2]
      exact appendEntry_entries x e
    rw [fc_append h.ext hlog, find?_single_eq ht]
    cases fc b x <;> exact fun hh => by cases hh
  exact fun hf => hf2 ((fc_grow h2.1.ext ((Grow.of_quiet hq4).trans h5.2)).2 hf)


theorem CA_succ {n : Nat} (hDC : DCspec b n) : CAspec b (n + 1) := by
  intro x t config id h hP hJ
  unfold checkConfigAction
  split
  · exact KS.refl h
  · rename_i st hst
    extract_lets nn action r x1
    split
    · exact KS.refl h
    · rename_i hact
      have hq1 : Quiet x x1 := q_setRepl x _
      have h1 := KS.quiet h hq1
      split
      · exact h1
      · split
        · exact h1
        · split
          · rename_i c hc
            have hone : OneNode config c := actionConfig_oneNode _ config id r.1 c hact hc
            obtain ⟨hk, _⟩ := hDC x1 t c h1.1
              (fun hp => cfgAll_actionConfig ((hP (hq1.pan' hp)).of_get (nextAction_ne hact)) hact hc)
              (fun hp hf => Deriv.adjacent (Or.inr hone)
                (hJ (hq1.pan' hp) (by rw [← fc_congr hq1.entries]; exact hf)))
            exact h1.trans hk
          · exact h1

/-- after the leader's action on ITSELF was handed to `doChangeConfig`: the derived configuration `c'` is what the loop
over the replications works on -/
theorem self_rel {x x1 : Node} {config c' : Config} (h : K b x) (hJ : Rel b x config)
    (hact : x.ldr.transfer.active = false) (hk : KS b x x1) (hW : Prog b x x1)
    (hsv : config.isVoter x.nid = false → SameVoters c' config) : Rel b x1 c' := by
  intro hp hf
  have hpx := hk.2.pan hp
  have hfx := (fc_grow h.ext hk.2).2 hf
  have hv : x.ldr.node.voter = false := by
    cases hv : x.ldr.node.voter with
    | false => rfl
    | true => exact absurd hf (hW hv hact hp)
  have k := h.ok hpx
  have h0 := hJ hpx hfx
  have hnv : config.isVoter x.nid = false := by
    rw [h0 x.nid, ← k.keep hfx, ← k.cache]; exact hv
  exact (hsv hnv).trans h0

theorem CAs_succ {n : Nat} (hDC : DCspec b n) (hCA : CAspec b n) : CAsspec b (n + 1) := by
  intro x t config h hP hJ
  unfold checkConfigActions
  extract_lets nn c1 c2 r
  have hr : KS b x r.1 ∧ (r.1.panicked = none → PZ r.2) ∧ Rel b r.1 r.2 := by
    unfold r
    split
    · rename_i hc
      obtain ⟨f1, f2, f3⟩ := canChange_facts hc.1
      have hact : (config.get x.nid).action ≠ actNone := hc.2
      have hid : (config.get x.nid).id = x.nid := CfgRel.get_id hact
      split
      · have hone : OneNode config c1 := oneNode_set _ x.nid _ hid hact
        obtain ⟨hk, hW⟩ := hDC x t c1 h (fun hp => cfgAll_demoteSelf ((hP hp).of_get hact) hact)
          (fun hp hf => Deriv.adjacent (Or.inr hone) (hJ hp hf))
        exact ⟨hk, fun hp => Or.inr (cfgAll_demoteSelf ((hP (hk.2.pan hp)).of_get hact) hact),
          self_rel h hJ f2 hk hW (fun hnv => sameVoters_set_nonvoter config x.nid _ hid rfl hnv)⟩
      · split
        · have hone : OneNode config c2 := oneNode_erase _ x.nid hact
          obtain ⟨hk, hW⟩ := hDC x t c2 h (fun hp => cfgAll_removeSelf ((hP hp).of_get hact) hact)
            (fun hp hf => Deriv.adjacent (Or.inr hone) (hJ hp hf))
          exact ⟨hk, fun hp => Or.inr (cfgAll_removeSelf ((hP (hk.2.pan hp)).of_get hact) hact),
            self_rel h hJ f2 hk hW (fun hnv => sameVoters_erase_nonvoter config x.nid hnv)⟩
        · exact ⟨ks_panic h _, fun hp => absurd hp (Node.panic_panicked_ne _ _), fun hp => absurd hp (Node.panic_panicked_ne _ _)⟩
    · exact ⟨KS.refl h, hP, hJ⟩
  obtain ⟨h1, hP1, hJ1⟩ := hr
  have hqp : Quiet r.1 r.1.popOrder := q_popOrder _
  have hloop : ∀ (ids : List Nat) (y : Node), K b y → (y.panicked = none → PZ r.2) → Rel b y r.2 →
      KS b y (ids.foldl (fun s id =>
        match s.findRepl? id with
        | some _ => checkConfigAction n s t r.2 id
        | none => s) y) := by
    intro ids
    induction ids with
    | nil => intro y hy _ _; exact KS.refl hy
    | cons id ids ih =>
      intro y hy hPy hJy
      rw [List.foldl_cons]
      have hstep : KS b y (match y.findRepl? id with
          | some _ => checkConfigAction n y t r.2 id
          | none => y) := by
        split
        · exact hCA y t r.2 id hy hPy hJy
        · exact KS.refl hy
      exact hstep.trans (ih _ hstep.1 (fun hp => hPy (hstep.2.pan hp)) (hJy.grow hy hstep.2))
  have hp0 := KS.quiet h1.1 hqp
  exact h1.trans (hp0.trans (hloop _ _ hp0.1 (fun hp => hP1 (hqp.pan' hp)) (hJ1.grow h1.1 hp0.2)))

theorem SC_succ {n : Nat} (hCAs : CAsspec b n) : SCspec b (n + 1) := by
  intro x i h
  unfold setCommitIndexL
  extract_lets x1 ready r x2 x3
  have h2 : KS b x x2 := ks_commit h i
  have h3 : KS b x x3 := by
    unfold x3
    split
    · exact h2.trans (hCAs _ _ _ h2.1 (fun hp => (h2.1.ok hp).latest) (Rel.latest h2.1))
    · exact h2
  clear_value x3
  split
  · split
    · have hq : Quiet x3 (x3.ldr.waitStable.foldl (fun s t => s.reply t s!"config:{s.configs.latest.index}") x3) :=
        q_foldl _ (fun y t => q_reply _ _ _) _ _
      have hq' := hq.trans (q_ldr _ { (x3.ldr.waitStable.foldl (fun s t => s.reply t s!"config:{s.configs.latest.index}") x3).ldr with waitStable := [] } rfl rfl)
      exact h3.trans (KS.quiet h3.1 hq')
    · exact h3.trans (hCAs x3 0 _ h3.1 (fun hp => (h3.1.ok hp).latest) (Rel.latest h3.1))
  · exact h3

theorem MC_succ {n : Nat} (hSC : SCspec b n) : MCspec b (n + 1) := by
  intro x h
  unfold onMajorityCommit
  extract_lets m x1 x2 x3
  have hq1 : Quiet x x1 := by
    unfold x1
    split
    · exact .refl _
    · exact q_panic _ _
  have h1 := KS.quiet h hq1
  split
  · have h2 := hSC x1 m.1 h1.1
    have hq3 : Quiet x2 x3.notifyFlr := (q_applyCommittedL x2).trans (q_notifyFlr _)
    exact h1.trans (h2.trans (KS.quiet h2.1 hq3))
  · exact h1

/-- **the leader block**: every handler of the mutually recursive block preserves `K b`, for every recursion budget -/
theorem block (b : Node) : ∀ n : Nat,
    SEspec b n ∧ SIspec b n ∧ CLspec b n ∧ DCspec b n ∧ CAsspec b n ∧ CAspec b n ∧ SCspec b n ∧ MCspec b n := by
  intro n
  induction n with
  | zero =>
    refine ⟨?_, ?_, ?_, ?_, ?_, ?_, ?_, ?_⟩
    · intro x bt h _
      unfold storeEntry
      exact ⟨fuel_out h, fun _ => prog_failed (Node.panic_panicked_ne _ _)⟩
    · intro x bt h _
      cases bt with
      | nil => rw [storeItems_nil]; exact ⟨KS.refl h, fun ⟨q, hq, _⟩ => by cases hq⟩
      | cons q qs =>
        unfold storeItems
        exact ⟨fuel_out h, fun _ => prog_failed (Node.panic_panicked_ne _ _)⟩
    · intro x e c h hc _ _
      unfold changeConfigL
      obtain ⟨ht, _, _⟩ := Entry.config?_facts hc
      have hlog : ((x.appendEntry e).panic "fuel").log.entries = x.log.entries ++ [e] := by
        rw [(q_panic _ _).entries, appendEntry_entries]
      refine ⟨⟨K.of_failed (by rw [(q_panic _ _).nid, (appendEntry_key x e).2.1]; exact h.nid) ?_
        (Node.panic_panicked_ne _ _), fun hp => absurd hp (Node.panic_panicked_ne _ _), [e], hlog⟩, ?_⟩
      · obtain ⟨es, he⟩ := h.ext
        exact ⟨es ++ [e], by rw [hlog, he, List.append_assoc]⟩
      · rw [fc_append h.ext hlog, find?_single_eq ht]
        cases fc b x <;> exact fun hh => by cases hh
    · intro x t c h _ _
      unfold doChangeConfig
      exact ⟨fuel_out h, prog_failed (Node.panic_panicked_ne _ _)⟩
    · intro x t c h _ _
      unfold checkConfigActions
      exact fuel_out h
    · intro x t c id h _ _
      unfold checkConfigAction
      exact fuel_out h
    · intro x i h
      unfold setCommitIndexL
      exact fuel_out h
    · intro x h
      unfold onMajorityCommit
      exact fuel_out h
  | succ n ih =>
    obtain ⟨hSE, hSI, hCL, hDC, hCAs, hCA, hSC, hMC⟩ := ih
    exact ⟨SE_succ hSI hMC, SI_succ hSI hCL, CL_succ hCAs, DC_succ hSE, CAs_succ hDC hCA, CA_succ hDC, SC_succ hCAs,
      MC_succ hSC⟩


theorem storeEntry_k {x : Node} (n : Nat) (bt : List QItem) (h : K b x) (hb : BatchK b x bt) :
    KS b x (storeEntry n x bt) := ((block b n).1 x bt h hb).1

theorem doChangeConfig_k {x : Node} (n t : Nat) (c : Config) (h : K b x) (hall : x.panicked = none → CfgAll c)
    (hadj : x.panicked = none → fc b x = none → C08.AdjacentVoters b.configs.latest c) :
    KS b x (doChangeConfig n x t c) := ((block b n).2.2.2.1 x t c h hall hadj).1

theorem checkConfigActions_k {x : Node} (n t : Nat) (config : Config) (h : K b x)
    (hP : x.panicked = none → PZ config) (hJ : Rel b x config) : KS b x (checkConfigActions n x t config) :=
  (block b n).2.2.2.2.1 x t config h hP hJ

theorem checkConfigActions_latest {x : Node} (n t : Nat) (h : K b x) :
    KS b x (checkConfigActions n x t x.configs.latest) :=
  checkConfigActions_k n t _ h (fun hp => (h.ok hp).latest) (Rel.latest h)

theorem checkConfigAction_latest {x : Node} (n t id : Nat) (h : K b x) :
    KS b x (checkConfigAction n x t x.configs.latest id) :=
  (block b n).2.2.2.2.2.1 x t _ id h (fun hp => (h.ok hp).latest) (Rel.latest h)

theorem onMajorityCommit_k {x : Node} (n : Nat) (h : K b x) : KS b x (onMajorityCommit n x) :=
  (block b n).2.2.2.2.2.2.2 x h

/-- `leader.onChangeConfig` for a submitted configuration with strictly increasing ids and two voters without action -/
theorem onChangeConfig_k {x : Node} (h : K b x) (t : Nat) (c : Config) (hu : UserCfg true x.nid c) :
    KS b x (x.onChangeConfig t c) := by
  have rep : ∀ r, KS b x (x.reply t r) := fun r => KS.quiet h (q_reply _ _ _)
  refine Node.onChangeConfig_cases x t c rep fun ad => ?_
  intro x1
  have hall : CfgAll c := cfgAll_user hu ad.valid
  have hsv : SameVoters c x.configs.latest := validated_sameVoters ad.voters ad.added
  have hJ : Rel b x c := fun hp hf => by rw [← (h.ok hp).keep hf]; exact hsv
  have k1 := checkConfigActions_k (fuelFor 0) t c h (fun _ => Or.inr hall) hJ
  split
  · exact k1.then (fun k => doChangeConfig_k (fuelFor 1) t c k (fun _ => hall)
      (fun hp hf => Deriv.adjacent (Or.inl rfl) ((hJ.grow h k1.2) hp hf)))
  · exact k1

theorem setTerm_obsK (x : Node) (t : Nat) : obsK (x.setTerm t) = obsK x := by
  unfold obsK
  rw [Node.setTerm_shape]

theorem checkQuorum_obsK (x : Node) : obsK x.checkQuorum = obsK x ∧ (x.checkQuorum.panicked = none → x.panicked = none) := by
  refine ⟨by unfold obsK; rw [Node.checkQuorum_shape], ?_⟩
  exact Node.checkQuorum_of (Inv := fun y => y.panicked = none → x.panicked = none)
    (fun _ _ _ hp => absurd hp (Node.panic_panicked_ne _ _)) (fun _ h => h) (fun _ _ h => h) x id

theorem kSide (b : Node) : LeaderSide (K b) where
  panic := fun _ _ h => (ks_panic h _).1
  reply := fun _ _ _ h => (KS.quiet h (q_reply _ _ _)).1
  popOrder := fun _ h => (KS.quiet h (q_popOrder _)).1
  transfer := fun s tr h _ => (KS.quiet h (q_ldr s { s.ldr with transfer := tr } rfl rfl)).1
  report := fun s _ r _ h _ _ _ _ => (KS.quiet h (q_setRepl s r)).1
  stepDown := fun s t h =>
    h.congr ((setTerm_obsK _ _).trans rfl) (MemberCommit.setTerm_pan' ((s.setRole .follower).setLeader 0) t)
  checkQuorum := fun s h => h.congr (checkQuorum_obsK s).1 (checkQuorum_obsK s).2
  checkConfigAction := fun f _ t id h => (checkConfigAction_latest f t id h).1
  checkConfigActions := fun f _ t h => (checkConfigActions_latest f t h).1
  onMajorityCommit := fun f _ h => (onMajorityCommit_k f h).1

/-- claimed while nothing has failed (as `KOK`, without the cache of the leader's own entry) -/
structure KWOK (b s : Node) : Prop where
  ents : ∀ e ∈ s.log.entries, EntOK e
  latest : PZ s.configs.latest
  adj : ∀ e, fc b s = some e → ∃ c, e.config? = some c ∧ C08.AdjacentVoters b.configs.latest c
  keep : fc b s = none → s.configs.latest = b.configs.latest

/-- `K` without the cache: what holds of every state of a step, whatever the role -/
structure KW (b s : Node) : Prop where
  nid : s.nid = b.nid
  ext : ∃ es, s.log.entries = b.log.entries ++ es
  ok : s.panicked = none → KWOK b s

theorem K.toKW {x : Node} (h : K b x) : KW b x :=
  ⟨h.nid, h.ext, fun hp => ⟨(h.ok hp).ents, (h.ok hp).latest, (h.ok hp).adj, (h.ok hp).keep⟩⟩

theorem KW.toK {x : Node} (h : KW b x) (hc : x.panicked = none → x.ldr.node.voter = x.configs.latest.isVoter x.nid) :
    K b x :=
  ⟨h.nid, h.ext, fun hp => ⟨(h.ok hp).ents, (h.ok hp).latest, hc hp, (h.ok hp).adj, (h.ok hp).keep⟩⟩

def obsW (s : Node) : Config × Nat × List Entry := (s.configs.latest, s.nid, s.log.entries)

theorem KW.congr {x y : Node} (h : KW b x) (e : obsW y = obsW x) (hp : y.panicked = none → x.panicked = none) :
    KW b y := by
  unfold obsW at e
  simp only [Prod.mk.injEq] at e
  obtain ⟨e1, e2, e4⟩ := e
  refine ⟨e2.trans h.nid, by rw [e4]; exact h.ext, fun hy => ?_⟩
  have k := h.ok (hp hy)
  exact ⟨by rw [e4]; exact k.ents, by rw [e1]; exact k.latest,
    by rw [fc_congr e4]; exact k.adj, by rw [fc_congr e4, e1]; exact k.keep⟩

/-- closed under the bookkeeping primitives that touch neither the log nor `configs` nor the identity (as
`CfgRel.QClosed`, without `doClose` and the compaction / snapshot primitives `removeLTE`, `publishSnapshot`, `snapResult`:
`LogRel.OpOK` excludes shutdown and the snapshot operations) -/
structure OClosed (Inv : Node → Prop) : Prop where
  panic : ∀ s site, Inv s → Inv (s.panic site)
  reply : ∀ s t r, Inv s → Inv (s.reply t r)
  point : ∀ s n, Inv s → Inv (s.point n)
  ldr : ∀ (s : Node) l, Inv s → Inv (s.withLdr l)
  popOrder : ∀ (s : Node), Inv s → Inv s.popOrder
  rpcReply : ∀ (s : Node) r, Inv s → Inv (s.withRpcReply r)
  ret : ∀ (s : Node) r, Inv s → Inv (s.ret r)
  setRole : ∀ (s : Node) r, Inv s → Inv (s.setRole r)
  setLeader : ∀ (s : Node) l, Inv s → Inv (s.setLeader l)
  setTerm : ∀ (s : Node) t, Inv s → Inv (s.setTerm t)
  setVotedFor : ∀ (s : Node) t c, Inv s → Inv (s.setVotedFor t c)
  votesNeeded : ∀ (s : Node) v, Inv s → Inv (s.withVotesNeeded v)
  candTransfer : ∀ (s : Node) v, Inv s → Inv (s.withCandTransfer v)
  snapPending : ∀ (s : Node) v, Inv s → Inv (s.withSnapPending v)

namespace OClosed
variable {Inv : Node → Prop} (h : OClosed Inv)
include h

/-- the handlers that only move role, term and vote -/
theorem quiet (op : Op) : QuietClosed op Inv where
  panic := h.panic
  setRole := fun s r hs _ => h.setRole s r hs
  setLeader := h.setLeader
  ret := h.ret
  rpcReply := h.rpcReply
  votesNeeded := h.votesNeeded
  candTransfer := h.candTransfer
  setTerm := h.setTerm
  vote := fun s t c hs _ => h.setVotedFor s t c hs
  reply := h.reply
  snapPending := h.snapPending

theorem startElection_o (s : Node) (hs : Inv s) : Inv s.startElection :=
  startElection_of s h.panic h.votesNeeded (fun x hx => h.setVotedFor x _ _ hx) (fun x hx _ => h.setRole x _ hx)
    h.setLeader hs

theorem tryTransfer_o (s : Node) (hs : Inv s) : Inv s.tryTransfer :=
  Node.tryTransfer_ldrT (fun s l hs _ _ _ _ _ _ => h.ldr s l hs) h.panic h.popOrder s hs

theorem onTransfer_o (s : Node) (t g : Nat) (hs : Inv s) : Inv (s.onTransfer t g) := by
  unfold Node.onTransfer
  exact ite_ind (fun _ => h.reply _ _ _ hs) fun _ => h.tryTransfer_o _ (h.ldr _ _ hs)

theorem leaderRelease_o (s : Node) (hs : Inv s) : Inv s.leaderRelease :=
  Node.leaderRelease_of (fun s l hs _ _ _ _ _ _ => h.ldr s l hs) h.reply h.setLeader (fun s hs => h.ldr s _ hs) s hs

theorem releaseRole_o (s : Node) (r : Role) (hs : Inv s) : Inv (s.releaseRole r) :=
  releaseRole_of h.candTransfer h.leaderRelease_o s r hs

theorem onWaitForStable_o (s : Node) (t : Nat) (hs : Inv s) : Inv (s.onWaitForStable t) :=
  onWaitForStable_of h.reply (fun s _ hs => h.ldr s _ hs) s t hs

end OClosed

theorem kwClosed (b : Node) : OClosed (KW b) where
  panic := fun s site h => h.congr (by unfold obsW; rw [Node.panic_shape]) (q_panic s site).pan'
  reply := fun s t r h => h.congr (by unfold obsW; rw [Node.reply_shape]) (q_reply s t r).pan'
  point := fun _ _ h => h.congr rfl id
  ldr := fun _ _ h => h.congr rfl id
  popOrder := fun _ h => h.congr rfl id
  rpcReply := fun _ _ h => h.congr rfl id
  ret := fun _ _ h => h.congr rfl id
  setRole := fun _ _ h => h.congr rfl id
  setLeader := fun _ _ h => h.congr rfl id
  setTerm := fun s t h => h.congr (by unfold obsW; rw [Node.setTerm_shape]) (MemberCommit.setTerm_pan' s t)
  setVotedFor := fun s t c h => h.congr (by unfold obsW; rw [Node.setVotedFor_shape]) (Order.irr_setVotedFor s t c).2
  votesNeeded := fun _ _ h => h.congr rfl id
  candTransfer := fun _ _ h => h.congr rfl id
  snapPending := fun _ _ h => h.congr rfl id

/-- `leader.init`: the caches are set from the latest configuration, then the block runs -/
theorem leaderInit_kw {x : Node} (h : KW b x) : KW b x.leaderInit := by
  unfold Node.leaderInit
  extract_lets x1 x2 x3 x4
  have hq1 : Quiet x x1 := q_assert x _ _
  have h1 : KW b x1 := h.congr (by unfold obsW; rw [hq1.configs, hq1.nid, hq1.entries]) hq1.pan'
  have h2 : K b x2 := (h1.congr (y := x2) rfl id).toK (fun _ => get_voter_eq_isVoter x1.configs.latest x1.nid)
  have hq3 : Quiet x2 x3 := by
    refine q_foldl _ (fun y m => ?_) _ _
    split
    · exact .refl _
    · exact q_addReplication _ _
  have h3 := KS.quiet h2 hq3
  have h4 := checkConfigActions_latest (fuelFor 0) 0 h3.1
  exact (storeEntry_k _ _ h4.1 (.plain _ (fun q hq => by rw [List.mem_singleton.mp hq]; decide))).1.toKW

theorem settle_kw (f : Nat) (x : Node) (cur : Role) (h : KW b x) : KW b (settle f x cur) :=
  settle_of (kwClosed b).releaseRole_o (fun s hs _ => (kwClosed b).startElection_o s hs) (fun _ hs _ => leaderInit_kw hs) f x cur h


/-- **every case of `handle`** other than an append request (the operations of the model with membership changes:
`LogRel.OpOK`, `CfgRel.OpOk`), for a bootstrapped node; a configuration submitted to a leader has strictly increasing
ids and two voters without pending action (`NoPanic.UserCfg true`) -/
theorem handle_kw (b : Node) (op : Op) (hb : KW b b)
    (hcache : b.role = .leader → b.ldr.node.voter = b.configs.latest.isVoter b.nid)
    (hboot : b.configs.isBootstrapped = true) (hok : LogRel.OpOK op) (hcf : CfgRel.OpOk op)
    (happ : ∀ q, op ≠ .append q)
    (hu : ∀ t c, op = .changeConfig t c → b.role = .leader → UserCfg true b.nid c) : KW b (b.handle op) := by
  have O := kwClosed b
  cases handle_kind b op with
  | quiet q => exact q _ (O.quiet op) hb
  | ldr hr c =>
    have hK : K b b := hb.toK (fun _ => hcache hr)
    generalize b.handle op = h at c ⊢
    cases c with
    | store batch => exact (storeEntry_k _ _ hK (.plain _ hcf)).1.toKW
    | change t c => exact (onChangeConfig_k hK t c (hu t c rfl hr)).1.toKW
    | wait t => exact O.onWaitForStable_o _ _ hb
    | transfer t g => exact O.onTransfer_o _ _ _ hb
    | transferTimeout _ => exact ((kSide b).replyTransfer_inv b _ hK).toKW
    | timeoutNowResult a c d _ => exact ((kSide b).onTimeoutNowResult_inv b _ _ _ hK).toKW
    | newTermTimeout _ => exact O.tryTransfer_o _ (O.ldr _ _ hb)
    | repl us =>
      exact ((kSide b).checkReplUpdates_inv b us (fun hf => by rw [replUpdLoop_flag us hok] at hf; cases hf) hK).toKW
  | special sp =>
    cases sp with
    | append q => exact absurd rfl (happ q)
    | bootstrap t c _ hn => rw [hboot] at hn; cases hn
    | _ => exact absurd hok (by simp [LogRel.OpOK])

/-- **what a step that is not an append request writes into the log** (node level; the content part of the side
condition `tree` of Props/C02Member.lean). Let `s` be a bootstrapped node whose configuration entries all carry `CfgAll`
configurations (`EntOK`), whose latest configuration is `CfgAll` or empty, and whose cached own entry is current if it
is leader (`CfgRel.SelfCache`). Let it handle to completion, WITHOUT FAILURE, an operation of the model with membership
changes that is not an append request; a configuration submitted to it as leader has strictly increasing ids and two
voters without pending action (`NoPanic.UserCfg true`). Then
1. the log is the old log plus new entries;
2. every configuration entry of the new log carries a `CfgAll` configuration, and the latest configuration is `CfgAll`
   or empty;
3. THE FIRST configuration entry appended in the step (if any) decodes to a configuration whose voting rights differ
   from those of the latest configuration before the step at one node at most (`C08.AdjacentVoters`);
4. if no configuration entry was appended the latest configuration is unchanged. -/
theorem step_content (s : Node) (op : Op) (ra : List Nat) (ord : List (List Nat))
    (hents : ∀ e ∈ s.log.entries, EntOK e) (hlat : PZ s.configs.latest) (hsc : SelfCache s)
    (hboot : s.configs.isBootstrapped = true) (hok : LogRel.OpOK op) (hcf : CfgRel.OpOk op)
    (happ : ∀ q, op ≠ .append q)
    (hu : ∀ t c, op = .changeConfig t c → s.role = .leader → UserCfg true s.nid c)
    (hp : (s.step op ra ord).panicked = none) :
    (∃ es, (s.step op ra ord).log.entries = s.log.entries ++ es) ∧
    (∀ e ∈ (s.step op ra ord).log.entries, EntOK e) ∧ PZ (s.step op ra ord).configs.latest ∧
    (∀ e, ((s.step op ra ord).log.entries.drop s.log.entries.length).find? (fun x => x.typ == etConfig) = some e →
      ∃ c, e.config? = some c ∧ C08.AdjacentVoters s.configs.latest c) ∧
    (((s.step op ra ord).log.entries.drop s.log.entries.length).find? (fun x => x.typ == etConfig) = none →
      (s.step op ra ord).configs.latest = s.configs.latest) := by
  have hb : KW (s.begin ra ord) (s.begin ra ord) :=
    ⟨rfl, ⟨[], (List.append_nil _).symm⟩, fun _ => ⟨hents, hlat,
      fun e he => (by
        have : fc (s.begin ra ord) (s.begin ra ord) = none := by unfold fc; rw [List.drop_length]; rfl
        rw [this] at he; cases he),
      fun _ => rfl⟩⟩
  have hh := handle_kw (s.begin ra ord) op hb hsc hboot hok hcf happ hu
  have key : KW (s.begin ra ord) (s.step op ra ord) := step_of settle_kw s op ra ord hh
  have k := key.ok hp
  exact ⟨key.ext, k.ents, k.latest, k.adj, k.keep⟩

end MemberGood
end Raft

#print axioms Raft.MemberGood.block
#print axioms Raft.MemberGood.step_content
