import RaftVerif.Lemmas.SegLog
/-!
Helper lemmas for C14 (crash consistency of the segmented log) and `reopen_clean` of C13: what a
reopen makes of a power-loss image of a disk described by `DS`; one lemma per storage step on `DS`;
the scripts of the operations as crash triples `CrashR`, composed phase by phase.
Core Lean only.
-/
namespace Raft.SL


/-- An image file that `openSegment` accepts. -/
def GOK (g : FileImg) : Prop :=
  0 < g.cap ∧ g.hdr ≤ g.units.length ∧ dataSize (g.units.take g.hdr) + 8 * (g.hdr + 2) ≤ g.cap

/-- The segment `openSegment` builds from an accepted file. -/
def imgSeg (qg : Nat × FileImg) : Seg :=
  { prev := qg.1, entries := qg.2.units.take qg.2.hdr, synced := (qg.2.hdr : Int), cap := qg.2.cap }

/-- Older image files (newest first) chained below name `p`. -/
def ImgChain : Nat → Img → Prop
  | _, [] => True
  | p, qg :: rest => qg.1 + qg.2.hdr = p ∧ 0 < qg.2.hdr ∧ GOK qg.2 ∧ ImgChain qg.1 rest

def ImgGood : Img → Prop
  | [] => True
  | qg :: rest => GOK qg.2 ∧ ImgChain qg.1 rest

theorem openSeg_ok {q : Nat} {g : FileImg} (h : GOK g) : openSeg q g = .ok (imgSeg (q, g)) := by
  obtain ⟨h1, h2, h3⟩ := h
  unfold openSeg
  rw [if_neg (by omega), if_pos ⟨h2, h3⟩]
  rfl

theorem imgSeg_n {qg : Nat × FileImg} (h : GOK qg.2) : (imgSeg qg).n = qg.2.hdr := by
  simp [imgSeg, Seg.n]; exact Nat.min_eq_left h.2.1

theorem imgChain_good {p : Nat} {l : Img} (h : ImgChain p l) : ImgGood l := by
  cases l with
  | nil => trivial
  | cons x rest => exact ⟨h.2.2.1, h.2.2.2⟩

theorem imgGood_tail {x : Nat × FileImg} {l : Img} (h : ImgGood (x :: l)) : ImgGood l :=
  imgChain_good h.2

theorem imgGood_suffix {a b : Img} (h : ImgGood (a ++ b)) : ImgGood b := by
  induction a with
  | nil => exact h
  | cons x xs ih => exact ih (imgGood_tail h)

/-- The loop of `openSegments` on files that continue a good chain: every file is connected. -/
theorem reopenLoop_good (todo : Img) :
    ∀ (x : Nat × FileImg) (done : Img), ImgGood (todo.reverse ++ x :: done) →
      ∃ y rest, todo.reverse ++ x :: done = y :: rest ∧
        reopenLoop (imgSeg x) (done.map imgSeg) todo = .ok (imgSeg y, rest.map imgSeg, none) := by
  induction todo with
  | nil => intro x done _; exact ⟨x, done, rfl, rfl⟩
  | cons t ts ih =>
    intro x done hg
    have e : (t :: ts).reverse ++ x :: done = ts.reverse ++ t :: x :: done := by simp
    rw [e] at hg ⊢
    have hs : ImgGood (t :: x :: done) := imgGood_suffix hg
    obtain ⟨g1, c1, c2, c3, _⟩ := hs
    obtain ⟨y, rest, e1, e2⟩ := ih t (x :: done) hg
    refine ⟨y, rest, e1, ?_⟩
    obtain ⟨tq, tg⟩ := t
    have hn : (imgSeg x).n = x.2.hdr := imgSeg_n c3
    have hp : (imgSeg x).prev = x.1 := rfl
    rw [reopenLoop, if_pos ⟨by rw [hn]; exact c2, by unfold Seg.lastIndex; rw [hn, hp]; exact c1.symm⟩,
      openSeg_ok g1]
    exact e2

theorem reopen_nil (ss : Nat) : reopen [] ss = .ok (SegLog.empty ss, [(0, FileImg.fresh ss)]) := by
  simp [reopen]

theorem reopen_good {x : Nat × FileImg} {rest : Img} (h : ImgGood (x :: rest)) (ss : Nat) :
    reopen (x :: rest) ss =
      .ok ({ last := imgSeg x, older := rest.map imgSeg, segmentSize := ss }, x :: rest) := by
  cases himg : (x :: rest).reverse with
  | nil => simp at himg
  | cons f more =>
    have e : x :: rest = more.reverse ++ [f] := by
      have := congrArg List.reverse himg; simpa using this
    have hg : ImgGood (more.reverse ++ f :: []) := by rw [← e]; exact h
    obtain ⟨y, rest', e1, e2⟩ := reopenLoop_good more f [] hg
    have hf : GOK f.2 := (imgGood_suffix hg).1
    unfold reopen
    rw [himg]
    simp only []
    obtain ⟨fq, fg⟩ := f
    rw [openSeg_ok hf]
    simp only [List.map_nil] at e2
    simp only [e2]
    rw [← e] at e1
    cases e1
    rfl


/-- The file `qf` holds segment `x`; its volatile / durable headers are `hv` / `hd`, and the
first `M` units are the same in the durable and the volatile image. -/
structure FR (x : Seg) (qf : Nat × FileSt) (hv hd M : Nat) : Prop where
  name : qf.1 = x.prev
  cap : qf.2.cap = x.cap
  units : qf.2.vunits.take x.n = x.entries
  len : x.n ≤ qf.2.vunits.length
  vh : qf.2.vhdr = hv
  dh : qf.2.dhdr = hd
  clean : qf.2.dunits.take M = qf.2.vunits.take M
  hvM : hv ≤ M
  hdM : hd ≤ M
  Mn : M ≤ x.n

/-- A sealed (fully synced) file. -/
def SR (x : Seg) (qf : Nat × FileSt) : Prop := FR x qf x.n x.n x.n

/-- Sealed files `dr` hold the segments `xs`, pairwise. -/
def SRs : List Seg → Disk → Prop
  | [], [] => True
  | y :: ys, qf :: dr => SR y qf ∧ SRs ys dr
  | _, _ => False

/-- Disk state: the head file holds `x` (headers `hv`/`hd`, clean to `M`), the rest are sealed
files holding `xs`. -/
def DS (x : Seg) (xs : List Seg) (hv hd M : Nat) (d : Disk) : Prop :=
  ∃ qf dr, d = qf :: dr ∧ FR x qf hv hd M ∧ SRs xs dr

/-- Segment `x` cut back to its first `h` entries, as a reopen sees it. -/
def trunc (x : Seg) (h : Nat) : Seg := { x with entries := x.entries.take h, synced := (h : Int) }

theorem trunc_full {x : Seg} (h : x.synced = (x.n : Int)) : trunc x x.n = x := by
  cases x; simp_all [trunc, Seg.n]

theorem take_eq_of_prefix {α} {a b : List α} {h : Nat}
    (hk : ∀ k, k < h → a[k]? = b[k]?) : a.take h = b.take h := by
  apply List.ext_getElem?
  intro k
  rw [List.getElem?_take, List.getElem?_take]
  split
  · rename_i hlt; exact hk k hlt
  · rfl

theorem power_units {f : FileSt} {g : FileImg} {M h : Nat} (hp : f.PowerImg g)
    (hc : f.dunits.take M = f.vunits.take M) (hM : h ≤ M) (hl : M ≤ f.vunits.length) :
    g.units.take h = f.vunits.take h := by
  apply take_eq_of_prefix
  intro k hk
  have hkl : k < f.vunits.length := by omega
  have e1 : f.vunits[k]? = some f.vunits[k] := List.getElem?_eq_getElem hkl
  have e2 : f.dunits[k]? = some f.vunits[k] := by
    have := congrArg (fun l => l[k]?) hc
    simp only [List.getElem?_take] at this
    rw [if_pos (by omega), if_pos (by omega)] at this
    rw [this, e1]
  rw [e1]
  exact hp.2.2 k _ e2 e1

/-- What any power-loss (or kill) image of a file in state `FR` looks like to `openSegment`. -/
theorem fr_image {x : Seg} {qf : Nat × FileSt} {hv hd M : Nat} {g : FileImg}
    (hf : FR x qf hv hd M) (hx : x.size + 8 * (x.n + 2) ≤ x.cap) (hp : qf.2.PowerImg g) :
    ∃ h, (h = hd ∨ h = hv) ∧ g.hdr = h ∧ GOK g ∧ imgSeg (qf.1, g) = trunc x h := by
  have hh : g.hdr ≤ M := by
    rcases hp.2.1 with e | e
    · rw [e, hf.dh]; exact hf.hdM
    · rw [e, hf.vh]; exact hf.hvM
  have hMn := hf.Mn
  have hlen := hf.len
  have hu : g.units.take g.hdr = x.entries.take g.hdr := by
    rw [power_units hp hf.clean hh (by omega), ← hf.units, List.take_take, Nat.min_eq_left (by omega)]
  refine ⟨g.hdr, ?_, rfl, ⟨?_, ?_, ?_⟩, ?_⟩
  · rcases hp.2.1 with e | e
    · left; rw [e, hf.dh]
    · right; rw [e, hf.vh]
  · rw [hp.1, hf.cap]; omega
  · have := congrArg List.length hu
    simp [Seg.n] at this hMn
    omega
  · rw [hu, hp.1, hf.cap]
    have := dataSize_take_le x.entries g.hdr
    simp [Seg.size] at hx
    omega
  · simp [imgSeg, trunc, hu, hp.1, hf.cap, hf.name]

theorem sealed_images {xs : List Seg} : ∀ {p : Nat} {dr : Disk} {ir : Img},
    SRs xs dr → Chain p xs → PowerImg dr ir → ImgChain p ir ∧ ir.map imgSeg = xs := by
  induction xs with
  | nil =>
    intro p dr ir hs _ hp
    cases dr with
    | nil =>
      cases ir with
      | nil => exact ⟨trivial, rfl⟩
      | cons a b => simp [PowerImg] at hp
    | cons a b => simp [SRs] at hs
  | cons y ys ih =>
    intro p dr ir hs hc hp
    cases dr with
    | nil => simp [SRs] at hs
    | cons qf dr' =>
      obtain ⟨hy, hys⟩ := hs
      cases ir with
      | nil => simp [PowerImg] at hp
      | cons a b =>
        obtain ⟨aq, ag⟩ := a
        obtain ⟨qfq, qff⟩ := qf
        obtain ⟨e, hpg, hpr⟩ := hp
        obtain ⟨c1, c2, c3, c4, c5⟩ := hc
        obtain ⟨h, hh, e1, e2, e3⟩ := fr_image hy c4.1 hpg
        have hhn : h = y.n := by rcases hh with r | r <;> exact r
        have hname : qfq = y.prev := hy.name
        subst e
        obtain ⟨i1, i2⟩ := ih (p := y.prev) hys c5 hpr
        refine ⟨⟨?_, ?_, e2, ?_⟩, ?_⟩
        · show qfq + ag.hdr = p; omega
        · show 0 < ag.hdr; omega
        · show ImgChain qfq b; rw [hname]; exact i1
        · simp only [List.map_cons, i2, e3, hhn, trunc_full c3]

/-- Every power-loss image of a disk in state `DS` reopens to the chain `trunc x h :: xs` with `h`
one of the two header values of the head file; the directory is left as it is. -/
theorem ds_reopen {x : Seg} {xs : List Seg} {hv hd M : Nat} {d : Disk} {img : Img}
    (hd' : DS x xs hv hd M d) (hx : x.size + 8 * (x.n + 2) ≤ x.cap) (hc : Chain x.prev xs)
    (hp : PowerImg d img) (ss : Nat) :
    ∃ h, (h = hd ∨ h = hv) ∧ h ≤ x.n ∧
      reopen img ss = .ok ({ last := trunc x h, older := xs, segmentSize := ss }, img) := by
  obtain ⟨qf, dr, rfl, hf, hs⟩ := hd'
  cases img with
  | nil => simp [PowerImg] at hp
  | cons a ir =>
    obtain ⟨aq, ag⟩ := a
    obtain ⟨qfq, qff⟩ := qf
    obtain ⟨e, hpg, hpr⟩ := hp
    subst e
    obtain ⟨h, hh, _, e2, e3⟩ := fr_image hf hx hpg
    have hname : qfq = x.prev := hf.name
    obtain ⟨i1, i2⟩ := sealed_images hs hc hpr
    refine ⟨h, hh, by have := hf.hvM; have := hf.hdM; have := hf.Mn; rcases hh with r | r <;> omega, ?_⟩
    rw [reopen_good ⟨e2, by show ImgChain qfq ir; rw [hname]; exact i1⟩, e3, i2]


theorem upd_head (q : Nat) (f : FileSt → FileSt) (x : FileSt) (rest : Disk) :
    upd q f ((q, x) :: rest) = (q, f x) :: rest := by simp [upd]

theorem srs_mem {xs : List Seg} : ∀ {dr : Disk}, SRs xs dr → ∀ qf ∈ dr, ∃ y ∈ xs, SR y qf := by
  induction xs with
  | nil =>
    intro dr hs qf hq
    cases dr with
    | nil => cases hq
    | cons a b => simp [SRs] at hs
  | cons y ys ih =>
    intro dr hs qf hq
    cases dr with
    | nil => cases hq
    | cons a b =>
      rcases List.mem_cons.1 hq with rfl | hq
      · exact ⟨y, List.mem_cons_self, hs.1⟩
      · obtain ⟨z, hz, h⟩ := ih hs.2 qf hq
        exact ⟨z, List.mem_cons_of_mem _ hz, h⟩

theorem srs_names_lt {xs : List Seg} {p : Nat} {dr : Disk} (hs : SRs xs dr) (hc : Chain p xs) :
    ∀ qf ∈ dr, qf.1 < p := by
  intro qf hq
  obtain ⟨y, hy, h⟩ := srs_mem hs qf hq
  rw [h.name]; exact chain_lt hc y hy

theorem filter_ne_of_lt {dr : Disk} {p : Nat} (h : ∀ qf ∈ dr, qf.1 < p) :
    dr.filter (fun pf => pf.1 != p) = dr := by
  apply List.filter_eq_self.2
  intro qf hq
  have := h qf hq
  simp; omega

theorem DS.head {x : Seg} {xs : List Seg} {hv hd M : Nat} {d : Disk} (h : DS x xs hv hd M d) :
    ∃ f dr, d = (x.prev, f) :: dr ∧ FR x (x.prev, f) hv hd M ∧ SRs xs dr := by
  obtain ⟨⟨q, f⟩, dr, rfl, hf, hs⟩ := h
  have hq : q = x.prev := hf.name
  subst hq
  exact ⟨f, dr, rfl, hf, hs⟩

/-- `store`, `write` and `msync` under the head file's name rewrite the head file and nothing else. -/
theorem ds_upd {x x' : Seg} {xs : List Seg} {hv hd M hv' hd' M' : Nat} {d : Disk} (h : DS x xs hv hd M d)
    (g : FileSt → FileSt) (hg : ∀ {qf}, FR x qf hv hd M → FR x' (qf.1, g qf.2) hv' hd' M') :
    DS x' xs hv' hd' M' (upd x.prev g d) := by
  obtain ⟨f, dr, rfl, hf, hs⟩ := h.head
  exact ⟨_, dr, upd_head _ g f dr, hg hf, hs⟩

theorem ds_msync {x : Seg} {xs : List Seg} {hv hd M : Nat} {d : Disk} (h : DS x xs hv hd M d) :
    DS x xs hv hv x.n (Step.run d (.msync x.prev)) :=
  ds_upd h _ fun hf => ⟨hf.name, hf.cap, hf.units, hf.len, hf.vh, hf.vh, rfl,
    Nat.le_trans hf.hvM hf.Mn, Nat.le_trans hf.hvM hf.Mn, Nat.le_refl _⟩

theorem ds_store {x : Seg} {xs : List Seg} {hv hd M k : Nat} {d : Disk} (h : DS x xs hv hd M d)
    (hk : k ≤ M) : DS x xs k hd M (Step.run d (.store x.prev k)) :=
  ds_upd h _ fun hf => ⟨hf.name, hf.cap, hf.units, hf.len, rfl, hf.dh, hf.clean, hk, hf.hdM, hf.Mn⟩

theorem ds_write {x : Seg} {xs : List Seg} {hv hd M : Nat} {d : Disk} (h : DS x xs hv hd M d)
    (b : Bytes) : DS (x.append b) xs hv hd M (Step.run d (.write x.prev x.n b)) := by
  refine ds_upd h _ fun {qf} hf => ?_
  have hlen : x.n ≤ qf.2.vunits.length := hf.len
  have hMn := hf.Mn
  have hl : (qf.2.vunits.take x.n).length = x.n := by simp; omega
  refine ⟨hf.name, hf.cap, ?_, ?_, hf.vh, hf.dh, ?_, hf.hvM, hf.hdM, ?_⟩
  · show (qf.2.vunits.take x.n ++ [b]).take (x.entries ++ [b]).length = x.entries ++ [b]
    rw [hf.units]; exact List.take_length
  · show (x.entries ++ [b]).length ≤ (qf.2.vunits.take x.n ++ [b]).length
    simp [Seg.n] at *; omega
  · show qf.2.dunits.take M = (qf.2.vunits.take x.n ++ [b]).take M
    rw [List.take_append_of_le_length (by omega), List.take_take, Nat.min_eq_left hMn]
    exact hf.clean
  · show M ≤ (x.entries ++ [b]).length
    simp [Seg.n] at *; omega

/-- Cutting a segment back to `k` entries keeps the file relation if both headers are ≤ k. -/
theorem fr_cut {x : Seg} {qf : Nat × FileSt} {hv hd M k : Nat} (hf : FR x qf hv hd M)
    (hk : k ≤ x.n) (h1 : hv ≤ k) (h2 : hd ≤ k) (sy : Int) :
    FR { x with entries := x.entries.take k, synced := sy } qf hv hd (min M k) := by
  have hlen := hf.len
  have hn : ({ x with entries := x.entries.take k, synced := sy } : Seg).n = k := by
    simp [Seg.n] at *; omega
  refine ⟨hf.name, hf.cap, ?_, ?_, hf.vh, hf.dh, ?_, by have := hf.hvM; omega, by have := hf.hdM; omega, ?_⟩
  · rw [hn]; show _ = x.entries.take k
    rw [← hf.units, List.take_take, Nat.min_eq_left hk]
  · rw [hn]; omega
  · have := congrArg (List.take (min M k)) hf.clean
    simpa [List.take_take, Nat.min_assoc, Nat.min_comm] using this
  · rw [hn]; exact Nat.min_le_right _ _

theorem ds_remove_head {x y : Seg} {ys : List Seg} {hv hd M : Nat} {d : Disk}
    (h : DS x (y :: ys) hv hd M d) (hc : Chain x.prev (y :: ys)) :
    DS y ys y.n y.n y.n (Step.run d (.remove x.prev)) := by
  obtain ⟨f, dr, rfl, hf, hs⟩ := h.head
  cases dr with
  | nil => simp [SRs] at hs
  | cons a b =>
    have hlt := srs_names_lt hs hc
    refine ⟨a, b, ?_, hs.1, hs.2⟩
    have e : Step.run ((x.prev, f) :: a :: b) (.remove x.prev) =
        List.filter (fun pf => pf.1 != x.prev) (a :: b) := by
      simp [Step.run, List.filter_cons]
    rw [e]
    exact filter_ne_of_lt hlt

theorem ds_remove_only {x : Seg} {hv hd M : Nat} {d : Disk} (h : DS x [] hv hd M d) :
    Step.run d (.remove x.prev) = [] := by
  obtain ⟨f, dr, rfl, hf, hs⟩ := h.head
  cases dr with
  | nil => simp [Step.run]
  | cons a b => simp [SRs] at hs


theorem srs_append_single {xs : List Seg} {y : Seg} : ∀ {dr : Disk}, SRs (xs ++ [y]) dr →
    ∃ dr' qy, dr = dr' ++ [qy] ∧ SRs xs dr' ∧ SR y qy := by
  induction xs with
  | nil =>
    intro dr h
    cases dr with
    | nil => simp [SRs] at h
    | cons a b =>
      cases b with
      | nil => exact ⟨[], a, rfl, trivial, h.1⟩
      | cons c e => simp [SRs] at h
  | cons z zs ih =>
    intro dr h
    cases dr with
    | nil => simp [SRs] at h
    | cons a b =>
      obtain ⟨h1, h2⟩ := h
      obtain ⟨dr', qy, e, h3, h4⟩ := ih h2
      exact ⟨a :: dr', qy, by rw [e]; rfl, ⟨h1, h3⟩, h4⟩

theorem srs_names_ge {xs : List Seg} {dr : Disk} {m : Nat} (hs : SRs xs dr) (hm : ∀ z ∈ xs, m ≤ z.prev) :
    ∀ qf ∈ dr, m ≤ qf.1 := by
  intro qf hq
  obtain ⟨y, hy, h⟩ := srs_mem hs qf hq
  rw [h.name]; exact hm y hy

theorem ds_remove_oldest {x y : Seg} {xs : List Seg} {hv hd M : Nat} {d : Disk}
    (h : DS x (xs ++ [y]) hv hd M d) (hc : Chain x.prev (xs ++ [y])) :
    DS x xs hv hd M (Step.run d (.remove y.prev)) := by
  obtain ⟨f, dr, rfl, hf, hs⟩ := h.head
  obtain ⟨dr', qy, rfl, h3, h4⟩ := srs_append_single hs
  obtain ⟨ck, cy⟩ := chain_append hc
  have hylt : y.prev < chainPrev x.prev xs := by
    obtain ⟨c1, c2, _⟩ := cy; omega
  have hge : ∀ z ∈ xs, y.prev + 1 ≤ z.prev := fun z hz => by
    have := chainPrev_le_mem ck z hz; omega
  have hxge : y.prev < x.prev := by have := chainPrev_le ck; omega
  have hnames := srs_names_ge h3 hge
  have hqy : qy.1 = y.prev := h4.name
  refine ⟨(x.prev, f), dr', ?_, hf, h3⟩
  have e1 : List.filter (fun pf : Nat × FileSt => pf.1 != y.prev) dr' = dr' := by
    apply List.filter_eq_self.2
    intro qf hq
    have := hnames qf hq
    simp; omega
  simp only [Step.run, List.filter_cons, List.filter_append, e1]
  have : (x.prev != y.prev) = true := by simp; omega
  simp [this, hqy]

theorem ds_fresh (name size : Nat) (xs : List Seg) (dr : Disk) (hs : SRs xs dr) :
    DS (Seg.fresh name size) xs 0 0 0 ((name, FileSt.zero size) :: dr) := by
  refine ⟨_, dr, rfl, ?_, hs⟩
  exact ⟨rfl, rfl, rfl, by simp [Seg.fresh, Seg.n, FileSt.zero], rfl, rfl, rfl,
    Nat.le_refl _, Nat.le_refl _, Nat.zero_le _⟩

@[simp] theorem run_tmpCreate (d : Disk) (n : Nat) : Step.run d (.tmpCreate n) = d := rfl
@[simp] theorem run_tmpTruncate (d : Disk) (n k : Nat) : Step.run d (.tmpTruncate n k) = d := rfl
@[simp] theorem run_tmpZero16 (d : Disk) (n : Nat) : Step.run d (.tmpZero16 n) = d := rfl
@[simp] theorem run_tmpFsync (d : Disk) (n : Nat) : Step.run d (.tmpFsync n) = d := rfl

/-- `createSegment name` on top of a sealed chain: only the final rename changes the directory. -/
theorem create_top {x : Seg} {xs : List Seg} {d : Disk} (h : DS x xs x.n x.n x.n d)
    (name size : Nat) (hn : x.prev < name) :
    Step.run d (.rename name size) = (name, FileSt.zero size) :: d ∧
    DS (Seg.fresh name size) (x :: xs) 0 0 0 ((name, FileSt.zero size) :: d) := by
  obtain ⟨f, dr, rfl, hf, hs⟩ := h.head
  refine ⟨by simp [Step.run, ins, hn], ?_⟩
  exact ds_fresh name size (x :: xs) _ ⟨hf, hs⟩

theorem create_empty (name size : Nat) :
    Step.run [] (.rename name size) = [(name, FileSt.zero size)] ∧
    DS (Seg.fresh name size) [] 0 0 0 [(name, FileSt.zero size)] :=
  ⟨rfl, ds_fresh name size [] [] trivial⟩

/-- Crash triple: the crash invariant `I` holds of the disk before every step of the script and after
the last one, and `Q` of the disk after the last one.  A crash point is read off with `take`. -/
def CrashR (I : Disk → Prop) : List Step → Disk → (Disk → Prop) → Prop
  | [], d, Q => I d ∧ Q d
  | st :: rest, d, Q => I d ∧ CrashR I rest (st.run d) Q

namespace CrashR
variable {I I' Q Q' R : Disk → Prop} {b : List Step}

theorem start : ∀ {steps : List Step} {d : Disk}, CrashR I steps d Q → I d
  | [], _, h => h.1
  | _ :: _, _, h => h.1

theorem seq : ∀ {a : List Step} {d : Disk}, CrashR I a d R → (∀ d1, I d1 → R d1 → CrashR I b d1 Q) →
    CrashR I (a ++ b) d Q
  | [], d, ha, hb => hb d ha.1 ha.2
  | _ :: _, _, ha, hb => ⟨ha.1, seq ha.2 hb⟩

theorem mono (hi : ∀ d', I d' → I' d') (hq : ∀ d', Q d' → Q' d') :
    ∀ {steps : List Step} {d : Disk}, CrashR I steps d Q → CrashR I' steps d Q'
  | [], _, h => ⟨hi _ h.1, hq _ h.2⟩
  | _ :: _, _, h => ⟨hi _ h.1, mono hi hq h.2⟩

/-- `createSegment` works on a `.tmp` file no reopen looks at: the only crash states it adds are
the directory before and after the final rename. -/
theorem create {d : Disk} {name size : Nat} (hi : I d) (hi' : I (Step.run d (.rename name size)))
    (hq : Q (Step.run d (.rename name size))) : CrashR I (createSteps name size) d Q :=
  ⟨hi, hi, hi, hi, hi, hi', hq⟩

theorem take : ∀ {steps : List Step} {d : Disk} (k : Nat), CrashR I steps d Q →
    I (runSteps d (steps.take k))
  | _, _, 0, h => h.start
  | [], _, _ + 1, h => h.1
  | _ :: _, _, k + 1, h => take k h.2

theorem final : ∀ {steps : List Step} {d : Disk}, CrashR I steps d Q → Q (runSteps d steps)
  | [], _, h => h.2
  | st :: rest, d, h => (final h.2 : Q (runSteps (st.run d) rest))

theorem nil {d : Disk} (hi : I d) (hq : Q d) : CrashR I [] d Q := ⟨hi, hq⟩

theorem cons {st : Step} {steps : List Step} {d : Disk} (hi : I d) (h : CrashR I steps (st.run d) Q) :
    CrashR I (st :: steps) d Q := ⟨hi, h⟩

end CrashR

/-- The entries covered by the last completed sync: everything in the non-last segments and the
first `synced` entries of the last one. -/
def durable (s : SegLog) : AbsLog :=
  { prev := s.prevIndex, entries := absEntries s.older ++ s.last.entries.take s.last.synced.toNat }

def AbsLog.inRange (a : AbsLog) (j : Nat) : Prop := a.prev < j ∧ j ≤ a.lastIndex

/-- C14 per-operation specification of what a reopen after a crash may return (`a`), relative to
the state `s` before the interrupted operation and the abstract log `post` it would have produced:
every entry exposed sits at its index in the pre- or the post-state (nothing invented, nothing
resurrected), and every entry that was durable before and is not removed by the operation is there. -/
def CrashSpec (s : SegLog) (post a : AbsLog) : Prop :=
  (∀ j b, a.get? j = some b → (abs s).get? j = some b ∨ post.get? j = some b) ∧
  (∀ j b, (durable s).get? j = some b → post.get? j = some b → a.get? j = some b)

/-- Window/range form of `CrashSpec`, which is what the case analysis establishes. -/
def WR (s : SegLog) (post a : AbsLog) : Prop :=
  (a.entries = [] ∨ Window a (abs s)) ∧ ∀ j, (durable s).inRange j → post.inRange j → a.inRange j

theorem get?_inRange {a : AbsLog} {j : Nat} {b : Bytes} (h : a.get? j = some b) : a.inRange j := by
  unfold AbsLog.get? at h
  by_cases hj : j > a.prev
  · rw [if_pos hj] at h
    have : j - a.prev - 1 < a.entries.length := by
      apply Classical.byContradiction
      intro hn
      rw [List.getElem?_eq_none (by omega)] at h
      cases h
    exact ⟨hj, by simp [AbsLog.lastIndex]; omega⟩
  · rw [if_neg hj] at h; cases h

theorem inRange_get? {a : AbsLog} {j : Nat} (h : a.inRange j) : ∃ b, a.get? j = some b := by
  obtain ⟨h1, h2⟩ := h
  simp only [AbsLog.lastIndex] at h2
  have hlt : j - a.prev - 1 < a.entries.length := by omega
  exact ⟨a.entries[j - a.prev - 1], by simp [AbsLog.get?, h1, List.getElem?_eq_getElem hlt]⟩

theorem window_get {w a : AbsLog} (hw : Window w a) {j : Nat} {b : Bytes} (h : w.get? j = some b) :
    a.get? j = some b := by
  obtain ⟨A, T, e, ep⟩ := hw
  obtain ⟨h1, h2⟩ := get?_inRange h
  simp only [AbsLog.lastIndex] at h2
  unfold AbsLog.get? at h ⊢
  rw [if_pos h1] at h
  rw [if_pos (by omega), e]
  have hlt : j - w.prev - 1 < w.entries.length := by omega
  have e1 : j - a.prev - 1 = A.length + (j - w.prev - 1) := by omega
  rw [e1, List.append_assoc, List.getElem?_append_right (by omega)]
  simp only [Nat.add_sub_cancel_left]
  rw [List.getElem?_append_left hlt]
  exact h

theorem durable_window (s : SegLog) : Window (durable s) (abs s) := by
  refine ⟨[], s.last.entries.drop s.last.synced.toNat, ?_, by simp [durable, abs_prev]⟩
  simp [durable, abs_eq]

theorem wr_spec {s : SegLog} {post a : AbsLog} (hw : WR s post a) : CrashSpec s post a := by
  obtain ⟨hw1, hw2⟩ := hw
  have hne : ∀ j, a.inRange j → Window a (abs s) := by
    intro j hj
    rcases hw1 with e | w
    · exfalso; obtain ⟨h1, h2⟩ := hj; simp [AbsLog.lastIndex, e] at h2; omega
    · exact w
  constructor
  · intro j b hb
    left
    exact window_get (hne j (get?_inRange hb)) hb
  · intro j b hd hp
    have hr := hw2 j (get?_inRange hd) (get?_inRange hp)
    obtain ⟨b', hb'⟩ := inRange_get? hr
    have e1 := window_get (hne j hr) hb'
    have e2 := window_get (durable_window s) hd
    rw [e1] at e2
    cases e2
    exact hb'

/-- A disk state whose every image reopens to a described sub-chain satisfying the specification. -/
def GoodDS (s : SegLog) (post : AbsLog) (d' : Disk) : Prop :=
  ∃ x ys hv hd M, DS x ys hv hd M d' ∧ x.size + 8 * (x.n + 2) ≤ x.cap ∧ Chain x.prev ys ∧
    ∀ h, (h = hd ∨ h = hv) → WR s post ⟨chainPrev x.prev ys, absEntries ys ++ x.entries.take h⟩

def CrashState (s : SegLog) (post : AbsLog) (d' : Disk) : Prop :=
  (d' = [] ∧ WR s post ⟨0, []⟩) ∨ GoodDS s post d'

theorem trunc_ok {x : Seg} {h : Nat} (hx : x.size + 8 * (x.n + 2) ≤ x.cap) (hh : h ≤ x.n) :
    SegOK (trunc x h) := by
  have := dataSize_take_le x.entries h
  simp [SegOK, trunc, Seg.size, Seg.n] at *
  omega

theorem powerImg_nil {img : Img} (h : PowerImg [] img) : img = [] := by
  cases img with
  | nil => rfl
  | cons a b => simp [PowerImg] at h

/-- Every power-loss image of a crash state reopens, to an `Inv` log meeting the
crash specification, and the directory is unchanged except that an empty one gets `0.log`. -/
theorem crashState_reopen {s : SegLog} {post : AbsLog} {d' : Disk}
    (hc : CrashState s post d') {img : Img} (hp : PowerImg d' img)
    {ss : Nat} (hss : 1024 ≤ ss) :
    ∃ s'' img', reopen img ss = .ok (s'', img') ∧ Inv s'' ∧ CrashSpec s post (abs s'') := by
  rcases hc with ⟨rfl, hw⟩ | ⟨x, ys, hv, hd, M, hds, hx, hch, hw⟩
  · rw [powerImg_nil hp, reopen_nil]
    refine ⟨_, _, rfl, ⟨fresh_ok (by omega), trivial, hss⟩, ?_⟩
    exact wr_spec hw
  · obtain ⟨hh, hh1, hh2, e⟩ := ds_reopen hds hx hch hp ss
    refine ⟨_, _, e, ⟨trunc_ok hx hh2, hch, hss⟩, ?_⟩
    have := wr_spec (hw hh hh1)
    simpa [abs_eq, trunc] using this


theorem subchain_facts {s : SegLog} (h : Inv s) {pre : List Seg} {x : Seg} {rest : List Seg}
    (hsegs : s.segs = pre ++ x :: rest) :
    SegOK x ∧ Chain x.prev rest ∧ s.prevIndex = chainPrev x.prev rest ∧ x.prev + x.n ≤ s.lastIndex ∧
    absEntries s.segs = absEntries rest ++ x.entries ++ absEntries pre := by
  have habs : absEntries s.segs = absEntries rest ++ x.entries ++ absEntries pre := by
    rw [hsegs, absEntries_append]; rfl
  cases pre with
  | nil =>
    simp only [SegLog.segs, List.nil_append, List.cons.injEq] at hsegs
    obtain ⟨e1, e2⟩ := hsegs
    refine ⟨e1 ▸ h.1, by rw [← e1, ← e2]; exact h.2.1, by rw [prevIndex_eq, e1, e2], ?_, habs⟩
    rw [← e1]; simp [SegLog.lastIndex, Seg.lastIndex]
  | cons p0 pre' =>
    simp only [SegLog.segs, List.cons_append, List.cons.injEq] at hsegs
    obtain ⟨e1, e2⟩ := hsegs
    have hc := h.2.1
    rw [e2] at hc
    obtain ⟨ck, cx⟩ := chain_append hc
    obtain ⟨c1, _, _, c4, c5⟩ := cx
    have hle := chainPrev_le ck
    refine ⟨c4, c5, ?_, ?_, habs⟩
    · rw [prevIndex_eq, e2, chainPrev_append]; rfl
    · simp [SegLog.lastIndex, Seg.lastIndex]; omega

theorem window_sub {s : SegLog} (h : Inv s) {pre : List Seg} {x : Seg} {ys post' : List Seg}
    (hsegs : s.segs = pre ++ x :: (ys ++ post')) (k : Nat) :
    Window ⟨chainPrev x.prev ys, absEntries ys ++ x.entries.take k⟩ (abs s) ∧
    Chain x.prev ys ∧ SegOK x ∧ chainPrev x.prev ys + (absEntries ys).length = x.prev ∧
    s.prevIndex + (absEntries post').length = chainPrev x.prev ys ∧ x.prev + x.n ≤ s.lastIndex := by
  obtain ⟨f1, f2, f3, f4, f5⟩ := subchain_facts h hsegs
  obtain ⟨cy, cp⟩ := chain_append f2
  have l1 := chain_len cy
  have l2 := chain_len cp
  rw [chainPrev_append] at f3
  refine ⟨⟨absEntries post', x.entries.drop k ++ absEntries pre, ?_, ?_⟩, cy, f1, l1, by omega, f4⟩
  · show (abs s).entries = _
    simp only [abs, f5, absEntries_append, List.append_assoc]
    congr 2
    rw [← List.append_assoc, List.take_append_drop]
  · show chainPrev x.prev ys = (abs s).prev + _
    rw [abs_prev]; omega


/-- The directory `d` represents the in-memory log `s` (at an operation boundary). -/
def Rep (s : SegLog) (d : Disk) : Prop :=
  ∃ c : Nat, s.last.synced = (c : Int) ∧ DS s.last s.older c c c d

theorem ds_congr {x x' : Seg} {ys : List Seg} {hv hd M : Nat} {d : Disk} (h : DS x ys hv hd M d)
    (e1 : x'.prev = x.prev) (e2 : x'.entries = x.entries) (e3 : x'.cap = x.cap) :
    DS x' ys hv hd M d := by
  obtain ⟨qf, dr, rfl, hf, hs⟩ := h
  have en : x'.n = x.n := by simp [Seg.n, e2]
  exact ⟨qf, dr, rfl, ⟨by rw [e1]; exact hf.name, by rw [e3]; exact hf.cap, by rw [en, e2]; exact hf.units,
    by rw [en]; exact hf.len, hf.vh, hf.dh, hf.clean, hf.hvM, hf.hdM, by rw [en]; exact hf.Mn⟩, hs⟩

theorem ds_sync {x : Seg} {ys : List Seg} {hv hd M : Nat} {d : Disk} (h : DS x ys hv hd M d) :
    DS x.sync ys hv hd M d :=
  ds_congr h (sync_prev x) (sync_entries x) (sync_cap x)

theorem durable_range {s : SegLog} (h : Inv s) {j : Nat} (hj : (durable s).inRange j) :
    s.prevIndex < j ∧ j ≤ s.last.prev + s.last.synced.toNat := by
  obtain ⟨h1, h2⟩ := hj
  have hl := chain_len h.2.1
  have h3 := h.1.2.2
  have h4 := h.1.2.1
  simp only [durable, AbsLog.lastIndex, List.length_append, List.length_take, prevIndex_eq] at h1 h2 ⊢
  simp only [Seg.n] at h3
  omega

/-- The disk holds `x :: ys`, and both header values of the head file satisfy `φ`. -/
def Hdr (x : Seg) (ys : List Seg) (φ : Nat → Prop) (d : Disk) : Prop :=
  ∃ hv hd M, DS x ys hv hd M d ∧ φ hd ∧ φ hv

theorem Hdr.of {x : Seg} {ys : List Seg} {φ : Nat → Prop} {d : Disk} {hv hd M : Nat}
    (h : DS x ys hv hd M d) (h1 : φ hd) (h2 : φ hv) : Hdr x ys φ d := ⟨hv, hd, M, h, h1, h2⟩

/-- Every entry that is durable in `s` and kept by the operation lies in `(lo, hi]`. -/
def Cover (s : SegLog) (post : AbsLog) (lo hi : Nat) : Prop :=
  ∀ j, (durable s).inRange j → post.inRange j → lo < j ∧ j ≤ hi

theorem cover_of {s : SegLog} (h : Inv s) {post : AbsLog} {lo hi : Nat}
    (hlo : lo ≤ s.prevIndex ∨ lo ≤ post.prev)
    (hhi : s.last.prev + s.last.synced.toNat ≤ hi ∨ post.lastIndex ≤ hi) : Cover s post lo hi := by
  intro j hj hp
  obtain ⟨r1, r2⟩ := durable_range h hj
  obtain ⟨q1, q2⟩ := hp
  constructor
  · rcases hlo with r | r <;> omega
  · rcases hhi with r | r <;> omega

/-- A disk state holding a sub-chain `x :: ys` of a log `s0` with the abstract contents of `s`, the head cut
back to any header value it may show, meets the specification if what must survive lies inside it. -/
theorem Hdr.good {x : Seg} {ys : List Seg} {φ : Nat → Prop} {d' : Disk} (hd : Hdr x ys φ d')
    {s s0 : SegLog} (h0 : Inv s0) (habs : abs s0 = abs s) {post : AbsLog}
    {pre : List Seg} {x0 : Seg} {post' : List Seg} (hsegs : s0.segs = pre ++ x0 :: (ys ++ post'))
    (hxp : x.prev = x0.prev) (hxs : x.size + 8 * (x.n + 2) ≤ x.cap)
    (hφ : ∀ k, φ k → x.entries.take k = x0.entries.take k ∧ k ≤ x0.n ∧
      Cover s post (chainPrev x0.prev ys) (x0.prev + k)) : GoodDS s post d' := by
  obtain ⟨hv, hd, M, hds, p1, p2⟩ := hd
  refine ⟨x, ys, hv, hd, M, hds, hxs, ?_, ?_⟩
  · rw [hxp]; exact (window_sub h0 hsegs 0).2.1
  · intro k hk
    obtain ⟨e1, e2, e3⟩ := hφ k (by rcases hk with rfl | rfl <;> assumption)
    obtain ⟨w1, _, _, w4, _, _⟩ := window_sub h0 hsegs k
    rw [hxp, e1]
    rw [habs] at w1
    refine ⟨Or.inr w1, fun j hj hp => ⟨(e3 j hj hp).1, ?_⟩⟩
    have := (e3 j hj hp).2
    simp only [AbsLog.lastIndex, List.length_append, List.length_take]
    simp only [Seg.n] at e2
    omega

/-- The usual case: the head file holds (an extension of) `s.last`, on top of a suffix-free part
`ys` of `s.older`. -/
theorem Hdr.good_last {x : Seg} {ys : List Seg} {φ : Nat → Prop} {d' : Disk} (hd : Hdr x ys φ d')
    {s : SegLog} (h : Inv s) {post : AbsLog} {post' : List Seg}
    (hold : s.older = ys ++ post') (hxp : x.prev = s.last.prev)
    (hxs : x.size + 8 * (x.n + 2) ≤ x.cap)
    (hφ : ∀ k, φ k → x.entries.take k = s.last.entries.take k ∧ k ≤ s.last.n ∧
      Cover s post (chainPrev s.last.prev ys) (s.last.prev + k)) : GoodDS s post d' :=
  hd.good h rfl (pre := []) (post' := post') (by simp [SegLog.segs, hold]) hxp hxs hφ

theorem commitSteps_inv {s : SegLog} (h : Inv s) (n' : Nat) :
    (commitSteps n' s.segs = [] ∧ s.commitN n' = s) ∨
    (commitSteps n' s.segs = s.last.syncSteps ∧ s.commitN n' = { s with last := s.last.sync }) := by
  unfold SegLog.commitN
  simp only [SegLog.segs, commitSteps]
  rw [chain_head_clean h.2.1, chain_commitSteps h.2.1]
  by_cases hd : s.last.dirty = true
  · by_cases hge : s.last.prev ≥ n'
    · left; simp [hd, hge]
    · right; simp [hd, hge]
  · left; simp [hd]

theorem commitSteps_commit {s : SegLog} (h : Inv s) :
    commitSteps s.lastIndex s.segs = s.last.syncSteps := by
  simp only [SegLog.segs, commitSteps]
  rw [chain_commitSteps h.2.1]
  by_cases hd : s.last.dirty = true
  · have hn : ¬ s.last.prev ≥ s.lastIndex := by
      intro hge
      simp [SegLog.lastIndex, Seg.lastIndex] at hge
      have := h.1.2.1
      simp [Seg.dirty] at hd
      omega
    simp [hd, hn]
  · simp [hd, Seg.syncSteps]

theorem rep_sync {s : SegLog} {d : Disk}
    (hds : DS s.last s.older s.last.n s.last.n s.last.n d) (hsy : s.last.synced ≤ (s.last.n : Int)) :
    Rep { s with last := s.last.sync } d :=
  ⟨s.last.n, by simpa using sync_synced hsy, by simpa using ds_sync hds⟩

theorem dropOld_names (i : Nat) (older : List Seg) :
    ∃ rd : List Seg, older = dropOld i older ++ rd.reverse ∧ dropOldNames i older = rd.map (·.prev) := by
  induction older with
  | nil => exact ⟨[], rfl, rfl⟩
  | cons s rest ih =>
    obtain ⟨rd, e1, e2⟩ := ih
    unfold dropOld dropOldNames
    generalize hk : dropOld i rest = kept at e1
    cases kept with
    | nil =>
      simp only [List.nil_append] at e1
      by_cases hc : s.n > 0 ∧ s.lastIndex ≤ i
      · refine ⟨rd ++ [s], ?_, ?_⟩
        · simp [hc, e1]
        · simp [hc, e2]
      · refine ⟨rd, ?_, ?_⟩
        · simp [hc, e1]
        · simp [hc, e2]
    | cons o os =>
      refine ⟨rd, ?_, ?_⟩
      · simp only [List.cons_append]; rw [← List.cons_append, ← e1]
      · simp [e2]

theorem inRange_empty {a : AbsLog} (h : a.entries = []) (j : Nat) : ¬ a.inRange j := by
  rintro ⟨h1, h2⟩
  simp [AbsLog.lastIndex, h] at h2
  omega

theorem wr_empty {s : SegLog} {post a : AbsLog} (hp : post.entries = []) (ha : a.entries = []) :
    WR s post a :=
  ⟨Or.inl ha, fun j _ hj => absurd hj (inRange_empty hp j)⟩

theorem fresh_only_good (s : SegLog) {post : AbsLog} (hp : post.entries = []) {name size : Nat}
    (hsz : 16 ≤ size) {x : Seg} {d' : Disk} (hx : x = Seg.fresh name size)
    (hds : DS x [] 0 0 0 d') : GoodDS s post d' := by
  subst hx
  refine ⟨_, [], 0, 0, 0, hds, (fresh_ok hsz).1, trivial, ?_⟩
  intro k _
  exact wr_empty hp (by simp [absEntries, Seg.fresh])

theorem resetRemove_sealed {p : Nat} {older : List Seg} (h : Chain p older) :
    resetRemoveSteps older = ((older.reverse).map (·.prev)).map Step.remove := by
  induction older generalizing p with
  | nil => rfl
  | cons a rest ih =>
    obtain ⟨_, _, c3, _, c5⟩ := h
    have : a.syncSteps = [] := by simp [Seg.syncSteps, Seg.dirty, c3]
    simp [resetRemoveSteps, ih c5, this]

theorem removeGTE_range {a : AbsLog} {i j : Nat} (h : (a.removeGTE i).inRange j) :
    a.prev < j ∧ j + 1 ≤ i ∧ j ≤ a.lastIndex ∧ ¬ i ≤ a.prev := by
  unfold AbsLog.removeGTE at h
  by_cases hi : i ≤ a.prev
  · rw [if_pos hi] at h
    exact absurd h (inRange_empty rfl j)
  · rw [if_neg hi] at h
    obtain ⟨h1, h2⟩ := h
    simp only [AbsLog.lastIndex, List.length_take] at h2 ⊢
    simp only [] at h1
    omega

theorem removeGTE_eq_lt {x : Seg} {i : Nat} (h : i - x.prev - 1 < x.n) :
    x.removeGTE i = { x with entries := x.entries.take (i - x.prev - 1), synced := ((i - x.prev - 1 : Nat) : Int) } := by
  unfold Seg.removeGTE
  rw [if_pos h]
  have hn : ({ x with entries := x.entries.take (i - x.prev - 1), synced := -1 } : Seg).n = i - x.prev - 1 := by
    simp [Seg.n] at h ⊢; omega
  unfold Seg.sync Seg.dirty
  rw [hn]
  simp
  omega

theorem removeGTE_eq_ge {x : Seg} {i : Nat} (h : ¬ i - x.prev - 1 < x.n) (hsy : x.synced = (x.n : Int)) :
    x.removeGTE i = x := by
  unfold Seg.removeGTE
  rw [if_neg h]
  exact sync_id hsy

theorem syncSteps_clean {x : Seg} (hsy : x.synced = (x.n : Int)) : x.syncSteps = [] := by
  simp [Seg.syncSteps, Seg.dirty, hsy]

theorem sync_phase {x : Seg} {ys : List Seg} {c : Nat} {d : Disk} (hds : DS x ys c c c d)
    (hsy : x.synced = (c : Int)) (hcn : c ≤ x.n) :
    CrashR (Hdr x ys fun k => k = c ∨ k = x.n) x.syncSteps d (DS x ys x.n x.n x.n) := by
  unfold Seg.syncSteps
  by_cases hdirty : x.dirty = true
  · rw [if_pos hdirty]
    have s1 := ds_msync hds
    have s2 := ds_store s1 (Nat.le_refl x.n)
    have s3 := ds_msync s2
    exact .cons (.of hds (.inl rfl) (.inl rfl)) (.cons (.of s1 (.inl rfl) (.inl rfl))
      (.cons (.of s2 (.inl rfl) (.inr rfl)) (.nil (.of s3 (.inr rfl) (.inr rfl)) s3)))
  · rw [if_neg hdirty]
    have hc : c = x.n := by simp [Seg.dirty, hsy] at hdirty; omega
    exact .nil (.of hds (.inl rfl) (.inl rfl)) (hc ▸ hds)

theorem sync_phase_good {s : SegLog} (h : Inv s) {d : Disk} (hr : Rep s d) (post : AbsLog) :
    CrashR (GoodDS s post) s.last.syncSteps d (DS s.last s.older s.last.n s.last.n s.last.n) := by
  obtain ⟨c, hc, hds⟩ := hr
  have hcn : c ≤ s.last.n := by have := h.1.2.2; omega
  refine (sync_phase hds hc hcn).mono (fun d' hd => ?_) fun _ => id
  refine hd.good_last h (post' := []) (by simp) rfl h.1.1 fun k hk => ⟨rfl, by omega, ?_⟩
  exact cover_of h (.inl (by rw [prevIndex_eq]; exact Nat.le_refl _)) (.inl (by rw [hc]; simp; omega))

theorem rep_good {s : SegLog} {d : Disk} (h : Inv s) (hr : Rep s d) (post : AbsLog) : GoodDS s post d :=
  (sync_phase_good h hr post).start

theorem commit_crash {s : SegLog} {d : Disk} (h : Inv s) (hr : Rep s d) (post : AbsLog) :
    CrashR (GoodDS s post) (commitSteps s.lastIndex s.segs) d
      (DS s.last s.older s.last.n s.last.n s.last.n) := by
  rw [commitSteps_commit h]; exact sync_phase_good h hr post

theorem rep_commit {s : SegLog} {d : Disk} (h : Inv s)
    (hds : DS s.last s.older s.last.n s.last.n s.last.n d) : Rep s.commit d := by
  rw [commit_eq h]; exact rep_sync hds h.1.2.2

/-- `createSegment name` on top of a sealed chain, as a triple. -/
theorem create_top_phase {I : Disk → Prop} {x : Seg} {xs : List Seg} {d : Disk}
    (h : DS x xs x.n x.n x.n d) {name size : Nat} (hn : x.prev < name) (hi : I d)
    (hI : ∀ d', DS (Seg.fresh name size) (x :: xs) 0 0 0 d' → I d') :
    CrashR I (createSteps name size) d (DS (Seg.fresh name size) (x :: xs) 0 0 0) := by
  obtain ⟨t1, t5⟩ := create_top h name size hn
  exact .create hi (hI _ (t1 ▸ t5)) (t1 ▸ t5)

/-- Removing the oldest files `rd` (oldest first) below `kept`: a crash sees `kept ++ mid` for some
split `mid ++ post'` of what was to be removed. -/
theorem remove_oldest_phase {x : Seg} {kept : List Seg} {hv hd M : Nat} :
    ∀ (rd : List Seg) {d : Disk}, DS x (kept ++ rd.reverse) hv hd M d → Chain x.prev (kept ++ rd.reverse) →
      CrashR (fun d' => ∃ mid post', kept ++ rd.reverse = (kept ++ mid) ++ post' ∧ DS x (kept ++ mid) hv hd M d')
        ((rd.map (·.prev)).map Step.remove) d (DS x kept hv hd M) := by
  intro rd
  induction rd with
  | nil => intro d hds _; exact .nil ⟨[], [], by simp, by simpa using hds⟩ (by simpa using hds)
  | cons y rd' ih =>
    intro d hds hc
    have e : kept ++ (y :: rd').reverse = (kept ++ rd'.reverse) ++ [y] := by simp
    rw [e] at hds hc ⊢
    refine .cons ⟨rd'.reverse ++ [y], [], by simp, by simpa using hds⟩
      ((ih (ds_remove_oldest hds hc) (chain_append hc).1).mono ?_ fun _ => id)
    rintro d' ⟨mid, post', e', hm⟩
    exact ⟨mid, post' ++ [y], by rw [e']; simp, hm⟩

/-- A fresh (or freshly appended-to, not yet synced) segment on top of the fully synced old chain:
a reopen sees exactly the old log (`Hdr.good` on the log with the new segment on top). -/
theorem fresh_top_good {s : SegLog} (h : Inv s) (hn : 0 < s.last.n) (post : AbsLog) {x : Seg}
    {d' : Disk} (hx : x.prev = s.lastIndex) (hsz : x.size + 8 * (x.n + 2) ≤ x.cap)
    (hds : DS x (s.last.sync :: s.older) 0 0 0 d') : GoodDS s post d' := by
  have h0 : Inv ⟨Seg.fresh s.lastIndex s.segmentSize, s.last.sync :: s.older, s.segmentSize⟩ :=
    ⟨fresh_ok (by have := h.2.2; omega), ⟨by simp [SegLog.lastIndex, Seg.lastIndex, Seg.fresh], by simpa using hn,
      by rw [sync_synced h.1.2.2]; simp, sync_ok h.1, by simpa using h.2.1⟩, h.2.2⟩
  refine (Hdr.of hds rfl rfl : Hdr x _ (· = 0) _).good h0 (by simp [abs_eq, chainPrev, absEntries, Seg.fresh])
    (pre := []) (x0 := Seg.fresh s.lastIndex s.segmentSize) (post' := []) (by simp [SegLog.segs]) hx hsz ?_
  rintro k rfl
  refine ⟨by simp, Nat.zero_le _, cover_of h (.inl ?_) (.inl ?_)⟩
  · simp [chainPrev, prevIndex_eq]
  · have := h.1.2.2; simp [Seg.fresh, SegLog.lastIndex, Seg.lastIndex]; omega


theorem append_crash {s : SegLog} {d : Disk} (h : Inv s) (hr : Rep s d) (b : Bytes) (post : AbsLog) :
    CrashR (CrashState s post) (script s (.append b)) d (Rep (s.run [.append b])) := by
  simp only [script, SegLog.run, SegLog.apply, SegLog.append]
  by_cases hav : s.last.available < (b.length : Int)
  · by_cases hn : s.last.n = 0
    · simp only [hav, hn, if_true]
      exact .nil (.inr (rep_good h hr post)) hr
    · simp only [hav, hn, if_true, if_false]
      generalize hss : (if b.length + 24 > s.segmentSize then b.length + 24 else s.segmentSize) = ss'
      have hssb : b.length + 24 ≤ ss' := by rw [← hss]; split <;> omega
      have hfz := fresh_ok (p := s.lastIndex) (cap := ss') (by omega)
      have hfa : SegOK ((Seg.fresh s.lastIndex ss').append b) := by
        apply append_ok hfz
        simp [Seg.available, Seg.slotAt, Seg.fresh, Seg.size, Seg.n, dataSize]; omega
      have top : ∀ {x : Seg} {d' : Disk}, x.prev = s.lastIndex → SegOK x →
          DS x (s.last.sync :: s.older) 0 0 0 d' → CrashState s post d' :=
        fun hx ok hds => .inr (fresh_top_good h (by omega) post hx ok.1 hds)
      -- commit; createSegment on top of the sealed chain; the write into the new file
      refine .seq (R := DS (Seg.fresh s.lastIndex ss') (s.last.sync :: s.older) 0 0 0)
        (.seq ((commit_crash h hr post).mono (fun _ => .inr) fun _ => id) fun d1 i1 c2 => ?_)
        fun d2 i2 t5 => ?_
      · exact create_top_phase (x := s.last.sync) (by simpa using ds_sync c2)
          (by simp [SegLog.lastIndex, Seg.lastIndex]; omega) i1 fun _ => top rfl hfz
      · have hw := ds_write t5 b
        refine .cons i2 (.nil (top rfl hfa hw) ⟨0, by simp [Seg.append, Seg.fresh], ?_⟩)
        rw [commit_eq h]
        simpa [Seg.fresh, Seg.n, SegLog.lastIndex, Seg.lastIndex] using hw
  · simp only [hav, if_false]
    obtain ⟨c, hc, hds⟩ := hr
    have hw := ds_write hds b
    have hcn : c ≤ s.last.n := by have := h.1.2.2; omega
    refine .cons (.inr (rep_good h ⟨c, hc, hds⟩ post)) (.nil (.inr ?_) ⟨c, hc, hw⟩)
    refine (Hdr.of hw rfl rfl : Hdr (s.last.append b) s.older (· = c) _).good_last h (post' := []) (by simp) rfl
      (append_ok h.1 (by omega)).1 ?_
    rintro k rfl
    refine ⟨?_, hcn, cover_of h (.inl (by rw [prevIndex_eq]; exact Nat.le_refl _)) (.inl (by rw [hc]; simp))⟩
    simp only [Seg.append]
    rw [List.take_append_of_le_length (by simp [Seg.n] at hcn; omega)]

theorem removeLTE_crash {s : SegLog} {d : Disk} (h : Inv s) (hr : Rep s d) (i : Nat) :
    CrashR (CrashState s (abs (s.removeLTE i))) (script s (.removeLTE i)) d (Rep (s.removeLTE i)) := by
  have hce := commit_eq h
  obtain ⟨rd, e1, e2⟩ := dropOld_names i s.older
  generalize hk : dropOld i s.older = kept at e1
  have hR : s.removeLTE i = { last := s.last.sync, older := kept, segmentSize := s.segmentSize } := by
    simp [SegLog.removeLTE, hce, hk]
  have hch : Chain s.last.prev (kept ++ rd.reverse) := e1 ▸ h.2.1
  simp only [script, hce, e2]
  refine .seq ((commit_crash h hr _).mono (fun _ => .inr) fun _ => id) fun d1 _ c2 => ?_
  refine (remove_oldest_phase rd (e1 ▸ c2) hch).mono ?_ fun d' p2 => ?_
  · rintro d' ⟨mid, post', e, hm⟩
    refine .inr ((Hdr.of hm rfl rfl : Hdr s.last _ (· = s.last.n) _).good_last h (e1.trans e) rfl h.1.1 ?_)
    rintro k rfl
    refine ⟨rfl, Nat.le_refl _, cover_of h (.inr ?_) (.inl (by have := h.1.2.2; omega))⟩
    -- what is still on disk reaches at least as far down as what the operation keeps
    rw [abs_prev, hR, prevIndex_eq, chainPrev_append]
    simpa using chainPrev_le (chain_append (chain_append (e ▸ hch)).1).2
  · rw [hR]; exact ⟨s.last.n, by simpa using sync_synced h.1.2.2, by simpa using ds_sync p2⟩

theorem reset_crash {s : SegLog} {d : Disk} (h : Inv s) (hr : Rep s d) (j : Nat) :
    CrashR (CrashState s (abs (s.reset j))) (script s (.reset j)) d (Rep (s.reset j)) := by
  have hpost : (abs (s.reset j)).entries = [] := by
    simp [abs, SegLog.reset, SegLog.segs, absEntries, Seg.fresh]
  obtain ⟨c, hc, hds⟩ := hr
  have hcn : c ≤ s.last.n := by have := h.1.2.2; omega
  have e0 : s.older = [] ++ (s.older.reverse).reverse := by simp
  -- nothing has to survive, so any disk still holding `s.last` on top of part of the older files will do
  have good : ∀ {ys post' : List Seg} {φ : Nat → Prop} {d' : Disk}, s.older = ys ++ post' →
      Hdr s.last ys φ d' → (∀ k, φ k → k ≤ s.last.n) → CrashState s (abs (s.reset j)) d' :=
    fun e hd hk => .inr (hd.good_last h e rfl h.1.1 fun k hφ =>
      ⟨rfl, hk k hφ, fun j' _ hp => absurd hp (inRange_empty hpost j')⟩)
  have gone : CrashState s (abs (s.reset j)) [] := .inl ⟨rfl, wr_empty hpost rfl⟩
  simp only [script, SegLog.segs, resetRemoveSteps, resetRemove_sealed h.2.1]
  refine .seq (R := (· = [])) (.seq (R := DS s.last [] s.last.n s.last.n s.last.n)
    (.seq (R := DS s.last [] c c c) ?_ fun d1 _ p2 => ?_) fun d2 i2 q2 => ?_) fun d3 _ e3 => ?_
  · refine (remove_oldest_phase (kept := []) s.older.reverse (e0 ▸ hds) (e0 ▸ h.2.1)).mono ?_ fun _ => id
    rintro d' ⟨mid, post', e, hm⟩
    exact good (e0.trans e) (.of (φ := (· = c)) hm rfl rfl) fun k hk => hk ▸ hcn
  · exact (sync_phase p2 hc hcn).mono
      (fun d' hd => good (post' := s.older) rfl hd (by rintro k (rfl | rfl) <;> omega)) fun _ => id
  · exact .cons i2 (.nil (ds_remove_only q2 ▸ gone) (ds_remove_only q2))
  · subst e3
    obtain ⟨t1, t5⟩ := create_empty j s.segmentSize
    exact .create gone (t1 ▸ .inr (fresh_only_good s hpost (by have := h.2.2; omega) rfl t5))
      ⟨0, rfl, t1 ▸ t5⟩

theorem lower_phase {x : Seg} {ys : List Seg} {d : Disk} (hds : DS x ys x.n x.n x.n d)
    (hsy : x.synced = (x.n : Int)) (i' : Nat) :
    CrashR (Hdr x ys fun k => k = x.n ∨ (k = i' - x.prev - 1 ∧ i' - x.prev - 1 < x.n))
      (x.removeGTESteps i') d
      (fun d' => ∃ c : Nat, (x.removeGTE i').synced = (c : Int) ∧ DS (x.removeGTE i') ys c c c d') := by
  unfold Seg.removeGTESteps
  by_cases hlt : i' - x.prev - 1 < x.n
  · rw [if_pos hlt]
    have s1 := ds_store hds (Nat.le_of_lt hlt)
    have s2 := ds_msync s1
    have s3 := ds_store s2 (Nat.le_of_lt hlt)
    have s4 := ds_msync s3
    have lo : ∀ {k}, k = i' - x.prev - 1 → k = x.n ∨ (k = i' - x.prev - 1 ∧ i' - x.prev - 1 < x.n) :=
      fun e => .inr ⟨e, hlt⟩
    refine .cons (.of hds (.inl rfl) (.inl rfl)) (.cons (.of s1 (.inl rfl) (lo rfl))
      (.cons (.of s2 (lo rfl) (lo rfl)) (.cons (.of s3 (lo rfl) (lo rfl)) (.nil (.of s4 (lo rfl) (lo rfl)) ?_))))
    rw [removeGTE_eq_lt hlt]
    obtain ⟨qf, dr, e, hf, hs⟩ := s4
    refine ⟨i' - x.prev - 1, rfl, qf, dr, e, ?_, hs⟩
    have := fr_cut hf (Nat.le_of_lt hlt) (Nat.le_refl _) (Nat.le_refl _) ((i' - x.prev - 1 : Nat) : Int)
    rwa [Nat.min_eq_right (Nat.le_of_lt hlt)] at this
  · rw [if_neg hlt, syncSteps_clean hsy, removeGTE_eq_ge hlt hsy]
    exact .nil (.of hds (.inl rfl) (.inl rfl)) ⟨x.n, hsy, hds⟩

/-- The loop of `RemoveGTE(i)` on the committed log `s0` (same contents as the pre-state `s`), from
the synced segment `x` downwards. -/
theorem rgte_phase {s s0 : SegLog} (h0 : Inv s0) (habs : abs s0 = abs s) {post : AbsLog} (i ss : Nat)
    (hss : 16 ≤ ss) (hpe : i ≤ s0.prevIndex → post.entries = [])
    (hpr : ∀ j, post.inRange j → s0.prevIndex < j ∧ j + 1 ≤ i ∧ j ≤ s0.lastIndex) :
    ∀ (older : List Seg) (x : Seg) (pre : List Seg) (d : Disk), s0.segs = pre ++ x :: older →
      DS x older x.n x.n x.n d → x.synced = (x.n : Int) →
      (∀ j, j + 1 ≤ i → j ≤ s0.lastIndex → j ≤ x.prev + x.n) →
      CrashR (CrashState s post) (rgteSteps i ss x older) d (fun d' =>
        ∃ c : Nat, (rgte i ss x older).1.synced = (c : Int) ∧
          DS (rgte i ss x older).1 (rgte i ss x older).2 c c c d') := by
  -- lowering the header of a synced head `x` to an `i'` not below `i`
  have lower : ∀ {pre : List Seg} {x : Seg} {ys : List Seg} {d : Disk}, s0.segs = pre ++ x :: ys →
      DS x ys x.n x.n x.n d → x.synced = (x.n : Int) →
      (∀ j, j + 1 ≤ i → j ≤ s0.lastIndex → j ≤ x.prev + x.n) →
      ∀ i', (∀ j, j + 1 ≤ i → j ≤ s0.lastIndex → j + 1 ≤ i') →
        CrashR (CrashState s post) (x.removeGTESteps i') d (fun d' =>
          ∃ c : Nat, (x.removeGTE i').synced = (c : Int) ∧ DS (x.removeGTE i') ys c c c d') := by
    intro pre x ys d hsegs hds hsy hb i' hi'
    obtain ⟨f1, _, f3, _, _⟩ := subchain_facts h0 hsegs
    refine (lower_phase hds hsy i').mono (fun d' hd => .inr ?_) fun _ => id
    refine hd.good h0 habs (post' := []) (by simpa using hsegs) rfl f1.1 fun k hk => ⟨rfl, ?_, fun j _ hp => ?_⟩
    · rcases hk with rfl | ⟨rfl, hlt⟩ <;> omega
    · obtain ⟨r1, r2, r3⟩ := hpr j hp
      have := hb j r2 r3; have := hi' j r2 r3
      refine ⟨by rw [← f3]; exact r1, ?_⟩
      rcases hk with rfl | ⟨rfl, hlt⟩ <;> omega
  intro older
  induction older with
  | nil =>
    intro x pre d hsegs hds hsy hb
    obtain ⟨_, _, f3, _, _⟩ := subchain_facts h0 hsegs
    simp only [chainPrev] at f3
    unfold rgteSteps rgte
    by_cases h1 : i ≤ x.prev + 1
    · by_cases h2 : i = x.prev + 1
      · simp only [if_pos h1, if_pos h2]
        exact lower hsegs hds hsy hb _ (fun j hj _ => h2 ▸ hj)
      · simp only [if_pos h1, if_neg h2, syncSteps_clean hsy, List.nil_append, List.cons_append]
        have hip : i ≤ s0.prevIndex := by omega
        obtain ⟨t1, t5⟩ := create_empty (i - 1) ss
        refine .cons (lower hsegs hds hsy hb i (fun _ hj _ => hj)).start ?_
        rw [ds_remove_only hds]
        exact .create (.inl ⟨rfl, wr_empty (hpe hip) rfl⟩)
          (t1 ▸ .inr (fresh_only_good s (hpe hip) hss rfl t5)) ⟨0, rfl, t1 ▸ t5⟩
    · simp only [if_neg h1]
      exact lower hsegs hds hsy hb _
        (fun j hj1 hj2 => by have := hb j hj1 hj2; simp only [Seg.lastIndex]; omega)
  | cons o os ih =>
    intro x pre d hsegs hds hsy hb
    obtain ⟨_, f2, _, _, _⟩ := subchain_facts h0 hsegs
    unfold rgteSteps rgte
    by_cases h1 : i ≤ x.prev + 1
    · simp only [if_pos h1, syncSteps_clean hsy, List.nil_append, List.cons_append]
      refine .cons (lower hsegs hds hsy hb i (fun _ hj _ => hj)).start ?_
      exact ih o (pre ++ [x]) _ (by rw [hsegs]; simp) (ds_remove_head hds f2) f2.2.2.1
        (fun j hj1 hj2 => by have := f2.1; omega)
    · simp only [if_neg h1]
      exact lower hsegs hds hsy hb _
        (fun j hj1 hj2 => by have := hb j hj1 hj2; simp only [Seg.lastIndex]; omega)

theorem removeGTE_crash {s : SegLog} {d : Disk} (h : Inv s) (hr : Rep s d) (i : Nat) :
    CrashR (CrashState s (abs (s.removeGTE i))) (script s (.removeGTE i)) d (Rep (s.removeGTE i)) := by
  have hpost : abs (s.removeGTE i) = (abs s).removeGTE i := (removeGTE_refines h i).2
  have hce := commit_eq h
  have habs := commit_abs h
  have hss : s.commit.segmentSize = s.segmentSize := by rw [hce]
  have hP0 : s.commit.prevIndex = s.prevIndex := by simpa [abs_prev] using congrArg AbsLog.prev habs
  have hL0 : s.commit.lastIndex = s.lastIndex := by rw [hce]; simp [SegLog.lastIndex, Seg.lastIndex]
  simp only [script]
  refine .seq ((commit_crash h hr _).mono (fun _ => .inr) fun _ => id) fun d1 _ c2 => ?_
  refine (rgte_phase (commit_inv h) habs i s.segmentSize (by have := h.2.2; omega) ?_ ?_
    s.commit.older s.commit.last [] d1 rfl ?_ ?_ ?_).mono (fun _ => id) ?_
  · intro hi
    rw [hpost]; unfold AbsLog.removeGTE
    rw [if_pos (by rw [abs_prev]; omega)]
  · intro j hp
    rw [hpost] at hp
    obtain ⟨r1, r2, r3, _⟩ := removeGTE_range hp
    rw [abs_lastIndex h] at r3
    rw [abs_prev] at r1
    exact ⟨hP0 ▸ r1, r2, hL0 ▸ r3⟩
  · rw [hce]; simpa using ds_sync c2
  · rw [hce]; simpa using sync_synced h.1.2.2
  · intro j _ hj; simpa [SegLog.lastIndex, Seg.lastIndex] using hj
  · rintro d' ⟨c, e1, e2⟩
    exact ⟨c, by simpa [SegLog.removeGTE, hss] using e1, by simpa [SegLog.removeGTE, hss] using e2⟩

theorem commitN_crash {s : SegLog} {d : Disk} (h : Inv s) (hr : Rep s d) (n' : Nat) (post : AbsLog) :
    CrashR (GoodDS s post) (commitSteps n' s.segs) d (Rep (s.commitN n')) := by
  rcases commitSteps_inv h n' with ⟨e1, e2⟩ | ⟨e1, e2⟩ <;> rw [e1, e2]
  · exact .nil (sync_phase_good h hr post).start hr
  · exact (sync_phase_good h hr post).mono (fun _ => id) fun _ p2 => rep_sync p2 h.1.2.2

/-- All operations: every crash state is a `CrashState` w.r.t. the abstract post-state, and the
final disk represents the model's result. -/
theorem op_crash {s : SegLog} {d : Disk} (h : Inv s) (hr : Rep s d) (op : Op) :
    CrashR (CrashState s (abs (s.run [op]))) (script s op) d (Rep (s.run [op])) := by
  cases op with
  | append b => exact append_crash h hr b _
  | commitN n => exact (commitN_crash h hr n _).mono (fun _ => .inr) fun _ => id
  | commit => exact (commit_crash h hr _).mono (fun _ => .inr) fun _ => rep_commit h
  | removeLTE i => exact removeLTE_crash h hr i
  | removeGTE i => exact removeGTE_crash h hr i
  | reset j => exact reset_crash h hr j
  | closeOpen ss => exact (commit_crash h hr _).mono (fun _ => .inr) fun _ p => rep_commit h p


theorem kill_is_power (d : Disk) : PowerImg d (killImg d) := by
  induction d with
  | nil => trivial
  | cons pf rest ih =>
    obtain ⟨p, f⟩ := pf
    exact ⟨rfl, ⟨rfl, Or.inr rfl, fun k b _ hv => hv⟩, ih⟩

/-- Run a program on the in-memory model and on the disk model side by side. -/
def runBoth : SegLog × Disk → List Op → SegLog × Disk
  | sd, [] => sd
  | sd, op :: ops => runBoth (sd.1.run [op], runSteps sd.2 (script sd.1 op)) ops

theorem runBoth_spec {s : SegLog} {d : Disk} (h : Inv s) (hr : Rep s d) (ops : List Op)
    (hv : ∀ o ∈ ops, o.valid) :
    Inv (runBoth (s, d) ops).1 ∧ Rep (runBoth (s, d) ops).1 (runBoth (s, d) ops).2 ∧
    (runBoth (s, d) ops).1 = s.run ops := by
  induction ops generalizing s d with
  | nil => exact ⟨h, hr, rfl⟩
  | cons op ops ih =>
    have hop := hv op (by simp)
    obtain ⟨r1, r2, r3⟩ := ih (op_inv h hop) (op_crash h hr op).final
      (fun o ho => hv o (List.mem_cons_of_mem _ ho))
    exact ⟨r1, r2, by rw [run_cons]; exact r3⟩

theorem rep_empty (ss : Nat) : Rep (SegLog.empty ss) (SegLog.empty ss).toDisk :=
  ⟨0, rfl, ds_fresh 0 ss [] [] trivial⟩

theorem inv_empty {ss : Nat} (h : 1024 ≤ ss) : Inv (SegLog.empty ss) :=
  ⟨fresh_ok (by omega), trivial, h⟩

/-- Units below either header of a file in state `FR` are present and identical in the durable and
the volatile image. -/
theorem fr_clean {x : Seg} {qf : Nat × FileSt} {hv hd M : Nat} (hf : FR x qf hv hd M) (k : Nat)
    (hk : k < hv ∨ k < hd) : ∃ b, qf.2.dunits[k]? = some b ∧ qf.2.vunits[k]? = some b := by
  have h1 := hf.hvM; have h2 := hf.hdM; have h3 := hf.Mn; have h4 := hf.len
  have hkM : k < M := by rcases hk with r | r <;> omega
  have hkl : k < qf.2.vunits.length := by omega
  refine ⟨qf.2.vunits[k], ?_, List.getElem?_eq_getElem hkl⟩
  have := congrArg (fun l => l[k]?) hf.clean
  simp only [List.getElem?_take] at this
  rw [if_pos hkM, if_pos hkM] at this
  rw [this, List.getElem?_eq_getElem hkl]

theorem srs_clean {xs : List Seg} {dr : Disk} (hs : SRs xs dr) : ∀ qf ∈ dr, ∀ k,
    (k < qf.2.vhdr ∨ k < qf.2.dhdr) → ∃ b, qf.2.dunits[k]? = some b ∧ qf.2.vunits[k]? = some b := by
  intro qf hq k hk
  obtain ⟨y, _, h⟩ := srs_mem hs qf hq
  exact fr_clean h k (by rw [h.vh, h.dh] at hk; exact hk)

/-- In every crash state, whatever header value a reopen may read
from a file, every unit below it was covered by an msync (durable = volatile). -/
theorem crashState_clean {s : SegLog} {post : AbsLog} {d' : Disk} (hc : CrashState s post d')
    : ∀ qf ∈ d', ∀ k, (k < qf.2.vhdr ∨ k < qf.2.dhdr) →
      ∃ b, qf.2.dunits[k]? = some b ∧ qf.2.vunits[k]? = some b := by
  rcases hc with ⟨rfl, _⟩ | ⟨x, ys, hv, hd, M, ⟨qf0, dr, rfl, hf, hs⟩, _, _, _⟩
  · intro qf hq; simp at hq
  · intro qf hq k hk
    rcases List.mem_cons.1 hq with rfl | hq
    · exact fr_clean hf k (by rw [hf.vh, hf.dh] at hk; exact hk)
    · exact srs_clean hs qf hq k hk


theorem fr_toFile (x : Seg) : FR x x.toFile x.n x.n x.n :=
  ⟨rfl, rfl, by simp [Seg.toFile, Seg.n], by simp [Seg.toFile, Seg.n], rfl, rfl, rfl,
    Nat.le_refl _, Nat.le_refl _, Nat.le_refl _⟩

theorem srs_toFile (xs : List Seg) : SRs xs (xs.map Seg.toFile) := by
  induction xs with
  | nil => trivial
  | cons y ys ih => exact ⟨fr_toFile y, ih⟩

theorem rep_toDisk {s : SegLog} (hsy : s.last.synced = (s.last.n : Int)) : Rep s s.toDisk :=
  ⟨s.last.n, hsy, _, _, rfl, fr_toFile s.last, srs_toFile s.older⟩

/-- `Close` followed by `Open`: the kill image of the directory after the commit reopens to
exactly the model's `closeOpen` state, and the directory is untouched. -/
theorem closeOpen_reopen {s : SegLog} {d : Disk} (h : Inv s) (hr : Rep s d) (ss : Nat) :
    reopen (killImg (runSteps d (script s (.closeOpen ss)))) ss =
      .ok (s.closeOpen ss, killImg (runSteps d (script s (.closeOpen ss)))) := by
  have c2 := (commit_crash h hr (abs s)).final
  simp only [script]
  obtain ⟨k, hk, hkn, e⟩ := ds_reopen c2 h.1.1 h.2.1 (kill_is_power _) ss
  rw [e]
  have hkn' : k = s.last.n := by rcases hk with r | r <;> exact r
  subst hkn'
  have : trunc s.last s.last.n = s.last.sync := by
    have h3 := h.1.2.2
    cases hl : s.last with
    | mk p es sy cp =>
      rw [hl] at h3
      simp only [trunc, Seg.n, Seg.sync, Seg.dirty, List.take_length] at h3 ⊢
      by_cases hd : sy < (es.length : Int)
      · simp [hd]
      · have : sy = (es.length : Int) := by omega
        simp [this]
  rw [this, SegLog.closeOpen, commit_eq h]


end Raft.SL
