/-
The two loops of `stateMachine.onApply` as equations: what `fsmApplyLogTo` (log entries fsm.index+1 … upto) and
one iteration of `fsmApplyItems` (a queue item handed over by the leader) make of a node, as record updates.
-/
import RaftVerif.Lemmas.LocalA

namespace Raft
open Node

namespace C03

/-- the view `fsmApplyLogTo` reads: entries number a-prev … b-prev-1 of the log -/
def slice (l : NLog) (a b : Nat) : List Entry := (l.entries.drop (a - l.prev)).take (b - a)

theorem slice_length (l : NLog) (a b : Nat) (ha : l.prev ≤ a) (hb : b ≤ l.last) : (slice l a b).length = b - a := by
  unfold slice NLog.last at *
  rw [List.length_take, List.length_drop]; omega

end C03

namespace Node
open C03

/-- the range `(fsm.index, upto]` is not empty and the log holds all of it: `fsmApplyLogTo upto` applies it -/
def Applies (s : Node) (upto : Nat) : Prop :=
  s.fsm.index < upto ∧ s.log.prev ≤ s.fsm.index ∧ (slice s.log s.fsm.index upto).length = upto - s.fsm.index

instance (s : Node) (upto : Nat) : Decidable (Applies s upto) := by unfold Applies; infer_instance

theorem Applies.of_inside {s : Node} {upto : Nat} (h1 : s.fsm.index < upto) (h2 : s.log.prev ≤ s.fsm.index)
    (h3 : upto ≤ s.log.last) : Applies s upto :=
  ⟨h1, h2, slice_length s.log _ _ h2 h3⟩

/-- the FSM once the entries of the slice `(fsm.index, upto]` are applied -/
def appliedFsm (s : Node) (upto : Nat) : Fsm :=
  { index := upto
    term := ((slice s.log s.fsm.index upto).getLast?.map (·.term)).getD s.fsm.term
    applied := s.fsm.applied ++ ((slice s.log s.fsm.index upto).filter (·.typ == etUpdate)).map (·.data)
    config := (((slice s.log s.fsm.index upto).filterMap (·.config?)).getLast?).getD s.fsm.config }

/-- `fsmApplyLogTo` moves the FSM and the panic mark only, and the FSM exactly when `Applies` -/
theorem fsmApplyLogTo_shape (s : Node) (upto : Nat) :
    s.fsmApplyLogTo upto =
      { s with panicked := (s.fsmApplyLogTo upto).panicked
               fsm := if Applies s upto then appliedFsm s upto else s.fsm } := by
  by_cases c1 : upto ≤ s.fsm.index
  · have e : s.fsmApplyLogTo upto = s := by unfold fsmApplyLogTo; rw [if_pos c1]
    rw [e, if_neg (fun h : Applies s upto => by have := h.1; omega)]
  by_cases c2 : s.fsm.index < s.log.prev
  · have e : s.fsmApplyLogTo upto = s.panic "fsm.Get" := by unfold fsmApplyLogTo; rw [if_neg c1, if_pos c2]
    rw [e, if_neg (fun h : Applies s upto => by have := h.2.1; omega)]
    exact panic_shape s _
  by_cases c3 : (slice s.log s.fsm.index upto).length = upto - s.fsm.index
  · have ha : Applies s upto := ⟨by omega, by omega, c3⟩
    -- an undecodable configuration entry in the slice marks the panic and the slice is applied all the same
    have e : s.fsmApplyLogTo upto = s.withFsm (appliedFsm s upto) ∨
        s.fsmApplyLogTo upto = (s.panic "fsm.configDecode").withFsm (appliedFsm s upto) := by
      unfold fsmApplyLogTo
      rw [if_neg c1, if_neg c2]
      dsimp only
      rw [if_neg (fun h => h c3)]
      split
      · exact Or.inr (by rw [(panic_fields s _).2.2.2.2.1]; rfl)
      · exact Or.inl rfl
    rw [if_pos ha]
    rcases e with e | e <;> rw [e]
    · rfl
    · rw [panic_shape]; rfl
  · have e : s.fsmApplyLogTo upto = s.panic "fsm.view" := by
      unfold fsmApplyLogTo; rw [if_neg c1, if_neg c2]; exact if_pos c3
    rw [e, if_neg (fun h : Applies s upto => c3 h.2.2)]
    exact panic_shape s _

/-- no new panic: there is nothing to apply, or the slice is there and its configuration entries decode -/
theorem fsmApplyLogTo_panicked (s : Node) (upto : Nat)
    (h : upto ≤ s.fsm.index ∨ Applies s upto ∧
      ∀ e ∈ slice s.log s.fsm.index upto, e.typ = etConfig → e.config?.isSome = true) :
    (s.fsmApplyLogTo upto).panicked = s.panicked := by
  unfold fsmApplyLogTo
  rcases h with h | ⟨⟨h1, h2, h3⟩, h4⟩
  · rw [if_pos h]
  · rw [if_neg (by omega), if_neg (by omega)]
    dsimp only
    rw [if_neg (fun h => h h3), if_neg]
    · rfl
    · intro hany
      obtain ⟨e, he, hb⟩ := List.any_eq_true.mp hany
      simp only [Bool.and_eq_true, beq_iff_eq] at hb
      have := h4 e he hb.1
      rw [Option.isNone_iff_eq_none.mp hb.2] at this
      cases this

end Node

namespace C12

/-- one iteration of the second loop of `onApply` -/
def itemStep (s : Node) (q : QItem) : Node :=
  let s := s.assert (q.index == s.fsm.index + 1) "fsm.assertNext"
  let s :=
    if q.typ = etUpdate then
      (s.withFsm ({ s.fsm with applied := s.fsm.applied ++ [q.data] }))
    else s
  let resp :=
    if q.typ = etRead ∨ q.typ = etDirtyRead ∨ q.typ = etUpdate then s!"val:{s.fsm.applied.length}"
    else "ok"
  let s := match q.toEntry.config? with
    | some c => s.withFsm { s.fsm with config := c }
    | none => s
  let s := if isLogEntryTyp q.typ then (s.withFsm ({ s.fsm with index := q.index, term := q.term })) else s
  s.reply q.task resp

theorem fsmApplyItems_cons (s : Node) (q : QItem) (qs : List QItem) :
    s.fsmApplyItems (q :: qs) = (itemStep s q).fsmApplyItems qs := rfl

/-- **what one item does**: the FSM takes the item's update, its configuration and (an item that is a log entry) its
position; `fsm.assertNext` may set the panic flag; the item's task, if it has one, is answered (reads and updates with
the number of updates applied); nothing else changes -/
theorem itemStep_eq (s : Node) (q : QItem) :
    itemStep s q =
      { s with
        fsm := { index := if isLogEntryTyp q.typ = true then q.index else s.fsm.index
                 term := if isLogEntryTyp q.typ = true then q.term else s.fsm.term
                 applied := if q.typ = etUpdate then s.fsm.applied ++ [q.data] else s.fsm.applied
                 config := (q.toEntry.config?).getD s.fsm.config }
        panicked := (s.assert (q.index == s.fsm.index + 1) "fsm.assertNext").panicked
        replies := s.replies ++ mkReply? q.task
          (if q.typ = etRead ∨ q.typ = etDirtyRead ∨ q.typ = etUpdate then
            s!"val:{(if q.typ = etUpdate then s.fsm.applied ++ [q.data] else s.fsm.applied).length}"
           else "ok") } := by
  have ef : (s.assert (q.index == s.fsm.index + 1) "fsm.assertNext").fsm = s.fsm := by rw [assert_shape]
  have er : (s.assert (q.index == s.fsm.index + 1) "fsm.assertNext").replies = s.replies := by rw [assert_shape]
  unfold itemStep
  -- all updates but the last are FSM updates of the asserted state: compare the FSMs and the answers, field by field
  cases q.toEntry.config? <;> dsimp only [Option.getD] <;> simp only [ite_withFsm] <;> rw [reply_eq_addReplies] <;>
    dsimp only [Node.withFsm, addReplies] <;> rw [ef, er, assert_shape] <;> congr 1 <;>
    split <;> (try split) <;> rfl

/-- the tasks the second loop answers: the tasks of the items, once each, in order — whether or not `fsm.assertNext` failed -/
theorem fsmApplyItems_reply_tasks (s : Node) (items : List QItem) :
    (s.fsmApplyItems items).replies.map (·.task) = s.replies.map (·.task) ++ (items.map (·.task)).filter (· ≠ 0) := by
  induction items generalizing s with
  | nil => simp [Node.fsmApplyItems]
  | cons q qs ih =>
    rw [fsmApplyItems_cons, ih, itemStep_eq]
    show (s.replies ++ mkReply? _ _).map _ ++ _ = _
    unfold mkReply?
    by_cases h0 : q.task = 0 <;> simp [h0]

end C12
end Raft
