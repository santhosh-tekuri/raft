/-
Theorems about M5 (Model/Repl.lean, tied to replication.go by the repldiff engine): what a replication
step sends and how it moves matchIndex / nextIndex. They are quoted by Props C01, C04, C06, C09, C15, C17.
-/
import RaftVerif.Model.Repl

namespace Raft
namespace Repl

/-- **repl_request_from_log** (C04): whatever `writeAppendEntriesReq` sends was read from the leader's log:
the request is addressed `(prev = nextIndex-1)`, `prevLogTerm` is 0 for index 0, the snapshot's term at
the snapshot index and otherwise the term of the leader's entry at `prev`; every entry it carries is an
entry of the leader's log at an index ≥ nextIndex; it carries at most `maxAppendEntries` entries; term,
source and commit index are the leader's. -/
theorem repl_request_from_log (st : State) (env : Env) (b : Bool) (q : Node.AppendReq)
    (h : (writeAppend st env b).append = some q) :
    q.prevLogIndex = st.nextIndex - 1 ∧ q.term = st.term ∧ q.src = st.src ∧ q.ldrCommitIndex = st.ldrCommit ∧
    (q.prevLogIndex = 0 → q.prevLogTerm = 0) ∧
    (q.prevLogIndex ≠ 0 → q.prevLogIndex = env.snapIndex → q.prevLogTerm = env.snapTerm) ∧
    (q.prevLogIndex ≠ 0 → q.prevLogIndex ≠ env.snapIndex →
        ∃ e, env.log.get? q.prevLogIndex = some e ∧ e.term = q.prevLogTerm) ∧
    q.entries.length ≤ maxAppendEntries ∧
    (∀ e ∈ q.entries, ∃ k, env.log.get? (st.nextIndex + k) = some e) ∧
    (writeAppend st env b).st.nextIndex = st.nextIndex + (if b then min (st.ldrLastIndex - (st.nextIndex - 1)) maxAppendEntries else 0) := by
  unfold writeAppend at h ⊢
  extract_lets prev pt n es at h ⊢
  generalize hpt : pt = ptv at h ⊢
  match ptv, hpt with
  | .error p, _ => simp at h
  | .ok none, _ => simp at h
  | .ok (some prevTerm), hpt =>
    dsimp only at h ⊢
    split at h
    · simp at h
    · split at h
      · simp at h
      · rename_i hn1 hn2
        rw [if_neg hn1, if_neg hn2]
        simp only [Option.some.injEq] at h
        subst h
        refine ⟨rfl, rfl, rfl, rfl, ?_, ?_, ?_, ?_, ?_, rfl⟩
        · intro h0
          have : prev = 0 := h0
          simp only [pt, this, if_true] at hpt
          injection hpt with hpt; injection hpt with hpt; exact hpt.symm
        · intro h0 hs
          have h0' : ¬ prev = 0 := h0
          have hs' : prev = env.snapIndex := hs
          simp only [pt, hs', if_true] at hpt
          simp only [hs'] at h0'
          simp only [h0', if_false] at hpt
          injection hpt with hpt; injection hpt with hpt; exact hpt.symm
        · intro h0 hs
          have h0' : ¬ prev = 0 := h0
          have hs' : ¬ prev = env.snapIndex := hs
          simp only [pt, h0', hs', if_false] at hpt
          unfold viewTerm at hpt
          split at hpt
          · simp at hpt
          · split at hpt
            · simp at hpt
            · injection hpt with hpt
              have hpt' : (env.log.get? prev).map (·.term) = some prevTerm := hpt
              obtain ⟨e, hg, he⟩ := Option.map_eq_some_iff.mp hpt'
              exact ⟨e, hg, he⟩
        · refine Nat.le_trans (List.length_filterMap_le _ _) ?_
          simp only [List.length_range]
          unfold n
          split
          · exact Nat.min_le_right _ _
          · exact Nat.zero_le _
        · intro e he
          have he' : e ∈ List.filterMap (fun k => env.log.get? (st.nextIndex + k)) (List.range n) := he
          rw [List.mem_filterMap] at he'
          obtain ⟨k, _, hk⟩ := he'
          exact ⟨k, hk⟩

/-- a heartbeat (`sendEntries = false`) carries no entry and leaves `nextIndex` alone -/
theorem heartbeat_no_entries (st : State) (env : Env) (q : Node.AppendReq)
    (h : (writeAppend st env false).append = some q) :
    q.entries = [] ∧ (writeAppend st env false).st.nextIndex = st.nextIndex := by
  have hn := (repl_request_from_log st env false q h).2.2.2.2.2.2.2.2.2
  refine ⟨?_, by simpa using hn⟩
  unfold writeAppend at h
  extract_lets prev pt n es at h
  generalize hpt : pt = ptv at h
  match ptv, hpt with
  | .error p, _ => simp at h
  | .ok none, _ => simp at h
  | .ok (some prevTerm), _ =>
    dsimp only at h
    have hn0 : n = 0 := by unfold n; simp
    have hes : es = [] := by unfold es; rw [hn0]; rfl
    simp only [hn0, Nat.lt_irrefl, false_and, if_false, Option.some.injEq, gt_iff_lt] at h
    rw [← h]; exact hes

theorem onAppendResp_stale (st : State) (term lli rl : Nat) :
    onAppendResp st term rStaleTerm lli rl = { st := st, err := "stop", notes := [⟨"newTerm", term⟩] } := by
  unfold onAppendResp; rw [if_pos rfl]

theorem onAppendResp_success (st : State) (term lli rl : Nat) :
    onAppendResp st term rSuccess lli rl =
      if rl > st.matchIndex then { st := { st with matchIndex := rl }, notes := [⟨"matchIndex", rl⟩] }
      else { st := st } := by
  unfold onAppendResp; rw [if_neg (by decide), if_pos rfl]

theorem onAppendResp_mismatch (st : State) (term lli rl : Nat) {result : Nat}
    (hr : result = rPrevEntryNotFound ∨ result = rPrevTermMismatch) :
    onAppendResp st term result lli rl =
      if lli < st.matchIndex then { st := st, err := "faultyFollower" }
      else { st := { st with nextIndex := min (st.nextIndex - 1) (lli + 1) } } := by
  have h1 : result ≠ rStaleTerm := by rcases hr with h | h <;> (rw [h]; decide)
  have h2 : result ≠ rSuccess := by rcases hr with h | h <;> (rw [h]; decide)
  unfold onAppendResp; rw [if_neg h1, if_neg h2, if_pos hr]

/-- any other response is an error: nothing moves, nothing is reported -/
theorem onAppendResp_other (st : State) (term lli rl : Nat) {result : Nat} (h1 : result ≠ rStaleTerm)
    (h2 : result ≠ rSuccess) (h3 : ¬ (result = rPrevEntryNotFound ∨ result = rPrevTermMismatch)) :
    (onAppendResp st term result lli rl).st = st ∧ (onAppendResp st term result lli rl).notes = [] := by
  unfold onAppendResp; rw [if_neg h1, if_neg h2, if_neg h3]
  split <;> exact ⟨rfl, rfl⟩

/-- **match_index_sound** (C06): `onAppendEntriesResp` never lowers `matchIndex`; it raises it only on a
success response, exactly to the last index of the request that was acknowledged, and tells the leader
that very value; any other response leaves it alone. -/
theorem match_index_sound (st : State) (term result lastLogIndex reqLast : Nat) :
    let o := onAppendResp st term result lastLogIndex reqLast
    st.matchIndex ≤ o.st.matchIndex ∧
    (o.st.matchIndex ≠ st.matchIndex →
        result = rSuccess ∧ o.st.matchIndex = reqLast ∧ o.notes = [⟨"matchIndex", reqLast⟩]) ∧
    (∀ v, (⟨"matchIndex", v⟩ : Note) ∈ o.notes → result = rSuccess ∧ v = reqLast ∧ o.st.matchIndex = v) := by
  intro o
  unfold o
  by_cases h1 : result = rStaleTerm
  · rw [h1, onAppendResp_stale]; simp
  by_cases h2 : result = rSuccess
  · rw [h2, onAppendResp_success]
    split
    · simp; omega
    · simp
  by_cases h3 : result = rPrevEntryNotFound ∨ result = rPrevTermMismatch
  · rw [onAppendResp_mismatch _ _ _ _ h3]
    split <;> simp
  · obtain ⟨a, b⟩ := onAppendResp_other st term lastLogIndex reqLast h1 h2 h3
    rw [a, b]; simp

theorem installSnap_none {env : Env} (h : env.snap = none) (st : State) (term result : Nat) :
    installSnap st env term result = { st := st, err := "opError" } := by
  unfold installSnap; rw [h]

/-- with a snapshot `f` to send: the request carries `f`; a stale-term response stops the replication, a success moves
`matchIndex` and `nextIndex` past `f`, any other response leaves the state alone -/
theorem installSnap_some {env : Env} {f : SnapFile} (h : env.snap = some f) (st : State) (term result : Nat) :
    (installSnap st env term result).install =
      some { term := st.term, src := st.src, lastIndex := f.index, lastTerm := f.term, lastConfig := f.config,
             data := f.data } ∧
    (result = rStaleTerm → installSnap st env term result =
      { st := st, err := "stop", install := (installSnap st env term result).install, notes := [⟨"newTerm", term⟩] }) ∧
    (result = rSuccess → (installSnap st env term result).st = { st with matchIndex := f.index, nextIndex := f.index + 1 }) ∧
    (result ≠ rSuccess → (installSnap st env term result).st = st) := by
  unfold installSnap; rw [h]; dsimp only
  by_cases h1 : result = rStaleTerm
  · rw [if_pos h1]; exact ⟨rfl, fun _ => rfl, fun h2 => absurd (h1.symm.trans h2) (by decide), fun _ => rfl⟩
  rw [if_neg h1]
  by_cases h2 : result = rSuccess
  · rw [if_pos h2]; exact ⟨rfl, fun h => absurd h h1, fun _ => rfl, fun h => absurd h2 h⟩
  rw [if_neg h2]
  split <;> exact ⟨rfl, fun h => absurd h h1, fun h => absurd h h2, fun _ => rfl⟩

/-- an install-snapshot exchange moves `matchIndex` only when the follower answered success, to the
index of the snapshot that was sent -/
theorem install_match_index (st : State) (env : Env) (term result : Nat) :
    let o := installSnap st env term result
    (o.st.matchIndex ≠ st.matchIndex →
        result = rSuccess ∧ ∃ f, env.snap = some f ∧ o.st.matchIndex = f.index ∧ o.st.nextIndex = f.index + 1) ∧
    (∀ q, o.install = some q → ∃ f, env.snap = some f ∧ q.lastIndex = f.index ∧ q.lastTerm = f.term ∧
        q.lastConfig = f.config ∧ q.data = f.data ∧ q.term = st.term ∧ q.src = st.src) := by
  intro o
  unfold o
  cases hf : env.snap with
  | none => rw [installSnap_none hf]; exact ⟨fun h => absurd rfl h, fun q hq => nomatch hq⟩
  | some f =>
    obtain ⟨hi, _, hs, hn⟩ := installSnap_some hf st term result
    refine ⟨fun hne => ?_, fun q hq => ⟨f, rfl, ?_⟩⟩
    · by_cases h2 : result = rSuccess
      · rw [hs h2]; exact ⟨h2, f, rfl, rfl, rfl⟩
      · rw [hn h2] at hne; exact absurd rfl hne
    · rw [hi] at hq; cases hq; exact ⟨rfl, rfl, rfl, rfl, rfl, rfl⟩

/-- **probe_decreases** (C17): a mismatch response from a follower that is not faulty strictly lowers
`nextIndex` (when it is positive) and never leaves it above the follower's `lastLogIndex + 1`: the probe
loop of `replicate` has `nextIndex` as a ranking function. -/
theorem probe_decreases (st : State) (term result lastLogIndex reqLast : Nat)
    (hr : result = rPrevEntryNotFound ∨ result = rPrevTermMismatch) (hf : st.matchIndex ≤ lastLogIndex) :
    let o := onAppendResp st term result lastLogIndex reqLast
    o.err = "" ∧ o.panic = "" ∧ o.st.nextIndex ≤ st.nextIndex - 1 ∧ o.st.nextIndex ≤ lastLogIndex + 1 ∧
    (0 < st.nextIndex → o.st.nextIndex < st.nextIndex) ∧ o.st.matchIndex = st.matchIndex := by
  intro o
  unfold o
  rw [onAppendResp_mismatch _ _ _ _ hr, if_neg (by omega)]
  refine ⟨rfl, rfl, Nat.min_le_left _ _, Nat.min_le_right _ _, fun hpos => ?_, rfl⟩
  have := Nat.min_le_left (st.nextIndex - 1) (lastLogIndex + 1)
  show min _ _ < _
  omega

/-- a follower that reports a log shorter than what it already acknowledged is declared faulty, nothing moves -/
theorem faulty_follower_detected (st : State) (term result lastLogIndex reqLast : Nat)
    (hr : result = rPrevEntryNotFound ∨ result = rPrevTermMismatch) (hf : lastLogIndex < st.matchIndex) :
    (onAppendResp st term result lastLogIndex reqLast).err = "faultyFollower" ∧
    (onAppendResp st term result lastLogIndex reqLast).st = st := by
  rw [onAppendResp_mismatch _ _ _ _ hr, if_pos hf]
  exact ⟨rfl, rfl⟩

/-- **stale_term_stops** (C01): a response carrying "stale term" stops the replication and reports the
follower's term to the leader (which steps down, `checkReplUpdates`); nothing else moves. -/
theorem stale_term_stops (st : State) (env : Env) (term lastLogIndex reqLast : Nat) :
    (onAppendResp st term rStaleTerm lastLogIndex reqLast).err = "stop" ∧
    (onAppendResp st term rStaleTerm lastLogIndex reqLast).notes = [⟨"newTerm", term⟩] ∧
    (onAppendResp st term rStaleTerm lastLogIndex reqLast).st = st ∧
    (∀ f, env.snap = some f → (installSnap st env term rStaleTerm).err = "stop" ∧
      (installSnap st env term rStaleTerm).notes = [⟨"newTerm", term⟩] ∧ (installSnap st env term rStaleTerm).st = st) := by
  rw [onAppendResp_stale]
  refine ⟨rfl, rfl, rfl, ?_⟩
  intro f hf
  rw [(installSnap_some hf st term rStaleTerm).2.1 rfl]
  exact ⟨rfl, rfl, rfl⟩

/-- a leader update only moves the view, the commit index and the voting right; it reports the new first
index to the leader exactly when the view's first index CHANGED (forward or, after the leader lowered its compaction bound,
backward: the repair of finding F19) -/
theorem leader_update_fields (st : State) (p l c : Nat) (v : Option Bool) :
    let o := onLeaderUpdate st p l c v
    o.st.matchIndex = st.matchIndex ∧ o.st.nextIndex = st.nextIndex ∧ o.st.term = st.term ∧ o.st.src = st.src ∧
    o.st.viewPrev = p ∧ o.st.viewLast = l ∧ o.st.ldrLastIndex = l ∧ o.st.ldrCommit = c ∧
    (o.notes ≠ [] ↔ p ≠ st.viewPrev) ∧ (o.notes ≠ [] → o.notes = [⟨"removeLTE", p⟩]) := by
  intro o
  unfold o onLeaderUpdate
  refine ⟨rfl, rfl, rfl, rfl, rfl, rfl, rfl, rfl, ?_, ?_⟩
  · dsimp only
    split <;> simp_all
  · dsimp only
    split <;> simp_all

-- premises are satisfiable: a concrete replication step
example : (writeAppend { nextIndex := 2, ldrLastIndex := 3, viewLast := 3, term := 2, src := 1 }
    { log := { prev := 0, entries := [⟨1, 1, 2, "a", none⟩, ⟨2, 2, 2, "b", none⟩, ⟨3, 2, 2, "c", none⟩], flushed := 3, segs := [0] } } true).append
    = some { term := 2, src := 1, prevLogIndex := 1, prevLogTerm := 1, ldrCommitIndex := 0,
             entries := [⟨2, 2, 2, "b", none⟩, ⟨3, 2, 2, "c", none⟩] } := by decide

end Repl
end Raft
