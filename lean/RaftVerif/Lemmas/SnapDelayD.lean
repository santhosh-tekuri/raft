/-
Delayed compaction (`leader.checkLogCompact`) — node level, for EVERY ordered state (`Order.Ordered`, the
per-node invariant of C19), every batch of replication updates and every oracle: no cluster assumptions.

* `updPre_ordered` — the orderings hold in the state in which `checkReplUpdates` decides about the compaction.
* `delayed_compaction_node` — what a compacting step does (see Props/C09Sys4.lean for the statement in words).
* `compact_image_virtual` — the crash image at `compactLog` (= the disk of the completed step) un-compacts to the
  un-compacted log before the compaction: `RemoveLTE` commits first, so nothing of the virtual log is lost.

Then the side condition `Side5.rm` (`ldr.removeLTE ≤ snapIndex` on
every node) of `Raft.Snap5` DISCHARGED inside the system, at the price of two side conditions on CONFIGURATIONS (those of
`Snap4.Side4`, which this fixed-membership model does not track) and of an initial state whose leader records hold no
compaction bound.

`Reachable5c V`: the runs of `Snap5.Trans` in which every state satisfies `Side5c` = `Snap2.Side2` and
* `cfgord` — `configs.committed.index ≤ configs.latest.index ≤ lastLogIndex` on every node;
* `cfg`    — the index of a node's committed configuration is not above its commit index, or the tree of created entries
             never branched at or below that index (e.g. the bootstrap entry (1,1) all nodes start with).
Then (`reachable5c`): every such run is a run of `Reachable5`, and EVERY node of every reachable state is
`Order.Ordered` — in particular `ldr.removeLTE ≤ snapIndex` — by carrying the per-node invariant along the run:
`SnapInst4.ordered_assemble` (the orderings follow from the cluster invariant, the side conditions and the bound),
`C19Order.ordered_step` (its hypothesis `Order.ReqOk` is discharged inside the system: `SnapInst4.appendOk_real`, by commit safety
of the virtual cluster), `SnapInst4.restart_ldr` (a restarted node holds no bound).
-/
import RaftVerif.Lemmas.SnapDelayC
import RaftVerif.Props.C19Order
import RaftVerif.Lemmas.SnapInst4

namespace Raft
namespace SnapDelay
open Node SnapRelP SnapRelU SnapSim SnapInv SnapInv2

theorem updPre_ordered (s : Node) (us : List ReplUpdate) (ra : List Nat) (ord : List (List Nat))
    (ho : Order.Ordered s) : Order.Inv s true (updPre (s.begin ra ord) us) := by
  unfold updPre
  dsimp only
  have h0 := Order.inv_begin ra ord ho
  have h1 : Order.Inv s true (replUpdLoop (s.begin ra ord) {} us).1 := Order.inv_replUpdLoop {} us h0
  have h2 : Order.Inv s true (if (replUpdLoop (s.begin ra ord) {} us).2.matchU = true
      then onMajorityCommit (fuelFor 0) (replUpdLoop (s.begin ra ord) {} us).1
      else (replUpdLoop (s.begin ra ord) {} us).1) := by
    split
    · exact Order.inv_onMajorityCommit _ h1
    · exact h1
  split
  · exact Order.inv_checkQuorum h2
  · exact h2

structure DelayedCompaction (s : Node) (us : List ReplUpdate) (ra : List Nat) (ord : List (List Nat)) : Prop where
  /-- the node led, and a compaction was wanted: `log.prev < ldr.removeLTE` when the decision was taken -/
  compacted : Compacted s us ra ord
  /-- EVERY replication had reported an index at or above the leader's bound -/
  all : ∀ r ∈ (updPre (s.begin ra ord) us).ldr.repls, (updPre (s.begin ra ord) us).ldr.removeLTE ≤ r.removeLTE
  log : (s.step (.replUpdates us) ra ord).log =
    (updPre (s.begin ra ord) us).log.removeLTE (updPre (s.begin ra ord) us).ldr.removeLTE
  /-- the first index only moves forward, never beyond the leader's bound, which is not beyond the snapshot index -/
  prev_mono : (updPre (s.begin ra ord) us).log.prev ≤ (s.step (.replUpdates us) ra ord).log.prev
  prev_le : (s.step (.replUpdates us) ra ord).log.prev ≤ (updPre (s.begin ra ord) us).ldr.removeLTE
  bound_le : (updPre (s.begin ra ord) us).ldr.removeLTE ≤ (s.step (.replUpdates us) ra ord).snapIndex
  bound_same : (s.step (.replUpdates us) ra ord).ldr.removeLTE = (updPre (s.begin ra ord) us).ldr.removeLTE
  /-- the last index does not move and every index above the new first index keeps its entry -/
  last : (s.step (.replUpdates us) ra ord).log.last = (updPre (s.begin ra ord) us).log.last
  lastLogIndex : (s.step (.replUpdates us) ra ord).lastLogIndex = (updPre (s.begin ra ord) us).lastLogIndex
  kept : ∀ j, (s.step (.replUpdates us) ra ord).log.prev < j →
    (s.step (.replUpdates us) ra ord).log.get? j = (updPre (s.begin ra ord) us).log.get? j
  /-- the state after the step is ordered: in particular `log.prev ≤ snapIndex ≤ commitIndex ≤ lastLogIndex` and the
  segment list is well formed -/
  ordered : Order.Ordered (s.step (.replUpdates us) ra ord)

theorem delayed_compaction_node (s : Node) (us : List ReplUpdate) (ra : List Nat) (ord : List (List Nat))
    (ho : Order.Ordered s) (hp : (s.step (.replUpdates us) ra ord).panicked = none) :
    s.step (.replUpdates us) ra ord = stepNC s us ra ord ∨ DelayedCompaction s us ra ord := by
  rcases step_rm_real s us ra ord with e | hc
  · exact Or.inl e
  · right
    have hnc : (updPre (s.begin ra ord) us).role ≠ .candidate :=
      notCand_updPre _ us (by rw [hc.leader]; exact fun x => by cases x)
    have hz := stepNC_go s us ra ord hc.leader hc.go
    have hzp : (stepNC s us ra ord).panicked = none := by rw [stepNC_panicked]; exact hp
    have hap : (updPre (s.begin ra ord) us).panicked = none := by
      rw [hz] at hzp
      exact updFin_sticky _ _ hzp
    obtain ⟨cw, _, _, _⟩ := updPre_ordered s us ra ord ho hap
    have d6 : (stepNC s us ra ord).snapIndex = (updPre (s.begin ra ord) us).snapIndex := by
      rw [hz, updFin_shape _ _ hnc]
    have d7 : (stepNC s us ra ord).lastLogIndex = (updPre (s.begin ra ord) us).lastLogIndex := by
      rw [hz, updFin_shape _ _ hnc]
    obtain ⟨_, _, w3, w4, w5, w6, w7⟩ :=
      C09.removeLTE_whole_segments (updPre (s.begin ra ord) us).log (updPre (s.begin ra ord) us).ldr.removeLTE cw.segs
    have hlog : (s.step (.replUpdates us) ra ord).log =
        (updPre (s.begin ra ord) us).log.removeLTE (updPre (s.begin ra ord) us).ldr.removeLTE := by
      rw [hc.step]; rfl
    have hsnap : (s.step (.replUpdates us) ra ord).snapIndex = (updPre (s.begin ra ord) us).snapIndex := by
      rw [hc.step]; exact d6
    refine ⟨hc, hc.all, hlog, by rw [hlog]; exact w3, ?_, by rw [hsnap]; exact cw.removeLTE_le, ?_,
      by rw [hlog]; exact w5, by rw [hc.step]; exact d7, fun j hj => ?_,
      C19Order.ordered_step s _ ra ord ho trivial hp⟩
    · rw [hlog]
      have := hc.gt
      rcases w4 with e | e
      · rw [e]; exact Nat.le_of_lt this
      · exact e
    · rw [hc.step]
      show (stepNC s us ra ord).ldr.removeLTE = _
      rw [hz, updFin_removeLTE _ _ hnc]
    · rw [hlog] at hj ⊢
      exact w6 j hj

/-- **the crash image at `compactLog` un-compacts to the whole un-compacted log**: with what the compaction removed
added to the compacted-away prefix `β`, the disk of the completed step holds every entry the un-compacted log held when
the compaction was decided — flushed or not before (`RemoveLTE` commits first) -/
theorem compact_image_virtual (β : List Entry) (s : Node) (us : List ReplUpdate) (ra : List Nat) (ord : List (List Nat))
    (hd : DelayedCompaction s us ra ord) :
    (uncD ((uncLog β (updPre (s.begin ra ord) us).log).entries.take (s.step (.replUpdates us) ra ord).log.prev)
      (s.step (.replUpdates us) ra ord).durable).log.entries =
      (uncLog β (updPre (s.begin ra ord) us).log).entries := by
  have hL := hd.log
  have hmono := hd.prev_mono
  have hlast := hd.last
  clear hd
  generalize (s.step (.replUpdates us) ra ord) = s' at *
  generalize (updPre (s.begin ra ord) us) = a at *
  have hent : s'.log.entries = a.log.entries.drop (s'.log.prev - a.log.prev) := by rw [hL]; rfl
  have hfl : s'.log.flushed = a.log.last := by rw [hL]; rfl
  have hk := vlog_keep β a.log s'.log hmono
    (by have := hlast; unfold NLog.last at this ⊢; omega) hent
  show ((pad _ s'.durable.log.prev ++ s'.durable.log.entries).take s'.durable.log.flushed) = _
  have e1 : s'.durable.log.prev = s'.log.prev := rfl
  have e2 : s'.durable.log.flushed = s'.log.flushed := rfl
  have e3 : s'.durable.log.entries = s'.log.entries := by
    show s'.log.entries.take (s'.log.flushed - s'.log.prev) = _
    apply List.take_of_length_le
    have := hlast
    unfold NLog.last at this
    rw [hfl]
    unfold NLog.last
    omega
  rw [e1, e2, e3]
  have hk' : pad ((uncLog β a.log).entries.take s'.log.prev) s'.log.prev ++ s'.log.entries =
      (uncLog β a.log).entries := hk
  rw [hk']
  apply List.take_of_length_le
  rw [hfl]
  have := uncLog_last (β := β) a.log
  unfold NLog.last at this ⊢
  have h0 : (uncLog β a.log).prev = 0 := rfl
  rw [h0] at this
  omega

open Election LogRel Replication CommitRel Commit C02Sys C03Sys SnapRel Snap Snap2

section
variable {V : List Nat}

theorem reqOk5 {x : Snap2.Sys} (hI : Inv2 V x) {i : Nat} {op : Op} {src : Nat} (en : Snap5.Enabled x.cs i op src)
    (hcfg : (x.node i).configs.committed.index ≤ (x.node i).commitIndex ∨
      ∀ c ∈ x.cs.T, ∀ d ∈ x.cs.T, c.e.index = d.e.index → c.e.index ≤ (x.node i).configs.committed.index →
        c.e.term = d.e.term) : Order.ReqOk (x.node i) op := by
  cases op with
  | append q =>
    show q.term < (x.node i).term ∨ Order.AppendOk (x.node i) q
    by_cases hst : q.term < (x.node i).term
    · exact Or.inl hst
    · exact Or.inr (SnapInst4.appendOk_real hI ((en.append q rfl).resolve_left hst) hst hcfg)
  | install q => exact (en.ok2.1).elim
  | _ => trivial

structure Side5c (V : List Nat) (x : Snap2.Sys) : Prop where
  side : Side2 V x
  cfgord : ∀ i, (x.node i).configs.committed.index ≤ (x.node i).configs.latest.index ∧
    (x.node i).configs.latest.index ≤ (x.node i).lastLogIndex
  cfg : ∀ i, (x.node i).configs.committed.index ≤ (x.node i).commitIndex ∨
    ∀ c ∈ x.cs.T, ∀ d ∈ x.cs.T, c.e.index = d.e.index → c.e.index ≤ (x.node i).configs.committed.index →
      c.e.term = d.e.term

structure Init5c (x : Snap2.Sys) : Prop where
  init : Snap2.Init x
  rm : ∀ i, (x.node i).ldr.removeLTE = 0

inductive Reachable5c (V : List Nat) : Snap2.Sys → Prop
  | init (x : Snap2.Sys) : Init5c x → Side5c V x → Reachable5c V x
  | next (x y : Snap2.Sys) : Reachable5c V x → Snap5.Trans x y → Side5c V y → Reachable5c V y

theorem rm_trans {x y : Snap2.Sys} (hI : Inv2 V x) (hS : Side5c V x)
    (hr : ∀ i, (x.node i).ldr.removeLTE ≤ (x.node i).snapIndex) (ht : Snap5.Trans x y) :
    ∀ i, (y.node i).ldr.removeLTE ≤ (y.node i).snapIndex := by
  cases ht with
  | step i op ra ord src en hp =>
    exact nodes_stepS (P := fun s => s.ldr.removeLTE ≤ s.snapIndex) hr
      (C19Order.ordered_step _ op ra ord (SnapInst4.ordered_assemble hI i (hS.cfgord i) (hS.side.segs i) (hr i)) (reqOk5 hI en (hS.cfg i)) hp).removeLTE_le
  | crash i op ra ord src k retain sor n en hret hp hbc hn =>
    exact nodes_crashS (P := fun s => s.ldr.removeLTE ≤ s.snapIndex) hr
      (by rw [SnapInst4.restart_ldr _ retain sor n hn]; exact Nat.zero_le _)
  | send i q hi hl hrd hc => exact hr

theorem reachable5c (hV : V.Nodup) {x : Snap2.Sys} (h : Reachable5c V x) :
    Snap5.Reachable5 V x ∧ Side5c V x ∧ ∀ i, Order.Ordered (x.node i) := by
  have key : Snap5.Reachable5 V x ∧ Side5c V x := by
    induction h with
    | init x hi hs =>
      exact ⟨.init x hi.init ⟨hs.side, fun i => by rw [hi.rm i]; exact Nat.zero_le _⟩, hs⟩
    | next x y _ ht hs ih =>
      obtain ⟨hI, hS5⟩ := inv5_reachable hV ih.1
      exact ⟨.next x y ih.1 ht ⟨hs.side, rm_trans hI.inv2 ih.2 hS5.rm ht⟩, hs⟩
  obtain ⟨hI, hS5⟩ := inv5_reachable hV key.1
  exact ⟨key.1, key.2, fun i => SnapInst4.ordered_assemble hI.inv2 i (key.2.cfgord i) (key.2.side.segs i) (hS5.rm i)⟩

end

end SnapDelay
end Raft
