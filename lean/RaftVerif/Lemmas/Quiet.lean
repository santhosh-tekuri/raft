/-
The quiet handlers: those that write neither the log, the commit index, the state machine, the configurations nor the
leader record (`onVoteRequest`, `onTimeoutNow`, `followerTimeout`, `startElection`, `onVoteResult`, `checkQuorum`,
`onTakeSnapshot`, `rejectEntries`, `rpcDone`). Each is walked in the `_of` form: for any predicate, from exactly the
updates the handler makes, each with what its call site knows. `QuietClosed op Inv` collects these updates for the handling
of one operation `op`, so that the guard of `setVotedFor` may quote the vote request being handled (`VoteWhy.grant`), and
the guard of `setRole` says why the role is set (`RoleWhy`).
-/
import RaftVerif.Lemmas.Shape

namespace Raft
namespace Node

/-- why `setVotedFor t c` is called on `s` while `op` is handled (a call with the term and vote as they are changes nothing) -/
inductive VoteWhy (op : Op) (s : Node) (t c : Nat) : Prop
  /-- a vote request of a higher term that is not granted: the node has stepped down, the vote stays open -/
  | none : s.term < t → s.role = .follower → c = 0 → VoteWhy op s t c
  /-- the self vote of `startElection` -/
  | self : t = s.term + 1 → c = s.nid → VoteWhy op s t c
  /-- the vote the request `q` being handled asks for, after the up-to-date check: in a higher term (the node has stepped
  down), or in the node's term with the vote still open -/
  | grant (q : VoteReq) : op = .vote q → t = q.term → c = q.src →
      (s.term < t ∧ s.role = .follower) ∨ (t = s.term ∧ s.votedFor = 0) →
      ¬ (s.lastLogTerm > q.lastLogTerm ∨ (s.lastLogTerm = q.lastLogTerm ∧ s.lastLogIndex > q.lastLogIndex)) →
      VoteWhy op s t c

/-- why `setRole r` is called on `s`: `follower.onTimeout` and `onTimeoutNowRequest` have tested that the node is a voter -/
inductive RoleWhy (s : Node) : Role → Prop
  | follower : RoleWhy s .follower
  | candidate : s.configs.latest.isVoter s.nid = true → RoleWhy s .candidate
  | leader : s.role = .candidate → RoleWhy s .leader

section
variable {Inv : Node → Prop}

theorem checkQuorum_of (panic : ∀ s site, Inv s → Inv (s.panic site))
    (toFollower : ∀ s : Node, Inv s → Inv (s.setRole .follower)) (setLeader : ∀ (s : Node) l, Inv s → Inv (s.setLeader l))
    (s : Node) (hs : Inv s) : Inv s.checkQuorum := by
  unfold Node.checkQuorum
  extract_lets vs reachable s1
  have h1 : Inv s1 := ite_ind (fun _ => panic _ _ hs) fun _ => hs
  clear_value s1
  exact ite_ind (fun _ => h1) fun _ => setLeader _ _ (toFollower _ h1)

/-- the node that `startElection` promotes at once (a quorum of one) has the role `s` had -/
theorem startElection_of (s : Node) (panic : ∀ s site, Inv s → Inv (s.panic site))
    (votesNeeded : ∀ (s : Node) v, Inv s → Inv (s.withVotesNeeded v))
    (voteSelf : ∀ x : Node, Inv x → Inv (x.setVotedFor (x.term + 1) x.nid))
    (toLeader : ∀ x : Node, Inv x → x.role = s.role → Inv (x.setRole .leader))
    (setLeader : ∀ (s : Node) l, Inv s → Inv (s.setLeader l)) (hs : Inv s) : Inv s.startElection := by
  unfold Node.startElection
  extract_lets s1 s2 s3 s4
  have h1 : Inv s1 := by unfold s1 Node.assert; exact ite_ind (fun _ => hs) fun _ => panic _ _ hs
  have h4 : Inv s4 := votesNeeded _ _ (voteSelf _ (votesNeeded _ _ h1))
  have hr4 : s4.role = s.role := by
    show (s2.setVotedFor (s2.term + 1) s2.nid).role = _
    rw [setVotedFor_shape]
    show (s.assert _ _).role = _
    rw [assert_shape]
  clear_value s4
  exact ite_ind (fun _ => setLeader _ _ (toLeader _ h4 hr4)) fun _ => h4

theorem onVoteResult_of (s : Node) (toFollower : ∀ s : Node, Inv s → Inv (s.setRole .follower))
    (setTerm : ∀ (s : Node) t, Inv s → s.role = .follower → Inv (s.setTerm t))
    (votesNeeded : ∀ (s : Node) v, Inv s → Inv (s.withVotesNeeded v))
    (toLeader : ∀ x : Node, Inv x → x.role = s.role → Inv (x.setRole .leader))
    (setLeader : ∀ (s : Node) l, Inv s → Inv (s.setLeader l)) (e : Bool) (t r : Nat) (hs : Inv s) :
    Inv (s.onVoteResult e t r) := by
  unfold Node.onVoteResult
  refine ite_ind (fun _ => hs) fun _ => ?_
  refine ite_ind (fun _ => setTerm _ _ (toFollower _ hs) rfl) fun _ => ?_
  refine ite_ind (fun _ => ?_) fun _ => hs
  have h1 := votesNeeded s (s.votesNeeded - 1) hs
  exact ite_ind (fun _ => setLeader _ _ (toLeader _ h1 rfl)) fun _ => h1

theorem followerTimeout_of (setLeader : ∀ (s : Node) l, Inv s → Inv (s.setLeader l))
    (toCandidate : ∀ x : Node, Inv x → x.configs.latest.isVoter x.nid = true → Inv (x.setRole .candidate))
    (s : Node) (hs : Inv s) : Inv s.followerTimeout := by
  unfold Node.followerTimeout
  refine ite_ind (fun hc => toCandidate _ (setLeader _ _ hs) ?_) fun _ => setLeader _ _ hs
  unfold Node.canStartElection at hc
  rw [Bool.and_eq_true] at hc
  exact hc.2

theorem onTimeoutNow_of (ret : ∀ (s : Node) r, Inv s → Inv (s.ret r))
    (toCandidate : ∀ x : Node, Inv x → x.configs.latest.isVoter x.nid = true → Inv (x.setRole .candidate))
    (setLeader : ∀ (s : Node) l, Inv s → Inv (s.setLeader l))
    (candTransfer : ∀ (s : Node) v, Inv s → Inv (s.withCandTransfer v)) (s : Node) (hs : Inv s) : Inv s.onTimeoutNow := by
  unfold Node.onTimeoutNow
  refine ite_ind (fun _ => ret _ _ hs) fun hv => ?_
  refine ret _ _ (candTransfer _ _ (setLeader _ _ (toCandidate _ hs ?_)))
  cases hh : s.configs.latest.isVoter s.nid with
  | true => rfl
  | false => rw [hh] at hv; exact absurd rfl hv

theorem setVotedFor_same (s : Node) : s.setVotedFor s.term s.votedFor = s := by
  unfold Node.setVotedFor
  exact if_neg fun h => h.elim (fun a => a rfl) (fun a => a rfl)

/-- The deferred `setVotedFor` of a vote request: where it writes the term and vote the node has, the state is unchanged;
otherwise it enters the higher term of the request (the node has stepped down) with the vote open or granted, or grants
the vote that was open. -/
theorem onVoteRequest_of (q : VoteReq) (ret : ∀ (s : Node) r, Inv s → Inv (s.ret r))
    (toFollower : ∀ s : Node, Inv s → Inv (s.setRole .follower))
    (voteNone : ∀ (x : Node) t, Inv x → x.term < t → x.role = .follower → Inv (x.setVotedFor t 0))
    (voteGrant : ∀ (x : Node) t, Inv x → t = q.term →
      (x.term < t ∧ x.role = .follower) ∨ (t = x.term ∧ x.votedFor = 0) →
      ¬ (x.lastLogTerm > q.lastLogTerm ∨ (x.lastLogTerm = q.lastLogTerm ∧ x.lastLogIndex > q.lastLogIndex)) →
      Inv (x.setVotedFor t q.src))
    (s : Node) (hs : Inv s) : Inv (s.onVoteRequest q) := by
  unfold Node.onVoteRequest
  refine ite_ind (fun _ => ret _ _ hs) fun _ => ?_
  refine ite_ind (fun _ => ret _ _ hs) fun hlt => ?_
  extract_lets vf tm s1
  have h1 : Inv s1 := ite_ind (fun _ => toFollower _ hs) fun _ => hs
  have htm : tm = q.term := by
    unfold tm; split
    · rfl
    · omega
  have hvf : (s1.term < tm ∧ s1.role = .follower ∧ vf = 0) ∨ (tm = s1.term ∧ vf = s1.votedFor) := by
    by_cases hgt : q.term > s.term
    · unfold s1 vf; rw [if_pos hgt, if_pos hgt, htm]; exact Or.inl ⟨hgt, rfl, rfl⟩
    · unfold s1 vf; rw [if_neg hgt, if_neg hgt, htm]; exact Or.inr ⟨by omega, rfl⟩
  clear_value s1 vf tm
  have asIs : Inv (s1.setVotedFor tm vf) := by
    rcases hvf with ⟨a, r, h0⟩ | ⟨a, b⟩
    · rw [h0]; exact voteNone _ _ h1 a r
    · rw [a, b, setVotedFor_same]; exact h1
  refine ite_ind (fun _ => ret _ _ asIs) fun hv => ?_
  refine ite_ind (fun _ => ret _ _ asIs) fun hup => ret _ _ (voteGrant _ _ h1 htm ?_ hup)
  rcases hvf with ⟨a, r, _⟩ | ⟨a, b⟩
  · exact Or.inl ⟨a, r⟩
  · exact Or.inr ⟨a, b ▸ Decidable.not_not.mp hv⟩

theorem rpcDone_of (panic : ∀ s site, Inv s → Inv (s.panic site)) (rpcReply : ∀ (s : Node) r, Inv s → Inv (s.withRpcReply r))
    (s : Node) (a b : Bool) (hs : Inv s) : Inv (s.rpcDone a b) := by
  unfold Node.rpcDone
  exact ite_ind (fun _ => panic _ _ (rpcReply _ _ hs)) fun _ => rpcReply _ _ hs

theorem onTakeSnapshot_of (reply : ∀ s t r, Inv s → Inv (s.reply t r))
    (snapPending : ∀ (s : Node) v, Inv s → Inv (s.withSnapPending v)) (s : Node) (t th : Nat) (hs : Inv s) :
    Inv (s.onTakeSnapshot t th) := by
  unfold Node.onTakeSnapshot
  exact ite_ind (fun _ => reply _ _ _ hs) fun _ => snapPending _ _ hs

theorem rejectEntries_of (reply : ∀ s t r, Inv s → Inv (s.reply t r)) (s : Node) (batch : List QItem) (hs : Inv s) :
    Inv (s.rejectEntries batch) := by
  induction batch generalizing s with
  | nil => exact hs
  | cons q qs ih =>
    unfold Node.rejectEntries
    exact ih _ (ite_ind (fun _ => reply _ _ _ hs) fun _ => reply _ _ _ hs)

/-- `Shutdown` after the node is closed and its role released (`pre`): a running snapshot finishes (`snapRun`, of
`pre` only) and its result is delivered -/
theorem shutdown_of (s : Node)
    (pre : Inv ((s.doClose "serverClosed").releaseRole (s.doClose "serverClosed").role))
    (snapRun : Inv ((s.doClose "serverClosed").releaseRole (s.doClose "serverClosed").role).snapRun)
    (taken : ∀ x : Node, Inv x → Inv x.onSnapshotTaken) : Inv s.shutdown := by
  unfold Node.shutdown
  extract_lets s1 s2 s3
  have h3 : Inv s3 := ite_ind (fun _ => snapRun) fun _ => pre
  exact ite_ind (fun _ => taken _ h3) fun _ => h3

end

/-- the updates of the quiet handlers while `op` is handled -/
structure QuietClosed (op : Op) (Inv : Node → Prop) : Prop where
  panic : ∀ s site, Inv s → Inv (s.panic site)
  setRole : ∀ (s : Node) r, Inv s → RoleWhy s r → Inv (s.setRole r)
  setLeader : ∀ (s : Node) l, Inv s → Inv (s.setLeader l)
  ret : ∀ (s : Node) r, Inv s → Inv (s.ret r)
  rpcReply : ∀ (s : Node) r, Inv s → Inv (s.withRpcReply r)
  votesNeeded : ∀ (s : Node) v, Inv s → Inv (s.withVotesNeeded v)
  candTransfer : ∀ (s : Node) v, Inv s → Inv (s.withCandTransfer v)
  setTerm : ∀ (s : Node) t, Inv s → Inv (s.setTerm t)
  vote : ∀ (s : Node) t c, Inv s → VoteWhy op s t c → Inv (s.setVotedFor t c)
  reply : ∀ s t r, Inv s → Inv (s.reply t r)
  snapPending : ∀ (s : Node) v, Inv s → Inv (s.withSnapPending v)

namespace QuietClosed
variable {op : Op} {Inv : Node → Prop} (h : QuietClosed op Inv)
include h

theorem toFollower (s : Node) (hs : Inv s) : Inv (s.setRole .follower) := h.setRole s _ hs .follower

theorem toCandidate (s : Node) (hs : Inv s) (hv : s.configs.latest.isVoter s.nid = true) : Inv (s.setRole .candidate) :=
  h.setRole s _ hs (.candidate hv)

theorem checkQuorum_inv (s : Node) (hs : Inv s) : Inv s.checkQuorum := checkQuorum_of h.panic h.toFollower h.setLeader s hs

theorem startElection_inv (s : Node) (hs : Inv s) (hr : s.role = .candidate) : Inv s.startElection :=
  startElection_of s h.panic h.votesNeeded (fun x hx => h.vote x _ _ hx (.self rfl rfl))
    (fun x hx e => h.setRole x _ hx (.leader (e.trans hr))) h.setLeader hs

theorem onVoteResult_inv (s : Node) (e : Bool) (t r : Nat) (hs : Inv s) (hr : s.role = .candidate) :
    Inv (s.onVoteResult e t r) :=
  onVoteResult_of s h.toFollower (fun x t hx _ => h.setTerm x t hx) h.votesNeeded
    (fun x hx e => h.setRole x _ hx (.leader (e.trans hr)))
    h.setLeader e t r hs

theorem followerTimeout_inv (s : Node) (hs : Inv s) : Inv s.followerTimeout :=
  followerTimeout_of h.setLeader h.toCandidate s hs

theorem onTimeoutNow_inv (s : Node) (hs : Inv s) : Inv s.onTimeoutNow :=
  onTimeoutNow_of h.ret h.toCandidate h.setLeader h.candTransfer s hs

theorem onVoteRequest_inv (s : Node) (q : VoteReq) (hop : op = .vote q) (hs : Inv s) : Inv (s.onVoteRequest q) :=
  onVoteRequest_of q h.ret h.toFollower (fun x t hx hlt hr => h.vote x t 0 hx (.none hlt hr rfl))
    (fun x t hx ht hw hup => h.vote x t q.src hx (.grant q hop ht rfl hw hup)) s hs

theorem rpcDone_inv (s : Node) (a b : Bool) (hs : Inv s) : Inv (s.rpcDone a b) := rpcDone_of h.panic h.rpcReply s a b hs

theorem onTakeSnapshot_inv (s : Node) (t th : Nat) (hs : Inv s) : Inv (s.onTakeSnapshot t th) :=
  onTakeSnapshot_of h.reply h.snapPending s t th hs

theorem rejectEntries_inv (s : Node) (batch : List QItem) (hs : Inv s) : Inv (s.rejectEntries batch) :=
  rejectEntries_of h.reply s batch hs

end QuietClosed

end Node
end Raft
