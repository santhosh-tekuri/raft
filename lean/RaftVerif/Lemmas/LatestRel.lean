/-
Lemmas for C19 / C08 (content): "the latest configuration is the newest configuration entry in log ∪ snapshot",
as an inductive invariant of `Node.step`.

With a contiguous log the configurations carry the index of their entry, so `newest log L m` (`Track.newest`) is stable
between its own index and `m` (`newest_stable`), and every configuration at or below `m` has an index at or below that of
`newest log L m` (`newest_ge`). `LNc` is the invariant proper on the components it looks at, `LN s` the same at the last log
index, `Pend s c` the state between `storage.appendEntry` of a configuration entry and the `Raft.changeConfig` that adopts
it. `LI` adds `LN` to `Track.TI` and goes through `step` as an instance of `Track.Carries` / `Track.Handles` (`li_stepAll`);
`LNc.of_scan`: what `openStorage` finds satisfies it. The last part carries `CfgRel.CfgLog` through the follower's
append-entries handler (`ci_onAppendEntries`) — the case `Lemmas/ConfigRel.lean` leaves open.
-/
import RaftVerif.Lemmas.ConfigTrack
import RaftVerif.Lemmas.ConfigRel

namespace Raft
namespace Latest
open Node Track

def seg (log : NLog) (j m : Nat) : List Config :=
  ((log.entries.take (m - log.prev)).drop (j - log.prev)).filterMap Entry.config?

theorem pre_split (log : NLog) {j m : Nat} (h : j ≤ m) : pre log m = pre log j ++ seg log j m := by
  unfold pre seg
  rw [← List.filterMap_append]
  congr 1
  have e : log.entries.take (j - log.prev) = (log.entries.take (m - log.prev)).take (j - log.prev) := by
    rw [List.take_take]; congr 1; omega
  rw [e, List.take_append_drop]

theorem seg_index {log : NLog} (hc : C03.LogContig log) {j m : Nat} {c : Config} (h : c ∈ seg log j m) :
    j < c.index ∧ c.index ≤ m ∧ log.prev < c.index := by
  unfold seg at h
  obtain ⟨e, he, hcfg⟩ := List.mem_filterMap.mp h
  obtain ⟨k, hk, rfl⟩ := List.getElem_of_mem he
  rw [List.length_drop, List.length_take] at hk
  rw [(Entry.config?_facts hcfg).2.1, List.getElem_drop, List.getElem_take, hc _ (by omega)]
  omega

theorem pre_beyond (log : NLog) {m : Nat} (h : log.last ≤ m) : pre log m = pre log log.last := by
  unfold pre NLog.last at *
  rw [List.take_of_length_le (by omega), List.take_of_length_le (by omega)]

theorem pre_last (log : NLog) : pre log log.last = log.entries.filterMap Entry.config? := by
  unfold pre NLog.last
  rw [List.take_of_length_le (by omega)]

theorem newest_beyond (log : NLog) (L : Config) {m : Nat} (h : log.last ≤ m) : newest log L m = newest log L log.last := by
  unfold newest; rw [pre_beyond log h]

theorem newest_mem {log : NLog} {m : Nat} (L : Config) (hne : pre log m ≠ []) : newest log L m ∈ pre log m := by
  unfold newest
  cases hl : (pre log m).getLast? with
  | none => exact absurd (List.getLast?_eq_none_iff.mp hl) hne
  | some c => exact List.mem_of_getLast? hl

theorem newest_stable {log : NLog} (hc : C03.LogContig log) (L : Config) {j m : Nat}
    (hj : (newest log L m).index ≤ j) (hjm : j ≤ m) : pre log j = pre log m := by
  have hs := pre_split log hjm
  cases ht : seg log j m with
  | nil => rw [hs, ht, List.append_nil]
  | cons a t =>
    exfalso
    have hne' : seg log j m ≠ [] := by rw [ht]; exact List.cons_ne_nil _ _
    obtain ⟨c, hcl⟩ : ∃ c, (seg log j m).getLast? = some c := by
      cases hg : (seg log j m).getLast? with
      | none => exact absurd (List.getLast?_eq_none_iff.mp hg) hne'
      | some c => exact ⟨c, rfl⟩
    have hn : newest log L m = c := by
      unfold newest
      rw [hs, List.getLast?_append, hcl]; rfl
    have := (seg_index hc (List.mem_of_getLast? hcl)).1
    rw [hn] at hj
    omega

theorem newest_ge {log : NLog} (hc : C03.LogContig log) (L : Config) {m : Nat} {c : Config} (h : c ∈ pre log m) :
    c.index ≤ (newest log L m).index := by
  have hne : pre log m ≠ [] := List.ne_nil_of_mem h
  have hn := pre_index hc (newest_mem L hne)
  by_cases hle : c.index ≤ (newest log L m).index
  · exact hle
  · exfalso
    have e := newest_stable hc L (Nat.le_refl _) hn.2
    rw [← e] at h
    have := (pre_index hc h).2
    omega

theorem newest_relabel (log : NLog) (L : Config) {j m : Nat} (h : j ≤ m) :
    newest log (newest log L j) m = newest log L m := by
  by_cases hn : pre log m = []
  · rw [newest_of_nil _ hn, newest_of_nil _ hn, newest_of_nil _ (pre_nil_of_le log h hn)]
  · exact newest_of_ne _ _ hn

theorem pre_dropLast {log : NLog} (hc : C03.LogContig log) {m : Nat} {c : Config}
    (h : (pre log m).getLast? = some c) : pre log m = pre log (c.index - 1) ++ [c] := by
  have hmem : c ∈ pre log m := List.mem_of_getLast? h
  obtain ⟨h1, h2⟩ := pre_index hc hmem
  have hn : newest log c m = c := by unfold newest; rw [h]; rfl
  have e := newest_stable hc c (by rw [hn]; exact Nat.le_refl _) h2
  have hs := pre_split log (show c.index - 1 ≤ c.index by omega)
  -- the range `(c.index - 1, c.index]` holds at most one entry
  have hlen : (seg log (c.index - 1) c.index).length ≤ 1 := by
    unfold seg
    refine Nat.le_trans (List.length_filterMap_le _ _) ?_
    rw [List.length_drop, List.length_take]
    omega
  rw [← e, hs] at h ⊢
  match hsg : seg log (c.index - 1) c.index, hlen with
  | [], _ =>
    exfalso
    rw [hsg, List.append_nil] at h
    have := (pre_index hc (List.mem_of_getLast? h)).2
    omega
  | [x], _ =>
    rw [hsg] at h
    rw [List.getLast?_append] at h
    simp only [List.getLast?_singleton, Option.some_or] at h
    injection h with h
    rw [h]
  | _ :: _ :: _, hl => simp at hl

theorem pre_append_le (l : NLog) (e : Entry) (roll : Bool) {j : Nat} (h : j ≤ l.last) :
    pre (l.append e roll) j = pre l j := by
  obtain ⟨p1, p2⟩ := NLog.append_parts l e roll
  unfold pre
  rw [p1, p2, List.take_append_of_le_length (by unfold NLog.last at h; omega)]

theorem pre_append_last (l : NLog) (e : Entry) (roll : Bool) :
    pre (l.append e roll) (l.append e roll).last = pre l l.last ++ (e.config?).toList := by
  obtain ⟨_, p2⟩ := NLog.append_parts l e roll
  rw [pre_last, pre_last, p2, List.filterMap_append]
  cases hcfg : e.config? <;> simp [hcfg]

theorem pre_commitN (l : NLog) (n j : Nat) : pre (l.commitN n) j = pre l j := by
  obtain ⟨e1, e2, _⟩ := NLog.commitN_same l n
  unfold pre; rw [e1, e2]

theorem last_commitN (l : NLog) (n : Nat) : (l.commitN n).last = l.last := by
  obtain ⟨e1, e2, _⟩ := NLog.commitN_same l n
  unfold NLog.last; rw [e1, e2]

theorem pre_removeGTE (l : NLog) (i j : Nat) : pre (l.removeGTE i) j = pre l (min j (i - 1)) := by
  unfold pre
  show ((l.entries.take (i - 1 - l.prev)).take (j - l.prev)).filterMap _ = _
  rw [List.take_take]
  congr 2
  omega

/-- compaction at or below a self-consistent label does not change the newest configuration at or above it -/
theorem newest_compacted {log log' : NLog} {L : Config} {si m : Nat} (h : Compacted log log') (hsi : log'.prev ≤ si)
    (hl : newest log L si = L) (hm : si ≤ m) : newest log' L m = newest log L m := by
  have hp := h.pre m (by omega)
  by_cases hn : pre log' m = []
  · rw [newest_of_nil _ hn]
    have hn' : pre log' si = [] := pre_nil_of_le log' hm hn
    have hps := h.pre si hsi
    rw [hn', List.append_nil] at hps
    rw [hn, List.append_nil] at hp
    have : newest log L m = newest log L si := by unfold newest; rw [hp, hps]
    rw [this, hl]
  · unfold newest
    rw [hp, List.getLast?_append]
    cases hg : (pre log' m).getLast? with
    | none => exact absurd (List.getLast?_eq_none_iff.mp hg) hn
    | some c => rfl

/-- **The invariant proper**, on the components it looks at. `log`, `L`: the log and the label of the newest
snapshot; `cs`: the node's configurations; `ci`: its commit index; `m`: the cut-off (the last log index, except between
the append of a configuration entry and its adoption).
* `latest`: `cs.latest` is the newest configuration entry at or below `m`, else the label;
* `committed`: `cs.committed` is `cs.latest` itself, or lies strictly below it and — as long as the commit index has
  not passed `cs.latest.index` — is the newest configuration strictly below `cs.latest` (entry, else label): the
  PREVIOUS latest configuration. -/
structure LNc (log : NLog) (L : Config) (cs : Configs) (ci m : Nat) : Prop where
  latest : cs.latest = newest log L m
  committed : cs.committed = cs.latest ∨
    (cs.committed.index < cs.latest.index ∧
      (ci < cs.latest.index → cs.committed = newest log L (cs.latest.index - 1)))

/-- log, label, commit index and cut-off change, but neither the newest configuration at the cut-off nor (while it
matters) the newest one strictly below `cs.latest` does -/
theorem LNc.transfer {log log' : NLog} {L L' : Config} {cs : Configs} {ci ci' m m' : Nat} (h : LNc log L cs ci m)
    (hm : newest log' L' m' = newest log L m)
    (hc : ci' < cs.latest.index → ci < cs.latest.index ∧
      newest log' L' (cs.latest.index - 1) = newest log L (cs.latest.index - 1)) : LNc log' L' cs ci' m' := by
  refine ⟨by rw [hm]; exact h.latest, ?_⟩
  rcases h.committed with h1 | ⟨h1, h2⟩
  · exact Or.inl h1
  · exact Or.inr ⟨h1, fun hlt => by obtain ⟨a, b⟩ := hc hlt; rw [b]; exact h2 a⟩

/-- `Raft.commitConfig` -/
theorem LNc.commit {log : NLog} {L : Config} {cs : Configs} {ci ci' m : Nat} (h : LNc log L cs ci m) :
    LNc log L ⟨cs.latest, cs.latest⟩ ci' m := ⟨h.latest, Or.inl rfl⟩

/-- the state between the append of a configuration entry `c` (at index `m`) and its adoption -/
structure PendC (log : NLog) (L : Config) (cs : Configs) (ci m : Nat) (c : Config) : Prop where
  before : LNc log L cs ci (m - 1)
  pre : pre log m = pre log (m - 1) ++ [c]
  index : c.index = m
  newer : cs.latest.index < c.index

/-- `Raft.changeConfig` adopting the entry just appended -/
theorem PendC.adopt {log : NLog} {L : Config} {cs : Configs} {ci m : Nat} {c : Config} (h : PendC log L cs ci m c) :
    LNc log L ⟨cs.latest, c⟩ ci m := by
  refine ⟨?_, Or.inr ⟨h.newer, fun _ => ?_⟩⟩
  · show c = newest log L m
    unfold newest
    rw [h.pre, List.getLast?_append]
    rfl
  · show cs.latest = newest log L (c.index - 1)
    rw [h.index]; exact h.before.latest

/-- truncation at an index at or below `cs.latest.index` (and above the commit index and `cs.committed.index`) followed
by `Raft.revertConfig`: the previous latest configuration is the newest one again -/
theorem LNc.revert {log log' : NLog} {L : Config} {cs : Configs} {ci m i : Nat} (hc : C03.LogContig log)
    (h : LNc log L cs ci m) (h1 : cs.committed.index < i) (h2 : ci < i) (h3 : i ≤ cs.latest.index)
    (hpre : ∀ j, pre log' j = pre log (min j (i - 1))) : LNc log' L ⟨cs.committed, cs.committed⟩ ci (i - 1) := by
  refine ⟨?_, Or.inl rfl⟩
  show cs.committed = newest log' L (i - 1)
  rcases h.committed with e | ⟨_, e⟩
  · rw [e] at h1; omega
  · have hcm := e (by omega)
    have hn : newest log' L (i - 1) = newest log L (i - 1) := by
      unfold newest; rw [hpre, Nat.min_self]
    rw [hn]
    by_cases hnil : pre log (cs.latest.index - 1) = []
    · rw [hcm, newest_of_nil _ hnil, newest_of_nil _ (pre_nil_of_le log (by omega) hnil)]
    · have hst := newest_stable hc L (j := i - 1) (m := cs.latest.index - 1) (by rw [← hcm]; omega) (by omega)
      rw [hcm]
      unfold newest; rw [hst]

/-- truncation above `cs.latest.index` -/
theorem LNc.truncAbove {log log' : NLog} {L : Config} {cs : Configs} {ci m i : Nat} (hc : C03.LogContig log)
    (h : LNc log L cs ci m) (h3 : cs.latest.index < i) (him : i - 1 ≤ m)
    (hpre : ∀ j, pre log' j = pre log (min j (i - 1))) : LNc log' L cs ci (i - 1) := by
  refine h.transfer ?_ (fun hlt => ⟨hlt, ?_⟩)
  · have hn : newest log' L (i - 1) = newest log L (i - 1) := by
      unfold newest; rw [hpre, Nat.min_self]
    rw [hn]
    by_cases hnil : pre log m = []
    · rw [newest_of_nil _ hnil, newest_of_nil _ (pre_nil_of_le log him hnil)]
    · have hst := newest_stable hc L (j := i - 1) (m := m) (by rw [← h.latest]; omega) him
      unfold newest; rw [hst]
  · unfold newest
    rw [hpre]
    congr 3
    omega

/-- no configuration entry at all: both configurations are the label -/
theorem LNc.fresh {log : NLog} {L : Config} {ci m : Nat} (h : pre log m = []) : LNc log L ⟨L, L⟩ ci m :=
  ⟨(newest_of_nil L h).symm, Or.inl rfl⟩

/-- **The latest configuration is the newest configuration entry the node's log or snapshot contains** (and the
committed one is the latest or the previous latest): `LNc` for the node's log, the label of its newest snapshot
(`Track.label`), its configurations and commit index, at the last log index. Entries at or below the snapshot index
that the log still holds do not matter: the label is the newest configuration at or below the snapshot index
(`Track.Core.lab`), see `LN.above_snapshot`. -/
def LN (s : Node) : Prop := LNc s.log (label s) s.configs s.commitIndex s.log.last

/-- the four views a node keeps of `cfgAt` (head of Lemmas/ConfigTrack.lean): nothing but the clauses of `Core` and `LN`
that speak of configurations -/
structure Views (s : Node) : Prop where
  label : label s = cfgAt s s.snapIndex
  fsm : 0 < s.fsm.config.index → s.fsm.config = cfgAt s s.fsm.index
  latest : s.configs.latest = cfgAt s s.log.last
  committed : s.configs.committed = s.configs.latest ∨
    (s.configs.committed.index < s.configs.latest.index ∧
      (s.commitIndex < s.configs.latest.index → s.configs.committed = cfgAt s (s.configs.latest.index - 1)))

theorem views {s : Node} (c : Core s) (l : LN s) : Views s := ⟨c.lab.symm, c.fsmOk.cfgPos, l.latest, l.committed⟩

/-- the state between `storage.appendEntry` of a configuration entry `c` and `Raft.changeConfig c` -/
def Pend (s : Node) (c : Config) : Prop := PendC s.log (label s) s.configs s.commitIndex s.log.last c

/-- what `LN` and `Pend` look at -/
def obsL (s : Node) : NLog × List SnapFile × Configs × Nat := (s.log, s.snapsDisk, s.configs, s.commitIndex)

theorem obsL_eq {s s' : Node} (h : obsL s' = obsL s) :
    s'.log = s.log ∧ s'.snapsDisk = s.snapsDisk ∧ s'.configs = s.configs ∧ s'.commitIndex = s.commitIndex := by
  simp only [obsL, Prod.mk.injEq] at h
  exact h

theorem LN.congr {s s' : Node} (h : LN s) (e : obsL s' = obsL s) : LN s' := by
  obtain ⟨e1, e2, e3, e4⟩ := obsL_eq e
  unfold LN
  rw [e1, label_congr e2, e3, e4]
  exact h

theorem Pend.congr {s s' : Node} {c : Config} (h : Pend s c) (e : obsL s' = obsL s) : Pend s' c := by
  obtain ⟨e1, e2, e3, e4⟩ := obsL_eq e
  unfold Pend
  rw [e1, label_congr e2, e3, e4]
  exact h

theorem obsL_of {s s' : Node} (h1 : Order.obs s' = Order.obs s) (h2 : obsT s' = obsT s) : obsL s' = obsL s := by
  obtain ⟨_, a2, _, _, a5, a6, _⟩ := Order.obs_eq h1
  obtain ⟨_, b2, _⟩ := obsT_eq h2
  unfold obsL
  rw [a2, b2, a6, a5]

/-- **with a self-consistent label the entries at or below the snapshot index do not matter**: `configs.latest` is
the newest configuration entry ABOVE the snapshot index, and the snapshot's label if there is none. -/
theorem LN.above_snapshot {s : Node} (h : LN s) (hlab : newest s.log (label s) s.snapIndex = label s)
    (hle : s.snapIndex ≤ s.log.last) :
    s.configs.latest = ((seg s.log s.snapIndex s.log.last).getLast?).getD (label s) := by
  rw [h.latest]
  unfold newest
  rw [pre_split s.log hle, List.getLast?_append]
  cases hg : (seg s.log s.snapIndex s.log.last).getLast? with
  | none => exact hlab
  | some c => rfl

/-- The invariant of a step that started in `s₀`: orderings and tracking (`Track.TI`) and, while the step has not
panicked, `LN`. -/
def LI (s₀ : Node) (b g : Bool) (s : Node) : Prop := TI s₀ b g s ∧ (s.panicked = none → LN s)

variable {s₀ : Node} {b g : Bool}

theorem LI.dropQ {s : Node} (h : LI s₀ b g s) : LI s₀ b false s := ⟨h.1.dropQ, h.2⟩
theorem LI.weaken {s : Node} (h : LI s₀ true g s) : LI s₀ b g s := ⟨h.1.weaken, h.2⟩
theorem LI.toFalse {s : Node} (h : LI s₀ b g s) : LI s₀ false g s := ⟨h.1.toFalse, h.2⟩

theorem LI.core {s : Node} (h : LI s₀ b g s) (hp : s.panicked = none) : Core s := (h.1.2 hp).1
theorem LI.coreW {s : Node} (h : LI s₀ b g s) (hp : s.panicked = none) : Order.CoreW s := h.1.coreW hp

theorem LI.of_ti {s s' : Node} {b' g' : Bool} (h : LI s₀ b g s) (ht : TI s₀ b' g' s') (e : obsL s' = obsL s)
    (hp : s'.panicked = none → s.panicked = none) : LI s₀ b' g' s' :=
  ⟨ht, fun hp' => (h.2 (hp hp')).congr e⟩

theorem LI.irr {s s' : Node} (h : LI s₀ b g s) (hi : Order.Irr s s') (e : obsT s' = obsT s) : LI s₀ b g s' :=
  ⟨h.1.irr hi e, fun hp => (h.2 (hi.2 hp)).congr (obsL_of hi.1 e)⟩

theorem li_panic (s : Node) (site : String) : LI s₀ b g (s.panic site) :=
  ⟨ti_panic s site, fun h => absurd h (panic_panicked_ne s site)⟩

theorem li_point {s : Node} (n : String) (h : LI s₀ b g s) : LI s₀ b g (s.point n) := h.irr (Order.irr_point s n) rfl
theorem li_setTerm {s : Node} (t : Nat) (h : LI s₀ b g s) : LI s₀ b g (s.setTerm t) :=
  h.irr (Order.irr_setTerm s t) (obsT_setTerm s t)
theorem li_setVotedFor {s : Node} (t c : Nat) (h : LI s₀ b g s) : LI s₀ b g (s.setVotedFor t c) :=
  h.irr (Order.irr_setVotedFor s t c) (obsT_setVotedFor s t c)

theorem li_ldr {s : Node} {l : Leader} (h : LI s₀ b g s) (hl : s.panicked = none → l.removeLTE ≤ s.snapIndex)
    (hq : ∀ q ∈ l.queue, q ∈ s.ldr.queue) : LI s₀ b g (s.withLdr l) :=
  h.of_ti (ti_ldr h.1 hl hq) rfl id

theorem li_snapResult {s : Node} (v : Option SnapRes) (h : LI s₀ b g s)
    (hg : s.panicked = none → ∀ rs, v = some rs → rs.index ≤ s.snapIndex) : LI s₀ b g (s.withSnapResult v) :=
  h.of_ti (ti_snapResult v h.1 hg) rfl id

theorem li_withLast {s : Node} (i t : Nat) (h : LI s₀ b g s) (hg : s.panicked = none → s.lastLogIndex = i) :
    LI s₀ b g (s.withLast i t) :=
  h.of_ti (ti_withLast i t h.1 hg) rfl id

theorem LN.of_parts {s : Node} {log : NLog} {L : Config} {cs : Configs} {ci : Nat} (e1 : s.log = log)
    (e2 : label s = L) (e3 : s.configs = cs) (e4 : s.commitIndex = ci) (h : LNc log L cs ci log.last) : LN s := by
  unfold LN; rw [e1, e2, e3, e4]; exact h

/-- `Raft.changeConfig` adopting the configuration entry just appended (`Pend`) -/
theorem li_changeConfigR {s : Node} (cfg : Config) (h : TI s₀ b g s)
    (hg : s.panicked = none → s.configs.latest.index ≤ cfg.index ∧ cfg.index ≤ s.lastLogIndex)
    (hpend : s.panicked = none → Pend s cfg) : LI s₀ b g (s.changeConfigR cfg) := by
  refine ⟨ti_changeConfigR cfg h hg, fun hp => ?_⟩
  obtain ⟨c1, c2, _, _, _, _, c7, c8, _, _, c11⟩ := changeConfigR_other s cfg
  rw [c11] at hp
  exact LN.of_parts c2 (label_congr c7) c1 c8 (hpend hp).adopt

theorem li_commitConfig {s : Node} (h : LI s₀ b g s) : LI s₀ b g s.commitConfig := by
  refine ⟨ti_commitConfig h.1, fun hp => ?_⟩
  obtain ⟨c1, c2, _, _, _, _, c7, c8, _, _, c11⟩ := commitConfig_other s
  rw [c11] at hp
  exact LN.of_parts c2 (label_congr c7) c1 c8 (h.2 hp).commit

theorem li_withCommitIndex {s : Node} {b' : Bool} (i : Nat) (h : LI s₀ b g s)
    (hg : s.panicked = none → s.fsm.index ≤ i ∧ (b' = true → i ≤ s.lastLogIndex))
    (hci : s.panicked = none → s.commitIndex ≤ i) : LI s₀ b' g (s.withCommitIndex i) := by
  refine ⟨ti_withCommitIndex i h.1 hg, fun hp => ?_⟩
  have hp' : s.panicked = none := hp
  exact LN.of_parts (s := s.withCommitIndex i) (log := s.log) (L := label s) (cs := s.configs) (ci := i) rfl rfl rfl rfl
    ((h.2 hp').transfer rfl (fun hlt => ⟨by have := hci hp'; omega, rfl⟩))

theorem li_setCommitIndexR {s : Node} {b' : Bool} (i : Nat) (h : LI s₀ b g s)
    (hg : s.panicked = none → s.fsm.index ≤ i ∧ (b' = true → i ≤ s.lastLogIndex))
    (hci : s.panicked = none → s.commitIndex ≤ i) : LI s₀ b' g (s.setCommitIndexR i).1 := by
  unfold Node.setCommitIndexR
  split
  · exact (li_commitConfig (li_withCommitIndex i h hg hci)).irr (Order.irr_afterConfigCommit _)
      (obsT_afterConfigCommit _)
  · exact li_withCommitIndex i h hg hci

theorem appendEntry_obs (s : Node) (e : Entry) :
    ∃ roll, (s.appendEntry e).log = s.log.append e roll ∧ (s.appendEntry e).snapsDisk = s.snapsDisk ∧
      (s.appendEntry e).configs = s.configs ∧ (s.appendEntry e).commitIndex = s.commitIndex := by
  unfold Node.appendEntry
  dsimp only
  obtain ⟨_, a2, _, _, a5, a6, _⟩ :=
    Order.obs_eq (Order.irr_assert s (e.index == s.lastLogIndex + 1) "assert.appendEntry").1
  obtain ⟨_, t2, _⟩ := obsT_eq (obsT_assert s (e.index == s.lastLogIndex + 1) "assert.appendEntry")
  exact ⟨_, by rw [a2], t2, a6, a5⟩

/-- `storage.appendEntry` of an entry that is not a (decodable) configuration entry -/
theorem li_appendEntry {s : Node} {g' : Bool} (e : Entry) (h : LI s₀ b g' s)
    (hq : g = true → s.panicked = none → ∀ q ∈ s.ldr.queue, isLogEntryTyp q.typ = true → s.log.prev < q.index →
      s.log.get? q.index = some q.toEntry ∨ (q.index = e.index ∧ q.toEntry = e))
    (hcfg : e.config? = none) : LI s₀ b g (s.appendEntry e) := by
  refine ⟨ti_appendEntry e h.1 hq, fun hp => ?_⟩
  obtain ⟨he, hp'⟩ := Order.appendEntry_ok hp
  obtain ⟨roll, a1, a2, a3, a4⟩ := appendEntry_obs s e
  have cw := h.coreW hp'
  refine LN.of_parts a1 (label_congr a2) a3 a4 ((h.2 hp').transfer ?_ (fun hlt => ⟨hlt, ?_⟩))
  · unfold newest
    rw [pre_append_last, hcfg]
    simp
  · unfold newest
    rw [pre_append_le _ _ _ (by have := cw.latest_le_last; have := cw.last_eq; omega)]

theorem li_appendEntry' {s : Node} (e : Entry) (h : LI s₀ b g s) (hcfg : e.config? = none) :
    LI s₀ b g (s.appendEntry e) :=
  li_appendEntry e h (fun hg hp q hq ht hlt => Or.inl ((h.1.2 hp).2 hg q hq ht hlt)) hcfg

/-- `storage.appendEntry` of a configuration entry: the adoption is pending -/
theorem pend_appendEntry {s : Node} {g' : Bool} (e : Entry) (c : Config) (h : LI s₀ b g' s) (hcfg : e.config? = some c)
    (hp : (s.appendEntry e).panicked = none) : Pend (s.appendEntry e) c := by
  obtain ⟨he, hp'⟩ := Order.appendEntry_ok hp
  obtain ⟨roll, a1, a2, a3, a4⟩ := appendEntry_obs s e
  have cw := h.coreW hp'
  have hlast : (s.log.append e roll).last = s.log.last + 1 := NLog.last_append _ _ _
  have hll := cw.latest_le_last
  have hle := cw.last_eq
  unfold Pend
  rw [a1, label_congr a2, a3, a4]
  refine ⟨?_, ?_, ?_, ?_⟩
  · rw [hlast, Nat.add_sub_cancel]
    exact (h.2 hp').transfer (by unfold newest; rw [pre_append_le _ _ _ (Nat.le_refl _)])
      (fun hlt => ⟨hlt, by unfold newest; rw [pre_append_le _ _ _ (by omega)]⟩)
  · rw [pre_append_last, hcfg, hlast, Nat.add_sub_cancel, pre_append_le _ _ _ (Nat.le_refl _)]
    rfl
  · rw [(Entry.config?_facts hcfg).2.1, he, hlast, hle]
  · rw [(Entry.config?_facts hcfg).2.1, he]; omega

theorem li_commitLog {s : Node} (n : Nat) (h : LI s₀ b g s) : LI s₀ b g (s.commitLog n) := by
  refine ⟨ti_commitLog n h.1, fun hp => ?_⟩
  have hp' : s.panicked = none := hp
  refine LN.of_parts (s := s.commitLog n) (log := s.log.commitN n) (L := label s) (cs := s.configs)
    (ci := s.commitIndex) rfl rfl rfl rfl
    ((h.2 hp').transfer ?_ (fun hlt => ⟨hlt, ?_⟩))
  · unfold newest; rw [pre_commitN, last_commitN]
  · unfold newest; rw [pre_commitN]

/-- a pending adoption survives `storage.commitLog` (bootstrap) -/
theorem pend_commitLog {s : Node} {c : Config} (n : Nat) (h : Pend s c) : Pend (s.commitLog n) c := by
  unfold Pend at h ⊢
  show PendC (s.log.commitN n) (label s) s.configs s.commitIndex (s.log.commitN n).last c
  rw [last_commitN]
  refine ⟨h.before.transfer ?_ (fun hlt => ⟨hlt, ?_⟩), ?_, h.index, h.newer⟩
  · unfold newest; rw [pre_commitN]
  · unfold newest; rw [pre_commitN]
  · rw [pre_commitN, pre_commitN]; exact h.pre

/-- `Raft.compactLog` at or below the snapshot index: the label stands in for the dropped configurations -/
theorem li_compactLog {s : Node} (i : Nat) (h : LI s₀ b g s) (hg : s.panicked = none → i ≤ s.snapIndex) :
    LI s₀ b g (s.compactLog i) := by
  refine ⟨ti_compactLog i h.1 hg, fun hp => ?_⟩
  have hp' : s.panicked = none := hp
  have c := h.core hp'
  have cw := h.coreW hp'
  obtain ⟨_, _, _, hor, hl, _, _⟩ := C09.removeLTE_whole_segments s.log i cw.segs
  have hcomp := compacted_removeLTE s.log i cw.segs
  have hi := hg hp'
  have hps : (s.log.removeLTE i).prev ≤ s.snapIndex := by
    have := cw.prev_le_snap
    rcases hor with e | e <;> omega
  have hsa := cw.snap_le_applied
  have hac := cw.applied_le_commit
  have hfl := c.fsmLe
  refine LN.of_parts (s := s.compactLog i) (log := s.log.removeLTE i) (L := label s) (cs := s.configs)
    (ci := s.commitIndex) rfl rfl rfl rfl
    ((h.2 hp').transfer ?_ (fun hlt => ⟨hlt, ?_⟩))
  · rw [hl]; exact newest_compacted hcomp hps c.lab (by omega)
  · exact newest_compacted hcomp hps c.lab (by omega)

/-- "delete the conflicting entry and all that follow it" (+ `revertConfig` when the latest configuration goes) -/
theorem li_resolveConflict {s : Node} (ne : Entry) (pt : Nat) (h : LI s₀ true g s)
    (hg : s.panicked = none → ne.index ≤ s.lastLogIndex →
      s.snapIndex < ne.index ∧ s.commitIndex < ne.index ∧ s.configs.committed.index < ne.index) :
    LI s₀ true false (s.resolveConflict ne pt) := by
  refine ⟨ti_resolveConflict ne pt h.1 hg, fun hp => ?_⟩
  have hp' := resolveConflict_sticky s ne pt hp
  have c := h.core hp'
  have cw := h.coreW hp'
  have hln := h.2 hp'
  unfold Node.resolveConflict
  split
  · rename_i hle
    obtain ⟨g1, g2, g3⟩ := hg hp' hle
    have hprev : s.log.prev < ne.index := by have := cw.prev_le_snap; omega
    have hlast : (s.log.removeGTE ne.index).last = ne.index - 1 :=
      NLog.last_removeGTE _ _ hprev (by rw [← cw.last_eq]; exact hle)
    split
    · exact hln.congr (obsL_of (Order.irr_panic _ _).1 (obsT_panic _ _))
    · dsimp only
      split
      · rename_i hlat
        have hlat' : ne.index ≤ s.configs.latest.index := hlat
        refine LN.of_parts (s := (s.removeGTE ne.index pt).revertConfig) (log := s.log.removeGTE ne.index)
          (L := label s) (cs := ⟨s.configs.committed, s.configs.committed⟩) (ci := s.commitIndex) rfl rfl rfl rfl ?_
        rw [hlast]
        exact hln.revert c.contig g3 g2 hlat' (pre_removeGTE s.log ne.index)
      · rename_i hlat
        have hlat' : ¬ ne.index ≤ s.configs.latest.index := hlat
        refine LN.of_parts (s := s.removeGTE ne.index pt) (log := s.log.removeGTE ne.index) (L := label s)
          (cs := s.configs) (ci := s.commitIndex) rfl rfl rfl rfl ?_
        rw [hlast]
        exact hln.truncAbove c.contig (by omega) (by rw [← cw.last_eq]; omega) (pre_removeGTE s.log ne.index)
  · exact hln

theorem obsL_fsmApply (s : Node) (items : List QItem) : obsL (s.fsmApply items) = obsL s := by
  have h1 := Order.fsmFrame_obsF.fsmApply_eq s items
  have h2 := fsmFrame_rest.fsmApply_eq s items
  simp only [Order.obsF, Prod.mk.injEq] at h1
  obtain ⟨_, a2, _, a4, a5, _⟩ := h1
  obtain ⟨_, b2, _⟩ := rest_eq h2
  unfold obsL; rw [a2, b2, a5, a4]

theorem li_fsmApply {s : Node} (items : List QItem) (h : LI s₀ b g s)
    (hit : s.panicked = none → ∀ q ∈ items, isLogEntryTyp q.typ = true → s.log.prev < q.index →
      s.log.get? q.index = some q.toEntry) :
    LI s₀ true g (s.fsmApply items) :=
  h.of_ti (ti_fsmApply items h.1 hit) (obsL_fsmApply s items) (fun hp => (Order.fsmApply_ok s items hp).1)

theorem li_applyCommitted {s : Node} (h : LI s₀ b g s) : LI s₀ true g s.applyCommitted :=
  li_fsmApply [] h (fun _ q hq => by cases hq)

theorem li_applyCommittedL {s : Node} (h : LI s₀ b true s) : LI s₀ true true s.applyCommittedL := by
  unfold Node.applyCommittedL
  dsimp only
  exact li_fsmApply _ (li_ldr h (fun hp => (h.coreW hp).removeLTE_le) (splitQueue_sub _ _).2)
    (fun hp q hq => (h.1.2 hp).2 rfl q ((splitQueue_sub _ _).1 q hq))

theorem li_push {s : Node} (q' : QItem) (h : LI s₀ b true s) (hq : isLogEntryTyp q'.typ ≠ true) :
    LI s₀ b true (s.withLdr { s.ldr with queue := s.ldr.queue ++ [q'] }) :=
  h.of_ti (ti_push q' h.1 hq) rfl id

theorem li_pushQ {s : Node} (q' : QItem) (h : LI s₀ b true s) :
    LI s₀ b false (s.withLdr { s.ldr with queue := s.ldr.queue ++ [q'] }) :=
  h.of_ti (ti_pushQ q' h.1) rfl id

theorem li_push_append {s : Node} (q' : QItem) (h : LI s₀ b true s) (hcfg : q'.toEntry.config? = none) :
    LI s₀ b true ((s.withLdr { s.ldr with queue := s.ldr.queue ++ [q'] }).appendEntry q'.toEntry) := by
  refine ⟨ti_push_append q' h.1, ?_⟩
  exact (li_appendEntry' (s₀ := s₀) (b := b) q'.toEntry (li_pushQ q' h) hcfg).2

theorem pend_push_append {s : Node} (q' : QItem) (c : Config) (h : LI s₀ b true s) (hcfg : q'.toEntry.config? = some c)
    (hp : ((s.withLdr { s.ldr with queue := s.ldr.queue ++ [q'] }).appendEntry q'.toEntry).panicked = none) :
    Pend ((s.withLdr { s.ldr with queue := s.ldr.queue ++ [q'] }).appendEntry q'.toEntry) c :=
  pend_appendEntry q'.toEntry c (li_pushQ q' h) hcfg hp

theorem li_ldr_sub {s : Node} {l : Leader} (h : LI s₀ b g s) (hl : l.removeLTE = s.ldr.removeLTE)
    (hq : ∀ q ∈ l.queue, q ∈ s.ldr.queue) : LI s₀ b g (s.withLdr l) :=
  h.of_ti (ti_ldr_sub h.1 hl hq) rfl id

theorem li_ldr_fresh {s : Node} {l : Leader} (h : LI s₀ b g s) (hl : s.panicked = none → l.removeLTE ≤ s.snapIndex)
    (hq : l.queue = []) : LI s₀ b true (s.withLdr l) :=
  h.of_ti (ti_ldr_fresh h.1 hl hq) rfl id

/-- between the append of a configuration entry and its adoption: `Track.TPre`, and the adoption is pending -/
def LPre (s₀ : Node) (b g : Bool) (s : Node) (c : Config) : Prop := TPre s₀ b g s c ∧ (s.panicked = none → Pend s c)

theorem li_carries (s₀ : Node) : Carries s₀ (LI s₀) (LPre s₀) where
  inv := fun h => h.1.1
  dropQ := LI.dropQ
  weaken := LI.weaken
  panic := li_panic
  irr := fun h hi e _ => h.irr hi e
  point := li_point
  setTerm := li_setTerm
  setVotedFor := li_setVotedFor
  ldr := li_ldr
  ldr_sub := li_ldr_sub
  ldr_fresh := li_ldr_fresh
  commitConfig := li_commitConfig
  setCommitIndexR := li_setCommitIndexR
  snapResult := li_snapResult
  commitLog := li_commitLog
  compactLog := li_compactLog
  applyCommitted := li_applyCommitted
  applyCommittedL := li_applyCommittedL
  push := li_push
  pushAppend := fun q' h hnc => li_push_append q' h (Entry.config?_none_of_typ hnc)
  pushPend := fun q' h hcfg => ⟨ti_pushPend q' h.1 hcfg, fun hp => pend_push_append q' _ h hcfg hp⟩
  adopt := fun h hl hq => li_changeConfigR _ (ti_ldr_same h.1.1 hl hq) h.1.2 (fun hp => (h.2 hp).congr rfl)

theorem block (s₀ : Node) (fuel : Nat) (b : Bool) :
    Block (LI s₀ false true) (LI s₀ b true) (fun c s => LPre s₀ b true s c) fuel :=
  (li_carries s₀).block fuel b

/-- `snapshotSink.done` at the FSM's position, labelled with the FSM's configuration: the new label is the newest
configuration at or below the new snapshot index, so nothing changes at or above it -/
theorem li_publishSnap {s : Node} (f : SnapFile) (h : LI s₀ b g s) (hidx : f.index = s.fsm.index)
    (hterm : f.term = s.fsm.term) (hcfg : 0 < s.fsm.config.index → f.config = s.fsm.config)
    (hpos : s.panicked = none → 0 < s.fsm.config.index) : LI s₀ b g (s.publishSnapshot f) := by
  refine ⟨ti_publishSnap f h.1 hidx hterm hcfg, fun hp => ?_⟩
  have hp' : s.panicked = none := hp
  have c := h.core hp'
  have cw := h.coreW hp'
  have hsa := cw.snap_le_applied
  have hac := cw.applied_le_commit
  have hfl := c.fsmLe
  have hh : ∀ g, s.snapsDisk.head? = some g → g.index ≤ f.index := fun g hg => by
    have := c.headLe g hg; omega
  have el : label (s.publishSnapshot f) = newest s.log (label s) s.fsm.index := by
    rw [label_publish s f c.retain hh, hcfg (hpos hp'), c.fsmOk.cfgPos (hpos hp')]
  refine LN.of_parts (s := s.publishSnapshot f) (log := s.log) (cs := s.configs) (ci := s.commitIndex) rfl el rfl rfl
    ((h.2 hp').transfer (newest_relabel _ _ hfl) (fun hlt => ⟨hlt, newest_relabel _ _ (by omega)⟩))

/-- the fallback of `doTakeSnapshot` ("label the snapshot with the configuration captured at request time when the FSM
reports none") is not taken in this state -/
def NoFallbackS (s : Node) : Prop :=
  ∀ rq, s.snapPending = some rq → s.fsm.index ≠ s.snapIndex → rq.minIndex ≤ s.fsm.index → 0 < s.fsm.config.index

theorem li_snapRun {s : Node} (h : LI s₀ b g s) (hfb : s.panicked = none → NoFallbackS s) : LI s₀ b g s.snapRun :=
  (li_carries s₀).snapRun_of h fun rq hrq hne hmin => li_publishSnap _ ((li_carries s₀).snapPending none h) rfl rfl
    (fun hpos => if_pos hpos) (fun hp => hfb hp rq hrq hne hmin)

theorem toEntry_config? (c : Config) : c.toEntry.config? = some c := by
  unfold Entry.config? Config.toEntry Config.payload
  rw [if_pos rfl]
  rfl

theorem li_bootstrap {s : Node} (t : Nat) (cfg : Config) (hs : LI s₀ b g s) : LI s₀ b g (s.bootstrap t cfg) := by
  refine (li_carries s₀).bootstrap_of t cfg hs ?_
  have hl := ti_bootStore (s₀ := s₀) { cfg with index := 1, term := 1 } hs.1
  refine li_changeConfigR _ hl.1 hl.2 (fun hp => ?_)
  have wp : ∀ (x : Node) i t, (x.withLast i t).panicked = none → x.panicked = none := fun _ _ _ h => h
  have hp1 : (s.appendEntry ({ cfg with index := 1, term := 1 } : Config).toEntry).panicked = none :=
    (Order.irr_setTerm ((s.appendEntry ({ cfg with index := 1, term := 1 } : Config).toEntry).commitLog 1) 1).2 (wp _ _ _ hp)
  have hpend := pend_commitLog 1 (pend_appendEntry _ _ hs (toEntry_config? _) hp1)
  have wl : ∀ (x : Node) i t c, Pend x c → Pend (x.withLast i t) c := fun _ _ _ _ h => h.congr rfl
  exact wl _ _ _ _ (hpend.congr (obsL_of (Order.irr_setTerm _ 1).1 (obsT_setTerm _ 1)))

theorem li_installPre {s : Node} (q : InstallReq) (h : LI s₀ b g s) : LI s₀ b g (installPre s q) :=
  h.irr (Order.irr_installPre s q) (obsT_installPre s q)

/-- the discard branch: the log is emptied at the new snapshot, both configurations are its label -/
theorem li_onInstallSnap {s : Node} (q : InstallReq) (h : LI s₀ true g s)
    (hok' : q.term < s.term ∨ q.lastIndex ≤ s.commitIndex ∨ Order.InstallOk q) :
    LI s₀ true false (s.onInstallSnap q) := by
  refine ⟨ti_onInstallSnap q h.1 hok', ?_⟩
  have hpre : LI s₀ true false (installPre s q) := (li_installPre q h).dropQ
  refine onInstallSnap_ind (Q := fun x => x.panicked = none → LN x) s q
    (fun _ => ((li_carries s₀).ret (b := true) _ h.dropQ).2) (fun _ => ((li_carries s₀).ret (b := true) _ hpre).2)
    (fun hterm hahead => ?_)
  intro hp
  obtain ⟨f1, _, _, _, _, f6, f7, _, _, _, f11, _⟩ :=
    C09.discardTail_fields ((installPre s q).publishSnapshot (C09.fileOf q)) q.lastConfig
  rw [f11] at hp
  obtain ⟨hpp, _⟩ := Order.fsmRestore_ok _ hp
  obtain ⟨d1, _, _, _⟩ := C09.discardPre_fields (installPre s q) (C09.fileOf q)
  have hpp' : (installPre s q).panicked = none := by rw [← d1]; exact hpp
  exact LN.of_parts f1 (label_discardTail q (hpre.core hpp') (hpre.coreW hpp') (by omega)) f7 f6
    (LNc.fresh (pre_reset _ _))

/-- **The fallback of `doTakeSnapshot` is not taken** by this operation (only `snapRun` — and `Shutdown`, which waits
for a pending snapshot — can take it): when the snapshot goroutine stores a snapshot, the FSM holds a configuration. -/
def NoFallback (s : Node) : Op → Prop
  | .snapRun => NoFallbackS s
  | .shutdown => NoFallbackS s
  | _ => True
theorem li_handles (s₀ : Node) : Handles s₀ (LI s₀) (LPre s₀) (fun _ => True)
    (fun s op => Order.ReqOk s op ∧ NoFallback s op) where
  toCarries := li_carries s₀
  reqOk := fun h => h.1
  okBegin := fun {_ op} _ _ h => ⟨by cases op <;> exact h.1, by cases op <;> exact h.2⟩
  acc := fun _ _ _ _ => trivial
  followerAppend := fun ne pt h _ hg => ⟨fun hn => li_appendEntry' ne (li_resolveConflict ne pt h hg) hn,
    fun c hc => ⟨⟨(ti_followerAppend ne pt h.1 hg).1, (ti_followerAppend ne pt h.1 hg).2 c hc⟩,
      fun hp => pend_appendEntry ne c (li_resolveConflict ne pt h hg) hc hp⟩⟩
  bootstrap := li_bootstrap
  snapRun := fun h hr => li_snapRun h (fun _ => hr.2)
  okShutdown := fun h e => ⟨trivial, keepS_congr (Q := fun p f i =>
    ∀ rq, p = some rq → f.index ≠ i → rq.minIndex ≤ f.index → 0 < f.config.index) e h.2⟩
  install := fun q h hr _ => li_onInstallSnap q h hr.1

theorem li_begin {s : Node} (ra : List Nat) (ord : List (List Nat)) (ho : Order.Ordered s) (c : Core s)
    (hq : g = true → QM s) (hl : LN s) : LI s true g (s.begin ra ord) :=
  ⟨ti_begin ra ord ho c hq, fun _ => hl.congr rfl⟩
/-- One step from an ordered, tracking state in which the latest configuration is the newest one,
for an acceptable operation that does not take the snapshot fallback, keeps the invariant relative to the state the
step started from. -/
theorem li_stepAll {s : Node} (op : Op) (ra : List Nat) (ord : List (List Nat)) (ho : Order.Ordered s)
    (c : Core s) (hq : s.role = .leader → QM s) (hl : LN s) (hr : Order.ReqOk s op) (hfb : NoFallback s op) :
    LI s true false (s.step op ra ord) :=
  ((li_handles s).stepAll op ra ord (fun _ hg => li_begin ra ord ho c (fun e => hq (hg e)) hl) ⟨hr, hfb⟩).1

/-- the newest two configuration entries above the snapshot index `sn` (newest first), each falling back to the
label — what `scanConfigs` returns (`C10.restart_configs`) — satisfy the invariant, when the label is the newest
configuration at or below `sn` and carries an index at or below `sn` -/
theorem LNc.of_scan {log : NLog} {L : Config} {sn ci : Nat} (hc : C03.LogContig log) (hsl : sn ≤ log.last)
    (hlab : newest log L sn = L) (hli : L.index ≤ sn) :
    LNc log L ⟨(((seg log sn log.last).reverse)[1]?).getD L, (((seg log sn log.last).reverse)[0]?).getD L⟩ ci
      log.last := by
  have hs := pre_split log hsl
  cases hR : (seg log sn log.last).reverse with
  | nil =>
    have hS : seg log sn log.last = [] := List.reverse_eq_nil_iff.mp hR
    refine ⟨?_, Or.inl rfl⟩
    show L = newest log L log.last
    unfold newest; rw [hs, hS, List.append_nil]; exact hlab.symm
  | cons c R' =>
    have hS : seg log sn log.last = R'.reverse ++ [c] := List.reverse_eq_cons_iff.mp hR
    have hlast : (pre log log.last).getLast? = some c := by
      rw [hs, hS, ← List.append_assoc, List.getLast?_concat]
    have hd := pre_dropLast hc hlast
    have hpre1 : pre log (c.index - 1) = pre log sn ++ R'.reverse := by
      apply List.append_cancel_right (bs := [c])
      rw [← hd, hs, hS, List.append_assoc]
    have hcmem : c ∈ seg log sn log.last := by rw [hS]; simp
    have hci := seg_index hc hcmem
    refine ⟨?_, Or.inr ⟨?_, fun _ => ?_⟩⟩
    · show c = newest log L log.last
      unfold newest; rw [hlast]; rfl
    · show ((R'[0]?).getD L).index < c.index
      cases R' with
      | nil => show L.index < c.index; omega
      | cons x R'' =>
        show x.index < c.index
        have hx : x ∈ pre log (c.index - 1) := by rw [hpre1]; simp
        have := (pre_index hc hx).2
        omega
    · show (R'[0]?).getD L = newest log L (c.index - 1)
      unfold newest
      rw [hpre1]
      cases R' with
      | nil => rw [List.reverse_nil, List.append_nil]; exact hlab.symm
      | cons x R'' =>
        rw [List.reverse_cons, ← List.append_assoc, List.getLast?_concat]
        rfl

/-! ## `CfgRel.CfgLog` through the append-entries handler

`CfgRel.CfgLog x`: every entry of type `entryConfig` in the log lies at or below `configs.committed.index` or is the
entry of `configs.latest`. `Props/C08Step.lean` carries it through every operation but the append request; here is the
follower's handler. The loop stops at an undecodable configuration entry with `err` set (the entry is in the log, not
adopted): `CfgLog` is claimed while `err` is not set — a request answered `unexpectedErr` makes `replyRPC` panic. -/

open CfgRel (CfgLog)

/-- the invariant of a step for `CfgLog` -/
def CI (s₀ : Node) (b g : Bool) (s : Node) : Prop := TI s₀ b g s ∧ (s.panicked = none → CfgLog s)

theorem cfgLog_congr {s s' : Node} (h : CfgLog s) (e1 : s'.log = s.log) (e2 : s'.configs = s.configs) : CfgLog s' := by
  unfold CfgLog at *
  rw [e1, e2]; exact h

theorem CI.irr {s s' : Node} (h : CI s₀ b g s) (hi : Order.Irr s s') (e : obsT s' = obsT s) : CI s₀ b g s' := by
  obtain ⟨_, a2, _, _, _, a6, _⟩ := Order.obs_eq hi.1
  exact ⟨h.1.irr hi e, fun hp => cfgLog_congr (h.2 (hi.2 hp)) a2 a6⟩

theorem CI.dropQ {s : Node} (h : CI s₀ b g s) : CI s₀ b false s := ⟨h.1.dropQ, h.2⟩

theorem ci_panic (s : Node) (site : String) : CI s₀ b g (s.panic site) :=
  ⟨ti_panic s site, fun h => absurd h (panic_panicked_ne s site)⟩
theorem ci_ret {s : Node} (r : Nat) (h : CI s₀ b g s) : CI s₀ b g (s.ret r) := h.irr (Order.irr_ret s r) rfl
theorem ci_setRole {s : Node} (r : Role) (h : CI s₀ b g s) : CI s₀ b g (s.setRole r) := h.irr (Order.irr_setRole s r) rfl
theorem ci_setLeader {s : Node} (l : Nat) (h : CI s₀ b g s) : CI s₀ b g (s.setLeader l) :=
  h.irr (Order.irr_setLeader s l) rfl
theorem ci_setTerm {s : Node} (t : Nat) (h : CI s₀ b g s) : CI s₀ b g (s.setTerm t) :=
  h.irr (Order.irr_setTerm s t) (obsT_setTerm s t)

theorem ci_commitLog {s : Node} (n : Nat) (h : CI s₀ b g s) : CI s₀ b g (s.commitLog n) := by
  refine ⟨ti_commitLog n h.1, fun hp => ?_⟩
  have hp' : s.panicked = none := hp
  have := h.2 hp'
  unfold CfgLog at *
  show ∀ e ∈ (s.log.commitN n).entries, _
  rw [(NLog.commitN_same s.log n).2.1]
  exact this

theorem ci_setCommitIndexR {s : Node} {b' : Bool} (i : Nat) (h : CI s₀ b g s)
    (hg : s.panicked = none → s.fsm.index ≤ i ∧ (b' = true → i ≤ s.lastLogIndex)) :
    CI s₀ b' g (s.setCommitIndexR i).1 := by
  refine ⟨ti_setCommitIndexR i h.1 hg, fun hp => ?_⟩
  rw [Node.setCommitIndexR_panicked] at hp
  have hcl := h.2 hp
  have hle := (h.1.coreW hp).committed_le_latest
  unfold Node.setCommitIndexR
  split
  · obtain ⟨_, a2, _, _, _, a6, _⟩ := Order.obs_eq (Order.irr_afterConfigCommit (s.withCommitIndex i).commitConfig).1
    obtain ⟨c1, c2, _⟩ := commitConfig_other (s.withCommitIndex i)
    have e1 : (s.withCommitIndex i).commitConfig.afterConfigCommit.log = s.log := by rw [a2, c2]; rfl
    have e2 : (s.withCommitIndex i).commitConfig.afterConfigCommit.configs = ⟨s.configs.latest, s.configs.latest⟩ := by
      rw [a6, c1]; rfl
    unfold CfgLog at *
    show ∀ e ∈ (s.withCommitIndex i).commitConfig.afterConfigCommit.log.entries, _
    rw [e1, e2]
    intro e he ht
    left
    show e.index ≤ s.configs.latest.index
    rcases hcl e he ht with h' | h' <;> omega
  · exact hcl

theorem ci_applyCommitted {s : Node} (h : CI s₀ b g s) : CI s₀ true g s.applyCommitted := by
  refine ⟨ti_applyCommitted h.1, fun hp => ?_⟩
  obtain ⟨e1, _, e3, _⟩ := obsL_eq (obsL_fsmApply s [])
  exact cfgLog_congr (h.2 (Order.fsmApply_ok s [] hp).1) e1 e3

theorem removeGTE_entries_lt {l : NLog} (hc : C03.LogContig l) (i : Nat) {e : Entry}
    (he : e ∈ (l.removeGTE i).entries) : e ∈ l.entries ∧ e.index < i := by
  have he' : e ∈ l.entries.take (i - 1 - l.prev) := he
  refine ⟨List.mem_of_mem_take he', ?_⟩
  obtain ⟨k, hk, rfl⟩ := List.getElem_of_mem he'
  rw [List.length_take] at hk
  rw [List.getElem_take, hc k (by omega)]
  omega

theorem ci_resolveConflict {s : Node} (ne : Entry) (pt : Nat) (h : CI s₀ true g s)
    (hg : s.panicked = none → ne.index ≤ s.lastLogIndex →
      s.snapIndex < ne.index ∧ s.commitIndex < ne.index ∧ s.configs.committed.index < ne.index) :
    CI s₀ true false (s.resolveConflict ne pt) := by
  refine ⟨ti_resolveConflict ne pt h.1 hg, fun hp => ?_⟩
  have hp' := resolveConflict_sticky s ne pt hp
  have c := (h.1.2 hp').1
  have hcl := h.2 hp'
  unfold Node.resolveConflict
  split
  · split
    · obtain ⟨_, a2, _, _, _, a6, _⟩ := Order.obs_eq (Order.irr_panic s "bug.mustGetEntry").1
      exact cfgLog_congr hcl a2 a6
    · dsimp only
      split
      · rename_i hlat
        have hlat' : ne.index ≤ s.configs.latest.index := hlat
        unfold CfgLog at *
        intro e he ht
        have he' : e ∈ (s.log.removeGTE ne.index).entries := he
        obtain ⟨hm, hlt⟩ := removeGTE_entries_lt c.contig ne.index he'
        left
        show e.index ≤ s.configs.committed.index
        rcases hcl e hm ht with h' | h' <;> omega
      · unfold CfgLog at *
        intro e he ht
        have he' : e ∈ (s.log.removeGTE ne.index).entries := he
        exact hcl e (List.mem_of_mem_take he') ht
  · exact hcl

/-- `storage.appendEntry` of an entry that is not of type `entryConfig` -/
theorem ci_appendEntry {s : Node} (e : Entry) (h : CI s₀ b g s) (ht : ¬ e.typ = etConfig) :
    CI s₀ b g (s.appendEntry e) := by
  refine ⟨ti_appendEntry' e h.1, fun hp => ?_⟩
  obtain ⟨_, hp'⟩ := Order.appendEntry_ok hp
  obtain ⟨roll, a1, _, a3, _⟩ := appendEntry_obs s e
  have hcl := h.2 hp'
  unfold CfgLog at *
  rw [a1, a3, (NLog.append_parts s.log e roll).2]
  intro x hx hxt
  rcases List.mem_append.mp hx with h1 | h1
  · exact hcl x h1 hxt
  · rw [List.mem_singleton.mp h1] at hxt; exact absurd hxt ht

/-- `storage.appendEntry` of a configuration entry followed by its adoption -/
theorem ci_append_adopt {s : Node} (e : Entry) (cfg : Config) (h : CI s₀ b g s) (hcfg : e.config? = some cfg) :
    CI s₀ b g ((s.appendEntry e).changeConfigR cfg) := by
  have h2 : TI s₀ b g (s.appendEntry e) := ti_appendEntry' e h.1
  have hci := (Entry.config?_facts hcfg).2.1
  have e2 : (s.appendEntry e).lastLogIndex = e.index := rfl
  refine ⟨ti_changeConfigR cfg h2 (fun hp => ?_), fun hp => ?_⟩
  · have := (h2.1 hp).1.latest_le_last
    rw [e2] at this
    exact ⟨by rw [hci]; exact this, by rw [hci, e2]; exact Nat.le_refl _⟩
  · obtain ⟨c1, c2, _, _, _, _, _, _, _, _, c11⟩ := changeConfigR_other (s.appendEntry e) cfg
    rw [c11] at hp
    obtain ⟨_, hp'⟩ := Order.appendEntry_ok hp
    obtain ⟨roll, a1, _, a3, _⟩ := appendEntry_obs s e
    have hcl := h.2 hp'
    have hle := (h.1.coreW hp').committed_le_latest
    unfold CfgLog at *
    rw [c2, c1, a1, a3, (NLog.append_parts s.log e roll).2]
    intro x hx hxt
    rcases List.mem_append.mp hx with h1 | h1
    · left
      show x.index ≤ s.configs.latest.index
      rcases hcl x h1 hxt with h' | h' <;> omega
    · right
      rw [List.mem_singleton.mp h1]
      exact hci.symm

/-- the loop state: `CfgLog` holds unless an undecodable configuration entry stopped the loop -/
def CE (s₀ : Node) (st : AppLoop) : Prop :=
  TI s₀ true false st.s ∧ (st.s.panicked = none → st.err = false → CfgLog st.s)

/-- **`CfgLog` through the append-entries handler**: while nothing failed and the request is not answered
`unexpectedErr` (an undecodable configuration entry; `replyRPC` then panics) -/
theorem ci_onAppendEntries {s : Node} (q : AppendReq) (h : CI s₀ true g s)
    (hok' : q.term < s.term ∨ Order.AppendOk s q) :
    TI s₀ true false (s.onAppendEntries q) ∧
    ((s.onAppendEntries q).panicked = none → (s.onAppendEntries q).result ≠ rUnexpectedErr →
      CfgLog (s.onAppendEntries q)) := by
  refine ⟨(ti_handles s₀).onAppendEntries q h.1 hok', ?_⟩
  rw [onAppendEntries_stages]
  split
  · exact fun hp _ => (ci_ret (s₀ := s₀) _ h.dropQ).2 hp
  · rename_i hterm
    have hok : Order.AppendOk s q := hok'.resolve_left hterm
    have hI2 := Order.irr_followPre s q.term q.src
    have h3 := Order.followPre_checked (R := CI s₀ true false) (fun h => h.1.1) ci_panic ci_ret
      (fun i h hg _ => ci_applyCommitted (ci_setCommitIndexR (b' := true) i h hg)) ci_setTerm ci_setRole ci_setLeader q
      h.dropQ
    split
    · exact fun hp _ => h3.2 hp
    · rename_i hres
      have hres' : ((followPre s q.term q.src).appendCheck q).result = 0 := Decidable.not_not.mp hres
      have hL := Order.appendLoop_checked (Q := CE s₀) (A := fun _ => True) (fun h => h.1.1) (fun _ _ _ h => h)
        (fun st ne hs herr _ _ hg => by
          have hRC : CI s₀ true false (st.s.resolveConflict ne st.term) :=
            ci_resolveConflict ne st.term ⟨hs.1, fun hp => hs.2 hp herr⟩ hg
          refine ⟨fun htyp => ?_, fun c hc => ?_, fun _ _ => ⟨ti_appendEntry' ne hRC.1, fun _ he => by cases he⟩⟩
          · have hA := ci_appendEntry ne hRC htyp
            exact ⟨hA.1, fun hp _ => hA.2 hp⟩
          · have hA := ci_append_adopt ne c hRC hc
            exact ⟨hA.1, fun hp _ => hA.2 hp⟩)
        q hI2 hok hres' (fun _ _ => trivial) ⟨h3.1, fun hp _ => h3.2 hp⟩
      generalize appendLoop _ q.entries = st at hL
      unfold afterLoop
      intro hp hres2
      -- the request was not answered `unexpectedErr`: the loop did not stop at an undecodable entry
      have herr : st.err = false := by
        cases he : st.err with
        | false => rfl
        | true =>
          exfalso
          apply hres2
          show (if st.err = true then rUnexpectedErr else rSuccess) = rUnexpectedErr
          rw [he]; rfl
      have h4 : CI s₀ true false st.s := ⟨hL.1.1, fun hp4 => hL.1.2 hp4 herr⟩
      refine (ci_ret (s₀ := s₀) _ (ite_ind (fun _ => ?_) fun _ => h4)).2 hp
      refine ite_ind (fun hcc => ?_) fun _ => ci_commitLog _ h4
      simp only [Node.canCommit, Bool.and_eq_true, decide_eq_true_eq] at hcc
      refine ci_applyCommitted (ci_setCommitIndexR (b' := true) _ (ci_commitLog _ h4) (fun hp => ?_))
      have hidx : st.index ≤ st.s.lastLogIndex := hL.2 hp
      have : (st.s.commitLog st.s.lastLogIndex).fsm.index ≤ (st.s.commitLog st.s.lastLogIndex).commitIndex :=
        ((ci_commitLog (s₀ := s₀) (b := true) (g := false) st.s.lastLogIndex h4).1.1 hp).1.applied_le_commit
      exact ⟨by omega, fun _ => hidx⟩

end Latest
end Raft
