/-
Snapshot erasure (stage 1 of the cluster system with snapshots).

`E σ s` forgets everything a node knows about snapshots: `snapIndex`, `snapTerm`, the snapshot files (in the state
and in every crash point of the current step). The handlers of every operation other than append / install
requests and the snapshot operations never read these fields, so they commute with `E` (an instance of
Lemmas/SnapBlind.lean): `(E σ s).step op ra ord = E σ (s.step op ra ord)` (`step_E`).
-/
import RaftVerif.Lemmas.SnapBlind

namespace Raft
namespace SnapRel
open Node

/-- snapshot data: `(snapIndex, snapTerm, snapshot files)` -/
abbrev SnapData := Nat × Nat × List SnapFile

def eraseD (σ : SnapData) (d : Durable) : Durable := { d with snaps := σ.2.2 }

def eraseP (σ : SnapData) (p : String × Durable) : String × Durable := (p.1, eraseD σ p.2)

/-- the node with its snapshot data (state and crash points of the current step) replaced by `σ`; `σ = (0, 0, [])`:
the node without its snapshot data -/
def E (σ : SnapData) (s : Node) : Node :=
  { s with snapIndex := σ.1, snapTerm := σ.2.1, snapsDisk := σ.2.2, trace := s.trace.map (eraseP σ) }

variable {σ : SnapData}

/-- the erasure as an update of fields the `Plain` handlers do not read -/
def erase (σ : SnapData) : Blind where
  index := fun _ => σ.1
  term := fun _ => σ.2.1
  files := fun _ => σ.2.2
  points := List.map (eraseP σ)
  failure := id
  snoc := fun t n d => by rw [List.map_append]; rfl
  first := fun o site => rfl

/-! ### fields, observations and field updates of an erased state -/

theorem E_cid (s : Node) : (E σ s).cid = s.cid := rfl
theorem E_nid (s : Node) : (E σ s).nid = s.nid := rfl
theorem E_retain (s : Node) : (E σ s).retain = s.retain := rfl
theorem E_shutdownOnRemove (s : Node) : (E σ s).shutdownOnRemove = s.shutdownOnRemove := rfl
theorem E_term (s : Node) : (E σ s).term = s.term := rfl
theorem E_votedFor (s : Node) : (E σ s).votedFor = s.votedFor := rfl
theorem E_durTerm (s : Node) : (E σ s).durTerm = s.durTerm := rfl
theorem E_durVote (s : Node) : (E σ s).durVote = s.durVote := rfl
theorem E_log (s : Node) : (E σ s).log = s.log := rfl
theorem E_lastLogIndex (s : Node) : (E σ s).lastLogIndex = s.lastLogIndex := rfl
theorem E_lastLogTerm (s : Node) : (E σ s).lastLogTerm = s.lastLogTerm := rfl
theorem E_configs (s : Node) : (E σ s).configs = s.configs := rfl
theorem E_leader (s : Node) : (E σ s).leader = s.leader := rfl
theorem E_commitIndex (s : Node) : (E σ s).commitIndex = s.commitIndex := rfl
theorem E_fsm (s : Node) : (E σ s).fsm = s.fsm := rfl
theorem E_votesNeeded (s : Node) : (E σ s).votesNeeded = s.votesNeeded := rfl
theorem E_candTransfer (s : Node) : (E σ s).candTransfer = s.candTransfer := rfl
theorem E_ldr (s : Node) : (E σ s).ldr = s.ldr := rfl
theorem E_snapPending (s : Node) : (E σ s).snapPending = s.snapPending := rfl
theorem E_snapResult (s : Node) : (E σ s).snapResult = s.snapResult := rfl
theorem E_closed (s : Node) : (E σ s).closed = s.closed := rfl
theorem E_rollAt (s : Node) : (E σ s).rollAt = s.rollAt := rfl
theorem E_orders (s : Node) : (E σ s).orders = s.orders := rfl
theorem E_replies (s : Node) : (E σ s).replies = s.replies := rfl
theorem E_rpcReply (s : Node) : (E σ s).rpcReply = s.rpcReply := rfl
theorem E_result (s : Node) : (E σ s).result = s.result := rfl
theorem E_panicked (s : Node) : (E σ s).panicked = s.panicked := rfl
theorem E_trace (s : Node) : (E σ s).trace = s.trace.map (eraseP σ) := rfl
theorem E_snapIndex (s : Node) : (E σ s).snapIndex = σ.1 := rfl
theorem E_snapTerm (s : Node) : (E σ s).snapTerm = σ.2.1 := rfl
theorem E_snapsDisk (s : Node) : (E σ s).snapsDisk = σ.2.2 := rfl
theorem E_durable (s : Node) : (E σ s).durable = eraseD σ s.durable := rfl
theorem E_findRepl? (s : Node) (id : Nat) : (E σ s).findRepl? id = s.findRepl? id := rfl
theorem E_replOrder (s : Node) : (E σ s).replOrder = s.replOrder := rfl
theorem E_voterMatches (s : Node) : (E σ s).voterMatches = s.voterMatches := rfl
theorem E_majorityMatchIndex (s : Node) : (E σ s).majorityMatchIndex = s.majorityMatchIndex := rfl
theorem E_canChangeConfig (s : Node) : (E σ s).canChangeConfig = s.canChangeConfig := rfl
theorem E_transferReady (s : Node) (id : Nat) : (E σ s).transferReady id = s.transferReady id := rfl
theorem E_tryTransferTarget (s : Node) : (E σ s).tryTransferTarget = s.tryTransferTarget := rfl
theorem E_validateTransfer (s : Node) (t : Nat) : (E σ s).validateTransfer t = s.validateTransfer t := rfl
theorem E_releaseResult (s : Node) : (E σ s).releaseResult = s.releaseResult := rfl
theorem E_notLeader (s : Node) (b : Bool) : (E σ s).notLeader b = s.notLeader b := rfl
theorem E_canStartElection (s : Node) : (E σ s).canStartElection = s.canStartElection := rfl
theorem E_isClosed (s : Node) : (E σ s).isClosed = s.isClosed := rfl
theorem E_entryTerm? (s : Node) (i : Nat) : (E σ s).entryTerm? i = s.entryTerm? i := rfl
theorem E_mkReply (s : Node) (a b : Bool) : (E σ s).mkReply a b = s.mkReply a b := rfl
theorem E_canCommit (s : Node) (q : AppendReq) (i t : Nat) : (E σ s).canCommit q i t = s.canCommit q i t := rfl
theorem E_setRole (s : Node) (r : Role) : (E σ s).setRole r = E σ (s.setRole r) := rfl
theorem E_popOrder (s : Node) : (E σ s).popOrder = E σ s.popOrder := rfl
theorem E_withLdr (s : Node) (l : Leader) : (E σ s).withLdr l = E σ (s.withLdr l) := rfl
theorem E_withFsm (s : Node) (f : Fsm) : (E σ s).withFsm f = E σ (s.withFsm f) := rfl
theorem E_withVotesNeeded (s : Node) (v : Int) : (E σ s).withVotesNeeded v = E σ (s.withVotesNeeded v) := rfl
theorem E_withCandTransfer (s : Node) (v : Bool) : (E σ s).withCandTransfer v = E σ (s.withCandTransfer v) := rfl
theorem E_withSnapPending (s : Node) (v : Option SnapReq) : (E σ s).withSnapPending v = E σ (s.withSnapPending v) := rfl
theorem E_withSnapResult (s : Node) (v : Option SnapRes) : (E σ s).withSnapResult v = E σ (s.withSnapResult v) := rfl
theorem E_withRpcReply (s : Node) (v : Option RpcReply) : (E σ s).withRpcReply v = E σ (s.withRpcReply v) := rfl
theorem E_withCommitIndex (s : Node) (i : Nat) : (E σ s).withCommitIndex i = E σ (s.withCommitIndex i) := rfl
theorem E_withLast (s : Node) (i t : Nat) : (E σ s).withLast i t = E σ (s.withLast i t) := rfl
theorem E_ret (s : Node) (r : Nat) : (E σ s).ret r = E σ (s.ret r) := rfl
theorem E_setLeader (s : Node) (l : Nat) : (E σ s).setLeader l = E σ (s.setLeader l) := rfl
theorem E_setRepl (s : Node) (r : Repl) : (E σ s).setRepl r = E σ (s.setRepl r) := rfl
theorem E_beginFinishedRounds (s : Node) : (E σ s).beginFinishedRounds = E σ s.beginFinishedRounds := rfl
theorem E_revertConfig (s : Node) : (E σ s).revertConfig = E σ s.revertConfig := rfl

/-- what the erased node is asked to do when the node handles `op`: a `TakeSnapshot` threshold counts from the
snapshot index, which the erased node has forgotten (replaced by `σ.1`) -/
def eraseOp (σ : SnapData) (s : Node) : Op → Op
  | .takeSnapshot t th => .takeSnapshot t (s.snapIndex + th - σ.1)
  | op => op

/-- the replaced snapshot index is not beyond the minimal index a `TakeSnapshot` asks for -/
def OpFits (σ : SnapData) (s : Node) : Op → Prop
  | .takeSnapshot _ th => σ.1 ≤ s.snapIndex + th
  | _ => True

theorem E_begin (s : Node) (ra : List Nat) (ord : List (List Nat)) : (E σ s).begin ra ord = E σ (s.begin ra ord) := rfl

theorem E_settle (f : Nat) (s : Node) (c : Role) : settle f (E σ s) c = E σ (settle f s c) := (erase σ).on_settle f s c

theorem handle_E (s : Node) (op : Op) (h : Plain op) (hf : OpFits σ s op) :
    (E σ s).handle (eraseOp σ s op) = E σ (s.handle op) := by
  by_cases ht : ∃ t th, op = .takeSnapshot t th
  · obtain ⟨t, th, rfl⟩ := ht
    exact (erase σ).on_onTakeSnapshot s t th _ (Nat.add_sub_cancel' hf)
  · have e : eraseOp σ s op = op := by cases op <;> first | rfl | exact absurd ⟨_, _, rfl⟩ ht
    rw [e]
    exact (erase σ).on_handle s op h (fun t th e => ht ⟨t, th, e⟩)

theorem step_E (s : Node) (op : Op) (ra : List Nat) (ord : List (List Nat)) (h : Plain op) (hf : OpFits σ s op) :
    (E σ s).step (eraseOp σ s op) ra ord = E σ (s.step op ra ord) := by
  have hb : eraseOp σ (s.begin ra ord) op = eraseOp σ s op := by cases op <;> rfl
  have hf' : OpFits σ (s.begin ra ord) op := by cases op <;> exact hf
  have hh := handle_E (σ := σ) (s.begin ra ord) op h hf'
  rw [hb] at hh
  unfold Node.step
  cases op <;> first | exact h.elim | (dsimp only; rw [E_begin, hh, E_settle]; try rfl)

end SnapRel
end Raft
