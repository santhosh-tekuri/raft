/-
Un-compaction, continued (Lemmas/SnapRelU.lean): the handlers outside the leader block, role transitions, replication
updates that report no compaction, and the complete step of the operations `UPlain`:
`(s.step op ra ord).panicked = none → (U β s).step op ra ord = U β (s.step op ra ord)`.
-/
import RaftVerif.Lemmas.SnapRelU
namespace Raft
namespace SnapRelU
open Node SnapRelP
variable {g : Nat → List Nat → List Nat} {β : List Entry}

@[uproj] theorem zrr_noContact' (r : Repl) : (zrr r).noContact = r.noContact := rfl
@[uproj] theorem zrr_matchIndex' (r : Repl) : (zrr r).matchIndex = r.matchIndex := rfl
@[uproj] theorem zrr_node' (r : Repl) : (zrr r).node = r.node := rfl
@[uproj] theorem zrr_round' (r : Repl) : (zrr r).round = r.round := rfl
@[uproj] theorem zrr_id' (r : Repl) : (zrr r).id = r.id := rfl

@[usimp] theorem U_checkQuorum (s : Node) : (U β s).checkQuorum = U β s.checkQuorum := by
  unfold Node.checkQuorum
  dsimp +instances only [uproj]
  -- the two observations of the replication table do not see the compaction bounds
  simp only [U_findRepl?, Option.isNone_map, match_sn_zrr, zrr_noContact, U_panic, U_setRole, U_setLeader, ite_U]

@[usimp] theorem W_transferReply (s : Node) (r : String) : (W g β s).transferReply r = W g β (s.transferReply r) := by
  unfold Node.transferReply
  have hp : True := trivial
  ucomm hp

@[usimp] theorem U_transferReply (s : Node) (r : String) : (U β s).transferReply r = U β (s.transferReply r) :=
  W_transferReply (g := uncG) s r

@[usimp] theorem U_tryTransfer (s : Node) : (U β s).tryTransfer = U β s.tryTransfer := by
  unfold Node.tryTransfer
  have hp : True := trivial
  ucomm hp

@[usimp] theorem U_onTransfer (s : Node) (t g : Nat) : (U β s).onTransfer t g = U β (s.onTransfer t g) := by
  unfold Node.onTransfer
  have hp : True := trivial
  ucomm hp

@[usimp] theorem U_replyTransfer (s : Node) (r : String) (hp : (s.replyTransfer r).panicked = none) :
    (U β s).replyTransfer r = U β (s.replyTransfer r) := by
  unfold Node.replyTransfer at hp ⊢
  ucomm hp

@[usimp] theorem U_onTimeoutNowResult (s : Node) (src : Nat) (e : Bool) (r : Nat)
    (hp : (s.onTimeoutNowResult src e r).panicked = none) :
    (U β s).onTimeoutNowResult src e r = U β (s.onTimeoutNowResult src e r) := by
  unfold Node.onTimeoutNowResult at hp ⊢
  dsimp only at hp ⊢
  rw [U_withLdr_keep]
  dsimp +instances only [uproj]
  generalize s.withLdr _ = s1 at hp ⊢
  by_cases he : e = true
  · rw [if_pos he] at hp
    rw [if_pos he, if_pos he, U_findRepl?]
    cases hf : s1.findRepl? src with
    | none =>
      rw [hf] at hp
      have := npk (k := fun x => if x.ldr.transfer.target = 0 then x.tryTransfer else x) (fun π x => by pcomm) hp
      exact absurd this (panic_panicked_ne _ _)
    | some st =>
      simp only [Option.map_some]
      have e2 : (if (!(zrr st).noContact) = true then (U β s1).setRepl { zrr st with noContact := true } else U β s1) =
          U β (if (!st.noContact) = true then s1.setRepl { st with noContact := true } else s1) := by
        by_cases hn : (!st.noContact) = true
        · rw [if_pos hn, if_pos (show (!(zrr st).noContact) = true from hn)]
          exact U_setRepl s1 { st with noContact := true }
        · rw [if_neg hn, if_neg (show ¬ (!(zrr st).noContact) = true from hn)]
      simp only [e2]
      generalize (if (!st.noContact) = true then s1.setRepl { st with noContact := true } else s1) = s2
      by_cases ht : s2.ldr.transfer.target = 0
      · rw [if_pos ht, if_pos (show (U β s2).ldr.transfer.target = 0 from ht), U_tryTransfer]
      · rw [if_neg ht, if_neg (show ¬ (U β s2).ldr.transfer.target = 0 from ht)]
  · rw [if_neg he] at hp
    rw [if_neg he, if_neg he]
    by_cases hr : r ≠ rSuccess
    · rw [if_pos hr] at hp
      rw [if_pos hr, if_pos hr]
      by_cases ht : s1.ldr.transfer.target = 0
      · rw [if_pos ht] at hp
        rw [if_pos ht, if_pos ht]
        exact U_replyTransfer s1 _ hp
      · rw [if_neg ht, if_neg ht, U_tryTransfer]
    · rw [if_neg hr, if_neg hr]
      rfl

/-! ### leader init / release, candidate, follower, role transitions -/

theorem U_withLdr_fresh (s : Node) (nd : CNode) (nv si : Nat) :
    (U β s).withLdr { node := nd, numVoters := nv, startIndex := si, removeLTE := (U β s).log.prev,
                      queue := [], repls := [], transfer := {}, waitStable := [] } =
      U β (s.withLdr { node := nd, numVoters := nv, startIndex := si, removeLTE := s.log.prev,
                       queue := [], repls := [], transfer := {}, waitStable := [] }) := rfl

theorem U_withLdr_released (s : Node) (nd : CNode) (nv si : Nat) :
    (U β s).withLdr { node := nd, numVoters := nv, startIndex := si, removeLTE := (U β s).ldr.removeLTE } =
      U β (s.withLdr { node := nd, numVoters := nv, startIndex := si, removeLTE := s.ldr.removeLTE }) := rfl

theorem W_withLdr_released (s : Node) (nd : CNode) (nv si : Nat) :
    (W g β s).withLdr { node := nd, numVoters := nv, startIndex := si, removeLTE := (W g β s).ldr.removeLTE } =
      W g β (s.withLdr { node := nd, numVoters := nv, startIndex := si, removeLTE := s.ldr.removeLTE }) := rfl

@[usimp] theorem U_leaderInit (s : Node) (hp : s.leaderInit.panicked = none) : (U β s).leaderInit = U β s.leaderInit := by
  unfold Node.leaderInit at hp ⊢
  dsimp only at hp ⊢
  have h1 := npk (k := fun x => storeEntry (fuelFor 1) x [{ typ := etNop }]) (fun π x => P_storeEntry _ x _) hp
  have h2 := npk (k := fun x => checkConfigActions (fuelFor 0) x 0 x.configs.latest) (fun π x => by pcomm) h1
  have e0 : ((U β s).assert ((U β s).leader == (U β s).nid) "assert.leaderInit").withLdr
        { node := ((U β s).assert ((U β s).leader == (U β s).nid) "assert.leaderInit").configs.latest.get
            ((U β s).assert ((U β s).leader == (U β s).nid) "assert.leaderInit").nid,
          numVoters := ((U β s).assert ((U β s).leader == (U β s).nid) "assert.leaderInit").configs.latest.numVoters,
          startIndex := ((U β s).assert ((U β s).leader == (U β s).nid) "assert.leaderInit").lastLogIndex + 1,
          removeLTE := ((U β s).assert ((U β s).leader == (U β s).nid) "assert.leaderInit").log.prev,
          queue := [], repls := [], transfer := {}, waitStable := [] } =
      U β ((s.assert (s.leader == s.nid) "assert.leaderInit").withLdr
        { node := (s.assert (s.leader == s.nid) "assert.leaderInit").configs.latest.get
            (s.assert (s.leader == s.nid) "assert.leaderInit").nid,
          numVoters := (s.assert (s.leader == s.nid) "assert.leaderInit").configs.latest.numVoters,
          startIndex := (s.assert (s.leader == s.nid) "assert.leaderInit").lastLogIndex + 1,
          removeLTE := (s.assert (s.leader == s.nid) "assert.leaderInit").log.prev,
          queue := [], repls := [], transfer := {}, waitStable := [] }) := by
    have := U_assert (β := β) s (s.leader == s.nid) "assert.leaderInit"
    rw [show (U β s).assert ((U β s).leader == (U β s).nid) "assert.leaderInit" = _ from this]
    exact U_withLdr_fresh _ _ _ _
  rw [e0]
  dsimp +instances only [uproj]
  rw [foldl_U (β := β) _ ?_ ?_ _ _ h2]
  · dsimp +instances only [uproj]
    rw [U_checkConfigActions _ _ _ _ h1, U_storeEntry _ _ _ hp]
  · intro x nd hx
    by_cases hid : nd.id = x.nid
    · rw [if_pos hid, if_pos (show nd.id = (U β x).nid from hid)]
    · rw [if_neg hid] at hx ⊢
      rw [if_neg (show ¬ nd.id = (U β x).nid from hid)]
      exact U_addReplication x nd hx
  · intro x nd hx
    by_cases hid : nd.id = x.nid
    · rw [if_pos hid] at hx; exact hx
    · rw [if_neg hid] at hx
      exact npk (k := fun y => y.addReplication nd) (fun π y => P_addReplication y nd) hx

@[usimp] theorem foldl_reply_W {α : Type} (k : α → Nat) (r : String) (xs : List α) (s : Node) :
    xs.foldl (fun s x => s.reply (k x) r) (W g β s) = W g β (xs.foldl (fun s x => s.reply (k x) r) s) :=
  Node.foldl_comm (W g β) _ (fun s x => W_reply s (k x) r) xs s

@[usimp] theorem W_leaderReleaseRest (s : Node) : (W g β s).leaderReleaseRest = W g β s.leaderReleaseRest := by
  unfold Node.leaderReleaseRest
  have hp : True := trivial
  ucomm hp [W_withLdr_released]

@[usimp] theorem W_leaderRelease (s : Node) : (W g β s).leaderRelease = W g β s.leaderRelease := by
  unfold Node.leaderRelease
  have hp : True := trivial
  ucomm hp

@[usimp] theorem U_startElection (s : Node) : (U β s).startElection = U β s.startElection := by
  unfold Node.startElection
  have hp : True := trivial
  ucomm hp

@[usimp] theorem U_onVoteResult (s : Node) (e : Bool) (t r : Nat) : (U β s).onVoteResult e t r = U β (s.onVoteResult e t r) := by
  unfold Node.onVoteResult
  have hp : True := trivial
  ucomm hp

@[usimp] theorem U_followerTimeout (s : Node) : (U β s).followerTimeout = U β s.followerTimeout := by
  unfold Node.followerTimeout
  have hp : True := trivial
  ucomm hp

@[usimp] theorem W_releaseRole (s : Node) (r : Role) : (W g β s).releaseRole r = W g β (s.releaseRole r) := by
  unfold Node.releaseRole
  have hp : True := trivial
  ucomm hp

@[usimp] theorem U_releaseRole (s : Node) (r : Role) : (U β s).releaseRole r = U β (s.releaseRole r) :=
  W_releaseRole (g := uncG) s r

@[usimp] theorem U_initRole (s : Node) (hp : s.initRole.panicked = none) : (U β s).initRole = U β s.initRole := by
  unfold Node.initRole at hp ⊢
  ucomm hp

theorem settle_sticky (f : Nat) : ∀ (s : Node) (c : Role), (settle f s c).panicked = none → s.panicked = none := by
  intro s c h
  exact npk (k := fun x => settle f x c) (fun π x => P_settle f x c) h

@[usimp] theorem U_settle (f : Nat) : ∀ (s : Node) (c : Role), (settle f s c).panicked = none →
    settle f (U β s) c = U β (settle f s c) := by
  induction f with
  | zero => intro s c _; rfl
  | succ n ih =>
    intro s c hp
    unfold settle at hp ⊢
    dsimp +instances only [uproj]
    by_cases hr : s.role = c
    · rw [if_pos hr, if_pos hr]
    · rw [if_neg hr] at hp ⊢
      rw [if_neg hr]
      dsimp only at hp ⊢
      have h1 : (s.releaseRole c).initRole.panicked = none := settle_sticky n _ _ hp
      rw [U_releaseRole, U_initRole _ h1]
      dsimp +instances only [uproj]
      exact ih _ _ hp

/-! ### RPC handlers and tasks -/

@[usimp] theorem U_onVoteRequest (s : Node) (q : VoteReq) : (U β s).onVoteRequest q = U β (s.onVoteRequest q) := by
  unfold Node.onVoteRequest
  have hp : True := trivial
  ucomm hp

@[usimp] theorem U_onTimeoutNow (s : Node) : (U β s).onTimeoutNow = U β s.onTimeoutNow := by
  unfold Node.onTimeoutNow
  have hp : True := trivial
  ucomm hp

@[usimp] theorem W_rpcDone (s : Node) (x y : Bool) : (W g β s).rpcDone x y = W g β (s.rpcDone x y) := by
  unfold Node.rpcDone
  have hp : True := trivial
  ucomm hp

@[usimp] theorem U_rpcDone (s : Node) (x y : Bool) : (U β s).rpcDone x y = U β (s.rpcDone x y) :=
  W_rpcDone (g := uncG) s x y

@[usimp] theorem U_onTakeSnapshot (s : Node) (t th : Nat) : (U β s).onTakeSnapshot t th = U β (s.onTakeSnapshot t th) := by
  unfold Node.onTakeSnapshot
  have hp : True := trivial
  ucomm hp

@[usimp] theorem U_rejectEntries (s : Node) (bt : List QItem) : (U β s).rejectEntries bt = U β (s.rejectEntries bt) := by
  induction bt generalizing s with
  | nil => rfl
  | cons q qs ih =>
    unfold Node.rejectEntries
    have hp : True := trivial
    ucomm hp [ih]

@[usimp] theorem U_onWaitForStable (s : Node) (t : Nat) : (U β s).onWaitForStable t = U β (s.onWaitForStable t) := by
  unfold Node.onWaitForStable
  have hp : True := trivial
  ucomm hp

/-! ### replication updates (without compaction reports) -/

/-- no update reports a compaction (`LogRel.NoCompact`) -/
def NoRm (us : List ReplUpdate) : Prop := ∀ u ∈ us, ∀ v, u.upd ≠ .removeLTE v

/-- `U` on the state component of the result of `replUpdLoop` -/
def Up (β : List Entry) (p : Node × UpdFlags) : Node × UpdFlags := (U β p.1, p.2)

theorem replUpdLoop_sticky (us : List ReplUpdate) (s : Node) (f : UpdFlags)
    (h : (replUpdLoop s f us).1.panicked = none) : s.panicked = none := by
  refine npk (k := fun x => (replUpdLoop x f us).1) (fun π x => ?_) h
  rw [P_replUpdLoop]; rfl

theorem U_replUpdLoop (us : List ReplUpdate) (hus : NoRm us) : ∀ (s : Node) (f : UpdFlags),
    (replUpdLoop s f us).1.panicked = none →
    replUpdLoop (U β s) f us = Up β (replUpdLoop s f us) ∧ ((replUpdLoop s f us).2.removeLTEU = f.removeLTEU) := by
  induction us with
  | nil => intro s f _; exact ⟨rfl, rfl⟩
  | cons u us ih =>
    intro s f hp
    have hus' : NoRm us := fun x hx => hus x (List.mem_cons_of_mem _ hx)
    have hu := hus u (List.mem_cons_self ..)
    unfold replUpdLoop at hp ⊢
    by_cases hr : u.removed = true
    · rw [if_pos hr] at hp ⊢
      rw [if_pos hr]
      exact ih hus' s f hp
    · rw [if_neg hr] at hp ⊢
      rw [if_neg hr, U_findRepl?]
      cases hf : s.findRepl? u.id with
      | none =>
        rw [hf] at hp
        exact ih hus' s f hp
      | some st =>
        rw [hf] at hp
        dsimp only [Option.map] at hp ⊢
        cases hupd : u.upd with
        | matchIndex v =>
          rw [hupd] at hp
          dsimp only at hp ⊢
          have hs := replUpdLoop_sticky us _ _ hp
          have e1 : (U β s).setRepl { zrr st with matchIndex := v } = U β (s.setRepl { st with matchIndex := v }) :=
            U_setRepl s { st with matchIndex := v }
          have e2 : (if (!(zrr st).node.voter) = true ∧ (zrr st).node.action ≠ actNone then
                checkConfigAction (fuelFor 0) ((U β s).setRepl { zrr st with matchIndex := v }) 0
                  ((U β s).setRepl { zrr st with matchIndex := v }).configs.latest (zrr st).id
              else (U β s).setRepl { zrr st with matchIndex := v }) =
              U β (if (!st.node.voter) = true ∧ st.node.action ≠ actNone then
                checkConfigAction (fuelFor 0) (s.setRepl { st with matchIndex := v }) 0
                  (s.setRepl { st with matchIndex := v }).configs.latest st.id
              else s.setRepl { st with matchIndex := v }) := by
            rw [e1]
            by_cases hc : (!st.node.voter) = true ∧ st.node.action ≠ actNone
            · rw [if_pos hc] at hs ⊢
              rw [if_pos (show (!(zrr st).node.voter) = true ∧ (zrr st).node.action ≠ actNone from hc)]
              exact U_checkConfigAction _ _ _ _ _ hs
            · rw [if_neg hc, if_neg (show ¬ ((!(zrr st).node.voter) = true ∧ (zrr st).node.action ≠ actNone) from hc)]
          rw [e2]
          obtain ⟨i1, i2⟩ := ih hus' _ { f with matchU := true } hp
          exact ⟨i1, i2⟩
        | removeLTE v => exact absurd hupd (hu v)
        | noContact b =>
          rw [hupd] at hp
          dsimp only at hp ⊢
          have e1 : (U β s).setRepl { zrr st with noContact := b } = U β (s.setRepl { st with noContact := b }) :=
            U_setRepl s { st with noContact := b }
          rw [e1]
          obtain ⟨i1, i2⟩ := ih hus' _ { f with noContactU := true } hp
          exact ⟨i1, i2⟩
        | newTerm v =>
          rw [hupd] at hp
          dsimp only at hp ⊢
          refine ⟨?_, rfl⟩
          show ((((U β s).setRole .follower).setLeader 0).setTerm v, _) = _
          rw [U_setRole, U_setLeader, U_setTerm]
          rfl

@[usimp] theorem U_checkReplUpdates (s : Node) (us : List ReplUpdate) (hus : NoRm us)
    (hp : (s.checkReplUpdates us).panicked = none) :
    (U β s).checkReplUpdates us = U β (s.checkReplUpdates us) := by
  unfold Node.checkReplUpdates at hp ⊢
  have hfl : (replUpdLoop s {} us).2.removeLTEU = false := replUpdLoop_flag us hus s {}
  dsimp only at hp ⊢
  have hl : (replUpdLoop s {} us).1.panicked = none := by npk_core hp
  rw [(U_replUpdLoop us hus s {} hl).1]
  unfold Up
  dsimp only
  rw [hfl] at hp ⊢
  generalize replUpdLoop s {} us = r at hp ⊢
  obtain ⟨x, f⟩ := r
  dsimp only at hp ⊢
  by_cases hs : f.stop = true
  · simp only [if_pos hs]
  · simp only [if_neg hs, Bool.false_eq_true, false_and, if_false] at hp ⊢
    have e1 : (if f.matchU = true then onMajorityCommit (fuelFor 0) (U β x) else U β x) =
        U β (if f.matchU = true then onMajorityCommit (fuelFor 0) x else x) := by
      have h1 : (if f.matchU = true then onMajorityCommit (fuelFor 0) x else x).panicked = none := by npk_core hp
      by_cases hm : f.matchU = true
      · simp only [if_pos hm] at h1 ⊢; exact U_onMajorityCommit _ _ h1
      · simp only [if_neg hm]
    simp only [e1]
    generalize (if f.matchU = true then onMajorityCommit (fuelFor 0) x else x) = a1 at hp ⊢
    have e2 : (if f.noContactU = true then (U β a1).checkQuorum else U β a1) =
        U β (if f.noContactU = true then a1.checkQuorum else a1) := by
      split
      · exact U_checkQuorum a1
      · rfl
    simp only [e2]
    generalize (if f.noContactU = true then a1.checkQuorum else a1) = a2 at hp ⊢
    dsimp +instances only [uproj]
    split
    · exact U_tryTransfer a2
    · rfl

def pub1 (s : Node) (f : SnapFile) : Node := ({ s with snapsDisk := insertSnap f s.snapsDisk }).point "snap.publish"
def pub2 (s : Node) (f : SnapFile) : Node :=
  ({ s with snapIndex := f.index, snapTerm := f.term, snapsDisk := s.snapsDisk.take s.retain }).point "snap.retain"

theorem publishSnapshot_eq (s : Node) (f : SnapFile) : s.publishSnapshot f = pub2 (pub1 s f) f := rfl

@[usimp] theorem U_publishSnapshot (s : Node) (f : SnapFile) : (U β s).publishSnapshot f = U β (s.publishSnapshot f) := by
  rw [publishSnapshot_eq, publishSnapshot_eq]
  have e1 : pub1 (U β s) f = U β (pub1 s f) := by
    show (U β { s with snapsDisk := insertSnap f s.snapsDisk }).point "snap.publish" = _
    rw [U_point]; rfl
  rw [e1]
  generalize pub1 s f = s1
  show (U β { s1 with snapIndex := f.index, snapTerm := f.term, snapsDisk := s1.snapsDisk.take s1.retain }).point "snap.retain" = _
  rw [U_point]; rfl

@[usimp] theorem U_snapRun (s : Node) : (U β s).snapRun = U β s.snapRun := by
  unfold Node.snapRun
  have hp : True := trivial
  ucomm hp

/-- the operations that neither read the log below its first index in a way that depends on compaction (append
requests are treated separately), nor compact it, nor install a snapshot, nor change the configuration -/
def UPlain : Op → Prop
  | .append _ => False
  | .install _ => False
  | .snapTaken => False
  | .shutdown => False
  | .changeConfig _ _ => False
  | .replUpdates us => NoRm us
  | _ => True

@[usimp] theorem U_begin (s : Node) (ra : List Nat) (ord : List (List Nat)) : (U β s).begin ra ord = U β (s.begin ra ord) := rfl

@[usimp] theorem W_begin (s : Node) (ra : List Nat) (ord : List (List Nat)) : (W g β s).begin ra ord = W g β (s.begin ra ord) := rfl

theorem handle_U (s : Node) (op : Op) (h : UPlain op) (hp : (s.handle op).panicked = none) :
    (U β s).handle op = U β (s.handle op) := by
  cases op <;> first | exact h.elim | dsimp only [Node.handle] at hp ⊢
  case vote q => rw [U_onVoteRequest, U_rpcDone]
  case timeoutNow => rw [U_onTimeoutNow, U_rpcDone]
  case identity a b c => rfl
  case disconnected n => rw [apply_ite (U β)]; rfl
  case timeout =>
    show (match s.role with
      | .follower => (U β s).followerTimeout
      | .candidate => (U β s).startElection
      | .leader => (U β s).checkQuorum) = _
    cases s.role
    · exact U_followerTimeout s
    · exact U_startElection s
    · exact U_checkQuorum s
  case newEntries b =>
    show (if s.role = .leader then storeEntry _ (U β s) b else (U β s).rejectEntries b) = _
    by_cases hr : s.role = .leader
    · rw [if_pos hr] at hp ⊢
      rw [if_pos hr]
      exact U_storeEntry _ s b hp
    · rw [if_neg hr, if_neg hr]
      exact U_rejectEntries s b
  case takeSnapshot t th => exact U_onTakeSnapshot s t th
  case snapRun => exact U_snapRun s
  case waitStable t => rw [apply_ite (U β), ← U_onWaitForStable, ← U_reply]; rfl
  case transfer t g => rw [apply_ite (U β), ← U_onTransfer, ← U_reply]; rfl
  case voteResult e t r => rw [apply_ite (U β), ← U_onVoteResult]; rfl
  case replUpdates us =>
    dsimp +instances only [uproj] at hp ⊢
    split
    · rename_i hr
      rw [if_pos hr] at hp
      exact U_checkReplUpdates s us h hp
    · rfl
  case transferTimeout =>
    show (if s.role = .leader ∧ s.ldr.transfer.active then (U β s).replyTransfer _ else U β s) = _
    by_cases hr : s.role = .leader ∧ s.ldr.transfer.active
    · rw [if_pos hr] at hp ⊢
      rw [if_pos hr]
      exact U_replyTransfer s _ hp
    · rw [if_neg hr, if_neg hr]
  case timeoutNowResult a b c =>
    dsimp +instances only [uproj] at hp ⊢
    split
    · rename_i hr
      rw [if_pos hr] at hp
      exact U_onTimeoutNowResult s a b c hp
    · rfl
  case newTermTimeout =>
    show (if s.role = .leader ∧ s.ldr.transfer.newTermTimer then
      ((U β s).withLdr { (U β s).ldr with transfer := { s.ldr.transfer with newTermTimer := false } }).tryTransfer
      else U β s) = _
    rw [apply_ite (U β), ← U_tryTransfer]
    rfl

theorem step_U (s : Node) (op : Op) (ra : List Nat) (ord : List (List Nat)) (h : UPlain op)
    (hp : (s.step op ra ord).panicked = none) :
    (U β s).step op ra ord = U β (s.step op ra ord) := by
  have hne : op ≠ .shutdown := fun e => by rw [e] at h; exact h
  rw [Node.step_eq_settle s _ _ _ hne] at hp ⊢
  rw [Node.step_eq_settle (U β s) _ _ _ hne]
  have hh : ((s.begin ra ord).handle op).panicked = none := by npk_core hp
  rw [U_begin, handle_U (β := β) _ _ h hh, U_role, U_settle _ _ _ hp]

end SnapRelU
end Raft
