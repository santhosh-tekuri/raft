/-
Node-level facts for the cluster system with snapshots (Sys/Snap.lean), stage 1:
* the snapshot operations (`.snapRun`, `.snapTaken` without compaction) touch nothing the cluster invariants read
  (`pobs`, `lobs`), nor the log / term / vote on disk at their crash points;
* a restart from a disk with snapshot files, compared with the restart from the same disk without them
  (`restart_rel`): same log, term, vote; the state machine is restored from the newest file, the commit index is
  its index.
-/
import RaftVerif.Lemmas.SnapRelA
import RaftVerif.Props.C09
import RaftVerif.Props.C10
import RaftVerif.Lemmas.ShapeSnap
import RaftVerif.Lemmas.RestartShape

namespace Raft
namespace SnapSim
open Node SnapRel

/-- no snapshot data: snapshot index 0, snapshot term 0, no files (the argument of the erasure `SnapRel.E`) -/
def σ0 : SnapData := (0, 0, [])

/-- the fields the cluster invariants read on every node (besides the snapshot data) -/
def pobs (s : Node) : Nat × Nat × Nat × Nat × Nat × NLog × Nat × Nat × Role × Int :=
  (s.nid, s.term, s.votedFor, s.durTerm, s.durVote, s.log, s.lastLogIndex, s.lastLogTerm, s.role, s.votesNeeded)

/-- the fields the cluster invariants read on a node depending on its role: commit index, state machine,
configurations, and of the leader record the voter count, the start index, the replication table and the queue -/
def lobs (s : Node) : Nat × Fsm × Configs × Nat × Nat × List Repl × List QItem :=
  (s.commitIndex, s.fsm, s.configs, s.ldr.numVoters, s.ldr.startIndex, s.ldr.repls, s.ldr.queue)

theorem snapRun_obs (s : Node) : pobs s.snapRun = pobs s ∧ lobs s.snapRun = lobs s ∧
    s.snapRun.panicked = s.panicked ∧ s.snapRun.replies = s.replies ∧ s.snapRun.rpcReply = s.rpcReply := by
  rw [snapRun_shape]
  exact ⟨rfl, rfl, rfl, rfl, rfl⟩

theorem snapRun_step_eq (s : Node) (ra : List Nat) (ord : List (List Nat)) :
    s.step .snapRun ra ord = (s.begin ra ord).snapRun :=
  step_same_role s .snapRun ra ord (by
    show (s.begin ra ord).snapRun.role = _
    rw [snapRun_shape]; rfl)


/-- everything `onSnapshotTaken` leaves alone -/
def qobs (s : Node) : (Nat × Nat × Nat × Nat × Nat × Nat × Nat × Role × Int) ×
    (Nat × Fsm × Configs × Nat × Nat × List Repl × List QItem) × (Nat × Nat × List SnapFile) × Option RpcReply :=
  ((s.nid, s.term, s.votedFor, s.durTerm, s.durVote, s.lastLogIndex, s.lastLogTerm, s.role, s.votesNeeded),
   lobs s, (s.snapIndex, s.snapTerm, s.snapsDisk), s.rpcReply)

theorem onSnapshotTaken_qobs (s : Node) : qobs s.onSnapshotTaken = qobs s := by
  rw [(onSnapshotTaken_frame s).shape]
  rfl

theorem pobs_of_qobs {s s' : Node} (h : qobs s' = qobs s) (hl : s'.log = s.log) : pobs s' = pobs s ∧ lobs s' = lobs s := by
  unfold qobs at h
  simp only [Prod.mk.injEq] at h
  obtain ⟨⟨a1, a2, a3, a4, a5, a6, a7, a8, a9⟩, b, _, _⟩ := h
  refine ⟨?_, b⟩
  unfold pobs
  rw [a1, a2, a3, a4, a5, a6, a7, a8, a9, hl]

theorem snapTaken_step_eq (s : Node) (ra : List Nat) (ord : List (List Nat)) :
    s.step .snapTaken ra ord = (s.begin ra ord).onSnapshotTaken :=
  step_same_role s .snapTaken ra ord (by
    show (s.begin ra ord).onSnapshotTaken.role = _
    rw [(onSnapshotTaken_frame _).shape]; rfl)


/-! ### what is on disk at the crash points of the snapshot operations -/

/-- crash points, log and what else `Node.durable` reads -/
def tobs (s : Node) : List (String × Durable) × NLog × Nat × Nat × Nat × Nat × List SnapFile :=
  (s.trace, s.log, s.durTerm, s.durVote, s.cid, s.nid, s.snapsDisk)

/-- `onSnapshotTaken`: at most one new crash point (after `compactLog`), holding the log the handler ends with;
nothing else on disk moves -/
theorem onSnapshotTaken_tobs (s : Node) :
    tobs s.onSnapshotTaken = tobs s ∨
    tobs s.onSnapshotTaken = (s.trace ++ [("compactLog", { s.durable with log := s.onSnapshotTaken.log.durable })],
      s.onSnapshotTaken.log, s.durTerm, s.durVote, s.cid, s.nid, s.snapsDisk) := by
  have h := onSnapshotTaken_frame s
  have e : tobs s.onSnapshotTaken =
      (s.onSnapshotTaken.trace, s.onSnapshotTaken.log, s.durTerm, s.durVote, s.cid, s.nid, s.snapsDisk) := by
    rw [h.shape]; rfl
  rw [e]
  rcases h.disk with ⟨hl, ht⟩ | ht
  · left; rw [hl, ht]; rfl
  · right; rw [ht]

/-- `snapRun`: either nothing on disk moves, or the new file is published and retention is applied — two crash points -/
theorem snapRun_tobs (s : Node) :
    tobs s.snapRun = tobs s ∨
    ∃ rq, s.snapPending = some rq ∧ s.fsm.index ≠ s.snapIndex ∧ rq.minIndex ≤ s.fsm.index ∧
      tobs s.snapRun =
        (s.trace ++ [("snap.publish", { s.durable with snaps := insertSnap (C09.snapFileOf s rq) s.snapsDisk }),
                     ("snap.retain", { s.durable with
                        snaps := (insertSnap (C09.snapFileOf s rq) s.snapsDisk).take s.retain })],
         s.log, s.durTerm, s.durVote, s.cid, s.nid, (insertSnap (C09.snapFileOf s rq) s.snapsDisk).take s.retain) := by
  unfold Node.snapRun
  split
  · exact Or.inl rfl
  · rename_i rq hrq
    dsimp only
    split
    · exact Or.inl rfl
    · split
      · exact Or.inl rfl
      · rename_i h1 h2
        refine Or.inr ⟨rq, hrq, h1, Nat.le_of_not_lt h2, ?_⟩
        unfold tobs Node.publishSnapshot Node.point Node.withSnapResult Node.withSnapPending C09.snapFileOf
        simp only [List.append_assoc, List.cons_append, List.nil_append]
        rfl

theorem of_tobs {a : Node} {tr : List (String × Durable)} {l : NLog} {dt dv c n : Nat} {f : List SnapFile}
    (h : tobs a = (tr, l, dt, dv, c, n, f)) :
    a.trace = tr ∧ a.durable = { cid := c, nid := n, term := dt, vote := dv, log := l.durable, snaps := f } := by
  unfold tobs at h
  simp only [Prod.mk.injEq] at h
  obtain ⟨e1, e2, e3, e4, e5, e6, e7⟩ := h
  unfold Node.durable
  rw [e1, e2, e3, e4, e5, e6, e7]
  exact ⟨rfl, rfl⟩

/-- **what is on disk when the process dies during a snapshot operation**: log, term and vote are those of the
state the step started from; the snapshot files are the old ones, or the old ones with the new file, before or
after retention -/
theorem snap_crashDisk (s : Node) (op : Op) (ra : List Nat) (ord : List (List Nat)) (k : Nat)
    (hop : op = .snapRun ∨ (op = .snapTaken ∧ (s.step op ra ord).log = s.log)) :
    eraseD σ0 (C05.crashDisk s op ra ord k) = eraseD σ0 s.durable ∧
    ((C05.crashDisk s op ra ord k).snaps = s.snapsDisk ∨
     ∃ rq, op = .snapRun ∧ s.snapPending = some rq ∧ s.fsm.index ≠ s.snapIndex ∧ rq.minIndex ≤ s.fsm.index ∧
       ((C05.crashDisk s op ra ord k).snaps = insertSnap (C09.snapFileOf s rq) s.snapsDisk ∨
        (C05.crashDisk s op ra ord k).snaps = (insertSnap (C09.snapFileOf s rq) s.snapsDisk).take s.retain)) := by
  have hcases := C04Sys.crashDisk_cases s op ra ord k
  generalize C05.crashDisk s op ra ord k = d at hcases ⊢
  rcases hop with rfl | ⟨rfl, hlog⟩
  · rw [snapRun_step_eq] at hcases
    rcases snapRun_tobs (s.begin ra ord) with h | ⟨rq, h1, h2, h3, h⟩
    · obtain ⟨e1, hd⟩ := of_tobs h
      have hd : (s.begin ra ord).snapRun.durable = s.durable := hd
      rw [e1, hd] at hcases
      rcases hcases with e | ⟨p, hp, _⟩ | e
      · rw [e]; exact ⟨rfl, Or.inl rfl⟩
      · cases hp
      · rw [e]; exact ⟨rfl, Or.inl rfl⟩
    · obtain ⟨e1, hd⟩ := of_tobs h
      have hd : (s.begin ra ord).snapRun.durable =
          { s.durable with snaps := (insertSnap (C09.snapFileOf s rq) s.snapsDisk).take s.retain } := hd
      rw [e1, hd] at hcases
      rcases hcases with e | ⟨p, hp, e⟩ | e
      · rw [e]; exact ⟨rfl, Or.inl rfl⟩
      · have hp' : p = ("snap.publish", { s.durable with snaps := insertSnap (C09.snapFileOf s rq) s.snapsDisk }) ∨
            p = ("snap.retain", { s.durable with snaps := (insertSnap (C09.snapFileOf s rq) s.snapsDisk).take s.retain }) := by
          have : p ∈ [("snap.publish", ({ s.durable with snaps := insertSnap (C09.snapFileOf s rq) s.snapsDisk } : Durable)),
              ("snap.retain", { s.durable with snaps := (insertSnap (C09.snapFileOf s rq) s.snapsDisk).take s.retain })] := hp
          simpa using this
        rcases hp' with rfl | rfl
        · rw [e]; exact ⟨rfl, Or.inr ⟨rq, rfl, h1, h2, h3, Or.inl rfl⟩⟩
        · rw [e]; exact ⟨rfl, Or.inr ⟨rq, rfl, h1, h2, h3, Or.inr rfl⟩⟩
      · rw [e]; exact ⟨rfl, Or.inr ⟨rq, rfl, h1, h2, h3, Or.inr rfl⟩⟩
  · rw [snapTaken_step_eq] at hlog hcases
    have hl : (s.begin ra ord).onSnapshotTaken.log = s.log := hlog
    have hd : (s.begin ra ord).onSnapshotTaken.durable = s.durable ∧
        ∀ p ∈ (s.begin ra ord).onSnapshotTaken.trace, p.2 = s.durable := by
      rcases onSnapshotTaken_tobs (s.begin ra ord) with h | h
      · obtain ⟨e1, hd⟩ := of_tobs h
        refine ⟨hd, ?_⟩
        rw [e1]; intro p hp; cases hp
      · obtain ⟨e1, hd⟩ := of_tobs h
        rw [hl] at e1 hd
        refine ⟨hd, ?_⟩
        rw [e1]
        intro p hp
        have : p = ("compactLog", { s.durable with log := s.log.durable }) := by
          have : p ∈ [("compactLog", ({ s.durable with log := s.log.durable } : Durable))] := hp
          simpa using this
        rw [this]; rfl
    rcases hcases with e | ⟨p, hp, e⟩ | e
    · rw [e]; exact ⟨rfl, Or.inl rfl⟩
    · rw [e, hd.2 p hp]; exact ⟨rfl, Or.inl rfl⟩
    · rw [e, hd.1]; exact ⟨rfl, Or.inl rfl⟩


/-! ### restart with and without the snapshot files -/

def ScanOK (log : NLog) (sn : Nat) : Prop :=
  ∀ j, 1 ≤ j → j ≤ sn → ∃ e, log.get? j = some e ∧ (e.typ = etConfig → e.config?.isSome = true)

/-- the scan stops at the snapshot index -/
theorem scan_stop (log : NLog) (sn fuel i : Nat) (latest : Option Config) (h : i ≤ sn) :
    scanConfigs log sn fuel i latest = (latest, none, false) := by
  cases fuel with
  | zero => rfl
  | succ n => unfold scanConfigs; rw [if_pos h]

/-- the scan for configurations that does not stop at the snapshot index does not fail either -/
theorem scan_ext (log : NLog) (sn : Nat) (hok : ScanOK log sn) : ∀ (fuel i : Nat) (latest : Option Config),
    (scanConfigs log sn fuel i latest).2.2 = false → (scanConfigs log 0 fuel i latest).2.2 = false := by
  intro fuel
  induction fuel with
  | zero => intro i latest _; rfl
  | succ n ih =>
    intro i latest h
    unfold scanConfigs at h ⊢
    by_cases h0 : i ≤ 0
    · rw [if_pos h0]
    · rw [if_neg h0]
      by_cases hsn : i ≤ sn
      · obtain ⟨e, he, hdec⟩ := hok i (by omega) hsn
        rw [he]
        dsimp only
        cases hc : e.config? with
        | some c =>
          dsimp only
          cases latest with
          | none => exact ih _ _ (by rw [scan_stop log sn n (i - 1) _ (by omega)])
          | some l => rfl
        | none =>
          dsimp only
          by_cases ht : e.typ = etConfig
          · have := hdec ht; rw [hc] at this; cases this
          · rw [if_neg ht]
            exact ih _ _ (by rw [scan_stop log sn n (i - 1) _ (by omega)])
      · rw [if_neg hsn] at h
        cases hg : log.get? i with
        | none => rw [hg] at h; cases h
        | some e =>
          rw [hg] at h
          dsimp only at h ⊢
          cases hc : e.config? with
          | some c =>
            rw [hc] at h
            dsimp only at h ⊢
            cases latest with
            | none => exact ih _ _ h
            | some l => rfl
          | none =>
            rw [hc] at h
            dsimp only at h ⊢
            by_cases ht : e.typ = etConfig
            · rw [if_pos ht] at h; cases h
            · rw [if_neg ht] at h ⊢
              exact ih _ _ h


/-- the newest snapshot file on a disk (the zero file if none) -/
def headSnap (d : Durable) : SnapFile := (d.snaps.head?).getD {}

theorem stale_pos (d : Durable) (h : staleLog d = true) : 0 < (headSnap d).index := by
  unfold staleLog at h
  simp only [Bool.or_eq_true, Bool.and_eq_true, decide_eq_true_eq] at h
  show 0 < ((d.snaps.head?).getD {}).index
  rcases h with h | h
  · omega
  · omega

theorem notstale_reaches (d : Durable) (h : staleLog d = false) : (headSnap d).index ≤ d.log.last := by
  unfold staleLog at h
  simp only [Bool.or_eq_false_iff, decide_eq_false_iff_not] at h
  exact Nat.le_of_not_lt h.1

/-- a restart whose log starts at index 1 did not reset the log: the log on disk reaches the newest snapshot -/
theorem restart_noreset (d : Durable) (retain : Nat) (sor : Bool) (n : Node)
    (h : Node.restart d retain sor = some n) (hprev : n.log.prev = 0) :
    (headSnap d).index ≤ d.log.entries.length ∧ d.log.prev = 0 ∧ staleLog d = false := by
  have hnoreset : staleLog d = false := by
    cases hst : staleLog d with
    | false => rfl
    | true =>
      rw [Node.restart_log_stale h hst] at hprev
      have : (headSnap d).index = 0 := hprev
      have := stale_pos d hst
      omega
  have hdp : d.log.prev = 0 := by
    rw [Node.restart_log_notstale h hnoreset] at hprev; exact hprev
  refine ⟨?_, hdp, hnoreset⟩
  have := notstale_reaches d hnoreset
  unfold NLog.last at this
  omega

/-- **restart with and without the snapshot files.** A restart from disk `d` that does not reset the log (the
restarted log starts at index 1), where every snapshot file has a positive index and the log below the newest
snapshot is complete and decodes: the restart from `d` without its snapshot files succeeds too, with the same
identity, term, vote, log and cached last coordinates; the node restarted from `d` is a follower that holds the
files of `d`, whose commit index is the index of the newest file, and whose state machine is restored from that
file (or empty if there is none). -/
theorem restart_rel (d : Durable) (retain : Nat) (sor : Bool) (n : Node)
    (h : Node.restart d retain sor = some n) (hprev : n.log.prev = 0)
    (hidx : ∀ f ∈ d.snaps, 1 ≤ f.index) (hok : ScanOK d.log (headSnap d).index) :
    ∃ n0, Node.restart (eraseD σ0 d) retain sor = some n0 ∧
      pobs n0 = pobs n ∧ n.role = .follower ∧ n.retain = retain ∧ n.snapsDisk = d.snaps ∧
      n.snapIndex = (headSnap d).index ∧ n.commitIndex = n.snapIndex ∧ n.ldr = {} ∧ n.trace = [] ∧
      n.log.entries = d.log.entries ∧
      ((n.fsm = {} ∧ (headSnap d).index = 0) ∨
       (0 < (headSnap d).index ∧ ∃ f, d.snaps.head? = some f ∧
         n.fsm = { index := f.index, term := f.term, applied := f.data, config := f.config })) := by
  obtain ⟨_, _, hnoreset⟩ := restart_noreset d retain sor n h hprev
  obtain ⟨hc0, hn0, hfail, _⟩ := C10.restart_some d retain sor n h
  obtain ⟨ffsm, _, hsi, _, _, _, hsd⟩ := C10.restart_fsm d retain sor n h
  have hsnap : headSnap d = (d.snaps.head?).getD {} := rfl
  -- an empty log means no snapshot
  have hempty : d.log.count = 0 → headSnap d = {} := by
    intro hc
    have hl : d.log.last = 0 := by unfold NLog.last; unfold NLog.count at hc; omega
    have hi : (headSnap d).index = 0 := by have := notstale_reaches d hnoreset; omega
    cases hs : d.snaps with
    | nil => unfold headSnap; rw [hs]; rfl
    | cons f fs =>
      have := hidx f (by rw [hs]; exact List.mem_cons_self ..)
      have e : headSnap d = f := by unfold headSnap; rw [hs]; rfl
      rw [e] at hi; omega
  -- the node restarted without the files
  have herase : (eraseD σ0 d).snaps = [] := rfl
  have hlog : (if staleLog d then NLog.reset (headSnap d).index else d.log) = d.log :=
    by rw [hnoreset]; rfl
  have hidx' : (if d.log.count > 0 then d.log.last else (headSnap d).index) =
      (if d.log.count > 0 then d.log.last else 0) := by
    by_cases hc : d.log.count > 0
    · rw [if_pos hc, if_pos hc]
    · rw [if_neg hc, if_neg hc, hempty (by omega)]
  have hterm' : (if d.log.count > 0 then ((d.log.entries.getLast?).map (·.term)).getD 0 else (headSnap d).term) =
      (if d.log.count > 0 then ((d.log.entries.getLast?).map (·.term)).getD 0 else 0) := by
    by_cases hc : d.log.count > 0
    · rw [if_pos hc, if_pos hc]
    · rw [if_neg hc, if_neg hc, hempty (by omega)]
  have hfail0 : restartFails (eraseD σ0 d) = false := by
    unfold restartFails at hfail ⊢
    dsimp only at hfail ⊢
    rw [← hsnap, hlog, hidx'] at hfail
    show (scanConfigs (if staleLog (eraseD σ0 d) then NLog.reset 0 else d.log) 0 _ _ none).2.2 = false
    rw [staleLog_nosnap herase]
    exact scan_ext d.log (headSnap d).index hok _ _ none hfail
  have hp0 : pobs (restartNode (eraseD σ0 d) retain sor) = pobs (restartNode d retain sor) := by
    unfold pobs Node.restartNode
    dsimp only
    rw [← hsnap, hlog, hidx', hterm']
    show (_, _, _, _, _, ({ (if staleLog (eraseD σ0 d) then NLog.reset 0 else d.log) with flushed := _ } : NLog), _, _, _, _) = _
    rw [staleLog_nosnap herase]
    rfl
  refine ⟨restartNode (eraseD σ0 d) retain sor, ?_, hp0.trans (Node.restart_field pobs (fun _ _ _ _ => rfl) h).symm,
    Node.restart_field (·.role) (fun _ _ _ _ => rfl) h, Node.restart_field (·.retain) (fun _ _ _ _ => rfl) h,
    hsd, hsi, (Node.restart_commitIndex h).trans hsi.symm, Node.restart_field (·.ldr) (fun _ _ _ _ => rfl) h,
    Node.restart_field (·.trace) (fun _ _ _ _ => rfl) h, by rw [Node.restart_log_notstale h hnoreset], ?_⟩
  · unfold Node.restart
    rw [if_neg (show ¬ ((eraseD σ0 d).cid = 0 ∨ (eraseD σ0 d).nid = 0) from fun hh => hh.elim hc0 hn0), hfail0]
    rfl
  · -- the file that is restored is the head of the list
    by_cases hpos : (C10.snapOf d).index > 0
    · rw [if_pos hpos] at ffsm
      cases hs : d.snaps with
      | nil => rw [show C10.snapOf d = {} from by unfold C10.snapOf; rw [hs]; rfl] at hpos; cases hpos
      | cons f fs =>
        have e : C10.snapOf d = f := by unfold C10.snapOf; rw [hs]; rfl
        exact Or.inr ⟨hpos, f, rfl, by rw [ffsm.1, e]⟩
    · rw [if_neg hpos] at ffsm
      exact Or.inl ⟨ffsm.1, by show (C10.snapOf d).index = 0; omega⟩

end SnapSim
end Raft
