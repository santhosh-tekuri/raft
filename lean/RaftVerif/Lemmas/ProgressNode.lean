/-
Node-level "what does operation X do to a state of this shape" lemmas for the possibility (liveness) proof on the
cluster-level system (Props/C17Sys.lean).  Unlike the safety lemmas of the library (which say what a state AFTER a
step implies about the state before), these lemmas compute the state after the step:

* `Keep s s'`: nothing but role / leader id / (term, vote) / candidate bookkeeping / leader record / ghost outputs moved;
* `timeout_makes_candidate` (follower), `timeout_candidate_again` (candidate), `voteResult_newer_term_steps_down`, `newTerm_report_steps_down`;
* `vote_granted_when_uptodate`; `voteResult_counts` (not the last vote) and `majority_of_grants_makes_leader`.
-/
import RaftVerif.Lemmas.SysInv
import RaftVerif.Lemmas.SnapRelU3
import RaftVerif.Lemmas.ShapeLeader

namespace Raft
namespace Progress
open Node LogRel CommitRel

structure Keep (s s' : Node) : Prop where
  nid : s'.nid = s.nid
  retain : s'.retain = s.retain
  log : s'.log = s.log
  lastLogIndex : s'.lastLogIndex = s.lastLogIndex
  lastLogTerm : s'.lastLogTerm = s.lastLogTerm
  commitIndex : s'.commitIndex = s.commitIndex
  fsm : s'.fsm = s.fsm
  configs : s'.configs = s.configs
  closed : s'.closed = s.closed
  snapIndex : s'.snapIndex = s.snapIndex
  snapsDisk : s'.snapsDisk = s.snapsDisk

/-- the fields `Keep` lists, as one tuple: for a single update, `rfl` proves the one equation `Keep.of_eq` asks for -/
def kobs (s : Node) : Nat × Nat × NLog × Nat × Nat × Nat × Fsm × Configs × String × Nat × List SnapFile :=
  (s.nid, s.retain, s.log, s.lastLogIndex, s.lastLogTerm, s.commitIndex, s.fsm, s.configs, s.closed, s.snapIndex,
    s.snapsDisk)

theorem Keep.of_eq {s s' : Node} (h : kobs s' = kobs s) : Keep s s' := by
  simp only [kobs, Prod.mk.injEq] at h
  obtain ⟨h1, h2, h3, h4, h5, h6, h7, h8, h9, h10, h11⟩ := h
  exact ⟨h1, h2, h3, h4, h5, h6, h7, h8, h9, h10, h11⟩

theorem Keep.refl (s : Node) : Keep s s := .of_eq rfl

theorem Keep.trans {a b c : Node} (h1 : Keep a b) (h2 : Keep b c) : Keep a c :=
  ⟨h2.nid.trans h1.nid, h2.retain.trans h1.retain, h2.log.trans h1.log, h2.lastLogIndex.trans h1.lastLogIndex,
   h2.lastLogTerm.trans h1.lastLogTerm, h2.commitIndex.trans h1.commitIndex, h2.fsm.trans h1.fsm,
   h2.configs.trans h1.configs, h2.closed.trans h1.closed, h2.snapIndex.trans h1.snapIndex,
   h2.snapsDisk.trans h1.snapsDisk⟩

theorem Keep.nwf {s s' : Node} (h : Keep s s') (hn : NWF s) : NWF s' :=
  nwf_congr hn h.log h.lastLogIndex h.lastLogTerm h.snapIndex h.snapsDisk

theorem keep_begin (s : Node) (ra : List Nat) (ord : List (List Nat)) : Keep s (s.begin ra ord) := .of_eq rfl

theorem keep_setRole (s : Node) (r : Role) : Keep s (s.setRole r) := .of_eq rfl
theorem keep_setLeader (s : Node) (l : Nat) : Keep s (s.setLeader l) := .of_eq rfl
theorem keep_votesNeeded (s : Node) (v : Int) : Keep s (s.withVotesNeeded v) := .of_eq rfl
theorem keep_ret (s : Node) (r : Nat) : Keep s (s.ret r) := .of_eq rfl
theorem keep_rpcReply (s : Node) (r : Option RpcReply) : Keep s (s.withRpcReply r) := .of_eq rfl
theorem keep_withLdr (s : Node) (l : Leader) : Keep s (s.withLdr l) := .of_eq rfl

theorem keep_panic (s : Node) (site : String) : Keep s (s.panic site) := by
  rw [panic_shape]; exact .of_eq rfl

theorem keep_assert (s : Node) (b : Bool) (site : String) : Keep s (s.assert b site) := by
  rw [assert_shape]; exact .of_eq rfl

theorem keep_reply (s : Node) (t : Nat) (r : String) : Keep s (s.reply t r) := by
  rw [reply_shape]; exact .of_eq rfl

theorem keep_setTerm (s : Node) (t : Nat) : Keep s (s.setTerm t) := by
  rw [setTerm_shape]; exact .of_eq rfl

theorem keep_setVotedFor (s : Node) (t c : Nat) : Keep s (s.setVotedFor t c) := by
  rw [setVotedFor_shape]; exact .of_eq rfl

theorem keep_rpcDone (s : Node) (a b : Bool) : Keep s (s.rpcDone a b) := by
  unfold Node.rpcDone
  split
  · exact (keep_rpcReply s _).trans (keep_panic _ _)
  · exact keep_rpcReply s _

theorem keep_releaseRole (s : Node) (r : Role) : Keep s (s.releaseRole r) :=
  releaseRole_of (P := Keep s) (fun _ _ h => h.trans (.of_eq rfl))
    (fun x h => h.trans (by rw [leaderRelease_shape]; exact .of_eq rfl)) s r (.refl s)

theorem keep_startElection (s : Node) : Keep s s.startElection := by
  rw [startElection_shape]; exact .of_eq rfl

theorem startElection_leader (s : Node) (hq : (s.configs.latest.quorum : Int) - 1 ≠ 0) :
    s.startElection.leader = s.leader := by
  obtain ⟨_, _, _, _, e5, _⟩ := startElection_spec s
  unfold Node.startElection at e5 ⊢
  dsimp only at e5 ⊢
  refine ite_ind (P := fun x : Node => x.leader = s.leader) (fun h0 => ?_) (fun _ => ?_)
  · rw [if_pos h0] at e5
    exact absurd (e5.symm.trans h0) hq
  · have hv : ∀ (z : Node) n, (z.withVotesNeeded n).leader = z.leader := fun _ _ => rfl
    have hs : ∀ (z : Node) t c, (z.setVotedFor t c).leader = z.leader := fun z t c => by rw [setVotedFor_shape]
    have ha : ∀ (z : Node) b site, (z.assert b site).leader = z.leader := fun z b site => by rw [assert_shape]
    rw [hv, hs, hv, ha]


theorem settle_to_candidate (h : Node) (cur : Role) (hr : h.role = .candidate) (hc : cur ≠ .candidate)
    (hq : h.configs.latest.quorum ≠ 1) : settle 6 h cur = (h.releaseRole cur).startElection := by
  have hne : h.role ≠ cur := by rw [hr]; exact fun e => hc e.symm
  cases settle_shape 3 h cur hne with
  | follower hf _ => rw [hr] at hf; cases hf
  | leader x hl _ _ => rw [hr] at hl; cases hl
  | cand _ e _ => exact e
  | candLeader x _ hl _ _ =>
    obtain ⟨_, _, _, _, _, e6⟩ := startElection_spec (h.releaseRole cur)
    rw [(SameKey.releaseRole h cur).configs] at e6
    rcases e6 with ⟨q0, _⟩ | ⟨_, r1⟩
    · omega
    · rw [r1, (SameKey.releaseRole h cur).role, hr] at hl; cases hl

theorem settle_to_follower (h : Node) (cur : Role) (hr : h.role = .follower) :
    settle 6 h cur = h ∨ settle 6 h cur = h.releaseRole cur :=
  settle_of_follower h cur hr

theorem startElection_full (s : Node) (hq : s.configs.latest.quorum ≠ 1) :
    s.startElection.role = s.role ∧ s.startElection.term = s.term + 1 ∧ s.startElection.votedFor = s.nid ∧
    s.startElection.votesNeeded = (s.configs.latest.quorum : Int) - 1 ∧ s.startElection.leader = s.leader ∧
    Keep s s.startElection := by
  have hq' : (s.configs.latest.quorum : Int) - 1 ≠ 0 := by omega
  obtain ⟨_, e2, e3, _, e5, e6⟩ := startElection_spec s
  refine ⟨?_, e2, e3, e5, startElection_leader s hq', keep_startElection s⟩
  rcases e6 with ⟨q0, _⟩ | ⟨_, r⟩
  · exact absurd q0 hq'
  · exact r


/-- **timeout_makes_candidate (follower)**: the election timeout of a follower that is a voter of its bootstrapped
latest configuration (quorum > 1): it forgets its leader, becomes candidate of the next term with its own vote and
`quorum - 1` votes missing; nothing else moves. -/
theorem timeout_makes_candidate (s : Node) (ra : List Nat) (ord : List (List Nat)) (hr : s.role = .follower)
    (hb : s.configs.isBootstrapped = true) (hv : s.configs.latest.isVoter s.nid = true)
    (hq : s.configs.latest.quorum ≠ 1) :
    (s.step .timeout ra ord).role = .candidate ∧ (s.step .timeout ra ord).term = s.term + 1 ∧
    (s.step .timeout ra ord).votedFor = s.nid ∧ (s.step .timeout ra ord).leader = 0 ∧
    (s.step .timeout ra ord).votesNeeded = (s.configs.latest.quorum : Int) - 1 ∧
    Keep s (s.step .timeout ra ord) := by
  rw [Node.step_eq_settle s .timeout ra ord (by intro h; cases h)]
  have hh : (s.begin ra ord).handle .timeout = ((s.begin ra ord).setLeader 0).setRole .candidate := by
    show (match (s.begin ra ord).role with
      | .follower => (s.begin ra ord).followerTimeout
      | .candidate => (s.begin ra ord).startElection
      | .leader => (s.begin ra ord).checkQuorum) = _
    have : (s.begin ra ord).role = .follower := hr
    rw [this]
    show (s.begin ra ord).followerTimeout = _
    unfold Node.followerTimeout
    dsimp only
    rw [if_pos]
    show (s.configs.isBootstrapped && s.configs.latest.isVoter s.nid) = true
    rw [hb, hv]; rfl
  rw [hh]
  have hX : (((s.begin ra ord).setLeader 0).setRole .candidate).role = .candidate ∧
      (((s.begin ra ord).setLeader 0).setRole .candidate).term = s.term ∧
      (((s.begin ra ord).setLeader 0).setRole .candidate).nid = s.nid ∧
      (((s.begin ra ord).setLeader 0).setRole .candidate).leader = 0 ∧
      (((s.begin ra ord).setLeader 0).setRole .candidate).configs = s.configs := by
    dsimp only [Node.setRole, Node.setLeader, Node.begin]
    exact ⟨rfl, rfl, rfl, rfl, rfl⟩
  have kX : Keep s (((s.begin ra ord).setLeader 0).setRole .candidate) :=
    (keep_begin s ra ord).trans ((keep_setLeader _ _).trans (keep_setRole _ _))
  generalize ((s.begin ra ord).setLeader 0).setRole .candidate = x at hX kX ⊢
  obtain ⟨xr, xt, xn, xl, xc⟩ := hX
  rw [settle_to_candidate x s.role xr (by rw [hr]; exact fun e => by cases e) (by rw [xc]; exact hq)]
  have hrel : x.releaseRole s.role = x := by rw [hr]; rfl
  rw [hrel]
  obtain ⟨a, b, c, d, e, f⟩ := startElection_full x (by rw [xc]; exact hq)
  exact ⟨a.trans xr, by rw [b, xt], by rw [c, xn], e.trans xl, by rw [d, xc], kX.trans f⟩

/-- **timeout_candidate_again**: the election timeout of a candidate (quorum > 1): a new election in
the next term; the leader id and everything else stay. -/
theorem timeout_candidate_again (s : Node) (ra : List Nat) (ord : List (List Nat)) (hr : s.role = .candidate)
    (hq : s.configs.latest.quorum ≠ 1) :
    (s.step .timeout ra ord).role = .candidate ∧ (s.step .timeout ra ord).term = s.term + 1 ∧
    (s.step .timeout ra ord).votedFor = s.nid ∧ (s.step .timeout ra ord).leader = s.leader ∧
    (s.step .timeout ra ord).votesNeeded = (s.configs.latest.quorum : Int) - 1 ∧
    Keep s (s.step .timeout ra ord) := by
  rw [Node.step_eq_settle s .timeout ra ord (by intro h; cases h)]
  have hh : (s.begin ra ord).handle .timeout = (s.begin ra ord).startElection := by
    show (match (s.begin ra ord).role with
      | .follower => (s.begin ra ord).followerTimeout
      | .candidate => (s.begin ra ord).startElection
      | .leader => (s.begin ra ord).checkQuorum) = _
    have : (s.begin ra ord).role = .candidate := hr
    rw [this]
  obtain ⟨a, b, c, d, e, f⟩ := startElection_full (s.begin ra ord) hq
  have hs : settle 6 (s.begin ra ord).startElection s.role = (s.begin ra ord).startElection :=
    settle_of_role (by rw [a]; rfl)
  rw [hh, hs]
  exact ⟨a.trans hr, b, c, e, d, (keep_begin s ra ord).trans f⟩

structure Side (s s' : Node) : Prop where
  role : s'.role = s.role
  leader : s'.leader = s.leader
  result : s'.result = s.result
  rpcReply : s'.rpcReply = s.rpcReply
  ldr : s'.ldr = s.ldr

theorem side_setVotedFor (s : Node) (t c : Nat) : Side s (s.setVotedFor t c) := by
  rw [setVotedFor_shape]; exact ⟨rfl, rfl, rfl, rfl, rfl⟩

theorem side_setTerm (s : Node) (t : Nat) : Side s (s.setTerm t) := by
  rw [setTerm_shape]; exact ⟨rfl, rfl, rfl, rfl, rfl⟩

theorem releaseRole_all (h : Node) (cur : Role) :
    Keep h (h.releaseRole cur) ∧ (h.releaseRole cur).role = h.role ∧ (h.releaseRole cur).term = h.term ∧
    (h.releaseRole cur).votedFor = h.votedFor ∧ (h.releaseRole cur).rpcReply = h.rpcReply := by
  have k := SameKey.releaseRole h cur
  have r : RelFrame (fun s : Node => s.rpcReply) :=
    ⟨fun s t r => by unfold Node.reply; split <;> rfl, fun _ _ => rfl, fun _ _ => rfl, fun _ _ => rfl⟩
  exact ⟨keep_releaseRole h cur, k.role, k.term, k.votedFor, r.releaseRole h cur⟩

theorem settle_follower_all (h : Node) (cur : Role) (hf : h.role = .follower) :
    Keep h (settle 6 h cur) ∧ (settle 6 h cur).role = .follower ∧ (settle 6 h cur).term = h.term ∧
    (settle 6 h cur).votedFor = h.votedFor ∧ (settle 6 h cur).rpcReply = h.rpcReply := by
  rcases settle_follower_cases h cur hf with e | e
  · rw [e]; exact ⟨Keep.refl h, hf, rfl, rfl, rfl⟩
  · rw [e]
    obtain ⟨a, b, c, d, f⟩ := releaseRole_all h cur
    exact ⟨a, b.trans hf, c, d, f⟩

theorem settle_follower_leader (h : Node) (cur : Role) (hf : h.role = .follower) (hc : cur ≠ .leader) :
    (settle 6 h cur).leader = h.leader := by
  rcases settle_follower_cases h cur hf with e | e
  · rw [e]
  · rw [e]
    cases cur with
    | follower => rfl
    | candidate => rfl
    | leader => exact absurd rfl hc

/-- **voteResult_newer_term_steps_down**: a candidate that receives a vote response carrying a newer term becomes
follower of that term, its vote is open again; leader id and everything else stay. -/
theorem voteResult_newer_term_steps_down (s : Node) (ra : List Nat) (ord : List (List Nat)) (tm res : Nat)
    (hr : s.role = .candidate) (ht : tm > s.term) :
    (s.step (.voteResult false tm res) ra ord).role = .follower ∧
    (s.step (.voteResult false tm res) ra ord).term = tm ∧
    (s.step (.voteResult false tm res) ra ord).votedFor = 0 ∧
    (s.step (.voteResult false tm res) ra ord).leader = s.leader ∧
    Keep s (s.step (.voteResult false tm res) ra ord) := by
  rw [Node.step_eq_settle s _ ra ord (by intro h; cases h)]
  have hh : (s.begin ra ord).handle (.voteResult false tm res) = ((s.begin ra ord).setRole .follower).setTerm tm := by
    show (if (s.begin ra ord).role = .candidate then (s.begin ra ord).onVoteResult false tm res else _) = _
    rw [if_pos (show (s.begin ra ord).role = .candidate from hr)]
    unfold Node.onVoteResult
    rw [if_neg (by decide), if_pos (show tm > (s.begin ra ord).term from ht)]
  rw [hh]
  have hside := side_setTerm ((s.begin ra ord).setRole .follower) tm
  have hk := keep_setTerm ((s.begin ra ord).setRole .follower) tm
  have hf : (((s.begin ra ord).setRole .follower).setTerm tm).role = .follower := hside.role
  have htv : (((s.begin ra ord).setRole .follower).setTerm tm).term = tm ∧
      (((s.begin ra ord).setRole .follower).setTerm tm).votedFor = 0 := by
    unfold Node.setTerm
    rw [if_pos (show ((s.begin ra ord).setRole .follower).term ≠ tm from by show s.term ≠ tm; omega),
      if_pos (show tm > ((s.begin ra ord).setRole .follower).term from ht)]
    exact ⟨rfl, rfl⟩
  obtain ⟨a, b, c, d, _⟩ := settle_follower_all _ s.role hf
  refine ⟨b, c.trans htv.1, d.trans htv.2, ?_, ?_⟩
  · rw [settle_follower_leader _ _ hf (by rw [hr]; exact fun e => by cases e), hside.leader]; rfl
  · exact ((keep_begin s ra ord).trans ((keep_setRole _ _).trans hk)).trans a

theorem reply_leader (s : Node) (t : Nat) (r : String) : (s.reply t r).leader = s.leader := by rw [reply_shape]

theorem foldl_leader {β : Type} (f : Node → β → Node) (hf : ∀ s x, (f s x).leader = s.leader) (xs : List β)
    (s : Node) : (xs.foldl f s).leader = s.leader := by
  induction xs generalizing s with
  | nil => rfl
  | cons x xs ih => exact (ih _).trans (hf s x)

theorem leaderRelease_leader0 (s : Node) (h : s.leader = 0) : s.leaderRelease.leader = 0 := by
  have h1 : ∀ x : Node, x.leader = 0 → x.leaderReleaseRest.leader = 0 := by
    intro x hx
    unfold Node.leaderReleaseRest
    extract_lets s1 err s2 s3
    have e1 : s1.leader = 0 := by unfold s1; split; rfl; exact hx
    have e2 : s2.leader = 0 := (foldl_leader _ (fun y q => reply_leader y _ _) _ _).trans e1
    have e3 : s3.leader = 0 := (foldl_leader _ (fun y q => reply_leader y _ _) _ _).trans e2
    exact e3
  unfold Node.leaderRelease
  split
  · apply h1
    unfold Node.transferReply
    show (s.reply _ _).leader = 0
    rw [reply_leader]; exact h
  · exact h1 s h

/-- **newTerm_report_steps_down**: a leader whose replication to `j` reports the leader's own term as "newer term
seen" (`leader.checkReplUpdates`, case `newTerm`) steps down: follower of the same term, no leader known, same
vote; nothing else moves (the leader record is released). -/
theorem newTerm_report_steps_down (s : Node) (ra : List Nat) (ord : List (List Nat)) (j : Nat)
    (hr : s.role = .leader) (hj : s.findRepl? j ≠ none) :
    (s.step (.replUpdates [{ id := j, removed := false, upd := .newTerm s.term }]) ra ord).role = .follower ∧
    (s.step (.replUpdates [{ id := j, removed := false, upd := .newTerm s.term }]) ra ord).term = s.term ∧
    (s.step (.replUpdates [{ id := j, removed := false, upd := .newTerm s.term }]) ra ord).votedFor = s.votedFor ∧
    (s.step (.replUpdates [{ id := j, removed := false, upd := .newTerm s.term }]) ra ord).leader = 0 ∧
    Keep s (s.step (.replUpdates [{ id := j, removed := false, upd := .newTerm s.term }]) ra ord) := by
  rw [Node.step_eq_settle s _ ra ord (by intro h; cases h)]
  have hh : (s.begin ra ord).handle (.replUpdates [{ id := j, removed := false, upd := .newTerm s.term }]) =
      ((s.begin ra ord).setRole .follower).setLeader 0 := by
    show (if (s.begin ra ord).role = .leader then (s.begin ra ord).checkReplUpdates _ else _) = _
    rw [if_pos (show (s.begin ra ord).role = .leader from hr)]
    cases hst : (s.begin ra ord).findRepl? j with
    | none => exact absurd hst hj
    | some st =>
      have hloop : replUpdLoop (s.begin ra ord) {} [{ id := j, removed := false, upd := .newTerm s.term }] =
          ((((s.begin ra ord).setRole .follower).setLeader 0).setTerm s.term, { stop := true }) := by
        unfold replUpdLoop
        rw [if_neg (by intro h; cases h)]
        dsimp only
        rw [hst]
      unfold Node.checkReplUpdates
      rw [hloop]
      dsimp only
      rw [if_pos rfl]
      have ht : (((s.begin ra ord).setRole .follower).setLeader 0).term = s.term := by
        dsimp only [Node.setLeader, Node.setRole, Node.begin]
      unfold Node.setTerm
      rw [if_neg (fun h => h ht)]
  rw [hh]
  have hf : (((s.begin ra ord).setRole .follower).setLeader 0).role = .follower := rfl
  have hfields : (((s.begin ra ord).setRole .follower).setLeader 0).term = s.term ∧
      (((s.begin ra ord).setRole .follower).setLeader 0).votedFor = s.votedFor ∧
      (((s.begin ra ord).setRole .follower).setLeader 0).leader = 0 := by
    dsimp only [Node.setLeader, Node.setRole, Node.begin]
    exact ⟨rfl, rfl, rfl⟩
  have hk : Keep s (((s.begin ra ord).setRole .follower).setLeader 0) :=
    (keep_begin s ra ord).trans ((keep_setRole _ _).trans (keep_setLeader _ _))
  generalize ((s.begin ra ord).setRole .follower).setLeader 0 = h at hf hfields hk ⊢
  rw [hr]
  rcases settle_follower_cases h .leader hf with e | e
  · rw [e]
    exact ⟨hf, hfields.1, hfields.2.1, hfields.2.2, hk⟩
  · rw [e]
    obtain ⟨a, b, c, d, _⟩ := releaseRole_all h .leader
    exact ⟨b.trans hf, c.trans hfields.1, d.trans hfields.2.1, leaderRelease_leader0 _ hfields.2.2, hk.trans a⟩

/-- **vote_granted_when_uptodate**: a node that knows no leader (after its own election timeout: `leader = 0`)
receives a vote request of a HIGHER term from a candidate whose log is at least as up to date as its own (the
check of `onVoteRequest`: last term, then last index): it grants the vote — the reply carries `success`, the node
is follower of the requested term with its vote cast for the candidate; nothing else moves. -/
theorem vote_granted_when_uptodate (s : Node) (ra : List Nat) (ord : List (List Nat)) (q : VoteReq)
    (hl : s.leader = 0) (ht : q.term > s.term)
    (hup : ¬ (s.lastLogTerm > q.lastLogTerm ∨ (s.lastLogTerm = q.lastLogTerm ∧ s.lastLogIndex > q.lastLogIndex))) :
    (s.step (.vote q) ra ord).rpcReply.map (·.result) = some rSuccess ∧
    (s.step (.vote q) ra ord).role = .follower ∧ (s.step (.vote q) ra ord).term = q.term ∧
    (s.step (.vote q) ra ord).votedFor = q.src ∧ Keep s (s.step (.vote q) ra ord) := by
  rw [Node.step_eq_settle s _ ra ord (by intro h; cases h)]
  have hv : (s.begin ra ord).onVoteRequest q =
      (((s.begin ra ord).setRole .follower).setVotedFor q.term q.src).ret rSuccess := by
    unfold Node.onVoteRequest
    rw [if_neg (by
      intro h
      exact h.2.1 hl)]
    rw [if_neg (show ¬ q.term < (s.begin ra ord).term from by show ¬ q.term < s.term; omega)]
    have ht' : q.term > (s.begin ra ord).term := ht
    dsimp only
    simp only [if_pos ht']
    rw [if_neg (by intro h; exact h rfl)]
    exact if_neg hup
  have hsv := side_setVotedFor ((s.begin ra ord).setRole .follower) q.term q.src
  have hkv := keep_setVotedFor ((s.begin ra ord).setRole .follower) q.term q.src
  obtain ⟨_, _, _, _, _, htv⟩ := setVotedFor_key ((s.begin ra ord).setRole .follower) q.term q.src
  obtain ⟨htv1, htv2⟩ := htv (show q.term ≥ s.term by omega)
  have hd : ((s.begin ra ord).onVoteRequest q).rpcDone true =
      ((s.begin ra ord).onVoteRequest q).withRpcReply (some (((s.begin ra ord).onVoteRequest q).mkReply true false)) := by
    unfold Node.rpcDone
    rw [if_neg]
    rw [hv]
    show rSuccess ≠ rUnexpectedErr
    decide
  have hh : (s.begin ra ord).handle (.vote q) = ((s.begin ra ord).onVoteRequest q).rpcDone true := rfl
  rw [hh, hd]
  have hf : (((s.begin ra ord).onVoteRequest q).withRpcReply
      (some (((s.begin ra ord).onVoteRequest q).mkReply true false))).role = .follower := by
    rw [hv]; dsimp only [Node.withRpcReply, Node.ret]; exact hsv.role
  obtain ⟨a, b, c, d, e⟩ := settle_follower_all _ s.role hf
  have hr : ∀ (z : Node) r w, ((z.ret r).withRpcReply w).term = z.term ∧
      ((z.ret r).withRpcReply w).votedFor = z.votedFor := fun _ _ _ => ⟨rfl, rfl⟩
  refine ⟨?_, b, ?_, ?_, ?_⟩
  · rw [e, hv]; rfl
  · rw [c, hv, (hr _ _ _).1]; exact htv1
  · rw [d, hv, (hr _ _ _).2]; exact htv2
  · refine Keep.trans ?_ a
    rw [hv]
    exact ((keep_begin s ra ord).trans ((keep_setRole _ _).trans hkv)).trans
      ((keep_ret _ _).trans (keep_rpcReply _ _))

/-! ### the leader block keeps an open voter of a fixed stable configuration open -/

def KI (C : Config) (n t lb : Nat) (s : Node) : Prop :=
  s.configs.latest = C ∧ s.closed = "" ∧ s.nid = n ∧ lb ≤ s.commitIndex ∧ s.role = .leader ∧ s.term = t

theorem ki_congr {C : Config} {n t lb : Nat} {s s' : Node} (h : KI C n t lb s) (e1 : s'.configs = s.configs)
    (e2 : s'.closed = s.closed) (e3 : s'.nid = s.nid) (e4 : s'.commitIndex = s.commitIndex)
    (e5 : s'.role = s.role) (e6 : s'.term = s.term) : KI C n t lb s' := by
  obtain ⟨a, b, c, d, e, f⟩ := h
  exact ⟨by rw [e1]; exact a, by rw [e2]; exact b, by rw [e3]; exact c, by rw [e4]; exact d, by rw [e5]; exact e,
    by rw [e6]; exact f⟩

theorem ki_keep {C : Config} {n t lb : Nat} {s s' : Node} (h : KI C n t lb s) (k : Keep s s')
    (e5 : s'.role = s.role) (e6 : s'.term = s.term) : KI C n t lb s' :=
  ki_congr h k.configs k.closed k.nid k.commitIndex e5 e6

theorem closeIfRemoved_member (x : Node) (h : x.configs.latest.has x.nid = true) : x.closeIfRemoved = x := by
  unfold Node.closeIfRemoved
  rw [if_neg (by intro hc; rw [h] at hc; exact absurd hc.2 (by decide))]

theorem stepDown_fields (x : Node) : x.stepDownIfNotVoter.closed = x.closed ∧
    x.stepDownIfNotVoter.configs = x.configs ∧ x.stepDownIfNotVoter.nid = x.nid := by
  rw [Node.stepDownIfNotVoter_shape]; exact ⟨rfl, rfl, rfl⟩

theorem commitConfig_fields (x : Node) : x.commitConfig.closed = x.closed ∧
    x.commitConfig.configs.latest = x.configs.latest ∧ x.commitConfig.nid = x.nid :=
  ⟨by rw [Node.commitConfig_shape], Node.commitConfig_latest x, by rw [Node.commitConfig_shape]⟩

theorem setCommitIndexR_closed (s : Node) (i : Nat) (hh : s.configs.latest.has s.nid = true) :
    (s.setCommitIndexR i).1.closed = s.closed := by
  unfold Node.setCommitIndexR
  split
  · show (s.withCommitIndex i).commitConfig.stepDownIfNotVoter.closeIfRemoved.closed = _
    obtain ⟨a1, a2, a3⟩ := stepDown_fields (s.withCommitIndex i).commitConfig
    obtain ⟨b1, b2, b3⟩ := commitConfig_fields (s.withCommitIndex i)
    rw [closeIfRemoved_member _ (by rw [a2, a3, b2, b3]; exact hh), a1, b1]
    rfl
  · rfl

theorem setCommitIndexR_open (s : Node) (i : Nat) (hh : s.configs.latest.has s.nid = true) :
    (s.setCommitIndexR i).1.configs.latest = s.configs.latest ∧ (s.setCommitIndexR i).1.closed = s.closed ∧
    (s.setCommitIndexR i).1.nid = s.nid ∧ (s.setCommitIndexR i).1.commitIndex = i := by
  obtain ⟨_, _, _, _, e5, _, _, _, _, _, e11, _⟩ := NoPanic.setCommitIndexR_spec s i
  exact ⟨e11, setCommitIndexR_closed s i hh, e5, C19.setCommitIndexR_commitIndex s i⟩

theorem has_of_isVoter (c : Config) (id : Nat) (h : c.isVoter id = true) : c.has id = true := by
  unfold Config.isVoter at h
  unfold Config.has
  split at h
  · rename_i n hn; rw [hn]; rfl
  · cases h

theorem ki_closed (C : Config) (Bk : Nat → Nat → Prop) (n t lb : Nat) (hC : C.isVoter n = true) :
    MClosed C Bk (KI C n t lb) where
  cfg := fun s h => h.1
  panic := fun s site h => ki_keep h (keep_panic s site) (SameKey.panic s site).role (SameKey.panic s site).term
  reply := fun s t r h => ki_keep h (keep_reply s t r) (SameKey.reply s t r).role (SameKey.reply s t r).term
  point := fun s nm h => ki_congr h rfl rfl rfl rfl rfl rfl
  fsm := fun s f h => ki_congr h rfl rfl rfl rfl rfl rfl
  popOrder := fun s h => ki_congr h rfl rfl rfl rfl rfl rfl
  ldr := fun s l h _ => ki_congr h rfl rfl rfl rfl rfl rfl
  append := fun s e roll h _ _ => ki_congr h rfl rfl rfl rfl rfl rfl
  commit := fun s i h hi _ _ => by
    have hv : (s.commitLog i).configs.latest.isVoter (s.commitLog i).nid = true := by
      show s.configs.latest.isVoter s.nid = true
      rw [h.1, h.2.2.1]; exact hC
    obtain ⟨a, b, c, d⟩ := setCommitIndexR_open (s.commitLog i) i (has_of_isVoter _ _ hv)
    obtain ⟨_, _, r, _⟩ := setCommitIndexR_voter (s.commitLog i) i hv
    refine ⟨a.trans h.1, b.trans h.2.1, c.trans h.2.2.1, ?_, r.trans h.2.2.2.2.1,
      (setCommitIndexR_key (s.commitLog i) i).2.1.trans h.2.2.2.2.2⟩
    rw [d]
    have := h.2.2.2.1
    omega

theorem leaderInit_ki {C : Config} {n t lb : Nat} (hC : C.isVoter n = true) (hS : C.isStable = true) (x : Node)
    (hx : KI C n t lb x) : KI C n t lb x.leaderInit := by
  have L := ki_closed C AF n t lb hC
  have e : x.leaderInit = storeEntry (fuelFor 1)
      (checkConfigActions (fuelFor 0)
        ((initBase x).configs.latest.nodes.foldl (fun s n => if n.id = s.nid then s else s.addReplication n) (initBase x)) 0
        ((initBase x).configs.latest.nodes.foldl (fun s n => if n.id = s.nid then s else s.addReplication n) (initBase x)).configs.latest)
      [{ typ := etNop }] := rfl
  have h0 : KI C n t lb (initBase x) := by
    obtain ⟨c1, c2, c3, _, _, c6, c7, _⟩ := initBase_lobs x
    unfold initBase
    exact ki_keep hx ((keep_assert x _ _).trans (keep_withLdr _ _)) c2 (core_term c1)
  have h2 := foldl_addReplication (P := KI C n t lb) (fun s n hs => L.addReplication_m _ _ hs)
    (initBase x).configs.latest.nodes (initBase x) h0
  rw [e]
  generalize (initBase x).configs.latest.nodes.foldl (fun s n => if n.id = s.nid then s else s.addReplication n)
    (initBase x) = s2 at h2
  have h3 : KI C n t lb (checkConfigActions (fuelFor 0) s2 0 s2.configs.latest) := by
    rw [h2.1]; exact L.checkConfigActions_m hS _ _ _ h2
  exact L.storeEntry_m hS _ _ _ h3 (by intro q hq; rw [List.mem_singleton.mp hq]; decide)

theorem handle_counted (b : Node) (tm : Nat) (hr : b.role = .candidate) (htm : tm ≤ b.term) :
    b.handle (.voteResult false tm rSuccess) =
      if b.votesNeeded - 1 = 0 then ((b.withVotesNeeded (b.votesNeeded - 1)).setRole .leader).setLeader b.nid
      else b.withVotesNeeded (b.votesNeeded - 1) := by
  show (if b.role = .candidate then b.onVoteResult false tm rSuccess else _) = _
  rw [if_pos hr]
  unfold Node.onVoteResult
  rw [if_neg (by decide), if_neg (show ¬ tm > b.term by omega), if_pos rfl]
  rfl

/-- **voteResult_counts**: a candidate counts a granted vote that is not the last one it needs: one vote less is
missing; nothing else moves. -/
theorem voteResult_counts (s : Node) (ra : List Nat) (ord : List (List Nat)) (tm : Nat)
    (hr : s.role = .candidate) (htm : tm ≤ s.term) (hvn : s.votesNeeded - 1 ≠ 0) :
    (s.step (.voteResult false tm rSuccess) ra ord).role = .candidate ∧
    (s.step (.voteResult false tm rSuccess) ra ord).term = s.term ∧
    (s.step (.voteResult false tm rSuccess) ra ord).votedFor = s.votedFor ∧
    (s.step (.voteResult false tm rSuccess) ra ord).leader = s.leader ∧
    (s.step (.voteResult false tm rSuccess) ra ord).votesNeeded = s.votesNeeded - 1 ∧
    Keep s (s.step (.voteResult false tm rSuccess) ra ord) := by
  rw [Node.step_eq_settle s _ ra ord (by intro h; cases h), handle_counted (s.begin ra ord) tm hr htm,
    if_neg (show ¬ (s.begin ra ord).votesNeeded - 1 = 0 from hvn)]
  have e : settle 6 ((s.begin ra ord).withVotesNeeded ((s.begin ra ord).votesNeeded - 1)) s.role =
      (s.begin ra ord).withVotesNeeded ((s.begin ra ord).votesNeeded - 1) := settle_of_role rfl
  rw [e]
  exact ⟨hr, rfl, rfl, rfl, rfl, (keep_begin s ra ord).trans (keep_votesNeeded _ _)⟩

structure Elected (s s' : Node) : Prop where
  role : s'.role = .leader
  term : s'.term = s.term
  votedFor : s'.votedFor = s.votedFor
  nid : s'.nid = s.nid
  cfg : s'.configs.latest = s.configs.latest
  closed : s'.closed = ""
  commitIndex : s'.commitIndex = s.commitIndex
  nwf : NWF s'
  ext : ∃ es, es ≠ [] ∧ s'.log.entries = s.log.entries ++ es ∧ ∀ e ∈ es, e.term = s.term

/-- **majority_of_grants_makes_leader**: a candidate (an open voter of its stable latest configuration with at
least two voters, no snapshots) counts the last vote it needs: it is leader of the same term, `leader.init` has
appended at least one entry of that term (the no-op) to its log and nothing else; commit index, latest
configuration, `closed` stay (`Elected`). -/
theorem majority_of_grants_makes_leader (s : Node) (ra : List Nat) (ord : List (List Nat)) (tm : Nat)
    (hr : s.role = .candidate) (htm : tm ≤ s.term) (hvn : s.votesNeeded - 1 = 0)
    (hn : NWF s) (hl : C06.LogWF s.log) (hwf : C05.VoteWF s) (hst : s.configs.latest.isStable = true)
    (hv : s.configs.latest.isVoter s.nid = true) (hnd : s.configs.latest.voters.Nodup)
    (h2 : 2 ≤ s.configs.latest.numVoters) (ho : s.closed = "") :
    Elected s (s.step (.voteResult false tm rSuccess) ra ord) := by
  rw [Node.step_eq_settle s _ ra ord (by intro h; cases h), handle_counted (s.begin ra ord) tm hr htm,
    if_pos (show (s.begin ra ord).votesNeeded - 1 = 0 from hvn)]
  generalize hh : (((s.begin ra ord).withVotesNeeded ((s.begin ra ord).votesNeeded - 1)).setRole .leader).setLeader
    (s.begin ra ord).nid = h
  have kh : Keep s h := by
    rw [← hh]
    exact (keep_begin s ra ord).trans ((keep_votesNeeded _ _).trans ((keep_setRole _ _).trans (keep_setLeader _ _)))
  have hrole : h.role = .leader := by rw [← hh]; rfl
  have hterm : h.term = s.term ∧ h.votedFor = s.votedFor ∧ h.durTerm = s.durTerm ∧ h.durVote = s.durVote := by
    rw [← hh]
    dsimp only [Node.setLeader, Node.setRole, Node.withVotesNeeded, Node.begin]
    exact ⟨rfl, rfl, rfl, rfl⟩
  have hne : h.role ≠ s.role := by rw [hrole, hr]; exact fun e => by cases e
  cases settle_shape 3 h s.role hne with
  | follower hf _ => rw [hrole] at hf; cases hf
  | cand hc _ _ => rw [hrole] at hc; cases hc
  | candLeader x hc _ _ _ => rw [hrole] at hc; cases hc
  | leader x _ ex hp =>
    obtain ⟨kx, rx, tx, vx, _⟩ := releaseRole_all h s.role
    rw [← ex] at kx rx tx vx
    have kx' : Keep s x := kh.trans kx
    have hdur : x.durTerm = s.durTerm ∧ x.durVote = s.durVote := by
      rw [ex, hr]; exact ⟨hterm.2.2.1, hterm.2.2.2⟩
    have hxi : InitHyp x :=
      ⟨kx'.nwf hn, by rw [kx'.log]; exact hl,
        ⟨by rw [hdur.1, tx, hterm.1]; exact hwf.1, by rw [hdur.2, vx, hterm.2.1]; exact hwf.2⟩,
        rx.trans hrole, by rw [kx'.configs]; exact hst, by rw [kx'.configs, kx'.nid]; exact hv,
        by rw [kx'.configs]; exact hnd⟩
    obtain ⟨li, hlen⟩ := leaderInit_li hxi
    have hpost : settle 6 h s.role = x.leaderInit := by
      rcases hp with ⟨_, e⟩ | ⟨r, _⟩
      · exact e
      · rw [li.role] at r; cases r
    rw [hpost]
    obtain ⟨c1, _, c3, c4, _, c6, c7, _⟩ := initBase_lobs x
    have hcore : (initBase x).log = x.log ∧ (initBase x).term = x.term := by
      unfold Core at c1; simp only [Prod.mk.injEq] at c1; exact ⟨c1.1, c1.2.2.2.2.2.1⟩
    have hki : KI s.configs.latest s.nid s.term 0 x.leaderInit :=
      leaderInit_ki hv hst x
        ⟨by rw [kx'.configs], by rw [kx'.closed]; exact ho, kx'.nid, Nat.zero_le _, rx.trans hrole,
          tx.trans hterm.1⟩
    obtain ⟨es, he, hes⟩ := li.ext
    refine ⟨li.role, by rw [li.term, hcore.2, tx, hterm.1], by rw [li.vote.1, c4, vx, hterm.2.1], hki.2.2.1,
      hki.1, hki.2.1, ?_, li.nwf, es, ?_, by rw [he, hcore.1, kx'.log], ?_⟩
    · rcases li.ci with c | ⟨_, _, _, _, Q, q1, q2, q3, q4⟩
      · rw [c, c7, kx'.commitIndex]
      · exfalso
        have hlen1 : Q.length ≤ 1 := length_le_one_of_all_eq q1 (fun j hj => by
          rcases q4 j hj with e | ⟨_, _, f⟩
          · exact e
          · exact f.elim)
        have : (initBase x).configs.latest.voters.length = s.configs.latest.numVoters := by
          rw [c6, kx'.configs, voters_length]
        rw [this] at q3
        omega
    · intro e0
      rw [e0, List.append_nil, hcore.1] at he
      rw [he] at hlen
      exact Nat.lt_irrefl _ hlen
    · intro e hemem
      rw [hes e hemem, hcore.2, tx, hterm.1]


/-- the consistency check of `onAppendEntriesRequest` when the log holds the previous entry: all that is left is the
decision whether to commit up to it -/
theorem appendCheck_held (s : Node) (q : AppendReq) (hn : NWF s) (h1 : 1 ≤ q.prevLogIndex)
    (h2 : q.prevLogIndex ≤ s.log.entries.length) (ht : termAt s.log.entries q.prevLogIndex = q.prevLogTerm) :
    s.appendCheck q =
      if s.canCommit q q.prevLogIndex q.prevLogTerm then ((s.setCommitIndexR q.prevLogIndex).1.applyCommitted).ret 0
      else s.ret 0 := by
  have hplt : (if q.prevLogIndex = s.lastLogIndex then s.lastLogTerm else (s.entryTerm? q.prevLogIndex).getD 0) =
      q.prevLogTerm := by
    split
    · rename_i e
      rw [hn.lastT, ← termAt_length, ← hn.last, ← e]; exact ht
    · rw [hn.entryTerm _ h1 h2]; exact ht
  unfold Node.appendCheck
  rw [if_pos (show q.prevLogIndex > s.snapIndex by rw [hn.snapIndex]; omega),
    if_neg (show ¬ q.prevLogIndex > s.lastLogIndex by rw [hn.last]; omega)]
  extract_lets sx plt
  have e1 : sx = s := by
    unfold sx
    split
    · rfl
    · rw [hn.entryTerm _ h1 h2]
  have e2 : plt = q.prevLogTerm := by unfold plt; rw [e1]; exact hplt
  rw [if_neg (by intro h; exact h e2.symm), e1]

theorem appendCheck_accepts (s : Node) (q : AppendReq) (hn : NWF s) (h1 : 1 ≤ q.prevLogIndex)
    (h2 : q.prevLogIndex ≤ s.log.entries.length) (ht : termAt s.log.entries q.prevLogIndex = q.prevLogTerm) :
    (s.appendCheck q).result = 0 := by
  rw [appendCheck_held s q hn h1 h2 ht]
  split <;> rfl

theorem keep_appendPre (s : Node) (q : AppendReq) :
    Keep s (((if q.term > s.term then (s.setTerm q.term).setRole .follower else s).setRole .follower).setLeader q.src) := by
  refine Keep.trans ?_ ((keep_setRole _ _).trans (keep_setLeader _ _))
  split
  · exact (keep_setTerm _ _).trans (keep_setRole _ _)
  · exact Keep.refl s

theorem append_step_reply (s : Node) (q : AppendReq) (ra : List Nat) (ord : List (List Nat))
    (hns : ¬ q.term < s.term) :
    (s.step (.append q) ra ord).rpcReply.map (·.result) = some ((s.begin ra ord).onAppendEntries q).result := by
  have hpost : s.step (.append q) ra ord =
      settle 6 (((s.begin ra ord).onAppendEntries q).rpcDone false true) s.role := rfl
  have hf : (((s.begin ra ord).onAppendEntries q).rpcDone false true).role = .follower := by
    rw [(SameKey.rpcDone _ _ _).role]
    exact onAppendEntries_role _ q hns
  obtain ⟨_, _, _, _, e⟩ := settle_follower_all _ s.role hf
  rw [hpost, e, Node.rpcDone_reply]
  rfl

/-- **append_all_entries_accepted**: a node without snapshots receives an append request that is not stale,
whose previous entry (`prevLogIndex ≥ 1`, `prevLogTerm`) its log holds, in a step that does not fail (in the
system: `C19Sys.reqok_in_sys_partial`): the reply carries `success`. (What the log then holds: `CommitRel.fstep`,
field `ack` — the previous entry and all entries of the request.) -/
theorem append_all_entries_accepted (s : Node) (q : AppendReq) (ra : List Nat) (ord : List (List Nat))
    (hn : NWF s) (hns : ¬ q.term < s.term) (h1 : 1 ≤ q.prevLogIndex)
    (h2 : q.prevLogIndex ≤ s.log.entries.length) (ht : termAt s.log.entries q.prevLogIndex = q.prevLogTerm)
    (hp : (s.step (.append q) ra ord).panicked = none) :
    (s.step (.append q) ra ord).rpcReply.map (·.result) = some rSuccess := by
  rw [append_step_reply s q ra ord hns]
  have hpost : s.step (.append q) ra ord =
      settle 6 (((s.begin ra ord).onAppendEntries q).rpcDone false true) s.role := rfl
  rw [hpost] at hp
  have hp1 := SnapRelU.settle_sticky 6 _ _ hp
  have hne : ((s.begin ra ord).onAppendEntries q).result ≠ rUnexpectedErr := by
    intro he
    unfold Node.rpcDone at hp1
    rw [if_pos he] at hp1
    exact panic_panicked_ne _ _ hp1
  congr 1
  revert hne
  rw [onAppendEntries_stages, if_neg (show ¬ q.term < (s.begin ra ord).term from hns)]
  have k2 : Keep s (followPre (s.begin ra ord) q.term q.src) := (keep_begin s ra ord).trans (keep_appendPre _ q)
  rw [if_neg fun h => h (appendCheck_accepts _ q (k2.nwf hn) h1 (by rw [k2.log]; exact h2) (by rw [k2.log]; exact ht))]
  generalize appendLoop ⟨(followPre (s.begin ra ord) q.term q.src).appendCheck q, q.prevLogIndex, q.prevLogTerm, false, false⟩
    q.entries = st
  show (if st.err = true then rUnexpectedErr else rSuccess) ≠ rUnexpectedErr → (if st.err = true then _ else _) = rSuccess
  exact ite_ind (P := fun r => r ≠ rUnexpectedErr → r = rSuccess) (fun _ h => absurd rfl h) fun _ _ => rfl

def cobs (s : Node) : Nat × Nat × Configs × String := (s.nid, s.retain, s.configs, s.closed)

theorem fsmFrame_cobs : FsmFrame cobs :=
  ⟨fun s site => by unfold Node.panic; split <;> rfl, fun s t r => by unfold Node.reply; split <;> rfl,
   fun _ _ => rfl⟩

theorem cobs_keep {s s' : Node} (k : Keep s s') : cobs s' = cobs s := by
  unfold cobs; rw [k.nid, k.retain, k.configs, k.closed]

theorem cobs_resolveConflict (s : Node) (ne : Entry) (pt : Nat) (h : s.configs.latest.index < ne.index) :
    cobs (s.resolveConflict ne pt) = cobs s := by
  unfold Node.resolveConflict
  split
  · split
    · exact fsmFrame_cobs.panic _ _
    · dsimp only
      rw [if_neg (show ¬ ne.index ≤ (s.removeGTE ne.index pt).configs.latest.index from by
        show ¬ ne.index ≤ s.configs.latest.index; omega)]
      rfl
  · rfl

theorem cobs_appendLoop (es : List Entry) : ∀ (st : AppLoop),
    (∀ e ∈ es, e.typ ≠ etConfig ∧ st.s.configs.latest.index < e.index) →
    cobs (appendLoop st es).s = cobs st.s := by
  induction es with
  | nil => intro st _; rfl
  | cons ne rest ih =>
    intro st h
    have hne := h ne (List.mem_cons_self ..)
    have hrest : ∀ (st' : AppLoop), cobs st'.s = cobs st.s →
        ∀ e ∈ rest, e.typ ≠ etConfig ∧ st'.s.configs.latest.index < e.index := by
      intro st' e' e he
      have := h e (List.mem_cons_of_mem _ he)
      have ec : st'.s.configs = st.s.configs := by
        unfold cobs at e'; simp only [Prod.mk.injEq] at e'; exact e'.2.2.1
      rw [ec]; exact this
    unfold appendLoop
    refine ite_ind (P := fun z : AppLoop => cobs z.s = cobs st.s) (fun _ => rfl) fun _ => ?_
    dsimp only
    refine ite_ind (P := fun z : AppLoop => cobs z.s = cobs st.s) (fun _ => ih _ (hrest _ rfl)) fun _ => ?_
    refine ite_ind (P := fun z : AppLoop => cobs z.s = cobs st.s) (fun _ => ih _ (hrest _ rfl)) fun _ => ?_
    rw [if_neg hne.1]
    have e1 : cobs ((st.s.resolveConflict ne st.term).appendEntry ne) = cobs st.s := by
      rw [appendEntry_shape]; exact cobs_resolveConflict st.s ne st.term hne.2
    exact (ih _ (hrest _ e1)).trans e1

def lobs' (s : Node) : Nat × Nat × Config × String := (s.nid, s.retain, s.configs.latest, s.closed)

theorem lobs'_of_cobs {s s' : Node} (h : cobs s' = cobs s) : lobs' s' = lobs' s := by
  unfold cobs at h; simp only [Prod.mk.injEq] at h
  unfold lobs'; rw [h.1, h.2.1, h.2.2.1, h.2.2.2]

theorem lobs'_commitApply (s : Node) (i : Nat) (hh : s.configs.latest.has s.nid = true) :
    lobs' (s.setCommitIndexR i).1.applyCommitted = lobs' s := by
  have h1 := lobs'_of_cobs (fsmFrame_cobs.applyCommitted_eq (s.setCommitIndexR i).1)
  obtain ⟨_, _, _, _, e5, e6, _, _, _, _, e11, _⟩ := NoPanic.setCommitIndexR_spec s i
  rw [h1]; unfold lobs'; rw [e5, e6, e11, setCommitIndexR_closed s i hh]

theorem lobs'_ret (s : Node) (r : Nat) : lobs' (s.ret r) = lobs' s := rfl

theorem lobs'_appendCheck (s : Node) (q : AppendReq) (hh : s.configs.latest.has s.nid = true) :
    lobs' (s.appendCheck q) = lobs' s := by
  have hx : ∀ {x}, Looked s q x → Keep s x := fun hl => by
    rcases hl.eq with rfl | rfl
    · exact Keep.refl _
    · exact keep_panic _ _
  exact appendCheck_cases s q (P := fun x => lobs' x = lobs' s)
    (fun x r hl _ => (lobs'_ret x r).trans (lobs'_of_cobs (cobs_keep (hx hl)))) fun x hl _ _ _ _ => by
      rw [lobs'_ret, lobs'_commitApply x _ (by rw [(hx hl).configs, (hx hl).nid]; exact hh)]
      exact lobs'_of_cobs (cobs_keep (hx hl))

/-- **a follower keeps its latest configuration and stays open** when it handles an append request that is not
stale and whose entries are no configuration entries and lie beyond the index of its latest configuration (of
which it is a member) -/
theorem append_step_frame (s : Node) (q : AppendReq) (ra : List Nat) (ord : List (List Nat))
    (hns : ¬ q.term < s.term) (hh : s.configs.latest.has s.nid = true)
    (hes : ∀ e ∈ q.entries, e.typ ≠ etConfig ∧ s.configs.latest.index < e.index) :
    (s.step (.append q) ra ord).nid = s.nid ∧ (s.step (.append q) ra ord).retain = s.retain ∧
    (s.step (.append q) ra ord).configs.latest = s.configs.latest ∧
    (s.step (.append q) ra ord).closed = s.closed ∧ (s.step (.append q) ra ord).role = .follower := by
  have hpost : s.step (.append q) ra ord =
      settle 6 (((s.begin ra ord).onAppendEntries q).rpcDone false true) s.role := rfl
  have hf : (((s.begin ra ord).onAppendEntries q).rpcDone false true).role = .follower := by
    rw [(SameKey.rpcDone _ _ _).role]
    exact onAppendEntries_role _ q hns
  obtain ⟨ks, rs, _, _, _⟩ := settle_follower_all _ s.role hf
  have kd := keep_rpcDone ((s.begin ra ord).onAppendEntries q) false true
  suffices h : lobs' ((s.begin ra ord).onAppendEntries q) = lobs' s by
    unfold lobs' at h; simp only [Prod.mk.injEq] at h
    rw [hpost]
    refine ⟨by rw [ks.nid, kd.nid]; exact h.1, by rw [ks.retain, kd.retain]; exact h.2.1,
      by rw [ks.configs, kd.configs]; exact h.2.2.1, by rw [ks.closed, kd.closed]; exact h.2.2.2, rs⟩
  rw [onAppendEntries_stages, if_neg (show ¬ q.term < (s.begin ra ord).term from hns)]
  have k2 : Keep s (followPre (s.begin ra ord) q.term q.src) := (keep_begin s ra ord).trans (keep_appendPre _ q)
  have l3 : lobs' ((followPre (s.begin ra ord) q.term q.src).appendCheck q) = lobs' s :=
    (lobs'_appendCheck _ q (by rw [k2.configs, k2.nid]; exact hh)).trans (lobs'_of_cobs (cobs_keep k2))
  generalize (followPre (s.begin ra ord) q.term q.src).appendCheck q = s3 at l3 ⊢
  refine ite_ind (P := fun y => lobs' y = lobs' s) (fun _ => l3) fun _ => ?_
  have c3 : s3.configs.latest = s.configs.latest := by
    unfold lobs' at l3; simp only [Prod.mk.injEq] at l3; exact l3.2.2.1
  have l4 : lobs' (appendLoop ⟨s3, q.prevLogIndex, q.prevLogTerm, false, false⟩ q.entries).s = lobs' s :=
    (lobs'_of_cobs (cobs_appendLoop q.entries _ fun e he => by rw [c3]; exact hes e he)).trans l3
  generalize appendLoop ⟨s3, q.prevLogIndex, q.prevLogTerm, false, false⟩ q.entries = st at l4 ⊢
  have c4 : st.s.configs.latest.has st.s.nid = true := by
    unfold lobs' at l4; simp only [Prod.mk.injEq] at l4; rw [l4.2.2.1, l4.1]; exact hh
  unfold afterLoop
  rw [lobs'_ret]
  exact ite_ind (P := fun y => lobs' y = lobs' s) (fun _ => ite_ind (P := fun y => lobs' y = lobs' s)
    (fun _ => (lobs'_commitApply (st.s.commitLog _) _ c4).trans l4) fun _ => l4) fun _ => l4

/-- log and commit index: what the FSM goroutine does not touch -/
def lcobs (s : Node) : NLog × Nat := (s.log, s.commitIndex)

theorem fsmFrame_lcobs : FsmFrame lcobs :=
  ⟨fun s site => by unfold Node.panic; split <;> rfl, fun s t r => by unfold Node.reply; split <;> rfl,
   fun _ _ => rfl⟩

/-- **heartbeat_commits_follower**: a node without snapshots receives an append request without entries that is
not stale, whose previous entry `(N, term of the request)` its log holds, stamped with a leader commit index `≥ N`,
while its own commit index is below `N`, in a step that does not fail: afterwards its commit index is `N`, its
state machine has applied everything up to `N`, the log is unchanged. -/
theorem heartbeat_commits_follower (s : Node) (q : AppendReq) (ra : List Nat) (ord : List (List Nat))
    (hn : NWF s) (hns : ¬ q.term < s.term) (he : q.entries = []) (h1 : 1 ≤ q.prevLogIndex)
    (h2 : q.prevLogIndex ≤ s.log.entries.length) (ht : termAt s.log.entries q.prevLogIndex = q.prevLogTerm)
    (hT : q.prevLogTerm = q.term) (hc : q.prevLogIndex ≤ q.ldrCommitIndex) (hlt : s.commitIndex < q.prevLogIndex)
    (hp : (s.step (.append q) ra ord).panicked = none) :
    (s.step (.append q) ra ord).commitIndex = q.prevLogIndex ∧
    (s.step (.append q) ra ord).fsm.index = q.prevLogIndex ∧ (s.step (.append q) ra ord).log = s.log := by
  have hpost : s.step (.append q) ra ord =
      settle 6 (((s.begin ra ord).onAppendEntries q).rpcDone false true) s.role := rfl
  have hf : (((s.begin ra ord).onAppendEntries q).rpcDone false true).role = .follower := by
    rw [(SameKey.rpcDone _ _ _).role]
    exact onAppendEntries_role _ q hns
  obtain ⟨ks, _, _, _, _⟩ := settle_follower_all _ s.role hf
  have kd := keep_rpcDone ((s.begin ra ord).onAppendEntries q) false true
  rw [hpost] at hp
  have hp1 := SnapRelU.settle_sticky 6 _ _ hp
  have hp2 : ((s.begin ra ord).onAppendEntries q).panicked = none :=
    SnapRelP.npk (k := fun x => x.rpcDone false true) (fun π x => SnapRelP.P_rpcDone x false true) hp1
  suffices h : ((s.begin ra ord).onAppendEntries q).panicked = none →
      ((s.begin ra ord).onAppendEntries q).commitIndex = q.prevLogIndex ∧
      ((s.begin ra ord).onAppendEntries q).fsm.index = q.prevLogIndex ∧
      ((s.begin ra ord).onAppendEntries q).log = s.log by
    obtain ⟨a, b, c⟩ := h hp2
    rw [hpost]
    exact ⟨by rw [ks.commitIndex, kd.commitIndex]; exact a, by rw [ks.fsm, kd.fsm]; exact b,
      by rw [ks.log, kd.log]; exact c⟩
  rw [onAppendEntries_stages, if_neg (show ¬ q.term < (s.begin ra ord).term from hns)]
  have k2 : Keep s (followPre (s.begin ra ord) q.term q.src) := (keep_begin s ra ord).trans (keep_appendPre _ q)
  generalize followPre (s.begin ra ord) q.term q.src = s2 at k2 ⊢
  -- the consistency check commits
  have e3 : s2.appendCheck q = ((s2.setCommitIndexR q.prevLogIndex).1.applyCommitted).ret 0 := by
    rw [appendCheck_held s2 q (k2.nwf hn) h1 (by rw [k2.log]; exact h2) (by rw [k2.log]; exact ht), if_pos]
    unfold Node.canCommit
    rw [k2.commitIndex, hT]
    simp only [Bool.and_eq_true, decide_eq_true_eq, beq_self_eq_true, and_true]
    exact ⟨hc, hlt⟩
  rw [e3, if_neg (fun h => h rfl)]
  unfold afterLoop
  rw [he, if_neg (fun h => absurd h.1 (by decide))]
  have hab := C03.apply_never_beyond_commit (s2.setCommitIndexR q.prevLogIndex).1 []
  rw [C19.setCommitIndexR_commitIndex s2 q.prevLogIndex] at hab
  have hlog : (s2.setCommitIndexR q.prevLogIndex).1.applyCommitted.log = s.log := by
    have := fsmFrame_lcobs.applyCommitted_eq (s2.setCommitIndexR q.prevLogIndex).1
    unfold lcobs at this; simp only [Prod.mk.injEq] at this
    rw [this.1, (NoPanic.setCommitIndexR_spec s2 _).1, k2.log]
  unfold Node.applyCommitted at hlog ⊢
  generalize (s2.setCommitIndexR q.prevLogIndex).1.fsmApply [] = A at hab hlog ⊢
  exact fun hpan => ⟨(hab hpan).2, (hab hpan).1, hlog⟩

end Progress
end Raft
