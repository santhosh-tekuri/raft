/-
A variant of the composition framework `Lemmas/Inv.lean` + `Lemmas/StepInv.lean` for invariants that mention the STATE
MACHINE (`Node.fsm`): there the primitive `withFsm f` is unguarded (any `f`), so nothing can be said about the FSM. Here
the primitives concerning the FSM are the three things the FSM goroutine does — `fsmApplyLogTo` (apply a range of the
log), `fsmApplyItems` (apply the leader's queue items), and the restore inside `onInstallSnapRequest` (`installCore`:
publish the file, reset the log, restore) —, `appendEntry` is a primitive WITH its assertion, the snapshot goroutine
`snapRun` is a primitive guarded by a state predicate `PS`, the received snapshot file by `PF`, and `begin` (which clears
`panicked`) is left to the caller. These are the larger updates of `Guarded`/`GuardedStep` (Lemmas/StepWalk.lean), whose
walk gives the theorems here.
-/
import RaftVerif.Lemmas.StepWalk

namespace Raft
namespace Node


structure FClosed (Inv : Node → Prop) : Prop where
  panic : ∀ s site, Inv s → Inv (s.panic site)
  reply : ∀ s t r, Inv s → Inv (s.reply t r)
  point : ∀ s n, Inv s → Inv (s.point n)
  ldr : ∀ (s : Node) l, Inv s → Inv (s.withLdr l)
  /-- `storage.appendEntry` including its assertion `e.index = lastLogIndex + 1` -/
  appendEntry : ∀ (s : Node) e, Inv s → Inv (s.appendEntry e)
  commitN : ∀ (s : Node) n, Inv s → Inv { s with log := s.log.commitN n }
  /-- the FSM goroutine applies a range of the log -/
  fsmLog : ∀ (s : Node) n, Inv s → Inv (s.fsmApplyLogTo n)
  /-- the FSM goroutine applies the queue items handed over by the leader -/
  fsmItems : ∀ (s : Node) qs, Inv s → Inv (s.fsmApplyItems qs)
  changeConfigR : ∀ (s : Node) c, Inv s → Inv (s.changeConfigR c)
  /-- the commit index only ever moves forward: every call site has checked `i > commitIndex` -/
  setCommitIndexR : ∀ (s : Node) i, Inv s → i > s.commitIndex → Inv (s.setCommitIndexR i).1
  popOrder : ∀ (s : Node), Inv s → Inv s.popOrder

namespace FClosed

variable {Inv : Node → Prop} (h : FClosed Inv)
include h

theorem toGuarded : Guarded Inv where
  panic := h.panic
  reply := h.reply
  point := h.point
  ldrK := fun s l hs _ _ _ => h.ldr s l hs
  replsG := fun s _ hs _ => h.ldr s _ hs
  appendEntry := fun s e hs _ _ => h.appendEntry s e hs
  commitN := h.commitN
  fsmLog := h.fsmLog
  fsmItems := h.fsmItems
  changeConfigR := h.changeConfigR
  setCommitIndexR := h.setCommitIndexR
  popOrder := h.popOrder

theorem commitLog_inv (s : Node) (n : Nat) (hs : Inv s) : Inv (s.commitLog n) :=
  h.toGuarded.commitLog_inv s n hs

end FClosed

structure FStepClosed (PF : SnapFile → Prop) (PS : Node → Prop) (Inv : Node → Prop) : Prop extends FClosed Inv where
  rpcReply : ∀ (s : Node) r, Inv s → Inv (s.withRpcReply r)
  ret : ∀ (s : Node) r, Inv s → Inv (s.ret r)
  setRole : ∀ (s : Node) r, Inv s → Inv (s.setRole r)
  setLeader : ∀ (s : Node) l, Inv s → Inv (s.setLeader l)
  doClose : ∀ (s : Node) r, Inv s → Inv (s.doClose r)
  setTerm : ∀ (s : Node) t, Inv s → Inv (s.setTerm t)
  /-- `setVotedFor` entering a higher term (vote requests, the self vote of `startElection`) -/
  voteNewTerm : ∀ (s : Node) t c, Inv s → t > s.term → Inv (s.setVotedFor t c)
  /-- `setVotedFor` granting the vote in the current term while no vote was cast yet -/
  voteGrant : ∀ (s : Node) c, Inv s → s.votedFor = 0 → Inv (s.setVotedFor s.term c)
  votesNeeded : ∀ (s : Node) v, Inv s → Inv (s.withVotesNeeded v)
  candTransfer : ∀ (s : Node) v, Inv s → Inv (s.withCandTransfer v)
  removeGTE : ∀ (s : Node) i pt, Inv s →
    Inv { s with log := s.log.removeGTE i, lastLogIndex := i - 1, lastLogTerm := pt }
  removeLTE : ∀ (s : Node) i, Inv s → Inv { s with log := s.log.removeLTE i }
  clearLog : ∀ (s : Node), Inv s →
    Inv { s with log := NLog.reset s.snapIndex, lastLogIndex := s.snapIndex, lastLogTerm := s.snapTerm }
  revertConfig : ∀ (s : Node), Inv s → Inv s.revertConfig
  commitConfig : ∀ (s : Node), Inv s → Inv s.commitConfig
  /-- the core of `onInstallSnapRequest`: publish the received file, reset the log, restore the state machine -/
  installCore : ∀ (s : Node) f, Inv s → PF f → Inv ((s.publishSnapshot f).clearLog.fsmRestore)
  /-- the snapshot goroutine, in a state satisfying `PS` -/
  snapRun : ∀ (s : Node), Inv s → PS s → Inv s.snapRun
  /-- `onInstallSnapRequest` sets the commit index to the new snapshot index, which is above it -/
  installCommit : ∀ (s : Node), Inv s → s.snapIndex > s.commitIndex → Inv (s.withCommitIndex s.snapIndex)
  snapPending : ∀ (s : Node) v, Inv s → Inv (s.withSnapPending v)
  snapResult : ∀ (s : Node) v, Inv s → Inv (s.withSnapResult v)
  bootstrapLast : ∀ (s : Node) i t, Inv s → Inv (s.withLast i t)

namespace FStepClosed

variable {PF : SnapFile → Prop} {PS : Node → Prop} {Inv : Node → Prop} (h : FStepClosed PF PS Inv)
include h

omit h in
def caps (PF : SnapFile → Prop) (PS : Node → Prop) : Caps := { Caps.all with file := PF, snap := PS }

theorem clearLog_inv (s : Node) (hs : Inv s) : Inv s.clearLog := by
  unfold Node.clearLog; exact h.point _ _ (h.clearLog _ hs)

theorem toGuardedStep : GuardedStep (caps PF PS) Inv where
  toGuarded := h.toFClosed.toGuarded
  ldrT := fun _ s l hs _ _ => h.ldr s l hs
  ldrAny := fun _ => h.ldr
  appendAny := h.appendEntry
  rpcReply := h.rpcReply
  ret := h.ret
  setRole := fun s r hs _ _ => h.setRole s r hs
  setLeader := h.setLeader
  doClose := fun _ => h.doClose
  setTerm := fun s t hs _ => h.setTerm s t hs
  voteNewTerm := fun s t v hs ht _ => h.voteNewTerm s t v hs ht
  voteGrant := h.voteGrant
  votesNeeded := fun _ => h.votesNeeded
  termDown := fun s t hs _ => h.setRole _ _ (h.setTerm s t hs)
  bootTerm := fun _ s hs => h.setTerm s 1 hs
  bootRole := fun _ s hs => h.setRole s _ hs
  candTransfer := h.candTransfer
  removeGTE := fun s i pt hs _ _ _ => h.removeGTE s i pt hs
  removeLTE := fun _ => h.removeLTE
  revertConfig := h.revertConfig
  commitConfig := fun _ => h.commitConfig
  installCore := fun _ => h.installCore
  installCommit := fun _ => h.installCommit
  snapRun := h.snapRun
  snapPending := h.snapPending
  snapResult := fun _ => h.snapResult
  bootstrapLast := fun _ => h.bootstrapLast

/-- what is asked of an operation: an install request is stale or its file satisfies `PF`; the snapshot goroutine
runs in a state satisfying `PS` -/
def _root_.Raft.Node.FOpOk (PF : SnapFile → Prop) (PS : Node → Prop) (s : Node) : Op → Prop
  | .install q => q.term < s.term ∨ PF { index := q.lastIndex, term := q.lastTerm, config := q.lastConfig, data := q.data }
  | .snapRun => PS s
  | .shutdown => PS ((s.doClose "serverClosed").releaseRole (s.doClose "serverClosed").role)
  | _ => True

omit h in
theorem opOk (s : Node) {op : Op} (hop : FOpOk PF PS s op) : (caps PF PS).Ok s op := by
  cases op
  case install q => exact hop.imp_right fun hf => ⟨trivial, hf⟩
  case snapRun => exact hop
  case snapTaken => exact ⟨trivial, trivial⟩
  case replUpdates us => exact ⟨trivial, trivial, fun _ => trivial⟩
  case shutdown => exact ⟨trivial, trivial, trivial, trivial, hop⟩
  case timeout => exact Or.inr trivial
  case voteResult => exact fun _ => trivial
  all_goals trivial

theorem step_inv (s : Node) (op : Op) (ra : List Nat) (ord : List (List Nat)) (hs : Inv (s.begin ra ord))
    (hop : FOpOk PF PS (s.begin ra ord) op) : Inv (s.step op ra ord) :=
  h.toGuardedStep.step_inv trivial trivial (h.toGuardedStep.leaderInit_inv trivial) s op ra ord (opOk _ hop) hs

end FStepClosed
end Node
end Raft
