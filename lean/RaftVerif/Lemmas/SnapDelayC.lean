/-
Delayed compaction (`leader.checkLogCompact`): the invariant of the cluster system `Raft.Snap5`
(Sys/Snap5.lean).

The cluster of the VIRTUAL nodes (`Snap2.view`: every log with its compacted-away prefix put back) runs in the system of
stage 1 (Sys/Snap.lean):
* a completed step with a batch of replication updates `us` — compaction reports included — is, for the virtual node,
  the step with the batch WITHOUT its compaction reports (`SnapDelay.step_rm_U`), followed — if `checkLogCompact`
  compacted — by a step that only flushes the log and regroups its segments (`SnapInv.sinv_regroup`);
* a crash before `compactLog` is a crash of the virtual node at the same storage point;
* every other transition is a transition of stage 2 (Lemmas/SnapInv2.lean).
On the real nodes the invariant adds `PrevOK` (the log starts at or below the snapshot index) and
`C06Cache.LeaderCache` (the replication table of a leader is sorted by id).
-/
import RaftVerif.Sys.Snap5
import RaftVerif.Lemmas.SnapDelayB
import RaftVerif.Lemmas.SnapFrame

namespace Raft
namespace SnapDelay
open Node Election LogRel Replication CommitRel Commit C02Sys C03Sys SnapRel SnapRelU SnapSim Snap Snap2 SnapInv SnapInv2
  SnapFrame

theorem enabled_old {x : Commit.Sys} {i : Nat} {op : Op} {src : Nat} (h : Snap5.Enabled x i op src)
    (hno : ∀ us, op = .replUpdates us → NoCompact us) : Snap.Enabled x i op src := by
  refine ⟨h.id, h.voteSrc, h.real, ⟨?_, h.ok2.2⟩, h.append, h.vote, h.appendSrc, h.upd⟩
  have h1 := h.ok2.1
  cases op <;> first | trivial | exact h1.elim | exact hno _ rfl

theorem enabled_rm {x : Commit.Sys} {i : Nat} {us : List ReplUpdate} {src : Nat}
    (h : Snap5.Enabled x i (.replUpdates us) src) : Snap.Enabled x i (.replUpdates (rmF us)) src := by
  refine ⟨h.id, fun q hq => (by cases hq), fun hc => ?_,
    ⟨rmF_noRm us, fun b hb => (by cases hb), fun t c hc => (by cases hc)⟩,
    fun q hq => (by cases hq), fun q hq => (by cases hq), fun q hq => (by cases hq), fun us' hus u hu v hv => ?_⟩
  · obtain ⟨_, _, _, he⟩ := hc; cases he
  · injection hus with hus
    rw [← hus] at hu
    exact h.upd us rfl u (rmF_mem hu) v hv

theorem stepL_rm (z : Commit.Sys) (i : Nat) (us us' : List ReplUpdate) (src : Nat) (A : Node) :
    stepL z i (.replUpdates us) src A = stepL z i (.replUpdates us') src A := rfl

/-- the ledgers after a batch of updates read the role, the term, the vote, the entries and the commit index of the
node -/
theorem stepL_congr (z : Commit.Sys) (i : Nat) (us : List ReplUpdate) (src : Nat) (A B : Node) (N : Nat → Node)
    (h1 : A.role = B.role) (h2 : A.term = B.term) (h3 : A.votedFor = B.votedFor)
    (h4 : A.log.entries = B.log.entries) (h5 : A.commitIndex = B.commitIndex) :
    withNodes (stepL z i (.replUpdates us) src A) N = withNodes (stepL z i (.replUpdates us) src B) N := by
  have e1 : selfGrant i (z.node i) A = selfGrant i (z.node i) B := by unfold selfGrant; rw [h2, h3]
  have e2 : newCreated i (z.node i).log.entries A.log.entries (.replUpdates us) =
      newCreated i (z.node i).log.entries B.log.entries (.replUpdates us) := by rw [h4]
  have e3 : selfAck i (.replUpdates us) (z.node i) A = selfAck i (.replUpdates us) (z.node i) B := by
    unfold selfAck LeaderCommit; simp only [h4, h5]
  have e4 : campOf i (z.node i) A = campOf i (z.node i) B := by unfold campOf; rw [h2, h3]
  have e5 : newCommit (.replUpdates us) (z.node i) A = newCommit (.replUpdates us) (z.node i) B := by
    unfold newCommit LeaderCommit; simp only [h4, h5]
  have e6 : voteGrant i (.replUpdates us) A = voteGrant i (.replUpdates us) B := rfl
  have e7 : ackOf i (.replUpdates us) A = ackOf i (.replUpdates us) B := rfl
  unfold stepL withNodes
  simp only [Commit.Sys.node] at e1 e2 e3 e4 e5
  rw [e1, e2, e3, e4, e5, e6, e7, h1, h2]

theorem stepNC_frame (s : Node) (us : List ReplUpdate) (ra : List Nat) (ord : List (List Nat))
    (h1 : s.log.prev ≤ s.snapIndex) (h2 : s.log.prev ≤ s.log.flushed) :
    FR s.log.prev s.snapIndex s.snapResult (stepNC s us ra ord) ∧
    FR s.log.prev s.snapIndex s.snapResult (updPre (s.begin ra ord) us) := by
  have hc := FR_closed s.log.prev s.snapIndex h1 s.snapResult
  have h0 : FR s.log.prev s.snapIndex s.snapResult (s.begin ra ord) := ⟨rfl, h2, rfl, rfl, fun p hp => by cases hp⟩
  have e : stepNC s us ra ord = stepNC (s.begin ra ord) us ra ord := rfl
  rw [e]
  exact ⟨hc.stepNC_inv (s.begin ra ord) us ra ord h0, hc.updPre_inv _ us h0⟩

theorem stepNC_go (s : Node) (us : List ReplUpdate) (ra : List Nat) (ord : List (List Nat))
    (hl : (s.begin ra ord).role = .leader) (hg : (replUpdLoop (s.begin ra ord) {} us).2.stop = false) :
    stepNC s us ra ord = updFin (replUpdLoop (s.begin ra ord) {} us).2 (updPre (s.begin ra ord) us) := by
  unfold stepNC
  rw [if_pos hl, hg]
  rfl

/-- **the shape of the state after a batch of updates**: the state without the compaction, with another log `L` and
other crash points; the un-compaction of `L` — with what it lost added to the compacted-away prefix — holds the entries
of the un-compacted log without the compaction; `L` starts at or below the snapshot index -/
theorem step_rm_shape (β : List Entry) (s : Node) (us : List ReplUpdate) (ra : List Nat) (ord : List (List Nat))
    (hok : C09.SegsOK s.log) (h1 : s.log.prev ≤ s.snapIndex) (h2 : s.log.prev ≤ s.log.flushed)
    (hlen : s.snapIndex ≤ s.log.last)
    (hrm : (s.step (.replUpdates us) ra ord).ldr.removeLTE ≤ (s.step (.replUpdates us) ra ord).snapIndex) :
    ∃ L T, s.step (.replUpdates us) ra ord = relog (stepNC s us ra ord) L T ∧
      (uncLog ((uncLog β s.log).entries.take L.prev) L).entries = (uncLog β (stepNC s us ra ord).log).entries ∧
      L.prev ≤ s.snapIndex ∧
      ((L = (stepNC s us ra ord).log ∧ T = (stepNC s us ra ord).trace) ∨
       (L.flushed = (stepNC s us ra ord).log.last ∧ L.last = (stepNC s us ra ord).log.last)) := by
  obtain ⟨frz, _⟩ := stepNC_frame s us ra ord h1 h2
  rcases step_rm_real s us ra ord with e | hc
  · refine ⟨(stepNC s us ra ord).log, (stepNC s us ra ord).trace, by rw [e]; rfl, ?_, by rw [frz.1]; exact h1,
      Or.inl ⟨rfl, rfl⟩⟩
    rw [frz.1, take_vlog β s.log]
    have := uncLog_pad β (stepNC s us ra ord).log
    rw [frz.1] at this
    rw [this]
  · have hnc : (updPre (s.begin ra ord) us).role ≠ .candidate :=
      notCand_updPre _ us (by rw [hc.leader]; exact fun x => by cases x)
    have hz := stepNC_go s us ra ord hc.leader hc.go
    -- the entries up to the snapshot index and the segment list, before the compaction
    have hlen' : s.snapIndex - s.log.prev ≤ s.log.entries.length := by unfold NLog.last at hlen; omega
    have tk : TK s.log.prev s.snapIndex (s.log.entries.take (s.snapIndex - s.log.prev)) (updPre (s.begin ra ord) us) :=
      (TK_closed s.log.prev s.snapIndex h1 _).updPre_inv (s.begin ra ord) us
        ⟨rfl, rfl, rfl, hlen', wsegs_of_segsOK hok⟩
    obtain ⟨t1, t2, t3, t4, t5⟩ := tk
    obtain ⟨w1, w2, w3, w4, w5, w6⟩ :=
      wsegs_compact (updPre (s.begin ra ord) us).ldr.removeLTE t5
    have hstep := hc.step
    generalize hL : (updPre (s.begin ra ord) us).log.removeLTE (updPre (s.begin ra ord) us).ldr.removeLTE = L at *
    -- the compaction bound
    have hR : (updPre (s.begin ra ord) us).ldr.removeLTE ≤ s.snapIndex := by
      have e1 : (s.step (.replUpdates us) ra ord).ldr.removeLTE = (updPre (s.begin ra ord) us).ldr.removeLTE := by
        rw [hstep]
        show (stepNC s us ra ord).ldr.removeLTE = _
        rw [hz, updFin_removeLTE _ _ hnc]
      have e2 : (s.step (.replUpdates us) ra ord).snapIndex = s.snapIndex := by
        rw [hstep]
        exact frz.2.2.1
      rw [e1, e2] at hrm
      exact hrm
    have hLp : L.prev ≤ s.snapIndex := by
      rcases w3 with e | e
      · rw [e, t1]; exact h1
      · exact Nat.le_trans e hR
    refine ⟨L, _, hstep, ?_, hLp, Or.inr ⟨by rw [hc.log]; exact w5, by rw [hc.log]; exact w6⟩⟩
    rw [hc.log]
    have hk := vlog_keep β (updPre (s.begin ra ord) us).log L w1 w2 w4
    have ht := take_unc_congr β s.log (updPre (s.begin ra ord) us).log L.prev (s.snapIndex - s.log.prev) t1
      (by omega) t3
    rw [ht] at hk
    exact hk

theorem cache_begin {s : Node} (h : C06Cache.LeaderCache s) (ra : List Nat) (ord : List (List Nat)) :
    (s.begin ra ord).role = .leader → LC.Cache (s.begin ra ord) := by
  intro hl
  have : LC.Cache s := (C06Cache.cacheOK_iff s).mp (h hl)
  exact this.congr rfl

variable {V : List Nat}

theorem step_rm (hV : V.Nodup) {x : Snap2.Sys} (hI : SInv V (view x)) (hP : ∀ i, PrevOK (x.node i))
    (hS : Side2 V x) {i : Nat} {us : List ReplUpdate} {ra : List Nat} {ord : List (List Nat)} {src : Nat}
    (hC : C06Cache.LeaderCache (x.node i))
    (en : Snap5.Enabled x.cs i (.replUpdates us) src)
    (hp : ((x.node i).step (.replUpdates us) ra ord).panicked = none)
    (hS' : Side2 V (stepS x i (.replUpdates us) ra ord src))
    (hrm : ((x.node i).step (.replUpdates us) ra ord).ldr.removeLTE ≤
      ((x.node i).step (.replUpdates us) ra ord).snapIndex) :
    SInv V (view (stepS x i (.replUpdates us) ra ord src)) ∧ PrevOK ((x.node i).step (.replUpdates us) ra ord) ∧
    (stepS x i (.replUpdates us) ra ord src).vlog i =
      ((x.vnode i).step (.replUpdates (rmF us)) ra ord).log.entries := by
  have hfl : (x.node i).log.prev ≤ (x.node i).log.flushed := prev_le_flushed (x.base i) (hS.segs i) (vnode_lwf hI i)
  have hm : (x.vnode i).step (.replUpdates (rmF us)) ra ord = U (x.base i) (stepNC (x.node i) us ra ord) :=
    step_rm_U (x.node i) us ra ord (cache_begin hC ra ord) hp
  have hzp : (stepNC (x.node i) us ra ord).panicked = none := by rw [stepNC_panicked]; exact hp
  obtain ⟨frz, _⟩ := stepNC_frame (x.node i) us ra ord (hP i).le hfl
  -- the snapshot index lies within the log
  have so : SnapOK (x.vnode i) := hI.snap i
  have fbi : FB (E σ0 (x.vnode i)) := hI.fsm i
  have hlen : (x.node i).snapIndex ≤ (x.node i).log.last := by
    have a1 : (x.node i).snapIndex ≤ (x.node i).fsm.index := so.le
    have a2 : (x.node i).fsm.index ≤ (uncLog (x.base i) (x.node i).log).entries.length := fbi.fsm.len
    have a3 := uncLog_last (β := x.base i) (x.node i).log
    unfold NLog.last at a3 ⊢
    have h0 : (uncLog (x.base i) (x.node i).log).prev = 0 := rfl
    rw [h0] at a3
    omega
  obtain ⟨L, T, hs', hent, hLp, hLT⟩ :=
    step_rm_shape (x.base i) (x.node i) us ra ord (hS.segs i) (hP i).le hfl hlen hrm
  have hprev' : ((x.node i).step (.replUpdates us) ra ord).log.prev = L.prev := by rw [hs']; rfl
  -- the virtual node after the step
  have hPdef : U (newBase x i ((x.node i).step (.replUpdates us) ra ord).log.prev)
      ((x.node i).step (.replUpdates us) ra ord) =
      U ((uncLog (x.base i) (x.node i).log).entries.take L.prev) (relog (stepNC (x.node i) us ra ord) L T) := by
    rw [hprev', hs']
    rfl
  generalize hβ' : (uncLog (x.base i) (x.node i).log).entries.take L.prev = β' at hent hPdef
  generalize hz : stepNC (x.node i) us ra ord = z at *
  -- the step of the virtual node
  have hpm : ((x.vnode i).step (.replUpdates (rmF us)) ra ord).panicked = none := by rw [hm]; exact hzp
  have ht : Snap.Trans (view x)
      { cs := stepC (view x).cs i (.replUpdates (rmF us)) ra ord src
        snaps := newSnaps i (x.vnode i).snapsDisk ((x.vnode i).step (.replUpdates (rmF us)) ra ord).snapsDisk ++
          (view x).snaps } :=
    Snap.Trans.step i (.replUpdates (rmF us)) ra ord src (enabled_view (enabled_rm en)) hpm (fun h => nomatch h)
  have hnode : ∀ j, (stepC (view x).cs i (.replUpdates (rmF us)) ra ord src).node j =
      if j = i then U (x.base i) z else x.vnode j := by
    intro j
    show setNode (view x).cs.rp.el.node i (((view x).cs.node i).step (.replUpdates (rmF us)) ra ord) j = _
    unfold setNode
    split
    · exact hm
    · rfl
  have hyi : (stepS x i (.replUpdates us) ra ord src).node i = relog z L T := by rw [stepS_node_i, hs']
  have hSmid : SideS V
      { cs := stepC (view x).cs i (.replUpdates (rmF us)) ra ord src
        snaps := newSnaps i (x.vnode i).snapsDisk ((x.vnode i).step (.replUpdates (rmF us)) ra ord).snapsDisk ++
          (view x).snaps } := by
    refine sideS_replace (sideS_view hS) (i := i) (fun j hj => ?_) ?_
    · show (stepC (view x).cs i (.replUpdates (rmF us)) ra ord src).node j = x.vnode j
      rw [hnode, if_neg hj]
    · show SideN V ((stepC (view x).cs i (.replUpdates (rmF us)) ra ord src).node i)
      rw [hnode, if_pos rfl]
      have hb := hS'.sideV.1 i
      have hs := hS'.sideV.2 i
      rw [show (stepS x i (.replUpdates us) ra ord src).cs.rp.el.node i =
        (stepS x i (.replUpdates us) ra ord src).node i from rfl, hyi] at hb
      rw [show (stepS x i (.replUpdates us) ra ord src).cs.node i =
        (stepS x i (.replUpdates us) ra ord src).node i from rfl, hyi] at hs
      refine ⟨hb, hs, rfl, fun e he hty => ?_⟩
      have hd := hS'.dec i
      have hvi : (view (stepS x i (.replUpdates us) ra ord src)).cs.node i = U β' (relog z L T) := by
        show (stepS x i (.replUpdates us) ra ord src).vnode i = _
        rw [view_stepS_node, if_pos rfl]
        exact hPdef
      rw [hvi] at hd
      exact hd e (by show e ∈ (uncLog β' L).entries; rw [hent]; exact he) hty
  have hImid := inv_trans hV hI (sideS_view hS) ht hSmid
  -- the compaction only flushes the virtual log and regroups its segments
  have hmid_i : Snap.Sys.node
      { cs := stepC (view x).cs i (.replUpdates (rmF us)) ra ord src
        snaps := newSnaps i (x.vnode i).snapsDisk ((x.vnode i).step (.replUpdates (rmF us)) ra ord).snapsDisk ++
          (view x).snaps } i = U (x.base i) z := by
    have := hnode i
    rw [if_pos rfl] at this
    exact this
  have hwfz : C06.LogWF (uncLog (x.base i) z.log) := by
    have h0 : C06.LogWF ((stepC (view x).cs i (.replUpdates (rmF us)) ra ord src).node i).log :=
      hImid.cinv.node.lwf i
    rw [hnode, if_pos rfl] at h0
    exact h0
  have hokz : SnapOK (U (x.base i) z) := by
    have := hImid.snap i
    rw [hmid_i] at this
    exact this
  have hsegL : C09.SegsOK L := by
    have := hS'.segs i
    rw [hyi] at this
    exact this
  have ss : SnapStep (U (x.base i) z) (U β' (relog z L T)) := by
    refine snapStep_relog (x.base i) β' z L T hent ?_ ?_ hokz
    · rcases hLT with ⟨e, _⟩ | ⟨e, _⟩
      · rw [e]; exact Nat.le_refl _
      · rw [e]
        have := hwfz.2
        rw [uncLog_last] at this
        exact this
    · rcases hLT with ⟨e, _⟩ | ⟨e1, e2⟩
      · have h1 := hwfz.1
        have h2 := hwfz.2
        rw [uncLog_lastSegPrev] at h1
        rw [uncLog_last] at h2
        refine ⟨?_, ?_⟩
        · rw [uncLog_lastSegPrev, e]; exact h1
        · rw [uncLog_last, e]; exact h2
      · refine ⟨?_, ?_⟩
        · rw [uncLog_lastSegPrev]
          show L.lastSegPrev ≤ L.flushed
          rw [e1, ← e2]
          exact lastSegPrev_le_last hsegL
        · rw [uncLog_last]
          show L.flushed ≤ L.last
          rw [e1, e2]
          exact Nat.le_refl _
  constructor
  · rw [← hmid_i] at ss
    have hreg := sinv_regroup hImid ss
    have pe := ss.feq
    have le := lfieldEq_of_lobs ss.lobs
    rw [hmid_i] at pe le hreg
    -- the view after the step is the regrouped state
    have hcs : (view (stepS x i (.replUpdates us) ra ord src)).cs =
        withNodes (stepC (view x).cs i (.replUpdates (rmF us)) ra ord src)
          (setNode (stepC (view x).cs i (.replUpdates (rmF us)) ra ord src).rp.el.node i (U β' (relog z L T))) := by
      show withNodes (withNodes (stepL (view x).cs i (.replUpdates us) src _) _)
        (stepS x i (.replUpdates us) ra ord src).vnode = _
      rw [withNodes_withNodes, hPdef, stepC_eq, stepL_rm (view x).cs i (rmF us) us,
        show ((view x).cs.node i).step (.replUpdates (rmF us)) ra ord = U (x.base i) z from hm]
      rw [stepL_congr (view x).cs i us src (U (x.base i) z) (U β' (relog z L T)) _
        pe.role.symm pe.term.symm pe.votedFor.symm pe.entries.symm le.commitIndex.symm]
      have hN : (stepS x i (.replUpdates us) ra ord src).vnode =
          setNode (stepL (view x).cs i (.replUpdates us) src (U (x.base i) z)).rp.el.node i (U β' (relog z L T)) := by
        funext j
        rw [view_stepS_node, hPdef]
        show _ = setNode (setNode (view x).cs.rp.el.node i (U (x.base i) z)) i (U β' (relog z L T)) j
        rw [setNode_setNode]
        unfold setNode
        split <;> rfl
      rw [hN]
    have hsn : (view (stepS x i (.replUpdates us) ra ord src)).snaps =
        newSnaps i (U (x.base i) z).snapsDisk (U β' (relog z L T)).snapsDisk ++
          (newSnaps i (x.vnode i).snapsDisk ((x.vnode i).step (.replUpdates (rmF us)) ra ord).snapsDisk ++
            (view x).snaps) := by
      rw [show (U β' (relog z L T)).snapsDisk = (U (x.base i) z).snapsDisk from rfl, newSnaps_same, List.nil_append, hm]
      show newSnaps i (x.node i).snapsDisk ((x.node i).step (.replUpdates us) ra ord).snapsDisk ++ x.snaps = _
      rw [hs']
      rfl
    have hv : view (stepS x i (.replUpdates us) ra ord src) =
        { cs := withNodes (stepC (view x).cs i (.replUpdates (rmF us)) ra ord src)
            (setNode (stepC (view x).cs i (.replUpdates (rmF us)) ra ord src).rp.el.node i (U β' (relog z L T)))
          snaps := newSnaps i (U (x.base i) z).snapsDisk (U β' (relog z L T)).snapsDisk ++
            (newSnaps i (x.vnode i).snapsDisk ((x.vnode i).step (.replUpdates (rmF us)) ra ord).snapsDisk ++
              (view x).snaps) } := sys_ext hcs hsn
    rw [hv]
    exact hreg
  constructor
  · refine ⟨by rw [hprev']; rw [hs']; exact Nat.le_trans hLp (Nat.le_of_eq frz.2.2.1.symm), fun rs hrs => ?_⟩
    rw [hs'] at hrs ⊢
    have h1 : z.snapResult = (x.node i).snapResult := frz.2.2.2.1
    have h2 : z.snapIndex = (x.node i).snapIndex := frz.2.2.1
    show rs.index ≤ z.snapIndex
    rw [h2]
    exact (hP i).res rs (by rw [← h1]; exact hrs)
  · show ((stepS x i (.replUpdates us) ra ord src).vnode i).log.entries = _
    rw [view_stepS_node, if_pos rfl, hPdef, hm]
    exact hent

/-- what is on disk when the process dies after `k` storage points of the step without the compaction -/
def zdisk (s z : Node) : Nat → Durable
  | 0 => s.durable
  | k + 1 => match z.trace[k]? with
    | some p => p.2
    | none => z.durable

theorem crashDisk_before (s : Node) (us : List ReplUpdate) (ra : List Nat) (ord : List (List Nat)) (k : Nat)
    (hbc : s.step (.replUpdates us) ra ord = stepNC s us ra ord ∨ k ≤ (stepNC s us ra ord).trace.length) :
    C05.crashDisk s (.replUpdates us) ra ord k = zdisk s (stepNC s us ra ord) k := by
  cases k with
  | zero => rfl
  | succ k =>
    rcases step_rm_real s us ra ord with e | hc
    · simp only [C05.crashDisk, zdisk]
      rw [e]
      rfl
    · rcases hbc with e | hk
      · simp only [C05.crashDisk, zdisk]
        rw [e]
        rfl
      · simp only [C05.crashDisk, zdisk]
        have hk' : k < (stepNC s us ra ord).trace.length := hk
        have ht : (s.step (.replUpdates us) ra ord).trace =
            (stepNC s us ra ord).trace ++ [("compactLog",
              ((updPre (s.begin ra ord) us).compactLog (updPre (s.begin ra ord) us).ldr.removeLTE).durable)] := by
          rw [hc.step, hc.trace]; rfl
        rw [ht, List.getElem?_append_left hk', List.getElem?_eq_getElem hk']

theorem zdisk_U (β : List Entry) (s z : Node) (k : Nat) :
    zdisk (U β s) (U β z) k = uncD β (zdisk s z k) := by
  cases k with
  | zero => exact U_durable s
  | succ k =>
    simp only [zdisk]
    show (match (z.trace.map (uncP β))[k]? with | some p => p.2 | none => _) = _
    rw [List.getElem?_map]
    cases z.trace[k]? with
    | none => exact U_durable _
    | some p => rfl

theorem zdisk_cases (s z : Node) (k : Nat) :
    zdisk s z k = s.durable ∨ (∃ p ∈ z.trace, zdisk s z k = p.2) ∨ zdisk s z k = z.durable := by
  cases k with
  | zero => exact Or.inl rfl
  | succ k =>
    simp only [zdisk]
    split
    · rename_i p hp
      exact Or.inr (Or.inl ⟨p, List.mem_of_getElem? hp, rfl⟩)
    · exact Or.inr (Or.inr rfl)

theorem crashC_rm (z : Commit.Sys) (i : Nat) (us us' : List ReplUpdate) (N : Node) :
    crashC z i (.replUpdates us) N = crashC z i (.replUpdates us') N := rfl

theorem crash_rm (hV : V.Nodup) {x : Snap2.Sys} (hI : SInv V (view x)) (hP : ∀ i, PrevOK (x.node i))
    (hS : Side2 V x) {i : Nat} {us : List ReplUpdate} {ra : List Nat} {ord : List (List Nat)}
    {src k retain : Nat} {sor : Bool} {n : Node}
    (hC : C06Cache.LeaderCache (x.node i))
    (en : Snap5.Enabled x.cs i (.replUpdates us) src) (hret : 1 ≤ retain)
    (hp : ((x.node i).step (.replUpdates us) ra ord).panicked = none)
    (hbc : (x.node i).step (.replUpdates us) ra ord = stepNC (x.node i) us ra ord ∨
      k ≤ (stepNC (x.node i) us ra ord).trace.length)
    (hn : Node.restart (C05.crashDisk (x.node i) (.replUpdates us) ra ord k) retain sor = some n)
    (hS' : Side2 V (crashS x i (.replUpdates us) n)) :
    SInv V (view (crashS x i (.replUpdates us) n)) ∧ PrevOK n := by
  have hfl : (x.node i).log.prev ≤ (x.node i).log.flushed := prev_le_flushed (x.base i) (hS.segs i) (vnode_lwf hI i)
  have hm : (x.vnode i).step (.replUpdates (rmF us)) ra ord = U (x.base i) (stepNC (x.node i) us ra ord) :=
    step_rm_U (x.node i) us ra ord (cache_begin hC ra ord) hp
  obtain ⟨frz, _⟩ := stepNC_frame (x.node i) us ra ord (hP i).le hfl
  have hd0 := crashDisk_before (x.node i) us ra ord k hbc
  -- the disk of the virtual node
  have hdisk : C05.crashDisk (x.vnode i) (.replUpdates (rmF us)) ra ord k =
      uncD (x.base i) (C05.crashDisk (x.node i) (.replUpdates us) ra ord k) := by
    rw [hd0, ← zdisk_U]
    have e1 := crashDisk_before (x.vnode i) (rmF us) ra ord k
      (Or.inl (stepNC_noRm _ _ ra ord (rmF_noRm us)))
    rw [e1, ← stepNC_noRm _ _ ra ord (rmF_noRm us), hm]
    rfl
  -- what is on disk starts where the log started
  have hd : (C05.crashDisk (x.node i) (.replUpdates us) ra ord k).log.prev = (x.node i).log.prev ∧
      (C05.crashDisk (x.node i) (.replUpdates us) ra ord k).log.prev +
        (C05.crashDisk (x.node i) (.replUpdates us) ra ord k).log.entries.length ≤
        (C05.crashDisk (x.node i) (.replUpdates us) ra ord k).log.flushed := by
    rw [hd0]
    exact disk_of_FR frz hfl (zdisk_cases (x.node i) (stepNC (x.node i) us ra ord) k)
  -- the newest snapshot on disk is not older than the node's
  have hsn : (x.node i).snapIndex ≤ (headSnap (C05.crashDisk (x.node i) (.replUpdates us) ra ord k)).index := by
    have fbi : FB (E σ0 (x.vnode i)) := hI.fsm i
    have hf : FsmOK 0 (x.vnode i) := ⟨fbi.fsm.le, fbi.fsm.len, fbi.fsm.applied, fbi.fsm.mono⟩
    have := (crash_snaps (x.vnode i) (.replUpdates (rmF us)) ra ord k (rmF_noRm us) (hI.snap i) hf).2
    rw [hdisk] at this
    exact this
  generalize C05.crashDisk (x.node i) (.replUpdates us) ra ord k = d at hn hdisk hd hsn
  have hgap : n.log.prev = 0 ∨ n.log.prev ≠ n.snapIndex := by
    have := hS'.gap i
    rw [crashS_node_i] at this
    exact this
  obtain ⟨r1, r2, r3, r4, r5⟩ := restart_view_gap (x.base i) d retain sor n hn
    (by rw [hd.1]; exact Nat.le_trans (hP i).le hsn) hd.2 hgap
  have hPn : U (newBase x i n.log.prev) n = U (x.base i) n := by
    have hb : newBase x i n.log.prev = pad (x.base i) (x.node i).log.prev := by
      unfold newBase Sys.vlog Sys.vnode
      rw [r2, hd.1]
      exact take_vlog (x.base i) (x.node i).log
    rw [hb, U_pad _ _ _ (by rw [r2, hd.1]) (by rw [r5]; intro pt hpt; cases hpt)]
  refine ⟨?_, ⟨by rw [r2, r3, hd.1]; exact Nat.le_trans (hP i).le hsn, fun rs hrs => by rw [r4] at hrs; cases hrs⟩⟩
  have hview := view_crashS x i (.replUpdates us) n _ hPn
  have ht : Snap.Trans (view x) (view (crashS x i (.replUpdates us) n)) := by
    rw [hview, crashC_rm (view x).cs i us (rmF us)]
    refine Snap.Trans.crash i (.replUpdates (rmF us)) ra ord src k retain sor (U (x.base i) n)
      (enabled_view (enabled_rm en)) hret (fun h => nomatch h) ?_
    show Node.restart (C05.crashDisk (x.vnode i) (.replUpdates (rmF us)) ra ord k) retain sor = _
    rw [hdisk]; exact r1
  exact inv_trans hV hI (sideS_view hS) ht (sideS_view hS')

/-- **a process that dies in or after `compactLog` leaves the disk of the completed step**: when `checkReplUpdates`
compacts, `compactLog` is the last storage point of the step, and what is on disk there is what is on disk after the
step — which is what a crash before the first storage point of the NEXT operation leaves. -/
theorem crash_after_compact (s : Node) (us : List ReplUpdate) (ra : List Nat) (ord : List (List Nat))
    (hc : Compacted s us ra ord) (k : Nat) (hk : (stepNC s us ra ord).trace.length < k) (op' : Op)
    (ra' : List Nat) (ord' : List (List Nat)) :
    C05.crashDisk s (.replUpdates us) ra ord k = (s.step (.replUpdates us) ra ord).durable ∧
    C05.crashDisk (s.step (.replUpdates us) ra ord) op' ra' ord' 0 = (s.step (.replUpdates us) ra ord).durable := by
  refine ⟨?_, rfl⟩
  cases k with
  | zero => cases hk
  | succ k =>
    simp only [C05.crashDisk]
    have ht : (s.step (.replUpdates us) ra ord).trace =
        (stepNC s us ra ord).trace ++ [("compactLog",
          ((updPre (s.begin ra ord) us).compactLog (updPre (s.begin ra ord) us).ldr.removeLTE).durable)] := by
      rw [hc.step, hc.trace]; rfl
    by_cases hk' : k = (stepNC s us ra ord).trace.length
    · rw [ht, hk', List.getElem?_append_right (Nat.le_refl _), Nat.sub_self]
      show ((updPre (s.begin ra ord) us).compactLog (updPre (s.begin ra ord) us).ldr.removeLTE).durable = _
      have hnc : (updPre (s.begin ra ord) us).role ≠ .candidate :=
        notCand_updPre _ us (by rw [hc.leader]; exact fun x => by cases x)
      have hz := stepNC_go s us ra ord hc.leader hc.go
      -- what follows the compaction writes nothing that is on disk
      rw [hc.step, hz, updFin_shape _ _ hnc]
      rfl
    · have : (s.step (.replUpdates us) ra ord).trace[k]? = none := by
        apply List.getElem?_eq_none
        rw [ht, List.length_append]
        show (stepNC s us ra ord).trace.length + 1 ≤ k
        omega
      rw [this]

/-- **the invariant of `Raft.Snap5`**: the invariant of stage 2 (the invariant of stage 1 for the cluster of the virtual
nodes; every log starts at or below its snapshot index), and the caches of every leader are current (in particular its
replication table is sorted by id) -/
structure Inv5 (V : List Nat) (x : Snap2.Sys) : Prop where
  inv2 : Inv2 V x
  cache : ∀ i, C06Cache.LeaderCache (x.node i)

theorem opOK5_ne_shutdown {op : Op} (h : Snap5.OpOK5 op) : op ≠ .shutdown := by
  intro e; rw [e] at h; exact h

theorem restart_cache (d : Durable) (retain : Nat) (sor : Bool) (n : Node) (h : Node.restart d retain sor = some n) :
    C06Cache.LeaderCache n := by
  have hr : n.role = .follower := (Election.restart_role_nid d retain sor n h).1
  intro hl
  rw [hr] at hl
  cases hl

def HasRm (op : Op) : Prop := ∃ us, op = .replUpdates us ∧ ¬ NoCompact us

theorem old_of_not_hasRm {op : Op} (h : ¬ HasRm op) : ∀ us, op = .replUpdates us → NoCompact us := by
  intro us hus
  apply Classical.byContradiction
  intro hn
  exact h ⟨us, hus, hn⟩

theorem inv5_trans (hV : V.Nodup) {x y : Snap2.Sys} (hI : Inv5 V x) (hS : Snap5.Side5 V x)
    (ht : Snap5.Trans x y) (hS' : Snap5.Side5 V y) : Inv5 V y := by
  cases ht with
  | step i op ra ord src en hp =>
    have key : Inv2 V (stepS x i op ra ord src) := by
      by_cases hrm : HasRm op
      · obtain ⟨us, rfl, _⟩ := hrm
        have hr := hS'.rm i
        rw [stepS_node_i] at hr
        have := step_rm hV hI.inv2.sinv hI.inv2.prev hS.side (hI.cache i) en hp hS'.side hr
        exact ⟨this.1, nodes_stepS hI.inv2.prev this.2.1⟩
      · -- a transition of `Raft.Snap2`
        exact inv2_trans hV hI.inv2 hS.side (.step i op ra ord src (enabled_old en (old_of_not_hasRm hrm)) hp) hS'.side
    exact ⟨key,
      nodes_stepS hI.cache (C06Cache.step_leaderCache _ op ra ord (opOK5_ne_shutdown en.ok2.1) (hI.cache i))⟩
  | crash i op ra ord src k retain sor n en hret hp hbc hn =>
    have key : Inv2 V (crashS x i op n) := by
      by_cases hrm : HasRm op
      · obtain ⟨us, rfl, _⟩ := hrm
        have := crash_rm hV hI.inv2.sinv hI.inv2.prev hS.side (hI.cache i) en hret hp (hbc us rfl) hn hS'.side
        exact ⟨this.1, nodes_crashS hI.inv2.prev this.2⟩
      · exact inv2_trans hV hI.inv2 hS.side
          (.crash i op ra ord src k retain sor n (enabled_old en (old_of_not_hasRm hrm)) hret hp hn) hS'.side
    exact ⟨key, nodes_crashS hI.cache (restart_cache _ retain sor n hn)⟩
  | send i q hi hl hr hc => exact ⟨inv2_trans hV hI.inv2 hS.side (.send i q hi hl hr hc) hS'.side, hI.cache⟩

theorem inv5_reachable (hV : V.Nodup) {x : Snap2.Sys} (h : Snap5.Reachable5 V x) : Inv5 V x ∧ Snap5.Side5 V x := by
  induction h with
  | init x hi hs =>
    refine ⟨⟨⟨sinv_init hi.init, fun i => ⟨by rw [hi.prev i]; exact Nat.zero_le _,
      fun rs hrs => by rw [hi.result i] at hrs; cases hrs⟩⟩, fun i hl => ?_⟩, hs⟩
    have hr : ((view x).cs.node i).role = .follower := (hi.init.cs.rp.el.1 i).2.2
    have hr' : (x.node i).role = .follower := hr
    rw [hr'] at hl
    cases hl
  | next x y _ ht hs ih => exact ⟨inv5_trans hV ih.1 ih.2 ht hs, hs⟩

theorem trans_of_trans2 {x y : Snap2.Sys} (h : Snap2.Trans x y) : Snap5.Trans x y := by
  have conv : ∀ {i op src}, Snap.Enabled x.cs i op src → Snap5.Enabled x.cs i op src := by
    intro i op src en
    refine ⟨en.id, en.voteSrc, en.real, ⟨?_, en.ok2.2⟩, en.append, en.vote, en.appendSrc, en.upd⟩
    have h1 := en.ok2.1
    cases op <;> first | trivial | exact h1.elim
  cases h with
  | step i op ra ord src en hp => exact Snap5.Trans.step i op ra ord src (conv en) hp
  | crash i op ra ord src k retain sor n en hret hp hn =>
    refine Snap5.Trans.crash i op ra ord src k retain sor n (conv en) hret hp (fun us hus => Or.inl ?_) hn
    subst hus
    exact stepNC_noRm _ us ra ord en.ok2.1
  | send i q hi hl hr hc => exact Snap5.Trans.send i q hi hl hr hc

end SnapDelay
end Raft
