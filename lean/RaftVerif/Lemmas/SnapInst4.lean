/-
The per-node invariants `C12Track.Tracks` and `Order.Ordered` along the runs of the cluster system with installation of
snapshots (Sys/Snap4.lean).

The hypotheses of the per-node theorems are discharged inside the system:
* `appendOk_real`: an append request of the ledger is acceptable at its receiver (`Order.AppendOk`): it conflicts with the
  receiver's log only above the commit index (commit safety of the virtual cluster, `C02Sys.reqok`) — and above the index
  of the committed configuration (side condition `Side4.cfg`);
* `ordered_assemble`: the orderings of a node follow from the cluster invariant, the configuration side conditions
  and `leader.removeLTE ≤ snapIndex`;
* `diskTracks_transport`: a disk whose log agrees with the node's log up to the snapshot index, with the node's snapshot
  files, is a disk from which a restart yields a tracking node.
A crash in an operation of stage 2 leaves a disk from which the restart yields a tracking node (`crash_tracks`, from
`diskTracks_of_crash`).
The invariant `Inv4`; a transition of `Raft.Snap4` from a state in which every node is tracking is a transition of
`Raft.Snap3` (`trans4_trans3`: the premise `TermTracked` holds).  That every node is tracking and ordered on every run is
proved for the most permissive system (`SnapCut.inv4_trans6`) and comes down by inclusion (`SnapInst4.reach4`,
Lemmas/SnapCut.lean).
-/
import RaftVerif.Sys.Snap4
import RaftVerif.Lemmas.SnapInv3
import RaftVerif.Lemmas.SnapInv3Events

namespace Raft
namespace SnapInst4
open Node Election LogRel Replication CommitRel Commit C02Sys C03Sys SnapRel SnapRelU SnapSim Snap Snap2 SnapInv SnapInv2
open SnapInst SnapInstU Snap3 SnapInst3 Snap4

section
variable {V : List Nat}

theorem inv2_of_inv3 {x : Snap3.Sys} (h : Inv3 V x) : Inv2 V x.s2 := ⟨h.sinv, h.prev⟩

theorem entryTerm_real {x : Snap2.Sys} (hI : Inv2 V x) (i k : Nat) (hk : (x.node i).log.prev < k)
    (hle : k ≤ (x.node i).lastLogIndex) : (x.node i).entryTerm? k = some (termAt (x.vlog i) k) := by
  have hlast : (x.node i).lastLogIndex = (x.vlog i).length := (nwf hI.sinv.cinv i).last
  have hlt : k - 1 < (x.vlog i).length := by omega
  rw [entryTerm_virtual x i k hk]
  unfold termAt
  rw [if_neg (by omega), List.getElem?_eq_getElem hlt]; rfl

theorem appendOk_real {x : Snap2.Sys} (hI : Inv2 V x) {i : Nat} {q : AppendReq} (hq : q ∈ x.cs.rp.sent)
    (hst : ¬ q.term < (x.node i).term)
    (hcfg : (x.node i).configs.committed.index ≤ (x.node i).commitIndex ∨
      ∀ c ∈ x.cs.T, ∀ d ∈ x.cs.T, c.e.index = d.e.index → c.e.index ≤ (x.node i).configs.committed.index →
        c.e.term = d.e.term) : Order.AppendOk (x.node i) q := by
  have hc := hI.sinv.cinv
  obtain ⟨_, _, eT, eN⟩ := cview2 x
  obtain ⟨e1, _, e3, e4, _⟩ := eN i
  have eL := cview2_last x i
  have eS := cview2_sent x
  generalize eview (view x).cs = z at hc eT e1 e3 e4 eL eS
  rw [← eS] at hq
  rw [← e4] at hst
  rw [← eT] at hcfg
  have hnc := reqok hc (i := i) hq hst
  have hn : NWF (z.node i) := nwf hc i
  have hlast : (x.node i).lastLogIndex = (x.vlog i).length := by rw [← eL, ← e1]; exact hn.last
  have hidx := (hc.rp.sent q hq).idx
  refine ⟨chainB_of_idx _ _ hidx, fun ne hne hle hsn hdiff => ?_⟩
  have hp : (x.node i).log.prev < ne.index := by have := (hI.prev i).le; omega
  have het := entryTerm_real hI i ne.index hp hle
  have h1 : 1 ≤ ne.index := by omega
  have hci : (x.node i).commitIndex < ne.index := by
    apply Nat.lt_of_not_le
    intro hle'
    apply hdiff
    rw [het]
    have := hnc ne hne (e3 ▸ hle')
    rw [e1] at this
    rw [this]
  refine ⟨hci, ?_⟩
  rcases hcfg with hcfg | hcfg
  · omega
  · apply Nat.lt_of_not_le
    intro hle'
    apply hdiff
    rw [het]
    have hlen : ne.index ≤ (x.vlog i).length := by rw [← hlast]; exact hle
    obtain ⟨c, hcm, ck⟩ := log_record hc i (k := ne.index) (τ := termAt (x.vlog i) ne.index)
      (e1 ▸ (⟨h1, hlen, rfl⟩ : Holds (x.vlog i) ne.index (termAt (x.vlog i) ne.index)))
    obtain ⟨c', hc', _, c2, _⟩ := hc.sent.anc q hq
    obtain ⟨_, es, hpth, _, ha⟩ := c2 ne hne
    obtain ⟨d, hd, d1, d2, _⟩ := path_record hpth ha
    unfold key at ck
    simp only [Prod.mk.injEq] at ck
    have := hcfg c hcm d hd (by rw [ck.1, d1]) (by rw [ck.1]; exact hle')
    rw [← ck.2, this, d2]

/-- **every operation of stage 2 delivered in the system is acceptable at its receiver** (`Order.ReqOk`) -/
theorem reqOk_old {x : Snap3.Sys} (hI : Inv3 V x) {i : Nat} {op : Op} {src : Nat} (en : Snap.Enabled x.s2.cs i op src)
    (hcfg : (x.node i).configs.committed.index ≤ (x.node i).commitIndex ∨
      ∀ c ∈ x.s2.cs.T, ∀ d ∈ x.s2.cs.T, c.e.index = d.e.index → c.e.index ≤ (x.node i).configs.committed.index →
        c.e.term = d.e.term) : Order.ReqOk (x.node i) op := by
  cases op with
  | append q =>
    show q.term < (x.node i).term ∨ Order.AppendOk (x.node i) q
    by_cases hst : q.term < (x.node i).term
    · exact Or.inl hst
    · exact Or.inr (appendOk_real (inv2_of_inv3 hI) ((en.append q rfl).resolve_left hst) hst hcfg)
  | install q => exact (en.ok2.1).elim
  | _ => trivial

theorem lwf_real {x : Snap3.Sys} (hI : Inv3 V x) (i : Nat) : C06.LogWF (x.node i).log := by
  have := vnode_lwf3 hI.sinv i
  unfold C06.LogWF at this ⊢
  rw [uncLog_lastSegPrev, uncLog_last] at this
  exact this

theorem ordered_assemble {x : Snap2.Sys} (hI : Inv2 V x) (i : Nat)
    (hco : (x.node i).configs.committed.index ≤ (x.node i).configs.latest.index ∧
      (x.node i).configs.latest.index ≤ (x.node i).lastLogIndex) (hseg : C09.SegsOK (x.node i).log)
    (hr : (x.node i).ldr.removeLTE ≤ (x.node i).snapIndex) : Order.Ordered (x.node i) := by
  have hc := hI.sinv.cinv
  have hn : NWF ((eview (view x).cs).node i) := nwf hc i
  have so : SnapOK (x.vnode i) := hI.sinv.snap i
  have hlast : (x.node i).lastLogIndex = (x.vlog i).length := hn.last
  have fb : FB ((eview (view x).cs).node i) := hI.sinv.fsm i
  refine ⟨⟨by rw [hlast, vlog_length2], (hI.prev i).le, so.le, fb.fsm.le, hco.1, hco.2, hseg, hr, (hI.prev i).res⟩, ?_⟩
  by_cases h0 : (x.node i).commitIndex = 0
  · rw [h0]; exact Nat.zero_le _
  · have := (hc.cmt.cc i (x.node i).commitIndex (by omega) (Nat.le_refl _)).1
    rw [hlast]; exact this

theorem diskTracks_congr_head {d d' : Durable} (h : C12Track.DiskTracks d') (e1 : d.log = d'.log)
    (e2 : d.snaps.head? = d'.snaps.head?) : C12Track.DiskTracks d := by
  have hso := C10.snapOf_congr e2
  have hlo := C10.logOf_congr e1 e2
  exact ⟨by rw [e1]; exact h.contig, by rw [hlo, hso]; exact h.lab, by rw [hlo, hso]; exact h.term,
    by rw [hso]; exact h.zero⟩

/-- **a disk that agrees with a tracking node up to its snapshot index**: the node's snapshot files, a log that starts
where the node's log starts, is index-contiguous, is not stale and holds the node's entries up to the snapshot index -/
theorem diskTracks_transport (s : Node) (ht : C12Track.Tracks s) (d : Durable) (h1 : d.log.prev = s.log.prev)
    (h2 : d.snaps = s.snapsDisk)
    (h3 : d.log.entries.take (s.snapIndex - s.log.prev) = s.log.entries.take (s.snapIndex - s.log.prev))
    (hc : C03.LogContig d.log) (hst : staleLog d = false) : C12Track.DiskTracks d := by
  have hso : C10.snapOf d = (s.snapsDisk.head?).getD {} := by unfold C10.snapOf; rw [h2]
  have hidx : (C10.snapOf d).index = s.snapIndex := by
    rw [hso, ht.snapHead]
    cases s.snapsDisk.head? <;> rfl
  have hcfgl : (C10.snapOf d).config = Track.label s := by rw [hso]; rfl
  have htm : (C10.snapOf d).term = s.snapTerm := by
    rw [hso, ht.snapOk.headTerm]
    cases s.snapsDisk.head? <;> rfl
  have hlo : C10.logOf d = d.log := C10.logOf_not_stale d hst
  refine ⟨hc, ?_, fun hlt => ?_, fun h0 => ?_⟩
  · rw [hlo, hcfgl, hidx]
    unfold Track.newest
    rw [Track.pre_congr h1 h3]
    exact ht.lab
  · rw [hlo, hidx] at hlt
    rw [hlo, hidx, htm]
    rw [Track.get?_congr h1 h3]
    exact ht.snapOk.termLog (by rw [← h1]; exact hlt)
  · rw [hidx] at h0
    rw [htm]; exact ht.snapOk.zero h0

theorem restart_ldr (d : Durable) (r : Nat) (sor : Bool) (n : Node) (hn : Node.restart d r sor = some n) :
    n.ldr.removeLTE = 0 :=
  restart_field (·.ldr.removeLTE) (fun _ _ _ _ => rfl) hn

theorem restart_log_notstale (d : Durable) (r : Nat) (sor : Bool) (n : Node) (hn : Node.restart d r sor = some n)
    (hst : staleLog d = false) : n.log.entries = d.log.entries ∧ n.log.prev = d.log.prev := by
  rw [Node.restart_log_notstale hn hst]; exact ⟨rfl, rfl⟩

/-- the head of the listing after the snapshot goroutine published a file -/
theorem publish_heads (s : Node) (f : SnapFile) (hr : 1 ≤ s.retain) (hlt : ∀ g ∈ s.snapsDisk, g.index < f.index) :
    (insertSnap f s.snapsDisk).head? = some f ∧ ((insertSnap f s.snapsDisk).take s.retain).head? = some f := by
  rw [insertSnap_front f s.snapsDisk hlt]
  obtain ⟨r, hr'⟩ : ∃ r, s.retain = r + 1 := ⟨s.retain - 1, by omega⟩
  rw [hr']
  exact ⟨rfl, rfl⟩

theorem take_append_cancel {α : Type} (a b c : List α) (K : Nat) (hK : a.length ≤ K)
    (h : (a ++ b).take K = (a ++ c).take K) : b.take (K - a.length) = c.take (K - a.length) := by
  rw [List.take_append, List.take_append, List.take_of_length_le hK] at h
  exact List.append_cancel_left h

/-- **what a crash that keeps the snapshot files and the first index leaves on disk tracks**, read off the state after the
restart: `a3`, `a5` are what `crash3_nc` and `crash3_append` conclude, `hsd` is `crash_snaps_eq`. -/
theorem diskTracks_of_crash {x : Snap3.Sys} (hI : Inv3 V x) {i : Nat} {op : Op} {retain : Nat} {sor : Bool} {n : Node}
    {d : Durable} (hst : staleLog d = false) (hn : Node.restart d retain sor = some n)
    (hIy : Inv3 V { x with s2 := crashS x.s2 i op n }) (hT : C12Track.Tracks (x.node i))
    (a3 : (crashS x.s2 i op n).vnode i = U (x.s2.base i) n) (a5 : d.log.prev = (x.node i).log.prev)
    (hsd : d.snaps = (x.node i).snapsDisk) : C12Track.DiskTracks d := by
  have so : SnapOK (x.vnode i) := hI.sinv.snap i
  obtain ⟨_, _, w3, _⟩ := restart_snapTerm _ retain sor n hn
  obtain ⟨r1, r2⟩ := restart_log_notstale _ retain sor n hn hst
  have hcz := hIy.sinv.cinv
  have hcx := hI.sinv.cinv
  obtain ⟨xC, _, xT, xN⟩ := cview x
  obtain ⟨yC, _, yT, yN⟩ := cview { x with s2 := crashS x.s2 i op n }
  obtain ⟨e1, _, e3, e4, _⟩ := xN i
  have hzl : ((eview (view3 { x with s2 := crashS x.s2 i op n }).cs).node i).log.entries =
      pad (x.s2.base i) (x.node i).log.prev ++ d.log.entries := by
    rw [(yN i).1]
    show ((crashS x.s2 i op n).vnode i).log.entries = _
    rw [a3]
    show pad (x.s2.base i) n.log.prev ++ n.log.entries = _
    rw [r1, r2, a5]
  have hzc : ((eview (view3 { x with s2 := crashS x.s2 i op n }).cs).node i).commitIndex = (headSnap d).index := by
    rw [(yN i).2.2.1]
    show ((crashS x.s2 i op n).node i).commitIndex = _
    rw [crashS_node_i, w3]
  have hzT : ∀ c ∈ (eview (view3 x).cs).T, c ∈ (eview (view3 { x with s2 := crashS x.s2 i op n }).cs).T := by
    rw [xT, yT]; exact fun _ hc => List.mem_append_right _ hc
  have hzC : ∀ c ∈ (eview (view3 x).cs).committed,
      c ∈ (eview (view3 { x with s2 := crashS x.s2 i op n }).cs).committed := by
    rw [xC, yC]; exact fun _ hc => hc
  generalize eview (view3 { x with s2 := crashS x.s2 i op n }).cs = z at hcz hzl hzc hzT hzC
  generalize eview (view3 x).cs = zx at hcx hzT hzC e1 e3 e4
  refine diskTracks_transport (x.node i) hT d a5 hsd ?_ ?_ hst
  · by_cases h0 : (x.node i).snapIndex = 0
    · rw [h0]; simp
    · have hK1 : 1 ≤ (x.node i).snapIndex := by omega
      have hKc : (x.node i).snapIndex ≤ (x.node i).commitIndex := by
        show (x.vnode i).snapIndex ≤ (x.vnode i).commitIndex
        rw [so.head]; exact so.files.head_le
      obtain ⟨hlen, m, hm, m1, m2⟩ := hcx.cmt.cc i (x.node i).snapIndex hK1 (e3 ▸ hKc)
      have hlen' : (x.node i).snapIndex ≤ (x.vlog i).length := e1 ▸ hlen
      have hP : Path z.T ((x.vlog i).take (x.node i).snapIndex) :=
        (((e1 ▸ log_path hcx i : Path zx.T (x.vlog i))).prefix (List.take_prefix _ _)).mono hzT
      have hPl : ((x.vlog i).take (x.node i).snapIndex).length = (x.node i).snapIndex := by
        rw [List.length_take]; exact Nat.min_eq_left hlen'
      have hcm : Cmt z (((x.vlog i).take (x.node i).snapIndex).length, lastTerm ((x.vlog i).take (x.node i).snapIndex))
          (x.node i).term := by
        rw [hPl, lastTerm_take _ _ hlen']
        exact ⟨m, hzC m hm, e4 ▸ m1, (e1 ▸ m2).mono hzT⟩
      have hF : (x.node i).snapIndex ≤ (z.node i).commitIndex := by
        rw [hzc]
        have h5 : (headSnap d).index = (headOf (x.node i).snapsDisk).index := by
          unfold headSnap headOf; rw [hsd]
        have h6 : (x.node i).snapIndex = (headOf (x.node i).snapsDisk).index := so.head
        rw [h5]; exact Nat.le_of_eq h6
      have key := path_agree_commit hcz hP (by rw [hPl]; exact hK1) hcm i (x.node i).snapIndex hF (by rw [hPl]; exact Nat.le_refl _)
      rw [List.take_take, Nat.min_self, hzl, vlog_def] at key
      have hpl : (pad (x.s2.base i) (x.node i).log.prev).length ≤ (x.node i).snapIndex := by
        rw [pad_length]; exact (hI.prev i).le
      have := take_append_cancel _ _ _ _ hpl key
      rw [pad_length] at this
      exact this.symm
  · have hcont := (nwf hcz i).contig
    rw [hzl] at hcont
    intro j hj
    have hpl := pad_length (x.s2.base i) (x.node i).log.prev
    have := hcont ((x.node i).log.prev + j) (by rw [List.length_append, hpl]; exact Nat.add_lt_add_left hj _)
    rw [List.getElem_append_right (by rw [hpl]; exact Nat.le_add_right _ _)] at this
    simp only [hpl, Nat.add_sub_cancel_left] at this
    rw [this, a5]

theorem crash_tracks (hV : V.Nodup) {x : Snap3.Sys} (hI : Inv3 V x) (hS : Side3 V x) {i : Nat} {op : Op}
    {ra : List Nat} {ord : List (List Nat)} {src k retain : Nat} {sor : Bool} {n : Node}
    (en : Snap.Enabled x.s2.cs i op src) (hret : 1 ≤ retain) (hp : ((x.node i).step op ra ord).panicked = none)
    (hnc : NoCut (x.node i) op) (htt : TermTracked (x.node i) op)
    (hst : staleLog (C05.crashDisk (x.node i) op ra ord k) = false)
    (hn : Node.restart (C05.crashDisk (x.node i) op ra ord k) retain sor = some n)
    (hIy : Inv3 V { x with s2 := crashS x.s2 i op n }) (hSy : Side3 V { x with s2 := crashS x.s2 i op n })
    (hT : C12Track.Tracks (x.node i)) (hO : Order.Ordered (x.node i))
    (hr : Order.ReqOk (x.node i) op) : C12Track.Tracks n := by
  refine C12Track.restart_tracks _ retain sor n hret ?_ hn
  have hT' : C12Track.Tracks ((x.node i).step op ra ord) := C12Track.tracks_step _ op ra ord hT hO hr hp
  have hO' : Order.Ordered ((x.node i).step op ra ord) := C19Order.ordered_step _ op ra ord hO hr hp
  have so : SnapOK (x.vnode i) := hI.sinv.snap i
  by_cases hsr : op = .snapRun
  · subst hsr
    obtain ⟨he, hsn⟩ := snap_crashDisk (x.node i) .snapRun ra ord k (Or.inl rfl)
    have hlog : (C05.crashDisk (x.node i) .snapRun ra ord k).log = (x.node i).durable.log :=
      congrArg (fun d => d.log) he
    rcases hsn with e | ⟨rq, _, hpd, hne, hge, e⟩
    · exact diskTracks_congr (C12Track.durable_diskTracks _ hT hO) hlog e
    · have hlt : ∀ g ∈ (x.node i).snapsDisk, g.index < (C09.snapFileOf (x.node i) rq).index := by
        intro g hg
        have h1 : g.index ≤ (headOf (x.node i).snapsDisk).index := so.files.le_head g hg
        have h2 : (x.node i).snapIndex = (headOf (x.node i).snapsDisk).index := so.head
        have h3 : (x.node i).snapIndex ≤ (x.node i).fsm.index := so.le
        have h4 : (x.node i).fsm.index ≠ (x.node i).snapIndex := hne
        show g.index < (x.node i).fsm.index
        omega
      obtain ⟨p1, p2⟩ := publish_heads (x.node i) (C09.snapFileOf (x.node i) rq) so.retain hlt
      have hdur := C12Track.durable_diskTracks _ hT' hO'
      have hl' : ((x.node i).step .snapRun ra ord).durable.log = (x.node i).durable.log := by
        show ((x.node i).step .snapRun ra ord).log.durable = (x.node i).log.durable
        rw [snapRun_step_eq, (snapRun_frame ((x.node i).begin ra ord)).1]; rfl
      have hs' : ((x.node i).step .snapRun ra ord).durable.snaps.head? = some (C09.snapFileOf (x.node i) rq) := by
        show ((x.node i).step .snapRun ra ord).snapsDisk.head? = _
        rw [snapRun_step_eq]
        have := (C09.snapshot_at_applied_index ((x.node i).begin ra ord) rq hpd hne hge).1
        rw [this]; exact p2
      refine diskTracks_congr_head hdur (hlog.trans hl'.symm) ?_
      rw [hs']
      rcases e with e | e <;> rw [e]
      · exact p1
      · exact p2
  · by_cases hstk : op = .snapTaken
    · subst hstk
      rcases snapTaken_crashDisk (x.node i) ra ord k with e | ⟨e, hdur⟩
      · rw [e]; exact C12Track.durable_diskTracks _ hT hO
      · rw [e, ← hdur, ← snapTaken_step_eq]
        exact C12Track.durable_diskTracks _ hT' hO'
    · obtain ⟨_, _, a3, _, a5⟩ := crash3_nc hV hI hS en hret hp hstk hnc htt hst hn (sideS_view3 hSy)
      exact diskTracks_of_crash hI hst hn hIy hT a3 a5 (crash_snaps_eq (x.node i) op ra ord k en.ok2.1 hsr)

structure Inv4 (x : Snap3.Sys) : Prop where
  tracks : ∀ i, C12Track.Tracks (x.node i)
  ord : ∀ i, Order.Ordered (x.node i)
  /-- the label of an install request on the wire is a configuration its snapshot covers -/
  mlab : ∀ m ∈ x.sentSnaps, m.q.lastConfig.index ≤ m.q.lastIndex

theorem termTracked_of (s : Node) (ht : C12Track.Tracks s) (op : Op) : TermTracked s op := by
  cases op <;> first | trivial | exact C12Track.tracks_term s ht

theorem trans4_trans3 {x y : Snap3.Sys} (ht : Snap4.Trans x y) (hT : ∀ i, C12Track.Tracks (x.node i)) :
    Snap3.Trans x y := by
  cases ht with
  | step i op ra ord src en hp => exact .step i op ra ord src en hp (termTracked_of _ (hT i) op)
  | crash i op ra ord src k retain sor n en hret hp hnc hst hn =>
    exact .crash i op ra ord src k retain sor n en hret hp hnc (termTracked_of _ (hT i) op) hst hn
  | send i q hi hl hr hc => exact .send i q hi hl hr hc
  | sendSnap i q hi hl hr => exact .sendSnap i q hi hl hr
  | install i m ra ord hi hm hp => exact .install i m ra ord hi hm hp
  | crashInstall i m ra ord k retain sor n hi hm hret hp hold hn =>
    exact .crashInstall i m ra ord k retain sor n hi hm hret hp hold hn

end

end SnapInst4
end Raft
