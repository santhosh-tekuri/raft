/-
The invariant of the cluster system with installation of snapshots (Sys/Snap3.lean) is preserved by every event
(namespace `SnapInst3`, as in SnapInv3.lean).

What an install request, or a crash in its handler, does to the node, and that the node it leaves may replace the old
one in the cluster:
* `Installed`: the node INSTALLED the snapshot — by the completed handler (`installed_of_step`), or by a restart from a
  disk that holds the received snapshot file (`installed_of_restart`). The cluster satisfies the invariant of stage 1
  again (`installed_inv`, by `SnapInst.sinv_replace`), and the node's snapshot files agree with its new virtual log — the
  prefix the snapshot stands for.
* `Bumped`: the request installs nothing (not ahead of the commit index, or the log already holds the snapshot's last
  entry): the node at most adopts the request's term and becomes follower (`bumped_of_step`, `bumped_inv`).
* `Same`: a stale request changes nothing the invariants read (`same_of_stale_step`, `same_inv`).
* `vterm_restart`: the snapshot files after a restart.

Then one lemma per event of a transition — a completed step of stage 2, a crash in one after which the log is not reset,
sending a request or a snapshot, an installation (`inv3_step`, `inv3_crash_plain`, `inv3_send`, `inv3_sendSnap`,
`inv3_install`).  The transition relations are walked once, for the most permissive one (`SnapCut.inv6_trans`,
Lemmas/SnapCut.lean).
-/
import RaftVerif.Lemmas.SnapInv3
import RaftVerif.Lemmas.SnapInst3v

namespace Raft
namespace SnapInst3
open Node Election LogRel Replication CommitRel Commit C02Sys C03Sys SnapRel SnapRelU SnapSim Snap Snap2 SnapInv SnapInv2
open SnapInst SnapInstU Snap3 SnapFrame

/-- **the node `post` holds the snapshot of the install request `q` and nothing else**: what the completed discard branch
of `onInstallSnapRequest` leaves of the node `s`, and what a restart from a disk with the received file yields -/
structure Installed (s : Node) (q : InstallReq) (post : Node) : Prop where
  log : post.log = NLog.reset q.lastIndex
  lastI : post.lastLogIndex = q.lastIndex
  lastT : post.lastLogTerm = q.lastTerm
  snapI : post.snapIndex = q.lastIndex
  snapT : post.snapTerm = q.lastTerm
  commit : post.commitIndex = q.lastIndex
  fsm : post.fsm = { index := q.lastIndex, term := q.lastTerm, applied := q.data, config := q.lastConfig }
  files : post.snapsDisk = insertSnap (C09.fileOf q) s.snapsDisk ∨
    post.snapsDisk = (insertSnap (C09.fileOf q) s.snapsDisk).take s.retain
  role : post.role = .follower
  nid : post.nid = s.nid
  tv : (post.term = s.term ∧ post.votedFor = s.votedFor) ∨ (s.term < post.term ∧ post.votedFor = 0)
  termGe : q.term ≤ post.term
  vwf : C05.VoteWF post
  retain : 1 ≤ post.retain
  res : ∀ rs, post.snapResult = some rs → rs.index ≤ q.lastIndex
  trace : ∀ pt ∈ post.trace, pt.2.log.prev = q.lastIndex ∨ pt.2.log.prev = s.log.prev

theorem iobs_eq {a b : Node} (h : iobs a = iobs b) :
    (a.log = b.log ∧ a.lastLogIndex = b.lastLogIndex ∧ a.lastLogTerm = b.lastLogTerm ∧ a.snapIndex = b.snapIndex ∧
      a.snapTerm = b.snapTerm ∧ a.snapsDisk = b.snapsDisk) ∧
    (a.term = b.term ∧ a.votedFor = b.votedFor ∧ a.durTerm = b.durTerm ∧ a.durVote = b.durVote) ∧
    (a.commitIndex = b.commitIndex ∧ a.fsm = b.fsm ∧ a.configs = b.configs) ∧
    (a.trace = b.trace ∧ a.cid = b.cid ∧ a.nid = b.nid ∧ a.retain = b.retain) ∧
    (a.role = b.role ∧ a.panicked = b.panicked) ∧ (a.snapPending = b.snapPending ∧ a.snapResult = b.snapResult) := by
  unfold iobs at h
  simp only [Prod.mk.injEq] at h
  obtain ⟨⟨h1, h2, h3, h4, h5, h6⟩, ⟨h7, h8, h9, h10⟩, ⟨h11, h12, h13⟩, ⟨h14, h15, h16, h17, _⟩, ⟨h18, h19, _, _⟩,
    ⟨h20, h21, _, _⟩⟩ := h
  exact ⟨⟨h1, h2, h3, h4, h5, h6⟩, ⟨h7, h8, h9, h10⟩, ⟨h11, h12, h13⟩, ⟨h14, h15, h16, h17⟩, ⟨h18, h19⟩, ⟨h20, h21⟩⟩

/-- the completed `.install` step and the handler agree on everything but the reply and what a role release touches -/
theorem install_step_eqs (s : Node) (q : InstallReq) (ra : List Nat) (ord : List (List Nat)) :
    ((s.step (.install q) ra ord).log = ((s.begin ra ord).onInstallSnap q).log ∧
      (s.step (.install q) ra ord).lastLogIndex = ((s.begin ra ord).onInstallSnap q).lastLogIndex ∧
      (s.step (.install q) ra ord).lastLogTerm = ((s.begin ra ord).onInstallSnap q).lastLogTerm ∧
      (s.step (.install q) ra ord).snapIndex = ((s.begin ra ord).onInstallSnap q).snapIndex ∧
      (s.step (.install q) ra ord).snapTerm = ((s.begin ra ord).onInstallSnap q).snapTerm ∧
      (s.step (.install q) ra ord).snapsDisk = ((s.begin ra ord).onInstallSnap q).snapsDisk) ∧
    ((s.step (.install q) ra ord).term = ((s.begin ra ord).onInstallSnap q).term ∧
      (s.step (.install q) ra ord).votedFor = ((s.begin ra ord).onInstallSnap q).votedFor ∧
      (s.step (.install q) ra ord).durTerm = ((s.begin ra ord).onInstallSnap q).durTerm ∧
      (s.step (.install q) ra ord).durVote = ((s.begin ra ord).onInstallSnap q).durVote) ∧
    ((s.step (.install q) ra ord).commitIndex = ((s.begin ra ord).onInstallSnap q).commitIndex ∧
      (s.step (.install q) ra ord).fsm = ((s.begin ra ord).onInstallSnap q).fsm ∧
      (s.step (.install q) ra ord).configs = ((s.begin ra ord).onInstallSnap q).configs) ∧
    ((s.step (.install q) ra ord).trace = ((s.begin ra ord).onInstallSnap q).trace ∧
      (s.step (.install q) ra ord).cid = ((s.begin ra ord).onInstallSnap q).cid ∧
      (s.step (.install q) ra ord).nid = ((s.begin ra ord).onInstallSnap q).nid ∧
      (s.step (.install q) ra ord).retain = ((s.begin ra ord).onInstallSnap q).retain) ∧
    ((s.step (.install q) ra ord).role = ((s.begin ra ord).onInstallSnap q).role ∧
      (s.step (.install q) ra ord).panicked = ((s.begin ra ord).onInstallSnap q).panicked) ∧
    ((s.step (.install q) ra ord).snapPending = ((s.begin ra ord).onInstallSnap q).snapPending ∧
      (s.step (.install q) ra ord).snapResult = ((s.begin ra ord).onInstallSnap q).snapResult) := by
  have h := iobs_eq (install_step_iobs s q ra ord)
  exact h

theorem snapsWF_of (s : Node) (hs : SnapOK s) : C09.SnapsWF s := by
  refine ⟨hs.files.sorted, fun g hg => ?_, by rw [hs.head]; exact hs.files.head_le⟩
  rw [hs.head]
  unfold headOf
  rw [hg]; rfl

theorem installed_of_step (s : Node) (q : InstallReq) (ra : List Nat) (ord : List (List Nat)) (hi : Installs s q)
    (hwf : C09.SnapsWF s) (hr : 1 ≤ s.retain) (hvw : C05.VoteWF s)
    (hres : ∀ rs, s.snapResult = some rs → rs.index ≤ s.snapIndex) (hsc : s.snapIndex ≤ s.commitIndex) :
    Installed s q (s.step (.install q) ra ord) := by
  obtain ⟨hterm, hahead, hk⟩ := hi
  obtain ⟨⟨a1, a2, a3, a4, a5, a6⟩, ⟨b1, b2, _, _⟩, ⟨c1, c2, _⟩, ⟨d1, _, d3, d4⟩, ⟨e1, _⟩, ⟨_, f2⟩⟩ :=
    install_step_eqs s q ra ord
  have hbw : C09.SnapsWF (s.begin ra ord) := ⟨hwf.sorted, hwf.head, hwf.le_commit⟩
  obtain ⟨k1, _, _⟩ := C09.install_discard_restore_ok (s.begin ra ord) q hterm hahead hk hr hbw
  have htr := C10.install_discard_script (s.begin ra ord) q hterm hahead hk
  rw [installPre_durable] at htr
  have e := onInstallSnap_installs (s.begin ra ord) q hterm hahead hk
  -- from here on the handler's result is a name `H`: `e` says what it is, field by field
  generalize (s.begin ra ord).onInstallSnap q = H at *
  have htv : ((H.term = s.term ∧ H.votedFor = s.votedFor) ∨ (s.term < H.term ∧ H.votedFor = 0)) ∧ q.term ≤ H.term := by
    rw [e]
    show (((installPre (s.begin ra ord) q).term = s.term ∧ (installPre (s.begin ra ord) q).votedFor = s.votedFor) ∨
      (s.term < (installPre (s.begin ra ord) q).term ∧ (installPre (s.begin ra ord) q).votedFor = 0)) ∧
      q.term ≤ (installPre (s.begin ra ord) q).term
    rcases installPre_termVote (s.begin ra ord) q with ⟨h0, t, v, _, _⟩ | ⟨h0, t, v, _, _⟩
    · rw [t, v]; exact ⟨Or.inl ⟨rfl, rfl⟩, Nat.le_of_not_lt h0⟩
    · rw [t, v]; exact ⟨Or.inr ⟨h0, rfl⟩, Nat.le_refl _⟩
  refine
    { log := by rw [a1, e], lastI := by rw [a2, e], lastT := by rw [a3, e], snapI := by rw [a4, e],
      snapT := by rw [a5, e], commit := by rw [c1, e], fsm := c2.trans k1, files := Or.inr (by rw [a6, e]; rfl),
      role := by rw [e1, e], nid := by rw [d3, e]; rfl, tv := by rw [b1, b2]; exact htv.1,
      termGe := by rw [b1]; exact htv.2, vwf := (C05.step_vote_stable s (.install q) ra ord hvw).2.1,
      retain := by rw [d4, e]; exact hr, res := ?_, trace := ?_ }
  · intro rs hrs
    rw [f2, e] at hrs
    have := hres rs hrs
    omega
  · refine ((Traced.of_nil rfl).append (C10.installPre_trace (s.begin ra ord) q)
      (C10.preTrace_forall _ q fun _ => Or.inr rfl)).append ((d1.trans htr).trans (by rw [C10.installPre_trace]))
      fun pt hpt => ?_
    simp only [List.mem_cons, List.not_mem_nil, or_false] at hpt
    rcases hpt with rfl | rfl | rfl
    · exact Or.inr rfl
    · exact Or.inr rfl
    · exact Or.inl rfl

theorem installed_of_restart (s : Node) (q : InstallReq) (hi : Installs s q) (hprev : s.log.prev ≤ s.commitIndex)
    (hr : 1 ≤ s.retain) (hh : ∀ g, s.snapsDisk.head? = some g → g.index ≤ q.lastIndex) (hvw : C05.VoteWF s)
    (d : Durable) (hdn : d.nid = s.nid) (hlog : d.log = s.durable.log ∨ d.log = NLog.reset q.lastIndex)
    (hsn : d.snaps = insertSnap (C09.fileOf q) s.snapsDisk ∨
      d.snaps = (insertSnap (C09.fileOf q) s.snapsDisk).take s.retain)
    (htv : (s.term < q.term ∧ d.term = q.term ∧ d.vote = 0) ∨ (¬ s.term < q.term ∧ d.term = s.durTerm ∧ d.vote = s.durVote))
    (r : Nat) (hr' : 1 ≤ r) (sor : Bool) (n : Node) (hn : Node.restart d r sor = some n) : Installed s q n := by
  obtain ⟨a1, a2, a3, a4, a5, a6, a7, _, a9, a10, a11, a12, _⟩ :=
    install_crash_restart_installed s q hi hprev hr hh d hlog hsn r sor n hn
  obtain ⟨v1, v2, v3, v4⟩ := C10.restart_term_vote d r sor n hn
  obtain ⟨_, _, _, w4⟩ := restart_snapTerm d r sor n hn
  obtain ⟨_, _, _, hne⟩ := C10.restart_some d r sor n hn
  have hnid : n.nid = d.nid := by
    rw [hne]
    split
    · show (restartNode d r sor).fsmRestore.nid = _
      rw [fsmRestore_eq]; rfl
    · rfl
  obtain ⟨s1, s2, s3, _⟩ := restart_shape d r sor n hn
  refine ⟨a1, a2, a3, a4, a5, a6, a7, by rw [a9]; exact hsn, a10, ?_, ?_, ?_, ⟨v3, v4⟩, by rw [w4]; exact hr', ?_, ?_⟩
  · rw [hnid]; exact hdn
  · rw [a11, a12]
    rcases htv with ⟨h0, h1, h2⟩ | ⟨h0, h1, h2⟩
    · right; rw [h1, h2]; exact ⟨h0, rfl⟩
    · left; rw [h1, h2]; exact ⟨hvw.1, hvw.2⟩
  · rw [a11]
    rcases htv with ⟨_, h1, _⟩ | ⟨h0, h1, _⟩
    · rw [h1]; exact Nat.le_refl _
    · rw [h1, hvw.1]
      have := hi.1
      omega
  · intro rs hrs; rw [s2] at hrs; cases hrs
  · intro pt hpt; rw [s3] at hpt; cases hpt

section
variable {V : List Nat}

theorem replS_vnode (x : Snap3.Sys) (i : Nat) (post : Node) (β : List Entry) :
    (replS x i post β).s2.vnode = setNode x.s2.vnode i (U β post) := by
  funext j
  show U (setBase x.s2.base i β j) (setNode x.s2.cs.rp.el.node i post j) = _
  unfold setNode setBase
  split <;> rfl

theorem view_replS (x : Snap3.Sys) (i : Nat) (post : Node) (β : List Entry) :
    view3 (replS x i post β) =
      { cs := repl (view x.s2).cs i (U β post)
        snaps := newSnaps i (x.vnode i).snapsDisk (U β post).snapsDisk ++ (view x.s2).snaps } := by
  have hcs : (view3 (replS x i post β)).cs = repl (view x.s2).cs i (U β post) := by
    show withNodes (withNodes x.s2.cs _) (replS x i post β).s2.vnode = withNodes (withNodes x.s2.cs _) _
    rw [withNodes_withNodes, withNodes_withNodes, replS_vnode]
    rfl
  exact sys_ext hcs rfl

theorem replS_node_i (x : Snap3.Sys) (i : Nat) (post : Node) (β : List Entry) : (replS x i post β).node i = post :=
  setNode_same _ _ _

theorem replS_vnode_i (x : Snap3.Sys) (i : Nat) (post : Node) (β : List Entry) :
    (replS x i post β).vnode i = U β post := by
  show (replS x i post β).s2.vnode i = _
  rw [replS_vnode]; exact setNode_same _ _ _

theorem replS_vnode_j (x : Snap3.Sys) (i : Nat) (post : Node) (β : List Entry) {j : Nat} (hj : j ≠ i) :
    (replS x i post β).vnode j = x.vnode j := by
  show (replS x i post β).s2.vnode j = _
  rw [replS_vnode]; exact setNode_other _ _ _ _ hj

theorem nodes_replS {P : Node → Prop} {x : Snap3.Sys} {i : Nat} {post : Node} {β : List Entry}
    (hx : ∀ j, P (x.node j)) (hp : P post) (j : Nat) : P ((replS x i post β).node j) :=
  NodeSys.forall_setNode (P := fun _ => P) hp (fun j _ => hx j) j

theorem vterm_replS {x : Snap3.Sys} {i : Nat} {post : Node} {β : List Entry} (hx : ∀ j, VTerm x j)
    (hi : VTerm (replS x i post β) i) : ∀ j, VTerm (replS x i post β) j :=
  vterm_nodes hx (fun _ hj => setNode_other _ _ _ _ hj) (fun _ hj => replS_vnode_j _ _ _ _ hj) hi

theorem cmt_mono_u {z : Commit.Sys} {a : Nat × Nat} {u u' : Nat} (h : Cmt z a u) (hu : u ≤ u') : Cmt z a u' := by
  obtain ⟨m, hm, h1, h2⟩ := h
  exact ⟨m, hm, Nat.le_trans h1 hu, h2⟩

theorem uncLog_reset_entries (P : List Entry) (p : Nat) (h : P.length = p) :
    (uncLog P (NLog.reset p)).entries = P := by
  show pad P p ++ [] = P
  rw [List.append_nil, ← h, pad_eq]

theorem uncLog_reset_lwf (P : List Entry) (p : Nat) : C06.LogWF (uncLog P (NLog.reset p)) := by
  unfold C06.LogWF
  rw [uncLog_lastSegPrev, uncLog_last]
  show (NLog.reset p).lastSegPrev ≤ p ∧ p ≤ (NLog.reset p).last
  unfold NLog.lastSegPrev NLog.last NLog.reset
  simp

/-- the old log does not hold the last entry of the snapshot when the handler decides to install -/
theorem not_holds_of_installs {x : Snap3.Sys} (hI : Inv3 V x) {i : Nat} {q : InstallReq} (hi : Installs (x.node i) q) :
    ¬ Holds (x.vlog i) q.lastIndex q.lastTerm := by
  intro hh
  obtain ⟨h1, h2, h3⟩ := hh
  have so : SnapOK (x.vnode i) := hI.sinv.snap i
  have hsc : (x.node i).snapIndex ≤ (x.node i).commitIndex := by
    show (x.vnode i).snapIndex ≤ (x.vnode i).commitIndex
    rw [so.head]; exact so.files.head_le
  have hlt : (x.node i).log.prev < q.lastIndex := by
    have := (hI.prev i).le; have := hi.2.1; omega
  have hlast : q.lastIndex ≤ (x.node i).log.last := by rw [← vlog_length]; exact h2
  have hk : C09.keepsLog (x.node i) q = true := by
    unfold C09.keepsLog NLog.contains
    rw [entryTerm_virtual x.s2 i q.lastIndex hlt]
    have hlen : q.lastIndex - 1 < (x.vlog i).length := by omega
    rw [List.getElem?_eq_getElem hlen]
    unfold termAt at h3
    rw [if_neg (by omega), List.getElem?_eq_getElem hlen] at h3
    simp only [Option.map_some, Option.getD_some] at h3
    have e1 : decide ((x.node i).log.prev < q.lastIndex) = true := decide_eq_true hlt
    have e2 : decide (q.lastIndex ≤ (x.node i).log.last) = true := decide_eq_true hlast
    rw [e1, e2]
    simp [h3]
  rw [hi.2.2] at hk; cases hk

/-- **the cluster after node `i` installed the snapshot of the message `m`** (by the completed handler or by a restart
from a disk that holds the received file): the invariant of stage 1 holds for the cluster of the virtual nodes, in which
the virtual log of `i` is the prefix `m.pre` the snapshot stands for; the log of `i` starts at its snapshot index; its
snapshot files agree with that prefix. -/
theorem installed_inv {x : Snap3.Sys} (hI : Inv3 V x) {i : Nat} {m : SnapMsg} {post : Node}
    (hm : MsgOK (view3 x).cs m) (hi : Installs (x.node i) m.q) (h : Installed (x.node i) m.q post) :
    SInv V (view3 (replS x i post m.pre)) ∧ PrevOK post ∧ VTerm (replS x i post m.pre) i := by
  have hI1 := hI.sinv
  have hc := hI1.cinv
  have so : SnapOK (x.vnode i) := hI1.snap i
  have hsc : (x.node i).snapIndex ≤ (x.node i).commitIndex := by
    show (x.vnode i).snapIndex ≤ (x.vnode i).commitIndex
    rw [so.head]; exact so.files.head_le
  have hahead : (x.node i).commitIndex < m.q.lastIndex := hi.2.1
  have hPlen := hm.len
  have hne : 1 ≤ m.pre.length := by rw [hPlen]; exact hm.pos
  have hlog : (U m.pre post).log.entries = m.pre := by
    show (uncLog m.pre post.log).entries = _
    rw [h.log]; exact uncLog_reset_entries _ _ hPlen
  have eC : (eview (view3 x).cs).committed = (view3 x).cs.committed := (withNodes_ledgers _ _).1
  have eT : (eview (view3 x).cs).T = (view3 x).cs.T := (withNodes_ledgers _ _).2.2
  obtain ⟨e1, _, e3, _⟩ := (cview x).2.2.2 i
  have hpath : Path (eview (view3 x).cs).T m.pre := eT ▸ hm.path
  have hcmt : Cmt (eview (view3 x).cs) (m.pre.length, lastTerm m.pre) m.q.term := by
    unfold Cmt; rw [eC, eT]; exact hm.cmt
  -- the prefix agrees with the old virtual log on what the old commit index covered
  have hagree : m.pre.take (x.node i).commitIndex = (x.vlog i).take (x.node i).commitIndex :=
    e1 ▸ path_agree_commit hc hpath hne hcmt i (x.node i).commitIndex (Nat.le_of_eq e3.symm)
      (by rw [hPlen]; exact Nat.le_of_lt hahead)
  have hnot : ¬ Holds ((eview (view3 x).cs).node i).log.entries m.pre.length (lastTerm m.pre) := by
    rw [hPlen, hm.lastT]
    exact not_holds_of_installs hI hi
  have hstab := stable_of_committed hc hpath hne hcmt hnot
  have hfl : (U m.pre post).log.flushed = m.pre.length := by
    show post.log.flushed = _
    rw [h.log, hPlen]; rfl
  have hfiles0 : FilesOK m.pre m.q.lastIndex (x.node i).snapsDisk :=
    so.files.mono (Nat.le_of_lt hahead) hagree
  have hdata : (C09.fileOf m.q).data = ups (m.pre.take (C09.fileOf m.q).index) := by
    show m.q.data = ups (m.pre.take m.q.lastIndex)
    rw [hm.data, List.take_of_length_le (by rw [hPlen]; exact Nat.le_refl _)]
  have hheadlt : (headOf (x.node i).snapsDisk).index < (C09.fileOf m.q).index := by
    show _ < m.q.lastIndex
    have : (headOf (x.node i).snapsDisk).index = (x.node i).snapIndex := so.head.symm
    rw [this]; exact Nat.lt_of_le_of_lt hsc hahead
  obtain ⟨c1, c2⟩ := hfiles0.cons (C09.fileOf m.q) hm.pos (Nat.le_refl _) hdata hheadlt
  obtain ⟨r, hr'⟩ : ∃ r, (x.node i).retain = r + 1 :=
    ⟨(x.node i).retain - 1, (Nat.sub_add_cancel (show 1 ≤ (x.node i).retain from so.retain)).symm⟩
  have hsd : post.snapsDisk = C09.fileOf m.q :: (x.node i).snapsDisk ∨
      post.snapsDisk = C09.fileOf m.q :: (x.node i).snapsDisk.take r := by
    rcases h.files with e | e
    · left; rw [e, c1]
    · right; rw [e, c1, hr']; rfl
  have hsub : post.snapsDisk.Sublist (C09.fileOf m.q :: (x.node i).snapsDisk) := by
    rcases hsd with e | e <;> rw [e]
    · exact List.Sublist.refl _
    · exact (List.take_sublist r _).cons_cons _
  have hhd : headOf post.snapsDisk = C09.fileOf m.q := by
    rcases hsd with e | e <;> rw [e] <;> rfl
  have hmem : ∀ g ∈ post.snapsDisk, g = C09.fileOf m.q ∨ g ∈ (x.node i).snapsDisk := by
    intro g hg
    rcases List.mem_cons.mp (hsub.subset hg) with e | e
    · exact Or.inl e
    · exact Or.inr e
  have hvr : VRepl (view3 x) i (U m.pre post) := by
    obtain ⟨n1, n2, n3, n4, n5, n6, _⟩ := EU_fields m.pre post
    obtain ⟨z1, z2, z3, _⟩ := EU_fields (x.s2.base i) (x.node i)
    rw [← cview2_node x.s2 i] at z1 z2 z3
    refine ⟨⟨n1.trans (h.nid.trans z1.symm), by rw [n2, n3, z2, z3]; exact h.tv,
      by unfold C05.VoteWF; rw [n2, n3, n4, n5]; exact h.vwf, n6.trans h.role, ?_, ?_, ?_, ?_, ?_, ?_, ?_, ?_⟩,
      ?_, ?_, ?_, ?_, ?_⟩
    · -- NWF
      refine ⟨rfl, rfl, rfl, ?_, ?_, ?_⟩
      · show ∀ k (hk : k < (U m.pre post).log.entries.length), (U m.pre post).log.entries[k].index = k + 1
        rw [hlog]; exact hm.path.2
      · show post.lastLogIndex = (U m.pre post).log.entries.length
        rw [hlog, h.lastI, hPlen]
      · show post.lastLogTerm = lastTerm (U m.pre post).log.entries
        rw [hlog, h.lastT, hm.lastT]
    · show C06.LogWF (uncLog m.pre post.log)
      rw [h.log]; exact uncLog_reset_lwf _ _
    · intro k h1 h2
      have h1' : (U m.pre post).log.flushed < k := h1
      have h2' : k ≤ (U m.pre post).log.entries.length := h2
      rw [hfl] at h1'; rw [hlog] at h2'
      exact absurd h2' (Nat.not_le_of_lt h1')
    · show Path _ (U m.pre post).log.entries
      rw [hlog]; exact hpath
    · intro e he
      have he' : e ∈ (U m.pre post).log.entries := he
      rw [hlog] at he'
      exact Nat.le_trans (hm.termLe e he') h.termGe
    · intro k h1 h2
      have h2' : k ≤ post.commitIndex := h2
      rw [h.commit] at h2'
      show k ≤ (U m.pre post).log.entries.length ∧ Cmt _ (k, termAt (U m.pre post).log.entries k) post.term
      rw [hlog]
      exact ⟨by rw [hPlen]; exact h2', cmt_mono_u (path_cmt (uniq hc) hpath hne hcmt k h1 (by rw [hPlen]; exact h2')) h.termGe⟩
    · -- the state machine
      refine ⟨?_, ?_, ?_, Nat.zero_le _⟩
      · show post.fsm.index ≤ post.commitIndex
        rw [h.fsm, h.commit]; exact Nat.le_refl _
      · show post.fsm.index ≤ (U m.pre post).log.entries.length
        rw [hlog, h.fsm, hPlen]; exact Nat.le_refl _
      · show post.fsm.applied = ups ((U m.pre post).log.entries.take post.fsm.index)
        rw [hlog, h.fsm]
        exact hdata
    · intro b hb _
      rcases hstab b hb.2 with hh | hu
      · left
        refine ⟨?_, ?_⟩
        · show b.1 ≤ (U m.pre post).log.flushed
          rw [hfl]; exact hh.2.1
        · show Holds (U m.pre post).log.entries b.1 b.2
          rw [hlog]; exact hh
      · exact Or.inr (unsafe_mono h.termGe hu)
    · -- SnapOK
      refine ⟨h.retain, ?_, ?_, ?_⟩
      · show FilesOK (U m.pre post).log.entries post.commitIndex post.snapsDisk
        rw [hlog, h.commit]
        exact c2.sub hsub
      · show post.snapIndex = (headOf post.snapsDisk).index
        rw [hhd, h.snapI]; rfl
      · show post.snapIndex ≤ post.fsm.index
        rw [h.snapI, h.fsm]; exact Nat.le_refl _
    · show (x.node i).commitIndex ≤ post.commitIndex
      rw [h.commit]; exact Nat.le_of_lt hahead
    · show (U m.pre post).log.entries.take (x.node i).commitIndex = (x.vlog i).take (x.node i).commitIndex
      rw [hlog]; exact hagree
    · show (x.node i).snapIndex ≤ post.snapIndex
      rw [h.snapI]; omega
    · intro g hg
      rcases hmem g hg with e | e
      · right
        rw [e]
        refine ⟨hm.pos, by show m.q.lastIndex ≤ post.snapIndex; rw [h.snapI]; exact Nat.le_refl _, ?_⟩
        show (C09.fileOf m.q).data = ups ((U m.pre post).log.entries.take (C09.fileOf m.q).index)
        rw [hlog]; exact hdata
      · exact Or.inl e
  refine ⟨by rw [view_replS]; exact sinv_replace hI1 hvr, ⟨?_, fun rs hrs => by rw [h.snapI]; exact h.res rs hrs⟩, ?_⟩
  · rw [h.log, h.snapI]; exact Nat.le_refl _
  · refine ⟨?_, ?_⟩
    · show ∀ f ∈ ((replS x i post m.pre).node i).snapsDisk,
        termAt ((replS x i post m.pre).vnode i).log.entries f.index = f.term
      rw [replS_node_i, replS_vnode_i, hlog]
      intro g hg
      rcases hmem g hg with e | e
      · rw [e]
        show termAt m.pre m.q.lastIndex = m.q.lastTerm
        rw [← hPlen, termAt_length, hm.lastT]
      · have hgi : g.index ≤ (x.node i).commitIndex := by
          have := so.files.le_head g e
          rw [← so.head] at this
          exact Nat.le_trans this hsc
        rw [termAt_of_take_eq hagree hgi]
        exact (hI.vterm i).files g e
    · show ((replS x i post m.pre).node i).snapTerm = (headOf ((replS x i post m.pre).node i).snapsDisk).term
      rw [replS_node_i, hhd, h.snapT]; rfl

/-- the restart reads `(term, vote)` from disk and nothing else depends on them -/
theorem restart_congr_tv (d : Durable) (t v : Nat) (r : Nat) (sor : Bool) (n : Node)
    (hn : Node.restart d r sor = some n) :
    Node.restart { d with term := t, vote := v } r sor =
      some { n with term := t, votedFor := v, durTerm := t, durVote := v } := by
  rw [Node.restart_map (d' := { d with term := t, vote := v })
    (fun n => { n with term := t, votedFor := v, durTerm := t, durVote := v }) (C10.restartFails_congr d _ rfl rfl)
    rfl rfl rfl rfl (by rw [fsmRestore_eq, fsmRestore_eq]; rfl), hn]
  rfl

/-- **the node `post` is the node `s` that at most adopted a newer term and became follower**: log, snapshot data,
commit index and state machine as before -/
structure Bumped (s post : Node) : Prop where
  log : post.log = s.log
  lastI : post.lastLogIndex = s.lastLogIndex
  lastT : post.lastLogTerm = s.lastLogTerm
  snapI : post.snapIndex = s.snapIndex
  snapT : post.snapTerm = s.snapTerm
  files : post.snapsDisk = s.snapsDisk
  commit : post.commitIndex = s.commitIndex
  fsm : post.fsm = s.fsm
  role : post.role = .follower
  nid : post.nid = s.nid
  tv : (post.term = s.term ∧ post.votedFor = s.votedFor) ∨ (s.term < post.term ∧ post.votedFor = 0)
  vwf : C05.VoteWF post
  retain : post.retain = s.retain
  res : post.snapResult = s.snapResult

theorem uncLog_newBase (x : Snap3.Sys) (i : Nat) :
    uncLog (newBase x.s2 i (x.node i).log.prev) (x.node i).log = uncLog (x.s2.base i) (x.node i).log := by
  have hβ : newBase x.s2 i (x.node i).log.prev = pad (x.s2.base i) (x.node i).log.prev :=
    take_vlog (x.s2.base i) (x.node i).log
  rw [hβ, uncLog_pad]

/-- **a node that keeps the log and the snapshot data of node `i`** (and commit index, state machine, `retain` and the
pending snapshot result): un-compacted over the same base it has the virtual log of `i`, and what the invariant says of
the snapshot data of `i` holds of it -/
theorem keeps_snap {x : Snap3.Sys} (hI : Inv3 V x) {i : Nat} {post : Node} (hl : post.log = (x.node i).log)
    (hsI : post.snapIndex = (x.node i).snapIndex) (hsT : post.snapTerm = (x.node i).snapTerm)
    (hf : post.snapsDisk = (x.node i).snapsDisk) (hc : post.commitIndex = (x.node i).commitIndex)
    (hfsm : post.fsm = (x.node i).fsm) (hr : post.retain = (x.node i).retain)
    (hres : post.snapResult = (x.node i).snapResult) :
    (U (newBase x.s2 i (x.node i).log.prev) post).log = (x.vnode i).log ∧
    SnapOK (U (newBase x.s2 i (x.node i).log.prev) post) ∧ PrevOK post ∧
    VTerm (replS x i post (newBase x.s2 i (x.node i).log.prev)) i := by
  have so : SnapOK (x.vnode i) := hI.sinv.snap i
  have hlog : (U (newBase x.s2 i (x.node i).log.prev) post).log = (x.vnode i).log := by
    show uncLog _ post.log = _
    rw [hl]; exact uncLog_newBase x i
  generalize newBase x.s2 i (x.node i).log.prev = β at hlog ⊢
  refine ⟨hlog, ⟨by show 1 ≤ post.retain; rw [hr]; exact so.retain, ?_, ?_, ?_⟩, ⟨?_, ?_⟩, ⟨?_, ?_⟩⟩
  · show FilesOK (U β post).log.entries post.commitIndex post.snapsDisk
    rw [hlog, hc, hf]; exact so.files
  · show post.snapIndex = (headOf post.snapsDisk).index
    rw [hsI, hf]; exact so.head
  · show post.snapIndex ≤ post.fsm.index
    rw [hsI, hfsm]; exact so.le
  · rw [hl, hsI]; exact (hI.prev i).le
  · intro rs hrs
    rw [hres] at hrs
    rw [hsI]; exact (hI.prev i).res rs hrs
  · show ∀ f ∈ ((replS x i post β).node i).snapsDisk, termAt ((replS x i post β).vnode i).log.entries f.index = f.term
    rw [replS_node_i, replS_vnode_i, hlog, hf]
    exact (hI.vterm i).files
  · show ((replS x i post β).node i).snapTerm = (headOf ((replS x i post β).node i).snapsDisk).term
    rw [replS_node_i, hsT, hf]
    exact (hI.vterm i).head

theorem bumped_inv {x : Snap3.Sys} (hI : Inv3 V x) {i : Nat} {post : Node} (h : Bumped (x.node i) post) :
    SInv V (view3 (replS x i post (newBase x.s2 i (x.node i).log.prev))) ∧ PrevOK post ∧
    VTerm (replS x i post (newBase x.s2 i (x.node i).log.prev)) i := by
  have hI1 := hI.sinv
  obtain ⟨hlog, hso, hprev, hvt⟩ := keeps_snap hI h.log h.snapI h.snapT h.files h.commit h.fsm h.retain h.res
  generalize newBase x.s2 i (x.node i).log.prev = β at hlog hso hvt ⊢
  have hvr : VRepl (view3 x) i (U β post) := by
    obtain ⟨n1, n2, n3, n4, n5, n6, n7, n8, n9, n10, n11, n12, n13⟩ := EU_fields β post
    obtain ⟨z1, z2, z3, _, _, _, z7, z8, z9, z10, z11, z12, z13⟩ := EU_fields (x.s2.base i) (x.node i)
    rw [← cview2_node x.s2 i] at z1 z2 z3 z7 z8 z9 z10 z11 z12 z13
    refine ⟨replOK_same hI1.cinv hI1.fsm (n1.trans (h.nid.trans z1.symm)) (by rw [n2, n3, z2, z3]; exact h.tv)
      (by unfold C05.VoteWF; rw [n2, n3, n4, n5]; exact h.vwf) (n6.trans h.role) (n7.trans (hlog.trans z7.symm))
      (n8.trans (h.lastI.trans z8.symm)) (n9.trans (h.lastT.trans z9.symm)) (n12.trans z12.symm) (n13.trans z13.symm)
      (n10.trans (h.commit.trans z10.symm)) (n11.trans (h.fsm.trans z11.symm)), hso, ?_, ?_, ?_, ?_⟩
    · show (x.node i).commitIndex ≤ post.commitIndex
      rw [h.commit]; exact Nat.le_refl _
    · show (U β post).log.entries.take _ = _
      rw [hlog]; rfl
    · show (x.node i).snapIndex ≤ post.snapIndex
      rw [h.snapI]; exact Nat.le_refl _
    · intro g hg
      have hg' : g ∈ post.snapsDisk := hg
      rw [h.files] at hg'
      exact Or.inl hg'
  exact ⟨by rw [view_replS]; exact sinv_replace hI1 hvr, hprev, hvt⟩

theorem install_step_stale (s : Node) (q : InstallReq) (ra : List Nat) (ord : List (List Nat)) (hst : q.term < s.term) :
    s.step (.install q) ra ord =
      ((s.begin ra ord).ret rStaleTerm).withRpcReply (some (((s.begin ra ord).ret rStaleTerm).mkReply false false)) := by
  have hpost : s.step (.install q) ra ord =
      settle 6 (((s.begin ra ord).onInstallSnap q).rpcDone false) (s.begin ra ord).role := rfl
  have hh : (s.begin ra ord).onInstallSnap q = (s.begin ra ord).ret rStaleTerm := by
    rw [onInstallSnap_eq, if_pos (show q.term < (s.begin ra ord).term from hst)]
  have hd : ((s.begin ra ord).ret rStaleTerm).rpcDone false =
      ((s.begin ra ord).ret rStaleTerm).withRpcReply (some (((s.begin ra ord).ret rStaleTerm).mkReply false false)) := by
    unfold Node.rpcDone
    rw [if_neg (by show rStaleTerm ≠ rUnexpectedErr; decide)]
  rw [hpost, hh, hd]
  exact settle_of_role rfl

theorem bumped_of_step (s : Node) (q : InstallReq) (ra : List Nat) (ord : List (List Nat)) (hterm : ¬ q.term < s.term)
    (hn : q.lastIndex ≤ s.commitIndex ∨ C09.keepsLog s q = true) (hvw : C05.VoteWF s) :
    Bumped s (s.step (.install q) ra ord) ∧
    ∀ pt ∈ (s.step (.install q) ra ord).trace, pt.2.log.prev = s.log.prev := by
  obtain ⟨⟨a1, a2, a3, a4, a5, a6⟩, ⟨b1, b2, _, _⟩, ⟨c1, c2, _⟩, ⟨d1, _, d3, d4⟩, ⟨e1, _⟩, ⟨_, f2⟩⟩ :=
    install_step_eqs s q ra ord
  have hb1 : ¬ q.term < (s.begin ra ord).term := hterm
  have hb2 : q.lastIndex ≤ (s.begin ra ord).commitIndex ∨ C09.keepsLog (s.begin ra ord) q = true := hn
  obtain ⟨sd, _, _, _⟩ := C09.install_nothing (s.begin ra ord) q hb1 hb2
  have hshape := C09.install_nothing_shape (s.begin ra ord) q hb1 hb2
  have hvs := C05.step_vote_stable s (.install q) ra ord hvw
  refine ⟨⟨a1.trans sd.log, a2.trans sd.lastLogIndex, a3.trans sd.lastLogTerm, a4.trans sd.snapIndex,
    a5.trans sd.snapTerm, a6.trans sd.snapsDisk, c1.trans sd.commitIndex, c2.trans sd.fsm, ?_, d3.trans sd.nid, ?_,
    hvs.2.1, d4.trans sd.retain, f2.trans sd.snapResult⟩, fun pt hpt => ?_⟩
  · rw [e1]; exact install_role _ q hb1
  · rw [b1, b2, hshape]
    show ((installPre (s.begin ra ord) q).term = s.term ∧ (installPre (s.begin ra ord) q).votedFor = s.votedFor) ∨
      (s.term < (installPre (s.begin ra ord) q).term ∧ (installPre (s.begin ra ord) q).votedFor = 0)
    rcases installPre_termVote (s.begin ra ord) q with ⟨_, h1, h2, _, _⟩ | ⟨h0, h1, h2, _, _⟩
    · exact Or.inl ⟨h1, h2⟩
    · right
      have h0' : s.term < q.term := h0
      exact ⟨by rw [h1]; exact h0', h2⟩
  · rw [d1, (C10.install_ignored_script (s.begin ra ord) q (Or.inr hb2)).1, if_neg hb1] at hpt
    exact C10.preTrace_forall (D := fun pt => pt.2.log.prev = s.log.prev) _ q (fun _ => rfl) pt hpt

/-- **the snapshot files after a restart agree with the restarted virtual log**: each file on disk carried the term of
the OLD virtual log at its index, which the old commit index covered; the restarted node's commit index covers it again,
and what a commit index covers is the same on every log (commit safety) -/
theorem vterm_restart {x y : Snap3.Sys} (hI : Inv3 V x) (hIy : SInv V (view3 y))
    (hT : ∀ c ∈ (view3 x).cs.T, c ∈ (view3 y).cs.T) (hC : ∀ c ∈ (view3 x).cs.committed, c ∈ (view3 y).cs.committed)
    {i : Nat} {n : Node} {d : Durable} (hni : y.node i = n)
    (hfo : FilesOK (x.vlog i) (x.node i).commitIndex d.snaps)
    (hft : ∀ g ∈ d.snaps, termAt (x.vlog i) g.index = g.term) (hsd : n.snapsDisk = d.snaps)
    (hst : n.snapTerm = (headSnap d).term) (hci : n.commitIndex = (headSnap d).index) : VTerm y i := by
  refine ⟨fun g hg => ?_, ?_⟩
  · rw [hni, hsd] at hg
    obtain ⟨g1, g2, _⟩ := hfo.files g hg
    have hgh : g.index ≤ (headSnap d).index := hfo.le_head g hg
    have hcx := hI.sinv.cinv
    have hcy := hIy.cinv
    obtain ⟨xC, _, xT, xN⟩ := cview x
    obtain ⟨yC, _, yT, yN⟩ := cview y
    obtain ⟨vC, _, vT⟩ := withNodes_ledgers x.s2.cs x.s2.vnode
    obtain ⟨uC, _, uT⟩ := withNodes_ledgers y.s2.cs y.s2.vnode
    have hT' : ∀ c ∈ (eview (view3 x).cs).T, c ∈ (eview (view3 y).cs).T := by rw [xT, yT, ← vT, ← uT]; exact hT
    have hC' : ∀ c ∈ (eview (view3 x).cs).committed, c ∈ (eview (view3 y).cs).committed := by
      rw [xC, yC, ← vC, ← uC]; exact hC
    obtain ⟨e1, _, e3, e4, _⟩ := xN i
    obtain ⟨f1, _, f3, _⟩ := yN i
    generalize eview (view3 x).cs = zx at hcx hT' hC' e1 e3 e4
    generalize eview (view3 y).cs = zy at hcy hT' hC' f1 f3
    obtain ⟨hlen, m, hm, m1, m2⟩ := hcx.cmt.cc i g.index g1 (e3 ▸ g2)
    rw [e1] at hlen m2
    rw [e4] at m1
    have hpath : Path zy.T (x.vlog i) := (e1 ▸ log_path hcx i : Path zx.T (x.vlog i)).mono hT'
    have hj : g.index ≤ (zy.node i).commitIndex := by rw [f3, hni, hci]; exact hgh
    have := termAt_of_committed hcy hpath g1 hlen ⟨m, hC' m hm, m1, m2.mono hT'⟩ i hj
    rw [f1] at this
    rw [this]
    exact hft g hg
  · rw [hni, hst, hsd]; rfl

/-- the node `post` differs from `s` in nothing the invariants read -/
structure Same (s post : Node) : Prop where
  nid : post.nid = s.nid
  term : post.term = s.term
  votedFor : post.votedFor = s.votedFor
  durTerm : post.durTerm = s.durTerm
  durVote : post.durVote = s.durVote
  log : post.log = s.log
  lastI : post.lastLogIndex = s.lastLogIndex
  lastT : post.lastLogTerm = s.lastLogTerm
  role : post.role = s.role
  votesNeeded : post.votesNeeded = s.votesNeeded
  snapI : post.snapIndex = s.snapIndex
  snapT : post.snapTerm = s.snapTerm
  files : post.snapsDisk = s.snapsDisk
  commit : post.commitIndex = s.commitIndex
  fsm : post.fsm = s.fsm
  configs : post.configs = s.configs
  ldr : post.ldr = s.ldr
  retain : post.retain = s.retain
  res : post.snapResult = s.snapResult

theorem same_of_stale_step (s : Node) (q : InstallReq) (ra : List Nat) (ord : List (List Nat)) (hst : q.term < s.term) :
    Same s (s.step (.install q) ra ord) := by
  rw [install_step_stale s q ra ord hst]
  unfold Node.withRpcReply Node.ret Node.begin
  exact ⟨rfl, rfl, rfl, rfl, rfl, rfl, rfl, rfl, rfl, rfl, rfl, rfl, rfl, rfl, rfl, rfl, rfl, rfl, rfl⟩

theorem same_inv {x : Snap3.Sys} (hI : Inv3 V x) {i : Nat} {post : Node} (h : Same (x.node i) post) :
    SInv V (view3 (replS x i post (newBase x.s2 i (x.node i).log.prev))) ∧ PrevOK post ∧
    VTerm (replS x i post (newBase x.s2 i (x.node i).log.prev)) i := by
  obtain ⟨hlog, hso, hprev, hvt⟩ := keeps_snap hI h.log h.snapI h.snapT h.files h.commit h.fsm h.retain h.res
  generalize newBase x.s2 i (x.node i).log.prev = β at hlog hso hvt ⊢
  -- said of a node `s` and a base `β0` that are variables: through `x.node i`, `x.vnode i` every field is five times as dear
  have ss : ∀ (s : Node) (β0 : List Entry), Same s post → (U β post).log = (U β0 s).log → SnapStep (U β0 s) (U β post) := by
    intro s β0 h hlog
    refine ⟨?_, ?_, hso, ?_, ?_⟩
    · refine ⟨h.nid, h.term, h.votedFor, h.durTerm, h.durVote, ?_, ?_, ?_, ?_, h.lastI, h.lastT, h.role, h.votesNeeded,
        rfl, rfl⟩
      · show (U β post).log.entries = _; rw [hlog]; rfl
      · show (U β post).log.prev = _; rw [hlog]; rfl
      · show (U β0 s).log.flushed ≤ (U β post).log.flushed; rw [hlog]; exact Nat.le_refl _
      · intro hw; show C06.LogWF (U β post).log; rw [hlog]; exact hw
    · show SnapSim.lobs (U β post) = SnapSim.lobs (U β0 s)
      rw [lobs_U, lobs_U, h.commit, h.fsm, h.configs, h.ldr]
    · show s.snapIndex ≤ post.snapIndex
      rw [h.snapI]; exact Nat.le_refl _
    · intro g hg
      have hg' : g ∈ post.snapsDisk := hg
      rw [h.files] at hg'
      exact Or.inl hg'
  exact ⟨by rw [view_replS]; exact sinv_regroup hI.sinv (ss _ _ h hlog), hprev, hvt⟩

theorem crashC_quiet (z : Commit.Sys) (i : Nat) (op : Op) (N : Node)
    (hnc : newCreated i (z.node i).log.entries N.log.entries op = []) (hcamp : campOf i (z.node i) N = []) :
    crashC z i op N = repl z i N := by
  unfold crashC crashRp repl withNodes
  rw [hnc, hcamp]
  rfl

theorem durable_ext (d : Durable) (s : Node) (h1 : d.cid = s.cid) (h2 : d.nid = s.nid) (h3 : d.log = s.durable.log)
    (h4 : d.snaps = s.snapsDisk) : { d with term := s.durTerm, vote := s.durVote } = s.durable := by
  cases d
  simp only at h1 h2 h3 h4
  subst h1; subst h2; subst h3; subst h4
  rfl

theorem snapsWF_node {x : Snap3.Sys} (hI : Inv3 V x) (i : Nat) : C09.SnapsWF (x.node i) := by
  have so : SnapOK (x.vnode i) := hI.sinv.snap i
  refine ⟨so.files.sorted, fun g hg => ?_, ?_⟩
  · show g.index = (x.vnode i).snapIndex
    rw [so.head]
    unfold headOf
    rw [show (x.vnode i).snapsDisk.head? = some g from hg]; rfl
  · show (x.vnode i).snapIndex ≤ (x.vnode i).commitIndex
    rw [so.head]; exact so.files.head_le

theorem msgOK_send {x : Snap3.Sys} (hI : Inv3 V x) (hS : Side3 V x) {i : Nat} {q : InstallReq}
    (hr : SnapRead (x.node i) q) : MsgOK (view3 x).cs ⟨q, (x.vlog i).take q.lastIndex⟩ := by
  have hc := hI.sinv.cinv
  have so : SnapOK (x.vnode i) := hI.sinv.snap i
  have hf : C09.fileOf q ∈ (x.node i).snapsDisk := List.mem_of_mem_head? hr.file
  obtain ⟨f1, f2, f3⟩ := so.files.files _ hf
  have f1' : 1 ≤ q.lastIndex := f1
  have f2' : q.lastIndex ≤ (x.node i).commitIndex := f2
  obtain ⟨zC, _, zT, zN⟩ := cview x
  obtain ⟨wC, _, wT⟩ := withNodes_ledgers x.s2.cs x.s2.vnode
  obtain ⟨e1, _, e3, e4, _⟩ := zN i
  generalize eview (view3 x).cs = z at hc zC zT e1 e3 e4
  obtain ⟨hlen, hcm⟩ := hc.cmt.cc i q.lastIndex f1' (e3 ▸ f2')
  rw [e1] at hlen hcm
  rw [e4] at hcm
  have hl : ((x.vlog i).take q.lastIndex).length = q.lastIndex := by rw [List.length_take]; omega
  have hlt : lastTerm ((x.vlog i).take q.lastIndex) = termAt (x.vlog i) q.lastIndex := lastTerm_take _ _ hlen
  have hvt : termAt (x.vlog i) q.lastIndex = q.lastTerm := (hI.vterm i).files _ hf
  have hp : Path z.T (x.vlog i) := e1 ▸ log_path hc i
  have hle : ∀ e ∈ x.vlog i, e.term ≤ (x.node i).term := fun e he => e4 ▸ hc.node.termLe i e (e1 ▸ he)
  unfold Cmt at hcm
  rw [zC, zT] at hcm
  rw [zT] at hp
  refine ⟨hl, f1', wT ▸ hp.prefix (List.take_prefix _ _), by rw [hlt, hvt], ?_, f3, fun e he => ?_, fun e he => ?_⟩
  · show ∃ m ∈ (withNodes x.s2.cs x.s2.vnode).committed, _ ∧ Anc (withNodes x.s2.cs x.s2.vnode).T _ m
    rw [wC, wT, hl, hlt, hr.term]
    exact hcm
  · rw [hr.term]
    exact hle e (List.mem_of_mem_take he)
  · exact hS.dec i e (List.mem_of_mem_take he)

/-- the head of the old listing is not the received file: the request is ahead of everything the node has -/
theorem head_ne_file {x : Snap3.Sys} (hI : Inv3 V x) {i : Nat} {q : InstallReq} (hi : Installs (x.node i) q) :
    ¬ (x.node i).snapsDisk.head? = some (C09.fileOf q) := by
  intro h
  have wf := snapsWF_node hI i
  have := wf.head _ h
  have h2 := wf.le_commit
  have h3 := hi.2.1
  have h4 : (C09.fileOf q).index = q.lastIndex := rfl
  omega

theorem inv3_init {x : Snap3.Sys} (hi : Snap3.Init x) : Inv3 V x := by
  have hn : ∀ j, NWF (x.vnode j) := fun j => (hi.init.init.cs.rp.nodes j).1
  refine ⟨sinv_init hi.init.init, fun i => ⟨by rw [hi.init.prev i]; exact Nat.zero_le _,
    fun rs hrs => by rw [hi.init.result i] at hrs; cases hrs⟩, fun i => ⟨fun f hf => ?_, ?_⟩,
    fun m hm => by rw [hi.sent] at hm; cases hm⟩
  · have : (x.vnode i).snapsDisk = [] := (hn i).snaps
    have hf' : f ∈ (x.vnode i).snapsDisk := hf
    rw [this] at hf'; cases hf'
  · have : (x.node i).snapsDisk = [] := (hn i).snaps
    rw [hi.term i, this]; rfl

theorem inv3_step (hV : V.Nodup) {x : Snap3.Sys} (hI : Inv3 V x) (hS : Side3 V x) {i : Nat} {op : Op} {ra : List Nat}
    {ord : List (List Nat)} {src : Nat} (en : Snap.Enabled x.s2.cs i op src)
    (hp : ((x.node i).step op ra ord).panicked = none) (htt : TermTracked (x.node i) op)
    (hS' : Side3 V { x with s2 := stepS x.s2 i op ra ord src }) :
    Inv3 V { x with s2 := stepS x.s2 i op ra ord src } := by
  have hSv : SideS V (view (stepS x.s2 i op ra ord src)) := sideS_view3 hS'
  by_cases hap : ∃ q, op = .append q
  · obtain ⟨q, rfl⟩ := hap
    obtain ⟨a1, a2, a3⟩ := step3_append hV hI hS en hp hS'
    exact ⟨a1, nodes_stepS hI.prev a2, vterm_stepS hI.vterm a3,
      fun m hm => (hI.msgs m hm).mono (stepS_T _ _ _ _ _ _).1 (stepS_T _ _ _ _ _ _).2⟩
  have hnc : NoCut (x.node i) op := noCut_of_not_append _ hap
  by_cases hsn : op = .snapTaken
  · subst hsn
    obtain ⟨a1, a2, a3, a4, a5⟩ := step_snapTaken hV hI.sinv (sideS_view3 hS) (hI.prev i) (hS.segs i)
      (ra := ra) (ord := ord) (src := src) en.id
    refine ⟨a1, nodes_stepS hI.prev a2, vterm_stepS hI.vterm ⟨?_, ?_⟩,
      fun m hm => (hI.msgs m hm).mono (stepS_T _ _ _ _ _ _).1 (stepS_T _ _ _ _ _ _).2⟩
    · show ∀ f ∈ ((stepS x.s2 i .snapTaken ra ord src).node i).snapsDisk,
        termAt ((stepS x.s2 i .snapTaken ra ord src).vnode i).log.entries f.index = f.term
      rw [stepS_node_i, a3, a4]; exact (hI.vterm i).files
    · show ((stepS x.s2 i .snapTaken ra ord src).node i).snapTerm =
        (headOf ((stepS x.s2 i .snapTaken ra ord src).node i).snapsDisk).term
      rw [stepS_node_i, a4, a5]; exact (hI.vterm i).head
  · have hU := vstep_comm hI.sinv hI.prev hS en hp hsn hnc
    obtain ⟨a1, a2, a3⟩ := step_nc hV hI.sinv hI.prev (sideS_view3 hS) (hS.segs i) en hp hsn hU hSv
    exact ⟨a1, nodes_stepS hI.prev a2, vterm_step hV hI hS en hsn htt a3 hU,
      fun m hm => (hI.msgs m hm).mono (stepS_T _ _ _ _ _ _).1 (stepS_T _ _ _ _ _ _).2⟩

/-- a crash in an operation of stage 2 after which the log is not reset, outside the window of `Snap3.NoCut` -/
theorem inv3_crash_plain (hV : V.Nodup) {x : Snap3.Sys} (hI : Inv3 V x) (hS : Side3 V x) {i : Nat} {op : Op}
    {ra : List Nat} {ord : List (List Nat)} {src k retain : Nat} {sor : Bool} {n : Node}
    (en : Snap.Enabled x.s2.cs i op src) (hret : 1 ≤ retain) (hp : ((x.node i).step op ra ord).panicked = none)
    (hnc : NoCut (x.node i) op) (htt : TermTracked (x.node i) op)
    (hst : staleLog (C05.crashDisk (x.node i) op ra ord k) = false)
    (hn : Node.restart (C05.crashDisk (x.node i) op ra ord k) retain sor = some n)
    (hS' : Side3 V { x with s2 := crashS x.s2 i op n }) : Inv3 V { x with s2 := crashS x.s2 i op n } := by
  have hSv : SideS V (view (crashS x.s2 i op n)) := sideS_view3 hS'
  obtain ⟨w1, w2, w3, _⟩ := restart_snapTerm _ retain sor n hn
  have key : SInv V (view (crashS x.s2 i op n)) ∧ PrevOK n ∧
      FilesOK (x.vlog i) (x.node i).commitIndex (C05.crashDisk (x.node i) op ra ord k).snaps := by
    by_cases hsn : op = .snapTaken
    · subst hsn
      have so : SnapOK (x.vnode i) := hI.sinv.snap i
      have hsn' : (C05.crashDisk (x.node i) .snapTaken ra ord k).snaps = (x.node i).snapsDisk := by
        rcases snapTaken_crashDisk (x.node i) ra ord k with e | ⟨e, _⟩ <;> rw [e] <;> rfl
      obtain ⟨a1, a2⟩ := crash_snapTaken (src := src) hV hI.sinv (sideS_view3 hS) (hI.prev i) (hS.segs i) en.id hret
        hst (fun h0 he => by
          have hm := headSnap_mem _ (he ▸ h0)
          rw [show (C05.crashDisk (x.node i) .snapTaken ra ord k).snaps = (x.node i).snapsDisk from hsn'] at hm
          have := (hI.vterm i).files _ hm
          rwa [← he] at this) hn hSv
      refine ⟨a1, a2, ?_⟩
      rw [hsn']; exact so.files
    · obtain ⟨a1, a2, _, a4, _⟩ := crash3_nc hV hI hS en hret hp hsn hnc htt hst hn hSv
      exact ⟨a1, a2, a4⟩
  obtain ⟨a1, a2, a4⟩ := key
  exact ⟨a1, nodes_crashS hI.prev a2,
    vterm_crashS hI.vterm (vterm_restart hI (y := { x with s2 := crashS x.s2 i op n }) a1 (crashS_T _ _ _ _).1
      (crashS_T _ _ _ _).2 (crashS_node_i _ _ _ _) a4 (crash_files_term hI k en.ok2.1 htt) w2 w1 w3),
    fun m hm => (hI.msgs m hm).mono (crashS_T _ _ _ _).1 (crashS_T _ _ _ _).2⟩

theorem inv3_send (hV : V.Nodup) {x : Snap3.Sys} (hI : Inv3 V x) (hS : Side3 V x) {i : Nat} {q : AppendReq}
    (hi : i ≠ 0) (hl : (x.node i).role = .leader) (hr : ReadFrom2 (x.node i) (x.vnode i) q)
    (hc : q.ldrCommitIndex ≤ (x.node i).commitIndex)
    (hS' : Side3 V { x with s2 := { x.s2 with cs := sendC x.s2.cs q } }) :
    Inv3 V { x with s2 := { x.s2 with cs := sendC x.s2.cs q } } := by
  have ht : Snap.Trans (view x.s2) (view { x.s2 with cs := sendC x.s2.cs q }) :=
    Snap.Trans.send (x := view x.s2) i q hi hl hr.read hc
  exact ⟨inv_trans hV hI.sinv (sideS_view3 hS) ht (sideS_view3 hS'), hI.prev, fun j => ⟨(hI.vterm j).files, (hI.vterm j).head⟩,
    fun m hm => (hI.msgs m hm).mono (fun _ h => h) (fun _ h => h)⟩

theorem inv3_sendSnap {x : Snap3.Sys} (hI : Inv3 V x) (hS : Side3 V x) {i : Nat} {q : InstallReq}
    (hr : SnapRead (x.node i) q) :
    Inv3 V { x with sentSnaps := ⟨q, (x.vlog i).take q.lastIndex⟩ :: x.sentSnaps } := by
  refine ⟨hI.sinv, hI.prev, fun j => ⟨(hI.vterm j).files, (hI.vterm j).head⟩, fun m hm => ?_⟩
  rcases List.mem_cons.mp hm with rfl | hm
  · exact msgOK_send hI hS hr
  · exact hI.msgs m hm

theorem inv3_install {x : Snap3.Sys} (hI : Inv3 V x) {i : Nat} {m : SnapMsg} {ra : List Nat}
    {ord : List (List Nat)} (hm : m.q.term < (x.node i).term ∨ m ∈ x.sentSnaps) : Inv3 V (installS x i m ra ord) := by
  have hvw : C05.VoteWF (x.node i) := (hI.sinv.cinv.rp.el.ids i).2
  have key : SInv V (view3 (installS x i m ra ord)) ∧ PrevOK ((x.node i).step (.install m.q) ra ord) ∧
      VTerm (installS x i m ra ord) i := by
    unfold installS instBase
    by_cases hin : Installs (x.node i) m.q
    · rw [if_pos hin]
      have hmo : MsgOK (view3 x).cs m := hI.msgs m (hm.resolve_left hin.1)
      have wf := snapsWF_node hI i
      have so : SnapOK (x.vnode i) := hI.sinv.snap i
      exact installed_inv hI hmo hin
        (installed_of_step (x.node i) m.q ra ord hin wf so.retain hvw (hI.prev i).res wf.le_commit)
    · rw [if_neg hin]
      by_cases hst : m.q.term < (x.node i).term
      · exact same_inv hI (same_of_stale_step (x.node i) m.q ra ord hst)
      · have hno : m.q.lastIndex ≤ (x.node i).commitIndex ∨ C09.keepsLog (x.node i) m.q = true := by
          by_cases h2 : m.q.lastIndex ≤ (x.node i).commitIndex
          · exact Or.inl h2
          · right
            cases hk : C09.keepsLog (x.node i) m.q with
            | true => rfl
            | false => exact absurd ⟨hst, by omega, hk⟩ hin
        exact bumped_inv hI (bumped_of_step (x.node i) m.q ra ord hst hno hvw).1
  obtain ⟨a1, a2, a3⟩ := key
  exact ⟨a1, nodes_replS hI.prev a2, vterm_replS hI.vterm a3,
    fun m' hm' => (hI.msgs m' hm').mono (fun _ h => h) (fun _ h => h)⟩

end

end SnapInst3
end Raft
