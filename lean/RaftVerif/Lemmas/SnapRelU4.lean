/-
Un-compaction, continued: what is on disk at a crash point, and the restart from it.
-/
import RaftVerif.Lemmas.SnapRelU3
import RaftVerif.Lemmas.SnapSim
namespace Raft
namespace SnapRelU
open Node SnapSim
variable {β : List Entry}

theorem uncD_eq (d : Durable) (h : d.log.prev + d.log.entries.length ≤ d.log.flushed) :
    uncD β d = { d with log := uncLog β d.log } := by
  unfold uncD uncLog
  rw [List.take_of_length_le (by rw [List.length_append, pad_length]; exact h)]

theorem uncLog_get? (l : NLog) (i : Nat) (h : l.prev < i) : (uncLog β l).get? i = l.get? i := by
  unfold NLog.get?
  rw [if_pos h]
  show (if 0 < i then (pad β l.prev ++ l.entries)[i - 0 - 1]? else none) = _
  rw [if_pos (by omega), List.getElem?_append_right (by rw [pad_length]; omega), pad_length]
  congr 1
  omega

theorem scan_U (l : NLog) (sn : Nat) (h : l.prev ≤ sn) : ∀ (fuel i : Nat) (latest : Option Config),
    scanConfigs (uncLog β l) sn fuel i latest = scanConfigs l sn fuel i latest := by
  intro fuel
  induction fuel with
  | zero => intro i latest; rfl
  | succ n ih =>
    intro i latest
    unfold scanConfigs
    by_cases hi : i ≤ sn
    · rw [if_pos hi, if_pos hi]
    · rw [if_neg hi, if_neg hi, uncLog_get? l i (by omega)]
      cases l.get? i with
      | none => rfl
      | some e =>
        dsimp only
        cases e.config? with
        | some c =>
          dsimp only
          cases latest with
          | none => exact ih _ _
          | some l' => rfl
        | none =>
          dsimp only
          split
          · rfl
          · exact ih _ _

@[usimp] theorem U_fsmRestore (s : Node) : (U β s).fsmRestore = U β s.fsmRestore := by
  unfold Node.fsmRestore
  have hp : True := trivial
  ucomm hp

theorem uncLog_entries0 (l : NLog) (h : l.prev = 0) : (uncLog β l).entries = l.entries := by
  show pad β l.prev ++ l.entries = _
  rw [h]
  have : pad β 0 = [] := by unfold pad; simp
  rw [this, List.nil_append]

theorem restart_aux (d : Durable) (hne : d.log.entries ≠ [] ∨ d.log.prev = 0) :
    (decide ((uncLog β d.log).count > 0) = decide (d.log.count > 0)) ∧
    ((uncLog β d.log).entries.getLast?.map (·.term)).getD 0 = ((d.log.entries.getLast?).map (·.term)).getD 0 := by
  rcases hne with hne | h0
  · have hc : d.log.count > 0 := List.length_pos_iff.mpr hne
    have hc' : (uncLog β d.log).count > 0 := by
      show 0 < (pad β d.log.prev ++ d.log.entries).length
      rw [List.length_append]; exact Nat.lt_of_lt_of_le hc (Nat.le_add_left _ _)
    refine ⟨by simp [hc, hc'], ?_⟩
    show (((pad β d.log.prev ++ d.log.entries).getLast?).map (·.term)).getD 0 = _
    rw [List.getLast?_append]
    cases h : d.log.entries.getLast? with
    | none => exact absurd (List.getLast?_eq_none_iff.mp h) hne
    | some x => rfl
  · unfold NLog.count
    rw [uncLog_entries0 d.log h0]
    exact ⟨rfl, rfl⟩

/-- un-compaction does not change whether the log on disk is stale, when the log starts at index 1 or strictly
below the newest snapshot (then the entry at the snapshot index is an entry of the compacted log) -/
theorem staleLog_U (d : Durable) (h : d.log.prev = 0 ∨ d.log.prev < (headSnap d).index) :
    staleLog { d with log := uncLog β d.log } = staleLog d := by
  unfold staleLog
  show (decide ((uncLog β d.log).last < (headSnap d).index) ||
      (decide ((uncLog β d.log).prev < (headSnap d).index) &&
        (((uncLog β d.log).get? (headSnap d).index).map (·.term) != some (headSnap d).term))) =
    (decide (d.log.last < (headSnap d).index) ||
      (decide (d.log.prev < (headSnap d).index) &&
        ((d.log.get? (headSnap d).index).map (·.term) != some (headSnap d).term)))
  rw [uncLog_last, uncLog_prev]
  by_cases hlt : d.log.prev < (headSnap d).index
  · rw [uncLog_get? d.log _ hlt]
    have h0 : 0 < (headSnap d).index := by omega
    simp only [hlt, h0, decide_true]
  · have hp : d.log.prev = 0 := by rcases h with h | h; exact h; exact absurd h hlt
    rw [hp] at hlt ⊢
    simp only [hlt, decide_false, Bool.false_and]

theorem restartNode_U (d : Durable) (retain : Nat) (sor : Bool) (hne : d.log.entries ≠ [] ∨ d.log.prev = 0)
    (hnr : staleLog d = false) (hnu : staleLog { d with log := uncLog β d.log } = false)
    (hps : d.log.prev ≤ (headSnap d).index) :
    restartNode { d with log := uncLog β d.log } retain sor = U β (restartNode d retain sor) := by
  unfold restartNode
  obtain ⟨hcnt, hlast⟩ := restart_aux (β := β) d hne
  have hps' : d.log.prev ≤ ((d.snaps.head?).getD {}).index := hps
  dsimp only
  simp only [hnr, hnu, Bool.false_eq_true, if_false, hlast, uncLog_last, scan_U d.log _ hps']
  by_cases hc : d.log.count > 0
  · have hc' : (uncLog β d.log).count > 0 := by simpa [hc] using hcnt
    simp only [if_pos hc, if_pos hc']
    rfl
  · have hc' : ¬ (uncLog β d.log).count > 0 := by simpa [hc] using hcnt
    simp only [if_neg hc, if_neg hc']
    rfl

theorem restartFails_U (d : Durable) (hne : d.log.entries ≠ [] ∨ d.log.prev = 0)
    (hnr : staleLog d = false) (hnu : staleLog { d with log := uncLog β d.log } = false)
    (hps : d.log.prev ≤ (headSnap d).index) :
    restartFails { d with log := uncLog β d.log } = restartFails d := by
  unfold restartFails
  obtain ⟨hcnt, _⟩ := restart_aux (β := β) d hne
  have hps' : d.log.prev ≤ ((d.snaps.head?).getD {}).index := hps
  dsimp only
  simp only [hnr, hnu, Bool.false_eq_true, if_false, uncLog_last]
  by_cases hc : d.log.count > 0
  · have hc' : (uncLog β d.log).count > 0 := by simpa [hc] using hcnt
    simp only [if_pos hc, if_pos hc', scan_U d.log _ hps']
  · have hc' : ¬ (uncLog β d.log).count > 0 := by simpa [hc] using hcnt
    simp only [if_neg hc, if_neg hc', scan_U d.log _ hps']

/-- **restart from the un-compacted disk** (when the log on disk is not empty unless it starts at index 1, starts
at or below the newest snapshot, and neither the log on disk nor the un-compacted log is stale — `openStorage` resets
neither; by `staleLog_U` the second follows from the first when the log starts strictly below the snapshot) -/
theorem restart_U (d : Durable) (retain : Nat) (sor : Bool) (hne : d.log.entries ≠ [] ∨ d.log.prev = 0)
    (hnr : staleLog d = false) (hnu : staleLog { d with log := uncLog β d.log } = false)
    (hps : d.log.prev ≤ (headSnap d).index) :
    Node.restart { d with log := uncLog β d.log } retain sor = (Node.restart d retain sor).map (U β) := by
  exact Node.restart_map (U β) (restartFails_U d hne hnr hnu hps) (restartNode_U d retain sor hne hnr hnu hps) rfl rfl rfl
    (by rw [U_fsmRestore]; rfl)

end SnapRelU
end Raft
