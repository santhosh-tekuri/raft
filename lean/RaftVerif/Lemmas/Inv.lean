/-
Invariant lemma for the mutually recursive leader handlers: a predicate on node states that every
primitive operation used by those handlers preserves is preserved by the handlers themselves.
(Instantiate `Inv` with `R s₀ ·` for a relation to a fixed state `s₀`; Lemmas/Frame.lean is the case of a projection
that does not move.)
-/
import RaftVerif.Lemmas.StepWalk

namespace Raft
namespace Node

/-- `Inv` survives every primitive update of the leader block unconditionally (but the commit index only moves forward);
`block` is then the block. For a predicate that needs to know more at some update: `Guarded`, `GuardedAt` (Lemmas/StepWalk.lean). -/
structure Closed (Inv : Node → Prop) : Prop where
  panic : ∀ s site, Inv s → Inv (s.panic site)
  reply : ∀ s t r, Inv s → Inv (s.reply t r)
  point : ∀ s n, Inv s → Inv (s.point n)
  ldr : ∀ (s : Node) l, Inv s → Inv (s.withLdr l)
  append : ∀ (s : Node) e roll, Inv s →
    Inv { s with log := s.log.append e roll, lastLogIndex := e.index, lastLogTerm := e.term }
  commitN : ∀ (s : Node) n, Inv s → Inv { s with log := s.log.commitN n }
  fsm : ∀ (s : Node) f, Inv s → Inv (s.withFsm f)
  changeConfigR : ∀ (s : Node) c, Inv s → Inv (s.changeConfigR c)
  /-- the commit index only ever moves forward: every call site has checked `i > commitIndex` -/
  setCommitIndexR : ∀ (s : Node) i, Inv s → i > s.commitIndex → Inv (s.setCommitIndexR i).1
  popOrder : ∀ (s : Node), Inv s → Inv s.popOrder

namespace Closed

variable {Inv : Node → Prop} (h : Closed Inv)
include h

/-- no guard of `Guarded` is needed, and its larger updates consist of updates of `Closed` -/
theorem toGuarded : Guarded Inv where
  panic := h.panic
  reply := h.reply
  point := h.point
  ldrK := fun s l hs _ _ _ => h.ldr s l hs
  replsG := fun s _ hs _ => h.ldr s _ hs
  appendEntry := fun s e hs _ _ => appendEntry_of h.panic h.append s e hs
  commitN := h.commitN
  fsmLog := fsmApplyLogTo_of h.panic h.fsm
  fsmItems := fsmApplyItems_of h.panic h.fsm h.reply
  changeConfigR := h.changeConfigR
  setCommitIndexR := h.setCommitIndexR
  popOrder := h.popOrder

theorem appendEntry_inv (s : Node) (e : Entry) (hs : Inv s) : Inv (s.appendEntry e) :=
  appendEntry_of h.panic h.append s e hs

theorem commitLog_inv (s : Node) (n : Nat) (hs : Inv s) : Inv (s.commitLog n) :=
  h.toGuarded.commitLog_inv s n hs

theorem setRepl_inv (s : Node) (r : Repl) (hs : Inv s) : Inv (s.setRepl r) := by
  unfold Node.setRepl; exact h.ldr _ _ hs

theorem addReplication_inv (s : Node) (n : CNode) (hs : Inv s) : Inv (s.addReplication n) :=
  h.toGuarded.addReplication_inv s n hs

theorem notifyFlr_inv (s : Node) (hs : Inv s) : Inv s.notifyFlr :=
  h.toGuarded.notifyFlr_inv s hs

theorem beginFinishedRounds_inv (s : Node) (hs : Inv s) : Inv s.beginFinishedRounds := by
  unfold Node.beginFinishedRounds; exact h.ldr _ _ hs

theorem fsmApplyLogTo_inv (s : Node) (n : Nat) (hs : Inv s) : Inv (s.fsmApplyLogTo n) :=
  fsmApplyLogTo_of h.panic h.fsm s n hs

theorem fsmApplyItems_inv (s : Node) (qs : List QItem) (hs : Inv s) : Inv (s.fsmApplyItems qs) :=
  fsmApplyItems_of h.panic h.fsm h.reply s qs hs

theorem fsmApply_inv (s : Node) (qs : List QItem) (hs : Inv s) : Inv (s.fsmApply qs) :=
  h.toGuarded.fsmApply_inv s qs hs

theorem applyCommittedL_inv (s : Node) (hs : Inv s) : Inv s.applyCommittedL :=
  h.toGuarded.applyCommittedL_inv s hs

theorem block : ∀ fuel : Nat,
    (∀ s b, Inv s → Inv (storeEntry fuel s b)) ∧
    (∀ s b, Inv s → Inv (storeItems fuel s b)) ∧
    (∀ s c, Inv s → Inv (changeConfigL fuel s c)) ∧
    (∀ s t c, Inv s → Inv (doChangeConfig fuel s t c)) ∧
    (∀ s t c, Inv s → Inv (checkConfigActions fuel s t c)) ∧
    (∀ s t c id, Inv s → Inv (checkConfigAction fuel s t c id)) ∧
    (∀ s i, Inv s → i > s.commitIndex → Inv (setCommitIndexL fuel s i)) ∧
    (∀ s, Inv s → Inv (onMajorityCommit fuel s)) := fun fuel =>
  have B := h.toGuarded.block fuel
  ⟨B.storeEntry, B.storeItems, B.changeConfigL, B.doChangeConfig, B.checkConfigActions, B.checkConfigAction,
    B.setCommitIndexL, B.onMajorityCommit⟩

end Closed

/-- **A recorded failure is never cleared or changed** by the updates of the leader block: any predicate of the failure
record that a first failure does not falsify is kept (`· ≠ none`, `· = some site`, `· = none → C`). -/
theorem Closed.ofPanicked (R : Option String → Prop) (hR : ∀ site, R none → R (some site)) :
    Closed (fun x : Node => R x.panicked) where
  panic := fun s site h => by
    unfold Node.panic
    cases hp : s.panicked with
    | none => exact hR site (hp ▸ h)
    | some x => exact h
  reply := fun s t r h => by rw [reply_shape]; exact h
  point := fun _ _ h => h
  ldr := fun _ _ h => h
  append := fun _ _ _ h => h
  commitN := fun _ _ h => h
  fsm := fun _ _ h => h
  changeConfigR := fun s c h => by rw [changeConfigR_shape]; exact h
  setCommitIndexR := fun s i h _ => by rw [setCommitIndexR_shape]; exact h
  popOrder := fun _ h => h

end Node
end Raft
