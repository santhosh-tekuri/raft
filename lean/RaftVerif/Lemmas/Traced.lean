/-
Crash images. `Node.point` records `s.durable`, so an image in the trace of a step is the disk of a state the step
went through, and every update that records an image records the disk it leaves (`Rec`): `storeTermVote` changes the
memory copy after its point, which `durable` does not read; `commitLog`, `removeGTE`, `compactLog`, `clearLog` record
last. The exception is `publishSnapshot`, whose first image is the disk before retention (Lemmas/ShapeTrace.lean).

Hence the `traced` theorems: a predicate `P` that the updates of a closure record preserve and that says `D` of the disk
(`P s → D s.durable`) says `D` of every image, given `D` of the disks between publication and retention; `P` itself need
not hold there, nor between a point and the memory update that follows it. An invariant that lives on another record
uses `Traced.step` with the `rec_` lemmas at its own fields.
-/
import RaftVerif.Lemmas.StepInv
import RaftVerif.Lemmas.ShapeTrace

namespace Raft
namespace Node

/-- every crash image recorded so far satisfies `D` (`∀ p ∈ s.trace, D p.2` is `Traced (fun p => D p.2) s` by unfolding) -/
def Traced (D : String × Durable → Prop) (s : Node) : Prop := ∀ p ∈ s.trace, D p

/-- `s'` has recorded, beyond the images of `s`, at most the disk it has itself -/
def Rec (s s' : Node) : Prop := s'.trace = s.trace ∨ ∃ n, s'.trace = s.trace ++ [(n, s'.durable)]

variable {D : String × Durable → Prop} {s s' : Node}

theorem Traced.of_nil (h : s.trace = []) : Traced D s := fun p hp => by rw [h] at hp; cases hp

/-- what holds of the images so far and of the images a handler's storage script adds holds of every image after it -/
theorem Traced.append {pts : List (String × Durable)} (h : Traced D s) (e : s'.trace = s.trace ++ pts)
    (hp : ∀ p ∈ pts, D p) : Traced D s' := by
  intro p hm
  rw [e] at hm
  exact (List.mem_append.mp hm).elim (h p) (hp p)

theorem Traced.snoc {n : String} {d : Durable} (h : Traced D s) (e : s'.trace = s.trace ++ [(n, d)]) (hd : D (n, d)) :
    Traced D s' :=
  h.append e fun _ hp => List.mem_singleton.mp hp ▸ hd

theorem Traced.step (h : Traced D s) (r : Rec s s') (hd : ∀ n, D (n, s'.durable)) : Traced D s' := by
  rcases r with e | ⟨n, e⟩
  · intro p hp; rw [e] at hp; exact h p hp
  · exact h.snoc e (hd n)

theorem Rec.of_eq (e : s'.trace = s.trace) : Rec s s' := Or.inl e

theorem rec_point (s : Node) (n : String) : Rec s (s.point n) := Or.inr ⟨n, rfl⟩

theorem rec_storeTermVote (s : Node) (t c : Nat) : Rec s (s.storeTermVote t c) := by
  unfold storeTermVote
  dsimp only
  split
  · exact Or.inl rfl
  · exact Or.inr ⟨_, rfl⟩

theorem rec_setTerm (s : Node) (t : Nat) : Rec s (s.setTerm t) := by
  unfold setTerm
  exact ite_ind (fun _ => ite_ind (fun _ => rec_storeTermVote ..) fun _ => .of_eq (panic_trace ..)) fun _ => .of_eq rfl

theorem rec_setVotedFor (s : Node) (t c : Nat) : Rec s (s.setVotedFor t c) := by
  unfold setVotedFor
  exact ite_ind (fun _ => ite_ind (fun _ => rec_storeTermVote ..) fun _ => .of_eq (panic_trace ..)) fun _ => .of_eq rfl

theorem Traced.publishSnapshot {f : SnapFile} (h : Traced D s) (h1 : D ("snap.publish", published s f))
    (h2 : D ("snap.retain", (s.publishSnapshot f).durable)) : Traced D (s.publishSnapshot f) := by
  intro p hp
  rw [publishSnapshot_trace, List.mem_append, List.mem_cons, List.mem_singleton] at hp
  rcases hp with hp | rfl | rfl
  · exact h p hp
  · exact h1
  · exact h2

section closure
variable {P : Node → Prop} (dur : ∀ s n, P s → D (n, s.durable))
include dur

theorem traced_same (hs : P s ∧ Traced D s) (h' : P s') (e : s'.trace = s.trace) : P s' ∧ Traced D s' :=
  ⟨h', hs.2.step (.of_eq e) fun _ => dur _ _ h'⟩

theorem traced_rec (hs : P s ∧ Traced D s) (h' : P s') (r : Rec s s') : P s' ∧ Traced D s' :=
  ⟨h', hs.2.step r fun _ => dur _ _ h'⟩

/-- The disk between publication of a snapshot and retention is no state after an update of `StepClosed`: `publish` asks
for it, of any file. -/
theorem StepClosed.traced (h : StepClosed P) (publish : ∀ (s : Node) f n, P s → D (n, published s f)) :
    StepClosed fun s => P s ∧ Traced D s where
  panic := fun s site hs => traced_same dur hs (h.panic s site hs.1) (panic_trace ..)
  reply := fun s t r hs => traced_same dur hs (h.reply s t r hs.1) (reply_trace ..)
  point := fun s n hs => traced_rec dur hs (h.point s n hs.1) (rec_point ..)
  ldr := fun s l hs => traced_same dur hs (h.ldr s l hs.1) rfl
  append := fun s e r hs => traced_same dur hs (h.append s e r hs.1) rfl
  commitN := fun s n hs => traced_same dur hs (h.commitN s n hs.1) rfl
  fsm := fun s f hs => traced_same dur hs (h.fsm s f hs.1) rfl
  changeConfigR := fun s c hs => traced_same dur hs (h.changeConfigR s c hs.1) (changeConfigR_trace ..)
  setCommitIndexR := fun s i hs hi => traced_same dur hs (h.setCommitIndexR s i hs.1 hi) (setCommitIndexR_trace ..)
  popOrder := fun s hs => traced_same dur hs (h.popOrder s hs.1) rfl
  begin := fun s ra ord hs => ⟨h.begin s ra ord hs.1, .of_nil rfl⟩
  rpcReply := fun s r hs => traced_same dur hs (h.rpcReply s r hs.1) rfl
  ret := fun s r hs => traced_same dur hs (h.ret s r hs.1) rfl
  setRole := fun s r hs => traced_same dur hs (h.setRole s r hs.1) rfl
  setLeader := fun s l hs => traced_same dur hs (h.setLeader s l hs.1) rfl
  doClose := fun s r hs => traced_same dur hs (h.doClose s r hs.1) (by rw [doClose_shape])
  setTerm := fun s t hs => traced_rec dur hs (h.setTerm s t hs.1) (rec_setTerm ..)
  voteNewTerm := fun s t c hs hgt => traced_rec dur hs (h.voteNewTerm s t c hs.1 hgt) (rec_setVotedFor ..)
  voteGrant := fun s c hs hv => traced_rec dur hs (h.voteGrant s c hs.1 hv) (rec_setVotedFor ..)
  votesNeeded := fun s v hs => traced_same dur hs (h.votesNeeded s v hs.1) rfl
  candTransfer := fun s v hs => traced_same dur hs (h.candTransfer s v hs.1) rfl
  removeGTE := fun s i pt hs => traced_same dur hs (h.removeGTE s i pt hs.1) rfl
  removeLTE := fun s i hs => traced_same dur hs (h.removeLTE s i hs.1) rfl
  clearLog := fun s hs => traced_same dur hs (h.clearLog s hs.1) rfl
  revertConfig := fun s hs => traced_same dur hs (h.revertConfig s hs.1) rfl
  commitConfig := fun s hs => traced_same dur hs (h.commitConfig s hs.1) (by rw [commitConfig_shape])
  publishSnapshot := fun s f hs =>
    have h' := h.publishSnapshot s f hs.1
    ⟨h', hs.2.publishSnapshot (publish s f _ hs.1) (dur _ _ h')⟩
  installCommit := fun s hs hi => traced_same dur hs (h.installCommit s hs.1 hi) rfl
  snapPending := fun s v hs => traced_same dur hs (h.snapPending s v hs.1) rfl
  snapResult := fun s v hs => traced_same dur hs (h.snapResult s v hs.1) rfl
  bootstrapLast := fun s i t hs => traced_same dur hs (h.bootstrapLast s i t hs.1) rfl

/-- `StepClosed.traced` for one step: `P` and `D` of every image of the step, from `P` after `begin` (`step_inv` is applied to
`s.begin ra ord`, and `begin` of that is itself) -/
theorem StepClosed.step_traced (h : StepClosed P) (publish : ∀ (s : Node) f n, P s → D (n, published s f))
    (s : Node) (op : Op) (ra : List Nat) (ord : List (List Nat)) (hs : P (s.begin ra ord)) :
    P (s.step op ra ord) ∧ Traced D (s.step op ra ord) :=
  (h.traced dur publish).step_inv (s.begin ra ord) op ra ord ⟨hs, .of_nil rfl⟩

theorem QuietClosed.traced {op : Op} (h : QuietClosed op P) : QuietClosed op fun s => P s ∧ Traced D s where
  panic := fun s site hs => traced_same dur hs (h.panic s site hs.1) (panic_trace ..)
  setRole := fun s r hs w => traced_same dur hs (h.setRole s r hs.1 w) rfl
  setLeader := fun s l hs => traced_same dur hs (h.setLeader s l hs.1) rfl
  ret := fun s r hs => traced_same dur hs (h.ret s r hs.1) rfl
  rpcReply := fun s r hs => traced_same dur hs (h.rpcReply s r hs.1) rfl
  votesNeeded := fun s v hs => traced_same dur hs (h.votesNeeded s v hs.1) rfl
  candTransfer := fun s v hs => traced_same dur hs (h.candTransfer s v hs.1) rfl
  setTerm := fun s t hs => traced_rec dur hs (h.setTerm s t hs.1) (rec_setTerm ..)
  vote := fun s t c hs w => traced_rec dur hs (h.vote s t c hs.1 w) (rec_setVotedFor ..)
  reply := fun s t r hs => traced_same dur hs (h.reply s t r hs.1) (reply_trace ..)
  snapPending := fun s v hs => traced_same dur hs (h.snapPending s v hs.1) rfl

end closure

end Node
end Raft
