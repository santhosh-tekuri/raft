/-
The complete run of the possibility proof (Props/C17Sys.lean): the election run (Lemmas/ProgressRun.lean) followed
by replication (`phaseE`), commit (`phaseF`) and the heartbeat that lets the followers commit and apply (`phaseG`;
the steps of the phases E–G: Lemmas/ProgressRepl.lean), put together in `progress_run`.
-/
import RaftVerif.Lemmas.ProgressRepl

namespace Raft
namespace Progress
open Node LogRel CommitRel Commit C02Sys SysInv
open Replication (ReadFrom)

section final
variable {V : List Nat}

theorem getElem_mem_drop_one {α : Type} (l : List α) {k : Nat} (h1 : 1 ≤ k) (hk : k < l.length) : l[k] ∈ l.drop 1 :=
  List.mem_iff_getElem.mpr ⟨k - 1, by rw [List.length_drop]; omega, by rw [List.getElem_drop]; congr 1; omega⟩

theorem commit_lt (hV : V.Nodup) {u : Commit.Sys} (hu : ReachableG V u) {w j N T : Nat}
    (hl : (u.node w).role = .leader) (hT : (u.node w).term = T) (hw : Holds (u.node w).log.entries N T)
    (hj : (u.node j).term ≤ T) (hlog : ∀ e ∈ (u.node j).log.entries, e.term < T) :
    (u.node j).commitIndex < N := by
  obtain ⟨hI, _⟩ := inv_reachable hV (reachableG_V hu)
  apply Nat.lt_of_not_le
  intro hle
  obtain ⟨h1, _⟩ := (leader_completeness_sys_partial V hV u (reachableG_V hu)).2.1 w j N hl (by rw [hT]; exact hj)
    hw.1 hle
  obtain ⟨e, he, het⟩ := holds_get hw
  rw [(nwf hI w).get?, (nwf hI j).get?, if_pos (show 0 < N from hw.1), if_pos (show 0 < N from hw.1), he] at h1
  have hmem : e ∈ (u.node j).log.entries := List.mem_of_getElem? h1.symm
  have := hlog e hmem
  omega

theorem take_eq_of_holds {y : Commit.Sys} (hI : CInv V y) {i j N τ : Nat} (hi : Holds (y.node i).log.entries N τ)
    (hj : Holds (y.node j).log.entries N τ) :
    (y.node i).log.entries.take N = (y.node j).log.entries.take N := by
  apply List.ext_getElem?
  intro k
  rw [List.getElem?_take, List.getElem?_take]
  split
  · rename_i hk
    have := same_entries hI hi hj (k' := k + 1) (by omega) (by omega)
    rw [(nwf hI i).get?, (nwf hI j).get?, if_pos (by omega), if_pos (by omega)] at this
    simpa using this
  · rfl

theorem enabled_match {u : Commit.Sys} {w N : Nat} (hw0 : w ≠ 0) (js : List Nat)
    (hack : ∀ j ∈ js, ∃ a ∈ u.acks, a.voter = j ∧ a.term = (u.node w).term ∧ N ≤ a.index) :
    Commit.Enabled u w (.replUpdates (js.map (mkMatch N))) 0 ∧ EnabledG u w (.replUpdates (js.map (mkMatch N))) := by
  refine enabled_iff.mpr ⟨hw0, fun x hx => ?_⟩
  obtain ⟨j, hj, e⟩ := List.mem_map.mp hx
  rw [← e]
  exact Or.inr (hack j hj)

/-- the request of leader `w` (term `T`) that carries its whole log `L` above index 1, stamped with commit index 0 -/
def fullReq (T w : Nat) (L : List Entry) : AppendReq :=
  { term := T, src := w, prevLogIndex := 1, prevLogTerm := termAt L 1, ldrCommitIndex := 0, entries := L.drop 1 }

/-- the heartbeat of leader `w` (term `T`): previous entry `(N, T)`, no entries, commit index `N` -/
def beatReq (T w N : Nat) : AppendReq :=
  { term := T, src := w, prevLogIndex := N, prevLogTerm := T, ldrCommitIndex := N, entries := [] }

/-- the state `y` reached by the complete run from `x`: `w ∈ M` is leader of the term `T`, above every term the nodes
of `M` had in `x`; its log extends the log it had in `x` and holds at `N` (beyond the old log) an entry of term `T`;
it has committed `N` and applied everything up to its commit index; every other node of `M` is a follower of term
`T` whose log agrees with the leader's up to `N`, with commit index `N` and applied index `N`. -/
structure ProgressSys (M : List Nat) (x y : Commit.Sys) (w T N : Nat) : Prop where
  wM : w ∈ M
  termGt : ∀ i ∈ M, (x.node i).term < T
  role : (y.node w).role = .leader
  term : (y.node w).term = T
  ownEntry : Holds (y.node w).log.entries N T
  oldLog : (x.node w).log.entries <+: (y.node w).log.entries ∧ (x.node w).log.entries.length < N
  commit : N ≤ (y.node w).commitIndex
  applied : (y.node w).fsm.index = (y.node w).commitIndex
  followers : ∀ j ∈ M, j ≠ w → (y.node j).role = .follower ∧ (y.node j).term = T ∧
    (y.node j).log.entries.take N = (y.node w).log.entries.take N ∧ (y.node j).commitIndex = N ∧
    (y.node j).fsm.index = N
  outside : ∀ i, i ∉ M → y.node i = x.node i
  openM : ∀ i ∈ M, (y.node i).closed = ""
  cfgM : ∀ i ∈ M, (y.node i).configs.latest = (x.node i).configs.latest

/-- what phase E leaves of a follower `j` (`u` before, `u2` after): it holds the leader's last entry `(N, T)`, has
acknowledged it and has not committed it -/
structure Replicated (u u2 : Commit.Sys) (j T N : Nat) : Prop where
  holds : Holds (u2.node j).log.entries N T
  ci : (u2.node j).commitIndex < N
  role : (u2.node j).role = .follower
  term : (u2.node j).term = T
  closed : (u2.node j).closed = ""
  cfg : (u2.node j).configs.latest = (u.node j).configs.latest
  ack : ∃ a ∈ u2.acks, a.voter = j ∧ a.term = T ∧ N ≤ a.index

/-- **phase E**: the leader `w` of term `T`, whose log of length `N ≥ 2` ends with an entry of term `T`, puts its whole
log above index 1 on the wire; every node of `js` (open members of term `T` that have not committed `N`) takes it. -/
theorem phaseE (hV : V.Nodup) {u : Commit.Sys} (hu : ReachableG V u) {w T N : Nat} (hw0 : w ≠ 0)
    (hrole : (u.node w).role = .leader) (hterm : (u.node w).term = T) (hN : (u.node w).log.entries.length = N)
    (hN2 : 2 ≤ N) (hNT : termAt (u.node w).log.entries N = T) {js : List Nat} (hjs : js.Nodup)
    (hpre : ∀ j ∈ js, j ≠ 0 ∧ j ≠ w ∧ (u.node j).term = T ∧ (u.node j).closed = "" ∧
      (u.node j).configs.latest.has j = true ∧ (u.node j).commitIndex < N) :
    ∃ ls u2, Exec V u ([.send w (fullReq T w (u.node w).log.entries)] ++ ls) u2 ∧ ls.length ≤ js.length ∧
      (∀ l ∈ ls, l.actor ∈ js) ∧ ls.filter Lbl.isTimeout = [] ∧ (∀ i, i ∉ js → u2.node i = u.node i) ∧
      ∀ j ∈ js, Replicated u u2 j T N := by
  have fw := facts hV hu w
  have hholdsW : Holds (u.node w).log.entries N T := ⟨by omega, by rw [hN]; exact Nat.le_refl _, hNT⟩
  have hrf1 : ReadFrom (u.node w) (fullReq T w (u.node w).log.entries) :=
    ⟨hterm.symm, fw.nid.symm, by show 1 ≤ (u.node w).log.entries.length; rw [hN]; omega, rfl,
      ⟨N, by
        show (u.node w).log.entries.drop 1 = ((u.node w).log.entries.drop 1).take N
        rw [List.take_of_length_le]
        rw [List.length_drop, hN]; omega⟩⟩
  generalize hq1 : fullReq T w (u.node w).log.entries = q1 at hrf1 ⊢
  have q1f : q1.term = T ∧ q1.src = w ∧ q1.prevLogIndex = 1 ∧ q1.prevLogTerm = termAt (u.node w).log.entries 1 ∧
      q1.ldrCommitIndex = 0 ∧ q1.entries = (u.node w).log.entries.drop 1 := by
    rw [← hq1]; exact ⟨rfl, rfl, rfl, rfl, rfl, rfl⟩
  obtain ⟨q1t, q1s, q1p, q1pt, q1c, q1e⟩ := q1f
  obtain ⟨lsE, u2, exE, lenE, actE, tmE, othE, allE⟩ := send_all hV hu hw0 hrole hrf1
    (by rw [q1c]; exact Nat.zero_le _) (by rw [q1p]; exact Nat.le_refl _) hjs (fun j hj => by
    obtain ⟨j0, hjw, t, c, hs, _⟩ := hpre j hj
    exact ⟨j0, by rw [q1s]; exact fun e => hjw e.symm, by rw [q1t, t]; exact Nat.lt_irrefl _, c, hs,
      by rw [q1p]; exact (facts hV hu j).lastPos, by rw [q1p, q1pt]; exact first_term_eq hV hu j w⟩)
  -- the request carries the leader's last entry
  have hlastmem : ∃ e ∈ q1.entries, e.index = N ∧ e.term = T := by
    obtain ⟨e, he, het⟩ := holds_get hholdsW
    have hk : N - 1 < (u.node w).log.entries.length := by rw [hN]; omega
    rw [List.getElem?_eq_getElem hk] at he
    injection he with he
    refine ⟨e, ?_, by rw [← he, fw.nwf.contig _ hk]; omega, het⟩
    rw [q1e, ← he]; exact getElem_mem_drop_one _ (by omega) hk
  have hlen1 : q1.prevLogIndex + q1.entries.length = N := by
    rw [q1p, q1e, List.length_drop, hN]; omega
  refine ⟨lsE, u2, exE, lenE, actE, tmE, othE, fun j hj => ?_⟩
  obtain ⟨_, _, _, c, _, hcj⟩ := hpre j hj
  have ap := allE j hj
  obtain ⟨e, he, hei, het⟩ := hlastmem
  have hh := ap.holds e he
  rw [hei, het] at hh
  have hci : (u2.node j).commitIndex = (u.node j).commitIndex := by
    rcases ap.ci with c | ⟨c1, c2⟩
    · exact c
    · rw [q1c] at c2; omega
  obtain ⟨a, ha, a1, a2, a3⟩ := ap.ack (by rw [hlen1]; omega)
  exact ⟨hh, by rw [hci]; exact hcj, ap.role, by rw [ap.term, q1t], by rw [ap.closed]; exact c, ap.cfg,
    a, ha, a1, by rw [a2, q1t], by rw [a3, hlen1]; exact Nat.le_refl _⟩

/-- **phase F**: the leader `w` of term `T` (open, a voter, last entry `(N, T)` not yet committed) is told that every
other node of the majority `M` has acknowledged `N`: it commits `N`; its log only grows; nobody else moves. -/
theorem phaseF (hV : V.Nodup) {u2 : Commit.Sys} (hu2 : ReachableG V u2) {w T N : Nat} (hw0 : w ≠ 0) {M : List Nat}
    (hM : M.Nodup) (hMV : ∀ i ∈ M, i ∈ V) (hmaj : 2 * M.length > V.length) (hwM : w ∈ M)
    (hrole : (u2.node w).role = .leader) (hterm : (u2.node w).term = T) (hclosed : (u2.node w).closed = "")
    (hN : (u2.node w).log.entries.length = N) (hci : (u2.node w).commitIndex < N)
    (hvot : (u2.node w).configs.latest.isVoter w = true)
    (hack : ∀ j ∈ M.filter (· != w), ∃ a ∈ u2.acks, a.voter = j ∧ a.term = T ∧ N ≤ a.index) :
    ∃ u3, Exec V u2 [.step w (.replUpdates ((M.filter (· != w)).map (mkMatch N))) [] [] 0] u3 ∧
      Committed N (u2.node w) (u3.node w) ∧ (∀ i, i ≠ w → u3.node i = u2.node i) ∧
      (u2.node w).log.entries <+: (u3.node w).log.entries := by
  obtain ⟨_, jsL, jsM⟩ := others_facts hM hwM
  have f2 := facts hV hu2 w
  obtain ⟨hI2, _⟩ := inv_reachable hV (reachableG_V hu2)
  obtain ⟨heF, heGF⟩ := enabled_match (u := u2) (w := w) (N := N) hw0 (M.filter (· != w))
    (fun j hj => by rw [hterm]; exact hack j hj)
  have hpF := (C19Sys.reqok_in_sys_partial V hV u2 hu2 w _ 0 heF heGF hclosed [] []).2.2.1
  have exF := exec_step hV hu2 [] [] heF heGF hclosed (fun q h => by cases h)
  have hnidw : (u2.node w).nid = w := f2.nid
  have h2V : V.length ≥ 2 := two_voters f2 (List.ne_nil_of_mem (hMV w hwM))
  have hcm : Committed N (u2.node w) ((u2.node w).step (.replUpdates ((M.filter (· != w)).map (mkMatch N))) [] []) := by
    have := ack_majority_commits (u2.node w) [] [] M N hrole hclosed (by rw [f2.nwf.last]; exact hN) hci
      (by have := (hI2.node.ldr w hrole).startLe; rw [hN] at this; exact this)
      (f2.good.leaderCacheOpen hclosed hrole) f2.stable (by rw [hnidw]; exact hvot) (by rw [f2.voters]; exact hV)
      (by rw [numVoters_eq f2]; exact h2V) hM (fun v hv => by rw [f2.voters]; exact hMV v hv)
      (by rw [f2.voters]; exact hmaj)
      (by
        obtain ⟨j, hj⟩ : ∃ j, j ∈ M.filter (· != w) := by
          apply List.exists_mem_of_ne_nil
          intro e
          rw [e] at jsL
          simp at jsL
          omega
        exact ⟨j, ((jsM j).mp hj).1, by rw [hnidw]; exact ((jsM j).mp hj).2⟩)
    rw [hnidw] at this
    exact this hpF
  have hext : (u2.node w).log.entries <+:
      ((u2.node w).step (.replUpdates ((M.filter (· != w)).map (mkMatch N))) [] []).log.entries := by
    have ls := leader_step (u2.node w) _ [] [] f2.nwf f2.wf f2.boot heF.rp.ok (fun q h => by cases h) f2.candPos
    obtain ⟨es', _, e1, _⟩ := ls.ext
    rw [e1]; exact List.prefix_append _ _
  refine ⟨_, exF, ?_, fun i hi => stepC_node_j _ w _ _ _ _ hi, ?_⟩
  · rw [stepC_node_i]; exact hcm
  · rw [stepC_node_i]; exact hext

/-- what the heartbeat leaves of a follower `j` (`u3` before, `y` after; `w` the leader): it agrees with the leader up to
`N`, has committed and applied `N` -/
structure Heartbeat (u3 y : Commit.Sys) (j w T N : Nat) : Prop where
  role : (y.node j).role = .follower
  term : (y.node j).term = T
  take : (y.node j).log.entries.take N = (y.node w).log.entries.take N
  commit : (y.node j).commitIndex = N
  applied : (y.node j).fsm.index = N
  closed : (y.node j).closed = (u3.node j).closed
  cfg : (y.node j).configs.latest = (u3.node j).configs.latest

/-- **phase G**: the leader `w` of term `T`, which holds `(N, T)` and has committed `N`, puts a heartbeat on the wire
(previous entry `(N, T)`, commit index `N`); every node of `js` (open members of term `T` that hold `(N, T)` and have not
committed it) commits `N` and applies. -/
theorem phaseG (hV : V.Nodup) {u3 : Commit.Sys} (hu3 : ReachableG V u3) {w T N : Nat} (hw0 : w ≠ 0)
    (hrole : (u3.node w).role = .leader) (hterm : (u3.node w).term = T) (hholds : Holds (u3.node w).log.entries N T)
    (hcommit : N ≤ (u3.node w).commitIndex) {js : List Nat} (hjs : js.Nodup)
    (hpre : ∀ j ∈ js, j ≠ 0 ∧ j ≠ w ∧ (u3.node j).term = T ∧ (u3.node j).closed = "" ∧
      (u3.node j).configs.latest.has j = true ∧ Holds (u3.node j).log.entries N T ∧ (u3.node j).commitIndex < N) :
    ∃ ls y, Exec V u3 ([.send w (beatReq T w N)] ++ ls) y ∧ ls.length ≤ js.length ∧ (∀ l ∈ ls, l.actor ∈ js) ∧
      ls.filter Lbl.isTimeout = [] ∧ (∀ i, i ∉ js → y.node i = u3.node i) ∧ ∀ j ∈ js, Heartbeat u3 y j w T N := by
  have hrf2 : ReadFrom (u3.node w) (beatReq T w N) :=
    ⟨hterm.symm, (facts hV hu3 w).nid.symm, hholds.2.1, hholds.2.2.symm,
      ⟨0, by show ([] : List Entry) = _; rw [List.take_zero]⟩⟩
  generalize hq2 : beatReq T w N = q2 at hrf2 ⊢
  have q2f : q2.term = T ∧ q2.src = w ∧ q2.prevLogIndex = N ∧ q2.prevLogTerm = T ∧
      q2.ldrCommitIndex = N ∧ q2.entries = [] := by
    rw [← hq2]; exact ⟨rfl, rfl, rfl, rfl, rfl, rfl⟩
  obtain ⟨q2t, q2s, q2p, q2pt, q2c, q2e⟩ := q2f
  have hN1 : 1 ≤ N := hholds.1
  obtain ⟨lsG, y, exG, lenG, actG, tmG, othG, allG⟩ := send_all hV hu3 hw0 hrole hrf2
    (by rw [q2c]; exact hcommit) (by rw [q2p]; exact hN1) hjs (fun j hj => by
    obtain ⟨j0, hjw, t, c, hs, hh, _⟩ := hpre j hj
    exact ⟨j0, by rw [q2s]; exact fun e => hjw e.symm, by rw [q2t, t]; exact Nat.lt_irrefl _, c, hs,
      by rw [q2p]; exact hh.2.1, by rw [q2p, q2pt]; exact hh.2.2⟩)
  obtain ⟨hIy, _⟩ := inv_reachable hV (reachableG_V (Exec.reachable hV hu3 exG))
  have hwy : y.node w = u3.node w := othG w (fun h => (hpre w h).2.1 rfl)
  refine ⟨lsG, y, exG, lenG, actG, tmG, othG, fun j hj => ?_⟩
  obtain ⟨_, _, t, _, _, hh, hc⟩ := hpre j hj
  have ap := allG j hj
  obtain ⟨g1, g2, g3⟩ := heartbeat_commits_follower (u3.node j) q2 [] [] (facts hV hu3 j).nwf
    (by rw [q2t, t]; exact Nat.lt_irrefl _) q2e (by rw [q2p]; exact hN1) (by rw [q2p]; exact hh.2.1)
    (by rw [q2p, q2pt]; exact hh.2.2) (by rw [q2pt, q2t]) (by rw [q2p, q2c]; exact Nat.le_refl _)
    (by rw [q2p]; exact hc) ap.np
  rw [← ap.post] at g1 g2 g3
  refine ⟨ap.role, by rw [ap.term, q2t], ?_, by rw [g1, q2p], by rw [g2, q2p], ap.closed, ap.cfg⟩
  exact take_eq_of_holds hIy (by rw [g3]; exact hh) (by rw [hwy]; exact hholds)

/-- **the complete run**: election (phases A–D), then replication, commit and heartbeat (phases E–G); at most
`6 * |M| + 1` labels, all of nodes of `M`, at most two election timeouts per node. -/
theorem progress_run (hV : V.Nodup) {x : Commit.Sys} (hx : ReachableG V x) (M : List Nat)
    (hM : M.Nodup) (hMV : ∀ i ∈ M, i ∈ V) (hmaj : 2 * M.length > V.length) (h0 : ∀ i ∈ M, i ≠ 0)
    (hopen : ∀ i ∈ M, (x.node i).closed = "") (hids : ∀ i ∈ M, (x.node i).configs.latest.ids.Nodup) :
    ∃ ls y w T N, Exec V x ls y ∧ RunOK M ls (6 * M.length + 1) (fun j => if j ∈ M then 2 else 0) ∧
      ProgressSys M x y w T N := by
  obtain ⟨ls0, u, w, T, ex0, ok0, el⟩ := election_run hV hx M hM hMV hmaj h0 hopen hids
  have hu := Exec.reachable hV hx ex0
  have hw0 := h0 w el.wM
  have hvot : ∀ i ∈ M, ∀ j ∈ M, (x.node i).configs.latest.isVoter j = true :=
    fun i hi j hj => isVoter_of_mem (facts hV hx i) (hids i hi) (hMV j hj)
  obtain ⟨jsN, jsL, jsM⟩ := others_facts hM el.wM
  -- the leader's log: `N` is its length, beyond the old log, and the last entry is of term `T`
  obtain ⟨es, hes0, hLw, hesT⟩ := el.ext
  have hlenx : 1 ≤ (x.node w).log.entries.length := (facts hV hx w).lastPos
  have heslen : 1 ≤ es.length := List.length_pos_iff.mpr hes0
  generalize hN : (u.node w).log.entries.length = N at *
  have hNeq : N = (x.node w).log.entries.length + es.length := by rw [← hN, hLw, List.length_append]
  have hNT : termAt (u.node w).log.entries N = T := by
    rw [hLw]
    exact termAt_append_right _ _ _ hesT N (by omega) (by rw [List.length_append]; omega)
  have hholdsW : Holds (u.node w).log.entries N T := ⟨by omega, by rw [hN]; exact Nat.le_refl _, hNT⟩
  have hciW : (u.node w).commitIndex < N := by
    rw [el.commitIndex]
    have f := facts hV hx w
    have := f.good.ordered.commit_le_last
    rw [f.nwf.last] at this
    omega
  have hciJ : ∀ j ∈ M, j ≠ w → (u.node j).commitIndex < N := by
    intro j hj hjw
    obtain ⟨k, _, t⟩ := el.others j hj hjw
    refine commit_lt hV hu el.role el.term hholdsW (by rw [t]; exact Nat.le_refl _) ?_
    rw [k.log]
    intro e he
    exact Nat.lt_of_le_of_lt ((facts hV hx j).termLe e he) (el.termGt j hj)
  have hasJ : ∀ j ∈ M, j ≠ w → (u.node j).configs.latest.has j = true := fun j hjM hjw => by
    rw [(el.others j hjM hjw).1.configs]; exact has_of_isVoter _ _ (hvot j hjM j hjM)
  -- phase E
  obtain ⟨lsE, u2, exE, lenE, actE, tmE, othE, repE⟩ := phaseE hV hu hw0 el.role el.term hN (by omega) hNT jsN
    (fun j hj => by
      obtain ⟨hjM, hjw⟩ := (jsM j).mp hj
      obtain ⟨k, _, t⟩ := el.others j hjM hjw
      exact ⟨h0 j hjM, hjw, t, by rw [k.closed]; exact hopen j hjM, hasJ j hjM hjw, hciJ j hjM hjw⟩)
  have hu2 := Exec.reachable hV hu exE
  have hw2 : u2.node w = u.node w := othE w (fun h => ((jsM w).mp h).2 rfl)
  -- phase F
  obtain ⟨u3, exF, hcm, hoth3, hext3⟩ := phaseF hV hu2 hw0 hM hMV hmaj el.wM (by rw [hw2]; exact el.role)
    (by rw [hw2]; exact el.term) (by rw [hw2]; exact el.closed) (by rw [hw2]; exact hN) (by rw [hw2]; exact hciW)
    (by rw [hw2, el.cfg]; exact hvot w el.wM w el.wM) (fun j hj => (repE j hj).ack)
  have hu3 := Exec.reachable hV hu2 exF
  have hholds3 : Holds (u3.node w).log.entries N T := holds_prefix hext3 (by rw [hw2]; exact hholdsW)
  -- phase G
  obtain ⟨lsG, y, exG, lenG, actG, tmG, othG, hbG⟩ := phaseG hV hu3 hw0 hcm.role (by rw [hcm.term, hw2, el.term])
    hholds3 hcm.commit jsN (fun j hj => by
    obtain ⟨hjM, hjw⟩ := (jsM j).mp hj
    have r := repE j hj
    rw [hoth3 j hjw]
    exact ⟨h0 j hjM, hjw, r.term, r.closed, by rw [r.cfg]; exact hasJ j hjM hjw, r.holds, r.ci⟩)
  have hwy : y.node w = u3.node w := othG w (fun h => ((jsM w).mp h).2 rfl)
  refine ⟨((ls0 ++ ([.send w (fullReq T w (u.node w).log.entries)] ++ lsE)) ++ [_]) ++
    ([.send w (beatReq T w N)] ++ lsG), y, w, T, N, ((ex0.trans exE).trans exF).trans exG, ?_, ?_⟩
  · -- bookkeeping
    have okS1 : RunOK M [Lbl.send w (fullReq T w (u.node w).log.entries)] 1 (fun _ => 0) := .one _ el.wM rfl
    have okE : RunOK M lsE (M.filter (· != w)).length (fun _ => 0) :=
      .quiet lenE (fun l hl => ((jsM _).mp (actE l hl)).1) tmE
    have okF : RunOK M [Lbl.step w (.replUpdates ((M.filter (· != w)).map (mkMatch N))) [] [] 0] 1 (fun _ => 0) :=
      .one _ el.wM rfl
    have okS2 : RunOK M [Lbl.send w (beatReq T w N)] 1 (fun _ => 0) := .one _ el.wM rfl
    have okG : RunOK M lsG (M.filter (· != w)).length (fun _ => 0) :=
      .quiet lenG (fun l hl => ((jsM _).mp (actG l hl)).1) tmG
    refine (((ok0.append (okS1.append okE)).append okF).append (okS2.append okG)).mono (by omega) (fun j => ?_)
    show (if j ∈ M then 2 else 0) + (0 + 0) + 0 + (0 + 0) ≤ _
    omega
  · refine ⟨el.wM, el.termGt, by rw [hwy]; exact hcm.role, by rw [hwy, hcm.term, hw2, el.term],
      by rw [hwy]; exact hholds3, ?_, by rw [hwy]; exact hcm.commit, by rw [hwy]; exact hcm.applied, ?_, ?_, ?_, ?_⟩
    · rw [hwy]
      refine ⟨List.IsPrefix.trans ?_ hext3, by omega⟩
      rw [hw2, hLw]; exact List.prefix_append _ _
    · intro j hjM hjw
      have hb := hbG j ((jsM j).mpr ⟨hjM, hjw⟩)
      exact ⟨hb.role, hb.term, hb.take, hb.commit, hb.applied⟩
    · intro i hi
      have hiw : i ≠ w := fun e => hi (by rw [e]; exact el.wM)
      have hij : i ∉ M.filter (· != w) := fun h => hi ((jsM i).mp h).1
      rw [othG i hij, hoth3 i hiw, othE i hij, el.outside i hi]
    · intro i hi
      by_cases hiw : i = w
      · rw [hiw, hwy]; exact hcm.closed
      · have hj : i ∈ M.filter (· != w) := (jsM i).mpr ⟨hi, hiw⟩
        rw [(hbG i hj).closed, hoth3 i hiw]; exact (repE i hj).closed
    · intro i hi
      by_cases hiw : i = w
      · rw [hiw, hwy, hcm.cfg, hw2, el.cfg]
      · have hj : i ∈ M.filter (· != w) := (jsM i).mpr ⟨hi, hiw⟩
        rw [(hbG i hj).cfg, hoth3 i hiw, (repE i hj).cfg, (el.others i hi hiw).1.configs]

end final

end Progress
end Raft
