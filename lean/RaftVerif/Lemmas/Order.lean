/-
Lemmas for C19 (orderings of the observable state as an inductive invariant of `Node.step`).

* `Ordered s`: the conjunction of orderings a node reports (plus the strengthening needed to make it
  inductive: segment list well formed, `leader.removeLTE ≤ snaps.index`, a finished snapshot's index
  `≤ snaps.index`).
* `ReqOk s op`: what is required from the incoming operation.
* `Inv s₀ b s`: the invariant carried through a step relative to the state `s₀` the step started from:
  *while the step has not panicked* (`panicked = none`; a Go panic kills the process, what the totalised
  model computes afterwards is meaningless) the state is ordered and the applied index and the snapshot
  index are at least those of `s₀`. The flag `b` says whether `commitIndex ≤ lastLogIndex` is part of it:
  `leader.setCommitIndex` may raise the commit index beyond the log (a replication reporting a match index
  the leader does not have) — the `ViewAt` of the `applyCommitted` that always follows then panics, so the
  clause is dropped between the two and regained after `fsmApply`.
* every primitive state update preserves `Inv` (under an explicit guard where it matters); `guardedStep` makes `Inv` an
  instance of the records of Lemmas/StepWalk.lean (the guards follow from the facts the call sites state and from `Inv`
  before the update), hence the mutually recursive leader block (`block`), the handlers, `settle`, `handle`; the
  handlers of the two requests that must satisfy `ReqOk` are walked here, the append handler for ANY predicate that implies
  `Inv` and survives its updates (`onAppendEntries_keeps`, and its stages `appendCheck_keeps`, `appendLoop_chain`,
  `appendLoop_checked`, `followPre_checked`): `Inv` itself, Lemmas/ConfigTrack.lean's `Handles`, Lemmas/LatestRel.lean.
-/
import RaftVerif.Props.C10
import RaftVerif.Lemmas.LocalA
import RaftVerif.Lemmas.ShapeLeader

namespace Raft
namespace Order
open Node

/-- Everything of `Ordered` but `commitIndex ≤ lastLogIndex`. -/
structure CoreW (s : Node) : Prop where
  last_eq : s.lastLogIndex = s.log.last
  prev_le_snap : s.log.prev ≤ s.snapIndex
  snap_le_applied : s.snapIndex ≤ s.fsm.index
  applied_le_commit : s.fsm.index ≤ s.commitIndex
  committed_le_latest : s.configs.committed.index ≤ s.configs.latest.index
  latest_le_last : s.configs.latest.index ≤ s.lastLogIndex
  segs : C09.SegsOK s.log
  removeLTE_le : s.ldr.removeLTE ≤ s.snapIndex
  snapRes_le : ∀ rs, s.snapResult = some rs → rs.index ≤ s.snapIndex

/-- **The state a node reports is internally ordered**:
`log.prev ≤ snapIndex ≤ fsm.index (last applied) ≤ commitIndex ≤ lastLogIndex = log.last`,
`configs.committed.index ≤ configs.latest.index ≤ lastLogIndex`; plus the strengthening that makes it
inductive: the segment list is well formed (`C09.SegsOK`), the compaction bound kept in the leader struct
(also when stale) and the index of a finished, not yet consumed snapshot are `≤ snapIndex`. -/
structure Ordered (s : Node) : Prop extends CoreW s where
  commit_le_last : s.commitIndex ≤ s.lastLogIndex

/-- the fields `CoreW`/`Ordered` look at -/
def obs (s : Node) : Nat × NLog × Nat × Nat × Nat × Configs × Nat × Option SnapRes :=
  (s.lastLogIndex, s.log, s.snapIndex, s.fsm.index, s.commitIndex, s.configs, s.ldr.removeLTE, s.snapResult)

theorem obs_eq {s s' : Node} (h : obs s' = obs s) :
    s'.lastLogIndex = s.lastLogIndex ∧ s'.log = s.log ∧ s'.snapIndex = s.snapIndex ∧
    s'.fsm.index = s.fsm.index ∧ s'.commitIndex = s.commitIndex ∧ s'.configs = s.configs ∧
    s'.ldr.removeLTE = s.ldr.removeLTE ∧ s'.snapResult = s.snapResult := by
  simp only [obs, Prod.mk.injEq] at h
  exact h

theorem CoreW.congr {s s' : Node} (c : CoreW s) (h : obs s' = obs s) : CoreW s' := by
  obtain ⟨e1, e2, e3, e4, e5, e6, e7, e8⟩ := obs_eq h
  exact ⟨by rw [e1, e2]; exact c.last_eq, by rw [e2, e3]; exact c.prev_le_snap,
    by rw [e3, e4]; exact c.snap_le_applied, by rw [e4, e5]; exact c.applied_le_commit,
    by rw [e6]; exact c.committed_le_latest, by rw [e6, e1]; exact c.latest_le_last,
    by rw [e2]; exact c.segs, by rw [e7, e3]; exact c.removeLTE_le, by rw [e8, e3]; exact c.snapRes_le⟩

def Inv (s₀ : Node) (b : Bool) (s : Node) : Prop :=
  s.panicked = none →
    CoreW s ∧ (b = true → s.commitIndex ≤ s.lastLogIndex) ∧
    s₀.fsm.index ≤ s.fsm.index ∧ s₀.snapIndex ≤ s.snapIndex

variable {s₀ : Node} {b : Bool}

theorem Inv.weaken {s : Node} (h : Inv s₀ true s) : Inv s₀ b s :=
  fun hp => let ⟨c, hb, m1, m2⟩ := h hp; ⟨c, fun _ => hb rfl, m1, m2⟩

theorem Inv.toFalse {s : Node} (h : Inv s₀ b s) : Inv s₀ false s :=
  fun hp => let ⟨c, _, m1, m2⟩ := h hp; ⟨c, fun e => Bool.noConfusion e, m1, m2⟩

/-- `s'` differs from `s` in nothing the invariant looks at, and does not clear a panic -/
def Irr (s s' : Node) : Prop := obs s' = obs s ∧ (s'.panicked = none → s.panicked = none)

theorem Irr.refl (s : Node) : Irr s s := ⟨rfl, id⟩

theorem Irr.trans {a b c : Node} (h1 : Irr a b) (h2 : Irr b c) : Irr a c :=
  ⟨h2.1.trans h1.1, fun h => h1.2 (h2.2 h)⟩

theorem Irr.inv {s s' : Node} (hi : Irr s s') (h : Inv s₀ b s) : Inv s₀ b s' := by
  intro hp
  obtain ⟨c, hb, m1, m2⟩ := h (hi.2 hp)
  obtain ⟨e1, _, e3, e4, e5, _⟩ := obs_eq hi.1
  exact ⟨c.congr hi.1, by rw [e5, e1]; exact hb, by rw [e4]; exact m1, by rw [e3]; exact m2⟩

/-! ## primitives that touch nothing of the invariant -/

theorem irr_panic (s : Node) (site : String) : Irr s (s.panic site) :=
  ⟨by unfold Node.panic; split <;> rfl, fun h => absurd h (panic_panicked_ne s site)⟩

theorem irr_assert (s : Node) (bb : Bool) (site : String) : Irr s (s.assert bb site) := by
  unfold Node.assert; split
  · exact Irr.refl s
  · exact irr_panic s site

theorem assert_true {s : Node} {bb : Bool} {site : String} (h : (s.assert bb site).panicked = none) : bb = true := by
  unfold Node.assert at h
  split at h
  · assumption
  · exact absurd h (panic_panicked_ne s site)

theorem irr_reply (s : Node) (t : Nat) (r : String) : Irr s (s.reply t r) := by
  unfold Node.reply; split <;> exact ⟨rfl, id⟩

theorem irr_point (s : Node) (n : String) : Irr s (s.point n) := ⟨rfl, id⟩
theorem irr_popOrder (s : Node) : Irr s s.popOrder := ⟨rfl, id⟩
theorem irr_rpcReply (s : Node) (r) : Irr s (s.withRpcReply r) := ⟨rfl, id⟩
theorem irr_ret (s : Node) (r : Nat) : Irr s (s.ret r) := ⟨rfl, id⟩
theorem irr_setRole (s : Node) (r : Role) : Irr s (s.setRole r) := ⟨rfl, id⟩
theorem irr_setLeader (s : Node) (l : Nat) : Irr s (s.setLeader l) := ⟨rfl, id⟩
theorem irr_votesNeeded (s : Node) (v : Int) : Irr s (s.withVotesNeeded v) := ⟨rfl, id⟩
theorem irr_candTransfer (s : Node) (v : Bool) : Irr s (s.withCandTransfer v) := ⟨rfl, id⟩
theorem irr_snapPending (s : Node) (v) : Irr s (s.withSnapPending v) := ⟨rfl, id⟩

theorem irr_doClose (s : Node) (r : String) : Irr s (s.doClose r) := by
  unfold Node.doClose; split <;> exact ⟨rfl, id⟩

theorem irr_storeTermVote (s : Node) (t c : Nat) : Irr s (s.storeTermVote t c) := by
  unfold Node.storeTermVote Node.point; dsimp only; split <;> exact ⟨rfl, id⟩

theorem irr_setTerm (s : Node) (t : Nat) : Irr s (s.setTerm t) := by
  unfold Node.setTerm
  repeat' split
  all_goals first | exact irr_storeTermVote _ _ _ | exact irr_panic _ _ | exact Irr.refl _

theorem irr_setVotedFor (s : Node) (t c : Nat) : Irr s (s.setVotedFor t c) := by
  unfold Node.setVotedFor
  repeat' split
  all_goals first | exact irr_storeTermVote _ _ _ | exact irr_panic _ _ | exact Irr.refl _

theorem irr_ldr (s : Node) (l : Leader) (h : l.removeLTE = s.ldr.removeLTE) : Irr s (s.withLdr l) :=
  ⟨by unfold obs Node.withLdr; dsimp only; rw [h], id⟩

/-- the common prefix of the two follower handlers -/
theorem irr_followPre (s : Node) (term src : Nat) : Irr s (followPre s term src) := by
  unfold followPre
  refine Irr.trans ?_ ((irr_setRole _ _).trans (irr_setLeader _ _))
  split
  · exact (irr_setTerm _ _).trans (irr_setRole _ _)
  · exact Irr.refl _

theorem inv_panic (s : Node) (site : String) : Inv s₀ b (s.panic site) :=
  fun h => absurd h (panic_panicked_ne s site)
theorem inv_assert {s : Node} (bb : Bool) (site : String) (h : Inv s₀ b s) : Inv s₀ b (s.assert bb site) :=
  (irr_assert s bb site).inv h
theorem inv_reply {s : Node} (t : Nat) (r : String) (h : Inv s₀ b s) : Inv s₀ b (s.reply t r) := (irr_reply s t r).inv h
theorem inv_point {s : Node} (n : String) (h : Inv s₀ b s) : Inv s₀ b (s.point n) := (irr_point s n).inv h
theorem inv_popOrder {s : Node} (h : Inv s₀ b s) : Inv s₀ b s.popOrder := (irr_popOrder s).inv h
theorem inv_rpcReply {s : Node} (r) (h : Inv s₀ b s) : Inv s₀ b (s.withRpcReply r) := (irr_rpcReply s r).inv h
theorem inv_ret {s : Node} (r : Nat) (h : Inv s₀ b s) : Inv s₀ b (s.ret r) := (irr_ret s r).inv h
theorem inv_setRole {s : Node} (r : Role) (h : Inv s₀ b s) : Inv s₀ b (s.setRole r) := (irr_setRole s r).inv h
theorem inv_setLeader {s : Node} (l : Nat) (h : Inv s₀ b s) : Inv s₀ b (s.setLeader l) := (irr_setLeader s l).inv h
theorem inv_votesNeeded {s : Node} (v : Int) (h : Inv s₀ b s) : Inv s₀ b (s.withVotesNeeded v) := (irr_votesNeeded s v).inv h
theorem inv_candTransfer {s : Node} (v : Bool) (h : Inv s₀ b s) : Inv s₀ b (s.withCandTransfer v) := (irr_candTransfer s v).inv h
theorem inv_snapPending {s : Node} (v) (h : Inv s₀ b s) : Inv s₀ b (s.withSnapPending v) := (irr_snapPending s v).inv h
theorem inv_doClose {s : Node} (r : String) (h : Inv s₀ b s) : Inv s₀ b (s.doClose r) := (irr_doClose s r).inv h
theorem inv_setTerm {s : Node} (t : Nat) (h : Inv s₀ b s) : Inv s₀ b (s.setTerm t) := (irr_setTerm s t).inv h
theorem inv_setVotedFor {s : Node} (t c : Nat) (h : Inv s₀ b s) : Inv s₀ b (s.setVotedFor t c) := (irr_setVotedFor s t c).inv h
theorem inv_ldr_same {s : Node} {l : Leader} (h : Inv s₀ b s) (hl : l.removeLTE = s.ldr.removeLTE) :
    Inv s₀ b (s.withLdr l) := (irr_ldr s l hl).inv h

theorem sorted_le_getLast (l : List Nat) (hs : l.Pairwise (· < ·)) (x : Nat) (hx : l.getLast? = some x) :
    ∀ a ∈ l, a = x ∨ a < x := by
  obtain ⟨ys, rfl⟩ := List.getLast?_eq_some_iff.mp hx
  intro a ha
  rcases List.mem_append.mp ha with h | h
  · right
    exact (List.pairwise_append.mp hs).2.2 a h x (List.mem_singleton.mpr rfl)
  · left; exact List.mem_singleton.mp h

theorem segsOK_append (l : NLog) (e : Entry) (roll : Bool) (h : C09.SegsOK l)
    (hr : roll = true → l.lastSegPrev ≠ l.last) : C09.SegsOK (l.append e roll) := by
  obtain ⟨hs, hh, hl⟩ := h
  have hlast := NLog.last_append l e roll
  cases roll with
  | false =>
    refine ⟨hs, hh, fun x hx => ?_⟩
    rw [hlast]; exact Nat.le_succ_of_le (hl x hx)
  | true =>
    have hne := hr rfl
    have hsegs : (l.append e true).segs = l.segs ++ [l.last] := rfl
    have hlt : ∀ a ∈ l.segs, a < l.last := by
      cases hg : l.segs.getLast? with
      | none =>
        rw [List.getLast?_eq_none_iff] at hg
        rw [hg] at hh; cases hh
      | some x =>
        have hx : l.lastSegPrev = x := by unfold NLog.lastSegPrev; rw [hg]; rfl
        intro a ha
        have hxl : x ≤ l.last := hl x (List.mem_of_getLast? hg)
        rcases sorted_le_getLast l.segs hs x hg a ha with e1 | e1 <;> omega
    refine ⟨?_, ?_, ?_⟩
    · rw [hsegs, List.pairwise_append]
      refine ⟨hs, List.pairwise_singleton _ _, fun a ha c hc => ?_⟩
      rw [List.mem_singleton.mp hc]; exact hlt a ha
    · rw [hsegs]
      cases hsg : l.segs with
      | nil => rw [hsg] at hh; cases hh
      | cons a rest => rw [hsg] at hh; exact hh
    · intro x hx
      rw [hsegs] at hx
      rw [hlast]
      rcases List.mem_append.mp hx with h1 | h1
      · exact Nat.le_succ_of_le (hl x h1)
      · rw [List.mem_singleton.mp h1]; exact Nat.le_succ _

theorem segsOK_removeGTE (l : NLog) (i : Nat) (h : C09.SegsOK l) (h1 : l.prev < i) (h2 : i ≤ l.last) :
    C09.SegsOK (l.removeGTE i) := by
  obtain ⟨hs, hh, hl⟩ := h
  have hlast := NLog.last_removeGTE l i h1 h2
  have hprev : (l.removeGTE i).prev = l.prev := rfl
  have hsegs : (l.removeGTE i).segs =
      if (l.segs.filter (· < i - 1)).isEmpty then [i - 1] else l.segs.filter (· < i - 1) := rfl
  cases hsg : l.segs with
  | nil => rw [hsg] at hh; cases hh
  | cons a rest =>
    rw [hsg] at hh hs hl
    have ha : a = l.prev := by injection hh
    have hrest : ∀ x ∈ rest, a < x := (List.pairwise_cons.mp hs).1
    rw [hsg] at hsegs
    by_cases hlt : a < i - 1
    · have hf : (a :: rest).filter (· < i - 1) = a :: rest.filter (· < i - 1) :=
        List.filter_cons_of_pos (by simpa using hlt)
      rw [hf] at hsegs
      simp only [List.isEmpty_cons, Bool.false_eq_true, if_false] at hsegs
      refine ⟨?_, ?_, ?_⟩
      · rw [hsegs, ← hf]; exact List.Pairwise.sublist List.filter_sublist hs
      · rw [hsegs, hprev, ha]; rfl
      · intro x hx
        rw [hsegs, ← hf] at hx
        have := (List.mem_filter.mp hx).2
        rw [hlast]
        simp only [decide_eq_true_eq] at this
        omega
    · have hf : (a :: rest).filter (· < i - 1) = [] := by
        rw [List.filter_eq_nil_iff]
        intro x hx
        simp only [decide_eq_true_eq]
        rcases List.mem_cons.mp hx with e | e
        · rw [e]; exact hlt
        · have := hrest x e; omega
      rw [hf] at hsegs
      simp only [List.isEmpty_nil, if_true] at hsegs
      have hai : i - 1 = l.prev := by omega
      refine ⟨?_, ?_, ?_⟩
      · rw [hsegs]; exact List.pairwise_singleton _ _
      · rw [hsegs, hprev, hai]; rfl
      · intro x hx
        rw [hsegs] at hx
        rw [hlast, List.mem_singleton.mp hx]; exact Nat.le_refl _

theorem segsOK_reset (i : Nat) : C09.SegsOK (NLog.reset i) :=
  ⟨List.pairwise_singleton _ _, rfl, fun x hx => by
    rw [show (NLog.reset i).segs = [i] from rfl] at hx
    rw [List.mem_singleton.mp hx]; exact Nat.le_refl _⟩

theorem segsOK_of_same {l l' : NLog} (h : C09.SegsOK l) (e1 : l'.prev = l.prev) (e2 : l'.entries = l.entries)
    (e3 : l'.segs = l.segs) : C09.SegsOK l' := by
  have hl : l'.last = l.last := by unfold NLog.last; rw [e1, e2]
  exact ⟨by rw [e3]; exact h.sorted, by rw [e3, e1]; exact h.head, by rw [e3, hl]; exact h.le_last⟩

/-- the record update of `storage.appendEntry` -/
theorem inv_appendRaw {s : Node} (e : Entry) (roll : Bool) (h : Inv s₀ b s)
    (hg : s.panicked = none → e.index = s.lastLogIndex + 1 ∧ (roll = true → s.log.lastSegPrev ≠ e.index - 1)) :
    Inv s₀ b { s with log := s.log.append e roll, lastLogIndex := e.index, lastLogTerm := e.term } := by
  intro hp
  have hp' : s.panicked = none := hp
  obtain ⟨c, hcl, m1, m2⟩ := h hp'
  obtain ⟨he, hr⟩ := hg hp'
  have hle := c.last_eq
  refine ⟨⟨?_, ?_, c.snap_le_applied, c.applied_le_commit, c.committed_le_latest, ?_, ?_, c.removeLTE_le,
    c.snapRes_le⟩, ?_, m1, m2⟩
  · show e.index = (s.log.append e roll).last
    rw [NLog.last_append]; omega
  · show (s.log.append e roll).prev ≤ s.snapIndex
    rw [(NLog.append_parts _ _ _).1]; exact c.prev_le_snap
  · show s.configs.latest.index ≤ e.index
    have := c.latest_le_last; omega
  · show C09.SegsOK (s.log.append e roll)
    exact segsOK_append _ _ _ c.segs (fun hroll => by have := hr hroll; rw [← hle]; omega)
  · intro hb
    show s.commitIndex ≤ e.index
    have := hcl hb; omega

theorem inv_appendEntry {s : Node} (e : Entry) (h : Inv s₀ b s) : Inv s₀ b (s.appendEntry e) := by
  unfold Node.appendEntry
  dsimp only
  refine inv_appendRaw e _ (inv_assert _ _ h) (fun hp => ?_)
  have hb := assert_true hp
  obtain ⟨e1, e2, _⟩ := obs_eq (irr_assert s (e.index == s.lastLogIndex + 1) "assert.appendEntry").1
  rw [e1, e2]
  refine ⟨by simpa using hb, fun hroll => ?_⟩
  simp only [Bool.and_eq_true, bne_iff_ne, ne_eq] at hroll
  exact hroll.2

/-- `storage.appendEntry` when it did not panic: the entry was the next one -/
theorem appendEntry_ok {s : Node} {e : Entry} (hp : (s.appendEntry e).panicked = none) :
    e.index = s.lastLogIndex + 1 ∧ s.panicked = none := by
  have hp' : (s.assert (e.index == s.lastLogIndex + 1) "assert.appendEntry").panicked = none := hp
  exact ⟨by simpa using assert_true hp', (irr_assert _ _ _).2 hp'⟩

theorem inv_commitLog {s : Node} (n : Nat) (h : Inv s₀ b s) : Inv s₀ b (s.commitLog n) := by
  unfold Node.commitLog
  apply inv_point
  intro hp
  obtain ⟨c, hcl, m1, m2⟩ := h hp
  obtain ⟨e1, e2, e3⟩ := NLog.commitN_same s.log n
  refine ⟨⟨?_, ?_, c.snap_le_applied, c.applied_le_commit, c.committed_le_latest, c.latest_le_last, ?_,
    c.removeLTE_le, c.snapRes_le⟩, hcl, m1, m2⟩
  · show s.lastLogIndex = (s.log.commitN n).last
    unfold NLog.last; rw [e1, e2]; exact c.last_eq
  · show (s.log.commitN n).prev ≤ s.snapIndex
    rw [e1]; exact c.prev_le_snap
  · exact segsOK_of_same c.segs e1 e2 e3

/-- replacing the leader struct: the compaction bound must stay at or below the snapshot index -/
theorem inv_ldr {s : Node} {l : Leader} (h : Inv s₀ b s) (hl : s.panicked = none → l.removeLTE ≤ s.snapIndex) :
    Inv s₀ b (s.withLdr l) := by
  intro hp
  obtain ⟨c, hcl, m1, m2⟩ := h hp
  exact ⟨⟨c.last_eq, c.prev_le_snap, c.snap_le_applied, c.applied_le_commit, c.committed_le_latest,
    c.latest_le_last, c.segs, hl hp, c.snapRes_le⟩, hcl, m1, m2⟩

/-- `Raft.changeConfig`: the new configuration's index is at or above the latest one and within the log -/
theorem inv_changeConfigR {s : Node} (cfg : Config) (h : Inv s₀ b s)
    (hg : s.panicked = none → s.configs.latest.index ≤ cfg.index ∧ cfg.index ≤ s.lastLogIndex) :
    Inv s₀ b (s.changeConfigR cfg) := by
  unfold Node.changeConfigR
  dsimp only
  have key : ∀ x : Node, Irr s x →
      Inv s₀ b { x with configs := { committed := x.configs.latest, latest := cfg } } := by
    intro x hx hp
    have hp' : x.panicked = none := hp
    obtain ⟨c, hcl, m1, m2⟩ := hx.inv h hp'
    obtain ⟨e1, _, _, _, _, e6, _⟩ := obs_eq hx.1
    obtain ⟨g1, g2⟩ := hg (hx.2 hp')
    refine ⟨⟨c.last_eq, c.prev_le_snap, c.snap_le_applied, c.applied_le_commit, ?_, ?_, c.segs,
      c.removeLTE_le, c.snapRes_le⟩, hcl, m1, m2⟩
    · show x.configs.latest.index ≤ cfg.index
      rw [e6]; exact g1
    · show cfg.index ≤ x.lastLogIndex
      rw [e1]; exact g2
  split
  · exact key _ (irr_setLeader s 0)
  · exact key _ (Irr.refl s)

theorem inv_commitConfig {s : Node} (h : Inv s₀ b s) : Inv s₀ b s.commitConfig := by
  unfold Node.commitConfig
  dsimp only
  have key : ∀ x : Node, Irr s x →
      Inv s₀ b { x with configs := { x.configs with committed := x.configs.latest } } := by
    intro x hx hp
    have hp' : x.panicked = none := hp
    obtain ⟨c, hcl, m1, m2⟩ := hx.inv h hp'
    exact ⟨⟨c.last_eq, c.prev_le_snap, c.snap_le_applied, c.applied_le_commit, Nat.le_refl _,
      c.latest_le_last, c.segs, c.removeLTE_le, c.snapRes_le⟩, hcl, m1, m2⟩
  split
  · exact key _ (irr_setLeader s 0)
  · exact key _ (Irr.refl s)

theorem inv_revertConfig {s : Node} (h : Inv s₀ b s)
    (hg : s.panicked = none → s.configs.committed.index ≤ s.lastLogIndex) : Inv s₀ b s.revertConfig := by
  intro hp
  have hp' : s.panicked = none := hp
  obtain ⟨c, hcl, m1, m2⟩ := h hp'
  exact ⟨⟨c.last_eq, c.prev_le_snap, c.snap_le_applied, c.applied_le_commit, Nat.le_refl _,
    hg hp', c.segs, c.removeLTE_le, c.snapRes_le⟩, hcl, m1, m2⟩

theorem irr_afterConfigCommit (s : Node) : Irr s s.afterConfigCommit := by
  rw [afterConfigCommit_shape]; exact ⟨rfl, id⟩

/-- moving the commit index: not below the applied index; `b'` says whether it stays within the log -/
theorem inv_withCommitIndex {s : Node} {b' : Bool} (i : Nat) (h : Inv s₀ b s)
    (hg : s.panicked = none → s.fsm.index ≤ i ∧ (b' = true → i ≤ s.lastLogIndex)) :
    Inv s₀ b' (s.withCommitIndex i) := by
  intro hp
  have hp' : s.panicked = none := hp
  obtain ⟨c, _, m1, m2⟩ := h hp'
  obtain ⟨g1, g2⟩ := hg hp'
  exact ⟨⟨c.last_eq, c.prev_le_snap, c.snap_le_applied, g1, c.committed_le_latest,
    c.latest_le_last, c.segs, c.removeLTE_le, c.snapRes_le⟩, g2, m1, m2⟩

theorem inv_setCommitIndexR {s : Node} {b' : Bool} (i : Nat) (h : Inv s₀ b s)
    (hg : s.panicked = none → s.fsm.index ≤ i ∧ (b' = true → i ≤ s.lastLogIndex)) :
    Inv s₀ b' (s.setCommitIndexR i).1 := by
  unfold Node.setCommitIndexR
  split
  · exact (irr_afterConfigCommit _).inv (inv_commitConfig (inv_withCommitIndex i h hg))
  · exact inv_withCommitIndex i h hg

/-! ## the FSM goroutine: `fsmApply` either panics or leaves `fsm.index = commitIndex ≤ log.last` -/

/-- a panic is never cleared by the handlers (only `begin` does) -/
theorem sticky_closed (s₀ : Node) : Closed (fun s => s.panicked = none → s₀.panicked = none) :=
  Closed.ofPanicked (fun o => o = none → s₀.panicked = none) (fun _ _ e => by cases e)

/-- what `fsmApply` does not touch -/
def obsF (s : Node) : Nat × NLog × Nat × Nat × Configs × Nat × Option SnapRes :=
  (s.lastLogIndex, s.log, s.snapIndex, s.commitIndex, s.configs, s.ldr.removeLTE, s.snapResult)

theorem fsmFrame_obsF : FsmFrame obsF :=
  ⟨fun s site => by unfold Node.panic; split <;> rfl, fun s t r => by unfold Node.reply; split <;> rfl,
   fun _ _ => rfl⟩

/-- the state `fsmApply` asserts on -/
def fsmMid (s : Node) (items : List QItem) : Node :=
  (s.fsmApplyLogTo ((match items with | [] => s.commitIndex + 1 | q :: _ => q.index) - 1)).fsmApplyItems items

theorem fsmApply_unfold (s : Node) (items : List QItem) :
    s.fsmApply items =
      if s.commitIndex > s.log.last then s.panic "logpanic.ViewAt"
      else if s.log.prev > s.commitIndex then s.panic "fsm.nilView"
      else (fsmMid s items).assert ((fsmMid s items).fsm.index == (fsmMid s items).commitIndex) "fsm.assertCommit" := rfl

theorem fsmApply_ok (s : Node) (items : List QItem) (hp : (s.fsmApply items).panicked = none) :
    s.panicked = none ∧ s.commitIndex ≤ s.log.last ∧ (s.fsmApply items).fsm.index = s.commitIndex ∧
    obsF (s.fsmApply items) = obsF s := by
  have hst := (sticky_closed s).fsmApply_inv s items (fun h => h) hp
  have hf := fsmFrame_obsF.fsmApply_eq s items
  refine ⟨hst, ?_, ?_, hf⟩
  · rw [fsmApply_unfold] at hp
    split at hp
    · exact absurd hp (panic_panicked_ne _ _)
    · omega
  · rw [fsmApply_unfold] at hp ⊢
    split at hp
    · exact absurd hp (panic_panicked_ne _ _)
    · rename_i h1
      rw [if_neg h1]
      split at hp
      · exact absurd hp (panic_panicked_ne _ _)
      · rename_i h2
        rw [if_neg h2]
        have hb := assert_true hp
        have hc : (fsmMid s items).commitIndex = s.commitIndex := by
          unfold fsmMid
          rw [fsmFrame_commitIndex.fsmApplyItems_eq, fsmFrame_commitIndex.fsmApplyLogTo_eq]
        obtain ⟨_, _, _, e4, _⟩ := obs_eq (irr_assert (fsmMid s items)
          ((fsmMid s items).fsm.index == (fsmMid s items).commitIndex) "fsm.assertCommit").1
        rw [e4, ← hc]
        simpa using hb

theorem inv_fsmApply {s : Node} (items : List QItem) (h : Inv s₀ b s) : Inv s₀ true (s.fsmApply items) := by
  intro hp
  obtain ⟨hs, hle, hfi, hf⟩ := fsmApply_ok s items hp
  obtain ⟨c, _, m1, m2⟩ := h hs
  simp only [obsF, Prod.mk.injEq] at hf
  obtain ⟨e1, e2, e3, e5, e6, e7, e8⟩ := hf
  have hsa := c.snap_le_applied
  have hac := c.applied_le_commit
  refine ⟨⟨by rw [e1, e2]; exact c.last_eq, by rw [e2, e3]; exact c.prev_le_snap, by rw [e3, hfi]; omega,
    by rw [hfi, e5]; exact Nat.le_refl _, by rw [e6]; exact c.committed_le_latest,
    by rw [e6, e1]; exact c.latest_le_last, by rw [e2]; exact c.segs, by rw [e7, e3]; exact c.removeLTE_le,
    by rw [e8, e3]; exact c.snapRes_le⟩, fun _ => ?_, by rw [hfi]; omega, by rw [e3]; exact m2⟩
  rw [e5, e1, c.last_eq]; exact hle

theorem inv_fsmApply' {s : Node} (items : List QItem) (h : Inv s₀ b s) : Inv s₀ b (s.fsmApply items) :=
  (inv_fsmApply items h).weaken

theorem inv_applyCommitted {s : Node} (h : Inv s₀ b s) : Inv s₀ true s.applyCommitted := inv_fsmApply [] h

theorem inv_applyCommittedL {s : Node} (h : Inv s₀ b s) : Inv s₀ true s.applyCommittedL := by
  unfold Node.applyCommittedL
  exact inv_fsmApply _ (inv_ldr_same h rfl)

theorem inv_setRepl {s : Node} (r : Repl) (h : Inv s₀ b s) : Inv s₀ b (s.setRepl r) := by
  unfold Node.setRepl; exact inv_ldr_same h rfl

theorem inv_addReplication {s : Node} (n : CNode) (h : Inv s₀ b s) : Inv s₀ b (s.addReplication n) := by
  unfold Node.addReplication
  apply inv_setRepl
  split
  · exact inv_assert _ _ h
  · exact inv_panic _ _

theorem inv_notifyFlr {s : Node} (h : Inv s₀ b s) : Inv s₀ b s.notifyFlr :=
  notifyFlr_of (fun x site _ => inv_panic x site) s h

theorem inv_beginFinishedRounds {s : Node} (h : Inv s₀ b s) : Inv s₀ b s.beginFinishedRounds := by
  unfold Node.beginFinishedRounds; exact inv_ldr_same h rfl

theorem inv_snapResult {s : Node} (v : Option SnapRes) (h : Inv s₀ b s)
    (hg : s.panicked = none → ∀ rs, v = some rs → rs.index ≤ s.snapIndex) : Inv s₀ b (s.withSnapResult v) := by
  intro hp
  obtain ⟨c, hcl, m1, m2⟩ := h hp
  exact ⟨⟨c.last_eq, c.prev_le_snap, c.snap_le_applied, c.applied_le_commit, c.committed_le_latest,
    c.latest_le_last, c.segs, c.removeLTE_le, hg hp⟩, hcl, m1, m2⟩

/-- `snapshotSink.done`: the new snapshot index is between the old one and the applied index -/
theorem inv_publishSnapshot {s : Node} (f : SnapFile) (h : Inv s₀ b s)
    (hg : s.panicked = none → s.snapIndex ≤ f.index ∧ f.index ≤ s.fsm.index) : Inv s₀ b (s.publishSnapshot f) := by
  intro hp
  have hp' : s.panicked = none := hp
  obtain ⟨c, hcl, m1, m2⟩ := h hp'
  obtain ⟨g1, g2⟩ := hg hp'
  rw [publishSnapshot_shape]
  refine ⟨⟨c.last_eq, ?_, ?_, c.applied_le_commit, c.committed_le_latest,
    c.latest_le_last, c.segs, ?_, ?_⟩, hcl, m1, ?_⟩
  · show s.log.prev ≤ f.index
    have := c.prev_le_snap; omega
  · show f.index ≤ s.fsm.index
    exact g2
  · show s.ldr.removeLTE ≤ f.index
    have := c.removeLTE_le; omega
  · intro rs hrs
    show rs.index ≤ f.index
    have := c.snapRes_le rs hrs; omega
  · show s₀.snapIndex ≤ f.index
    omega

theorem inv_snapRun {s : Node} (h : Inv s₀ b s) : Inv s₀ b s.snapRun := by
  unfold Node.snapRun
  split
  · exact h
  · dsimp only
    have h0 := inv_snapPending (s₀ := s₀) (b := b) none h
    split
    · exact inv_snapResult _ h0 (fun _ rs hrs => by injection hrs with hrs; rw [← hrs]; exact Nat.zero_le _)
    · split
      · exact inv_snapResult _ h0 (fun _ rs hrs => by injection hrs with hrs; rw [← hrs]; exact Nat.zero_le _)
      · refine inv_snapResult _ (inv_publishSnapshot _ h0 (fun hp => ?_)) (fun _ rs hrs => ?_)
        · exact ⟨(h0 hp).1.snap_le_applied, Nat.le_refl _⟩
        · injection hrs with hrs; rw [← hrs]; exact Nat.le_refl _

/-- `Raft.compactLog` at or below the snapshot index -/
theorem inv_compactLog {s : Node} (i : Nat) (h : Inv s₀ b s) (hg : s.panicked = none → i ≤ s.snapIndex) :
    Inv s₀ b (s.compactLog i) := by
  unfold Node.compactLog
  apply inv_point
  intro hp
  have hp' : s.panicked = none := hp
  obtain ⟨c, hcl, m1, m2⟩ := h hp'
  obtain ⟨_, _, _, hor, hl, _, hk⟩ := C09.removeLTE_whole_segments s.log i c.segs
  have hi := hg hp'
  refine ⟨⟨?_, ?_, c.snap_le_applied, c.applied_le_commit, c.committed_le_latest,
    c.latest_le_last, hk, c.removeLTE_le, c.snapRes_le⟩, hcl, m1, m2⟩
  · show s.lastLogIndex = (s.log.removeLTE i).last
    rw [hl]; exact c.last_eq
  · show (s.log.removeLTE i).prev ≤ s.snapIndex
    have := c.prev_le_snap
    rcases hor with e | e <;> omega

theorem canLTE_le_of {l : NLog} (hok : C09.SegsOK l) {i n : Nat} (hp : l.prev ≤ n) (hi : i ≤ n) : l.canLTE i ≤ n := by
  rcases (C09.canLTE_bounds l i hok).2.2.2.1 with e | e <;> omega

theorem inv_onSnapshotTaken {s : Node} (h : Inv s₀ b s) : Inv s₀ b s.onSnapshotTaken := by
  have h0 : Inv s₀ b (s.withSnapResult none) := inv_snapResult none h (fun _ rs hrs => by cases hrs)
  refine onSnapshotTaken_cases s (fun _ => h) (fun rs _ => inv_reply _ _ h0) fun rs i j y hr _ hi hj _ hy => inv_reply _ _ ?_
  -- both compaction bounds are at most the index of the finished snapshot, which is at most `snapIndex`
  have hle : ∀ k, k ≤ rs.index → s.panicked = none → s.log.canLTE k ≤ s.snapIndex := fun k hk hp =>
    canLTE_le_of (h hp).1.segs (h hp).1.prev_le_snap (Nat.le_trans hk ((h hp).1.snapRes_le rs hr))
  have hy' : Inv s₀ b y ∧ y.snapIndex = s.snapIndex ∧ y.panicked = s.panicked := by
    rcases hy with e | ⟨_, e⟩
    · rw [e]; exact ⟨h0, rfl, rfl⟩
    · rw [e]; exact ⟨inv_compactLog _ h0 (fun hp => hle i hi hp), rfl, rfl⟩
  obtain ⟨hs1, e1, e2⟩ := hy'
  exact ite_ind (fun _ => inv_notifyFlr (inv_ldr hs1 (fun hp => by rw [e1]; exact hle j hj (e2 ▸ hp)))) fun _ =>
    ite_ind (fun _ => inv_notifyFlr (inv_ldr hs1 (fun hp => (hs1 hp).1.prev_le_snap))) fun _ => hs1

/-! ## the walk: the orderings as an instance of the records of Lemmas/StepWalk.lean -/

/-- between the append of the configuration entry `c` and its adoption: the entry is the last of the log -/
def Pend (s₀ : Node) (b : Bool) (c : Config) (s : Node) : Prop :=
  Inv s₀ b s ∧ (s.panicked = none → s.configs.latest.index ≤ c.index ∧ c.index ≤ s.lastLogIndex)

/-- `leader.setCommitIndex` may leave the commit index beyond the log (level `false`); the `applyCommitted` after it
repairs that or fails. -/
theorem guarded (s₀ : Node) (b : Bool) : GuardedAt (Inv s₀ false) (Inv s₀ b) (Pend s₀ b) where
  panic := fun _ _ _ => inv_panic _ _
  reject := fun _ _ _ hs _ => inv_reply _ _ hs
  stable := fun _ _ hs => inv_reply _ _ hs
  popOrder := fun _ hs => inv_popOrder hs
  ldrK := fun _ _ hs _ _ _ e _ _ _ => inv_ldr_same hs e
  setRound := fun _ _ _ _ hs _ => inv_setRepl _ hs
  beginFinishedRounds := fun _ hs => inv_beginFinishedRounds hs
  enqueue := fun _ _ hs _ _ _ => inv_ldr_same hs rfl
  enqueueLog := fun _ _ hs _ _ _ _ => inv_appendEntry _ (inv_ldr_same hs rfl)
  enqueueCfg := fun s q c hs _ _ hc =>
    have ha := inv_appendEntry (s.stamp q).toEntry (inv_ldr_same (l := (s.enq (s.stamp q)).ldr) hs rfl)
    ⟨ha, fun hp => by
      have hl : ((s.enq (s.stamp q)).appendEntry (s.stamp q).toEntry).lastLogIndex = (s.stamp q).toEntry.index := rfl
      rw [(Entry.config?_facts hc).2.1, hl]
      exact ⟨hl ▸ (ha hp).1.latest_le_last, Nat.le_refl _⟩⟩
  decodeFail := fun _ _ _ _ _ _ _ _ => inv_panic _ _
  configSync := fun s c hs => by
    apply Node.Guarded.foldl_inv
    · intro s x hs
      unfold LC.changeBody
      exact ite_ind (fun _ => hs) fun _ => by
        split
        · exact inv_addReplication _ hs
        · exact inv_setRepl _ hs
    · unfold LC.changePre
      exact inv_ldr_same (inv_changeConfigR c (inv_ldr_same hs.1 rfl) hs.2) rfl
  prePanic := fun _ _ _ _ => inv_panic _ _
  commitLog := fun _ n hs => inv_commitLog n hs
  commitR := fun s i hs hi => inv_setCommitIndexR i hs (fun hp =>
    ⟨Nat.le_trans (hs hp).1.applied_le_commit (Nat.le_of_lt hi), fun e => Bool.noConfusion e⟩)
  weaken := fun _ hs => hs.toFalse
  applyL := fun _ hs => (inv_applyCommittedL hs).weaken

/-- The leader block preserves the orderings; `changeConfigL` is entered with the configuration just appended
pending, `setCommitIndexL` ends at level `false`. -/
theorem block (s₀ : Node) (b : Bool) (fuel : Nat) : Block (Inv s₀ false) (Inv s₀ b) (Pend s₀ b) fuel :=
  (guarded s₀ b).block (guarded s₀ false) fuel

/-- the handlers whose guards are real arguments enter as single fields (`inv_snapRun`, `inv_onSnapshotTaken`) -/
theorem guardedStep (s₀ : Node) (b : Bool) : GuardedStepAt .all (Inv s₀ false) (Inv s₀ b) (Pend s₀ b) where
  toGuardedAt := guarded s₀ b
  blk := block s₀ b
  reply := fun _ _ _ hs => inv_reply _ _ hs
  ldrT := fun _ _ _ hs _ _ _ e _ _ => inv_ldr_same hs e
  noContact := fun _ _ _ _ hs _ => inv_setRepl _ hs
  report := fun _ _ _ _ _ hs _ _ _ _ => inv_setRepl _ hs
  setRole := fun _ _ hs _ _ => inv_setRole _ hs
  setLeader := fun _ _ hs => inv_setLeader _ hs
  setTerm := fun _ _ hs _ => inv_setTerm _ hs
  compactBound := fun _ _ hs => inv_compactLog _ hs (fun hp => (hs hp).1.removeLTE_le)
  rpcReply := fun _ _ hs => inv_rpcReply _ hs
  ret := fun _ _ hs => inv_ret _ hs
  doClose := fun _ _ _ hs => inv_doClose _ hs
  voteNewTerm := fun _ _ _ hs _ _ => inv_setVotedFor _ _ hs
  voteGrant := fun _ _ hs _ => inv_setVotedFor _ _ hs
  votesNeeded := fun _ _ _ hs => inv_votesNeeded _ hs
  candTransfer := fun _ _ hs => inv_candTransfer _ hs
  snapPending := fun _ _ hs => inv_snapPending _ hs
  snapRun := fun _ hs _ => inv_snapRun hs
  snapTaken := fun _ _ _ hs => inv_onSnapshotTaken hs

theorem inv_leaderInit {s : Node} (hs : Inv s₀ b s) : Inv s₀ b s.leaderInit :=
  Block.leaderInit_of (block s₀ b) (fun _ _ hs _ => inv_addReplication _ hs) s
    (inv_ldr (inv_assert _ _ hs) (fun hp => (inv_assert (s₀ := s₀) (b := b) _ _ hs hp).1.prev_le_snap))

theorem inv_leaderRelease {s : Node} (hs : Inv s₀ b s) : Inv s₀ b s.leaderRelease :=
  (guardedStep s₀ b).leaderRelease_of trivial (fun _ hs => inv_ldr_same hs rfl) s hs

theorem inv_onMajorityCommit (f : Nat) {s : Node} (hs : Inv s₀ b s) : Inv s₀ b (onMajorityCommit f s) :=
  (block s₀ b f).onMajorityCommit s hs

theorem inv_checkQuorum {s : Node} (hs : Inv s₀ b s) : Inv s₀ b s.checkQuorum :=
  (guardedStep s₀ b).checkQuorum_inv s hs

theorem inv_replUpdLoop {s : Node} (f : UpdFlags) (us : List ReplUpdate) (hs : Inv s₀ b s) :
    Inv s₀ b (replUpdLoop s f us).1 :=
  (guardedStep s₀ b).replUpdLoop_inv trivial s f us hs

theorem inv_withLast {s : Node} (i t : Nat) (h : Inv s₀ b s) (hg : s.panicked = none → s.lastLogIndex = i) :
    Inv s₀ b (s.withLast i t) := by
  intro hp
  have hp' : s.panicked = none := hp
  obtain ⟨c, hcl, m1, m2⟩ := h hp'
  have e := hg hp'
  refine ⟨⟨?_, c.prev_le_snap, c.snap_le_applied, c.applied_le_commit, c.committed_le_latest,
    ?_, c.segs, c.removeLTE_le, c.snapRes_le⟩, ?_, m1, m2⟩
  · show i = s.log.last
    rw [← e]; exact c.last_eq
  · show s.configs.latest.index ≤ i
    rw [← e]; exact c.latest_le_last
  · intro hb
    show s.commitIndex ≤ i
    rw [← e]; exact hcl hb

theorem inv_bootstrap {s : Node} (t : Nat) (cfg : Config) (hs : Inv s₀ b s) : Inv s₀ b (s.bootstrap t cfg) := by
  refine bootstrap_cases s t cfg (fun _ _ => inv_reply _ _ hs) fun _ => inv_setRole _ (inv_reply _ _ ?_)
  have hpre : Inv s₀ b (((s.appendEntry ({ cfg with index := 1, term := 1 } : Config).toEntry).commitLog 1).setTerm 1) :=
    inv_setTerm _ (inv_commitLog _ (inv_appendEntry _ hs))
  -- `storage.bootstrap` has appended entry 1: the index it notes as the last one is that of the log
  have hl := inv_withLast 1 1 hpre (fun _ => by rw [(obs_eq (irr_setTerm _ 1).1).1]; rfl)
  exact inv_changeConfigR _ hl (fun hp => ⟨(hl hp).1.latest_le_last, Nat.le_refl _⟩)

/-- the entries are consecutive and start right after index `i` -/
def chainB : Nat → List Entry → Bool
  | _, [] => true
  | i, e :: es => e.index == i + 1 && chainB e.index es

theorem chainB_cons {i : Nat} {e : Entry} {es : List Entry} (h : chainB i (e :: es) = true) :
    e.index = i + 1 ∧ chainB e.index es = true := by
  simpa [chainB] using h

theorem chainB_gt : ∀ (es : List Entry) (i : Nat), chainB i es = true → ∀ e ∈ es, i < e.index := by
  intro es
  induction es with
  | nil => intro i _ e he; cases he
  | cons x xs ih =>
    intro i h e he
    obtain ⟨h1, h2⟩ := chainB_cons h
    rcases List.mem_cons.mp he with e1 | e1
    · rw [e1]; omega
    · have := ih x.index h2 e e1; omega

/-- What a correct leader guarantees about an append request, as far as the orderings are concerned:
the entries are consecutive after `prevLogIndex`, and an entry that *conflicts* with the log (an index the
log holds, above the snapshot, with another term) lies above the commit index and above the index of
`configs.committed`. -/
def AppendOk (s : Node) (q : AppendReq) : Prop :=
  chainB q.prevLogIndex q.entries = true ∧
  ∀ ne ∈ q.entries, ne.index ≤ s.lastLogIndex → s.snapIndex < ne.index → s.entryTerm? ne.index ≠ some ne.term →
    s.commitIndex < ne.index ∧ s.configs.committed.index < ne.index

instance (s : Node) (q : AppendReq) : Decidable (AppendOk s q) := by unfold AppendOk; infer_instance

/-- the state after `removeGTE i` (and possibly `revertConfig`) -/
theorem coreW_of_truncate {s x : Node} (c : CoreW s) (i : Nat) (hlog : x.log = s.log.removeGTE i)
    (hlast : x.lastLogIndex = i - 1) (hsnap : x.snapIndex = s.snapIndex) (hfsm : x.fsm.index = s.fsm.index)
    (hcommit : x.commitIndex = s.commitIndex) (hldr : x.ldr.removeLTE = s.ldr.removeLTE)
    (hres : x.snapResult = s.snapResult) (h1 : s.snapIndex < i) (h2 : i ≤ s.lastLogIndex)
    (h3 : x.configs.committed.index ≤ x.configs.latest.index) (h4 : x.configs.latest.index ≤ i - 1) : CoreW x := by
  have hp := c.prev_le_snap
  have hl := c.last_eq
  refine ⟨?_, ?_, by rw [hsnap, hfsm]; exact c.snap_le_applied, by rw [hfsm, hcommit]; exact c.applied_le_commit,
    h3, by rw [hlast]; exact h4, ?_, by rw [hldr, hsnap]; exact c.removeLTE_le, by rw [hres, hsnap]; exact c.snapRes_le⟩
  · rw [hlast, hlog, NLog.last_removeGTE _ _ (by omega) (by omega)]
  · rw [hlog, hsnap]; exact hp
  · rw [hlog]; exact segsOK_removeGTE _ _ c.segs (by omega) (by omega)

/-- "delete the conflicting entry and all that follow it": the entry must lie above the snapshot, the commit
index and the committed configuration -/
theorem inv_resolveConflict {s : Node} (ne : Entry) (pt : Nat) (h : Inv s₀ true s)
    (hg : s.panicked = none → ne.index ≤ s.lastLogIndex →
      s.snapIndex < ne.index ∧ s.commitIndex < ne.index ∧ s.configs.committed.index < ne.index) :
    Inv s₀ true (s.resolveConflict ne pt) := by
  unfold Node.resolveConflict
  split
  · rename_i hle
    split
    · exact inv_panic _ _
    · dsimp only
      split
      · intro hp
        have hp' : s.panicked = none := hp
        obtain ⟨c, _, m1, m2⟩ := h hp'
        obtain ⟨g1, g2, g3⟩ := hg hp' hle
        refine ⟨coreW_of_truncate (x := (s.removeGTE ne.index pt).revertConfig) c ne.index rfl rfl rfl rfl rfl rfl rfl
          g1 hle (Nat.le_refl _) ?_, fun _ => ?_, m1, m2⟩
        · show s.configs.committed.index ≤ ne.index - 1
          omega
        · show s.commitIndex ≤ ne.index - 1
          omega
      · rename_i hlat
        intro hp
        have hp' : s.panicked = none := hp
        obtain ⟨c, _, m1, m2⟩ := h hp'
        obtain ⟨g1, g2, g3⟩ := hg hp' hle
        have hlat' : ¬ ne.index ≤ s.configs.latest.index := hlat
        refine ⟨coreW_of_truncate (x := s.removeGTE ne.index pt) c ne.index rfl rfl rfl rfl rfl rfl rfl
          g1 hle c.committed_le_latest ?_, fun _ => ?_, m1, m2⟩
        · show s.configs.latest.index ≤ ne.index - 1
          omega
        · show s.commitIndex ≤ ne.index - 1
          omega
  · exact h

/-- what the pre-loop part of the handler may have changed: nothing of log / snapshot, and the commit
index and the committed configuration only up to `p` (= `prevLogIndex`) -/
def Pre (p : Nat) (s x : Node) : Prop :=
  x.log = s.log ∧ x.lastLogIndex = s.lastLogIndex ∧ x.snapIndex = s.snapIndex ∧
  x.commitIndex ≤ max s.commitIndex p ∧ x.configs.committed.index ≤ max s.configs.committed.index p

theorem Pre.of_irr {p : Nat} {s x : Node} (h : Irr s x) : Pre p s x := by
  obtain ⟨e1, e2, e3, _, e5, e6, _⟩ := obs_eq h.1
  exact ⟨e2, e1, e3, by rw [e5]; exact Nat.le_max_left _ _, by rw [e6]; exact Nat.le_max_left _ _⟩

theorem Pre.trans {p : Nat} {a b c : Node} (h1 : Pre p a b) (h2 : Pre p b c) : Pre p a c := by
  obtain ⟨a1, a2, a3, a4, a5⟩ := h1
  obtain ⟨b1, b2, b3, b4, b5⟩ := h2
  exact ⟨b1.trans a1, b2.trans a2, b3.trans a3, by omega, by omega⟩

theorem setCommitIndexR_pre (s : Node) (i : Nat) : Pre i s (s.setCommitIndexR i).1 := by
  unfold Node.setCommitIndexR
  split
  · rename_i hc
    obtain ⟨e1, e2, e3, _, e5, e6, _⟩ := obs_eq (irr_afterConfigCommit (s.withCommitIndex i).commitConfig).1
    obtain ⟨c1, c2, c3, _, c5, _, _, c8, _⟩ := commitConfig_other (s.withCommitIndex i)
    show Pre i s (s.withCommitIndex i).commitConfig.afterConfigCommit
    refine ⟨by rw [e2, c2]; rfl, by rw [e1, c3]; rfl, by rw [e3, c5]; rfl, ?_, ?_⟩
    · rw [e5, c8]; exact Nat.le_max_right _ _
    · rw [e6, c1]
      show s.configs.latest.index ≤ _
      have := hc.2
      omega
  · exact ⟨rfl, rfl, rfl, Nat.le_max_right _ _, Nat.le_max_left _ _⟩

theorem applyCommitted_pre (p : Nat) (s : Node) : Pre p s s.applyCommitted := by
  have hf := fsmFrame_obsF.applyCommitted_eq s
  simp only [obsF, Prod.mk.injEq] at hf
  obtain ⟨e1, e2, e3, e5, e6, _⟩ := hf
  exact ⟨e2, e1, e3, by rw [e5]; exact Nat.le_max_left _ _, by rw [e6]; exact Nat.le_max_left _ _⟩

theorem appendCheck_pre (s : Node) (q : AppendReq) : Pre q.prevLogIndex s (s.appendCheck q) ∧
    ((s.appendCheck q).result = 0 → q.prevLogIndex ≤ s.snapIndex ∨ q.prevLogIndex ≤ s.lastLogIndex) := by
  have hx : ∀ {x}, Looked s q x → Irr s x := fun h => by
    rcases h.eq with rfl | rfl
    · exact Irr.refl _
    · exact irr_panic _ _
  exact appendCheck_cases s q (P := fun y => Pre q.prevLogIndex s y ∧
      (y.result = 0 → q.prevLogIndex ≤ s.snapIndex ∨ q.prevLogIndex ≤ s.lastLogIndex))
    (fun x r hl ha => ⟨Pre.of_irr ((hx hl).trans (irr_ret _ _)), ha.inside⟩) fun x hl _ hle _ _ =>
    ⟨(Pre.of_irr (hx hl)).trans (((setCommitIndexR_pre x _).trans (applyCommitted_pre _ _)).trans (Pre.of_irr (irr_ret _ _))),
      fun _ => Or.inr hle⟩

/-! ### the handler, for any predicate that implies the orderings and that its updates preserve -/

/-- the consistency check -/
theorem appendCheck_keeps {Q : Node → Prop} (inv : ∀ {s : Node}, Q s → Inv s₀ true s)
    (panic : ∀ (s : Node) (site : String), Q (s.panic site)) (ret : ∀ {s : Node} (r : Nat), Q s → Q (s.ret r))
    (commit : ∀ {s : Node} (i : Nat), Q s → (s.panicked = none → s.fsm.index ≤ i ∧ (true = true → i ≤ s.lastLogIndex)) →
      (s.panicked = none → s.commitIndex ≤ i) → Q (s.setCommitIndexR i).1.applyCommitted)
    {s : Node} (q : AppendReq) (h : Q s) : Q (s.appendCheck q) := by
  have hx : ∀ {x}, Looked s q x → Q x ∧ Irr s x := fun hl => by
    rcases hl.eq with rfl | rfl
    · exact ⟨h, Irr.refl _⟩
    · exact ⟨panic _ _, irr_panic _ _⟩
  refine appendCheck_cases s q (fun x r hl _ => ret r (hx hl).1) fun x hl _ hle _ hcc => ?_
  simp only [Node.canCommit, Bool.and_eq_true, decide_eq_true_eq] at hcc
  obtain ⟨h1, hI⟩ := hx hl
  obtain ⟨e1, _, _, _, e5, _⟩ := obs_eq hI.1
  refine ret _ (commit _ h1 (fun hp => ?_) (fun _ => by omega))
  have := (inv h1 hp).1.applied_le_commit
  exact ⟨by omega, fun _ => by rw [e1]; exact hle⟩

/-- **The follower's entry loop for a predicate `Q` of the loop state that implies the orderings.** The entries are
consecutive (`chainB`): an entry that is stored ends the log, and those still to come lie beyond it; `hJ` is what
`AppendOk` says of an entry that conflicts, and becomes the guard of the truncation (`store`, which is asked for the
three ways the loop goes on: another entry, a configuration entry adopted, a configuration entry that does not decode, and is
told where the entry stands: right after the loop's index, which is inside the log). -/
theorem appendLoop_chain {Q : AppLoop → Prop} {A : Entry → Prop} (inv : ∀ {st : AppLoop}, Q st → Inv s₀ true st.s)
    (move : ∀ (st : AppLoop) i t, Q st → Q { st with index := i, term := t })
    (store : ∀ (st : AppLoop) (ne : Entry), Q st → st.err = false → A ne →
      (ne.index = st.index + 1 ∧ (st.s.panicked = none → st.index ≤ st.s.lastLogIndex)) →
      (st.s.panicked = none → ne.index ≤ st.s.lastLogIndex →
        st.s.snapIndex < ne.index ∧ st.s.commitIndex < ne.index ∧ st.s.configs.committed.index < ne.index) →
      (¬ ne.typ = etConfig → Q ⟨stored st ne, ne.index, ne.term, true, st.err⟩) ∧
      (∀ c, ne.config? = some c → Q ⟨(stored st ne).changeConfigR c, ne.index, ne.term, true, st.err⟩) ∧
      (ne.typ = etConfig → ne.config? = none → Q ⟨stored st ne, ne.index, ne.term, true, true⟩))
    (es : List Entry) (st : AppLoop) : Q st → chainB st.index es = true → (∀ ne ∈ es, A ne) →
    (st.s.panicked = none → st.index ≤ st.s.lastLogIndex) →
    (st.s.panicked = none → ∀ ne ∈ es, ne.index ≤ st.s.lastLogIndex → st.s.snapIndex < ne.index →
      st.s.entryTerm? ne.index ≠ some ne.term →
      st.s.commitIndex < ne.index ∧ st.s.configs.committed.index < ne.index) →
    Q (appendLoop st es) ∧
    ((appendLoop st es).s.panicked = none → (appendLoop st es).index ≤ (appendLoop st es).s.lastLogIndex) :=
  appendLoop_rec (M := fun st es r => Q st → chainB st.index es = true → (∀ ne ∈ es, A ne) →
      (st.s.panicked = none → st.index ≤ st.s.lastLogIndex) →
      (st.s.panicked = none → ∀ ne ∈ es, ne.index ≤ st.s.lastLogIndex → st.s.snapIndex < ne.index →
        st.s.entryTerm? ne.index ≠ some ne.term →
        st.s.commitIndex < ne.index ∧ st.s.configs.committed.index < ne.index) →
      Q r ∧ (r.s.panicked = none → r.index ≤ r.s.lastLogIndex))
    (fun _ _ _ hs _ _ hidx _ => ⟨hs, hidx⟩)
    (fun st ne rest r _ hheld ih hs hch hacc _ hJ => by
      refine ih (move st _ _ hs) (chainB_cons hch).2 (fun x hx => hacc x (List.mem_cons_of_mem _ hx))
        (fun hp => ?_) (fun hp x hx => hJ hp x (List.mem_cons_of_mem _ hx))
      rcases hheld with h | h
      · obtain ⟨c, hcl, _, _⟩ := inv hs hp
        have h1 := c.snap_le_applied
        have h2 := c.applied_le_commit
        have h3 := hcl rfl
        show ne.index ≤ st.s.lastLogIndex
        omega
      · exact h.1)
    (fun st ne rest y r herr hn hy ih hs hch hacc hidx hJ => by
      have hrest := chainB_gt rest ne.index (chainB_cons hch).2
      obtain ⟨fN, fC, _⟩ := store st ne hs herr (hacc ne List.mem_cons_self) ⟨(chainB_cons hch).1, hidx⟩ (fun hp hle => by
        have hsn : st.s.snapIndex < ne.index := Nat.lt_of_not_le (fun h => hn (Or.inl h))
        have := hJ hp ne List.mem_cons_self hle hsn (fun he => hn (Or.inr ⟨hle, he⟩))
        exact ⟨hsn, this.1, this.2⟩)
      have hlast : y.lastLogIndex = ne.index := hy.fields.2.1
      -- the entries that follow lie beyond the log now: nothing is asked of them
      refine ih ?_ (chainB_cons hch).2 (fun x hx => hacc x (List.mem_cons_of_mem _ hx))
        (fun _ => Nat.le_of_eq hlast.symm) (fun _ x hx hle => ?_)
      · rcases hy with ⟨ht, rfl⟩ | ⟨c, hc, rfl⟩
        · exact fN ht
        · exact fC c hc
      · have := hrest x hx
        rw [hlast] at hle
        omega)
    (fun st ne rest herr hn ht hc hs hch hacc hidx hJ =>
      ⟨(store st ne hs herr (hacc ne List.mem_cons_self) ⟨(chainB_cons hch).1, hidx⟩ (fun hp hle => by
          have hsn : st.s.snapIndex < ne.index := Nat.lt_of_not_le (fun h => hn (Or.inl h))
          have := hJ hp ne List.mem_cons_self hle hsn (fun he => hn (Or.inr ⟨hle, he⟩))
          exact ⟨hsn, this.1, this.2⟩)).2.2 ht hc,
       fun _ => Nat.le_of_eq (stored_fields st ne).1.symm⟩)
    st es

/-- the entry loop started as `onAppendEntries` starts it: on the state `s2.appendCheck q` that passed the consistency check, `s2` being
the node `s` the request met after it adopted the term and recorded the leader; `AppendOk s q` gives the side
conditions of the loop -/
theorem appendLoop_checked {Q : AppLoop → Prop} {A : Entry → Prop} (inv : ∀ {st : AppLoop}, Q st → Inv s₀ true st.s)
    (move : ∀ (st : AppLoop) i t, Q st → Q { st with index := i, term := t })
    (store : ∀ (st : AppLoop) (ne : Entry), Q st → st.err = false → A ne →
      (ne.index = st.index + 1 ∧ (st.s.panicked = none → st.index ≤ st.s.lastLogIndex)) →
      (st.s.panicked = none → ne.index ≤ st.s.lastLogIndex →
        st.s.snapIndex < ne.index ∧ st.s.commitIndex < ne.index ∧ st.s.configs.committed.index < ne.index) →
      (¬ ne.typ = etConfig → Q ⟨stored st ne, ne.index, ne.term, true, st.err⟩) ∧
      (∀ c, ne.config? = some c → Q ⟨(stored st ne).changeConfigR c, ne.index, ne.term, true, st.err⟩) ∧
      (ne.typ = etConfig → ne.config? = none → Q ⟨stored st ne, ne.index, ne.term, true, true⟩))
    {s s2 : Node} (q : AppendReq) (hI2 : Irr s s2) (hok : AppendOk s q)
    (hres : (s2.appendCheck q).result = 0) (hacc : ∀ ne ∈ q.entries, A ne)
    (hs : Q { s := s2.appendCheck q, index := q.prevLogIndex, term := q.prevLogTerm }) :
    Q (appendLoop { s := s2.appendCheck q, index := q.prevLogIndex, term := q.prevLogTerm } q.entries) ∧
    ((appendLoop { s := s2.appendCheck q, index := q.prevLogIndex, term := q.prevLogTerm } q.entries).s.panicked = none →
      (appendLoop { s := s2.appendCheck q, index := q.prevLogIndex, term := q.prevLogTerm } q.entries).index ≤
        (appendLoop { s := s2.appendCheck q, index := q.prevLogIndex, term := q.prevLogTerm } q.entries).s.lastLogIndex) := by
  obtain ⟨p1, p2, p3, p4, p5⟩ := (Pre.of_irr hI2).trans (appendCheck_pre s2 q).1
  refine appendLoop_chain inv move store q.entries _ hs hok.1 hacc (fun hp => ?_) (fun _ ne hne hle hsn hterm => ?_)
  · obtain ⟨c, hcl, _, _⟩ := inv hs hp
    have := c.snap_le_applied; have := c.applied_le_commit; have := hcl rfl
    obtain ⟨e1, _, e3, _⟩ := obs_eq hI2.1
    have hr := (appendCheck_pre s2 q).2 hres
    show q.prevLogIndex ≤ (s2.appendCheck q).lastLogIndex
    rw [p2]; rw [p3] at *; rw [p2] at *
    rw [e1, e3] at hr
    omega
  · have hgt := chainB_gt _ _ hok.1 ne hne
    have hterm' : s.entryTerm? ne.index ≠ some ne.term := by
      unfold Node.entryTerm? at hterm ⊢
      rw [← p1]; exact hterm
    have := hok.2 ne hne (by rw [← p2]; exact hle) (by rw [← p3]; exact hsn) hterm'
    exact ⟨by show (s2.appendCheck q).commitIndex < ne.index; omega,
      by show (s2.appendCheck q).configs.committed.index < ne.index; omega⟩

/-- the part of `onAppendEntries` before the loop (`followPre`: adopt the term, become follower, record the leader; then
the consistency check) -/
theorem followPre_checked {R : Node → Prop} (inv : ∀ {x : Node}, R x → Inv s₀ true x)
    (panic : ∀ (x : Node) (site : String), R (x.panic site)) (ret : ∀ {x : Node} (r : Nat), R x → R (x.ret r))
    (commit : ∀ {x : Node} (i : Nat), R x → (x.panicked = none → x.fsm.index ≤ i ∧ (true = true → i ≤ x.lastLogIndex)) →
      (x.panicked = none → x.commitIndex ≤ i) → R (x.setCommitIndexR i).1.applyCommitted)
    (setTerm : ∀ {x : Node} (t : Nat), R x → R (x.setTerm t)) (setRole : ∀ {x : Node} (r : Role), R x → R (x.setRole r))
    (setLeader : ∀ {x : Node} (l : Nat), R x → R (x.setLeader l)) {s : Node} (q : AppendReq) (h : R s) :
    R ((followPre s q.term q.src).appendCheck q) := by
  unfold followPre
  exact appendCheck_keeps inv panic ret commit q
    (setLeader _ (setRole _ (ite_ind (fun _ => setRole _ (setTerm _ h)) fun _ => h)))

/-- **the handler**, for a predicate of the node: `store` is asked for the three ways the loop goes on after storing an
entry (another entry, a configuration entry adopted, a configuration entry that does not decode), under the guard of the
truncation that `AppendOk` provides; `A` is whatever else the request promises of each entry -/
theorem onAppendEntries_keeps {R : Node → Prop} {A : Entry → Prop} (inv : ∀ {x : Node}, R x → Inv s₀ true x)
    (panic : ∀ (x : Node) (site : String), R (x.panic site)) (ret : ∀ {x : Node} (r : Nat), R x → R (x.ret r))
    (commit : ∀ {x : Node} (i : Nat), R x → (x.panicked = none → x.fsm.index ≤ i ∧ (true = true → i ≤ x.lastLogIndex)) →
      (x.panicked = none → x.commitIndex ≤ i) → R (x.setCommitIndexR i).1.applyCommitted)
    (setTerm : ∀ {x : Node} (t : Nat), R x → R (x.setTerm t)) (setRole : ∀ {x : Node} (r : Role), R x → R (x.setRole r))
    (setLeader : ∀ {x : Node} (l : Nat), R x → R (x.setLeader l)) (commitLog : ∀ {x : Node} (n : Nat), R x → R (x.commitLog n))
    (store : ∀ (st : AppLoop) (ne : Entry), R st.s → A ne →
      (ne.index = st.index + 1 ∧ (st.s.panicked = none → st.index ≤ st.s.lastLogIndex)) →
      (st.s.panicked = none → ne.index ≤ st.s.lastLogIndex →
        st.s.snapIndex < ne.index ∧ st.s.commitIndex < ne.index ∧ st.s.configs.committed.index < ne.index) →
      (ne.config? = none → R (stored st ne)) ∧ (∀ c, ne.config? = some c → R ((stored st ne).changeConfigR c)))
    {s : Node} (q : AppendReq) (h : R s) (hok' : q.term < s.term ∨ AppendOk s q)
    (hacc : ¬ q.term < s.term → ∀ ne ∈ q.entries, A ne) : R (s.onAppendEntries q) := by
  rw [onAppendEntries_stages]
  split
  · exact ret _ h
  · rename_i hterm
    have hok : AppendOk s q := hok'.resolve_left hterm
    have h3 := followPre_checked inv panic ret commit setTerm setRole setLeader q h
    split
    · exact h3
    · rename_i hres
      have hL := appendLoop_checked (Q := fun st => R st.s) (A := A) inv (fun _ _ _ h => h)
        (fun st ne h _ ha hpos hg =>
          have f := store st ne h ha hpos hg
          ⟨fun ht => f.1 (Entry.config?_none_of_typ ht), f.2, fun _ hc => f.1 hc⟩)
        q (irr_followPre s q.term q.src) hok (Decidable.not_not.mp hres) (hacc hterm) h3
      generalize appendLoop _ q.entries = st at hL
      unfold afterLoop
      refine ret _ (ite_ind (fun _ => ?_) fun _ => hL.1)
      refine ite_ind (fun hcc => ?_) fun _ => commitLog _ hL.1
      simp only [Node.canCommit, Bool.and_eq_true, decide_eq_true_eq] at hcc
      refine commit _ (commitLog _ hL.1) (fun hp => ?_) (fun _ => Nat.le_of_lt hcc.2)
      have hidx : st.index ≤ st.s.lastLogIndex := hL.2 hp
      have : (st.s.commitLog st.s.lastLogIndex).fsm.index ≤ (st.s.commitLog st.s.lastLogIndex).commitIndex :=
        (inv (commitLog st.s.lastLogIndex hL.1) hp).1.applied_le_commit
      exact ⟨by omega, fun _ => hidx⟩

theorem inv_onAppendEntries {s : Node} (q : AppendReq) (h : Inv s₀ true s) (hok' : q.term < s.term ∨ AppendOk s q) :
    Inv s₀ true (s.onAppendEntries q) :=
  onAppendEntries_keeps (R := Inv s₀ true) (A := fun _ => True) id (fun _ _ => inv_panic _ _) (fun r h => inv_ret r h)
    (fun i h hg _ => inv_applyCommitted (inv_setCommitIndexR (b' := true) i h hg)) (fun t h => inv_setTerm t h)
    (fun r h => inv_setRole r h) (fun l h => inv_setLeader l h) (fun n h => inv_commitLog n h)
    (fun st ne hs _ _ hg =>
      have h2 : Inv s₀ true (stored st ne) := inv_appendEntry ne (inv_resolveConflict ne st.term hs hg)
      ⟨fun _ => h2, fun c hc => inv_changeConfigR c h2 fun hp => by
        have hl : (stored st ne).lastLogIndex = ne.index := (stored_fields st ne).1
        rw [(Entry.config?_facts hc).2.1, hl]
        exact ⟨hl ▸ (h2 hp).1.latest_le_last, Nat.le_refl _⟩⟩)
    q h hok' (fun _ _ _ => trivial)

/-- the label of an installed snapshot is a configuration the snapshot covers -/
def InstallOk (q : InstallReq) : Prop := q.lastConfig.index ≤ q.lastIndex

instance (q : InstallReq) : Decidable (InstallOk q) := by unfold InstallOk; infer_instance

theorem irr_installPre (s : Node) (q : InstallReq) : Irr s (installPre s q) := irr_followPre s q.term q.src

/-- what the tail of the discard branch leaves alone, beyond `C09.discardTail_fields` -/
theorem discardTail_more (p : Node) (c : Config) :
    (C09.discardTail p c).ldr = p.ldr ∧ (C09.discardTail p c).snapResult = p.snapResult ∧
    (C09.discardTail p c).role = p.role ∧ (C09.discardTail p c).nid = p.nid ∧ (C09.discardTail p c).retain = p.retain := by
  rw [C09.discardTail_shape]
  exact ⟨rfl, rfl, rfl, rfl, rfl⟩

/-- `fsmRestore` without a panic: the meta file of `snaps.index` was found -/
theorem fsmRestore_ok (x : Node) (hp : x.fsmRestore.panicked = none) :
    x.panicked = none ∧ x.fsmRestore.fsm.index = x.snapIndex := by
  by_cases h0 : x.snapIndex = 0
  · unfold Node.fsmRestore at hp; rw [if_pos h0] at hp; exact absurd hp (panic_panicked_ne _ _)
  · cases hf : x.snapsDisk.find? (·.index == x.snapIndex) with
    | none =>
      unfold Node.fsmRestore at hp; rw [if_neg h0, hf] at hp; exact absurd hp (panic_panicked_ne _ _)
    | some g =>
      obtain ⟨a, b⟩ := fsmRestore_fsm x g h0 hf
      refine ⟨by rw [← b]; exact hp, ?_⟩
      rw [a]
      have := List.find?_some hf
      simpa using this

theorem inv_onInstallSnap {s : Node} (q : InstallReq) (h : Inv s₀ true s)
    (hok' : q.term < s.term ∨ q.lastIndex ≤ s.commitIndex ∨ InstallOk q) :
    Inv s₀ true (s.onInstallSnap q) := by
  rw [onInstallSnap_eq]
  have hpre : Inv s₀ true (installPre s q) := (irr_installPre s q).inv h
  split
  · exact inv_ret _ h
  · rename_i hterm
    split
    · exact inv_ret _ hpre
    · rename_i hahead
      have hok : InstallOk q := by
        rcases hok' with h1 | h1 | h1
        · exact absurd h1 hterm
        · rw [(obs_eq (irr_installPre s q).1).2.2.2.2.1] at hahead
          exact absurd h1 hahead
        · exact h1
      split
      · exact inv_ret _ hpre
      · show Inv s₀ true (C09.discardTail ((installPre s q).publishSnapshot (C09.fileOf q)) q.lastConfig)
        intro hp
        obtain ⟨f1, f2, _, f4, _, f6, f7, _, _, f10, f11, _⟩ :=
          C09.discardTail_fields ((installPre s q).publishSnapshot (C09.fileOf q)) q.lastConfig
        obtain ⟨g1, g2, _⟩ := discardTail_more ((installPre s q).publishSnapshot (C09.fileOf q)) q.lastConfig
        rw [f11] at hp
        obtain ⟨hpp, hfi⟩ := fsmRestore_ok _ hp
        obtain ⟨d1, _, d3, _⟩ := C09.discardPre_fields (installPre s q) (C09.fileOf q)
        have hpp' : (installPre s q).panicked = none := by rw [← d1]; exact hpp
        have hfi' : ((installPre s q).publishSnapshot (C09.fileOf q)).clearLog.fsmRestore.fsm.index = q.lastIndex := by
          rw [hfi, d3]; rfl
        obtain ⟨c, hcl, m1, m2⟩ := hpre hpp'
        have hsnap : ((installPre s q).publishSnapshot (C09.fileOf q)).snapIndex = q.lastIndex := by
          rw [publishSnapshot_shape]; rfl
        have hldr : ((installPre s q).publishSnapshot (C09.fileOf q)).ldr = (installPre s q).ldr := by
          rw [publishSnapshot_shape]
        have hres : ((installPre s q).publishSnapshot (C09.fileOf q)).snapResult = (installPre s q).snapResult := by
          rw [publishSnapshot_shape]
        have a1 := c.snap_le_applied
        have a2 := c.applied_le_commit
        have a3 := c.removeLTE_le
        unfold InstallOk at hok
        refine ⟨⟨?_, ?_, ?_, ?_, ?_, ?_, ?_, ?_, ?_⟩, fun _ => ?_, ?_, ?_⟩
        · rw [f2, f1, hsnap]; rfl
        · rw [f1, f4, hsnap]; exact Nat.le_refl _
        · rw [f4, f10, hfi', hsnap]; exact Nat.le_refl _
        · rw [f10, f6, hfi', hsnap]; exact Nat.le_refl _
        · rw [f7]; exact Nat.le_refl _
        · rw [f7, f2, hsnap]; exact hok
        · rw [f1]; exact segsOK_reset _
        · rw [g1, hldr, f4, hsnap]; omega
        · intro rs hrs
          rw [g2, hres] at hrs
          have := c.snapRes_le rs hrs
          rw [f4, hsnap]; omega
        · rw [f6, f2]; exact Nat.le_refl _
        · rw [f10, hfi']; omega
        · rw [f4, hsnap]; omega

/-- **What an incoming operation must satisfy** for the orderings to survive it. Only two operations need
anything, and only when the handler does not discard them by itself (stale term; an install request not ahead of
the commit index): an append request must carry consecutive entries and must not conflict with the log at or
below the commit index / the committed configuration (`AppendOk`), and the label of an installed snapshot must
not lie beyond the snapshot (`InstallOk`). -/
def ReqOk (s : Node) : Op → Prop
  | .append q => q.term < s.term ∨ AppendOk s q
  | .install q => q.term < s.term ∨ q.lastIndex ≤ s.commitIndex ∨ InstallOk q
  | _ => True

instance (s : Node) (op : Op) : Decidable (ReqOk s op) := by
  cases op <;> unfold ReqOk <;> infer_instance

/-- an acceptable install request that is not stale and is ahead of the commit index carries a label its snapshot covers -/
theorem ReqOk.installOk {s : Node} {q : InstallReq} (hr : ReqOk s (.install q)) (hterm : ¬ q.term < s.term)
    (hahead : s.commitIndex < q.lastIndex) : InstallOk q := by
  rcases hr with h | h | h
  · exact absurd h hterm
  · exact absurd h (Nat.not_le_of_lt hahead)
  · exact h

theorem inv_handle {s : Node} (op : Op) (hs : Inv s₀ true s) (hr : ReqOk s op) : Inv s₀ true (s.handle op) :=
  (guardedStep s₀ true).handle_with s op (Caps.ok_all s op) hs (fun _ _ hx => inv_leaderRelease hx)
    (fun q e => inv_onAppendEntries q hs (by subst e; exact hr))
    (fun q e => inv_onInstallSnap q hs (by subst e; exact hr))
    (fun t cf _ _ => inv_bootstrap t cf hs)

theorem inv_begin {s : Node} (ra : List Nat) (ord : List (List Nat)) (ho : Ordered s) : Inv s true (s.begin ra ord) :=
  fun _ => ⟨ho.toCoreW.congr rfl, fun _ => ho.commit_le_last, Nat.le_refl _, Nat.le_refl _⟩

theorem inv_step {s : Node} (op : Op) (ra : List Nat) (ord : List (List Nat)) (ho : Ordered s) (hr : ReqOk s op) :
    Inv s true (s.step op ra ord) :=
  (guardedStep s true).step_with trivial (fun _ hs => inv_leaderRelease hs) (fun _ hs => inv_leaderInit hs) s op ra ord
    (inv_handle op (inv_begin ra ord ho) (by cases op <;> exact hr))

end Order
end Raft
