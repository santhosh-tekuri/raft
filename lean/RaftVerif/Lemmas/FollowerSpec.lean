/-
What `onAppendEntriesRequest` makes of a node without snapshots (`NWF`: the log starts at index 1) for a request whose
entries carry the indexes `prevLogIndex + 1, …`, in closed form.  The entry loop has three phases: leading entries the
node holds only move the coordinates; the first entry it does not hold is stored (the one possible `removeGTE`, the only
crash point inside the loop); from then on `lastLogIndex` is the index just stored, so every later entry lies beyond the
log and is appended, up to and including a configuration entry that does not decode.
-/
import RaftVerif.Lemmas.LogBase
import RaftVerif.Lemmas.ShapeAppend
import RaftVerif.Lemmas.ShapeTrace
import RaftVerif.Lemmas.LocalA
import RaftVerif.Props.C02

namespace Raft
namespace FollowerSpec
open Node LogRel CommitRel

/-- the term and vote, in memory and on disk -/
def tv (s : Node) : Nat × Nat × Nat × Nat := (s.term, s.votedFor, s.durTerm, s.durVote)

/-- what a crash at the `removeGTE` point leaves: the durable log cut at `n` -/
def cutImage (s : Node) (n : Nat) : String × Durable :=
  ("removeGTE", { s.durable with log := (s.log.removeGTE (n + 1)).durable })

/-- the configurations after the log was cut at `n`: reverted to the committed one if the latest lay beyond -/
def cutCfg (s : Node) (n : Nat) : Configs :=
  if n < s.log.entries.length ∧ n + 1 ≤ s.configs.latest.index then { s.configs with latest := s.configs.committed }
  else s.configs

/-- the configurations after the entries `es` were stored: each configuration entry becomes the latest one -/
def cfgFold (cs : Configs) (es : List Entry) : Configs :=
  es.foldl (fun cs e => match e.config? with
    | some c => { committed := cs.latest, latest := c }
    | none => cs) cs

/-- **storing one entry** at index `n + 1` that the node does not hold: the log is cut at `n` (a crash point, if there
was anything to cut) and the entry appended -/
theorem stored_nwf (st : AppLoop) (ne : Entry) (n : Nat) (hn : NWF st.s)
    (hi : ne.index = n + 1) (hle : n ≤ st.s.log.entries.length) :
    (stored st ne).log.entries = st.s.log.entries.take n ++ [ne] ∧ NWF (stored st ne) ∧
    (C06.LogWF st.s.log → C06.LogWF (stored st ne).log ∧ min st.s.log.flushed n ≤ (stored st ne).log.flushed) ∧
    (stored st ne).trace = st.s.trace ++ (if n < st.s.log.entries.length then [cutImage st.s n] else []) ∧
    tv (stored st ne) = tv st.s ∧ (stored st ne).configs = cutCfg st.s n := by
  -- the conflict resolution first: `x`
  have hx : ∃ x : Node, st.s.resolveConflict ne st.term = x ∧ x.log.entries = st.s.log.entries.take n ∧
      x.log.prev = 0 ∧ (C06.LogWF st.s.log → C06.LogWF x.log ∧ min st.s.log.flushed n ≤ x.log.flushed) ∧ x.lastLogIndex = n ∧
      x.snapIndex = 0 ∧ x.snapsDisk = [] ∧ tv x = tv st.s ∧
      x.trace = st.s.trace ++ (if n < st.s.log.entries.length then [cutImage st.s n] else []) ∧
      x.configs = cutCfg st.s n := by
    by_cases hlt : n < st.s.log.entries.length
    · have hle' : ne.index ≤ st.s.lastLogIndex := by rw [hn.last, hi]; omega
      obtain ⟨w, f, p, e⟩ := logwf_removeGTE st.s.log ne.index hn.prev (by omega) (by rw [hi]; omega)
      rw [show ne.index - 1 = n by omega] at f e
      refine ⟨_, rfl, ?_⟩
      unfold Node.resolveConflict
      rw [if_pos hle', hn.entryTerm ne.index (by omega) (by rw [hi]; omega), if_pos hlt]
      dsimp only
      have base : ∀ y : Node, (y = st.s.removeGTE ne.index st.term ∨ y = (st.s.removeGTE ne.index st.term).revertConfig) →
          y.log.entries = st.s.log.entries.take n ∧ y.log.prev = 0 ∧
          (C06.LogWF st.s.log → C06.LogWF y.log ∧ min st.s.log.flushed n ≤ y.log.flushed) ∧ y.lastLogIndex = n ∧
          y.snapIndex = 0 ∧ y.snapsDisk = [] ∧
          tv y = tv st.s ∧ y.trace = st.s.trace ++ [cutImage st.s n] := by
        intro y hy
        have : y.log = st.s.log.removeGTE ne.index ∧ y.lastLogIndex = ne.index - 1 ∧ y.snapIndex = st.s.snapIndex ∧
            y.snapsDisk = st.s.snapsDisk ∧ tv y = tv st.s ∧ y.trace = st.s.trace ++ [cutImage st.s n] := by
          rcases hy with rfl | rfl <;> exact ⟨rfl, rfl, rfl, rfl, rfl, by rw [hi]; rfl⟩
        obtain ⟨a1, a2, a3, a4, a5, a6⟩ := this
        rw [a1]
        exact ⟨e, p, fun _ => ⟨w, by rw [f]; exact Nat.min_le_right _ _⟩, by rw [a2, hi]; rfl, a3.trans hn.snapIndex,
          a4.trans hn.snaps, a5, a6⟩
      unfold cutCfg
      rw [hi]
      split
      · rename_i hr
        have hr' : n + 1 ≤ st.s.configs.latest.index := hr
        rw [if_pos ⟨hlt, hr'⟩]
        obtain ⟨b1, b2, b3, b5, b6, b7, b8, b9⟩ := base _ (Or.inr (by rw [hi]))
        exact ⟨b1, b2, b3, b5, b6, b7, b8, b9, rfl⟩
      · rename_i hr
        have hr' : ¬ n + 1 ≤ st.s.configs.latest.index := hr
        rw [if_neg (fun h => hr' h.2)]
        obtain ⟨b1, b2, b3, b5, b6, b7, b8, b9⟩ := base _ (Or.inl (by rw [hi]))
        exact ⟨b1, b2, b3, b5, b6, b7, b8, b9, rfl⟩
    · have hlen : st.s.log.entries.length = n := by omega
      refine ⟨st.s, C04.no_truncation_beyond_log _ _ _ ?_, by rw [← hlen, List.take_length], hn.prev, fun hl => ⟨hl, Nat.min_le_left _ _⟩,
        by rw [hn.last, hlen], hn.snapIndex, hn.snaps, rfl, by rw [if_neg hlt, List.append_nil],
        by unfold cutCfg; rw [if_neg (fun h => hlt h.1)]⟩
      rw [hn.last, hi]; omega
  obtain ⟨x, ex, x1, x2, x3, x5, x6, x7, x8, x9, x10⟩ := hx
  unfold stored
  rw [ex, appendEntry_shape]
  obtain ⟨roll, er⟩ := appendEntry_log x ne
  obtain ⟨p, e⟩ := append_parts x.log ne roll
  rw [er]
  refine ⟨by rw [e, x1], ⟨x6, x7, by rw [p]; exact x2, ?_, ?_, ?_⟩, fun hl => ?_, x9, x8, x10⟩
  · show ∀ k (h : k < (x.log.append ne roll).entries.length), (x.log.append ne roll).entries[k].index = k + 1
    rw [e, x1]
    exact contig_append (contig_take hn.contig n) ne (by rw [List.length_take, Nat.min_eq_left hle]; exact hi)
  · show ne.index = (x.log.append ne roll).entries.length
    rw [e, x1, List.length_append, List.length_take, Nat.min_eq_left hle]; exact hi
  · show ne.term = lastTerm (x.log.append ne roll).entries
    rw [e, lastTerm_append_singleton]
  · obtain ⟨w, f⟩ := logwf_append x.log ne roll (x3 hl).1
    exact ⟨w, Nat.le_trans (x3 hl).2 f⟩

/-- the node holds entry `e` at index `i`: the index is inside the log and the term there is `e`'s -/
def Agree (L : List Entry) (i : Nat) (e : Entry) : Prop := i ≤ L.length ∧ termAt L i = e.term

theorem held_iff {s : Node} (hn : NWF s) {ne : Entry} (h1 : 1 ≤ ne.index) :
    Held s ne ↔ Agree s.log.entries ne.index ne := by
  unfold Held Agree
  rw [hn.snapIndex, hn.last]
  constructor
  · rintro (h | ⟨h, ht⟩)
    · omega
    · rw [hn.entryTerm _ h1 h] at ht
      exact ⟨h, Option.some.inj ht⟩
  · rintro ⟨h, ht⟩
    exact Or.inr ⟨h, by rw [hn.entryTerm _ h1 h, ht]⟩

theorem appendLoop_not_held (st : AppLoop) (ne : Entry) (rest : List Entry) (herr : st.err = false)
    (h : ¬ Held st.s ne) :
    appendLoop st (ne :: rest) =
      if ne.typ = etConfig then
        match ne.config? with
        | some c => appendLoop ⟨(stored st ne).changeConfigR c, ne.index, ne.term, true, st.err⟩ rest
        | none => ⟨stored st ne, ne.index, ne.term, true, true⟩
      else appendLoop ⟨stored st ne, ne.index, ne.term, true, st.err⟩ rest := by
  conv => lhs; unfold appendLoop
  simp only [herr, Bool.false_eq_true, if_false]
  rw [if_neg (fun hs => h (Or.inl hs)), if_neg (fun hp => h (Or.inr (by simpa using hp)))]
  rfl

/-- the loop stored `m ≥ 1` entries of the request, from position `k` on, on top of the first `p + k` entries of the
log of `s` -/
structure Spliced (s : Node) (p : Nat) (es : List Entry) (k m : Nat) (r : AppLoop) : Prop where
  hm : 1 ≤ m ∧ k + m ≤ es.length
  entries : r.s.log.entries = s.log.entries.take (p + k) ++ (es.drop k).take m
  nwf : NWF r.s
  wf : C06.LogWF s.log → C06.LogWF r.s.log ∧ min s.log.flushed (p + k) ≤ r.s.log.flushed
  trace : r.s.trace = s.trace ++ (if p + k < s.log.entries.length then [cutImage s (p + k)] else [])
  tv : tv r.s = tv s
  configs : r.s.configs = cfgFold (cutCfg s (p + k)) ((es.drop k).take m)
  sync : r.syncLog = true
  index : r.index = p + k + m
  term : ∀ e, es[k + m - 1]? = some e → r.term = e.term
  done : r.err = false → k + m = es.length

/-- the loop passed over all of the request -/
structure Passed (st : AppLoop) (es : List Entry) (r : AppLoop) : Prop where
  s : r.s = st.s
  sync : r.syncLog = st.syncLog
  err : r.err = false
  index : r.index = st.index + es.length
  term : r.term = ((es.getLast?).map (·.term)).getD st.term

/-- **the entry loop in closed form**: `k` leading entries are held; then either the request is used up and the node is
untouched, or entry `k` is not held and the loop stored entries `k, …, k + m - 1` on top of the log cut there. -/
theorem appendLoop_spec (es : List Entry) : ∀ (st : AppLoop), NWF st.s →
    st.index ≤ st.s.log.entries.length → st.err = false →
    (∀ k (h : k < es.length), es[k].index = st.index + k + 1) →
    ∃ k, k ≤ es.length ∧ (∀ j (h : j < es.length), j < k → Agree st.s.log.entries (st.index + j + 1) es[j]) ∧
      ((k = es.length ∧ Passed st es (appendLoop st es)) ∨
       (∃ h : k < es.length, ¬ Agree st.s.log.entries (st.index + k + 1) es[k] ∧
          ∃ m, Spliced st.s st.index es k m (appendLoop st es))) := by
  induction es with
  | nil =>
    intro st _ _ herr _
    exact ⟨0, Nat.le_refl _, fun j h => absurd h (Nat.not_lt_zero _), Or.inl ⟨rfl, rfl, rfl, herr, rfl, rfl⟩⟩
  | cons ne rest ih =>
    intro st hn hp herr hidx
    have hne : ne.index = st.index + 1 := hidx 0 (Nat.zero_lt_succ _)
    have hidx' : ∀ k (h : k < rest.length), rest[k].index = ne.index + k + 1 := fun k hk => by
      have := hidx (k + 1) (Nat.succ_lt_succ hk)
      rw [List.getElem_cons_succ] at this
      omega
    by_cases hh : Held st.s ne
    · -- passed over: the same node, the coordinates moved on
      have hag : Agree st.s.log.entries (st.index + 1) ne := hne ▸ (held_iff hn (by omega)).1 hh
      rw [C04.held_entry_passed_over st ne rest herr hh]
      obtain ⟨k, hk, hj, hc⟩ := ih { st with index := ne.index, term := ne.term } hn (by rw [hne]; exact hag.1) herr hidx'
      dsimp only at hj hc
      refine ⟨k + 1, Nat.succ_le_succ hk, fun j h hjk => ?_, ?_⟩
      · cases j with
        | zero => exact hag
        | succ j =>
          have := hj j (Nat.lt_of_succ_lt_succ h) (Nat.lt_of_succ_lt_succ hjk)
          rw [show st.index + (j + 1) + 1 = ne.index + j + 1 by omega]; exact this
      · rcases hc with ⟨e, hpass⟩ | ⟨h, hna, m, hs⟩
        · refine Or.inl ⟨by rw [e]; rfl, hpass.s, hpass.sync, hpass.err, ?_, ?_⟩
          · rw [hpass.index]; show ne.index + rest.length = st.index + (rest.length + 1); omega
          · rw [hpass.term, List.getLast?_cons]
            cases rest.getLast? <;> rfl
        · refine Or.inr ⟨Nat.succ_lt_succ h, ?_, m, ?_⟩
          · rw [show st.index + (k + 1) + 1 = ne.index + k + 1 by omega]; exact hna
          · have e1 : st.index + (k + 1) = ne.index + k := by omega
            exact ⟨⟨hs.hm.1, by have := hs.hm.2; simp only [List.length_cons]; omega⟩, by rw [e1]; exact hs.entries,
              hs.nwf, by rw [e1]; exact hs.wf, by rw [e1]; exact hs.trace, hs.tv,
              by rw [e1]; exact hs.configs, hs.sync,
              by rw [hs.index]; omega,
              fun e he => hs.term e (by
                rw [show k + 1 + m - 1 = (k + m - 1) + 1 by have := hs.hm.1; omega, List.getElem?_cons_succ] at he
                exact he),
              fun he => by have := hs.done he; simp only [List.length_cons]; omega⟩
    · -- stored: the log is cut at `st.index`; every later entry lies beyond the log
      have hna : ¬ Agree st.s.log.entries (st.index + 0 + 1) ne := fun h => hh ((held_iff hn (by omega)).2 (hne ▸ h))
      obtain ⟨x1, x2, x3, x5, x6, x7⟩ := stored_nwf st ne st.index hn hne hp
      rw [appendLoop_not_held st ne rest herr hh]
      refine ⟨0, Nat.zero_le _, fun j _ h => absurd h (Nat.not_lt_zero _), Or.inr ⟨Nat.zero_lt_succ _, hna, ?_⟩⟩
      have hlen : (stored st ne).log.entries.length = ne.index := by
        rw [x1, List.length_append, List.length_take, Nat.min_eq_left hp, hne]; rfl
      -- one entry stored and the loop at its end (the request used up, or the entry an undecodable configuration)
      have one : ∀ (y : Node) (err : Bool), y.log = (stored st ne).log → NWF y → tv y = tv (stored st ne) →
          y.trace = (stored st ne).trace → y.configs = cfgFold (cutCfg st.s st.index) [ne] → (err = false → rest = []) →
          Spliced st.s st.index (ne :: rest) 0 1 ⟨y, ne.index, ne.term, true, err⟩ := fun y err yl yn yt ytr yc hd =>
        ⟨⟨Nat.le_refl _, Nat.succ_le_succ (Nat.zero_le _)⟩, by rw [yl, x1]; rfl, yn, yl ▸ x3,
          ytr.trans x5, yt.trans x6, yc, rfl, by show ne.index = _; omega, fun e he => by cases he; rfl,
          fun he => by rw [hd he]; rfl⟩
      -- the rest of the loop, from the node `y` that differs from `stored st ne` in the configurations at most
      have cont : ∀ y : Node, y.log = (stored st ne).log → NWF y → tv y = tv (stored st ne) →
          y.trace = (stored st ne).trace → y.configs = cfgFold (cutCfg st.s st.index) [ne] →
          ∃ m, Spliced st.s st.index (ne :: rest) 0 m (appendLoop ⟨y, ne.index, ne.term, true, st.err⟩ rest) := by
        intro y yl yn yt ytr yc
        have ylen : y.log.entries.length = ne.index := by rw [yl]; exact hlen
        obtain ⟨k, hk, hj, hc⟩ := ih ⟨y, ne.index, ne.term, true, st.err⟩ yn (Nat.le_of_eq ylen.symm) herr hidx'
        dsimp only at hj hc
        have nok : ∀ j (h : j < rest.length), ¬ Agree y.log.entries (ne.index + j + 1) rest[j] := fun j h a => by
          have := a.1; omega
        rcases hc with ⟨e, _⟩ | ⟨h, _, m, hs⟩
        · cases rest with
          | nil => exact ⟨1, one y st.err yl yn yt ytr yc fun _ => rfl⟩
          | cons r0 rs => exact absurd (hj 0 (Nat.zero_lt_succ _) (by rw [e]; exact Nat.zero_lt_succ _)) (nok 0 _)
        · have k0 : k = 0 := Nat.eq_zero_of_not_pos fun hpos => nok 0 (by omega) (hj 0 (by omega) hpos)
          subst k0
          refine ⟨m + 1, ⟨Nat.succ_le_succ (Nat.zero_le _), by have := hs.hm.2; simp only [List.length_cons]; omega⟩,
            ?_, hs.nwf, fun hl => ?_, ?_, hs.tv.trans (yt.trans x6), ?_, hs.sync, by rw [hs.index]; omega, fun e he => ?_,
            fun he => by have := hs.done he; simp only [List.length_cons]; omega⟩
          · rw [hs.entries, Nat.add_zero, ← ylen, List.take_length, yl, x1]
            simp only [Nat.add_zero, List.drop_zero, List.take_succ_cons, List.append_assoc, List.singleton_append]
          · obtain ⟨w, f⟩ := x3 hl
            have wy : C06.LogWF y.log := yl ▸ w
            obtain ⟨w', f'⟩ := hs.wf wy
            have yfl := wy.2
            unfold NLog.last at yfl
            rw [yn.prev, ylen] at yfl
            have yf : y.log.flushed = (stored st ne).log.flushed := by rw [yl]
            exact ⟨w', by omega⟩
          · rw [hs.trace, if_neg (by omega), List.append_nil, ytr, x5]; rfl
          · rw [hs.configs]
            unfold cutCfg
            rw [if_neg (fun h => by have := h.1; omega), yc]
            rfl
          · refine hs.term e ?_
            have hm1 := hs.hm.1
            rw [show 0 + (m + 1) - 1 = (0 + m - 1) + 1 by omega, List.getElem?_cons_succ] at he
            exact he
      by_cases ht : ne.typ = etConfig
      · rw [if_pos ht]
        cases hcf : ne.config? with
        | none => exact ⟨1, one _ true rfl x2 rfl rfl (by unfold cfgFold; rw [List.foldl_cons, hcf]; exact x7)
            fun h => by cases h⟩
        | some c =>
          have yl : ((stored st ne).changeConfigR c).log = (stored st ne).log := by rw [changeConfigR_shape]
          exact cont _ yl (nwf_congr x2 yl (by rw [changeConfigR_shape]) (by rw [changeConfigR_shape])
            (by rw [changeConfigR_shape]) (by rw [changeConfigR_shape])) (by rw [changeConfigR_shape]; rfl)
            (changeConfigR_trace _ c)
            (by unfold cfgFold; rw [List.foldl_cons, hcf, changeConfigR_shape, x7]; rfl)
      · rw [if_neg ht]
        refine cont _ rfl x2 rfl rfl ?_
        unfold cfgFold
        rw [List.foldl_cons, Entry.config?_none_of_typ ht]
        exact x7

/-- what the specification looks at: the log with its cached coordinates, the snapshot, term and vote, the crash points,
the identity (all of `durable`) -/
def lobs (s : Node) : NLog × Nat × Nat × Nat × List SnapFile × (Nat × Nat × Nat × Nat) × List (String × Durable) × Nat × Nat :=
  (s.log, s.lastLogIndex, s.lastLogTerm, s.snapIndex, s.snapsDisk, tv s, s.trace, s.cid, s.nid)

theorem fsmFrame_lobs : FsmFrame lobs :=
  ⟨fun s site => by rw [panic_shape]; rfl, fun s t r => by rw [reply_shape]; rfl, fun _ _ => rfl⟩

theorem lobs_ret (s : Node) (r : Nat) : lobs (s.ret r) = lobs s := rfl

theorem lobs_commitApply (s : Node) (i : Nat) : lobs (s.setCommitIndexR i).1.applyCommitted = lobs s := by
  rw [fsmFrame_lobs.applyCommitted_eq, setCommitIndexR_shape]; rfl

theorem lobs_parts {s s' : Node} (e : lobs s' = lobs s) :
    s'.log = s.log ∧ tv s' = tv s ∧ s'.trace = s.trace ∧ s'.durable = s.durable ∧ (NWF s → NWF s') := by
  unfold lobs at e
  simp only [Prod.mk.injEq] at e
  obtain ⟨e1, e2, e3, e4, e5, e6, e7, e8, e9⟩ := e
  refine ⟨e1, e6, e7, ?_, fun h => nwf_congr h e1 e2 e3 e4 e5⟩
  unfold tv at e6
  simp only [Prod.mk.injEq] at e6
  unfold Node.durable
  rw [e1, e5, e8, e9, e6.2.2.1, e6.2.2.2]

/-- **the consistency check**: nothing the specification looks at changes; the check refuses, or the request is anchored in
the log at `(prevLogIndex, prevLogTerm)` -/
theorem appendCheck_nwf (s : Node) (q : AppendReq) (hn : NWF s) :
    lobs (s.appendCheck q) = lobs s ∧
    ((((s.appendCheck q).result = rPrevEntryNotFound ∨ (s.appendCheck q).result = rPrevTermMismatch) ∧
        (s.appendCheck q).commitIndex = s.commitIndex) ∨
     ((s.appendCheck q).result = 0 ∧ q.prevLogIndex ≤ s.log.entries.length ∧
      (1 ≤ q.prevLogIndex → termAt s.log.entries q.prevLogIndex = q.prevLogTerm))) := by
  have hx : ∀ {x}, Looked s q x → lobs x = lobs s ∧ x.commitIndex = s.commitIndex := fun hl => by
    rcases hl.eq with rfl | rfl
    · exact ⟨rfl, rfl⟩
    · exact ⟨fsmFrame_lobs.panic _ _, by rw [panic_shape]⟩
  have anch : s.snapIndex < q.prevLogIndex → q.prevLogIndex ≤ s.lastLogIndex →
      q.prevLogTerm = (if q.prevLogIndex = s.lastLogIndex then s.lastLogTerm else (s.entryTerm? q.prevLogIndex).getD 0) →
      q.prevLogIndex ≤ s.log.entries.length ∧ (1 ≤ q.prevLogIndex → termAt s.log.entries q.prevLogIndex = q.prevLogTerm) :=
    fun hsn hle ht => by
      have hle' : q.prevLogIndex ≤ s.log.entries.length := by rw [← hn.last]; exact hle
      refine ⟨hle', fun _ => ?_⟩
      rw [ht]
      split
      · rename_i heq
        rw [heq, hn.last, hn.lastT, termAt_length]
      · rw [hn.entryTerm q.prevLogIndex (by rw [hn.snapIndex] at hsn; omega) hle']
        rfl
  refine appendCheck_cases s q (P := fun y => lobs y = lobs s ∧
      (((y.result = rPrevEntryNotFound ∨ y.result = rPrevTermMismatch) ∧ y.commitIndex = s.commitIndex) ∨
       (y.result = 0 ∧ q.prevLogIndex ≤ s.log.entries.length ∧
        (1 ≤ q.prevLogIndex → termAt s.log.entries q.prevLogIndex = q.prevLogTerm))))
    (fun x r hl ha => ⟨(lobs_ret _ _).trans (hx hl).1, ?_⟩) fun x hl hsn hle ht _ =>
      ⟨(lobs_ret _ _).trans ((lobs_commitApply x _).trans (hx hl).1), Or.inr ⟨rfl, anch hsn hle ht⟩⟩
  cases ha with
  | covered h =>
    rw [hn.snapIndex] at h
    exact Or.inr ⟨rfl, by omega, fun h1 => absurd h1 (by omega)⟩
  | notFound _ => exact Or.inl ⟨Or.inl rfl, (hx hl).2⟩
  | mismatch _ _ _ => exact Or.inl ⟨Or.inr rfl, (hx hl).2⟩
  | matched hsn hle ht => exact Or.inr ⟨rfl, anch hsn hle ht⟩

/-- term and vote, in memory and on disk, once the request's term is adopted -/
def tvAfter (b : Node) (q : AppendReq) : Nat × Nat × Nat × Nat := if q.term > b.term then (q.term, 0, q.term, 0) else tv b

/-- the crash point of adopting the request's term -/
def termImage (b : Node) (q : AppendReq) : List (String × Durable) :=
  if q.term > b.term ∧ ¬ (q.term = b.durTerm ∧ 0 = b.durVote)
  then [("value.set", { b.durable with term := q.term, vote := 0 })] else []

theorem followPre_nwf (b : Node) (q : AppendReq) :
    (followPre b q.term q.src).log = b.log ∧ (followPre b q.term q.src).lastLogIndex = b.lastLogIndex ∧
    (followPre b q.term q.src).lastLogTerm = b.lastLogTerm ∧ (followPre b q.term q.src).snapIndex = b.snapIndex ∧
    (followPre b q.term q.src).snapsDisk = b.snapsDisk ∧ (followPre b q.term q.src).cid = b.cid ∧
    (followPre b q.term q.src).nid = b.nid ∧ tv (followPre b q.term q.src) = tvAfter b q ∧
    (followPre b q.term q.src).trace = b.trace ++ termImage b q := by
  have L : lobs (followPre b q.term q.src) =
      (b.log, b.lastLogIndex, b.lastLogTerm, b.snapIndex, b.snapsDisk, tvAfter b q, b.trace ++ termImage b q, b.cid, b.nid) := by
    have fr : ∀ x : Node, lobs ((x.setRole .follower).setLeader q.src) = lobs x := fun _ => rfl
    unfold followPre tvAfter termImage
    rw [fr]
    by_cases h : q.term > b.term
    · have e : b.setTerm q.term = b.storeTermVote q.term 0 := by unfold Node.setTerm; rw [if_pos (by omega), if_pos h]
      rw [if_pos h, if_pos h]
      show lobs (b.setTerm q.term) = _
      unfold lobs tv
      rw [setTerm_trace, e, (storeTermVote_dur b q.term 0).1, (storeTermVote_dur b q.term 0).2, storeTermVote_shape]
    · rw [if_neg h, if_neg h, if_neg (fun x => h x.1), List.append_nil]
      rfl
  unfold lobs at L
  simp only [Prod.mk.injEq] at L
  obtain ⟨l1, l2, l3, l4, l5, l6, l7, l8, l9⟩ := L
  exact ⟨l1, l2, l3, l4, l5, l8, l9, l6, l7⟩

/-- the crash point of the cut, seen from the state `b` the handler started in -/
def cutImageOf (b : Node) (q : AppendReq) (n : Nat) : String × Durable :=
  ("removeGTE", { b.durable with term := (tvAfter b q).2.2.1, vote := (tvAfter b q).2.2.2,
                                 log := (b.log.removeGTE (n + 1)).durable })

/-- the log is the one of `b` and no storage operation followed the adoption of the term -/
structure Untouched (b : Node) (q : AppendReq) (r : Node) : Prop where
  log : r.log = b.log
  trace : r.trace = b.trace ++ termImage b q
  ci : r.commitIndex = b.commitIndex ∨ r.commitIndex = q.prevLogIndex

/-- entries `k, …, k + m - 1` of the request were stored on top of the log cut at `prevLogIndex + k`, and flushed -/
structure StoredFrom (b : Node) (q : AppendReq) (k m : Nat) (r : Node) : Prop where
  hm : 1 ≤ m ∧ k + m ≤ q.entries.length
  entries : r.log.entries = b.log.entries.take (q.prevLogIndex + k) ++ (q.entries.drop k).take m
  flushed : C06.LogWF b.log → r.log.flushed = r.log.entries.length
  trace : r.trace = b.trace ++ termImage b q ++
    (if q.prevLogIndex + k < b.log.entries.length then [cutImageOf b q (q.prevLogIndex + k)] else []) ++
    [("commitLog", r.durable)]
  result : (r.result = rSuccess ∧ k + m = q.entries.length) ∨ r.result = rUnexpectedErr
  ci : r.commitIndex = b.commitIndex ∨ r.commitIndex = q.prevLogIndex ∨ r.commitIndex = q.prevLogIndex + k + m

theorem commitLog_nwf {x : Node} (hx : NWF x) :
    NWF (x.commitLog x.lastLogIndex) ∧
    (C06.LogWF x.log → C06.LogWF (x.commitLog x.lastLogIndex).log ∧
      (x.commitLog x.lastLogIndex).log.flushed = x.log.entries.length) ∧
    (x.commitLog x.lastLogIndex).log.entries = x.log.entries ∧ tv (x.commitLog x.lastLogIndex) = tv x ∧
    (x.commitLog x.lastLogIndex).trace = x.trace ++ [("commitLog", (x.commitLog x.lastLogIndex).durable)] := by
  obtain ⟨p1, p2⟩ := commitN_parts x.log x.lastLogIndex
  have hlast : x.log.last = x.log.entries.length := by unfold NLog.last; rw [hx.prev]; omega
  refine ⟨nwf_same_entries hx p1 p2 rfl rfl rfl rfl, fun hl => ?_, p2, rfl, rfl⟩
  obtain ⟨w, _, w3⟩ := logwf_commitN x.log x.lastLogIndex hl
  refine ⟨w, ?_⟩
  show (x.log.commitN x.lastLogIndex).flushed = _
  have h2 := w.2
  unfold NLog.last at h2
  rw [p1, p2, hx.prev] at h2
  have := hx.last
  omega

/-- **`onAppendEntriesRequest` in closed form**, for a request that is not stale: the term is adopted (one crash point);
the check refuses, or the request is anchored at `(prevLogIndex, prevLogTerm)`, `k` leading entries are held, and either
that is all of them (nothing is touched) or entry `k` is not held and entries `k, …, k + m - 1` replace what the log
held from `prevLogIndex + k + 1` on (the cut and the final flush are the two further crash points). -/
theorem onAppendEntries_spec (b : Node) (q : AppendReq) (hn : NWF b)
    (hidx : ∀ k (h : k < q.entries.length), q.entries[k].index = q.prevLogIndex + k + 1) (hst : ¬ q.term < b.term) :
    NWF (b.onAppendEntries q) ∧ (C06.LogWF b.log → C06.LogWF (b.onAppendEntries q).log) ∧
    tv (b.onAppendEntries q) = tvAfter b q ∧
    ((((b.onAppendEntries q).result = rPrevEntryNotFound ∨ (b.onAppendEntries q).result = rPrevTermMismatch) ∧
        Untouched b q (b.onAppendEntries q) ∧ (b.onAppendEntries q).commitIndex = b.commitIndex) ∨
     (q.prevLogIndex ≤ b.log.entries.length ∧
      (1 ≤ q.prevLogIndex → termAt b.log.entries q.prevLogIndex = q.prevLogTerm) ∧
      ∃ k, k ≤ q.entries.length ∧
        (∀ j (h : j < q.entries.length), j < k → Agree b.log.entries (q.prevLogIndex + j + 1) q.entries[j]) ∧
        ((k = q.entries.length ∧ (b.onAppendEntries q).result = rSuccess ∧ Untouched b q (b.onAppendEntries q)) ∨
         (∃ h : k < q.entries.length, ¬ Agree b.log.entries (q.prevLogIndex + k + 1) q.entries[k] ∧
            ∃ m, StoredFrom b q k m (b.onAppendEntries q))))) := by
  rw [onAppendEntries_stages, if_neg hst]
  obtain ⟨f1, f2, f3, f4, f5, f6, f7, f8, f9⟩ := followPre_nwf b q
  have hn0 : NWF (followPre b q.term q.src) := nwf_congr hn f1 f2 f3 f4 f5
  have c0 : (followPre b q.term q.src).commitIndex = b.commitIndex := followPre_commitIndex b q.term q.src
  have d0 : (followPre b q.term q.src).durable =
      { b.durable with term := (tvAfter b q).2.2.1, vote := (tvAfter b q).2.2.2 } := by
    unfold tv at f8
    simp only [← f8]
    unfold Node.durable
    rw [f1, f5, f6, f7]
  obtain ⟨e3, hres⟩ := appendCheck_nwf (followPre b q.term q.src) q hn0
  have c3 : ((followPre b q.term q.src).appendCheck q).commitIndex = b.commitIndex ∨
      ((followPre b q.term q.src).appendCheck q).commitIndex = q.prevLogIndex := by
    rcases C02.follower_commit_rule_check (followPre b q.term q.src) q with h | ⟨_, h, _⟩
    · exact Or.inl (h.trans c0)
    · exact Or.inr h
  generalize (followPre b q.term q.src).appendCheck q = s3 at e3 hres c3 ⊢
  obtain ⟨g1, g2, g3, g4, g5⟩ := lobs_parts e3
  have hn3 : NWF s3 := g5 hn0
  have l3 : s3.log = b.log := g1.trans f1
  have un3 : Untouched b q s3 := ⟨l3, g3.trans f9, c3⟩
  rcases hres with ⟨hr, hrc⟩ | ⟨hr0, anch1, anch2⟩
  · rw [if_pos (by rcases hr with h | h <;> rw [h] <;> decide)]
    exact ⟨hn3, fun hl => l3 ▸ hl, g2.trans f8, Or.inl ⟨hr, un3, hrc.trans c0⟩⟩
  rw [if_neg (fun h => h hr0)]
  rw [f1] at anch1 anch2
  obtain ⟨k, hk, hj, hc⟩ := appendLoop_spec q.entries ⟨s3, q.prevLogIndex, q.prevLogTerm, false, false⟩ hn3
    (by rw [l3]; exact anch1) rfl hidx
  dsimp only at hj hc
  rw [l3] at hj hc
  have c4 := (C02.appendLoop_commitIndex ⟨s3, q.prevLogIndex, q.prevLogTerm, false, false⟩ q.entries).1
  generalize appendLoop ⟨s3, q.prevLogIndex, q.prevLogTerm, false, false⟩ q.entries = st at hc c4 ⊢
  have c4' : st.s.commitIndex = s3.commitIndex := c4
  refine (fun (X : _ ∧ _ ∧ _ ∧ _) => ⟨X.1, X.2.1, X.2.2.1, Or.inr ⟨anch1, anch2, k, hk, hj, X.2.2.2⟩⟩) ?_
  rcases hc with ⟨ek, hpass⟩ | ⟨h, hna, m, hs⟩
  · -- nothing stored: no flush, no commit beyond the check's
    have er : afterLoop q st = s3.ret rSuccess := by
      unfold afterLoop
      rw [hpass.sync, hpass.err, hpass.s, if_neg (fun x => by cases x.2)]
      rfl
    rw [er]
    exact ⟨nwf_congr hn3 rfl rfl rfl rfl rfl, fun hl => (show C06.LogWF s3.log from l3 ▸ hl), g2.trans f8,
      Or.inl ⟨ek, rfl, ⟨un3.log, un3.trace, un3.ci⟩⟩⟩
  · -- stored: the flush, then at most a commit
    obtain ⟨n6, w6, e6, t6, tr6⟩ := commitLog_nwf hs.nwf
    have hl3 : C06.LogWF b.log → C06.LogWF st.s.log := fun hl => (hs.wf (l3 ▸ hl)).1
    have hne : (!q.entries.isEmpty) = true := by
      cases hq : q.entries with
      | nil => rw [hq] at h; exact absurd h (Nat.not_lt_zero _)
      | cons _ _ => rfl
    have er : ∃ y : Node, lobs y = lobs (st.s.commitLog st.s.lastLogIndex) ∧
        afterLoop q st = y.ret (if st.err then rUnexpectedErr else rSuccess) := by
      unfold afterLoop
      rw [if_pos ⟨hne, hs.sync⟩]
      split
      · exact ⟨_, lobs_commitApply _ _, rfl⟩
      · exact ⟨_, rfl, rfl⟩
    obtain ⟨y, ey, er⟩ := er
    obtain ⟨y1, y2, y3, y4, y5⟩ := lobs_parts ey
    have ci := C02.afterLoop_commitIndex q st
    rw [er] at ci ⊢
    have tr3 : s3.trace = b.trace ++ termImage b q := g3.trans f9
    have ecut : cutImage s3 (q.prevLogIndex + k) = cutImageOf b q (q.prevLogIndex + k) := by
      unfold cutImage cutImageOf
      rw [g4, d0, l3]
    refine ⟨nwf_congr (y5 n6) rfl rfl rfl rfl rfl, fun hl => by show C06.LogWF y.log; rw [y1]; exact (w6 (hl3 hl)).1, ?_, Or.inr ⟨h, hna, m, hs.hm, ?_, ?_, ?_, ?_, ?_⟩⟩
    · show tv y = _
      rw [y2, t6, hs.tv, g2, f8]
    · show y.log.entries = _
      rw [y1, e6, hs.entries, l3]
    · intro hl
      show y.log.flushed = y.log.entries.length
      rw [y1, (w6 (hl3 hl)).2, e6]
    · show y.trace = _ ++ [("commitLog", y.durable)]
      rw [y3, tr6, hs.trace, tr3, l3, ecut, y4]
    · show ((if st.err then rUnexpectedErr else rSuccess) = rSuccess ∧ _) ∨ (if st.err then rUnexpectedErr else rSuccess) = _
      cases he : st.err with
      | false => exact Or.inl ⟨rfl, hs.done he⟩
      | true => exact Or.inr rfl
    · rcases ci with c | ⟨_, c⟩
      · rw [c, c4']
        exact c3.elim Or.inl fun x => Or.inr (Or.inl x)
      · exact Or.inr (Or.inr (c.trans hs.index))

end FollowerSpec
end Raft
