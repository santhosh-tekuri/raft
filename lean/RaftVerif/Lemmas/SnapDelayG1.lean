/-
A GUARDED closure framework for the mutually recursive leader block (used for delayed compaction).

`Node.Closed` (Lemmas/Inv.lean) asks of a predicate that it survives ANY replacement of the leader record
(`ldr : ∀ s l, Inv s → Inv (s.withLdr l)`), so it cannot say anything about `ldr.removeLTE` or the replication statuses.
`Node.ClosedG` asks instead for the two updates of the leader record the leader block actually performs:
* `ldrK`   — a new record with the SAME compaction bound and the SAME replication table (queue, transfer, waiting tasks,
             cached node and voter count);
* `replsG` — a new replication table in which every status either holds the leader's bound (`addReplication`) or has the
             id and the `removeLTE` of a status of the old table (`setRepl` of a modified status, the removal of
             replications, the bookkeeping of rounds).
`ClosedG.block`: such a predicate is preserved by the whole block, any budget (`Guarded.block`, whose walk discharges
these guards at every update of the leader record).
-/
import RaftVerif.Lemmas.LeaderCache

namespace Raft
namespace Node

structure ClosedG (Inv : Node → Prop) : Prop where
  panic : ∀ s site, Inv s → Inv (s.panic site)
  reply : ∀ s t r, Inv s → Inv (s.reply t r)
  point : ∀ s n, Inv s → Inv (s.point n)
  ldrK : ∀ (s : Node) l, Inv s → l.removeLTE = s.ldr.removeLTE → l.repls = s.ldr.repls → Inv (s.withLdr l)
  replsG : ∀ (s : Node) rs, Inv s →
    (∀ r ∈ rs, r.removeLTE = s.ldr.removeLTE ∨ ∃ r1 ∈ s.ldr.repls, r1.id = r.id ∧ r1.removeLTE = r.removeLTE) →
    Inv (s.withLdr { s.ldr with repls := rs })
  append : ∀ (s : Node) e roll, Inv s →
    Inv { s with log := s.log.append e roll, lastLogIndex := e.index, lastLogTerm := e.term }
  commitN : ∀ (s : Node) n, Inv s → Inv { s with log := s.log.commitN n }
  fsm : ∀ (s : Node) f, Inv s → Inv (s.withFsm f)
  changeConfigR : ∀ (s : Node) c, Inv s → Inv (s.changeConfigR c)
  /-- the commit index only ever moves forward: every call site has checked `i > commitIndex` -/
  setCommitIndexR : ∀ (s : Node) i, Inv s → i > s.commitIndex → Inv (s.setCommitIndexR i).1
  popOrder : ∀ (s : Node), Inv s → Inv s.popOrder

namespace ClosedG

variable {Inv : Node → Prop} (h : ClosedG Inv)
include h

/-- the guards on the leader record are those of `Guarded` without the one on the transfer record -/
theorem toGuarded : Guarded Inv where
  panic := h.panic
  reply := h.reply
  point := h.point
  ldrK := fun s l hs e1 e2 _ => h.ldrK s l hs e1 e2
  replsG := h.replsG
  appendEntry := fun s e hs _ _ => appendEntry_of h.panic h.append s e hs
  commitN := h.commitN
  fsmLog := fsmApplyLogTo_of h.panic h.fsm
  fsmItems := fsmApplyItems_of h.panic h.fsm h.reply
  changeConfigR := h.changeConfigR
  setCommitIndexR := h.setCommitIndexR
  popOrder := h.popOrder

theorem assert_inv (s : Node) (b : Bool) (site : String) (hs : Inv s) : Inv (s.assert b site) :=
  assert_of h.panic s b site hs

theorem appendEntry_inv (s : Node) (e : Entry) (hs : Inv s) : Inv (s.appendEntry e) :=
  appendEntry_of h.panic h.append s e hs

theorem commitLog_inv (s : Node) (n : Nat) (hs : Inv s) : Inv (s.commitLog n) :=
  h.toGuarded.commitLog_inv s n hs

theorem setRepl_keep (s : Node) (r st : Repl) (hs : Inv s) (hst : st ∈ s.ldr.repls) (hid : r.id = st.id)
    (hrm : r.removeLTE = st.removeLTE) : Inv (s.setRepl r) :=
  h.toGuarded.setRepl_inv s r hs (.of_mem hst hid hrm)

theorem addReplication_inv (s : Node) (n : CNode) (hs : Inv s) : Inv (s.addReplication n) :=
  h.toGuarded.addReplication_inv s n hs

theorem fsmApply_inv (s : Node) (qs : List QItem) (hs : Inv s) : Inv (s.fsmApply qs) :=
  h.toGuarded.fsmApply_inv s qs hs

omit h in
theorem foldl_inv {β : Type} (f : Node → β → Node) (hf : ∀ s x, Inv s → Inv (f s x))
    (xs : List β) (s : Node) (hs : Inv s) : Inv (xs.foldl f s) :=
  Guarded.foldl_inv f hf xs s hs

theorem block : ∀ fuel : Nat,
    (∀ s b, Inv s → Inv (storeEntry fuel s b)) ∧
    (∀ s b, Inv s → Inv (storeItems fuel s b)) ∧
    (∀ s c, Inv s → Inv (changeConfigL fuel s c)) ∧
    (∀ s t c, Inv s → Inv (doChangeConfig fuel s t c)) ∧
    (∀ s t c, Inv s → Inv (checkConfigActions fuel s t c)) ∧
    (∀ s t c id, Inv s → Inv (checkConfigAction fuel s t c id)) ∧
    (∀ s i, Inv s → i > s.commitIndex → Inv (setCommitIndexL fuel s i)) ∧
    (∀ s, Inv s → Inv (onMajorityCommit fuel s)) := fun fuel =>
  have B := h.toGuarded.block fuel
  ⟨B.storeEntry, B.storeItems, B.changeConfigL, B.doChangeConfig, B.checkConfigActions, B.checkConfigAction,
    B.setCommitIndexL, B.onMajorityCommit⟩

end ClosedG
end Node
end Raft
