/-
C16 with membership changes, node level, part A — **while a transfer is in progress the leader block appends nothing**.

`SysMore.TClosed` (Lemmas/SysMore.lean, Part 3) carries facts about the leader's transfer record through the mutually
recursive leader block, but asks for closure under an UNGUARDED `storage.appendEntry` / `Raft.changeConfig`, so it cannot
carry "the log is as it was". `AClosed` is the same record with these two primitives REMOVED and replaced by `idle`: the
predicate holds of every state in which no transfer is in progress. It is an instance of the one walk
(`AClosed.toAt : Node.GuardedAt …`): the fields of `GuardedAt` that queue an item and append its entry quote what
`leader.storeEntry` has tested just before (`if l.transfer.inProgress() { reply InProgressError("transferLeadership") }`),
and the block never writes the transfer record (`SysMore.teq_step`), so what they produce is `idle`.

Instance: `Frozen b` — "if a transfer is in progress, the log (entries, first index), the last index / term and the
LATEST configuration are those of `b`".
-/
import RaftVerif.Lemmas.SysMore

namespace Raft
namespace TransferMember
open Node SysMore


structure AClosed (Inv : Node → Prop) : Prop where
  panic : ∀ s site, Inv s → Inv (s.panic site)
  reply : ∀ s t r, Inv s → Inv (s.reply t r)
  point : ∀ s n, Inv s → Inv (s.point n)
  /-- the leader record is replaced by one with THE SAME transfer record -/
  ldr : ∀ (s : Node) l, Inv s → l.transfer = s.ldr.transfer → Inv (s.withLdr l)
  commitN : ∀ (s : Node) n, Inv s → Inv { s with log := s.log.commitN n }
  fsm : ∀ (s : Node) f, Inv s → Inv (s.withFsm f)
  setCommitIndexR : ∀ (s : Node) i, Inv s → Inv (s.setCommitIndexR i).1
  popOrder : ∀ (s : Node), Inv s → Inv s.popOrder
  /-- the predicate says nothing about a state without a transfer in progress -/
  idle : ∀ s : Node, s.ldr.transfer.active = false → Inv s

theorem teq_enq (s : Node) (q : QItem) : TEq s ((s.enq (s.stamp q)).appendEntry (s.stamp q).toEntry) :=
  (teq_step s).toTClosed.appendEntry_inv _ _ ((teq_step s).toTClosed.ldr s _ rfl rfl)

namespace AClosed

variable {Inv : Node → Prop} (h : AClosed Inv)
include h

theorem setRepl_inv (s : Node) (r : Repl) (hs : Inv s) : Inv (s.setRepl r) := by
  unfold Node.setRepl; exact h.ldr _ _ hs rfl

/-- an update the block makes after `storeItems` has found no transfer in progress: it keeps the transfer record
(`SysMore.teq_step`), so the result is `idle` -/
theorem idle_of {s x : Node} (ha : s.ldr.transfer.active = false) (e : TEq s x) : Inv x :=
  h.idle x ((congrArg Transfer.active e).trans ha)

/-- the updates of the leader block (`Node.GuardedAt`); between the append of a configuration entry and its adoption
nothing is claimed but that no transfer is in progress -/
theorem toAt : GuardedAt Inv Inv (fun _ s => s.ldr.transfer.active = false) where
  panic := h.panic
  reject := fun s _ r hs _ => h.reply s _ r hs
  stable := fun s t hs => h.reply s t _ hs
  popOrder := h.popOrder
  ldrK := fun s l hs _ _ _ _ _ e _ => h.ldr s l hs e
  setRound := fun s _ _ _ hs _ => h.setRepl_inv s _ hs
  beginFinishedRounds := fun s hs => by unfold Node.beginFinishedRounds; exact h.ldr _ _ hs rfl
  enqueue := fun s _ hs _ _ _ => h.ldr s _ hs rfl
  enqueueLog := fun s q _ _ ha _ _ => h.idle_of ha (teq_enq s q)
  enqueueCfg := fun s q _ _ _ ha _ => (congrArg Transfer.active (teq_enq s q)).trans ha
  decodeFail := fun s q site _ _ ha _ _ => h.idle_of ha ((teq_step s).toTClosed.panic _ site (teq_enq s q))
  configSync := fun s c ha => h.idle_of ha ((teq_step s).toTClosed.toGuarded.toAt.configSync s c rfl)
  prePanic := fun s _ site ha => h.idle_of ha ((teq_step s).toTClosed.panic s site rfl)
  commitLog := fun s n hs => by unfold Node.commitLog; exact h.point _ _ (h.commitN _ _ hs)
  commitR := fun s i hs _ => h.setCommitIndexR s i hs
  applyL := fun s hs => by
    unfold Node.applyCommittedL Node.fsmApply
    have h1 := h.ldr s { s.ldr with queue := (splitQueue s.commitIndex s.ldr.queue).2 } hs rfl
    refine ite_ind (fun _ => h.panic _ _ h1) fun _ => ite_ind (fun _ => h.panic _ _ h1) fun _ => ?_
    exact assert_of h.panic _ _ _
      (fsmApplyItems_of h.panic h.fsm h.reply _ _ (fsmApplyLogTo_of h.panic h.fsm _ _ h1))

theorem block (f : Nat) : Block Inv Inv (fun _ s => s.ldr.transfer.active = false) f := h.toAt.block h.toAt f

theorem storeEntry_inv (f : Nat) (s : Node) (b) (hs : Inv s) : Inv (storeEntry f s b) := (h.block f).storeEntry s b hs
theorem doChangeConfig_inv (f : Nat) (s : Node) (t c) (hs : Inv s) : Inv (doChangeConfig f s t c) :=
  (h.block f).doChangeConfig s t c hs
theorem checkConfigActions_inv (f : Nat) (s : Node) (t c) (hs : Inv s) : Inv (checkConfigActions f s t c) :=
  (h.block f).checkConfigActions s t c hs
theorem checkConfigAction_inv (f : Nat) (s : Node) (t c id) (hs : Inv s) : Inv (checkConfigAction f s t c id) :=
  (h.block f).checkConfigAction s t c id hs
theorem onMajorityCommit_inv (f : Nat) (s : Node) (hs : Inv s) : Inv (onMajorityCommit f s) :=
  (h.block f).onMajorityCommit s hs

end AClosed

def lq (s : Node) : List Entry × Nat × Nat × Nat × Config :=
  (s.log.entries, s.log.prev, s.lastLogIndex, s.lastLogTerm, s.configs.latest)

theorem lq_eq {s s' : Node} (h : lq s' = lq s) :
    s'.log.entries = s.log.entries ∧ s'.log.prev = s.log.prev ∧ s'.lastLogIndex = s.lastLogIndex ∧
    s'.lastLogTerm = s.lastLogTerm ∧ s'.configs.latest = s.configs.latest := by
  unfold lq at h
  simp only [Prod.mk.injEq] at h
  exact h

def Frozen (b s : Node) : Prop := s.ldr.transfer.active = true → lq s = lq b

theorem frozen_congr {b s s' : Node} (h : Frozen b s) (e1 : lq s' = lq s) (e2 : s'.ldr = s.ldr) : Frozen b s' := by
  intro ha
  rw [e1]
  exact h (by rw [← e2]; exact ha)

theorem lq_panic (s : Node) (site : String) : lq (s.panic site) = lq s := by
  rw [Node.panic_shape]; rfl

theorem lq_reply (s : Node) (t : Nat) (r : String) : lq (s.reply t r) = lq s := by
  rw [Node.reply_shape]; rfl

theorem lq_commitN (s : Node) (n : Nat) : lq { s with log := s.log.commitN n } = lq s := by
  unfold NLog.commitN lq
  dsimp only
  split <;> rfl

theorem lq_setCommitIndexR (s : Node) (i : Nat) : lq (s.setCommitIndexR i).1 = lq s := by
  unfold lq
  rw [Node.setCommitIndexR_latest, Node.setCommitIndexR_shape]

theorem ldr_setCommitIndexR (s : Node) (i : Nat) : (s.setCommitIndexR i).1.ldr = s.ldr := by
  rw [Node.setCommitIndexR_shape]

theorem frozen_closed (b : Node) : AClosed (Frozen b) where
  panic := fun s site h => frozen_congr h (lq_panic s site) (ldr_panic s site)
  reply := fun s t r h => frozen_congr h (lq_reply s t r) (ldr_reply s t r)
  point := fun s n h => frozen_congr h rfl rfl
  ldr := fun s l h hg => by
    intro ha
    exact h (by rw [← hg]; exact ha)
  commitN := fun s n h => frozen_congr h (lq_commitN s n) rfl
  fsm := fun s f h => frozen_congr h rfl rfl
  setCommitIndexR := fun s i h => frozen_congr h (lq_setCommitIndexR s i) (ldr_setCommitIndexR s i)
  popOrder := fun s h => frozen_congr h rfl rfl
  idle := fun s h0 ha => by rw [h0] at ha; cases ha

end TransferMember
end Raft
