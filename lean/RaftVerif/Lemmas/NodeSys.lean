/-
A cluster seen from ONE of its nodes. Every cluster system of this development (`Election`, `Replication`, `Commit`,
`SysInv.TransG`, `C07Sys`, `Member`, `Snap*`) keeps its nodes in a map of which a transition replaces one entry
(`Election.setNode`): the node handled an operation to completion, or it died inside one and restarted. A proof looks at
the map through `forall_setNode` (`forall_of_other` when the new map is given by its two equations); `Move` says what a
transition did to a node, and a per-node predicate is carried over a transition by `Move.keeps`, along a run by `Run.keeps`.
-/
import RaftVerif.Sys.Election

namespace Raft
namespace NodeSys
open Election (setNode setNode_same setNode_other)

theorem forall_of_other {P : Nat → Node → Prop} {N M : Nat → Node} {i : Nat} {n : Node} (e : N i = n)
    (oth : ∀ j, j ≠ i → N j = M j) (hi : P i n) (ho : ∀ j, j ≠ i → P j (M j)) : ∀ j, P j (N j) := by
  intro j
  by_cases hj : j = i
  · subst hj; rw [e]; exact hi
  · rw [oth j hj]; exact ho j hj

theorem forall_setNode {P : Nat → Node → Prop} {f : Nat → Node} {i : Nat} {n : Node}
    (hi : P i n) (ho : ∀ j, j ≠ i → P j (f j)) : ∀ j, P j (setNode f i n j) :=
  forall_of_other (setNode_same _ _ _) (fun _ hj => setNode_other _ _ _ _ hj) hi ho

/-- `post` is what a transition made of `pre`: nothing; or the node handled an operation of which `S` is known to
completion; or it died at storage point `k` of handling an operation of which `C · k` is known, and restarted. -/
inductive Move (S : Op → Prop) (C : Op → Nat → Prop) (pre post : Node) : Prop
  | same : post = pre → Move S C pre post
  | step (op : Op) (ra : List Nat) (ord : List (List Nat)) : S op → post = pre.step op ra ord → Move S C pre post
  | restart (op : Op) (ra : List Nat) (ord : List (List Nat)) (k retain : Nat) (sor : Bool) : C op k →
      Node.restart (C05.crashDisk pre op ra ord k) retain sor = some post → Move S C pre post

theorem move_setNode {S : Nat → Op → Prop} {C : Nat → Op → Nat → Prop} {f : Nat → Node} {i : Nat} {n : Node}
    (hi : Move (S i) (C i) (f i) n) : ∀ j, Move (S j) (C j) (f j) (setNode f i n j) :=
  forall_setNode (P := fun j m => Move (S j) (C j) (f j) m) hi (fun _ _ => .same rfl)

/-- a predicate that every enabled step keeps and every restart establishes survives a move -/
theorem Move.keeps {S : Op → Prop} {C : Op → Nat → Prop} {pre post : Node} {P : Node → Prop}
    (m : Move S C pre post) (h : P pre)
    (hs : ∀ op ra ord, S op → P (pre.step op ra ord))
    (hc : ∀ op ra ord k retain sor, C op k → Node.restart (C05.crashDisk pre op ra ord k) retain sor = some post →
      P post) : P post := by
  cases m with
  | same e => rw [e]; exact h
  | step op ra ord hS e => rw [e]; exact hs op ra ord hS
  | restart op ra ord k retain sor hC e => exact hc op ra ord k retain sor hC e

/-- A transition system whose states hold a map of nodes (instance: `SysInv.clusterG`). -/
structure Cluster (σ : Type) where
  node : σ → Nat → Node
  Trans : σ → σ → Prop
  /-- the side condition every state of a run satisfies -/
  Side : σ → Prop
  /-- `S x j op`: what is known of an operation `op` that node `j` handles to completion in state `x` -/
  S : σ → Nat → Op → Prop
  /-- `C x j op k`: what is known of an operation `op` in which node `j` dies at storage point `k` in state `x` -/
  C : σ → Nat → Op → Nat → Prop
  move : ∀ {x y : σ}, Trans x y → ∀ j, Move (S x j) (C x j) (node x j) (node y j)

inductive Run {σ : Type} (K : Cluster σ) (x : σ) : σ → Prop
  | refl : Run K x x
  | next (y z : σ) : Run K x y → K.Trans y z → K.Side z → Run K x z

namespace Run
variable {σ : Type} {K : Cluster σ}

/-- `R` is closed under the transitions (the reachable states, say): a per-node predicate that survives every move
out of an `R` state holds on every node of every later state. -/
theorem keeps {R : σ → Prop} {P : Nat → Node → Prop} {x y : σ} (h : Run K x y) (hx : R x)
    (hR : ∀ y z, R y → K.Trans y z → K.Side z → R z)
    (hP : ∀ y z j, R y → K.Side z → Move (K.S y j) (K.C y j) (K.node y j) (K.node z j) → P j (K.node y j) →
      P j (K.node z j))
    (h0 : ∀ j, P j (K.node x j)) : R y ∧ ∀ j, P j (K.node y j) := by
  induction h with
  | refl => exact ⟨hx, h0⟩
  | next y z _ ht hs ih => exact ⟨hR y z ih.1 ht hs, fun j => hP y z j ih.1 hs (K.move ht j) (ih.2 j)⟩

theorem rel {r : σ → σ → Prop} (hr : ∀ x, r x x) (ht : ∀ x y z, r x y → r y z → r x z)
    (hs : ∀ y z, K.Trans y z → r y z) {x y : σ} (h : Run K x y) : r x y := by
  induction h with
  | refl => exact hr x
  | next y z _ t _ ih => exact ht x y z ih (hs y z t)

end Run

end NodeSys
end Raft
