/-
A TWO-LEVEL variant of the composition framework `Lemmas/FsmConfigA.lean`, for invariants of the shape "a node with an
empty log is a follower (and not a voter of its latest configuration)", which the leader handlers keep only in the stronger
form "the log is not empty":

* `L` — the invariant INSIDE the leader handlers (the mutually recursive block, `leaderInit`, `onChangeConfig`, the
  transfer handlers, `checkReplUpdates`, …): closed under the primitives of `FClosed` (reused from FsmConfigA: `appendEntry`
  with its assertion, …) and under `setRole`/`setLeader`/`setTerm`/`RemoveLTE` without any guard;
* `J` — the invariant BETWEEN handlers: `L s → J s` (`down`), and `J s → role ≠ follower → L s` (`up`). The primitives the
  non-leader handlers are built from keep `J`; `setRole candidate` is GUARDED by "the node is a voter of its latest
  configuration" (the two call sites — `follower.onTimeout`, `onTimeoutNowRequest` — have just tested it), `setRole leader`
  only happens to a candidate (`up`);
* the three handlers that write the log of a follower — `onAppendEntriesRequest` (under a condition `PA` on the request),
  `onInstallSnapRequest` (under `PI`), `Raft.bootstrap` — and the snapshot goroutine `snapRun` (in a state satisfying
  `PS`) are fields (proved directly for the concrete invariant).
`begin` (which clears `panicked`) is left to the caller.
-/
import RaftVerif.Lemmas.FsmConfigA
import RaftVerif.Lemmas.HandleKind
import RaftVerif.Lemmas.ShapeSnap

namespace Raft
namespace Node

structure TwoClosed (PA : Node → AppendReq → Prop) (PI : Node → InstallReq → Prop) (PS : Node → Prop)
    (L J : Node → Prop) : Prop extends FClosed L where
  down : ∀ s, L s → J s
  up : ∀ (s : Node), J s → s.role ≠ .follower → L s
  lRole : ∀ (s : Node) r, L s → L (s.setRole r)
  lLeader : ∀ (s : Node) l, L s → L (s.setLeader l)
  lTerm : ∀ (s : Node) t, L s → L (s.setTerm t)
  lRemoveLTE : ∀ (s : Node) i, L s → L { s with log := s.log.removeLTE i }
  jpanic : ∀ s site, J s → J (s.panic site)
  jreply : ∀ s t r, J s → J (s.reply t r)
  jpoint : ∀ s n, J s → J (s.point n)
  jldr : ∀ (s : Node) l, J s → J (s.withLdr l)
  jrpcReply : ∀ (s : Node) r, J s → J (s.withRpcReply r)
  jret : ∀ (s : Node) r, J s → J (s.ret r)
  jLeader : ∀ (s : Node) l, J s → J (s.setLeader l)
  jdoClose : ∀ (s : Node) r, J s → J (s.doClose r)
  jTerm : ∀ (s : Node) t, J s → J (s.setTerm t)
  jVotedFor : ∀ (s : Node) t c, J s → J (s.setVotedFor t c)
  jvotesNeeded : ∀ (s : Node) v, J s → J (s.withVotesNeeded v)
  jcandTransfer : ∀ (s : Node) v, J s → J (s.withCandTransfer v)
  jRemoveLTE : ∀ (s : Node) i, J s → J { s with log := s.log.removeLTE i }
  jsnapPending : ∀ (s : Node) v, J s → J (s.withSnapPending v)
  jsnapResult : ∀ (s : Node) v, J s → J (s.withSnapResult v)
  jsnapRun : ∀ (s : Node), J s → PS s → J s.snapRun
  jRoleF : ∀ (s : Node), J s → J (s.setRole .follower)
  jRoleC : ∀ (s : Node), J s → s.configs.latest.isVoter s.nid = true → J (s.setRole .candidate)
  jbootstrap : ∀ (s : Node) t c, J s → J (s.bootstrap t c)
  jappend : ∀ (s : Node) q, J s → PA s q → J (s.onAppendEntries q)
  jinstall : ∀ (s : Node) q, J s → PI s q → J (s.onInstallSnap q)

namespace TwoClosed

variable {PA : Node → AppendReq → Prop} {PI : Node → InstallReq → Prop} {PS : Node → Prop} {L J : Node → Prop}
  (h : TwoClosed PA PI PS L J)
include h

omit h in
/-- the updates of the handlers a leader runs -/
def lcaps : Caps :=
  { file := fun _ => False, snap := fun _ => False, install := False, compact := True, reports := True, transfer := True,
    boot := False, shutdown := False }

/-- `L` through the leader's handlers: the walk of Lemmas/StepWalk.lean -/
theorem toGuardedLdr : GuardedLdr lcaps L where
  toGuarded := h.toFClosed.toGuarded
  ldrT := fun _ s l hs _ _ => h.ldr s l hs
  ldrAny := fun _ => h.ldr
  setRole := fun s r hs _ _ => h.lRole s r hs
  setLeader := h.lLeader
  setTerm := fun s t hs _ => h.lTerm s t hs
  removeLTE := fun _ => h.lRemoveLTE

/-- the quiet handlers at level `J` (Lemmas/Quiet.lean): to candidate under its guard; to leader, which only a candidate
becomes, through level `L` -/
theorem toQuiet (op : Op) : QuietClosed op J where
  panic := h.jpanic
  setRole := fun s r hs why => by
    cases why with
    | follower => exact h.jRoleF s hs
    | candidate hv => exact h.jRoleC s hs hv
    | leader hr => exact h.down _ (h.lRole _ _ (h.up _ hs (by rw [hr]; decide)))
  setLeader := h.jLeader
  ret := h.jret
  rpcReply := h.jrpcReply
  votesNeeded := h.jvotesNeeded
  candTransfer := h.jcandTransfer
  setTerm := h.jTerm
  vote := fun s t c hs _ => h.jVotedFor s t c hs
  reply := h.jreply
  snapPending := h.jsnapPending

theorem compactLog_j (s : Node) (i : Nat) (hs : J s) : J (s.compactLog i) := by
  unfold Node.compactLog; exact h.jpoint _ _ (h.jRemoveLTE _ _ hs)

theorem leaderRelease_j (s : Node) (hs : J s) : J s.leaderRelease :=
  Node.leaderRelease_of (fun s l hs _ _ _ _ _ _ => h.jldr s l hs) h.jreply h.jLeader (fun s hs => h.jldr s _ hs) s hs

theorem releaseRole_j (s : Node) (r : Role) (hs : J s) : J (s.releaseRole r) :=
  releaseRole_of h.jcandTransfer h.leaderRelease_j s r hs

theorem settle_j (f : Nat) (s : Node) (c : Role) (hs : J s) : J (settle f s c) :=
  settle_of h.releaseRole_j (fun _ hs hr => (h.toQuiet .timeout).startElection_inv _ hs hr)
    (fun _ hs hr => h.down _ (h.toGuardedLdr.leaderInit_inv trivial _ (h.up _ hs (by rw [hr]; decide)))) f s c hs

theorem onSnapshotTaken_j (s : Node) (hs : J s) : J s.onSnapshotTaken :=
  onSnapshotTaken_of h.jpanic h.jreply h.jsnapResult h.compactLog_j h.jldr s hs

theorem shutdown_j (s : Node) (hs : J s)
    (hps : PS ((s.doClose "serverClosed").releaseRole (s.doClose "serverClosed").role)) : J s.shutdown := by
  have h2 := h.releaseRole_j (s.doClose "serverClosed") (s.doClose "serverClosed").role (h.jdoClose s _ hs)
  exact shutdown_of s h2 (h.jsnapRun _ h2 hps) h.onSnapshotTaken_j

def _root_.Raft.Node.TwoOpOk (PA : Node → AppendReq → Prop) (PI : Node → InstallReq → Prop) (PS : Node → Prop)
    (s : Node) : Op → Prop
  | .append q => PA s q
  | .install q => PI s q
  | .snapRun => PS s
  | .shutdown => PS ((s.doClose "serverClosed").releaseRole (s.doClose "serverClosed").role)
  | _ => True

/-- the handlers only a leader runs, at level `L` -/
theorem ldrCall_l {x y : Node} {op : Op} (c : LdrCall x op y) (hs : L x) : L y :=
  c.ldr h.toGuardedLdr.toAt trivial trivial (fun _ _ _ => trivial) hs

/-- a quiet handler at level `J`; a leader's handler at level `L`, which a leader is at; the special cases are fields -/
theorem handle_j (s : Node) (op : Op) (hs : J s) (hop : TwoOpOk PA PI PS s op) : J (s.handle op) := by
  have Q := h.toQuiet op
  cases handle_kind s op with
  | quiet q => exact q _ Q hs
  | ldr hr c => exact h.down _ (h.ldrCall_l c (h.up _ hs (by rw [hr]; decide)))
  | special sp =>
    cases sp with
    | append q => exact Q.rpcDone_inv _ _ _ (h.jappend _ _ hs hop)
    | install q => exact Q.rpcDone_inv _ _ _ (h.jinstall _ _ hs hop)
    | snapRun => exact h.jsnapRun _ hs hop
    | snapTaken => exact h.onSnapshotTaken_j _ hs
    | shutdown => exact h.shutdown_j _ hs hop
    | bootstrap t c hr _ =>
      rw [handle_bootstrap hr]
      exact h.jbootstrap _ _ _ hs

theorem step_j (s : Node) (op : Op) (ra : List Nat) (ord : List (List Nat)) (hs : J (s.begin ra ord))
    (hop : TwoOpOk PA PI PS (s.begin ra ord) op) : J (s.step op ra ord) := by
  unfold Node.step
  dsimp only
  have h1 := h.handle_j _ op hs hop
  split
  · exact h1
  · exact h.settle_j _ _ _ h1

end TwoClosed
end Node
end Raft
