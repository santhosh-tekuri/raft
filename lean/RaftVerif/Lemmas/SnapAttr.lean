/-
Simp sets of Lemmas/SnapBlind.lean, SnapRelP.lean, SnapRelU.lean, SnapRelU2.lean, SnapRelU4.lean and SnapInstV.lean
(commutation of the handlers with updates of the state).
-/
import Lean

/-- rewrite rules that push an update `Blind.on` outward through the primitive state updates -/
register_simp_attr bsimp

/-- definitional (`rfl`) rules: fields and observations of an updated state (used with `dsimp +instances`) -/
register_simp_attr bproj

/-- the same two sets for the un-compaction `U` -/
register_simp_attr usimp

/-- the same two sets for the un-compaction `U` -/
register_simp_attr uproj

/-- the same two sets for the recording of a failure `P` -/
register_simp_attr psimp

/-- the same two sets for the recording of a failure `P` -/
register_simp_attr pproj
