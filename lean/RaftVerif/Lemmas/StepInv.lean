/-
Composition theorem for one node: a predicate preserved by every primitive state update that the
handlers are built from is preserved by `Node.step` for every operation, oracle and input.
Instantiate `Inv` with `R s₀ ·` to obtain relational facts (monotonicity, frames) about a step.
-/
import RaftVerif.Lemmas.Inv

namespace Raft
namespace Node

/-- `Closed` with the primitive updates of all other handlers, each unconditionally: `step_inv` for every operation. A
predicate that fails at some update switches it off or guards it in `GuardedStep c` (Lemmas/StepWalk.lean). -/
structure StepClosed (Inv : Node → Prop) : Prop extends Closed Inv where
  begin : ∀ (s : Node) ra (ord : List (List Nat)), Inv s → Inv (s.begin ra ord)
  rpcReply : ∀ (s : Node) r, Inv s → Inv (s.withRpcReply r)
  ret : ∀ (s : Node) r, Inv s → Inv (s.ret r)
  setRole : ∀ (s : Node) r, Inv s → Inv (s.setRole r)
  setLeader : ∀ (s : Node) l, Inv s → Inv (s.setLeader l)
  doClose : ∀ (s : Node) r, Inv s → Inv (s.doClose r)
  setTerm : ∀ (s : Node) t, Inv s → Inv (s.setTerm t)
  /-- `setVotedFor` entering a higher term (vote requests, the self vote of `startElection`) -/
  voteNewTerm : ∀ (s : Node) t c, Inv s → t > s.term → Inv (s.setVotedFor t c)
  voteGrant : ∀ (s : Node) c, Inv s → s.votedFor = 0 → Inv (s.setVotedFor s.term c)
  votesNeeded : ∀ (s : Node) v, Inv s → Inv (s.withVotesNeeded v)
  candTransfer : ∀ (s : Node) v, Inv s → Inv (s.withCandTransfer v)
  removeGTE : ∀ (s : Node) i pt, Inv s →
    Inv { s with log := s.log.removeGTE i, lastLogIndex := i - 1, lastLogTerm := pt }
  removeLTE : ∀ (s : Node) i, Inv s → Inv { s with log := s.log.removeLTE i }
  clearLog : ∀ (s : Node), Inv s →
    Inv { s with log := NLog.reset s.snapIndex, lastLogIndex := s.snapIndex, lastLogTerm := s.snapTerm }
  revertConfig : ∀ (s : Node), Inv s → Inv s.revertConfig
  commitConfig : ∀ (s : Node), Inv s → Inv s.commitConfig
  publishSnapshot : ∀ (s : Node) f, Inv s → Inv (s.publishSnapshot f)
  /-- `onInstallSnapRequest` sets the commit index to the new snapshot index, which is above it -/
  installCommit : ∀ (s : Node), Inv s → s.snapIndex > s.commitIndex → Inv (s.withCommitIndex s.snapIndex)
  snapPending : ∀ (s : Node) v, Inv s → Inv (s.withSnapPending v)
  snapResult : ∀ (s : Node) v, Inv s → Inv (s.withSnapResult v)
  bootstrapLast : ∀ (s : Node) i t, Inv s → Inv (s.withLast i t)

namespace StepClosed

variable {Inv : Node → Prop} (h : StepClosed Inv)
include h

theorem clearLog_inv (s : Node) (hs : Inv s) : Inv s.clearLog := by
  unfold Node.clearLog; exact h.point _ _ (h.clearLog _ hs)

/-- no guard of `GuardedStep` is needed and every update is available -/
theorem toGuardedStep : GuardedStep .all Inv where
  toGuarded := h.toClosed.toGuarded
  ldrT := fun _ s l hs _ _ => h.ldr s l hs
  ldrAny := fun _ => h.ldr
  appendAny := h.toClosed.appendEntry_inv
  rpcReply := h.rpcReply
  ret := h.ret
  setRole := fun s r hs _ _ => h.setRole s r hs
  setLeader := h.setLeader
  doClose := fun _ => h.doClose
  setTerm := fun s t hs _ => h.setTerm s t hs
  voteNewTerm := fun s t v hs ht _ => h.voteNewTerm s t v hs ht
  voteGrant := h.voteGrant
  votesNeeded := fun _ => h.votesNeeded
  termDown := fun s t hs _ => h.setRole _ _ (h.setTerm s t hs)
  bootTerm := fun _ s hs => h.setTerm s 1 hs
  bootRole := fun _ s hs => h.setRole s _ hs
  candTransfer := h.candTransfer
  removeGTE := fun s i pt hs _ _ _ => h.removeGTE s i pt hs
  removeLTE := fun _ => h.removeLTE
  revertConfig := h.revertConfig
  commitConfig := fun _ => h.commitConfig
  installCore := fun _ s f hs _ =>
    fsmRestore_of h.panic h.fsm _ (h.clearLog_inv _ (h.publishSnapshot s f hs))
  installCommit := fun _ => h.installCommit
  snapRun := fun s hs _ => snapRun_of h.snapPending h.snapResult h.publishSnapshot s hs
  snapPending := h.snapPending
  snapResult := fun _ => h.snapResult
  bootstrapLast := fun _ => h.bootstrapLast

theorem leaderInit_inv (s : Node) (hs : Inv s) : Inv s.leaderInit :=
  h.toGuardedStep.leaderInit_inv trivial s hs

theorem startElection_inv (s : Node) (hs : Inv s) : Inv s.startElection :=
  startElection_of s h.panic h.votesNeeded (fun x hx => h.voteNewTerm x _ _ hx (Nat.lt_succ_self _))
    (fun x hx _ => h.setRole x _ hx) h.setLeader hs

theorem releaseRole_inv (s : Node) (r : Role) (hs : Inv s) : Inv (s.releaseRole r) :=
  h.toGuardedStep.releaseRole_inv trivial s r hs

theorem settle_inv (f : Nat) (s : Node) (c : Role) (hs : Inv s) : Inv (settle f s c) :=
  h.toGuardedStep.settle_inv trivial trivial h.leaderInit_inv f s c hs

theorem onVoteRequest_inv (s : Node) (q : VoteReq) (hs : Inv s) : Inv (s.onVoteRequest q) :=
  h.toGuardedStep.toAt.onVoteRequest_inv s q hs

omit h in
theorem install_commit_guard (s2 : Node) (f : SnapFile) (hgt : ¬ f.index ≤ s2.commitIndex) :
    ((s2.publishSnapshot f).clearLog.fsmRestore).snapIndex > ((s2.publishSnapshot f).clearLog.fsmRestore).commitIndex :=
  Node.install_commit_guard s2 f hgt

theorem snapRun_inv (s : Node) (hs : Inv s) : Inv s.snapRun :=
  snapRun_of h.snapPending h.snapResult h.publishSnapshot s hs

theorem onSnapshotTaken_inv (s : Node) (hs : Inv s) : Inv s.onSnapshotTaken :=
  h.toGuardedStep.onSnapshotTaken_inv trivial trivial s hs

theorem rpcDone_inv (s : Node) (a b : Bool) (hs : Inv s) : Inv (s.rpcDone a b) :=
  h.toGuardedStep.toAt.rpcDone_inv s a b hs

theorem handle_inv (s : Node) (op : Op) (hs : Inv s) : Inv (s.handle op) :=
  h.toGuardedStep.handle_inv s op (Caps.ok_all s op) hs

theorem step_inv (s : Node) (op : Op) (ra : List Nat) (ord : List (List Nat)) (hs : Inv s) : Inv (s.step op ra ord) :=
  h.toGuardedStep.step_inv trivial trivial h.leaderInit_inv s op ra ord (Caps.ok_all _ op) (h.begin s ra ord hs)

end StepClosed
end Node
end Raft
