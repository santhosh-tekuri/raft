/-
What `Node.restart` yields, as ONE equation: the node `openStorage` + `New` build from the disk (`Node.restartNode`, a
record of the disk's contents), of which `Serve` — when there is a snapshot — replaces the state machine and the commit
index (and records a failure of `fsm.restore`).  A fact "the restarted node has field `x` = …" for a field `Serve` does not
write is `restart_field (·.x) (fun _ _ _ _ => rfl) h`, by `rfl` from the record; the log splits on `Node.staleLog`
(`restartNode_log`).
-/
import RaftVerif.Lemmas.Shape

namespace Raft
namespace Node

/-- a restart succeeds when the identity is set and `openStorage` does not fail; the node is then `restartNode`, restored
from the newest snapshot by `Serve` when there is one -/
theorem restart_serve {d : Durable} {r : Nat} {sor : Bool} {n : Node} (h : restart d r sor = some n) :
    d.cid ≠ 0 ∧ d.nid ≠ 0 ∧ restartFails d = false ∧
    n = (if (restartNode d r sor).snapIndex > 0
         then (restartNode d r sor).fsmRestore.withCommitIndex (restartNode d r sor).snapIndex
         else restartNode d r sor) := by
  unfold Node.restart at h
  split at h
  · cases h
  · rename_i h1
    split at h
    · cases h
    · rename_i h2
      injection h with h
      exact ⟨fun e => h1 (Or.inl e), fun e => h1 (Or.inr e), by simpa using h2, h.symm⟩

theorem restart_eq {d : Durable} {r : Nat} {sor : Bool} {n : Node} (h : restart d r sor = some n) :
    n = { restartNode d r sor with fsm := n.fsm, panicked := n.panicked, commitIndex := n.commitIndex } := by
  rw [(restart_serve h).2.2.2]
  split
  · rw [fsmRestore_shape]; rfl
  · rfl

/-- without a snapshot `Serve` restores nothing -/
theorem restart_nosnap {d : Durable} {r : Nat} {sor : Bool} {n : Node} (h : restart d r sor = some n)
    (h0 : (restartNode d r sor).snapIndex = 0) : n = restartNode d r sor := by
  rw [(restart_serve h).2.2.2, if_neg (by rw [h0]; omega)]

/-- a field that `Serve` does not write is the field of `restartNode` -/
theorem restart_field {α : Sort _} (f : Node → α)
    (hf : ∀ (s : Node) (F : Fsm) (p : Option String) (c : Nat),
      f { s with fsm := F, panicked := p, commitIndex := c } = f s)
    {d : Durable} {r : Nat} {sor : Bool} {n : Node} (h : restart d r sor = some n) : f n = f (restartNode d r sor) := by
  rw [restart_eq h]; exact hf _ _ _ _

theorem restart_commitIndex {d : Durable} {r : Nat} {sor : Bool} {n : Node} (h : restart d r sor = some n) :
    n.commitIndex = ((d.snaps.head?).getD {}).index := by
  rw [(restart_serve h).2.2.2]
  split
  · rfl
  · have : (restartNode d r sor).snapIndex = ((d.snaps.head?).getD {}).index := rfl
    show 0 = _
    omega

/-- a change of the disk that `openStorage` carries through `F` is carried through `F` by the restart, when `F` keeps
the snapshot index and commutes with the restore -/
theorem restart_map {d d' : Durable} {r : Nat} {sor : Bool} (F : Node → Node) (hf : restartFails d' = restartFails d)
    (hN : restartNode d' r sor = F (restartNode d r sor)) (hc : d'.cid = d.cid) (hn : d'.nid = d.nid)
    (hs : (F (restartNode d r sor)).snapIndex = (restartNode d r sor).snapIndex)
    (hR : (F (restartNode d r sor)).fsmRestore.withCommitIndex (restartNode d r sor).snapIndex =
      F ((restartNode d r sor).fsmRestore.withCommitIndex (restartNode d r sor).snapIndex)) :
    restart d' r sor = (restart d r sor).map F := by
  unfold restart
  rw [hc, hn, hf]
  split
  · rfl
  · split
    · rfl
    · dsimp only
      rw [hN, hs]
      show some (if (restartNode d r sor).snapIndex > 0 then _ else _) = _
      split
      · rw [hR]; rfl
      · rfl

theorem staleLog_nosnap {d : Durable} (hs : d.snaps = []) : staleLog d = false := by
  unfold staleLog
  rw [hs]
  show (decide (d.log.last < 0) || (decide (d.log.prev < 0) && _)) = false
  simp

/-- the log `openStorage` works with: the log on disk, or — when that is stale — the empty log at the newest snapshot -/
theorem restartNode_log (d : Durable) (r : Nat) (sor : Bool) :
    (restartNode d r sor).log =
      if staleLog d then NLog.reset ((d.snaps.head?).getD {}).index else { d.log with flushed := d.log.last } := by
  show ({ (if staleLog d then NLog.reset ((d.snaps.head?).getD {}).index else d.log) with
    flushed := (if staleLog d then NLog.reset ((d.snaps.head?).getD {}).index else d.log).last } : NLog) = _
  split
  · simp [NLog.reset, NLog.last]
  · rfl

theorem restart_log_stale {d : Durable} {r : Nat} {sor : Bool} {n : Node} (h : restart d r sor = some n)
    (hst : staleLog d = true) : n.log = NLog.reset ((d.snaps.head?).getD {}).index := by
  rw [restart_field (·.log) (fun _ _ _ _ => rfl) h, restartNode_log, if_pos hst]

theorem restart_log_notstale {d : Durable} {r : Nat} {sor : Bool} {n : Node} (h : restart d r sor = some n)
    (hst : staleLog d = false) : n.log = { d.log with flushed := d.log.last } := by
  rw [restart_field (·.log) (fun _ _ _ _ => rfl) h, restartNode_log, hst]; rfl

end Node
end Raft
