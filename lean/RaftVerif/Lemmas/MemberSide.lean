/-
Cluster level: the side conditions of the membership-change theorems (Props/C02Member.lean: `SideC`) as INVARIANTS of the
system `Member.Sys`, from conditions on the initial state and on what is delivered (`ReqG`, `TransR`), for
Props/C08Member.lean: `XInv` (every node `NoPanic.Good true`; every configuration entry of the tree carries a `CfgAll`
configuration; a created configuration entry is adjacent to the previous one on its path) is preserved together with
`MemberInv.MInv` (`xinv_trans`).
-/
import RaftVerif.Lemmas.MemberCrash
import RaftVerif.Lemmas.MemberGood
import RaftVerif.Lemmas.MemberSeg

namespace Raft
namespace MemberSide
open Node Election LogRel Replication CommitRel Commit Member MemberCore QuorumRel MemberInv MemberCommit
open MemberGood NoPanic
open MemberStep (CfgLatest SideM SM CM)


/-- what is asked of an operation delivered to node `i`, beyond `Member.Enabled` -/
structure ReqG (x : Member.Sys) (i : Nat) (op : Op) : Prop where
  /-- a submitted configuration: member ids strictly increasing, the receiver's own action one of the five defined
  ones, at least two voters without pending action -/
  userCfg : ∀ t c, op = .changeConfig t c → UserCfg true i c
  /-- a `newTerm` report of a replication (that was not removed) delivered to a leader carries a term not below the
  leader's -/
  newTerm : ∀ us, op = .replUpdates us → (x.node i).role = .leader → ∀ u ∈ us, u.removed = false →
    ∀ v, u.upd = .newTerm v → (x.node i).term ≤ v
  /-- a transport error reported for the `timeoutNow` request of a transfer names a node the leader replicates to -/
  timeoutNow : ∀ src err r, op = .timeoutNowResult src err r → (x.node i).role = .leader →
    (x.node i).ldr.transfer.respPending = true → err = true → (x.node i).findRepl? src ≠ none

/-- The transitions of `Member.Trans` with the assumptions `ReqG`, closed nodes frozen, and `SnapshotsRetain ≥ 1`. -/
inductive TransR (x : Member.Sys) : Member.Sys → Prop
  /-- an OPEN node handles an enabled operation to completion -/
  | step (i : Nat) (op : Op) (ra : List Nat) (ord : List (List Nat)) (src : Nat) : Member.Enabled x i op src →
      ReqG x i op → (x.node i).closed = "" → TransR x (stepM x i op ra ord src)
  /-- an open node dies while handling an enabled operation, after `k` storage points — or any node's process, open or
  closed, is restarted between two steps (`k = 0`) — and restarts from what is on disk -/
  | crash (i : Nat) (op : Op) (ra : List Nat) (ord : List (List Nat)) (src k retain : Nat) (sor : Bool)
      (n : Node) : Member.Enabled x i op src → ReqG x i op → ((x.node i).closed = "" ∨ k = 0) → 1 ≤ retain →
      Node.restart (C05.crashDisk (x.node i) op ra ord k) retain sor = some n →
      TransR x (crashM x i op n)
  /-- a leader puts a request read from its log on the wire -/
  | send (i : Nat) (q : AppendReq) : i ≠ 0 → (x.node i).role = .leader → ReadFrom (x.node i) q →
      q.ldrCommitIndex ≤ (x.node i).commitIndex →
      TransR x { x with cm := { x.cm with rp := { x.cm.rp with sent := q :: x.cm.rp.sent } } }

theorem transR_trans {x y : Member.Sys} (h : TransR x y) : Member.Trans x y := by
  cases h with
  | step i op ra ord src he _ _ => exact .step i op ra ord src he
  | crash i op ra ord src k retain sor n he _ _ _ hn => exact .crash i op ra ord src k retain sor n he hn
  | send i q hi hl hr hc => exact .send i q hi hl hr hc


structure XInv (x : Member.Sys) : Prop where
  good : ∀ i, Good true (x.node i)
  /-- every configuration entry of the tree carries a `CfgAll` configuration -/
  tree : ∀ c ∈ x.cm.T, EntOK c.e
  /-- a configuration entry created by a node is adjacent to the previous configuration entry on its path -/
  adj : ∀ c ∈ x.cm.T, ∀ p ∈ x.cm.T, c.cr ≠ 0 → PrevT x.cm.T (key p) (key c) → ∀ cfg pcfg, c.e.config? = some cfg →
    p.e.config? = some pcfg → AdjLists pcfg.voters cfg.voters

section facts
variable {x : Member.Sys} {G : Ghost}

theorem sideT_of (htree : ∀ c ∈ x.cm.T, EntOK c.e)
    (hadj : ∀ c ∈ x.cm.T, ∀ p ∈ x.cm.T, c.cr ≠ 0 → PrevT x.cm.T (key p) (key c) → ∀ cfg pcfg,
      c.e.config? = some cfg → p.e.config? = some pcfg → AdjLists pcfg.voters cfg.voters) : SideT x :=
  ⟨fun c hc cfg hcfg => (entOK_config (htree c hc) hcfg).voters_nodup, hadj,
    fun c hc ht => by obtain ⟨cfg, h1, _⟩ := entOK_dec (htree c hc) ht; exact ⟨cfg, h1⟩⟩

theorem XInv.sideT (h : XInv x) : SideT x := sideT_of h.tree h.adj

theorem log_entOK (hI : MInv x G) (htree : ∀ c ∈ x.cm.T, EntOK c.e) (i : Nat) :
    ∀ e ∈ (x.node i).log.entries, EntOK e := by
  intro e he
  obtain ⟨c, hc, hce⟩ := C04Sys.chain_mem (hI.rp.nodes i).2 e he
  rw [← hce]; exact htree c hc

theorem sent_entOK (hI : MInv x G) (htree : ∀ c ∈ x.cm.T, EntOK c.e) {q : AppendReq} (hq : q ∈ x.cm.rp.sent) :
    ∀ e ∈ q.entries, EntOK e := by
  intro e he
  obtain ⟨c, hc, hce⟩ := C04Sys.chain_mem (hI.rp.sent q hq).chain e he
  rw [← hce]; exact htree c hc

theorem latest_all (hI : MInv x G) (htree : ∀ c ∈ x.cm.T, EntOK c.e) (i : Nat) : CfgAll (x.node i).configs.latest := by
  obtain ⟨⟨e, he, hec⟩, _⟩ := hI.cfg.cl i
  exact entOK_config (log_entOK hI htree i e he) hec

theorem boot_of (hI : MInv x G) : Boot x := by
  intro i
  obtain ⟨⟨e, he, hec⟩, _⟩ := hI.cfg.cl i
  obtain ⟨_, hci, _⟩ := Entry.config?_facts hec
  have := (contig_index_le (nwfM hI i).contig e he).1
  unfold Configs.isBootstrapped Config.isBootstrapped
  exact decide_eq_true (by omega)

theorem sideM_of (hI : MInv x G) (hX : XInv x) (hLC : ∀ i, C06Cache.LeaderCache (x.node i)) : SideM x :=
  ⟨boot_of hI, fun i => (latest_all hI hX.tree i).quorum_ne_one, hLC, hX.sideT⟩

theorem reqok (hI : MInv x G) (hX : XInv x) {i : Nat} {op : Op} {src : Nat} (he : Member.Enabled x i op src)
    (hg : ReqG x i op) : ReqOk' true (x.node i) op := by
  have hS := hX.sideT
  have hn := nwfM hI i
  have hnid : (x.node i).nid = i := (hI.rp.el.ids i).1
  cases op with
  | append q =>
    show q.term < (x.node i).term ∨ AppendOk' true (x.node i) q
    by_cases hst : q.term < (x.node i).term
    · exact Or.inl hst
    · right
      have hq : q ∈ x.cm.rp.sent := (he.rp.append q rfl).resolve_left hst
      have hnc := reqokM hI hS (i := i) hq hst
      refine ⟨⟨C02Sys.chainB_of_idx _ _ (hI.rp.sent q hq).idx, fun ne hne hle _ hdiff => ?_⟩, fun ne hne ht => ?_⟩
      · have h1 : 1 ≤ ne.index := sent_index_pos hI hq hne
        have hlen : ne.index ≤ (x.node i).log.entries.length := by rw [← hn.last]; exact hle
        have key : ∀ k, NoConf (x.node i) q k → k < ne.index := by
          intro k hk
          apply Nat.lt_of_not_le
          intro hle'
          apply hdiff
          rw [hn.entryTerm ne.index h1 hlen, hk ne hne hle']
        refine ⟨key _ hnc, ?_⟩
        rcases hI.cfg.sp i with p | p
        · have := key _ (protNoConf hI hS hq hst p)
          have := (hX.good i).ordered.committed_le_latest
          omega
        · exact key _ (protNoConf hI hS hq hst (MemberStep.pend_prot hI.rp hI.tree.rootA hI.tree.rootOnly hI.recs.chain
            (hI.node.termLe i) (hI.cfg.cl i) p))
      · obtain ⟨c, hc, hall⟩ := sent_entOK hI hX.tree hq ne hne ht
        rw [hc]; exact hall.cfgOk _
  | install q => exact absurd he.rp.ok (by simp [OpOK])
  | newEntries b =>
    show (x.node i).role = .leader → BatchOk true (x.node i).nid b
    intro _ q hq ht
    exact absurd ht (he.cfg q hq)
  | changeConfig t c =>
    show UserCfg true (x.node i).nid c ∧ ((x.node i).role ≠ .leader →
      (x.node i).configs.isBootstrapped = true ∨ ((x.node i).lastLogIndex = 0 ∧ (x.node i).term ≤ 1))
    rw [hnid]
    exact ⟨hg.userCfg t c rfl, fun _ => Or.inl (boot_of hI i)⟩
  | replUpdates us =>
    show (x.node i).role = .leader → ∀ u ∈ us, UpdOk (x.node i) u
    intro hl u hu hr
    refine ⟨fun v hv => ?_, fun v hv => hg.newTerm us rfl hl u hu hr v hv⟩
    rcases he.upd us rfl u hu v hv with h0 | ⟨a, ha, h1, h2, h3⟩
    · rw [h0]; exact Nat.zero_le _
    · have := backed_leM hI hS hl u.id v ⟨a, ha, h1, h2, h3⟩
      rw [hn.last]; exact this
  | timeoutNowResult s e r =>
    show (x.node i).role = .leader → (x.node i).ldr.transfer.respPending = true → e = true →
      (x.node i).findRepl? s ≠ none
    exact hg.timeoutNow s e r rfl
  | _ => trivial

end facts


section step
variable {x : Member.Sys} {G : Ghost} {i : Nat} {op : Op} {ra : List Nat} {ord : List (List Nat)} {src : Nat}

theorem contig_pairwise {es : List Entry} (hc : ∀ k (h : k < es.length), es[k].index = k + 1) :
    es.Pairwise (fun a b => a.index < b.index) := by
  rw [List.pairwise_iff_getElem]
  intro a b ha hb hab
  rw [hc a ha, hc b hb]; omega

/-- what `MemberGood.step_content` says of the step of node `i` (not an append request, no failure) -/
theorem sm_content (sm : SM x G i op ra ord src) (hX : XInv x) (happ : ∀ q, op ≠ .append q)
    (hu : ∀ t c, op = .changeConfig t c → UserCfg true i c) (hp : sm.post.panicked = none) :
    (∀ e ∈ sm.post.log.entries, EntOK e) ∧
    (∀ e, (sm.post.log.entries.drop (x.node i).log.entries.length).find? (fun x => x.typ == etConfig) = some e →
      ∃ c, e.config? = some c ∧ C08.AdjacentVoters (x.node i).configs.latest c) := by
  have hI := sm.inv
  have hnid : (x.node i).nid = i := (hI.rp.el.ids i).1
  obtain ⟨_, h2, _, h4, _⟩ := step_content (x.node i) op ra ord (log_entOK hI hX.tree i)
    (Or.inr (latest_all hI hX.tree i)) (C08Step.selfCache_of_leaderCache _ (sm.side.cache i)) (sm.side.boot i)
    sm.en.rp.ok sm.en.cfg happ (fun t c e _ => by rw [hnid]; exact hu t c e) hp
  exact ⟨h2, h4⟩

/-- **no commit moment of a step reaches beyond the log the node had before it**: the configuration that is latest at
that moment has two voters, so a voter other than the node itself has reached the index — by a match index that is
backed by an acknowledgement, which lies within the old log -/
theorem ev_small (sm : SM x G i op ra ord src) (hS : SideT x) {T : Nat} {L : List CEvt}
    (m : MEvs (x.node i) (Commit.Backed x.cm i) sm.post T L) (hpost : ∀ e ∈ sm.post.log.entries, EntOK e) :
    ∀ ev ∈ L, ev.ci ≤ (x.node i).log.entries.length := by
  intro ev hev
  have hI := sm.inv
  obtain ⟨_, _, _, _, _, _, e7, e8, e9, e10⟩ := m.ev ev hev
  obtain ⟨⟨e, he, hec⟩, _⟩ := e7
  have hall : CfgAll ev.cfg := entOK_config (hpost e (List.mem_of_mem_take he)) hec
  have hQn : ev.Q.Nodup := e8.nodup hall.voters_nodup
  have hvl : ev.cfg.voters.length = ev.cfg.numVoters := by
    unfold Config.voters Config.numVoters; rw [List.length_map]
  have h2 : 2 ≤ ev.Q.length := by have := hall.two; omega
  have hex : ∃ j ∈ ev.Q, j ≠ (x.node i).nid := by
    apply Classical.byContradiction
    intro hn
    have hall' : ∀ j ∈ ev.Q, j = (x.node i).nid := fun j hj =>
      Classical.byContradiction (fun hne => hn ⟨j, hj, hne⟩)
    have := length_le_one_of_all_eq hQn hall'
    omega
  obtain ⟨j, hj, hne⟩ := hex
  rcases e10 j hj with h | ⟨hl, _, m', hm1, hm2⟩
  · exact absurd h hne
  · have := backed_leM hI hS hl j m' hm2
    omega

theorem sm_tree (sm : SM x G i op ra ord src) (hX : XInv x)
    (hu : ∀ t c, op = .changeConfig t c → UserCfg true i c) (hp : sm.post.panicked = none) :
    ∀ c ∈ sm.y.cm.T, EntOK c.e := by
  intro c hc
  rw [sm.T_eq] at hc
  rcases List.mem_append.mp hc with hc | hc
  · rcases Commit.op_cases op with happ | ⟨q, rfl⟩
    · rw [C04Sys.newCreated_other _ _ _ _ happ] at hc
      exact (sm_content sm hX happ hu hp).1 c.e (List.mem_of_mem_drop (C04Sys.mem_chainOf hc).2)
    · cases hc
  · exact hX.tree c hc

theorem prevT_old {T T' : List CEntry} (hsub : ∀ c ∈ T, c ∈ T') (hU' : Uniq T') {P a : K}
    (ha : ∃ es, Path T es ∧ Holds es a.1 a.2) (h : PrevT T' P a) : PrevT T P a := by
  obtain ⟨⟨p, hp, hk, ht⟩, h2, h3, h4⟩ := h
  obtain ⟨ho, hA⟩ := anc_old hsub hU' ha hp (by rw [hk]; exact h2)
  refine ⟨⟨p, ho, hk, ht⟩, by rw [← hk]; exact hA, h3, fun e he het hAe hlt => ?_⟩
  exact h4 e (hsub e he) het (hAe.mono hsub) hlt

/-- **adjacency after the step**: a configuration entry created by a node is adjacent to the previous configuration
entry on its path — for the entry the step created (there is at most one) by `MemberGood.step_content` -/
theorem sm_adj (sm : SM x G i op ra ord src) (hX : XInv x)
    (hu : ∀ t c, op = .changeConfig t c → UserCfg true i c) (hp : sm.post.panicked = none) :
    ∀ c ∈ sm.y.cm.T, ∀ p ∈ sm.y.cm.T, c.cr ≠ 0 → PrevT sm.y.cm.T (key p) (key c) → ∀ cfg pcfg,
      c.e.config? = some cfg → p.e.config? = some pcfg → AdjLists pcfg.voters cfg.voters := by
  have hI := sm.inv
  have hE := sm.ext
  have hRy := sm.ry
  intro c hc p hpT h0 hprev cfg pcfg hcfg hpcfg
  have hcT := hc
  rw [sm.T_eq] at hc
  rcases List.mem_append.mp hc with hnew | hold
  · -- a record created in this step
    have happ : ∀ q, op ≠ .append q := by
      intro q hq; subst hq; cases hnew
    obtain ⟨es, te, hN, hle⟩ := sm.newM happ
    obtain ⟨hent, hfirst⟩ := sm_content sm hX happ hu hp
    obtain ⟨T, L, m⟩ := sm.evs happ
    have hni := sm.node_i
    rw [C04Sys.newCreated_other _ _ _ _ happ, hle, List.drop_left] at hnew
    obtain ⟨_, hces, _, hlt, _⟩ := hN.mem_new hnew
    obtain ⟨hty, _, _⟩ := Entry.config?_facts hcfg
    have hcm : c.e ∈ sm.post.log.entries := by rw [hle]; exact List.mem_append_right _ hces
    have hpn := sm.nwf_post
    have hn := nwfM hI i
    have hch : Holds sm.post.log.entries c.e.index c.e.term := C02Sys.holds_of_mem hpn.contig hcm
    -- the previous configuration entry is within the old log
    obtain ⟨P, ci, p1, p2, p3, p4⟩ := m.chg c.e hcm hlt hty
    have hPle : P.index ≤ (x.node i).log.entries.length := by
      rcases p4 with ⟨e1, _, _⟩ | ⟨ev, hev, e1, _⟩
      · have := ciLeM hI i; omega
      · have := ev_small sm hX.sideT m hent ev hev; omega
    -- hence `P` is the latest configuration before the step
    have hPpre : CfgLast (x.node i).log.entries P := by
      obtain ⟨⟨eP, heP, hePc⟩, hlast⟩ := p1
      obtain ⟨_, hPi, _⟩ := Entry.config?_facts hePc
      have hePm : eP ∈ sm.post.log.entries := List.mem_of_mem_take heP
      have hePpre : eP ∈ (x.node i).log.entries := by
        rw [hle] at hePm
        rcases List.mem_append.mp hePm with h | h
        · exact h
        · have := (hN.ent eP h).2
          rw [hn.last] at this
          omega
      refine ⟨⟨eP, hePpre, hePc⟩, fun e he ht => hlast e ?_ ht⟩
      have hei := (contig_index_le hn.contig e he).2
      exact (mem_take_iff_index_le hpn.contig).mpr ⟨by rw [hle]; exact List.mem_append_left _ he, by omega⟩
    have hPeq : P = (x.node i).configs.latest := cfgLast_unique hn.contig hPpre (hI.cfg.cl i)
    -- the record `p` is the record of that entry
    have hPT := MemberStep.prevT_of_log hRy i c.e.index (by rw [hni]; exact hch.2.1) (by rw [hni]; exact p1)
    rw [hni, hch.2.2] at hPT
    have hkp : key p = (P.index, P.term) := MemberStep.prevT_unique hRy.uniq hprev hPT
    have hpcfgP : pcfg = P := by
      obtain ⟨⟨eP, heP, hePc⟩, _⟩ := p1
      obtain ⟨_, hPi, hPt, _⟩ := Entry.config?_facts hePc
      have hePm : eP ∈ (sm.y.node i).log.entries := by rw [hni]; exact List.mem_of_mem_take heP
      obtain ⟨cP, hcP, hcPe, _⟩ := MemberStep.log_entry_record hRy i hePm
      have : cP = p := by
        apply hRy.uniq cP hcP p hpT
        · rw [hcPe, ← hPi]; exact (congrArg Prod.fst hkp).symm
        · rw [hcPe, ← hPt]; exact (congrArg Prod.snd hkp).symm
      rw [← this, hcPe, hePc] at hpcfg
      injection hpcfg with hpcfg
      exact hpcfg.symm
    -- `c.e` is the first configuration entry appended in the step
    have hnolow : ∀ e ∈ es, e.typ = etConfig → c.e.index ≤ e.index := by
      intro e he ht
      apply Nat.le_of_not_lt
      intro hlt'
      have hem : e ∈ sm.post.log.entries.take (c.e.index - 1) :=
        (mem_take_iff_index_le hpn.contig).mpr ⟨by rw [hle]; exact List.mem_append_right _ he, by omega⟩
      have := p1.2 e hem ht
      have := (hN.ent e he).2
      rw [hn.last] at this
      omega
    have hfc : es.find? (fun x => x.typ == etConfig) = some c.e := by
      rw [List.find?_eq_some_iff_append]
      refine ⟨by simpa using hty, ?_⟩
      obtain ⟨l1, l2, hl⟩ := List.append_of_mem hces
      refine ⟨l1, l2, hl, fun a ha => ?_⟩
      have hpw : es.Pairwise (fun a b => a.index < b.index) := by
        have := contig_pairwise hpn.contig
        rw [hle] at this
        exact (List.pairwise_append.mp this).2.1
      rw [hl] at hpw
      have hlt' : a.index < c.e.index := (List.pairwise_append.mp hpw).2.2 a ha c.e List.mem_cons_self
      have hae : a ∈ es := by rw [hl]; exact List.mem_append_left _ ha
      by_cases hta : a.typ = etConfig
      · have := hnolow a hae hta
        omega
      · simpa using hta
    obtain ⟨c1, hc1, hadj⟩ := hfirst c.e (by rw [hle, List.drop_left]; exact hfc)
    rw [hcfg] at hc1
    injection hc1 with hc1
    rw [hpcfgP, hPeq, hc1]
    exact adjLists_of_adjacentVoters _ _ (ids_nodup (latest_all hI hX.tree i).sorted)
      (ids_nodup (entOK_config (hent c.e hcm) (hc1 ▸ hcfg)).sorted) hadj
  · -- an old record: its previous configuration entry is the one it had
    obtain ⟨pth, hpth, hh⟩ := hI.tree.pathc c hold
    have hP := prevT_old hE.T hRy.uniq ⟨pth, hpth, hh⟩ hprev
    obtain ⟨⟨p', hp', hk', _⟩, _⟩ := id hP
    have : p' = p := by
      apply hRy.uniq p' (hE.T p' hp') p hpT
      · exact congrArg Prod.fst hk'
      · exact congrArg Prod.snd hk'
    rw [this] at hp'
    exact hX.adj c hold p hp' h0 hP cfg pcfg hcfg hpcfg

end step


/-- a step of `TransR` is a step of `MemberStep.SM`, and it does not fail -/
theorem sm_of_step {x : Member.Sys} {G : Ghost} (hI : MInv x G) (hX : XInv x)
    (hLC : ∀ i, C06Cache.LeaderCache (x.node i)) {i : Nat} {op : Op} {src : Nat} (he : Member.Enabled x i op src)
    (hg : ReqG x i op) (ho : (x.node i).closed = "") (ra : List Nat) (ord : List (List Nat)) :
    SM x G i op ra ord src ∧ ((x.node i).step op ra ord).panicked = none :=
  have hp := (C15NoPanic.good_step_two _ op ra ord (hX.good i) ho (reqok hI hX he hg)).1
  ⟨⟨hI, sideM_of hI hX hLC, he, fun _ => hp⟩, hp⟩

theorem xinv_step {x : Member.Sys} {G : Ghost} (hI : MInv x G) (hX : XInv x)
    (hLC : ∀ i, C06Cache.LeaderCache (x.node i)) (i : Nat) (op : Op) (ra : List Nat) (ord : List (List Nat))
    (src : Nat) (he : Member.Enabled x i op src) (hg : ReqG x i op) (ho : (x.node i).closed = "") :
    XInv (stepM x i op ra ord src) ∧ ∃ G', MInv (stepM x i op ra ord src) G' ∧ G'.root = G.root := by
  obtain ⟨hp, hGood⟩ := C15NoPanic.good_step_two _ op ra ord (hX.good i) ho (reqok hI hX he hg)
  have hS := sideM_of hI hX hLC
  have sm : SM x G i op ra ord src := ⟨hI, hS, he, fun _ => hp⟩
  exact ⟨⟨NodeSys.forall_setNode (P := fun _ m => NoPanic.Good true m) hGood (fun j _ => hX.good j),
    sm_tree sm hX hg.userCfg hp, sm_adj sm hX hg.userCfg hp⟩, MemberStep.minv_step hI hS i op ra ord src he (fun _ => hp)⟩


theorem chainOf_prefix_sub {cr : Nat} : ∀ {es' es : List Entry} {pt : Nat}, es' <+: es →
    ∀ c ∈ chainOf cr pt es', c ∈ chainOf cr pt es := by
  intro es'
  induction es' with
  | nil => intro es pt _ c hc; cases hc
  | cons e es' ih =>
    intro es pt hpre c hc
    obtain ⟨r, hr⟩ := hpre
    rw [← hr]
    simp only [List.cons_append, chainOf, List.mem_cons] at hc ⊢
    rcases hc with hc | hc
    · exact Or.inl hc
    · exact Or.inr (ih (List.prefix_append _ _) c hc)

section crash
variable {x : Member.Sys} {G : Ghost} {i : Nat} {op : Op} {ra : List Nat} {ord : List (List Nat)}
  {src k retain : Nat} {sor : Bool} {n : Node}

theorem crash_T_sub (cm : CM x G i op ra ord src k retain sor n) :
    ∀ c ∈ cm.y.cm.T, c ∈ cm.sm.y.cm.T := by
  have sm := cm.sm
  rcases Commit.op_cases op with happ | ⟨q, rfl⟩
  · obtain ⟨es', te', hN'⟩ := cm.newM
    obtain ⟨es, te, hN, hle⟩ := sm.newM happ
    intro c hc
    rw [hN'.T] at hc
    rw [hN.T]
    rcases List.mem_append.mp hc with hc | hc
    · refine List.mem_append_left _ ?_
      have hne : es' ≠ [] := fun e => by rw [e] at hc; cases hc
      have hlog := hN'.log hne
      rw [cm.node_i] at hlog
      have im := sm.img k
      obtain ⟨_, _, _, _, _, _, _, _, f9⟩ := cm.facts
      have hpre : es' <+: es := by
        rcases im.within happ with w | w
        · exfalso
          rw [← f9, hlog] at w
          have := w.length_le
          rw [List.length_append] at this
          have : es'.length = 0 := by omega
          exact hne (List.eq_nil_of_length_eq_zero this)
        · rw [← f9, hlog, hle] at w
          exact (List.prefix_append_right_inj _).mp w
      exact chainOf_prefix_sub hpre c hc
    · exact List.mem_append_right _ hc
  · intro c hc
    rw [sm.T_eq, C04Sys.newCreated_append]
    exact hc

/-- **a crash during a step and the restart preserve the invariants** — given that the completed step would not have
failed -/
theorem xinv_crash_core (cm : CM x G i op ra ord src k retain sor n) (hX : XInv x)
    (hu : ∀ t c, op = .changeConfig t c → UserCfg true i c) (hp : cm.sm.post.panicked = none) (hret : 1 ≤ retain) :
    XInv (crashM x i op n) ∧ ∃ G', MInv (crashM x i op n) G' ∧ G'.root = G.root := by
  have sm := cm.sm
  have hI := sm.inv
  have hsub := crash_T_sub cm
  have hRy := cm.ry
  have htree : ∀ c ∈ cm.y.cm.T, EntOK c.e := fun c hc => sm_tree sm hX hu hp c (hsub c hc)
  have hadj : ∀ c ∈ cm.y.cm.T, ∀ p ∈ cm.y.cm.T, c.cr ≠ 0 → PrevT cm.y.cm.T (key p) (key c) → ∀ cfg pcfg,
      c.e.config? = some cfg → p.e.config? = some pcfg → AdjLists pcfg.voters cfg.voters := by
    intro c hc p hpT h0 hprev cfg pcfg hcfg hpcfg
    obtain ⟨pth, hpth, hh⟩ := cm.treeM.pathc c hc
    exact sm_adj sm hX hu hp c (hsub c hc) p (hsub p hpT) h0
      (prevT_mono hsub sm.ry.uniq ⟨pth, hpth, hh⟩ hprev) cfg pcfg hcfg hpcfg
  have hsy : SideT (crashM x i op n) := sideT_of htree hadj
  refine ⟨⟨NodeSys.forall_setNode (P := fun _ m => Good true m) ?_ (fun j _ => hX.good j), htree, hadj⟩, cm.minv hsy⟩
  have im := sm.img k
  obtain ⟨_, _, _, _, _, _, _, _, f9⟩ := cm.facts
  have hnwf : NWF n := by
    have := (hRy.nodes i).1
    rwa [show cm.y.cm.rp.el.node i = n from cm.node_i] at this
  have hchain : Chain cm.y.cm.T none n.log.entries := by
    have := (hRy.nodes i).2
    rwa [show cm.y.cm.rp.el.node i = n from cm.node_i] at this
  have hseg : C09.SegsOK (C05.crashDisk (x.node i) op ra ord k).log :=
    MemberSeg.crashDisk_segsOK _ op ra ord k sm.en.rp.ok sm.en.cfg (sm.side.boot i) (hX.good i).ordered.segs
      (hI.node.lwf i) (hX.good i).ordered.last_eq (fun _ => hp)
  refine C15NoPanic.restart_good _ retain sor n
    (C15NoPanic.diskOK'_nosnap im.prev im.snaps hseg (by rw [← f9]; exact hnwf.contig) hret fun ne hne ht => ?_) cm.hn
  rw [← f9] at hne
  obtain ⟨c, hc, hce⟩ := C04Sys.chain_mem hchain ne hne
  obtain ⟨cfg, hcfg, hall⟩ := htree c hc (by rw [hce]; exact ht)
  rw [← hce, hcfg]; exact hall.cfgOk _

/-- where some operation is enabled, the trivial one is, and no node fails to handle it -/
theorem disconnected0_ok {x : Member.Sys} {i : Nat} {op : Op} {src : Nat} (he : Member.Enabled x i op src)
    (ra : List Nat) (ord : List (List Nat)) :
    Member.Enabled x i (.disconnected 0) src ∧ ((x.node i).step (.disconnected 0) ra ord).panicked = none :=
  ⟨⟨⟨he.rp.id, (fun q h => by cases h), (fun ⟨_, _, _, h⟩ => by cases h), trivial, (fun q h => by cases h)⟩, trivial,
      (fun q h => by cases h), (fun q h => by cases h), (fun us h => by cases h)⟩,
    by rw [step_disconnected0]; rfl⟩

/-- nothing of the operation was handled when a process is restarted between two steps (`k = 0`): the same state results
from a crash before a trivial operation (a `disconnected` notification about nobody) — which no node fails to handle,
open or closed -/
theorem crash0_swap (hI : MInv x G) (hS : SideM x) (he : Member.Enabled x i op src)
    (hn : Node.restart (C05.crashDisk (x.node i) op ra ord 0) retain sor = some n) :
    Member.Enabled x i (.disconnected 0) src ∧ ((x.node i).step (.disconnected 0) ra ord).panicked = none ∧
    crashM x i op n = crashM x i (.disconnected 0) n := by
  obtain ⟨he', hp'⟩ := disconnected0_ok he ra ord
  have cm' : CM x G i (.disconnected 0) ra ord src 0 retain sor n := ⟨⟨hI, hS, he', fun _ => hp'⟩, hn⟩
  have hlen : n.log.entries.length ≤ (x.node i).log.entries.length := by
    obtain ⟨_, _, _, _, _, _, _, _, f9⟩ := cm'.facts
    rw [f9]
    show (x.node i).log.durable.entries.length ≤ _
    rw [durable_entries (nwfM hI i), List.length_take]
    exact Nat.min_le_right _ _
  have hnc : newCreated i (x.node i).log.entries n.log.entries op =
      newCreated i (x.node i).log.entries n.log.entries (.disconnected 0) := by
    have h0 : newCreated i (x.node i).log.entries n.log.entries (.disconnected 0) = [] := by
      show chainOf i _ (n.log.entries.drop _) = []
      rw [List.drop_eq_nil_of_le hlen]; rfl
    rw [h0]
    rcases Commit.op_cases op with happ | ⟨q, rfl⟩
    · rw [C04Sys.newCreated_other _ _ _ _ happ, List.drop_eq_nil_of_le hlen]; rfl
    · rfl
  refine ⟨he', hp', ?_⟩
  unfold crashM crashCm crashRp
  rw [show x.cm.node i = x.node i from rfl, hnc]

/-- a crash of `TransR` is a crash of `MemberStep.CM`: of the operation at hand when the node is open, of an idle
operation when a closed node's process is restarted (`crash0_swap`) -/
theorem cm_of_crash (hI : MInv x G) (hX : XInv x) (hLC : ∀ i, C06Cache.LeaderCache (x.node i))
    (he : Member.Enabled x i op src) (hg : ReqG x i op) (hopen : (x.node i).closed = "" ∨ k = 0)
    (hn : Node.restart (C05.crashDisk (x.node i) op ra ord k) retain sor = some n) :
    ∃ op', ∃ _ : CM x G i op' ra ord src k retain sor n, crashM x i op n = crashM x i op' n ∧
      ((x.node i).step op' ra ord).panicked = none ∧ ∀ t c, op' = .changeConfig t c → UserCfg true i c := by
  rcases hopen with ho | hk
  · obtain ⟨sm, hp⟩ := sm_of_step hI hX hLC he hg ho ra ord
    exact ⟨op, ⟨sm, hn⟩, rfl, hp, hg.userCfg⟩
  · subst hk
    obtain ⟨he', hp', heq⟩ := crash0_swap hI (sideM_of hI hX hLC) he hn
    exact ⟨.disconnected 0, ⟨⟨hI, sideM_of hI hX hLC, he', fun _ => hp'⟩, hn⟩, heq, hp', fun t c h => by cases h⟩

theorem xinv_crash (hI : MInv x G) (hX : XInv x) (hLC : ∀ i, C06Cache.LeaderCache (x.node i))
    (he : Member.Enabled x i op src) (hg : ReqG x i op) (hopen : (x.node i).closed = "" ∨ k = 0) (hret : 1 ≤ retain)
    (hn : Node.restart (C05.crashDisk (x.node i) op ra ord k) retain sor = some n) :
    XInv (crashM x i op n) ∧ ∃ G', MInv (crashM x i op n) G' ∧ G'.root = G.root := by
  obtain ⟨op', cm, heq, hp, hu⟩ := cm_of_crash hI hX hLC he hg hopen hn
  rw [heq]
  exact xinv_crash_core cm hX hu hp hret

end crash

theorem xinv_trans {x y : Member.Sys} {G : Ghost} (hI : MInv x G) (hX : XInv x)
    (hLC : ∀ i, C06Cache.LeaderCache (x.node i)) (ht : TransR x y) :
    XInv y ∧ ∃ G', MInv y G' ∧ G'.root = G.root := by
  cases ht with
  | step i op ra ord src he hg ho => exact xinv_step hI hX hLC i op ra ord src he hg ho
  | crash i op ra ord src k retain sor n he hg hopen hret hn => exact xinv_crash hI hX hLC he hg hopen hret hn
  | send i q hi hl hr hc =>
    exact ⟨⟨hX.good, hX.tree, hX.adj⟩, G, MemberStep.minv_send hI hi hl hr hc, rfl⟩

/-- in a transition of `TransR` the operation at hand does not fail (`MemberStep.TransNF`) -/
theorem transNF_of {x y : Member.Sys} {G : Ghost} (hI : MInv x G) (hX : XInv x)
    (hLC : ∀ i, C06Cache.LeaderCache (x.node i)) (ht : TransR x y) : MemberStep.TransNF x y := by
  cases ht with
  | step i op ra ord src he hg ho =>
    exact .step i op ra ord src he (fun _ => (sm_of_step hI hX hLC he hg ho ra ord).2)
  | crash i op ra ord src k retain sor n he hg hopen hret hn =>
    obtain ⟨op', cm, heq, hp, _⟩ := cm_of_crash hI hX hLC he hg hopen hn
    rw [heq]
    exact .crash i op' ra ord src k retain sor n cm.sm.en (fun _ => hp) cm.hn
  | send i q hi hl hr hc => exact .send i q hi hl hr hc

end MemberSide
end Raft
