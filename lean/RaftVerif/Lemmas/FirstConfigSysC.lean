/-
`NodeInv` along the runs of the cluster-level system `SysInv.ReachableG` (`Raft.Commit` with the invariant `GInv`: fixed
membership, no snapshot operations, closed nodes frozen), part C.

`GInv` does not contain `C19Latest.LatestIsNewest`; it is part of `NodeInv` and carried here, together with
`C12Track.Tracks` (as in `C19Sys.tracks_in_sys_partial`) and the ledger invariant "every append request on the wire carries
a configuration at index 1 if it carries index 1":
* `InvG`, `invG_trans` : preserved by every transition of `SysInv.TransG` (completed steps of open nodes, crashes of open
  nodes at any storage point and of any node between two steps + restart, sends);
* `ReachableGF`, `reachGF` : the states reachable from an initial state in which every node tracks and satisfies `NodeInv`.
-/
import RaftVerif.Lemmas.FirstConfigSysB
import RaftVerif.Props.C19Sys

namespace Raft
namespace FirstCfgSys
open Node Track Order FsmCfg C19FsmConfig C19FsmConfigSys TrackCrash
open LogRel CommitRel Commit C02Sys NoPanic SysInv Replication

section
variable {V : List Nat}

structure InvG (x : Commit.Sys) : Prop where
  tracks : ∀ i, C12Track.Tracks (x.node i)
  ninv : ∀ i, NodeInv (x.node i)
  sentFirst : ∀ q ∈ x.rp.sent, FirstCfg.First q.entries

/-- there is no snapshot in this system: the label is the zero configuration -/
theorem label_le_of_nwf {s : Node} (h : NWF s) : (label s).index ≤ s.snapIndex := by
  unfold Track.label
  rw [h.snaps]
  exact Nat.zero_le _

theorem first_of_readFrom (s : Node) (q : AppendReq) (hr : ReadFrom s q) (hf : FirstIsConfig s) :
    FirstCfg.First q.entries := by
  obtain ⟨n, hn⟩ := hr.entries
  intro e he h1
  rw [hn] at he
  exact hf e (List.mem_of_mem_drop (List.mem_of_mem_take he)) h1

theorem reqFirst_enabledG {x : Commit.Sys} (hF : InvG x) {i : Nat} {op : Op} {src : Nat}
    (he : Commit.Enabled x i op src) : ReqFirst (x.node i) op ∧ ReqLab (x.node i) op := by
  cases op with
  | append q =>
    refine ⟨?_, trivial⟩
    show q.term < (x.node i).term ∨ ∀ e ∈ q.entries, e.index = 1 → e.config?.isSome = true
    rcases he.rp.append q rfl with h | h
    · exact Or.inl h
    · exact Or.inr (hF.sentFirst q h)
  | install q => exact (he.rp.ok).elim
  | _ => exact ⟨trivial, trivial⟩

theorem invG_trans (hV : V.Nodup) {x y : Commit.Sys} (hx : ReachableG V x) (hF : InvG x) (ht : TransG x y)
    (hsg : SideG y) : InvG y := by
  have hT' := C19Sys.tracks_trans hV hx hF.tracks ht hsg
  have hG := ginv_reachable hV hx
  obtain ⟨hI, hS⟩ := inv_reachable hV (reachableG_V hx)
  cases ht with
  | step i op ra ord src he heG ho =>
    obtain ⟨_, hro, hp, _⟩ := C19Sys.reqok_in_sys_partial V hV x hx i op src he heG ho ra ord
    obtain ⟨hq, hlb⟩ := reqFirst_enabledG hF he
    exact ⟨hT', NodeSys.forall_setNode (P := fun _ => NodeInv)
      (nodeInv_step_nc _ op ra ord (hF.tracks i) (hG.good i).ordered (label_le_of_nwf (nwf hI i)) (hF.ninv i) hro
        hlb hq hp) (fun j _ => hF.ninv j), hF.sentFirst⟩
  | crash i op ra ord src k retain sor n he heG hopen hn =>
    have hm : Mem (x.node i) := ⟨hI.node.lwf i, label_le_of_nwf (nwf hI i), (hG.good i).glob.logDec⟩
    refine ⟨hT', NodeSys.forall_setNode (P := fun _ => NodeInv) ?_ (fun j _ => hF.ninv j), hF.sentFirst⟩
    rcases hopen with ho | hk
    · obtain ⟨hr', hro, hp, _⟩ := C19Sys.reqok_in_sys_partial V hV x hx i op src he heG ho ra ord
      obtain ⟨hq, hlb⟩ := reqFirst_enabledG hF he
      exact nodeInv_crash_nc _ op ra ord k retain sor n (hF.tracks i) (hG.good i).ordered hm (hF.ninv i) hro
        (RestartSys.reqDec_member hr') hlb hq hp hn
    · subst hk
      have hp' : ((x.node i).step (.disconnected 0) ra ord).panicked = none := by
        rw [Node.step_disconnected0]; rfl
      have e : C05.crashDisk (x.node i) op ra ord 0 = C05.crashDisk (x.node i) (.disconnected 0) ra ord 0 := rfl
      rw [e] at hn
      exact nodeInv_crash_nc _ (.disconnected 0) ra ord 0 retain sor n (hF.tracks i) (hG.good i).ordered hm
        (hF.ninv i) trivial trivial trivial trivial hp' hn
  | send i q hi hl hr hc =>
    refine ⟨hT', hF.ninv, fun q' hq' => ?_⟩
    have hq'' : q' ∈ q :: x.rp.sent := hq'
    rcases List.mem_cons.mp hq'' with rfl | hm
    · exact first_of_readFrom _ _ hr (hF.ninv i).cfg.first
    · exact hF.sentFirst q' hm

inductive ReachableGF (V : List Nat) : Commit.Sys → Prop
  | init (x : Commit.Sys) : Commit.Init x → SideV V x → SideG x → GInv x → (∀ i, C12Track.Tracks (x.node i)) →
      (∀ i, NodeInv (x.node i)) → ReachableGF V x
  | next (x y : Commit.Sys) : ReachableGF V x → TransG x y → SideV V y → SideG y → ReachableGF V y

theorem reachableGF_reachableG {x : Commit.Sys} (h : ReachableGF V x) : ReachableG V x := by
  induction h with
  | init x hi hs hsg hg _ _ => exact .init x hi hs hsg hg
  | next x y _ ht hs hsg ih => exact .next x y ih ht hs hsg

theorem reachGF (hV : V.Nodup) {x : Commit.Sys} (h : ReachableGF V x) : InvG x := by
  induction h with
  | init x hi _ _ _ ht hn =>
    refine ⟨ht, hn, fun q hq => ?_⟩
    have : x.rp.sent = [] := hi.rp.sent
    rw [this] at hq; cases hq
  | next x y hx ht _ hsg ih => exact invG_trans hV (reachableGF_reachableG hx) ih ht hsg

theorem invG_run (hV : V.Nodup) {x y : Commit.Sys} (hx : ReachableG V x) (hrun : RunG V x y) (hF : InvG x) : InvG y := by
  induction hrun with
  | refl => exact hF
  | next y z hy ht _ hsg ih => exact invG_trans hV (run_reachableG hx hy) ih ht hsg

end

end FirstCfgSys
end Raft
