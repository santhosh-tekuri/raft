/-
The invariant of the cluster system with installation of snapshots (Sys/Snap3.lean): a completed APPEND step, whatever
the request — also one that overwrites the first entry of a log that starts exactly at its snapshot index (which the
un-compaction of Lemmas/SnapRelU*.lean cannot follow on the segment list).

The virtual node is regrouped to the un-compaction that keeps the segment list (`SnapInstV.V`; `SnapInv.sinv_regroup`:
the invariants read the segment list only through `lastSegPrev`), makes the same step (`SnapInstV.append_step_V`: a step
of stage 1), and is regrouped back; the ledgers do not see the difference (`stepL_append_congr`).
-/
import RaftVerif.Lemmas.SnapInv3
import RaftVerif.Lemmas.SnapInstV

namespace Raft
namespace SnapInst3
open Node Election LogRel Replication CommitRel Commit C02Sys C03Sys SnapRel SnapRelU SnapSim Snap Snap2 SnapInv SnapInv2
open SnapInst SnapInstU Snap3 SnapFrame SnapInstV

section
variable {V : List Nat}

/-- the ledgers of an append step read of the nodes only the term, the cached last coordinates, the role, the reply and
the log entries -/
theorem stepL_append_congr (z : Commit.Sys) (M : Nat → Node) (i : Nat) (q : AppendReq) (src : Nat) (P P' : Node)
    (N : Nat → Node)
    (h1 : (M i).term = (z.node i).term) (h2 : (M i).lastLogIndex = (z.node i).lastLogIndex)
    (h3 : (M i).lastLogTerm = (z.node i).lastLogTerm)
    (p1 : P'.term = P.term) (p2 : P'.votedFor = P.votedFor) (p3 : P'.role = P.role) (p4 : P'.rpcReply = P.rpcReply)
    (p5 : P'.log.entries = P.log.entries) :
    withNodes (stepL (withNodes z M) i (.append q) src P') N = withNodes (stepL z i (.append q) src P) N := by
  have hn : (withNodes z M).node i = M i := rfl
  unfold stepL
  rw [hn]
  unfold selfGrant campOf ackOf selfAck newCommit
  simp only [h1, h2, h3, p1, p2, p3, p4, p5]
  rfl

/-- the two un-compactions of a node differ only in the segment list -/
theorem snapStep_UV (β : List Entry) (s : Node) (hne : s.log.segs ≠ []) (hso : SnapOK (U β s)) :
    SnapStep (U β s) (SnapInstV.V β s) ∧ SnapStep (SnapInstV.V β s) (U β s) := by
  have hlsp : (vLog β s.log).lastSegPrev = (uncLog β s.log).lastSegPrev := by
    rw [vLog_lastSegPrev _ hne, uncLog_lastSegPrev]
  have hlast : (vLog β s.log).last = (uncLog β s.log).last := by rw [vLog_last, uncLog_last]
  constructor
  · refine ⟨⟨rfl, rfl, rfl, rfl, rfl, rfl, rfl, Nat.le_refl _, fun hw => ?_, rfl, rfl, rfl, rfl, rfl, rfl⟩, rfl,
      ⟨hso.retain, hso.files, hso.head, hso.le⟩, Nat.le_refl _, fun g hg => Or.inl hg⟩
    show C06.LogWF (vLog β s.log)
    have hw' : C06.LogWF (uncLog β s.log) := hw
    unfold C06.LogWF at hw' ⊢
    rw [hlsp, hlast]; exact hw'
  · refine ⟨⟨rfl, rfl, rfl, rfl, rfl, rfl, rfl, Nat.le_refl _, fun hw => ?_, rfl, rfl, rfl, rfl, rfl, rfl⟩, rfl,
      ⟨hso.retain, hso.files, hso.head, hso.le⟩, Nat.le_refl _, fun g hg => Or.inl hg⟩
    show C06.LogWF (uncLog β s.log)
    have hw' : C06.LogWF (vLog β s.log) := hw
    unfold C06.LogWF at hw' ⊢
    rw [← hlsp, ← hlast]; exact hw'

theorem av_node {x : Snap3.Sys} (hI3 : Inv3 V x) (hS : Side3 V x) (i : Nat) :
    AV (x.node i) ∧ (x.node i).log.prev ≤ (x.node i).log.flushed := by
  refine ⟨⟨(hI3.prev i).le, fun h => ?_⟩, prev_le_flushed (x.s2.base i) (hS.segs i) (vnode_lwf3 hI3.sinv i)⟩
  have := (hS.segs i).head
  rw [h] at this; cases this

/-- the cluster of the virtual nodes with the virtual node of `i` regrouped to the un-compaction that keeps the segment
list (`SnapInstV.V`) -/
def regroupV (x : Snap3.Sys) (i : Nat) : Snap.Sys :=
  { cs := withNodes (view x.s2).cs (setNode (view x.s2).cs.rp.el.node i (SnapInstV.V (x.s2.base i) (x.node i)))
    snaps := newSnaps i ((view x.s2).node i).snapsDisk (SnapInstV.V (x.s2.base i) (x.node i)).snapsDisk ++ (view x.s2).snaps }

/-- the regrouped cluster satisfies the invariant and the side conditions of stage 1, differs from the cluster of the
virtual nodes in node `i` only, and an append request enabled at `i` is enabled there -/
theorem regroupV_spec {x : Snap3.Sys} (hI3 : Inv3 V x) (hS : Side3 V x) (i : Nat) :
    SInv V (regroupV x i) ∧ SideS V (regroupV x i) ∧
    (regroupV x i).node i = SnapInstV.V (x.s2.base i) (x.node i) ∧ (∀ j, j ≠ i → (regroupV x i).node j = x.vnode j) ∧
    ∀ {q : AppendReq} {src : Nat}, Snap.Enabled x.s2.cs i (.append q) src →
      Snap.Enabled (regroupV x i).cs i (.append q) src := by
  have hne := (av_node hI3 hS i).1.2
  have hx1i : (regroupV x i).node i = SnapInstV.V (x.s2.base i) (x.node i) := setNode_same _ _ _
  have hx1j : ∀ j, j ≠ i → (regroupV x i).node j = x.vnode j := fun j hj => setNode_other _ _ _ _ hj
  refine ⟨sinv_regroup hI3.sinv (snapStep_UV (x.s2.base i) (x.node i) hne (hI3.sinv.snap i)).1,
    sideS_replace (sideS_view3 hS) hx1j (by rw [hx1i]; exact (sideS_node (sideS_view3 hS) i).congr rfl rfl rfl),
    hx1i, hx1j, fun {q src} en => ?_⟩
  refine ⟨en.id, (fun q' h => by cases h), (fun hc => ?_), en.ok2, (fun q' hq' => ?_), (fun q' h => by cases h),
    en.appendSrc, (fun us h => by cases h)⟩
  · obtain ⟨_, _, _, he⟩ := hc; cases he
  · have := en.append q' hq'
    show q'.term < ((regroupV x i).node i).term ∨ q' ∈ x.s2.cs.rp.sent
    rw [hx1i]; exact this

theorem step3_append (hV : V.Nodup) {x : Snap3.Sys} (hI3 : Inv3 V x) (hS : Side3 V x) {i : Nat} {q : AppendReq}
    {ra : List Nat} {ord : List (List Nat)} {src : Nat} (en : Snap.Enabled x.s2.cs i (.append q) src)
    (hp : ((x.node i).step (.append q) ra ord).panicked = none)
    (hS' : Side3 V { x with s2 := stepS x.s2 i (.append q) ra ord src }) :
    SInv V (view (stepS x.s2 i (.append q) ra ord src)) ∧ PrevOK ((x.node i).step (.append q) ra ord) ∧
    VTerm { x with s2 := stepS x.s2 i (.append q) ra ord src } i := by
  have hI := hI3.sinv
  have hP := hI3.prev
  obtain ⟨hav, hfl⟩ := av_node hI3 hS i
  have so : SnapOK (x.vnode i) := hI.snap i
  have hnep0 : ((x.node i).step (.append q) ra ord).log.segs ≠ [] := fun h => by
    have := (hS'.segs i).head
    have e : ({ x with s2 := stepS x.s2 i (.append q) ra ord src } : Snap3.Sys).node i =
        (x.node i).step (.append q) ra ord := stepS_node_i _ _ _ _ _ _
    rw [e, h] at this; cases this
  have hcomm0 := append_step_V (β := x.s2.base i) (x.node i) q ra ord hav hp
  have fr := step_frame (x.node i) (.append q) ra ord trivial (hP i).le hfl
  obtain ⟨f1, _, f3, f4, f5⟩ := fr
  obtain ⟨_, g2, g3, _⟩ := append_snap_frame (x.node i) q ra ord
  have hyi : ({ x with s2 := stepS x.s2 i (.append q) ra ord src } : Snap3.Sys).node i =
      (x.node i).step (.append q) ra ord := stepS_node_i _ _ _ _ _ _
  have hSyv : SideS V (view (stepS x.s2 i (.append q) ra ord src)) := sideS_view3 hS'
  generalize hpost : (x.node i).step (.append q) ra ord = post at *
  have hpost' : (x.s2.node i).step (.append q) ra ord = post := hpost
  -- the virtual node of the state after the step
  have hb : newBase x.s2 i post.log.prev = pad (x.s2.base i) (x.node i).log.prev := by
    unfold newBase Snap2.Sys.vlog Snap2.Sys.vnode
    rw [f1]
    exact take_vlog (x.s2.base i) (x.node i).log
  have hUb : U (newBase x.s2 i post.log.prev) post = U (x.s2.base i) post := by
    rw [hb, U_pad _ _ _ f1 (fun pt hpt => (f5 pt hpt).1)]
  -- step 1: regroup the virtual node of `i` to `V`
  obtain ⟨hI1, hSX1, hx1i, hx1j, hen⟩ := regroupV_spec hI3 hS i
  have en1 := hen en
  generalize hX1 : regroupV x i = X1 at hI1 hSX1 hx1i hx1j en1
  have hx1i' : X1.cs.node i = SnapInstV.V (x.s2.base i) (x.node i) := hx1i
  -- step 2: the virtual node makes the step (stage 1)
  have hstep1 : (X1.node i).step (.append q) ra ord = SnapInstV.V (x.s2.base i) post := by rw [hx1i, hcomm0]
  have hp1 : ((X1.node i).step (.append q) ra ord).panicked = none := by rw [hstep1]; exact hp
  obtain ⟨Y1, hY1⟩ : ∃ Y1 : Snap.Sys, Y1 = { cs := stepC X1.cs i (.append q) ra ord src, snaps := newSnaps i (X1.node i).snapsDisk ((X1.node i).step (.append q) ra ord).snapsDisk ++ X1.snaps } :=
    ⟨_, rfl⟩
  have ht : Snap.Trans X1 Y1 := by
    rw [hY1]; exact Snap.Trans.step i (.append q) ra ord src en1 hp1 (fun h => nomatch h)
  obtain ⟨_, hk⟩ := vstep_keep hV hI1 hSX1 en1 (by intro h; cases h) (by intro h; cases h) (ra := ra) (ord := ord)
  rw [hstep1, hx1i] at hk
  have hY1i : Y1.node i = SnapInstV.V (x.s2.base i) post := by
    rw [hY1]
    show (stepC X1.cs i (.append q) ra ord src).node i = _
    rw [stepC_node_i]; exact hstep1
  have hY1j : ∀ j, j ≠ i → Y1.node j = x.vnode j := fun j hj => by
    rw [hY1]
    show (stepC X1.cs i (.append q) ra ord src).node j = _
    rw [stepC_node_j _ _ _ _ _ _ hj]; exact hx1j j hj
  have hvy : ∀ j, (stepS x.s2 i (.append q) ra ord src).vnode j =
      if j = i then U (x.s2.base i) post else x.vnode j := by
    intro j; rw [view_stepS_node]; split
    · rw [hpost']; exact hUb
    · rfl
  have hSY1 : SideS V Y1 := by
    refine sideS_replace hSyv (fun j hj => (hY1j j hj).trans ?_) ?_
    · show x.vnode j = (stepS x.s2 i (.append q) ra ord src).vnode j
      rw [hvy, if_neg hj]
    · have := sideS_node hSyv i
      rw [show (view (stepS x.s2 i (.append q) ra ord src)).node i = (stepS x.s2 i (.append q) ra ord src).vnode i from rfl,
        hvy, if_pos rfl] at this
      rw [hY1i]; exact this.congr rfl rfl rfl
  have hIY1 := inv_trans hV hI1 hSX1 ht hSY1
  -- step 3: regroup back to `U`
  have hsoP : SnapOK (U (x.s2.base i) post) := by
    have h' : SnapOK (Y1.node i) := hIY1.snap i
    rw [hY1i] at h'
    exact ⟨h'.retain, h'.files, h'.head, h'.le⟩
  obtain ⟨_, ss2⟩ := snapStep_UV (x.s2.base i) post hnep0 hsoP
  have ss2' : SnapStep (Y1.node i) (U (x.s2.base i) post) := by rw [hY1i]; exact ss2
  have hI2 := sinv_regroup hIY1 ss2'
  -- step 4: this is the view of the state after the step
  have hview : view (stepS x.s2 i (.append q) ra ord src) =
      { cs := withNodes Y1.cs (setNode Y1.cs.rp.el.node i (U (x.s2.base i) post)), snaps := newSnaps i (Y1.node i).snapsDisk (U (x.s2.base i) post).snapsDisk ++ Y1.snaps } := by
    refine sys_ext ?_ ?_
    · show withNodes (withNodes (stepL (view x.s2).cs i (.append q) src _) _) (stepS x.s2 i (.append q) ra ord src).vnode = _
      rw [withNodes_withNodes, hpost', hUb, hY1]
      show _ = withNodes (stepC X1.cs i (.append q) ra ord src) (setNode (stepC X1.cs i (.append q) ra ord src).rp.el.node i _)
      rw [stepC_eq, hx1i', hcomm0, ← hX1]
      show _ = withNodes (stepL (withNodes (view x.s2).cs
          (setNode (view x.s2).cs.rp.el.node i (SnapInstV.V (x.s2.base i) (x.node i)))) i (.append q) src
          (SnapInstV.V (x.s2.base i) post)) _
      rw [stepL_append_congr (view x.s2).cs (setNode (view x.s2).cs.rp.el.node i (SnapInstV.V (x.s2.base i) (x.node i))) i q src
        (U (x.s2.base i) post) (SnapInstV.V (x.s2.base i) post) _
        (by rw [setNode_same]; rfl) (by rw [setNode_same]; rfl) (by rw [setNode_same]; rfl) rfl rfl rfl rfl rfl]
      congr 1
      funext j
      rw [hvy]
      show _ = setNode (setNode (setNode (view x.s2).cs.rp.el.node i _) i _) i _ j
      unfold setNode
      split <;> rfl
    · show newSnaps i (x.node i).snapsDisk ((x.s2.node i).step (.append q) ra ord).snapsDisk ++ x.s2.snaps = _
      rw [hpost']
      have e1 : (Y1.node i).snapsDisk = post.snapsDisk := by rw [hY1i]; rfl
      have e2 : (X1.node i).snapsDisk = (x.node i).snapsDisk := by rw [hx1i]; rfl
      have e3 : ((X1.node i).step (.append q) ra ord).snapsDisk = post.snapsDisk := by rw [hstep1]; rfl
      have e4 : X1.snaps = newSnaps i (x.node i).snapsDisk (x.node i).snapsDisk ++ x.s2.snaps := by rw [← hX1]; rfl
      have e5 : Y1.snaps = newSnaps i (X1.node i).snapsDisk ((X1.node i).step (.append q) ra ord).snapsDisk ++ X1.snaps := by
        rw [hY1]
      rw [e1, e5, e2, e3, e4]
      show _ = newSnaps i post.snapsDisk post.snapsDisk ++ _
      rw [g3, newSnaps_same, List.nil_append, List.nil_append, List.nil_append]
  refine ⟨by rw [hview]; exact hI2, ⟨by rw [f1, f3]; exact (hP i).le, fun rs hrs => by
      rw [f3]; exact (hP i).res rs (by rw [← f4]; exact hrs)⟩, ?_⟩
  -- the snapshot files still agree with the virtual log
  have hv := hI3.vterm i
  have hsc : (x.node i).snapIndex ≤ (x.node i).commitIndex := by
    show (x.vnode i).snapIndex ≤ (x.vnode i).commitIndex
    rw [so.head]; exact so.files.head_le
  have hk' : (U (x.s2.base i) post).log.entries.take (x.node i).commitIndex = (x.vlog i).take (x.node i).commitIndex := hk
  refine ⟨?_, ?_⟩
  · show ∀ f ∈ (({ x with s2 := stepS x.s2 i (.append q) ra ord src } : Snap3.Sys).node i).snapsDisk,
      termAt ((stepS x.s2 i (.append q) ra ord src).vnode i).log.entries f.index = f.term
    rw [hyi, view_stepS_node, if_pos rfl, hpost', hUb, g3]
    intro f hf
    have hfi : f.index ≤ (x.node i).commitIndex := by
      have h1 : f.index ≤ (headOf (x.node i).snapsDisk).index := so.files.le_head f hf
      have h2 : (x.node i).snapIndex = (headOf (x.node i).snapsDisk).index := so.head
      omega
    rw [termAt_of_take_eq hk' hfi]
    exact hv.files f hf
  · show (({ x with s2 := stepS x.s2 i (.append q) ra ord src } : Snap3.Sys).node i).snapTerm =
      (headOf (({ x with s2 := stepS x.s2 i (.append q) ra ord src } : Snap3.Sys).node i).snapsDisk).term
    rw [hyi, g2, g3]; exact hv.head

end

end SnapInst3
end Raft
