import RaftVerif.Lemmas.SegDisk
/-!
`Get` / `GetN` on the log and through a view (C13 `outputs_refine`, `view_stable`,
`view_getN_stable`): each reads a sub-chain of the segment list, which is a window of the abstract
log.  Core Lean only.
-/
namespace Raft.SL

/-- what `Seg.get` / `getNLoop` read from `seg` onwards through its `next` chain -/
def fwdAbs (seg : Seg) (nexts : List Seg) : AbsLog := ⟨seg.prev, seg.entries ++ fwd nexts⟩

theorem chain_segmentOf {x : Seg} {ys : List Seg} (hc : Chain x.prev ys) {p l i : Nat}
    (hp : chainPrev x.prev ys ≤ p) (hi : p < i) (hil : i ≤ l) (hlx : l ≤ x.prev + x.n) :
    ∃ seg nexts, segmentOf (x :: ys) p l i = .ok (some (seg, nexts)) ∧ FCh seg nexts ∧
      seg.prev < i ∧ i ≤ seg.prev + seg.n ∧ Window (fwdAbs seg nexts) (absOf x ys) ∧
      (fwdAbs seg nexts).lastIndex = x.prev + x.n := by
  obtain ⟨seg, nexts, pre, f1, f2, f3, f4, f5, f6⟩ :=
    findSeg_spec i ys x [] hc trivial (by omega) (by omega)
  rw [fwd, List.append_nil] at f5
  refine ⟨seg, nexts, ?_, f2, f3, f4, ⟨pre, [], by rw [List.append_nil]; exact f5, f6.symm⟩, ?_⟩
  · unfold segmentOf
    rw [if_neg (by omega), if_neg (by omega), f1]
  · have := absOf_lastIndex hc
    have hlen := congrArg List.length f5
    simp only [absOf, fwdAbs, AbsLog.lastIndex, List.length_append] at *
    omega

theorem getNLoop_getN {seg : Seg} {nexts : List Seg} (hf : FCh seg nexts) {i n : Nat} (h1 : seg.prev < i)
    (h2 : i ≤ seg.prev + seg.n) (hn : 0 < n) (hl : i + (n - 1) ≤ (fwdAbs seg nexts).lastIndex) :
    flatChunks (getNLoop seg nexts i n) = (fwdAbs seg nexts).getN i n := by
  have hal : (fwdAbs seg nexts).lastIndex = seg.prev + (seg.entries ++ fwd nexts).length := rfl
  obtain ⟨chunks, ec, fc⟩ := getNLoop_spec nexts seg i n hf h1 (by omega) hn (by omega)
  rw [getN_ok h1 hn hl, ec, flatChunks_ok, fc]; rfl

theorem seg_get_abs {seg : Seg} (nexts : List Seg) {j : Nat} (h1 : seg.prev < j) (h2 : j ≤ seg.prev + seg.n) :
    seg.get j 1 = (fwdAbs seg nexts).get j := by
  have hlt : j - seg.prev - 1 < seg.entries.length := by show _ < seg.n; omega
  have hal : (fwdAbs seg nexts).lastIndex = seg.prev + (seg.entries ++ fwd nexts).length := rfl
  rw [List.length_append] at hal
  rw [seg_get_one h1 h2, AbsLog.get, if_neg (by show ¬ j > _; omega), if_neg (by show ¬ j ≤ seg.prev; omega)]
  show _ = match (seg.entries ++ fwd nexts)[j - seg.prev - 1]? with | some b => _ | none => _
  rw [List.getElem?_append_left hlt, List.getElem?_eq_getElem hlt]

theorem chain_getN {x : Seg} {ys : List Seg} (hc : Chain x.prev ys) {p l i n : Nat}
    (hp : chainPrev x.prev ys ≤ p) (hi : p < i) (hn : 0 < n) (hl : i + (n - 1) ≤ l)
    (hlx : l ≤ x.prev + x.n) :
    flatChunks (getNIn (x :: ys) p l i n) = (absOf x ys).getN i n := by
  obtain ⟨seg, nexts, f1, f2, f3, f4, w, hL⟩ := chain_segmentOf hc hp hi (by omega) hlx
  have hl' : i + (n - 1) ≤ (fwdAbs seg nexts).lastIndex := by omega
  rw [← w.getN f3 hn hl', ← getNLoop_getN f2 f3 f4 hn hl', getNIn, if_neg (by omega), f1]
  simp only [if_neg (Nat.ne_of_gt hn)]

theorem chain_get {x : Seg} {ys : List Seg} (hc : Chain x.prev ys) {p l j : Nat}
    (hp : chainPrev x.prev ys ≤ p) (hj : p < j) (hjl : j ≤ l) (hlx : l ≤ x.prev + x.n) :
    getIn (x :: ys) p l j = (absOf x ys).get j := by
  obtain ⟨seg, nexts, f1, _, f3, f4, w, hL⟩ := chain_segmentOf hc hp hj hjl hlx
  rw [← w.get f3 (by omega), ← seg_get_abs nexts f3 f4, getIn, f1]

theorem sub_window {s : SegLog} (h : Inv s) {pre : List Seg} {x : Seg} {ys post' : List Seg}
    (hsegs : s.segs = pre ++ x :: (ys ++ post')) : Window (absOf x ys) (abs s) ∧ Chain x.prev ys := by
  have w := window_sub h hsegs x.n
  rw [show List.take x.n x.entries = x.entries from List.take_length] at w
  exact ⟨w.1, w.2.1⟩

/-- `Get` agrees with the abstract log (including `ErrNotFound` and the panic). -/
theorem get_refines {l : SegLog} (h : Inv l) (i : Nat) : l.get i = (abs l).get i := by
  by_cases hok : l.prevIndex < i ∧ i ≤ l.lastIndex
  · rw [abs_absOf]
    exact chain_get h.2.1 (Nat.le_of_eq (prevIndex_eq l).symm) hok.1 hok.2 (Nat.le_refl _)
  · unfold SegLog.get getIn segmentOf AbsLog.get
    rw [abs_lastIndex h, abs_prev]
    by_cases h1 : i > l.lastIndex
    · simp [h1]
    · simp [h1, show i ≤ l.prevIndex by omega]

/-- `GetN`: the chunks (one per segment) concatenate to exactly the abstract bytes; errors and
panics coincide. -/
theorem getN_refines {l : SegLog} (h : Inv l) (i n : Nat) :
    flatChunks (l.getN i n) = (abs l).getN i n := by
  by_cases hok : l.prevIndex < i ∧ 0 < n ∧ i + (n - 1) ≤ l.lastIndex
  · rw [abs_absOf]
    exact chain_getN h.2.1 (Nat.le_of_eq (prevIndex_eq l).symm) hok.1 hok.2.1 hok.2.2 (Nat.le_refl _)
  · have hL := abs_lastIndex h
    unfold SegLog.getN getNIn segmentOf AbsLog.getN
    rw [hL, abs_prev]
    by_cases h0 : (n = 0 ∧ (i = 0 ∨ i - 1 > l.lastIndex)) ∨ (n > 0 ∧ i + (n - 1) > l.lastIndex)
    · simp [h0]
    · rw [if_neg h0, if_neg h0]
      by_cases h1 : i > l.lastIndex
      · simp [h1]
      · by_cases h2 : i ≤ l.prevIndex
        · simp [h1, h2]
        · have hn : n = 0 := by omega
          obtain ⟨seg, nexts, _, e1, _⟩ := findSeg_spec i l.older l.last [] h.2.1 trivial
            (by rw [← prevIndex_eq]; omega) (by simpa [SegLog.lastIndex, Seg.lastIndex] using h1)
          simp [SegLog.segs, h1, h2, hn, e1]

theorem chainPrev_mem (p : Nat) (ys : List Seg) (x : Seg) (hx : x.prev = p) :
    ∃ z ∈ x :: ys, z.prev = chainPrev p ys := by
  refine ⟨lastD ys x, lastD_mem ys x, ?_⟩
  rw [lastD_prev, hx]

theorem desc_dropWhile_lt {ss : List Seg} {fp : Nat} (hd : Desc ss) :
    ∀ z ∈ ss.dropWhile (fun s => decide (s.prev ≥ fp)), z.prev < fp := by
  induction ss with
  | nil => intro z hz; cases hz
  | cons a rest ih =>
    have hdx := List.pairwise_cons.1 hd
    by_cases ha : a.prev ≥ fp
    · rw [List.dropWhile_cons_of_pos (by simpa using ha)]; exact ih hdx.2
    · rw [List.dropWhile_cons_of_neg (by simpa using ha)]
      intro z hz
      rcases List.mem_cons.1 hz with rfl | hz
      · omega
      · have := hdx.1 z hz; omega

theorem view_sub {s : SegLog} (h : Inv s) {v : View} (hv : ViewOK v s) (hpl : v.p < v.l) :
    ∃ pre x ys post, s.segs = pre ++ x :: (ys ++ post) ∧ v.segs s.segs = x :: ys ∧
      chainPrev x.prev ys ≤ v.p ∧ v.l ≤ x.prev + x.n := by
  obtain ⟨⟨m, hm, em⟩, hfp, hl, hlp⟩ := hv
  cases hlpv : v.lastPrev with
  | none => rw [hlpv] at hlp; exact absurd hpl (Nat.not_lt.2 hlp)
  | some lp =>
    rw [hlpv] at hlp
    obtain ⟨hfl, hlp⟩ := hlp
    have hfplp : v.firstPrev ≤ lp := hfl hpl
    -- the log is `pre ++ vs ++ post`, the view sees `vs`
    obtain ⟨pre, hpre⟩ : ∃ pre, s.segs.takeWhile (fun s => decide (s.prev > lp)) = pre := ⟨_, rfl⟩
    obtain ⟨dw, hdw⟩ : ∃ dw, s.segs.dropWhile (fun s => decide (s.prev > lp)) = dw := ⟨_, rfl⟩
    obtain ⟨post, hpost⟩ : ∃ post, dw.dropWhile (fun s => decide (s.prev ≥ v.firstPrev)) = post := ⟨_, rfl⟩
    have hvs : v.segs s.segs = dw.takeWhile (fun s => decide (s.prev ≥ v.firstPrev)) := by
      simp only [View.segs, hlpv, hdw]
    have e1 : s.segs = pre ++ (v.segs s.segs ++ post) := by
      rw [hvs, ← hpost, List.takeWhile_append_dropWhile, ← hpre, ← hdw, List.takeWhile_append_dropWhile]
    have hprelp : ∀ z ∈ pre, z.prev > lp := fun z hz => by
      have := List.all_eq_true.1 List.all_takeWhile z (hpre ▸ hz); simpa using this
    have hddw : Desc dw := hdw ▸ (inv_desc h).sublist (List.dropWhile_sublist _)
    -- the `first` pointer's segment is among them
    have hmvs : m ∈ v.segs s.segs := by
      rw [e1] at hm
      rcases List.mem_append.1 hm with hm | hm
      · have := hprelp m hm; omega
      · rcases List.mem_append.1 hm with hm | hm
        · exact hm
        · have := desc_dropWhile_lt hddw m (hpost ▸ hm); omega
    cases hxy : v.segs s.segs with
    | nil => rw [hxy] at hmvs; cases hmvs
    | cons x ys =>
      rw [hxy, List.cons_append] at e1
      rw [hxy] at hmvs
      obtain ⟨_, w2, _⟩ := window_sub h e1 0
      have hcp : chainPrev x.prev ys ≤ v.p := by
        rcases List.mem_cons.1 hmvs with rfl | hmy
        · have := chainPrev_le w2; omega
        · have := chainPrev_le_mem w2 m hmy; omega
      -- the newest of them still covers `l`
      have hlx : v.l ≤ x.prev + x.n := by
        cases pre with
        | nil =>
          simp only [SegLog.segs, List.nil_append, List.cons.injEq] at e1
          rw [← e1.1]; simpa [SegLog.lastIndex, Seg.lastIndex] using hl
        | cons p0 pre' =>
          simp only [SegLog.segs, List.cons_append, List.cons.injEq] at e1
          have hc := h.2.1
          rw [e1.2] at hc
          obtain ⟨c1, _⟩ := (chain_append hc).2
          obtain ⟨z, hzm, ez⟩ := chainPrev_mem s.last.prev pre' p0 (by rw [e1.1])
          have hzs : z ∈ s.segs := by
            show z ∈ s.last :: s.older
            rw [e1.1, e1.2]; exact List.mem_append_left _ hzm
          have := hlp z hzs (hprelp z hzm)
          omega
      exact ⟨pre, x, ys, post, e1, rfl, hcp, hlx⟩

theorem view_getN_eq {s : SegLog} (h : Inv s) {v : View} (hv : ViewOK v s)
    {i n : Nat} (h1 : v.p < i) (hn : 0 < n) (h2 : i + (n - 1) ≤ v.l) :
    flatChunks (v.getN s i n) = (abs s).getN i n := by
  obtain ⟨pre, x, ys, post, e1, exy, hcp, hlx⟩ := view_sub h hv (by omega)
  obtain ⟨w, hc⟩ := sub_window h e1
  rw [View.getN, exy, chain_getN hc hcp h1 hn h2 hlx]
  exact w.getN (Nat.lt_of_le_of_lt hcp h1) hn (by rw [absOf_lastIndex hc]; omega)

theorem view_get_eq {s : SegLog} (h : Inv s) {v : View} (hv : ViewOK v s) {j : Nat}
    (h1 : v.p < j) (h2 : j ≤ v.l) : v.get s j = (abs s).get j := by
  obtain ⟨pre, x, ys, post, e1, exy, hcp, hlx⟩ := view_sub h hv (by omega)
  obtain ⟨w, hc⟩ := sub_window h e1
  rw [View.get, exy, chain_get hc hcp h1 h2 hlx]
  exact w.get (Nat.lt_of_le_of_lt hcp h1) (by rw [absOf_lastIndex hc]; omega)

end Raft.SL
