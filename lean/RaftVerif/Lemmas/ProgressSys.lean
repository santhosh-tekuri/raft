/-
Runs of the cluster-level system for the possibility proof (Props/C17Sys.lean): labelled executions `Exec` of
`SysInv.TransG` (only completed steps of open nodes and `send`; no crash), their composition, and the facts every
reachable state provides (`Facts`).
-/
import RaftVerif.Lemmas.ProgressCommit
import RaftVerif.Props.C19Sys
import RaftVerif.Lemmas.QuorumRel

namespace Raft
namespace Progress
open Node LogRel Commit C02Sys NoPanic SysInv
open Replication (ReadFrom)

/-- a label of a run: node `i` handles `op` to completion (oracles `ra`, `ord`; `src`: the sender a counted vote
response is attributed to), or the leader `i` puts the request `q` on the wire -/
inductive Lbl where
  | step (i : Nat) (op : Op) (ra : List Nat) (ord : List (List Nat)) (src : Nat)
  | send (i : Nat) (q : AppendReq)

def Lbl.actor : Lbl → Nat
  | .step i _ _ _ _ => i
  | .send i _ => i

def Lbl.isTimeoutOf (i : Nat) : Lbl → Bool
  | .step j .timeout _ _ _ => j == i
  | _ => false

def Lbl.isTimeout : Lbl → Bool
  | .step _ .timeout _ _ _ => true
  | _ => false

theorem Lbl.isTimeout_of_isTimeoutOf {i : Nat} {l : Lbl} (h : l.isTimeoutOf i = true) : l.isTimeout = true := by
  cases l with
  | step a op _ _ _ => cases op <;> first | rfl | cases h
  | send _ _ => cases h

/-- **labelled runs**: every label is a transition of `SysInv.TransG` (a completed step of an OPEN node handling an
operation that is enabled — `Commit.Enabled`, `SysInv.EnabledG` — or a leader's `send`), and the side conditions
`SideV V`, `SideG` hold in the state reached. No crashes. -/
inductive Exec (V : List Nat) : Commit.Sys → List Lbl → Commit.Sys → Prop
  | nil (x : Commit.Sys) : Exec V x [] x
  | step {x y : Commit.Sys} {ls : List Lbl} (i : Nat) (op : Op) (ra : List Nat) (ord : List (List Nat)) (src : Nat) :
      Exec V x ls y → Commit.Enabled y i op src → EnabledG y i op → (y.node i).closed = "" →
      SideV V (stepC y i op ra ord src) → SideG (stepC y i op ra ord src) →
      Exec V x (ls ++ [.step i op ra ord src]) (stepC y i op ra ord src)
  | send {x y : Commit.Sys} {ls : List Lbl} (i : Nat) (q : AppendReq) :
      Exec V x ls y → i ≠ 0 → (y.node i).role = .leader → ReadFrom (y.node i) q →
      q.ldrCommitIndex ≤ (y.node i).commitIndex → Exec V x (ls ++ [.send i q]) (sendC y q)

theorem Exec.trans {V : List Nat} {x y z : Commit.Sys} {l1 l2 : List Lbl} (h1 : Exec V x l1 y)
    (h2 : Exec V y l2 z) : Exec V x (l1 ++ l2) z := by
  induction h2 with
  | nil => rw [List.append_nil]; exact h1
  | step i op ra ord src _ he heG ho hs hg ih =>
    rw [← List.append_assoc]; exact .step i op ra ord src ih he heG ho hs hg
  | send i q _ hi hl hr hc ih =>
    rw [← List.append_assoc]; exact .send i q ih hi hl hr hc

theorem Exec.runG {V : List Nat} {x y : Commit.Sys} {ls : List Lbl} (hV : V.Nodup) (hx : ReachableG V x)
    (h : Exec V x ls y) : RunG V x y := by
  induction h with
  | nil => exact .refl
  | step i op ra ord src _ he heG ho hs hg ih => exact .next _ _ ih (.step i op ra ord src he heG ho) hs hg
  | send i q _ hi hl hr hc ih =>
    have hy := run_reachableG hx ih
    refine .next _ _ ih (.send i q hi hl hr hc) ?_ ?_
    · exact (inv_reachable hV (reachableG_V hy)).2
    · exact fun j => reachableG_side hy j

theorem Exec.reachable {V : List Nat} {x y : Commit.Sys} {ls : List Lbl} (hV : V.Nodup) (hx : ReachableG V x)
    (h : Exec V x ls y) : ReachableG V y := run_reachableG hx (h.runG hV hx)

section one
variable {V : List Nat} {y : Commit.Sys}

/-- the side conditions after a completed step that keeps the node's latest configuration -/
theorem side_step (hV : V.Nodup) (hy : ReachableG V y) {i : Nat} {op : Op} {src : Nat} (ra : List Nat)
    (ord : List (List Nat)) (he : Commit.Enabled y i op src) (heG : EnabledG y i op)
    (ho : (y.node i).closed = "")
    (hcfg : ((y.node i).step op ra ord).configs.latest = (y.node i).configs.latest) :
    SideV V (stepC y i op ra ord src) ∧ SideG (stepC y i op ra ord src) := by
  have hS := side_iff.mp ⟨(inv_reachable hV (reachableG_V hy)).2, reachableG_side hy⟩
  have hgood := (C19Sys.reqok_in_sys_partial V hV y hy i op src he heG ho ra ord).2.2.2
  refine side_iff.mpr (NodeSys.forall_setNode (P := fun _ m => NodeSide V m) ⟨?_, ?_, ?_, hgood.glob.retain⟩
    (fun j _ => hS j))
  · unfold Configs.isBootstrapped; rw [hcfg]; exact (hS i).1
  · rw [hcfg]; exact (hS i).2.1
  · rw [hcfg]; exact (hS i).2.2.1

/-- a completed step that is not an append request, as a run of one label -/
theorem exec_step (hV : V.Nodup) (hy : ReachableG V y) {i : Nat} {op : Op} {src : Nat} (ra : List Nat)
    (ord : List (List Nat)) (he : Commit.Enabled y i op src) (heG : EnabledG y i op)
    (ho : (y.node i).closed = "") (happ : ∀ q, op ≠ .append q) :
    Exec V y [.step i op ra ord src] (stepC y i op ra ord src) := by
  obtain ⟨hI, hS⟩ := inv_reachable hV (reachableG_V hy)
  have sc : SC V y i op ra ord src := ⟨hV, hI, hS, he⟩
  obtain ⟨h1, h2⟩ := side_step hV hy ra ord he heG ho (sc.nst happ).cfg
  exact .step i op ra ord src (.nil y) he heG ho h1 h2

/-- a completed step handling an append request that keeps the latest configuration, as a run of one label -/
theorem exec_append (hV : V.Nodup) (hy : ReachableG V y) {i : Nat} {q : AppendReq} {src : Nat} (ra : List Nat)
    (ord : List (List Nat)) (he : Commit.Enabled y i (.append q) src) (heG : EnabledG y i (.append q))
    (ho : (y.node i).closed = "")
    (hcfg : ((y.node i).step (.append q) ra ord).configs.latest = (y.node i).configs.latest) :
    Exec V y [.step i (.append q) ra ord src] (stepC y i (.append q) ra ord src) := by
  obtain ⟨h1, h2⟩ := side_step hV hy ra ord he heG ho hcfg
  exact .step i (.append q) ra ord src (.nil y) he heG ho h1 h2

end one

structure Facts (V : List Nat) (x : Commit.Sys) (i : Nat) : Prop where
  nid : (x.node i).nid = i
  nwf : NWF (x.node i)
  lwf : C06.LogWF (x.node i).log
  wf : C05.VoteWF (x.node i)
  good : Good true (x.node i)
  boot : (x.node i).configs.isBootstrapped = true
  voters : (x.node i).configs.latest.voters = V
  stable : (x.node i).configs.latest.isStable = true
  latest1 : (x.node i).configs.latest.index = 1
  lastPos : 1 ≤ (x.node i).log.entries.length
  termLe : ∀ e ∈ (x.node i).log.entries, e.term ≤ (x.node i).term
  candPos : (x.node i).role = .candidate → (x.node i).term ≠ 0

theorem facts {V : List Nat} (hV : V.Nodup) {x : Commit.Sys} (hx : ReachableG V x) (i : Nat) : Facts V x i := by
  obtain ⟨hI, hS⟩ := inv_reachable hV (reachableG_V hx)
  have hG := ginv_reachable hV hx
  refine ⟨(hI.rp.el.ids i).1, nwf hI i, hI.node.lwf i, (hI.rp.el.ids i).2, hG.good i, (hS.1 i).1, (hS.1 i).2,
    hS.2 i, latest_one hS hG i, ?_, hI.node.termLe i, fun hc => (hI.rp.el.cand i hc).term_pos⟩
  have := last_pos hS hG i
  rw [(nwf hI i).last] at this
  exact this

/-- a member of `V` is a voter of a node's latest configuration when the member ids of that configuration are
distinct (in Go the members are a map keyed by id) -/
theorem isVoter_of_mem {V : List Nat} {x : Commit.Sys} {i : Nat} (f : Facts V x i)
    (hids : (x.node i).configs.latest.ids.Nodup) {j : Nat} (hj : j ∈ V) :
    (x.node i).configs.latest.isVoter j = true :=
  (QuorumRel.mem_voters_iff _ hids j).mp (by rw [f.voters]; exact hj)

end Progress
end Raft
