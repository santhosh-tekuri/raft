/-
"Above a snapshot the state machine holds a configuration" as an invariant of `Node.step` (instance of the framework
of Lemmas/FsmConfigA.lean).

* `PosIdx log`      : every entry of the log has a positive index (a consequence of `C03.LogContig`);
* `LabelsPos disk`  : every snapshot file on disk is labelled with a real configuration (`config.index ≥ 1`);
* `Above s`         : if the node has a snapshot (`snapIndex ≥ 1`) the state machine is at or beyond it and HOLDS a
                      configuration (`fsm.config.index ≥ 1`);
* `K s`             : while the step has not panicked, the three of them.
`K` is preserved by every primitive: the FSM goroutine replaces its configuration only by a configuration decoded from
a log entry (index of the entry, positive) or by the label of a file on disk; a received snapshot file must carry a real
configuration (`PF`); the snapshot goroutine labels its file with the FSM's configuration when the FSM holds one — which
it does above a snapshot, and (`PS`) is assumed of a state without snapshot.
-/
import RaftVerif.Lemmas.FsmConfigA
import RaftVerif.Lemmas.TrackCrashB

namespace Raft
namespace FsmCfg
open Node Track

def PosIdx (l : NLog) : Prop := ∀ e ∈ l.entries, 0 < e.index

def LabelsPos (d : List SnapFile) : Prop := ∀ f ∈ d, 0 < f.config.index

def Above (s : Node) : Prop := 1 ≤ s.snapIndex → s.snapIndex ≤ s.fsm.index ∧ 0 < s.fsm.config.index

instance (s : Node) : Decidable (Above s) := by unfold Above; infer_instance
instance (d : List SnapFile) : Decidable (LabelsPos d) := by unfold LabelsPos; infer_instance
instance (l : NLog) : Decidable (PosIdx l) := by unfold PosIdx; infer_instance

def KS (s : Node) : Prop := PosIdx s.log ∧ LabelsPos s.snapsDisk ∧ Above s

def K (s : Node) : Prop := s.panicked = none → KS s

def PF (f : SnapFile) : Prop := 0 < f.config.index

def PS (s : Node) : Prop := s.snapIndex = 0 → 1 ≤ s.fsm.index → 0 < s.fsm.config.index

/-- what `K` looks at -/
def obsK (s : Node) : NLog × List SnapFile × Nat × Fsm := (s.log, s.snapsDisk, s.snapIndex, s.fsm)

theorem obsK_eq {s s' : Node} (h : obsK s' = obsK s) :
    s'.log = s.log ∧ s'.snapsDisk = s.snapsDisk ∧ s'.snapIndex = s.snapIndex ∧ s'.fsm = s.fsm := by
  simp only [obsK, Prod.mk.injEq] at h
  exact h

theorem obsK_of_T {s s' : Node} (h : obsT s' = obsT s) : obsK s' = obsK s := by
  obtain ⟨_, e2, e3, _, e5, e6, _⟩ := obsT_eq h
  unfold obsK; rw [e2, e3, e5, e6]

theorem KS.congr {s s' : Node} (h : KS s) (e : obsK s' = obsK s) : KS s' := by
  obtain ⟨e1, e2, e3, e4⟩ := obsK_eq e
  obtain ⟨a, b, c⟩ := h
  refine ⟨by rw [e1]; exact a, by rw [e2]; exact b, ?_⟩
  unfold Above; rw [e3, e4]; exact c

theorem K.irr {s s' : Node} (h : K s) (e : obsK s' = obsK s) (hp : s'.panicked = none → s.panicked = none) : K s' :=
  fun hp' => (h (hp hp')).congr e

theorem k_panic (s : Node) (site : String) : K (s.panic site) := fun hp => absurd hp (panic_panicked_ne s site)

theorem k_assert {s : Node} (b : Bool) (site : String) (h : K s) : K (s.assert b site) :=
  h.irr (obsK_of_T (obsT_assert s b site)) (Order.irr_assert s b site).2

theorem K.of_sub {s s' : Node} (h : K s) (hl : ∀ e ∈ s'.log.entries, e ∈ s.log.entries)
    (e2 : s'.snapsDisk = s.snapsDisk) (e3 : s'.snapIndex = s.snapIndex) (e4 : s'.fsm = s.fsm)
    (hp : s'.panicked = none → s.panicked = none) : K s' := by
  intro hp'
  obtain ⟨a, b, c⟩ := h (hp hp')
  refine ⟨fun e he => a e (hl e he), by rw [e2]; exact b, ?_⟩
  unfold Above; rw [e3, e4]; exact c

theorem k_appendEntry {s : Node} (e : Entry) (h : K s) : K (s.appendEntry e) := by
  unfold Node.appendEntry
  extract_lets s1 roll
  intro hp
  have hp1 : s1.panicked = none := hp
  have hb : (e.index == s.lastLogIndex + 1) = true := Order.assert_true hp1
  have h1 : K s1 := k_assert _ _ h
  obtain ⟨a, b, c⟩ := h1 hp1
  refine ⟨?_, b, c⟩
  intro x hx
  have hx' : x ∈ (s1.log.append e roll).entries := hx
  rw [(LogRel.append_parts s1.log e roll).2] at hx'
  rcases List.mem_append.mp hx' with hx' | hx'
  · exact a x hx'
  · rw [List.mem_singleton.mp hx']
    have : e.index = s.lastLogIndex + 1 := by simpa using hb
    omega

theorem k_commitN {s : Node} (n : Nat) (h : K s) : K { s with log := s.log.commitN n } :=
  h.of_sub (fun e he => by
    have : e ∈ (s.log.commitN n).entries := he
    rw [(NLog.commitN_same s.log n).2.1] at this; exact this) rfl rfl rfl id

theorem cfg_pos_of_mem {l : List Entry} (h : ∀ e ∈ l, 0 < e.index) {c : Config}
    (hc : c ∈ l.filterMap Entry.config?) : 0 < c.index := by
  obtain ⟨e, he, hcfg⟩ := List.mem_filterMap.mp hc
  rw [(Entry.config?_facts hcfg).2.1]; exact h e he

theorem k_fsmLog {s : Node} (n : Nat) (h : K s) : K (s.fsmApplyLogTo n) := by
  intro hp
  have hp0 : s.panicked = none := (Order.sticky_closed s).fsmApplyLogTo_inv s n (fun x => x) hp
  obtain ⟨a, b, c⟩ := h hp0
  obtain ⟨hr, hc⟩ := fsmApplyLogTo_cases s n
  obtain ⟨_, e2, e3, _, e5, _⟩ := rest_eq hr
  refine ⟨by rw [e5]; exact a, by rw [e2]; exact b, ?_⟩
  unfold Above
  rw [e3]
  rcases hc with hc | ⟨h1, _, _, h4, _, h6⟩
  · rw [hc]; exact c
  · intro hsi
    obtain ⟨c1, c2⟩ := c hsi
    refine ⟨by rw [h4]; omega, ?_⟩
    rw [h6]
    cases hg : ((C03.slice s.log s.fsm.index n).filterMap Entry.config?).getLast? with
    | none => exact c2
    | some cfg =>
      have hm : cfg ∈ (C03.slice s.log s.fsm.index n).filterMap Entry.config? := List.mem_of_getLast? hg
      exact cfg_pos_of_mem (l := C03.slice s.log s.fsm.index n)
        (fun e he => a e (List.mem_of_mem_drop (List.mem_of_mem_take he))) hm

theorem k_itemStep {s : Node} (q : QItem) (h : K s) : K (C12.itemStep s q) := by
  intro hp
  obtain ⟨h1, h2, _, h4⟩ := itemStep_spec s q
  obtain ⟨hp0, hidx⟩ := h4 hp
  obtain ⟨a, b, c⟩ := h hp0
  have hr : rest (C12.itemStep s q) = rest s := fsmFrame_rest.fsmApplyItems_eq s [q]
  obtain ⟨_, e2, e3, _, e5, _⟩ := rest_eq hr
  refine ⟨by rw [e5]; exact a, by rw [e2]; exact b, ?_⟩
  unfold Above
  rw [e3]
  intro hsi
  obtain ⟨c1, c2⟩ := c hsi
  refine ⟨?_, ?_⟩
  · rw [h2]; split <;> omega
  · rw [h1]
    cases hg : q.toEntry.config? with
    | none => exact c2
    | some cfg =>
      have : cfg.index = q.toEntry.index := (Entry.config?_facts hg).2.1
      have hq : q.toEntry.index = q.index := rfl
      show 0 < cfg.index
      omega

theorem k_fsmItems (qs : List QItem) : ∀ {s : Node}, K s → K (s.fsmApplyItems qs) := by
  induction qs with
  | nil => intro s h; exact h
  | cons q qs ih =>
    intro s h
    rw [C12.fsmApplyItems_cons]
    exact ih (k_itemStep q h)

theorem labelsPos_insert {d : List SnapFile} (h : LabelsPos d) (f : SnapFile) (hf : 0 < f.config.index) :
    LabelsPos (insertSnap f d) := by
  intro g hg
  rcases mem_of_mem_insertSnap _ _ _ hg with e | e
  · rw [e]; exact hf
  · exact h g e

theorem labelsPos_publish {d : List SnapFile} (h : LabelsPos d) (f : SnapFile) (hf : 0 < f.config.index) (r : Nat) :
    LabelsPos ((insertSnap f d).take r) :=
  fun g hg => labelsPos_insert h f hf g (List.mem_of_mem_take hg)

theorem publish_fields (s : Node) (f : SnapFile) :
    (s.publishSnapshot f).log = s.log ∧ (s.publishSnapshot f).snapsDisk = (insertSnap f s.snapsDisk).take s.retain ∧
    (s.publishSnapshot f).snapIndex = f.index ∧ (s.publishSnapshot f).fsm = s.fsm ∧
    (s.publishSnapshot f).panicked = s.panicked := ⟨rfl, rfl, rfl, rfl, rfl⟩

theorem k_installCore {s : Node} (f : SnapFile) (h : K s) (hf : PF f) :
    K ((s.publishSnapshot f).clearLog.fsmRestore) := by
  generalize hy : (s.publishSnapshot f).clearLog = y
  have y1 : y.log.entries = [] := by rw [← hy]; rfl
  have y2 : y.snapsDisk = (insertSnap f s.snapsDisk).take s.retain := by rw [← hy]; rfl
  have y3 : y.snapIndex = f.index := by rw [← hy]; rfl
  have y5 : y.panicked = s.panicked := by rw [← hy]; rfl
  intro hp
  rw [fsmRestore_eq] at hp ⊢
  have hp' : (if y.snapIndex = 0 then y.panic "fsm.restoreNoSnapshot" else
      match y.snapsDisk.find? (·.index == y.snapIndex) with
      | some _ => y
      | none => y.panic "fsm.restoreOpen").panicked = none := by
    revert hp
    simp only [panic_eq]
    repeat' split
    all_goals (intro hp; first | exact hp | simp_all)
  by_cases h0 : y.snapIndex = 0
  · rw [if_pos h0] at hp'; exact absurd hp' (panic_panicked_ne _ _)
  · rw [if_neg h0] at hp'
    cases hfind : y.snapsDisk.find? (·.index == y.snapIndex) with
    | none => rw [hfind] at hp'; exact absurd hp' (panic_panicked_ne _ _)
    | some g =>
      rw [hfind] at hp'
      have hp0 : s.panicked = none := by rw [← y5]; exact hp'
      obtain ⟨_, b, _⟩ := h hp0
      have hlab : LabelsPos y.snapsDisk := by rw [y2]; exact labelsPos_publish b f hf _
      have hg : g ∈ y.snapsDisk := List.mem_of_find?_eq_some hfind
      have hgi : g.index = y.snapIndex := by
        have := List.find?_some hfind
        simpa using this
      refine ⟨?_, hlab, ?_⟩
      · intro e he
        have : e ∈ y.log.entries := he
        rw [y1] at this; cases this
      · unfold Above
        dsimp only
        rw [if_neg h0]
        intro _
        exact ⟨by show y.snapIndex ≤ g.index; omega, hlab g hg⟩

theorem k_snapRun {s : Node} (h : K s) (hps : PS s) : K s.snapRun := by
  refine Track.snapRun_ind s h (fun _ _ => h) (fun rq _ hne _ =>
    K.irr (s := (s.withSnapPending none).publishSnapshot (C09.snapFileOf s rq)) (fun hp => ?_) rfl id)
  obtain ⟨p1, p2, p3, p4, p5⟩ := publish_fields (s.withSnapPending none) (C09.snapFileOf s rq)
  rw [p5] at hp
  obtain ⟨a, b, c⟩ := h hp
  have hcfg : 0 < s.fsm.config.index := by
    by_cases hs : 1 ≤ s.snapIndex
    · exact (c hs).2
    · have h0 : s.snapIndex = 0 := by omega
      exact hps h0 (by omega)
  have hf : 0 < (C09.snapFileOf s rq).config.index := by
    show 0 < (if s.fsm.config.index > 0 then s.fsm.config else rq.config).index
    rw [if_pos hcfg]; exact hcfg
  refine ⟨by unfold PosIdx; rw [p1]; exact a, by rw [p2]; exact labelsPos_publish b _ hf _, ?_⟩
  unfold Above
  rw [p3, p4]
  exact fun _ => ⟨Nat.le_refl _, hcfg⟩

theorem k_closed : FStepClosed PF PS K where
  panic := fun s site _ => k_panic s site
  reply := fun s t r h => h.irr (obsK_of_T (obsT_reply s t r)) (Order.irr_reply s t r).2
  point := fun _ _ h => h.irr rfl id
  ldr := fun _ _ h => h.irr rfl id
  appendEntry := fun _ e h => k_appendEntry e h
  commitN := fun _ n h => k_commitN n h
  fsmLog := fun _ n h => k_fsmLog n h
  fsmItems := fun _ qs h => k_fsmItems qs h
  changeConfigR := fun s c h => h.irr (by rw [changeConfigR_shape]; rfl)
    (fun hp => by rw [changeConfigR_shape] at hp; exact hp)
  setCommitIndexR := fun s i h _ => h.irr (obsK_of_T (obsT_setCommitIndexR s i))
    (fun hp => by rw [← Node.setCommitIndexR_panicked s i]; exact hp)
  popOrder := fun _ h => h.irr rfl id
  rpcReply := fun _ _ h => h.irr rfl id
  ret := fun _ _ h => h.irr rfl id
  setRole := fun _ _ h => h.irr rfl id
  setLeader := fun _ _ h => h.irr rfl id
  doClose := fun s r h => h.irr (obsK_of_T (obsT_doClose s r)) (Order.irr_doClose s r).2
  setTerm := fun s t h => h.irr (obsK_of_T (obsT_setTerm s t)) (Order.irr_setTerm s t).2
  voteNewTerm := fun s t c h _ => h.irr (obsK_of_T (obsT_setVotedFor s t c)) (Order.irr_setVotedFor s t c).2
  voteGrant := fun s c h _ => h.irr (obsK_of_T (obsT_setVotedFor s _ c)) (Order.irr_setVotedFor s _ c).2
  votesNeeded := fun _ _ h => h.irr rfl id
  candTransfer := fun _ _ h => h.irr rfl id
  removeGTE := fun s i _ h => h.of_sub (fun e he => List.mem_of_mem_take (show e ∈ s.log.entries.take _ from he))
    rfl rfl rfl id
  removeLTE := fun s i h => h.of_sub (fun e he => List.mem_of_mem_drop (show e ∈ s.log.entries.drop _ from he))
    rfl rfl rfl id
  clearLog := fun s h => h.of_sub (fun e he => by cases (show e ∈ ([] : List Entry) from he)) rfl rfl rfl id
  revertConfig := fun _ h => h.irr rfl id
  commitConfig := fun s h => h.irr (by rw [commitConfig_eq]; rfl)
    (fun hp => by rw [← (commitConfig_other s).2.2.2.2.2.2.2.2.2.2]; exact hp)
  installCore := fun _ f h hf => k_installCore f h hf
  snapRun := fun _ h hps => k_snapRun h hps
  installCommit := fun _ h _ => h.irr rfl id
  snapPending := fun _ _ h => h.irr rfl id
  snapResult := fun _ _ h => h.irr rfl id
  bootstrapLast := fun _ _ _ h => h.irr rfl id

theorem k_step (s : Node) (op : Op) (ra : List Nat) (ord : List (List Nat)) (h : KS s)
    (hop : FOpOk PF PS (s.begin ra ord) op) : K (s.step op ra ord) :=
  k_closed.step_inv s op ra ord (fun _ => h.congr rfl) hop

end FsmCfg
end Raft
