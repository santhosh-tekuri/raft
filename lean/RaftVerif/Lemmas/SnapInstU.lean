/-
Un-compaction (Lemmas/SnapRelU*.lean) for logs that start EXACTLY at the snapshot index — the situation after a snapshot
was installed (stage 3, Sys/Snap3.lean).

* append requests (`append_step_U2`): Lemmas/SnapRelU3.lean needs `log.prev < snapIndex` (`AOK`) so that `RemoveGTE`
  never empties the compacted log.  Here `log.prev ≤ snapIndex` suffices (`AOK2`), given that the request's entries have
  increasing indexes and that no entry of the request makes the handler cut the log at `log.prev + 1` (`NoCutE`: the
  entry with that index, if the request has one, is beyond the log or present in it).
* restart from a disk whose log is EMPTY and starts at the snapshot index (`restart_U_empty`): `openStorage` takes the
  coordinates of the last entry from the snapshot; on the un-compacted disk it reads them from the last compacted-away
  entry — the same, when that entry has the snapshot's term.
-/
import RaftVerif.Lemmas.SnapRelU4

namespace Raft
namespace SnapInstU
open Node SnapRel SnapRelU SnapSim
variable {β : List Entry}

def AOK2 (s : Node) : Prop := s.log.prev ≤ s.snapIndex ∧ s.log.prev ∈ s.log.segs

def NoCutE (s : Node) (ne : Entry) : Prop :=
  ne.index = s.log.prev + 1 → s.log.prev = 0 ∨ s.lastLogIndex < ne.index ∨ s.entryTerm? ne.index = some ne.term

theorem AOK2.frame {cut : Prop} {s s' : Node} (h : AOK2 s) (f : SegFrame cut s s') (hc : cut) : AOK2 s' := by
  unfold AOK2 at h ⊢
  rw [f.prev, f.snap]
  exact ⟨h.1, f.mem hc h.2⟩

theorem NoCutE_congr {s s' : Node} {ne : Entry} (h : NoCutE s ne) (e1 : s'.log = s.log)
    (e2 : s'.lastLogIndex = s.lastLogIndex) : NoCutE s' ne := by
  unfold NoCutE Node.entryTerm? at h ⊢
  rw [e1, e2]
  exact h

/-- the side condition of the loop: `AOK2`, the entries to come have increasing indexes, and none of them makes the
handler cut the log at `log.prev + 1` — or (once an entry has been stored) all of them lie beyond it -/
def COK2 (s : Node) (es : List Entry) : Prop :=
  AOK2 s ∧ es.Pairwise (fun a b => a.index < b.index) ∧
    ((∀ ne ∈ es, NoCutE s ne) ∨ ∀ ne ∈ es, s.log.prev + 1 < ne.index)

theorem aok2_appendOK : AppendOK uncG COK2 where
  snoc := uncG_snoc
  nil := fun _ _ h => ⟨h.1, List.Pairwise.nil, Or.inl (fun _ h => nomatch h)⟩
  next := fun _ _ _ h => ⟨h.1, (List.pairwise_cons.mp h.2.1).2,
    h.2.2.imp (fun k b hb => k b (List.mem_cons_of_mem _ hb)) (fun k b hb => k b (List.mem_cons_of_mem _ hb))⟩
  prev := fun _ _ h => h.1.1
  last := fun _ _ _ => uncG_keepsLast _
  congr := fun s s' _ h e1 e2 e3 => ⟨h.1.frame (cut := True) (.of_log e1 e3) trivial, h.2.1,
    h.2.2.imp (fun k b hb => NoCutE_congr (k b hb) e1 e2) (fun k b hb => by rw [e1]; exact k b hb)⟩
  store := fun s ne rest pt h hi hpres => by
    have hc : ne.index ≤ s.lastLogIndex → s.log.prev = 0 ∨ s.log.prev < ne.index - 1 := by
      intro hle
      rcases h.2.2 with k | k
      · by_cases h1 : ne.index = s.log.prev + 1
        · rcases k ne (List.mem_cons_self ..) h1 with h | h | h
          · exact Or.inl h
          · omega
          · exact absurd (by unfold pres; rw [h]; simp [hle]) hpres
        · right; have := h.1.1; omega
      · right; have := k ne (List.mem_cons_self ..); omega
    have fr := (SegFrame.resolveConflict s ne pt).trans (.appendEntry _ ne)
    refine ⟨fun hle => uncG_keepsCut _ _ ((hc hle).imp id (fun h' => ⟨h', h.1.2⟩)), uncG_keepsLast _,
      h.1.frame fr ⟨hc, trivial⟩, (List.pairwise_cons.mp h.2.1).2, Or.inr (fun b hb => ?_)⟩
    have := (List.pairwise_cons.mp h.2.1).1 b hb
    have := h.1.1
    rw [fr.prev]
    omega
  cc := fun s c _ h => ⟨h.1.frame (.changeConfigR s c) trivial, h.2.1, by
    rcases h.2.2 with k | k
    · refine Or.inl (fun b hb hbi => ?_)
      rw [(SegFrame.changeConfigR s c).prev] at hbi
      have := k b hb hbi
      rw [Node.changeConfigR_shape]
      exact this
    · exact Or.inr (fun b hb => by rw [(SegFrame.changeConfigR s c).prev]; exact k b hb)⟩

theorem append_step_U2 (s : Node) (q : AppendReq) (ra : List Nat) (ord : List (List Nat)) (ha : AOK2 s)
    (hq : ¬ q.term < s.term → q.entries.Pairwise (fun a b => a.index < b.index) ∧ ∀ ne ∈ q.entries, NoCutE s ne)
    (hp : (s.step (.append q) ra ord).panicked = none) :
    (U β s).step (.append q) ra ord = U β (s.step (.append q) ra ord) :=
  append_step_W aok2_appendOK s q ra ord (fun h => ⟨ha, (hq h).1, Or.inl (hq h).2⟩) hp

theorem restartNode_U_empty (d : Durable) (retain : Nat) (sor : Bool) (he : d.log.entries = [])
    (hp : d.log.prev = (headSnap d).index) (h0 : 0 < d.log.prev)
    (hnr : staleLog d = false) (hnu : staleLog { d with log := uncLog β d.log } = false)
    (hlt : (((pad β d.log.prev).getLast?).map (·.term)).getD 0 = (headSnap d).term) :
    restartNode { d with log := uncLog β d.log } retain sor = U β (restartNode d retain sor) := by
  have hc : ¬ d.log.count > 0 := by unfold NLog.count; rw [he]; simp
  have hc' : (uncLog β d.log).count > 0 := by
    show 0 < (pad β d.log.prev ++ d.log.entries).length
    rw [List.length_append, pad_length]; omega
  have hlast : d.log.last = (headSnap d).index := by unfold NLog.last; rw [he, ← hp]; rfl
  have hent : (uncLog β d.log).entries = pad β d.log.prev := by
    show pad β d.log.prev ++ d.log.entries = _
    rw [he, List.append_nil]
  have hp' : d.log.prev = ((d.snaps.head?).getD {}).index := hp
  have hlast' : d.log.last = ((d.snaps.head?).getD {}).index := hlast
  have hlt' : (((uncLog β d.log).entries.getLast?).map (·.term)).getD 0 = ((d.snaps.head?).getD {}).term := by
    rw [hent]; exact hlt
  unfold restartNode
  dsimp only
  simp only [hnr, hnu, Bool.false_eq_true, if_false, if_neg hc, if_pos hc', uncLog_last, hlt', hlast',
    scan_stop _ _ _ _ _ (Nat.le_refl _)]
  rfl

theorem restartFails_U_empty (d : Durable) (he : d.log.entries = [])
    (hp : d.log.prev = (headSnap d).index) (h0 : 0 < d.log.prev)
    (hnr : staleLog d = false) (hnu : staleLog { d with log := uncLog β d.log } = false) :
    restartFails { d with log := uncLog β d.log } = restartFails d := by
  have hc : ¬ d.log.count > 0 := by unfold NLog.count; rw [he]; simp
  have hc' : (uncLog β d.log).count > 0 := by
    show 0 < (pad β d.log.prev ++ d.log.entries).length
    rw [List.length_append, pad_length]; omega
  have hlast' : d.log.last = ((d.snaps.head?).getD {}).index := by
    unfold NLog.last; rw [he]; exact hp
  unfold restartFails
  dsimp only
  simp only [hnr, hnu, Bool.false_eq_true, if_false, if_neg hc, if_pos hc', uncLog_last, hlast',
    scan_stop _ _ _ _ _ (Nat.le_refl _)]

/-- **restart from the un-compacted disk when the log on disk is empty and starts at the newest snapshot**: the
restarted node is the un-compacted restarted node, provided the last compacted-away entry has the snapshot's term
(and neither log is reset by `openStorage`) -/
theorem restart_U_empty (d : Durable) (retain : Nat) (sor : Bool) (he : d.log.entries = [])
    (hp : d.log.prev = (headSnap d).index) (h0 : 0 < d.log.prev)
    (hnr : staleLog d = false) (hnu : staleLog { d with log := uncLog β d.log } = false)
    (hlt : (((pad β d.log.prev).getLast?).map (·.term)).getD 0 = (headSnap d).term) :
    Node.restart { d with log := uncLog β d.log } retain sor = (Node.restart d retain sor).map (U β) := by
  exact Node.restart_map (U β) (restartFails_U_empty d he hp h0 hnr hnu)
    (restartNode_U_empty d retain sor he hp h0 hnr hnu hlt) rfl rfl rfl (by rw [U_fsmRestore]; rfl)

end SnapInstU
end Raft
