/-
Node-level and tree-level facts for the cluster-level commit-safety proof (Sys/Commit.lean, Props/C02Sys.lean).

The tree of created entries (`LogRel.CEntry`, ledger `created` of Sys/Replication.lean): root paths, `Holds` (a list of
entries holds an (index, term) pair), the ancestor relation `Anc` between (index, term) keys, and its stability when the
ledger grows.
Two-state relations over `Node.step`, for the operations of the `_partial` model (fixed, stable configuration; no
snapshots): what happens to the flushed part of the log, to the commit index, to the leader's match-index table and to the
durable (term, vote) pair — also at every crash point of the step: the handlers that touch none of these (`SX`); the
closure principle for the leader block (`CfgClosed`, stated with or without configuration changes: the membership layer,
Lemmas/MemberCommit.lean, uses it too; `MClosed` is the case of a fixed stable configuration) and its instances `LC`, `LI`;
releasing a role and `leader.init`; the summary `nstep` of a step that is not an append request; an append request
(`FRes` from Lemmas/FollowerSpec.lean, summary `fstep`); restart.
-/
import RaftVerif.Props.C04Sys
import RaftVerif.Props.C06
import RaftVerif.Props.C02
import RaftVerif.Props.C03
import RaftVerif.Lemmas.Shape
import RaftVerif.Lemmas.ConfigRel
import RaftVerif.Lemmas.StepWalk
import RaftVerif.Lemmas.FollowerSpec

namespace Raft
namespace CommitRel
open Node LogRel Replication

/-- a root path of the tree: entries with the indexes 1, 2, …, each recorded with the term of its predecessor -/
def Path (T : List CEntry) (es : List Entry) : Prop := Chain T none es ∧ Contig es

/-- the list (a log, a root path) holds an entry with term `τ` at index `k ≥ 1` -/
def Holds (es : List Entry) (k τ : Nat) : Prop := 1 ≤ k ∧ k ≤ es.length ∧ termAt es k = τ

def key (c : CEntry) : Nat × Nat := (c.e.index, c.e.term)

theorem key_eq {c : CEntry} {k τ : Nat} : key c = (k, τ) ↔ c.e.index = k ∧ c.e.term = τ := by
  unfold key; rw [Prod.mk.injEq]

/-- `a` is an ancestor of (or equal to) `c`: some root path holds both, `a` not after `c`.
(With at most one record per (index, term) — `Replication.Uniq` — every root path that holds `c` holds `a`.) -/
def Anc (T : List CEntry) (a c : Nat × Nat) : Prop :=
  a.1 ≤ c.1 ∧ ∃ es, Path T es ∧ Holds es c.1 c.2 ∧ Holds es a.1 a.2

theorem Path.mono {T T' : List CEntry} (h : ∀ c ∈ T, c ∈ T') {es : List Entry} (p : Path T es) : Path T' es :=
  ⟨p.1.mono h, p.2⟩

theorem Path.prefix {T : List CEntry} {l es : List Entry} (p : Path T es) (hp : l <+: es) : Path T l :=
  ⟨p.1.prefix hp, contig_prefix p.2 hp⟩

theorem Anc.mono {T T' : List CEntry} (h : ∀ c ∈ T, c ∈ T') {a c : Nat × Nat} (ha : Anc T a c) : Anc T' a c := by
  obtain ⟨h1, es, p, h2, h3⟩ := ha
  exact ⟨h1, es, p.mono h, h2, h3⟩

theorem holds_get {es : List Entry} {k τ : Nat} (h : Holds es k τ) :
    ∃ e, es[k - 1]? = some e ∧ e.term = τ := by
  obtain ⟨h1, h2, h3⟩ := h
  have hk : k - 1 < es.length := by omega
  refine ⟨es[k - 1], List.getElem?_eq_getElem hk, ?_⟩
  unfold termAt at h3
  rw [if_neg (by omega), List.getElem?_eq_getElem hk] at h3
  exact h3

theorem holds_of_get {es : List Entry} {k : Nat} {e : Entry} (hk : 1 ≤ k) (h : es[k - 1]? = some e) :
    Holds es k e.term := by
  obtain ⟨hl, _⟩ := List.getElem?_eq_some_iff.mp h
  refine ⟨hk, by omega, ?_⟩
  unfold termAt
  rw [if_neg (by omega), h]; rfl

theorem holds_prefix {l es : List Entry} {k τ : Nat} (hp : l <+: es) (h : Holds l k τ) : Holds es k τ := by
  obtain ⟨r, hr⟩ := hp
  obtain ⟨h1, h2, h3⟩ := h
  subst hr
  exact ⟨h1, by rw [List.length_append]; omega, by rw [termAt_append_left _ _ _ h2]; exact h3⟩

theorem holds_of_prefix {l es : List Entry} {k τ : Nat} (hp : l <+: es) (h : Holds es k τ) (hk : k ≤ l.length) :
    Holds l k τ := by
  obtain ⟨r, hr⟩ := hp
  obtain ⟨h1, _, h3⟩ := h
  subst hr
  exact ⟨h1, hk, by rw [← termAt_append_left _ r _ hk]; exact h3⟩

theorem holds_unique {es : List Entry} {k τ τ' : Nat} (h : Holds es k τ) (h' : Holds es k τ') : τ = τ' := by
  rw [← h.2.2, ← h'.2.2]

theorem path_seg {T : List CEntry} {es : List Entry} (p : Path T es) : C04Sys.Seg T 0 none es :=
  ⟨p.1, fun k h => by rw [p.2 k h]; omega⟩

theorem segGet_zero (es : List Entry) (k : Nat) (hk : 1 ≤ k) : C04Sys.segGet 0 es k = es[k - 1]? := by
  unfold C04Sys.segGet
  rw [if_pos (by omega), Nat.sub_zero]

/-- two root paths that hold the same (index, term) hold the same entries up to that index -/
theorem path_agree {T : List CEntry} (hU : Uniq T) {es es' : List Entry} (p : Path T es) (p' : Path T es')
    {k τ : Nat} (h : Holds es k τ) (h' : Holds es' k τ) (j : Nat) (hj1 : 1 ≤ j) (hjk : j ≤ k) :
    es[j - 1]? = es'[j - 1]? := by
  obtain ⟨e, he, het⟩ := holds_get h
  obtain ⟨e', he', het'⟩ := holds_get h'
  have hjl : j - 1 < es.length := by have := h.2.1; omega
  have hjl' : j - 1 < es'.length := by have := h'.2.1; omega
  have := C04Sys.seg_match hU (path_seg p) (path_seg p') (k - j) k j (by omega) e e'
    (by rw [segGet_zero _ _ h.1]; exact he) (by rw [segGet_zero _ _ h'.1]; exact he') (by rw [het, het'])
    es[j - 1] es'[j - 1] (by rw [segGet_zero _ _ hj1]; exact List.getElem?_eq_getElem hjl)
    (by rw [segGet_zero _ _ hj1]; exact List.getElem?_eq_getElem hjl')
  rw [List.getElem?_eq_getElem hjl, List.getElem?_eq_getElem hjl', this]

/-- two paths of the tree that hold entries with the same term at index `K` agree up to `K` -/
theorem take_of_paths {T : List CEntry} (hU : Uniq T) {a b : List Entry} (pa : Path T a) (pb : Path T b) {K : Nat}
    (h1 : K ≤ a.length) (h2 : K ≤ b.length) (ht : termAt a K = termAt b K) : a.take K = b.take K := by
  by_cases h0 : K = 0
  · rw [h0]; rfl
  · apply List.ext_getElem?
    intro n
    rw [List.getElem?_take, List.getElem?_take]
    split
    · have := path_agree hU pa pb (k := K) (τ := termAt b K) ⟨by omega, h1, ht⟩ ⟨by omega, h2, rfl⟩ (n + 1) (by omega)
        (by omega)
      rw [Nat.add_sub_cancel] at this
      exact this
    · rfl

/-- what one root path holds below a key, every root path through that key holds -/
theorem holds_transfer {T : List CEntry} (hU : Uniq T) {es es' : List Entry} (p : Path T es) (p' : Path T es')
    {k τ : Nat} (h : Holds es k τ) (h' : Holds es' k τ) {j σ : Nat} (hj : Holds es j σ) (hjk : j ≤ k) :
    Holds es' j σ := by
  have e := path_agree hU p p' h h' j hj.1 hjk
  obtain ⟨x, hx, hxt⟩ := holds_get hj
  rw [e] at hx
  have := holds_of_get hj.1 hx
  rw [hxt] at this
  exact this

/-- **ancestors are on every path**: a root path that holds `c` holds every ancestor of `c` -/
theorem Anc.on_path {T : List CEntry} (hU : Uniq T) {a c : Nat × Nat} (h : Anc T a c) {es : List Entry}
    (p : Path T es) (hc : Holds es c.1 c.2) : Holds es a.1 a.2 := by
  obtain ⟨h1, es0, p0, c0, a0⟩ := h
  exact holds_transfer hU p0 p c0 hc a0 h1

theorem anc_of_path {T : List CEntry} {es : List Entry} (p : Path T es) {a c : Nat × Nat}
    (ha : Holds es a.1 a.2) (hc : Holds es c.1 c.2) (h : a.1 ≤ c.1) : Anc T a c :=
  ⟨h, es, p, hc, ha⟩

theorem Anc.refl_of_holds {T : List CEntry} {es : List Entry} (p : Path T es) {a : Nat × Nat}
    (ha : Holds es a.1 a.2) : Anc T a a := anc_of_path p ha ha (Nat.le_refl _)

theorem Anc.trans {T : List CEntry} (hU : Uniq T) {a b c : Nat × Nat} (h1 : Anc T a b) (h2 : Anc T b c) :
    Anc T a c := by
  obtain ⟨l2, es, p, hc, hb⟩ := h2
  exact ⟨Nat.le_trans h1.1 l2, es, p, hc, h1.on_path hU p hb⟩

theorem Anc.comparable {T : List CEntry} (hU : Uniq T) {a b c : Nat × Nat} (h1 : Anc T a c) (h2 : Anc T b c)
    (h : a.1 ≤ b.1) : Anc T a b := by
  obtain ⟨_, es, p, hc, hb⟩ := h2
  exact ⟨h, es, p, hb, h1.on_path hU p hc⟩

theorem Anc.eq_of_index {T : List CEntry} {a c : Nat × Nat} (h : Anc T a c) (hi : a.1 = c.1) : a = c := by
  obtain ⟨_, es, _, hc, ha⟩ := h
  rw [hi] at ha
  exact Prod.ext hi (holds_unique ha hc)

theorem Anc.index_pos {T : List CEntry} {a c : Nat × Nat} (h : Anc T a c) : 1 ≤ a.1 ∧ 1 ≤ c.1 := by
  obtain ⟨_, es, _, hc, ha⟩ := h
  exact ⟨ha.1, hc.1⟩

/-- every record of the ledger lies on a root path of the ledger (the ledger is closed under predecessors) -/
def PathClosed (T : List CEntry) : Prop :=
  ∀ c ∈ T, ∃ es, Path T es ∧ Holds es c.e.index c.e.term

/-- **non-ancestry is stable** when the ledger grows (keeping at most one record per (index, term)), for a key
that already had a root path -/
theorem not_anc_mono {T T' : List CEntry} (hsub : ∀ c ∈ T, c ∈ T') (hU' : Uniq T') {a c : Nat × Nat}
    (hc : ∃ es, Path T es ∧ Holds es c.1 c.2) (h : ¬ Anc T a c) : ¬ Anc T' a c := by
  intro h'
  obtain ⟨es, p, hes⟩ := hc
  exact h ⟨h'.1, es, p, hes, h'.on_path hU' (p.mono hsub) hes⟩

/-- the terms along a root path do not decrease when every record's predecessor term is at most its own term -/
theorem path_terms_mono {T : List CEntry} (hm : ∀ c ∈ T, c.pt ≤ c.e.term) {es : List Entry} (p : Path T es) :
    ∀ (d j : Nat), 1 ≤ j → j + d ≤ es.length → termAt es j ≤ termAt es (j + d) := by
  intro d
  induction d with
  | zero => intro j _ _; exact Nat.le_refl _
  | succ d ih =>
    intro j hj1 hk
    refine Nat.le_trans (ih j hj1 (by omega)) ?_
    have hlt : j + d < es.length := by omega
    obtain ⟨c, hcT, hce, hc1, _⟩ := C04Sys.chain_get p.1 (j + d) es[j + d] (List.getElem?_eq_getElem hlt)
    have hpt := hc1 (es[j + d - 1]'(by omega)) (by omega) (List.getElem?_eq_getElem (by omega))
    have h1 : termAt es (j + d) = (es[j + d - 1]'(by omega)).term := by
      unfold termAt
      rw [if_neg (by omega), List.getElem?_eq_getElem (by omega)]; rfl
    have h2 : termAt es (j + d + 1) = es[j + d].term := by
      unfold termAt
      rw [if_neg (by omega)]
      have : j + d + 1 - 1 = j + d := by omega
      rw [this, List.getElem?_eq_getElem hlt]; rfl
    show termAt es (j + d) ≤ termAt es (j + d + 1)
    rw [h1, h2, ← hpt, ← hce]
    exact hm c hcT

theorem holds_terms_mono {T : List CEntry} (hm : ∀ c ∈ T, c.pt ≤ c.e.term) {es : List Entry} (p : Path T es)
    {j k σ τ : Nat} (hj : Holds es j σ) (hk : Holds es k τ) (hjk : j ≤ k) : σ ≤ τ := by
  have := path_terms_mono hm p (k - j) j hj.1 (by have := hk.2.1; omega)
  rw [hj.2.2] at this
  have e : j + (k - j) = k := by omega
  rw [e, hk.2.2] at this
  exact this

theorem Anc.term_le {T : List CEntry} (hm : ∀ c ∈ T, c.pt ≤ c.e.term) {a c : Nat × Nat} (h : Anc T a c) :
    a.2 ≤ c.2 := by
  obtain ⟨h1, es, p, hc, ha⟩ := h
  exact holds_terms_mono hm p ha hc h1

theorem holds_of_lt {es : List Entry} (k : Nat) (h : k < es.length) :
    Holds es (k + 1) es[k].term := by
  have := holds_of_get (es := es) (k := k + 1) (e := es[k]) (by omega)
    (by rw [Nat.add_sub_cancel]; exact List.getElem?_eq_getElem h)
  exact this

theorem path_record {T : List CEntry} {es : List Entry} (p : Path T es) {k τ : Nat} (h : Holds es k τ) :
    ∃ c ∈ T, c.e.index = k ∧ c.e.term = τ ∧ es[k - 1]? = some c.e := by
  obtain ⟨h1, h2, h3⟩ := h
  have hk : k - 1 < es.length := by omega
  obtain ⟨e, he, het⟩ := holds_get ⟨h1, h2, h3⟩
  obtain ⟨c, hcT, hce, _⟩ := C04Sys.chain_get p.1 (k - 1) e he
  have hee : e = es[k - 1] := by
    rw [List.getElem?_eq_getElem hk] at he
    injection he with he; exact he.symm
  refine ⟨c, hcT, ?_, ?_, ?_⟩
  · rw [hce, hee, p.2 _ hk]; omega
  · rw [hce, het]
  · rw [hce]; exact he

/-- a (term, vote) pair that may appear — in memory or on disk — during a step that started in `b`: the term
does not go back, and the vote is 0, or the pair is `b`'s, or the pair is allowed by `A` -/
def PairOK (b : Node) (A : Nat → Nat → Prop) (t v : Nat) : Prop :=
  b.term ≤ t ∧ (v = 0 ∨ (t = b.term ∧ v = b.votedFor) ∨ A t v)

theorem PairOK.mono {b : Node} {A A' : Nat → Nat → Prop} (h : ∀ t v, A t v → A' t v) {t v : Nat}
    (hp : PairOK b A t v) : PairOK b A' t v :=
  ⟨hp.1, hp.2.imp id (fun x => x.imp id (h t v))⟩

/-- Relative to `b`: log (with its flushed mark and segments), cached last coordinates, snapshot data, commit
index, state machine, leader table, configurations and identity are those of `b`; memory and disk agree on
(term, vote), which is an allowed pair; every crash point recorded since holds the durable part of `b`'s log
and an allowed pair. -/
structure SX (b : Node) (A : Nat → Nat → Prop) (K : Prop) (s : Node) : Prop where
  core : LCore s = LCore b
  ci : s.commitIndex = b.commitIndex
  fsm : s.fsm = b.fsm
  ldr : K → s.ldr = b.ldr
  cfg : s.configs = b.configs
  nid : s.nid = b.nid
  wf : C05.VoteWF s
  pair : PairOK b A s.term s.votedFor
  tr : ∀ p ∈ s.trace, p ∈ b.trace ∨
    (p.2.log = b.log.durable ∧ p.2.snaps = b.snapsDisk ∧ PairOK b A p.2.term p.2.vote)

def xobs (s : Node) : (NLog × Nat × Nat × Nat × List SnapFile) × Nat × Fsm × Leader × Configs × Nat ×
    (Nat × Nat × Nat × Nat) × List (String × Durable) :=
  (LCore s, s.commitIndex, s.fsm, s.ldr, s.configs, s.nid, (s.term, s.votedFor, s.durTerm, s.durVote), s.trace)

theorem sx_refl (b : Node) (A : Nat → Nat → Prop) (K : Prop) (h : C05.VoteWF b) : SX b A K b :=
  ⟨rfl, rfl, rfl, fun _ => rfl, rfl, rfl, h, ⟨Nat.le_refl _, Or.inr (Or.inl ⟨rfl, rfl⟩)⟩, fun _ hp => Or.inl hp⟩

theorem sx_congr {b s s' : Node} {A : Nat → Nat → Prop} {K : Prop} (h : SX b A K s) (e : xobs s' = xobs s) : SX b A K s' := by
  unfold xobs at e
  simp only [Prod.mk.injEq] at e
  obtain ⟨e1, e2, e3, e4, e5, e6, ⟨e7, e8, e9, e10⟩, e11⟩ := e
  obtain ⟨a1, a2, a3, a4, a5, a6, a7, a8, a9⟩ := h
  refine ⟨e1.trans a1, e2.trans a2, e3.trans a3, fun k => e4.trans (a4 k), e5.trans a5, e6.trans a6, ?_, ?_, ?_⟩
  · unfold C05.VoteWF at *; rw [e7, e8, e9, e10]; exact a7
  · rw [e7, e8]; exact a8
  · rw [e11]; exact a9

theorem SX.mono {b s : Node} {A A' : Nat → Nat → Prop} {K : Prop} (hA : ∀ t v, A t v → A' t v) (h : SX b A K s) : SX b A' K s :=
  ⟨h.core, h.ci, h.fsm, h.ldr, h.cfg, h.nid, h.wf, h.pair.mono hA,
    fun p hp => (h.tr p hp).imp id (fun ⟨a, c, d⟩ => ⟨a, c, d.mono hA⟩)⟩

/-- the disk of a state with `b`'s log and snapshots whose pair, the same in memory and on disk, is allowed -/
theorem sx_image {b s : Node} {A : Nat → Nat → Prop} (core : LCore s = LCore b) (wf : C05.VoteWF s)
    (pair : PairOK b A s.term s.votedFor) :
    s.durable.log = b.log.durable ∧ s.durable.snaps = b.snapsDisk ∧ PairOK b A s.durable.term s.durable.vote := by
  unfold LCore at core
  simp only [Prod.mk.injEq] at core
  refine ⟨?_, ?_, ?_⟩
  · show s.log.durable = _; rw [core.1]
  · show s.snapsDisk = _; rw [core.2.2.2.2]
  · show PairOK b A s.durTerm s.durVote
    rw [wf.1, wf.2]; exact pair

theorem sx_point {b s : Node} {A : Nat → Nat → Prop} {K : Prop} (n : String) (h : SX b A K s) : SX b A K (s.point n) :=
  ⟨h.core, h.ci, h.fsm, h.ldr, h.cfg, h.nid, h.wf, h.pair,
    Traced.step (D := fun p => p ∈ b.trace ∨ (p.2.log = b.log.durable ∧ p.2.snaps = b.snapsDisk ∧
        PairOK b A p.2.term p.2.vote)) h.tr (rec_point s n) fun _ => Or.inr (sx_image h.core h.wf h.pair)⟩

theorem sx_panic {b s : Node} {A : Nat → Nat → Prop} {K : Prop} (site : String) (h : SX b A K s) : SX b A K (s.panic site) := by
  refine sx_congr h ?_
  unfold Node.panic; split <;> rfl

theorem sx_reply {b s : Node} {A : Nat → Nat → Prop} {K : Prop} (t : Nat) (r : String) (h : SX b A K s) :
    SX b A K (s.reply t r) := by
  refine sx_congr h ?_
  unfold Node.reply; split <;> rfl

theorem sx_assert {b s : Node} {A : Nat → Nat → Prop} {K : Prop} (c : Bool) (site : String) (h : SX b A K s) :
    SX b A K (s.assert c site) :=
  assert_of (fun _ site h => sx_panic site h) s c site h

theorem sx_setRole {b s : Node} {A : Nat → Nat → Prop} {K : Prop} (r : Role) (h : SX b A K s) : SX b A K (s.setRole r) :=
  sx_congr h rfl
theorem sx_setLeader {b s : Node} {A : Nat → Nat → Prop} {K : Prop} (l : Nat) (h : SX b A K s) : SX b A K (s.setLeader l) :=
  sx_congr h rfl
theorem sx_ret {b s : Node} {A : Nat → Nat → Prop} {K : Prop} (r : Nat) (h : SX b A K s) : SX b A K (s.ret r) := sx_congr h rfl
theorem sx_rpcReply {b s : Node} {A : Nat → Nat → Prop} {K : Prop} (r : Option RpcReply) (h : SX b A K s) :
    SX b A K (s.withRpcReply r) := sx_congr h rfl
theorem sx_votesNeeded {b s : Node} {A : Nat → Nat → Prop} {K : Prop} (v : Int) (h : SX b A K s) :
    SX b A K (s.withVotesNeeded v) := sx_congr h rfl
theorem sx_candTransfer {b s : Node} {A : Nat → Nat → Prop} {K : Prop} (v : Bool) (h : SX b A K s) :
    SX b A K (s.withCandTransfer v) := sx_congr h rfl
theorem sx_snapPending {b s : Node} {A : Nat → Nat → Prop} {K : Prop} (v : Option SnapReq) (h : SX b A K s) :
    SX b A K (s.withSnapPending v) := sx_congr h rfl

/-- (The pair is on disk before it is in memory; what a crash between the two leaves is the disk of the state after
both, Lemmas/Traced.lean.) -/
theorem sx_storeTermVote {b s : Node} {A : Nat → Nat → Prop} {K : Prop} (t c : Nat) (h : SX b A K s) (hok : PairOK b A t c) :
    SX b A K (s.storeTermVote t c) := by
  obtain ⟨e1, e2, e3, e4⟩ := C05.storeTermVote_fields s t c
  have wf : C05.VoteWF (s.storeTermVote t c) := ⟨e3.trans e1.symm, e4.trans e2.symm⟩
  have pair : PairOK b A (s.storeTermVote t c).term (s.storeTermVote t c).votedFor := by rw [e1, e2]; exact hok
  have core : LCore (s.storeTermVote t c) = LCore b := by rw [storeTermVote_shape]; exact h.core
  refine ⟨core, ?_, ?_, ?_, ?_, ?_, wf, pair,
    Traced.step (D := fun p => p ∈ b.trace ∨ (p.2.log = b.log.durable ∧ p.2.snaps = b.snapsDisk ∧
      PairOK b A p.2.term p.2.vote)) h.tr (rec_storeTermVote s t c) fun _ => Or.inr (sx_image core wf pair)⟩
  · rw [storeTermVote_shape]; exact h.ci
  · rw [storeTermVote_shape]; exact h.fsm
  · rw [storeTermVote_shape]; exact h.ldr
  · rw [storeTermVote_shape]; exact h.cfg
  · rw [storeTermVote_shape]; exact h.nid

theorem sx_setTerm {b s : Node} {A : Nat → Nat → Prop} {K : Prop} (t : Nat) (h : SX b A K s) : SX b A K (s.setTerm t) := by
  unfold Node.setTerm
  split
  · split
    · rename_i hgt
      exact sx_storeTermVote _ _ h ⟨by have := h.pair.1; omega, Or.inl rfl⟩
    · exact sx_panic _ h
  · exact h

theorem sx_setVotedFor {b s : Node} {A : Nat → Nat → Prop} {K : Prop} (t c : Nat) (h : SX b A K s) (hok : PairOK b A t c) :
    SX b A K (s.setVotedFor t c) := by
  unfold Node.setVotedFor
  split
  · split
    · exact sx_storeTermVote _ _ h hok
    · exact sx_panic _ h
  · exact h

theorem SX.weaken {b s : Node} {A : Nat → Nat → Prop} {K : Prop} (h : SX b A K s) : SX b A False s :=
  ⟨h.core, h.ci, h.fsm, fun k => k.elim, h.cfg, h.nid, h.wf, h.pair, h.tr⟩

/-- the weak form (leader record not tracked) survives any update of the leader record -/
theorem sx_withLdr {b s : Node} {A : Nat → Nat → Prop} (l : Leader) (h : SX b A False s) :
    SX b A False (s.withLdr l) :=
  ⟨h.core, h.ci, h.fsm, fun k => k.elim, h.cfg, h.nid, h.wf, h.pair, h.tr⟩

theorem sx_popOrder {b s : Node} {A : Nat → Nat → Prop} {K : Prop} (h : SX b A K s) : SX b A K s.popOrder :=
  sx_congr h rfl

/-- the candidate's log is at least as up to date as the voter's (`onVoteRequest`) -/
def UpToDate (b : Node) (q : VoteReq) : Prop :=
  ¬ (b.lastLogTerm > q.lastLogTerm ∨ (b.lastLogTerm = q.lastLogTerm ∧ b.lastLogIndex > q.lastLogIndex))

/-- the only new non-zero vote a vote request can make durable: for the requested (term, candidate), and only
after the up-to-date check against the voter's log -/
def AVote (b : Node) (q : VoteReq) (t c : Nat) : Prop :=
  t = q.term ∧ c = q.src ∧ b.term ≤ q.term ∧ UpToDate b q

/-- the only new non-zero vote any other operation can make durable: the self vote of `startElection` -/
def ASelf (b : Node) (t c : Nat) : Prop := c = b.nid ∧ b.term < t

theorem sx_lastLog {b s : Node} {A : Nat → Nat → Prop} {K : Prop} (h : SX b A K s) :
    s.lastLogIndex = b.lastLogIndex ∧ s.lastLogTerm = b.lastLogTerm := by
  have e := h.core
  unfold LCore at e
  simp only [Prod.mk.injEq] at e
  exact ⟨e.2.1, e.2.2.1⟩

/-- Every (term, vote) pair a quiet handler stores is allowed, for any set `A` of allowed pairs that admits the self vote
and the vote the request being handled asks for. -/
theorem sx_quiet' (b : Node) (op : Op) (K : Prop) {A : Nat → Nat → Prop} (hself : ∀ t c, ASelf b t c → A t c)
    (hvote : ∀ q, op = .vote q → ∀ t c, AVote b q t c → A t c) : QuietClosed op (SX b A K) where
  panic := fun _ site h => sx_panic site h
  setRole := fun _ r h _ => sx_setRole r h
  setLeader := fun _ l h => sx_setLeader l h
  ret := fun _ r h => sx_ret r h
  rpcReply := fun _ r h => sx_rpcReply r h
  votesNeeded := fun _ v h => sx_votesNeeded v h
  candTransfer := fun _ v h => sx_candTransfer v h
  setTerm := fun _ t h => sx_setTerm t h
  reply := fun _ t r h => sx_reply t r h
  snapPending := fun _ v h => sx_snapPending v h
  vote := fun s t c h why => by
    refine sx_setVotedFor t c h ?_
    cases why with
    | none hlt _ h0 => exact ⟨by have := h.pair.1; omega, Or.inl h0⟩
    | self a e => exact ⟨by have := h.pair.1; omega, Or.inr (Or.inr (hself _ _ ⟨e.trans h.nid, by have := h.pair.1; omega⟩))⟩
    | grant q hop ht hc hw hup =>
      obtain ⟨l1, l2⟩ := sx_lastLog h
      rw [l1, l2] at hup
      have hle : b.term ≤ t := by have := h.pair.1; rcases hw with a | a <;> omega
      exact ⟨hle, Or.inr (Or.inr (hvote q hop _ _ ⟨ht, hc, ht ▸ hle, hup⟩))⟩

/-- `Raft.onVoteRequest`: the only new non-zero vote is the one asked for, after the up-to-date check -/
theorem sx_onVoteRequest {b s : Node} {K : Prop} (q : VoteReq) (h : SX b (AVote b q) K s) :
    SX b (AVote b q) K (s.onVoteRequest q) := by
  refine onVoteRequest_of q (fun _ r h => sx_ret r h) (fun _ h => sx_setRole _ h)
    (fun x t hx hlt _ => sx_setVotedFor t 0 hx ⟨by have := hx.pair.1; omega, Or.inl rfl⟩)
    (fun x t hx ht hw hup => ?_) s h
  have hle : b.term ≤ t := by have := hx.pair.1; rcases hw with a | a <;> omega
  obtain ⟨l1, l2⟩ := sx_lastLog hx
  rw [l1, l2] at hup
  exact sx_setVotedFor t q.src hx ⟨hle, Or.inr (Or.inr ⟨ht, rfl, ht ▸ hle, hup⟩)⟩

theorem sx_rpcDone {b s : Node} {A : Nat → Nat → Prop} {K : Prop} (x y : Bool) (h : SX b A K s) : SX b A K (s.rpcDone x y) :=
  rpcDone_of (fun _ site h => sx_panic site h) (fun _ r h => sx_rpcReply r h) s x y h

theorem sx_onTimeoutNow {b s : Node} {A : Nat → Nat → Prop} {K : Prop} (h : SX b A K s) : SX b A K s.onTimeoutNow :=
  onTimeoutNow_of (fun _ r h => sx_ret r h) (fun _ h _ => sx_setRole _ h) (fun _ l h => sx_setLeader l h)
    (fun _ v h => sx_candTransfer v h) s h

theorem sx_followerTimeout {b s : Node} {A : Nat → Nat → Prop} {K : Prop} (h : SX b A K s) : SX b A K s.followerTimeout :=
  followerTimeout_of (fun _ l h => sx_setLeader l h) (fun _ h _ => sx_setRole _ h) s h

theorem sx_checkQuorum {b s : Node} {A : Nat → Nat → Prop} {K : Prop} (h : SX b A K s) : SX b A K s.checkQuorum :=
  checkQuorum_of (fun _ site h => sx_panic site h) (fun _ h => sx_setRole _ h) (fun _ l h => sx_setLeader l h) s h

theorem sx_onTakeSnapshot {b s : Node} {A : Nat → Nat → Prop} {K : Prop} (t th : Nat) (h : SX b A K s) :
    SX b A K (s.onTakeSnapshot t th) :=
  onTakeSnapshot_of (fun _ t r h => sx_reply t r h) (fun _ v h => sx_snapPending v h) s t th h

theorem sx_onVoteResult {b s : Node} {A : Nat → Nat → Prop} {K : Prop} (e : Bool) (t r : Nat) (h : SX b A K s) :
    SX b A K (s.onVoteResult e t r) :=
  onVoteResult_of s (fun _ h => sx_setRole _ h) (fun _ t h _ => sx_setTerm t h) (fun _ v h => sx_votesNeeded v h)
    (fun _ h _ => sx_setRole _ h) (fun _ l h => sx_setLeader l h) e t r h

theorem sx_rejectEntries {b s : Node} {A : Nat → Nat → Prop} {K : Prop} (batch : List QItem) (h : SX b A K s) :
    SX b A K (s.rejectEntries batch) :=
  rejectEntries_of (fun _ t r h => sx_reply t r h) s batch h

/-- `candidate.startElection`: the self vote for the next term is the only pair stored -/
theorem sx_startElection {b s : Node} {A : Nat → Nat → Prop} {K : Prop} (hA : ∀ t c, ASelf b t c → A t c)
    (h : SX b A K s) : SX b A K s.startElection :=
  startElection_of s (fun _ site h => sx_panic site h) (fun _ v h => sx_votesNeeded v h)
    (fun x hx => sx_setVotedFor _ _ hx
      ⟨by have := hx.pair.1; omega, Or.inr (Or.inr (hA _ _ ⟨hx.nid, by have := hx.pair.1; omega⟩))⟩)
    (fun _ h _ => sx_setRole _ h) (fun _ l h => sx_setLeader l h) h

theorem stable_action (C : Config) (h : C.isStable = true) (id : Nat) : (C.get id).action = actNone :=
  C.get_action_of_stable id h

/-- What a leader handler may do to the leader record: cached node, voter count and start index stay; a match
index is 0, or the match index an old replication with that id had, or backed by `Bk`. -/
def LdrSub (Bk : Nat → Nat → Prop) (old new : Leader) : Prop :=
  new.node = old.node ∧ new.numVoters = old.numVoters ∧ new.startIndex = old.startIndex ∧
  ∀ r ∈ new.repls, r.matchIndex = 0 ∨ (∃ r' ∈ old.repls, r'.id = r.id ∧ r'.matchIndex = r.matchIndex) ∨
    Bk r.id r.matchIndex

theorem ldrSub_same {Bk : Nat → Nat → Prop} {old new : Leader} (h1 : new.node = old.node)
    (h2 : new.numVoters = old.numVoters) (h3 : new.startIndex = old.startIndex) (h4 : new.repls = old.repls) :
    LdrSub Bk old new :=
  ⟨h1, h2, h3, fun r hr => Or.inr (Or.inl ⟨r, by rw [← h4]; exact hr, rfl, rfl⟩)⟩

theorem mem_insertRepl {r x : Repl} {rs : List Repl} (h : x ∈ insertRepl r rs) : x = r ∨ x ∈ rs :=
  Node.mem_insertRepl r x rs h

theorem findRepl_mem {s : Node} {id : Nat} {r : Repl} (h : s.findRepl? id = some r) :
    r ∈ s.ldr.repls ∧ r.id = id := by
  unfold Node.findRepl? at h
  exact ⟨List.mem_of_find?_eq_some h, by simpa using List.find?_some h⟩

/-- Guarded closure for the leader block when the latest configuration is the fixed, stable `C` (so that no
configuration change is ever started): the leader record changes only within `LdrSub`, entries are appended
at `lastLogIndex + 1` with the current term, and the commit index is moved only by the majority rule
(`leader.setCommitIndex` = flush, then `Raft.setCommitIndex`). -/
structure MClosed (C : Config) (Bk : Nat → Nat → Prop) (Inv : Node → Prop) : Prop where
  cfg : ∀ s, Inv s → s.configs.latest = C
  panic : ∀ s site, Inv s → Inv (s.panic site)
  reply : ∀ s t r, Inv s → Inv (s.reply t r)
  point : ∀ s n, Inv s → Inv (s.point n)
  fsm : ∀ (s : Node) f, Inv s → Inv (s.withFsm f)
  popOrder : ∀ (s : Node), Inv s → Inv s.popOrder
  ldr : ∀ (s : Node) l, Inv s → LdrSub Bk s.ldr l → Inv (s.withLdr l)
  append : ∀ (s : Node) e roll, Inv s → e.index = s.lastLogIndex + 1 → e.term = s.term →
    Inv { s with log := s.log.append e roll, lastLogIndex := e.index, lastLogTerm := e.term }
  commit : ∀ (s : Node) i, Inv s → i > s.commitIndex → i ≥ s.ldr.startIndex → i = s.majorityMatchIndex.1 →
    Inv ((s.commitLog i).setCommitIndexR i).1

def NoCfg (b : List QItem) : Prop := ∀ q ∈ b, q.typ ≠ etConfig

end CommitRel

namespace MemberCommit

/-- the guards of a membership change: the configuration is committed and an entry of the leader's term is committed -/
def CanChange (s : Node) : Prop := s.configs.isCommitted = true ∧ s.ldr.startIndex ≤ s.commitIndex

/-- the state after `leader.changeConfig` has refreshed the caches and `Raft.changeConfig` has adopted `c` -/
def adopt (y : Node) (c : Config) : Node :=
  (y.withLdr { y.ldr with node := c.get y.nid, numVoters := c.numVoters }).changeConfigR c

theorem setTerm_pan' (x : Node) (t : Nat) (h : (x.setTerm t).panicked = none) : x.panicked = none := by
  cases hx : x.panicked with
  | none => rfl
  | some v => exact absurd h (CfgRel.setTerm_pan x t (by rw [hx]; simp))

end MemberCommit

namespace CommitRel
open Node LogRel Replication MemberCommit

/-- The closure principle for the mutually recursive leader block (`storeEntry / storeItems / changeConfigL /
doChangeConfig / checkConfigActions / checkConfigAction / setCommitIndexL / onMajorityCommit`), of which `MClosed` (fixed
stable configuration) and `MemberCommit.GClosed` (configurations change) are the two interfaces. `Ch`: a configuration
change may be started. A predicate is preserved by the block if it is preserved by the primitives under the guards the
code establishes; the two updates that append a configuration entry are asked for only under `Ch`. Where the block
consults the node's own latest configuration, the caller shows that without `Ch` that configuration is stable
(`StableOr`), so that `checkConfigActions` / `checkConfigAction` never reach `doChangeConfig`. -/
structure CfgClosed (Ch : Prop) (Bk : Nat → Nat → Prop) (Inv : Node → Prop) : Prop where
  panic : ∀ s site, Inv s → Inv (s.panic site)
  reply : ∀ s t r, Inv s → Inv (s.reply t r)
  fsm : ∀ (s : Node) f, Inv s → Inv (s.withFsm f)
  popOrder : ∀ (s : Node), Inv s → Inv s.popOrder
  ldr : ∀ (s : Node) l, Inv s → LdrSub Bk s.ldr l → Inv (s.withLdr l)
  append : ∀ (s : Node) e, Inv s → e.index = s.lastLogIndex + 1 → e.term = s.term → e.typ ≠ etConfig →
    Inv (s.appendEntry e)
  appendCfg : Ch → ∀ (s : Node) e c, Inv s → CanChange s → e.index = s.lastLogIndex + 1 → e.term = s.term →
    e.config? = some c → Inv (adopt (s.appendEntry e) c)
  /-- a configuration entry was appended and then the model's recursion budget ran out -/
  appendCfgFail : Ch → ∀ (s : Node) e site, Inv s → CanChange s → e.index = s.lastLogIndex + 1 → e.term = s.term →
    e.typ = etConfig → Inv ((s.appendEntry e).panic site)
  commit : ∀ (s : Node) i, Inv s → i > s.commitIndex → i ≥ s.ldr.startIndex → i = s.majorityMatchIndex.1 →
    Inv ((s.commitLog i).setCommitIndexR i).1

/-- unless changes may start, the latest configuration of a state with `Inv` has no pending action -/
def StableOr (Ch : Prop) (Inv : Node → Prop) : Prop := ∀ s, Inv s → Ch ∨ s.configs.latest.isStable = true

theorem StableOr.of {Ch : Prop} {Inv : Node → Prop} (ch : Ch) : StableOr Ch Inv := fun _ _ => Or.inl ch

/-- a batch handed to `leader.storeEntry`: client entries (no configuration entry), or — only under `Ch` — the single
configuration entry built by `leader.doChangeConfig` under the guards -/
def BatchC (Ch : Prop) (s : Node) (b : List QItem) : Prop :=
  (∀ q ∈ b, q.typ ≠ etConfig) ∨
  (Ch ∧ ∃ q, b = [q] ∧ q.typ = etConfig ∧ q.cfg.isSome = true ∧ CanChange s)

namespace CfgClosed

variable {Ch : Prop} {Bk : Nat → Nat → Prop} {Inv : Node → Prop} (h : CfgClosed Ch Bk Inv)
include h

theorem assert_c (s : Node) (b : Bool) (site : String) (hs : Inv s) : Inv (s.assert b site) :=
  assert_of h.panic s b site hs

theorem ldrSame_c (s : Node) (l : Leader) (hs : Inv s) (h1 : l.node = s.ldr.node)
    (h2 : l.numVoters = s.ldr.numVoters) (h3 : l.startIndex = s.ldr.startIndex) (h4 : l.repls = s.ldr.repls) :
    Inv (s.withLdr l) := h.ldr _ _ hs (ldrSub_same h1 h2 h3 h4)

theorem setRepl_c (s : Node) (r : Repl) (hs : Inv s)
    (hr : r.matchIndex = 0 ∨ (∃ r' ∈ s.ldr.repls, r'.id = r.id ∧ r'.matchIndex = r.matchIndex) ∨ Bk r.id r.matchIndex) :
    Inv (s.setRepl r) := by
  unfold Node.setRepl
  refine h.ldr _ _ hs ⟨rfl, rfl, rfl, fun x hx => ?_⟩
  rcases mem_insertRepl hx with e | e
  · rw [e]; exact hr
  · exact Or.inr (Or.inl ⟨x, e, rfl, rfl⟩)

theorem addReplication_c (s : Node) (n : CNode) (hs : Inv s) : Inv (s.addReplication n) := by
  unfold Node.addReplication
  extract_lets s1 s2
  have h2 : Inv s2 := by
    unfold s2
    split
    · exact h.assert_c _ _ _ hs
    · exact h.panic _ _ (h.assert_c _ _ _ hs)
  exact h.setRepl_c _ _ h2 (Or.inl rfl)

theorem notifyFlr_c (s : Node) (hs : Inv s) : Inv s.notifyFlr := notifyFlr_of h.panic s hs

theorem beginFinishedRounds_c (s : Node) (hs : Inv s) : Inv s.beginFinishedRounds := by
  unfold Node.beginFinishedRounds
  refine h.ldr _ _ hs ⟨rfl, rfl, rfl, fun x hx => ?_⟩
  obtain ⟨r, hr, hx⟩ := List.mem_map.mp hx
  refine Or.inr (Or.inl ⟨r, hr, ?_⟩)
  rw [← hx]
  split
  · split <;> exact ⟨rfl, rfl⟩
  · exact ⟨rfl, rfl⟩

theorem fsmApply_c (s : Node) (qs : List QItem) (hs : Inv s) : Inv (s.fsmApply qs) :=
  fsmApply_of h.panic (fsmApplyLogTo_of h.panic h.fsm) (fsmApplyItems_of h.panic h.fsm h.reply) s qs hs

theorem applyCommittedL_c (s : Node) (hs : Inv s) : Inv s.applyCommittedL := by
  unfold Node.applyCommittedL
  exact h.fsmApply_c _ _ (h.ldrSame_c _ _ hs rfl rfl rfl rfl)

/-- what the replications loop of `leader.changeConfig` does -/
theorem changeRepls_c (c : Config) (s : Node) (hs : Inv s) :
    Inv (c.nodes.foldl (fun s n =>
      if n.id = s.nid then s
      else match s.findRepl? n.id with
        | none => s.addReplication n
        | some r => s.setRepl { r with node := n }) s) := by
  apply Guarded.foldl_inv
  · intro s x hs
    split
    · exact hs
    · split
      · exact h.addReplication_c _ _ hs
      · rename_i r hr
        obtain ⟨hm, hid⟩ := findRepl_mem hr
        exact h.setRepl_c _ _ hs (Or.inr (Or.inl ⟨r, hm, rfl, rfl⟩))
  · exact hs

/-- The leader block preserves every `CfgClosed` invariant, for every recursion budget. -/
theorem block (hSt : StableOr Ch Inv) : ∀ fuel : Nat,
    (∀ s b, Inv s → BatchC Ch s b → Inv (storeEntry fuel s b)) ∧
    (∀ s b, Inv s → BatchC Ch s b → Inv (storeItems fuel s b)) ∧
    (Ch → ∀ s e c, Inv s → CanChange s → e.index = s.lastLogIndex + 1 → e.term = s.term → e.config? = some c →
      Inv (changeConfigL fuel (s.appendEntry e) c)) ∧
    (Ch → ∀ s t c, Inv s → CanChange s → Inv (doChangeConfig fuel s t c)) ∧
    (∀ s t c, Inv s → Ch ∨ c.isStable = true → Inv (checkConfigActions fuel s t c)) ∧
    (∀ s t c id, Inv s → Ch ∨ c.isStable = true → Inv (checkConfigAction fuel s t c id)) ∧
    (∀ s i, Inv s → i > s.commitIndex → i ≥ s.ldr.startIndex → i = s.majorityMatchIndex.1 →
      Inv (setCommitIndexL fuel s i)) ∧
    (∀ s, Inv s → Inv (onMajorityCommit fuel s)) := by
  intro fuel
  induction fuel with
  | zero =>
    refine ⟨?_, ?_, ?_, ?_, ?_, ?_, ?_, ?_⟩
    · intro s b hs _; unfold storeEntry; exact h.panic _ _ hs
    · intro s b hs _
      cases b with
      | nil => unfold storeItems; exact hs
      | cons q qs => unfold storeItems; exact h.panic _ _ hs
    · intro ch s e c hs hc hi ht he
      unfold changeConfigL
      exact h.appendCfgFail ch _ _ _ hs hc hi ht (Entry.config?_facts he).1
    · intro _ s t c hs _; unfold doChangeConfig; exact h.panic _ _ hs
    · intro s t c hs _; unfold checkConfigActions; exact h.panic _ _ hs
    · intro s t c id hs _; unfold checkConfigAction; exact h.panic _ _ hs
    · intro s i hs _ _ _; unfold setCommitIndexL; exact h.panic _ _ hs
    · intro s hs; unfold onMajorityCommit; exact h.panic _ _ hs
  | succ n ih =>
    obtain ⟨ihSE, ihSI, ihCL, ihDC, ihCAs, ihCA, ihSC, ihMC⟩ := ih
    refine ⟨?_, ?_, ?_, ?_, ?_, ?_, ?_, ?_⟩
    · -- storeEntry
      intro s b hs hb
      unfold storeEntry
      extract_lets lastIndex s1 s2
      have h1 : Inv s1 := ihSI _ _ hs hb
      have h2 : Inv s2 := by
        unfold s2
        split
        · split
          · exact h.applyCommittedL_c _ h1
          · exact h1
        · exact h1
      refine ite_ind (fun _ => ?_) fun _ => h2
      have h3 := h.notifyFlr_c _ (h.beginFinishedRounds_c _ h2)
      exact ite_ind (fun _ => ihMC _ h3) fun _ => h3
    · -- storeItems
      intro s b hs hb
      cases b with
      | nil => unfold storeItems; exact hs
      | cons q qs =>
        have hqs : ∀ x, BatchC Ch x qs := by
          intro x
          rcases hb with hb | ⟨_, q', hb, _⟩
          · exact Or.inl fun y hy => hb y (List.mem_cons_of_mem _ hy)
          · have : qs = [] := by injection hb
            subst this
            exact Or.inl fun y hy => by cases hy
        unfold storeItems; dsimp only
        refine ihSI _ _ ?_ (hqs _)
        refine ite_ind (fun _ => h.reply _ _ _ hs) fun _ =>
          ite_ind (fun _ => ite_ind (fun _ => h.reply _ _ _ hs) fun _ => h.reply _ _ _ hs) fun _ => ?_
        have h1 := h.ldrSame_c s { s.ldr with queue := s.ldr.queue ++ [{ q with index := s.lastLogIndex + 1, term := s.term, cfg := q.cfg.map Config.payload }] } hs rfl rfl rfl rfl
        by_cases hq : q.typ = etConfig
        · -- the configuration entry of `doChangeConfig`
          have hcc : (CanChange s ∧ q.cfg.isSome = true) ∧ Ch := by
            rcases hb with hb | ⟨ch, q', hb, _, h3, h4⟩
            · exact absurd hq (hb q (List.mem_cons_self ..))
            · have : q = q' := by injection hb
              subst this
              exact ⟨⟨h4, h3⟩, ch⟩
          obtain ⟨hcc, ch⟩ := hcc
          obtain ⟨c0, hc0⟩ := Option.isSome_iff_exists.mp hcc.2
          rw [if_pos (show isLogEntryTyp q.typ = true by rw [hq]; rfl), if_pos hq]
          have hcfg : (QItem.toEntry { q with index := s.lastLogIndex + 1, term := s.term, cfg := q.cfg.map Config.payload }).config? =
              some { c0.payload with index := s.lastLogIndex + 1, term := s.term } :=
            Entry.config?_of_cfg hq (congrArg (Option.map Config.payload) hc0)
          rw [hcfg]
          exact ihCL ch _ _ _ h1 hcc.1 rfl rfl hcfg
        · have ha := h.append _
            (QItem.toEntry { q with index := s.lastLogIndex + 1, term := s.term, cfg := q.cfg.map Config.payload })
            h1 rfl rfl hq
          rw [if_neg hq]
          split
          · exact ha
          · exact h1
    · -- changeConfigL, right after the entry was appended
      intro ch s e c hs hc hi ht he
      unfold changeConfigL; dsimp only
      refine ihCAs _ _ _ ?_ (Or.inl ch)
      apply h.changeRepls_c
      refine h.ldr _ _ (h.appendCfg ch s e c hs hc hi ht he) ⟨rfl, rfl, rfl, fun r hr => ?_⟩
      exact Or.inr (Or.inl ⟨r, (List.mem_filter.mp hr).1, rfl, rfl⟩)
    · -- doChangeConfig
      intro ch s t c hs hc
      unfold doChangeConfig
      exact ihSE _ _ hs (Or.inr ⟨ch, _, rfl, rfl, rfl, hc⟩)
    · -- checkConfigActions
      intro s t c hs hst
      unfold checkConfigActions; dsimp only
      rcases hst with ch | hst
      · apply Guarded.foldl_inv
        · intro s x hs
          split
          · exact ihCA _ _ _ _ hs (Or.inl ch)
          · exact hs
        · apply h.popOrder
          split
          · rename_i hcan
            have hc : CanChange s := by
              obtain ⟨a, _, b⟩ := CfgRel.canChange_facts hcan.1
              exact ⟨a, b⟩
            split
            · exact ihDC ch _ _ _ hs hc
            · split
              · exact ihDC ch _ _ _ hs hc
              · exact h.panic _ _ hs
          · exact hs
      · -- a stable configuration asks for nothing
        rw [if_neg (fun hc => hc.2 (stable_action c hst _))]
        dsimp only
        apply Guarded.foldl_inv
        · intro s x hs
          split
          · exact ihCA _ _ _ _ hs (Or.inr hst)
          · exact hs
        · exact h.popOrder _ hs
    · -- checkConfigAction
      intro s t c id hs hch
      unfold checkConfigAction; dsimp only
      split
      · exact hs
      · rename_i st hst
        obtain ⟨hm, hid⟩ := findRepl_mem hst
        split
        · exact hs
        · rename_i hact
          have ch : Ch := hch.resolve_right fun hC => hact (c.nextAction_of_stable id hC)
          have hmi : ∀ a l, (roundStep l a st).1.matchIndex = st.matchIndex ∧ (roundStep l a st).1.id = st.id :=
            fun a l => by rw [roundStep_shape]; exact ⟨rfl, rfl⟩
          have h1 : Inv (s.setRepl (roundStep s.lastLogIndex (c.get id).nextAction st).1) :=
            h.setRepl_c _ _ hs (Or.inr (Or.inl ⟨st, hm, (hmi _ _).2.symm, (hmi _ _).1.symm⟩))
          split
          · exact h1
          · split
            · exact h1
            · rename_i hcan
              have hc : CanChange (s.setRepl (roundStep s.lastLogIndex (c.get id).nextAction st).1) := by
                have hcan' : (s.setRepl (roundStep s.lastLogIndex (c.get id).nextAction st).1).canChangeConfig = true := by
                  simpa using hcan
                obtain ⟨a, _, b⟩ := CfgRel.canChange_facts hcan'
                exact ⟨a, b⟩
              split
              · exact ihDC ch _ _ _ h1 hc
              · exact h1
    · -- setCommitIndexL
      intro s i hs hi hst hm
      unfold setCommitIndexL
      extract_lets s1 ready r s2 s3
      have h2 : Inv s2 := h.commit _ i hs hi hst hm
      have h3 : Inv s3 := by
        unfold s3; split
        · exact ihCAs _ _ _ h2 (hSt _ h2)
        · exact h2
      split
      · split
        · refine h.ldrSame_c _ _ (Guarded.foldl_inv _ (fun s t hs => h.reply _ _ _ hs) _ _ h3) ?_ ?_ ?_ ?_ <;> rfl
        · exact ihCAs _ _ _ h3 (hSt _ h3)
      · exact h3
    · -- onMajorityCommit
      intro s hs
      unfold onMajorityCommit; dsimp only
      have h1 := h.panic s "nil.majorityMatchIndex" hs
      have hp : ∀ site, (s.panic site).commitIndex = s.commitIndex ∧ (s.panic site).ldr = s.ldr ∧
          (s.panic site).majorityMatchIndex = s.majorityMatchIndex := by
        intro site; unfold Node.panic; split <;> exact ⟨rfl, rfl, rfl⟩
      split
      · split
        · rename_i hgt
          exact h.notifyFlr_c _ (h.applyCommittedL_c _ (ihSC _ _ hs hgt.1 hgt.2 rfl))
        · exact hs
      · split
        · rename_i hgt
          obtain ⟨p1, p2, p3⟩ := hp "nil.majorityMatchIndex"
          rw [p1, p2] at hgt
          exact h.notifyFlr_c _ (h.applyCommittedL_c _ (ihSC _ _ h1 (by rw [p1]; exact hgt.1)
            (by rw [p2]; exact hgt.2) (by rw [p3])))
        · exact h1

/-- a new leader record that differs in the transfer record only -/
theorem ldrT_c (s : Node) (l : Leader) (hs : Inv s) (h1 : l.node = s.ldr.node) (h2 : l.numVoters = s.ldr.numVoters)
    (h3 : l.startIndex = s.ldr.startIndex) (_ : l.removeLTE = s.ldr.removeLTE) (h4 : l.repls = s.ldr.repls)
    (_ : l.queue = s.ldr.queue) : Inv (s.withLdr l) :=
  h.ldrSame_c s l hs h1 h2 h3 h4

theorem tryTransfer_c (s : Node) (hs : Inv s) : Inv s.tryTransfer :=
  Node.tryTransfer_ldrT h.ldrT_c h.panic h.popOrder s hs

theorem onTransfer_c (s : Node) (t g : Nat) (hs : Inv s) : Inv (s.onTransfer t g) :=
  Node.onTransfer_ldrT h.ldrT_c h.reply h.panic h.popOrder s t g hs

theorem onWaitForStable_c (s : Node) (t : Nat) (hs : Inv s) : Inv (s.onWaitForStable t) :=
  onWaitForStable_of h.reply (fun s _ hs => h.ldrSame_c s _ hs rfl rfl rfl rfl) s t hs

section stable
variable (hSt : StableOr Ch Inv)
include hSt

theorem storeEntry_c (f : Nat) (s : Node) (b) (hs : Inv s) (hb : BatchC Ch s b) : Inv (storeEntry f s b) :=
  (h.block hSt f).1 s b hs hb

theorem doChangeConfig_c (ch : Ch) (f : Nat) (s : Node) (t c) (hs : Inv s) (hc : CanChange s) :
    Inv (doChangeConfig f s t c) := (h.block hSt f).2.2.2.1 ch s t c hs hc

theorem checkConfigActions_c (f : Nat) (s : Node) (t c) (hs : Inv s) (hc : Ch ∨ c.isStable = true) :
    Inv (checkConfigActions f s t c) := (h.block hSt f).2.2.2.2.1 s t c hs hc

theorem checkConfigAction_c (f : Nat) (s : Node) (t c id) (hs : Inv s) (hc : Ch ∨ c.isStable = true) :
    Inv (checkConfigAction f s t c id) := (h.block hSt f).2.2.2.2.2.1 s t c id hs hc

theorem onMajorityCommit_c (f : Nat) (s : Node) (hs : Inv s) : Inv (onMajorityCommit f s) :=
  (h.block hSt f).2.2.2.2.2.2.2 s hs

theorem latestActions_c (f : Nat) (s : Node) (t : Nat) (hs : Inv s) : Inv (checkConfigActions f s t s.configs.latest) :=
  h.checkConfigActions_c hSt f s t _ hs (hSt _ hs)

theorem replyTransfer_c (s : Node) (r : String) (hs : Inv s) : Inv (s.replyTransfer r) :=
  Node.replyTransfer_of (fun s _ hs _ => h.ldrSame_c s _ hs rfl rfl rfl rfl) h.reply (h.latestActions_c hSt) s r hs

theorem onTimeoutNowResult_c (s : Node) (src : Nat) (e : Bool) (r : Nat) (hs : Inv s) :
    Inv (s.onTimeoutNowResult src e r) :=
  Node.onTimeoutNowResult_of (fun s _ hs _ => h.ldrSame_c s _ hs rfl rfl rfl rfl) h.panic h.reply h.popOrder
    (fun _ st _ hs hf => h.setRepl_c _ _ hs (Or.inr (Or.inl ⟨st, (findRepl_mem hf).1, rfl, rfl⟩)))
    (h.latestActions_c hSt) s src e r hs

end stable

/-- `leader.onChangeConfig`: the second `doChangeConfig` needs the guards again, after `checkConfigActions` left the
log alone (`hk`: what the instance knows of such a state) -/
theorem onChangeConfig_c (ch : Ch) (s : Node) (t : Nat) (c : Config) (hs : Inv s)
    (hk : ∀ x, Inv x → x.lastLogIndex = s.lastLogIndex → CanChange s → CanChange x) :
    Inv (s.onChangeConfig t c) := by
  have hSt : StableOr Ch Inv := .of ch
  refine Node.onChangeConfig_cases s t c (fun r => h.reply _ _ _ hs) fun ad => ?_
  intro s1
  have h3 : Inv s1 := h.checkConfigActions_c hSt (fuelFor 0) s t c hs (Or.inl ch)
  exact ite_ind (fun he => h.doChangeConfig_c hSt ch _ _ _ _ h3 (hk _ h3 he ⟨ad.committed, Nat.le_of_not_lt ad.ready⟩))
    fun _ => h3

end CfgClosed

namespace MClosed

variable {C : Config} {Bk : Nat → Nat → Prop} {Inv : Node → Prop} (h : MClosed C Bk Inv)
include h

theorem appendEntry_m (s : Node) (e : Entry) (hs : Inv s) (hi : e.index = s.lastLogIndex + 1)
    (ht : e.term = s.term) : Inv (s.appendEntry e) := by
  unfold Node.appendEntry
  refine h.append _ _ _ (assert_of h.panic _ _ _ hs) ?_ ?_
  · rw [(assert_fields s _ _).2.1]; exact hi
  · rw [assert_term]; exact ht

/-- with a stable configuration no change is ever started: the instance `Ch := False` -/
theorem toC : CfgClosed False Bk Inv where
  panic := h.panic
  reply := h.reply
  fsm := h.fsm
  popOrder := h.popOrder
  ldr := h.ldr
  append := fun s e hs hi ht _ => h.appendEntry_m s e hs hi ht
  appendCfg := False.elim
  appendCfgFail := False.elim
  commit := h.commit

theorem stableOr (hC : C.isStable = true) : StableOr False Inv :=
  fun s hs => Or.inr (by rw [h.cfg s hs]; exact hC)

theorem ldrSame_m (s : Node) (l : Leader) (hs : Inv s) (h1 : l.node = s.ldr.node)
    (h2 : l.numVoters = s.ldr.numVoters) (h3 : l.startIndex = s.ldr.startIndex) (h4 : l.repls = s.ldr.repls) :
    Inv (s.withLdr l) := h.toC.ldrSame_c s l hs h1 h2 h3 h4

theorem addReplication_m (s : Node) (n : CNode) (hs : Inv s) : Inv (s.addReplication n) :=
  h.toC.addReplication_c s n hs

theorem applyCommittedL_m (s : Node) (hs : Inv s) : Inv s.applyCommittedL := h.toC.applyCommittedL_c s hs

/-- The leader block preserves every `MClosed` invariant when the configuration is stable and no client batch
carries a configuration entry: no configuration change is started, so `changeConfigL`/`doChangeConfig` are
never reached. -/
theorem storeEntry_m (hC : C.isStable = true) (f : Nat) (s : Node) (b) (hs : Inv s) (hb : NoCfg b) :
    Inv (storeEntry f s b) := h.toC.storeEntry_c (h.stableOr hC) f s b hs (Or.inl hb)

theorem checkConfigActions_m (hC : C.isStable = true) (f : Nat) (s : Node) (t) (hs : Inv s) :
    Inv (checkConfigActions f s t C) := h.toC.checkConfigActions_c (h.stableOr hC) f s t C hs (Or.inr hC)

end MClosed

theorem take_prefix_take {α : Type} {l1 l2 : List α} (h : l1 <+: l2) {n m : Nat} (hnm : n ≤ m) :
    l1.take n <+: l2.take m := by
  rw [List.prefix_take_iff]
  refine ⟨List.IsPrefix.trans (List.take_prefix _ _) h, ?_⟩
  rw [List.length_take]; omega

/-- what the leader handlers need to know about the state `b` they start from -/
structure LBase (b : Node) (B : Nat → Nat → Prop) : Prop where
  nwf : NWF b
  lwf : C06.LogWF b.log
  wf : C05.VoteWF b
  role : b.role = .leader
  stable : b.configs.latest.isStable = true
  voter : b.configs.latest.isVoter b.nid = true
  nodup : b.configs.latest.voters.Nodup
  numVoters : b.ldr.numVoters = b.configs.latest.numVoters
  start : 1 ≤ b.ldr.startIndex
  own : ∀ k, b.ldr.startIndex ≤ k → k ≤ b.log.entries.length → termAt b.log.entries k = b.term
  hB : ∀ j m, B j m → m ≤ b.log.entries.length

/-- on disk, the last segment starts within the entries that are there -/
def DW (d : Durable) : Prop := d.log.lastSegPrev ≤ d.log.entries.length

theorem durable_dw_log (l : NLog) (hp : l.prev = 0) (hw : C06.LogWF l) :
    l.durable.lastSegPrev ≤ l.durable.entries.length := by
  obtain ⟨h1, h2⟩ := hw
  show NLog.lastSegPrev l.durable ≤ (l.entries.take (l.flushed - l.prev)).length
  have e : NLog.lastSegPrev l.durable = l.lastSegPrev := rfl
  rw [e, hp, Nat.sub_zero, List.length_take]
  unfold NLog.last at h2
  omega

theorem durable_dw (s : Node) (hp : s.log.prev = 0) (hw : C06.LogWF s.log) : DW s.durable :=
  durable_dw_log s.log hp hw

/-- a disk content recorded at a crash point of a leader handler: no snapshot, a prefix of the current log
that contains everything that was durable in `b`, and `b`'s durable (term, vote) -/
def PtL (b s : Node) (d : Durable) : Prop :=
  d.snaps = [] ∧ d.log.prev = 0 ∧ d.log.entries <+: s.log.entries ∧
  b.log.entries.take b.log.flushed <+: d.log.entries ∧ d.term = b.durTerm ∧ d.vote = b.durVote ∧ DW d

/-- commit evidence: the commit index moved, to an index at or beyond `startIndex`, inside the flushed part of
the log, and a majority `Q` of the voters of the (fixed) latest configuration reached it — the leader itself,
the others by a backed match index -/
def Ev (b : Node) (B : Nat → Nat → Prop) (s : Node) : Prop :=
  b.commitIndex < s.commitIndex ∧ b.ldr.startIndex ≤ s.commitIndex ∧ s.commitIndex ≤ s.log.entries.length ∧
  s.commitIndex ≤ s.log.flushed ∧
  ∃ Q : List Nat, Q.Nodup ∧ (∀ j ∈ Q, j ∈ b.configs.latest.voters) ∧
    2 * Q.length > b.configs.latest.voters.length ∧
    ∀ j ∈ Q, j = b.nid ∨ ∃ m, s.commitIndex ≤ m ∧ B j m

/-- **what a leader handler keeps of the state `b` it starts from, whatever becomes of the configuration**: identity, term
and vote, the start index, the log is `b`'s plus entries of `b`'s term and no less is flushed, every crash point holds a
prefix of the log (`PtL`), every non-zero match index is backed by `B`. `LI` (fixed stable configuration) and
`MemberCommit.LJ` (configurations change) extend it by what they say of role, configuration and commit index. -/
structure LC (b : Node) (B : Nat → Nat → Prop) (s : Node) : Prop where
  nwf : NWF s
  lwf : C06.LogWF s.log
  nid : s.nid = b.nid
  term : s.term = b.term
  vote : s.votedFor = b.votedFor ∧ s.durTerm = b.durTerm ∧ s.durVote = b.durVote
  start : s.ldr.startIndex = b.ldr.startIndex
  ext : ∃ es, s.log.entries = b.log.entries ++ es ∧ ∀ e ∈ es, e.term = b.term
  flush : b.log.flushed ≤ s.log.flushed
  tr : ∀ p ∈ s.trace, p ∈ b.trace ∨ PtL b s p.2
  mi : ∀ r ∈ s.ldr.repls, r.matchIndex = 0 ∨ B r.id r.matchIndex

def cobs (s : Node) : (NLog × Nat × Nat × Nat × List SnapFile × Nat × Nat × List (String × Durable)) ×
    Nat × Nat × Nat × Leader :=
  (Core s, s.nid, s.votedFor, s.durVote, s.ldr)

theorem lc_congr {b s s' : Node} {B : Nat → Nat → Prop} (h : LC b B s) (e : cobs s' = cobs s) : LC b B s' := by
  unfold cobs Core at e
  simp only [Prod.mk.injEq] at e
  obtain ⟨⟨e1, e2, e3, e4, e5, e6, e7, e8⟩, f2, f3, f4, f6⟩ := e
  refine ⟨nwf_congr h.nwf e1 e2 e3 e4 e5, by rw [e1]; exact h.lwf, f2.trans h.nid, e6.trans h.term,
    ⟨f3.trans h.vote.1, e7.trans h.vote.2.1, f4.trans h.vote.2.2⟩, by rw [f6]; exact h.start,
    by rw [e1]; exact h.ext, by rw [e1]; exact h.flush, ?_, by rw [f6]; exact h.mi⟩
  rw [e8]
  intro p hp
  refine (h.tr p hp).imp id ?_
  unfold PtL; rw [e1]; exact id

theorem lc_refl {b : Node} {B : Nat → Nat → Prop} (hn : NWF b) (hl : C06.LogWF b.log)
    (hmi : ∀ r ∈ b.ldr.repls, r.matchIndex = 0 ∨ B r.id r.matchIndex) : LC b B b :=
  ⟨hn, hl, rfl, rfl, ⟨rfl, rfl, rfl⟩, rfl, ⟨[], by simp, fun e he => by cases he⟩, Nat.le_refl _,
    fun p hp => Or.inl hp, hmi⟩

theorem lc_wf {b s : Node} {B : Nat → Nat → Prop} (hb : C05.VoteWF b) (h : LC b B s) : C05.VoteWF s := by
  unfold C05.VoteWF
  rw [h.vote.2.1, h.vote.2.2, h.term, h.vote.1]
  exact hb

theorem lc_len {b s : Node} {B : Nat → Nat → Prop} (h : LC b B s) : b.log.entries.length ≤ s.log.entries.length := by
  obtain ⟨es, he, _⟩ := h.ext
  rw [he, List.length_append]; omega

theorem lc_point {b s : Node} {B : Nat → Nat → Prop} (n : String) (h : LC b B s) : LC b B (s.point n) := by
  refine { h with nwf := nwf_congr h.nwf rfl rfl rfl rfl rfl,
                  tr := Traced.step (D := fun p => p ∈ b.trace ∨ PtL b s p.2) h.tr (rec_point s n) fun _ => Or.inr ?_ }
  obtain ⟨es, he, _⟩ := h.ext
  refine ⟨h.nwf.snaps, h.nwf.prev, ?_, ?_, h.vote.2.1, h.vote.2.2, durable_dw s h.nwf.prev h.lwf⟩
  · show (s.log.entries.take _) <+: _
    exact List.take_prefix _ _
  · show _ <+: (s.log.entries.take (s.log.flushed - s.log.prev))
    rw [h.nwf.prev, Nat.sub_zero]
    exact take_prefix_take (by rw [he]; exact List.prefix_append _ _) h.flush

theorem lc_ldr {b s : Node} {B : Nat → Nat → Prop} (l : Leader) (h : LC b B s) (hl : LdrSub B s.ldr l) :
    LC b B (s.withLdr l) := by
  obtain ⟨_, _, l3, l4⟩ := hl
  refine { h with nwf := nwf_congr h.nwf rfl rfl rfl rfl rfl, start := l3.trans h.start, mi := fun r hr => ?_ }
  rcases l4 r hr with h0 | ⟨r', hr', e1, e2⟩ | hB
  · exact Or.inl h0
  · rcases h.mi r' hr' with h0 | hB
    · exact Or.inl (by rw [← e2]; exact h0)
    · exact Or.inr (by rw [← e1, ← e2]; exact hB)
  · exact Or.inr hB

/-- a log update that keeps the entries or appends one of the node's term at the next index, and flushes no less
(`NLog.append`, `NLog.commitN`): `s'` is `s` with the new log and last coordinates, whatever else it changes outside
`cobs` -/
theorem lc_log {b s s' : Node} {B : Nat → Nat → Prop} (h : LC b B s) (hn : NWF s') (hw : C06.LogWF s'.log)
    (hfl : s.log.flushed ≤ s'.log.flushed)
    (hent : s'.log.entries = s.log.entries ∨ ∃ e, s'.log.entries = s.log.entries ++ [e] ∧ e.term = s.term)
    (e : (s'.nid, s'.term, s'.votedFor, s'.durTerm, s'.durVote, s'.trace) =
      (s.nid, s.term, s.votedFor, s.durTerm, s.durVote, s.trace))
    (hl : s'.ldr.startIndex = s.ldr.startIndex ∧ s'.ldr.repls = s.ldr.repls) : LC b B s' := by
  simp only [Prod.mk.injEq] at e
  obtain ⟨f1, f2, f3, f4, f5, f6⟩ := e
  obtain ⟨es, d1, d2⟩ := h.ext
  have hpre : s.log.entries <+: s'.log.entries := by
    rcases hent with c | ⟨e, c, _⟩
    · rw [c]; exact List.prefix_refl _
    · rw [c]; exact List.prefix_append _ _
  refine ⟨hn, hw, f1.trans h.nid, f2.trans h.term, ⟨f3.trans h.vote.1, f4.trans h.vote.2.1, f5.trans h.vote.2.2⟩,
    hl.1.trans h.start, ?_, Nat.le_trans h.flush hfl, ?_, by rw [hl.2]; exact h.mi⟩
  · rcases hent with c | ⟨e, c, ht⟩
    · rw [c]; exact ⟨es, d1, d2⟩
    · refine ⟨es ++ [e], by rw [c, d1, List.append_assoc], fun x hx => ?_⟩
      rcases List.mem_append.mp hx with hx | hx
      · exact d2 x hx
      · rw [List.mem_singleton.mp hx, ht, h.term]
  · rw [f6]
    intro p hp
    refine (h.tr p hp).imp id ?_
    rintro ⟨q1, q2, q3, q4⟩
    exact ⟨q1, q2, List.IsPrefix.trans q3 hpre, q4⟩

/-- the node after `NLog.append` of an entry at the next index -/
theorem nwf_append {s : Node} (hn : NWF s) (e : Entry) (roll : Bool) (hi : e.index = s.lastLogIndex + 1) {s' : Node}
    (h1 : s'.log = s.log.append e roll) (h2 : s'.lastLogIndex = e.index) (h3 : s'.lastLogTerm = e.term)
    (h4 : s'.snapIndex = s.snapIndex) (h5 : s'.snapsDisk = s.snapsDisk) : NWF s' := by
  obtain ⟨p1, p2⟩ := append_parts s.log e roll
  have hi' : e.index = s.log.entries.length + 1 := by rw [hi, hn.last]
  refine ⟨h4.trans hn.snapIndex, h5.trans hn.snaps, by rw [h1, p1]; exact hn.prev, ?_, ?_, ?_⟩
  · rw [h1, p2]; exact contig_append hn.contig e hi'
  · rw [h2, h1, p2, List.length_append, hi']; rfl
  · rw [h3, h1, p2, lastTerm_append_singleton]

/-- Relative to `b` (a leader; the state a leader handler starts from) and the backing predicate `B` for
match indexes, under a fixed stable configuration. -/
structure LI (b : Node) (B : Nat → Nat → Prop) (s : Node) : Prop extends LC b B s where
  role : s.role = .leader
  cfg : s.configs.latest = b.configs.latest
  cache : s.ldr.numVoters = b.ldr.numVoters ∧ s.ldr.node = b.ldr.node
  ci : s.commitIndex = b.commitIndex ∨ Ev b B s

def lobs (s : Node) : (NLog × Nat × Nat × Nat × List SnapFile × Nat × Nat × List (String × Durable)) ×
    Role × Nat × Nat × Nat × Config × Leader × Nat :=
  (Core s, s.role, s.nid, s.votedFor, s.durVote, s.configs.latest, s.ldr, s.commitIndex)

theorem ev_congr {b s s' : Node} {B : Nat → Nat → Prop} (h : Ev b B s) (e1 : s'.commitIndex = s.commitIndex)
    (e2 : s.log.entries.length ≤ s'.log.entries.length) (e3 : s.log.flushed ≤ s'.log.flushed) : Ev b B s' := by
  obtain ⟨a1, a2, a3, a4, a5⟩ := h
  refine ⟨by rw [e1]; exact a1, by rw [e1]; exact a2, by rw [e1]; omega, by rw [e1]; omega, ?_⟩
  rw [e1]; exact a5

/-- the commit evidence survives an update that keeps the commit index and shrinks neither log nor flushed mark -/
theorem ci_congr {b s s' : Node} {B : Nat → Nat → Prop} (h : s.commitIndex = b.commitIndex ∨ Ev b B s)
    (e1 : s'.commitIndex = s.commitIndex) (e2 : s.log.entries.length ≤ s'.log.entries.length)
    (e3 : s.log.flushed ≤ s'.log.flushed) : s'.commitIndex = b.commitIndex ∨ Ev b B s' :=
  h.imp e1.trans fun c => ev_congr c e1 e2 e3

theorem li_congr {b s s' : Node} {B : Nat → Nat → Prop} (h : LI b B s) (e : lobs s' = lobs s) : LI b B s' := by
  unfold lobs at e
  simp only [Prod.mk.injEq] at e
  obtain ⟨e1, f1, f2, f3, f4, f5, f6, f7⟩ := e
  have hc : Core s' = Core s := e1
  unfold Core at e1
  simp only [Prod.mk.injEq] at e1
  exact ⟨lc_congr h.toLC (by unfold cobs; rw [hc, f2, f3, f4, f6]), f1.trans h.role, f5.trans h.cfg,
    by rw [f6]; exact h.cache, ci_congr h.ci f7 (by rw [e1.1]; exact Nat.le_refl _) (by rw [e1.1]; exact Nat.le_refl _)⟩

theorem li_refl {b : Node} {B : Nat → Nat → Prop} (hb : LBase b B)
    (hmi : ∀ r ∈ b.ldr.repls, r.matchIndex = 0 ∨ B r.id r.matchIndex) : LI b B b :=
  ⟨lc_refl hb.nwf hb.lwf hmi, hb.role, rfl, ⟨rfl, rfl⟩, Or.inl rfl⟩

theorem li_wf {b s : Node} {B : Nat → Nat → Prop} (hb : LBase b B) (h : LI b B s) : C05.VoteWF s :=
  lc_wf hb.wf h.toLC

theorem li_point {b s : Node} {B : Nat → Nat → Prop} (n : String) (h : LI b B s) :
    LI b B (s.point n) :=
  { h with toLC := lc_point n h.toLC, ci := ci_congr h.ci rfl (Nat.le_refl _) (Nat.le_refl _) }

theorem setCommitIndexR_voter (s : Node) (i : Nat) (hv : s.configs.latest.isVoter s.nid = true) :
    (s.setCommitIndexR i).1.commitIndex = i ∧ Core (s.setCommitIndexR i).1 = Core s ∧
    (s.setCommitIndexR i).1.role = s.role ∧ (s.setCommitIndexR i).1.nid = s.nid ∧
    (s.setCommitIndexR i).1.votedFor = s.votedFor ∧ (s.setCommitIndexR i).1.durVote = s.durVote ∧
    (s.setCommitIndexR i).1.configs.latest = s.configs.latest ∧ (s.setCommitIndexR i).1.ldr = s.ldr ∧
    (s.setCommitIndexR i).1.fsm = s.fsm :=
  ⟨C19.setCommitIndexR_commitIndex s i, core_setCommitIndexR s i, setCommitIndexR_role_voter s i hv,
    by rw [setCommitIndexR_shape], by rw [setCommitIndexR_shape], by rw [setCommitIndexR_shape],
    setCommitIndexR_latest s i, by rw [setCommitIndexR_shape], by rw [setCommitIndexR_shape]⟩

theorem voters_length (c : Config) : c.voters.length = c.numVoters := by
  unfold Config.voters Config.numVoters; rw [List.length_map]

/-- **the majority behind the index `majorityMatchIndex` selects**, as a list of voter ids: the leader itself
(then the index is within its log) or voters whose replication carries a backed match index at or above it -/
theorem majority_Q (s : Node) (B : Nat → Nat → Prop)
    (hmi : ∀ r ∈ s.ldr.repls, r.matchIndex = 0 ∨ B r.id r.matchIndex)
    (hnv : s.ldr.numVoters = s.configs.latest.numVoters)
    (hvoter : s.configs.latest.isVoter s.nid = true) (hnodup : s.configs.latest.voters.Nodup)
    (hi : 1 ≤ s.majorityMatchIndex.1) :
    ∃ Q : List Nat, Q.Nodup ∧ (∀ j ∈ Q, j ∈ s.configs.latest.voters) ∧
      2 * Q.length > s.configs.latest.voters.length ∧
      ∀ j ∈ Q, (j = s.nid ∧ s.majorityMatchIndex.1 ≤ s.lastLogIndex) ∨
        ∃ m, s.majorityMatchIndex.1 ≤ m ∧ B j m := by
  have hself : s.nid ∈ s.configs.latest.voters := C01Sys.isVoter_mem_voters _ _ hvoter
  by_cases hfast : s.ldr.numVoters = 1 ∧ s.ldr.node.voter = true
  · have hm : s.majorityMatchIndex.1 = s.lastLogIndex := by
      unfold Node.majorityMatchIndex; rw [if_pos hfast]
    refine ⟨[s.nid], List.nodup_cons.mpr ⟨List.not_mem_nil, List.nodup_nil⟩, ?_, ?_, ?_⟩
    · intro j hj; rw [List.mem_singleton.mp hj]; exact hself
    · rw [voters_length, ← hnv, hfast.1, List.length_singleton]; omega
    · intro j hj
      exact Or.inl ⟨List.mem_singleton.mp hj, by rw [hm]; exact Nat.le_refl _⟩
  · have hv : s.configs.latest.numVoters ≠ 0 := by
      rw [← voters_length]
      intro h0
      rw [List.length_eq_zero_iff.mp h0] at hself
      cases hself
    have hmaj := C06.commit_index_has_majority s hfast hv
    generalize s.majorityMatchIndex.1 = N at hi hmaj ⊢
    let f : CNode → Nat := fun n =>
      if n.id = s.nid then s.lastLogIndex else ((s.findRepl? n.id).map (·.matchIndex)).getD 0
    let g : CNode → Bool := fun n => decide (f n ≥ N)
    have hvm : s.voterMatches = (s.configs.latest.nodes.filter (·.voter)).map f := rfl
    have hcount : s.voterMatches.countP (fun m => decide (m ≥ N)) =
        ((s.configs.latest.nodes.filter (·.voter)).filter g).length := by
      rw [hvm, List.countP_map, List.countP_eq_length_filter]
      rfl
    refine ⟨((s.configs.latest.nodes.filter (·.voter)).filter g).map (·.id), ?_, ?_, ?_, ?_⟩
    · exact hnodup.sublist ((List.filter_sublist).map _)
    · intro j hj
      obtain ⟨n, hn, rfl⟩ := List.mem_map.mp hj
      exact List.mem_map.mpr ⟨n, (List.mem_filter.mp hn).1, rfl⟩
    · rw [List.length_map, ← hcount, voters_length]; exact hmaj
    · intro j hj
      obtain ⟨n, hn, rfl⟩ := List.mem_map.mp hj
      have hgn : f n ≥ N := by
        have := (List.mem_filter.mp hn).2
        simpa [g] using this
      by_cases hid : n.id = s.nid
      · left
        refine ⟨hid, ?_⟩
        have : f n = s.lastLogIndex := by show (if n.id = s.nid then _ else _) = _; rw [if_pos hid]
        omega
      · right
        have hf : f n = ((s.findRepl? n.id).map (·.matchIndex)).getD 0 := by
          show (if n.id = s.nid then _ else _) = _; rw [if_neg hid]
        cases hr : s.findRepl? n.id with
        | none => rw [hf, hr] at hgn; simp at hgn; omega
        | some r =>
          rw [hf, hr] at hgn
          simp only [Option.map_some, Option.getD_some] at hgn
          obtain ⟨hmem, hrid⟩ := findRepl_mem hr
          rcases hmi r hmem with h0 | hB
          · omega
          · exact ⟨r.matchIndex, hgn, by rw [← hrid]; exact hB⟩

theorem li_ldr {b s : Node} {B : Nat → Nat → Prop} (l : Leader) (h : LI b B s) (hl : LdrSub B s.ldr l) :
    LI b B (s.withLdr l) :=
  { h with toLC := lc_ldr l h.toLC hl, cache := ⟨hl.2.1.trans h.cache.1, hl.1.trans h.cache.2⟩,
           ci := ci_congr h.ci rfl (Nat.le_refl _) (Nat.le_refl _) }

theorem li_append {b s : Node} {B : Nat → Nat → Prop} (e : Entry) (roll : Bool) (h : LI b B s)
    (hi : e.index = s.lastLogIndex + 1) (ht : e.term = s.term) :
    LI b B { s with log := s.log.append e roll, lastLogIndex := e.index, lastLogTerm := e.term } := by
  obtain ⟨_, p2⟩ := append_parts s.log e roll
  obtain ⟨w1, w2⟩ := logwf_append s.log e roll h.lwf
  exact { h with
    toLC := lc_log h.toLC (nwf_append h.nwf e roll hi rfl rfl rfl rfl rfl) w1 w2 (Or.inr ⟨e, p2, ht⟩) rfl ⟨rfl, rfl⟩
    ci := ci_congr h.ci rfl (by show _ ≤ (s.log.append e roll).entries.length; rw [p2, List.length_append]; omega) w2 }

theorem li_commit {b s : Node} {B : Nat → Nat → Prop} (hb : LBase b B) (i : Nat) (h : LI b B s)
    (hi : i > s.commitIndex) (hst : i ≥ s.ldr.startIndex) (hm : i = s.majorityMatchIndex.1) :
    LI b B ((s.commitLog i).setCommitIndexR i).1 := by
  -- the majority, read off the state before the flush
  have hQ := majority_Q s B h.mi (by rw [h.cache.1, h.cfg]; exact hb.numVoters)
    (by rw [h.cfg, h.nid]; exact hb.voter)
    (by rw [h.cfg]; exact hb.nodup) (by rw [← hm]; omega)
  rw [← hm, h.cfg, h.nid] at hQ
  obtain ⟨Q, q1, q2, q3, q4⟩ := hQ
  obtain ⟨es, he, _⟩ := h.ext
  have hlen : i ≤ s.log.entries.length := by
    have hne : Q ≠ [] := by intro e; rw [e] at q3; simp at q3
    obtain ⟨j, hj⟩ := List.exists_mem_of_ne_nil Q hne
    rcases q4 j hj with ⟨_, hle⟩ | ⟨m, hle, hB⟩
    · rw [← h.nwf.last]; exact hle
    · have := hb.hB j m hB
      rw [he, List.length_append]; omega
  obtain ⟨w1, w2, w3⟩ := logwf_commitN s.log i h.lwf
  obtain ⟨c1, c2⟩ := commitN_parts s.log i
  have h0 : LI b B { s with log := s.log.commitN i } :=
    { h with
      toLC := lc_log h.toLC (nwf_same_entries h.nwf c1 c2 rfl rfl rfl rfl) w1 w2 (Or.inl c2) rfl ⟨rfl, rfl⟩
      ci := ci_congr h.ci rfl (by show _ ≤ (s.log.commitN i).entries.length; rw [c2]; exact Nat.le_refl _) w2 }
  have h1 : LI b B (s.commitLog i) := li_point "commitLog" h0
  have hv : (s.commitLog i).configs.latest.isVoter (s.commitLog i).nid = true := by
    rw [h1.cfg, h1.nid]; exact hb.voter
  obtain ⟨v1, v2, v3, v4, v5, v6, v7, v8, _⟩ := setCommitIndexR_voter (s.commitLog i) i hv
  have hcore := v2
  unfold Core at hcore
  simp only [Prod.mk.injEq] at hcore
  have hlog : ((s.commitLog i).setCommitIndexR i).1.log = s.log.commitN i := hcore.1
  have hbci : b.commitIndex ≤ s.commitIndex := by
    rcases h.ci with c | c
    · omega
    · exact Nat.le_of_lt c.1
  refine ⟨lc_congr h1.toLC (by unfold cobs; rw [v2, v4, v5, v6, v8]), v3.trans h1.role, v7.trans h1.cfg,
    by rw [v8]; exact h1.cache, Or.inr ⟨by rw [v1]; omega, by rw [v1, ← h.start]; exact hst, ?_, ?_, Q, q1, q2, q3, ?_⟩⟩
  · rw [v1, hlog, c2]; exact hlen
  · rw [v1, hlog]
    have hl : s.log.last = s.log.entries.length := by unfold NLog.last; rw [h.nwf.prev]; omega
    rw [hl] at w3
    omega
  · intro j hj
    rw [v1]
    rcases q4 j hj with ⟨e, _⟩ | hx
    · exact Or.inl e
    · exact Or.inr hx

theorem li_closed (b : Node) (B : Nat → Nat → Prop) (hb : LBase b B) :
    MClosed b.configs.latest B (LI b B) where
  cfg := fun s h => h.cfg
  panic := fun s site h => li_congr h (by unfold lobs; rw [core_panic]; unfold Node.panic; split <;> rfl)
  reply := fun s t r h => li_congr h (by unfold lobs; rw [core_reply]; unfold Node.reply; split <;> rfl)
  point := fun s n h => li_point n h
  fsm := fun s f h => li_congr h rfl
  popOrder := fun s h => li_congr h rfl
  ldr := fun s l h hl => li_ldr l h hl
  append := fun s e roll h hi ht => li_append e roll h hi ht
  commit := fun s i h hi hst hm => li_commit hb i h hi hst hm

/-- no new non-zero vote -/
def AF : Nat → Nat → Prop := fun _ _ => False

/-- the result of a leader handler: the invariant, or the node stepped down from a state satisfying it,
touching only role, leader id and term (never the log, the commit index or the state machine) -/
def PostF (Inv : Node → Prop) (s : Node) : Prop :=
  Inv s ∨ (s.role = .follower ∧ ∃ x, Inv x ∧ SX x AF False s)

/-- … and recording no failure of its own -/
def PostM (Inv : Node → Prop) (s : Node) : Prop :=
  Inv s ∨ (s.role = .follower ∧ ∃ x, Inv x ∧ SX x AF False s ∧ (s.panicked = none → x.panicked = none))

theorem PostM.postF {Inv : Node → Prop} {s : Node} (h : PostM Inv s) : PostF Inv s :=
  h.imp_right fun ⟨a, x, b, c, _⟩ => ⟨a, x, b, c⟩

namespace CfgClosed

variable {Ch : Prop} {Bk : Nat → Nat → Prop} {Inv : Node → Prop} (h : CfgClosed Ch Bk Inv)
include h

theorem checkQuorum_p (hwf : ∀ s, Inv s → C05.VoteWF s) (s : Node) (hs : Inv s) :
    PostM Inv s.checkQuorum := by
  unfold Node.checkQuorum
  extract_lets vs reachable s1
  have h1 : Inv s1 := by unfold s1; split; exact h.panic _ _ hs; exact hs
  clear_value s1
  split
  · exact Or.inl h1
  · exact Or.inr ⟨rfl, s1, h1, sx_setLeader _ (sx_setRole _ (sx_refl s1 AF False (hwf s1 h1))), id⟩

theorem replUpdLoop_c (hSt : StableOr Ch Inv) (hwf : ∀ s, Inv s → C05.VoteWF s) (us : List ReplUpdate)
    (hus : NoCompact us) (hupd : ∀ u ∈ us, ∀ v, u.upd = .matchIndex v → v = 0 ∨ Bk u.id v) :
    ∀ (s : Node) (f : UpdFlags), Inv s → f.removeLTEU = false →
    (replUpdLoop s f us).2.removeLTEU = false ∧
    (((replUpdLoop s f us).2.stop = f.stop ∧ Inv (replUpdLoop s f us).1) ∨
     ((replUpdLoop s f us).2.stop = true ∧ (replUpdLoop s f us).1.role = .follower ∧
       ∃ x, Inv x ∧ SX x AF False (replUpdLoop s f us).1 ∧
         ((replUpdLoop s f us).1.panicked = none → x.panicked = none))) := by
  induction us with
  | nil => intro s f hs hf; exact ⟨hf, Or.inl ⟨rfl, hs⟩⟩
  | cons u us ih =>
    intro s f hs hf
    have hus' : NoCompact us := fun x hx => hus x (List.mem_cons_of_mem _ hx)
    have hupd' : ∀ u ∈ us, ∀ v, u.upd = .matchIndex v → v = 0 ∨ Bk u.id v :=
      fun x hx => hupd x (List.mem_cons_of_mem _ hx)
    have hu := hus u (List.mem_cons_self ..)
    have hu2 := hupd u (List.mem_cons_self ..)
    unfold replUpdLoop
    split
    · exact ih hus' hupd' s f hs hf
    · split
      · exact ih hus' hupd' s f hs hf
      · rename_i st hst
        obtain ⟨hmem, hid⟩ := findRepl_mem hst
        split
        · rename_i v hv
          dsimp only
          have hbk : v = 0 ∨ Bk st.id v := by rw [hid]; exact hu2 v hv
          have h1 : Inv (s.setRepl { st with matchIndex := v }) :=
            h.setRepl_c _ _ hs (hbk.imp id (fun x => Or.inr x))
          have := ih hus' hupd' (if ¬ st.node.voter = true ∧ st.node.action ≠ actNone
              then checkConfigAction (fuelFor 0) (s.setRepl { st with matchIndex := v }) 0
                (s.setRepl { st with matchIndex := v }).configs.latest st.id
              else s.setRepl { st with matchIndex := v }) { f with matchU := true }
            (by
              split
              · exact h.checkConfigAction_c hSt _ _ _ _ _ h1 (hSt _ h1)
              · exact h1) hf
          simpa using this
        · rename_i v hv
          exact absurd hv (hu v)
        · rename_i v hv
          exact ih hus' hupd' _ { f with noContactU := true }
            (h.setRepl_c _ _ hs (Or.inr (Or.inl ⟨st, hmem, rfl, rfl⟩))) hf
        · rename_i v hv
          refine ⟨hf, Or.inr ⟨rfl, ?_, s, hs, ?_, ?_⟩⟩
          · rw [(setTerm_key _ v).2.1]; rfl
          · exact sx_setTerm _ (sx_setLeader _ (sx_setRole _ (sx_refl s AF False (hwf s hs))))
          · exact fun hp => setTerm_pan' ((s.setRole .follower).setLeader 0) v hp

theorem checkReplUpdates_p (hSt : StableOr Ch Inv) (hwf : ∀ s, Inv s → C05.VoteWF s)
    (us : List ReplUpdate)
    (hus : NoCompact us) (hupd : ∀ u ∈ us, ∀ v, u.upd = .matchIndex v → v = 0 ∨ Bk u.id v)
    (s : Node) (hs : Inv s) : PostM Inv (s.checkReplUpdates us) := by
  unfold Node.checkReplUpdates
  extract_lets r s1 f s2 s3 s4
  obtain ⟨k1, k2⟩ := h.replUpdLoop_c hSt hwf us hus hupd s {} hs rfl
  split
  · rcases k2 with ⟨_, k⟩ | ⟨_, kr, k⟩
    · exact Or.inl k
    · exact Or.inr ⟨kr, k⟩
  · rename_i hstop
    rcases k2 with ⟨_, k⟩ | ⟨k0, _⟩
    · have h2 : Inv s2 := by unfold s2; split; exact h.onMajorityCommit_c hSt _ _ k; exact k
      have h3 : PostM Inv s3 := by
        unfold s3; split
        · exact h.checkQuorum_p hwf _ h2
        · exact Or.inl h2
      have e4 : s4 = s3 := by
        unfold s4
        rw [if_neg]
        intro hc
        have : f.removeLTEU = true := hc.1
        have k1' : f.removeLTEU = false := k1
        rw [k1'] at this; cases this
      rw [e4]
      rcases h3 with h3 | ⟨hr, x, hx, hsx, hpx⟩
      · split
        · exact Or.inl (h.tryTransfer_c _ h3)
        · exact Or.inl h3
      · split
        · refine Or.inr ⟨?_, x, hx, ?_, fun hp => hpx ((CfgRel.q_tryTransfer s3).pan' hp)⟩
          · exact Node.tryTransfer_ldrT (P := fun y => y.role = .follower) (fun _ _ hy _ _ _ _ _ _ => hy)
              (fun y site hy => by rw [Node.panic_shape]; exact hy) (fun _ hy => hy) s3 hr
          · exact Node.tryTransfer_ldrT (P := SX x AF False) (fun _ l hy _ _ _ _ _ _ => sx_withLdr l hy)
              (fun _ _ => sx_panic _) (fun _ => sx_popOrder) s3 hsx
        · exact Or.inr ⟨hr, x, hx, hsx, hpx⟩
    · exact absurd k0 hstop

end CfgClosed

theorem MClosed.checkReplUpdates_p {C : Config} {Bk : Nat → Nat → Prop} {Inv : Node → Prop} (h : MClosed C Bk Inv)
    (hC : C.isStable = true) (hwf : ∀ s, Inv s → C05.VoteWF s)
    (us : List ReplUpdate)
    (hus : NoCompact us) (hupd : ∀ u ∈ us, ∀ v, u.upd = .matchIndex v → v = 0 ∨ Bk u.id v)
    (s : Node) (hs : Inv s) : PostF Inv (s.checkReplUpdates us) :=
  (h.toC.checkReplUpdates_p (h.stableOr hC) hwf us hus hupd s hs).postF

theorem sx_releaseRole {b s : Node} {A : Nat → Nat → Prop} {K : Prop} (r : Role) (h : SX b A K s) :
    SX b A False (s.releaseRole r) :=
  releaseRole_of (fun _ v hx => sx_candTransfer v hx)
    (Node.leaderRelease_of (fun _ l hx _ _ _ _ _ _ => sx_withLdr l hx) (fun _ t r hx => sx_reply t r hx)
      (fun _ l hx => sx_setLeader l hx) (fun _ hx => sx_withLdr _ hx)) s r h.weaken

/-- a candidate keeps its leader record when released (only `candTransfer` is cleared) -/
theorem sx_releaseCand {b s : Node} {A : Nat → Nat → Prop} {K : Prop} (h : SX b A K s) :
    SX b A K (s.releaseRole .candidate) := by
  unfold Node.releaseRole
  exact sx_candTransfer _ h

theorem addReplication_ldr (s : Node) (n : CNode) :
    (s.addReplication n).ldr.transfer = s.ldr.transfer ∧ (s.addReplication n).nid = s.nid := by
  unfold Node.addReplication
  extract_lets s1 s2
  have h1 : s1.ldr = s.ldr ∧ s1.nid = s.nid := by unfold s1; rw [assert_shape]; exact ⟨rfl, rfl⟩
  clear_value s1
  have h2 : s2.ldr = s1.ldr ∧ s2.nid = s1.nid := by
    unfold s2 Node.panic; repeat' split
    all_goals exact ⟨rfl, rfl⟩
  clear_value s2
  exact ⟨by show s2.ldr.transfer = _; rw [h2.1, h1.1], h2.2.trans h1.2⟩

theorem isVoter_get (c : Config) (id : Nat) (h : c.isVoter id = true) : (c.get id).voter = true := by
  unfold Config.isVoter at h
  unfold Config.get
  split at h
  · rename_i n hn; rw [hn]; exact h
  · cases h

/-- the fresh leader record of `leader.init` -/
def initBase (x : Node) : Node :=
  let s := x.assert (x.leader == x.nid) "assert.leaderInit"
  s.withLdr
    { node := s.configs.latest.get s.nid, numVoters := s.configs.latest.numVoters,
      startIndex := s.lastLogIndex + 1, removeLTE := s.log.prev,
      queue := [], repls := [], transfer := {}, waitStable := [] }

/-- what `leader.init` needs to know about the node that just became leader -/
structure InitHyp (x : Node) : Prop where
  nwf : NWF x
  lwf : C06.LogWF x.log
  wf : C05.VoteWF x
  role : x.role = .leader
  stable : x.configs.latest.isStable = true
  voter : x.configs.latest.isVoter x.nid = true
  nodup : x.configs.latest.voters.Nodup

theorem initBase_lobs (x : Node) :
    Core (initBase x) = Core x ∧ (initBase x).role = x.role ∧ (initBase x).nid = x.nid ∧
    (initBase x).votedFor = x.votedFor ∧ (initBase x).durVote = x.durVote ∧ (initBase x).configs = x.configs ∧
    (initBase x).commitIndex = x.commitIndex ∧ (initBase x).fsm = x.fsm := by
  unfold initBase Node.withLdr Node.assert Node.panic
  dsimp only
  repeat' split
  all_goals exact ⟨rfl, rfl, rfl, rfl, rfl, rfl, rfl, rfl⟩

theorem initBase_entries (x : Node) : (initBase x).log.entries = x.log.entries := by
  have := (initBase_lobs x).1
  unfold Core at this
  simp only [Prod.mk.injEq] at this
  rw [this.1]

/-- the record `leader.init` starts with -/
def freshLdr (x : Node) : Leader :=
  { node := x.configs.latest.get x.nid, numVoters := x.configs.latest.numVoters,
    startIndex := x.lastLogIndex + 1, removeLTE := x.log.prev,
    queue := [], repls := [], transfer := {}, waitStable := [] }

theorem initBase_ldr (x : Node) : (initBase x).ldr = freshLdr x := by
  have h1 : (x.assert (x.leader == x.nid) "assert.leaderInit").configs = x.configs := (assert_fields _ _ _).2.2.2.2.2.2.2
  have h2 : (x.assert (x.leader == x.nid) "assert.leaderInit").nid = x.nid := (SameKey.assert _ _ _).nid
  have h3 : (x.assert (x.leader == x.nid) "assert.leaderInit").lastLogIndex = x.lastLogIndex := (assert_fields _ _ _).2.1
  have h4 : (x.assert (x.leader == x.nid) "assert.leaderInit").log = x.log := (assert_fields _ _ _).1
  show freshLdr (x.assert (x.leader == x.nid) "assert.leaderInit") = _
  unfold freshLdr
  rw [h1, h2, h3, h4]

/-- the node with the fresh leader record: well formed as `x`, a leader, and nothing lies at or beyond its start index -/
theorem initBase_facts {x : Node} (hn : NWF x) (hl : C06.LogWF x.log) (hwf : C05.VoteWF x) (hr : x.role = .leader) :
    NWF (initBase x) ∧ C06.LogWF (initBase x).log ∧ C05.VoteWF (initBase x) ∧ (initBase x).role = .leader ∧
    1 ≤ (initBase x).ldr.startIndex ∧
    ∀ k, (initBase x).ldr.startIndex ≤ k → k ≤ (initBase x).log.entries.length →
      termAt (initBase x).log.entries k = (initBase x).term := by
  obtain ⟨c1, c2, _, c4, c5, _⟩ := initBase_lobs x
  unfold Core at c1
  simp only [Prod.mk.injEq] at c1
  obtain ⟨e1, e2, e3, e4, e5, e6, e7, _⟩ := c1
  refine ⟨nwf_congr hn e1 e2 e3 e4 e5, by rw [e1]; exact hl, ?_, c2.trans hr, ?_, fun k hk hk2 => ?_⟩
  · unfold C05.VoteWF; rw [e7, e6, c5, c4]; exact hwf
  · rw [initBase_ldr]
    show 1 ≤ x.lastLogIndex + 1
    exact Nat.le_add_left _ _
  · rw [initBase_ldr] at hk
    have hk' : x.lastLogIndex + 1 ≤ k := hk
    rw [e1] at hk2
    have := hn.last
    omega

theorem initBase_base {x : Node} (hx : InitHyp x) : LBase (initBase x) AF := by
  obtain ⟨_, _, c3, _, _, c6, _, _⟩ := initBase_lobs x
  obtain ⟨f1, f2, f3, f4, f5, f6⟩ := initBase_facts hx.nwf hx.lwf hx.wf hx.role
  exact ⟨f1, f2, f3, f4, by rw [c6]; exact hx.stable, by rw [c6, c3]; exact hx.voter, by rw [c6]; exact hx.nodup,
    by rw [c6, initBase_ldr]; rfl, f5, f6, fun j m hB => hB.elim⟩

theorem extends_after_items (n : Nat) (s : Node) (b : List QItem) :
    C04.Extends (storeItems n s b) (storeEntry (n + 1) s b) := by
  have hc := C04.leader_closed (storeItems n s b)
  exact storeEntry_tail_of hc.applyCommittedL_inv hc.beginFinishedRounds_inv hc.notifyFlr_inv (hc.onMajorityCommit_inv n)
    s b ⟨rfl, List.prefix_refl _⟩

/-- `leader.init` adds a replication for every other node of the configuration: what `addReplication` keeps, the loop
keeps -/
theorem foldl_addReplication {P : Node → Prop} (hadd : ∀ (s : Node) n, P s → P (s.addReplication n)) :
    ∀ (ns : List CNode) (s : Node), P s →
      P (ns.foldl (fun s n => if n.id = s.nid then s else s.addReplication n) s) := by
  refine fun ns s hs => Node.Guarded.foldl_inv _ (fun s n hs => ?_) ns s hs
  split
  · exact hs
  · exact hadd _ _ hs

/-- `leader.init` ends by storing the no-op of the new term: the log grows, when the state `s3` before that has a voter
as cached own node, no transfer in progress and at least `x`'s log -/
theorem leaderInit_grows {x s3 : Node} (e : x.leaderInit = storeEntry (fuelFor 1) s3 [{ typ := etNop }])
    (hv3 : s3.ldr.node.voter = true) (ht3 : s3.ldr.transfer.active = false)
    (hl3 : x.log.entries.length ≤ s3.log.entries.length) :
    x.log.entries.length < x.leaderInit.log.entries.length := by
  have hnc : ∀ q ∈ [({ typ := etNop } : QItem)], q.typ ≠ etConfig := by
    intro q hq; rw [List.mem_singleton.mp hq]; decide
  obtain ⟨_, q2, _⟩ := C03.leader_queue_matches_log 67 s3 [{ typ := etNop }] (by decide) ht3 hv3 hnc
  have hext := extends_after_items 67 s3 [{ typ := etNop }]
  have hlen := hext.2.length_le
  rw [q2] at hlen
  rw [e]
  show x.log.entries.length < (storeEntry (67 + 1) s3 [{ typ := etNop }]).log.entries.length
  simp only [List.length_append] at hlen
  have : ((C03.assign s3.lastLogIndex s3.term [({ typ := etNop } : QItem)]).filter
      (fun q => isLogEntryTyp q.typ)).length = 1 := by
    simp [C03.assign, isLogEntryTyp, etNop, etRead, etDirtyRead, etBarrier]
  rw [List.length_map, this] at hlen
  omega

/-- **`leader.init`** of a voter under a stable configuration: relative to the fresh leader record the
invariant holds, and at least one entry (the no-op of the new term) was appended. -/
theorem leaderInit_li {x : Node} (hx : InitHyp x) :
    LI (initBase x) AF x.leaderInit ∧ x.log.entries.length < x.leaderInit.log.entries.length := by
  have hb := initBase_base hx
  have L := li_closed (initBase x) AF hb
  have hC : (initBase x).configs.latest.isStable = true := hb.stable
  have h0 : LI (initBase x) AF (initBase x) := li_refl hb (fun r hr => by rw [initBase_ldr] at hr; cases hr)
  have t0 : (initBase x).ldr.transfer.active = false := by rw [initBase_ldr]; rfl
  obtain ⟨c1, _, c3, _, _, c6, _, _⟩ := initBase_lobs x
  obtain ⟨h2, t2⟩ := foldl_addReplication (P := fun s => LI (initBase x) AF s ∧ s.ldr.transfer.active = false)
    (fun s n hs => ⟨L.addReplication_m _ _ hs.1, by rw [(addReplication_ldr s n).1]; exact hs.2⟩)
    x.configs.latest.nodes (initBase x) ⟨h0, t0⟩
  have e : x.leaderInit = storeEntry (fuelFor 1)
      (checkConfigActions (fuelFor 0)
        ((initBase x).configs.latest.nodes.foldl (fun s n => if n.id = s.nid then s else s.addReplication n) (initBase x)) 0
        ((initBase x).configs.latest.nodes.foldl (fun s n => if n.id = s.nid then s else s.addReplication n) (initBase x)).configs.latest)
      [{ typ := etNop }] := rfl
  rw [← c6] at h2 t2
  generalize hs2 : (initBase x).configs.latest.nodes.foldl (fun s n => if n.id = s.nid then s else s.addReplication n)
    (initBase x) = s2 at h2 t2 e
  have hcfg2 : s2.configs.latest = (initBase x).configs.latest := h2.cfg
  have h3 : LI (initBase x) AF (checkConfigActions (fuelFor 0) s2 0 s2.configs.latest) := by
    rw [hcfg2]; exact L.checkConfigActions_m hC _ _ _ h2
  have t3 : (checkConfigActions (fuelFor 0) s2 0 s2.configs.latest).ldr = s2.ldr := by
    rw [hcfg2, show fuelFor 0 = 62 + 2 from rfl, C08.checkConfigActions_stable 62 s2 0 _ hC]; rfl
  generalize checkConfigActions (fuelFor 0) s2 0 s2.configs.latest = s3 at h3 t3 e
  have hnc : NoCfg [({ typ := etNop } : QItem)] := by
    intro q hq; rw [List.mem_singleton.mp hq]; decide
  have h4 : LI (initBase x) AF x.leaderInit := by rw [e]; exact L.storeEntry_m hC _ _ _ h3 hnc
  refine ⟨h4, leaderInit_grows e ?_ (by rw [t3]; exact t2) ?_⟩
  · rw [h3.cache.2, initBase_ldr]
    exact isVoter_get _ _ hx.voter
  · rw [← initBase_entries]; exact lc_len h3.toLC

/-- what the record of a leader satisfies between steps: the cached voter count is current, entries from
`startIndex` on carry the leader's term (and there is at least one: the last entry), and every non-zero match
index is backed by `B` -/
structure LeadOK (B : Nat → Nat → Prop) (s : Node) : Prop where
  numVoters : s.ldr.numVoters = s.configs.latest.numVoters
  start : 1 ≤ s.ldr.startIndex
  own : ∀ k, s.ldr.startIndex ≤ k → k ≤ s.log.entries.length → termAt s.log.entries k = s.term
  mi : ∀ r ∈ s.ldr.repls, r.matchIndex = 0 ∨ B r.id r.matchIndex
  startLe : s.ldr.startIndex ≤ s.log.entries.length
  lastT : s.lastLogTerm = s.term

theorem LeadOK.mono {B B' : Nat → Nat → Prop} {s : Node} (hB : ∀ j m, B j m → B' j m) (h : LeadOK B s) :
    LeadOK B' s :=
  ⟨h.numVoters, h.start, h.own, fun r hr => (h.mi r hr).imp id (hB _ _), h.startLe, h.lastT⟩

theorem termAt_append_right (es r : List Entry) (t : Nat) (hr : ∀ e ∈ r, e.term = t) (k : Nat)
    (h1 : es.length < k) (h2 : k ≤ (es ++ r).length) : termAt (es ++ r) k = t := by
  unfold termAt
  rw [if_neg (by omega)]
  rw [List.length_append] at h2
  have hk : k - 1 - es.length < r.length := by omega
  rw [List.getElem?_append_right (by omega), List.getElem?_eq_getElem hk]
  exact hr _ (List.getElem_mem hk)

/-- entries at or beyond `startIndex` carry the leader's term, also after the handler -/
theorem lc_own {b s : Node} {B : Nat → Nat → Prop} (h : LC b B s)
    (hown : ∀ k, b.ldr.startIndex ≤ k → k ≤ b.log.entries.length → termAt b.log.entries k = b.term) :
    ∀ k, b.ldr.startIndex ≤ k → k ≤ s.log.entries.length → termAt s.log.entries k = b.term := by
  intro k hk hk2
  obtain ⟨es, he, hes⟩ := h.ext
  rw [he] at hk2 ⊢
  by_cases hkb : k ≤ b.log.entries.length
  · rw [termAt_append_left _ _ _ hkb]; exact hown k hk hkb
  · exact termAt_append_right _ _ _ hes k (by omega) hk2

/-- the record of a leader after its handler is as `LeadOK` says, when the cached voter count is current -/
theorem lc_leadOK {b s : Node} {B : Nat → Nat → Prop} (h : LC b B s) (hst : 1 ≤ b.ldr.startIndex)
    (hown : ∀ k, b.ldr.startIndex ≤ k → k ≤ b.log.entries.length → termAt b.log.entries k = b.term)
    (hnum : s.ldr.numVoters = s.configs.latest.numVoters) (hl : b.ldr.startIndex ≤ s.log.entries.length) :
    LeadOK B s := by
  have hown' : ∀ k, s.ldr.startIndex ≤ k → k ≤ s.log.entries.length → termAt s.log.entries k = s.term := by
    intro k hk hk2
    rw [h.term]
    exact lc_own h hown k (by rw [← h.start]; exact hk) hk2
  refine ⟨hnum, by rw [h.start]; exact hst, hown', h.mi, by rw [h.start]; exact hl, ?_⟩
  rw [h.nwf.lastT, ← termAt_length]
  exact hown' _ (by rw [h.start]; exact hl) (Nat.le_refl _)

/-- commit evidence at the level of a whole step: the commit index moved to an index holding an entry of the
term `T` in which the node was leader during the step, inside the flushed part of the log, and a majority of
the voters reached it -/
structure CEv (pre : Node) (B : Nat → Nat → Prop) (post : Node) (T : Nat) : Prop where
  adv : pre.commitIndex < post.commitIndex
  holds : Holds post.log.entries post.commitIndex T
  flushed : post.commitIndex ≤ post.log.flushed
  src : (pre.role = .leader ∧ T = pre.term ∧ T ≤ post.term ∧ (post.term = pre.term ∨ post.votedFor = 0)) ∨
    (post.role = .leader ∧ T = post.term)
  maj : ∃ Q : List Nat, Q.Nodup ∧ (∀ j ∈ Q, j ∈ pre.configs.latest.voters) ∧
    2 * Q.length > pre.configs.latest.voters.length ∧
    ∀ j ∈ Q, j = pre.nid ∨ (pre.role = .leader ∧ T = pre.term ∧ ∃ m, post.commitIndex ≤ m ∧ B j m)

/-- **summary of a step that is not an append request**, relative to the state `pre` it starts from -/
structure NStep (pre : Node) (A : Nat → Nat → Prop) (B : Nat → Nat → Prop) (post : Node) : Prop where
  lwf : C06.LogWF post.log
  flush : pre.log.flushed ≤ post.log.flushed
  pair : PairOK pre A post.term post.votedFor
  tr : ∀ p ∈ post.trace, pre.log.entries.take pre.log.flushed <+: p.2.log.entries ∧
    PairOK pre A p.2.term p.2.vote ∧ DW p.2
  cfg : post.configs.latest = pre.configs.latest
  ci : post.commitIndex = pre.commitIndex ∨ ∃ T, CEv pre B post T
  ldr : post.role = .leader →
    (pre.role = .leader ∧ post.term = pre.term ∧ LeadOK B post) ∨ LeadOK AF post
  grow : pre.log.entries.length < post.log.entries.length →
    (pre.role = .leader ∧ lastTerm post.log.entries = pre.term) ∨ post.role = .leader
  trgrow : ∀ p ∈ post.trace, pre.log.entries.length < p.2.log.entries.length →
    (p.2.term = post.term ∧ p.2.vote = post.votedFor) ∨
    (pre.role = .leader ∧ lastTerm p.2.log.entries = pre.term)

/-- a list that extends `b` within `b ++ es` ends with an entry of `es` -/
theorem lastTerm_ext {b es d : List Entry} {t : Nat} (hes : ∀ e ∈ es, e.term = t) (hp : d <+: b ++ es)
    (hl : b.length < d.length) : lastTerm d = t := by
  rcases C04Sys.prefix_append_cases hp with h | ⟨es', e1, e2, e3⟩
  · have := h.length_le; omega
  · rw [e3]
    unfold lastTerm
    rw [List.getLast?_append, List.getLast?_eq_some_getLast e1]
    exact hes _ (e2.subset (List.getLast_mem e1))

theorem pairOK_trans {b m : Node} {A : Nat → Nat → Prop} {t v : Nat} (hm : PairOK b A m.term m.votedFor)
    (h : PairOK m AF t v) : PairOK b A t v := by
  obtain ⟨h1, h2⟩ := h
  refine ⟨Nat.le_trans hm.1 h1, ?_⟩
  rcases h2 with h2 | ⟨e1, e2⟩ | h2
  · exact Or.inl h2
  · rw [e1, e2]; exact hm.2
  · exact h2.elim

theorem sx_log {b s : Node} {A : Nat → Nat → Prop} {K : Prop} (h : SX b A K s) : s.log = b.log := by
  have e := h.core
  unfold LCore at e
  simp only [Prod.mk.injEq] at e
  exact e.1

theorem durable_entries {s : Node} (hn : NWF s) : s.log.durable.entries = s.log.entries.take s.log.flushed := by
  show s.log.entries.take (s.log.flushed - s.log.prev) = _
  rw [hn.prev, Nat.sub_zero]

/-- the crash points of a step whose result is related to its start by `SX` alone hold what was durable in `b`: no more
than `b`'s log, a legal (term, vote), a last segment within the entries -/
theorem sx_trace {b post : Node} {A : Nat → Nat → Prop} {K : Prop} (hbtr : b.trace = []) (hbn : NWF b)
    (hbl : C06.LogWF b.log) (h : SX b A K post) {p : String × Durable} (hp : p ∈ post.trace) :
    (b.log.entries.take b.log.flushed <+: p.2.log.entries ∧ PairOK b A p.2.term p.2.vote ∧ DW p.2) ∧
    p.2.log.entries.length ≤ b.log.entries.length := by
  rcases h.tr p hp with hp' | ⟨q1, _, q3⟩
  · rw [hbtr] at hp'; cases hp'
  · refine ⟨⟨?_, q3, ?_⟩, ?_⟩
    · rw [q1, durable_entries hbn]
      exact List.prefix_refl _
    · show NLog.lastSegPrev p.2.log ≤ p.2.log.entries.length
      rw [q1]; exact durable_dw_log _ hbn.prev hbl
    · rw [q1, durable_entries hbn, List.length_take]
      omega

/-- summary of a step whose result is related to its start by `SX` alone -/
theorem nstep_sx {b post : Node} {A : Nat → Nat → Prop} {B : Nat → Nat → Prop} {K : Prop}
    (hbtr : b.trace = []) (hbn : NWF b) (hbl : C06.LogWF b.log) (h : SX b A K post)
    (hld : post.role = .leader → (b.role = .leader ∧ post.term = b.term ∧ LeadOK B post) ∨ LeadOK AF post) :
    NStep b A B post := by
  have hlog := sx_log h
  exact ⟨by rw [hlog]; exact hbl, by rw [hlog]; exact Nat.le_refl _, h.pair,
    fun p hp => (sx_trace hbtr hbn hbl h hp).1, by rw [h.cfg], Or.inl h.ci, hld,
    fun hg => by rw [hlog] at hg; omega,
    fun p hp hg => by have := (sx_trace hbtr hbn hbl h hp).2; omega⟩

/-- **what a step through a leader handler leaves on disk and in the log**, whatever the handler did to the configuration
(`LC`): `b0` is the state the handler started from (related to the start `b` of the step by `SX`), `m` its result, and the
step ended in `post`, which has `m`'s log (`SX m AF False post`). The log is well formed and no less is flushed, the
(term, vote) moved as `PairOK` allows, and every crash point holds what was flushed in `b`, a legal (term, vote) and a
last segment within its entries. -/
theorem nstep_lc {b b0 m post : Node} {A : Nat → Nat → Prop} {B0 : Nat → Nat → Prop} {K0 : Prop}
    (hbtr : b.trace = []) (hbn : NWF b) (hbl : C06.LogWF b.log) (h0 : SX b A K0 b0) (hwf0 : C05.VoteWF b0)
    (hm : LC b0 B0 m) (hpm : SX m AF False post) :
    C06.LogWF post.log ∧ b.log.flushed ≤ post.log.flushed ∧ PairOK b A post.term post.votedFor ∧
    ∀ p ∈ post.trace, b.log.entries.take b.log.flushed <+: p.2.log.entries ∧ PairOK b A p.2.term p.2.vote ∧ DW p.2 := by
  have hlog0 := sx_log h0
  have hlogp := sx_log hpm
  obtain ⟨es, he, _⟩ := hm.ext
  have hmpair : PairOK b A m.term m.votedFor := by
    rw [hm.term, hm.vote.1]; exact h0.pair
  have hdur : b.log.entries.take b.log.flushed <+: m.log.entries.take m.log.flushed := by
    rw [← hlog0]
    exact take_prefix_take (by rw [he]; exact List.prefix_append _ _) hm.flush
  refine ⟨by rw [hlogp]; exact hm.lwf, by rw [hlogp, ← hlog0]; exact hm.flush, pairOK_trans hmpair hpm.pair,
    fun p hp => ?_⟩
  rcases hpm.tr p hp with hp' | ⟨q1, _, q3⟩
  · rcases hm.tr p hp' with hp'' | ⟨r1, r2, r3, r4, r5, r6, r7⟩
    · exact (sx_trace hbtr hbn hbl h0 hp'').1
    · refine ⟨by rw [← hlog0]; exact r4, ?_, r7⟩
      rw [r5, r6, hwf0.1, hwf0.2]; exact h0.pair
  · refine ⟨?_, pairOK_trans hmpair q3, ?_⟩
    · rw [q1, durable_entries hm.nwf]; exact hdur
    · show NLog.lastSegPrev p.2.log ≤ p.2.log.entries.length
      rw [q1]; exact durable_dw_log _ hm.nwf.prev hm.lwf

/-- a crash point of such a step that holds more than `b`'s log, when `b` was leader from the start of the step: the
entries beyond carry `b`'s term -/
theorem nstep_lc_grow {b b0 m post : Node} {A : Nat → Nat → Prop} {B0 : Nat → Nat → Prop} {K0 : Prop}
    (hbtr : b.trace = []) (hbn : NWF b) (hbl : C06.LogWF b.log) (h0 : SX b A K0 b0) (hm : LC b0 B0 m)
    (hpm : SX m AF False post) (ht : b0.term = b.term) {p : String × Durable} (hp : p ∈ post.trace)
    (hg : b.log.entries.length < p.2.log.entries.length) : lastTerm p.2.log.entries = b.term := by
  have hlog0 := sx_log h0
  obtain ⟨es, he, hes⟩ := hm.ext
  -- a crash point of `b0` holds no more than `b`'s log
  have hnot0 : p ∉ b0.trace := fun hp'' => by have := (sx_trace hbtr hbn hbl h0 hp'').2; omega
  have hpre : p.2.log.entries <+: b0.log.entries ++ es := by
    rw [← he]
    rcases hpm.tr p hp with hp' | ⟨q1, _, _⟩
    · rcases hm.tr p hp' with hp'' | ⟨_, _, r3, _⟩
      · exact absurd hp'' hnot0
      · exact r3
    · rw [q1, durable_entries hm.nwf]; exact List.take_prefix _ _
  rw [← ht]
  exact lastTerm_ext hes hpre (by rw [hlog0]; exact hg)

/-- summary of a step that went through a leader handler (or `leader.init`): `b0` is the state the handler
started from (related to the start `b` of the step by `SX`), `m` its result, and the step ended in `m` or
stepped down from it -/
theorem nstep_li {b b0 m post : Node} {A : Nat → Nat → Prop} {B B0 : Nat → Nat → Prop} {K0 : Prop}
    (hbtr : b.trace = []) (hbn : NWF b) (hbl : C06.LogWF b.log) (h0 : SX b A K0 b0) (hb0 : LBase b0 B0)
    (hm : LI b0 B0 m)
    (hpost : post = m ∨ (post.role = .follower ∧ SX m AF False post))
    (hB0 : ∀ j k, B0 j k → b.role = .leader ∧ b0.term = b.term ∧ B j k)
    (hsrc : (b.role = .leader ∧ b0.term = b.term) ∨ post = m)
    (hlast : b0.ldr.startIndex ≤ m.log.entries.length)
    (hld : post = m → LeadOK B0 m → (b.role = .leader ∧ post.term = b.term ∧ LeadOK B post) ∨ LeadOK AF post) :
    NStep b A B post := by
  have hlog0 := sx_log h0
  have hwfm := li_wf hb0 hm
  -- the end of the step has the log, commit index and configuration of `m`
  have hpm : SX m AF False post := by
    rcases hpost with e | ⟨_, e⟩
    · rw [e]; exact sx_refl m AF False hwfm
    · exact e
  have hlogp := sx_log hpm
  obtain ⟨es, he, hes⟩ := hm.ext
  obtain ⟨n1, n2, n3, n4⟩ := nstep_lc hbtr hbn hbl h0 hb0.wf hm.toLC hpm
  have hgrow : b.log.entries.length < post.log.entries.length →
      (b.role = .leader ∧ lastTerm post.log.entries = b.term) ∨ post.role = .leader := by
    intro hg
    rcases hsrc with a | a
    · left
      refine ⟨a.1, ?_⟩
      rw [hlogp, he] at hg ⊢
      rw [← hlog0] at hg
      exact (lastTerm_ext hes (List.prefix_refl _) hg).trans a.2
    · right; rw [a]; exact hm.role
  have htg : ∀ p ∈ post.trace, b.log.entries.length < p.2.log.entries.length →
      (p.2.term = post.term ∧ p.2.vote = post.votedFor) ∨
      (b.role = .leader ∧ lastTerm p.2.log.entries = b.term) := by
    intro p hp hg
    rcases hsrc with ⟨a, a'⟩ | a
    · exact Or.inr ⟨a, nstep_lc_grow hbtr hbn hbl h0 hm.toLC hpm a' hp hg⟩
    · -- elected in this step: the step ends in `m`, and the crash point is one of the leader handler
      left
      rw [a] at hp ⊢
      rcases hm.tr p hp with hp'' | ⟨_, _, _, _, r5, r6, _⟩
      · have := (sx_trace hbtr hbn hbl h0 hp'').2
        omega
      · rw [r5, r6, hm.term, hm.vote.1]
        exact ⟨hb0.wf.1, hb0.wf.2⟩
  refine ⟨n1, n2, n3, n4, by rw [hpm.cfg, hm.cfg, h0.cfg], ?_, ?_, hgrow, htg⟩
  · -- commit index
    have hci : post.commitIndex = m.commitIndex := hpm.ci
    rcases hm.ci with c | c
    · exact Or.inl (hci.trans (c.trans h0.ci))
    · right
      obtain ⟨c1, c2, c3, c4, Q, q1, q2, q3, q4⟩ := c
      refine ⟨b0.term, ?_, ?_, by rw [hlogp, hci]; exact c4, ?_, Q, q1, ?_, ?_, ?_⟩
      · rw [← h0.ci, hci]; exact c1
      · rw [hlogp, hci]
        have h1 := hb0.start
        exact ⟨by omega, c3, lc_own hm.toLC hb0.own _ c2 c3⟩
      · rcases hsrc with ⟨a, a'⟩ | a
        · refine Or.inl ⟨a, a', by rw [← hm.term]; exact hpm.pair.1, ?_⟩
          rcases hpm.pair.2 with p0 | ⟨p1, _⟩ | p2
          · exact Or.inr p0
          · exact Or.inl (by rw [p1, hm.term]; exact a')
          · exact p2.elim
        · exact Or.inr ⟨by rw [a]; exact hm.role, by rw [a]; exact hm.term.symm⟩
      · intro j hj; rw [← h0.cfg]; exact q2 j hj
      · rw [← h0.cfg]; exact q3
      · intro j hj
        rw [hci]
        rcases q4 j hj with e | ⟨k, hk, hB⟩
        · exact Or.inl (e.trans h0.nid)
        · obtain ⟨a1, a2, a3⟩ := hB0 j k hB
          exact Or.inr ⟨a1, a2, k, hk, a3⟩
  · intro hl
    rcases hpost with e | ⟨hf, _⟩
    · exact hld e (lc_leadOK hm.toLC hb0.start hb0.own (by rw [hm.cache.1, hm.cfg]; exact hb0.numVoters) hlast)
    · rw [hf] at hl; cases hl

/-- The operations of the `_partial` model other than append requests: no snapshot / compaction operation
(`LogRel.OpOK`), no configuration change request, no configuration entry in a client batch. -/
def OpOK2 (op : Op) : Prop :=
  OpOK op ∧ (∀ b, op = .newEntries b → NoCfg b) ∧ (∀ t c, op ≠ .changeConfig t c)

/-- the new non-zero votes a step handling `op` can make durable: the vote a vote request asks for (after the
up-to-date check), or the self vote of an election started in the step -/
def AOp (b : Node) (op : Op) (t c : Nat) : Prop :=
  (∃ q, op = .vote q ∧ AVote b q t c) ∨ ASelf b t c

theorem aop_self (b : Node) (op : Op) : ∀ t c, ASelf b t c → AOp b op t c := fun _ _ h => Or.inr h

theorem sx_quiet (b : Node) (op : Op) (K : Prop) : QuietClosed op (SX b (AOp b op) K) :=
  sx_quiet' b op K (aop_self b op) (fun q e _ _ h => Or.inl ⟨q, e, h⟩)

/-- **every case of `handle`** (append requests excepted): either nothing but role / leader id / (term, vote) /
replies moved (`SX`), or the node is a leader and ran a leader handler (`PostF (LI b B)`). -/
theorem handle_cls (b : Node) (op : Op) (B : Nat → Nat → Prop) (hwf : C05.VoteWF b) (hok : OpOK2 op)
    (happ : ∀ q, op ≠ .append q)
    (hld : b.role = .leader → LBase b B ∧ ∀ r ∈ b.ldr.repls, r.matchIndex = 0 ∨ B r.id r.matchIndex)
    (hupd : ∀ us, op = .replUpdates us → ∀ u ∈ us, ∀ v, u.upd = .matchIndex v → v = 0 ∨ B u.id v) :
    SX b (AOp b op) True (b.handle op) ∨ (b.role = .leader ∧ PostF (LI b B) (b.handle op)) := by
  obtain ⟨hok1, hok2, hok3⟩ := hok
  cases handle_kind b op with
  | quiet q => exact Or.inl (q _ (sx_quiet b op True) (sx_refl b _ _ hwf))
  | ldr hr c =>
    have W : ∀ x, LI b B x → C05.VoteWF x := fun x hx => li_wf (hld hr).1 hx
    have L := li_closed b B (hld hr).1
    have hC := L.stableOr (hld hr).1.stable
    have H0 := li_refl (hld hr).1 (hld hr).2
    refine Or.inr ⟨hr, ?_⟩
    generalize b.handle op = h at c ⊢
    cases c with
    | store batch => exact Or.inl (L.toC.storeEntry_c hC _ _ _ H0 (Or.inl (hok2 batch rfl)))
    | change t c => exact absurd rfl (hok3 t c)
    | wait t => exact Or.inl (L.toC.onWaitForStable_c _ _ H0)
    | transfer t g => exact Or.inl (L.toC.onTransfer_c _ _ _ H0)
    | transferTimeout _ => exact Or.inl (L.toC.replyTransfer_c hC _ _ H0)
    | timeoutNowResult a c d _ => exact Or.inl (L.toC.onTimeoutNowResult_c hC _ _ _ _ H0)
    | newTermTimeout _ => exact Or.inl (L.toC.tryTransfer_c _ (L.toC.ldrSame_c _ _ H0 rfl rfl rfl rfl))
    | repl us => exact L.checkReplUpdates_p (hld hr).1.stable W us hok1 (hupd us rfl) _ H0
  | special sp =>
    cases sp with
    | append q => exact absurd rfl (happ q)
    | bootstrap t c _ _ => exact absurd rfl (hok3 t c)
    | _ => exact hok1.elim

theorem leadOK_of_sx {b s : Node} {A : Nat → Nat → Prop} {B : Nat → Nat → Prop} (h : SX b A True s)
    (ht : s.term = b.term) (hb : LeadOK B b) : LeadOK B s := by
  have hl := h.ldr trivial
  have hlog := sx_log h
  obtain ⟨l1, l2⟩ := sx_lastLog h
  exact ⟨by rw [hl, h.cfg]; exact hb.numVoters, by rw [hl]; exact hb.start,
    by rw [hl, hlog, ht]; exact hb.own, by rw [hl]; exact hb.mi, by rw [hl, hlog]; exact hb.startLe,
    by rw [l2, ht]; exact hb.lastT⟩

theorem initHyp_of_sx {b x : Node} {A : Nat → Nat → Prop} {K : Prop} (hbn : NWF b) (hbl : C06.LogWF b.log)
    (h : SX b A K x) (hr : x.role = .leader) (hstable : b.configs.latest.isStable = true)
    (hv : b.configs.latest.isVoter b.nid = true) (hnodup : b.configs.latest.voters.Nodup) : InitHyp x := by
  have e := h.core
  unfold LCore at e
  simp only [Prod.mk.injEq] at e
  obtain ⟨e1, e2, e3, e4, e5⟩ := e
  exact ⟨nwf_congr hbn e1 e2 e3 e4 e5, by rw [e1]; exact hbl, h.wf, hr, by rw [h.cfg]; exact hstable,
    by rw [h.cfg, h.nid]; exact hv, by rw [h.cfg]; exact hnodup⟩

theorem sx_initBase {b x : Node} {A : Nat → Nat → Prop} {K : Prop} (h : SX b A K x) : SX b A False (initBase x) := by
  unfold initBase
  exact sx_withLdr _ (sx_assert _ _ h.weaken)

/-- the step ends with `leader.init` of `x` (and possibly the release that follows a step down inside it,
which cannot happen here) -/
theorem nstep_init {b x post : Node} {A : Nat → Nat → Prop} {B : Nat → Nat → Prop} {K : Prop}
    (hbtr : b.trace = []) (hbn : NWF b) (hbl : C06.LogWF b.log) (h : SX b A K x) (hr : x.role = .leader)
    (hstable : b.configs.latest.isStable = true) (hv : b.configs.latest.isVoter b.nid = true)
    (hnodup : b.configs.latest.voters.Nodup)
    (hpost : InitTail x post) : NStep b A B post := by
  have hx := initHyp_of_sx hbn hbl h hr hstable hv hnodup
  obtain ⟨hli, hlen⟩ := leaderInit_li hx
  have hb0 := initBase_base hx
  have hpe : post = x.leaderInit := by
    rcases hpost with ⟨_, e⟩ | ⟨r, _⟩
    · exact e
    · rw [hli.role] at r; cases r
  exact nstep_li hbtr hbn hbl (sx_initBase h) hb0 hli (Or.inl hpe) (fun j k hB => hB.elim) (Or.inr hpe)
    (by rw [initBase_ldr]; show x.lastLogIndex + 1 ≤ _; rw [hx.nwf.last]; exact hlen)
    (fun _ hl => Or.inr (by rw [hpe]; exact hl))

/-- **One step of a node that is not an append request** (and none of the operations excluded by `OpOK2`),
from a well-formed state with a stable latest configuration: see `NStep`. `B` backs the match indexes of the
leader's table before the step and the match-index reports delivered in the step. -/
theorem nstep (pre : Node) (op : Op) (ra : List Nat) (ord : List (List Nat)) (B : Nat → Nat → Prop)
    (hn : NWF pre) (hl : C06.LogWF pre.log) (hwf : C05.VoteWF pre)
    (hstable : pre.configs.latest.isStable = true) (hnodup : pre.configs.latest.voters.Nodup)
    (hok : OpOK2 op) (happ : ∀ q, op ≠ .append q) (hc : pre.role = .candidate → pre.term ≠ 0)
    (hrv : pre.role ≠ .follower → pre.configs.latest.isVoter pre.nid = true)
    (hld : pre.role = .leader → LeadOK B pre ∧ ∀ j m, B j m → m ≤ pre.log.entries.length)
    (hupd : ∀ us, op = .replUpdates us → ∀ u ∈ us, ∀ v, u.upd = .matchIndex v → v = 0 ∨ B u.id v) :
    NStep pre (AOp pre op) B (pre.step op ra ord) := by
  have hbn : NWF (pre.begin ra ord) := nwf_congr hn rfl rfl rfl rfl rfl
  have hbwf : C05.VoteWF (pre.begin ra ord) := hwf
  have hbase : (pre.begin ra ord).role = .leader → LBase (pre.begin ra ord) B ∧
      ∀ r ∈ (pre.begin ra ord).ldr.repls, r.matchIndex = 0 ∨ B r.id r.matchIndex := by
    intro hr
    obtain ⟨lo, hB⟩ := hld hr
    exact ⟨⟨hbn, hl, hbwf, hr, hstable, hrv (by rw [show pre.role = .leader from hr]; decide), hnodup, lo.numVoters,
      lo.start, lo.own, hB⟩, lo.mi⟩
  have cls := handle_cls (pre.begin ra ord) op B hbwf hok happ hbase hupd
  have p := step_path (pre.begin ra ord) op hc
  rw [← step_settle pre op ra ord (fun e => by subst e; exact hok.1)] at p
  suffices hs : NStep (pre.begin ra ord) (AOp (pre.begin ra ord) op) B (pre.step op ra ord) by
    refine ⟨hs.lwf, hs.flush, hs.pair, hs.tr, hs.cfg, ?_, hs.ldr, hs.grow, hs.trgrow⟩
    rcases hs.ci with c | ⟨T, c⟩
    · exact Or.inl c
    · exact Or.inr ⟨T, c.adv, c.holds, c.flushed, c.src, c.maj⟩
  have hbtr : (pre.begin ra ord).trace = [] := rfl
  have hbl : C06.LogWF (pre.begin ra ord).log := hl
  have hst : (pre.begin ra ord).configs.latest.isStable = true := hstable
  have hnd : (pre.begin ra ord).configs.latest.voters.Nodup := hnodup
  have hrv' : (pre.begin ra ord).role ≠ .follower →
      (pre.begin ra ord).configs.latest.isVoter (pre.begin ra ord).nid = true := hrv
  have hldb : (pre.begin ra ord).role = .leader → LeadOK B (pre.begin ra ord) := fun hr =>
    ⟨(hld hr).1.numVoters, (hld hr).1.start, (hld hr).1.own, (hld hr).1.mi, (hld hr).1.startLe, (hld hr).1.lastT⟩
  generalize pre.step op ra ord = post at *
  generalize pre.begin ra ord = b at *
  generalize b.handle op = h at *
  have k := SameKey.releaseRole h b.role
  rcases cls with hsx | ⟨hr, hp⟩
  · -- a quiet handler, then any of the six paths
    have init : ∀ x, SX b (AOp b op) False x → x.role = .leader → b.configs.latest.isVoter b.nid = true →
        InitTail x post → NStep b (AOp b op) B post := fun x hxs hxr hv tl =>
      nstep_init hbtr hbn hbl hxs hxr hst hv hnd tl
    cases p with
    | stay e hrole hrel =>
      subst e
      refine nstep_sx hbtr hbn hbl hsx (fun hlead => Or.inl ?_)
      have ht := hrel.leader_term hrole hlead
      exact ⟨hrole ▸ hlead, ht, leadOK_of_sx hsx ht (hldb (hrole ▸ hlead))⟩
    | down hf _ e =>
      subst e
      exact nstep_sx hbtr hbn hbl (sx_releaseRole _ hsx) fun hlead => by rw [k.role, hf] at hlead; cases hlead
    | elect pd e hpc =>
      subst e
      exact nstep_sx hbtr hbn hbl (sx_startElection (aop_self b op) (sx_releaseRole _ hsx))
        fun hlead => by rw [hpc] at hlead; cases hlead
    | electWon x pd rl ex tl =>
      subst ex
      exact init _ (sx_releaseRole _ (sx_startElection (aop_self b op) (sx_releaseRole _ hsx)))
        ((SameKey.releaseRole _ _).role.trans rl) (by have := pd.voter; rwa [hsx.cfg, hsx.nid] at this) tl
    | won x c _ _ r ex tl =>
      subst ex
      exact init _ (sx_releaseRole _ hsx) (k.role.trans r) (hrv' (by rw [c.1]; decide)) tl
    | reelectWon x c _ r ex tl =>
      subst ex
      exact init _ (sx_releaseRole _ hsx) (k.role.trans r) (hrv' (by rw [c]; decide)) tl
  · -- a leader's handler: the step ends with its result, or with the release after a step down
    obtain ⟨hb0, _⟩ := hbase hr
    have hh : h.role = .leader ∨ h.role = .follower := hp.imp (fun hi => hi.role) (fun hf => hf.1)
    have hlen : ∀ x, LI b B x → b.ldr.startIndex ≤ x.log.entries.length := fun x hx => by
      obtain ⟨es, he, _⟩ := hx.ext; rw [he, List.length_append]; have := (hldb hr).startLe; omega
    rcases p.of_leader hr hh with ⟨e, hrole⟩ | ⟨hf, e⟩
    · subst e
      rcases hp with hi | ⟨hf, _⟩
      · exact nstep_li hbtr hbn hbl (sx_refl b _ True hbwf) hb0 hi (Or.inl rfl) (fun j k hB => ⟨hr, rfl, hB⟩)
          (Or.inl ⟨hr, rfl⟩) (hlen _ hi) (fun _ hlo => Or.inl ⟨hr, hi.term, hlo⟩)
      · rw [hrole, hr] at hf; cases hf
    · subst e
      rcases hp with hi | ⟨_, x, hx, hsx⟩
      · rw [hi.role] at hf; cases hf
      · exact nstep_li hbtr hbn hbl (sx_refl b _ True hbwf) hb0 hx
          (Or.inr ⟨by rw [k.role]; exact hf, sx_releaseRole _ hsx⟩) (fun j k hB => ⟨hr, rfl, hB⟩) (Or.inl ⟨hr, rfl⟩)
          (hlen _ hx) (fun e' _ => by have := hx.role; rw [← e', k.role, hf] at this; cases this)

/-- the request does not conflict with the log `b` held at any index up to `k` -/
def NoConf (b : Node) (q : AppendReq) (k : Nat) : Prop :=
  ∀ e ∈ q.entries, e.index ≤ k → termAt b.log.entries e.index = e.term

/-- a disk content recorded at a crash point while an append request is handled -/
structure PtF (b : Node) (q : AppendReq) (d : Durable) : Prop where
  snaps : d.snaps = []
  prev : d.log.prev = 0
  keep : ∀ k, k ≤ b.log.flushed → k ≤ b.log.entries.length → NoConf b q k →
    d.log.entries.take k = b.log.entries.take k ∧ k ≤ d.log.entries.length
  src : ∀ e ∈ d.log.entries, e ∈ b.log.entries ∨ e ∈ q.entries
  pair : PairOK b AF d.term d.vote
  term : b.term ≤ q.term → d.term = q.term
  segs : DW d

/-- Relative to `b` (the state the handler of the append request `q` starts from). -/
structure FX (b : Node) (q : AppendReq) (s : Node) : Prop where
  nwf : NWF s
  lwf : C06.LogWF s.log
  keep : ∀ k, k ≤ b.log.entries.length → NoConf b q k →
    s.log.entries.take k = b.log.entries.take k ∧ (k ≤ b.log.flushed → k ≤ s.log.flushed)
  src : ∀ e ∈ s.log.entries, e ∈ b.log.entries ∨ e ∈ q.entries
  wf : C05.VoteWF s
  pair : PairOK b AF s.term s.votedFor
  tr : ∀ p ∈ s.trace, p ∈ b.trace ∨ PtF b q p.2

def fobs (s : Node) : (NLog × Nat × Nat × Nat × List SnapFile × Nat × Nat × List (String × Durable)) × Nat × Nat :=
  (Core s, s.votedFor, s.durVote)

theorem fx_congr {b s s' : Node} {q : AppendReq} (h : FX b q s) (e : fobs s' = fobs s) : FX b q s' := by
  unfold fobs Core at e
  simp only [Prod.mk.injEq] at e
  obtain ⟨⟨e1, e2, e3, e4, e5, e6, e7, e8⟩, f1, f2⟩ := e
  obtain ⟨a1, a2, a3, a4, a5, a6, a7⟩ := h
  refine ⟨nwf_congr a1 e1 e2 e3 e4 e5, by rw [e1]; exact a2, by rw [e1]; exact a3, by rw [e1]; exact a4, ?_, ?_, ?_⟩
  · unfold C05.VoteWF at *; rw [e7, e6, f2, f1]; exact a5
  · rw [e6, f1]; exact a6
  · rw [e8]; exact a7

theorem fx_core {b s s' : Node} {q : AppendReq} (h : FX b q s) (e : Core s' = Core s)
    (e1 : s'.votedFor = s.votedFor) (e2 : s'.durVote = s.durVote) : FX b q s' :=
  fx_congr h (by unfold fobs; rw [e, e1, e2])

theorem fx_refl (b : Node) (q : AppendReq) (hn : NWF b) (hl : C06.LogWF b.log) (hwf : C05.VoteWF b) : FX b q b :=
  ⟨hn, hl, fun _ _ _ => ⟨rfl, fun h => h⟩, fun _ he => Or.inl he, hwf, ⟨Nat.le_refl _, Or.inr (Or.inl ⟨rfl, rfl⟩)⟩,
    fun _ hp => Or.inl hp⟩

theorem fx_assert {b s : Node} {q : AppendReq} (c : Bool) (site : String) (h : FX b q s) :
    FX b q (s.assert c site) :=
  assert_of (fun _ _ h => fx_congr h (by rw [panic_shape]; rfl)) s c site h

theorem termAt_of_take_eq {a b : List Entry} {k i : Nat} (h : a.take k = b.take k) (hi : i ≤ k) :
    termAt a i = termAt b i := by
  rw [← termAt_take a k i hi, ← termAt_take b k i hi, h]

/-- what `resolveConflict` leaves when the entry `ne` (index `n + 1`, `n` anchored in the log) is not present
with the same term: the first `n` entries, flushed at least as far as before within them, and — if it had to
truncate — one more crash point -/
structure Cut (b : Node) (q : AppendReq) (s : Node) (n : Nat) (x : Node) : Prop where
  prev : x.log.prev = 0
  entries : x.log.entries = s.log.entries.take n
  lwf : C06.LogWF x.log
  keep : ∀ k, k ≤ b.log.entries.length → NoConf b q k → k ≤ n ∧ (k ≤ b.log.flushed → k ≤ x.log.flushed)
  last : x.lastLogIndex = n
  snapIndex : x.snapIndex = 0
  snaps : x.snapsDisk = []
  tv : x.term = s.term ∧ x.votedFor = s.votedFor ∧ x.durTerm = s.durTerm ∧ x.durVote = s.durVote
  tr : ∀ p ∈ x.trace, p ∈ b.trace ∨ PtF b q p.2

theorem holds_of_take_eq {a b : List Entry} {k i τ : Nat} (h : a.take k = b.take k) (hb : Holds b i τ)
    (hi : i ≤ k) : Holds a i τ := by
  obtain ⟨h1, h2, h3⟩ := hb
  have hl : i ≤ a.length := by
    have := congrArg List.length h
    simp only [List.length_take] at this
    omega
  exact ⟨h1, hl, by rw [termAt_of_take_eq h hi]; exact h3⟩

theorem fobs_panic (s : Node) (site : String) : fobs (s.panic site) = fobs s := by rw [panic_shape]; rfl

theorem fobs_ret (s : Node) (r : Nat) : fobs (s.ret r) = fobs s := rfl

theorem fsmFrame_fobs : FsmFrame fobs where
  panic := fobs_panic
  reply := fun s t r => by rw [reply_shape]; rfl
  fsm := fun _ _ => rfl

theorem fobs_setCommitIndexR (s : Node) (i : Nat) : fobs (s.setCommitIndexR i).1 = fobs s := by
  rw [setCommitIndexR_shape]; rfl

theorem fobs_commitApply (s : Node) (i : Nat) : fobs (s.setCommitIndexR i).1.applyCommitted = fobs s := by
  rw [fsmFrame_fobs.applyCommitted_eq, fobs_setCommitIndexR]

theorem fobs_log {s s' : Node} (e : fobs s' = fobs s) : s'.log = s.log ∧ s'.term = s.term ∧ s'.trace = s.trace := by
  unfold fobs Core at e
  simp only [Prod.mk.injEq] at e
  exact ⟨e.1.1, e.1.2.2.2.2.2.1, e.1.2.2.2.2.2.2.2⟩

/-- the consistency check: log, (term, vote) and crash points untouched; the result is 0 (continue),
"previous entry not found" or "previous term mismatch" -/
theorem appendCheck_fobs (s : Node) (q : AppendReq) :
    fobs (s.appendCheck q) = fobs s ∧
    ((s.appendCheck q).result = 0 ∨ (s.appendCheck q).result = rPrevEntryNotFound ∨
      (s.appendCheck q).result = rPrevTermMismatch) := by
  have hx : ∀ {x}, Looked s q x → fobs x = fobs s := fun hl => by
    rcases hl.eq with rfl | rfl
    · rfl
    · exact fobs_panic _ _
  exact appendCheck_cases s q
    (P := fun y => fobs y = fobs s ∧ (y.result = 0 ∨ y.result = rPrevEntryNotFound ∨ y.result = rPrevTermMismatch))
    (fun x r hl ha => ⟨(fobs_ret _ _).trans (hx hl), ha.result⟩)
    fun x hl _ _ _ _ => ⟨(fobs_ret _ _).trans ((fobs_commitApply x q.prevLogIndex).trans (hx hl)), Or.inl rfl⟩

section follower
open FollowerSpec

/-- entry `k` of the request is not held: an index beyond `prevLogIndex + k` is not free of conflict -/
theorem noConf_le {b : Node} {q : AppendReq}
    (hidx : ∀ k (h : k < q.entries.length), q.entries[k].index = q.prevLogIndex + k + 1) {k : Nat}
    (hk : k < q.entries.length) (hna : ¬ Agree b.log.entries (q.prevLogIndex + k + 1) q.entries[k]) {n : Nat}
    (hn : n ≤ b.log.entries.length) (hnc : NoConf b q n) : n ≤ q.prevLogIndex + k := by
  apply Nat.le_of_not_lt
  intro hlt
  have := hnc q.entries[k] (List.getElem_mem hk) (by rw [hidx k hk]; omega)
  rw [hidx k hk] at this
  exact hna ⟨by omega, this⟩

/-- a disk content whose log holds the first `f` entries of `L` -/
theorem ptF_mk {b : Node} {q : AppendReq} {d : Durable} (L : List Entry) (f : Nat) (hs : d.snaps = [])
    (hp : d.log.prev = 0) (he : d.log.entries = L.take f) (hf : f ≤ L.length)
    (keep : ∀ n, n ≤ b.log.flushed → n ≤ b.log.entries.length → NoConf b q n →
      L.take n = b.log.entries.take n ∧ n ≤ f)
    (src : ∀ e ∈ L, e ∈ b.log.entries ∨ e ∈ q.entries) (pair : PairOK b AF d.term d.vote)
    (term : b.term ≤ q.term → d.term = q.term) (dw : DW d) : PtF b q d := by
  refine ⟨hs, hp, fun n h1 h2 h3 => ?_, fun e h => src e (List.mem_of_mem_take (he ▸ h)), pair, term, dw⟩
  obtain ⟨k1, k2⟩ := keep n h1 h2 h3
  rw [he, List.take_take, Nat.min_eq_left k2, List.length_take]
  exact ⟨k1, by omega⟩

theorem tvAfter_facts {b r : Node} {q : AppendReq} (hwf : C05.VoteWF b) (hge : b.term ≤ q.term)
    (h : tv r = tvAfter b q) :
    r.term = q.term ∧ C05.VoteWF r ∧ PairOK b AF r.term r.votedFor ∧
    PairOK b AF (tvAfter b q).2.2.1 (tvAfter b q).2.2.2 ∧ (tvAfter b q).2.2.1 = q.term := by
  unfold tv tvAfter at h
  unfold tvAfter
  by_cases hgt : q.term > b.term
  · rw [if_pos hgt] at h ⊢
    simp only [Prod.mk.injEq] at h
    obtain ⟨h1, h2, h3, h4⟩ := h
    exact ⟨h1, ⟨h3.trans h1.symm, h4.trans h2.symm⟩, by rw [h1, h2]; exact ⟨hge, Or.inl rfl⟩, ⟨hge, Or.inl rfl⟩, rfl⟩
  · rw [if_neg hgt] at h ⊢
    unfold tv at h ⊢
    simp only [Prod.mk.injEq] at h
    obtain ⟨h1, h2, h3, h4⟩ := h
    have e : b.term = q.term := by omega
    refine ⟨h1.trans e, ⟨by rw [h3, h1]; exact hwf.1, by rw [h4, h2]; exact hwf.2⟩, ?_, ?_, hwf.1.trans e⟩
    · rw [h1, h2]; exact ⟨Nat.le_refl _, Or.inr (Or.inl ⟨rfl, rfl⟩)⟩
    · show PairOK b AF b.durTerm b.durVote
      rw [hwf.1, hwf.2]; exact ⟨Nat.le_refl _, Or.inr (Or.inl ⟨rfl, rfl⟩)⟩

theorem ptF_termImage {b : Node} {q : AppendReq} (hn : NWF b) (hl : C06.LogWF b.log) (hge : b.term ≤ q.term) :
    ∀ p ∈ termImage b q, PtF b q p.2 := by
  intro p hp
  unfold termImage at hp
  split at hp
  · rw [List.mem_singleton.mp hp]
    have hfl : b.log.flushed ≤ b.log.entries.length := by
      have := hl.2; unfold NLog.last at this; rw [hn.prev] at this; omega
    exact ptF_mk b.log.entries b.log.flushed hn.snaps hn.prev (durable_entries hn) hfl (fun n h1 _ _ => ⟨rfl, h1⟩)
      (fun e he => Or.inl he) ⟨hge, Or.inl rfl⟩ (fun _ => rfl) (durable_dw b hn.prev hl)
  · cases hp

theorem ptF_cutImage {b : Node} {q : AppendReq} (hn : NWF b)
    (hidx : ∀ k (h : k < q.entries.length), q.entries[k].index = q.prevLogIndex + k + 1) {k : Nat}
    (hk : k < q.entries.length) (hna : ¬ Agree b.log.entries (q.prevLogIndex + k + 1) q.entries[k])
    (hlt : q.prevLogIndex + k < b.log.entries.length)
    (pair : PairOK b AF (tvAfter b q).2.2.1 (tvAfter b q).2.2.2) (term : (tvAfter b q).2.2.1 = q.term) :
    PtF b q (cutImageOf b q (q.prevLogIndex + k)).2 := by
  obtain ⟨w, fl, pr, en⟩ := logwf_removeGTE b.log (q.prevLogIndex + k + 1) hn.prev (by omega) (by omega)
  refine ptF_mk (b.log.entries.take (q.prevLogIndex + k)) (q.prevLogIndex + k) hn.snaps pr ?_ ?_
    (fun n _ h2 h3 => ?_) (fun e he => Or.inl (List.mem_of_mem_take he)) pair (fun _ => term) (durable_dw_log _ pr w)
  · show ((b.log.removeGTE (q.prevLogIndex + k + 1)).entries.take
      ((b.log.removeGTE (q.prevLogIndex + k + 1)).flushed - (b.log.removeGTE (q.prevLogIndex + k + 1)).prev)) = _
    rw [fl, pr, en, Nat.add_sub_cancel, Nat.sub_zero]
  · rw [List.length_take]; omega
  · have := noConf_le hidx hk hna h2 h3
    exact ⟨by rw [List.take_take, Nat.min_eq_left this], this⟩

/-- entry `j` of the request among the `m` entries stored from entry `k` on, on top of `c` entries -/
theorem holds_stored {A es : List Entry} {k m c : Nat} (hA : A.length = c) (hkm : k + m ≤ es.length) {j : Nat}
    (h1 : k ≤ j) (h2 : j < k + m) (hj : j < es.length) :
    Holds (A ++ (es.drop k).take m) (c + (j - k) + 1) es[j].term := by
  have hlen : ((es.drop k).take m).length = m := by rw [List.length_take, List.length_drop]; omega
  refine ⟨by omega, by rw [List.length_append, hlen, hA]; omega, ?_⟩
  unfold termAt
  rw [if_neg (by omega), List.getElem?_append_right (by omega), List.getElem?_take_of_lt (by omega),
    List.getElem?_drop]
  have e : k + (c + (j - k) + 1 - 1 - A.length) = j := by omega
  rw [e, List.getElem?_eq_getElem hj]
  rfl

/-- what handling the append request `q` in state `b` gives (handler level) -/
structure FRes (b : Node) (q : AppendReq) (r : Node) : Prop where
  fx : FX b q r
  term : ¬ q.term < b.term → r.term = q.term
  dirty : r.log = b.log ∨ r.log.flushed = r.log.entries.length
  ack : r.result = rSuccess → ¬ q.term < b.term ∧ (∀ e ∈ q.entries, Holds r.log.entries e.index e.term) ∧
    (1 ≤ q.prevLogIndex → Holds r.log.entries q.prevLogIndex q.prevLogTerm) ∧
    q.prevLogIndex + q.entries.length ≤ r.log.entries.length
  ci : r.commitIndex = b.commitIndex ∨
    (b.commitIndex < r.commitIndex ∧ r.commitIndex ≤ q.ldrCommitIndex ∧ ¬ q.term < b.term ∧
      Holds r.log.entries r.commitIndex q.term ∧
      ((r.commitIndex = q.prevLogIndex ∧ q.prevLogTerm = q.term) ∨
        ∃ e ∈ q.entries, e.index = r.commitIndex ∧ e.term = q.term))

/-- **`onAppendEntriesRequest`**, for a request whose entries carry the indexes `prevLogIndex + 1, …` -/
theorem onAppendEntries_fres (b : Node) (q : AppendReq) (hn : NWF b) (hl : C06.LogWF b.log)
    (hwf : C05.VoteWF b)
    (hidx : ∀ k (h : k < q.entries.length), q.entries[k].index = q.prevLogIndex + k + 1) :
    FRes b q (b.onAppendEntries q) := by
  by_cases hst : q.term < b.term
  · rw [C04.stale_append_refused b q hst]
    exact ⟨fx_congr (fx_refl b q hn hl hwf) rfl, fun h => absurd hst h, Or.inl rfl,
      fun h => absurd h (by show rStaleTerm ≠ rSuccess; decide), Or.inl rfl⟩
  have hge : b.term ≤ q.term := Nat.le_of_not_lt hst
  obtain ⟨rn, rl', rtv, hcases⟩ := onAppendEntries_spec b q hn hidx hst
  have rl := rl' hl
  obtain ⟨rt, rwf, rpair, dpair, dterm⟩ := tvAfter_facts hwf hge rtv
  have rule := C02.follower_commit_rule b q
  generalize b.onAppendEntries q = r at *
  have rfl' : r.log.flushed ≤ r.log.entries.length := by
    have := rl.2; unfold NLog.last at this; rw [rn.prev] at this; omega
  -- the disk at the final flush, from what the log keeps
  have img : (∀ n, n ≤ b.log.entries.length → NoConf b q n →
        r.log.entries.take n = b.log.entries.take n ∧ (n ≤ b.log.flushed → n ≤ r.log.flushed)) →
      (∀ e ∈ r.log.entries, e ∈ b.log.entries ∨ e ∈ q.entries) → PtF b q r.durable := fun keep src =>
    ptF_mk r.log.entries r.log.flushed rn.snaps rn.prev (durable_entries rn) rfl'
      (fun n h1 h2 h3 => ⟨(keep n h2 h3).1, (keep n h2 h3).2 h1⟩) src
      (by show PairOK b AF r.durTerm r.durVote; rw [rwf.1, rwf.2]; exact rpair)
      (fun _ => by show r.durTerm = _; rw [rwf.1]; exact rt) (durable_dw r rn.prev rl)
  have untouched : Untouched b q r → FX b q r := fun u =>
    ⟨rn, rl, fun n _ _ => by rw [u.log]; exact ⟨rfl, id⟩, fun e he => Or.inl (u.log ▸ he), rwf, rpair, fun p hp => by
      rw [u.trace] at hp
      exact (List.mem_append.mp hp).imp id (ptF_termImage hn hl hge p)⟩
  have pos : b.commitIndex < r.commitIndex → 1 ≤ r.commitIndex := fun h => by omega
  rcases hcases with ⟨hres, u, uci⟩ | ⟨hp, hpt, k, hk, hag, hc⟩
  · refine ⟨untouched u, fun _ => rt, Or.inl u.log, fun h => ?_, Or.inl uci⟩
    rcases hres with e | e <;> rw [e] at h <;> exact absurd h (by decide)
  have hprev : 1 ≤ q.prevLogIndex → Holds b.log.entries q.prevLogIndex q.prevLogTerm := fun h1 => ⟨h1, hp, hpt h1⟩
  have held : ∀ j (h : j < q.entries.length), j < k → Holds b.log.entries q.entries[j].index q.entries[j].term :=
    fun j h hj => by rw [hidx j h]; exact ⟨by omega, (hag j h hj).1, (hag j h hj).2⟩
  have hpk : q.prevLogIndex + k ≤ b.log.entries.length := by
    cases k with
    | zero => exact hp
    | succ k' => have := (hag k' (by omega) (Nat.lt_succ_self _)).1; omega
  rcases hc with ⟨hkall, hsucc, u⟩ | ⟨hklt, hna, m, sf⟩
  · refine ⟨untouched u, fun _ => rt, Or.inl u.log, fun _ => ⟨hst, fun e he => ?_, ?_, ?_⟩, ?_⟩
    · obtain ⟨j, hj, rfl⟩ := List.getElem_of_mem he
      rw [u.log]; exact held j hj (by omega)
    · rw [u.log]; exact hprev
    · rw [u.log, ← hkall]; exact hpk
    · rcases rule with c | ⟨a1, a2, _, a4⟩
      · exact Or.inl c
      · refine Or.inr ⟨a1, a2, hst, ?_, a4⟩
        rw [u.log]
        rcases a4 with ⟨e1, e2⟩ | ⟨e, he, e1, e2⟩
        · rw [e1, ← e2]; exact hprev (e1 ▸ pos a1)
        · obtain ⟨j, hj, rfl⟩ := List.getElem_of_mem he
          rw [← e1, ← e2]; exact held j hj (by omega)
  · -- entries `k … k + m - 1` were stored on top of the first `prevLogIndex + k`
    have hA : (b.log.entries.take (q.prevLogIndex + k)).length = q.prevLogIndex + k := by rw [List.length_take]; omega
    have hcut : r.log.entries.take (q.prevLogIndex + k) = b.log.entries.take (q.prevLogIndex + k) := by
      rw [sf.entries, List.take_append_of_le_length (by omega), List.take_take, Nat.min_self]
    have keep : ∀ n, n ≤ b.log.entries.length → NoConf b q n →
        r.log.entries.take n = b.log.entries.take n ∧ (n ≤ b.log.flushed → n ≤ r.log.flushed) := fun n h2 h3 => by
      have hle := noConf_le hidx hklt hna h2 h3
      refine ⟨take_le_congr hcut hle, fun _ => ?_⟩
      rw [sf.flushed hl, sf.entries, List.length_append, hA]; omega
    have src : ∀ e ∈ r.log.entries, e ∈ b.log.entries ∨ e ∈ q.entries := fun e he => by
      rw [sf.entries] at he
      exact (List.mem_append.mp he).imp List.mem_of_mem_take fun h => List.mem_of_mem_drop (List.mem_of_mem_take h)
    have left : ∀ {i t}, Holds b.log.entries i t → i ≤ q.prevLogIndex + k → Holds r.log.entries i t :=
      fun h hi => holds_of_take_eq hcut h hi
    have right : ∀ j (hj : j < q.entries.length), k ≤ j → j < k + m →
        Holds r.log.entries q.entries[j].index q.entries[j].term := fun j hj h1 h2 => by
      rw [sf.entries, hidx j hj, show q.prevLogIndex + j + 1 = q.prevLogIndex + k + (j - k) + 1 by omega]
      exact holds_stored hA sf.hm.2 h1 h2 hj
    have fx : FX b q r := ⟨rn, rl, keep, src, rwf, rpair, fun p hp => by
      rw [sf.trace] at hp
      rcases List.mem_append.mp hp with hp | hp
      · rcases List.mem_append.mp hp with hp | hp
        · exact (List.mem_append.mp hp).imp id (ptF_termImage hn hl hge p)
        · split at hp
          · rename_i hlt
            rw [List.mem_singleton.mp hp]
            exact Or.inr (ptF_cutImage hn hidx hklt hna hlt dpair dterm)
          · cases hp
      · rw [List.mem_singleton.mp hp]
        exact Or.inr (img keep src)⟩
    refine ⟨fx, fun _ => rt, Or.inr (sf.flushed hl), fun hs => ?_, ?_⟩
    · rcases sf.result with ⟨_, hall⟩ | e
      · refine ⟨hst, fun e he => ?_, fun h1 => left (hprev h1) (by omega), ?_⟩
        · obtain ⟨j, hj, rfl⟩ := List.getElem_of_mem he
          by_cases hjk : j < k
          · exact left (held j hj hjk) (by rw [hidx j hj]; omega)
          · exact right j hj (by omega) (by omega)
        · rw [sf.entries, List.length_append, hA, List.length_take, List.length_drop]; omega
      · rw [e] at hs; exact absurd hs (by decide)
    · rcases rule with c | ⟨a1, a2, _, a4⟩
      · exact Or.inl c
      · refine Or.inr ⟨a1, a2, hst, ?_, a4⟩
        rcases a4 with ⟨e1, e2⟩ | ⟨e, he, e1, e2⟩
        · rw [e1, ← e2]; exact left (hprev (e1 ▸ pos a1)) (by omega)
        · obtain ⟨j, hj, rfl⟩ := List.getElem_of_mem he
          rw [← e1, ← e2]
          by_cases hjk : j < k
          · exact left (held j hj hjk) (by rw [hidx j hj]; omega)
          · refine right j hj (by omega) ?_
            have := hidx j hj
            rcases sf.ci with c | c | c <;> omega

end follower

/-- a projection untouched by the three primitives `leader.release` is built from -/
structure RelFrame {α : Type} (proj : Node → α) : Prop where
  reply : ∀ s t r, proj (s.reply t r) = proj s
  ldr : ∀ (s : Node) l, proj (s.withLdr l) = proj s
  leader : ∀ (s : Node) c, proj (s.setLeader c) = proj s
  candTransfer : ∀ (s : Node) v, proj (s.withCandTransfer v) = proj s

theorem RelFrame.releaseRole {α : Type} {proj : Node → α} (h : RelFrame proj) (s : Node) (r : Role) :
    proj (s.releaseRole r) = proj s :=
  releaseRole_of (P := fun x => proj x = proj s) (fun x v hx => (h.candTransfer x v).trans hx)
    (Node.leaderRelease_of (fun x l hx _ _ _ _ _ _ => (h.ldr x l).trans hx)
      (fun x t r hx => (h.reply x t r).trans hx) (fun x l hx => (h.leader x l).trans hx)
      (fun x hx => (h.ldr x _).trans hx)) s r rfl

def gobs (s : Node) : ((NLog × Nat × Nat × Nat × List SnapFile × Nat × Nat × List (String × Durable)) × Nat × Nat) ×
    Nat × Option RpcReply :=
  (fobs s, s.commitIndex, s.rpcReply)

theorem relFrame_gobs : RelFrame gobs where
  reply := fun s t r => by
    unfold gobs fobs; rw [core_reply]; unfold Node.reply; split <;> rfl
  ldr := fun _ _ => rfl
  leader := fun _ _ => rfl
  candTransfer := fun _ _ => rfl

theorem settle_follower_cases (h : Node) (cur : Role) (hf : h.role = .follower) :
    settle 6 h cur = h ∨ settle 6 h cur = h.releaseRole cur := settle_of_follower h cur hf

theorem gobs_settle_follower (h : Node) (cur : Role) (hf : h.role = .follower) :
    gobs (settle 6 h cur) = gobs h := by
  rcases settle_follower_cases h cur hf with e | e
  · rw [e]
  · rw [e, relFrame_gobs.releaseRole]

/-- **summary of a step handling the append request `q`**, relative to the state `pre` it starts from:
* `keep`: every index `k` of the old log up to which the request does not conflict with the old log still
  holds the same entries, and is still flushed if it was — also on disk at every crash point (`PtF`);
* `dirty`: the log is untouched, or everything in it is flushed;
* `ack`: a `success` reply means the term is the request's and the log holds the request's previous entry
  coordinates and all its entries;
* `ci`: the commit index moves only to an index `≤ ldrCommitIndex` whose entry — one of the request's, or the
  previous entry it verified — has the request's term. -/
structure FStep (pre : Node) (q : AppendReq) (post : Node) : Prop where
  lwf : C06.LogWF post.log
  keep : ∀ k, k ≤ pre.log.entries.length → NoConf pre q k →
    post.log.entries.take k = pre.log.entries.take k ∧ (k ≤ pre.log.flushed → k ≤ post.log.flushed)
  src : ∀ e ∈ post.log.entries, e ∈ pre.log.entries ∨ e ∈ q.entries
  pair : PairOK pre AF post.term post.votedFor
  tr : ∀ p ∈ post.trace, PtF pre q p.2
  term : ¬ q.term < pre.term → post.term = q.term
  dirty : post.log = pre.log ∨ post.log.flushed = post.log.entries.length
  ack : (post.rpcReply.map (·.result)) = some rSuccess →
    ¬ q.term < pre.term ∧ (∀ e ∈ q.entries, Holds post.log.entries e.index e.term) ∧
    (1 ≤ q.prevLogIndex → Holds post.log.entries q.prevLogIndex q.prevLogTerm) ∧
    q.prevLogIndex + q.entries.length ≤ post.log.entries.length
  ci : post.commitIndex = pre.commitIndex ∨
    (pre.commitIndex < post.commitIndex ∧ post.commitIndex ≤ q.ldrCommitIndex ∧ ¬ q.term < pre.term ∧
      Holds post.log.entries post.commitIndex q.term ∧
      ((post.commitIndex = q.prevLogIndex ∧ q.prevLogTerm = q.term) ∨
        ∃ e ∈ q.entries, e.index = post.commitIndex ∧ e.term = q.term))
  stale : q.term < pre.term → post.log = pre.log ∧ post.term = pre.term ∧ post.votedFor = pre.votedFor ∧
    post.commitIndex = pre.commitIndex ∧ post.trace = []

theorem fstep (pre : Node) (q : AppendReq) (ra : List Nat) (ord : List (List Nat)) (hn : NWF pre)
    (hl : C06.LogWF pre.log) (hwf : C05.VoteWF pre)
    (hidx : ∀ k (h : k < q.entries.length), q.entries[k].index = q.prevLogIndex + k + 1) :
    FStep pre q (pre.step (.append q) ra ord) := by
  have hbn : NWF (pre.begin ra ord) := nwf_congr hn rfl rfl rfl rfl rfl
  have R := onAppendEntries_fres (pre.begin ra ord) q hbn hl hwf hidx
  have hpost : pre.step (.append q) ra ord =
      settle 6 (((pre.begin ra ord).onAppendEntries q).rpcDone false true) (pre.begin ra ord).role := rfl
  -- the reply step and the role transition do not touch what the summary looks at
  have hg : gobs (pre.step (.append q) ra ord) =
      (fobs ((pre.begin ra ord).onAppendEntries q), ((pre.begin ra ord).onAppendEntries q).commitIndex,
        some (((pre.begin ra ord).onAppendEntries q).mkReply false true)) := by
    have hdone : gobs (((pre.begin ra ord).onAppendEntries q).rpcDone false true) =
        (fobs ((pre.begin ra ord).onAppendEntries q), ((pre.begin ra ord).onAppendEntries q).commitIndex,
          some (((pre.begin ra ord).onAppendEntries q).mkReply false true)) := by
      unfold gobs
      rw [Node.rpcDone_reply]
      unfold Node.rpcDone
      split
      · have : ∀ x : Node, ∀ site, fobs (x.panic site) = fobs x ∧ (x.panic site).commitIndex = x.commitIndex := by
          intro x site
          constructor
          · unfold fobs; rw [core_panic]; unfold Node.panic; split <;> rfl
          · exact (panic_fields x site).2.2.2.1
        rw [(this _ _).1, (this _ _).2]; rfl
      · rfl
    rw [hpost]
    by_cases hst : q.term < pre.term
    · have hh : (pre.begin ra ord).onAppendEntries q = (pre.begin ra ord).ret rStaleTerm :=
        C04.stale_append_refused _ q hst
      have hr : (((pre.begin ra ord).onAppendEntries q).rpcDone false true).role = (pre.begin ra ord).role := by
        rw [hh, (SameKey.rpcDone _ _ _).role]; rfl
      have e : settle 6 (((pre.begin ra ord).onAppendEntries q).rpcDone false true) (pre.begin ra ord).role =
          ((pre.begin ra ord).onAppendEntries q).rpcDone false true := settle_of_role hr
      rw [e]; exact hdone
    · have hf : (((pre.begin ra ord).onAppendEntries q).rpcDone false true).role = .follower := by
        rw [(SameKey.rpcDone _ _ _).role]
        exact onAppendEntries_role _ q hst
      rw [gobs_settle_follower _ _ hf]; exact hdone
  unfold gobs at hg
  simp only [Prod.mk.injEq] at hg
  obtain ⟨g1, g2, g3⟩ := hg
  obtain ⟨gl, gt, gtr⟩ := fobs_log g1
  have hfx : FX (pre.begin ra ord) q (pre.step (.append q) ra ord) := fx_congr R.fx g1
  refine ⟨hfx.lwf, hfx.keep, hfx.src, hfx.pair, fun p hp => ?_, fun h => by rw [gt]; exact R.term h,
    by rw [gl]; exact R.dirty, fun hs => ?_, by rw [g2]; rw [gl]; exact R.ci, fun hst => ?_⟩
  · rcases hfx.tr p hp with hp' | hp'
    · cases hp'
    · exact ⟨hp'.snaps, hp'.prev, hp'.keep, hp'.src, hp'.pair, hp'.term, hp'.segs⟩
  · rw [g3] at hs
    have hs' : ((pre.begin ra ord).onAppendEntries q).result = rSuccess := by
      simp only [Option.map_some, Option.some.injEq] at hs
      exact hs
    rw [gl]
    exact R.ack hs'
  · have hh : (pre.begin ra ord).onAppendEntries q = (pre.begin ra ord).ret rStaleTerm :=
      C04.stale_append_refused _ q hst
    rw [hh] at g1 g2
    unfold fobs Core at g1
    simp only [Prod.mk.injEq] at g1
    obtain ⟨⟨e1, _, _, _, _, e6, _, e8⟩, f1, _⟩ := g1
    exact ⟨e1, e6, f1, g2, e8⟩

theorem append_stale (pre : Node) (q : AppendReq) (ra : List Nat) (ord : List (List Nat))
    (hst : q.term < pre.term) :
    (pre.step (.append q) ra ord).log = pre.log ∧ (pre.step (.append q) ra ord).term = pre.term ∧
    (pre.step (.append q) ra ord).votedFor = pre.votedFor ∧
    (pre.step (.append q) ra ord).commitIndex = pre.commitIndex ∧ (pre.step (.append q) ra ord).trace = [] ∧
    (pre.step (.append q) ra ord).role = pre.role ∧ (pre.step (.append q) ra ord).configs = pre.configs ∧
    (pre.step (.append q) ra ord).ldr = pre.ldr ∧ (pre.step (.append q) ra ord).lastLogTerm = pre.lastLogTerm ∧
    (pre.step (.append q) ra ord).lastLogIndex = pre.lastLogIndex ∧ (pre.step (.append q) ra ord).fsm = pre.fsm ∧
    (pre.step (.append q) ra ord).rpcReply.map (·.result) = some rStaleTerm := by
  have hpost : pre.step (.append q) ra ord =
      settle 6 (((pre.begin ra ord).onAppendEntries q).rpcDone false true) (pre.begin ra ord).role := rfl
  have hh : (pre.begin ra ord).onAppendEntries q = (pre.begin ra ord).ret rStaleTerm :=
    C04.stale_append_refused _ q hst
  have hd : ((pre.begin ra ord).ret rStaleTerm).rpcDone false true =
      ((pre.begin ra ord).ret rStaleTerm).withRpcReply (some (((pre.begin ra ord).ret rStaleTerm).mkReply false true)) := by
    unfold Node.rpcDone
    rw [if_neg (by show rStaleTerm ≠ rUnexpectedErr; decide)]
  have e : pre.step (.append q) ra ord =
      ((pre.begin ra ord).ret rStaleTerm).withRpcReply (some (((pre.begin ra ord).ret rStaleTerm).mkReply false true)) := by
    rw [hpost, hh, hd]
    exact settle_of_role rfl
  rw [e]
  unfold Node.withRpcReply Node.mkReply Node.ret Node.begin
  exact ⟨rfl, rfl, rfl, rfl, rfl, rfl, rfl, rfl, rfl, rfl, rfl, rfl⟩

/-- a granted vote: after the step the node's (term, vote) is the requested one -/
theorem vote_step_pair (s : Node) (q : VoteReq) (ra : List Nat) (ord : List (List Nat)) (hwf : C05.VoteWF s)
    (h : ((s.step (.vote q) ra ord).rpcReply.map (·.result)) = some rSuccess) :
    (s.step (.vote q) ra ord).term = q.term ∧ (s.step (.vote q) ra ord).votedFor = q.src := by
  have hs := C05.vote_step_shape s q ra ord h
  have hb : C05.VoteWF (s.begin ra ord) := hwf
  obtain ⟨e1, e2, _, _⟩ := C05.grant_is_durable (s.begin ra ord) q hb hs
  have hpost : s.step (.vote q) ra ord =
      settle 6 (((s.begin ra ord).onVoteRequest q).rpcDone true) (s.begin ra ord).role := rfl
  have G := down_closed (s.begin ra ord)
  have hd : Down (s.begin ra ord) (((s.begin ra ord).onVoteRequest q).rpcDone true) :=
    G.rpcDone_g _ _ _ (G.onVoteRequest_g _ _ (Down.refl _))
  have k := SameKey.rpcDone ((s.begin ra ord).onVoteRequest q) true false
  rw [hpost]
  generalize ((s.begin ra ord).onVoteRequest q).rpcDone true = h' at hd k
  rcases hd.2.2 with ⟨a, _, _⟩ | a
  · have e : settle 6 h' (s.begin ra ord).role = h' := settle_of_role a
    rw [e, k.term, k.votedFor]; exact ⟨e1, e2⟩
  · rcases settle_follower_cases h' (s.begin ra ord).role a with e | e
    · rw [e, k.term, k.votedFor]; exact ⟨e1, e2⟩
    · rw [e, (SameKey.releaseRole _ _).term, (SameKey.releaseRole _ _).votedFor, k.term, k.votedFor]
      exact ⟨e1, e2⟩

/-- **restart without snapshots**: everything read back from disk counts as flushed, nothing is committed or
applied yet -/
theorem restart_facts (d : Durable) (retain : Nat) (sor : Bool) (n : Node)
    (h : Node.restart d retain sor = some n) (hs : d.snaps = []) (hp : d.log.prev = 0) (hdw : DW d) :
    n.commitIndex = 0 ∧ n.fsm = {} ∧ n.log.flushed = n.log.entries.length ∧ C06.LogWF n.log ∧
    n.log.entries = d.log.entries := by
  have key : (restartNode d retain sor).log = { d.log with flushed := d.log.last } ∧
      (restartNode d retain sor).commitIndex = 0 ∧ (restartNode d retain sor).fsm = {} ∧
      (restartNode d retain sor).snapIndex = 0 := by
    unfold Node.restartNode
    extract_lets snap log lastIdx lastT sc latest committed
    have e0 : snap = {} := by unfold snap; rw [hs]; rfl
    have e1 : log = d.log := by
      unfold log; rw [Node.staleLog_nosnap hs]; rfl
    refine ⟨?_, rfl, rfl, by show snap.index = 0; rw [e0]⟩
    show ({ log with flushed := log.last } : NLog) = _
    rw [e1]
  rw [Node.restart_nosnap h key.2.2.2]
  obtain ⟨k1, k2, k3, _⟩ := key
  rw [k1]
  have hlast : d.log.last = d.log.entries.length := by unfold NLog.last; rw [hp]; omega
  refine ⟨k2, k3, hlast, ⟨?_, ?_⟩, rfl⟩
  · show NLog.lastSegPrev { d.log with flushed := d.log.last } ≤ d.log.last
    have e : NLog.lastSegPrev { d.log with flushed := d.log.last } = d.log.lastSegPrev := rfl
    rw [e, hlast]; exact hdw
  · show d.log.last ≤ NLog.last { d.log with flushed := d.log.last }
    exact Nat.le_refl _

end CommitRel
end Raft

#print axioms Raft.CommitRel.nstep
#print axioms Raft.CommitRel.fstep
#print axioms Raft.CommitRel.restart_facts
#print axioms Raft.CommitRel.Anc.on_path
