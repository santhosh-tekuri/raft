/-
Installation of a snapshot, seen by the invariants of `Raft.Commit` (Sys/Commit.lean) and of the cluster system with
local snapshots (Sys/Snap.lean, invariant `SnapInv.SInv`).

When a follower installs a snapshot its WHOLE log is replaced by the committed prefix the snapshot stands for (in the
virtual log: `base := ` that prefix, `log := ` empty).  `cinv_replace`: the invariants `CInv` / `FsmInv` survive when one
node is replaced by a follower
* whose term did not decrease, whose vote is the old one (same term) or none (newer term), whose memory matches its disk,
* whose log is a completely flushed root path of the tree of created entries, covered by its commit index, every entry of
  which is committed (`Cmt`) and has a term not above the node's,
* whose state machine holds the payloads of that path,
* and — the one clause that is about the OLD log — such that every entry the old log held (with a term not above the old
  term) is still held, or is `Unsafe` (some entry of a later term does not extend it; this is what makes the
  acknowledgements the node gave earlier harmless).
`stable_of_committed`: the last clause holds when the new log is a committed path whose last entry the old log does
NOT hold — the condition under which `onInstallSnapRequest` discards the log (leader completeness, tree form).
-/
import RaftVerif.Lemmas.SnapInv
import RaftVerif.Lemmas.NodeSys

namespace Raft
namespace SnapInst
open Election LogRel Replication CommitRel Commit C02Sys C03Sys SnapSim

structure ReplOK (z : Commit.Sys) (i : Nat) (n : Node) : Prop where
  nid : n.nid = (z.node i).nid
  tv : (n.term = (z.node i).term ∧ n.votedFor = (z.node i).votedFor) ∨ ((z.node i).term < n.term ∧ n.votedFor = 0)
  vwf : C05.VoteWF n
  role : n.role = .follower
  nwf : NWF n
  lwf : C06.LogWF n.log
  unfl : ∀ k, n.log.flushed < k → k ≤ n.log.entries.length →
    ∃ c ∈ z.T, c.e.index = k ∧ c.e.term = termAt n.log.entries k ∧ c.cr = i
  path : Path z.T n.log.entries
  termLe : ∀ e ∈ n.log.entries, e.term ≤ n.term
  commit : ∀ k, 1 ≤ k → k ≤ n.commitIndex → k ≤ n.log.entries.length ∧ Cmt z (k, termAt n.log.entries k) n.term
  fsm : FsmOK 0 n
  stable : ∀ b : Nat × Nat, DurHolds (z.node i) b → b.2 ≤ (z.node i).term → DurHolds n b ∨ Unsafe z.T b n.term

section replace
variable {V : List Nat} {z : Commit.Sys} {i : Nat} {n : Node}

def repl (z : Commit.Sys) (i : Nat) (n : Node) : Commit.Sys := withNodes z (setNode z.rp.el.node i n)

theorem repl_node_ind {P : Nat → Node → Prop} (hn : P i n) (hz : ∀ j, j ≠ i → P j (z.node j)) (j : Nat) :
    P j ((repl z i n).node j) := NodeSys.forall_setNode hn hz j

/-- the replacing node stands for the old one: it is a follower, so nothing is asked of its leader or candidate state -/
theorem ReplOK.stands (h : ReplOK z i n) : Stands z i n :=
  ⟨h.nid, h.tv, h.vwf, fun hr => absurd h.role hr, h.nwf, h.lwf, h.unfl, h.path.1, h.termLe, h.commit,
    ⟨h.fsm, fun hl => by rw [h.role] at hl; cases hl⟩, h.stable⟩

/-- **the invariants of `Raft.Commit` survive the replacement of a node by a follower whose log is a committed root
path** (`ReplOK`) -/
theorem cinv_replace (hI : CInv V z) (hF : FsmInv z) (h : ReplOK z i n) :
    CInv V (repl z i n) ∧ FsmInv (repl z i n) :=
  cinv_stands hI (NodeSys.forall_setNode (P := fun j m => Stands z j m) h.stands
    (fun _ _ => .of_fieldEq hI hF (fieldEq_of_robs rfl) (Or.inl (lfieldEq_of_lobs rfl))))

end replace

/-- **a node that only adopted a newer term and became follower** (its log, commit index and state machine as before)
may replace the old one -/
theorem replOK_same {V : List Nat} {z : Commit.Sys} (hI : CInv V z) (hF : FsmInv z) {i : Nat} {n : Node}
    (nid : n.nid = (z.node i).nid)
    (tv : (n.term = (z.node i).term ∧ n.votedFor = (z.node i).votedFor) ∨ ((z.node i).term < n.term ∧ n.votedFor = 0))
    (vwf : C05.VoteWF n) (role : n.role = .follower) (hlog : n.log = (z.node i).log)
    (hli : n.lastLogIndex = (z.node i).lastLogIndex) (hlt : n.lastLogTerm = (z.node i).lastLogTerm)
    (hsi : n.snapIndex = (z.node i).snapIndex) (hsd : n.snapsDisk = (z.node i).snapsDisk)
    (hci : n.commitIndex = (z.node i).commitIndex) (hfsm : n.fsm = (z.node i).fsm) : ReplOK z i n := by
  have hle : (z.node i).term ≤ n.term := by rcases tv with ⟨e, _⟩ | ⟨e, _⟩ <;> omega
  refine ⟨nid, tv, vwf, role, nwf_congr (nwf hI i) hlog hli hlt hsi hsd, by rw [hlog]; exact hI.node.lwf i,
    by rw [hlog]; exact hI.node.unfl i, by rw [hlog]; exact log_path hI i, fun e he => ?_, fun k h1 h2 => ?_, ?_,
    fun b hb _ => Or.inl ?_⟩
  · rw [hlog] at he
    exact Nat.le_trans (hI.node.termLe i e he) hle
  · rw [hci] at h2
    rw [hlog]
    obtain ⟨a, m, hm, m1, m2⟩ := hI.cmt.cc i k h1 h2
    exact ⟨a, m, hm, Nat.le_trans m1 hle, m2⟩
  · obtain ⟨f, _⟩ := hF i
    exact ⟨by rw [hfsm, hci]; exact f.le, by rw [hfsm, hlog]; exact f.len, by rw [hfsm, hlog]; exact f.applied,
      Nat.zero_le _⟩
  · unfold DurHolds at hb ⊢
    rw [hlog]; exact hb

/-! ### the clause about the old log -/

section committed
variable {V : List Nat} {z : Commit.Sys}

theorem holds_last_of_path {P : List Entry} (hne : 1 ≤ P.length) : Holds P P.length (lastTerm P) :=
  ⟨hne, Nat.le_refl _, termAt_length P⟩

/-- **what the discarded log held is not lost.** Let `P` be a root path whose last entry is committed by a leader of a
term `≤ u`, and let the log of node `i` NOT hold that last entry. Then every entry `b` the log of `i` holds is an entry
of `P` — or some entry of a term in `(b.term, u]` does not extend it (`Unsafe`): an acknowledgement `i` gave for `b` can
no longer take part in committing anything in a term up to `u` that does not lie on the path of the committed entry.
(Leader completeness in tree form: `CmtI.lc`, `TreeOK.tblock`.) -/
theorem stable_of_committed (hI : CInv V z) {i : Nat} {P : List Entry} (hP : Path z.T P) (hne : 1 ≤ P.length)
    {u : Nat} (hc : Cmt z (P.length, lastTerm P) u)
    (hnot : ¬ Holds (z.node i).log.entries P.length (lastTerm P)) :
    ∀ b : Nat × Nat, Holds (z.node i).log.entries b.1 b.2 → Holds P b.1 b.2 ∨ Unsafe z.T b u := by
  intro b hb
  have hU := uniq hI
  have hL : Holds P P.length (lastTerm P) := holds_last_of_path hne
  obtain ⟨m, hm, hmu, hLm⟩ := hc
  obtain ⟨⟨cm, hcm, hcmk, _⟩, _⟩ := hI.cmt.quorum m hm
  obtain ⟨cb, hcb, hcbk⟩ := log_record hI i hb
  have hbb : (b.1, b.2) = b := rfl
  rw [hbb] at hcbk
  -- the old log cannot hold anything that extends the last entry of `P`
  have noext : ∀ {y : Nat × Nat}, Anc z.T (P.length, lastTerm P) y → ¬ Holds (z.node i).log.entries y.1 y.2 :=
    fun ha hy => hnot (log_holds_anc hI i ha hy)
  by_cases hbm : Anc z.T b m
  · by_cases hle : b.1 ≤ P.length
    · left
      have hbL : Anc z.T b (P.length, lastTerm P) := hbm.comparable hU hLm hle
      exact hbL.on_path hU hP hL
    · exact absurd hb (noext (hLm.comparable hU hbm (by show P.length ≤ b.1; omega)))
  · have hcmt : cm.e.term = m.2 := by unfold key at hcmk; rw [← hcmk]
    by_cases h1 : b.2 < m.2
    · exact Or.inr ⟨cm, hcm, by rw [hcmt]; exact h1, by rw [hcmt]; exact hmu, by rw [hcmk]; exact hbm⟩
    · have hcbt : cb.e.term = b.2 := by unfold key at hcbk; rw [← hcbk]
      have hcbi : cb.e.index = b.1 := by unfold key at hcbk; rw [← hcbk]
      have hcmi : cm.e.index = m.1 := by unfold key at hcmk; rw [← hcmk]
      have hmb : Anc z.T m b := by
        by_cases h2 : m.2 < b.2
        · have := hI.cmt.lc m hm cb hcb (by rw [hcbt]; exact h2)
          rw [hcbk] at this
          exact this
        · have heq : cm.e.term = cb.e.term := by rw [hcbt, hcmt]; omega
          by_cases h3 : cb.e.index ≤ cm.e.index
          · exfalso
            have := hI.tree.ok.tblock cb hcb cm hcm heq.symm h3
            rw [hcbk, hcmk] at this
            exact hbm this
          · have := hI.tree.ok.tblock cm hcm cb hcb heq (by omega)
            rw [hcbk, hcmk] at this
            exact this
      exact absurd hb (noext (hLm.trans hU hmb))

theorem cmt_prefix {a c : Nat × Nat} {u : Nat} (hU : Uniq z.T) (ha : Anc z.T a c) (hc : Cmt z c u) : Cmt z a u := by
  obtain ⟨m, hm, h1, h2⟩ := hc
  exact ⟨m, hm, h1, ha.trans hU h2⟩

theorem path_cmt {P : List Entry} (hU : Uniq z.T) (hP : Path z.T P) {u : Nat} (hne : 1 ≤ P.length)
    (hc : Cmt z (P.length, lastTerm P) u) : ∀ k, 1 ≤ k → k ≤ P.length → Cmt z (k, termAt P k) u := by
  intro k h1 h2
  exact cmt_prefix hU (anc_of_path hP (a := (k, termAt P k)) (c := (P.length, lastTerm P)) ⟨h1, h2, rfl⟩
    (holds_last_of_path hne) h2) hc

/-- **a committed root path and a log agree on what the log's commit index covers** -/
theorem path_agree_commit (hI : CInv V z) {P : List Entry} (hP : Path z.T P) {u : Nat} (hne : 1 ≤ P.length)
    (hc : Cmt z (P.length, lastTerm P) u) (j : Nat) (F : Nat) (hF : F ≤ (z.node j).commitIndex) (hFP : F ≤ P.length) :
    P.take F = (z.node j).log.entries.take F := by
  by_cases h0 : F = 0
  · rw [h0]; rfl
  · have hF1 : 1 ≤ F := by omega
    obtain ⟨hhj, m', hm', _, m2'⟩ := covered_committed hI hF1 hF
    obtain ⟨m, hm, _, m2⟩ := path_cmt (uniq hI) hP hne hc F hF1 hFP
    have := committed_unique hI (a := (F, termAt P F)) (a' := (F, termAt (z.node j).log.entries F))
      ⟨m, hm, m2⟩ ⟨m', hm', m2'⟩ rfl
    have ht : termAt P F = termAt (z.node j).log.entries F := congrArg Prod.snd this
    exact take_of_paths (uniq hI) hP (log_path hI j) hFP hhj.2.1 ht

end committed

/-! ### the cluster with local snapshots (stage 1, `SnapInv.SInv`) -/

section snap
open SnapRel SnapInv Snap
variable {V : List Nat}

theorem eview_repl (z : Commit.Sys) (i : Nat) (n : Node) : eview (repl z i n) = repl (eview z) i (E σ0 n) := by
  unfold eview repl withNodes
  have : (fun j => E σ0 (setNode z.rp.el.node i n j)) = setNode (fun j => E σ0 (z.rp.el.node j)) i (E σ0 n) :=
    setNode_E z.rp.el.node i n
  simp only [Commit.Sys.node]
  rw [this]

/-- what is required of the (virtual) node `n` that replaces node `i` of the cluster with snapshots `x` -/
structure VRepl (x : Snap.Sys) (i : Nat) (n : Node) : Prop where
  basic : ReplOK (eview x.cs) i (E σ0 n)
  snap : SnapOK n
  ci : (x.node i).commitIndex ≤ n.commitIndex
  keep : n.log.entries.take (x.node i).commitIndex = (x.node i).log.entries.take (x.node i).commitIndex
  mono : (x.node i).snapIndex ≤ n.snapIndex
  files : ∀ g ∈ n.snapsDisk, g ∈ (x.node i).snapsDisk ∨
    (1 ≤ g.index ∧ g.index ≤ n.snapIndex ∧ g.data = ups (n.log.entries.take g.index))

/-- **the invariant of the cluster with snapshots survives the replacement of a node's log by a committed root path**
(`VRepl`; the ledgers stay, the snapshot files that appear are recorded) -/
theorem sinv_replace {x : Snap.Sys} (hI : SInv V x) {i : Nat} {n : Node} (h : VRepl x i n) :
    SInv V { cs := repl x.cs i n
             snaps := newSnaps i (x.node i).snapsDisk n.snapsDisk ++ x.snaps } := by
  obtain ⟨c1, c2⟩ := cinv_replace hI.cinv hI.fsm h.basic
  have so := hI.snap i
  exact ⟨by rw [eview_repl]; exact c1, by rw [eview_repl]; exact c2,
    repl_node_ind (P := fun _ => SnapOK) h.snap (fun j _ => hI.snap j),
    ledger_replace hI h.mono (by rw [so.head]; exact so.files.head_le) h.keep h.files rfl⟩

end snap

end SnapInst
end Raft
