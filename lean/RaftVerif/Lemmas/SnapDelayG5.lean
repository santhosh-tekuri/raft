/-
Delayed compaction (`leader.checkLogCompact`) — the report protocol (Sys/SnapView.lean) composed with the node model: first
for the step that compacts, then for every operation a leader handles.

The protocol invariant `SnapView.QInv.j3`, read on a node `s` with the ghost `view` (first index of the view of each
replication goroutine) and the reports `q` waiting in `replUpdateCh`:
  `Coupled s q view` — for every replication status of `s`, the newest waiting report for it (its `removeLTE` if none
  waits) is the first index of the goroutine's view.
* `compaction_keeps_views_at_decision` — whatever the batch: if this holds, with nothing waiting, in the state in which
  `checkReplUpdates` takes the decision (`SnapDelay.updPre`), a delayed compaction leaves `log.prev ≤ view` for every
  replication.
An arbitrary batch and the other operations a leader handles: the statuses are framed by the guarded closure
`ClosedG` (Lemmas/SnapDelayG1.lean: `Closed` / `StepClosedNC` allow ANY new leader record, so they cannot say anything about
`ldr.removeLTE` or the statuses), and the summary is `leader_step_keeps_views` below.

The goroutine-side moves (`SnapView.PTrans.consume`: a goroutine takes its
update, reports, replaces its view) are separate steps of the protocol and do not touch the node.

What a leader step does to the ghost:
* a NEW LEADERSHIP (the handler left the role `leader`, and after the role transitions the node leads again:
  `leader.init` ran): every replication is new, its goroutine starts with a view at `ldr.removeLTE = log.prev`, the
  channel is new and empty;
* the SAME LEADERSHIP: the goroutines of the replications that existed keep their views; a replication with a new id is
  new: its goroutine starts with a view at `ldr.removeLTE`; the waiting reports stay (or, for the batch of the waiting
  reports, are taken).
`NoReAdd s s'` — the ONE hypothesis about the step that is not proved here: a status of `s'` whose id existed in `s` is
inherited (no member is removed and added again inside one handler; this needs reasoning about configurations: the leader
block only erases or modifies members, `onChangeConfig` only adds).

The coupling through the handlers (`handle_keeps_coupled`), through `.snapTaken` (`snapTaken_keeps_coupled`: what is compacted
AT ONCE is bounded by the match indexes, NOT by the views), for the batch of exactly the waiting reports
(`reports_only_keeps_views`), and the summary `leader_step_keeps_views` (statement in words: Props/C09Sys4.lean).
-/
import RaftVerif.Lemmas.SnapDelayD
import RaftVerif.Sys.SnapView
import RaftVerif.Lemmas.SnapDelayG3

namespace Raft
namespace SnapDelay
open Node SnapView

def Coupled (s : Node) (q : List (Nat × Nat)) (view : Nat → Nat) : Prop :=
  ∀ r ∈ s.ldr.repls, latest q r.id r.removeLTE = view r.id

theorem compaction_keeps_views_at_decision (s : Node) (us : List ReplUpdate) (ra : List Nat) (ord : List (List Nat))
    (view : Nat → Nat) (hd : DelayedCompaction s us ra ord)
    (hc : Coupled (updPre (s.begin ra ord) us) [] view) :
    ∀ r ∈ (updPre (s.begin ra ord) us).ldr.repls, (s.step (.replUpdates us) ra ord).log.prev ≤ view r.id := by
  intro r hr
  have h1 := hd.all r hr
  have h2 : r.removeLTE = view r.id := hc r hr
  rw [← h2]
  exact Nat.le_trans hd.prev_le h1

theorem latest_cons (e : Nat × Nat) (q : List (Nat × Nat)) (j d : Nat) :
    latest (e :: q) j d = latest q j (if e.1 = j then e.2 else d) := rfl

def rmBatch (q : List (Nat × Nat)) : List ReplUpdate := q.map (fun e => { id := e.1, upd := .removeLTE e.2 })

theorem find_none_ne {l : List Repl} {id : Nat} (h : l.find? (·.id == id) = none) : ∀ r ∈ l, r.id ≠ id := by
  intro r hr e
  have := List.find?_eq_none.mp h r hr
  simp [e] at this

theorem replUpdLoop_rm_cons (s : Node) (f : UpdFlags) (e : Nat × Nat) (q : List (Nat × Nat)) :
    replUpdLoop s f (rmBatch (e :: q)) =
      match s.findRepl? e.1 with
      | none => replUpdLoop s f (rmBatch q)
      | some st => replUpdLoop (s.setRepl { st with removeLTE := e.2 }) { f with removeLTEU := true } (rmBatch q) := by
  show replUpdLoop s f ({ id := e.1, upd := .removeLTE e.2 } :: rmBatch q) = _
  conv => lhs; unfold replUpdLoop
  rw [if_neg (by show ¬ (false = true); decide)]
  dsimp only
  cases s.findRepl? e.1 <;> rfl

theorem replUpdLoop_reports (view : Nat → Nat) (q : List (Nat × Nat)) : ∀ (s : Node) (f : UpdFlags),
    LC.Sorted s.ldr.repls → Coupled s q view →
    (replUpdLoop s f (rmBatch q)).2.matchU = f.matchU ∧ (replUpdLoop s f (rmBatch q)).2.noContactU = f.noContactU ∧
    (replUpdLoop s f (rmBatch q)).2.stop = f.stop ∧
    Coupled (replUpdLoop s f (rmBatch q)).1 [] view ∧
    (∀ r ∈ s.ldr.repls, ∃ r' ∈ (replUpdLoop s f (rmBatch q)).1.ldr.repls, r'.id = r.id) ∧
    (replUpdLoop s f (rmBatch q)).1.role = s.role ∧
    (∀ r' ∈ (replUpdLoop s f (rmBatch q)).1.ldr.repls, ∃ r ∈ s.ldr.repls, r.id = r'.id) := by
  induction q with
  | nil =>
    intro s f _ hc
    exact ⟨rfl, rfl, rfl, hc, fun r hr => ⟨r, hr, rfl⟩, rfl, fun r hr => ⟨r, hr, rfl⟩⟩
  | cons e q ih =>
    intro s f hs hc
    rw [replUpdLoop_rm_cons]
    cases hf : s.findRepl? e.1 with
    | none =>
      dsimp only
      have hne := find_none_ne hf
      have hc' : Coupled s q view := by
        intro r hr
        have := hc r hr
        show latest q r.id r.removeLTE = _
        rw [latest_cons, if_neg (fun h => hne r hr h.symm)] at this
        exact this
      exact ih s f hs hc'
    | some st =>
      dsimp only
      obtain ⟨hmem, hid⟩ := LC.find_mem hf
      have hs' : LC.Sorted (s.setRepl { st with removeLTE := e.2 }).ldr.repls :=
        LC.sorted_insertRepl _ _ hs
      have hc' : Coupled (s.setRepl { st with removeLTE := e.2 }) q view := by
        intro r hr
        rcases LC.mem_insertRepl _ r _ hs hr with h | ⟨h1, h2⟩
        · rw [h]
          have := hc st hmem
          rw [latest_cons, if_pos hid.symm] at this
          exact this
        · have := hc r h1
          have hne : ¬ e.1 = r.id := by
            intro h
            apply h2
            show r.id = st.id
            rw [hid, h]
          rw [latest_cons, if_neg hne] at this
          exact this
      obtain ⟨i1, i2, i3, i4, i5, i6, i7⟩ :=
        ih (s.setRepl { st with removeLTE := e.2 }) { f with removeLTEU := true } hs' hc'
      refine ⟨i1, i2, i3, i4, fun r hr => ?_, i6, fun r' hr' => ?_⟩
      · by_cases hrid : r.id = st.id
        · obtain ⟨r', hr', e'⟩ := i5 { st with removeLTE := e.2 } (LC.mem_insertRepl_self _ _)
          exact ⟨r', hr', by rw [e', hrid]⟩
        · exact i5 r (LC.mem_insertRepl_of_mem _ r _ hr hrid)
      · obtain ⟨r, hr, er⟩ := i7 r' hr'
        rcases LC.mem_insertRepl _ r _ hs hr with h | ⟨h1, _⟩
        · exact ⟨st, hmem, by rw [← er, h]⟩
        · exact ⟨r, h1, er⟩

theorem updPre_reports (view : Nat → Nat) (q : List (Nat × Nat)) (s : Node)
    (hs : LC.Sorted s.ldr.repls) (hc : Coupled s q view) :
    updPre s (rmBatch q) = (replUpdLoop s {} (rmBatch q)).1 := by
  obtain ⟨h1, h2, _⟩ := replUpdLoop_reports view q s {} hs hc
  unfold updPre
  dsimp only
  rw [h1, h2]
  rfl

/-- in words: `C09Sys4.delayed_compaction_keeps_views_node_partial` -/
theorem reports_only_keeps_views (s : Node) (q : List (Nat × Nat)) (view : Nat → Nat) (ra : List Nat)
    (ord : List (List Nat)) (ho : Order.Ordered s) (hl : s.role = .leader) (hC : C06Cache.LeaderCache s)
    (hc : Coupled s q view) (hp : (s.step (.replUpdates (rmBatch q)) ra ord).panicked = none) :
    s.step (.replUpdates (rmBatch q)) ra ord = stepNC s (rmBatch q) ra ord ∨
    ∀ r ∈ s.ldr.repls, (s.step (.replUpdates (rmBatch q)) ra ord).log.prev ≤ view r.id := by
  rcases delayed_compaction_node s (rmBatch q) ra ord ho hp with e | hd
  · exact Or.inl e
  · right
    have hs : LC.Sorted (s.begin ra ord).ldr.repls := ((C06Cache.cacheOK_iff s).mp (hC hl)).sortedRepls
    have hcb : Coupled (s.begin ra ord) q view := hc
    obtain ⟨_, _, _, i4, i5, _, _⟩ := replUpdLoop_reports view q (s.begin ra ord) {} hs hcb
    have hpre := updPre_reports view q (s.begin ra ord) hs hcb
    have key := compaction_keeps_views_at_decision s (rmBatch q) ra ord view hd (by rw [hpre]; exact i4)
    intro r hr
    obtain ⟨r', hr', e'⟩ := i5 r hr
    have := key r' (by rw [hpre]; exact hr')
    rw [e'] at this
    exact this

def HasId (s : Node) (j : Nat) : Prop := ∃ r0 ∈ s.ldr.repls, r0.id = j

def NoReAdd (s s' : Node) : Prop := ∀ r ∈ s'.ldr.repls, HasId s r.id → Inh s r.id r.removeLTE

theorem latest_none (q : List (Nat × Nat)) (j d : Nat) (h : ∀ e ∈ q, e.1 ≠ j) : latest q j d = d := by
  induction q generalizing d with
  | nil => rfl
  | cons e q ih =>
    show latest q j (if e.1 = j then e.2 else d) = d
    rw [if_neg (h e (List.mem_cons_self ..))]
    exact ih d (fun x hx => h x (List.mem_cons_of_mem _ hx))

/-- **the coupling through a frame**: if the bound is kept and every status is new or inherited, the coupling holds for the
views of the goroutines that stay and views at the bound for the new ones -/
theorem coupled_of_frame (s x : Node) (q : List (Nat × Nat)) (view view' : Nat → Nat)
    (hf : GL s.ldr.removeLTE (Inh s) x.ldr) (hre : NoReAdd s x) (hc : Coupled s q view)
    (hq : ∀ e ∈ q, HasId s e.1)
    (hv1 : ∀ j, HasId s j → view' j = view j) (hv2 : ∀ j, ¬ HasId s j → view' j = s.ldr.removeLTE) :
    Coupled x q view' := by
  intro r hr
  have inh : Inh s r.id r.removeLTE → latest q r.id r.removeLTE = view' r.id := by
    rintro ⟨r0, h0, e1, e2⟩
    rw [hv1 r.id ⟨r0, h0, e1⟩, ← e1, ← e2]
    exact hc r0 h0
  rcases hf.2 r hr with e | e
  · by_cases hid : HasId s r.id
    · exact inh (hre r hr hid)
    · rw [hv2 r.id hid, e]
      exact latest_none q r.id _ (fun x hx h => hid (h ▸ hq x hx))
  · exact inh e

/-- **a handler other than `onSnapshotTaken`, the loop of `checkReplUpdates` and `shutdown` keeps the coupling** -/
theorem handle_keeps_coupled (s : Node) (op : Op) (hop : StepClosedG.FOp op) (q : List (Nat × Nat))
    (view view' : Nat → Nat) (hre : NoReAdd s (s.handle op)) (hc : Coupled s q view) (hq : ∀ e ∈ q, HasId s e.1)
    (hv1 : ∀ j, HasId s j → view' j = view j) (hv2 : ∀ j, ¬ HasId s j → view' j = s.ldr.removeLTE) :
    Coupled (s.handle op) q view' ∧ (s.handle op).ldr.removeLTE = s.ldr.removeLTE :=
  ⟨coupled_of_frame s _ q view view' (handle_status_frame s op hop) hre hc hq hv1 hv2, (handle_status_frame s op hop).1⟩

/-- the bound is the first index of the log and every replication is new: the state of a leader record after
`leader.init` -/
def NewLeadership (x : Node) : Prop := x.ldr.removeLTE = x.log.prev ∧ FreshL x.ldr

theorem newLeadership_init (x : Node) : NewLeadership x.leaderInit := by
  obtain ⟨h1, h2, h3⟩ := leaderInit_spec x
  exact ⟨by rw [h1, h3], h2⟩

/-- **leadership change**: if the handler of a leader left the role `leader` and the node leads after the role
transitions, `leader.init` ran last: the bound is `log.prev` and ALL replications are new -/
theorem step_new_leadership (s : Node) (op : Op) (ra : List Nat) (ord : List (List Nat)) (hl : s.role = .leader)
    (hh : ((s.begin ra ord).handle op).role ≠ .leader) (hop : op ≠ .shutdown)
    (hl' : (s.step op ra ord).role = .leader) : NewLeadership (s.step op ra ord) := by
  have e : s.step op ra ord = settle 6 ((s.begin ra ord).handle op) .leader := by
    rw [step_settle s op ra ord hop, show (s.begin ra ord).role = .leader from hl]
  rw [e] at hl' ⊢
  rcases settle_leader_cases 3 _ _ hl' with ⟨hr, _⟩ | ⟨x, ex⟩
  · exact absurd hr hh
  · rw [ex]; exact newLeadership_init x

theorem newLeadership_coupled (x : Node) (h : NewLeadership x) :
    Coupled x [] (fun _ => x.ldr.removeLTE) ∧ ∀ r ∈ x.ldr.repls, x.log.prev ≤ (fun _ => x.ldr.removeLTE) r.id := by
  refine ⟨fun r hr => h.2 r hr, fun r _ => ?_⟩
  show x.log.prev ≤ x.ldr.removeLTE
  rw [h.1]
  exact Nat.le_refl _

/-- **`onSnapshotTaken` keeps the coupling** (the replication table is untouched) -/
theorem snapTaken_keeps_coupled (s : Node) (q : List (Nat × Nat)) (view : Nat → Nat) (hok : C09.SegsOK s.log)
    (hc : Coupled s q view) : Coupled s.onSnapshotTaken q view := by
  intro r hr
  rw [(snapTaken_status_frame s hok).1] at hr
  exact hc r hr

theorem snapTaken_role (s : Node) : s.onSnapshotTaken.role = s.role := by
  rw [(onSnapshotTaken_frame s).shape]

def hasIdB (s : Node) (j : Nat) : Bool := s.ldr.repls.any (fun r => r.id == j)

theorem hasIdB_iff (s : Node) (j : Nat) : hasIdB s j = true ↔ HasId s j := by
  unfold hasIdB HasId
  rw [List.any_eq_true]
  constructor
  · rintro ⟨r, hr, e⟩; exact ⟨r, hr, by simpa using e⟩
  · rintro ⟨r, hr, e⟩; exact ⟨r, hr, by simpa using e⟩

/-- the views after a step of the same leadership: the goroutines that existed keep theirs, new ones start at `R` -/
def viewAfter (s : Node) (view : Nat → Nat) (R : Nat) : Nat → Nat := fun j => if hasIdB s j then view j else R

/-- the waiting reports after a step: those of goroutines that exist (a report of a stopped goroutine is ignored:
`status.removed`) -/
def queueAfter (s : Node) (q : List (Nat × Nat)) : List (Nat × Nat) := q.filter (fun e => hasIdB s e.1)

theorem latest_filter_keep (p : Nat × Nat → Bool) (q : List (Nat × Nat)) (j d : Nat)
    (h : ∀ e ∈ q, e.1 = j → p e = true) : latest (q.filter p) j d = latest q j d := by
  induction q generalizing d with
  | nil => rfl
  | cons a q ih =>
    have ih' := fun d => ih d (fun e he => h e (List.mem_cons_of_mem _ he))
    rw [List.filter_cons]
    by_cases hp : p a = true
    · rw [if_pos hp]
      exact ih' _
    · rw [if_neg hp]
      have hne : ¬ a.1 = j := fun e => hp (h a (List.mem_cons_self ..) e)
      show _ = latest q j (if a.1 = j then a.2 else d)
      rw [if_neg hne]
      exact ih' d

theorem latest_filter_drop (p : Nat × Nat → Bool) (q : List (Nat × Nat)) (j d : Nat)
    (h : ∀ e ∈ q, e.1 = j → p e = false) : latest (q.filter p) j d = d := by
  induction q generalizing d with
  | nil => rfl
  | cons a q ih =>
    have ih' := fun d => ih d (fun e he => h e (List.mem_cons_of_mem _ he))
    rw [List.filter_cons]
    by_cases hp : p a = true
    · rw [if_pos hp]
      have hne : ¬ a.1 = j := fun e => by rw [h a (List.mem_cons_self ..) e] at hp; cases hp
      show latest _ j (if a.1 = j then a.2 else d) = d
      rw [if_neg hne]
      exact ih' d
    · rw [if_neg hp]
      exact ih' d

/-- the coupling through a frame, with the reports of stopped goroutines dropped -/
theorem coupled_of_frame' (s x : Node) (q : List (Nat × Nat)) (view : Nat → Nat)
    (hf : GL s.ldr.removeLTE (Inh s) x.ldr) (hre : NoReAdd s x) (hc : Coupled s q view) :
    Coupled x (queueAfter s q) (viewAfter s view s.ldr.removeLTE) := by
  have hc' : Coupled s (queueAfter s q) view := by
    intro r hr
    unfold queueAfter
    rw [latest_filter_keep _ q r.id _ (fun e _ he => by
      show hasIdB s e.1 = true
      rw [he]; exact (hasIdB_iff s r.id).mpr ⟨r, hr, rfl⟩)]
    exact hc r hr
  intro r hr
  have inh : Inh s r.id r.removeLTE →
      latest (queueAfter s q) r.id r.removeLTE = viewAfter s view s.ldr.removeLTE r.id := by
    rintro ⟨r0, h0, e1, e2⟩
    unfold viewAfter
    rw [if_pos ((hasIdB_iff s r.id).mpr ⟨r0, h0, e1⟩), ← e1, ← e2]
    exact hc' r0 h0
  rcases hf.2 r hr with e | e
  · by_cases hid : HasId s r.id
    · exact inh (hre r hr hid)
    · have hb : hasIdB s r.id = false := by
        cases hh : hasIdB s r.id with
        | false => rfl
        | true => exact absurd ((hasIdB_iff s r.id).mp hh) hid
      unfold viewAfter queueAfter
      rw [hb, e]
      simp only [Bool.false_eq_true, if_false]
      exact latest_filter_drop _ q r.id _ (fun x _ hx => by show hasIdB s x.1 = false; rw [hx]; exact hb)
  · exact inh e

/-- an operation a leader handles, other than `shutdown`, `install`, and batches of replication updates that are not the
batch of the waiting reports -/
inductive LOp (q : List (Nat × Nat)) : Op → Prop
  | frame (op : Op) : StepClosedG.FOp op → (∀ m, op ≠ .install m) → LOp q op
  | snapTaken : LOp q .snapTaken
  | reports : LOp q (.replUpdates (rmBatch q))

theorem TK_of_ordered {s : Node} (ho : Order.Ordered s) :
    TK s.log.prev s.snapIndex (s.log.entries.take (s.snapIndex - s.log.prev)) s := by
  refine ⟨rfl, rfl, rfl, ?_, wsegs_of_segsOK ho.segs⟩
  have h1 := ho.snap_le_applied
  have h2 := ho.applied_le_commit
  have h3 := ho.commit_le_last
  have h4 := ho.last_eq
  unfold NLog.last at h4
  omega

theorem step_prev_same (s : Node) (op : Op) (ra : List Nat) (ord : List (List Nat)) (ho : Order.Ordered s)
    (hop : StepClosedNC.NCOp op) : (s.step op ra ord).log.prev = s.log.prev :=
  ((TK_closed s.log.prev s.snapIndex ho.prev_le_snap _).step_inv s op ra ord hop (TK_of_ordered ho)).1

/-- the operations of the frame other than `install` and `snapRun` do not compact -/
theorem ncOp_of_fop {op : Op} (hf : StepClosedG.FOp op) (hni : ∀ m, op ≠ .install m) (hsr : op ≠ .snapRun) :
    StepClosedNC.NCOp op := by
  cases op <;> first | trivial | exact hf.elim | exact absurd rfl (hni _) | exact absurd rfl hsr

theorem leader_step_keeps_views (s : Node) (op : Op) (ra : List Nat) (ord : List (List Nat))
    (q : List (Nat × Nat)) (view : Nat → Nat)
    (ho : Order.Ordered s) (hl : s.role = .leader) (hC : C06Cache.LeaderCache s)
    (hc : Coupled s q view) (hop : LOp q op)
    (hre : StepClosedG.FOp op → NoReAdd (s.begin ra ord) ((s.begin ra ord).handle op))
    (hp : (s.step op ra ord).panicked = none) (hl' : (s.step op ra ord).role = .leader) :
    ∃ q' view',
      Coupled (s.step op ra ord) q' view' ∧
      -- the ghost: a new leadership, or the same goroutines with their views (new ones at the bound)
      ((NewLeadership (s.step op ra ord) ∧ q' = [] ∧ ∀ j, view' j = (s.step op ra ord).ldr.removeLTE) ∨
       ((q' = queueAfter s q ∨ q' = []) ∧ view' = viewAfter s view (s.step op ra ord).ldr.removeLTE)) ∧
      -- the first index of the log
      ((s.step op ra ord).log.prev = s.log.prev ∨
       (∀ r ∈ (s.step op ra ord).ldr.repls, (s.step op ra ord).log.prev ≤ view' r.id) ∨
       (op = .snapTaken ∧ ∀ r ∈ s.ldr.repls, (s.step op ra ord).log.prev ≤ r.matchIndex)) := by
  have hb : (s.begin ra ord).role = .leader := hl
  have hcb : Coupled (s.begin ra ord) q view := hc
  cases hop with
  | frame op hf hni =>
    by_cases hr : ((s.begin ra ord).handle op).role = .leader
    · -- the same leadership
      have e := step_eq_handle s op ra ord (by rw [hr, hb])
      have hfr := handle_status_frame (s.begin ra ord) op hf
      have hcp := coupled_of_frame' (s.begin ra ord) _ q view hfr (hre hf) hcb
      have hR : (s.step op ra ord).ldr.removeLTE = s.ldr.removeLTE := by rw [e]; exact hfr.1
      refine ⟨queueAfter s q, viewAfter s view s.ldr.removeLTE, by rw [e]; exact hcp,
        Or.inr ⟨Or.inl rfl, by rw [hR]⟩, Or.inl ?_⟩
      by_cases hsr : op = .snapRun
      · subst hsr
        rw [SnapSim.snapRun_step_eq, (SnapInv2.snapRun_frame _).1]
        rfl
      · exact step_prev_same s op ra ord ho (ncOp_of_fop hf hni hsr)
    · -- a new leadership
      have hn := step_new_leadership s op ra ord hl hr (by intro e; rw [e] at hf; exact hf) hl'
      obtain ⟨c1, c2⟩ := newLeadership_coupled _ hn
      exact ⟨[], fun _ => (s.step op ra ord).ldr.removeLTE, c1, Or.inl ⟨hn, rfl, fun _ => rfl⟩, Or.inr (Or.inl c2)⟩
  | snapTaken =>
    have e := SnapSim.snapTaken_step_eq s ra ord
    obtain ⟨f1, f2⟩ := snapTaken_status_frame (s.begin ra ord) ho.segs
    have hcp : Coupled (s.begin ra ord).onSnapshotTaken q view :=
      snapTaken_keeps_coupled _ q view ho.segs hcb
    refine ⟨queueAfter s q, viewAfter s view (s.step .snapTaken ra ord).ldr.removeLTE, ?_, Or.inr ⟨Or.inl rfl, rfl⟩, ?_⟩
    · rw [e]
      intro r hr
      have hr' : r ∈ s.ldr.repls := by rw [f1] at hr; exact hr
      have hid : hasIdB s r.id = true := (hasIdB_iff s r.id).mpr ⟨r, hr', rfl⟩
      unfold viewAfter queueAfter
      rw [if_pos hid, latest_filter_keep _ q r.id _ (fun x _ hx => by show hasIdB s x.1 = true; rw [hx]; exact hid)]
      exact hcp r hr
    · rw [e]
      rcases f2 with h | h
      · exact Or.inl h
      · exact Or.inr (Or.inr ⟨rfl, h hb⟩)
  | reports =>
    have hs : LC.Sorted (s.begin ra ord).ldr.repls := ((C06Cache.cacheOK_iff s).mp (hC hl)).sortedRepls
    obtain ⟨i1, i2, i3, i4, i5, i6, i7⟩ := replUpdLoop_reports view q (s.begin ra ord) {} hs hcb
    have hpre := updPre_reports view q (s.begin ra ord) hs hcb
    -- the step without the compaction is the state after the loop
    have hz : stepNC s (rmBatch q) ra ord = (replUpdLoop (s.begin ra ord) {} (rmBatch q)).1 := by
      have hst : (replUpdLoop (s.begin ra ord) {} (rmBatch q)).2.stop = false := i3
      rw [stepNC_go s (rmBatch q) ra ord hb hst, hpre]
      unfold updFin updTail
      rw [i1, i2]
      simp only [Bool.false_eq_true, or_self, false_and, if_false]
      rw [settle_succ, if_pos (by rw [i6]; exact hb)]
    have hldr : (s.step (.replUpdates (rmBatch q)) ra ord).ldr = (replUpdLoop (s.begin ra ord) {} (rmBatch q)).1.ldr := by
      rcases step_rm_real s (rmBatch q) ra ord with e | hcm
      · rw [e, hz]
      · rw [hcm.step, ← hz]; rfl
    refine ⟨[], viewAfter s view (s.step (.replUpdates (rmBatch q)) ra ord).ldr.removeLTE, ?_,
      Or.inr ⟨Or.inr rfl, rfl⟩, ?_⟩
    · intro r hr
      rw [hldr] at hr
      obtain ⟨r0, h0, e0⟩ := i7 r hr
      unfold viewAfter
      rw [if_pos ((hasIdB_iff s r.id).mpr ⟨r0, h0, e0⟩)]
      exact i4 r hr
    · rcases reports_only_keeps_views s q view ra ord ho hl hC hc hp with e | hk
      · left
        rw [e]
        exact ((TK_closed s.log.prev s.snapIndex ho.prev_le_snap _).stepNC_inv s (rmBatch q) ra ord
          (TK_of_ordered ho)).1
      · right; left
        intro r hr
        rw [hldr] at hr
        obtain ⟨r0, h0, e0⟩ := i7 r hr
        unfold viewAfter
        rw [if_pos ((hasIdB_iff s r.id).mpr ⟨r0, h0, e0⟩), ← e0]
        exact hk r0 h0

end SnapDelay
end Raft
