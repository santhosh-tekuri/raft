/-
C16 with membership changes, node level, part B — every case of `handle` run by a leader, for EVERY operation of the
model with membership changes (`LogRel.OpOK`: no snapshot operation; client batches may hold anything, configuration
change requests are handled by `leader.onChangeConfig`): if the handler of a leader ends in the leader role with a transfer
in progress, then the log, the last index / term and the LATEST configuration are as they were when the handler started
(`handle_frozen`); the same for a whole step (`step_frozen`).
-/
import RaftVerif.Lemmas.TransferMemberA
import RaftVerif.Lemmas.LeaderSide
import RaftVerif.Lemmas.HandleKind

namespace Raft
namespace TransferMember
open Node SysMore LogRel

def Keep (s s' : Node) : Prop := lq s' = lq s ∧ s'.ldr = s.ldr

theorem Keep.refl (s : Node) : Keep s s := ⟨rfl, rfl⟩

theorem Keep.frozen {b s s' : Node} (k : Keep s s') (h : Frozen b s) : Frozen b s' := frozen_congr h k.1 k.2

theorem keep_panic (s : Node) (site : String) : Keep s (s.panic site) := ⟨lq_panic s site, ldr_panic s site⟩

theorem keep_reply (s : Node) (t : Nat) (r : String) : Keep s (s.reply t r) := ⟨lq_reply s t r, ldr_reply s t r⟩

theorem keep_setVotedFor (s : Node) (t c : Nat) : Keep s (s.setVotedFor t c) := by
  rw [Node.setVotedFor_shape]
  exact ⟨rfl, rfl⟩

theorem keep_setTerm (s : Node) (t : Nat) : Keep s (s.setTerm t) := by
  rw [Node.setTerm_shape]
  exact ⟨rfl, rfl⟩

theorem frozenQuiet (b : Node) (op : Op) : QuietClosed op (Frozen b) where
  panic := fun _ _ h => (keep_panic _ _).frozen h
  setRole := fun s _ h _ => Keep.frozen (s := s) ⟨rfl, rfl⟩ h
  setLeader := fun s _ h => Keep.frozen (s := s) ⟨rfl, rfl⟩ h
  ret := fun s _ h => Keep.frozen (s := s) ⟨rfl, rfl⟩ h
  rpcReply := fun s _ h => Keep.frozen (s := s) ⟨rfl, rfl⟩ h
  votesNeeded := fun s _ h => Keep.frozen (s := s) ⟨rfl, rfl⟩ h
  candTransfer := fun s _ h => Keep.frozen (s := s) ⟨rfl, rfl⟩ h
  setTerm := fun _ _ h => (keep_setTerm _ _).frozen h
  vote := fun _ _ _ h _ => (keep_setVotedFor _ _ _).frozen h
  reply := fun _ _ _ h => (keep_reply _ _ _).frozen h
  snapPending := fun s _ h => Keep.frozen (s := s) ⟨rfl, rfl⟩ h

theorem frozen_ldr {b s : Node} (l : Leader) (h : Frozen b s) (hl : l.transfer.active = true → s.ldr.transfer.active = true) :
    Frozen b (s.withLdr l) := fun ha => h (hl ha)

theorem frozen_idle {b s : Node} (h : s.ldr.transfer = {}) : Frozen b s := by
  intro ha
  rw [h] at ha
  cases ha


theorem frozenSide (b : Node) : LeaderSide (Frozen b) where
  panic := fun _ _ h => (keep_panic _ _).frozen h
  reply := fun _ _ _ h => (keep_reply _ _ _).frozen h
  popOrder := (frozen_closed b).popOrder
  transfer := fun _ _ h hl => frozen_ldr _ h hl
  report := fun s _ r _ h _ _ _ _ => (frozen_closed b).setRepl_inv s r h
  stepDown := fun s _ h => (keep_setTerm _ _).frozen (Keep.frozen (s := s) ⟨rfl, rfl⟩ h)
  checkQuorum := (frozenQuiet b .timeout).checkQuorum_inv
  checkConfigAction := fun f s t id h => (frozen_closed b).checkConfigAction_inv f s t _ id h
  checkConfigActions := fun f s t h => (frozen_closed b).checkConfigActions_inv f s t _ h
  onMajorityCommit := (frozen_closed b).onMajorityCommit_inv

theorem onChangeConfig_frozen (b s : Node) (t : Nat) (c : Config) (hs : Frozen b s) : Frozen b (s.onChangeConfig t c) :=
  onChangeConfig_of (frozen_closed b).reply (fun s t c => (frozen_closed b).checkConfigActions_inv _ s t c)
    (fun s t c => (frozen_closed b).doChangeConfig_inv _ s t c) s t c hs

theorem handle_frozen (b : Node) (op : Op) (hok : OpOK op) (hl : b.role = .leader)
    (hr : (b.handle op).role = .leader) : Frozen b (b.handle op) := by
  have h0 : Frozen b b := fun _ => rfl
  have R := frozenQuiet b op
  cases handle_kind b op with
  | quiet q => exact q _ R h0
  | ldr _ c =>
    generalize b.handle op = h at c ⊢
    cases c with
    | store batch => exact (frozen_closed b).storeEntry_inv _ _ _ h0
    | change t c => exact onChangeConfig_frozen b b t c h0
    | wait t =>
      unfold Node.onWaitForStable
      exact ite_ind (fun _ => R.reply _ _ _ h0) fun _ => (frozen_closed b).ldr _ _ h0 rfl
    | transfer t g =>
      unfold Node.onTransfer
      exact ite_ind (fun _ => R.reply _ _ _ h0) fun _ => (frozenSide b).tryTransfer_inv _ (fun _ => rfl)
    | transferTimeout _ => exact frozen_idle (replyTransfer_transfer _ _)
    | timeoutNowResult src err r _ => exact (frozenSide b).onTimeoutNowResult_inv b _ _ _ h0
    | newTermTimeout _ => exact (frozenSide b).tryTransfer_inv _ (frozen_ldr _ h0 (fun h => h))
    | repl us =>
      exact (frozenSide b).checkReplUpdates_inv b us (fun hf => by rw [replUpdLoop_flag us hok] at hf; cases hf) h0
  | special sp =>
    cases sp with
    | append q =>
      unfold Node.handle at hr ⊢
      dsimp only at hr ⊢
      by_cases hq : q.term < b.term
      · rw [C04.stale_append_refused b q hq]
        exact R.rpcDone_inv _ _ _ (R.ret _ _ h0)
      · rw [C06Cache.role_rpcDone, onAppendEntries_role b q hq] at hr
        cases hr
    | bootstrap t c hn _ => exact absurd hl hn
    | _ => exact absurd hok (by simp [OpOK])


/-- **every case of `handle`, run by a leader, for the operations of the model with membership changes**: the
classification `SysMore.HEnd` (the transfer record is kept / the handler ends with `tryTransfer` / it ends with
`replyTransfer r`, `r ≠ "ok"`). -/
theorem handle_endM (b : Node) (op : Op) (hok : OpOK op) (hl : b.role = .leader) : HEnd b (b.handle op) :=
  handle_end_of b op hok hl

/-- **C16, node level, while a transfer is in progress the leader stores nothing** — for EVERY state `s` of a node
in the leader role, every operation of the model with membership changes (`LogRel.OpOK`; client batches, configuration
change requests, reports of the replications — which drive promotions / removals —, commits), every oracle: if AFTER
the step a transfer is in progress (`ldr.transfer.active`), then
* the handler ended in the leader role, the step is the handler, the node is still leader, and
* the log (entries, first index), the last index and term and the LATEST configuration are those before the step:
  no client entry and no configuration entry was appended, no configuration adopted.
(With `handle_endM`: the transfer in progress after the step is the one that was in progress before, or was started
by this very step, which then did nothing else.) -/
theorem step_frozen (s : Node) (op : Op) (ra : List Nat) (ord : List (List Nat)) (hok : OpOK op)
    (hl : s.role = .leader) (ha : (s.step op ra ord).ldr.transfer.active = true) :
    ((s.begin ra ord).handle op).role = .leader ∧ s.step op ra ord = (s.begin ra ord).handle op ∧
    lq (s.step op ra ord) = lq s := by
  have hne : op ≠ .shutdown := by intro e; rw [e] at hok; exact hok
  have hst := Node.step_eq_settle s op ra ord hne
  rw [hl] at hst
  have hlb : (s.begin ra ord).role = .leader := hl
  by_cases hr : ((s.begin ra ord).handle op).role = .leader
  · have hp := Node.step_same_role s op ra ord (hr.trans hl.symm)
    refine ⟨hr, hp, ?_⟩
    rw [hp] at ha ⊢
    exact handle_frozen (s.begin ra ord) op hok hlb hr ha
  · have := settle_left_noTransfer 5 _ hr
    rw [← hst] at this
    rw [this] at ha
    cases ha

end TransferMember
end Raft
