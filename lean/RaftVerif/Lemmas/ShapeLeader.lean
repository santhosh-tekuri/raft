/-
The leader's and the candidate's handlers in the style of Lemmas/Shape.lean: which fields `startElection`, `tryTransfer`,
`transferReply`, `leader.release` and `checkQuorum` write; what `checkConfigAction` proposes (`actionConfig`,
`nextAction`); and `leader.onChangeConfig` by cases (`onChangeConfig_cases`, with the checks a request has passed,
`Admits`); the compaction flag of `checkReplUpdates` (`replUpdLoop_flag`); `Config.insertSorted`; the item `storeItems`
queues (`stamp`, `enq`) and the loops of `leader.init` / `leader.changeConfig` (`LC.initPre`, `LC.initBody`, `LC.changePre`,
`LC.changeBody`) under the names the walks quote.
-/
import RaftVerif.Lemmas.Shape

namespace Raft
namespace Node

theorem startElection_shape (s : Node) :
    s.startElection =
      { s with term := s.startElection.term, votedFor := s.startElection.votedFor,
               durTerm := s.startElection.durTerm, durVote := s.startElection.durVote,
               trace := s.startElection.trace, panicked := s.startElection.panicked,
               votesNeeded := s.startElection.votesNeeded, role := s.startElection.role,
               leader := s.startElection.leader } := by
  unfold startElection; dsimp only
  have e1 := assert_shape s (s.configs.latest.isVoter s.nid) "assert.startElection"
  generalize s.assert (s.configs.latest.isVoter s.nid) "assert.startElection" = s1 at e1 ⊢
  generalize e2 : s1.withVotesNeeded s1.configs.latest.quorum = s2
  have e3 := setVotedFor_shape s2 (s2.term + 1) s2.nid
  generalize s2.setVotedFor (s2.term + 1) s2.nid = s3 at e3 ⊢
  split <;> rw [e3, ← e2, e1] <;> rfl

theorem tryTransfer_shape (s : Node) :
    s.tryTransfer =
      { s with ldr := { s.ldr with transfer := { s.ldr.transfer with
                          respPending := s.tryTransfer.ldr.transfer.respPending } },
               orders := s.tryTransfer.orders, panicked := s.tryTransfer.panicked } := by
  unfold tryTransfer
  dsimp only
  split <;> split <;> split <;> first | rfl | (rw [panic_shape] <;> rfl)

theorem transferReply_shape (s : Node) (r : String) :
    s.transferReply r = { s with replies := (s.transferReply r).replies, ldr := (s.transferReply r).ldr } := by
  unfold transferReply
  dsimp only
  rw [reply_shape]
  rfl

theorem foldl_reply_shape {α : Type} (g : α → Nat) (err : String) (xs : List α) : ∀ a : Node,
    xs.foldl (fun s q => s.reply (g q) err) a =
      { a with replies := (xs.foldl (fun s q => s.reply (g q) err) a).replies } := by
  induction xs with
  | nil => intro a; rfl
  | cons x xs ih =>
    intro a
    rw [List.foldl_cons, ih, reply_shape]

theorem leaderReleaseRest_shape (s : Node) :
    s.leaderReleaseRest =
      { s with leader := s.leaderReleaseRest.leader, replies := s.leaderReleaseRest.replies,
               ldr := s.leaderReleaseRest.ldr } := by
  unfold leaderReleaseRest
  extract_lets s1 err s2 s3
  have e1 : s1 = { s with leader := s1.leader } := by unfold s1; split <;> rfl
  have e2 : s2 = { s1 with replies := s2.replies } := foldl_reply_shape (fun q : QItem => q.task) err _ s1
  have e3 : s3 = { s2 with replies := s3.replies } := foldl_reply_shape (fun t : Nat => t) err _ s2
  clear_value s1 s2 s3
  rw [e3, e2, e1]
  rfl

theorem leaderRelease_shape (s : Node) :
    s.leaderRelease =
      { s with leader := s.leaderRelease.leader, replies := s.leaderRelease.replies, ldr := s.leaderRelease.ldr } := by
  unfold leaderRelease
  rw [leaderReleaseRest_shape]
  split
  · rw [transferReply_shape]
  · rfl

/-- the end of `startElection` and of a granted vote in `onVoteResult`: the last vote needed makes a leader -/
theorem leaderIfNoVotesNeeded_shape (x : Node) :
    (if x.votesNeeded = 0 then (x.setRole .leader).setLeader x.nid else x) =
      { x with role := (if x.votesNeeded = 0 then .leader else x.role),
               leader := (if x.votesNeeded = 0 then x.nid else x.leader) } := by
  split <;> rfl

/-- The checks of `leader.onChangeConfig` that a submitted configuration `c` has passed when the leader acts on it. -/
structure Admits (s : Node) (c : Config) : Prop where
  committed : s.configs.isCommitted = true
  ready : ¬ s.commitIndex < s.ldr.startIndex
  index : c.index = s.configs.latest.index
  valid : configValid c = true
  voters : ¬ (s.configs.latest.nodes.any (fun n => match c.find? n.id with
      | none => true
      | some nn => n.voter != nn.voter)) = true
  added : ¬ (c.nodes.any (fun n => !s.configs.latest.has n.id && n.voter)) = true
  anchor : ¬ (!c.nodes.any (fun n => n.voter && n.action == actNone)) = true

/-- `leader.onChangeConfig` either answers the request at once, or the configuration has passed every check and the
leader block runs: `checkConfigActions`, then `doChangeConfig` unless an action has appended an entry. -/
theorem onChangeConfig_cases {P : Node → Prop} (s : Node) (t : Nat) (c : Config) (reply : ∀ r, P (s.reply t r))
    (act : Admits s c →
      let s1 := checkConfigActions (fuelFor 0) s t c
      P (if s1.lastLogIndex = s.lastLogIndex then doChangeConfig (fuelFor 1) s1 t c else s1)) :
    P (s.onChangeConfig t c) := by
  unfold onChangeConfig
  by_cases h1 : (!s.configs.isCommitted) = true
  · rw [if_pos h1]; exact reply _
  rw [if_neg h1]
  by_cases h2 : s.commitIndex < s.ldr.startIndex
  · rw [if_pos h2]; exact reply _
  rw [if_neg h2]
  by_cases h3 : c.index ≠ s.configs.latest.index
  · rw [if_pos h3]; exact reply _
  rw [if_neg h3]
  by_cases h4 : (!configValid c) = true
  · rw [if_pos h4]; exact reply _
  rw [if_neg h4]
  split
  · exact reply _
  rename_i h5
  split
  · exact reply _
  rename_i h6
  split
  · exact reply _
  rename_i h7
  exact act ⟨by simpa using h1, h2, Decidable.not_not.mp h3, by simpa using h4, h5, h6, h7⟩

/-- a request that fails one of the seven checks is answered and nothing else happens -/
theorem onChangeConfig_rejected (s : Node) (t : Nat) (c : Config) (h : ¬ Admits s c) :
    ∃ r, s.onChangeConfig t c = s.reply t r :=
  onChangeConfig_cases (P := fun x => ∃ r, x = s.reply t r) s t c (fun r => ⟨r, rfl⟩) fun ad => absurd ad h

theorem checkQuorum_shape (s : Node) :
    s.checkQuorum = { s with role := s.checkQuorum.role, leader := s.checkQuorum.leader,
                             panicked := s.checkQuorum.panicked } := by
  unfold checkQuorum
  dsimp only
  split <;> split <;> first | rfl | (rw [panic_shape] <;> rfl)

/-- What `checkConfigAction` proposes: a promotion or a demotion rewrites the entry of the node, a removal erases it. -/
theorem actionConfig_eq_some {I : Nat} {cfg : Config} {n : CNode} {a : Nat} {st : Repl} {c : Config}
    (h : actionConfig I cfg n a st = some c) :
    (a = actPromote ∧ c = cfg.set { n with voter := true, action := actNone }) ∨
    ((a = actRemove ∨ a = actForceRemove) ∧ c = cfg.erase n.id) ∨
    (a = actDemote ∧
      c = cfg.set { n with voter := false, action := if n.action = actDemote then actNone else n.action }) := by
  unfold actionConfig at h
  by_cases h1 : a = actPromote
  · rw [if_pos h1] at h
    exact Or.inl ⟨h1, (Option.some.inj h).symm⟩
  rw [if_neg h1] at h
  by_cases h2 : a = actRemove
  · rw [if_pos h2] at h
    by_cases h3 : st.matchIndex ≥ I
    · rw [if_pos h3] at h
      exact Or.inr (Or.inl ⟨Or.inl h2, (Option.some.inj h).symm⟩)
    · rw [if_neg h3] at h
      cases h
  rw [if_neg h2] at h
  by_cases h4 : a = actForceRemove
  · rw [if_pos h4] at h
    exact Or.inr (Or.inl ⟨Or.inr h4, (Option.some.inj h).symm⟩)
  rw [if_neg h4] at h
  by_cases h5 : a = actDemote
  · rw [if_pos h5] at h
    exact Or.inr (Or.inr ⟨h5, (Option.some.inj h).symm⟩)
  · rw [if_neg h5] at h
    cases h

/-- `checkConfigAction` proposes nothing: a removal that waits for the follower, or no action at all. -/
theorem actionConfig_eq_none {I : Nat} {cfg : Config} {n : CNode} {a : Nat} {st : Repl}
    (h : actionConfig I cfg n a st = none) :
    (a = actRemove ∧ st.matchIndex < I) ∨
    (a ≠ actPromote ∧ a ≠ actRemove ∧ a ≠ actForceRemove ∧ a ≠ actDemote) := by
  unfold actionConfig at h
  by_cases h1 : a = actPromote
  · rw [if_pos h1] at h; cases h
  rw [if_neg h1] at h
  by_cases h2 : a = actRemove
  · rw [if_pos h2] at h
    by_cases h3 : st.matchIndex ≥ I
    · rw [if_pos h3] at h; cases h
    · exact Or.inl ⟨h2, Nat.lt_of_not_le h3⟩
  rw [if_neg h2] at h
  by_cases h4 : a = actForceRemove
  · rw [if_pos h4] at h; cases h
  rw [if_neg h4] at h
  by_cases h5 : a = actDemote
  · rw [if_pos h5] at h; cases h
  · exact Or.inr ⟨h1, h2, h4, h5⟩

theorem nextAction_cases (n : CNode) :
    n.nextAction = actNone ∨ n.nextAction = actPromote ∨ n.nextAction = actRemove ∨
    n.nextAction = actForceRemove ∨ n.nextAction = actDemote := by
  unfold CNode.nextAction
  split
  · exact Or.inr (Or.inr (Or.inr (Or.inl rfl)))
  · split
    · split
      · exact Or.inr (Or.inr (Or.inr (Or.inr rfl)))
      · exact Or.inl rfl
    · split
      · rename_i h
        rcases h with h | h
        · exact Or.inr (Or.inl h)
        · exact Or.inr (Or.inr (Or.inl h))
      · exact Or.inl rfl

/-- a batch in which no update reports a compaction leaves the compaction flag of `checkReplUpdates` as it was
(`LogRel.NoCompact` and `SnapRelU.NoRm` are this hypothesis) -/
theorem replUpdLoop_flag (us : List ReplUpdate) (hus : ∀ u ∈ us, ∀ v, u.upd ≠ .removeLTE v) :
    ∀ (s : Node) (f : UpdFlags), (replUpdLoop s f us).2.removeLTEU = f.removeLTEU := by
  induction us with
  | nil => intro s f; rfl
  | cons u us ih =>
    intro s f
    have ih := ih fun x hx => hus x (List.mem_cons_of_mem _ hx)
    unfold replUpdLoop
    split
    · exact ih s f
    · split
      · exact ih s f
      · split
        · exact ih _ _
        · rename_i v hv; exact absurd hv (hus u (List.mem_cons_self ..) v)
        · exact ih _ _
        · rfl

/-- `storeEntry` after its loop over the batch: the head of the queue is applied if it is no log entry, and if the log grew
the rounds are brought up to date, the followers notified and — alone among the voters — the commit index moved -/
theorem storeEntry_tail_of {P : Node → Prop} {n : Nat} (applyL : ∀ s : Node, P s → P s.applyCommittedL)
    (rounds : ∀ s : Node, P s → P s.beginFinishedRounds) (notify : ∀ s : Node, P s → P s.notifyFlr)
    (mc : ∀ s, P s → P (onMajorityCommit n s)) (s : Node) (b : List QItem) (h1 : P (storeItems n s b)) :
    P (storeEntry (n + 1) s b) := by
  unfold storeEntry
  extract_lets last s1 s2
  have h2 : P s2 := by
    unfold s2
    split
    · exact ite_ind (fun _ => applyL _ h1) fun _ => h1
    · exact h1
  refine ite_ind (fun _ => ?_) fun _ => h2
  have h3 := notify _ (rounds _ h2)
  exact ite_ind (fun _ => mc _ h3) fun _ => h3

end Node
/-! `Config.insertSorted` (the insertion of `Config.set`): its members, and that it keeps the node list sorted by id -/
namespace Config

theorem mem_insertSorted {n x : CNode} {l : List CNode} (h : x ∈ insertSorted n l) : x = n ∨ x ∈ l := by
  induction l with
  | nil => simp [insertSorted] at h; exact Or.inl h
  | cons m ms ih =>
    unfold insertSorted at h
    split at h
    · rcases List.mem_cons.mp h with e | e
      · exact Or.inl e
      · exact Or.inr e
    · split at h
      · rcases List.mem_cons.mp h with e | e
        · exact Or.inl e
        · exact Or.inr (List.mem_cons_of_mem _ e)
      · rcases List.mem_cons.mp h with e | e
        · exact Or.inr (e ▸ List.mem_cons_self)
        · rcases ih e with e' | e'
          · exact Or.inl e'
          · exact Or.inr (List.mem_cons_of_mem _ e')

theorem sorted_insertSorted (m : CNode) (l : List CNode) (h : l.Pairwise (fun a b => a.id < b.id)) :
    (insertSorted m l).Pairwise (fun a b => a.id < b.id) := by
  induction l with
  | nil => simp [insertSorted]
  | cons a as ih =>
    have ha := List.pairwise_cons.mp h
    unfold insertSorted
    split
    · rename_i hlt
      refine List.pairwise_cons.mpr ⟨?_, h⟩
      intro x hx
      rcases List.mem_cons.mp hx with hx | hx
      · rw [hx]; exact hlt
      · exact Nat.lt_trans hlt (ha.1 x hx)
    · split
      · rename_i heq
        refine List.pairwise_cons.mpr ⟨?_, ha.2⟩
        intro x hx
        rw [heq]; exact ha.1 x hx
      · rename_i hnl hne
        refine List.pairwise_cons.mpr ⟨?_, ih ha.2⟩
        intro x hx
        rcases mem_insertSorted hx with hx | hx
        · rw [hx]; omega
        · exact ha.1 x hx

end Config

namespace Node

/-- the item `storeItems` queues for the batch entry `q` -/
abbrev stamp (s : Node) (q : QItem) : QItem :=
  { q with index := s.lastLogIndex + 1, term := s.term, cfg := q.cfg.map Config.payload }

/-- `q` joins the leader queue -/
abbrev enq (s : Node) (q : QItem) : Node := s.withLdr { s.ldr with queue := s.ldr.queue ++ [q] }

namespace LC

/-- the loop body of `leader.init` -/
def initBody (s : Node) (n : CNode) : Node := if n.id = s.nid then s else s.addReplication n

/-- the loop body of `leader.changeConfig` -/
def changeBody (s : Node) (n : CNode) : Node :=
  if n.id = s.nid then s
  else match s.findRepl? n.id with
    | none => s.addReplication n
    | some r => s.setRepl { r with node := n }

/-- the state `leader.changeConfig` has built when its "add new repls / refresh node" loop starts -/
def changePre (s : Node) (c : Config) : Node :=
  let s := (s.withLdr ({ s.ldr with node := c.get s.nid, numVoters := c.numVoters }))
  let s := s.changeConfigR c
  (s.withLdr ({ s.ldr with repls := s.ldr.repls.filter (fun r => c.has r.id) }))

/-- the state `leader.init` has built when its "add replications" loop starts -/
def initPre (s : Node) : Node :=
  let s := s.assert (s.leader == s.nid) "assert.leaderInit"
  (s.withLdr ({ node := s.configs.latest.get s.nid, numVoters := s.configs.latest.numVoters,
                startIndex := s.lastLogIndex + 1, removeLTE := s.log.prev,
                queue := [], repls := [], transfer := {}, waitStable := [] }))

end LC
end Node

end Raft
