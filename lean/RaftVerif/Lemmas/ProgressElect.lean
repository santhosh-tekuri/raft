/-
The election part of the possibility proof (Props/C17Sys.lean), on the cluster-level system: enabling conditions of
the operations the constructed run uses, and the phases
  A  every node of the live majority `M` is made a follower (a stale leader by a `newTerm` report of one of its
     replications, a candidate by a vote response carrying a newer term) and then times out once;
  B  the node `w` with the most up-to-date log catches up with the highest term and times out (again);
  C  every other node of `M` grants its vote to `w`;
  D  `w` counts votes until it is leader.
-/
import RaftVerif.Lemmas.ProgressSys

namespace Raft
namespace Progress
open Node CommitRel Commit C02Sys SysInv

/-- length of the run, who acts, and how many election timeouts each node uses -/
structure RunOK (M : List Nat) (ls : List Lbl) (len : Nat) (tmo : Nat → Nat) : Prop where
  len : ls.length ≤ len
  actors : ∀ l ∈ ls, l.actor ∈ M
  timeouts : ∀ i, (ls.filter (Lbl.isTimeoutOf i)).length ≤ tmo i

theorem RunOK.nil (M : List Nat) : RunOK M [] 0 (fun _ => 0) :=
  ⟨Nat.le_refl _, fun _ h => absurd h List.not_mem_nil, fun _ => Nat.le_refl _⟩

theorem RunOK.append {M : List Nat} {l1 l2 : List Lbl} {n1 n2 : Nat} {t1 t2 : Nat → Nat} (h1 : RunOK M l1 n1 t1)
    (h2 : RunOK M l2 n2 t2) : RunOK M (l1 ++ l2) (n1 + n2) (fun i => t1 i + t2 i) := by
  refine ⟨?_, ?_, fun i => ?_⟩
  · rw [List.length_append]; exact Nat.add_le_add h1.len h2.len
  · intro l hl
    rcases List.mem_append.mp hl with h | h
    · exact h1.actors l h
    · exact h2.actors l h
  · rw [List.filter_append, List.length_append]
    exact Nat.add_le_add (h1.timeouts i) (h2.timeouts i)

theorem RunOK.mono {M : List Nat} {ls : List Lbl} {n n' : Nat} {t t' : Nat → Nat} (h : RunOK M ls n t)
    (hn : n ≤ n') (ht : ∀ i, t i ≤ t' i) : RunOK M ls n' t' :=
  ⟨Nat.le_trans h.len hn, h.actors, fun i => Nat.le_trans (h.timeouts i) (ht i)⟩

theorem RunOK.single {M : List Nat} {ls : List Lbl} {i n k : Nat} (hi : i ∈ M) (hl : ls.length ≤ n)
    (ha : ∀ l ∈ ls, l.actor = i) (ht : (ls.filter Lbl.isTimeout).length ≤ k) :
    RunOK M ls n (fun j => if j = i then k else 0) := by
  refine ⟨hl, fun l h => by rw [ha l h]; exact hi, fun j => ?_⟩
  by_cases hj : j = i
  · rw [if_pos hj]
    rw [← List.countP_eq_length_filter] at ht ⊢
    exact Nat.le_trans (List.countP_mono_left fun l _ hl' => Lbl.isTimeout_of_isTimeoutOf hl') ht
  · rw [if_neg hj]
    apply Nat.le_of_eq
    rw [List.length_eq_zero_iff, List.filter_eq_nil_iff]
    intro l hl' ht'
    have ha' := ha l hl'
    cases l with
    | step a op _ _ _ =>
      cases op <;> first | cases ht' | skip
      have e : a = j := by simpa [Lbl.isTimeoutOf] using ht'
      have e' : a = i := ha'
      exact hj (by rw [← e, e'])
    | send _ _ => cases ht'

theorem RunOK.quiet {M : List Nat} {ls : List Lbl} {n : Nat} (hl : ls.length ≤ n) (ha : ∀ l ∈ ls, l.actor ∈ M)
    (ht : ls.filter Lbl.isTimeout = []) : RunOK M ls n (fun _ => 0) := by
  refine ⟨hl, ha, fun i => Nat.le_of_eq ?_⟩
  rw [List.length_eq_zero_iff, List.filter_eq_nil_iff]
  intro l hl' hi
  have : l ∈ ls.filter Lbl.isTimeout := List.mem_filter.mpr ⟨hl', Lbl.isTimeout_of_isTimeoutOf hi⟩
  rw [ht] at this
  exact absurd this List.not_mem_nil

theorem RunOK.one {M : List Nat} (l : Lbl) (ha : l.actor ∈ M) (ht : l.isTimeout = false) :
    RunOK M [l] 1 (fun _ => 0) :=
  .quiet (Nat.le_refl _) (fun l' hl => by rw [List.mem_singleton.mp hl]; exact ha) (List.filter_cons_of_neg (by rw [ht]; exact Bool.false_ne_true))

theorem RunOK.subset {M M' : List Nat} {ls : List Lbl} {n : Nat} {t : Nat → Nat} (h : RunOK M ls n t)
    (hs : ∀ i ∈ M, i ∈ M') : RunOK M' ls n t :=
  ⟨h.len, fun l hl => hs _ (h.actors l hl), h.timeouts⟩

theorem RunOK.noTimeout {M : List Nat} {ls : List Lbl} {n : Nat} {t : Nat → Nat} (h : RunOK M ls n t)
    (h0 : ∀ i, t i = 0) : ls.filter Lbl.isTimeout = [] := by
  rw [List.filter_eq_nil_iff]
  intro l hl ht
  have := h.timeouts l.actor
  rw [h0, Nat.le_zero, List.length_eq_zero_iff, List.filter_eq_nil_iff] at this
  apply this l hl
  cases l with
  | step a op _ _ _ => cases op <;> first | exact beq_self_eq_true a | cases ht
  | send _ _ => cases ht

section enabled
variable {y : Commit.Sys} {i : Nat}

theorem enabled_timeout (hi : i ≠ 0) : Commit.Enabled y i .timeout 0 ∧ EnabledG y i .timeout :=
  enabled_iff.mpr ⟨hi, trivial⟩

/-- a vote response carrying a term above the candidate's is not counted: nothing is asked of it -/
theorem enabled_voteResult_newer (hi : i ≠ 0) (tm res : Nat) (ht : tm > (y.node i).term) :
    Commit.Enabled y i (.voteResult false tm res) 0 ∧ EnabledG y i (.voteResult false tm res) :=
  enabled_iff.mpr ⟨hi, fun _ _ hle => absurd hle (Nat.not_le_of_gt ht)⟩

theorem enabled_newTerm (hi : i ≠ 0) (j : Nat) :
    Commit.Enabled y i (.replUpdates [{ id := j, removed := false, upd := .newTerm (y.node i).term }]) 0 ∧
    EnabledG y i (.replUpdates [{ id := j, removed := false, upd := .newTerm (y.node i).term }]) := by
  refine enabled_iff.mpr ⟨hi, fun u hu => ?_⟩
  rw [List.mem_singleton.mp hu]
  exact fun _ _ => Nat.le_refl _

end enabled

theorem numVoters_eq {V : List Nat} {x : Commit.Sys} {i : Nat} (f : Facts V x i) :
    (x.node i).configs.latest.numVoters = V.length := by
  rw [← voters_length, f.voters]

theorem quorum_ne_one {V : List Nat} {x : Commit.Sys} {i : Nat} (f : Facts V x i) (h2 : 2 ≤ V.length) :
    (x.node i).configs.latest.quorum ≠ 1 := by
  unfold Config.quorum
  rw [numVoters_eq f]
  omega

/-! ### the two operations that phases A and B share -/

section steps
variable {V : List Nat} {u y : Commit.Sys}

structure OnlyNode (y z : Commit.Sys) (i : Nat) : Prop where
  others : ∀ j, j ≠ i → z.node j = y.node j
  keep : Keep (y.node i) (z.node i)

theorem stepC_camps (i : Nat) (op : Op) (ra : List Nat) (ord : List (List Nat)) (src : Nat) :
    (stepC y i op ra ord src).camps = campOf i (y.node i) ((y.node i).step op ra ord) ++ y.camps := rfl

theorem stepC_counted (i : Nat) (op : Op) (ra : List Nat) (ord : List (List Nat)) (src : Nat) :
    (stepC y i op ra ord src).rp.el.counted = Election.countedBy i (y.node i) op src ++ y.rp.el.counted := rfl

/-- the election timeout of an open voter `w` that is not leader and, if candidate, knows no leader -/
theorem timeout_step (hV : V.Nodup) (h2 : 2 ≤ V.length) (hu : ReachableG V u) (w : Nat) (hw0 : w ≠ 0)
    (hou : (u.node w).closed = "") (hru : (u.node w).role ≠ .leader)
    (hlu : (u.node w).role = .candidate → (u.node w).leader = 0)
    (hvu : (u.node w).configs.latest.isVoter w = true) :
    ∃ z, Exec V u [.step w .timeout [] [] 0] z ∧ OnlyNode u z w ∧ (z.node w).role = .candidate ∧
      (z.node w).leader = 0 ∧ (z.node w).term = (u.node w).term + 1 ∧ (z.node w).votedFor = w ∧
      ({ cand := w, term := (u.node w).term + 1, lastIndex := (u.node w).lastLogIndex,
         lastTerm := (u.node w).lastLogTerm } : Camp) ∈ z.camps ∧
      (∀ k ∈ u.camps, k ∈ z.camps) ∧ z.rp.el.counted = u.rp.el.counted := by
  have f := facts hV hu w
  obtain ⟨he, heG⟩ := enabled_timeout (y := u) hw0
  have hex := exec_step hV hu [] [] he heG hou (fun q h => by cases h)
  have hq := quorum_ne_one f h2
  have key : ((u.node w).step .timeout [] []).role = .candidate ∧
      ((u.node w).step .timeout [] []).term = (u.node w).term + 1 ∧
      ((u.node w).step .timeout [] []).votedFor = (u.node w).nid ∧
      ((u.node w).step .timeout [] []).leader = 0 ∧ Keep (u.node w) ((u.node w).step .timeout [] []) := by
    cases hrole : (u.node w).role with
    | follower =>
      obtain ⟨a, b, c, d, _, k⟩ := timeout_makes_candidate (u.node w) [] [] hrole f.boot (by rw [f.nid]; exact hvu) hq
      exact ⟨a, b, c, d, k⟩
    | candidate =>
      obtain ⟨a, b, c, d, _, k⟩ := timeout_candidate_again (u.node w) [] [] hrole hq
      exact ⟨a, b, c, d.trans (hlu hrole), k⟩
    | leader => exact absurd hrole hru
  obtain ⟨a, b, c, d, k⟩ := key
  have ei := stepC_node_i u w .timeout [] [] 0
  refine ⟨_, hex, ⟨fun j hj => stepC_node_j _ w _ _ _ _ hj, by rw [ei]; exact k⟩, by rw [ei]; exact a,
    by rw [ei]; exact d, by rw [ei, b], by rw [ei, c, f.nid], ?_,
    fun k' hk' => by rw [stepC_camps]; exact List.mem_append_right _ hk', rfl⟩
  rw [stepC_camps]
  apply List.mem_append_left
  unfold campOf
  rw [if_pos ⟨by rw [b]; exact Nat.lt_succ_self _, by rw [c, f.nid]⟩, b]
  exact List.mem_singleton.mpr rfl

/-- a candidate receives a vote response carrying a newer term `tm` -/
theorem stepdown_step (hV : V.Nodup) (hu : ReachableG V u) (w : Nat) (hw0 : w ≠ 0) (ho : (u.node w).closed = "")
    (hr : (u.node w).role = .candidate) (tm : Nat) (ht : (u.node w).term < tm) :
    ∃ z, Exec V u [.step w (.voteResult false tm rStaleTerm) [] [] 0] z ∧ OnlyNode u z w ∧
      (z.node w).role = .follower ∧ (z.node w).term = tm ∧ (z.node w).leader = (u.node w).leader ∧
      (∀ k ∈ u.camps, k ∈ z.camps) ∧ z.rp.el.counted = u.rp.el.counted := by
  obtain ⟨he, heG⟩ := enabled_voteResult_newer (y := u) hw0 tm rStaleTerm ht
  have hex := exec_step hV hu [] [] he heG ho (fun q h => by cases h)
  obtain ⟨a, b, _, d, k⟩ := voteResult_newer_term_steps_down (u.node w) [] [] tm rStaleTerm hr ht
  have ei := stepC_node_i u w (.voteResult false tm rStaleTerm) [] [] 0
  refine ⟨_, hex, ⟨fun j hj => stepC_node_j _ w _ _ _ _ hj, by rw [ei]; exact k⟩, by rw [ei]; exact a,
    by rw [ei]; exact b, by rw [ei]; exact d, fun k' hk' => by rw [stepC_camps]; exact List.mem_append_right _ hk', ?_⟩
  rw [stepC_counted]
  unfold Election.countedBy
  dsimp only
  rw [if_neg (by intro h; exact absurd h.2.2 (by decide))]
  rfl

theorem two_labels {a b : Lbl} {i : Nat} (ha : a.actor = i) (hb : b.actor = i) :
    ∀ l ∈ [a] ++ [b], l.actor = i := by
  intro l hl
  rcases List.mem_append.mp hl with h | h <;> rw [List.mem_singleton.mp h] <;> assumption

end steps

/-! ### phase A: one node becomes a follower and times out -/

section phaseA
variable {V : List Nat} {y : Commit.Sys}

/-- **phase A for one node**: from any reachable state, an open voter `i` is brought — by at most two operations of
its own, exactly one of them an election timeout — to: candidate of a higher term, no leader known, nothing else
changed anywhere. (A follower just times out; a candidate first receives a vote response with a newer term; a
leader first receives the `newTerm` report of one of its replications.) -/
theorem normalize_node (hV : V.Nodup) (h2 : 2 ≤ V.length) (hy : ReachableG V y) (i : Nat)
    (hi0 : i ≠ 0) (ho : (y.node i).closed = "") (hvi : (y.node i).configs.latest.isVoter i = true) :
    ∃ ls z, Exec V y ls z ∧ ls.length ≤ 2 ∧ (∀ l ∈ ls, l.actor = i) ∧ (ls.filter Lbl.isTimeout).length ≤ 1 ∧
      OnlyNode y z i ∧ (z.node i).role = .candidate ∧ (z.node i).leader = 0 ∧
      (y.node i).term < (z.node i).term := by
  -- a step that makes `i` a follower without lowering its term, then the timeout
  have after : ∀ {l : Lbl} {u : Commit.Sys}, l.actor = i → l.isTimeout = false → Exec V y [l] u → OnlyNode y u i →
      (u.node i).role = .follower → (y.node i).term ≤ (u.node i).term →
      ∃ ls z, Exec V y ls z ∧ ls.length ≤ 2 ∧ (∀ l ∈ ls, l.actor = i) ∧ (ls.filter Lbl.isTimeout).length ≤ 1 ∧
        OnlyNode y z i ∧ (z.node i).role = .candidate ∧ (z.node i).leader = 0 ∧ (y.node i).term < (z.node i).term := by
    intro l u hla hlt ex1 on1 r1 t1
    obtain ⟨z, ex2, on2, r2, l2, t2, _⟩ := timeout_step hV h2 (Exec.reachable hV hy ex1) i hi0
      (by rw [on1.keep.closed]; exact ho) (by rw [r1]; exact fun e => by cases e)
      (fun e => by rw [r1] at e; cases e) (by rw [on1.keep.configs]; exact hvi)
    refine ⟨_, z, ex1.trans ex2, (by show 2 ≤ 2; omega), two_labels hla rfl, ?_,
      ⟨fun j hj => by rw [on2.others j hj, on1.others j hj], on1.keep.trans on2.keep⟩, r2, l2, by omega⟩
    show (List.filter Lbl.isTimeout ([l] ++ [_])).length ≤ 1
    rw [List.filter_append, List.filter_cons_of_neg (by rw [hlt]; exact Bool.false_ne_true)]
    exact Nat.le_refl _
  cases hr : (y.node i).role with
  | follower =>
    obtain ⟨z, ex, on, r, l, t, _⟩ := timeout_step hV h2 hy i hi0 ho (by rw [hr]; exact fun e => by cases e)
      (fun e => by rw [hr] at e; cases e) hvi
    exact ⟨_, z, ex, (by show 1 ≤ 2; omega), fun l hl => by rw [List.mem_singleton.mp hl]; rfl,
      (by show 1 ≤ 1; omega), on, r, l, by omega⟩
  | candidate =>
    obtain ⟨u, ex1, on1, r1, t1, _⟩ := stepdown_step hV hy i hi0 ho hr ((y.node i).term + 1) (Nat.lt_succ_self _)
    exact after rfl rfl ex1 on1 r1 (by omega)
  | leader =>
    -- the `newTerm` report of a replication to another voter
    have f := facts hV hy i
    have hcache := f.good.leaderCacheOpen ho hr
    obtain ⟨j, hj⟩ : ∃ j, (y.node i).findRepl? j ≠ none := by
      have hA := f.good.glob.cfgL.2
      have hne : (y.node i).configs.latest.nodes ≠ [] := by
        intro e
        have := numVoters_eq f
        unfold Config.numVoters at this
        rw [e] at this
        have : V.length = 0 := this.symm
        omega
      obtain ⟨a, ha, b, hb, hab, _, _⟩ := (hA hne).2 rfl
      have : ∃ nd ∈ (y.node i).configs.latest.nodes, nd.id ≠ (y.node i).nid := by
        by_cases e : a.id = (y.node i).nid
        · exact ⟨b, hb, fun e' => hab (e.trans e'.symm)⟩
        · exact ⟨a, ha, e⟩
      obtain ⟨nd, hnd, hne'⟩ := this
      obtain ⟨r, hr', hrid⟩ := hcache.member_repl nd hnd hne'
      refine ⟨nd.id, ?_⟩
      unfold Node.findRepl?
      intro e
      have := List.find?_eq_none.mp e r hr'
      simp [hrid] at this
    obtain ⟨he, heG⟩ := enabled_newTerm (y := y) hi0 j
    have hex1 := exec_step hV hy [] [] he heG ho (fun q h => by cases h)
    obtain ⟨a, b, _, _, k⟩ := newTerm_report_steps_down (y.node i) [] [] j hr hj
    have eu := stepC_node_i y i
      (.replUpdates [{ id := j, removed := false, upd := .newTerm (y.node i).term }]) [] [] 0
    exact after rfl rfl hex1 ⟨fun j' hj' => stepC_node_j _ i _ _ _ _ hj', by rw [eu]; exact k⟩ (by rw [eu]; exact a)
      (by rw [eu, b]; exact Nat.le_refl _)

/-- **one node after another.** `piece`: from any reachable state where node `j` satisfies `P j`, at most `n` labels of
`j` alone (at most `t` of them election timeouts) lead to a state where only node `j` has moved, the shared part of the
state has changed by `G`, and `Q j` relates `j`'s old state to the new system state. `P` and `Q` survive the pieces of
the other nodes (`Pstab`, `Qstab`: the ledgers only grew — `Commit.Grows` — and `G` says what else happened to them).
Then the pieces of all nodes of a duplicate-free list compose. -/
theorem Exec.forEach {V : List Nat} (hV : V.Nodup) (n t : Nat) (G : Commit.Sys → Commit.Sys → Prop)
    (P : Nat → Commit.Sys → Prop) (Q : Nat → Node → Commit.Sys → Prop)
    (Grefl : ∀ x, G x x) (Gtrans : ∀ x y z, G x y → G y z → G x z)
    (Pstab : ∀ j y z, G y z → Grows y z → z.node j = y.node j → P j y → P j z)
    (Qstab : ∀ j s y z, G y z → Grows y z → z.node j = y.node j → Q j s y → Q j s z)
    (piece : ∀ j y, ReachableG V y → P j y → ∃ ls z, Exec V y ls z ∧ ls.length ≤ n ∧ (∀ l ∈ ls, l.actor = j) ∧
      (ls.filter Lbl.isTimeout).length ≤ t ∧ (∀ i, i ≠ j → z.node i = y.node i) ∧ G y z ∧ Q j (y.node j) z)
    {x : Commit.Sys} (hx : ReachableG V x) :
    ∀ (js : List Nat), js.Nodup → (∀ j ∈ js, P j x) →
      ∃ ls z, Exec V x ls z ∧ RunOK js ls (n * js.length) (fun i => if i ∈ js then t else 0) ∧
        (∀ i, i ∉ js → z.node i = x.node i) ∧ G x z ∧ ∀ j ∈ js, Q j (x.node j) z
  | [], _, _ => ⟨[], x, .nil x, ⟨Nat.zero_le _, fun l h => absurd h List.not_mem_nil, fun _ => Nat.zero_le _⟩,
      fun _ _ => rfl, Grefl x, fun j h => absurd h List.not_mem_nil⟩
  | j :: js, hnd, hall => by
    obtain ⟨hjn, hnd'⟩ := List.nodup_cons.mp hnd
    obtain ⟨ls1, z1, ex1, ok1, oth1, g1, q1⟩ := Exec.forEach hV n t G P Q Grefl Gtrans Pstab Qstab piece hx js hnd'
      (fun i hi => hall i (List.mem_cons_of_mem _ hi))
    have ej := oth1 j hjn
    have hz1 := Exec.reachable hV hx ex1
    obtain ⟨ls2, z2, ex2, len2, act2, tmo2, oth2, g2, q2⟩ := piece j z1 hz1
      (Pstab j x z1 g1 (runG_grows (ex1.runG hV hx)) ej (hall j (List.mem_cons_self ..)))
    refine ⟨ls1 ++ ls2, z2, ex1.trans ex2, ?_, ?_, Gtrans _ _ _ g1 g2, ?_⟩
    · refine ((ok1.subset fun i hi => List.mem_cons_of_mem _ hi).append
        (RunOK.single (List.mem_cons_self ..) len2 act2 tmo2)).mono ?_ fun i => ?_
      · rw [List.length_cons, Nat.mul_succ]; exact Nat.le_refl _
      · show (if i ∈ js then t else 0) + (if i = j then t else 0) ≤ if i ∈ j :: js then t else 0
        by_cases hi : i = j
        · subst hi; rw [if_neg hjn, if_pos rfl, if_pos (List.mem_cons_self ..)]; omega
        · rw [if_neg hi]
          by_cases hiL : i ∈ js
          · rw [if_pos hiL, if_pos (List.mem_cons_of_mem _ hiL)]; omega
          · rw [if_neg hiL]; omega
    · intro i hi
      rw [oth2 i (fun e => hi (by rw [e]; exact List.mem_cons_self ..))]
      exact oth1 i (fun h => hi (List.mem_cons_of_mem _ h))
    · intro i hi
      rcases List.mem_cons.mp hi with e | e
      · subst e; rw [← ej]; exact q2
      · exact Qstab i _ z1 z2 g2 (runG_grows (ex2.runG hV hz1)) (oth2 i fun e' => hjn (by rw [← e']; exact e)) (q1 i e)

/-- what phase A establishes for node `i`, relative to the start state `x` -/
structure ReadyA (x z : Commit.Sys) (i : Nat) : Prop where
  keep : Keep (x.node i) (z.node i)
  role : (z.node i).role = .candidate
  leader : (z.node i).leader = 0
  term : (x.node i).term < (z.node i).term

/-- **phase A**: every node of the list `L` of open voters is brought to "candidate of a higher term, no leader
known" by at most two operations of its own, one of them an election timeout; nothing else changes. -/
theorem phaseA (hV : V.Nodup) (h2 : 2 ≤ V.length) {x : Commit.Sys} (hx : ReachableG V x) (M : List Nat) :
    ∀ (L : List Nat), L.Nodup → (∀ i ∈ L, i ∈ M ∧ i ≠ 0 ∧ i ∈ V ∧ (x.node i).closed = "" ∧
        (x.node i).configs.latest.isVoter i = true) →
      ∃ ls z, Exec V x ls z ∧ RunOK M ls (2 * L.length) (fun j => if j ∈ L then 1 else 0) ∧
        (∀ j, j ∉ L → z.node j = x.node j) ∧ ∀ i ∈ L, ReadyA x z i := by
  intro L hL hall
  obtain ⟨ls, z, ex, ok, oth, _, q⟩ := Exec.forEach hV 2 1 (fun _ _ => True)
    (fun i u => i ≠ 0 ∧ (u.node i).closed = "" ∧ (u.node i).configs.latest.isVoter i = true)
    (fun i s z => Keep s (z.node i) ∧ (z.node i).role = .candidate ∧ (z.node i).leader = 0 ∧ s.term < (z.node i).term)
    (fun _ => trivial) (fun _ _ _ _ _ => trivial) (fun j u z _ _ e p => by rw [e]; exact p)
    (fun j s u z _ _ e p => by rw [e]; exact p)
    (fun i u hu ⟨hi0, hio, hiv⟩ => by
      obtain ⟨ls, z, ex, len, act, tmo, on, r, l, t⟩ := normalize_node hV h2 hu i hi0 hio hiv
      exact ⟨ls, z, ex, len, act, tmo, on.others, trivial, on.keep, r, l, t⟩)
    hx L hL (fun i hi => ⟨(hall i hi).2.1, (hall i hi).2.2.2⟩)
  exact ⟨ls, z, ex, ok.subset fun i hi => (hall i hi).1, oth, fun i hi => let ⟨a, b, c, d⟩ := q i hi; ⟨a, b, c, d⟩⟩

end phaseA

/-! ### phase B: the chosen node catches up with the highest term and times out -/

section phaseB
variable {V : List Nat} {y : Commit.Sys}

/-- **phase B**: the candidate `w` (no leader known), whose term is at most `T0`, is brought to: candidate of term
`T0 + 1` with its own vote, campaign recorded with the coordinates of its last log entry, no vote counted yet — by
an election timeout, preceded, if its term is below `T0`, by a vote response carrying `T0`. -/
theorem phaseB (hV : V.Nodup) (h2 : 2 ≤ V.length) (hy : ReachableG V y) (w T0 : Nat) (hw0 : w ≠ 0)
    (ho : (y.node w).closed = "") (hr : (y.node w).role = .candidate) (hl : (y.node w).leader = 0)
    (hvw : (y.node w).configs.latest.isVoter w = true) (hT0 : (y.node w).term ≤ T0) :
    ∃ ls z, Exec V y ls z ∧ ls.length ≤ 2 ∧ (∀ l ∈ ls, l.actor = w) ∧ (ls.filter Lbl.isTimeout).length ≤ 1 ∧
      OnlyNode y z w ∧ (z.node w).role = .candidate ∧ (z.node w).leader = 0 ∧ (z.node w).term = T0 + 1 ∧
      (z.node w).votedFor = w ∧
      ({ cand := w, term := T0 + 1, lastIndex := (y.node w).lastLogIndex, lastTerm := (y.node w).lastLogTerm }
        : Camp) ∈ z.camps ∧
      (∀ k ∈ y.camps, k ∈ z.camps) ∧
      (∀ v, (w, T0 + 1, v) ∉ z.rp.el.counted) := by
  obtain ⟨hI, _⟩ := inv_reachable hV (reachableG_V hy)
  have hcount0 : ∀ v, (w, T0 + 1, v) ∉ y.rp.el.counted := by
    intro v hv
    have := hI.rp.el.countedTerm _ hv
    have e : y.rp.el.node w = y.node w := rfl
    simp only at this
    rw [e] at this
    omega
  rcases Nat.lt_or_ge (y.node w).term T0 with hlt | hge
  · obtain ⟨u, ex1, on1, r1, t1, l1, cm1, cn1⟩ := stepdown_step hV hy w hw0 ho hr T0 hlt
    obtain ⟨z, ex2, on2, r2, l2, t2, v2, cmp, cm2, cn2⟩ := timeout_step hV h2 (Exec.reachable hV hy ex1) w hw0
      (by rw [on1.keep.closed]; exact ho) (by rw [r1]; exact fun e => by cases e)
      (fun e => by rw [r1] at e; cases e) (by rw [on1.keep.configs]; exact hvw)
    rw [t1, on1.keep.lastLogIndex, on1.keep.lastLogTerm] at cmp
    exact ⟨_, z, ex1.trans ex2, (by show 2 ≤ 2; omega), two_labels rfl rfl, (by show 1 ≤ 1; omega),
      ⟨fun j hj => by rw [on2.others j hj, on1.others j hj], on1.keep.trans on2.keep⟩, r2, l2, by rw [t2, t1], v2,
      cmp, fun k hk => cm2 k (cm1 k hk), fun v => by rw [cn2, cn1]; exact hcount0 v⟩
  · have e : (y.node w).term = T0 := by omega
    obtain ⟨z, ex2, on2, r2, l2, t2, v2, cmp, cm2, cn2⟩ := timeout_step hV h2 hy w hw0 ho
      (by rw [hr]; exact fun e => by cases e) (fun _ => hl) hvw
    rw [e] at cmp
    exact ⟨_, z, ex2, (by show 1 ≤ 2; omega), fun l hl' => by rw [List.mem_singleton.mp hl']; rfl,
      (by show 1 ≤ 1; omega), on2, r2, l2, by rw [t2, e], v2, cmp, cm2, fun v => by rw [cn2]; exact hcount0 v⟩

end phaseB

/-! ### phase C: the other nodes grant their votes -/

section phaseC
variable {V : List Nat} {y : Commit.Sys}

theorem stepC_grants (i : Nat) (op : Op) (ra : List Nat) (ord : List (List Nat)) (src : Nat) :
    (stepC y i op ra ord src).rp.el.grants = Election.voteGrant i op ((y.node i).step op ra ord) ++
      (Election.selfGrant i (y.node i) ((y.node i).step op ra ord) ++ y.rp.el.grants) := rfl

theorem enabled_vote {i : Nat} (hi : i ≠ 0) (q : VoteReq) (hs : q.src ≠ 0)
    (hc : ({ cand := q.src, term := q.term, lastIndex := q.lastLogIndex, lastTerm := q.lastLogTerm } : Camp) ∈ y.camps) :
    Commit.Enabled y i (.vote q) 0 ∧ EnabledG y i (.vote q) :=
  enabled_iff.mpr ⟨hi, hs, Or.inr hc⟩

/-- what phase C establishes for node `j` -/
structure VotedC (y z : Commit.Sys) (w T j : Nat) : Prop where
  keep : Keep (y.node j) (z.node j)
  role : (z.node j).role = .follower
  term : (z.node j).term = T
  grant : ({ voter := j, term := T, cand := w } : C01.Grant) ∈ z.rp.el.grants

/-- **phase C**: every node of `js` (open, no leader known, term below `T`, log not more up to date than the
campaign's coordinates `(li, lt)`) receives the vote request of the recorded campaign `(w, T, li, lt)` and grants
its vote; nothing else changes, nothing is counted. -/
theorem phaseC (hV : V.Nodup) (hy : ReachableG V y) (w T li lt : Nat) (hw0 : w ≠ 0)
    (hcamp : ({ cand := w, term := T, lastIndex := li, lastTerm := lt } : Camp) ∈ y.camps) :
    ∀ (js : List Nat), js.Nodup →
      (∀ j ∈ js, j ≠ 0 ∧ (y.node j).closed = "" ∧ (y.node j).leader = 0 ∧ (y.node j).term < T ∧
        ¬ ((y.node j).lastLogTerm > lt ∨ ((y.node j).lastLogTerm = lt ∧ (y.node j).lastLogIndex > li))) →
      ∃ ls z, Exec V y ls z ∧ ls.length ≤ js.length ∧ (∀ l ∈ ls, l.actor ∈ js) ∧ ls.filter Lbl.isTimeout = [] ∧
        (∀ i, i ∉ js → z.node i = y.node i) ∧ (∀ j ∈ js, VotedC y z w T j) ∧
        z.rp.el.counted = y.rp.el.counted := by
  intro js hjs hall
  obtain ⟨ls, z, ex, ok, oth, g, q⟩ := Exec.forEach hV 1 0
    (fun u z => z.rp.el.counted = u.rp.el.counted)
    (fun j u => (j ≠ 0 ∧ (u.node j).closed = "" ∧ (u.node j).leader = 0 ∧ (u.node j).term < T ∧
        ¬ ((u.node j).lastLogTerm > lt ∨ ((u.node j).lastLogTerm = lt ∧ (u.node j).lastLogIndex > li))) ∧
      ({ cand := w, term := T, lastIndex := li, lastTerm := lt } : Camp) ∈ u.camps)
    (fun j s z => Keep s (z.node j) ∧ (z.node j).role = .follower ∧ (z.node j).term = T ∧
      ({ voter := j, term := T, cand := w } : C01.Grant) ∈ z.rp.el.grants)
    (fun _ => rfl) (fun _ _ _ a b => b.trans a)
    (fun j u z _ gr e p => by rw [e]; exact ⟨p.1, gr.camps _ p.2⟩)
    (fun j s u z _ gr e p => by rw [e]; exact ⟨p.1, p.2.1, p.2.2.1, gr.grants _ p.2.2.2⟩)
    (fun j u hu ⟨⟨hj0, hjo, hjl, hjt, hjup⟩, hc⟩ => by
      -- the one step: `j` receives the vote request of the recorded campaign and grants
      obtain ⟨he, heG⟩ := enabled_vote (y := u) hj0
        { term := T, src := w, lastLogIndex := li, lastLogTerm := lt, transfer := false } hw0 hc
      have hex := exec_step hV hu [] [] he heG hjo (fun q h => by cases h)
      obtain ⟨a, b, c, _, k⟩ := vote_granted_when_uptodate (u.node j) [] []
        { term := T, src := w, lastLogIndex := li, lastLogTerm := lt, transfer := false } hjl hjt hjup
      have ei := stepC_node_i u j
        (.vote { term := T, src := w, lastLogIndex := li, lastLogTerm := lt, transfer := false }) [] [] 0
      refine ⟨_, _, hex, Nat.le_refl _, fun l hl => by rw [List.mem_singleton.mp hl]; rfl, Nat.le_refl _,
        fun i hi => stepC_node_j _ j _ _ _ _ hi, rfl, by rw [ei]; exact k, by rw [ei]; exact b, by rw [ei]; exact c, ?_⟩
      rw [stepC_grants]
      apply List.mem_append_left
      unfold Election.voteGrant C05.grantOf
      dsimp only
      rw [if_pos a]
      exact List.mem_singleton.mpr rfl)
    hy js hjs (fun j hj => ⟨hall j hj, hcamp⟩)
  exact ⟨ls, z, ex, by have := ok.len; rwa [Nat.one_mul] at this, ok.actors,
    ok.noTimeout (fun i => by show (if i ∈ js then 0 else 0) = 0; split <;> rfl), oth,
    fun j hj => let ⟨a, b, c, d⟩ := q j hj; ⟨a, b, c, d⟩, g⟩

end phaseC

/-! ### phase D: the candidate counts votes until it is leader -/

section phaseD
variable {V : List Nat} {y : Commit.Sys}

theorem Elected.of_keep {a b c : Node} (k : Keep a b) (ht : b.term = a.term) (hv : b.votedFor = a.votedFor)
    (h : Elected b c) : Elected a c := by
  obtain ⟨r, t, v, n, cf, cl, ci, nw, es, e1, e2, e3⟩ := h
  exact ⟨r, t.trans ht, v.trans hv, n.trans k.nid, by rw [cf, k.configs], cl, ci.trans k.commitIndex, nw,
    es, e1, by rw [e2, k.log], fun e he => by rw [e3 e he, ht]⟩

theorem enabled_voteResult_real {w j T : Nat} (hw0 : w ≠ 0) (hT : (y.node w).term = T) (hjw : j ≠ w)
    (hv : (y.node w).configs.latest.isVoter j = true)
    (hg : ({ voter := j, term := T, cand := w } : C01.Grant) ∈ y.rp.el.grants)
    (hc : (w, T, j) ∉ y.rp.el.counted) :
    Commit.Enabled y w (.voteResult false T rSuccess) j ∧ EnabledG y w (.voteResult false T rSuccess) :=
  have e : (y.rp.el.node w).term = T := hT
  enabled_iff.mpr ⟨hw0, fun _ _ _ _ => ⟨hjw, hv, by rw [e]; exact hg, by rw [e]; exact hc⟩⟩

/-- **phase D**: the candidate `w` of term `T`, which still needs `k + 1` votes and has at least that many granted,
uncounted votes of other voters (`rem`) waiting, counts `k + 1` of them and is leader (`Elected`); nothing else
changes. -/
theorem phaseD (hV : V.Nodup) (h2 : 2 ≤ V.length) (w T : Nat) (hw0 : w ≠ 0) :
    ∀ (k : Nat) (u : Commit.Sys) (rem : List Nat), ReachableG V u → (u.node w).role = .candidate →
      (u.node w).term = T → (u.node w).closed = "" → (u.node w).votesNeeded = ((k + 1 : Nat) : Int) →
      rem.Nodup → k + 1 ≤ rem.length →
      (∀ j ∈ rem, j ≠ w ∧ (u.node w).configs.latest.isVoter j = true ∧
        ({ voter := j, term := T, cand := w } : C01.Grant) ∈ u.rp.el.grants ∧ (w, T, j) ∉ u.rp.el.counted) →
      ∃ ls z, Exec V u ls z ∧ ls.length = k + 1 ∧ (∀ l ∈ ls, l.actor = w) ∧ ls.filter Lbl.isTimeout = [] ∧
        (∀ i, i ≠ w → z.node i = u.node i) ∧ Elected (u.node w) (z.node w)
  | k, u, [], _, _, _, _, _, _, hlen, _ => absurd hlen (by simp)
  | k, u, j :: rem, hu, hr, hT, ho, hvn, hnd, hlen, hall => by
    obtain ⟨hjn, hnd'⟩ := List.nodup_cons.mp hnd
    obtain ⟨hjw, hjv, hjg, hjc⟩ := hall j (List.mem_cons_self ..)
    have f := facts hV hu w
    obtain ⟨he, heG⟩ := enabled_voteResult_real (y := u) hw0 hT hjw hjv hjg hjc
    have hex := exec_step hV hu [] [] he heG ho (fun q h => by cases h)
    have ei := stepC_node_i u w (.voteResult false T rSuccess) [] [] j
    cases k with
    | zero =>
      have hel := majority_of_grants_makes_leader (u.node w) [] [] T hr (by rw [hT]; exact Nat.le_refl _)
        (by rw [hvn]; rfl) f.nwf f.lwf f.wf f.stable (by rw [f.nid]; exact f.good.glob.cand hr |> fun h => by rw [f.nid] at h; exact h)
        (by rw [f.voters]; exact hV) (by rw [numVoters_eq f]; exact h2) ho
      refine ⟨_, _, hex, rfl, fun l hl => by rw [List.mem_singleton.mp hl]; rfl, rfl,
        fun i hi => stepC_node_j _ w _ _ _ _ hi, ?_⟩
      rw [ei]; exact hel
    | succ k =>
      obtain ⟨a, b, c, d, e, kp⟩ := voteResult_counts (u.node w) [] [] T hr (by rw [hT]; exact Nat.le_refl _)
        (by rw [hvn]; omega)
      have hu' := Exec.reachable hV hu hex
      have hcnt : (stepC u w (.voteResult false T rSuccess) [] [] j).rp.el.counted = (w, T, j) :: u.rp.el.counted := by
        rw [stepC_counted, Election.countedBy_counts w (u.node w) _ j ⟨hr, T, by rw [hT]; exact Nat.le_refl _, rfl⟩, hT]
        rfl
      obtain ⟨ls2, z, ex2, len2, act2, tm2, oth2, el2⟩ := phaseD hV h2 w T hw0 k
        (stepC u w (.voteResult false T rSuccess) [] [] j) rem hu' (by rw [ei]; exact a) (by rw [ei, b]; exact hT)
        (by rw [ei, kp.closed]; exact ho) (by rw [ei, e, hvn]; omega) hnd'
        (by rw [List.length_cons] at hlen; omega)
        (fun j' hj' => by
          obtain ⟨h1, h2', h3, h4⟩ := hall j' (List.mem_cons_of_mem _ hj')
          refine ⟨h1, by rw [ei, kp.configs]; exact h2', ?_, ?_⟩
          · rw [stepC_grants]; exact List.mem_append_right _ (List.mem_append_right _ h3)
          · rw [hcnt]
            intro hm
            rcases List.mem_cons.mp hm with e' | e'
            · injection e' with _ e'
              injection e' with _ e'
              exact hjn (by rw [← e']; exact hj')
            · exact h4 e')
      refine ⟨[Lbl.step w (.voteResult false T rSuccess) [] [] j] ++ ls2, z, hex.trans ex2,
        by rw [List.length_append, len2]; show 1 + (k + 1) = _; omega, ?_, ?_, ?_, ?_⟩
      · intro l hl
        rcases List.mem_append.mp hl with h | h
        · rw [List.mem_singleton.mp h]; rfl
        · exact act2 l h
      · rw [List.filter_append, tm2]; rfl
      · intro i hi
        rw [oth2 i hi, stepC_node_j _ w _ _ _ _ hi]
      · rw [ei] at el2
        exact Elected.of_keep kp b c el2

end phaseD

end Progress
end Raft
