/-
Lemmas for C12 (tracking): "the FSM's cached configuration and term are those of the applied prefix" as an
inductive invariant of `Node.step`.

`cfgAt s i = newest s.log (label s) i` is the configuration in force at index `i`: the newest configuration entry at or
below `i` (`newest` = `C12.newestConfigUpTo`), else the label of the newest snapshot. A node keeps four views of it, and
the invariants of C12 / C19 say that each view is `cfgAt` at its own index:

      view                               index                                    clause
      `label s`                          `snapIndex`                              `Core.lab`
      `fsm.config` (when it holds one)   `fsm.index`                              `FsmOk.cfgPos` (and `cfgZero`)
      `configs.latest`                   `log.last`                               `Latest.LNc.latest`
      `configs.committed`                `log.last`, or `latest.index - 1` while  `Latest.LNc.committed`
                                         the commit index is below `latest.index`

(`Latest.views`). `configs.committed` is NOT a function of log, snapshot and commit index: `revertConfig` and a restart
forget which of the two cases held (two runs in `Props/C19Latest.lean`). From index 1 on a configuration is in force
(`cfgAt_pos`): what "entry 1 is a configuration" and "every snapshot label is a real configuration" say together.

`Core s` is the invariant proper (wording in `Props/C12Track.lean`); `QM s`: the items in the leader queue are the log
entries at their index (the FSM applies *items*, not log entries, on a leader). `TI s₀ b g s` is what a step that started in
`s₀` carries; `Carries` and `Handles` are the one walk through the handlers that `TI` and the invariants built on it share.
-/
import RaftVerif.Lemmas.Order
import RaftVerif.Lemmas.LeaderCache
import RaftVerif.Lemmas.HandleKind
import RaftVerif.Lemmas.ShapeAppend
import RaftVerif.Lemmas.ShapeQueue
import RaftVerif.Props.C03
import RaftVerif.Props.C12

namespace Raft
namespace Track
open Node

/-- the configurations of the log entries with index `≤ i` (oldest first) -/
def pre (log : NLog) (i : Nat) : List Config := (log.entries.take (i - log.prev)).filterMap Entry.config?

def newest (log : NLog) (L : Config) (i : Nat) : Config := ((pre log i).getLast?).getD L

theorem newest_eq (log : NLog) (L : Config) (i : Nat) : newest log L i = C12.newestConfigUpTo log L i := rfl

theorem newest_of_nil {log : NLog} {i : Nat} (L : Config) (h : pre log i = []) : newest log L i = L := by
  unfold newest; rw [h]; rfl

theorem newest_of_ne {log : NLog} {i : Nat} (L L' : Config) (h : pre log i ≠ []) : newest log L i = newest log L' i := by
  unfold newest
  cases hl : (pre log i).getLast? with
  | none => exact absurd (List.getLast?_eq_none_iff.mp hl) h
  | some c => rfl

theorem pre_mono (log : NLog) {i j : Nat} (h : i ≤ j) : ∃ t, pre log j = pre log i ++ t := by
  unfold pre
  have e : j - log.prev = (i - log.prev) + ((j - log.prev) - (i - log.prev)) := by omega
  rw [e, List.take_add, List.filterMap_append]
  exact ⟨_, rfl⟩

theorem pre_nil_of_le (log : NLog) {i j : Nat} (h : i ≤ j) (hj : pre log j = []) : pre log i = [] := by
  obtain ⟨t, e⟩ := pre_mono log h
  rw [e] at hj
  exact (List.append_eq_nil_iff.mp hj).1

theorem pre_index {log : NLog} (hc : C03.LogContig log) {m : Nat} {c : Config} (h : c ∈ pre log m) :
    log.prev < c.index ∧ c.index ≤ m := by
  unfold pre at h
  obtain ⟨e, he, hcfg⟩ := List.mem_filterMap.mp h
  obtain ⟨k, hk, rfl⟩ := List.getElem_of_mem he
  rw [List.length_take] at hk
  rw [(Entry.config?_facts hcfg).2.1, List.getElem_take, hc k (by omega)]
  omega

theorem pre_index_pos {log : NLog} (hc : C03.LogContig log) (i : Nat) : ∀ c ∈ pre log i, 0 < c.index :=
  fun _ h => Nat.lt_of_le_of_lt (Nat.zero_le _) (pre_index hc h).1

theorem newest_index_pos {log : NLog} (hc : C03.LogContig log) (L : Config) (i : Nat) (h : pre log i ≠ []) :
    0 < (newest log L i).index := by
  unfold newest
  cases hl : (pre log i).getLast? with
  | none => exact absurd (List.getLast?_eq_none_iff.mp hl) h
  | some c => exact pre_index_pos hc i c (List.mem_of_getLast? hl)

theorem first_in_pre {log : NLog} (hc : C03.LogContig log) (hp : log.prev = 0)
    (hf : ∀ e ∈ log.entries, e.index = 1 → e.config?.isSome = true) {i : Nat} (h1 : 1 ≤ i) (hl : 1 ≤ log.last) :
    pre log i ≠ [] := by
  have hlen : 0 < log.entries.length := by unfold NLog.last at hl; omega
  have hidx := hc 0 hlen
  obtain ⟨c, hcfg⟩ := Option.isSome_iff_exists.mp (hf _ (List.getElem_mem hlen) (by rw [hidx, hp]))
  have hm : log.entries[0] ∈ log.entries.take (i - log.prev) := by
    rw [List.mem_take_iff_getElem]
    exact ⟨0, by rw [Nat.lt_min]; exact ⟨by omega, hlen⟩, rfl⟩
  exact List.ne_nil_of_mem (List.mem_filterMap.mpr ⟨_, hm, hcfg⟩)

theorem pre_congr {log log' : NLog} {i : Nat} (hp : log'.prev = log.prev)
    (he : log'.entries.take (i - log.prev) = log.entries.take (i - log.prev)) : pre log' i = pre log i := by
  unfold pre; rw [hp, he]

theorem get?_congr {log log' : NLog} {i : Nat} (hp : log'.prev = log.prev)
    (he : log'.entries.take (i - log.prev) = log.entries.take (i - log.prev)) : log'.get? i = log.get? i := by
  unfold NLog.get?
  rw [hp]
  split
  · rename_i hlt
    have h1 : (log'.entries.take (i - log.prev))[i - log.prev - 1]? = log'.entries[i - log.prev - 1]? :=
      List.getElem?_take_of_lt (by omega)
    have h2 : (log.entries.take (i - log.prev))[i - log.prev - 1]? = log.entries[i - log.prev - 1]? :=
      List.getElem?_take_of_lt (by omega)
    rw [← h1, ← h2, he]
  · rfl

/-- The FSM's cached `(term, config)` are those of the applied prefix of `log` (label `L`, snapshot at
`(si, st)`):
* if the FSM holds a configuration (`index > 0`) it is the newest configuration entry at or below `fsm.index`,
  else the snapshot's label;
* if it holds none, there is no configuration entry at or below `fsm.index` in the log;
* `fsm.term` is the term of the log entry `fsm.index` (when the log holds it) and the snapshot's term when
  `fsm.index` is the snapshot index. -/
structure FsmOk (log : NLog) (L : Config) (si st : Nat) (f : Fsm) : Prop where
  cfgPos : 0 < f.config.index → f.config = newest log L f.index
  cfgZero : f.config.index = 0 → pre log f.index = []
  termLog : log.prev < f.index → (log.get? f.index).map (·.term) = some f.term
  termSnap : f.index = si → f.term = st

theorem FsmOk.congr {log : NLog} {L : Config} {si st : Nat} {f f' : Fsm} (h : FsmOk log L si st f)
    (e1 : f'.index = f.index) (e2 : f'.term = f.term) (e3 : f'.config = f.config) : FsmOk log L si st f' :=
  ⟨by rw [e3, e1]; exact h.cfgPos, by rw [e3, e1]; exact h.cfgZero, by rw [e1, e2]; exact h.termLog,
   by rw [e1, e2]; exact h.termSnap⟩

theorem FsmOk.of_log {log log' : NLog} {L : Config} {si st : Nat} {f : Fsm} (h : FsmOk log L si st f)
    (hp : log'.prev = log.prev) (he : log'.entries.take (f.index - log.prev) = log.entries.take (f.index - log.prev)) :
    FsmOk log' L si st f := by
  have e1 := pre_congr hp he
  have e2 := get?_congr hp he
  refine ⟨fun hpos => ?_, fun hz => ?_, fun hlt => ?_, h.termSnap⟩
  · unfold newest; rw [e1]; exact h.cfgPos hpos
  · rw [e1]; exact h.cfgZero hz
  · rw [e2]; exact h.termLog (by omega)

theorem FsmOk.applyOne {log : NLog} {L : Config} {si st : Nat} {f : Fsm} (hc : C03.LogContig log)
    (h : FsmOk log L si st f) (hprev : log.prev ≤ f.index) (hsi : si ≤ f.index) (e : Entry)
    (he : log.get? (f.index + 1) = some e) (f' : Fsm) (e1 : f'.index = f.index + 1) (e2 : f'.term = e.term)
    (e3 : f'.config = (e.config?).getD f.config) : FsmOk log L si st f' := by
  have hpre : pre log (f.index + 1) = pre log f.index ++ (e.config?).toList := by
    unfold pre
    have hk : f.index + 1 - log.prev = (f.index - log.prev) + 1 := by omega
    unfold NLog.get? at he
    rw [if_pos (by omega)] at he
    have hidx : f.index + 1 - log.prev - 1 = f.index - log.prev := by omega
    rw [hidx] at he
    obtain ⟨hlt, hget⟩ := List.getElem?_eq_some_iff.mp he
    rw [hk, List.take_succ_eq_append_getElem hlt, List.filterMap_append, hget]
    cases hcfg : e.config? <;> simp [hcfg]
  refine ⟨fun hpos => ?_, fun hz => ?_, fun _ => ?_, fun hsi' => ?_⟩
  · rw [e3, e1]
    unfold newest
    rw [hpre]
    cases hcfg : e.config? with
    | none =>
      rw [e3, hcfg] at hpos
      simp only [Option.toList_none, List.append_nil, Option.getD_none]
      exact h.cfgPos hpos
    | some c => simp
  · rw [e1, hpre]
    cases hcfg : e.config? with
    | none =>
      rw [e3, hcfg] at hz
      simp only [Option.toList_none, List.append_nil]
      exact h.cfgZero hz
    | some c =>
      exfalso
      rw [e3, hcfg] at hz
      have : c.index = e.index := (Entry.config?_facts hcfg).2.1
      have := hc.get?_index _ _ he
      simp only [Option.getD_some] at hz
      omega
  · rw [e1, he, e2]; rfl
  · omega

/-- a snapshot taken at the FSM's position, labelled `L'` = the FSM's configuration if it has one -/
theorem FsmOk.snapshot {log : NLog} {L : Config} {si st : Nat} {f : Fsm} (h : FsmOk log L si st f) (L' : Config)
    (hL : 0 < f.config.index → L' = f.config) :
    FsmOk log L' f.index f.term f ∧ newest log L' f.index = L' := by
  by_cases hpos : 0 < f.config.index
  · have e := hL hpos
    have hc := h.cfgPos hpos
    have key : newest log L' f.index = L' := by
      by_cases hn : pre log f.index = []
      · exact newest_of_nil _ hn
      · rw [newest_of_ne L' L hn, ← hc, e]
    exact ⟨⟨fun _ => by rw [key, e], fun hz => absurd hz (by omega), h.termLog, fun _ => rfl⟩, key⟩
  · have hz : f.config.index = 0 := by omega
    have hn := h.cfgZero hz
    exact ⟨⟨fun hp => absurd hp hpos, fun _ => hn, h.termLog, fun _ => rfl⟩, newest_of_nil _ hn⟩

/-- the FSM restored from the snapshot `(si, st, L)` onto a log that starts there -/
theorem FsmOk.restored (log : NLog) (L : Config) (si st : Nat) (f : Fsm) (hp : log.prev = si)
    (e1 : f.index = si) (e2 : f.term = st) (e3 : f.config = L) : FsmOk log L si st f := by
  have hn : pre log f.index = [] := by unfold pre; rw [e1, hp, Nat.sub_self]; rfl
  exact ⟨fun _ => by rw [newest_of_nil _ hn, e3], fun _ => hn, fun hlt => by omega, fun _ => e2⟩

/-- what `RemoveLTE` does to the entries, as far as this invariant is concerned -/
structure Compacted (log log' : NLog) : Prop where
  prev_le : log.prev ≤ log'.prev
  entries : log'.entries = log.entries.drop (log'.prev - log.prev)

theorem Compacted.pre {log log' : NLog} (h : Compacted log log') (i : Nat) (hi : log'.prev ≤ i) :
    Track.pre log i = Track.pre log log'.prev ++ Track.pre log' i := by
  unfold Track.pre
  have hle := h.prev_le
  have e : i - log.prev = (log'.prev - log.prev) + (i - log'.prev) := by omega
  rw [e, List.take_add, List.filterMap_append, h.entries]

theorem Compacted.get? {log log' : NLog} (h : Compacted log log') (i : Nat) (hi : log'.prev < i) :
    log'.get? i = log.get? i := by
  have hle := h.prev_le
  unfold NLog.get?
  rw [if_pos hi, if_pos (by omega), h.entries, List.getElem?_drop]
  congr 1; omega

/-- the label is self-consistent: it is the newest configuration at or below the snapshot index -/
theorem lab_compacted {log log' : NLog} {L : Config} {si : Nat} (h : Compacted log log') (hsi : log'.prev ≤ si)
    (hl : newest log L si = L) : newest log' L si = L := by
  by_cases hn : Track.pre log' si = []
  · exact newest_of_nil _ hn
  · have hp := h.pre si hsi
    unfold newest at hl ⊢
    rw [hp, List.getLast?_append] at hl
    cases hg : (Track.pre log' si).getLast? with
    | none => exact absurd (List.getLast?_eq_none_iff.mp hg) hn
    | some c => rw [hg] at hl; simpa using hl

theorem FsmOk.compacted {log log' : NLog} {L : Config} {si st : Nat} {f : Fsm} (h : FsmOk log L si st f)
    (hc : Compacted log log') (hsi : log'.prev ≤ si) (hfi : si ≤ f.index) (hl : newest log L si = L) :
    FsmOk log' L si st f := by
  have hp := hc.pre f.index (by omega)
  refine ⟨fun hpos => ?_, fun hz => ?_, fun hlt => ?_, h.termSnap⟩
  · have h1 := h.cfgPos hpos
    by_cases hn : Track.pre log' f.index = []
    · rw [newest_of_nil _ hn]
      -- nothing above the new start: the newest is among the dropped ones, hence the label
      have hn' : Track.pre log' si = [] := pre_nil_of_le log' hfi hn
      have hps := hc.pre si hsi
      rw [hn', List.append_nil] at hps
      rw [hn, List.append_nil] at hp
      have : newest log L f.index = newest log L si := by unfold newest; rw [hp, hps]
      rw [h1, this, hl]
    · rw [h1]
      unfold newest
      rw [hp, List.getLast?_append]
      cases hg : (Track.pre log' f.index).getLast? with
      | none => exact absurd (List.getLast?_eq_none_iff.mp hg) hn
      | some c => rfl
  · have := h.cfgZero hz
    rw [hp] at this
    exact (List.append_eq_nil_iff.mp this).2
  · rw [hc.get? _ hlt]
    exact h.termLog (by have := hc.prev_le; omega)

/-- several entries applied at once: the range `(f.index, upto]` of the log (`fsmApplyLogTo`) -/
theorem FsmOk.applyRange {log : NLog} {L : Config} {si st : Nat} {f : Fsm} (hc : C03.LogContig log)
    (h : FsmOk log L si st f) (hprev : log.prev ≤ f.index) (hsi : si ≤ f.index) (upto : Nat)
    (hlt : f.index < upto) (hle : upto ≤ log.last) (f' : Fsm) (e1 : f'.index = upto)
    (e2 : f'.term = ((((log.entries.drop (f.index - log.prev)).take (upto - f.index)).getLast?).map (·.term)).getD f.term)
    (e3 : f'.config = ((((log.entries.drop (f.index - log.prev)).take (upto - f.index)).filterMap Entry.config?).getLast?).getD f.config) :
    FsmOk log L si st f' := by
  generalize hR : (log.entries.drop (f.index - log.prev)).take (upto - f.index) = R at e2 e3
  have hpre : pre log upto = pre log f.index ++ R.filterMap Entry.config? := by
    unfold pre
    have hsplit : upto - log.prev = (f.index - log.prev) + (upto - f.index) := by omega
    rw [hsplit, List.take_add, List.filterMap_append, hR]
  have hlen : R.length = upto - f.index := by
    rw [← hR, List.length_take, List.length_drop]; unfold NLog.last at hle; omega
  have hlast : R.getLast? = log.get? upto := by
    rw [List.getLast?_eq_getElem?, hlen, ← hR]
    unfold NLog.get?
    rw [List.getElem?_take_of_lt (by omega), List.getElem?_drop, if_pos (by omega)]
    congr 1; omega
  have hnew : newest log L upto = ((R.filterMap Entry.config?).getLast?).getD (newest log L f.index) := by
    unfold newest; rw [hpre, C12.getLast?_append_getD]
  refine ⟨fun hpos => ?_, fun hz => ?_, fun _ => ?_, fun hsi' => ?_⟩
  · rw [e1, hnew, e3]
    cases hg : (R.filterMap Entry.config?).getLast? with
    | none =>
      rw [e3, hg] at hpos
      exact h.cfgPos hpos
    | some c => rfl
  · rw [e1, hpre]
    cases hg : (R.filterMap Entry.config?).getLast? with
    | none =>
      rw [e3, hg] at hz
      rw [List.getLast?_eq_none_iff.mp hg, List.append_nil]
      exact h.cfgZero hz
    | some c =>
      exfalso
      rw [e3, hg] at hz
      have hm : c ∈ pre log upto := by rw [hpre]; exact List.mem_append_right _ (List.mem_of_getLast? hg)
      have := pre_index_pos hc upto c hm
      simp only [Option.getD_some] at hz
      omega
  · rw [e1, e2, hlast]
    have hex : ∃ e, log.get? upto = some e := by
      unfold NLog.get? NLog.last at *
      rw [if_pos (by omega)]
      exact ⟨_, List.getElem?_eq_getElem (by omega)⟩
    obtain ⟨e, he⟩ := hex
    rw [he]; rfl
  · omega

/-- the snapshot's term is the term of the log entry at the snapshot index (when the log still holds it), and
it is the term recorded in the newest file on disk (`0` if there is none) -/
structure SnapOk (log : NLog) (disk : List SnapFile) (si st : Nat) : Prop where
  termLog : log.prev < si → (log.get? si).map (·.term) = some st
  headTerm : st = ((disk.head?).map (·.term)).getD 0
  zero : si = 0 → st = 0

theorem SnapOk.of_log {log log' : NLog} {disk : List SnapFile} {si st : Nat} (h : SnapOk log disk si st)
    (hp : log'.prev = log.prev) (he : log'.entries.take (si - log.prev) = log.entries.take (si - log.prev)) :
    SnapOk log' disk si st :=
  ⟨fun hlt => by rw [get?_congr hp he]; exact h.termLog (by omega), h.headTerm, h.zero⟩

/-- the configuration recorded in the meta file of the newest snapshot on disk — the snapshot `snaps.index`
(`Core.snapHead`); the zero configuration when there is none -/
def label (s : Node) : Config := ((s.snapsDisk.head?).getD {}).config

theorem label_congr {s s' : Node} (h : s'.snapsDisk = s.snapsDisk) : label s' = label s := by
  unfold label; rw [h]

theorem restart_label {d : Durable} {r : Nat} {sor : Bool} {n : Node} (h : restart d r sor = some n) :
    label n = (C10.snapOf d).config := by
  unfold label; rw [(C10.restart_fsm d r sor n h).2.2.2.2.2.2]; rfl

/-- The tracking invariant proper (everything but the leader queue). -/
structure Core (s : Node) : Prop where
  /-- at least one snapshot is retained (`Options.SnapshotsRetain ≥ 1`, validated by `New`) -/
  retain : 1 ≤ s.retain
  /-- `snaps.index` is the index of the newest file on disk (the head of the listing), `0` if there is none -/
  snapHead : s.snapIndex = ((s.snapsDisk.head?).map (·.index)).getD 0
  contig : C03.LogContig s.log
  fsmLe : s.fsm.index ≤ s.log.last
  lab : newest s.log (label s) s.snapIndex = label s
  fsmOk : FsmOk s.log (label s) s.snapIndex s.snapTerm s.fsm
  snapOk : SnapOk s.log s.snapsDisk s.snapIndex s.snapTerm

theorem Core.headLe {s : Node} (c : Core s) : ∀ g, s.snapsDisk.head? = some g → g.index ≤ s.snapIndex := by
  intro g hg
  rw [c.snapHead, hg]; exact Nat.le_refl _

/-- … hence at or below any index beyond the commit index (where an install request puts its snapshot) -/
theorem Core.headLe_of_commit {s : Node} (c : Core s) (cw : Order.CoreW s) {i : Nat} (h : s.commitIndex < i) :
    ∀ g, s.snapsDisk.head? = some g → g.index ≤ i := fun g hg => by
  have := c.headLe g hg; have := cw.snap_le_applied; have := cw.applied_le_commit; omega

/-- the configuration in force at index `i` -/
def cfgAt (s : Node) (i : Nat) : Config := newest s.log (label s) i

/-- **from index 1 on a configuration is in force**, when entry 1 of the log (if held) is a configuration and every
snapshot file is labelled with a real one: below the first configuration entry the log still holds there is a snapshot,
whose label is in force -/
theorem cfgAt_pos {s : Node} (c : Core s) (hps : s.log.prev ≤ s.snapIndex)
    (hf : ∀ e ∈ s.log.entries, e.index = 1 → e.config?.isSome = true) (hlab : ∀ f ∈ s.snapsDisk, 0 < f.config.index)
    {i : Nat} (h1 : 1 ≤ i) (hl : 1 ≤ s.log.last) : 0 < (cfgAt s i).index := by
  by_cases hnil : pre s.log i = []
  · unfold cfgAt
    rw [newest_of_nil _ hnil]
    by_cases hs : s.snapIndex = 0
    · exact absurd hnil (first_in_pre c.contig (by omega) hf h1 hl)
    · unfold label
      cases hh : s.snapsDisk.head? with
      | none => rw [c.snapHead, hh] at hs; exact absurd rfl hs
      | some f => exact hlab f (List.mem_of_mem_head? hh)
  · exact newest_index_pos c.contig _ i hnil

/-- the log-type items in the leader queue are the log entries at their index (the FSM of a leader is fed
with queue items, `fsmApplyItems`) -/
def QM (s : Node) : Prop :=
  ∀ q ∈ s.ldr.queue, isLogEntryTyp q.typ = true → s.log.prev < q.index → s.log.get? q.index = some q.toEntry

/-- what `Core` and `QM` look at -/
def obsT (s : Node) : Nat × List SnapFile × Nat × Nat × NLog × Fsm × List QItem :=
  (s.retain, s.snapsDisk, s.snapIndex, s.snapTerm, s.log, s.fsm, s.ldr.queue)

theorem obsT_eq {s s' : Node} (h : obsT s' = obsT s) :
    s'.retain = s.retain ∧ s'.snapsDisk = s.snapsDisk ∧ s'.snapIndex = s.snapIndex ∧ s'.snapTerm = s.snapTerm ∧
    s'.log = s.log ∧ s'.fsm = s.fsm ∧ s'.ldr.queue = s.ldr.queue := by
  simp only [obsT, Prod.mk.injEq] at h
  exact h

theorem Core.congr6 {s s' : Node} (c : Core s) (e1 : s'.retain = s.retain) (e2 : s'.snapsDisk = s.snapsDisk)
    (e3 : s'.snapIndex = s.snapIndex) (e4 : s'.snapTerm = s.snapTerm) (e5 : s'.log = s.log) (e6 : s'.fsm = s.fsm) :
    Core s' := by
  have el := label_congr e2
  exact ⟨by rw [e1]; exact c.retain, by rw [e2, e3]; exact c.snapHead, by rw [e5]; exact c.contig,
    by rw [e6, e5]; exact c.fsmLe, by rw [e5, el, e3]; exact c.lab, by rw [e5, el, e3, e4, e6]; exact c.fsmOk,
    by rw [e5, e2, e3, e4]; exact c.snapOk⟩

theorem Core.congr {s s' : Node} (c : Core s) (h : obsT s' = obsT s) : Core s' := by
  obtain ⟨e1, e2, e3, e4, e5, e6, _⟩ := obsT_eq h
  exact c.congr6 e1 e2 e3 e4 e5 e6

theorem QM.congr {s s' : Node} (c : QM s) (h : obsT s' = obsT s) : QM s' := by
  obtain ⟨_, _, _, _, e5, _, e7⟩ := obsT_eq h
  unfold QM; rw [e5, e7]; exact c

/-- The invariant of a step that started in `s₀`: the orderings of `Lemmas/Order.lean` and, while the step
has not panicked, `Core` and (flag `g`) `QM`. -/
def TI (s₀ : Node) (b g : Bool) (s : Node) : Prop :=
  Order.Inv s₀ b s ∧ (s.panicked = none → Core s ∧ (g = true → QM s))

variable {s₀ : Node} {b g : Bool}

theorem TI.dropQ {s : Node} (h : TI s₀ b g s) : TI s₀ b false s :=
  ⟨h.1, fun hp => ⟨(h.2 hp).1, fun e => Bool.noConfusion e⟩⟩

theorem TI.weaken {s : Node} (h : TI s₀ true g s) : TI s₀ b g s := ⟨h.1.weaken, h.2⟩

theorem TI.toFalse {s : Node} (h : TI s₀ b g s) : TI s₀ false g s := ⟨h.1.toFalse, h.2⟩

theorem TI.coreW {s : Node} (h : TI s₀ b g s) (hp : s.panicked = none) : Order.CoreW s := (h.1 hp).1

theorem TI.of_obs {s s' : Node} {b' : Bool} (h : TI s₀ b' g s) (ho : Order.Inv s₀ b s') (e : obsT s' = obsT s)
    (hp : s'.panicked = none → s.panicked = none) : TI s₀ b g s' :=
  ⟨ho, fun hp' => ⟨(h.2 (hp hp')).1.congr e, fun hg => ((h.2 (hp hp')).2 hg).congr e⟩⟩

theorem TI.irr {s s' : Node} (h : TI s₀ b g s) (hi : Order.Irr s s') (e : obsT s' = obsT s) : TI s₀ b g s' :=
  h.of_obs (hi.inv h.1) e hi.2

theorem ti_panic (s : Node) (site : String) : TI s₀ b g (s.panic site) :=
  ⟨Order.inv_panic s site, fun h => absurd h (panic_panicked_ne s site)⟩

theorem obsT_panic (s : Node) (site : String) : obsT (s.panic site) = obsT s := by
  unfold Node.panic; split <;> rfl
theorem obsT_assert (s : Node) (bb : Bool) (site : String) : obsT (s.assert bb site) = obsT s := by
  unfold Node.assert; split
  · rfl
  · exact obsT_panic s site
theorem obsT_reply (s : Node) (t : Nat) (r : String) : obsT (s.reply t r) = obsT s := by
  unfold Node.reply; split <;> rfl
theorem obsT_doClose (s : Node) (r : String) : obsT (s.doClose r) = obsT s := by
  unfold Node.doClose; split <;> rfl
theorem obsT_storeTermVote (s : Node) (t c : Nat) : obsT (s.storeTermVote t c) = obsT s := by
  unfold Node.storeTermVote Node.point; dsimp only; split <;> rfl
theorem obsT_setTerm (s : Node) (t : Nat) : obsT (s.setTerm t) = obsT s := by
  unfold Node.setTerm
  repeat' split
  all_goals first | exact obsT_storeTermVote _ _ _ | exact obsT_panic _ _ | rfl
theorem obsT_setVotedFor (s : Node) (t c : Nat) : obsT (s.setVotedFor t c) = obsT s := by
  unfold Node.setVotedFor
  repeat' split
  all_goals first | exact obsT_storeTermVote _ _ _ | exact obsT_panic _ _ | rfl

theorem ti_assert {s : Node} (bb : Bool) (site : String) (h : TI s₀ b g s) : TI s₀ b g (s.assert bb site) :=
  h.irr (Order.irr_assert s bb site) (obsT_assert s bb site)
theorem ti_point {s : Node} (n : String) (h : TI s₀ b g s) : TI s₀ b g (s.point n) := h.irr (Order.irr_point s n) rfl
theorem ti_ret {s : Node} (r : Nat) (h : TI s₀ b g s) : TI s₀ b g (s.ret r) := h.irr (Order.irr_ret s r) rfl
theorem ti_snapPending {s : Node} (v) (h : TI s₀ b g s) : TI s₀ b g (s.withSnapPending v) :=
  h.irr (Order.irr_snapPending s v) rfl
theorem ti_setTerm {s : Node} (t : Nat) (h : TI s₀ b g s) : TI s₀ b g (s.setTerm t) :=
  h.irr (Order.irr_setTerm s t) (obsT_setTerm s t)
theorem ti_setVotedFor {s : Node} (t c : Nat) (h : TI s₀ b g s) : TI s₀ b g (s.setVotedFor t c) :=
  h.irr (Order.irr_setVotedFor s t c) (obsT_setVotedFor s t c)

theorem ti_ldr_same {s : Node} {l : Leader} (h : TI s₀ b g s) (hl : l.removeLTE = s.ldr.removeLTE)
    (hq : l.queue = s.ldr.queue) : TI s₀ b g (s.withLdr l) :=
  h.irr (Order.irr_ldr s l hl) (by unfold obsT Node.withLdr; dsimp only; rw [hq])

theorem ti_ldr {s : Node} {l : Leader} (h : TI s₀ b g s) (hl : s.panicked = none → l.removeLTE ≤ s.snapIndex)
    (hq : ∀ q ∈ l.queue, q ∈ s.ldr.queue) : TI s₀ b g (s.withLdr l) :=
  ⟨Order.inv_ldr h.1 hl, fun hp => ⟨(h.2 hp).1.congr6 rfl rfl rfl rfl rfl rfl, fun hg q hq' => (h.2 hp).2 hg q (hq q hq')⟩⟩

theorem ti_changeConfigR {s : Node} (cfg : Config) (h : TI s₀ b g s)
    (hg : s.panicked = none → s.configs.latest.index ≤ cfg.index ∧ cfg.index ≤ s.lastLogIndex) :
    TI s₀ b g (s.changeConfigR cfg) :=
  h.of_obs (Order.inv_changeConfigR cfg h.1 hg) (by rw [changeConfigR_shape]; rfl)
    (fun hp => by rw [changeConfigR_shape] at hp; exact hp)

theorem ti_commitConfig {s : Node} (h : TI s₀ b g s) : TI s₀ b g s.commitConfig :=
  h.of_obs (Order.inv_commitConfig h.1) (by rw [commitConfig_eq]; rfl)
    (fun hp => by rw [← (commitConfig_other s).2.2.2.2.2.2.2.2.2.2]; exact hp)

theorem ti_revertConfig {s : Node} (h : TI s₀ b g s)
    (hg : s.panicked = none → s.configs.committed.index ≤ s.lastLogIndex) : TI s₀ b g s.revertConfig :=
  h.of_obs (Order.inv_revertConfig h.1 hg) rfl id

theorem obsT_afterConfigCommit (s : Node) : obsT s.afterConfigCommit = obsT s := by
  unfold Node.afterConfigCommit Node.closeIfRemoved Node.stepDownIfNotVoter
  repeat' split
  all_goals first
    | rfl
    | exact obsT_doClose _ _

theorem obsT_setCommitIndexR (s : Node) (i : Nat) : obsT (s.setCommitIndexR i).1 = obsT s := by
  unfold Node.setCommitIndexR
  split
  · rw [obsT_afterConfigCommit, commitConfig_eq]; rfl
  · rfl

theorem ti_withCommitIndex {s : Node} {b' : Bool} (i : Nat) (h : TI s₀ b g s)
    (hg : s.panicked = none → s.fsm.index ≤ i ∧ (b' = true → i ≤ s.lastLogIndex)) :
    TI s₀ b' g (s.withCommitIndex i) :=
  h.of_obs (Order.inv_withCommitIndex i h.1 hg) rfl id

theorem ti_setCommitIndexR {s : Node} {b' : Bool} (i : Nat) (h : TI s₀ b g s)
    (hg : s.panicked = none → s.fsm.index ≤ i ∧ (b' = true → i ≤ s.lastLogIndex)) :
    TI s₀ b' g (s.setCommitIndexR i).1 :=
  h.of_obs (Order.inv_setCommitIndexR i h.1 hg) (obsT_setCommitIndexR s i)
    (fun hp => by rw [← Node.setCommitIndexR_panicked s i]; exact hp)

theorem ti_snapResult {s : Node} (v : Option SnapRes) (h : TI s₀ b g s)
    (hg : s.panicked = none → ∀ rs, v = some rs → rs.index ≤ s.snapIndex) : TI s₀ b g (s.withSnapResult v) :=
  h.of_obs (Order.inv_snapResult v h.1 hg) rfl id

theorem ti_withLast {s : Node} (i t : Nat) (h : TI s₀ b g s) (hg : s.panicked = none → s.lastLogIndex = i) :
    TI s₀ b g (s.withLast i t) :=
  h.of_obs (Order.inv_withLast i t h.1 hg) rfl id

theorem Core.of_log {s s' : Node} (c : Core s) (e1 : s'.retain = s.retain) (e2 : s'.snapsDisk = s.snapsDisk)
    (e3 : s'.snapIndex = s.snapIndex) (e4 : s'.snapTerm = s.snapTerm) (e6 : s'.fsm = s.fsm)
    (hsi : s.snapIndex ≤ s.fsm.index) (hp : s'.log.prev = s.log.prev)
    (he : s'.log.entries.take (s.fsm.index - s.log.prev) = s.log.entries.take (s.fsm.index - s.log.prev))
    (hc : C03.LogContig s'.log) (hl : s.fsm.index ≤ s'.log.last) : Core s' := by
  have el := label_congr e2
  refine ⟨by rw [e1]; exact c.retain, by rw [e2, e3]; exact c.snapHead, hc, by rw [e6]; exact hl, ?_, ?_, ?_⟩
  · rw [el, e3]
    have : pre s'.log s.snapIndex = pre s.log s.snapIndex := pre_congr hp (take_le_congr he (by omega))
    unfold newest; rw [this]; exact c.lab
  · rw [el, e3, e4, e6]; exact c.fsmOk.of_log hp he
  · rw [e2, e3, e4]; exact c.snapOk.of_log hp (take_le_congr he (by omega))

theorem QM.of_log {s s' : Node} (h : QM s) (hq : s'.ldr.queue = s.ldr.queue) (hp : s'.log.prev = s.log.prev)
    (hg : ∀ i x, s.log.get? i = some x → s'.log.get? i = some x) : QM s' := by
  intro q hq' ht hlt
  rw [hq] at hq'
  exact hg _ _ (h q hq' ht (by omega))

/-- the record update of `storage.appendEntry`; a queue item may be the entry being appended -/
theorem ti_appendRaw {s : Node} {g' : Bool} (e : Entry) (roll : Bool) (h : TI s₀ b g' s)
    (hg : s.panicked = none → e.index = s.lastLogIndex + 1 ∧ (roll = true → s.log.lastSegPrev ≠ e.index - 1))
    (hq : g = true → s.panicked = none → ∀ q ∈ s.ldr.queue, isLogEntryTyp q.typ = true → s.log.prev < q.index →
      s.log.get? q.index = some q.toEntry ∨ (q.index = e.index ∧ q.toEntry = e)) :
    TI s₀ b g { s with log := s.log.append e roll, lastLogIndex := e.index, lastLogTerm := e.term } := by
  refine ⟨Order.inv_appendRaw e roll h.1 hg, fun hp => ?_⟩
  have hp' : s.panicked = none := hp
  obtain ⟨c, _⟩ := h.2 hp'
  have cw := h.coreW hp'
  obtain ⟨he, _⟩ := hg hp'
  obtain ⟨p1, p2⟩ := NLog.append_parts s.log e roll
  have hfl := c.fsmLe
  refine ⟨c.of_log rfl rfl rfl rfl rfl cw.snap_le_applied p1 ?_
    (c.contig.append e roll (by rw [← cw.last_eq]; exact he)) ?_, fun hg' q hq' ht hlt => ?_⟩
  · show (s.log.append e roll).entries.take _ = _
    rw [p2, List.take_append_of_le_length]
    unfold NLog.last at hfl; omega
  · show s.fsm.index ≤ (s.log.append e roll).last
    rw [NLog.last_append]; omega
  · have hlt' : s.log.prev < q.index := by rw [← p1]; exact hlt
    show (s.log.append e roll).get? q.index = some q.toEntry
    rcases hq hg' hp' q hq' ht hlt' with h1 | ⟨h1, h2⟩
    · exact NLog.get?_append_of_some _ _ _ _ _ h1
    · rw [h1, h2, he, cw.last_eq]; exact NLog.get?_append_new _ _ _

theorem ti_appendEntry {s : Node} {g' : Bool} (e : Entry) (h : TI s₀ b g' s)
    (hq : g = true → s.panicked = none → ∀ q ∈ s.ldr.queue, isLogEntryTyp q.typ = true → s.log.prev < q.index →
      s.log.get? q.index = some q.toEntry ∨ (q.index = e.index ∧ q.toEntry = e)) :
    TI s₀ b g (s.appendEntry e) := by
  unfold Node.appendEntry
  dsimp only
  obtain ⟨e1, e2, _⟩ := Order.obs_eq (Order.irr_assert s (e.index == s.lastLogIndex + 1) "assert.appendEntry").1
  obtain ⟨_, _, _, _, t5, _, t7⟩ := obsT_eq (obsT_assert s (e.index == s.lastLogIndex + 1) "assert.appendEntry")
  refine ti_appendRaw e _ (ti_assert _ _ h) (fun hp => ?_) (fun hg hp => ?_)
  · have hb := Order.assert_true hp
    rw [e1, e2]
    refine ⟨by simpa using hb, fun hroll => ?_⟩
    simp only [Bool.and_eq_true, bne_iff_ne, ne_eq] at hroll
    exact hroll.2
  · rw [t5, t7]
    exact hq hg ((Order.irr_assert _ _ _).2 hp)

theorem ti_appendEntry' {s : Node} (e : Entry) (h : TI s₀ b g s) : TI s₀ b g (s.appendEntry e) :=
  ti_appendEntry e h (fun hg hp q hq ht hlt => Or.inl ((h.2 hp).2 hg q hq ht hlt))

theorem contig_commitN {l : NLog} (hc : C03.LogContig l) (n : Nat) : C03.LogContig (l.commitN n) := by
  unfold NLog.commitN; split <;> exact hc

theorem ti_commitLog {s : Node} (n : Nat) (h : TI s₀ b g s) : TI s₀ b g (s.commitLog n) := by
  refine ⟨Order.inv_commitLog n h.1, fun hp => ?_⟩
  have hp' : s.panicked = none := hp
  obtain ⟨c, hq⟩ := h.2 hp'
  have cw := h.coreW hp'
  obtain ⟨e1, e2, e3⟩ := NLog.commitN_same s.log n
  have hlast : (s.log.commitN n).last = s.log.last := by unfold NLog.last; rw [e1, e2]
  have hget : ∀ i, (s.log.commitN n).get? i = s.log.get? i := by intro i; unfold NLog.get?; rw [e1, e2]
  refine ⟨c.of_log (s' := s.commitLog n) rfl rfl rfl rfl rfl cw.snap_le_applied e1 ?_ (contig_commitN c.contig n) ?_,
    fun hg => (hq hg).of_log rfl e1 (fun i x hx => ?_)⟩
  · show (s.log.commitN n).entries.take _ = _
    rw [e2]
  · show s.fsm.index ≤ (s.log.commitN n).last
    rw [hlast]; exact c.fsmLe
  · show (s.log.commitN n).get? i = _
    rw [hget]; exact hx

theorem compacted_removeLTE (l : NLog) (i : Nat) (h : C09.SegsOK l) : Compacted l (l.removeLTE i) :=
  ⟨(C09.removeLTE_whole_segments l i h).2.2.1, by rw [C09.removeLTE_entries, C09.removeLTE_prev]⟩

/-- `Raft.compactLog` at or below the snapshot index: the label stands in for the dropped configurations -/
theorem ti_compactLog {s : Node} (i : Nat) (h : TI s₀ b g s) (hg : s.panicked = none → i ≤ s.snapIndex) :
    TI s₀ b g (s.compactLog i) := by
  refine ⟨Order.inv_compactLog i h.1 hg, fun hp => ?_⟩
  have hp' : s.panicked = none := hp
  obtain ⟨c, hq⟩ := h.2 hp'
  have cw := h.coreW hp'
  obtain ⟨_, _, hge, hor, hl, hget, hk⟩ := C09.removeLTE_whole_segments s.log i cw.segs
  have hcomp := compacted_removeLTE s.log i cw.segs
  have hi := hg hp'
  have hps : (s.log.removeLTE i).prev ≤ s.snapIndex := by
    have := cw.prev_le_snap
    rcases hor with e | e <;> omega
  have el : label (s.compactLog i) = label s := label_congr rfl
  refine ⟨⟨c.retain, c.snapHead, ?_, ?_, ?_, ?_,
    ⟨fun hlt => by
      have hlt' : (s.log.removeLTE i).prev < s.snapIndex := hlt
      show ((s.log.removeLTE i).get? s.snapIndex).map (·.term) = some s.snapTerm
      rw [hget _ hlt']; exact c.snapOk.termLog (by omega), c.snapOk.headTerm, c.snapOk.zero⟩⟩, fun hg' q hq' ht hlt => ?_⟩
  · exact c.contig.removeLTE i cw.segs.head
  · show s.fsm.index ≤ (s.log.removeLTE i).last
    rw [hl]; exact c.fsmLe
  · rw [el]; exact lab_compacted hcomp hps c.lab
  · rw [el]; exact c.fsmOk.compacted hcomp hps cw.snap_le_applied c.lab
  · have hlt' : (s.log.removeLTE i).prev < q.index := hlt
    show (s.log.removeLTE i).get? q.index = _
    rw [hget _ hlt']
    exact hq hg' q hq' ht (by omega)

theorem core_removeGTE {s : Node} (c : Core s) (cw : Order.CoreW s) (i pt : Nat) (h1 : s.fsm.index < i)
    (h2 : i ≤ s.lastLogIndex) : Core (s.removeGTE i pt) := by
  have hprev : s.log.prev < i := by have := cw.prev_le_snap; have := cw.snap_le_applied; omega
  refine c.of_log (s' := s.removeGTE i pt) rfl rfl rfl rfl rfl cw.snap_le_applied rfl ?_ (c.contig.removeGTE i) ?_
  · show ((s.log.entries.take (i - 1 - s.log.prev)).take _) = _
    rw [List.take_take]; congr 1; omega
  · show s.fsm.index ≤ (s.log.removeGTE i).last
    rw [NLog.last_removeGTE _ _ hprev (by rw [← cw.last_eq]; exact h2)]; omega

theorem resolveConflict_sticky (s : Node) (ne : Entry) (pt : Nat) (hp : (s.resolveConflict ne pt).panicked = none) :
    s.panicked = none := by
  unfold Node.resolveConflict at hp
  split at hp
  · split at hp
    · exact absurd hp (panic_panicked_ne _ _)
    · dsimp only at hp; split at hp <;> exact hp
  · exact hp

theorem core_resolveConflict {s : Node} (c : Core s) (cw : Order.CoreW s) (ne : Entry) (pt : Nat)
    (hg : ne.index ≤ s.lastLogIndex → s.fsm.index < ne.index) : Core (s.resolveConflict ne pt) := by
  unfold Node.resolveConflict
  split
  · rename_i hle
    split
    · exact c.congr (obsT_panic _ _)
    · dsimp only
      have := core_removeGTE c cw ne.index pt (hg hle) hle
      split
      · exact this.congr6 rfl rfl rfl rfl rfl rfl
      · exact this
  · exact c

/-- "delete the conflicting entry and all that follow it": above the applied index the FSM's cache is not
concerned. The queue (of a deposed leader) is not tracked any more. -/
theorem ti_resolveConflict {s : Node} (ne : Entry) (pt : Nat) (h : TI s₀ true g s)
    (hg : s.panicked = none → ne.index ≤ s.lastLogIndex →
      s.snapIndex < ne.index ∧ s.commitIndex < ne.index ∧ s.configs.committed.index < ne.index) :
    TI s₀ true false (s.resolveConflict ne pt) := by
  refine ⟨Order.inv_resolveConflict ne pt h.1 hg, fun hp => ⟨?_, fun e => Bool.noConfusion e⟩⟩
  have hp' := resolveConflict_sticky s ne pt hp
  have cw := h.coreW hp'
  exact core_resolveConflict (h.2 hp').1 cw ne pt (fun hle => by
    have := (hg hp' hle).2.1; have := cw.applied_le_commit; omega)

/-- what `fsmApply` does not touch -/
def rest (s : Node) : Nat × List SnapFile × Nat × Nat × NLog × List QItem :=
  (s.retain, s.snapsDisk, s.snapIndex, s.snapTerm, s.log, s.ldr.queue)

theorem rest_eq {s s' : Node} (h : rest s' = rest s) :
    s'.retain = s.retain ∧ s'.snapsDisk = s.snapsDisk ∧ s'.snapIndex = s.snapIndex ∧ s'.snapTerm = s.snapTerm ∧
    s'.log = s.log ∧ s'.ldr.queue = s.ldr.queue := by
  simp only [rest, Prod.mk.injEq] at h
  exact h

theorem fsmFrame_rest : FsmFrame rest :=
  ⟨fun s site => by unfold Node.panic; split <;> rfl, fun s t r => by unfold Node.reply; split <;> rfl,
   fun _ _ => rfl⟩

theorem Core.of_fsm {s s' : Node} (c : Core s) (hr : rest s' = rest s) (hle : s'.fsm.index ≤ s.log.last)
    (hf : FsmOk s.log (label s) s.snapIndex s.snapTerm s'.fsm) : Core s' := by
  obtain ⟨e1, e2, e3, e4, e5, _⟩ := rest_eq hr
  have el := label_congr e2
  exact ⟨by rw [e1]; exact c.retain, by rw [e2, e3]; exact c.snapHead, by rw [e5]; exact c.contig,
    by rw [e5]; exact hle, by rw [e5, el, e3]; exact c.lab, by rw [e5, el, e3, e4]; exact hf,
    by rw [e5, e2, e3, e4]; exact c.snapOk⟩

theorem QM.of_rest {s s' : Node} (h : QM s) (hr : rest s' = rest s) : QM s' := by
  obtain ⟨_, _, _, _, e5, e6⟩ := rest_eq hr
  unfold QM; rw [e5, e6]; exact h

/-- `fsmApplyLogTo`: nothing but the FSM moves; it either stays or applies the range `(fsm.index, upto]` -/
theorem fsmApplyLogTo_cases (s : Node) (upto : Nat) :
    rest (s.fsmApplyLogTo upto) = rest s ∧
    ((s.fsmApplyLogTo upto).fsm = s.fsm ∨
     (s.fsm.index < upto ∧ s.log.prev ≤ s.fsm.index ∧ (C03.slice s.log s.fsm.index upto).length = upto - s.fsm.index ∧
      (s.fsmApplyLogTo upto).fsm.index = upto ∧
      (s.fsmApplyLogTo upto).fsm.term = (((C03.slice s.log s.fsm.index upto).getLast?).map (·.term)).getD s.fsm.term ∧
      (s.fsmApplyLogTo upto).fsm.config =
        (((C03.slice s.log s.fsm.index upto).filterMap Entry.config?).getLast?).getD s.fsm.config)) := by
  refine ⟨fsmFrame_rest.fsmApplyLogTo_eq s upto, ?_⟩
  rw [fsmApplyLogTo_shape]
  by_cases h : Applies s upto
  · exact Or.inr ⟨h.1, h.2.1, h.2.2, by rw [if_pos h]; exact ⟨rfl, rfl, rfl⟩⟩
  · exact Or.inl (if_neg h)

theorem core_fsmApplyLogTo (s : Node) (upto : Nat) (c : Core s) (hprev : s.log.prev ≤ s.fsm.index)
    (hsi : s.snapIndex ≤ s.fsm.index) :
    Core (s.fsmApplyLogTo upto) ∧ s.fsm.index ≤ (s.fsmApplyLogTo upto).fsm.index := by
  obtain ⟨hr, hc⟩ := fsmApplyLogTo_cases s upto
  rcases hc with hc | ⟨h1, h2, h3, h4, h5, h6⟩
  · exact ⟨c.of_fsm hr (by rw [hc]; exact c.fsmLe) (by rw [hc]; exact c.fsmOk), by rw [hc]; exact Nat.le_refl _⟩
  · have hle : upto ≤ s.log.last := by
      unfold C03.slice at h3
      rw [List.length_take, List.length_drop] at h3
      unfold NLog.last; omega
    exact ⟨c.of_fsm hr (by rw [h4]; exact hle)
      (c.fsmOk.applyRange c.contig hprev hsi upto h1 hle _ h4 h5 h6), by omega⟩

theorem config?_none_of_not_log (q : QItem) (h : isLogEntryTyp q.typ ≠ true) : q.toEntry.config? = none :=
  Entry.config?_none_of_typ fun e => h (by rw [show q.typ = etConfig from e]; rfl)

theorem itemStep_spec (s : Node) (q : QItem) :
    (C12.itemStep s q).fsm.config = (q.toEntry.config?).getD s.fsm.config ∧
    (C12.itemStep s q).fsm.index = (if isLogEntryTyp q.typ = true then q.index else s.fsm.index) ∧
    (C12.itemStep s q).fsm.term = (if isLogEntryTyp q.typ = true then q.term else s.fsm.term) ∧
    ((C12.itemStep s q).panicked = none → s.panicked = none ∧ q.index = s.fsm.index + 1) := by
  rw [C12.itemStep_eq]
  refine ⟨rfl, rfl, rfl, fun hp => ?_⟩
  exact ⟨(Order.irr_assert _ _ _).2 hp, by simpa using Order.assert_true hp⟩

theorem core_itemStep (s : Node) (q : QItem) (hp : (C12.itemStep s q).panicked = none) (c : Core s)
    (hprev : s.log.prev ≤ s.fsm.index) (hsi : s.snapIndex ≤ s.fsm.index)
    (hq : isLogEntryTyp q.typ = true → s.log.prev < q.index → s.log.get? q.index = some q.toEntry) :
    Core (C12.itemStep s q) ∧ s.fsm.index ≤ (C12.itemStep s q).fsm.index := by
  obtain ⟨h1, h2, h3, h4⟩ := itemStep_spec s q
  obtain ⟨_, hidx⟩ := h4 hp
  have hr : rest (C12.itemStep s q) = rest s := fsmFrame_rest.fsmApplyItems_eq s [q]
  by_cases ht : isLogEntryTyp q.typ = true
  · rw [if_pos ht] at h2 h3
    have hget := hq ht (by omega)
    rw [hidx] at hget
    have hle := (NLog.get?_some_le hget).2
    exact ⟨c.of_fsm hr (by rw [h2, hidx]; exact hle)
      (c.fsmOk.applyOne c.contig hprev hsi q.toEntry hget _ (by rw [h2, hidx]) (by rw [h3]; rfl) h1), by rw [h2]; omega⟩
  · rw [if_neg ht] at h2 h3
    rw [config?_none_of_not_log q ht] at h1
    exact ⟨c.of_fsm hr (by rw [h2]; exact c.fsmLe) (c.fsmOk.congr h2 h3 h1), by rw [h2]; exact Nat.le_refl _⟩

theorem core_fsmApplyItems (qs : List QItem) : ∀ (s : Node), (s.fsmApplyItems qs).panicked = none → Core s →
    s.log.prev ≤ s.fsm.index → s.snapIndex ≤ s.fsm.index →
    (∀ q ∈ qs, isLogEntryTyp q.typ = true → s.log.prev < q.index → s.log.get? q.index = some q.toEntry) →
    Core (s.fsmApplyItems qs) := by
  induction qs with
  | nil => intro s _ c _ _ _; exact c
  | cons q qs ih =>
    intro s hp c hprev hsi hit
    rw [C12.fsmApplyItems_cons] at hp ⊢
    have hp1 : (C12.itemStep s q).panicked = none :=
      (Order.sticky_closed (C12.itemStep s q)).fsmApplyItems_inv _ qs (fun h => h) hp
    obtain ⟨c1, hmono⟩ := core_itemStep s q hp1 c hprev hsi (hit q (List.mem_cons_self ..))
    have hr : rest (C12.itemStep s q) = rest s := fsmFrame_rest.fsmApplyItems_eq s [q]
    obtain ⟨_, _, e3, _, e5, _⟩ := rest_eq hr
    refine ih _ hp c1 (by rw [e5]; omega) (by rw [e3]; omega) (fun x hx => ?_)
    rw [e5]; exact hit x (List.mem_cons_of_mem _ hx)

theorem core_mid (s : Node) (upto : Nat) (items : List QItem)
    (hp : ((s.fsmApplyLogTo upto).fsmApplyItems items).panicked = none) (c : Core s)
    (hprev : s.log.prev ≤ s.fsm.index) (hsi : s.snapIndex ≤ s.fsm.index)
    (hit : ∀ q ∈ items, isLogEntryTyp q.typ = true → s.log.prev < q.index → s.log.get? q.index = some q.toEntry) :
    Core ((s.fsmApplyLogTo upto).fsmApplyItems items) := by
  obtain ⟨c1, hmono⟩ := core_fsmApplyLogTo s upto c hprev hsi
  obtain ⟨_, _, e3, _, e5, _⟩ := rest_eq (fsmApplyLogTo_cases s upto).1
  refine core_fsmApplyItems items _ hp c1 (by rw [e5]; omega) (by rw [e3]; omega) (fun q hq' => ?_)
  rw [e5]; exact hit q hq'

/-- **`fsmApply` keeps the FSM's cache in step with the applied prefix**, provided the items handed over are
the log entries at their index (`hit`; trivially so on a follower: `items = []`). -/
theorem ti_fsmApply {s : Node} (items : List QItem) (h : TI s₀ b g s)
    (hit : s.panicked = none → ∀ q ∈ items, isLogEntryTyp q.typ = true → s.log.prev < q.index →
      s.log.get? q.index = some q.toEntry) :
    TI s₀ true g (s.fsmApply items) := by
  refine ⟨Order.inv_fsmApply items h.1, fun hp => ?_⟩
  have hs := (Order.fsmApply_ok s items hp).1
  obtain ⟨c, hq⟩ := h.2 hs
  have cw := h.coreW hs
  have hr : rest (s.fsmApply items) = rest s := fsmFrame_rest.fsmApply_eq s items
  have hprev : s.log.prev ≤ s.fsm.index := by have := cw.prev_le_snap; have := cw.snap_le_applied; omega
  have hfsm : (s.fsmApply items).fsm = (Order.fsmMid s items).fsm ∧ (Order.fsmMid s items).panicked = none := by
    rw [Order.fsmApply_unfold] at hp ⊢
    split at hp
    · exact absurd hp (panic_panicked_ne _ _)
    · rename_i h1
      rw [if_neg h1]
      split at hp
      · exact absurd hp (panic_panicked_ne _ _)
      · rename_i h2
        rw [if_neg h2]
        exact ⟨(obsT_eq (obsT_assert _ _ _)).2.2.2.2.2.1, (Order.irr_assert _ _ _).2 hp⟩
  have hmid : Core (Order.fsmMid s items) :=
    core_mid s _ items hfsm.2 c hprev cw.snap_le_applied (hit hs)
  have hrm : rest (Order.fsmMid s items) = rest s := by
    unfold Order.fsmMid
    rw [fsmFrame_rest.fsmApplyItems_eq, fsmFrame_rest.fsmApplyLogTo_eq]
  obtain ⟨_, m2, m3, m4, m5, _⟩ := rest_eq hrm
  refine ⟨?_, fun hg => (hq hg).of_rest hr⟩
  have elm : label (Order.fsmMid s items) = label s := label_congr m2
  refine c.of_fsm hr ?_ ?_
  · rw [hfsm.1, ← m5]; exact hmid.fsmLe
  · rw [hfsm.1]
    have := hmid.fsmOk
    rw [m5, elm, m3, m4] at this
    exact this

theorem ti_applyCommitted {s : Node} (h : TI s₀ b g s) : TI s₀ true g s.applyCommitted :=
  ti_fsmApply [] h (fun _ q hq => by cases hq)

/-- `leader.applyCommitted`: the committed part of the queue is handed to the FSM — it matches the log (`QM`) -/
theorem ti_applyCommittedL {s : Node} (h : TI s₀ b true s) : TI s₀ true true s.applyCommittedL := by
  unfold Node.applyCommittedL
  dsimp only
  exact ti_fsmApply _ (ti_ldr h (fun hp => (h.coreW hp).removeLTE_le) (splitQueue_sub _ _).2)
    (fun hp q hq => (h.2 hp).2 rfl q ((splitQueue_sub _ _).1 q hq))

theorem ti_push {s : Node} (q' : QItem) (h : TI s₀ b true s) (hq : isLogEntryTyp q'.typ ≠ true) :
    TI s₀ b true (s.withLdr { s.ldr with queue := s.ldr.queue ++ [q'] }) :=
  ⟨Order.inv_ldr_same h.1 rfl, fun hp => ⟨(h.2 hp).1.congr6 rfl rfl rfl rfl rfl rfl, fun _ x hx ht hlt => by
    rcases List.mem_append.mp hx with e | e
    · exact (h.2 hp).2 rfl x e ht hlt
    · rw [List.mem_singleton.mp e] at ht; exact absurd ht hq⟩⟩

/-- queueing an item: the queue is not looked at until the entry is appended -/
theorem ti_pushQ {s : Node} (q' : QItem) (h : TI s₀ b true s) :
    TI s₀ b false (s.withLdr { s.ldr with queue := s.ldr.queue ++ [q'] }) :=
  ⟨Order.inv_ldr_same h.1 rfl, fun hp => ⟨(h.2 hp).1.congr6 rfl rfl rfl rfl rfl rfl, fun e => Bool.noConfusion e⟩⟩

/-- queueing a log-entry item and appending it to the log: the new item is the new entry -/
theorem ti_push_append {s : Node} (q' : QItem) (h : TI s₀ b true s) :
    TI s₀ b true ((s.withLdr { s.ldr with queue := s.ldr.queue ++ [q'] }).appendEntry q'.toEntry) := by
  refine ti_appendEntry q'.toEntry (ti_pushQ q' h) (fun _ hp x hx ht hlt => ?_)
  rcases List.mem_append.mp hx with e | e
  · exact Or.inl ((h.2 hp).2 rfl x e ht hlt)
  · rw [List.mem_singleton.mp e]; exact Or.inr ⟨rfl, rfl⟩

theorem ti_ldr_sub {s : Node} {l : Leader} (h : TI s₀ b g s) (hl : l.removeLTE = s.ldr.removeLTE)
    (hq : ∀ q ∈ l.queue, q ∈ s.ldr.queue) : TI s₀ b g (s.withLdr l) :=
  ⟨Order.inv_ldr_same h.1 hl, fun hp => ⟨(h.2 hp).1.congr6 rfl rfl rfl rfl rfl rfl,
    fun hg q hq' => (h.2 hp).2 hg q (hq q hq')⟩⟩

/-- a fresh leader struct (empty queue): the queue matches the log whatever it held before -/
theorem ti_ldr_fresh {s : Node} {l : Leader} (h : TI s₀ b g s) (hl : s.panicked = none → l.removeLTE ≤ s.snapIndex)
    (hq : l.queue = []) : TI s₀ b true (s.withLdr l) :=
  ⟨Order.inv_ldr h.1 hl, fun hp => ⟨(h.2 hp).1.congr6 rfl rfl rfl rfl rfl rfl,
    fun _ q hq' => by
      have : q ∈ l.queue := hq'
      rw [hq] at this; cases this⟩⟩

/-- the configuration `c` of the entry just appended: at the last log index, not below the latest configuration
(the side condition of `Raft.changeConfig c`) -/
def Fresh (s : Node) (c : Config) : Prop :=
  s.panicked = none → s.configs.latest.index ≤ c.index ∧ c.index ≤ s.lastLogIndex

/-- What it takes for an invariant `P` of a step that started in `s₀` to go through the leader block and the handlers.
`TI` and the invariants built on it (`Latest.LI`, `TrackCrash.TJ`) all do so in the same way, so the walk through the
handlers is made once, for any `P` with these closure properties.
* `P b g s` carries the flags of `TI s₀ b g s`: `b` the flag of `Order.Inv`, `g` whether the leader queue is looked at.
  `P` must imply the orderings (`inv`), from which the handlers discharge the side conditions of the other fields.
* One field per primitive state update that touches what such an invariant looks at, with the side condition the
  handlers can prove at its call sites; all updates that touch nothing of it are covered by `irr`.
* An invariant may fail between the append of a configuration entry `c` and `Raft.changeConfig c`, which always
  follows (`Latest.LN`: `configs.latest` is not yet the newest entry). `Pre b g s c` is what holds of `s` in between:
  `pushPend` (leader) and `Handles.followerAppend` establish it, `adopt` gets `P` back. (The configuration comes last here
  and first in `GuardedAt`: `toAt` passes `fun c s => Pre b true s c`.) -/
structure Carries (s₀ : Node) (P : Bool → Bool → Node → Prop) (Pre : Bool → Bool → Node → Config → Prop) : Prop where
  inv : ∀ {b g s}, P b g s → Order.Inv s₀ b s
  dropQ : ∀ {b g s}, P b g s → P b false s
  weaken : ∀ {b g s}, P true g s → P b g s
  panic : ∀ {b g} (s : Node) (site : String), P b g (s.panic site)
  /-- a state update that leaves alone what the orderings, `TI` and the crash-point trace look at -/
  irr : ∀ {b g s s'}, P b g s → Order.Irr s s' → obsT s' = obsT s → s'.trace = s.trace → P b g s'
  point : ∀ {b g s} (n : String), P b g s → P b g (s.point n)
  setTerm : ∀ {b g s} (t : Nat), P b g s → P b g (s.setTerm t)
  setVotedFor : ∀ {b g s} (t c : Nat), P b g s → P b g (s.setVotedFor t c)
  ldr : ∀ {b g s} {l : Leader}, P b g s → (s.panicked = none → l.removeLTE ≤ s.snapIndex) →
    (∀ q ∈ l.queue, q ∈ s.ldr.queue) → P b g (s.withLdr l)
  ldr_sub : ∀ {b g s} {l : Leader}, P b g s → l.removeLTE = s.ldr.removeLTE → (∀ q ∈ l.queue, q ∈ s.ldr.queue) →
    P b g (s.withLdr l)
  ldr_fresh : ∀ {b g s} {l : Leader}, P b g s → (s.panicked = none → l.removeLTE ≤ s.snapIndex) → l.queue = [] →
    P b true (s.withLdr l)
  commitConfig : ∀ {b g s}, P b g s → P b g s.commitConfig
  /-- the commit index only moves forward -/
  setCommitIndexR : ∀ {b b' g s} (i : Nat), P b g s →
    (s.panicked = none → s.fsm.index ≤ i ∧ (b' = true → i ≤ s.lastLogIndex)) →
    (s.panicked = none → s.commitIndex ≤ i) → P b' g (s.setCommitIndexR i).1
  snapResult : ∀ {b g s} (v : Option SnapRes), P b g s →
    (s.panicked = none → ∀ rs, v = some rs → rs.index ≤ s.snapIndex) → P b g (s.withSnapResult v)
  commitLog : ∀ {b g s} (n : Nat), P b g s → P b g (s.commitLog n)
  compactLog : ∀ {b g s} (i : Nat), P b g s → (s.panicked = none → i ≤ s.snapIndex) → P b g (s.compactLog i)
  applyCommitted : ∀ {b g s}, P b g s → P true g s.applyCommitted
  applyCommittedL : ∀ {b s}, P b true s → P true true s.applyCommittedL
  /-- queueing an item that is not a log entry (read, barrier) -/
  push : ∀ {b s} (q' : QItem), P b true s → isLogEntryTyp q'.typ ≠ true →
    P b true (s.withLdr { s.ldr with queue := s.ldr.queue ++ [q'] })
  /-- queueing a log-entry item that is not a configuration and appending it to the log -/
  pushAppend : ∀ {b s} (q' : QItem), P b true s → ¬ q'.typ = etConfig →
    P b true ((s.withLdr { s.ldr with queue := s.ldr.queue ++ [q'] }).appendEntry q'.toEntry)
  /-- queueing and appending a configuration item: its adoption is pending -/
  pushPend : ∀ {b s} {c : Config} (q' : QItem), P b true s → q'.toEntry.config? = some c →
    Pre b true ((s.withLdr { s.ldr with queue := s.ldr.queue ++ [q'] }).appendEntry q'.toEntry) c
  adopt : ∀ {b g s c} {l : Leader}, Pre b g s c → l.removeLTE = s.ldr.removeLTE → l.queue = s.ldr.queue →
    P b g ((s.withLdr l).changeConfigR c)

namespace Carries

variable {P : Bool → Bool → Node → Prop} {Pre : Bool → Bool → Node → Config → Prop} (C : Carries s₀ P Pre)
include C

theorem assert {s : Node} (bb : Bool) (site : String) (h : P b g s) : P b g (s.assert bb site) :=
  C.irr h (Order.irr_assert s bb site) (obsT_assert s bb site) (by rw [assert_shape])
theorem reply {s : Node} (t : Nat) (r : String) (h : P b g s) : P b g (s.reply t r) :=
  C.irr h (Order.irr_reply s t r) (obsT_reply s t r) (by rw [reply_shape])
theorem doClose {s : Node} (r : String) (h : P b g s) : P b g (s.doClose r) :=
  C.irr h (Order.irr_doClose s r) (obsT_doClose s r) (by rw [doClose_shape])
theorem popOrder {s : Node} (h : P b g s) : P b g s.popOrder := C.irr h (Order.irr_popOrder s) rfl rfl
theorem rpcReply {s : Node} (r) (h : P b g s) : P b g (s.withRpcReply r) := C.irr h (Order.irr_rpcReply s r) rfl rfl
theorem ret {s : Node} (r : Nat) (h : P b g s) : P b g (s.ret r) := C.irr h (Order.irr_ret s r) rfl rfl
theorem setRole {s : Node} (r : Role) (h : P b g s) : P b g (s.setRole r) := C.irr h (Order.irr_setRole s r) rfl rfl
theorem setLeader {s : Node} (l : Nat) (h : P b g s) : P b g (s.setLeader l) := C.irr h (Order.irr_setLeader s l) rfl rfl
theorem votesNeeded {s : Node} (v : Int) (h : P b g s) : P b g (s.withVotesNeeded v) :=
  C.irr h (Order.irr_votesNeeded s v) rfl rfl
theorem candTransfer {s : Node} (v : Bool) (h : P b g s) : P b g (s.withCandTransfer v) :=
  C.irr h (Order.irr_candTransfer s v) rfl rfl
theorem snapPending {s : Node} (v) (h : P b g s) : P b g (s.withSnapPending v) :=
  C.irr h (Order.irr_snapPending s v) rfl rfl
/-- at fixed flags a carried invariant follows the quiet handlers (Lemmas/Quiet.lean) -/
theorem toQuiet (op : Op) (b g : Bool) : QuietClosed op (P b g) where
  panic := fun s site _ => C.panic s site
  setRole := fun _ r hs _ => C.setRole r hs
  setLeader := fun _ l hs => C.setLeader l hs
  ret := fun _ r hs => C.ret r hs
  rpcReply := fun _ r hs => C.rpcReply r hs
  votesNeeded := fun _ v hs => C.votesNeeded v hs
  candTransfer := fun _ v hs => C.candTransfer v hs
  setTerm := fun _ t hs => C.setTerm t hs
  vote := fun _ t c hs _ => C.setVotedFor t c hs
  reply := fun _ t r hs => C.reply t r hs
  snapPending := fun _ v hs => C.snapPending v hs

theorem ldr_same {s : Node} {l : Leader} (h : P b g s) (hl : l.removeLTE = s.ldr.removeLTE)
    (hq : l.queue = s.ldr.queue) : P b g (s.withLdr l) :=
  C.irr h (Order.irr_ldr s l hl) (by unfold obsT Node.withLdr; dsimp only; rw [hq]) rfl

theorem setRepl {s : Node} (r : Repl) (h : P b g s) : P b g (s.setRepl r) := by
  unfold Node.setRepl; exact C.ldr_same h rfl rfl

theorem addReplication {s : Node} (n : CNode) (h : P b g s) : P b g (s.addReplication n) := by
  unfold Node.addReplication
  apply C.setRepl
  split
  · exact C.assert _ _ h
  · exact C.panic _ _

theorem notifyFlr {s : Node} (h : P b g s) : P b g s.notifyFlr := notifyFlr_of (fun x site _ => C.panic x site) s h

theorem beginFinishedRounds {s : Node} (h : P b g s) : P b g s.beginFinishedRounds := by
  unfold Node.beginFinishedRounds; exact C.ldr_same h rfl rfl

/-- A carried invariant in the records of Lemmas/StepWalk.lean. In the leader block the queue flag is set throughout; the
flag of `Order.Inv` is the level (`leader.setCommitIndex` drops it, the `applyCommitted` that follows regains it), and
`Pre` is the level between the append of a configuration entry and its adoption. -/
theorem toAt (b : Bool) : GuardedAt (P false true) (P b true) (fun c s => Pre b true s c) where
  panic := fun s site _ => C.panic s site
  reject := fun _ _ r hs _ => C.reply _ r hs
  stable := fun _ t hs => C.reply t _ hs
  popOrder := fun _ hs => C.popOrder hs
  ldrK := fun _ _ hs _ _ _ e _ _ eq => C.ldr_same hs e eq
  setRound := fun _ _ _ _ hs _ => C.setRepl _ hs
  beginFinishedRounds := fun _ hs => C.beginFinishedRounds hs
  enqueue := fun s q hs _ _ hl => C.push (s.stamp q) hs hl
  enqueueLog := fun s q hs _ _ _ hc => C.pushAppend (s.stamp q) hs hc
  enqueueCfg := fun s q _ hs _ _ hc => C.pushPend (s.stamp q) hs hc
  decodeFail := fun _ _ _ _ _ _ _ _ => C.panic _ _
  configSync := fun s c hs => by
    apply Guarded.foldl_inv
    · intro s x hs
      unfold LC.changeBody
      split
      · exact hs
      · split
        · exact C.addReplication _ hs
        · exact C.setRepl _ hs
    · unfold LC.changePre
      exact C.ldr_same (C.adopt hs rfl rfl) rfl rfl
  prePanic := fun _ _ _ _ => C.panic _ _
  commitLog := fun _ n hs => C.commitLog n hs
  commitR := fun s i hs hi => C.setCommitIndexR i hs (fun hp => by
    have hc := (C.inv hs hp).1.applied_le_commit
    exact ⟨by omega, fun e => Bool.noConfusion e⟩) (fun _ => by omega)
  weaken := fun _ hs => by
    cases b
    · exact hs
    · exact C.weaken hs
  applyL := fun _ hs => C.weaken (C.applyCommittedL hs)

theorem block (fuel : Nat) (b : Bool) : Block (P false true) (P b true) (fun c s => Pre b true s c) fuel :=
  (C.toAt b).block (C.toAt false) fuel

theorem toLdrAt (b : Bool) : GuardedLdrAt Caps.all (P false true) (P b true) (fun c s => Pre b true s c) where
  toGuardedAt := C.toAt b
  blk := fun f => C.block f b
  reply := fun _ t r hs => C.reply t r hs
  ldrT := fun _ _ _ hs _ _ _ e _ eq => C.ldr_same hs e eq
  noContact := fun _ _ _ _ hs _ => C.setRepl _ hs
  report := fun _ _ _ r _ hs _ _ _ _ => C.setRepl r hs
  setRole := fun _ r hs _ _ => C.setRole r hs
  setLeader := fun _ l hs => C.setLeader l hs
  setTerm := fun _ t hs _ => C.setTerm t hs
  compactBound := fun _ _ hs => C.compactLog _ hs (fun hp => (C.inv hs hp).1.removeLTE_le)

/-- a new leader record that differs in the transfer record only -/
theorem ldrT {s : Node} (l : Leader) (hs : P b g s) (_ : l.node = s.ldr.node) (_ : l.numVoters = s.ldr.numVoters)
    (_ : l.startIndex = s.ldr.startIndex) (e : l.removeLTE = s.ldr.removeLTE) (_ : l.repls = s.ldr.repls)
    (eq : l.queue = s.ldr.queue) : P b g (s.withLdr l) :=
  C.ldr_same hs e eq

/-- `leader.init` starts from an empty queue: whatever the flag before, the queue matches the log after -/
theorem leaderInit {s : Node} (hs : P b g s) : P b true s.leaderInit := by
  refine Block.leaderInit_of (fun f => C.block f b) (fun _ n hs _ => C.addReplication n hs) s ?_
  unfold LC.initPre
  exact C.ldr_fresh (C.assert _ _ hs)
    (fun hp => (Order.inv_assert (s₀ := s₀) (b := b) _ _ (C.inv hs) hp).1.prev_le_snap) rfl

theorem leaderRelease {s : Node} (hs : P b g s) : P b g s.leaderRelease :=
  Node.leaderRelease_of (fun _ l hs => C.ldrT l hs) (fun _ t r hs => C.reply t r hs) (fun _ l hs => C.setLeader l hs)
    (fun _ hs => C.ldr_sub hs rfl (fun _ hq => nomatch hq)) s hs

theorem releaseRole {s : Node} (r : Role) (hs : P b g s) : P b g (s.releaseRole r) :=
  releaseRole_of (fun _ v hs => C.candTransfer v hs) (fun _ hs => C.leaderRelease hs) s r hs

/-- the bounds up to which `onSnapshotTaken` compacts, and which it notes, lie at or below the snapshot index: they are
at most the index of the finished snapshot (`onSnapshotTaken_cases`), which the orderings keep at or below it -/
theorem onSnapshotTaken {s : Node} (h : P b g s) : P b g s.onSnapshotTaken := by
  have h0 : P b g (s.withSnapResult none) := C.snapResult none h (fun _ rs hrs => by cases hrs)
  refine onSnapshotTaken_cases s (fun _ => h) (fun _ _ => C.reply _ _ h0) fun rs a c y hr _ ha hc _ hy => C.reply _ _ ?_
  have hle : ∀ i, i ≤ rs.index → s.panicked = none → s.log.canLTE i ≤ s.snapIndex := fun i hi hp =>
    Order.canLTE_le_of (C.inv h hp).1.segs (C.inv h hp).1.prev_le_snap
      (by have := (C.inv h hp).1.snapRes_le rs hr; omega)
  have hy' : P b g y ∧ y.snapIndex = s.snapIndex ∧ y.panicked = s.panicked := by
    rcases hy with e | ⟨_, e⟩
    · rw [e]; exact ⟨h0, rfl, rfl⟩
    · rw [e]; exact ⟨C.compactLog _ h0 (hle a ha), rfl, rfl⟩
  obtain ⟨h1, e1, e2⟩ := hy'
  refine ite_ind (fun _ => C.notifyFlr (C.ldr h1 (fun hp => ?_) (fun q hq => hq))) fun _ =>
    ite_ind (fun _ => C.notifyFlr (C.ldr h1 (fun hp => (C.inv h1 hp).1.prev_le_snap) (fun q hq => hq))) fun _ => h1
  rw [e2] at hp
  rw [e1]
  exact hle c hc hp

/-- the handlers only a leader runs, whichever the operation asks for (Lemmas/HandleKind.lean) -/
theorem ldrCall {x h : Node} {op : Op} (c : LdrCall x op h) (hs : P b true x) : P b true h :=
  c.ldr (C.toLdrAt b) trivial trivial (fun _ _ _ => trivial) hs

theorem initRole {s : Node} (hs : P b false s) :
    P b false s.initRole ∧ (s.role = .leader → P b true s.initRole) := by
  unfold Node.initRole
  split
  · rename_i h; exact ⟨hs, fun e => by rw [h] at e; cases e⟩
  · rename_i h; exact ⟨(C.toQuiet .timeout b false).startElection_inv _ hs h, fun e => by rw [h] at e; cases e⟩
  · exact ⟨C.dropQ (C.leaderInit hs), fun _ => C.leaderInit hs⟩

/-- the role transitions after a handler: a node that ends up leader went through `leader.init` (empty queue)
or was leader all along with a matching queue -/
theorem settle (n : Nat) (s : Node) (cur : Role) (h : P b false s) (hq : cur = .leader → s.role = .leader → P b true s) :
    P b false (Node.settle (n + 3) s cur) ∧
      ((Node.settle (n + 3) s cur).role = .leader → P b true (Node.settle (n + 3) s cur)) := by
  refine LC.settle_induct (Q := fun s cur => P b false s ∧ (cur = .leader → s.role = .leader → P b true s))
    (R := fun s => P b false s ∧ (s.role = .leader → P b true s))
    (fun s cur h e => ⟨h.1, fun hl => h.2 (by rw [← e]; exact hl) hl⟩) (fun s cur h _ => ?_) n s cur ⟨h, hq⟩
  obtain ⟨h2, h3⟩ := C.initRole (C.releaseRole cur h.1)
  exact ⟨h2, fun hl _ => h3 hl⟩
end Carries

/-- the three ways the snapshot goroutine ends: no request pending; a refusal (nothing new, or below the threshold);
the FSM's state published as the newest file -/
theorem snapRun_ind {Q : Node → Prop} (s : Node) (h0 : Q s)
    (h1 : ∀ r : SnapRes, r.index = 0 → Q ((s.withSnapPending none).withSnapResult (some r)))
    (h2 : ∀ rq, s.snapPending = some rq → s.fsm.index ≠ s.snapIndex → rq.minIndex ≤ s.fsm.index →
      Q (((s.withSnapPending none).publishSnapshot (C09.snapFileOf s rq)).withSnapResult
        (some { task := rq.task, index := s.fsm.index }))) : Q s.snapRun := by
  unfold Node.snapRun
  split
  · exact h0
  · rename_i rq hrq
    refine ite_ind (fun _ => h1 _ rfl) (fun hne => ite_ind (fun _ => h1 _ rfl) (fun hmin => ?_))
    exact h2 rq hrq hne (Nat.le_of_not_lt hmin)

/-- the snapshot goroutine, given what each invariant proves of the file it publishes -/
theorem Carries.snapRun_of {P : Bool → Bool → Node → Prop} {Pre : Bool → Bool → Node → Config → Prop}
    (C : Carries s₀ P Pre) {s : Node} (h : P b g s)
    (pub : ∀ rq, s.snapPending = some rq → s.fsm.index ≠ s.snapIndex → rq.minIndex ≤ s.fsm.index →
      P b g ((s.withSnapPending none).publishSnapshot (C09.snapFileOf s rq))) : P b g s.snapRun := by
  refine snapRun_ind s h (fun r hr => ?_) (fun rq hrq hne hmin => ?_)
  · exact C.snapResult _ (C.snapPending none h)
      (fun _ rs hrs => by injection hrs with hrs; rw [← hrs, hr]; exact Nat.zero_le _)
  · exact C.snapResult _ (pub rq hrq hne hmin) (fun _ rs hrs => by injection hrs with hrs; rw [← hrs]; exact Nat.le_refl _)

theorem role_snapRun (s : Node) : s.snapRun.role = s.role := by rw [snapRun_shape]

theorem role_shutdown (s : Node) : s.shutdown.role = s.role := by
  have h1 : ((s.doClose "serverClosed").releaseRole (s.doClose "serverClosed").role).role = s.role := by
    rw [LC.role_releaseRole, LC.role_doClose]
  exact shutdown_of (Inv := fun x => x.role = s.role) s h1 (by rw [role_snapRun]; exact h1)
    fun x hx => by rw [(onSnapshotTaken_frame x).shape]; exact hx

/-- what `Shutdown` does before the snapshot goroutine is waited for leaves the FSM, the pending request, the
snapshot index and the panic flag alone -/
def keepS (s : Node) : Option SnapReq × Fsm × Nat × Option String := (s.snapPending, s.fsm, s.snapIndex, s.panicked)

/-- a predicate of the pending request, the FSM and the snapshot index passes between states that agree on `keepS`: from
the state `Shutdown` starts in to the one it hands to the snapshot goroutine (`keepS_shutdownPre`) -/
theorem keepS_congr {Q : Option SnapReq → Fsm → Nat → Prop} {s s' : Node} (e : keepS s' = keepS s)
    (h : Q s.snapPending s.fsm s.snapIndex) : Q s'.snapPending s'.fsm s'.snapIndex := by
  simp only [keepS, Prod.mk.injEq] at e
  rw [e.1, e.2.1, e.2.2.1]; exact h

theorem keepS_reply (s : Node) (t : Nat) (r : String) : keepS (s.reply t r) = keepS s := by
  unfold Node.reply; split <;> rfl

theorem keepS_leaderRelease (s : Node) : keepS s.leaderRelease = keepS s := by
  unfold Node.leaderRelease Node.leaderReleaseRest
  dsimp only
  have hl : ∀ (x : Node) l, keepS (x.withLdr l) = keepS x := fun _ _ => rfl
  have hd : ∀ (x : Node) l, keepS (x.setLeader l) = keepS x := fun _ _ => rfl
  rw [hl, Frame.foldl_eq (proj := keepS) _ (fun s t => keepS_reply _ _ _),
    Frame.foldl_eq (proj := keepS) _ (fun s t => keepS_reply _ _ _)]
  unfold Node.transferReply
  repeat' split
  all_goals simp only [hl, hd, keepS_reply]

theorem keepS_shutdownPre (s : Node) (r : String) (ro : Role) : keepS ((s.doClose r).releaseRole ro) = keepS s := by
  have hc : keepS (s.doClose r) = keepS s := by unfold Node.doClose; split <;> rfl
  exact releaseRole_of (P := fun x => keepS x = keepS s) (fun _ _ h => h) (fun x h => (keepS_leaderRelease x).trans h)
    _ ro hc

/-- A carried invariant together with what it asks of the environment, so that it goes through `handle`, `settle` and
`step`.
* `Ok s op`: what is asked of the operation (`Order.ReqOk` at least; e.g. that the snapshot fallback is not taken);
  `Acc ne`: what is asked of each entry a follower is sent (e.g. that a configuration entry decodes).
* `followerAppend` is the one step of the follower's append loop that touches the invariant; a configuration entry
  leaves `Pre true false` for `adopt`.
* `bootstrap`, the snapshot goroutine and an install request have a proof of their own for each invariant and are
  fields; `Shutdown` only needs that its demand passes to the snapshot goroutine it waits for (`okShutdown`). -/
structure Handles (s₀ : Node) (P : Bool → Bool → Node → Prop) (Pre : Bool → Bool → Node → Config → Prop)
    (Acc : Entry → Prop) (Ok : Node → Op → Prop) : Prop extends Carries s₀ P Pre where
  reqOk : ∀ {s op}, Ok s op → Order.ReqOk s op
  okBegin : ∀ {s op} (ra : List Nat) (ord : List (List Nat)), Ok s op → Ok (s.begin ra ord) op
  acc : ∀ {s q}, Ok s (.append q) → ¬ q.term < s.term → ∀ ne ∈ q.entries, Acc ne
  /-- "delete the conflicting entry and all that follow it", then `storage.appendEntry` -/
  followerAppend : ∀ {g s} (ne : Entry) (pt : Nat), P true g s → Acc ne →
    (s.panicked = none → ne.index ≤ s.lastLogIndex →
      s.snapIndex < ne.index ∧ s.commitIndex < ne.index ∧ s.configs.committed.index < ne.index) →
    (ne.config? = none → P true false ((s.resolveConflict ne pt).appendEntry ne)) ∧
    (∀ c, ne.config? = some c → Pre true false ((s.resolveConflict ne pt).appendEntry ne) c)
  bootstrap : ∀ {b g s} (t : Nat) (c : Config), P b g s → P b g (s.bootstrap t c)
  snapRun : ∀ {b g s}, P b g s → Ok s .snapRun → P b g s.snapRun
  okShutdown : ∀ {s s'}, Ok s .shutdown → keepS s' = keepS s → Ok s' .snapRun
  install : ∀ {g s} (q : InstallReq), P true g s → Ok s (.install q) → ¬ q.term < s.term →
    P true false (s.onInstallSnap q)

namespace Handles

variable {P : Bool → Bool → Node → Prop} {Pre : Bool → Bool → Node → Config → Prop}
  {Acc : Entry → Prop} {Ok : Node → Op → Prop} (H : Handles s₀ P Pre Acc Ok)
include H

theorem shutdown {s : Node} (hs : P b g s) (hr : Ok s .shutdown) : P b g s.shutdown := by
  have h2 : P b g ((s.doClose "serverClosed").releaseRole (s.doClose "serverClosed").role) :=
    H.releaseRole _ (H.doClose _ hs)
  exact shutdown_of s h2 (H.snapRun h2 (H.okShutdown hr (keepS_shutdownPre s _ _))) (fun _ h3 => H.onSnapshotTaken h3)

theorem onAppendEntries {s : Node} (q : AppendReq) (h : P true g s) (hq : Ok s (.append q)) :
    P true false (s.onAppendEntries q) :=
  Order.onAppendEntries_keeps (R := P true false) (A := Acc) H.inv H.panic H.ret
    (fun i h hg hci => H.applyCommitted (H.setCommitIndexR (b' := true) i h hg hci)) H.setTerm H.setRole H.setLeader
    (fun n h => H.commitLog n h)
    (fun st ne h ha _ hg =>
      have f := H.followerAppend ne st.term h ha hg
      ⟨f.1, fun c hc => H.adopt (l := (stored st ne).ldr) (f.2 c hc) rfl rfl⟩)
    q (H.dropQ h) (H.reqOk hq) (H.acc hq)

/-- a handler run with the queue matching the log (any role): the invariant survives; the queue still matches
unless the handler was an append/install request with a current term — and then the node is not leader -/
theorem handle_true {s : Node} (op : Op) (hs : P true true s) (hr : Ok s op) :
    P true false (s.handle op) ∧ ((s.handle op).role = .leader → P true true (s.handle op)) := by
  have key : ∀ x : Node, P true true x → P true false x ∧ (x.role = .leader → P true true x) :=
    fun x hx => ⟨H.dropQ hx, fun _ => hx⟩
  have Q := H.toCarries.toQuiet op true true
  cases handle_kind s op with
  | quiet q => exact key _ (q _ Q hs)
  | ldr _ c => exact key _ (H.ldrCall c hs)
  | special sp =>
    cases sp with
    | append q =>
      by_cases hq : q.term < s.term
      · refine key _ (Q.rpcDone_inv _ _ _ ?_)
        rw [onAppendEntries_stages, if_pos hq]
        exact H.ret _ hs
      · refine ⟨(H.toCarries.toQuiet (.append q) true false).rpcDone_inv _ _ _ (H.onAppendEntries _ hs hr), fun hl => ?_⟩
        have hl' : ((s.onAppendEntries q).rpcDone false true).role = .leader := hl
        rw [(SameKey.rpcDone _ _ _).role] at hl'
        exact absurd hl' (LC.nl_onAppendEntries s q hq)
    | install q =>
      by_cases hq : q.term < s.term
      · refine key _ (Q.rpcDone_inv _ _ _ ?_)
        rw [onInstallSnap_eq, if_pos hq]
        exact H.ret _ hs
      · refine ⟨(H.toCarries.toQuiet (.install q) true false).rpcDone_inv _ _ _ (H.install _ hs hr hq), fun hl => ?_⟩
        have hl' : ((s.onInstallSnap q).rpcDone false).role = .leader := hl
        rw [(SameKey.rpcDone _ _ _).role] at hl'
        exact absurd hl' (LC.nl_onInstallSnap s q hq)
    | snapRun => exact key _ (H.snapRun hs hr)
    | snapTaken => exact key _ (H.onSnapshotTaken hs)
    | shutdown => exact key _ (H.shutdown hs hr)
    | bootstrap t c hl _ =>
      refine key _ ?_
      rw [handle_bootstrap hl]
      exact H.bootstrap _ _ hs

/-- a handler run by a non-leader: the queue is not looked at -/
theorem handle_false {s : Node} (op : Op) (hs : P true false s) (hl : s.role ≠ .leader)
    (hr : Ok s op) : P true false (s.handle op) := by
  have Q := H.toCarries.toQuiet op true false
  cases handle_kind s op with
  | quiet q => exact q _ Q hs
  | ldr hl' _ => exact absurd hl' hl
  | special sp =>
    cases sp with
    | append q => exact Q.rpcDone_inv _ _ _ (H.onAppendEntries _ hs hr)
    | install q =>
      by_cases hq : q.term < s.term
      · refine Q.rpcDone_inv _ _ _ ?_
        rw [onInstallSnap_eq, if_pos hq]
        exact H.ret _ hs
      · exact Q.rpcDone_inv _ _ _ (H.install _ hs hr hq)
    | snapRun => exact H.snapRun hs hr
    | snapTaken => exact H.onSnapshotTaken hs
    | shutdown => exact H.shutdown hs hr
    | bootstrap t c hl _ =>
      rw [handle_bootstrap hl]
      exact H.bootstrap _ _ hs

end Handles

/-- One step, for an acceptable operation, from a state whose `begin` establishes the invariant
(with the queue flag if the node is leader), keeps it relative to the state the step started from; a node that is
leader afterwards has a queue matching its log. -/
theorem Handles.stepAll {s : Node} {P : Bool → Bool → Node → Prop} {Pre : Bool → Bool → Node → Config → Prop}
    {Acc : Entry → Prop} {Ok : Node → Op → Prop} (H : Handles s P Pre Acc Ok)
    (op : Op) (ra : List Nat) (ord : List (List Nat))
    (hb : ∀ g, (g = true → s.role = .leader) → P true g (s.begin ra ord)) (hr : Ok s op) :
    P true false (s.step op ra ord) ∧ ((s.step op ra ord).role = .leader → P true true (s.step op ra ord)) := by
  unfold Node.step
  dsimp only
  have hr' : Ok (s.begin ra ord) op := H.okBegin ra ord hr
  have hrole : (s.begin ra ord).role = s.role := rfl
  have hH : P true false ((s.begin ra ord).handle op) ∧
      (s.role = .leader → ((s.begin ra ord).handle op).role = .leader → P true true ((s.begin ra ord).handle op)) := by
    by_cases hl : s.role = .leader
    · obtain ⟨a1, a2⟩ := H.handle_true op (hb true (fun _ => hl)) hr'
      exact ⟨a1, fun _ => a2⟩
    · exact ⟨H.handle_false op (hb false (fun e => Bool.noConfusion e)) (by rw [hrole]; exact hl) hr',
        fun e => absurd e hl⟩
  split
  · exact ⟨hH.1, fun hl => by
      -- shutdown: no role transition; `releaseRole` keeps the role, so the node was leader before
      have hl0 : s.role = .leader := by
        have : ((s.begin ra ord).handle Op.shutdown).role = (s.begin ra ord).role := role_shutdown _
        rw [← hrole, ← this]; exact hl
      exact hH.2 hl0 hl⟩
  · exact H.settle 3 _ _ hH.1 fun hc hl => hH.2 (by rw [← hrole]; exact hc) hl

/-- `TI` with the side condition of the adoption that is pending -/
def TPre (s₀ : Node) (b g : Bool) (s : Node) (c : Config) : Prop := TI s₀ b g s ∧ Fresh s c

/-- a queued configuration item just appended: its index is the new last log index -/
theorem ti_pushPend {s : Node} {c : Config} (q' : QItem) (h : TI s₀ b true s) (hcfg : q'.toEntry.config? = some c) :
    TPre s₀ b true ((s.withLdr { s.ldr with queue := s.ldr.queue ++ [q'] }).appendEntry q'.toEntry) c := by
  have h2 := ti_push_append (s₀ := s₀) (b := b) q' h
  refine ⟨h2, fun hp => ?_⟩
  have hidx := (Entry.config?_facts hcfg).2.1
  have hll := (h2.1 hp).1.latest_le_last
  exact ⟨by rw [hidx]; exact hll, by rw [hidx]; exact Nat.le_refl _⟩

theorem ti_carries (s₀ : Node) : Carries s₀ (TI s₀) (TPre s₀) where
  inv := fun h => h.1
  dropQ := TI.dropQ
  weaken := TI.weaken
  panic := ti_panic
  irr := fun h hi e _ => h.irr hi e
  point := ti_point
  setTerm := ti_setTerm
  setVotedFor := ti_setVotedFor
  ldr := ti_ldr
  ldr_sub := ti_ldr_sub
  ldr_fresh := ti_ldr_fresh
  commitConfig := ti_commitConfig
  setCommitIndexR := fun i h hg _ => ti_setCommitIndexR i h hg
  snapResult := ti_snapResult
  commitLog := ti_commitLog
  compactLog := ti_compactLog
  applyCommitted := ti_applyCommitted
  applyCommittedL := ti_applyCommittedL
  push := ti_push
  pushAppend := fun q' h _ => ti_push_append q' h
  pushPend := ti_pushPend
  adopt := fun h hl hq => ti_changeConfigR _ (ti_ldr_same h.1 hl hq) h.2

theorem block (s₀ : Node) (fuel : Nat) (b : Bool) :
    Block (TI s₀ false true) (TI s₀ b true) (fun c s => TPre s₀ b true s c) fuel :=
  (ti_carries s₀).block fuel b

theorem label_publish (s : Node) (f : SnapFile) (hr : s.retain ≥ 1)
    (hh : ∀ g, s.snapsDisk.head? = some g → g.index ≤ f.index) :
    label (s.publishSnapshot f) = f.config := by
  unfold label
  rw [(C09.publish_keeps_new_file s f hr hh).2]; rfl

/-- `snapshotSink.done` at the FSM's position, labelled with the FSM's configuration (if it holds one):
the new label is self-consistent and the FSM's cache stays right relative to it. -/
theorem ti_publishSnap {s : Node} (f : SnapFile) (h : TI s₀ b g s) (hidx : f.index = s.fsm.index)
    (hterm : f.term = s.fsm.term) (hcfg : 0 < s.fsm.config.index → f.config = s.fsm.config) :
    TI s₀ b g (s.publishSnapshot f) := by
  refine ⟨Order.inv_publishSnapshot f h.1 (fun hp => ?_), fun hp => ?_⟩
  · rw [hidx]; exact ⟨(h.coreW hp).snap_le_applied, Nat.le_refl _⟩
  · have hp' : s.panicked = none := hp
    obtain ⟨c, hq⟩ := h.2 hp'
    have cw := h.coreW hp'
    have hsa := cw.snap_le_applied
    have hh : ∀ g, s.snapsDisk.head? = some g → g.index ≤ f.index := fun g hg => by
      have := c.headLe g hg; omega
    have el := label_publish s f c.retain hh
    obtain ⟨k1, k2⟩ := c.fsmOk.snapshot f.config hcfg
    have hd := (C09.publish_keeps_new_file s f c.retain hh).2
    rw [publishSnapshot_shape] at hd el ⊢
    refine ⟨⟨c.retain, ?_, c.contig, c.fsmLe, ?_, ?_, ⟨fun hlt => ?_, ?_, fun hz => ?_⟩⟩, fun hg => hq hg⟩
    · rw [hd]; rfl
    · rw [el]
      show newest s.log f.config f.index = f.config
      rw [hidx]; exact k2
    · rw [el]
      show FsmOk s.log f.config f.index f.term s.fsm
      rw [hidx, hterm]; exact k1
    · have hlt' : s.log.prev < f.index := hlt
      show (s.log.get? f.index).map (·.term) = some f.term
      rw [hidx, hterm]
      exact c.fsmOk.termLog (by rw [← hidx]; exact hlt')
    · rw [hd]; rfl
    · -- a snapshot at index 0: the FSM sits on the (absent) old snapshot
      have hz' : f.index = 0 := hz
      have h0 : s.fsm.index = s.snapIndex := by omega
      show f.term = 0
      rw [hterm, c.fsmOk.termSnap h0]
      exact c.snapOk.zero (by omega)

theorem ti_snapRun {s : Node} (h : TI s₀ b g s) : TI s₀ b g s.snapRun :=
  (ti_carries s₀).snapRun_of h fun _ _ _ _ => ti_publishSnap _ (ti_snapPending none h) rfl rfl (fun hpos => if_pos hpos)

/-- `storage.bootstrap` as `bootstrap` runs it — the configuration appended as the first entry, committed, term 1 — and
the bookkeeping of the last log index -/
abbrev bootStore (s : Node) (c : Config) : Node :=
  (((s.appendEntry c.toEntry).commitLog 1).setTerm 1).withLast c.index c.term

/-- `bootstrap` refuses with a reply, or stores the configuration as entry 1, adopts it and becomes candidate -/
theorem bootstrap_ind {Q : Node → Prop} (s : Node) (t : Nat) (cfg : Config) (h0 : ∀ r, Q (s.reply t r))
    (h1 : Q ((((bootStore s { cfg with index := 1, term := 1 }).changeConfigR { cfg with index := 1, term := 1 }).reply
      t "ok").setRole .candidate)) : Q (s.bootstrap t cfg) :=
  bootstrap_cases s t cfg (fun _ => h0) fun _ => h1

/-- `bootstrap`, given what each invariant proves of the stored and adopted configuration -/
theorem Carries.bootstrap_of {P : Bool → Bool → Node → Prop} {Pre : Bool → Bool → Node → Config → Prop}
    (C : Carries s₀ P Pre) {s : Node} (t : Nat) (cfg : Config) (h : P b g s)
    (store : P b g ((bootStore s { cfg with index := 1, term := 1 }).changeConfigR { cfg with index := 1, term := 1 })) :
    P b g (s.bootstrap t cfg) :=
  bootstrap_ind s t cfg (fun _ => C.reply _ _ h) (C.setRole _ (C.reply _ _ store))

theorem bootStore_last (s : Node) (c : Config) :
    (((s.appendEntry c.toEntry).commitLog 1).setTerm 1).lastLogIndex = c.index := by
  rw [(Order.obs_eq (Order.irr_setTerm _ 1).1).1]; rfl

theorem ti_bootStore {s : Node} (c : Config) (h : TI s₀ b g s) : TPre s₀ b g (bootStore s c) c := by
  have hl := ti_withLast c.index c.term (ti_setTerm 1 (ti_commitLog 1 (ti_appendEntry' c.toEntry h)))
    (fun _ => bootStore_last s c)
  exact ⟨hl, fun hp => ⟨(hl.1 hp).1.latest_le_last, Nat.le_refl _⟩⟩

theorem ti_bootstrap {s : Node} (t : Nat) (cfg : Config) (hs : TI s₀ b g s) : TI s₀ b g (s.bootstrap t cfg) :=
  have hl := ti_bootStore (s₀ := s₀) { cfg with index := 1, term := 1 } hs
  (ti_carries s₀).bootstrap_of t cfg hs (ti_changeConfigR _ hl.1 hl.2)

/-- the follower's truncation and append; a configuration entry just appended is at the last log index -/
theorem ti_followerAppend {s : Node} (ne : Entry) (pt : Nat) (h : TI s₀ true g s)
    (hg : s.panicked = none → ne.index ≤ s.lastLogIndex →
      s.snapIndex < ne.index ∧ s.commitIndex < ne.index ∧ s.configs.committed.index < ne.index) :
    TI s₀ true false ((s.resolveConflict ne pt).appendEntry ne) ∧
    ∀ c, ne.config? = some c → Fresh ((s.resolveConflict ne pt).appendEntry ne) c := by
  have h2 := ti_appendEntry' ne (ti_resolveConflict ne pt h hg)
  refine ⟨h2, fun c hcfg hp => ?_⟩
  have hci := (Entry.config?_facts hcfg).2.1
  have e2 : ((s.resolveConflict ne pt).appendEntry ne).lastLogIndex = ne.index := rfl
  have := (h2.1 hp).1.latest_le_last
  rw [e2] at this
  exact ⟨by rw [hci]; exact this, by rw [hci, e2]; exact Nat.le_refl _⟩

theorem obsT_installPre (s : Node) (q : InstallReq) : obsT (installPre s q) = obsT s := by
  unfold installPre
  have key : ∀ x : Node, obsT ((x.setRole .follower).setLeader q.src) = obsT x := fun _ => rfl
  rw [key]
  split
  · exact (show obsT ((s.setTerm q.term).setRole .follower) = obsT (s.setTerm q.term) from rfl).trans
      (obsT_setTerm _ _)
  · rfl

theorem ti_installPre {s : Node} (q : InstallReq) (h : TI s₀ b g s) : TI s₀ b g (installPre s q) :=
  h.irr (Order.irr_installPre s q) (obsT_installPre s q)

theorem discardTail_retain (p : Node) (c : Config) : (C09.discardTail p c).retain = p.retain := by
  unfold C09.discardTail
  rw [commitConfig_eq, changeConfigR_shape, fsmRestore_eq]
  rfl

theorem pre_reset (i j : Nat) : pre (NLog.reset i) j = [] := by
  unfold pre NLog.reset; simp

/-- the discard branch of an install request: the label of the node is the label received -/
theorem label_discardTail {p : Node} (q : InstallReq) (c : Core p) (cw : Order.CoreW p)
    (hlt : p.commitIndex < q.lastIndex) :
    label (C09.discardTail (p.publishSnapshot (C09.fileOf q)) q.lastConfig) = q.lastConfig := by
  obtain ⟨_, _, _, _, _, _, _, f8, _⟩ := C09.discardTail_fields (p.publishSnapshot (C09.fileOf q)) q.lastConfig
  unfold label
  rw [f8, (C09.publish_keeps_new_file p (C09.fileOf q) c.retain (c.headLe_of_commit cw hlt)).2]; rfl

/-- an install request is refused as stale; answered without installing (nothing beyond the commit index, or the log
holds the snapshot's last entry); or the snapshot is published and the log discarded (`C09.discardTail`) -/
theorem onInstallSnap_ind {Q : Node → Prop} (s : Node) (q : InstallReq) (h0 : q.term < s.term → Q (s.ret rStaleTerm))
    (h1 : ¬ q.term < s.term → Q ((installPre s q).ret rSuccess))
    (h2 : ¬ q.term < s.term → (installPre s q).commitIndex < q.lastIndex →
      Q (C09.discardTail ((installPre s q).publishSnapshot (C09.fileOf q)) q.lastConfig)) : Q (s.onInstallSnap q) := by
  rw [onInstallSnap_eq]
  exact ite_ind h0 (fun ht => ite_ind (fun _ => h1 ht) (fun ha => ite_ind (fun _ => h1 ht)
    (fun _ => h2 ht (Nat.lt_of_not_le ha))))

/-- the discard branch: the log is emptied at the new snapshot, the FSM restored from it — its cache is the
label just written. The queue (of a deposed leader) is not tracked any more. -/
theorem ti_onInstallSnap {s : Node} (q : InstallReq) (h : TI s₀ true g s)
    (hok' : q.term < s.term ∨ q.lastIndex ≤ s.commitIndex ∨ Order.InstallOk q) :
    TI s₀ true false (s.onInstallSnap q) := by
  refine ⟨Order.inv_onInstallSnap q h.1 hok', ?_⟩
  have hpre : TI s₀ true false (installPre s q) := (ti_installPre q h).dropQ
  refine onInstallSnap_ind (Q := fun x => x.panicked = none → Core x ∧ (false = true → QM x)) s q
    (fun _ => (ti_ret (s₀ := s₀) (b := true) _ h.dropQ).2) (fun _ => (ti_ret (s₀ := s₀) (b := true) _ hpre).2)
    (fun hterm hahead => ?_)
  intro hp
  refine ⟨?_, fun e => Bool.noConfusion e⟩
  obtain ⟨f1, _, _, f4, f5, _, _, f8, _, f10, f11, _⟩ :=
    C09.discardTail_fields ((installPre s q).publishSnapshot (C09.fileOf q)) q.lastConfig
  have fr := discardTail_retain ((installPre s q).publishSnapshot (C09.fileOf q)) q.lastConfig
  rw [f11] at hp
  obtain ⟨hpp, _⟩ := Order.fsmRestore_ok _ hp
  obtain ⟨d1, _, d3, d4⟩ := C09.discardPre_fields (installPre s q) (C09.fileOf q)
  have hpp' : (installPre s q).panicked = none := by rw [← d1]; exact hpp
  obtain ⟨c, _⟩ := hpre.2 hpp'
  have cw := hpre.coreW hpp'
  have hlt : (installPre s q).commitIndex < q.lastIndex := by omega
  obtain ⟨k1, k2⟩ := C09.publish_keeps_new_file (installPre s q) (C09.fileOf q) c.retain (c.headLe_of_commit cw hlt)
  have hsnap : ((installPre s q).publishSnapshot (C09.fileOf q)).snapIndex = q.lastIndex := rfl
  have hsterm : ((installPre s q).publishSnapshot (C09.fileOf q)).snapTerm = q.lastTerm := rfl
  have h0 : q.lastIndex ≠ 0 := by omega
  have hfsm := (fsmRestore_fsm ((installPre s q).publishSnapshot (C09.fileOf q)).clearLog (C09.fileOf q)
    (by rw [d3]; exact h0) (by rw [d4, d3]; exact k1)).1
  have el := label_discardTail q c cw hlt
  have hret : ((installPre s q).publishSnapshot (C09.fileOf q)).retain = (installPre s q).retain := by
    unfold Node.publishSnapshot Node.point; rfl
  refine ⟨by rw [fr, hret]; exact c.retain, ?_, by rw [f1]; exact C03.LogContig.reset _, ?_, ?_, ?_,
    ⟨fun hlt => ?_, ?_, fun hz => ?_⟩⟩
  · rw [f8, k2, f4, hsnap]; rfl
  · rw [f10, hfsm, f1, hsnap]
    show q.lastIndex ≤ q.lastIndex + 0
    omega
  · rw [el, f1]
    exact newest_of_nil _ (pre_reset _ _)
  · rw [el, f1, f4, f5, f10, hfsm, hsnap, hsterm]
    exact FsmOk.restored _ _ _ _ _ rfl rfl rfl rfl
  · rw [f1, f4] at hlt
    exact absurd hlt (Nat.lt_irrefl _)
  · rw [f8, k2, f5, hsterm]; rfl
  · rw [f4, hsnap] at hz; exact absurd hz h0

theorem ti_handles (s₀ : Node) : Handles s₀ (TI s₀) (TPre s₀) (fun _ => True) Order.ReqOk where
  toCarries := ti_carries s₀
  reqOk := id
  okBegin := fun {_ op} _ _ h => by cases op <;> exact h
  acc := fun _ _ _ _ => trivial
  followerAppend := fun ne pt h _ hg => ⟨fun _ => (ti_followerAppend ne pt h hg).1,
    fun c hc => ⟨(ti_followerAppend ne pt h hg).1, (ti_followerAppend ne pt h hg).2 c hc⟩⟩
  bootstrap := ti_bootstrap
  snapRun := fun h _ => ti_snapRun h
  okShutdown := fun _ _ => trivial
  install := fun q h hr _ => ti_onInstallSnap q h hr

/-- `begin` (clearing the ghost outputs) establishes the step invariant from the stable one -/
theorem ti_begin {s : Node} (ra : List Nat) (ord : List (List Nat)) (ho : Order.Ordered s) (c : Core s)
    (hq : g = true → QM s) : TI s true g (s.begin ra ord) :=
  ⟨Order.inv_begin ra ord ho, fun _ => ⟨c.congr rfl, fun hg => (hq hg).congr rfl⟩⟩

/-- One step from an ordered state satisfying `Core` (and `QM` if leader), for an acceptable
operation, keeps the invariant relative to the state the step started from; a node that is leader afterwards
has a queue matching its log. -/
theorem ti_stepAll {s : Node} (op : Op) (ra : List Nat) (ord : List (List Nat)) (ho : Order.Ordered s)
    (c : Core s) (hq : s.role = .leader → QM s) (hr : Order.ReqOk s op) :
    TI s true false (s.step op ra ord) ∧ ((s.step op ra ord).role = .leader → TI s true true (s.step op ra ord)) :=
  (ti_handles s).stepAll op ra ord (fun _ hg => ti_begin ra ord ho c (fun e => hq (hg e))) hr

end Track
end Raft
