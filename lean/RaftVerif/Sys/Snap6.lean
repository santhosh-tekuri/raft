/-
The cluster-level transition system of stage 3 (Sys/Snap3.lean: local snapshots, log compaction, installation of
snapshots) WITH THE STALE RESET AND THE CUT: the crash transitions assume NEITHER that `openStorage` finds a log that is
not stale NOR `Snap3.NoCut` (that the process does not die while an append request overwrites the uncommitted first entry
directly behind an installed snapshot).

`Snap6.Trans` is `Snap3.Trans` (same states `Snap3.Sys`, same ledgers, same ghost record `base`) except for
* `Trans.crash` — NO premise `staleLog (crashDisk …) = false` and NO premise `NoCut`: node `i` dies at any storage point of
  any operation of stage 2 — also between `RemoveGTE`, which empties a log that starts at its snapshot index, the appends
  and `commitLog` of `onAppendEntriesRequest` — and restarts from what is on disk; if the log on disk is stale with
  respect to the newest snapshot file on disk (`Node.staleLog`: it ends below the file's index — e.g. the node took a snapshot at its commit index while its flushed
  index was lower, `C10Sys2.stale_log_after_own_snapshot` —, or holds an entry of another term there) the restart RESETS
  the log to that file.  The state after the transition is the same `Snap2.crashS`: the ghost record `base i` becomes
  the first `n.log.prev` entries of the old virtual log — for a reset log the COMMITTED PREFIX the file stands for;
* `Trans.crashInstall` — NO premise "a disk with the OLD snapshot files is not stale"; `base i` becomes the prefix of the
  request if the disk holds the received file, else the first `n.log.prev` entries of the old virtual log (`crashInstS6`;
  this is `Snap3.crashInstS` whenever the log is not reset).

All other restrictions of Sys/Snap3.lean are kept (fixed voter set, no forged requests, no `.shutdown`, no compaction
reports, `retain ≥ 1`, completed steps do not fail an assertion, side conditions `Side3`, `TermTracked` for `.snapRun` —
the last one is dropped in `TransT` / `Reachable6T` at the end of this file).
-/
import RaftVerif.Sys.Snap4

namespace Raft
namespace Snap6
open Node Election LogRel Replication CommitRel Commit C02Sys SnapRelU SnapSim Snap Snap2 SnapInst Snap3 Snap4

/-- the state after node `i` died while handling the install request of `m` and restarted as `n` from the disk `d`:
`base i` is the prefix the request stands for if the disk holds the received file, else what the log of `n` no longer
holds of the old virtual log -/
def crashInstS6 (x : Snap3.Sys) (i : Nat) (m : SnapMsg) (d : Durable) (n : Node) : Snap3.Sys :=
  replS x i n (if d.snaps.head? = some (C09.fileOf m.q) ∧ Installs (x.node i) m.q then m.pre
    else newBase x.s2 i n.log.prev)

inductive Trans (x : Snap3.Sys) : Snap3.Sys → Prop
  /-- node `i` handles an enabled operation of stage 2 to completion, without failing an assertion -/
  | step (i : Nat) (op : Op) (ra : List Nat) (ord : List (List Nat)) (src : Nat) : Snap.Enabled x.s2.cs i op src →
      ((x.node i).step op ra ord).panicked = none → TermTracked (x.node i) op →
      Trans x { x with s2 := stepS x.s2 i op ra ord src }
  /-- node `i` dies while handling an enabled operation of stage 2, after `k` storage points, and restarts from what
  is on disk — a stale log is reset to the newest snapshot file -/
  | crash (i : Nat) (op : Op) (ra : List Nat) (ord : List (List Nat)) (src k retain : Nat) (sor : Bool)
      (n : Node) : Snap.Enabled x.s2.cs i op src → 1 ≤ retain →
      ((x.node i).step op ra ord).panicked = none → TermTracked (x.node i) op →
      Node.restart (C05.crashDisk (x.node i) op ra ord k) retain sor = some n →
      Trans x { x with s2 := crashS x.s2 i op n }
  /-- the leader `i` puts an append request read from its log on the wire -/
  | send (i : Nat) (q : AppendReq) : i ≠ 0 → (x.node i).role = .leader → ReadFrom2 (x.node i) (x.vnode i) q →
      q.ldrCommitIndex ≤ (x.node i).commitIndex →
      Trans x { x with s2 := { x.s2 with cs := sendC x.s2.cs q } }
  /-- the leader `i` puts its newest snapshot on the wire -/
  | sendSnap (i : Nat) (q : InstallReq) : i ≠ 0 → (x.node i).role = .leader → SnapRead (x.node i) q →
      Trans x { x with sentSnaps := ⟨q, (x.vlog i).take q.lastIndex⟩ :: x.sentSnaps }
  /-- node `i` handles an install request to completion, without failing an assertion -/
  | install (i : Nat) (m : SnapMsg) (ra : List Nat) (ord : List (List Nat)) : i ≠ 0 →
      (m.q.term < (x.node i).term ∨ m ∈ x.sentSnaps) →
      ((x.node i).step (.install m.q) ra ord).panicked = none →
      Trans x (installS x i m ra ord)
  /-- node `i` dies while handling an install request, after `k` storage points, and restarts from what is on disk — a
  stale log is reset to the newest snapshot file (the received one, or the newest old one) -/
  | crashInstall (i : Nat) (m : SnapMsg) (ra : List Nat) (ord : List (List Nat)) (k retain : Nat) (sor : Bool)
      (n : Node) : i ≠ 0 → (m.q.term < (x.node i).term ∨ m ∈ x.sentSnaps) → 1 ≤ retain →
      ((x.node i).step (.install m.q) ra ord).panicked = none →
      Node.restart (C05.crashDisk (x.node i) (.install m.q) ra ord k) retain sor = some n →
      Trans x (crashInstS6 x i m (C05.crashDisk (x.node i) (.install m.q) ra ord k) n)

/-- States reachable by runs in which `Side3 V` holds in every state (initial states: those of stage 3). -/
inductive Reachable6 (V : List Nat) : Snap3.Sys → Prop
  | init (x : Snap3.Sys) : Snap3.Init x → Side3 V x → Reachable6 V x
  | next (x y : Snap3.Sys) : Reachable6 V x → Trans x y → Side3 V y → Reachable6 V y

/-! ### without the premise `TermTracked` (as Sys/Snap4.lean does for Sys/Snap3.lean)

`TransT` is `Trans` without `TermTracked`: that `fsm.term` is the term of the log entry at `fsm.index` is not assumed of a
node that takes a snapshot but PROVED — the per-node invariants `C12Track.Tracks` / `Order.Ordered` are carried along the runs
(Lemmas/SnapCut.lean), through stale resets and the cut too; in exchange the states satisfy the three side conditions on
configurations of `Snap4.Side4` and the initial states the per-node invariants (`Snap4.Init4`). -/

inductive TransT (x : Snap3.Sys) : Snap3.Sys → Prop
  /-- node `i` handles an enabled operation of stage 2 to completion, without failing an assertion -/
  | step (i : Nat) (op : Op) (ra : List Nat) (ord : List (List Nat)) (src : Nat) : Snap.Enabled x.s2.cs i op src →
      ((x.node i).step op ra ord).panicked = none →
      TransT x { x with s2 := stepS x.s2 i op ra ord src }
  /-- node `i` dies while handling an enabled operation of stage 2, after `k` storage points, and restarts from what
  is on disk — a stale log is reset to the newest snapshot file -/
  | crash (i : Nat) (op : Op) (ra : List Nat) (ord : List (List Nat)) (src k retain : Nat) (sor : Bool)
      (n : Node) : Snap.Enabled x.s2.cs i op src → 1 ≤ retain →
      ((x.node i).step op ra ord).panicked = none →
      Node.restart (C05.crashDisk (x.node i) op ra ord k) retain sor = some n →
      TransT x { x with s2 := crashS x.s2 i op n }
  /-- the leader `i` puts an append request read from its log on the wire -/
  | send (i : Nat) (q : AppendReq) : i ≠ 0 → (x.node i).role = .leader → ReadFrom2 (x.node i) (x.vnode i) q →
      q.ldrCommitIndex ≤ (x.node i).commitIndex →
      TransT x { x with s2 := { x.s2 with cs := sendC x.s2.cs q } }
  /-- the leader `i` puts its newest snapshot on the wire -/
  | sendSnap (i : Nat) (q : InstallReq) : i ≠ 0 → (x.node i).role = .leader → SnapRead (x.node i) q →
      TransT x { x with sentSnaps := ⟨q, (x.vlog i).take q.lastIndex⟩ :: x.sentSnaps }
  /-- node `i` handles an install request to completion, without failing an assertion -/
  | install (i : Nat) (m : SnapMsg) (ra : List Nat) (ord : List (List Nat)) : i ≠ 0 →
      (m.q.term < (x.node i).term ∨ m ∈ x.sentSnaps) →
      ((x.node i).step (.install m.q) ra ord).panicked = none →
      TransT x (installS x i m ra ord)
  /-- node `i` dies while handling an install request, after `k` storage points, and restarts from what is on disk -/
  | crashInstall (i : Nat) (m : SnapMsg) (ra : List Nat) (ord : List (List Nat)) (k retain : Nat) (sor : Bool)
      (n : Node) : i ≠ 0 → (m.q.term < (x.node i).term ∨ m ∈ x.sentSnaps) → 1 ≤ retain →
      ((x.node i).step (.install m.q) ra ord).panicked = none →
      Node.restart (C05.crashDisk (x.node i) (.install m.q) ra ord k) retain sor = some n →
      TransT x (crashInstS6 x i m (C05.crashDisk (x.node i) (.install m.q) ra ord k) n)

/-- States reachable by runs of `TransT` in which `Snap4.Side4 V` holds in every state (initial states: `Snap4.Init4`). -/
inductive Reachable6T (V : List Nat) : Snap3.Sys → Prop
  | init (x : Snap3.Sys) : Init4 x → Side4 V x → Reachable6T V x
  | next (x y : Snap3.Sys) : Reachable6T V x → TransT x y → Side4 V y → Reachable6T V y

end Snap6
end Raft
