/-
The cluster-level transition system with local snapshots AND log compaction (stage 2 of the extension of `Raft.Commit`
by snapshots, compaction and snapshot installation; stage 1: Sys/Snap.lean).

`Snap2.Sys` = the nodes and ledgers of `Snap.Sys` (Sys/Snap.lean) plus one more ghost component

* `base i` — the entries node `i` removed from the front of its log by compaction (`Raft.compactLog` /
             `storage.removeLTE`). The VIRTUAL log of node `i` is `base i ++ log.entries` (`Sys.vlog`; formally the log
             of `Sys.vnode i = U (base i) (node i)`, Lemmas/SnapRelU.lean: it starts at index 1 again).

What is NEW with respect to Sys/Snap.lean: `.snapTaken` (`Raft.onSnapshotTaken`) is enabled WITHOUT the premise that
it leaves the log alone: it compacts the log up to a segment boundary at or below the snapshot (lowered by the match
indexes of the followers when the node leads), `log.prev` becomes positive, and from then on
* `Log.Get(i)` fails for `i ≤ log.prev`: a leader cannot read those entries any more, `fsmApply`, `mustGetEntry`,
  `ViewAt` would fail an assertion on them;
* a restart finds a log that does not start at index 1 and relies on the newest snapshot for what is missing.

The ledgers (`grants`, `counted`, `won`, `sent`, `created`, `acks`, `camps`, `committed`) are kept as in `Raft.Commit`
but are computed on the VIRTUAL nodes: an index is an index into `base ++ entries` (`stepL` below is `C02Sys.stepC`
with the state after the step as a parameter).

Restrictions of this stage (`_partial`), in addition to those of `Raft.Commit` (fixed voter set `V`, fixed stable
configuration, no forged requests — see Sys/Commit.lean):
* **no installation; compaction only by `onSnapshotTaken`**: `.install` and `.shutdown` never occur and replication
  updates never report a compaction (`Snap.OpOKS` — so `leader.checkLogCompact`, the compaction the leader delays for
  a slow follower, does not run);
* completed steps do not fail an assertion, and a process dies only in a step that would not fail one (`panicked =
  none`; a Go panic kills the process);
* side conditions on every state of a run (`Side2`): `SideV` and `CfgDec` as in stage 1 (the latter on the virtual
  logs); the segment list of every log is well formed (`C09.SegsOK`: strictly increasing, starts at `log.prev`, within
  the log — Model/SegLog.lean is about that layer); **no log is compacted exactly up to its snapshot index**
  (`log.prev = 0 ∨ log.prev ≠ snapIndex`: the entry at the snapshot index stays in the log. This excludes a compaction
  when a segment boundary coincides with the snapshot index, and a restart that resets a log shorter than the newest
  snapshot. It is used where `openStorage` takes the term of the last entry from the snapshot when the log is empty,
  and where `RemoveGTE` would empty the log);
* a restart is given `retain ≥ 1`.
-/
import RaftVerif.Sys.Snap
import RaftVerif.Lemmas.SnapRelU4
import RaftVerif.Lemmas.SnapBump
import RaftVerif.Props.C09

namespace Raft
namespace Snap2
open Node Election Replication Commit C02Sys SnapRelU SnapSim Snap

/-- The cluster with the ghost ledger of snapshot files and the ghost record of the compacted-away entries. -/
structure Sys where
  cs : Commit.Sys
  /-- (node, file): every snapshot file a node ever had on disk -/
  snaps : List (Nat × SnapFile)
  /-- the entries node `i` removed from the front of its log (ghost) -/
  base : Nat → List Entry

abbrev Sys.node (x : Sys) (i : Nat) : Node := x.cs.node i

/-- node `i` with its log un-compacted: the compacted-away entries are put back in front (`SnapRelU.U`) -/
def Sys.vnode (x : Sys) (i : Nat) : Node := U (x.base i) (x.node i)

/-- the virtual log of node `i`: `base i ++ log.entries`; its entry number `k` (from 0) has index `k + 1` -/
def Sys.vlog (x : Sys) (i : Nat) : List Entry := (x.vnode i).log.entries

/-- the cluster of the virtual nodes, as a state of the system of stage 1 -/
def view (x : Sys) : Snap.Sys := { cs := withNodes x.cs x.vnode, snaps := x.snaps }

def setBase (b : Nat → List Entry) (i : Nat) (β : List Entry) : Nat → List Entry := fun j => if j = i then β else b j

/-- `C02Sys.stepC` with the state `post` of node `i` after the step as a parameter: the ledgers record what the node
acknowledged, the campaign it started, the entries it created and the index its leader-side commit rule reached -/
def stepL (z : Commit.Sys) (i : Nat) (op : Op) (src : Nat) (post : Node) : Commit.Sys :=
  { rp := { el := { node := setNode z.rp.el.node i post
                    grants := voteGrant i op post ++ (selfGrant i (z.node i) post ++ z.rp.el.grants)
                    counted := countedBy i (z.node i) op src ++ z.rp.el.counted
                    won := (if post.role = .leader then [(i, post.term)] else []) ++ z.rp.el.won }
            sent := z.rp.sent
            created := newCreated i (z.node i).log.entries post.log.entries op ++ z.rp.created }
    acks := ackOf i op post ++ (selfAck i op (z.node i) post ++ z.acks)
    camps := campOf i (z.node i) post ++ z.camps
    committed := newCommit op (z.node i) post ++ z.committed }

theorem stepC_eq (z : Commit.Sys) (i : Nat) (op : Op) (ra : List Nat) (ord : List (List Nat)) (src : Nat) :
    stepC z i op ra ord src = stepL z i op src ((z.node i).step op ra ord) := rfl

/-- the compacted-away entries of node `i` when its log starts after index `p`: the first `p` virtual entries -/
def newBase (x : Sys) (i : Nat) (p : Nat) : List Entry := (x.vlog i).take p

/-- the state after node `i` handled `op` to completion: the node is replaced; the ledgers are updated on the virtual
nodes; what a compaction removed is added to `base i` -/
def stepS (x : Sys) (i : Nat) (op : Op) (ra : List Nat) (ord : List (List Nat)) (src : Nat) : Sys :=
  { cs := withNodes
      (stepL (view x).cs i op src
        (U (newBase x i ((x.node i).step op ra ord).log.prev) ((x.node i).step op ra ord)))
      (setNode x.cs.rp.el.node i ((x.node i).step op ra ord))
    snaps := newSnaps i (x.node i).snapsDisk ((x.node i).step op ra ord).snapsDisk ++ x.snaps
    base := setBase x.base i (newBase x i ((x.node i).step op ra ord).log.prev) }

def crashS (x : Sys) (i : Nat) (op : Op) (n : Node) : Sys :=
  { cs := withNodes (crashC (view x).cs i op (U (newBase x i n.log.prev) n)) (setNode x.cs.rp.el.node i n)
    snaps := newSnaps i (x.node i).snapsDisk n.snapsDisk ++ x.snaps
    base := setBase x.base i (newBase x i n.log.prev) }

/-- `q` is what a replication goroutine of the leader `s` (virtual node `v`) reads from the leader's log: as
`Replication.ReadFrom`, from the part of the log that is still there -/
structure ReadFrom2 (s v : Node) (q : AppendReq) : Prop where
  read : ReadFrom v q
  there : s.log.prev ≤ q.prevLogIndex

inductive Trans (x : Sys) : Sys → Prop
  /-- node `i` handles an enabled operation to completion, without failing an assertion -/
  | step (i : Nat) (op : Op) (ra : List Nat) (ord : List (List Nat)) (src : Nat) : Snap.Enabled x.cs i op src →
      ((x.node i).step op ra ord).panicked = none →
      Trans x (stepS x i op ra ord src)
  /-- node `i` dies while handling an enabled operation (that would not fail an assertion), after `k` storage points,
  and restarts from what is on disk (log, term and vote, snapshot files) -/
  | crash (i : Nat) (op : Op) (ra : List Nat) (ord : List (List Nat)) (src k retain : Nat) (sor : Bool)
      (n : Node) : Snap.Enabled x.cs i op src → 1 ≤ retain →
      ((x.node i).step op ra ord).panicked = none →
      Node.restart (C05.crashDisk (x.node i) op ra ord k) retain sor = some n →
      Trans x (crashS x i op n)
  /-- the leader `i` puts an append request read from its log on the wire -/
  | send (i : Nat) (q : AppendReq) : i ≠ 0 → (x.node i).role = .leader → ReadFrom2 (x.node i) (x.vnode i) q →
      q.ldrCommitIndex ≤ (x.node i).commitIndex →
      Trans x { x with cs := sendC x.cs q }

/-- Side condition on every state of a run: `Commit.SideV` (bootstrapped, voters `V`, stable latest configuration),
configuration entries of the virtual logs decode, segment lists are well formed, no log is compacted exactly up to its
snapshot index. -/
structure Side2 (V : List Nat) (x : Sys) : Prop where
  sideV : SideV V x.cs
  dec : CfgDec (view x).cs
  segs : ∀ i, C09.SegsOK (x.node i).log
  gap : ∀ i, (x.node i).log.prev = 0 ∨ (x.node i).log.prev ≠ (x.node i).snapIndex

/-- Initial states: the cluster of the virtual nodes is an initial state of stage 1 (`Snap.Init`: in particular no
snapshot anywhere, every node a follower whose memory matches its disk, logs pairwise matching and flushed); every log
starts at index 1 (so a virtual node differs from the real one only in the compaction bounds of its — unused — leader
record), no snapshot result is pending. -/
structure Init (x : Sys) : Prop where
  init : Snap.Init (view x)
  prev : ∀ i, (x.node i).log.prev = 0
  snapIndex : ∀ i, (x.node i).snapIndex = 0
  result : ∀ i, (x.node i).snapResult = none

/-- States reachable by runs in which `Side2 V` holds in every state. -/
inductive Reachable2 (V : List Nat) : Sys → Prop
  | init (x : Sys) : Init x → Side2 V x → Reachable2 V x
  | next (x y : Sys) : Reachable2 V x → Trans x y → Side2 V y → Reachable2 V y

end Snap2
end Raft
