/-
The cluster-level transition system WITH local snapshots (stage 1 of the extension of `Raft.Commit` by snapshots,
compaction and snapshot installation).

`Snap.Sys` is `Commit.Sys` (Sys/Commit.lean: any number of model nodes, each performing any enabled operation of
`Node.step` at any time with any oracle; crashes at any storage point + restart from disk; append requests read from a
leader's log on the wire; the ledgers of votes, campaigns, acknowledgements, created and committed entries) plus one
ghost ledger

* `snaps` — every snapshot file a node ever had on disk, with the node's id (recorded when it appears in `snapsDisk`:
            `snapshotSink.done`, or found on disk by a restart).

What is NEW with respect to `Raft.Commit`: the operations `.snapRun` (the snapshot goroutine runs to completion:
`doTakeSnapshot` writes `(fsm.index, fsm.term, configuration, state)` and applies retention) and `.snapTaken`
(`Raft.onSnapshotTaken`: the result of the goroutine is handed to the raft goroutine) are ENABLED — together with
`.takeSnapshot`, which is enabled but inert there. From then on the node has `snapIndex > 0`:
* `onAppendEntriesRequest` skips the consistency check for `prevLogIndex ≤ snapIndex` and does not look at entries at or
  below `snapIndex`;
* a restart reads the newest snapshot file, restores the state machine from it, sets `commitIndex = snapIndex` and looks
  for configurations only above `snapIndex`.

Restrictions of this stage (`_partial`), in addition to those of `Raft.Commit` (fixed voter set `V`, fixed stable
configuration, no forged requests — see Sys/Commit.lean):
* **no compaction, no installation**: `.install` and `.shutdown` never occur, replication updates never report a
  compaction (`OpOKS`), a `.snapTaken` step is only taken when it does not compact the log (premise
  `op = .snapTaken → (… .step op ra ord).log = … .log` of `Trans.step` / `Trans.crash`), and in every state of a run
  every log still starts at index 1 (`SideS`: `log.prev = 0`; this also excludes a restart that finds a log shorter than the newest snapshot and resets it);
* completed steps do not fail an assertion (`panicked = none`; a Go panic kills the process — in the model: a crash);
* every configuration entry in a log decodes (`CfgDec`, a side condition on every state like `SideV`: under the fixed
  configuration the only configuration entries are those of the initial logs);
* a restart is given `retain ≥ 1` (the option is validated by `Options.validate`).
-/
import RaftVerif.Props.C03Sys
import RaftVerif.Lemmas.SnapRelA

namespace Raft
namespace Snap
open Node Election LogRel Replication CommitRel Commit SnapRel C02Sys

/-- The operations of stage 1: everything except installing a snapshot, `shutdown` and replication updates that
report a compaction. (`LogRel.OpOK` without the clauses for `.snapRun` and `.snapTaken`.) -/
def OpOKS : Op → Prop
  | .install _ => False
  | .shutdown => False
  | .replUpdates us => NoCompact us
  | _ => True

/-- … and, as in `CommitRel.OpOK2`, no configuration change -/
def OpOK2S (op : Op) : Prop :=
  OpOKS op ∧ (∀ b, op = .newEntries b → NoCfg b) ∧ (∀ t c, op ≠ .changeConfig t c)

/-- What may be delivered to node `i`: the conditions of `Commit.Enabled` with `OpOKS` for `LogRel.OpOK`. -/
structure Enabled (x : Commit.Sys) (i : Nat) (op : Op) (src : Nat) : Prop where
  id : i ≠ 0
  voteSrc : ∀ q, op = .vote q → q.src ≠ 0
  real : Counts (x.node i) op → RealReply x.rp.el i src
  ok2 : OpOK2S op
  append : ∀ q, op = .append q → q.term < (x.node i).term ∨ q ∈ x.rp.sent
  vote : ∀ q, op = .vote q → q.term < (x.node i).term ∨
    ({ cand := q.src, term := q.term, lastIndex := q.lastLogIndex, lastTerm := q.lastLogTerm } : Camp) ∈ x.camps
  appendSrc : ∀ q, op = .append q → q.src ≠ i
  upd : ∀ us, op = .replUpdates us → ∀ u ∈ us, ∀ v, u.upd = .matchIndex v →
    v = 0 ∨ ∃ a ∈ x.acks, a.voter = u.id ∧ a.term = (x.node i).term ∧ v ≤ a.index

structure Sys where
  cs : Commit.Sys
  /-- (node, file): every snapshot file a node ever had on disk -/
  snaps : List (Nat × SnapFile)

abbrev Sys.node (x : Sys) (i : Nat) : Node := x.cs.node i

def newSnaps (i : Nat) (pre post : List SnapFile) : List (Nat × SnapFile) :=
  (post.filter (fun f => !pre.contains f)).map (fun f => (i, f))

inductive Trans (x : Sys) : Sys → Prop
  /-- node `i` handles an enabled operation to completion, without failing an assertion; the ledgers of
  `Commit.Trans.step` are updated as there; snapshot files that appeared on disk are recorded -/
  | step (i : Nat) (op : Op) (ra : List Nat) (ord : List (List Nat)) (src : Nat) : Enabled x.cs i op src →
      ((x.node i).step op ra ord).panicked = none →
      (op = .snapTaken → ((x.node i).step op ra ord).log = (x.node i).log) →
      Trans x { cs := stepC x.cs i op ra ord src
                snaps := newSnaps i (x.node i).snapsDisk ((x.node i).step op ra ord).snapsDisk ++ x.snaps }
  /-- node `i` dies while handling an enabled operation, after `k` storage points, and restarts from what is on disk
  (log, term and vote, snapshot files) -/
  | crash (i : Nat) (op : Op) (ra : List Nat) (ord : List (List Nat)) (src k retain : Nat) (sor : Bool)
      (n : Node) : Enabled x.cs i op src → 1 ≤ retain →
      (op = .snapTaken → ((x.node i).step op ra ord).log = (x.node i).log) →
      Node.restart (C05.crashDisk (x.node i) op ra ord k) retain sor = some n →
      Trans x { cs := crashC x.cs i op n
                snaps := newSnaps i (x.node i).snapsDisk n.snapsDisk ++ x.snaps }
  /-- the leader `i` puts an append request read from its log on the wire (`Commit.Trans.send`) -/
  | send (i : Nat) (q : AppendReq) : i ≠ 0 → (x.node i).role = .leader → ReadFrom (x.node i) q →
      q.ldrCommitIndex ≤ (x.node i).commitIndex →
      Trans x { x with cs := sendC x.cs q }

def CfgDec (x : Commit.Sys) : Prop :=
  ∀ i, ∀ e ∈ (x.node i).log.entries, e.typ = etConfig → e.cfg.isSome = true

/-- Side condition on every state of a run: `Commit.SideV` (bootstrapped, voters `V`, stable latest configuration),
no log was compacted or reset, configuration entries decode. -/
structure SideS (V : List Nat) (x : Sys) : Prop where
  sideV : SideV V x.cs
  prev : ∀ i, (x.node i).log.prev = 0
  dec : CfgDec x.cs

/-- Initial states: those of `Raft.Commit` (in particular: no snapshot anywhere — `NWF`), `retain ≥ 1`, and an empty
snapshot ledger. -/
structure Init (x : Sys) : Prop where
  cs : Commit.Init x.cs
  retain : ∀ i, 1 ≤ (x.node i).retain
  snaps : x.snaps = []

/-- States reachable by runs in which `SideS V` holds in every state. -/
inductive ReachableS (V : List Nat) : Sys → Prop
  | init (x : Sys) : Init x → SideS V x → ReachableS V x
  | next (x y : Sys) : ReachableS V x → Trans x y → SideS V y → ReachableS V y

end Snap
end Raft
