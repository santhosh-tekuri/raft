/-
The report protocol of the leader's delayed compaction, in isolation (leader.go `notifyFlr` / `checkReplUpdates` case
`removeLTE` / `checkLogCompact` / `addReplication`, fsm.go `onSnapshotTaken`, replication.go `onLeaderUpdate`).

State (`PState`): of the leader goroutine the wanted first index `R = ldr.removeLTE`, the first index `P = log.prev`,
the replications `ids` and what each status records as reported (`st j = status.removeLTE`); of the replication
goroutine `j` (GHOST — the leader cannot see it) the first index of the log view it reads through
(`view j = r.log.PrevIndex()`); between them the update waiting in `leaderUpdateCh` (capacity 1, the leader replaces a
waiting update: `chan j`, the first index of the view it carries) and the reports waiting in `replUpdateCh` (`q`, ONE
channel for all replications, oldest first: the ledger of reports).

Transitions (`PTrans mono chg`), with two parameters:
  `chg`  — the REPORT RULE of `replication.onLeaderUpdate`: `true` = a report whenever the first index of the view
           CHANGES (the code after the repair of finding F19, Model/Repl.lean); `false` = only when it GROWS (the
           original code);
  `mono` — `true`: `onSnapshotTaken` never LOWERS the bound (not what the code does; the alternative repair).
* `setR r`    — `onSnapshotTaken` records a new bound and notifies every replication (`ldr.removeLTE = canCompact`,
                or `= log.prev`; `notifyFlr`).  Any `r` (lower or higher), unless `mono`.
* `notify J`  — any other `notifyFlr` (new entries, new commit index): a view starting at the current bound.
* `consume j` — the goroutine takes the waiting update: it sends the report (rule `chg`) and THEN replaces its view
                (`r.notifyLdr(removeLTE{…}); r.log = u.log`: when the view has moved, the report is in the channel).
* `deliver`   — the leader takes the oldest report: `status.removeLTE = u.val`.
* `compact p` — `checkLogCompact`, at the end of `checkReplUpdates`: the leader has taken EVERY waiting report
                (`q = []`: the loop of `checkReplUpdates` drains the channel), `P < R`, every status holds
                `removeLTE ≥ R`; the log is compacted to some `p ≤ R` (`Log.RemoveLTE(R)` removes whole segments).
                (Between the draining and the compaction a goroutine can only take an update that carries a view starting
                at `R` — invariant `j2` of `QInv` —, which the compaction does not hurt: `compact_keeps_views`,
                Props/C09Sys4.lean part 3.)
* `add j`     — `addReplication`: status and view start at `R`; reports of an earlier goroutine for `j` are ignored
                (`status.removed`).
* `remove j`  — the replication is stopped.
The compaction `onSnapshotTaken` performs AT ONCE (`nowCompact`) is not governed by views but by the match indexes
(`C09`: never beyond any replication's match index) and is not part of this protocol.

Results (restated in Props/C09Sys4.lean):
* `qinv_reach` — REPAIRED rule (`chg = true`), bound raised and lowered at will: for every replication the newest report
  still waiting — or, if none waits, the status — IS the first index of the goroutine's view; a waiting update carries
  the current bound.  Hence a compaction leaves `P ≤ view j` for every replication.
* `pinv_reach` — ORIGINAL rule, bound never lowered: every status is at or below its goroutine's view; same conclusion.
* `ex_run`     — ORIGINAL rule, bound lowered (what `onSnapshotTaken` does): a compaction beyond the first index of a
  view in use (finding F19).
-/
import RaftVerif.Model.Repl

namespace Raft
namespace SnapView

def upd {α : Type} (f : Nat → α) (j : Nat) (v : α) : Nat → α := fun k => if k = j then v else f k

structure PState where
  /-- `ldr.removeLTE` -/
  R : Nat
  /-- `log.PrevIndex()` of the leader's log -/
  P : Nat
  /-- the replications -/
  ids : List Nat
  /-- `status.removeLTE` of replication `j` -/
  st : Nat → Nat
  /-- GHOST: `r.log.PrevIndex()` of the replication goroutine `j` -/
  view : Nat → Nat
  /-- the update waiting in `leaderUpdateCh` of `j`: the first index of its view -/
  chan : Nat → Option Nat
  /-- the `removeLTE` reports waiting in `replUpdateCh`, oldest first -/
  q : List (Nat × Nat)

/-- `replication.onLeaderUpdate` reports the first index `p` of the new view: whenever it differs from the old one
(`chg`, the repaired code), or only when it is above it (the original code) -/
def reports (chg : Bool) (old p : Nat) : Bool := if chg then p != old else decide (p > old)

inductive PTrans (mono chg : Bool) (x : PState) : PState → Prop
  | setR (r : Nat) : (mono = true → x.R ≤ r) → PTrans mono chg x { x with R := r, chan := fun _ => some r }
  | notify (J : Nat → Bool) : PTrans mono chg x { x with chan := fun j => if J j then some x.R else x.chan j }
  | consume (j p : Nat) : x.chan j = some p →
      PTrans mono chg x { x with view := upd x.view j p, chan := upd x.chan j none,
                                 q := x.q ++ (if reports chg (x.view j) p then [(j, p)] else []) }
  | deliver (j v : Nat) (rest : List (Nat × Nat)) : x.q = (j, v) :: rest →
      PTrans mono chg x { x with st := upd x.st j v, q := rest }
  | compact (p : Nat) : x.q = [] → x.P < x.R → (∀ j ∈ x.ids, x.R ≤ x.st j) → x.P ≤ p → p ≤ x.R →
      PTrans mono chg x { x with P := p }
  | add (j : Nat) : j ∉ x.ids →
      PTrans mono chg x { x with ids := j :: x.ids, st := upd x.st j x.R, view := upd x.view j x.R,
                                 chan := upd x.chan j none, q := x.q.filter (fun e => e.1 != j) }
  | remove (j : Nat) : PTrans mono chg x { x with ids := x.ids.erase j }

/-- `leader.init`: bound, statuses and views start at the first index of the log; nothing is waiting -/
structure PInit (x : PState) : Prop where
  r : x.R = x.P
  st : ∀ j, x.st j = x.R
  view : ∀ j, x.view j = x.R
  chan : ∀ j, x.chan j = none
  q : x.q = []

inductive PReach (mono chg : Bool) : PState → Prop
  | init (x : PState) : PInit x → PReach mono chg x
  | next (x y : PState) : PReach mono chg x → PTrans mono chg x y → PReach mono chg y

/-! ### the repaired rule: every change of the view is reported -/

/-- what the status of `j` will hold when the leader has taken every waiting report: the newest waiting report for `j`,
else `d` (what it holds now) -/
def latest : List (Nat × Nat) → Nat → Nat → Nat
  | [], _, d => d
  | e :: rest, j, d => latest rest j (if e.1 = j then e.2 else d)

theorem latest_append (q : List (Nat × Nat)) (e : Nat × Nat) (j d : Nat) :
    latest (q ++ [e]) j d = if e.1 = j then e.2 else latest q j d := by
  induction q generalizing d with
  | nil => rfl
  | cons a q ih => exact ih _

theorem latest_filter_ne (q : List (Nat × Nat)) (k j d : Nat) (h : j ≠ k) :
    latest (q.filter (fun e => e.1 != k)) j d = latest q j d := by
  induction q generalizing d with
  | nil => rfl
  | cons a q ih =>
    rw [List.filter_cons]
    by_cases ha : a.1 = k
    · have hb : (a.1 != k) = false := by simp [ha]
      rw [hb]
      simp only [Bool.false_eq_true, if_false]
      show _ = latest q j (if a.1 = j then a.2 else d)
      rw [if_neg (by rw [ha]; exact fun e => h e.symm)]
      exact ih d
    · have hb : (a.1 != k) = true := by simp [ha]
      rw [hb]
      simp only [if_true]
      exact ih _

theorem latest_filter_self (q : List (Nat × Nat)) (k d : Nat) :
    latest (q.filter (fun e => e.1 != k)) k d = d := by
  induction q generalizing d with
  | nil => rfl
  | cons a q ih =>
    rw [List.filter_cons]
    by_cases ha : a.1 = k
    · have hb : (a.1 != k) = false := by simp [ha]
      rw [hb]
      simp only [Bool.false_eq_true, if_false]
      exact ih d
    · have hb : (a.1 != k) = true := by simp [ha]
      rw [hb]
      simp only [if_true]
      show latest _ k (if a.1 = k then a.2 else d) = d
      rw [if_neg ha]
      exact ih d

/-- the invariant of the protocol with the repaired report rule -/
structure QInv (x : PState) : Prop where
  /-- a waiting update carries a view that starts at the current bound -/
  j2 : ∀ j p, x.chan j = some p → p = x.R
  /-- the newest waiting report of a replication — its status if none waits — is the first index of the view its
  goroutine holds -/
  j3 : ∀ j ∈ x.ids, latest x.q j (x.st j) = x.view j

theorem qinv_init {x : PState} (h : PInit x) : QInv x := by
  refine ⟨fun j p hp => ?_, fun j _ => ?_⟩
  · rw [h.chan j] at hp; cases hp
  · rw [h.q, h.st j, h.view j]; rfl

theorem qinv_trans {mono : Bool} {x y : PState} (hI : QInv x) (ht : PTrans mono true x y) : QInv y := by
  obtain ⟨j2, j3⟩ := hI
  cases ht with
  | setR r hr =>
    refine ⟨fun j p hp => ?_, j3⟩
    injection hp with hp
    exact hp.symm
  | notify J =>
    refine ⟨fun j p hp => ?_, j3⟩
    dsimp only at hp
    split at hp
    · injection hp with hp; exact hp.symm
    · exact j2 j p hp
  | consume j p hc =>
    refine ⟨fun k p' hp' => ?_, fun k hk => ?_⟩
    · have hp'' : upd x.chan j none k = some p' := hp'
      unfold upd at hp''
      split at hp''
      · cases hp''
      · exact j2 k p' hp''
    · show latest (x.q ++ (if reports true (x.view j) p then [(j, p)] else [])) k (x.st k) = upd x.view j p k
      have hr : reports true (x.view j) p = (p != x.view j) := rfl
      rw [hr]
      by_cases hpv : p = x.view j
      · have : (p != x.view j) = false := by simp [hpv]
        rw [this]
        simp only [Bool.false_eq_true, if_false, List.append_nil]
        rw [j3 k hk]
        unfold upd
        split
        · rename_i hkj; rw [hkj, hpv]
        · rfl
      · have : (p != x.view j) = true := by simp [hpv]
        rw [this]
        simp only [if_true]
        rw [latest_append]
        unfold upd
        by_cases hkj : k = j
        · rw [if_pos hkj.symm, if_pos hkj]
        · rw [if_neg (fun e => hkj e.symm), if_neg hkj]
          exact j3 k hk
  | deliver j v rest hq =>
    refine ⟨j2, fun k hk => ?_⟩
    have := j3 k hk
    rw [hq] at this
    show latest rest k (upd x.st j v k) = x.view k
    have e : upd x.st j v k = (if ((j, v) : Nat × Nat).1 = k then ((j, v) : Nat × Nat).2 else x.st k) := by
      unfold upd
      by_cases hkj : k = j
      · rw [if_pos hkj, if_pos hkj.symm]
      · rw [if_neg hkj, if_neg (fun e => hkj e.symm)]
    rw [e]
    exact this
  | compact p _ _ _ _ _ => exact ⟨j2, j3⟩
  | add j hj =>
    refine ⟨fun k p' hp' => ?_, fun k hk => ?_⟩
    · have hp'' : upd x.chan j none k = some p' := hp'
      unfold upd at hp''
      split at hp''
      · cases hp''
      · exact j2 k p' hp''
    · show latest (x.q.filter (fun e => e.1 != j)) k (upd x.st j x.R k) = upd x.view j x.R k
      unfold upd
      by_cases hkj : k = j
      · rw [if_pos hkj, if_pos hkj, hkj]
        exact latest_filter_self x.q j x.R
      · rw [if_neg hkj, if_neg hkj, latest_filter_ne x.q j k _ hkj]
        have hk' : k ∈ j :: x.ids := hk
        rcases List.mem_cons.mp hk' with e | e
        · exact absurd e hkj
        · exact j3 k e
  | remove j => exact ⟨j2, fun k hk => j3 k (List.mem_of_mem_erase hk)⟩

theorem qinv_reach {mono : Bool} {x : PState} (h : PReach mono true x) : QInv x := by
  induction h with
  | init x hi => exact qinv_init hi
  | next x y _ ht ih => exact qinv_trans ih ht

/-! ### the original rule (reports only when the view moves up), with a bound that is never lowered -/

/-- the invariant of the protocol with the original report rule when the bound is never lowered -/
structure PInv (x : PState) : Prop where
  /-- no view starts above the bound -/
  i1 : ∀ j, x.view j ≤ x.R
  /-- a waiting update carries a view that starts at or above the goroutine's view, not above the bound -/
  i2 : ∀ j p, x.chan j = some p → x.view j ≤ p ∧ p ≤ x.R
  /-- a waiting report is not above the view of the goroutine that sent it -/
  i3 : ∀ e ∈ x.q, e.2 ≤ x.view e.1
  /-- what a status records is not above the view of its goroutine -/
  i4 : ∀ j ∈ x.ids, x.st j ≤ x.view j

theorem pinv_init {x : PState} (h : PInit x) : PInv x := by
  refine ⟨fun j => by rw [h.view j]; exact Nat.le_refl _, fun j p hp => ?_, fun e he => ?_, fun j _ => ?_⟩
  · rw [h.chan j] at hp; cases hp
  · rw [h.q] at he; cases he
  · rw [h.st j, h.view j]; exact Nat.le_refl _

theorem pinv_trans {chg : Bool} {x y : PState} (hI : PInv x) (ht : PTrans true chg x y) : PInv y := by
  obtain ⟨i1, i2, i3, i4⟩ := hI
  cases ht with
  | setR r hr =>
    have hr' := hr rfl
    refine ⟨fun j => Nat.le_trans (i1 j) hr', fun j p hp => ?_, i3, i4⟩
    have : p = r := by injection hp with hp; exact hp.symm
    rw [this]
    exact ⟨Nat.le_trans (i1 j) hr', Nat.le_refl _⟩
  | notify J =>
    refine ⟨i1, fun j p hp => ?_, i3, i4⟩
    dsimp only at hp
    split at hp
    · have : p = x.R := by injection hp with hp; exact hp.symm
      rw [this]; exact ⟨i1 j, Nat.le_refl _⟩
    · exact i2 j p hp
  | consume j p hc =>
    obtain ⟨c1, c2⟩ := i2 j p hc
    refine ⟨fun k => ?_, fun k p' hp' => ?_, fun e he => ?_, fun k hk => ?_⟩
    · show upd x.view j p k ≤ x.R
      unfold upd; split
      · exact c2
      · exact i1 k
    · have hp'' : upd x.chan j none k = some p' := hp'
      show upd x.view j p k ≤ p' ∧ p' ≤ x.R
      unfold upd at hp'' ⊢
      split at hp''
      · cases hp''
      · rename_i hk
        rw [if_neg hk]
        exact i2 k p' hp''
    · show e.2 ≤ upd x.view j p e.1
      have he' : e ∈ x.q ++ (if reports chg (x.view j) p then [(j, p)] else []) := he
      rcases List.mem_append.mp he' with a | a
      · unfold upd; split
        · rename_i hj
          have := i3 e a
          rw [hj] at this
          exact Nat.le_trans this c1
        · exact i3 e a
      · split at a
        · have : e = (j, p) := List.mem_singleton.mp a
          rw [this]
          unfold upd
          rw [if_pos rfl]
          exact Nat.le_refl _
        · cases a
    · show x.st k ≤ upd x.view j p k
      unfold upd; split
      · rename_i hj
        have := i4 k hk
        rw [hj] at this
        rw [hj]
        exact Nat.le_trans this c1
      · exact i4 k hk
  | deliver j v rest hq =>
    refine ⟨i1, i2, fun e he => i3 e (by rw [hq]; exact List.mem_cons_of_mem _ he), fun k hk => ?_⟩
    show upd x.st j v k ≤ x.view k
    unfold upd; split
    · rename_i hj
      have := i3 (j, v) (by rw [hq]; exact List.mem_cons_self ..)
      rw [hj]
      exact this
    · exact i4 k hk
  | compact p _ _ _ _ _ => exact ⟨i1, i2, i3, i4⟩
  | add j hj =>
    refine ⟨fun k => ?_, fun k p' hp' => ?_, fun e he => ?_, fun k hk => ?_⟩
    · show upd x.view j x.R k ≤ x.R
      unfold upd; split
      · exact Nat.le_refl _
      · exact i1 k
    · have hp'' : upd x.chan j none k = some p' := hp'
      show upd x.view j x.R k ≤ p' ∧ p' ≤ x.R
      unfold upd at hp'' ⊢
      split at hp''
      · cases hp''
      · rename_i hk
        rw [if_neg hk]
        exact i2 k p' hp''
    · have he' : e ∈ x.q.filter (fun e => e.1 != j) := he
      obtain ⟨h1, h2⟩ := List.mem_filter.mp he'
      show e.2 ≤ upd x.view j x.R e.1
      unfold upd
      rw [if_neg (by simpa using h2)]
      exact i3 e h1
    · show upd x.st j x.R k ≤ upd x.view j x.R k
      unfold upd
      split
      · exact Nat.le_refl _
      · rename_i hkj
        have hk' : k ∈ j :: x.ids := hk
        rcases List.mem_cons.mp hk' with e | e
        · exact absurd e hkj
        · exact i4 k e
  | remove j => exact ⟨i1, i2, i3, fun k hk => i4 k (List.mem_of_mem_erase hk)⟩

theorem pinv_reach {chg : Bool} {x : PState} (h : PReach true chg x) : PInv x := by
  induction h with
  | init x hi => exact pinv_init hi
  | next x y _ ht ih => exact pinv_trans ih ht

/-! ### the original rule with a bound that is lowered (finding F19): one replication (id 2), log starting at index 0 -/

def ex0 : PState := { R := 0, P := 0, ids := [2], st := fun _ => 0, view := fun _ => 0, chan := fun _ => none, q := [] }
/-- snapshot 1: `canCompact = 10` -/
def ex1 : PState := { ex0 with R := 10, chan := fun _ => some 10 }
/-- the goroutine switches to the view starting at 10 and reports it -/
def ex2 : PState := { ex1 with view := upd ex1.view 2 10, chan := upd ex1.chan 2 none, q := [(2, 10)] }
/-- the leader records the report -/
def ex3 : PState := { ex2 with st := upd ex2.st 2 10, q := [] }
/-- snapshot 2: `canCompact = 5` — the bound is LOWERED -/
def ex4 : PState := { ex3 with R := 5, chan := fun _ => some 5 }
/-- the goroutine switches to the view starting at 5: not above its old view, NO report (original rule) -/
def ex5 : PState := { ex4 with view := upd ex4.view 2 5, chan := upd ex4.chan 2 none, q := [] }
/-- snapshot 3: `canCompact = 10` again; the update is waiting, the goroutine has not taken it yet -/
def ex6 : PState := { ex5 with R := 10, chan := fun _ => some 10 }
/-- `checkLogCompact`: no report is waiting, the status still says 10 -/
def ex7 : PState := { ex6 with P := 10 }

theorem ex_run : PReach false false ex6 ∧ PTrans false false ex6 ex7 := by
  have r0 : PReach false false ex0 := .init _ ⟨rfl, fun _ => rfl, fun _ => rfl, fun _ => rfl, rfl⟩
  have r1 : PReach false false ex1 := .next _ _ r0 (.setR 10 (fun h => by cases h))
  have r2 : PReach false false ex2 := .next _ _ r1 (.consume 2 10 rfl)
  have r3 : PReach false false ex3 := .next _ _ r2 (.deliver 2 10 [] rfl)
  have r4 : PReach false false ex4 := .next _ _ r3 (.setR 5 (fun h => by cases h))
  have r5 : PReach false false ex5 := .next _ _ r4 (.consume 2 5 rfl)
  have r6 : PReach false false ex6 := .next _ _ r5 (.setR 10 (fun h => by cases h))
  refine ⟨r6, .compact 10 rfl (by decide) ?_ (by decide) (by decide)⟩
  intro j hj
  have : j = 2 := List.mem_singleton.mp hj
  rw [this]
  decide

/-- the same run with the repaired rule: the switch to the view starting at 5 IS reported … -/
def ex5' : PState := { ex4 with view := upd ex4.view 2 5, chan := upd ex4.chan 2 none, q := [(2, 5)] }
/-- … snapshot 3 … -/
def ex6' : PState := { ex5' with R := 10, chan := fun _ => some 10 }
/-- … and when the leader has taken the report the status says 5: `checkLogCompact` waits -/
def ex7' : PState := { ex6' with st := upd ex6'.st 2 5, q := [] }

theorem ex_run_repaired : PReach false true ex7' ∧ ex7'.q = [] ∧ ex7'.st 2 = 5 ∧ ex7'.view 2 = 5 ∧ ex7'.R = 10 ∧
    ¬ (∀ j ∈ ex7'.ids, ex7'.R ≤ ex7'.st j) := by
  have r0 : PReach false true ex0 := .init _ ⟨rfl, fun _ => rfl, fun _ => rfl, fun _ => rfl, rfl⟩
  have r1 : PReach false true ex1 := .next _ _ r0 (.setR 10 (fun h => by cases h))
  have r2 : PReach false true ex2 := .next _ _ r1 (.consume 2 10 rfl)
  have r3 : PReach false true ex3 := .next _ _ r2 (.deliver 2 10 [] rfl)
  have r4 : PReach false true ex4 := .next _ _ r3 (.setR 5 (fun h => by cases h))
  have r5 : PReach false true ex5' := .next _ _ r4 (.consume 2 5 rfl)
  have r6 : PReach false true ex6' := .next _ _ r5 (.setR 10 (fun h => by cases h))
  have r7 : PReach false true ex7' := .next _ _ r6 (.deliver 2 5 [] rfl)
  refine ⟨r7, rfl, by decide, by decide, rfl, fun h => ?_⟩
  have := h 2 (List.mem_singleton.mpr rfl)
  revert this
  decide

end SnapView
end Raft
