/-
A cluster-level transition system for commit safety — `Replication.Sys` (Sys/Replication.lean: any node performs
any enabled operation of `Node.step` at any time; crashes at any storage point + restart; leaders put append
requests read from their log on the wire; ledgers of granted / counted votes, leaders, sent requests and
created entries) extended by three ghost ledgers:

* `acks`      — (voter j, term t, index k, entry term τ): at a moment when j's current term was t its log held an
                entry with term τ at index k, and either j answered `success` to an append request of term t whose
                last index is k (`ackOf`), or j is the leader of t and k is the index its own commit index just
                reached (`selfAck`; the leader counts itself in `majorityMatchIndex`);
* `camps`     — (candidate c, term t, lastLogIndex, lastLogTerm): recorded when c's vote moves to itself in the
                higher term t (`candidate.startElection`), with the coordinates of its last log entry — in a
                completed step and also when the node dies during the step and restarts with that durable
                (term, vote) (`campOf` in `Trans.step` and in `Trans.crash`);
* `committed` — (index, term) of the entry a LEADER's commit index reached by the majority rule. An entry counts
                as committed (`Cmt`) if it is an ancestor of (or equal to) a ledger entry in the tree of created
                entries; the invariant `cc` says that every node's commit index only covers committed entries.

Additional enabling conditions (messages are produced by nodes, not forged; delay, loss, duplication and
reordering stay unrestricted because the ledgers only grow):
* a vote request that is not refused as stale is a recorded campaign (`camps`): its log claim is the
  candidate's real one;
* an append request is never delivered to its own sender;
* a `matchIndex` report `(j, v)` with `v > 0` delivered to node i in `.replUpdates` is backed by an
  acknowledgement of j for i's current term at an index ≥ v (`replication.onAppendEntriesResp` raises
  `matchIndex` only on a success response, `Repl.match_index_sound`);
* a leader stamps a request with a commit index not above its own (`Trans.send`);
* initial states (`Init`): those of Sys/Replication.lean; in addition every initial log is flushed and well
  formed, nobody has voted or committed or applied anything, the tree of initial entries is closed under
  predecessors with terms that do not decrease along a path (`TreeOK`), and the three ledgers are empty;
* **restrictions of this `_partial` model**: those of Sys/Replication.lean (no snapshots / compaction, fixed
  voter set `V`) and, in addition, a fixed STABLE configuration: in every state every node's latest
  configuration has no pending action (`SideV`), no operation asks for a configuration change and no client batch
  carries a configuration entry (`CommitRel.OpOK2`). (Reason: within one step a leader may change its
  configuration several times; that the majority it counts for a commit is a majority of `V` is only proved
  when no change is in progress.)
-/
import RaftVerif.Lemmas.CommitRel

namespace Raft
namespace Commit
open Node Election LogRel Replication CommitRel

structure Ack where
  voter : Nat
  term : Nat
  index : Nat
  eterm : Nat
  deriving DecidableEq, Repr

structure Camp where
  cand : Nat
  term : Nat
  lastIndex : Nat
  lastTerm : Nat
  deriving DecidableEq, Repr

structure Sys where
  rp : Replication.Sys
  acks : List Ack
  camps : List Camp
  committed : List (Nat × Nat)

abbrev Sys.node (x : Sys) (i : Nat) : Node := x.rp.el.node i

abbrev Sys.T (x : Sys) : List CEntry := x.rp.created

def Ack.key (a : Ack) : Nat × Nat := (a.index, a.eterm)

def Camp.last (k : Camp) : Nat × Nat := (k.lastIndex, k.lastTerm)

/-- the acknowledgement a `success` reply to an append request stands for -/
def ackOf (i : Nat) (op : Op) (post : Node) : List Ack :=
  match op with
  | .append q =>
    if post.rpcReply.map (·.result) = some rSuccess ∧ 1 ≤ q.prevLogIndex + q.entries.length then
      [{ voter := i, term := q.term, index := q.prevLogIndex + q.entries.length,
         eterm := termAt post.log.entries (q.prevLogIndex + q.entries.length) }]
    else []
  | _ => []

def isAppend : Op → Bool
  | .append _ => true
  | _ => false

/-- the commit index moved in a step that did not handle an append request: the leader's majority rule -/
def LeaderCommit (op : Op) (pre post : Node) : Prop := isAppend op = false ∧ pre.commitIndex < post.commitIndex

instance (op : Op) (pre post : Node) : Decidable (LeaderCommit op pre post) := by
  unfold LeaderCommit; infer_instance

def newCommit (op : Op) (pre post : Node) : List (Nat × Nat) :=
  if LeaderCommit op pre post then [(post.commitIndex, termAt post.log.entries post.commitIndex)] else []

def selfAck (i : Nat) (op : Op) (pre post : Node) : List Ack :=
  if LeaderCommit op pre post then
    [{ voter := i, term := termAt post.log.entries post.commitIndex, index := post.commitIndex,
       eterm := termAt post.log.entries post.commitIndex }]
  else []

/-- the campaign: during the step the node's vote moved to itself in a higher term -/
def campOf (i : Nat) (pre post : Node) : List Camp :=
  if post.term > pre.term ∧ post.votedFor = i then
    [{ cand := i, term := post.term, lastIndex := pre.lastLogIndex, lastTerm := pre.lastLogTerm }]
  else []

structure Enabled (x : Sys) (i : Nat) (op : Op) (src : Nat) : Prop where
  rp : Replication.Enabled x.rp i op src
  ok2 : OpOK2 op
  vote : ∀ q, op = .vote q → q.term < (x.node i).term ∨
    ({ cand := q.src, term := q.term, lastIndex := q.lastLogIndex, lastTerm := q.lastLogTerm } : Camp) ∈ x.camps
  appendSrc : ∀ q, op = .append q → q.src ≠ i
  upd : ∀ us, op = .replUpdates us → ∀ u ∈ us, ∀ v, u.upd = .matchIndex v →
    v = 0 ∨ ∃ a ∈ x.acks, a.voter = u.id ∧ a.term = (x.node i).term ∧ v ≤ a.index

def stepRp (x : Sys) (i : Nat) (op : Op) (ra : List Nat) (ord : List (List Nat)) (src : Nat) : Replication.Sys :=
  { el := stepSys x.rp.el i op ra ord src
    sent := x.rp.sent
    created := newCreated i (x.node i).log.entries ((x.node i).step op ra ord).log.entries op ++ x.rp.created }

def crashRp (x : Sys) (i : Nat) (op : Op) (n : Node) : Replication.Sys :=
  { el := { x.rp.el with node := setNode x.rp.el.node i n }
    sent := x.rp.sent
    created := newCreated i (x.node i).log.entries n.log.entries op ++ x.rp.created }

inductive Trans (x : Sys) : Sys → Prop
  /-- node `i` handles an enabled operation to completion; the ledgers record what it acknowledged, the
  campaign it started and the index its leader-side commit rule reached -/
  | step (i : Nat) (op : Op) (ra : List Nat) (ord : List (List Nat)) (src : Nat) : Enabled x i op src →
      Trans x { rp := stepRp x i op ra ord src
                acks := ackOf i op ((x.node i).step op ra ord) ++
                  (selfAck i op (x.node i) ((x.node i).step op ra ord) ++ x.acks)
                camps := campOf i (x.node i) ((x.node i).step op ra ord) ++ x.camps
                committed := newCommit op (x.node i) ((x.node i).step op ra ord) ++ x.committed }
  /-- node `i` dies while handling an enabled operation, after `k` storage points, and restarts; nothing is
  acknowledged (a self vote that reached the disk is still recorded as a campaign) -/
  | crash (i : Nat) (op : Op) (ra : List Nat) (ord : List (List Nat)) (src k retain : Nat) (sor : Bool)
      (n : Node) : Enabled x i op src →
      Node.restart (C05.crashDisk (x.node i) op ra ord k) retain sor = some n →
      Trans x { x with rp := crashRp x i op n, camps := campOf i (x.node i) n ++ x.camps }
  | send (i : Nat) (q : AppendReq) : i ≠ 0 → (x.node i).role = .leader → ReadFrom (x.node i) q →
      q.ldrCommitIndex ≤ (x.node i).commitIndex →
      Trans x { x with rp := { x.rp with sent := q :: x.rp.sent } }

theorem trans_rp {x y : Sys} (h : Trans x y) : Replication.Trans x.rp y.rp := by
  cases h with
  | step i op ra ord src he => exact .step i op ra ord src he.rp
  | crash i op ra ord src k retain sor n he hn => exact .crash i op ra ord src k retain sor n he.rp hn
  | send i q hi hr hrf _ => exact .send i q hi hr hrf

/-- Side condition on every state of a run (the `_partial` restriction): every node is bootstrapped, the voters
of its latest configuration are `V`, and that configuration has no pending action. -/
def SideV (V : List Nat) (x : Sys) : Prop :=
  FixedV V x.rp.el ∧ ∀ i, (x.node i).configs.latest.isStable = true

/-- (index, term) keys of the tree, and the tree properties assumed of the initial ledger -/
structure TreeOK (T : List CEntry) : Prop where
  /-- every record lies on a root path of the ledger -/
  pathc : PathClosed T
  /-- the term of an entry is at least the term of its predecessor -/
  tmono : ∀ c ∈ T, c.pt ≤ c.e.term
  /-- the entries of one term lie on one path -/
  tblock : ∀ c ∈ T, ∀ d ∈ T, c.e.term = d.e.term → c.e.index ≤ d.e.index → Anc T (key c) (key d)

/-- Initial states: as `Replication.Init` (every node a follower whose memory matches its disk, logs pairwise
matching as paths of the ledger `created`, nothing sent); the initial tree is closed under predecessors, terms
do not decrease along its paths and the entries of one term lie on one path (e.g. all nodes bootstrapped with
the same configuration entry (1,1)); every log is completely flushed with well-formed segments; nothing is
committed or applied, no vote is cast in the current term, and the new ledgers are empty. -/
structure Init (x : Sys) : Prop where
  rp : Replication.Init x.rp
  tree : TreeOK x.T
  nodes : ∀ i, C06.LogWF (x.node i).log ∧ (x.node i).log.flushed = (x.node i).log.entries.length ∧
    (x.node i).commitIndex = 0 ∧ (x.node i).votedFor = 0 ∧ (x.node i).fsm = {}
  acks : x.acks = []
  camps : x.camps = []
  committed : x.committed = []

inductive ReachableV (V : List Nat) : Sys → Prop
  | init (x : Sys) : Init x → SideV V x → ReachableV V x
  | next (x y : Sys) : ReachableV V x → Trans x y → SideV V y → ReachableV V y

theorem reachable_rp {V : List Nat} {x : Sys} (h : ReachableV V x) : Replication.ReachableV V x.rp := by
  induction h with
  | init x hi hs => exact .init _ hi.rp hs.1
  | next x y _ ht hs ih => exact .next _ _ ih (trans_rp ht) hs.1

/-- **committed**: `a` is an ancestor of (or equal to) an entry a leader of a term `≤ u` committed by the
majority rule -/
def Cmt (x : Sys) (a : Nat × Nat) (u : Nat) : Prop := ∃ m ∈ x.committed, m.2 ≤ u ∧ Anc x.T a m

def Committed (x : Sys) (a : Nat × Nat) : Prop := ∃ m ∈ x.committed, Anc x.T a m

def Unsafe (T : List CEntry) (b : Nat × Nat) (u : Nat) : Prop :=
  ∃ c ∈ T, b.2 < c.e.term ∧ c.e.term ≤ u ∧ ¬ Anc T b (key c)

def UnsafeS (T : List CEntry) (b : Nat × Nat) (u : Nat) : Prop :=
  ∃ c ∈ T, b.2 < c.e.term ∧ c.e.term < u ∧ ¬ Anc T b (key c)

def Other (T : List CEntry) (l t : Nat) : Prop := ∃ c ∈ T, c.e.term = t ∧ c.cr ≠ 0 ∧ c.cr ≠ l

/-- the match index `m` that leader `i` holds for `j` is backed by an acknowledgement of `j` in `i`'s term -/
def Backed (x : Sys) (i j m : Nat) : Prop :=
  ∃ a ∈ x.acks, a.voter = j ∧ a.term = (x.node i).term ∧ m ≤ a.index

def DurHolds (s : Node) (b : Nat × Nat) : Prop := b.1 ≤ s.log.flushed ∧ Holds s.log.entries b.1 b.2

/-- the voters of candidate `l`'s election of term `t`: itself and those whose vote it counted -/
def Elector (x : Sys) (l t v : Nat) : Prop := v = l ∨ (l, t, v) ∈ x.rp.el.counted

/-- **the up-to-date check, seen from the tree**: whatever voter `v` acknowledged in a term before the campaign
`k` is extended by the log the candidate campaigned with — unless an entry of a term in between does not extend
it, or somebody else created an entry of the campaign's term -/
def UpTo (x : Sys) (k : Camp) (v : Nat) : Prop :=
  ∀ a ∈ x.acks, a.voter = v → a.term < k.term → ∀ b : Nat × Nat, b.2 = a.term → Anc x.T b a.key →
    Anc x.T b k.last ∨ UnsafeS x.T b k.term ∨ Other x.T k.cand k.term

structure TreeI (V : List Nat) (x : Sys) : Prop where
  ok : TreeOK x.T
  /-- an entry was created by a node that campaigned for the entry's term, on top of the log it campaigned
  with, after a majority `Q` of voters that have reached that term passed the up-to-date check -/
  crElect : ∀ c ∈ x.T, c.cr ≠ 0 → ∃ k ∈ x.camps, k.cand = c.cr ∧ k.term = c.e.term ∧
    k.lastIndex < c.e.index ∧ (k.lastIndex = 0 ∨ Anc x.T k.last (key c)) ∧
    ∃ Q : List Nat, Q.Nodup ∧ (∀ v ∈ Q, v ∈ V) ∧ 2 * Q.length > V.length ∧
      ∀ v ∈ Q, c.e.term ≤ (x.node v).term ∧ UpTo x k v
  /-- while its creator is leader of its term the entry is in the creator's log -/
  ownLog : ∀ c ∈ x.T, c.cr ≠ 0 → (x.node c.cr).role = .leader → (x.node c.cr).term = c.e.term →
    Holds (x.node c.cr).log.entries c.e.index c.e.term

structure NodeI (x : Sys) : Prop where
  lwf : ∀ i, C06.LogWF (x.node i).log
  /-- no log entry has a term above the node's -/
  termLe : ∀ i, ∀ e ∈ (x.node i).log.entries, e.term ≤ (x.node i).term
  /-- an entry that is not flushed yet was created by the node itself -/
  unfl : ∀ i k, (x.node i).log.flushed < k → k ≤ (x.node i).log.entries.length →
    ∃ c ∈ x.T, c.e.index = k ∧ c.e.term = termAt (x.node i).log.entries k ∧ c.cr = i
  /-- a candidate or leader is a voter of its latest configuration -/
  roleVoter : ∀ i, (x.node i).role ≠ .follower → (x.node i).configs.latest.isVoter (x.node i).nid = true
  /-- a candidate or leader has a recorded campaign for its term; its log still holds (a candidate's: ends with)
  the coordinates it campaigned with -/
  camp : ∀ i, (x.node i).role ≠ .follower → ∃ k ∈ x.camps, k.cand = i ∧ k.term = (x.node i).term ∧
    k.lastIndex ≤ (x.node i).log.entries.length ∧
    (1 ≤ k.lastIndex → termAt (x.node i).log.entries k.lastIndex = k.lastTerm) ∧
    ((x.node i).role = .candidate → k.lastIndex = (x.node i).log.entries.length)
  ldr : ∀ i, (x.node i).role = .leader → LeadOK (Backed x i) (x.node i)

structure SentI (V : List Nat) (x : Sys) : Prop where
  won : ∀ q ∈ x.rp.sent, q.src ≠ 0 ∧ q.src ∈ V ∧ (q.src, q.term) ∈ x.rp.el.won ∧ q.term ≤ (x.node q.src).term ∧
    ((x.node q.src).role = .candidate → q.term < (x.node q.src).term)
  term : ∀ q ∈ x.rp.sent, (∀ e ∈ q.entries, e.term ≤ q.term) ∧ q.prevLogTerm ≤ q.term
  /-- the request lies on the path to an entry of its own term -/
  anc : ∀ q ∈ x.rp.sent, ∃ c ∈ x.T, c.e.term = q.term ∧ (∀ e ∈ q.entries, Anc x.T (e.index, e.term) (key c)) ∧
    (1 ≤ q.prevLogIndex → Anc x.T (q.prevLogIndex, q.prevLogTerm) (key c))
  /-- what lies at or below the request's commit index is committed by a leader of a term ≤ the request's -/
  cmt : ∀ q ∈ x.rp.sent, (∀ e ∈ q.entries, e.index ≤ q.ldrCommitIndex → Cmt x (e.index, e.term) q.term) ∧
    (1 ≤ q.prevLogIndex → q.prevLogIndex ≤ q.ldrCommitIndex → Cmt x (q.prevLogIndex, q.prevLogTerm) q.term)

structure AckI (x : Sys) : Prop where
  wf : ∀ a ∈ x.acks, 1 ≤ a.index ∧ a.term ≤ (x.node a.voter).term ∧ a.eterm ≤ a.term ∧
    ∃ c ∈ x.T, key c = a.key
  /-- where it comes from: a request of that term whose last coordinates it names, sent by another node — or
  the leader of that term itself -/
  src : ∀ a ∈ x.acks,
    (∃ q ∈ x.rp.sent, q.term = a.term ∧ q.src ≠ a.voter ∧ a.index = q.prevLogIndex + q.entries.length ∧
      ((∃ e ∈ q.entries, e.index = a.index ∧ e.term = a.eterm) ∨
        (q.entries = [] ∧ q.prevLogTerm = a.eterm))) ∨
    (a.eterm = a.term ∧ ∃ c ∈ x.T, key c = a.key ∧ c.cr = a.voter ∧ c.cr ≠ 0)
  /-- **stability**: an acknowledged entry of the acknowledgement's own term is still durably in the voter's
  log, unless some entry of a later term (not above the voter's) does not extend it -/
  stable : ∀ a ∈ x.acks, ∀ b : Nat × Nat, b.2 = a.term → Anc x.T b a.key →
    DurHolds (x.node a.voter) b ∨ Unsafe x.T b (x.node a.voter).term

structure VoteI (V : List Nat) (x : Sys) : Prop where
  campUniq : ∀ k ∈ x.camps, ∀ k' ∈ x.camps, k.cand = k'.cand → k.term = k'.term → k = k'
  campWf : ∀ k ∈ x.camps, k.cand ≠ 0 ∧ k.term ≤ (x.node k.cand).term ∧ k.lastTerm < k.term ∧
    ((k.lastIndex = 0 ∧ k.lastTerm = 0) ∨ ∃ c ∈ x.T, key c = k.last)
  /-- a vote for somebody else was asked for by a recorded campaign -/
  voteCamp : ∀ v, (x.node v).votedFor ≠ 0 → (x.node v).votedFor ≠ v →
    ∃ k ∈ x.camps, k.cand = (x.node v).votedFor ∧ k.term = (x.node v).term
  /-- **the up-to-date check, for the vote a node holds**: what the voter acknowledged in an earlier term is
  extended by the candidate's log, unless a later entry does not extend it -/
  voteInv : ∀ v, (x.node v).votedFor ≠ 0 → ∀ k ∈ x.camps, k.cand = (x.node v).votedFor →
    k.term = (x.node v).term → ∀ a ∈ x.acks, a.voter = v → a.term < k.term →
    ∀ b : Nat × Nat, b.2 = a.term → Anc x.T b a.key → Anc x.T b k.last ∨ Unsafe x.T b k.term
  /-- the same for every recorded grant -/
  grantInv : ∀ g ∈ x.rp.el.grants, ∀ k ∈ x.camps, k.cand = g.cand → k.term = g.term →
    ∀ a ∈ x.acks, a.voter = g.voter → a.term < k.term →
    ∀ b : Nat × Nat, b.2 = a.term → Anc x.T b a.key → Anc x.T b k.last ∨ Unsafe x.T b k.term
  /-- … and, strictly, for the voters a candidate counted (itself included) -/
  electInv : ∀ k ∈ x.camps, ∀ v, Elector x k.cand k.term v → UpTo x k v
  countedGrant : ∀ e ∈ x.rp.el.counted,
    ({ voter := e.2.2, term := e.2.1, cand := e.1 } : C01.Grant) ∈ x.rp.el.grants
  /-- a grant answers a recorded campaign -/
  grantCamp : ∀ g ∈ x.rp.el.grants, ∃ k ∈ x.camps, k.cand = g.cand ∧ k.term = g.term

structure CmtI (V : List Nat) (x : Sys) : Prop where
  /-- a committed entry is an entry of the tree acknowledged in its own term by a majority -/
  quorum : ∀ m ∈ x.committed, (∃ c ∈ x.T, key c = m ∧ c.cr ≠ 0) ∧
    ∃ Q : List Nat, Q.Nodup ∧ (∀ v ∈ Q, v ∈ V) ∧ 2 * Q.length > V.length ∧
      ∀ v ∈ Q, ∃ a ∈ x.acks, a.voter = v ∧ a.term = m.2 ∧ Anc x.T m a.key
  /-- **leader completeness, tree form**: every entry of a later term extends every committed entry -/
  lc : ∀ m ∈ x.committed, ∀ c ∈ x.T, m.2 < c.e.term → Anc x.T m (key c)
  /-- every node's commit index covers only committed entries -/
  cc : ∀ i k, 1 ≤ k → k ≤ (x.node i).commitIndex → k ≤ (x.node i).log.entries.length ∧
    Cmt x (k, termAt (x.node i).log.entries k) (x.node i).term

/-- **the invariant** (on top of `Replication.Inv V x.rp`, the log-matching invariant of the replication system) -/
structure CInv (V : List Nat) (x : Sys) : Prop where
  rp : Replication.Inv V x.rp
  tree : TreeI V x
  node : NodeI x
  sent : SentI V x
  ack : AckI x
  vote : VoteI V x
  cmt : CmtI V x


theorem inv_init (V : List Nat) (x : Sys) (h : Init x) : CInv V x := by
  have hr := Replication.inv_init V x.rp h.rp
  have hrole : ∀ i, (x.node i).role = .follower := fun i => (h.rp.el.1 i).2.2
  have hcr : ∀ c ∈ x.T, c.cr = 0 := h.rp.cr0
  have nil : ∀ {α : Type} {l : List α} {P : α → Prop}, l = [] → ∀ a ∈ l, P a :=
    fun e a ha => by rw [e] at ha; cases ha
  refine ⟨hr, ⟨h.tree, ?_, ?_⟩, ⟨fun i => (h.nodes i).1, ?_, ?_, ?_, ?_, ?_⟩,
    ⟨nil h.rp.sent, nil h.rp.sent, nil h.rp.sent, nil h.rp.sent⟩, ⟨nil h.acks, nil h.acks, nil h.acks⟩,
    ⟨nil h.camps, nil h.camps, ?_, ?_, nil h.rp.el.2.1, nil h.camps, nil h.rp.el.2.2.1, nil h.rp.el.2.1⟩,
    ⟨nil h.committed, nil h.committed, ?_⟩⟩
  · intro c hc h0; exact absurd (hcr c hc) h0
  · intro c hc h0; exact absurd (hcr c hc) h0
  · intro i e he
    obtain ⟨c, hc, hce⟩ := C04Sys.chain_mem (h.rp.nodes i).2 e he
    rw [← hce]; exact h.rp.terms c hc i
  · intro i k hk hk2
    rw [(h.nodes i).2.1] at hk; omega
  · intro i hi; exact absurd (hrole i) hi
  · intro i hi; exact absurd (hrole i) hi
  · intro i hi; rw [hrole i] at hi; cases hi
  · intro v hv; exact absurd (h.nodes v).2.2.2.1 hv
  · intro v hv; exact absurd (h.nodes v).2.2.2.1 hv
  · intro i k hk hk2; rw [(h.nodes i).2.2.1] at hk2; omega

/-- `y` extends `x`: every ledger only grew, only node `i` changed, terms did not decrease, and the tree of `y`
still holds at most one record per (index, term) -/
structure Ext (x y : Sys) (i : Nat) : Prop where
  other : ∀ j, j ≠ i → y.node j = x.node j
  term : ∀ j, (x.node j).term ≤ (y.node j).term
  T : ∀ c ∈ x.T, c ∈ y.T
  sent : ∀ q ∈ x.rp.sent, q ∈ y.rp.sent
  acks : ∀ a ∈ x.acks, a ∈ y.acks
  camps : ∀ k ∈ x.camps, k ∈ y.camps
  committed : ∀ m ∈ x.committed, m ∈ y.committed
  grants : ∀ g ∈ x.rp.el.grants, g ∈ y.rp.el.grants
  counted : ∀ e ∈ x.rp.el.counted, e ∈ y.rp.el.counted
  won : ∀ e ∈ x.rp.el.won, e ∈ y.rp.el.won
  uniq : Uniq y.T
  pathc : PathClosed x.T

theorem Ext.anc {x y : Sys} {i : Nat} (h : Ext x y i) {a c : Nat × Nat} (ha : Anc x.T a c) : Anc y.T a c :=
  ha.mono h.T

theorem Ext.not_anc {x y : Sys} {i : Nat} (h : Ext x y i) {b : Nat × Nat} {c : CEntry} (hc : c ∈ x.T)
    (hn : ¬ Anc x.T b (key c)) : ¬ Anc y.T b (key c) :=
  not_anc_mono h.T h.uniq (h.pathc c hc) hn

theorem Ext.unsafeU {x y : Sys} {i : Nat} (h : Ext x y i) {b : Nat × Nat} {u u' : Nat} (hu : u ≤ u')
    (hn : Unsafe x.T b u) : Unsafe y.T b u' := by
  obtain ⟨c, hc, h1, h2, h3⟩ := hn
  exact ⟨c, h.T c hc, h1, Nat.le_trans h2 hu, h.not_anc hc h3⟩

theorem Ext.unsafeS {x y : Sys} {i : Nat} (h : Ext x y i) {b : Nat × Nat} {u : Nat}
    (hn : UnsafeS x.T b u) : UnsafeS y.T b u := by
  obtain ⟨c, hc, h1, h2, h3⟩ := hn
  exact ⟨c, h.T c hc, h1, h2, h.not_anc hc h3⟩

theorem Ext.other_cr {x y : Sys} {i : Nat} (h : Ext x y i) {l t : Nat} (hn : Other x.T l t) : Other y.T l t := by
  obtain ⟨c, hc, h1, h2, h3⟩ := hn
  exact ⟨c, h.T c hc, h1, h2, h3⟩

theorem Ext.cmt {x y : Sys} {i : Nat} (h : Ext x y i) {a : Nat × Nat} {u u' : Nat} (hu : u ≤ u')
    (hc : Cmt x a u) : Cmt y a u' := by
  obtain ⟨m, hm, h1, h2⟩ := hc
  exact ⟨m, h.committed m hm, Nat.le_trans h1 hu, h.anc h2⟩

theorem unsafe_of_strict {T : List CEntry} {b : Nat × Nat} {u : Nat} (h : UnsafeS T b u) : Unsafe T b u := by
  obtain ⟨c, hc, h1, h2, h3⟩ := h
  exact ⟨c, hc, h1, Nat.le_of_lt h2, h3⟩

end Commit
end Raft
