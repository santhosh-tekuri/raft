/-
A cluster-level transition system for elections: any number of model nodes (`Raft.Node`), each performing
ANY operation of `Node.step` with ANY oracle and input at any time (so: arbitrary delay, reordering,
duplication, loss and forgery of requests), crashing at any storage point of any step and restarting from
disk; plus ghost ledgers that record what was acknowledged:

* `grants`  — every vote request answered `success` (voter, requested term, candidate) and every self vote
              (a node's durable vote moving to itself in a higher term: `candidate.startElection`);
* `counted` — every success response a candidate counted (candidate, its term, voter);
* `won`     — every (node, term) in which a node was leader at the end of one of its steps.

The ONLY constraint on the environment: a vote RESPONSE that a candidate counts (`Counts`: the node is
candidate, the response carries no error, a term not above the candidate's and `success`) stands for a real
reply of the current election (`RealReply`): it comes from another voter of the candidate's latest
configuration, that voter has granted its vote to this candidate for the candidate's current term, and it was
not counted before in this election. This is what `candidate.startElection` implements in Go by asking every
voter once per election over a channel created for that election (responses of older elections are never
delivered to the new one); it is a modelling assumption about that part of the code, not a theorem.
Vote REQUESTS are unconstrained, except that they name a non-zero candidate id (`Raft.New` rejects id 0).
-/
import RaftVerif.Props.C01
import RaftVerif.Lemmas.RoleRel
import RaftVerif.Lemmas.Shape

namespace Raft
namespace Election
open Node

/-- The cluster: node `i` is the process with node id `i` (id 0 is not a node: its transitions are disabled). -/
structure Sys where
  node : Nat → Node
  grants : List C01.Grant
  /-- (candidate, term, voter) -/
  counted : List (Nat × Nat × Nat)
  /-- (leader, term) -/
  won : List (Nat × Nat)

def setNode (f : Nat → Node) (i : Nat) (n : Node) : Nat → Node := fun j => if j = i then n else f j

theorem setNode_same (f : Nat → Node) (i : Nat) (n : Node) : setNode f i n i = n := by
  unfold setNode; rw [if_pos rfl]

theorem setNode_other (f : Nat → Node) (i j : Nat) (n : Node) (h : j ≠ i) : setNode f i n j = f j := by
  unfold setNode; rw [if_neg h]

theorem setNode_setNode (f : Nat → Node) (i : Nat) (a b : Node) : setNode (setNode f i a) i b = setNode f i b := by
  funext j
  unfold setNode
  split <;> rfl

/-- the grant acknowledged by a vote request step: the reply carries `success` -/
def voteGrant (i : Nat) (op : Op) (post : Node) : List C01.Grant :=
  match C05.grantOf op post with
  | some x => [{ voter := i, term := x.1, cand := x.2 }]
  | none => []

/-- the self vote: during the step the node's vote moved to itself in a higher term -/
def selfGrant (i : Nat) (pre post : Node) : List C01.Grant :=
  if post.term > pre.term ∧ post.votedFor = i then [{ voter := i, term := post.term, cand := i }] else []

/-- the response counted by candidate `i` (state `pre`), attributed to voter `src` -/
def countedBy (i : Nat) (pre : Node) (op : Op) (src : Nat) : List (Nat × Nat × Nat) :=
  match op with
  | .voteResult false tm res =>
    if pre.role = .candidate ∧ tm ≤ pre.term ∧ res = rSuccess then [(i, pre.term, src)] else []
  | _ => []

theorem countedBy_counts (i : Nat) (pre : Node) (op : Op) (src : Nat) (h : Counts pre op) :
    countedBy i pre op src = [(i, pre.term, src)] := by
  obtain ⟨hr, tm, hle, rfl⟩ := h
  unfold countedBy
  dsimp only
  rw [if_pos ⟨hr, hle, rfl⟩]

theorem countedBy_not (i : Nat) (pre : Node) (op : Op) (src : Nat) (h : ¬ Counts pre op) :
    countedBy i pre op src = [] := by
  unfold countedBy
  split
  · rename_i tm res
    split
    · rename_i hc
      exact absurd ⟨hc.1, tm, hc.2.1, by rw [hc.2.2]⟩ h
    · rfl
  · rfl

/-- Node `i` handles `op` to completion; the ledgers record what it acknowledged. -/
def stepSys (x : Sys) (i : Nat) (op : Op) (ra : List Nat) (ord : List (List Nat)) (src : Nat) : Sys :=
  { node := setNode x.node i ((x.node i).step op ra ord)
    grants := voteGrant i op ((x.node i).step op ra ord) ++
              (selfGrant i (x.node i) ((x.node i).step op ra ord) ++ x.grants)
    counted := countedBy i (x.node i) op src ++ x.counted
    won := (if ((x.node i).step op ra ord).role = .leader then [(i, ((x.node i).step op ra ord).term)] else [])
             ++ x.won }

/-- A counted response is a real reply of candidate `i`'s current election, from voter `src`. -/
def RealReply (x : Sys) (i src : Nat) : Prop :=
  src ≠ i ∧ (x.node i).configs.latest.isVoter src = true ∧
  ({ voter := src, term := (x.node i).term, cand := i } : C01.Grant) ∈ x.grants ∧
  (i, (x.node i).term, src) ∉ x.counted

inductive Trans (x : Sys) : Sys → Prop
  /-- node `i` handles any operation with any oracles; `src` is the sender the transport attributes a vote
  response to (irrelevant for every other operation) -/
  | step (i : Nat) (op : Op) (ra : List Nat) (ord : List (List Nat)) (src : Nat) :
      i ≠ 0 → (∀ q, op = .vote q → q.src ≠ 0) → (Counts (x.node i) op → RealReply x i src) →
      Trans x (stepSys x i op ra ord src)
  /-- node `i` dies while handling `op`, after `k` storage points (`k = 0`: it just dies), and restarts from
  what is on disk with any options; nothing is acknowledged -/
  | crash (i : Nat) (op : Op) (ra : List Nat) (ord : List (List Nat)) (k retain : Nat) (sor : Bool) (n : Node) :
      i ≠ 0 → Node.restart (C05.crashDisk (x.node i) op ra ord k) retain sor = some n →
      Trans x { x with node := setNode x.node i n }

/-- Initial states: node `i` has id `i`, what it has in memory is what is on disk, nobody is candidate or
leader, nothing was acknowledged yet. Terms, votes, logs and configurations are arbitrary. -/
def Init (x : Sys) : Prop :=
  (∀ i, (x.node i).nid = i ∧ C05.VoteWF (x.node i) ∧ (x.node i).role = .follower) ∧
  x.grants = [] ∧ x.counted = [] ∧ x.won = []

/-- Fixed membership: every node is bootstrapped and the voters of its latest configuration are `V`. -/
def FixedV (V : List Nat) (x : Sys) : Prop :=
  ∀ i, (x.node i).configs.isBootstrapped = true ∧ (x.node i).configs.latest.voters = V

/-- States reachable by runs in which the membership is `V` in every state. -/
inductive ReachableV (V : List Nat) : Sys → Prop
  | init (x : Sys) : Init x → FixedV V x → ReachableV V x
  | next (x y : Sys) : ReachableV V x → Trans x y → FixedV V y → ReachableV V y

/-- the voters candidate `i` has counted in term `t` -/
def votersCounted (c : List (Nat × Nat × Nat)) (i t : Nat) : List Nat :=
  (c.filter (fun e => e.1 == i && e.2.1 == t)).map (·.2.2)

/-- No primitive writes `nid`, `cid` or the two options `retain` and `shutdownOnRemove`. -/
theorem ids_closed (n c r : Nat) (b : Bool) :
    StepClosed fun s => s.nid = n ∧ s.cid = c ∧ s.retain = r ∧ s.shutdownOnRemove = b where
  panic := fun s site h => by rw [panic_shape]; exact h
  reply := fun s t r h => by rw [reply_shape]; exact h
  point := fun _ _ h => h
  ldr := fun _ _ h => h
  append := fun _ _ _ h => h
  commitN := fun _ _ h => h
  fsm := fun _ _ h => h
  changeConfigR := fun s c h => by rw [changeConfigR_shape]; exact h
  setCommitIndexR := fun s i h _ => by rw [setCommitIndexR_shape]; exact h
  popOrder := fun _ h => h
  begin := fun _ _ _ h => h
  rpcReply := fun _ _ h => h
  ret := fun _ _ h => h
  setRole := fun _ _ h => h
  setLeader := fun _ _ h => h
  doClose := fun s r h => by rw [doClose_shape]; exact h
  setTerm := fun s t h => by rw [setTerm_shape]; exact h
  voteNewTerm := fun s t v h _ => by rw [setVotedFor_shape]; exact h
  voteGrant := fun s v h _ => by rw [setVotedFor_shape]; exact h
  votesNeeded := fun _ _ h => h
  candTransfer := fun _ _ h => h
  removeGTE := fun _ _ _ h => h
  removeLTE := fun _ _ h => h
  clearLog := fun _ h => h
  revertConfig := fun _ h => h
  commitConfig := fun s h => by rw [commitConfig_shape]; exact h
  publishSnapshot := fun _ _ h => h
  installCommit := fun _ h _ => h
  snapPending := fun _ _ h => h
  snapResult := fun _ _ h => h
  bootstrapLast := fun _ _ _ h => h

theorem step_ids (s : Node) (op : Op) (ra : List Nat) (ord : List (List Nat)) :
    (s.step op ra ord).nid = s.nid ∧ (s.step op ra ord).cid = s.cid :=
  have h := (ids_closed s.nid s.cid s.retain s.shutdownOnRemove).step_inv s op ra ord ⟨rfl, rfl, rfl, rfl⟩
  ⟨h.1, h.2.1⟩

theorem step_retain (s : Node) (op : Op) (ra : List Nat) (ord : List (List Nat)) :
    (s.step op ra ord).retain = s.retain :=
  ((ids_closed s.nid s.cid s.retain s.shutdownOnRemove).step_inv s op ra ord ⟨rfl, rfl, rfl, rfl⟩).2.2.1

theorem crashDisk_ids (s : Node) (op : Op) (ra : List Nat) (ord : List (List Nat)) (k : Nat) :
    (C05.crashDisk s op ra ord k).nid = s.nid ∧ (C05.crashDisk s op ra ord k).cid = s.cid :=
  (ids_closed s.nid s.cid s.retain s.shutdownOnRemove).crashDisk (D := fun d => d.nid = s.nid ∧ d.cid = s.cid)
    (fun _ h => ⟨h.1, h.2.1⟩) (fun _ _ h => ⟨h.1, h.2.1⟩) s op ra ord k ⟨rfl, rfl, rfl, rfl⟩

theorem crashDisk_nid (s : Node) (op : Op) (ra : List Nat) (ord : List (List Nat)) (k : Nat) :
    (C05.crashDisk s op ra ord k).nid = s.nid :=
  (crashDisk_ids s op ra ord k).1

theorem restart_role_nid (d : Durable) (retain : Nat) (sor : Bool) (n : Node)
    (h : Node.restart d retain sor = some n) : n.role = .follower ∧ n.nid = d.nid :=
  ⟨Node.restart_field (·.role) (fun _ _ _ _ => rfl) h, Node.restart_field (·.nid) (fun _ _ _ _ => rfl) h⟩

/-- what the disk holds when the process dies during a step is a legal successor of the (term, vote) the
step started from -/
theorem crashDisk_durStep (s : Node) (op : Op) (ra : List Nat) (ord : List (List Nat)) (k : Nat)
    (hwf : C05.VoteWF s) : C05.DurStep s (C05.crashDisk s op ra ord k) :=
  C05.crashDisk_durStep s op ra ord k hwf

/-- a vote granted in a step agrees with the vote the node had cast in that term before the step -/
theorem vote_grant_agrees (s : Node) (q : VoteReq) (ra : List Nat) (ord : List (List Nat)) (hwf : C05.VoteWF s)
    (h : ((s.step (.vote q) ra ord).rpcReply.map (·.result)) = some rSuccess) :
    q.term ≥ s.term ∧ (q.term = s.term → s.votedFor ≠ 0 → q.src = s.votedFor) := by
  have hsh := C05.vote_step_shape s q ra ord h
  obtain ⟨hqge, _⟩ := C05.onVoteRequest_success (s.begin ra ord) q hsh
  have hqge' : q.term ≥ s.term := hqge
  have hb : C05.VoteWF (s.begin ra ord) := hwf
  obtain ⟨e1, e2, _, _⟩ := C05.grant_is_durable (s.begin ra ord) q hb hsh
  have hx := ((C05.closed (s.begin ra ord)).onVoteRequest_inv _ q (C05.inv_refl _ hb)).1
  refine ⟨hqge', fun heq hv => ?_⟩
  have h1 : ((s.begin ra ord).onVoteRequest q).term = (s.begin ra ord).term := by
    rw [e1]; show q.term = s.term; exact heq
  have h2 := hx.2 h1 hv
  rw [e2] at h2
  exact h2

end Election
end Raft
