/-
The cluster-level transition system with local snapshots, log compaction AND INSTALLATION OF SNAPSHOTS (stage 3 of the
extension of `Raft.Commit` by snapshots; stage 1: Sys/Snap.lean, stage 2: Sys/Snap2.lean).

`Snap3.Sys` = a state of stage 2 (`s2 : Snap2.Sys`: the nodes, the ledgers of `Raft.Commit` kept on the VIRTUAL nodes,
the ledger `snaps` of snapshot files, the ghost record `base i` of the entries node `i` no longer holds) plus one ledger

* `sentSnaps` — every install request a leader has put on the wire (`Trans.sendSnap`), each with a ghost component
                `pre`: the first `lastIndex` entries of the sender's virtual log at that moment — the prefix the snapshot
                stands for.

What is NEW with respect to Sys/Snap2.lean:
* `Trans.sendSnap i q` — the leader `i` sends its NEWEST snapshot file as an install request stamped with its term
  (`SnapRead`: `lastIndex / lastTerm / lastConfig / data` are those of the head of its snapshot listing; what
  `replication.sendInstallSnapReq` reads — `Repl.install_match_index`);
* `Trans.install i m` — node `i` handles the install request `m.q` to completion (`Node.step (.install m.q)`,
  `Raft.onInstallSnapRequest`): a request that is not refused as stale must be one of the ledger (no forged install
  requests; delay, loss, duplication, reordering and delivery to ANY node are unrestricted: the ledger only grows).
  The handler ignores a request with `lastIndex ≤ commitIndex`, installs nothing when the log already holds
  `(lastIndex, lastTerm)`, and otherwise (`SnapInst.Installs`) publishes the snapshot file, applies retention, resets the
  log to the snapshot, restores the state machine from the file, sets `commitIndex := lastIndex` and both configurations
  to the label.  In that case `base i` becomes `m.pre` (the log of `i` is empty: its virtual log is the prefix the
  snapshot stands for); otherwise `base i` stays;
* `Trans.crashInstall i m … k …` — node `i` dies while handling the install request, after `k` storage points
  (`value.set`, `snap.publish`, `snap.retain`, `clearLog`), and restarts from what is on disk.  If the disk already
  holds the received snapshot file, the restart resets the log to it (`Node.staleLog`: finding F18, repaired) and
  `base i` becomes `m.pre`; otherwise `base i` stays.
After an installation a log may start EXACTLY at its snapshot index (`log.prev = snapIndex`, the log possibly empty): the
side condition `Side2.gap` of stage 2 is not imposed.

Restrictions of this stage (`_partial`), in addition to those of `Raft.Commit` (fixed voter set `V`, fixed stable
configuration, no forged requests — see Sys/Commit.lean) and those kept from stage 2 (`.shutdown` never occurs,
replication updates report no compaction, completed steps do not fail an assertion and a process dies only in a step
that would not fail one, `retain ≥ 1`, side conditions `SideV`, `CfgDec` on the virtual logs, well-formed segment lists):
* **`NoCut`, for CRASHES only** — a process does not die while handling an append request that overwrites the
  UNCOMMITTED entry directly behind an installed snapshot while that entry is the first of the log (the handling node
  has `0 < log.prev = snapIndex = commitIndex` — after an installation, until the first entry behind the snapshot is
  committed or the node takes its next own snapshot — and the request conflicts with the log at `log.prev + 1`).
  (`RemoveGTE` empties the log there; the un-compaction of Lemmas/SnapRelU*.lean does not commute with that on the
  segment list, and the crash analysis of stage 2 is built on it.)  COMPLETED steps are unrestricted: they are handled
  with an un-compaction that keeps the segment list (Lemmas/SnapInstV.lean, Lemmas/SnapInst3v.lean).
* **`TermTracked`** — a `.snapRun` step is taken only in a state in which `fsm.term` is the term of the log entry at
  `fsm.index` (when the log holds it).  This is the per-node invariant `C12Track.Tracks.fsmOk.termLog`
  (`C12Track.tracks_term`), proved inductive for every operation in Props/C12Track.lean.  It makes the `(index, term)`
  of a snapshot TAKEN by a node name an entry of its log; for INSTALLED snapshots nothing is assumed.  The premise is
  REMOVED in Sys/Snap4.lean (`Raft.Snap4`: the per-node invariant is carried along the runs, Lemmas/SnapInst4*.lean, at
  the price of three side conditions on configurations); every run of `Raft.Snap4` is a run of this system.
* a crash in an operation of stage 2 does not make `openStorage` reset the log (`staleLog = false` for what is on
  disk; in stage 2 this followed from `Side2.gap`); a crash in the install handler that leaves the OLD snapshot files
  likewise.  (A crash that leaves the NEW snapshot file with the OLD log — the F18 window — is covered: there the log
  IS stale and the reset is what makes the restart safe.)
-/
import RaftVerif.Sys.Snap2
import RaftVerif.Lemmas.SnapInstCrash

namespace Raft
namespace Snap3
open Node Election LogRel Replication CommitRel Commit C02Sys SnapRelU SnapSim Snap Snap2 SnapInst

/-- an install request on the wire, with the prefix of the sender's virtual log it stands for (ghost) -/
structure SnapMsg where
  q : InstallReq
  pre : List Entry

/-- The cluster of stage 2 with the ledger of install requests. -/
structure Sys where
  s2 : Snap2.Sys
  sentSnaps : List SnapMsg

abbrev Sys.node (x : Sys) (i : Nat) : Node := x.s2.cs.node i

/-- node `i` with its log un-compacted -/
abbrev Sys.vnode (x : Sys) (i : Nat) : Node := x.s2.vnode i

/-- the virtual log of node `i`: `base i ++ log.entries` -/
abbrev Sys.vlog (x : Sys) (i : Nat) : List Entry := x.s2.vlog i

/-- the cluster of the virtual nodes, as a state of the system of stage 1 -/
abbrev view3 (x : Sys) : Snap.Sys := Snap2.view x.s2

/-- `q` is what a replication goroutine of the leader `s` sends when the follower is behind the leader's log: the
newest snapshot file, stamped with the leader's term -/
structure SnapRead (s : Node) (q : InstallReq) : Prop where
  term : q.term = s.term
  src : q.src = s.nid
  file : s.snapsDisk.head? = some (C09.fileOf q)

/-- an append request does not overwrite the entry directly behind a snapshot at which the log starts (required of a
node that dies while handling the request) -/
def NoCut (s : Node) : Op → Prop
  | .append q => q.term < s.term ∨ s.log.prev = 0 ∨ s.log.prev < s.snapIndex ∨ s.log.prev < s.commitIndex ∨
      ∀ ne ∈ q.entries, ne.index = s.log.prev + 1 → s.lastLogIndex < ne.index ∨ s.entryTerm? ne.index = some ne.term
  | _ => True

/-- `fsm.term` is the term of the log entry at `fsm.index` when the log holds it (`C12Track.tracks_term`); required of
a node that takes a snapshot -/
def TermTracked (s : Node) : Op → Prop
  | .snapRun => s.log.prev < s.fsm.index → s.entryTerm? s.fsm.index = some s.fsm.term
  | _ => True

/-- the compacted-away entries of node `i` after it handled the install request `m`: the prefix the snapshot stands
for if the snapshot was installed, else what they were -/
def instBase (x : Sys) (i : Nat) (m : SnapMsg) (hasFile : Prop) [Decidable hasFile] : List Entry :=
  if hasFile then m.pre else newBase x.s2 i (x.node i).log.prev

/-- the state after node `i` was replaced by `post` by an installation (completed, or interrupted by a crash): the
ledgers of `Raft.Commit` stay as they are; new snapshot files are recorded; `base i` is set -/
def replS (x : Sys) (i : Nat) (post : Node) (β : List Entry) : Sys :=
  { s2 := { cs := withNodes x.s2.cs (setNode x.s2.cs.rp.el.node i post)
            snaps := newSnaps i (x.node i).snapsDisk post.snapsDisk ++ x.s2.snaps
            base := setBase x.s2.base i β }
    sentSnaps := x.sentSnaps }

/-- the state after node `i` handled the install request of `m` to completion -/
def installS (x : Sys) (i : Nat) (m : SnapMsg) (ra : List Nat) (ord : List (List Nat)) : Sys :=
  replS x i ((x.node i).step (.install m.q) ra ord) (instBase x i m (Installs (x.node i) m.q))

/-- the state after node `i` died while handling the install request of `m` and restarted as `n` from the disk `d` -/
def crashInstS (x : Sys) (i : Nat) (m : SnapMsg) (d : Durable) (n : Node) : Sys :=
  replS x i n (instBase x i m (d.snaps.head? = some (C09.fileOf m.q) ∧ Installs (x.node i) m.q))

inductive Trans (x : Sys) : Sys → Prop
  /-- node `i` handles an enabled operation of stage 2 to completion, without failing an assertion -/
  | step (i : Nat) (op : Op) (ra : List Nat) (ord : List (List Nat)) (src : Nat) : Snap.Enabled x.s2.cs i op src →
      ((x.node i).step op ra ord).panicked = none → TermTracked (x.node i) op →
      Trans x { x with s2 := stepS x.s2 i op ra ord src }
  /-- node `i` dies while handling an enabled operation of stage 2, after `k` storage points, and restarts from what
  is on disk, which is not a stale log -/
  | crash (i : Nat) (op : Op) (ra : List Nat) (ord : List (List Nat)) (src k retain : Nat) (sor : Bool)
      (n : Node) : Snap.Enabled x.s2.cs i op src → 1 ≤ retain →
      ((x.node i).step op ra ord).panicked = none → NoCut (x.node i) op → TermTracked (x.node i) op →
      staleLog (C05.crashDisk (x.node i) op ra ord k) = false →
      Node.restart (C05.crashDisk (x.node i) op ra ord k) retain sor = some n →
      Trans x { x with s2 := crashS x.s2 i op n }
  /-- the leader `i` puts an append request read from its log on the wire -/
  | send (i : Nat) (q : AppendReq) : i ≠ 0 → (x.node i).role = .leader → ReadFrom2 (x.node i) (x.vnode i) q →
      q.ldrCommitIndex ≤ (x.node i).commitIndex →
      Trans x { x with s2 := { x.s2 with cs := sendC x.s2.cs q } }
  /-- the leader `i` puts its newest snapshot on the wire -/
  | sendSnap (i : Nat) (q : InstallReq) : i ≠ 0 → (x.node i).role = .leader → SnapRead (x.node i) q →
      Trans x { x with sentSnaps := ⟨q, (x.vlog i).take q.lastIndex⟩ :: x.sentSnaps }
  /-- node `i` handles an install request to completion, without failing an assertion -/
  | install (i : Nat) (m : SnapMsg) (ra : List Nat) (ord : List (List Nat)) : i ≠ 0 →
      (m.q.term < (x.node i).term ∨ m ∈ x.sentSnaps) →
      ((x.node i).step (.install m.q) ra ord).panicked = none →
      Trans x (installS x i m ra ord)
  /-- node `i` dies while handling an install request, after `k` storage points, and restarts from what is on disk;
  unless the disk holds the received snapshot file, the log on disk is not stale -/
  | crashInstall (i : Nat) (m : SnapMsg) (ra : List Nat) (ord : List (List Nat)) (k retain : Nat) (sor : Bool)
      (n : Node) : i ≠ 0 → (m.q.term < (x.node i).term ∨ m ∈ x.sentSnaps) → 1 ≤ retain →
      ((x.node i).step (.install m.q) ra ord).panicked = none →
      ((C05.crashDisk (x.node i) (.install m.q) ra ord k).snaps = (x.node i).snapsDisk →
        staleLog (C05.crashDisk (x.node i) (.install m.q) ra ord k) = false) →
      Node.restart (C05.crashDisk (x.node i) (.install m.q) ra ord k) retain sor = some n →
      Trans x (crashInstS x i m (C05.crashDisk (x.node i) (.install m.q) ra ord k) n)

/-- Side condition on every state of a run: `Commit.SideV` (bootstrapped, voters `V`, stable latest configuration),
configuration entries of the virtual logs decode, segment lists are well formed. -/
structure Side3 (V : List Nat) (x : Sys) : Prop where
  sideV : SideV V x.s2.cs
  dec : CfgDec (view x.s2).cs
  segs : ∀ i, C09.SegsOK (x.node i).log

/-- Initial states: those of stage 2 (no snapshot anywhere, nothing compacted, every node a follower whose memory
matches its disk, logs pairwise matching and flushed); nothing was sent. -/
structure Init (x : Sys) : Prop where
  init : Snap2.Init x.s2
  term : ∀ i, (x.node i).snapTerm = 0
  sent : x.sentSnaps = []

/-- States reachable by runs in which `Side3 V` holds in every state. -/
inductive Reachable3 (V : List Nat) : Sys → Prop
  | init (x : Sys) : Init x → Side3 V x → Reachable3 V x
  | next (x y : Sys) : Reachable3 V x → Trans x y → Side3 V y → Reachable3 V y

end Snap3
end Raft
