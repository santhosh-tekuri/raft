/-
The cluster-level transition system with local snapshots, log compaction AND THE LEADER'S DELAYED COMPACTION
(`leader.checkLogCompact`) — stage 2 (Sys/Snap2.lean) without its restriction "replication updates never report a
compaction".

Background (leader.go, fsm.go, replication.go).  When a snapshot was taken, `Raft.onSnapshotTaken` compacts the log at
once up to `nowCompact` (the match index of the slowest replication, lowered to a segment boundary); if the replications
that are in contact would allow more (`canCompact > nowCompact`) it records the wanted first index in `ldr.removeLTE` and
sends every replication goroutine a new view of the log that starts there (`leader.notifyFlr`).  A goroutine that
switched to a view starting at `p` above its old one reports `removeLTE{p}`; `leader.checkReplUpdates` stores the report
in the replication's status and, if a report was in the batch and `ldr.removeLTE > log.prev`, calls
`leader.checkLogCompact`, which runs `compactLog(ldr.removeLTE)` iff EVERY status holds `removeLTE ≥ ldr.removeLTE`.

`Snap5` has the states of `Snap2` (`Snap2.Sys`: the nodes, the ledgers of `Raft.Commit`, the ghost ledger of snapshot
files, the ghost record `base i` of what node `i` compacted away) and its transitions, with
* `Enabled`: `Snap.Enabled` without the clause `NoCompact` — a `.replUpdates` batch may contain ANY `removeLTE` reports
  (for the cluster-level safety properties it does not matter whether a report is one a replication goroutine would
  send: the leader never compacts beyond `ldr.removeLTE`, whatever is reported);
* `Trans.crash`: a node dies at any storage point of any operation, except that in a step that runs `compactLog` inside
  `checkReplUpdates` it dies BEFORE that storage point (`BeforeCompact`).  A process that dies in or after
  `compactLog` — the last storage point of such a step — leaves the disk of the completed step: the node states this
  produces are those of the completed step followed by a crash before the first storage point of the next operation
  (`SnapDelay.crash_after_compact`, Lemmas/SnapDelayC.lean), which IS a run of this system; only the ghost ledgers
  differ (they record what the completed step acknowledged).

Restrictions (`_partial`): those of Sys/Snap2.lean (fixed voter set, fixed stable configuration, no forged requests, no
installation of snapshots, no `shutdown`; completed steps do not fail an assertion; the side conditions `Side2` on every
state: `SideV`, `CfgDec`, well-formed segment lists, no log compacted exactly up to its snapshot index; `retain ≥ 1`)
and ONE more side condition on every state (`Side5.rm`):
* `ldr.removeLTE ≤ snapIndex` on every node — a clause of the per-node invariant `Order.Ordered`, which
  `C19Order.ordered_step` proves inductive for EVERY operation (acceptable requests).  Lemmas/SnapDelayD.lean
  DISCHARGES it inside the system (`SnapDelay.reachable5c`: every node of every reachable state is `Order.Ordered`) for
  runs that satisfy instead the two side conditions on configurations of `Snap4.Side4` (`cfgord`, `cfg`) and start with
  leader records that hold no bound.
-/
import RaftVerif.Sys.Snap2
import RaftVerif.Lemmas.SnapDelayA
import RaftVerif.Props.C06Cache

namespace Raft
namespace Snap5
open Node Election LogRel Replication CommitRel Commit C02Sys SnapRelU SnapSim Snap Snap2 SnapDelay

/-- The operations of this stage: everything except installing a snapshot and `shutdown`. (`Snap.OpOKS` without the
clause for `.replUpdates`.) -/
def OpOK5 : Op → Prop
  | .install _ => False
  | .shutdown => False
  | _ => True

/-- … and, as in `CommitRel.OpOK2`, no configuration change -/
def OpOK25 (op : Op) : Prop :=
  OpOK5 op ∧ (∀ b, op = .newEntries b → NoCfg b) ∧ (∀ t c, op ≠ .changeConfig t c)

/-- What may be delivered to node `i`: the conditions of `Snap.Enabled` with `OpOK5` for `Snap.OpOKS`. -/
structure Enabled (x : Commit.Sys) (i : Nat) (op : Op) (src : Nat) : Prop where
  id : i ≠ 0
  voteSrc : ∀ q, op = .vote q → q.src ≠ 0
  real : Counts (x.node i) op → RealReply x.rp.el i src
  ok2 : OpOK25 op
  append : ∀ q, op = .append q → q.term < (x.node i).term ∨ q ∈ x.rp.sent
  vote : ∀ q, op = .vote q → q.term < (x.node i).term ∨
    ({ cand := q.src, term := q.term, lastIndex := q.lastLogIndex, lastTerm := q.lastLogTerm } : Camp) ∈ x.camps
  appendSrc : ∀ q, op = .append q → q.src ≠ i
  upd : ∀ us, op = .replUpdates us → ∀ u ∈ us, ∀ v, u.upd = .matchIndex v →
    v = 0 ∨ ∃ a ∈ x.acks, a.voter = u.id ∧ a.term = (x.node i).term ∧ v ≤ a.index

/-- the process dies before `compactLog`: the step did not compact, or `k` is at most the number of storage points of
the step without the compaction (`SnapDelay.stepNC`) -/
def BeforeCompact (s : Node) (op : Op) (ra : List Nat) (ord : List (List Nat)) (k : Nat) : Prop :=
  ∀ us, op = .replUpdates us →
    s.step op ra ord = stepNC s us ra ord ∨ k ≤ (stepNC s us ra ord).trace.length

inductive Trans (x : Snap2.Sys) : Snap2.Sys → Prop
  | step (i : Nat) (op : Op) (ra : List Nat) (ord : List (List Nat)) (src : Nat) : Enabled x.cs i op src →
      ((x.node i).step op ra ord).panicked = none →
      Trans x (stepS x i op ra ord src)
  /-- node `i` dies while handling an enabled operation (that would not fail an assertion), after `k` storage points —
  before `compactLog` if `checkReplUpdates` compacts —, and restarts from what is on disk -/
  | crash (i : Nat) (op : Op) (ra : List Nat) (ord : List (List Nat)) (src k retain : Nat) (sor : Bool)
      (n : Node) : Enabled x.cs i op src → 1 ≤ retain →
      ((x.node i).step op ra ord).panicked = none → BeforeCompact (x.node i) op ra ord k →
      Node.restart (C05.crashDisk (x.node i) op ra ord k) retain sor = some n →
      Trans x (crashS x i op n)
  | send (i : Nat) (q : AppendReq) : i ≠ 0 → (x.node i).role = .leader → ReadFrom2 (x.node i) (x.vnode i) q →
      q.ldrCommitIndex ≤ (x.node i).commitIndex →
      Trans x { x with cs := sendC x.cs q }

structure Side5 (V : List Nat) (x : Snap2.Sys) : Prop where
  side : Side2 V x
  rm : ∀ i, (x.node i).ldr.removeLTE ≤ (x.node i).snapIndex

inductive Reachable5 (V : List Nat) : Snap2.Sys → Prop
  | init (x : Snap2.Sys) : Snap2.Init x → Side5 V x → Reachable5 V x
  | next (x y : Snap2.Sys) : Reachable5 V x → Trans x y → Side5 V y → Reachable5 V y

end Snap5
end Raft
