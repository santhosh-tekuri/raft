/-
The cluster-level transition system WITH membership changes — `Commit.Sys` (Sys/Commit.lean: any node performs any
enabled operation of `Node.step` at any time; crashes at any storage point + restart; leaders put append requests read
from their log on the wire; ledgers of granted / counted votes, leaders, sent requests, created entries,
acknowledgements, campaigns and leader commits) with the two restrictions of the fixed-membership models lifted:

* `.changeConfig` requests are delivered to any node at any time (a leader handles them with `leader.onChangeConfig`,
  checks included; a node that is not bootstrapped with `Raft.bootstrap`), configuration entries are ordinary log
  entries, created by `leader.storeEntry` / `leader.changeConfig`, replicated by append requests and adopted by the
  followers (`Raft.changeConfig`) as the code does; every node uses the LATEST configuration of its log, committed
  or not, for its quorum and its candidacy;
* no voter set is fixed: `Election.FixedV` / `Commit.SideV` are not assumed.

Two more ghost ledgers:
* `ecfg`    — (candidate, term, configuration): recorded together with the campaign (`Commit.campOf`: the node's vote
              moves to itself in a higher term — `candidate.startElection`) — the node's latest configuration when the
              election starts: the configuration whose voters it asks and whose quorum it needs;
* `changes` — (node, state before the step, operation, state after the step) of every completed step, other than an
              append request, in which the index of the node's latest configuration grew: a configuration the node
              introduced as LEADER (`C08Step.config_step`).

What remains of the environment assumptions: those of `Commit.Enabled` except `OpOK2` (no snapshots: `LogRel.OpOK`;
no forged append requests / vote requests / match-index reports; vote responses are real replies) plus `CfgRel.OpOk`:
a client batch holds no configuration entry, a submitted configuration has distinct member ids.
`ReachableP P`: the states reachable by runs in which the state predicate `P` holds in every state (each theorem names
the `P` it needs: `Boot` — every node is bootstrapped, as in `Election.FixedV`; `NodesOK` — the node-level invariants
of C06Cache / C19Order / C08Step).
-/
import RaftVerif.Sys.Commit
import RaftVerif.Lemmas.Grows
import RaftVerif.Lemmas.ConfigRel
import RaftVerif.Lemmas.MemberRel

namespace Raft
namespace Member
open Node Replication Commit

structure ECfg where
  cand : Nat
  term : Nat
  cfg : Config
  deriving DecidableEq, Repr

structure Change where
  node : Nat
  pre : Node
  op : Op
  post : Node

structure Sys where
  cm : Commit.Sys
  ecfg : List ECfg
  changes : List Change

abbrev Sys.node (x : Sys) (i : Nat) : Node := x.cm.node i

abbrev Sys.el (x : Sys) : Election.Sys := x.cm.rp.el

/-- the configuration of the election: during the step the node's vote moved to itself in a higher term; the
election asks the voters of the latest configuration the node had when the step began -/
def ecfgOf (i : Nat) (pre post : Node) : List ECfg :=
  if post.term > pre.term ∧ post.votedFor = i then [{ cand := i, term := post.term, cfg := pre.configs.latest }] else []

def changeOf (i : Nat) (pre : Node) (op : Op) (post : Node) : List Change :=
  if isAppend op = false ∧ pre.configs.latest.index < post.configs.latest.index then
    [{ node := i, pre := pre, op := op, post := post }]
  else []

/-- what may be delivered to node `i`: as `Commit.Enabled`, with `CommitRel.OpOK2` (no configuration change)
replaced by `CfgRel.OpOk` (well-formed client batches and configuration requests) -/
structure Enabled (x : Sys) (i : Nat) (op : Op) (src : Nat) : Prop where
  rp : Replication.Enabled x.cm.rp i op src
  cfg : CfgRel.OpOk op
  vote : ∀ q, op = .vote q → q.term < (x.node i).term ∨
    ({ cand := q.src, term := q.term, lastIndex := q.lastLogIndex, lastTerm := q.lastLogTerm } : Camp) ∈ x.cm.camps
  appendSrc : ∀ q, op = .append q → q.src ≠ i
  upd : ∀ us, op = .replUpdates us → ∀ u ∈ us, ∀ v, u.upd = .matchIndex v →
    v = 0 ∨ ∃ a ∈ x.cm.acks, a.voter = u.id ∧ a.term = (x.node i).term ∧ v ≤ a.index

/-- the `Commit.Sys` part of the state after node `i` handled `op` (as `Commit.Trans.step`) -/
def stepCm (x : Commit.Sys) (i : Nat) (op : Op) (ra : List Nat) (ord : List (List Nat)) (src : Nat) : Commit.Sys :=
  { rp := stepRp x i op ra ord src
    acks := ackOf i op ((x.node i).step op ra ord) ++ (selfAck i op (x.node i) ((x.node i).step op ra ord) ++ x.acks)
    camps := campOf i (x.node i) ((x.node i).step op ra ord) ++ x.camps
    committed := newCommit op (x.node i) ((x.node i).step op ra ord) ++ x.committed }

def crashCm (x : Commit.Sys) (i : Nat) (op : Op) (n : Node) : Commit.Sys :=
  { x with rp := crashRp x i op n, camps := campOf i (x.node i) n ++ x.camps }

def stepM (x : Sys) (i : Nat) (op : Op) (ra : List Nat) (ord : List (List Nat)) (src : Nat) : Sys :=
  { cm := stepCm x.cm i op ra ord src
    ecfg := ecfgOf i (x.node i) ((x.node i).step op ra ord) ++ x.ecfg
    changes := changeOf i (x.node i) op ((x.node i).step op ra ord) ++ x.changes }

def crashM (x : Sys) (i : Nat) (op : Op) (n : Node) : Sys :=
  { x with cm := crashCm x.cm i op n, ecfg := ecfgOf i (x.node i) n ++ x.ecfg }

theorem stepM_node_i (x : Sys) (i : Nat) (op : Op) (ra : List Nat) (ord : List (List Nat)) (src : Nat) :
    (stepM x i op ra ord src).node i = (x.node i).step op ra ord := stepRp_node_i x.cm i op ra ord src

theorem stepM_node_j (x : Sys) (i : Nat) (op : Op) (ra : List Nat) (ord : List (List Nat)) (src : Nat) {j : Nat}
    (hj : j ≠ i) : (stepM x i op ra ord src).node j = x.node j := stepRp_node_j x.cm i op ra ord src hj

theorem crashM_node_i (x : Sys) (i : Nat) (op : Op) (n : Node) : (crashM x i op n).node i = n :=
  crashRp_node_i x.cm i op n

theorem crashM_node_j (x : Sys) (i : Nat) (op : Op) (n : Node) {j : Nat} (hj : j ≠ i) :
    (crashM x i op n).node j = x.node j := crashRp_node_j x.cm i op n hj

inductive Trans (x : Sys) : Sys → Prop
  /-- node `i` handles an enabled operation to completion; the ledgers record what it acknowledged, the campaign it
  started (with its configuration), the index its leader-side commit rule reached and the configuration it
  introduced -/
  | step (i : Nat) (op : Op) (ra : List Nat) (ord : List (List Nat)) (src : Nat) : Enabled x i op src →
      Trans x (stepM x i op ra ord src)
  | crash (i : Nat) (op : Op) (ra : List Nat) (ord : List (List Nat)) (src k retain : Nat) (sor : Bool)
      (n : Node) : Enabled x i op src →
      Node.restart (C05.crashDisk (x.node i) op ra ord k) retain sor = some n →
      Trans x (crashM x i op n)
  | send (i : Nat) (q : AppendReq) : i ≠ 0 → (x.node i).role = .leader → ReadFrom (x.node i) q →
      q.ldrCommitIndex ≤ (x.node i).commitIndex →
      Trans x { x with cm := { x.cm with rp := { x.cm.rp with sent := q :: x.cm.rp.sent } } }

structure Init (x : Sys) : Prop where
  cm : Commit.Init x.cm
  ecfg : x.ecfg = []
  changes : x.changes = []

inductive ReachableP (P : Sys → Prop) : Sys → Prop
  | init (x : Sys) : Init x → P x → ReachableP P x
  | next (x y : Sys) : ReachableP P x → Trans x y → P y → ReachableP P y

theorem ReachableP.side {P : Sys → Prop} {x : Sys} (h : ReachableP P x) : P x := by
  cases h with
  | init _ _ hp => exact hp
  | next _ _ _ _ hp => exact hp

theorem ReachableP.mono {P Q : Sys → Prop} (hPQ : ∀ x, P x → Q x) {x : Sys} (h : ReachableP P x) : ReachableP Q x := by
  induction h with
  | init x hi hp => exact .init x hi (hPQ x hp)
  | next x y _ ht hp ih => exact .next x y ih ht (hPQ y hp)

/-- what holds of the records every completed step adds holds of every record of the ledger `changes` -/
theorem ReachableP.changes_all {P : Sys → Prop} {OK : Change → Prop}
    (hstep : ∀ x i op ra ord src, ReachableP P x → Enabled x i op src →
      ∀ r ∈ changeOf i (x.node i) op ((x.node i).step op ra ord), OK r)
    {x : Sys} (h : ReachableP P x) : ∀ r ∈ x.changes, OK r := by
  induction h with
  | init x hi _ => rw [hi.changes]; intro r hr; cases hr
  | next x y hx ht _ ih =>
    cases ht with
    | step i op ra ord src he =>
      intro r hr
      exact (List.mem_append.mp hr).elim (hstep x i op ra ord src hx he r) (ih r)
    | crash i op ra ord src k retain sor n he hn => exact ih
    | send i q _ _ _ _ => exact ih

def Boot (x : Sys) : Prop := ∀ i, (x.node i).configs.isBootstrapped = true

theorem trans_el {x y : Sys} (h : Trans x y) : Election.Trans x.el y.el ∨ y.el = x.el := by
  cases h with
  | step i op ra ord src he => exact Or.inl (.step i op ra ord src he.rp.id he.rp.voteSrc he.rp.real)
  | crash i op ra ord src k retain sor n he hn => exact Or.inl (.crash i op ra ord k retain sor n he.rp.id hn)
  | send i q _ _ _ _ => exact Or.inr rfl

/-- the ledgers of the `Commit.Sys` part only grow -/
theorem Trans.grows {x y : Sys} (h : Trans x y) : Grows x.cm y.cm := by
  cases h with
  | step i op ra ord src _ => exact grows_step x.cm i op ra ord src
  | crash i op ra ord src k retain sor n _ _ => exact grows_crash x.cm i op n
  | send i q _ _ _ _ => exact grows_send x.cm q

end Member
end Raft
