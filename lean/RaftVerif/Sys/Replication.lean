/-
A cluster-level transition system for log replication — `Election.Sys` (Sys/Election.lean: any node performs
any operation of `Node.step` at any time; crashes at any storage point + restart; ledgers of granted and
counted votes and of leaders) extended by two ghost ledgers:

* `sent`    — every append request a leader has put on the wire (`Trans.send`: read from the leader's own
              log the way `replication.writeAppendEntriesReq` does: `prevLogIndex = p`, `prevLogTerm` = the term
              of its entry at `p` (0 for `p = 0`), entries = a contiguous slice of its log starting at `p+1`);
* `created` — every entry a node appended to its OWN log (as leader: `storeEntry`), with the term of the entry
              before it and the node's id (`LogRel.CEntry`); initially: the entries of the initial logs.

Environment assumptions (everything else is arbitrary: schedule, delays, duplication, loss, reordering,
delivery of any sent request to ANY node any number of times, crashes at any storage point):
* an append request that is not refused as stale (`q.term ≥` the receiver's term) is in `sent` — no forged
  append requests;
* vote traffic as in `Election.Trans` (`RealReply` for counted vote responses, non-zero candidate ids);
* **restrictions of this `_partial` model** (`LogRel.OpOK`): no snapshot is ever installed, taken or published
  and the log is never compacted — the operations `install`, `snapRun`, `snapTaken`, `shutdown` (whose
  `Raft.release` completes a pending snapshot) never occur, and replication updates never report a compaction;
  membership is fixed (`Election.FixedV` in every state, as in C01Sys).
  The reason for excluding local snapshots: `onAppendEntriesRequest` skips the consistency check for
  `prevLogIndex ≤ snapIndex`; that the follower's entries up to its snapshot index agree with the leader's is
  a consequence of commit safety (leader completeness), not of log matching alone.
A crash is the death of the process while it handles an operation that could be delivered (same constraints).
-/
import RaftVerif.Lemmas.LogRel
import RaftVerif.Props.C01Sys

namespace Raft
namespace Replication
open Node Election LogRel

structure Sys where
  el : Election.Sys
  sent : List AppendReq
  created : List CEntry

/-- the entries `es`, created by `cr`, each with the term of its predecessor (`pt` for the first) -/
def chainOf (cr : Nat) : Nat → List Entry → List CEntry
  | _, [] => []
  | pt, e :: es => ⟨e, pt, cr⟩ :: chainOf cr e.term es

/-- What node `i` created in a step from log `pre` to log `post`: nothing when handling an append request
(those entries were created by the sender); otherwise the entries beyond the old log. -/
def newCreated (i : Nat) (pre post : List Entry) (op : Op) : List CEntry :=
  match op with
  | .append _ => []
  | _ => chainOf i (lastTerm pre) (post.drop pre.length)

/-- `q` is what a replication goroutine of the leader `s` reads from the leader's log for `prevLogIndex = p` -/
structure ReadFrom (s : Node) (q : AppendReq) : Prop where
  term : q.term = s.term
  src : q.src = s.nid
  prev : q.prevLogIndex ≤ s.log.entries.length
  prevTerm : q.prevLogTerm = termAt s.log.entries q.prevLogIndex
  entries : ∃ n, q.entries = (s.log.entries.drop q.prevLogIndex).take n

structure Enabled (x : Sys) (i : Nat) (op : Op) (src : Nat) : Prop where
  id : i ≠ 0
  voteSrc : ∀ q, op = .vote q → q.src ≠ 0
  real : Counts (x.el.node i) op → RealReply x.el i src
  ok : OpOK op
  append : ∀ q, op = .append q → q.term < (x.el.node i).term ∨ q ∈ x.sent

inductive Trans (x : Sys) : Sys → Prop
  /-- node `i` handles an enabled operation to completion -/
  | step (i : Nat) (op : Op) (ra : List Nat) (ord : List (List Nat)) (src : Nat) : Enabled x i op src →
      Trans x { el := stepSys x.el i op ra ord src
                sent := x.sent
                created := newCreated i (x.el.node i).log.entries ((x.el.node i).step op ra ord).log.entries op
                             ++ x.created }
  /-- node `i` dies while handling an enabled operation, after `k` storage points, and restarts; what it had
  appended to its own log and is still found on disk counts as created -/
  | crash (i : Nat) (op : Op) (ra : List Nat) (ord : List (List Nat)) (src k retain : Nat) (sor : Bool)
      (n : Node) : Enabled x i op src →
      Node.restart (C05.crashDisk (x.el.node i) op ra ord k) retain sor = some n →
      Trans x { el := { x.el with node := setNode x.el.node i n }
                sent := x.sent
                created := newCreated i (x.el.node i).log.entries n.log.entries op ++ x.created }
  /-- the leader `i` puts an append request read from its log on the wire -/
  | send (i : Nat) (q : AppendReq) : i ≠ 0 → (x.el.node i).role = .leader → ReadFrom (x.el.node i) q →
      Trans x { x with sent := q :: x.sent }

def Uniq (T : List CEntry) : Prop :=
  ∀ a ∈ T, ∀ b ∈ T, a.e.index = b.e.index → a.e.term = b.e.term → a = b

/-- Initial states: as `Election.Init` (every node a follower whose memory matches its disk); no snapshot
anywhere, every log starts at index 1 and is contiguous; the ledger `created` holds the entries of the
initial logs (creator 0), at most one per (index, term), every initial log is a path in it (so the initial
logs pairwise satisfy log matching — e.g. all nodes bootstrapped with the same configuration entry (1,1)),
and no initial entry has a term above any node's term. Nothing was sent yet. -/
structure Init (x : Sys) : Prop where
  el : Election.Init x.el
  sent : x.sent = []
  cr0 : ∀ c ∈ x.created, c.cr = 0
  uniq : Uniq x.created
  nodes : ∀ i, NWF (x.el.node i) ∧ Chain x.created none (x.el.node i).log.entries
  terms : ∀ c ∈ x.created, ∀ j, c.e.term ≤ (x.el.node j).term

/-- States reachable by runs in which the membership is `V` in every state. -/
inductive ReachableV (V : List Nat) : Sys → Prop
  | init (x : Sys) : Init x → FixedV V x.el → ReachableV V x
  | next (x y : Sys) : ReachableV V x → Trans x y → FixedV V y.el → ReachableV V y

theorem trans_el {x y : Sys} (h : Trans x y) : Election.Trans x.el y.el ∨ y.el = x.el := by
  cases h with
  | step i op ra ord src he => exact Or.inl (.step i op ra ord src he.id he.voteSrc he.real)
  | crash i op ra ord src k retain sor n he hn => exact Or.inl (.crash i op ra ord k retain sor n he.id hn)
  | send i q _ _ _ => exact Or.inr rfl

theorem reachable_el {V : List Nat} {x : Sys} (h : ReachableV V x) : Election.ReachableV V x.el := by
  induction h with
  | init x hi hf => exact .init _ hi.el hf
  | next x y _ ht hf ih =>
    rcases trans_el ht with h | h
    · exact .next _ _ ih h hf
    · rw [h]; exact ih

/-- The invariant. `T = created`:
* `el`: the election invariant of C01Sys;
* `nodes`: every node is well formed (`NWF`) and its log is a path in `T`;
* `uniq`: `T` holds at most one entry per (index, term);
* `sent`: every request on the wire is a slice of `T`;
* `ldrV`: a leader is a voter;
* `init0`: an initial entry's term is below the term of every candidate and leader, and not above anyone's;
* `own`: an entry created by node `l`: `l` is a voter that was backed by a majority of grants for the entry's
  term (or the quorum is one); the term is not above `l`'s; while `l` is leader of that term the entry's index
  is within `l`'s log; while `l` is candidate the term is below `l`'s. -/
structure Inv (V : List Nat) (x : Sys) : Prop where
  el : C01Sys.Inv V x.el
  nodes : ∀ i, NWF (x.el.node i) ∧ Chain x.created none (x.el.node i).log.entries
  uniq : Uniq x.created
  sent : ∀ q ∈ x.sent, ReqOK x.created q
  ldrV : ∀ i, (x.el.node i).role = .leader → i ∈ V
  init0 : ∀ c ∈ x.created, c.cr = 0 → ∀ j, c.e.term ≤ (x.el.node j).term ∧
    ((x.el.node j).role ≠ .follower → c.e.term < (x.el.node j).term)
  own : ∀ c ∈ x.created, c.cr ≠ 0 →
    c.cr ∈ V ∧ (V.length / 2 + 1 = 1 ∨ C01.Backed x.el.grants V c.cr c.e.term) ∧
    c.e.term ≤ (x.el.node c.cr).term ∧
    ((x.el.node c.cr).role = .leader → c.e.term = (x.el.node c.cr).term →
      c.e.index ≤ (x.el.node c.cr).lastLogIndex) ∧
    ((x.el.node c.cr).role = .candidate → c.e.term < (x.el.node c.cr).term)

theorem inv_init (V : List Nat) (x : Sys) (h : Init x) : Inv V x := by
  refine ⟨C01Sys.inv_init V x.el h.el, h.nodes, h.uniq, ?_, ?_, ?_, ?_⟩
  · rw [h.sent]; intro q hq; cases hq
  · intro i hi; rw [(h.el.1 i).2.2] at hi; cases hi
  · intro c hc _ j
    exact ⟨h.terms c hc j, fun hr => absurd (h.el.1 j).2.2 hr⟩
  · intro c hc hne; exact absurd (h.cr0 c hc) hne

end Replication
end Raft
